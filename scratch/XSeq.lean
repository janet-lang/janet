/- experiment (designer cmodes): sequencing and the body of `do` / `upscope` ONCE for the three modes in which `Lang/Sem` gives a value. -/
import JanetModel.Compile.XPost
namespace JanetModel.Compile
open JanetModel.Emit JanetModel.Lang JanetModel.Bytecode.Exec JanetModel.Gen.Bytecode

section
variable (p : Program) (f0 : Frame) (rest : List Frame) (V : Array Value) (P : List KConst)

/-- the one induction hypothesis: every form, every mode -/
def OkAt (G : String → Prop) (b w : Bool) (fuel : Nat) : Prop :=
  ∀ (e : Expr) (opts : Fopts) (c c' : CState) (slot : JSlot) (sc : Scope) (rs : List Scope) (pool : List KConst) (ps : List (List KConst))
    (n : Nat) (cur : Pos) (env env' : Env) (s s' : SS) (v : Value),
    c.scopes = sc :: rs → c.pools = pool :: ps → c.lim ≤ 240 → sc.top = false → c.map.length = c.buf.length → ModePre opts c sc →
    (opts.hint ≠ none → opts.drop = false) → TF G b e →
    cValue fuel opts e c = some (slot, c') → eval n cur env e s = .ok (v, env') s' → EnvS G c.scopes env s.boxes.size sc.ra →
    OkPost p f0 rest V P G w opts c c' slot sc rs pool ps env env' s s' v

/-- the present induction hypotheses are readings -/
theorem OkAt.correctAt {G : String → Prop} {b : Bool} {fuel : Nat} (h : OkAt p f0 rest V P G b true fuel) :
    CorrectAt p f0 rest V P G (TF G b) true fuel :=
  fun e opts c c' slot sc rs pool ps n cur env env' s s' v ht hh hs hp hl htop hm hT hc hsem hE =>
    (h e opts c c' slot sc rs pool ps n cur env env' s s' v hs hp hl htop (hm rfl)
      ⟨fun h' => absurd h' (by simp [ht]), fun h' hh' => absurd hh' (by simp [hh])⟩ (fun h' => absurd hh h') hT hc hsem hE).2.1 ht hh

theorem OkAt.tailAt {G : String → Prop} {b w : Bool} {fuel : Nat} (h : OkAt p f0 rest V P G b w fuel) : TailAt p f0 rest V P G (TF G b) fuel :=
  fun e opts c c' slot sc rs pool ps n cur env env' s s' v ht hh hs hp hl htop hm hT hc hsem hE hN =>
    (h e opts c c' slot sc rs pool ps n cur env env' s s' v hs hp hl htop hm
      ⟨fun _ => hh, fun h' hh' => absurd hh' (by simp [hh])⟩ (fun h' => absurd hh h') hT hc hsem hE).1 ht hN

theorem OkAt.hintAtM {G : String → Prop} {b w : Bool} {fuel : Nat} (h : OkAt p f0 rest V P G b w fuel) : HintAtM p f0 rest V P G (TF G b) fuel :=
  fun e opts c c' slot sc rs pool ps n cur env env' s s' v hh rh ht hd hhh hk hcf hr hal hrm hs hp hl htop hm hT hc hsem hE =>
    (h e opts c c' slot sc rs pool ps n cur env env' s s' v hs hp hl htop hm
      ⟨fun h' => absurd h' (by simp [ht]), fun h2 hh2 => ⟨ht, rh, by rw [hhh] at hh2; cases hh2; exact hk, by rw [hhh] at hh2; cases hh2; exact hcf,
        hr, hal, hrm⟩⟩ (fun _ => hd) hT hc hsem hE).2.2 hh rh ht hhh hk

/-- a statement whose value is dropped and freed, then a form in any mode -/
theorem OkPost.seq (G : String → Prop) (w dr1 : Bool) (opts : Fopts) (c c1 c1f c' : CState) (sl1 slot : JSlot) (sc : Scope) (rs : List Scope)
    (pool : List KConst) (ps : List (List KConst)) (env env1 env' : Env) (s s1 s' : SS) (v1 v : Value)
    (hm : c.map.length = c.buf.length) (hm1 : c1.map.length = c1.buf.length) (hpre : ModePre opts c sc)
    (h1 : Correct2 p f0 rest V P G dr1 c c1 sl1 sc rs pool ps env env1 s s1 v1) (hN1 : NR c.scopes → NR c1.scopes)
    (hf : freeslot c1 sl1 = some c1f)
    (h2 : ∀ sc1 pool1, c1f.scopes = sc1 :: rs → c1f.pools = pool1 :: ps → sc1.top = sc.top → c1f.lim = c.lim →
          (∀ x, lk c1f.scopes x = lk c1.scopes x) →
          (∀ rh, sc.ra.alloc rh = true → rh ≤ sc.ra.max → sc1.ra.alloc rh = true ∧ rh ≤ sc1.ra.max) →
          EnvS G c1f.scopes env1 s1.boxes.size sc1.ra → OkPost p f0 rest V P G w opts c1f c' slot sc1 rs pool1 ps env1 env' s1 s' v) :
    OkPost p f0 rest V P G w opts c c' slot sc rs pool ps env env' s s' v := by
  -- one concrete presentation of the state after the freed statement (for `slot = h`, and for the side conditions the three
  -- sequencing lemmas do not all hand to their second premise)
  have h1' := h1
  obtain ⟨ra1, ns1, more1, seg1, segm1, hc1, _, mono1, max1, sok1, _, es1, _, _⟩ := h1'
  have hs1 : c1.scopes = { sc with ra := ra1, syms := sc.syms ++ ns1 } :: rs := by rw [hc1]
  obtain ⟨raf, hcf, hmaxf, hkeep⟩ := freeslot_ok c1 c1f sl1 sc { sc with ra := ra1, syms := sc.syms ++ ns1 } rs hs1 sok1 hf
  have hsf : c1f.scopes = { sc with ra := raf, syms := sc.syms ++ ns1 } :: rs := by rw [hcf]
  have hlkf : ∀ x, lk c1f.scopes x = lk c1.scopes x := by intro x; rw [hsf, hs1]; rfl
  have esf : EnvS G c1f.scopes env1 s1.boxes.size raf :=
    es1.of_lk hlkf (Nat.le_refl _) (fun x slot u l r hx hk hr => hkeep r hr (Or.inr ⟨x, slot, u, l, hx, hk⟩))
  have hmaxf' : raf.max = ra1.max := hmaxf
  have hin : ∀ rh, sc.ra.alloc rh = true → rh ≤ sc.ra.max → raf.alloc rh = true ∧ rh ≤ raf.max :=
    fun rh hal hrm => ⟨hkeep rh (mono1 rh hal) (Or.inl hal), by omega⟩
  refine ⟨fun ht hN => ?_, fun ht hh => ?_, fun h rh ht hh hk => ?_⟩
  · refine TailOK_seq p f0 rest V P G dr1 c c1 c1f c' sl1 slot sc rs pool ps env env1 s s1 s' v1 v h1 hf ?_
    intro sc1 pool1 a1 a2 a3 a4 a5 a6
    have e : sc1 = { sc with ra := raf, syms := sc.syms ++ ns1 } := by rw [hsf] at a1; exact ((List.cons.inj a1).1).symm
    exact (h2 sc1 pool1 a1 a2 a3 a4 a5 (by rw [e]; exact hin) a6).1 ht ((hN1 hN).of_lk a5)
  · refine Correct2_seq p f0 rest V P G dr1 _ c c1 c1f c' sl1 slot sc rs pool ps env env1 env' s s1 s' v1 v h1 hf ?_
    intro sc1 pool1 a1 a2 a3 a4 a6
    have e : sc1 = { sc with ra := raf, syms := sc.syms ++ ns1 } := by rw [hsf] at a1; exact ((List.cons.inj a1).1).symm
    exact (h2 sc1 pool1 a1 a2 a3 a4 hlkf (by rw [e]; exact hin) a6).2.1 ht hh
  · obtain ⟨_, rh', hk', _, _, hal, hrm⟩ := hpre.2 h hh
    have e : rh' = rh := by rw [hk'] at hk; injection hk
    subst e
    refine ⟨((h2 _ _ hsf (by rw [hcf, hc1]) rfl (by rw [hcf, hc1]) hlkf hin esf).2.2 h rh' ht hh hk).1, ?_⟩
    refine HintOK_seq p f0 rest V P G dr1 c c1 c1f c' sl1 rh' sc rs pool ps env env1 env' s s1 s' v1 v hal hrm hm hm1 h1 hf ?_
    intro sc1 pool1 a1 a2 a3 a4 b1 b2 _ a6
    have e : sc1 = { sc with ra := raf, syms := sc.syms ++ ns1 } := by rw [hsf] at a1; exact ((List.cons.inj a1).1).symm
    exact ((h2 sc1 pool1 a1 a2 a3 a4 hlkf (by rw [e]; exact hin) a6).2.2 h rh' ht hh hk).2

/-- body of `do` / `upscope`, any mode: the statements before the last dropped and freed, the last one in the mode of the body -/
theorem doBody_ok (G : String → Prop) (b w : Bool) (fuel : Nat) (IH : OkAt p f0 rest V P G b w fuel) (NRf : NRAt G (TF G b) fuel) :
    ∀ (body : List Expr), (∀ e, e ∈ body → TF G b e) → body ≠ [] →
    ∀ (opts : Fopts) (c c' : CState) (slot : JSlot) (sc : Scope) (rs : List Scope) (pool : List KConst) (ps : List (List KConst))
      (n : Nat) (cur : Pos) (env env' : Env) (s s' : SS) (v : Value),
      c.scopes = sc :: rs → c.pools = pool :: ps → c.lim ≤ 240 → sc.top = false → c.map.length = c.buf.length → ModePre opts c sc →
      (opts.hint ≠ none → opts.drop = false) →
      doBody (cValue fuel) opts body c = some (slot, c') → evalSeq n cur env body s = .ok (v, env') s' → EnvS G c.scopes env s.boxes.size sc.ra →
      OkPost p f0 rest V P G w opts c c' slot sc rs pool ps env env' s s' v := by
  intro body
  induction body with
  | nil => intro _ hne; exact absurd rfl hne
  | cons x t ih =>
    intro hT _ opts c c' slot sc rs pool ps n cur env env' s s' v hs hp hl htop hm hpre hdr hc hsem hE
    cases t with
    | nil =>
      simp only [doBody] at hc
      obtain ⟨n2, hn, he⟩ := evalSeq_one_inv n cur env env' x s s' v hsem
      exact IH x opts c c' slot sc rs pool ps n2 cur env env' s s' v hs hp hl htop hm hpre hdr (hT x (by simp)) hc he hE
    | cons y r =>
      simp only [doBody, Option.bind_eq_bind, Option.bind_eq_some_iff, Prod.exists] at hc
      obtain ⟨sl1, c1, hx, c1f, hf, hrest⟩ := hc
      obtain ⟨n2, v1, env1, s1, hn, he1, he2⟩ := evalSeq_cons_inv n cur env env' x y r s s' v hsem
      have hTx := hT x (by simp)
      have h1 := (IH x { drop := true } c c1 sl1 sc rs pool ps n2 cur env env1 s s1 v1 hs hp hl htop hm
        ⟨fun h' => absurd h' (by simp), fun h' hh' => absurd hh' (by simp)⟩ (fun h' => absurd rfl h') hTx hx he1 hE).2.1 rfl rfl
      have hN1 : NR c.scopes → NR c1.scopes := fun hN =>
        (NRf x { drop := true } c c1 sl1 sc rs pool ps env s.boxes.size rfl rfl hs hp htop hm hTx hE hN hx).2
      have hm1 : c1.map.length = c1.buf.length :=
        (tf_shapeM_at G fuel b x { drop := true } c c1 sl1 sc rs pool ps rfl rfl hs hp htop hm hTx hE.lkl hx).1.mapLen hm
      have hmf : c1f.map.length = c1f.buf.length := by
        obtain ⟨e1, e2⟩ := freeslot_bufmap c1 c1f sl1 hf
        rw [e1, e2]; exact hm1
      refine OkPost.seq p f0 rest V P G w _ opts c c1 c1f c' sl1 slot sc rs pool ps env env1 env' s s1 s' v1 v hm hm1 hpre h1 hN1 hf ?_
      intro sc1 pool1 hs1 hp1 htop1 hl1 hlk1 hin hE1
      refine ih (fun e he => hT e (by simp [he])) (by simp) opts c1f c' slot sc1 rs pool1 ps n2 cur env1 env' s1 s' v hs1 hp1
        (by rw [hl1]; exact hl) (by rw [htop1]; exact htop) hmf ⟨hpre.1, fun h hh => ?_⟩ hdr hrest he2 hE1
      obtain ⟨ht, rh, a1, a2, a3, a4, a5⟩ := hpre.2 h hh
      exact ⟨ht, rh, a1, a2, a3, (hin rh a4 a5).1, (hin rh a4 a5).2⟩

end

end JanetModel.Compile
