/- experiment (designer cmodes): target + JOP_CALL of a constant core function, stated up to the configuration AT the CALL
   instruction, with the step it takes there as a function of `callPrimW` — the ok and the error outcome are readings. -/
import JanetModel.Compile.SeqErr
namespace JanetModel.Compile
open JanetModel.Emit JanetModel.Lang JanetModel.Bytecode.Exec JanetModel.Gen.Bytecode

section
variable (p : Program) (f0 : Frame) (rest : List Frame) (V : Array Value) (P : List KConst)

/-- the step a `JOP_CALL d t'` of the core function `f` takes from `k1` -/
def callStep (f : String) (d : Nat) (k1 : Cfg) : StepRes :=
  match callPrimW f k1.args.toList k1.w with
  | .ok (v, w) => .next (inj f0 rest { regs := k1.regs.setIfInBounds d v, pc := k1.pc + 1, args := #[], w := w })
  | .rt => .err JanetModel.Bytecode.Exec.rtErr (curPos p (inj f0 rest k1)) (inj f0 rest k1)
  | .user e => .err e (curPos p (inj f0 rest k1)) (inj f0 rest k1)
  | .unsup why => .unsup why

theorem call_at (hP : P.length < 65536)
    (hK : ∀ i, i < P.length → (p.defs.getD f0.defIdx default).consts.getD i .nil = litOf V (P.getD i .nil))
    (c cT c4 : CState) (t head : JSlot) (kf : KConst) (f : String)
    (sc : Scope) (rs : List Scope) (pool : List KConst) (ps : List (List KConst))
    (hs : c.scopes = sc :: rs) (hp : c.pools = pool :: ps) (hl : c.lim ≤ 240)
    (hhead : head.k = .const kf)
    (hT : getTarget c {} = some (t, cT)) (hE : emitSS cT .call t head true = some c4) :
    ∃ (d t' : Nat) (ra4 : RA) (more : List KConst) (seg : List CI),
      t = { k := .loc d } ∧ seg.length = 2 ∧
      c4 = { c with scopes := { sc with ra := ra4 } :: rs, pools := (pool ++ more) :: ps, buf := c.buf ++ seg, map := c.map ++ [c.cur, c.cur] } ∧
      sc.ra.alloc d = false ∧ (∀ j, ra4.alloc j = (if j = d then true else sc.ra.alloc j)) ∧ d ≤ ra4.max ∧ sc.ra.max ≤ ra4.max ∧ ra4.max < c.lim ∧
      sc.ra.alloc t' = false ∧ t' ≠ d ∧
      ∀ (k : Cfg), CodeAt (p.defs.getD f0.defIdx default).code k.pc seg → PrefL (pool ++ more) P → ra4.max < k.regs.size →
        litOf V kf = .cfun f →
        Reach p (inj f0 rest k) (inj f0 rest { k with regs := k.regs.setIfInBounds t' (.cfun f), pc := k.pc + 1 }) ∧
        step p (inj f0 rest { k with regs := k.regs.setIfInBounds t' (.cfun f), pc := k.pc + 1 }) =
          callStep p f0 rest f d { k with regs := k.regs.setIfInBounds t' (.cfun f), pc := k.pc + 1 } := by
  obtain ⟨d, raT, ht, b1, b2, b3, b4, b5, hcT⟩ := getTarget_spec c cT t sc rs hs hl hT
  have hsT : cT.scopes = { sc with ra := raT } :: rs := by rw [hcT]
  have hpT : cT.pools = pool :: ps := by rw [hcT]; exact hp
  have hlT : cT.lim ≤ 240 := by rw [hcT]; exact hl
  have hlimT : cT.lim = c.lim := by rw [hcT]
  have hd : d ≤ 0xFF := by omega
  obtain ⟨t', ra', a1, a2, a3, a4, a5, a6, hc4⟩ :=
    emitSS_loc_const cT c4 .call t head d kf (by rw [ht]) hd hhead { sc with ra := raT } rs pool ps hsT hpT hlT hE
  obtain ⟨m, hm⟩ : PrefL pool (if kf.pooled then W.intern pool kf else pool) := by
    split
    · exact intern_pref pool kf
    · exact PrefL.refl _
  have ht'd : t' ≠ d := by
    intro e
    have := b5 d
    simp only [if_true] at this
    rw [e] at a1
    simp only at a1
    rw [this] at a1
    exact Bool.noConfusion a1
  have a1' : sc.ra.alloc t' = false := by
    have := b5 t'
    rw [if_neg ht'd] at this
    simp only at a1
    rw [← this]; exact a1
  refine ⟨d, t', ra', m, [CI.mi (MI.ldk t' kf (W.poolIdx (if kf.pooled = true then W.intern pool kf else pool) kf)),
      CI.mi (MI.pay Op.call.toNat Shape.ss true [d, t'] 0)], ht, rfl, ?_, b1, ?_, ?_, ?_, ?_, a1', ht'd, ?_⟩
  · rw [hc4, hcT, hm]
  · intro j; rw [a6 j]; exact b5 j
  · exact Nat.le_trans b2 a4
  · exact Nat.le_trans b4 a4
  · rw [← hlimT]; exact a5
  · intro k hcode hpre hsz hlit
    rw [← hm] at hpre
    have hidx : W.poolIdx (if kf.pooled then W.intern pool kf else pool) kf < 65536 := by
      have := poolIdx_le (if kf.pooled then W.intern pool kf else pool) kf
      have := hpre.length
      omega
    have hconst : kf.pooled = true → (p.defs.getD f0.defIdx default).consts.getD (W.poolIdx (if kf.pooled then W.intern pool kf else pool) kf) .nil = litOf V kf := by
      intro hpl
      obtain ⟨h1, h2⟩ := pooled_const_at P pool kf hpre hpl
      rw [hK _ h1, h2]
    have s1 := run_ldk p f0 rest k t' kf _ V (by omega) hidx hcode.head hconst
    rw [hlit] at s1
    have hcode2 : (p.defs.getD f0.defIdx default).code[k.pc + 1]? = some (CI.call d t').word := by
      rw [← call_word]; exact hcode.tail.head
    refine ⟨Reach.head s1 (Reach.refl _ _), ?_⟩
    have hreg : (inj f0 rest { k with regs := k.regs.setIfInBounds t' (.cfun f), pc := k.pc + 1 }).getReg t' = .cfun f := by
      rw [inj_getReg]
      exact getD_set_eq _ _ _ (by have : t' ≤ ra'.max := a2; omega)
    have s2 := step_call p (inj f0 rest { k with regs := k.regs.setIfInBounds t' (.cfun f), pc := k.pc + 1 }) d t' (by omega) (by omega)
      (by rw [inj_curDef, inj_pc]; exact hcode2)
    rw [hreg, doCall_cfun] at s2
    rw [s2]
    simp only [callStep, inj_world, inj_args]
    cases callPrimW f k.args.toList k.w with
    | ok a => cases a; rfl
    | rt => rfl
    | user e => rfl
    | unsup why => rfl

/-- the ok reading: `callEmit` of Compile/Correct.lean -/
theorem callEmit' (hP : P.length < 65536)
    (hK : ∀ i, i < P.length → (p.defs.getD f0.defIdx default).consts.getD i .nil = litOf V (P.getD i .nil))
    (c cT c4 : CState) (t head : JSlot) (kf : KConst) (f : String) (hna : f ≠ "apply")
    (sc : Scope) (rs : List Scope) (pool : List KConst) (ps : List (List KConst))
    (hs : c.scopes = sc :: rs) (hp : c.pools = pool :: ps) (hl : c.lim ≤ 240)
    (hhead : head.k = .const kf)
    (hT : getTarget c {} = some (t, cT)) (hE : emitSS cT .call t head true = some c4) :
    ∃ (d : Nat) (ra4 : RA) (more : List KConst) (seg : List CI) (segm : List Pos),
      t = { k := .loc d } ∧
      c4 = { c with scopes := { sc with ra := ra4 } :: rs, pools := (pool ++ more) :: ps, buf := c.buf ++ seg, map := c.map ++ segm } ∧
      sc.ra.alloc d = false ∧ (∀ j, ra4.alloc j = (if j = d then true else sc.ra.alloc j)) ∧ d ≤ ra4.max ∧ sc.ra.max ≤ ra4.max ∧ ra4.max < c.lim ∧
      ∀ (k : Cfg) (s s' : SS) (n : Nat) (pos : Pos) (v : Value),
        CodeAt (p.defs.getD f0.defIdx default).code k.pc seg → PrefL (pool ++ more) P → ra4.max < k.regs.size → k.w = s.st.world →
        litOf V kf = .cfun f →
        applyFn (n + 1) pos (.cfun f) k.args.toList s = .ok v s' →
        ∃ regs', Reach p (inj f0 rest k) (inj f0 rest { regs := regs', pc := k.pc + seg.length, args := #[], w := s'.st.world }) ∧
          regs'.size = k.regs.size ∧ regs'.getD d .nil = v ∧ ∀ r, sc.ra.alloc r = true → regs'.getD r .nil = k.regs.getD r .nil := by
  obtain ⟨d, t', ra4, more, seg, ht, hlen, hc4, b1, b2, b3, b4, b5, a1, ht'd, vm⟩ :=
    call_at p f0 rest V P hP hK c cT c4 t head kf f sc rs pool ps hs hp hl hhead hT hE
  refine ⟨d, ra4, more, seg, _, ht, hc4, b1, b2, b3, b4, b5, ?_⟩
  intro k s s' n pos v hcode hpre hsz hw hlit happ
  obtain ⟨rch, hst⟩ := vm k hcode hpre hsz hlit
  rw [applyFn_cfun n pos f hna, ← hw] at happ
  simp only [callStep] at hst
  cases hcp : callPrimW f k.args.toList k.w with
  | rt => rw [hcp] at happ; exact absurd happ (by simp)
  | user e => rw [hcp] at happ; exact absurd happ (by simp)
  | unsup why => rw [hcp] at happ; exact absurd happ (by simp)
  | ok a =>
    obtain ⟨v', w'⟩ := a
    rw [hcp] at happ hst
    simp only [R.ok.injEq] at happ
    obtain ⟨hv, hs'⟩ := happ
    subst hv
    have hw' : s'.st.world = w' := by rw [← hs']; rfl
    refine ⟨(k.regs.setIfInBounds t' (.cfun f)).setIfInBounds d v', ?_, by simp, getD_set_eq _ _ _ (by simp; omega), ?_⟩
    · rw [hlen, hw']
      exact Reach.trans rch (Reach.head hst (Reach.refl _ _))
    · intro r hr
      have hrd : r ≠ d := by intro e; rw [e] at hr; rw [hr] at b1; exact Bool.noConfusion b1
      have hrt : r ≠ t' := by intro e; rw [e] at hr; rw [hr] at a1; exact Bool.noConfusion a1
      rw [getD_set_ne _ _ _ _ hrd, getD_set_ne _ _ _ _ hrt]

/-- the error reading: what `err_call_core` spells out after `args_pushed` -/
theorem callEmit_err (hP : P.length < 65536)
    (hK : ∀ i, i < P.length → (p.defs.getD f0.defIdx default).consts.getD i .nil = litOf V (P.getD i .nil))
    (c cT c4 : CState) (t head : JSlot) (kf : KConst) (f : String) (hna : f ≠ "apply")
    (sc : Scope) (rs : List Scope) (pool : List KConst) (ps : List (List KConst))
    (hs : c.scopes = sc :: rs) (hp : c.pools = pool :: ps) (hl : c.lim ≤ 240)
    (hhead : head.k = .const kf)
    (hT : getTarget c {} = some (t, cT)) (hE : emitSS cT .call t head true = some c4) :
    ∃ (ra4 : RA) (more : List KConst) (seg : List CI),
      c4 = { c with scopes := { sc with ra := ra4 } :: rs, pools := (pool ++ more) :: ps, buf := c.buf ++ seg, map := c.map ++ [c.cur, c.cur] } ∧
      sc.ra.max ≤ ra4.max ∧
      ∀ (k : Cfg) (s s' : SS) (n : Nat) (ev : Value) (epos : Pos),
        CodeAt (p.defs.getD f0.defIdx default).code k.pc seg → (p.defs.getD f0.defIdx default).smap[k.pc + 1]? = some (c.cur.line, c.cur.col) →
        PrefL (pool ++ more) P → ra4.max < k.regs.size → k.w = s.st.world → litOf V kf = .cfun f →
        applyFn (n + 1) c.cur (.cfun f) k.args.toList s = .err ev epos s' →
        ∃ regs', Reach p (inj f0 rest k) (inj f0 rest { regs := regs', pc := k.pc + 1, args := k.args, w := s'.st.world }) ∧ regs'.size = k.regs.size ∧
          step p (inj f0 rest { regs := regs', pc := k.pc + 1, args := k.args, w := s'.st.world }) =
            .err ev epos (inj f0 rest { regs := regs', pc := k.pc + 1, args := k.args, w := s'.st.world }) := by
  obtain ⟨d, t', ra4, more, seg, ht, hlen, hc4, b1, b2, b3, b4, b5, a1, ht'd, vm⟩ :=
    call_at p f0 rest V P hP hK c cT c4 t head kf f sc rs pool ps hs hp hl hhead hT hE
  refine ⟨ra4, more, seg, hc4, b4, ?_⟩
  intro k s s' n ev epos hcode hmap hpre hsz hw hlit happ
  obtain ⟨rch, hst⟩ := vm k hcode hpre hsz hlit
  obtain ⟨hpos, hss, hraise⟩ := applyFn_cfun_err n c.cur f hna k.args.toList s s' ev epos happ
  subst hpos hss
  have hpos : curPos p (inj f0 rest { k with regs := k.regs.setIfInBounds t' (.cfun f), pc := k.pc + 1 }) = c.cur := by
    rw [inj_curPos]; show (match (p.defs.getD f0.defIdx default).smap[k.pc + 1]? with | some (l, c) => _ | none => _) = _; rw [hmap]
  simp only [callStep, hpos] at hst
  rw [← hw]
  refine ⟨k.regs.setIfInBounds t' (.cfun f), rch, by simp, ?_⟩
  rw [← hw] at hraise
  rcases hraise with ⟨hcp, hev⟩ | hcp
  · rw [hcp] at hst; rw [hev]; exact hst
  · rw [hcp] at hst; exact hst

end

end JanetModel.Compile
