/- experiment (designer cmodes): ONE postcondition over the options (value / hinted / tail), the end of `janetc_value` as one lemma
   (`OkPost.fin`), and the `def` case proved once for the three modes. -/
import JanetModel.Compile.XFin
import JanetModel.Compile.SeqTailAll
import JanetModel.Compile.SeqHintAll
namespace JanetModel.Compile
open JanetModel.Emit JanetModel.Lang JanetModel.Bytecode.Exec JanetModel.Gen.Bytecode

/-- what a mode asks of the state at entry: a hint is a near local inside the frame (and never comes with tail position) -/
def ModePre (opts : Fopts) (c : CState) (sc : Scope) : Prop :=
  (opts.tail = true → opts.hint = none) ∧
  ∀ h, opts.hint = some h → opts.tail = false ∧ ∃ rh, h.k = .loc rh ∧ h.cflag = false ∧ rh < 240 ∧ sc.ra.alloc rh = true ∧ rh ≤ sc.ra.max

section
variable (p : Program) (f0 : Frame) (rest : List Frame) (V : Array Value) (P : List KConst)

/-- what a compiled form delivers when `Lang/Sem` gives a value, by mode -/
def OkPost (G : String → Prop) (w : Bool) (opts : Fopts) (c c' : CState) (slot : JSlot) (sc : Scope) (rs : List Scope) (pool : List KConst)
    (ps : List (List KConst)) (env env' : Env) (s s' : SS) (v : Value) : Prop :=
  (opts.tail = true → NR c.scopes → TailOK p f0 rest V P G c c' slot sc rs pool ps env s s' v) ∧
  (opts.tail = false → opts.hint = none → Correct2 p f0 rest V P G (opts.drop && w) c c' slot sc rs pool ps env env' s s' v) ∧
  (∀ h rh, opts.tail = false → opts.hint = some h → h.k = .loc rh → slot = h ∧ HintOK p f0 rest V P G c c' rh sc rs pool ps env env' s s' v)

/-- the end of `janetc_value` after a form that delivered a plain value: nothing / the copy into the hint / `janetc_return` -/
theorem OkPost.fin (hP : P.length < 65536)
    (hK : ∀ i, i < P.length → (p.defs.getD f0.defIdx default).consts.getD i .nil = litOf V (P.getD i .nil))
    (G : String → Prop) (w : Bool) (opts : Fopts) (q : Pos) (c c1 c' : CState) (ret slot : JSlot) (sc : Scope) (rs : List Scope)
    (pool : List KConst) (ps : List (List KConst)) (env env' : Env) (s s' : SS) (v : Value)
    (hl : c.lim ≤ 240) (hm : c.map.length = c.buf.length) (hm1 : c1.map.length = c1.buf.length) (hpre : ModePre opts c sc)
    (H : Correct2 p f0 rest V P G false { c with cur := q } c1 ret sc rs pool ps env env' s s' v) (hnr : NR c.scopes → ret.returned = false)
    (hc : finA opts c.cur (some (ret, c1)) = some (slot, c')) :
    OkPost p f0 rest V P G w opts c c' slot sc rs pool ps env env' s s' v := by
  refine ⟨fun ht hN => ?_, fun ht hh => ?_, fun h rh ht hh hk => ?_⟩
  · rw [finA_t opts ht (hpre.1 ht)] at hc
    obtain ⟨c2, hcr, hc'⟩ := finT_some_inv c.cur ret slot c1 c' hc
    subst hc'
    exact TailOK.recur p f0 rest V P (q := q) (tail_ret_core p f0 rest V P hP hK G { c with cur := q } c1 c2 ret slot sc rs pool ps _ _ _ _ _ hl H (hnr hN) hcr)
  · rw [finA_o opts ht hh] at hc
    have hc2 : some (ret, ({ c1 with cur := c.cur } : CState)) = some (slot, c') := hc
    simp only [Option.some.injEq, Prod.mk.injEq] at hc2
    obtain ⟨h1, h2⟩ := hc2
    subst h1 h2
    exact Correct2.recur p f0 rest V P (q := q) (Correct2.weaken p f0 rest V P _ H)
  · rw [finA_h opts ht h hh] at hc
    obtain ⟨hsl, c2, hcp, hc'⟩ := finH_inv _ _ _ _ _ _ hc
    obtain ⟨_, rh', hk', hcf, hr, hal, hrm⟩ := hpre.2 h hh
    have e : rh' = rh := by rw [hk'] at hk; injection hk
    subst e
    refine ⟨hsl, ?_⟩
    rw [hc']
    exact HintOK.recur (HintOK.of_copy p f0 rest V P hP hK G { c with cur := q } c1 c2 ret h rh' sc rs pool ps env env' s s' v
      hk' hcf hr hal hm hm1 H hcp hrm)

/-- `(def x e)` in every mode: the un-hinted, non-tail `def`, then the end of `janetc_value` -/
theorem def_all (hP : P.length < 65536)
    (hK : ∀ i, i < P.length → (p.defs.getD f0.defIdx default).consts.getD i .nil = litOf V (P.getD i .nil))
    (G : String → Prop) (b w : Bool) (fuel : Nat) (CN : CorrectAt p f0 rest V P G (TF G b) w fuel) (NRf : NRAt G (TF G b) fuel)
    (x : String) (ve : Expr) (pp : Pos) (hGx : ¬ G x) (hTv : TF G b ve) (opts : Fopts)
    (c c' : CState) (slot : JSlot) (sc : Scope) (rs : List Scope) (pool : List KConst) (ps : List (List KConst))
    (n : Nat) (cur : Pos) (env env' : Env) (s s' : SS) (v : Value)
    (hs : c.scopes = sc :: rs) (hp : c.pools = pool :: ps) (hl : c.lim ≤ 240) (htop : sc.top = false) (hm : c.map.length = c.buf.length)
    (hpre : ModePre opts c sc)
    (hc : cValue (fuel + 1) opts (.form [.sym "def", .sym x, ve] pp) c = some (slot, c'))
    (hsem : eval n cur env (.form [.sym "def", .sym x, ve] pp) s = .ok (v, env') s')
    (hE : EnvS G c.scopes env s.boxes.size sc.ra) :
    OkPost p f0 rest V P G w opts c c' slot sc rs pool ps env env' s s' v := by
  rw [cValue_def_any] at hc
  obtain ⟨q, hq⟩ := curAt_eq c pp
  cases hcc : cDef (cValue fuel) x ve (curAt c pp) with
  | none => rw [hcc] at hc; simp [finA] at hc
  | some res =>
    obtain ⟨ret, c1⟩ := res
    rw [hcc] at hc
    obtain ⟨n2, env1, s1, hn, hev, henv, hs'⟩ := eval_def_inv n cur env env' x ve pp s s' v hsem
    subst henv hs'
    rw [hq] at hcc
    have H := def_core p f0 rest V P hP hK G (TF G b) w fuel CN x ve hGx hTv { c with cur := q } c1 ret sc rs pool ps
      n2 (posOf cur pp) env env1 s s1 v hs hp hl htop (fun _ => hm) hcc hev hE
    have hm1 : c1.map.length = c1.buf.length :=
      (def_shapeM G fuel (tf_shapeM_at G fuel) b x ve hGx hTv { c with cur := q } c1 ret sc rs pool ps hs hp htop hm hE.lkl hcc).1.mapLen hm
    have hret : NR c.scopes → ret.returned = false := by
      intro hN
      have hct : curTop ({ c with cur := q } : CState) = false := by simp [curTop, hs, htop]
      simp only [cDef, hct, Bool.false_eq_true, if_false, Option.bind_eq_bind, Option.bind_eq_some_iff, Prod.exists, Option.pure_def,
        Option.some.injEq, Prod.mk.injEq] at hcc
      obtain ⟨r, c1', hv, c2', hnl, hslot, _⟩ := hcc
      rw [← hslot]
      exact (NRf ve {} { c with cur := q } c1' r sc rs pool ps env s.boxes.size rfl rfl hs hp htop hm hTv hE hN hv).1
    exact OkPost.fin p f0 rest V P hP hK G w opts q c c1 c' ret slot sc rs pool ps env _ s _ v hl hm hm1 hpre H hret hc

end

end JanetModel.Compile
