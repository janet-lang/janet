/- experiment (designer cmodes): ONE postcondition over the RESULT of `Lang/Sem.eval` (value in three modes / error), one
   sequencing lemma, and the body of `do` / `upscope` proved once for every mode and outcome. -/
import JanetModel.Compile.XSeq
import JanetModel.Compile.SeqErrTail
namespace JanetModel.Compile
open JanetModel.Emit JanetModel.Lang JanetModel.Bytecode.Exec JanetModel.Gen.Bytecode

section
variable (p : Program) (f0 : Frame) (rest : List Frame) (V : Array Value) (P : List KConst)

/-- what the compiled form does, as a function of what `Lang/Sem` says of the source form -/
def Post (G : String → Prop) (w : Bool) (opts : Fopts) (c c' : CState) (slot : JSlot) (sc : Scope) (rs : List Scope) (pool : List KConst)
    (ps : List (List KConst)) (cur : Pos) (env : Env) (s : SS) : R (Value × Env) → Prop
  | .ok (v, env') s' => OkPost p f0 rest V P G w opts c c' slot sc rs pool ps env env' s s' v
  | .err ev epos s' => c.cur = cur → ErrOK p f0 rest V P c c' rs ps env s s' ev epos
  | _ => True

def AllAt (G : String → Prop) (b w : Bool) (fuel : Nat) : Prop :=
  ∀ (e : Expr) (opts : Fopts) (c c' : CState) (slot : JSlot) (sc : Scope) (rs : List Scope) (pool : List KConst) (ps : List (List KConst))
    (n : Nat) (cur : Pos) (env : Env) (s : SS),
    c.scopes = sc :: rs → c.pools = pool :: ps → c.lim ≤ 240 → sc.top = false → c.map.length = c.buf.length → ModePre opts c sc →
    (opts.hint ≠ none → opts.drop = false) → TF G b e →
    cValue fuel opts e c = some (slot, c') → EnvS G c.scopes env s.boxes.size sc.ra →
    Post p f0 rest V P G w opts c c' slot sc rs pool ps cur env s (eval n cur env e s)

/-- the value reading and the two error readings -/
theorem AllAt.okAt {G : String → Prop} {b w : Bool} {fuel : Nat} (h : AllAt p f0 rest V P G b w fuel) : OkAt p f0 rest V P G b w fuel :=
  fun e opts c c' slot sc rs pool ps n cur env env' s s' v hs hp hl htop hm hpre hdr hT hc hsem hE => by
    have := h e opts c c' slot sc rs pool ps n cur env s hs hp hl htop hm hpre hdr hT hc hE
    rw [hsem] at this; exact this

theorem AllAt.errAt {G : String → Prop} {b w : Bool} {fuel : Nat} (h : AllAt p f0 rest V P G b w fuel) : ErrAt p f0 rest V P G b fuel :=
  fun e opts c c' slot sc rs pool ps n cur env s s' ev epos ht hh hs hp hl htop hm hcur hT hc hsem hE => by
    have := h e opts c c' slot sc rs pool ps n cur env s hs hp hl htop hm
      ⟨fun h' => absurd h' (by simp [ht]), fun h' hh' => absurd hh' (by simp [hh])⟩ (fun h' => absurd hh h') hT hc hE
    rw [hsem] at this; exact this hcur

theorem AllAt.errAtT {G : String → Prop} {b w : Bool} {fuel : Nat} (h : AllAt p f0 rest V P G b w fuel) : ErrAtT p f0 rest V P G b fuel :=
  fun e opts c c' slot sc rs pool ps n cur env s s' ev epos _ hh hs hp hl htop hm hcur hT hc hsem hE => by
    have := h e opts c c' slot sc rs pool ps n cur env s hs hp hl htop hm
      ⟨fun _ => hh, fun h' hh' => absurd hh' (by simp [hh])⟩ (fun h' => absurd hh h') hT hc hE
    rw [hsem] at this; exact this hcur

/-- a statement that ran (value dropped, slot freed), then the rest in any mode with any outcome -/
theorem Post.seq (G : String → Prop) (w dr1 : Bool) (opts : Fopts) (c c1 c1f c' : CState) (sl1 slot : JSlot) (sc : Scope) (rs : List Scope)
    (pool : List KConst) (ps : List (List KConst)) (cur : Pos) (env env1 : Env) (s s1 : SS) (v1 : Value) (r : R (Value × Env))
    (hm : c.map.length = c.buf.length) (hm1 : c1.map.length = c1.buf.length) (hpre : ModePre opts c sc)
    (h1 : Correct2 p f0 rest V P G dr1 c c1 sl1 sc rs pool ps env env1 s s1 v1) (hN1 : NR c.scopes → NR c1.scopes)
    (hf : freeslot c1 sl1 = some c1f) (hA : App c1f c' rs ps)
    (h2 : ∀ sc1 pool1, c1f.scopes = sc1 :: rs → c1f.pools = pool1 :: ps → sc1.top = sc.top → c1f.lim = c.lim →
          (∀ x, lk c1f.scopes x = lk c1.scopes x) →
          (∀ rh, sc.ra.alloc rh = true → rh ≤ sc.ra.max → sc1.ra.alloc rh = true ∧ rh ≤ sc1.ra.max) →
          EnvS G c1f.scopes env1 s1.boxes.size sc1.ra → Post p f0 rest V P G w opts c1f c' slot sc1 rs pool1 ps cur env1 s1 r) :
    Post p f0 rest V P G w opts c c' slot sc rs pool ps cur env s r := by
  match r, h2 with
  | .ok (v, env') s', h2 =>
    exact OkPost.seq p f0 rest V P G w dr1 opts c c1 c1f c' sl1 slot sc rs pool ps env env1 env' s s1 s' v1 v hm hm1 hpre h1 hN1 hf h2
  | .err ev epos s', h2 =>
    intro hcur
    have h1' := h1
    obtain ⟨ra1, ns1, more1, seg1, segm1, hc1, _, mono1, max1, sok1, _, es1, _, _⟩ := h1'
    have hs1 : c1.scopes = { sc with ra := ra1, syms := sc.syms ++ ns1 } :: rs := by rw [hc1]
    obtain ⟨raf, hcf, hmaxf, hkeep⟩ := freeslot_ok c1 c1f sl1 sc { sc with ra := ra1, syms := sc.syms ++ ns1 } rs hs1 sok1 hf
    have hsf : c1f.scopes = { sc with ra := raf, syms := sc.syms ++ ns1 } :: rs := by rw [hcf]
    have hlkf : ∀ x, lk c1f.scopes x = lk c1.scopes x := by intro x; rw [hsf, hs1]; rfl
    have esf : EnvS G c1f.scopes env1 s1.boxes.size raf :=
      es1.of_lk hlkf (Nat.le_refl _) (fun x slot u l r hx hk hr => hkeep r hr (Or.inr ⟨x, slot, u, l, hx, hk⟩))
    have hmaxf' : raf.max = ra1.max := hmaxf
    have E2 := h2 _ _ hsf (by rw [hcf, hc1]) rfl (by rw [hcf, hc1])  hlkf
      (fun rh hal hrm => ⟨hkeep rh (mono1 rh hal) (Or.inl hal), by show rh ≤ raf.max; omega⟩) esf (by rw [hcf, hc1]; exact hcur)
    exact ErrOK.after h1 hm hm1 (by rw [hcf]) (by rw [hcf]) (by rw [hcf]) (by rw [hcf]) hlkf (freeslot_maxR c1 c1f sl1 _ rs hs1 hf) hA E2
  | .brk _ _, _ => trivial
  | .stop _, _ => trivial

/-- body of `do` / `upscope`: every mode, every outcome.  `APP`: the compile-only shape of a body in any mode (append-only) -/
theorem doBody_all (G : String → Prop) (b w : Bool) (fuel : Nat) (IH : AllAt p f0 rest V P G b w fuel) (NRf : NRAt G (TF G b) fuel)
    (APP : ∀ (body : List Expr) (opts : Fopts) (c c' : CState) (slot : JSlot) (sc : Scope) (rs : List Scope) (pool : List KConst) (ps : List (List KConst)),
      (∀ e, e ∈ body → TF G b e) → c.scopes = sc :: rs → c.pools = pool :: ps → sc.top = false → c.map.length = c.buf.length → LkL G c.scopes →
      doBody (cValue fuel) opts body c = some (slot, c') → App c c' rs ps) :
    ∀ (body : List Expr), (∀ e, e ∈ body → TF G b e) → body ≠ [] →
    ∀ (opts : Fopts) (c c' : CState) (slot : JSlot) (sc : Scope) (rs : List Scope) (pool : List KConst) (ps : List (List KConst))
      (n : Nat) (cur : Pos) (env : Env) (s : SS),
      c.scopes = sc :: rs → c.pools = pool :: ps → c.lim ≤ 240 → sc.top = false → c.map.length = c.buf.length → ModePre opts c sc →
      (opts.hint ≠ none → opts.drop = false) →
      doBody (cValue fuel) opts body c = some (slot, c') → EnvS G c.scopes env s.boxes.size sc.ra →
      Post p f0 rest V P G w opts c c' slot sc rs pool ps cur env s (evalSeq n cur env body s) := by
  intro body
  induction body with
  | nil => intro _ hne; exact absurd rfl hne
  | cons x t ih =>
    intro hT _ opts c c' slot sc rs pool ps n cur env s hs hp hl htop hm hpre hdr hc hE
    have hTx := hT x (by simp)
    cases n with
    | zero => simp only [evalSeq, Post]
    | succ n2 =>
    cases t with
    | nil =>
      simp only [doBody] at hc
      simp only [evalSeq]
      exact IH x opts c c' slot sc rs pool ps n2 cur env s hs hp hl htop hm hpre hdr hTx hc hE
    | cons y r =>
      simp only [doBody, Option.bind_eq_bind, Option.bind_eq_some_iff, Prod.exists] at hc
      obtain ⟨sl1, c1, hx, c1f, hf, hrest⟩ := hc
      have H1 := IH x { drop := true } c c1 sl1 sc rs pool ps n2 cur env s hs hp hl htop hm
        ⟨fun h' => absurd h' (by simp), fun h' hh' => absurd hh' (by simp)⟩ (fun h' => absurd rfl h') hTx hx hE
      obtain ⟨S1, _⟩ := tf_shapeM_at G fuel b x { drop := true } c c1 sl1 sc rs pool ps rfl rfl hs hp htop hm hTx hE.lkl hx
      obtain ⟨sc1, pool1, hs1, hp1, ht1, hL1, _⟩ := S1.out
      have hm1 := S1.mapLen hm
      have Rf := freeslot_stepR c1 c1f sl1 sc1 rs pool1 ps hs1 hp1 hf
      have Sf := Rf.shp hs1 hL1
      obtain ⟨sc2, pool2, hs2, hp2, ht2, hL2, _⟩ := Sf.out
      have hmf := Sf.mapLen hm1
      have hTr : ∀ e, e ∈ y :: r → TF G b e := fun e he => hT e (by simp [he])
      have AR : App c1f c' rs ps := APP (y :: r) opts c1f c' slot sc2 rs pool2 ps hTr hs2 hp2 (by rw [ht2, ht1]; exact htop) hmf hL2 hrest
      have hN1 : NR c.scopes → NR c1.scopes := fun hN =>
        (NRf x { drop := true } c c1 sl1 sc rs pool ps env s.boxes.size rfl rfl hs hp htop hm hTx hE hN hx).2
      rw [evalSeq]
      case x_5 => intro hh; cases hh
      cases he : eval n2 cur env x s with
      | ok a s1 =>
        obtain ⟨v1, env1⟩ := a
        rw [he] at H1
        refine Post.seq p f0 rest V P G w _ opts c c1 c1f c' sl1 slot sc rs pool ps cur env env1 s s1 v1 _ hm hm1 hpre (H1.2.1 rfl rfl) hN1 hf AR ?_
        intro sc1' pool1' a1 a2 a3 a4 hlk1 hin hE1
        refine ih hTr (by simp) opts c1f c' slot sc1' rs pool1' ps n2 cur env1 s1 a1 a2 (by rw [a4]; exact hl) (by rw [a3]; exact htop) hmf
          ⟨hpre.1, fun h hh => ?_⟩ hdr hrest hE1
        obtain ⟨ht, rh, b1, b2, b3, b4, b5⟩ := hpre.2 h hh
        exact ⟨ht, rh, b1, b2, b3, (hin rh b4 b5).1, (hin rh b4 b5).2⟩
      | err ev epos s' =>
        rw [he] at H1
        intro hcur
        obtain ⟨ra', ns, more, seg, segm, hc1, _⟩ := S1
        exact (H1 hcur).extend seg segm (by rw [hc1]) (by rw [hc1]) ((Rf.app hs1 hp1 (freeslot_maxR c1 c1f sl1 sc1 rs hs1 hf)).trans AR)
      | brk _ _ => exact True.intro
      | stop _ => exact True.intro

end

end JanetModel.Compile
