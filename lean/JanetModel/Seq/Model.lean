import JanetModel.Gen.Seq
/-
Executable model of janet arrays (src/core/array.c) and buffers (src/core/buffer.c), the generic accessors for
them in value.c (`janet_put`, `janet_putindex`, `janet_get`, `janet_in`, `janet_getindex`, `janet_next`,
`getter_checkint`) and the index / range decoding of capi.c (`janet_getinteger`, `janet_gethalfrange`,
`janet_getstartrange`, `janet_getendrange`, `janet_getslice`).  Core Lean only.

* `count` is a `Nat` (the C field is an `int32_t` that never goes negative), `capacity` an `Int` (array/new accepts a
  negative capacity and stores it), all other C `int32_t` quantities are `Int` with the overflow tests the C makes.
* Storage is `cells : Array (Option α)` of the allocated size; `none` is a cell the C never wrote (malloc / realloc
  garbage).  The invariant proved in Seq/Lemmas.lean says the first `count` cells are all `some`.
* An operation returns the new state and an `Outcome`: `ok`, `val v`, `err` (janet_panic: an error is raised),
  `oom` (JANET_OUT_OF_MEMORY: the process exits), `ub` (the C executes a signed overflow / out-of-range memmove).
-/
namespace JanetModel.Seq
open JanetModel.Gen.Seq

abbrev Val := Nat
abbrev vNil : Val := 0
abbrev i32max : Int := 2147483647
abbrev i32min : Int := -2147483648

/-- a Janet argument as far as these functions look at it -/
inductive Arg where
  | int (n : Int)      -- a number that passes `janet_checkint`
  | nil
  | bad                -- any other value (non-integral number, string, ...)
  deriving Repr, DecidableEq

inductive Outcome (α : Type) where
  | ok
  | val (v : Option α)   -- a returned element; `none` = an uninitialised cell was read
  | num (n : Int)
  | err
  | oom
  | ub
  deriving Repr, DecidableEq

/-! ### capi.c -/

/-- `janet_getinteger`: `none` = panic -/
def getInteger : Arg → Option Int
  | .int n => some n
  | _ => none

/-- `janet_gethalfrange(argv, n, length, which)` -/
def getHalfRange (a : Arg) (length : Int) : Option Int :=
  match getInteger a with
  | none => none
  | some raw =>
    let notRaw := if raw < 0 then raw + (length + 1) else raw
    if notRaw < 0 ∨ notRaw > length then none else some notRaw

/-- `janet_getstartrange`; `none` argument = `n >= argc` -/
def getStartRange (a : Option Arg) (length : Int) : Option Int :=
  match a with
  | none => some 0
  | some .nil => some 0
  | some x => getHalfRange x length

/-- `janet_getendrange` -/
def getEndRange (a : Option Arg) (length : Int) : Option Int :=
  match a with
  | none => some length
  | some .nil => some length
  | some x => getHalfRange x length

/-- `janet_getslice`: (start, end) with `end >= start` -/
def getSlice (length : Int) (s e : Option Arg) : Option (Int × Int) :=
  match getStartRange s length with
  | none => none
  | some st =>
    match getEndRange e length with
    | none => none
    | some en => some (st, if en < st then st else en)

/-- `getter_checkint(type, key, max)` (value.c) -/
def getterCheckint (key : Arg) (max : Int) : Option Int :=
  match key with
  | .int n => if n < 0 then none else if n ≥ max then none else some n
  | _ => none

/-! ### storage -/

/-- `realloc(cells, n)`: keeps the common prefix, new cells are uninitialised -/
def realloc {α : Type} (cells : Array (Option α)) (n : Nat) : Array (Option α) :=
  if n ≤ cells.size then cells.extract 0 n else cells ++ Array.replicate (n - cells.size) none

/-- write `xs` from cell `pos` on (memcpy) -/
def writeAt {α : Type} (cells : Array (Option α)) (pos : Nat) : List (Option α) → Array (Option α)
  | [] => cells
  | x :: xs => writeAt (cells.setIfInBounds pos x) (pos + 1) xs

/-- cells `pos .. pos+n` (what memcpy / memmove reads) -/
def readAt {α : Type} (cells : Array (Option α)) (pos n : Nat) : List (Option α) :=
  (List.range' pos n).map (fun i => (cells.getD i none))

/-! ### arrays (array.c) -/

structure Arr where
  count : Nat
  capacity : Int
  cells : Array (Option Val)
  /-- `array->data == NULL` (no storage was ever allocated, or array/trim freed it): array/concat compares data
  pointers to detect "the same array", and two NULL pointers compare equal -/
  isNull : Bool := false
  deriving Repr, Inhabited

/-- `janet_array(capacity)` -/
def Arr.new (capacity : Int) : Arr :=
  { count := 0, capacity := capacity, cells := Array.replicate capacity.toNat none, isNull := decide (capacity ≤ 0) }

/-- elements `0..count` -/
def Arr.items (a : Arr) : List (Option Val) := readAt a.cells 0 a.count

/-- `janet_array_ensure(array, capacity, growth)`; `none` = JANET_OUT_OF_MEMORY (realloc of a non-positive size on
glibc / ASan) -/
def Arr.ensure (a : Arr) (capacity growth : Int) : Option Arr :=
  if capacity ≤ a.capacity then some a
  else
    let nc := capacity * growth
    let nc := if nc > i32max then i32max else nc
    -- realloc(p, 0) frees p and returns NULL (-> out of memory) unless p is NULL already; a negative size fails
    if nc < 0 ∨ (nc = 0 ∧ a.cells.size ≠ 0) then none
    else some { a with capacity := nc, cells := realloc a.cells nc.toNat, isNull := false }

/-- `janet_array_setcount` -/
def Arr.setcount (a : Arr) (count : Int) : Arr × Outcome Val :=
  if count < 0 then (a, .ok)
  else if count > a.count then
    match a.ensure count arraySetcountGrowth with
    | none => (a, .oom)
    | some a' =>
      ({ a' with cells := writeAt a'.cells a.count (List.replicate (count.toNat - a.count) (some vNil)), count := count.toNat }, .ok)
  else ({ a with count := count.toNat }, .ok)

/-- `janet_array_push` -/
def Arr.push (a : Arr) (x : Val) : Arr × Outcome Val :=
  if (a.count : Int) = i32max then (a, .err)
  else
    match a.ensure (a.count + 1) arrayPushGrowth with
    | none => (a, .oom)
    | some a' => ({ a' with cells := a'.cells.setIfInBounds a.count (some x), count := a.count + 1 }, .ok)

/-- `janet_array_pop` -/
def Arr.pop (a : Arr) : Arr × Outcome Val :=
  if a.count ≠ 0 then ({ a with count := a.count - 1 }, .val (a.cells.getD (a.count - 1) none))
  else (a, .val (some vNil))

/-- `janet_array_peek` -/
def Arr.peek (a : Arr) : Arr × Outcome Val :=
  if a.count ≠ 0 then (a, .val (a.cells.getD (a.count - 1) none)) else (a, .val (some vNil))

/-- `cfun_array_push` (argc - 1 = xs.length) -/
def Arr.cfunPush (a : Arr) (xs : List Val) : Arr × Outcome Val :=
  if i32max - (xs.length + 1 : Int) + 1 ≤ a.count then (a, .err)
  else
    let newcount : Int := a.count - 1 + (xs.length + 1)
    match a.ensure newcount arrayCfunPushGrowth with
    | none => (a, .oom)
    | some a' => ({ a' with cells := writeAt a'.cells a.count (xs.map some), count := newcount.toNat }, .ok)

/-- `cfun_array_new_filled` -/
def Arr.newFilled (count : Arg) (x : Val) : Option Arr :=
  match count with
  | .int n => if n < 0 then none else
      some { count := n.toNat, capacity := n, cells := Array.replicate n.toNat (some x), isNull := decide (n ≤ 0) }
  | _ => none

/-- `cfun_array_fill` -/
def Arr.fill (a : Arr) (x : Val) : Arr × Outcome Val :=
  ({ a with cells := writeAt a.cells 0 (List.replicate a.count (some x)) }, .ok)

/-- `cfun_array_ensure` -/
def Arr.cfunEnsure (a : Arr) (cap growth : Arg) : Arr × Outcome Val :=
  match getInteger cap, getInteger growth with
  | some c, some g =>
    if c < 1 then (a, .err)
    else if ensureChecksGrowth && g < 1 then (a, .err)     -- only in sources that validate `growth`
    else match a.ensure c g with
      | none => (a, .oom)
      | some a' => (a', .ok)
  | _, _ => (a, .err)

/-- `cfun_array_slice` on a view of `len` readable items -/
def sliceOf (items : List (Option Val)) (s e : Option Arg) : Option Arr :=
  match getSlice items.length s e with
  | none => none
  | some (st, en) =>
    let n := en - st
    some { count := n.toNat, capacity := n, cells := ((items.drop st.toNat).take n.toNat).toArray, isNull := decide (n ≤ 0) }

/-- `cfun_array_insert` -/
def Arr.insert (a : Arr) (pos : Arg) (xs : List Val) : Arr × Outcome Val :=
  match getInteger pos with
  | none => (a, .err)
  | some pos =>
    let pos := if pos < 0 then a.count + pos + 1 else pos
    if pos < 0 ∨ pos > a.count then (a, .err)
    else if i32max - xs.length < a.count then (a, .err)
    else
      match a.ensure (a.count + xs.length) arrayInsertGrowth with
      | none => (a, .oom)
      | some a' =>
        let rest := readAt a'.cells pos.toNat (a.count - pos.toNat)             -- memmove source
        let cells := writeAt a'.cells (pos.toNat + xs.length) rest
        let cells := writeAt cells pos.toNat (xs.map some)
        ({ a' with cells := cells, count := a.count + xs.length }, .ok)

/-- the optional count argument of array/remove: default 1, must be a non-negative integer (`none` = panic) -/
def removeCount (n : Option Arg) : Option Int :=
  match n with
  | none => some 1
  | some x => match getInteger x with
    | none => none
    | some v => if v < 0 then none else some v

/-- `cfun_array_remove`; `n = none` when argc = 2.  `safe` = whether the clamp the source has is computed
from `count - at` (Gen/Seq.lean `removeClampNoOverflow`): `if (n > array->count - at)` (true), or `if (at + n > array->count)` /
an end index `at + n` clipped afterwards (false; `at + n` is computed in `int32_t`, and when that overflows the behaviour is
undefined: `ub`) -/
def Arr.removeWith (safe : Bool) (a : Arr) (pos : Arg) (n : Option Arg) : Arr × Outcome Val :=
  match getInteger pos with
  | none => (a, .err)
  | some pos =>
    let pos := if pos < 0 then a.count + pos else pos
    if pos < 0 ∨ pos > a.count then (a, .err)
    else
      match removeCount n with
      | none => (a, .err)
      | some n =>
        if !safe && pos + n > i32max then (a, .ub)
        else
          let n := if (if safe then n > a.count - pos else pos + n > a.count) then a.count - pos else n
          let tail := readAt a.cells (pos + n).toNat (a.count - pos.toNat - n.toNat)
          ({ a with cells := writeAt a.cells pos.toNat tail, count := a.count - n.toNat }, .ok)

def Arr.remove (a : Arr) (pos : Arg) (n : Option Arg) : Arr × Outcome Val :=
  Arr.removeWith removeClampNoOverflow a pos n

/-- `cfun_array_trim` -/
def Arr.trim (a : Arr) : Arr × Outcome Val :=
  if a.count ≠ 0 then
    if (a.count : Int) < a.capacity then ({ a with capacity := a.count, cells := realloc a.cells a.count }, .ok) else (a, .ok)
  else ({ a with capacity := 0, cells := #[], isNull := true }, .ok)

/-- `cfun_array_clear` -/
def Arr.clear (a : Arr) : Arr × Outcome Val := ({ a with count := 0 }, .ok)

/-- one part of `array/concat`: a single value, or the elements of an array / tuple -/
inductive Part where
  | one (v : Val)
  | many (vs : List (Option Val))
  | other (vs : List (Option Val)) (srcNull : Bool)   -- another array, with whether its data pointer is NULL
  | self                       -- the destination array itself
  deriving Repr

def Arr.pushAll (a : Arr) : List (Option Val) → Arr × Outcome Val
  | [] => (a, .ok)
  | x :: xs =>
    if (a.count : Int) = i32max then (a, .err)
    else match a.ensure (a.count + 1) arrayPushGrowth with
      | none => (a, .oom)
      | some a' => Arr.pushAll { a' with cells := a'.cells.setIfInBounds a.count x, count := a.count + 1 } xs

/-- `cfun_array_concat` -/
def Arr.concat (a : Arr) : List Part → Arr × Outcome Val
  | [] => (a, .ok)
  | p :: ps =>
    let r := match p with
      | .one v => a.pushAll [some v]
      | .many vs => a.pushAll vs
      | .other vs srcNull =>
        -- `array->data == vals` also holds for two arrays without storage (both NULL)
        if a.isNull && srcNull then
          match a.ensure (a.count + a.count) 2 with
          | none => (a, .oom)
          | some a' => a'.pushAll a.items
        else a.pushAll vs
      | .self =>
        -- `if (array->data == vals) { ensure(count + len, 2); view again }`: len is read before pushing
        match a.ensure (a.count + a.count) 2 with
        | none => (a, .oom)
        | some a' => a'.pushAll a.items
    match r.2 with
    | .ok => r.1.concat ps
    | o => (r.1, o)

/-- `cfun_array_join`: like array/concat, but a part that is not an array / tuple raises "expected indexed type"
(after the earlier parts were appended) -/
def Arr.join (a : Arr) : List Part → Arr × Outcome Val
  | [] => (a, .ok)
  | p :: ps =>
    let r : Arr × Outcome Val := match p with
      | .one _ => (a, .err)
      | .many vs => a.pushAll vs
      | .other vs srcNull =>
        if a.isNull && srcNull then
          match a.ensure (a.count + a.count) 2 with
          | none => (a, .oom)
          | some a' => a'.pushAll a.items
        else a.pushAll vs
      | .self =>
        match a.ensure (a.count + a.count) 2 with
        | none => (a, .oom)
        | some a' => a'.pushAll a.items
    match r.2 with
    | .ok => r.1.join ps
    | o => (r.1, o)

/-- `janet_put` on an array -/
def Arr.put (a : Arr) (key : Arg) (v : Val) : Arr × Outcome Val :=
  match getterCheckint key (i32max - 1) with
  | none => (a, .err)
  | some index =>
    let r := if index ≥ a.count then a.setcount (index + 1) else (a, .ok)
    match r.2 with
    | .ok => ({ r.1 with cells := r.1.cells.setIfInBounds index.toNat (some v) }, .ok)
    | o => (r.1, o)

/-- `janet_putindex` on an array (`index` is a C `int32_t`; negative indexes do not reach this code from bytecode).
`fills` = whether the source nil-fills the cells between the old count and `index` (Gen/Seq.lean
`putindexFillsArrayGap`) -/
def Arr.putindexWith (fills : Bool) (a : Arr) (index : Int) (v : Val) : Arr × Outcome Val :=
  if index < 0 then (a, .ub)
  else if index ≥ a.count then
    if index + 1 > i32max then (a, .ub)
    else match a.ensure (index + 1) putindexGrowth with
      | none => (a, .oom)
      | some a' =>
        let cells := if fills then writeAt a'.cells a.count (List.replicate (index.toNat - a.count) (some vNil)) else a'.cells
        ({ a' with count := index.toNat + 1, cells := cells.setIfInBounds index.toNat (some v) }, .ok)
  else ({ a with cells := a.cells.setIfInBounds index.toNat (some v) }, .ok)

def Arr.putindex (a : Arr) (index : Int) (v : Val) : Arr × Outcome Val :=
  Arr.putindexWith putindexFillsArrayGap a index v

/-- `janet_get` on an array -/
def Arr.get (a : Arr) (key : Arg) : Outcome Val :=
  match key with
  | .int n => if n < 0 then .val (some vNil) else if n ≥ a.count then .val (some vNil) else .val (a.cells.getD n.toNat none)
  | _ => .val (some vNil)

/-- `janet_in` on an array -/
def Arr.in (a : Arr) (key : Arg) : Outcome Val :=
  match getterCheckint key a.count with
  | none => .err
  | some i => .val (a.cells.getD i.toNat none)

/-- `janet_getindex` on an array -/
def Arr.getindex (a : Arr) (index : Int) : Outcome Val :=
  if index < 0 then .err else if index ≥ a.count then .val (some vNil) else .val (a.cells.getD index.toNat none)

/-- `janet_next` on an indexed / bytes value of length `len` -/
def seqNext (len : Nat) (key : Arg) : Outcome Val :=
  match key with
  | .nil => if (0 : Int) < len then .num 0 else .val (some vNil)
  | .int n =>
    if n = i32max then .ub          -- `janet_unwrap_integer(key) + 1` overflows
    else if n + 1 < len ∧ n + 1 ≥ 0 then .num (n + 1) else .val (some vNil)
  | .bad => .val (some vNil)

/-! ### buffers (buffer.c) -/

structure Buf where
  count : Nat
  capacity : Int
  cells : Array (Option Nat)     -- bytes
  deriving Repr, Inhabited

def Buf.items (b : Buf) : List (Option Nat) := readAt b.cells 0 b.count

/-- `janet_buffer(capacity)` -/
def Buf.new (capacity : Int) : Buf :=
  let c := if capacity < bufferMinCap then bufferMinCap else capacity
  { count := 0, capacity := c, cells := Array.replicate c.toNat none }

/-- `janet_buffer_ensure` -/
def Buf.ensure (b : Buf) (capacity growth : Int) : Option Buf :=
  if capacity ≤ b.capacity then some b
  else
    let big := capacity * growth
    let nc := if big > i32max then i32max else big
    if nc ≤ 0 then none
    else some { b with capacity := nc, cells := realloc b.cells nc.toNat }

/-- `janet_buffer_setcount` -/
def Buf.setcount (b : Buf) (count : Int) : Buf × Outcome Nat :=
  if count < 0 then (b, .ok)
  else if count > b.count then
    match b.ensure count bufferSetcountGrowth with
    | none => (b, .oom)
    | some b' =>
      ({ b' with cells := writeAt b'.cells b.count (List.replicate (count.toNat - b.count) (some 0)), count := count.toNat }, .ok)
  else ({ b with count := count.toNat }, .ok)

/-- `janet_buffer_extra` -/
def Buf.extra (b : Buf) (n : Int) : Buf × Outcome Nat :=
  if n + b.count > i32max then (b, .err)
  else
    let newSize : Int := b.count + n
    if newSize > b.capacity then
      let nc : Int := if newSize > i32max / bufferExtraGrowth then i32max else newSize * bufferExtraGrowth
      if nc ≤ 0 then (b, .oom)
      else ({ b with capacity := nc, cells := realloc b.cells nc.toNat }, .ok)
    else (b, .ok)

/-- `janet_buffer_push_bytes` -/
def Buf.pushBytes (b : Buf) (bytes : List (Option Nat)) : Buf × Outcome Nat :=
  if bytes.length = 0 then (b, .ok)
  else
    let r := b.extra bytes.length
    match r.2 with
    | .ok => ({ r.1 with cells := writeAt r.1.cells b.count bytes, count := b.count + bytes.length }, .ok)
    | o => (r.1, o)

/-- `janet_buffer_push_u8` -/
def Buf.pushU8 (b : Buf) (byte : Nat) : Buf × Outcome Nat :=
  let r := b.extra 1
  match r.2 with
  | .ok => ({ r.1 with cells := r.1.cells.setIfInBounds b.count (some byte), count := b.count + 1 }, .ok)
  | o => (r.1, o)

/-- `x & 0xFF` of an `int32_t` -/
def lowByte (n : Int) : Nat := (n % 256).toNat

/-- an argument of buffer/push and friends -/
inductive BArg where
  | int (n : Int)                 -- integer (checkint passes)
  | badnum                        -- a number that is not a 32-bit integer
  | bytes (bs : List Nat)         -- string / keyword / symbol / other buffer
  | self                          -- the destination buffer itself
  | bad                           -- not a byte sequence
  deriving Repr

/-- a byte-sequence argument that is the destination buffer itself (`view.bytes == buffer->data`): room is made
first, then the view is taken again.  `safe` = which of the two recognised source shapes is present (Gen/Seq.lean
`pushSelfNoOverflow`): `janet_buffer_extra(buffer, view.len)` (true: 64-bit overflow test, then the same doubling) or
`janet_buffer_ensure(buffer, buffer->count + view.len, 2)` (false: the sum is computed in `int32_t`, and when
`count + len` exceeds INT32_MAX the behaviour is undefined: `ub`) -/
def Buf.pushSelfWith (safe : Bool) (b : Buf) : Buf × Outcome Nat :=
  if safe then
    let r := b.extra b.count
    match r.2 with
    | .ok => r.1.pushBytes b.items
    | o => (r.1, o)
  else if (b.count : Int) + b.count > i32max then (b, .ub)
  else
    match b.ensure (b.count + b.count) 2 with
    | none => (b, .oom)
    | some b' => b'.pushBytes b.items

def Buf.pushSelf (b : Buf) : Buf × Outcome Nat := Buf.pushSelfWith pushSelfNoOverflow b

/-- `buffer_push_impl` over the remaining arguments -/
def Buf.pushImpl (b : Buf) : List BArg → Buf × Outcome Nat
  | [] => (b, .ok)
  | x :: xs =>
    let r : Buf × Outcome Nat := match x with
      | .int n => b.pushU8 (lowByte n)
      | .badnum => (b, .err)
      | .bad => (b, .err)
      | .bytes bs => b.pushBytes (bs.map some)
      | .self => b.pushSelf
    match r.2 with
    | .ok => r.1.pushImpl xs
    | o => (r.1, o)

/-- `cfun_buffer_push_at` -/
def Buf.pushAt (b : Buf) (index : Arg) (xs : List BArg) : Buf × Outcome Nat :=
  match getInteger index with
  | none => (b, .err)
  | some index =>
    if index < 0 ∨ index > b.count then (b, .err)
    else
      let r := Buf.pushImpl { b with count := index.toNat } xs
      -- on a panic inside push_impl the truncated count stays (longjmp skips the restore)
      match r.2 with
      | .ok => (if r.1.count < b.count then { r.1 with count := b.count } else r.1, .ok)
      | o => (r.1, o)

/-- `cfun_buffer_u8` (buffer/push-byte) -/
def Buf.pushByteArgs (b : Buf) : List BArg → Buf × Outcome Nat
  | [] => (b, .ok)
  | .int n :: xs =>
    let r := b.pushU8 (lowByte n)
    (match r.2 with
    | .ok => r.1.pushByteArgs xs
    | o => (r.1, o))
  | _ :: _ => (b, .err)

/-- `cfun_buffer_chars` (buffer/push-string) -/
def Buf.pushStringArgs (b : Buf) : List BArg → Buf × Outcome Nat
  | [] => (b, .ok)
  | x :: xs =>
    let r : Buf × Outcome Nat := match x with
      | .bytes bs => b.pushBytes (bs.map some)
      | .self => b.pushSelf
      | _ => (b, .err)
    match r.2 with
    | .ok => r.1.pushStringArgs xs
    | o => (r.1, o)

/-- the four bytes of a `uint32_t`, little endian -/
def wordBytes (w : Nat) : List Nat := [w % 256, w / 256 % 256, w / 65536 % 256, w / 16777216 % 256]

/-- `janet_buffer_push_u32` -/
def Buf.pushU32 (b : Buf) (w : Nat) : Buf × Outcome Nat :=
  let r := b.extra 4
  match r.2 with
  | .ok => ({ r.1 with cells := writeAt r.1.cells b.count ((wordBytes w).map some), count := b.count + 4 }, .ok)
  | o => (r.1, o)

/-- an argument of buffer/push-word: a number equal to its `uint32_t` conversion, or anything else -/
inductive WArg where
  | word (w : Nat)       -- 0 ≤ w < 2^32
  | bad
  deriving Repr

/-- `cfun_buffer_word` (buffer/push-word) -/
def Buf.pushWordArgs (b : Buf) : List WArg → Buf × Outcome Nat
  | [] => (b, .ok)
  | .word w :: xs =>
    let r := b.pushU32 w
    (match r.2 with
    | .ok => r.1.pushWordArgs xs
    | o => (r.1, o))
  | .bad :: _ => (b, .err)

/-- the bit-index argument of buffer/bit*: a number that is an integer within `int64_t`, or anything else -/
inductive BitArg where
  | idx (n : Int)
  | bad
  deriving Repr

/-- `bitloc`: (byte index, bit number) or `none` = "invalid bit index" -/
def Buf.bitloc (b : Buf) (x : BitArg) : Option (Nat × Nat) :=
  match x with
  | .bad => none
  | .idx bitindex =>
    let byteindex := bitindex / 8          -- `bitindex >> 3`
    let which := bitindex % 8              -- `bitindex & 7`
    if bitindex < 0 ∨ byteindex ≥ b.count then none else some (byteindex.toNat, which.toNat)

/-- read-modify-write of `buffer->data[index]` -/
def Buf.modByte (b : Buf) (i : Nat) (f : Nat → Nat) : Buf :=
  { b with cells := b.cells.setIfInBounds i ((b.cells.getD i none).map f) }

/-- `cfun_buffer_bitset`: `data[index] |= 1 << bit` -/
def Buf.bitSet (b : Buf) (x : BitArg) : Buf × Outcome Nat :=
  match b.bitloc x with
  | none => (b, .err)
  | some (i, bit) => (b.modByte i (fun v => v ||| (1 <<< bit)), .ok)

/-- `cfun_buffer_bitclear`: `data[index] &= ~(1 << bit)` (on a byte) -/
def Buf.bitClear (b : Buf) (x : BitArg) : Buf × Outcome Nat :=
  match b.bitloc x with
  | none => (b, .err)
  | some (i, bit) => (b.modByte i (fun v => v &&& (255 ^^^ (1 <<< bit))), .ok)

/-- `cfun_buffer_bittoggle`: `data[index] ^= 1 << bit` -/
def Buf.bitToggle (b : Buf) (x : BitArg) : Buf × Outcome Nat :=
  match b.bitloc x with
  | none => (b, .err)
  | some (i, bit) => (b.modByte i (fun v => v ^^^ (1 <<< bit)), .ok)

/-- `cfun_buffer_bitget`: `.num 1` = true, `.num 0` = false; `.val none` = an uninitialised byte was read -/
def Buf.bitGet (b : Buf) (x : BitArg) : Outcome Nat :=
  match b.bitloc x with
  | none => .err
  | some (i, bit) =>
    match b.cells.getD i none with
    | some v => .num (if v &&& (1 <<< bit) ≠ 0 then 1 else 0)
    | none => .val none

/-- `janet_getinteger` on every argument in turn (`none` = one of them panics) -/
def getIntegers : List Arg → Option (List Int)
  | [] => some []
  | a :: rest =>
    match getInteger a, getIntegers rest with
    | some n, some ns => some (n :: ns)
    | _, _ => none

/-- `cfun_buffer_frombytes` -/
def Buf.fromBytes (args : List Arg) : Option Buf :=
  match getIntegers args with
  | none => none
  | some ns =>
    let b := Buf.new ns.length
    some { b with cells := writeAt b.cells 0 ((ns.map lowByte).map some), count := ns.length }

/-- `cfun_buffer_popn` -/
def Buf.popn (b : Buf) (n : Arg) : Buf × Outcome Nat :=
  match getInteger n with
  | none => (b, .err)
  | some n => if n < 0 then (b, .err) else if (b.count : Int) < n then ({ b with count := 0 }, .ok) else ({ b with count := b.count - n.toNat }, .ok)

/-- the optional byte argument of buffer/fill and buffer/new-filled: default 0 when absent (argc too small),
`janet_getinteger(...) & 0xFF` otherwise (`none` = panic) -/
def byteArg (byte : Option Arg) : Option Nat :=
  match byte with
  | none => some 0
  | some x => (getInteger x).map lowByte

/-- `cfun_buffer_fill`; `byte = none` when argc = 1 -/
def Buf.fill (b : Buf) (byte : Option Arg) : Buf × Outcome Nat :=
  match byteArg byte with
  | none => (b, .err)
  | some v => ({ b with cells := writeAt b.cells 0 (List.replicate b.count (some v)) }, .ok)

/-- `cfun_buffer_trim` -/
def Buf.trim (b : Buf) : Buf × Outcome Nat :=
  if (b.count : Int) < b.capacity then
    let nc : Nat := if (b.count : Int) > bufferTrimMin then b.count else bufferTrimMin.toNat
    ({ b with capacity := nc, cells := realloc b.cells nc }, .ok)
  else (b, .ok)

def Buf.clear (b : Buf) : Buf × Outcome Nat := ({ b with count := 0 }, .ok)

/-- `cfun_buffer_new_filled` -/
def Buf.newFilled (count : Arg) (byte : Option Arg) : Option Buf :=
  match getInteger count with
  | none => none
  | some c =>
    let c := if c < 0 then 0 else c
    match byteArg byte with
    | none => none
    | some v =>
      let b := Buf.new c
      some { b with cells := writeAt b.cells 0 (List.replicate c.toNat (some v)), count := c.toNat }

/-- `cfun_buffer_slice` over a byte view -/
def bsliceOf (items : List (Option Nat)) (s e : Option Arg) : Option Buf :=
  match getSlice items.length s e with
  | none => none
  | some (st, en) =>
    let n := en - st
    let b := Buf.new n
    some { b with cells := writeAt b.cells 0 ((items.drop st.toNat).take n.toNat), count := n.toNat }

/-- the copying part of `cfun_buffer_blit` once the three offsets are decoded -/
def Buf.blitCore (dest : Buf) (src : Option (List (Option Nat))) (srcLen : Nat) (offsetDest offsetSrc lengthSrc : Int) :
    Buf × Outcome Nat :=
  let last := offsetDest + lengthSrc
  if last > i32max then (dest, .err)
  else match dest.ensure last 2 with
    | none => (dest, .oom)
    | some d' =>
      let cnt := if last > d'.count then last.toNat else d'.count
      -- memmove / memcpy: source bytes are read before any is written (same buffer: after the realloc)
      let srcNow := match src with | none => readAt d'.cells 0 srcLen | some l => l
      let bytes := (srcNow.drop offsetSrc.toNat).take lengthSrc.toNat
      ({ d' with count := cnt, cells := writeAt d'.cells offsetDest.toNat bytes }, .ok)

/-- an optional half-range argument `argc > n && !janet_checktype(argv[n], JANET_NIL) ? janet_gethalfrange(...) : dflt` -/
def optHalf (a : Option Arg) (length dflt : Int) : Option Int :=
  match a with
  | none => some dflt
  | some .nil => some dflt
  | some x => getHalfRange x length

/-- the three decoded quantities of `cfun_buffer_blit`: (offset_dest, offset_src, length_src); `none` = a panic in
`janet_gethalfrange`.  `argc4` = whether a fifth argument was supplied at all -/
def blitDecode (dlen slen : Int) (ds ss : Option Arg) (argc4 : Bool) (se : Option Arg) : Option (Int × Int × Int) :=
  match optHalf ds dlen 0 with
  | none => none
  | some od =>
    match optHalf ss slen 0 with
    | none => none
    | some os =>
      if argc4 then
        match optHalf se slen slen with
        | none => none
        | some e => some (od, os, if e - os < 0 then 0 else e - os)
      else some (od, os, slen - os)

/-- `cfun_buffer_blit(dest, src, dest-start, src-start, src-end)`; `src = none` means src is dest itself
(`same_buf = src.bytes == dest->data`) -/
def Buf.blit (dest : Buf) (src : Option (List (Option Nat))) (ds ss : Option Arg) (argc4 : Bool) (se : Option Arg) : Buf × Outcome Nat :=
  let srcItems := match src with | none => dest.items | some l => l
  match blitDecode dest.count srcItems.length ds ss argc4 se with
  | none => (dest, .err)
  | some (od, os, ls) => dest.blitCore src srcItems.length od os ls

/-- `janet_put` on a buffer; `value` must pass `janet_checkint` -/
def Buf.put (b : Buf) (key : Arg) (value : Arg) : Buf × Outcome Nat :=
  match getterCheckint key (i32max - 1) with
  | none => (b, .err)
  | some index =>
    match getInteger value with
    | none => (b, .err)
    | some v =>
      let r := if index ≥ b.count then b.setcount (index + 1) else (b, .ok)
      match r.2 with
      | .ok => ({ r.1 with cells := r.1.cells.setIfInBounds index.toNat (some (lowByte v)) }, .ok)
      | o => (r.1, o)

/-- `janet_putindex` on a buffer -/
def Buf.putindexWith (fills : Bool) (b : Buf) (index : Int) (value : Arg) : Buf × Outcome Nat :=
  match getInteger value with
  | none => (b, .err)
  | some v =>
    if index < 0 then (b, .ub)
    else if index ≥ b.count then
      if index + 1 > i32max then (b, .ub)
      else match b.ensure (index + 1) putindexGrowth with
        | none => (b, .oom)
        | some b' =>
          let cells := if fills then writeAt b'.cells b.count (List.replicate (index.toNat - b.count) (some 0)) else b'.cells
          ({ b' with count := index.toNat + 1, cells := cells.setIfInBounds index.toNat (some (lowByte v)) }, .ok)
    else ({ b with cells := b.cells.setIfInBounds index.toNat (some (lowByte v)) }, .ok)

def Buf.putindex (b : Buf) (index : Int) (value : Arg) : Buf × Outcome Nat :=
  Buf.putindexWith putindexFillsBufferGap b index value

/-- `janet_get` on a buffer; `.ok` stands for a nil result -/
def Buf.get (b : Buf) (key : Arg) : Outcome Nat :=
  match key with
  | .int n => if n < 0 then .ok else if n ≥ b.count then .ok else .val (b.cells.getD n.toNat none)
  | _ => .ok

def Buf.in (b : Buf) (key : Arg) : Outcome Nat :=
  match getterCheckint key b.count with
  | none => .err
  | some i => .val (b.cells.getD i.toNat none)

def Buf.getindex (b : Buf) (index : Int) : Outcome Nat :=
  if index < 0 then .err else if index ≥ b.count then .ok else .val (b.cells.getD index.toNat none)

end JanetModel.Seq
