/-
Buffers, second part: buffer/push-at, `janet_put` / `janet_putindex` on buffers, buffer/trim, clear, new-filled,
from-bytes, slice, the argument decoding of buffer/blit, buffer/bit*.
-/
import JanetModel.Seq.BufLemmas
namespace JanetModel.Seq
open JanetModel.Gen.Seq


/-- the contents after `(buffer/push-at b i ;args)` on a buffer holding `xs`: the bytes from `i` on are overwritten by
what the arguments push; bytes of `xs` beyond the pushed ones stay.  When an argument fails, `count` is NOT raised
again (the C leaves through longjmp before the restore): the buffer ends right after the last pushed byte. -/
def specPushAt (xs : List Nat) (i : Nat) (args : List BArg) : List Nat × Bool :=
  let s := specPush (xs.take i) args
  if s.2 ∧ s.1.length < xs.length then (s.1 ++ xs.drop s.1.length, true) else s

/-- **buffer/push-at** (`cfun_buffer_push_at`): an ill-typed or out-of-range index raises the error with the buffer
untouched; otherwise the result is `specPushAt` -/
theorem Buf.pushAt_abs {b : Buf} {xs : List Nat} (h : b.Abs xs) (index : Arg) (args : List BArg) :
    (b.pushAt index args = (b, .err) ∧ ∀ i : Int, index = .int i → i < 0 ∨ i > xs.length) ∨
    ∃ i : Int, index = .int i ∧ 0 ≤ i ∧ i ≤ xs.length ∧
      (b.pushAt index args).2 = (if (specPushAt xs i.toNat args).2 then .ok else .err) ∧
      (b.pushAt index args).1.Abs (specPushAt xs i.toNat args).1 := by
  unfold Buf.pushAt
  have hce := h.count_eq
  cases hg : getInteger index with
  | none =>
    left
    refine ⟨rfl, ?_⟩
    intro i hi; rw [hi] at hg; simp [getInteger] at hg
  | some i =>
    have hidx := arg_of_getInteger hg
    simp only []
    by_cases c : i < 0 ∨ i > (b.count : Int)
    · left
      rw [if_pos c]
      refine ⟨rfl, ?_⟩
      intro j hj; rw [hidx] at hj; cases hj; omega
    · right
      rw [if_neg c]
      refine ⟨i, hidx, by omega, by omega, ?_⟩
      have hT := h.truncate i.toNat (by omega)
      have hP := Buf.pushImpl_absT args _ _ _ hT
      have hl : (xs.take i.toNat).length ≤ (specPush (xs.take i.toNat) args).1.length :=
        specPushG_len BArg.items args (xs.take i.toNat)
      have hlt : (xs.take i.toNat).length = i.toNat := by simp; omega
      obtain ⟨ho, hA'⟩ := hP
      have e : (xs.drop i.toNat).drop ((specPush (xs.take i.toNat) args).1.length - (xs.take i.toNat).length) =
          xs.drop (specPush (xs.take i.toNat) args).1.length := by
        rw [List.drop_drop]; congr 1; omega
      rw [e] at hA'
      rw [hlt] at hl
      unfold specPushAt
      generalize hS : specPush (xs.take i.toNat) args = S at ho hA' hl ⊢
      obtain ⟨s1, s2⟩ := S
      simp only [] at ho hA' hl ⊢
      rw [ho]
      cases s2 with
      | false =>
        simp only [Bool.false_eq_true, false_and, if_false]
        exact ⟨trivial, hA'.toAbs⟩
      | true =>
        simp only [true_and, if_true]
        have hcnt := hA'.count_eq
        by_cases cl : s1.length < xs.length
        · have cl' : (Buf.pushImpl { b with count := i.toNat } args).1.count < b.count := by omega
          rw [if_pos cl', if_pos cl]
          refine ⟨rfl, ⟨?_, hA'.rep, hA'.cap, hA'.fits, hA'.pos⟩⟩
          simp; omega
        · have cl' : ¬ (Buf.pushImpl { b with count := i.toNat } args).1.count < b.count := by omega
          rw [if_neg cl', if_neg cl]
          exact ⟨rfl, hA'.toAbs⟩


/-- **`janet_put` on a buffer**: an ill-typed / negative / too large key or a value that is not a 32-bit integer raises
the error with the buffer untouched; a key past the end first extends the buffer with zero bytes -/
theorem Buf.put_abs {b : Buf} {xs : List Nat} (h : b.Abs xs) (key value : Arg) :
    (b.put key value = (b, .err)) ∨
    ∃ i v : Int, key = .int i ∧ value = .int v ∧ 0 ≤ i ∧ i < i32max - 1 ∧ (b.put key value).2 = .ok ∧
      (b.put key value).1.Abs
        ((if i ≥ xs.length then xs ++ List.replicate (i.toNat + 1 - xs.length) 0 else xs).set i.toNat (lowByte v)) := by
  unfold Buf.put
  cases hc : getterCheckint key (i32max - 1) with
  | none => exact Or.inl rfl
  | some i =>
    simp only []
    cases hv : getInteger value with
    | none => exact Or.inl rfl
    | some v =>
      obtain ⟨hkey, hi0, hi1⟩ := checkint_some hc
      refine Or.inr ⟨i, v, hkey, arg_of_getInteger hv, hi0, hi1, ?_⟩
      simp only []
      rw [h.count_eq]
      by_cases c : i ≥ (xs.length : Int)
      · have hs := Buf.setcount_abs h (i + 1) (by have := i32max_eq; omega)
        rw [if_neg (by omega), if_pos (by omega), show (i + 1).toNat = i.toNat + 1 by omega] at hs
        rw [if_pos c, if_pos c, hs.1]
        exact ⟨rfl, hs.2.set _ (by rw [List.length_append, List.length_replicate]; omega)⟩
      · rw [if_neg c, if_neg c]
        exact ⟨rfl, h.set _ (by omega)⟩

/-- **`janet_putindex` on a buffer** (gap-filling source shape): in range it overwrites, past the end it extends with
zero bytes up to the index; a value that is not a 32-bit integer raises the error with the buffer untouched -/
theorem Buf.putindex_abs {b : Buf} {xs : List Nat} (h : b.Abs xs) (index : Int) (value : Arg)
    (h0 : 0 ≤ index) (h1 : index < i32max) :
    (b.putindex index value = (b, .err) ∧ getInteger value = none) ∨
    ∃ v : Int, value = .int v ∧ (b.putindex index value).2 = .ok ∧
      (b.putindex index value).1.Abs (if index ≥ xs.length then xs ++ List.replicate (index.toNat - xs.length) 0 ++ [lowByte v]
                                       else xs.set index.toNat (lowByte v)) := by
  have hce := h.count_eq
  unfold Buf.putindex Buf.putindexWith
  cases hv : getInteger value with
  | none => exact Or.inl ⟨rfl, rfl⟩
  | some v =>
    refine Or.inr ⟨v, arg_of_getInteger hv, ?_⟩
    simp only [putindexFillsBufferGap, ↓reduceIte]
    rw [if_neg (by omega), ← hce]
    by_cases c : index ≥ (b.count : Int)
    · obtain ⟨b', he, hb', hcc, _⟩ := Buf.ensure_abs h (index + 1) putindexGrowth growth_facts.2.2.2.2 (by omega)
      rw [if_pos c, if_pos c, if_neg (by omega), he, ← List.map_replicate]
      have hl : (xs ++ List.replicate (index.toNat - b.count) 0).length = index.toNat := by
        rw [List.length_append, List.length_replicate]; omega
      have hfill := hb'.append (List.replicate (index.toNat - b.count) 0) (n := index.toNat) hce
        (by rw [List.length_replicate]; omega) (by omega)
      exact ⟨rfl, hfill.append [lowByte v] hl.symm (by rw [hl]; rfl)
        (show ((index.toNat + 1 : Nat) : Int) ≤ b'.capacity by omega)⟩
    · rw [if_neg c, if_neg c]
      exact ⟨rfl, h.set _ (by omega)⟩


theorem trim_facts : (0 : Int) < bufferTrimMin ∧ bufferTrimMin ≤ i32max := by decide

/-- **buffer/trim**: contents kept, capacity becomes `max count bufferTrimMin` (never below the count) -/
theorem Buf.trim_abs {b : Buf} {xs : List Nat} (h : b.Abs xs) :
    (b.trim).2 = .ok ∧ (b.trim).1.Abs xs ∧
      (b.trim).1.capacity = (if (b.count : Int) < b.capacity then max (b.count : Int) bufferTrimMin else b.capacity) := by
  unfold Buf.trim
  have hce := h.count_eq
  have hf := trim_facts
  have hfit := h.fits
  by_cases h1 : (b.count : Int) < b.capacity
  · rw [if_pos h1, if_pos h1]
    simp only []
    generalize hnc : (if (b.count : Int) > bufferTrimMin then b.count else bufferTrimMin.toNat) = nc
    have hnc1 : (nc : Int) = max (b.count : Int) bufferTrimMin := by rw [← hnc]; split <;> omega
    exact ⟨trivial, (h.toT.realloc nc (by rw [List.append_nil]; omega) (by omega) (by omega)).toAbs, hnc1⟩
  · rw [if_neg h1, if_neg h1]; exact ⟨rfl, h, rfl⟩

theorem Buf.clear_abs {b : Buf} {xs : List Nat} (h : b.Abs xs) : (b.clear).2 = .ok ∧ (b.clear).1.Abs [] :=
  ⟨rfl, ⟨rfl, rep_nil _, h.cap, h.fits, h.pos⟩⟩

/-- a fresh buffer of capacity ≥ `ys.length` filled with `ys` from cell 0 -/
theorem Buf.new_filled_with (c : Int) (hc : c ≤ i32max) (ys : List Nat) (hy : (ys.length : Int) ≤ max c 0) :
    Buf.Abs { Buf.new c with cells := writeAt (Buf.new c).cells 0 (ys.map some), count := ys.length } ys := by
  have hcap := Buf.new_cap c
  exact (Buf.new_abs c hc).append ys rfl (Nat.zero_add _).symm (by omega)

/-- **buffer/new-filled**: ill-typed arguments raise; a negative count gives the empty buffer -/
theorem Buf.newFilled_abs (count : Arg) (byte : Option Arg) (hc : ∀ n, count = .int n → n ≤ i32max) :
    (Buf.newFilled count byte = none ∧ (getInteger count = none ∨ byteArg byte = none)) ∨
    ∃ n v r, count = .int n ∧ byteArg byte = some v ∧ Buf.newFilled count byte = some r ∧
      r.Abs (List.replicate (max n 0).toNat v) := by
  unfold Buf.newFilled
  cases hg : getInteger count with
  | none => left; exact ⟨rfl, Or.inl rfl⟩
  | some n =>
    have hcnt := arg_of_getInteger hg
    have hn := hc n hcnt
    simp only []
    cases hb : byteArg byte with
    | none => left; exact ⟨rfl, Or.inr rfl⟩
    | some v =>
      right
      refine ⟨n, v, _, hcnt, rfl, rfl, ?_⟩
      have e : (if n < 0 then 0 else n) = max n 0 := by
        by_cases c : n < 0
        · rw [if_pos c]; omega
        · rw [if_neg c]; omega
      rw [e]
      have := Buf.new_filled_with (max n 0) (by have := i32max_eq; omega) (List.replicate (max n 0).toNat v) (by simp)
      simpa using this

theorem getIntegers_length : ∀ (args : List Arg) (ns : List Int), getIntegers args = some ns → ns.length = args.length := by
  intro args
  induction args with
  | nil => intro ns h; simp [getIntegers] at h; subst h; rfl
  | cons a rest ih =>
    intro ns h
    unfold getIntegers at h
    cases ha : getInteger a with
    | none => rw [ha] at h; simp at h
    | some n =>
      cases hr : getIntegers rest with
      | none => rw [ha, hr] at h; simp at h
      | some ms =>
        rw [ha, hr] at h
        simp only [Option.some.injEq] at h
        rw [← h]
        simp [ih ms hr]

theorem Buf.fromBytes_abs (args : List Arg) (hl : (args.length : Int) ≤ i32max) :
    (Buf.fromBytes args = none ∧ getIntegers args = none) ∨
    ∃ ns r, getIntegers args = some ns ∧ ns.length = args.length ∧ Buf.fromBytes args = some r ∧ r.Abs (ns.map lowByte) := by
  unfold Buf.fromBytes
  cases hm : getIntegers args with
  | none => left; exact ⟨rfl, rfl⟩
  | some ns =>
    right
    have hlen : ns.length = args.length := getIntegers_length args ns hm
    refine ⟨ns, _, rfl, hlen, rfl, ?_⟩
    have := Buf.new_filled_with (ns.length : Int) (by omega) (ns.map lowByte) (by simp)
    simpa using this

/-- **buffer/slice** on a byte view holding `xs`: a fresh buffer with `xs[start, end)`, or the error -/
theorem bsliceOf_abs (xs : List Nat) (hx : (xs.length : Int) ≤ i32max) (s e : Option Arg) :
    (bsliceOf (xs.map some) s e = none ∧ getSlice xs.length s e = none) ∨
    ∃ st en r, getSlice xs.length s e = some (st, en) ∧ 0 ≤ st ∧ st ≤ en ∧ en ≤ xs.length ∧
      bsliceOf (xs.map some) s e = some r ∧ r.Abs ((xs.drop st.toNat).take (en - st).toNat) := by
  unfold bsliceOf
  simp only [List.length_map]
  cases hg : getSlice xs.length s e with
  | none => left; exact ⟨rfl, rfl⟩
  | some p =>
    obtain ⟨st, en⟩ := p
    right
    have hb := slice_bounds xs.length (by omega) s e st en hg
    refine ⟨st, en, _, rfl, hb.1, hb.2.1, hb.2.2, rfl, ?_⟩
    rw [← List.map_drop, ← List.map_take]
    have hlen : ((xs.drop st.toNat).take (en - st).toNat).length = (en - st).toNat := by simp; omega
    have := Buf.new_filled_with (en - st) (by omega) ((xs.drop st.toNat).take (en - st).toNat) (by rw [hlen]; omega)
    rw [hlen] at this
    exact this


/-- **no out-of-range copy**: whatever the three range arguments are (negative, huge, ill-typed, absent), the decoded
source range lies inside the source and the destination offset inside `[0, count]` -/
theorem blitDecode_bounds (dlen slen : Int) (hd : 0 ≤ dlen) (hs : 0 ≤ slen) (ds ss : Option Arg) (argc4 : Bool)
    (se : Option Arg) (od os ls : Int) (h : blitDecode dlen slen ds ss argc4 se = some (od, os, ls)) :
    0 ≤ od ∧ od ≤ dlen ∧ 0 ≤ os ∧ 0 ≤ ls ∧ os + ls ≤ slen := by
  unfold blitDecode at h
  cases h1 : optHalf ds dlen 0 with
  | none => rw [h1] at h; cases h
  | some od' =>
    rw [h1] at h
    simp only [] at h
    have b1 := optHalf_bounds ds dlen 0 od' ⟨Int.le_refl 0, hd⟩ h1
    cases h2 : optHalf ss slen 0 with
    | none => rw [h2] at h; cases h
    | some os' =>
      rw [h2] at h
      simp only [] at h
      have b2 := optHalf_bounds ss slen 0 os' ⟨Int.le_refl 0, hs⟩ h2
      cases argc4 with
      | false =>
        simp only [Bool.false_eq_true, if_false, Option.some.injEq, Prod.mk.injEq] at h
        obtain ⟨e1, e2, e3⟩ := h
        omega
      | true =>
        simp only [if_true] at h
        cases h3 : optHalf se slen slen with
        | none => rw [h3] at h; cases h
        | some e' =>
          rw [h3] at h
          simp only [Option.some.injEq, Prod.mk.injEq] at h
          have b3 := optHalf_bounds se slen slen e' ⟨hs, Int.le_refl _⟩ h3
          obtain ⟨e1, e2, e3⟩ := h
          by_cases c : e' - os' < 0
          · rw [if_pos c] at e3; omega
          · rw [if_neg c] at e3; omega

theorem Buf.blit_eq {d : Buf} {xs : List Nat} (h : d.Abs xs) (src : Option (List Nat)) (ds ss : Option Arg) (argc4 : Bool)
    (se : Option Arg) :
    d.blit (src.map (·.map some)) ds ss argc4 se =
      match blitDecode xs.length (src.getD xs).length ds ss argc4 se with
      | none => (d, .err)
      | some (od, os, ls) => d.blitCore (src.map (·.map some)) (src.getD xs).length od os ls := by
  unfold Buf.blit
  cases src with
  | none => simp only [Option.map_none, Option.getD_none, h.items, List.length_map, h.count_eq]; rfl
  | some ys => simp only [Option.map_some, Option.getD_some, List.length_map, h.count_eq]; rfl

/-- **buffer/blit, complete** (`src = none`: the destination itself, memmove; `src = some ys`: another byte sequence):
a panic while decoding the ranges or "buffer blit out of range" leaves the buffer untouched; otherwise the decoded
chunk of the source overwrites the destination from the decoded offset on, extending it when it reaches past the end -/
theorem Buf.blit_abs {d : Buf} {xs : List Nat} (h : d.Abs xs) (src : Option (List Nat)) (ds ss : Option Arg) (argc4 : Bool)
    (se : Option Arg) :
    (d.blit (src.map (·.map some)) ds ss argc4 se = (d, .err)) ∨
    ∃ od os ls : Int, blitDecode xs.length (src.getD xs).length ds ss argc4 se = some (od, os, ls) ∧
      0 ≤ od ∧ od ≤ xs.length ∧ 0 ≤ os ∧ 0 ≤ ls ∧ os + ls ≤ (src.getD xs).length ∧ od + ls ≤ i32max ∧
      (d.blit (src.map (·.map some)) ds ss argc4 se).2 = .ok ∧
      (d.blit (src.map (·.map some)) ds ss argc4 se).1.Abs
        (xs.take od.toNat ++ ((src.getD xs).drop os.toNat).take ls.toNat ++
          xs.drop (od.toNat + (((src.getD xs).drop os.toNat).take ls.toNat).length)) := by
  rw [Buf.blit_eq h]
  cases hdec : blitDecode xs.length (src.getD xs).length ds ss argc4 se with
  | none => exact Or.inl rfl
  | some p =>
    obtain ⟨od, os, ls⟩ := p
    have hb := blitDecode_bounds xs.length (src.getD xs).length (by omega) (by omega) ds ss argc4 se od os ls hdec
    rcases Buf.blitCore_abs h src od os ls ⟨hb.1, hb.2.1⟩ hb.2.2.1 hb.2.2.2.1 hb.2.2.2.2 with ⟨_, he⟩ | ⟨hfit, hok, hA⟩
    · exact Or.inl he
    · exact Or.inr ⟨od, os, ls, rfl, hb.1, hb.2.1, hb.2.2.1, hb.2.2.2.1, hb.2.2.2.2, hfit, hok, hA⟩


/-- **in-range proof for the bit functions**: an accepted bit index addresses a byte below `count` -/
theorem Buf.bitloc_bounds (b : Buf) (x : BitArg) (i bit : Nat) (h : b.bitloc x = some (i, bit)) :
    i < b.count ∧ bit < 8 ∧ ∃ n : Int, x = .idx n ∧ 0 ≤ n ∧ n = 8 * (i : Int) + bit := by
  unfold Buf.bitloc at h
  cases x with
  | bad => cases h
  | idx n =>
    simp only [] at h
    by_cases c : n < 0 ∨ n / 8 ≥ (b.count : Int)
    · rw [if_pos c] at h; cases h
    · rw [if_neg c] at h
      simp only [Option.some.injEq, Prod.mk.injEq] at h
      obtain ⟨h1, h2⟩ := h
      refine ⟨by omega, by omega, n, rfl, by omega, by omega⟩

theorem Buf.modByte_abs {b : Buf} {xs : List Nat} (h : b.Abs xs) (i : Nat) (f : Nat → Nat) (hi : i < xs.length) :
    (b.modByte i f).Abs (xs.set i (f (xs.getD i 0))) := by
  unfold Buf.modByte
  have hg : b.cells.getD i none = some xs[i] := getD_of_rep h.rep i hi
  rw [hg]
  simp only [Option.map_some]
  have hx : xs.getD i 0 = xs[i] := by simp [List.getD, hi]
  rw [hx]
  exact ⟨by simp [h.count_eq], rep_set_at h.rep _ _ hi, by simpa using h.cap, h.fits, h.pos⟩

/-- **buffer/bit-set / bit-clear / bit-toggle** (`op` is any of the three; `f bit` is what it does to the byte): an
invalid bit index raises the error with the buffer untouched; otherwise exactly one byte below `count` is rewritten -/
theorem Buf.bitOp_abs {b : Buf} {xs : List Nat} (h : b.Abs xs) (x : BitArg) (f : Nat → Nat → Nat)
    {op : Buf → BitArg → Buf × Outcome Nat}
    (hop : op b x = match b.bitloc x with
      | none => (b, .err)
      | some (i, bit) => (b.modByte i (f bit), .ok)) :
    (op b x = (b, .err) ∧ b.bitloc x = none) ∨
    ∃ i bit, b.bitloc x = some (i, bit) ∧ i < xs.length ∧ bit < 8 ∧ (op b x).2 = .ok ∧
      (op b x).1.Abs (xs.set i (f bit (xs.getD i 0))) := by
  rw [hop]
  cases hl : b.bitloc x with
  | none => exact Or.inl ⟨rfl, rfl⟩
  | some p =>
    obtain ⟨i, bit⟩ := p
    have hb := Buf.bitloc_bounds b x i bit hl
    have hi : i < xs.length := by have := h.count_eq; omega
    exact Or.inr ⟨i, bit, rfl, hi, hb.2.1, rfl, Buf.modByte_abs h i _ hi⟩

/-- **buffer/bit**: an error, or the value of the addressed bit of an initialised byte below `count` -/
theorem Buf.bitGet_abs {b : Buf} {xs : List Nat} (h : b.Abs xs) (x : BitArg) :
    (b.bitGet x = .err ∧ b.bitloc x = none) ∨
    ∃ i bit, b.bitloc x = some (i, bit) ∧ i < xs.length ∧ bit < 8 ∧
      b.bitGet x = .num (if xs.getD i 0 &&& (1 <<< bit) ≠ 0 then 1 else 0) := by
  unfold Buf.bitGet
  cases hl : b.bitloc x with
  | none => left; exact ⟨rfl, rfl⟩
  | some p =>
    obtain ⟨i, bit⟩ := p
    have hb := Buf.bitloc_bounds b x i bit hl
    have hi : i < xs.length := by have := h.count_eq; omega
    right
    refine ⟨i, bit, rfl, hi, hb.2.1, ?_⟩
    simp only []
    rw [getD_of_rep h.rep i hi]
    have hx : xs.getD i 0 = xs[i] := by simp [List.getD, hi]
    rw [hx]

end JanetModel.Seq
