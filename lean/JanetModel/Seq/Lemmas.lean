/-
Lemmas about the sequence model (Seq/Model.lean): storage primitives (`realloc`, `writeAt`, `readAt`), the
representation relation `Rep` between the cells of an array / buffer and a `List`, and the array functions of array.c
and value.c against their list-level meaning.
-/
import JanetModel.Seq.Model
namespace JanetModel.Seq
open JanetModel.Gen.Seq

theorem size_writeAt {α : Type} (cells : Array (Option α)) (p : Nat) (xs : List (Option α)) :
    (writeAt cells p xs).size = cells.size := by
  induction xs generalizing cells p with
  | nil => rfl
  | cons x xs ih => rw [writeAt, ih, Array.size_setIfInBounds]

/-- a write of `xs` that fits the storage, cell by cell -/
theorem getElem?_writeAt {α : Type} (cells : Array (Option α)) (p : Nat) (xs : List (Option α)) (i : Nat)
    (hfit : p + xs.length ≤ cells.size) :
    (writeAt cells p xs)[i]? = if p ≤ i ∧ i < p + xs.length then xs[i - p]? else cells[i]? := by
  induction xs generalizing cells p with
  | nil => rw [if_neg (by simp)]; rfl
  | cons x xs ih =>
    rw [writeAt, ih _ _ (by simp at hfit ⊢; omega), Array.getElem?_setIfInBounds]
    simp only [List.length_cons] at hfit ⊢
    by_cases h0 : p = i
    · subst h0
      rw [if_neg (by omega), if_pos rfl, if_pos (by omega), if_pos (by omega), Nat.sub_self]; rfl
    · rw [if_neg h0]
      by_cases h1 : p + 1 ≤ i ∧ i < p + 1 + xs.length
      · rw [if_pos h1, if_pos (by omega), show i - p = (i - (p + 1)) + 1 by omega, List.getElem?_cons_succ]
      · rw [if_neg h1, if_neg (by omega)]

theorem size_realloc {α : Type} (cells : Array (Option α)) (n : Nat) : (realloc cells n).size = n := by
  unfold realloc
  split <;> simp <;> omega

theorem getElem?_realloc {α : Type} (cells : Array (Option α)) (n i : Nat) (hi : i < n) (hc : i < cells.size) :
    (realloc cells n)[i]? = cells[i]? := by
  unfold realloc
  split
  · rw [Array.getElem?_extract, if_pos (by omega), Nat.zero_add]
  · rw [Array.getElem?_append_left hc]


/-- the first `xs.length` cells hold exactly `xs` (all initialised) -/
def Rep {α : Type} (cells : Array (Option α)) (xs : List α) : Prop :=
  ∀ i, i < xs.length → cells[i]? = some (xs[i]?)

theorem Rep.len_le {α : Type} {cells : Array (Option α)} {xs : List α} (r : Rep cells xs) : xs.length ≤ cells.size := by
  apply Decidable.byContradiction
  intro c
  have := r cells.size (by omega)
  simp at this

theorem rep_nil {α : Type} (cells : Array (Option α)) : Rep cells ([] : List α) := fun i h => by simp at h

theorem rep_prefix {α : Type} {cells : Array (Option α)} {xs ys : List α} (r : Rep cells (xs ++ ys)) : Rep cells xs := by
  intro i h
  rw [r i (by simp; omega), List.getElem?_append_left h]

theorem rep_take {α : Type} {cells : Array (Option α)} {xs : List α} (r : Rep cells xs) (n : Nat) : Rep cells (xs.take n) :=
  rep_prefix (ys := xs.drop n) (by rwa [List.take_append_drop])

theorem rep_realloc {α : Type} {cells : Array (Option α)} {xs : List α} (r : Rep cells xs) (n : Nat)
    (hn : xs.length ≤ n) : Rep (realloc cells n) xs := by
  intro i h
  have := r.len_le
  rw [getElem?_realloc _ _ _ (by omega) (by omega)]
  exact r i h

theorem rep_toArray_map {α : Type} (xs : List α) : Rep (xs.map some).toArray xs := by
  intro i h
  simp [h]

theorem getD_of_rep {α : Type} {cells : Array (Option α)} {xs : List α} (r : Rep cells xs) (i : Nat) (h : i < xs.length) :
    cells.getD i none = some xs[i] := by
  rw [Array.getD_eq_getD_getElem?, r i h]; simp [h]

theorem readAt_length {α : Type} (cells : Array (Option α)) (p n : Nat) : (readAt cells p n).length = n := by
  simp [readAt]

theorem readAt_of_rep {α : Type} {cells : Array (Option α)} {xs : List α} (r : Rep cells xs) (p n : Nat)
    (hpn : p + n ≤ xs.length) : readAt cells p n = ((xs.drop p).take n).map some := by
  apply List.ext_getElem
  · simp [readAt]; omega
  · intro i h1 h2
    rw [readAt_length] at h1
    simp only [readAt, List.getElem_map, List.getElem_range', Nat.one_mul, List.getElem_take, List.getElem_drop]
    exact getD_of_rep r (p + i) (by omega)


theorem getElem?_append3 {α : Type} (a b c : List α) (i : Nat) :
    (a ++ b ++ c)[i]? = if i < a.length then a[i]? else if i < a.length + b.length then b[i - a.length]?
      else c[i - (a.length + b.length)]? := by
  by_cases h1 : i < a.length
  · rw [if_pos h1, List.append_assoc, List.getElem?_append_left h1]
  · rw [if_neg h1]
    by_cases h2 : i < a.length + b.length
    · rw [if_pos h2, List.append_assoc, List.getElem?_append_right (by omega), List.getElem?_append_left (by omega)]
    · rw [if_neg h2, List.getElem?_append_right (by simp; omega), List.length_append]

/-- memcpy of `ys` over the represented list at offset `p` -/
theorem rep_write_over {α : Type} {cells : Array (Option α)} {xs : List α} (r : Rep cells xs) (p : Nat) (ys : List α)
    (hp : p ≤ xs.length) (hl : p + ys.length ≤ cells.size) :
    Rep (writeAt cells p (ys.map some)) (xs.take p ++ ys ++ xs.drop (p + ys.length)) := by
  intro i h
  have hlen : (xs.take p).length = p := by rw [List.length_take]; omega
  rw [List.length_append, List.length_append, List.length_drop, hlen] at h
  rw [getElem?_writeAt _ _ _ _ (by rwa [List.length_map]), getElem?_append3, hlen, List.length_map]
  by_cases h1 : i < p
  · rw [if_neg (by omega), if_pos h1, List.getElem?_take_of_lt h1]
    exact r i (by omega)
  · rw [if_neg h1]
    by_cases h2 : i < p + ys.length
    · rw [if_pos ⟨by omega, h2⟩, if_pos h2, List.getElem?_map, List.getElem?_eq_getElem (show i - p < ys.length by omega)]
      rfl
    · rw [if_neg (by omega), if_neg h2, List.getElem?_drop, show p + ys.length + (i - (p + ys.length)) = i by omega]
      exact r i (by omega)

/-- memcpy of `ys` right after the represented prefix -/
theorem rep_write_append {α : Type} {cells : Array (Option α)} {xs : List α} (r : Rep cells xs) (ys : List α)
    (hl : xs.length + ys.length ≤ cells.size) : Rep (writeAt cells xs.length (ys.map some)) (xs ++ ys) := by
  have := rep_prefix (rep_write_over r xs.length ys (Nat.le_refl _) hl)
  rwa [List.take_length] at this

theorem rep_set_at {α : Type} {cells : Array (Option α)} {xs : List α} (r : Rep cells xs) (i : Nat) (v : α)
    (hi : i < xs.length) : Rep (cells.setIfInBounds i (some v)) (xs.set i v) := by
  have := rep_write_over r i [v] (by omega) (by have := r.len_le; simp; omega)
  rw [List.set_eq_take_append_cons_drop, if_pos hi]
  simpa [writeAt] using this

/-- memmove of the tail `xs[p+m ..]` down to `p` (array/remove) -/
theorem rep_remove {α : Type} {cells : Array (Option α)} {xs : List α} (r : Rep cells xs) (p m : Nat)
    (h : p + m ≤ xs.length) :
    Rep (writeAt cells p (readAt cells (p + m) (xs.length - p - m))) (xs.take p ++ xs.drop (p + m)) := by
  have hl := r.len_le
  rw [readAt_of_rep r _ _ (by omega), List.take_of_length_le (by rw [List.length_drop]; omega)]
  exact rep_prefix (rep_write_over r p (xs.drop (p + m)) (by omega) (by rw [List.length_drop]; omega))

/-- a cell below a written block is untouched by it -/
theorem writeAt_set_comm {α : Type} (ts : List (Option α)) : ∀ (cells : Array (Option α)) (p q : Nat) (y : Option α), p < q →
    writeAt (cells.setIfInBounds p y) q ts = (writeAt cells q ts).setIfInBounds p y := by
  induction ts with
  | nil => intro cells p q y _; rfl
  | cons t ts ih =>
    intro cells p q y h
    rw [writeAt, writeAt, Array.setIfInBounds_comm _ _ (by omega), ih _ _ _ _ (by omega)]

/-- a block written to the right of where `ys` goes, then `ys`: one write of both -/
theorem writeAt_writeAt {α : Type} (ys ts : List (Option α)) : ∀ (cells : Array (Option α)) (p : Nat),
    writeAt (writeAt cells (p + ys.length) ts) p ys = writeAt cells p (ys ++ ts) := by
  induction ys with
  | nil => intro cells p; rfl
  | cons y ys ih =>
    intro cells p
    rw [List.cons_append, writeAt, writeAt, ← ih, List.length_cons, show p + (ys.length + 1) = p + 1 + ys.length by omega,
      writeAt_set_comm ts _ _ _ _ (by omega)]

/-- memmove of the tail `xs[p ..]` up by `ys.length`, then memcpy of `ys` into the gap (array/insert): the storage in
between represents no list, but the two writes are one memcpy of `ys ++ xs[p ..]` at `p` -/
theorem rep_insert {α : Type} {cells : Array (Option α)} {xs : List α} (r : Rep cells xs) (p : Nat) (ys : List α)
    (hp : p ≤ xs.length) (hl : xs.length + ys.length ≤ cells.size) :
    Rep (writeAt (writeAt cells (p + ys.length) (readAt cells p (xs.length - p))) p (ys.map some))
      (xs.take p ++ ys ++ xs.drop p) := by
  rw [readAt_of_rep r _ _ (by omega), List.take_of_length_le (by rw [List.length_drop]; omega),
    ← List.length_map (f := some) (as := ys), writeAt_writeAt, ← List.map_append]
  have := rep_prefix (rep_write_over r p (ys ++ xs.drop p) hp (by rw [List.length_append, List.length_drop]; omega))
  rwa [← List.append_assoc] at this


/-- the array `a` represents the list `xs`; its storage has the size its `capacity` field says -/
structure Arr.Abs (a : Arr) (xs : List Val) : Prop where
  count_eq : a.count = xs.length
  rep : Rep a.cells xs
  cap : a.cells.size = a.capacity.toNat
  /-- the fields fit their C type `int32_t` -/
  fits : a.capacity ≤ i32max

/-- **count ≤ capacity** (whenever there is an element at all; array/new accepts a negative capacity) -/
theorem Arr.Abs.count_le {a : Arr} {xs : List Val} (h : a.Abs xs) : (a.count : Int) ≤ max a.capacity 0 := by
  have := h.rep.len_le
  have h1 := h.cap; have h2 := h.count_eq
  omega

theorem Arr.Abs.items {a : Arr} {xs : List Val} (h : a.Abs xs) : a.items = xs.map some := by
  rw [Arr.items, h.count_eq, readAt_of_rep h.rep 0 _ (by omega), List.drop_zero, List.take_length]

theorem i32max_eq : i32max = 2147483647 := rfl

theorem Arr.Abs.count_fits {a : Arr} {xs : List Val} (h : a.Abs xs) : (a.count : Int) ≤ i32max := by
  have := h.count_le; have := h.fits; have := i32max_eq; omega

theorem Arr.new_abs (c : Int) (hc : c ≤ i32max) : (Arr.new c).Abs [] :=
  ⟨rfl, rep_nil _, by simp [Arr.new], hc⟩

/-- the new capacity `janet_array_ensure` / `janet_buffer_ensure` compute: `capacity * growth`, clamped to INT32_MAX -/
theorem grown_bounds {c g : Int} (hg : 1 ≤ g) (hc0 : 0 ≤ c) (hc : c ≤ i32max) :
    c ≤ (if c * g > i32max then i32max else c * g) ∧ (if c * g > i32max then i32max else c * g) ≤ i32max := by
  have : c * 1 ≤ c * g := Int.mul_le_mul_of_nonneg_left hg hc0
  split <;> omega

theorem Arr.Abs.realloc {a : Arr} {xs : List Val} (h : a.Abs xs) (nc : Int) (nl : Bool) (hlo : (a.count : Int) ≤ nc)
    (hhi : nc ≤ i32max) : Arr.Abs { a with capacity := nc, cells := Seq.realloc a.cells nc.toNat, isNull := nl } xs :=
  ⟨h.count_eq, rep_realloc h.rep _ (by have := h.count_eq; omega), size_realloc _ _, hhi⟩

/-- `janet_array_ensure` with a growth factor ≥ 1 and a requested capacity that fits `int32_t`: no out-of-memory,
the contents are kept, the capacity is at least what was asked for and still fits -/
theorem Arr.ensure_abs {a : Arr} {xs : List Val} (h : a.Abs xs) (c g : Int) (hg : 1 ≤ g) (hc0 : 0 ≤ c) (hc : c ≤ i32max) :
    ∃ a', a.ensure c g = some a' ∧ a'.Abs xs ∧ c ≤ a'.capacity ∧ a'.count = a.count := by
  unfold Arr.ensure
  by_cases h1 : c ≤ a.capacity
  · exact ⟨a, if_pos h1, h, h1, rfl⟩
  · have hnc := grown_bounds hg hc0 hc
    have hle := h.count_le; have hcap := h.cap
    rw [if_neg h1]
    simp only []
    generalize (if c * g > i32max then i32max else c * g) = nc at hnc
    rw [if_neg (by omega)]
    exact ⟨_, rfl, h.realloc nc false (by omega) hnc.2, hnc.1, rfl⟩


theorem growth_facts : (1 : Int) ≤ arrayPushGrowth ∧ (1 : Int) ≤ arraySetcountGrowth ∧ (1 : Int) ≤ arrayInsertGrowth ∧
    (1 : Int) ≤ arrayCfunPushGrowth ∧ (1 : Int) ≤ putindexGrowth := by decide

/-- memcpy of `ys` at `count` (`p`); `n` is the new count -/
theorem Arr.Abs.append {a : Arr} {xs : List Val} (h : a.Abs xs) (ys : List Val) {p n : Nat} (hp : p = xs.length)
    (hn : n = xs.length + ys.length) (hroom : (n : Int) ≤ a.capacity) :
    Arr.Abs { a with cells := writeAt a.cells p (ys.map some), count := n } (xs ++ ys) :=
  ⟨by rw [hn, List.length_append], hp ▸ rep_write_append h.rep ys (by have := h.cap; omega),
    by rw [size_writeAt]; exact h.cap, h.fits⟩

theorem Arr.Abs.push {a : Arr} {xs : List Val} (h : a.Abs xs) (x : Val) {p n : Nat} (hp : p = xs.length)
    (hn : n = xs.length + 1) (hroom : (n : Int) ≤ a.capacity) :
    Arr.Abs { a with cells := a.cells.setIfInBounds p (some x), count := n } (xs ++ [x]) :=
  h.append [x] hp hn hroom

theorem Arr.Abs.take {a : Arr} {xs : List Val} (h : a.Abs xs) {n : Nat} (hn : n ≤ xs.length) :
    Arr.Abs { a with count := n } (xs.take n) :=
  ⟨show n = _ by rw [List.length_take]; omega, rep_take h.rep n, h.cap, h.fits⟩

theorem Arr.Abs.set {a : Arr} {xs : List Val} (h : a.Abs xs) {i : Nat} (v : Val) (hi : i < xs.length) :
    Arr.Abs { a with cells := a.cells.setIfInBounds i (some v) } (xs.set i v) :=
  ⟨by rw [List.length_set]; exact h.count_eq, rep_set_at h.rep i v hi, by rw [Array.size_setIfInBounds]; exact h.cap, h.fits⟩

/-- `janet_array_push`: appends, or raises the error when the count is INT32_MAX; never out of memory -/
theorem Arr.push_abs {a : Arr} {xs : List Val} (h : a.Abs xs) (x : Val) :
    ((a.count : Int) = i32max ∧ a.push x = (a, .err)) ∨
    ((a.count : Int) < i32max ∧ (a.push x).2 = .ok ∧ (a.push x).1.Abs (xs ++ [x])) := by
  unfold Arr.push
  by_cases h1 : (a.count : Int) = i32max
  · exact Or.inl ⟨h1, if_pos h1⟩
  · have hlt : (a.count : Int) < i32max := by have := h.count_fits; omega
    obtain ⟨a', he, ha', hc, _⟩ := Arr.ensure_abs h (a.count + 1) arrayPushGrowth growth_facts.1 (by omega) (by omega)
    rw [if_neg h1, he]
    exact Or.inr ⟨hlt, rfl, ha'.push x h.count_eq (by rw [h.count_eq]) hc⟩

/-- `janet_array_pop`: removes and returns the last element (nil on an empty array) -/
theorem Arr.pop_abs {a : Arr} {xs : List Val} (h : a.Abs xs) :
    (a.pop).1.Abs xs.dropLast ∧ (a.pop).2 = .val (some (xs.getLast?.getD vNil)) := by
  have hce := h.count_eq
  unfold Arr.pop
  by_cases h0 : a.count ≠ 0
  · rw [if_pos h0, List.dropLast_eq_take, List.getLast?_eq_getElem?, hce,
      getD_of_rep h.rep (xs.length - 1) (by omega), List.getElem?_eq_getElem (by omega)]
    exact ⟨h.take (by omega), rfl⟩
  · have hx : xs = [] := List.length_eq_zero_iff.mp (by omega)
    subst hx
    rw [if_neg h0]
    exact ⟨h, rfl⟩


/-- `janet_array_peek`: the array is untouched, the value is what `pop` would return -/
theorem Arr.peek_eq (a : Arr) : a.peek = (a, (a.pop).2) := by
  unfold Arr.peek Arr.pop
  split <;> rfl

theorem Arr.peek_abs {a : Arr} {xs : List Val} (h : a.Abs xs) :
    (a.peek).1 = a ∧ (a.peek).2 = .val (some (xs.getLast?.getD vNil)) := by
  rw [Arr.peek_eq]
  exact ⟨rfl, (Arr.pop_abs h).2⟩

/-- `cfun_array_push`: appends all values or raises "array overflow" -/
theorem Arr.cfunPush_abs {a : Arr} {xs : List Val} (h : a.Abs xs) (ys : List Val) :
    ((a.cfunPush ys) = (a, .err) ∧ (xs.length + ys.length : Int) ≥ i32max) ∨
    ((a.cfunPush ys).2 = .ok ∧ (a.cfunPush ys).1.Abs (xs ++ ys)) := by
  have hce := h.count_eq
  unfold Arr.cfunPush
  by_cases h1 : i32max - ((ys.length : Int) + 1) + 1 ≤ (a.count : Int)
  · exact Or.inl ⟨if_pos h1, by omega⟩
  · obtain ⟨a', he, ha', hc, _⟩ := Arr.ensure_abs h ((a.count : Int) - 1 + ((ys.length : Int) + 1)) arrayCfunPushGrowth
      growth_facts.2.2.2.1 (by omega) (by omega)
    rw [if_neg h1]
    simp only []
    rw [he]
    exact Or.inr ⟨rfl, ha'.append ys hce (by omega) (by omega)⟩

/-- `janet_array_setcount`: truncates, or extends with nil -/
theorem Arr.setcount_abs {a : Arr} {xs : List Val} (h : a.Abs xs) (c : Int) (hc : c ≤ i32max) :
    (a.setcount c).2 = .ok ∧
    (a.setcount c).1.Abs (if c < 0 then xs else if c > xs.length then xs ++ List.replicate (c.toNat - xs.length) vNil else xs.take c.toNat) := by
  unfold Arr.setcount
  rw [h.count_eq]
  by_cases h0 : c < 0
  · rw [if_pos h0, if_pos h0]; exact ⟨rfl, h⟩
  · rw [if_neg h0, if_neg h0]
    by_cases h1 : c > (xs.length : Int)
    · obtain ⟨a', he, ha', hcc, _⟩ := Arr.ensure_abs h c arraySetcountGrowth growth_facts.2.1 (by omega) hc
      rw [if_pos h1, if_pos h1, he, ← List.map_replicate]
      exact ⟨rfl, ha'.append _ rfl (by rw [List.length_replicate]; omega) (by omega)⟩
    · rw [if_neg h1, if_neg h1]
      exact ⟨rfl, h.take (by omega)⟩

/-- memset of the first `n` cells -/
theorem rep_fill {α : Type} (cells : Array (Option α)) (n : Nat) (v : α) (hn : n ≤ cells.size) :
    Rep (writeAt cells 0 (List.replicate n (some v))) (List.replicate n v) := by
  have := rep_write_append (rep_nil cells) (List.replicate n v) (by simpa using hn)
  simpa using this

/-- `cfun_array_fill` -/
theorem Arr.fill_abs {a : Arr} {xs : List Val} (h : a.Abs xs) (v : Val) :
    (a.fill v).2 = .ok ∧ (a.fill v).1.Abs (List.replicate xs.length v) := by
  unfold Arr.fill
  rw [h.count_eq]
  exact ⟨rfl, by rw [List.length_replicate], rep_fill _ _ v h.rep.len_le,
    by rw [size_writeAt]; exact h.cap, h.fits⟩

/-- `cfun_array_clear` -/
theorem Arr.clear_abs {a : Arr} {xs : List Val} (h : a.Abs xs) : (a.clear).1.Abs [] :=
  ⟨rfl, rep_nil _, h.cap, h.fits⟩


theorem arg_of_getInteger {a : Arg} {n : Int} (h : getInteger a = some n) : a = .int n := by
  cases a with
  | int m => cases h; rfl
  | nil => cases h
  | bad => cases h

theorem checkint_some {key : Arg} {max i : Int} (hi : getterCheckint key max = some i) :
    key = .int i ∧ 0 ≤ i ∧ i < max := by
  cases key with
  | int n =>
    simp only [getterCheckint] at hi
    split at hi
    · cases hi
    · split at hi
      · cases hi
      · cases hi; exact ⟨rfl, by omega, by omega⟩
  | nil => cases hi
  | bad => cases hi

theorem halfRange_bounds (a : Arg) (length r : Int) (hr : getHalfRange a length = some r) : 0 ≤ r ∧ r ≤ length := by
  unfold getHalfRange at hr
  split at hr
  · cases hr
  · next raw _ =>
    simp only [] at hr
    generalize (if raw < 0 then raw + (length + 1) else raw) = v at hr
    split at hr
    · cases hr
    · cases hr; omega

/-- an optional half-range argument: the default when absent or nil -/
theorem optHalf_bounds (a : Option Arg) (length dflt r : Int) (hd : 0 ≤ dflt ∧ dflt ≤ length)
    (h : optHalf a length dflt = some r) : 0 ≤ r ∧ r ≤ length := by
  unfold optHalf at h
  split at h
  · cases h; exact hd
  · cases h; exact hd
  · exact halfRange_bounds _ _ _ h

theorem slice_bounds (length : Int) (hl : 0 ≤ length) (s e : Option Arg) (st en : Int)
    (h : getSlice length s e = some (st, en)) : 0 ≤ st ∧ st ≤ en ∧ en ≤ length := by
  unfold getSlice at h
  split at h
  · cases h
  · next st' hs =>
    split at h
    · cases h
    · next en' he =>
      have hst := optHalf_bounds s length 0 st' ⟨Int.le_refl 0, hl⟩ hs
      have hen := optHalf_bounds e length length en' ⟨hl, Int.le_refl _⟩ he
      cases h
      split <;> omega


/-- `cfun_array_slice` on a view holding `xs`: a fresh array with `xs[start, end)`, or the error -/
theorem sliceOf_abs (xs : List Val) (hx : (xs.length : Int) ≤ i32max) (s e : Option Arg) :
    (sliceOf (xs.map some) s e = none ∧ getSlice xs.length s e = none) ∨
    ∃ st en r, getSlice xs.length s e = some (st, en) ∧ 0 ≤ st ∧ st ≤ en ∧ en ≤ xs.length ∧
      sliceOf (xs.map some) s e = some r ∧ r.Abs ((xs.drop st.toNat).take (en - st).toNat) := by
  unfold sliceOf
  rw [List.length_map]
  cases hg : getSlice xs.length s e with
  | none => exact Or.inl ⟨rfl, rfl⟩
  | some p =>
    obtain ⟨st, en⟩ := p
    have hb := slice_bounds xs.length (by omega) s e st en hg
    refine Or.inr ⟨st, en, _, rfl, hb.1, hb.2.1, hb.2.2, rfl, ?_, ?_, ?_, by show en - st ≤ i32max; omega⟩
    · show (en - st).toNat = _; rw [List.length_take, List.length_drop]; omega
    · show Rep (((xs.map some).drop st.toNat).take (en - st).toNat).toArray _
      rw [← List.map_drop, ← List.map_take]
      exact rep_toArray_map _
    · show (((xs.map some).drop st.toNat).take (en - st).toNat).length = (en - st).toNat
      rw [List.length_take, List.length_drop, List.length_map]; omega

/-- `cfun_array_insert`: decodes the index (negative = from the end, -1 appends), raises the error when it is out of
`[0, count]` or the new count would not fit, otherwise splices -/
theorem Arr.insert_abs {a : Arr} {xs : List Val} (h : a.Abs xs) (pos : Arg) (ys : List Val) :
    (a.insert pos ys = (a, .err)) ∨
    ∃ n p : Int, pos = .int n ∧ p = (if n < 0 then (xs.length : Int) + n + 1 else n) ∧ 0 ≤ p ∧ p ≤ xs.length ∧
      (a.insert pos ys).2 = .ok ∧ (a.insert pos ys).1.Abs (xs.take p.toNat ++ ys ++ xs.drop p.toNat) := by
  unfold Arr.insert
  rw [h.count_eq]
  cases hg : getInteger pos with
  | none => exact Or.inl rfl
  | some n =>
    simp only []
    generalize hp : (if n < 0 then (xs.length : Int) + n + 1 else n) = p
    by_cases c1 : p < 0 ∨ p > (xs.length : Int)
    · exact Or.inl (if_pos c1)
    · rw [if_neg c1]
      by_cases c2 : i32max - (ys.length : Int) < (xs.length : Int)
      · exact Or.inl (if_pos c2)
      · obtain ⟨a', he, ha', hcc, _⟩ := Arr.ensure_abs h ((xs.length : Int) + ys.length) arrayInsertGrowth
          growth_facts.2.2.1 (by omega) (by omega)
        have hsz := ha'.cap
        rw [if_neg c2, he]
        exact Or.inr ⟨n, p, arg_of_getInteger hg, hp.symm, by omega, by omega, rfl,
          by rw [List.length_append, List.length_append, List.length_take, List.length_drop]; show xs.length + ys.length = _; omega,
          rep_insert ha'.rep p.toNat ys (by omega) (by omega), by rw [size_writeAt, size_writeAt]; exact hsz, ha'.fits⟩

theorem removeCount_nonneg {n : Option Arg} {m0 : Int} (hn : removeCount n = some m0) : 0 ≤ m0 := by
  unfold removeCount at hn
  split at hn
  · cases hn; omega
  · split at hn
    · cases hn
    · split at hn
      · cases hn
      · cases hn; omega

/-- `cfun_array_remove` (clamp shape read off the current source), decoding spelled out: a negative index counts from
the end, the count defaults to 1 and is clamped to what is left; everything else raises the error.  Never undefined. -/
theorem Arr.remove_exact {a : Arr} {xs : List Val} (h : a.Abs xs) (q : Int) (n : Option Arg) :
    let p : Int := if q < 0 then (xs.length : Int) + q else q
    (((p < 0 ∨ p > xs.length) ∨ removeCount n = none) ∧ a.remove (.int q) n = (a, .err)) ∨
    ∃ m0 : Int, 0 ≤ p ∧ p ≤ xs.length ∧ removeCount n = some m0 ∧ 0 ≤ m0 ∧ (a.remove (.int q) n).2 = .ok ∧
      (a.remove (.int q) n).1.Abs (xs.take p.toNat ++ xs.drop (p.toNat + (min m0 ((xs.length : Int) - p)).toNat)) := by
  intro p
  have hp : (if q < 0 then (xs.length : Int) + q else q) = p := rfl
  clear_value p
  unfold Arr.remove Arr.removeWith
  simp only [removeClampNoOverflow, getInteger, h.count_eq, hp]
  by_cases c1 : p < 0 ∨ p > (xs.length : Int)
  · exact Or.inl ⟨Or.inl c1, if_pos c1⟩
  · rw [if_neg c1]
    cases hn : removeCount n with
    | none => exact Or.inl ⟨Or.inr rfl, rfl⟩
    | some m0 =>
      have hm0 := removeCount_nonneg hn
      simp only [Bool.not_true, Bool.false_and, if_true, Bool.false_eq_true, if_false]
      generalize hm : (if m0 > (xs.length : Int) - p then (xs.length : Int) - p else m0) = m
      have hmin : min m0 ((xs.length : Int) - p) = m ∧ 0 ≤ m ∧ p + m ≤ xs.length := by rw [← hm]; split <;> omega
      refine Or.inr ⟨m0, by omega, by omega, rfl, hm0, trivial, ?_⟩
      obtain ⟨p, rfl⟩ := Int.eq_ofNat_of_zero_le (show 0 ≤ p by omega)
      obtain ⟨m, rfl⟩ := Int.eq_ofNat_of_zero_le hmin.2.1
      rw [hmin.1, ← Int.natCast_add, Int.toNat_natCast, Int.toNat_natCast, Int.toNat_natCast]
      exact ⟨show xs.length - m = _ by rw [List.length_append, List.length_take, List.length_drop]; omega,
        rep_remove h.rep p m (by omega), by rw [size_writeAt]; exact h.cap, h.fits⟩


/-- `janet_put` on an array: an ill-typed / negative / too large key raises the error; a key past the end first
extends the array with nil -/
theorem Arr.put_abs {a : Arr} {xs : List Val} (h : a.Abs xs) (key : Arg) (v : Val) :
    (a.put key v = (a, .err)) ∨
    ∃ i : Int, key = .int i ∧ 0 ≤ i ∧ i < i32max - 1 ∧ (a.put key v).2 = .ok ∧
      (a.put key v).1.Abs ((if i ≥ xs.length then xs ++ List.replicate (i.toNat + 1 - xs.length) vNil else xs).set i.toNat v) := by
  unfold Arr.put
  cases hc : getterCheckint key (i32max - 1) with
  | none => exact Or.inl rfl
  | some i =>
    obtain ⟨hkey, hi0, hi1⟩ := checkint_some hc
    refine Or.inr ⟨i, hkey, hi0, hi1, ?_⟩
    simp only []
    rw [h.count_eq]
    by_cases c : i ≥ (xs.length : Int)
    · have hs := Arr.setcount_abs h (i + 1) (by have := i32max_eq; omega)
      rw [if_neg (by omega), if_pos (by omega), show (i + 1).toNat = i.toNat + 1 by omega] at hs
      rw [if_pos c, if_pos c, hs.1]
      exact ⟨rfl, hs.2.set v (by rw [List.length_append, List.length_replicate]; omega)⟩
    · rw [if_neg c, if_neg c]
      exact ⟨rfl, h.set v (by omega)⟩

/-- `janet_putindex` on an array (shape read off the current source: the gap is nil-filled): in range it overwrites,
past the end it extends with nil up to the index -/
theorem Arr.putindex_abs {a : Arr} {xs : List Val} (h : a.Abs xs) (index : Int) (v : Val)
    (h0 : 0 ≤ index) (h1 : index < i32max) :
    (a.putindex index v).2 = .ok ∧
    (a.putindex index v).1.Abs (if index ≥ xs.length then xs ++ List.replicate (index.toNat - xs.length) vNil ++ [v]
                                 else xs.set index.toNat v) := by
  have hce := h.count_eq
  unfold Arr.putindex Arr.putindexWith
  simp only [putindexFillsArrayGap, ↓reduceIte]
  rw [if_neg (by omega), ← hce]
  by_cases c : index ≥ (a.count : Int)
  · obtain ⟨a', he, ha', hcc, _⟩ := Arr.ensure_abs h (index + 1) putindexGrowth growth_facts.2.2.2.2 (by omega) (by omega)
    rw [if_pos c, if_pos c, if_neg (by omega), he, ← List.map_replicate]
    have hl : (xs ++ List.replicate (index.toNat - a.count) vNil).length = index.toNat := by
      rw [List.length_append, List.length_replicate]; omega
    have hfill := ha'.append (List.replicate (index.toNat - a.count) vNil) (n := index.toNat) hce
      (by rw [List.length_replicate]; omega) (by omega)
    exact ⟨rfl, hfill.push v hl.symm (by rw [hl]) (show ((index.toNat + 1 : Nat) : Int) ≤ a'.capacity by omega)⟩
  · rw [if_neg c, if_neg c]
    exact ⟨rfl, h.set v (by omega)⟩


/-- pushing a list of values one by one (the loops of array/concat and array/join) -/
theorem Arr.pushAll_abs (ys : List Val) : ∀ {a : Arr} {xs : List Val}, a.Abs xs →
    (xs.length : Int) + ys.length ≤ i32max →
    (a.pushAll (ys.map some)).2 = .ok ∧ (a.pushAll (ys.map some)).1.Abs (xs ++ ys) := by
  induction ys with
  | nil => intro a xs h _; rw [List.append_nil]; exact ⟨rfl, h⟩
  | cons y rest ih =>
    intro a xs h hb
    have hce := h.count_eq
    rw [List.length_cons] at hb
    obtain ⟨a', he, ha', hc, _⟩ := Arr.ensure_abs h (a.count + 1) arrayPushGrowth growth_facts.1 (by omega) (by omega)
    rw [List.map_cons, Arr.pushAll, if_neg (by omega), he, List.append_cons]
    exact ih (ha'.push y hce (by rw [hce]) hc) (by rw [List.length_append, List.length_singleton]; omega)

/-- parts of array/concat at the list level -/
inductive SPart where
  | one (v : Val)
  | many (ys : List Val)
  | self

def SPart.toPart : SPart → Part
  | .one v => .one v
  | .many ys => .many (ys.map some)
  | .self => .self

/-- what a part contributes when the destination currently holds `acc` -/
def SPart.items (p : SPart) (acc : List Val) : List Val :=
  match p with
  | .one v => [v]
  | .many ys => ys
  | .self => acc

def specConcat (xs : List Val) (ps : List SPart) : List Val :=
  ps.foldl (fun acc p => acc ++ p.items acc) xs

theorem length_le_specConcat (ps : List SPart) : ∀ xs, xs.length ≤ (specConcat xs ps).length := by
  induction ps with
  | nil => intro xs; exact Nat.le_refl _
  | cons p ps ih =>
    intro xs
    have := ih (xs ++ p.items xs)
    rw [List.length_append] at this
    exact Nat.le_trans (Nat.le_add_right _ _) this

/-- `cfun_array_concat`: appends every part in order (an array passed to itself contributes its contents at that
moment), provided the final length fits `int32_t` -/
theorem Arr.concat_abs (ps : List SPart) : ∀ {a : Arr} {xs : List Val}, a.Abs xs →
    ((specConcat xs ps).length : Int) ≤ i32max →
    (a.concat (ps.map SPart.toPart)).2 = .ok ∧ (a.concat (ps.map SPart.toPart)).1.Abs (specConcat xs ps) := by
  induction ps with
  | nil => intro a xs h _; exact ⟨rfl, h⟩
  | cons p rest ih =>
    intro a xs h hb
    have hlen := length_le_specConcat rest (xs ++ p.items xs)
    rw [List.length_append] at hlen
    change ((specConcat (xs ++ p.items xs) rest).length : Int) ≤ i32max at hb
    change _ ∧ Arr.Abs _ (specConcat (xs ++ p.items xs) rest)
    rw [List.map_cons]
    unfold Arr.concat
    cases p with
    | one v =>
      simp only [SPart.toPart, SPart.items] at hlen hb ⊢
      have := Arr.pushAll_abs [v] h (by omega)
      rw [show [some v] = [v].map some from rfl, this.1]
      exact ih this.2 hb
    | many ys =>
      simp only [SPart.toPart, SPart.items] at hlen hb ⊢
      have := Arr.pushAll_abs ys h (by omega)
      rw [this.1]
      exact ih this.2 hb
    | self =>
      simp only [SPart.toPart, SPart.items] at hlen hb ⊢
      have hce := h.count_eq
      obtain ⟨a', he, ha', _, _⟩ := Arr.ensure_abs h ((a.count : Int) + a.count) 2 (by omega) (by omega) (by omega)
      have := Arr.pushAll_abs xs ha' (by omega)
      rw [he, h.items, this.1]
      exact ih this.2 hb

/-- on indexed parts only, array/join is array/concat -/
theorem Arr.join_eq_concat (ps : List Part) (hno : ∀ p ∈ ps, ∀ v, p ≠ .one v) : ∀ a : Arr, a.join ps = a.concat ps := by
  induction ps with
  | nil => intro a; rfl
  | cons p rest ih =>
    intro a
    have ih' := ih (fun q hq => hno q (List.mem_cons_of_mem _ hq))
    unfold Arr.join Arr.concat
    cases p with
    | one v => exact absurd rfl (hno (.one v) List.mem_cons_self v)
    | many vs => simp only [ih']
    | other vs sn => simp only [ih']
    | self => simp only [ih']

/-- **array/join**: all parts indexed ⇒ the same result as array/concat ... -/
theorem Arr.join_abs (ps : List SPart) (hno : ∀ p ∈ ps, ∀ v, p ≠ SPart.one v) {a : Arr} {xs : List Val} (h : a.Abs xs)
    (hb : ((specConcat xs ps).length : Int) ≤ i32max) :
    (a.join (ps.map SPart.toPart)).2 = .ok ∧ (a.join (ps.map SPart.toPart)).1.Abs (specConcat xs ps) := by
  rw [Arr.join_eq_concat]
  · exact Arr.concat_abs ps h hb
  · intro p hp v hv
    obtain ⟨q, hq, hqp⟩ := List.mem_map.mp hp
    cases q with
    | one w => exact hno (.one w) hq w rfl
    | many ys => rw [← hqp] at hv; cases hv
    | self => rw [← hqp] at hv; cases hv

/-- ... and a non-indexed first part raises the error with the array unchanged -/
theorem Arr.join_err (a : Arr) (v : Val) (ps : List Part) : a.join (.one v :: ps) = (a, .err) := by
  rw [Arr.join]

/-- `cfun_array_trim` keeps the contents -/
theorem Arr.trim_abs {a : Arr} {xs : List Val} (h : a.Abs xs) : (a.trim).2 = .ok ∧ (a.trim).1.Abs xs := by
  unfold Arr.trim
  have hce := h.count_eq
  split
  · split
    · exact ⟨rfl, h.realloc a.count a.isNull (Int.le_refl _) h.count_fits⟩
    · exact ⟨rfl, h⟩
  · have hx : xs = [] := List.length_eq_zero_iff.mp (by omega)
    subst hx
    exact ⟨rfl, hce, rep_nil _, rfl, show (0 : Int) ≤ i32max by decide⟩

end JanetModel.Seq
