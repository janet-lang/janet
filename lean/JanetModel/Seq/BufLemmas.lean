/-
Buffers (buffer.c) against their list-level meaning: `Buf.Abs`, its generalisation `Buf.AbsT` (bytes kept above
`count`, for buffer/push-at), `janet_buffer_ensure` / `extra` / `push_*`, the push loops of buffer/push, push-byte,
push-string, push-word, and setcount, popn, fill, the copying part of blit.
-/
import JanetModel.Seq.Lemmas
namespace JanetModel.Seq
open JanetModel.Gen.Seq

/-- the buffer `b` represents the byte list `xs` -/
structure Buf.Abs (b : Buf) (xs : List Nat) : Prop where
  count_eq : b.count = xs.length
  rep : Rep b.cells xs
  cap : b.cells.size = b.capacity.toNat
  fits : b.capacity ≤ i32max
  pos : 0 < b.capacity

theorem Buf.Abs.count_le {b : Buf} {xs : List Nat} (h : b.Abs xs) : (b.count : Int) ≤ b.capacity := by
  have := h.rep.len_le
  have h1 := h.cap; have h2 := h.count_eq; have h3 := h.pos
  omega

theorem Buf.Abs.items {b : Buf} {xs : List Nat} (h : b.Abs xs) : b.items = xs.map some := by
  rw [Buf.items, h.count_eq, readAt_of_rep h.rep 0 _ (by omega), List.drop_zero, List.take_length]

/-- `b.AbsT pre tl` generalises `b.Abs pre`: the `count` bytes of the buffer are `pre` and the cells after them still
hold `tl` — what buffer/push-at relies on when it lowers `count`, pushes, and raises `count` again -/
structure Buf.AbsT (b : Buf) (pre tl : List Nat) : Prop where
  count_eq : b.count = pre.length
  rep : Rep b.cells (pre ++ tl)
  cap : b.cells.size = b.capacity.toNat
  fits : b.capacity ≤ i32max
  pos : 0 < b.capacity

theorem Buf.Abs.toT {b : Buf} {xs : List Nat} (h : b.Abs xs) : b.AbsT xs [] :=
  ⟨h.count_eq, by rw [List.append_nil]; exact h.rep, h.cap, h.fits, h.pos⟩

theorem Buf.AbsT.toAbs {b : Buf} {pre tl : List Nat} (h : b.AbsT pre tl) : b.Abs pre :=
  ⟨h.count_eq, rep_prefix h.rep, h.cap, h.fits, h.pos⟩

theorem Buf.AbsT.items {b : Buf} {pre tl : List Nat} (h : b.AbsT pre tl) : b.items = pre.map some := h.toAbs.items

/-- lowering `count` (buffer/push-at) keeps the bytes above it in the cells -/
theorem Buf.Abs.truncate {b : Buf} {xs : List Nat} (h : b.Abs xs) (i : Nat) (hi : i ≤ xs.length) :
    Buf.AbsT { b with count := i } (xs.take i) (xs.drop i) :=
  ⟨show i = _ by rw [List.length_take]; omega, by rw [List.take_append_drop]; exact h.rep, h.cap, h.fits, h.pos⟩

theorem buf_facts : (1 : Int) ≤ bufferSetcountGrowth ∧ (2 : Int) ≤ bufferExtraGrowth ∧ (0 : Int) < bufferMinCap ∧
    bufferMinCap ≤ i32max ∧ bufferExtraGrowth ≤ 2 := by decide

theorem Buf.new_cap (c : Int) : c ≤ (Buf.new c).capacity ∧ 0 < (Buf.new c).capacity := by
  have := buf_facts
  unfold Buf.new
  simp only []
  split <;> omega

theorem Buf.new_abs (c : Int) (hc : c ≤ i32max) : (Buf.new c).Abs [] := by
  refine ⟨rfl, rep_nil _, by simp [Buf.new], ?_, (Buf.new_cap c).2⟩
  have := buf_facts
  unfold Buf.new
  simp only []
  split <;> omega

theorem Buf.AbsT.realloc {b : Buf} {pre tl : List Nat} (h : b.AbsT pre tl) (nc : Int)
    (hlo : ((pre ++ tl).length : Int) ≤ nc) (hpos : 0 < nc) (hhi : nc ≤ i32max) :
    Buf.AbsT { b with capacity := nc, cells := Seq.realloc b.cells nc.toNat } pre tl :=
  ⟨h.count_eq, rep_realloc h.rep _ (by omega), size_realloc _ _, hhi, hpos⟩

/-- `janet_buffer_ensure` (growth ≥ 1, request fits `int32_t`): never out of memory, contents kept -/
theorem Buf.ensure_abs {b : Buf} {xs : List Nat} (h : b.Abs xs) (c g : Int) (hg : 1 ≤ g) (hc : c ≤ i32max) :
    ∃ b', b.ensure c g = some b' ∧ b'.Abs xs ∧ c ≤ b'.capacity ∧ b'.count = b.count := by
  unfold Buf.ensure
  by_cases h1 : c ≤ b.capacity
  · exact ⟨b, if_pos h1, h, h1, rfl⟩
  · have hpos := h.pos
    have hnc := grown_bounds hg (by omega) hc
    have hle := h.count_le; have hce := h.count_eq
    rw [if_neg h1]
    simp only []
    generalize (if c * g > i32max then i32max else c * g) = nc at hnc
    rw [if_neg (by omega)]
    exact ⟨_, rfl, (h.toT.realloc nc (by rw [List.append_nil]; omega) (by omega) hnc.2).toAbs, hnc.1, rfl⟩

/-- `janet_buffer_extra(n)`, with bytes kept above `count`: the overflow guard raises the error, otherwise there is
room for `n` more bytes -/
theorem Buf.extra_absT {b : Buf} {pre tl : List Nat} (h : b.AbsT pre tl) (n : Int) :
    (n + b.count > i32max ∧ b.extra n = (b, .err)) ∨
    (n + b.count ≤ i32max ∧ (b.extra n).2 = .ok ∧ (b.extra n).1.AbsT pre tl ∧ (b.count : Int) + n ≤ (b.extra n).1.capacity ∧
      (b.extra n).1.count = b.count) := by
  unfold Buf.extra
  by_cases h1 : n + (b.count : Int) > i32max
  · exact Or.inl ⟨h1, if_pos h1⟩
  · rw [if_neg h1]
    simp only []
    refine Or.inr ⟨by omega, ?_⟩
    by_cases h2 : (b.count : Int) + n > b.capacity
    · have hge : bufferExtraGrowth = 2 := by have := buf_facts; omega
      have hle := h.rep.len_le; have hcap := h.cap; have hpos := h.pos
      rw [if_pos h2, hge]
      generalize hnc : (if (b.count : Int) + n > i32max / 2 then i32max else ((b.count : Int) + n) * 2) = nc
      have hnc1 : (b.count : Int) + n ≤ nc ∧ nc ≤ i32max := by
        have := i32max_eq; rw [← hnc]; split <;> omega
      rw [if_neg (by omega)]
      exact ⟨rfl, h.realloc nc (by omega) (by omega) hnc1.2, hnc1.1, rfl⟩
    · rw [if_neg h2]
      exact ⟨rfl, h, show (b.count : Int) + n ≤ b.capacity by omega, rfl⟩

theorem Buf.extra_abs {b : Buf} {xs : List Nat} (h : b.Abs xs) (n : Int) :
    (n + b.count > i32max ∧ b.extra n = (b, .err)) ∨
    (n + b.count ≤ i32max ∧ (b.extra n).2 = .ok ∧ (b.extra n).1.Abs xs ∧ (b.count : Int) + n ≤ (b.extra n).1.capacity ∧
      (b.extra n).1.count = b.count) :=
  (Buf.extra_absT h.toT n).imp id fun ⟨h1, h2, h3, h4⟩ => ⟨h1, h2, h3.toAbs, h4⟩

/-- memcpy of `ys` at `count` (`p`), over whatever was kept there; `n` is the new count -/
theorem Buf.AbsT.append {b : Buf} {pre tl : List Nat} (h : b.AbsT pre tl) (ys : List Nat) {p n : Nat} (hp : p = pre.length)
    (hn : n = pre.length + ys.length) (hroom : (n : Int) ≤ b.capacity) :
    Buf.AbsT { b with cells := writeAt b.cells p (ys.map some), count := n } (pre ++ ys) (tl.drop ys.length) := by
  have hw := rep_write_over h.rep pre.length ys (by rw [List.length_append]; omega) (by have := h.cap; omega)
  rw [List.take_left, show (pre ++ tl).drop (pre.length + ys.length) = tl.drop ys.length by simp] at hw
  exact ⟨by rw [hn, List.length_append], hp ▸ hw, by rw [size_writeAt]; exact h.cap, h.fits, h.pos⟩

theorem Buf.Abs.append {b : Buf} {xs : List Nat} (h : b.Abs xs) (ys : List Nat) {p n : Nat} (hp : p = xs.length)
    (hn : n = xs.length + ys.length) (hroom : (n : Int) ≤ b.capacity) :
    Buf.Abs { b with cells := writeAt b.cells p (ys.map some), count := n } (xs ++ ys) :=
  (h.toT.append ys hp hn hroom).toAbs

theorem Buf.Abs.take {b : Buf} {xs : List Nat} (h : b.Abs xs) {n : Nat} (hn : n ≤ xs.length) :
    Buf.Abs { b with count := n } (xs.take n) :=
  (h.truncate n hn).toAbs

theorem Buf.Abs.set {b : Buf} {xs : List Nat} (h : b.Abs xs) {i : Nat} (v : Nat) (hi : i < xs.length) :
    Buf.Abs { b with cells := b.cells.setIfInBounds i (some v) } (xs.set i v) :=
  ⟨by rw [List.length_set]; exact h.count_eq, rep_set_at h.rep i v hi, by rw [Array.size_setIfInBounds]; exact h.cap,
    h.fits, h.pos⟩

/-- outcome of pushing the bytes `ys`: "buffer overflow" with the state untouched, or success -/
def PushStep (b : Buf) (pre tl ys : List Nat) (r : Buf × Outcome Nat) : Prop :=
  ((pre.length : Int) + ys.length > i32max ∧ r = (b, .err)) ∨
  ((pre.length : Int) + ys.length ≤ i32max ∧ r.2 = .ok ∧ r.1.AbsT (pre ++ ys) (tl.drop ys.length))

/-- `janet_buffer_push_bytes` -/
theorem Buf.pushBytes_absT {b : Buf} {pre tl : List Nat} (h : b.AbsT pre tl) (ys : List Nat) :
    PushStep b pre tl ys (b.pushBytes (ys.map some)) := by
  have hce := h.count_eq
  unfold PushStep Buf.pushBytes
  rw [List.length_map]
  by_cases h0 : ys.length = 0
  · have hc := h.toAbs.count_le; have := h.fits
    rw [if_pos h0, List.length_eq_zero_iff.mp h0, List.append_nil]
    exact Or.inr ⟨by rw [List.length_nil]; omega, rfl, h⟩
  · rw [if_neg h0]
    simp only []
    rcases Buf.extra_absT h (ys.length : Int) with ⟨hgt, he⟩ | ⟨hle, hok, hA, hroom, hcnt⟩
    · rw [he]
      exact Or.inl ⟨by omega, rfl⟩
    · rw [hok]
      exact Or.inr ⟨by omega, rfl, hA.append ys hce (by omega) (by omega)⟩

/-- `janet_buffer_push_bytes`: appends or raises "buffer overflow" -/
theorem Buf.pushBytes_abs {b : Buf} {xs : List Nat} (h : b.Abs xs) (ys : List Nat) :
    ((xs.length : Int) + ys.length > i32max ∧ b.pushBytes (ys.map some) = (b, .err)) ∨
    ((b.pushBytes (ys.map some)).2 = .ok ∧ (b.pushBytes (ys.map some)).1.Abs (xs ++ ys)) :=
  (Buf.pushBytes_absT h.toT ys).imp id fun ⟨_, h2, h3⟩ => ⟨h2, h3.toAbs⟩

/-- `janet_buffer_push_u8` -/
theorem Buf.pushU8_absT {b : Buf} {pre tl : List Nat} (h : b.AbsT pre tl) (v : Nat) :
    PushStep b pre tl [v] (b.pushU8 v) := Buf.pushBytes_absT h [v]

/-- `janet_buffer_push_u32` -/
theorem Buf.pushU32_absT {b : Buf} {pre tl : List Nat} (h : b.AbsT pre tl) (w : Nat) :
    PushStep b pre tl (wordBytes w) (b.pushU32 w) := Buf.pushBytes_absT h (wordBytes w)

/-- a buffer pushed onto itself (overflow-safe source shape, Gen/Seq.lean `pushSelfNoOverflow`): the view is taken
again after room was made, the current contents are appended once -/
theorem Buf.pushSelf_absT {b : Buf} {pre tl : List Nat} (h : b.AbsT pre tl) :
    PushStep b pre tl pre b.pushSelf := by
  have hce := h.count_eq
  unfold Buf.pushSelf Buf.pushSelfWith
  rw [if_pos (rfl : pushSelfNoOverflow = true)]
  simp only []
  rcases Buf.extra_absT h (b.count : Int) with ⟨hgt, he⟩ | ⟨hle, hok, hA, hroom, hcnt⟩
  · rw [he]
    exact Or.inl ⟨by omega, rfl⟩
  · rw [hok, h.items]
    exact Or.inr ((Buf.pushBytes_absT hA pre).resolve_left fun ⟨hgt, _⟩ => by omega)


/-- what an argument of buffer/push contributes when the buffer currently holds `cur`; `none` = ill-typed -/
def BArg.items (a : BArg) (cur : List Nat) : Option (List Nat) :=
  match a with
  | .int n => some [lowByte n]
  | .bytes bs => some bs
  | .self => some cur
  | .badnum => none
  | .bad => none

/-- buffer/push-byte accepts integers only -/
def BArg.itemsByte (a : BArg) (_cur : List Nat) : Option (List Nat) :=
  match a with
  | .int n => some [lowByte n]
  | _ => none

/-- buffer/push-string accepts byte sequences only -/
def BArg.itemsStr (a : BArg) (cur : List Nat) : Option (List Nat) :=
  match a with
  | .bytes bs => some bs
  | .self => some cur
  | _ => none

/-- list-level semantics of a push loop: the arguments are appended in order until the first ill-typed one or the
first that would make the length exceed INT32_MAX; (contents, succeeded) -/
def specPushG {A : Type} (items : A → List Nat → Option (List Nat)) (cur : List Nat) : List A → List Nat × Bool
  | [] => (cur, true)
  | a :: rest =>
    match items a cur with
    | none => (cur, false)
    | some ys => if (cur.length : Int) + ys.length > i32max then (cur, false) else specPushG items (cur ++ ys) rest

abbrev specPush := specPushG BArg.items
abbrev specPushByte := specPushG BArg.itemsByte
abbrev specPushStr := specPushG BArg.itemsStr
def WArg.items (a : WArg) (_cur : List Nat) : Option (List Nat) :=
  match a with
  | .word w => some (wordBytes w)
  | .bad => none
abbrev specPushWord := specPushG WArg.items

theorem specPushG_len {A : Type} (items : A → List Nat → Option (List Nat)) (args : List A) :
    ∀ cur, cur.length ≤ (specPushG items cur args).1.length := by
  induction args with
  | nil => intro cur; exact Nat.le_refl _
  | cons a rest ih =>
    intro cur
    unfold specPushG
    cases items a cur with
    | none => exact Nat.le_refl _
    | some ys =>
      simp only []
      by_cases c : (cur.length : Int) + ys.length > i32max
      · rw [if_pos c]; exact Nat.le_refl _
      · rw [if_neg c]
        have := ih (cur ++ ys)
        simp at this
        omega

/-- result of a whole push loop against its list-level semantics -/
def PushAll (pre tl : List Nat) (s : List Nat × Bool) (r : Buf × Outcome Nat) : Prop :=
  r.2 = (if s.2 then .ok else .err) ∧ r.1.AbsT s.1 (tl.drop (s.1.length - pre.length))

/-- one step of any of the push loops followed by the rest -/
theorem pushAll_step {A : Type} (items : A → List Nat → Option (List Nat)) (rest : List A)
    (f : Buf → Buf × Outcome Nat)
    (ih : ∀ (b : Buf) (pre tl : List Nat), b.AbsT pre tl → PushAll pre tl (specPushG items pre rest) (f b))
    {b : Buf} {pre tl ys : List Nat} (h : b.AbsT pre tl) (r : Buf × Outcome Nat) (hs : PushStep b pre tl ys r) :
    PushAll pre tl (if (pre.length : Int) + ys.length > i32max then (pre, false) else specPushG items (pre ++ ys) rest)
      (match r.2 with | .ok => f r.1 | o => (r.1, o)) := by
  rcases hs with ⟨hgt, he⟩ | ⟨hle, hok, hA⟩
  · rw [if_pos hgt, he]
    exact ⟨rfl, by simpa using h⟩
  · rw [if_neg (by omega), hok]
    simp only []
    have := ih r.1 (pre ++ ys) (tl.drop ys.length) hA
    refine ⟨this.1, ?_⟩
    have hl := specPushG_len items rest (pre ++ ys)
    rw [List.length_append] at hl
    have e : (tl.drop ys.length).drop ((specPushG items (pre ++ ys) rest).1.length - (pre ++ ys).length) =
        tl.drop ((specPushG items (pre ++ ys) rest).1.length - pre.length) := by
      rw [List.drop_drop, List.length_append]; congr 1; omega
    rw [← e]
    exact this.2

theorem pushAll_fail {b : Buf} {pre tl : List Nat} (h : b.AbsT pre tl) : PushAll pre tl (pre, false) (b, .err) :=
  ⟨rfl, by simpa using h⟩

/-- **`buffer_push_impl`** (buffer/push and the loop inside buffer/push-at): integers push their low byte, byte
sequences are appended, the buffer itself contributes its contents at that moment; an ill-typed argument or an
overflow raises the error after the earlier arguments were pushed -/
theorem Buf.pushImpl_absT (args : List BArg) : ∀ (b : Buf) (pre tl : List Nat), b.AbsT pre tl →
    PushAll pre tl (specPush pre args) (b.pushImpl args) := by
  induction args with
  | nil =>
    intro b pre tl h
    exact ⟨rfl, by simpa [specPush, specPushG, Buf.pushImpl] using h⟩
  | cons a rest ih =>
    intro b pre tl h
    unfold Buf.pushImpl
    show PushAll pre tl (specPushG BArg.items pre (a :: rest)) _
    unfold specPushG
    cases a with
    | int n => exact pushAll_step BArg.items rest (fun b => b.pushImpl rest) ih h _ (Buf.pushU8_absT h (lowByte n))
    | bytes bs => exact pushAll_step BArg.items rest (fun b => b.pushImpl rest) ih h _ (Buf.pushBytes_absT h bs)
    | self => exact pushAll_step BArg.items rest (fun b => b.pushImpl rest) ih h _ (Buf.pushSelf_absT h)
    | badnum => exact pushAll_fail h
    | bad => exact pushAll_fail h

/-- **buffer/push-byte** (`cfun_buffer_u8`) -/
theorem Buf.pushByteArgs_absT (args : List BArg) : ∀ (b : Buf) (pre tl : List Nat), b.AbsT pre tl →
    PushAll pre tl (specPushByte pre args) (b.pushByteArgs args) := by
  induction args with
  | nil =>
    intro b pre tl h
    exact ⟨rfl, by simpa [specPushByte, specPushG, Buf.pushByteArgs] using h⟩
  | cons a rest ih =>
    intro b pre tl h
    show PushAll pre tl (specPushG BArg.itemsByte pre (a :: rest)) _
    unfold specPushG
    cases a with
    | int n =>
      unfold Buf.pushByteArgs
      exact pushAll_step BArg.itemsByte rest (fun b => b.pushByteArgs rest) ih h _ (Buf.pushU8_absT h (lowByte n))
    | bytes bs => unfold Buf.pushByteArgs; exact pushAll_fail h
    | self => unfold Buf.pushByteArgs; exact pushAll_fail h
    | badnum => unfold Buf.pushByteArgs; exact pushAll_fail h
    | bad => unfold Buf.pushByteArgs; exact pushAll_fail h

/-- **buffer/push-string** (`cfun_buffer_chars`) -/
theorem Buf.pushStringArgs_absT (args : List BArg) : ∀ (b : Buf) (pre tl : List Nat), b.AbsT pre tl →
    PushAll pre tl (specPushStr pre args) (b.pushStringArgs args) := by
  induction args with
  | nil =>
    intro b pre tl h
    exact ⟨rfl, by simpa [specPushStr, specPushG, Buf.pushStringArgs] using h⟩
  | cons a rest ih =>
    intro b pre tl h
    unfold Buf.pushStringArgs
    show PushAll pre tl (specPushG BArg.itemsStr pre (a :: rest)) _
    unfold specPushG
    cases a with
    | int n => exact pushAll_fail h
    | bytes bs => exact pushAll_step BArg.itemsStr rest (fun b => b.pushStringArgs rest) ih h _ (Buf.pushBytes_absT h bs)
    | self => exact pushAll_step BArg.itemsStr rest (fun b => b.pushStringArgs rest) ih h _ (Buf.pushSelf_absT h)
    | badnum => exact pushAll_fail h
    | bad => exact pushAll_fail h

/-- **buffer/push-word** (`cfun_buffer_word`): four bytes per word, little endian -/
theorem Buf.pushWordArgs_absT (args : List WArg) : ∀ (b : Buf) (pre tl : List Nat), b.AbsT pre tl →
    PushAll pre tl (specPushWord pre args) (b.pushWordArgs args) := by
  induction args with
  | nil =>
    intro b pre tl h
    exact ⟨rfl, by simpa [specPushWord, specPushG, Buf.pushWordArgs] using h⟩
  | cons a rest ih =>
    intro b pre tl h
    unfold Buf.pushWordArgs
    show PushAll pre tl (specPushG WArg.items pre (a :: rest)) _
    unfold specPushG
    cases a with
    | word w => exact pushAll_step WArg.items rest (fun b => b.pushWordArgs rest) ih h _ (Buf.pushU32_absT h w)
    | bad => exact pushAll_fail h

theorem PushAll.abs {pre : List Nat} {s : List Nat × Bool} {r : Buf × Outcome Nat} (h : PushAll pre [] s r) :
    r.2 = (if s.2 then .ok else .err) ∧ r.1.Abs s.1 := ⟨h.1, h.2.toAbs⟩


/-- `janet_buffer_setcount`: truncates, or extends with zero bytes -/
theorem Buf.setcount_abs {b : Buf} {xs : List Nat} (h : b.Abs xs) (c : Int) (hc : c ≤ i32max) :
    (b.setcount c).2 = .ok ∧
    (b.setcount c).1.Abs (if c < 0 then xs else if c > xs.length then xs ++ List.replicate (c.toNat - xs.length) 0 else xs.take c.toNat) := by
  unfold Buf.setcount
  rw [h.count_eq]
  by_cases h0 : c < 0
  · rw [if_pos h0, if_pos h0]; exact ⟨rfl, h⟩
  · rw [if_neg h0, if_neg h0]
    by_cases h1 : c > (xs.length : Int)
    · obtain ⟨b', he, hb', hcc, _⟩ := Buf.ensure_abs h c bufferSetcountGrowth buf_facts.1 hc
      rw [if_pos h1, if_pos h1, he, ← List.map_replicate]
      exact ⟨rfl, hb'.append _ rfl (by rw [List.length_replicate]; omega) (by omega)⟩
    · rw [if_neg h1, if_neg h1]
      exact ⟨rfl, h.take (by omega)⟩

/-- `cfun_buffer_popn` -/
theorem Buf.popn_abs {b : Buf} {xs : List Nat} (h : b.Abs xs) (n : Arg) :
    (b.popn n = (b, .err)) ∨
    ∃ m : Int, n = .int m ∧ 0 ≤ m ∧ (b.popn n).2 = .ok ∧ (b.popn n).1.Abs (xs.take (xs.length - m.toNat)) := by
  have hce := h.count_eq
  unfold Buf.popn
  cases hg : getInteger n with
  | none => exact Or.inl rfl
  | some m =>
    simp only []
    by_cases c0 : m < 0
    · exact Or.inl (if_pos c0)
    · rw [if_neg c0]
      refine Or.inr ⟨m, arg_of_getInteger hg, by omega, ?_⟩
      by_cases c1 : (b.count : Int) < m
      · rw [if_pos c1, show xs.length - m.toNat = 0 by omega]
        exact ⟨rfl, h.take (Nat.zero_le _)⟩
      · rw [if_neg c1, hce]
        exact ⟨rfl, h.take (Nat.sub_le _ _)⟩

/-- **buffer/fill**, every argument shape: an ill-typed byte raises the error with the buffer untouched -/
theorem Buf.fill_abs_all {b : Buf} {xs : List Nat} (h : b.Abs xs) (byte : Option Arg) :
    (byteArg byte = none ∧ b.fill byte = (b, .err)) ∨
    ∃ v, byteArg byte = some v ∧ (b.fill byte).2 = .ok ∧ (b.fill byte).1.Abs (List.replicate xs.length v) := by
  unfold Buf.fill
  cases hb : byteArg byte with
  | none => exact Or.inl ⟨rfl, rfl⟩
  | some v =>
    rw [h.count_eq]
    exact Or.inr ⟨v, rfl, rfl, by rw [List.length_replicate], rep_fill _ _ v h.rep.len_le,
      by rw [size_writeAt]; exact h.cap, h.fits, h.pos⟩

/-- `cfun_buffer_fill` with a well-typed byte -/
theorem Buf.fill_abs {b : Buf} {xs : List Nat} (h : b.Abs xs) (v : Int) :
    (b.fill (some (.int v))).2 = .ok ∧ (b.fill (some (.int v))).1.Abs (List.replicate xs.length (lowByte v)) := by
  rcases Buf.fill_abs_all h (some (.int v)) with ⟨e, _⟩ | ⟨w, e, h1, h2⟩
  · cases e
  · cases e; exact ⟨h1, h2⟩

/-- memcpy / memmove of `chunk` to offset `od`; `count` grows when the chunk reaches past it -/
theorem Buf.Abs.blit {d : Buf} {xs : List Nat} (h : d.Abs xs) (od ls : Int) (chunk : List Nat)
    (hod : 0 ≤ od ∧ od ≤ xs.length) (hls : 0 ≤ ls) (hcl : chunk.length = ls.toNat) (hcc : od + ls ≤ d.capacity) :
    Buf.Abs { d with count := if od + ls > (d.count : Int) then (od + ls).toNat else d.count,
                     cells := writeAt d.cells od.toNat (chunk.map some) }
      (xs.take od.toNat ++ chunk ++ xs.drop (od.toNat + chunk.length)) := by
  have hcap := h.cap; have hce := h.count_eq
  obtain ⟨od, rfl⟩ := Int.eq_ofNat_of_zero_le hod.1
  obtain ⟨ls, rfl⟩ := Int.eq_ofNat_of_zero_le hls
  rw [Int.toNat_natCast] at hcl
  rw [← Int.natCast_add, Int.toNat_natCast, Int.toNat_natCast]
  refine ⟨?_, rep_write_over h.rep od chunk (by omega) (by omega), by rw [size_writeAt]; exact hcap, h.fits, h.pos⟩
  show (if ((od + ls : Nat) : Int) > (d.count : Int) then od + ls else d.count) = _
  rw [List.length_append, List.length_append, List.length_take, List.length_drop, hcl]
  split <;> omega

/-- the copying part of buffer/blit with decoded, in-range offsets (`src = none`: the destination itself, memmove, the
bytes are read after the reallocation): the chunk `src[os, os+ls)` overwrites the destination from `od` on, extending
it when it reaches past the end; "buffer blit out of range" when the end would not fit `int32_t` -/
theorem Buf.blitCore_abs {d : Buf} {xs : List Nat} (h : d.Abs xs) (src : Option (List Nat)) (od os ls : Int)
    (hod : 0 ≤ od ∧ od ≤ xs.length) (hos : 0 ≤ os) (hls : 0 ≤ ls) (hsrc : os + ls ≤ (src.getD xs).length) :
    (od + ls > i32max ∧ d.blitCore (src.map (·.map some)) (src.getD xs).length od os ls = (d, .err)) ∨
    (od + ls ≤ i32max ∧ (d.blitCore (src.map (·.map some)) (src.getD xs).length od os ls).2 = .ok ∧
     (d.blitCore (src.map (·.map some)) (src.getD xs).length od os ls).1.Abs
       (xs.take od.toNat ++ ((src.getD xs).drop os.toNat).take ls.toNat ++
        xs.drop (od.toNat + (((src.getD xs).drop os.toNat).take ls.toNat).length))) := by
  unfold Buf.blitCore
  simp only []
  by_cases h1 : od + ls > i32max
  · exact Or.inl ⟨h1, if_pos h1⟩
  · obtain ⟨d', he, hd', hcc, _⟩ := Buf.ensure_abs h (od + ls) 2 (by omega) (by omega)
    have hfin := hd'.blit od ls (((src.getD xs).drop os.toNat).take ls.toNat) hod hls
      (by rw [List.length_take, List.length_drop]; omega) hcc
    rw [if_neg h1, he]
    cases src with
    | none =>
      simp only [Option.map_none, Option.getD_none] at hfin ⊢
      rw [readAt_of_rep hd'.rep 0 _ (by omega), List.drop_zero, List.take_length, ← List.map_drop, ← List.map_take]
      exact Or.inr ⟨by omega, trivial, hfin⟩
    | some ys =>
      simp only [Option.map_some, Option.getD_some] at hfin ⊢
      rw [← List.map_drop, ← List.map_take]
      exact Or.inr ⟨by omega, trivial, hfin⟩

end JanetModel.Seq
