/- Facts about `List` / `Array` indexing with a default (`getD`), `set`, `take`, `drop` and folds that several areas need and
   core does not state in this form.  Core Lean only. -/
namespace JanetModel.Util

theorem foldl_inv_mem {σ α : Type} {f : σ → α → σ} {P : σ → Prop} :
    ∀ (l : List α) (s : σ), (∀ s a, a ∈ l → P s → P (f s a)) → P s → P (l.foldl f s)
  | [], _, _, hs => hs
  | a :: l, s, h, hs =>
    foldl_inv_mem l (f s a) (fun s b hb => h s b (List.mem_cons_of_mem _ hb)) (h s a List.mem_cons_self hs)

theorem foldl_inv {σ α : Type} {f : σ → α → σ} {P : σ → Prop} (h : ∀ s a, P s → P (f s a)) (l : List α) (s : σ) :
    P s → P (l.foldl f s) :=
  foldl_inv_mem l s fun s a _ => h s a

/-- two folds over the same list, step by step in a relation -/
theorem foldl_sim {σ τ α : Type} {f : σ → α → σ} {g : τ → α → τ} {R : σ → τ → Prop}
    (hstep : ∀ s t a, R s t → R (f s a) (g t a)) : ∀ (l : List α) (s : σ) (t : τ), R s t → R (l.foldl f s) (l.foldl g t)
  | [], _, _, r => r
  | a :: l, s, t, r => foldl_sim hstep l (f s a) (g t a) (hstep s t a r)

/-- reading a list from position `i` on: either it is exhausted or `l[i]` is next -/
theorem drop_eq_cons {α : Type} {l : List α} {i : Nat} {x : α} {xs : List α} (h : l.drop i = x :: xs) :
    ∃ hi : i < l.length, l[i] = x ∧ l.drop (i + 1) = xs := by
  have hi : i < l.length := Nat.lt_of_not_le fun hle => by rw [List.drop_eq_nil_of_le hle] at h; cases h
  rw [List.drop_eq_getElem_cons hi] at h
  injection h with h1 h2
  exact ⟨hi, h1, h2⟩

theorem drop_eq_getD_cons {α : Type} {l : List α} {i : Nat} (h : i < l.length) (d : α) :
    l.drop i = l.getD i d :: l.drop (i + 1) := by
  rw [List.drop_eq_getElem_cons h, List.getD_eq_getElem?_getD, List.getElem?_eq_getElem h]; rfl

theorem take_succ_set {α : Type} (c : α) (l : List α) (d : Nat) (h : d < l.length) :
    (l.set d c).take (d + 1) = l.take d ++ [c] := by
  rw [List.take_succ_eq_append_getElem (by rw [List.length_set]; exact h), List.take_set_of_le (Nat.le_refl d),
    List.getElem_set_self]

theorem getD_set {α : Type} (l : List α) (i j : Nat) (a d : α) :
    (l.set i a).getD j d = if i = j ∧ i < l.length then a else l.getD j d := by
  simp only [List.getD_eq_getElem?_getD, List.getElem?_set]
  by_cases h : i = j
  · subst h; by_cases h2 : i < l.length <;> simp [h2]
  · simp [h]

theorem getD_of_lt {α : Type} (l : List α) (d : α) (i : Nat) (h : i < l.length) : l.getD i d = l[i] := by
  rw [List.getD_eq_getElem?_getD, List.getElem?_eq_getElem h]; rfl

theorem range_map_getD {α : Type} (l : List α) (d : α) : (List.range l.length).map (fun k => l.getD k d) = l := by
  apply List.ext_getElem (by simp)
  intro i h1 h2
  simp only [List.getElem_map, List.getElem_range]
  exact getD_of_lt l d i (by simpa using h1)

theorem take_drop_append_left {α : Type} (s pad : List α) (os len : Nat) (h : os + len ≤ s.length) :
    ((s ++ pad).drop os).take len = (s.drop os).take len := by
  rw [List.drop_append_of_le_length (Nat.le_trans (Nat.le_add_right os len) h),
    List.take_append_of_le_length (by rw [List.length_drop]; exact Nat.le_sub_of_add_le' h)]

theorem length_take_drop {α : Type} (s : List α) (os len : Nat) (h : os + len ≤ s.length) :
    ((s.drop os).take len).length = len := by
  rw [List.length_take, List.length_drop]; exact Nat.min_eq_left (Nat.le_sub_of_add_le' h)

theorem mapM_option_map {α β γ : Type} (g : α → Option β) (h : β → γ) (l : List α) :
    l.mapM (fun a => (g a).map h) = (l.mapM g).map (List.map h) := by
  induction l with
  | nil => rfl
  | cons x xs ih =>
    rw [List.mapM_cons, List.mapM_cons, ih]
    cases g x <;> cases xs.mapM g <;> rfl

/-! ### arrays as memory: `getD` against `setIfInBounds` -/

theorem Array.getD_of_lt {α : Type} (a : Array α) (d : α) (i : Nat) (h : i < a.size) : a.getD i d = a[i] := by
  simp [Array.getD, h]

theorem Array.getD_setIfInBounds {α : Type} (a : Array α) (i j : Nat) (v d : α) :
    (a.setIfInBounds i v).getD j d = if i = j ∧ i < a.size then v else a.getD j d := by
  rw [Array.getD_eq_getD_getElem?, Array.getElem?_setIfInBounds, Array.getD_eq_getD_getElem?]
  by_cases h : i = j
  · subst h; by_cases h2 : i < a.size <;> simp [h2]
  · simp [h]

theorem Array.getD_setIfInBounds_ne {α : Type} (a : Array α) {i j : Nat} (v d : α) (h : i ≠ j) :
    (a.setIfInBounds i v).getD j d = a.getD j d := by
  rw [Array.getD_setIfInBounds, if_neg fun c => h c.1]

theorem Array.getD_setIfInBounds_self {α : Type} (a : Array α) {i : Nat} (v d : α) (h : i < a.size) :
    (a.setIfInBounds i v).getD i d = v := by
  rw [Array.getD_setIfInBounds, if_pos ⟨rfl, h⟩]

end JanetModel.Util
