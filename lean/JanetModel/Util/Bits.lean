/- Words as digit strings and bit sets: reading a field back out of `a + B * r`, two's-complement reading of an n-bit
   pattern, testing one bit with a mask, keeping or overwriting a field under `&&&` / `|||`.  Core Lean only. -/
namespace JanetModel.Util

/-- the low digit and the rest of `a + B * r` -/
theorem digit {B a : Nat} (r : Nat) (h : a < B) : (a + B * r) % B = a ∧ (a + B * r) / B = r :=
  ⟨by rw [Nat.add_mul_mod_self_left, Nat.mod_eq_of_lt h],
   by rw [Nat.add_mul_div_left _ _ (Nat.zero_lt_of_lt h), Nat.div_eq_of_lt h, Nat.zero_add]⟩

theorem emod_of_neg (x : Int) (m : Nat) (lo : -m ≤ x) (hi : x < 0) : x % m = x + m := by
  rw [← Int.add_emod_right, Int.emod_eq_of_lt (by omega) (by omega)]

/-- reducing modulo `2 * h` and reading the result as a signed number are inverse to each other on `[-h, h)` -/
theorem sext_wrap (h : Nat) (x : Int) (lo : -h ≤ x) (hi : x < h) :
    (if (x % (2 * h : Nat)).toNat < h then ((x % (2 * h : Nat)).toNat : Int) else (x % (2 * h : Nat)).toNat - (2 * h : Nat)) = x := by
  by_cases hx : x < 0
  · rw [emod_of_neg x _ (by omega) hx]; split <;> omega
  · rw [Int.emod_eq_of_lt (by omega) (by omega)]; split <;> omega

theorem wrap_sext (h r : Nat) (hr : r < 2 * h) :
    ((if r < h then (r : Int) else r - (2 * h : Nat)) % (2 * h : Nat)).toNat = r := by
  split
  · rw [Int.emod_eq_of_lt (by omega) (by omega)]; omega
  · rw [emod_of_neg _ _ (by omega) (by omega)]; omega

/-- `2 ^ bits = 2 * 2 ^ (bits - 1)`: the form in which `sext_wrap` meets a definition written with `2 ^ (bits - 1)` -/
theorem two_pow_pred {bits : Nat} (h : 1 ≤ bits) : 2 ^ bits = 2 * 2 ^ (bits - 1) := by
  rw [← Nat.pow_succ']; congr 1; omega

/-! ### one bit -/

theorem and_two_pow_eq_zero (w k : Nat) : w &&& 2 ^ k = 0 ↔ w.testBit k = false := by
  constructor
  · intro h
    have := congrArg (fun x => Nat.testBit x k) h
    simpa only [Nat.testBit_and, Nat.testBit_two_pow, decide_true, Bool.and_true, Nat.zero_testBit] using this
  · intro h
    apply Nat.eq_of_testBit_eq
    intro j
    rw [Nat.testBit_and, Nat.testBit_two_pow, Nat.zero_testBit]
    by_cases hj : k = j
    · subst hj; simp [h]
    · simp [hj]

theorem and_two_pow_ne_zero (w k : Nat) : (w &&& 2 ^ k != 0) = w.testBit k := by
  cases h : w.testBit k
  · rw [(and_two_pow_eq_zero w k).mpr h]; rfl
  · exact bne_iff_ne.mpr fun e => by rw [(and_two_pow_eq_zero w k).mp e] at h; cases h

theorem div_two_pow_mod_two (w k : Nat) : (w / 2 ^ k % 2 == 1) = w.testBit k := by
  rw [Nat.testBit, Nat.shiftRight_eq_div_pow, Nat.one_and_eq_mod_two]
  rcases Nat.mod_two_eq_zero_or_one (w / 2 ^ k) with h | h <;> rw [h] <;> rfl

/-! ### fields of a word selected by masks -/

theorem or_keep (md x g : Nat) (hxg : x &&& g = 0) : (md ||| x) &&& g = md &&& g := by
  rw [Nat.and_or_distrib_right, hxg, Nat.or_zero]

theorem upd_keep (md k o g : Nat) (hkg : k &&& g = g) (hog : o &&& g = 0) : (md &&& k ||| o) &&& g = md &&& g := by
  rw [Nat.and_or_distrib_right, Nat.and_assoc, hkg, hog, Nat.or_zero]

theorem upd_read (md k o f : Nat) (hkf : k &&& f = 0) (hof : o &&& f = o) : (md &&& k ||| o) &&& f = o := by
  rw [Nat.and_or_distrib_right, Nat.and_assoc, hkf, hof, Nat.and_zero, Nat.zero_or]

end JanetModel.Util
