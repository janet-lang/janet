/- C02: the reference semantics is context independent: evaluating an expression inside one of the embedding contexts of
   the property equals a fixed, context-specific post-processing of evaluating the expression itself (same value, same
   effects, same error and error position).  So any context dependence observed on the implementation is the compiler's. -/
import JanetModel.Lang.Sem
namespace JanetModel.Lang
open JanetModel.Bytecode.Exec

/-- an unmapped (macro- / wrapper-generated) form: inherits the position of its surroundings -/
def wrapForm (xs : List Expr) : Expr := .form xs {}

def ctxDoUsed (e : Expr) : Expr := wrapForm [.sym "do", e]                               -- value used, new scope
def ctxDropped (e : Expr) : Expr := wrapForm [.sym "do", e, .lit (.kw "dropped")]          -- value dropped
def ctxBranch (e : Expr) : Expr := wrapForm [.sym "if", .lit (.bool true), e, .lit .nil]   -- branch of a conditional
def ctxArg (e : Expr) : Expr := wrapForm [.sym "identity", e]                              -- argument of a call (non-tail, used)
def ctxUpscope (e : Expr) : Expr := wrapForm [.sym "upscope", e]                           -- spliced into the enclosing scope (top level)

/-- what a scope-creating context does to the result: bindings made by `e` do not escape -/
def closeScope {α : Type} (env : Env) : R (α × Env) → R (α × Env)
  | .ok (v, _) s => .ok (v, env) s
  | r => r

def dropValue (env : Env) : R (Value × Env) → R (Value × Env)
  | .ok (_, _) s => .ok (.kw "dropped", env) s
  | r => r

theorem posOf_unmapped (cur : Pos) : posOf cur {} = cur := by
  simp [posOf]

theorem ctx_do_used (n : Nat) (cur : Pos) (env : Env) (e : Expr) (s : SS) :
    eval (n + 2) cur env (ctxDoUsed e) s = closeScope env (eval n cur env e s) := by
  simp only [ctxDoUsed, wrapForm, eval, posOf_unmapped, evalSeq]
  cases eval n cur env e s with
  | ok a s' => cases a; rfl
  | err v p s' => rfl
  | brk v s' => rfl
  | stop w => rfl

theorem ctx_upscope (n : Nat) (cur : Pos) (env : Env) (e : Expr) (s : SS) :
    eval (n + 2) cur env (ctxUpscope e) s = eval n cur env e s := by
  simp only [ctxUpscope, wrapForm, eval, posOf_unmapped, evalSeq]

theorem ctx_dropped (n : Nat) (cur : Pos) (env : Env) (e : Expr) (s : SS) :
    eval (n + 4) cur env (ctxDropped e) s = dropValue env (eval (n + 2) cur env e s) := by
  show eval ((n + 2) + 2) cur env (ctxDropped e) s = dropValue env (eval (n + 2) cur env e s)
  generalize hm : n + 2 = m
  simp only [ctxDropped, wrapForm, eval, posOf_unmapped, evalSeq]
  cases eval m cur env e s with
  | ok a s' =>
    cases a
    subst hm
    simp only [evalSeq, eval, dropValue]
  | err v p s' => rfl
  | brk v s' => rfl
  | stop w => rfl

theorem ctx_branch (n : Nat) (cur : Pos) (env : Env) (e : Expr) (s : SS) :
    eval (n + 3) cur env (ctxBranch e) s = closeScope env (eval (n + 2) cur env e s) := by
  show eval ((n + 2) + 1) cur env (ctxBranch e) s = closeScope env (eval (n + 2) cur env e s)
  generalize hm : n + 2 = m
  have h1 : eval m cur env (.lit (.bool true)) s = .ok (.bool true, env) s := by subst hm; simp only [eval]
  simp only [ctxBranch, wrapForm, eval, posOf_unmapped, h1, truthy, List.head?, if_true]
  cases eval m cur env e s with
  | ok a s' => cases a; rfl
  | err v p s' => rfl
  | brk v s' => rfl
  | stop w => rfl

theorem callPrim_identity (v : Value) (st : State) : callPrim "identity" [v] st = .ok (v, st) := by
  rfl

theorem applyFn_identity (f : Nat) (cur : Pos) (v : Value) (s : SS) :
    applyFn (f + 1) cur (.cfun "identity") [v] s = .ok v s := by
  rw [applyFn] <;> try (simp; done)
  simp only [callPrim_identity, liftP]

/-- value used as the argument of a call (non-tail position): the call returns what `e` returned; bindings made inside the
    argument stay in the current scope, exactly as for `e` itself -/
theorem ctx_arg (n : Nat) (cur : Pos) (env : Env) (e : Expr) (s : SS)
    (hfree : lookupEnv env "identity" = none) (hsp : isSplice e = none) :
    eval (n + 3) cur env (ctxArg e) s = eval (n + 1) cur env e s := by
  show eval (((n + 1) + 1) + 1) cur env (ctxArg e) s = eval (n + 1) cur env e s
  generalize hk : n + 1 = k
  have h1 : eval (k + 1) cur env (.sym "identity") s = .ok (.cfun "identity", env) s := by simp only [eval, hfree]
  have h2 : evalArgs (k + 1) cur env [e] s =
      (match eval k cur env e s with
       | .ok (v, env') s' => .ok ([v], env') s'
       | .err v p s' => .err v p s' | .brk v s' => .brk v s' | .stop w => .stop w) := by
    simp only [evalArgs, hsp]
    cases eval k cur env e s with
    | ok a s' => cases a; subst hk; simp only [evalArgs]
    | err v p s' => rfl
    | brk v s' => rfl
    | stop w => rfl
  rw [ctxArg, wrapForm, eval] <;> try (simp; done)
  simp only [posOf_unmapped, h1, h2]
  cases eval k cur env e s with
  | ok a s' => cases a; simp only [applyFn_identity]
  | err v p s' => rfl
  | brk v s' => rfl
  | stop w => rfl

def ctxFnTail (e : Expr) : Expr := wrapForm [wrapForm [.sym "fn", .btup [], e]]

def withLam (s : SS) (env : Env) (e : Expr) : SS :=
  { s with lams := s.lams.push { params := [], body := [e], env := env, name := none },
           st := (s.st.alloc (.lam s.lams.size 0)).1 }

def withLam2 (s : SS) (env : Env) (body : List Expr) : SS :=
  { s with lams := s.lams.push { params := [], body := body, env := env, name := none },
           st := (s.st.alloc (.lam s.lams.size 0)).1 }

def fnResult (env : Env) : R (Value × Env) → R (Value × Env)
  | .ok (v, _) s => .ok (v, env) s
  | .brk v s => .ok (v, env) s
  | r => r

theorem eval_fn0 (k : Nat) (cur : Pos) (env : Env) (body : List Expr) (s : SS) :
    eval (k + 1) cur env (wrapForm (.sym "fn" :: .btup [] :: body)) s = .ok (.fn s.st.heap.size, env) (withLam2 s env body) := by
  rw [wrapForm, eval] <;> try (simp; done)
  simp [withLam2, allocV, State.alloc]

theorem applyFn_lam0 (j : Nat) (cur : Pos) (env : Env) (body : List Expr) (s : SS) :
    applyFn (j + 2) cur (.fn s.st.heap.size) [] (withLam2 s env body) =
      (match evalSeq (j + 1) cur env body (withLam2 s env body) with
       | .ok (v, _) s4 => .ok v s4
       | .brk v s4 => .ok v s4
       | .err v p s4 => .err v p s4
       | .stop w => .stop w) := by
  rw [applyFn]
  simp [withLam2, State.alloc, classify, bindAll, symName]
  rfl

/-- function body, tail position: `((fn [] e))`.  The context only adds the closure object to the heap before `e` runs
    (`withLam`); a `break` at the top of `e` becomes the function's return value (`fnResult`). -/
theorem ctx_fn_tail (n : Nat) (cur : Pos) (env : Env) (e : Expr) (s : SS) :
    eval (n + 3) cur env (ctxFnTail e) s = fnResult env (eval n cur env e (withLam s env e)) := by
  rw [ctxFnTail, wrapForm, eval] <;> try (simp [wrapForm]; done)
  have h1 : eval (n + 2) cur env (wrapForm [.sym "fn", .btup [], e]) s = .ok (.fn s.st.heap.size, env) (withLam s env e) :=
    eval_fn0 (n + 1) cur env [e] s
  have h2 : applyFn (n + 2) cur (.fn s.st.heap.size) [] (withLam s env e) =
      (match evalSeq (n + 1) cur env [e] (withLam s env e) with
       | .ok (v, _) s4 => .ok v s4
       | .brk v s4 => .ok v s4
       | .err v p s4 => .err v p s4
       | .stop w => .stop w) := applyFn_lam0 n cur env [e] s
  simp only [posOf_unmapped, h1, evalArgs, h2, evalSeq]
  cases eval n cur env e (withLam s env e) with
  | ok a s' => cases a; rfl
  | err v p s' => rfl
  | brk v s' => rfl
  | stop w => rfl

/-- function body, NON-tail position, value used (context `fn_used` of the check) -/
def ctxFnUsed (e : Expr) : Expr :=
  wrapForm [wrapForm [.sym "fn", .btup [], wrapForm [.sym "def", .sym "r_", e], .sym "r_"]]

/-- what the wrapper does with the result of `e`: the value is bound to `r_` (one more box) and read back; bindings do not
    escape; a top-level `break` of `e` returns from the function with its value, without the binding -/
def fnUsedResult (env : Env) : R (Value × Env) → R (Value × Env)
  | .ok (v, _) s => .ok (v, env) { s with boxes := s.boxes.push v }
  | .brk v s => .ok (v, env) s
  | r => r

theorem readBox_push (s : SS) (v : Value) : readBox { s with boxes := s.boxes.push v } s.boxes.size = v := by
  simp [readBox]

/-- `sem_context_free`, function body in non-tail position with the value used through a local: evaluating
    `((fn [] (def r_ e) r_))` is `fnUsedResult` of evaluating `e` (in the state that has the wrapper's closure object) -/
theorem ctx_fn_used (n : Nat) (cur : Pos) (env : Env) (e : Expr) (s : SS) :
    eval (n + 6) cur env (ctxFnUsed e) s =
      fnUsedResult env (eval (n + 2) cur env e (withLam2 s env [wrapForm [.sym "def", .sym "r_", e], .sym "r_"])) := by
  rw [ctxFnUsed, wrapForm, eval] <;> try (simp [wrapForm]; done)
  have h1 := eval_fn0 (n + 4) cur env [wrapForm [.sym "def", .sym "r_", e], .sym "r_"] s
  have h2 := applyFn_lam0 (n + 3) cur env [wrapForm [.sym "def", .sym "r_", e], .sym "r_"] s
  simp only [posOf_unmapped, h1, evalArgs, h2]
  generalize withLam2 s env [wrapForm [.sym "def", .sym "r_", e], .sym "r_"] = s1
  have hdef : eval (n + 3) cur env (wrapForm [.sym "def", .sym "r_", e]) s1 =
      (match eval (n + 2) cur env e s1 with
       | .ok (v, env1) s' => .ok (v, ("r_", s'.boxes.size) :: env1) { s' with boxes := s'.boxes.push v }
       | .err v p s' => .err v p s' | .brk v s' => .brk v s' | .stop w => .stop w) := by
    rw [wrapForm, eval] <;> try (simp; done)
    simp only [posOf_unmapped, List.getLast?, List.getLast]
    cases eval (n + 2) cur env e s1 with
    | ok a s' => cases a; simp [destructure, bind]
    | err v p s' => rfl
    | brk v s' => rfl
    | stop w => rfl
  simp only [evalSeq, hdef]
  cases eval (n + 2) cur env e s1 with
  | ok a s' =>
    cases a with
    | mk v env1 =>
      simp only [evalSeq, eval, lookupEnv, fnUsedResult]
      simp [readBox]
  | err v p s' => rfl
  | brk v s' => rfl
  | stop w => rfl

end JanetModel.Lang
