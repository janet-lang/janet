import JanetModel.Spec.Fixed
import JanetModel.Spec.Skeleton

/-!
C15: the code the fixed-arity handlers of cfuns.c EMIT (`do_get` with a default, `do_put`, `genericSS`, `genericSSI` / `do_yield`,
`do_debug`, `do_error`, `opfunction`, fixed-arity `opreduce`), as instruction lists over the caller's registers, run by `VM.exec`.
The opcodes are tied to the statement skeletons regenerated from cfuns.c (`Gen.Cfuns.skeletons`, tools/gen/cfuns_skel.py): the two of
`do_get`'s three-argument path are read out of them (`get3Ops`), the others are checked against them (`specialOpsOk`).  Core Lean only.
-/

namespace JanetModel.Spec
open JanetModel.Gen.Bytecode JanetModel.Gen.Cfuns JanetModel.Bytecode.VM

def skeletonOf (name : String) : List SkLine := ((skeletons.find? (fun p => p.1 == name)).map (·.2)).getD []

/-- literal opcodes named by the emit calls and forwarding returns of a C body, in order -/
def handlerOps (name : String) : List Op :=
  (skeletonOf name).filterMap fun l => if l.kind == "emit" || l.kind == "ret" then l.op else none

/-- checkable on the regenerated skeletons: the opcodes the special handlers emit are the ones of the shapes `shapeOf` assigns to their
    rows - `do_get`: `GET`, then the jump that keeps a NON-NIL value (three arguments), `GET` through `opreduce` (two arguments) -/
def specialOpsOk : Bool :=
  handlerOps "do_get" == [.get, .jumpIfNotNil, .get] && handlerOps "do_put" == [.put, .put] &&
  handlerOps "do_yield" == [.signal, .signal] && handlerOps "do_debug" == [.signal] && handlerOps "do_error" == [.error]

/-- the two opcodes of `do_get`'s three-argument path, read from the regenerated skeleton -/
def get3Ops : Op × Op := match handlerOps "do_get" with | g :: j :: _ => (g, j) | _ => (.noop, .noop)


/-- `genericSS`: `janetc_emit_ss(c, op, target, s, 1)` -/
def emitSS (op : Op) (t x : Nat) : List Instr := [mkAE op t x]
/-- `opfunction` with two arguments / fixed-arity `opreduce` / two-argument `do_get`: `janetc_emit_sss(c, op, t, args[0], args[1], 1)` -/
def emitSSS (op : Op) (t x y : Nat) : List Instr := [mkABC op t x y]
/-- `opfunction` with one argument: `janetc_emit_sss(c, op, t, args[0], janetc_cslot(nil), 1)`; emit.c loads the constant nil into a
    scratch register `tmp` first -/
def emitSSSnil (op : Op) (t x tmp : Nat) : List Instr := [mkD .loadNil tmp, mkABC op t x tmp]
/-- `genericSSI` (`do_yield`) / `do_debug`: `janetc_emit_ssi(c, op, target, s, k, 1)` -/
def emitSSK (op : Op) (t x k : Nat) : List Instr := [mkABC op t x k]
/-- `do_error`: `janetc_emit_si(c, JOP_ERROR, args[0], 0, 0)` -/
def emitS (op : Op) (x : Nat) : List Instr := [mkD op x]
/-- `do_get` with a default whose register is not the target: `GET t a0 a1; JUMP_IF_NOT_NIL t +2; copy t <- dflt` -/
def emitGet3 (g j : Op) (t a0 a1 d : Nat) : List Instr := [mkABC g t a0 a1, mkAI j t 2, mkAE .moveNear t d]
/-- `do_get` when the target IS the default's register (`target_is_default`): the default is saved in a fresh slot first
    (`janetc_copy(c, dflt_slot, t)`; a near register here, so the copy is a `movn`) -/
def emitGet3Alias (g j : Op) (t a0 a1 far : Nat) : List Instr :=
  [mkAE .moveNear far t, mkABC g t a0 a1, mkAI j t 2, mkAE .moveNear t far]
/-- `do_put` in value position: `copy t <- args[0]; PUT t args[1] args[2]`, result `t` -/
def emitPut (p : Op) (t a0 a1 a2 : Nat) : List Instr := [mkAE .moveNear t a0, mkABC p t a1 a2]
/-- `do_put` with the value dropped: `PUT args[0] args[1] args[2]` -/
def emitPutDrop (p : Op) (a0 a1 a2 : Nat) : List Instr := [mkABC p a0 a1 a2]

/-- `(yield)` / `(debug)`: the operand is the constant nil, loaded into a scratch register -/
def emitSSKnil (op : Op) (t tmp k : Nat) : List Instr := [mkD .loadNil tmp, mkABC op t tmp k]

/-- the code emitted in value position for a call whose row has shape `sh`, operands in the registers `regs`, result in register `t`,
    `tmp` a scratch register the emitter may allocate -/
def emitShape (sh : Shape) (t : Nat) (regs : List Nat) (tmp : Nat) : Option (List Instr) :=
  match sh, regs with
  | .ss op, [x] => some (emitSS op t x)
  | .sss op, [x] => some (emitSSSnil op t x tmp)
  | .sss op, [x, y] => some (emitSSS op t x y)
  | .getlike op, [x, y] => some (emitSSS op t x y)
  | .getlike .get, [x, y, d] => some (if d = t then emitGet3Alias get3Ops.1 get3Ops.2 t x y tmp else emitGet3 get3Ops.1 get3Ops.2 t x y d)
  | .put, [x, y, z] => some (emitPut .put t x y z)
  | .signal k, [] => some (emitSSKnil .signal t tmp k)
  | .signal k, [x] => some (emitSSK .signal t x k)
  | .error, [x] => some (emitS .error x)
  | _, _ => none

theorem shapeOf_put (r : OptRow) (h : shapeOf r = some .put) : r.handler = .special "do_put" := by
  unfold shapeOf at h
  split at h <;> (try split at h) <;> (try split at h) <;> simp_all

variable (P : Prims)

/-- the code at `pc` computes `m` from the slots `s`: an error of `m` is the error of the run (same world); otherwise the run continues at
    `pc'` with slots `upd v` in `m`'s final world - whatever the continuation returns, the whole run returns (within `n` more steps) -/
def Computes (code : List Instr) (s : List P.V) (pc n : Nat) (m : M P P.V) (upd : P.V → List P.V) (pc' : Nat) : Prop :=
  ∀ w, match m w with
    | (.error e, w') => ∀ fuel, exec P code (fuel + n) ⟨s, pc⟩ w = some (.error e, w')
    | (.ok v, w') => ∀ fuel r, exec P code fuel ⟨upd v, pc'⟩ w' = some r → exec P code (fuel + n) ⟨s, pc⟩ w = some r

theorem Computes.store (code : List Instr) (s : List P.V) (pc : Nat) (i : Instr) (a : Nat) (m : M P P.V) (hc : code[pc]? = some i)
    (hs : step P i ⟨s, pc⟩ = some (M.bind m fun v => cont' P ⟨s.set a v, pc + 1⟩)) :
    Computes P code s pc 1 m (fun v => s.set a v) (pc + 1) := by
  intro w
  have h := fun k => exec_store P code k s pc w i a m hc hs
  revert h
  rcases m w with ⟨(e | v), w'⟩ <;> intro h
  · exact fun fuel => h fuel
  · exact fun fuel r hr => (h fuel).trans hr

theorem Computes.effect {α : Type} (code : List Instr) (s : List P.V) (pc : Nat) (i : Instr) (m : M P α) (x : P.V) (upd : P.V → List P.V)
    (hc : code[pc]? = some i) (hs : step P i ⟨s, pc⟩ = some (M.bind m fun _ => cont' P ⟨upd x, pc + 1⟩)) :
    Computes P code s pc 1 (M.bind m fun _ => M.pure x) upd (pc + 1) := by
  intro w
  have h := fun k => exec_succ P code k ⟨s, pc⟩ w i _ hc hs
  simp only [M.bind] at h ⊢
  revert h
  rcases m w with ⟨(e | u), w'⟩ <;> intro h
  · exact fun fuel => h fuel
  · exact fun fuel r hr => (h fuel).trans hr

theorem Computes.after (code : List Instr) (s s' : List P.V) (pc n : Nat) (m : M P P.V) (upd : P.V → List P.V) (pc' : Nat) (i : Instr)
    (hc : code[pc]? = some i) (hs : step P i ⟨s, pc⟩ = some (cont' P ⟨s', pc + 1⟩)) (h : Computes P code s' (pc + 1) n m upd pc') :
    Computes P code s pc (n + 1) m upd pc' := by
  intro w
  have h1 := fun k => exec_goto P code k ⟨s, pc⟩ ⟨s', pc + 1⟩ w i hc hs
  have h2 := h w
  revert h2
  rcases m w with ⟨(e | v), w'⟩ <;> intro h2
  · exact fun fuel => (h1 (fuel + n)).trans (h2 fuel)
  · exact fun fuel r hr => (h1 (fuel + n)).trans (h2 fuel r hr)

theorem Computes.pure (code : List Instr) (s : List P.V) (pc n : Nat) (x : P.V) (upd : P.V → List P.V) (pc' : Nat)
    (h : ∀ fuel w r, exec P code fuel ⟨upd x, pc'⟩ w = some r → exec P code (fuel + n) ⟨s, pc⟩ w = some r) :
    Computes P code s pc n (M.pure x) upd pc' := fun w fuel r hr => h fuel w r hr

theorem Computes.bind (code : List Instr) (s : List P.V) (pc n1 n2 : Nat) (m : M P P.V) (f : P.V → M P P.V) (upd1 upd2 : P.V → List P.V)
    (pc1 pc2 : Nat) (h1 : Computes P code s pc n1 m upd1 pc1) (h2 : ∀ v, Computes P code (upd1 v) pc1 n2 (f v) upd2 pc2) :
    Computes P code s pc (n2 + n1) (M.bind m f) upd2 pc2 := by
  intro w
  have h1w := h1 w
  simp only [M.bind]
  revert h1w
  rcases m w with ⟨(e | v), w1⟩ <;> intro h1w
  · exact fun fuel => by rw [← Nat.add_assoc]; exact h1w (fuel + n2)
  · have h2w := h2 v w1
    revert h2w
    dsimp only
    rcases f v w1 with ⟨(e | u), w2⟩ <;> intro h2w
    · exact fun fuel => by rw [← Nat.add_assoc]; exact h1w (fuel + n2) _ (h2w fuel)
    · exact fun fuel r hr => by rw [← Nat.add_assoc]; exact h1w (fuel + n2) r (h2w fuel r hr)

theorem sss_computes (op : Op) (hop : IsBinOp P op) (code : List Instr) (s : List P.V) (pc t x y : Nat)
    (ht : t < 256) (hx : x < 256) (hy : y < 256) (hat : HasAt code pc (emitSSS op t x y)) :
    Computes P code s pc 1 (binop P op (s.getD x P.nil) (s.getD y P.nil)) (fun v => s.set t v) (pc + 1) :=
  Computes.store P code s pc _ t _ hat.head (stepc_sss P hop t x y ht hx hy s pc)

/-- `do_get` with a default: the three emitted instructions compute `get`, keep the value unless it is NIL (not: unless it is falsy),
    and otherwise take the default -/
theorem get3_computes (code : List Instr) (s : List P.V) (pc t a0 a1 d : Nat)
    (ht : t < 256) (h0 : a0 < 256) (h1 : a1 < 256) (hd : d < 65536) (hne : d ≠ t) (hlen : t < s.length)
    (hat : HasAt code pc (emitGet3 .get .jumpIfNotNil t a0 a1 d)) :
    Computes P code s pc 3
      (M.bind (binop P .get (s.getD a0 P.nil) (s.getD a1 P.nil)) fun v => M.pure (if P.isNil v then s.getD d P.nil else v))
      (fun v => s.set t v) (pc + 3) := by
  intro w
  have hs1 : ∀ v, step P (mkAI .jumpIfNotNil t 2) ⟨s.set t v, pc + 1⟩ =
      some (cont' P (if P.isNil v then ⟨s.set t v, pc + 2⟩ else ⟨s.set t v, pc + 3⟩)) := by
    intro v
    rw [step_jumpIfNotNil P _ _ rfl]
    simp only [getSlot, next, jumpBy, mkAI_A _ t 2 ht, mkAI_ES _ t 2 ht (by omega), getD_set_self P s t v hlen]
    by_cases hn : P.isNil v = true
    · simp [hn]
    · simp only [hn, Bool.false_eq_true, if_false]
      congr 3
  have hget := fun k => exec_store P code k s pc w _ t _ hat.head (stepc_sss P (isBinOp_fixed P .get (by decide)) t a0 a1 ht h0 h1 s pc)
  simp only [M.bind]
  revert hget
  rcases binop P .get (s.getD a0 P.nil) (s.getD a1 P.nil) w with ⟨(e | v), w'⟩ <;> intro hget
  · exact fun fuel => hget (fuel + 2)
  · simp only [M.pure]
    intro fuel r hr
    rw [show fuel + 3 = fuel + 1 + 1 + 1 from rfl, hget]
    show exec P code (fuel + 1 + 1) ⟨s.set t v, pc + 1⟩ w' = some r
    rw [exec_goto P code (fuel + 1) _ _ w' _ hat.tail.head (hs1 v)]
    by_cases hn : P.isNil v = true
    · -- nil: the default is copied into the target
      simp only [hn, if_true] at hr ⊢
      rw [exec_goto P code fuel _ _ w' _ hat.tail.tail.head (stepc_moveNear P t d ht hd _ _), getD_set_ne P s t d v hne, List.set_set]
      exact hr
    · simp only [hn, if_false, Bool.false_eq_true] at hr ⊢
      exact exec_mono P code fuel _ w' r hr (fuel + 1) (by omega)

/-- `do_get` when the target register is the default's register: the default is parked in a fresh slot `far` first, so the write of
    `GET` into the target does not destroy it -/
theorem get3_alias_computes (code : List Instr) (s : List P.V) (pc t a0 a1 far : Nat)
    (ht : t < 256) (h0 : a0 < 256) (h1 : a1 < 256) (hf : far < 256) (hft : far ≠ t) (hf0 : a0 ≠ far) (hf1 : a1 ≠ far) (hlen : t < s.length)
    (hlenf : far < s.length)
    (hat : HasAt code pc (emitGet3Alias .get .jumpIfNotNil t a0 a1 far)) :
    Computes P code s pc 4
      (M.bind (binop P .get (s.getD a0 P.nil) (s.getD a1 P.nil)) fun v => M.pure (if P.isNil v then s.getD t P.nil else v))
      (fun v => (s.set far (s.getD t P.nil)).set t v) (pc + 4) := by
  have hrest := get3_computes P code (s.set far (s.getD t P.nil)) (pc + 1) t a0 a1 far ht h0 h1 (by omega) hft (by simpa using hlen) hat.tail
  rw [getD_set_ne P s far a0 _ hf0, getD_set_ne P s far a1 _ hf1, getD_set_self P s far _ hlenf] at hrest
  exact Computes.after P code s _ pc 3 _ _ _ _ hat.head (stepc_moveNear P far t hf (by omega) s pc) hrest

theorem ss_computes (op : Op) (hop : op ∈ unaryOps) (code : List Instr) (s : List P.V) (pc t x : Nat)
    (ht : t < 256) (hx : x < 65536) (hat : HasAt code pc (emitSS op t x)) :
    Computes P code s pc 1 (P.unary op (s.getD x P.nil)) (fun v => s.set t v) (pc + 1) :=
  Computes.store P code s pc _ t _ hat.head (stepc_unary P op hop t x ht hx s pc)

theorem ssk_computes (code : List Instr) (s : List P.V) (pc t x k : Nat)
    (ht : t < 256) (hx : x < 256) (hk : k < 256) (hat : HasAt code pc (emitSSK .signal t x k)) :
    Computes P code s pc 1 (P.signal (s.getD x P.nil) k) (fun v => s.set t v) (pc + 1) :=
  Computes.store P code s pc _ t _ hat.head (stepc_signal P t x k ht hx hk s pc)

/-- `do_error`: the one emitted instruction raises the value of its operand (nothing continues) -/
theorem error_computes (code : List Instr) (s : List P.V) (pc x : Nat) (hx : x < 256) (hat : HasAt code pc (emitS .error x)) (upd) (pc') :
    Computes P code s pc 1 (M.throw (P.raise (s.getD x P.nil))) upd pc' :=
  fun w fuel => exec_succ P code fuel ⟨s, pc⟩ w _ _ hat.head (stepc_error P x hx s pc)

/-- `opfunction` with the second operand defaulted to the constant nil (`(resume f)`, `(next ds)`, `(cancel f)`): the constant is loaded into
    a scratch register that is not the first operand -/
theorem sssnil_computes (op : Op) (hop : IsBinOp P op) (code : List Instr) (s : List P.V) (pc t x tmp : Nat)
    (ht : t < 256) (hx : x < 256) (htmp : tmp < 256) (hne : x ≠ tmp) (hlen : tmp < s.length) (hat : HasAt code pc (emitSSSnil op t x tmp)) :
    Computes P code s pc 2 (binop P op (s.getD x P.nil) P.nil) (fun v => (s.set tmp P.nil).set t v) (pc + 2) := by
  have hrest := sss_computes P op hop code (s.set tmp P.nil) (pc + 1) t x tmp ht hx htmp hat.tail
  rw [getD_set_ne P s tmp x _ hne, getD_set_self P s tmp _ hlen] at hrest
  exact Computes.after P code s _ pc 1 _ _ _ _ hat.head (stepc_loadNil P tmp (by omega) s pc) hrest

/-- `do_put` in value position: the structure is copied into the target first and key / value are read AFTER that write, so the result
    is right when neither of them lives in the target register (what `reduce_target(opts, args, 1)` guarantees) -/
theorem put_computes (code : List Instr) (s : List P.V) (pc t a0 a1 a2 : Nat)
    (ht : t < 256) (h0 : a0 < 65536) (h1 : a1 < 256) (h2 : a2 < 256) (hn1 : a1 ≠ t) (hn2 : a2 ≠ t) (hlen : t < s.length)
    (hat : HasAt code pc (emitPut .put t a0 a1 a2)) :
    Computes P code s pc 2
      (M.bind (P.put3 (s.getD a0 P.nil) (s.getD a1 P.nil) (s.getD a2 P.nil)) fun _ => M.pure (s.getD a0 P.nil))
      (fun v => s.set t v) (pc + 2) := by
  have hs1 := stepc_put P t a1 a2 ht h1 h2 (s.set t (s.getD a0 P.nil)) (pc + 1)
  rw [getD_set_self P s t _ hlen, getD_set_ne P s t a1 _ hn1, getD_set_ne P s t a2 _ hn2] at hs1
  exact Computes.after P code s _ pc 1 _ _ _ _ hat.head (stepc_moveNear P t a0 ht h0 s pc)
    (Computes.effect P code _ (pc + 1) _ _ (s.getD a0 P.nil) (fun v => s.set t v) hat.tail.head hs1)

/-- `do_put` with the value dropped: one `PUT` on the operands themselves -/
theorem put_drop_computes (code : List Instr) (s : List P.V) (pc a0 a1 a2 : Nat)
    (h0 : a0 < 256) (h1 : a1 < 256) (h2 : a2 < 256) (hat : HasAt code pc (emitPutDrop .put a0 a1 a2)) :
    Computes P code s pc 1
      (M.bind (P.put3 (s.getD a0 P.nil) (s.getD a1 P.nil) (s.getD a2 P.nil)) fun _ => M.pure (s.getD a0 P.nil))
      (fun _ => s) (pc + 1) :=
  Computes.effect P code s pc _ _ (s.getD a0 P.nil) (fun _ => s) hat.head (stepc_put P a0 a1 a2 h0 h1 h2 s pc)

theorem ssknil_computes (code : List Instr) (s : List P.V) (pc t tmp k : Nat)
    (ht : t < 256) (htmp : tmp < 256) (hk : k < 256) (hlen : tmp < s.length) (hat : HasAt code pc (emitSSKnil .signal t tmp k)) :
    Computes P code s pc 2 (P.signal P.nil k) (fun v => (s.set tmp P.nil).set t v) (pc + 2) := by
  have hrest := ssk_computes P code (s.set tmp P.nil) (pc + 1) t tmp k ht htmp hk hat.tail
  rw [getD_set_self P s tmp _ hlen] at hrest
  exact Computes.after P code s _ pc 1 _ _ _ _ hat.head (stepc_loadNil P tmp (by omega) s pc) hrest

theorem get3Ops_ok (h : specialOpsOk = true) : get3Ops = (.get, .jumpIfNotNil) := by
  unfold specialOpsOk at h
  simp only [Bool.and_eq_true, beq_iff_eq] at h
  unfold get3Ops
  rw [h.1.1.1.1]

/-- the code a fixed-arity specialisation emits in value position (shape of its row, arity, operands in registers) computes the meaning
    of the row's shape on the generic function's entry slots - i.e. what `shape_exec` shows the generic function's real bytecode computes
    from the same argument values - into the target register, and changes no other register than the scratch one.
    Side conditions are the emitter's: registers of 8 bits, scratch register fresh, the frame holds the registers; for `put` the key and
    value registers are not the target (`reduce_target`). -/
theorem shape_emit_computes (hnil1 : ∀ v, P.eqv v P.nil = P.isNil v) (hnil2 : ∀ v, P.isNil v = true → v = P.nil)
    (hops : specialOpsOk = true) (sh : Shape) (hok : shapeOpsOk sh = true) (t tmp : Nat) (regs : List Nat) (seg : List Instr)
    (hem : emitShape sh t regs tmp = some seg) (slots : Nat)
    (hslots : slotsFor sh slots)
    (code : List Instr) (s : List P.V) (pc : Nat) (hat : HasAt code pc seg)
    (ht : t < 256) (htmp : tmp < 256) (hregs : ∀ x ∈ regs, x < 256) (htt : tmp ≠ t) (htr : ∀ x ∈ regs, x ≠ tmp)
    (hlen : t < s.length) (hlent : tmp < s.length) (hput : sh = .put → ∀ x ∈ regs.drop 1, x ≠ t) :
    ∃ upd, Computes P code s pc seg.length (shapeSem P sh (frameOf P slots (regs.map (s.getD · P.nil))).slots) upd (pc + seg.length) ∧
      (∀ v, (upd v).getD t P.nil = v) ∧ ∀ v k, k ≠ t → k ≠ tmp → (upd v).getD k P.nil = s.getD k P.nil := by
  have hg3 := get3Ops_ok hops
  have hset : ∀ v, (s.set t v).getD t P.nil = v := fun v => getD_set_self P s t v hlen
  have hset2 : ∀ u v, ((s.set tmp u).set t v).getD t P.nil = v := fun u v => getD_set_self P _ t v (by simpa using hlen)
  have hoth : ∀ (v : P.V) k, k ≠ t → k ≠ tmp → (s.set t v).getD k P.nil = s.getD k P.nil := fun v k h1 _ => getD_set_ne P s t k v h1
  have hoth2 : ∀ (u v : P.V) k, k ≠ t → k ≠ tmp → ((s.set tmp u).set t v).getD k P.nil = s.getD k P.nil :=
    fun u v k h1 h2 => by rw [getD_set_ne P _ t k v h1, getD_set_ne P s tmp k u h2]
  -- the shape reads the operand values; the padding of the generic function's frame plays no part
  simp only [frameOf, shapeSem_pad]
  unfold emitShape at hem
  split at hem
  · rename_i op x
    cases hem
    have hm : op ∈ unaryOps := by simpa [shapeOpsOk] using hok
    exact ⟨_, ss_computes P op hm code s pc t x ht (by have := hregs x (by simp); omega) hat, hset, hoth⟩
  · rename_i op x
    cases hem
    have hm : op ∈ fixedBinOps := by simpa [shapeOpsOk] using hok
    exact ⟨_, sssnil_computes P op (isBinOp_fixed P op hm) code s pc t x tmp ht (hregs x (by simp)) htmp (htr x (by simp)) hlent hat,
      hset2 _, hoth2 _⟩
  · rename_i op x y
    cases hem
    have hm : op ∈ fixedBinOps := by simpa [shapeOpsOk] using hok
    exact ⟨_, sss_computes P op (isBinOp_fixed P op hm) code s pc t x y ht (hregs x (by simp)) (hregs y (by simp)) hat, hset, hoth⟩
  · rename_i op x y
    cases hem
    have hm : op ∈ fixedBinOps := by simpa [shapeOpsOk] using hok
    simp only [List.map_cons, List.map_nil, getlike_two P hnil1 hnil2]
    exact ⟨_, sss_computes P op (isBinOp_fixed P op hm) code s pc t x y ht (hregs x (by simp)) (hregs y (by simp)) hat, hset, hoth⟩
  · rename_i x y d
    simp only [Option.some.injEq] at hem
    rw [hg3] at hem
    have hsem : shapeSem P (.getlike .get) ([x, y, d].map (s.getD · P.nil)) =
        M.bind (binop P .get (s.getD x P.nil) (s.getD y P.nil)) fun v => M.pure (if P.isNil v then s.getD d P.nil else v) := by
      simp only [shapeSem, hnil1]
      rfl
    rw [hsem]
    by_cases hdt : d = t
    · rw [if_pos hdt] at hem
      subst hem
      subst hdt
      exact ⟨_, get3_alias_computes P code s pc d x y tmp ht (hregs x (by simp)) (hregs y (by simp)) htmp htt (htr x (by simp))
        (htr y (by simp)) hlen hlent hat, hset2 _, hoth2 _⟩
    · rw [if_neg hdt] at hem
      subst hem
      exact ⟨_, get3_computes P code s pc t x y d ht (hregs x (by simp)) (hregs y (by simp)) (by have := hregs d (by simp); omega) hdt
        hlen hat, hset, hoth⟩
  · rename_i x y z
    cases hem
    have hp := hput rfl
    exact ⟨_, put_computes P code s pc t x y z ht (by have := hregs x (by simp); omega) (hregs y (by simp)) (hregs z (by simp))
      (hp y (by simp)) (hp z (by simp)) hlen hat, hset, hoth⟩
  · rename_i k
    cases hem
    have hk : k < 256 := by simpa [shapeOpsOk] using hok
    exact ⟨_, ssknil_computes P code s pc t tmp k ht htmp hk hlent hat, hset2 _, hoth2 _⟩
  · rename_i k x
    cases hem
    have hk : k < 256 := by simpa [shapeOpsOk] using hok
    exact ⟨_, ssk_computes P code s pc t x k ht (hregs x (by simp)) hk hat, hset, hoth⟩
  · rename_i x
    cases hem
    exact ⟨fun v => s.set t v, error_computes P code s pc x (hregs x (by simp)) hat _ _, hset, hoth⟩
  · cases hem

end JanetModel.Spec
