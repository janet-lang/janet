import JanetModel.Bytecode.VMExec
import JanetModel.Gen.Cfuns

/-!
C15 model of the condition guards of specials.c `janetc_if` / `janetc_while`.

Both special forms look at the condition form: `(= nil x)` / `(not= nil x)` (function VALUE in head position, either operand order:
`janetc_check_nil_form`) is replaced by `x` and tested with jump-if-(not-)nil; a constant condition is folded at compile time (`if`: only
one body is compiled, `while`: the loop is dropped or becomes infinite).  `janetc_while` emits the guard at TWO sites: the jump that
leaves the loop, and - when the body creates a closure and the loop is recompiled as a tail-recursive function (`while-iife`) - a jump
over a `JOP_RETURN_NIL`, with the opposite sense.

`guardSel` is the selection as a function of the stripped head (at most ONE head is stripped); `Gen.Cfuns.nilGuardSites` /
`nilConstFolds` are regenerated from the C by symbolic execution of the canonical skeletons, one row per (form, list of stripped heads,
emission site), and compared with `guardSel` (`guardSiteOk`, `constFoldOk`).  Core Lean only.
-/

namespace JanetModel.Spec
open JanetModel.Gen.Bytecode JanetModel.Gen.Cfuns JanetModel.Bytecode.VM

/-- head of a nil test: `JANET_FUN_EQ` / `JANET_FUN_NEQ` -/
inductive NilTag where
  | eq | neq
  deriving DecidableEq, Repr, Inhabited

def NilTag.ofName : String → Option NilTag
  | "EQ" => some .eq
  | "NEQ" => some .neq
  | _ => none

/-- what `janetc_if` / `janetc_while` select after looking at the head of the condition: the jump taken when the condition is FALSE
    (`ifnjmp`), the jump taken when it is TRUE (`ifjmp`, used by the while-iife guard), and the predicate of a constant condition under
    which the condition counts as false -/
structure GuardSel where
  leave : Op
  stay : Op
  constFalse : String
  deriving DecidableEq, Repr, Inhabited

def guardSel : Option NilTag → GuardSel
  | none => ⟨.jumpIfNot, .jumpIf, "falsy"⟩
  | some .eq => ⟨.jumpIfNotNil, .jumpIfNil, "notNil"⟩
  | some .neq => ⟨.jumpIfNil, .jumpIfNotNil, "isNil"⟩

/-- the allowed lists of stripped heads: none or exactly one (`(= nil (not= nil y))` is a comparison of a boolean with nil, not a nil
    test of `y`: only the outer head may be stripped) -/
def pathTag : List String → Option (Option NilTag)
  | [] => some none
  | [n] => (NilTag.ofName n).map some
  | _ => none

/-- a regenerated emission site agrees with the model: opcode by head and sense of the site, literal offset argument (0 = patched later
    to the end of the branch / loop; 2 = over the next instruction), and the `JOP_RETURN_NIL` the iife guard jumps over -/
def guardSiteOk (g : GuardSite) : Bool :=
  match pathTag g.path with
  | none => false
  | some t =>
    if g.site == "main" then g.op == (guardSel t).leave && g.offset == 0
    else if g.site == "iife" then g.form == "while" && g.op == (guardSel t).stay && g.offset == 2 && g.nextOp == some .returnNil
    else false

/-- every (form, stripped heads, site) at which a guard must be emitted, in the translator's order -/
def guardSiteKeys : List (String × List String × String) :=
  [("if", [], "main"), ("if", ["EQ"], "main"), ("if", ["NEQ"], "main"),
   ("while", [], "iife"), ("while", [], "main"), ("while", ["EQ"], "iife"), ("while", ["EQ"], "main"),
   ("while", ["NEQ"], "iife"), ("while", ["NEQ"], "main")]

def constFoldOk (c : ConstFold) : Bool :=
  match pathTag c.path with
  | none => false
  | some t => c.pred == (guardSel t).constFalse && c.role == (if c.form == "if" then "swap" else "never")

def constFoldKeys : List (String × List String) :=
  [("if", []), ("if", ["EQ"]), ("if", ["NEQ"]), ("while", []), ("while", ["EQ"]), ("while", ["NEQ"])]

theorem ofName_name (n : String) (t : NilTag) (h : NilTag.ofName n = some t) : n = (match t with | .eq => "EQ" | .neq => "NEQ") := by
  unfold NilTag.ofName at h
  split at h
  · cases h; rfl
  · cases h; rfl
  · cases h

theorem pathTag_cases (p : List String) (t : Option NilTag) (h : pathTag p = some t) :
    (p = [] ∧ t = none) ∨ ∃ n k, p = [n] ∧ NilTag.ofName n = some k ∧ t = some k := by
  unfold pathTag at h
  split at h
  · exact Or.inl ⟨rfl, (Option.some.inj h).symm⟩
  · rename_i n
    cases hof : NilTag.ofName n with
    | none => rw [hof] at h; cases h
    | some k =>
      rw [hof] at h
      exact Or.inr ⟨n, k, rfl, hof, (Option.some.inj h).symm⟩
  · cases h

theorem guardSiteOk_main (g : GuardSite) (h : guardSiteOk g = true) (hm : g.site = "main") :
    ∃ t, pathTag g.path = some t ∧ g.op = (guardSel t).leave ∧ g.offset = 0 := by
  unfold guardSiteOk at h
  split at h
  · cases h
  · rename_i t ht
    have hb : (g.site == "main") = true := by rw [hm]; decide
    rw [if_pos hb] at h
    simp only [Bool.and_eq_true, beq_iff_eq] at h
    exact ⟨t, ht, h.1, h.2⟩

theorem guardSiteOk_iife (g : GuardSite) (h : guardSiteOk g = true) (hm : g.site ≠ "main") :
    ∃ t, pathTag g.path = some t ∧ g.site = "iife" ∧ g.form = "while" ∧ g.op = (guardSel t).stay ∧ g.offset = 2 ∧ g.nextOp = some .returnNil := by
  unfold guardSiteOk at h
  split at h
  · cases h
  · rename_i t ht
    have hb : ¬ (g.site == "main") = true := by simpa using hm
    rw [if_neg hb] at h
    by_cases hi : (g.site == "iife") = true
    · rw [if_pos hi] at h
      simp only [Bool.and_eq_true, beq_iff_eq] at h
      exact ⟨t, ht, by simpa using hi, h.1.1.1, h.1.1.2, h.1.2, h.2⟩
    · rw [if_neg hi] at h
      cases h

variable (P : Prims)

/-- reading of `VM.step`: is the conditional jump `op` taken when the tested slot holds `x` -/
def jumpTaken (op : Op) (x : P.V) : Bool :=
  match op with
  | .jumpIf => P.truthy x
  | .jumpIfNot => !P.truthy x
  | .jumpIfNil => P.isNil x
  | .jumpIfNotNil => !P.isNil x
  | _ => false

def isCondJump (op : Op) : Bool := op == .jumpIf || op == .jumpIfNot || op == .jumpIfNil || op == .jumpIfNotNil

theorem guard_jump_step (op : Op) (h : isCondJump op = true) (i : Instr) (hi : i.op = op) (f : Frame P) :
    step P i f = some (M.pure (.cont (if jumpTaken P op (getSlot P f i.A) then jumpBy P f i.ES else next P f))) := by
  simp only [isCondJump, Bool.or_eq_true, beq_iff_eq] at h
  rcases h with ((rfl | rfl) | rfl) | rfl <;> simp only [step, hi, jumpTaken]
  · rfl
  · by_cases ht : P.truthy (getSlot P f i.A) = true <;> simp [ht]
  · rfl
  · by_cases ht : P.isNil (getSlot P f i.A) = true <;> simp [ht]

/-- the value of the condition as the UNSPECIALISED evaluation computes it (head applied to nil and `x`, as inline comparison or as a
    call of the generic function - `Props.C15.comparison_emitted_eq_generic`): `x` itself when no head was stripped -/
def condValue (t : Option NilTag) (x : P.V) : M P P.V :=
  match t with
  | none => M.pure x
  | some .eq => binop P .equals P.nil x
  | some .neq => binop P .notEquals P.nil x

def condValueR (t : Option NilTag) (x : P.V) : M P P.V :=
  match t with
  | none => M.pure x
  | some .eq => binop P .equals x P.nil
  | some .neq => binop P .notEquals x P.nil

/-- truth of the condition: `x` truthy / `x` is nil / `x` is not nil -/
def condHolds (t : Option NilTag) (x : P.V) : Bool :=
  match t with
  | none => P.truthy x
  | some .eq => P.isNil x
  | some .neq => !P.isNil x

/-- `condHolds` IS the truthiness of the unspecialised condition value, which is pure (no method call, world unchanged) -/
theorem condValue_truthy (hnil : ∀ x, P.eqv P.nil x = P.isNil x ∧ P.eqv x P.nil = P.isNil x) (t : Option NilTag) (x : P.V) :
    ∃ v, condValue P t x = M.pure v ∧ condValueR P t x = M.pure v ∧ P.truthy v = condHolds P t x := by
  match t with
  | none => exact ⟨x, rfl, rfl, rfl⟩
  | some .eq =>
    refine ⟨ofBool P (P.isNil x), ?_, ?_, truthy_ofBool P _⟩
    · simp only [condValue, eq_eq, (hnil x).1]
    · simp only [condValueR, eq_eq, (hnil x).2]
  | some .neq =>
    refine ⟨ofBool P (!P.isNil x), ?_, ?_, truthy_ofBool P _⟩
    · simp only [condValue, neq_eq_not, (hnil x).1]
    · simp only [condValueR, neq_eq_not, (hnil x).2]

/-- the opcode the unspecialised comparison of a head uses -/
def NilTag.op : NilTag → Op
  | .eq => .equals
  | .neq => .notEquals

def NilTag.name : NilTag → String
  | .eq => "EQ"
  | .neq => "NEQ"

/-- the head named by a tag is a comparison row of `optimizers[]` whose opcode is of the tag's family (so the inline comparison and - by
    `comparison_emitted_eq_generic` - the generic function compute `condValue`) -/
def headRowOk (t : NilTag) : Bool :=
  match optimizers.find? (fun r => r.tagName == t.name) with
  | some r =>
    match r.handler with
    | .compreduce op _ _ => kindOf op == kindOf t.op
    | _ => false
  | none => false

theorem headRow_binop (t : NilTag) (h : headRowOk t = true) :
    ∃ r ∈ optimizers, r.tagName = t.name ∧ ∃ op opim inv, r.handler = .compreduce op opim inv ∧ ∀ a b, binop P op a b = binop P t.op a b := by
  unfold headRowOk at h
  split at h
  · rename_i r hfind
    split at h
    · rename_i op opim inv hh
      refine ⟨r, List.mem_of_find?_eq_some hfind, ?_, op, opim, inv, hh, fun a b => ?_⟩
      · simpa using List.find?_some hfind
      · simp only [beq_iff_eq] at h
        simp only [binop, h]
        cases t <;> rfl
    · cases h
  · cases h

/-- model level: the leaving jump is taken exactly when the condition is false, the staying jump exactly when it is true -/
theorem guardSel_sound (t : Option NilTag) (x : P.V) :
    jumpTaken P (guardSel t).leave x = !condHolds P t x ∧ jumpTaken P (guardSel t).stay x = condHolds P t x ∧
    isCondJump (guardSel t).leave = true ∧ isCondJump (guardSel t).stay = true := by
  match t with
  | none => simp [guardSel, jumpTaken, condHolds, isCondJump]
  | some .eq => simp [guardSel, jumpTaken, condHolds, isCondJump]
  | some .neq => simp [guardSel, jumpTaken, condHolds, isCondJump]

/-- the predicates the constant folding applies (`janet_truthy`, `janet_checktype(.., JANET_NIL)`) -/
def predHolds (p : String) (x : P.V) : Option Bool :=
  if p == "falsy" then some (!P.truthy x)
  else if p == "truthy" then some (P.truthy x)
  else if p == "isNil" then some (P.isNil x)
  else if p == "notNil" then some (!P.isNil x)
  else none

/-- model level: the fold predicate holds of a constant exactly when the condition is false of it - the decision taken at compile
    time is the decision the leaving jump would take at run time -/
theorem guardSel_fold_sound (t : Option NilTag) (x : P.V) :
    predHolds P (guardSel t).constFalse x = some (!condHolds P t x) ∧
    predHolds P (guardSel t).constFalse x = some (jumpTaken P (guardSel t).leave x) := by
  match t with
  | none => simp [guardSel, predHolds, jumpTaken, condHolds]
  | some .eq => simp [guardSel, predHolds, jumpTaken, condHolds]
  | some .neq => simp [guardSel, predHolds, jumpTaken, condHolds]

/-- `janetc_if` on a constant condition: `true` = the then-body is the one that is compiled (the other is thrown away) -/
def ifConstCompilesThen (t : Option NilTag) (c : P.V) : Option Bool := (predHolds P (guardSel t).constFalse c).map (!·)

/-- `janetc_while` on a constant condition: `true` = the loop is compiled (without a guard: infinite), `false` = nothing is emitted -/
def whileConstCompilesLoop (t : Option NilTag) (c : P.V) : Option Bool := (predHolds P (guardSel t).constFalse c).map (!·)

theorem const_compile_sound (t : Option NilTag) (c : P.V) :
    ifConstCompilesThen P t c = some (condHolds P t c) ∧ whileConstCompilesLoop P t c = some (condHolds P t c) := by
  simp [ifConstCompilesThen, whileConstCompilesLoop, (guardSel_fold_sound P t c).1]

/-- the guard of the while loop recompiled as a closure: `jmp<stay> x +2; retn; body...` returns nil when the condition is false and
    enters the body (slots unchanged) when it is true -/
theorem iife_guard_exec (t : Option NilTag) (code : List Instr) (pc : Nat) (i j : Instr) (hi : code[pc]? = some i) (hj : code[pc + 1]? = some j)
    (hop : i.op = (guardSel t).stay) (hoff : i.ES = 2) (hret : j.op = .returnNil) (s : List P.V) (w : P.W) (fuel : Nat) :
    exec P code (fuel + 2) ⟨s, pc⟩ w =
      if condHolds P t (s.getD i.A P.nil) then exec P code (fuel + 1) ⟨s, pc + 2⟩ w else some (.ok P.nil, w) := by
  have hs := guard_jump_step P (guardSel t).stay (guardSel_sound P t P.nil).2.2.2 i hop ⟨s, pc⟩
  rw [(guardSel_sound P t _).2.1] at hs
  have hx : getSlot P ⟨s, pc⟩ i.A = s.getD i.A P.nil := rfl
  rw [hx] at hs
  by_cases hc : condHolds P t (s.getD i.A P.nil) = true
  · simp only [hc, if_true] at hs ⊢
    show exec P code (fuel + 1 + 1) ⟨s, pc⟩ w = _
    rw [exec]
    simp only [hi, hs, M.pure, jumpBy, hoff]
    congr 2
  · simp only [hc] at hs ⊢
    show exec P code (fuel + 1 + 1) ⟨s, pc⟩ w = _
    rw [exec]
    simp only [hi, hs, M.pure, next]
    rw [exec]
    simp [hj, step, hret, M.pure]

/-- the leaving jump of `if` / `while` (offset patched to the else-branch / the end of the loop): goes there exactly when the condition
    is false, else falls into the then-branch / the body -/
theorem leave_guard_step (t : Option NilTag) (i : Instr) (hop : i.op = (guardSel t).leave) (f : Frame P) :
    step P i f = some (M.pure (.cont (if condHolds P t (getSlot P f i.A) then next P f else jumpBy P f i.ES))) := by
  rw [guard_jump_step P (guardSel t).leave (guardSel_sound P t P.nil).2.2.1 i hop f, (guardSel_sound P t _).1]
  by_cases hc : condHolds P t (getSlot P f i.A) = true <;> simp [hc]

end JanetModel.Spec
