import JanetModel.Spec.FixedEmit

/-!
C15: the instruction chain `opreduce` emits for two or more operands - WITH its register operands - run on the caller's slots:
`op(im) t a0 y ; op(im) t t r2 ; op(im) t t r3 ; ...` (cfuns.c `opreduce`: first instruction from `args[0]`, `args[1]` into the target,
then the loop accumulating into the target).  Operands are registers or immediate constants (`can_slot_be_imm`).  This file has the
emitters, what one accumulation instruction does (`acc_step`) and the comparison chain; that the accumulation chain computes
`evalOpreduce` is proved in Spec/Snapshot.lean, once for the interpreter with and without assigning methods.  Core Lean only.
-/

namespace JanetModel.Spec
open JanetModel.Gen.Bytecode JanetModel.Gen.Cfuns JanetModel.Bytecode.VM

/-- a compiled operand as `opreduce` sees it: in a register, or a constant that `can_slot_be_imm` accepts -/
inductive RArg where
  | reg (r : Nat)
  | imm (i : Int)
  deriving DecidableEq, Repr

/-- one accumulation instruction into `t`: `janetc_emit_ssi(c, opim, t, acc, imm, 1)` / `janetc_emit_sss(c, op, t, acc, args[i], 1)`; an
    immediate operand of a row without immediate opcode does not occur (`RArg.ok`), the last branch only makes the function total -/
def accInstr (op : Op) (opim : Option Op) (t acc : Nat) : RArg → Instr
  | .reg r => mkABC op t acc r
  | .imm i => match opim with | some oi => mkABI oi t acc i | none => mkABC op t acc 0

/-- `opreduce` for `args = a0 :: y :: rest` -/
def emitOpreduceCode (op : Op) (opim : Option Op) (t a0 : Nat) (y : RArg) (rest : List RArg) : List Instr :=
  accInstr op opim t a0 y :: rest.map (accInstr op opim t t)

variable (P : Prims)

/-- the operand as the value-level model `Spec.evalOpreduce` sees it -/
def argOf (s : List P.V) : RArg → Arg P
  | .reg r => ⟨s.getD r P.nil, none⟩
  | .imm i => ⟨P.num i, some i⟩

/-- an operand the emitter can encode: 8-bit register; an immediate only if the row has an immediate opcode, within int8 -/
def RArg.ok (opim : Option Op) : RArg → Prop
  | .reg r => r < 256
  | .imm i => opim.isSome ∧ -128 ≤ i ∧ i < 128

def RArg.avoids (t : Nat) : RArg → Prop
  | .reg r => r ≠ t
  | .imm _ => True

theorem acc_step (op : Op) (opim : Option Op) (hop : IsBinOp P op) (himm : ∀ oi, opim = some oi → IsImmOp P oi)
    (s : List P.V) (pc t acc : Nat) (a : RArg) (ht : t < 256) (hacc : acc < 256) (ha : a.ok opim) :
    step P (accInstr op opim t acc a) ⟨s, pc⟩ =
      some (M.bind (stepInline P op opim (s.getD acc P.nil) (argOf P s a)) fun v => cont' P ⟨s.set t v, pc + 1⟩) := by
  cases a with
  | reg r =>
    have hr : r < 256 := ha
    have := hop t acc r ⟨s, pc⟩
    simp only [getSlot, setSlot, next, mkABC_A _ t acc r ht, mkABC_B _ t acc r ht hacc, mkABC_C _ t acc r ht hacc hr] at this
    simp only [accInstr, argOf, stepInline]
    rw [this]
  | imm i =>
    obtain ⟨hsome, hi⟩ := ha
    cases opim with
    | none => simp at hsome
    | some oi =>
      have := himm oi rfl t acc i ⟨s, pc⟩
      simp only [getSlot, setSlot, next, mkABI_A _ t acc i ht, mkABI_B _ t acc i ht hacc, mkABI_CS _ t acc i ht hacc hi] at this
      simp only [accInstr, argOf, stepInline]
      exact this

theorem argOf_set (s : List P.V) (t : Nat) (v : P.V) (a : RArg) (h : a.avoids t) : argOf P (s.set t v) a = argOf P s a := by
  cases a with
  | reg r => simp only [argOf, getD_set_ne P s t r v h]
  | imm i => rfl

/-! ### `compreduce`: the comparison chain with its conditional jumps to the end

`cmp t a0 r1 ; jmp(n)o t END ; cmp t r1 r2 ; jmp(n)o t END ; ... ; cmp t r(n-2) last ; END:` - the operands between the first and the
last are registers (a constant there is first loaded into a scratch register by emit.c: not modelled); the last may be an immediate. -/

/-- `compreduce` for `args = a :: mids ++ [last]` (at least two operands) -/
def emitCompreduceCode (op : Op) (opim : Option Op) (invert : Bool) (t : Nat) : Nat → List Nat → RArg → List Instr
  | a, [], last => [accInstr op opim t a last]
  | a, m :: mids, last =>
    accInstr op opim t a (.reg m) :: mkAI (if invert then .jumpIf else .jumpIfNot) t (2 * mids.length + 2 : Nat) ::
      emitCompreduceCode op opim invert t m mids last

theorem emitCompreduceCode_length (op : Op) (opim : Option Op) (invert : Bool) (t a : Nat) (mids : List Nat) (last : RArg) :
    (emitCompreduceCode op opim invert t a mids last).length = 2 * mids.length + 1 := by
  induction mids generalizing a with
  | nil => rfl
  | cons m mids ih => simp only [emitCompreduceCode, List.length_cons, ih]; omega


/-- value-level meaning of that chain, following the recursion of the emitter -/
def cmpSem (op : Op) (opim : Option Op) (invert : Bool) (s : List P.V) : P.V → List Nat → RArg → M P P.V
  | a, [], last => stepInline P op opim a (argOf P s last)
  | a, m :: mids, last =>
    M.bind (stepInline P op opim a (argOf P s (.reg m))) fun v =>
      if P.truthy v == invert then M.pure v else cmpSem op opim invert s (s.getD m P.nil) mids last

theorem cmpSem_eq_goInline (op : Op) (opim : Option Op) (invert : Bool) (s : List P.V) (a : P.V) (m : Nat) (mids : List Nat) (last : RArg) :
    cmpSem P op opim invert s a (m :: mids) last =
      goInline P op opim invert a (argOf P s (.reg m)) (mids.map (fun r => argOf P s (.reg r)) ++ [argOf P s last]) := by
  induction mids generalizing a m with
  | nil => simp only [cmpSem, List.map_nil, List.nil_append, goInline, argOf]
  | cons m' mids ih =>
    simp only [cmpSem, List.map_cons, List.cons_append, goInline]
    congr 1
    funext v
    rw [← ih]
    simp only [cmpSem, argOf]

theorem step_jumpIfNot' (i : Instr) (f : Frame P) (h : i.op = .jumpIfNot) :
    step P i f = some (cont' P (if P.truthy (getSlot P f i.A) then next P f else jumpBy P f i.ES)) := step_jumpIfNot P i f h

/-- the conditional jump after a comparison leaves the chain exactly when `truthy t == invert` -/
theorem cmp_jump_step (invert : Bool) (s : List P.V) (pc t : Nat) (k : Nat) (ht : t < 256) (hk : k < 32768) (hlen : t < s.length) (v : P.V) :
    step P (mkAI (if invert then .jumpIf else .jumpIfNot) t (k : Nat)) ⟨s.set t v, pc⟩ =
      some (cont' P (if P.truthy v == invert then ⟨s.set t v, pc + k⟩ else ⟨s.set t v, pc + 1⟩)) := by
  have hA : ∀ o, (mkAI o t (k : Nat)).A = t := fun o => mkAI_A o t _ ht
  have hE : ∀ o, (mkAI o t (k : Nat)).ES = (k : Int) := fun o => mkAI_ES o t _ ht (by omega)
  have hj : (Int.ofNat pc + ((k : Nat) : Int)).toNat = pc + k := by
    simp only [Int.ofNat_eq_natCast]
    omega
  cases invert with
  | true =>
    simp only [if_true]
    rw [step_jumpIf P _ _ rfl]
    simp only [getSlot, hA, hE, getD_set_self P s t v hlen, next, jumpBy, hj]
    cases P.truthy v <;> simp
  | false =>
    simp only [Bool.false_eq_true, if_false]
    rw [step_jumpIfNot P _ _ rfl]
    simp only [getSlot, hA, hE, getD_set_self P s t v hlen, next, jumpBy, hj]
    cases P.truthy v <;> simp

theorem cmpSem_set (op : Op) (opim : Option Op) (invert : Bool) (s : List P.V) (t : Nat) (v : P.V) (last : RArg) (hl : last.avoids t) :
    ∀ (mids : List Nat) (x : P.V), (∀ r ∈ mids, r ≠ t) →
      cmpSem P op opim invert (s.set t v) x mids last = cmpSem P op opim invert s x mids last
  | [], x, _ => by simp only [cmpSem, argOf_set P s t v last hl]
  | m :: mids, x, h => by
    rw [List.forall_mem_cons] at h
    simp only [cmpSem, argOf_set P s t v (.reg m) h.1, getD_set_ne P s t m v h.1]
    congr 1
    funext u
    rw [cmpSem_set op opim invert s t v last hl mids _ h.2]

/-- the whole chain `compreduce` emits for `a :: mids ++ [last]` - comparisons into the target register with a conditional jump to the
    end after every comparison but the last - computes `cmpSem`, the value-level model `goInline` on the operand list (`cmpSem_eq_goInline`): the result of the first comparison whose
    truthiness equals `invert`, else of the last one; operands are compared left to right and nothing after the deciding comparison runs.
    The first operand may live in the target; the others must not (`reduce_target(opts, args, 1)`). -/
theorem cmp_chain_computes (op : Op) (opim : Option Op) (invert : Bool) (hop : IsBinOp P op) (himm : ∀ oi, opim = some oi → IsImmOp P oi)
    (code : List Instr) (t : Nat) (ht : t < 256) (mids : List Nat) (last : RArg)
    (hm : ∀ r ∈ mids, r < 256 ∧ r ≠ t) (hl : last.ok opim ∧ last.avoids t) (hsz : mids.length < 16000)
    (s : List P.V) (hlen : t < s.length) (pc a : Nat) (ha : a < 256)
    (hat : HasAt code pc (emitCompreduceCode op opim invert t a mids last)) :
    Computes P code s pc (2 * mids.length + 1) (cmpSem P op opim invert s (s.getD a P.nil) mids last) (fun v => s.set t v)
      (pc + (2 * mids.length + 1)) := by
  induction mids generalizing s pc a with
  | nil => exact Computes.store P code s pc _ t _ hat.head (acc_step P op opim hop himm s pc t a last ht ha hl.1)
  | cons m mids ih =>
    rw [List.forall_mem_cons] at hm
    rw [List.length_cons] at hsz
    rw [show 2 * (m :: mids).length + 1 = 2 * mids.length + 1 + 1 + 1 from rfl]
    -- the comparison, then from `⟨s.set t v, pc + 1⟩` the jump and the rest of the chain
    refine Computes.bind P code s pc 1 (2 * mids.length + 1 + 1) (stepInline P op opim (s.getD a P.nil) (argOf P s (.reg m)))
      (fun v => if P.truthy v == invert then M.pure v else cmpSem P op opim invert s (s.getD m P.nil) mids last) (fun v => s.set t v) _
      (pc + 1) _ (Computes.store P code s pc _ t _ hat.head (acc_step P op opim hop himm s pc t a (.reg m) ht ha hm.1.1)) fun v => ?_
    have hjump := cmp_jump_step P invert s (pc + 1) t (2 * mids.length + 2) ht (by omega) hlen v
    by_cases hv : (P.truthy v == invert) = true
    · -- early exit: the jump goes to the end
      rw [if_pos hv] at hjump ⊢
      refine Computes.pure P code _ _ _ v _ _ fun fuel w r hr => ?_
      rw [← Nat.add_assoc, exec_goto P code _ _ _ w _ hat.tail.head hjump,
        show pc + 1 + (2 * mids.length + 2) = pc + (2 * mids.length + 1 + 1 + 1) by omega]
      exact exec_mono P code fuel _ w r hr _ (by omega)
    · rw [if_neg hv] at hjump ⊢
      refine Computes.after P code _ _ (pc + 1) _ _ _ _ _ hat.tail.head hjump ?_
      have ih' := ih hm.2 (by omega) (s.set t v) (by simpa using hlen) (pc + 1 + 1) m hm.1.1 hat.tail.tail
      rw [cmpSem_set P op opim invert s t v last hl.2 mids _ (fun r hr => (hm.2 r hr).2), getD_set_ne P s t m v hm.1.2,
        show pc + 1 + 1 + (2 * mids.length + 1) = pc + (2 * mids.length + 1 + 1 + 1) by omega] at ih'
      simp only [List.set_set] at ih'
      exact ih'

end JanetModel.Spec
