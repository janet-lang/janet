import JanetModel.Bytecode.VMCall
import JanetModel.Spec.Apply

/-!
C15: operand loads of emit.c.  A specialisation hands `JanetSlot`s to `janetc_emit_sss` / `_ssi` / `_ss`; a slot that is not a local
register below 256 is first brought into a temporary register (`janetc_regnear` -> `janetc_movenear` -> `janetc_loadconst`):

  far local (index > 255)        movn  tmp far
  constant nil / true / false    ldn / ldt / ldf tmp
  constant small integer         ldi   tmp i            (int16, not -0.0)
  any other constant             ldc   tmp k
  upvalue                        ldu   tmp env index

and the instruction then names `tmp`.  (A `JANET_SLOT_REF` operand - a top-level `var` - is `ldc tmp k ; geti tmp tmp 0`; it is not
modelled here.)  The target of `opreduce` / `compreduce` / the fixed-arity handlers comes from `janetc_gettarget` and is always a
near local register, so only SOURCE operands are loaded.  The temporaries are hypotheses (free registers: the register allocator is not modelled).  Core Lean only.
-/

namespace JanetModel.Spec
open JanetModel.Gen.Bytecode JanetModel.Bytecode.VM

/-- a source operand as emit.c sees it -/
inductive Opd where
  | near (r : Nat)
  | far (r : Nat)
  | nil | tru | fls
  | int (i : Int)
  | const (k : Nat)
  | upv (env idx : Nat)
  deriving DecidableEq, Repr, Inhabited

/-- `janetc_movenear(c, d, slot)` for a slot `janetc_regnear` does not use in place: exactly one instruction -/
def loadInstr (d : Nat) : Opd → Option Instr
  | .near _ => none
  | .far r => some (mkAE .moveNear d r)
  | .nil => some (mkD .loadNil d)
  | .tru => some (mkD .loadTrue d)
  | .fls => some (mkD .loadFalse d)
  | .int i => some (mkAI .loadInteger d i)
  | .const k => some (mkAE .loadConstant d k)
  | .upv e i => some (mkABC .loadUpvalue d e i)

/-- `janetc_regnear(c, slot, tag)`: the register the instruction will name and the instructions emitted before it -/
def regnear (tmp : Nat) (o : Opd) : Nat × List Instr :=
  match o with
  | .near r => (r, [])
  | o => (tmp, (loadInstr tmp o).toList)

/-- operand encodable: registers / indices within their fields, `ldi` within int16 -/
def Opd.ok : Opd → Prop
  | .near r => r < 256
  | .far r => r < 65536
  | .int i => -32768 ≤ i ∧ i < 32768
  | .const k => k < 65536
  | .upv e i => e < 256 ∧ i < 256
  | _ => True

def Opd.reads (t : Nat) : Opd → Prop
  | .near r => r = t
  | .far r => r = t
  | _ => False

variable {P : Prims}

/-- value of the operand in the current slots and world (an upvalue lives in the enclosing activation: the world) -/
def opdVal (X : CallPrims P) (s : List P.V) (w : P.W) : Opd → P.V
  | .near r => s.getD r P.nil
  | .far r => s.getD r P.nil
  | .nil => P.nil
  | .tru => P.tru
  | .fls => P.fls
  | .int i => P.num i
  | .const k => X.constant k
  | .upv e i => X.loadUpvalue e i w

/-- one load instruction: the temporary receives the operand's value; slots otherwise, pending arguments and world unchanged -/
theorem load_step (X : CallPrims P) (cap : Nat → Bool) (d : Nat) (hd : d < 256) (o : Opd) (ho : o.ok) (i : Instr) (hi : loadInstr d o = some i)
    (s a : List P.V) (pc : Nat) (w : P.W) :
    (stepX X cap i ⟨s, a, pc⟩).map (fun m => m w) = some (.ok (.cont ⟨s.set d (opdVal X s w o), a, pc + 1⟩), w) := by
  cases o with
  | near r => cases hi
  | far r =>
    cases hi
    exact stepX_cont X cap _ s a pc _ w rfl (stepc_moveNear P d r hd ho s pc)
  | nil =>
    cases hi
    exact stepX_cont X cap _ s a pc _ w rfl (stepc_loadNil P d (by omega) s pc)
  | tru =>
    cases hi
    exact stepX_cont X cap _ s a pc _ w rfl (stepc_loadTrue P d (by omega) s pc)
  | fls =>
    cases hi
    exact stepX_cont X cap _ s a pc _ w rfl (stepc_loadFalse P d (by omega) s pc)
  | int n =>
    cases hi
    exact stepX_cont X cap _ s a pc _ w rfl (stepc_loadInteger P d n hd ho s pc)
  | const k =>
    cases hi
    have hk : k < 65536 := ho
    simp [stepX, callCore, mkAE_A _ d k hd, mkAE_E _ d k hd hk, M.map, M.bind, M.pure, placeX, opdVal]
  | upv e j =>
    cases hi
    obtain ⟨he, hj⟩ : e < 256 ∧ j < 256 := ho
    simp [stepX, callCore, mkABC_A _ d e j hd, mkABC_B _ d e j hd he, mkABC_C _ d e j hd he hj, M.map, M.bind, M.pure, placeX, opdVal]

/-- `janetc_regnear` as emitted: after the (zero or one) instructions it emits, the register it returns holds the operand's value; only
    the temporary changed; the run continues behind them in the same world with the same pending arguments -/
theorem regnear_exec (X : CallPrims P) (cap : Nat → Bool) (tmp : Nat) (htmp : tmp < 256) (o : Opd) (ho : o.ok) (code : List Instr) (pc : Nat)
    (hat : HasAt code pc (regnear tmp o).2) (s a : List P.V) (hlen : tmp < s.length) (w : P.W) (fuel : Nat) :
    ∃ s', execX X cap code (fuel + (regnear tmp o).2.length) ⟨s, a, pc⟩ w = execX X cap code fuel ⟨s', a, pc + (regnear tmp o).2.length⟩ w ∧
      s'.getD (regnear tmp o).1 P.nil = opdVal X s w o ∧ s'.length = s.length ∧ ∀ k, k ≠ tmp → s'.getD k P.nil = s.getD k P.nil := by
  cases hl : loadInstr tmp o with
  | none =>
    cases o <;> simp [loadInstr] at hl
    rename_i r
    exact ⟨s, by simp [regnear], by simp [regnear, opdVal], rfl, fun _ _ => rfl⟩
  | some i =>
    have hreg : regnear tmp o = (tmp, [i]) := by
      cases o <;> simp [loadInstr] at hl <;> simp [regnear, loadInstr, hl]
    rw [hreg] at hat ⊢
    have hstep := load_step X cap tmp htmp o ho i hl s a pc w
    refine ⟨s.set tmp (opdVal X s w o), ?_, ?_, by simp, fun k hk => ?_⟩
    · simp only [List.length_singleton]
      cases hs : stepX X cap i ⟨s, a, pc⟩ with
      | none => rw [hs] at hstep; cases hstep
      | some m =>
        rw [hs] at hstep
        have hm : m w = (.ok (.cont ⟨s.set tmp (opdVal X s w o), a, pc + 1⟩), w) := Option.some.inj hstep
        rw [execX_succ X cap code fuel ⟨s, a, pc⟩ w i m hat.head hs, hm]
    · exact getD_set_self P s tmp _ hlen
    · exact getD_set_ne P s tmp k _ hk

/-- an operand's value depends on the slots only through the register it is read from -/
theorem opdVal_congr (X : CallPrims P) (s s' : List P.V) (w : P.W) (o : Opd) (h : ∀ k, o.reads k → s'.getD k P.nil = s.getD k P.nil) :
    opdVal X s' w o = opdVal X s w o := by
  cases o <;> first | rfl | exact h _ rfl

theorem opdVal_set (X : CallPrims P) (s : List P.V) (w : P.W) (t : Nat) (v : P.V) (o : Opd) (h : ¬ o.reads t) :
    opdVal X (s.set t v) w o = opdVal X s w o :=
  opdVal_congr X s _ w o fun k hk => getD_set_ne P s t k v fun e => h (e ▸ hk)

/-- the operand loads of a three-operand emit (`janetc_emit_sss(c, op, t, x, y, 1)` with `t` a near register): after the loads for `x`
    (into `t1`) and `y` (into `t2`) the registers `rx`, `ry` the instruction names hold the operands' values and every register other than
    the two temporaries is unchanged - the group is the plain register instruction `op t rx ry` on the operands' values.
    Side conditions = the temporaries are free registers: distinct, and not registers the operands are read from. -/
theorem operands_loaded (X : CallPrims P) (cap : Nat → Bool) (t1 t2 : Nat) (h1 : t1 < 256) (h2 : t2 < 256) (hne : t1 ≠ t2)
    (x y : Opd) (hx : x.ok) (hy : y.ok) (hx2 : ¬ x.reads t2) (hy1 : ¬ y.reads t1)
    (code : List Instr) (pc : Nat) (hat : HasAt code pc ((regnear t1 x).2 ++ (regnear t2 y).2))
    (s a : List P.V) (hl1 : t1 < s.length) (hl2 : t2 < s.length) (w : P.W) (fuel : Nat) :
    let n := (regnear t1 x).2.length + (regnear t2 y).2.length
    ∃ s', execX X cap code (fuel + n) ⟨s, a, pc⟩ w = execX X cap code fuel ⟨s', a, pc + n⟩ w ∧
      s'.getD (regnear t1 x).1 P.nil = opdVal X s w x ∧ s'.getD (regnear t2 y).1 P.nil = opdVal X s w y ∧ s'.length = s.length ∧
      ∀ k, k ≠ t1 → k ≠ t2 → s'.getD k P.nil = s.getD k P.nil := by
  intro n
  obtain ⟨sa, hea, hva, hla, hfa⟩ := regnear_exec X cap t1 h1 x hx code pc hat.append_left s a hl1 w (fuel + (regnear t2 y).2.length)
  obtain ⟨sb, heb, hvb, hlb, hfb⟩ := regnear_exec X cap t2 h2 y hy code _ hat.append_right sa a (by omega) w fuel
  refine ⟨sb, ?_, ?_, ?_, by omega, fun k hk1 hk2 => by rw [hfb k hk2, hfa k hk1]⟩
  · show execX X cap code (fuel + ((regnear t1 x).2.length + (regnear t2 y).2.length)) ⟨s, a, pc⟩ w = _
    rw [show fuel + ((regnear t1 x).2.length + (regnear t2 y).2.length) = fuel + (regnear t2 y).2.length + (regnear t1 x).2.length by omega,
      hea, heb, Nat.add_assoc]
  · -- x's register is not y's temporary
    have hrx : (regnear t1 x).1 ≠ t2 := by
      cases x <;> simp only [regnear] <;> first | exact hne | (intro h; exact hx2 h)
    rw [hfb _ hrx, hva]
  · rw [hvb]
    -- y is evaluated in `sa`, which differs from `s` only in t1, which y does not read
    exact opdVal_congr X s sa w y fun k hk => hfa k fun e => hy1 (e ▸ hk)

end JanetModel.Spec
