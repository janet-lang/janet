import JanetModel.Spec.Apply

/-!
C15: the call site (compile.c `janetc_call`).  When is the specialisation used (`selectSpecialised`: constant function
head, NO spliced argument, tagged function, arity guard), and what the generic route emits otherwise: `janetc_pushslots`
(pushes in groups of three / two / one, `JOP_PUSH_ARRAY` for a spliced slot) followed by `JOP_CALL` / `JOP_TAILCALL` of the
function VALUE.  A call with a splice, `(f ;xs)`, therefore always goes through the generic function value.
`Pushes` says what a segment of pushes leaves pending; `Pushes.tailcall` / `.call` add the call instruction.  The code `do_apply`
emits (Spec/Apply.lean) is the spliced call `(f a.. ;xs)`: `apply_pushes`, `apply_inline_tail`, `apply_inline_call`.  Core Lean only.
-/

namespace JanetModel.Spec
open JanetModel.Gen.Bytecode JanetModel.Gen.Cfuns JanetModel.Bytecode.VM

/-- an argument slot of a call: its register and `JANET_SLOT_SPLICED` -/
structure SArg where
  reg : Nat
  spliced : Bool
  deriving DecidableEq, Repr

/-- `has_spliced(slots)` -/
def hasSpliced (l : List SArg) : Bool := l.any (·.spliced)

/-- `janetc_funopt(flags)`: the row for a function tag (0 = untagged) -/
def funopt (tag : Nat) : Option OptRow := if tag = 0 then none else optimizers[tag - 1]?

/-- the selection block of `janetc_call`: `head` = `some tag` when the head slot is a constant that is a janet function with
    that tag.  Returns the row whose handler compiles the call, `none` = generic route -/
def selectSpecialised (head : Option Nat) (args : List SArg) : Option OptRow :=
  match head with
  | none => none
  | some tag =>
    if hasSpliced args then none
    else match funopt tag with
      | none => none
      | some r => if guardOk r.guard args.length then some r else none

/-- `janetc_pushslots` -/
def pushSlots : List SArg → List Instr
  | [] => []
  | [a] => if a.spliced then [mkD .pushArray a.reg] else [mkD .push a.reg]
  | [a, b] =>
    if a.spliced then mkD .pushArray a.reg :: pushSlots [b]
    else if b.spliced then [mkD .push a.reg, mkD .pushArray b.reg]
    else [mkAE .push2 a.reg b.reg]
  | a :: b :: c :: rest =>
    if a.spliced then mkD .pushArray a.reg :: pushSlots (b :: c :: rest)
    else if b.spliced then mkD .push a.reg :: mkD .pushArray b.reg :: pushSlots (c :: rest)
    else if c.spliced then mkAE .push2 a.reg b.reg :: mkD .pushArray c.reg :: pushSlots rest
    else mkABC .push3 a.reg b.reg c.reg :: pushSlots rest

/-- the generic route of `janetc_call`: push the argument slots, call the function value -/
def emitGenericCall (f : Nat) (args : List SArg) (tail : Option Nat) : List Instr :=
  pushSlots args ++ [match tail with | none => mkD .tailcall f | some target => mkAE .call target f]

variable {P : Prims}

/-- the argument list a call receives: register values, with the elements of spliced ones in place; the first spliced value that
    is not indexed raises -/
def argVals (X : CallPrims P) (s : List P.V) : List SArg → Except P.E (List P.V)
  | [] => .ok []
  | a :: rest =>
    if a.spliced then
      match X.indexedView (getS P s a.reg) with
      | none => .error (X.notIndexed (getS P s a.reg))
      | some l => match argVals X s rest with
        | .ok vs => .ok (l ++ vs)
        | .error e => .error e
    else match argVals X s rest with
      | .ok vs => .ok (getS P s a.reg :: vs)
      | .error e => .error e

theorem pushArray_exec (X : CallPrims P) (cap) (code : List Instr) (s a : List P.V) (pc fuel : Nat) (w : P.W) (r : Nat)
    (hr : r < 16777216) (hc : code[pc]? = some (mkD .pushArray r)) :
    execX X cap code (fuel + 1) ⟨s, a, pc⟩ w =
      match X.indexedView (getS P s r) with
      | none => some (.error (X.notIndexed (getS P s r)), w)
      | some l => execX X cap code fuel ⟨s, a ++ l, pc + 1⟩ w := by
  rw [execX_succ X cap code fuel ⟨s, a, pc⟩ w _ _ hc (stepX_pushArray X cap r _)]
  simp only [mkD_D _ r hr]
  cases X.indexedView (getS P s r) <;> rfl

theorem push_exec (X : CallPrims P) (cap) (code : List Instr) (s a : List P.V) (pc fuel : Nat) (w : P.W) (r : Nat) (hr : r < 256)
    (hc : code[pc]? = some (mkD .push r)) :
    execX X cap code (fuel + 1) ⟨s, a, pc⟩ w = execX X cap code fuel ⟨s, a ++ [getS P s r], pc + 1⟩ w := by
  rw [execX_succ X cap code fuel ⟨s, a, pc⟩ w _ _ hc (stepX_push X cap r _)]
  simp only [mkD_D _ r (by omega : r < 16777216), M.pure]

theorem push2_exec (X : CallPrims P) (cap) (code : List Instr) (s a : List P.V) (pc fuel : Nat) (w : P.W) (r1 r2 : Nat) (h1 : r1 < 256)
    (h2 : r2 < 256) (hc : code[pc]? = some (mkAE .push2 r1 r2)) :
    execX X cap code (fuel + 1) ⟨s, a, pc⟩ w = execX X cap code fuel ⟨s, a ++ [getS P s r1, getS P s r2], pc + 1⟩ w := by
  rw [execX_succ X cap code fuel ⟨s, a, pc⟩ w _ _ hc (stepX_push2 X cap r1 r2 _)]
  simp only [mkAE_A _ r1 r2 h1, mkAE_E _ r1 r2 h1 (by omega), M.pure]

theorem push3_exec (X : CallPrims P) (cap) (code : List Instr) (s a : List P.V) (pc fuel : Nat) (w : P.W) (r1 r2 r3 : Nat) (h1 : r1 < 256)
    (h2 : r2 < 256) (h3 : r3 < 256) (hc : code[pc]? = some (mkABC .push3 r1 r2 r3)) :
    execX X cap code (fuel + 1) ⟨s, a, pc⟩ w = execX X cap code fuel ⟨s, a ++ [getS P s r1, getS P s r2, getS P s r3], pc + 1⟩ w := by
  rw [execX_succ X cap code fuel ⟨s, a, pc⟩ w _ _ hc (stepX_push3 X cap r1 r2 r3 _)]
  simp only [mkABC_A _ r1 r2 r3 h1, mkABC_B _ r1 r2 r3 h1 h2, mkABC_C _ r1 r2 r3 h1 h2 h3, M.pure]

/-- the pushes `seg` leave `argVals` of the slots `g` pending -/
def Pushes (X : CallPrims P) (cap : Nat → Bool) (code : List Instr) (s : List P.V) (seg : List Instr) (g : List SArg) : Prop :=
  ∀ (a : List P.V) (pc fuel : Nat) (w : P.W), HasAt code pc seg →
    execX X cap code (fuel + seg.length) ⟨s, a, pc⟩ w =
      match argVals X s g with
      | .error e => some (.error e, w)
      | .ok vs => execX X cap code fuel ⟨s, a ++ vs, pc + seg.length⟩ w

def PushRuns (X : CallPrims P) (cap : Nat → Bool) (code : List Instr) (s : List P.V) (l : List SArg) : Prop :=
  Pushes X cap code s (pushSlots l) l

theorem argVals_append (X : CallPrims P) (s : List P.V) (g1 g2 : List SArg) :
    argVals X s (g1 ++ g2) =
      match argVals X s g1 with
      | .error e => .error e
      | .ok v1 => match argVals X s g2 with
        | .ok v2 => .ok (v1 ++ v2)
        | .error e => .error e := by
  induction g1 with
  | nil => cases h : argVals X s g2 <;> simp only [List.nil_append, argVals, h]
  | cons x g1 ih =>
    simp only [List.cons_append, argVals, ih]
    cases x.spliced <;> cases X.indexedView (getS P s x.reg) <;> cases argVals X s g1 <;> cases argVals X s g2 <;>
      simp only [Bool.false_eq_true, if_true, if_false, List.cons_append, List.append_assoc]

namespace Pushes
variable {X : CallPrims P} {cap : Nat → Bool} {code : List Instr} {s : List P.V}

theorem nil : Pushes X cap code s [] [] := fun a pc fuel w _ => by simp only [argVals, List.length_nil, Nat.add_zero, List.append_nil]

theorem append {seg1 seg2 : List Instr} {g1 g2 : List SArg} (h1 : Pushes X cap code s seg1 g1) (h2 : Pushes X cap code s seg2 g2) :
    Pushes X cap code s (seg1 ++ seg2) (g1 ++ g2) := by
  intro a pc fuel w hat
  rw [List.length_append, show fuel + (seg1.length + seg2.length) = (fuel + seg2.length) + seg1.length by omega,
    h1 a pc _ w hat.append_left, argVals_append]
  cases argVals X s g1 with
  | error e => rfl
  | ok v1 =>
    dsimp only
    rw [h2 (a ++ v1) (pc + seg1.length) fuel w hat.append_right]
    cases argVals X s g2 <;> simp only [List.append_assoc, Nat.add_assoc]

theorem array (x : SArg) (h : x.spliced = true) (hr : x.reg < 16777216) : Pushes X cap code s [mkD .pushArray x.reg] [x] := by
  intro a pc fuel w hat
  refine (pushArray_exec X cap code s a pc fuel w x.reg hr hat.head).trans ?_
  simp only [argVals, h, if_true]
  cases X.indexedView (getS P s x.reg) <;> simp only [List.append_nil, List.length_singleton]

theorem one (x : SArg) (h : ¬ x.spliced = true) (hr : x.reg < 256) : Pushes X cap code s [mkD .push x.reg] [x] := by
  intro a pc fuel w hat
  refine (push_exec X cap code s a pc fuel w x.reg hr hat.head).trans ?_
  simp only [argVals, h, Bool.false_eq_true, if_false, List.length_singleton]

theorem two (x y : SArg) (hx : ¬ x.spliced = true) (hy : ¬ y.spliced = true) (hrx : x.reg < 256) (hry : y.reg < 256) :
    Pushes X cap code s [mkAE .push2 x.reg y.reg] [x, y] := by
  intro a pc fuel w hat
  refine (push2_exec X cap code s a pc fuel w x.reg y.reg hrx hry hat.head).trans ?_
  simp only [argVals, hx, hy, Bool.false_eq_true, if_false, List.length_singleton]

theorem three (x y z : SArg) (hx : ¬ x.spliced = true) (hy : ¬ y.spliced = true) (hz : ¬ z.spliced = true) (hrx : x.reg < 256)
    (hry : y.reg < 256) (hrz : z.reg < 256) : Pushes X cap code s [mkABC .push3 x.reg y.reg z.reg] [x, y, z] := by
  intro a pc fuel w hat
  refine (push3_exec X cap code s a pc fuel w x.reg y.reg z.reg hrx hry hrz hat.head).trans ?_
  simp only [argVals, hx, hy, hz, Bool.false_eq_true, if_false, List.length_singleton]

/-- pushes, then `JOP_TAILCALL f`: one call of the VALUE in register `f` on the pending arguments -/
theorem tailcall {seg : List Instr} {g : List SArg} (h : Pushes X cap code s seg g) (f : Nat) (hf : f < 16777216) (pc : Nat)
    (hat : HasAt code pc (seg ++ [mkD .tailcall f])) (w : P.W) :
    execX X cap code (seg.length + 1) ⟨s, [], pc⟩ w =
      match argVals X s g with
      | .error e => some (.error e, w)
      | .ok vs => some (retOf (X.call (getS P s f) vs (view P cap s) w)) := by
  rw [Nat.add_comm, h [] pc 1 w hat.append_left]
  cases argVals X s g with
  | error e => rfl
  | ok vs =>
    simp only [List.nil_append]
    rw [execX_succ X cap code 0 _ w _ _ hat.append_right.head (stepX_tailcall X cap f _)]
    simp only [M.bind, M.pure, mkD_D _ f hf]
    rcases X.call (getS P s f) vs (view P cap s) w with ⟨(_ | _), _⟩ <;> rfl

/-- pushes, then `JOP_CALL target f`: the same call; the run goes on behind it with the result in `target` (and the callee's
    updates of the captured slots) -/
theorem call {seg : List Instr} {g : List SArg} (h : Pushes X cap code s seg g) (target f : Nat) (ht : target < 256) (hf : f < 65536) (pc : Nat)
    (hat : HasAt code pc (seg ++ [mkAE .call target f])) (fuel : Nat) (w : P.W) :
    execX X cap code (fuel + 1 + seg.length) ⟨s, [], pc⟩ w =
      match argVals X s g with
      | .error e => some (.error e, w)
      | .ok vs =>
        match X.call (getS P s f) vs (view P cap s) w with
        | (.error e, w') => some (.error e, w')
        | (.ok r, w') => execX X cap code fuel ⟨(merge P cap s r.2).set target r.1, [], pc + seg.length + 1⟩ w' := by
  rw [h [] pc (fuel + 1) w hat.append_left]
  cases argVals X s g with
  | error e => rfl
  | ok vs =>
    simp only [List.nil_append]
    rw [execX_succ X cap code fuel _ w _ _ hat.append_right.head (stepX_call X cap target f _)]
    simp only [M.bind, M.pure, mkAE_A _ target f ht, mkAE_E _ target f ht hf]
    rcases X.call (getS P s f) vs (view P cap s) w with ⟨(_ | _), _⟩ <;> rfl

end Pushes

/-- `janetc_pushslots`: the emitted pushes leave exactly `argVals` pending (or raise the not-indexed error of the first bad splice),
    for every mix of plain and spliced argument slots -/
theorem pushSlots_exec (X : CallPrims P) (cap : Nat → Bool) (code : List Instr) (s : List P.V) :
    ∀ (l : List SArg), (∀ x ∈ l, x.reg < 256) → PushRuns X cap code s l := by
  intro l
  -- every branch of `janetc_pushslots` emits the pushes of a leading group of slots and goes on with the rest
  induction l using pushSlots.induct with
  | case1 => exact fun _ => Pushes.nil (X := X)
  | case2 a h =>
    intro hr
    simp only [List.forall_mem_cons] at hr
    simp only [PushRuns, pushSlots, h, if_true]
    exact Pushes.array a h (by omega)
  | case3 a h =>
    intro hr
    simp only [List.forall_mem_cons] at hr
    simp only [PushRuns, pushSlots, h]
    exact Pushes.one a h hr.1
  | case4 a b h ih =>
    intro hr
    simp only [List.forall_mem_cons] at hr
    simp only [PushRuns, pushSlots, h, if_true]
    exact (Pushes.array a h (by omega)).append (ih (by simpa only [List.forall_mem_cons] using hr.2))
  | case5 a b ha hb =>
    intro hr
    simp only [List.forall_mem_cons] at hr
    simp only [PushRuns, pushSlots, ha, hb, if_true]
    exact (Pushes.one a ha hr.1).append (Pushes.array b hb (by omega))
  | case6 a b ha hb =>
    intro hr
    simp only [List.forall_mem_cons] at hr
    simp only [PushRuns, pushSlots, ha, hb]
    exact Pushes.two a b ha hb hr.1 hr.2.1
  | case7 a b c rest h ih =>
    intro hr
    rw [List.forall_mem_cons] at hr
    simp only [PushRuns, pushSlots, h, if_true]
    exact (Pushes.array a h (by omega)).append (ih hr.2)
  | case8 a b c rest ha hb ih =>
    intro hr
    rw [List.forall_mem_cons, List.forall_mem_cons] at hr
    simp only [PushRuns, pushSlots, ha, hb, if_true]
    exact (Pushes.one a ha hr.1).append ((Pushes.array b hb (by omega)).append (ih hr.2.2))
  | case9 a b c rest ha hb hc ih =>
    intro hr
    rw [List.forall_mem_cons, List.forall_mem_cons, List.forall_mem_cons] at hr
    simp only [PushRuns, pushSlots, ha, hb, hc, if_true]
    exact (Pushes.two a b ha hb hr.1 hr.2.1).append ((Pushes.array c hc (by omega)).append (ih hr.2.2.2))
  | case10 a b c rest ha hb hc ih =>
    intro hr
    rw [List.forall_mem_cons, List.forall_mem_cons, List.forall_mem_cons] at hr
    simp only [PushRuns, pushSlots, ha, hb, hc]
    exact (Pushes.three a b c ha hb hc hr.1 hr.2.1 hr.2.2.1).append (ih hr.2.2.2)

/-- the generic route in tail position: one call of the VALUE in the function register on `argVals` -/
theorem generic_call_tail (X : CallPrims P) (cap) (code : List Instr) (s : List P.V) (pc : Nat) (f : Nat) (args : List SArg)
    (hr : ∀ x ∈ args, x.reg < 256) (hf : f < 16777216) (hat : HasAt code pc (emitGenericCall f args none)) (w : P.W) :
    execX X cap code ((pushSlots args).length + 1) ⟨s, [], pc⟩ w =
      match argVals X s args with
      | .error e => some (.error e, w)
      | .ok vs => some (retOf (X.call (getS P s f) vs (view P cap s) w)) :=
  (pushSlots_exec X cap code s args hr).tailcall f hf pc hat w

/-! ### `do_apply`: the pushes of the leading arguments are `janetc_pushslots` of unspliced slots, the last argument a spliced one -/

theorem pushLeading_eq (lead : List Nat) : pushLeading lead = pushSlots (lead.map fun r => ⟨r, false⟩) := by
  induction lead using pushLeading.induct <;> simp [pushLeading, pushSlots, *]

theorem argVals_plain (X : CallPrims P) (s : List P.V) (lead : List Nat) :
    argVals X s (lead.map fun r => ⟨r, false⟩) = .ok (lead.map (getS P s)) := by
  induction lead with
  | nil => rfl
  | cons x xs ih => simp only [List.map_cons, argVals, ih, Bool.false_eq_true, if_false]

theorem argVals_apply_shape (X : CallPrims P) (s : List P.V) (lead : List Nat) (last : Nat) :
    argVals X s (lead.map (fun r => (⟨r, false⟩ : SArg)) ++ [⟨last, true⟩]) =
      (match X.indexedView (getS P s last) with
        | none => (.error (X.notIndexed (getS P s last)) : Except P.E (List P.V))
        | some l => .ok (lead.map (getS P s) ++ l)) := by
  simp only [argVals_append, argVals_plain, argVals, if_true]
  cases X.indexedView (getS P s last) <;> simp only [List.append_nil]

theorem pushLeading_exec (X : CallPrims P) (cap) (code : List Instr) (s : List P.V) :
    ∀ (lead : List Nat) (a : List P.V) (pc : Nat) (fuel : Nat) (w : P.W), (∀ r ∈ lead, r < 256) → HasAt code pc (pushLeading lead) →
      execX X cap code (fuel + (pushLeading lead).length) ⟨s, a, pc⟩ w =
        execX X cap code fuel ⟨s, a ++ lead.map (getS P s), pc + (pushLeading lead).length⟩ w := by
  intro lead a pc fuel w hr hat
  rw [pushLeading_eq] at hat ⊢
  rw [pushSlots_exec X cap code s _ (List.forall_mem_map.2 hr) a pc fuel w hat, argVals_plain]

/-- the pushes of `do_apply` leave pending what the spliced call `(f a.. ;xs)` leaves pending -/
theorem apply_pushes (X : CallPrims P) (cap) (code : List Instr) (s : List P.V) (lead : List Nat) (last : Nat)
    (hr : ∀ r ∈ lead, r < 256) (hl : last < 16777216) :
    Pushes X cap code s (pushLeading lead ++ [mkD .pushArray last]) (lead.map (fun r => (⟨r, false⟩ : SArg)) ++ [⟨last, true⟩]) := by
  rw [pushLeading_eq]
  exact (pushSlots_exec X cap code s _ (List.forall_mem_map.2 hr)).append (Pushes.array ⟨last, true⟩ rfl hl)

/-- `do_apply` in tail position: the emitted code returns what `applySem` computes on the register values - one call of
    `f` on the leading values followed by the elements of the last value, or the not-indexed error - for EVERY number of
    leading arguments (zero included) -/
theorem apply_inline_tail (X : CallPrims P) (cap) (code : List Instr) (s : List P.V) (pc : Nat) (f : Nat) (lead : List Nat) (last : Nat)
    (hr : ∀ r ∈ lead, r < 256) (hl : last < 16777216) (hf : f < 16777216) (hat : HasAt code pc (emitApply f lead last none)) (w : P.W) :
    execX X cap code ((pushLeading lead).length + 2) ⟨s, [], pc⟩ w =
      some (retOf (applySem X (getS P s f) (lead.map (getS P s)) (getS P s last) (view P cap s) w)) := by
  have hat' : HasAt code pc ((pushLeading lead ++ [mkD .pushArray last]) ++ [mkD .tailcall f]) := by simpa [emitApply] using hat
  have h := (apply_pushes X cap code s lead last hr hl).tailcall f hf pc hat' w
  rw [List.length_append, argVals_apply_shape] at h
  refine h.trans ?_
  rw [applySem]
  cases X.indexedView (getS P s last) <;> rfl

/-- `do_apply` in value position: the emitted code performs the same call, then continues after it with the result in the
    target register (and the callee's updates of the captured slots) -/
theorem apply_inline_call (X : CallPrims P) (cap) (code : List Instr) (s : List P.V) (pc : Nat) (f : Nat) (lead : List Nat) (last target : Nat)
    (hr : ∀ r ∈ lead, r < 256) (hl : last < 16777216) (hf : f < 65536) (ht : target < 256)
    (hat : HasAt code pc (emitApply f lead last (some target))) (fuel : Nat) (w : P.W) :
    execX X cap code (fuel + 1 + ((pushLeading lead).length + 1)) ⟨s, [], pc⟩ w =
      match applySem X (getS P s f) (lead.map (getS P s)) (getS P s last) (view P cap s) w with
      | (.error e, w') => some (.error e, w')
      | (.ok r, w') => execX X cap code fuel ⟨(merge P cap s r.2).set target r.1, [], pc + (pushLeading lead).length + 2⟩ w' := by
  have hat' : HasAt code pc ((pushLeading lead ++ [mkD .pushArray last]) ++ [mkAE .call target f]) := by simpa [emitApply] using hat
  have h := (apply_pushes X cap code s lead last hr hl).call target f ht hf pc hat' fuel w
  rw [List.length_append, argVals_apply_shape] at h
  refine h.trans ?_
  rw [applySem]
  cases X.indexedView (getS P s last) <;> rfl

/-- a call with a spliced argument is never specialised: `janetc_call` takes the generic route whatever the head is -/
theorem splice_selects_generic (head : Option Nat) (args : List SArg) (h : hasSpliced args = true) :
    selectSpecialised head args = none := by
  unfold selectSpecialised
  cases head <;> simp [h]

/-- without splice the row of the tag is selected exactly when its arity guard admits the call -/
theorem select_no_splice (tag : Nat) (args : List SArg) (h : hasSpliced args = false) (r : OptRow) (hr : funopt tag = some r) :
    selectSpecialised (some tag) args = if guardOk r.guard args.length then some r else none := by
  simp [selectSpecialised, h, hr]

end JanetModel.Spec
