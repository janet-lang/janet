import JanetModel.Bytecode.VM
import JanetModel.Gen.Cfuns

/-!
C15 model: what the compiler's specialisations (cfuns.c `opreduce`, `compreduce`) compute, and what the generic
first-class versions of the same core functions (corelib.c `templatize_varop`, `templatize_comparator`) compute, both as
effectful folds over the argument list with the control structure of the emitted instruction sequence / of the
template's loop.  Core Lean only.
-/

namespace JanetModel.Spec
open JanetModel.Gen.Bytecode JanetModel.Gen.Cfuns JanetModel.Bytecode.VM

variable (P : Prims)

/-- a compiled argument slot: its run-time value and, when the slot is a constant integer that `can_slot_be_imm`
    accepts, that integer -/
structure Arg where
  v : P.V
  imm : Option Int

/-- an immediate operand denotes the number it was taken from (and lies in the int8 range) -/
def Arg.wf (a : Arg P) : Prop := ∀ i, a.imm = some i → a.v = P.num i ∧ immMin ≤ i ∧ i ≤ immMax

def constVal : Const → P.V
  | .nil => P.nil
  | .int n => P.num n

/-- one emitted accumulation instruction: `opim t, acc, imm` when an immediate opcode exists and the operand is an
    immediate constant, else `op t, acc, arg` (cfuns.c `opreduce` / `compreduce` loop body) -/
def stepInline (op : Op) (opim : Option Op) (acc : P.V) (a : Arg P) : M P P.V :=
  match opim, a.imm with
  | some oi, some i => immop P oi acc i
  | _, _ => binop P op acc a.v

/-- `opreduce(opts, args, op, opim, nullary, unary)`; `special` is the hard-coded unary case found in the C body -/
def evalOpreduce (special : Option (Op × Op × Int)) (op : Op) (opim : Option Op) (nullary unary : Const) :
    List (Arg P) → M P P.V
  | [] => M.pure (constVal P nullary)
  | [x] =>
    match special with
    | some (sop, rop, k) => if op = sop then immop P rop x.v k else binop P op (constVal P unary) x.v
    | none => binop P op (constVal P unary) x.v
  | x :: y :: rest => M.bind (stepInline P op opim x.v y) (fun t => M.foldl (stepInline P op opim) t rest)

/-- the generic variadic operator (`templatize_varop`): nullary constant, `unary op x`, else left fold -/
def evalVarop (nullary unary : Int) (op : Op) : List P.V → M P P.V
  | [] => M.pure (P.num nullary)
  | [x] => binop P op (P.num unary) x
  | x :: y :: rest => M.bind (binop P op x y) (fun t => M.foldl (binop P op) t rest)

/-- `compreduce` for at least two arguments: compare neighbours left to right, leave the chain at the first result
    whose truthiness equals `invert` (`JOP_JUMP_IF_NOT` / `JOP_JUMP_IF` to the end), result = last comparison made -/
def goInline (op : Op) (opim : Option Op) (invert : Bool) : P.V → Arg P → List (Arg P) → M P P.V
  | a, b, [] => stepInline P op opim a b
  | a, b, c :: rest =>
    M.bind (stepInline P op opim a b) fun t =>
      if P.truthy t == invert then M.pure t else goInline op opim invert b.v c rest

def evalCompreduce (op : Op) (opim : Option Op) (invert : Bool) : List (Arg P) → M P P.V
  | [] => M.pure (ofBool P (!invert))
  | [_] => M.pure (ofBool P (!invert))
  | x :: y :: rest => goInline P op opim invert x.v y rest

/-- the generic variadic comparator (`templatize_comparator`) for at least two arguments -/
def goGeneric (invert : Bool) (op : Op) : P.V → P.V → List P.V → M P P.V
  | last, nxt, [] =>
    M.bind (binop P op last nxt) fun j => if !P.truthy j then M.pure (ofBool P invert) else M.pure (ofBool P (!invert))
  | last, nxt, c :: rest =>
    M.bind (binop P op last nxt) fun j => if !P.truthy j then M.pure (ofBool P invert) else goGeneric invert op nxt c rest

def evalComparator (invert : Bool) (op : Op) : List P.V → M P P.V
  | [] => M.pure (ofBool P (!invert))
  | [_] => M.pure (ofBool P (!invert))
  | x :: y :: rest => goGeneric P invert op x y rest

def guardOk : Guard → Nat → Bool
  | .always, _ => true
  | .eq ns, n => ns.contains n
  | .le k, n => n ≤ k
  | .ge k, n => k ≤ n

/-- inline evaluation of a call whose head is the core function of row `r` (variadic families only) -/
def evalInline (r : OptRow) (args : List (Arg P)) : Option (M P P.V) :=
  match r.handler with
  | .opreduce op opim nullary unary => some (evalOpreduce P opreduceUnarySpecial op opim nullary unary args)
  | .compreduce op opim invert => some (evalCompreduce P op opim invert args)
  | _ => none

/-- evaluation of the generic function object built by corelib.c for `t` (variadic families only) -/
def evalGeneric (t : CoreFun) (vals : List P.V) : Option (M P P.V) :=
  match t.kind with
  | .varop nullary unary op => some (evalVarop P nullary unary op vals)
  | .comparator invert op => some (evalComparator P invert op vals)
  | _ => none

/-- the immediate opcode of a row, if any, is the immediate form of the row's opcode -/
def immOk (op : Op) (opim : Option Op) : Bool :=
  match opim with
  | none => true
  | some oi => immBase oi == some op

/-- does the unary special case `special` of `opreduce` apply to this opcode? -/
def isUnarySpecialOf (special : Option (Op × Op × Int)) (op : Op) : Bool :=
  match special with
  | some (sop, _, _) => op == sop
  | none => false

def isUnarySpecial (op : Op) : Bool := isUnarySpecialOf opreduceUnarySpecial op

theorem isUnarySpecialOf_false (special : Option (Op × Op × Int)) (op : Op) (h : isUnarySpecialOf special op = false) :
    ∀ sop rop k, special = some (sop, rop, k) → op ≠ sop := by
  intro sop rop k hs he
  subst hs
  simp [isUnarySpecialOf, he] at h

/-- the checkable agreement condition between a row of `optimizers[]` and the template of the same tag;
    `unaryToo = false` leaves out the unary-special-case conjunct -/
def rowAgrees (unaryToo : Bool) (r : OptRow) (t : CoreFun) : Bool :=
  r.tag == t.tag &&
  match r.handler, t.kind with
  | .opreduce op opim nullary unary, .varop n u opG =>
    op == opG && nullary == .int n && unary == .int u && immOk op opim && r.guard == .always &&
      (!unaryToo || !isUnarySpecial op)
  | .compreduce op opim inv, .comparator invG opG =>
    inv == invG && immOk op opim && r.guard == .always &&
      (if inv then kindOf op == .neq && kindOf opG == .eq else op == opG && (kindOf op == .rel || kindOf op == .eq))
  | _, _ => false

/-- rows of the variadic families (the ones `evalInline` models) -/
def isVariadic (r : OptRow) : Bool :=
  match r.handler with
  | .opreduce _ _ _ _ => r.guard == .always
  | .compreduce _ _ _ => true
  | _ => false

def templateOf (tag : Nat) : Option CoreFun := templates.find? (fun t => t.tag == tag)

/-- fixed-arity rows: whenever the arity guard admits a call, the generic function accepts that arity too, so the
    specialised and the generic route raise an arity error in the same cases -/
def guardWithinArity (r : OptRow) (t : CoreFun) : Bool :=
  (List.range 8).all fun n => !guardOk r.guard n || (t.minArity ≤ n && n ≤ t.maxArity)

/-- shape of the fixed asm body against the handler, for the single-instruction handlers -/
def asmShapeOk (r : OptRow) (t : CoreFun) : Bool :=
  match r.handler with
  | .genericSS op => t.words == [op.toNat, Op.return.toNat]
  | .opfunction op .nil => t.words == [op.toNat + 1 * 2 ^ 24, Op.return.toNat]
  | _ => true

/-- a nil fast path of `if` / `while` (specials.c): the head must be an equality-family comparator row whose sense matches the
    jump that leaves the then-branch / the loop: `(= nil x)` stays while `x` is nil (leave with jump-if-not-nil), `(not= nil x)`
    stays while `x` is not nil (leave with jump-if-nil) -/
def nilPathOk (p : String × String × Op) : Bool :=
  match optimizers.find? (fun r => r.tagName == p.2.1) with
  | some r =>
    match r.handler with
    | .compreduce op _ inv =>
      (kindOf op == .eq && inv == false && p.2.2 == .jumpIfNotNil) || (kindOf op == .neq && inv == true && p.2.2 == .jumpIfNil)
    | _ => false
  | none => false

end JanetModel.Spec
