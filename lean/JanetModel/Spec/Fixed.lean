import JanetModel.Spec.Template

/-!
C15: the fixed-arity specialisations (cfuns.c `genericSS`, `opfunction`, fixed-arity `opreduce`, `do_get`, `do_put`,
`do_yield`, `do_debug`, `do_error`) against the fixed asm arrays corelib.c installs as their generic versions.
`do_apply` / `make_apply` need the call stack: Spec/Apply.lean.
-/

namespace JanetModel.Spec
open JanetModel.Gen.Bytecode JanetModel.Gen.Cfuns JanetModel.Bytecode.VM

inductive Shape where
  | ss (op : Op)        -- `op 0 0; ret 0`                       length_asm, bnot_asm
  | sss (op : Op)       -- `op 0 0 1; ret 0`                     resume/next/cancel/propagate/cmp
  | getlike (op : Op)   -- `op 0 0 1; ldn 3; eq 3 0 3; jmpif 3 2; ret 0; ret 2`     in_asm, get_asm
  | put                 -- `put 0 1 2; ret 0`
  | signal (k : Nat)    -- `sig 0 0 k; ret 0`                    yield_asm, debug_asm
  | error               -- `err 0`
  deriving DecidableEq, Repr

def shapeCode : Shape → List Instr
  | .ss op => [mkAE op 0 0, mkD .return 0]
  | .sss op => [mkABC op 0 0 1, mkD .return 0]
  | .getlike op => [mkABC op 0 0 1, mkD .loadNil 3, mkABC .equals 3 0 3, mkAI .jumpIf 3 2, mkD .return 0, mkD .return 2]
  | .put => [mkABC .put 0 1 2, mkD .return 0]
  | .signal k => [mkABC .signal 0 0 k, mkD .return 0]
  | .error => [mkD .error 0]

/-- which shape the generic version of a fixed-arity row must have, read off the handler -/
def shapeOf (r : OptRow) : Option Shape :=
  match r.handler with
  | .genericSS op => some (.ss op)
  | .opfunction op .nil => some (.sss op)
  | .opreduce op none .nil .nil => if r.guard == .eq [2] then some (if op == .in then .getlike op else .sss op) else none
  | .special "do_get" => some (.getlike .get)
  | .special "do_put" => some .put
  | .special "do_yield" => some (.signal 3)
  | .special "do_debug" => some (.signal 2)
  | .special "do_error" => some .error
  | _ => none

def unaryOps : List Op := [.length, .bnot]
def fixedBinOps : List Op := [.resume, .next, .cancel, .propagate, .compare, .in, .get]

def shapeOpsOk : Shape → Bool
  | .ss op => unaryOps.contains op
  | .sss op => fixedBinOps.contains op
  | .getlike op => fixedBinOps.contains op
  | .signal k => k < 256
  | _ => true

/-- checkable agreement of a fixed-arity row with its template: words decode to the shape's code, the frame is large enough,
    the arities the guard admits are within the function's arity -/
def fixedRowOk (r : OptRow) : Bool :=
  match shapeOf r with
  | none => true
  | some sh =>
    match templateOf r.tag with
    | none => false
    | some t => decodesTo t.words (shapeCode sh) && shapeOpsOk sh && guardWithinArity r t && !t.vararg &&
        (match sh with | .getlike _ => t.slots == 4 | .put => t.slots == 3 | .sss _ => t.slots == 2 | .signal _ => t.slots ≥ 1 | _ => t.slots == 1)

variable (P : Prims)

/-- entry frame of a fixed-arity function: the arguments, padded with nil up to `slots` -/
def frameOf (slots : Nat) (args : List P.V) : Frame P := ⟨args ++ List.replicate (slots - args.length) P.nil, 0⟩

/-- hand model of the specialised code for the fixed-arity rows in value position (cfuns.c; the bodies are compared through their statement skeletons, `Props.C15.skeleton_*_ok`) -/
def evalInlineFixed (r : OptRow) (args : List P.V) : Option (M P P.V) :=
  if !guardOk r.guard args.length || isVariadic r then none else
  match r.handler, args with
  | .genericSS op, [x] => some (P.unary op x)
  | .opfunction op .nil, [x] => some (binop P op x P.nil)
  | .opfunction op .nil, [x, y] => some (binop P op x y)
  | .opreduce op none .nil .nil, [x, y] => if r.guard == .eq [2] then some (binop P op x y) else none
  | .special "do_get", [x, y] => some (binop P .get x y)
  | .special "do_get", [x, y, d] => some (M.bind (binop P .get x y) fun t => M.pure (if P.isNil t then d else t))
  | .special "do_put", [x, y, z] => some (M.bind (P.put3 x y z) fun _ => M.pure x)
  | .special "do_yield", [] => some (P.signal P.nil 3)
  | .special "do_yield", [x] => some (P.signal x 3)
  | .special "do_debug", [] => some (P.signal P.nil 2)
  | .special "do_debug", [x] => some (P.signal x 2)
  | .special "do_error", [x] => some (M.throw (P.raise x))
  | _, _ => none

def shapeSem : Shape → List P.V → M P P.V
  | .ss op, s => P.unary op (s.getD 0 P.nil)
  | .sss op, s => binop P op (s.getD 0 P.nil) (s.getD 1 P.nil)
  | .getlike op, s => M.bind (binop P op (s.getD 0 P.nil) (s.getD 1 P.nil)) fun v => M.pure (if P.eqv v P.nil then s.getD 2 P.nil else v)
  | .put, s => M.bind (P.put3 (s.getD 0 P.nil) (s.getD 1 P.nil) (s.getD 2 P.nil)) fun _ => M.pure (s.getD 0 P.nil)
  | .signal k, s => P.signal (s.getD 0 P.nil) k
  | .error, s => M.throw (P.raise (s.getD 0 P.nil))

theorem M.bind_pure' {α} (m : M P α) : M.bind m M.pure = m := by
  funext w
  simp only [M.bind, M.pure]
  rcases m w with ⟨(_ | _), _⟩ <;> rfl

theorem stepc_unary (op : Op) (h : op ∈ unaryOps) (a e : Nat) (ha : a < 256) (he : e < 65536) (s : List P.V) (pc : Nat) :
    step P (mkAE op a e) ⟨s, pc⟩ = some (M.bind (P.unary op (s.getD e P.nil)) fun v => cont' P ⟨s.set a v, pc + 1⟩) := by
  have : step P (mkAE op a e) ⟨s, pc⟩ =
      some (M.bind (P.unary op (s.getD (mkAE op a e).E P.nil)) fun v => cont' P ⟨s.set (mkAE op a e).A v, pc + 1⟩) := by
    simp only [unaryOps, List.mem_cons, List.mem_nil_iff, or_false] at h
    rcases h with rfl | rfl <;> rfl
  rwa [mkAE_A _ a e ha, mkAE_E _ a e ha he] at this

theorem isBinOp_fixed (op : Op) (h : op ∈ fixedBinOps) : IsBinOp P op := by
  simp only [fixedBinOps, List.mem_cons, List.mem_nil_iff, or_false] at h
  rcases h with rfl | rfl | rfl | rfl | rfl | rfl | rfl <;> exact fun _ _ _ _ => rfl

theorem mkD_A (op d) (hd : d < 256) : (mkD op d).A = d := by simp [mkD, Instr.A]; omega

theorem stepc_put (a b c : Nat) (ha : a < 256) (hb : b < 256) (hc : c < 256) (s : List P.V) (pc : Nat) :
    step P (mkABC .put a b c) ⟨s, pc⟩ =
      some (M.bind (P.put3 (s.getD a P.nil) (s.getD b P.nil) (s.getD c P.nil)) fun _ => cont' P ⟨s, pc + 1⟩) := by
  have : step P (mkABC .put a b c) ⟨s, pc⟩ = some (M.bind (P.put3 (s.getD (mkABC .put a b c).A P.nil) (s.getD (mkABC .put a b c).B P.nil)
      (s.getD (mkABC .put a b c).C P.nil)) fun _ => cont' P ⟨s, pc + 1⟩) := rfl
  rwa [mkABC_A _ a b c ha, mkABC_B _ a b c ha hb, mkABC_C _ a b c ha hb hc] at this
theorem stepc_signal (a b c : Nat) (ha : a < 256) (hb : b < 256) (hc : c < 256) (s : List P.V) (pc : Nat) :
    step P (mkABC .signal a b c) ⟨s, pc⟩ = some (M.bind (P.signal (s.getD b P.nil) c) fun v => cont' P ⟨s.set a v, pc + 1⟩) := by
  have : step P (mkABC .signal a b c) ⟨s, pc⟩ = some (M.bind (P.signal (s.getD (mkABC .signal a b c).B P.nil) (mkABC .signal a b c).C)
      fun v => cont' P ⟨s.set (mkABC .signal a b c).A v, pc + 1⟩) := rfl
  rwa [mkABC_A _ a b c ha, mkABC_B _ a b c ha hb, mkABC_C _ a b c ha hb hc] at this
theorem stepc_error (d : Nat) (hd : d < 256) (s : List P.V) (pc : Nat) :
    step P (mkD .error d) ⟨s, pc⟩ = some (M.throw (P.raise (s.getD d P.nil))) := by
  have : step P (mkD .error d) ⟨s, pc⟩ = some (M.throw (P.raise (s.getD (mkD .error d).A P.nil))) := rfl
  rwa [mkD_A _ d hd] at this

theorem exec_store_return (code : List Instr) (s : List P.V) (pc : Nat) (w : P.W) (i : Instr) (a : Nat) (m : M P P.V)
    (hc : code[pc]? = some i) (hs : step P i ⟨s, pc⟩ = some (M.bind m fun v => cont' P ⟨s.set a v, pc + 1⟩))
    (ha : a < 256) (hlen : a < s.length) (hr : code[pc + 1]? = some (mkD .return a)) :
    exec P code 2 ⟨s, pc⟩ w = some (m w) := by
  rw [exec_store P code 1 s pc w i a m hc hs]
  rcases m w with ⟨(_ | v), w'⟩
  · rfl
  · exact (exec_return P code 0 _ _ w' a (by omega) hr).trans (by rw [getD_set_self P s a v hlen])

theorem shape_exec (sh : Shape) (hok : shapeOpsOk sh = true) (s : List P.V) (h1 : 1 ≤ s.length) (hs : 4 ≤ s.length ∨ (∀ op, sh ≠ .getlike op)) (w : P.W) :
    ∃ fuel, exec P (shapeCode sh) fuel ⟨s, 0⟩ w = some (shapeSem P sh s w) := by
  cases sh with
  | ss op =>
    have hm : op ∈ unaryOps := by simpa [shapeOpsOk] using hok
    exact ⟨2, exec_store_return P _ s 0 w _ 0 _ rfl (stepc_unary P op hm 0 0 (by decide) (by decide) s 0) (by decide) h1 rfl⟩
  | sss op =>
    have hm : op ∈ fixedBinOps := by simpa [shapeOpsOk] using hok
    exact ⟨2, exec_store_return P _ s 0 w _ 0 _ rfl (stepc_sss P (isBinOp_fixed P op hm) 0 0 1 (by decide) (by decide) (by decide) s 0)
      (by decide) h1 rfl⟩
  | getlike op =>
    have hm : op ∈ fixedBinOps := by simpa [shapeOpsOk] using hok
    have h4 : 4 ≤ s.length := hs.elim id (fun h => absurd rfl (h op))
    obtain ⟨a0, a1, a2, a3, rest, rfl⟩ : ∃ a0 a1 a2 a3 rest, s = a0 :: a1 :: a2 :: a3 :: rest := by
      match s, h4 with
      | a0 :: a1 :: a2 :: a3 :: rest, _ => exact ⟨a0, a1, a2, a3, rest, rfl⟩
    refine ⟨5, ?_⟩
    -- pc 0: the lookup; pc 1, 2: compare its value with nil; pc 3: choose between `ret 0` (the value) and `ret 2` (the default)
    rw [exec_store P _ 4 _ 0 w _ _ _ rfl (stepc_sss P (isBinOp_fixed P op hm) 0 0 1 (by decide) (by decide) (by decide) _ _)]
    simp only [List.getD_cons_zero, List.getD_cons_succ, List.set_cons_zero, shapeSem, M.bind]
    rcases binop P op a0 a1 w with ⟨(_ | v), w'⟩
    · rfl
    · dsimp only
      rw [exec_goto P _ 3 _ _ w' _ rfl (stepc_loadNil P 3 (by decide) _ _)]
      simp only [List.set_cons_succ, List.set_cons_zero]
      rw [exec_store P _ 2 _ 2 w' _ _ _ rfl (stepc_sss P (isBinOp_equals P) 3 0 3 (by decide) (by decide) (by decide) _ _)]
      simp only [List.getD_cons_zero, List.getD_cons_succ, eq_eq, M.pure, List.set_cons_succ, List.set_cons_zero]
      rw [exec_goto P _ 1 _ _ w' _ rfl (stepc_jumpIf P 3 2 (by decide) (by decide) _ _ 5 rfl)]
      simp only [List.getD_cons_zero, List.getD_cons_succ, truthy_ofBool]
      by_cases hv : P.eqv v P.nil = true
      · simp only [hv, if_true]
        exact exec_return P _ 0 _ _ w' 2 (by decide) rfl
      · simp only [hv, Bool.false_eq_true, if_false]
        exact exec_return P _ 0 _ _ w' 0 (by decide) rfl
  | put =>
    refine ⟨2, ?_⟩
    rw [exec_succ P _ 1 ⟨s, 0⟩ w _ _ rfl (stepc_put P 0 1 2 (by decide) (by decide) (by decide) s 0)]
    simp only [shapeSem, M.bind]
    rcases P.put3 (s.getD 0 P.nil) (s.getD 1 P.nil) (s.getD 2 P.nil) w with ⟨(_ | v), w'⟩
    · rfl
    · exact exec_return P _ 0 _ _ w' 0 (by decide) rfl
  | signal k =>
    have hk : k < 256 := by simpa [shapeOpsOk] using hok
    exact ⟨2, exec_store_return P _ s 0 w _ 0 _ rfl (stepc_signal P 0 0 k (by decide) (by decide) hk s 0) (by decide) h1 rfl⟩
  | error =>
    refine ⟨1, ?_⟩
    rw [exec_succ P _ 0 ⟨s, 0⟩ w _ _ rfl (stepc_error P 0 (by decide) s 0)]
    rfl

/-- frame size of the generic function of a shape (what `fixedRowOk` checks on the template) -/
def slotsFor (sh : Shape) (n : Nat) : Prop :=
  match sh with | .getlike _ => n = 4 | .put => n = 3 | .sss _ => n = 2 | .signal _ => n ≥ 1 | _ => n = 1

/-- what `fixedRowOk` says of a row whose shape and template are known -/
theorem fixedRowOk_shape {r : OptRow} {t : CoreFun} {sh : Shape} (hr : fixedRowOk r = true) (ht : templateOf r.tag = some t)
    (hsh : shapeOf r = some sh) : decodesTo t.words (shapeCode sh) = true ∧ shapeOpsOk sh = true ∧ slotsFor sh t.slots := by
  simp only [fixedRowOk, hsh, ht, Bool.and_eq_true] at hr
  refine ⟨hr.1.1.1.1, hr.1.1.1.2, ?_⟩
  cases sh <;> simpa [slotsFor] using hr.2

theorem getD_pad (args : List P.V) (n i : Nat) : (args ++ List.replicate n P.nil).getD i P.nil = args.getD i P.nil := by
  by_cases h : i < args.length
  · simp only [List.getD_eq_getElem?_getD, List.getElem?_append_left h]
  · simp only [List.getD_eq_getElem?_getD, List.getElem?_append_right (Nat.le_of_not_lt h), List.getElem?_replicate,
      List.getElem?_eq_none (Nat.le_of_not_lt h)]
    split <;> rfl

/-- a shape reads its operands with default nil, so the nil padding of the entry frame is invisible to it -/
theorem shapeSem_pad (sh : Shape) (args : List P.V) (n : Nat) :
    shapeSem P sh (args ++ List.replicate n P.nil) = shapeSem P sh args := by
  -- pointwise: at the function type `M P _` `simp` leaves the rewritten `m = m` open
  funext w
  cases sh <;> simp only [shapeSem, getD_pad]

/-- with two arguments the default of a get-like shape is nil, and replacing a nil value by nil changes nothing -/
theorem getlike_two (hnil1 : ∀ v, P.eqv v P.nil = P.isNil v) (hnil2 : ∀ v, P.isNil v = true → v = P.nil) (op : Op) (x y : P.V) :
    shapeSem P (.getlike op) [x, y] = binop P op x y := by
  have hfun : (fun v => M.pure (if P.eqv v P.nil = true then P.nil else v) : P.V → M P P.V) = M.pure := by
    funext v
    by_cases hv : P.eqv v P.nil = true
    · rw [if_pos hv, hnil2 v (by rw [← hnil1]; exact hv)]
    · rw [if_neg hv]
  show M.bind (binop P op x y) (fun v => M.pure (if P.eqv v P.nil = true then P.nil else v)) = binop P op x y
  rw [hfun, M.bind_pure']

/-- the value-level model of a fixed-arity specialisation is the meaning of the row's shape on the arguments -/
theorem evalInlineFixed_sem (hnil1 : ∀ v, P.eqv v P.nil = P.isNil v) (hnil2 : ∀ v, P.isNil v = true → v = P.nil)
    (r : OptRow) (args : List P.V) (m : M P P.V) (hm : evalInlineFixed P r args = some m) :
    ∃ sh, shapeOf r = some sh ∧ m = shapeSem P sh args := by
  unfold evalInlineFixed at hm
  split at hm
  · cases hm
  · rename_i hguard
    split at hm <;> rename_i hh
    case h_1 op x =>
      cases hm
      exact ⟨.ss op, by simp only [shapeOf, hh], rfl⟩
    case h_2 op x =>
      cases hm
      exact ⟨.sss op, by simp only [shapeOf, hh], rfl⟩
    case h_3 op x y =>
      cases hm
      exact ⟨.sss op, by simp only [shapeOf, hh], rfl⟩
    case h_4 op x y =>
      split at hm
      · rename_i hg
        cases hm
        refine ⟨if op == .in then .getlike op else .sss op, by simp only [shapeOf, hh, hg, if_true], ?_⟩
        split
        · exact (getlike_two P hnil1 hnil2 op x y).symm
        · rfl
      · cases hm
    case h_5 x y =>
      cases hm
      exact ⟨.getlike .get, by simp only [shapeOf, hh], (getlike_two P hnil1 hnil2 .get x y).symm⟩
    case h_6 x y d =>
      cases hm
      exact ⟨.getlike .get, by simp only [shapeOf, hh], by simp only [shapeSem, hnil1]; rfl⟩
    case h_7 x y z =>
      cases hm
      exact ⟨.put, by simp only [shapeOf, hh], rfl⟩
    case h_8 =>
      cases hm
      exact ⟨.signal 3, by simp only [shapeOf, hh], rfl⟩
    case h_9 x =>
      cases hm
      exact ⟨.signal 3, by simp only [shapeOf, hh], rfl⟩
    case h_10 =>
      cases hm
      exact ⟨.signal 2, by simp only [shapeOf, hh], rfl⟩
    case h_11 x =>
      cases hm
      exact ⟨.signal 2, by simp only [shapeOf, hh], rfl⟩
    case h_12 x =>
      cases hm
      exact ⟨.error, by simp only [shapeOf, hh], rfl⟩
    case h_13 => cases hm

/-- the same on the generic function's entry slots (arguments padded with nil), with what `fixedRowOk` checked of the row's template -/
theorem evalInlineFixed_shape (hnil1 : ∀ v, P.eqv v P.nil = P.isNil v) (hnil2 : ∀ v, P.isNil v = true → v = P.nil)
    (r : OptRow) (hr : fixedRowOk r = true) (t : CoreFun) (ht : templateOf r.tag = some t)
    (args : List P.V) (m : M P P.V) (hm : evalInlineFixed P r args = some m) :
    ∃ sh, shapeOf r = some sh ∧ decodesTo t.words (shapeCode sh) = true ∧ shapeOpsOk sh = true ∧
      (match sh with | .getlike _ => t.slots = 4 | .put => t.slots = 3 | .sss _ => t.slots = 2 | .signal _ => t.slots ≥ 1 | _ => t.slots = 1) ∧
      m = shapeSem P sh (frameOf P t.slots args).slots := by
  obtain ⟨sh, hsh, hmeq⟩ := evalInlineFixed_sem P hnil1 hnil2 r args m hm
  obtain ⟨hd, hops, hslots⟩ := fixedRowOk_shape hr ht hsh
  refine ⟨sh, hsh, hd, hops, hslots, ?_⟩
  rw [frameOf, shapeSem_pad]
  exact hmeq

/-- a fixed-arity row that passes `fixedRowOk`: the specialised code computes what running the generic function's actual bytecode
    from its entry frame computes, for every admitted argument list.
    `hnil1`/`hnil2`: `janet_equals(v, nil)` is the nil test (the asm bodies of `get`/`in` test `v == nil`, the inline code jumps on nil) -/
theorem fixed_inline_eq_generic_bytecode (hnil1 : ∀ v, P.eqv v P.nil = P.isNil v) (hnil2 : ∀ v, P.isNil v = true → v = P.nil)
    (r : OptRow) (hr : fixedRowOk r = true) (t : CoreFun) (ht : templateOf r.tag = some t)
    (args : List P.V) (m : M P P.V) (hm : evalInlineFixed P r args = some m) (w : P.W) :
    ∃ code fuel, t.words.map decode = code.map some ∧ exec P code fuel (frameOf P t.slots args) w = some (m w) := by
  have key := evalInlineFixed_shape P hnil1 hnil2 r hr t ht args m hm
  obtain ⟨sh, hsh, hd, hops, hslots, hmeq⟩ := key
  have h1 : 1 ≤ (frameOf P t.slots args).slots.length := by
    simp only [frameOf, List.length_append, List.length_replicate]
    cases sh <;> simp only [] at hslots <;> omega
  have h4 : 4 ≤ (frameOf P t.slots args).slots.length ∨ (∀ op, sh ≠ .getlike op) := by
    cases sh with
    | getlike op =>
      left
      simp only [] at hslots
      simp only [frameOf, List.length_append, List.length_replicate]
      omega
    | _ => right; intro op h; cases h
  obtain ⟨fuel, hf⟩ := shape_exec P sh hops (frameOf P t.slots args).slots h1 h4 w
  refine ⟨shapeCode sh, fuel, ?_, ?_⟩
  · simpa [decodesTo] using hd
  · rw [hmeq]
    exact hf

end JanetModel.Spec
