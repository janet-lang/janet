import JanetModel.Bytecode.VMCall
import JanetModel.Spec.Template

/-!
C15: `apply`.  The specialised code (`do_apply` of cfuns.c: push the leading arguments in groups of three / two / one,
`JOP_PUSH_ARRAY` the last, `JOP_CALL` or `JOP_TAILCALL`) as an emitter, and the generic function `make_apply` assembles
(corelib.c `apply_asm[]`) run by the full interpreter `VM.execX`: `apply_template_correct`.  That the emitted code makes the
same call is proved in Spec/CallSite.lean, where its pushes are an instance of `janetc_pushslots`.  Core Lean only.
-/

namespace JanetModel.Spec
open JanetModel.Gen.Bytecode JanetModel.Gen.Cfuns JanetModel.Bytecode.VM

/-- `apply_asm[]` of `make_apply` -/
def applyCode : List Instr := [
  mkAE .length 2 1,
  mkABI .equalsImmediate 3 2 0,
  mkAI .jumpIf 3 9,
  mkAI .loadInteger 4 0,
  mkABC .in 5 1 4,
  mkABI .addImmediate 4 4 1,
  mkABC .equals 3 4 2,
  mkAI .jumpIf 3 3,
  mkD .push 5,
  mkD .jump 16777211,   -- 2^24 - 5: the 24-bit field holds -5, back to pc 4
  mkD .pushArray 5,
  mkD .tailcall 0]

/-- push phase of `do_apply` over the registers of the leading arguments:
    `for (i = 1; i < n - 3; i += 3) PUSH_3;  if (i == n - 3) PUSH_2  else if (i == n - 2) PUSH` -/
def pushLeading : List Nat → List Instr
  | a :: b :: c :: rest => mkABC .push3 a b c :: pushLeading rest
  | [a, b] => [mkAE .push2 a b]
  | [a] => [mkD .push a]
  | [] => []

/-- the whole of `do_apply`: push phase, push-array phase, call phase (`tail` = `opts.flags & JANET_FOPTS_TAIL`) -/
def emitApply (f : Nat) (lead : List Nat) (last : Nat) (tail : Option Nat) : List Instr :=
  pushLeading lead ++ [mkD .pushArray last, match tail with | none => mkD .tailcall f | some target => mkAE .call target f]

variable {P : Prims}

/-- what `apply` means: call `f` on the leading arguments followed by the elements of the last one, which must be indexed -/
def applySem (X : CallPrims P) (f : P.V) (lead : List P.V) (last : P.V) (vw : Nat → Option P.V) :
    M P (P.V × (Nat → Option P.V)) :=
  match X.indexedView last with
  | none => M.throw (X.notIndexed last)
  | some l => X.call f (lead ++ l) vw

def retOf (r : Except P.E (P.V × (Nat → Option P.V)) × P.W) : Except P.E P.V × P.W :=
  match r with
  | (.error e, w) => (.error e, w)
  | (.ok p, w) => (.ok p.1, w)

theorem stepX_push (X : CallPrims P) (cap) (d : Nat) (f : XFrame P) :
    stepX X cap (mkD .push d) f = some (M.pure (.cont ⟨f.slots, f.args ++ [getS P f.slots (mkD .push d).D], f.pc + 1⟩)) := by
  simp only [stepX, callCore, mkD_op]; rfl

theorem stepX_push2 (X : CallPrims P) (cap) (a e : Nat) (f : XFrame P) :
    stepX X cap (mkAE .push2 a e) f =
      some (M.pure (.cont ⟨f.slots, f.args ++ [getS P f.slots (mkAE .push2 a e).A, getS P f.slots (mkAE .push2 a e).E], f.pc + 1⟩)) := by
  simp only [stepX, callCore, mkAE_op]; rfl

theorem stepX_push3 (X : CallPrims P) (cap) (a b c : Nat) (f : XFrame P) :
    stepX X cap (mkABC .push3 a b c) f =
      some (M.pure (.cont ⟨f.slots, f.args ++ [getS P f.slots (mkABC .push3 a b c).A, getS P f.slots (mkABC .push3 a b c).B,
        getS P f.slots (mkABC .push3 a b c).C], f.pc + 1⟩)) := by
  simp only [stepX, callCore, mkABC_op]; rfl

theorem stepX_pushArray (X : CallPrims P) (cap) (d : Nat) (f : XFrame P) :
    stepX X cap (mkD .pushArray d) f =
      some (match X.indexedView (getS P f.slots (mkD .pushArray d).D) with
        | some l => M.pure (.cont ⟨f.slots, f.args ++ l, f.pc + 1⟩)
        | none => M.throw (X.notIndexed (getS P f.slots (mkD .pushArray d).D))) := by
  simp only [stepX, callCore, mkD_op]
  cases X.indexedView (getS P f.slots (mkD .pushArray d).D) <;> rfl

theorem stepX_tailcall (X : CallPrims P) (cap) (d : Nat) (f : XFrame P) :
    stepX X cap (mkD .tailcall d) f =
      some (M.bind (X.call (getS P f.slots (mkD .tailcall d).D) f.args (view P cap f.slots)) fun r => M.pure (.ret r.1)) := by
  simp only [stepX, callCore, mkD_op]
  congr 1
  funext w
  simp only [M.map, M.bind, M.pure]
  rcases X.call (getS P f.slots (mkD .tailcall d).D) f.args (view P cap f.slots) w with ⟨(_ | _), _⟩ <;> rfl

theorem stepX_call (X : CallPrims P) (cap) (a e : Nat) (f : XFrame P) :
    stepX X cap (mkAE .call a e) f =
      some (M.bind (X.call (getS P f.slots (mkAE .call a e).E) f.args (view P cap f.slots)) fun r =>
        M.pure (.cont ⟨(merge P cap f.slots r.2).set (mkAE .call a e).A r.1, [], f.pc + 1⟩)) := by
  simp only [stepX, callCore, mkAE_op]
  congr 1
  funext w
  simp only [M.map, M.bind, M.pure]
  rcases X.call (getS P f.slots (mkAE .call a e).E) f.args (view P cap f.slots) w with ⟨(_ | _), _⟩ <;> rfl

theorem stepX_noncall (X : CallPrims P) (cap) (i : Instr) (f : XFrame P) (h : isCallOp i.op = false) :
    stepX X cap i f = (step P i ⟨f.slots, f.pc⟩).map (M.map P (liftStep P f.args)) := by
  have := callCore_isSome X cap i f.slots f.args
  rw [h] at this
  unfold stepX
  cases hcc : callCore X cap i f.slots f.args with
  | none => rfl
  | some _ => rw [hcc] at this; cases this

/-- an instruction of the plain interpreter that goes on in frame `g` does so under `stepX`, pending arguments and world unchanged -/
theorem stepX_cont (X : CallPrims P) (cap) (i : Instr) (s a : List P.V) (pc : Nat) (g : Frame P) (w : P.W) (h : isCallOp i.op = false)
    (hs : step P i ⟨s, pc⟩ = some (cont' P g)) :
    (stepX X cap i ⟨s, a, pc⟩).map (fun m => m w) = some (.ok (.cont ⟨g.slots, a, g.pc⟩), w) := by
  rw [stepX_noncall X cap i _ h, hs]
  rfl

theorem execX_goto (X : CallPrims P) (cap) (code : List Instr) (k : Nat) (s a : List P.V) (pc : Nat) (w : P.W) (i : Instr) (g : Frame P)
    (hc : code[pc]? = some i) (h : isCallOp i.op = false) (hs : step P i ⟨s, pc⟩ = some (cont' P g)) :
    execX X cap code (k + 1) ⟨s, a, pc⟩ w = execX X cap code k ⟨g.slots, a, g.pc⟩ w := by
  rw [execX_succ X cap code k ⟨s, a, pc⟩ w i _ hc (by rw [stepX_noncall X cap i _ h, hs]; rfl)]
  rfl

theorem execX_store (X : CallPrims P) (cap) (code : List Instr) (k : Nat) (s a : List P.V) (pc : Nat) (w : P.W) (i : Instr) (r : Nat)
    (m : M P P.V) (hc : code[pc]? = some i) (h : isCallOp i.op = false)
    (hs : step P i ⟨s, pc⟩ = some (M.bind m fun v => cont' P ⟨s.set r v, pc + 1⟩)) :
    execX X cap code (k + 1) ⟨s, a, pc⟩ w =
      match m w with
      | (.error e, w') => some (.error e, w')
      | (.ok v, w') => execX X cap code k ⟨s.set r v, a, pc + 1⟩ w' := by
  rw [execX_succ X cap code k ⟨s, a, pc⟩ w i _ hc (by rw [stepX_noncall X cap i _ h, hs]; rfl)]
  simp only [M.map, M.bind]
  rcases m w with ⟨(_ | _), _⟩ <;> rfl

/-- entry frame of the generic `apply` (arity 1 + vararg, 6 slots): the function, the tuple of the remaining arguments -/
def applyFrame0 (T : TupleLaws P) (f : P.V) (rest : List P.V) : XFrame P := ⟨[f, T.tup rest, P.nil, P.nil, P.nil, P.nil], [], 0⟩

/-- the generic `apply` has no closures: nothing of its frame is captured -/
def noCap : Nat → Bool := fun _ => false

theorem view_noCap (s : List P.V) : view P noCap s = fun _ => none := by
  funext i; simp [view, noCap]

theorem apply_turn (X : CallPrims P) (T : TupleLaws P) (f : P.V) (rest more : List P.V) (x : P.V) (k : Nat) (a : List P.V) (s3 s5 : P.V)
    (w : P.W) (F : Nat) (hdrop : rest.drop k = x :: more) :
    execX X noCap applyCode (F + 1 + 1 + 1 + 1) ⟨[f, T.tup rest, P.num rest.length, s3, P.num k, s5], a, 4⟩ w =
      execX X noCap applyCode F
        ⟨[f, T.tup rest, P.num rest.length, ofBool P more.isEmpty, P.num (k + 1 : Nat), x], a, if more.isEmpty then 10 else 8⟩ w := by
  have haddim := isImmOp_of_base P .addImmediate .add rfl
  obtain ⟨hk, hx, _, hend⟩ := drop_eq_cons hdrop
  rw [execX_store X noCap _ _ _ a 4 w _ _ _ rfl rfl (stepc_sss P (isBinOp_in P) 5 1 4 (by decide) (by decide) (by decide) _ _)]
  simp only [List.getD_cons_zero, List.getD_cons_succ, binop_in_tup P T rest k hk, hx, M.pure, List.set_cons_succ, List.set_cons_zero]
  rw [execX_store X noCap _ _ _ a 5 w _ _ _ rfl rfl (stepc_imm P haddim 4 4 1 (by decide) (by decide) (by decide) _ _)]
  simp only [List.getD_cons_zero, List.getD_cons_succ, immop_addim_num P T, M.pure, List.set_cons_succ, List.set_cons_zero]
  rw [execX_store X noCap _ _ _ a 6 w _ _ _ rfl rfl (stepc_sss P (isBinOp_equals P) 3 4 2 (by decide) (by decide) (by decide) _ _)]
  simp only [List.getD_cons_zero, List.getD_cons_succ, binop_equals_num P T, hend, M.pure, List.set_cons_succ, List.set_cons_zero]
  rw [execX_goto X noCap _ _ _ a 7 w _ _ rfl rfl (stepc_jumpIf P 3 3 (by decide) (by decide) _ _ 10 rfl)]
  simp only [List.getD_cons_zero, List.getD_cons_succ, truthy_ofBool, show ((k : Int) + 1) = ((k + 1 : Nat) : Int) by omega]
  cases more.isEmpty <;> rfl

/-- loop invariant of `apply_asm`: at pc 4 with counter `k` in slot 4, the first `k` arguments pending, `rest.drop k = mid ++ [last]` -/
theorem apply_loop (X : CallPrims P) (T : TupleLaws P) (f : P.V) (rest : List P.V) :
    ∀ (mid : List P.V) (last : P.V) (k : Nat) (a : List P.V) (s3 s5 : P.V) (w : P.W), rest.drop k = mid ++ [last] →
      execX X noCap applyCode (6 * (mid.length + 1)) ⟨[f, T.tup rest, P.num rest.length, s3, P.num k, s5], a, 4⟩ w =
        some (retOf (applySem X f (a ++ mid) last (fun _ => none) w)) := by
  intro mid
  induction mid with
  | nil =>
    intro last k a s3 s5 w hdrop
    rw [show 6 * (([] : List P.V).length + 1) = 0 + 1 + 1 + 1 + 1 + 1 + 1 from rfl, apply_turn X T f rest [] last k a s3 s5 w _ hdrop]
    -- pc 10: push-array x; pc 11: tail call
    rw [execX_succ X noCap applyCode _ _ w _ _ (by rfl) (stepX_pushArray X noCap 5 _)]
    simp only [mkD_D _ 5 (by decide : 5 < 16777216), getS, List.getD_cons_succ, List.getD_cons_zero, applySem, List.append_nil]
    cases hv : X.indexedView last with
    | none => simp [M.throw, retOf]
    | some l =>
      simp only [M.pure]
      rw [execX_succ X noCap applyCode _ _ w _ _ (by rfl) (stepX_tailcall X noCap 0 _)]
      simp only [M.bind, M.pure, mkD_D _ 0 (by decide : 0 < 16777216), getS, List.getD_cons_zero, view_noCap]
      rcases X.call f (a ++ l) (fun _ => none) w with ⟨(_ | _), _⟩ <;> rfl
  | cons x mid ih =>
    intro last k a s3 s5 w hdrop
    rw [show 6 * ((x :: mid).length + 1) = 6 * (mid.length + 1) + 1 + 1 + 1 + 1 + 1 + 1 from rfl,
      apply_turn X T f rest (mid ++ [last]) x k a s3 s5 w _ hdrop]
    have hne : (mid ++ [last]).isEmpty = false := by cases mid <;> rfl
    simp only [hne, Bool.false_eq_true, if_false]
    -- pc 8: push x; pc 9: back to pc 4
    rw [execX_succ X noCap applyCode _ _ w _ _ (by rfl) (stepX_push X noCap 5 _)]
    simp only [M.pure, mkD_D _ 5 (by decide : 5 < 16777216), getS, List.getD_cons_succ, List.getD_cons_zero]
    have hback : ∀ s : List P.V, step P (mkD .jump 16777211) ⟨s, 9⟩ = some (cont' P ⟨s, 4⟩) := fun s => by
      simp [step, jumpBy, Instr.DS, Instr.D, mkD, signExt]
    rw [execX_goto X noCap applyCode _ _ _ 9 w _ _ rfl rfl (hback _)]
    rw [ih last (k + 1) (a ++ [x]) _ x w (drop_eq_cons hdrop).2.2.1, List.append_assoc]
    rfl

theorem apply_entry (X : CallPrims P) (T : TupleLaws P) (f : P.V) (rest : List P.V) (w : P.W) (F : Nat) :
    execX X noCap applyCode (F + 1 + 1 + 1) (applyFrame0 T f rest) w =
      execX X noCap applyCode F ⟨[f, T.tup rest, P.num rest.length, ofBool P ((rest.length : Int) == 0), P.nil, P.nil], [],
        if ((rest.length : Int) == 0) then 11 else 3⟩ w := by
  have heqim := isImmOp_of_base P .equalsImmediate .equals rfl
  unfold applyFrame0
  rw [execX_store X noCap _ _ _ [] 0 w _ _ _ rfl rfl (stepc_length P 2 1 (by decide) (by decide) _ _)]
  simp only [List.getD_cons_zero, List.getD_cons_succ, T.length_tup, M.pure, List.set_cons_succ, List.set_cons_zero]
  rw [execX_store X noCap _ _ _ [] 1 w _ _ _ rfl rfl (stepc_imm P heqim 3 2 0 (by decide) (by decide) (by decide) _ _)]
  simp only [List.getD_cons_zero, List.getD_cons_succ, immop_eqim_num P T, M.pure, List.set_cons_succ, List.set_cons_zero]
  rw [execX_goto X noCap _ _ _ [] 2 w _ _ rfl rfl (stepc_jumpIf P 3 9 (by decide) (by decide) _ _ 11 rfl)]
  simp only [List.getD_cons_zero, List.getD_cons_succ, truthy_ofBool]
  cases ((rest.length : Int) == 0) <;> rfl

/-- running the bytecode of the generic `apply` on `(f & rest)`: with no further arguments it calls `f` on nothing; otherwise it
    calls `f` on all but the last argument followed by the elements of the last, which must be indexed - for EVERY argument list -/
theorem apply_template_correct (X : CallPrims P) (T : TupleLaws P) (f : P.V) (rest : List P.V) (w : P.W) :
    ∃ fuel, execX X noCap applyCode fuel (applyFrame0 T f rest) w =
      some (retOf (match rest.reverse with
        | [] => X.call f [] (fun _ => none) w
        | last :: revLead => applySem X f revLead.reverse last (fun _ => none) w)) := by
  cases hrev : rest.reverse with
  | nil =>
    have hnil : rest = [] := by simpa using hrev
    subst hnil
    refine ⟨0 + 1 + 1 + 1 + 1, ?_⟩
    rw [apply_entry X T f [] w]
    simp only [List.length_nil, Int.natCast_zero, beq_self_eq_true, if_true]
    rw [execX_succ X noCap applyCode _ _ w _ _ (by rfl) (stepX_tailcall X noCap 0 _)]
    simp only [M.bind, M.pure, mkD_D _ 0 (by decide : 0 < 16777216), getS, List.getD_cons_zero, view_noCap]
    rcases X.call f [] (fun _ => none) w with ⟨(_ | _), _⟩ <;> rfl
  | cons last revLead =>
    have hrest : rest = revLead.reverse ++ [last] := by simpa using congrArg List.reverse hrev
    have hlen0 : (((rest.length : Nat) : Int) == 0) = false := by
      rw [beq_eq_false_iff_ne, hrest]; simp; omega
    refine ⟨6 * (revLead.reverse.length + 1) + 1 + 1 + 1 + 1, ?_⟩
    rw [apply_entry X T f rest w, hlen0]
    simp only [Bool.false_eq_true, if_false]
    -- pc 3: k = 0; then the loop
    rw [execX_goto X noCap applyCode _ _ _ 3 w _ _ rfl rfl (stepc_loadInteger P 4 0 (by decide) (by decide) _ _)]
    simp only [List.set_cons_succ, List.set_cons_zero]
    simpa using apply_loop X T f rest revLead.reverse last 0 [] _ P.nil w (by rw [hrest]; rfl)

end JanetModel.Spec
