import JanetModel.Sandbox.Sound
import JanetModel.Gen.Sandbox
import JanetModel.Depth.TableEval
/- C18 - sandboxed capabilities stay disabled: the property theorems (proved in Sandbox/Sound.lean for every graph and
   certificate) and the per-run obligations on the graph regenerated from the current tree, by kernel evaluation. -/
namespace JanetModel.Props.C18
open JanetModel.Sandbox

/-- No sequence of operations, by any threads, clears a bit of any thread's flag word. -/
theorem flags_monotone (ops : List SysOp) (s : Sys) (tid fl : Nat) (h : s[tid]? = some fl) :
    ∃ fl', (s.run ops)[tid]? = some fl' ∧ subMask fl fl' = true :=
  Sound.flags_monotone ops s tid fl h

/-- A thread started by `tid` begins with exactly its parent's flag word … -/
theorem spawn_inherits (s : Sys) (tid fl : Nat) (h : s[tid]? = some fl) :
    (s.step (.spawn tid))[s.length]? = some fl :=
  Sound.spawn_inherits s tid fl h

/-- … and whatever happens afterwards keeps at least the capabilities disabled that its parent had disabled then. -/
theorem thread_keeps_parent_flags (s : Sys) (tid fl : Nat) (h : s[tid]? = some fl) (ops : List SysOp) :
    ∃ fl', ((s.step (.spawn tid)).run ops)[s.length]? = some fl' ∧ subMask fl fl' = true :=
  Sound.thread_keeps_parent_flags s tid fl h ops

/-- the sandbox capability guards `sandbox` itself -/
theorem sandboxOp_guarded (fl f : Nat) (h : fl &&& capSandbox ≠ 0) : sandboxOp fl f = none :=
  Sound.sandboxOp_guarded fl f h

/-- corelib.c `janet_core_sandbox` (`(sandbox :k1 :k2 …)`, model `sandboxCfun` over the keyword table): when it returns,
    every capability the table lists for every keyword given is disabled, nothing has been re-enabled, and the step is a
    `sandboxOp` (so the theorems above cover it). -/
theorem sandboxCfun_disables (tbl : List (String × Nat)) (fl fl' : Nat) (kws : List String)
    (h : sandboxCfun tbl fl kws = some fl') :
    subMask fl fl' = true ∧ (∀ k ∈ kws, ∃ mk, kwLookup tbl k = some mk ∧ subMask mk fl' = true) ∧
    ∃ m, sandboxMask tbl 0 kws = some m ∧ sandboxOp fl m = some fl' :=
  Sound.sandboxCfun_disables tbl fl fl' kws h

/-- an unknown keyword panics before anything changes -/
theorem sandboxCfun_unknown (tbl : List (String × Nat)) (fl : Nat) (kws : List String) (k : String) (hk : k ∈ kws)
    (hu : kwLookup tbl k = none) : sandboxCfun tbl fl kws = none :=
  Sound.sandboxCfun_unknown tbl fl kws k hk hu

/-- Soundness lifted through re-entrant calls: let the interpreter run ANY sequence of entry-point calls and
    `(sandbox …)` calls under one thread-global flag word, entry points re-entering the interpreter at their indirect calls
    to any depth (`Ex`/`Ob`, Model.lean).  Every OS-level call `c` that is reached is reached with a flag word in which none
    of its requirement groups (for the access mode in force at the call) is completely disabled. -/
theorem interp_sound (need : String → String → Nat → List Nat) (G : Graph) (C : Cert) (h : certOK need G C = true)
    (F0 c F md : Nat) (fn nm : String) (hobs : Ob G true 0 F0 0 c F md) (hlt : c < G.size)
    (hc : (G.node c).op = .libc fn nm) (R : Nat) (hR : R ∈ need fn nm md) : subMask R F = false :=
  Sound.interp_sound need G C h F0 c F md fn nm hobs hlt hc R hR

/-- Same, for one call of one entry point. -/
theorem checker_sound (need : String → String → Nat → List Nat) (G : Graph) (C : Cert) (h : certOK need G C = true)
    (f : Nat) (hf : f ∈ G.entries) (F0 c F md : Nat) (fn nm : String)
    (hobs : Ob G false (G.fnEntry f) F0 0 c F md) (hlt : c < G.size) (hc : (G.node c).op = .libc fn nm)
    (R : Nat) (hR : R ∈ need fn nm md) : subMask R F = false :=
  Sound.checker_sound need G C h f hf F0 c F md fn nm hobs hlt hc R hR

/-- In terms of the flag word when the run starts: if a requirement group of `c` is completely disabled, no execution
    reaches `c` (every path ends in a sandbox panic before, or never gets there). -/
theorem checker_sound_entry (need : String → String → Nat → List Nat) (G : Graph) (C : Cert) (h : certOK need G C = true)
    (F0 c F md : Nat) (fn nm : String) (hlt : c < G.size) (hc : (G.node c).op = .libc fn nm)
    (R : Nat) (hR : R ∈ need fn nm md) (hdis : subMask R F0 = true) : ¬ Ob G true 0 F0 0 c F md :=
  Sound.checker_sound_entry need G C h F0 c F md fn nm hlt hc R hR hdis

/-- `interp_sound` with the entry points *defined* as "the functions of the slice whose address is taken anywhere in
    the program" (`addrEntries ids taken`) instead of the translator's entry list: whatever the interpreter / code outside
    the slice calls through a pointer is one of those.  The hypothesis `entriesCover` is discharged per run by `gen_entries`. -/
theorem interp_sound_addr (need : String → String → Nat → List Nat) (G : Graph) (C : Cert) (h : certOK need G C = true)
    (ids : List Nat) (taken : List Nat) (hcov : entriesCover ids G.entries taken = true)
    (F0 c F md : Nat) (fn nm : String) (hobs : Ob (G.withEntries (addrEntries ids taken)) true 0 F0 0 c F md)
    (hlt : c < G.size) (hc : (G.node c).op = .libc fn nm) (R : Nat) (hR : R ∈ need fn nm md) : subMask R F = false :=
  Sound.interp_sound_addr need G C h ids taken hcov F0 c F md fn nm hobs hlt hc R hR

/-- The property end to end, same thread: once a requirement group `R` of the OS-level call `c` is disabled in thread
    `tid`, then after ANY sequence of operations of any threads an interpreter run of that thread never reaches `c`
    (`flags_monotone` composed with `checker_sound_entry`). -/
theorem stays_enforced (need : String → String → Nat → List Nat) (G : Graph) (C : Cert) (h : certOK need G C = true)
    (s : Sys) (tid fl : Nat) (hs : s[tid]? = some fl) (ops : List SysOp)
    (c F md : Nat) (fn nm : String) (hlt : c < G.size) (hc : (G.node c).op = .libc fn nm)
    (R : Nat) (hR : R ∈ need fn nm md) (hdis : subMask R fl = true) :
    ∃ fl', (s.run ops)[tid]? = some fl' ∧ ¬ Ob G true 0 fl' 0 c F md :=
  Sound.stays_enforced need G C h s tid fl hs ops c F md fn nm hlt hc R hR hdis

/-- … and for a thread started later (`thread_keeps_parent_flags` composed with `checker_sound_entry`): an interpreter
    run of the NEW thread never reaches `c`, whatever any thread did in between. -/
theorem thread_enforced (need : String → String → Nat → List Nat) (G : Graph) (C : Cert) (h : certOK need G C = true)
    (s : Sys) (tid fl : Nat) (hs : s[tid]? = some fl) (ops : List SysOp)
    (c F md : Nat) (fn nm : String) (hlt : c < G.size) (hc : (G.node c).op = .libc fn nm)
    (R : Nat) (hR : R ∈ need fn nm md) (hdis : subMask R fl = true) :
    ∃ fl', ((s.step (.spawn tid)).run ops)[s.length]? = some fl' ∧ ¬ Ob G true 0 fl' 0 c F md :=
  Sound.thread_enforced need G C h s tid fl hs ops c F md fn nm hlt hc R hR hdis

/-- an interpreter run never re-enables a capability (semantics of `Ex` alone, no certificate needed) -/
theorem run_never_reenables (G : Graph) (F F' : Nat) (h : Ex G true 0 F 0 0 F' 0) : subMask F F' = true :=
  Sound.ex_mono h

/-- non-vacuity: see the `example`s at the end of Sandbox/Sound.lean (a reachable guarded call; the shapes of the `os/rm`
    and `os/open :a` escapes are rejected) -/
example : certOK need Sound.exG Sound.exC = true := by decide +kernel

open JanetModel.Gen.Sandbox in
/-- evaluated together so that each node is looked up in the generated decision trees once -/
theorem gen_graphChecks : certOK need graph cert = true ∧ fieldsOK graph = true ∧
    outParamsOK graph outFamilies outSites = true ∧ handoversOK graph sliceIds handovers = true := by
  unfold graph cert
  rw [← TableEval.strict_eq nodeAt, ← TableEval.strict_eq fnEntryAt, ← TableEval.strict_eq certK,
    ← TableEval.strict_eq certPost, ← TableEval.strict_eq certPure]
  decide +kernel

open JanetModel.Gen.Sandbox in
theorem gen_certOK : certOK need graph cert = true := gen_graphChecks.1

open JanetModel.Gen.Sandbox in
/-- every node of the regenerated graph that reads or writes the tracked word touches exactly ONE variable's bit field
    (`Sound.upd_semantics`, `or_semantics`: such a node is an assignment to that variable and leaves the other tracked
    variables alone) -/
theorem gen_fieldsOK : fieldsOK graph = true := gen_graphChecks.2.1

open JanetModel.Gen.Sandbox in
/-- the clones of an out-parameter function (`janet_get_addrinfo` per value stored through `is_unix`) differ in nothing but the
    successor-less stores of the other values; every call of one is a fork over all of them, each arm assigning its value to
    the caller's guard variable; no clone is an entry point -/
theorem gen_outParams : outParamsOK graph outFamilies outSites = true := gen_graphChecks.2.2.1

/-- what a store of another value is in a clone: a `nop` without successors ends the activation's execution there -/
theorem stop_semantics {G : Graph} {n F md n' F' md' : Nat} (h : Ex G false n F md n' F' md')
    (hop : (G.node n).op = .nop) (hs : (G.node n).succs = []) : n' = n ∧ F' = F ∧ md' = md := by
  cases h <;> simp_all

/-- non-vacuity: the regenerated graph has such families, sites and successor-less stores, and a family in which a store is
    NOT cut off in a clone for another value is rejected -/
example : Gen.Sandbox.outFamilies ≠ [] ∧ Gen.Sandbox.outSites ≠ [] ∧
    outFamilyOK ⟨3, fun n => if n == 0 then ⟨0, .nop, []⟩ else if n == 1 then ⟨1, .nop, [2]⟩ else ⟨1, .ret, []⟩,
                 fun f => f, []⟩ (1, [(0, 0), (1, 256)], [(0, 0)]) = false ∧
    outFamilyOK ⟨2, fun n => ⟨n, .nop, []⟩, fun f => f, []⟩ (1, [(0, 0), (1, 256)], [(0, 0)]) = true := by decide

/-- what `gen_fieldsOK` buys, restated: an accepted `modeUpd` is an assignment to one tracked variable -/
theorem upd_semantics (k o : Nat) (h : opFieldsOK (.modeUpd k o) = true) (md : Nat) :
    ∃ f ∈ fields, ((md &&& k) ||| o) &&& f = o ∧ ∀ g ∈ fields, g ≠ f → ((md &&& k) ||| o) &&& g = md &&& g :=
  Sound.upd_semantics k o h md

open JanetModel.Gen.Sandbox in
theorem gen_classified : classifiedAll externals externalsIdx = true := by
  unfold classifiedAll
  simp only [TableEval.getD_eq_sharedDrop]
  decide +kernel

open JanetModel.Gen.Sandbox in
theorem gen_tables : definesOK defines capTable = true ∧ tableEq options keywordTable = true ∧ flagWritesOK flagWrites = true := by
  decide +kernel

open JanetModel.Gen.Sandbox in
/-- the address-taken scan against the slice, evaluated once: its bit set serves the cover check and the counts -/
theorem gen_entries_eval : entriesCover sliceIds graph.entries addressTaken = true ∧
    (addrEntries sliceIds addressTaken).length > 20 ∧ addressTaken.length > 300 := by
  unfold entriesCover addrEntries
  simp only [TableEval.contains_eq_testBit]
  decide +kernel

open JanetModel.Gen.Sandbox in
theorem gen_entriesCover : entriesCover sliceIds graph.entries addressTaken = true := gen_entries_eval.1

open JanetModel.Gen.Sandbox in
theorem gen_certOK_addr : certOK need (graph.withEntries (addrEntries sliceIds addressTaken)) cert = true :=
  Sound.certOK_addr gen_certOK gen_entriesCover

open JanetModel.Gen.Sandbox in
/-- every address-taken function of the program (independent scan of the IR text: `Gen.Sandbox.addressTaken`, program
    ids) that lies in the slice is an entry point of the checked graph; functions only ever handed to a spawner are `call`
    targets at the hand-over site; the numbering agrees with the graph's name table. -/
theorem gen_entries :
    (∀ p ∈ addressTaken, ∀ i, sliceIds[i]? = some p → i ∈ graph.entries) ∧
    handoversOK graph sliceIds handovers = true ∧ namesAgree progFns sliceIds fnNames = true :=
  ⟨Sound.entriesCover_spec gen_entriesCover, gen_graphChecks.2.2.2, by decide +kernel⟩

open JanetModel.Gen.Sandbox in
/-- non-vacuity of `gen_entries`: the entry points defined by the scan are many, and the scan is much larger than the slice -/
example : (addrEntries sliceIds addressTaken).length > 20 ∧ addressTaken.length > 300 := gen_entries_eval.2

open JanetModel.Gen.Sandbox in
/-- the regenerated graph, entry points = address-taken functions of the slice (no translator-chosen entry list):
    if a requirement group of the OS-level call `c` is disabled when the interpreter run starts, `c` is never reached. -/
theorem sandbox_enforced_addr (F0 c F md : Nat) (fn nm : String)
    (hlt : c < graph.size) (hc : (graph.node c).op = .libc fn nm) (R : Nat) (hR : R ∈ need fn nm md) (hdis : subMask R F0 = true) :
    ¬ Ob (graph.withEntries (addrEntries sliceIds addressTaken)) true 0 F0 0 c F md :=
  checker_sound_entry need _ cert gen_certOK_addr F0 c F md fn nm hlt hc R hR hdis

open JanetModel.Gen.Sandbox in
/-- every `JANET_SANDBOX_*` capability of the header has a keyword of the regenerated `sandbox_options[]` that disables
    exactly it, and `:all` disables every one (a capability added to the header without a keyword fails here; one added
    without a line in `Cap.capTable` fails `gen_tables`) -/
theorem gen_keywords : keywordsCover options defines = true := by decide +kernel

open JanetModel.Gen.Sandbox in
/-- the regenerated data-flow shape of vm.c `janet_sandbox` and corelib.c `janet_core_sandbox` is the one `sandboxOp` /
    `sandboxCfun` model (assert of the sandbox capability, or-in; accumulator from 0 over `sandbox_options[]` flags, panic for
    an unknown keyword) -/
theorem gen_sandboxShape : sandboxShapeOK sandboxShape = true ∧ capSandbox = 1 := by decide +kernel

/-- non-vacuity: `flags = opt->flag` (assignment instead of or-in) is not the shape -/
example : sandboxShapeOK [("janet_sandbox", "janet_sandbox_assert(1); flags |= parameter"),
    ("janet_core_sandbox", "unrecognised: the mask local is assigned: %33 = load i32, i32* %32, align 8")] = false := by decide +kernel

open JanetModel.Gen.Sandbox in
/-- the translator's summary `mayGrow` is closed: certificate check by kernel evaluation -/
theorem gen_mayGrow : mayGrowOK mayGrowAt noGrowEdges benignCallees flagWriters = true := by
  rw [← TableEval.strict_eq mayGrowAt]
  decide +kernel

open JanetModel.Gen.Sandbox in
/-- a call that the graph has NO node for (defined callee outside the slice, not `havoc`) cannot reach a store to the flag
    word through the call edges of the program -/
theorem benign_calls_keep_flags (g w : Nat) (hg : g ∈ benignCallees) (hp : CallPath noGrowEdges g w) : w ∉ flagWriters :=
  Sound.benign_never_writes gen_mayGrow hg hp

open JanetModel.Gen.Sandbox in
/-- non-vacuity: there are such callees and the decision tree agrees with the id list on the writers -/
example : benignCallees.length > 50 ∧ flagWriters.all (fun w => mayGrowIds.contains w) = true := by decide +kernel

open JanetModel.Gen.Sandbox in
/-- the regenerated shape of thread start is `SysOp.spawn` (child's word := parent's word, at every hand-over site, through
    the spawner's message copy and the thread body, into the subroutine's `janet_init(); flags := msg.argi`) -/
theorem gen_threadStart : threadStartOK threadStart = true := by decide +kernel

open JanetModel.Gen.Sandbox in
/-- thread start of the current tree, followed step by step through the message (`spawnC` over the regenerated
    configuration), IS the model's `SysOp.spawn`: the new thread's word is its parent's word, whatever an unchecked step could
    have delivered (`junk`) -/
theorem gen_spawn_refines (s : Sys) (tid fl junk : Nat) (hs : s[tid]? = some fl) :
    (s.step (.spawn tid))[s.length]? = some (spawnC (threadCfgOf threadStart) fl junk) :=
  Sound.spawn_is_spawnC _ gen_threadStart s tid fl junk hs

/-- non-vacuity: a hand-over that does not pass the flag word is rejected; so is a spawner that patches the message -/
example : threadStartOK [("janet_go_thread_subr", "janet_init; flags := msg.argi"), ("cfun_ev_thread", "unverified hand-over via janet_ev_threaded_call"),
    ("janet_ev_threaded_await", "msg.argi := parameter argi; janet_ev_threaded_call(fp, msg)"),
    ("janet_ev_threaded_call", "init.msg := arguments; init.subr := fp; pthread_create(body, init)"),
    ("thread body", "msg := init.msg; subr := init.subr; subr(msg)")] = false := by decide +kernel
example : threadStartOK [("janet_go_thread_subr", "janet_init; flags := msg.argi"), ("cfun_ev_thread", "janet_ev_threaded_call: msg.argi := flags"),
    ("janet_ev_threaded_await", "msg.argi := parameter argi; janet_ev_threaded_call(fp, msg)"),
    ("janet_ev_threaded_call", "unrecognised message path: the message field of the init block is addressed 2 times")] = false := by decide +kernel

open JanetModel.Gen.Sandbox in
/-- the whole property for the regenerated graph (entry points = address-taken functions of the slice): a capability
    group disabled in a thread stays enforced in that thread and in every thread it starts later -/
theorem sandbox_enforced_threads (s : Sys) (tid fl : Nat) (hs : s[tid]? = some fl) (ops : List SysOp)
    (c F md : Nat) (fn nm : String) (hlt : c < graph.size) (hc : (graph.node c).op = .libc fn nm)
    (R : Nat) (hR : R ∈ need fn nm md) (hdis : subMask R fl = true) :
    (∃ fl', (s.run ops)[tid]? = some fl' ∧
      ¬ Ob (graph.withEntries (addrEntries sliceIds addressTaken)) true 0 fl' 0 c F md) ∧
    (∃ fl', ((s.step (.spawn tid)).run ops)[s.length]? = some fl' ∧
      ¬ Ob (graph.withEntries (addrEntries sliceIds addressTaken)) true 0 fl' 0 c F md) := by
  exact ⟨stays_enforced need _ cert gen_certOK_addr s tid fl hs ops c F md fn nm hlt hc R hR hdis,
    thread_enforced need _ cert gen_certOK_addr s tid fl hs ops c F md fn nm hlt hc R hR hdis⟩

open JanetModel.Gen.Sandbox in
theorem sandbox_enforced (F0 c F md : Nat) (fn nm : String)
    (hlt : c < graph.size) (hc : (graph.node c).op = .libc fn nm) (R : Nat) (hR : R ∈ need fn nm md) (hdis : subMask R F0 = true) :
    ¬ Ob graph true 0 F0 0 c F md :=
  checker_sound_entry need graph cert gen_certOK F0 c F md fn nm hlt hc R hR hdis

end JanetModel.Props.C18
