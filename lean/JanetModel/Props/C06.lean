/- C06 - channels conserve values, keep order, respect capacity and lose no wake-ups.
   Theorems about the model `JanetModel.Ev` instantiated with `currentCfg`, the configuration that tools/gen/ev.py reads
   off the CURRENT ev.c (Gen/Ev.lean); the defect witnesses at the end are at `Cfg.pinned` / `Cfg.good`.  A `by decide` on a
   configuration bit is a proof obligation on the source: it fails when the source does not have the corresponding test. -/
import JanetModel.Ev.ChanInv
import JanetModel.Ev.QueueLemmas
import JanetModel.Ev.Current
namespace JanetModel.Props.C06
open JanetModel.Ev

/-- A give on an open channel completes without waiting exactly when a taker is already waiting (a pending reader whose
    sched_id is current) or the channel is below capacity.  Obligation on the source: the test is `count > limit`. -/
theorem give_blocks_iff (w : World) (f c x : Nat) (w' : World) (b : Bool)
    (h : chanPush currentCfg w f c x 0 = .ok w' b) :
    b = false ↔ (hasLiveReader w.fibers (w.chans c).readPending = true ∨
                 (w.chans c).items.length < (w.chans c).limit) :=
  Ev.give_blocks_iff currentCfg (by decide) w f c x 0 w' b h

/-- A take on an open channel waits exactly when the channel is empty. -/
theorem take_blocks_iff (w : World) (f c : Nat) (ho : (w.chans c).closed = false) :
    (∃ w', chanPop currentCfg w f c 0 = .blocked w') ↔ (w.chans c).items = [] :=
  Ev.take_blocks_iff currentCfg w f c 0 ho

/-- FIFO use of the item queue (any state): a take that does not wait returns the head of `items` and leaves the tail; a
    give that finds no waiting taker appends at the tail.  (`fifo_per_channel` proper additionally needs the reachable-state
    invariant "a live pending reader implies `items = []`", so that the direct hand-over in push cannot overtake queued
    items: `chan_invariant` and `fifo_per_channel` in `Ev/SourceObligations.lean`.) -/
theorem fifo_per_channel_partial (w : World) (f c : Nat) :
    (∀ w' r, (w.chans c).closed = false → chanPop currentCfg w f c 0 = .got w' r →
        ∃ x rest, (w.chans c).items = x :: rest ∧ r = some x ∧ (w'.chans c).items = rest) ∧
    (∀ x w' b, hasLiveReader w.fibers (w.chans c).readPending = false → chanPush currentCfg w f c x 0 = .ok w' b →
        (w'.chans c).items = (w.chans c).items ++ [x]) :=
  ⟨fun w' r ho h => Ev.chanPop_head currentCfg w f c 0 w' r ho h,
   fun x w' b hr h => Ev.chanPush_tail currentCfg w f c x 0 w' b hr h⟩

/-- When `ev/select` returns without suspending, its result is the result of exactly one of its clauses and no channel
    other than that clause's channel has changed (any state, any clause list). -/
theorem select_exactly_one (w w' : World) (f : Nat) (cls : List Clause) (v : Val)
    (h : choiceImmediate currentCfg w f cls = some (w', v)) :
    ∃ cl ∈ cls, v.ofClause cl ∧ ∀ c', c' ≠ cl.chan → w'.chans c' = w.chans c' :=
  Ev.choiceImmediate_one currentCfg f cls w w' v h

/-- Closing an open channel (any state) empties both pending queues, marks it closed and schedules every waiter whose
    registration is current and whose fiber can be resumed (its sched_id is bumped = a wake-up task was appended). -/
theorem close_wakes_all (w : World) (c : Nat) (ho : (w.chans c).closed = false) (p : Pending)
    (hp : p ∈ (w.chans c).writePending ∨ p ∈ (w.chans c).readPending)
    (hl : p.sched = (w.fibers p.fiber).sched) (hr : fiberCanResume (w.fibers p.fiber) = true)
    (hcn : (w.fibers p.fiber).canceled = false) :
    ((chanClose currentCfg w c).chans c).closed = true ∧ ((chanClose currentCfg w c).chans c).readPending = [] ∧
    ((chanClose currentCfg w c).chans c).writePending = [] ∧
    (w.fibers p.fiber).sched < ((chanClose currentCfg w c).fibers p.fiber).sched :=
  Ev.chanClose_wakes_all currentCfg w c ho p hp hl hr hcn

/-- For every action sequence from the start state, every channel `c` and every value `x`:
    #times `x` was pushed into `c` = #times `c` handed `x` out + #copies still queued in `c`.
    `pushed` is every value accepted by janet_channel_push_with_lock - INCLUDING a value that the registration loop of a
    select enqueued for a give clause whose select then completed through another clause: such a value counts as given
    here, stays queued and is handed to a later taker (`select_losing_give_value_delivered` below; on the implementation
    this is the known finding `select-losing-give-clause-value-delivered`). -/
theorem conservation (limits : Nat → Nat) (as : List Action) (c x : Nat) :
    let w := run currentCfg (World.start limits) as
    (onChan w.ghost.pushed c).count x = (onChan w.ghost.handed c).count x + (w.chans c).items.count x := by
  -- the count image of the FIFO law `pushed = handed out ++ queued`
  show List.count x _ = _
  rw [(Ev.run_chanFifo ⟨by decide, by decide⟩ as _ (Ev.start_chanFifo limits)).2 c, List.count_append]

/-- nothing is handed out that was not given, and nothing twice: a value pushed at most once into `c` is handed out by
    `c` at most once, and only if it was pushed. -/
theorem nothing_twice (limits : Nat → Nat) (as : List Action) (c x : Nat) :
    let w := run currentCfg (World.start limits) as
    (onChan w.ghost.handed c).count x ≤ (onChan w.ghost.pushed c).count x := by
  have := conservation limits as c x
  simp only at this ⊢
  omega

/-- non-vacuity: a run in which a value is pushed, handed out and received -/
example : let w := run Cfg.good (World.start fun _ => 0)
            [.timers, .runTask, .go 1, .take 0, .runTask, .give 0 7, .finish false, .runTask, .finish false]
          w.ghost.pushed = [(0, 7)] ∧ w.ghost.handed = [(0, 7)] ∧ w.ghost.received = [(0, 7)] := by decide

/-- for a well-formed JanetQueue (model `RingQ`, capacity bound `JANET_MAX_Q_CAPACITY` from the
    current source), with `toList` the abstract content (head first):
    push appends, push_head prepends, pop removes the head (and fails exactly on the empty list), janet_q_maybe_resize -
    including the memmove of a wrapped first segment - changes nothing, every operation keeps the representation
    invariant, and the index walk `for (i = head; i != tail; i = i + 1 < capacity ? i + 1 : 0)` of
    janet_channel_has_reader visits exactly `toList`. -/
theorem queue_refines_list {α : Type} (q : RingQ α) (h : q.WF) :
    (∀ x q', q.push maxQCapacity x = some q' → q'.toList = q.toList ++ [x] ∧ q'.WF) ∧
    (∀ x q', q.pushHead maxQCapacity x = some q' → q'.toList = x :: q.toList ∧ q'.WF) ∧
    (q.pop = none ↔ q.toList = []) ∧
    (∀ x q', q.pop = some (x, q') → q.toList = x :: q'.toList ∧ q'.WF) ∧
    (∀ q', q.maybeResize maxQCapacity = some q' → q'.toList = q.toList ∧ q'.WF) ∧
    q.walk = q.toList :=
  ⟨fun x q' hp => RingQ.push_spec _ q h x q' hp, fun x q' hp => RingQ.pushHead_spec _ q h x q' hp,
   RingQ.pop_none q h, fun x q' hp => RingQ.pop_some q h x q' hp,
   fun q' hr => ⟨(RingQ.maybeResize_spec _ q h q' hr).1, (RingQ.maybeResize_spec _ q h q' hr).2.1⟩,
   RingQ.walk_eq_toList q h⟩

/-- non-vacuity: the initial queue is well-formed and empty; a wrapped queue that is full is moved correctly -/
example : (RingQ.init (0 : Nat)).WF ∧ (RingQ.init (0 : Nat)).toList = [] := ⟨Or.inl ⟨rfl, rfl, rfl⟩, rfl⟩
example : let q : RingQ Nat := { data := fun i => i, head := 3, tail := 2, cap := 4 }
          q.toList = [3, 0, 1] ∧ ((q.push 100 9).map RingQ.toList) = some [3, 0, 1, 9] := by decide

/-- On a 2-fiber world: main spawns a taker, sleeps, then `(ev/select [ch 11])`.  With the pinned
    configuration the value is handed over in the registration loop and the selecting fiber is then suspended with no
    registration, task or timer left: it can never be resumed. -/
def hangActs : List Action :=
  [.timers, .runTask, .go 1, .sleep 0, .runTask, .take 0, .timers, .runTask, .select [.give 0 11], .runTask, .finish false]

theorem select_give_to_waiting_taker_sticks :
    lostWakeup (run Cfg.pinned (World.start fun _ => 0) hangActs) 0 1 = true
    ∧ (run Cfg.pinned (World.start fun _ => 0) hangActs).ghost.received = [(1, 11)] := by decide

/-- the same actions with every check present: the select returns at once, nobody is stuck -/
example : lostWakeup (run Cfg.good (World.start fun _ => 0) hangActs) 0 1 = false := by decide

/-- A: `(ev/select [c0 1001] c1)`, B: `(ev/give c1 2001)`, T: `(ev/take c0)`.  A is resumed through c1; T then pops A's
    stale writer entry on c0 and schedules A a second time, the first task (carrying 2001) is dropped by the stale-task
    filter and A's select yields `[:give c0]`: 2001 was handed over and is received by nobody. -/
def staleWriterActs : List Action :=
  [.timers, .runTask, .go 1, .go 2, .go 3, .finish false, .runTask, .select [.give 0 1001, .take 1], .runTask,
   .give 1 2001, .finish false, .runTask, .take 0, .runTask, .runTask, .finish false, .runTask, .finish false]

theorem take_wakes_stale_select_writer :
    let w := run Cfg.pinned (World.start fun _ => 0) staleWriterActs
    w.ghost.dropped.map (·.value) = [Val.take 1 2001] ∧ w.ghost.received = [(3, 1001)] := by decide

example : (run Cfg.good (World.start fun _ => 0) staleWriterActs).ghost.dropped = [] := by decide

/-- Not repaired in the source, present with every check (`Cfg.good`): A `(ev/select [c0 1001] c1)` suspends having
    enqueued 1001 on c0; B `(ev/give c1 2001)` completes A's select through its take clause (A receives 2001, its select
    yields `[:take c1 2001]`); T `(ev/take c0)` then receives 1001, the value of A's LOSING give clause.  The stale-writer
    skip of pop keeps A from being woken a second time (nothing is dropped), but the value itself was pushed and is
    handed out. -/
theorem select_losing_give_value_delivered :
    let w := run Cfg.good (World.start fun _ => 0) staleWriterActs
    w.ghost.received = [(1, 2001), (3, 1001)] ∧ w.ghost.pushed = [(0, 1001), (1, 2001)] ∧
    w.ghost.handed = [(1, 2001), (0, 1001)] ∧ w.ghost.dropped = [] := by decide


/-- A: `(ev/select c0 c1)`, B: `(ev/give c1 2001)`, T: `(ev/chan-close c0)`: closing c0 schedules A through its stale
    entry; the task carrying 2001 is dropped and A's select yields `[:close c0]`. -/
def staleCloseActs : List Action :=
  [.timers, .runTask, .go 1, .go 2, .go 3, .finish false, .runTask, .select [.take 0, .take 1], .runTask,
   .give 1 2001, .finish false, .runTask, .close 0, .finish false, .runTask, .runTask, .finish false]

theorem close_wakes_stale_select_waiter :
    let w := run Cfg.pinned (World.start fun _ => 0) staleCloseActs
    w.ghost.dropped.map (·.value) = [Val.take 1 2001] ∧ w.ghost.received = [] := by decide

example : (run Cfg.good (World.start fun _ => 0) staleCloseActs).ghost.received = [(1, 2001)] := by decide

/- Further theorems of C06, same namespace: `Ev/SourceObligations.lean`, `Ev/SourceChecks.lean`. -/

end JanetModel.Props.C06
