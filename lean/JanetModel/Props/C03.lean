/- C03 — equality, hashing and ordering agree with each other: property theorems.

   All statements are about the model `JanetModel.Value` (Value/Model.lean, Value/Struct.lean), for every number type
   `N` satisfying `LawfulNum` (the laws of IEEE doubles other than NaN); the non-NaN patterns of `F64` (all 64-bit
   patterns, IEEE `==` / `<`) are such a type, and the section "NaN" carries the laws over to the NaN-free values of a
   model type that CONTAINS NaN.
   The model is tied to /repo/src/core/{value,util,struct,string}.c by Gen/Value.lean (regenerated constants and shape
   checks) and by the correspondence harness (checks/C03.py). -/
import JanetModel.Value.Order
import JanetModel.Value.F64
import JanetModel.Value.Struct
import JanetModel.Value.StructLemmas
import JanetModel.Value.SymCacheLemmas
import JanetModel.Value.SymGenLemmas
import JanetModel.Value.SymGenTerm
import JanetModel.Value.TraverseLemmas
import JanetModel.Value.RobinPerm
import JanetModel.Value.RobinDup
import JanetModel.Value.LayoutTests
import JanetModel.Value.NaN
import JanetModel.Value.StringLoop
import JanetModel.Value.AbstractInt
import JanetModel.Value.PtrShortcut
import JanetModel.Value.MapLookup
import JanetModel.Gen.ValueTrav

namespace JanetModel.Props.C03
open JanetModel.Value

variable {N : Type} [NumLike N] [LawfulNum N]


theorem equals_refl (a : JVal N) : equals a a = true := by
  rw [equals_eq_contentEq_both.1]; exact contentEq_refl_both.1 a

theorem equals_symm (a b : JVal N) : equals a b = equals b a := by
  rw [equals_eq_contentEq_both.1, equals_eq_contentEq_both.1]; exact contentEq_symm_both.1 a b

theorem equals_trans (a b c : JVal N) (h1 : equals a b = true) (h2 : equals b c = true) : equals a c = true := by
  rw [equals_eq_contentEq_both.1] at *; exact contentEq_trans_both.1 a b c h1 h2

/-- `janet_equals` with its hash / length short-cuts decides exactly content equality (`contentEq`: same type, same
    number up to −0 = +0, same bytes, same bracket kind and element-wise equal, same slots and prototype, same address) -/
theorem equals_iff_content (a b : JVal N) : equals a b = contentEq a b := equals_eq_contentEq_both.1 a b

/-! ### equal values hash alike (needs the −0 normalisation, the bracket-flag offset, the prototype term) -/

theorem equals_hash (a b : JVal N) (h : equals a b = true) : hash a = hash b := by
  rw [equals_eq_contentEq_both.1] at h; exact contentEq_hash_both.1 a b h


theorem compare_antisymm (a b : JVal N) : jcompare b a = (jcompare a b).swap :=
  jcompare_swap a b

theorem compare_triple (a b c : JVal N) : Tri (jcompare a b) (jcompare b c) (jcompare a c) :=
  jcompare_tri a b c

theorem compare_trans (a b c : JVal N) (h1 : jcompare a b ≠ .gt) (h2 : jcompare b c ≠ .gt) : jcompare a c ≠ .gt :=
  (compare_triple a b c).1 h1 h2

theorem compare_lt_of_lt_of_le (a b c : JVal N) (h1 : jcompare a b = .lt) (h2 : jcompare b c ≠ .gt) : jcompare a c = .lt :=
  (compare_triple a b c).2.1 h1 h2

theorem compare_lt_of_le_of_lt (a b c : JVal N) (h1 : jcompare a b ≠ .gt) (h2 : jcompare b c = .lt) : jcompare a c = .lt :=
  (compare_triple a b c).2.2.1 h1 h2

theorem compare_total (a b : JVal N) : jle a b = true ∨ jle b a = true := le_or_swap_le (compare_antisymm a b)

theorem compare_eq_zero_iff_equals (a b : JVal N) : jcompare a b = .eq ↔ equals a b = true := by
  rw [equals_eq_contentEq_both.1]; exact jcompare_eq_iff a b

/-- the order is total: antisymmetric (up to `=`), transitive, total -/
theorem compare_total_order :
    (∀ a b : JVal N, jcompare b a = (jcompare a b).swap) ∧
    (∀ a b : JVal N, jle a b = true → jle b a = true → equals a b = true) ∧
    (∀ a b c : JVal N, jle a b = true → jle b c = true → jle a c = true) ∧
    (∀ a b : JVal N, jle a b = true ∨ jle b a = true) := by
  exact ⟨compare_antisymm,
    fun a b h1 h2 => (compare_eq_zero_iff_equals a b).mp (eq_of_le_of_swap_le (compare_antisymm a b) h1 h2),
    fun a b c => (compare_triple a b c).le_trans, compare_total⟩

/-- equal values are interchangeable on either side of a comparison -/
theorem compare_congr (a b c : JVal N) (h : equals a b = true) : jcompare a c = jcompare b c ∧ jcompare c a = jcompare c b := by
  rw [equals_iff_content] at h
  exact ⟨jcompare_congr_left h c, jcompare_congr_right h c⟩


theorem lt_le_gt_ge_agree (a b : JVal N) :
    jlt a b = (jcompare a b == .lt) ∧ jgt a b = jlt b a ∧ jge a b = jle b a ∧ jle a b = (jlt a b || equals a b) ∧
    jlt a b = !jge a b :=
  ⟨rfl, ops_agree (compare_antisymm a b) (compare_eq_zero_iff_equals a b)⟩


/-- two tuples are equal exactly when they have the same bracket kind and element-wise equal contents -/
theorem tuple_by_content (br1 br2 : Bool) (xs ys : List (JVal N)) :
    equals (.tuple br1 xs) (.tuple br2 ys) = (br1 == br2 && contentEqList xs ys) := by
  rw [equals_eq_contentEq_both.1]; simp [contentEq]

/-- structs are equal exactly when their slot arrays and prototypes are element-wise equal
    (that the slot array is a function of the contents alone is `struct_layout_canonical`) -/
theorem struct_by_slots (f1 p1 f2 p2 : List (JVal N)) :
    equals (.struct f1 p1) (.struct f2 p2) = (contentEqList f1 f2 && contentEqList p1 p2) := by
  rw [equals_eq_contentEq_both.1]; simp [contentEq]

/-- arrays, tables, buffers, functions, fibers, …: equal iff same kind and same address; ordered by address -/
theorem ref_by_identity (k1 k2 : RefKind) (b1 b2 : UInt64) :
    (equals (.ref k1 b1 : JVal N) (.ref k2 b2) = true ↔ k1 = k2 ∧ b1 = b2) ∧
    (jcompare (.ref k1 b1 : JVal N) (.ref k2 b2) = .eq ↔ k1 = k2 ∧ b1 = b2) := by
  have h : equals (.ref k1 b1 : JVal N) (.ref k2 b2) = true ↔ k1 = k2 ∧ b1 = b2 := by simp [equals]
  exact ⟨h, by rw [compare_eq_zero_iff_equals]; exact h⟩

/-- symbols (keywords) are equal iff they have the same bytes, and never equal to a string or keyword (symbol) with
    those bytes.  In C the comparison is by pointer; that interning makes pointer identity coincide with byte equality
    is `symcache_unique` / `symcache_same_symbol` below, on the model of the symbol cache. -/
theorem symbol_identity_iff_bytes (a b : List UInt8) :
    (equals (.sym a : JVal N) (.sym b) = true ↔ a = b) ∧ (equals (.kw a : JVal N) (.kw b) = true ↔ a = b) ∧
    equals (.sym a : JVal N) (.kw b) = false ∧ equals (.sym a : JVal N) (.str b) = false ∧
    equals (.kw a : JVal N) (.str b) = false ∧
    (jcompare (.sym a : JVal N) (.sym b) = .eq ↔ a = b) ∧ (jcompare (.kw a : JVal N) (.kw b) = .eq ↔ a = b) := by
  refine ⟨by simp [equals], by simp [equals], by simp [equals], by simp [equals], by simp [equals], ?_, ?_⟩ <;>
    simp [jcompare, bytesCompare_eq_iff]

/-! ### the explicit traversal stack of value.c (model `Value/Traverse.lean`, proof `Value/TraverseLemmas.lean`)

`janet_equals` and `janet_compare` do not recurse: they keep a stack of `JanetTraversalNode`s (`push_traversal_node`,
`traversal_next`) and loop.  `Traverse.compareIter` / `Traverse.equalsIter` mirror those loops statement by statement (frames
with `index` / `index2`, the statuses 0–3 of `traversal_next`, `return status - 2`, `return 1` after any non-zero status).
They compute exactly the recursive `jcompare` / `equals` every other theorem of this file is about — for all values whose
structs have the shape `janet_struct_begin` gives them (`WFv`: `janet_tablen(2·length)` slots, at most one prototype), nested
to any depth and of any width.  So every law above holds of the iterative algorithm. -/

section traversal
open JanetModel.Value.Traverse
omit [LawfulNum N]

theorem compare_traversal_stack_is_recursive (x y : JVal N) (hx : WFv x) (hy : WFv y) :
    compareIter x y = some (jcompare x y) := compareIter_eq x y hx hy

theorem equals_traversal_stack_is_recursive (x y : JVal N) (hx : WFv x) (hy : WFv y) :
    equalsIter x y = some (equals x y) := equalsIter_eq x y hx hy

/-- the loop invariant itself, from ANY reachable state (stack of frames left by earlier iterations): the loop returns the
    recursive comparison of the current pair, then lexicographically what the frames still hold, top frame first -/
theorem compare_traversal_loop_invariant (fuel : Nat) (x y : JVal N) (st : List (Frame N)) (hst : StackOK true st)
    (hx : WFv x) (hy : WFv y) (hf : weight x + stackW st < fuel) :
    compareLoop fuel x y st = some ((jcompare x y).then (restCmp st)) := compareLoop_spec fuel x y st hst hx hy hf

/-- non-vacuity: a struct with a prototype inside a bracketed tuple inside a tuple is well-formed, and the iterative
    algorithms run on it (against a copy that differs in the prototype's value) -/
example :
    let p : JVal F64 := .struct [.kw [112], .num ⟨0x3FF0000000000000⟩, .nil, .nil, .nil, .nil, .nil, .nil] []
    let q : JVal F64 := .struct [.kw [112], .num ⟨0x4000000000000000⟩, .nil, .nil, .nil, .nil, .nil, .nil] []
    let a : JVal F64 := .tuple false [.str [97], .tuple true [.struct [.nil, .nil, .kw [107], .bool true, .nil, .nil, .nil, .nil] [p]], .nil]
    let b : JVal F64 := .tuple false [.str [97], .tuple true [.struct [.nil, .nil, .kw [107], .bool true, .nil, .nil, .nil, .nil] [q]], .nil]
    compareIter a a = some .eq ∧ equalsIter a a = some true ∧ compareIter a b = some (jcompare a b) ∧ equalsIter a b = some false ∧
      compareIter a b ≠ some .eq := by
  decide +kernel

example : WFv (.tuple false [.str [97], .tuple true [.struct [.nil, .nil, .kw [107], .bool true, .nil, .nil, .nil, .nil]
    [.struct [.kw [112], .num (⟨0x3FF0000000000000⟩ : F64), .nil, .nil, .nil, .nil, .nil, .nil] []]], .nil] : JVal F64) := by
  simp only [WFv, WFl, and_true, true_and, List.length_cons, List.length_nil]
  decide

end traversal

/-! ### symbol interning (src/core/symcache.c, model `Value/SymCache.lean`)

The model works on histories of `intern bytes` / `sweep bytes` from `janet_symcache_init`, with tombstones, the move of a
found symbol into the first tombstone on its probe path, `janet_cache_resize`.  What the C writes into a vacated slot
(`JANET_SYMCACHE_DELETED`, not `NULL`) is regenerated from the source: with `NULL` the probe-chain part of the invariant
(`Inv.chain`, lemma `vacatedByMove_ne`) no longer checks. -/

section symcache
open JanetModel.Value.SymCache

/-- after ANY history: no two cached symbols with the same bytes, one address names one symbol, a cached symbol is found by
    a lookup of its bytes (which returns its address), and the cache holds exactly the byte strings interned and not swept
    since (no symbol is lost, e.g. by a resize) -/
theorem symcache_unique (ops : List Op) (c : Cache) (h : run init ops = some c) :
    (∀ p q b, Live c.slots p b → Live c.slots q b → p = q) ∧
    (∀ p b b', Live c.slots p b → Live c.slots p b' → b = b') ∧
    (∀ p b, Live c.slots p b → ∃ c', intern c b = some (c', p)) ∧
    (∀ b, (∃ p, Live c.slots p b) ↔ b ∈ aliveAfter [] ops) := by
  have hs := run_spec ops init [] c init_invC
    (fun b => ⟨fun ⟨p, hp⟩ => absurd hp (not_live_replicate _ _ _), fun hb => by simp at hb⟩) h
  refine ⟨fun p q b hp hq => hs.1.inv.ptr_unique hp hq, hs.1.ptrInj, fun p b hl => ?_, hs.2⟩
  · obtain ⟨c', hc', _⟩ := intern_liveC hs.1 hl
    exact ⟨c', hc'⟩

/-- equal byte strings intern to the same address for as long as the symbol is not swept, whatever happens in between
    (other interns, sweeps of other symbols, tombstone reuse, resizes); different byte strings get different addresses -/
theorem symcache_same_symbol (ops1 ops2 : List Op) (c c1 c2 c3 : Cache) (b b' : List UInt8) (p1 p3 : Nat)
    (h0 : run init ops1 = some c) (h1 : intern c b = some (c1, p1)) (h2 : run c1 ops2 = some c2)
    (hns : ∀ o ∈ ops2, o ≠ Op.sweep b) (h3 : intern c2 b' = some (c3, p3)) :
    (b' = b → p3 = p1) ∧ (b' ≠ b → p3 ≠ p1) := by
  have hc := run_inv ops1 init c init_invC h0
  obtain ⟨hc1, hl1, _, _⟩ := intern_post hc h1
  have hc2 := run_inv ops2 c1 c2 hc1 h2
  have hl2 : Live c2.slots p1 b := live_stable ops2 c1 c2 p1 b hc1 hl1 h2 hns
  obtain ⟨hc3, hl3, hnew, hold⟩ := intern_post hc2 h3
  refine ⟨fun e => ?_, fun hne e => ?_⟩
  · subst e; exact (hold p1 hl2).symm
  · subst e
    by_cases hex : ∃ q, Live c2.slots q b'
    · obtain ⟨q, hq⟩ := hex
      have := hold q hq; subst this
      exact hne (hc2.ptrInj _ _ _ hq hl2)
    · have := hnew (fun q hq => hex ⟨q, hq⟩)
      have := hc2.fresh _ _ hl2
      omega

/-- non-vacuity: a history with a tombstone on the probe path of a later lookup runs without hitting the assertion -/
example : (run init [.intern [97], .intern [98], .intern [99], .sweep [98], .intern [99], .intern [98], .sweep [97]]).isSome = true := by
  decide +kernel

/-! #### `janet_symbol_gen` (model `Value/SymGen.lean`)

`gensym` probes the cache for the counter name and advances the counter for as long as the probe finds a symbol.  The fact
that the probe is REPEATED (not done once or twice) is what makes the new symbol's bytes different from those of every live
symbol; it is regenerated from the source (`Gen.Value.gensymProbeLoop`, structure of the loops of `janet_symbol_gen`). -/

/-- tie: in the source the probe of the gensym counter sits in a loop that repeats while the name is found -/
theorem gensym_probe_loop_tie : JanetModel.Gen.Value.gensymProbeLoop = true := by decide

/-- **the probe loop of `janet_symbol_gen` terminates** (`Value/SymGenTerm.lean`): in every state reached from
    `janet_symcache_init` by interns, sweeps and gensyms, the loop `do { probe } while (found && (inc_gensym(), 1))` finishes
    within `cache_count + 1` probes, and its result — hence that of the whole call — is the same for EVERY larger probe bound:
    `gensymT` (the model without a bound) is the result of the C's unbounded loop.  Reason: `inc_gensym` is +1 on a 6-digit
    base-62 number (proved on the REGENERATED digit transitions), so the first 62^6 counter names are pairwise distinct, each
    hit shows one more of them to be live, and the cache holds exactly `cache_count` symbols.  `hsmall` holds in the C
    whatever the history: `cache_count` is a uint32_t, 2^32 < 62^6. -/
theorem gensym_terminates (ops : List OpG) (s : GState) (h : runGT ginit ops = some s) (hsmall : s.cache.count < 62 ^ 6) :
    (∃ r, ∀ fuel, s.cache.count < fuel → genLoop fuel s.cache s.counter = some r) ∧
    (∀ fuel, s.cache.count < fuel → gensym fuel s.cache s.counter = gensymT s.cache s.counter) := by
  obtain ⟨hinv, hw, hlen, _⟩ := runGT_inv ops ginit s init_invC gensymCounterInit_ok.1 h
  have hlen7 : s.counter.length = 7 := by rw [hlen]; exact gensymCounterInit_ok.2
  obtain ⟨r, hr⟩ := genLoop_terminates hinv hw (by rw [hlen7]; exact hsmall)
  refine ⟨⟨r, hr⟩, fun fuel hf => ?_⟩
  simp only [gensymT, gensym, hr fuel hf, hr (s.cache.count + 1) (by omega)]

/-- **gensym returns a symbol that is `=` to no live symbol**: after ANY history of interns, sweeps and gensyms from
    `janet_symcache_init`, a `janet_symbol_gen` call (whatever number of counter names it has to skip — no probe bound:
    `gensym_terminates`) settles on bytes that no cached symbol has, puts the new symbol at a fresh address, and leaves every
    other symbol at its address -/
theorem gensym_fresh (ops : List OpG) (s : GState) (c' : Cache) (ctr' : List UInt8) (p : Nat)
    (h : runGT ginit ops = some s) (hg : gensymT s.cache s.counter = some (c', ctr', p)) :
    (∀ q, ¬ Live s.cache.slots q ctr') ∧ Live c'.slots p ctr' ∧ (∀ q b, Live s.cache.slots q b → q ≠ p) ∧
    (∀ q x, Live c'.slots q x ↔ (Live s.cache.slots q x ∨ (q = p ∧ x = ctr'))) := by
  have hinv := (runGT_inv ops ginit s init_invC gensymCounterInit_ok.1 h).1
  obtain ⟨_, _, _, hfresh, hp, _, hl⟩ := gensym_spec _ s.cache s.counter c' ctr' p hinv hg
  refine ⟨hfresh, (hl p ctr').mpr (Or.inr ⟨rfl, rfl⟩), fun q b hq e => ?_, hl⟩
  have := hinv.fresh q b hq
  omega

/-- **`symcache_unique` for histories with gensym**: no two cached symbols with the same bytes, one address names one
    symbol, a cached symbol is found by a lookup of its bytes — after any history of `janet_symbol`, sweeps and
    `janet_symbol_gen` (every such history is realised by a plain one: `runGT_inv`) -/
theorem symcache_unique_gensym (ops : List OpG) (s : GState) (h : runGT ginit ops = some s) :
    (∀ p q b, Live s.cache.slots p b → Live s.cache.slots q b → p = q) ∧
    (∀ p b b', Live s.cache.slots p b → Live s.cache.slots p b' → b = b') ∧
    (∀ p b, Live s.cache.slots p b → ∃ c', intern s.cache b = some (c', p)) := by
  obtain ⟨_, _, _, ops', ho⟩ := runGT_inv ops ginit s init_invC gensymCounterInit_ok.1 h
  have := symcache_unique ops' s.cache ho
  exact ⟨this.1, this.2.1, this.2.2.1⟩

/-- non-vacuity: gensym, the next counter name interned by other means, two more gensyms (the second skips TWO live names:
    its own previous result and the pre-interned one), a sweep and another gensym -/
example : ((runGT ginit [.gensym, .intern [95, 48, 48, 48, 48, 48, 50], .gensym, .gensym, .sweep [95, 48, 48, 48, 48, 48, 49], .gensym]).map
    (·.counter)) = some [95, 48, 48, 48, 48, 48, 52] := by
  decide +kernel

/-- non-vacuity of `gensym_terminates`, and the bound `cache_count + 1` is TIGHT: after a gensym (`_000000`) and an intern of
    `_000001` the cache counts 2 symbols, the next `janet_symbol_gen` is still probing after 2 probes and finishes with the 3rd -/
example : ((runGT ginit [.gensym, .intern [95, 48, 48, 48, 48, 48, 49]]).map fun s =>
    (s.cache.count == 2 && decide (s.cache.count < 62 ^ 6) && (genLoop 2 s.cache s.counter).isNone &&
      (genLoop 3 s.cache s.counter).map (·.2.1) == some [95, 48, 48, 48, 48, 48, 50] &&
      (gensymT s.cache s.counter).map (·.2.1) == some [95, 48, 48, 48, 48, 48, 50])) = some true := by
  decide +kernel

/-- `inc_gensym` carries: `_00000Z` → `_000010`, `_000009` → `_00000a`, `_00000z` → `_00000A`, `_ZZZZZZ` wraps to `_000000` -/
example : incGensym [95, 48, 48, 48, 48, 48, 90] = [95, 48, 48, 48, 48, 49, 48] ∧ incGensym [95, 48, 48, 48, 48, 48, 57] = [95, 48, 48, 48, 48, 48, 97] ∧
    incGensym [95, 48, 48, 48, 48, 48, 122] = [95, 48, 48, 48, 48, 48, 65] ∧ incGensym [95, 90, 90, 90, 90, 90, 90] = [95, 48, 48, 48, 48, 48, 48] := by
  decide

end symcache

/-! ### struct layout

The slot array built by `janet_struct_put` / `janet_struct_end` is a function of the final key→value map of the insertion
sequence alone (Value/Robin.lean, RobinUnique.lean, RobinPerm.lean, RobinDup.lean: a build holds a map, `Holds`, and a less than
half full array is determined by the map it holds); with pairwise different keys that map is the set of accepted pairs.  On the implementation the harness checks on every run that values with the same content have identical
slot arrays, and that the model's `structOf` reproduces the implementation's slot array from several insertion orders. -/

/-- structs built by `janet_struct_begin(n)` / n × `janet_struct_put` / `janet_struct_end` from the
    same n pairs (non-nil keys and values, keys pairwise different) in ANY insertion order are the same value: identical
    slot arrays (hence `=`, same hash, compare 0), for every capacity and every collision pattern, runs wrapping around
    the end of the array included -/
theorem struct_layout_canonical (kvs₁ kvs₂ : List (Slot N)) (proto : List (JVal N)) (hperm : kvs₁.Perm kvs₂)
    (hvalid : ∀ kv ∈ kvs₁, kv.1.isNil = false ∧ kv.2.isNil = false) (hdist : DistinctKeys kvs₁) :
    structOf kvs₁ proto = structOf kvs₂ proto := structOf_perm proto hperm hvalid hdist

/-- general form: whatever count is announced to `janet_struct_begin` (at least the number of
    accepted pairs; a larger one makes `janet_struct_end` rebuild), whatever ignored pairs (nil key or nil value) are
    interspersed, and in whatever order the accepted pairs (keys pairwise different) are put: same struct. -/
theorem struct_layout_canonical_general (raw₁ raw₂ : List (Slot N)) (proto : List (JVal N)) (c₁ c₂ : Nat)
    (hperm : (raw₁.filter validPair).Perm (raw₂.filter validPair)) (hdist : DistinctKeys (raw₁.filter validPair))
    (hc₁ : (raw₁.filter validPair).length ≤ c₁) (hc₂ : (raw₂.filter validPair).length ≤ c₂) :
    structOfCount c₁ raw₁ proto = structOfCount c₂ raw₂ proto := structOfCount_canonical proto hperm hdist hc₁ hc₂

/-- duplicate keys: putting a key that is already in the struct never changes the layout; the
    probe reaches the slot of the equal key without displacing anything and (with `replace`) only its value is overwritten
    (struct.c `status == 0`).  Lifted to whole insertion sequences with duplicate keys in `struct_by_final_map` below. -/
theorem struct_put_existing_key (sl : List (Slot N)) (hrh : RH sl) (z : Nat) (hz : z < sl.length) (hez : ¬ Occ sl z)
    (key value : JVal N) (p : Nat) (hp : p < sl.length) (hop : Occ sl p) (heq : contentEq key (sg sl p).1 = true)
    (replace : Bool) :
    putLoop sl.length replace sl.length (hm sl.length key) 0 key value (hash key) sl =
      ((if replace then sl.set p ((sg sl p).1, value) else sl), false) :=
  putLoop_dup_home hrh hz hez hp hop heq replace

/-- the same pairs in any order: `=` structs, equal hashes, comparing as 0 (`struct_layout_canonical`) -/
theorem struct_by_content (kvs₁ kvs₂ : List (Slot N)) (proto : List (JVal N)) (hperm : kvs₁.Perm kvs₂)
    (hvalid : ∀ kv ∈ kvs₁, kv.1.isNil = false ∧ kv.2.isNil = false) (hdist : DistinctKeys kvs₁) :
    equals (structOf kvs₁ proto) (structOf kvs₂ proto) = true ∧ hash (structOf kvs₁ proto) = hash (structOf kvs₂ proto) ∧
    jcompare (structOf kvs₁ proto) (structOf kvs₂ proto) = .eq := by
  rw [struct_layout_canonical kvs₁ kvs₂ proto hperm hvalid hdist]
  exact ⟨equals_refl _, rfl, (compare_eq_zero_iff_equals _ _).mpr (equals_refl _)⟩

theorem struct_put_capacity (st : StructBuild N) (key value : JVal N) (replace : Bool) :
    (structPutExt st key value replace).slots.length = st.slots.length := structPutExt_capacity st key value replace

/-! ### insertion sequences with duplicate keys: the struct is a function of the final key→value map

`finalMap raw` (Value/RobinDup.lean) is the association list obtained by reading the accepted puts of `raw` in order: a new
key is appended, a key `=` to an earlier one keeps the EARLIER key object and takes the LATER value (`janet_struct_put`,
`replace = 1`); `finalMapR false` keeps the earlier value (`janet_struct_put_ext(…, 0)`, struct/proto-flatten). -/

/-- whatever the insertion sequence — the same key any number of times, nil keys / nil values
    interspersed — and whatever count ≥ the number of accepted puts is announced (every caller in src/core announces the
    number of pairs it is going to put), `janet_struct_begin(c)` / puts / `janet_struct_end` builds the struct of the
    final key→value map.  Every accepted put keeps `Holds` (the array has the invariant and stores the map read so far;
    `putLoop_dup` when the key is already there), and a less than half full array is determined by the map it holds
    (`RH.canonical`). -/
theorem struct_by_final_map (c : Nat) (raw : List (Slot N)) (proto : List (JVal N))
    (hc : (raw.filter validPair).length ≤ c) : structOfCount c raw proto = structOf (finalMap raw) proto :=
  structOfCount_finalMap c raw proto hc

/-- … hence two insertion sequences with the same final map (as a set of pairs: any order) give the SAME slot array,
    `struct_layout_canonical` generalised to sequences with duplicates -/
theorem struct_layout_canonical_dups (c₁ c₂ : Nat) (raw₁ raw₂ : List (Slot N)) (proto : List (JVal N))
    (hc₁ : (raw₁.filter validPair).length ≤ c₁) (hc₂ : (raw₂.filter validPair).length ≤ c₂)
    (hperm : (finalMap raw₁).Perm (finalMap raw₂)) :
    structOfCount c₁ raw₁ proto = structOfCount c₂ raw₂ proto := by
  obtain ⟨hd, hv, _⟩ := finalMapR_spec true raw₁
  rw [struct_by_final_map c₁ raw₁ proto hc₁, struct_by_final_map c₂ raw₂ proto hc₂]
  exact structOf_perm proto hperm hv hd

/-- **which value wins**: the final map has pairwise different keys, and a key maps to the value of the LAST accepted put
    under an `=` key (nil: no such put) -/
theorem struct_last_value_wins (raw : List (Slot N)) (k : JVal N) :
    DistinctKeys (finalMap raw) ∧ mapGet (finalMap raw) k = lastPut (raw.filter validPair) k :=
  ⟨(finalMapR_spec true raw).1, mapGet_finalMap raw k⟩

/-- **up to `=`**: two insertion sequences whose final maps agree up to `=` of keys and values (so also when one says −0
    where the other says +0, or uses a different but equal tuple as key) give structs that are `=`, hash alike and
    compare as 0 -/
theorem struct_by_map_content (c₁ c₂ : Nat) (raw₁ raw₂ : List (Slot N)) (proto : List (JVal N))
    (hc₁ : (raw₁.filter validPair).length ≤ c₁) (hc₂ : (raw₂.filter validPair).length ≤ c₂)
    (h : MapEquiv (finalMap raw₁) (finalMap raw₂)) :
    equals (structOfCount c₁ raw₁ proto) (structOfCount c₂ raw₂ proto) = true ∧
    hash (structOfCount c₁ raw₁ proto) = hash (structOfCount c₂ raw₂ proto) ∧
    jcompare (structOfCount c₁ raw₁ proto) (structOfCount c₂ raw₂ proto) = .eq := by
  have he : equals (structOfCount c₁ raw₁ proto) (structOfCount c₂ raw₂ proto) = true := by
    rw [equals_iff_content]; exact structOfCount_mapEquiv c₁ c₂ raw₁ raw₂ proto hc₁ hc₂ h
  exact ⟨he, equals_hash _ _ he, (compare_eq_zero_iff_equals _ _).mpr he⟩

/-- `struct/proto-flatten` (`replace = 0`): the struct of the keep-first map; a key maps to the value of the FIRST
    accepted put under an `=` key -/
theorem struct_flatten_first_value_wins (c : Nat) (raw : List (Slot N)) (hc : (raw.filter validPair).length ≤ c) (k : JVal N) :
    structOfCountKeep c raw = structOf (finalMapR false raw) [] ∧
    mapGet (finalMapR false raw) k = mapGet (raw.filter validPair) k :=
  ⟨structOfCountKeep_finalMap c raw hc, mapGet_finalMapKeep raw k⟩

/-- **the hypothesis on the announced count is necessary** (what the C does NOT guarantee): with `janet_struct_begin(2)`
    and three puts the "avoid extra items" test drops the third put even when it only replaces a value, so two sequences
    with the same final map {a→3, b→2} give different structs.  No caller in src/core announces fewer pairs than it puts;
    the harness replays this through the C API (`pool dups`, under-announced cases) and sees the same two structs. -/
theorem struct_put_extra_dropped_witness :
    let a : JVal F64 := .kw [97]; let b : JVal F64 := .kw [98]
    let one : JVal F64 := .num ⟨0x3FF0000000000000⟩; let two : JVal F64 := .num ⟨0x4000000000000000⟩
    let three : JVal F64 := .num ⟨0x4008000000000000⟩
    finalMap [(a, one), (b, two), (a, three)] = [(a, three), (b, two)] ∧
    finalMap [(a, one), (a, three), (b, two)] = [(a, three), (b, two)] ∧
    structOfCount 2 [(a, one), (a, three), (b, two)] [] = structOf [(a, three), (b, two)] ∧
    structOfCount 2 [(a, one), (b, two), (a, three)] [] = structOf [(a, one), (b, two)] ∧
    equals (structOfCount 2 [(a, one), (b, two), (a, three)] []) (structOfCount 2 [(a, one), (a, three), (b, two)] []) = false := by
  refine ⟨rfl, rfl, rfl, rfl, ?_⟩
  decide +kernel

/-- non-vacuity: a sequence with a key put three times (once as −0 after +0), a nil value and a nil key; the first key
    object (+0) stays, the last value wins -/
example : finalMap [((.num ⟨0⟩ : JVal F64), .kw [1]), (.kw [2], .nil), (.num ⟨0x8000000000000000⟩, .kw [3]), (.nil, .kw [4]),
    (.kw [5], .kw [6]), (.num ⟨0⟩, .kw [7])] = [(.num ⟨0⟩, .kw [7]), (.kw [5], .kw [6])] := rfl
example : MapEquiv [((.num ⟨0⟩ : JVal F64), (.kw [7] : JVal F64))] [(.num ⟨0x8000000000000000⟩, .kw [7])] :=
  ⟨_, List.Perm.refl _, rfl, fun i => by
    cases i with
    | zero => exact ⟨by decide, by decide⟩
    | succ i => exact ⟨rfl, rfl⟩⟩

/-! ### string.c loops

`janet_string_compare` (lengths, `memcmp` over the common prefix, sign, length tiebreak) and `janet_string_equal`
(= `janet_string_equalconst`: hash and length pre-check, pointer short-cut, `memcmp`) are mirrored statement by statement in
Value/StringLoop.lean; what `janet_compare` / `janet_equals` of the model do on strings, symbols, keywords is exactly that. -/

omit [LawfulNum N] in
theorem string_compare_loop_is_lex (a b : List UInt8) :
    stringCompareC a b = ordInt (bytesCompare a b) ∧
    stringCompareC a b = ordInt (jcompare (.str a : JVal N) (.str b)) ∧
    stringCompareC a b = ordInt (jcompare (.sym a : JVal N) (.sym b)) ∧
    stringCompareC a b = ordInt (jcompare (.kw a : JVal N) (.kw b)) :=
  ⟨stringCompareC_eq a b, stringCompareC_eq a b, stringCompareC_eq a b, stringCompareC_eq a b⟩

omit [LawfulNum N] in
theorem string_equal_loop_is_byte_equality (a b : List UInt8) (samePtr : Bool) (hptr : samePtr = true → a = b) :
    stringEqualC a b samePtr = (a == b) ∧ stringEqualC a b samePtr = equals (.str a : JVal N) (.str b) :=
  stringEqualC_eq a b samePtr hptr

/-- non-vacuity: a proper prefix sorts first; equal hash and length do not make two strings equal ("aa" / "b@" collide) -/
example : stringCompareC [97, 98] [97, 98, 0] = -1 ∧ stringCompareC [255] [1, 2] = 1 := by decide
example : stringHash [97, 97] = stringHash [98, 64] ∧ stringEqualC [97, 97] [98, 64] false = false := by decide

/-! ### NaN

The property excludes NaN from the laws; the model type does not.  For ANY number type `M` with the laws of all IEEE doubles
(`LawfulNaNNum`: a NaN is `==` / `<` nothing; `F64` is one), the values of `JVal M` without a NaN at any depth (`nanFree`)
satisfy every law above — they are the image of `JVal (NonNaN M)` under an embedding that commutes with `janet_hash`,
`janet_equals`, `janet_compare` (Value/NaN.lean).  On NaN itself the laws fail, and struct construction refuses NaN keys. -/

section nan
variable {M : Type} [NumLike M] [LawfulNaNNum M]

/-- **the laws hold on the NaN-free values of a model type that contains NaN**: `=` reflexive, symmetric, transitive; equal ⇒
    same hash; `compare` antisymmetric, transitive (also strictly), total; `compare = 0 ⇔ =`; `< <= > >=` are that order -/
theorem laws_on_nan_free_values (a b c : JVal M) (ha : nanFree a = true) (hb : nanFree b = true) (hc : nanFree c = true) :
    equals a a = true ∧ equals a b = equals b a ∧ (equals a b = true → equals b c = true → equals a c = true) ∧
    (equals a b = true → hash a = hash b) ∧
    jcompare b a = (jcompare a b).swap ∧ (jcompare a b ≠ .gt → jcompare b c ≠ .gt → jcompare a c ≠ .gt) ∧
    (jcompare a b = .lt → jcompare b c ≠ .gt → jcompare a c = .lt) ∧ (jcompare a b ≠ .gt → jcompare b c = .lt → jcompare a c = .lt) ∧
    (jle a b = true ∨ jle b a = true) ∧ (jcompare a b = .eq ↔ equals a b = true) ∧
    (jlt a b = (jcompare a b == .lt) ∧ jgt a b = jlt b a ∧ jge a b = jle b a ∧ jle a b = (jlt a b || equals a b) ∧ jlt a b = !jge a b) := by
  obtain ⟨a', rfl⟩ := lift_surj a ha
  obtain ⟨b', rfl⟩ := lift_surj b hb
  obtain ⟨c', rfl⟩ := lift_surj c hc
  unfold jle jlt jgt jge
  simp only [equals_lift, hash_lift, jcompare_lift]
  have hl := lt_le_gt_ge_agree a' b'
  unfold jle jlt jgt jge at hl
  have ht := compare_total a' b'
  unfold jle at ht
  exact ⟨equals_refl a', equals_symm a' b', equals_trans a' b' c', equals_hash a' b', compare_antisymm a' b',
    compare_trans a' b' c', compare_lt_of_lt_of_le a' b' c', compare_lt_of_le_of_lt a' b' c', ht,
    compare_eq_zero_iff_equals a' b', trivial, hl.2⟩

/-- **why NaN is excluded**: a NaN is not `=` to itself, compares as "greater" in BOTH directions with every number, and a
    tuple holding it is not `=` to itself by content (the C returns true only through its pointer short-cut `t1 == t2`) -/
theorem nan_breaks_the_laws (n m : M) (h : NumLike.isNaN n = true) :
    equals (.num n : JVal M) (.num n) = false ∧ jcompare (.num n : JVal M) (.num m) = .gt ∧ jcompare (.num m : JVal M) (.num n) = .gt ∧
    equals (.tuple false [.num n] : JVal M) (.tuple false [.num n]) = false :=
  ⟨nan_not_equal_self n h, (nan_compare n m h).1, (nan_compare n m h).2.1, (nan_compare n m h).2.2⟩

omit [LawfulNaNNum M] in
/-- **`janet_struct_put_ext` ignores a NaN key** — any value, any flag, any state of the build (struct.c: the
    `janet_checktype(key, JANET_NUMBER) && isnan(…)` guard, regenerated: `struct_put_guards_tie`) -/
theorem struct_put_ignores_nan_key (st : StructBuild M) (n : M) (h : NumLike.isNaN n = true) (v : JVal M) (r : Bool) :
    structPutExt st (.num n) v r = st := structPutExt_nan_key st n h v r

/-- **struct layout with NaN in the model**: an insertion sequence over `JVal M` whose pairs are either NaN-keyed (ignored)
    or NaN-free — duplicates, nil keys / values, any announced count covering the accepted puts — builds the (embedded)
    struct of the final key→value map of its NaN-free pairs; so all of `struct_layout_canonical…` / `struct_by_map_content`
    hold for it -/
theorem struct_by_final_map_nan (c : Nat) (raw : List (Slot M)) (proto : List (JVal M))
    (rawNN : List (Slot (NonNaN M))) (protoNN : List (JVal (NonNaN M)))
    (hraw : raw.filter (fun kv => !isNaNKey kv.1) = rawNN.map liftSlot) (hproto : proto = liftList protoNN)
    (hc : (rawNN.filter validPair).length ≤ c) :
    structOfCount c raw proto = lift (structOf (finalMap rawNN) protoNN) := by
  rw [structOfCount_drop_nan_keys, hraw, hproto, structOfCount_lift, struct_by_final_map c rawNN protoNN hc]

end nan

/-- the model's early-return guards of `janet_struct_put_ext` (nil key or value, NaN key, struct full — in this order) and
    what its duplicate-key branch writes (the value only: the first key object stays) are what the translator reads off
    struct.c on this run; `janet_table_put` refuses nil and NaN keys too -/
theorem struct_put_guards_tie :
    JanetModel.Gen.Value.structPutGuards = structPutExt.guards ∧ JanetModel.Gen.Value.structDupWrites = structPutExt.dupWrites ∧
    "nilKey" ∈ JanetModel.Gen.Value.tablePutGuards ∧ "nanKey" ∈ JanetModel.Gen.Value.tablePutGuards := by decide

/-- non-vacuity: the quiet NaN pattern is a NaN of `F64`, it is refused as a key, and `F64` has the laws of all doubles -/
example : LawfulNaNNum F64 := inferInstance
example : NumLike.isNaN (⟨0x7FF8000000000000⟩ : F64) = true := by decide
example : NumLike.isNaN (⟨0x7FF0000000000000⟩ : F64) = false := by decide   -- +inf is not
example : nanFree (.tuple true [.num ⟨0x7FF0000000000000⟩, .struct [.kw [1], .num ⟨0⟩] []] : JVal F64) = true := by decide
example : nanFree (.tuple true [.num ⟨0xFFF8000000000001⟩] : JVal F64) = false := by decide
/-- a tuple HOLDING NaN is accepted as a struct key (only a top-level NaN is refused) -/
example : isNaNKey (.tuple false [.num ⟨0x7FF8000000000000⟩] : JVal F64) = false := by decide


example : LawfulNum (NonNaN F64) := inferInstance

/-- −0 and +0 are equal, hash alike, also inside tuples and as struct keys -/
example : equals (.num ⟨0⟩ : JVal F64) (.num ⟨0x8000000000000000⟩) = true := by decide
example : Value.hash (JVal.tuple false [.num ⟨0⟩] : JVal F64) = Value.hash (JVal.tuple false [.num ⟨0x8000000000000000⟩] : JVal F64) := by
  decide
/-- bracketed and parenthesised tuples with the same elements differ -/
example : equals (.tuple true [.nil] : JVal F64) (.tuple false [.nil]) = false := by decide
example : jcompare (.tuple true [.nil] : JVal F64) (.tuple false [.nil]) = .gt := by decide

/-! ### abstract values with compare / hash hooks (model `Value/Abstract.lean`)

`AVal N` = the values of `JVal N` plus abstract values (an address; `janet_abstract_type`, the payload and the hooks of a
type are reads of memory: class `AbsHeap`).  `compareAbstract` = value.c `janet_compare_abstract` statement by statement; the
JANET_ABSTRACT cases of janet_equals / janet_compare / janet_hash dispatch to it / to the hash hook.  The hooks are parameters.
GIVEN LAWFUL HOOKS (`LawfulAbstract`: the sign of every compare hook is a total preorder on payloads, and a type with a
compare hook has a hash hook respecting it) every law of the property holds of ALL values, abstracts inside tuples, struct
keys, struct values and prototypes included.  The hooks of inttypes.c are lawful. -/

section abstracts
variable [AbsHeap] [LawfulAbstract]

/-- `=` is an equivalence on values containing abstracts, and equal values hash alike -/
theorem abstract_equals_equivalence_and_hash :
    (∀ a : AVal N, equalsL a a = true) ∧ (∀ a b : AVal N, equalsL a b = equalsL b a) ∧
    (∀ a b c : AVal N, equalsL a b = true → equalsL b c = true → equalsL a c = true) ∧
    (∀ a b : AVal N, equalsL a b = true → hashL a = hashL b) := by
  refine ⟨fun a => ?_, fun a b => ?_, fun a b c h1 h2 => ?_, fun a b h => ?_⟩
  · rw [equalsL_eq_contentEqL_both.1]; exact contentEqL_equivalence.1 a
  · rw [equalsL_eq_contentEqL_both.1, equalsL_eq_contentEqL_both.1]; exact contentEqL_equivalence.2.1 a b
  · rw [equalsL_eq_contentEqL_both.1] at *; exact contentEqL_equivalence.2.2 a b c h1 h2
  · rw [equalsL_eq_contentEqL_both.1] at h; exact contentEqL_hash_both.1 a b h

theorem abstract_compare_antisymm (a b : AVal N) : jcompareL b a = (jcompareL a b).swap := jcompareL_swap a b

theorem abstract_compare_triple (a b c : AVal N) : Tri (jcompareL a b) (jcompareL b c) (jcompareL a c) :=
  jcompareL_tri a b c

/-- compare = 0 ⇔ `=` on values containing abstracts -/
theorem abstract_compare_eq_zero_iff_equals (a b : AVal N) : jcompareL a b = .eq ↔ equalsL a b = true := by
  rw [equalsL_eq_contentEqL_both.1]; exact jcompareL_eq_iff a b

/-- `compare` (hence `<`, `<=`, `>`, `>=`) is ONE total order on values containing abstracts: antisymmetric as a three-way
    comparison, `≤` both ways ⇒ `=`, transitive (`≤`, and `<` through `≤` on either side), total -/
theorem abstract_compare_total_order :
    (∀ a b : AVal N, jcompareL b a = (jcompareL a b).swap) ∧
    (∀ a b : AVal N, jleL a b = true → jleL b a = true → equalsL a b = true) ∧
    (∀ a b c : AVal N, jleL a b = true → jleL b c = true → jleL a c = true) ∧
    (∀ a b c : AVal N, jcompareL a b = .lt → jcompareL b c ≠ .gt → jcompareL a c = .lt) ∧
    (∀ a b c : AVal N, jcompareL a b ≠ .gt → jcompareL b c = .lt → jcompareL a c = .lt) ∧
    (∀ a b : AVal N, jleL a b = true ∨ jleL b a = true) := by
  exact ⟨abstract_compare_antisymm,
    fun a b h1 h2 => (abstract_compare_eq_zero_iff_equals a b).mp (eq_of_le_of_swap_le (abstract_compare_antisymm a b) h1 h2),
    fun a b c => (abstract_compare_triple a b c).le_trans, fun a b c => (abstract_compare_triple a b c).2.1,
    fun a b c => (abstract_compare_triple a b c).2.2.1, fun a b => le_or_swap_le (abstract_compare_antisymm a b)⟩

/-- `<`, `<=`, `>`, `>=` on values containing abstracts are that same order -/
theorem abstract_lt_le_gt_ge_agree (a b : AVal N) :
    jltL a b = (jcompareL a b == .lt) ∧ jgtL a b = jltL b a ∧ jgeL a b = jleL b a ∧ jleL a b = (jltL a b || equalsL a b) ∧
    jltL a b = !jgeL a b :=
  ⟨rfl, ops_agree (abstract_compare_antisymm a b) (abstract_compare_eq_zero_iff_equals a b)⟩

/-- equal values (e.g. two different s64 objects with one payload) are interchangeable on either side of a comparison -/
theorem abstract_compare_congr (a b c : AVal N) (h : equalsL a b = true) :
    jcompareL a c = jcompareL b c ∧ jcompareL c a = jcompareL c b := by
  rw [equalsL_eq_contentEqL_both.1] at h
  exact ⟨jcompareL_congr_left h c, jcompareL_congr_right h c⟩

omit [LawfulNum N] [LawfulAbstract] in
/-- the abstract-free model `JVal N` (every other theorem of this file) is the fragment of `AVal N` without abstracts:
    hash, `=` and compare commute with the embedding -/
theorem abstract_model_extends_value_model (a b : JVal N) :
    hashL (ofJVal a) = hash a ∧ equalsL (ofJVal a) (ofJVal b) = equals a b ∧ jcompareL (ofJVal a) (ofJVal b) = jcompare a b :=
  ⟨ofJVal_hash_both.1 a, ofJVal_equals_both.1 a b, ofJVal_compare_both.1 a b⟩

omit [LawfulNum N] in
/-- what `janet_compare_abstract` computes: type pointer first, then the compare hook (or the address when there is none).
    Its first statement `if (xx == yy) return 0` is a pure short-cut (the hook of a lawful type is reflexive); two abstracts of
    DIFFERENT types — an s64 and a u64 with whatever payloads — are ordered by the addresses of their JanetAbstractType
    records and are never `=`. -/
theorem compare_abstract_is_type_then_hook (a b : UInt64) :
    ordOfInt (compareAbstract a b) = (natCmp (AbsHeap.tyOf a) (AbsHeap.tyOf b)).then (absRest a b) ∧
    (AbsHeap.tyOf a ≠ AbsHeap.tyOf b →
      jcompareL (.leaf (.abs a) : AVal N) (.leaf (.abs b)) = natCmp (AbsHeap.tyOf a) (AbsHeap.tyOf b) ∧
      equalsL (.leaf (.abs a) : AVal N) (.leaf (.abs b)) = false) := by
  refine ⟨cmpAbs_then a b, fun h => ?_⟩
  have := compareAbstract_of_type_ne a b h
  exact ⟨this.1, by simp only [equalsL, LeafOps.eq, Leaf.eq]; simpa using this.2⟩

end abstracts

/-- THE HOOKS OF src/core/inttypes.c ARE LAWFUL: `janet_int64_compare` is the order of `int64_t`, `janet_uint64_compare` the
    order of `uint64_t` (both return only −1, 0, 1, and 0 exactly on identical payloads), `janet_int64_hash` is a function of
    the payload; so in any memory whose hooked types are `janet_s64_type` / `janet_u64_type` all the laws above hold -/
theorem inttypes_hooks_lawful :
    (∀ p q, ordOfInt (int64Compare p q) = intCmp (s64 p) (s64 q)) ∧ (∀ p q, ordOfInt (uint64Compare p q) = natCmp p.toNat q.toNat) ∧
    (∀ p q, int64Compare p q = 0 ↔ p = q) ∧ (∀ p q, uint64Compare p q = 0 ↔ p = q) ∧
    (∀ p q, int64Compare p q = -1 ∨ int64Compare p q = 0 ∨ int64Compare p q = 1) ∧
    (∀ p q, uint64Compare p q = -1 ∨ uint64Compare p q = 0 ∨ uint64Compare p q = 1) ∧
    (∀ (tyOf : UInt64 → Nat) (payload : UInt64 → UInt64) (hooks : Nat → AbsType UInt64),
      (∀ t, (hooks t).compare = none ∨ hooks t = s64Type ∨ hooks t = u64Type) → @LawfulAbstract (intHeap tyOf payload hooks)) :=
  ⟨int64Compare_ord, uint64Compare_ord, int64Compare_eq_zero, uint64Compare_eq_zero, int64Compare_range, uint64Compare_range,
   intHeap_lawful⟩

/-- tie: the decisions of janet_compare_abstract in source order, the JANET_ABSTRACT cases of janet_hash / janet_equals /
    janet_compare, and the table of hooked abstract types with the SHAPES of their hook bodies, all regenerated from
    value.c / inttypes.c (Gen/ValueAbs.lean), are what the model implements -/
theorem abstract_dispatch_tie :
    JanetModel.Gen.ValueAbs.compareAbstractSteps = compareAbstract.steps ∧
    JanetModel.Gen.ValueAbs.hashAbstractHookElsePointer = true ∧ JanetModel.Gen.ValueAbs.equalsAbstractViaCompare = true ∧
    JanetModel.Gen.ValueAbs.compareAbstractDiffReturned = true ∧
    JanetModel.Gen.ValueAbs.hookedTypes =
      [("core/s64", "threeWay:int64_t", "xorWords:int32_t"), ("core/u64", "threeWay:uint64_t", "xorWords:int32_t")] ∧
    coreHooks "core/s64" = some s64Type ∧ coreHooks "core/u64" = some u64Type :=
  ⟨by decide, by decide, by decide, by decide, by decide, coreHooks_s64, coreHooks_u64⟩

section abstract_example
/-- a memory with an s64 at address 16 (payload −1), a u64 at 32 (payload 2^64−1: the same bits), a second s64 at 48
    (payload −1) and an unhooked abstract at 64; the s64 type record (1000) lies below the u64 one (2000) -/
@[reducible] def exHeap : AbsHeap := intHeap (fun a => if a = 32 then 2000 else if a = 64 then 3000 else 1000)
  (fun a => if a = 64 then 0 else 0xFFFFFFFFFFFFFFFF) (fun t => if t = 1000 then s64Type else if t = 2000 then u64Type else ⟨none, none⟩)

attribute [local instance] exHeap in
/-- non-vacuity: that memory is lawful, and: the two s64 are `=` with one hash although different objects; s64 −1 and u64
    2^64−1 are not `=` and ordered by type, inside a tuple too; an unhooked abstract is only `=` to itself -/
example :
    LawfulAbstract ∧
    equalsL (.leaf (.abs 16) : AVal F64) (.leaf (.abs 48)) = true ∧
    hashL (.leaf (.abs 16) : AVal F64) = hashL (.leaf (.abs 48) : AVal F64) ∧
    equalsL (.leaf (.abs 16) : AVal F64) (.leaf (.abs 32)) = false ∧
    jcompareL (.tuple false [.leaf (.abs 16)] : AVal F64) (.tuple false [.leaf (.abs 32)]) = .lt ∧
    jcompareL (.leaf (.abs 64) : AVal F64) (.leaf (.abs 16)) = .gt ∧
    equalsL (.leaf (.abs 64) : AVal F64) (.leaf (.abs 64)) = true := by
  refine ⟨intHeap_lawful _ _ _ (fun t => ?_), by decide, by decide, by decide, by decide, by decide, by decide⟩
  by_cases h1 : t = 1000
  · simp [h1]
  · by_cases h2 : t = 2000
    · simp [h1, h2]
    · simp [h1, h2]
end abstract_example

/-! ### the pointer short-cuts of janet_equals (model `Value/PtrShortcut.lean`)

`if (t1 == t2) break;` / `if (s1 == s2) break;` in front of the flag / hash / length tests: `equalsP` on values that carry the
addresses of their tuples and structs.  For two values read from ONE memory the short-cuts never change the answer — they are
reflexivity of `=` on the content.  (janet_compare has no such test for tuples and structs; the `xx == yy` test of
janet_compare_abstract is in `compareAbstract` and redundant by `compare_abstract_is_type_then_hook`.) -/

section ptr_shortcut

/-- for lawful numbers and lawful abstract hooks, any memory, any two values consistent with it -/
theorem equals_pointer_shortcuts_are_reflexivity [AbsHeap] [LawfulAbstract] (mem : Nat → Option (AVal N)) (x y : PVal (Leaf N))
    (hx : Consistent mem x) (hy : Consistent mem y) : equalsP x y = equalsL (erase x) (erase y) :=
  equalsP_eq_equalsL mem x y hx hy

/-- tie: where the C has (and has not) a pointer test, regenerated from janet_equals / janet_compare -/
theorem pointer_shortcut_tie :
    JanetModel.Gen.ValueAbs.equalsTuplePtrShortcut = equalsP.tupleShortcut ∧
    JanetModel.Gen.ValueAbs.equalsStructPtrShortcut = equalsP.structShortcut ∧
    JanetModel.Gen.ValueAbs.compareTuplePtrShortcut = false ∧ JanetModel.Gen.ValueAbs.compareStructPtrShortcut = false := by decide

attribute [local instance] exHeap in
/-- non-vacuity, and why reflexivity is the hypothesis: a shared tuple `t = [1 :a]` inside two different outer tuples in a
    consistent memory compares equal with and without the short-cut; a tuple holding NaN compared WITH ITSELF is `=` through
    the short-cut although its content is not (`nan_breaks_the_laws`) — the one place where the short-cut is observable -/
example :
    let one : PVal (Leaf F64) := .leaf (.num ⟨0x3FF0000000000000⟩)
    let t : PVal (Leaf F64) := .tuple 100 false [one, .leaf (.kw [97])]
    let x : PVal (Leaf F64) := .tuple 200 false [t, t]
    let y : PVal (Leaf F64) := .tuple 300 false [t, .tuple 400 false [one, .leaf (.kw [97])]]
    let mem : Nat → Option (AVal F64) := fun a =>
      if a = 100 then some (erase t) else if a = 200 then some (erase x) else if a = 300 then some (erase y)
      else if a = 400 then some (erase t) else none
    let nanT : PVal (Leaf F64) := .tuple 500 false [.leaf (.num ⟨0x7FF8000000000000⟩)]
    (Consistent mem x ∧ Consistent mem y) ∧ equalsP x y = true ∧ equalsL (erase x) (erase y) = true ∧
    equalsP nanT nanT = true ∧ equalsL (erase nanT) (erase nanT) = false := by
  refine ⟨⟨?_, ?_⟩, by decide, by decide, by decide, by decide⟩ <;> simp [Consistent, ConsistentL, erase, erases]

end ptr_shortcut


/-- **two insertion sequences whose final maps answer EVERY LOOKUP alike (values up to `=`) build `=` structs** — whatever the
    duplicates, ignored pairs, orders, announced counts, choice among equal key objects.  By `struct_last_value_wins` the lookup
    `mapGet (finalMap raw) k` is the value of the last accepted put under a key `=` to `k`, so: same last value under every key
    ⇒ `=`, same hash, compare 0 -/
theorem struct_by_lookups (c₁ c₂ : Nat) (raw₁ raw₂ : List (Slot N)) (proto : List (JVal N))
    (hc₁ : (raw₁.filter validPair).length ≤ c₁) (hc₂ : (raw₂.filter validPair).length ≤ c₂)
    (h : ∀ k, contentEq (mapGet (finalMap raw₁) k) (mapGet (finalMap raw₂) k) = true) :
    MapEquiv (finalMap raw₁) (finalMap raw₂) ∧
    equals (structOfCount c₁ raw₁ proto) (structOfCount c₂ raw₂ proto) = true ∧
    hash (structOfCount c₁ raw₁ proto) = hash (structOfCount c₂ raw₂ proto) ∧
    jcompare (structOfCount c₁ raw₁ proto) (structOfCount c₂ raw₂ proto) = .eq := by
  obtain ⟨hd₁, hv₁, _⟩ := finalMapR_spec true raw₁
  obtain ⟨hd₂, hv₂, _⟩ := finalMapR_spec true raw₂
  have hm : MapEquiv (finalMap raw₁) (finalMap raw₂) :=
    mapEquiv_of_sameLookups _ _ hd₁ hd₂ (fun kv hkv => (hv₁ kv hkv).2) (fun kv hkv => (hv₂ kv hkv).2) h
  exact ⟨hm, struct_by_map_content c₁ c₂ raw₁ raw₂ proto hc₁ hc₂ hm⟩

/-- equal lookups ⇒ `MapEquiv`, for any two maps with pairwise different keys and non-nil values -/
theorem map_equiv_of_equal_lookups (m₁ m₂ : List (Slot N)) (hd₁ : DistinctKeys m₁) (hd₂ : DistinctKeys m₂)
    (hv₁ : ∀ kv ∈ m₁, kv.2.isNil = false) (hv₂ : ∀ kv ∈ m₂, kv.2.isNil = false)
    (h : ∀ k, contentEq (mapGet m₁ k) (mapGet m₂ k) = true) : MapEquiv m₁ m₂ :=
  mapEquiv_of_sameLookups m₁ m₂ hd₁ hd₂ hv₁ hv₂ h

/-- non-vacuity: `{:a true 0 :x}` listed in two orders, −0 for +0 as key: pairwise different keys, and the lookups agree up to
    `=` (checked under both keys, under the other zero, and under a missing key) -/
example :
    let m₁ : List (Slot F64) := [(.kw [97], .bool true), (.num ⟨0⟩, .kw [120])]
    let m₂ : List (Slot F64) := [(.num ⟨0x8000000000000000⟩, .kw [120]), (.kw [97], .bool true)]
    DistinctKeys m₁ ∧ DistinctKeys m₂ ∧ contentEq (mapGet m₁ (.kw [97])) (mapGet m₂ (.kw [97])) = true ∧
    contentEq (mapGet m₁ (.num ⟨0⟩)) (mapGet m₂ (.num ⟨0⟩)) = true ∧
    contentEq (mapGet m₁ (.num ⟨0x8000000000000000⟩)) (mapGet m₂ (.num ⟨0x8000000000000000⟩)) = true ∧
    contentEq (mapGet m₁ .nil) (mapGet m₂ .nil) = true ∧ contentEq (mapGet m₁ (.num ⟨0x8000000000000000⟩)) (.kw [120]) = true := by
  refine ⟨?_, ?_, by decide, by decide, by decide, by decide, by decide⟩ <;> (unfold DistinctKeys; decide)


section traversal_tie
open JanetModel.Value.Traverse JanetModel.Gen.ValueTrav

/-- the status of a `traversal_next` result (`none`: a next pair was found, status 0) -/
def nextStatus : Next F64 → Option Nat
  | .stop s => some s
  | .found _ _ _ => none

/-- the statuses the model's `traversalNext` returns are the ones read off the C on this run: a tuple frame of janet_compare
    (index2 set) whose common prefix is exhausted compares the lengths (self longer / shorter), one of janet_equals (index2
    clear) does not; a struct frame past its last slot compares the presence of prototypes; an empty stack ends the traversal;
    janet_compare turns the status into its result by `status - travCompareBias` (`statusOrd`) -/
theorem traversal_next_tie :
    nextStatus (traversalNext [.tup [.nil] [] 0 true]) = some travTupleLonger ∧
    nextStatus (traversalNext [.tup [] [.nil] 0 true]) = some travTupleShorter ∧
    nextStatus (traversalNext [.tup [.nil] [] 0 false]) = some travExhausted ∧
    nextStatus (traversalNext [.str [] [.struct [] []] [] [] 0 false]) = some travProtoSelfOnly ∧
    nextStatus (traversalNext [.str [] [] [] [.struct [] []] 0 false]) = some travProtoOtherOnly ∧
    nextStatus (traversalNext [.str [] [.struct [] []] [] [.struct [] []] 0 false]) = none ∧
    nextStatus (traversalNext []) = some travExhausted ∧
    statusOrd travTupleLonger = .gt ∧ statusOrd travTupleShorter = .lt ∧ statusOrd travExhausted = .eq ∧
    travCompareBias = 2 ∧ travExhausted = travCompareBias := by decide

end traversal_tie

end JanetModel.Props.C03
