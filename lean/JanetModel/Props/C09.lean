/-
C09 — marshal / unmarshal and disasm / asm round trips: the statements of the property, with the short derivations that
combine lemmas of JanetModel/Marsh/ and JanetModel/Asm/.

Models: Marsh/IntCodec.lean (pushint/readint), Size.lean (push64/read64), Graph.lean (marshal_one / unmarshal_one on data value
graphs), Code.lean (functions, funcdefs, environments, fibers), Abstract.lean and AbsDepth.lean (abstract hooks and their depth),
Present.lean (the seen-table marshaller), EnvBitset.lean, Asm/Operand.lean, Instr.lean, Def.lean.  Constants, lead bytes, the
recursion guard and the numbering point of every container type (before / after its children, on the marshal side and on the
unmarshal side) are regenerated from marsh.c on every run (Gen/Marsh.lean), so e.g. moving MARK_SEEN for tuples breaks
`roundtrip_graph` below.
-/
import JanetModel.Marsh.IntCodecLemmas
import JanetModel.Marsh.SizeLemmas
import JanetModel.Marsh.GraphRoundtrip
import JanetModel.Marsh.GraphInbounds
import JanetModel.Asm.OperandLemmas
import JanetModel.Marsh.EnvBitsetLemmas
import JanetModel.Marsh.CodeRoundtrip
import JanetModel.Marsh.AbstractLemmas
import JanetModel.Marsh.AbsDepthLemmas
import JanetModel.Asm.InstrLemmas
import JanetModel.Asm.DefLemmas
import JanetModel.Marsh.CodeData
import JanetModel.Marsh.PresentLemmas
import JanetModel.Marsh.PresentFixed

namespace JanetModel.Props.C09
open JanetModel.Marsh JanetModel.Gen.Marsh

theorem signExtMid_eq (u : Nat) (h : u < 16384) :
    signExtMid u = if u < 8192 then (u : Int) else (u : Int) - 16384 := Marsh.signExtMid_eq u h

/-- Every `int32_t` survives `pushint` then `readint`, whatever follows it in the buffer. -/
theorem readint_pushint (x : Int) (tl : List Nat) (hlo : -2147483648 ≤ x) (hhi : x < 2147483648) :
    readint (pushint x ++ tl) = some (x, tl) := Marsh.readint_pushint x tl hlo hhi

theorem pushint_length (x : Int) :
    (pushint x).length = if 0 ≤ x ∧ x < 128 then 1 else if -8192 ≤ x ∧ x ≤ 8191 then 2 else 5 := Marsh.pushint_length x

theorem readint_consumes (bs : List Nat) (x : Int) (tl : List Nat) (h : readint bs = some (x, tl)) :
    ∃ pre, bs = pre ++ tl ∧ 1 ≤ pre.length ∧ pre.length ≤ 5 := Marsh.readint_consumes bs x tl h

/-- Every `uint64_t` survives `push64` then `read64`, whatever follows it in the buffer. -/
theorem read64_push64 (x : Nat) (tl : List Nat) (h : x < 18446744073709551616) :
    read64 (push64 x ++ tl) = some (x, tl) := Marsh.read64_push64 x tl h

/-- non-vacuity: boundary values of each width -/
example : readint (pushint (-8193) ++ [7]) = some (-8193, [7]) := by decide
example : pushint 8191 = [159, 255] ∧ pushint (-8192) = [160, 0] ∧ pushint 128 = [128, 128] := by decide

/-- non-vacuity of the size codec at the one-byte / multi-byte boundary and at 2^64-1 -/
example : push64 240 = [240] ∧ push64 241 = [241, 241] ∧ push64 18446744073709551615 = [248, 255, 255, 255, 255, 255, 255, 255, 255] := by decide

/-! ### data value graphs

A graph is a value `x` plus a heap `H` listed in reference-number order (see Graph.lean): isomorphism of graphs -
same shape, same sharing, same cycles - is equality of `(x, H)`.  `HeapWF` / `ValWF` say what the C types guarantee
(int32 ranges, 8-byte reals, tables and structs are finite maps without nil keys or values). -/

/-- **Round trip, with sharing and cycles, at any recursion depth, for any continuation of the buffer.**
If `marshal_one` at depth budget `fuel`, with `n` values already numbered, emits `bs` and numbers the objects
`n .. n'-1`, then `unmarshal_one` with the same budget and `n` values already in its lookup table reads exactly `bs`,
returns the same value and appends exactly the objects `n .. n'-1` of the heap to the lookup table - contents, order,
internal pointers (i.e. sharing and cycles) included. -/
theorem roundtrip_graph (H : List Obj) (hH : HeapWF H) (fuel n : Nat) (x : Val) (bs : List Nat) (n' : Nat) (tl : List Nat)
    (hn : n ≤ H.length) (hx : ValWF x) (hm : marshalOne fuel H n x = some (bs, n')) :
    unmarshalOne fuel n (bs ++ tl) = some (x, tl, slice H n n') :=
  (one_roundtrip H hH fuel n x bs n' tl hn hx hm).2.2.2

/-- The k-th value numbered while marshalling is the k-th value pushed into the lookup table while
unmarshalling - after any value, the unmarshaller's table has grown by exactly the number of ids the marshaller handed out. -/
theorem ids_agree (H : List Obj) (hH : HeapWF H) (fuel n : Nat) (x : Val) (bs : List Nat) (n' : Nat) (tl : List Nat)
    (hn : n ≤ H.length) (hx : ValWF x) (hm : marshalOne fuel H n x = some (bs, n')) :
    ∃ objs, unmarshalOne fuel n (bs ++ tl) = some (x, tl, objs) ∧ n + objs.length = n' ∧
      ∀ k, k < objs.length → objs[k]? = H[n + k]? := by
  obtain ⟨h1, h2, _, h4⟩ := one_roundtrip H hH fuel n x bs n' tl hn hx hm
  refine ⟨slice H n n', h4, ?_, ?_⟩
  · rw [slice_length H n n' h2]; omega
  · intro k hk
    rw [slice_length H n n' h2] at hk
    unfold slice
    rw [List.getElem?_take_of_lt hk, List.getElem?_drop]

/-- Entry points: `janet_unmarshal (janet_marshal x)` gives back the value and the whole reachable heap, and reads exactly
the bytes that were written.  (`marshalOne … = some (bs, H.length)`: every object of the description was numbered, i.e.
the heap contains no garbage.) -/
theorem roundtrip_graph_top (H : List Obj) (hH : HeapWF H) (x : Val) (hx : ValWF x) (bs : List Nat)
    (hm : marshalOne topFuel H 0 x = some (bs, H.length)) :
    marshal H x = some bs ∧ unmarshal bs = some (x, H, bs.length) :=
  top_roundtrip H hH x hx bs hm

/-- Acyclic, unshared data is the special case in which no `LB_REFERENCE` is emitted; it needs no separate statement.
`roundtrip_graph` from a fresh state: whenever marshalling succeeds, decoding the bytes (followed by anything) succeeds and
returns the value and the numbered part of the heap. -/
theorem roundtrip_tree (H : List Obj) (hH : HeapWF H) (x : Val) (hx : ValWF x) (bs : List Nat) (n' : Nat) (tl : List Nat)
    (hm : marshalOne topFuel H 0 x = some (bs, n')) :
    ∃ H', unmarshalOne topFuel 0 (bs ++ tl) = some (x, tl, H') ∧ H' = H.take n' := by
  refine ⟨slice H 0 n', roundtrip_graph H hH topFuel 0 x bs n' tl (Nat.zero_le _) hx hm, by simp [slice]⟩

/-- **The decoder never reads past the end** (and always makes progress): whatever `unmarshal_one` returns as the
unread rest is a strict suffix of its input.  (That it is total, and that every byte it inspects is inside the buffer, holds by
construction: it is a Lean function that pattern-matches on the list.) -/
theorem read_total_inbounds (fuel n : Nat) (data : List Nat) (v : Val) (rest : List Nat) (objs : List Obj)
    (h : unmarshalOne fuel n data = some (v, rest, objs)) :
    ∃ pre, data = pre ++ rest ∧ 1 ≤ pre.length := by
  obtain ⟨⟨pre, hp⟩, hl⟩ := unmarshalOne_tail fuel n data v rest objs h
  refine ⟨pre, hp.symm, ?_⟩
  rw [← hp] at hl; simp at hl; omega

theorem unmarshal_nil (fuel n : Nat) : unmarshalOne fuel n [] = none := by
  cases fuel <;> simp [unmarshalOne]

/-! ### closure environments marshalled from a live frame (early detach path of `marshal_one_env`)

The indexing expression `1 & (bitset[i >> envWordShift] >> (i & envBitMask))` is generated from marsh.c. -/

/-- The slot test reads bit `i` of the closure bitset (32-bit words, least significant first) - for every slot index, in
particular across the word boundaries 31/32, 63/64, … -/
theorem env_slot_test_is_bit (bitset : List Nat) (hw : ∀ w ∈ bitset, w < 4294967296) (i : Nat) :
    slotCaptured bitset i = (bitsetValue bitset).testBit i := slotCaptured_spec bitset hw i

/-- The loop writes exactly one item per slot of the frame, for any frame size: the slot's value where the bit is set, nil
elsewhere - no captured slot is dropped, no uncaptured slot leaks. -/
theorem env_walk_visits_set_bits {α : Type} (bitset : List Nat) (hw : ∀ w ∈ bitset, w < 4294967296) (nil : α)
    (values : List α) :
    (envWalk bitset nil values).length = values.length ∧
    ∀ k, k < values.length →
      (envWalk bitset nil values)[k]? = some (if (bitsetValue bitset).testBit k then values.getD k nil else nil) := by
  refine ⟨envWalkFrom_length bitset nil values 0, ?_⟩
  intro k hk
  have h := envWalkFrom_spec bitset nil values 0 k hk
  rw [Nat.zero_add, env_slot_test_is_bit bitset hw k] at h
  exact h

example : envWalk [0x80000001, 0x3] 0 (List.range 40 |>.map (· + 100)) =
    [100, 0, 0, 0, 0, 0, 0, 0, 0, 0, 0, 0, 0, 0, 0, 0, 0, 0, 0, 0, 0, 0, 0, 0, 0, 0, 0, 0, 0, 0, 0, 131, 132, 133, 0, 0, 0, 0, 0, 0] := by decide

/-! ### assembler operands (asm ∘ disasm)

`doarg` (asm.c) range-checks every operand of an instruction before placing it in the word; the disassembler and the VM
read the field back by shifting and masking.  The operand layout of every instruction type and the lower-bound formula
are generated from the current asm.c. -/

/-- **Every value a field can hold is accepted by the assembler and reads back as itself** - for every instruction type
of the generated table, every operand of it, and every value in the two's-complement (resp. unsigned) range of the
operand's width; in particular the minimum (-128, -32768, -8388608) that the compiler emits for `(+ x -128)` or a literal
-32768.  (If `doarg` computes `min` as `-max`, `doargMinSlack` is generated as 0 and `range_of_encodable` fails.) -/
theorem asm_operand_roundtrip (t : JanetModel.Gen.Bytecode.IType) (f : JanetModel.Gen.Asm.Field)
    (hf : f ∈ JanetModel.Gen.Asm.fieldsOf t) (arg : Int) (h : JanetModel.Asm.Encodable f arg) :
    ∃ w, JanetModel.Asm.doarg f arg = some w ∧ JanetModel.Asm.fieldRead f w = arg :=
  JanetModel.Asm.doarg_roundtrip f (JanetModel.Asm.fields_ok t f hf) arg h

/-- the assembler accepts nothing outside the field (so no operand is silently truncated) -/
theorem asm_operand_rejects (f : JanetModel.Gen.Asm.Field) (arg : Int) (w : Nat)
    (h : JanetModel.Asm.doarg f arg = some w) :
    JanetModel.Asm.fieldMin f ≤ arg ∧ arg ≤ JanetModel.Asm.fieldMax f := by
  unfold JanetModel.Asm.doarg at h
  by_cases c1 : arg < JanetModel.Asm.fieldMin f
  · simp [c1] at h
  · by_cases c2 : arg > JanetModel.Asm.fieldMax f
    · simp [c1, c2] at h
    · omega

example : JanetModel.Asm.encode .addImmediate [0, 1, -128] = some 0x80010005 := by decide
example : JanetModel.Asm.encode .loadInteger [0, -32768] = some (0x80000000 ||| JanetModel.Gen.Bytecode.Op.loadInteger.toNat) := by decide
example : JanetModel.Asm.encode .loadInteger [0, -32769] = none := by decide

/-- non-vacuity of the graph theorem: an array that contains itself and (twice) a bracket tuple that points back to the
array; the hypotheses of `roundtrip_graph_top` hold and the wire bytes are the ones janet produces. -/
def exHeap : List Obj := [.array false [.int 1, .ref 0, .ref 1, .ref 1], .tuple 1 [.int 300, .ref 0]]

example : HeapWF exHeap := by
  refine ⟨by decide, ?_⟩
  intro o ho
  simp only [exHeap, List.mem_cons, List.mem_nil_iff, or_false] at ho
  rcases ho with rfl | rfl
  · refine ⟨by decide, ?_⟩
    intro v hv
    simp only [List.mem_cons, List.mem_nil_iff, or_false] at hv
    rcases hv with rfl | rfl | rfl | rfl <;> simp [ValWF, Marsh.Int32]
  · refine ⟨by simp [Marsh.Int32], by decide, ?_⟩
    intro v hv
    simp only [List.mem_cons, List.mem_nil_iff, or_false] at hv
    rcases hv with rfl | rfl <;> simp [ValWF, Marsh.Int32]

example : marshalOne topFuel exHeap 0 (.ref 0) = some ([209, 4, 1, 218, 0, 210, 2, 1, 129, 44, 218, 0, 218, 1], 2) := by decide

/-- a table whose prototype is itself and which is its own key -/
example : marshalOne topFuel [.table 0 (some (.ref 0)) [(.ref 0, .int 7)]] 0 (.ref 0) = some ([212, 1, 218, 0, 218, 0, 7], 1) := by decide

/-- heaps that are not in reference-number order are rejected by the model (so the hypothesis of the theorems is not vacuous
for the wrong reason) -/
example : marshalOne topFuel [.tuple 0 [.ref 1], .array false []] 0 (.ref 0) = none := by decide

/-! ### value graphs with code objects: functions, funcdefs, closure environments  (Marsh/Code.lean)

A graph is a value `x` plus three tables `T` - heap objects (data objects and functions), funcdefs, environments - each listed
in the order marsh.c numbers its entries (`st->seen` / `st->seen_defs` / `st->seen_envs`).  Two closures share a funcdef, or an
environment (their mutable captured variables), iff they carry the same index; so "same shape, same sharing and cycles,
same code" is equality of `(x, T)`.  `HeapCWF` says what the C types, `janet_def_addflags` and `janet_verify` guarantee (int32
ranges, optional parts present iff their flag bit is set, at most 255 environments per function, no empty detached
environment, every funcdef passes the verifier `vf`). -/

/-- **Round trip of `marshal_one` / `unmarshal_one` on graphs with functions**, with sharing of objects, funcdefs and
environments, from any counter state, for any continuation of the buffer, and for **every unmarshal depth budget `fu` that is at
least the marshal budget `fm`**: if `marshal_one` emits `bs` and numbers table entries `c .. c'`, then `unmarshal_one` reads
exactly `bs`, returns the same value and appends exactly those entries - function objects with the same funcdef and
environment indices, funcdefs field by field (flags, arities, constants, symbol map, bytecode words, environment indices,
sub-funcdefs, source map, closure bitset), environments value by value (detached) or with their fiber (still on a stack),
suspended fibers frame by frame (flags, previous frame, pc offset, function, frame environment, every stack slot), with
their environment table, child fiber and last value.  With `fu = fm` this is "whatever can be marshalled
can be unmarshalled" at the recursion limit; it needs the depth discipline `CodeObligations.unmarshal_never_deeper` of the
current source (false of the source before a382df0). -/
theorem roundtrip_code (T : Heap) (vf : Def → Bool) (hT : HeapCWF vf T) (fm fu : Nat) (hfu : fm ≤ fu) (c : Ct) (x : Val)
    (bs : List Nat) (c' : Ct) (tl : List Nat) (hc : c ≤ T.size) (hx : ValWF x) (hm : marshalC fm T x c = some (bs, c')) :
    unmarshalC fu vf c (bs ++ tl) = some (x, tl, T.slice c c') :=
  ((all_roundtrip T vf hT fm).1 fu hfu x hx c bs c' tl hc hm).2.2

/-- the same for `marshal_one_def` / `unmarshal_one_def` alone: a funcdef already in `seen_defs` comes back as the same index
(LB_FUNCDEF_REF), a new one is rebuilt field by field together with everything below it -/
theorem roundtrip_funcdef (T : Heap) (vf : Def → Bool) (hT : HeapCWF vf T) (fm fu : Nat) (hfu : fm ≤ fu) (c : Ct) (di : Nat)
    (bs : List Nat) (c' : Ct) (tl : List Nat) (hc : c ≤ T.size) (hm : marshalDef fm T di c = some (bs, c')) :
    unmarshalDef fu vf c (bs ++ tl) = some (di, tl, T.slice c c') :=
  ((all_roundtrip T vf hT fm).2.1 fu hfu di c bs c' tl hc hm).2.2

/-- the same for `marshal_one_env` / `unmarshal_one_env`: an environment already in `seen_envs` comes back as the same index
(LB_FUNCENV_REF) - that is what keeps two closures over one variable connected after the round trip -/
theorem roundtrip_funcenv (T : Heap) (vf : Def → Bool) (hT : HeapCWF vf T) (fm fu : Nat) (hfu : fm ≤ fu) (c : Ct) (ei : Nat)
    (bs : List Nat) (c' : Ct) (tl : List Nat) (hc : c ≤ T.size) (hm : marshalEnv fm T ei c = some (bs, c')) :
    unmarshalEnvWith (fun c d => unmarshalC fu vf c d) c (bs ++ tl) = some (ei, tl, T.slice c c') :=
  ((all_roundtrip T vf hT fm).2.2 fu hfu ei c bs c' tl hc hm).2.2

/-- **No image-only pseudo flag survives in the in-memory fiber**: whatever 32-bit flags word is read from the image, the
flags `unmarshal_one_fiber` stores (`fiberMemFlags`, used by `unmarshalFiberBody`) have neither `JANET_FIBER_FLAG_HASENV`
nor `JANET_FIBER_FLAG_HASCHILD` set, and no other bit is touched.  So the copy satisfies the `noEnvBit` / `noChildBit` clauses
of `FiberWF` again, which is what `roundtrip_code` needs for the *next* generation (copy of the copy). -/
theorem fiber_flags_no_wire_bits (ff : Int) :
    hasFlag (fiberMemFlags ff) JanetModel.Gen.MarshCode.fiberHasEnv = false ∧
    hasFlag (fiberMemFlags ff) JanetModel.Gen.MarshCode.fiberHasChild = false ∧
    fiberMemFlags ff % JanetModel.Gen.MarshCode.fiberHasChild = ff % JanetModel.Gen.MarshCode.fiberHasChild ∧
    fiberMemFlags ff / (2 * JanetModel.Gen.MarshCode.fiberHasEnv) = ff / (2 * JanetModel.Gen.MarshCode.fiberHasEnv) := by
  have h30 : (ff / 1073741824) % 2 = 1 ∨ (ff / 1073741824) % 2 = 0 := by omega
  have h29 : (ff / 536870912) % 2 = 1 ∨ (ff / 536870912) % 2 = 0 := by omega
  rcases h30 with a | a <;> rcases h29 with b | b <;>
    simp [fiberMemFlags, hasFlag, JanetModel.Gen.MarshCode.fiberHasEnv, JanetModel.Gen.MarshCode.fiberHasChild, a, b] <;>
    omega

example : fiberMemFlags (1073741824 + 536870912 + 5) = 5 := by decide

/-- all three lookup tables of the unmarshaller grow by exactly the numbers the marshaller handed out -/
theorem code_ids_agree (T : Heap) (vf : Def → Bool) (hT : HeapCWF vf T) (fuel : Nat) (c : Ct) (x : Val)
    (bs : List Nat) (c' : Ct) (tl : List Nat) (hc : c ≤ T.size) (hx : ValWF x) (hm : marshalC fuel T x c = some (bs, c')) :
    ∃ o, unmarshalC fuel vf c (bs ++ tl) = some (x, tl, o) ∧ c.add o = c' ∧ c ≤ c' ∧ c' ≤ T.size := by
  obtain ⟨h1, h2, h3⟩ := (all_roundtrip T vf hT fuel).1 fuel (Nat.le_refl _) x hx c bs c' tl hc hm
  exact ⟨T.slice c c', h3, Ct.add_slice T c c' h1 h2, h1, h2⟩

/-- entry points: `janet_unmarshal (janet_marshal x)` gives back the value and all three tables and reads exactly the bytes
written (`… = some (bs, T.size)`: every entry of the description was numbered, the description contains no garbage) -/
theorem roundtrip_code_top (T : Heap) (vf : Def → Bool) (hT : HeapCWF vf T) (x : Val) (hx : ValWF x) (bs : List Nat)
    (hm : marshalC topFuel T x ⟨0, 0, 0⟩ = some (bs, T.size)) :
    marshalCode T x = some bs ∧ unmarshalCode vf bs = some (x, ⟨T.objs, T.defs, T.envs⟩, bs.length) := by
  refine ⟨by simp [marshalCode, hm], ?_⟩
  have h := roundtrip_code T vf hT topFuel topFuel (Nat.le_refl _) ⟨0, 0, 0⟩ x bs T.size [] ⟨Nat.zero_le _, Nat.zero_le _, Nat.zero_le _⟩ hx hm
  simp only [List.append_nil] at h
  simp [unmarshalCode, h, Heap.slice, Heap.size, slc]

/-- non-vacuity: two closures (`inc`, `get`) over one captured variable, made by one outer funcdef: both functions carry
environment 0, the second funcdef is a sub-funcdef listed by index; the tuple of both is the root.  The model marshals it,
the second closure's environment goes out as LB_FUNCENV_REF 0 (`219, 0`), and unmarshalling gives the same three tables. -/
def exCode : Heap :=
  { objs := [.func 0 [0], .func 1 [0], .data (.tuple 0 [.ref 0, .ref 1])],
    defs := [⟨4194304, 1, 0, 0, 0, none, none, [], [], [0x0000012D, 0x00000003], [-1], [], [], []⟩,
             ⟨4194304, 1, 0, 0, 0, none, none, [.int 300], [], [0x00000003], [-1], [], [], []⟩],
    envs := [.detached [.int 5, .nil]] }

example : marshalC topFuel exCode (.ref 2) ⟨0, 0, 0⟩ =
    some ([210, 2, 0, 215, 1, 205, 0, 64, 0, 0, 1, 0, 0, 0, 0, 2, 1, 45, 1, 0, 0, 3, 0, 0, 0, 191, 255, 0, 2, 5, 201,
           215, 1, 205, 0, 64, 0, 0, 1, 0, 0, 0, 1, 1, 1, 129, 44, 3, 0, 0, 0, 191, 255, 219, 0], ⟨3, 2, 1⟩) := by decide

example : (unmarshalCode (fun _ => true) [210, 2, 0, 215, 1, 205, 0, 64, 0, 0, 1, 0, 0, 0, 0, 2, 1, 45, 1, 0, 0, 3, 0, 0, 0, 191, 255, 0, 2, 5, 201,
           215, 1, 205, 0, 64, 0, 0, 1, 0, 0, 0, 1, 1, 1, 129, 44, 3, 0, 0, 0, 191, 255, 219, 0]).map (·.1) = some (.ref 2) := by decide +kernel

/-- the hypotheses of the theorems hold for it -/
example : HeapCWF (fun _ => true) exCode := by
  refine ⟨by decide, by decide, by decide, ?_, ?_, ?_⟩
  · intro o ho
    simp only [exCode, List.mem_cons, List.mem_nil_iff, or_false] at ho
    rcases ho with rfl | rfl | rfl <;> simp [CObjWF, ObjWF, ValWF, Marsh.Int32, JanetModel.Gen.MarshCode.maxFuncEnvs]
  · intro d hd
    simp only [exCode, List.mem_cons, List.mem_nil_iff, or_false] at hd
    rcases hd with rfl | rfl <;> constructor <;>
      simp [Marsh.Int32, OptWF, hasFlag, ValWF, SymWF, JanetModel.Gen.MarshCode.maxSlotcount, JanetModel.Gen.MarshCode.fdHasName,
        JanetModel.Gen.MarshCode.fdHasSource, JanetModel.Gen.MarshCode.fdHasSymbolMap, JanetModel.Gen.MarshCode.fdHasEnvs,
        JanetModel.Gen.MarshCode.fdHasDefs, JanetModel.Gen.MarshCode.fdHasSourceMap, JanetModel.Gen.MarshCode.fdHasCloBitset]
  · intro e he
    simp only [exCode, List.mem_cons, List.mem_nil_iff, or_false] at he
    subst he
    simp [EnvWF, ValWF, Marsh.Int32]

/-- non-vacuity for fibers: a fiber suspended in one frame of a two-instruction function, one stack slot; wire bytes as the
model (and, on generated fibers, janet) produces them; `FiberWF` holds for it -/
def exFiber : Heap :=
  { objs := [.fiber 8 4 9 9 100 [⟨2, 0, 1, .ref 1, none, [.int 10]⟩] none none (.int 10), .func 0 []],
    defs := [⟨0, 1, 0, 0, 0, none, none, [], [], [3, 3], [], [], [], []⟩],
    envs := [] }

example : marshalC topFuel exFiber (.ref 0) ⟨0, 0, 0⟩ =
    some ([204, 8, 4, 9, 9, 100, 2, 0, 1, 215, 0, 0, 1, 0, 0, 0, 0, 2, 3, 0, 0, 0, 3, 0, 0, 0, 10, 10], ⟨2, 1, 0⟩) := by decide +kernel

example : FiberWF 8 4 9 9 100 [⟨2, 0, 1, .ref 1, none, [.int 10]⟩] none none (.int 10) := by
  refine ⟨by decide, by decide, by decide, by decide, ?_, by simp, by simp, by simp [ValWF, Marsh.Int32]⟩
  simp [FramesWF, ValWF, Marsh.Int32, JanetModel.Gen.MarshCode.frameSize]

/-- a description whose funcdefs are not in `seen_defs` order is rejected (the hypothesis of the theorems is not vacuous for
the wrong reason) -/
example : marshalC topFuel { exCode with objs := [.func 1 [0]] } (.ref 0) ⟨0, 0, 0⟩ = none := by decide


/-! ### abstract types: the hook protocol, boxed 64-bit integers, channels with queued items  (Marsh/Abstract.lean)

An abstract's marshal hook writes through its context: calls before `janet_marshal_abstract` (`pre`), MARK_SEEN, calls after
(`post`).  Its unmarshal hook is a program over the context calls (`Prog`).  `WellPaired prog pre post` is a statement about
the two hooks alone (no wire): the program, fed `pre`, reaches `janet_unmarshal_abstract` exactly then, and fed `post`,
returns exactly then, asking each time for the kind of item that was written. -/

/-- **Round trip for every well-paired hook pair**, at the wire level, with values passed through `janet_marshal_janet`
handled by `marshal_one` / `unmarshal_one` of Code.lean (so they may be shared with, or point back into, the rest of the graph):
the unmarshal hook reads back exactly the calls the marshal hook made, the abstract gets the reference number the marshaller
gave it, objects created inside `pre` / `post` are numbered before / after it, and the buffer is left where the marshaller
stopped.  (`mk` is how a description records an abstract; the dispatch on the type name is outside the model.) -/
theorem abstract_hook_roundtrip (T : Heap) (vf : Def → Bool) (hT : HeapCWF vf T) (fm fu : Nat) (hfu : fm ≤ fu)
    (prog : Prog) (pre post : List AItem) (hwp : WellPaired prog pre post)
    (hpre : ∀ it ∈ pre, ItemWF it) (hpost : ∀ it ∈ post, ItemWF it)
    (mk : List AItem → List AItem → CObj) (id : Nat) (ho : T.objs[id]? = some (mk pre post))
    (c : Ct) (bs : List Nat) (c' : Ct) (tl : List Nat) (hc : c ≤ T.size)
    (hm : marshalHook (fun v c => marshalC fm T v c) id pre post c = some (bs, c')) :
    unmarshalHook (fun c d => unmarshalC fu vf c d) prog mk c (bs ++ tl) = some (.ref id, tl, T.slice c c') :=
  (hook_paired T _ _ (fun v hv => (all_roundtrip T vf hT fm).1 fu hfu v hv) prog pre post hwp hpre hpost mk id ho
    c bs c' tl hc hm).2.2

/-- `int64_marshal` / `int64_unmarshal` (int/s64 and int/u64 boxes) are well paired, for every 64-bit value -/
theorem int64_hooks_paired (u : Nat) : WellPaired int64Prog (int64Items u).1 (int64Items u).2 := int64_wellPaired u

/-- … so a boxed 64-bit integer survives: the value read back is the value written (every `uint64_t`) -/
theorem int64_box_roundtrip (T : Heap) (vf : Def → Bool) (hT : HeapCWF vf T) (fuel : Nat) (u : Nat) (hu : u < 18446744073709551616)
    (name : Val) (id : Nat) (ho : T.objs[id]? = some (.abs name [] [.i64 u]))
    (c : Ct) (bs : List Nat) (c' : Ct) (tl : List Nat) (hc : c ≤ T.size)
    (hm : marshalHook (fun v c => marshalC fuel T v c) id [] [.i64 u] c = some (bs, c')) :
    unmarshalHook (fun c d => unmarshalC fuel vf c d) int64Prog (CObj.abs name) c (bs ++ tl) = some (.ref id, tl, T.slice c c') :=
  abstract_hook_roundtrip T vf hT fuel fuel (Nat.le_refl _) int64Prog [] [.i64 u] (int64_wellPaired u)
    (by simp) (by simp [ItemWF, hu]) (CObj.abs name) id ho c bs c' tl hc hm

/-- `janet_chanat_marshal` / `janet_chanat_unmarshal` are well paired for every channel state: any flags, any limit, any
number of queued items -/
theorem channel_hooks_paired (threaded closed : Nat) (limit : Int) (items : List Val) (h : items.length < 2147483648) :
    WellPaired chanProg (chanItems threaded closed limit items).1 (chanItems threaded closed limit items).2 :=
  chan_wellPaired threaded closed limit items

/-- … so a channel with queued items survives: flags, limit, and the queued values in queue order, each value with its
sharing (a value queued twice, or also reachable from elsewhere in the graph, is one object after the round trip) -/
theorem channel_roundtrip (T : Heap) (vf : Def → Bool) (hT : HeapCWF vf T) (fuel : Nat) (threaded closed : Nat) (limit : Int)
    (items : List Val) (hl : Marsh.Int32 limit) (hn : items.length < 2147483648) (hv : ∀ v ∈ items, ValWF v)
    (name : Val) (id : Nat)
    (ho : T.objs[id]? = some (.abs name (chanItems threaded closed limit items).1 (chanItems threaded closed limit items).2))
    (c : Ct) (bs : List Nat) (c' : Ct) (tl : List Nat) (hc : c ≤ T.size)
    (hm : marshalHook (fun v c => marshalC fuel T v c) id (chanItems threaded closed limit items).1
            (chanItems threaded closed limit items).2 c = some (bs, c')) :
    unmarshalHook (fun c d => unmarshalC fuel vf c d) chanProg (CObj.abs name) c (bs ++ tl) = some (.ref id, tl, T.slice c c') := by
  refine abstract_hook_roundtrip T vf hT fuel fuel (Nat.le_refl _) chanProg _ _ (chan_wellPaired threaded closed limit items)
    ?_ ?_ (CObj.abs name) id ho c bs c' tl hc hm
  · intro it hit; simp [chanItems] at hit; subst hit; simp [ItemWF]
  · intro it hit
    simp only [chanItems, List.cons_append, List.nil_append, List.mem_cons, List.mem_map] at hit
    rcases hit with rfl | rfl | rfl | ⟨v, hvm, rfl⟩
    · simp [ItemWF]
    · exact hl
    · simp only [ItemWF, Marsh.Int32]; constructor <;> omega
    · exact hv v hvm

/-- `peg_marshal` / the reading part of `peg_unmarshal` are well paired for every compiled PEG: any bytecode length, any
constants (through `abstract_hook_roundtrip`: the words and the constants, with their sharing, come back; that `peg_unmarshal`
then accepts them - its bytecode verifier - and recomputes `has_backref` is tested by `pegfields.c`, not modelled) -/
theorem peg_hooks_paired (bytecode : List Int) (constants : List Val) (hb : bytecode.length ≤ 2147483647)
    (hc : constants.length < 2147483648) :
    WellPaired pegProg (pegItems bytecode constants).1 (pegItems bytecode constants).2 :=
  peg_wellPaired bytecode constants hb

/-- … so a compiled PEG survives at the wire level: every bytecode word (as `peg_marshal` writes it, one int32 per word) and
every constant, each with its sharing (a constant that is also reachable from elsewhere in the graph is one object after the
round trip), for any bytecode length and any number of constants.  Not in this statement: `peg_unmarshal` then runs its
bytecode verifier and recomputes `has_backref` (tested field by field and behaviourally by `pegfields.c`). -/
theorem peg_roundtrip (T : Heap) (vf : Def → Bool) (hT : HeapCWF vf T) (fuel : Nat) (bytecode : List Int) (constants : List Val)
    (hb : bytecode.length ≤ 2147483647) (hk : constants.length < 2147483648) (hw : ∀ w ∈ bytecode, Marsh.Int32 w)
    (hv : ∀ v ∈ constants, ValWF v) (name : Val) (id : Nat)
    (ho : T.objs[id]? = some (.abs name (pegItems bytecode constants).1 (pegItems bytecode constants).2))
    (c : Ct) (bs : List Nat) (c' : Ct) (tl : List Nat) (hc : c ≤ T.size)
    (hm : marshalHook (fun v c => marshalC fuel T v c) id (pegItems bytecode constants).1 (pegItems bytecode constants).2 c = some (bs, c')) :
    unmarshalHook (fun c d => unmarshalC fuel vf c d) pegProg (CObj.abs name) c (bs ++ tl) = some (.ref id, tl, T.slice c c') := by
  refine abstract_hook_roundtrip T vf hT fuel fuel (Nat.le_refl _) pegProg _ _ (peg_wellPaired bytecode constants hb)
    ?_ ?_ (CObj.abs name) id ho c bs c' tl hc hm
  · intro it hit
    simp only [pegItems, List.mem_cons, List.mem_nil_iff, or_false] at hit
    rcases hit with rfl | rfl
    · simp only [ItemWF]; omega
    · simp only [ItemWF, Marsh.Int32]; constructor <;> omega
  · intro it hit
    simp only [pegItems, List.mem_append, List.mem_map] at hit
    rcases hit with ⟨w, hwm, rfl⟩ | ⟨v, hvm, rfl⟩
    · exact hw w hwm
    · exact hv v hvm

/-- non-vacuity: a channel holding the same array twice (and an integer); the second occurrence goes out as a reference
(`218, 1`) and comes back as the same object; bytes as `(marshal ch)` produces them after the type name -/
example : marshalHook (fun v c => marshalC 5 ⟨[.abs .nil [.byte 0] [.byte 0, .int 10, .int 3, .janet (.ref 1), .janet (.int 7), .janet (.ref 1)],
      .data (.array false [])], [], []⟩ v c) 0 (chanItems 0 0 10 [.ref 1, .int 7, .ref 1]).1 (chanItems 0 0 10 [.ref 1, .int 7, .ref 1]).2 ⟨0, 0, 0⟩
    = some ([0, 0, 10, 3, 209, 0, 7, 218, 1], ⟨2, 0, 0⟩) := by decide

/-- a hook pair that is not well paired (the reader asks for an int where a byte was written) is not accepted -/
example : acceptsPre chanProg [.int 0] = none := by decide


/-! ### recursion depth along the abstract-hook path  (Marsh/AbsDepth.lean)

`marshal_one` → `marshal_one_abstract` → `JanetMarshalContext.flags` → `janet_marshal_janet` → `marshal_one`: a value that a hook
hands back to the marshaller (PEG constant, queued channel item) is visited `call + ctx + item` levels below its abstract, the
type-name symbol `call + name` levels below; `unmarshal_one` has the same four edges with its own increments.  `Incs` holds the
four increments of one side; the ones of the current marsh.c are regenerated (`Gen.MarshCode.mAbs…` / `uAbs…`, instantiated in
`CodeObligations.abstract_nesting_roundtrips`). -/

/-- **Whatever nests through abstract payloads and is marshalled can be unmarshalled**, at every depth: if the reader's `call + name` and `call + ctx + item`
increments are at most the writer's (edge by edge is the special case), then for every value (arrays and abstracts holding values,
any shape), every writer budget `fm` (= `recursionGuard + 1 - depth`) and every reader budget `fu ≥ fm`, the reader accepts the
bytes the writer produced, returns the same nesting and stops where the writer stopped.  (With a context initialiser that does
not add to the local depth on the marshal side — `st->flags`, seed C19-8 — the hypothesis `hi` is false, and the second
`example` below is a value that is written and then rejected.) -/
theorem abstract_depth_roundtrip (pm pu : AbsDepth.Incs) (hn : pu.nameTotal ≤ pm.nameTotal) (hi : pu.itemExtra ≤ pm.itemExtra)
    (v : AbsDepth.DV) (fm fu : Nat) (h : fm ≤ fu) (bs tl : List AbsDepth.Tok) (hm : AbsDepth.marshalD pm fm v = some bs) :
    AbsDepth.unmarshalD pu fu (bs ++ tl) = some (v, tl) :=
  AbsDepth.roundtripD pm pu hn hi v fm fu h bs tl hm

/-- the converse inequalities give the converse acceptance: bytes of a value that the reader accepts at budget `fu` are
accepted by the writer at every budget `fm ≥ fu`, and the reader returned that value -/
theorem abstract_depth_accept_converse (pm pu : AbsDepth.Incs) (hn : pm.nameTotal ≤ pu.nameTotal) (hi : pm.itemExtra ≤ pu.itemExtra)
    (v : AbsDepth.DV) (fm fu : Nat) (h : fu ≤ fm) (tl : List AbsDepth.Tok) (r : AbsDepth.DV × List AbsDepth.Tok)
    (hu : AbsDepth.unmarshalD pu fu (AbsDepth.enc v ++ tl) = some r) :
    AbsDepth.marshalD pm fm v = some (AbsDepth.enc v) ∧ r = (v, tl) :=
  AbsDepth.acceptD pm pu hn hi v fm fu h tl r hu

/-- **Depth symmetry of the abstract path**: with equal increments on both sides, `marshal`
accepts a value at depth `d` iff `unmarshal` accepts its bytes at depth `d` -/
theorem abstract_depth_symmetric (p : AbsDepth.Incs) (v : AbsDepth.DV) (f : Nat) (tl : List AbsDepth.Tok) :
    (AbsDepth.marshalD p f v).isSome = (AbsDepth.unmarshalD p f (AbsDepth.enc v ++ tl)).isSome :=
  AbsDepth.symmetricD p v f tl

/-- the same in the Code/Abstract model: the values a hook passes to `janet_marshal_janet` are written by `marshalC` at the
budget of the abstract minus the writer's increments and read by `unmarshalC` at the budget minus the reader's; when the reader's
increments are not larger, every well-paired hook round-trips (`abstract_hook_roundtrip` with the two budgets made explicit) -/
theorem abstract_hook_roundtrip_at_depth (pm pu : AbsDepth.Incs) (hi : pu.itemExtra ≤ pm.itemExtra)
    (T : Heap) (vf : Def → Bool) (hT : HeapCWF vf T) (fuel : Nat)
    (prog : Prog) (pre post : List AItem) (hwp : WellPaired prog pre post)
    (hpre : ∀ it ∈ pre, ItemWF it) (hpost : ∀ it ∈ post, ItemWF it)
    (mk : List AItem → List AItem → CObj) (id : Nat) (ho : T.objs[id]? = some (mk pre post))
    (c : Ct) (bs : List Nat) (c' : Ct) (tl : List Nat) (hc : c ≤ T.size)
    (hm : marshalHook (fun v c => marshalC (fuel - pm.itemExtra) T v c) id pre post c = some (bs, c')) :
    unmarshalHook (fun c d => unmarshalC (fuel - pu.itemExtra) vf c d) prog mk c (bs ++ tl) = some (.ref id, tl, T.slice c c') :=
  abstract_hook_roundtrip T vf hT _ _ (by omega) prog pre post hwp hpre hpost mk id ho c bs c' tl hc hm

/-- non-vacuity: with the increments of marsh.c (0, 1, 1, 1) and budget 5, two abstracts around a leaf are written … -/
example : AbsDepth.marshalD ⟨0, 1, 1, 1⟩ 5 (AbsDepth.chainW 0 2) = some [.abs 1, .sym, .abs 1, .sym, .nil] := by decide
/-- … three are not (the leaf would be at budget 0), and by symmetry their bytes are not read either -/
example : AbsDepth.marshalD ⟨0, 1, 1, 1⟩ 6 (AbsDepth.chainW 0 3) = none ∧
    (AbsDepth.unmarshalD ⟨0, 1, 1, 1⟩ 6 (AbsDepth.enc (AbsDepth.chainW 0 3))).isSome = false := by
  have h : AbsDepth.marshalD ⟨0, 1, 1, 1⟩ 6 (AbsDepth.chainW 0 3) = none := by decide
  refine ⟨h, ?_⟩
  have := abstract_depth_symmetric ⟨0, 1, 1, 1⟩ (AbsDepth.chainW 0 3) 6 []
  rw [h] at this
  simpa using this.symm
/-- a writer whose context does not add to the depth (`ctx = 0`; seed C19-8 restarts it altogether) against the reader of
marsh.c: the value is written, and its bytes are rejected -/
example : (AbsDepth.marshalD ⟨0, 1, 0, 1⟩ 6 (AbsDepth.chainW 0 3)).isSome = true ∧
    (AbsDepth.unmarshalD ⟨0, 1, 1, 1⟩ 6 (AbsDepth.enc (AbsDepth.chainW 0 3))).isSome = false := by
  refine ⟨by decide, ?_⟩
  have h : AbsDepth.marshalD ⟨0, 1, 1, 1⟩ 6 (AbsDepth.chainW 0 3) = none := by decide
  have := abstract_depth_symmetric ⟨0, 1, 1, 1⟩ (AbsDepth.chainW 0 3) 6 []
  rw [h] at this
  simpa using this.symm


/-! ### asm ∘ disasm on whole instruction words and bytecode arrays  (Asm/Instr.lean)

`decode` mirrors `janet_asm_decode_instruction` (operand fields generated from its switch), `encode` mirrors
`read_instruction` + `doarg`.  A word is `Canonical` when its breakpoint bit is clear (the assembler has no syntax for it) and no
bit lies outside the operand fields the assembler writes (only JINT_0 and the upper byte of JINT_S have such bits). -/

/-- **Every opcode, every canonical word**: assembling the disassembly of an instruction word gives the word back - all operand
layouts of the generated table, signed operands at their minimum included. -/
theorem asm_disasm_instr (w : Nat) (hc : JanetModel.Asm.Canonical w) (op : JanetModel.Gen.Bytecode.Op) (args : List Int)
    (hd : JanetModel.Asm.decode w = some (op, args)) : JanetModel.Asm.encode op args = some w :=
  JanetModel.Asm.encode_decode w hc op args hd

/-- **Whole bytecode array**: `asm (disasm bytecode) = bytecode`, word for word, for any length. -/
theorem asm_disasm_bytecode (ws : List Nat) (h : ∀ w ∈ ws, JanetModel.Asm.Canonical w) :
    JanetModel.Asm.asmBytecode (JanetModel.Asm.disasmBytecode ws) = some ws :=
  JanetModel.Asm.asm_disasm_bytecode ws h

example : JanetModel.Asm.decode 0x80010005 = some (.addImmediate, [0, 1, -128]) := by decide
example : (JanetModel.Asm.decode 0x80010005).bind (fun p => JanetModel.Asm.encode p.1 p.2) = some 0x80010005 := by decide
/-- the breakpoint bit is not reproduced (so such a word is excluded by `Canonical`) -/
example : (JanetModel.Asm.decode 0x80010085).bind (fun p => JanetModel.Asm.encode p.1 p.2) = some 0x80010005 := by decide


/-! ### asm ∘ disasm at funcdef level: slot count and `janet_verify`  (Asm/Def.lean)

`verify` mirrors `janet_verify` (header tests, the comparisons of every `case JINT_x` in source order — generated —, the
symbol-map loop, the terminal-opcode test); `asmOfX` mirrors the part of `janet_asm1` that decides acceptance: the three arity
assertions, `slotcount = !!(flags & VARARG) + arity` (whether the flag is already set at that point is generated:
`slotInitCountsVararg`), the operands `extra` arriving from sub-funcdefs, the bytecode loop in which every JANET_OAT_SLOT operand
`≥ slotcount` raises it (operand kinds generated), the symbol-map loop (`symStep`), the final `janet_verify`.  The `:slotcount` entry of the disassembly is not read by the assembler. -/

/-- **asm (disasm d) is accepted by its own verifier**, for every funcdef janet_verify accepts whose words are canonical
and whose arities are ordered as the assembler asserts; the result is `d` with the recomputed slot count.  `extra` = the
captured-slot operands of `ldu` / `setu` instructions of sub-funcdefs that `read_instruction` counts in this (enclosing)
funcdef — any list of one-byte values.  Two generated facts carry the proof: the vararg flag is set before the slot count is
initialised (otherwise the `maxslot > sc` test fails for every variadic function whose rest slot is not an operand:
`slotInit_eq` fails) and the symbol-map loop counts the slots of named locals (otherwise the `slot_index >= sc`
test fails for a local that no instruction mentions, e.g. the unused last binding of a destructuring whose final move `movopt`
deleted: `sym_counts` fails, as in janet before 709ad9e). -/
theorem asm_disasm_def (extra : List Int) (d : JanetModel.Asm.FDef) (hv : JanetModel.Asm.verify d = 0)
    (hc : ∀ w ∈ d.bytecode, JanetModel.Asm.Canonical w) (hmin : d.minArity ≤ d.arity) (hmax : d.arity ≤ d.maxArity)
    (hx : ∀ x ∈ extra, x < 256) :
    JanetModel.Asm.asmOfX extra d = some { d with slotcount := JanetModel.Asm.asmSlotcountX extra d } :=
  JanetModel.Asm.asm_disasm_def extra d hv hc hmin hmax hx

/-- the recomputed slot count covers the parameters (rest parameter included), every slot operand, every named local and
every operand arriving from a sub-funcdef … -/
theorem asm_slotcount_covers (extra : List Int) (d : JanetModel.Asm.FDef) (hv : JanetModel.Asm.verify d = 0) :
    d.arity + (if d.vararg then 1 else 0) ≤ JanetModel.Asm.asmSlotcountX extra d ∧
    (∀ w ∈ d.bytecode, ∀ a ∈ JanetModel.Asm.slotArgsW w, a < JanetModel.Asm.asmSlotcountX extra d) ∧
    (∀ e ∈ d.symbolmap, e.birth ≠ 4294967295 → (e.slot : Int) < JanetModel.Asm.asmSlotcountX extra d) ∧
    (∀ x ∈ extra, x < JanetModel.Asm.asmSlotcountX extra d) :=
  JanetModel.Asm.asmSlotcount_covers extra d ((JanetModel.Asm.verify_zero_iff d).1 hv)

/-- … never exceeds the original one when those operands are below it … -/
theorem asm_slotcount_le (extra : List Int) (d : JanetModel.Asm.FDef) (hv : JanetModel.Asm.verify d = 0)
    (hc : ∀ w ∈ d.bytecode, JanetModel.Asm.Canonical w) (hx : ∀ x ∈ extra, x < d.slotcount) :
    JanetModel.Asm.asmSlotcountX extra d ≤ d.slotcount := JanetModel.Asm.asm_slotcount_le extra d hv hc hx

/-- … and equals it when the original count is tight (parameters fill the frame, or the last slot is an operand or a named local). -/
theorem asm_slotcount_eq (extra : List Int) (d : JanetModel.Asm.FDef) (hv : JanetModel.Asm.verify d = 0)
    (hc : ∀ w ∈ d.bytecode, JanetModel.Asm.Canonical w) (hx : ∀ x ∈ extra, x < d.slotcount) (ht : JanetModel.Asm.Tight d) :
    JanetModel.Asm.asmSlotcountX extra d = d.slotcount := JanetModel.Asm.asm_slotcount_eq extra d hv hc hx ht

/-- **asm (disasm d) = d** on every field janet_verify reads, for funcdefs with a tight slot count (compiler output). -/
theorem asm_disasm_def_tight (extra : List Int) (d : JanetModel.Asm.FDef) (hv : JanetModel.Asm.verify d = 0)
    (hc : ∀ w ∈ d.bytecode, JanetModel.Asm.Canonical w) (hmin : d.minArity ≤ d.arity) (hmax : d.arity ≤ d.maxArity)
    (hx : ∀ x ∈ extra, x < d.slotcount) (ht : JanetModel.Asm.Tight d) :
    JanetModel.Asm.asmOfX extra d = some d := JanetModel.Asm.asm_disasm_def_tight extra d hv hc hmin hmax hx ht

section AsmDefExamples
open JanetModel.Asm
/-- `(fn [a & xs] a)`: one instruction `(ret 0)`, the rest slot 1 is no operand -/
def exVariadic : FDef :=
  { vararg := true, arity := 1, minArity := 1, maxArity := 2147483647, slotcount := 2, bytecode := [0x00000003],
    nconsts := 0, ndefs := 0, nenvs := 0, symbolmap := [⟨0, 1, 0⟩, ⟨0, 1, 1⟩] }
example : verify exVariadic = 0 := by decide
example : asmOf exVariadic = some exVariadic := by decide
example : Tight exVariadic ∧ (∀ w ∈ exVariadic.bytecode, Canonical w) := by
  refine ⟨Or.inl (by decide), ?_⟩
  intro w hw
  simp only [exVariadic, List.mem_singleton] at hw
  subst hw
  refine ⟨by decide, by decide, ?_⟩
  show canonArgs Gen.Bytecode.IType.s 3
  show 3 / 16777216 = 0
  decide
/-- `(fn [& xs] nil)` : `(retn)` -/
example : asmOf { exVariadic with arity := 0, minArity := 0, slotcount := 1, bytecode := [0x00000004], symbolmap := [⟨0, 1, 0⟩] }
    = some { exVariadic with arity := 0, minArity := 0, slotcount := 1, bytecode := [0x00000004], symbolmap := [⟨0, 1, 0⟩] } := by decide
/-- a slot count that is not tight shrinks: 3 parameters' worth of frame, `(ldi 5 7) (ret 5)` → 6 -/
example : (asmOf { exVariadic with vararg := false, slotcount := 9, bytecode := [0x0007052B, 0x00000503], symbolmap := [] }).map (·.slotcount)
    = some 6 := by decide
/-- `(fn [[a b] & r] a)` as compiled: `(geti 2 0 0) (movn 3 2) (geti 2 0 1) (ret 3)`, locals r a b in slots 1 3 4 — slot 4 is in
no instruction (movopt deleted the move).  Without the symbol-map statement in janet_asm1 the assembler computes slot count 4 and
its own janet_verify returns 10 -/
def exDestructure : FDef :=
  { exVariadic with slotcount := 5, bytecode := [0x0000023d, 0x0002031b, 0x0100023d, 0x00000303], symbolmap := [⟨0, 4, 1⟩, ⟨1, 4, 3⟩, ⟨3, 4, 4⟩] }
example : verify exDestructure = 0 ∧ asmOf exDestructure = some exDestructure := by decide
example : verify { exDestructure with slotcount := 4 } = 10 := by decide
/-- the arity hypotheses are needed: janet_verify accepts `min-arity > arity`, the assembler asserts the opposite -/
example : verify { exVariadic with minArity := 2 } = 0 ∧ asmOf { exVariadic with minArity := 2 } = none := by decide
/-- `(ldu 0 0 5)` in a 1-slot closure: captured slot 5 is not counted in the closure (slot count stays 1) but in the
enclosing funcdef, where it arrives as `extra` — there the bound `extra < slotcount` is needed for `≤` -/
example : asmSlotcount { exVariadic with vararg := false, arity := 0, minArity := 0, slotcount := 1, nenvs := 1, bytecode := [0x0500002D, 0x00000003], symbolmap := [] } = 1 := by
  decide
example : asmSlotcountX [5] exVariadic = 6 ∧ asmSlotcountX [1] exVariadic = 2 := by decide
end AsmDefExamples


/-! ### every value graph has a presentation in reference-number order, and only one  (Marsh/Present.lean)

`roundtrip_graph` is about heaps listed in the order marsh.c numbers them.  `presentOne` is `marshal_one` on a heap in
*arbitrary* (address) order with the `st->seen` table explicit (newest binding wins, as `janet_table_put`); the description in
reference-number order — what `graph.janet: describe` computes — is a by-product of the same traversal. -/

/-- **Existence**: whenever the seen-table marshaller writes bytes for `x` in a heap of any order (any seen table with
numbers below `nextid`, any depth budget), the description it computes is accepted by `marshalOne` at that counter, wherever
the new objects sit in the heap, and `marshalOne` writes the same bytes and hands out the same numbers. -/
theorem presentation_exists (G : List Obj) (fuel : Nat) (s : Seen) (n : Nat) (x : Val) (bs : List Nat) (x' : Val)
    (objs : List Obj) (s' : Seen) (h : presentOne fuel G s n x = some (bs, x', objs, s')) (hs : SeenBelow s n) :
    SeenBelow s' (n + objs.length) ∧
    ∀ P Q : List Obj, P.length = n → marshalOne fuel (P ++ objs ++ Q) n x' = some (bs, n + objs.length) :=
  presentOne_sound G fuel s n x _ h hs

/-- entry point (`janet_marshal` with a fresh state): bytes of the graph = bytes of its presentation, no garbage in it -/
theorem presentation_exists_top (G : List Obj) (x : Val) (bs : List Nat) (x' : Val) (H : List Obj)
    (h : present G x = some (bs, x', H)) : marshalOne topFuel H 0 x' = some (bs, H.length) :=
  present_sound G x bs x' H h

/-- **Uniqueness**: two descriptions in reference-number order that marshal to the same bytes are equal — so a value graph
has exactly one such presentation (graph isomorphism is equality of presentations), and `unmarshal` returns it. -/
theorem presentation_unique (H1 H2 : List Obj) (x1 x2 : Val) (bs : List Nat) (hw1 : HeapWF H1) (hw2 : HeapWF H2)
    (hx1 : ValWF x1) (hx2 : ValWF x2) (h1 : marshalOne topFuel H1 0 x1 = some (bs, H1.length))
    (h2 : marshalOne topFuel H2 0 x2 = some (bs, H2.length)) : x1 = x2 ∧ H1 = H2 := by
  have r1 := (roundtrip_graph_top H1 hw1 x1 hx1 bs h1).2
  have r2 := (roundtrip_graph_top H2 hw2 x2 hx2 bs h2).2
  rw [r1] at r2
  simp only [Option.some.injEq, Prod.mk.injEq] at r2
  exact ⟨r2.1, r2.2.1⟩

/-- **Canonicity** (uniqueness without mentioning bytes): a description that `marshalOne` accepts, at any counter and depth
budget, is its own presentation — the seen-table marshaller run on it with addresses = reference numbers writes the same
bytes and returns it unchanged; so `present` is a projection onto the accepted descriptions, and the presentation of a
presentation is itself. -/
theorem presentation_canonical (H : List Obj) (fuel : Nat) (s : Seen) (n : Nat) (x : Val) (bs : List Nat) (n' : Nat)
    (h : marshalOne fuel H n x = some (bs, n')) (hn : n ≤ H.length) (hs : SeenId s n) :
    ∃ s', presentOne fuel H s n x = some (bs, x, slice H n n', s') ∧ SeenId s' n' :=
  let ⟨s', p, q, _, _⟩ := presentOne_fixed H fuel s n x bs n' h hn hs
  ⟨s', p, q⟩

theorem presentation_idempotent (G : List Obj) (x : Val) (bs : List Nat) (x' : Val) (H : List Obj)
    (h : present G x = some (bs, x', H)) : present H x' = some (bs, x', H) :=
  present_fixed H x' bs (present_sound G x bs x' H h)

example : present exHeap (.ref 0) = some ([209, 4, 1, 218, 0, 210, 2, 1, 129, 44, 218, 0, 218, 1], .ref 0, exHeap) := by
  decide +kernel

/-- the presentation of a graph round-trips: `unmarshal (marshal g)` is the presentation of `g` -/
theorem presentation_roundtrip (G : List Obj) (x : Val) (bs : List Nat) (x' : Val) (H : List Obj)
    (h : present G x = some (bs, x', H)) (hw : HeapWF H) (hx : ValWF x') : unmarshal bs = some (x', H, bs.length) :=
  (roundtrip_graph_top H hw x' hx bs (present_sound G x bs x' H h)).2

/-- non-vacuity: the cyclic example heap listed backwards (the bracket tuple at address 0, the array that contains itself and
the tuple twice at address 1) is presented as `exHeap`, with the bytes janet writes -/
example : present [.tuple 1 [.int 300, .ref 1], .array false [.int 1, .ref 1, .ref 0, .ref 0]] (.ref 1)
    = some ([209, 4, 1, 218, 0, 210, 2, 1, 129, 44, 218, 0, 218, 1], .ref 0, exHeap) := by
  decide +kernel

/-- **The code-object model extends the data model**: on a heap without functions, fibers or abstracts, `marshalC` of
Code.lean computes exactly what `marshalOne` of Graph.lean computes (bytes and reference counter), at every depth budget -
so `roundtrip_graph` and `roundtrip_code` talk about the same marshaller on data. -/
theorem code_model_extends_data_model (H : List Obj) (fuel : Nat) (x : Val) (n : Nat) :
    marshalC fuel (dataHeap H) x ⟨n, 0, 0⟩ = (marshalOne fuel H n x).map fun p => (p.1, ⟨p.2, 0, 0⟩) :=
  marshalC_data H fuel x n

example : marshalC topFuel (dataHeap exHeap) (.ref 0) ⟨0, 0, 0⟩ = some ([209, 4, 1, 218, 0, 210, 2, 1, 129, 44, 218, 0, 218, 1], ⟨2, 0, 0⟩) := by
  decide +kernel


end JanetModel.Props.C09
