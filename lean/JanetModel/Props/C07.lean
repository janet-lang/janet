import JanetModel.Wait.Step
import JanetModel.Wait.Mono
import JanetModel.Wait.Epoch
import JanetModel.Wait.EpochCount
import JanetModel.Wait.RoundRN
import JanetModel.Gen.Wait
import JanetModel.Gen.WaitCb
import JanetModel.Gen.WaitBoot
import JanetModel.Wait.GatherRef
/-
C07 — a suspended fiber is resumed only by what it is currently waiting for.

All theorems are about the model `JanetModel.Wait` (Wait/Model.lean), for ALL sequences of steps (`Op`): actions of any
fiber, of the kernel (stream readiness, process exit), of the clock, and the loop phases, in any order.
The model is parameterised by `Cfg` = which generation / status checks the C source has at which site; the check
regenerates `Gen.Wait.cfg` from the current source and kernel-checks `Gen.Wait.cfg.allChecked = true` separately
(false for a tree without `popSkipsStale` and `closeChecks`: see the witnesses below).
-/
namespace JanetModel.Props.C07
open JanetModel.Wait

/-- Every run-queue task that is executed for a fiber carries the fiber's current generation
(`expected_sched_id = sched_id`), and it was created by the completion / timeout / cancel of a registration whose recorded
generation was the fiber's generation at that moment (`regGen + 1 = expected`): between the creation of that registration
and this resume the fiber was scheduled exactly once — by this task.  (That the registration belongs to the wait the fiber is
currently in needs the bump at resume as well: `resumed_only_by_registration_of_current_wait`.) -/
theorem resume_only_by_current_wait (cfg : Cfg) (hc : cfg.allChecked = true) (ops : List Op) :
    ∀ e ∈ (run cfg init ops).log, e.task.expected = e.schedIdAtRun ∧ e.task.regGen + 1 = e.task.expected := by
  intro e he
  have := (run_inv cfg hc ops init_inv).l e he
  exact ⟨this.cur, this.gen⟩

/-- the generation counter never decreases, whatever happens and whichever checks are present -/
theorem generation_monotone (cfg : Cfg) (w : World) (ops : List Op) (f : Nat) :
    (w.fibers f).schedId ≤ ((run cfg w ops).fibers f).schedId := run_Mono cfg ops w f

/-- the generation counter strictly increases at every schedule (unless the CANCELED guard swallows the call entirely) -/
theorem generation_strictly_increases (cfg : Cfg) (hb : cfg.scheduleBumps = true) (w : World) (f : Nat) (v : Val) (e : Bool)
    (rg nb : Nat) (src : Src) (re : Nat) :
    schedule cfg w f v e rg nb src re = w ∨ ((schedule cfg w f v e rg nb src re).fibers f).schedId = (w.fibers f).schedId + 1 := by
  rcases schedule_bumps cfg hb w f v e rg nb src re with h | h
  · exact Or.inl h
  · exact Or.inr h.1

/-- registrations store the generation current at their creation -/
theorem registration_records_generation (cfg : Cfg) (w : World) (f c k d : Nat) (ch : Bool) (kind : TKind) :
    ((w.chans c).items = [] → ∃ p ∈ ((chanPop cfg w f c ch).1.chans c).rp,
        p.fiber = f ∧ p.schedId = (w.fibers f).schedId ∧ p.epoch = (w.fibers f).epoch) ∧
    (∃ t ∈ (addTimer cfg w f kind d).timers, t.fiber = f ∧ t.schedId = (w.fibers f).schedId ∧ t.start = w.now ∧
        t.epoch = (w.fibers f).epoch) ∧
    ((procWait w f k).procs k = some (f, (w.fibers f).schedId) ∧ (procWait w f k).procEpoch k = (w.fibers f).epoch) := by
  refine ⟨?_, ?_, ?_⟩
  · intro hi
    refine ⟨{ fiber := f, schedId := (w.fibers f).schedId, choice := ch, epoch := (w.fibers f).epoch }, ?_, rfl, rfl, rfl⟩
    simp [chanPop, hi]
  · refine ⟨_, (mem_insertTimer _ _ _).mpr (Or.inl rfl), rfl, rfl, rfl, rfl⟩
  · simp [procWait]

/-- once a registration of generation `g` is stale it stays stale: forever, under any configuration -/
theorem stale_forever (cfg : Cfg) (w : World) (f g : Nat) (h : g < (w.fibers f).schedId) (ops : List Op) :
    live (run cfg w ops) f g = false := by
  have := run_Mono cfg ops w f
  simp [live]
  omega

/-- give: a stale reader at the head of `read_pending` is equivalent to its absence -/
theorem stale_reader_skipped (cfg : Cfg) (hps : cfg.pushSkipsStale = true) (w : World) (f c : Nat) (x : Val) (ch : Bool) (e : Pending)
    (rest : List Pending) (hrp : (w.chans c).rp = e :: rest) (hst : live w e.fiber e.schedId = false) :
    chanPush cfg w f c x ch = chanPush cfg { w with chans := set w.chans c { (w.chans c) with rp := rest } } f c x ch := by
  unfold chanPush
  simp only [hps, hrp, popLive_stale_head w e rest hst, set_same, set_set]
  rw [popLive_congr true { w with chans := set w.chans c { (w.chans c) with rp := rest } } w rfl]

/-- take: a stale writer at the head of `write_pending` is equivalent to its absence -/
theorem stale_writer_skipped (cfg : Cfg) (hpp : cfg.popSkipsStale = true) (w : World) (c : Nat) (items : List Val) (e : Pending)
    (rest : List Pending) (hwp : (w.chans c).wp = e :: rest) (hst : live w e.fiber e.schedId = false) :
    chanPopWake cfg w c items = chanPopWake cfg { w with chans := set w.chans c { (w.chans c) with wp := rest } } c items := by
  unfold chanPopWake
  simp only [hpp, hwp, popLive_stale_head w e rest hst, set_same, set_set]
  rw [popLive_congr true { w with chans := set w.chans c { (w.chans c) with wp := rest } } w rfl]

theorem stale_entry_not_closed (cfg : Cfg) (hcl : cfg.closeChecks = true) (w : World) (c : Nat) (e : Pending)
    (hst : live w e.fiber e.schedId = false) : closeOne cfg c w e = w := by
  simp [closeOne, hcl, hst]

theorem stale_timer_inert (cfg : Cfg) (htc : cfg.timerCheck = true) (w : World) (tm : Timer) (hk : ∀ b, tm.kind ≠ .deadline b)
    (hst : live w tm.fiber tm.schedId = false) : fireTimer cfg w tm = w := by
  unfold fireTimer
  cases hkind : tm.kind with
  | deadline b => exact absurd hkind (hk b)
  | timeout => simp [htc, hst]
  | sleep => simp [htc, hst]

theorem stale_procwait_inert (cfg : Cfg) (hpe : cfg.procErrCheck = true) (hpc : cfg.procCheck = true) (w : World) (k st f g : Nat)
    (hp : w.procs k = some (f, g)) (hst : live w f g = false) :
    (procExit cfg w k st).fibers = w.fibers ∧ (procExit cfg w k st).queue = w.queue := by
  unfold procExit
  simp only [hp, hpe, hpc, hst, Bool.not_true, Bool.or_false, Bool.false_eq_true, if_false, ite_self, and_self]

/-- readiness of a stream whose fiber has no listener does nothing, whatever the configuration -/
theorem detached_listener_inert (cfg : Cfg) (w : World) (s : Nat) (r : Bool) (v : Val) (e : Bool) (f : Nat)
    (hs : (if r then (w.streams s).readFiber else (w.streams s).writeFiber) = some f) (hl : (w.fibers f).listener = none) :
    streamEvent cfg w s r v e = w := by
  simp [streamEvent, hs, hl]

/-- A stale channel entry, timer, process-wait record or detached listener changes nothing:
(1) give: a stale reader at the head of `read_pending` is equivalent to its absence;
(2) take: a stale writer at the head of `write_pending` is equivalent to its absence;
(3) close: a stale entry is skipped;  (4) an expired stale sleep / timeout timer does nothing;
(5) exit of a process whose waiter moved on changes no fiber and no task;
(6) readiness of a stream whose fiber has no listener does nothing (that a resumed fiber has none is
    `listener_detached_on_resume`). -/
theorem stale_inert (cfg : Cfg) (hc : cfg.allChecked = true) (w : World) :
    (∀ f c x ch e rest, (w.chans c).rp = e :: rest → live w e.fiber e.schedId = false →
        chanPush cfg w f c x ch = chanPush cfg { w with chans := set w.chans c { (w.chans c) with rp := rest } } f c x ch) ∧
    (∀ c items e rest, (w.chans c).wp = e :: rest → live w e.fiber e.schedId = false →
        chanPopWake cfg w c items = chanPopWake cfg { w with chans := set w.chans c { (w.chans c) with wp := rest } } c items) ∧
    (∀ c e, live w e.fiber e.schedId = false → closeOne cfg c w e = w) ∧
    (∀ tm : Timer, (∀ b, tm.kind ≠ .deadline b) → live w tm.fiber tm.schedId = false → fireTimer cfg w tm = w) ∧
    (∀ k st f g, w.procs k = some (f, g) → live w f g = false →
        (procExit cfg w k st).fibers = w.fibers ∧ (procExit cfg w k st).queue = w.queue) ∧
    (∀ s r v e f, (if r then (w.streams s).readFiber else (w.streams s).writeFiber) = some f → (w.fibers f).listener = none →
        streamEvent cfg w s r v e = w) := by
  have h := Cfg.checked hc
  exact ⟨fun f c x ch e rest => stale_reader_skipped cfg h.pushSkipsStale w f c x ch e rest,
    fun c items e rest => stale_writer_skipped cfg h.popSkipsStale w c items e rest,
    fun c e => stale_entry_not_closed cfg h.closeChecks w c e, fun tm => stale_timer_inert cfg h.timerCheck w tm,
    fun k st f g => stale_procwait_inert cfg h.procErrCheck h.procCheck w k st f g, detached_listener_inert cfg w⟩

/-- listeners are detached when their fiber is resumed by anything (janet_fiber_did_resume) -/
theorem listener_detached_on_resume (cfg : Cfg) (hc : cfg.allChecked = true) (w : World) (t : Task) (q : List Task)
    (hq : w.queue = t :: q) (hcur : t.expected = (w.fibers t.fiber).schedId) :
    ((runTask cfg w).fibers t.fiber).listener = none := by
  have hrf := (Cfg.checked hc).runFilter
  have hdr := (Cfg.checked hc).didResumeDetaches
  have hdf := (Cfg.checked hc).didResumeFirst
  simp [runTask, hq, hrf, hdr, hdf, hcur, asyncEnd_listener]

/-- an item offered on a channel is not consumed by waiters that are no longer there: if every pending reader is stale,
the give behaves as on a channel without readers — the item is appended to `items`, nobody is scheduled, no fiber changes. -/
theorem item_not_consumed_by_absent_waiter (cfg : Cfg) (hc : cfg.allChecked = true) (w : World) (f c : Nat) (x : Val) (ch : Bool)
    (hall : ∀ e ∈ (w.chans c).rp, live w e.fiber e.schedId = false) :
    (((chanPush cfg w f c x ch).1.chans c).items = (w.chans c).items ++ [x]) ∧
    (chanPush cfg w f c x ch).1.queue = w.queue ∧ (chanPush cfg w f c x ch).1.fibers = w.fibers := by
  have hps := (Cfg.checked hc).pushSkipsStale
  unfold chanPush
  rw [hps, popLive_all_stale w _ hall]
  simp only
  by_cases hlen : ((w.chans c).items ++ [x]).length > (w.chans c).limit
  · rw [if_pos hlen]; simp
  · rw [if_neg hlen]; simp

/-- the same for the event the loop pushes on a supervisor channel when a supervised task ends (`ev/go f v chan`): it is an item
on a channel — if every pending reader of that channel has left, the event is queued, nobody is scheduled, no fiber changes and (mode 2)
nobody is registered as a pending writer either. -/
theorem supervisor_event_not_consumed_by_absent_waiter (cfg : Cfg) (hc : cfg.allChecked = true) (w : World) (c : Nat) (x : Val)
    (hopen : (w.chans c).closed = false) (hall : ∀ e ∈ (w.chans c).rp, live w e.fiber e.schedId = false) :
    ((superPush cfg w c x).chans c).items = (w.chans c).items ++ [x] ∧ ((superPush cfg w c x).chans c).wp = (w.chans c).wp ∧
    (superPush cfg w c x).queue = w.queue ∧ (superPush cfg w c x).fibers = w.fibers := by
  have hps := (Cfg.checked hc).pushSkipsStale
  unfold superPush
  rw [hps, popLive_all_stale w _ hall]
  simp [hopen]

/-- a LIVE reader of the supervisor channel does receive the event -/
example :
    ((run Cfg.full init [.spawn 1, .run, .take 1 0 false, .superPush 0 (.sup 0 2), .run]).log.map
      (fun e => (e.fiber, e.task.value))) = [(1, .sup 0 2), (1, .nil)] := by decide

/-- ev/sleep never returns early: a task created by the timer of `(ev/sleep d)` started at tick `s` is executed at a tick
`≥ s + round(1000·d)` (d given in microseconds; ticks are the code's own millisecond granularity). -/
theorem sleep_not_early (cfg : Cfg) (hc : cfg.allChecked = true) (ops : List Op) :
    ∀ e ∈ (run cfg init ops).log, ∀ s d, e.task.src = .sleep s d → s + (d + 500) / 1000 ≤ e.tick := by
  intro e he s d hs
  exact ((run_inv cfg hc ops init_inv).l e he).sl s d hs

/-- a deadline fires only while the guarded body is resumable, and touches only the task it guards -/
theorem deadline_scoped (cfg : Cfg) (hc : cfg.allChecked = true) (w : World) (tm : Timer) (b : Nat) (hk : tm.kind = .deadline b) :
    (w.bodies b = false → fireTimer cfg w tm = w) ∧
    (∀ f, f ≠ tm.fiber → (fireTimer cfg w tm).fibers f = w.fibers f ∧
        ∀ t ∈ (fireTimer cfg w tm).queue, t.fiber = f → t ∈ w.queue) := by
  have hdc := (Cfg.checked hc).deadlineChecks
  refine ⟨?_, ?_⟩
  · intro hb
    simp [fireTimer, hk, hdc, hb]
  · intro f hf
    unfold fireTimer
    rw [hk]
    simp only
    split
    · have h := Callback.schedule_other cfg w tm.fiber f hf (.err 1) true (w.fibers tm.fiber).schedId tm.when .deadline (w.fibers tm.fiber).epoch
      refine ⟨h.1, fun t ht htf => ?_⟩
      have : t ∈ Callback.tasksOf w f := h.2 ▸ List.mem_filter.mpr ⟨ht, by simp [htf]⟩
      exact (List.mem_filter.mp this).1
    · exact ⟨rfl, fun t ht _ => ht⟩

theorem popLive_of_any_live (w : World) (l : List Pending) (h : l.any (fun e => live w e.fiber e.schedId) = true) :
    ∃ e rest, popLive true w l = (some e, rest) :=
  JanetModel.Wait.popLive_of_any_live w l h

/-- a select whose give clause is judged "ready" (room in the channel, or a LIVE pending reader) completes at once and
registers nothing: the fiber does not stay behind as a pending writer.  (With `hasReaderChecks = false` — any queued reader
entry counts — this fails: see `select_give_on_stale_readers_registers_when_unchecked`.) -/
theorem immediate_select_give_registers_nothing (cfg : Cfg) (hc : cfg.allChecked = true) (w : World) (f c : Nat) (x : Val)
    (hready : selectGiveReady cfg w c = true) :
    (chanPush cfg w f c x true).2 = false ∧ ((chanPush cfg w f c x true).1.chans c).wp = (w.chans c).wp := by
  have hps : cfg.pushSkipsStale = true := (Cfg.checked hc).pushSkipsStale
  have hhr := (Cfg.checked hc).hasReaderChecks
  unfold chanPush
  rw [hps]
  cases hp : popLive true w (w.chans c).rp with
  | mk o rest =>
    cases o with
    | some r =>
      simp only
      refine ⟨trivial, ?_⟩
      unfold schedule
      split <;> simp
    | none =>
      simp only
      have hroom : (w.chans c).items.length < (w.chans c).limit := by
        simp only [selectGiveReady, hasReader, hhr, if_true, Bool.or_eq_true, decide_eq_true_eq] at hready
        rcases hready with h | h
        · exact h
        · obtain ⟨e, rest', he⟩ := popLive_of_any_live w _ h
          rw [he] at hp
          cases hp
      have : ¬ (((w.chans c).items ++ [x]).length > (w.chans c).limit) := by
        simp only [List.length_append, List.length_singleton]; omega
      rw [if_neg this]
      simp

/-- witness for a tree whose `janet_channel_has_reader` does not test staleness: channel 0 (unbuffered) holds one abandoned
reader entry; the select give of fiber 2 is judged ready, "completes", and yet fiber 2 stays registered as pending writer -/
theorem select_give_on_stale_readers_registers_when_unchecked :
    let cfg := { Cfg.full with hasReaderChecks := false }
    let w := run cfg init [.take 1 0 true, .cancel 1 (.err 2), .run]
    selectGiveReady cfg w 0 = true ∧ (chanPush cfg w 2 0 (.kw 7) true).2 = true ∧
      ((chanPush cfg w 2 0 (.kw 7) true).1.chans 0).wp.length = 1 := by decide

/-- once the body guarded by a deadline has finished (`bodyDone`, i.e. its fiber reached
a dead / error status), the deadline is inert at EVERY later moment of EVERY continuation: firing it changes nothing.
That a finished fiber never becomes resumable again is the status monotonicity of fibers (Props/C05 `status_monotone`,
`finished_is_forever`); in this model it is part of the step relation (`bodyStart` on a finished body is a no-op). -/
theorem deadline_inert_after_body_finished (cfg : Cfg) (hc : cfg.allChecked = true) (ops1 ops2 : List Op) (b : Nat) (tm : Timer)
    (hk : tm.kind = .deadline b) (hdone : (run cfg init ops1).bodyDead b = true) :
    (run cfg (run cfg init ops1) ops2).bodies b = false ∧
    fireTimer cfg (run cfg (run cfg init ops1) ops2) tm = run cfg (run cfg init ops1) ops2 := by
  have h1 := (run_body cfg ops1 init init_BInv).1
  obtain ⟨h2, h3⟩ := run_body cfg ops2 _ h1
  have hb := h2 b (h3 b hdone)
  exact ⟨hb, (deadline_scoped cfg hc _ tm b hk).1 hb⟩

/-- the end of a with-deadline body marks it finished -/
theorem body_done_marks (cfg : Cfg) (w : World) (b : Nat) : (step cfg w (.bodyDone b)).bodyDead b = true := by
  simp [step]

/-- sleep_not_early for the exact C expression `ts += (int64_t) round(delta * 1000)` on doubles.  `(ev/sleep δ)` with the
double `δ` sets its timer `cMs fl δ` ms ahead (`sleepOp`: source `.sleep s (1000 * (cMs fl δ).toNat)`), where `fl` is the rounding of the double product; assuming only that
`fl` is monotone and leaves representable half-integers alone, the sleeper is resumed at a tick
`≥ start + round(1000·δ)` for the REAL value of δ — in particular `≥ start + ⌊1000·δ⌋`: no whole millisecond is lost. -/
theorem sleep_not_early_ieee (fl : ℚ → ℚ) (hmono : Monotone fl)
    (hfix : ∀ k : ℤ, |k| ≤ 2 ^ 53 → fl ((k : ℚ) / 2) = (k : ℚ) / 2)
    (δ : ℚ) (hrange : |2 * roundHalfUp (δ * 1000) - 1| ≤ 2 ^ 53)
    (cfg : Cfg) (hc : cfg.allChecked = true) (ops : List Op) :
    ∀ e ∈ (run cfg init ops).log, ∀ s, e.task.src = .sleep s (1000 * (cMs fl δ).toNat) →
      (s : ℤ) + roundHalfUp (δ * 1000) ≤ e.tick ∧ (s : ℤ) + ⌊δ * 1000⌋ ≤ e.tick := by
  intro e he s hs
  have h := sleep_not_early cfg hc ops e he s _ hs
  have hm : (1000 * (cMs fl δ).toNat + 500) / 1000 = (cMs fl δ).toNat := by omega
  rw [hm] at h
  have h1 := cMs_ge_exact fl hmono hfix δ hrange
  have h2 := cMs_ge_floor fl hmono hfix δ hrange
  have h3 : cMs fl δ ≤ ((cMs fl δ).toNat : ℤ) := Int.self_le_toNat _
  have h4 : ((s + (cMs fl δ).toNat : ℕ) : ℤ) ≤ (e.tick : ℤ) := by exact_mod_cast h
  push_cast at h4
  constructor <;> omega

/-- literal durations with microsecond digits: the double computation is at least the executable model's `deltaMs` -/
theorem cMs_ge_model (fl : ℚ → ℚ) (hmono : Monotone fl)
    (hfix : ∀ k : ℤ, |k| ≤ 2 ^ 53 → fl ((k : ℚ) / 2) = (k : ℚ) / 2) (us : ℕ) (hus : us ≤ 2 ^ 52) (cfg : Cfg)
    (hr : cfg.sleepRounds = true) : ((deltaMs cfg us : ℕ) : ℤ) ≤ cMs fl ((us : ℚ) / 1000000) := by
  have hrange : |2 * roundHalfUp ((us : ℚ) / 1000000 * 1000) - 1| ≤ 2 ^ 53 := by
    rw [roundHalfUp_us, abs_le]
    have : (us + 500) / 1000 ≤ 2 ^ 52 := by omega
    constructor <;> push_cast <;> omega
  have := cMs_ge_exact fl hmono hfix _ hrange
  rw [roundHalfUp_us] at this
  simpa [deltaMs, hr] using this

/-- sleep_not_early on doubles with NO assumption about the rounding beyond the IEEE-754 definition of round-to-nearest:
`fl x` is a binary64 number nearest to `x` (any tie rule).  Monotonicity and exactness on representable half-integers — the two
hypotheses of `sleep_not_early_ieee` — are proved from that (`Wait/RoundRN.lean`: `IsRoundNearest.monotone`, `.fixes`,
`halfInt_isBinary64`), and such an `fl` exists (`exists_roundNearest`). -/
theorem sleep_not_early_rn (fl : ℚ → ℚ) (hfl : IsRoundNearest fl)
    (δ : ℚ) (hrange : |2 * roundHalfUp (δ * 1000) - 1| ≤ 2 ^ 53)
    (cfg : Cfg) (hc : cfg.allChecked = true) (ops : List Op) :
    ∀ e ∈ (run cfg init ops).log, ∀ s, e.task.src = .sleep s (1000 * (cMs fl δ).toNat) →
      (s : ℤ) + roundHalfUp (δ * 1000) ≤ e.tick ∧ (s : ℤ) + ⌊δ * 1000⌋ ≤ e.tick :=
  sleep_not_early_ieee fl hfl.monotone (fun k hk => hfl.fixes (halfInt_isBinary64 k hk)) δ hrange cfg hc ops

/-- the hypothesis of `sleep_not_early_rn` is satisfiable -/
theorem round_nearest_exists : ∃ fl : ℚ → ℚ, IsRoundNearest fl := exists_roundNearest

/-- the configuration of the tree e691f18: take does not skip stale writers, close does not compare generations (the witnesses
below are replayed on the implementation by the check) -/
def cfgPinned : Cfg := { Cfg.full with popSkipsStale := false, closeChecks := false }

/-- fiber 1 gives on channel 0 (blocks), is cancelled, resumes, blocks taking from channel 1; fiber 2 takes from channel 0 -/
def witnessTake : List Op :=
  [.give 1 0 (.kw 7) false, .cancel 1 (.err 2), .run, .take 1 1 false, .take 2 0 false, .run]

/-- Without the check in `janet_channel_pop_with_lock` the invariant fails: fiber 1, blocked in `(ev/take ch1)`, is resumed
by its ABANDONED give on channel 0 (registration of generation 0, fiber already at generation 1) and receives channel 0. -/
theorem stale_writer_resumed_when_unchecked :
    ∃ e ∈ (run cfgPinned init witnessTake).log, e.fiber = 1 ∧ e.task.value = .chan 0 ∧ e.task.src = .chanWrite 0 ∧
      e.task.regGen + 1 ≠ e.task.expected := by
  decide

/-- with the check the same history resumes fiber 1 only for the cancellation -/
example : ∀ e ∈ (run Cfg.full init witnessTake).log, e.fiber = 1 → e.task.src = .cancel := by decide

/-- fiber 1 takes from channel 0 (blocks), is cancelled, resumes, blocks taking from channel 1; then channel 0 is closed -/
def witnessClose : List Op :=
  [.take 1 0 false, .cancel 1 (.err 2), .run, .take 1 1 false, .close 0, .run]

theorem stale_reader_resumed_by_close_when_unchecked :
    ∃ e ∈ (run cfgPinned init witnessClose).log, e.fiber = 1 ∧ e.task.value = .nil ∧ e.task.src = .chanClose 0 ∧
      e.task.regGen + 1 ≠ e.task.expected := by
  decide

example : ∀ e ∈ (run Cfg.full init witnessClose).log, e.fiber = 1 → e.task.src = .cancel := by decide

/-- Every task that is executed for a fiber stems from a registration (pending channel entry, sleep / timeout timer,
process-wait record, stream listener) or request (cancel, spawn, deadline) that was made in the fiber's CURRENT epoch — after the
previous resume of that fiber — for all step sequences.  `epoch` counts the resumes of the fiber (ghost); each registration stores the
epoch of its fiber at its creation (`registration_records_generation`), each task inherits it (`regEpoch`).  Hence nothing a fiber
registered in a wait it has left — cancelled, timed out, satisfied through another select clause, or aborted by a schedule the fiber
issued on itself while running — ever resumes it again or supplies the value of a later wait.  Needs the generation bump at resume
(`resumeBumps`); without it `self_scheduled_wait_stays_live_without_resume_bump` is a counterexample. -/
theorem resumed_only_by_registration_of_current_wait (cfg : Cfg) (hc : cfg.allChecked = true) (ops : List Op) :
    ∀ e ∈ (run cfg init ops).log, e.task.regEpoch = e.epochAtRun :=
  fun e he => (run_einv cfg hc ops init_EInv).log e he

/-- the ghost epoch is what its name says — under ANY configuration and step sequence `epoch f` is the number of events of fiber `f`
in the log (resumes so far), and each event's `epochAtRun` is the number of earlier events of its fiber (Wait/EpochCount.lean) -/
theorem epoch_counts_resumes (cfg : Cfg) (ops : List Op) :
    (∀ f, ((run cfg init ops).fibers f).epoch = resumesOf f (run cfg init ops).log) ∧ LogOk (run cfg init ops).log :=
  ⟨(run_cinv cfg ops init_CInv).ep, (run_cinv cfg ops init_CInv).log⟩

/-- the two together, without ghost vocabulary in the conclusion: split the log (newest first) at any executed task `e`; the
registration or request `e` stems from was made when its fiber had been resumed exactly as often as it had been before `e` ran —
that is, after the fiber's previous resume and before this one. -/
theorem registration_made_since_previous_resume (cfg : Cfg) (hc : cfg.allChecked = true) (ops : List Op)
    (pre : List Event) (e : Event) (rest : List Event) (hsplit : (run cfg init ops).log = pre ++ e :: rest) :
    e.task.regEpoch = resumesOf e.fiber rest := by
  have h1 := resumed_only_by_registration_of_current_wait cfg hc ops e (by rw [hsplit]; simp)
  have h2 : LogOk (pre ++ e :: rest) := by rw [← hsplit]; exact (epoch_counts_resumes cfg ops).2
  rw [h1]; exact h2.at

/-- The records behind `resumed_only_by_registration_of_current_wait`: in every reachable world, a pending entry / timer / process-wait record whose generation is still
the fiber's current one was made in the fiber's current epoch, and so was any listener that is still attached. -/
theorem live_registration_is_of_current_epoch (cfg : Cfg) (hc : cfg.allChecked = true) (ops : List Op) :
    let w := run cfg init ops
    (∀ c, ∀ p ∈ (w.chans c).rp ++ (w.chans c).wp, live w p.fiber p.schedId = true → p.epoch = (w.fibers p.fiber).epoch) ∧
    (∀ tmr ∈ w.timers, live w tmr.fiber tmr.schedId = true → tmr.epoch = (w.fibers tmr.fiber).epoch) ∧
    (∀ k f g, w.procs k = some (f, g) → live w f g = true → w.procEpoch k = (w.fibers f).epoch) ∧
    (∀ k f g, w.thr k = some (f, g) → live w f g = true → w.thrEpoch k = (w.fibers f).epoch) ∧
    (∀ f, (w.fibers f).listener ≠ none → (w.fibers f).listenEpoch = (w.fibers f).epoch) := by
  intro w
  have h := run_einv cfg hc ops init_EInv
  have key : ∀ {f g ep}, Rec w f g ep → live w f g = true → ep = (w.fibers f).epoch := fun r hl => (h.recs _ _ _ r).2 (eq_of_live hl)
  exact ⟨fun c p hp => key ((List.mem_append.mp hp).elim .rp .wp), fun _ hto => key (.tm hto), fun _ _ _ hk => key (.pr hk),
    fun _ _ _ hk => key (.th hk), h.ls⟩

/-- the completion of a worker thread (os/shell, ev/thread, ev/do-thread) whose waiter has moved on changes no fiber and no task -/
theorem stale_thread_completion_inert (cfg : Cfg) (hc : cfg.allChecked = true) (w : World) (k f g : Nat) (v : Val) (e : Bool)
    (hk : w.thr k = some (f, g)) (hst : live w f g = false) :
    (thrDone cfg w k v e).fibers = w.fibers ∧ (thrDone cfg w k v e).queue = w.queue := by
  have htc := (Cfg.checked hc).threadCheck
  simp [thrDone, hk, htc, hst]

/-- Witness (tree without the check): fiber 1 awaits a threaded call, is cancelled, blocks on channel 1;
without a generation test in `janet_ev_default_threaded_callback` the worker's completion resumes it out of that take. -/
theorem abandoned_threaded_await_resumes_when_unchecked :
    ∃ e ∈ (run { Cfg.full with threadCheck := false } init
            [.spawn 1, .run, .thrWait 1 0, .cancel 1 (.err 5), .run, .take 1 1 false, .thrDone 0 (.int 0) false, .run]).log,
      e.fiber = 1 ∧ e.task.src = .thread 0 ∧ e.task.value = .int 0 ∧ e.task.regGen + 1 ≠ e.task.expected ∧
      e.task.regEpoch ≠ e.epochAtRun := by
  decide

example : ∀ e ∈ (run Cfg.full init
            [.spawn 1, .run, .thrWait 1 0, .cancel 1 (.err 5), .run, .take 1 1 false, .thrDone 0 (.int 0) false, .run]).log,
      e.fiber = 1 → e.task.src = .spawn ∨ e.task.src = .cancel := by decide

/-- a live threaded await does get its result -/
example : ((run Cfg.full init [.spawn 1, .run, .thrWait 1 0, .thrDone 0 (.int 0) false, .run]).log.map
      (fun e => (e.fiber, e.task.src, e.task.value))) = [(1, .thread 0, .int 0), (1, .spawn, .nil)] := by decide

/-- stream completions, in the property's terms (restates `live_registration_is_of_current_epoch` (5) and `stale_inert` (6)): in every reachable world a fiber that has
been resumed since it attached a listener has no listener any more (a surviving listener is of the current epoch), and readiness of a
stream whose registered fiber has no listener changes NOTHING — no fiber, no queue entry, no stream slot: later activity on the
abandoned stream neither resumes the fiber nor alters what it receives from its next wait. -/
theorem abandoned_stream_activity_inert (cfg : Cfg) (hc : cfg.allChecked = true) (ops : List Op) (f s : Nat) (r : Bool) (v : Val) (e : Bool) :
    let w := run cfg init ops
    ((w.fibers f).listenEpoch ≠ (w.fibers f).epoch → (w.fibers f).listener = none) ∧
    ((if r then (w.streams s).readFiber else (w.streams s).writeFiber) = some f → (w.fibers f).listener = none →
        streamEvent cfg w s r v e = w) := by
  intro w
  refine ⟨?_, ?_⟩
  · intro hne
    by_cases hl : (w.fibers f).listener = none
    · exact hl
    · exact absurd ((run_einv cfg hc ops init_EInv).ls f hl) hne
  · exact detached_listener_inert cfg w s r v e f

/-- `(ev/read s n buf timeout)`, `(ev/write s data timeout)`, `(net/accept s timeout)`: two wake-up sources, the stream listener
and the timeout timer (`janet_addtimeout`), both registered in the same generation.  Whichever fires first disarms the other:
(1) the stream completes first — the timer of that wait, found later in the timer phase, does nothing;
(2) the timeout fires first and its task runs (the queue is taken empty so that this task is the one the run phase executes) — the
    fiber no longer listens, and any later readiness of the stream does nothing. -/
theorem timed_stream_wait_sources_disarm_each_other (cfg : Cfg) (hc : cfg.allChecked = true) (w : World) (f s : Nat) (r : Bool)
    (tm : Timer) (hk : tm.kind = .timeout) (hf : tm.fiber = f) (hlive : tm.schedId = (w.fibers f).schedId)
    (hl : (w.fibers f).listener = some (s, r))
    (hs : (if r then (w.streams s).readFiber else (w.streams s).writeFiber) = some f) (hnc : (w.fibers f).canceled = false) :
    (∀ v e, fireTimer cfg (streamEvent cfg w s r v e) tm = streamEvent cfg w s r v e) ∧
    (w.queue = [] →
      ((runTask cfg (fireTimer cfg w tm)).fibers f).listener = none ∧
      ∀ s' r' v e, (if r' then ((runTask cfg (fireTimer cfg w tm)).streams s').readFiber
                     else ((runTask cfg (fireTimer cfg w tm)).streams s').writeFiber) = some f →
        streamEvent cfg (runTask cfg (fireTimer cfg w tm)) s' r' v e = runTask cfg (fireTimer cfg w tm)) := by
  have hb : cfg.scheduleBumps = true := (Cfg.checked hc).scheduleBumps
  have htc : cfg.timerCheck = true := (Cfg.checked hc).timerCheck
  refine ⟨?_, ?_⟩
  · intro v e
    apply stale_timer_inert cfg htc _ tm (by intro b hb'; rw [hk] at hb'; cases hb')
    -- after the completion the fiber's generation has moved on
    have hse : streamEvent cfg w s r v e =
        asyncEnd (schedule cfg w f v e (w.fibers f).schedId w.now (.stream s) (w.fibers f).listenEpoch) f := by
      simp [streamEvent, hs, hl]
    rw [hse, hf]
    have hsid := (asyncEnd_edit cfg (schedule cfg w f v e (w.fibers f).schedId w.now (.stream s) (w.fibers f).listenEpoch) f).sid f
    have hbump := (schedule_live cfg hb w f v e (w.fibers f).schedId w.now (.stream s) (w.fibers f).listenEpoch hnc).1
    simp only [live, hsid, hbump, hlive]
    simp
  · intro hq
    have hft : fireTimer cfg w tm = schedule cfg w f (.err 0) true tm.schedId tm.when .timeout tm.epoch := by
      unfold fireTimer
      rw [hk]
      simp [htc, live, hf, hlive]
    obtain ⟨hbump, hqq⟩ := schedule_live cfg hb w f (.err 0) true tm.schedId tm.when .timeout tm.epoch hnc
    have hdet := listener_detached_on_resume cfg hc (fireTimer cfg w tm)
      { fiber := f, value := .err 0, isErr := true, expected := (w.fibers f).schedId + 1, regGen := tm.schedId,
        notBefore := tm.when, src := .timeout, regEpoch := tm.epoch } []
      (by rw [hft, hqq, hq]; rfl) (by rw [hft]; exact hbump.symm)
    refine ⟨hdet, ?_⟩
    intro s' r' v e hs'
    exact detached_listener_inert cfg _ s' r' v e f hs' hdet

/-- the hypotheses of `timed_stream_wait_sources_disarm_each_other` are met right after `(ev/read s n buf timeout)` suspended -/
example :
    let w := run Cfg.full init [.spawn 1, .run, .timeout 1 5000, .asyncStart 1 0 true]
    (w.fibers 1).listener = some (0, true) ∧ (w.streams 0).readFiber = some 1 ∧ (w.fibers 1).canceled = false ∧ w.queue = [] ∧
    (w.timers.map (fun t => (t.fiber, t.kind, t.schedId == (w.fibers 1).schedId))) = [(1, .timeout, true)] := by decide

/-- a resume detaches the listener whatever the depth of the child-fiber chain below the task (try / defer / coro / with-deadline
bodies that stay suspended across the wait) -/
theorem listener_detached_on_resume_any_depth (cfg : Cfg) (hc : cfg.allChecked = true) (w : World) (t : Task) (q : List Task) (d : Nat)
    (hq : w.queue = t :: q) (hcur : t.expected = (w.fibers t.fiber).schedId) (_hd : (w.fibers t.fiber).depth = d) :
    ((runTask cfg w).fibers t.fiber).listener = none :=
  listener_detached_on_resume cfg hc w t q hq hcur

/-- Witness (tree without the bump at resume): fiber 1 cancels ITSELF while running, then takes from channel 0 (the
registration carries the generation of that cancel), is resumed by the cancel, and blocks taking from channel 1.  Without the bump at
resume the entry on channel 0 is still live: the give of fiber 2 on channel 0 resumes fiber 1 in its NEXT wait. -/
theorem self_scheduled_wait_stays_live_without_resume_bump :
    ∃ e ∈ (run { Cfg.full with resumeBumps := false } init
            [.spawn 1, .run, .cancel 1 (.err 5), .take 1 0 false, .run, .take 1 1 false, .give 2 0 (.kw 7) false, .run]).log,
      e.fiber = 1 ∧ e.task.src = .chanRead 0 ∧ e.task.value = .kw 7 ∧ e.task.regEpoch ≠ e.epochAtRun := by
  decide

example : ∀ e ∈ (run Cfg.full init
            [.spawn 1, .run, .cancel 1 (.err 5), .take 1 0 false, .run, .take 1 1 false, .give 2 0 (.kw 7) false, .run]).log,
      e.fiber = 1 → e.task.src = .spawn ∨ e.task.src = .cancel := by decide

/-- Witness: `janet_fiber_did_resume` after the child block.  Fiber 1 runs inside a child fiber (depth 1), reads from stream 0, is
cancelled and handles that inside the child, blocks on channel 1; the listener survived the resume and a later stream event resumes
the fiber out of its take with the stream's buffer. -/
theorem nested_listener_survives_when_did_resume_late :
    ∃ e ∈ (run { Cfg.full with didResumeFirst := false } init
            [.spawn 1, .run, .childEnter 1, .asyncStart 1 0 true, .cancel 1 (.err 5), .run, .take 1 1 false,
             .streamEvent 0 true (.buf 0) false, .run]).log,
      e.fiber = 1 ∧ e.task.src = .stream 0 ∧ e.task.regEpoch ≠ e.epochAtRun := by
  decide

example : ∀ e ∈ (run Cfg.full init
            [.spawn 1, .run, .childEnter 1, .asyncStart 1 0 true, .cancel 1 (.err 5), .run, .take 1 1 false,
             .streamEvent 0 true (.buf 0) false, .run]).log,
      e.fiber = 1 → e.task.src = .spawn ∨ e.task.src = .cancel := by decide

/-- Witness: the generation test of `janet_proc_wait_cb` guarding only the normal-result branch.  Process 0 was spawned with :x;
fiber 1 abandons its wait and blocks on channel 1; the non-zero exit then CANCELS fiber 1 in that unrelated wait. -/
theorem abandoned_x_procwait_cancels_when_err_branch_unchecked :
    ∃ e ∈ (run { Cfg.full with procErrCheck := false } init
            [.procFlag 0 true, .spawn 1, .run, .procWait 1 0, .cancel 1 (.err 5), .run, .take 1 1 false, .procExit 0 7, .run]).log,
      e.fiber = 1 ∧ e.task.src = .proc 0 ∧ e.task.value = procErrVal 7 ∧ e.task.isErr = true ∧ e.task.regEpoch ≠ e.epochAtRun := by
  decide

example : ∀ e ∈ (run Cfg.full init
            [.procFlag 0 true, .spawn 1, .run, .procWait 1 0, .cancel 1 (.err 5), .run, .take 1 1 false, .procExit 0 7, .run]).log,
      e.fiber = 1 → e.task.src = .spawn ∨ e.task.src = .cancel := by decide

/-- non-vacuity of the epoch theorem: a live :x process wait does deliver its error, in epoch 1 -/
example :
    ((run Cfg.full init [.procFlag 0 true, .spawn 1, .run, .procWait 1 0, .procExit 0 7, .run]).log.map
      (fun e => (e.fiber, e.epochAtRun, e.task.regEpoch, e.task.value))) = [(1, 1, 1, procErrVal 7), (1, 0, 0, .nil)] := by decide

/- `Gen.WaitCb.callbacks` holds one case table per function of src/core/*.c with the signature `(JanetFiber *, JanetAsyncEvent)`
(ev_callback_read, ev_callback_write, net_callback_connect, net_callback_accept, filewatch's watcher_callback_read), regenerated
from the preprocessed source on every run.  An invocation `cb(fiber, e)` performs some sequence of the calls in `cb.reach e`. -/
section Callbacks
open JanetModel.Wait.Callback JanetModel.Gen.WaitCb

/-- The regenerated case tables are walked once, here: for every callback and every event the visited set is closed, every
call that can be reached is one the model knows, and on MARK and DEINIT every such call is quiet.  The callback theorems below
are read off this certificate; it fails on a tree where net_callback_connect lets MARK fall to `default:` and run its SO_ERROR
check (the source before e480e68). -/
theorem callback_tables_checked : ∀ cb ∈ callbacks, ∀ e ∈ Ev.all,
    cb.closedFor e = true ∧ ∀ a ∈ cb.reach e, a.known = true ∧ ((e = .mark ∨ e = .deinit) → a.quiet = true) := by decide

/-- the visited sets are closed -/
theorem callback_tables_closed : ∀ cb ∈ callbacks, ∀ e ∈ Ev.all, cb.closedFor e = true :=
  fun cb hcb e he => (callback_tables_checked cb hcb e he).1

theorem quiet_event_resumes_nobody (ev : Ev) (hq : ∀ cb ∈ callbacks, ∀ a ∈ cb.reach ev, a.quiet = true) :
    ∀ cb ∈ callbacks, ∀ xs : List (Act × Inst), (∀ x ∈ xs, x.1 ∈ cb.reach ev) →
      ∀ (cfg : Cfg) (w : World) (f : Nat), applyActs cfg w f xs = w :=
  fun cb hcb xs hxs cfg w f => applyActs_quiet cfg f xs (fun x hx => hq cb hcb x.1 (hxs x hx)) w

/-- A mark visit resumes nobody.  The collector calls `fiber->ev_callback(fiber, JANET_ASYNC_EVENT_MARK)` for every suspended
fiber that listens on a stream (gc.c janet_mark_fiber — the only delivery of MARK, first conjunct).  For every listener callback
of the tree and every execution of it on MARK, the world is unchanged: no fiber is scheduled or cancelled, no generation moves, no
listener is detached, no task is queued — a garbage collection during a wait neither completes nor abandons the wait. -/
theorem mark_visit_resumes_nobody :
    (∀ d ∈ deliveries, d.2.2 = Ev.mark → d.1 = "gc.c" ∧ d.2.1 = "janet_mark_fiber") ∧
    ∀ cb ∈ callbacks, ∀ xs : List (Act × Inst), (∀ x ∈ xs, x.1 ∈ cb.reach .mark) →
      ∀ (cfg : Cfg) (w : World) (f : Nat), applyActs cfg w f xs = w :=
  ⟨by decide, quiet_event_resumes_nobody .mark fun cb hcb a ha =>
    ((callback_tables_checked cb hcb .mark (Ev.mem_all _)).2 a ha).2 (Or.inl rfl)⟩

/-- Tearing a listener down resumes nobody.  `janet_async_end` (reached from janet_fiber_did_resume when the fiber was resumed by
something else: timeout, deadline, cancel) delivers JANET_ASYNC_EVENT_DEINIT to the callback of the abandoned wait — the only
delivery of DEINIT; no callback schedules, cancels or ends anything on it. -/
theorem deinit_resumes_nobody :
    (∀ d ∈ deliveries, d.2.2 = Ev.deinit → d.1 = "ev.c" ∧ d.2.1 = "janet_async_end") ∧
    ∀ cb ∈ callbacks, ∀ xs : List (Act × Inst), (∀ x ∈ xs, x.1 ∈ cb.reach .deinit) →
      ∀ (cfg : Cfg) (w : World) (f : Nat), applyActs cfg w f xs = w :=
  ⟨by decide, quiet_event_resumes_nobody .deinit fun cb hcb a ha =>
    ((callback_tables_checked cb hcb .deinit (Ev.mem_all _)).2 a ha).2 (Or.inr rfl)⟩

/-- A listener callback wakes only the fiber that listens.  Every callback that is ever registered is one of the tables
(`registrations`), every wake-relevant call in every table is one the model knows (no call with a foreign fiber, no call of an
unanalysed function that wakes), and for every event and every execution: a fiber `h` other than the listener `f` and the handler
fibers the callback has just created (net/accept-loop) keeps its generation, flags and listener, and its tasks in the run queue
are exactly what they were.  The one call that reaches other fibers is filewatch's `janet_channel_give` = `superPush`, the give
covered by `supervisor_event_not_consumed_by_absent_waiter` / `stale_inert (1)`. -/
theorem listener_callback_wakes_only_its_fiber :
    (∀ r ∈ registrations, (r.2.1 = "janet_async_start" ∧ r.2.2 = "callback") ∨ ∃ cb ∈ callbacks, cb.name = r.2.2) ∧
    (∀ cb ∈ callbacks, ∀ e ∈ Ev.all, ∀ a ∈ cb.reach e, a.known = true) ∧
    (∀ cb ∈ callbacks, ∀ e : Ev, ∀ xs : List (Act × Inst), (∀ x ∈ xs, x.1 ∈ cb.reach e) → (∀ x ∈ xs, x.1 ≠ .chanGive) →
      ∀ (cfg : Cfg) (w : World) (f h : Nat), h ≠ f → (∀ x ∈ xs, x.2.fresh ≠ h) →
        (applyActs cfg w f xs).fibers h = w.fibers h ∧ tasksOf (applyActs cfg w f xs) h = tasksOf w h) ∧
    (∀ (cfg : Cfg) (w : World) (f : Nat) (i : Inst), applyAct cfg w f .chanGive i = superPush cfg w i.chan i.val) := by
  have hk : ∀ cb ∈ callbacks, ∀ e ∈ Ev.all, ∀ a ∈ cb.reach e, a.known = true :=
    fun cb hcb e he a ha => ((callback_tables_checked cb hcb e he).2 a ha).1
  refine ⟨by decide, hk, ?_, fun _ _ _ _ => rfl⟩
  intro cb hcb e xs hxs hng cfg w f h hne hfresh
  refine applyActs_own_frame cfg f h hne xs ?_ hfresh w
  exact fun x hx => Act.own_of_known (hk cb hcb e (Ev.mem_all e) x.1 (hxs x hx)) (hng x hx)

/-- non-vacuity: the tables are not empty — a readable pipe does complete ev_callback_read's wait (schedule + detach), accept
schedules a handler fiber, and the MARK group of every callback is reached and marks -/
example : (Act.schedule .self) ∈ cb_ev_callback_read.reach .read ∧ (Act.asyncEnd .self) ∈ cb_ev_callback_read.reach .read ∧
    (Act.schedule .fresh) ∈ cb_net_callback_accept.reach .read ∧ (Act.schedule .self) ∈ cb_net_callback_connect.reach .write ∧
    Act.mark ∈ cb_ev_callback_read.reach .mark ∧ cb_net_callback_connect.reach .mark = [] ∧ callbacks.length = 5 := by decide

/-- non-vacuity of the frame: an execution of accept's READ group that schedules handler fiber 9 and completes listener 1 leaves
fiber 2 (blocked elsewhere) untouched but does queue tasks for 9 and 1 -/
example :
    let w0 := run Cfg.full init [.spawn 1, .spawn 2, .run, .run, .asyncStart 1 0 true, .take 2 0 false]
    let w := applyActs Cfg.full w0 1 [(.schedule .fresh, { fresh := 9 }), (.schedule .self, { val := .int 5 }), (.asyncEnd .self, {})]
    w.fibers 2 = w0.fibers 2 ∧ (w.queue.map (·.fiber)) = [9, 1] ∧ (w.fibers 1).listener = none := by decide

/-- `classify` is run over the regenerated site list once, here: every site has a class, the list is the tree's (≥ 60 calls)
and every class that completes a wait occurs in it -/
theorem sites_classified : (∀ s ∈ sites, (classify s).isSome = true) ∧
    (sites.length ≥ 60 ∧ (∀ c ∈ [SiteClass.listenerCallback, .chanGive, .chanTake, .chanClose, .timers, .threadedAwait, .procWait],
      ∃ s ∈ sites, classify s = some c)) := by decide

/-- wake-up site completeness, as a kernel-checked certificate.  `Gen.WaitCb.sites` lists every janet_schedule /
janet_schedule_soon / janet_schedule_signal / janet_cancel call of ev.c, net.c, os.c, filewatch.c and io.c (all #ifdef branches)
with its enclosing function; `classify` (Lean, Wait/Callback.lean) maps each to a `SiteClass` — an unclassified site makes
`sites_classified` fail.  What the model proves about each class is `siteCoverage` / `every_site_class_covered` below. -/
theorem every_wake_site_classified : ∀ s ∈ sites, (classify s).isSome = true := sites_classified.1

/-- what is proved about a class of wake-up sites -/
inductive Coverage where
  | proved (p : Prop)            -- the class is a wake-up source of a WAIT: `p` is what makes its stale registrations inert
  | notAWait (why : String)      -- the class does not complete a wait

def siteCoverage (cfg : Cfg) : SiteClass → Coverage
  | .chanGive => .proved (∀ w f c x ch e rest, (w.chans c).rp = e :: rest → live w e.fiber e.schedId = false →
        chanPush cfg w f c x ch = chanPush cfg { w with chans := set w.chans c { (w.chans c) with rp := rest } } f c x ch)
  | .chanTake => .proved (∀ w c items e rest, (w.chans c).wp = e :: rest → live w e.fiber e.schedId = false →
        chanPopWake cfg w c items = chanPopWake cfg { w with chans := set w.chans c { (w.chans c) with wp := rest } } c items)
  | .chanClose => .proved (∀ w c e, live w e.fiber e.schedId = false → closeOne cfg c w e = w)
  | .timers => .proved ((∀ w (tm : Timer), (∀ b, tm.kind ≠ .deadline b) → live w tm.fiber tm.schedId = false → fireTimer cfg w tm = w) ∧
        (∀ w (tm : Timer) b, tm.kind = .deadline b → w.bodies b = false → fireTimer cfg w tm = w))
  | .procWait => .proved (∀ w k st f g, w.procs k = some (f, g) → live w f g = false →
        (procExit cfg w k st).fibers = w.fibers ∧ (procExit cfg w k st).queue = w.queue)
  | .threadedAwait => .proved (∀ w k f g v e, w.thr k = some (f, g) → live w f g = false →
        (thrDone cfg w k v e).fibers = w.fibers ∧ (thrDone cfg w k v e).queue = w.queue)
  | .listenerCallback => .proved ((∀ w s r v e f, (if r then (w.streams s).readFiber else (w.streams s).writeFiber) = some f →
        (w.fibers f).listener = none → streamEvent cfg w s r v e = w) ∧
        (∀ cb ∈ callbacks, ∀ e ∈ Ev.all, ∀ a ∈ cb.reach e, a.known = true))
  | .chanImmediate => .notAWait "janet_channel_pop / cfun_channel_pop: the running fiber schedules ITSELF with an item that is already there"
  | .threadChan => .notAWait "threaded channels: property C08 (janet_thread_chan_cb compares the generation carried in the message)"
  | .rescheduleInterrupted => .notAWait "janet_loop puts an interrupted task back: no wait is completed"
  | .request => .notAWait "ev/go, ev/cancel, ev/thread: an explicit request of the program (ops `spawn` / `cancel` of the model: cancellation is a permitted cause)"
  | .signalHandler => .notAWait "os/sigaction: the handler runs in a fresh fiber, no suspended fiber is resumed"

def Coverage.holds : Coverage → Prop
  | .proved p => p
  | .notAWait _ => True

/-- every class of wake-up site is covered: for each class that completes a wait, a stale registration of that class is inert -/
theorem every_site_class_covered (cfg : Cfg) (hc : cfg.allChecked = true) : ∀ c : SiteClass, (siteCoverage cfg c).holds := by
  intro c
  cases c with
  | chanGive => exact stale_reader_skipped cfg (Cfg.checked hc).pushSkipsStale
  | chanTake => exact stale_writer_skipped cfg (Cfg.checked hc).popSkipsStale
  | chanClose => exact stale_entry_not_closed cfg (Cfg.checked hc).closeChecks
  | timers =>
    exact ⟨stale_timer_inert cfg (Cfg.checked hc).timerCheck, fun w tm b hk hb => (deadline_scoped cfg hc w tm b hk).1 hb⟩
  | procWait => exact stale_procwait_inert cfg (Cfg.checked hc).procErrCheck (Cfg.checked hc).procCheck
  | threadedAwait => intro w k f g v e hk hst; exact stale_thread_completion_inert cfg hc w k f g v e hk hst
  | listenerCallback => exact ⟨detached_listener_inert cfg, listener_callback_wakes_only_its_fiber.2.1⟩
  | chanImmediate => trivial
  | threadChan => trivial
  | rescheduleInterrupted => trivial
  | request => trivial
  | signalHandler => trivial

/-- non-vacuity: the site list is the tree's (≥ 60 calls), every class that completes a wait occurs in it -/
example : sites.length ≥ 60 ∧ (∀ c ∈ [SiteClass.listenerCallback, .chanGive, .chanTake, .chanClose, .timers, .threadedAwait, .procWait],
    ∃ s ∈ sites, classify s = some c) := sites_classified.2

end Callbacks

section Gather
open JanetModel.Wait.Callback JanetModel.Wait.Gather

/-- tie: the four boot.janet forms, regenerated on every run (docstring dropped, locals renamed in order of binding), are the forms the
mirrors were written from -/
theorem boot_forms_are_the_mirrored_ones :
    Sexp.beq Gen.WaitBoot.cancelAllForm GatherRef.cancelAllForm = true ∧
    Sexp.beq Gen.WaitBoot.waitForFibersForm GatherRef.waitForFibersForm = true ∧
    Sexp.beq Gen.WaitBoot.gatherForm GatherRef.gatherForm = true ∧
    Sexp.beq Gen.WaitBoot.withDeadlineForm GatherRef.withDeadlineForm = true := by decide

/-- ev/gather cancels only its own fibers.  Whatever wait-for-fibers does with an event taken from the gather channel — drop the
finished fiber from the set, or cancel-all with "sibling canceled" — and whatever its `defer` does on the way out ("parent
canceled"), for the set in ANY iteration order: a fiber `h` that is not in the set keeps its generation, flags and listener, and
its tasks in the run queue are exactly what they were; in particular the parent and unrelated tasks are not resumed by it. -/
theorem gather_cancels_only_its_fibers (cfg : Cfg) (w : World) (fibers : List Nat) (h : Nat) (hn : h ∉ fibers)
    (sigOk : Bool) (fiber : Nat) (r1 r2 : Val) :
    ((gatherEvent cfg w fibers sigOk fiber r1).1.fibers h = w.fibers h ∧ tasksOf (gatherEvent cfg w fibers sigOk fiber r1).1 h = tasksOf w h) ∧
    ((gatherEnd cfg w fibers r2).fibers h = w.fibers h ∧ tasksOf (gatherEnd cfg w fibers r2) h = tasksOf w h) ∧
    (∀ g ∈ (gatherEvent cfg w fibers sigOk fiber r1).2.1, g ∈ fibers) := by
  refine ⟨?_, cancelAll_other cfg fibers h hn r2 w, ?_⟩
  · unfold gatherEvent
    cases sigOk
    · exact cancelAll_other cfg fibers h hn r1 w
    · exact ⟨rfl, rfl⟩
  · intro g hg
    unfold gatherEvent at hg
    cases sigOk
    · simp at hg
    · simp only [if_true] at hg
      exact (List.mem_filter.mp hg).1

/-- a cancelled sibling leaves the wait it was in for good.  After cancel-all (any order, duplicates allowed) every fiber `f` of
the set that was not already cancelled in this round has a higher generation: every registration it made for the wait it was
blocked in (channel entry, timer, process-wait record, threaded await: all record the old generation) is stale — and by
`stale_forever` stays stale for every continuation, so later activity on what the sibling waited for cannot reach it, even if
it catches the "sibling canceled" error and blocks on something else. -/
theorem gather_cancel_abandons_sibling_waits (cfg : Cfg) (hc : cfg.allChecked = true) (w : World) (fibers : List Nat) (reason : Val)
    (f : Nat) (hf : f ∈ fibers) (hcan : (w.fibers f).canceled = false) (ops : List Op) :
    live (run cfg (cancelAll cfg w fibers reason) ops) f (w.fibers f).schedId = false :=
  stale_forever cfg (cancelAll cfg w fibers reason) f (w.fibers f).schedId
    (cancelAll_bumps cfg (Cfg.checked hc).scheduleBumps fibers reason f hf w hcan) ops

/-- ev/with-deadline guards exactly its task and its body.  The timer armed by the macro names the ROOT fiber of the caller as
the fiber to cancel and the body coroutine as the fiber to check; when it expires while the body is resumable the task is
cancelled with "deadline expired" in its current generation, no other fiber is touched; once the body has finished the timer is
inert whatever happens afterwards (`deadline_inert_after_body_finished`). -/
theorem with_deadline_guards_its_task_only (cfg : Cfg) (hc : cfg.allChecked = true) (w : World) (task body us : Nat) :
    (∃ tm ∈ (withDeadline cfg w task body us).timers, tm.fiber = task ∧ tm.kind = .deadline body ∧ tm.when = w.now + deltaMs cfg us) ∧
    (w.bodyDead body = false → (withDeadline cfg w task body us).bodies body = true) ∧
    (withDeadline cfg w task body us).fibers = w.fibers ∧ (withDeadline cfg w task body us).queue = w.queue ∧
    (∀ (w' : World) (tm : Timer), tm.fiber = task → tm.kind = .deadline body →
      (w'.bodies body = false → fireTimer cfg w' tm = w') ∧
      (∀ h, h ≠ task → (fireTimer cfg w' tm).fibers h = w'.fibers h ∧ ∀ t ∈ (fireTimer cfg w' tm).queue, t.fiber = h → t ∈ w'.queue)) := by
  refine ⟨?_, ?_, and_assoc.mp ⟨?_, ?_⟩⟩
  · refine ⟨{ when := w.now + deltaMs cfg us, fiber := task, schedId := (w.fibers task).schedId, kind := .deadline body,
              start := w.now, durUs := us, epoch := (w.fibers task).epoch }, ?_, rfl, rfl, rfl⟩
    unfold withDeadline addTimer step
    by_cases hd : w.bodyDead body = true <;> simp [hd, mem_insertTimer]
  · intro hd
    simp [withDeadline, addTimer, step, hd]
  · unfold withDeadline addTimer step
    by_cases hd : w.bodyDead body = true <;> simp [hd]
  · intro w' tm hf hk
    have := deadline_scoped cfg hc w' tm body hk
    exact ⟨this.1, fun h hne => this.2 h (hf ▸ hne)⟩

/-- non-vacuity: gather with siblings 2 (blocked in a take on channel 0) and 3 (finished with an error): cancel-all cancels both, fiber 2
gets the error in its current generation and its pending-reader entry is stale; bystander 4, blocked on the same channel, stays live -/
example :
    let w0 := run Cfg.full init [.spawn 2, .spawn 3, .spawn 4, .run, .run, .run, .take 2 0 false, .take 4 0 false, .fiberDead 3]
    let w := (gatherEvent Cfg.full w0 [3, 2] false 3 (.err 5)).1
    (w.queue.map (fun t => (t.fiber, t.isErr, t.expected))) = [(3, true, 3), (2, true, 3)] ∧
    ((w.chans 0).rp.map (fun p => (p.fiber, live w p.fiber p.schedId))) = [(2, false), (4, true)] := by decide

/-- non-vacuity: the with-deadline timer does fire while the body runs -/
example :
    let w := withDeadline Cfg.full (run Cfg.full init [.spawn 1, .run]) 1 7 3000
    (w.timers.map (fun t => (t.when, t.fiber))) = [(3, 1)] ∧
    ((fireTimer Cfg.full w (w.timers.head!)).queue.map (fun t => (t.fiber, t.value))) = [(1, .err 1)] := by decide

end Gather

example : Cfg.full.allChecked = true := by decide

/-- a history with a sleep, a stale timer, a give to a stale reader and a legitimate wake-up: the log is non-empty,
the sleep is executed at tick 2 = 0 + round(1.5 ms), and the item given to the stale reader stays in the channel -/
example :
    let w := run Cfg.full init [.sleep 1 1500, .take 2 0 false, .cancel 2 (.err 2), .run, .give 3 0 (.kw 5) false,
                                 .advance 1, .timers, .run, .advance 1, .timers, .run]
    (w.log.map (fun e => (e.fiber, e.tick))) = [(1, 2), (2, 0)] ∧ (w.chans 0).items = [.kw 5] := by decide

end JanetModel.Props.C07
