/-
C16 — stream and subprocess I/O delivers every byte once, in order.  Property theorems only.
Model: JanetModel/Stream/Model.lean (ev_callback_read / ev_callback_write / listener slots of src/core/ev.c) against a
nondeterministic kernel.  Every theorem quantifies over ALL event sequences and ALL kernel answer sequences.
-/
import JanetModel.Stream.Lemmas
import JanetModel.Stream.Slots
import JanetModel.Stream.Liveness
import JanetModel.Stream.NetLemmas
import JanetModel.Stream.Compose
import JanetModel.Stream.Refine
import JanetModel.Stream.DispatchLemmas
import JanetModel.Proc.StatusSpec
import JanetModel.Proc.SpawnLemmas
import JanetModel.Proc.SetupLemmas
import JanetModel.Proc.LifeLemmas

namespace JanetModel.Props.C16
open JanetModel.Stream

/-- Whatever the kernel answers (partial writes, EAGAIN, EINTR, errors) and whatever events arrive: the bytes handed
    to the kernel are exactly the first `start` source bytes, in order, each once; every accepted call asked for the whole
    remainder starting at its offset; and when the operation reports success all source bytes were handed over. -/
theorem write_delivers_all_in_order {α : Type} (src : List α) (evs : List WEv) :
    let t := runWrite src.length false 0 evs
    delivered src t.calls = src.take t.start ∧ t.start ≤ src.length ∧
      (∀ c ∈ t.calls, c.got > 0 → c.len = src.length - c.off) ∧
      (t.res = .done → delivered src t.calls = src) := by
  obtain ⟨hd, hb, hst, hfin⟩ := runWrite_zero_spec src false evs
  dsimp only
  rw [hst rfl]
  exact ⟨hd, hb, (runWrite_good src src.length false evs 0 (Nat.zero_le _)).offs, hfin rfl⟩

/-- datagram mode (send-to): the kernel never receives anything but a prefix of the message either -/
theorem sendto_delivers_prefix {α : Type} (src : List α) (evs : List WEv) :
    let t := runWrite src.length true 0 evs
    delivered src t.calls = src.take (sumGot t.calls) ∧ sumGot t.calls ≤ src.length := by
  have h := runWrite_zero_spec src true evs
  exact ⟨h.1, h.2.1⟩

/-- A read of `n` bytes never appends more than `n` bytes, and what it appends is exactly the next bytes of the
    arrival sequence, in order, none lost, none twice (`got ++ remaining = arrival`). -/
theorem read_at_most_n {α : Type} (chunk recvfrom : Bool) (limC base n : Nat) (inc : List α) (evs : List REv) :
    let t := runRead chunk recvfrom limC base (rInit n inc) evs
    t.st.got.length ≤ n ∧ t.st.got ++ t.st.inc = inc ∧ t.st.got.length = t.st.read := by
  have h := runRead_rInit_inv chunk recvfrom limC base n inc evs
  exact ⟨h.got_le, h.order, h.len⟩

/-- A chunked read that returns a buffer returns exactly `n` bytes, unless the stream ended (a call returned 0 bytes
    after earlier data) or the descriptor reported an error condition. -/
theorem chunk_exact_unless_eof {α : Type} (recvfrom : Bool) (limC base n : Nat) (inc : List α) (evs : List REv) (r : RReason) :
    let t := runRead true recvfrom limC base (rInit n inc) evs
    t.res = .buf r → (r = .full ∧ t.st.got.length = n) ∨ r = .eof ∨ r = .errEvent := by
  have h := runRead_rInit_inv true recvfrom limC base n inc evs
  have hp := runRead_post true recvfrom limC base evs (rInit n inc)
  dsimp only
  generalize runRead true recvfrom limC base (rInit n inc) evs = t at h hp ⊢
  intro hr
  rw [hr] at hp
  cases r with
  | full =>
    left
    refine ⟨rfl, ?_⟩
    have h1 := h.len; have h2 := h.sum
    have h3 : t.st.left = 0 := hp
    omega
  | eof => right; left; rfl
  | nonchunk => simp [RPost] at hp
  | errEvent => right; right; rfl

/-- At end of stream (kernel queue empty) with nothing read so far, a stream read answers nil — whatever count the
    kernel's answer carries — and an EINTR before it changes nothing. -/
theorem read_returns_nil_at_eof {α : Type} (chunk : Bool) (limC base : Nat) (st : RSt α) (m : Nat) (as : List Ans)
    (h0 : st.read = 0) (he : st.inc = []) :
    (readLoop chunk false limC base st (.bytes m :: as)).res = .nil false ∧
    (readLoop chunk false limC base st (.eintr :: .bytes m :: as)).res = .nil false := by
  have hk : min (min m (readLimit chunk limC st.left)) st.inc.length = 0 := by simp [he]
  have hr : afterReadRes chunk false st 0 = some (.nil false) := by simp [afterReadRes, h0]
  constructor
  · simp only [readLoop, hk, hr]
  · simp only [readLoop, hk, hr]

/-- nil (not caused by close) means that this operation took nothing out of the kernel: no byte is dropped by an
    end-of-stream answer. -/
theorem nil_consumes_nothing {α : Type} (chunk recvfrom : Bool) (limC base n : Nat) (inc : List α) (evs : List REv) :
    let t := runRead chunk recvfrom limC base (rInit n inc) evs
    t.res = .nil false → t.st.got = [] ∧ t.st.inc = inc := by
  have h := runRead_rInit_inv chunk recvfrom limC base n inc evs
  have hp := runRead_post chunk recvfrom limC base evs (rInit n inc)
  dsimp only
  generalize runRead chunk recvfrom limC base (rInit n inc) evs = t at h hp ⊢
  intro hr
  rw [hr] at hp
  have h3 : t.st.read = 0 := hp
  have hl := h.len
  have hg : t.st.got = [] := List.eq_nil_of_length_eq_zero (by omega)
  exact ⟨hg, by have := h.order; rw [hg] at this; simpa using this⟩

/-- Closing a stream wakes its pending reader (nil) and writer ("stream closed"), in whatever state they are … -/
theorem close_wakes_pending_op {α : Type} (chunk recvfrom : Bool) (limC base : Nat) (st : RSt α) (len : Nat) (dgram : Bool) (start : Nat) :
    (readStep chunk recvfrom limC base st .close).res = .nil true ∧
    (writeStep len dgram start .close).res = .failed .closed := ⟨rfl, rfl⟩

/-- … and, when every waiting fiber is registered in its slot, after `janet_stream_close` no fiber is left waiting. -/
theorem close_wakes_pending (gR gW : Bool) (w : World) (h : w.Inv) (g : Nat) :
    (World.step gR gW w .close).pend g = none := World.close_pend_none_gen gR gW w h g

/-- FULL STRENGTH, as an obligation over the source: if `janet_async_start_fiber` guards both slots, then for every
    schedule of operations by any number of fibers, readiness events and closes: every fiber that waits on the stream
    is the one registered for its direction (so the next readiness / error / close event reaches it — none is orphaned),
    and a close leaves nobody waiting.  The hypotheses are discharged for the CURRENT source in
    JanetModel/Stream/Current.lean from the regenerated Gen/Stream.lean. -/
theorem every_op_completes_or_errors
    (hR : Gen.Stream.guardsReadSlot = true) (hW : Gen.Stream.guardsWriteSlot = true) (sched : List Act) :
    (∀ f d, (World.runCurrent World.init sched).pend f = some d → (World.runCurrent World.init sched).slot d = some f) ∧
    (∀ g, (World.runCurrent World.init (sched ++ [.close])).pend g = none) := by
  unfold World.runCurrent
  rw [hR, hW]
  have hi := World.run_inv sched World.init World.init_inv
  refine ⟨hi, ?_⟩
  intro g
  rw [World.run_append]
  exact World.close_pend_none _ hi g

/-- what holds on a tree WITHOUT the guards: the invariant, for programs that keep one reader and one writer
    per stream at a time (every `start` finds the slot free or stale). -/
theorem every_op_completes_or_errors_partial (gR gW : Bool) (sched : List Act) :
    ∀ w : World, w.Inv →
      (∀ pre a post, sched = pre ++ a :: post → (World.run gR gW w pre).Disciplined a) →
      (World.run gR gW w sched).Inv := by
  induction sched with
  | nil => intro w h _; exact h
  | cons a as ih =>
    intro w h hd
    have h1 : (World.step gR gW w a).Inv := World.step_inv_disciplined gR gW w a h (hd [] a as rfl)
    apply ih _ h1
    intro pre b post e
    have := hd (a :: pre) b post (by rw [e]; rfl)
    exact this

/-- without the guard a second operation in direction `d` takes over the slot: the first fiber is orphaned, whatever follows -/
private theorem second_orphans_first (d : Dir) (rest : List Act) :
    ((World.run false false World.init ([.start 0 d false, .start 1 d false] ++ rest)).pend 0).isSome = true := by
  rw [World.run_append]
  have h : (World.run false false World.init [.start 0 d false, .start 1 d false]).Orphan 0 := by
    cases d <;> exact ⟨by decide, by decide, by decide⟩
  exact (World.run_orphan false false rest 0 _ h).1

/-- The missing part of `_partial`, on a concrete witness: without the guard a second reader takes over
    `stream->read_fiber`; the first reader is orphaned and NO continuation of the schedule — data arriving, end of
    stream, errors, close, other operations — ever resumes it. -/
theorem second_reader_orphans_first (rest : List Act) :
    ((World.run false false World.init
        ([.start 0 .rd false, .start 1 .rd false] ++ rest)).pend 0).isSome = true := second_orphans_first .rd rest

theorem second_writer_orphans_first (rest : List Act) :
    ((World.run false false World.init
        ([.start 0 .wr false, .start 1 .wr false] ++ rest)).pend 0).isSome = true := second_orphans_first .wr rest

/-- with the guard the same schedule makes the second reader raise and the first one completes -/
example : (World.run true true World.init [.start 0 .rd false, .start 1 .rd false, .ready .rd true]).outcome 1 = some .raised ∧
          (World.run true true World.init [.start 0 .rd false, .start 1 .rd false, .ready .rd true]).outcome 0 = some .completed := by
  decide

-- a 10-byte write against a kernel that takes 3, says EAGAIN, is interrupted, takes 4, then the rest
example : (runWrite 10 false 0 [.ready [.bytes 3], .ready [.eagain], .ready [.eintr, .bytes 4], .ready [.bytes 100]]).calls
    = [⟨0, 10, 3⟩, ⟨3, 7, 0⟩, ⟨3, 7, 0⟩, ⟨3, 7, 4⟩, ⟨7, 3, 3⟩] := by decide
example : (runWrite 10 false 0 [.ready [.bytes 3], .ready [.eagain], .ready [.eintr, .bytes 4], .ready [.bytes 100]]).res = .done := by decide
-- a chunked read of 6 bytes: 2 bytes, would-block, 3 bytes, end of stream -> short chunk with reason eof
example : (runRead true false 4096 0 (rInit 6 [1, 2, 3, 4, 5]) [.ready [.bytes 2, .eagain], .ready [.bytes 3, .bytes 0]]).res = .buf .eof := by decide
example : (runRead true false 4096 0 (rInit 6 [1, 2, 3, 4, 5]) [.ready [.bytes 2, .eagain], .ready [.bytes 3, .bytes 0]]).st.got = [1, 2, 3, 4, 5] := by decide
example : (runRead true false 4096 0 (rInit 4 [1, 2, 3, 4, 5]) [.ready [.bytes 2, .eagain], .ready [.bytes 3]]).res = .buf .full := by decide
example : (runRead false false 4096 0 (rInit 4 ([] : List Nat)) [.ready [.eagain], .ready [.bytes 0]]).res = .nil false := by decide

/-- Datagram reads (`net/recv-from`: `mode = RECVFROM`, not chunked): the operation ends with the FIRST call the kernel
    answers with a byte count — after any number of EINTR retries and earlier would-blocks —, returns exactly that one
    message's bytes (at most `n`: a longer datagram is truncated to the buffer space asked for, `len = n` in the call), and
    an EMPTY datagram is a (zero-length) result, not end of stream: it is never reported as nil. -/
theorem recvfrom_one_message_per_call {α : Type} (limC base n m : Nat) (inc : List α) (as : List Ans) :
    let o := readLoop false true limC base (rInit n inc) (.bytes m :: as)
    o.res = .buf .nonchunk ∧ o.calls = [⟨base, n, min (min m n) inc.length⟩] ∧
      o.st.got = inc.take (min (min m n) inc.length) ∧ o.rest = as := by
  simp [readLoop, afterReadRes, afterReadSt, readLimit, rInit]

example : (runRead false true 4096 0 (rInit 5 [1, 2, 3, 4, 5, 6, 7, 8]) [.ready [.eagain], .ready [.eintr, .bytes 8, .bytes 3]]).st.got = [1, 2, 3, 4, 5] := by decide
example : (runRead false true 4096 0 (rInit 5 ([] : List Nat)) [.ready [.bytes 0]]).res = .buf .nonchunk := by decide


/-- LIVENESS (bounded form).  A write of `len` bytes has ended — completed or raised — once the schedule has
    delivered `max 1 len` productive events, a read of `n` bytes once it has delivered `max 1 n`: every productive
    event (a readiness report after which the kernel, possibly after EINTR retries, transfers at least one byte or
    fails; an error, hang-up or close event) either ends the operation or strictly advances it.  Unproductive events
    (spurious wake-ups answered with EAGAIN) in between are harmless, in any number. -/
theorem op_ends_within_fair_events :
    (∀ (len : Nat) (dgram : Bool) (evs : List WEv), (∀ ev ∈ evs, ev.complete = true) →
        (evs.filter WEv.productive).length ≥ max 1 len → (runWrite len dgram 0 evs).res.ended = true) ∧
    (∀ {α : Type} (chunk recvfrom : Bool) (limC base n : Nat) (inc : List α) (evs : List REv), (∀ ev ∈ evs, ev.closed = true) →
        (evs.filter REv.productive).length ≥ max 1 n → (runRead chunk recvfrom limC base (rInit n inc) evs).res.ended = true) :=
  ⟨fun len dgram evs hc hp => write_ends_within len dgram evs 0 hc (by simpa using hp),
   fun chunk recvfrom limC base n inc evs hc hp => read_ends_within chunk recvfrom limC base evs (rInit n inc) hc (by simpa [rInit] using hp)⟩

/-- LIVENESS (fairness form) of the operation itself: against an INFINITE schedule of events in which productive events keep coming (∀ k ∃ j ≥ k) and every call
    is answered, there is a finite prefix after which the write / read has ended.  Together with
    `every_op_completes_or_errors` (the waiting fiber is the one registered in its slot, so these events are delivered
    to it) no operation is left suspended forever.  What remains an assumption is exactly the fairness hypothesis:
    that the kernel reports readiness again after a would-block. -/
theorem every_op_completes_under_fairness :
    (∀ (len : Nat) (dgram : Bool) (evs : Nat → WEv), (∀ i, (evs i).complete = true) →
        (∀ k, ∃ j, k ≤ j ∧ (evs j).productive = true) → ∃ m, (runWrite len dgram 0 (prefixOf evs m)).res.ended = true) ∧
    (∀ {α : Type} (chunk recvfrom : Bool) (limC base n : Nat) (inc : List α) (evs : Nat → REv), (∀ i, (evs i).closed = true) →
        (∀ k, ∃ j, k ≤ j ∧ (evs j).productive = true) →
        ∃ m, (runRead chunk recvfrom limC base (rInit n inc) (prefixOf evs m)).res.ended = true) := by
  refine ⟨?_, ?_⟩
  · intro len dgram evs hc fair
    obtain ⟨m, hm⟩ := fair_count evs WEv.productive fair (max 1 len)
    exact ⟨m, op_ends_within_fair_events.1 len dgram _ (forall_mem_prefixOf evs hc m) hm⟩
  · intro α chunk recvfrom limC base n inc evs hc fair
    obtain ⟨m, hm⟩ := fair_count evs REv.productive fair (max 1 n)
    exact ⟨m, op_ends_within_fair_events.2 chunk recvfrom limC base n inc _ (forall_mem_prefixOf evs hc m) hm⟩

-- non-vacuity: a fair schedule (EAGAIN, then one byte per event, forever) and the prefix after which a 3-byte write is done
example : (runWrite 3 false 0 (prefixOf (fun i => if i % 2 = 0 then WEv.ready [.eagain] else WEv.ready [.bytes 1]) 6)).res = .done := by decide
example : (runWrite 3 false 0 (prefixOf (fun i => if i % 2 = 0 then WEv.ready [.eagain] else WEv.ready [.bytes 1]) 5)).res = .pending := by decide
example : (runRead true false 4096 0 (rInit 2 [7, 8, 9]) (prefixOf (fun _ => REv.ready [.bytes 1, .eagain]) 2)).res = .buf .full := by decide

section ExitStatus
open JanetModel.Proc

/-- Exit status is reported exactly.  For EVERY wait-status word that `waitpid(pid, &status, 0)` can deliver for a
    terminated child on Linux — `exit(c)` for all 256 exit codes, death by signal `s` for every signal number the 7-bit
    field can hold (1 … 126; 127 is the "stopped" marker), with and without the core-dump bit — the decoder of
    `proc_get_status` (macros as expanded by the build's preprocessor, branch order as written) returns the exit code,
    respectively 128 + signal number (POSIX shell convention); and the `WIFSTOPPED` arm, which sits BEFORE the
    `WIFSIGNALED` arm in the C, is never the one taken for such a word.
    (From `Proc.status_decoder_total`: on a non-negative word the chain computes `specDecode`, plain arithmetic on the word.) -/
theorem exit_status_exact :
    (∀ c, c < 256 → decode modelBranches (exitWord c) = .code (Int.ofNat c)) ∧
    (∀ s, s < 127 → 1 ≤ s → ∀ core : Bool, decode modelBranches (sigWord s core) = .code (Int.ofNat (128 + s))) ∧
    (∀ c, c < 256 → mWIFSTOPPED.eval (exitWord c) = 0) ∧
    (∀ s, s < 127 → 1 ≤ s → ∀ core : Bool, mWIFSTOPPED.eval (sigWord s core) = 0) := by
  -- the decoder is `specDecode` (arithmetic on the word), and `WIFSTOPPED` tests `w % 256 = 127`
  have stopped {w : Nat} (hw : w < 2147483648) (h : w % 256 ≠ 127) : mWIFSTOPPED.eval (Int.ofNat w) = 0 := by
    have := eval_WIFSTOPPED hw
    simpa [h] using this
  refine ⟨fun c hc => ?_, fun s hs hs1 core => ?_, fun c hc => stopped (by omega) (by omega),
    fun s hs hs1 core => stopped (by cases core <;> simp <;> omega) (by cases core <;> simp <;> omega)⟩
  · rw [exitWord, status_decoder_total (by omega), specDecode, if_pos (by omega)]
    congr 2; omega
  · rw [sigWord, status_decoder_total (by cases core <;> simp <;> omega), specDecode]
    cases core <;> simp only [if_true, Bool.false_eq_true, if_false] <;>
      rw [if_neg (by omega), if_neg (by omega), if_neg (by omega)] <;> congr 2 <;> omega

/-- the reported value determines what happened, up to the ambiguity that is inherent in the shell convention
    (exit code 128+s vs. signal s): two terminated children with different exit codes report different values, two
    children killed by different signals report different values, and the core-dump bit never shows. -/
theorem exit_status_injective :
    (∀ c, c < 256 → ∀ d, d < 256 → decode modelBranches (exitWord c) = decode modelBranches (exitWord d) → c = d) ∧
    (∀ s, s < 127 → 1 ≤ s → ∀ t, t < 127 → 1 ≤ t → ∀ k l : Bool,
        decode modelBranches (sigWord s k) = decode modelBranches (sigWord t l) → s = t) := by
  have h := exit_status_exact
  refine ⟨?_, ?_⟩
  · intro c hc d hd e
    rw [h.1 c hc, h.1 d hd] at e
    injection e with e
    exact Int.ofNat.inj e
  · intro s hs hs1 t ht ht1 k l e
    rw [h.2.1 s hs hs1 k, h.2.1 t ht ht1 l] at e
    injection e with e
    have := Int.ofNat.inj e
    omega

/-- words that `waitpid` with options 0 never delivers are characterised too: a stop (WUNTRACED / ptrace) would be
    reported as 128 + stop signal, a continue (0xffff) reaches the final `else` (panic). -/
theorem stop_and_continue_words :
    (∀ s, s < 256 → decode modelBranches (stopWord s) = .code (Int.ofNat (128 + s))) ∧
    decode modelBranches contWord = .panic := by
  refine ⟨fun s hs => ?_, ?_⟩
  · rw [stopWord, status_decoder_total (by omega), specDecode, if_neg (by omega), if_pos (by omega)]
    congr 2; omega
  · exact (status_decoder_total (w := 65535) (by decide)).trans (by decide)

/-- why the arms cannot be merged (seeded C16-4) or the offset dropped (builder mutation m5): with `WSTOPSIG` in the
    signaled arm every signal death reads bits 8‥15 (zero) and reports 128; without `+ 128` SIGKILL reports 9, the same
    value as `exit(9)`. -/
theorem merged_or_unshifted_arm_is_wrong :
    decode [(mWIFEXITED, mWEXITSTATUS), (.gt (.add mWIFSTOPPED mWIFSIGNALED) (.lit 0), .add mWSTOPSIG (.lit 128))] (sigWord 9 false)
      = .code 128 ∧
    decode [(mWIFEXITED, mWEXITSTATUS), (mWIFSTOPPED, .add mWSTOPSIG (.lit 128)), (mWIFSIGNALED, mWTERMSIG)] (sigWord 9 false)
      = decode modelBranches (exitWord 9) := by
  refine ⟨?_, ?_⟩ <;> decide +kernel

-- non-vacuity: SIGKILL -> 137, SIGSEGV with core dump -> 139, exit 255 -> 255, exit 0 -> 0
example : decode modelBranches (sigWord 9 false) = .code 137 := by decide +kernel
example : decode modelBranches (sigWord 11 true) = .code 139 := by decide +kernel
example : decode modelBranches (exitWord 255) = .code 255 := by decide +kernel
example : decode modelBranches 0 = .code 0 := by decide +kernel

end ExitStatus

section Spawn
open JanetModel.Proc

/-- the standard table of a process with only 0, 1, 2 open -/
def stdTab : Tab := fun x => if x < 3 then some ⟨.orig x, false⟩ else none

theorem exec_clearCx (o : Option Ent) : (match o.map clearCx with | some e => if e.cloexec then none else some e | none => none) = o.map clearCx := by
  cases o <;> simp [clearCx]

/-- The child's standard descriptors are exactly the requested redirections.  For every set of handles
    `os_execute_impl` may have computed and every descriptor table of the parent at the time of `posix_spawn` that satisfy
    `Safe` (every source handed to `adddup2` is open and above 2, and no block closes a source that a later block still
    needs — established by the `src_handles` loop and the `!=` tests of the C): the file actions succeed, and when the
    new program starts
    * descriptor 0 / 1 / 2 is the source of its redirection (pipe end, file, stream) — never close-on-exec —, or, when
      the direction was not redirected, what the parent has there; with `:err :out`, 2 is what 1 is;
    * above 2 the child has nothing that the parent did not already have open without close-on-exec: no pipe end is
      duplicated into the child beyond 0 / 1 / 2. -/
theorem child_stdio_exact (p : Plumb) (t : Tab) (h : Safe p t) :
    ∃ t', runActs t (fileActions p) = some t' ∧
      t'.exec 0 = (match effIn p with | some s => (t s).map clearCx | none => t.exec 0) ∧
      t'.exec 1 = (match effOut p with | some s => (t s).map clearCx | none => t.exec 1) ∧
      t'.exec 2 = (match effErr p with
                   | some s => (t s).map clearCx
                   | none => if p.errIsOut then (redirected t (effOut p) 1).map clearCx else t.exec 2) ∧
      (∀ x, 2 < x → t'.exec x = t.exec x ∨ t'.exec x = none) := by
  obtain ⟨t', hr, h0, h1, h2, hx⟩ := child_table p t h
  refine ⟨t', hr, ?_, ?_, ?_, ?_⟩
  · unfold Tab.exec; rw [h0]
    cases effIn p with
    | none => rfl
    | some s => simp only [redirected]; exact exec_clearCx _
  · unfold Tab.exec; rw [h1]
    cases effOut p with
    | none => rfl
    | some s => simp only [redirected]; exact exec_clearCx _
  · unfold Tab.exec; rw [h2]
    cases effErr p with
    | some s => exact exec_clearCx _
    | none =>
      cases p.errIsOut with
      | false => rfl
      | true => exact exec_clearCx _
  · intro x hx2
    unfold Tab.exec
    rcases hx x hx2 with e | e
    · left; rw [e]
    · right; rw [e]

/-- why the sources have to be above 2 (a3cd080): `{:err stdout}` on the code WITHOUT the `src_handles` loop hands
    `adddup2(1, 2); addclose(1)` to posix_spawn — the child starts without a standard output; with the loop the child's
    1 and 2 are both the parent's standard output. -/
theorem std_source_unmoved_loses_descriptor :
    let rq : Req := ⟨false, .inherit, .inherit, .handle 1 true⟩
    let a : Proc.Ans := ⟨none, none, none, some 3, some 3, some 3, true, none, none, none⟩
    ((osExecute false rq a stdTab).child.map (fun c => (c 1, c.objAt 2))) = some (none, some (.orig 1)) ∧
    ((osExecute true rq a stdTab).child.map (fun c => (c.objAt 1, c.objAt 2, c 3))) = some (some (.orig 1), some (.orig 1), none) ∧
    (osExecute true rq a stdTab).parent 3 = none := by
  refine ⟨?_, ?_, ?_⟩ <;> decide

/-- END TO END: the child's standard descriptors are exactly the requested redirections, for EVERY request
    (`:in/:out/:err` each inherit, `:pipe`, `:out`, any core/file or core/stream handle — including handles that are
    themselves 0, 1 or 2 —, os/spawn and os/execute) and EVERY kernel that hands out descriptors that are not open
    (`Fresh`: 0, 1, 2 and the handles are open; `pipe()` / `fcntl(F_DUPFD, 3)` return unused numbers, the latter ≥ 3).
    When `os_execute_impl` (with the `src_handles` loop) reaches `posix_spawn`, the file actions it built succeed in the
    child, and when the new program starts, descriptor 0 / 1 / 2 is what the corresponding block asked for (`effIn/Out/Err`
    of the handles: the child's pipe end, the handle given, or its duplicate above 2), never close-on-exec; a direction
    that was not redirected keeps what the parent has; `:err :out` makes 2 what 1 is; and above 2 the child holds nothing
    that the parent did not already have open without close-on-exec. -/
theorem spawn_child_stdio_exact (rq : Req) (a : Proc.Ans) (t0 : Tab) (hf : Fresh rq a t0)
    (he : (setup true rq a t0).err = false) :
    let p := (setup true rq a t0).p
    let t := (setup true rq a t0).s.tab
    (osExecute true rq a t0).plumb = some p ∧ (osExecute true rq a t0).atSpawn = t ∧ (osExecute true rq a t0).acts = fileActions p ∧
    ∃ c, (osExecute true rq a t0).child = some c ∧
      c 0 = (match effIn p with | some s => (t s).map clearCx | none => t.exec 0) ∧
      c 1 = (match effOut p with | some s => (t s).map clearCx | none => t.exec 1) ∧
      c 2 = (match effErr p with
             | some s => (t s).map clearCx
             | none => if p.errIsOut then (redirected t (effOut p) 1).map clearCx else t.exec 2) ∧
      (∀ x, 2 < x → c x = t.exec x ∨ c x = none) := by
  intro p t
  have hs := setup_safe rq a t0 hf he
  obtain ⟨t', hr, h0, h1, h2, hx⟩ := child_stdio_exact p t hs
  have hpl : (osExecute true rq a t0).plumb = some p ∧ (osExecute true rq a t0).atSpawn = t ∧ (osExecute true rq a t0).acts = fileActions p := by
    unfold osExecute
    simp only [he, Bool.false_eq_true, if_false]
    by_cases h1 : a.spawnOk = true
    · by_cases h2 : rq.isSpawn = true
      · simp only [h1, h2, Bool.not_true, Bool.false_eq_true, if_false]
        split
        · exact ⟨rfl, rfl, rfl⟩
        · split
          · exact ⟨rfl, rfl, rfl⟩
          · split <;> exact ⟨rfl, rfl, rfl⟩
      · simp [h1, h2]; exact ⟨rfl, rfl, rfl⟩
    · simp [h1]; exact ⟨rfl, rfl, rfl⟩
  refine ⟨hpl.1, hpl.2.1, hpl.2.2, t'.exec, ?_, h0, h1, h2, hx⟩
  unfold Run.child
  rw [hpl.2.1, hpl.2.2, hr]
  rfl


/-- non-vacuity of `Fresh` and of the set-up succeeding: os/spawn {:in :pipe :out :pipe :err stdout} on a process with 0, 1, 2 open -/
def exRq : Req := ⟨true, .pipe, .pipe, .handle 1 true⟩
def exAns : Proc.Ans := ⟨some (3, 4), some (5, 6), none, none, none, some 7, true, none, none, some 8⟩

theorem exFresh : Fresh exRq exAns stdTab := by
  refine ⟨by decide, ?_, ?_, ?_, ?_, ?_, ?_, ?_⟩
  · intro fd h
    simp [exRq, Redir.handleFd] at h
    subst h; decide
  · intro r w h
    simp [Proc.Ans.isPipeAns, exAns] at h
    rcases h with ⟨rfl, rfl⟩ | ⟨rfl, rfl⟩ <;> decide
  · intro f h
    simp [Proc.Ans.isTmpAns, exAns] at h
    subst h; decide
  · intro r w r' w' h h'
    simp [exAns] at h h'
    obtain ⟨rfl, rfl⟩ := h; obtain ⟨rfl, rfl⟩ := h'; decide
  · intro r w r' w' h h'; simp [exAns] at h'
  · intro r w r' w' h h'; simp [exAns] at h'
  · intro r w f h h'
    simp [Proc.Ans.isPipeAns, Proc.Ans.isTmpAns, exAns] at h h'
    subst h'
    rcases h with ⟨rfl, rfl⟩ | ⟨rfl, rfl⟩ <;> decide

example : (setup true exRq exAns stdTab).err = false := by decide
example : ((osExecute true exRq exAns stdTab).child.map (fun c => [c.objAt 0, c.objAt 1, c.objAt 2, c.objAt 3, c.objAt 4, c.objAt 5, c.objAt 6, c.objAt 7])) =
    some [some (.pipeR 0), some (.pipeW 1), some (.orig 1), none, none, none, none, none] := by decide


/-- A process can be waited for once: after the first `os/proc-wait` (or the wait inside `os/proc-close`) every later
    `os/proc-wait` is refused with "cannot wait twice on a process", whatever happens in between (reaper callback,
    closes) — no second reaper thread is ever started for the same pid. -/
theorem wait_once (p : ProcSt) (ops : List ProcOp) (h : p.waited = true ∨ p.waiting = true) :
    ((p.run ops).1.waited = true ∨ (p.run ops).1.waiting = true) ∧
    ((p.run ops).1.step .wait).2 = .errWaitTwice := by
  have h' := ProcSt.run_inv (Q := fun p => p.waited = true ∨ p.waiting = true) ProcSt.step_waited ops p h
  refine ⟨h', ?_⟩
  rcases h' with h' | h' <;> simp [ProcSt.step, ProcSt.waitImpl, h']

/-- … and the first wait does start the reaper: a fresh process value suspends the caller. -/
theorem first_wait_suspends (p : ProcSt) (h1 : p.waited = false) (h2 : p.waiting = false) :
    (p.step .wait).2 = .suspended ∧ (p.step .wait).1.waiting = true := by
  simp [ProcSt.step, ProcSt.waitImpl, h1, h2]

/-- The reaper callback records the decoded status in the process value whether or not the waiting fiber can still
    be resumed (cancelled, timed out): `(proc :return-code)` is exact even when nobody received the result. -/
theorem reaped_status_recorded (p : ProcSt) (st : Int) (alive : Bool) :
    (p.step (.reaped st alive)).1.returnCode = some st ∧ (p.step (.reaped st alive)).1.waited = true ∧
    (p.step (.reaped st alive)).1.waiting = false ∧
    (p.step (.reaped st alive)).2 = (if alive then .resumed st else .dropped) := ⟨rfl, rfl, rfl, rfl⟩

/-- `os/proc-close` closes each pipe end the process value owns exactly once: the first close closes exactly the
    owned ends (in the order in, out, err), and no later operation sequence closes anything again (the OWNS flags are
    cleared) — a descriptor number is never closed twice, which after reuse would close somebody else's descriptor. -/
theorem close_closes_owned_once (p : ProcSt) (ops : List ProcOp) :
    let p1 := (p.step .close).1
    p1.closedFds = p.closedFds ++ ((if p.owns.1 then p.fds.1.toList else []) ++ (if p.owns.2.1 then p.fds.2.1.toList else []) ++
        (if p.owns.2.2 then p.fds.2.2.toList else [])) ∧
    (p1.run ops).1.closedFds = p1.closedFds := by
  exact ⟨p.step_close_fds.1, ProcSt.run_unowned _ p.step_close_fds.2 ops⟩

end Spawn

section Sockets
open JanetModel.Stream.Net

/-- net/connect completes or raises EXACTLY at the first event that is not in the callback's `return;` group, and never
    before: for every sequence of events and `SO_ERROR` answers, either only quiet events were delivered — then the fiber
    is still registered and no system call was made —, or the sequence splits at its first non-quiet event `ev`, the
    operation ends there (whatever follows is not delivered), a CLOSE raises "stream closed" without a system call, and
    any other event makes exactly one `getsockopt(SO_ERROR)`: the stream is returned iff the answer is (0, 0), otherwise
    the operation raises and the stream is marked JANET_STREAM_TOCLOSE.
    `quiet` / `closeEv` are the case groups regenerated from the source (Gen.Net.connectQuiet / connectClose). -/
theorem connect_ends_exactly_at_first_nonquiet_event (quiet closeEv : List Nat) (evs : List (AEv × SoAns)) :
    ((∀ p ∈ evs, p.1.code ∈ quiet) ∧ runConnect quiet closeEv evs = ⟨.pending, false, 0, evs.length⟩) ∨
    ∃ pre ev a post, evs = pre ++ (ev, a) :: post ∧ (∀ p ∈ pre, p.1.code ∈ quiet) ∧ ev.code ∉ quiet ∧
      (runConnect quiet closeEv evs).consumed = pre.length + 1 ∧ (runConnect quiet closeEv evs).res ≠ .pending ∧
      (ev.code ∈ closeEv → (runConnect quiet closeEv evs).res = .failed .closed ∧ (runConnect quiet closeEv evs).asks = 0) ∧
      (ev.code ∉ closeEv → (runConnect quiet closeEv evs).asks = 1 ∧
        ((runConnect quiet closeEv evs).res = .connected ↔ a = .ok 0) ∧
        ((runConnect quiet closeEv evs).toclose = true ↔ a ≠ .ok 0)) := by
  rcases split_quiet quiet evs with h | ⟨pre, ev, a, post, e, hpre, hev⟩
  · exact Or.inl ⟨h, runConnect_quiet quiet closeEv evs h⟩
  · right
    refine ⟨pre, ev, a, post, e, hpre, hev, ?_⟩
    have hr := runConnect_first quiet closeEv pre post ev a hpre hev
    rw [e, hr]
    by_cases hc : ev.code ∈ closeEv
    · rw [connectStep_close quiet closeEv ev a hev hc]
      exact ⟨rfl, by simp, fun _ => ⟨rfl, rfl⟩, fun h => absurd hc h⟩
    · obtain ⟨h1, h2, h3, h4, _, _⟩ := connectStep_check quiet closeEv ev a hev hc
      refine ⟨rfl, h2, fun h => absurd h hc, fun _ => ⟨?_, h3, h4⟩⟩
      show (if (connectStep quiet closeEv ev a).asked = true then 1 else 0) = 1
      rw [h1]; rfl

/-- A garbage collection never completes a connect: when the source puts INIT, MARK and DEINIT into the quiet group
    (hypothesis, discharged from the regenerated `Gen.Net.connectQuiet` in Stream/NetCurrent.lean), any number of GC mark
    visits of the waiting fiber — with whatever `SO_ERROR` would say at that moment — leaves the operation pending and makes
    no system call. -/
theorem connect_unaffected_by_gc (quiet closeEv : List Nat)
    (hq : AEv.init.code ∈ quiet ∧ AEv.mark.code ∈ quiet ∧ AEv.deinit.code ∈ quiet) (evs : List (AEv × SoAns))
    (h : ∀ p ∈ evs, p.1 = .init ∨ p.1 = .mark ∨ p.1 = .deinit) :
    runConnect quiet closeEv evs = ⟨.pending, false, 0, evs.length⟩ := by
  apply runConnect_quiet
  intro p hp
  rcases h p hp with e | e | e <;> rw [e]
  · exact hq.1
  · exact hq.2.1
  · exact hq.2.2

/-- the missing case of the source as found (`connectQuiet = [INIT, DEINIT]`): the collector's MARK visit of a fiber
    waiting in net/connect runs the `SO_ERROR` check; while the handshake is still in progress that reports 0, so the
    connect "completes" in the middle of a garbage collection although no readiness event was delivered.  Replayed on the
    implementation (direct oracle `connect-completes-during-gc`). -/
theorem connect_completes_during_gc :
    runConnect [0, 2] [3] [(.init, .ok 0), (.mark, .ok 0)] = ⟨.connected, false, 1, 2⟩ ∧
    runConnect [1, 0, 2] [3] [(.init, .ok 0), (.mark, .ok 0)] = ⟨.pending, false, 0, 2⟩ := by decide

/-- net/accept and net/accept-loop deliver every accepted connection exactly once: whatever events arrive and whatever
    `accept4` answers, the descriptors the kernel handed to the operation are — in order — exactly those passed to handler
    fibers followed by the one returned; an accept-loop never returns a connection to its caller, a single accept never
    spawns a handler (so it takes at most one connection, the one it returns). -/
theorem accept_delivers_every_connection_once (tryEv closeEv : List Nat) (loop : Bool) (evs : List (AEv × AccAns)) :
    let t := runAccept tryEv closeEv loop evs
    t.taken = t.handlers ++ (match t.res with | .accepted fd => [fd] | _ => []) ∧
    (loop = true → ∀ fd, t.res ≠ .accepted fd) ∧ (loop = false → t.handlers = []) :=
  runAccept_conserves tryEv closeEv loop evs

/-- a GC mark visit (or any event outside the try / close groups) does nothing to a pending accept -/
theorem accept_unaffected_by_gc (tryEv closeEv : List Nat) (loop : Bool) (a : AccAns)
    (h : AEv.mark.code ∉ tryEv ∧ AEv.mark.code ∉ closeEv) :
    acceptStep tryEv closeEv loop .mark a = ⟨.pending, none, false⟩ := acceptStep_other tryEv closeEv loop .mark a h.2 h.1

/-- accept-loop against the kernel, safety: for every order of arrivals, loop iterations and (refused) further
    net/accept-loop calls, the connections handed to handlers followed by those still queued are exactly the arrivals, in
    arrival order. -/
theorem accept_loop_conserves (lv it : Bool) (es : List LEv) (h : noSingle es = true) :
    (lrun lv it LSt.init es).handled ++ (lrun lv it LSt.init es).q = arrivals es := by
  have := lrun_loop_conserves lv it es [] LSt.init ⟨rfl, rfl, rfl⟩ h
  simpa using this.cons

/-- accept-loop, LIVENESS with fairness as hypothesis: the listener of an accept loop is level-triggered
    (`janet_sched_accept`: `if (fun) janet_stream_level_triggered(stream)`; Gen.Net.acceptLoopLevelTriggered), so on every
    infinite schedule in which the event loop keeps iterating, every connection that arrives while the loop is registered
    is eventually handed to a handler — however many connections arrive between two iterations. -/
theorem accept_loop_serves_every_connection (it : Bool) (sched : Nat → LEv) (fair : ∀ k, ∃ j, k ≤ j ∧ sched j = .poll)
    (i c : Nat) (hi : sched i = .arrive c) (hloop : (lrun true it LSt.init (prefixOf sched i)).loopOn = true) :
    ∃ m, c ∈ (lrun true it LSt.init (prefixOf sched m)).handled :=
  level_serves_every_connection it sched fair i c hi hloop

/-- why the switch to level-triggered is needed: on the default EPOLLET registration two connections arriving between
    two loop iterations give ONE readiness report, the callback accepts one connection per report, and the second
    connection is never served, however many iterations follow. -/
theorem accept_loop_edge_triggered_strands (it : Bool) (n : Nat) :
    (lrun false it LSt.init ([.startLoop, .arrive 1, .arrive 2, .poll] ++ List.replicate n .poll)).handled = [1] ∧
    (lrun false it LSt.init ([.startLoop, .arrive 1, .arrive 2, .poll] ++ List.replicate n .poll)).q = [2] :=
  edge_strands it n

/-- single net/accept on the edge-triggered listener is never stranded: because the INIT event already tries `accept4`
    (`initTries`; Gen.Net.acceptTry contains INIT), in every reachable state a waiting accept with a non-empty queue has an
    unreported readiness edge — the next loop iteration serves it. -/
theorem accept_waiting_has_edge (lv : Bool) (es : List LEv) (hn : ∀ e ∈ es, e ≠ .startLoop) :
    AcceptInv (lrun lv true LSt.init es) ∧ (lrun lv true LSt.init es).loopOn = false := by
  exact lrun_acceptInv lv es LSt.init (fun _ hw _ => by simp [LSt.init] at hw) rfl hn

/-- … and WITHOUT the try at INIT (a callback that waits for the first READ event, as the connect callback does) a
    connection that is already queued when net/accept is called would never be reported: witness. -/
theorem accept_without_init_try_strands (n : Nat) :
    (lrun true false LSt.init ([.arrive 7, .poll, .startAccept] ++ List.replicate n .poll)).returned = [] := by
  rw [lrun_append true false [.arrive 7, .poll, .startAccept] (List.replicate n .poll) LSt.init]
  have h0 : lrun true false LSt.init [.arrive 7, .poll, .startAccept] = ⟨[7], false, false, true, [], []⟩ := by decide
  rw [h0]
  induction n with
  | zero => rfl
  | succ k ih =>
    simp only [List.replicate_succ, lrun]
    have : lstep true false ⟨[7], false, false, true, [], []⟩ .poll = ⟨[7], false, false, true, [], []⟩ := by decide
    rw [this]; exact ih

/-- net/connect, synchronous part: `connect()` is retried while it is interrupted; the first other answer decides — success
    or EINPROGRESS registers the fiber for the WRITE event (`connect_ends_exactly_at_first_nonquiet_event` takes over) and
    closes nothing; any other error raises and closes the stream, hence the descriptor, EXACTLY ONCE (the stream owns it;
    a second `close` would hit a reused descriptor number). -/
theorem connect_call_exact (pre post : List ConnAns) (a : ConnAns) (hpre : ∀ x ∈ pre, x = .eintr) (ha : a ≠ .eintr) :
    connectCall (pre ++ a :: post) =
      ⟨(match a with | .err e => .raised e | _ => .registered), pre.length + 1, (match a with | .err _ => 1 | _ => 0)⟩ :=
  connectCall_first pre post a hpre ha

example : connectCall [.eintr, .eintr, .err 111, .ok] = ⟨.raised 111, 3, 1⟩ := by decide
example : connectCall [.eintr, .inprogress] = ⟨.registered, 2, 0⟩ := by decide

-- non-vacuity
example : (runAccept [0, 6] [3] true [(.init, .fail 11), (.read, .conn 9), (.mark, .conn 4), (.read, .conn 10), (.close, .fail 0)]).handlers = [9, 10] := by decide
example : (runAccept [0, 6] [3] false [(.init, .fail 11), (.hup, .conn 4), (.read, .conn 9), (.read, .conn 10)]) = ⟨.accepted 9, [], [9], 2, 3⟩ := by decide
example : (lrun true true LSt.init [.startLoop, .arrive 1, .arrive 2, .poll, .poll]).handled = [1, 2] := by decide
example : (lrun true true LSt.init [.arrive 7, .poll, .startAccept]).returned = [7] := by decide
example : runConnect [1, 0, 2] [3] [(.init, .ok 0), (.mark, .ok 0), (.write, .ok 111), (.hup, .ok 0)] = ⟨.failed (.soError 111), true, 1, 3⟩ := by decide

/-- `net/send-to`, one datagram per call: against a kernel that sends datagrams atomically (answers with the whole
    length or fails) the operation ends with the first answered call — after any EINTR retries before it —, that call asked
    for the whole message at offset 0, and nothing is sent twice. -/
theorem sendto_one_datagram_per_call (len m : Nat) (as : List Ans) (hl : 0 < len) (hm : len ≤ m) :
    (writeEvent len true 0 (.bytes m :: as)).res = .done ∧ (writeEvent len true 0 (.bytes m :: as)).calls = [⟨0, len, len⟩] ∧
    (writeEvent len true 0 (.eintr :: .bytes m :: as)).res = .done ∧
    (writeEvent len true 0 (.eintr :: .bytes m :: as)).calls = [⟨0, len, 0⟩, ⟨0, len, len⟩] := by
  have h1 : min m len = len := Nat.min_eq_right hm
  have h2 : ¬ len = 0 := by omega
  simp [writeEvent, writeCall, hl, h1, h2]

/-- `(ev/read stream :all)` = chunked read of 2^31-1 bytes: a chunked read that asks for more than will ever arrive
    never returns "full"; when it returns a buffer the stream has ended (or reported an error condition) and the buffer
    holds exactly the bytes taken from the kernel, which are a prefix of the arrival sequence with nothing lost. -/
theorem read_all_returns_everything_before_eof {α : Type} (limC base n : Nat) (inc : List α) (evs : List REv) (r : RReason)
    (hn : inc.length < n) :
    let t := runRead true false limC base (rInit n inc) evs
    t.res = .buf r → (r = .eof ∨ r = .errEvent) ∧ t.st.got ++ t.st.inc = inc := by
  intro t hr
  have h1 := read_at_most_n true false limC base n inc evs
  have h2 := chunk_exact_unless_eof false limC base n inc evs r hr
  refine ⟨?_, h1.2.1⟩
  rcases h2 with ⟨_, hfull⟩ | h | h
  · exfalso
    have h3 : (t.st.got ++ t.st.inc).length = inc.length := by rw [h1.2.1]
    rw [List.length_append] at h3
    have h4 : t.st.got.length = n := hfull
    omega
  · exact Or.inl h
  · exact Or.inr h

end Sockets

section Shared
open JanetModel.Stream.Compose

/-- ISOLATION (any callback machine `step`, ending on CLOSE).  With the slot guards of `janet_async_start_fiber`, an
    operation that was admitted to its slot behaves, under EVERY continuation of the schedule — other fibers starting
    operations in either direction, readiness events in either direction, close —, exactly like the same machine run
    ALONE on the events dispatched in its direction (`foldOp step s (evsOf …)`): still registered with that state while
    the lone run is pending, recorded as ended with the lone run's final state otherwise.  Hence every single-operation
    theorem above holds for each operation on a shared stream. -/
theorem shared_stream_isolation {σ ε : Type} (step : σ → ε → σ × Bool) (c : ε) (hclose : ∀ s, (step s c).2 = true)
    (f : Nat) (d : Dir) (as : List (Act2 σ ε)) (w : W2 σ) (s : σ) (hinv : Inv2 w) (ho : w.op f = some (d, s)) :
    ((foldOp step s (evsOf c d as)).2 = false → (run2 step c w as).op f = some (d, (foldOp step s (evsOf c d as)).1)) ∧
    ((foldOp step s (evsOf c d as)).2 = true → (f, d, (foldOp step s (evsOf c d as)).1) ∈ (run2 step c w as).done) := by
  have h := isolation step c f d as w s hinv ho
  rw [track_eq_foldOp step c d hclose as s] at h
  exact h

/-- the invariant that makes isolation applicable is established by the machine itself from the empty stream -/
theorem shared_stream_invariant {σ ε : Type} (step : σ → ε → σ × Bool) (c : ε) (as : List (Act2 σ ε)) :
    Inv2 (run2 step c W2.init as) :=
  run2_inv step c as W2.init (fun f d s h => by simp [W2.init] at h)

/-- several writers on ONE stream: while a write is pending, a write (or any operation in the write direction) by
    another fiber is REFUSED — the fiber raises "cannot listen for duplicate event on stream" — and nothing else changes:
    slot, pending operation, its offset and call log stay as they are.  Per-writer byte order on a shared stream is thus
    enforced by exclusion, not by queueing; programs that need several concurrent writers must serialise them. -/
theorem concurrent_writer_refused {σ ε : Type} (step : σ → ε → σ × Bool) (c : ε) (w : W2 σ) (f g : Nat) (d : Dir) (s s0 : σ) (e0 : ε)
    (h : Inv2 w) (ho : w.op f = some (d, s)) (hg : g ≠ f) (hgp : w.op g = none) (hc : w.closed = false) :
    step2 step c w (.start g d s0 e0) = { w with refused := w.refused ++ [g] } :=
  concurrent_start_refused step c w f g d s s0 e0 h ho hg hgp hc

/-- SHARED STREAM, writes, all schedules: the pending write of fiber `f` makes exactly the system calls of `runWrite`
    against the write-direction events of the schedule and ends with its result; the bytes handed to the kernel are a
    prefix of the source, in order, each once — all of them on success —, whatever other fibers do on the stream. -/
theorem shared_stream_write_delivers_in_order {α : Type} (src : List α) (dgram : Bool) (f : Nat) (as : List (Act2 WS WEv)) (w : W2 WS)
    (hinv : Inv2 w) (ho : w.op f = some (.wr, ⟨src.length, dgram, 0, [], .pending⟩)) :
    let t := runWrite src.length dgram 0 (evsOf .close .wr as)
    (t.res = .pending → ∃ s, (run2 wstep .close w as).op f = some (.wr, s) ∧ s.start = t.start ∧ s.calls = t.calls) ∧
    (t.res ≠ .pending → ∃ s, (f, .wr, s) ∈ (run2 wstep .close w as).done ∧ s.start = t.start ∧ s.calls = t.calls ∧ s.res = t.res) ∧
    delivered src t.calls = src.take (sumGot t.calls) ∧ (dgram = false → t.res = .done → delivered src t.calls = src) :=
  shared_stream_write_exact src dgram f as w hinv ho

/-- LIVENESS OF THE WHOLE SYSTEM with fairness as explicit hypothesis: on every infinite schedule of a shared stream
    in which productive write-direction events (the kernel transfers ≥ 1 byte or fails; error / hang-up / close) keep
    coming and every call is answered, the pending write of fiber `f` has ended after a finite prefix — whatever the
    other fibers do.  (`fair` is the kernel's side of the contract; it is what remains assumed.) -/
theorem shared_stream_write_terminates_under_fairness (len : Nat) (dgram : Bool) (f : Nat) (sched : Nat → Act2 WS WEv) (w : W2 WS)
    (hinv : Inv2 w) (ho : w.op f = some (.wr, ⟨len, dgram, 0, [], .pending⟩))
    (hc : ∀ i e, sched i = .ev .wr e → e.complete = true)
    (fair : ∀ k, ∃ j, k ≤ j ∧ fairAct (sched j) = true) :
    ∃ m s, (f, Dir.wr, s) ∈ (run2 wstep .close w (prefixOf sched m)).done ∧ s.res.ended = true :=
  shared_stream_write_ends_under_fairness len dgram f sched w hinv ho hc fair

-- non-vacuity: fiber 0 writes 10 bytes (3 accepted at INIT), fiber 1 tries to write meanwhile (refused), fiber 2 reads
-- (admitted: other direction), then the kernel takes the remaining 7 bytes: fiber 0's write is done with offset 10
def exSched : List (Act2 WS WEv) :=
  [.start 0 .wr ⟨10, false, 0, [], .pending⟩ (.ready [.bytes 3]), .start 1 .wr ⟨5, false, 0, [], .pending⟩ (.ready [.bytes 5]),
   .start 2 .rd ⟨1, false, 0, [], .pending⟩ (.ready [.eagain]), .ev .wr (.ready [.eintr, .bytes 100])]
example : (run2 wstep .close W2.init exSched).refused = [1] := by decide
example : (run2 wstep .close W2.init exSched).done.map (fun x => (x.1, x.2.2.start, x.2.2.calls)) =
    [(0, 10, [⟨0, 10, 3⟩, ⟨3, 7, 0⟩, ⟨3, 7, 7⟩])] := by decide
example : ((run2 wstep .close W2.init exSched).op 2).isSome = true := by decide
example : fairAct (.ev .wr (.ready [.eintr, .bytes 1])) = true ∧ fairAct (.ev .wr (.ready [.eagain])) = false := by decide

/-- SHARED STREAM, reads, all schedules (the read counterpart of `shared_stream_write_delivers_in_order`). -/
theorem shared_stream_read_in_order {α : Type} (chunk recvfrom : Bool) (limC base n : Nat) (inc : List α) (f : Nat)
    (as : List (Act2 (RS α) REv)) (w : W2 (RS α)) (hinv : Inv2 w)
    (ho : w.op f = some (.rd, ⟨chunk, recvfrom, limC, base, rInit n inc, [], .pending⟩)) :
    let t := runRead chunk recvfrom limC base (rInit n inc) (evsOf .close .rd as)
    (t.res = .pending → ∃ s, (run2 rstep .close w as).op f = some (.rd, s) ∧ s.st = t.st ∧ s.calls = t.calls) ∧
    (t.res ≠ .pending → ∃ s, (f, .rd, s) ∈ (run2 rstep .close w as).done ∧ s.st = t.st ∧ s.calls = t.calls ∧ s.res = t.res) ∧
    t.st.got.length ≤ n ∧ t.st.got ++ t.st.inc = inc :=
  shared_stream_read_exact chunk recvfrom limC base n inc f as w hinv ho

/-- system-level liveness for reads, fairness of the kernel as explicit hypothesis -/
theorem shared_stream_read_terminates_under_fairness {α : Type} (chunk recvfrom : Bool) (limC base n : Nat) (inc : List α) (f : Nat)
    (sched : Nat → Act2 (RS α) REv) (w : W2 (RS α)) (hinv : Inv2 w)
    (ho : w.op f = some (.rd, ⟨chunk, recvfrom, limC, base, rInit n inc, [], .pending⟩))
    (hc : ∀ i e, sched i = .ev .rd e → e.closed = true)
    (fair : ∀ k, ∃ j, k ≤ j ∧ fairActR (sched j) = true) :
    ∃ m s, (f, Dir.rd, s) ∈ (run2 rstep .close w (prefixOf sched m)).done ∧ s.res.ended = true :=
  shared_stream_read_ends_under_fairness chunk recvfrom limC base n inc f sched w hinv ho hc fair

/-- closing a shared stream wakes everybody: in every reachable state, after `janet_stream_close` no fiber has an
    operation pending on the stream (each registered callback got its CLOSE event: the reader returns nil, the writer
    raises "stream closed" — `close_wakes_pending_op`), for any callback machines. -/
theorem shared_stream_close_wakes_all {σ ε : Type} (step : σ → ε → σ × Bool) (c : ε) (as : List (Act2 σ ε)) (g : Nat) :
    (run2 step c W2.init (as ++ [.close])).op g = none := by
  rw [run2_append]
  exact close_leaves_nothing_pending step c _ (shared_stream_invariant step c as) g

example : ((run2 wstep .close W2.init (exSched ++ [.close])).done.map (fun x => (x.1, x.2.2.res))) = [(0, .done), (2, .failed .closed)] := by decide

/-- REFINEMENT of the registry by the composed machine: for every schedule of the shared stream (any machines) there is a
    schedule of registry actions of the same length — start / ready / close with the `fin` flags the machines decided —
    along which the listener-slot model `World` (the model that `every_op_completes_or_errors` is about and that the `S`
    correspondence compares with the implementation) and the composed machine agree on both slots, on who waits in which
    direction, and on closedness. -/
theorem shared_stream_refines_registry {σ ε : Type} (step : σ → ε → σ × Bool) (c : ε) (as : List (Act2 σ ε)) :
    ∃ as' : List Act, as'.length = as.length ∧
      coreOfWorld (World.run true true World.init as') = coreOfW2 (run2 step c W2.init as) :=
  run2_refines step c as W2.init World.init rfl (fun d f h => by simp [W2.init] at h)

end Shared

/-! ## Readiness dispatch of `janet_loop1_impl` (epoll): one event WORD → ordered callback events, composed with the
read / write machines.  `tbl` is the per-flag-combination delivery table (regenerated: `Gen.Dispatch.table`); the hypotheses
`dataFirst` / `outFirst` are decidable facts about the table, discharged for the current source in Stream/DispatchCurrent.lean. -/
section Dispatch

/-- COMPOSITION: for ANY delivery table, a read operation driven by epoll event words is a run of the callback-level
    machine `runRead` on the event sequence the table prescribes (each read-loop event sees the answers not yet consumed) —
    so every theorem about `runRead` (all event sequences) holds for every sequence of epoll words. -/
theorem read_words_refine_events {α : Type} (tbl : DTable) (chunk recvfrom : Bool) (limC base : Nat) (st : RSt α) (es : List WordEv) :
    runReadWords tbl chunk recvfrom limC base st es =
      runRead chunk recvfrom limC base st (readWordsEvs tbl chunk recvfrom limC base st es) :=
  runReadWords_eq_runRead tbl chunk recvfrom limC base es st

/-- … in particular `read_at_most_n` at the level of epoll words, for any table: at most `n` bytes, exactly the next bytes of the
    arrival sequence, none lost from the kernel's queue, none twice. -/
theorem read_words_at_most_n {α : Type} (tbl : DTable) (chunk recvfrom : Bool) (limC base n : Nat) (inc : List α) (es : List WordEv) :
    let t := runReadWords tbl chunk recvfrom limC base (rInit n inc) es
    t.st.got.length ≤ n ∧ t.st.got ++ t.st.inc = inc ∧ t.st.got.length = t.st.read := by
  rw [read_words_refine_events]
  exact read_at_most_n chunk recvfrom limC base n inc _

/-- NO BYTE THE KERNEL REPORTED READABLE IS DROPPED.  If the dispatch delivers data first (`dataFirst tbl`), then for every
    epoll word containing EPOLLIN — alone or together with EPOLLERR / EPOLLHUP / EPOLLOUT in any combination — delivered to a
    pending stream read (any state reachable for a read of `n` bytes of the arrival sequence `inc0`, room left), when the
    kernel has bytes queued and answers the read call with data: the operation takes at least one of those bytes BEFORE any
    error / hang-up event of the same word can end it, it does not end with nil (end-of-stream), and what it has appended
    is still a prefix of the arrival sequence (`got ++ still-queued = inc0`). -/
theorem readable_byte_never_dropped {α : Type} (tbl : DTable) (hd : dataFirst tbl = true)
    (chunk : Bool) (limC base n : Nat) (inc0 : List α) (st : RSt α) (hinv : RInv n inc0 st)
    (hl : 0 < st.left) (hc : 0 < limC) (hq : st.inc ≠ [])
    (w : Nat) (hw : hasBit (w % 16) wIN = true) (m : Nat) (hm : 0 < m) (as : List Ans) :
    let o := readWord tbl chunk false limC base st ⟨w, .bytes m :: as⟩
    st.got.length < o.st.got.length ∧ o.res ≠ .nil false ∧ o.st.got ++ o.st.inc = inc0 := by
  obtain ⟨ks, hks⟩ := dataFirst_head tbl hd w hw
  have hi := readDeliver_inv chunk false limC base n inc0 (kindsFor tbl 0 w) st (.bytes m :: as) hinv
  have hp := readDeliver_post chunk false limC base (kindsFor tbl 0 w) st (.bytes m :: as)
  have hprog : st.read < (readDeliver chunk false limC base st (kindsFor tbl 0 w) (.bytes m :: as)).st.read := by
    rw [hks]
    exact Nat.lt_of_lt_of_le (readLoop_bytes_progress chunk false limC base st m as hm hl hc hq)
      (readDeliver_read_first chunk false limC base st ks _).1
  dsimp only [readWord]
  generalize readDeliver chunk false limC base st (kindsFor tbl 0 w) (.bytes m :: as) = o at hi hp hprog
  refine ⟨?_, ?_, hi.order⟩
  · have := hi.len; have := hinv.len; omega
  · intro hn
    rw [hn] at hp
    have h0 : o.st.read = 0 := hp
    omega

/-- … and when such a word ends a read with nil although nothing was read, the descriptor WAS read from in this very
    word first (the nil is the kernel's own end-of-stream / would-block answer followed by the error condition, never the
    error condition alone). -/
theorem nil_at_readable_word_only_after_reading {α : Type} (tbl : DTable) (hd : dataFirst tbl = true)
    (chunk recvfrom : Bool) (limC base : Nat) (st : RSt α) (w : Nat) (hw : hasBit (w % 16) wIN = true) (a : Ans) (as : List Ans) :
    (readWord tbl chunk recvfrom limC base st ⟨w, a :: as⟩).calls ≠ [] := by
  obtain ⟨ks, hks⟩ := dataFirst_head tbl hd w hw
  obtain ⟨cs, hcs⟩ := (readDeliver_read_first chunk recvfrom limC base st ks (a :: as)).2
  rw [readWord, hks, hcs]
  exact fun h => readLoop_calls_ne chunk recvfrom limC base st a as (List.append_eq_nil_iff.mp h).1

/-- the order of the kqueue back end put into the epoll dispatch (seeded mutation C16-7): error first -/
def errFirstTable : DTable :=
  [(0, []), (1, [(0, 0)]), (2, [(1, 1)]), (3, [(0, 0), (1, 1)]), (4, [(0, 2), (1, 2)]), (5, [(0, 2), (0, 0), (1, 2)]),
   (6, [(0, 2), (1, 2), (1, 1)]), (7, [(0, 2), (0, 0), (1, 2), (1, 1)]), (8, [(0, 3), (1, 3)]), (9, [(0, 0), (0, 3), (1, 3)]),
   (10, [(0, 3), (1, 1), (1, 3)]), (11, [(0, 0), (0, 3), (1, 1), (1, 3)]), (12, [(0, 2), (0, 3), (1, 2), (1, 3)]),
   (13, [(0, 2), (0, 0), (0, 3), (1, 2), (1, 3)]), (14, [(0, 2), (0, 3), (1, 2), (1, 1), (1, 3)]),
   (15, [(0, 2), (0, 0), (0, 3), (1, 2), (1, 1), (1, 3)])]

/-- WITNESS (why `dataFirst` is needed): with ERR delivered before READ, a reader suspended when EPOLLIN|EPOLLERR arrive in one
    word is told end-of-stream although three bytes are queued and the kernel would hand them out — they are never read. -/
theorem err_first_drops_readable_bytes :
    dataFirst errFirstTable = false ∧
    (readWord errFirstTable false false 4096 0 (rInit 10 [1, 2, 3]) ⟨wIN + wERR, [.bytes 3]⟩).res = .nil false ∧
    (readWord errFirstTable false false 4096 0 (rInit 10 [1, 2, 3]) ⟨wIN + wERR, [.bytes 3]⟩).st.got = [] ∧
    (readWord errFirstTable false false 4096 0 (rInit 10 [1, 2, 3]) ⟨wIN + wERR, [.bytes 3]⟩).st.inc = [1, 2, 3] := by decide

/-- COMPOSITION, write side: a write driven by epoll words is a `runWrite` run, for any table … -/
theorem write_words_refine_events (tbl : DTable) (len : Nat) (dgram : Bool) (start : Nat) (es : List WordEv) :
    runWriteWords tbl len dgram start es = runWrite len dgram start (writeWordsEvs tbl len dgram start es) :=
  runWriteWords_eq_runWrite tbl len dgram es start

/-- … so `write_delivers_all_in_order` holds for every sequence of epoll words (after the INIT attempt `init`). -/
theorem write_words_deliver_all_in_order {α : Type} (tbl : DTable) (src : List α) (init : List Ans) (es : List WordEv) :
    let t := runWrite src.length false 0 (.ready init :: writeWordsEvs tbl src.length false
                (writeEvent src.length false 0 init).start es)
    delivered src t.calls = src.take t.start ∧ t.start ≤ src.length ∧ (t.res = .done → delivered src t.calls = src) := by
  have h := write_delivers_all_in_order src (.ready init :: writeWordsEvs tbl src.length false (writeEvent src.length false 0 init).start es)
  exact ⟨h.1, h.2.1, h.2.2.2⟩

/-- If the dispatch tries the write first (`outFirst tbl`): for every word containing EPOLLOUT (also together with EPOLLERR /
    EPOLLHUP), when the kernel accepts the whole remainder, the write COMPLETES — an error condition reported in the same
    word does not turn bytes the kernel accepted into a failed operation. -/
theorem accepted_write_completes (tbl : DTable) (ho : outFirst tbl = true) (len start : Nat) (hs : start < len)
    (w : Nat) (hw : hasBit (w % 16) wOUT = true) (m : Nat) (hm : len - start ≤ m) (as : List Ans) :
    (writeWord tbl len false start ⟨w, .bytes m :: as⟩).res = .done ∧
    (writeWord tbl len false start ⟨w, .bytes m :: as⟩).start = len := by
  obtain ⟨ks, hks⟩ := outFirst_head tbl ho w hw
  have hk : min m (len - start) = len - start := Nat.min_eq_right hm
  have hpos : len - start > 0 := by omega
  have hst : (if len - start > 0 then start + (len - start) else len) = len := by rw [if_pos hpos]; omega
  have hne' : ¬ (len - start = 0 ∧ True) := by omega
  simp only [writeWord, hks, writeDeliver, writeKind, kWRITE, if_true, writeEvent, if_pos hs, writeCall, hk, if_neg hne', hst,
    ge_iff_le, Nat.le_refl]
  exact ⟨trivial, trivial⟩

/-- a data-first order (that of the epoll back end) — for the non-vacuity examples; the obligations
    over the CURRENT source use the regenerated `Gen.Dispatch.table` (Stream/DispatchCurrent.lean) -/
def dataFirstTable : DTable :=
  [(0, []), (1, [(0, 0)]), (2, [(1, 1)]), (3, [(0, 0), (1, 1)]), (4, [(0, 2), (1, 2)]), (5, [(0, 0), (0, 2), (1, 2)]),
   (6, [(0, 2), (1, 1), (1, 2)]), (7, [(0, 0), (0, 2), (1, 1), (1, 2)]), (8, [(0, 3), (1, 3)]), (9, [(0, 0), (0, 3), (1, 3)]),
   (10, [(0, 3), (1, 1), (1, 3)]), (11, [(0, 0), (0, 3), (1, 1), (1, 3)]), (12, [(0, 2), (0, 3), (1, 2), (1, 3)]),
   (13, [(0, 0), (0, 2), (0, 3), (1, 2), (1, 3)]), (14, [(0, 2), (0, 3), (1, 1), (1, 2), (1, 3)]),
   (15, [(0, 0), (0, 2), (0, 3), (1, 1), (1, 2), (1, 3)])]
example : dataFirst dataFirstTable = true ∧ outFirst dataFirstTable = true ∧ condReaches dataFirstTable = true ∧
    noSpurious dataFirstTable = true ∧ tableComplete dataFirstTable = true := by decide
example : (readWord dataFirstTable true false 4096 0 (rInit 10 [1, 2, 3]) ⟨wIN + wERR + wHUP, [.bytes 3, .eagain]⟩).res = .buf .errEvent ∧
    (readWord dataFirstTable true false 4096 0 (rInit 10 [1, 2, 3]) ⟨wIN + wERR + wHUP, [.bytes 3, .eagain]⟩).st.got = [1, 2, 3] := by decide
example : (writeWord dataFirstTable 5 false 2 ⟨wOUT + wERR, [.bytes 3]⟩).res = .done := by decide
example : (writeWord dataFirstTable 5 false 2 ⟨wOUT + wERR, [.bytes 2]⟩).res = .failed .streamErr := by decide
example : RInv 10 [1, 2, 3] (rInit 10 [1, 2, 3]) := ⟨rfl, rfl, rfl⟩

end Dispatch

end JanetModel.Props.C16
