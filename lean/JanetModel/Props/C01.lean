/-
C01 — garbage collection is transparent and never frees a reachable object: the property theorems, with the
concrete heaps and programs that show their hypotheses can be met.
Model: JanetModel/GC/Model.lean (mirrors src/core/gc.c); tie: Gen/GC.lean (regenerated) + harness/C01 (heap dumps).
-/
import JanetModel.GC.Collect
import JanetModel.GC.Mutator
import JanetModel.GC.Locked
import JanetModel.GC.WeakLemmas
import JanetModel.GC.RingMark
import JanetModel.GC.SymSweep
import JanetModel.GC.ParserMark
import JanetModel.GC.RootWin

namespace JanetModel.Props.C01
open JanetModel.GC Std

/-- The mark phase never runs out of the model's fuel and leaves nothing spilled: the recursion (bounded by the depth
counter, spilling to the root list) and the drain loop terminate for every heap and every depth limit. -/
theorem mark_terminates (h : Heap) (D : Nat) (hD : 1 ≤ D) : (mark D h).stuck = false ∧ (mark D h).spill = [] :=
  ⟨(mark_inv h D hD).1.stuck, (mark_inv h D hD).2⟩

/-- The marked set is exactly the set of reachable blocks — for every depth limit `D ≥ 1`, in particular independent of
`D`: values spilled to the root list when the counter hits 0 are not lost. -/
theorem mark_eq_reachable (h : Heap) (D : Nat) (hD : 1 ≤ D) (i : Id) :
    (mark D h).marked.contains i = true ↔ Reachable h i :=
  ⟨mark_sound h D hD i, mark_complete h D hD i⟩

theorem recursionGuard_pos : 1 ≤ Gen.GC.recursionGuard := by decide

/-- instance used by the implementation: D = JANET_RECURSION_GUARD (regenerated from janet.h) -/
theorem mark_eq_reachable_impl (h : Heap) (i : Id) :
    (mark Gen.GC.recursionGuard h).marked.contains i = true ↔ Reachable h i :=
  mark_eq_reachable h _ recursionGuard_pos i

/-- A collection keeps every reachable block, with its kind and strong references intact. -/
theorem collect_keeps_reachable (h : Heap) (D : Nat) (hD : 1 ≤ D) (i : Id) (r : Reachable h i) :
    ∃ o o', h.get i = some o ∧ (collect D h).get i = some o' ∧ o'.kind = o.kind ∧ o'.strong = o.strong := by
  obtain ⟨o, hx⟩ := Option.isSome_iff_exists.mp r.isSome
  exact ⟨o, _, hx, collect_get_of_reachable hD r hx, rfl, rfl⟩

/-- Only unreachable blocks are freed. -/
theorem collect_frees_only_unmarked (h : Heap) (D : Nat) (hD : 1 ≤ D) (i : Id) (o : Obj) (hx : h.get i = some o)
    (hfreed : (collect D h).get i = none) : (mark D h).marked.contains i = false ∧ ¬ Reachable h i := by
  have c : (mark D h).marked.contains i = false := by
    have := collect_isSome D h i
    simp only [hfreed, hx, Option.isSome_some, Option.isSome_none, Bool.true_and] at this
    exact this.symm
  exact ⟨c, fun r => Bool.noConfusion (c.symm.trans (mark_complete h D hD i r))⟩

/-- and every unreachable block is freed (no floating garbage in the model) -/
theorem collect_frees_unreachable (h : Heap) (D : Nat) (hD : 1 ≤ D) (i : Id) (hn : ¬ Reachable h i) :
    (collect D h).get i = none := by
  have c : (mark D h).marked.contains i = false := Bool.eq_false_iff.mpr fun c => hn (mark_sound h D hD i c)
  exact Option.isNone_iff_eq_none.mp (Option.isSome_eq_false_iff.mp ((collect_isSome D h i).trans (by rw [c, Bool.and_false])))

/-- After a collection no surviving block refers to a freed block: every strong reference that pointed to a block still
points to a block, and every weak slot that is left refers only to survivors (dead weak slots are removed). -/
theorem collect_closed (h : Heap) (D : Nat) (hD : 1 ≤ D) (i : Id) (o' : Obj) (hx : (collect D h).get i = some o') :
    (∀ e ∈ outEdges o', (h.get e.tgt).isSome → ((collect D h).get e.tgt).isSome) ∧
    (∀ en ∈ o'.entries, ∀ w ∈ en.weak, ((collect D h).get w).isSome) := by
  obtain ⟨o, hg, c, rfl⟩ := collect_get_some hx
  have ri := mark_sound h D hD i c
  -- what a survivor still refers to is reachable: along a strong edge, or as a weak referent that was marked
  exact ⟨fun e he hs => collect_isSome_of_reachable hD (.step ri hg (mem_outEdges_clearWeak he) hs),
    fun en hen w hw => collect_isSome_of_reachable hD
      (mark_sound h D hD w (List.all_eq_true.mp (List.mem_filter.mp hen).2 w hw))⟩

/-- **Transparency.**  For every program of the path-addressed mutator, every collection schedule (any subset of the
safepoints) and every initial heap, the observations equal those of the run that never collects. -/
theorem gc_transparent (D : Nat) (hD : 1 ≤ D) (prog : List Step) (sched : Nat → Bool) (h : Heap) :
    run D prog sched 0 h = run D prog (fun _ => false) 0 h :=
  run_sub D hD sched prog 0 h h (Sub.refl h)

/-- the instance "collect at every safepoint" at the depth limit of the implementation -/
theorem gc_transparent_always (prog : List Step) (h : Heap) :
    run Gen.GC.recursionGuard prog (fun _ => true) 0 h = run Gen.GC.recursionGuard prog (fun _ => false) 0 h :=
  gc_transparent _ recursionGuard_pos prog _ h

/-- bounding the reachable set of a concrete heap by a finite candidate set (decidable side conditions) -/
theorem reachable_subset (h : Heap) (S : List Id) (hr : ∀ e ∈ h.roots, e.tgt ∈ S)
    (hc : ∀ i ∈ S, ∀ e ∈ (match h.get i with | some o => outEdges o | none => []), e.tgt ∈ S) (i : Id)
    (r : Reachable h i) : i ∈ S := by
  induction r with
  | root he _ => exact hr _ he
  | step _ ho he _ ih =>
    have := hc _ ih
    simp only [ho] at this
    exact this _ he

theorem not_reachable_of_closed (h : Heap) (S : List Id) (hr : ∀ e ∈ h.roots, e.tgt ∈ S)
    (hc : ∀ i ∈ S, ∀ e ∈ (match h.get i with | some o => outEdges o | none => []), e.tgt ∈ S) {i : Id} (hi : i ∉ S) :
    ¬ Reachable h i :=
  fun r => hi (reachable_subset h S hr hc i r)

/-- the two rules of `Reachable` with their side conditions as one decidable check each -/
theorem reachable_root {h : Heap} (j : Id) (hj : (h.roots.any (·.tgt == j) && (h.get j).isSome) = true) : Reachable h j := by
  obtain ⟨hr, hs⟩ := Bool.and_eq_true_iff.mp hj
  obtain ⟨e, he, ej⟩ := List.any_eq_true.mp hr
  exact beq_iff_eq.mp ej ▸ Reachable.root he (beq_iff_eq.mp ej ▸ hs)

theorem reachable_next {h : Heap} {i : Id} (r : Reachable h i) (j : Id)
    (hj : ((match h.get i with | some o => (outEdges o).any (·.tgt == j) | none => false) && (h.get j).isSome) = true) :
    Reachable h j := by
  obtain ⟨hr, hs⟩ := Bool.and_eq_true_iff.mp hj
  cases ho : h.get i with
  | none => rw [ho] at hr; cases hr
  | some o =>
    rw [ho] at hr
    obtain ⟨e, he, ej⟩ := List.any_eq_true.mp hr
    exact beq_iff_eq.mp ej ▸ Reachable.step r ho he (beq_iff_eq.mp ej ▸ hs)

/-- a cycle 0 ⇄ 1 hanging off the root fiber, and an unreferenced block 2 -/
def cyclicHeap : Heap := Heap.ofList
  [Obj.array false [.ref 1, .imm], Obj.array false [.ref 0], Obj.array false [.ref 0]] [⟨true, 0, false⟩]

example : Reachable cyclicHeap 1 ∧ ¬ Reachable cyclicHeap 2 ∧
    (mark 1 cyclicHeap).marked.contains 1 = true ∧ (collect 1 cyclicHeap).get 2 = none := by
  have r1 : Reachable cyclicHeap 1 := reachable_next (reachable_root 0 (by decide)) 1 (by decide)
  have n2 : ¬ Reachable cyclicHeap 2 :=
    not_reachable_of_closed cyclicHeap [0, 1] (by decide) (by decide) (by decide)
  exact ⟨r1, n2, (mark_eq_reachable _ 1 (Nat.le_refl 1) 1).mpr r1, collect_frees_unreachable _ 1 (Nat.le_refl 1) 2 n2⟩

/-- an array (5) reachable ONLY through the environment (3) of a closure (1) whose fiber (4) has died: the collector
detaches the environment, keeps the captured array and frees the dead fiber -/
def deadFiberHeap : Heap := Heap.ofList
  [ Obj.fiber .imm [] [⟨none, none, [.ref 1]⟩] none none none [] none,     -- 0 root fiber, slot holds the closure
    Obj.function (some 2) [3],                                              -- 1 closure
    Obj.funcdef [] [] none none [],                                         -- 2 its funcdef
    Obj.funcenv (some 4) Gen.GC.statusError [.ref 5],                                     -- 3 env on the stack of finished fiber 4
    Obj.fiber .imm [] [⟨none, none, [.ref 5]⟩] none none none [] none,     -- 4 the dead fiber
    Obj.array false [.imm] ]                                                -- 5 captured array
  [⟨false, 0, false⟩]

example : Reachable deadFiberHeap 5 ∧ ¬ Reachable deadFiberHeap 4 ∧
    ((collect Gen.GC.recursionGuard deadFiberHeap).get 5).isSome ∧ (collect Gen.GC.recursionGuard deadFiberHeap).get 4 = none := by
  have r5 : Reachable deadFiberHeap 5 :=
    reachable_next (reachable_next (reachable_next (reachable_root 0 (by decide)) 1 (by decide)) 3 (by decide)) 5 (by decide)
  have n4 : ¬ Reachable deadFiberHeap 4 :=
    not_reachable_of_closed deadFiberHeap [0, 1, 2, 3, 5] (by decide) (by decide) (by decide)
  obtain ⟨_, _, _, h5, _, _⟩ := collect_keeps_reachable deadFiberHeap Gen.GC.recursionGuard recursionGuard_pos 5 r5
  exact ⟨r5, n4, by rw [h5]; rfl, collect_frees_unreachable _ _ recursionGuard_pos 4 n4⟩

/-- a weak-key table (1) with a live key (2) and a dead key (4): the dead slot is dropped by the sweep, the live one kept,
and nothing that survives refers to a freed block -/
def weakHeap : Heap := Heap.ofList
  [ Obj.fiber .imm [] [⟨none, none, [.ref 1, .ref 2]⟩] none none none [] none,   -- 0 root fiber holds the table and key 2
    Obj.table true false [(.ref 2, .ref 3), (.ref 4, .ref 5)] none,                -- 1 weak-key table
    Obj.leaf Gen.GC.memString, Obj.leaf Gen.GC.memString,                          -- 2 live key, 3 its value
    Obj.leaf Gen.GC.memString, Obj.leaf Gen.GC.memString ]                         -- 4 dead key, 5 its value
  [⟨false, 0, false⟩]

example : ¬ Reachable weakHeap 4 ∧ (collect Gen.GC.recursionGuard weakHeap).get 4 = none ∧
    ∃ o', (collect Gen.GC.recursionGuard weakHeap).get 1 = some o' ∧ o'.entries = [⟨[2], [⟨true, 3, false⟩]⟩] := by
  have r0 : Reachable weakHeap 0 := reachable_root 0 (by decide)
  have n4 : ¬ Reachable weakHeap 4 :=
    not_reachable_of_closed weakHeap [0, 1, 2, 3, 5] (by decide) (by decide) (by decide)
  have m2 := (mark_eq_reachable weakHeap Gen.GC.recursionGuard recursionGuard_pos 2).mpr (reachable_next r0 2 (by decide))
  have m4 : (mark Gen.GC.recursionGuard weakHeap).marked.contains 4 = false :=
    Bool.eq_false_iff.mpr fun c => n4 ((mark_eq_reachable weakHeap _ recursionGuard_pos 4).mp c)
  have hg : weakHeap.get 1 = some (Obj.table true false [(.ref 2, .ref 3), (.ref 4, .ref 5)] none) := by decide
  refine ⟨n4, collect_frees_unreachable _ _ recursionGuard_pos 4 n4, _,
    collect_get_of_reachable recursionGuard_pos (reachable_next r0 1 (by decide)) hg, ?_⟩
  simp [clearWeak, Obj.table, Val.ids, Val.edges, m2, m4]

/-- a program that allocates, links, drops a root and observes: `run` computes these observations -/
example : run 1 [.alloc 3 [], .alloc 3 [.root 0], .store (.root 0) 0 (.root 1), .unroot 1, .emit (.field (.root 0) 0),
    .same (.root 0) (.field (.root 0) 0)] (fun _ => false) 0 (Heap.ofList [] []) = [Obs.obj 3 0, Obs.same false] := by
  decide

/-- a fiber in this status can still run its frames: it can be resumed, or it is running right now -/
def fiberCanStillRun (s : Nat) : Bool := !(Gen.GC.cannotResumeStatuses.contains s) || s == Gen.GC.statusAlive

/-- the finished statuses are exactly the ones detached (so that a dead fiber does not keep its whole stack alive) -/
theorem detach_iff_finished (s : Nat) (hs : s < Gen.GC.statusNames.length) :
    detachOnMark s = !(fiberCanStillRun s) := by
  revert s; decide +kernel

/-- **A collection does not change which environments are on-stack unless the owning fiber is finished.**  The status
test of `janet_env_maybe_detach` and the one of `janet_check_can_resume` are both evaluated by the translator over the
whole `JanetFiberStatus` enum; for every status in which the fiber's frames can still run (new, pending, debug,
user5–user9, alive) the mark phase leaves the environment on the stack, so the frame and its closures keep sharing the
same slots whatever the collection schedule. -/
theorem collect_preserves_env_mode (s : Nat) (hs : s < Gen.GC.statusNames.length) (hrun : fiberCanStillRun s = true)
    (f : Id) (values : List Val) :
    envModeAfterMark (some f) s = .onStack f ∧ (Obj.funcenv (some f) s values).strong = [⟨true, f, false⟩] := by
  have hd : detachOnMark s = false := by rw [detach_iff_finished s hs, hrun]; rfl
  simp [envModeAfterMark, Obj.funcenv, hd]

/-- Every marking call of gc.c's `janet_mark_*` functions and of the gcmark / event callbacks of the abstract types
(streams, channels, parser, peg, processes, file watchers, ffi signatures and struct types), regenerated from the current
source on every run.  A removed, added or re-routed mark line changes `Gen.GC.markSites` and breaks this.
The ffi rows say what a signature holds: the struct type of its RETURN value and of each argument.  On the tree without
the first `signature_mark` row this obligation fails and corpus/C01/edges/ffi_signature_ret_struct.janet is the failing
scenario (the return struct type is freed while the signature is alive; `ffi/call` reads freed memory). -/
theorem markSites_as_modelled : Gen.GC.markSites = [
  ("janet_mark_string", "janet_gc_mark", "janet_string_head(str)"),
  ("janet_mark_buffer", "janet_gc_mark", "buffer"),
  ("janet_mark_abstract", "janet_gc_mark", "janet_abstract_head(adata)"),
  ("janet_mark_abstract", "gcmark-callback", "type"),
  ("janet_mark_many", "janet_mark", "*values"),
  ("janet_mark_keys", "janet_mark", "kvs->key"),
  ("janet_mark_values", "janet_mark", "kvs->value"),
  ("janet_mark_kvs", "janet_mark", "kvs->key"),
  ("janet_mark_kvs", "janet_mark", "kvs->value"),
  ("janet_mark_array", "janet_gc_mark", "array"),
  ("janet_mark_array", "janet_mark_many", "array->data,array->count"),
  ("janet_mark_table", "janet_gc_mark", "table"),
  ("janet_mark_table", "janet_mark_values", "table->data,table->capacity"),
  ("janet_mark_table", "janet_mark_keys", "table->data,table->capacity"),
  ("janet_mark_table", "janet_mark_kvs", "table->data,table->capacity"),
  ("janet_mark_table", "tail-loop", "table->proto"),
  ("janet_mark_struct", "janet_gc_mark", "janet_struct_head(st)"),
  ("janet_mark_struct", "janet_mark_kvs", "st,janet_struct_capacity(st)"),
  ("janet_mark_struct", "tail-loop", "janet_struct_proto(st)"),
  ("janet_mark_tuple", "janet_gc_mark", "janet_tuple_head(tuple)"),
  ("janet_mark_tuple", "janet_mark_many", "tuple,janet_tuple_length(tuple)"),
  ("janet_mark_funcenv", "janet_gc_mark", "env"),
  ("janet_mark_funcenv", "janet_env_maybe_detach", "env"),
  ("janet_mark_funcenv", "janet_mark", "janet_wrap_fiber(env->as.fiber)"),
  ("janet_mark_funcenv", "janet_mark_many", "env->as.values,env->length"),
  ("janet_mark_funcdef", "janet_gc_mark", "def"),
  ("janet_mark_funcdef", "janet_mark_many", "def->constants,def->constants_length"),
  ("janet_mark_funcdef", "janet_mark_funcdef", "def->defs[i]@depth-1"),
  ("janet_mark_funcdef", "janet_mark_funcdef", "def->defs[i]"),
  ("janet_mark_funcdef", "janet_mark_string", "def->source"),
  ("janet_mark_funcdef", "janet_mark_string", "def->name"),
  ("janet_mark_funcdef", "janet_mark_string", "def->symbolmap[i].symbol"),
  ("janet_mark_function", "janet_gc_mark", "func"),
  ("janet_mark_function", "janet_mark_funcenv", "func->envs[i]"),
  ("janet_mark_function", "janet_mark_funcdef", "func->def"),
  ("janet_mark_fiber", "janet_gc_mark", "fiber"),
  ("janet_mark_fiber", "janet_mark", "fiber->last_value"),
  ("janet_mark_fiber", "janet_mark_many", "fiber->data+fiber->stackstart,fiber->stacktop-fiber->stackstart"),
  ("janet_mark_fiber", "janet_mark_function", "frame->func"),
  ("janet_mark_fiber", "janet_mark_funcenv", "frame->env"),
  ("janet_mark_fiber", "janet_mark_many", "fiber->data+i,j-i"),
  ("janet_mark_fiber", "janet_mark_table", "fiber->env"),
  ("janet_mark_fiber", "janet_mark_abstract", "fiber->supervisor_channel"),
  ("janet_mark_fiber", "janet_mark_abstract", "fiber->ev_stream"),
  ("janet_mark_fiber", "ev-callback", "JANET_ASYNC_EVENT_MARK"),
  ("janet_mark_fiber", "tail-loop", "fiber->child"),
  ("janet_stream_mark", "janet_mark", "janet_wrap_fiber(rf)"),
  ("janet_stream_mark", "janet_mark", "janet_wrap_fiber(wf)"),
  ("janet_ev_mark", "janet_mark", "janet_wrap_fiber(tasks[i].fiber)"),
  ("janet_ev_mark", "janet_mark", "tasks[i].value"),
  ("janet_ev_mark", "janet_mark", "janet_wrap_fiber(janet_vm.tq[i].fiber)"),
  ("janet_ev_mark", "janet_mark", "janet_wrap_fiber(janet_vm.tq[i].curr_fiber)"),
  ("janet_chanat_mark_fq", "janet_mark", "janet_wrap_fiber(pending[i].fiber)"),
  ("janet_chanat_mark", "janet_mark", "data[i]"),
  ("parsermark", "janet_mark", "parser->args[i]"),
  ("parsermark", "janet_mark", "janet_wrap_string((constuint8_t*)parser->error)"),
  ("peg_mark", "janet_mark", "peg->constants[i]"),
  ("janet_proc_mark", "janet_mark", "janet_wrap_abstract(proc->in)"),
  ("janet_proc_mark", "janet_mark", "janet_wrap_abstract(proc->out)"),
  ("janet_proc_mark", "janet_mark", "janet_wrap_abstract(proc->err)"),
  ("janet_filewatch_mark", "janet_mark", "janet_wrap_fiber(ow->fiber)"),
  ("janet_filewatch_mark", "janet_mark", "janet_wrap_abstract(ow->stream)"),
  ("janet_filewatch_mark", "janet_mark", "janet_wrap_string(ow->dir_path)"),
  ("janet_filewatch_mark", "janet_mark", "janet_wrap_abstract(watcher->stream)"),
  ("janet_filewatch_mark", "janet_mark", "janet_wrap_abstract(watcher->channel)"),
  ("janet_filewatch_mark", "janet_mark", "janet_wrap_table(watcher->watch_descriptors)"),
  ("signature_mark", "janet_mark", "janet_wrap_abstract(sig->ret.type.st)"),
  ("signature_mark", "janet_mark", "janet_wrap_abstract(t.st)"),
  ("struct_mark", "janet_mark", "janet_wrap_abstract(t.st)"),
  ("ev_callback_read", "janet_mark", "janet_wrap_buffer(state->buf)"),
  ("ev_callback_write", "janet_mark", "state->is_buffer?janet_wrap_buffer(state->src.buf):janet_wrap_string(state->src.str)"),
  ("ev_callback_write", "janet_mark", "janet_wrap_abstract(state->dest_abst)")] := rfl

/-- rank of a per-type mark function: a typed (not depth-checked) call must go strictly down -/
def markRank (f : String) : Nat :=
  if f = "janet_mark_fiber" then 4 else if f = "janet_mark_function" then 3 else if f = "janet_mark_funcenv" then 2
  else if f = "janet_mark_funcdef" then 1 else 0

/-- **Bounded C recursion of the mark phase.**  Every cycle of calls between `janet_mark_*` functions passes through
`janet_mark` (where the depth counter is checked and the value is spilled when it reaches 0): the typed calls, regenerated
from gc.c, strictly decrease `markRank` — except `janet_mark_funcdef → janet_mark_funcdef`, whose depth is the nesting
depth of function definitions, bounded when the funcdef is built (compiler / unmarshal recursion guards); each nested
funcdef also takes one level of the marking depth while one is left (model: `Edge.lvl`), so the values below it are
deferred to the root list earlier.
A typed call `janet_mark_funcenv → janet_mark_fiber` closes the cycle `janet_mark_funcenv → janet_mark_fiber →
janet_mark_function → janet_mark_funcenv` and makes this fail (witness: corpus/C01/regress/mark_recursion_chain.janet, on which
such a collector overflows the C stack). -/
theorem mark_typed_calls_acyclic :
    ∀ c ∈ Gen.GC.directCalls, c = ("janet_mark_funcdef", "janet_mark_funcdef") ∨ markRank c.2 < markRank c.1 := by
  decide +kernel

/-- what the model takes from the regenerated numbering: the weak memory types come after `memFuncDef`, in the order
weak-key, weak-value, weak-key-value table, weak array, and `janet_gcalloc`'s weak-list threshold is the first of them (so
`isWeakKind` is a threshold test); the depth limit is positive; `janet_mark` and `janet_check_liveref` switch over the same
reference types -/
theorem gen_facts : Gen.GC.weakThreshold = Gen.GC.memTableWeakK ∧ 1 ≤ Gen.GC.recursionGuard ∧
    Gen.GC.memTableWeakK < Gen.GC.memTableWeakV ∧ Gen.GC.memTableWeakV < Gen.GC.memTableWeakKV ∧
    Gen.GC.memTableWeakKV < Gen.GC.memArrayWeak ∧ Gen.GC.memFuncDef < Gen.GC.memTableWeakK ∧
    Gen.GC.markCases = ["JANET_STRING", "JANET_KEYWORD", "JANET_SYMBOL", "JANET_FUNCTION", "JANET_ARRAY", "JANET_TABLE",
      "JANET_STRUCT", "JANET_TUPLE", "JANET_BUFFER", "JANET_FIBER", "JANET_ABSTRACT"] ∧
    Gen.GC.liverefCases = ["JANET_ABSTRACT", "JANET_ARRAY", "JANET_BUFFER", "JANET_FIBER", "JANET_FUNCTION", "JANET_KEYWORD",
      "JANET_STRING", "JANET_STRUCT", "JANET_SYMBOL", "JANET_TABLE", "JANET_TUPLE"] :=
  ⟨by decide, recursionGuard_pos, by decide, by decide, by decide, by decide, rfl, rfl⟩


/-- **The roots array refines a multiset, under every op history.**  Reading `janet_vm.roots[0..root_count)` as a
multiset of `janet_gc_idequals`-classes, `janet_gcroot` adds one element, `janet_gcunroot` removes one occurrence (if
there is one), `janet_gcunrootall` — with the loop that re-examines the refilled slot — removes all, and nothing else
(locks, pressure, allocation, collections incl. the spill/drain use of the array, scratch calls) changes it. -/
theorem roots_refine_multiset (D : Nat) (s : Heap × VM) (ops : List ROp)
    (hcfg : Gen.GC.unrootallRescans = true ∨ ∀ op ∈ ops, op.isUnrootall = false) :
    ((runOps D s ops).2.roots.map RVal.norm).Perm (ops.foldl absRoots (s.2.roots.map RVal.norm)) :=
  runOps_roots D ops s hcfg

/-- **`janet_gcunroot` removes exactly one occurrence**: it returns 1 iff some root is id-equal to `x`; then the array
afterwards is a permutation of the array before with its FIRST id-equal element erased (so the class of `x` loses one
occurrence, every other class keeps its count, `root_count` drops by one); otherwise nothing changes. -/
theorem gcunroot_removes_exactly_one (vm : VM) (x : RVal) :
    ((gcunroot vm x).2 = 1 ↔ ∃ v ∈ vm.roots, idEq x v = true) ∧
    ((gcunroot vm x).2 = 1 → (gcunroot vm x).1.roots.Perm (vm.roots.eraseP (fun v => idEq x v)) ∧
        (gcunroot vm x).1.roots.length + 1 = vm.roots.length ∧
        ∀ y : RVal, ((gcunroot vm x).1.roots.map RVal.norm).count y.norm =
          (vm.roots.map RVal.norm).count y.norm - (if y.norm = x.norm then 1 else 0)) ∧
    ((gcunroot vm x).2 ≠ 1 → (gcunroot vm x).1 = vm) := by
  unfold gcunroot
  cases hu : unrootGo x vm.roots with
  | none =>
    have hn := unrootGo_none hu
    refine ⟨⟨fun h => by simp at h, fun ⟨v, hv, he⟩ => by rw [hn v hv] at he; cases he⟩, fun h => by simp at h, fun _ => rfl⟩
  | some rs =>
    obtain ⟨hex, hp, hlen⟩ := unrootGo_some hu
    refine ⟨⟨fun _ => hex, fun _ => rfl⟩, fun _ => ⟨hp, hlen, ?_⟩, fun h => absurd rfl h⟩
    intro y
    have hm := hp.map RVal.norm
    rw [map_norm_eraseP] at hm
    simp only
    rw [hm.count_eq, List.count_erase]
    by_cases c : y.norm = x.norm
    · simp [c]
    · have : (x.norm == y.norm) = false := by simpa using fun e => c e.symm
      simp [c, this]

/-- What holds for `janet_gcunrootall` **whatever its loop shape** (in particular for the pinned one, whose `v++` steps
over the slot it has just refilled with the last root): roots not id-equal to `x` are all kept, none is added, the return
value is right.  NOT proved for the pinned shape — and false, see the witness below — "no root id-equal to `x` is left";
that part is `gcunrootall_removes_all`, which needs `Gen.GC.unrootallRescans = true`. -/
theorem gcunrootall_partial (rescan : Bool) (vm : VM) (x : RVal) :
    ((gcunrootallWith rescan vm x).1.roots.filter (fun v => !idEq x v)).Perm (vm.roots.filter (fun v => !idEq x v)) ∧
    (gcunrootallWith rescan vm x).1.roots.length ≤ vm.roots.length ∧
    ((gcunrootallWith rescan vm x).2 = 1 ↔ ∃ v ∈ vm.roots, idEq x v = true) := by
  obtain ⟨keeps, len, ret, _⟩ := unrootAllGo_spec rescan x _ vm.roots (Nat.le_succ _)
  refine ⟨keeps, len, ?_⟩
  simp only [gcunrootallWith, ret]
  cases h : vm.roots.any (fun v => idEq x v) <;> simp_all

/-- **`janet_gcunrootall` with the re-examining loop removes every occurrence** and nothing else; returns 1 iff there was one. -/
theorem gcunrootall_removes_all (vm : VM) (x : RVal) :
    (gcunrootallWith true vm x).1.roots.Perm (vm.roots.filter (fun v => !idEq x v)) ∧
    (∀ v ∈ (gcunrootallWith true vm x).1.roots, idEq x v = false) ∧
    ((gcunrootallWith true vm x).2 = 1 ↔ ∃ v ∈ vm.roots, idEq x v = true) :=
  ⟨unrootAllGo_rescan_perm x _ _ (Nat.le_succ _), (unrootAllGo_spec true x _ _ (Nat.le_succ _)).2.2.2 rfl,
    (gcunrootall_partial true vm x).2.2⟩

/-- witness for the pinned loop shape: a value rooted twice in adjacent top slots is still rooted after
`janet_gcunrootall` (replayed on the implementation by corpus/C01/roots/unrootall_dup.ops) -/
theorem gcunrootall_pinned_leaves_occurrence :
    (gcunrootallWith false { roots := [⟨Gen.GC.tyTable, 7⟩, ⟨Gen.GC.tyArray, 1⟩, ⟨Gen.GC.tyArray, 1⟩] } ⟨Gen.GC.tyArray, 1⟩).1.roots
      = [⟨Gen.GC.tyTable, 7⟩, ⟨Gen.GC.tyArray, 1⟩] := by decide

/-- **`root_count ≤ root_capacity` under every op history** — the store `roots[root_count] = root` of janet_gcroot is in
bounds; rests on `1 ≤ rootGrowMul` of the regenerated constants. -/
theorem root_capacity_invariant (D : Nat) (s : Heap × VM) (ops : List ROp) (h : s.2.roots.length ≤ s.2.rootCap) :
    (runOps D s ops).2.roots.length ≤ (runOps D s ops).2.rootCap := runOps_cap D ops s h

/-- **What a collection keeps depends only on the multiset of roots**, not on the order `janet_gcunroot`'s swap-with-last
leaves them in: permuted root arrays give the same reachable set, hence (by `mark_eq_reachable`) the same marked set. -/
theorem reachable_roots_perm (h : Heap) (vm vm' : VM) (p : (vm.roots.map RVal.norm).Perm (vm'.roots.map RVal.norm)) (i : Id) :
    Reachable (heapWithRoots h vm) i ↔ Reachable (heapWithRoots h vm') i := by
  have key : ∀ (a b : VM), (a.roots.map RVal.norm).Perm (b.roots.map RVal.norm) →
      Reachable (heapWithRoots h a) i → Reachable (heapWithRoots h b) i := by
    intro a b pab r
    refine Reachable.congr_roots (h := heapWithRoots h a) (h' := heapWithRoots h b) (fun _ => rfl) ?_ r
    intro e he
    simp only [heapWithRoots, List.mem_append] at he ⊢
    exact he.imp id (mem_flatMap_edge_of_perm pab)
  exact ⟨key vm vm' p, key vm' vm p.symm⟩

theorem marked_roots_perm (D : Nat) (hD : 1 ≤ D) (h : Heap) (vm vm' : VM)
    (p : (vm.roots.map RVal.norm).Perm (vm'.roots.map RVal.norm)) (i : Id) :
    (mark D (heapWithRoots h vm)).marked.contains i = (mark D (heapWithRoots h vm')).marked.contains i :=
  Bool.eq_iff_iff.mpr ((mark_eq_reachable _ D hD i).trans
    ((reachable_roots_perm h vm vm' p i).trans (mark_eq_reachable _ D hD i).symm))

/-- **`janet_collect` while `gc_suspend ≠ 0` does nothing.** -/
theorem collect_suspended_noop (D : Nat) (h : Heap) (vm : VM) (hs : vm.gcSuspend ≠ 0) : collectVM D h vm = (h, vm) :=
  collectVM_locked D h vm hs

/-- a collection that does run leaves the roots array and the suspension counter as they were, clears `gc_mark_phase`, resets
`next_collection`, releases all scratch memory and counts itself -/
theorem collect_epilogue (D : Nat) (h : Heap) (vm : VM) (hs : vm.gcSuspend = 0) :
    (collectVM D h vm).2.roots = vm.roots ∧ (collectVM D h vm).2.gcSuspend = 0 ∧ (collectVM D h vm).2.markPhase = false ∧
    (collectVM D h vm).2.nextCollection = 0 ∧ (collectVM D h vm).2.scratch = [] ∧
    (collectVM D h vm).2.collections = vm.collections + 1 ∧
    (collectVM D h vm).1 = { collect D (heapWithRoots h vm) with roots := h.roots } := by
  rw [collectVM_eq, if_pos hs]; exact ⟨rfl, hs, rfl, rfl, rfl, rfl, rfl⟩

/-- `janet_gcunlock(janet_gclock())` restores the counter whatever happened in between — including an unbalanced inner
lock left behind by a longjmp (janet_restore does the same with the saved handle) -/
theorem lock_unlock_restores (D : Nat) (h : Heap) (vm : VM) (body : List ROp) :
    (runOps D (h, vm) (.lock :: body ++ [.unlock vm.gcSuspend])).2.gcSuspend = vm.gcSuspend := by
  simp only [runOps, List.foldl_cons, List.foldl_append, List.foldl_nil]
  rfl

/-- **Inside a suspended region** (counter positive at entry, no unlock down to a handle ≤ 0 — which is what nested
lock/unlock pairs give) **no collection runs and every block keeps its contents**, whatever the pressure and however
many safepoints or explicit `janet_collect` calls the region contains. -/
theorem suspended_region_keeps_heap (D : Nat) (s : Heap × VM) (ops : List ROp) (hs : 0 < s.2.gcSuspend)
    (hk : keepsSuspended ops = true) :
    0 < (runOps D s ops).2.gcSuspend ∧ (runOps D s ops).2.collections = s.2.collections ∧
    (∀ i x, s.1.get i = some x → (runOps D s ops).1.get i = some x) := runOps_suspended D ops s hs hk

/-- **Transparency with C locals.**  For every program of the extended mutator that obeys the rooting discipline
`disc` (objects held only in C locals exist only between `janet_gclock` and the matching `janet_gcunlock`), every forced
schedule, every allocation pressure (so every outcome of `maybe_collect`'s `next_collection >= gc_interval` test) and
every initial heap and GC state with `gc_suspend = 0`: the observations — including the handles `janet_gclock` returns —
equal those of the program's meaning without a collector.  The collector here is the modelled `maybe_collect` →
`janet_collect` (suspend early-out) of GC/Roots.lean and sees only the visible roots. -/
theorem gc_transparent_locked (D : Nat) (hD : 1 ≤ D) (prog : List CStep) (sched : Nat → Bool) (h : Heap) (vm : VM)
    (hs : vm.gcSuspend = 0) (hdisc : disc 0 0 prog = true) :
    runC D prog sched 0 ⟨h, 0, vm, []⟩ = runC0 prog ⟨h, 0, vm, []⟩ :=
  runC_sim D hD sched prog 0 0 0 _ _ ⟨Sub.refl h, rfl, rfl, rfl⟩ ⟨rfl, rfl, rfl, hs⟩ (fun _ => rfl) hdisc

/-- an op history on three values: root a, root n1, root a, unroot n2 (id-equal to n1: numbers), unroot a -/
example : (runOps 1 (Heap.ofList [] [], {}) [.root ⟨Gen.GC.tyArray, 0⟩, .root ⟨Gen.GC.tyNumber, 1⟩, .root ⟨Gen.GC.tyArray, 0⟩,
    .unroot ⟨Gen.GC.tyNumber, 2⟩, .unroot ⟨Gen.GC.tyArray, 0⟩]).2.roots = [⟨Gen.GC.tyArray, 0⟩] := by decide

/-- a disciplined program: lock, allocate two C locals, link them, keep one, drop the other, unlock, observe -/
def lockedProg : List CStep :=
  [.step (.alloc 3 []), .lock, .newLocal 3 [.root 0], .newLocal 3 [], .step (.emit (.root 1)), .keep, .drop, .unlock,
   .step (.emit (.root 1)), .pressure 5000000, .step (.emit (.field (.root 1) 0))]

example : disc 0 0 lockedProg = true := by decide
example : runC0 lockedProg ⟨Heap.ofList [] [], 0, {}, []⟩ =
    [.handle 0, .obs (.obj 3 1), .obs (.obj 3 1), .obs (.obj 3 0)] := by decide
/-- the discipline is needed: the same allocations without the lock are rejected -/
example : disc 0 0 [.newLocal 3 [], .step (.emit (.root 0))] = false := by decide


/-- the block a slot value refers to (if any) is reachable through strong references -/
def svalReach (h : Heap) : SVal → Prop
  | .ref j => Reachable h j
  | _ => True

/-- the weakly held side of a slot, by table kind: the key (weak-key), the value (weak-value), both (weak-key-value) -/
def weakSideReachable (h : Heap) (kind : Nat) (kv : KV) : Prop :=
  (checkKeys kind = true → svalReach h kv.key) ∧ (checkValues kind = true → svalReach h kv.value)

theorem checkLiveref_iff_reach (h : Heap) (D : Nat) (hD : 1 ≤ D) (v : SVal) :
    checkLiveref (mark D h).marked v = true ↔ svalReach h v := by
  cases v with
  | ref j => exact mark_eq_reachable h D hD j
  | nil => simp [checkLiveref, svalReach]
  | fls => simp [checkLiveref, svalReach]
  | imm => simp [checkLiveref, svalReach]

theorem dropSlot_iff (h : Heap) (D : Nat) (hD : 1 ≤ D) (kind : Nat) (kv : KV) :
    dropSlot (mark D h).marked kind kv = false ↔ weakSideReachable h kind kv := by
  unfold dropSlot weakSideReachable
  rw [← checkLiveref_iff_reach h D hD kv.key, ← checkLiveref_iff_reach h D hD kv.value]
  cases checkKeys kind <;> cases checkValues kind <;>
    cases checkLiveref (mark D h).marked kv.key <;> cases checkLiveref (mark D h).marked kv.value <;> simp

/-- which side each memory type holds weakly (regenerated numbering) -/
theorem weak_kinds :
    (checkKeys Gen.GC.memTableWeakK, checkValues Gen.GC.memTableWeakK) = (true, false) ∧
    (checkKeys Gen.GC.memTableWeakV, checkValues Gen.GC.memTableWeakV) = (false, true) ∧
    (checkKeys Gen.GC.memTableWeakKV, checkValues Gen.GC.memTableWeakKV) = (true, true) ∧
    (checkKeys Gen.GC.memTable, checkValues Gen.GC.memTable) = (false, false) := by decide

/-- **Weak tables, full strength.**  For every heap, every depth limit and every reachable weak table block (weak-key,
weak-value or weak-key-value) given by its slot array: after `collect` the block is the abstraction of the C-shaped pass
run with the collector's mark bits; slot by slot, an entry is left as it was iff its weak side is reachable through strong
references and is otherwise replaced by the tombstone `(nil, false)`; `count` drops and `deleted` grows by the number of
dropped slots; kind, prototype and every other strongly held reference are unchanged. -/
theorem weak_table_survives_iff_reachable (h : Heap) (D : Nat) (hD : 1 ≤ D) (i : Id) (t : WTable)
    (hk : checkKeys t.kind = true ∨ checkValues t.kind = true) (hg : h.get i = some (absTable t)) (r : Reachable h i) :
    let m := (mark D h).marked
    (collect D h).get i = some (absTable (sweepWeakTable m t)) ∧
    (sweepWeakTable m t).data = t.data.map (fun kv => if dropSlot m t.kind kv then tombstone else kv) ∧
    (∀ kv, dropSlot m t.kind kv = false ↔ weakSideReachable h t.kind kv) ∧
    (sweepWeakTable m t).count = t.count - (t.data.filter (dropSlot m t.kind)).length ∧
    (sweepWeakTable m t).deleted = t.deleted + (t.data.filter (dropSlot m t.kind)).length ∧
    (absTable (sweepWeakTable m t)).kind = (absTable t).kind ∧ (absTable (sweepWeakTable m t)).strong = (absTable t).strong := by
  intro m
  have e := sweepSlots_eq m t.kind t.data t.count t.deleted
  refine ⟨?_, congrArg (·.1) e, fun kv => dropSlot_iff h D hD t.kind kv, congrArg (·.2.1) e, congrArg (·.2.2) e, ?_, ?_⟩
  · rw [absTable_sweep m t hk]; exact collect_get_of_reachable hD r hg
  · rw [absTable_sweep m t hk]; rfl
  · rw [absTable_sweep m t hk]; rfl

/-- the table bookkeeping invariant (`count` = number of occupied slots, empty slots hold no reference) survives the pass -/
theorem weak_table_wf_preserved (m : Std.HashSet Nat) (t : WTable) (hw : t.wf = true) : (sweepWeakTable m t).wf = true :=
  sweepWeakTable_wf m t hw

/-- **Weak arrays, full strength.**  After `collect` a reachable weak array keeps its length; slot by slot, an item is
left as it was iff it is an immediate or its block is reachable through strong references, and is `nil` otherwise. -/
theorem weak_array_survives_iff_reachable (h : Heap) (D : Nat) (hD : 1 ≤ D) (i : Id) (items : List SVal)
    (hg : h.get i = some (absArray items)) (r : Reachable h i) :
    let m := (mark D h).marked
    (collect D h).get i = some (absArray (sweepWeakArray m items)) ∧
    (sweepWeakArray m items).length = items.length ∧
    (∀ v, (nilIfDead m v = v ∧ svalReach h v) ∨ (nilIfDead m v = .nil ∧ ¬ svalReach h v)) := by
  intro m
  refine ⟨?_, by simp [sweepWeakArray], ?_⟩
  · rw [absArray_sweep]; exact collect_get_of_reachable hD r hg
  · intro v
    by_cases c : checkLiveref m v = true
    · exact Or.inl ⟨by simp [nilIfDead, c], (checkLiveref_iff_reach h D hD v).mp c⟩
    · exact Or.inr ⟨by simp [nilIfDead, c], fun hr => c ((checkLiveref_iff_reach h D hD v).mpr hr)⟩

/-- non-vacuity: a weak-key-value table with capacity 4: an empty slot, a live pair, a pair with a dead value, a tombstone -/
def wkvTable : WTable :=
  { kind := Gen.GC.memTableWeakKV, data := [⟨.nil, .nil⟩, ⟨.ref 2, .ref 3⟩, ⟨.ref 2, .ref 4⟩, ⟨.nil, .fls⟩], count := 2, deleted := 1 }

example : wkvTable.wf = true := by decide
example : (absTable wkvTable).entries = [⟨[2, 3], []⟩, ⟨[2, 4], []⟩] := by decide

section ring
open JanetModel.GC.RingMark JanetModel.Ev

/-- every ring walk of the current source has one of the two shapes proved right in `GC/RingMark.lean`
(a loop with `i < tail` and the wrapping step, a bound off by one, a dropped second segment … make this `decide` fail) -/
theorem ring_walks_as_modelled : (Gen.GC.ringWalks.all fun p => knownSound p.2) = true ∧
    Gen.GC.ringWalks.map (·.1) = ["janet_ev_mark", "janet_chanat_mark_fq", "janet_chanat_mark"] := by decide +kernel

/-- For every queue state that satisfies the representation invariant of `JanetQueue` (empty, contiguous, wrapped round,
write position at slot 0, just reallocated), each of the three walks, run as the source writes it, hands to `janet_mark`
exactly the abstract content of the queue, head first - nothing skipped, nothing stale, and the loops stop by themselves
(any iteration budget ≥ capacity gives the same result). -/
theorem mark_ring_walk_visits_all {α : Type} (name : String) (w : Gen.GC.RingWalk) (hw : (name, w) ∈ Gen.GC.ringWalks)
    (q : RingQ α) (h : q.WF) (fuel : Nat) (hf : q.cap ≤ fuel) : marked fuel w q = q.toList := by
  have hs : knownSound w = true := by
    have := ring_walks_as_modelled.1
    rw [List.all_eq_true] at this
    exact this (name, w) hw
  exact marked_eq_toList w hs q h fuel hf

/-- … and therefore after EVERY history of `janet_q_push` / `janet_q_push_head` / `janet_q_pop` (with the reallocation and the
move of the upper segment inside `janet_q_maybe_resize`) from `janet_q_init`: what the walk marks is the list obtained by
running the same operations on a plain list.  So a value in flight in a channel, a fiber parked on a channel and a
scheduled task are marked wherever the ring's read and write positions happen to be. -/
theorem mark_ring_walk_all_histories {α : Type} (name : String) (w : Gen.GC.RingWalk) (hw : (name, w) ∈ Gen.GC.ringWalks)
    (d : α) (maxCap : Nat) (ops : List (QOp α)) (q : RingQ α) (hr : runQ maxCap (RingQ.init d) ops = some q)
    (fuel : Nat) (hf : q.cap ≤ fuel) : marked fuel w q = ops.foldl absStep [] := by
  have := runQ_spec maxCap ops (RingQ.init d) q (init_wf d) hr
  rw [mark_ring_walk_visits_all name w hw q this.1 fuel hf, this.2, init_toList]

/-- non-vacuity: ring of capacity 4 after give,give,take,take,give,give,give: read position 2, write position 1, three
items in slots 2,3,0 - the walks visit 2,3,0; the loop `for (i = head; i < tail; i = i+1 < cap ? i+1 : 0)` visits nothing -/
example : WF ⟨2, 1, 4⟩ ∧ ringSlots ⟨2, 1, 4⟩ = [2, 3, 0] ∧ runWalk 4 ⟨2, 1, 4⟩ Gen.GC.ringWalkChanItems = [2, 3, 0] ∧
    runWalk 9 ⟨2, 1, 4⟩ wrapLoop = [2, 3, 0] ∧
    runWalk 9 ⟨2, 1, 4⟩ (.seq [⟨.head, .lt, .tail, .wrapInc⟩]) = [] ∧ knownSound (.seq [⟨.head, .lt, .tail, .wrapInc⟩]) = false := by
  decide

example : (runQ 100 (RingQ.init 0) [.push 1, .push 2, .pop, .pop, .push 3, .push 4, .push 5]).map (fun q => (q.head, q.tail, q.cap, q.toList))
    = some (2, 1, 4, [3, 4, 5]) := by decide

end ring

section symcache
open JanetModel.GC.SymSweep JanetModel.Value.SymCache

/-- the facts about symcache.c / janet_deinit_block regenerated by THIS check agree with the constants the cache model is
built from (Gen/Value.lean, C03's translator): a vacated bucket gets the tombstone, never NULL -/
theorem symcache_facts_agree :
    Gen.GC.symDeinitWritesDeleted = Gen.Value.symDeinitWritesDeleted ∧ Gen.GC.symMoveVacatedDeleted = Gen.Value.symMoveVacatedDeleted ∧
    Gen.GC.symCacheInitCap = Gen.Value.symCacheInitCap ∧ Gen.GC.symDeinitWritesDeleted = true ∧
    Gen.GC.symMoveVacatedDeleted = true ∧ Gen.GC.sweepDeinitsFreedSymbols = true := by decide

/-- The tie between heap and symbol cache - the cache holds exactly the existing symbol blocks, each under its bytes at its
own address, no duplicates, every entry reachable along its probe path, `cache_count` = number of entries - is preserved by a
collection: for every heap, cache state, depth limit D ≥ 0 and order of the block list. -/
theorem collect_keeps_symcache_tied (D : Nat) (order : List Id) (s : SymVM) (hc : CInvC s.cache)
    (ht : Tied s.heap s.names s.cache)
    (hall : ∀ i, (s.heap.get i).isSome = true → i ∈ order) (hex : ∀ i, i ∈ order → (s.heap.get i).isSome = true) :
    CInvC (collectSym D order s).cache ∧ Tied (collectSym D order s).heap (collectSym D order s).names (collectSym D order s).cache :=
  collectSym_tied D order s hc ht hall hex

/-- **Interning is transparent**: for the bytes of every REACHABLE symbol / keyword block, `janet_symbol` returns the same
object after the collection as without it - whichever other symbols were freed and wherever they sat on its probe path
(its home bucket, the last bucket before the probe wraps to bucket 0, the middle of the chain). -/
theorem intern_same_after_collect (D : Nat) (hD : 1 ≤ D) (order : List Id) (s : SymVM) (hc : CInvC s.cache)
    (ht : Tied s.heap s.names s.cache)
    (hall : ∀ i, (s.heap.get i).isSome = true → i ∈ order) (hex : ∀ i, i ∈ order → (s.heap.get i).isSome = true)
    (i : Id) (b : List UInt8) (hn : s.names i = some b) (r : Reachable s.heap i) :
    (∃ c', intern s.cache b = some (c', i)) ∧ (∃ c', intern (collectSym D order s).cache b = some (c', i)) :=
  intern_after_collect D hD order s hc ht hall hex i b hn r

/-- after the collection no cache entry points to a freed block -/
theorem symcache_no_dangling_after_collect (D : Nat) (order : List Id) (s : SymVM) (hc : CInvC s.cache)
    (ht : Tied s.heap s.names s.cache)
    (hall : ∀ i, (s.heap.get i).isSome = true → i ∈ order) (hex : ∀ i, i ∈ order → (s.heap.get i).isSome = true) :
    (∀ q x, Live (collectSym D order s).cache.slots q x → ((collectSym D order s).heap.get q).isSome = true) ∧
    (collectSym D order s).cache.count = liveCount (collectSym D order s).cache.slots :=
  cache_after_collect_no_dangling D order s hc ht hall hex

/-- non-vacuity: a 4-bucket cache; the bytes [1], [4], [8] all have the LAST bucket (3) as home, so the chain wraps: buckets
3, 0, 1.  The symbol in the last bucket is not marked.  The collection leaves the tombstone there, and the lookup of [8]
still finds it (moving it into the tombstone, as janet_symcache_findmem does); with NULL instead of the tombstone the same
lookup misses - the situation of a `janet_symbol_deinit` that empties the last bucket. -/
def symCache0 : Cache := { slots := [.live 1 [4], .live 2 [8], .empty, .live 0 [1]], count := 3, deleted := 0, next := 3 }
def symNames : Names := fun i => [some [1], some [4], some [8]].getD i none

example (m : HashSet Nat) (h0 : m.contains 0 = false) (h1 : m.contains 1 = true) (h2 : m.contains 2 = true) :
    (sweepCache m symNames [0, 1, 2] symCache0).slots = [.live 1 [4], .live 2 [8], .empty, .deleted] ∧
    (find (sweepCache m symNames [0, 1, 2] symCache0).slots [8]).2 = .hit 3 ∧
    (find [.live 1 [4], .live 2 [8], .empty, .empty] [8]).2 = .miss (some 3) := by
  have e : sweepCache m symNames [0, 1, 2] symCache0 = deinit symCache0 [1] := by
    simp [sweepCache, symNames, h0, h1, h2]
  rw [e]
  decide

end symcache

section parser
open JanetModel.GC.ParserMark

/-- the finite certificate over the regenerated write table: every function keeps "bit set ⇔ error is the heap string",
from every state in which it can run (a `flag = JANET_PARSER_DEAD` in janet_parser_eof, a cleared bit without clearing the
pointer, a static message stored while the bit is set … make this `decide` fail) -/
theorem parser_sites_keep_inv : sitesKeepInv Gen.GC.parserSites = true := by decide +kernel

/-- **Whenever a collection can see a parser, `parsermark` marks its error message iff the message is heap-allocated** -
after every history of parser API calls (consume with any callback outcome, eof, error, clone from any parser that satisfies
the same, re-init) from `janet_parser_init`. -/
theorem parser_error_marked_iff_heap (es : List Ev) (hall : ∀ e ∈ es, e.site ∈ Gen.GC.parserSites ∧ ParserMark.Inv e.src = true) :
    marksError (run ⟨.null, false, false⟩ es) = true ↔ (run ⟨.null, false, false⟩ es).err = .heap := by
  have h := run_inv Gen.GC.parserSites parser_sites_keep_inv es ⟨.null, false, false⟩ (by decide) hall
  unfold ParserMark.Inv at h
  unfold marksError
  cases hg : (run ⟨.null, false, false⟩ es).gen <;> simp [hg] at h ⊢ <;> exact h

/-- non-vacuity: consume hits a static error, parser/error clears it, eof inside an open delimiter generates the heap message
and kills the parser: the message is marked.  With `flag = JANET_PARSER_DEAD` in janet_parser_eof (seed C01-6) the same history
ends with a heap message that is not marked, and the certificate is false. -/
example :
    run ⟨.null, false, false⟩ [⟨("root", true, [.errStatic, .errStatic]), ⟨.null, false, false⟩⟩, ⟨("janet_parser_error", false, [.errNull, .clearGen]), ⟨.null, false, false⟩⟩,
      ⟨("delim_error", true, [.errHeap, .setGen]), ⟨.null, false, false⟩⟩, ⟨("janet_parser_eof", false, [.setDead]), ⟨.null, false, false⟩⟩] = ⟨.heap, true, true⟩ ∧
    run ⟨.null, false, false⟩ [⟨("delim_error", true, [.errHeap, .setGen]), ⟨.null, false, false⟩⟩, ⟨("janet_parser_eof", false, [.flagOnlyDead]), ⟨.null, false, false⟩⟩] = ⟨.heap, false, true⟩ ∧
    sitesKeepInv [("janet_parser_eof", false, [.flagOnlyDead])] = false := by decide +kernel

end parser

section rootwin
open JanetModel.GC.RootWin
open JanetModel.Gen.GCRoot (edges edgesU edgesLocked lockUsers mayCollectMask mayCollectUnlockedMask collectId gcallocId runVmId nFuncs family
  familyClosure beginEndRows beginEndEscapes mayWindows)

/-- the finite side of the call-graph certificate, evaluated by the kernel on the regenerated graph: the complement of the claimed may-collect set is closed under every call edge - direct,
type-compatible indirect, address-mentioned - and `janet_collect` itself is in the set -/
theorem callgraph_maycollect_closed :
    closedOK edges mayCollectMask = true ∧ inMask mayCollectMask collectId = true := by
  -- chunk by chunk: appending the chunks costs the kernel more than checking them
  simp only [edges, edgesU, closedOK_append, Bool.and_eq_true]
  decide +kernel

/-- **A function outside the regenerated may-collect set can never be interrupted by a collection**: no chain of calls, of any
length, leads from it to `janet_collect`.  Every C local of such a function (and of everything it calls) is safe without
being rooted. -/
theorem nocollect_sound (f : Nat) (hf : inMask mayCollectMask f = false) : ¬ Reaches edges f collectId :=
  outside_never_reaches callgraph_maycollect_closed.1 callgraph_maycollect_closed.2 hf

/-- allocation does not collect (`janet_gcalloc` only adds to `next_collection`; collections happen at the interpreter's
safepoints and in `gccollect`): an allocation-between-allocation window is never by itself a danger -/
theorem alloc_cannot_collect : ¬ Reaches edges gcallocId collectId := nocollect_sound _ (by decide +kernel)

/-- **the delimited family**: the value builders (`janet_{tuple,struct,string,abstract}_begin/_end`, `janet_tuple_n`,
`janet_table_clone`, `janet_array_n`, `janet_table_to_struct` …), marshal / unmarshal with their state, PEG compilation and
the parser - and everything they can call - cannot be interrupted by a collection. -/
theorem builder_family_cannot_collect (f : Nat) (hf : f ∈ familyClosure) : ¬ Reaches edges f collectId :=
  nocollect_sound f (allOutside_mem (by decide +kernel : allOutside mayCollectMask familyClosure = true) hf)

theorem family_in_closure : family.all (fun f => familyClosure.contains f) = true :=
  -- both lists are ascending, so the inclusion is found in one pass
  have h : family.Sublist familyClosure := List.isSublist_iff_sublist.mp (by decide +kernel)
  List.all_eq_true.mpr fun _ hf => List.contains_iff_mem.mpr (h.subset hf)

/-- **every builder window is covered**: in every function of the library, every call made on some control-flow path between
a `_begin` call and the matching `_end` (while the unfinished tuple / struct / string / abstract is held in a C local only)
goes to a function that cannot reach `janet_collect`; and no unfinished object leaves its function. -/
theorem begin_end_windows_covered :
    beginEndEscapes = [] ∧ ∀ r ∈ beginEndRows, ¬ Reaches edges r.2.2 collectId := by
  refine ⟨by decide, fun r hr => nocollect_sound _ ?_⟩
  have h : allOutside mayCollectMask (beginEndRows.map fun r => r.2.2) = true := by decide +kernel
  exact allOutside_mem h (List.mem_map_of_mem hr)

/-- the same certificate over the call edges that exist OUTSIDE every `janet_gclock .. janet_gcunlock` region (must-analysis on
the caller's control-flow graph; `edges = edgesU ++ edgesLocked`), and: the edges that exist only inside such a region all
start in the regenerated list of lock users (janet_call, which runs the interpreter with the collector suspended, among them) -/
theorem callgraph_unlocked_closed :
    closedOK edgesU mayCollectUnlockedMask = true ∧ inMask mayCollectUnlockedMask collectId = true ∧
    edgesLocked.all (fun e => lockUsers.contains (e / 4096)) = true := by
  simp only [edgesU, closedOK_append, Bool.and_eq_true]
  decide +kernel

/-- **recognised protection `janet_gclock`**: for a function outside the (smaller) unlocked may-collect set, EVERY call chain
that leads to `janet_collect` passes through a call site inside a gclock region of one of the lock users - where the
collector is suspended and `janet_collect` returns at once (`collect_suspended_noop`, `suspended_region_keeps_heap`). -/
theorem collect_chain_passes_gclock (f : Nat) (hf : inMask mayCollectUnlockedMask f = false) (hr : Reaches edges f collectId) :
    ∃ x y, Reaches edgesU f x ∧ x * 4096 + y ∈ edgesLocked ∧ x ∈ lockUsers := by
  rcases reaches_split (U := edgesU) (L := edgesLocked) hr with h | ⟨x, y, h1, hy, h3, _⟩
  · exact absurd h (outside_never_reaches callgraph_unlocked_closed.1 callgraph_unlocked_closed.2.1 hf)
  · refine ⟨x, y, h1, h3, ?_⟩
    have := (List.all_eq_true.mp callgraph_unlocked_closed.2.2) _ h3
    rw [(edge_ends hy).2] at this
    exact List.contains_iff_mem.mp this

/-- What is NOT certified (tested only, by the schedule-differential runs): the functions that CAN be interrupted by an
unsuspended collection.  Every function of the library is either never interrupted (no chain to `janet_collect` outside gclock
regions) or listed in the regenerated table `mayWindows` with its number of (allocating call, later collecting call) pairs;
the protection of those windows - value already stored on the fiber stack, value dead afterwards - is not established
statically.  Missing for the full statement: a liveness / rootedness analysis of the listed functions (nearly all pairs lie in
`run_vm`). -/
theorem c_local_windows_partial (f : Nat) (hf : f < nFuncs) :
    (¬ Reaches edgesU f collectId) ∨ f ∈ mayWindows.map Prod.fst :=
  (coveredOrListed_lt (by decide +kernel) hf).imp_left
    (outside_never_reaches callgraph_unlocked_closed.1 callgraph_unlocked_closed.2.1)

theorem runVm_calls_collect : runVmId * 4096 + collectId ∈ edgesU := by
  simp only [edgesU, List.mem_append]
  decide +kernel

/-- non-vacuity: the interpreter does reach the collector (so the mask is not vacuous), and the closure condition rejects a
mask that leaves out a caller of `janet_collect` -/
example : Reaches edgesU runVmId collectId := .step (by decide) runVm_calls_collect (.refl _)
example : closedOK edges (mayCollectMask - 2 ^ runVmId) = false :=
  Bool.eq_false_iff.mpr fun h =>
    absurd (edge_outside h (by decide) (List.mem_append_left _ runVm_calls_collect) (by decide +kernel)) (by decide +kernel)
example : inMask mayCollectMask runVmId = true ∧ inMask mayCollectMask gcallocId = false := by constructor <;> decide +kernel

end rootwin

end JanetModel.Props.C01
