/- C08 - threads and thread channels deliver every message exactly once.
   Property theorems over the model JanetModel/Thread/Model.lean; each is an invariant over ALL interleavings
   (`run cfg acts s` for an arbitrary action list).  The model is parametrised by the shape of the source (`Cfg`, `TCfg`,
   `RCfg`); JanetModel/Thread/Current.lean instantiates the full theorems at the configuration regenerated from the current
   source (Gen/Thread.lean) - it only builds when the current source satisfies their hypotheses.

   What is NOT proved here (tested only, see notes/C08.md): data races and memory errors (TSan / ASan). -/
import JanetModel.Thread.Order
import JanetModel.Thread.EndToEnd
import JanetModel.Thread.Requeue
import JanetModel.Thread.SpawnLemmas
import JanetModel.Thread.Payload
import JanetModel.Thread.LockCert
import JanetModel.Thread.Refcount

namespace JanetModel.Props.C08
open JanetModel.Thread

/-- exactly once: if janet_thread_chan_cb re-dispatches a stale read message and puts the item back when no reader waits,
    then under every interleaving (including abandoned waits, close, any number of loops) every item accepted by a give is
    in exactly one of: `items`, a pipe message in flight, delivered to exactly one fiber. -/
theorem exactly_once (cfg : Cfg) (hq : cfg.requeue = true) (hd : cfg.redispatch = true) (limit : Nat) (acts : List Act) :
    Conserved (run cfg acts (init limit)) :=
  run_conserved cfg hq hd acts (init limit) (conserved_init limit)

/-- what holds for EVERY configuration (in particular a source that drops the item, `requeue = false`): exactly-once in all
    executions in which no read message is found stale by janet_thread_chan_cb (no reader abandoned a wait that an item
    was dispatched to).  Missing part = the stale case, false for `requeue = false`: `exactly_once_counterexample`. -/
theorem exactly_once_partial (cfg : Cfg) (limit : Nat) (acts : List Act)
    (h : (run cfg acts (init limit)).staleReads = 0) : Conserved (run cfg acts (init limit)) :=
  run_conserved_partial cfg acts (init limit) h (conserved_init limit)

/-- `requeue = false`: reader 0 waits, abandons its wait, thread 1 gives item 7, loop 0 handles the
    message: the item is nowhere (not queued, not in flight, not delivered) although the give succeeded. -/
theorem exactly_once_counterexample :
    let s := run ⟨false, false, true, true, true, true⟩ [.take 0 0, .abandon 0, .give 1 1 7, .handle 0] (init 4)
    s.sent = [7] ∧ s.items = [] ∧ s.flight = [] ∧ s.delivered = [] ∧ ¬ Conserved s := by
  refine ⟨by decide, by decide, by decide, by decide, ?_⟩
  intro h
  have := h 7
  revert this
  decide

example : gotAll (run ⟨true, true, true, true, true, true⟩ [.take 0 0, .abandon 0, .give 1 1 7, .handle 0, .take 0 2, .resume 0, .resume 0] (init 4)).log = [(2, 7)] := by
  decide

/-- (partial) per-sender order: in every execution in which no read message is found stale, items leave the channel
    (taken directly, or dispatched to a pending reader) exactly in the order in which they were given: the hand-out log
    followed by the queue content IS the send log.  Missing for the full statement: stale readers - false, see
    `per_sender_order_counterexample`, also on the implementation (known finding reorder-stale-reader). -/
theorem per_sender_order_partial (cfg : Cfg) (limit : Nat) (acts : List Act)
    (h : (run cfg acts (init limit)).staleReads = 0) :
    let s := run cfg acts (init limit)
    s.handed.map Prod.snd ++ s.items = s.sent :=
  (run_fifo cfg acts (init limit) h ⟨Or.inl rfl, rfl⟩).2

/-- without abandoned waits, what any fiber got is, in order, a sub-sequence of the global (atomic) give order -/
theorem got_in_send_order (cfg : Cfg) (limit : Nat) (acts : List Act) (hclean : (run cfg acts (init limit)).abandons = 0)
    (receiver : Nat) :
    (gotSeq receiver (run cfg acts (init limit)).log).Sublist (gaveSeq (run cfg acts (init limit)).log) := by
  rw [run_logOK cfg acts (init limit) rfl]
  exact (run_clean cfg acts (init limit) hclean (clean_init limit)).1.got_sublist_sent receiver

/-- per-sender order, end to end on the event log (from the `gave` events of one sender to the `got` events of one receiver):
    in every execution in which no waiting fiber is abandoned (no ev/cancel, deadline or other select clause hits a fiber that
    waits on the channel), for every configuration, capacity, number of loops and interleaving of gives, takes, closes, pipe
    hand-offs and run-queue resumptions: the items that fiber `receiver` was resumed with, restricted to those that carry the
    tag of `sender`, appear in the order in which `sender` gave them.  (`tag` = any labelling of items by their giving fiber,
    as in the harness where every message carries its producer id.)
    Not covered: executions with abandoned waits - genuinely false, `per_sender_order_counterexample` (known finding). -/
theorem per_sender_order (cfg : Cfg) (limit : Nat) (acts : List Act)
    (hclean : (run cfg acts (init limit)).abandons = 0)
    (tag : Item → Nat) (htag : ∀ f x, Ev.gave f x ∈ (run cfg acts (init limit)).log → tag x = f)
    (sender receiver : Nat) :
    ((gotSeq receiver (run cfg acts (init limit)).log).filter (fun x => tag x == sender)).Sublist
      (gaveBy sender (run cfg acts (init limit)).log) := by
  have h1 := (got_in_send_order cfg limit acts hclean receiver).filter (fun x => tag x == sender)
  rwa [gaveBy_eq_filter tag sender _ htag] at h1

/-- without abandoned waits no message is ever found stale and the run loop skips no task -/
theorem no_abandon_no_stale_no_drop (cfg : Cfg) (limit : Nat) (acts : List Act) (hclean : (run cfg acts (init limit)).abandons = 0) :
    (run cfg acts (init limit)).staleReads = 0 ∧ (run cfg acts (init limit)).dropped = [] :=
  have h := run_clean cfg acts (init limit) hclean (clean_init limit)
  ⟨h.1.stale, h.2⟩

-- non-vacuity: two senders (fibers 1, 2; items tagged x / 10), capacity 1 so that fiber 2 parks, receivers 5 (thread 0, first
-- pending then direct) and 6 (thread 3); pipe hand-offs and run-queue resumptions interleaved; no abandoned wait
example :
    let s := run ⟨true, true, true, true, true, true⟩
      [.take 0 5, .give 1 1 10, .give 1 1 11, .give 2 2 20, .handle 0, .take 3 6, .resume 0, .resume 0, .handle 0, .resume 0,
       .give 2 2 21, .take 0 5, .resume 0, .take 0 5, .resume 0] (init 1)
    s.abandons = 0 ∧ gotSeq 5 s.log = [10, 20, 21] ∧ gotSeq 6 s.log = [11] ∧ gaveBy 2 s.log = [20, 21] := by
  decide

/-- even with the put-back (`requeue = true`): item 1 is dispatched to a reader that abandoned its wait, item 2 is queued and taken by
    fiber 5, item 1 comes back and is taken by fiber 5 afterwards: fiber 5 is resumed with 2 before 1 although 1 was given
    before 2 (event log). -/
theorem per_sender_order_counterexample :
    let s := run ⟨true, true, true, true, true, true⟩
      [.take 0 0, .abandon 0, .give 1 1 1, .give 1 1 2, .take 0 5, .resume 0, .resume 0, .handle 0, .take 0 5, .resume 0] (init 4)
    gaveBy 1 s.log = [1, 2] ∧ gotSeq 5 s.log = [2, 1] ∧ s.abandons = 1 := by
  decide

example : (run ⟨true, true, true, true, true, true⟩ [.take 0 0, .give 1 1 1, .give 1 1 2, .handle 0, .resume 0, .take 0 5] (init 4)).staleReads = 0 := by
  decide

/-- per-sender order across a REQUEUED stale hand-off.  Situation: item `x` was dispatched to a pending reader
    that has abandoned its wait; when janet_thread_chan_cb finds the message stale NO other reader is pending (requeue branch,
    not re-dispatch) and nothing that was given after `x` has left the channel yet (`ReturnPoint`: `x` is the last hand-out,
    every later give is still queued - any number of them, from any senders).  If the source puts the item back at the HEAD
    (`requeueHead`, janet_q_push_head) then after the step, and after ANY continuation `acts` (gives, takes, closes, pipe
    hand-offs, resumptions, any number of loops) in which no further message is found stale, items leave the channel exactly
    in give order: hand-out log (the returned dispatch discounted) ++ queue = send log.
    `requeueHead = true` is needed: `per_sender_order_requeue_counterexample`.
    Outside this theorem (known finding reorder-stale-reader): the message is re-dispatched to another pending reader, or a
    later item was already taken / dispatched before the stale message is handled, or several stale hand-offs are in flight. -/
theorem per_sender_order_requeue (cfg : Cfg) (hc : cfg.checkSched = true) (hd : cfg.redispatch = true) (hq : cfg.requeue = true)
    (hh : cfg.requeueHead = true) (s : St) (m : Msg) (x : Item) (h1 : List (Nat × Item)) (hk : m.kind = .read x)
    (hst : s.sched m.fiber ≠ m.sched) (hp : ReturnPoint s m.fiber x h1) (acts : List Act)
    (hz : (run cfg acts { cb cfg s m with handed := h1 }).staleReads = (cb cfg s m).staleReads) :
    let s1 : St := { cb cfg s m with handed := h1 }
    s1.items = x :: s.items ∧
      (run cfg acts s1).handed.map Prod.snd ++ (run cfg acts s1).items = (run cfg acts s1).sent := by
  refine ⟨?_, (run_fifo cfg acts _ hz (requeue_restores_fifo cfg hc hd hq hh s m x h1 hk hst hp)).2⟩
  rw [cb_requeue cfg s m x hk hc hd hq hst hp.noReader]
  simp [hh]

/-- the hypotheses of `per_sender_order_requeue` are met by a reachable state with TWO later gives of the same sender queued:
    fiber 0 waits, abandons, is resumed; sender 9 gives 1 (dispatched to the stale entry), 2 and 3 (queued) -/
example :
    let s := run ⟨true, true, true, true, true, true⟩ [.take 0 0, .abandon 0, .resume 0, .give 1 9 1, .give 1 9 2, .give 1 9 3] (init 8)
    s.flight = [⟨0, 0, 0, .read 1⟩] ∧ s.sched 0 ≠ 0 ∧ s.items = [2, 3] ∧ ReturnPoint s 0 1 [] := by
  refine ⟨by decide, by decide, by decide, ⟨by decide, by decide, by decide⟩⟩

/-- `requeueHead` is NEEDED (janet_q_push instead of janet_q_push_head): the same history - one receiver fiber 0
    abandons its wait, sender 9 gives 1, 2, 3 before the receiver's loop looks at its pipe, no other reader is pending, nothing
    is taken in between, the message is requeued (one stale read, never re-dispatched: nothing is in flight afterwards and the
    queue holds all three items) - then fiber 5 takes three times: with the item put back at the head it gets 1, 2, 3; with
    the item put back at the tail it gets 2, 3, 1 although fiber 9 gave 1 first. -/
theorem per_sender_order_requeue_counterexample :
    let pre : List Act := [.take 0 0, .abandon 0, .resume 0, .give 1 9 1, .give 1 9 2, .give 1 9 3, .handle 0]
    let takes : List Act := [.take 0 5, .resume 0, .take 0 5, .resume 0, .take 0 5, .resume 0]
    let head := run ⟨true, true, true, true, true, true⟩ (pre ++ takes) (init 8)
    let tail := run ⟨true, false, true, true, true, true⟩ (pre ++ takes) (init 8)
    let mid := run ⟨true, false, true, true, true, true⟩ pre (init 8)
    gaveBy 9 head.log = [1, 2, 3] ∧ gotSeq 5 head.log = [1, 2, 3] ∧
      gaveBy 9 tail.log = [1, 2, 3] ∧ gotSeq 5 tail.log = [2, 3, 1] ∧
      mid.staleReads = 1 ∧ mid.flight = [] ∧ mid.items = [2, 3, 1] ∧ mid.readers = [] := by
  decide

/-- per receiving THREAD the order is not kept even without abandoned waits (two fibers of one thread take from one channel):
    item 1 is posted to the pipe of thread 0 for the pending fiber 7, item 2 is queued and taken directly by fiber 8 of the
    same thread before the thread looks at its pipe: thread 0 resumes fiber 8 with 2, then fiber 7 with 1.  Each FIBER still
    sees send order (`per_sender_order`); a receiver is a fiber. -/
theorem per_thread_order_counterexample :
    let s := run ⟨true, true, true, true, true, true⟩ [.take 0 7, .give 1 1 1, .give 1 1 2, .take 0 8, .resume 0, .handle 0, .resume 0] (init 4)
    s.abandons = 0 ∧ gotAll s.log = [(8, 2), (7, 1)] := by
  decide

/-- janet_ev_handle_selfpipe: the message handed to janet_thread_chan_cb is the OLDEST message of that loop's pipe, and the
    rest of the pipe keeps its order (whatever the other loops' messages are doing in between) -/
theorem pipe_fifo (s : St) (i : Nat) (m : Msg) (rest : List Msg) (hx : extract i s.flight = some (m, rest))
    (hen : (s.flight.take i).all (fun m' => m'.loop != m.loop) = true) :
    s.flight.filter (fun y => y.loop == m.loop) = m :: rest.filter (fun y => y.loop == m.loop) :=
  extract_first_of_key Msg.loop s.flight i m rest hx hen

/-- janet_loop1: the task that is run is the OLDEST task of that loop's run queue (janet_q_push at the tail, janet_q_pop at the
    head), the rest keeps its order -/
theorem runq_fifo (s : St) (i : Nat) (k : Task) (rest : List Task) (hx : extract i s.runq = some (k, rest))
    (hen : (s.runq.take i).all (fun k' => k'.thread != k.thread) = true) :
    s.runq.filter (fun y => y.thread == k.thread) = k :: rest.filter (fun y => y.thread == k.thread) :=
  extract_first_of_key Task.thread s.runq i k rest hx hen

/-- end to end: with re-dispatch and put-back, under every interleaving every accepted item is in exactly one of: the
    channel queue, a pipe message, a queued run-queue task, the `got` events of the log (delivered to exactly one fiber),
    or the tasks that janet_loop1 skipped because the fiber had been rescheduled in the meantime (`dropped`). -/
theorem exactly_once_resumed (cfg : Cfg) (hq : cfg.requeue = true) (hd : cfg.redispatch = true) (limit : Nat) (acts : List Act) (x : Item) :
    let s := run cfg acts (init limit)
    (gaveSeq s.log).countP (· == x) =
      s.items.countP (· == x) + s.flight.countP (fun m => m.item == some x) + s.runq.countP (fun k => k.item == some x) +
        (gotAll s.log).countP (fun d => d.2 == x) + s.dropped.countP (fun d => d.2 == x) := by
  have h1 := exactly_once cfg hq hd limit acts x
  have h2 := run_conserved2 cfg acts (init limit) (conserved2_init limit) x
  have h3 := run_logOK cfg acts (init limit) rfl
  simp only [h3]
  omega

/-- ... and `dropped` is empty unless a waiting fiber was abandoned: then exactly-once holds up to the `got` events -/
theorem exactly_once_resumed_clean (cfg : Cfg) (hq : cfg.requeue = true) (hd : cfg.redispatch = true) (limit : Nat) (acts : List Act)
    (hclean : (run cfg acts (init limit)).abandons = 0) (x : Item) :
    let s := run cfg acts (init limit)
    (gaveSeq s.log).countP (· == x) =
      s.items.countP (· == x) + s.flight.countP (fun m => m.item == some x) + s.runq.countP (fun k => k.item == some x) +
        (gotAll s.log).countP (fun d => d.2 == x) := by
  have h := exactly_once_resumed cfg hq hd limit acts x
  have hd0 := (no_abandon_no_stale_no_drop cfg limit acts hclean).2
  simp only [hd0] at h
  simpa using h

/-- the run loop does drop a value when the fiber is rescheduled between janet_thread_chan_cb and its resumption (a deadline
    that expires in the same loop turn; known finding lost-deadline-same-turn): fiber 0 waits, item 7 is given, the callback
    schedules fiber 0 with it, the deadline cancels fiber 0, janet_loop1 skips the task that carries the item. -/
theorem scheduled_then_abandoned_counterexample :
    let s := run ⟨true, true, true, true, true, true⟩ [.take 0 0, .give 1 1 7, .handle 0, .abandon 0, .resume 0, .resume 0] (init 4)
    gaveSeq s.log = [7] ∧ gotAll s.log = [] ∧ s.items = [] ∧ s.flight = [] ∧ s.runq = [] ∧ s.dropped = [(0, 7)] := by
  decide

/-- janet_thread_chan_cb on a stale WRITE wake-up with another writer pending: the wake-up is forwarded with that writer's OWN
    `sched_id`, so the writer's loop will accept it (next theorem). -/
theorem writer_wakeup_forwarded (cfg : Cfg) (hf : cfg.forwardOwnSched = true) (hd : cfg.redispatch = true)
    (hc : cfg.checkSched = true) (s : St) (ml mf ms : Nat) (w : Pending) (ws : List Pending)
    (hst : s.sched mf ≠ ms) (hw : s.writers = w :: ws) :
    (cb cfg s ⟨ml, mf, ms, .write⟩).flight = s.flight ++ [⟨w.thread, w.fiber, w.sched, .write⟩] ∧
      (cb cfg s ⟨ml, mf, ms, .write⟩).writers = ws := by
  have h := (cb_spec cfg s ⟨ml, mf, ms, .write⟩).stale (fun ha => ha.elim (by simp [hc]) hst)
  generalize cb cfg s ⟨ml, mf, ms, .write⟩ = s' at h
  cases h with
  | ignore _ hg => exact nomatch hw ▸ hg rfl hd
  | forwardRead _ _ _ hk | requeue _ hk | lose _ hk => cases hk
  | forwardWrite w' ws' _ _ hw' =>
    rw [hw] at hw'
    cases hw'
    exact ⟨by simp [hf], rfl⟩

/-- ... and a writer that is still waiting (its `sched_id` unchanged) is resumed by the forwarded wake-up. -/
theorem writer_wakeup_accepted (cfg : Cfg) (s : St) (w : Pending) (hcur : s.sched w.fiber = w.sched) :
    (cb cfg s ⟨w.thread, w.fiber, w.sched, .write⟩).woken = s.woken ++ [(w.fiber, .write)] := by
  have h := (cb_spec cfg s ⟨w.thread, w.fiber, w.sched, .write⟩).acc (Or.inr hcur)
  generalize cb cfg s ⟨w.thread, w.fiber, w.sched, .write⟩ = s' at h
  cases h with
  | deliver _ hk => cases hk
  | wake => rfl

/-- if the forwarded wake-up kept the STALE entry's `sched_id`: channel of capacity 1, fibers 2 and 3 are parked writers
    (fiber 3 has a different sched counter), fiber 2 gives up, fiber 4 takes: the wake-up is forwarded to fiber 3 with
    fiber 2's id, rejected there, forwarded off the end of the queue - fiber 3 is never resumed. -/
theorem writer_wakeup_counterexample :
    let acts := [Act.give 0 1 10, .give 0 2 20, .abandon 3, .give 0 3 30, .abandon 2, .take 0 4, .handle 0, .handle 0]
    (run ⟨true, true, true, true, false, true⟩ acts (init 1)).woken = [] ∧
    (run ⟨true, true, true, true, false, true⟩ acts (init 1)).flight = [] ∧
    (run ⟨true, true, true, true, true, true⟩ acts (init 1)).woken = [(3, Kind.write)] := by
  decide

/-- a fiber is only ever resumed with an item that some give put into the channel (no invention, for every interleaving,
    abandoned waits included): the channel machinery moves the PACKED value (`Item`) unchanged -/
theorem got_was_given (cfg : Cfg) (hq : cfg.requeue = true) (hd : cfg.redispatch = true) (limit : Nat) (acts : List Act)
    (r : Nat) (x : Item) (hg : (r, x) ∈ gotAll (run cfg acts (init limit)).log) : x ∈ gaveSeq (run cfg acts (init limit)).log := by
  have h := exactly_once_resumed cfg hq hd limit acts x
  have hpos : 0 < (gotAll (run cfg acts (init limit)).log).countP (fun d => d.2 == x) :=
    List.countP_pos_iff.mpr ⟨(r, x), hg, by simp⟩
  have : 0 < (gaveSeq (run cfg acts (init limit)).log).countP (· == x) := by
    simp only at h; omega
  obtain ⟨y, hy, hyx⟩ := List.countP_pos_iff.mp this
  have : y = x := by simpa using hyx
  exact this ▸ hy

open JanetModel.Marsh JanetModel.Thread.Payload in
/-- structurally equal: unpacking what janet_chan_pack produced gives back the value AND its whole reachable heap - same
    shape, same sharing, same cycles (equality of reference-order presentations, C09's notion of graph isomorphism) - for every
    data graph.  The marshalled case IS C09's `roundtrip_graph_top` (both are `Marsh.top_roundtrip`; thread channels use the same `janet_marshal` /
    `janet_unmarshal`; JANET_MARSHAL_UNSAFE changes pointer-like cases only - regenerated flags, `Thread.Current.payload_codec_shape`);
    nil / booleans / numbers travel as the Janet word.  Side condition as in C09: `(x, H)` is a reference-order presentation
    of the payload with no garbage (checked there by correspondence).  Not covered (tested by topo.py / C09's oracles):
    functions, fibers, abstracts other than by the refcount model below, NO_REALLOC pointer buffers (sent by address). -/
theorem payload_roundtrip (H : List Obj) (hH : HeapWF H) (x : Val) (hx : ValWF x) (bs : List Nat)
    (hfull : marshalOne topFuel H 0 x = some (bs, H.length)) (p : Packed) (hp : pack H x = some p) :
    unpack p = some (x, H) := by
  unfold pack at hp
  by_cases hpt : passthrough H x = true
  · simp only [hpt, if_true, Option.some.injEq] at hp
    subst hp; rfl
  · have hpf : passthrough H x = false := by simpa using hpt
    obtain ⟨hm, hu⟩ := top_roundtrip H hH x hx bs hfull
    rw [hpf, hm] at hp
    simp at hp
    subst hp
    simp [unpack, hu]

open JanetModel.Marsh JanetModel.Thread.Payload in
-- non-vacuity: an array that contains the same string twice (sharing) and an int: packed as an image, unpacked equal
example :
    let H : List Obj := [.array false [.ref 1, .ref 1, .int 7], .str .string [104, 105]]
    (pack H (.ref 0)).isSome = true ∧ (pack H (.ref 0)).bind unpack = some (.ref 0, H) ∧ pack H (.int 5) = some (.raw (.int 5) H) := by
  decide

/- A supervisor event (`[:ok value task-id]`, `[:error ..]`, ...) is pushed by janet_loop1 with
   `janet_channel_push(chan, make_supervisor_event(..), 2)`, the thread-start error report likewise; `ev/give-supervisor` is an
   ordinary give.  Mode 2 is the action `giveNB` of the model (never parks), so every theorem above that quantifies over
   `acts : List Act` - `exactly_once`, `exactly_once_resumed`, `per_sender_order` - covers supervisor events mixed with gives,
   takes, closes, abandoned waits, in every interleaving. -/

/-- a mode-2 push behaves like a give into a channel that is never over capacity: it registers no pending writer and the pushing
    side never waits, whatever the limit -/
theorem supervisor_push_never_parks (s : St) (f : Nat) (x : Item) :
    (giveNB s f x).writers = s.writers ∧ (giveNB s f x).waiting = s.waiting ∧
      (s.closed = false → (giveNB s f x).sent = s.sent ++ [x]) := by
  unfold giveNB
  refine ⟨?_, ?_, ?_⟩ <;> (repeat' split) <;> simp_all

/-- every event reported to a supervisor channel arrives exactly once, and the events about one thread / fiber arrive at the
    supervising fiber in the order in which they were reported: instance of `exactly_once_resumed` and `per_sender_order` for
    histories that contain mode-2 pushes (stated for an arbitrary history; `tag` labels an event with the fiber it is about) -/
theorem supervisor_events_exactly_once_in_order (cfg : Cfg) (hq : cfg.requeue = true) (hd : cfg.redispatch = true)
    (limit : Nat) (acts : List Act) (hclean : (run cfg acts (init limit)).abandons = 0)
    (tag : Item → Nat) (htag : ∀ f x, Ev.gave f x ∈ (run cfg acts (init limit)).log → tag x = f) (about supervisor : Nat) (x : Item) :
    let s := run cfg acts (init limit)
    ((gaveSeq s.log).countP (· == x) =
      s.items.countP (· == x) + s.flight.countP (fun m => m.item == some x) + s.runq.countP (fun k => k.item == some x) +
        (gotAll s.log).countP (fun d => d.2 == x)) ∧
    ((gotSeq supervisor s.log).filter (fun y => tag y == about)).Sublist (gaveBy about s.log) :=
  ⟨exactly_once_resumed_clean cfg hq hd limit acts hclean x, per_sender_order cfg limit acts hclean tag htag about supervisor⟩

-- non-vacuity: thread 1's fibers 11 and 12 report three events to a supervisor channel of capacity 1 (the second and third are
-- over capacity: no parking), the supervisor fiber 9 of thread 0 takes them, interleaved with an ordinary give
example :
    let s := run ⟨true, true, true, true, true, true⟩
      [.giveNB 11 110, .giveNB 11 111, .giveNB 12 120, .take 0 9, .resume 0, .give 1 13 130, .take 0 9, .resume 0, .take 0 9, .resume 0,
       .take 0 9, .resume 0] (init 1)
    s.abandons = 0 ∧ s.sent = [110, 111, 120, 130] ∧ gotSeq 9 s.log = [110, 111, 120, 130] ∧ gaveBy 11 s.log = [110, 111] := by
  decide

open JanetModel.Thread.Spawn in
/-- what janet_go_thread_subr unmarshals is what cfun_ev_thread marshalled, for EVERY plan (order and guards of the
    segments), flag word and arguments, provided both sides follow the same plan - the per-run obligation
    `Thread.Current.thread_plans_agree` on the regenerated plans; nothing is left in the buffer -/
theorem thread_args_roundtrip (plan : List PStep) (flags : Nat) (a : Args) :
    readBuf plan flags (writeBuf plan flags a) = some (writeBuf plan flags a, []) := by
  have := read_write plan flags a []
  simpa using this

open JanetModel.Thread.Spawn in
/-- exactly once: for every sequence of ev/thread calls and thread starts (any order, any flags), every call's buffer is
    either still waiting for its thread or was consumed by exactly one thread (`spawned = started + ran`, `started` = the buffers whose thread has not run yet), one buffer is freed
    per thread that ran, and every thread that ran read back a well-formed buffer with nothing left over -/
theorem thread_handover_exactly_once (plan : List PStep) (acts : List HAct) :
    let s := hrun plan plan acts {}
    s.spawned.length = s.started.length + s.ran.length ∧ s.freed = s.ran.length ∧ ∀ r ∈ s.ran, ∃ got, r = some (got, []) := by
  have h := hrun_inv plan acts {} (hinv_init plan)
  exact ⟨h.count, h.freed, h.ok⟩

open JanetModel.Thread.Spawn in
/-- if the reader took `main` and `value` in the other order than they were written, the thread would start with garbage -/
theorem thread_args_counterexample :
    let w : List PStep := [⟨true, 0, true, .main⟩, ⟨true, 0, true, .value⟩]
    let r : List PStep := [⟨true, 0, true, .value⟩, ⟨true, 0, true, .main⟩]
    readBuf r 0 (writeBuf w 0 (mkArgs (0, 7, 8))) = none := by
  decide

/-- the fiber that called `ev/thread` is resumed only after the thread body (the whole event loop of the new thread) has
    finished - for every interleaving of body steps, completion write and caller loop, and every body length. -/
theorem thread_returns_after_body (cfg : TCfg) (hc : cfg.completionAfterBody = true) (n : Nat) (acts : List TAct) :
    let s := trun cfg acts { bodyLeft := n }
    (s.callerResumed = true → s.bodyDone = true) ∧ s.resumedAfterBody = true := by
  have h : TInv (trun cfg acts { bodyLeft := n }) := Util.foldl_inv (tstep_inv cfg hc) acts _ (by simp [TInv])
  exact ⟨fun hr => h.1 (h.2.1 hr), h.2.2⟩

/-- if the completion record were written before `subr` returns, the caller can be resumed while the body still runs -/
theorem thread_returns_after_body_counterexample :
    let s := trun ⟨false⟩ [.start, .post, .callerLoop] { bodyLeft := 3 }
    s.callerResumed = true ∧ s.bodyDone = false := by
  decide

example : (trun ⟨true⟩ [.start, .bodyStep, .bodyStep, .post, .callerLoop] { bodyLeft := 1 }).callerResumed = true := by decide

/-- no free while any thread can reach the object: with the reference taken before sending, at every point of every
    interleaving of send / receive / drop / sweep / carrier-finalizer (`discard`) steps of any number of threads, the count equals the number of holders
    (threads with a table entry + copies in transit); the object is freed only when there is none; nobody uses it after. -/
theorem refcount_ge_reachers (cfg : RCfg) (hc : cfg.increfBeforeSend = true) (hk : cfg.recvKnownDecref = true)
    (hd : cfg.deinitDecref = true) (hp : cfg.packFailDecref = true) (acts : List RAct) :
    let s := rrun cfg acts {}
    (s.freed = false → s.refcount = s.holds.length + s.transit) ∧ (s.freed = true → s.holds = [] ∧ s.transit = 0) ∧
      s.useAfterFree = false :=
  (rrun_inv cfg hc hk hd hp acts {} ⟨rinv_init, rreach_init⟩).1

/-- ... and it IS freed by the sweep of the last holder once that thread no longer references it. -/
theorem refcount_freed_after_last_drop (cfg : RCfg) (s : RSt) (t : Nat) (h : RInv s) (hf : s.freed = false)
    (hh : s.holds = [t]) (ht : s.transit = 0) (hr : s.reach t = false) : (rstep cfg s (.sweep t)).freed = true := by
  have := h.1 hf
  simp [rstep, hh, hr, hf] at this ⊢
  omega

/-- without the incref before sending ("death in transit"): thread 0 sends, drops its reference and collects: the object is
    freed while a copy of the pointer is still inside a message. -/
theorem refcount_counterexample :
    let s := rrun { increfBeforeSend := false, recvKnownDecref := true } [.send 0, .drop 0, .sweep 0] {}
    s.freed = true ∧ s.transit = 1 := by
  decide

/-- if a thread that already holds the object does not drop the in-transit reference when it receives it again (e.g. the
    "known?" test looks at the entry's value, which is `false` between mark phases): thread 0 sends the object to itself,
    drops it and collects - nobody holds it, nothing is in transit, and it is never freed. -/
theorem refcount_leak_counterexample :
    let s := rrun { increfBeforeSend := true, recvKnownDecref := false } [.send 0, .recv 0, .drop 0, .sweep 0] {}
    s.freed = false ∧ s.holds = [] ∧ s.transit = 0 ∧ s.refcount = 1 := by
  decide

example : (rrun { increfBeforeSend := true, recvKnownDecref := true } [.send 0, .drop 0, .sweep 0, .recv 1, .drop 1, .sweep 1] {}).freed = true := by decide
example : (rrun { increfBeforeSend := true, recvKnownDecref := true } [.send 0, .drop 0, .sweep 0, .recv 1] {}).freed = false := by decide

/- `janet_mutex_type` / `janet_rwlock_type` are threaded abstracts WITHOUT marshal hooks (regenerated: `Current.lock_types_shape`):
   the only way across a thread boundary is the LB_THREADED_ABSTRACT path of marsh.c (pointer + incref = `send` / `recv`), their
   finalizer only destroys the OS primitive.  `use t` = thread t locks / unlocks (touches the abstract's memory). -/

/-- objects shared between threads (locks, rwlocks, thread channels) remain valid while any thread can reach them: at every
    point of every interleaving of send / receive / use / drop / sweep steps of any number of threads, if some thread still
    references the object, or a copy of the pointer is inside a message in transit, the object has not been freed - and no
    lock / unlock / channel operation ever touched freed memory -/
theorem shared_valid_while_reachable (cfg : RCfg) (hc : cfg.increfBeforeSend = true) (hk : cfg.recvKnownDecref = true)
    (hd : cfg.deinitDecref = true) (hp : cfg.packFailDecref = true) (acts : List RAct) :
    let s := rrun cfg acts {}
    (∀ t, s.reach t = true → s.freed = false) ∧ (0 < s.transit → s.freed = false) ∧ s.useAfterFree = false := by
  obtain ⟨h, hr⟩ := rrun_inv cfg hc hk hd hp acts {} ⟨rinv_init, rreach_init⟩
  exact ⟨fun t ht => h.held (hr t ht), fun htr => h.sent (Nat.ne_of_gt htr), h.2.2⟩

/-- ... and they are released after the last reference is dropped: from ANY state the protocol can be in with nothing in
    transit, once every thread has dropped its references, the collectors of the holding threads (in table order) free the
    object - the last sweep brings the count to 0 and runs the finalizer (mutexgc / rwlockgc / janet_chanat_gc) -/
theorem shared_released_after_all_dropped (cfg : RCfg) : ∀ (l : List Nat) (s : RSt), s.holds = l → l ≠ [] → l.Nodup →
    RInv s → s.freed = false → s.transit = 0 → (∀ t, s.reach t = false) →
    (rrun cfg (l.map RAct.sweep) s).freed = true := by
  intro l s hh hne _ hinv hf htr hre
  have hl : RLive s := fun _ => by
    have h1 := hinv.1 hf
    have h2 := List.length_pos_iff.mpr hne
    rw [hh] at h1
    omega
  have h := sweeps_inv cfg l s ⟨hinv, fun t ht => absurd ht (by simp [hre t]), hl⟩
  have h2 := sweeps_empty_holds cfg l s hh hre
  exact freed_of_unreferenced h.1 h.2.2 h2.1 (h2.2.1.trans htr)

/-- if the marshaller did not take the reference before sending, a lock dies in transit and the receiving thread locks freed
    memory: thread 0 sends the lock, drops it and collects; thread 1 receives the pointer and acquires -/
theorem lock_use_counterexample :
    let s := rrun { increfBeforeSend := false, recvKnownDecref := true } [.send 0, .drop 0, .sweep 0, .recv 1, .use 1] {}
    s.freed = true ∧ s.reach 1 = true ∧ s.useAfterFree = true := by
  decide

example : (rrun { increfBeforeSend := true, recvKnownDecref := true } [.send 0, .recv 1, .use 1, .use 0, .drop 0, .sweep 0, .use 1, .drop 1, .sweep 1] {}).freed = true ∧
    (rrun { increfBeforeSend := true, recvKnownDecref := true } [.send 0, .recv 1, .use 1, .use 0, .drop 0, .sweep 0, .use 1, .drop 1, .sweep 1] {}).useAfterFree = false := by decide

/-- shared objects are released after the last reference is dropped, whichever step drops it: at EVERY point of EVERY interleaving
    of send / receive / use / drop / sweep steps and finalizer runs of carrying channels with undelivered messages, an
    object that no thread's table lists and that no message in transit contains HAS been freed - the step that removed the
    last reference (a collector's sweep, or the clean-up unmarshal of an undelivered message) finalized it.  No object is
    ever stranded with a zero count.  (Needs all five facts of the current source; see the counterexamples.) -/
theorem shared_never_stranded (cfg : RCfg) (hc : cfg.increfBeforeSend = true) (hk : cfg.recvKnownDecref = true)
    (hd : cfg.deinitDecref = true) (hz : cfg.decrefFreesAtZero = true) (hp : cfg.packFailDecref = true) (acts : List RAct) :
    let s := rrun cfg acts {}
    s.holds = [] → s.transit = 0 → s.freed = true :=
  never_stranded_from cfg hc hk hd hz hp acts {} rinv_init rreach_init rlive_init

/-- released after the last reference is dropped, undelivered messages included: from ANY state the protocol can be in,
    once no thread references the object any more, the collectors of the threads that list it and the finalizers of the
    channels that still carry a copy - sweeps first, then the carriers - leave it freed (whoever comes last frees it) -/
theorem shared_released_after_drops_and_discards (cfg : RCfg) (hc : cfg.increfBeforeSend = true) (hk : cfg.recvKnownDecref = true)
    (hd : cfg.deinitDecref = true) (hz : cfg.decrefFreesAtZero = true) (hp : cfg.packFailDecref = true) (s : RSt) (hi : RInv s) (hr : RReach s)
    (hl : RLive s)
    (hnd : s.holds.Nodup) (hre : ∀ t, s.reach t = false) :
    (rrun cfg (s.holds.map RAct.sweep ++ List.replicate s.transit RAct.discard) s).freed = true := by
  have h1 := sweeps_empty_holds cfg s.holds s rfl hre
  have h2 := discards_empty_transit cfg s.transit (rrun cfg (s.holds.map RAct.sweep) s) h1.2.1
  have hfin := never_stranded_from cfg hc hk hd hz hp (s.holds.map RAct.sweep ++ List.replicate s.transit RAct.discard) s hi hr hl
  apply hfin
  · rw [rrun_append, h2.2, h1.1]
  · rw [rrun_append]; exact h2.1

example : (rrun { increfBeforeSend := true, recvKnownDecref := true }
    ([.send 0, .send 0, .recv 1, .drop 0, .drop 1] ++ ([1, 0].map RAct.sweep ++ List.replicate 1 RAct.discard)) {}).freed = true := by decide

/-- the clean-up unmarshal decrements WITHOUT finalizing at zero (the source up to e480e68): thread 0 puts the object into a
    message nobody takes, drops it and collects; then the carrying channel is collected: count 0, in no table, in no
    message - and not freed.  Replayed on the implementation: corpus/C08/undelivered_shared_released.janet. -/
theorem stranded_counterexample :
    let s := rrun { increfBeforeSend := true, recvKnownDecref := true, deinitDecref := true, decrefFreesAtZero := false }
      [.send 0, .drop 0, .sweep 0, .discard] {}
    s.freed = false ∧ s.holds = [] ∧ s.transit = 0 ∧ s.refcount = 0 := by
  decide

/-- the finalizer of the carrying channel frees the packed buffers without the DECREF unmarshal: the in-transit reference is
    never given back - after the last holder dropped the object and collected, the count is still 1: never released -/
theorem deinit_leak_counterexample :
    let s := rrun { increfBeforeSend := true, recvKnownDecref := true, deinitDecref := false, decrefFreesAtZero := true }
      [.send 0, .discard, .drop 0, .sweep 0] {}
    s.freed = false ∧ s.holds = [] ∧ s.transit = 0 ∧ s.refcount = 1 := by
  decide

/-- a give that fails to pack after the pointer was written into the buffer, without the clean-up of the partial buffer
    (the source up to fe0649e): the reference taken for the transit is never given back - after the only holder dropped the object and
    collected, the count is still 1 -/
theorem pack_failure_leak_counterexample :
    let s := rrun { increfBeforeSend := true, recvKnownDecref := true, packFailDecref := false } [.failSend 0, .drop 0, .sweep 0] {}
    s.freed = false ∧ s.holds = [] ∧ s.transit = 0 ∧ s.refcount = 1 := by
  decide

example : (rrun { increfBeforeSend := true, recvKnownDecref := true } [.failSend 0, .send 0, .failSend 0, .discard, .drop 0, .sweep 0] {}).freed = true := by decide

-- non-vacuity: both orders of "holder goes away" / "carrier is finalized" end with the object freed, never used after
example : (rrun { increfBeforeSend := true, recvKnownDecref := true } [.send 0, .drop 0, .sweep 0, .discard] {}).freed = true := by decide
example : (rrun { increfBeforeSend := true, recvKnownDecref := true } [.send 0, .discard, .use 0, .drop 0, .sweep 0] {}).freed = true ∧
    (rrun { increfBeforeSend := true, recvKnownDecref := true } [.send 0, .discard, .use 0, .drop 0, .sweep 0] {}).useAfterFree = false := by decide
example : (rrun { increfBeforeSend := true, recvKnownDecref := true } [.send 0, .send 0, .recv 1, .discard, .drop 0, .sweep 0] {}).freed = false := by decide

open JanetModel.Thread.LockCert in
/-- every path through an accepted function - every branch, any number of loop iterations, a panic at any panic site or
    inside a `..._with_lock` callee - ends by leaving the function with the channel mutex RELEASED; on the way the mutex is
    never taken while held, never released while not held, the channel's queues / `closed` / `limit` are only touched while
    it is held, and the path released exactly as often as it acquired (+1 when the function is entered with the lock held).
    `accepts` is evaluated by the kernel on the statement trees regenerated
    from ev.c (`Current.lock_discipline_current`). -/
theorem lock_paths_release_exactly_once (pre : Bool) (body : LS) (hacc : accepts pre body = true) (o : Out)
    (hr : Run (.seq body .ret) { held := pre } o) :
    ∃ s', o = .exit s' ∧ s'.held = false ∧ s'.rel = s'.acq + b2n pre :=
  accepts_sound pre body hacc o hr

open JanetModel.Thread.LockCert in
/-- the checker rejects: a panic that keeps the mutex (the closed-channel panic of janet_channel_push_with_lock without its
    unlock), a second unlock on one path, a queue access before the lock is taken -/
theorem lock_discipline_counterexamples :
    accepts true (.seq (.ite true .panic .skip) (.seq .unlock .ret)) = false ∧
    accepts false (.seq .lock (.seq (.ite true (.seq .unlock .ret) .skip) (.seq .unlock (.seq .unlock .ret)))) = false ∧
    accepts false (.seq .access (.seq .lock (.seq .unlock .ret))) = false := by
  decide

open JanetModel.Thread.LockCert in
example : accepts true (.seq (.ite true (.seq .unlock .panic) .skip) (.seq (.loop true (.ite false .brk .skip)) (.seq .unlock .ret))) = true := by decide
open JanetModel.Thread.LockCert in
example : Run (.seq (.seq .lock (.seq .access .unlock)) .ret) { held := false } (.exit { held := false, acq := 1, rel := 1 }) :=
  .seq_fall _ _ _ _ _ (.seq_fall _ _ _ _ _ (.lock_ok _ rfl) (.seq_fall _ _ _ _ _ (.access_ok _ rfl) (.unlock_ok _ rfl))) (.ret _)

end JanetModel.Props.C08
