/- C02: property theorems.  Level claimed for the property: translation validation (checks/C02.py); what is PROVED is
   (1) the emit layer: for every combination of slot kinds (near local, far local, upvalue, constant, ref) and every index,
       the instruction sequence emit.c produces around an operation has exactly the abstract three-address effect on the
       named slots and changes nothing but temporaries; the temporaries the allocator hands out are disjoint (the emit model
       is compared word for word with the real emit.c / regalloc.c on every run: harness/C02/emit_wrap.c);
   (2) context independence of the Lean reference semantics (`sem_context_free`, Lang/SemProps.lean).
   (3) compile.c / specials.c have an executable model for a core fragment (Compile/Model.lean, compared word for
       word with the real compiler on every run).  PROVED about it and around it: the regenerated special-form table and
       statement shapes it mirrors (`compile_model_matches_source`); the Lean VM decodes and executes every instruction
       word the emit layer and the compiler model produce as the instruction it stands for (`vm_executes_emit_words`,
       `vm_executes_compiler_words`: the emit machine is identified with `Exec.step` on the load / move opcodes); at the
       instruction level the VM and the reference semantics agree on the rules of the language: core-function call incl.
       error value and error position (`call_agrees`), conditional jump vs `truthy`, argument order of the pushes, tuple /
       array construction, return; core functions cannot see frames or pending arguments (`callPrim_frame_independent`).
       A compositional compile-correctness theorem is proved by induction on the form, for the call fragment
       (literals, local and global symbols, nested one-argument calls of global core functions): `compile_correct_calls`.
       The statement fragment `e ::= literal | symbol | (f e) | (do e ...) | (upscope e ...) | (def x e)`
       (`compile_correct_statements`): block scopes pushed and popped, statements sequenced with the dropped value freed, `def`
       binding a fresh register (copy) or aliasing a named immutable local, the environment of `Lang/Sem` (boxes) tied to registers
       by an invariant split into a compile-time and a run-time part.
       The induction is generic in the fragment and carries two more facts (`NameFrame`: nameless
       registers stay nameless / named result registers had a name; the source map stays as long as the code); proved on top
       of it, for the fragment literal | symbol | call of a core function (any arity; global or through a local) | do | upscope |
       def | var | if: the value outcome (`compile_correct_nary_calls`, `compile_correct_local_calls`, `compile_correct_if`,
       `compile_correct_var`), the TAIL-position outcome (`compile_correct_tail`, `compile_correct_tail_calls`), the ERROR outcome
       incl. propagation (`compile_correct_call_error`, `compile_correct_error`, `compile_correct_fn_body_error`), function bodies
       and closed statements for their funcdefs (`compile_correct_fn_body`, `compile_correct_thunk`, `compile_correct_fn_params`),
       one `while` loop without `break` over the fragment and blocks mixing loops and forms (`compile_correct_while`,
       `compile_correct_block_loops`), `while` loops without `break` nested to any depth as loop-body statements
       (`compile_correct_nested_while`, `compile_correct_loops_any_depth`, `compile_correct_block_nested_loops`), a loop with an
       unconditional `(break)` (`compile_correct_while_break`: the placeholder patch), the entry moves of functions with > 240
       parameters (`fn_moveargs_correct`, `fn_moveargs_allocated`: far registers), and the `set` statement (`compile_correct_set`:
       hinted compiles; `compile_correct_set_def`, `compile_correct_set_nodef`: its side conditions from `MutInj` / `BoxInj` at
       entry, for a value that may contain `def`s of other names: `MutInj` across `def`, compile-only induction).  Several
       compile-ONLY theorems carry what the branch / code not executed needs (`tf_shape`, `tf_shape_max`, `tf_nobrk_any`, `tf_NR_any`).
       NOT proved: `set` / loops as constructors of the fragment (assignments inside operands and loop bodies, loops inside operands
       or `if` branches), conditional `break`, closure creation and calls of closures, upvalues, far registers beyond the entry moves (see
       `compile_correct_partial` for the exact list and the reasons). -/
import JanetModel.Lang.SemProps
import JanetModel.Bytecode.ExecFrame
import JanetModel.Gen.FiberFrame
import JanetModel.Gen.Compile
import JanetModel.Compile.Theorem
import JanetModel.Compile.SeqFnParams
import JanetModel.Compile.SeqBlockLoops
import JanetModel.Compile.SeqSet
import JanetModel.Compile.SeqBoxInj
import JanetModel.Compile.MoveArgsLoop
import JanetModel.Compile.SeqNestN
import JanetModel.Compile.SeqMutInjDefEnv
import JanetModel.Compile.SeqBrkCore
import JanetModel.Compile.SeqBrkIf
import JanetModel.Compile.SeqMutInjDefH
import JanetModel.Compile.SeqSetSide
namespace JanetModel.Props.C02
open JanetModel.Emit

variable {β : Type}

/-- `janetc_emit_sss`.  `Sim T a b`: states equal except for the registers in `T`.  `s.avoids T`: a local slot is not one of
    the temporaries (allocator: `regtemp_disjoint`). -/
theorem emit_sss_correct (lit : KConst → β) (F : Nat → List (RV β) → RV β) (cidx : KConst → Nat) (m : M β) (op : Nat) (wr : Bool)
    (s1 s2 s3 : Slot) (t0 t1 t2 t5 : Nat) (h01 : t0 ≠ t1) (h02 : t0 ≠ t2) (h12 : t1 ≠ t2) (h50 : t5 ≠ t0)
    (a1 : s1.avoids [t0, t1, t2, t5]) (a2 : s2.avoids [t0, t1, t2, t5]) (a3 : s3.avoids [t0, t1, t2, t5])
    (hw : wr = true → ∀ k, s1 ≠ .const k) :
    Sim [t0, t1, t2, t5] (run lit F m (emitSSS cidx op wr s1 s2 s3 t0 t1 t2 t5))
      (if wr then writeSlot (logged m op [readSlot lit m s2, readSlot lit m s3]) s1 (F op [readSlot lit m s2, readSlot lit m s3])
       else logged m op [readSlot lit m s1, readSlot lit m s2, readSlot lit m s3]) := by
  rw [emitSSS, List.append_assoc, List.append_assoc]
  exact emit_ops_correct lit F cidx m op .sss wr 0 t5 [t0, t1, t2, t5] (.near cidx s1 t0) [.near cidx s2 t1, .near cidx s3 t2]
    (by simp [regnear_loads, Opnd.near, a1, a2, a3]) (by simp [Opnd.near, h01, h02, h12]) (by simp) (by simpa [Opnd.near] using h50) hw

theorem emit_ssi_correct (lit : KConst → β) (F : Nat → List (RV β) → RV β) (cidx : KConst → Nat) (m : M β) (op : Nat) (wr : Bool)
    (s1 s2 : Slot) (imm : Nat) (t0 t1 t5 : Nat) (h01 : t0 ≠ t1) (h50 : t5 ≠ t0)
    (a1 : s1.avoids [t0, t1, t5]) (a2 : s2.avoids [t0, t1, t5]) (hw : wr = true → ∀ k, s1 ≠ .const k) :
    Sim [t0, t1, t5] (run lit F m (emitSSI cidx op wr s1 s2 imm t0 t1 t5))
      (if wr then writeSlot (logged m op [readSlot lit m s2]) s1 (F op [readSlot lit m s2])
       else logged m op [readSlot lit m s1, readSlot lit m s2]) := by
  rw [emitSSI, List.append_assoc]
  exact emit_ops_correct lit F cidx m op .ssi wr imm t5 [t0, t1, t5] (.near cidx s1 t0) [.near cidx s2 t1]
    (by simp [regnear_loads, Opnd.near, a1, a2]) (by simp [Opnd.near, h01]) (by simp) (by simpa [Opnd.near] using h50) hw

/-- `janetc_emit_ssu` is the same function (`emit2s`) with an unsigned immediate -/
theorem emit_ssu_correct (lit : KConst → β) (F : Nat → List (RV β) → RV β) (cidx : KConst → Nat) (m : M β) (op : Nat) (wr : Bool)
    (s1 s2 : Slot) (imm : Nat) (t0 t1 t5 : Nat) (h01 : t0 ≠ t1) (h50 : t5 ≠ t0)
    (a1 : s1.avoids [t0, t1, t5]) (a2 : s2.avoids [t0, t1, t5]) (hw : wr = true → ∀ k, s1 ≠ .const k) :
    Sim [t0, t1, t5] (run lit F m (emitSSI cidx op wr s1 s2 imm t0 t1 t5))
      (if wr then writeSlot (logged m op [readSlot lit m s2]) s1 (F op [readSlot lit m s2])
       else logged m op [readSlot lit m s1, readSlot lit m s2]) :=
  emit_ssi_correct lit F cidx m op wr s1 s2 imm t0 t1 t5 h01 h50 a1 a2 hw

theorem emit_ss_correct (lit : KConst → β) (F : Nat → List (RV β) → RV β) (cidx : KConst → Nat) (m : M β) (op : Nat) (wr : Bool)
    (s1 s2 : Slot) (t0 t1 fr t5 : Nat) (h01 : t0 ≠ t1) (h0f : t0 ≠ fr) (h50 : t5 ≠ t0)
    (a1 : s1.avoids [t0, t1, fr, t5]) (a2 : s2.avoids [t0, t1, fr, t5]) (hw : wr = true → ∀ k, s1 ≠ .const k) :
    Sim [t0, t1, fr, t5] (run lit F m (emitSS cidx op wr s1 s2 t0 t1 fr t5))
      (if wr then writeSlot (logged m op [readSlot lit m s2]) s1 (F op [readSlot lit m s2])
       else logged m op [readSlot lit m s1, readSlot lit m s2]) := by
  rw [emitSS, List.append_assoc]
  exact emit_ops_correct lit F cidx m op .ss wr 0 t5 [t0, t1, fr, t5] (.near cidx s1 t0) [.far cidx s2 t1 fr]
    (by simp [regnear_loads, regfar_loads, Opnd.near, Opnd.far, a1, a2]) (by simp [Opnd.near, Opnd.far, h01, h0f]) (by simp)
    (by simpa [Opnd.near] using h50) hw

theorem emit_si_correct (lit : KConst → β) (F : Nat → List (RV β) → RV β) (cidx : KConst → Nat) (m : M β) (op : Nat) (wr : Bool)
    (s : Slot) (imm : Nat) (t0 t5 : Nat) (h50 : t5 ≠ t0) (a1 : s.avoids [t0, t5]) (hw : wr = true → ∀ k, s ≠ .const k) :
    Sim [t0, t5] (run lit F m (emitSI cidx op wr s imm t0 t5))
      (if wr then writeSlot (logged m op []) s (F op []) else logged m op [readSlot lit m s]) :=
  emit_ops_correct lit F cidx m op .si wr imm t5 [t0, t5] (.near cidx s t0) []
    (by simp [regnear_loads, Opnd.near, a1]) (by simp) (by simp) (by simpa [Opnd.near] using h50) hw

theorem emit_s_correct (lit : KConst → β) (F : Nat → List (RV β) → RV β) (cidx : KConst → Nat) (m : M β) (op : Nat) (wr : Bool)
    (s : Slot) (t0 fr t5 : Nat) (h50 : t5 ≠ t0) (h5f : t5 ≠ fr) (a1 : s.avoids [t0, fr, t5]) (hw : wr = true → ∀ k, s ≠ .const k) :
    Sim [t0, fr, t5] (run lit F m (emitS cidx op wr s t0 fr t5))
      (if wr then writeSlot (logged m op []) s (F op []) else logged m op [readSlot lit m s]) :=
  emit_ops_correct lit F cidx m op .s wr 0 t5 [t0, fr, t5] (.far cidx s t0 fr) []
    (by simp [regfar_loads, Opnd.far, a1]) (by simp) (by simp) (by simp [Opnd.far, h50, h5f]) hw

/-- `janetc_copy`, all 4 (writable) x 5 kind combinations -/
theorem copy_correct (lit : KConst → β) (F : Nat → List (RV β) → RV β) (cidx : KConst → Nat) (m : M β) (dest src : Slot) (t3 t5 : Nat)
    (h35 : t3 ≠ t5) (ad : dest.avoids [t3, t5]) (as : src.avoids [t3, t5]) (hc : ∀ k, dest ≠ .const k) :
    Sim [t3, t5] (run lit F m (copy cidx dest src t3 t5)) (writeSlot m dest (readSlot lit m src)) :=
  JanetModel.Emit.copy_correct lit F cidx m dest src t3 t5 h35 ad as hc

/-- temporaries for distinct tags held together are distinct near registers; each is a previously free register or a
    reserved one (0xF0+tag), which first-fit allocation never hands out -/
theorem regtemp_disjoint (ra : RA) (fuel tag1 tag2 : Nat) (ht : tag1 ≠ tag2) (h1 : tag1 < 8) (h2 : tag2 < 8)
    (hfree1 : ∃ k, k < fuel ∧ ra.taken k = false)
    (hfree2 : ∃ k, k < fuel ∧ ((regallocTemp ra fuel tag1).2).taken k = false) :
    let r1 := (regallocTemp ra fuel tag1).1
    let ra1 := (regallocTemp ra fuel tag1).2
    let r2 := (regallocTemp ra1 fuel tag2).1
    r1 ≠ r2 ∧ r1 ≤ 0xFF ∧ r2 ≤ 0xFF ∧ (ra.alloc r1 = false ∨ 0xF0 ≤ r1) ∧ (ra.alloc r2 = false ∨ 0xF0 ≤ r2) :=
  JanetModel.Emit.regtemp_disjoint ra fuel tag1 tag2 ht h1 h2 hfree1 hfree2

/-- the allocator function that is compared with regalloc.c returns what `regtemp_disjoint` talks about -/
theorem regtemp_model_eq (ra : RA) (tag : Nat) :
    (ra.allocTemp tag).1 = (regallocTemp ra searchFuel tag).1 ∧
    ∀ x, (ra.allocTemp tag).2.alloc x = (regallocTemp ra searchFuel tag).2.alloc x :=
  JanetModel.Emit.allocTemp_eq ra tag

/-! non-vacuity: > 255 live locals, far destination, upvalue and ref operands, reserved temporaries -/
def m0 : M Nat := { regs := fun r => .v (10 * r), up := fun e i => .v (1000 + e + i), cell := fun id => .v (7000 + id), log := [], ok := true }
def litN : KConst → Nat | .int n => n.toNat | _ => 0
def FN : Nat → List (RV Nat) → RV Nat := fun _ vs => .v (vs.foldl (fun a v => match v with | .v b => a + b | .ref _ => a) 0)

example : (emitSSS (fun _ => 0) 6 true (.loc 300) (.up 1 2) (.ref 3) 0xF0 0xF1 0xF2 0xF5).map MI.word =
    [(MI.movn 0xF0 300).word, (MI.ldu 0xF1 1 2).word, (MI.ldref 0xF2 0 3).word, (MI.geti0 0xF2 0xF2).word,
     (MI.pay 6 .sss true [0xF0, 0xF1, 0xF2] 0).word, (MI.movf 0xF0 300).word] := by decide
def valOf : RV Nat → Nat | .v x => x | .ref _ => 4000000000
example : valOf ((run litN FN m0 (emitSSS (fun _ => 0) 6 true (.loc 300) (.up 1 2) (.ref 3) 0xF0 0xF1 0xF2 0xF5)).regs 300) = 1003 + 7003 := by
  decide
example : valOf ((run litN FN m0 (emitSSS (fun _ => 0) 6 true (.ref 1) (.const (.int 70000)) (.loc 299) 0xF0 0xF1 0xF2 0xF5)).cell 1) = 70000 + 2990 := by
  decide
example : (Slot.loc 300).avoids [0xF0, 0xF1, 0xF2, 0xF5] := by intro i h; injection h with h; subst h; decide

/-- regenerated from fiber.c on every run: both `janet_fiber_funcframe` and `janet_fiber_funcframe_tail` check the arity,
    pack surplus arguments, and nil every slot that received no argument (normal call: old stack top .. new stack top; tail
    call: the gap before the vararg slot and the locals above the moved arguments).  This is what `Exec.mkRegs` assumes. -/
theorem frame_setup_shape :
    (JanetModel.Gen.FiberFrame.callArityChecks && JanetModel.Gen.FiberFrame.callNilFill && JanetModel.Gen.FiberFrame.callVarargPack &&
     JanetModel.Gen.FiberFrame.tailArityChecks && JanetModel.Gen.FiberFrame.tailNilFillBeforeVararg &&
     JanetModel.Gen.FiberFrame.tailNilFillLocals && JanetModel.Gen.FiberFrame.tailVarargPack &&
     JanetModel.Gen.FiberFrame.structPairsBounded) = true := by decide

/-- in the VM model an omitted optional parameter (any slot at or above the number of arguments) is nil -/
theorem mkRegs_omitted_nil (heap : Array JanetModel.Bytecode.Exec.HeapObj) (d : JanetModel.Bytecode.Exec.FuncDef)
    (args regs : Array JanetModel.Bytecode.Exec.Value) (hv : d.vararg = false)
    (h : JanetModel.Bytecode.Exec.mkRegs heap d args = some regs) (i : Nat) (hi : args.size ≤ i) :
    regs.getD i .nil = .nil :=
  JanetModel.Bytecode.Exec.mkRegs_omitted_nil heap d args regs hv h i hi

section Sem
open JanetModel.Lang JanetModel.Bytecode.Exec

/-- `sem_context_free`: for the embedding contexts of the property — value used in a new scope, value dropped, branch of a
    conditional, argument of a call (non-tail, used), spliced into the enclosing scope (top level), body of a function in
    tail position — evaluating `ctx e` is a fixed post-processing (`closeScope`, `dropValue`, identity, `fnResult`) of
    evaluating `e`: same value, same effect trace (part of the state), same error and error position.  Fuel offsets are the
    evaluation steps the wrapper itself takes.  The function context runs `e` in the state `withLam s env e`, i.e. with the
    closure object of the wrapper added to the heap, and turns a top-level `break` of `e` into the return value.
    The non-tail function body is `sem_context_free_fn_used`; not proved (tested by the `loop` context of the check): loop body. -/
theorem sem_context_free (n : Nat) (cur : Pos) (env : Env) (e : Expr) (s : SS)
    (hfree : lookupEnv env "identity" = none) (hsp : isSplice e = none) :
    eval (n + 2) cur env (ctxDoUsed e) s = closeScope env (eval n cur env e s) ∧
    eval (n + 4) cur env (ctxDropped e) s = dropValue env (eval (n + 2) cur env e s) ∧
    eval (n + 3) cur env (ctxBranch e) s = closeScope env (eval (n + 2) cur env e s) ∧
    eval (n + 3) cur env (ctxArg e) s = eval (n + 1) cur env e s ∧
    eval (n + 2) cur env (ctxUpscope e) s = eval n cur env e s ∧
    eval (n + 3) cur env (ctxFnTail e) s = fnResult env (eval n cur env e (withLam s env e)) :=
  ⟨ctx_do_used n cur env e s, ctx_dropped n cur env e s, ctx_branch n cur env e s, ctx_arg n cur env e s hfree hsp,
   ctx_upscope n cur env e s, ctx_fn_tail n cur env e s⟩

/-- non-vacuity: evaluation really runs: `(identity :v)` evaluates to `:v` -/
example : (match eval 10 {} [] (ctxArg (.lit (.kw "v"))) {} with | .ok (.kw x, _) _ => x == "v" | _ => false) = true := by
  decide

/-- `sem_context_free`, seventh context: body of a function in NON-tail position, value used through a local
    (`((fn [] (def r_ e) r_))`, context `fn_used` of the check) -/
theorem sem_context_free_fn_used (n : Nat) (cur : Pos) (env : Env) (e : Expr) (s : SS) :
    eval (n + 6) cur env (ctxFnUsed e) s =
      fnUsedResult env (eval (n + 2) cur env e (withLam2 s env [wrapForm [.sym "def", .sym "r_", e], .sym "r_"])) :=
  ctx_fn_used n cur env e s

/-- non-vacuity: `((fn [] (def r_ :v) r_))` evaluates to `:v` and leaves one box -/
example : (match eval 10 {} [] (ctxFnUsed (.lit (.kw "v"))) {} with | .ok (.kw x, _) s => x == "v" && s.boxes.size == 1 | _ => false) = true := by
  decide

end Sem

section Compile
open JanetModel.Compile JanetModel.Lang JanetModel.Bytecode.Exec JanetModel.Gen.Bytecode

/-- regenerated from specials.c / compile.c / emit.c on every run: the special-form table the model dispatches on, and the
    presence of every statement the model mirrors one for one (which `do` statements are dropped and freed, tail-call test,
    near-hint test of the target, alias / copy decision of `namelocal`, jump range checks and label patches, break tags,
    loop-as-function rewrite, `fn` body flags, register limit) -/
theorem compile_model_matches_source :
    JanetModel.Compile.specials = JanetModel.Gen.Compile.specialNames ∧
    JanetModel.Gen.Compile.specialHandlers.map (·.1) = JanetModel.Gen.Compile.specialNames ∧
    JanetModel.Gen.Compile.allShapes = true := by decide

/-- identification of the emit machine with the VM: the word `MI.word mi` of every load / move instruction of the emit layer
    (near / far moves, the five constant loads, ref-array load, ref cell get / put) is executed by `Exec.step` exactly as
    `vmExecMI` — the VM-state reading of `Emit/Machine.exec` — says.  (Upvalue loads / stores are not covered.) -/
theorem vm_executes_emit_words (p : Program) (st : State) (mi : MI) (hr : MI.inRange mi)
    (hf : (curDef p st).code[st.cur.pc]? = some mi.word) : step p st = vmExecMI p st mi :=
  step_mi p st mi hr hf

/-- the instructions compile.c / specials.c emit raw: jump (24-bit signed offset, both directions), return-nil, call,
    tail call, load-self, closure -/
theorem vm_executes_compiler_words (p : Program) (st : State) :
    (∀ off : Int, -8388608 ≤ off → off ≤ 8388607 → (curDef p st).code[st.cur.pc]? = some (CI.jump off).word → step p st = .next (st.jump off)) ∧
    ((curDef p st).code[st.cur.pc]? = some CI.retNil.word → step p st = doReturn p st .nil) ∧
    (∀ d f, d < 256 → f < 65536 → (curDef p st).code[st.cur.pc]? = some (CI.call d f).word → step p st = doCall p st d (st.getReg f)) ∧
    (∀ r, r < 16777216 → (curDef p st).code[st.cur.pc]? = some (CI.tailcall r).word → step p st = doTailcall p st (st.getReg r)) ∧
    (∀ r, r < 16777216 → (curDef p st).code[st.cur.pc]? = some (CI.loadSelf r).word → step p st = .next (st.setAdv r (.fn st.cur.self))) ∧
    (∀ r d, r < 256 → d < 65536 → (curDef p st).code[st.cur.pc]? = some (CI.closure r d).word → step p st = doClosure p st r d) :=
  ⟨fun off h1 h2 hf => step_jump p st off h1 h2 hf, step_retNil p st, fun d f hd hfr hf => step_call p st d f hd hfr hf,
   fun r hr hf => step_tailcall p st r hr hf, fun r hr hf => step_loadSelf p st r hr hf, fun r d hr hd hf => step_closure p st r d hr hd hf⟩

/-- a core function sees and changes only the world (heap, effect trace, result cell): frames and pending arguments are out
    of its reach.  (By construction: `callPrim` is `callPrimW` on `st.world`.) -/
theorem callPrim_frame_independent (name : String) (args : List Value) (st : State) :
    callPrim name args st =
      (match callPrimW name args st.world with
       | .ok (v, w) => .ok (v, st.withWorld w) | .rt => .rt | .user v => .user v | .unsup w => .unsup w) := rfl

/-- `JOP_CALL` of a core function against `Lang/Sem.applyFn`: same value and world, or the same error value attributed to the
    source-map entry of the call instruction, or both outside the model -/
theorem call_agrees (p : Program) (st : State) (s : SS) (n d f : Nat) (name : String) (hna : name ≠ "apply")
    (hd : d < 256) (hfr : f < 65536)
    (hcode : (curDef p st).code[st.cur.pc]? = some (CI.call d f).word)
    (hfn : st.getReg f = .cfun name) (hw : st.world = s.st.world) :
    (match callPrimW name st.args.toList st.world with
     | .ok (v, w) =>
        step p st = .next ((({ st with args := #[] } : State).withWorld w).setAdv d v) ∧
        applyFn (n + 1) (curPos p st) (.cfun name) st.args.toList s = .ok v { s with st := s.st.withWorld w }
     | .rt =>
        step p st = .err JanetModel.Bytecode.Exec.rtErr (curPos p st) st ∧
        applyFn (n + 1) (curPos p st) (.cfun name) st.args.toList s = .err Lang.rtErr (curPos p st) s
     | .user e =>
        step p st = .err e (curPos p st) st ∧ applyFn (n + 1) (curPos p st) (.cfun name) st.args.toList s = .err e (curPos p st) s
     | .unsup why =>
        step p st = .unsup why ∧ applyFn (n + 1) (curPos p st) (.cfun name) st.args.toList s = .stop why) :=
  JanetModel.Compile.call_agrees p st s n d f name hna hd hfr hcode hfn hw

/-- conditional jump (what `janetc_if` / `janetc_while` emit) = `truthy` test of `Lang/Sem`; pushes append in operand order;
    return; tuple / array construction from the pending arguments (same `allocV` as `Lang/Sem`) -/
theorem control_and_data_agree (p : Program) (st : State) :
    (∀ a off, a < 256 → off < 32768 → (curDef p st).code[st.cur.pc]? = some (MI.pay Op.jumpIfNot.toNat .si false [a] off).word →
        step p st = .next (if truthy (st.getReg a) then st.adv else st.jump (off : Int))) ∧
    (∀ r, r < 16777216 → (curDef p st).code[st.cur.pc]? = some (MI.pay Op.return.toNat .s false [r] 0).word →
        step p st = doReturn p st (st.getReg r)) ∧
    (∀ r, r < 16777216 → (curDef p st).code[st.cur.pc]? = some (MI.pay Op.push.toNat .s false [r] 0).word →
        step p st = .next ({ st with args := st.args.push (st.getReg r) } : State).adv) ∧
    (∀ a e, a < 256 → e < 65536 → (curDef p st).code[st.cur.pc]? = some (MI.pay Op.push2.toNat .ss false [a, e] 0).word →
        step p st = .next ({ st with args := (st.args.push (st.getReg a)).push (st.getReg e) } : State).adv) ∧
    (∀ a b c, a < 256 → b < 256 → c < 256 → (curDef p st).code[st.cur.pc]? = some (MI.pay Op.push3.toNat .sss false [a, b, c] 0).word →
        step p st = .next ({ st with args := ((st.args.push (st.getReg a)).push (st.getReg b)).push (st.getReg c) } : State).adv) ∧
    (∀ r, r < 16777216 → (curDef p st).code[st.cur.pc]? = some (MI.pay Op.makeTuple.toNat .s true [r] 0).word →
        step p st = .next (({ st with args := #[] } : State).setAdv r (.tuple st.args.toList false))) ∧
    (∀ r, r < 16777216 → (curDef p st).code[st.cur.pc]? = some (MI.pay Op.makeArray.toNat .s true [r] 0).word →
        step p st = .next ((allocV ({ st with args := #[] } : State) (.arr st.args.toList.toArray) Value.arr).2.setAdv r
                            (allocV ({ st with args := #[] } : State) (.arr st.args.toList.toArray) Value.arr).1)) :=
  ⟨fun a off ha ho h => step_jumpIfNot p st a off ha ho h, fun r hr h => step_return p st r hr h,
   fun r hr h => step_push p st r hr h, fun a e ha he h => step_push2 p st a e ha he h,
   fun a b c ha hb hc h => step_push3 p st a b c ha hb hc h, fun r hr h => step_makeTuple p st r hr h,
   fun r hr h => step_makeArray p st r hr h⟩

/-- running: a state reached by continuing steps finishes as the state it reached does (so per-segment results compose) -/
theorem run_of_reach (p : Program) (a b : State) (h : Reach p a b) (fuel : Nat) : ∃ fuel', run p fuel' a = run p fuel b :=
  JanetModel.Compile.run_of_reach h fuel

/-- **Compile correctness, call fragment** `e ::= literal | symbol | (f e)` (f a global core function other than `apply`, not a
    special form, not shadowed; nesting arbitrary), value used, near registers (`c.lim ≤ 0xF0`).
    If the compiler model compiles `e` in state `c` to `slot` and state `c'`, and `Lang/Sem.eval` gives `e` the value `v` in world
    `s'`, then for every VM configuration `k` of one activation (frame `f0` on `rest`, any pc) whose world is `s`'s, whose pending
    arguments are empty and whose registers hold the boxes of the names of `env` (`EnvOK`):
      * compile side: `c'` is `c` with code `seg` appended, constants appended to the pool, the value table extended, the
        current scope's allocator replaced by one that keeps everything that was allocated allocated (`max` monotone); `slot` is a
        constant, a named local that was allocated, or a register that was free at entry and is allocated at exit;
      * run side: wherever `seg` sits in the function's code (at `k.pc`), with the function's final constant pool `P` / value
        table `V` extending the ones at this point and the frame large enough for the allocator's `max`, the VM reaches
        pc + |seg| with empty pending arguments and world `s'`, every register allocated at entry unchanged, and `slot` holding `v`.
    By induction on the compile fuel (`Compile/Theorem.lean`), from: the decode / step lemmas, `call_agrees`-style agreement,
    the allocator lemmas (`alloc1_near`, `allocTemp_near`: a target / temporary is a free register below 0xF0), the emit-wrapper
    specifications in the near case, constant-pool and value-table stability.  `FloatFacts` = two IEEE facts about Lean's opaque
    `Float` (`toBits` injective; `Float.ofInt (toInt x) = x` for int16-valued `x`), needed only for number literals.
    `hK`/`hP`: the running funcdef's constants are the final pool (what `janetc_pop_funcdef` does), fewer than 2¹⁶. -/
theorem compile_correct_calls (p : Program) (f0 : Frame) (rest : List Frame) (V : Array Value) (P : List JanetModel.Emit.KConst)
    (hP : P.length < 65536)
    (hK : ∀ i, i < P.length → (p.defs.getD f0.defIdx default).consts.getD i .nil = litOf V (P.getD i .nil))
    (FF : FloatFacts)
    (fuel : Nat) (e : Expr) (c c' : CState) (slot : JSlot) (sc : Scope) (rs : List Scope) (pool : List JanetModel.Emit.KConst)
    (ps : List (List JanetModel.Emit.KConst)) (n : Nat) (cur : Pos) (env env' : Env) (s s' : SS) (v : Value) (k : Cfg)
    (hs : c.scopes = sc :: rs) (hp : c.pools = pool :: ps) (hl : c.lim ≤ 240) (hfrag : TC c e)
    (hcomp : cValue fuel {} e c = some (slot, c')) (hsem : eval n cur env e s = .ok (v, env') s')
    (hw : k.w = s.st.world) (hargs : k.args = #[]) (henv : EnvOK c env s k.regs sc.ra) :
    ∃ (ra' : JanetModel.Emit.RA) (more : List JanetModel.Emit.KConst) (seg : List CI) (segm : List Pos),
      c' = { c with scopes := { sc with ra := ra' } :: rs, pools := (pool ++ more) :: ps, buf := c.buf ++ seg, map := c.map ++ segm, vals := c'.vals } ∧
      PrefA c.vals c'.vals ∧ (∀ r, sc.ra.alloc r = true → ra'.alloc r = true) ∧ sc.ra.max ≤ ra'.max ∧ SlotOK sc ra' c'.vals slot ∧
      (CodeAt (p.defs.getD f0.defIdx default).code k.pc seg → PrefL (pool ++ more) P → PrefA c'.vals V → ra'.max < k.regs.size →
        ∃ regs', Reach p (inj f0 rest k) (inj f0 rest { regs := regs', pc := k.pc + seg.length, args := #[], w := s'.st.world }) ∧
          regs'.size = k.regs.size ∧ (∀ r, sc.ra.alloc r = true → regs'.getD r .nil = k.regs.getD r .nil) ∧ slotVal V regs' slot = v) :=
  tc_correct p f0 rest V P hP hK FF fuel e c c' slot sc rs pool ps n cur env env' s s' v k hs hp hl hfrag hcomp hsem hw hargs henv

/-- non-vacuity: `(emit (tuple 7))` is in the fragment for a state without locals -/
example (c : CState) (h : c.scopes = []) :
    TC c (.form [.sym "emit", .form [.sym "tuple", .lit (.num 7)] {}] {}) := by
  have hl : ∀ x, lookupSlot c x = none := by intro x; simp [lookupSlot, h, searchScopes]
  exact .call1 "emit" _ {} (by decide) (by decide) (hl _) (.call1 "tuple" _ {} (by decide) (by decide) (hl _) (.lit _ trivial))

/-- non-vacuity: `(do (def x (tuple 7)) (do (def y x) (emit y)) x)` is in the fragment with `G = {tuple, emit}` -/
example : TS (fun f => f = "tuple" ∨ f = "emit")
    (.form [.sym "do", .form [.sym "def", .sym "x", .form [.sym "tuple", .lit (.num 7)] {}] {},
            .form [.sym "do", .form [.sym "def", .sym "y", .sym "x"] {}, .form [.sym "emit", .sym "y"] {}] {}, .sym "x"] {}) := by
  refine .doo _ _ (fun e he => ?_)
  simp only [List.mem_cons, List.not_mem_nil, or_false] at he
  rcases he with rfl | rfl | rfl
  · exact .deff "x" _ {} (by decide) (.call1 "tuple" _ {} (by decide) (by decide) (Or.inl rfl) (.lit _ trivial))
  · refine .doo _ _ (fun e he => ?_)
    simp only [List.mem_cons, List.not_mem_nil, or_false] at he
    rcases he with rfl | rfl
    · exact .deff "y" _ {} (by decide) (.sym "x")
    · exact .call1 "emit" _ {} (by decide) (by decide) (Or.inr rfl) (.sym "y")
  · exact .sym "x"

/-- non-vacuity: the invariant holds at the entry of a function body without parameters (no names on either side) -/
example (G : String → Prop) (sc : Scope) (rs : List Scope) (h : ∀ x, lk (sc :: rs) x = none) (nb : Nat) :
    EnvS G (sc :: rs) [] nb sc.ra := ⟨fun f _ => h f, fun x => Or.inl ⟨h x, rfl⟩⟩
example (x : String) : lk [({ fn := true } : Scope)] x = none := rfl

/-- **Compile correctness, calls with any number of operands** — fragment `TF G false`:
    `e ::= literal | symbol | (f e ...) | (do e ...) | (upscope e ...) | (def x e)` with `(f e₁ … eₙ)`, n ≥ 0, a call of a global core function
    (`G f`; not `apply`, not a special form); same quantification, invariant and conclusion as `compile_correct_statements`.
    `janetc_toslots` compiles the operands left to right and HOLDS their slots together — an operand's
    value survives the code of the later operands (a constant; a named local; an unnamed register that was free when its operand
    started and stays allocated), and no later operand gives a name to an earlier operand's unnamed register (`NameFrame`) — `Lang/Sem.evalArgs` threads environment and state the same way; `janetc_pushslots` pushes
    in groups of three / two / one (`pushN`, Compile/SeqPush.lean: PUSH_3 / PUSH_2 / PUSH with up to three constant operands
    loaded into temporaries held simultaneously, for every mix of constant and local operands; the pending arguments end up in
    operand order); target register, JOP_CALL against `applyFn`; `janetc_freeslots` releases exactly the unnamed operand registers. -/
theorem compile_correct_nary_calls (p : Program) (f0 : Frame) (rest : List Frame) (V : Array Value) (P : List JanetModel.Emit.KConst)
    (hP : P.length < 65536)
    (hK : ∀ i, i < P.length → (p.defs.getD f0.defIdx default).consts.getD i .nil = litOf V (P.getD i .nil))
    (FF : FloatFacts) (G : String → Prop)
    (fuel : Nat) (e : Expr) (opts : Fopts) (c c' : CState) (slot : JSlot) (sc : Scope) (rs : List Scope) (pool : List JanetModel.Emit.KConst)
    (ps : List (List JanetModel.Emit.KConst)) (n : Nat) (cur : Pos) (env env' : Env) (s s' : SS) (v : Value)
    (ht : opts.tail = false) (hh : opts.hint = none)
    (hs : c.scopes = sc :: rs) (hp : c.pools = pool :: ps) (hl : c.lim ≤ 240) (htop : sc.top = false) (hfrag : TF G false e)
    (hcomp : cValue fuel opts e c = some (slot, c')) (hsem : eval n cur env e s = .ok (v, env') s')
    (henv : EnvS G c.scopes env s.boxes.size sc.ra) :
    ∃ (ra' : JanetModel.Emit.RA) (nsyms : List SymPair) (more : List JanetModel.Emit.KConst) (seg : List CI) (segm : List Pos),
      c' = { c with scopes := { sc with ra := ra', syms := sc.syms ++ nsyms } :: rs, pools := (pool ++ more) :: ps, buf := c.buf ++ seg,
                    map := c.map ++ segm, vals := c'.vals } ∧
      PrefA c.vals c'.vals ∧ (∀ r, sc.ra.alloc r = true → ra'.alloc r = true) ∧ sc.ra.max ≤ ra'.max ∧
      SlotOK2 sc ra' c'.scopes c'.vals slot ∧ PrefA s.boxes s'.boxes ∧ EnvS G c'.scopes env' s'.boxes.size ra' ∧
      NameFrame sc c.scopes c'.scopes slot ∧
      ∀ (k : Cfg), k.w = s.st.world → k.args = #[] → EnvD c.scopes env s k.regs →
        CodeAt (p.defs.getD f0.defIdx default).code k.pc seg → PrefL (pool ++ more) P → PrefA c'.vals V → ra'.max < k.regs.size →
        ∃ regs', Reach p (inj f0 rest k) (inj f0 rest { regs := regs', pc := k.pc + seg.length, args := #[], w := s'.st.world }) ∧
          regs'.size = k.regs.size ∧ (∀ r, sc.ra.alloc r = true → regs'.getD r .nil = k.regs.getD r .nil) ∧ slotVal V regs' slot = v ∧
          EnvD c'.scopes env' s' regs' := by
  obtain ⟨ra', nsyms, more, seg, segm, h1, h2, h3, h4, h5, h6, h7, h8, vm⟩ :=
    tf_correct_calls p f0 rest V P hP hK FF G fuel e opts c c' slot sc rs pool ps n cur env env' s s' v ht hh hs hp hl htop hfrag hcomp hsem henv
  refine ⟨ra', nsyms, more, seg, segm, h1, h2, h3, h4, h5, h6, h7, h8, fun k a1 a2 a3 a4 a5 a6 a7 => ?_⟩
  obtain ⟨regs', r1, r2, r3, r4, r5⟩ := vm k a1 a2 a3 a4 a5 a6 a7
  exact ⟨regs', r1, r2, r3, r4 rfl, r5⟩

/-- **Compile correctness, statement fragment** `e ::= literal | symbol | (f e) | (do e ...) | (upscope e ...) | (def x e)` (`TS G`: `f` ranges over the
    names `G` used as global core functions — not `apply`, not special forms — which are never defined; `x` is any other name;
    nesting arbitrary: `def` inside call arguments, `do` inside `def`, ...), value used or dropped (`opts` without tail / hint), near
    registers (`c.lim ≤ 0xF0`), any block or function scope that is not the top level (`sc.top = false`).
    Invariant: `EnvS` (compile time) — every name the scopes resolve is a named near local whose register is allocated and whose
    `Lang/Sem` box exists, every other name is unbound on both sides, the names in `G` are unbound; `EnvD` (run time) — the
    register of every name holds the content of its box.
    If the compiler model compiles `e` in state `c` to `slot` / `c'` and `Lang/Sem.eval` gives `e` the value `v`, environment `env'`
    and state `s'`, then
      * compile side: `c'` is `c` with code `seg` appended, constants appended to the pool, the value table extended, the innermost
        scope's symbol list extended by `nsyms` (new names of `def`, or the hidden names of a closed `do`) and its allocator replaced
        by one that keeps everything that was allocated allocated (`max` monotone); `slot` is a constant, a named local allocated at
        exit, or an unnamed register that was free at entry, is allocated at exit and carries no name; the boxes only grow; the
        compile-time invariant holds again for `c'`, `env'`, `s'`; names and registers are framed (`NameFrame`: a register that was
        allocated and nameless at entry is nameless at exit; a named result register allocated at entry had a visible name at entry);
      * run side: for every VM configuration `k` of one activation (frame `f0` on `rest`, any pc) whose world is `s`'s, whose pending
        arguments are empty and whose registers satisfy `EnvD` — wherever `seg` sits in the function's code, with the function's
        final constant pool / value table extending the ones at this point and the frame large enough — the VM reaches pc + |seg|
        with empty pending arguments and world `s'`, every register allocated at entry unchanged, `slot` holding `v`, and `EnvD` for
        `c'`, `env'`, `s'`.
    The fragment is part of `TF G false` (`TS.toTF`); the induction on the compile fuel is `tf_all` (`Compile/SeqAll.lean`: every
    option set and outcome at once), of which this is the reading for the plain options. -/
theorem compile_correct_statements (p : Program) (f0 : Frame) (rest : List Frame) (V : Array Value) (P : List JanetModel.Emit.KConst)
    (hP : P.length < 65536)
    (hK : ∀ i, i < P.length → (p.defs.getD f0.defIdx default).consts.getD i .nil = litOf V (P.getD i .nil))
    (FF : FloatFacts) (G : String → Prop)
    (fuel : Nat) (e : Expr) (opts : Fopts) (c c' : CState) (slot : JSlot) (sc : Scope) (rs : List Scope) (pool : List JanetModel.Emit.KConst)
    (ps : List (List JanetModel.Emit.KConst)) (n : Nat) (cur : Pos) (env env' : Env) (s s' : SS) (v : Value)
    (ht : opts.tail = false) (hh : opts.hint = none)
    (hs : c.scopes = sc :: rs) (hp : c.pools = pool :: ps) (hl : c.lim ≤ 240) (htop : sc.top = false) (hfrag : TS G e)
    (hcomp : cValue fuel opts e c = some (slot, c')) (hsem : eval n cur env e s = .ok (v, env') s')
    (henv : EnvS G c.scopes env s.boxes.size sc.ra) :
    ∃ (ra' : JanetModel.Emit.RA) (nsyms : List SymPair) (more : List JanetModel.Emit.KConst) (seg : List CI) (segm : List Pos),
      c' = { c with scopes := { sc with ra := ra', syms := sc.syms ++ nsyms } :: rs, pools := (pool ++ more) :: ps, buf := c.buf ++ seg,
                    map := c.map ++ segm, vals := c'.vals } ∧
      PrefA c.vals c'.vals ∧ (∀ r, sc.ra.alloc r = true → ra'.alloc r = true) ∧ sc.ra.max ≤ ra'.max ∧
      SlotOK2 sc ra' c'.scopes c'.vals slot ∧ PrefA s.boxes s'.boxes ∧ EnvS G c'.scopes env' s'.boxes.size ra' ∧
      NameFrame sc c.scopes c'.scopes slot ∧
      ∀ (k : Cfg), k.w = s.st.world → k.args = #[] → EnvD c.scopes env s k.regs →
        CodeAt (p.defs.getD f0.defIdx default).code k.pc seg → PrefL (pool ++ more) P → PrefA c'.vals V → ra'.max < k.regs.size →
        ∃ regs', Reach p (inj f0 rest k) (inj f0 rest { regs := regs', pc := k.pc + seg.length, args := #[], w := s'.st.world }) ∧
          regs'.size = k.regs.size ∧ (∀ r, sc.ra.alloc r = true → regs'.getD r .nil = k.regs.getD r .nil) ∧ slotVal V regs' slot = v ∧
          EnvD c'.scopes env' s' regs' :=
  compile_correct_nary_calls p f0 rest V P hP hK FF G fuel e opts c c' slot sc rs pool ps n cur env env' s s' v ht hh hs hp hl htop hfrag.toTF
    hcomp hsem henv

/-- non-vacuity: `(do (def x (tuple 1 2 3 4)) (emit x (tuple) (tuple x (def y 5) y)))` — calls with 4, 3, 0 operands, a `def` in operand
    position whose name a later operand reads — is in the fragment with `G = {tuple, emit}` -/
example : TF (fun f => f = "tuple" ∨ f = "emit") false
    (.form [.sym "do",
        .form [.sym "def", .sym "x", .form [.sym "tuple", .lit (.num 1), .lit (.num 2), .lit (.num 3), .lit (.num 4)] {}] {},
        .form [.sym "emit", .sym "x", .form [.sym "tuple"] {},
               .form [.sym "tuple", .sym "x", .form [.sym "def", .sym "y", .lit (.num 5)] {}, .sym "y"] {}] {}] {}) := by
  refine .doo _ _ (fun e he => ?_)
  simp only [List.mem_cons, List.not_mem_nil, or_false] at he
  rcases he with rfl | rfl
  · refine .deff "x" _ {} (by decide) (.call "tuple" _ {} (by decide) (by decide) (Or.inl rfl) (fun a ha => ?_))
    simp only [List.mem_cons, List.not_mem_nil, or_false] at ha
    rcases ha with rfl | rfl | rfl | rfl <;> exact .lit _ trivial
  · refine .call "emit" _ {} (by decide) (by decide) (Or.inr rfl) (fun a ha => ?_)
    simp only [List.mem_cons, List.not_mem_nil, or_false] at ha
    rcases ha with rfl | rfl | rfl
    · exact .sym "x"
    · exact .call "tuple" _ {} (by decide) (by decide) (Or.inl rfl) (fun a ha => by simp at ha)
    · refine .call "tuple" _ {} (by decide) (by decide) (Or.inl rfl) (fun a ha => ?_)
      simp only [List.mem_cons, List.not_mem_nil, or_false] at ha
      rcases ha with rfl | rfl | rfl
      · exact .sym "x"
      · exact .deff "y" _ {} (by decide) (.lit _ trivial)
      · exact .sym "y"

/-- **Compile correctness, calls through a local**: `(x e₁ … eₙ)` where `x` is a LOCAL name (`lookupEnv env x = some a`) whose box
    holds a core function at entry (`readBox s a = .cfun f`, `f ≠ apply`; e.g. `(def pr print) … (pr 1 2)`), operands in the fragment
    `TF G b` (either fragment; with `if` among the operands the map-length
    hypothesis `hm` is needed).  `janetc_resolve` gives the local's register as the head slot, no constant is loaded, the code is operands, pushes,
    `CALL d r_x`, and the callee is read from the register WHEN THE CALL IS MADE — after the operands ran; they leave it untouched
    (it is allocated) and cannot change the box (`Lang/Sem` reads the head first).  Conclusion: `Correct2 … false …`, i.e. literally
    the conclusion of `compile_correct_nary_calls` (compile-side shape, slot facts, `EnvS`, `NameFrame`, the VM run reaching value,
    world and `EnvD`).  That the callee is a core function is a hypothesis on the entry state: a closure as callee is the `fn` case
    (not covered), and nothing in the fragment can tell the two apart statically. -/
theorem compile_correct_local_calls (p : Program) (f0 : Frame) (rest : List Frame) (V : Array Value) (P : List JanetModel.Emit.KConst)
    (hP : P.length < 65536)
    (hK : ∀ i, i < P.length → (p.defs.getD f0.defIdx default).consts.getD i .nil = litOf V (P.getD i .nil))
    (FF : FloatFacts) (G : String → Prop)
    (fuel : Nat) (x : String) (args : List Expr) (pp : Pos) (opts : Fopts) (c c' : CState) (slot : JSlot) (sc : Scope) (rs : List Scope)
    (pool : List JanetModel.Emit.KConst) (ps : List (List JanetModel.Emit.KConst)) (n : Nat) (cur : Pos) (env env' : Env) (s s' : SS) (v : Value)
    (f : String) (a : Nat)
    (ht : opts.tail = false) (hh : opts.hint = none)
    (hs : c.scopes = sc :: rs) (hp : c.pools = pool :: ps) (hl : c.lim ≤ 240) (htop : sc.top = false)
    (hxs : specials.contains x = false) (hx : lookupEnv env x = some a) (hbox : readBox s a = .cfun f) (hna : f ≠ "apply")
    (b : Bool) (hargs : ∀ e, e ∈ args → TF G b e) (hm : b = true → c.map.length = c.buf.length)
    (hcomp : cValue (fuel + 1) opts (.form (.sym x :: args) pp) c = some (slot, c'))
    (hsem : eval n cur env (.form (.sym x :: args) pp) s = .ok (v, env') s')
    (henv : EnvS G c.scopes env s.boxes.size sc.ra) :
    Correct2 p f0 rest V P G false c c' slot sc rs pool ps env env' s s' v := by
  rw [cValue_call_o fuel opts ht hh x args pp c hxs] at hcomp
  obtain ⟨q, hq⟩ := curAt_eq c pp
  obtain ⟨cq, hcc, rfl⟩ := fin_inv hcomp
  obtain ⟨n2, vs, s_a, _, hsa, happ⟩ := eval_callL_inv n cur env env' x a args pp s s' v hxs hx hsem
  rw [hbox] at happ
  rw [hq] at hcc
  exact Correct2.recur p f0 rest V P (q := q)
    (callL_core p f0 rest V P hP hK G (TF G b) b fuel
      (tf_correct_b p f0 rest V P hP hK FF G b fuel)
      (tf_ML G b b fuel) (fun e h => h.notSplice) x args f hna hargs
      { c with cur := q } cq slot sc rs pool ps n2 (posOf cur pp) env env' s s_a s' vs v a hs hp hl htop hm
      hx hbox hcc hsa happ henv)

/-- non-vacuity: a state in which the local `pr` holds the core function `print` -/
example : lookupEnv [("pr", 0)] "pr" = some 0 ∧ readBox { boxes := #[.cfun "print"] } 0 = .cfun "print" := ⟨rfl, rfl⟩

/-- **Compile correctness with `if`** — fragment `TF G true`:
    `e ::= literal | symbol | (f e ...) | (do e ...) | (upscope e ...) | (def x e) | (if c e [e])` where the condition `c` of an `if` is a
    literal, a symbol, a call or a nested `if` (`CondOK`; a `do` / `upscope` / `def` form as condition is not covered); else-branch
    optional; value used or dropped (a dropped `if` returns the constant-nil slot and materialises no value: the value clause is
    under `opts.drop = false`).  A condition that compiles to a CONSTANT (literal, global symbol) is folded by `janetc_if`: only the
    live branch's code is emitted, the dead branch is compiled by `janetc_throwaway` in an unused scope and its code removed (its
    constants stay in the pool, as in the C); `truthy` of the condition's value = `constTruthy` of its constant.  Otherwise:
    `janetc_if`: target register allocated first (value used), a block scope for the condition (names it defines are visible in both
    branches, as `Lang/Sem` evaluates the branch in the condition's environment), `JUMP_IF_NOT cond` patched to the else label, the
    then-branch in its own block scope, copy of its slot into the target, `JUMP` patched to the end (omitted when the value is
    dropped and there is no else-branch), the else-branch likewise; all scopes popped, so the names visible afterwards are those
    visible before.  The branch `Lang/Sem` does not evaluate has no semantic run: where its code ends and which state the next
    compile step starts from comes from the compile-only shape theorem `tf_shape` (Compile/SeqShapeM.lean).  The VM run follows
    `truthy` of the condition's value: falls through into the then-branch and jumps over the else-branch, or jumps to the
    else-branch.  Extra hypothesis with respect to `compile_correct_nary_calls`: the source map is as long as the code at entry
    (`janetc_emit` keeps them in step; needed by the folding path).  Conclusion `Correct2 … opts.drop …` unfolds to
    the conclusion of `compile_correct_nary_calls` with the value clause `opts.drop = false → slotVal V regs' slot = v`. -/
theorem compile_correct_if (p : Program) (f0 : Frame) (rest : List Frame) (V : Array Value) (P : List JanetModel.Emit.KConst)
    (hP : P.length < 65536)
    (hK : ∀ i, i < P.length → (p.defs.getD f0.defIdx default).consts.getD i .nil = litOf V (P.getD i .nil))
    (FF : FloatFacts) (G : String → Prop)
    (fuel : Nat) (e : Expr) (opts : Fopts) (c c' : CState) (slot : JSlot) (sc : Scope) (rs : List Scope) (pool : List JanetModel.Emit.KConst)
    (ps : List (List JanetModel.Emit.KConst)) (n : Nat) (cur : Pos) (env env' : Env) (s s' : SS) (v : Value)
    (ht : opts.tail = false) (hh : opts.hint = none)
    (hs : c.scopes = sc :: rs) (hp : c.pools = pool :: ps) (hl : c.lim ≤ 240) (htop : sc.top = false)
    (hm : c.map.length = c.buf.length) (hfrag : TF G true e)
    (hcomp : cValue fuel opts e c = some (slot, c')) (hsem : eval n cur env e s = .ok (v, env') s')
    (henv : EnvS G c.scopes env s.boxes.size sc.ra) :
    Correct2 p f0 rest V P G opts.drop c c' slot sc rs pool ps env env' s s' v := by
  have h := tf_correct_b p f0 rest V P hP hK FF G true fuel e opts c c' slot sc rs pool ps n cur env env' s s' v ht hh hs hp hl htop
    (fun _ => hm) hfrag hcomp hsem henv
  rw [Bool.and_true] at h
  exact h

/-- non-vacuity: `(if (tuple x) (emit 1 2) (do (def y 3) (if (emit y) y)))` — both branch shapes, a nested `if` without else — is in the
    fragment with `G = {tuple, emit}` -/
example : TF (fun f => f = "tuple" ∨ f = "emit") true
    (.form [.sym "if", .form [.sym "tuple", .sym "x"] {}, .form [.sym "emit", .lit (.num 1), .lit (.num 2)] {},
            .form [.sym "do", .form [.sym "def", .sym "y", .lit (.num 3)] {},
                   .form [.sym "if", .form [.sym "emit", .sym "y"] {}, .sym "y"] {}] {}] {}) := by
  refine .iff _ _ _ {} rfl (.call "tuple" _ {} (by decide)) (by decide) ?_ ?_ (fun e he => ?_)
  · exact .call1 "tuple" {} (by decide) (by decide) (Or.inl rfl) (.sym "x")
  · refine .call "emit" _ {} (by decide) (by decide) (Or.inr rfl) (fun a ha => ?_)
    simp only [List.mem_cons, List.not_mem_nil, or_false] at ha
    rcases ha with rfl | rfl <;> exact .lit _ trivial
  · simp only [List.mem_cons, List.not_mem_nil, or_false] at he
    subst he
    refine .doo _ _ (fun e he => ?_)
    simp only [List.mem_cons, List.not_mem_nil, or_false] at he
    rcases he with rfl | rfl
    · exact .deff "y" _ {} (by decide) (.lit _ trivial)
    · refine .iff _ _ _ {} rfl (.call "emit" _ {} (by decide)) (by decide) ?_ (.sym "y") (fun e he => by simp at he)
      exact .call1 "emit" {} (by decide) (by decide) (Or.inr rfl) (.sym "y")

/-- non-vacuity: conditions that are folded (`true`, the global `tuple`) or read from a register (the local `x`):
    `(if true (if x 1 2) (if tuple 3))` -/
example : TF (fun f => f = "tuple") true
    (.form [.sym "if", .lit (.bool true), .form [.sym "if", .sym "x", .lit (.num 1), .lit (.num 2)] {},
            .form [.sym "if", .sym "tuple", .lit (.num 3)] {}] {}) := by
  refine .iff _ _ _ {} rfl (Or.inl ⟨_, rfl⟩) (by decide) (.lit _ trivial) ?_ (fun e he => ?_)
  · refine .iff _ _ _ {} rfl (Or.inr (Or.inl ⟨_, rfl⟩)) (by decide) (.sym "x") (.lit _ trivial) (fun e he => ?_)
    simp only [List.mem_cons, List.not_mem_nil, or_false] at he
    subst he; exact .lit _ trivial
  · simp only [List.mem_cons, List.not_mem_nil, or_false] at he
    subst he
    exact .iff _ _ _ {} rfl (Or.inr (Or.inl ⟨_, rfl⟩)) (by decide) (.sym "tuple") (.lit _ trivial) (fun e he => by simp at he)

/-- **The error outcome of a call**: `(f e₁ … eₙ)`, `f` a global core function, operands in the fragment `TF G b` (either fragment) and evaluating
    to values (`hsa`), and the core function RAISES (`happ`: `applyFn … = .err ev epos s'`, a runtime error or a user error), so that
    `Lang/Sem.eval` of the form is that error (first conjunct), attributed to the position of the call form, in the state after the
    operands (same heap, same effect trace).  The compiled code is that of the non-error case.  From every configuration of the
    activation satisfying the run-time invariant — wherever the segment sits in the function's code AND its map segment in the
    function's source map (`MapAt`), the compiler's mapping cursor agreeing with `Lang/Sem`'s current position (`hcur`) — the VM
    runs the operands and the pushes, reaches the JOP_CALL instruction in the WORLD `Lang/Sem` has at that point (`s'.st.world`:
    the effects of the operands happened, nothing else), and ITS NEXT STEP RAISES THE SAME ERROR VALUE AT THE SAME POSITION:
    `step … = .err ev epos …`.  (Errors raised inside an operand / statement / branch: `compile_correct_error`.) -/
theorem compile_correct_call_error (p : Program) (f0 : Frame) (rest : List Frame) (V : Array Value) (P : List JanetModel.Emit.KConst)
    (hP : P.length < 65536)
    (hK : ∀ i, i < P.length → (p.defs.getD f0.defIdx default).consts.getD i .nil = litOf V (P.getD i .nil))
    (FF : FloatFacts) (G : String → Prop)
    (fuel : Nat) (f : String) (args : List Expr) (pp : Pos) (opts : Fopts) (c c' : CState) (slot : JSlot) (sc : Scope) (rs : List Scope)
    (pool : List JanetModel.Emit.KConst) (ps : List (List JanetModel.Emit.KConst)) (n2 : Nat) (cur : Pos) (env env_a : Env) (s s_a s' : SS)
    (vs : List Value) (ev : Value) (epos : Pos)
    (ht : opts.tail = false) (hh : opts.hint = none)
    (hs : c.scopes = sc :: rs) (hp : c.pools = pool :: ps) (hl : c.lim ≤ 240) (htop : sc.top = false)
    (hf : specials.contains f = false) (hna : f ≠ "apply") (hG : G f)
    (b : Bool) (hargs : ∀ a, a ∈ args → TF G b a) (hm : c.map.length = c.buf.length) (hcur : c.cur = cur)
    (hcomp : cValue (fuel + 1) opts (.form (.sym f :: args) pp) c = some (slot, c'))
    (hsa : evalArgs (n2 + 1) (posOf cur pp) env args s = .ok (vs, env_a) s_a)
    (happ : applyFn (n2 + 1) (posOf cur pp) (.cfun f) vs s_a = .err ev epos s')
    (henv : EnvS G c.scopes env s.boxes.size sc.ra) :
    eval (n2 + 2) cur env (.form (.sym f :: args) pp) s = .err ev epos s' ∧ epos = posOf cur pp ∧ s' = s_a ∧
    ∃ (mx : Nat) (more : List JanetModel.Emit.KConst) (seg : List CI) (segm : List Pos),
      c'.buf = c.buf ++ seg ∧ c'.map = c.map ++ segm ∧ c'.pools = (pool ++ more) :: ps ∧ PrefA c.vals c'.vals ∧
      (∃ sc', c'.scopes = sc' :: rs ∧ sc'.ra.max = mx) ∧
      ∀ (k : Cfg), k.w = s.st.world → k.args = #[] → EnvD c.scopes env s k.regs →
        CodeAt (p.defs.getD f0.defIdx default).code k.pc seg → MapAt (p.defs.getD f0.defIdx default).smap k.pc segm →
        PrefL (pool ++ more) P → PrefA c'.vals V → mx < k.regs.size →
        ∃ (regs' A : Array Value) (pc' : Nat),
          Reach p (inj f0 rest k) (inj f0 rest { regs := regs', pc := pc', args := A, w := s'.st.world }) ∧ regs'.size = k.regs.size ∧
          step p (inj f0 rest { regs := regs', pc := pc', args := A, w := s'.st.world }) =
            .err ev epos (inj f0 rest { regs := regs', pc := pc', args := A, w := s'.st.world }) := by
  have hgl : lookupEnv env f = none := EnvS.gfree henv f hG
  have hsemE : eval (n2 + 2) cur env (.form (.sym f :: args) pp) s = .err ev epos s' := by
    rw [eval_call_global n2 cur env f args pp s hf hgl, hsa]
    simp only [happ, appRes]
  obtain ⟨e1, e2, _⟩ := applyFn_cfun_err n2 (posOf cur pp) f hna vs s_a s' ev epos happ
  have hT : TF G b (.form (.sym f :: args) pp) := .call f args pp hf hna hG hargs
  exact ⟨hsemE, e1, e2,
    (tf_err_correct_b p f0 rest V P hP hK FF G b (fuel + 1) _ opts c c' slot sc rs pool ps (n2 + 2) cur env s s' ev epos ht hh hs hp hl htop hm
      hcur hT hcomp hsemE henv).explicit
      (tf_shape G b (fuel + 1) _ opts c c' slot sc rs pool ps hs hp hm hT henv.lkl hcomp).1⟩

/-- **`while` without `break`**: one loop `(while c e₁ … eₙ)` whose condition (`CondOK`: literal, symbol, call or `if`) and body
    statements are forms of the fragment `TF G b`, value used or dropped, in any block or function scope.  `janetc_while`: a block
    scope flagged as a loop; the condition; a constant falsy condition ⇒ no loop code at all; a constant truthy condition ⇒ no
    conditional jump; otherwise `JUMP_IF_NOT cond` patched to the end, the body (EVERY statement dropped and freed), `JUMP` BACK to
    the loop start (negative offset), the break-placeholder rewrite over the loop's code (the identity here), scope popped; result
    the constant nil.  No closure is created in the loop (the fragment has no `fn`), so the loop-as-function rewrite is not taken.
    `Lang/Sem`: `whileLoop` — each iteration evaluates the condition in the loop's environment and the body in the condition's
    environment and discards the bindings.  The VM run is by induction on the fuel of `whileLoop` (`whileLoop_rule`): the loop's code
    is compiled once and its correctness statements are quantified over all configurations, so they are used again at every
    iteration; the invariant at the loop head is the run-time invariant for the names visible outside the loop (their registers are
    untouched, the boxes only grow).  `break` is not covered. -/
theorem compile_correct_while (p : Program) (f0 : Frame) (rest : List Frame) (V : Array Value) (P : List JanetModel.Emit.KConst)
    (hP : P.length < 65536)
    (hK : ∀ i, i < P.length → (p.defs.getD f0.defIdx default).consts.getD i .nil = litOf V (P.getD i .nil))
    (FF : FloatFacts) (G : String → Prop) (b : Bool)
    (fuel : Nat) (cnd : Expr) (body : List Expr) (pp : Pos) (opts : Fopts) (c c' : CState) (slot : JSlot) (sc : Scope) (rs : List Scope)
    (pool : List JanetModel.Emit.KConst) (ps : List (List JanetModel.Emit.KConst)) (n : Nat) (cur : Pos) (env env' : Env) (s s' : SS) (v : Value)
    (ht : opts.tail = false) (hh : opts.hint = none)
    (hs : c.scopes = sc :: rs) (hp : c.pools = pool :: ps) (hl : c.lim ≤ 240) (hm : c.map.length = c.buf.length)
    (hok : CondOK cnd) (hTc : TF G b cnd) (hTb : ∀ e, e ∈ body → TF G b e)
    (hcomp : cValue (fuel + 1) opts (.form (.sym "while" :: cnd :: body) pp) c = some (slot, c'))
    (hsem : eval n cur env (.form (.sym "while" :: cnd :: body) pp) s = .ok (v, env') s')
    (henv : EnvS G c.scopes env s.boxes.size sc.ra) :
    Correct2 p f0 rest V P G opts.drop c c' slot sc rs pool ps env env' s s' v :=
  while_core G b b fuel (tf_correct_b p f0 rest V P hP hK FF G b fuel) cnd body pp hTc hTb hok
    opts c c' slot sc rs pool ps n cur env env' s s' v ht hh hs hp hl hm hcomp hsem henv

/-- non-vacuity: `Lang/Sem` runs a loop of the fragment to completion — `(do (def a (array :x :y)) (while (array/pop a) (emit :tick)))`:
    the condition is a call whose value depends on the heap; two iterations, two effects, value nil; the condition and the body
    statement are in the fragment with `G = {array/pop, emit}` -/
example : (match eval 30 {} [] (.form [.sym "do", .form [.sym "def", .sym "a", .form [.sym "array", .lit (.kw "x"), .lit (.kw "y")] {}] {},
            .form [.sym "while", .form [.sym "array/pop", .sym "a"] {}, .form [.sym "emit", .lit (.kw "tick")] {}] {}] {}) {} with
           | .ok (.nil, _) s => s.st.trace.size == 2 | _ => false) = true := by decide
example : CondOK (.form [.sym "array/pop", .sym "a"] {}) ∧
    TF (fun f => f = "array/pop" ∨ f = "emit") false (.form [.sym "array/pop", .sym "a"] {}) ∧
    TF (fun f => f = "array/pop" ∨ f = "emit") false (.form [.sym "emit", .lit (.kw "tick")] {}) := by
  refine ⟨.call "array/pop" _ {} (by decide), ?_, ?_⟩
  · exact .call1 "array/pop" {} (by decide) (by decide) (Or.inl rfl) (.sym "a")
  · exact .call1 "emit" {} (by decide) (by decide) (Or.inr rfl) (.lit _ trivial)

/-- **`set`**: the statement `(set x e)` with `e` a form of the fragment `TF G b` and `x` a mutable local.  `janetc_varset` resolves the
    target, compiles the value WITH THE VARIABLE'S SLOT AS HINT, and copies the result slot onto the variable (a no-op, the hinted
    compile already returned the variable's slot).  Hinted compiles are the reading `HintAtM` of `tf_all` (`tf_hint_correct_b`,
    Compile/SeqAll.lean, SeqHint*.lean): a literal / symbol / `def` is followed by `janetc_copy` into the hint (`LDK r_x k`, `MOVN r_x r`, nothing
    for `(set x x)`); a call takes the hint as target — `CALL r_x f`, its operands may read `x`, they run before the CALL writes it —;
    `do` / `upscope` hint their last statement; `if` takes the hint as target and hints both branches (folding and jump path; the
    branch not taken through the shape theorem `tf_shape`, which holds for any options).  `Lang/Sem`: the value, then `writeBox` of the
    box of the binding of `x` visible at the `set` form.  Conclusion `SetOK` (Compile/SeqSet.lean): compile side as `Correct2`; the
    VM reaches pc + |seg| in the world of `s'` with `r_x` holding the value, every OTHER register allocated at entry unchanged, and
    the FULL run-time invariant `EnvD` for the new state (register of every name = content of its box after the assignment).
    Side conditions, exactly what the argument needs: the variable's register lies in the frame (`hmaxx`; `EnvS` does not record
    "register ≤ max"); the value does not rebind `x` (`hside.1`, `hsame`: `(set x (def x 5))` is excluded); a mutable name's register
    is held by no other resolvable name at the exit of the value (`MutInj`, `hside.2`: `namelocal` aliases only immutable sources);
    distinct names have distinct boxes at entry (`BoxInj`; preserved across the value: `tf_boxinj`, proved).  `set` is a STATEMENT
    theorem: it is not a constructor of the fragment, because across a `set` two clauses of `Correct2` are false ("every register
    allocated at entry keeps its content", "the box store is prefix-stable") — see `compile_correct_partial`. -/
theorem compile_correct_set (p : Program) (f0 : Frame) (rest : List Frame) (V : Array Value) (P : List JanetModel.Emit.KConst)
    (hP : P.length < 65536)
    (hK : ∀ i, i < P.length → (p.defs.getD f0.defIdx default).consts.getD i .nil = litOf V (P.getD i .nil))
    (FF : FloatFacts) (G : String → Prop) (b : Bool)
    (fuel : Nat) (x : String) (ve : Expr) (pp : Pos) (opts : Fopts) (c c' : CState) (slot : JSlot) (sc : Scope) (rs : List Scope)
    (pool : List JanetModel.Emit.KConst) (ps : List (List JanetModel.Emit.KConst)) (n : Nat) (cur : Pos) (env env' : Env) (s s' : SS) (v : Value)
    (ht : opts.tail = false) (hh : opts.hint = none)
    (hs : c.scopes = sc :: rs) (hp : c.pools = pool :: ps) (hl : c.lim ≤ 240) (htop : sc.top = false)
    (hm : c.map.length = c.buf.length) (hTv : TF G b ve)
    (hcomp : cValue (fuel + 1) opts (.form [.sym "set", .sym x, ve] pp) c = some (slot, c'))
    (hsem : eval n cur env (.form [.sym "set", .sym x, ve] pp) s = .ok (v, env') s')
    (henv : EnvS G c.scopes env s.boxes.size sc.ra)
    (hmaxx : ∀ dest rx u l, lk c.scopes x = some (dest, u, l) → dest.k = .loc rx → rx ≤ sc.ra.max)
    (hside : ∀ (q : Pos) (dest r : JSlot) (c2 : CState), (∃ u l, lk c.scopes x = some (dest, u, l)) →
      cValue fuel { hint := some dest } ve { c with cur := q } = some (r, c2) →
      (∀ u l, lk c.scopes x = some (dest, u, l) → ∃ u2 l2, lk c2.scopes x = some (dest, u2, l2)) ∧ MutInj c2.scopes)
    (hsame : ∀ a, lookupEnv env x = some a → lookupEnv env' x = some a)
    (hbi : BoxInj env s.boxes.size) :
    ∃ rx, SetOK p f0 rest V P G c c' slot rx sc rs pool ps env env' s s' v :=
  set_correct p f0 rest V P G b fuel
    (tf_hint_correct_b p f0 rest V P hP hK FF G b b (tf_correct_b p f0 rest V P hP hK FF G b) fuel)
    x ve pp hTv opts c c' slot sc rs pool ps n cur env env' s s' v ht hh hs hp hl htop hm hcomp hsem henv hmaxx hside hsame
    (fun n2 pos s1 he => (tf_boxinj G b n2 pos env env' ve s s1 v henv.gfree hbi hTv he).1)

/-- **`set` with a value that may contain `def`s of other names** `NoBind x ve` only for the ASSIGNED
    variable `x` (so `(set x (def x 5))` stays excluded), instead of `∀ y, NoBind y ve`.  The exit-side conditions of
    `compile_correct_set` follow from `MutInj c.scopes` / `BoxInj` at ENTRY: `EnvS` marks every resolvable name's register
    (`EnvS.allocInv`), and a compile-ONLY induction over the fragment for any options (`tf_inv` at `pinv_cinv`:
    Compile/SeqSetSideC.lean, SeqMutInjDefM.lean; allocator marks are never cleared by the emit layer: Compile/EmitW.lean), carries
    "a resolvable local's register lies in the set P of the mutable names' entry registers iff the local is mutable, P stays
    marked, a returned un-named register is outside P": a `def` names a fresh first-fit register or aliases an IMMUTABLE source
    (`pinv_cinv`, fields `fresh` and `snoc`: Compile/SeqMutInjDefM.lean), so no new name ever holds a mutable name's register
    (`tf_mutinj_any`, `set_hside_def`). -/
theorem compile_correct_set_def (p : Program) (f0 : Frame) (rest : List Frame) (V : Array Value) (P : List JanetModel.Emit.KConst)
    (hP : P.length < 65536)
    (hK : ∀ i, i < P.length → (p.defs.getD f0.defIdx default).consts.getD i .nil = litOf V (P.getD i .nil))
    (FF : FloatFacts) (G : String → Prop) (b : Bool)
    (fuel : Nat) (x : String) (ve : Expr) (pp : Pos) (opts : Fopts) (c c' : CState) (slot : JSlot) (sc : Scope) (rs : List Scope)
    (pool : List JanetModel.Emit.KConst) (ps : List (List JanetModel.Emit.KConst)) (n : Nat) (cur : Pos) (env env' : Env) (s s' : SS) (v : Value)
    (ht : opts.tail = false) (hh : opts.hint = none)
    (hs : c.scopes = sc :: rs) (hp : c.pools = pool :: ps) (hl : c.lim ≤ 240) (htop : sc.top = false)
    (hm : c.map.length = c.buf.length) (hTv : TF G b ve) (hnd : NoBind x ve)
    (hcomp : cValue (fuel + 1) opts (.form [.sym "set", .sym x, ve] pp) c = some (slot, c'))
    (hsem : eval n cur env (.form [.sym "set", .sym x, ve] pp) s = .ok (v, env') s')
    (henv : EnvS G c.scopes env s.boxes.size sc.ra)
    (hmaxx : ∀ dest rx u l, lk c.scopes x = some (dest, u, l) → dest.k = .loc rx → rx ≤ sc.ra.max)
    (hmi : MutInj c.scopes) (hbi : BoxInj env s.boxes.size) :
    ∃ rx, SetOK p f0 rest V P G c c' slot rx sc rs pool ps env env' s s' v := by
  obtain ⟨n2, s1, a0, _, hev, _, _⟩ := eval_set_inv n cur env env' x ve pp s s' v hsem
  have hsame : lookupEnv env' x = lookupEnv env x :=
    nobind_env G b x n2 (posOf cur pp) env env' ve s s1 v henv.gfree hTv hnd hev
  have hA : AllocInv c.scopes := by
    rw [hs] at henv hmi ⊢
    exact EnvS.allocInv henv hmi
  exact compile_correct_set p f0 rest V P hP hK FF G b fuel x ve pp opts c c' slot sc rs pool ps n cur env env' s s' v ht hh hs hp hl htop hm
    hTv hcomp hsem henv hmaxx
    (set_hside_def G b fuel x ve c sc rs pool ps hs hp hm (by omega) hTv hnd henv.lkl hA)
    (fun a ha => by rw [hsame]; exact ha) hbi

/-- **`set` with a value that contains no `def`** (`∀ y, NoBind y ve`: calls, `if`, `do` / `upscope` of such, literals, symbols — the
    common case `(set x (f x …))`, `(set x (if c a b))`): the instance `hnd x` of `compile_correct_set_def`. -/
theorem compile_correct_set_nodef (p : Program) (f0 : Frame) (rest : List Frame) (V : Array Value) (P : List JanetModel.Emit.KConst)
    (hP : P.length < 65536)
    (hK : ∀ i, i < P.length → (p.defs.getD f0.defIdx default).consts.getD i .nil = litOf V (P.getD i .nil))
    (FF : FloatFacts) (G : String → Prop) (b : Bool)
    (fuel : Nat) (x : String) (ve : Expr) (pp : Pos) (opts : Fopts) (c c' : CState) (slot : JSlot) (sc : Scope) (rs : List Scope)
    (pool : List JanetModel.Emit.KConst) (ps : List (List JanetModel.Emit.KConst)) (n : Nat) (cur : Pos) (env env' : Env) (s s' : SS) (v : Value)
    (ht : opts.tail = false) (hh : opts.hint = none)
    (hs : c.scopes = sc :: rs) (hp : c.pools = pool :: ps) (hl : c.lim ≤ 240) (htop : sc.top = false)
    (hm : c.map.length = c.buf.length) (hTv : TF G b ve) (hnd : ∀ y, NoBind y ve)
    (hcomp : cValue (fuel + 1) opts (.form [.sym "set", .sym x, ve] pp) c = some (slot, c'))
    (hsem : eval n cur env (.form [.sym "set", .sym x, ve] pp) s = .ok (v, env') s')
    (henv : EnvS G c.scopes env s.boxes.size sc.ra)
    (hmaxx : ∀ dest rx u l, lk c.scopes x = some (dest, u, l) → dest.k = .loc rx → rx ≤ sc.ra.max)
    (hmi : MutInj c.scopes) (hbi : BoxInj env s.boxes.size) :
    ∃ rx, SetOK p f0 rest V P G c c' slot rx sc rs pool ps env env' s s' v :=
  compile_correct_set_def p f0 rest V P hP hK FF G b fuel x ve pp opts c c' slot sc rs pool ps n cur env env' s s' v ht hh hs hp hl htop hm
    hTv (hnd x) hcomp hsem henv hmaxx hmi hbi

/-- non-vacuity: the value `(upscope (def y 5) (tuple y x))` of `(set x …)` binds `y`, not `x`: `NoBind "x"` holds, `NoBind "y"` fails
    (so `compile_correct_set_nodef` does not apply), and it is in the fragment -/
example : NoBind "x" (.form [.sym "upscope", .form [.sym "def", .sym "y", .lit (.num 5)] {}, .form [.sym "tuple", .sym "y", .sym "x"] {}] {}) ∧
    ¬ NoBind "y" (.form [.sym "upscope", .form [.sym "def", .sym "y", .lit (.num 5)] {}, .form [.sym "tuple", .sym "y", .sym "x"] {}] {}) := by
  constructor
  · refine .form _ _ (fun e he => ?_) (fun y r h => by simp at h)
    simp only [List.mem_cons, List.not_mem_nil, or_false] at he
    rcases he with rfl | rfl | rfl
    · exact .sym _
    · refine .form _ _ (fun e he => ?_) (fun y r h => by
        simp only [List.cons.injEq, Expr.sym.injEq, true_and] at h; rw [← h.1]; decide)
      simp only [List.mem_cons, List.not_mem_nil, or_false] at he
      rcases he with rfl | rfl | rfl
      · exact .sym _
      · exact .sym _
      · exact .lit _
    · refine .form _ _ (fun e he => ?_) (fun y r h => by simp at h)
      simp only [List.mem_cons, List.not_mem_nil, or_false] at he
      rcases he with rfl | rfl | rfl <;> exact .sym _
  · intro h
    cases h with
    | form l p h1 h2 =>
      have := h1 (.form [.sym "def", .sym "y", .lit (.num 5)] {}) (by simp)
      cases this with
      | form l' p' h3 h4 => exact h4 "y" _ rfl rfl


/-- **`var` declarations**: `(var x e)` with `e` in the fragment `TF G b`, in a local scope, value used or dropped (no hint).
    `janetc_var` = the value, then `namelocal` with the MUTABLE flag: never an alias — always a fresh register and a copy — and the new
    name's slot is flagged mutable; `Lang/Sem` binds a fresh box, as for `def`.  Conclusion `Correct2 … false …` (value in the result
    slot, environment extended by `x`, invariants re-established).  Assignment: `compile_correct_set`. -/
theorem compile_correct_var (p : Program) (f0 : Frame) (rest : List Frame) (V : Array Value) (P : List JanetModel.Emit.KConst)
    (hP : P.length < 65536)
    (hK : ∀ i, i < P.length → (p.defs.getD f0.defIdx default).consts.getD i .nil = litOf V (P.getD i .nil))
    (FF : FloatFacts) (G : String → Prop)
    (fuel : Nat) (x : String) (ve : Expr) (pp : Pos) (opts : Fopts) (c c' : CState) (slot : JSlot) (sc : Scope) (rs : List Scope)
    (pool : List JanetModel.Emit.KConst) (ps : List (List JanetModel.Emit.KConst)) (n : Nat) (cur : Pos) (env env' : Env) (s s' : SS) (v : Value)
    (ht : opts.tail = false) (hh : opts.hint = none)
    (hs : c.scopes = sc :: rs) (hp : c.pools = pool :: ps) (hl : c.lim ≤ 240) (htop : sc.top = false)
    (hGx : ¬ G x) (b : Bool) (hfrag : TF G b ve) (hm : b = true → c.map.length = c.buf.length)
    (hcomp : cValue (fuel + 1) opts (.form [.sym "var", .sym x, ve] pp) c = some (slot, c'))
    (hsem : eval n cur env (.form [.sym "var", .sym x, ve] pp) s = .ok (v, env') s')
    (henv : EnvS G c.scopes env s.boxes.size sc.ra) :
    Correct2 p f0 rest V P G false c c' slot sc rs pool ps env env' s s' v := by
  rw [cValue_var_o fuel opts ht hh x ve pp c] at hcomp
  obtain ⟨q, hq⟩ := curAt_eq c pp
  obtain ⟨cq, hcc, rfl⟩ := fin_inv hcomp
  obtain ⟨n2, env1, s1, _, hev, henv', hs'⟩ := eval_def_inv "var" (Or.inr rfl) n cur env env' x ve pp s s' v hsem
  subst henv' hs'
  rw [hq] at hcc
  exact Correct2.recur p f0 rest V P (q := q)
    (var_core p f0 rest V P hP hK G (TF G b) b fuel (tf_correct_b p f0 rest V P hP hK FF G b fuel) x ve hGx hfrag
      { c with cur := q } cq slot sc rs pool ps n2 (posOf cur pp) env env1 s s1 v hs hp hl htop hm hcc hev henv)

/-- **The error outcome, every form of the fragment `TF G b`** (error propagation; with `if` when `b = true`): if `Lang/Sem.eval` of the form is an ERROR
    `.err ev epos s'` — raised by a core function somewhere inside: in an operand at any depth, in the application itself, in a
    statement of a `do` / `upscope`, in the value of a `def`, in the condition or the taken branch of an `if` (jump path and
    folding path) — then the VM, started at the form's code, reaches a configuration in the
    world of `s'` (the effects up to the error happened, nothing after) whose NEXT STEP RAISES THE SAME ERROR VALUE AT THE SAME
    SOURCE POSITION (`ErrOK`).  Hypotheses as for the success case, plus: the mapping cursor agrees with `Lang/Sem`'s current
    position (`hcur`), the map is as long as the code, and — in `ErrOK` — the form's code segment sits in the function's code and
    its map segment in the function's source map (`MapAt`), pool / value table / frame size of the FINAL compile state.  The
    sub-forms before the failing one run by the success theorem; the failing one by induction; what is compiled after it is never
    executed and has no semantic run: that it only appends code, map (equal lengths) and pool and never lowers the allocator's
    `max` is compile-only (`tf_shape_max`; `App`).  The `.err` case of `tf_all` (`Compile/SeqAll.lean`; reading `tf_err_correct_b`). -/
theorem compile_correct_error (p : Program) (f0 : Frame) (rest : List Frame) (V : Array Value) (P : List JanetModel.Emit.KConst)
    (hP : P.length < 65536)
    (hK : ∀ i, i < P.length → (p.defs.getD f0.defIdx default).consts.getD i .nil = litOf V (P.getD i .nil))
    (FF : FloatFacts) (G : String → Prop)
    (fuel : Nat) (e : Expr) (opts : Fopts) (c c' : CState) (slot : JSlot) (sc : Scope) (rs : List Scope) (pool : List JanetModel.Emit.KConst)
    (ps : List (List JanetModel.Emit.KConst)) (n : Nat) (cur : Pos) (env : Env) (s s' : SS) (ev : Value) (epos : Pos)
    (ht : opts.tail = false) (hh : opts.hint = none)
    (hs : c.scopes = sc :: rs) (hp : c.pools = pool :: ps) (hl : c.lim ≤ 240) (htop : sc.top = false)
    (hm : c.map.length = c.buf.length) (hcur : c.cur = cur) (b : Bool) (hfrag : TF G b e)
    (hcomp : cValue fuel opts e c = some (slot, c')) (hsem : eval n cur env e s = .err ev epos s')
    (henv : EnvS G c.scopes env s.boxes.size sc.ra) :
    ErrOK p f0 rest V P c c' rs ps env s s' ev epos :=
  tf_err_correct_b p f0 rest V P hP hK FF G b fuel e opts c c' slot sc rs pool ps n cur env
    s s' ev epos ht hh hs hp hl htop hm hcur hfrag hcomp hsem henv

/-- non-vacuity of the error theorems: `(error :boom)` at line 3 is in the fragment (`G = {error}`) and `Lang/Sem` evaluates it to the
    error `:boom` attributed to line 3; nested in an operand, `(tuple 1 (error :boom))`, likewise -/
example : (match eval 10 {} [] (.form [.sym "error", .lit (.kw "boom")] { line := 3, col := 1 }) {} with
           | .err (.kw x) q _ => x == "boom" && q.line == 3 | _ => false) = true := by decide
example : (match eval 10 {} [] (.form [.sym "tuple", .lit (.kw "a"), .form [.sym "error", .lit (.kw "boom")] { line := 4, col := 2 }] { line := 3, col := 1 }) {} with
           | .err (.kw x) q _ => x == "boom" && q.line == 4 | _ => false) = true := by decide
example : TF (fun f => f = "error" ∨ f = "tuple") false
    (.form [.sym "tuple", .lit (.kw "a"), .form [.sym "error", .lit (.kw "boom")] { line := 4, col := 2 }] { line := 3, col := 1 }) := by
  refine .call "tuple" _ _ (by decide) (by decide) (Or.inr rfl) (fun a ha => ?_)
  simp only [List.mem_cons, List.not_mem_nil, or_false] at ha
  rcases ha with rfl | rfl
  · exact .lit _ trivial
  · exact .call1 "error" _ (by decide) (by decide) (Or.inl rfl) (.lit _ trivial)

/-- **A closed statement: the funcdef of a parameterless function without captured variables.**  `janetc_fn` pushes a function scope
    (`pushScope c true …`: fresh allocator, empty constant pool, `bytecode_start` = current code length), compiles the body with
    `fnBody`, and `janetc_pop_funcdef` cuts the funcdef out of the buffers: code = the buffer from `bytecode_start`, constants = the
    scope's pool, slot count = the allocator's `max` + 1 (`popFuncdef_fields`, Compile/SeqFnParams.lean).  For a non-empty body of
    forms of `TF G b`, over enclosing scopes that bind nothing (no upvalue capture), with `Lang/Sem.evalSeq` in the EMPTY environment
    giving `v` / `s'`: for every program whose running funcdef has that code from pc 0, those constants and at least that many
    registers, the VM started at pc 0 with ANY register contents reaches a configuration whose next step is the return of `v` in the
    world of `s'`.  All the hypotheses the other theorems carry about the running function (`hK`, `CodeAt`, `PrefL`, frame size) and
    about the entry state (`EnvS`, `EnvD`, `NR`) are discharged here from what the compiler itself establishes.  The first conjunct
    is the shape `popFuncdef_fields` needs. -/
theorem compile_correct_thunk (p : Program) (f0 : Frame) (rest : List Frame) (V : Array Value)
    (FF : FloatFacts) (G : String → Prop) (b : Bool) (fuel : Nat)
    (c c5 : CState) (body : List Expr) (hT : ∀ e, e ∈ body → TF G b e) (hne : body ≠ [])
    (hm : c.map.length = c.buf.length) (hl : c.lim ≤ 240) (hclosed : ∀ x, lk c.scopes x = none)
    (hc : fnBody (cValue fuel) body (pushScope c true false false false) = some c5)
    (n : Nat) (cur : Pos) (env' : Env) (s s' : SS) (v : Value)
    (hsem : evalSeq n cur [] body s = .ok (v, env') s')
    (hV : PrefA c5.vals V)
    (hcode : CodeAt (p.defs.getD f0.defIdx default).code 0 (c5.buf.drop c.buf.length))
    (hP : (c5.pools.headD []).length < 65536)
    (hK : ∀ i, i < (c5.pools.headD []).length → (p.defs.getD f0.defIdx default).consts.getD i .nil = litOf V ((c5.pools.headD []).getD i .nil))
    (regs : Array Value) (hregs : (c5.scopes.headD default).ra.max + 1 ≤ regs.size) :
    (∃ sc5, c5.scopes = sc5 :: c.scopes ∧ sc5.fn = true ∧ sc5.start = c.buf.length ∧ c5.pools = c5.pools.headD [] :: c.pools) ∧
    ∃ (regs' A : Array Value) (pc' : Nat) (wa : World),
      Reach p (inj f0 rest { regs := regs, pc := 0, args := #[], w := s.st.world }) (inj f0 rest { regs := regs', pc := pc', args := A, w := wa }) ∧
      step p (inj f0 rest { regs := regs', pc := pc', args := A, w := wa }) =
        doReturn p (inj f0 rest { regs := regs', pc := pc', args := #[], w := s'.st.world }) v :=
  thunk_body_correct p f0 rest V FF G b fuel c c5 body hT hne hm hl hclosed hc n cur env' s s' v hsem hV hcode hP hK regs hregs

/-- **A closed statement for a function WITH symbol parameters** `(fn [a₁ … aₖ] body…)`, no captured variables: `janetc_fn`'s parameter
    loop hands out registers 0 … k−1 in order on the fresh allocator (`firstFit_at`) and names them in the function scope
    (`params_loop`); the body is evaluated in the environment `bindParams names nb0 []` (parameter i ↦ box nb0 + i; that
    `Lang/Sem.bindAll` builds exactly this is `bindAll_syms`, not connected here).  With the initial registers holding the arguments (`hargs`: what the frame set-up `mkRegs` does) the
    VM from pc 0 reaches the return of what `Lang/Sem.evalSeq` gives the body in the parameters' environment.  Otherwise as
    `compile_correct_thunk`.  Not covered: the self name (`LOAD_SELF`), `&`-parameters, the call of the closure itself (`applyFn`'s
    arity checks, the closure object in the heap). -/
theorem compile_correct_fn_params (p : Program) (f0 : Frame) (rest : List Frame) (V : Array Value)
    (FF : FloatFacts) (G : String → Prop) (b : Bool) (fuel : Nat)
    (c c3 c5 : CState) (names : List String) (hGn : ∀ nm, nm ∈ names → ¬ G nm)
    (body : List Expr) (hT : ∀ e, e ∈ body → TF G b e) (hne : body ≠ [])
    (hm : c.map.length = c.buf.length) (hl : c.lim ≤ 240) (hclosed : ∀ x, lk c.scopes x = none)
    (hpar : names.foldlM (fun (cc : CState) nm => do let (sl, cc') ← farslot cc; pure (nameslot cc' nm sl))
      (pushScope c true false false false) = some c3)
    (hc : fnBody (cValue fuel) body c3 = some c5)
    (n : Nat) (cur : Pos) (env' : Env) (s s' : SS) (v : Value) (nb0 : Nat) (hnb : nb0 + names.length ≤ s.boxes.size)
    (hsem : evalSeq n cur (bindParams names nb0 []) body s = .ok (v, env') s')
    (hV : PrefA c5.vals V)
    (hcode : CodeAt (p.defs.getD f0.defIdx default).code 0 (c5.buf.drop c.buf.length))
    (hP : (c5.pools.headD []).length < 65536)
    (hK : ∀ i, i < (c5.pools.headD []).length →
      (p.defs.getD f0.defIdx default).consts.getD i .nil = litOf V ((c5.pools.headD []).getD i .nil))
    (regs : Array Value) (hregs : (c5.scopes.headD default).ra.max + 1 ≤ regs.size)
    (hargs : ∀ i, i < names.length → regs.getD i .nil = readBox s (nb0 + i)) :
    (∃ sc5, c5.scopes = sc5 :: c.scopes ∧ sc5.fn = true ∧ sc5.start = c.buf.length ∧ c5.pools = c5.pools.headD [] :: c.pools) ∧
    ∃ (regs' A : Array Value) (pc' : Nat) (wa : World),
      Reach p (inj f0 rest { regs := regs, pc := 0, args := #[], w := s.st.world })
        (inj f0 rest { regs := regs', pc := pc', args := A, w := wa }) ∧
      step p (inj f0 rest { regs := regs', pc := pc', args := A, w := wa }) =
        doReturn p (inj f0 rest { regs := regs', pc := pc', args := #[], w := s'.st.world }) v :=
  fn_params_body_correct p f0 rest V FF G b fuel c c3 c5 names hGn body hT hne hm hl hclosed hpar hc n cur env' s s' v nb0 hnb hsem hV hcode
    hP hK regs hregs hargs

/-- **Blocks whose statements are fragment forms or loops**: the body of a `do` block (stated on `cDo` / `evalSeq`, what `cValue` /
    `eval` unfold a `do` form to) whose statements are forms of `TF G true` or `while` loops without `break` over it (`TFW`), in any
    order, value used or dropped.  No new induction: `TFW` is a part of `TL`, the fragment with the loop as a constructor of the
    statement level.  Loops inside `if` branches are not covered. -/
theorem compile_correct_block_loops (p : Program) (f0 : Frame) (rest : List Frame) (V : Array Value) (P : List JanetModel.Emit.KConst)
    (hP : P.length < 65536)
    (hK : ∀ i, i < P.length → (p.defs.getD f0.defIdx default).consts.getD i .nil = litOf V (P.getD i .nil))
    (FF : FloatFacts) (G : String → Prop) (fuel : Nat) (body : List Expr) (hT : ∀ e, e ∈ body → TFW G true e)
    (opts : Fopts) (c c' : CState) (slot : JSlot) (sc : Scope) (rs : List Scope) (pool : List JanetModel.Emit.KConst)
    (ps : List (List JanetModel.Emit.KConst)) (n : Nat) (cur : Pos) (env envb : Env) (s s' : SS) (v : Value)
    (ht : opts.tail = false) (hh : opts.hint = none) (hs : c.scopes = sc :: rs) (hp : c.pools = pool :: ps) (hl : c.lim ≤ 240)
    (hm : c.map.length = c.buf.length)
    (hc : cDo (cValue fuel) opts body c = some (slot, c')) (hsem : evalSeq n cur env body s = .ok (v, envb) s')
    (hE : EnvS G c.scopes env s.boxes.size sc.ra) :
    Correct2 p f0 rest V P G opts.drop c c' slot sc rs pool ps env env s s' v :=
  do_tl hP hK FF G fuel body (fun e he => TL.of_tfw (hT e he)) opts c c' slot sc rs pool ps n cur env envb s s' v ht hh hs hp hl hm hc hsem hE

/-- **Nested `while` loops (no `break`)**: an outer loop whose condition is in `TF G true` (`CondOK`) and whose body statements are
    fragment forms OR inner loops without `break` over the fragment (`TFW G true`), in any order.  The loop theorem is stated over any
    body predicate: the VM side needs `CorrectAt` / `MLAt` for it (here `TL G`); the compile-ONLY facts about code that is not
    executed in the last round / in a loop that runs zero times — append-only shape, `max` monotone, no break placeholder left — are
    proved for a loop FORM and lifted to statement lists (`StmtFacts`); semantic side: a loop never ends with the `.brk` outcome, so
    the outer body has none. -/
theorem compile_correct_nested_while (p : Program) (f0 : Frame) (rest : List Frame) (V : Array Value) (P : List JanetModel.Emit.KConst)
    (hP : P.length < 65536)
    (hK : ∀ i, i < P.length → (p.defs.getD f0.defIdx default).consts.getD i .nil = litOf V (P.getD i .nil))
    (FF : FloatFacts) (G : String → Prop)
    (fuel : Nat) (cnd : Expr) (body : List Expr) (pp : Pos) (opts : Fopts) (c c' : CState) (slot : JSlot) (sc : Scope) (rs : List Scope)
    (pool : List JanetModel.Emit.KConst) (ps : List (List JanetModel.Emit.KConst)) (n : Nat) (cur : Pos) (env env' : Env) (s s' : SS) (v : Value)
    (ht : opts.tail = false) (hh : opts.hint = none)
    (hs : c.scopes = sc :: rs) (hp : c.pools = pool :: ps) (hl : c.lim ≤ 240) (hm : c.map.length = c.buf.length)
    (hok : CondOK cnd) (hTc : TF G true cnd) (hTb : ∀ e, e ∈ body → TFW G true e)
    (hcomp : cValue (fuel + 1) opts (.form (.sym "while" :: cnd :: body) pp) c = some (slot, c'))
    (hsem : eval n cur env (.form (.sym "while" :: cnd :: body) pp) s = .ok (v, env') s')
    (henv : EnvS G c.scopes env s.boxes.size sc.ra) :
    Correct2 p f0 rest V P G opts.drop c c' slot sc rs pool ps env env' s s' v :=
  while_core_of G (TL G) true true fuel (tl_correct hP hK FF G fuel) (tl_stmtFacts G fuel) (fun e h => .base e h) (tl_eval_nbg G)
    cnd body pp hTc (fun x hx => TL.of_tfw (hTb x hx)) hok opts c c' slot sc rs pool ps n cur env env' s s' v ht hh hs hp hl hm hcomp hsem henv

/-- **Loops nested to ANY depth** (`TFWn G k`: a fragment form, or a loop without `break` with a fragment condition whose body
    statements are in `TFWn G (k−1)`): every `TFWn G k` is a part of `TL G`, the fragment with the loop as a constructor of the
    statement level of loop bodies; `tl_correct` is one induction on the compile fuel.  Same conclusion as every form of the
    fragment (`Correct2`).  Outside: `break`, loops inside operands / `if` branches / `do` blocks that are themselves loop-body
    statements, a loop as a loop CONDITION, loops whose body creates a closure (the loop-as-function rewrite). -/
theorem compile_correct_loops_any_depth (p : Program) (f0 : Frame) (rest : List Frame) (V : Array Value) (P : List JanetModel.Emit.KConst)
    (hP : P.length < 65536)
    (hK : ∀ i, i < P.length → (p.defs.getD f0.defIdx default).consts.getD i .nil = litOf V (P.getD i .nil))
    (FF : FloatFacts) (G : String → Prop) (k fuel : Nat) (e : Expr) (hT : TFWn G k e)
    (opts : Fopts) (c c' : CState) (slot : JSlot) (sc : Scope) (rs : List Scope)
    (pool : List JanetModel.Emit.KConst) (ps : List (List JanetModel.Emit.KConst)) (n : Nat) (cur : Pos) (env env' : Env) (s s' : SS) (v : Value)
    (ht : opts.tail = false) (hh : opts.hint = none)
    (hs : c.scopes = sc :: rs) (hp : c.pools = pool :: ps) (hl : c.lim ≤ 240) (htop : sc.top = false) (hm : c.map.length = c.buf.length)
    (hcomp : cValue fuel opts e c = some (slot, c'))
    (hsem : eval n cur env e s = .ok (v, env') s')
    (henv : EnvS G c.scopes env s.boxes.size sc.ra) :
    Correct2 p f0 rest V P G opts.drop c c' slot sc rs pool ps env env' s s' v := by
  exact Bool.and_true opts.drop ▸ tl_correct hP hK FF G fuel e opts c c' slot sc rs pool ps n cur env env' s s' v ht hh hs hp hl htop
    (fun _ => hm) (TL.of_tfwn hT) hcomp hsem henv

/-- **`do` bodies (`cDo` / `evalSeq`) whose statements are fragment forms or loops nested to any depth** (`TFWn G k`). -/
theorem compile_correct_block_nested_loops (p : Program) (f0 : Frame) (rest : List Frame) (V : Array Value) (P : List JanetModel.Emit.KConst)
    (hP : P.length < 65536)
    (hK : ∀ i, i < P.length → (p.defs.getD f0.defIdx default).consts.getD i .nil = litOf V (P.getD i .nil))
    (FF : FloatFacts) (G : String → Prop) (k fuel : Nat) (body : List Expr) (hT : ∀ e, e ∈ body → TFWn G k e)
    (opts : Fopts) (c c' : CState) (slot : JSlot) (sc : Scope) (rs : List Scope) (pool : List JanetModel.Emit.KConst)
    (ps : List (List JanetModel.Emit.KConst)) (n : Nat) (cur : Pos) (env envb : Env) (s s' : SS) (v : Value)
    (ht : opts.tail = false) (hh : opts.hint = none) (hs : c.scopes = sc :: rs) (hp : c.pools = pool :: ps) (hl : c.lim ≤ 240)
    (hm : c.map.length = c.buf.length)
    (hc : cDo (cValue fuel) opts body c = some (slot, c')) (hsem : evalSeq n cur env body s = .ok (v, envb) s')
    (hE : EnvS G c.scopes env s.boxes.size sc.ra) :
    Correct2 p f0 rest V P G opts.drop c c' slot sc rs pool ps env env s s' v := by
  exact do_tl hP hK FF G fuel body (fun e he => TL.of_tfwn (hT e he)) opts c c' slot sc rs pool ps n cur env envb s s' v
    ht hh hs hp hl hm hc hsem hE

/-- **A `while` loop WITH `break`** — the break-placeholder patch: `(while cnd pre… (break) post…)`, `CondOK cnd`, `TF G true cnd`,
    the statements of `pre` and `post` fragment forms or loops without `break` (`TFW G true`).  `janetc_break` in a while scope that is
    not a function scope emits the placeholder `0x80 | JOP_JUMP`; after the loop is compiled `janetc_while` rewrites every placeholder
    between the loop start and `:done` into `JUMP (done − i)`.  Here exactly one index holds the placeholder, and the rewrite is NOT
    the identity: as a map of the loop's own code (`fixBrk`) it turns the placeholder into the jump and leaves every other
    instruction alone.  `Lang/Sem`: `cnd`, `pre`, then the `.brk` outcome ends the loop with nil; `post` and the `JUMP` back are dead
    code (compile-only shape / `max` facts).  The VM runs the condition's code, `JUMP_IF_NOT` not taken, `pre`'s code, and the
    rewritten jump lands exactly on the loop's end label; condition falsy at the first test: as without `break`; constant truthy
    condition (`while true`): no conditional jump.  `hrg`: the loop's code is at most 0x7FFFFF instructions — the model's `cWhile`
    checks the JUMP back (`labeljt − labelwt > 0x7FFFFF` is refused), as `janetc_while` did before fix-C02-break-jump-off-by-one, but
    not the break jump `done − i`, which is one larger when `(break)` is the first instruction of a `while true` loop; the VM's 24-bit
    signed field holds at most 0x7FFFFF.
    NOT proved: a conditional break `(if c (break))` in an iterating loop (semantic side only: `eval_ifbreak`), `break` with a value,
    `break` out of a loop compiled as a function. -/
theorem compile_correct_while_break (p : Program) (f0 : Frame) (rest : List Frame) (V : Array Value) (P : List JanetModel.Emit.KConst)
    (hP : P.length < 65536)
    (hK : ∀ i, i < P.length → (p.defs.getD f0.defIdx default).consts.getD i .nil = litOf V (P.getD i .nil))
    (FF : FloatFacts) (G : String → Prop)
    (fuel : Nat) (cnd : Expr) (pre post : List Expr) (bp pp : Pos) (opts : Fopts) (c c' : CState) (slot : JSlot) (sc : Scope) (rs : List Scope)
    (pool : List JanetModel.Emit.KConst) (ps : List (List JanetModel.Emit.KConst)) (n : Nat) (cur : Pos) (env env' : Env) (s s' : SS) (v : Value)
    (ht : opts.tail = false) (hh : opts.hint = none)
    (hs : c.scopes = sc :: rs) (hp : c.pools = pool :: ps) (hl : c.lim ≤ 240) (hm : c.map.length = c.buf.length)
    (hok : CondOK cnd) (hTc : TF G true cnd) (hTpre : ∀ e, e ∈ pre → TFW G true e) (hTpost : ∀ e, e ∈ post → TFW G true e)
    (hcomp : cValue (fuel + 1) opts (.form (.sym "while" :: cnd :: (pre ++ .form [.sym "break"] bp :: post)) pp) c = some (slot, c'))
    (hrg : c'.buf.length - c.buf.length ≤ 8388607)
    (hsem : eval n cur env (.form (.sym "while" :: cnd :: (pre ++ .form [.sym "break"] bp :: post)) pp) s = .ok (v, env') s')
    (henv : EnvS G c.scopes env s.boxes.size sc.ra) :
    Correct2 p f0 rest V P G opts.drop c c' slot sc rs pool ps env env' s s' v :=
  while_break_core hP hK FF G fuel cnd pre post bp pp hTc (fun e he => TL.of_tfw (hTpre e he))
    (fun e he => TL.of_tfw (hTpost e he)) hok opts c c' slot sc rs pool ps n cur env env' s s' v
    ht hh hs hp hl hm hcomp hrg hsem henv

/-- non-vacuity: `Lang/Sem` runs `(do (def a (array :x :y)) (while (array/pop a) (emit :t) (break) (emit :dead)))`: one round, one
    effect, value nil — the loop ends by the `break`, `(emit :dead)` never runs, and `a` still holds one element -/
example : (match eval 30 {} [] (.form [.sym "do", .form [.sym "def", .sym "a", .form [.sym "array", .lit (.kw "x"), .lit (.kw "y")] {}] {},
            .form [.sym "while", .form [.sym "array/pop", .sym "a"] {}, .form [.sym "emit", .lit (.kw "t")] {}, .form [.sym "break"] {},
              .form [.sym "emit", .lit (.kw "dead")] {}] {}] {}) {} with
           | .ok (.nil, _) s => s.st.trace.size == 1 | _ => false) = true := by decide

/-- non-vacuity: `Lang/Sem` runs a doubly nested loop of the fragment to completion —
    `(do (def a (array :x :y)) (def b (array 1 2 3)) (while (array/pop a) (while (array/pop b) (emit :in)) (emit :out)))`:
    2 outer rounds, the inner loop runs 3 times in the first and 0 times in the second: 5 effects; and the loop is in `TFWn G 2` -/
example : (match eval 40 {} [] (.form [.sym "do", .form [.sym "def", .sym "a", .form [.sym "array", .lit (.kw "x"), .lit (.kw "y")] {}] {},
            .form [.sym "def", .sym "b", .form [.sym "array", .lit (.kw "p"), .lit (.kw "q"), .lit (.kw "r")] {}] {},
            .form [.sym "while", .form [.sym "array/pop", .sym "a"] {},
              .form [.sym "while", .form [.sym "array/pop", .sym "b"] {}, .form [.sym "emit", .lit (.kw "in")] {}] {},
              .form [.sym "emit", .lit (.kw "out")] {}] {}] {}) {} with
           | .ok (.nil, _) s => s.st.trace.size == 5 | _ => false) = true := by decide
example : TFWn (fun f => f = "array/pop" ∨ f = "emit") 2
    (.form [.sym "while", .form [.sym "array/pop", .sym "a"] {},
      .form [.sym "while", .form [.sym "array/pop", .sym "b"] {}, .form [.sym "emit", .lit (.kw "in")] {}] {},
      .form [.sym "emit", .lit (.kw "out")] {}] {}) := by
  have hpop : ∀ x : String, TF (fun f => f = "array/pop" ∨ f = "emit") true (.form [.sym "array/pop", .sym x] {}) := fun x =>
    .call1 "array/pop" {} (by decide) (by decide) (Or.inl rfl) (.sym x)
  have hemit : ∀ kw : String, TF (fun f => f = "array/pop" ∨ f = "emit") true (.form [.sym "emit", .lit (.kw kw)] {}) := fun kw =>
    .call1 "emit" {} (by decide) (by decide) (Or.inr rfl) (.lit _ trivial)
  have hok : ∀ x : String, CondOK (.form [.sym "array/pop", .sym x] {}) := fun x =>
    .call "array/pop" _ {} (by decide)
  refine Or.inr ⟨_, _, {}, rfl, hok "a", hpop "a", fun x hx => ?_⟩
  simp only [List.mem_cons, List.not_mem_nil, or_false] at hx
  rcases hx with rfl | rfl
  · exact Or.inr ⟨_, _, {}, rfl, hok "b", hpop "b", fun y hy => by
      simp only [List.mem_cons, List.not_mem_nil, or_false] at hy; subst hy; exact hemit "in"⟩
  · exact tfwn_of_tf _ 1 _ (hemit "out")

/-- **The error outcome of a function body** (and of a form in tail position): `fnBody` (`janetc_fn`'s body loop: every form but the
    last dropped, the last in TAIL position) over forms of the fragment `TF G b`, and `Lang/Sem.evalSeq` of the body is an
    ERROR `.err ev epos s'` — raised in a leading statement (non-tail: `compile_correct_error`) or in the last form (tail position:
    an operand raises, or the application raises AT THE TAILCALL, or a statement of a tail `do`, or the condition / taken branch of a
    tail `if` …: the `.err` case of `tf_all`, `Compile/SeqAll.lean`; the code after the failing form — including the `RETURN` — is never
    reached and is append-only / `max`-monotone compile-only: `tf_shape_max`).  Then the VM, started at the body's code,
    reaches a configuration in the world of `s'` whose next step raises `ev` at `epos` (`ErrOK`).  With `compile_correct_fn_body`:
    a function body of the fragment returns what `Lang/Sem` returns and raises what `Lang/Sem` raises. -/
theorem compile_correct_fn_body_error (p : Program) (f0 : Frame) (rest : List Frame) (V : Array Value) (P : List JanetModel.Emit.KConst)
    (hP : P.length < 65536)
    (hK : ∀ i, i < P.length → (p.defs.getD f0.defIdx default).consts.getD i .nil = litOf V (P.getD i .nil))
    (FF : FloatFacts) (G : String → Prop)
    (fuel : Nat) (body : List Expr) (c c' : CState) (sc : Scope) (rs : List Scope) (pool : List JanetModel.Emit.KConst)
    (ps : List (List JanetModel.Emit.KConst)) (n : Nat) (cur : Pos) (env : Env) (s s' : SS) (ev : Value) (epos : Pos)
    (hs : c.scopes = sc :: rs) (hp : c.pools = pool :: ps) (hl : c.lim ≤ 240) (htop : sc.top = false)
    (hm : c.map.length = c.buf.length) (hcur : c.cur = cur) (b : Bool) (hbody : ∀ e, e ∈ body → TF G b e)
    (hcomp : fnBody (cValue fuel) body c = some c') (hsem : evalSeq n cur env body s = .err ev epos s')
    (henv : EnvS G c.scopes env s.boxes.size sc.ra) :
    ErrOK p f0 rest V P c c' rs ps env s s' ev epos := by
  cases body with
  | nil => exact absurd hsem (evalSeq_nil_err n cur env s s' ev epos)
  | cons x t =>
    obtain ⟨slot, H⟩ := fnBody_all p f0 rest V P G b fuel (tf_all p f0 rest V P hP hK FF G b fuel) (x :: t) hbody (by simp)
      c c' sc rs pool ps hs hp hl htop hm henv.lkl hcomp
    have H' := H n cur env s henv
    rw [hsem] at H'
    exact H' rfl hm hcur

/-- **Compile correctness, tail position (calls)**: a call `(f e₁ … eₙ)` of a global core function (`G f`, not `apply`, not a
    special form), operands in the fragment `TF G b` (either fragment; `hm` needed when `if` is among them), compiled with the TAIL flag in a scope that is not the top level
    (`janetc_call` with JANET_FOPTS_TAIL): the operands and the pushes are those of the non-tail case, then JOP_TAILCALL of the
    callee — no target register; the result slot carries JANET_SLOT_RETURNED, so `janetc_value` emits no RETURN after it.
    If `Lang/Sem.eval` gives the call the value `v` and state `s'`, the VM — from any configuration of the activation satisfying
    the run-time invariant, wherever the segment sits — reaches a configuration (pending arguments = the operand values) whose
    NEXT STEP IS `doReturn` OF `v` IN THE WORLD OF `s'`: the activation ends returning what the source means, with the effects
    the source means.  (Tail position of the other forms — RETURN after a literal / symbol / `def`, the tail flag passed into the
    last statement of `do` / the branches of `if`: `compile_correct_tail`.) -/
theorem compile_correct_tail_calls (p : Program) (f0 : Frame) (rest : List Frame) (V : Array Value) (P : List JanetModel.Emit.KConst)
    (hP : P.length < 65536)
    (hK : ∀ i, i < P.length → (p.defs.getD f0.defIdx default).consts.getD i .nil = litOf V (P.getD i .nil))
    (FF : FloatFacts) (G : String → Prop)
    (fuel : Nat) (f : String) (args : List Expr) (pp : Pos) (opts : Fopts) (c c' : CState) (slot : JSlot) (sc : Scope) (rs : List Scope)
    (pool : List JanetModel.Emit.KConst) (ps : List (List JanetModel.Emit.KConst)) (n : Nat) (cur : Pos) (env env' : Env) (s s' : SS) (v : Value)
    (ht : opts.tail = true) (hh : opts.hint = none)
    (hs : c.scopes = sc :: rs) (hp : c.pools = pool :: ps) (hl : c.lim ≤ 240) (htop : sc.top = false)
    (hf : specials.contains f = false) (hna : f ≠ "apply") (hG : G f)
    (b : Bool) (hargs : ∀ a, a ∈ args → TF G b a) (hm : b = true → c.map.length = c.buf.length)
    (hcomp : cValue (fuel + 1) opts (.form (.sym f :: args) pp) c = some (slot, c'))
    (hsem : eval n cur env (.form (.sym f :: args) pp) s = .ok (v, env') s')
    (henv : EnvS G c.scopes env s.boxes.size sc.ra) :
    slot.returned = true ∧
    ∃ (mx : Nat) (more : List JanetModel.Emit.KConst) (seg : List CI) (segm : List Pos),
      c'.buf = c.buf ++ seg ∧ c'.map = c.map ++ segm ∧ c'.pools = (pool ++ more) :: ps ∧ PrefA c.vals c'.vals ∧
      (∃ sc', c'.scopes = sc' :: rs ∧ sc'.ra.max = mx) ∧
      ∀ (k : Cfg), k.w = s.st.world → k.args = #[] → EnvD c.scopes env s k.regs →
        CodeAt (p.defs.getD f0.defIdx default).code k.pc seg → PrefL (pool ++ more) P → PrefA c'.vals V → mx < k.regs.size →
        ∃ (regs' A : Array Value) (pc' : Nat) (wa : World),
          Reach p (inj f0 rest k) (inj f0 rest { regs := regs', pc := pc', args := A, w := wa }) ∧ regs'.size = k.regs.size ∧
          step p (inj f0 rest { regs := regs', pc := pc', args := A, w := wa }) =
            doReturn p (inj f0 rest { regs := regs', pc := pc', args := #[], w := s'.st.world }) v := by
  rw [cValue_call_any fuel opts f args pp c hf, finO_t opts ht hh] at hcomp
  obtain ⟨q, hq⟩ := curAt_eq c pp
  cases hcc : cCall (cValue fuel) opts (.sym f) args (curAt c pp) with
  | none => rw [hcc] at hcomp; simp [finT] at hcomp
  | some res =>
    obtain ⟨ret, c1⟩ := res
    rw [hcc] at hcomp
    obtain ⟨cr, hcr, rfl⟩ := finT_some_inv c.cur ret slot c1 c' hcomp
    have hgl : lookupEnv env f = none := EnvS.gfree henv f hG
    obtain ⟨n2, vs, s_a, _, hsa, happ⟩ := eval_call_inv n cur env env' f (.cfun f) args pp s s' v hf (fun m => eval_sym_global m _ env f s hgl) hsem
    rw [hq] at hcc
    obtain ⟨head, c1a, slots, c2, c3, c4, c5, h1, h2, h3, hO, hf1, hf2⟩ := cCall_inv (cValue fuel) opts (.sym f) args _ c1 ret hcc
    obtain ⟨kf, ra2, ns2, more2, seg2, segm2, ra3, more3, seg3, segm3, hhead, X⟩ :=
      call_pre p f0 rest V P hP hK FF G b b fuel (tf_correct_b p f0 rest V P hP hK FF G b fuel) f args hG hargs { c with cur := q } c1a c2 c3 head
        slots sc rs pool ps n2 (posOf cur pp) env env' s s_a vs hs hp hl htop hm h1 h2 h3 hsa henv
    subst hhead
    rw [freeslot_const c5 (cslot kf) rfl] at hf2
    have hcq : c5 = c1 := Option.some.inj hf2
    subst hcq
    obtain ⟨hem, hsl⟩ := cCallOut_tail ht (by rw [X.hc3]; simp [curTop, htop]) hO
    subst hsl
    obtain ⟨hret, ra', nsyms, more, seg, segm, hc1, b4, _, _, vm⟩ :=
      tail_call_ok p f0 rest V P hP hK G f hna X hl hem hf1 n2 (posOf cur pp) s' v happ
    rw [cReturn_returned c5 _ hret] at hcr
    cases hcr
    exact ⟨hret, ra'.max, more, seg, segm, by rw [hc1], by rw [hc1], by rw [hc1], b4, ⟨_, by rw [hc1], rfl⟩, vm⟩

/-- **Compile correctness, tail position, every form of the fragment `TF G b`**
    (`e ::= literal | symbol | (f e ...) | (do e ...) | (upscope e ...) | (def x e) | (if c e [e])`, `if` when `b = true`) compiled with the TAIL flag in a scope that is not the top
    level — what `janetc_fn` does with the last form of a function body.  `janetc_value` ends with `janetc_return`: nothing when the
    slot is already flagged RETURNED (a tail call; a `do` whose last statement returned), `RETURN_NIL` for the constant nil,
    `LDK t k; RETURN t` for another constant, `RETURN r` for a local; `do` / `upscope` pass the tail flag to their LAST statement
    only (the others are compiled dropped and freed, by the non-tail theorem), `def` compiles its value non-tail and returns its
    slot, a call becomes `TAILCALL`.  Conclusion `TailOK`: the result slot is flagged RETURNED; the compiler state changed as for
    any form (innermost allocator and symbols, pool / code / map appended, allocator monotone); and the VM, started at the form's
    code from any configuration of the activation satisfying the run-time invariant, reaches a configuration whose NEXT STEP IS
    `doReturn` OF THE VALUE `Lang/Sem` GIVES, IN THE WORLD `Lang/Sem` GIVES.  Hypotheses beyond the non-tail theorem: `NR c.scopes`
    (no resolvable name's slot carries the RETURNED flag — true at function entry; preserved by every non-tail compile, proved
    compile-only as `tf_NR_any`; without it the statement is false: `janetc_return` emits nothing for a flagged slot) and the
    map-length invariant.  A reading of `tf_all` (`Compile/SeqAll.lean`: `tf_tail_correct_b`).  `if` in tail position
    (`Compile/SeqTailIf.lean`: `if_tail`): no target register and no JUMP — both branches are compiled with the tail flag and
    return themselves; the condition is compiled non-tail; the constant-condition folding returns from the live branch (the
    `RETURN_NIL` that `janetc_value` appends after it is never reached); the branch not taken through the compile-only shape
    theorem (`tf_shape`). -/
theorem compile_correct_tail (p : Program) (f0 : Frame) (rest : List Frame) (V : Array Value) (P : List JanetModel.Emit.KConst)
    (hP : P.length < 65536)
    (hK : ∀ i, i < P.length → (p.defs.getD f0.defIdx default).consts.getD i .nil = litOf V (P.getD i .nil))
    (FF : FloatFacts) (G : String → Prop)
    (fuel : Nat) (e : Expr) (opts : Fopts) (c c' : CState) (slot : JSlot) (sc : Scope) (rs : List Scope) (pool : List JanetModel.Emit.KConst)
    (ps : List (List JanetModel.Emit.KConst)) (n : Nat) (cur : Pos) (env env' : Env) (s s' : SS) (v : Value)
    (ht : opts.tail = true) (hh : opts.hint = none)
    (hs : c.scopes = sc :: rs) (hp : c.pools = pool :: ps) (hl : c.lim ≤ 240) (htop : sc.top = false)
    (hm : c.map.length = c.buf.length) (b : Bool) (hfrag : TF G b e)
    (hcomp : cValue fuel opts e c = some (slot, c')) (hsem : eval n cur env e s = .ok (v, env') s')
    (henv : EnvS G c.scopes env s.boxes.size sc.ra) (hnr : NR c.scopes) :
    TailOK p f0 rest V P G c c' slot sc rs pool ps env s s' v :=
  tf_tail_correct_b p f0 rest V P hP hK FF G b fuel e opts c c' slot sc rs pool ps n cur env env' s s' v ht hh hs hp hl htop hm hfrag hcomp hsem
    henv hnr

/-- **The body of a function**: `janetc_fn` compiles the body forms in the function scope with `fnBody` — every form but the last
    with the drop flag (its slot is not freed), the last one in TAIL position.  For a non-empty body of forms of `TF G b`: if
    `Lang/Sem.evalSeq` (what `applyFn` runs for a closure's body) gives the value `v` and state `s'`, then the VM, started at the
    body's code from any configuration of the activation satisfying the run-time invariant, reaches a configuration whose next step
    is `doReturn` of `v` in the world of `s'` (`TailOK`; compile-side: code / map / pool appended, allocator monotone).  It is the
    statement a proof about `fn` (closure creation, frame set-up, parameters) will have to connect to. -/
theorem compile_correct_fn_body (p : Program) (f0 : Frame) (rest : List Frame) (V : Array Value) (P : List JanetModel.Emit.KConst)
    (hP : P.length < 65536)
    (hK : ∀ i, i < P.length → (p.defs.getD f0.defIdx default).consts.getD i .nil = litOf V (P.getD i .nil))
    (FF : FloatFacts) (G : String → Prop)
    (fuel : Nat) (body : List Expr) (c c' : CState) (sc : Scope) (rs : List Scope) (pool : List JanetModel.Emit.KConst)
    (ps : List (List JanetModel.Emit.KConst)) (n : Nat) (cur : Pos) (env env' : Env) (s s' : SS) (v : Value)
    (hs : c.scopes = sc :: rs) (hp : c.pools = pool :: ps) (hl : c.lim ≤ 240) (htop : sc.top = false)
    (hm : c.map.length = c.buf.length) (b : Bool) (hbody : ∀ e, e ∈ body → TF G b e) (hne : body ≠ [])
    (hcomp : fnBody (cValue fuel) body c = some c') (hsem : evalSeq n cur env body s = .ok (v, env') s')
    (henv : EnvS G c.scopes env s.boxes.size sc.ra) (hnr : NR c.scopes) :
    ∃ slot, TailOK p f0 rest V P G c c' slot sc rs pool ps env s s' v := by
  obtain ⟨slot, H⟩ := fnBody_all p f0 rest V P G b fuel (tf_all p f0 rest V P hP hK FF G b fuel) body hbody hne
    c c' sc rs pool ps hs hp hl htop hm henv.lkl hcomp
  have H' := H n cur env s henv
  rw [hsem] at H'
  exact ⟨slot, H'.1 rfl hnr⟩

/-- non-vacuity: at the entry of a function body without parameters no name is resolvable, so `NR` holds -/
example (scs : List Scope) (h : ∀ x, lk scs x = none) : NR scs := by
  intro x slot u l hx; rw [h x] at hx; exact absurd hx (by simp)

/-- non-vacuity: the option set of a function body's last form satisfies the hypotheses of `compile_correct_tail_calls` -/
example : ({ tail := true } : Fopts).tail = true ∧ ({ tail := true } : Fopts).hint = none := ⟨rfl, rfl⟩

/-- Compile correctness for the rest of the modelled fragment is NOT proved.  Proved of it: `compile_correct_calls` above, and
    (this theorem) the two atomic cases for every option set without hint / tail: a literal and a global function symbol compile
    to a constant slot, emit no code and leave scopes and buffer untouched.
    Proved elsewhere in this file: `compile_correct_statements` (`do`, `upscope`, `def` of a symbol in a local scope, sequencing, dropped values),
    `compile_correct_nary_calls` (calls of global core functions with any number of operands: PUSH / PUSH_2 / PUSH_3 grouping,
    operands held together), `compile_correct_local_calls` (calls through a local holding a core function),
    `compile_correct_if` (`if`, jump and folding paths), `compile_correct_tail_calls` (a call in tail position: TAILCALL, the next VM step is
    the return of the value), `compile_correct_call_error` / `compile_correct_error` (a raising core function, anywhere inside a form of the
    fragment: same error value at the same position, same effects), `compile_correct_tail` (every form in tail position),
    `compile_correct_fn_body` / `compile_correct_thunk` / `compile_correct_fn_params` (function bodies and their funcdefs),
    `compile_correct_fn_body_error`, `compile_correct_fn_entry`,
    `compile_correct_var`, `compile_correct_set` / `compile_correct_set_nodef` / `compile_correct_set_def` (the `set` statement),
    `compile_correct_while`, `compile_correct_block_loops`, `compile_correct_nested_while`, `compile_correct_loops_any_depth`,
    `compile_correct_block_nested_loops`, `compile_correct_while_break`.
    Missing, exactly: (1) calls whose callee is a closure or a computed head (needs closures in the VM relation); (2) `if` whose
    condition is a `do` / `upscope` / `def` form (its slot can be a constant whose value is known only through the run: needs a
    constant-value induction); (3) `set` as a CONSTRUCTOR of the fragment (the statement `(set x e)` itself is proved: `compile_correct_set`): across a `set` the
    frame clause "every register allocated at entry keeps its content" and the prefix-stability of the boxes are false and must be
    restated relative to the mutable names a form reaches; the invariant needs injectivity of mutable names' registers and of
    boxes carried by `EnvS` (side conditions at ENTRY only: `compile_correct_set_def`; values may contain `def`s of other names); with `set` inside operands the n-ary call needs the side condition that no
    operand is a variable a later operand sets (janet reads operand registers when the call is made); (4) loops whose body assigns; (5) destructuring `def`; (6) `break` in general (`.brk` is a third outcome of every form: an induction like the error outcome; the placeholder
    patch itself is proved for a loop with an unconditional `(break)` statement: `compile_correct_while_break`;
    a single `while` without `break` over the fragment is `compile_correct_while`; loops nested to any depth as loop-body statements:
    `compile_correct_nested_while`, `compile_correct_loops_any_depth`; a loop inside an operand / `if` branch / as a condition: not proved); (7) `fn`: closure CREATION and calls of closures (heap relation between `Lang/Sem`'s lambdas and the VM's closure objects), the
    self name, `&`-parameters, upvalues (`janetc_popscope`'s `keep` reservations are modelled and compared word for word, not
    proved) — what a function's funcdef computes is proved (`compile_correct_thunk`, `compile_correct_fn_params`); (8) the
    top-level scope (`sc.top`: calls are never tail calls there, `def` makes globals); (9) far registers (`lim` > 0xF0: the
    `emit_*_correct` theorems cover the emit layer and are not connected to the compiler model; far-register theorems: `fn_moveargs_correct` /
    `fn_moveargs_allocated` — the entry moves of a function with > 240 parameters deliver every argument in its register).  Every construct outside these theorems stays
    translation-validated: model = real compiler word for word, real bytecode run by the Lean VM = real VM = `Lang/Sem`. -/
theorem compile_correct_partial (fuel : Nat) (opts : Fopts) (c : CState) (hopts : opts.tail = false ∧ opts.hint = none) :
    (∀ v : Value, (match v with | .nil | .bool _ | .num _ | .str _ | .kw _ | .sym _ | .cfun _ => True | _ => False) →
        cValue (fuel + 1) opts (.lit v) c = some ((constSlot c v).1, { (constSlot c v).2 with cur := c.cur }) ∧
        ((constSlot c v).2).buf = c.buf ∧ ((constSlot c v).2).scopes = c.scopes ∧ ((constSlot c v).1).cflag = true) ∧
    (∀ x : String, searchScopes x c.scopes 0 false true = none → c.globs x = some .cfun →
        cValue (fuel + 1) opts (.sym x) c = some ((constSlot c (.cfun x)).1, { (constSlot c (.cfun x)).2 with cur := c.cur })) := by
  obtain ⟨ht, hh⟩ := hopts
  refine ⟨fun v hv => ?_, fun x hs hg => ?_⟩
  · have hb : ((constSlot c v).2).buf = c.buf ∧ ((constSlot c v).2).scopes = c.scopes ∧ ((constSlot c v).1).cflag = true := by
      unfold constSlot kOf
      cases v <;> simp [cslot] <;> (repeat' split) <;> simp_all
    refine ⟨?_, hb⟩
    cases v <;> simp_all [cValue]
  · simp [cValue, resolve, hs, globalSlot, hg, ht, hh]

end Compile

/-! ## Operand-width bounds

Every place where compile.c / specials.c / emit.c / cfuns.c select a short instruction form or accept a value for an
operand field by comparing with a literal.  The numbers are `Gen/Compile.lean`'s: the literal AND the comparison
operator as written in the current source (`i <= 0x100` regenerates the exclusive bound 257), and the width of the
field from the cast / shift of the same statement.  The obligations say that what the Lean VM's decoder (`fC`, `fCS`,
`fES` of `Bytecode/Exec`) reads back from the instruction word is the value the compiler meant. -/
section OperandBounds
open JanetModel.Bytecode.Exec JanetModel.Gen.Compile

/-- `destructure()`: every pattern index `i` for which the compiler chooses `GET_INDEX dest src (uint8_t) i` is read back
by the VM as `i` (with the source's bound `i < 0x100`; an inclusive bound puts index 256 into the 8-bit field as 0). -/
theorem destructure_short_index_fits (op a b i : Nat) (hop : op < 256) (ha : a < 256) (hb : b < 256)
    (hi : i < destructureShortIndexBound) :
    i % 2 ^ destructureShortIndexBits = i ∧ destructureShortIndexBits = emit2sRestBits ∧
    fC (op + a * 256 + b * 65536 + (i % 2 ^ destructureShortIndexBits) * 16777216) = i := by
  have h1 : destructureShortIndexBound ≤ 2 ^ destructureShortIndexBits := by decide
  have h2 : (2 : Nat) ^ destructureShortIndexBits = 256 := by decide
  have h3 : i < 256 := by omega
  refine ⟨by rw [h2]; omega, by decide, ?_⟩
  rw [h2]; unfold fC; omega

/-- the short form is chosen for EVERY index the field can carry (tightness; not needed for correctness) -/
theorem destructure_short_index_tight : destructureShortIndexBound = 2 ^ destructureShortIndexBits := by decide

/-- `can_be_imm` (cfuns.c): an integer accepted for an `*_IMMEDIATE` form is read back by the VM (`fCS`, sign-extended
8-bit C field) unchanged. -/
theorem imm8_fits (op a b : Nat) (z : Int) (hop : op < 256) (ha : a < 256) (hb : b < 256) (hlo : immMin ≤ z) (hhi : z ≤ immMax) :
    fCS (op + a * 256 + b * 65536 + (z % 2 ^ immBits).toNat * 16777216) = z := by
  have hz : -128 ≤ z ∧ z ≤ 127 := ⟨hlo, hhi⟩
  have hc : fC (op + a * 256 + b * 65536 + (z % 2 ^ immBits).toNat * 16777216) = Emit.imod z (2 ^ 8) := by
    unfold fC Emit.imod; rw [show ((2 : Int) ^ immBits) = 256 by decide]; omega
  unfold fCS
  rw [hc]
  exact Compile.sext_imod 8 (by decide) z (by simp; omega) (by simp; omega)

/-- `janetc_loadconst`: a number accepted for `LOAD_INTEGER` is read back by the VM (`fES`, sign-extended 16-bit field)
unchanged. -/
theorem load_integer_fits (op a : Nat) (z : Int) (hop : op < 256) (ha : a < 256) (hlo : loadIntMin ≤ z) (hhi : z ≤ loadIntMax) :
    fES (op + a * 256 + (z % 2 ^ loadIntBits).toNat * 65536) = z := by
  have hz : -32768 ≤ z ∧ z ≤ 32767 := ⟨hlo, hhi⟩
  have hc : fE (op + a * 256 + (z % 2 ^ loadIntBits).toNat * 65536) = Emit.imod z (2 ^ 16) := by
    unfold fE Emit.imod; rw [show ((2 : Int) ^ loadIntBits) = 65536 by decide]; omega
  unfold fES
  rw [hc]
  exact Compile.sext_imod 16 (by decide) z (by simp; omega) (by simp; omega)

/-- the remaining bounds: a register used as an 8-bit operand without a temporary, a hinted target, a captured local's
index, a far register, a constant index, and the jump offsets accepted by `janetc_emit_sl` / `janetc_if` /
`janetc_while` fit the fields (8 / 16 bits unsigned, 16 / 24 bits signed) they are stored in. -/
theorem operand_bounds_fit_fields :
    nearSlotBound ≤ 2 ^ 8 ∧ nearHintBound ≤ nearSlotBound ∧ upvalueIndexBound ≤ 2 ^ 8 ∧ farRegisterBound ≤ 2 ^ 16 ∧
    constIndexBound ≤ 2 ^ 16 ∧
    (-(2 ^ 15 : Int) ≤ labelJumpMin ∧ labelJumpMax < 2 ^ 15) ∧ ifCondJumpMax < 2 ^ 15 ∧ whileCondJumpMax < 2 ^ 15 ∧
    ifJumpMax < 2 ^ 23 ∧ whileJumpMax < 2 ^ 23 := by decide

/-- the longest jump `janetc_while` writes is that of a `break` at the top of the loop, `labeld − labelwt` (one more than the jump
back `labeljt − labelwt`): the bound regenerated from the range check of the current source — the literal, plus one when the check is
on the jump back — fits the VM's signed 24-bit field.  (With the check on the jump back, `labeljt − labelwt > 0x7FFFFF`, the regenerated bound is 0x800000 and this fails:
`compile_correct_while_break`'s hypothesis `hrg`; corpus scenario `bound-while-true-break-8388606`.) -/
theorem while_break_jump_fits : whileBreakJumpMax < 2 ^ 23 ∧ whileJumpMax ≤ whileBreakJumpMax := by decide

/-- non-vacuity: index 255 is carried by the short form and read back as 255; 127 / -128 and 32767 / -32768 likewise -/
example : fC (0x1D + 3 * 256 + 4 * 65536 + (255 % 2 ^ destructureShortIndexBits) * 16777216) = 255 :=
  (destructure_short_index_fits 0x1D 3 4 255 (by decide) (by decide) (by decide) (by decide)).2.2
example : fCS (7 + 1 * 256 + 2 * 65536 + ((-128 : Int) % 2 ^ immBits).toNat * 16777216) = -128 :=
  imm8_fits 7 1 2 (-128) (by decide) (by decide) (by decide) (by decide) (by decide)
example : fES (9 + 1 * 256 + ((32767 : Int) % 2 ^ loadIntBits).toNat * 65536) = 32767 :=
  load_integer_fits 9 1 32767 (by decide) (by decide) (by decide) (by decide)
/-- the defect the bound guards against: index 256 in the 8-bit field is read back as 0 -/
example : fC (0x1D + 3 * 256 + 4 * 65536 + (256 % 2 ^ 8) * 16777216) = 0 := by decide

end OperandBounds

/-! ## Functions with more than 240 parameters: `janetc_fn_moveargs`

The VM puts argument k in stack slot k; `janetc_fn` allocates every parameter with `janetc_farslot`, and the allocator never
hands out the temporaries 0xF0–0xFF, so parameter k ≥ 0xF0 lives in register k + 16.  `Compile/Model.lean` mirrors the entry
moves (`fnMoveArgs`, `moveArgsCode`; model = real compiler word for word on the `many_params` family of compgen.py).  These are
the theorems about FAR registers (item (4) of `compile_correct_partial`): the emitted moves, run on the abstract machine of
Emit/Machine.lean (MOVE_NEAR / MOVE_FAR as `Bytecode/Exec` executes them: `vm_executes_emit_words`), deliver every argument in its
parameter's register — for EVERY number of parameters. -/
section MoveArgs
open JanetModel.Compile

/-- **The entry moves are correct** (all n, all register assignments the allocator can produce): `n > 0xF0` stack arguments,
    `reg k` = register of argument k with `reg k ≥ 0x100`, `reg k > k`, distinct registers; for `n > 0x100` the spare register
    `park` is no argument's stack slot and no argument's register.  After `moveArgsCode n reg park` — highest argument first;
    arguments ≥ 0x100 through temporary 0xFF, whose own argument is parked meanwhile — the register of every argument k ≥ 0xF0
    holds what stack slot k held at entry, registers below 0xF0 are unchanged, and nothing else of the machine changes. -/
theorem fn_moveargs_correct (lit : KConst → β) (F : Nat → List (RV β) → RV β) (m : M β) (n : Nat) (reg : Nat → Nat) (park : Nat)
    (hn : 0xF0 < n)
    (hge : ∀ k, 0xF0 ≤ k → k < n → 0x100 ≤ reg k ∧ k < reg k)
    (hinj : ∀ j k, 0xF0 ≤ j → j < n → 0xF0 ≤ k → k < n → reg j = reg k → j = k)
    (hpark : 0x100 < n → n ≤ park ∧ ∀ k, 0xF0 ≤ k → k < n → reg k ≠ park) :
    (∀ k, 0xF0 ≤ k → k < n → (run lit F m (moveArgsCode n reg park)).regs (reg k) = m.regs k) ∧
    (∀ r, r < 0xF0 → (run lit F m (moveArgsCode n reg park)).regs r = m.regs r) ∧
    SameRest (run lit F m (moveArgsCode n reg park)) m :=
  moveArgs_run lit F m n reg park hge hinj hpark

/-- **… with the registers the allocator gives** (`argReg k` = k below the temporaries, k + 16 from the 241st parameter on —
    `alloc1_param_far`: `janetc_regalloc_1` on the allocator the parameter loop has built returns k + 16 — and the spare register
    n + 16): every parameter's register holds its argument.  Compiler side: `fnMoveArgs` appends exactly `moveArgsCode`
    (`fnMoveArgs_code`) and changes nothing for ≤ 0xF0 parameters (`fnMoveArgs_near`: the case of `compile_correct_fn_params`). -/
theorem fn_moveargs_allocated (lit : KConst → β) (F : Nat → List (RV β) → RV β) (m : M β) (n : Nat) (hn : 0xF0 < n) :
    ((∀ k, k < n → (run lit F m (moveArgsCode n argReg (n + 16))).regs (argReg k) = m.regs k) ∧
      SameRest (run lit F m (moveArgsCode n argReg (n + 16))) m) ∧
    (∀ (ra : RA) (k : Nat), 0xF0 ≤ k → k + 16 < searchFuel →
      (∀ r, ra.alloc r = decide (r < 0xF0 ∨ (0x100 ≤ r ∧ r < k + 16))) → ra.alloc1.1 = argReg k) ∧
    (∀ (c c' : CState) (argregs : List Nat), 0xF0 < argregs.length → fnMoveArgs c argregs = some c' →
      ∃ park, c'.buf = c.buf ++ (moveArgsCode argregs.length (fun k => argregs.getD k 0) park).map CI.mi) ∧
    (∀ (c : CState) (argregs : List Nat), argregs.length ≤ 0xF0 → fnMoveArgs c argregs = some c) :=
  ⟨moveArgs_alloc lit F m n hn, fun ra k h1 h2 h3 => alloc1_param_far ra k h1 h2 h3,
   fun c c' a h1 h2 => (fnMoveArgs_code c c' a h1 h2).imp (fun _ h => h.2), fun c a h => fnMoveArgs_near c a h⟩

/-- **The function-entry code of the model compiler, any number of symbol parameters > 0xF0** (the two steps of `cValue`'s `fn`
    case after `janetc_scope`: parameter loop, `janetc_fn_moveargs`): on the fresh function scope the loop names parameter k in
    register `argReg k` (`params_loop_regs`: the whole loop, by `alloc1_par` — first fit skips 0xF0–0xFF), the code appended is
    `moveArgsCode n argReg (n + 16)` (the spare register is n + 16), and that code, run from the frame the VM sets up (argument k
    in stack slot k), leaves argument k in the register the scope names parameter k with — every k < n; nothing else of the
    machine changes.  The hypotheses are satisfiable for every n < 65503 (`fn_entry_total`: both steps succeed).  Compile/MoveArgsLoop.lean. -/
theorem compile_correct_fn_entry (lit : KConst → β) (F : Nat → List (RV β) → RV β) (m : M β)
    (c2 c3p c3 : CState) (sc : Scope) (rs : List Scope) (names : List String)
    (hs : c2.scopes = sc :: rs) (hfresh : ∀ r, sc.ra.alloc r = false) (hsy : sc.syms = [])
    (hn : 0xF0 < names.length) (hfu : names.length + 33 < searchFuel)
    (hpar : names.foldlM (fun (cc : CState) nm => do let (sl, cc') ← farslot cc; pure (nameslot cc' nm sl)) c2 = some c3p)
    (hmv : fnMoveArgs c3p ((c3p.scopes.headD default).syms.map (fun p => slotReg p.slot)) = some c3) :
    (∃ ra3, c3p.scopes = { sc with ra := ra3, syms := parSyms names 0 } :: rs) ∧
    c3.buf = c2.buf ++ (moveArgsCode names.length argReg (names.length + 16)).map CI.mi ∧
    (∀ k, k < names.length →
      (run lit F m (moveArgsCode names.length argReg (names.length + 16))).regs (argReg k) = m.regs k) ∧
    SameRest (run lit F m (moveArgsCode names.length argReg (names.length + 16))) m :=
  let h := fn_entry_code c2 c3p c3 sc rs names hs hfresh hsy hn hfu hpar hmv
  let r := moveArgs_alloc lit F m names.length hn
  ⟨h.1, h.2, r.1, r.2⟩

/-- non-vacuity: for 300 parameters both compile steps succeed on the scope `janetc_fn` pushes (`fn_entry_total`), and that scope
    satisfies `hs` / `hfresh` / `hsy` -/
example : ∃ c3p c3, (List.replicate 300 "p").foldlM (fun (cc : CState) nm => do let (sl, cc') ← farslot cc; pure (nameslot cc' nm sl))
      (pushScope {} true false false false) = some c3p ∧
    fnMoveArgs c3p ((c3p.scopes.headD default).syms.map (fun p => slotReg p.slot)) = some c3 :=
  fn_entry_total (List.replicate 300 "p") (by rw [List.length_replicate]; decide) (by rw [List.length_replicate]; decide)
example : ∃ sc, (pushScope ({} : CState) true false false false).scopes = [sc] ∧ (∀ r, sc.ra.alloc r = false) ∧ sc.syms = [] :=
  ⟨_, rfl, fun _ => rfl, rfl⟩

/-- non-vacuity: 300 parameters — parameter 240 (register 256) receives the argument of stack slot 240, parameter 299 (register
    315) that of slot 299, on a machine whose registers are all different -/
example : (run (fun _ => 0) (fun _ _ => .v 0) ⟨fun r => .v r, fun _ _ => .v 0, fun _ => .v 0, [], true⟩
    (moveArgsCode 300 argReg 316)).regs 256 = RV.v 240 := by
  have h := (fn_moveargs_allocated (β := Nat) (fun _ => 0) (fun _ _ => .v 0) ⟨fun r => .v r, fun _ _ => .v 0, fun _ => .v 0, [], true⟩ 300
    (by decide)).1.1 240 (by decide)
  simpa [argReg] using h
/-- the defect fix 71c4f8f removed: WITHOUT entry moves the register of parameter 240 holds the argument of stack slot 256 -/
example : (run (fun _ => 0) (fun _ _ => .v 0) (⟨fun r => .v r, fun _ _ => .v 0, fun _ => .v 0, [], true⟩ : M Nat) []).regs (argReg 240)
    = RV.v 256 := by simp [run, argReg]
/-- the shape of the code for 258 parameters: park 0xFF, two arguments through 0xFF, fifteen direct moves, unpark -/
example : moveArgsCode 258 argReg 274 =
    [.movf 0xFF 274, .movn 0xFF 257, .movf 0xFF 273, .movn 0xFF 256, .movf 0xFF 272] ++
    (List.range 15).map (fun j => MI.movf (0xFE - j) (0xFE - j + 16)) ++ [.movn 0xFF 274, .movf 0xFF 271] := by decide

end MoveArgs

end JanetModel.Props.C02
