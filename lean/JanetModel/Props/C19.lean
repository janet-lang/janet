/- C19: arbitrarily deep nesting or recursion yields an error, not a crash.

   Theorems for every graph / certificate / event sequence, and the per-run obligations on the tables regenerated from the
   current source (kernel evaluation), section by section.
   Tested, not proved (checks/C19.py): that the hand models follow the C (driver jm_c19 vs fiber.c).  Assumed by
   `stack_bytes_bounded*`: the per-class counts of live guard frames (`hcount`) - for the pool classes that is what `Nest.lean`
   models; for `marsh` / `funcdef-nesting` one live counter instance per chain. -/
import JanetModel.Depth.Lemmas
import JanetModel.Depth.TailLemmas
import JanetModel.Depth.Iterative
import JanetModel.Depth.StackLemmas
import JanetModel.Depth.Nest
import JanetModel.Depth.StackDag
import JanetModel.Gen.Depth
import JanetModel.Depth.GuardCert
import JanetModel.Depth.FiberStackLemmas
import JanetModel.Depth.TableEval
import JanetModel.Gen.DepthGuard
import JanetModel.Gen.DepthBalance
import JanetModel.Gen.DepthStack
namespace JanetModel.Props.C19
open JanetModel.Depth

/-- every run of consecutive non-guard frames of a call chain is at most |V| long -/
theorem bounded_depth_runs (G : CG) (rank : List Nat) (hok : rankOK G rank = true)
    (pre run post : List Nat) (hc : IsChain G (pre ++ run ++ post))
    (hng : ∀ v ∈ run, isGuard G v = false) (hin : ∀ v ∈ run, v < G.n) : run.length ≤ G.n := by
  have h1 : IsChain G (pre ++ run) := IsChain.of_append_left (pre ++ run) post hc
  exact nonguard_run_le hok run (IsChain.of_append_right pre run h1) hng hin

/-- With a valid rank certificate, a call chain that holds at most `L` guard frames (a guard
    refuses to recurse once its counter reaches the limit) is at most `(L+1)·(|V|+1)` frames deep. -/
theorem bounded_depth (G : CG) (rank : List Nat) (hok : rankOK G rank = true) (L : Nat)
    (chain : List Nat) (hc : IsChain G chain) (hin : ∀ v ∈ chain, v < G.n) (hL : guardCount G chain ≤ L) :
    chain.length ≤ (L + 1) * (G.n + 1) := by
  have h := chain_length_le hok chain hc hin
  have hmono : guardCount G chain * (G.n + 1) ≤ L * (G.n + 1) := Nat.mul_le_mul_right _ hL
  rw [Nat.add_mul]
  omega

/-- completeness of a failing check: a closed chain of non-guard functions refutes every rank -/
theorem unguarded_cycle_refutes_every_rank (G : CG) (a : Nat) (mid : List Nat)
    (hc : IsChain G (a :: (mid ++ [a]))) (hng : ∀ v ∈ a :: (mid ++ [a]), isGuard G v = false) :
    ∀ rank : List Nat, rankOK G rank = false :=
  unguarded_cycle_no_rank a mid hc hng

/-- compare/equals: the work-list loop decides structural equality for ALL values (any nesting depth); each turn is
    the non-recursive `eqStep`, the only unbounded storage is the work list (heap) -/
theorem traversal_uses_heap_stack (a b : V) : eqLoop (a.size) [(a, b)] = some (decide (a = b)) := by
  have h := eqLoop_correct a.size [(a, b)] (by simp [workSize])
  simpa using h

/-- parser: `n+1` opening delimiters put `n+1` entries on the explicit state stack, and closing them yields the
    value nested `n+1` deep - every input token is one non-recursive `pstep` -/
theorem parser_stack_heap (n k : Nat) (root : List V) :
    (pconsume (some [root]) (List.replicate (n + 1) Tok.open_)) = some (List.replicate (n + 1) [] ++ [root]) ∧
    pconsume (some [root]) (List.replicate (n + 1) Tok.open_ ++ [Tok.atom k] ++ List.replicate (n + 1) Tok.close)
      = some [root ++ [wrapL n [V.atom k]]] := by
  refine ⟨pconsume_opens (n + 1) [root], ?_⟩
  rw [pconsume_append, pconsume_append, pconsume_opens]
  have : pconsume (some (List.replicate (n + 1) [] ++ [root])) [Tok.atom k]
      = some ([V.atom k] :: (List.replicate n [] ++ [root])) := by
    simp [pconsume, pstep, List.replicate_succ]
  rw [this]
  exact pconsume_closes n [V.atom k] root

/-- marker: recursion is on the depth counter (C depth ≤ JANET_RECURSION_GUARD by construction); when it runs
    out the value is kept on the root list, never dropped -/
theorem gc_spill_keeps (succ : Nat → List Nat) (d x : Nat) (s : MarkState) :
    x ∈ (markD succ d x s).marked ∨ x ∈ (markD succ d x s).spill :=
  markD_marks_or_spills succ d x s

/-- tail calls of any depth run in constant fiber stack -/
theorem tailcall_constant_stack (fr0 S A cap0 : Nat) (calls : List (Nat × Fn)) (f f' : Fiber)
    (hinv : TailInv fr0 S A cap0 f) (hall : ∀ c ∈ calls, c.1 ≤ A ∧ c.2.slotcount ≤ S ∧ c.2.arity ≤ S)
    (h : tailLoop f calls = some f') :
    f'.frame = fr0 ∧ f'.stacktop ≤ fr0 + S + FRAME ∧
      (f'.capacity ≤ cap0 ∨ f'.capacity ≤ 2 * (fr0 + 2 * S + A + FRAME + 1)) := by
  have r := tailLoop_inv calls f f' hinv hall h
  exact ⟨r.frame_eq, r.top_le, r.cap_le⟩

/-- contrast: `d` nested NON-tail calls need at least `FRAME·d` more fiber slots -/
theorem nontail_calls_grow (calls : List (Nat × Fn)) (f f' : Fiber) (h : callLoop f calls = some f') :
    f.stackstart + FRAME * calls.length ≤ f'.stackstart :=
  callLoop_grows calls f f' h

/-- non-vacuity: a tail loop of 3 calls from a concrete fiber satisfies the hypotheses -/
example : ∃ f', tailLoop ⟨10, 20, 20, 64⟩
    [(2, ⟨6, 2, 2, 2, false⟩), (1, ⟨9, 1, 1, 1, false⟩), (3, ⟨4, 1, 1, 100, true⟩)] = some f' ∧ f'.frame = 10 := by
  exact ⟨_, rfl, rfl⟩

example : TailInv 10 10 3 64 ⟨10, 20, 20, 64⟩ := ⟨rfl, rfl, by decide, Or.inl (Nat.le_refl _)⟩

/-- non-vacuity of `bounded_depth`: a 3-node graph with one guard has a valid rank, and an unguarded 2-cycle has none -/
example : rankOK { n := 3, edges := [(0, 1), (1, 2), (2, 0)], guard := [true, false, false] } [0, 1, 0] = true := by decide
example : rankOK { n := 2, edges := [(0, 1), (1, 0)], guard := [false, false] } [1, 0] = false := by decide

/-- per-run obligation: on the call graph regenerated from the current source, every call cycle passes through a
    guard (the translator's rank certificate is valid).  Kernel evaluation. -/
theorem cg_rank_ok : rankOK JanetModel.Gen.Depth.cg JanetModel.Gen.Depth.rank = true := by
  unfold rankOK edgeOK nodeOK isGuard rk
  simp only [TableEval.getD_eq_sharedDrop]
  decide +kernel

/-- per-run obligation: every path through the functions that charge / release a depth counter (peg down1/up1,
    peg builder depth, compiler recursion_guard, gc depth, janet_vm.stackn) releases no more than it charged, and exactly
    what it charged when it ends normally.  Kernel evaluation over the path classes regenerated from the source. -/
theorem cg_counters_balanced : balanced JanetModel.Gen.Depth.balancePaths = true := by decide +kernel

/-- per-run obligation: marshal / unmarshal charge their depth argument (`flags + 1`) on every call cycle - the
    graph of NON-charging calls among the (un)marshal functions is acyclic (rank certificate, no guards).  The depth is
    followed through the `flags` field of the context handed to abstract-type hooks; a call whose depth operand is not
    derived from the caller's own depth (the count restarts) is a self-loop of the caller in this graph. -/
theorem cg_depth_arg_charged :
    rankOK JanetModel.Gen.Depth.depthArgCg JanetModel.Gen.Depth.depthArgRank = true := by decide +kernel

/-- consequence for every sequence of completed paths: never more given back than taken (for all lists) -/
theorem counters_no_excess_release (ps : List PathCount) (h : balanced ps = true) :
    (ps.map (·.releases)).sum ≤ (ps.map (·.charges)).sum :=
  balanced_no_excess_release ps h

example : balanced [⟨"peg", "peg_rule", "RULE_IFNOT:goto", false, 1, 2⟩] = false := by decide
example : balanced [⟨"peg", "peg_rule", "RULE_IFNOT:goto", false, 1, 1⟩, ⟨"c", "janetc_value", "entry:error", true, 1, 0⟩] = true := by decide

theorem cg_tables_consistent :
    JanetModel.Gen.Depth.names.length = JanetModel.Gen.Depth.nV ∧
    JanetModel.Gen.Depth.guard.length = JanetModel.Gen.Depth.nV ∧
    JanetModel.Gen.Depth.rank.length = JanetModel.Gen.Depth.nV := by decide +kernel


/-- every certificate, every path: with a valid certificate each live CFG path from the function's entry to a block
    with a recursive call takes the pass edge of a check (a conditional branch on `icmp PRED counter, K` that
    `refuseOnTrue` reads as a limit test, the other side refusing).  That `K` is within the limit is `limitOK`, evaluated
    per run inside `cg_guards_certified`, not part of this theorem. -/
theorem guard_dominates_recursive_calls (c : GuardCert) (hok : certOK c = true) (p : List Nat) (t : Nat)
    (hlive : LivePath c (0 :: p)) (hlast : t ∈ 0 :: p) (ht : t ∈ c.targets) :
    ∃ e ∈ pairs (0 :: p), e ∈ passEdges c ∧
      ∃ ch ∈ c.checks, e.1 = ch.block ∧ (refuseOnTrue c.kind ch.pred ch.k).isSome := by
  obtain ⟨e, he, hpe⟩ := guard_dominates c hok p t hlive hlast ht
  exact ⟨e, he, hpe, passEdge_from_check c e hpe⟩

/-- non-vacuity: `if (depth == 0) panic; rec(depth - 1)` - block 0 tests, 1 refuses, 2 recurses; without the test
    (no checks) the same CFG has no valid certificate whatever `safe` says -/
def exCert (checks : List GCheck) (safe : Nat) : GuardCert :=
  { fn := "f", kind := "counter", counter := "param0", charge := "arg-1", countdown := false, inits := [], n := 3,
    cfg := [(0, 1), (0, 2)], checks := checks, targets := [2], stops := 0, stopCallees := [], safe := safe }
example : certOK (exCert [⟨0, "eq", 0, 1, 2⟩] 0b011) = true := by decide
example : certOK (exCert [] 0b011) = false := by decide
example : certOK (exCert [] 0b001) = false := by decide
example : certOK (exCert [⟨0, "eq", 0, 1, 2⟩] 0b111) = false := by decide
/-- a compare that is not a limit test (`depth == 7`) gives no pass edge -/
example : refuseOnTrue "counter" "eq" 7 = none := by decide
example : refuseOnTrue "counter" "sge" 1024 = some true := by decide

/-- functions of the current tree whose guard certificate is valid (CFG claim, limit, stops justified, helper) -/
def certifiedGuards : List String :=
  certified JanetModel.Gen.DepthGuard.recursionGuard JanetModel.Gen.DepthGuard.noreturnAttr
    JanetModel.Gen.DepthGuard.noreturnCerts JanetModel.Gen.DepthGuard.certs

/-- The certificates of the current tree are evaluated once, for the two obligations that read them: the kernel remembers `certOK c`
    and `guardOK … c` for a certificate it has met. -/
theorem cg_certified_eval :
    guardsCertified JanetModel.Gen.Depth.names JanetModel.Gen.Depth.guard certifiedGuards
      JanetModel.Gen.DepthGuard.bounded = true ∧
    ["janet_asm1", "unmarshal_one_def", "janetc_value"].all (fun w => certifiedGuards.contains w) = true ∧
    JanetModel.Gen.DepthGuard.certs.any (fun h => h.fn == "janet_check_can_resume" && h.kind == "helper" && certOK h &&
      limitOK JanetModel.Gen.DepthGuard.recursionGuard h && !h.checks.isEmpty && !h.targets.isEmpty) = true := by
  decide +kernel

/-- per-run obligation: every guard mark of the call graph (`Gen.Depth.guard`, proposed by source idiom) is borne
    out by a valid control-flow certificate extracted from the IR of the current tree, or is one of the written
    exemptions; the compare constants / initial values are within JANET_RECURSION_GUARD. -/
theorem cg_guards_certified :
    guardsCertified JanetModel.Gen.Depth.names JanetModel.Gen.Depth.guard certifiedGuards
      JanetModel.Gen.DepthGuard.bounded = true ∧
    JanetModel.Gen.DepthGuard.recursionGuard = JanetModel.Gen.Depth.recursionGuard :=
  ⟨cg_certified_eval.1, rfl⟩

/-- what the obligation gives for each certified function (consequence, all paths) -/
theorem cg_certified_dominates (c : GuardCert) (_hc : c ∈ JanetModel.Gen.DepthGuard.certs)
    (hg : guardOK JanetModel.Gen.DepthGuard.recursionGuard JanetModel.Gen.DepthGuard.noreturnAttr
      JanetModel.Gen.DepthGuard.noreturnCerts JanetModel.Gen.DepthGuard.certs c = true)
    (p : List Nat) (t : Nat) (hlive : LivePath c (0 :: p)) (hlast : t ∈ 0 :: p) (ht : t ∈ c.targets) :
    ∃ e ∈ pairs (0 :: p), e ∈ passEdges c := by
  exact guard_dominates c (guardOK_certOK hg).1 p t hlive hlast ht

/-- the functions allowed to assign `def->defs` (the reason janet_mark_funcdef / janet_disasm_defs are bounded):
    the three creators of nested funcdefs, each under a depth guard, and the allocator (stores NULL) -/
def defsWritersAllowed : List String := ["janet_asm1", "janet_funcdef_alloc", "janetc_pop_funcdef", "unmarshal_one_def"]

/-- per-run obligation: the domination facts behind three written exemptions hold on the IR of the current tree:
    (1) in EVERY caller of janet_continue_no_check the call is dominated by the pass edge of a check of
        janet_check_can_resume's result, and that helper cannot return 0 without passing the stackn test;
    (2) doarg_1's self call is dominated by `argtype == T` and passes constants S ≠ T (depth ≤ 2);
    (3) only the allowed functions store to JanetFuncDef.defs, and the three creators are certified guards. -/
theorem cg_exemptions_certified :
    (JanetModel.Gen.DepthGuard.noCheckCallers.all (fun nm =>
      JanetModel.Gen.DepthGuard.noCheckCerts.any (fun c => c.fn == nm && c.kind == "via" && certOK c &&
        !c.checks.isEmpty && !c.targets.isEmpty &&
        stopsJustified JanetModel.Gen.DepthGuard.noreturnAttr JanetModel.Gen.DepthGuard.noreturnCerts c)) &&
     !JanetModel.Gen.DepthGuard.noCheckCallers.isEmpty &&
     JanetModel.Gen.DepthGuard.certs.any (fun h => h.fn == "janet_check_can_resume" && h.kind == "helper" && certOK h &&
        limitOK JanetModel.Gen.DepthGuard.recursionGuard h && !h.checks.isEmpty && !h.targets.isEmpty)) = true ∧
    (!JanetModel.Gen.DepthGuard.doargCerts.isEmpty &&
     JanetModel.Gen.DepthGuard.doargCerts.all (fun c => c.fn == "doarg_1" && c.kind == "argconst" && certOK c &&
        !c.targets.isEmpty &&
        c.checks.all (fun ch => JanetModel.Gen.DepthGuard.doargSelfConsts.all (fun s => s != ch.k))) &&
     !JanetModel.Gen.DepthGuard.doargSelfConsts.isEmpty) = true ∧
    (JanetModel.Gen.DepthGuard.defsWriters.all (fun w => defsWritersAllowed.contains w) &&
     ["janet_asm1", "unmarshal_one_def", "janetc_value"].all (fun w => certifiedGuards.contains w)) = true := by
  rw [cg_certified_eval.2.1, cg_certified_eval.2.2]
  decide +kernel



/-- every balance certificate, EVERY live path from the function's entry (loops included): the label at the end of
    the path is at most the net number of charges taken on it and never negative - on no path, at no point, has the
    counter been released more often than it was charged (at a `ret` block, whose label `balOK` checks to be 0, this
    reads `0 ≤ pathDelta`) -/
theorem counter_balanced_on_every_path (c : BalCert) (hok : balOK c = true) (p : List Nat) (hn : 0 < c.n)
    (hlive : LiveB c (0 :: p)) :
    lvl c (lastOf 0 p) ≤ pathDelta c (0 :: p) ∧ 0 ≤ lvl c (lastOf 0 p) := by
  have h := bal_path_le c hok p 0 hn (balOK_entry hok).1 hlive
  rw [(balOK_entry hok).2] at h
  exact ⟨by have := h.1; omega, h.2.1⟩

/-- charge-keeping exits that are accepted: janetc_value returns early on a recorded compile error / "recursed too
    deeply" / macro-expansion failure with `recursion_guard` still decremented (janet_compile re-initialises it; a kept
    charge can only make the guard fire earlier) -/
def leaksAllowed : List (String × Nat) := [("janetc_value", 4)]

/-- recursive calls made without a charge of the function's own counter that are accepted: peg_rule calls the function /
    C function of `cmt`, `replace` with the depth it has used handed to janet_vm.stackn instead (obligation
    `cg_reentry_shared`; janet_call tests stackn itself) -/
def unchargedAllowed : List (String × Nat) := [("peg_rule", 2)]

/-- per-run obligation: for every guard of the current tree whose counter is a memory location changed by ±1 stores
    (janet_call, janetc_value, destructure_nested, janet_mark, peg_rule, peg_compile1, janet_pretty_one) the block
    labelling extracted from the IR is consistent on every edge, every recursive call is made with a charge taken except
    the written `unchargedAllowed`, the number of charge-keeping exits is within `leaksAllowed`, and no such guard lacks
    a certificate -/
theorem cg_counters_balanced_ir :
    JanetModel.Gen.DepthBalance.certs.all (fun c => balOK c &&
      Nat.ble (leakCount c) ((leaksAllowed.find? (fun p => p.1 == c.fn)).map (·.2) |>.getD 0) &&
      Nat.ble (unchargedCount c) ((unchargedAllowed.find? (fun p => p.1 == c.fn)).map (·.2) |>.getD 0)) = true ∧
    (JanetModel.Gen.DepthGuard.certs.filter (fun c => c.kind == "counter" && c.charge.startsWith "store" &&
        !c.counter.startsWith "param")).all
      (fun c => JanetModel.Gen.DepthBalance.certs.any (fun b => b.fn == c.fn && b.counter == c.counter && !b.calls.isEmpty)) = true := by
  unfold balOK balEdgeOK leakCount isLeak lvl dlt
  simp only [TableEval.getD_eq_sharedDrop]
  decide +kernel

/-- non-vacuity: `depth--; rec(); depth++` balances; `depth--; rec(); depth++; depth++` (the double release of seeded/C19-4) has no
    consistent labelling: the return block would be entered at level -1 -/
def exBal (level delta : List Int) (calls : List (Nat × Int)) : BalCert :=
  { fn := "f", counter := "d", n := 3, cfg := [(0, 1), (1, 2)], level := level, delta := delta,
    live := 7, stops := 0, rets := [2], calls := calls }
example : balOK (exBal [0, 1, 0] [1, -1, 0] [(1, 1)]) = true := by decide
example : balOK (exBal [0, 1, -1] [1, -2, 0] [(1, 1)]) = false := by decide
example : balOK (exBal [0, 1, 0] [1, -2, 0] [(1, 1)]) = false := by decide
example : unchargedCount (exBal [0, 0, 0] [0, 0, 0] [(1, 0)]) = 1 := by decide

/-- every sequence of VM operations (push / call / tail call / return, any length, any functions with at most `S`
    slots) on a fresh fiber with `maxstack = M`: as long as no error has been raised, at most `max M 4 / 4` frames are
    live, the stack start is within one frame of `max M 4`, the stack top is a valid int32 and the capacity never
    exceeds max(initial, INT32_MAX) -/
theorem fiber_stack_bounded (cap M S : Nat) (fn0 : Fn) (v0 v : VFiber) (ops : List VOp)
    (hfit : Fits M S) (hs0 : fn0.slotcount ≤ S) (hnew : fiberNew cap fn0 M = some v0)
    (hops : ∀ op ∈ ops, opFits S op) (hrun : vrun v0 ops = .ok v) :
    FRAME * v.prev.length ≤ B M ∧ v.f.stackstart ≤ B M + S + FRAME ∧ v.f.stacktop ≤ INT32_MAX ∧
      v.f.capacity ≤ max (if cap < 32 then 32 else cap) INT32_MAX := by
  have hinv := vrun_inv hfit ops v0 v (fiberNew_inv hfit hs0 hnew) hops hrun
  have hl := chain_len v.prev v.f.frame hinv.chain
  have hfr := hinv.fr
  refine ⟨Nat.le_trans hl hfr, ?_, ?_, ?_⟩
  · simp only [FRAME]; exact hinv.ssb
  · simp only [INT32_MAX]; exact hinv.t32
  · simp only [INT32_MAX]; exact hinv.capb

/-- non-tail recursion deeper than `max M 4 / 4` frames cannot go on: every return-free operation sequence with
    that many calls ends in one of the two catchable errors (`janet_panic("stack overflow")`, arity mismatch) -/
theorem deep_recursion_raises (cap M S : Nat) (fn0 : Fn) (v0 : VFiber) (ops : List VOp)
    (hfit : Fits M S) (hs0 : fn0.slotcount ≤ S) (hnew : fiberNew cap fn0 M = some v0)
    (hops : ∀ op ∈ ops, opFits S op) (hnr : noRet ops) (hdeep : B M < FRAME * (nCalls ops + 1)) :
    ∃ e, vrun v0 ops = .error e ∧ (e = "stack overflow" ∨ e = "arity") := by
  cases hr : vrun v0 ops with
  | error e => exact ⟨e, rfl, vrun_error_kinds ops v0 e hr⟩
  | ok v =>
    exfalso
    have h1 := (fiber_stack_bounded cap M S fn0 v0 v ops hfit hs0 hnew hops hr).1
    have h2 := vrun_frames_noRet ops v0 v hnr hr
    obtain ⟨f', _, rfl⟩ := fiberNew_some hnew
    rw [h2] at h1
    simp only [List.length_cons, List.length_nil] at h1
    simp only [FRAME] at h1 hdeep
    omega

/-- no int32 overflow in the frame functions: in every state a run can reach, a call that passes the `maxstack`
    test computes only quantities ≤ INT32_MAX (next stack top, doubled capacities, vararg tuple head) - provided
    2·(max M 4 + 2S + 5) ≤ INT32_MAX.  (The DEFAULT maxstack INT32_MAX does not satisfy this: see notes.) -/
theorem fiber_no_int32_overflow (cap M S : Nat) (fn0 fn : Fn) (v0 v : VFiber) (ops : List VOp)
    (hfit : Fits M S) (hs0 : fn0.slotcount ≤ S) (hnew : fiberNew cap fn0 M = some v0)
    (hops : ∀ op ∈ ops, opFits S op) (hrun : vrun v0 ops = .ok v)
    (hchk : ¬ v.f.stacktop > v.maxstack) (hfn : fn.slotcount ≤ S ∧ fn.arity ≤ S) :
    ∀ t ∈ callTemps v.f fn, t ≤ INT32_MAX := by
  have hinv := vrun_inv hfit ops v0 v (fiberNew_inv hfit hs0 hnew) hops hrun
  obtain ⟨ms, _, ss, top, fr, ssb, _, _⟩ := hinv
  have hB1 := le_B M
  unfold Fits at hfit
  rw [ms] at hchk
  intro t ht
  simp only [callTemps, FRAME, List.mem_cons, List.mem_nil_iff, or_false] at ht
  simp only [INT32_MAX]
  rcases ht with ht | ht | ht | ht | ht | ht <;> subst ht <;> omega

/-- non-vacuity: maxstack 1000, functions of up to 50 slots fit; a fresh fiber exists; the 4-slot self recursion with
    one argument gets 123 frames deep on it and then raises "stack overflow"; with the default maxstack nothing fits -/
example : Fits 1000 50 := by unfold Fits B FRAME; decide
example : ¬ Fits 2147483647 0 := by unfold Fits B FRAME; decide
example : (fiberNew 64 ⟨10, 0, 0, 0, false⟩ 1000).isSome = true := by decide
example : (fiberNew 64 ⟨10, 0, 0, 0, false⟩ 1000).map (fun v => overflowDepth 2000 v 1 ⟨4, 1, 1, 1, false⟩)
    = some (123, "stack overflow") := by decide +kernel

open JanetModel.Gen in
/-- every graph, every frame table: with a valid potential certificate a chain costs at most the potential of its
    head plus the potentials of the guard frames after it -/
theorem chain_bytes_le (G : CG) (frame pot : List Nat) (hok : potOK G frame pot = true) (a : Nat) (l : List Nat)
    (hc : IsChain G (a :: l)) (hin : ∀ v ∈ a :: l, v < G.n) :
    chainBytes frame (a :: l) ≤ pt pot a + guardPot G pot l :=
  JanetModel.Depth.chain_bytes_le hok a l hc hin

/-- every graph: a stack made of chain segments (one per SCC it passes through) whose live guard frames of class `c`
    number at most `N c` uses at most `#segments · maxHead + Σ_c N c · unit c` bytes -/
theorem segments_bytes_le_limits (G : CG) (frame pot cls unit N : List Nat) (k mh : Nat)
    (hok : potOK G frame pot = true) (hu : unitsOK G pot cls unit k mh = true) (segs : List (List Nat))
    (hseg : ∀ s ∈ segs, IsChain G s ∧ ∀ v ∈ s, v < G.n)
    (hcount : ∀ c, c < k → classCount G cls c segs.flatten ≤ N.getD c 0) :
    (segs.map (chainBytes frame)).sum ≤ segs.length * mh + limitSum N unit k :=
  JanetModel.Depth.segments_bytes_le_limits hok hu segs hseg hcount

/-- non-vacuity: 3 functions, guard 0 with a 100-byte frame calling 1 (40) calling 2 (8) calling 0 -/
example : potOK { n := 3, edges := [(0, 1), (1, 2), (2, 0)], guard := [true, false, false] } [100, 40, 8] [148, 48, 8] = true := by decide
example : potOK { n := 3, edges := [(0, 1), (1, 2), (2, 0)], guard := [true, false, false] } [100, 40, 8] [148, 47, 8] = false := by decide
example : chainBytes [100, 40, 8] [0, 1, 2, 0, 1] = 288 := by decide

/-- per-run obligation: the potential certificate is valid for the frame sizes gcc reports for the current source
    (both build variants) on the stack graph -/
theorem cg_pot_ok : potOK JanetModel.Gen.DepthStack.cgS JanetModel.Gen.DepthStack.frame JanetModel.Gen.DepthStack.pot = true := by
  unfold potOK potEdgeOK potNodeOK isGuard wt pt
  simp only [TableEval.getD_eq_sharedDrop]
  decide +kernel

/-- per-run obligation: every guard's potential is within the unit of its class, every other function's within `maxHead` -/
theorem cg_units_ok : unitsOK JanetModel.Gen.DepthStack.cgS JanetModel.Gen.DepthStack.pot JanetModel.Gen.DepthStack.cls
    JanetModel.Gen.DepthStack.unit JanetModel.Gen.DepthStack.nClasses JanetModel.Gen.DepthStack.maxHead = true := by
  unfold unitsOK isGuard pt clsOf
  simp only [TableEval.getD_eq_sharedDrop]
  decide +kernel

/-- the stack tables fit the call graph of `Gen/Depth.lean`: same functions, edges a subset, charging guards a subset -/
theorem cg_stack_tables_consistent :
    JanetModel.Gen.DepthStack.nV = JanetModel.Gen.Depth.nV ∧
    JanetModel.Gen.DepthStack.frame.length = JanetModel.Gen.Depth.nV ∧
    JanetModel.Gen.DepthStack.pot.length = JanetModel.Gen.Depth.nV ∧
    JanetModel.Gen.DepthStack.cls.length = JanetModel.Gen.Depth.nV ∧
    JanetModel.Gen.DepthStack.guard.length = JanetModel.Gen.Depth.nV ∧
    JanetModel.Gen.DepthStack.unit.length = JanetModel.Gen.DepthStack.nClasses ∧
    JanetModel.Gen.DepthStack.recursionGuard = JanetModel.Gen.Depth.recursionGuard ∧
    JanetModel.Gen.DepthStack.edges.all (fun e => JanetModel.Gen.Depth.edges.contains e) = true ∧
    (List.zip JanetModel.Gen.DepthStack.guard JanetModel.Gen.Depth.guard).all (fun p => !p.1 || p.2) = true := by
  -- `tools/gen/callgraph.py` and `cgstack.py` emit the edges in the same order, so the stack edges are a sublist; if this
  -- line fails while they are still a subset, the generators no longer sort alike
  have hsub : JanetModel.Gen.DepthStack.edges.isSublist JanetModel.Gen.Depth.edges = true := by decide +kernel
  have hmem := (List.isSublist_iff_sublist.mp hsub).subset
  rw [List.all_eq_true.mpr fun e he => List.contains_iff_mem.mpr (hmem he)]
  decide +kernel

/-- the whole budget: functions outside the cycles (each at most once), libc allowance, one head per SCC, and per
    counter class (live frames its protocol allows) × (bytes per charged level) -/
def budgetTotal : Nat :=
  JanetModel.Gen.DepthStack.transitBytes + JanetModel.Gen.DepthStack.libcAllowance +
  JanetModel.Gen.DepthStack.nSCC * JanetModel.Gen.DepthStack.maxHead +
  limitSum (limitsOf JanetModel.Gen.DepthStack.classes JanetModel.Gen.DepthStack.nClasses)
    JanetModel.Gen.DepthStack.unit JanetModel.Gen.DepthStack.nClasses

/-- per-run obligation: the budget is below the default 8 MiB stack -/
theorem cg_stack_budget_ok : budgetTotal < JanetModel.Gen.DepthStack.stackLimit := by decide +kernel

/-- per-run obligation: every site where a locally counted recursion can start another counter instance hands on
    the depth it has used (otherwise the class limit is `L·L`, see `classLimit`, and the budget cannot hold) -/
theorem cg_reentry_shared : JanetModel.Gen.DepthStack.reentry.all (fun r => r.2.2) = true := by decide +kernel

/-- On the graph and frame sizes of the current source, a native stack made of call-chain
    segments (at most one per SCC) whose live guard frames per counter class stay within what the class's protocol
    allows, plus everything outside the cycles and the libc allowance, is below 8 MiB -/
theorem stack_bytes_bounded (segs : List (List Nat))
    (hseg : ∀ s ∈ segs, IsChain JanetModel.Gen.DepthStack.cgS s ∧ ∀ v ∈ s, v < JanetModel.Gen.DepthStack.cgS.n)
    (hlen : segs.length ≤ JanetModel.Gen.DepthStack.nSCC)
    (hcount : ∀ c, c < JanetModel.Gen.DepthStack.nClasses →
      classCount JanetModel.Gen.DepthStack.cgS JanetModel.Gen.DepthStack.cls c segs.flatten ≤
        (limitsOf JanetModel.Gen.DepthStack.classes JanetModel.Gen.DepthStack.nClasses).getD c 0) :
    (segs.map (chainBytes JanetModel.Gen.DepthStack.frame)).sum + JanetModel.Gen.DepthStack.transitBytes +
      JanetModel.Gen.DepthStack.libcAllowance < JanetModel.Gen.DepthStack.stackLimit := by
  have h1 := JanetModel.Depth.segments_bytes_le_limits cg_pot_ok cg_units_ok segs hseg hcount
  have h2 : segs.length * JanetModel.Gen.DepthStack.maxHead ≤
      JanetModel.Gen.DepthStack.nSCC * JanetModel.Gen.DepthStack.maxHead := Nat.mul_le_mul_right _ hlen
  have h3 := cg_stack_budget_ok
  unfold budgetTotal at h3
  omega

/-- non-vacuity of `stack_bytes_bounded`: the empty stack and a one-frame stack satisfy the hypotheses -/
example : (([] : List (List Nat)).map (chainBytes JanetModel.Gen.DepthStack.frame)).sum = 0 := rfl
example : IsChain JanetModel.Gen.DepthStack.cgS [0] := trivial


/-- every reachability certificate: a call chain over ALL call edges of the module that starts in SCC `i` and contains
    a function of SCC `j ≠ i` makes `(i, j)` a claimed pair (so the SCCs a native stack passes through form a path of
    claimed pairs) -/
theorem scc_reach_sound (c : ReachCert) (hok : reachOK c = true) (i j : Nat) (hi : i < c.members.length)
    (hj : j < c.members.length) (hne : i ≠ j) (a : Nat) (l : List Nat) (ha : a ∈ membersOf c i)
    (hc : ChainE c.edges (a :: l)) (b : Nat) (hb : b ∈ a :: l) (hbj : b ∈ membersOf c j) : (i, j) ∈ c.claimed :=
  reach_sound c hok i j hi hj hne a l ha hc b hb hbj

/-- per-run obligation: the reachability sets of the recursive SCCs (bit masks over all functions) are closed under every
    call edge of the current module, and unclaimed pairs are unreachable -/
theorem cg_reach_ok : reachOK JanetModel.Gen.DepthStack.reachCert = true := reachOK_of_packed (by decide +kernel)

/-- per-run obligation: the potential over the SCC DAG is valid, the per-SCC budgets are what the class limits and units
    give, every guard's class is budgeted in its own SCC, and the SCC table fits the call graph -/
theorem cg_scc_pot_ok :
    sccPotOK JanetModel.Gen.DepthStack.sccBudget JanetModel.Gen.DepthStack.sccSpot
      JanetModel.Gen.DepthStack.reachCert.claimed = true ∧
    JanetModel.Gen.DepthStack.sccBudget.length = JanetModel.Gen.DepthStack.nSCC ∧
    JanetModel.Gen.DepthStack.reachCert.members.length = JanetModel.Gen.DepthStack.nSCC ∧
    JanetModel.Gen.DepthStack.sccOfNode.length = JanetModel.Gen.DepthStack.nV ∧
    (List.range JanetModel.Gen.DepthStack.nSCC).all (fun i =>
      JanetModel.Gen.DepthStack.sccBudget.getD i 0 == JanetModel.Gen.DepthStack.maxHead +
        limitSum (JanetModel.Gen.DepthStack.sccLimits.getD i []) JanetModel.Gen.DepthStack.unit
          JanetModel.Gen.DepthStack.nClasses) = true ∧
    (List.range JanetModel.Gen.DepthStack.nV).all (fun v =>
      !(isGuard JanetModel.Gen.DepthStack.cgS v) ||
      ((JanetModel.Gen.DepthStack.sccLimits.getD (JanetModel.Gen.DepthStack.sccOfNode.getD v 0) []).getD
          (clsOf JanetModel.Gen.DepthStack.cls v) 0 ==
        (limitsOf JanetModel.Gen.DepthStack.classes JanetModel.Gen.DepthStack.nClasses).getD
          (clsOf JanetModel.Gen.DepthStack.cls v) 0)) = true ∧
    JanetModel.Gen.DepthStack.edges.all (fun e =>
      JanetModel.Gen.DepthStack.sccOfNode.getD e.1 0 == JanetModel.Gen.DepthStack.sccOfNode.getD e.2 0) = true := by
  unfold isGuard clsOf
  simp only [TableEval.getD_eq_sharedDrop]
  decide +kernel

/-- the budget along the heaviest path of the SCC DAG -/
def dagBudgetTotal : Nat :=
  JanetModel.Gen.DepthStack.transitBytes + JanetModel.Gen.DepthStack.libcAllowance +
    listMax JanetModel.Gen.DepthStack.sccSpot

/-- per-run obligation: that budget is below the default 8 MiB stack -/
theorem cg_dag_budget_ok : dagBudgetTotal < JanetModel.Gen.DepthStack.stackLimit := by decide +kernel

/-- bytes of the segments of a stack, one `(SCC id, chain inside that SCC)` per SCC it passes through -/
def segsBytes : List (Nat × List Nat) → Nat
  | [] => 0
  | s :: rest => chainBytes JanetModel.Gen.DepthStack.frame s.2 + segsBytes rest

theorem segsBytes_eq : ∀ segs : List (Nat × List Nat),
    segsBytes segs = (segs.map fun s => chainBytes JanetModel.Gen.DepthStack.frame s.2).sum
  | [] => rfl
  | s :: rest => by rw [segsBytes, segsBytes_eq rest, List.map_cons, List.sum_cons]

/-- On the graph and frame sizes of the current source, a native stack whose segments lie in
    SCCs along ONE path of the SCC DAG (`PathIn claimed`, which `scc_reach_sound` shows is how SCCs can follow each other)
    and whose live guard frames per class stay within the class's limit in each segment, plus everything outside the
    cycles and the libc allowance, is below 8 MiB.  Unlike `stack_bytes_bounded` the SCC budgets are not all added. -/
theorem stack_bytes_bounded_dag (segs : List (Nat × List Nat))
    (hseg : ∀ s ∈ segs, IsChain JanetModel.Gen.DepthStack.cgS s.2 ∧ ∀ v ∈ s.2, v < JanetModel.Gen.DepthStack.cgS.n)
    (hid : ∀ s ∈ segs, s.1 < JanetModel.Gen.DepthStack.nSCC)
    (hpath : PathIn JanetModel.Gen.DepthStack.reachCert.claimed (segs.map (·.1)))
    (hcount : ∀ s ∈ segs, ∀ c, c < JanetModel.Gen.DepthStack.nClasses →
      classCount JanetModel.Gen.DepthStack.cgS JanetModel.Gen.DepthStack.cls c s.2 ≤
        (JanetModel.Gen.DepthStack.sccLimits.getD s.1 []).getD c 0) :
    segsBytes segs + JanetModel.Gen.DepthStack.transitBytes + JanetModel.Gen.DepthStack.libcAllowance <
      JanetModel.Gen.DepthStack.stackLimit := by
  obtain ⟨hpot, hlen, _, _, hbud, _, _⟩ := cg_scc_pot_ok
  have htot := segs_le_listMax cg_pot_ok cg_units_ok
    (fun i hi => eq_of_beq (List.all_eq_true.mp hbud i (List.mem_range.mpr (hlen ▸ hi)))) hpot segs hseg
    (fun s hs => hlen ▸ hid s hs) hpath hcount
  rw [← segsBytes_eq] at htot
  have h3 := cg_dag_budget_ok
  unfold dagBudgetTotal at h3
  omega

/-- non-vacuity: the claimed pairs are not empty and the empty stack satisfies the hypotheses; a two-SCC DAG example -/
example : JanetModel.Gen.DepthStack.reachCert.claimed ≠ [] := by decide
example : sccPotOK [100, 40] [140, 40] [(0, 1)] = true := by decide
example : sccPotOK [100, 40] [139, 40] [(0, 1)] = false := by decide
example : pathBudget [100, 40] [0, 1] = 140 := by decide

/-- every nesting of interpreter entries and local counter instances (all event sequences): when every re-entry
    site hands its depth on, at most `2·L` guard frames of the pool are live -/
theorem nest_frames_le (L : Nat) (evs : List NEv) (s' : NState) (h : nrun true L ⟨0, 0, 0⟩ evs = some s') :
    s'.frames ≤ 2 * L :=
  JanetModel.Depth.nest_frames_le L evs s' h

/-- without handing the depth on the same guards accept `k·L` live guard frames for every `k ≤ L` (a product) -/
theorem nest_unshared_reaches (L : Nat) (hL : 0 < L) (k : Nat) (hk : k ≤ L) :
    nrun false L ⟨0, 0, 0⟩ (List.flatten (List.replicate k (nestBlock L))) = some ⟨k, 0, k * L⟩ :=
  JanetModel.Depth.nest_unshared_reaches L hL k hk

/-- the shared protocol refuses the multiplying pattern at its second level -/
theorem nest_shared_refuses (L : Nat) (hL : 2 ≤ L) : nrun true L ⟨0, 0, 0⟩ (nestBlock L ++ nestBlock L) = none :=
  JanetModel.Depth.nest_shared_refuses L hL

/-- non-vacuity: a nest the shared protocol accepts (compile 3 deep, macro, compile 2 deep, macro, peg 1 deep) -/
example : nrun true 1024 ⟨0, 0, 0⟩ [.vm, .fresh, .loc, .loc, .loc, .vm, .fresh, .loc, .loc, .vm, .fresh, .loc]
    = some ⟨8, 1, 9⟩ := by decide
/-- what the product means at the real limit: 12 levels of 900 (corpus/C19/nested-macro-compile.janet) -/
example : nrun false 1024 ⟨0, 0, 0⟩ (List.flatten (List.replicate 12 (nestBlock 1024))) = some ⟨12, 0, 12 * 1024⟩ :=
  JanetModel.Depth.nest_unshared_reaches 1024 (by decide) 12 (by decide)

end JanetModel.Props.C19
