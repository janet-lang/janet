/-
C12 — PEG matching conforms to the PEG semantics: the operational model `Op.run` of `peg_rule` against the denotation `Den.run`
(the documented meaning, also of source grammars through `Spec.fetch`), the entry points, the compiler, and the witnesses.
-/
import JanetModel.Peg.Lemmas
import JanetModel.Peg.Bounds
import JanetModel.Peg.Entry
import JanetModel.Peg.ReplaceLemmas
import JanetModel.Peg.ValidateLemmas
import JanetModel.Peg.CompileCorrect
import JanetModel.Peg.BackrefLemmas
import JanetModel.Peg.CompileEntry
import JanetModel.Peg.CompileFlag
import JanetModel.Peg.Skel
import JanetModel.Peg.FuelMono
import JanetModel.Peg.FuelMonoDen
import JanetModel.Peg.FuelMonoEntry

namespace JanetModel.Props.C12
open JanetModel.Peg

/-- The decoder reads, for every fixed-size opcode, exactly as many words as the bytecode verifier in
    `peg_unmarshal` advances by (regenerated from the current peg.c). -/
theorem decode_sizes_agree : JanetModel.Gen.Peg.opSizes = decodeSizes := by decide

/-- **op_eq_den.**  For every program (any `fetch`: compiled bytecode through `decode`, or a source grammar through
    `Spec.fetch`) the operational run is the denotation: the same error; on a match exactly `s` extended by `Δ`, with mode,
    window end and depth as before; on a failure at most extra entries ABOVE the old stack heights (`St.le`).
    Hypothesis `E.lenprefixLeak = false` is the generated fact `Tie.lenprefix_mode_restored` about the current peg.c. -/
theorem op_eq_den {ρ : Type} (E : Env) (hE : E.lenprefixLeak = false) (fetch : ρ → Option (Instr ρ))
    (fuel : Nat) (r : ρ) (s : St) (pos : Nat) :
    match Den.run E fetch fuel r s pos with
    | .error e => Op.run E fetch fuel r s pos = .error e
    | .ok none => ∃ s', Op.run E fetch fuel r s pos = .ok (none, s') ∧ s.le s'
    | .ok (some (p, d)) => Op.run E fetch fuel r s pos = .ok (some p, s.extend d) :=
  run_agree E hE fetch fuel r s pos

/-- **depth_balanced.**  `down1` / `up1` are balanced on every path of every opcode: whenever `peg_rule` returns (match or
    no match) the recursion budget `s->depth` is what it was on entry; the only other way out is a raised error
    (`janet_panic`, state discarded).  So the budget bounds the NESTING depth, never the amount of work, and a failing
    branch cannot leak or release budget.  (The syntactic counterpart on the current peg.c is `Tie.depth_exits_balanced`.) -/
theorem depth_balanced {ρ : Type} (E : Env) (hE : E.lenprefixLeak = false) (fetch : ρ → Option (Instr ρ))
    (fuel : Nat) (r : ρ) (s : St) (pos : Nat) :
    (∃ e, Op.run E fetch fuel r s pos = .error e) ∨
    (∃ res s', Op.run E fetch fuel r s pos = .ok (res, s') ∧ s'.depth = s.depth) := by
  cases h : Op.run E fetch fuel r s pos with
  | error e => exact .inl ⟨e, rfl⟩
  | ok x => exact .inr ⟨x.1, x.2, rfl, (run_ok_le E hE fetch h).depth⟩

/-- with one unit of the budget left, `down1` raises "recursed too deeply" instead of going down -/
theorem depth_exhaustion (s : St) (h : s.depth ≤ 1) : down1 s = .error .depth := by
  simp [down1, h]

/-- what `cap_load` does after a failed sub-rule: the state is exactly the one saved before it -/
theorem capLoad_restores {s s' : St} (h : s.le s') : capLoad s' (capSave s) = s := capLoad_of_le h

/-- a single match attempt (`peg_call_reset` + `peg_rule` from the start rule) gives the same captures and end position in both -/
theorem opMatcher_eq_denMatcher {ρ : Type} (E : Env) (hE : E.lenprefixLeak = false) (fetch : ρ → Option (Instr ρ)) (main : ρ)
    (fuel guard : Nat) : opMatcher E fetch main fuel guard = denMatcher E fetch main fuel guard := by
  funext start
  simp only [opMatcher, denMatcher]
  rcases child_cases (run_agree E hE fetch fuel) main (initSt E guard) start with ⟨e, h1, h2⟩ | ⟨h1, s', h2, _⟩ | ⟨p, d, h1, h2⟩
  · simp [h1, h2]
  · simp [h1, h2]
  · rw [h1, h2]; simp [St.extend, initSt]

theorem entry_points_op_eq_den {ρ : Type} (E : Env) (hE : E.lenprefixLeak = false) (fetch : ρ → Option (Instr ρ)) (main : ρ)
    (fuel guard : Nat) (start : Nat) (subst : Val) (one : Bool) :
    pegMatch (opMatcher E fetch main fuel guard) start = pegMatch (denMatcher E fetch main fuel guard) start ∧
    pegFind (opMatcher E fetch main fuel guard) E.text.length start = pegFind (denMatcher E fetch main fuel guard) E.text.length start ∧
    pegFindAll (opMatcher E fetch main fuel guard) E.text.length start = pegFindAll (denMatcher E fetch main fuel guard) E.text.length start ∧
    pegReplace (opMatcher E fetch main fuel guard) E.text subst one start = pegReplace (denMatcher E fetch main fuel guard) E.text subst one start := by
  rw [opMatcher_eq_denMatcher E hE]
  exact ⟨rfl, rfl, rfl, rfl⟩

/-! Every text access of the model (`memcmp` of a literal / back-match, the byte tested by range / set, the bytes of an integer
reader, the bytes copied by capture / number) goes through `Env.byte` / `Env.slice`, which return `Err.oob` unless the
indices lie inside the CURRENT window `[0, text_end)` (narrowed by sub / til / split) and inside the text. -/

/-- A rule entered at `pos ≤ text_end ≤ |text|` never performs an out-of-window read, and when it matches it ends in
    `[pos, text_end]` (so that every rule it calls is entered inside the window again). -/
theorem den_never_reads_outside {ρ : Type} (E : Env) (fetch : ρ → Option (Instr ρ)) (fuel : Nat) (r : ρ) (s : St) (pos : Nat)
    (hte : s.textEnd ≤ E.text.length) (hpos : pos ≤ s.textEnd) :
    Den.run E fetch fuel r s pos ≠ .error .oob ∧
    ∀ p d, Den.run E fetch fuel r s pos = .ok (some (p, d)) → pos ≤ p ∧ p ≤ s.textEnd := by
  have h := run_good E fetch fuel r s pos hte hpos
  constructor
  · intro he; rw [he] at h; exact h rfl
  · intro p d he; rw [he] at h; exact h

/-- **never_reads_outside** for the operational model of `peg_rule` (all opcodes, sub-windows included). -/
theorem never_reads_outside {ρ : Type} (E : Env) (hE : E.lenprefixLeak = false) (fetch : ρ → Option (Instr ρ)) (fuel : Nat)
    (r : ρ) (s : St) (pos : Nat) (hte : s.textEnd ≤ E.text.length) (hpos : pos ≤ s.textEnd) :
    Op.run E fetch fuel r s pos ≠ .error .oob ∧
    ∀ p s', Op.run E fetch fuel r s pos = .ok (some p, s') → pos ≤ p ∧ p ≤ s.textEnd := by
  have hd := den_never_reads_outside E fetch fuel r s pos hte hpos
  rcases child_cases (run_agree E hE fetch fuel) r s pos with ⟨e, h1, h2⟩ | ⟨h1, s1, h2, _⟩ | ⟨p0, d, h1, h2⟩
  · refine ⟨?_, fun p s' h => by rw [h2] at h; cases h⟩
    rw [h2]; intro h; cases h; exact hd.1 h1
  · exact ⟨(by rw [h2]; intro h; cases h), fun p s' h => by rw [h2] at h; cases h⟩
  · refine ⟨(by rw [h2]; intro h; cases h), fun p s' h => ?_⟩
    rw [h2] at h; cases h; exact hd.2 p0 d h1

/-- for the entry points: a match attempt from any start offset inside the text never reads outside it -/
theorem match_attempt_never_reads_outside {ρ : Type} (E : Env) (hE : E.lenprefixLeak = false) (fetch : ρ → Option (Instr ρ))
    (main : ρ) (fuel guard start : Nat) (hstart : start ≤ E.text.length) :
    opMatcher E fetch main fuel guard start ≠ .error .oob := by
  have h := (never_reads_outside E hE fetch fuel main (initSt E guard) start (Nat.le_refl _) hstart).1
  simp only [opMatcher]
  revert h
  cases Op.run E fetch fuel main (initSt E guard) start with
  | error e => intro h; simpa using h
  | ok v =>
    obtain ⟨res, s'⟩ := v
    cases res <;> intro _ h <;> cases h

/-- `peg/find-all` returns exactly the positions `i ∈ [start, len)` at which a single match attempt succeeds, in order
    (for a matcher `m` that raises no error on that range, described by the pure function `f`). -/
theorem find_all_agrees_with_repeated_match (m : Matcher) (f : Nat → Option (Nat × List Val)) (len start : Nat)
    (hm : ∀ i, start ≤ i → i < len → m i = .ok (f i)) :
    pegFindAll m len start = .ok ((List.range' start (len - start)).filter (fun i => (f i).isSome)) :=
  findAllLoop_spec m f (len - start) start fun i h1 h2 => hm i h1 (by omega)

/-- `peg/find` returns the first such position, or nil -/
theorem find_agrees_with_repeated_match (m : Matcher) (f : Nat → Option (Nat × List Val)) (len start : Nat)
    (hm : ∀ i, start ≤ i → i < len → m i = .ok (f i)) :
    pegFind m len start = .ok ((List.range' start (len - start)).find? (fun i => (f i).isSome)) :=
  findLoop_spec m f (len - start) start fun i h1 h2 => hm i h1 (by omega)

/-- an error raised by a match attempt (e.g. `(error ...)`, recursion depth) at the first position where one is raised,
    before any hit, is the result of `peg/find` -/
theorem find_first_error (m : Matcher) (len start : Nat) (e : Err) (i : Nat) (hi : start ≤ i) (hlen : i < len)
    (hbefore : ∀ j, start ≤ j → j < i → m j = .ok none) (herr : m i = .error e) :
    pegFind m len start = .error e := by
  unfold pegFind
  generalize hn : i - start = k
  induction k generalizing start with
  | zero =>
    have : i = start := by omega
    subst this
    obtain ⟨n, hn⟩ : ∃ n, len - i = n + 1 := ⟨len - i - 1, by omega⟩
    simp [hn, findLoop, herr, bind, Except.bind]
  | succ k ih =>
    obtain ⟨n, hn'⟩ : ∃ n, len - start = n + 1 := ⟨len - start - 1, by omega⟩
    have h0 := hbefore start (Nat.le_refl _) (by omega)
    have := ih (start + 1) (by omega) (fun j h1 h2 => hbefore j (by omega) h2) (by omega)
    have hl : len - (start + 1) = n := by omega
    rw [hl] at this
    simp [hn', findLoop, h0, bind, Except.bind, this]

/-! `validate (decode P) (Spec.fetch dflt) k a c` (Peg/Validate.lean) is executable: the driver runs it on the bytecode and
constants dumped from the REAL `peg/compile` for every generated grammar.  It is sound: -/

theorem denMatcher_congr {α β : Type} (E : Env) {f1 : α → Option (Instr α)} {f2 : β → Option (Instr β)} {a : α} {c : β} {fuel : Nat}
    (h : Den.run E f1 fuel a = Den.run E f2 fuel c) (guard : Nat) : denMatcher E f1 a fuel guard = denMatcher E f2 c fuel guard := by
  funext start
  rw [denMatcher, denMatcher, h]

/-- **compile_validated_correct**: if the compiled program `P` validates against the source form `c` (same opcodes, same
    immediate operands, sub-rules pairwise validated - sharing through the compiler's rule cache included), the OPERATIONAL
    run of the bytecode agrees (in the sense of `op_eq_den`) with the DOCUMENTED meaning of the source form. -/
theorem compile_validated_correct (E : Env) (hE : E.lenprefixLeak = false) (P : Program) (dflt : Spec.Scope) (k : Nat)
    (a : Nat) (c : Spec.Closure) (hv : validate (decode P) (Spec.fetch dflt) k a c = true)
    (fuel : Nat) (s : St) (pos : Nat) :
    match Den.run E (Spec.fetch dflt) fuel c s pos with
    | .error e => Op.run E (decode P) fuel a s pos = .error e
    | .ok none => ∃ s', Op.run E (decode P) fuel a s pos = .ok (none, s') ∧ s.le s'
    | .ok (some (p, d)) => Op.run E (decode P) fuel a s pos = .ok (some p, s.extend d) := by
  have h := op_eq_den E hE (decode P) fuel a s pos
  rw [validate_sound E (decode P) (Spec.fetch dflt) k a c hv fuel] at h
  exact h

/-- and so all five entry points on the compiled program are those of the source grammar -/
theorem compiled_entry_points_eq_source (E : Env) (hE : E.lenprefixLeak = false) (P : Program) (dflt : Spec.Scope) (k : Nat)
    (c : Spec.Closure) (hv : validate (decode P) (Spec.fetch dflt) k 0 c = true) (fuel guard : Nat) :
    opMatcher E (decode P) 0 fuel guard = denMatcher E (Spec.fetch dflt) c fuel guard :=
  (opMatcher_eq_denMatcher E hE ..).trans (denMatcher_congr E (validate_sound E (decode P) (Spec.fetch dflt) k 0 c hv fuel) guard)

/-- non-vacuity: a hand-assembled program for `(* "a" (<- (any "b")))` validates against that source form -/
example : validate (decode { bytecode := #[7, 2, 5, 8, 0, 0, 1, 97, 13, 11, 0, 11, 0, 4294967295, 15, 0, 1, 98], constants := #[] })
    (Spec.fetch []) 8 0 ⟨[], .seq [.str [97], .capture (.any (.str [98])) 0]⟩ = true := by decide

/-! `Compile.compile dflt p` is the executable model of `compile_peg` / `peg_compile1` / `peg_specials[]`: rule cache, keyword
references, nested and RECURSIVE grammar tables with lexically scoped rule names, default grammar, constants table,
reserve-then-patch emission (the check compares its bytecode, constants and `has_backref` word for word with the real
`peg/compile` on every generated grammar).  The proof (Peg/CompileCorrect.lean) is an induction over the compiler run with the
invariant "every cache entry and every returned rule address is either a finished header that decodes to the instruction
`Spec.fetch` reads at the source form, with sub-rules paired again, or belongs to a rule still being compiled"; the pairs
(address, source closure) form a simulation, which may be cyclic, and `bisim_run_eq` turns it into equality of denotations by
induction on the fuel. -/

/-- **compile_correct**: for every source grammar `p` the compile model accepts, the OPERATIONAL run of the emitted bytecode
    from the returned entry rule agrees (in the sense of `op_eq_den`) with the DOCUMENTED meaning of the source grammar. -/
theorem compile_correct (E : Env) (hE : E.lenprefixLeak = false) (dflt : Spec.Scope) (p : Spec.Patt) (o : Compile.Output)
    (hc : Compile.compile dflt p = some o) (fuel : Nat) (s : St) (pos : Nat) :
    match Den.run E (Spec.fetch dflt) fuel ⟨[], p⟩ s pos with
    | .error e => Op.run E (decode o.program) fuel o.entry s pos = .error e
    | .ok none => ∃ s', Op.run E (decode o.program) fuel o.entry s pos = .ok (none, s') ∧ s.le s'
    | .ok (some (p', d)) => Op.run E (decode o.program) fuel o.entry s pos = .ok (some p', s.extend d) := by
  have h := op_eq_den E hE (decode o.program) fuel o.entry s pos
  rw [compile_den_eq E dflt p o hc fuel] at h
  exact h

/-- and so all five entry points on the compile model's output are those of the source grammar -/
theorem compile_entry_points_eq_source (E : Env) (hE : E.lenprefixLeak = false) (dflt : Spec.Scope) (p : Spec.Patt)
    (o : Compile.Output) (hc : Compile.compile dflt p = some o) (fuel guard : Nat) :
    opMatcher E (decode o.program) o.entry fuel guard = denMatcher E (Spec.fetch dflt) ⟨[], p⟩ fuel guard :=
  (opMatcher_eq_denMatcher E hE ..).trans (denMatcher_congr E (compile_den_eq E dflt p o hc fuel) guard)

/-- the simulation behind it: every (rule address, source closure) pair logged by the compiler fetches the same instruction
    on both sides, with the sub-rules paired again -/
theorem compile_simulation (dflt : Spec.Scope) (p : Spec.Patt) (o : Compile.Output) (hc : Compile.compile dflt p = some o) :
    (o.entry, (⟨[], p⟩ : Spec.Closure)) ∈ o.log ∧
    ∀ a c, (a, c) ∈ o.log → ∃ (i : Instr Spec.Patt) (as : List Nat) (bs : List Spec.Closure),
      decode o.program a = some (i.rebuild as) ∧ Spec.fetch dflt c = some (i.rebuild bs) ∧
      as.length = i.kids.length ∧ bs.length = i.kids.length ∧ ∀ pr ∈ as.zip bs, (pr.1, pr.2) ∈ o.log :=
  compile_sim dflt p o hc

/-- **compile_entry_zero.**  `compile_peg` ignores the rule address returned by the outermost `peg_compile1`; `peg_rule` is
    started at `s->bytecode` (address 0).  The compile model's outermost call always returns 0 - through keyword references,
    default-grammar entries and nested grammar tables alike - so the theorems above are about the rule peg.c really starts at. -/
theorem compile_entry_zero (dflt : Spec.Scope) (p : Spec.Patt) (o : Compile.Output) (hc : Compile.compile dflt p = some o) :
    o.entry = 0 :=
  Compile.compile_entry_zero dflt p o hc

/-- all five entry points, started at bytecode address 0 as peg.c does, are those of the source grammar -/
theorem compile_entry_points_from_zero (E : Env) (hE : E.lenprefixLeak = false) (dflt : Spec.Scope) (p : Spec.Patt)
    (o : Compile.Output) (hc : Compile.compile dflt p = some o) (fuel guard : Nat) :
    opMatcher E (decode o.program) 0 fuel guard = denMatcher E (Spec.fetch dflt) ⟨[], p⟩ fuel guard := by
  have h := compile_entry_points_eq_source E hE dflt p o hc fuel guard
  rwa [compile_entry_zero dflt p o hc] at h

/-- non-vacuity: the RECURSIVE grammar `{:main (+ (* "a" :main) "b")}` is accepted; the reference compiles to the address of
    the rule being compiled (0), the sequence is at 4, the literal "a" at 8 -/
example : (Compile.compile [] (.grammar [("main", .choice [.seq [.str [97], .ref "main"], .str [98]])])).map
    (fun o => (o.entry, o.code)) = some (0, [6, 2, 4, 11, 7, 2, 8, 0, 0, 1, 97, 0, 1, 98]) := by decide +kernel

/-- `peg/replace-all` (`one = false`) and `peg/replace` (`one = true`): the output is the bytes before `start`, then, walking
    the positions, unmatched bytes copied and `g (matched text) captures` at every position where a single match attempt
    succeeds, continuing at the end of the match, or one byte further (copying that byte) after an empty match; `replace`
    stops after the first hit and copies the rest.  `f` describes the single attempts on `[start, len)` (no error raised
    there), `hmono` is what `never_reads_outside` gives for the PEG matcher (a match never ends before it starts). -/
theorem replace_agrees_with_repeated_match_gen (m : Matcher) (f : Nat → Option (Nat × List Val))
    (g : List Nat → List Val → List Nat) (text : List Nat) (subst : Val) (one : Bool) (start : Nat)
    (hm : ∀ i, start ≤ i → i < text.length → m i = .ok (f i))
    (hmono : ∀ i e caps, f i = some (e, caps) → i ≤ e)
    (hsub : ∀ mt caps, substitute subst mt caps = .ok (g mt caps)) :
    pegReplace m text subst one start = .ok (replSpec f g text one start) := by
  obtain ⟨o, t', h1, h2⟩ := replaceLoop_spec m f g text subst one hmono hsub (text.length + 1 - start) start 0 []
    (Nat.zero_le _) (Nat.le_refl _) hm
  simp only [pegReplace, h1, bind, Except.bind, replSpec]
  have h3 : o ++ text.drop t' = text.take start ++ replSpecGo f g text one (text.length + 1 - start) start := by
    rw [h2]; simp [sl]
  by_cases ht : t' < text.length
  · rw [if_pos ht, h3]
  · rw [if_neg ht]
    have : text.drop t' = [] := List.drop_eq_nil_of_le (by omega)
    rw [this, List.append_nil] at h3
    rw [h3]

theorem replace_all_agrees_with_repeated_match (m : Matcher) (f : Nat → Option (Nat × List Val))
    (g : List Nat → List Val → List Nat) (text : List Nat) (subst : Val) (start : Nat)
    (hm : ∀ i, start ≤ i → i < text.length → m i = .ok (f i))
    (hmono : ∀ i e caps, f i = some (e, caps) → i ≤ e)
    (hsub : ∀ mt caps, substitute subst mt caps = .ok (g mt caps)) :
    pegReplace m text subst false start = .ok (replSpec f g text false start) :=
  replace_agrees_with_repeated_match_gen m f g text subst false start hm hmono hsub

theorem replace_agrees_with_repeated_match (m : Matcher) (f : Nat → Option (Nat × List Val))
    (g : List Nat → List Val → List Nat) (text : List Nat) (subst : Val) (start : Nat)
    (hm : ∀ i, start ≤ i → i < text.length → m i = .ok (f i))
    (hmono : ∀ i e caps, f i = some (e, caps) → i ≤ e)
    (hsub : ∀ mt caps, substitute subst mt caps = .ok (g mt caps)) :
    pegReplace m text subst true start = .ok (replSpec f g text true start) :=
  replace_agrees_with_repeated_match_gen m f g text subst true start hm hmono hsub

/-- the side condition `hmono` holds for the PEG matcher itself: a successful attempt at `i ≤ |text|` ends in `[i, |text|]` -/
theorem match_attempt_end_in_range {ρ : Type} (E : Env) (fetch : ρ → Option (Instr ρ)) (main : ρ) (fuel guard i e : Nat)
    (caps : List Val) (hi : i ≤ E.text.length) (h : denMatcher E fetch main fuel guard i = .ok (some (e, caps))) :
    i ≤ e ∧ e ≤ E.text.length := by
  have hb := (den_never_reads_outside E fetch fuel main (initSt E guard) i (Nat.le_refl _) hi).2
  simp only [denMatcher] at h
  revert h hb
  cases Den.run E fetch fuel main (initSt E guard) i with
  | error e' => intro h; simp at h
  | ok v =>
    cases v with
    | none => intro h; simp at h
    | some pd =>
      obtain ⟨p, d⟩ := pd
      intro h hb
      simp only [Except.ok.injEq, Option.some.injEq, Prod.mk.injEq] at h
      have := hb p d rfl
      rw [← h.1]; exact this

/-- examples: "" replaced by "X" in "ab" gives "XaXb" (empty matches: byte copied, advance by one, nothing tried at the end);
    every (any "b") in "abbc" bracketed -/
example : replSpec (fun i => some (i, [])) (fun _ _ => [88]) [97, 98] false 0 = [88, 97, 88, 98] := by decide
example : replSpec (fun i => if i == 1 then some (3, []) else some (i, [])) (fun mt _ => [91] ++ mt ++ [93]) [97, 98, 98, 99] false 0
    = [91, 93, 97, 91, 98, 98, 93, 91, 93, 99] := by decide

section Witness
open JanetModel.Peg.Spec

/-- `(accumulate (* (at-most 2 (lenprefix 1 1)) (position)))` on the empty text -/
def leakGrammar : Patt := .accumulate (.seq [.atmost 2 (.lenprefix (.int 1) (.int 1)), .position 0]) 0

def accumulated (r : MRes) : List Nat :=
  match r with
  | .ok (some (_, [Val.str b])) => b
  | _ => [0]

/-- the documented meaning: the position `0` is accumulated: "0" -/
example : accumulated (denMatcher { text := [], args := [], hasBackref := false } (Spec.fetch []) ⟨[], leakGrammar⟩ 20 1024 0) = [48] := by
  decide

/-- correct `lenprefix` (mode restored): the operational model gives the same (an instance of `op_eq_den`, hypotheses satisfiable) -/
example : accumulated (opMatcher { text := [], args := [], hasBackref := false } (Spec.fetch []) ⟨[], leakGrammar⟩ 20 1024 0) = [48] := by
  decide

/-- **witness**: with a RULE_LENPREFIX that returns before `s->mode = oldmode` (janet e691f18) the position capture is lost:
    `op_eq_den` is false for `lenprefixLeak = true`; the same input is replayed on the implementation by checks/C12.py
    (corpus/C12/targeted.json). -/
theorem lenprefix_leak_breaks_op_eq_den :
    accumulated (opMatcher { text := [], args := [], hasBackref := false, lenprefixLeak := true } (Spec.fetch []) ⟨[], leakGrammar⟩ 20 1024 0) = []
    ∧ accumulated (denMatcher { text := [], args := [], hasBackref := false, lenprefixLeak := true } (Spec.fetch []) ⟨[], leakGrammar⟩ 20 1024 0) = [48] := by
  decide

end Witness

/-- the sub-rule runner of the model never leaves the text window changed (hypothesis `KeepsWindow` of the structural-tie
    theorems for scanning loops, Peg/TieSkel.lean `rule_to_thru`) -/
theorem op_run_keeps_window {ρ : Type} (E : Env) (hE : E.lenprefixLeak = false) (fetch : ρ → Option (Instr ρ)) (fuel : Nat) :
    Skel.KeepsWindow (Op.run E fetch fuel) :=
  fun _ _ _ _ _ h => (run_ok_le E hE fetch h).textEnd

/-- ... nor the depth budget (hypothesis `KeepsDepth` of `rule_replace` / `rule_matchtime`, where peg.c reads `s->depth` after
    the sub-rule returned) -/
theorem op_run_keeps_depth {ρ : Type} (E : Env) (hE : E.lenprefixLeak = false) (fetch : ρ → Option (Instr ρ)) (fuel : Nat) :
    Skel.KeepsDepth (Op.run E fetch fuel) :=
  fun _ _ _ _ _ h => (run_ok_le E hE fetch h).depth

/-- **backref_flag_unobservable.**  peg.c records tagged captures only when the compiled grammar contains a back-reference
    (`has_backref`); the documented meaning (Spec) always records them.  For ANY program (`fetch`: bytecode or source), any set
    `R` of its rules that is closed under sub-rule operands and contains no RULE_GETTAG / RULE_BACKMATCH, any start rule in `R`:
    a match attempt gives the same outcome - same error, same failure, same end position, same captures - whatever the flag is.
    Hypothesis `numRaw = false` is the generated fact `Tie.number_capture_not_raw` about the current peg.c (in janet e691f18
    `(number ...)` inside `%` made the flag observable). -/
theorem backref_flag_unobservable {ρ : Type} (E : Env) (hraw : E.numRaw = false) (b b' : Bool) (fetch : ρ → Option (Instr ρ))
    (R : ρ → Prop) (hR : Backref.Closed fetch R) (main : ρ) (hmain : R main) (fuel guard : Nat) :
    denMatcher { E with hasBackref := b } fetch main fuel guard = denMatcher { E with hasBackref := b' } fetch main fuel guard :=
  Backref.denMatcher_eq (E := { E with hasBackref := b' }) (E' := { E with hasBackref := b }) ⟨rfl, rfl, rfl, hraw, hraw⟩
    fetch hR hmain fuel guard

/-- the same for the operational model of `peg_rule` and all five entry points -/
theorem backref_flag_unobservable_op {ρ : Type} (E : Env) (hraw : E.numRaw = false) (hE : E.lenprefixLeak = false) (b b' : Bool)
    (fetch : ρ → Option (Instr ρ)) (R : ρ → Prop) (hR : Backref.Closed fetch R) (main : ρ) (hmain : R main) (fuel guard : Nat)
    (start : Nat) (subst : Val) (one : Bool) :
    let m := opMatcher { E with hasBackref := b } fetch main fuel guard
    let m' := opMatcher { E with hasBackref := b' } fetch main fuel guard
    m = m' ∧ pegMatch m start = pegMatch m' start ∧ pegFind m E.text.length start = pegFind m' E.text.length start ∧
      pegFindAll m E.text.length start = pegFindAll m' E.text.length start ∧
      pegReplace m E.text subst one start = pegReplace m' E.text subst one start := by
  have h : opMatcher { E with hasBackref := b } fetch main fuel guard = opMatcher { E with hasBackref := b' } fetch main fuel guard := by
    rw [opMatcher_eq_denMatcher _ (by exact hE), opMatcher_eq_denMatcher _ (by exact hE)]
    exact backref_flag_unobservable E hraw b b' fetch R hR main hmain fuel guard
  simp only [h, and_self]

/-- **compiled_backref_flag_certified.**  Certificate for compiled bytecode: if every address of a list `S` decodes to an
    instruction that does not read tags and whose rule operands are in `S` again (`closedNoTag`, a decidable check that the driver
    runs on the REAL peg/compile dump whenever it says `has_backref = 0`), then running the program from any address in `S`
    without tag recording (what peg.c does) gives what running it with tag recording (what Spec prescribes) gives. -/
theorem compiled_backref_flag_certified (P : Program) (S : List Nat) (hS : Backref.closedNoTag (decode P) S = true)
    (entry : Nat) (hentry : entry ∈ S) (E : Env) (hraw : E.numRaw = false) (hE : E.lenprefixLeak = false) (fuel guard : Nat) :
    opMatcher { E with hasBackref := false } (decode P) entry fuel guard = opMatcher { E with hasBackref := true } (decode P) entry fuel guard :=
  (backref_flag_unobservable_op E hraw hE false true (decode P) (· ∈ S) (Backref.closedNoTag_sound _ _ hS) entry hentry fuel guard
    0 .nil false).1

/-- **compile_flag_sound.**  When the compile model leaves `has_backref` clear, the rule addresses it logged are closed under
    sub-rule operands and none of them holds RULE_GETTAG / RULE_BACKMATCH (the flag clause is part of the compiler invariant:
    `Fin` / `Frame` in Peg/CompileCorrect.lean). -/
theorem compile_flag_sound (dflt : Spec.Scope) (p : Spec.Patt) (o : Compile.Output) (hc : Compile.compile dflt p = some o)
    (hf : o.hasBackref = false) : Backref.Closed (decode o.program) (fun a => ∃ c, (a, c) ∈ o.log) :=
  compile_closed dflt p o hc hf

/-- **compile_correct_real_flag.**  What peg.c executes for a compiled grammar - the emitted bytecode, started at address 0,
    recording tagged captures only if the compiler set `has_backref` - is a match attempt of the documented meaning of the SOURCE
    grammar (`Spec.fetch`, tags always recorded); hence also the same find / find-all / replace / replace-all.
    Hypotheses: the two generated facts about the current peg.c (`Tie.lenprefix_mode_restored`, `Tie.number_capture_not_raw`). -/
theorem compile_correct_real_flag (E : Env) (hE : E.lenprefixLeak = false) (hraw : E.numRaw = false) (dflt : Spec.Scope)
    (p : Spec.Patt) (o : Compile.Output) (hc : Compile.compile dflt p = some o) (fuel guard : Nat) :
    opMatcher { E with hasBackref := o.hasBackref } (decode o.program) 0 fuel guard =
      denMatcher { E with hasBackref := true } (Spec.fetch dflt) ⟨[], p⟩ fuel guard := by
  have hsrc := compile_entry_points_from_zero { E with hasBackref := true } hE dflt p o hc fuel guard
  cases hf : o.hasBackref with
  | true => exact hsrc
  | false =>
    have h0 : (0, (⟨[], p⟩ : Spec.Closure)) ∈ o.log := by
      have := (compile_simulation dflt p o hc).1
      rwa [compile_entry_zero dflt p o hc] at this
    have := (backref_flag_unobservable_op E hraw hE false true (decode o.program) (fun a => ∃ c, (a, c) ∈ o.log)
      (compile_flag_sound dflt p o hc hf) 0 ⟨_, h0⟩ fuel guard 0 .nil false).1
    rw [this]; exact hsrc

/-- non-vacuity: both values of the flag occur: `(% (<- "a" :t))` compiles with the flag clear although it TAGS a capture (nothing
    reads it), `(* (<- 1 :t) (backmatch :t))` sets it -/
example : (Compile.compile [] (.accumulate (.capture (.str [97]) 1) 0)).map (·.hasBackref) = some false := by decide +kernel
example : (Compile.compile [] (.seq [.capture (.int 1) 1, .backmatch 1])).map (·.hasBackref) = some true := by decide +kernel

/-- non-vacuity: `(% (<- "a"))` = [ACCUMULATE 3 0; CAPTURE 6 0; LITERAL 1 'a'] has the certificate {0, 3, 6} (found by `reach`);
    `(backmatch)` has none -/
example : Backref.closedNoTag (decode ⟨#[17, 3, 0, 13, 6, 0, 0, 1, 97], #[]⟩) [0, 3, 6] = true := by decide
example : Backref.reach (decode ⟨#[17, 3, 0, 13, 6, 0, 0, 1, 97], #[]⟩) 100 [0] [] = [6, 3, 0] := by decide
example : Backref.closedNoTag (decode ⟨#[23, 0], #[]⟩) [0] = false := by decide
/-- and the flag IS observable when a tag is read: `(* (<- 1 :t) (backmatch :t))` on "aa" matches (end position 2) only with
    tag recording -/
def matchedEnd (r : MRes) : Option Nat :=
  match r with
  | .ok (some (p, _)) => some p
  | _ => none

example :
    matchedEnd (opMatcher { text := [97, 97], args := [], hasBackref := true } (decode ⟨#[7, 2, 4, 9, 13, 7, 1, 1, 1, 23, 1], #[]⟩) 0 50 1024 0) = some 2
    ∧ matchedEnd (opMatcher { text := [97, 97], args := [], hasBackref := false } (decode ⟨#[7, 2, 4, 9, 13, 7, 1, 1, 1, 23, 1], #[]⟩) 0 50 1024 0) = none := by
  decide

/-- **op_run_fuel_mono.**  The C `peg_rule` has no fuel; the model's `Op.run` has.  An answer of `Op.run` at fuel `f` other than
    `Err.fuel` is the answer at every `g ≥ f`: "the model's fuel sufficed" is a property of the answer alone, and the
    correspondence harness (which runs the model at one generous fuel) observes THE answer of the model. -/
theorem op_run_fuel_mono {ρ : Type} (E : Env) (fetch : ρ → Option (Instr ρ)) (f g : Nat) (hfg : f ≤ g) (r : ρ) (s : St)
    (pos : Nat) (hne : Op.run E fetch f r s pos ≠ .error .fuel) : Op.run E fetch g r s pos = Op.run E fetch f r s pos :=
  Op.run_fuel_mono E fetch f g hfg r s pos hne

/-- **op_run_fuel_unique.**  Any two fuels that suffice give the same answer: the fuel-free meaning of a PEG program under the
    operational model is unique. -/
theorem op_run_fuel_unique {ρ : Type} (E : Env) (fetch : ρ → Option (Instr ρ)) (f g : Nat) (r : ρ) (s : St) (pos : Nat)
    (hf : Op.run E fetch f r s pos ≠ .error .fuel) (hg : Op.run E fetch g r s pos ≠ .error .fuel) :
    Op.run E fetch f r s pos = Op.run E fetch g r s pos :=
  Op.run_fuel_unique E fetch f g r s pos hf hg

/-- one opcode: a better child runner and one more unit of loop fuel keep every answer other than `Err.fuel` (all 37 cases) -/
theorem op_step_mono {ρ : Type} (E : Env) {k k' : OK ρ} (h : Op.KLe k k') (n : Nat) (i : Instr ρ) (s : St) (pos : Nat) :
    Op.FLe (Op.step E k n i s pos) (Op.step E k' (n + 1) i s pos) :=
  Op.step_mono E h n i s pos


/-- **den_run_fuel_mono.**  The same for the denotational model `Den.run` (Peg/FuelMonoDen.lean). -/
theorem den_run_fuel_mono {ρ : Type} (E : Env) (fetch : ρ → Option (Instr ρ)) (f g : Nat) (hfg : f ≤ g) (r : ρ) (s : St)
    (pos : Nat) (hne : Den.run E fetch f r s pos ≠ .error .fuel) : Den.run E fetch g r s pos = Den.run E fetch f r s pos :=
  Den.run_fuel_mono E fetch f g hfg r s pos hne

/-- **op_eq_den_any_fuel.**  `op_eq_den` without a shared fuel: once the denotation at SOME fuel `f` yields a match `(p, Δ)`,
    the operational run at EVERY fuel `g ≥ f` ends in exactly `s` extended by `Δ` at position `p`; once it yields a failure,
    every such run fails; once it raises `e ≠ Err.fuel`, every such run raises `e`. -/
theorem op_eq_den_any_fuel {ρ : Type} (E : Env) (hE : E.lenprefixLeak = false) (fetch : ρ → Option (Instr ρ))
    (f g : Nat) (hfg : f ≤ g) (r : ρ) (s : St) (pos : Nat) :
    (∀ p d, Den.run E fetch f r s pos = .ok (some (p, d)) → Op.run E fetch g r s pos = .ok (some p, s.extend d))
    ∧ (Den.run E fetch f r s pos = .ok none → ∃ s', Op.run E fetch g r s pos = .ok (none, s') ∧ s.le s')
    ∧ (∀ e, e ≠ Err.fuel → Den.run E fetch f r s pos = .error e → Op.run E fetch g r s pos = .error e) := by
  -- an answer `x ≠ Err.fuel` of the denotation at `f` is its answer at `g`, where `op_eq_den` applies
  have key : ∀ x, x ≠ .error .fuel → Den.run E fetch f r s pos = x → Agree (Op.run E fetch g r s pos) x s := by
    intro x hx hd
    rw [← hd, ← Den.run_fuel_mono E fetch f g hfg r s pos (hd ▸ hx)]
    exact run_agree E hE fetch g r s pos
  exact ⟨fun p d => key _ nofun, key _ nofun, fun e he => key _ fun h => he (Except.error.inj h)⟩


/-- **op_run_returns.**  The model's own run in the fuel-free form used for the extracted C cases (`Skel.Returns`: "run with ANY
    sufficiently large fuel, the answer is `res`"): an answer other than `Err.fuel` at one fuel is THE fuel-free meaning of the
    program at that rule, state and position - and by `Skel.Returns.unique` there is no other. -/
theorem op_run_returns {ρ : Type} (E : Env) (fetch : ρ → Option (Instr ρ)) (f : Nat) (r : ρ) (s : St) (pos : Nat)
    (hne : Op.run E fetch f r s pos ≠ .error .fuel) :
    Skel.Returns (fun fuel => Op.run E fetch fuel r s pos) (Op.run E fetch f r s pos) :=
  ⟨f, fun g hfg => Op.run_fuel_mono E fetch f g hfg r s pos hne⟩

/-- **op_returns_of_den.**  ... and the denotation determines it: if the denotation at some fuel yields a match `(p, Δ)`, the
    fuel-free meaning of the operational run is "match at `p` in the state `s` extended by `Δ`". -/
theorem op_returns_of_den {ρ : Type} (E : Env) (hE : E.lenprefixLeak = false) (fetch : ρ → Option (Instr ρ)) (f : Nat) (r : ρ)
    (s : St) (pos p : Nat) (d : Delta) (hd : Den.run E fetch f r s pos = .ok (some (p, d))) :
    Skel.Returns (fun fuel => Op.run E fetch fuel r s pos) (.ok (some p, s.extend d)) :=
  ⟨f, fun g hfg => (op_eq_den_any_fuel E hE fetch f g hfg r s pos).1 p d hd⟩

/-- non-vacuity: `(% (<- "a"))` = [ACCUMULATE 3 0; CAPTURE 6 0; LITERAL 1 'a'] on "a": fuel 2 is too little (the answer IS
    `Err.fuel`), fuel 3 suffices (the answer is a match ending at 1), so the hypothesis of `op_run_fuel_mono` holds at f = 3 -/
def fuelTag (r : ORes) : Nat :=
  match r with
  | .error .fuel => 0
  | .error _ => 1
  | .ok (none, _) => 2
  | .ok (some p, _) => 3 + p

example :
    fuelTag (Op.run { text := [97], args := [] , hasBackref := false } (decode ⟨#[17, 3, 0, 13, 6, 0, 0, 1, 97], #[]⟩) 2 0
      (initSt { text := [97], args := [], hasBackref := false } 1024) 0) = 0
    ∧ fuelTag (Op.run { text := [97], args := [], hasBackref := false } (decode ⟨#[17, 3, 0, 13, 6, 0, 0, 1, 97], #[]⟩) 3 0
      (initSt { text := [97], args := [], hasBackref := false } 1024) 0) = 4 := by
  decide


/-- **entry_points_fuel_mono.**  Fuel monotonicity at the API: for every program, main rule, recursion guard, text, start,
    substitute and fuels `f ≤ g`, whatever `peg/match`, `peg/find`, `peg/find-all`, `peg/replace`, `peg/replace-all` answer over
    the operational model at fuel `f` - other than `Err.fuel` - they answer at fuel `g`. -/
theorem entry_points_fuel_mono {ρ : Type} (E : Env) (fetch : ρ → Option (Instr ρ)) (main : ρ) (f g : Nat) (hfg : f ≤ g)
    (guard start : Nat) (subst : Val) (one : Bool) :
    let m := opMatcher E fetch main f guard
    let m' := opMatcher E fetch main g guard
    (pegMatch m start ≠ .error .fuel → pegMatch m' start = pegMatch m start)
    ∧ (pegFind m E.text.length start ≠ .error .fuel → pegFind m' E.text.length start = pegFind m E.text.length start)
    ∧ (pegFindAll m E.text.length start ≠ .error .fuel → pegFindAll m' E.text.length start = pegFindAll m E.text.length start)
    ∧ (pegReplace m E.text subst one start ≠ .error .fuel → pegReplace m' E.text subst one start = pegReplace m E.text subst one start) :=
  Entry.entry_points_mono (Entry.opMatcher_mono E fetch main f g hfg guard) _ start E.text subst one

/-- the same over the denotation -/
theorem entry_points_fuel_mono_den {ρ : Type} (E : Env) (fetch : ρ → Option (Instr ρ)) (main : ρ) (f g : Nat) (hfg : f ≤ g)
    (guard start : Nat) (subst : Val) (one : Bool) :
    let m := denMatcher E fetch main f guard
    let m' := denMatcher E fetch main g guard
    (pegMatch m start ≠ .error .fuel → pegMatch m' start = pegMatch m start)
    ∧ (pegFind m E.text.length start ≠ .error .fuel → pegFind m' E.text.length start = pegFind m E.text.length start)
    ∧ (pegFindAll m E.text.length start ≠ .error .fuel → pegFindAll m' E.text.length start = pegFindAll m E.text.length start)
    ∧ (pegReplace m E.text subst one start ≠ .error .fuel → pegReplace m' E.text subst one start = pegReplace m E.text subst one start) :=
  Entry.entry_points_mono (Entry.denMatcher_mono E fetch main f g hfg guard) _ start E.text subst one

/-- non-vacuity: `peg/find-all` of `(% (<- "a"))` over "aba" with fuel 3 answers [0, 2] (not `Err.fuel`), with fuel 2 `Err.fuel` -/
example :
    (match pegFindAll (opMatcher { text := [97, 98, 97], args := [], hasBackref := false }
        (decode ⟨#[17, 3, 0, 13, 6, 0, 0, 1, 97], #[]⟩) 0 3 1024) 3 0 with | .ok l => some l | .error _ => none) = some [0, 2]
    ∧ (match pegFindAll (opMatcher { text := [97, 98, 97], args := [], hasBackref := false }
        (decode ⟨#[17, 3, 0, 13, 6, 0, 0, 1, 97], #[]⟩) 0 2 1024) 3 0 with | .error .fuel => true | _ => false) = true := by
  decide

/-! `{:main (+ "a" :main)}` on "b": RULE_CHOICE reaches its last alternative by `goto tail` after `up1`, so the recursion guard never
trips; the REAL peg.c loops forever on it (`janet -e '(peg/match (quote {:main (+ "a" :main)}) "b")'` does not return; PEG
semantics gives the left-recursive-in-tail-position grammar no meaning either).  In the model the run answers `Err.fuel` at EVERY
fuel - so the hypothesis `≠ Err.fuel` of the fuel-monotonicity theorems cannot be dropped, and it is exactly "the C returns". -/
def divE : Env := { text := [98], args := [], hasBackref := false }
def divFetch : Nat → Option (Instr Nat)
  | 0 => some (.choice [1, 0])
  | 1 => some (.literal [97])
  | _ => none
def divS : St := initSt divE 1024

theorem div_step (f : Nat) : Op.run divE divFetch (f + 2) 0 divS 0 = Op.run divE divFetch (f + 1) 0 divS 0 := by
  conv => lhs; rw [Op.run]
  simp only [divFetch, Op.step]
  have hd : down1 divS = .ok { divS with depth := 1023 } := rfl
  have hl : Op.run divE divFetch (f + 1) 1 { divS with depth := 1023 } 0 = .ok (none, { divS with depth := 1023 }) := rfl
  simp only [List.isEmpty_cons, Bool.false_eq_true, if_false, hd, bind, Except.bind, Op.choiceLoop, hl]
  rfl

theorem tail_choice_diverges : ∀ f, Op.run divE divFetch f 0 divS 0 = .error .fuel
  | 0 => rfl
  | 1 => rfl
  | f + 2 => by rw [div_step]; exact tail_choice_diverges (f + 1)


/-- non-vacuity for the denotational side: same program, fuel 2 answers `Err.fuel`, fuel 3 a match ending at 1 - so the first
    premise of `op_eq_den_any_fuel` is met at f = 3 -/
def denFuelTag (r : DRes) : Nat :=
  match r with
  | .error .fuel => 0
  | .error _ => 1
  | .ok none => 2
  | .ok (some (p, _)) => 3 + p

example :
    denFuelTag (Den.run { text := [97], args := [] , hasBackref := false } (decode ⟨#[17, 3, 0, 13, 6, 0, 0, 1, 97], #[]⟩) 2 0
      (initSt { text := [97], args := [], hasBackref := false } 1024) 0) = 0
    ∧ denFuelTag (Den.run { text := [97], args := [], hasBackref := false } (decode ⟨#[17, 3, 0, 13, 6, 0, 0, 1, 97], #[]⟩) 3 0
      (initSt { text := [97], args := [], hasBackref := false } 1024) 0) = 4 := by
  decide

end JanetModel.Props.C12
