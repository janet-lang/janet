/-
C04 — tables, structs, arrays and buffers behave as maps and sequences (models: Table/Model.lean, Seq/Model.lean; lemmas:
the other files of Table/ and Seq/).  The abstraction of a table is the function `k ↦ rawget t k` (nil = absent), so
"putting nil removes" is part of the map update itself.  `Inv` carries the counting part, from which `no_null_deref`
follows: `janet_dict_find` never returns NULL where table.c dereferences its result, so no theorem needs a side
condition on the run.
-/
import JanetModel.Table.Pow2
import JanetModel.Table.StructLemmas
import JanetModel.Table.StructBuild
import JanetModel.Table.StructDup
import JanetModel.Seq.BufOps

namespace JanetModel.Props.C04
open JanetModel.Table JanetModel.Gen.Table


structure Inv (h : Nat → Nat) (t : Table) : Prop where
  /-- no duplicate keys, probe-path property, stored values non-nil -/
  d : DInv h t.data
  /-- no NULL bucket was dereferenced -/
  ok : t.bad = false
  /-- count = #keys, deleted = #tombstones, 0 < capacity, 2 * (count + deleted) ≤ capacity -/
  c : CInv t

/-- the finite map a table stands for: key ↦ value, nil = absent -/
def abs (h : Nat → Nat) (t : Table) : Nat → Val := fun k => t.rawget h k

/-- operations of a history (clone is the identity on the value level; get / in / rawget / next / length do not
change the table) -/
inductive Op where
  | put (k : KArg) (v : Val)
  | remove (k : Nat)
  | clear
  | merge (kvs : List Slot)
  | setproto (p : Option Nat)

def step (h : Nat → Nat) (t : Table) : Op → Table
  | .put k v => t.put h k v
  | .remove k => (t.remove h k).1
  | .clear => t.clear
  | .merge kvs => t.mergekv h kvs
  | .setproto p => { t with proto := p }

def run (h : Nat → Nat) (t : Table) (ops : List Op) : Table := ops.foldl (step h) t

/-- reference semantics on finite maps -/
def upd (m : Nat → Val) (k : Nat) (v : Val) : Nat → Val := fun k' => if k' = k then v else m k'

def specStep (m : Nat → Val) : Op → (Nat → Val)
  | .put (.key k) v => upd m k v            -- a nil value erases
  | .put _ _ => m                            -- nil and NaN keys are ignored
  | .remove k => upd m k vNil
  | .clear => fun _ => vNil
  | .merge kvs => kvs.foldl (fun m kv => match kv.key with | some k => upd m k kv.val | none => m) m
  | .setproto _ => m

theorem inv_init (h : Nat → Nat) (n : Nat) : Inv h (Table.init n) :=
  ⟨DInv.replicate h _, rfl, CInv.init n⟩

theorem abs_init (h : Nat → Nat) (n : Nat) (k : Nat) : abs h (Table.init n) k = vNil :=
  rawget_miss fun i => key_replicate _ i k

theorem inv_clear (h : Nat → Nat) (t : Table) (inv : Inv h t) : Inv h t.clear :=
  ⟨DInv.replicate h _, inv.ok, inv.c.clear⟩

theorem abs_clear (h : Nat → Nat) (t : Table) (k : Nat) : abs h t.clear k = vNil :=
  rawget_miss fun i => key_replicate _ i k

theorem inv_clone (h : Nat → Nat) (t : Table) (inv : Inv h t) : Inv h t.clone :=
  ⟨inv.d, inv.ok, inv.c.congr rfl rfl rfl⟩

theorem abs_clone (h : Nat → Nat) (t : Table) (k : Nat) : abs h t.clone k = abs h t k := rfl

theorem inv_remove (h : Nat → Nat) (t : Table) (inv : Inv h t) (k : Nat) : Inv h (t.remove h k).1 :=
  ⟨(remove_inv inv.d inv.c k).1, (remove_frame h t k).2.1.trans inv.ok, (remove_inv inv.d inv.c k).2.1⟩

theorem abs_remove (h : Nat → Nat) (t : Table) (inv : Inv h t) (k : Nat) :
    abs h (t.remove h k).1 = upd (abs h t) k vNil ∧ (t.remove h k).2 = abs h t k :=
  ⟨funext (remove_inv inv.d inv.c k).2.2.2, (remove_inv inv.d inv.c k).2.2.1⟩

/-- `janet_table_rehash` to any size with at least half of the buckets free keeps the invariant and the abstraction -/
theorem inv_rehash (h : Nat → Nat) (t : Table) (inv : Inv h t) (n : Nat) (hn : 2 * t.count ≤ n) (hpos : t.count < n) :
    Inv h (t.rehash h n) ∧ abs h (t.rehash h n) = abs h t := by
  obtain ⟨d', c', hbad, hmap⟩ := rehash_inv (h := h) inv.d inv.c n hn hpos
  exact ⟨⟨d', hbad.trans inv.ok, c'⟩, funext hmap⟩

/-- **no NULL dereference**: from a state satisfying the invariant, `janet_table_put` never meets a NULL bucket -/
theorem no_null_deref (h : Nat → Nat) (t : Table) (inv : Inv h t) (k : KArg) (v : Val) : (t.put h k v).bad = false :=
  Table.put_cases (P := fun r => r.bad = false) inv.ok fun k => (putKey_inv inv.d inv.c k v).2.2.1.trans inv.ok

theorem inv_put (h : Nat → Nat) (t : Table) (inv : Inv h t) (k : KArg) (v : Val) : Inv h (t.put h k v) :=
  Table.put_cases inv fun k =>
    ⟨(putKey_inv inv.d inv.c k v).1, no_null_deref h t inv (.key k) v, (putKey_inv inv.d inv.c k v).2.1⟩

/-- `put` is the finite-map update; putting nil removes; nil / NaN keys are ignored -/
theorem abs_put (h : Nat → Nat) (t : Table) (inv : Inv h t) (k : KArg) (v : Val) :
    abs h (t.put h k v) = specStep (abs h t) (.put k v) := by
  cases k with
  | nil => rfl
  | nan => rfl
  | key k => exact funext (putKey_inv inv.d inv.c k v).2.2.2

theorem inv_putKey (h : Nat → Nat) (t : Table) (inv : Inv h t) (k : Nat) (v : Val) :
    Inv h (t.putKey h k v) ∧ abs h (t.putKey h k v) = upd (abs h t) k v :=
  ⟨inv_put h t inv (.key k) v, abs_put h t inv (.key k) v⟩

theorem inv_merge (h : Nat → Nat) (kvs : List Slot) (t : Table) (inv : Inv h t) :
    Inv h (t.mergekv h kvs) ∧ abs h (t.mergekv h kvs) = specStep (abs h t) (.merge kvs) := by
  refine Util.foldl_sim (R := fun t m => Inv h t ∧ abs h t = m) (fun t m kv r => ?_) kvs t (abs h t) ⟨inv, rfl⟩
  cases kv.key with
  | none => exact r
  | some k => exact r.2 ▸ inv_putKey h t r.1 k kv.val

theorem abs_merge (h : Nat → Nat) (kvs : List Slot) (t : Table) (inv : Inv h t) :
    abs h (t.mergekv h kvs) = specStep (abs h t) (.merge kvs) := (inv_merge h kvs t inv).2

theorem step_refines (h : Nat → Nat) (t : Table) (inv : Inv h t) (op : Op) :
    Inv h (step h t op) ∧ abs h (step h t op) = specStep (abs h t) op := by
  cases op with
  | put k v => exact ⟨inv_put h t inv k v, abs_put h t inv k v⟩
  | remove k => exact ⟨inv_remove h t inv k, (abs_remove h t inv k).1⟩
  | clear => exact ⟨inv_clear h t inv, funext (fun k => abs_clear h t k)⟩
  | merge kvs => exact inv_merge h kvs t inv
  | setproto p => exact ⟨⟨inv.d, inv.ok, inv.c.congr rfl rfl rfl⟩, rfl⟩

/-- **Refinement, for all operation sequences**: from any table satisfying the invariant (in particular a fresh
one), after any list of operations the table satisfies the invariant — so no NULL bucket was dereferenced, `count` is
the number of keys, `deleted` the number of tombstones — and equals, as a map, the finite map obtained by replaying the
same puts and removals. -/
theorem inv_reachable (h : Nat → Nat) (ops : List Op) (t : Table) (inv : Inv h t) :
    Inv h (run h t ops) ∧ abs h (run h t ops) = ops.foldl specStep (abs h t) :=
  Util.foldl_sim (R := fun t m => Inv h t ∧ abs h t = m) (fun t _ op r => r.2 ▸ step_refines h t r.1 op) ops t (abs h t) ⟨inv, rfl⟩

theorem abs_run (h : Nat → Nat) (ops : List Op) (n : Nat) (k : Nat) :
    (run h (Table.init n) ops).rawget h k = ops.foldl specStep (fun _ => vNil) k := by
  have := (inv_reachable h ops (Table.init n) (inv_init h n)).2
  have e : abs h (Table.init n) = fun _ => vNil := funext (fun k => abs_init h n k)
  rw [e] at this
  exact congrFun this k

/-- `length` (the `count` field) is the number of entries; `deleted` is the number of tombstones -/
theorem length_eq_card (h : Nat → Nat) (t : Table) (inv : Inv h t) :
    t.count = (keysOf t.data).length ∧ t.deleted = nTomb t.data ∧
      (keysOf t.data).Nodup ∧ ∀ k, k ∈ keysOf t.data ↔ abs h t k ≠ vNil := by
  refine ⟨?_, inv.c.del, (iterNext_all inv.d).2.1, (iterNext_all inv.d).2.2⟩
  rw [inv.c.cnt]
  unfold nLive keysOf
  rw [← Array.countP_toList, List.length_filterMap_eq_countP]
  rfl

/-- after any history from a fresh table: `count` = number of keys in the buckets, and no NULL bucket was dereferenced -/
theorem length_reachable (h : Nat → Nat) (ops : List Op) (n : Nat) :
    (run h (Table.init n) ops).count = (keysOf (run h (Table.init n) ops).data).length ∧
      (run h (Table.init n) ops).bad = false :=
  ⟨(length_eq_card h _ (inv_reachable h ops _ (inv_init h n)).1).1, (inv_reachable h ops _ (inv_init h n)).1.ok⟩


theorem proto_putKey (h : Nat → Nat) (t : Table) (k : Nat) (v : Val) : (t.putKey h k v).proto = t.proto :=
  (putKey_frame h t k v).1

theorem proto_put (h : Nat → Nat) (t : Table) (k : KArg) (v : Val) : (t.put h k v).proto = t.proto :=
  Table.put_cases (P := fun r => r.proto = t.proto) rfl fun k => proto_putKey h t k v

theorem proto_mergekv (h : Nat → Nat) (kvs : List Slot) (t : Table) : (t.mergekv h kvs).proto = t.proto := by
  refine Util.foldl_inv (P := fun r => r.proto = t.proto) (fun r kv hr => ?_) kvs t rfl
  cases kv.key with
  | none => exact hr
  | some k => exact (proto_putKey h r k kv.val).trans hr

/-- only `table/setproto` changes the prototype link: `put`, `remove`, `clear`, `merge-into` keep it -/
theorem proto_step (h : Nat → Nat) (t : Table) (op : Op) (hs : ∀ p, op ≠ .setproto p) : (step h t op).proto = t.proto := by
  cases op with
  | put k v => exact proto_put h t k v
  | remove k => exact (remove_frame h t k).1
  | clear => rfl
  | merge kvs => exact proto_mergekv h kvs t
  | setproto p => exact absurd rfl (hs p)

theorem mergeNew_eq_run (h : Nat → Nat) (colls : List (List Slot)) :
    mergeNew h colls = run h (Table.init 0) (colls.map Op.merge) := by
  unfold mergeNew run
  rw [List.foldl_map]
  rfl

/-- **boot.janet `merge` returns a table without a prototype**, whatever prototypes its arguments carry (the model
of `merge` is the shape the translator asserts on boot.janet: a fresh `@{}` filled by `put`) ... -/
theorem merge_proto_none (h : Nat → Nat) (colls : List (List Slot)) : (mergeNew h colls).proto = none :=
  Util.foldl_inv (P := fun r => r.proto = none) (fun r kvs hr => (proto_mergekv h kvs r).trans hr) colls _ rfl

/-- ... and is, as a map, the replay of its arguments' entries from the empty map (invariant included) -/
theorem merge_new_spec (h : Nat → Nat) (colls : List (List Slot)) :
    Inv h (mergeNew h colls) ∧ abs h (mergeNew h colls) = (colls.map Op.merge).foldl specStep (fun _ => vNil) := by
  rw [mergeNew_eq_run]
  have := inv_reachable h (colls.map Op.merge) (Table.init 0) (inv_init h 0)
  have e : abs h (Table.init 0) = fun _ => vNil := funext (fun k => abs_init h 0 k)
  rw [e] at this
  exact this

/-- `zipcoll`, `from-pairs`, `tabseq`: likewise a fresh table filled by `put`, hence no prototype -/
theorem fromPuts_proto_none (h : Nat → Nat) (kvs : List (KArg × Val)) : (fromPuts h kvs).proto = none :=
  Util.foldl_inv (P := fun r => r.proto = none) (fun r kv hr => (proto_put h r kv.1 kv.2).trans hr) kvs _ rfl

/-- `table/proto-flatten` walks a bounded number of prototypes (the generated shape of its loop): it terminates on a
cyclic prototype chain -/
theorem flatten_terminates : flattenBounded = true := by decide


def IsPow2 (n : Nat) : Prop := ∃ e, n = 2 ^ e

/-- a fresh table (`janet_table(n)`, `n` an `int32_t`) has a power-of-two capacity -/
theorem capacity_pow2_init (n : Nat) (hn : n < 2 ^ 32) : IsPow2 (Table.init n).data.size := by
  obtain ⟨e, he⟩ := tablen_pow2 n hn
  exact ⟨e, by simp [Table.init, he]⟩

/-! ### capacity is a power of two in every reachable state

`count` grows by at most one per stored entry, so a bound on the number of entries a history can store bounds every
intermediate `2 * count + 2` below 2^32, which is all the size `capacity_pow2_step` asks for.  The bound
2^30 is the C's own limit: beyond it `2 * count + 2` overflows `int32_t` in `janet_table_put`. -/

theorem count_putKey_le (h : Nat → Nat) (t : Table) (k : Nat) (v : Val) : (t.putKey h k v).count ≤ t.count + 1 :=
  (putKey_frame h t k v).2.1

/-- `put` keeps the capacity a power of two while `count` is below 2^31 - 1 -/
theorem pow2_putKey (h : Nat → Nat) (t : Table) (hp : IsPow2 t.data.size) (hc : t.count < 2 ^ 31 - 1) (k : Nat) (v : Val) :
    IsPow2 (t.putKey h k v).data.size := by
  rcases (putKey_frame h t k v).2.2 with e | e
  · rw [e]; exact hp
  · rw [e]
    obtain ⟨e', he'⟩ := tablen_pow2 (2 * t.count + 2) (by omega)
    exact ⟨e', by unfold rehashSize; exact he'⟩

theorem pow2_mergekv (h : Nat → Nat) (kvs : List Slot) : ∀ (t : Table), IsPow2 t.data.size →
    t.count + kvs.length < 2 ^ 31 - 1 →
    IsPow2 (t.mergekv h kvs).data.size ∧ (t.mergekv h kvs).count ≤ t.count + kvs.length := by
  induction kvs with
  | nil => intro t hp _; exact ⟨hp, Nat.le_refl _⟩
  | cons kv rest ih =>
    intro t hp hb
    rw [mergekv_cons]
    simp only [List.length_cons] at hb ⊢
    cases hk : kv.key with
    | none =>
      simp only []
      have := ih t hp (by omega)
      exact ⟨this.1, by omega⟩
    | some k =>
      simp only []
      have hc := count_putKey_le h t k kv.val
      have := ih (t.putKey h k kv.val) (pow2_putKey h t hp (by omega) k kv.val) (by omega)
      exact ⟨this.1, by omega⟩

/-- number of entries an operation can add -/
def Op.weight : Op → Nat
  | .put _ _ => 1
  | .merge kvs => kvs.length
  | _ => 0

theorem pow2_step_bounded (h : Nat → Nat) (t : Table) (hp : IsPow2 t.data.size) (op : Op)
    (hb : t.count + op.weight < 2 ^ 31 - 1) :
    IsPow2 (step h t op).data.size ∧ (step h t op).count ≤ t.count + op.weight := by
  cases op with
  | put k v =>
    simp only [Op.weight] at hb
    exact Table.put_cases (P := fun r => IsPow2 r.data.size ∧ r.count ≤ t.count + 1) ⟨hp, Nat.le_succ _⟩
      fun k => ⟨pow2_putKey h t hp (by omega) k v, count_putKey_le h t k v⟩
  | remove k =>
    refine ⟨?_, ?_⟩
    · show IsPow2 (t.remove h k).1.data.size; rw [(remove_frame h t k).2.2.2]; exact hp
    · exact (remove_frame h t k).2.2.1
  | clear =>
    refine ⟨?_, ?_⟩
    · show IsPow2 (Array.replicate t.data.size Slot.empty).size; simpa using hp
    · show (0 : Nat) ≤ _; omega
  | merge kvs => exact pow2_mergekv h kvs t hp hb
  | setproto p => exact ⟨hp, Nat.le_refl _⟩

/-- every operation keeps the capacity a power of two, as long as the current capacity fits an `int32_t` (beyond that
the C overflows `2 * count + 2` anyway) -/
theorem capacity_pow2_step (h : Nat → Nat) (t : Table) (inv : Inv h t) (hp : IsPow2 t.data.size)
    (hs : t.data.size < 2 ^ 31) (op : Op) (hm : ∀ kvs, op ≠ .merge kvs) : IsPow2 (step h t op).data.size := by
  have hc : t.count + 1 < 2 ^ 31 - 1 := by have := inv.c.room; omega
  refine (pow2_step_bounded h t hp op (Nat.lt_of_le_of_lt (Nat.add_le_add_left ?_ _) hc)).1
  cases op with
  | merge kvs => exact absurd rfl (hm kvs)
  | put _ _ => exact Nat.le_refl 1
  | _ => exact Nat.zero_le 1

/-- `merge` is the corresponding sequence of puts -/
theorem merge_eq_puts (h : Nat → Nat) (kvs : List Slot) (t : Table) :
    step h t (.merge kvs) = run h t (kvs.filterMap (fun kv => kv.key.map (fun k => Op.put (.key k) kv.val))) := by
  induction kvs generalizing t with
  | nil => rfl
  | cons kv rest ih =>
    have e : step h t (.merge (kv :: rest)) = step h (match kv.key with | some k => t.putKey h k kv.val | none => t) (.merge rest) :=
      mergekv_cons h t kv rest
    rw [e, ih]
    cases hk : kv.key with
    | none => simp [hk]
    | some k => simp [hk, run, step, Table.put]

/-- **capacity_pow2 for all reachable states**: from any table whose capacity is a power of two, after any list of
operations that can store fewer than 2^30 entries in total, the capacity is a power of two -/
theorem capacity_pow2_reachable (h : Nat → Nat) (ops : List Op) : ∀ (t : Table), IsPow2 t.data.size →
    t.count + (ops.map Op.weight).sum < 2 ^ 30 → IsPow2 (run h t ops).data.size := by
  induction ops with
  | nil => intro t hp _; exact hp
  | cons op rest ih =>
    intro t hp hb
    simp only [List.map_cons, List.sum_cons] at hb
    have hs := pow2_step_bounded h t hp op (by omega)
    have := ih (step h t op) hs.1 (by omega)
    simpa [run] using this

/-- ... in particular from a fresh table -/
theorem capacity_pow2_run (h : Nat → Nat) (ops : List Op) (n : Nat) (hn : n < 2 ^ 32)
    (hb : (ops.map Op.weight).sum < 2 ^ 30) : IsPow2 (run h (Table.init n) ops).data.size :=
  capacity_pow2_reachable h ops (Table.init n) (capacity_pow2_init n hn) (by simpa [Table.init] using hb)

/-- `rawget` reads exactly the bucket array: present key ↦ its value, absent key ↦ nil -/
theorem rawget_spec (h : Nat → Nat) (t : Table) (inv : Inv h t) (k : Nat) :
    (∀ i, (slotAt t.data i).key = some k → t.rawget h k = (slotAt t.data i).val ∧ t.rawget h k ≠ vNil) ∧
    ((∀ i, (slotAt t.data i).key ≠ some k) → t.rawget h k = vNil) :=
  rawgetD_spec inv.d k

/-- `get` / `in`: first hit along the prototype chain, one level per unit of `fuel` (`tableGet` starts the walk with the
generated `JANET_MAX_PROTO_DEPTH`) -/
theorem get_spec (h : Nat → Nat) (heap : Nat → Option Table) (hinv : ∀ r t, heap r = some t → Inv h t)
    (k : Nat) (fuel : Nat) (r : Nat) :
    getChain h heap k (fuel + 1) (some r) =
      match heap r with
      | none => vNil
      | some t => if t.rawget h k ≠ vNil then t.rawget h k else getChain h heap k fuel t.proto := by
  conv => lhs; unfold getChain
  cases hr : heap r with
  | none => rfl
  | some t =>
    exact rawgetD_or (hinv r t hr).d k _

/-- the walk stops when the fuel is used up -/
theorem get_depth_cutoff (h : Nat → Nat) (heap : Nat → Option Table) (k : Nat) (r : Option Nat) :
    getChain h heap k 0 r = vNil := by
  cases r <;> rfl

/-- only lookups consult the prototype: `rawget`, `next`, `length` do not depend on it (and `put` / `remove`
never read the field: it does not occur in their definitions) -/
theorem proto_irrelevant (h : Nat → Nat) (t : Table) (p : Option Nat) (k : Nat) :
    ({ t with proto := p }).rawget h k = t.rawget h k ∧
    dictNext h ({ t with proto := p }).data (some k) = dictNext h t.data (some k) ∧
    dictNext h ({ t with proto := p }).data none = dictNext h t.data none ∧
    ({ t with proto := p }).count = t.count :=
  ⟨rfl, rfl, rfl, rfl⟩

/-- **iteration visits every key exactly once**: `next` from nil, repeated until it answers nil, enumerates the keys
in bucket order; that list has no duplicates and contains exactly the keys present in the map -/
theorem next_visits_each_key_once (h : Nat → Nat) (t : Table) (inv : Inv h t) :
    iterNext h t.data (t.data.size + 1) none = keysOf t.data ∧ (keysOf t.data).Nodup ∧
      ∀ k, k ∈ keysOf t.data ↔ abs h t k ≠ vNil :=
  iterNext_all inv.d

/-- the capacity a rehash chooses (generated `rehashSize`) exceeds twice the live count plus two: after a rehash at
least half of the buckets are empty -/
theorem rehash_has_room (count : Nat) : 2 * count + 2 < rehashSize count := by
  unfold rehashSize
  exact tablen_gt _

/-- evaluation: a history with two colliding keys, a removal and a rehash -/
example : (run (fun _ => 7) (Table.init 0)
    [.put (.key 1) 5, .put (.key 2) 6, .put (.key 3) 7, .remove 2, .put (.key 4) 1, .put (.key 1) 0]).deleted = 2 := by decide

/- `SInv h s` (Table/StructLemmas.lean) = the bucket array of the struct satisfies the same structural invariant as a
table's (`DInv`) and has no tombstone.  Under it `janet_struct_find` reads the array exactly as `janet_dict_find`
does.  `checkSInv` / `certToStruct` are executable checks of the invariant and of "same map" (sound: Table/StructLemmas.lean);
`jm_c04` evaluates them, as a second check, on every struct a history builds (`mkstruct`, `withproto`, `tostruct`,
`freeze`), the very struct whose slot array is compared with the implementation's. -/

theorem struct_inv_of_check (h : Nat → Nat) (s : Struct) (hc : checkSInv h s.data = true) : SInv h s :=
  ⟨(checkSInv_sound h s.data hc).1, (checkSInv_sound h s.data hc).2⟩

/-- `struct/rawget` reads exactly the bucket array: present key ↦ its non-nil value, absent key ↦ nil -/
theorem struct_rawget_spec (h : Nat → Nat) (s : Struct) (inv : SInv h s) (k : Nat) :
    (∀ i, (slotAt s.data i).key = some k → s.rawget h k = (slotAt s.data i).val ∧ s.rawget h k ≠ vNil) ∧
    ((∀ i, (slotAt s.data i).key ≠ some k) → s.rawget h k = vNil) :=
  struct_rawget_eq_dict inv k ▸ rawgetD_spec inv.d k

/-- **struct lookups fall back along the struct prototype chain** (`janet_struct_get_ex`): the struct's own entry if
it has one, else the prototype's answer, one level per unit of `fuel` -/
theorem struct_get_spec (h : Nat → Nat) (heap : Nat → Option Struct) (hinv : ∀ r s, heap r = some s → SInv h s)
    (k : Nat) (fuel : Nat) (r : Nat) :
    structGetChain h heap k (fuel + 1) (some r) =
      match heap r with
      | none => vNil
      | some s => if s.rawget h k ≠ vNil then s.rawget h k else structGetChain h heap k fuel s.proto :=
  JanetModel.Table.struct_get_spec h heap hinv k fuel r

theorem struct_get_depth_cutoff (h : Nat → Nat) (heap : Nat → Option Struct) (k : Nat) (r : Option Nat) :
    structGetChain h heap k 0 r = vNil := JanetModel.Table.struct_get_depth_cutoff h heap k r

/-- **only lookups consult the struct prototype**: `struct/rawget`, `next`, `length` do not depend on it
(`struct/with-proto` = same entries, another link; `struct/getproto` = the link) -/
theorem struct_proto_irrelevant (h : Nat → Nat) (s : Struct) (p : Option Nat) (k : Nat) :
    ({ s with proto := p }).rawget h k = s.rawget h k ∧
    dictNext h ({ s with proto := p }).data (some k) = dictNext h s.data (some k) ∧
    dictNext h ({ s with proto := p }).data none = dictNext h s.data none ∧
    ({ s with proto := p }).length = s.length ∧ ({ s with proto := p }).proto = p :=
  ⟨rfl, rfl, rfl, rfl, rfl⟩

/-- iteration over a struct visits every key exactly once -/
theorem struct_next_visits_each_key_once (h : Nat → Nat) (s : Struct) (inv : SInv h s) :
    iterNext h s.data (s.data.size + 1) none = keysOf s.data ∧ (keysOf s.data).Nodup ∧
      ∀ k, k ∈ keysOf s.data ↔ s.rawget h k ≠ vNil := by
  have := iterNext_all inv.d
  refine ⟨this.1, this.2.1, ?_⟩
  intro k
  rw [struct_rawget_eq_dict inv k]
  exact this.2.2 k

theorem updKV_eq : (fun (m : Nat → Val) (kv : Slot) => match kv.key with | some k => upd m k kv.val | none => m) = updKV := by
  funext m kv
  unfold updKV upd
  cases kv.key <;> rfl

/-- **`struct/to-table`**: a table without prototype, satisfying the table invariant, with exactly the struct's map -/
theorem struct_to_table_spec (h : Nat → Nat) (s : Struct) (inv : SInv h s) (c : Nat) :
    Inv h (s.toTable h c) ∧ (s.toTable h c).proto = none ∧ ∀ k, abs h (s.toTable h c) k = s.rawget h k := by
  have hm := inv_merge h s.data.toList (Table.init c) (inv_init h c)
  refine ⟨hm.1, ?_, ?_⟩
  · show ((Table.init c).mergekv h s.data.toList).proto = none
    rw [proto_mergekv]; rfl
  · intro k
    show abs h ((Table.init c).mergekv h s.data.toList) k = _
    rw [hm.2]
    show (s.data.toList.foldl (fun m kv => match kv.key with | some k => upd m k kv.val | none => m) (abs h (Table.init c))) k = _
    rw [updKV_eq, fold_buckets_eq inv.d (abs_init h c), struct_rawget_eq_dict inv k]

/-- **`table/to-struct`, certified**: when the certificate of a conversion checks (`certToStruct`, evaluated by the
model driver on every conversion of every history), the struct satisfies the struct invariant and is the same map -/
theorem to_struct_certified (h : Nat → Nat) (t : Table) (inv : Inv h t) (s : Struct) (hc : certToStruct h t s = true) :
    SInv h s ∧ ∀ k, s.rawget h k = abs h t k := by
  unfold certToStruct at hc
  rw [Bool.and_eq_true] at hc
  have si := struct_inv_of_check h s hc.1
  refine ⟨si, ?_⟩
  intro k
  rw [struct_rawget_eq_dict si k]
  exact (checkSameMap_sound inv.d si.d hc.2 k).symm

/-- **`thaw (freeze t)` / `struct/to-table (table/to-struct t)` has the same finite map** (and no prototype), for
every certified conversion -/
theorem thaw_freeze_same_map (h : Nat → Nat) (rank : Nat → Nat) (t : Table) (inv : Inv h t)
    (hc : certToStruct h t (t.toStruct h rank) = true) (c : Nat) :
    Inv h ((t.toStruct h rank).toTable h c) ∧ ((t.toStruct h rank).toTable h c).proto = none ∧
      abs h ((t.toStruct h rank).toTable h c) = abs h t := by
  have hs := to_struct_certified h t inv _ hc
  have ht := struct_to_table_spec h _ hs.1 c
  exact ⟨ht.1, ht.2.1, funext (fun k => by rw [ht.2.2 k, hs.2 k])⟩

/-- `table/rawget` / `table/getproto` / `table/setproto`: `rawget` ignores the link, `getproto` returns it -/
theorem table_rawget_ignores_proto (h : Nat → Nat) (t : Table) (p : Option Nat) (k : Nat) :
    (step h t (.setproto p)).rawget h k = t.rawget h k ∧ (step h t (.setproto p)).proto = p := ⟨rfl, rfl⟩

/-- non-vacuity: the certificate checks on a concrete conversion with colliding keys and a tombstone behind it -/
example : certToStruct (fun k => 7 * k) (run (fun k => 7 * k) (Table.init 0)
    [.put (.key 1) 5, .put (.key 9) 6, .put (.key 17) 7, .remove 9, .put (.key 4) 3])
    ((run (fun k => 7 * k) (Table.init 0)
    [.put (.key 1) 5, .put (.key 9) 6, .put (.key 17) 7, .remove 9, .put (.key 4) 3]).toStruct (fun k => 7 * k) id) = true := by decide


/-- `janet_compare` separates distinct keys (C03's subject; the harness supplies the real ranks) -/
def RankInj (rank : Nat → Nat) : Prop := ∀ a b, rank a = rank b → a = b

/-- **`janet_struct_put_ext`**, new key: the struct under construction keeps its invariant (`BInv`: `DInv`, no
tombstone, running count = number of live buckets) and gains exactly that entry -/
theorem struct_put_establishes_inv (h : Nat → Nat) (rank : Nat → Nat) (hr : RankInj rank) (replace : Bool)
    (st : StructB) (key : Nat) (v : Val) (inv : BInv h st) (hno : ∀ x, (slotAt st.data x).key ≠ some key)
    (hv : v ≠ vNil) (hroom : st.filled < st.length) :
    BInv h (structPut h rank replace st key v) ∧ (structPut h rank replace st key v).filled = st.filled + 1 ∧
    (structPut h rank replace st key v).length = st.length ∧
    ∀ k v', Ent (structPut h rank replace st key v).data k v' ↔ ((k = key ∧ v' = v) ∨ Ent st.data k v') :=
  structPut_spec h rank hr replace st key v inv hno hv hroom

/-- a fresh `janet_struct_begin(count)` satisfies the construction invariant -/
theorem struct_begin_inv (h : Nat → Nat) (count : Nat) : BInv h (structBegin count) := BInv.begin h count

/-- **`table/to-struct`, for every table satisfying the invariant**: the struct satisfies the struct invariant, has
`length` = the table's count, no prototype, and is the same finite map -/
theorem to_struct_spec (h : Nat → Nat) (rank : Nat → Nat) (hr : RankInj rank) (t : Table) (inv : Inv h t) :
    SInv h (t.toStruct h rank) ∧ (t.toStruct h rank).length = t.count ∧ (t.toStruct h rank).proto = none ∧
    (∀ k, (t.toStruct h rank).rawget h k = abs h t k) ∧
    nLive (t.toStruct h rank).data = (t.toStruct h rank).length :=
  let ⟨hs, hlen, hproto, _, hget, hlive⟩ := toStruct_spec h rank hr t inv.d inv.c.cnt
  ⟨hs, hlen, hproto, hget, hlive⟩

/-- **`struct/to-table (table/to-struct t)`**: same finite map, no prototype, table invariant -/
theorem struct_roundtrip_same_map (h : Nat → Nat) (rank : Nat → Nat) (hr : RankInj rank) (t : Table) (inv : Inv h t) (c : Nat) :
    Inv h ((t.toStruct h rank).toTable h c) ∧ ((t.toStruct h rank).toTable h c).proto = none ∧
      abs h ((t.toStruct h rank).toTable h c) = abs h t := by
  have hs := to_struct_spec h rank hr t inv
  have ht := struct_to_table_spec h _ hs.1 c
  exact ⟨ht.1, ht.2.1, funext (fun k => by rw [ht.2.2 k, hs.2.2.2.1 k])⟩

/-- **`struct/with-proto`** over the entries of a struct: same map, same length, the given prototype link -/
theorem with_proto_spec (h : Nat → Nat) (rank : Nat → Nat) (hr : RankInj rank) (s : Struct) (inv : SInv h s)
    (hl : s.length = nLive s.data) (p : Option Nat) :
    SInv h (s.withProto h rank p) ∧ (s.withProto h rank p).proto = p ∧ (s.withProto h rank p).length = s.length ∧
    (∀ k, (s.withProto h rank p).rawget h k = s.rawget h k) ∧
    (s.withProto h rank p).length = nLive (s.withProto h rank p).data := by
  obtain ⟨hs, hlen, _, _, hget, hlive⟩ :=
    toStruct_spec h rank hr { count := s.length, deleted := 0, data := s.data } inv.d hl
  rw [withProto_eq]
  exact ⟨⟨hs.d, hs.nt⟩, rfl, hlen, fun k => (hget k).trans (struct_rawget_eq_dict inv k).symm, hlive.symm⟩

theorem fromPuts_eq_run (h : Nat → Nat) (kvs : List (KArg × Val)) :
    fromPuts h kvs = run h (Table.init 0) (kvs.map (fun kv => Op.put kv.1 kv.2)) := by
  unfold fromPuts run
  rw [List.foldl_map]
  rfl

theorem specStep_puts (t : Table) (m : Nat → Val) :
    ((putsOf t).map (fun kv => Op.put kv.1 kv.2)).foldl specStep m = (liveOf t.data).foldl updKV m := by
  unfold putsOf
  generalize liveOf t.data = l
  induction l generalizing m with
  | nil => rfl
  | cons a rest ih =>
    simp only [List.map_cons, List.foldl_cons]
    rw [ih]
    congr 1
    unfold updKV
    cases a.key with
    | none => rfl
    | some k => rfl

/-- a fresh `@{}` filled by `put` with the entries of `t` in iteration order (boot.janet `walk-dict`, the `temp-tab` of
`freeze`, `tabseq [[k v] :pairs t] k v`): table invariant, no prototype, the same finite map -/
theorem fromPuts_putsOf_spec (h : Nat → Nat) (t : Table) (inv : Inv h t) :
    Inv h (fromPuts h (putsOf t)) ∧ (fromPuts h (putsOf t)).proto = none ∧ abs h (fromPuts h (putsOf t)) = abs h t := by
  refine ⟨?_, fromPuts_proto_none h _, ?_⟩
  · rw [fromPuts_eq_run]; exact (inv_reachable h _ _ (inv_init h 0)).1
  · rw [fromPuts_eq_run, (inv_reachable h _ _ (inv_init h 0)).2]
    rw [specStep_puts]
    unfold liveOf
    rw [foldl_updKV_filter]
    exact funext (fold_buckets_eq inv.d (abs_init h 0))

/-- **`thaw`** of a (flattened) table with keys / values that thaw to themselves: a new table, no prototype, same map -/
theorem thaw_flat_spec (h : Nat → Nat) (t : Table) (inv : Inv h t) :
    Inv h (thawFlat h t) ∧ (thawFlat h t).proto = none ∧ abs h (thawFlat h t) = abs h t :=
  fromPuts_putsOf_spec h t inv

/-- **one level of `freeze`**: an immutable struct satisfying the struct invariant with the same finite map -/
theorem freeze_level_spec (h : Nat → Nat) (rank : Nat → Nat) (hr : RankInj rank) (t : Table) (inv : Inv h t) :
    SInv h (freezeLevel h rank t) ∧ (∀ k, (freezeLevel h rank t).rawget h k = abs h t k) ∧
    (freezeLevel h rank t).length = t.count := by
  have hp := fromPuts_putsOf_spec h t inv
  have hs := to_struct_spec h rank hr (fromPuts h (putsOf t)) hp.1
  refine ⟨hs.1, fun k => by rw [← hp.2.2]; exact hs.2.2.2.1 k, ?_⟩
  show ((fromPuts h (putsOf t)).toStruct h rank).length = t.count
  rw [hs.2.1, (length_eq_card h _ hp.1).1, (length_eq_card h t inv).1]
  have h1 := length_eq_card h _ hp.1
  have h2 := length_eq_card h t inv
  apply List.Perm.length_eq
  rw [List.perm_ext_iff_of_nodup h1.2.2.1 h2.2.2.1]
  intro k
  rw [h1.2.2.2 k, h2.2.2.2 k, hp.2.2]

/-- **`thaw (freeze t)`**: a mutable table again, with the same finite map and no prototype -/
theorem thaw_freeze_level_same_map (h : Nat → Nat) (rank : Nat → Nat) (hr : RankInj rank) (t : Table) (inv : Inv h t) (c : Nat) :
    Inv h (thawFlat h ((freezeLevel h rank t).toTable h c)) ∧ (thawFlat h ((freezeLevel h rank t).toTable h c)).proto = none ∧
    abs h (thawFlat h ((freezeLevel h rank t).toTable h c)) = abs h t := by
  have hf := freeze_level_spec h rank hr t inv
  have ht := struct_to_table_spec h _ hf.1 c
  have hw := thaw_flat_spec h _ ht.1
  exact ⟨hw.1, hw.2.1, by rw [hw.2.2]; exact funext (fun k => by rw [ht.2.2 k, hf.2.1 k])⟩

/-- **`janet_struct_end`** (including the rebuild when fewer entries arrived than announced): struct invariant, the
entries of the builder, `length` = number of live buckets, no prototype -/
theorem struct_end_spec (h : Nat → Nat) (rank : Nat → Nat) (hr : RankInj rank) (b : StructB) (inv : BInv h b) :
    SInv h (structEnd h rank b) ∧ (∀ k v, Ent (structEnd h rank b).data k v ↔ Ent b.data k v) ∧
    (structEnd h rank b).length = b.filled ∧ nLive (structEnd h rank b).data = (structEnd h rank b).length ∧
    (structEnd h rank b).proto = none :=
  structEnd_spec h rank hr b inv

/-- **struct literals / `struct` / `struct/with-proto` with pairwise distinct keys**: the struct invariant holds and
the entries are exactly the arguments whose value is not nil (a nil value drops the pair) -/
theorem struct_literal_spec (h : Nat → Nat) (rank : Nat → Nat) (hr : RankInj rank) (kvs : List (Nat × Val))
    (hd : kvs.Pairwise (fun s s' => s.1 ≠ s'.1)) (n : Nat) (hn : kvs.length ≤ n) :
    SInv h (structEnd h rank (putArgs h rank (structBegin n) kvs)) ∧
    (∀ k v, Ent (structEnd h rank (putArgs h rank (structBegin n) kvs)).data k v ↔ ((k, v) ∈ kvs ∧ v ≠ vNil)) ∧
    nLive (structEnd h rank (putArgs h rank (structBegin n) kvs)).data =
      (structEnd h rank (putArgs h rank (structBegin n) kvs)).length :=
  structLiteral_spec h rank hr kvs hd n hn

/-- evaluation: a literal with colliding keys and a nil value: two entries survive, the struct is rebuilt -/
example : (structEnd (fun k => 7 * k) id (putArgs (fun k => 7 * k) id (structBegin 3) [(1, 5), (9, 0), (17, 7)])).length = 2 := by decide

/-- non-vacuity: the hypotheses hold for a concrete table with colliding keys and a tombstone; the struct built from
it has the three entries -/
example : ((run (fun k => 7 * k) (Table.init 0)
    [.put (.key 1) 5, .put (.key 9) 6, .put (.key 17) 7, .remove 9, .put (.key 4) 3]).toStruct (fun k => 7 * k) id).length = 3 := by decide
example : RankInj id := fun _ _ e => e
example : (freezeLevel (fun k => 7 * k) id (run (fun k => 7 * k) (Table.init 0)
    [.put (.key 1) 5, .put (.key 9) 6, .put (.key 17) 7, .remove 9])).rawget (fun k => 7 * k) 17 = 7 := by decide


/-- **`janet_struct_put_ext`, the `status == 0` path**: putting a key that is already stored (in bucket `p`) into a
struct under construction changes nothing but that bucket's value -/
theorem struct_put_existing_key (h : Nat → Nat) (rank : Nat → Nat) (st : StructB) (key : Nat) (v : Val) (p : Nat)
    (inv : OBInv h rank st) (hp : (slotAt st.data p).key = some key) (hv : v ≠ vNil) (hroom : st.filled < st.length) :
    structPut h rank true st key v = { st with data := st.data.setIfInBounds p ⟨some key, v⟩ } :=
  structPut_dup h rank st key v p inv hp hv hroom

/-- **`janet_struct_put_ext`, any key**: the construction invariant WITH the ordering of the layout (`OBInv`) is kept;
a new key is added, a stored key gets the new value, every other entry stays -/
theorem struct_put_any_key (h : Nat → Nat) (rank : Nat → Nat) (hr : RankInj rank)
    (st : StructB) (key : Nat) (v : Val) (inv : OBInv h rank st) (hv : v ≠ vNil) (hroom : st.filled < st.length) :
    OBInv h rank (structPut h rank true st key v) ∧
    (structPut h rank true st key v).filled ≤ st.filled + 1 ∧
    (structPut h rank true st key v).length = st.length ∧
    ∀ k v', Ent (structPut h rank true st key v).data k v' ↔ ((k = key ∧ v' = v) ∨ (k ≠ key ∧ Ent st.data k v')) :=
  structPut_any h rank hr st key v inv hv hroom

/-- a fresh `janet_struct_begin(count)` satisfies the construction invariant with ordering (`2 * count` fits the
`int32_t` capacity computation, as everywhere in struct.c) -/
theorem struct_begin_ordered (h : Nat → Nat) (rank : Nat → Nat) (count : Nat) (hc : 2 * count < 2 ^ 32) :
    OBInv h rank (structBegin count) := OBInv.begin h rank count hc

/-- **struct literals / `struct` / `struct/with-proto` with ANY arguments, repeated keys included**: the struct
invariant holds, `length` = number of live buckets, no prototype, and lookup gives the LAST non-nil value that the
argument list holds for the key (nil when there is none) -/
theorem struct_last_value_wins (h : Nat → Nat) (rank : Nat → Nat) (hr : RankInj rank)
    (kvs : List (Nat × Val)) (n : Nat) (hn : kvs.length ≤ n) (hc : 2 * n < 2 ^ 32) :
    SInv h (structEnd h rank (putArgs h rank (structBegin n) kvs)) ∧
    (∀ k, (structEnd h rank (putArgs h rank (structBegin n) kvs)).rawget h k = (litMap kvs (fun _ => none) k).getD vNil) ∧
    (∀ k v, Ent (structEnd h rank (putArgs h rank (structBegin n) kvs)).data k v ↔ litMap kvs (fun _ => none) k = some v) ∧
    nLive (structEnd h rank (putArgs h rank (structBegin n) kvs)).data =
      (structEnd h rank (putArgs h rank (structBegin n) kvs)).length ∧
    (structEnd h rank (putArgs h rank (structBegin n) kvs)).proto = none := by
  obtain ⟨r1, r2, r3, r4⟩ := structLiteral_any h rank hr kvs n hn hc
  refine ⟨r1, ?_, r2, r3, r4⟩
  intro k
  rw [struct_rawget_eq_dict r1 k]
  cases hm : litMap kvs (fun _ => none) k with
  | none =>
    rw [Option.getD_none]
    apply rawgetD_miss
    intro i hi
    have := (r2 k _).mp ⟨i, hi, rfl⟩
    rw [hm] at this; cases this
  | some v =>
    rw [Option.getD_some]
    obtain ⟨i, hi, hv⟩ := (r2 k v).mpr hm
    rw [rawgetD_hit r1.d hi, hv]

/-- evaluation: keys 1, 9, 17 collide (capacity 16, `h k = 7 * k`, all home bucket 7); key 1 and key 9 are repeated,
one repeat has a nil value (dropped): the last non-nil values win, three entries, the struct is rebuilt -/
example : let s := structEnd (fun k => 7 * k) id (putArgs (fun k => 7 * k) id (structBegin 6) [(1, 5), (9, 6), (1, 7), (17, 3), (9, 8), (1, 0)])
    (s.rawget (fun k => 7 * k) 1, s.rawget (fun k => 7 * k) 9, s.rawget (fun k => 7 * k) 17, s.length) = (7, 8, 3, 3) := by decide
example : litMap [(1, 5), (9, 6), (1, 7), (17, 3), (9, 8), (1, 0)] (fun _ => none) 1 = some 7 := by decide
/-- non-vacuity: `OBInv` (with the ordering invariant) holds for a builder holding colliding keys -/
example : OBInv (fun k => 7 * k) id (putArgs (fun k => 7 * k) id (structBegin 6) [(1, 5), (9, 6), (17, 3)]) :=
  (putArgs_any (fun k => 7 * k) id (fun _ _ e => e) [(1, 5), (9, 6), (17, 3)] (structBegin 6) (fun _ => none)
    (OBInv.begin _ _ 6 (by decide))
    (fun k v => ⟨fun hb => absurd hb (ent_replicate _ k v), fun hb => by cases hb⟩) (by decide)).1
example : nLive (putArgs (fun k => 7 * k) id (structBegin 6) [(1, 5), (9, 6), (17, 3)]).data = 3 := by decide

end JanetModel.Props.C04

namespace JanetModel.Props.C04
open JanetModel.Seq JanetModel.Gen.Seq

/-- `getter_checkint`: an accepted index is within `[0, max)` -/
theorem no_oob_in (key : Arg) (max : Int) (i : Int) (hi : getterCheckint key max = some i) : 0 ≤ i ∧ i < max :=
  (checkint_some hi).2

/-- `janet_in` on an array: an error or an in-range read -/
theorem no_oob_get (a : Arr) (key : Arg) : a.in key = .err ∨ ∃ i : Int, 0 ≤ i ∧ i < a.count ∧ a.in key = .val (a.cells.getD i.toNat none) := by
  unfold Arr.in
  cases hc : getterCheckint key a.count with
  | none => left; rfl
  | some i => right; exact ⟨i, (no_oob_in key _ i hc).1, (no_oob_in key _ i hc).2, rfl⟩

/-- `janet_gethalfrange`: an accepted position is within `[0, length]` -/
theorem no_oob_halfrange (a : Arg) (length r : Int) (hr : getHalfRange a length = some r) : 0 ≤ r ∧ r ≤ length :=
  halfRange_bounds a length r hr

/-- `janet_getslice`: `0 ≤ start ≤ end ≤ length` -/
theorem no_oob_slice (length : Int) (hl : 0 ≤ length) (s e : Option Arg) (st en : Int)
    (h : getSlice length s e = some (st, en)) : 0 ≤ st ∧ st ≤ en ∧ en ≤ length :=
  slice_bounds length hl s e st en h

/- `a.Abs xs` (Seq/Lemmas.lean): the first `count` cells are initialised and hold exactly the list `xs`, the storage has
the size the `capacity` field says, and both fields fit `int32_t`.  Each theorem says: from a state representing `xs`
the operation either returns the error constructor (leaving the state alone) or succeeds in a state representing the
list-level result.  Guards, gap fills and the named growth factors are the generated ones (Gen/Seq.lean). -/

/-- **count ≤ capacity** (arrays: `max capacity 0`, array/new stores a negative capacity as given) -/
theorem arr_count_le_capacity (a : Arr) (xs : List Val) (h : a.Abs xs) : (a.count : Int) ≤ max a.capacity 0 := h.count_le
theorem buf_count_le_capacity (b : Buf) (xs : List Nat) (h : b.Abs xs) : (b.count : Int) ≤ b.capacity := h.count_le

/-- **no_overflow**: in every represented state count and capacity fit `int32_t` -/
theorem no_overflow (a : Arr) (xs : List Val) (h : a.Abs xs) : (a.count : Int) ≤ i32max ∧ a.capacity ≤ i32max :=
  ⟨h.count_fits, h.fits⟩

theorem abs_new (c : Int) (hc : c ≤ i32max) : (Arr.new c).Abs [] := Arr.new_abs c hc

theorem abs_push (a : Arr) (xs : List Val) (h : a.Abs xs) (x : Val) :
    ((a.count : Int) = i32max ∧ a.push x = (a, .err)) ∨
    ((a.count : Int) < i32max ∧ (a.push x).2 = .ok ∧ (a.push x).1.Abs (xs ++ [x])) := Arr.push_abs h x

theorem abs_cfun_push (a : Arr) (xs : List Val) (h : a.Abs xs) (ys : List Val) :
    ((a.cfunPush ys) = (a, .err) ∧ (xs.length + ys.length : Int) ≥ i32max) ∨
    ((a.cfunPush ys).2 = .ok ∧ (a.cfunPush ys).1.Abs (xs ++ ys)) := Arr.cfunPush_abs h ys

theorem abs_pop (a : Arr) (xs : List Val) (h : a.Abs xs) :
    (a.pop).1.Abs xs.dropLast ∧ (a.pop).2 = .val (some (xs.getLast?.getD vNil)) := Arr.pop_abs h

theorem abs_setcount (a : Arr) (xs : List Val) (h : a.Abs xs) (c : Int) (hc : c ≤ i32max) :
    (a.setcount c).2 = .ok ∧
    (a.setcount c).1.Abs (if c < 0 then xs else if c > xs.length then xs ++ List.replicate (c.toNat - xs.length) vNil else xs.take c.toNat) :=
  Arr.setcount_abs h c hc

theorem abs_insert (a : Arr) (xs : List Val) (h : a.Abs xs) (pos : Arg) (ys : List Val) :
    (a.insert pos ys = (a, .err)) ∨
    ∃ n p : Int, pos = .int n ∧ p = (if n < 0 then (xs.length : Int) + n + 1 else n) ∧ 0 ≤ p ∧ p ≤ xs.length ∧
      (a.insert pos ys).2 = .ok ∧ (a.insert pos ys).1.Abs (xs.take p.toNat ++ ys ++ xs.drop p.toNat) := Arr.insert_abs h pos ys

theorem abs_remove_seq (a : Arr) (xs : List Val) (h : a.Abs xs) (pos : Arg) (n : Option Arg) :
    (a.remove pos n = (a, .err)) ∨
    ∃ p m : Int, 0 ≤ p ∧ p ≤ xs.length ∧ 0 ≤ m ∧ p + m ≤ xs.length ∧
      (a.remove pos n).2 = .ok ∧ (a.remove pos n).1.Abs (xs.take p.toNat ++ xs.drop (p + m).toNat) := by
  cases pos with
  | int q =>
    rcases Arr.remove_exact h q n with ⟨_, e⟩ | ⟨m0, h0, h1, _, hm0, ho, hA⟩
    · exact Or.inl e
    · generalize (if q < 0 then (xs.length : Int) + q else q) = p at h0 h1 hA
      refine Or.inr ⟨p, min m0 ((xs.length : Int) - p), h0, h1, by omega, by omega, ho, ?_⟩
      rwa [Int.toNat_add h0 (by omega)]
  | nil => exact Or.inl rfl
  | bad => exact Or.inl rfl

theorem abs_slice (xs : List Val) (hx : (xs.length : Int) ≤ i32max) (s e : Option Arg) :
    (sliceOf (xs.map some) s e = none ∧ getSlice xs.length s e = none) ∨
    ∃ st en r, getSlice xs.length s e = some (st, en) ∧ 0 ≤ st ∧ st ≤ en ∧ en ≤ xs.length ∧
      sliceOf (xs.map some) s e = some r ∧ r.Abs ((xs.drop st.toNat).take (en - st).toNat) := sliceOf_abs xs hx s e

theorem abs_fill (a : Arr) (xs : List Val) (h : a.Abs xs) (v : Val) :
    (a.fill v).2 = .ok ∧ (a.fill v).1.Abs (List.replicate xs.length v) := Arr.fill_abs h v

theorem abs_concat (ps : List SPart) (a : Arr) (xs : List Val) (h : a.Abs xs)
    (hb : ((specConcat xs ps).length : Int) ≤ i32max) :
    (a.concat (ps.map SPart.toPart)).2 = .ok ∧ (a.concat (ps.map SPart.toPart)).1.Abs (specConcat xs ps) :=
  Arr.concat_abs ps h hb

theorem abs_put_seq (a : Arr) (xs : List Val) (h : a.Abs xs) (key : Arg) (v : Val) :
    (a.put key v = (a, .err)) ∨
    ∃ i : Int, key = .int i ∧ 0 ≤ i ∧ i < i32max - 1 ∧ (a.put key v).2 = .ok ∧
      (a.put key v).1.Abs ((if i ≥ xs.length then xs ++ List.replicate (i.toNat + 1 - xs.length) vNil else xs).set i.toNat v) :=
  Arr.put_abs h key v

/-- `janet_putindex` (goes through only for the source shape that fills the gap) -/
theorem abs_putindex (a : Arr) (xs : List Val) (h : a.Abs xs) (index : Int) (v : Val) (h0 : 0 ≤ index) (h1 : index < i32max) :
    (a.putindex index v).2 = .ok ∧
    (a.putindex index v).1.Abs (if index ≥ xs.length then xs ++ List.replicate (index.toNat - xs.length) vNil ++ [v]
                                 else xs.set index.toNat v) := Arr.putindex_abs h index v h0 h1

theorem abs_trim (a : Arr) (xs : List Val) (h : a.Abs xs) : (a.trim).2 = .ok ∧ (a.trim).1.Abs xs := Arr.trim_abs h

/-- `janet_buffer_extra`: the overflow guard raises the error, otherwise there is room for `n` more bytes -/
theorem buf_extra_guard (b : Buf) (xs : List Nat) (h : b.Abs xs) (n : Int) (hn : 0 ≤ n) :
    (n + b.count > i32max ∧ b.extra n = (b, .err)) ∨
    (n + b.count ≤ i32max ∧ (b.extra n).2 = .ok ∧ (b.extra n).1.Abs xs ∧ (b.count : Int) + n ≤ (b.extra n).1.capacity ∧
      (b.extra n).1.count = b.count) := Buf.extra_abs h n

theorem abs_buf_push (b : Buf) (xs : List Nat) (h : b.Abs xs) (ys : List Nat) :
    ((xs.length : Int) + ys.length > i32max ∧ b.pushBytes (ys.map some) = (b, .err)) ∨
    ((b.pushBytes (ys.map some)).2 = .ok ∧ (b.pushBytes (ys.map some)).1.Abs (xs ++ ys)) := Buf.pushBytes_abs h ys

theorem abs_buf_setcount (b : Buf) (xs : List Nat) (h : b.Abs xs) (c : Int) (hc : c ≤ i32max) :
    (b.setcount c).2 = .ok ∧
    (b.setcount c).1.Abs (if c < 0 then xs else if c > xs.length then xs ++ List.replicate (c.toNat - xs.length) 0 else xs.take c.toNat) :=
  Buf.setcount_abs h c hc

theorem abs_buf_popn (b : Buf) (xs : List Nat) (h : b.Abs xs) (n : Arg) :
    (b.popn n = (b, .err)) ∨
    ∃ m : Int, n = .int m ∧ 0 ≤ m ∧ (b.popn n).2 = .ok ∧ (b.popn n).1.Abs (xs.take (xs.length - m.toNat)) := Buf.popn_abs h n

theorem abs_buf_fill (b : Buf) (xs : List Nat) (h : b.Abs xs) (v : Int) :
    (b.fill (some (.int v))).2 = .ok ∧ (b.fill (some (.int v))).1.Abs (List.replicate xs.length (lowByte v)) := Buf.fill_abs h v

theorem abs_buf_blit (d : Buf) (xs : List Nat) (h : d.Abs xs) (ys : List Nat) (od os ls : Int)
    (hod : 0 ≤ od ∧ od ≤ xs.length) (hos : 0 ≤ os) (hls : 0 ≤ ls) (hsrc : os + ls ≤ ys.length) :
    (od + ls > i32max ∧ d.blitCore (some (ys.map some)) ys.length od os ls = (d, .err)) ∨
    ((d.blitCore (some (ys.map some)) ys.length od os ls).2 = .ok ∧
     (d.blitCore (some (ys.map some)) ys.length od os ls).1.Abs
       (xs.take od.toNat ++ (ys.drop os.toNat).take ls.toNat ++
        xs.drop (od.toNat + ((ys.drop os.toNat).take ls.toNat).length))) :=
  (Buf.blitCore_abs h (some ys) od os ls hod hos hls hsrc).imp id fun ⟨_, ho, hA⟩ => ⟨ho, hA⟩

theorem abs_buf_blit_self (d : Buf) (xs : List Nat) (h : d.Abs xs) (od os ls : Int)
    (hod : 0 ≤ od ∧ od ≤ xs.length) (hos : 0 ≤ os) (hls : 0 ≤ ls) (hsrc : os + ls ≤ xs.length) :
    (od + ls > i32max ∧ d.blitCore none xs.length od os ls = (d, .err)) ∨
    ((d.blitCore none xs.length od os ls).2 = .ok ∧
     (d.blitCore none xs.length od os ls).1.Abs
       (xs.take od.toNat ++ (xs.drop os.toNat).take ls.toNat ++
        xs.drop (od.toNat + ((xs.drop os.toNat).take ls.toNat).length))) :=
  (Buf.blitCore_abs h none od os ls hod hos hls hsrc).imp id fun ⟨_, ho, hA⟩ => ⟨ho, hA⟩

/-- array operations of a history (the cfuns and `put`; arguments are arbitrary, possibly ill-typed or out of range) -/
inductive AOp where
  | push (x : Val) | pop | insert (pos : Arg) (ys : List Val) | remove (pos : Arg) (n : Option Arg)
  | fill (v : Val) | put (key : Arg) (v : Val) | trim | clear
  -- array/push with several values, array/peek, and the two C-API entries with what their C types guarantee
  | cfunPush (ys : List Val) | peek | setcount (c : Int) (hc : c ≤ i32max)
  | putindex (i : Int) (v : Val) (h0 : 0 ≤ i) (h1 : i < i32max)

def astepR (a : Arr) : AOp → Arr × Outcome Val
  | .push x => a.push x
  | .pop => a.pop
  | .insert pos ys => a.insert pos ys
  | .remove pos n => a.remove pos n
  | .fill v => a.fill v
  | .put key v => a.put key v
  | .trim => a.trim
  | .clear => a.clear
  | .cfunPush ys => a.cfunPush ys
  | .peek => a.peek
  | .setcount c _ => a.setcount c
  | .putindex i v _ _ => a.putindex i v

def astep (a : Arr) (op : AOp) : Arr := (astepR a op).1

theorem astep_abs (a : Arr) (xs : List Val) (h : a.Abs xs) (op : AOp) : ∃ zs, (astep a op).Abs zs := by
  show ∃ zs, (astepR a op).1.Abs zs
  -- an operation that raises the error leaves the array as it was
  have herr : ∀ {r : Arr × Outcome Val}, r = (a, .err) → ∃ zs, r.1.Abs zs := fun e => ⟨xs, e ▸ h⟩
  cases op with
  | push x => exact (Arr.push_abs h x).elim (fun e => herr e.2) fun r => ⟨_, r.2.2⟩
  | pop => exact ⟨_, (Arr.pop_abs h).1⟩
  | insert pos ys => exact (Arr.insert_abs h pos ys).elim herr fun ⟨_, _, _, _, _, _, _, hA⟩ => ⟨_, hA⟩
  | remove pos n => exact (abs_remove_seq a xs h pos n).elim herr fun ⟨_, _, _, _, _, _, _, hA⟩ => ⟨_, hA⟩
  | fill v => exact ⟨_, (Arr.fill_abs h v).2⟩
  | put key v => exact (Arr.put_abs h key v).elim herr fun ⟨_, _, _, _, _, hA⟩ => ⟨_, hA⟩
  | trim => exact ⟨_, (Arr.trim_abs h).2⟩
  | clear => exact ⟨_, Arr.clear_abs h⟩
  | cfunPush ys => exact (Arr.cfunPush_abs h ys).elim (fun e => herr e.1) fun r => ⟨_, r.2⟩
  | peek => exact ⟨xs, (Arr.peek_abs h).1.symm ▸ h⟩
  | setcount c hc => exact ⟨_, (Arr.setcount_abs h c hc).2⟩
  | putindex i v h0 h1 => exact ⟨_, (Arr.putindex_abs h i v h0 h1).2⟩

/-- **for all operation sequences** on an array — whatever the arguments, ill-typed and out of range included — the
state stays a well-formed sequence: every cell below `count` is initialised, `count ≤ capacity`, both fit `int32_t`
(so no operation, successful or failing, leaves a state from which memory outside the storage could be reached) -/
theorem arr_inv_reachable (ops : List AOp) (a : Arr) (xs : List Val) (h : a.Abs xs) :
    ∃ ys, (ops.foldl astep a).Abs ys :=
  Util.foldl_inv (P := fun a => ∃ ys, a.Abs ys) (fun a op ⟨zs, hz⟩ => astep_abs a zs hz op) ops a ⟨xs, h⟩

/-- `array/ensure` with well-typed 32-bit arguments raises an error or succeeds — it never ends the process with
"janet out of memory" (goes through only for sources that validate `growth ≥ 1`) -/
theorem aensure_never_exits (a : Arr) (xs : List Val) (h : a.Abs xs) (c g : Arg)
    (hc : ∀ n, c = .int n → n ≤ i32max) : (a.cfunEnsure c g).2 ≠ .oom := by
  unfold Arr.cfunEnsure
  cases hcg : getInteger c with
  | none => simp
  | some cn =>
    cases hgg : getInteger g with
    | none => simp
    | some gn =>
      simp only []
      have hcn : cn ≤ i32max := hc cn (arg_of_getInteger hcg)
      by_cases c1 : cn < 1
      · rw [if_pos c1]; simp
      · rw [if_neg c1]
        simp only [ensureChecksGrowth, Bool.true_and]
        by_cases c2 : gn < 1
        · simp [c2]
        · have hd : decide (gn < 1) = false := by simp [c2]
          rw [hd]
          simp only [Bool.false_eq_true, if_false]
          obtain ⟨a', he, _⟩ := Arr.ensure_abs h cn gn (by omega) (by omega) hcn
          rw [he]; simp

/-- non-vacuity: a concrete array state is represented -/
example : (Arr.new 2).Abs [] := Arr.new_abs 2 (by decide)

/-- `array/remove` (shape of the clamp read off the current source, Gen/Seq.lean): never undefined behaviour.
Goes through only for the overflow-safe clamp `n > array->count - at`. -/
theorem aremove_no_ub (a : Arr) (pos : Arg) (n : Option Arg) : (a.remove pos n).2 ≠ .ub := by
  unfold Arr.remove Arr.removeWith
  simp only [removeClampNoOverflow]
  cases getInteger pos with
  | none => simp
  | some p =>
    simp only []
    by_cases c1 : (if p < 0 then (a.count : Int) + p else p) < 0 ∨ (if p < 0 then (a.count : Int) + p else p) > a.count
    · rw [if_pos c1]; simp
    · rw [if_neg c1]
      cases removeCount n with
      | none => simp
      | some m => simp

/-- the other recognised shape `at + n > array->count` overflows: witness -/
theorem aremove_overflow_ub :
    (Arr.removeWith false { count := 3, capacity := 3, cells := #[some 1, some 2, some 3] } (.int 1) (some (.int 2147483647))).2 = .ub := by decide

/-- `janet_putindex` (shape read off the current source): the gap between the old count and the index is filled -/
theorem putindex_fills_gap : putindexFillsArrayGap = true ∧ putindexFillsBufferGap = true := by decide

/-- without the fill, cells below `count` are never written: witness -/
theorem putindex_gap_uninit : (Arr.putindexWith false (Arr.new 0) 2 5).1.items = [none, none, some 5] := by decide

example : (Arr.putindexWith true (Arr.new 0) 2 5).1.items = [some 0, some 0, some 5] := by decide


/-! ## buffers: every function of buffer.c that changes a buffer, `janet_put` / `janet_putindex` on
buffers, and the bit functions.

Shape of every statement: from a buffer representing the byte list `xs` (`b.Abs xs`), the operation either returns the
error constructor with the buffer **unchanged** (`= (b, .err)`), or succeeds in a state representing the list-level
result.  The push loops are the exception the C really has: an ill-typed argument / overflow in the middle raises the
error *after* the earlier arguments were pushed — the list-level semantics `specPush*` says exactly which bytes are
there then.  Since the result state satisfies `Abs` — all cells below `count` initialised, storage size = `capacity`,
`0 < capacity ≤ INT32_MAX` — and writes outside the storage are dropped by the model's `writeAt` / `setIfInBounds`
(so a dropped write would break `Rep`), each `abs_buf_*` theorem implies that the op's memory accesses were inside
the storage; the `no_oob_*` theorems state the ranges explicitly. -/

/-- **no_oob, push family**: after a successful `janet_buffer_extra(n)` the `n` cells from `count` on are inside the
storage — the range `janet_buffer_push_bytes/u8/u16/u32/u64` then write -/
theorem no_oob_push (b : Buf) (xs : List Nat) (h : b.Abs xs) (n : Int) (hn : 0 ≤ n) (hok : (b.extra n).2 = .ok) :
    (b.count : Int) + n ≤ (b.extra n).1.cells.size ∧ (b.extra n).1.count = b.count := by
  rcases Buf.extra_abs h n with ⟨_, he⟩ | ⟨_, _, hA, hroom, hcnt⟩
  · rw [he] at hok; cases hok
  · have := hA.cap; have := hA.pos
    exact ⟨by omega, hcnt⟩

theorem abs_buf_push_u8 (b : Buf) (xs : List Nat) (h : b.Abs xs) (v : Nat) :
    ((xs.length : Int) + 1 > i32max ∧ b.pushU8 v = (b, .err)) ∨
    ((b.pushU8 v).2 = .ok ∧ (b.pushU8 v).1.Abs (xs ++ [v])) := by
  rcases Buf.pushU8_absT h.toT v with ⟨hgt, he⟩ | ⟨_, hok, hA⟩
  · left; exact ⟨by simpa using hgt, he⟩
  · right; exact ⟨hok, hA.toAbs⟩

/-- `janet_buffer_push_u32`: four bytes, little endian -/
theorem abs_buf_push_u32 (b : Buf) (xs : List Nat) (h : b.Abs xs) (w : Nat) :
    ((xs.length : Int) + 4 > i32max ∧ b.pushU32 w = (b, .err)) ∨
    ((b.pushU32 w).2 = .ok ∧ (b.pushU32 w).1.Abs (xs ++ [w % 256, w / 256 % 256, w / 65536 % 256, w / 16777216 % 256])) := by
  rcases Buf.pushU32_absT h.toT w with ⟨hgt, he⟩ | ⟨_, hok, hA⟩
  · left; exact ⟨by simpa [wordBytes] using hgt, he⟩
  · right; exact ⟨hok, hA.toAbs⟩

/-- a buffer pushed onto itself (goes through only for the overflow-safe source shape): "buffer overflow" with the
buffer unchanged when twice the length exceeds INT32_MAX, else the contents doubled -/
theorem abs_buf_push_self (b : Buf) (xs : List Nat) (h : b.Abs xs) :
    ((xs.length : Int) + xs.length > i32max ∧ b.pushSelf = (b, .err)) ∨
    (b.pushSelf.2 = .ok ∧ b.pushSelf.1.Abs (xs ++ xs)) := by
  rcases Buf.pushSelf_absT h.toT with ⟨hgt, he⟩ | ⟨_, hok, hA⟩
  · left; exact ⟨hgt, he⟩
  · right; exact ⟨hok, hA.toAbs⟩

/-- shape obligation: the self-alias branch of `buffer_push_impl` / `cfun_buffer_chars` tests the new length in 64 bits -/
theorem bpush_self_no_ub : pushSelfNoOverflow = true := by decide

/-- the other recognised shape (`janet_buffer_ensure(buffer, buffer->count + view.len, 2)`) adds in `int32_t`: witness
(a buffer of 2^30 bytes pushed onto itself) -/
theorem bpush_self_overflow_ub :
    (Buf.pushSelfWith false { count := 1073741824, capacity := 1073741824, cells := #[] }).2 = .ub := by decide

/-- **buffer/push dispatch** (`buffer_push_impl`): outcome and contents are `specPush` — integers push their low byte,
byte sequences are appended, the buffer itself contributes its contents at that moment; the first ill-typed argument
or overflow stops the loop with the error, the earlier arguments stay pushed -/
theorem abs_buf_push_dispatch (b : Buf) (xs : List Nat) (h : b.Abs xs) (args : List BArg) :
    (b.pushImpl args).2 = (if (specPush xs args).2 then .ok else .err) ∧ (b.pushImpl args).1.Abs (specPush xs args).1 :=
  (Buf.pushImpl_absT args b xs [] h.toT).abs

theorem abs_buf_push_byte (b : Buf) (xs : List Nat) (h : b.Abs xs) (args : List BArg) :
    (b.pushByteArgs args).2 = (if (specPushByte xs args).2 then .ok else .err) ∧
      (b.pushByteArgs args).1.Abs (specPushByte xs args).1 :=
  (Buf.pushByteArgs_absT args b xs [] h.toT).abs

theorem abs_buf_push_string (b : Buf) (xs : List Nat) (h : b.Abs xs) (args : List BArg) :
    (b.pushStringArgs args).2 = (if (specPushStr xs args).2 then .ok else .err) ∧
      (b.pushStringArgs args).1.Abs (specPushStr xs args).1 :=
  (Buf.pushStringArgs_absT args b xs [] h.toT).abs

theorem abs_buf_push_word (b : Buf) (xs : List Nat) (h : b.Abs xs) (args : List WArg) :
    (b.pushWordArgs args).2 = (if (specPushWord xs args).2 then .ok else .err) ∧
      (b.pushWordArgs args).1.Abs (specPushWord xs args).1 :=
  (Buf.pushWordArgs_absT args b xs [] h.toT).abs

/-- all arguments well typed and the final length within `int32_t`: buffer/push succeeds and appends everything -/
example : specPush [1, 2] [.int 259, .bytes [7, 8], .self] = ([1, 2, 3, 7, 8, 1, 2, 3, 7, 8], true) := by decide
example : specPush [1, 2] [.int 5, .bad, .int 6] = ([1, 2, 5], false) := by decide

/-- **buffer/push-at**: index error ⇒ buffer unchanged; otherwise `specPushAt` (overwrite from the index, keep what
lies beyond the pushed bytes; on a failing argument the buffer ends after the last pushed byte) -/
theorem abs_buf_push_at (b : Buf) (xs : List Nat) (h : b.Abs xs) (index : Arg) (args : List BArg) :
    (b.pushAt index args = (b, .err) ∧ ∀ i : Int, index = .int i → i < 0 ∨ i > xs.length) ∨
    ∃ i : Int, index = .int i ∧ 0 ≤ i ∧ i ≤ xs.length ∧
      (b.pushAt index args).2 = (if (specPushAt xs i.toNat args).2 then .ok else .err) ∧
      (b.pushAt index args).1.Abs (specPushAt xs i.toNat args).1 := Buf.pushAt_abs h index args

example : specPushAt [1, 2, 3, 4, 5] 1 [.int 9, .bytes [8]] = ([1, 9, 8, 4, 5], true) := by decide
example : specPushAt [1, 2, 3] 2 [.bytes [7, 7, 7]] = ([1, 2, 7, 7, 7], true) := by decide
/-- observation (kept as a theorem about the model, confirmed on the implementation by the correspondence): a failing
argument of buffer/push-at leaves the buffer truncated after the last pushed byte -/
theorem pushat_error_truncates : specPushAt [1, 2, 3, 4, 5] 1 [.int 9, .bad] = ([1, 9], false) := by decide

theorem abs_buf_put (b : Buf) (xs : List Nat) (h : b.Abs xs) (key value : Arg) :
    (b.put key value = (b, .err)) ∨
    ∃ i v : Int, key = .int i ∧ value = .int v ∧ 0 ≤ i ∧ i < i32max - 1 ∧ (b.put key value).2 = .ok ∧
      (b.put key value).1.Abs
        ((if i ≥ xs.length then xs ++ List.replicate (i.toNat + 1 - xs.length) 0 else xs).set i.toNat (lowByte v)) :=
  Buf.put_abs h key value

theorem abs_buf_putindex (b : Buf) (xs : List Nat) (h : b.Abs xs) (index : Int) (value : Arg)
    (h0 : 0 ≤ index) (h1 : index < i32max) :
    (b.putindex index value = (b, .err) ∧ getInteger value = none) ∨
    ∃ v : Int, value = .int v ∧ (b.putindex index value).2 = .ok ∧
      (b.putindex index value).1.Abs (if index ≥ xs.length then xs ++ List.replicate (index.toNat - xs.length) 0 ++ [lowByte v]
                                       else xs.set index.toNat (lowByte v)) := Buf.putindex_abs h index value h0 h1

theorem abs_buf_trim (b : Buf) (xs : List Nat) (h : b.Abs xs) :
    (b.trim).2 = .ok ∧ (b.trim).1.Abs xs ∧
      (b.trim).1.capacity = (if (b.count : Int) < b.capacity then max (b.count : Int) bufferTrimMin else b.capacity) :=
  Buf.trim_abs h

theorem abs_buf_clear (b : Buf) (xs : List Nat) (h : b.Abs xs) : (b.clear).2 = .ok ∧ (b.clear).1.Abs [] := Buf.clear_abs h

theorem abs_buf_fill_all (b : Buf) (xs : List Nat) (h : b.Abs xs) (byte : Option Arg) :
    (byteArg byte = none ∧ b.fill byte = (b, .err)) ∨
    ∃ v, byteArg byte = some v ∧ (b.fill byte).2 = .ok ∧ (b.fill byte).1.Abs (List.replicate xs.length v) :=
  Buf.fill_abs_all h byte

theorem abs_buf_new_filled (count : Arg) (byte : Option Arg) (hc : ∀ n, count = .int n → n ≤ i32max) :
    (Buf.newFilled count byte = none ∧ (getInteger count = none ∨ byteArg byte = none)) ∨
    ∃ n v r, count = .int n ∧ byteArg byte = some v ∧ Buf.newFilled count byte = some r ∧
      r.Abs (List.replicate (max n 0).toNat v) := Buf.newFilled_abs count byte hc

theorem abs_buf_from_bytes (args : List Arg) (hl : (args.length : Int) ≤ i32max) :
    (Buf.fromBytes args = none ∧ getIntegers args = none) ∨
    ∃ ns r, getIntegers args = some ns ∧ ns.length = args.length ∧ Buf.fromBytes args = some r ∧ r.Abs (ns.map lowByte) :=
  Buf.fromBytes_abs args hl

theorem abs_buf_slice (xs : List Nat) (hx : (xs.length : Int) ≤ i32max) (s e : Option Arg) :
    (bsliceOf (xs.map some) s e = none ∧ getSlice xs.length s e = none) ∨
    ∃ st en r, getSlice xs.length s e = some (st, en) ∧ 0 ≤ st ∧ st ≤ en ∧ en ≤ xs.length ∧
      bsliceOf (xs.map some) s e = some r ∧ r.Abs ((xs.drop st.toNat).take (en - st).toNat) := bsliceOf_abs xs hx s e

/-- **no_oob, buffer/blit decoding**: whatever the three range arguments are, the decoded source range lies inside
the source and the destination offset inside `[0, count]` -/
theorem no_oob_blit_decode (dlen slen : Int) (hd : 0 ≤ dlen) (hs : 0 ≤ slen) (ds ss : Option Arg) (argc4 : Bool)
    (se : Option Arg) (od os ls : Int) (h : blitDecode dlen slen ds ss argc4 se = some (od, os, ls)) :
    0 ≤ od ∧ od ≤ dlen ∧ 0 ≤ os ∧ 0 ≤ ls ∧ os + ls ≤ slen := blitDecode_bounds dlen slen hd hs ds ss argc4 se od os ls h

/-- ... and after `janet_buffer_ensure(dest, last32, 2)` the destination range `[od, od + ls)` is inside the storage -/
theorem no_oob_blit_dest (d : Buf) (xs : List Nat) (h : d.Abs xs) (od ls : Int)
    (hfit : od + ls ≤ i32max) : ∃ d', d.ensure (od + ls) 2 = some d' ∧ od + ls ≤ d'.cells.size ∧ d'.Abs xs := by
  obtain ⟨d', he, hd', hcc, _⟩ := Buf.ensure_abs h (od + ls) 2 (by omega) hfit
  have := hd'.cap; have := hd'.pos
  exact ⟨d', he, by omega, hd'⟩

/-- **buffer/blit, complete** (decoding + alias guard + copy; `src = none` is the destination itself) -/
theorem abs_buf_blit_full (d : Buf) (xs : List Nat) (h : d.Abs xs) (src : Option (List Nat)) (ds ss : Option Arg)
    (argc4 : Bool) (se : Option Arg) :
    (d.blit (src.map (·.map some)) ds ss argc4 se = (d, .err)) ∨
    ∃ od os ls : Int, blitDecode xs.length (src.getD xs).length ds ss argc4 se = some (od, os, ls) ∧
      0 ≤ od ∧ od ≤ xs.length ∧ 0 ≤ os ∧ 0 ≤ ls ∧ os + ls ≤ (src.getD xs).length ∧ od + ls ≤ i32max ∧
      (d.blit (src.map (·.map some)) ds ss argc4 se).2 = .ok ∧
      (d.blit (src.map (·.map some)) ds ss argc4 se).1.Abs
        (xs.take od.toNat ++ ((src.getD xs).drop os.toNat).take ls.toNat ++
          xs.drop (od.toNat + (((src.getD xs).drop os.toNat).take ls.toNat).length)) := Buf.blit_abs h src ds ss argc4 se

/-- **no_oob, bit functions**: an accepted bit index addresses an initialised byte inside the storage -/
theorem no_oob_bitloc (b : Buf) (xs : List Nat) (h : b.Abs xs) (x : BitArg) (i bit : Nat) (hl : b.bitloc x = some (i, bit)) :
    i < b.count ∧ i < b.cells.size ∧ bit < 8 ∧ ∃ n : Int, x = .idx n ∧ 0 ≤ n ∧ n = 8 * (i : Int) + bit := by
  have hb := Buf.bitloc_bounds b x i bit hl
  have := h.rep.len_le; have := h.count_eq
  exact ⟨hb.1, by omega, hb.2.1, hb.2.2⟩

theorem abs_buf_bit_set (b : Buf) (xs : List Nat) (h : b.Abs xs) (x : BitArg) :
    (b.bitSet x = (b, .err) ∧ b.bitloc x = none) ∨
    ∃ i bit, b.bitloc x = some (i, bit) ∧ i < xs.length ∧ bit < 8 ∧ (b.bitSet x).2 = .ok ∧
      (b.bitSet x).1.Abs (xs.set i (xs.getD i 0 ||| (1 <<< bit))) :=
  Buf.bitOp_abs h x (fun bit v => v ||| (1 <<< bit)) rfl

theorem abs_buf_bit_clear (b : Buf) (xs : List Nat) (h : b.Abs xs) (x : BitArg) :
    (b.bitClear x = (b, .err) ∧ b.bitloc x = none) ∨
    ∃ i bit, b.bitloc x = some (i, bit) ∧ i < xs.length ∧ bit < 8 ∧ (b.bitClear x).2 = .ok ∧
      (b.bitClear x).1.Abs (xs.set i (xs.getD i 0 &&& (255 ^^^ (1 <<< bit)))) :=
  Buf.bitOp_abs h x (fun bit v => v &&& (255 ^^^ (1 <<< bit))) rfl

theorem abs_buf_bit_toggle (b : Buf) (xs : List Nat) (h : b.Abs xs) (x : BitArg) :
    (b.bitToggle x = (b, .err) ∧ b.bitloc x = none) ∨
    ∃ i bit, b.bitloc x = some (i, bit) ∧ i < xs.length ∧ bit < 8 ∧ (b.bitToggle x).2 = .ok ∧
      (b.bitToggle x).1.Abs (xs.set i (xs.getD i 0 ^^^ (1 <<< bit))) :=
  Buf.bitOp_abs h x (fun bit v => v ^^^ (1 <<< bit)) rfl

theorem abs_buf_bit_get (b : Buf) (xs : List Nat) (h : b.Abs xs) (x : BitArg) :
    (b.bitGet x = .err ∧ b.bitloc x = none) ∨
    ∃ i bit, b.bitloc x = some (i, bit) ∧ i < xs.length ∧ bit < 8 ∧
      b.bitGet x = .num (if xs.getD i 0 &&& (1 <<< bit) ≠ 0 then 1 else 0) := Buf.bitGet_abs h x

/-- buffer operations of a history; arguments arbitrary (ill-typed, out of range, negative, huge).  The two C-API
entries carry what their C types guarantee: `janet_buffer_setcount` takes an `int32_t`, `janet_putindex` is called
by the VM with a non-negative `int32_t` index below INT32_MAX -/
inductive BOp where
  | push (args : List BArg) | pushByte (args : List BArg) | pushString (args : List BArg) | pushWord (args : List WArg)
  | pushAt (index : Arg) (args : List BArg) | popn (n : Arg) | fill (byte : Option Arg) | trim | clear
  | put (key value : Arg) | blit (src : Option (List Nat)) (ds ss : Option Arg) (argc4 : Bool) (se : Option Arg)
  | bitSet (x : BitArg) | bitClear (x : BitArg) | bitToggle (x : BitArg)
  | setcount (c : Int) (hc : c ≤ i32max) | putindex (i : Int) (v : Arg) (h0 : 0 ≤ i) (h1 : i < i32max)

def bstep (b : Buf) : BOp → Buf × Outcome Nat
  | .push args => b.pushImpl args
  | .pushByte args => b.pushByteArgs args
  | .pushString args => b.pushStringArgs args
  | .pushWord args => b.pushWordArgs args
  | .pushAt index args => b.pushAt index args
  | .popn n => b.popn n
  | .fill byte => b.fill byte
  | .trim => b.trim
  | .clear => b.clear
  | .put key value => b.put key value
  | .blit src ds ss argc4 se => b.blit (src.map (·.map some)) ds ss argc4 se
  | .bitSet x => b.bitSet x
  | .bitClear x => b.bitClear x
  | .bitToggle x => b.bitToggle x
  | .setcount c _ => b.setcount c
  | .putindex i v _ _ => b.putindex i v

theorem bstep_case_err {b : Buf} {xs : List Nat} (h : b.Abs xs) {r : Buf × Outcome Nat} (e : r = (b, .err)) :
    ∃ zs, r.1.Abs zs ∧ (r.2 = .ok ∨ r.2 = .err) := by
  subst e; exact ⟨xs, h, Or.inr rfl⟩

theorem bstep_case_ok {r : Buf × Outcome Nat} {zs : List Nat} (hA : r.1.Abs zs) (ho : r.2 = .ok) :
    ∃ zs, r.1.Abs zs ∧ (r.2 = .ok ∨ r.2 = .err) := ⟨zs, hA, Or.inl ho⟩

theorem bstep_case_if {r : Buf × Outcome Nat} {zs : List Nat} {c : Bool} (hA : r.1.Abs zs)
    (ho : r.2 = if c then .ok else .err) : ∃ zs, r.1.Abs zs ∧ (r.2 = .ok ∨ r.2 = .err) := by
  refine ⟨zs, hA, ?_⟩
  cases c with
  | true => left; simpa using ho
  | false => right; simpa using ho

/-- one step: the result is again a represented byte sequence, and the outcome is success or a raised error — never
the out-of-memory exit and never undefined behaviour -/
theorem bstep_abs (b : Buf) (xs : List Nat) (h : b.Abs xs) (op : BOp) :
    ∃ zs, (bstep b op).1.Abs zs ∧ ((bstep b op).2 = .ok ∨ (bstep b op).2 = .err) := by
  cases op with
  | push args => have := abs_buf_push_dispatch b xs h args; exact bstep_case_if this.2 this.1
  | pushByte args => have := abs_buf_push_byte b xs h args; exact bstep_case_if this.2 this.1
  | pushString args => have := abs_buf_push_string b xs h args; exact bstep_case_if this.2 this.1
  | pushWord args => have := abs_buf_push_word b xs h args; exact bstep_case_if this.2 this.1
  | pushAt index args =>
    rcases Buf.pushAt_abs h index args with ⟨e, _⟩ | ⟨i, _, _, _, ho, hA⟩
    · exact bstep_case_err h e
    · exact bstep_case_if hA ho
  | popn n =>
    rcases Buf.popn_abs h n with e | ⟨m, _, _, ho, hA⟩
    · exact bstep_case_err h e
    · exact bstep_case_ok hA ho
  | fill byte =>
    rcases Buf.fill_abs_all h byte with ⟨_, e⟩ | ⟨v, _, ho, hA⟩
    · exact bstep_case_err h e
    · exact bstep_case_ok hA ho
  | trim => exact bstep_case_ok (Buf.trim_abs h).2.1 (Buf.trim_abs h).1
  | clear => exact bstep_case_ok (Buf.clear_abs h).2 (Buf.clear_abs h).1
  | put key value =>
    rcases Buf.put_abs h key value with e | ⟨i, v, _, _, _, _, ho, hA⟩
    · exact bstep_case_err h e
    · exact bstep_case_ok hA ho
  | blit src ds ss argc4 se =>
    rcases Buf.blit_abs h src ds ss argc4 se with e | ⟨od, os, ls, _, _, _, _, _, _, _, ho, hA⟩
    · exact bstep_case_err h e
    · exact bstep_case_ok hA ho
  | bitSet x =>
    rcases abs_buf_bit_set b xs h x with ⟨e, _⟩ | ⟨i, bit, _, _, _, ho, hA⟩
    · exact bstep_case_err h e
    · exact bstep_case_ok hA ho
  | bitClear x =>
    rcases abs_buf_bit_clear b xs h x with ⟨e, _⟩ | ⟨i, bit, _, _, _, ho, hA⟩
    · exact bstep_case_err h e
    · exact bstep_case_ok hA ho
  | bitToggle x =>
    rcases abs_buf_bit_toggle b xs h x with ⟨e, _⟩ | ⟨i, bit, _, _, _, ho, hA⟩
    · exact bstep_case_err h e
    · exact bstep_case_ok hA ho
  | setcount c hc => exact bstep_case_ok (Buf.setcount_abs h c hc).2 (Buf.setcount_abs h c hc).1
  | putindex i v h0 h1 =>
    rcases Buf.putindex_abs h i v h0 h1 with ⟨e, _⟩ | ⟨w, _, ho, hA⟩
    · exact bstep_case_err h e
    · exact bstep_case_ok hA ho

/-- **for all operation sequences on a buffer** — whatever the arguments — the state stays a well-formed byte
sequence (`count ≤ capacity`, storage of `capacity` cells, every byte below `count` initialised, both fields within
`int32_t`), and no operation of the sequence ended the process or executed undefined behaviour -/
theorem buf_inv_reachable (ops : List BOp) (b : Buf) (xs : List Nat) (h : b.Abs xs) :
    (∃ ys, (ops.foldl (fun b op => (bstep b op).1) b).Abs ys) ∧
    ∀ (pre : List BOp) (op : BOp) (post : List BOp), ops = pre ++ op :: post →
      (bstep (pre.foldl (fun b op => (bstep b op).1) b) op).2 = .ok ∨
      (bstep (pre.foldl (fun b op => (bstep b op).1) b) op).2 = .err := by
  have reach : ∀ l : List BOp, ∃ ys, (l.foldl (fun b op => (bstep b op).1) b).Abs ys := fun l =>
    Util.foldl_inv (P := fun b => ∃ ys, b.Abs ys)
      (fun b op ⟨zs, hz⟩ => let ⟨ys, hy, _⟩ := bstep_abs b zs hz op; ⟨ys, hy⟩) l b ⟨xs, h⟩
  refine ⟨reach ops, ?_⟩
  intro pre op post _
  obtain ⟨ys, hy⟩ := reach pre
  obtain ⟨_, _, ho⟩ := bstep_abs _ ys hy op
  exact ho

/-- non-vacuity: a fresh buffer is represented, and a history with failing ops keeps it so -/
example : (Buf.new 0).Abs [] := Buf.new_abs 0 (by decide)
example : ((bstep (bstep (Buf.new 0) (.push [.bytes [1, 2, 3]])).1 (.pushAt (.int 1) [.int 9, .bad])).1.items,
           (bstep (bstep (Buf.new 0) (.push [.bytes [1, 2, 3]])).1 (.pushAt (.int 1) [.int 9, .bad])).2) =
    ([some 1, some 9], .err) := by decide


theorem abs_new_filled (count : Arg) (x : Val) (hc : ∀ n, count = .int n → n ≤ i32max) :
    (Arr.newFilled count x = none ∧ ∀ n, count = .int n → n < 0) ∨
    ∃ n r, count = .int n ∧ 0 ≤ n ∧ Arr.newFilled count x = some r ∧ r.Abs (List.replicate n.toNat x) := by
  unfold Arr.newFilled
  cases count with
  | nil => left; exact ⟨rfl, fun n hn => by cases hn⟩
  | bad => left; exact ⟨rfl, fun n hn => by cases hn⟩
  | int n =>
    simp only []
    by_cases c : n < 0
    · left; rw [if_pos c]; exact ⟨rfl, fun m hm => by cases hm; exact c⟩
    · right
      rw [if_neg c]
      refine ⟨n, _, rfl, by omega, rfl, ⟨by simp, ?_, by simp, hc n rfl⟩⟩
      have := rep_toArray_map (List.replicate n.toNat x)
      simpa using this

theorem abs_peek (a : Arr) (xs : List Val) (h : a.Abs xs) :
    (a.peek).1 = a ∧ (a.peek).2 = .val (some (xs.getLast?.getD vNil)) := Arr.peek_abs h

/-- **array/remove, exact decoding**: a negative index counts from the end (`-1` is the last element), the count
defaults to 1 and is clamped to what is left; everything else raises the error with the array unchanged -/
theorem abs_remove_exact (a : Arr) (xs : List Val) (h : a.Abs xs) (q : Int) (n : Option Arg) :
    let p : Int := if q < 0 then (xs.length : Int) + q else q
    (((p < 0 ∨ p > xs.length) ∨ removeCount n = none) ∧ a.remove (.int q) n = (a, .err)) ∨
    ∃ m0 : Int, 0 ≤ p ∧ p ≤ xs.length ∧ removeCount n = some m0 ∧ 0 ≤ m0 ∧ (a.remove (.int q) n).2 = .ok ∧
      (a.remove (.int q) n).1.Abs (xs.take p.toNat ++ xs.drop (p.toNat + (min m0 ((xs.length : Int) - p)).toNat)) :=
  Arr.remove_exact h q n

theorem abs_clear_seq (a : Arr) (xs : List Val) (h : a.Abs xs) : (a.clear).2 = .ok ∧ (a.clear).1.Abs [] :=
  ⟨rfl, Arr.clear_abs h⟩

/-- **array/join**: on arrays / tuples (an array passed to itself included) it appends every part in order, exactly as
array/concat; a part that is not indexed raises the error -/
theorem abs_join (ps : List SPart) (hno : ∀ p ∈ ps, ∀ v, p ≠ SPart.one v) (a : Arr) (xs : List Val) (h : a.Abs xs)
    (hb : ((specConcat xs ps).length : Int) ≤ i32max) :
    (a.join (ps.map SPart.toPart)).2 = .ok ∧ (a.join (ps.map SPart.toPart)).1.Abs (specConcat xs ps) :=
  Arr.join_abs ps hno h hb

theorem ajoin_not_indexed_err (a : Arr) (v : Val) (ps : List Part) : a.join (.one v :: ps) = (a, .err) := Arr.join_err a v ps

end JanetModel.Props.C04
