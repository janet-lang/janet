/-
C13 — number ⇄ text conversion.  Property theorems only (model: Strtod/Model.lean, ModelW.lean, Denote.lean; lemmas: the
other files of Strtod/).
-/
import JanetModel.Strtod.ScanLemmas
import JanetModel.Strtod.Extract
import JanetModel.Strtod.Ldexp
import JanetModel.Strtod.Approx
import JanetModel.Strtod.EndToEnd
import JanetModel.Strtod.RoundTrip
import JanetModel.Strtod.WrapFree
import JanetModel.Strtod.Log2Cert
import JanetModel.Strtod.Rational
import JanetModel.Strtod.Accept
import JanetModel.Strtod.Int32

namespace JanetModel.Props.C13
open JanetModel.Strtod JanetModel.Gen.Strtod

/-- positive exponent `e`: the chain of `bignat_muladd`s (by base⁴, base², base) yields exactly `mant * base^e`,
    for every literal the scanner accepts. -/
theorem mul_chain_exact (str : List Nat) (base0 : Nat) (hb : base0 ≤ 36) (p : Parsed)
    (h : parseNumber str base0 = some p) (e : Nat) :
    (scale p.mant p.base (e : Int)).1.val = p.mant.val * p.base ^ e := by
  obtain ⟨hi, h1, h36⟩ := parseNumber_inv str base0 hb p h
  rw [scale_pos_eq]
  exact (scalePos_facts p.mant p.base e h1 h36 hi).2

/-- negative exponent `-a`: after the pre-shift by `shamt = 5 + a/4` digits, the whole sequence of truncating
    `bignat_div`s (by base⁴, base², base) equals ONE floor division by `base^a` — on the part of the digit array above
    `digits[0]` (`upper` = value / 2^62).  `digits[0]` and `first_digit` are excluded because the C loop leaves the
    *remainder* in `digits[0]` (see `bignat_div` in the model); `bignat_extract` never reads them on this branch
    (`neg_branch_at_least_4_digits`). -/
theorem div_chain_exact (str : List Nat) (base0 : Nat) (hb : base0 ≤ 36) (p : Parsed)
    (h : parseNumber str base0 = some p) (hnz : ¬ (p.mant.digits.length = 0 ∧ p.mant.first = 0)) (a : Nat) (ha : 0 < a) :
    upper (scale p.mant p.base (-(a : Int))).1 =
      p.mant.val * bigBase ^ (shamtBase + a / shamtDiv - 2) / p.base ^ a := by
  obtain ⟨hi, h1, h36⟩ := parseNumber_inv str base0 hb p h
  rw [scale_neg_eq _ _ _ ha]
  exact (scaleNeg_facts p.mant p.base a h1 h36 hi hnz).2.2

/-- the scaled mantissa on the negative branch keeps at least 93 + 31·(a/4) − log2(base^a) ≥ 62 bits above `digits[0]`,
    hence occupies at least four array digits: `bignat_extract` reads `digits[n-1], digits[n-2], digits[n-3]`, all
    above the unreliable `digits[0]`. -/
theorem neg_branch_at_least_4_digits (str : List Nat) (base0 : Nat) (hb : base0 ≤ 36) (p : Parsed)
    (h : parseNumber str base0 = some p) (hnz : ¬ (p.mant.digits.length = 0 ∧ p.mant.first = 0)) (a : Nat) (ha : 0 < a) :
    4 ≤ (scale p.mant p.base (-(a : Int))).1.digits.length ∧
    bigBase ^ 2 ≤ upper (scale p.mant p.base (-(a : Int))).1 := by
  obtain ⟨hi, h1, h36⟩ := parseNumber_inv str base0 hb p h
  rw [scale_neg_eq _ _ _ ha]
  exact ⟨scaleNeg_length _ _ _ h1 h36 hi hnz, scaleNeg_upper_ge _ _ _ h1 h36 hi hnz⟩

/-- for every accepted literal whose mantissa is not zero (zero returns before scaling), the BigNat handed to
    `bignat_extract` has a non-zero most significant digit — for every exponent. -/
theorem msd_nonzero (str : List Nat) (base0 : Nat) (hb : base0 ≤ 36) (p : Parsed)
    (h : parseNumber str base0 = some p) (hnz : ¬ (p.mant.digits.length = 0 ∧ p.mant.first = 0)) (ex : Int)
    (d1 : Nat) (below : List Nat) (hd : (scale p.mant p.base ex).1.digits.reverse = d1 :: below) : d1 ≠ 0 := by
  obtain ⟨hi, h1, h36⟩ := parseNumber_inv str base0 hb p h
  have ht : TopNZ (scale p.mant p.base ex).1.digits := by
    by_cases hneg : ex < 0
    · obtain ⟨a, rfl⟩ : ∃ a : Nat, ex = -(a : Int) := ⟨(-ex).toNat, by omega⟩
      have ha : 0 < a := by omega
      rw [scale_neg_eq _ _ _ ha]
      exact scaleNeg_topnz _ _ _ h1 h36 hi hnz
    · obtain ⟨e, rfl⟩ : ∃ e : Nat, ex = (e : Int) := ⟨ex.toNat, by omega⟩
      rw [scale_pos_eq]
      exact (scalePos_facts p.mant p.base e h1 h36 hi).1.topnz
  exact top_ne_zero _ _ _ hd ht

/-- `extract_faithful`, integers (exponent e ≥ 0), for every accepted literal with non-zero mantissa: with
    (t, e2) = what `bignat_extract` passes to `ldexp`, either the value fits one digit and is passed exactly, or
    2^52 ≤ t < 2^53 and `t·2^e2` is the floor or — only if the value is not on that grid — the ceiling of the exact value
    `mant·base^e` on the grid 2^e2: one of its two grid neighbours, the value itself when it is on the grid
    (`FaithfulN t N D`: t = ⌊N/D⌋ ∨ (t = ⌊N/D⌋+1 ∧ D ∤ N); both sides are scaled by 2^31 so that G = e2+31 ∈ ℕ). -/
theorem extract_faithful_int (str : List Nat) (base0 : Nat) (hb : base0 ≤ 36) (p : Parsed)
    (h : parseNumber str base0 = some p) (e : Nat) :
    let s := scale p.mant p.base (e : Int)
    let r := extractParts s.1 s.2
    (s.1.digits = [] ∧ r = (p.mant.val * p.base ^ e, 0)) ∨
    (∃ G : Nat, r.2 + 31 = (G : Int) ∧ FaithfulN r.1 (p.mant.val * p.base ^ e * 2 ^ 31) (2 ^ G) ∧
      NearestUpN r.1 (p.mant.val * p.base ^ e * 2 ^ 31) (2 ^ G) ∧
      (2 ^ 54 - 1) * 2 ^ G ≤ 4 * (p.mant.val * p.base ^ e * 2 ^ 31) ∧ 2 ^ 52 ≤ r.1 ∧ r.1 < 2 ^ 53) := by
  obtain ⟨hi, h1, h36⟩ := parseNumber_inv str base0 hb p h
  simp only
  rw [scale_pos_eq]
  obtain ⟨hi', hv⟩ := scalePos_facts p.mant p.base e h1 h36 hi
  by_cases hd : (scalePos p.mant p.base e).digits = []
  · left
    exact ⟨hd, by rw [extractParts_nil _ _ hd, hv]⟩
  · right
    rw [← hv]
    obtain ⟨G, he, hS⟩ := extract_faithful_pos_core _ hi' hd
    exact ⟨G, he, hS.faithful (Nat.two_pow_pos G), hS.nearest, hS.mag, hS.lo, hS.hi⟩

/-- `extract_faithful`, fractions (exponent −a < 0), for every accepted literal with non-zero mantissa: with
    (t, e2) = what `bignat_extract` passes to `ldexp`, 2^52 ≤ t < 2^53 and `t·2^e2` is the floor or — only if the value is
    not on that grid — the ceiling of the exact value `mant / base^a` on the grid 2^e2
    (both scaled by 2^(31·(shamt−2)) so that G = e2 + 31·(shamt−2) ∈ ℕ; shamt = 5 + a/4). -/
theorem extract_faithful_frac (str : List Nat) (base0 : Nat) (hb : base0 ≤ 36) (p : Parsed)
    (h : parseNumber str base0 = some p) (hnz : ¬ (p.mant.digits.length = 0 ∧ p.mant.first = 0)) (a : Nat) (ha : 0 < a) :
    let s := scale p.mant p.base (-(a : Int))
    let r := extractParts s.1 s.2
    ∃ G : Nat, r.2 + 31 * ((shamtBase + a / shamtDiv - 2 : Nat) : Int) = (G : Int) ∧
      FaithfulN r.1 (p.mant.val * bigBase ^ (shamtBase + a / shamtDiv - 2)) (p.base ^ a * 2 ^ G) ∧
      NearestUpN r.1 (p.mant.val * bigBase ^ (shamtBase + a / shamtDiv - 2)) (p.base ^ a * 2 ^ G) ∧
      (2 ^ 54 - 1) * (p.base ^ a * 2 ^ G) ≤ 4 * (p.mant.val * bigBase ^ (shamtBase + a / shamtDiv - 2)) ∧
      2 ^ 52 ≤ r.1 ∧ r.1 < 2 ^ 53 := by
  obtain ⟨hi, h1, h36⟩ := parseNumber_inv str base0 hb p h
  simp only
  rw [scale_neg_eq _ _ _ ha]
  obtain ⟨G, he, hS⟩ := extract_faithful_scaleNeg p.mant p.base a h1 h36 hi hnz
  exact ⟨G, he, hS.faithful (Nat.mul_pos (Nat.pow_pos h1) (Nat.two_pow_pos G)), hS.nearest, hS.mag, hS.lo, hS.hi⟩

/-- `exact_when_representable`: a faithful rounding `t` of a value `N/D` that lies on the grid is that value.  With `t`,
    `N/D` from `extract_faithful_*`: whenever the exact value lies on the 53-bit grid chosen by `bignat_extract`, the
    significand handed to `ldexp` is exactly the value. -/
theorem exact_when_representable (t N D : Nat) (h : FaithfulN t N D) (hrep : N % D = 0) : t * D = N :=
  h.exact hrep

/-- the reader is in fact *correctly rounded* before `ldexp` (`NearestUpN` in `extract_faithful_*`: nearest, exact ties
    away from zero — not IEEE ties-to-even, still one of the two adjacent doubles): whenever the exact value is strictly
    within half a grid step of a grid point `T`, the significand handed to `ldexp` is `T`.  This is the reading half of the
    17-digit round trip. -/
theorem nearest_unique (t N D T : Nat) (hD : 0 < D) (h : NearestUpN t N D)
    (hlo : 2 * T * D < 2 * N + D) (hhi : 2 * N < 2 * T * D + D) : t = T :=
  h.unique hlo hhi

/-- never off by one grid step (one ulp): |t·D − N| < D -/
theorem within_one_ulp (t N D : Nat) (hD : 0 < D) (h : FaithfulN t N D) : t * D < N + D ∧ N < t * D + D :=
  h.within hD

/-- the last step `ldexp((double) t, e2)` adds no error in the normal range: for the normalised significands produced
    above (2^52 ≤ t < 2^53) and −1074 ≤ e2 ≤ 971 the returned double is exactly `t·2^e2`.  (Subnormal results and
    overflow: `ldexp_faithful_subnormal`, `ldexp_overflow_faithful` below.) -/
theorem ldexp_exact_normal (t : Nat) (e : Int) (hlo : 2 ^ 52 ≤ t) (hhi : t < 2 ^ 53) (he1 : -1074 ≤ e) (he2 : e ≤ 971) :
    decodeBits (ldexpBits t e) = (t, e) :=
  JanetModel.Strtod.ldexp_exact_normal t e hlo hhi he1 he2

/-- subnormal results: if `t` is a faithful rounding of the exact value `N/D` (units 2^e, e < −1074), the pattern
    returned by the correctly rounded `ldexp` — a count ≤ 2^52 of 2^−1074 units — is the floor or, only when inexact,
    the ceiling of the exact value in those units: one of the two adjacent doubles, the value itself when representable.
    (Double rounding: the result need not be the nearest one any more; the property does not ask that.) -/
theorem ldexp_faithful_subnormal (t N D : Nat) (e : Int) (hD : 0 < D) (ht0 : t ≠ 0) (ht : t < 2 ^ 53) (he : e < -1074)
    (hF : FaithfulN t N D) :
    FaithfulN (ldexpBits t e) N (D * 2 ^ (-1074 - e).toNat) ∧ ldexpBits t e ≤ 2 ^ 52 :=
  JanetModel.Strtod.ldexp_faithful_subnormal t N D e hD ht0 ht he hF

/-- overflow: for e ≥ 972 `ldexp` returns +inf, and with the magnitude fact supplied by `extract_faithful_*` the exact
    value `N/D·2^e` is above DBL_MAX = (2^53−1)·2^971, whose two neighbours are DBL_MAX and +inf. -/
theorem ldexp_overflow_faithful (t N D : Nat) (e : Nat) (hD : 0 < D) (hlo : 2 ^ 52 ≤ t) (hhi : t < 2 ^ 53) (he : 972 ≤ e)
    (hmag : (2 ^ 54 - 1) * D ≤ 4 * N) :
    ldexpBits t (e : Int) = infBits ∧ (2 ^ 53 - 1) * 2 ^ 971 * D < N * 2 ^ e :=
  ⟨ldexp_overflow_bits t e hlo hhi (by omega), overflow_value_gt_dblmax N D e hD hmag he⟩

/-- integers below 2^53 (in particular the one-digit case of `bignat_extract`) pass through `ldexp(·, 0)` exactly -/
theorem ldexp_exact_int (t : Nat) (ht0 : t ≠ 0) (ht : t < 2 ^ 53) :
    decodeBits (ldexpBits t 0) = (t * 2 ^ (53 - bitLen t), -((53 - bitLen t : Nat) : Int)) :=
  JanetModel.Strtod.ldexp_exact_int t ht0 ht

/-- the mantissa part of `exp2_approx` (`n * approxPerDigit + 16`, multiplier read from the source) is within
    (−15, +16] of log2 of the mantissa:  2^(est−16) ≤ mant < 2^(est+15).
    This is the obligation that fails for the multiplier 32 (digits hold 31 bits): the estimate then overshoots by `n`
    and long finite literals are returned as infinity. -/
theorem mant_estimate_sound (x : BigNat) (hi : MantInv x) (hnz : ¬ (x.digits.length = 0 ∧ x.first = 0)) :
    2 ^ (x.digits.length * approxPerDigit + approxBias) ≤ x.val * 2 ^ 16 ∧
    x.val * 2 ^ 16 < 2 ^ (x.digits.length * approxPerDigit + approxBias + 31) :=
  mant_estimate x hi hnz

/-- `convert` takes its short-circuits exactly on `exp2Approx` (the quantity the next theorems are about) -/
theorem convert_shortcircuits (neg : Bool) (mant : BigNat) (base : Nat) (ex : Int)
    (hnz : ¬ (mant.digits.length = 0 ∧ mant.first = 0)) :
    (exp2Approx mant base ex > hugeThresh → convert neg mant base ex = withSign neg infBits) ∧
    (¬ exp2Approx mant base ex > hugeThresh → exp2Approx mant base ex < tinyThresh →
      convert neg mant base ex = withSign neg 0) :=
  ⟨fun h => by rw [convert_eq, if_neg hnz, if_pos h], fun h1 h2 => by rw [convert_eq, if_neg hnz, if_neg h1, if_pos h2]⟩

/-- `huge_shortcircuit_sound`: whenever `convert` returns ±inf early (`exp2_approx > 1176`, including the double-precision
    term `floor(log2(base)·exponent)` with its two roundings), the exact value `mant·base^ex` is ≥ 2^1024 > DBL_MAX, so ±inf
    is one of its two adjacent doubles.  For all mantissas and all |exponent| < 2^31 (the scanner cannot produce larger
    ones), radix 2..36.  Hypothesis `Log2Within1Ulp base` (libm's log2 within one ulp): discharged for the
    regenerated table by `log2_table_within_1ulp`. -/
theorem huge_shortcircuit_sound (mant : BigNat) (base a : Nat) (hi : MantInv mant)
    (hnz : ¬ (mant.digits.length = 0 ∧ mant.first = 0)) (hb2 : 2 ≤ base) (hb : base ≤ 36) (ha : a < 2 ^ 31)
    (hL : Log2Within1Ulp base) :
    (exp2Approx mant base (a : Int) > hugeThresh → 2 ^ 1024 ≤ mant.val * base ^ a) ∧
    (0 < a → exp2Approx mant base (-(a : Int)) > hugeThresh → 2 ^ 1024 * base ^ a ≤ mant.val) :=
  ⟨huge_sound_pos mant base a hi hnz hb2 hb ha, fun ha0 => huge_sound_neg mant base a hi hnz hb2 hb ha0 ha⟩

/-- a coarse direct check of the libm table: every regenerated table entry L_b satisfies
    ⌊65536·L_b⌋ − 1 ≤ 65536·log2(b) ≤ ⌊65536·L_b⌋ + 2, i.e. |L_b − log2 b| < 2^−14 (checked with b^65536 against powers of two).
    The step from 2^−14 to one ulp (2^−52..2^−50) is `log2_table_within_1ulp`. -/
theorem log2_table_coarse_check : ∀ b : Fin 37, 2 ≤ b.val →
    2 ^ ((log2Entry b.val).1 * 65536 / 2 ^ (-(log2Entry b.val).2).toNat - 1) ≤ b.val ^ 65536 ∧
    b.val ^ 65536 ≤ 2 ^ ((log2Entry b.val).1 * 65536 / 2 ^ (-(log2Entry b.val).2).toNat + 2) := by decide +kernel

/-- `tiny_shortcircuit_sound`: `convert` returns ±0 early (`exp2_approx < −1175`) only for negative exponents, and then
    0 < mant / base^a < 2^−1074: the exact value lies strictly below the smallest subnormal, whose neighbours are 0 and 2^−1074. -/
theorem tiny_shortcircuit_sound (mant : BigNat) (base a : Nat) (hi : MantInv mant)
    (hnz : ¬ (mant.digits.length = 0 ∧ mant.first = 0)) (hb2 : 2 ≤ base) (hb : base ≤ 36) (ha : a < 2 ^ 31)
    (hL : Log2Within1Ulp base) :
    ¬ (exp2Approx mant base (a : Int) < tinyThresh) ∧
    (0 < a → exp2Approx mant base (-(a : Int)) < tinyThresh → mant.val * 2 ^ 1074 < base ^ a) :=
  ⟨tiny_needs_negative mant base a, fun ha0 => tiny_sound_neg mant base a hi hnz hb2 hb ha0 ha⟩

/-- `digit_lookup[128]` (regenerated from the source) is the intended digit valuation: '0'..'9' ↦ 0..9,
    'A'..'Z' and 'a'..'z' ↦ 10..35, everything else invalid (0xff). -/
theorem digit_table_correct : ∀ c : Fin 128,
    digitLookup.getD c.val 255 =
      (if 48 ≤ c.val ∧ c.val ≤ 57 then c.val - 48
       else if 65 ≤ c.val ∧ c.val ≤ 90 then c.val - 55
       else if 97 ≤ c.val ∧ c.val ≤ 122 then c.val - 87
       else 255) := by
  intro c
  have h := digitOf_eq_charVal_fin c
  unfold digitOf at h
  rw [Nat.mod_eq_of_lt c.isLt] at h
  exact h

/-- `janet_scan_uint64` accepts exactly the syntactically valid, non-negative-signed literals whose denoted integer
    (`intSpec`: the same scan with unbounded accumulation) is ≤ 2^64−1, and returns that integer. -/
theorem scan_uint64_exact_or_rejected (str : List Nat) :
    scanUint64 str =
      match intSpec str with
      | some (v, false) => if v ≤ 18446744073709551615 then some v else none
      | _ => none := by
  unfold scanUint64
  rw [scanUint64Core_eq]
  cases hs : intSpec str with
  | none => rfl
  | some q =>
    obtain ⟨v, neg⟩ := q
    by_cases hv : v ≤ u64Max
    · cases neg <;> simp [hv]
    · cases neg <;> simp [hv]

/-- `janet_scan_int64` accepts exactly the valid literals whose signed value lies in [−2^63, 2^63−1], and returns it. -/
theorem scan_int64_exact_or_rejected (str : List Nat) :
    scanInt64 str =
      match intSpec str with
      | some (v, neg) =>
        let x : Int := if neg then -(v : Int) else (v : Int)
        if -9223372036854775808 ≤ x ∧ x ≤ 9223372036854775807 then some x else none
      | none => none := by
  unfold scanInt64
  rw [scanUint64Core_eq]
  cases hs : intSpec str with
  | none => rfl
  | some q =>
    obtain ⟨v, neg⟩ := q
    simp only [u64Max, i64Max]
    by_cases hv : v ≤ 18446744073709551615
    · rw [if_pos hv]
      cases neg
      · simp only [Bool.false_eq_true, false_and, if_false, Bool.not_false, true_and]
        by_cases h2 : v ≤ 9223372036854775807
        · rw [if_pos h2, if_pos (by omega)]
        · rw [if_neg h2, if_neg (by omega)]
      · simp only [true_and, if_true]
        by_cases h2 : v ≤ 18446744073709551615 / 2 + 1
        · rw [if_pos h2]
          by_cases h3 : v > 9223372036854775807
          · rw [if_pos h3, if_pos (by omega)]; congr 1; omega
          · rw [if_neg h3, if_pos (by omega)]
        · rw [if_neg h2]
          simp only [Bool.not_true, Bool.false_eq_true, false_and, if_false]
          rw [if_neg (by omega)]
    · rw [if_neg hv]
      cases neg
      · simp only [Bool.false_eq_true, if_false]; rw [if_neg (by omega)]
      · simp only [if_true]; rw [if_neg (by omega)]

/-- `int_print_exact_to_2p53`: for EVERY finite double (64-bit pattern) whose value is a non-zero integer of magnitude
    ≤ 2^53, `number_to_string_b` (used by `string`, `describe`, `%v`, `%q`, `%p`, `print`, `pp`) takes the `%.0f` branch, so
    the text is the exact decimal expansion of that integer with its sign — never the lossy `%.15g` branch.
    The window test and the formats are read from pp.c / janet.h on every run (`intMaxDouble`, `intMinDoubleAbs`,
    `fixedPrec`, `dblDig`).  Named assumption `libc_fixed0_exact`: libc's `%.0f` of an integer-valued double is its exact
    decimal expansion (`printFixed0`; compared with the implementation on every run). -/
theorem int_print_exact_to_2p53 (bits : Nat)
    (hint : isIntValued (decodeBits (bits % 0x8000000000000000)).1 (decodeBits (bits % 0x8000000000000000)).2 = true)
    (hnz : (decodeBits (bits % 0x8000000000000000)).1 ≠ 0)
    (hle : intValue (decodeBits (bits % 0x8000000000000000)).1 (decodeBits (bits % 0x8000000000000000)).2 ≤ 2 ^ 53) :
    fixedPrec = 0 ∧
    numberToString bits =
      printFixed0 (decide (bits ≥ 0x8000000000000000))
        (intValue (decodeBits (bits % 0x8000000000000000)).1 (decodeBits (bits % 0x8000000000000000)).2) := by
  refine ⟨by decide, ?_⟩
  have hmax : intMaxDouble = 2 ^ 53 := by decide
  have hmin : intMinDoubleAbs = 2 ^ 53 := by decide
  unfold numberToString
  generalize decodeBits (bits % 0x8000000000000000) = me at *
  obtain ⟨m, e⟩ := me
  simp only at hint hnz hle ⊢
  rw [if_neg hnz]
  have hwin : (if bits ≥ 0x8000000000000000 then intValue m e ≤ intMinDoubleAbs else intValue m e ≤ intMaxDouble) := by
    split
    · rw [hmin]; exact hle
    · rw [hmax]; exact hle
  rw [if_pos ⟨hint, hwin⟩]

/-- the window is tight: 2^53 + 2 (an integer-valued double) is printed through `%.15g` and loses digits -/
example : String.ofList (numberToString 0x4340000000000001) = "9.00719925474099e+15" := by decide +kernel
example : String.ofList (numberToString 0x4340000000000000) = "9007199254740992" := by decide +kernel
example : String.ofList (numberToString 0xC340000000000000) = "-9007199254740992" := by decide +kernel
example : String.ofList (numberToString 0x433FFFFFFFFFFFFF) = "9007199254740991" := by decide +kernel
example : String.ofList (numberToString 0x8000000000000000) = "0" := by decide +kernel

/-- "17 digits suffice" (2^53 < 10^16): if a decimal `N` approximates `X = T·D` (T < 2^53 grid steps of size D) with
    relative error at most 10^−16/2 — which a correctly rounded 17-significant-digit rendering guarantees, since its
    absolute error is ≤ 10^(k−16)/2 with 10^k ≤ X — then `N` is strictly within half a grid step of `X`. -/
theorem seventeen_digits_suffice (N D T : Nat) (hD : 0 < D) (hT : T < 2 ^ 53)
    (hclose_hi : 2 * 10 ^ 16 * N ≤ (2 * 10 ^ 16 + 1) * (T * D))
    (hclose_lo : (2 * 10 ^ 16 - 1) * (T * D) ≤ 2 * 10 ^ 16 * N) :
    2 * T * D < 2 * N + D ∧ 2 * N < 2 * T * D + D := by
  have hTD : T * D < 2 ^ 53 * D := Nat.mul_lt_mul_of_pos_right hT hD
  rw [Nat.mul_assoc 2 T D]
  omega

/-- the arithmetic core of the reading half ON ONE GRID — a value that is a 17-digit-accurate approximation of the grid
    point `T < 2^53` of the reader's grid is read as `T` (the full statement is `print17_roundtrip`). -/
theorem print17_roundtrip_partial (t N D T : Nat) (hD : 0 < D) (hT : T < 2 ^ 53)
    (hread : NearestUpN t N D)
    (hclose_hi : 2 * 10 ^ 16 * N ≤ (2 * 10 ^ 16 + 1) * (T * D))
    (hclose_lo : (2 * 10 ^ 16 - 1) * (T * D) ≤ 2 * 10 ^ 16 * N) : t = T := by
  obtain ⟨h1, h2⟩ := seventeen_digits_suffice N D T hD hT hclose_hi hclose_lo
  exact hread.unique h1 h2

/-- `scan_number_faithful` — the whole reader in one statement.  For EVERY byte string `str` and radix parameter
    `base0 ≤ 36` that the scanner accepts (`scanNumberBase str base0 = some bits`), with `l = denote str base0` the value
    `± M·b^E` denoted by the text (Strtod/Denote.lean: sign, `_` separators, radix prefix `0x`/`Dr`/`DDr`, point,
    exponent marker `e E & p P`, exponent sign and digits — defined from the grammar, no scanner state, no clamp):

    * the sign bit of `bits` is the literal's sign and the magnitude pattern `mag` is `Adjacent` to the exact value
      (in units of 2^−1074: numerator `M·b^max(E,0)·2^1074`, denominator `b^max(−E,0)`): every double strictly below the
      result is strictly below the exact value and every double strictly above it is strictly above the exact value —
      i.e. the result IS the exact value whenever a double has it (`scan_exact_when_representable`), otherwise it is one
      of the two doubles adjacent to it; ±inf only when the value exceeds DBL_MAX, signed zero / smallest subnormal for
      values below 2^−1074, subnormals on their own grid;
    * the exponent handed to `convert` fits `int32_t` (no wrap in `ex -= ee` / `ex += ee` / `ex *= 4`).

    Assembled from the scanner plumbing (`parseBody_spec`: digit accumulation, `ex` bookkeeping, `seenpoint`, leading
    zeros, separators, marker, exponent digits with the clamp) and `convert_adjacent` (short-circuits, both scaling
    chains, 54-bit extraction, all three `ldexp` regimes).
    Hypotheses: `Log2Within1Ulp` (libm `log2`; `log2_table_within_1ulp`) and `ClampSafe str.length` (`clamp_safe`: the exponent clamp
    saturates; where the scanner drops over-long exponent digits instead, the statement is false for literals beyond
    (eeLimit − 1100)/4 ≈ 12.8 MiB: ".000…(53 687 000 zeros)…1e536870915" reads as 1e90). -/
theorem scan_number_faithful (str : List Nat) (base0 : Nat) (hb : base0 ≤ 36)
    (hL : ∀ b, 2 ≤ b → b ≤ 36 → Log2Within1Ulp b) (hsafe : ClampSafe str.length)
    (bits : Nat) (h : scanNumberBase str base0 = some bits) :
    ∃ mag, bits = withSign (denote str base0).neg mag ∧
      Adjacent mag ((denote str base0).M * (denote str base0).b ^ (denote str base0).E.toNat * 2 ^ 1074)
        ((denote str base0).b ^ (-(denote str base0).E).toNat) ∧
      ∃ p, parseNumber str base0 = some p ∧ p.ex.natAbs < 2 ^ 31 :=
  scan_number_adjacent str base0 hb bits h

/-- the clamp side condition holds for every length: the regenerated constants say that the exponent accumulator
    saturates (`eeSat ≠ 0`) at a value that dominates 4·lenLimit + 1100 and cannot overflow `int32_t` when combined with
    the mantissa exponent (with `eeSat = 0` this does not build) -/
theorem clamp_safe (n : Nat) : ClampSafe n := clampSafe n

/-- exact when representable: a pattern `mag` adjacent to `N/D` has the value `N/D` whenever some double (pattern `k`, or
    the overflow threshold) has it.  With `mag`, `N/D` from `scan_number_faithful`: the scanner returns that value. -/
theorem scan_exact_when_representable (mag N D k : Nat) (h : Adjacent mag N D) (hk : k ≤ infBits)
    (hv : ulps k * D = N) : ulps mag = ulps k :=
  h.exact k hk hv

/-- `convert` alone, for every mantissa the scanner can build, radix 2..36, |exponent| < 2^31 -/
theorem convert_faithful (neg : Bool) (mant : BigNat) (base : Nat) (ex : Int) (hi : MantInv mant)
    (hb2 : 2 ≤ base) (hb : base ≤ 36) (hex : ex.natAbs < 2 ^ 31) (hL : Log2Within1Ulp base) :
    ∃ mag, convert neg mant base ex = withSign neg mag ∧
      Adjacent mag (mant.val * base ^ ex.toNat * 2 ^ 1074) (base ^ (-ex).toNat) :=
  convert_adjacent neg mant base ex hi hb2 hb hex

/-- the scanner plumbing against `denote`: same sign, radix, mantissa; exponents equal unless the clamp was reached -/
theorem scanner_plumbing_correct (neg : Bool) (b : Nat) (s2 : List Nat) (p : Parsed) (hb1 : 1 ≤ b) (hb36 : b ≤ 36)
    (hlen : s2.length ≤ lenLimit) (hsat : SatOK) (h : parseBody neg b s2 = some p) :
    p.neg = (denoteBody neg b s2).neg ∧ p.base = (denoteBody neg b s2).b ∧ p.mant.val = (denoteBody neg b s2).M ∧
    MantInv p.mant ∧ 1 ≤ p.base ∧ p.base ≤ 36 ∧ ExpOK s2.length p (denoteBody neg b s2) :=
  let A := parseBody_spec neg b s2 p hb1 hb36 hlen h
  ⟨A.neg, A.base, A.mant, A.inv, A.base_le.1, A.base_le.2, A.exp⟩

/-- non-vacuity: "-16r1f.8&-3" denotes −(0x1f8)·16^−4; "0x1.8p3" denotes 0x18·2^(3−4); "1_0.5e+2" denotes 105·10^1 -/
example : denote [45, 49, 54, 114, 49, 102, 46, 56, 38, 45, 51] 0 = ⟨true, 504, 16, -4⟩ := by decide +kernel
example : denote [48, 120, 49, 46, 56, 112, 51] 0 = ⟨false, 24, 2, -1⟩ := by decide +kernel
example : denote [49, 95, 48, 46, 53, 101, 43, 50] 0 = ⟨false, 105, 10, 1⟩ := by decide +kernel
/-- the scanner returns exactly 12.0 for "0x1.8p3" (0x4028000000000000), whose value is 24·2^−1 -/
example : scanNumberBase [48, 120, 49, 46, 56, 112, 51] 0 = some 0x4028000000000000 := by decide +kernel
example : ulps 0x4028000000000000 * 2 = 24 * 2 ^ 1074 := by decide +kernel
example : ClampSafe 1000000 := clamp_safe _

/-- the libm values `log2((double) b)` recorded for this run (Gen/Strtod.lean, regenerated) are within one unit in the
    last place of the true logarithms, b = 2..36: `Log2Within1Ulp` is a THEOREM about the
    current table.  Certificate: 50–52 interval squarings on 192-bit fixed point (`certStep_inv`), evaluated by the kernel
    (`certOK_all`); 2^⌊K·log2 b⌋ ≤ b^K < 2^(⌊K·log2 b⌋+1) with K = 2^50..2^52 is never formed explicitly. -/
theorem log2_table_within_1ulp (b : Nat) (h2 : 2 ≤ b) (h36 : b ≤ 36) : Log2Within1Ulp b :=
  JanetModel.Strtod.log2_table_within_1ulp b h2 h36

/-- `scan_end_to_end` — ONE statement, in rational numbers, with no hypothesis left but the API's radix bound.
    For EVERY byte string `str` and radix parameter `base0 ≤ 36` on which the C-TYPED model of `janet_scan_number_base`
    (`scanNumberBaseW`: the model the harness diffs against the real function, `uint64_t`/`uint32_t` intermediates
    reduced modulo 2^width) returns `bits`:  `bits = sign(text) | mag`, `mag ≤ +inf`, and with `v = M·b^E ∈ ℚ` the
    magnitude DENOTED by the text (`denote`: sign, `_`, radix prefix `0x`/`Dr`/`DDr`, point, marker `& e E p P`, exponent
    sign/digits — grammar only) and `dval` the rational value of a pattern (+inf ≙ 2^1024):
      (1) if some double has exactly the value `v`, the result has the value `v`  (exact when representable);
      (2) every double below the result is `< v` and every double above it is `> v`  (otherwise one of the two doubles
          adjacent to `v` — subnormals on their grid, ±0 / 2^−1074 below the smallest subnormal, DBL_MAX / ±inf above
          DBL_MAX).
    Glue discharged inside: wrap-freedom (`wrap_free`), the int32 exponent and its clamp (`clamp_safe`), the libm table
    (`log2_table_within_1ulp`), plumbing (`scanner_plumbing_correct`), `convert_faithful`. -/
theorem scan_end_to_end (str : List Nat) (base0 : Nat) (hb : base0 ≤ 36) (bits : Nat)
    (h : scanNumberBaseW str base0 = some bits) :
    ∃ mag, mag ≤ infBits ∧ bits = withSign (denote str base0).neg mag ∧
      (∀ k, k ≤ infBits → dval k = (denote str base0).absVal → dval mag = (denote str base0).absVal) ∧
      (∀ k, k ≤ infBits → dval k < dval mag → dval k < (denote str base0).absVal) ∧
      (∀ k, k ≤ infBits → dval mag < dval k → (denote str base0).absVal < dval k) :=
  scan_end_to_end_q str base0 hb bits h

/-- `integer_read_exact`: every accepted text that denotes an INTEGER `M·b^E` (E ≥ 0, any radix) with 0 < value ≤ 2^53
    is read as exactly that integer (consequence of `scan_end_to_end` (1) and `int_representable`: all such integers are
    doubles) — the reading counterpart of `int_print_exact_to_2p53`. -/
theorem integer_read_exact (str : List Nat) (base0 : Nat) (hb : base0 ≤ 36) (bits : Nat)
    (h : scanNumberBaseW str base0 = some bits) (hE : 0 ≤ (denote str base0).E)
    (h0 : 0 < (denote str base0).M * (denote str base0).b ^ (denote str base0).E.toNat)
    (h53 : (denote str base0).M * (denote str base0).b ^ (denote str base0).E.toNat ≤ 2 ^ 53) :
    ∃ mag, bits = withSign (denote str base0).neg mag ∧
      dval mag = (((denote str base0).M * (denote str base0).b ^ (denote str base0).E.toNat : Nat) : ℚ) :=
  integer_read_exact_q str base0 hb bits h hE h0 h53

/-- non-vacuity / sanity of the rational reading: "0x1.8p3" is accepted, denotes 24·2^−1 = 12 and the result 0x4028… has
    rational value 12; "1e400" denotes 10^400 and reads as +inf (value 2^1024 in `dval`) -/
example : scanNumberBaseW [48, 120, 49, 46, 56, 112, 51] 0 = some 0x4028000000000000 := by decide +kernel
example : (denote [48, 120, 49, 46, 56, 112, 51] 0).absVal = 12 := by
  have : denote [48, 120, 49, 46, 56, 112, 51] 0 = ⟨false, 24, 2, -1⟩ := by decide +kernel
  rw [this]; norm_num [Lit.absVal]
example : dval 0x4028000000000000 = 12 := by
  have : ulps 0x4028000000000000 = 12 * 2 ^ 1074 := by decide +kernel
  unfold dval; rw [this]; push_cast; field_simp
example : scanNumberBaseW [49, 101, 52, 48, 48] 0 = some infBits := by decide +kernel

/-- "0x…" is radix 16 (also after a sign) -/
theorem prefix_hex (s : List Nat) :
    denote (48 :: 120 :: s) 0 = denoteBody false 16 s ∧ denote (45 :: 48 :: 120 :: s) 0 = denoteBody true 16 s ∧
    denote (43 :: 48 :: 120 :: s) 0 = denoteBody false 16 s := by
  refine ⟨?_, ?_, ?_⟩ <;> simp [denote, splitSign, splitRadix]

/-- "Dr…" (one decimal digit D, then `r`) is radix D; the degenerate "0r…" is radix 10 (as in the C code) -/
theorem prefix_radix1 (d : Nat) (s : List Nat) (h1 : 48 ≤ d) (h2 : d ≤ 57) :
    denote (d :: 114 :: s) 0 = denoteBody false (if d = 48 then 10 else d - 48) s := by
  have n1 : d ≠ 45 := by omega
  have n2 : d ≠ 43 := by omega
  have e0 : (d - 48 = 0) = (d = 48) := by apply propext; omega
  simp [denote, splitSign, splitRadix, isDec, n1, n2, h1, h2, e0]

/-- "DDr…" (two decimal digits) is radix DD ("00r" again radix 10; the scanner rejects DD outside 2..36) -/
theorem prefix_radix2 (d1 d2 : Nat) (s : List Nat) (h1 : 48 ≤ d1) (h2 : d1 ≤ 57) (h3 : 48 ≤ d2) (h4 : d2 ≤ 57) :
    denote (d1 :: d2 :: 114 :: s) 0 =
      denoteBody false (if 10 * (d1 - 48) + (d2 - 48) = 0 then 10 else 10 * (d1 - 48) + (d2 - 48)) s := by
  have n1 : d1 ≠ 45 := by omega
  have n2 : d1 ≠ 43 := by omega
  have n3 : d2 ≠ 114 := by omega
  have n4 : d2 ≠ 120 := by omega
  simp [denote, splitSign, splitRadix, isDec, n1, n2, n3, n4, h1, h2, h3, h4]

/-- with a radix parameter (`scan-number` with a base, PEG `number` captures) no prefix is read -/
theorem radix_parameter (str : List Nat) (b : Nat) (hb : b ≠ 0) :
    denote str b = denoteBody (splitSign str).1 b (splitSign str).2 := by
  simp [denote, hb]

/-- exponent markers: a mantissa text `ms` without marker characters followed by a marker `mk` (`&` in every radix,
    `e`/`E` in radix 10, `p`/`P` in radix 16) and the exponent text `es` denotes `M·b^(±X − F)` — for `p`/`P`:
    `M·2^(±X − 4F)` with X read in DECIMAL — where M = all mantissa digits read as one integer, F = digits after the
    point, X = the exponent digits read in the radix, sign from a leading `-`/`+`. -/
theorem exponent_marker_spec (neg : Bool) (b : Nat) (ms : List Nat) (mk : Nat) (es : List Nat)
    (hms : ∀ c ∈ ms, isExpMarker b c = false) (hmk : isExpMarker b mk = true) :
    denoteBody neg b (ms ++ mk :: es) =
      (let hexp := (mk == 80 || mk == 112) && b == 16
       let X := ofDigits (if hexp then 10 else b) (splitSign es).2
       let Xs : Int := if (splitSign es).1 then -(X : Int) else (X : Int)
       if hexp then ⟨neg, ofDigits b (mantChars ms), 2, Xs - 4 * ((fracChars ms).length : Int)⟩
       else ⟨neg, ofDigits b (mantChars ms), b, Xs - ((fracChars ms).length : Int)⟩) := by
  have ht : (ms ++ mk :: es).takeWhile (fun c => !isExpMarker b c) = ms := by
    rw [List.takeWhile_append_of_pos (by intro c hc; simp [hms c hc])]
    simp [List.takeWhile_cons, hmk]
  have hd : (ms ++ mk :: es).dropWhile (fun c => !isExpMarker b c) = mk :: es := by
    rw [List.dropWhile_append_of_pos (by intro c hc; simp [hms c hc])]
    simp [List.dropWhile_cons, hmk]
  unfold denoteBody
  simp only [ht, hd]

/-- `janet_scan_number` (radix read from the text) end to end -/
theorem scan_number_end_to_end (str : List Nat) (bits : Nat) (h : scanNumber str = some bits) :
    ∃ mag, mag ≤ infBits ∧ bits = withSign (denote str 0).neg mag ∧
      (∀ k, k ≤ infBits → dval k = (denote str 0).absVal → dval mag = (denote str 0).absVal) ∧
      (∀ k, k ≤ infBits → dval k < dval mag → dval k < (denote str 0).absVal) ∧
      (∀ k, k ≤ infBits → dval mag < dval k → (denote str 0).absVal < dval k) :=
  scan_end_to_end_q str 0 (by decide) bits h

/-- the format whose output `LibcPrinted17` is about has 17 significant digits (read from `janet_buffer_dtostr`) -/
theorem print_digits_17 : printDigits = 17 := by decide

/-- non-vacuity: "36rZ&2" = 35·36², "1e3", "0x1p-2" = 2^−2 -/
example : denote [51, 54, 114, 90, 38, 50] 0 = ⟨false, 35, 36, 2⟩ := by decide +kernel
example : scanNumber [51, 54, 114, 90, 38, 50] = some 0x40E6260000000000 := by decide +kernel
example : scanNumber [48, 120, 49, 112, 45, 50] = some 0x3FD0000000000000 := by decide +kernel

/-- EXPLICIT LIBC HYPOTHESIS — the only thing assumed about `snprintf("%.17g", x)` (janet_buffer_dtostr, `%j`): the text
    denotes (via the grammar-level `denote`) a radix-10 value that is a decimal `d·10^(jp−jn)` with 17 significant digits
    (`d ≥ 10^16`, `d` = the digits read as an integer) lying within HALF A UNIT `10^(jp−jn)` of its 17th digit of `|x|`.
    Everything is in units of 2^−1074: `ulps k` = |x|, the text's value is `M·10^E⁺·2^1074 / 10^E⁻`.
    (Correct rounding of `%.17g` gives this; so does any libc that is merely accurate to half a unit in the 17th digit.) -/
def LibcPrinted17 (l : Lit) (k : Nat) : Prop :=
  l.b = 10 ∧ ∃ d jp jn : Nat, 10 ^ 16 ≤ d ∧
    l.M * 10 ^ l.E.toNat * 2 ^ 1074 * 10 ^ jn = d * (10 ^ jp * 2 ^ 1074) * 10 ^ (-l.E).toNat ∧
    2 * (l.M * 10 ^ l.E.toNat * 2 ^ 1074) * 10 ^ jn ≤
      2 * (ulps k * 10 ^ (-l.E).toNat) * 10 ^ jn + 10 ^ jp * 2 ^ 1074 * 10 ^ (-l.E).toNat ∧
    2 * (ulps k * 10 ^ (-l.E).toNat) * 10 ^ jn ≤
      2 * (l.M * 10 ^ l.E.toNat * 2 ^ 1074) * 10 ^ jn + 10 ^ jp * 2 ^ 1074 * 10 ^ (-l.E).toNat

/-- `print17_roundtrip`: for EVERY finite non-zero double (sign-less pattern `0 < k < +inf`; all binades, both binade
    edges, every subnormal, DBL_MAX) and EVERY text the scanner accepts whose denoted value satisfies `LibcPrinted17 · k`,
    `janet_scan_number_base` returns exactly `k` with the text's sign: the identical double.
    Proof: `close17_of_half_unit`, then `scan_roundtrip` → `convert_roundtrip` → `finish_roundtrip` (Strtod/RoundTrip.lean).
    Stated about the C-TYPED model (`wrap_free`); the libm `log2` table is certified (`log2_table_within_1ulp`), the clamp
    condition discharged.  What remains outside (hypotheses, stated explicitly): (1) `LibcPrinted17` — libc; (2) that the
    printed text is ACCEPTED by the scanner (`h`) — discharged for every text of the `%.17g` shape `[-]d[.ddd][e±dd]` by
    `printed_text_accepted`; `print17_roundtrip_text` below is the combined statement. -/
theorem print17_roundtrip (str : List Nat) (base0 : Nat) (hb : base0 ≤ 36)
    (bits : Nat) (h : scanNumberBaseW str base0 = some bits) (k : Nat) (hk0 : 0 < k) (hk : k < infBits)
    (hlibc : LibcPrinted17 (denote str base0) k) :
    bits = withSign (denote str base0).neg k := by
  rw [scanNumberBaseW_eq str base0 hb] at h
  obtain ⟨hb10, d, jp, jn, hd, hval, h1, h2⟩ := hlibc
  apply scan_roundtrip str base0 hb bits h k hk0 hk
  rw [hb10]
  exact close17_of_half_unit _ _ _ d (10 ^ jp * 2 ^ 1074) (10 ^ jn) hd (Nat.pow_pos (by decide)) hval h1 h2

/-- `printed_text_accepted`: every text of the shape `[-] D (D|.)* [e [+|-] D+]` (body: decimal digits with at most one
    point, starting with a digit) of at most INT32_MAX/40 bytes is accepted by `janet_scan_number` — the shape of libc's
    `%.17g` output for every finite double.  Closes the syntactic side condition of `print17_roundtrip`. -/
theorem printed_text_accepted (neg : Bool) (d0 : Nat) (ds es ed : List Nat) (hasExp : Bool)
    (hd0 : IsDecCh d0) (hds : MantShape false ds)
    (hes : es = [] ∨ es = [43] ∨ es = [45]) (hed : ed ≠ []) (hd : ∀ c ∈ ed, IsDecCh c)
    (hlen : ((if neg then [45] else []) ++ d0 :: ds ++ (if hasExp then 101 :: (es ++ ed) else [])).length ≤ lenLimit) :
    (scanNumber ((if neg then [45] else []) ++ d0 :: ds ++ (if hasExp then 101 :: (es ++ ed) else []))).isSome = true := by
  have h := decimal_text_accepted neg d0 ds es ed hasExp hd0 hds hes hed hd hlen
  unfold scanNumber
  rw [scanNumberBaseW_eq _ 0 (by decide)]
  unfold scanNumberBase
  rw [Option.isSome_map]
  exact h

/-- `print17_roundtrip_text`: the round trip with acceptance discharged — for every text of the `%.17g` shape whose denoted
    value satisfies the libc hypothesis `LibcPrinted17` for the finite non-zero double `k`, `janet_scan_number` SUCCEEDS and
    returns exactly `k` with the text's sign.  The only hypothesis about the outside world left is `LibcPrinted17`. -/
theorem print17_roundtrip_text (neg : Bool) (d0 : Nat) (ds es ed : List Nat) (hasExp : Bool)
    (hd0 : IsDecCh d0) (hds : MantShape false ds)
    (hes : es = [] ∨ es = [43] ∨ es = [45]) (hed : ed ≠ []) (hd : ∀ c ∈ ed, IsDecCh c)
    (hlen : ((if neg then [45] else []) ++ d0 :: ds ++ (if hasExp then 101 :: (es ++ ed) else [])).length ≤ lenLimit)
    (k : Nat) (hk0 : 0 < k) (hk : k < infBits)
    (hlibc : LibcPrinted17 (denote ((if neg then [45] else []) ++ d0 :: ds ++ (if hasExp then 101 :: (es ++ ed) else [])) 0) k) :
    scanNumber ((if neg then [45] else []) ++ d0 :: ds ++ (if hasExp then 101 :: (es ++ ed) else [])) =
      some (withSign (denote ((if neg then [45] else []) ++ d0 :: ds ++ (if hasExp then 101 :: (es ++ ed) else [])) 0).neg k) := by
  have hacc := printed_text_accepted neg d0 ds es ed hasExp hd0 hds hes hed hd hlen
  generalize (if neg then [45] else []) ++ d0 :: ds ++ (if hasExp then 101 :: (es ++ ed) else []) = str at *
  cases hs : scanNumber str with
  | none => rw [hs] at hacc; simp at hacc
  | some bits =>
    unfold scanNumber at hs
    rw [print17_roundtrip str 0 (by decide) bits hs k hk0 hk hlibc]

/-- non-vacuity: "-4.9406564584124654e-324" has the accepted shape (d0 = '4', body ".9406…", exponent "-324") -/
example : (scanNumber ([45] ++ 52 :: [46, 57, 52, 48, 54, 53, 54, 52, 53, 56, 52, 49, 50, 52, 54, 53, 52] ++ 101 :: ([45] ++ [51, 50, 52]))).isSome = true :=
  printed_text_accepted true 52 [46, 57, 52, 48, 54, 53, 54, 52, 53, 56, 52, 49, 50, 52, 54, 53, 52] [45] [51, 50, 52] true
    (by unfold IsDecCh; decide) (by simp [MantShape, IsDecCh]) (by simp) (by simp) (by simp [IsDecCh]) (by decide)

/-- `convert` reads back: any mantissa the scanner can build, radix 2..36, |ex| < 2^31, value `Close17` to the finite
    non-zero double `k` ⇒ `convert` returns exactly `k` (signed) -/
theorem convert_reads_back (neg : Bool) (mant : BigNat) (base : Nat) (ex : Int) (hi : MantInv mant)
    (hb2 : 2 ≤ base) (hb : base ≤ 36) (hex : ex.natAbs < 2 ^ 31) (hL : Log2Within1Ulp base)
    (k : Nat) (hk0 : 0 < k) (hk : k < infBits)
    (hc : Close17 (mant.val * base ^ ex.toNat * 2 ^ 1074) (base ^ (-ex).toNat) (ulps k)) :
    convert neg mant base ex = withSign neg k :=
  convert_roundtrip neg mant base ex hi hb2 hb hex k hk0 hk hc

/-- `bignat_extract`'s (t, e2) + `ldexp` read back (binade edges, subnormals, no overflow) -/
theorem extract_ldexp_reads_back (t : Nat) (e2 : Int) (N D k : Nat) (hD : 0 < D) (hlo : 2 ^ 52 ≤ t) (hhi : t < 2 ^ 53)
    (hN : NearestUpN t N D) (hmag : (2 ^ 54 - 1) * D ≤ 4 * N) (hk0 : 0 < k) (hk : k < infBits)
    (hc : Close17 (N * 2 ^ (e2 + 1074).toNat) (D * 2 ^ (-1074 - e2).toNat) (ulps k)) :
    ldexpBits t e2 = k :=
  finish_roundtrip t e2 N D k hD hlo hhi hN hmag hk0 hk hc

/-- the tiny short-circuit fires only below 2^−1159 (85 bits of slack under the smallest subnormal) -/
theorem tiny_shortcircuit_slack (mant : BigNat) (base a : Nat) (hi : MantInv mant)
    (hnz : ¬ (mant.digits.length = 0 ∧ mant.first = 0)) (hb2 : 2 ≤ base) (hb : base ≤ 36) (ha0 : 0 < a) (ha : a < 2 ^ 31)
    (hL : Log2Within1Ulp base) (happ : exp2Approx mant base (-(a : Int)) < tinyThresh) :
    mant.val * 2 ^ 1159 < base ^ a :=
  tiny_sound_neg_strong mant base a hi hnz hb2 hb ha0 ha happ

/-- texts denoting zero ("0", "-0", "0.000e5", …) read as ±0 exactly -/
theorem read_zero_exact (str : List Nat) (base0 : Nat) (hb : base0 ≤ 36)
    (hL : ∀ b, 2 ≤ b → b ≤ 36 → Log2Within1Ulp b) (bits : Nat) (h : scanNumberBase str base0 = some bits)
    (hz : (denote str base0).M = 0) : bits = withSign (denote str base0).neg 0 := by
  obtain ⟨mag, hbits, hadj, _⟩ := scan_number_adjacent str base0 hb bits h
  rw [hz] at hadj
  simp only [Nat.zero_mul] at hadj
  rw [hbits, adjacent_zero_value mag _ hadj]

/-- non-vacuity of `print17_roundtrip`: `%.17g` of 0.1 is "0.10000000000000001" (d = 10000000000000001, unit 10^−17); it
    satisfies the libc hypothesis for k = 0x3FB999999999999A and the scanner returns exactly that pattern.  Likewise the
    smallest subnormal "4.9406564584124654e-324" (k = 1) and a value just below a power of two,
    "0.99999999999999989" = 1 − 2^−53 (k = 0x3FEFFFFFFFFFFFFF, reader on the finer grid). -/
example : LibcPrinted17 (denote [48, 46, 49, 48, 48, 48, 48, 48, 48, 48, 48, 48, 48, 48, 48, 48, 48, 48, 49] 0) 0x3FB999999999999A :=
  ⟨by decide +kernel, 10000000000000001, 0, 17, by decide +kernel, by decide +kernel, by decide +kernel, by decide +kernel⟩
example : scanNumberBase [48, 46, 49, 48, 48, 48, 48, 48, 48, 48, 48, 48, 48, 48, 48, 48, 48, 48, 49] 0 = some 0x3FB999999999999A := by
  decide +kernel
example : LibcPrinted17 (denote [52, 46, 57, 52, 48, 54, 53, 54, 52, 53, 56, 52, 49, 50, 52, 54, 53, 52, 101, 45, 51, 50, 52] 0) 1 :=
  ⟨by decide +kernel, 49406564584124654, 0, 340, by decide +kernel, by decide +kernel, by decide +kernel, by decide +kernel⟩
example : scanNumberBase [52, 46, 57, 52, 48, 54, 53, 54, 52, 53, 56, 52, 49, 50, 52, 54, 53, 52, 101, 45, 51, 50, 52] 0 = some 1 := by
  decide +kernel
example : LibcPrinted17 (denote [48, 46, 57, 57, 57, 57, 57, 57, 57, 57, 57, 57, 57, 57, 57, 57, 57, 56, 57] 0) 0x3FEFFFFFFFFFFFFF :=
  ⟨by decide +kernel, 99999999999999989, 0, 17, by decide +kernel, by decide +kernel, by decide +kernel, by decide +kernel⟩
example : scanNumberBase [48, 46, 57, 57, 57, 57, 57, 57, 57, 57, 57, 57, 57, 57, 57, 57, 57, 56, 57] 0 = some 0x3FEFFFFFFFFFFFFF := by
  decide +kernel

/-- `wrap_free`: the C-TYPED model of `janet_scan_number_base` (Strtod/ModelW.lean — the one the correspondence
    harness runs against the real code: every `uint64_t carry / dividend / top53`, every `uint32_t` digit, `first_digit`,
    `quotient`, `remainder`, `factor`, `term`, `divisor` and every `(uint32_t)` cast reduced modulo 2^width, the widths
    REGENERATED from the declarations in strtod.c) returns on EVERY byte string and radix parameter ≤ 36 exactly what the
    unbounded model returns.  I.e. along every accepted literal no unsigned intermediate of `bignat_muladd`, `bignat_div`,
    `bignat_extract` ever reaches 2^64 resp. 2^32 — exactness is never lost to wrap-around — and every theorem of this
    file about `scanNumberBase` is a theorem about `scanNumberBaseW`. -/
theorem wrap_free (str : List Nat) (base0 : Nat) (hb : base0 ≤ 36) :
    scanNumberBaseW str base0 = scanNumberBase str base0 :=
  scanNumberBaseW_eq str base0 hb

/-- `bignat_muladd`: digits < 2^31, factor ≤ 2^31 (≥ 36^4), term < factor ⇒ `carry + (uint64_t) digit * factor` stays
    below 2^62 + 2^31, stored digits below 2^31, appended carry below 2^31 -/
theorem bignat_muladd_wrap_free (x : BigNat) (f term : Nat) (hf : f ≤ bigBase) (ht : term < f) (hi : MantInv x) :
    bignat_muladdW x f term = bignat_muladd x f term :=
  bignat_muladdW_eq x f term hf ht hi

/-- `bignat_div`: remainder < divisor ≤ 2^31 ⇒ `(uint64_t) remainder * BASE + digit` < 2^62 and the `(uint32_t)`
    casts of quotient and remainder lose nothing (both < 2^31) -/
theorem bignat_div_wrap_free (x : BigNat) (dv : Nat) (hdv : 0 < dv) (hle : dv ≤ bigBase) (hf : x.first < bigBase)
    (hl : AllLt x.digits) : bignat_divW x dv = bignat_div x dv :=
  bignat_divW_eq x dv hdv hle hf hl

/-- `bignat_extract`: with 31-bit digits `top53` stays below 2^55 through the shifts, the OR and the rounding `++` -/
theorem bignat_extract_wrap_free (x : BigNat) (e2 : Int) (hf : x.first < bigBase) (hl : AllLt x.digits) :
    extractPartsW x e2 = extractParts x e2 :=
  extractPartsW_eq x e2 ⟨hf, hl⟩

/-- `convert` on everything the scanner hands over (both scaling chains keep the invariants) -/
theorem convert_wrap_free (neg : Bool) (mant : BigNat) (base : Nat) (ex : Int) (hb1 : 1 ≤ base) (hb : base ≤ 36)
    (hi : MantInv mant) : convertW neg mant base ex = convert neg mant base ex :=
  convertW_eq neg mant base ex hb1 hb hi

/-- `convert_int32_in_range`: every signed `int32_t` product in `convert` and in what it calls
    stays below 2^31 for EVERY accepted literal (`parseNumber str base0 = some p`, radix parameter ≤ 36):
      * `mant->n * BIGNAT_NBIT + 16` (needs the length limit n ≤ len ≤ INT32_MAX/40) and the radix powers
        `base*base*base*base`, `base*base`;
      * on the negative-exponent branch (`exponent = -a`, a > 0), whenever `convert` gets there — neither the zero
        short-circuit nor the tiny short-circuit `exp2_approx < -1175` returned first —
        `shamt * BIGNAT_NBIT` (`exponent2 -= …`, shamt = 5 + a/4), `2 * newn` in `bignat_extra` (reached through
        `bignat_lshift_n(mant, shamt)`, newn = mant->n + shamt) and `BIGNAT_NBIT * n` in `bignat_extract` on the scaled
        mantissa.
    The exponent alone does NOT bound them (see the example below: "1e-2000000000" hands over a = 536870911, for which
    shamt·31 ≥ 2^31); what does is the tiny short-circuit: when it does not fire, base^a ≤ 2^(31·n + 1192)
    (`log2MulFloor_neg_sound`: the floored double product is within 2 of the true logarithm), and the scanned mantissa has
    2^(31·n) ≤ mant < B^len, B the radix the digits were read in (`two_pow_digits_le`, `Accepted.radix`; B = 16 = base^4 for
    the hex-float form where `convert` runs in radix 2).  Hence a ≤ 4·len + 1192 and 31·n < 6·len (`convert_neg_branch_bounds`), and
    len ≤ 53687091 closes all three.  The clamp constants enter through `clamp_safe` (|exponent| < 2^31). -/
theorem convert_int32_in_range (str : List Nat) (base0 : Nat) (hb : base0 ≤ 36) (p : Parsed)
    (h : parseNumber str base0 = some p) :
    (p.mant.digits.length * approxPerDigit + approxBias < 2 ^ 31 ∧ p.base * p.base * p.base * p.base < 2 ^ 31 ∧
      p.base * p.base < 2 ^ 31) ∧
    ∀ a : Nat, p.ex = -(a : Int) → 0 < a → ¬ (p.mant.digits.length = 0 ∧ p.mant.first = 0) →
      ¬ (exp2Approx p.mant p.base p.ex < tinyThresh) →
      (shamtBase + a / shamtDiv) * nbit < 2 ^ 31 ∧
      capFactor * (p.mant.digits.length + (shamtBase + a / shamtDiv)) < 2 ^ 31 ∧
      nbit * (scale p.mant p.base p.ex).1.digits.length < 2 ^ 31 := by
  exact convert_int32_in_range_full str base0 hb p h

/-- the bounds behind it, for every accepted literal that reaches the negative branch -/
theorem convert_neg_branch_exponent_bound (str : List Nat) (base0 : Nat) (hb : base0 ≤ 36) (p : Parsed)
    (h : parseNumber str base0 = some p) (a : Nat) (hex : p.ex = -(a : Int)) (ha0 : 0 < a)
    (hnz : ¬ (p.mant.digits.length = 0 ∧ p.mant.first = 0))
    (hnt : ¬ (exp2Approx p.mant p.base p.ex < tinyThresh)) :
    a ≤ 4 * str.length + 1192 ∧ p.mant.digits.length * 31 < 6 * str.length := by
  exact convert_neg_branch_bounds str base0 hb p h a hex ha0 hnz hnt

/-- non-vacuity: "-1.25e-7" reaches the negative branch (a = 9, mantissa 125, tiny short-circuit not taken) -/
example : (parseNumber [45, 49, 46, 50, 53, 101, 45, 55] 0).map (fun p => (p.mant.val, p.base, p.ex)) = some (125, 10, -9) ∧
    ¬ (exp2Approx ⟨125, []⟩ 10 (-9) < tinyThresh) := by decide +kernel
/-- the short-circuit hypothesis of `convert_int32_in_range` is NECESSARY: "1e-2000000000" is accepted and hands `convert` the clamped exponent
    −536870911, for which `shamt * BIGNAT_NBIT` would be 4160749561 ≥ 2^31 — the tiny short-circuit returns before it. -/
example : (parseNumber [49, 101, 45, 50, 48, 48, 48, 48, 48, 48, 48, 48, 48] 0).map (fun p => (p.mant.val, p.base, p.ex))
      = some (1, 10, -536870911) ∧
    2 ^ 31 ≤ (shamtBase + 536870911 / shamtDiv) * nbit ∧ exp2Approx ⟨1, []⟩ 10 (-536870911) < tinyThresh := by
  decide +kernel

/-- non-vacuity: the C-typed model does reduce (a 64-bit carry WOULD wrap for a 33-bit factor), and on a real literal
    it runs through the same digits as the unbounded one -/
example : bignat_muladdW ⟨2147483647, [2147483647]⟩ 8589934591 0 ≠ bignat_muladd ⟨2147483647, [2147483647]⟩ 8589934591 0 := by
  decide +kernel
example : scanNumberBaseW [49, 54, 114, 49, 102, 46, 56, 38, 45, 51] 0 = scanNumberBase [49, 54, 114, 49, 102, 46, 56, 38, 45, 51] 0 :=
  wrap_free _ _ (by decide)

/-- the hypotheses are satisfiable by non-trivial literals: "16r1f.8&-3", "-1.25e-7", "9223372036854775808" -/
example : (parseNumber [49, 54, 114, 49, 102, 46, 56, 38, 45, 51] 0).isSome = true := by decide +kernel
example : (parseNumber [45, 49, 46, 50, 53, 101, 45, 55] 0).map (fun p => (p.mant.val, p.base, p.ex)) = some (125, 10, -9) := by decide +kernel
example : scanInt64 [45, 57, 50, 50, 51, 51, 55, 50, 48, 51, 54, 56, 53, 52, 55, 55, 53, 56, 48, 56] = some (-9223372036854775808) := by decide +kernel
example : scanInt64 [57, 50, 50, 51, 51, 55, 50, 48, 51, 54, 56, 53, 52, 55, 55, 53, 56, 48, 56] = none := by decide +kernel
example : scanUint64 [49, 56, 52, 52, 54, 55, 52, 52, 48, 55, 51, 55, 48, 57, 53, 53, 49, 54, 49, 54] = none := by decide +kernel

end JanetModel.Props.C13
