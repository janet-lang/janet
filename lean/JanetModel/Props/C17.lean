/- C17 — string, buffer and sequence library functions match their reference definitions.

   Property theorems: the statements speak of the reference definitions (Lib/Spec.lean, Lib/Format.lean) and of the mirrors
   (the other model files of Lib/); the lemmas they rest on are in the *Laws / *Proofs files.  The constants of the range decoder, the trim set, the case-conversion bounds and
   the presence of the self-alias guards are regenerated from the C source (Gen/Lib.lean) on every run. -/
import JanetModel.Lib.SpecLaws
import JanetModel.Lib.BufMemProofs
import JanetModel.Lib.KmpProofs
import JanetModel.Lib.SortProofs
import JanetModel.Lib.RangeProofs
import JanetModel.Lib.FormatProofs
import JanetModel.Lib.StrKmpCProofs
import JanetModel.Lib.StrJoinCProofs
import JanetModel.Lib.StrMiscCProofs
import JanetModel.Lib.ArrCProofs
import JanetModel.Lib.BufCProofs
import JanetModel.Lib.BootProofs
import JanetModel.Lib.Boot2Proofs
import JanetModel.Lib.BufPushCProofs
import JanetModel.Lib.StrReplCProofs
import JanetModel.Lib.Boot3Proofs
import JanetModel.Lib.Boot6Proofs
import JanetModel.Lib.Boot7Proofs
import JanetModel.Lib.Boot8Proofs
import JanetModel.Lib.MiscC2Proofs
import JanetModel.Lib.Boot9Proofs
import JanetModel.Lib.Boot10Proofs
import JanetModel.Lib.Boot11Proofs
import JanetModel.Lib.Boot12Proofs
import JanetModel.Lib.FormatCProofs
namespace JanetModel.Props.C17
open JanetModel.Lib JanetModel.Gen.Lib

/-- `janet_gethalfrange`: accepted exactly for `-len-1 ≤ raw ≤ len`; non-negative indices are themselves, negative ones
    count from one past the end (`-1 ↦ len`); the result never leaves `[0, len]`. -/
theorem halfrange_spec (raw : Int) (len : Nat) :
    (halfrange raw len = none ↔ ¬ (-(len : Int) - 1 ≤ raw ∧ raw ≤ len)) ∧
    (∀ k, halfrange raw len = some k →
        k ≤ len ∧ (0 ≤ raw → (k : Int) = raw) ∧ (raw < 0 → (k : Int) = raw + len + 1)) :=
  ⟨halfrange_none_iff raw len, fun _ h => halfrange_some h⟩

/-- `janet_getargindex` (array/insert-style indices): result in `[0, len]`, negative indices count from the end. -/
theorem argindex_spec (raw : Int) (len k : Nat) (h : argindex raw len = some k) :
    k ≤ len ∧ (0 ≤ raw → (k : Int) = raw) ∧ (raw < 0 → (k : Int) = raw + len) :=
  argindex_some h

/-- `janet_getslice` + every `*/slice`: the decoded range satisfies `start ≤ end ≤ len`, and the result is exactly the
    `end - start` elements from `start` on — a contiguous part of the input. -/
theorem slice_spec {α : Type} (l : List α) (s e : Option Int) (r : List α) (h : slice l s e = some r) :
    ∃ a b, getslice s e l.length = some (a, b) ∧ a ≤ b ∧ b ≤ l.length ∧
      r = (l.drop a).take (b - a) ∧ r.length = b - a ∧ l = l.take a ++ r ++ l.drop b := by
  obtain ⟨a, b, hg, hab, hbl, rfl⟩ := slice_some h
  refine ⟨a, b, hg, hab, hbl, rfl, Util.length_take_drop l a (b - a) (by omega), ?_⟩
  rw [show l.drop b = (l.drop a).drop (b - a) by rw [List.drop_drop, Nat.add_sub_cancel' hab],
    List.append_assoc, List.take_append_drop, List.take_append_drop]

example : halfrange (-1) 5 = some 5 ∧ halfrange (-6) 5 = some 0 ∧ halfrange (-7) 5 = none ∧ halfrange 6 5 = none := by decide +kernel
example : slice [10, 20, 30, 40] (some (-3)) (some (-1)) = some [30, 40] := by decide +kernel

/-- `(buffer/push b b)` / `(buffer/push-string b b)`: with the C's order ensure → re-fetch pointer → extra → memcpy, the
    call is defined (no read through a dangling pointer, no overlapping memcpy, no indeterminate byte) and appends the
    contents the buffer had *before* it grew.  `pushSelfGuard` is extracted from buffer.c: if the guard disappears this
    theorem no longer type-checks (see the `example` below for what then happens). -/
theorem buffer_push_self_alias_safe (b : BufMem.Buf) (bs : List Nat) (h : BufMem.contents b = some bs) :
    ∃ b', BufMem.pushSelf pushSelfGuard b pushSelfViaExtra = some b' ∧ BufMem.contents b' = some (bs ++ bs)
          ∧ bufferPush bs [PushArg.self] = some (bs ++ bs) := by
  -- `pushSelfViaExtra` (Gen): which of the two accepted guard shapes the current buffer.c uses
  obtain ⟨b', h1, h2⟩ := BufMem.pushSelf_guard_safe_any pushSelfViaExtra (BufMem.holds_of_contents h)
  exact ⟨b', h1, BufMem.contents_of_holds h2, bufferPush_self bs⟩

/-- `(buffer/blit b b od os oe)`: defined, and equal to the list-level definition evaluated on the old contents. -/
theorem buffer_blit_self_alias_safe (b : BufMem.Buf) (bs : List Nat) (h : BufMem.contents b = some bs)
    (od os len : Nat) (hod : od ≤ bs.length) (hsrc : os + len ≤ bs.length) :
    ∃ b', BufMem.blitSelf blitSelfGuard b od os len = some b' ∧
      BufMem.contents b' = some (bs.take od ++ (bs.drop os).take len ++ bs.drop (od + len)) := by
  obtain ⟨b', h1, h2⟩ := BufMem.blitSelf_guard_safe (BufMem.holds_of_contents h) od os len hod hsrc
  exact ⟨b', h1, BufMem.contents_of_holds h2⟩

/-- non-vacuity / necessity: a full 4-byte buffer pushed into itself *without* the guard reads freed memory -/
example : BufMem.pushSelf false ⟨[some 1, some 2, some 3, some 4], 4, 0⟩ = none := by decide +kernel
example : (BufMem.pushSelf true ⟨[some 1, some 2, some 3, some 4], 4, 0⟩).bind BufMem.contents = some [1, 2, 3, 4, 1, 2, 3, 4] := by decide +kernel
example : (BufMem.blitSelf true ⟨[some 1, some 2, some 3, none], 3, 0⟩ 1 0 3).bind BufMem.contents = some [1, 1, 2, 3] := by decide +kernel

/-- `(string/join (string/split sep s start limit) sep) = s` for every non-empty separator, start and limit. -/
theorem join_split (sep s : Bytes) (start : Nat) (limit : Int) (parts : List Bytes)
    (h : split sep s start limit = some parts) : join parts sep = s := by
  unfold split at h
  by_cases hp : sep = []
  · simp [hp] at h
  · rw [if_neg hp] at h
    simp only [Option.some.injEq] at h
    rw [← h, join_splitAux _ _ _ _ _ _ (Nat.zero_le _)]
    simp

/-- replacing every occurrence of `pat` by `pat` itself changes nothing -/
theorem replaceAll_self (pat s : Bytes) (start : Nat) (hp : pat ≠ []) : replaceAll pat pat s start = some s := by
  unfold replaceAll
  rw [if_neg hp, replaceAllAux_self _ _ _ _ _ (Nat.zero_le _)]
  simp

/-- `replace-all` is driven by `find`: without an occurrence at or after `start` the text is returned unchanged, and
    the first rewritten position is the one `string/find` reports. -/
theorem replaceAll_via_find (pat subst s : Bytes) (start : Nat) (hp : pat ≠ []) :
    (findFrom pat s start = none → replaceAll pat subst s start = some s) ∧
    (∀ r, findFrom pat s start = some r →
        replaceAll pat subst s start =
          some (s.take r ++ subst ++ replaceAllAux pat subst s s.length (r + pat.length) (r + pat.length))) := by
  unfold replaceAll
  rw [if_neg hp]
  constructor
  · intro h
    rw [replaceAllAux_no_match _ _ _ _ _ _ h]; simp
  · intro r h
    simp [replaceAllAux, h]

/-- `string/find` returns the least index `≥ start` at which the pattern occurs, or nil when there is none. -/
theorem find_least (pat s : Bytes) (start : Nat) :
    (∀ r, findFrom pat s start = some r →
        start ≤ r ∧ matchAt pat s r = true ∧ ∀ k, start ≤ k → k < r → matchAt pat s k = false) ∧
    (findFrom pat s start = none → ∀ k, start ≤ k → matchAt pat s k = false) :=
  ⟨fun _ h => findFrom_some h, findFrom_none⟩

theorem take_drop (n : Int) {α : Type} (l : List α) :
    (0 ≤ n → takeN n l ++ dropN n l = l) ∧ (n < 0 → dropN n l ++ takeN n l = l) :=
  ⟨takeN_dropN_nonneg n l, dropN_takeN_neg n l⟩

theorem partition_concat {α : Type} (n : Nat) (hn : 1 ≤ n) (l : List α) :
    (partition n l).flatten = l ∧ ∀ c ∈ partition n l, c.length ≤ n :=
  ⟨partition_flatten n hn l, partitionAux_chunk_le n _ l⟩

theorem trim_edges (s set : Bytes) :
    triml s set = s.drop (leftEdge s set) ∧ trimr s set = s.take (rightEdge s set) :=
  ⟨triml_eq_drop s set, trimr_eq_take s set⟩

theorem reverse_involutive (s : Bytes) : s.reverse.reverse = s := List.reverse_reverse s

theorem prefix_checkset (p s set : Bytes) :
    (hasPrefix p s = true ↔ ∃ t, s = p ++ t) ∧ (checkSet set s = true ↔ ∀ c ∈ s, c ∈ set) :=
  ⟨hasPrefix_iff p s, checkSet_iff set s⟩

theorem insert_remove {α : Type} (a xs : List α) (i : Nat) (hi : i ≤ a.length)
    (h32 : (a.length : Int) + xs.length ≤ int32Max) :
    (arrayInsert a i xs).bind (fun r => arrayRemove r i xs.length) = some a :=
  arrayInsert_remove a xs i hi h32

/-- laws that keep the formatter definition honest: a format without directives is copied verbatim (arguments ignored);
    `%<w>.<p>s` emits `max w (min p len)` bytes; a numeric conversion is never shorter than its field width.
    Conformance of the definition to the C implementation is *tested* (correspondence on generated formats). -/
theorem format_laws :
    (∀ (s : Bytes) (args : List Format.FArg), (∀ c ∈ s, c ≠ 37 ∧ c ≠ 0) → Format.format s args = .ok s) ∧
    (∀ f w p s, (Format.fmtString f w p s).length = max w (match p with | some p => min p s.length | none => s.length)) ∧
    (∀ f w p n, w ≤ (Format.fmtSigned f w p n).length) :=
  ⟨Format.format_plain, Format.fmtString_length, Format.fmtSigned_width⟩

example : Format.format [37, 43, 48, 53, 100, 124, 37, 35, 120, 124, 37, 45, 52, 115, 124, 37, 46, 50, 115]
    [.int 42, .int 255, .bytes [97, 98], .bytes [97, 98, 99]]
    = .ok [43, 48, 48, 52, 50, 124, 48, 120, 102, 102, 124, 97, 98, 32, 32, 124, 97, 98] := by decide +kernel

/-- the mirror of `janet_core_range` over exact numbers (integers, and dyadic fractions scaled
    to integers) NEVER aborts (`rangeC … = some l`) — the Gen facts say: no aborting assertion, the correcting
    loops present — and `l` has `max 0 ⌈(stop-start)/step⌉` elements (none for step 0), element `i` is `start + i*step`,
    every element lies in `[start, stop)` (resp. `(stop, start]` for a negative step) and the next one would not.
    `Range.rangeCOld_aborts`: with the assertion and without the correcting loops the code aborts on `(range 1 0 0)`. -/
theorem range_spec (start stop step : Int) :
    ∃ l, Range.rangeC start stop step = some l ∧
      (step > 0 → (l.length : Int) = (if Range.ceilDiv (stop - start) step > 0 then Range.ceilDiv (stop - start) step else 0)) ∧
      (step < 0 → (l.length : Int) = (if Range.ceilDiv (stop - start) step > 0 then Range.ceilDiv (stop - start) step else 0)) ∧
      (step = 0 → l = []) ∧
      (∀ i (h : i < l.length), l[i] = start + (i : Int) * step) ∧
      (step > 0 → (∀ x ∈ l, start ≤ x ∧ x < stop) ∧ start + (l.length : Int) * step ≥ stop) ∧
      (step < 0 → (∀ x ∈ l, stop < x ∧ x ≤ start) ∧ start + (l.length : Int) * step ≤ stop) :=
  Range.rangeC_spec start stop step

theorem range_ceilDiv_spec (x y : Int) (hy : 0 < y) :
    Range.ceilDiv x y * y - y < x ∧ x ≤ Range.ceilDiv x y * y := Range.ceilDiv_pos_spec x y hy

example : Range.rangeC 0 10 3 = some [0, 3, 6, 9] ∧ Range.rangeC 5 0 (-2) = some [5, 3, 1] ∧ Range.rangeC 1 0 0 = some [] := by decide +kernel
example : Range.rangeCOld 1 0 0 = none := Range.rangeCOld_aborts

/-- `kmp_eq_naive`: for every non-empty pattern, text, start index and limit, the mirror of the C state machine
    (failure table = longest proper border of each prefix, proved in `Kmp.lookupTable_spec`; search loop invariant in
    `Kmp.next_spec`) returns exactly what the naive reference definitions of Lib/Spec.lean return: the least match for
    `string/find`, all (overlapping) matches for `string/find-all`, and the same rewritten text / pieces for
    `string/replace-all` and `string/split`, whose loops restart the machine after each match. -/
theorem kmp_eq_naive (pat text : Bytes) (start : Nat) (hp : pat ≠ []) :
    Kmp.find pat text start = findFrom pat text start ∧
    Kmp.findAll pat text start = findAll pat text start ∧
    (∀ subst, some (Kmp.replaceAll pat subst text start) = replaceAll pat subst text start) ∧
    (∀ limit, some (Kmp.split pat text start limit) = split pat text start limit) :=
  ⟨Kmp.find_eq_naive pat text start hp, Kmp.findAll_eq_naive pat text start hp,
   fun subst => Kmp.replaceAll_eq_naive pat subst text start hp,
   fun limit => Kmp.split_eq_naive pat text start limit hp⟩

/-- the failure table built by `kmp_init` holds, for every prefix, the length of its longest proper border -/
theorem kmp_table_spec (pat : Array Nat) (hne : 0 < pat.size) :
    (Kmp.lookupTable pat).size = pat.size ∧
    ∀ m, 1 ≤ m → m ≤ pat.size → Kmp.IsLPB (fun k => pat.getD k 0) m ((Kmp.lookupTable pat).getD (m - 1) 0) :=
  Kmp.lookupTable_spec pat

example : Kmp.lookupTable #[97, 97, 98, 97, 97, 97] = #[0, 1, 0, 1, 2, 2] := by decide +kernel
example : Kmp.findAll [97, 97] [97, 97, 97, 97] 0 = [0, 1, 2] := by decide +kernel

/-- for EVERY strict weak order `before?` (irreflexive, asymmetric, negatively
    transitive) and whatever `<=` picks the median, the mirror of `(sort ind before?)`
      * returns `ok` with the model's fuel `length + 1` for the recursion, `size + 2` for each partition loop and `size + 1`
        for each scan — i.e. the janet code terminates (recursion depth ≤ length) and no `(in a k)` is ever out of range,
      * returns a permutation of the input of the same size,
      * and the result is ordered: no element is `before?` an earlier one.
    Non-strict comparators are outside the hypothesis — and outside the property ("for every strict ordering function"):
    e.g. for `>=` on `#[2, 8, -8]` the recursion does not make progress (see the `example` below: the model runs out of any
    fuel; the real interpreter grows its fiber stack until memory is exhausted), for others `in` raises an index error. -/
theorem sort_perm_sorted {α : Type} (le before : α → α → Bool) (hswo : Sort.SWO before) (a : Array α) :
    ∃ r, Sort.sort le before a = .ok r ∧ Array.Perm r a ∧ r.size = a.size ∧
      ∀ i j (hij : i < j) (hj : j < r.size), before r[j] (r[i]'(by omega)) = false :=
  Sort.sort_sorted le before hswo a

/-- for ANY comparator (strict or not): whenever `sort` returns, nothing was lost or duplicated -/
theorem sort_perm_any_comparator {α : Type} (le before : α → α → Bool) (a r : Array α)
    (h : Sort.sort le before a = .ok r) : Array.Perm r a ∧ r.size = a.size := by
  have hp := Sort.sort_perm le before a r h
  exact ⟨hp, by simpa using hp.toList.length_eq⟩

/-- partition step: the left scan stops at the first element that is not `before?` the pivot; with a sentinel at or after
    `left` it neither indexes outside the array nor exhausts its fuel. -/
theorem partition_scan_left {α : Type} (before : α → α → Bool) (a : Array α) (pivot : α) (left s : Nat) (x : α)
    (hs : left ≤ s) (hx : a[s]? = some x) (hnb : before x pivot = false) :
    ∃ k, Sort.scanLeft before a pivot (a.size + 1) left = .ok k ∧ left ≤ k ∧ k ≤ s ∧
      (∃ y, a[k]? = some y ∧ before y pivot = false) ∧
      ∀ i, left ≤ i → i < k → ∃ y, a[i]? = some y ∧ before y pivot = true :=
  Sort.scanLeft_spec before a pivot left s x hs hx hnb

/-- partition step of `sort-help` for every strict weak order `before?` (and any `<=` used for the median): started as
    in the janet code it returns `ok`, i.e. no `in` out of range and no fuel exhaustion; only `[lo,hi]` is permuted;
    afterwards everything left of `left'` is not after the pivot, everything right of `right'` is not before it,
    `right' ≤ left'`, `lo < left'` and `right' < hi`. -/
theorem partition_step {α : Type} (le before : α → α → Bool) (hswo : Sort.SWO before) (a : Array α) (lo hi : Nat)
    (hlt : lo < hi) (hsz : hi < a.size) :
    let pivot := Sort.medianOfThree le a[lo] (a[(lo + hi) / 2]'(by omega)) a[hi]
    ∃ a' l' r', Sort.partitionLoop before pivot (a.size + 2) a lo hi = .ok (a', l', r') ∧
      Sort.PPost before pivot lo hi a a' l' r' :=
  Sort.partition_step le before hswo a lo hi hlt hsz

example : Sort.SWO (fun (a b : Int) => decide (a % 4 < b % 4)) :=
  Boot.byKey_swo _ (· % 4) Boot.int_lt_swo

example : Sort.sort (fun a b => decide (a ≤ b)) (fun a b => decide (a % 4 < b % 4)) #[3, 1, 2, 5, 4, 1]
    = .ok #[4, 5, 1, 1, 2, 3] := by decide +kernel
/-- a non-strict comparator makes the real code recurse without bound; the model reports fuel exhaustion -/
example : Sort.sort (fun a b => decide (a ≤ b)) (fun a b => decide (a ≥ b)) #[2, 8, -8] = .fuel := by decide +kernel

/- The mirrors of the C code (Lib/StrC.lean … loop by loop) compute the reference definitions.  Each mirror returns `R.ok v` / `R.panic` (janet error) / `R.ub` (the C would execute undefined behaviour: out-of-range
   index, signed overflow, negative copy size, shift ≥ width).  An equation `mirror = .ok (Spec …)` / `= R.ofOption (Spec …)`
   therefore says: same value for ALL inputs, an error exactly where the C raises, and never UB.  The source text each
   mirror was transcribed from is compared with the current tree by the theorems of Lib/SrcTie.lean on every run. -/

/-- `trim_help_checkset` / `trim_help_leftedge` / `trim_help_rightedge` (early-return scans, the right one downwards) -/
theorem mirror_trim_edges (s set : Bytes) (x : Nat) :
    StrC.checkset set x = .ok (inSet set x) ∧
    StrC.leftedge s set = .ok ((leftEdge s set : Nat) : Int) ∧
    StrC.rightedge s set = .ok ((rightEdge s set : Nat) : Int) :=
  ⟨StrC.checkset_spec set x, StrC.leftedge_spec s set, StrC.rightedge_spec s set⟩

/-- `string/trim`, `string/triml`, `string/trimr` for every string and every (default or custom) set -/
theorem mirror_trim (s set : Bytes) :
    StrC.trim s set = .ok (trim s set) ∧ StrC.triml s set = .ok (triml s set) ∧ StrC.trimr s set = .ok (trimr s set) :=
  ⟨StrC.trim_eq_spec s set, StrC.triml_eq_spec s set, StrC.trimr_eq_spec s set⟩

/-- `string/reverse` (two counters), `string/ascii-lower/upper` (the uint8 store does not wrap), `string/bytes` -/
theorem mirror_reverse_case_bytes (s : Bytes) :
    StrC.reverse s = .ok s.reverse ∧ StrC.asciiLower s = .ok (asciiLower s) ∧ StrC.asciiUpper s = .ok (asciiUpper s) ∧
    StrC.bytes s = .ok (s.map (fun (c : Nat) => (c : Int))) :=
  ⟨StrC.reverse_eq_spec s, StrC.asciiLower_eq_spec s, StrC.asciiUpper_eq_spec s, StrC.bytes_eq_spec s⟩

/-- `string/has-prefix?` / `string/has-suffix?` (length guard + `memcmp` as a byte loop that never reads outside) -/
theorem mirror_prefix_suffix (p s : Bytes) :
    StrC.hasPrefix p s = .ok (hasPrefix p s) ∧ StrC.hasSuffix p s = .ok (hasSuffix p s) :=
  ⟨StrC.hasPrefix_eq_spec p s, StrC.hasSuffix_eq_spec p s⟩

/-- `string/slice` = `janet_getslice` decode + `janet_stringv` copy: error iff the decode fails, never out of bounds -/
theorem mirror_string_slice (s : Bytes) (st en : Option Int) : StrC.slice s st en = R.ofOption (slice s st en) :=
  StrC.slice_eq_spec s st en

/-- `string/repeat`: errors for `n < 0` and `n * len > INT32_MAX` (int64 product cannot overflow), else `n` copies -/
theorem mirror_repeat (s : Bytes) (rep : Int) (hs : Len32 s) (hr : in32 rep = true) :
    StrC.repeatStr s rep = R.ofOption (repeatBytes s rep) := StrC.repeat_eq_spec s rep hs hr

/-- `string/check-set` through the real `uint32_t bitset[8]` (`>> 5`, `& 0x1F`, `(uint32_t)1 << k`) -/
theorem mirror_checkset (set s : Bytes) (hset : ∀ c ∈ set, c < 256) (hs : ∀ c ∈ s, c < 256) :
    StrC.checkSet set s = .ok (checkSet set s) := StrC.checkSet_eq_spec set s hset hs

/-- `string/find` and `string/find-all` at cfun level (`findsetup`: negative start / empty pattern raise; a start beyond the
    end gives nil / @[]; the find-all loop terminates within `textlen + 2` calls of `kmp_next`) -/
theorem mirror_find (pat text : Bytes) (start : Option Int) :
    (StrC.find pat text start = match StrC.startNat start with
      | none => .panic
      | some st => R.ofOption (find pat text st)) ∧
    (StrC.findAll pat text start = match StrC.startNat start with
      | none => .panic
      | some st => if pat = [] then .panic else .ok (findAll pat text st)) :=
  ⟨StrC.find_eq_spec pat text start, StrC.findAll_eq_spec pat text start⟩

/-- `string/split` with start and limit, for EVERY int32 limit: the short-circuit `(limit < 0 || --limit)` never
    decrements a negative limit, so no signed overflow (`.ub`) — with an unguarded `--limit` the
    mirror is `.ub` for `limit = -2147483648` and this theorem cannot be proved. -/
theorem mirror_split (pat text : Bytes) (start limit : Option Int) (h32 : in32 (limit.getD (-1)) = true) :
    StrC.split pat text start limit = match StrC.startNat start with
      | none => .panic
      | some st => R.ofOption (split pat text st (limit.getD (-1))) :=
  StrC.split_eq_spec pat text start limit h32

/-- `string/join`: separator placement, the int64 length accumulator (never overflows) and its INT32_MAX check (raises
    iff the result would be too long), the moving output pointer (every memcpy inside the result buffer) -/
theorem mirror_join (parts : List Bytes) (sep : Bytes) (hsep : Len32 sep) (hp : ∀ p ∈ parts, Len32 p) :
    StrC.join parts sep = if ((join parts sep).length : Int) ≤ int32Max then .ok (join parts sep) else .panic :=
  StrC.join_eq_spec parts sep hsep hp

example : StrC.split [44] [97, 44, 98, 44, 99] none (some 2) = .ok [[97], [98, 44, 99]] := by decide +kernel
example : StrC.join [[97], [98]] [45, 45] = .ok [97, 45, 45, 98] ∧ StrC.trim [32, 97, 32] trimSet = .ok [97] := by decide +kernel

/-- `string/replace` and `string/replace-all` at cfun level with a string substitution: the int32 size / offset arithmetic
    and the three tiling memcpys of `replace`; the growing result buffer of `replace-all` -/
theorem mirror_replace (pat subst text : Bytes) (start : Option Int)
    (hlen : (text.length : Int) - (pat.length : Int) + (subst.length : Int) ≤ int32Max) (ht : Len32 text) (hs : Len32 subst)
    (h32 : ∀ st r, StrC.startNat start = some st → replaceAll pat subst text st = some r → (r.length : Int) ≤ int32Max) :
    (StrC.replace pat subst text start = match StrC.startNat start with
      | none => .panic
      | some st => R.ofOption (replace pat subst text st)) ∧
    (StrC.replaceAll pat subst text start = match StrC.startNat start with
      | none => .panic
      | some st => R.ofOption (replaceAll pat subst text st)) :=
  ⟨StrC.replace_eq_spec pat subst text start hlen ht, StrC.replaceAll_eq_spec pat subst text start h32⟩

example : StrC.replaceAll [97, 97] [120] [97, 97, 97, 97, 97] none = .ok [120, 120, 97] := by decide +kernel

/-- `array/insert` for every `at` (non-int32, negative, out of range) when the new length fits an int32 -/
theorem mirror_array_insert {α : Type} [Inhabited α] (a : List α) (at_ : Int) (xs : List α)
    (hlen : (a.length : Int) + (xs.length : Int) ≤ int32Max) :
    ArrC.insert a at_ xs = R.ofOption (arrayInsert a at_ xs) := ArrC.insert_eq_spec a at_ xs hlen

/-- `array/remove` for every int32 `at` and `n`: the clamp `if (n > count - at) n = count - at` keeps `at + n` and
    `count - at - n` inside int32 (a test `at + n > count` overflows for `n = 2147483647`) and the memmove inside the array -/
theorem mirror_array_remove {α : Type} (a : List α) (at_ : Int) (n : Option Int) (hL : Len32 a) :
    ArrC.remove a at_ n = R.ofOption (arrayRemove a at_ (n.getD 1)) := ArrC.remove_eq_spec a at_ n hL

/-- `array/slice`, `tuple/slice` -/
theorem mirror_array_slice {α : Type} [Inhabited α] (l : List α) (st en : Option Int) :
    ArrC.slice l st en = R.ofOption (slice l st en) := ArrC.slice_eq_spec l st en

/-- `bitloc` and `buffer/bit`, `bit-set`, `bit-clear`, `bit-toggle` with the C's `|=`, `&= ~`, `^=`, `&` on the byte -/
theorem mirror_bitops (b : Bytes) (x : Int) (hx : in64 x = true) (hb : ∀ c ∈ b, c < 256) :
    BufC.bitloc b x = R.ofOption (bitloc b x) ∧
    BufC.bitGet b x = R.ofOption (bitGet b x) ∧ BufC.bitSet b x = R.ofOption (bitSet b x) ∧
    BufC.bitClear b x = R.ofOption (bitClear b x) ∧ BufC.bitToggle b x = R.ofOption (bitToggle b x) :=
  ⟨BufC.bitloc_eq_spec b x hx, BufC.bitops_eq_spec b x hx hb⟩

/-- `buffer/fill` (memset) and `buffer/popn` -/
theorem mirror_buffer_fill_popn (b : Bytes) (v : Int) (hL : Len32 b) :
    BufC.fill b v = .ok (bufferFill b v) ∧ BufC.popn b v = R.ofOption (bufferPopn b v) :=
  ⟨BufC.fill_eq_spec b v, BufC.popn_eq_spec b v hL⟩

/-- `buffer/blit`, also of a buffer into itself: offsets, the `length_src < 0` clamp, the INT32_MAX check, growth, copy -/
theorem mirror_buffer_blit (dest : Bytes) (src : Option Bytes) (ds ss : Option Int) (se : Option (Option Int))
    (hd : Len32 dest) (hs : ∀ l, src = some l → Len32 l) :
    BufC.blit dest src ds ss se = R.ofOption (bufferBlit dest src ds ss se) := BufC.blit_eq_spec dest src ds ss se hd hs

/-- `each`-based combinators: `reduce`, `filter`, `map` and `count` over one sequence, `sum`, `product` -/
theorem boot_each_family {α β : Type} (f : β → α → β) (init : β) (g : α → β) (pred : α → Bool) (ind : List α) (xs : List Int) :
    Boot.reduce f init ind = .ok (reduce f init ind) ∧ Boot.filter pred ind = .ok (ind.filter pred) ∧
    Boot.map1 g ind = .ok (ind.map g) ∧ Boot.count1 pred ind = .ok (ind.countP pred) ∧
    Boot.sum xs = .ok (sumI xs) ∧ Boot.product xs = .ok (productI xs) :=
  ⟨Boot.reduce_eq_spec f init ind, Boot.filter_eq_spec pred ind, Boot.map1_eq_spec g ind, Boot.count1_eq_spec pred ind,
   Boot.sum_eq_spec xs, Boot.product_eq_spec xs⟩

/-- `(map f ind ind0)` (map-template branch `map-n 1`) stops at the shorter sequence -/
theorem boot_map2 {α β γ : Type} (f : α → β → γ) (ind : List α) (ind0 : List β) :
    Boot.map2 f ind ind0 = .ok (List.zipWith f ind ind0) ∧ (List.zipWith f ind ind0).length = min ind.length ind0.length :=
  ⟨Boot.map2_eq_spec f ind ind0, by simp⟩

/-- `find-index`, and `take-until` / `take-while` / `drop-until` / `drop-while` built on it -/
theorem boot_find_index_family {α : Type} (pred : α → Bool) (ind : List α) :
    Boot.findIndex pred ind = .ok (ind.findIdx? pred) ∧
    Boot.takeUntil pred ind = .ok (ind.takeWhile (fun x => !pred x)) ∧ Boot.takeWhile pred ind = .ok (takeWhileL pred ind) ∧
    Boot.dropUntil pred ind = .ok (ind.dropWhile (fun x => !pred x)) ∧ Boot.dropWhile pred ind = .ok (dropWhileL pred ind) :=
  ⟨Boot.findIndex_eq_spec pred ind, Boot.takeUntil_eq_spec pred ind, Boot.takeWhile_eq_spec pred ind,
   Boot.dropUntil_eq_spec pred ind, Boot.dropWhile_eq_spec pred ind⟩

/-- `take` / `drop` on indexed and bytes values for EVERY `n`: `take-n-slice` / `drop-n-slice` never pass an out-of-range
    index to `tuple/slice` / `string/slice` -/
theorem boot_take_drop {α : Type} (n : Int) (ind : List α) :
    Boot.take n ind = .ok (takeN n ind) ∧ Boot.drop n ind = .ok (dropN n ind) :=
  ⟨Boot.take_eq_spec n ind, Boot.drop_eq_spec n ind⟩

/-- `extreme` (and `max`, `min`, `max-of`, `min-of`, all instances of the macro `do-extreme`) -/
theorem boot_extreme {α : Type} (order : α → α → Bool) (ds : List α) : Boot.extreme order ds = .ok (extreme order ds) :=
  Boot.extreme_eq_spec order ds

example : ArrC.remove [1, 2, 3] 1 (some 2147483647) = .ok [1] ∧ BufC.bitSet [0] 3 = .ok [8] := by decide +kernel
example : Boot.take (-2) [1, 2, 3] = .ok [2, 3] ∧ Boot.map2 (fun (a b : Nat) => a * b) [1, 2, 3] [4, 5] = .ok [4, 10] := by decide +kernel

/-- `tuple/join`: the int32 length accumulator is checked before every addition; raises iff the result is too long -/
theorem mirror_tuple_join {α : Type} [Inhabited α] (parts : List (List α)) (hp : ∀ p ∈ parts, Len32 p) :
    ArrC.tupleJoin parts = if (parts.flatten.length : Int) ≤ int32Max then .ok parts.flatten else .panic :=
  ArrC.tupleJoin_eq_spec parts

/-- `array/concat`, also of an array onto itself (`len` captured before the pushes; `vals[j]` read from the growing array) -/
theorem mirror_array_concat {α : Type} (a : List α) (parts : List (ConcatArg α))
    (h : ((arrayConcat a parts).length : Int) ≤ int32Max) : ArrC.concat a parts = .ok (arrayConcat a parts) :=
  ArrC.concat_eq_spec a parts h

/-- `buffer_push_impl` (`buffer/push`, and with byte-sequence arguments `buffer/push-string`): contents after the call —
    also after a call that raised part-way — and the error condition are those of the reference definition; stale cells
    beyond the count are untouched (invariant `BufPush.Inv`) -/
theorem mirror_buffer_push (D : List Nat) (xs : List PushArg) (b : BufPush.Buf) (hI : BufPush.Inv D b)
    (h32 : ((bufferPushSt (BufPush.contents b) xs).2.length : Int) ≤ int32Max) :
    BufPush.contents (BufPush.push b xs).1 = (bufferPushSt (BufPush.contents b) xs).2 ∧
    (BufPush.push b xs).2 = (if (bufferPushSt (BufPush.contents b) xs).1 then .ok () else .panic) ∧
    BufPush.Inv D (BufPush.push b xs).1 := BufPush.pushImpl_spec D xs b hI h32

/-- `buffer/push-at`, for a call on which the reference definition succeeds, on a block that is exactly the contents:
    set count to `index`, push, restore the count if it ended smaller — the old tail bytes reappear -/
theorem mirror_buffer_push_at (bs : Bytes) (index : Int) (xs : List PushArg) (r : Bytes)
    (hspec : bufferPushAt bs index xs = some r) (h32 : (r.length : Int) ≤ int32Max) :
    BufPush.contents (BufPush.pushAt { data := bs.toArray, count := bs.length } index xs).1 = r ∧
    (BufPush.pushAt { data := bs.toArray, count := bs.length } index xs).2 = .ok () :=
  BufPush.pushAt_eq_spec bs index xs r hspec h32

/-- boot.janet `index-of`, `find`, `reverse`, `reduce2`, `zipcoll` -/
theorem boot_more {α β : Type} [BEq α] [Inhabited α] (x : α) (pred : α → Bool) (f : α → α → α) (ind : List α) (vs : List β) :
    Boot.indexOf x ind = .ok (ind.findIdx? (fun y => y == x)) ∧ Boot.find pred ind = .ok (ind.find? pred) ∧
    Boot.reverse ind = .ok ind.reverse ∧
    Boot.reduce2 f ind = .ok (match ind with | [] => none | y :: ys => some (ys.foldl f y)) ∧
    Boot.zipcoll ind vs = .ok (zipcoll ind vs) :=
  ⟨Boot.indexOf_eq_spec x ind, Boot.find_eq_spec pred ind, Boot.reverse_eq_spec ind, Boot.reduce2_eq_spec f ind,
   Boot.zipcoll_eq_spec ind vs⟩

example : BufPush.contents (BufPush.pushAt { data := #[1, 2, 3, 4, 5], count := 5 } 1 [.byte 9]).1 = [1, 9, 3, 4, 5] := by decide +kernel
example : ArrC.concat [1] [.self, .self] = .ok [1, 1, 1, 1] ∧ ArrC.tupleJoin [[1], [2, 3]] = .ok [1, 2, 3] := by decide +kernel

/-- boot.janet `partition` (pre-sized result array, `forv` loop over the full chunks, one shorter last chunk) and
    `distinct` (`seen` table); `distinct` for a lawful equality on the elements -/
theorem boot_partition_distinct {α : Type} [BEq α] [LawfulBEq α] (n : Nat) (hn : 1 ≤ n) (ind : List α) :
    Boot.partition (n : Int) ind = .ok (partition n ind) ∧ Boot.distinct ind = .ok (distinct ind) :=
  ⟨Boot.partition_eq_spec n hn ind, Boot.distinct_eq_spec ind⟩

example : Boot.partition 2 [1, 2, 3] = .ok [[1, 2], [3]] ∧ Boot.distinct [1, 1, 2] = .ok [1, 2] := by decide +kernel

/-- `(map f ind ind0 ind1)` (map-template branch `map-n 2`), `array/fill`, `string/from-bytes` (raises at the first
    non-int32 argument) -/
theorem mirror_map3_fill_frombytes {α β γ δ : Type} (f : α → β → γ → δ) (ind : List α) (ind0 : List β) (ind1 : List γ)
    (x : α) (argv : List Int) :
    Boot.map3 f ind ind0 ind1 = .ok (List.zipWith (fun (p : α × β) z => f p.1 p.2 z) (List.zip ind ind0) ind1) ∧
    ArrC.fill ind x = .ok (arrayFill ind x) ∧
    StrC.fromBytes argv = R.ofOption ((argv.mapM getInt32).map (fun l => l.map toByte)) :=
  ⟨Boot.map3_eq_spec f ind ind0 ind1, ArrC.fill_eq_spec ind x, StrC.fromBytes_eq_spec argv⟩

/-- `map-template` with the aggregators `:keep`, `:mapcat`, `:count`: branch `0` (one sequence) and branch `map-n 1`
    (two sequences) for ANY aggregator that does not `(break)` — the loop folds the aggregator over the pairs up to the
    shorter sequence, and no `(in …)` is out of range -/
theorem boot_map_template {α β γ σ : Type} (pred : α → Option γ) (f : α → List γ) (agg : σ → α → β → σ) (init : σ)
    (pred2 : α → β → Option γ) (f2 : α → β → List γ) (p2 : α → β → Bool) (ind : List α) (ind0 : List β) :
    Boot.keep1 pred ind = .ok (ind.filterMap pred) ∧ Boot.mapcat1 f ind = .ok (ind.flatMap f) ∧
    Boot.mapN1 agg init ind ind0 = .ok ((List.zip ind ind0).foldl (fun s p => agg s p.1 p.2) init) ∧
    Boot.keep2 pred2 ind ind0 = .ok ((List.zip ind ind0).filterMap (fun p => pred2 p.1 p.2)) ∧
    Boot.mapcat2 f2 ind ind0 = .ok ((List.zip ind ind0).flatMap (fun p => f2 p.1 p.2)) ∧
    Boot.count2 p2 ind ind0 = .ok ((List.zip ind ind0).countP (fun p => p2 p.1 p.2)) :=
  ⟨Boot.keep1_eq_spec pred ind, Boot.mapcat1_eq_spec f ind, Boot.mapN1_eq_spec agg init ind ind0,
   Boot.keep2_eq_spec pred2 ind ind0, Boot.mapcat2_eq_spec f2 ind ind0, Boot.count2_eq_spec p2 ind ind0⟩

/-- `interleave` = `(mapcat tuple ;cols)` for one and two columns: rows up to the shorter column -/
theorem boot_interleave {α : Type} (c0 c1 : List α) :
    Boot.interleave1 c0 = .ok (interleave [c0]) ∧ Boot.interleave2 c0 c1 = .ok (interleave [c0, c1]) :=
  ⟨Boot.interleave1_eq_spec c0, Boot.interleave2_eq_spec c0 c1⟩

/-- `interpose` on an indexed / bytes value: the array pre-sized to `2·len − 1` receives element `k` at index `2k`; no
    `put` lands outside it (which would silently extend the array), `array/new-filled` never gets a negative count -/
theorem boot_interpose {α : Type} (sep : α) (ind : List α) : Boot.interpose sep ind = .ok (interpose sep ind) :=
  Boot.interpose_eq_spec sep ind

/-- `frequencies` and `group-by` (a table updated inside `each`; tables as association lists in insertion order): every
    key once, in order of first occurrence, with the exact count / exactly the elements of that key in order -/
theorem boot_frequencies_group_by {α κ : Type} [BEq α] [LawfulBEq α] [BEq κ] [LawfulBEq κ] (f : α → κ) (ind : List α) :
    Boot.frequencies ind = .ok (frequencies ind) ∧ Boot.groupBy f ind = .ok (groupBy f ind) :=
  ⟨Boot.frequencies_eq_spec ind, Boot.groupBy_eq_spec f ind⟩

/-- `sort-by`, `sorted`, `sorted-by`: for a strict weak `<` on the keys (resp. `before?`) the result is an ordered
    permutation; `sorted` / `sorted-by` sort a copy made by `(array/slice ind)` (mirror `ArrC.slice`), whatever `ind` is -/
theorem boot_sort_wrappers {α κ : Type} [Inhabited α] (le before : α → α → Bool) (lt : κ → κ → Bool) (f : α → κ)
    (hb : Sort.SWO before) (hlt : Sort.SWO lt) (a : Array α) (ind : List α) :
    (∃ r, Boot.sortBy le lt f a = .ok r ∧ Array.Perm r a ∧ r.size = a.size ∧
      ∀ i j (hij : i < j) (hj : j < r.size), lt (f r[j]) (f (r[i]'(by omega))) = false) ∧
    (∃ r, Boot.sorted le before ind = .ok r ∧ Array.Perm r ind.toArray ∧ r.size = ind.length ∧
      ∀ i j (hij : i < j) (hj : j < r.size), before r[j] (r[i]'(by omega)) = false) ∧
    (∃ r, Boot.sortedBy le lt f ind = .ok r ∧ Array.Perm r ind.toArray ∧ r.size = ind.length ∧
      ∀ i j (hij : i < j) (hj : j < r.size), lt (f r[j]) (f (r[i]'(by omega))) = false) :=
  ⟨Boot.sortBy_sorted le lt f hlt a, Boot.sorted_sorted le before hb ind, Boot.sortedBy_sorted le lt f hlt ind⟩

example : Boot.interpose 0 [1, 2, 3] = .ok [1, 0, 2, 0, 3] ∧ Boot.interleave2 [1, 2, 3] [7, 8] = .ok [1, 7, 2, 8] ∧
    Boot.frequencies [3, 1, 3] = .ok [(3, 2), (1, 1)] ∧ Boot.groupBy (fun (a : Nat) => a % 2) [3, 4, 5] = .ok [(1, [3, 5]), (0, [4])] ∧
    Boot.keep1 (fun (a : Nat) => if a % 2 == 0 then some (a + 1) else none) [1, 2, 4] = .ok [3, 5] := by decide +kernel
example : Sort.SWO (fun (a b : Int) => decide (a < b)) := Boot.int_lt_swo

/-- `buffer/push-word` (`janet_buffer_push_u32`: four masked / shifted stores): contents after the call — also after a call
    that raised part-way — and the error condition; with `Spec.pushWord` as the all-or-nothing view of the same -/
theorem mirror_push_word (D : List Nat) (xs : List Int) (b : BufPush.Buf) (hI : BufPush.Inv D b)
    (h32 : ((BufPush.pushWordSt (BufPush.contents b) xs).2.length : Int) ≤ int32Max) :
    BufPush.contents (BufPush.pushWord b xs).1 = (BufPush.pushWordSt (BufPush.contents b) xs).2 ∧
    (BufPush.pushWord b xs).2 = (if (BufPush.pushWordSt (BufPush.contents b) xs).1 then .ok () else .panic) ∧
    BufPush.Inv D (BufPush.pushWord b xs).1 ∧
    pushWord (BufPush.contents b) xs = (if (BufPush.pushWordSt (BufPush.contents b) xs).1
      then some (BufPush.pushWordSt (BufPush.contents b) xs).2 else none) :=
  let h := BufPush.pushWord_spec D xs b hI h32
  ⟨h.1, h.2.1, h.2.2, BufPush.pushWordSt_spec _ xs⟩

/-- `buffer/push-uint16|32|64`: unknown byte order or a value outside `[0, 2^(8n))` raises; otherwise the `n` bytes are
    appended in the requested order (`reverse_u32` / `reverse_u64` as the explicit swaps of the C; little-endian target) -/
theorem mirror_push_uint (D : List Nat) (b : BufPush.Buf) (nbytes : Nat) (hn : nbytes = 2 ∨ nbytes = 4 ∨ nbytes = 8)
    (order : Bytes) (data : Int) (hI : BufPush.Inv D b) (h32 : (b.count : Int) + (nbytes : Int) ≤ int32Max) :
    (BufPush.shouldReverse order = .panic → BufPush.pushUintC b nbytes order data = .panic) ∧
    (∀ be, BufPush.shouldReverse order = .ok be →
      (pushUint (BufPush.contents b) nbytes be data = none → BufPush.pushUintC b nbytes order data = .panic) ∧
      (∀ r, pushUint (BufPush.contents b) nbytes be data = some r →
        ∃ b', BufPush.pushUintC b nbytes order data = .ok b' ∧ BufPush.contents b' = r ∧ BufPush.Inv D b')) :=
  BufPush.pushUintC_spec D b nbytes hn order data hI h32

/-- `buffer/new-filled`, `array/new-filled`, `array/push` (raises exactly when the new count would reach INT32_MAX; neither
    `INT32_MAX - argc + 1` nor `count - 1 + argc` overflows), `array/pop`, `array/peek` -/
theorem mirror_new_filled_push_pop {α : Type} [Inhabited α] (count byte : Int) (x : α) (a xs : List α) (ha : Len32 a)
    (hx : (xs.length : Int) + 1 ≤ int32Max) :
    BufPush.newFilledC count byte = .ok (newFilled count byte) ∧
    ArrC.newFilled count x = (if count < 0 then .panic else .ok (List.replicate count.toNat x)) ∧
    ArrC.pushC a xs = (if int32Max ≤ (a.length : Int) + (xs.length : Int) then .panic else .ok (a ++ xs)) ∧
    ArrC.pop a = .ok (a.getLast?, a.dropLast) ∧ ArrC.peek a = .ok a.getLast? :=
  ⟨BufPush.newFilledC_eq_spec count byte, ArrC.newFilled_eq_spec count x, ArrC.pushC_eq_spec a xs hx,
   (ArrC.pop_peek_eq_spec a ha).1, (ArrC.pop_peek_eq_spec a ha).2⟩

example : BufPush.contents (BufPush.pushWord { data := #[7], count := 1 } [258, -1, 3]).1 = [7, 2, 1, 0, 0] ∧
    BufPush.reverseU32 #[1, 2, 3, 4] = .ok #[4, 3, 2, 1] ∧ ArrC.pushC [1] [2, 3] = .ok [1, 2, 3] := by decide +kernel

/-- `flatten` / `flatten-into`: the leaves in left-to-right order for every nesting (the mirror's recursion fuel only has
    to exceed the nesting depth); `reverse!`: the in-place two-index swap loop `(while (< i (-- j)) …)` reverses for every
    length with no `in` / `put` outside the array; `merge` / `merge-into` over collections with distinct keys: later
    collections win, `(in c key)` always finds the key it was given by the `:keys` iteration -/
theorem boot_flatten_reverse_merge {α κ β : Type} [BEq κ] [LawfulBEq κ] (fuel : Nat) (xs : List (Boot.Nest α))
    (hf : Boot.depthList xs < fuel) (t : List α) (tab : List (κ × β)) (colls : List (List (κ × β)))
    (hnd : ∀ c ∈ colls, (c.map (·.1)).Nodup) :
    Boot.flatten fuel xs = .ok (Boot.flatList xs) ∧ Boot.reverseBang t = .ok t.reverse ∧
    Boot.mergeInto tab colls = .ok (colls.foldl (fun acc c => c.foldl (fun acc kv => assocPut acc kv.1 kv.2) acc) tab) ∧
    Boot.merge colls = .ok (merge colls) :=
  ⟨Boot.flatten_eq_spec fuel xs hf, Boot.reverseBang_eq_spec t, Boot.mergeInto_eq_spec tab colls hnd,
   Boot.merge_eq_spec colls hnd⟩

example : Boot.flatten 3 [.leaf 1, .node [.leaf 2, .node [.leaf 3]]] = .ok [1, 2, 3] ∧
    Boot.reverseBang [1, 2, 3, 4] = .ok [4, 3, 2, 1] ∧ Boot.merge [[(1, 10)], [(1, 11), (2, 20)]] = .ok [(1, 11), (2, 20)] := by decide +kernel

/-- `map-n n` for EVERY n (map-template instantiates n = 1, 2, 3) and the general branch of map-template (`iter-keys` /
    `call-buffer` arrays, `forv` with `(break)`, `done` flag), with any aggregator that does not itself `(break)` (:map,
    :mapcat, :keep, :count): both fold the aggregator over the rows `j < m`, `m` the length of the shortest of all the
    sequences — so `map` / `mapcat` / `keep` / `count` over any number of sequences stop at the shortest one, never index
    out of range and terminate; `interleave` of any number of columns is that fold with `mapcat tuple` -/
theorem boot_map_any_arity {α β γ σ : Type} (agg : σ → γ → σ) (f : α → List β → γ) (init : σ) (ind : List α)
    (inds : List (List β)) (c0 : List α) (cols : List (List α)) :
    Boot.mapN agg f init ind inds = .ok (Boot.mapRows agg f init ind inds) ∧
    Boot.mapGen agg f init ind inds = .ok (Boot.mapRows agg f init ind inds) ∧
    (Boot.mapRows (fun (res : Array α) (row : List α) => res ++ row.toArray) (fun x row => x :: row) #[] c0 cols).toList
      = interleave (c0 :: cols) :=
  ⟨Boot.mapN_eq_spec agg f init ind inds, Boot.mapGen_eq_spec agg f init ind inds, Boot.interleave_eq_mapRows c0 cols⟩

example : Boot.mapGen (fun (s : List Nat) v => s ++ [v]) (fun (x : Nat) row => x + row.foldl (· + ·) 0) [] [1, 2, 3]
    [[10, 20, 30], [100, 200], [1000, 2000, 3000], [0, 0, 0, 0]] = .ok [1111, 2222] ∧
    Boot.mapN (fun (s : List Nat) v => s ++ v) (fun (x : Nat) row => x :: row) [] [1, 2] [[3, 4], [5, 6, 7]] = .ok [1, 3, 5, 2, 4, 6] := by decide +kernel

/-- boot.janet `some` and `all`, i.e. map-template with an aggregator that itself executes `(break)`
    (`:some ~(if (def y ,val) (do (set ,res y) (break)))`, `:all ~(if (def y ,val) nil (do (set ,res y) (break)))`), for ANY
    number of sequences — branch `0`, the `map-n` expansion for every `n`, the general branch (`iter-keys` / `call-buffer`,
    `forv`, `done` flag) and the `case ninds` dispatch between them.  `truthy` is janet truthiness of a result, `nilv` /
    `truev` the initial `(var res nil)` / `(var res true)`.  Every branch with every breaking aggregator is the stopping
    fold over the row results `(f x_j ;row_j)`, `j` below the length of the shortest sequence; hence `some` returns the
    first truthy result and nil when there is none, `all` the first falsey result and true when there is none, an empty
    sequence gives nil / true, no `(in …)` is out of range and the loops terminate (no `.panic` / `.ub` outcome). -/
theorem boot_some_all {α β γ σ : Type} (truthy : γ → Bool) (nilv truev : γ) (pred : α → List β → γ) (ind : List α)
    (inds : List (List β)) (agg : σ → γ → σ × Bool) (f : α → List β → γ) (init : σ) :
    Boot.someOf truthy nilv pred ind inds = .ok (((Boot.rowVals pred ind inds).find? truthy).getD nilv) ∧
    Boot.allOf truthy truev pred ind inds = .ok (((Boot.rowVals pred ind inds).find? (fun v => !truthy v)).getD truev) ∧
    Boot.mapNB agg f init ind inds = .ok (Boot.foldB agg init (Boot.rowVals f ind inds)) ∧
    Boot.mapGenB agg f init ind inds = .ok (Boot.foldB agg init (Boot.rowVals f ind inds)) ∧
    Boot.mapTemplateB agg f init ind inds = .ok (Boot.foldB agg init (Boot.rowVals f ind inds)) ∧
    (Boot.rowVals f ind inds).length ≤ ind.length ∧ (∀ c ∈ inds, (Boot.rowVals f ind inds).length ≤ c.length) :=
  ⟨Boot.someOf_eq_spec truthy nilv pred ind inds, Boot.allOf_eq_spec truthy truev pred ind inds,
   Boot.mapNB_eq_spec agg f init ind inds, Boot.mapGenB_eq_spec agg f init ind inds,
   Boot.mapTemplateB_eq_spec agg f init ind inds, Boot.rowVals_length_le f ind inds, Boot.rowVals_length_le_mem f ind inds⟩

example : Boot.someOf (fun (v : Option Nat) => v.isSome) none
      (fun (x : Nat) row => let t := row.foldl (· + ·) x; if t > 2000 then some t else none)
      [1, 2, 3, 4] [[10, 20, 30], [100, 200, 300], [1000, 2000, 3000], [0, 0, 0, 0], [0, 0, 0]] = .ok (some 2222) ∧
    Boot.allOf (fun (v : Bool) => v) true (fun (x : Nat) row => decide (row.foldl (· + ·) x < 2000))
      [1, 2, 3, 4] [[10, 20, 30], [100, 200, 300], [1000, 2000, 3000], [0, 0, 0, 0]] = .ok false ∧
    Boot.allOf (fun (v : Bool) => v) true (fun (x : Nat) row => decide (row.foldl (· + ·) x < 2000))
      [1, 2, 3, 4] [[10, 20, 30], [100], [1000, 2000, 3000], [0, 0, 0, 0]] = .ok true ∧
    Boot.someOf (fun (v : Option Nat) => v.isSome) none (fun (x : Nat) (_ : List Nat) => if x > 2 then some x else none)
      [1, 2, 3, 4] [] = .ok (some 3) := by decide +kernel

/-- pp.c `scanformat` (the scanner that `janet_formatbv` runs on every `%` directive): for a format without embedded NUL it
    reads exactly the directive syntax of the reference formatter (`FormatC.parse`: flags by `takeWhile isFlag`, at most two
    width digits, an optional `.` with at most two precision digits) — same offset of the conversion character, same width
    and precision digits; it raises exactly for ≥ 6 flag characters ("repeated flags") and for a third digit ("width or
    precision too long"); it never reads past the format's terminating NUL and never writes outside the caller's
    `char form[MAX_FORMAT]` (the mirror has no `.ub` outcome; the `snprintf` format it builds is shorter than 32 bytes) -/
theorem mirror_scanformat (rest : Bytes) (hz : ∀ c ∈ rest, c ≠ 0) :
    (FormatC.parse rest = none → FormatC.scanformat rest = .panic) ∧
    (∀ p w pr, FormatC.parse rest = some (p, w, pr) →
      ∃ form, FormatC.scanformat rest = .ok { p := p, width := w, precision := pr, form := form } ∧
        form.length < FormatC.maxFormat) :=
  FormatC.scanformat_spec rest hz

example : FormatC.scanformat [45, 48, 49, 50, 46, 51, 100, 65]
    = .ok { p := 6, width := [49, 50], precision := [51], form := [37, 45, 48, 49, 50, 46, 51, 108, 100] } ∧
    FormatC.scanformat [45, 45, 45, 45, 45, 45, 100] = .panic ∧ FormatC.parse [49, 50, 51, 100] = none := by decide +kernel

/-- where `scanformat` raises on a directive, the reference formatter (`Format.go`, which reads the directive with the same
    expressions) stops with an error and exactly the output produced so far — the partial output `buffer/format` leaves -/
theorem format_error_where_scan_raises (fuel : Nat) (rest : Bytes) (hz : ∀ c ∈ rest, c ≠ 0) (c0 : Nat) (r0 : Bytes)
    (hr : rest = c0 :: r0) (h37 : c0 ≠ 37) (a : Format.FArg) (args : List Format.FArg) (out : Bytes)
    (hs : FormatC.scanformat rest = .panic) :
    Format.go (fuel + 1) (37 :: rest) (a :: args) out = .err out :=
  FormatC.go_error_of_scan_panic fuel rest hz c0 r0 hr h37 a args out hs

example : Format.format [97, 37, 49, 50, 51, 100] [.int 5] = .err [97] := by decide +kernel

/-- the per-directive item step of pp.c `janet_formatbv` and `janet_buffer_format` (string/format, buffer/format, the printf
    family, error messages): for EVERY complete rendering `full` that the C library produces for the directive — `snprintf`
    returns `full.length`, stores `min(full.length, bound − 1)` bytes and a NUL in `char item[size]` — the step either raises
    "format buffer overflow" (exactly when the item does not fit in 255 bytes) or appends exactly the bytes of the item to
    the output: no truncation, no terminating NUL, no indeterminate byte of `item[]`, no read or write outside `item[]` (the
    mirror has no `.ub` outcome).  The array size, the `snprintf` bound, the limit and the comparison operator (`>=` / `>`)
    of both functions are regenerated from the current pp.c (Gen/Lib.lean) on every run. -/
theorem format_item_exact_or_error (out full : Bytes) :
    FormatC.formatbvItem out full = FormatC.itemSpec out full ∧
    FormatC.bufferFormatItem out full = FormatC.itemSpec out full ∧
    (∀ r, FormatC.bufferFormatItem out full = .ok r → r = out ++ full ∧ full.length ≤ 255 ∧ (0 ∈ r → 0 ∈ out ∨ 0 ∈ full)) := by
  have h1 : FormatC.formatbvItem out full = FormatC.itemSpec out full := FormatC.itemStep_ge 256 (by decide) out full
  have h2 : FormatC.bufferFormatItem out full = FormatC.itemSpec out full := FormatC.itemStep_ge 256 (by decide) out full
  refine ⟨h1, h2, ?_⟩
  intro r hr
  rw [h2] at hr
  unfold FormatC.itemSpec FormatC.maxItem at hr
  by_cases hL : full.length ≥ 256
  · simp [hL] at hr
  · simp only [hL, if_false, R.ok.injEq] at hr
    subst hr
    exact ⟨rfl, by omega, fun h => List.mem_append.mp h⟩

/-- why the operator matters: with the strict test `nb > MAX_ITEM` an item of exactly 256 bytes is not rejected; the 255
    bytes that `snprintf` kept AND its terminating NUL are appended -/
theorem format_item_strict_test_appends_terminator (out full : Bytes) (hL : full.length = 256) :
    FormatC.itemStep 256 256 256 false out full = .ok (out ++ full.take 255 ++ [0]) :=
  FormatC.itemStep_gt_pushes_terminator 256 (by decide) out full hL

example : FormatC.bufferFormatItem [120] [52, 50] = .ok [120, 52, 50] ∧ FormatC.formatbvItem [] [] = .ok [] := by
  rw [(format_item_exact_or_error _ _).2.1, (format_item_exact_or_error _ _).1]; decide

example : FormatC.bufferFormatItem [120] (List.replicate 255 48) = .ok (120 :: List.replicate 255 48) ∧
    FormatC.bufferFormatItem [120] (List.replicate 256 48) = .panic := by
  rw [(format_item_exact_or_error _ _).2.1, (format_item_exact_or_error _ _).2.1]
  simp only [FormatC.itemSpec, FormatC.maxItem, List.length_replicate]
  exact ⟨by rw [if_neg (by decide)]; rfl, by rw [if_pos (by decide)]⟩

end JanetModel.Props.C17
