/- C11 property theorems (parser output depends only on the bytes; data prints and parses back).
   Models: JanetModel.Parse.Model (parse.c), JanetModel.PP.Jdn (pp.c %j); tables from Gen/Parse.lean (regenerated). -/
import JanetModel.Parse.Model
import JanetModel.Parse.Lemmas
import JanetModel.PP.Jdn
import JanetModel.Parse.Escape
import JanetModel.Parse.Pos
import JanetModel.Parse.Pure
import JanetModel.Parse.Roundtrip
import JanetModel.Parse.ReadAll
import JanetModel.Parse.Insert
import JanetModel.Parse.Latch
import JanetModel.Parse.InsertPure
import JanetModel.Parse.CapLemmas
import JanetModel.Parse.EofClean
import JanetModel.Parse.PhysRun
import JanetModel.Parse.PhysInsert
import JanetModel.Parse.ErrOwn
import JanetModel.Parse.StrIdxLemmas

namespace JanetModel.Props.C11
open JanetModel.Parse JanetModel.PP JanetModel.Gen.Parse

/-- The `while (!consumed && !parser->error)` loop terminates from EVERY parser state (well-formed or not) on every
    byte: the fuel `2 * statecount + 3` the model gives it is never exhausted (measure: `Parse.mu`). -/
theorem consume_total (scan : List B → Option String) (p : Parser) (c : B) :
    (consumeLoop scan (loopFuel p) p c).isSome = true :=
  consumeLoop_total scan p c

/-- Feeding a byte string in two chunks is the same as feeding it whole, for every split, from every parser state.  In the model
    `parser/consume` on a chunk IS the byte loop (`feed` is a left fold), so this records that modelling decision; that the C's
    entry points agree with it is what the harness tests. -/
theorem chunk_independent (scan : List B → Option String) (r : Run) (a b : List B) :
    feed scan r (a ++ b) = feed scan (feed scan r a) b :=
  List.foldl_append ..

/-- the event stream of a whole text equals the one obtained through any two-chunk split (and, by induction, any chunking) -/
theorem chunk_independent_events (scan : List B → Option String) (a b : List B) :
    parseAll scan (a ++ b) = (finish scan (feed scan (feed scan Run.init a) b)).out := by
  rw [parseAll, chunk_independent]

theorem chunk_independent_many (scan : List B → Option String) (r : Run) (chunks : List (List B)) :
    feed scan r chunks.flatten = chunks.foldl (feed scan) r :=
  List.foldl_flatten ..

/-- Continuing on a clone gives what continuing on the original gives, and (values being immutable in the model)
    feeding the clone cannot affect the original.  The content is in the next theorem and in the harness. -/
theorem clone_independent (scan : List B → Option String) (r : Run) (bs : List B) :
    feed scan { r with p := clone r.p } bs = feed scan r bs := rfl

/-- regenerated obligation: `janet_parser_clone` copies every field of `struct JanetParser` (janet.h) -/
theorem clone_copies_every_field : ∀ f ∈ parserFields, f ∈ cloneFields := by decide +kernel

/-- the model's `Frame` has exactly the fields of `struct JanetParseState` -/
theorem frame_fields_modelled : frameFields = ["counter", "argn", "flags", "line", "column", "consumer"] := by decide

/-- `parser/status`, `parser/has-more`, `parser/where`, `parser/state` are functions of the parser in the model (they return
    no new parser); `parser/error` without a latched error and `parser/produce` on an empty queue return the parser unchanged. -/
theorem status_produce_pure_partial (p : Parser) :
    (p.error = none → (takeError p).2 = p) ∧ (p.pending = 0 → (produce p).2 = p ∧ (produceWrapped p).2 = p) := by
  constructor
  · intro h; simp [takeError, h]
  · intro h; simp [produce, produceWrapped, h]

/-- For EVERY interleaving of bytes, `parser/produce` calls and pure queries (status / has-more / where / state), starting from
    a fresh parser, the values and errors the client ends up with are exactly those of feeding the bytes alone: queries and
    dequeuing do not change what later bytes produce.  (`Op.query` is the identity because in the model those calls return
    no parser; `produce` is the real dequeue: bottom of the argument stack removed, `pending` and `states[0].argn` decremented.)
    Rests on the lock-step lemma `step_addQ` (no consumer sees a value queued below everything the parser holds) and on the
    invariant `WF` (frame shape, Σ container argn + pending = argcount, root argn = pending), which needs `janet_parser_flush` to reset
    `states[0].argn`. -/
theorem status_produce_pure (scan : List B → Option String) (ops : List Op) :
    (ops.foldl (runOp scan) Run.init).events = (feed scan Run.init (bytesOf ops)).events :=
  schedule_pure scan ops Run.init WF_init

/-- the same from any well-formed run, e.g. any state reached by `feed` / `produce` from a fresh parser -/
theorem status_produce_pure_from (scan : List B → Option String) (r : Run) (h : WF r.p) (ops : List Op) :
    (ops.foldl (runOp scan) r).events = (feed scan r (bytesOf ops)).events :=
  schedule_pure scan ops r h

/-- the invariant holds in every state reachable by bytes and dequeues -/
theorem wf_reachable (scan : List B → Option String) (ops : List Op) : WF (ops.foldl (runOp scan) Run.init).p :=
  (WF.api scan).historyRun (runOp scan) (WF.api scan).runOp ops

/-- in every reachable state the frame walk of `parser/state` stays inside the argument array -/
theorem frames_in_bounds_reachable (scan : List B → Option String) (ops : List Op) :
    inner (ops.foldl (runOp scan) Run.init).p.states ≤ (ops.foldl (runOp scan) Run.init).p.args.length := by
  have := (wf_reachable scan ops).sum
  omega

example : (([Op.byte 49, .byte 32, .produce, .byte 50, .query, .byte 32].foldl (runOp (fun _ => some "n")) Run.init).events).length = 2 := by
  decide

/-- `parser/produce` changes only the value queue: position, buffer, error latch, flag and the kind / position of every
    frame are untouched (only the root frame's count is decremented). -/
theorem produce_touches_only_queue (p : Parser) :
    (produce p).2.line = p.line ∧ (produce p).2.column = p.column ∧ (produce p).2.lookback = p.lookback ∧
    (produce p).2.buf = p.buf ∧ (produce p).2.error = p.error ∧ (produce p).2.flag = p.flag ∧
    (produce p).2.states.length = p.states.length := by
  obtain ⟨h1, h2, h3, h4, h5, h6⟩ := produce_fields p
  exact ⟨h1, h2, h3, h6, h4, h5, (produce_counts p).2.1⟩

/-- (regenerated obligation, needs `janet_parser_flush` to reset `states[0].argn`): after `parser/flush` -- hence after
    `parser/error` -- the frame walk of `parser/state` stays inside the (now empty) argument array. -/
theorem flush_frames_in_bounds (p : Parser) : framesInBounds (flush p) = true := by
  have h : flushResetsRootArgn = true := by decide
  unfold framesInBounds flush
  simp only [h, if_true]
  have : ∀ l : List Frame, ((List.filter (fun s => hasFlag s.flags PFLAG_CONTAINER) (l.map fun s => { s with argn := 0 })).map (·.argn)).sum = 0 := by
    intro l
    induction l with
    | nil => simp
    | cons x xs ih =>
      simp only [List.map_cons, List.filter_cons]
      split <;> simp_all
  have h2 := this (List.drop (p.states.length - 1) p.states)
  simpa [List.map_drop] using h2

theorem takeError_frames_in_bounds (p : Parser) (h : p.error.isSome = true) : framesInBounds (takeError p).2 = true := by
  unfold takeError
  cases he : p.error with
  | none => simp [he] at h
  | some e => simp only; exact flush_frames_in_bounds _

/-- regenerated obligation: the end-of-line strip of `stringend` reads `bufstart[1]` / `bufstart[buflen-2]` only when the current
    length is at least 2, and `bufstart[0]` / `bufstart[buflen-1]` only when it is at least 1 -- so the value of a long string
    never depends on stale bytes of the reused scratch buffer (the model's `stripLeadingEol` / `stripTrailingEol` pattern-match
    on the logical buffer, which is exactly these guards). -/
theorem stringend_reads_in_bounds :
    stripLeadCRLFGuard = 1 ∧ stripLeadLFGuard = 0 ∧ stripTrailCRLFGuard = 1 ∧ stripTrailLFGuard = 0 := by decide

/-- Line, column and lookback after feeding ANY byte string to a fresh parser (client follows the error protocol) are
    the left fold of the CR/LF rule `posStep` over the bytes -- independent of what the bytes parse to, of errors met
    on the way, of the number scanner, and (with `chunk_independent`) of the chunking.  Rests on `quiet_step`: no
    consumer writes line / column / lookback. -/
theorem position_function_of_bytes (scan : List B → Option String) (bs : List B) :
    posOf (feed scan Run.init bs).p = bs.foldl posStep (1, 0, -1) ∧ (feed scan Run.init bs).p.error = none ∧ (feed scan Run.init bs).p.flag = 0 := by
  have h := feed_pos scan bs Run.init ⟨rfl, rfl⟩
  exact ⟨h.2, h.1.1, h.1.2⟩

theorem position_independent_of_scan (scan1 scan2 : List B → Option String) (bs : List B) :
    posOf (feed scan1 Run.init bs).p = posOf (feed scan2 Run.init bs).p := by
  rw [(position_function_of_bytes scan1 bs).1, (position_function_of_bytes scan2 bs).1]

example : [13, 10, 40, 10].foldl posStep (1, 0, -1) = (3, 0, 10) := by decide

/-- For EVERY byte string `bs` (all 256 byte values, any length): wherever a value may start (top frame is a root consumer:
    top level, inside any container, after a reader macro), with no error latched, the text that `%j` prints for the string --
    `"` ++ escapes ++ `"` (`janet_escape_string_impl`) -- is consumed byte by byte without error and ends with the parser
    handing exactly `Value.str bs` to `popstate`.  The escape tables on both sides come from the current source (Gen). -/
theorem escape_roundtrip (scan : List B → Option String) (args : List Value) (rest : List Frame) (line column pending : Nat)
    (lookback : Int) (flag : Nat) (top : Frame) (htop : top.consumer = .root) (bs : List B) :
    ∃ cnt an, steps scan ⟨args, none, top :: rest, [], line, column, pending, lookback, flag⟩ (escapeString bs) =
      some (popstate ⟨args, none, strFrame ⟨0, 0, PFLAG_STRING, line, column, .stringchar⟩ cnt an .stringchar :: top :: rest, [],
              line, column, pending, lookback, flag⟩ (Value.str bs)) ∧
      (popstate ⟨args, none, strFrame ⟨0, 0, PFLAG_STRING, line, column, .stringchar⟩ cnt an .stringchar :: top :: rest, [],
              line, column, pending, lookback, flag⟩ (Value.str bs)).error = none := by
  have h0 : step scan ⟨args, none, top :: rest, [], line, column, pending, lookback, flag⟩ 34 =
      (⟨args, none, strFrame ⟨0, 0, PFLAG_STRING, line, column, .stringchar⟩ 0 0 .stringchar :: top :: rest, [], line, column, pending, lookback, flag⟩, true) := by
    simp [step, htop, root, pushstate, strFrame]
  obtain ⟨c1, a1, h1, herr⟩ := string_frame_steps scan
    (p := ⟨args, none, strFrame ⟨0, 0, PFLAG_STRING, line, column, .stringchar⟩ 0 0 .stringchar :: top :: rest, [], line, column, pending, lookback, flag⟩)
    PFLAG_STRING line column bs rfl rfl rfl (by decide)
  rw [escapeString_eq, steps_cons_ok scan _ _ _ _ h0 rfl]
  exact ⟨c1, a1, h1, herr⟩

/-- the same for buffers: `@"` ... `"` yields `Value.buf bs` -/
theorem escape_roundtrip_buffer (scan : List B → Option String) (args : List Value) (rest : List Frame) (line column pending : Nat)
    (lookback : Int) (flag : Nat) (top : Frame) (htop : top.consumer = .root) (bs : List B) :
    ∃ cnt an, steps scan ⟨args, none, top :: rest, [], line, column, pending, lookback, flag⟩ (64 :: escapeString bs) =
      some (popstate ⟨args, none, strFrame ⟨0, 0, PFLAG_BUFFER ||| PFLAG_STRING, line, column, .stringchar⟩ cnt an .stringchar :: top :: rest, [],
              line, column, pending, lookback, flag⟩ (Value.buf bs)) ∧
      (popstate ⟨args, none, strFrame ⟨0, 0, PFLAG_BUFFER ||| PFLAG_STRING, line, column, .stringchar⟩ cnt an .stringchar :: top :: rest, [],
              line, column, pending, lookback, flag⟩ (Value.buf bs)).error = none := by
  have ha : step scan ⟨args, none, top :: rest, [], line, column, pending, lookback, flag⟩ 64 =
      (⟨args, none, ⟨0, 0, PFLAG_ATSYM, line, column, .atsign⟩ :: top :: rest, [], line, column, pending, lookback, flag⟩, true) := by
    simp [step, htop, root, pushstate]
  have h0 : step scan ⟨args, none, ⟨0, 0, PFLAG_ATSYM, line, column, .atsign⟩ :: top :: rest, [], line, column, pending, lookback, flag⟩ 34 =
      (⟨args, none, strFrame ⟨0, 0, PFLAG_BUFFER ||| PFLAG_STRING, line, column, .stringchar⟩ 0 0 .stringchar :: top :: rest, [], line, column, pending, lookback, flag⟩, true) := by
    simp [step, atsign, pushstate, strFrame]
  obtain ⟨c1, a1, h1, herr⟩ := string_frame_steps scan
    (p := ⟨args, none, strFrame ⟨0, 0, PFLAG_BUFFER ||| PFLAG_STRING, line, column, .stringchar⟩ 0 0 .stringchar :: top :: rest, [], line, column, pending, lookback, flag⟩)
    (PFLAG_BUFFER ||| PFLAG_STRING) line column bs rfl rfl rfl (by decide)
  rw [escapeString_eq, steps_cons_ok scan _ _ _ _ ha rfl, steps_cons_ok scan _ _ _ _ h0 rfl]
  exact ⟨c1, a1, h1, herr⟩

/-!
The statements below are about the consume loop itself (`eats` = the `while (!consumed)` loop byte after byte, failing on any
latched error), in ANY context where a value may start: `top` is a frame handled by `root` (top level, any container, after a
reader macro), arbitrary argument stack and frames below.  `popstate` is where the parser delivers a finished value
(it pushes it on the enclosing container / wraps it for the root queue / applies pending reader macros).

`jdn_roundtrip` below goes through `janet_parser_consume` with its position updates (`eatsP`); the atom statements here are at the
position-free `eats` level.  Neither level follows from the other: a frame records the position at which it was opened, `eats`
keeps positions fixed and `janet_parser_consume` moves them, so the two runs pass through different states.  They share the
per-byte facts (`TopRun`, `tok_first`, `tok_end`) and what `%j` prints for an atom (`jdn_kw_inv`, `jdn_sym_inv`, `classify_*`). -/

/-- strings: `jdn` prints `escapeString`, which reads back as the string -/
theorem jdn_roundtrip_string (scan : List B → Option String) (fmt : String → Option (List B)) (depth : Nat) (bs : List B)
    (args : List Value) (top : Frame) (rest : List Frame) (line column pending : Nat) (lb : Int) (flag : Nat) (htop : top.consumer = .root) :
    ∃ T, jdn scan fmt (depth + 1) (.str bs) = some T ∧ ∃ cnt an,
      eats scan ⟨args, none, top :: rest, [], line, column, pending, lb, flag⟩ T =
        some (popstate ⟨args, none, strFrame ⟨0, 0, PFLAG_STRING, line, column, .stringchar⟩ cnt an .stringchar :: top :: rest, [],
          line, column, pending, lb, flag⟩ (Value.str bs)) := by
  refine ⟨escapeString bs, by simp [jdn], ?_⟩
  obtain ⟨c, a, h, _⟩ := escape_roundtrip scan args rest line column pending lb flag top htop bs
  exact ⟨c, a, eats_of_steps scan _ _ _ rfl h⟩

theorem jdn_roundtrip_buffer (scan : List B → Option String) (fmt : String → Option (List B)) (depth : Nat) (bs : List B)
    (args : List Value) (top : Frame) (rest : List Frame) (line column pending : Nat) (lb : Int) (flag : Nat) (htop : top.consumer = .root) :
    ∃ T, jdn scan fmt (depth + 1) (.buf bs) = some T ∧ ∃ cnt an,
      eats scan ⟨args, none, top :: rest, [], line, column, pending, lb, flag⟩ T =
        some (popstate ⟨args, none, strFrame ⟨0, 0, PFLAG_BUFFER ||| PFLAG_STRING, line, column, .stringchar⟩ cnt an .stringchar :: top :: rest, [],
          line, column, pending, lb, flag⟩ (Value.buf bs)) := by
  refine ⟨64 :: escapeString bs, by simp [jdn], ?_⟩
  obtain ⟨c, a, h, _⟩ := escape_roundtrip_buffer scan args rest line column pending lb flag top htop bs
  exact ⟨c, a, eats_of_steps scan _ _ _ rfl h⟩

/-- keywords: if `%j` prints the keyword (it refuses bad ones), then text + any delimiter delivers that keyword -/
theorem jdn_roundtrip_keyword (scan : List B → Option String) (fmt : String → Option (List B)) (depth : Nat) (ks T : List B)
    (hj : jdn scan fmt (depth + 1) (.kw ks) = some T)
    (args : List Value) (top : Frame) (rest : List Frame) (line column pending : Nat) (lb : Int) (flag : Nat) (htop : top.consumer = .root)
    (d : B) (hd : isSymbolChar d = false) :
    eats scan ⟨args, none, top :: rest, [], line, column, pending, lb, flag⟩ (T ++ [d]) =
      eat scan (popstate ⟨args, none, tokFrame line column (naAcc 0 ks) :: top :: rest, [], line, column, pending, lb, flag⟩ (.kw ks)) d := by
  obtain ⟨rfl, hall, hcl⟩ := jdn_kw_inv hj
  simpa using token_roundtrip scan 58 ks d (.kw ks) rfl rfl rfl htop (by decide) hall hd (hcl _)

/-- symbols (not starting with `@`): if `%j` prints the symbol (`Gen.ppRefusesMisreadSymbols`), then text + any delimiter delivers that symbol -/
theorem jdn_roundtrip_symbol (scan : List B → Option String) (fmt : String → Option (List B)) (depth : Nat) (b : B) (bs T : List B)
    (hj : jdn scan fmt (depth + 1) (.sym (b :: bs)) = some T) (hat : b ≠ 64)
    (args : List Value) (top : Frame) (rest : List Frame) (line column pending : Nat) (lb : Int) (flag : Nat) (htop : top.consumer = .root)
    (d : B) (hd : isSymbolChar d = false) :
    eats scan ⟨args, none, top :: rest, [], line, column, pending, lb, flag⟩ (T ++ [d]) =
      eat scan (popstate ⟨args, none, tokFrame line column (naAcc (if b > 127 then 1 else 0) bs) :: top :: rest, [],
        line, column, pending, lb, flag⟩ (.sym (b :: bs))) d := by
  obtain ⟨rfl, -, hall, hcl⟩ := jdn_sym_inv hj
  simp only [List.all_cons, Bool.and_eq_true] at hall
  exact token_roundtrip scan b bs d (.sym (b :: bs)) rfl rfl rfl htop
    (by simp [rootStartsToken, hall.1, hat]) hall.2 hd (hcl _)

/-- nil / true / false -/
theorem jdn_roundtrip_const (scan : List B → Option String) (fmt : String → Option (List B)) (depth : Nat) (v : Value)
    (hv : v = .nil ∨ v = .bool true ∨ v = .bool false)
    (args : List Value) (top : Frame) (rest : List Frame) (line column pending : Nat) (lb : Int) (flag : Nat) (htop : top.consumer = .root)
    (d : B) (hd : isSymbolChar d = false) :
    ∃ T, jdn scan fmt (depth + 1) v = some T ∧
      eats scan ⟨args, none, top :: rest, [], line, column, pending, lb, flag⟩ (T ++ [d]) =
        eat scan (popstate ⟨args, none, tokFrame line column 0 :: top :: rest, [], line, column, pending, lb, flag⟩ v) d := by
  rcases hv with h | h | h <;> subst h
  · refine ⟨nilBytes, by simp [jdn], ?_⟩
    exact token_roundtrip scan 110 [105, 108] d .nil rfl rfl rfl htop (by decide) (by decide) hd
      (classify_nil scan _)
  · refine ⟨trueBytes, by simp [jdn], ?_⟩
    exact token_roundtrip scan 116 [114, 117, 101] d (.bool true) rfl rfl rfl htop (by decide) (by decide) hd
      (classify_true scan _)
  · refine ⟨falseBytes, by simp [jdn], ?_⟩
    exact token_roundtrip scan 102 [97, 108, 115, 101] d (.bool false) rfl rfl rfl htop (by decide) (by decide) hd
      (classify_false scan _)

/-- numbers, abstractly: whenever the formatter's text `c :: cs` for `tag` is a number-looking token on which the scanner
    returns `tag` again -- C13's `scan (print17 x) = x` is exactly the hypothesis `hscan` -- text + any delimiter delivers `num tag` -/
theorem jdn_roundtrip_number (scan : List B → Option String) (fmt : String → Option (List B)) (depth : Nat) (tag : String) (c : B) (cs : List B)
    (hj : jdn scan fmt (depth + 1) (.num tag) = some (c :: cs))
    (hscan : scan (c :: cs) = some tag)
    (hstart : (48 ≤ c.toNat && c.toNat ≤ 57 || c == 45 || c == 43 || c == 46) = true)
    (hsym : rootStartsToken c = true ∧ cs.all isSymbolChar = true)
    (args : List Value) (top : Frame) (rest : List Frame) (line column pending : Nat) (lb : Int) (flag : Nat) (htop : top.consumer = .root)
    (d : B) (hd : isSymbolChar d = false) :
    eats scan ⟨args, none, top :: rest, [], line, column, pending, lb, flag⟩ (c :: cs ++ [d]) =
      eat scan (popstate ⟨args, none, tokFrame line column (naAcc (if c > 127 then 1 else 0) cs) :: top :: rest, [],
        line, column, pending, lb, flag⟩ (.num tag)) d := by
  exact token_roundtrip scan c cs d (.num tag) rfl rfl rfl htop hsym.1 hsym.2 hd
    (classify_number scan (c :: cs) tag _ hscan (by simpa using hstart) (by simpa using start_not_colon c hstart))

/-- non-vacuity: the hypothesis on the top frame is met by the initial parser -/
example : (Parser.init.states.head?.map (·.consumer)) = some Consumer.root := by decide

/-! `jdn_roundtrip`: every value `%j` prints parses back to a deep-equal value.

Hypotheses, all explicit and decidable except the number one:
* `hprint : jdn scan fmt depth v = some T` -- `%j` with recursion budget `depth` (pp.c `print_jdn_one`: `depth == 0` refuses; the
  default budget is `Gen.jdnDefaultDepth` = JANET_RECURSION_GUARD) prints `v` as `T`.  This already says: every symbol / keyword in
  `v` passes `contains_bad_chars`, no number is NaN / infinite (`fmt` refuses), `v` is not nested deeper than the budget (pp.c
  panics "could not print to jdn format" otherwise -- it never prints `...`).
* `hdict : v.dictOK = true` -- every struct / table inside `v` is a possible one: as many values as keys, no nil key / value,
  keys pairwise different under `janet_equals` (`keq`).
* `hnum : NumOK scan fmt` -- C13's `scan (print17 x) = x`, plus: the printed number is a token (digits / sign / `.` / `e`).
Conclusion: feeding `T` to a FRESH parser (any chunking) and finishing with `janet_parser_eof` yields exactly ONE event, a value
`w` with `w.erase = v.erase` (equal up to tuple source-map line/column, which `deep=` does not see) -- and no error.  Dictionaries
are printed in the order of the model's association list; the resulting association list is that same list (so the map is equal
whatever order the C prints its hash slots in: any order of distinct keys is covered by instantiating `v`'s list order). -/

theorem jdn_roundtrip (scan : List B → Option String) (fmt : String → Option (List B)) (hnum : NumOK scan fmt)
    (depth : Nat) (v : Value) (T : List B) (hprint : jdn scan fmt depth v = some T) (hdict : v.dictOK = true) :
    ∃ w, parseAll scan T = [Event.value w] ∧ SmEq w v :=
  jdn_parseAll scan fmt hnum depth v T hprint hdict

/-- the same through ANY chunking of the text (`parser/consume` on pieces, `parser/byte` per byte, ...) -/
theorem jdn_roundtrip_chunked (scan : List B → Option String) (fmt : String → Option (List B)) (hnum : NumOK scan fmt)
    (depth : Nat) (v : Value) (chunks : List (List B)) (hprint : jdn scan fmt depth v = some chunks.flatten) (hdict : v.dictOK = true) :
    ∃ w, (finish scan (chunks.foldl (feed scan) Run.init)).out = [Event.value w] ∧ SmEq w v := by
  rw [← chunk_independent_many]
  exact jdn_parseAll scan fmt hnum depth v _ hprint hdict

/-- ... and in ANY context where a value may start (`top` handled by `root`: top level, inside any container at any depth, after a
    reader macro), with anything on the argument stack, followed by any delimiter `%j` can put there: through
    `janet_parser_consume` with its position updates (`eatsP` / `eatP`), a value equal to `v` up to source maps is handed to
    `popstate` over untouched lower frames, and the delimiter is then processed by the uncovered frame -/
theorem jdn_roundtrip_nested (scan : List B → Option String) (fmt : String → Option (List B)) (hnum : NumOK scan fmt)
    (depth : Nat) (v : Value) (T : List B) (hprint : jdn scan fmt depth v = some T) (hdict : v.dictOK = true)
    (p : Parser) (A : List Value) (top : Frame) (rest : List Frame) (pd fl : Nat) (d : B)
    (hp : Shape p A (top :: rest) [] pd fl) (htop : top.consumer = .root) (hd : isDelim d = true) :
    ∃ v' q0 f, SmEq v' v ∧ Shape q0 A (f :: top :: rest) [] pd fl ∧ eatsP scan p (T ++ [d]) = eatP scan (popstate q0 v') d :=
  reads_pop scan fmt hnum depth v T hprint hdict p A top rest pd fl d hp htop hd

/-- `eatP` is `janet_parser_consume` (the model's `consumeRaw`) whenever it is defined: the statements above are about the real
    per-byte entry point, not about a simplified loop -/
theorem eatP_is_consume (scan : List B → Option String) (p q : Parser) (c : B) (h : eatP scan p c = some q) :
    consumeRaw scan p c = q ∧ q.error = none := consumeRaw_of_eatP scan p q c h

/-- `janet_equals` on parsed values cannot see source-map positions (so `SmEq` is the right notion of "deep-equal") -/
theorem keq_ignores_source_maps (a a' b b' : Value) (ha : SmEq a a') (hb : SmEq b b') : keq a b = keq a' b' := keq_smEq ha hb

/-! non-vacuity: a nested value with every kind of node -- number, struct with keyword and `@x` symbol keys, array, string with NUL
    and quote, buffer with a high byte, table, bracket tuple, the symbol `@`, nil -- printed at budget 5, refused at budget 3 -/
def scanEx (bs : List B) : Option String := if bs = [49] then some "one" else none
def fmtEx (t : String) : Option (List B) := if t = "one" then some [49] else none
def vEx : Value :=
  .tuple false 7 7 [.num "one", .struct [.kw [97], .sym [64, 120]] [.array [.str [0, 34], .buf [255]], .table [.bool true] [.tuple true 3 3 []]],
    .sym [64], .nil]
/-- `(1 {:a @["\0\"" @"\xFF"] @x @{true []}} @ nil)` -/
def textEx : List B := [40, 49, 32, 123, 58, 97, 32, 64, 91, 34, 92, 48, 92, 34, 34, 32, 64, 34, 92, 120, 70, 70, 34, 93, 32, 64, 120, 32,
  64, 123, 116, 114, 117, 101, 32, 91, 93, 125, 125, 32, 64, 32, 110, 105, 108, 41]

theorem numOK_ex : NumOK scanEx fmtEx := by
  intro tag T h
  unfold fmtEx at h
  split at h
  · simp only [Option.some.injEq] at h; subst h; subst_vars; exact ⟨by decide, by decide⟩
  · cases h

example : jdn scanEx fmtEx 5 vEx = some textEx ∧ vEx.dictOK = true ∧ jdn scanEx fmtEx 3 vEx = none := by decide +kernel
example : ∃ w, parseAll scanEx textEx = [Event.value w] ∧ SmEq w vEx :=
  jdn_roundtrip scanEx fmtEx numOK_ex 5 vEx textEx (by decide +kernel) (by decide +kernel)

/-- regenerated obligation: the delimiters, separators and depth discipline the printer model `jdn` hard-codes are those of the
    current `print_jdn_one` (pp.c), as transcribed into `Gen/Parse.lean` on every run (`ppTupleParen` ... `ppKvSep`): `(`/`[` ... `)`/`]`
    for tuples, `@[` ... `]`, `{` / `@{` ... `}`, one space between items, between key and value and between pairs; every recursive
    call spends one unit of depth and depth 0 refuses (the translator also checks: all six recursive calls pass `depth - 1`, the
    default case refuses, a refusal panics, `%j`'s default budget is JANET_RECURSION_GUARD = `jdnDefaultDepth`) -/
theorem jdn_printer_shape (scan : List B → Option String) (fmt : String → Option (List B)) (d : Nat) :
    (∀ br l c items, jdn scan fmt (d + 1) (.tuple br l c items) =
      ((allSome (items.map (jdn scan fmt d))).map (sepBy [ppItemSep.toUInt8])).map (fun s =>
        [(if br then ppTupleBracket.1 else ppTupleParen.1).toUInt8] ++ s ++ [(if br then ppTupleBracket.2 else ppTupleParen.2).toUInt8])) ∧
    (∀ items, jdn scan fmt (d + 1) (.array items) =
      ((allSome (items.map (jdn scan fmt d))).map (sepBy [ppItemSep.toUInt8])).map (fun s =>
        ppArrayOpen.map Nat.toUInt8 ++ s ++ [ppArrayClose.toUInt8])) ∧
    (∀ ks vs, jdn scan fmt (d + 1) (.struct ks vs) =
      ((allSome ((ks.zip vs).map (fun kv => match jdn scan fmt d kv.1, jdn scan fmt d kv.2 with
        | some a, some b => some (a ++ [ppKvSep.toUInt8] ++ b)
        | _, _ => none))).map (sepBy [ppItemSep.toUInt8])).map (fun s => ppStructOpen.map Nat.toUInt8 ++ s ++ [ppDictClose.toUInt8])) ∧
    (∀ ks vs, jdn scan fmt (d + 1) (.table ks vs) =
      ((allSome ((ks.zip vs).map (fun kv => match jdn scan fmt d kv.1, jdn scan fmt d kv.2 with
        | some a, some b => some (a ++ [ppKvSep.toUInt8] ++ b)
        | _, _ => none))).map (sepBy [ppItemSep.toUInt8])).map (fun s => ppTableOpen.map Nat.toUInt8 ++ s ++ [ppDictClose.toUInt8])) ∧
    (∀ v, jdn scan fmt 0 v = none) := by
  refine ⟨?_, ?_, ?_, ?_, ?_⟩
  · intro br l c items; cases br <;> rfl
  · intro items; rfl
  · intro ks vs; rfl
  · intro ks vs; rfl
  · intro v; rfl

/-- the example value is printable with `%j`'s default budget -/
example : jdn scanEx fmtEx jdnDefaultDepth vEx = some textEx := by decide +kernel

/-- (regenerated obligation: needs `cfun_parse_insert` to recognise the root frame by `s == p->states`, `Gen.insertRootTestByFrame`)
    `parser/insert` from ANY well-formed state -- inside a container, a comment, a string, with a pending token (which it finishes
    by feeding a space), whether it succeeds or panics -- leaves a well-formed parser, so the frame walk of `parser/state` stays
    inside the argument array -/
theorem insert_preserves_wf (scan : List B → Option String) (p : Parser) (v : Value) (vstr : List B) (h : WF p) :
    WF (insert scan p v vstr).1 ∧ framesInBounds (insert scan p v vstr).1 = true :=
  ⟨(WF.api scan).insert p v vstr h, insert_frames_in_bounds scan v vstr h⟩

/-- the invariant holds in every state reachable from a fresh parser by ANY history of bytes (with the error protocol),
    `parser/produce`, queries, `parser/insert`, raw `parser/flush` and raw `parser/error` -/
theorem wf_reachable_with_insert (scan : List B → Option String) (ops : List OpI) :
    WF (ops.foldl (runOpI scan) Run.init).p ∧ framesInBounds (ops.foldl (runOpI scan) Run.init).p = true :=
  have h := (WF.api scan).historyRun (runOpI scan) (WF.api scan).runOpI ops
  ⟨h, framesInBounds_of_WF h⟩

example : ((insert (fun _ => none) Parser.init (.kw [97]) []).1.pending, (insert (fun _ => none) Parser.init (.kw [97]) []).1.args.length) = (1, 1) := by
  decide

/-- once `error` is set, `janet_parser_consume` refuses every further byte and `janet_parser_eof` too: the whole state -- queue,
    frames, positions -- is frozen, `parser/status` says `:error`; the same for a dead parser -/
theorem error_latch (scan : List B → Option String) (p : Parser) (h : p.error.isSome = true) (bs : List B) :
    bs.foldl (consume scan) p = p ∧ eof scan p = p ∧ status p = .error :=
  ⟨consume_refused_all scan (checkDead_of_error h) bs, eof_refused scan (checkDead_of_error h), (status_error_iff p).mpr h⟩

theorem dead_latch (scan : List B → Option String) (p : Parser) (h : p.flag ≠ 0) (bs : List B) :
    bs.foldl (consume scan) p = p ∧ eof scan p = p :=
  ⟨consume_refused_all scan (checkDead_of_flag h) bs, eof_refused scan (checkDead_of_flag h)⟩

/-- `parser/flush` does not release the latch; `parser/error` does (and flushes) -/
theorem latch_release (p : Parser) (e : String) (h : p.error = some e) :
    (flush p).error = some e ∧ (takeError p).1 = some e ∧ (takeError p).2.error = none ∧ (takeError p).2.pending = 0 ∧
    (takeError p).2.args = [] ∧ (takeError p).2.states.length = min p.states.length 1 := by
  have := takeError_clears h
  exact ⟨by rw [(flush_keeps_error p).1, h], this.1, this.2.1, this.2.2.1, this.2.2.2.1, this.2.2.2.2.2.1⟩

/-- `janet_parser_eof` after ANY byte string fed to a fresh parser (client follows the error protocol): the parser ends dead
    (`:dead` or `:error`, accepts nothing more), line / column are those before the call, and EITHER at most the root frame is left
    and error / queue are exactly what the final newline produced, OR the error is "unexpected end of source, D opened at line L,
    column C" for the innermost open frame (delimiter D, position L:C) -/
theorem eof_after_any_bytes (scan : List B → Option String) (bs : List B) :
    let p := (feed scan Run.init bs).p
    (eof scan p).flag ≠ 0 ∧ (eof scan p).line = p.line ∧ (eof scan p).column = p.column ∧
    (status (eof scan p) = .dead ∨ status (eof scan p) = .error) ∧
    (∀ more : List B, more.foldl (consume scan) (eof scan p) = eof scan p) ∧
    (((consumeRaw scan p 10).states.length ≤ 1 ∧ (eof scan p).error = (consumeRaw scan p 10).error ∧
        (eof scan p).states = (consumeRaw scan p 10).states) ∨
     (∃ f R, (consumeRaw scan p 10).states = f :: R ∧ R ≠ [] ∧ (eof scan p).error = some (eofMessage f))) := by
  intro p
  have hcd : checkDead p = none := checkDead_feed_init scan bs
  have ho := eof_outcome scan p hcd
  have hs := eof_status scan p hcd
  refine ⟨ho.flag, ho.line, ho.column, hs.1, hs.2, ?_⟩
  rcases ho.error with h | h
  · exact Or.inl ⟨h.1, h.2, ho.states⟩
  · exact Or.inr h

/-- the same characterisation from any state that accepts `eof` (no latched error, not dead) -/
theorem eof_outcome_any (scan : List B → Option String) (p : Parser) (h : checkDead p = none) :
    (eof scan p).flag ≠ 0 ∧
    (((consumeRaw scan p 10).states.length ≤ 1 ∧ (eof scan p).error = (consumeRaw scan p 10).error) ∨
     (∃ f R, (consumeRaw scan p 10).states = f :: R ∧ R ≠ [] ∧ (eof scan p).error = some (eofMessage f))) :=
  ⟨(eof_outcome scan p h).flag, (eof_outcome scan p h).error⟩

/-- after `finish` the queue is empty: every value was handed to the client -/
theorem finish_drains (scan : List B → Option String) (bs : List B) : (finish scan (feed scan Run.init bs)).p.pending = 0 :=
  finish_pending scan ((WF.api scan).feed bs Run.init WF_init)

example : (eof (fun _ => none) (feed (fun _ => none) Run.init [40, 91]).p).error =
    some "unexpected end of source, [ opened at line 1, column 2" := by decide +kernel
example : (eof (fun _ => some "n") (feed (fun _ => some "n") Run.init [49, 32]).p).error = none := by decide

/-- `status_produce_pure` extended to histories that contain `parser/insert`: for EVERY interleaving of bytes, inserts (any value,
    anywhere: inside containers, comments, strings, behind a pending token), `parser/produce` calls and pure queries from a fresh parser,
    the values and errors the client ends up with are those of the same history with the dequeues and queries left out.  Rests on
    the lock-step lemma `insert_addQ` (`parser/insert` does not see a value queued below everything the parser holds) and on `WF`
    being kept (needs the root-frame test `s == p->states`) -/
theorem status_produce_pure_with_insert (scan : List B → Option String) (ops : List OpP) :
    (ops.foldl (runOpP scan) Run.init).events = ((inputsOf ops).foldl (runOpP scan) Run.init).events :=
  schedule_pure_insert scan ops Run.init WF_init

example : (([OpP.byte 40, .insert (.kw [97]) [97], .byte 35, .produce, .insert .nil [], .byte 10, .query, .byte 41, .insert (.bool true) [], .produce].foldl
    (runOpP (fun _ => none)) Run.init).events).length = 2 := by decide

/-!
`Parse/Cap.lean` is an executable overlay on the parser model: the capacities after every operation, following `DEF_PARSER_STACK`
(growth test and factor regenerated: `Gen.stackGrowFactor`; the translator also pins the macro body, its three instances and the
complete list of capacity assignments in parse.c), the one-jump growth of `parser/insert` into a string (`Gen.insertGrowFactor`),
`janet_parser_clone` (capacity := count) and the temporary pushes of `parser/state :delimiters`.  It is a proof-side object: the
capacities the correspondence compares with the real `bufcap` / `statecap` / `argcap` are those of the physical machine below. -/

/-- one push (`push_buf` / `push_arg` / `_pushstate`) on a stack with `count ≤ cap`: the slot written, `STACK[oldcount]`, is inside
    the (re)allocated block, the new count fits, the capacity does not shrink -/
theorem stack_push_in_bounds (cap count : Nat) (h : count ≤ cap) :
    count < growCap cap count ∧ count + 1 ≤ growCap cap count ∧ cap ≤ growCap cap count := growCap_ok cap count

/-- `count ≤ capacity` for all three stacks in EVERY state reachable from `janet_parser_init` by any history of bytes (incl. on a
    latched / dead parser), `eof`, `produce`, `parser/insert`, `flush`, `parser/error`, clone-and-continue and `parser/state` -/
theorem capacity_invariant (scan : List B → Option String) (ops : List OpK) :
    CapOK (ops.foldl (runOpK scan) ⟨Caps.init, Parser.init⟩).k (ops.foldl (runOpK scan) ⟨Caps.init, Parser.init⟩).p :=
  Util.foldl_inv (P := fun r : KRun => CapOK r.k r.p) (fun _ op h => runOpK_ok scan op h) ops ⟨Caps.init, Parser.init⟩ CapOK_init

/-- `janet_parser_consume` from ANY state within capacity stays within capacity, and capacities only grow -/
theorem consume_capacity (scan : List B → Option String) (k : Caps) (p : Parser) (c : B) (h : CapOK k p) :
    CapOK (consumeK scan k p c) (consume scan p c) ∧ k.le (consumeK scan k p c) := consumeK_ok scan c h

/-- `parser/state :delimiters` writes the delimiters BEHIND the scratch buffer's contents (indices `bufcount ..`), inside the grown
    capacity, and restores the count: the parser value is unchanged (only `bufcap` and dead scratch bytes differ) -/
theorem state_query_scratch_in_bounds (k : Caps) (p : Parser) (h : CapOK k p) :
    CapOK (stateK k p) p ∧ p.buf.length + (delimiters p).length ≤ (stateK k p).buf ∧ k.le (stateK k p) := stateK_ok h

example : ([OpK.byte 40, .byte 34, .byte 97, .state, .byte 98, .clone, .byte 99, .insert .nil [120, 121, 122], .eof].foldl
    (runOpK (fun _ => none)) ⟨Caps.init, Parser.init⟩).k = ⟨6, 3, 0⟩ := by decide

/-- the clean dichotomy: `janet_parser_eof` after ANY byte string fed to a fresh parser ends EITHER with no error and exactly the
    root frame left (no pending form), OR with the error "unexpected end of source, D opened at line L, column C" naming the innermost
    open frame.  (The newline `eof` feeds can latch an error only from a token or escape frame, and then at least two frames are
    left: `loop_newline_error`, which runs `WF` along the inner loop via `WF_step`.) -/
theorem eof_clean_or_innermost (scan : List B → Option String) (bs : List B) :
    let p := (feed scan Run.init bs).p
    ((eof scan p).error = none ∧ (eof scan p).states.length = 1 ∧ status (eof scan p) = .dead) ∨
    (∃ f R, (consumeRaw scan p 10).states = f :: R ∧ R ≠ [] ∧ (eof scan p).error = some (eofMessage f) ∧ status (eof scan p) = .error) := by
  intro p
  have hlive := position_function_of_bytes scan bs
  have hwf : WF p := (WF.api scan).feed bs Run.init WF_init
  have hcd : checkDead p = none := checkDead_feed_init scan bs
  have hfl := (eof_outcome scan p hcd).flag
  rcases eof_clean scan p hwf hlive.2.1 hlive.2.2 with ⟨h1, h2⟩ | ⟨f, R, h1, h2, h3⟩
  · left
    refine ⟨h1, h2, ?_⟩
    unfold status
    simp [h1, hfl]
  · right
    exact ⟨f, R, h1, h2, h3, (status_error_iff _).mpr (by simp [h3])⟩

/-! The physical machine (`Parse/Phys.lean`): the functions on the consume / eof / insert path are written statement by statement over
memory primitives that CHECK the access the C statement performs (push inside the grown block; no `size_t` underflow of a count;
`*state` / `newtop` point into the current `states` block and at a live frame; `buf[0]`, `args[0]`, `states[0]`,
`states[stack_index]` live); produce, flush, error and clone apply the model function under a check of the indices they start from.
A failed check sets the sticky `fault` flag.  `jm_c11` runs this machine in the correspondence (events, internal state and the three
capacities come from it). -/

/-- the write of `push_buf` / `push_arg` / `_pushstate` (`STACK[oldcount] = x` after the growth test) is inside the block for EVERY
    machine state, and the machine type carries `count ≤ capacity` (each primitive discharges it where the C grows the block) -/
theorem phys_push_in_block (m : MP) (c : B) (v : Value) (cn : Consumer) (fl : Nat) :
    (pushBufM m c).fault = m.fault ∧ (pushArgM m v).fault = m.fault ∧ (pushstateM m cn fl).fault = m.fault ∧
    CapOK (pushBufM m c).k (pushBufM m c).p ∧ CapOK (pushArgM m v).k (pushArgM m v).p ∧ CapOK (pushstateM m cn fl).k (pushstateM m cn fl).p :=
  ⟨pushBufM_fault m c, pushArgM_fault m v, pushstateM_fault m cn fl, (pushBufM m c).capok, (pushArgM m v).capok, (pushstateM m cn fl).capok⟩

/-- one consumer call (`state->consumer(parser, state, c)`) of the physical machine computes `Model.step`; needs only a frame -/
theorem phys_step_refines (scan : List B → Option String) (m : MP) (c : B) (hne : m.p.states ≠ []) :
    (stepM scan m c).1.p = (step scan m.p c).1 ∧ (stepM scan m c).2 = (step scan m.p c).2 := stepM_p scan m c hne

/-- ... and NONE of its checked accesses fails when the parser is well formed (`WF`: frame shape and argument counts) and a
    token frame on top has a non-empty scratch buffer unless `c` is a symbol character: pops never underflow, `close_*` never takes
    more arguments than the stack holds, `popstate` never reaches below the root frame, `state` is never stale -/
theorem phys_step_safe (scan : List B → Option String) (m : MP) (c : B) (hwf : WF m.p) (ht : TokB m.p c) :
    (stepM scan m c).1.fault = m.fault := stepM_safe scan m c hwf ht

/-- EVERY byte string, fed through the client protocol (consume; on error dequeue, take the error, go on) from `janet_parser_init`:
    no checked memory access of the physical machine fails, and it computes exactly the logical run (parser and events) -/
theorem phys_feed_safe (scan : List B → Option String) (bs : List B) :
    (feedM scan MRun.init bs).m.fault = false ∧ (feedM scan MRun.init bs).m.p = (feed scan Run.init bs).p ∧
    (feedM scan MRun.init bs).out = (feed scan Run.init bs).out := by
  obtain ⟨h1, h2, _⟩ := feedM_spec scan bs MRun.init pinv_init
  have : (feedM scan MRun.init bs).abs = feed scan Run.init bs := h1
  exact ⟨h2, congrArg Run.p this, congrArg Run.out this⟩

/-- the same for a whole text (`parse-all`: feed, eof, drain): no fault, the events are `parseAll`'s -/
theorem phys_parseAll_safe (scan : List B → Option String) (bs : List B) :
    (finishM scan (feedM scan MRun.init bs)).m.fault = false ∧ (finishM scan (feedM scan MRun.init bs)).out = parseAll scan bs := by
  obtain ⟨h1, h2, h3⟩ := feedM_spec scan bs MRun.init pinv_init
  obtain ⟨f1, f2⟩ := finishM_spec scan _ h3
  refine ⟨f2.trans h2, ?_⟩
  have : (finishM scan (feedM scan MRun.init bs)).abs = finish scan (feed scan Run.init bs) := by rw [f1, h1]; rfl
  exact congrArg Run.out this

/-- ANY history of raw API calls (bytes -- also on a latched or dead parser --, eof, produce, produce-wrapped, flush, error; no client
    discipline) from `janet_parser_init`: no fault, the machine's parser is the logical model's, `count ≤ capacity` throughout -/
theorem phys_history_safe (scan : List B → Option String) (ops : List OpM) :
    (ops.foldl (runOpM scan) MP.init).fault = false ∧ (ops.foldl (runOpM scan) MP.init).p = ops.foldl (runOpL scan) Parser.init ∧
    CapOK (ops.foldl (runOpM scan) MP.init).k (ops.foldl (runOpM scan) MP.init).p := by
  obtain ⟨h1, h2⟩ := runOpsF_spec scan (ops.map OpM.toF) MP.init pinv_init NoCF_init
  rw [List.foldl_map, ← runOpM_eq] at h1 h2
  rw [List.foldl_map, ← runOpL_eq] at h1
  exact ⟨h2, h1, (ops.foldl (runOpM scan) MP.init).capok⟩

/-- regenerated: the memory events (stack-primitive calls, count updates, indexed accesses) of the parse.c functions on the
    consume / eof / produce / flush / error / state path that `Parse/Phys.lean` mirrors (not `cfun_parse_insert`, `janet_parser_clone`), in source order up to swapping adjacent statements that touch different stacks
    (`commute_normal_form` in tools/gen/parse.py; loop bounds over the argument stack are part of the event), are the ones the machine was written from -- `popstateM` (pop one frame, `newtop`,
    one `push_arg`), `stringendM` (top frame, `bufcount = 0`, popstate), `tokencharM` (`push_buf` | `buf[0]`, `bufcount = 0`, popstate),
    `commentM`, `popArgsM` (the four `close_*`), `longstringM`, `atsignM` (`statecount--`, then one `pushstate`, `push_buf '@'`), `rootM`,
    `consumeLoopM` (`states + statecount - 1`), `eofM`, `flushM`, `takeErrorM`, `produce(Wrapped)M`; the translator also checks that NO other
    function of parse.c touches a count, a block or a stack primitive.  An added / removed / reordered push, pop or indexed access
    changes this list and the obligation stops checking. -/
theorem phys_machine_source_ops : memOps = [
  ("popstate", ["push_arg", "states[--statecount]", "states+statecount-1"]),
  ("delim_error", ["states+stack_index"]),
  ("write_codepoint", ["push_buf", "push_buf", "push_buf", "push_buf", "push_buf", "push_buf", "push_buf", "push_buf", "push_buf", "push_buf"]),
  ("escapeh", ["push_buf"]),
  ("escapeu", ["write_codepoint"]),
  ("escape1", ["push_buf"]),
  ("stringend", ["bufcount=0", "states[statecount-1]", "popstate"]),
  ("stringchar", ["stringend", "push_buf"]),
  ("tokenchar", ["push_buf", "buf[0]", "bufcount=0", "popstate"]),
  ("comment", ["bufcount=0", "push_buf", "statecount--"]),
  ("close_tuple", ["for(i=argn-1;i>=0;i--)args[--argcount]"]),
  ("close_array", ["for(i=argn-1;i>=0;i--)args[--argcount]"]),
  ("close_struct", ["for(i=argcount-argn;i<argcount;i+=2)", "args[i]", "args[i+1]", "argcount-=argn"]),
  ("close_table", ["for(i=argcount-argn;i<argcount;i+=2)", "args[i]", "args[i+1]", "argcount-=argn"]),
  ("longstring", ["push_buf", "stringend", "push_buf", "push_buf", "push_buf"]),
  ("atsign", ["push_buf", "statecount--", "pushstate", "pushstate", "pushstate", "pushstate", "pushstate", "pushstate"]),
  ("root", ["pushstate", "pushstate", "pushstate", "pushstate", "pushstate", "pushstate", "delim_error", "close_array", "close_tuple", "close_table", "close_struct", "delim_error", "popstate", "pushstate", "pushstate", "pushstate"]),
  ("janet_parser_consume", ["states+statecount-1"]),
  ("janet_parser_eof", ["consume", "delim_error"]),
  ("janet_parser_flush", ["argcount=0", "bufcount=0", "statecount=1", "states[0]"]),
  ("janet_parser_error", ["status", "flush"]),
  ("janet_parser_produce", ["args[0]", "for(i=1;i<argcount;i++)args[i-1]=args[i]", "argcount--", "states[0]"]),
  ("janet_parser_produce_wrapped", ["args[0]", "for(i=1;i<argcount;i++)args[i-1]=args[i]", "argcount--", "states[0]"]),
  ("parser_state_delimiters", ["push_buf", "push_buf", "push_buf", "push_buf", "push_buf", "bufcount=saved", "states+stack_index"])] := by decide +kernel

/-- the shape facts behind `p->buf[0]`: along any such history every frame below the top is a `root` frame and a token frame on top
    has a non-empty scratch buffer -/
theorem token_scratch_nonempty (scan : List B → Option String) (ops : List OpM) :
    TokInv (ops.foldl (runOpL scan) Parser.init) := by
  have := (PInv.api scan).history (runOpFL scan) (PInv.api scan).runOpFL (ops.map OpM.toF)
  rw [List.foldl_map, ← runOpL_eq] at this
  exact this.tok

/-- `parser/state :delimiters` on the physical machine: the delimiters are pushed BEHIND the scratch contents inside the grown block, read
    back and the count restored -- the parser is unchanged and no check fails, from EVERY machine state -/
theorem phys_state_query_safe (m : MP) :
    (stateDelimsM m).1 = delimiters m.p ∧ (stateDelimsM m).2.p = m.p ∧ (stateDelimsM m).2.fault = m.fault := stateDelimsM_spec m

/-- `janet_parser_clone` on the physical machine: the `memcpy`s read `count ≤ capacity` elements of the source blocks; the clone has
    exactly-fitting fresh blocks (so every older `JanetParseState *` is foreign to it: new generation) -/
theorem phys_clone_safe (m : MP) : (cloneM m).p = clone m.p ∧ (cloneM m).fault = m.fault ∧ (cloneM m).k = cloneK m.p ∧
    (cloneM m).sgen ≠ m.sgen := ⟨(cloneM_spec m).1, (cloneM_spec m).2.1, (cloneM_spec m).2.2, Nat.succ_ne_self _⟩

/-- `parser/insert` on the physical machine (finish a pending token through `janet_parser_consume`, recompute `s`, `s--` past a comment
    frame, `s->argn++`, `push_arg` / one-jump growth of the scratch buffer + `memcpy`): computes `Model.insert`, keeps the invariants, and
    no check fails.  `if (s->flags & PFLAG_COMMENT) s--;` stays inside the block because a frame handled by `root` (so the bottom frame)
    never carries PFLAG_COMMENT: `NoCF`, an invariant of every operation (`Parse/NoCF.lean`). -/
theorem phys_insert_safe (scan : List B → Option String) (m : MP) (v : Value) (vstr : List B) (h : PInv m.p) (hn : NoCF m.p) :
    (insertM scan m v vstr).1.p = (insert scan m.p v vstr).1 ∧ (insertM scan m v vstr).2 = (insert scan m.p v vstr).2 ∧
    (insertM scan m v vstr).1.fault = m.fault ∧ PInv (insert scan m.p v vstr).1 :=
  have s := insertM_safe scan m v vstr h hn
  ⟨s.1, s.2.1, s.2.2, (PInv.api scan).insert m.p v vstr h⟩

/-- the COMPLETE parser API on the physical machine: ANY history of bytes (also on a latched / dead parser), eof, produce,
    produce-wrapped, flush, error, `parser/insert` of any value anywhere, clone-and-continue and `parser/state` from
    `janet_parser_init`: no checked memory access fails, the machine's parser is the logical model's after the same history, and
    `count ≤ capacity` for the three blocks -/
theorem phys_api_history_safe (scan : List B → Option String) (ops : List OpF) :
    (ops.foldl (runOpF scan) MP.init).fault = false ∧ (ops.foldl (runOpF scan) MP.init).p = ops.foldl (runOpFL scan) Parser.init ∧
    CapOK (ops.foldl (runOpF scan) MP.init).k (ops.foldl (runOpF scan) MP.init).p := by
  obtain ⟨h1, h2⟩ := runOpsF_spec scan ops MP.init pinv_init NoCF_init
  exact ⟨h2, h1, (ops.foldl (runOpF scan) MP.init).capok⟩

example : ([OpF.byte 40, .byte 35, .insert (.kw [97]) [97], .byte 10, .byte 34, .byte 120, .state, .insert .nil [110, 105, 108], .clone,
    .byte 34, .byte 41, .produce, .eof].foldl (runOpF (fun _ => none)) MP.init).k = ⟨4, 3, 4⟩ := by decide +kernel

example : (insertM (fun _ => none) (feedM (fun _ => none) MRun.init [40, 35, 32]).m (.kw [97]) [97]).1.fault = false := by decide +kernel
example : (insertM (fun _ => none) (feedM (fun _ => none) MRun.init [40, 34, 97]).m .nil [110, 105, 108]).1.k = ⟨8, 6, 0⟩ := by decide +kernel

/-- `stringend`'s in-place rewrite: the second pass (`*w++ = *r++`, indentation skipped on the read side only) never produces more bytes than
    it has read (the cursor fact `w ≤ r` is `stringend_rewrite_in_place`), and the text finally handed to
    `janet_string` / `janet_buffer_push_bytes` (after the EOL strips) is no longer than the scratch contents -/
theorem stringend_rewrite_fits (fuel ind col : Nat) (buf : List B) :
    (reindent fuel ind buf).length ≤ buf.length ∧ (dedent col buf).length ≤ buf.length :=
  ⟨reindent_length_le fuel ind buf, dedent_length_le col buf⟩

example : dedent 2 [10, 32, 32, 97, 10, 32, 32, 13, 10, 32, 32, 98, 10] = [97, 10, 13, 10, 98] := by decide

-- non-vacuity: a run that grows all three blocks, pops containers, dedents a long string and reports an error; and the checks are live
example : (finishM (fun _ => none) (feedM (fun _ => none) MRun.init
    [40, 64, 91, 34, 97, 92, 120, 52, 49, 34, 32, 96, 96, 10, 32, 120, 96, 96, 93, 32, 39, 98, 41, 32, 41])).m.fault = false :=
  (phys_parseAll_safe _ _).1
example : ((finishM (fun _ => none) (feedM (fun _ => none) MRun.init [40, 64, 91, 34, 97, 34, 93, 32, 39, 98, 41, 32, 41])).out).length = 2 := by
  decide +kernel
example : (feedM (fun _ => none) MRun.init [40, 40, 40, 34, 97, 98, 99, 100, 101]).m.k = ⟨6, 6, 0⟩ := by decide +kernel
example : (popArgsM MP.init 1).2.fault = true := by decide
example : (decStateM (decStateM MP.init)).fault = true := by decide
example : (tokencharM (fun _ => none) (pushstateM MP.init .tokenchar PFLAG_TOKEN) (topPtr (pushstateM MP.init .tokenchar PFLAG_TOKEN)) 32).1.fault
    = true := by decide
example : (writeState (pushstateM (pushstateM MP.init .root PFLAG_CONTAINER) .root PFLAG_CONTAINER) (topPtr MP.init) id).fault = true := by
  decide

/-- after ANY history of the complete parser API from `janet_parser_init`: `JANET_PARSER_GENERATED_ERROR` is set iff the pending error is a
    message made by `delim_error` (one of the source's `delim_error` message arguments followed by the generated part), and clear iff
    there is no pending error or it is one of the string literals the source assigns to `->error` -/
theorem generated_error_flag_iff (scan : List B → Option String) (ops : List OpF) :
    let p := ops.foldl (runOpFL scan) Parser.init
    (genBit p = true ↔ ∃ m, p.error = some m ∧ IsGenerated m) ∧
    (genBit p = false ↔ p.error = none ∨ ∃ m, p.error = some m ∧ IsStatic m) :=
  genBit_iff_generated (genInv_api_history scan ops)

/-- the invariant in its marking form: the bit is set only on a generated message, a literal or no message leaves it clear (what
    `parsermark` relies on in both directions) -/
theorem generated_error_marked (scan : List B → Option String) (ops : List OpF) : GenInv (ops.foldl (runOpFL scan) Parser.init) :=
  genInv_api_history scan ops

/-- one consumer call (`state->consumer(parser, state, c)`) leaves `error` and `flag` alone, or latches one of the source's literals
    without touching `flag`, or latches a `delim_error` message together with the bit -/
theorem consumer_error_flag_discipline (scan : List B → Option String) (p : Parser) (c : B) : ErrQuiet p (step scan p c).1 :=
  errq_step scan p c

/-- a generated message is never one of the literals (both lists regenerated from the source) -/
theorem generated_message_not_static (m : String) (hs : IsStatic m) : ¬ IsGenerated m := static_not_generated m hs

/-- regenerated from the current parse.c on every run: EVERY write to `->error` / `->flag` in the file, per function in source order.
    (writes to the two different fields of one function are listed `error` first: independent statements).  These are the writes the model makes -- `delimError` (`error := generated`, `flag ||| GENERATED_ERROR`), the consumers' literals,
    `eof` (`flag ||| DEAD`: OR, the bit set three lines earlier survives), `takeError` (`error := none`, `flag &&& ~GENERATED_ERROR`),
    `init`, `clone` (both copied).  Any other write (e.g. `flag = JANET_PARSER_DEAD`) changes this table and the obligation stops checking. -/
theorem err_flag_source_sites : errFlagWrites = [
  ("delim_error", ["error=heap", "flag|=GENERATED_ERROR"]),
  ("escapeh", ["error=static"]),
  ("escapeu", ["error=static"]),
  ("escape1", ["error=static"]),
  ("tokenchar", ["error=static"]),
  ("root", ["error=static"]),
  ("janet_parser_eof", ["flag|=DEAD"]),
  ("janet_parser_error", ["error=NULL", "flag&=~GENERATED_ERROR"]),
  ("janet_parser_init", ["error=NULL", "flag=0"]),
  ("janet_parser_clone", ["error=src->error", "flag=src->flag"])] := by decide +kernel

-- non-vacuity: `(` then eof: the generated message is pending WITH the bit (flag = DEAD | GENERATED_ERROR); a bad escape: literal, bit clear;
-- and the invariant is not trivially true: the state seed C11-7 produces (same message, flag = DEAD only) violates it
example : (eof (fun _ => none) (consume (fun _ => none) Parser.init 40)).error = some "unexpected end of source, ( opened at line 1, column 1" ∧
    (eof (fun _ => none) (consume (fun _ => none) Parser.init 40)).flag = 3 := by decide +kernel
example : (consume (fun _ => none) (consume (fun _ => none) (consume (fun _ => none) Parser.init 34) 92) 113).error = some "invalid string escape sequence" ∧
    genBit (consume (fun _ => none) (consume (fun _ => none) (consume (fun _ => none) Parser.init 34) 92) 113) = false := by decide +kernel
example : ¬ GenInv { eof (fun _ => none) (consume (fun _ => none) Parser.init 40) with flag := JANET_PARSER_DEAD } := by
  have he : ({ eof (fun _ => none) (consume (fun _ => none) Parser.init 40) with flag := JANET_PARSER_DEAD } : Parser).error =
      some "unexpected end of source, ( opened at line 1, column 1" := by decide +kernel
  intro h
  rcases (genBit_iff_generated h).2.1 rfl with h2 | ⟨m, h2, h3⟩
  · rw [he] at h2; cases h2
  · rw [he] at h2
    cases h2
    simp [IsStatic] at h3

/-! `stringend`'s re-indent loops at index level.

`Parse/StrIdx.lean` mirrors the two loops of `stringend` on a block of cells with the C's cursors `r`, `w`, `end`: first pass
(`*r++`, the inner `for` with its `*r` reads, the `*r` / `*(r + 1)` CR-LF test), second pass rewriting IN PLACE (`*w++ = *r++`,
the skipping `for`, the CR-LF copy).  Every read and write is a checked access inside `[0, bufcount)`.  `stringendM` (the physical
machine's `stringend`) runs them, so `phys_api_history_safe` covers them. -/

/-- for every scratch contents and indent column: no checked access of the two loops fails (writes land on cells already read,
    `w ≤ r < end`; the text still to be read is never overwritten) and the result is the list-level `dedent` of the logical model -/
theorem stringend_loops_index_safe (col : Nat) (buf : List B) :
    reindentI col buf = (if reindentCheck (buf.length + 1) col buf then reindent (buf.length + 1) col buf else buf, true) ∧
    dedentI col buf = (dedent col buf, true) :=
  ⟨reindentI_spec col buf, dedentI_spec col buf⟩

/-- the in-place rewrite from any cursor position: `w ≤ r ≤ end`, enough fuel -- the block keeps its size, `w` stays inside, no check fails,
    and the first `w'` cells are what was written before followed by the re-indented rest -/
theorem stringend_rewrite_in_place (e ind fuel : Nat) (b : List B) (r w : Nat) (ok : Bool) (hl : b.length = e) (hw : w ≤ r) (hr : r ≤ e)
    (hf : e - r < fuel) :
    ∃ b' w', rewriteI e ind fuel b r w ok = (b', w', ok) ∧ b'.length = e ∧ w' ≤ e ∧ b'.take w' = b.take w ++ reindent fuel ind (b.drop r) :=
  rewriteI_spec e ind fuel b r w ok hl hw hr hf

/-- regenerated: the cursor dereferences / assignments of `stringend`'s long-string block in source order -- first pass `*r++`, the `for`
    (`*r` in the condition, `*r` in the body), the CR-LF test (`*r`, `*(r + 1)`); second pass from `w = r = bufstart`: `*r`, `*w++ = *r++`,
    the skipping `for` (`*r`), the CR-LF test and copy, the plain copy; `buflen = w - bufstart`: what `checkI` / `forCheckI` / `crlfAtI` /
    `rewriteI` / `skipI` were written from (the translator refuses indexed accesses or other cursor arithmetic inside the block) -/
theorem stringend_loop_source_ops : stringendLoopOps =
    ["r=bufstart", "*r++", "*r", "*r", "*r", "*(r+1)", "w=bufstart", "r=bufstart", "*r", "*w++=*r++", "*r", "*r", "*(r+1)", "*w++=*r++",
     "*w++=*r++", "buflen=(int32_t)(w-bufstart)"] := by decide +kernel

-- non-vacuity: a text that is re-indented, CR-LF line ends kept; and the checks are live (a loop bound beyond the contents trips them)
example : dedentI 2 [10, 32, 32, 97, 10, 32, 32, 13, 10, 32, 32, 98, 10] = ([97, 10, 13, 10, 98], true) := by decide
example : (rewriteI 13 2 14 [10, 32, 32, 97, 10, 32, 32, 13, 10, 32, 32, 98, 10] 0 0 true).2.1 = 7 := by decide
example : (checkI [10, 32] 3 2 4 0 true).2 = false := by decide
example : (rewriteI 3 0 4 [97, 98] 0 0 true).2.2 = false := by decide

end JanetModel.Props.C11
