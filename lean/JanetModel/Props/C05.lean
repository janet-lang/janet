/- C05 — fibers follow the coroutine and signal protocol: property theorems over Fiber/Model.lean + Fiber/Boot.lean.
   Every statement quantifies over all machine states / stacks (nesting depths) / scripts; constants (signal and
   status numbers, mask letters, refused-status sets) come from Gen/Fiber.lean, regenerated from the C on every run. -/
import JanetModel.Fiber.Macros
import JanetModel.Fiber.GuardLemmas
import JanetModel.Fiber.GuardCleanup
import JanetModel.Fiber.SchedLemmas
import JanetModel.Fiber.Moves
import JanetModel.Fiber.Dyn
import JanetModel.Fiber.Named
namespace JanetModel.Props.C05
open JanetModel.Fiber JanetModel.Gen.Fiber

/-- A finished fiber (dead, error, user0-4) is refused by `janet_check_can_resume`, for resume and for cancel. -/
theorem finished_never_resumes (fp : Fiber) (isCancel : Bool) (h : isFinished fp.status = true) :
    (checkCanResume fp isCancel).isSome = true := by
  cases hc : checkCanResume fp isCancel with
  | some _ => rfl
  | none => rw [(not_refused (checkCanResume_none hc)).1] at h; cases h

/-- … and at instruction level: `(resume f a)` / `(cancel f a)` on a finished fiber raises an error in the caller;
    the finished fiber is not entered (the state handed to `raise` is the unchanged `s`). -/
theorem resume_finished_raises (s : State) (p : FId) (fp : Fiber) (rest : List FId) (l : Nat) (k : Tm) (f a : Atom)
    (g : FId) (fg : Fiber) (hf : evalAtom s fp.env f = .fib g) (hg : s.fiber? g = some fg) (hfin : isFinished fg.status = true) :
    (∃ msg, execPrim s p fp rest l (.resume f a) k = raise s p fp rest sigError msg) ∧
    (∃ msg, execPrim s p fp rest l (.cancel f a) k = raise s p fp rest sigError msg) := by
  have h0 := finished_never_resumes fg false hfin
  have h1 := finished_never_resumes fg true hfin
  constructor
  · cases hc : checkCanResume fg false with
    | none => simp [hc] at h0
    | some msg => exact ⟨msg, by simp [execPrim, hf, hg, hc]⟩
  · cases hc : checkCanResume fg true with
    | none => simp [hc] at h1
    | some msg => exact ⟨msg, by simp [execPrim, hf, hg, hc]⟩

/-- Non-vacuity: the finished statuses are exactly dead, error, user0 … user4; new / pending / user5-9 / debug are resumable. -/
example : (List.range 16).filter isFinished = [stDead, stError, stUser0, stUser1, stUser2, stUser3, stUser4] := by decide
example : checkCanResume { status := stPending, mask := 0, ctl := .run (.ret (.lit .nil)) } false = none := by decide
example : checkCanResume { status := stNew, mask := 0, ctl := .run (.ret (.lit .nil)) } true = none := by decide

/-- (under the flag `cancelWalkRefusesRoot`) `(cancel f a)` whose walk to the innermost child meets a fiber with
    JANET_FIBER_FLAG_ROOT — a task of the event loop linked as a child by `propagate`, or by `ev/go` on a fiber that already
    was somebody's child — is refused before anything is marked: the only write is the caller's own block / child link
    (`fiber->child = child` in JOP_CANCEL), no fiber gets a pending signal, no status changes, and the refusal text goes
    through the mask test of `g` like any signal of `g` (`unwind`).  With the flag `false` the walk marks the task — in C:
    overwrites its ROOT / SUSPENDED scheduler bits — and `janet_continue` then runs it on the canceller's C stack;
    corpus/C05/cancel-chain-root-task.janet is that execution on the implementation. -/
theorem cancel_root_chain_refused_unmarked (s : State) (p : FId) (fp : Fiber) (rest : List FId) (l : Nat) (k : Tm) (f a : Atom)
    (g : FId) (fg : Fiber) (hf : evalAtom s fp.env f = .fib g) (hg : s.fiber? g = some fg) (hok : checkCanResume fg true = none)
    (hflag : cancelWalkRefusesRoot = true)
    (hroot : walkMeetsRoot (s.setFiber p { fp with ctl := .wait (.bindK l k false), child := some g })
               (3 * chainFuel (s.setFiber p { fp with ctl := .wait (.bindK l k false), child := some g })) g g 0 = true) :
    execPrim s p fp rest l (.cancel f a) k =
      unwind (s.setFiber p { fp with ctl := .wait (.bindK l k false), child := some g }) (p :: rest) g sigError cancelRootMsg := by
  have hr : cancelRefusedRoot (s.setFiber p { fp with ctl := .wait (.bindK l k false), child := some g }) g = true := by
    unfold cancelRefusedRoot
    rw [hflag, hroot]; rfl
  simp only [execPrim, hf, hg, hok]
  rw [if_pos hr]

/-- … and the walk itself: a root fiber below `g` is found through any number of suspended non-root links; a running
    (alive) descendant ends the walk first, as in the marking walk.  Non-vacuity: fiber 1 propagated from the suspended
    task 0 (`child := some 0`), fiber 2 was suspended by 1's signal; the walks from 2 and from 1 meet the task, the walk from
    the task itself (the event loop's own `ev/cancel`) does not refuse it. -/
example :
    let t : Fiber := { status := stUser9, mask := 0, ctl := .wait (.bindK 0 (.ret (.lit .nil)) false), root := true }
    let w : Fiber := { status := stUser9, mask := 0, ctl := .wait (.bindK 0 (.ret (.lit .nil)) false), child := some 0 }
    let o : Fiber := { status := stUser9, mask := 0, ctl := .wait (.bindK 0 (.ret (.lit .nil)) false), child := some 1 }
    let s : State := { fibers := [t, w, o] }
    walkMeetsRoot s (3 * chainFuel s) 2 2 0 = true ∧ walkMeetsRoot s (3 * chainFuel s) 1 1 0 = true ∧
    walkMeetsRoot s (3 * chainFuel s) 0 0 0 = false ∧
    walkMeetsRoot { fibers := [{ t with status := stAlive }, w, o] } 15 2 2 0 = false := by decide

/-- Values pass unchanged (downwards, through any depth of child chaining): `janet_continue_no_check f v` either
    enters run_vm of the innermost fiber of the chain with exactly `v`, or is refused with an error, or stops. -/
theorem values_pass_unchanged_in_order : ∀ (fuel : Nat) (s : State) (stk : List FId) (f : FId) (v : Val),
    (∃ s' stk' d fd, contNoCheck fuel s stk f v = startRun s' stk' d fd v) ∨
    (∃ s' stk' c msg, contNoCheck fuel s stk f v = unwind s' stk' c sigError msg) ∨
    (∃ s' h, contNoCheck fuel s stk f v = State.stop s' h) := by
  intro fuel
  induction fuel with
  | zero => intro s stk f v; exact Or.inr (Or.inr ⟨s, _, rfl⟩)
  | succ n ih =>
    intro s stk f v
    unfold contNoCheck
    split
    · exact Or.inr (Or.inr ⟨s, _, rfl⟩)
    · simp only []
      split
      · split
        · exact Or.inr (Or.inr ⟨_, _, rfl⟩)
        · split
          · exact Or.inr (Or.inl ⟨_, _, _, _, rfl⟩)
          · exact ih _ _ _ _
      · exact Or.inl ⟨_, _, _, _, rfl⟩

/-- … and `startRun` / `deliverValue` hand that same value to the blocked instruction: it is bound, unchanged, to the
    next slot of the receiving fiber, whose code continues with the instruction's continuation. -/
theorem deliver_binds_value (s : State) (p : FId) (fp : Fiber) (l : Nat) (k : Tm) (v : Val) (hp : p < s.fibers.length) :
    (deliverValue s p fp (.bindK l k false) v).fiber? p = some { fp with env := fp.env ++ [v], ctl := .run k } := by
  unfold deliverValue
  rw [fiber?_log, fiber?_setFiber_self, if_pos hp]

/-- The first resume value reaches the fiber function unchanged, for every signature shape `fiber/new` accepts
    (no parameters, required, `&opt`, `& rest`, `&keys`, combinations): with at least one positional parameter — required
    OR optional — parameter 0 is exactly `v` (nil included); with only a collector, `& rest` receives `(v)`; every other
    positional parameter keeps its default nil; the number of slots is that of the signature.  Mentions the regenerated
    `firstValueUsesArity`: with `min_arity` in place of `arity` in janet_continue_no_check the first conjunct is false for
    `(fn [&opt x] …)` and this proof does not check. -/
theorem first_resume_value_bound (sg : Sig) (v : Val) :
    (0 < sg.arity → (firstParams sg v)[0]? = some v) ∧
    (sg.arity = 0 → sg.rest ≠ 0 → v ≠ .nil → (firstParams sg v)[0]? = some (.single v)) ∧
    (firstParams sg v).length = sg.arity + (if sg.rest = 0 then 0 else 1) ∧
    (∀ i, 0 < i → i < sg.arity → (firstParams sg v)[i]? = some .nil) := by
  rw [firstParams_eq]
  refine ⟨fun ha => ?_, fun ha hr hv => ?_, ?_, fun i hi hia => ?_⟩
  · by_cases hv : v = .nil
    · rw [if_pos hv, hv]; exact baseParams_positional sg ha
    · rw [if_neg hv, if_pos ha, List.getElem?_set_self (by rw [baseParams_length]; omega)]
  · rw [if_neg hv, if_neg (by omega), List.getElem?_set_self (by rw [baseParams_length, if_neg hr]; omega)]
  · split
    · exact baseParams_length sg
    · rw [List.length_set]; exact baseParams_length sg
  · split
    · exact baseParams_positional sg hia
    · rw [List.getElem?_set_ne (by omega)]; exact baseParams_positional sg hia

/-- … and that is what the machine does at a new fiber's first resume: its environment is extended by exactly these slots -/
theorem first_resume_enters (s : State) (stk : List FId) (f : FId) (ff : Fiber) (v : Val) (t : Tm)
    (hlen : f < s.fibers.length) (hpend : ff.pending = none) (hctl : ff.ctl = .run t) :
    ((startRun s stk f ff v).fiber? f).map (·.env) = some (ff.env ++ firstParams ff.sig v) := by
  rw [startRun_new s stk f ff v t hlen hpend hctl]; rfl

example : firstParams { arity := 1, minArity := 0 } (.int 7) = [.int 7] := by decide
example : firstParams { arity := 1, minArity := 0, rest := 1 } (.int 7) = [.int 7, .unit] := by decide
example : firstParams { arity := 0, minArity := 0, rest := 1 } (.int 7) = [.single (.int 7)] := by decide
example : firstParams { arity := 0, minArity := 0, rest := 2 } .nil = [.estruct] := by decide
example : firstParams {} (.int 7) = [] := by decide

theorem namedPrologue_estruct : ∀ (keys : List String), namedPrologue .estruct keys = .ok (keys.map fun _ => Val.nil)
  | [] => rfl
  | k :: ks => by simp [namedPrologue, inKey, namedPrologue_estruct ks]

/-- `&named` parameters never receive the first-resume value.  With at least one positional parameter (required or
    `&opt`) the value goes to parameter 0 unchanged and every named parameter is nil; with a nil first value every
    parameter is nil.  (All key lists, all arities.) -/
theorem named_params_at_first_resume (arity minArity : Nat) (keys : List String) (v : Val) (h : 0 < arity ∨ v = .nil) :
    ∃ ps, firstResumeNamed arity minArity keys v = .ok (ps, keys.map fun _ => Val.nil) ∧ ps.length = arity ∧
      (0 < arity → ps[0]? = some v) := by
  obtain ⟨h0, _, hlen, _⟩ := first_resume_value_bound { arity := arity, minArity := minArity, rest := 2 } v
  -- the struct slot, behind the positional ones, still holds `{}`
  have hs : (firstParams { arity := arity, minArity := minArity, rest := 2 } v)[arity]? = some .estruct := by
    have hb : (baseParams { arity := arity, minArity := minArity, rest := 2 })[arity]? = some .estruct := by
      unfold baseParams
      rw [List.getElem?_append_right (by rw [List.length_replicate]; exact Nat.le_refl _), List.length_replicate, Nat.sub_self]; rfl
    rw [firstParams_eq]
    by_cases hv : v = .nil
    · rw [if_pos hv]; exact hb
    · rw [if_neg hv, List.getElem?_set_ne (Nat.ne_of_lt (h.resolve_right hv))]; exact hb
  unfold firstResumeNamed
  simp only [List.getD, hs, Option.getD_some, namedPrologue_estruct]
  exact ⟨_, rfl, by rw [List.length_take, hlen]; exact Nat.min_eq_left (Nat.le_add_right ..),
    fun ha => by rw [List.getElem?_take_of_lt ha]; exact h0 ha⟩

/-- … and a fiber function with ONLY named parameters that is first resumed with a non-nil value fails before its body
    starts: janet_continue_no_check's VARARG branch replaces the `{}` of the struct slot by the tuple `(v)`, and the
    prologue's first `(in slot :k)` raises.  (Behaviour of the current tree, modelled and compared with the implementation
    on every run; the value is not delivered anywhere — there is no parameter it could go to.) -/
theorem named_only_nonnil_first_value_fails (minArity : Nat) (k : String) (ks : List String) (v : Val) (hv : v ≠ .nil) :
    firstResumeNamed 0 minArity (k :: ks) v = .error ("expected integer key for tuple in range [0, 1), got :" ++ k) := by
  unfold firstResumeNamed firstParams
  simp [firstValueUsesArity, baseParams, hv, List.getD, namedPrologue, inKey]

example : firstResumeNamed 1 0 ["b", "a"] (.int 7) = .ok ([.int 7], [.nil, .nil]) := by rfl
example : firstResumeNamed 0 0 ["b", "a"] (.int 7) = .error "expected integer key for tuple in range [0, 1), got :b" := by rfl

/-- The signal `(sig, v)` raised by `c` passes the callers `pre` (innermost first): each is blocked, not inside a
    janet_call, and the fiber directly below it does not have `sig` in its mask.  `s'` is `s` where exactly those callers
    took status `sig` (their code, environment and continuation untouched); `c'` is the outermost fiber passed. -/
inductive Passes (sig : Nat) (v : Val) : State → FId → List FId → State → FId → Prop where
  | nil (s : State) (c : FId) : Passes sig v s c [] s c
  | cons (s : State) (c p : FId) (pre : List FId) (s' : State) (c' : FId) (fp fc : Fiber) (cont : Cont) :
      s.fiber? p = some fp → s.fiber? c = some fc → fp.ctl = .wait cont → inCcall fp = false →
      sig ≠ sigOk → testBit fc.mask sig = false →
      Passes sig v (s.setFiber p { fp with status := sig, last := if fp.passThrough = false then v else fc.last,
                                           child := if (staleChildCleared && fp.passThrough && fc.status == stAlive) = true then none else fp.child,
                                           passThrough := false })
        p pre s' c' →
      Passes sig v s c (p :: pre) s' c'

theorem unwind_passes {sig : Nat} {v : Val} {s : State} {c : FId} {pre : List FId} {s' : State} {c' : FId}
    (h : Passes sig v s c pre s' c') (rest : List FId) :
    unwind s (pre ++ rest) c sig v = unwind s' rest c' sig v := by
  induction h with
  | nil s c => rfl
  | cons s c p pre s' c' fp fc cont hp hc hw hcc hsig hrej _ ih =>
    rw [List.cons_append, unwind]
    simpa [hp, hc, hw, hcc, hsig, hrej] using ih

/-- A signal raised inside nested fibers is delivered to the nearest enclosing fiber whose mask accepts it:
    after passing every rejecting level (any number of them — induction on the nesting depth), the first fiber `x`
    whose mask has the bit hands the value to ITS resumer `q`, which continues with exactly that value. -/
theorem signal_delivered_to_nearest_accepting {sig : Nat} {v : Val} {s : State} {c : FId} {pre : List FId} {s' : State} {x : FId}
    (h : Passes sig v s c pre s' x) (q : FId) (rest : List FId) (fq fx : Fiber) (cont : Cont)
    (hq : s'.fiber? q = some fq) (hx : s'.fiber? x = some fx) (hw : fq.ctl = .wait cont)
    (hacc : testBit fx.mask sig = true) (halive : fq.passThrough = false) (hnn : cont.isNext = false) :
    unwind s (pre ++ q :: rest) c sig v
      = deliverValue { s' with stack := q :: rest } q { fq with child := none } cont v := by
  rw [unwind_passes h, unwind]
  simp [hq, hx, hw, hacc, halive, hnn]

/-- … and no other fiber sees it: a fiber that is not one of the callers the signal is handed to is left exactly
    as it was (status, code, environment, child, pending signal), whatever the depth. -/
theorem no_other_fiber_sees_it (stack : List FId) (s : State) (c : FId) (sig : Nat) (v : Val) (g : FId) (hg : g ∉ stack) :
    (unwind s stack c sig v).fiber? g = s.fiber? g :=
  unwind_other stack s c sig v g hg

/-- … in particular callers outside the passed prefix, other than the catcher's resumer, are untouched as well. -/
theorem delivery_touches_only_receiver (s : State) (q : FId) (fq : Fiber) (cont : Cont) (v : Val) (g : FId) (hg : g ≠ q) :
    (deliverValue s q fq cont v).fiber? g = s.fiber? g :=
  deliverValue_other s q fq cont v g hg

/-- The documented meaning of the `fiber/new` mask letters, checked against the regenerated table and bit layout. -/
theorem mask_letters_sound :
    (∀ sig, sig < 14 → testBit (maskOfFlags [116]) sig = [sigError, sigUser0, sigUser1, sigUser2, sigUser3, sigUser4].contains sig) ∧
    (∀ sig, sig < 14 → testBit (maskOfFlags [97]) sig = (sig != sigOk)) ∧
    (∀ sig, sig < 14 → testBit (maskOfFlags [101]) sig = (sig == sigError)) ∧
    (∀ sig, sig < 14 → testBit (maskOfFlags [121]) sig = (sig == sigYield)) ∧
    (∀ sig, sig < 14 → testBit (maskOfFlags [117]) sig = (sigUser0 ≤ sig && sig ≤ sigUser9)) ∧
    (∀ n, n < 10 → ∀ sig, sig < 14 → testBit (maskOfFlags [48 + n]) sig = (sig == userBase + n)) ∧
    (∀ sig, sig < 14 → testBit (maskOfFlags [105, 112]) sig = false) ∧
    userBase = sigUser0 ∧ userMax = 9 ∧ cancelSignal = sigError ∧
    (∀ i, i < 14 → i ≠ 12 → i ≠ 13 → signalNames.getD i "" = statusNames.getD i "" ∨ i = 0 ∨ i = 3) := by
  decide

/-- the instruction at which the parent of a `defer` body is blocked: `(def r (resume f))`, then the cleanup `form` -/
def deferCont (n : Nat) (form : Tm) : Cont :=
  .bindK 0 (.block 0 form (.prim 0 (.status (.var n))
    (.ite (.var (n + 3)) (kwA "dead") (.ret (.var (n + 1)))
      (.prim 0 (.propagate (.var (n + 1)) (.var n)) (.ret (.var (n + 4))))))) false

/-- `deferTm` is: create the body fiber with mask :ti, then block in `deferCont`. -/
theorem deferTm_shape (n l : Nat) (form body k : Tm) :
    deferTm n l form body k = .block l (.new 0 body flagsTI (.prim 0 (.resume (.var n) nilA)
      (match deferCont n form with | .bindK _ k' _ => k' | .loopK .. => .ret nilA))) k := rfl

/-- signals after which a fiber is finished / still resumable -/
def exitSignals : List Nat := [sigOk, sigError, sigUser0, sigUser1, sigUser2, sigUser3, sigUser4]
def suspendSignals : List Nat := [sigDebug, sigYield, sigUser5, sigUser6, sigUser7, sigUser8, sigUser9]

theorem exit_accepted_TI : ∀ sig, sig ∈ exitSignals → (sig = sigOk ∨ testBit (maskOfFlags flagsTI) sig = true) ∧ isFinished sig = true := by
  decide

theorem suspend_rejected_TI : ∀ sig, sig ∈ suspendSignals →
    (sig ≠ sigOk ∧ testBit (maskOfFlags flagsTI) sig = false) ∧ isFinished sig = false := by
  decide

theorem arrival (s : State) (p f : FId) (rest : List FId) (fp ff : Fiber) (cont : Cont) (sig : Nat) (v : Val)
    (hp : s.fiber? p = some fp) (hf : s.fiber? f = some ff) (hw : fp.ctl = .wait cont) (hnn : cont.isNext = false)
    (halive : fp.passThrough = false) (hcc : inCcall fp = false) :
    ((sig = sigOk ∨ testBit ff.mask sig = true) →
      unwind s (p :: rest) f sig v = deliverValue { s with stack := p :: rest } p { fp with child := none } cont v) ∧
    ((sig ≠ sigOk ∧ testBit ff.mask sig = false) →
      unwind s (p :: rest) f sig v = unwind (s.setFiber p { fp with status := sig, last := v }) rest p sig v) := by
  constructor <;> intro h <;> rw [unwind]
  · simp [hp, hf, hw, h, halive, hnn]
  · simp [hp, hf, hw, h.1, h.2, halive, hcc]

/-- One arrival of a signal of the body fiber `f` (mask :ti) at the parent `p` blocked in `cont`
    (the transducer step behind defer / edefer / with):
    * exit signal (return, error — which is also what `cancel` injects —, user0-4): the parent continues with the code
      after the resume, i.e. the cleanup form runs next, with the value bound; the body fiber is then finished, so by
      `finished_never_resumes` no second arrival can follow: **once**;
    * any other signal (yield, user5-9, debug): the parent does NOT run; it takes the signal's status, stays blocked at
      the same instruction with the same continuation, and the signal goes further up: **not before the exit**. -/
theorem cleanup_arrival (s : State) (p f : FId) (rest : List FId) (fp ff : Fiber) (cont : Cont) (sig : Nat) (v : Val)
    (hp : s.fiber? p = some fp) (hf : s.fiber? f = some ff) (hw : fp.ctl = .wait cont) (hnn : cont.isNext = false)
    (hmask : ff.mask = maskOfFlags flagsTI) (halive : fp.passThrough = false) (hcc : inCcall fp = false) :
    (sig ∈ exitSignals →
      unwind s (p :: rest) f sig v = deliverValue { s with stack := p :: rest } p { fp with child := none } cont v) ∧
    (sig ∈ suspendSignals →
      unwind s (p :: rest) f sig v
        = unwind (s.setFiber p { fp with status := sig, last := v }) rest p sig v) := by
  have h := arrival s p f rest fp ff cont sig v hp hf hw hnn halive hcc
  rw [hmask] at h
  exact ⟨fun hs => h.1 (exit_accepted_TI sig hs).1, fun hs => h.2 (suspend_rejected_TI sig hs).1⟩

/-- one arrival at a `defer` parent, spelled out on the parent's record (the whole-execution statement is
    `defer_runs_exactly_once` below) -/
theorem defer_arrival (n : Nat) (form : Tm) (s : State) (p f : FId) (rest : List FId) (fp ff : Fiber)
    (sig : Nat) (v : Val) (hp : s.fiber? p = some fp) (hf : s.fiber? f = some ff) (hw : fp.ctl = .wait (deferCont n form))
    (hmask : ff.mask = maskOfFlags flagsTI) (halive : fp.passThrough = false) (hcc : inCcall fp = false) (hlen : p < s.fibers.length) :
    (sig ∈ exitSignals →
      (unwind s (p :: rest) f sig v).fiber? p
        = some { fp with child := none, env := fp.env ++ [v],
                         ctl := .run (.block 0 form (.prim 0 (.status (.var n))
                            (.ite (.var (n + 3)) (kwA "dead") (.ret (.var (n + 1)))
                              (.prim 0 (.propagate (.var (n + 1)) (.var n)) (.ret (.var (n + 4))))))) } ∧
      isFinished sig = true) ∧
    (sig ∈ suspendSignals → p ∉ rest →
      (unwind s (p :: rest) f sig v).fiber? p = some { fp with status := sig, last := v } ∧ isFinished sig = false) := by
  have h := cleanup_arrival s p f rest fp ff (deferCont n form) sig v hp hf hw rfl hmask halive hcc
  constructor
  · intro hs
    constructor
    · rw [h.1 hs]
      exact deliver_binds_value _ p _ 0 _ v hlen
    · exact (exit_accepted_TI sig hs).2
  · intro hs hnr
    constructor
    · rw [h.2 hs, unwind_other _ _ _ _ _ _ hnr, fiber?_setFiber_self, if_pos hlen]
    · exact (suspend_rejected_TI sig hs).2


/-- `edefer` and `with` create the body fiber with the same mask :ti -/
theorem edefer_mask_facts (n l : Nat) (form body k : Tm) :
    (∃ K, edeferTm n l form body k = .block l (.new 0 body flagsTI (.prim 0 (.resume (.var n) nilA) K)) k) ∧
    (∀ sig, sig ∈ exitSignals → sig = sigOk ∨ testBit (maskOfFlags flagsTI) sig = true) ∧
    (∀ sig, sig ∈ suspendSignals → sig ≠ sigOk ∧ testBit (maskOfFlags flagsTI) sig = false) := by
  exact ⟨⟨_, rfl⟩, fun sig h => (exit_accepted_TI sig h).1, fun sig h => (suspend_rejected_TI sig h).1⟩

theorem with_is_defer (n l : Nat) (ctor : Prim) (dtor body k : Tm) :
    withTm n l ctor dtor body k
      = .block l (.prim 0 ctor (deferTm (n + 1) 0 (.prim 0 (.pure (.var n)) dtor) body (.ret (.var (n + 1))))) k := rfl

/-- `try`: the body fiber has mask :ie — only an error (or the return) reaches the parent, whose next instruction
    tests `(= (fiber/status f) :error)`; every other signal, including user0-4 which finish the body, passes the
    parent by (it takes the same status and its catch clause never runs).
    This is the per-arrival lemma; the whole-execution statement is `try_catch_runs_exactly_once` below. -/
theorem try_arrival (s : State) (p f : FId) (rest : List FId) (fp ff : Fiber) (cont : Cont) (sig : Nat) (v : Val)
    (hp : s.fiber? p = some fp) (hf : s.fiber? f = some ff) (hw : fp.ctl = .wait cont) (hnn : cont.isNext = false)
    (hmask : ff.mask = maskOfFlags flagsIE) (halive : fp.passThrough = false) (hcc : inCcall fp = false) (hs : sig < 14) :
    ((sig = sigOk ∨ sig = sigError) →
      unwind s (p :: rest) f sig v = deliverValue { s with stack := p :: rest } p { fp with child := none } cont v) ∧
    (¬ (sig = sigOk ∨ sig = sigError) →
      unwind s (p :: rest) f sig v = unwind (s.setFiber p { fp with status := sig, last := v }) rest p sig v) := by
  have h := arrival s p f rest fp ff cont sig v hp hf hw hnn halive hcc
  rw [hmask] at h
  have hrej : ∀ n, n < 14 → ¬ (n = sigOk ∨ n = sigError) → n ≠ sigOk ∧ testBit (maskOfFlags flagsIE) n = false := by decide
  exact ⟨fun h' => h.1 (by rcases h' with rfl | rfl <;> decide), fun h' => h.2 (hrej sig hs h')⟩

/-- status_monotone: along EVERY execution (any script, any number of steps, from the initial state or from any state
    satisfying the machine invariant `Inv`) each fiber stays in the registry, keeps its mask, and its status only moves
    forward (`Fwd`): nothing ever returns to `new`, and a finished fiber (dead / error / user0-4) never changes status
    again.  Holds under the flag `chainAliveMarked` (premise of `contNoCheck_res`). -/
theorem status_monotone (s : State) (hinv : Inv s) (n : Nat) (g : FId) (fg : Fiber) (hg : s.fiber? g = some fg) :
    ∃ fg', (run n s).fiber? g = some fg' ∧ Fwd fg.status fg'.status ∧ fg'.mask = fg.mask :=
  ((run_reach n s).res hinv).1.fwd hg

/-- … in particular for every script from the initial state -/
theorem status_monotone_from_init (t : Tm) (flags : List Nat) (m n : Nat) (g : FId) (fg : Fiber)
    (hg : (run m (init t flags)).fiber? g = some fg) :
    ∃ fg', (run n (run m (init t flags))).fiber? g = some fg' ∧ Fwd fg.status fg'.status ∧ fg'.mask = fg.mask :=
  status_monotone _ ((run_reach m _).res (init_inv t flags)).2 n g fg hg

/-- once finished, finished for ever, with the same status -/
theorem finished_is_forever (s : State) (hinv : Inv s) (n : Nat) (g : FId) (fg : Fiber) (hg : s.fiber? g = some fg)
    (hfin : isFinished fg.status = true) : ∃ fg', (run n s).fiber? g = some fg' ∧ fg'.status = fg.status :=
  ((run_reach n s).res hinv).1.finished hg hfin

/-- the invariant is not vacuous: every initial state satisfies it, and so does every state reached from it -/
theorem reachable_inv (t : Tm) (flags : List Nat) (n : Nat) : Inv (run n (init t flags)) :=
  ((run_reach n _).res (init_inv t flags)).2

/-- the first movement is `new → alive` (or, after a cancel, straight to the injected signal's status) -/
theorem new_becomes_alive (s : State) (stk : List FId) (f : FId) (ff : Fiber) (v : Val) (t : Tm)
    (hlen : f < s.fibers.length) (hpend : ff.pending = none) (hctl : ff.ctl = .run t) :
    ((startRun s stk f ff v).fiber? f).map (·.status) = some stAlive := by
  rw [startRun_new s stk f ff v t hlen hpend hctl]; rfl

/-- non-vacuity of the cleanup theorems: a concrete parent blocked in a defer, body fiber with mask :ti -/
example : ∃ (s : State) (fp ff : Fiber), s.fiber? 1 = some fp ∧ s.fiber? 2 = some ff ∧ fp.ctl = .wait (deferCont 0 (.ret nilA)) ∧
    ff.mask = maskOfFlags flagsTI ∧ fp.passThrough = false ∧ inCcall fp = false ∧ 1 < s.fibers.length :=
  ⟨{ fibers := [default, { status := stAlive, mask := 0, ctl := .wait (deferCont 0 (.ret nilA)) },
                { status := stAlive, mask := maskOfFlags flagsTI, ctl := .run (.ret nilA) }] }, _, _, rfl, rfl, rfl, rfl, rfl, rfl, by decide⟩

/-- the model really runs: a defer whose body yields, is cancelled, and whose cleanup then runs exactly once (label 6) -/
example :
    let body : Tm := .prim 3 (.pure (.lit (.int 10))) (.prim 4 (.yield (.lit (.int 11))) (.ret (.lit (.int 13))))
    let form : Tm := .prim 6 (.pure (.lit (.int 20))) (.ret (.lit (.int 21)))
    let fb : Tm := deferTm 0 7 form body (.ret (.var 0))
    let t : Tm := .new 1 fb [121] (.prim 8 (.resume (.var 0) (.lit (.int 30))) (.prim 9 (.cancel (.var 0) (.lit (.int 31))) (.ret (.var 2))))
    let s := run 200 (init t [97])
    ((s.trace.filter (fun e => e.l == 6)).length, s.halt.isSome) = (1, true) := by
  decide

/-- the conclusion of the cleanup theorems: after `n` steps from `s`, still blocked with the body not exited, or a first
    step `i ≤ n` at which the body is finished (for ever) and the code after the macro's resume is what `p` runs -/
def ExactlyOnce (p f : FId) (cont : Cont) (s : State) (n : Nat) : Prop :=
  Blk (maskOfFlags flagsTI) p f cont (run n s) (run n s).stack ∨
  ∃ i, i ≤ n ∧ (∀ j, j < i → Blk (maskOfFlags flagsTI) p f cont (run j s) (run j s).stack) ∧
    (Stuck (run i s) ∨
     (Exited p f cont (run i s) ∧ ∀ m, ∃ ff, (run m (run i s)).fiber? f = some ff ∧ isFinished ff.status = true))

/-- the same for a macro whose body fiber has an arbitrary mask `m` (try / protect :ie, prompt :i0, with-dyns :p): a third
    outcome exists — the body exited with a signal its mask does not hand to the parent (`Passed`: for `try` user0-4); then
    body AND parent are finished for ever with that status, the parent is never on the activation stack again, and the
    code after the resume (the catch clause) has not run and never will.
    `Stuck` = the model stopped on hang / unmodelled / ill-formed; control returning to the C caller (`done`) is not an escape. -/
def ExactlyOnceM (m : Nat) (p f : FId) (cont : Cont) (s : State) (n : Nat) : Prop :=
  Blk m p f cont (run n s) (run n s).stack ∨
  ∃ i, i ≤ n ∧ (∀ j, j < i → Blk m p f cont (run j s) (run j s).stack) ∧
    (Stuck (run i s) ∨
     (Exited p f cont (run i s) ∧ ∀ k, ∃ ff, (run k (run i s)).fiber? f = some ff ∧ isFinished ff.status = true) ∨
     (Passed m p f cont (run i s) ∧ ∀ k,
        (∃ ff, (run k (run i s)).fiber? f = some ff ∧ isFinished ff.status = true) ∧
        (∃ fp, (run k (run i s)).fiber? p = some fp ∧ isFinished fp.status = true) ∧
        ((run k (run i s)).halt = none → p ∉ (run k (run i s)).stack)))

/-- whole-execution theorem for every fiber-based macro whose mask only accepts exit signals (`AccFin m`) -/
theorem macro_runs_exactly_once (m : Nat) (hm : AccFin m) (p f : FId) (cont : Cont) (s : State) (hinv : Inv s) (hne : p ≠ f)
    (hb : Blk m p f cont s s.stack) (hpriv : ∀ i, Priv p f (run i s)) (n : Nat) : ExactlyOnceM m p f cont s n := by
  unfold ExactlyOnceM
  rcases exactly_once_seq hm (fun k => run k s) n hinv hne hb (fun k _ _ => ⟨.step, run_succ k s, hpriv k⟩)
    with h | ⟨i, _, hi, hbefore, hinv', hat⟩
  · exact Or.inl h
  · refine Or.inr ⟨i, hi, hbefore, hat.imp id (Or.imp (And.imp_right fun h k => h _ (run_reach k _))
      (And.imp_right fun h k => ⟨(h _ (run_reach k _)).1, (h _ (run_reach k _)).2, fun hh hmem => ?_⟩))⟩
    -- a fiber on the activation stack is alive, `p` is finished
    obtain ⟨fp', h1, h2⟩ := (h _ (run_reach k _)).2
    obtain ⟨x, hx1, hx2⟩ := (((run_reach k _).res hinv').2.2 hh).2 p hmem
    rw [h1] at hx1; cases hx1
    rw [hx2] at h2; exact absurd h2 (by decide)

/-- `defer` / `edefer` / `with` — exactly once, on exit, for EVERY body script, EVERY exit path (return, error, user
    signals, cancel from anywhere, propagate, refusals, C re-entry coercion), EVERY interleaving with other fibers and
    any number of steps.  The code `p` executes after the exit is `contK cont`: for `defer` the cleanup form, for `edefer`
    the status test that guards it; `f` being finished for ever, the macro's resume can never complete a second time
    (`resume_finished_raises`).  The gensym'd `f` of boot.janet guarantees the first two parts of `Priv` unless the body
    leaks `(fiber/current)`; the third can only fail on a cyclic child chain; `priv_is_needed` shows the hypothesis cannot
    be dropped.  Holds under the flag `chainAliveMarked`: without it the body can re-enter its own suspended ancestor and
    the statement is false (corpus/C05/ancestor-reentry.json). -/
theorem defer_runs_exactly_once (p f : FId) (cont : Cont) (s : State) (hinv : Inv s) (hne : p ≠ f)
    (hb : Blk (maskOfFlags flagsTI) p f cont s s.stack) (hpriv : ∀ i, Priv p f (run i s)) (n : Nat) : ExactlyOnce p f cont s n :=
  (macro_runs_exactly_once _ accFin_TI p f cont s hinv hne hb hpriv n).imp id fun ⟨i, hi, hbefore, hat⟩ =>
    ⟨i, hi, hbefore, not_passed_TI.drop hat⟩

/-- what `p` executes after the exit: for `defer` the cleanup form itself … -/
theorem defer_next_is_cleanup (n : Nat) (form : Tm) :
    contK (deferCont n form) = .block 0 form (.prim 0 (.status (.var n))
      (.ite (.var (n + 3)) (kwA "dead") (.ret (.var (n + 1)))
        (.prim 0 (.propagate (.var (n + 1)) (.var n)) (.ret (.var (n + 4)))))) := rfl

/-- the instruction in which the parent of an `edefer` body is blocked -/
def edeferCont (n : Nat) (form : Tm) : Cont :=
  .bindK 0 (.prim 0 (.status (.var n))
    (.ite (.var (n + 2)) (kwA "dead") (.ret (.var (n + 1)))
      (.block 0 form (.prim 0 (.propagate (.var (n + 1)) (.var n)) (.ret (.var (n + 4))))))) false

/-- … for `edefer` the test `(= (fiber/status f) :dead)` that guards the cleanup form (so: cleanup iff the exit was abnormal) -/
theorem edefer_shape (n l : Nat) (form body k : Tm) :
    edeferTm n l form body k = .block l (.new 0 body flagsTI (.prim 0 (.resume (.var n) nilA) (contK (edeferCont n form)))) k := rfl

theorem defer_shape (n l : Nat) (form body k : Tm) :
    deferTm n l form body k = .block l (.new 0 body flagsTI (.prim 0 (.resume (.var n) nilA) (contK (deferCont n form)))) k := rfl


/-- `edefer`: same statement with `edeferCont` — the code that runs at the exit is the status test guarding the form -/
theorem edefer_runs_exactly_once (p f : FId) (n : Nat) (form : Tm) (s : State) (hinv : Inv s) (hne : p ≠ f)
    (hb : Blk (maskOfFlags flagsTI) p f (edeferCont n form) s s.stack) (hpriv : ∀ i, Priv p f (run i s)) (m : Nat) :
    ExactlyOnce p f (edeferCont n form) s m :=
  defer_runs_exactly_once p f (edeferCont n form) s hinv hne hb hpriv m

/-- `with`: `(def x ctor)` followed by `defer` one slot deeper (`with_is_defer`), destructor call as the form -/
theorem with_runs_exactly_once (p f : FId) (n : Nat) (dtor : Tm) (s : State) (hinv : Inv s) (hne : p ≠ f)
    (hb : Blk (maskOfFlags flagsTI) p f (deferCont (n + 1) (.prim 0 (.pure (.var n)) dtor)) s s.stack) (hpriv : ∀ i, Priv p f (run i s)) (m : Nat) :
    ExactlyOnce p f (deferCont (n + 1) (.prim 0 (.pure (.var n)) dtor)) s m :=
  defer_runs_exactly_once p f (deferCont (n + 1) (.prim 0 (.pure (.var n)) dtor)) s hinv hne hb hpriv m

/-- the hypotheses are satisfiable: run a fiber whose `defer` body yields; after that the parent (fiber 2) is blocked on
    the body fiber (fiber 3), which has not exited -/
example :
    let body : Tm := .prim 3 (.pure (.lit (.int 10))) (.prim 4 (.yield (.lit (.int 11))) (.ret (.lit (.int 13))))
    let form : Tm := .prim 6 (.pure (.lit (.int 20))) (.ret (.lit (.int 21)))
    let t : Tm := .new 1 (deferTm 0 7 form body (.ret (.var 0))) [121] (.prim 8 (.resume (.var 0) (.lit (.int 30))) (.ret (.var 1)))
    let s := run 12 (init t [97])
    (match s.fiber? 2, s.fiber? 3 with
     | some fp, some ff => decide (fp.child = some 3) && decide (fp.pending = none) && !inCcall fp && decide (ff.mask = maskOfFlags flagsTI)
                           && !ff.root && !isFinished ff.status && (match fp.ctl with | .wait c => !c.isNext | _ => false)
                           && !(s.stack.contains 2) && !(s.stack.contains 3) && decide (fp.status ≠ stAlive) && decide (ff.status ≠ stAlive)
     | _, _ => false) = true := by
  decide

/-- `Priv` cannot be dropped: if another fiber resumes the macro's body fiber directly (here the main fiber, through the
    registry), the body finishes while the parent is still blocked — neither "blocked with the body not exited" nor "exited
    with the cleanup next" holds, and the cleanup form (label 6) has not run. -/
theorem priv_is_needed :
    let body : Tm := .prim 3 (.pure (.lit (.int 10))) (.prim 4 (.yield (.lit (.int 11))) (.ret (.lit (.int 13))))
    let form : Tm := .prim 6 (.pure (.lit (.int 20))) (.ret (.lit (.int 21)))
    let t : Tm := .new 1 (deferTm 0 7 form body (.ret (.var 0))) [121]
      (.prim 8 (.resume (.var 0) (.lit (.int 30))) (.prim 9 (.resume (.glob 3) (.lit (.int 31))) (.prim 10 (.pure (.lit .nil)) (.ret (.var 2)))))
    let s := run 16 (init t [97])
    (match s.fiber? 2, s.fiber? 3 with
     | some fp, some ff => isFinished ff.status && (match fp.ctl with | .wait _ => true | _ => false) && decide (fp.child = some 3)
                           && decide ((s.trace.filter (fun e => e.l == 6)).length = 0)
     | _, _ => false) = true := by
  decide

/-- `try` — the catch clause runs exactly once iff the body exits with an error, on every exit path.  `p` is blocked in
    the macro's `(resume f)`, `f` (mask :ie) has not exited.  At every later time: still so; or a first step at which
    (a) the body's return / error (incl. the error `cancel` injects) reached `p`, which now runs the status test
        `try_next_is_status_test` — by `try_catch_iff_error`, two steps later it runs the catch clause iff `f` is :error and
        returns `r` otherwise — and `f` is finished for ever, so this happens once; or
    (b) the body exited with user0-4: the signal passed `p` by, body and parent are finished for ever with that status, `p`
        never runs again: the catch clause is not run, as documented (`try` only catches errors).
    Same `Priv` hypothesis as `defer_runs_exactly_once`. -/
theorem try_catch_runs_exactly_once (p f : FId) (n : Nat) (catch_ : Tm) (s : State) (hinv : Inv s) (hne : p ≠ f)
    (hb : Blk (maskOfFlags flagsIE) p f (tryCont n catch_) s s.stack) (hpriv : ∀ i, Priv p f (run i s)) (k : Nat) :
    ExactlyOnceM (maskOfFlags flagsIE) p f (tryCont n catch_) s k :=
  macro_runs_exactly_once _ accFin_IE p f _ s hinv hne hb hpriv k

theorem try_next_is_status_test (n : Nat) (catch_ : Tm) :
    contK (tryCont n catch_) = .prim 0 (.status (.var n))
      (.ite (.var (n + 2)) (kwA "error") (.prim 0 (.pure (.var (n + 1))) catch_) (.ret (.var (n + 1)))) := rfl

/-- … and the decision taken after the exit: catch clause iff the body fiber's status is :error -/
theorem try_catch_iff_error {s : State} {p f : FId} {rest : List FId} {fp ff : Fiber} {n : Nat} {catch_ : Tm}
    (hh : s.halt = none) (hstk : s.stack = p :: rest) (hp : s.fiber? p = some fp) (hctl : fp.ctl = .run (contK (tryCont n catch_)))
    (hlen : fp.env.length = n + 2) (hn : fp.env[n]? = some (.fib f)) (hf : s.fiber? f = some ff) (hlt : ff.status < stNew) :
    ∃ fp', (run 2 s).fiber? p = some fp' ∧ fp'.env = fp.env ++ [Val.kw (statusName ff.status)] ∧
      fp'.ctl = .run (if ff.status = stError then (.prim 0 (.pure (.var (n + 1))) catch_) else (.ret (.var (n + 1)))) :=
  try_decides hh hstk hp hctl hlen hn hf hlt

/-- which exits of a `try` body reach the parent, which pass it by (regenerated mask letters) -/
theorem try_mask_facts :
    (∀ sig, sig < stNew → ((sig = sigOk ∨ testBit (maskOfFlags flagsIE) sig = true) ↔ (sig = sigOk ∨ sig = sigError))) ∧
    (∀ sig, sig < stNew → ((isFinished sig = true ∧ ¬ (sig = sigOk ∨ testBit (maskOfFlags flagsIE) sig = true)) ↔
        sig ∈ [sigUser0, sigUser1, sigUser2, sigUser3, sigUser4])) := by
  constructor <;> decide

/-- `protect` (mask :ie): same protocol; after the exit the parent builds `[ok? r]` from the status test -/
theorem protect_runs_exactly_once (p f : FId) (n : Nat) (s : State) (hinv : Inv s) (hne : p ≠ f)
    (hb : Blk (maskOfFlags flagsIE) p f (protectCont n) s s.stack) (hpriv : ∀ i, Priv p f (run i s)) (k : Nat) :
    ExactlyOnceM (maskOfFlags flagsIE) p f (protectCont n) s k :=
  macro_runs_exactly_once _ accFin_IE p f _ s hinv hne hb hpriv k

/-- `prompt` (mask :i0): the parent regains control exactly once, at the body's return or `(return tag v)` (= signal user0,
    from any depth below: `signal_delivered_to_nearest_accepting`); an error or user1-4 exit passes the prompt by and
    finishes it — so a `return` can never be answered twice and the code after the prompt's resume never runs early -/
theorem prompt_runs_exactly_once (p f : FId) (n : Nat) (tag : String) (s : State) (hinv : Inv s) (hne : p ≠ f)
    (hb : Blk (maskOfFlags flagsI0) p f (promptCont n tag) s s.stack) (hpriv : ∀ i, Priv p f (run i s)) (k : Nat) :
    ExactlyOnceM (maskOfFlags flagsI0) p f (promptCont n tag) s k :=
  macro_runs_exactly_once _ accFin_I0 p f _ s hinv hne hb hpriv k

theorem prompt_mask_facts :
    (∀ sig, sig < stNew → ((sig = sigOk ∨ testBit (maskOfFlags flagsI0) sig = true) ↔ (sig = sigOk ∨ sig = sigUser0))) ∧
    userBase + 0 = sigUser0 := by
  constructor <;> decide

/-- `with-dyns` (mask :p = no signal accepted): the parent continues only when the body RETURNS; every other exit
    (error, cancel, user0-4) passes through and finishes the parent too; yields and user5-9 leave it blocked -/
theorem with_dyns_runs_exactly_once (p f : FId) (n : Nat) (s : State) (hinv : Inv s) (hne : p ≠ f)
    (hb : Blk (maskOfFlags flagsP) p f (withDynsCont n) s s.stack) (hpriv : ∀ i, Priv p f (run i s)) (k : Nat) :
    ExactlyOnceM (maskOfFlags flagsP) p f (withDynsCont n) s k :=
  macro_runs_exactly_once _ accFin_P p f _ s hinv hne hb hpriv k

/-- `generate` / `coro` (mask :yi) are NOT of this kind: a yield is handed to the resumer without finishing the body, so
    the hypothesis `AccFin` fails — and must fail: a generator is resumed many times.  What holds for them is the value
    protocol (`values_pass_unchanged_in_order`, `deliver_binds_value`) and `finished_never_resumes`. -/
theorem generate_mask_not_accFin : ¬ AccFin (maskOfFlags flagsYI) := by
  intro h
  have := h sigYield (by decide) (Or.inr (by decide))
  revert this; decide

/-- `(propagate x g)` re-raises: the running fiber leaves run_vm with signal = the status of `g` — for a finished `g`
    that IS the signal with which it exited (`janet_fiber_set_status(fiber, sig)`) — with the payload `x` unchanged, and
    with `g` linked as its child, so the original fiber's stack stays attached (stack traces walk `fiber->child`). -/
theorem propagate_reraises_original {s : State} {p f : FId} {rest : List FId} {fp ff : Fiber} {n l : Nat} {k : Tm} {a : Atom}
    (hh : s.halt = none) (hstk : s.stack = p :: rest) (hp : s.fiber? p = some fp)
    (hctl : fp.ctl = .run (.prim l (.propagate a (.var n)) k)) (hn : fp.env[n]? = some (.fib f)) (hf : s.fiber? f = some ff)
    (hst : ff.status ≤ propagateMaxStatus) (hnd : ff.status ≠ stDead) :
    step s = raise s p { fp with ctl := .wait (.bindK l k false), child := some f } rest ff.status (evalAtom s fp.env a) :=
  step_propagate hh hstk hp hctl hn hf hst hnd

/-- … `raise` then hands exactly `(sig, v)` to the callers when no C frame of the fiber is live -/
theorem raise_is_unwind (s : State) (p : FId) (fp : Fiber) (rest : List FId) (sig : Nat) (v : Val) (hsig : sig ≠ sigOk)
    (hcc : inCcall fp = false) :
    raise s p fp rest sig v = unwind (s.setFiber p { fp with status := sig, last := v }) rest p sig v := by
  unfold raise
  simp [hsig, hcc]

/-- the tail of `defer` (after the cleanup form ran): `(if (= (fiber/status f) :dead) r (propagate r f))`.
    With `r` the value bound at the body's exit (`defer_arrival`: slot n+1) and `f` the finished body fiber:
    body returned → the block's value is `r`; body exited abnormally with signal `sg` → three steps later `p` re-raises
    EXACTLY `(sg, r)`, child link = `f`.  So the signal a `defer` / `with` lets out after its cleanup is the original one. -/
theorem defer_propagate_reraises_original {s : State} {p f : FId} {rest : List FId} {fp ff : Fiber} {n : Nat} {r : Val}
    (hh : s.halt = none) (hstk : s.stack = p :: rest) (hp : s.fiber? p = some fp) (hctl : fp.ctl = .run (deferTail n))
    (hlen : fp.env.length = n + 3) (hn : fp.env[n]? = some (.fib f)) (hr : fp.env[n + 1]? = some r)
    (hf : s.fiber? f = some ff) (hne : p ≠ f) (hlt : ff.status < stNew) :
    (ff.status = stDead → ∃ fp', (run 2 s).fiber? p = some fp' ∧ fp'.ctl = .run (.ret (.var (n + 1))) ∧ fp'.env[n + 1]? = some r) ∧
    (ff.status ≠ stDead → ∃ s2 fp2, run 3 s = raise s2 p fp2 rest ff.status r ∧ fp2.child = some f ∧ s2.fiber? f = some ff ∧
        fp2.kont = fp.kont ∧ fp2.mask = fp.mask) :=
  defer_tail hh hstk hp hctl hlen hn hr hf hne hlt

theorem defer_tail_shape (n : Nat) (form : Tm) : contK (deferCont n form) = .block 0 form (deferTail n) := rfl

/-- non-vacuity, by running the model: a `try` whose body errors runs its catch clause (label 6) once; one whose body
    signals user0 does not, and both body and parent end with status user0; a `defer` inside a fiber with mask :a whose body
    signals user2 with payload 11 runs its cleanup (label 6) once and the enclosing resume receives exactly 11 while the
    defer's fiber has status user2 (the re-raised original signal) -/
example :
    let body : Tm := .prim 3 (.error (.lit (.int 11))) (.ret (.lit (.int 13)))
    let catch_ : Tm := .prim 6 (.pure (.var 3)) (.ret (.var 4))
    let t : Tm := tryTm 0 7 body catch_ (.ret (.var 0))
    let s := run 200 (init t [97])
    ((s.trace.filter (fun e => e.l == 6)).map (·.v), s.halt.isSome) = ([.int 11], true) := by
  decide

example :
    let body : Tm := .prim 3 (.signal 0 (.lit (.int 11))) (.ret (.lit (.int 13)))
    let catch_ : Tm := .prim 6 (.pure (.var 3)) (.ret (.var 4))
    let t : Tm := .new 1 (tryTm 0 7 body catch_ (.ret (.var 0))) [97] (.prim 8 (.resume (.var 0) nilA) (.ret (.var 1)))
    let s := run 200 (init t [97])
    ((s.trace.filter (fun e => e.l == 6)).length, (s.trace.filter (fun e => e.l == 8)).map (·.v), s.snapshot) = (0, [.int 11], [stAlive, stDead, stUser0, stUser0]) := by
  decide

example :
    let body : Tm := .prim 3 (.signal 2 (.lit (.int 11))) (.ret (.lit (.int 13)))
    let form : Tm := .prim 6 (.pure (.lit (.int 20))) (.ret (.lit (.int 21)))
    let t : Tm := .new 1 (deferTm 0 7 form body (.ret (.var 0))) [97] (.prim 8 (.resume (.var 0) nilA) (.ret (.var 1)))
    let s := run 200 (init t [97])
    ((s.trace.filter (fun e => e.l == 6)).length, (s.trace.filter (fun e => e.l == 8)).map (·.v), s.snapshot) = (1, [.int 11], [stAlive, stDead, stUser2, stUser2]) := by
  decide

/-- finished is for ever also along executions in which the event loop dispatches tasks -/
theorem finished_is_forever_sched (s : State) (hinv : Inv s) (ts : List Trans) (hs : SigsOK ts) (g : FId) (fg : Fiber)
    (hg : s.fiber? g = some fg) (hfin : isFinished fg.status = true) :
    ∃ fg', (runT s ts).fiber? g = some fg' ∧ fg'.status = fg.status :=
  ((runT_reach ts s hs).res hinv).1.finished hg hfin

/-- the conclusion of the cleanup theorems for an execution `ts` that interleaves machine steps with task dispatches of the
    event loop (`Trans.enter g v sig`: janet_loop1 continuing task `g` with value `v`, `sig` = OK for ev/go and wake-ups,
    ERROR for ev/cancel and timeouts) -/
def ExactlyOnceSched (m : Nat) (p f : FId) (cont : Cont) (s : State) (ts : List Trans) : Prop :=
  Blk m p f cont (runT s ts) (runT s ts).stack ∨
  ∃ k, 0 < k ∧ k ≤ ts.length ∧ (∀ j, j < k → Blk m p f cont (runT s (ts.take j)) (runT s (ts.take j)).stack) ∧
    (Stuck (runT s (ts.take k)) ∨
     (Exited p f cont (runT s (ts.take k)) ∧
        ∀ us, SigsOK us → ∃ ff, (runT (runT s (ts.take k)) us).fiber? f = some ff ∧ isFinished ff.status = true) ∨
     (Passed m p f cont (runT s (ts.take k)) ∧
        ∀ us, SigsOK us → (∃ ff, (runT (runT s (ts.take k)) us).fiber? f = some ff ∧ isFinished ff.status = true) ∧
                           (∃ fp, (runT (runT s (ts.take k)) us).fiber? p = some fp ∧ isFinished fp.status = true)))

/-- `defer` / `edefer` / `with` / `try` / `protect` / `prompt` / `with-dyns` — cleanup exactly once on every exit path
    INCLUDING cancellation that comes from the event loop.  `ts` is any sequence of machine instructions and task dispatches:
    the loop may continue or cancel (janet_cancel → janet_continue_signal with JANET_SIGNAL_ERROR, which walks to the
    innermost suspended child and makes it raise) the macro's own fiber, any ancestor, any unrelated task — anything but the
    private body fiber itself (`PrivT`).  Then: still blocked with the body not exited, or a first transition after which
    the machine is stuck, or the body is finished for ever and the code after the resume (the cleanup) is what `p` runs, or
    (masks other than :ti) the body's exit passed `p` by and both are finished for ever. -/
theorem macro_runs_exactly_once_sched (m : Nat) (hm : AccFin m) (p f : FId) (cont : Cont) (s : State) (hinv : Inv s) (hne : p ≠ f)
    (hb : Blk m p f cont s s.stack) (ts : List Trans)
    (hpriv : ∀ k (hk : k < ts.length), PrivT p f (runT s (ts.take k)) ts[k]) : ExactlyOnceSched m p f cont s ts := by
  unfold ExactlyOnceSched
  have h := exactly_once_seq hm (fun k => runT s (ts.take k)) ts.length hinv hne hb fun k hk _ =>
    ⟨_, runT_take_succ s ts k hk, privM_ofTrans (hpriv k hk)⟩
  simp only [List.take_length] at h
  exact h.imp id fun ⟨k, hk0, hk, hbefore, _, hat⟩ => ⟨k, hk0, hk, hbefore, hat.imp id
    (Or.imp (And.imp_right fun h us hus => h _ (runT_reach us _ hus)) (And.imp_right fun h us hus => h _ (runT_reach us _ hus)))⟩

/-- `defer_runs_exactly_once` extended to the event loop (mask :ti: `Passed` cannot occur) -/
theorem defer_runs_exactly_once_sched (p f : FId) (cont : Cont) (s : State) (hinv : Inv s) (hne : p ≠ f)
    (hb : Blk (maskOfFlags flagsTI) p f cont s s.stack) (ts : List Trans)
    (hpriv : ∀ k (hk : k < ts.length), PrivT p f (runT s (ts.take k)) ts[k]) :
    Blk (maskOfFlags flagsTI) p f cont (runT s ts) (runT s ts).stack ∨
    ∃ k, 0 < k ∧ k ≤ ts.length ∧
      (∀ j, j < k → Blk (maskOfFlags flagsTI) p f cont (runT s (ts.take j)) (runT s (ts.take j)).stack) ∧
      (Stuck (runT s (ts.take k)) ∨
       (Exited p f cont (runT s (ts.take k)) ∧
          ∀ us, SigsOK us → ∃ ff, (runT (runT s (ts.take k)) us).fiber? f = some ff ∧ isFinished ff.status = true)) :=
  (macro_runs_exactly_once_sched _ accFin_TI p f cont s hinv hne hb ts hpriv).imp id fun ⟨k, hk0, hk, hbefore, hat⟩ =>
    ⟨k, hk0, hk, hbefore, not_passed_TI.drop hat⟩

/-- the machine really does it: a task whose `defer` body yields is left suspended by the loop; `ev/cancel` (dispatch with
    JANET_SIGNAL_ERROR) then makes the BODY fiber raise, and the cleanup (label 6) runs exactly once; a second cancel is
    refused (the task is finished) and runs nothing -/
example :
    let body : Tm := .prim 3 (.pure (.lit (.int 10))) (.prim 4 (.yield (.lit (.int 11))) (.ret (.lit (.int 13))))
    let form : Tm := .prim 6 (.pure (.lit (.int 20))) (.ret (.lit (.int 21)))
    let t : Tm := deferTm 0 7 form body (.ret (.var 0))
    let s1 := run 100 (initTask t [] {} .nil)
    let s2 := run 100 (loopEnter s1 1 (.str "cancelled") sigError)
    let s3 := run 100 (loopEnter s2 1 (.str "again") sigError)
    ((s1.trace.filter (fun e => e.l == 6)).length, s1.snapshot, (s2.trace.filter (fun e => e.l == 6)).length, s2.snapshot,
     (s3.trace.filter (fun e => e.l == 6)).length, s3.snapshot)
      = (0, [stUser9, stPending, stPending], 1, [stUser9, stError, stError], 1, [stUser9, stError, stError]) := by
  decide

/-- the hypotheses of the `_sched` theorems are satisfiable in a state in which control IS in the event loop: after the task's
    defer body yielded, the machine has halted with `done`, the stack is empty, the parent (fiber 1, the task) is blocked on
    the body (fiber 2) which has not exited, neither is alive -/
example :
    let body : Tm := .prim 3 (.pure (.lit (.int 10))) (.prim 4 (.yield (.lit (.int 11))) (.ret (.lit (.int 13))))
    let form : Tm := .prim 6 (.pure (.lit (.int 20))) (.ret (.lit (.int 21)))
    let s := run 100 (initTask (deferTm 0 7 form body (.ret (.var 0))) [] {} .nil)
    (match s.halt, s.fiber? 1, s.fiber? 2 with
     | some (.done sg _), some fp, some ff =>
        decide (sg = sigYield) && s.stack.isEmpty && decide (fp.child = some 2) && decide (fp.pending = none) && !inCcall fp &&
        decide (ff.mask = maskOfFlags flagsTI) && !ff.root && !isFinished ff.status &&
        (match fp.ctl with | .wait c => !c.isNext | _ => false) && decide (fp.status ≠ stAlive) && decide (ff.status ≠ stAlive)
     | _, _, _ => false) = true := by
  decide

/-- the counter is restored on EVERY exit path of janet_continue_no_check: normal return, signal, or a longjmp out of
    arbitrarily nested janet_calls that skipped their own `janet_vm.stackn = oldn` (`innerRun` may leave the counter
    anywhere and report a longjmp in flight) — for suspended child chains of any length -/
theorem recursion_counter_restored (innerRun : Nat → Nat × Bool) (chain n : Nat) : contN innerRun chain n = n :=
  contN_restores innerRun chain n

/-- … every run_vm activation that returns (is not left by a longjmp) leaves the counter as it found it, whatever
    sequence of nested janet_calls / resumes / caught panics it performed; and a `resume` is never left by a longjmp -/
theorem run_vm_counter_restored (es : List Ev) (n : Nat) (h : (runEvs n es).2 = false) : (runEvs n es).1 = n :=
  runEvs_restores es n h

theorem resume_counter_restored (chain : Nat) (inner : List Ev) (n : Nat) : runEv n (.resume chain inner) = (n, false) :=
  resume_restores chain inner n

/-- non-vacuity: a callee that panics two janet_calls deep inside a resumed fiber — the counter was 7, is 10 at the panic,
    and is 7 again after the resume; an uncaught panic inside a janet_call is still in flight with the counter NOT restored -/
example : runEv 7 (.resume 1 [.call [.call [.panic]]]) = (7, false) ∧ runEv 7 (.call [.call [.panic]]) = (9, true) := by decide

/-- the guard only fails a fiber that could otherwise be resumed (statement order of the current tree): if
    janet_check_can_resume refuses because of the guard — the only case in which it overwrites the fiber's status with
    :error — then the fiber is not the root, not running and not finished -/
theorem guard_refuses_only_resumable (lim n : Nat) (fp : Fiber) (b : Bool) (msg : Val)
    (h : checkGuarded guardAfterRefusals lim n fp b = some (msg, true)) :
    fp.root = false ∧ isFinished fp.status = false ∧ fp.status ≠ stAlive ∧ n ≥ lim ∧ msg = guardMsg := by
  obtain ⟨hc, hn, hm⟩ := checkGuarded_trip_resumable (show checkGuarded true lim n fp b = some (msg, true) from h)
  obtain ⟨hr, hs⟩ := checkCanResume_eq_none_iff.mp hc
  exact ⟨hr, (not_refused hs).1, (not_refused hs).2, hn, hm⟩

/-- status_monotone for the GUARDED machine: along every execution of `runG` (the machine with the
    recursion guard at any limit `lim`, statement order of the current tree) from any `Inv` state each fiber stays
    registered, keeps its mask and its status only moves forward.  With the guard tested FIRST (`guardAfterRefusals = false`)
    this is false: `guard_clobbers_status_in_old_order`. -/
theorem status_monotone_guarded (lim : Nat) (s : State) (hinv : Inv s) (n : Nat) (g : FId) (fg : Fiber) (hg : s.fiber? g = some fg) :
    ∃ fg', (runG guardAfterRefusals lim n s).fiber? g = some fg' ∧ Fwd fg.status fg'.status ∧ fg'.mask = fg.mask :=
  ((runG_reach lim n s).res hinv).1.fwd hg

/-- … and the guarded machine IS the unguarded one as long as the counter stays below the limit, so every theorem about
    `step` / `run` above applies to such executions -/
theorem guarded_is_unguarded_below (after : Bool) (lim : Nat) (s : State) (h : depthOf s + chainFuel s < lim) :
    stepG after lim s = step s := stepG_below after lim s h

/-- the cleanup / catch theorems for the GUARDED machine, at any limit: a recursion-guard trip (on the instruction's own
    target; a trip deeper in a suspended child chain ends in `Stuck`) is one more refused resume — it fails the refused
    fiber, which for the macro's body fiber IS an exit (status :error, handed to the parent by masks :ti / :ie), and never
    makes the code after the macro's resume run early or twice.  Same shape and hypotheses as `macro_runs_exactly_once`,
    along `runG guardAfterRefusals lim`. -/
theorem macro_runs_exactly_once_guarded (m : Nat) (hm : AccFin m) (lim : Nat) (p f : FId) (cont : Cont) (s : State) (hinv : Inv s)
    (hne : p ≠ f) (hb : Blk m p f cont s s.stack) (hpriv : ∀ i, Priv p f (runG guardAfterRefusals lim i s)) (n : Nat) :
    Blk m p f cont (runG guardAfterRefusals lim n s) (runG guardAfterRefusals lim n s).stack ∨
    ∃ i, i ≤ n ∧ (∀ j, j < i → Blk m p f cont (runG guardAfterRefusals lim j s) (runG guardAfterRefusals lim j s).stack) ∧
      (Stuck (runG guardAfterRefusals lim i s) ∨
       (Exited p f cont (runG guardAfterRefusals lim i s) ∧
          ∀ k, ∃ ff, (runG guardAfterRefusals lim k (runG guardAfterRefusals lim i s)).fiber? f = some ff ∧ isFinished ff.status = true) ∨
       (Passed m p f cont (runG guardAfterRefusals lim i s) ∧
          ∀ k, ∃ ff, (runG guardAfterRefusals lim k (runG guardAfterRefusals lim i s)).fiber? f = some ff ∧ isFinished ff.status = true)) := by
  rcases exactly_once_seq hm (fun k => runG true lim k s) n hinv hne hb (fun k _ _ => ⟨.stepG lim, runG_succ true lim k s, hpriv k⟩)
    with h | ⟨i, _, hi, hbefore, _, hat⟩
  · exact Or.inl h
  · exact Or.inr ⟨i, hi, hbefore, hat.imp id (Or.imp (And.imp_right fun h k => h _ (runG_reach lim k _))
      (And.imp_right fun h k => (h _ (runG_reach lim k _)).1))⟩

/-- the witness behind finding 5 (/repo 3d82764, corpus/C05/guard-clobbers-status.janet): with the guard tested
    BEFORE the refusals, a `(resume d)` of a :dead fiber at the limit turns it :error — a finished fiber changes status;
    with the guard after the refusals the same script leaves it :dead and the caller gets the ordinary refusal -/
theorem guard_clobbers_status_in_old_order :
    let t : Tm := .new 1 (.ret nilA) [101] (.prim 2 (.resume (.var 0) nilA)
      (.new 3 (.prim 5 (.resume (.var 0) nilA) (.ret (.var 3))) [97] (.prim 4 (.resume (.var 2) nilA) (.ret (.var 3)))))
    ((runG false 2 100 (init t [97])).snapshot, (runG true 2 100 (init t [97])).snapshot)
      = ([stAlive, stDead, stError, stError], [stAlive, stDead, stDead, stError]) := by
  decide

/-- non-vacuity of the guard itself: a NEW fiber resumed at the limit is failed by the guard — it ends :error without
    having run (label 9 never logged) and the caller receives the guard's message -/
example :
    let t : Tm := .new 1 (.prim 9 (.pure (.lit (.int 1))) (.ret nilA)) [97] (.prim 2 (.resume (.var 0) nilA) (.ret (.var 1)))
    let s := runG true 1 100 (init t [97])
    (s.snapshot, (s.trace.filter (fun e => e.l == 9)).length, s.halt.isSome) = ([stAlive, stError, stError], 0, true) := by
  decide

/-- statuses only move forward — whole executions in which BOTH happen: instructions of the guarded machine (guard trips
    included, at any limit) and task dispatches of the event loop (continue / cancel, `loopEnterG`), in any order -/
theorem status_monotone_guarded_sched (lim : Nat) (s : State) (hinv : Inv s) (ts : List Trans) (hs : SigsOK ts) (g : FId) (fg : Fiber)
    (hg : s.fiber? g = some fg) :
    ∃ fg', (runTG guardAfterRefusals lim s ts).fiber? g = some fg' ∧ Fwd fg.status fg'.status ∧ fg'.mask = fg.mask :=
  ((runTG_reach lim ts s hs).res hinv).1.fwd hg

theorem finished_is_forever_guarded_sched (lim : Nat) (s : State) (hinv : Inv s) (ts : List Trans) (hs : SigsOK ts) (g : FId) (fg : Fiber)
    (hg : s.fiber? g = some fg) (hfin : isFinished fg.status = true) :
    ∃ fg', (runTG guardAfterRefusals lim s ts).fiber? g = some fg' ∧ fg'.status = fg.status :=
  ((runTG_reach lim ts s hs).res hinv).1.finished hg hfin

/-- the cleanup / catch theorem for the combination: along any execution made of guarded
    instructions (a recursion-guard trip is one more refused resume; a trip inside a suspended child chain — of an
    instruction's target or of a dispatched task — ends in `Stuck`) and event-loop dispatches (the loop continues or
    cancels the macro's own fiber, an ancestor, an unrelated task: anything but the private body fiber), at any guard
    limit: `p` stays blocked in the macro's `(resume f)` with the body not exited, or there is a FIRST transition after
    which the machine is stuck, or the body is finished for ever and the code after the resume is what `p` runs, or the
    body's exit passed `p` by and both are finished for ever.  Same hypotheses as `macro_runs_exactly_once_sched`. -/
theorem macro_runs_exactly_once_guarded_sched (m : Nat) (hm : AccFin m) (lim : Nat) (p f : FId) (cont : Cont) (s : State) (hinv : Inv s)
    (hne : p ≠ f) (hb : Blk m p f cont s s.stack) (ts : List Trans)
    (hpriv : ∀ k (hk : k < ts.length), PrivT p f (runTG guardAfterRefusals lim s (ts.take k)) ts[k]) :
    Blk m p f cont (runTG guardAfterRefusals lim s ts) (runTG guardAfterRefusals lim s ts).stack ∨
    ∃ k, 0 < k ∧ k ≤ ts.length ∧
      (∀ j, j < k → Blk m p f cont (runTG guardAfterRefusals lim s (ts.take j)) (runTG guardAfterRefusals lim s (ts.take j)).stack) ∧
      (Stuck (runTG guardAfterRefusals lim s (ts.take k)) ∨
       (Exited p f cont (runTG guardAfterRefusals lim s (ts.take k)) ∧
          ∀ us, SigsOK us → ∃ ff, (runTG guardAfterRefusals lim (runTG guardAfterRefusals lim s (ts.take k)) us).fiber? f = some ff ∧
            isFinished ff.status = true) ∨
       (Passed m p f cont (runTG guardAfterRefusals lim s (ts.take k)) ∧
          ∀ us, SigsOK us →
            (∃ ff, (runTG guardAfterRefusals lim (runTG guardAfterRefusals lim s (ts.take k)) us).fiber? f = some ff ∧ isFinished ff.status = true) ∧
            (∃ fp, (runTG guardAfterRefusals lim (runTG guardAfterRefusals lim s (ts.take k)) us).fiber? p = some fp ∧ isFinished fp.status = true))) := by
  have h := exactly_once_seq hm (fun k => runTG true lim s (ts.take k)) ts.length hinv hne hb fun k hk _ =>
    ⟨_, runTG_take_succ lim s ts k hk, privM_ofTransG lim (hpriv k hk)⟩
  simp only [List.take_length] at h
  exact h.imp id fun ⟨k, hk0, hk, hbefore, _, hat⟩ => ⟨k, hk0, hk, hbefore, hat.imp id
    (Or.imp (And.imp_right fun h us hus => h _ (runTG_reach lim us _ hus)) (And.imp_right fun h us hus => h _ (runTG_reach lim us _ hus)))⟩

/-- `defer` (mask :ti, `Passed` impossible): cleanup exactly once on every exit path including cancellation from the event
    loop AND refusals by the recursion guard, in one execution -/
theorem defer_runs_exactly_once_guarded_sched (lim : Nat) (p f : FId) (cont : Cont) (s : State) (hinv : Inv s) (hne : p ≠ f)
    (hb : Blk (maskOfFlags flagsTI) p f cont s s.stack) (ts : List Trans)
    (hpriv : ∀ k (hk : k < ts.length), PrivT p f (runTG guardAfterRefusals lim s (ts.take k)) ts[k]) :
    Blk (maskOfFlags flagsTI) p f cont (runTG guardAfterRefusals lim s ts) (runTG guardAfterRefusals lim s ts).stack ∨
    ∃ k, 0 < k ∧ k ≤ ts.length ∧
      (∀ j, j < k → Blk (maskOfFlags flagsTI) p f cont (runTG guardAfterRefusals lim s (ts.take j)) (runTG guardAfterRefusals lim s (ts.take j)).stack) ∧
      (Stuck (runTG guardAfterRefusals lim s (ts.take k)) ∨
       (Exited p f cont (runTG guardAfterRefusals lim s (ts.take k)) ∧
          ∀ us, SigsOK us → ∃ ff, (runTG guardAfterRefusals lim (runTG guardAfterRefusals lim s (ts.take k)) us).fiber? f = some ff ∧
            isFinished ff.status = true)) :=
  (macro_runs_exactly_once_guarded_sched _ accFin_TI lim p f cont s hinv hne hb ts hpriv).imp id fun ⟨k, hk0, hk, hbefore, hat⟩ =>
    ⟨k, hk0, hk, hbefore, not_passed_TI.drop hat⟩

/-- the combined machine really does both in ONE execution (guard limit 2 above the loop): the task's `defer` body yields, the
    task is left suspended; the loop re-schedules it (`ev/go`: dispatch with JANET_SIGNAL_OK, re-entry through the child
    chain), the body — now running at the limit — resumes a new worker: the guard refuses it (worker :error without having
    run: label 9 never logged, the resume's own label 8 neither), the body exits with the guard's error and the cleanup
    (label 6) runs exactly once; a later `ev/cancel` of the finished task is refused and runs nothing -/
example :
    let worker : Tm := .prim 9 (.pure (.lit (.int 1))) (.ret nilA)
    let body : Tm := .prim 3 (.pure (.lit (.int 10))) (.prim 4 (.yield (.lit (.int 11)))
      (.new 5 worker [97] (.prim 8 (.resume (.var 2) nilA) (.ret (.lit (.int 13))))))
    let form : Tm := .prim 6 (.pure (.lit (.int 20))) (.ret (.lit (.int 21)))
    let t : Tm := deferTm 0 7 form body (.ret (.var 0))
    let steps : List Trans := List.replicate 40 .step
    let s1 := runTG true 2 (initTask t [] {} .nil) steps
    let s2 := runTG true 2 s1 (.enter 1 (.str "go") sigOk :: steps)
    let s3 := runTG true 2 s2 (.enter 1 (.str "again") sigError :: steps)
    ((s1.trace.filter (fun e => e.l == 6)).length, s1.snapshot,
     (s2.trace.filter (fun e => e.l == 6)).length, (s2.trace.filter (fun e => e.l == 9 || e.l == 8)).length, s2.snapshot,
     (s3.trace.filter (fun e => e.l == 6)).length, s3.snapshot)
      = (0, [stUser9, stPending, stPending], 1, 0, [stUser9, stError, stError, stError], 1, [stUser9, stError, stError, stError]) := by
  decide +kernel

/-- dyn visibility, exactly the env / prototype rules of `fiber/new`:
    (1) a fiber without environment sees nothing;
    (2) a binding is visible in the fiber that set it;
    (3) a child created with :i has the same table, hence sees exactly what the parent sees (and vice versa);
    (4) a child created with :p starts with an empty table whose prototype is the parent's: it sees the parent's bindings;
    (5) … and what it sets itself shadows, without changing the parent's table. -/
theorem dyn_visibility (denvs : List DEnv) (fuel : Nat) (k : Nat) :
    dynLookup denvs (fuel + 1) none k = .nil ∧
    (∀ e d v, denvs[e]? = some d → v ≠ .nil →
        dynLookup (denvs.set e { d with tbl := tblPut d.tbl k v }) (fuel + 1) (some e) k = v) ∧
    (∀ e, dynLookup denvs (fuel + 1) (some e) k = dynLookup denvs (fuel + 1) (some e) k) ∧
    (∀ e, e < denvs.length →
        dynLookup (denvs ++ [{ proto := some e, tbl := [] }]) (fuel + 2) (some denvs.length) k
          = dynLookup (denvs ++ [{ proto := some e, tbl := [] }]) (fuel + 1) (some e) k) ∧
    (∀ e e' d, e ≠ e' → (denvs.set e' d)[e]? = denvs[e]?) := by
  refine ⟨rfl, ?_, fun _ => rfl, ?_, ?_⟩
  · intro e d v he hv
    have hlt : e < denvs.length := (List.getElem?_eq_some_iff.mp he).1
    simp [dynLookup, hlt, tblPut, hv]
  · intro e _
    simp [dynLookup]
  · intro e e' d hne
    exact List.getElem?_set_ne (Ne.symm hne)

/-- what a fiber observes is the binding in the nearest table of its chain (own table, then `:p` prototypes) -/
theorem dyn_observes_nearest_binding (denvs : List DEnv) (k fuel : Nat) (eo : Option Nat) :
    dynLookup denvs fuel eo k = firstBound denvs k (chainOf denvs fuel eo) :=
  dynLookup_eq_firstBound denvs k fuel eo

/-- "visible ONLY in the fiber that set them and in children that inherit its environment": a `(setdyn k v)` into table
    `e` changes nothing for any other key, and nothing at all for an observer whose chain does not contain `e` -/
theorem dyn_set_invisible_elsewhere (denvs : List DEnv) (e k : Nat) (v : Val) (fuel : Nat) (eo : Option Nat) (k' : Nat)
    (h : e ∉ chainOf denvs fuel eo ∨ k' ≠ k) :
    dynLookup (writeTbl denvs e k v) fuel eo k' = dynLookup denvs fuel eo k' :=
  setdyn_invisible_elsewhere denvs e k v fuel eo k' h

/-- "… and IN children that inherit": an observer that reaches `e` through any number of links, with no nearer table
    binding `k`, reads the new value (for `:i` the chain starts AT `e`: writes are shared both ways, `pre = []`); a nil write
    removes the binding from `e` only and uncovers what `e`'s own prototypes say -/
theorem dyn_set_visible_through_links (denvs : List DEnv) (e k : Nat) (v : Val) (fuel : Nat) (eo : Option Nat) (pre post : List Nat)
    (d : DEnv) (hd : denvs[e]? = some d) (hc : chainOf denvs fuel eo = pre ++ e :: post)
    (hpre : ∀ a ∈ pre, a ≠ e ∧ bound denvs a k = none) (hpost : e ∉ post) :
    dynLookup (writeTbl denvs e k v) fuel eo k = if v = .nil then firstBound denvs k post else v :=
  setdyn_visible_through_chain denvs e k v fuel eo pre post d hd hc hpre hpost

/-- the instructions are these operations on the running fiber's OWN table / chain -/
theorem setdyn_instruction_writes_own_table (s : State) (p : FId) (fp : Fiber) (rest : List FId) (l k : Nat) (a : Atom) (kk : Tm) :
    (execPrim s p fp rest l (.setdyn k a) kk).denvs
      = writeTbl (ensureEnv s p fp).1.denvs (ensureEnv s p fp).2.2 k (evalAtom s fp.env a) ∨
    (∃ h, (execPrim s p fp rest l (.setdyn k a) kk).halt = some (.bad h)) :=
  setdyn_writes_own_table s p fp rest l k a kk

theorem dyn_instruction_reads_own_chain (s : State) (p : FId) (fp : Fiber) (rest : List FId) (l k : Nat) (kk : Tm) :
    execPrim s p fp rest l (.dyn k) kk
      = deliverValue s p fp (.bindK l kk false) (firstBound s.denvs k (chainOf s.denvs (s.denvs.length + 1) fp.denv)) :=
  dyn_reads_own_chain s p fp rest l k kk

/-- how `fiber/new` links the child: `:i` = the parent's table itself; `:p` = fresh empty table with the parent's as
    prototype (an OLDER table: links cannot form cycles); any other letter = no effect on the environment -/
theorem fiber_new_env_links (p : FId) (acc : State × Fiber × Option Nat) :
    ((newEnvStep p acc letterInherit).2.2 = (newEnvStep p acc letterInherit).2.1.denv ∧ (newEnvStep p acc letterInherit).2.2.isSome = true) ∧
    ((∀ e, acc.2.1.denv = some e → e < acc.1.denvs.length) →
      ∃ e pe, (newEnvStep p acc letterProto).2.2 = some e ∧ (newEnvStep p acc letterProto).2.1.denv = some pe ∧
        (newEnvStep p acc letterProto).1.denvs[e]? = some { proto := some pe, tbl := [] } ∧ pe < e) ∧
    (∀ c, c ≠ letterInherit → c ≠ letterProto → newEnvStep p acc c = acc) :=
  ⟨new_inherit_shares p acc, new_proto_links p acc, fun c h1 h2 => new_plain_isolated p acc c h1 h2⟩

/-- for ALL histories: along every execution of any script no table is ever removed and no prototype link ever changes,
    so the three theorems above apply to every later write.  That a fiber's own `denv` index never changes once set is
    `denv_never_reassigned` below; the two together: `dyn_table_and_proto_permanent`. -/
theorem dyn_links_permanent (n : Nat) (s : State) : DGrow s.denvs (run n s).denvs := run_dgrow n s

/-- a fiber's environment index is never reassigned: along EVERY execution from a state satisfying the machine
    invariant, a fiber that has an environment table keeps exactly that table — `fiber->env` is written in one place only
    (`ensureEnv` = `if (!janet_vm.fiber->env) janet_vm.fiber->env = janet_table(0)`, and by fiber/new for the NEW fiber),
    and only when it is NULL. -/
theorem denv_never_reassigned (s : State) (hinv : Inv s) (n : Nat) (g : FId) (fg : Fiber) (e : Nat)
    (hg : s.fiber? g = some fg) (he : fg.denv = some e) :
    ∃ fg', (run n s).fiber? g = some fg' ∧ fg'.denv = some e :=
  ((run_reach n s).res hinv).1.denv hg he

theorem denv_never_reassigned_from_init (t : Tm) (flags : List Nat) (m n : Nat) (g : FId) (fg : Fiber) (e : Nat)
    (hg : (run m (init t flags)).fiber? g = some fg) (he : fg.denv = some e) :
    ∃ fg', (run n (run m (init t flags))).fiber? g = some fg' ∧ fg'.denv = some e :=
  denv_never_reassigned _ ((run_reach m _).res (init_inv t flags)).2 n g fg e hg he

/-- … also when the recursion guard trips and the event loop dispatches tasks, in any order (`runTG`) -/
theorem denv_never_reassigned_guarded_sched (lim : Nat) (s : State) (hinv : Inv s) (ts : List Trans) (hs : SigsOK ts)
    (g : FId) (fg : Fiber) (e : Nat) (hg : s.fiber? g = some fg) (he : fg.denv = some e) :
    ∃ fg', (runTG guardAfterRefusals lim s ts).fiber? g = some fg' ∧ fg'.denv = some e :=
  ((runTG_reach lim ts s hs).res hinv).1.denv hg he

/-- together with `dyn_links_permanent`: the table a fiber reads its dynamic bindings from, and that table's prototype
    link, are the same after any execution — "inherits the environment of" is a permanent relation between FIBERS -/
theorem dyn_table_and_proto_permanent (s : State) (hinv : Inv s) (n : Nat) (g : FId) (fg : Fiber) (e : Nat) (d : DEnv)
    (hg : s.fiber? g = some fg) (he : fg.denv = some e) (hd : s.denvs[e]? = some d) :
    ∃ fg' d', (run n s).fiber? g = some fg' ∧ fg'.denv = some e ∧ (run n s).denvs[e]? = some d' ∧ d'.proto = d.proto := by
  obtain ⟨fg', h1, h2⟩ := denv_never_reassigned s hinv n g fg e hg he
  obtain ⟨d', h3, h4⟩ := (run_dgrow n s).2 e d hd
  exact ⟨fg', d', h1, h2, h3, h4⟩

/-- non-vacuity: a worker created with `:yp` sets a binding (its table is created by fiber/new: index 2, prototype 1 = the
    creator's), yields, is resumed and sets another one: same table index before and after, both bindings in it; the
    creator (the tree's root fiber, table 1 from its first `setdyn`) and the harness fiber (table 0) keep theirs too -/
example :
    let w : Tm := .prim 2 (.setdyn 7 (.lit (.int 1))) (.prim 3 (.yield nilA) (.prim 4 (.setdyn 8 (.lit (.int 2))) (.ret nilA)))
    let t : Tm := .prim 9 (.setdyn 5 (.lit (.int 0))) (.new 1 w [121, 112] (.prim 5 (.resume (.var 1) nilA) (.prim 6 (.resume (.var 1) nilA) (.ret nilA))))
    let s1 := run 12 (init t [97])
    let s2 := run 100 (init t [97])
    (s1.fibers.map (·.denv), s2.fibers.map (·.denv), s2.denvs.map (·.proto), s2.denvs.map (fun d => d.tbl.map (·.1))) =
      ([some 0, some 1, some 2], [some 0, some 1, some 2], [none, none, some 1], [[], [5], [8, 7]]) := by
  decide +kernel

/-- non-vacuity: a chain of three tables 2 → 1 → 0 (grand-child :p of child :p of parent); a write to table 0 is seen from 2,
    a write to table 2 is not seen from 0 or 1, and a nil write to 1 uncovers table 0's binding -/
example :
    let ds : List DEnv := [{ proto := none, tbl := [(7, .int 1)] }, { proto := some 0, tbl := [(7, .int 2)] }, { proto := some 1, tbl := [] }]
    (chainOf ds 4 (some 2), dynLookup (writeTbl ds 0 8 (.int 5)) 4 (some 2) 8, dynLookup (writeTbl ds 2 7 (.int 9)) 4 (some 1) 7,
     dynLookup (writeTbl ds 1 7 .nil) 4 (some 2) 7) = ([2, 1, 0], .int 5, .int 2, .int 1) := by
  decide

end JanetModel.Props.C05
