/- Property C10: loading untrusted bytes or bytecode cannot corrupt memory.  Theorems only. -/
import JanetModel.Bytecode.VerifySound
import JanetModel.Gen.VmAccess
import JanetModel.Unmarsh.ImageWf
import JanetModel.PegVerify.Sound
import JanetModel.Unmarsh.BytesSound
import JanetModel.Unmarsh.BytesMono
import JanetModel.Unmarsh.BytesWf
import JanetModel.Unmarsh.NanBoxSound
import JanetModel.Unmarsh.EnvValidSound
namespace JanetModel.Props.C10
open JanetModel.Bytecode JanetModel.Gen.VmAccess

/-- REGENERATED OBLIGATION.  The opcode-type table of bytecode.c, the operand uses of every `VM_OP` block of vm.c, the
    computed-goto table and the masks of the current source are mutually consistent.  A changed `JINT_*` row, a handler
    that reads a wider / different field, a missing `vm_assert` bound check or a changed mask makes this fail
    (`Tables.badRows tables` names the opcode). -/
theorem tables_consistent : tables.consistent = true := by decide +kernel

theorem no_bad_rows : tables.badRows = [] := by
  have h := tables_consistent
  simp only [Tables.consistent, Bool.and_eq_true, List.all_eq_true] at h
  simp only [Tables.badRows, List.filter_eq_nil_iff, Bool.not_eq_true']
  intro op hop
  rw [h.1.2 op hop]; decide

/-- **verify_sound** for the tables of the current source -/
theorem verify_sound (d : FuncDef) (hw : ∀ w ∈ d.bytecode, w < 4294967296) (hv : verify tables d = 0)
    (pc : Nat) (hpc : pc < d.bytecode.length) :
    ∀ idx, (idx = d.bytecode[pc] % tables.dispatchMod ∨ idx = d.bytecode[pc] % tables.breakMod) →
      ∃ h, tables.lookup[idx]? = some h ∧ HandlerSafe tables d pc d.bytecode[pc] h :=
  verify_sound_generic tables tables_consistent d hw hv pc hpc

/-- the entry point of an accepted funcdef exists (`pc = func->def->bytecode` on call) -/
theorem verify_entry (d : FuncDef) (hv : verify tables d = 0) : 0 < d.bytecode.length :=
  (verify_facts tables d hv).1

/-- non-vacuity: a two-instruction function `ldi 0 7; ret 0` with one slot is accepted, and a wide slot operand is not -/
example : verify tables { slotcount := 1, arity := 0, vararg := false, nconsts := 0, ndefs := 0, nenvs := 0,
                          bytecode := [43 + 0 * 256 + 7 * 65536, 3 + 0 * 256] } = 0 := by decide
example : verify tables { slotcount := 1, arity := 0, vararg := false, nconsts := 0, ndefs := 0, nenvs := 0,
                          bytecode := [43 + 255 * 256 + 7 * 65536, 3 + 0 * 256] } = 4 := by decide

/-! ### image well-formedness

The full-strength statements (`fiber_image_wf`, `function_image_wf`, `env_untrusted_checked` over the checks of the CURRENT
source) live in `JanetModel.Unmarsh.Obligations`, which checks/C10.py builds on every run; they hold exactly when
`Gen.ImageChecks.checks.allOn = true`.  Here: the generic theorems
(any `Checks` with everything present), the `_partial` statement for the baseline, and the three witnesses. -/
open JanetModel.Unmarsh

theorem fiber_image_wf_of_all_checks (C : Checks) (hC : C.allOn = true) (h : FiberHdr) (frames : List FrameRec)
    (hacc : acceptFiber C h frames = true) : FiberWf h frames := fiber_image_wf_generic C hC h frames hacc

/-- missing from the baseline: `FiberWf.chain` (entrance / call-pc conjuncts), `FiberWf.resumableHasFrame`,
    `FiberWf.resumePoint` -/
theorem fiber_image_wf_partial (h : FiberHdr) (frames : List FrameRec)
    (hacc : acceptFiber Checks.baseline h frames = true) : FiberWfPartial h frames :=
  JanetModel.Unmarsh.fiber_image_wf_partial Checks.baseline rfl rfl h frames hacc

theorem function_image_wf_of_all_checks (C : Checks) (hC : C.allOn = true) (len defEnvLen : Nat) (envs : List Int)
    (hacc : acceptFunction C len defEnvLen envs = true) : len = defEnvLen ∧ ∀ e ∈ envs, -1 ≤ e :=
  function_image_wf_generic C hC len defEnvLen envs hacc

/-- missing from the baseline: both conjuncts (nothing is checked) -/
theorem function_image_wf_partial (len defEnvLen : Nat) (envs : List Int) :
    acceptFunction Checks.baseline len defEnvLen envs = true := by
  simp [acceptFunction, Checks.baseline]

theorem env_untrusted_checked_of_all_checks (C : Checks) (hC : C.allOn = true) (offset : Nat) (hpos : 0 < offset) :
    envOffsetStored C offset < 0 ∧ validatedFirst C (envOffsetStored C offset) = true ∧
    derefsUnvalidated C (envOffsetStored C offset) = false := env_untrusted_checked_generic C hC offset hpos

/-- the baseline accepts images that break the invariant: replayed on the implementation by checks/C10.py -/
theorem witness_fiber_frame0 : acceptFiber Checks.baseline witnessFrame0 [] = true ∧ ¬ FiberWf witnessFrame0 [] :=
  fiber_frame0_witness
theorem witness_function_env_count : acceptFunction Checks.baseline 0 1 [-1] = true ∧ ¬ (0 = 1) :=
  function_env_count_witness
theorem witness_def_env_index :
    acceptFunction Checks.baseline 0 0 [-256] = true ∧ ¬ (∀ e ∈ [(-256 : Int)], -1 ≤ e) := def_env_index_witness

/-- non-vacuity: a one-frame pending fiber suspended at a `signal` instruction is accepted with every check present -/
example : acceptFiber { stackSetup := true, frameSize := true, pcRange := true, prevAlign := true, statusRange := true,
                        frame0 := true, entrance := true, callPc := true, resumeOperand := true, fnEnvCount := true,
                        defEnvIndex := true, envNegOffset := true, envValidBeforeDeref := true }
    { status := 3, noUseval := false, noSkip := false, frame := 4, stackstart := 10, stacktop := 10, maxstack := 100 }
    [{ entrance := true, prevframe := 0, pcdiff := 1, slotcount := 2, bclen := 4, atCall := false, aIsSlot := true }] = true := by
  decide

/-! ### PEG bytecode verifier

`peg_verify_sound` over the tables of the CURRENT peg.c is `JanetModel.PegVerify.Obligations.peg_verify_sound` (built by the
check on every run; without the length test of peg.c an image with zero-length bytecode is accepted and `peg/match`
reads `bytecode[0]`). -/
open JanetModel.PegVerify in
theorem peg_verify_sound_of_consistent (T : PegTables) (hT : T.consistent = true) (bc : List Nat) (nc : Nat)
    (hv : pegVerify T bc nc = true) :
    ∃ starts : List Nat, ∀ i, Reach T bc i → i ∈ starts ∧ i < bc.length ∧ InstrSafe T bc nc starts i :=
  reach_safe T hT bc nc hv

/-! ### byte-level totality of unmarshal

`unmarshal_total_inbounds` / `unmarshal_terminates` over the read sites of the CURRENT marsh.c are
`JanetModel.Unmarsh.BytesObligations.{sites_ok, unmarshal_total_inbounds, unmarshal_terminates}` (built by the check on every
run).  Here: the generic theorems, for ANY configuration whose extracted `MARSH_EOS` offsets dominate the reads, any
`janet_verify` / PEG verifier, any abstract type table. -/
open JanetModel.Unmarsh.Bytes in
theorem unmarshal_total_inbounds_of_sites_ok (C : Cfg) (hS : C.sites.ok = true) (hR : C.refsChecked = true) (b : Array Nat)
    (fuel : Nat) :
    match unmarshal C b fuel with
    | .oob _ => False
    | .ok _ c => 0 < c.pos ∧ c.pos ≤ b.size
    | _ => True := unmarshal_total_inbounds_generic C hS hR b fuel

open JanetModel.Unmarsh.Bytes in
/-- `hI`: every call path from one `MARSH_STACKCHECK` to the next adds ≥ 1 to the depth counter (the `flags + k` arguments of
    the 28 recursive call sites are REGENERATED from marsh.c into `C.inc`; obligation `BytesObligations.depths_ok`) -/
theorem unmarshal_terminates_of_sites_ok (C : Cfg) (hS : C.sites.ok = true) (hR : C.refsChecked = true) (hI : C.inc.ok = true)
    (b : Array Nat) (fuel : Nat)
    (hf : fuelBound C ≤ fuel) : ∀ a, unmarshal C b fuel ≠ .fuel ∧ unmarshal C b fuel ≠ .oob a :=
  unmarshal_terminates_generic C hS hR hI b fuel hf

open JanetModel.Unmarsh.Bytes in
/-- the recursion depth is bounded, stated without the fuel: any amount of fuel ≥ `fuelBound C` (= 2·(guard+2)+2 nested
    activations of `unmarshal_one` / `unmarshal_one_def` / `unmarshal_one_env`) gives the same answer as `fuelBound C` — on no
    byte string does the unmarshaller nest deeper -/
theorem unmarshal_depth_bounded_of_sites_ok (C : Cfg) (hS : C.sites.ok = true) (hR : C.refsChecked = true) (hI : C.inc.ok = true)
    (b : Array Nat) (fuel : Nat) (hf : fuelBound C ≤ fuel) : unmarshal C b fuel = unmarshal C b (fuelBound C) :=
  unmarshal_depth_bounded_generic C hS hR hI b fuel hf

namespace BytesExamples
open JanetModel.Unmarsh.Bytes

def goodSites : Sites :=
  { intLead := ⟨some 0, 0⟩, int2 := ⟨some 1, 1⟩, int5 := ⟨some 4, 4⟩, r64Lead := ⟨some 0, 0⟩, r64Multi := ⟨some 0, 0⟩,
    envLead := ⟨some 0, 0⟩, u32 := ⟨some 3, 3⟩, defLead := ⟨some 0, 0⟩, oneLead := ⟨some 0, 0⟩, oneInt := ⟨some 4, 4⟩,
    oneReal := ⟨some 8, 8⟩, oneBytes := ⟨some (-1), -1⟩, oneDos := ⟨some (-1), -1⟩, unsafePtr := ⟨some 8, -1⟩,
    ptrBuf := ⟨some 8, -1⟩, unsafeCfun := ⟨some 8, -1⟩, thrAbs := ⟨some 8, -1⟩, ubyte := ⟨some 0, 0⟩,
    ubytes := ⟨some (-1), -1⟩, ensure := ⟨some 0, -1⟩ }

/-- increments satisfying `Incs.ok`, shaped as in marsh.c: `unmarshal_one_env` passes `flags` on, its two callers pass `flags + 1` -/
def goodIncs : Incs :=
  { envFiber := 0, envValue := 0, defName := 1, defSource := 1, defConst := 1, defSym := 1, defSub := 1, fbFrameFn := 1,
    fbFrameEnv := 1, fbSlot := 1, fbEnv := 1, fbChild := 1, fbLast := 1, hookJanet := 1, absKey := 1, oneFiber := 1,
    oneDef := 1, oneEnv := 1, oneAbstract := 0, arrElem := 1, tupElem := 1, structProto := 1, structKey := 1, structVal := 1,
    tabProto := 1, tabKey := 1, tabVal := 1, absCtx := 1 }

def mk (S : Sites) : Cfg :=
  { sites := S, inc := goodIncs, verify := fun _ => true, pegVerify := fun _ _ => true, pegSizeChecked := true, abstracts := [], jopCall := 53, threads := false,
    refChecked := true, envRefChecked := true, defRefChecked := true }

/-- non-vacuity: the hypothesis is satisfiable, and the model accepts / rejects / consumes as the C does on small images -/
example : (mk goodSites).sites.ok = true ∧ (mk goodSites).refsChecked = true ∧ (mk goodSites).inc.ok = true := by decide
/-- a source without the `len >= janet_v_count(st->lookup)` test: the model reads past the reference table on `da 00` -/
example : (match unmarshal { mk goodSites with refChecked := false } #[218, 0] 20 with | .oob 100 => true | _ => false) = true := by decide
example : (match unmarshal (mk goodSites) #[209, 3, 1, 129, 0, 201] 20 with | .ok .arr c => c.pos == 6 | _ => false) = true := by decide
example : (match unmarshal (mk goodSites) #[209, 3, 1, 129] 20 with | .err .eos => true | _ => false) = true := by decide
example : (match unmarshal (mk goodSites) #[206, 2, 104, 105, 7] 20 with | .ok .str c => c.pos == 4 | _ => false) = true := by decide

/-- non-vacuity of `unmarshal_depth_bounded_of_sites_ok`: the hypotheses hold of a concrete configuration -/
example : unmarshal (mk goodSites) #[209, 3, 1, 129, 0, 201] 100000 =
    unmarshal (mk goodSites) #[209, 3, 1, 129, 0, 201] (fuelBound (mk goodSites)) :=
  unmarshal_depth_bounded_of_sites_ok _ (by decide) (by decide) (by decide) _ _ (by decide)

/-- `readint` without `MARSH_EOS(st, data + 1)` in its two-byte branch -/
def noInt2 : Sites := { goodSites with int2 := ⟨none, 1⟩ }

/-- a source in which both callers of `unmarshal_one_env` pass `flags` instead of `flags + 1`: the cycle
    function → environment → value → function is not counted -/
def uncountedIncs : Incs := { goodIncs with oneEnv := 0, fbFrameEnv := 0 }
def mkInc (I : Incs) : Cfg :=
  { sites := goodSites, inc := I, verify := fun r => decide (0 < r.bytecode.length), pegVerify := fun _ _ => true, pegSizeChecked := true,
    abstracts := [], guardDepth := 3, jopCall := 53, threads := false, refChecked := true, envRefChecked := true, defRefChecked := true }
def envUncounted : Cfg := mkInc uncountedIncs

/-- `n` nested functions, each with one off-stack environment of one value = the next function (the first carries the
    funcdef `flags=HASENVS slots=1 arity=0 min=0 max=0 consts=0 bclen=1 nenvs=1 | word | env -1`, the others refer to it) -/
def nestedFns : Nat → List Nat
  | 0 => [201]
  | n + 1 => [215, 1, 220, 0, 0, 1] ++ nestedFns n
def nestedImage (n : Nat) : Array Nat :=
  ([215, 1, 205, 0, 64, 0, 0, 1, 0, 0, 0, 0, 1, 1, 4, 0, 0, 0, 191, 255, 0, 1] ++ nestedFns n).toArray
end BytesExamples

/-- a source that lacks one test: the obligation `Sites.ok` is false and the model itself exhibits the over-read input
    (`0x81` = first byte of a two-byte integer, input ends there); checks/C10.py finds such inputs by running the model
    with the extracted sites on every truncation of the base images and replays them under ASan -/
theorem witness_missing_check_over_reads :
    (BytesExamples.mk BytesExamples.noInt2).sites.ok = false ∧
    (match JanetModel.Unmarsh.Bytes.unmarshal (BytesExamples.mk BytesExamples.noInt2) #[129] 20 with
      | .oob 1 => true | _ => false) = true := by decide

/-- a source whose two `unmarshal_one_env` call sites pass `flags` on: `Incs.ok` is false (`Incs.bad` names the paths), and
    the model — here with a recursion guard of 3 and `fuelBound` = 12 levels — runs out of fuel on an image nested 12
    functions deep, where the model with the increments of the current source stops with "stack overflow" at depth 4.
    checks/C10.py feeds the same image shape (nested 10^5 deep) to the real unmarshaller. -/
theorem witness_uncounted_env_recursion :
    BytesExamples.envUncounted.inc.ok = false ∧
    (match JanetModel.Unmarsh.Bytes.unmarshal BytesExamples.envUncounted (BytesExamples.nestedImage 12)
        (JanetModel.Unmarsh.Bytes.fuelBound BytesExamples.envUncounted) with | .fuel => true | _ => false) = true ∧
    (match JanetModel.Unmarsh.Bytes.unmarshal (BytesExamples.mkInc BytesExamples.goodIncs) (BytesExamples.nestedImage 12)
        (JanetModel.Unmarsh.Bytes.fuelBound BytesExamples.envUncounted) with | .err .stack => true | _ => false) = true ∧
    (match JanetModel.Unmarsh.Bytes.unmarshal (BytesExamples.mkInc BytesExamples.goodIncs) (BytesExamples.nestedImage 2)
        (JanetModel.Unmarsh.Bytes.fuelBound BytesExamples.envUncounted) with | .ok (.func _) c => c.pos == 35 | _ => false) = true := by decide +kernel

/-! ### accepted bytes ⇒ well-formed function objects (link byte-level model → `function_image_wf`)

`hF`, `hE`: the tests `def->environments_length != len` (LB_FUNCTION) and `environments[i] < -1` (`unmarshal_one_def`) are
present — REGENERATED through `Gen/ImageChecks` into `BytesCfg.cfg` (obligation `BytesObligations.fn_checks_on`). -/
open JanetModel.Unmarsh.Bytes in
/-- for EVERY byte array and fuel: after an accepted `unmarshal`, every function object whose `def` is set points to a
    completed funcdef, was allocated with exactly `def->environments_length` environment slots (`fnEnvs`), and
    `def->environments` has that many entries, each ≥ -1: (`len`, `environments_length`, `environments`) pass
    `acceptFunction K` of Unmarsh/Image.lean for every `K`, so `function_image_wf_of_all_checks` applies to it -/
theorem unmarshal_functions_wf_of_checks (C : Cfg) (hF : C.fnEnvCountChecked = true) (hE : C.defEnvIndexChecked = true)
    (b : Array Nat) (fuel : Nat) :
    match unmarshal C b fuel with
    | .ok _ c => ∀ (id di : Nat), c.st.funcs[id]? = some (some di) →
        ∃ info len, c.st.defs[di]? = some info ∧ info.done = true ∧ c.st.fnEnvs[id]? = some len ∧
          info.envs.length = info.envLen ∧
          (∀ K : JanetModel.Unmarsh.Checks, JanetModel.Unmarsh.acceptFunction K len info.envLen info.envs = true) ∧
          len = info.envLen ∧ ∀ e ∈ info.envs, -1 ≤ e
    | _ => True := unmarshal_functions_wf_generic C hF hE b fuel

open JanetModel.Unmarsh.Bytes in
/-- the FUNCTION case itself, at any nesting level (`f` levels of fuel below, depth counter `d`), from any state that
    satisfies the invariant `Inv` (`fns_pres`: every state the model reaches does): when `case LB_FUNCTION` accepts, the
    value IS a function object with its `def` set, and that object is well formed -/
theorem function_case_wf_of_checks (C : Cfg) (hF : C.fnEnvCountChecked = true) (hE : C.defEnvIndexChecked = true)
    (b : Array Nat) (f d : Nat) (c : Cur) (hI : Inv c.st) :
    match functionBody C b (fns C b f) d c with
    | .ok v c' => ∃ id di info len, v = .func id ∧ c'.st.funcs[id]? = some (some di) ∧ c'.st.defs[di]? = some info ∧
        info.done = true ∧ c'.st.fnEnvs[id]? = some len ∧ info.envs.length = info.envLen ∧
        (∀ K : JanetModel.Unmarsh.Checks, JanetModel.Unmarsh.acceptFunction K len info.envLen info.envs = true) ∧
        len = info.envLen ∧ ∀ e ∈ info.envs, -1 ≤ e
    | _ => True := function_case_wf_generic C hF hE b f d c hI

/-- non-vacuity: the hypotheses hold of a concrete configuration, and it accepts an image of three nested functions
    (one environment slot each, `environments = [-1]`) -/
example : (BytesExamples.mkInc BytesExamples.goodIncs).fnEnvCountChecked = true ∧
    (BytesExamples.mkInc BytesExamples.goodIncs).defEnvIndexChecked = true ∧
    (match JanetModel.Unmarsh.Bytes.unmarshal (BytesExamples.mkInc BytesExamples.goodIncs) (BytesExamples.nestedImage 2) 12 with
      | .ok (.func 0) c => c.st.funcs == #[some 0, some 0, some 0] && c.st.fnEnvs == #[1, 1, 1] &&
          (c.st.defs.toList.map fun i => (i.done, i.envLen, i.envs)) == [(true, 1, [-1])]
      | _ => false) = true := by decide +kernel

/-- the count test is needed: a source without `def->environments_length != len` accepts `d7 01 <def without environments>
    <one environment>` — a function allocated with 1 environment slot whose def says 0;
    with the test the same bytes are rejected -/
theorem witness_env_count_unchecked_bytes :
    (match JanetModel.Unmarsh.Bytes.unmarshal { BytesExamples.mkInc BytesExamples.goodIncs with fnEnvCountChecked := false }
        #[215, 1, 0, 0, 0, 0, 0, 0, 1, 0, 0, 0, 0, 0, 1, 201] 12 with
      | .ok (.func 0) c => c.st.funcs == #[some 0] && c.st.fnEnvs == #[1] && (c.st.defs.toList.map fun i => i.envLen) == [0]
      | _ => false) = true ∧
    (match JanetModel.Unmarsh.Bytes.unmarshal (BytesExamples.mkInc BytesExamples.goodIncs)
        #[215, 1, 0, 0, 0, 0, 0, 0, 1, 0, 0, 0, 0, 0, 1, 201] 12 with
      | .err .fnEnvCount => true | _ => false) = true := by decide +kernel

/-! ### reals are re-boxed: a NaN payload cannot forge a pointer

`real_is_number` / `real_never_a_pointer` over the constants of the CURRENT janet.h / wrap.c / marsh.c are
`JanetModel.Unmarsh.NanBoxObligations.{nanbox_ok, real_is_number, real_never_a_pointer}` (built by the check on every run).
Here: for ANY configuration with the 47-bit tag layout in which `case LB_REAL` re-boxes through `isnan(d) ? NAN : d` with a
NAN whose type field is JANET_NUMBER, and for EVERY 64-bit payload. -/
open JanetModel.Unmarsh.NanBox in
theorem real_is_number_of_ok (N : NB) (hN : N.ok = true) (w : Nat) : janetType N (unmarshalReal N w) = N.numberTag :=
  real_is_number N hN w

open JanetModel.Unmarsh.NanBox in
theorem real_never_a_pointer_of_ok (N : NB) (hN : N.ok = true) (w t : Nat) (ht : t < 16) (hne : t ≠ N.numberTag) :
    checktype N (unmarshalReal N w) t = false := real_never_a_pointer N hN w t ht hne

namespace NanExamples
open JanetModel.Unmarsh.NanBox
def good : NB := { tagShift := 47, typeMod := 16, lowtagOr := 131056, numberTag := 0, nanBits := 9221120237041090560, safe := true }
/-- non-vacuity; 1.5 stays 1.5; a signalling NaN carrying a "string" tag and the payload 0x41414141 becomes the plain NAN -/
example : good.ok = true := by decide
example : unmarshalReal good 4609434218613702656 = 4609434218613702656 := by decide
example : unmarshalReal good 18445055224944083265 = 9221120237041090560 := by decide
end NanExamples

/-- `case LB_REAL` wrapping with plain `janet_wrap_number` (no re-boxing): the payload `0xFFFA000041414141` IS a string whose
    pointer is `0x41414141` — `NB.ok` is false and the forged value passes `janet_checktype(x, JANET_STRING)` -/
theorem witness_unsafe_real_forges_pointer :
    ({ NanExamples.good with safe := false } : JanetModel.Unmarsh.NanBox.NB).ok = false ∧
    JanetModel.Unmarsh.NanBox.janetType { NanExamples.good with safe := false }
      (JanetModel.Unmarsh.NanBox.unmarshalReal { NanExamples.good with safe := false } 18445055224944083265) = 4 ∧
    JanetModel.Unmarsh.NanBox.checktype { NanExamples.good with safe := false }
      (JanetModel.Unmarsh.NanBox.unmarshalReal { NanExamples.good with safe := false } 18445055224944083265) 4 = true ∧
    JanetModel.Unmarsh.NanBox.toPointer NanExamples.good 18445055224944083265 = 1094795585 := by decide

/-! ### run-time validation of untrusted on-stack environments (`janet_env_valid`, fiber.c)

`env_valid_sound` over the tests of the CURRENT fiber.c is `JanetModel.Unmarsh.EnvValidObligations.env_valid_sound`.  Here: for ANY
source whose `janet_env_valid` makes all four tests and resets the environment on failure, ANY fiber whose image passed
validation (`FiberWf`), ANY claimed offset and length. -/
open JanetModel.Unmarsh JanetModel.Unmarsh.EnvValid in
theorem env_valid_sound_of_shape (S : Shape) (hS : S.allOn = true) (h : FiberHdr) (frames : List EFrame)
    (hwf : FiberWf h (frames.map (·.hdr))) (offset : Int) (hneg : offset < 0) (len : Nat) :
    ((envValid S offset len frames h.frame).1 = true →
        0 < (envValid S offset len frames h.frame).2.1 ∧ (envValid S offset len frames h.frame).2.2 = len ∧
        ∀ vindex : Nat, vindex < len →
          (envValid S offset len frames h.frame).2.1 + vindex < (h.stackstart : Int) - frameSizeWords ∧
          (envValid S offset len frames h.frame).2.1 + vindex < (h.stacktop : Int) + 10) ∧
    ((envValid S offset len frames h.frame).1 = false →
        (envValid S offset len frames h.frame).2.1 = 0 ∧ (envValid S offset len frames h.frame).2.2 = 0) :=
  env_valid_sound S hS h frames hwf offset hneg len

namespace EnvExamples
open JanetModel.Unmarsh JanetModel.Unmarsh.EnvValid
def allS : Shape := { onlyNegative := true, startsAtFrame := true, offsetEq := true, envPtrEq := true, funcNonNull := true,
                      slotcountEq := true, resetsOnFailure := true }
/-- one entrance frame at index 4 with 2 slots, pointing back at the environment -/
def fr : EFrame := { hdr := { entrance := true, prevframe := 0, pcdiff := 0, slotcount := 2, bclen := 2, atCall := true, aIsSlot := true },
                     envIsThis := true, hasFunc := true }
/-- non-vacuity: the claimed (offset 4, length 2) is accepted, (offset 4, length 2^24) and (offset 5, length 2) are not -/
example : envValid allS (-4) 2 [fr] 4 = (true, 4, 2) := by decide
example : envValid allS (-4) 16777216 [fr] 4 = (false, 0, 0) := by decide
example : envValid allS (-5) 2 [fr] 4 = (false, 0, 0) := by decide
end EnvExamples

/-- a `janet_env_valid` without the slot-count test: an environment claiming 2^24 values over a 2-slot frame is accepted,
    `data[4 + vindex]` then reaches far beyond the fiber's stack -/
theorem witness_env_valid_without_slotcount :
    ({ EnvExamples.allS with slotcountEq := false } : JanetModel.Unmarsh.EnvValid.Shape).allOn = false ∧
    JanetModel.Unmarsh.EnvValid.envValid { EnvExamples.allS with slotcountEq := false } (-4) 16777216 [EnvExamples.fr] 4 = (true, 4, 16777216) := by
  decide

end JanetModel.Props.C10
