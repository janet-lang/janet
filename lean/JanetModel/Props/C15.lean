import JanetModel.Spec.Model
import JanetModel.Spec.Template
import JanetModel.Spec.Fixed
import JanetModel.Bytecode.VMPasses
import JanetModel.Bytecode.VMMovopt
import JanetModel.Bytecode.VMCallPasses
import JanetModel.Spec.CallSite
import JanetModel.Spec.FixedEmit
import JanetModel.Spec.VariadicEmit
import JanetModel.Spec.Snapshot
import JanetModel.Spec.Emit
import JanetModel.Spec.NilGuard
import JanetModel.Spec.Operand

/-!
C15 - compiler specialisations of core functions preserve behaviour: the checkable conditions on the regenerated tables, the theorems
that follow from them, and small witness universes for what is false or must not be vacuous.
-/

namespace JanetModel.Props.C15
open JanetModel.Gen.Bytecode JanetModel.Gen.Cfuns JanetModel.Bytecode.VM JanetModel.Spec

variable (P : Prims)

/-- an accumulation step with an immediate operand is the step on the operand's value -/
theorem stepInline_eq (op : Op) (opim : Option Op) (h : immOk op opim = true) (acc : P.V) (a : Arg P) (ha : a.wf P) :
    stepInline P op opim acc a = binop P op acc a.v := by
  unfold stepInline
  cases opim with
  | none => rfl
  | some oi =>
    cases hi : a.imm with
    | none => rfl
    | some i =>
      have hb : immBase oi = some op := by simpa [immOk] using h
      have hv := (ha i hi).1
      simp only []
      rw [imm_agrees P oi op hb, hv]

theorem foldl_stepInline_eq (op : Op) (opim : Option Op) (h : immOk op opim = true) (rest : List (Arg P))
    (hw : ∀ a ∈ rest, a.wf P) (t : P.V) :
    M.foldl (stepInline P op opim) t rest = M.foldl (binop P op) t (rest.map (·.v)) := by
  induction rest generalizing t with
  | nil => rfl
  | cons a as ih =>
    simp only [M.foldl, List.map_cons]
    rw [stepInline_eq P op opim h t a (hw a List.mem_cons_self)]
    congr 1
    funext t'
    exact ih (fun a' ha' => hw a' (List.mem_cons_of_mem _ ha')) t'

/-- variadic arithmetic: `opreduce` with constants and opcodes that agree with the template computes what the template
    computes, for every argument list (left-to-right accumulation; immediates or not) -/
theorem opreduce_eq_varop_gen (special : Option (Op × Op × Int)) (op : Op) (opim : Option Op) (n u : Int)
    (h : immOk op opim = true) (args : List (Arg P))
    (hs : args.length = 1 → ∀ sop rop k, special = some (sop, rop, k) → op ≠ sop) (hw : ∀ a ∈ args, a.wf P) :
    evalOpreduce P special op opim (.int n) (.int u) args = evalVarop P n u op (args.map (·.v)) := by
  match args, hs, hw with
  | [], _, _ => rfl
  | [x], hs, _ =>
    simp only [evalOpreduce, evalVarop, List.map_cons, List.map_nil, constVal]
    cases special with
    | none => rfl
    | some sp =>
      obtain ⟨sop, rop, k⟩ := sp
      have : op ≠ sop := hs rfl sop rop k rfl
      simp [this]
  | x :: y :: rest, _, hw =>
    simp only [evalOpreduce, evalVarop, List.map_cons]
    rw [stepInline_eq P op opim h x.v y (hw y (by simp))]
    congr 1
    funext t
    exact foldl_stepInline_eq P op opim h rest (fun a ha => hw a (by simp [ha])) t

/-- comparison opcodes produce janet booleans -/
def cmpVal (op : Op) (a b : P.V) : Bool :=
  match kindOf op with
  | .rel => if P.isNum a && P.isNum b then P.numRel op a b else P.cmpRel op a b
  | .eq => P.eqv a b
  | .neq => !P.eqv a b
  | _ => false

theorem binop_cmp (op : Op) (h : kindOf op = .rel ∨ kindOf op = .eq ∨ kindOf op = .neq) (a b : P.V) :
    binop P op a b = M.pure (ofBool P (cmpVal P op a b)) := by
  unfold binop cmpVal
  rcases h with h | h | h <;> rw [h] <;> rfl

/-- chain lemma: if the inline comparison is the generic comparison xor `invert`, the inline chain with its early
    exits computes what the generic loop computes -/
theorem goInline_eq_goGeneric (opI opG : Op) (opim : Option Op) (invert : Bool) (hi : immOk opI opim = true)
    (hI : kindOf opI = .rel ∨ kindOf opI = .eq ∨ kindOf opI = .neq)
    (hG : kindOf opG = .rel ∨ kindOf opG = .eq ∨ kindOf opG = .neq)
    (hx : ∀ a b, cmpVal P opI a b = (cmpVal P opG a b != invert))
    (rest : List (Arg P)) (a : P.V) (b : Arg P) (hb : b.wf P) (hw : ∀ c ∈ rest, c.wf P) :
    goInline P opI opim invert a b rest = goGeneric P invert opG a b.v (rest.map (·.v)) := by
  induction rest generalizing a b with
  | nil =>
    simp only [goInline, goGeneric, List.map_nil]
    rw [stepInline_eq P opI opim hi a b hb, binop_cmp P opI hI, binop_cmp P opG hG, M.pure_bind, hx]
    simp only [truthy_ofBool]
    cases cmpVal P opG a b.v <;> cases invert <;> rfl
  | cons c rest ih =>
    simp only [goInline, goGeneric, List.map_cons]
    rw [stepInline_eq P opI opim hi a b hb, binop_cmp P opI hI, binop_cmp P opG hG, M.pure_bind, M.pure_bind, hx]
    simp only [truthy_ofBool]
    have ihc := ih b.v c (hw c List.mem_cons_self) (fun c' hc' => hw c' (List.mem_cons_of_mem _ hc'))
    cases hv : cmpVal P opG a b.v <;> cases invert <;> simp [ihc]

theorem compreduce_eq_comparator (opI opG : Op) (opim : Option Op) (invert : Bool) (hi : immOk opI opim = true)
    (hc : (if invert then kindOf opI == .neq && kindOf opG == .eq else opI == opG && (kindOf opI == .rel || kindOf opI == .eq)) = true)
    (args : List (Arg P)) (hw : ∀ a ∈ args, a.wf P) :
    evalCompreduce P opI opim invert args = evalComparator P invert opG (args.map (·.v)) := by
  have key : (kindOf opI = .rel ∨ kindOf opI = .eq ∨ kindOf opI = .neq) ∧ (kindOf opG = .rel ∨ kindOf opG = .eq ∨ kindOf opG = .neq) ∧
      ∀ a b, cmpVal P opI a b = (cmpVal P opG a b != invert) := by
    cases invert with
    | true =>
      simp only [if_true, Bool.and_eq_true, beq_iff_eq] at hc
      refine ⟨Or.inr (Or.inr hc.1), Or.inr (Or.inl hc.2), ?_⟩
      intro a b
      simp [cmpVal, hc.1, hc.2]
    | false =>
      simp only [Bool.false_eq_true, if_false, Bool.and_eq_true, beq_iff_eq, Bool.or_eq_true] at hc
      obtain ⟨he, hk⟩ := hc
      subst he
      have hk' : kindOf opI = .rel ∨ kindOf opI = .eq ∨ kindOf opI = .neq := by
        rcases hk with h | h
        · exact Or.inl h
        · exact Or.inr (Or.inl h)
      exact ⟨hk', hk', by intro a b; simp⟩
  obtain ⟨hI, hG, hx⟩ := key
  match args, hw with
  | [], _ => rfl
  | [_], _ => rfl
  | x :: y :: rest, hw =>
    simp only [evalCompreduce, evalComparator, List.map_cons]
    exact goInline_eq_goGeneric P opI opG opim invert hi hI hG hx rest x.v y (hw y (by simp)) (fun c hc' => hw c (by simp [hc']))

/-- generic row theorem: an arbitrary row / template pair that passes the checkable agreement condition is inline =
    generic on every argument list (argument values are evaluated before either side runs; both sides consume them
    left to right, so the order of method calls and the point of the first error coincide) -/
theorem inline_eq_generic_row (r : OptRow) (t : CoreFun) (h : rowAgrees true r t = true)
    (args : List (Arg P)) (hw : ∀ a ∈ args, a.wf P) :
    ∃ m, evalInline P r args = some m ∧ evalGeneric P t (args.map (·.v)) = some m := by
  unfold rowAgrees at h
  simp only [Bool.and_eq_true] at h
  obtain ⟨_, h⟩ := h
  -- the match of `rowAgrees` has two live arms; in each the handler and the template kind are known
  split at h
  · rename_i op opim nullary unary n u opG hh hk
    simp only [Bool.and_eq_true, beq_iff_eq, Bool.or_eq_true, Bool.not_eq_true', Bool.not_eq_true, Bool.true_eq_false, false_or] at h
    obtain ⟨⟨⟨⟨⟨he, hn⟩, hu⟩, hi⟩, _⟩, hs⟩ := h
    subst he hn hu
    simp only [evalInline, evalGeneric, hh, hk]
    exact ⟨_, rfl, by rw [opreduce_eq_varop_gen P _ op opim n u hi args (fun _ => isUnarySpecialOf_false _ op hs) hw]⟩
  · rename_i op opim inv invG opG hh hk
    simp only [Bool.and_eq_true, beq_iff_eq] at h
    obtain ⟨⟨⟨he, hi⟩, _⟩, hc⟩ := h
    subst he
    simp only [evalInline, evalGeneric, hh, hk]
    exact ⟨_, rfl, by rw [compreduce_eq_comparator P op opG opim inv hi hc args hw]⟩
  · cases h

/-- the rows of the variadic families paired with the template of the same tag -/
def variadicPairs : List (OptRow × CoreFun) :=
  (optimizers.filter isVariadic).filterMap fun r => (templateOf r.tag).map fun t => (r, t)

/-- obligation on the REGENERATED tables (re-checked by the kernel on every run): every variadic row has a template;
    all of them agree in opcode, immediate opcode, nullary / unary constants, invert flag and (absent) arity guard; all
    but the row of `-` also pass the unary-special-case conjunct -/
theorem rows_agree_partial :
    variadicPairs.length = (optimizers.filter isVariadic).length ∧
    (∀ p ∈ variadicPairs, rowAgrees false p.1 p.2 = true) ∧
    (∀ p ∈ variadicPairs, p.1.tagName ≠ "SUBTRACT" → rowAgrees true p.1 p.2 = true) := by
  decide +kernel

/-- there are 19 of them: + - * / div mod % band bor bxor blshift brshift brushift < > <= >= = not= -/
theorem variadic_count : variadicPairs.length = 13 + 6 := by decide +kernel

/-- instance: every variadic core function except `-` -/
theorem inline_eq_generic_partial (p : OptRow × CoreFun) (hp : p ∈ variadicPairs) (hne : p.1.tagName ≠ "SUBTRACT")
    (args : List (Arg P)) (hw : ∀ a ∈ args, a.wf P) :
    ∃ m, evalInline P p.1 args = some m ∧ evalGeneric P p.2 (args.map (·.v)) = some m :=
  inline_eq_generic_row P p.1 p.2 (rows_agree_partial.2.2 p hp hne) args hw

/-- `-` agrees with its template on every call that is not unary -/
theorem subtract_eq_generic_not_unary (args : List (Arg P)) (hw : ∀ a ∈ args, a.wf P) (hlen : args.length ≠ 1) :
    evalOpreduce P opreduceUnarySpecial .subtract (some .subtractImmediate) (.int 0) (.int 0) args =
      evalVarop P 0 0 .subtract (args.map (·.v)) :=
  opreduce_eq_varop_gen P _ .subtract (some .subtractImmediate) 0 0 (by decide) args (fun h => absurd h hlen) hw

/-- the row of `-` really is the row the previous theorem talks about -/
theorem subtract_row :
    ∃ r ∈ optimizers, ∃ t ∈ templates, r.tagName = "SUBTRACT" ∧ r.handler = .opreduce .subtract (some .subtractImmediate) (.int 0) (.int 0) ∧
      t.tag = r.tag ∧ t.kind = .varop 0 0 .subtract := by
  decide +kernel

/-- obligation on the regenerated words: every variadic template of corelib.c decodes to the modelled instruction list -/
theorem template_words_ok : templates.all templateWordsOk = true := by decide +kernel

/-- a pair of the list: a variadic row of the optimizer table with its template -/
theorem mem_variadicPairs (p : OptRow × CoreFun) (hp : p ∈ variadicPairs) :
    p.1 ∈ optimizers ∧ isVariadic p.1 = true ∧ p.2 ∈ templates := by
  simp only [variadicPairs, List.mem_filterMap] at hp
  obtain ⟨r, hr, hr2⟩ := hp
  simp only [templateOf, Option.map_eq_some_iff] at hr2
  obtain ⟨t, ht, rfl⟩ := hr2
  exact ⟨(List.mem_filter.mp hr).1, (List.mem_filter.mp hr).2, List.mem_of_find?_eq_some ht⟩

/-- inline code of a variadic core function (except unary `-`) computes what running the generic function's actual bytecode
    (words regenerated from corelib.c, decoded, executed by `VM.exec` from the vararg entry frame) computes -/
theorem inline_eq_generic_bytecode_partial (T : TupleLaws P) (p : OptRow × CoreFun) (hp : p ∈ variadicPairs) (hne : p.1.tagName ≠ "SUBTRACT")
    (args : List (Arg P)) (hw : ∀ a ∈ args, a.wf P) (w : P.W) :
    ∃ m code fuel, evalInline P p.1 args = some m ∧ p.2.words.map decode = code.map some ∧
      exec P code fuel (frame0 P T (args.map (·.v))) w = some (m w) := by
  obtain ⟨m, hi, hg⟩ := inline_eq_generic_partial P p hp hne args hw
  have hok := List.all_eq_true.mp template_words_ok p.2 (mem_variadicPairs p hp).2.2
  obtain ⟨code, fuel, hd, hf⟩ := generic_bytecode_correct P T p.2 hok (args.map (·.v)) m hg w
  exact ⟨m, code, fuel, hi, hd, hf⟩

theorem generic_runs_inline (T : TupleLaws P) (p : OptRow × CoreFun) (hp : p ∈ variadicPairs) (hne : p.1.tagName ≠ "SUBTRACT")
    (args : List (Arg P)) (hw : ∀ a ∈ args, a.wf P) (m : M P P.V) (hm : evalInline P p.1 args = some m) (w : P.W) :
    ∃ gcode fuel, p.2.words.map decode = gcode.map some ∧ exec P gcode fuel (frame0 P T (args.map (·.v))) w = some (m w) := by
  obtain ⟨m', gcode, fuel, hi, hd, hf⟩ := inline_eq_generic_bytecode_partial P T p hp hne args hw w
  rw [hm] at hi
  cases hi
  exact ⟨gcode, fuel, hd, hf⟩

namespace Witness

/-- a tiny universe: integers, one table with a `:*` and a `:r-` method, the two method objects -/
inductive WV where
  | n (i : Int)
  | tab
  | mMul
  | mRSub
  deriving DecidableEq, Repr

def isNum : WV → Bool
  | .n _ => true
  | _ => false

def lookup : WV → String → Option WV
  | .tab, m => if m = "*" then some .mMul else if m = "r-" then some .mRSub else none
  | _, _ => none

/-- the world is the log of invoked methods -/
def invoke : WV → List WV → List String → Except String WV × List String
  | .mMul, _, w => (.ok (.n 1), w ++ ["*"])
  | .mRSub, _, w => (.ok (.n 2), w ++ ["r-"])
  | _, _, w => (.error "not callable", w)

def WP : Prims where
  V := WV
  E := String
  W := List String
  num := .n
  nil := .tab
  tru := .n 1
  fls := .n 0
  truthy := fun v => v != .n 0
  isNil := fun _ => false
  isNum := isNum
  num_isNum := fun _ => rfl
  truthy_tru := by decide
  truthy_fls := by decide
  arith := fun op a b =>
    match op, a, b with
    | .subtract, .n x, .n y => .ok (.n (x - y))
    | .multiply, .n x, .n y => .ok (.n (x * y))
    | _, _, _ => .error "unsupported"
  lookup := lookup
  lookup_num := by
    intro x m h
    cases x <;> simp_all [isNum, lookup]
  invoke := invoke
  noMethod := fun m _ => "nomethod " ++ m
  numRel := fun _ _ _ => false
  cmpRel := fun _ _ _ => false
  eqv := fun a b => a == b
  numEq := fun a b => a == b
  eqv_num := by
    intro a i
    cases a <;> simp [isNum]
  other := fun _ _ _ w => (.error "unsupported", w)
  unary := fun _ _ w => (.error "unsupported", w)
  getIndex := fun _ _ w => (.error "unsupported", w)
  put3 := fun _ _ _ w => (.error "unsupported", w)
  signal := fun _ _ w => (.error "unsupported", w)
  raise := fun _ => "raised"

def theArg : Arg WP := ⟨.tab, none⟩

end Witness

/-- witness: as long as `opreduce` has its unary special case (`x * -1` for `-`), inline `(- t)` and generic `(- t)`
    differ for a table `t` with operator methods: inline runs `t * -1` (method `:*`), the template runs `0 - t`
    (method `:r-`).  Stated as an implication so that it is also a theorem on a tree where the special case is gone. -/
theorem unary_minus_differs :
    opreduceUnarySpecial = some (.subtract, .multiplyImmediate, -1) →
    (evalOpreduce Witness.WP opreduceUnarySpecial .subtract (some .subtractImmediate) (.int 0) (.int 0) [Witness.theArg] []).2 = ["*"] ∧
    (evalVarop Witness.WP 0 0 .subtract [Witness.theArg.v] []).2 = ["r-"] := by
  intro h
  rw [h]
  exact ⟨rfl, rfl⟩

/-- the full statement for all rows holds exactly when the unary special case is absent -/
theorem rows_agree_all_or_unary_special :
    (∀ p ∈ variadicPairs, rowAgrees true p.1 p.2 = true) ∨ opreduceUnarySpecial ≠ none := by
  decide +kernel


namespace Witness

def wxView (v : WV) : Option (List WV) := match v with | .tab => some [.n 7, .n 8] | _ => none
def wxCall (_ : WV) (args : List WV) (_ : Nat → Option WV) (w : List String) : Except String (WV × (Nat → Option WV)) × List String :=
  (.ok (.n args.length, fun _ => none), w ++ ["call"])
def wxMake (_ : Op) (_ : List WV) (w : List String) : Except String WV × List String := (.error "unsupported", w)
def wxPutIndex (_ : WV) (_ : Nat) (_ : WV) (w : List String) : Except String Unit × List String := (.error "unsupported", w)
def wxNotIndexed (_ : WV) : String := "not indexed"
def wxLoadUp (_ _ : Nat) (_ : List String) : WV := .n 0
def wxSetUp (_ _ : Nat) (_ : WV) (w : List String) : List String := w
def wxTypecheck (_ : WV) (_ : Nat) : Option String := none

/-- a call oracle that logs the call and returns the number of arguments; the witness table is the 2-element indexed value -/
def WX : CallPrims WP where
  indexedView := wxView
  notIndexed := wxNotIndexed
  call := wxCall
  make := wxMake
  closure := fun _ => WV.mMul
  constant := fun _ => WV.n 0
  self := WV.mMul
  loadUpvalue := wxLoadUp
  setUpvalue := wxSetUp
  typecheck := wxTypecheck
  putIndex := wxPutIndex

def runW (code : List Instr) (slots : List WV) : Option (Except String WV × List String) :=
  execX WX (fun _ => false) code 10 ⟨slots, [], 0⟩ ([] : List String)

def passCode : List Instr := [mkAI .loadInteger 3 9, mkAI .jumpIfNot 0 3, mkD .push 1, mkAE .call 2 0, mkD .return 2]
def passCode' : List Instr := [⟨.noop, 0⟩, mkAI .jumpIfNot 0 3, mkD .push 1, mkAE .call 2 0, mkD .return 2]

end Witness

/-- non-vacuity: `(apply f 1 2 3 4 t)` inline is `push3; push; pusha; tcall` and makes one call with 4 + 2 arguments -/
example : Witness.runW (emitApply 0 [1, 2, 3, 4] 5 none) [.mMul, .n 1, .n 2, .n 3, .n 4, .tab] = some (.ok (.n 6), ["call"]) := rfl

/-- non-vacuity: a last argument that is not indexed raises before any call (empty call log) -/
example : Witness.runW (emitApply 0 [1] 2 none) [.mMul, .n 1, .n 2] = some (.error "not indexed", []) := rfl

/-- non-vacuity: `(f 1 ;t 2)` goes through push / push-array / push and one call with 1 + 2 + 1 arguments -/
example : hasSpliced [⟨1, false⟩, ⟨2, true⟩, ⟨3, false⟩] = true ∧
    Witness.runW (emitGenericCall 0 [⟨1, false⟩, ⟨2, true⟩, ⟨3, false⟩] none) [.mMul, .n 1, .tab, .n 2] = some (.ok (.n 4), ["call"]) :=
  ⟨rfl, rfl⟩

/-- non-vacuity of the pass theorems over the full interpreter: a function with a push, a call, a dead load and a conditional jump
    (`ldi 3 9` is dead; movopt writes a noop over it; removing the noop retargets nothing here but shifts every pc) gives one result -/
example : Witness.runW Witness.passCode [.mMul, .n 1, .n 0, .n 0] = some (.ok (.n 1), ["call"]) ∧
    Witness.runW Witness.passCode' [.mMul, .n 1, .n 0, .n 0] = some (.ok (.n 1), ["call"]) ∧
    Witness.runW (JanetModel.Bytecode.VMPasses.removeNoopsFull Witness.passCode') [.mMul, .n 1, .n 0, .n 0] = some (.ok (.n 1), ["call"]) :=
  ⟨rfl, rfl, rfl⟩

/-- the witness argument is a legal argument -/
example : Witness.theArg.wf Witness.WP := by intro i h; cases h

/-- non-vacuity: the generic theorem applies to a non-trivial call, e.g. `(+ t 5 t)` with the immediate 5 -/
example : ∃ m, evalInline Witness.WP (optimizers.getD 8 default) [⟨.tab, none⟩, ⟨.n 5, some 5⟩, ⟨.tab, none⟩] = some m := ⟨_, rfl⟩

/-- every row has a template of the same tag; whenever an arity guard admits a call the generic function accepts that
    arity; the single-instruction handlers (`genericSS`, `opfunction`) have exactly the one-instruction asm body -/
theorem fixed_rows_consistent :
    ∀ r ∈ optimizers, ∃ t ∈ templates, t.tag = r.tag ∧ guardWithinArity r t = true ∧ asmShapeOk r t = true := by
  decide +kernel

/-- obligation on the regenerated tables: every fixed-arity row (all 33 rows minus the 19 variadic ones minus `apply`) has a
    template whose words decode to the asm shape its handler requires, with a large enough frame and compatible arities -/
theorem fixed_rows_ok :
    optimizers.all fixedRowOk = true ∧ (optimizers.filter (fun r => (shapeOf r).isSome)).length = 13 ∧
    (optimizers.filter (fun r => !(shapeOf r).isSome && !isVariadic r)).map (·.handlerName) = ["do_apply"] := by
  decide +kernel

/-- instance: for every fixed-arity specialised function except `apply` (get in put length next cmp resume cancel yield debug
    error propagate bnot) the inline code computes what running the generic function's real bytecode computes -/
theorem fixed_inline_eq_generic (hnil1 : ∀ v, P.eqv v P.nil = P.isNil v) (hnil2 : ∀ v, P.isNil v = true → v = P.nil)
    (r : OptRow) (hr : r ∈ optimizers) (t : CoreFun) (ht : templateOf r.tag = some t)
    (args : List P.V) (m : M P P.V) (hm : evalInlineFixed P r args = some m) (w : P.W) :
    ∃ code fuel, t.words.map decode = code.map some ∧ exec P code fuel (frameOf P t.slots args) w = some (m w) :=
  fixed_inline_eq_generic_bytecode P hnil1 hnil2 r (List.all_eq_true.mp fixed_rows_ok.1 r hr) t ht args m hm w



/-! ### the hand-modelled C bodies: regenerated statement skeletons against the ones the model was written for

One theorem per C function, so that a changed body is NAMED by the obligation that fails.  The skeleton (tools/gen/cfuns_skel.py) is
independent of whitespace, comments, names of parameters / locals, pure helper variables, `(void)` casts; it keeps the control structure,
the conditions, every emit call (kind, opcode, operands, write flag) and every other effect, in order.  Each comparison is `rfl`: the two
literals are compared as terms and their strings as literals, where deciding the equality would go through them character by character. -/

theorem skeleton_genericSS_ok : skeletonOf "genericSS" = Skeleton.genericSS := by rfl
theorem skeleton_genericSSI_ok : skeletonOf "genericSSI" = Skeleton.genericSSI := by rfl
theorem skeleton_opfunction_ok : skeletonOf "opfunction" = Skeleton.opfunction := by rfl
theorem skeleton_can_be_imm_ok : skeletonOf "can_be_imm" = Skeleton.can_be_imm := by rfl
theorem skeleton_can_slot_be_imm_ok : skeletonOf "can_slot_be_imm" = Skeleton.can_slot_be_imm := by rfl
theorem skeleton_reduce_target_ok : skeletonOf "reduce_target" = Skeleton.reduce_target := by rfl
/-- the body with the snapshot loop (operands from the third on that are variables are first copied into fresh slots -
    `Spec.emitOpreduceSnap`, proved in `opreduce_snapshot_chain_computes`); a body without the loop reads those operands after an operator
    method may have assigned them -/
theorem skeleton_opreduce_ok : skeletonOf "opreduce" = Skeleton.opreduce := by rfl
theorem skeleton_compreduce_ok : skeletonOf "compreduce" = Skeleton.compreduce := by rfl
theorem skeleton_janetc_funopt_ok : skeletonOf "janetc_funopt" = Skeleton.janetc_funopt := by rfl
theorem skeleton_do_apply_ok : skeletonOf "do_apply" = Skeleton.do_apply := by rfl
theorem skeleton_do_debug_ok : skeletonOf "do_debug" = Skeleton.do_debug := by rfl
theorem skeleton_do_error_ok : skeletonOf "do_error" = Skeleton.do_error := by rfl
theorem skeleton_do_get_ok : skeletonOf "do_get" = Skeleton.do_get := by rfl
theorem skeleton_do_put_ok : skeletonOf "do_put" = Skeleton.do_put := by rfl
theorem skeleton_do_yield_ok : skeletonOf "do_yield" = Skeleton.do_yield := by rfl
theorem skeleton_janet_quick_asm_ok : skeletonOf "janet_quick_asm" = Skeleton.janet_quick_asm := by rfl
theorem skeleton_janetc_check_nil_form_ok : skeletonOf "janetc_check_nil_form" = Skeleton.janetc_check_nil_form := by rfl
/-- `set` refuses a slot without `JANET_SLOT_MUTABLE`: a `def` local / parameter / temporary is never the destination of an assignment, so
    an operator method cannot assign an operand `opreduce` did not snapshot (`himmune` of `variadic_snapshot_emitted_eq_generic`) -/
theorem skeleton_janetc_varset_ok : skeletonOf "janetc_varset" = Skeleton.janetc_varset := by rfl
theorem skeleton_janetc_movenear_ok : skeletonOf "janetc_movenear" = Skeleton.janetc_movenear := by rfl
theorem skeleton_janetc_regnear_ok : skeletonOf "janetc_regnear" = Skeleton.janetc_regnear := by rfl
theorem skeleton_janetc_emit_sss_ok : skeletonOf "janetc_emit_sss" = Skeleton.janetc_emit_sss := by rfl
theorem skeleton_emit2s_ok : skeletonOf "emit2s" = Skeleton.emit2s := by rfl
theorem skeleton_janetc_call_selection_ok : skeletonOf "janetc_call.selection" = Skeleton.janetc_call_selection := by rfl

/-- every C body that has an expected skeleton is present in the regenerated table, and nothing else is -/
theorem skeleton_names_ok : skeletons.map (·.1) =
    ["genericSS", "genericSSI", "opfunction", "can_be_imm", "can_slot_be_imm", "reduce_target", "opreduce", "compreduce", "janetc_funopt",
     "do_apply", "do_debug", "do_error", "do_get", "do_put", "do_yield", "janet_quick_asm", "janetc_check_nil_form", "janetc_varset", "janetc_movenear",
     "janetc_regnear", "janetc_emit_sss", "emit2s", "janetc_call.selection"] := by
  rfl

/-- obligation on the regenerated skeletons: the opcodes the special handlers emit - in particular `do_get` keeps the looked-up value when
    it is NOT NIL (`JOP_JUMP_IF_NOT_NIL`), not when it is truthy -/
theorem special_ops_ok : specialOpsOk = true := by decide +kernel

/-- for a row, every admitted arity has emitted code in the model -/
def emitDefinedOk (r : OptRow) : Bool :=
  match shapeOf r with
  | none => true
  | some sh => [0, 1, 2, 3, 4].all fun n => !guardOk r.guard n || (emitShape sh 0 (List.replicate n 1) 2).isSome

/-- obligation on the regenerated tables: the emitter model covers every (fixed-arity row, admitted arity) -/
theorem fixed_emit_defined : optimizers.all emitDefinedOk = true := by decide +kernel

/-- the INSTRUCTIONS a fixed-arity specialisation emits (get in put length next cmp resume cancel yield debug error propagate bnot; model
    `Spec.emitShape` of `genericSS` / `genericSSI` / `opfunction` / fixed `opreduce` / `do_get` / `do_put` / `do_yield` / `do_debug` /
    `do_error`, opcodes of the special handlers read from the regenerated skeletons), placed anywhere in a function and run on the caller's
    slots with the operands in registers, compute `m` into the target register and leave every other register except the scratch one alone;
    and running the generic function's REAL bytecode (regenerated words) on the same argument values computes the same `m`: same value or
    error, same world. -/
theorem fixed_emitted_eq_generic (hnil1 : ∀ v, P.eqv v P.nil = P.isNil v) (hnil2 : ∀ v, P.isNil v = true → v = P.nil)
    (r : OptRow) (hr : r ∈ optimizers) (t : CoreFun) (ht : templateOf r.tag = some t)
    (tgt tmp : Nat) (regs : List Nat) (s : List P.V) (m : M P P.V) (hm : evalInlineFixed P r (regs.map (s.getD · P.nil)) = some m)
    (htgt : tgt < 256) (htmp : tmp < 256) (hregs : ∀ x ∈ regs, x < 256) (htt : tmp ≠ tgt) (htr : ∀ x ∈ regs, x ≠ tmp)
    (hlen : tgt < s.length) (hlent : tmp < s.length) (hput : r.handler = .special "do_put" → ∀ x ∈ regs.drop 1, x ≠ tgt) :
    ∃ sh, shapeOf r = some sh ∧
      (∀ seg, emitShape sh tgt regs tmp = some seg → ∀ code pc, HasAt code pc seg →
        ∃ upd, Computes P code s pc seg.length m upd (pc + seg.length) ∧ (∀ v, (upd v).getD tgt P.nil = v) ∧
          ∀ v k, k ≠ tgt → k ≠ tmp → (upd v).getD k P.nil = s.getD k P.nil) ∧
      ∀ w, ∃ gcode fuel, t.words.map decode = gcode.map some ∧
        exec P gcode fuel (frameOf P t.slots (regs.map (s.getD · P.nil))) w = some (m w) := by
  have hrow := List.all_eq_true.mp fixed_rows_ok.1 r hr
  obtain ⟨sh, hsh, hd, hops, hslots, hmeq⟩ := evalInlineFixed_shape P hnil1 hnil2 r hrow t ht _ m hm
  refine ⟨sh, hsh, ?_, ?_⟩
  · intro seg hem code pc hat
    have hput' : sh = .put → ∀ x ∈ regs.drop 1, x ≠ tgt := fun hp => hput (shapeOf_put r (hp ▸ hsh))
    rw [hmeq]
    exact shape_emit_computes P hnil1 hnil2 special_ops_ok sh hops tgt tmp regs seg hem t.slots hslots code s pc hat htgt htmp hregs htt htr
      hlen hlent hput'
  · exact fun w => fixed_inline_eq_generic P hnil1 hnil2 r hr t ht _ m hm w

/-- the row of `get` in the regenerated table -/
def getRow : OptRow := (optimizers.filter (·.handlerName == "do_get")).headD default

/-- non-vacuity: `(get ds k dflt)` with the operands in registers 1 2 3 and the target 5 is `get 5 1 2; jmpnn 5 +2; movn 5 3`, and with the
    target in the default's register the default is parked in the scratch register first -/
example : shapeOf getRow = some (.getlike .get) ∧
    emitShape (.getlike .get) 5 [1, 2, 3] 9 = some [mkABC .get 5 1 2, mkAI .jumpIfNotNil 5 2, mkAE .moveNear 5 3] ∧
    emitShape (.getlike .get) 3 [1, 2, 3] 9 = some [mkAE .moveNear 9 3, mkABC .get 3 1 2, mkAI .jumpIfNotNil 3 2, mkAE .moveNear 3 9] := by
  decide +kernel

/-- non-vacuity: the value-level model is defined on that call (hypothesis `hm` of `fixed_emitted_eq_generic`), and the emitted code really
    runs: on the witness universe `get` raises "unsupported", which is what the three instructions return from any frame -/
example : (∃ m, evalInlineFixed Witness.WP getRow ([1, 2, 3].map ([Witness.WV.tab, .tab, .n 1, .n 7, .n 0, .n 0].getD · Witness.WP.nil)) = some m) ∧
    exec Witness.WP [mkABC .get 5 1 2, mkAI .jumpIfNotNil 5 2, mkAE .moveNear 5 3, mkD .return 5] 9
      ⟨[Witness.WV.tab, .tab, .n 1, .n 7, .n 0, .n 0], 0⟩ [] = some (.error "unsupported", []) :=
  ⟨⟨_, rfl⟩, rfl⟩

/-- checkable on the regenerated table: a variadic `opreduce` row accumulates with an opcode of the generic three-register case of the
    interpreter, and its immediate opcode (if any) is the immediate form of that opcode -/
def opreduceRowOk (r : OptRow) : Bool :=
  match r.handler with
  | .opreduce op opim _ _ => !(r.guard == .always) || (templateOps.contains op && immOk op opim)
  | _ => true

theorem opreduce_rows_ok : optimizers.all opreduceRowOk = true := by decide +kernel

/-- the same for the comparison rows -/
def compreduceRowOk (r : OptRow) : Bool :=
  match r.handler with
  | .compreduce op opim _ => templateOps.contains op && immOk op opim
  | _ => true

theorem compreduce_rows_ok : optimizers.all compreduceRowOk = true := by decide +kernel

/-- the row named SUBTRACT is an `opreduce` row (so no comparison row is excluded by the unary-minus exception) -/
theorem subtract_is_opreduce : optimizers.all (fun r => r.tagName != "SUBTRACT" || (match r.handler with | .opreduce _ _ _ _ => true | _ => false)) = true := by
  decide +kernel

theorem immBase_of_immOk {op : Op} {opim : Option Op} (h : immOk op opim = true) (oi : Op) (ho : opim = some oi) : immBase oi = some op := by
  subst ho
  simpa [immOk] using h

theorem opreduce_row_ops (p : OptRow × CoreFun) (hp : p ∈ variadicPairs) {op : Op} {opim : Option Op} {nullary unary : Const}
    (hh : p.1.handler = .opreduce op opim nullary unary) : op ∈ templateOps ∧ ∀ oi, opim = some oi → immBase oi = some op := by
  have hmem := mem_variadicPairs p hp
  have hrow := List.all_eq_true.mp opreduce_rows_ok p.1 hmem.1
  have hg : (p.1.guard == .always) = true := by simpa [isVariadic, hh] using hmem.2.1
  simp only [opreduceRowOk, hh, hg, Bool.not_true, Bool.false_or, Bool.and_eq_true, List.contains_iff_mem] at hrow
  exact ⟨by simpa using hrow.1, immBase_of_immOk hrow.2⟩

theorem regArg_wf (v : P.V) : (⟨v, none⟩ : Arg P).wf P := fun _ h => nomatch h

theorem argOf_wf (s : List P.V) {opim : Option Op} (b : RArg) (hb : b.ok opim) : (argOf P s b).wf P := by
  intro i hi
  cases b with
  | reg r => cases hi
  | imm j =>
    obtain ⟨_, h1, h2⟩ := hb
    cases hi
    exact ⟨rfl, by simp only [immMin]; omega, by simp only [immMax]; omega⟩

/-- `(op a0 y r2 r3 ..)` for a variadic arithmetic / bitwise / shift row (`-` excepted as in `inline_eq_generic_partial`): the INSTRUCTIONS
    `opreduce` emits (`Spec.emitOpreduceCode`: registers and immediates as operands, accumulation in the target register), placed anywhere and
    run on the caller's slots, compute `m` into the target register - and the generic function's REAL bytecode run on the same argument
    values computes the same `m` (value or error, world, order of operator-method calls) - for every number of operands and every mix of
    register / immediate operands.  Side condition on registers = what `reduce_target(opts, args, 2)` provides: operands from the third on
    do not live in the target register. -/
theorem variadic_emitted_eq_generic (T : TupleLaws P) (p : OptRow × CoreFun) (hp : p ∈ variadicPairs) (hne : p.1.tagName ≠ "SUBTRACT")
    (op : Op) (opim : Option Op) (nullary unary : Const) (hh : p.1.handler = .opreduce op opim nullary unary)
    (code : List Instr) (s : List P.V) (pc t a0 : Nat) (y : RArg) (rest : List RArg)
    (ht : t < 256) (h0 : a0 < 256) (hy : y.ok opim) (hok : ∀ a ∈ rest, a.ok opim) (hav : ∀ a ∈ rest, a.avoids t) (hlen : t < s.length)
    (hat : HasAt code pc (emitOpreduceCode op opim t a0 y rest)) :
    ∃ m, evalInline P p.1 ((⟨s.getD a0 P.nil, none⟩ : Arg P) :: argOf P s y :: rest.map (argOf P s)) = some m ∧
      Computes P code s pc (rest.length + 1) m (fun v => s.set t v) (pc + (rest.length + 1)) ∧
      ∀ w, ∃ gcode fuel, p.2.words.map decode = gcode.map some ∧
        exec P gcode fuel (frame0 P T (((⟨s.getD a0 P.nil, none⟩ : Arg P) :: argOf P s y :: rest.map (argOf P s)).map (·.v))) w = some (m w) := by
  have hrow := opreduce_row_ops p hp hh
  have hop : IsBinOp P op := isBinOp_of_mem P op hrow.1
  have himm : ∀ oi, opim = some oi → IsImmOp P oi := fun oi ho => isImmOp_of_base P oi op (hrow.2 oi ho)
  have hwf : ∀ a ∈ ((⟨s.getD a0 P.nil, none⟩ : Arg P) :: argOf P s y :: rest.map (argOf P s)), a.wf P :=
    List.forall_mem_cons.2 ⟨regArg_wf P _, List.forall_mem_cons.2 ⟨argOf_wf P s y hy,
      List.forall_mem_map.2 fun b hb => argOf_wf P s b (hok b hb)⟩⟩
  refine ⟨evalOpreduce P opreduceUnarySpecial op opim nullary unary
    ((⟨s.getD a0 P.nil, none⟩ : Arg P) :: argOf P s y :: rest.map (argOf P s)), by simp only [evalInline, hh], ?_, ?_⟩
  · exact opreduce_chain_computes P opreduceUnarySpecial op opim nullary unary hop himm code s pc t a0 y rest ht h0 hy hok hav hlen hat
  · exact fun w => generic_runs_inline P T p hp hne _ hwf _ (by simp only [evalInline, hh]) w

/-- `(op a0 y x2 x3 ..)` for a variadic arithmetic / bitwise / shift row, operands from the third on possibly `var`s, as emitted with the
    snapshot loop (`Spec.emitOpreduceSnap`: `movn fresh x` for every MUTABLE operand from the third on, then the chain), run on an interpreter
    in which EVERY operator-method call of the chain may assign any assignable slot of the running frame (`hv` limited only by `asg`):
    the instructions compute `m` - the inline model on the operand values AT ENTRY - into the target, and the generic function's REAL
    bytecode run on those entry values computes the same `m`.  So the inlined form and the call agree although methods assign the
    operands; no hypothesis restricts what the methods assign among the `var`s.  (`himmune`, `hfresh`: a slot without
    `JANET_SLOT_MUTABLE` and a fresh temporary are never the destination of an assignment; `hav`: `reduce_target(opts, args, 2)` run
    AFTER the replacement; `h0 hyb hbelow`: the fresh registers lie above the operands.) -/
theorem variadic_snapshot_emitted_eq_generic (T : TupleLaws P) (p : OptRow × CoreFun) (hp : p ∈ variadicPairs) (hne : p.1.tagName ≠ "SUBTRACT")
    (op : Op) (opim : Option Op) (nullary unary : Const) (hh : p.1.handler = .opreduce op opim nullary unary)
    (hv : P.W → List P.V → List P.V) (asg : Nat → Bool) (hresp : Respects P hv asg)
    (code : List Instr) (s : List P.V) (pc free t a0 : Nat) (y : RArg) (rest : List MArg)
    (ht : t < 256) (h0 : a0 < free) (hy : y.ok opim) (hyb : ∀ r, y = .reg r → r < free)
    (hok : ∀ a ∈ rest, a.plain.ok opim) (hbelow : ∀ r m, MArg.reg r m ∈ rest → r < free)
    (hav : ∀ r, MArg.reg r false ∈ rest → r ≠ t) (himmune : ∀ r, MArg.reg r false ∈ rest → asg r = false)
    (hfresh : ∀ k, free ≤ k → k < free + nmut rest → asg k = false ∧ k ≠ t)
    (h256 : free + nmut rest ≤ 256) (hslots : free + nmut rest ≤ s.length) (hlen : t < s.length)
    (hat : HasAt code pc (emitOpreduceSnap op opim free t a0 y rest)) :
    ∃ m, evalInline P p.1 ((⟨s.getD a0 P.nil, none⟩ : Arg P) :: argOf P s y :: rest.map (fun a => argOf P s a.plain)) = some m ∧
      ComputesH P hv code s pc (nmut rest + (rest.length + 1)) m
        (fun v s' => s'.length = s.length ∧ s'.getD t P.nil = v ∧
          ∀ k, asg k = false → k ≠ t → (k < free ∨ free + nmut rest ≤ k) → s'.getD k P.nil = s.getD k P.nil)
        (pc + (nmut rest + (rest.length + 1))) ∧
      ∀ w, ∃ gcode fuel, p.2.words.map decode = gcode.map some ∧
        exec P gcode fuel (frame0 P T (((⟨s.getD a0 P.nil, none⟩ : Arg P) :: argOf P s y ::
          rest.map (fun a => argOf P s a.plain)).map (·.v))) w = some (m w) := by
  have hrow := opreduce_row_ops p hp hh
  have hop : IsCallOp op := isCallOp_of_mem op hrow.1
  have himm : ∀ oi, opim = some oi → IsCallImm oi := fun oi ho => isCallImm_of_base oi op (hrow.2 oi ho)
  have hwf : ∀ a ∈ ((⟨s.getD a0 P.nil, none⟩ : Arg P) :: argOf P s y :: rest.map (fun a => argOf P s a.plain)), a.wf P :=
    List.forall_mem_cons.2 ⟨regArg_wf P _, List.forall_mem_cons.2 ⟨argOf_wf P s y hy,
      List.forall_mem_map.2 fun b hb => argOf_wf P s b.plain (hok b hb)⟩⟩
  refine ⟨evalOpreduce P opreduceUnarySpecial op opim nullary unary
    ((⟨s.getD a0 P.nil, none⟩ : Arg P) :: argOf P s y :: rest.map (fun a => argOf P s a.plain)), by simp only [evalInline, hh], ?_, ?_⟩
  · exact opreduce_snapshot_chain_computes P hv asg hresp opreduceUnarySpecial op opim nullary unary hop himm code s pc free t a0 y rest
      ht h0 hy hyb hok hbelow hav himmune hfresh h256 hslots hlen hat
  · exact fun w => generic_runs_inline P T p hp hne _ hwf _ (by simp only [evalInline, hh]) w

/-- an operator method that assigns the caller's variable in slot 3 (the witness `:*` method has run exactly when the log is `["*"]`) -/
def Witness.assign3 (w : List String) (s : List Witness.WV) : List Witness.WV := if w = ["*"] then s.set 3 (.n 100) else s

theorem Witness.assign3_respects : Respects Witness.WP Witness.assign3 (fun k => k == 3) := by
  intro (w : List String) (s : List Witness.WV)
  show (Witness.assign3 w s).length = s.length ∧
    ∀ k, (k == 3) = false → (Witness.assign3 w s).getD k Witness.WV.tab = s.getD k Witness.WV.tab
  unfold Witness.assign3
  by_cases h : w = ["*"]
  · rw [if_pos h]
    refine ⟨List.length_set .., fun k hk => ?_⟩
    have hk3 : k ≠ 3 := by simpa using hk
    simp [List.getD, List.getElem?_set_ne (Ne.symm hk3)]
  · rw [if_neg h]
    exact ⟨rfl, fun _ _ => rfl⟩

/-- non-vacuity, and the defect the snapshot repairs, inside the model: `(* a0 a1 m)` with `m` a `var` in slot 3, `a0` a table whose `:*`
    method assigns `m := 100`.  The emitted code is `movn 4 3; mul 5 0 1; mul 5 5 4` and computes `1 * 7` (the value `m` had at entry, as
    the call `(apply * [a0 a1 m])` would); the body WITHOUT the snapshot loop (`mul 5 0 1; mul 5 5 3`) computes `1 * 100` under the same
    method - and with the oracle that assigns nothing both give 7. -/
example : emitOpreduceSnap .multiply (some .multiplyImmediate) 4 5 0 (.reg 1) [.reg 3 true] =
      [mkAE .moveNear 4 3, mkABC .multiply 5 0 1, mkABC .multiply 5 5 4] ∧
    execH Witness.WP Witness.assign3 [mkAE .moveNear 4 3, mkABC .multiply 5 0 1, mkABC .multiply 5 5 4, mkD .return 5] 6
      ⟨[Witness.WV.tab, .n 2, .n 7, .n 7, .n 0, .n 0], 0⟩ [] = some (.ok (.n 7), ["*"]) ∧
    execH Witness.WP Witness.assign3 [mkABC .multiply 5 0 1, mkABC .multiply 5 5 3, mkD .return 5] 6
      ⟨[Witness.WV.tab, .n 2, .n 7, .n 7, .n 0, .n 0], 0⟩ [] = some (.ok (.n 100), ["*"]) ∧
    execH Witness.WP (fun _ s => s) [mkABC .multiply 5 0 1, mkABC .multiply 5 5 3, mkD .return 5] 6
      ⟨[Witness.WV.tab, .n 2, .n 7, .n 7, .n 0, .n 0], 0⟩ [] = some (.ok (.n 7), ["*"]) :=
  ⟨rfl, rfl, rfl, rfl⟩

/-- the hypotheses of `opreduce_snapshot_chain_computes` hold of that example (target 5, fresh register 4, assignable slot 3) -/
example : (∀ k, 4 ≤ k → k < 4 + nmut [MArg.reg 3 true] → ((fun k => k == 3) k = false ∧ k ≠ 5)) ∧
    (∀ r, MArg.reg r false ∈ [MArg.reg 3 true] → r ≠ 5) ∧ IsCallOp .multiply ∧ IsCallImm .multiplyImmediate := by
  refine ⟨fun k h1 h2 => ?_, fun r h => by simp at h, ⟨rfl, rfl, rfl⟩, ⟨rfl, .multiply, rfl⟩⟩
  simp only [nmut] at h2
  have : k = 4 := by omega
  subst this
  decide

/-- `(cmp a r1 .. r(n-2) last)` for a variadic comparison row (< > <= >= = not=): the INSTRUCTIONS `compreduce` emits
    (`Spec.emitCompreduceCode`: a comparison into the target register per neighbouring pair, a conditional jump to the end after each but
    the last - `JOP_JUMP_IF_NOT`, or `JOP_JUMP_IF` for the inverted row), placed anywhere and run on the caller's slots, compute `m` into
    the target register; the generic comparator's REAL bytecode run on the same argument values computes the same `m`: same boolean or
    error, same world, same order of comparisons, nothing evaluated after the deciding comparison.  Registers: the first operand may
    live in the target, the others must not (`reduce_target(opts, args, 1)`); the operands between first and last are registers. -/
theorem comparison_emitted_eq_generic (T : TupleLaws P) (p : OptRow × CoreFun) (hp : p ∈ variadicPairs)
    (op : Op) (opim : Option Op) (invert : Bool) (hh : p.1.handler = .compreduce op opim invert)
    (code : List Instr) (s : List P.V) (pc t a : Nat) (m0 : Nat) (mids : List Nat) (last : RArg)
    (ht : t < 256) (ha : a < 256) (hm : ∀ r ∈ m0 :: mids, r < 256 ∧ r ≠ t) (hl : last.ok opim ∧ last.avoids t) (hsz : mids.length < 15999)
    (hlen : t < s.length) (hat : HasAt code pc (emitCompreduceCode op opim invert t a (m0 :: mids) last)) :
    ∃ m, evalInline P p.1 ((⟨s.getD a P.nil, none⟩ : Arg P) :: argOf P s (.reg m0) :: (mids.map (fun r => argOf P s (.reg r)) ++ [argOf P s last])) = some m ∧
      Computes P code s pc (2 * (mids.length + 1) + 1) m (fun v => s.set t v) (pc + (2 * (mids.length + 1) + 1)) ∧
      ∀ w, ∃ gcode fuel, p.2.words.map decode = gcode.map some ∧
        exec P gcode fuel (frame0 P T (((⟨s.getD a P.nil, none⟩ : Arg P) :: argOf P s (.reg m0) ::
          (mids.map (fun r => argOf P s (.reg r)) ++ [argOf P s last])).map (·.v))) w = some (m w) := by
  have hmem := (mem_variadicPairs p hp).1
  have hrow := List.all_eq_true.mp compreduce_rows_ok p.1 hmem
  simp only [compreduceRowOk, hh, Bool.and_eq_true, List.contains_iff_mem] at hrow
  have hop : IsBinOp P op := isBinOp_of_mem P op (by simpa using hrow.1)
  have himm : ∀ oi, opim = some oi → IsImmOp P oi := fun oi ho => isImmOp_of_base P oi op (immBase_of_immOk hrow.2 oi ho)
  have hne : p.1.tagName ≠ "SUBTRACT" := by
    intro hsub
    have := List.all_eq_true.mp subtract_is_opreduce p.1 hmem
    simp [hsub, hh] at this
  have hwf : ∀ x ∈ ((⟨s.getD a P.nil, none⟩ : Arg P) :: argOf P s (.reg m0) :: (mids.map (fun r => argOf P s (.reg r)) ++ [argOf P s last])),
      x.wf P :=
    List.forall_mem_cons.2 ⟨regArg_wf P _, List.forall_mem_cons.2 ⟨regArg_wf P _, List.forall_mem_append.2
      ⟨List.forall_mem_map.2 fun _ _ => regArg_wf P _, List.forall_mem_singleton.2 (argOf_wf P s last hl.1)⟩⟩⟩
  refine ⟨evalCompreduce P op opim invert ((⟨s.getD a P.nil, none⟩ : Arg P) :: argOf P s (.reg m0) ::
    (mids.map (fun r => argOf P s (.reg r)) ++ [argOf P s last])), by simp only [evalInline, hh], ?_, ?_⟩
  · have := cmp_chain_computes P op opim invert hop himm code t ht (m0 :: mids) last hm hl (by simp only [List.length_cons]; omega)
      s hlen pc a ha hat
    simp only [List.length_cons] at this
    rw [cmpSem_eq_goInline] at this
    exact this
  · exact fun w => generic_runs_inline P T p hp hne _ hwf _ (by simp only [evalInline, hh]) w

/-- non-vacuity: `(< a0 a1 5)` with the target in register 3 is `lt 3 0 1; jmpno 3 +2; ltim 3 1 5`; on the witness universe (every
    comparison is false) the chain leaves after the first comparison -/
example : emitCompreduceCode .lessThan (some .lessThanImmediate) false 3 0 [1] (.imm 5) =
      [mkABC .lessThan 3 0 1, mkAI .jumpIfNot 3 2, mkABI .lessThanImmediate 3 1 5] ∧
    exec Witness.WP ([mkABC .lessThan 3 0 1, mkAI .jumpIfNot 3 2, mkABI .lessThanImmediate 3 1 5, mkD .return 3]) 5
      ⟨[Witness.WV.n 10, .n 0, .n 7, .n 9], 0⟩ [] = some (.ok (.n 0), []) :=
  ⟨rfl, rfl⟩

/-- non-vacuity: `(+ a0 5 a2)` with the target in register 3 is `addim 3 0 5; add 3 3 2`; on the witness universe (integers) the same
    chain with `subim` / `sub` run from `[10, _, 7, _]` leaves `10 - 5 - 7 = -2` in register 3 -/
example : emitOpreduceCode .add (some .addImmediate) 3 0 (.imm 5) [.reg 2] = [mkABI .addImmediate 3 0 5, mkABC .add 3 3 2] ∧
    exec Witness.WP ([mkABI .subtractImmediate 3 0 5, mkABC .subtract 3 3 2, mkD .return 3]) 5
      ⟨[Witness.WV.n 10, .n 0, .n 7, .n 0], 0⟩ [] = some (.ok (.n (-2)), []) :=
  ⟨rfl, rfl⟩

namespace Witness

/-- a universe in which `get` works: `tab` stores `false` (= `n 0`) under key 0 and nothing under key 1; `mMul` plays nil -/
def gOther (op : Op) (a b : WV) (w : List String) : Except String WV × List String :=
  match op, a, b with
  | .get, .tab, .n 0 => (.ok (.n 0), w ++ ["get 0"])
  | .get, .tab, .n 1 => (.ok .mMul, w ++ ["get 1"])
  | _, _, _ => (.error "unsupported", w)

def gIsNil (v : WV) : Bool := v == .mMul

def GP : Prims := { WP with nil := WV.mMul, isNil := gIsNil, other := gOther }

end Witness

/-- non-vacuity of `get3_computes` / `fixed_emitted_eq_generic` with a `get` that returns values: the emitted code keeps a stored `false`
    (`n 0`, falsy but not nil) and takes the default 7 only for the missing key - while the same code with `JOP_JUMP_IF` in place of
    `JOP_JUMP_IF_NOT_NIL` (what `special_ops_ok` excludes) would replace the stored `false` by the default -/
example :
    exec Witness.GP (emitGet3 .get .jumpIfNotNil 3 0 1 2 ++ [mkD .return 3]) 9 ⟨[Witness.WV.tab, .n 0, .n 7, .n 9], 0⟩ [] =
      some (.ok (.n 0), ["get 0"]) ∧
    exec Witness.GP (emitGet3 .get .jumpIfNotNil 3 0 1 2 ++ [mkD .return 3]) 9 ⟨[Witness.WV.tab, .n 1, .n 7, .n 9], 0⟩ [] =
      some (.ok (.n 7), ["get 1"]) ∧
    exec Witness.GP (emitGet3 .get .jumpIf 3 0 1 2 ++ [mkD .return 3]) 9 ⟨[Witness.WV.tab, .n 0, .n 7, .n 9], 0⟩ [] =
      some (.ok (.n 7), ["get 0"]) :=
  ⟨rfl, rfl, rfl⟩

/-- the structure of `do_apply` the model `Spec.emitApply` / `Spec.pushLeading` mirrors -/
def applyShapeExpected : ApplyShape := ⟨1, 3, 3, .push3, 3, .push2, 2, .push, .pushArray, .tailcall, .call⟩

/-- checkable on the regenerated tables: every row handled by `do_apply` has the arity guard `>= 2` and a template of kind `apply`
    whose words decode to `Spec.applyCode`, a 6-slot vararg function of arity 1; and `do_apply` has the modelled structure -/
def applyRowsOk : Bool :=
  optimizers.all (fun r => r.handlerName != "do_apply" ||
    (r.guard == .ge 2 && r.handler == .special "do_apply" &&
      match templateOf r.tag with
      | none => false
      | some t => t.kind == .apply && decodesTo t.words applyCode && t.slots == 6 && t.vararg && t.arity == 1 && t.minArity == 1)) &&
  (optimizers.filter (fun r => r.handlerName == "do_apply")).length == 1 &&
  applyShape == applyShapeExpected

/-- obligation on the regenerated tables -/
theorem apply_row_ok : applyRowsOk = true := by decide +kernel

/-- the interpreter of a nested activation: its calls see the outer caller's captured slots (lent for the duration of the call) -/
def lend {P : Prims} (X : CallPrims P) (vw : Nat → Option P.V) : CallPrims P := { X with call := fun g a _ => X.call g a vw }

theorem applySem_lend {P : Prims} (X : CallPrims P) (vw : Nat → Option P.V) (f : P.V) (lead : List P.V) (last : P.V) :
    applySem (lend X vw) f lead last (fun _ => none) = applySem X f lead last vw := by
  unfold applySem lend
  cases X.indexedView last <;> rfl

/-- `apply` compiled inline (tail position) computes what running the generic function's REAL bytecode computes, for every function
    value, every list of leading arguments (none included), every last argument: one call of `f` on the leading values followed by the
    elements of the last one - or the not-indexed error, raised before any call - in the same world.  `s` are the caller's slots; the
    generic function runs in its own 6-slot frame on `(f ;lead last)`. -/
theorem apply_inline_eq_generic (X : CallPrims P) (T : TupleLaws P) (cap : Nat → Bool) (r : OptRow) (hr : r ∈ optimizers)
    (hh : r.handlerName = "do_apply") (t : CoreFun) (ht : templateOf r.tag = some t)
    (s : List P.V) (f : Nat) (lead : List Nat) (last : Nat) (hlead : ∀ x ∈ lead, x < 256) (hl : last < 16777216) (hf : f < 16777216) (w : P.W) :
    ∃ code fuel fuel', t.words.map decode = code.map some ∧
      execX (lend X (view P cap s)) noCap code fuel (applyFrame0 T (getS P s f) (lead.map (getS P s) ++ [getS P s last])) w =
        execX X cap (emitApply f lead last none) fuel' ⟨s, [], 0⟩ w ∧
      execX X cap (emitApply f lead last none) fuel' ⟨s, [], 0⟩ w =
        some (retOf (applySem X (getS P s f) (lead.map (getS P s)) (getS P s last) (view P cap s) w)) := by
  have hall := apply_row_ok
  unfold applyRowsOk at hall
  simp only [Bool.and_eq_true] at hall
  have hrow := List.all_eq_true.mp hall.1.1 r hr
  simp only [hh, bne_self_eq_false, Bool.false_or, ht, Bool.and_eq_true, beq_iff_eq, decodesTo] at hrow
  obtain ⟨_, ⟨⟨⟨⟨⟨_, hd⟩, _⟩, _⟩, _⟩, _⟩⟩ := hrow
  obtain ⟨fuel, hg⟩ := apply_template_correct (lend X (view P cap s)) T (getS P s f) (lead.map (getS P s) ++ [getS P s last]) w
  have hi := apply_inline_tail X cap (emitApply f lead last none) s 0 f lead last hlead hl hf (by simpa using HasAt.self _) w
  refine ⟨applyCode, fuel, _, hd, ?_, hi⟩
  rw [hg, hi]
  simp only [List.reverse_append, List.reverse_cons, List.reverse_nil, List.nil_append, List.singleton_append, List.reverse_reverse,
    applySem_lend]

/-- obligation on the regenerated structure of `janetc_pushslots` / the generic route of `janetc_call`: the branches `Spec.pushSlots` mirrors -/
theorem pushslots_shape_ok :
    pushSlotsBranches = [
      ("slots[i].flags & JANET_SLOT_SPLICED", [.pushArray], 1),
      ("i + 1 == count", [.push], 1),
      ("slots[i + 1].flags & JANET_SLOT_SPLICED", [.push, .pushArray], 2),
      ("i + 2 == count", [.push2], 2),
      ("slots[i + 2].flags & JANET_SLOT_SPLICED", [.push2, .pushArray], 3),
      ("", [.push3], 3)] ∧ genericCallOps = (.tailcall, .call) :=
  ⟨rfl, rfl⟩

/-- a call with a splice, `(f a ;xs b)`, of ANY function - specialised ones included - is compiled by the generic route and performs
    exactly one call of the function VALUE on the argument values with the spliced ones expanded in place (or raises the not-indexed
    error of the first bad splice, before any call) -/
theorem spliced_call_is_generic (X : CallPrims P) (cap : Nat → Bool) (head : Option Nat) (args : List SArg) (hsp : hasSpliced args = true)
    (s : List P.V) (f : Nat) (hr : ∀ x ∈ args, x.reg < 256) (hf : f < 16777216) (w : P.W) :
    selectSpecialised head args = none ∧
    execX X cap (emitGenericCall f args none) ((pushSlots args).length + 1) ⟨s, [], 0⟩ w =
      match argVals X s args with
      | .error e => some (.error e, w)
      | .ok vs => some (retOf (X.call (getS P s f) vs (view P cap s) w)) :=
  ⟨splice_selects_generic head args hsp,
   generic_call_tail X cap (emitGenericCall f args none) s 0 f args hr hf (by simpa using HasAt.self _) w⟩

/-- `(apply f a.. xs)` compiled inline and the spliced call `(f a.. ;xs)` make the same call: same callee, same argument list, same
    not-indexed error -/
theorem apply_eq_splice (X : CallPrims P) (s : List P.V) (lead : List Nat) (last : Nat) (f : P.V) (vw : Nat → Option P.V) (w : P.W) :
    (match argVals X s (lead.map (fun r => (⟨r, false⟩ : SArg)) ++ [⟨last, true⟩]) with
      | .error e => (.error e, w)
      | .ok vs => X.call f vs vw w) = applySem X f (lead.map (getS P s)) (getS P s last) vw w := by
  rw [argVals_apply_shape]
  unfold applySem
  cases X.indexedView (getS P s last) <;> rfl

/-- the four nil fast paths regenerated from specials.c name equality-family rows with the matching jump sense -/
theorem nil_fast_paths_consistent : nilFastPaths.length = 4 ∧ nilFastPaths.all nilPathOk = true := by
  decide +kernel

/-- does the fast-path jump of a nil test LEAVE the then-branch / the loop when the tested value is `x` (reading of `VM.step`) -/
def fastLeaves (jop : Op) (x : P.V) : Bool :=
  match jop with
  | .jumpIfNotNil => !P.isNil x
  | .jumpIfNil => P.isNil x
  | _ => false

/-- the one instruction the fast path emits (`janetc_emit_si(c, ifnjmp, cond, 0, 0)`, offset patched later) goes to the jump target exactly
    when `fastLeaves`, else falls through -/
theorem fast_jump_step (jop : Op) (h : jop = .jumpIfNotNil ∨ jop = .jumpIfNil) (i : Instr) (hi : i.op = jop) (f : Frame P) :
    step P i f = some (M.pure (.cont (if fastLeaves P jop (getSlot P f i.A) then jumpBy P f i.ES else next P f))) := by
  -- on these two opcodes `fastLeaves` is `Spec.jumpTaken`
  rcases h with rfl | rfl
  · exact guard_jump_step P _ rfl i hi f
  · exact guard_jump_step P _ rfl i hi f

/-- for each of the four nil fast paths regenerated from specials.c (`if` / `while` x `=` / `not=`): the head function's row is a
    comparison row, and the value the ordinary (inline or generic) comparison `(f nil x)` / `(f x nil)` would compute is truthy exactly when
    the fast-path jump does NOT leave - so `jmp<fast> x -> L` and `t := (f nil x); jmpno t -> L` take the same branch, for every `x`,
    without calling anything (pure, world unchanged) -/
theorem nil_fast_path_same_branch (hnil : ∀ x, P.eqv P.nil x = P.isNil x ∧ P.eqv x P.nil = P.isNil x) :
    ∀ p ∈ nilFastPaths, ∃ r ∈ optimizers, r.tagName = p.2.1 ∧ ∃ op opim inv, r.handler = .compreduce op opim inv ∧
      (p.2.2 = .jumpIfNotNil ∨ p.2.2 = .jumpIfNil) ∧
      ∀ x, binop P op P.nil x = M.pure (ofBool P (!fastLeaves P p.2.2 x)) ∧ binop P op x P.nil = M.pure (ofBool P (!fastLeaves P p.2.2 x)) := by
  intro p hp
  have hok := List.all_eq_true.mp nil_fast_paths_consistent.2 p hp
  unfold nilPathOk at hok
  split at hok
  · rename_i r hfind
    split at hok
    · rename_i op opim inv hh
      refine ⟨r, List.mem_of_find?_eq_some hfind, ?_, op, opim, inv, hh, ?_⟩
      · have := List.find?_some hfind
        simpa using this
      · simp only [Bool.or_eq_true, Bool.and_eq_true, beq_iff_eq] at hok
        rcases hok with ⟨⟨hk, _⟩, hj⟩ | ⟨⟨hk, _⟩, hj⟩
        · refine ⟨Or.inl hj, fun x => ?_⟩
          simp [binop, binopK, hk, hj, fastLeaves, (hnil x).1, (hnil x).2]
        · refine ⟨Or.inr hj, fun x => ?_⟩
          simp [binop, binopK, hk, hj, fastLeaves, (hnil x).1, (hnil x).2]
    · cases hok
  · cases hok

/-- non-vacuity: the hypothesis holds in the driver's concrete universe (integers, nil, booleans, tables), where `false` is not nil -/
example : (∀ x, DP.eqv DP.nil x = DP.isNil x ∧ DP.eqv x DP.nil = DP.isNil x) ∧ fastLeaves DP .jumpIfNotNil (DV.bool false) = true ∧
    fastLeaves DP .jumpIfNotNil DV.nil = false := by
  refine ⟨fun x => ?_, rfl, rfl⟩
  cases x <;> exact ⟨rfl, rfl⟩

/-- what the fast path relies on: `(= nil x)` / `(= x nil)` is true exactly when `x` is nil, `not=` the opposite, so testing the
    operand with jump-if-(not-)nil decides the condition the specialised (and the generic) comparison would compute -/
theorem nil_condition_value (hnil : ∀ x, P.eqv P.nil x = P.isNil x ∧ P.eqv x P.nil = P.isNil x) (x : P.V) :
    binop P .equals P.nil x = M.pure (ofBool P (P.isNil x)) ∧ binop P .equals x P.nil = M.pure (ofBool P (P.isNil x)) ∧
    binop P .notEquals P.nil x = M.pure (ofBool P (!P.isNil x)) ∧ binop P .notEquals x P.nil = M.pure (ofBool P (!P.isNil x)) := by
  refine ⟨?_, ?_, ?_, ?_⟩ <;> simp [binop, binopK, kindOf, (hnil x).1, (hnil x).2]

/-- the opcodes `janetc_movenear` emits (read from its regenerated skeleton, in order: deref of a `var` reference, upvalue, far local) are
    the ones the model `Spec.loadInstr` uses for the upvalue and far-local operands -/
theorem movenear_ops_ok : ((skeletonOf "janetc_movenear").filterMap (·.op)) = [.getIndex, .loadUpvalue, .moveNear] ∧
    loadInstr 7 (.upv 1 2) = some (mkABC .loadUpvalue 7 1 2) ∧ loadInstr 7 (.far 300) = some (mkAE .moveNear 7 300) :=
  ⟨rfl, rfl, rfl⟩

/-- non-vacuity of `Spec.operands_loaded`: `(+ far300 upvalue)`-style operands give two load instructions and the registers 240 / 241 -/
example : regnear 240 (.far 300) = (240, [mkAE .moveNear 240 300]) ∧ regnear 241 (.upv 0 3) = (241, [mkABC .loadUpvalue 241 0 3]) ∧
    regnear 240 (.near 5) = (5, []) ∧ (Opd.far 300).ok ∧ ¬ (Opd.far 300).reads 241 := by
  refine ⟨rfl, rfl, rfl, ?_, ?_⟩
  · show 300 < 65536; omega
  · show ¬ (300 = 241); omega

/-- obligation on the rows regenerated from specials.c (symbolic execution of the skeletons of `janetc_if` / `janetc_while`, one row per
    emission site and per list of heads `janetc_check_nil_form` stripped): the rows are exactly the expected (form, heads, site) - at most
    ONE head is ever stripped, `while` has its guard at both sites - and each carries the opcode, offset argument and following
    `JOP_RETURN_NIL` of the model `guardSel` -/
theorem nil_guard_sites_ok :
    nilGuardSites.map (fun g => (g.form, g.path, g.site)) = guardSiteKeys ∧ nilGuardSites.all guardSiteOk = true := by
  decide +kernel

/-- the same for the predicate applied to a constant condition -/
theorem nil_const_folds_ok : nilConstFolds.map (fun c => (c.form, c.path)) = constFoldKeys ∧ nilConstFolds.all constFoldOk = true := by
  decide +kernel

/-- the heads `EQ` / `NEQ` are the comparison rows of `optimizers[]` with the opcodes `condValue` uses -/
theorem nil_head_rows_ok : headRowOk .eq = true ∧ headRowOk .neq = true := by decide +kernel

/-- every conditional jump `janetc_if` / `janetc_while` emit for a condition, at every site and for every stripped head, takes the branch
    the UNSPECIALISED condition would take: with `v` the (pure) value of `(f nil x)` = `(f x nil)` computed by the head's comparison row
    (`x` itself without a head), the `main` jump leaves exactly when `v` is falsy and the `iife` jump skips the `retn` exactly when `v` is
    truthy - for every `x`, `false` included -/
theorem guard_site_same_branch (hnil : ∀ x, P.eqv P.nil x = P.isNil x ∧ P.eqv x P.nil = P.isNil x) :
    ∀ g ∈ nilGuardSites, ∃ t, pathTag g.path = some t ∧ isCondJump g.op = true ∧
      (∀ h, t = some h → ∃ r ∈ optimizers, g.path = [r.tagName] ∧ ∃ op opim inv, r.handler = .compreduce op opim inv ∧
        ∀ a b, binop P op a b = binop P h.op a b) ∧
      ∀ x, ∃ v, condValue P t x = M.pure v ∧ condValueR P t x = M.pure v ∧
        jumpTaken P g.op x = (if g.site = "main" then !P.truthy v else P.truthy v) := by
  intro g hg
  have hok := List.all_eq_true.mp nil_guard_sites_ok.2 g hg
  have hrow : ∀ t, pathTag g.path = some t → ∀ h, t = some h → ∃ r ∈ optimizers, g.path = [r.tagName] ∧ ∃ op opim inv,
      r.handler = .compreduce op opim inv ∧ ∀ a b, binop P op a b = binop P h.op a b := by
    intro t ht h hth
    subst hth
    obtain ⟨r, hr, hn, rest⟩ := headRow_binop P h (by cases h; exact nil_head_rows_ok.1; exact nil_head_rows_ok.2)
    refine ⟨r, hr, ?_, rest⟩
    rcases pathTag_cases g.path (some h) ht with ⟨_, hc⟩ | ⟨n, k, hp, hof, hk⟩
    · cases hc
    · cases hk
      rw [hp, hn, ofName_name n h hof]
      cases h <;> rfl
  by_cases hm : g.site = "main"
  · obtain ⟨t, ht, hop, _⟩ := guardSiteOk_main g hok hm
    refine ⟨t, ht, ?_, hrow t ht, fun x => ?_⟩
    · rw [hop]; exact (guardSel_sound P t P.nil).2.2.1
    · obtain ⟨v, h1, h2, h3⟩ := condValue_truthy P hnil t x
      exact ⟨v, h1, h2, by rw [hop, (guardSel_sound P t x).1, h3, if_pos hm]⟩
  · obtain ⟨t, ht, _, _, hop, _, _⟩ := guardSiteOk_iife g hok hm
    refine ⟨t, ht, ?_, hrow t ht, fun x => ?_⟩
    · rw [hop]; exact (guardSel_sound P t P.nil).2.2.2
    · obtain ⟨v, h1, h2, h3⟩ := condValue_truthy P hnil t x
      exact ⟨v, h1, h2, by rw [hop, (guardSel_sound P t x).2.1, h3, if_neg hm]⟩

/-- the guard of a while loop that was recompiled as a tail-recursive closure (the body creates a closure), as emitted: for every regenerated
    `iife` row, code `jmp<op> x +offset; <nextOp>` at `pc` returns nil when the unspecialised condition is false of `x` and enters the loop
    body at `pc + 2` with unchanged slots when it is true -/
theorem while_iife_guard_computes : ∀ g ∈ nilGuardSites, g.site = "iife" → ∃ t, pathTag g.path = some t ∧
    ∀ (code : List Instr) (pc : Nat) (i j : Instr), code[pc]? = some i → code[pc + 1]? = some j → i.op = g.op → i.ES = g.offset →
      some j.op = g.nextOp → ∀ (s : List P.V) (w : P.W) (fuel : Nat),
      exec P code (fuel + 2) ⟨s, pc⟩ w =
        if condHolds P t (s.getD i.A P.nil) then exec P code (fuel + 1) ⟨s, pc + 2⟩ w else some (.ok P.nil, w) := by
  intro g hg hsite
  have hok := List.all_eq_true.mp nil_guard_sites_ok.2 g hg
  obtain ⟨t, ht, _, _, hgop, hgoff, hgnx⟩ := guardSiteOk_iife g hok (by rw [hsite]; decide)
  refine ⟨t, ht, fun code pc i j hi hj hop hoff hnx s w fuel => ?_⟩
  refine iife_guard_exec P t code pc i j hi hj (hop.trans hgop) ?_ ?_ s w fuel
  · rw [hoff, hgoff]; rfl
  · rw [hgnx] at hnx
    exact Option.some.inj hnx

/-- constant folding: for every regenerated row, the predicate of the constant condition `c` under which `janetc_if` compiles only the
    else-body / `janetc_while` compiles nothing holds exactly when the unspecialised condition value is falsy - the decision taken at compile
    time is the one the `main` jump of the same (form, heads) takes at run time -/
theorem const_fold_same_branch (hnil : ∀ x, P.eqv P.nil x = P.isNil x ∧ P.eqv x P.nil = P.isNil x) :
    ∀ c ∈ nilConstFolds, ∃ t, pathTag c.path = some t ∧ ∀ x, ∃ v, condValue P t x = M.pure v ∧ condValueR P t x = M.pure v ∧
      predHolds P c.pred x = some (!P.truthy v) ∧
      ∀ g ∈ nilGuardSites, g.form = c.form → g.path = c.path → g.site = "main" → predHolds P c.pred x = some (jumpTaken P g.op x) := by
  intro c hc
  have hok := List.all_eq_true.mp nil_const_folds_ok.2 c hc
  unfold constFoldOk at hok
  split at hok
  · cases hok
  · rename_i t ht
    simp only [Bool.and_eq_true, beq_iff_eq] at hok
    refine ⟨t, ht, fun x => ?_⟩
    obtain ⟨v, h1, h2, h3⟩ := condValue_truthy P hnil t x
    refine ⟨v, h1, h2, by rw [hok.1, (guardSel_fold_sound P t x).1, h3], fun g hg _ hp hs => ?_⟩
    obtain ⟨t', ht', hop', _⟩ := guardSiteOk_main g (List.all_eq_true.mp nil_guard_sites_ok.2 g hg) hs
    rw [hp, ht] at ht'
    cases ht'
    rw [hok.1, hop']
    exact (guardSel_fold_sound P t x).2

/-- non-vacuity: in the driver's universe `false` is not nil, so the `(not= nil x)` guard of the closure-recompiled loop must be
    `JOP_JUMP_IF_NOT_NIL` - with `JOP_JUMP_IF` (truthiness) the loop would end at a stored `false`; and the rows do contain that site -/
example : (⟨"while", ["NEQ"], "iife", .jumpIfNotNil, 2, some .returnNil⟩ : GuardSite) ∈ nilGuardSites ∧
    jumpTaken DP .jumpIfNotNil (DV.bool false) = true ∧ jumpTaken DP .jumpIf (DV.bool false) = false ∧
    condHolds DP (some .neq) (DV.bool false) = true ∧
    guardSiteOk ⟨"while", ["NEQ"], "iife", .jumpIf, 2, some .returnNil⟩ = false ∧
    guardSiteOk ⟨"while", ["EQ", "NEQ"], "main", .jumpIfNil, 0, none⟩ = false := by
  refine ⟨by decide, rfl, rfl, rfl, by decide, by decide⟩

/-- non-vacuity of `while_iife_guard_computes`: the emitted guard on a frame whose slot 0 holds `false` enters the body (here: returns
    slot 1), on nil it returns nil -/
example : exec DP [mkAI .jumpIfNotNil 0 2, mkD .returnNil 0, mkD .return 1] 3 ⟨[DV.bool false, DV.int 7], 0⟩ [] = some (Except.ok (DV.int 7), []) ∧
    exec DP [mkAI .jumpIfNotNil 0 2, mkD .returnNil 0, mkD .return 1] 3 ⟨[DV.nil, DV.int 7], 0⟩ [] = some (Except.ok DV.nil, []) := by
  exact ⟨rfl, rfl⟩

open JanetModel.Bytecode.VMPasses in
/-- instance of the movopt side conditions on the REGENERATED tables (reads ⊇ what the VM reads; a removable opcode
    writes the tested field and is pure or never actually removed) - for every opcode except `JOP_GET_INDEX` -/
theorem movopt_tables_sound_partial : ∀ op ∈ Op.all, op ≠ .getIndex → movoptOpOk op = true := by
  decide +kernel

open JanetModel.Bytecode.VMPasses in
/-- the missing part: `JOP_GET_INDEX` is either not removable, or it is removable although it is not pure (it raises on a
    non-indexed operand) - which is the case on a tree whose `movopt` lists `JOP_GET_INDEX` among the removable opcodes -/
theorem movopt_getindex : movoptRemovable .getIndex = none ∨ (movoptRemovable .getIndex = some .a ∧ ¬ (Op.getIndex ∈ pureOps)) := by
  decide +kernel

open JanetModel.Bytecode.VMPasses in
/-- the full table condition holds exactly when `JOP_GET_INDEX` is not removable -/
theorem movopt_tables_sound_or_getindex : movoptTablesOk = true ∨ movoptRemovable .getIndex = some .a := by
  decide +kernel

/-- `Op.all` lists every opcode, at the index that is its number -/
theorem mem_opAll (op : Op) : op ∈ Op.all :=
  List.mem_of_getElem? (i := op.toNat) (by cases op <;> decide +kernel)

open JanetModel.Bytecode.VMPasses in
/-- `movopt_preserves` instantiated with the regenerated tables, for code without `JOP_GET_INDEX` (on a tree where that opcode is
    not in the removable set `movoptTablesOk` holds outright, see `movopt_tables_sound_or_getindex`) -/
theorem movopt_preserves_instance (D : Nat → Bool) (code code' : List Instr)
    (hnogeti : ∀ x ∈ code, x.op ≠ .getIndex)
    (hreadsC : ∀ x ∈ code, ∀ g ∈ movoptReads x.op, D (fieldVal x g) = false)
    (hchg : ∀ (i : Nat) (x : Instr), code[i]? = some x →
      code'[i]? = some x ∨ (code'[i]? = some ⟨.noop, 0⟩ ∧ ∃ f, movoptRemovable x.op = some f ∧ D (fieldVal x f) = true))
    (fuel : Nat) (s : List P.V) (pc : Nat) (w : P.W) (r : Except P.E P.V × P.W)
    (h : exec P code fuel ⟨s, pc⟩ w = some r) : exec P code' fuel ⟨s, pc⟩ w = some r :=
  movopt_preserves_tables P D code code' hreadsC
    (fun x hx => movopt_tables_sound_partial x.op (mem_opAll x.op) (hnogeti x hx)) hchg fuel s pc w r h

open JanetModel.Bytecode.VMPasses in
/-- obligation on the REGENERATED retarget table of `janet_bytecode_remove_noops`: the opcodes whose operand the pass rewrites are
    exactly the opcodes that jump in the VM model (`isJumpD` / `isJumpE`), in the right field - and those are exactly the opcodes
    bytecode.c types as label operands (`JINT_L`, `JINT_SL`) -/
theorem remove_noops_retargets_ok :
    (∀ op ∈ Op.all, isJumpD op = removeNoopsRetargets.contains (op, Field.d)) ∧
    (∀ op ∈ Op.all, isJumpE op = removeNoopsRetargets.contains (op, Field.e)) ∧
    (∀ op ∈ Op.all, isJumpD op = (Op.itype op == .l) ∧ isJumpE op = (Op.itype op == .sl)) ∧
    removeNoopsRetargets.length = 5 := by
  decide +kernel

open JanetModel.Bytecode.VMPasses in
/-- `movopt_preserves_x` instantiated with the regenerated tables over the full interpreter (calls, closures, upvalues, pushes,
    constructors): code without `JOP_GET_INDEX`, `D` disjoint from the closure bitset -/
theorem movopt_preserves_instance_x (X : CallPrims P) (D cap : Nat → Bool) (hcap : ∀ k, cap k = true → D k = false) (code code' : List Instr)
    (hnogeti : ∀ x ∈ code, x.op ≠ .getIndex)
    (hreadsC : ∀ x ∈ code, ∀ g ∈ movoptReads x.op, D (fieldVal x g) = false)
    (hchg : ∀ (i : Nat) (x : Instr), code[i]? = some x →
      code'[i]? = some x ∨ (code'[i]? = some ⟨.noop, 0⟩ ∧ ∃ f, movoptRemovable x.op = some f ∧ D (fieldVal x f) = true))
    (fuel : Nat) (s a : List P.V) (pc : Nat) (w : P.W) (r : Except P.E P.V × P.W)
    (h : execX X cap code fuel ⟨s, a, pc⟩ w = some r) : execX X cap code' fuel ⟨s, a, pc⟩ w = some r :=
  movopt_preserves_tables_x X D cap hcap code code' hreadsC
    (fun x hx => movopt_tables_sound_partial x.op (mem_opAll x.op) (hnogeti x hx)) hchg fuel s a pc w r h

end JanetModel.Props.C15
