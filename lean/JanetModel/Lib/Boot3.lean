import JanetModel.Lib.Boot
import JanetModel.Lib.CLoop
/- C17: boot.janet `partition` / `partition-slice` mirrors.  Core Lean only. -/
namespace JanetModel.Lib.Boot
open JanetModel.Lib JanetModel.Lib.JIter JanetModel.Lib.CLoop

/-- body of `(forv k 0 parts (put ret k (f ind start end)) (set start end) (+= end n))` -/
def partitionBody {α : Type} (n : Int) (ind : List α) (k : Nat) (st : Array (List α) × Int × Int) :
    R (Array (List α) × Int × Int) := do
  let sl ← R.ofOption (slice ind (some st.2.1) (some st.2.2))       -- (f ind start end)
  let ret ← setIdx st.1 (k : Int) sl                                -- (put ret k …)
  pure (ret, st.2.2, st.2.2 + n)                                    -- (set start end) (+= end n)

/-- `(defn- partition-slice [f n ind] (var [start end] [0 n]) (def len (length ind)) (def parts (div len n))
       (def ret (array/new-filled parts)) (forv k 0 parts …) (if (< start len) (array/push ret (f ind start))) ret)`
    for a positive integer `n` (`(div len n)` = floor division; for `n ≤ 0` `array/new-filled` raises). -/
def partitionSlice {α : Type} (n : Int) (ind : List α) : R (List (List α)) :=
  if n ≤ 0 then .panic else do
    let len : Int := ind.length
    let parts := (len / n).toNat
    let st ← forUp (partitionBody n ind) parts 0 (Array.replicate parts [], 0, n)
    let start := st.2.1
    let ret ← (if start < len then do
                 let sl ← R.ofOption (slice ind (some start) none)
                 pure (st.1.push sl)
               else pure st.1 : R (Array (List α)))
    pure ret.toList

/-- `(partition n ind)` on indexed (`tuple/slice`) and bytes (`string/slice`) values -/
def partition {α : Type} (n : Int) (ind : List α) : R (List (List α)) := partitionSlice n ind

end JanetModel.Lib.Boot
