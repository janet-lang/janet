import JanetModel.Lib.Boot6
/- C17: boot.janet `map-n n` for EVERY n (the macro's expansion, of which map-template instantiates n = 1, 2, 3)
   and the general branch of `map-template` (≥ 4 extra sequences: `iter-keys` / `call-buffer` arrays, `forv` with `(break)`,
   `done` flag), with any aggregator that does not itself `(break)` (:map, :mapcat, :keep, :count).  Core Lean only.

     (defmacro- map-n [n maptype res f ind inds]
       ~(do (def ,(seq [k :range [0 n]] (symbol 'ind k)) ,inds)
            ,;(seq [k :range [0 n]] ~(var ,(symbol 'key k) nil))
            (each x ,ind
              ,;(seq [k :range [0 n]] ~(if (= nil (set ,(symbol 'key k) (next ,(symbol 'ind k) ,(symbol 'key k)))) (break)))
              (map-aggregator ,maptype ,res (,f x ,;(seq [k :range [0 n]] ~(in ,(symbol 'ind k) ,(symbol 'key k))))))))

   The extra sequences are a list `inds`, the variables `key0 … key(n-1)` a list of the same length. -/
namespace JanetModel.Lib.Boot
open JanetModel.Lib JanetModel.Lib.JIter

/-- the `n` statements `(if (= nil (set keyK (next indK keyK))) (break))` in order; `none` = `(break)` -/
def advanceKeys {β : Type} : List (List β) → List (Option Nat) → Option (List Nat)
  | [], _ => some []
  | _ :: _, [] => none
  | ind :: inds, key :: keys =>
    match nextKey ind.length key with
    | none => none
    | some k =>
      match advanceKeys inds keys with
      | none => none
      | some ks => some (k :: ks)

/-- the arguments `(in ind0 key0) … (in ind(n-1) key(n-1))` -/
def fetchRow {β : Type} : List (List β) → List Nat → R (List β)
  | ind :: inds, k :: ks => do
    let v ← inIdx ind k
    let vs ← fetchRow inds ks
    pure (v :: vs)
  | _, _ => .ok []

def mapNBody {α β γ σ : Type} (agg : σ → γ → σ) (f : α → List β → γ) (inds : List (List β)) (_ : Nat) (x : α)
    (st : σ × List (Option Nat)) : R ((σ × List (Option Nat)) × Bool) :=
  match advanceKeys inds st.2 with
  | none => .ok (st, true)                                             -- (break)
  | some ks =>
    match fetchRow inds ks with
    | .ok row => .ok ((agg st.1 (f x row), ks.map some), false)        -- (map-aggregator maptype res (f x …))
    | .panic => .panic
    | .ub => .ub

def mapN {α β γ σ : Type} (agg : σ → γ → σ) (f : α → List β → γ) (init : σ) (ind : List α) (inds : List (List β)) : R σ := do
  let st ← each ind (mapNBody agg f inds) (init, inds.map (fun _ => none))
  pure st.1

/-! ## the general branch of map-template

     (do (def iter-keys (array/new-filled ninds)) (def call-buffer (array/new-filled ninds)) (var done false)
         (each x ind
           (forv i 0 ninds
             (let [old-key (in iter-keys i) ii (in inds i) new-key (next ii old-key)]
               (if (= nil new-key)
                 (do (set done true) (break))
                 (do (set (iter-keys i) new-key) (set (call-buffer i) (in ii new-key))))))
           (if done (break))
           (map-aggregator maptype res (f x ;call-buffer)))) -/

structure GenSt (β σ : Type) where
  res : σ
  iterKeys : Array (Option Nat)
  callBuffer : Array (Option β)          -- `array/new-filled ninds` = nils
  done : Bool

/-- the `forv i 0 ninds` loop (`forv` = `(var i 0) (while (< i ninds) … (++ i))`); returns the two arrays and `done` -/
def fillCallBuffer {β : Type} (inds : Array (List β)) :
    Nat → Nat → Array (Option Nat) → Array (Option β) → R (Array (Option Nat) × Array (Option β) × Bool)
  | 0, _, iterKeys, callBuffer => .ok (iterKeys, callBuffer, false)
  | fuel + 1, i, iterKeys, callBuffer =>
    match iterKeys[i]?, inds[i]? with                                  -- (in iter-keys i) (in inds i): raise if out of range
    | some oldKey, some ii =>
      match nextKey ii.length oldKey with                              -- (next ii old-key)
      | none => .ok (iterKeys, callBuffer, true)                       -- (set done true) (break)
      | some newKey =>
        match inIdx ii newKey with                                     -- (in ii new-key)
        | .ok v =>
          match setIdx iterKeys (i : Int) (some newKey) with           -- (set (iter-keys i) new-key)
          | .ok iterKeys' =>
            match setIdx callBuffer (i : Int) (some v) with            -- (set (call-buffer i) …)
            | .ok callBuffer' => fillCallBuffer inds fuel (i + 1) iterKeys' callBuffer'
            | .panic => .panic
            | .ub => .ub
          | .panic => .panic
          | .ub => .ub
        | .panic => .panic
        | .ub => .ub
    | _, _ => .panic

def mapGenBody {α β γ σ : Type} (agg : σ → γ → σ) (f : α → List β → γ) (inds : Array (List β)) (_ : Nat) (x : α)
    (st : GenSt β σ) : R (GenSt β σ × Bool) :=
  match fillCallBuffer inds inds.size 0 st.iterKeys st.callBuffer with
  | .ok (ik, cb, done) =>
    if done then .ok ({ st with iterKeys := ik, callBuffer := cb, done := true }, true)     -- (if done (break))
    else .ok ({ res := agg st.res (f x (cb.toList.filterMap id)), iterKeys := ik, callBuffer := cb, done := false }, false)
  | .panic => .panic
  | .ub => .ub

def mapGen {α β γ σ : Type} (agg : σ → γ → σ) (f : α → List β → γ) (init : σ) (ind : List α) (inds : List (List β)) : R σ := do
  let n := inds.length
  let st ← each ind (mapGenBody agg f inds.toArray)
    { res := init, iterKeys := Array.replicate n none, callBuffer := Array.replicate n none, done := false }
  pure st.res

/-- what both compute: the aggregator folded over the rows `j < m`, `m` the length of the shortest sequence -/
def mapRows {α β γ σ : Type} (agg : σ → γ → σ) (f : α → List β → γ) (init : σ) (ind : List α) (inds : List (List β)) : σ :=
  let m := (inds.map List.length).foldl min ind.length
  (List.range m).foldl (fun s j => match ind[j]? with
    | some x => agg s (f x (inds.filterMap (fun c => c[j]?)))
    | none => s) init

end JanetModel.Lib.Boot
