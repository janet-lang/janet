import JanetModel.Lib.Boot
/- C17: mirrors of further boot.janet sequence functions:
   `keep`, `mapcat` (map-template with 0 and 1 extra sequence, i.e. also `interleave` of one / two columns), `count` / `keep`
   over two sequences, `interpose` (pre-sized array filled at the even indices), `frequencies` and `group-by` (tables as
   association lists in order of first insertion).  Core Lean only.
   Source text: Gen/LibSrc.lean `boot_*`, compared in Lib/SrcTie.lean. -/
namespace JanetModel.Lib

/-- reference definition of `group-by f ind` as an association list: the keys in order of first occurrence, each with
    the elements of that key in their original order -/
def groupBy {α κ : Type} [BEq κ] (f : α → κ) (l : List α) : List (κ × List α) :=
  (distinct (l.map f)).map (fun k => (k, l.filter (fun x => f x == k)))

end JanetModel.Lib

namespace JanetModel.Lib.Boot
open JanetModel.Lib JanetModel.Lib.JIter

/-! ## map-template with the aggregators :keep / :mapcat / :count -/

/-- `(keep pred ind)`: branch `0` of map-template, aggregator `(if (def y (pred x)) (array/push res y))`;
    `pred x = none` stands for a falsey result -/
def keepAgg {β : Type} (res : Array β) : Option β → Array β
  | some y => res.push y
  | none => res

def keep1 {α β : Type} (pred : α → Option β) (ind : List α) : R (List β) := do
  let res ← each ind (fun _ x (res : Array β) => .ok (keepAgg res (pred x), false)) #[]
  pure res.toList

/-- `(mapcat f ind)`: branch `0`, aggregator `(array/concat res (f x))`; `f` returns an indexed value whose elements
    `array/concat` appends one by one (cfun_array_concat is mirrored in Lib/ArrC.lean) -/
def mapcat1 {α β : Type} (f : α → List β) (ind : List α) : R (List β) := do
  let res ← each ind (fun _ x (res : Array β) => .ok (res ++ (f x).toArray, false)) #[]
  pure res.toList

/-- `map-n 1` of map-template for an aggregator that does not `(break)` (:map, :mapcat, :keep, :count):
      `(def [ind0] inds) (var key0 nil)
       (each x ind (if (= nil (set key0 (next ind0 key0))) (break)) (map-aggregator maptype res (f x (in ind0 key0))))`
    `agg res x y` is the state after the aggregator ran on `(f x y)` -/
def mapN1Body {α β σ : Type} (agg : σ → α → β → σ) (ind0 : List β) (_ : Nat) (x : α) (st : σ × Option Nat) :
    R ((σ × Option Nat) × Bool) :=
  match nextKey ind0.length st.2 with
  | none => .ok ((st.1, none), true)                                   -- (break)
  | some key0 =>
    match inIdx ind0 key0 with
    | .ok y => .ok ((agg st.1 x y, some key0), false)
    | .panic => .panic
    | .ub => .ub

def mapN1 {α β σ : Type} (agg : σ → α → β → σ) (init : σ) (ind : List α) (ind0 : List β) : R σ := do
  let st ← each ind (mapN1Body agg ind0) (init, none)
  pure st.1

/-- `(mapcat f ind ind0)` -/
def mapcat2 {α β γ : Type} (f : α → β → List γ) (ind : List α) (ind0 : List β) : R (List γ) := do
  let res ← mapN1 (fun (res : Array γ) x y => res ++ (f x y).toArray) #[] ind ind0
  pure res.toList

/-- `(keep pred ind ind0)` -/
def keep2 {α β γ : Type} (pred : α → β → Option γ) (ind : List α) (ind0 : List β) : R (List γ) := do
  let res ← mapN1 (fun (res : Array γ) x y => keepAgg res (pred x y)) #[] ind ind0
  pure res.toList

/-- `(count pred ind ind0)` -/
def count2 {α β : Type} (pred : α → β → Bool) (ind : List α) (ind0 : List β) : R Nat :=
  mapN1 (fun (res : Nat) x y => if pred x y then res + 1 else res) 0 ind ind0

/-- `(defn interleave [& cols] (mapcat tuple ;cols))` for one and for two columns -/
def interleave1 {α : Type} (c0 : List α) : R (List α) := mapcat1 (fun x => [x]) c0
def interleave2 {α : Type} (c0 c1 : List α) : R (List α) := mapcat2 (fun x y => [x, y]) c0 c1

/-! ## interpose -/

/-- `interpose` on a lengthable `ind`:
      `(var k (next ind nil))
       (if (not= nil k)
         (do (def ret (array/new-filled (- (* 2 (length ind)) 1) sep)) (var i 0)
             (while (not= nil k) (put ret i (in ind k)) (set k (next ind k)) (+= i 2))
             ret)
         @[])`
    `array/new-filled` raises for a negative count (`janet_getnat`); `(put ret i v)` with `i` outside `[0, count)` would
    extend the array with nils (or raise for a negative index): modelled as `.ub` by `setIdx` and shown unreachable. -/
def interpose {α : Type} (sep : α) (ind : List α) : R (List α) :=
  match nextKey ind.length none with                                  -- (var k (next ind nil))
  | none => .ok []                                                     -- @[]
  | some k => do
    let n : Int := 2 * (ind.length : Int) - 1
    let ret0 ← (if n < 0 then (R.panic : R (Array α)) else .ok (Array.replicate n.toNat sep))
    let st ← eachLoop ind (fun _ x (st : Array α × Int) => do
        let ret ← setIdx st.1 st.2 x                                   -- (put ret i (in ind k))
        pure ((ret, st.2 + 2), false))                                 -- (+= i 2)
      (ind.length + 1) (some k) (ret0, 0)
    pure st.1.toList

/-! ## frequencies / group-by (tables as association lists, insertion order) -/

/-- `(in tab k)` / `(get tab k)` on a table: nil (none) when absent -/
def assocGet {α β : Type} [BEq α] (m : List (α × β)) (k : α) : Option β :=
  match m with
  | [] => none
  | (k', v) :: rest => if k' == k then some v else assocGet rest k

/-- `(if n (+ 1 n) 1)` (a stored count is a number, hence truthy) -/
def freqBump : Option Nat → Nat
  | some n => 1 + n
  | none => 1

/-- one iteration of `frequencies`: `(def n (in freqs x)) (set (freqs x) (if n (+ 1 n) 1))` -/
def freqStep {α : Type} [BEq α] (freqs : List (α × Nat)) (x : α) : List (α × Nat) :=
  assocPut freqs x (freqBump (assocGet freqs x))

/-- `(defn frequencies [ind] (def freqs @{}) (each x ind (def n (in freqs x)) (set (freqs x) (if n (+ 1 n) 1))) freqs)` -/
def frequencies {α : Type} [BEq α] (ind : List α) : R (List (α × Nat)) :=
  each ind (fun _ x (freqs : List (α × Nat)) => .ok (freqStep freqs x, false)) []

/-- `(if-let [arr (get ret y)] (array/push arr x) (put ret y @[x]))`: `array/push` mutates the array stored in the table,
    i.e. the entry is replaced in place -/
def groupBump {α : Type} (x : α) : Option (List α) → List α
  | some arr => arr ++ [x]
  | none => [x]

def groupStep {α κ : Type} [BEq κ] (f : α → κ) (ret : List (κ × List α)) (x : α) : List (κ × List α) :=
  assocPut ret (f x) (groupBump x (assocGet ret (f x)))

/-- `(defn group-by [f ind] (def ret @{})
       (each x ind (def y (f x)) (if-let [arr (get ret y)] (array/push arr x) (put ret y @[x]))) ret)` -/
def groupBy {α κ : Type} [BEq κ] (f : α → κ) (ind : List α) : R (List (κ × List α)) :=
  each ind (fun _ x (ret : List (κ × List α)) => .ok (groupStep f ret x, false)) []

end JanetModel.Lib.Boot
