import JanetModel.Lib.Boot6
import JanetModel.Lib.BootProofs
/- C17: `frequencies` and `group-by` (boot.janet: a table updated inside `each`) equal their declarative
   definitions — keys in order of first occurrence, each with its count / with the elements of that key in order. -/
namespace JanetModel.Lib.Boot
open JanetModel.Lib JanetModel.Lib.JIter

theorem assocGet_map {α β : Type} [BEq α] [LawfulBEq α] (c : α → β) (x : α) : ∀ d : List α,
    assocGet (d.map (fun y => (y, c y))) x = if d.contains x then some (c x) else none
  | [] => rfl
  | y :: d => by
    simp only [List.map_cons, assocGet, List.contains_cons]
    by_cases hy : (y == x) = true
    · have : y = x := eq_of_beq hy
      subst this
      simp
    · have hxy : (x == y) = false := by rw [BEq.comm]; exact Bool.eq_false_iff.mpr hy
      simp only [hy, Bool.false_eq_true, if_false, hxy, Bool.false_or]
      exact assocGet_map c x d

theorem assocPut_map_not_mem {α β : Type} [BEq α] [LawfulBEq α] (c : α → β) (x : α) (v : β) : ∀ d : List α,
    d.contains x = false → assocPut (d.map (fun y => (y, c y))) x v = d.map (fun y => (y, c y)) ++ [(x, v)]
  | [], _ => rfl
  | y :: d, h => by
    simp only [List.contains_cons, Bool.or_eq_false_iff] at h
    have hyx : (y == x) = false := by rw [BEq.comm]; exact h.1
    simp only [List.map_cons, assocPut, hyx, Bool.false_eq_true, if_false, List.cons_append]
    rw [assocPut_map_not_mem c x v d h.2]

theorem assocPut_map_mem {α β : Type} [BEq α] [LawfulBEq α] (c : α → β) (x : α) (v : β) : ∀ d : List α,
    d.Nodup → d.contains x = true →
    assocPut (d.map (fun y => (y, c y))) x v = d.map (fun y => (y, if y == x then v else c y))
  | [], _, h => by simp at h
  | y :: d, hnd, h => by
    rw [List.nodup_cons] at hnd
    simp only [List.map_cons, assocPut]
    by_cases hyx : (y == x) = true
    · have : y = x := eq_of_beq hyx
      subst this
      simp only [BEq.rfl, if_true]
      congr 1
      apply List.map_congr_left
      intro z hz
      have : (z == y) = false := Bool.eq_false_iff.mpr (fun h' => hnd.1 (eq_of_beq h' ▸ hz))
      simp only [this, Bool.false_eq_true, if_false]
    · have hyx' : (y == x) = false := by simpa using hyx
      simp only [hyx', Bool.false_eq_true, if_false]
      congr 1
      have hx : d.contains x = true := by
        simp only [List.contains_cons] at h
        have hxy : (x == y) = false := by rw [BEq.comm]; exact hyx'
        simpa [hxy] using h
      exact assocPut_map_mem c x v d hnd.2 hx

/-- the entry of `k` summarises the processed elements `p` by `c p k`; `bump` updates the summary of `key x` and no other
    summary depends on `x` -/
theorem tablePut_snoc {α κ β : Type} [BEq κ] [LawfulBEq κ] (key : α → κ) (c : List α → κ → β) (bump : α → Option β → β)
    (p : List α) (x : α)
    (hbump : bump x (if (p.map key).contains (key x) then some (c p (key x)) else none) = c (p ++ [x]) (key x))
    (hother : ∀ k, (k == key x) = false → c (p ++ [x]) k = c p k) :
    assocPut ((Lib.distinct (p.map key)).map (fun k => (k, c p k))) (key x)
        (bump x (assocGet ((Lib.distinct (p.map key)).map (fun k => (k, c p k))) (key x)))
      = (Lib.distinct ((p ++ [x]).map key)).map (fun k => (k, c (p ++ [x]) k)) := by
  rw [assocGet_map (c p), contains_distinct, hbump, List.map_append, List.map_cons, List.map_nil, distinct_snoc]
  cases hp : (p.map key).contains (key x) with
  | true =>
    rw [if_pos rfl, assocPut_map_mem (c p) (key x) _ _ (nodup_distinct _) (by rw [contains_distinct]; exact hp)]
    apply List.map_congr_left
    intro k _
    cases hk : (k == key x) with
    | true => rw [if_pos rfl, eq_of_beq hk]
    | false => rw [if_neg Bool.false_ne_true, hother k hk]
  | false =>
    rw [if_neg Bool.false_ne_true, assocPut_map_not_mem (c p) (key x) _ _ (by rw [contains_distinct]; exact hp),
      List.map_append]
    congr 1
    apply List.map_congr_left
    intro k hk
    have hkx : (k == key x) = false := Bool.eq_false_iff.mpr (fun h => by
      have hk' : (Lib.distinct (p.map key)).contains k = true := List.contains_iff_mem.mpr hk
      rw [contains_distinct, eq_of_beq h, hp] at hk'
      exact absurd hk' Bool.false_ne_true)
    rw [hother k hkx]

theorem freqStep_frequencies {α : Type} [BEq α] [LawfulBEq α] (p : List α) (x : α) :
    freqStep (Lib.frequencies p) x = Lib.frequencies (p ++ [x]) := by
  have h := tablePut_snoc id (fun p k => p.count k) (fun _ o => freqBump o) p x
    (by
      simp only [id_eq, List.map_id]
      rw [List.count_append, List.count_singleton_self]
      cases hp : p.contains x with
      | true => rw [if_pos rfl]; exact Nat.add_comm 1 _
      | false =>
        have : p.count x = 0 := List.count_eq_zero.mpr (fun hm => by rw [List.contains_iff_mem.mpr hm] at hp; exact absurd hp (by simp))
        rw [if_neg Bool.false_ne_true, this]
        rfl)
    (fun k hk => by
      have hk' : (x == k) = false := by rw [BEq.comm]; exact hk
      rw [List.count_append, List.count_singleton, hk']
      rfl)
  simp only [List.map_id, id_eq] at h
  exact h

/-- `frequencies`: every distinct element, in order of first occurrence, with its number of occurrences — `(in freqs x)`
    on the table is total, the stored count is exact -/
theorem frequencies_eq_spec {α : Type} [BEq α] [LawfulBEq α] (ind : List α) :
    Boot.frequencies ind = .ok (Lib.frequencies ind) :=
  each_snoc ind _ Lib.frequencies [] rfl (fun _ p x _ => congrArg (fun t => R.ok (t, false)) (freqStep_frequencies p x))

example : Boot.frequencies [3, 1, 3, 3, 1] = .ok [(3, 3), (1, 2)] := by decide +kernel

theorem groupStep_groupBy {α κ : Type} [BEq κ] [LawfulBEq κ] (f : α → κ) (p : List α) (x : α) :
    groupStep f (Lib.groupBy f p) x = Lib.groupBy f (p ++ [x]) :=
  tablePut_snoc f (fun p k => p.filter (fun z => f z == k)) groupBump p x
    (by
      rw [List.filter_append]
      cases hp : (p.map f).contains (f x) with
      | true => simp [groupBump]
      | false =>
        have hnone : p.filter (fun z => f z == f x) = [] := by
          rw [List.filter_eq_nil_iff]
          intro z hz hzx
          have : (p.map f).contains (f x) = true := by
            rw [List.contains_iff_mem, ← eq_of_beq hzx]
            exact List.mem_map_of_mem hz
          rw [this] at hp
          exact absurd hp (by simp)
        simp [groupBump, hnone])
    (fun k hk => by
      have : (f x == k) = false := by rw [BEq.comm]; exact hk
      simp [List.filter_append, this])

/-- `group-by`: the keys in order of first occurrence, each with exactly the elements of that key, in order -/
theorem groupBy_eq_spec {α κ : Type} [BEq κ] [LawfulBEq κ] (f : α → κ) (ind : List α) :
    Boot.groupBy f ind = .ok (Lib.groupBy f ind) :=
  each_snoc ind _ (Lib.groupBy f) [] rfl (fun _ p x _ => congrArg (fun t => R.ok (t, false)) (groupStep_groupBy f p x))

example : Boot.groupBy (fun (a : Nat) => a % 2) [3, 1, 4, 6, 5] = .ok [(1, [3, 1, 5]), (0, [4, 6])] := by decide +kernel

end JanetModel.Lib.Boot
