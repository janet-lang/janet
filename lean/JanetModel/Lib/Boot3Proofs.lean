import JanetModel.Lib.Boot3
import JanetModel.Lib.BootProofs
/- C17: `partition` (boot.janet partition-slice) produces the consecutive chunks of the reference definition; none of its
   slice calls is out of range. -/
namespace JanetModel.Lib.Boot
open JanetModel.Lib JanetModel.Lib.JIter JanetModel.Lib.CLoop

def chunk {α : Type} (n : Nat) (l : List α) (k : Nat) : List α := (l.drop (k * n)).take n

theorem partitionAux_chunks {α : Type} (n : Nat) (hn : 1 ≤ n) :
    ∀ (fuel : Nat) (l : List α), l.length < fuel →
      partitionAux n fuel l = (List.range (l.length / n)).map (chunk n l)
        ++ (if (l.length / n) * n < l.length then [l.drop ((l.length / n) * n)] else []) := by
  intro fuel
  induction fuel with
  | zero => intro l h; omega
  | succ f ih =>
    intro l hl
    cases l with
    | nil => simp [partitionAux]
    | cons x xs =>
      simp only [partitionAux]
      generalize hL : (x :: xs) = l at *
      have hpos : 0 < l.length := by rw [← hL]; simp
      by_cases hge : n ≤ l.length
      · -- a full chunk, then the rest
        have hd : (l.drop n).length = l.length - n := by simp
        have hdiv : l.length / n = (l.length - n) / n + 1 := by
          rw [Nat.div_eq l.length n]; simp [hge]; omega
        rw [ih (l.drop n) (by rw [hd]; omega), hd, hdiv, List.range_succ_eq_map, List.map_cons, List.map_map]
        have hc0 : chunk n l 0 = l.take n := by simp [chunk]
        have hck : ∀ k, chunk n (l.drop n) k = chunk n l (k + 1) := by
          intro k
          unfold chunk
          rw [List.drop_drop]
          congr 2
          rw [Nat.add_mul]; omega
        have hmul : ((l.length - n) / n + 1) * n = (l.length - n) / n * n + n := by rw [Nat.add_mul]; omega
        rw [hc0]
        simp only [List.cons_append, List.cons.injEq, true_and]
        congr 1
        · apply List.map_congr_left
          intro k _
          exact hck k
        · have hc : (l.length - n) / n * n < l.length - n ↔ (l.length - n) / n * n + n < l.length := by omega
          rw [hmul, List.drop_drop, Nat.add_comm n ((l.length - n) / n * n)]
          simp only [hc]
      · -- fewer than n elements: one short chunk
        have hdiv : l.length / n = 0 := Nat.div_eq_of_lt (by omega)
        have hdn : l.drop n = [] := List.drop_of_length_le (by omega)
        have htk : l.take n = l := List.take_of_length_le (by omega)
        rw [hdn, htk, hdiv]
        cases f with
        | zero => simp [partitionAux, hpos]
        | succ f' => simp [partitionAux, hpos]

theorem partitionBody_spec {α : Type} (n : Nat) (ind : List α) (k : Nat) (hk : (k + 1) * n ≤ ind.length)
    (ret : Array (List α)) (hsz : k < ret.size) :
    partitionBody (n : Int) ind k (ret, ((k * n : Nat) : Int), (((k + 1) * n : Nat) : Int))
      = .ok (ret.setIfInBounds k (chunk n ind k), (((k + 1) * n : Nat) : Int), (((k + 2) * n : Nat) : Int)) := by
  unfold partitionBody
  have e : (k + 1) * n = k * n + n := Nat.succ_mul k n
  have h1 : (k + 1) * n - k * n = n := by rw [e, Nat.add_sub_cancel_left]
  have h2 : (((k + 1) * n : Nat) : Int) + (n : Int) = (((k + 2) * n : Nat) : Int) := by
    rw [Nat.succ_mul (k + 1) n, Int.natCast_add]
  simp only
  rw [slice_nat ind (k * n) ((k + 1) * n) (e ▸ Nat.le_add_right _ _) hk, R.ofOption_some, R.ok_bind, setIdx_ok _ _ _ hsz,
    R.ok_bind, R.pure_eq, h1, h2]
  rfl

/-- `(partition n ind)` for a positive integer `n`: `⌊len / n⌋` full chunks written into a pre-sized array plus one
    shorter chunk when elements remain; every `(f ind start end)` has `0 ≤ start ≤ end ≤ len` (no slice call raises) -/
theorem partition_eq_spec {α : Type} (n : Nat) (hn : 1 ≤ n) (ind : List α) :
    Boot.partition (n : Int) ind = .ok (Lib.partition n ind) := by
  unfold Boot.partition partitionSlice Lib.partition
  have hn' : ¬ ((n : Int) ≤ 0) := by omega
  simp only [hn', if_false]
  have hparts : ((ind.length : Int) / (n : Int)).toNat = ind.length / n := by
    have : (ind.length : Int) / (n : Int) = ((ind.length / n : Nat) : Int) := by simp
    rw [this]; exact Int.toNat_natCast _
  rw [hparts]
  have hle : ind.length / n * n ≤ ind.length := Nat.div_mul_le_self _ _
  have hf := forUp_fill ((List.range (ind.length / n)).map (chunk n ind))
    (fun ret k => (ret, (((k * n : Nat) : Int), (((k + 1) * n : Nat) : Int)))) (partitionBody (n : Int) ind)
    (Array.replicate (ind.length / n) []) (by rw [Array.size_replicate, List.length_map, List.length_range])
    (fun k hk ret hret => by
      rw [List.length_map, List.length_range] at hk
      have hmul : (k + 1) * n ≤ ind.length / n * n := Nat.mul_le_mul_right n hk
      rw [partitionBody_spec n ind k (by omega) ret hret, List.getElem_map, List.getElem_range])
  simp only [List.length_map, List.length_range, Nat.zero_mul, Nat.zero_add, Nat.one_mul, Int.natCast_zero] at hf
  rw [hf]
  simp only [R.ok_bind]
  rw [partitionAux_chunks n hn (ind.length + 1) ind (by omega)]
  by_cases hlt : ind.length / n * n < ind.length
  · have : ((ind.length / n * n : Nat) : Int) < (ind.length : Int) := by omega
    simp only [this, if_true, hlt]
    rw [slice_nat_open ind _ hle]
    simp only [R.ofOption_some, R.ok_bind, R.pure_eq, Array.toList_push]
  · have : ¬ (((ind.length / n * n : Nat) : Int) < (ind.length : Int)) := by omega
    simp only [this, if_false, hlt, R.pure_eq, R.ok_bind, List.append_nil]

example : Boot.partition 2 [1, 2, 3, 4, 5] = .ok [[1, 2], [3, 4], [5]] ∧ Boot.partition 3 [1, 2, 3] = .ok [[1, 2, 3]]
    ∧ Boot.partition 4 ([] : List Nat) = .ok [] ∧ Boot.partition 0 [1] = .panic := by decide +kernel

end JanetModel.Lib.Boot
