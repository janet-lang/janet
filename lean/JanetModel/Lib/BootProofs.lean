import JanetModel.Lib.Boot
import JanetModel.Lib.SpecLaws
/- C17: the mirrors of boot.janet sequence functions (Lib/Boot.lean: `next`/`in` loops, chained comparisons, slice calls)
   compute their declarative definitions for all inputs — in particular no `(in ds k)` is ever out of range, no
   `tuple/slice` / `string/slice` call raises, and every `while` loop ends within `length + 1` iterations. -/
namespace JanetModel.Lib.Boot
open JanetModel.Lib JanetModel.Lib.JIter JanetModel.Gen.Lib

/-- the key the each-loop holds when it is about to process element `i` -/
def keyAt (len i : Nat) : Option Nat := if i < len then some i else none

theorem keyAt_of_lt {len i : Nat} (h : i < len) : keyAt len i = some i := if_pos h
theorem keyAt_of_not_lt {len i : Nat} (h : ¬ i < len) : keyAt len i = none := if_neg h
/-- the key a `(set k (next ds k))`-first loop holds *before* it advances to element `i` -/
def prevKey (i : Nat) : Option Nat := if i = 0 then none else some (i - 1)

theorem nextKey_keyAt (len i : Nat) : nextKey len (some i) = keyAt len (i + 1) := rfl
theorem nextKey_nil (len : Nat) : nextKey len none = keyAt len 0 := rfl
theorem nextKey_prevKey (len i : Nat) : nextKey len (prevKey i) = keyAt len i := by
  cases i <;> rfl

theorem prevKey_succ (i : Nat) : prevKey (i + 1) = some i := rfl

theorem map_add_succ (o : Option Nat) (i : Nat) : (o.map (· + 1)).map (· + i) = o.map (· + (i + 1)) := by
  cases o with
  | none => rfl
  | some v => exact congrArg some ((Nat.add_assoc v 1 i).trans (congrArg (v + ·) (Nat.add_comm 1 i)))

/-- the each-loop as a recursion over the elements still to be visited, `i` being the key of the first of them -/
def eachFrom {α σ : Type} (body : Nat → α → σ → R (σ × Bool)) : Nat → List α → σ → R σ
  | _, [], s => .ok s
  | i, x :: xs, s =>
    match body i x s with
    | .ok (s', brk) => if brk then .ok s' else eachFrom body (i + 1) xs s'
    | .panic => .panic
    | .ub => .ub

theorem eachFrom_cons_next {α σ : Type} {body : Nat → α → σ → R (σ × Bool)} {i : Nat} {x : α} {s s' : σ}
    (h : body i x s = .ok (s', false)) (xs : List α) : eachFrom body i (x :: xs) s = eachFrom body (i + 1) xs s' := by
  simp only [eachFrom, h, Bool.false_eq_true, if_false]

theorem eachFrom_cons_break {α σ : Type} {body : Nat → α → σ → R (σ × Bool)} {i : Nat} {x : α} {s s' : σ}
    (h : body i x s = .ok (s', true)) (xs : List α) : eachFrom body i (x :: xs) s = .ok s' := by
  simp only [eachFrom, h, if_true]

/-- the fuel `length + 1` is enough, and a key produced by `next` is always in range -/
theorem eachLoop_eq_eachFrom {α σ : Type} (ds : List α) (body : Nat → α → σ → R (σ × Bool)) :
    ∀ fuel i s, ds.length - i ≤ fuel →
      eachLoop ds body fuel (keyAt ds.length i) s = eachFrom body i (ds.drop i) s := by
  intro fuel
  induction fuel with
  | zero =>
    intro i s hf
    have hi : ¬ i < ds.length := by omega
    rw [List.drop_of_length_le (Nat.le_of_not_lt hi)]
    simp only [keyAt_of_not_lt hi, eachLoop, eachFrom]
  | succ n ih =>
    intro i s hf
    by_cases hi : i < ds.length
    · rw [List.drop_eq_getElem_cons hi]
      simp only [keyAt_of_lt hi, eachLoop, inIdx_of_lt ds i hi, eachFrom, nextKey_keyAt]
      cases body i ds[i] s with
      | ok p =>
        obtain ⟨s', brk⟩ := p
        cases brk with
        | true => rfl
        | false => exact ih (i + 1) s' (by omega)
      | panic => rfl
      | ub => rfl
    · rw [List.drop_of_length_le (Nat.le_of_not_lt hi)]
      simp only [keyAt_of_not_lt hi, eachLoop, eachFrom]

theorem each_eq_eachFrom {α σ : Type} (ds : List α) (body : Nat → α → σ → R (σ × Bool)) (s : σ) :
    each ds body s = eachFrom body 0 ds s :=
  eachLoop_eq_eachFrom ds body (ds.length + 1) 0 s (Nat.le_succ_of_le (Nat.sub_le _ _))

theorem eachFrom_inv {α σ : Type} (ds : List α) (body : Nat → α → σ → R (σ × Bool)) (P : Nat → σ → Prop) (Q : σ → Prop)
    (hstep : ∀ i (h : i < ds.length) s, P i s →
      (∃ s', body i ds[i] s = .ok (s', false) ∧ P (i + 1) s') ∨ (∃ s', body i ds[i] s = .ok (s', true) ∧ Q s')) :
    ∀ n i s, i + n = ds.length → P i s →
      ∃ s', eachFrom body i (ds.drop i) s = .ok s' ∧ (P ds.length s' ∨ Q s') := by
  intro n
  induction n with
  | zero =>
    intro i s hi hP
    obtain rfl : i = ds.length := hi
    rw [List.drop_length]
    exact ⟨s, rfl, Or.inl hP⟩
  | succ n ih =>
    intro i s hi hP
    have hlt : i < ds.length := by omega
    rw [List.drop_eq_getElem_cons hlt]
    rcases hstep i hlt s hP with ⟨s', hb, hP'⟩ | ⟨s', hb, hQ⟩
    · rw [eachFrom_cons_next hb]
      exact ih (i + 1) s' (by omega) hP'
    · exact ⟨s', eachFrom_cons_break hb _, Or.inr hQ⟩

/-- invariant rule for `each`, with `(break)`: `P i s` before element `i`; a breaking iteration establishes `Q` -/
theorem each_inv {α σ : Type} (ds : List α) (body : Nat → α → σ → R (σ × Bool)) (P : Nat → σ → Prop) (Q : σ → Prop)
    (hstep : ∀ i (h : i < ds.length) s, P i s →
      (∃ s', body i ds[i] s = .ok (s', false) ∧ P (i + 1) s') ∨ (∃ s', body i ds[i] s = .ok (s', true) ∧ Q s'))
    (init : σ) (h0 : P 0 init) : ∃ s', each ds body init = .ok s' ∧ (P ds.length s' ∨ Q s') := by
  rw [each_eq_eachFrom]
  exact eachFrom_inv ds body P Q hstep ds.length 0 init (Nat.zero_add _) h0

/-- an accumulating loop: its state is a function `S` of the elements processed so far; what is proved per function is the
    one equation that `S p` and the next element give `S (p ++ [x])` -/
theorem eachFrom_snoc {α σ : Type} (body : Nat → α → σ → R (σ × Bool)) : ∀ (xs : List α) (S : List α → σ) {init : σ} i,
    S [] = init → (∀ i p x, x ∈ xs → body i x (S p) = .ok (S (p ++ [x]), false)) → eachFrom body i xs init = .ok (S xs)
  | [], _, _, _, h0, _ => congrArg R.ok h0.symm
  | x :: xs, S, _, i, h0, hb => by
    rw [← h0, eachFrom_cons_next (hb i [] x List.mem_cons_self)]
    exact eachFrom_snoc body xs (fun p => S (x :: p)) (i + 1) rfl (fun i p y hy => hb i (x :: p) y (List.mem_cons_of_mem _ hy))

theorem each_snoc {α σ : Type} (ds : List α) (body : Nat → α → σ → R (σ × Bool)) (S : List α → σ) (init : σ)
    (h0 : S [] = init) (hb : ∀ i p x, x ∈ ds → body i x (S p) = .ok (S (p ++ [x]), false)) :
    each ds body init = .ok (S ds) :=
  (each_eq_eachFrom ds body init).trans (eachFrom_snoc body ds S 0 h0 hb)

/-- the same for a `foldl` -/
theorem foldl_snoc {α τ : Type} (step : τ → α → τ) : ∀ (l : List α) (S : List α → τ) (init : τ),
    S [] = init → (∀ p x, x ∈ l → step (S p) x = S (p ++ [x])) → l.foldl step init = S l
  | [], _, _, h0, _ => h0.symm
  | x :: xs, S, _, h0, h => by
    rw [List.foldl_cons, ← h0, h [] x List.mem_cons_self]
    exact foldl_snoc step xs (fun p => S (x :: p)) _ rfl (fun p y hy => h (x :: p) y (List.mem_cons_of_mem _ hy))

/-- walking the images `g x` is walking the `x` themselves -/
theorem eachFrom_map {α β σ : Type} (g : α → β) (body : Nat → β → σ → R (σ × Bool)) : ∀ (xs : List α) i s,
    eachFrom body i (xs.map g) s = eachFrom (fun i x => body i (g x)) i xs s
  | [], _, _ => rfl
  | x :: xs, i, s => by
    simp only [List.map_cons, eachFrom]
    cases body i (g x) s with
    | ok p =>
      obtain ⟨s', brk⟩ := p
      cases brk with
      | true => rfl
      | false => exact eachFrom_map g body xs (i + 1) s'
    | panic => rfl
    | ub => rfl

theorem each_fold_mem {α σ : Type} (ds : List α) (body : Nat → α → σ → R (σ × Bool)) (f : σ → α → σ) (init : σ)
    (hb : ∀ i x s, x ∈ ds → body i x s = .ok (f s x, false)) : each ds body init = .ok (ds.foldl f init) :=
  each_snoc ds body (fun p => p.foldl f init) init rfl (fun i p x hx => by
    rw [hb i x _ hx, List.foldl_append]
    rfl)

theorem each_fold {α σ : Type} (ds : List α) (body : Nat → α → σ → R (σ × Bool)) (f : σ → α → σ) (init : σ)
    (hb : ∀ i x s, body i x s = .ok (f s x, false)) : each ds body init = .ok (ds.foldl f init) :=
  each_fold_mem ds body f init (fun i x s _ => hb i x s)

theorem getElem?_append_cons {α : Type} (pre : List α) (y : α) (tl : List α) : (pre ++ y :: tl)[pre.length]? = some y := by
  rw [List.getElem?_append_right (Nat.le_refl _), Nat.sub_self, List.getElem?_cons_zero]

theorem setIdx_append_cons {α : Type} (pre : List α) (y : α) (tl : List α) (v : α) :
    setIdx (pre ++ y :: tl).toArray (pre.length : Int) v = .ok (pre ++ v :: tl).toArray := by
  have h0 : ¬ ((pre.length : Int) < 0) := Int.not_lt.mpr (Int.natCast_nonneg _)
  have h1 : pre.length < pre.length + (tl.length + 1) := Nat.lt_add_of_pos_right (Nat.succ_pos _)
  simp only [setIdx, h0, if_false, Int.toNat_natCast, List.size_toArray, List.length_append, List.length_cons, h1, if_true,
    List.setIfInBounds_toArray, List.set_append_right _ _ (Nat.le_refl _), Nat.sub_self, List.set_cons_zero]

theorem reduce_eq_spec {α β : Type} (f : β → α → β) (init : β) (ind : List α) :
    Boot.reduce f init ind = .ok (Lib.reduce f init ind) :=
  each_fold ind _ f init (fun _ _ _ => rfl)

theorem filter_eq_spec {α : Type} (pred : α → Bool) (ind : List α) : Boot.filter pred ind = .ok (ind.filter pred) := by
  unfold Boot.filter
  rw [each_snoc ind _ (fun p => (p.filter pred).toArray) #[] rfl (fun _ p x _ => by
    cases h : pred x <;> simp [List.filter_append, h])]
  rfl

theorem map1_eq_spec {α β : Type} (f : α → β) (ind : List α) : Boot.map1 f ind = .ok (ind.map f) := by
  unfold Boot.map1
  rw [each_snoc ind _ (fun p => (p.map f).toArray) #[] rfl (fun _ p x _ => by simp)]
  rfl

theorem countP_snoc {α : Type} (pred : α → Bool) (p : List α) (x : α) :
    (if pred x then p.countP pred + 1 else p.countP pred) = (p ++ [x]).countP pred := by
  cases h : pred x <;> simp [List.countP_append, h]

theorem count1_eq_spec {α : Type} (pred : α → Bool) (ind : List α) : Boot.count1 pred ind = .ok (ind.countP pred) :=
  each_snoc ind _ (fun p => p.countP pred) 0 rfl (fun _ p x _ => by rw [countP_snoc])

theorem sum_eq_spec (xs : List Int) : Boot.sum xs = .ok (sumI xs) :=
  each_fold xs _ (fun accum x => accum + x) 0 (fun _ _ _ => rfl)
theorem product_eq_spec (xs : List Int) : Boot.product xs = .ok (productI xs) :=
  each_fold xs _ (fun accum x => accum * x) 1 (fun _ _ _ => rfl)

example : Boot.map2 (fun (a b : Nat) => a + b) [1, 2, 3] [10, 20] = .ok [11, 22] ∧
    Boot.filter (fun (a : Nat) => a % 2 == 0) [1, 2, 3, 4] = .ok [2, 4] ∧ Boot.reduce (fun (a b : Nat) => a * 10 + b) 0 [1, 2, 3] = .ok 123 := by decide +kernel

theorem findIndexLoop_spec {α : Type} (pred : α → Bool) (ind : List α) :
    ∀ fuel i, ind.length - i + 1 ≤ fuel →
      findIndexLoop pred ind fuel (prevKey i) = .ok (((ind.drop i).findIdx? pred).map (· + i)) := by
  intro fuel
  induction fuel with
  | zero => intro i h; exact absurd h (Nat.not_succ_le_zero _)
  | succ n ih =>
    intro i hf
    simp only [findIndexLoop, nextKey_prevKey]
    by_cases hlt : i < ind.length
    · rw [keyAt_of_lt hlt, List.drop_eq_getElem_cons hlt, List.findIdx?_cons]
      simp only [inIdx_of_lt ind i hlt]
      by_cases hp : pred ind[i] = true
      · rw [if_pos hp, if_pos hp, Option.map_some, Nat.zero_add]
      · rw [if_neg hp, if_neg hp, ← prevKey_succ i, ih (i + 1) (by omega), map_add_succ]
    · rw [keyAt_of_not_lt hlt, List.drop_of_length_le (Nat.le_of_not_lt hlt)]
      rfl

theorem findIndex_eq_spec {α : Type} (pred : α → Bool) (ind : List α) :
    Boot.findIndex pred ind = .ok (ind.findIdx? pred) := by
  have h := findIndexLoop_spec pred ind (ind.length + 1) 0 (Nat.le_refl _)
  unfold Boot.findIndex
  rw [show (none : Option Nat) = prevKey 0 from rfl, h, List.drop_zero]
  cases ind.findIdx? pred <;> rfl

theorem slice_nat {α : Type} (l : List α) (a b : Nat) (hab : a ≤ b) (hb : b ≤ l.length) :
    slice l (some (a : Int)) (some (b : Int)) = some ((l.drop a).take (b - a)) := by
  have ha2 : ¬ ((a : Int) > (l.length : Int)) := Int.not_lt.mpr (Int.ofNat_le.mpr (Nat.le_trans hab hb))
  have hb2 : ¬ ((b : Int) > (l.length : Int)) := Int.not_lt.mpr (Int.ofNat_le.mpr hb)
  have hc : ¬ (b < a) := Nat.not_lt.mpr hab
  simp [slice, getslice, startrange, endrange, halfrange, Int.not_lt.mpr (Int.natCast_nonneg _), ha2, hb2, hc]

theorem slice_zero_nat {α : Type} (l : List α) (b : Nat) (hb : b ≤ l.length) :
    slice l (some 0) (some (b : Int)) = some (l.take b) :=
  slice_nat l 0 b (Nat.zero_le _) hb

theorem slice_nat_open {α : Type} (l : List α) (a : Nat) (ha : a ≤ l.length) :
    slice l (some (a : Int)) none = some (l.drop a) := by
  have h2 : ¬ ((a : Int) > (l.length : Int)) := Int.not_lt.mpr (Int.ofNat_le.mpr ha)
  have hc : ¬ (l.length < a) := Nat.not_lt.mpr ha
  simp [slice, getslice, startrange, endrange, halfrange, Int.not_lt.mpr (Int.natCast_nonneg _), h2, hc]
  apply List.take_of_length_le; simp

/-- `(if (nil? i) len i)` on the result of `find-index` -/
theorem idxOr_findIdx? {α : Type} (pred : α → Bool) (ind : List α) :
    idxOr (ind.findIdx? pred) (ind.length : Int) = ((ind.findIdx pred : Nat) : Int) := by
  rw [List.findIdx_eq_getD_findIdx?]
  cases ind.findIdx? pred <;> rfl

/-- `take-until`: the slice call never raises and yields the longest prefix without a `pred` element -/
theorem takeUntil_eq_spec {α : Type} (pred : α → Bool) (ind : List α) :
    Boot.takeUntil pred ind = .ok (ind.takeWhile (fun x => !pred x)) := by
  unfold Boot.takeUntil
  rw [findIndex_eq_spec]
  simp only [R.ok_bind]
  rw [idxOr_findIdx?, slice_zero_nat ind _ List.findIdx_le_length, List.takeWhile_eq_take_findIdx_not]
  simp only [Bool.not_not]
  rfl

theorem takeWhile_eq_spec {α : Type} (pred : α → Bool) (ind : List α) :
    Boot.takeWhile pred ind = .ok (takeWhileL pred ind) := by
  unfold Boot.takeWhile
  rw [takeUntil_eq_spec]
  unfold complement takeWhileL
  simp

theorem dropUntil_eq_spec {α : Type} (pred : α → Bool) (ind : List α) :
    Boot.dropUntil pred ind = .ok (ind.dropWhile (fun x => !pred x)) := by
  unfold Boot.dropUntil
  rw [findIndex_eq_spec]
  simp only [R.ok_bind]
  rw [idxOr_findIdx?, slice_nat_open ind _ List.findIdx_le_length, List.dropWhile_eq_drop_findIdx_not]
  simp only [Bool.not_not]
  rfl

theorem dropWhile_eq_spec {α : Type} (pred : α → Bool) (ind : List α) :
    Boot.dropWhile pred ind = .ok (dropWhileL pred ind) := by
  unfold Boot.dropWhile
  rw [dropUntil_eq_spec]
  unfold complement dropWhileL
  simp

/-- `(take n ind)` for EVERY number `n` (also `n < -len`, `n > len`): the `tuple/slice` / `string/slice` call never
    raises and the result is the first `n` (last `-n`) elements -/
theorem take_eq_spec {α : Type} (n : Int) (ind : List α) : Boot.take n ind = .ok (takeN n ind) := by
  unfold Boot.take takeNSlice takeN
  by_cases hn : 0 ≤ n
  · -- the slice is `[0, min n len)`
    obtain ⟨k, rfl⟩ := Int.eq_ofNat_of_zero_le hn
    have hs : (if (k : Int) < 0 ∧ 0 < (ind.length : Int) + k then (ind.length : Int) + k else 0) = 0 :=
      if_neg (by omega)
    have he : (if 0 ≤ (k : Int) ∧ (k : Int) ≤ ind.length then (k : Int) else ind.length) = ((min k ind.length : Nat) : Int) := by
      by_cases h : k ≤ ind.length
      · rw [if_pos ⟨hn, Int.ofNat_le.mpr h⟩, Nat.min_eq_left h]
      · rw [if_neg (fun h' => h (Int.ofNat_le.mp h'.2)), Nat.min_eq_right (Nat.le_of_not_le h)]
    simp only [hs, he]
    rw [slice_zero_nat ind _ (Nat.min_le_right _ _), if_pos hn, Int.toNat_natCast, ← List.take_eq_take_min]
    rfl
  · -- the slice is `[len - (-n), len)`, with truncated subtraction
    have hs : (if n < 0 ∧ 0 < ind.length + n then ind.length + n else 0)
        = ((ind.length - (-n).toNat : Nat) : Int) := by
      split <;> omega
    have he : (if 0 ≤ n ∧ n ≤ ind.length then n else ind.length) = (ind.length : Int) :=
      if_neg (fun h => hn h.1)
    simp only [hs, he]
    rw [slice_nat ind (ind.length - (-n).toNat) ind.length (Nat.sub_le _ _) (Nat.le_refl _), if_neg hn,
      List.take_of_length_le (by rw [List.length_drop]; exact Nat.le_refl _)]
    rfl

theorem drop_eq_spec {α : Type} (n : Int) (ind : List α) : Boot.drop n ind = .ok (dropN n ind) := by
  unfold Boot.drop dropNSlice dropN
  by_cases h1 : 0 ≤ n ∧ n ≤ (ind.length : Int)
  · obtain ⟨k, rfl⟩ := Int.eq_ofNat_of_zero_le h1.1
    simp only [if_pos h1, if_pos h1.1, slice_nat_open ind k (Int.ofNat_le.mp h1.2), Int.toNat_natCast, R.ofOption_some]
  · by_cases h2 : -(ind.length : Int) < n ∧ n < 0
    · have e : ind.length + n = ((ind.length - (-n).toNat : Nat) : Int) := by omega
      simp only [if_neg h1, if_pos h2, e, slice_zero_nat ind _ (Nat.sub_le _ _), if_neg (Int.not_le.mpr h2.2),
        R.ofOption_some]
    · simp only [if_neg h1, if_neg h2, slice_nat_open ind ind.length (Nat.le_refl _), List.drop_length, R.ofOption_some]
      split
      · rw [List.drop_of_length_le (by omega)]
      · rw [show ind.length - (-n).toNat = 0 by omega, List.take_zero]

example : Boot.take (-2) [1, 2, 3] = .ok [2, 3] ∧ Boot.take (-7) [1, 2, 3] = .ok [1, 2, 3] ∧ Boot.drop (-1) [1, 2, 3] = .ok [1, 2]
    ∧ Boot.drop 9 [1, 2, 3] = .ok [] ∧ Boot.takeWhile (fun (x : Nat) => x < 3) [1, 2, 3, 1] = .ok [1, 2] := by decide +kernel

theorem extremeLoop_spec {α : Type} (order : α → α → Bool) (ds : List α) :
    ∀ fuel i ret, ds.length - i + 1 ≤ fuel →
      extremeLoop order ds fuel (prevKey i) ret
        = .ok ((ds.drop i).foldl (fun ret y => if order y ret then y else ret) ret) := by
  intro fuel
  induction fuel with
  | zero => intro i ret h; exact absurd h (Nat.not_succ_le_zero _)
  | succ n ih =>
    intro i ret hf
    simp only [extremeLoop, nextKey_prevKey]
    by_cases hlt : i < ds.length
    · rw [keyAt_of_lt hlt, List.drop_eq_getElem_cons hlt, List.foldl_cons]
      simp only [inIdx_of_lt ds i hlt]
      rw [← prevKey_succ i]
      exact ih (i + 1) _ (by omega)
    · rw [keyAt_of_not_lt hlt, List.drop_of_length_le (Nat.le_of_not_lt hlt)]
      rfl

/-- `extreme` / `max` / `min` / `max-of` / `min-of` (macro `do-extreme`): nil for an empty sequence, otherwise the left
    fold that keeps the current value unless the next one is `order`-better -/
theorem extreme_eq_spec {α : Type} (order : α → α → Bool) (ds : List α) :
    Boot.extreme order ds = .ok (Lib.extreme order ds) := by
  cases ds with
  | nil => rfl
  | cons x xs =>
    have h := extremeLoop_spec order (x :: xs) ((x :: xs).length + 1) 1 x (Nat.succ_le_succ (Nat.sub_le _ _))
    unfold Boot.extreme Lib.extreme
    simp only [nextKey, List.length_cons, Nat.zero_lt_succ, if_true, getIdx, List.getElem?_cons_zero]
    simp only [List.length_cons] at h
    rw [show (some 0 : Option Nat) = prevKey 1 from rfl, h]
    rfl

example : Boot.extreme (fun (a b : Int) => decide (a > b)) [3, 9, 2, 9] = .ok (some 9) ∧
    Boot.extreme (fun (a b : Int) => decide (a < b)) [] = .ok none := by decide +kernel

end JanetModel.Lib.Boot
