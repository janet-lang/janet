import JanetModel.Lib.Boot6
/- C17: mirrors of boot.janet `reverse!` (in-place two-index swap loop) and `merge` / `merge-into`
   (`loop [c :in colls key :keys c]` over association lists).  Core Lean only. -/
namespace JanetModel.Lib.Boot
open JanetModel.Lib JanetModel.Lib.JIter

/-- `(in t i)` on an array with a numeric index: raises outside `[0, count)` -/
def inInt {α : Type} (t : Array α) (i : Int) : R α :=
  if i < 0 then .panic else
  match t[i.toNat]? with
  | some x => .ok x
  | none => .panic

/-- `reverse!`:
      `(var i 0) (var j (length t))
       (while (< i (-- j)) (def ti (in t i)) (put t i (in t j)) (put t j ti) (++ i))
       t`
    `(put t k v)` on an array with `k ≥ count` would extend it with nils, a negative `k` raises: both modelled as `.ub` by
    `setIdx` and shown unreachable.  Fuel `count + 1`; exhaustion = `.ub`. -/
def reverseBangLoop {α : Type} : Nat → Array α → Int → Int → R (Array α)
  | 0, _, _, _ => .ub
  | fuel + 1, t, i, j =>
    let j := j - 1                                       -- (-- j)
    if i < j then do                                     -- (< i (-- j))
      let ti ← inInt t i                                 -- (def ti (in t i))
      let tj ← inInt t j
      let t ← setIdx t i tj                              -- (put t i (in t j))
      let t ← setIdx t j ti                              -- (put t j ti)
      reverseBangLoop fuel t (i + 1) j                   -- (++ i)
    else .ok t

def reverseBang {α : Type} (t : List α) : R (List α) := do
  let r ← reverseBangLoop (t.length + 1) t.toArray 0 (t.length : Int)
  pure r.toList

/-- `(loop [c :in colls key :keys c] (put container key (in c key)))`: the outer `:in` is the each-loop over the argument
    tuple, the inner `:keys` walks the keys of one collection (in the order of its association list — the real table's
    iteration order is its bucket order; the result, a table, does not depend on it when the keys of `c` are distinct),
    `(in c key)` looks the key up again -/
def mergeKeyStep {α β : Type} [BEq α] (c : List (α × β)) (key : α) (tab : List (α × β)) : R (List (α × β) × Bool) :=
  match assocGet c key with                              -- (in c key): the key comes from `c`, so it is present
  | some v => .ok (assocPut tab key v, false)            -- (put container key (in c key))
  | none => .panic

def mergeCollStep {α β : Type} [BEq α] (c : List (α × β)) (tab : List (α × β)) : R (List (α × β) × Bool) := do
  let tab ← each (c.map (·.1)) (fun _ key tab => mergeKeyStep c key tab) tab
  pure (tab, false)

def mergeInto {α β : Type} [BEq α] (tab : List (α × β)) (colls : List (List (α × β))) : R (List (α × β)) :=
  each colls (fun _ c tab => mergeCollStep c tab) tab

/-- `(defn merge [& colls] (def container @{}) (loop …) container)` -/
def merge {α β : Type} [BEq α] (colls : List (List (α × β))) : R (List (α × β)) := mergeInto [] colls

end JanetModel.Lib.Boot
