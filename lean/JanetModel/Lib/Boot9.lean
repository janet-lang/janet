import JanetModel.Lib.Boot
/- C17: mirror of boot.janet `flatten-into` / `flatten` — recursion over nested indexed values, one level being
   walked by the each-loop.  Core Lean only.

     (defn flatten-into [into xs] (each x xs (if (indexed? x) (flatten-into into x) (array/push into x))) into)
     (defn flatten [xs] (flatten-into @[] xs)) -/
namespace JanetModel.Lib.Boot
open JanetModel.Lib JanetModel.Lib.JIter

/-- a janet value as far as `flatten` looks at it: `(indexed? x)` (array / tuple) or anything else -/
inductive Nest (α : Type) where
  | leaf (x : α)
  | node (xs : List (Nest α))

mutual
/-- reference definition: the leaves in left-to-right order -/
def Nest.flat {α : Type} : Nest α → List α
  | .leaf x => [x]
  | .node xs => flatList xs
def flatList {α : Type} : List (Nest α) → List α
  | [] => []
  | x :: xs => x.flat ++ flatList xs
end

mutual
def Nest.depth {α : Type} : Nest α → Nat
  | .leaf _ => 0
  | .node xs => depthList xs + 1
def depthList {α : Type} : List (Nest α) → Nat
  | [] => 0
  | x :: xs => max x.depth (depthList xs)
end

/-- one iteration of the each-loop of `flatten-into`, given the recursive call `rec` -/
def flattenBody {α : Type} (rec : Array α → List (Nest α) → R (Array α)) (x : Nest α) (into : Array α) : R (Array α × Bool) :=
  match x with
  | .node ys =>                                          -- (indexed? x): (flatten-into into x)
    match rec into ys with
    | .ok into' => .ok (into', false)
    | .panic => .panic
    | .ub => .ub
  | .leaf v => .ok (into.push v, false)                  -- (array/push into x)

/-- `flatten-into`; the recursion is bounded by the nesting depth (`fuel` exhausted = `.ub`, shown unreachable when
    `fuel` exceeds the depth; the real interpreter's bound is its stack, property C19's subject) -/
def flattenInto {α : Type} : Nat → Array α → List (Nest α) → R (Array α)
  | 0, _, _ => .ub
  | fuel + 1, into, xs => each xs (fun _ x into => flattenBody (flattenInto fuel) x into) into

def flatten {α : Type} (fuel : Nat) (xs : List (Nest α)) : R (List α) := do
  let into ← flattenInto fuel #[] xs
  pure into.toList

end JanetModel.Lib.Boot
