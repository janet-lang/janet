import JanetModel.Lib.Boot5
import JanetModel.Lib.Boot6
import JanetModel.Lib.BootProofs
/- C17: the mirrors of Lib/Boot6.lean (keep, mapcat, map-n 1, interleave of one / two columns, interpose) and the `map-n 1` /
   `map-n 2` loops of Lib/Boot.lean / Lib/Boot5.lean compute their declarative definitions for ALL inputs: no `in` / `put` out
   of range, every loop ends within `length + 1` iterations.  `map-n 1` / `map-n 2` are transcribed here with the keys as a
   tuple (the sequences may have different element types), so they have their own inductions; `map-n n` for every `n`, over
   sequences of one type, is `mapN_eq_spec` in Lib/Boot12Proofs.lean. -/
namespace JanetModel.Lib.Boot
open JanetModel.Lib JanetModel.Lib.JIter

theorem filterMap_snoc {α β : Type} (pred : α → Option β) (p : List α) (x : α) :
    keepAgg (p.filterMap pred).toArray (pred x) = ((p ++ [x]).filterMap pred).toArray := by
  cases h : pred x <;> simp [keepAgg, List.filterMap_append, h]

theorem keep1_eq_spec {α β : Type} (pred : α → Option β) (ind : List α) : Boot.keep1 pred ind = .ok (ind.filterMap pred) := by
  unfold Boot.keep1
  rw [each_snoc ind _ (fun p => (p.filterMap pred).toArray) #[] rfl (fun _ p x _ => by rw [filterMap_snoc])]
  rfl

theorem mapcat1_eq_spec {α β : Type} (f : α → List β) (ind : List α) : Boot.mapcat1 f ind = .ok (ind.flatMap f) := by
  unfold Boot.mapcat1
  rw [each_snoc ind _ (fun p => (p.flatMap f).toArray) #[] rfl (fun _ p x _ => by simp)]
  rfl

theorem mapN1Loop_spec {α β σ : Type} (agg : σ → α → β → σ) (ind0 : List β) : ∀ (xs : List α) (i : Nat) (s : σ),
    ∃ k, eachFrom (mapN1Body agg ind0) i xs (s, prevKey i)
      = .ok ((List.zip xs (ind0.drop i)).foldl (fun s p => agg s p.1 p.2) s, k)
  | [], _, _ => ⟨_, rfl⟩
  | x :: xs, i, s => by
    by_cases hi : i < ind0.length
    · have hb : mapN1Body agg ind0 i x (s, prevKey i) = .ok ((agg s x ind0[i], prevKey (i + 1)), false) := by
        simp only [mapN1Body, nextKey_prevKey, keyAt_of_lt hi, inIdx_of_lt ind0 i hi, prevKey_succ]
      rw [eachFrom_cons_next hb, List.drop_eq_getElem_cons hi]
      exact mapN1Loop_spec agg ind0 xs (i + 1) _
    · have hb : mapN1Body agg ind0 i x (s, prevKey i) = .ok ((s, none), true) := by
        simp only [mapN1Body, nextKey_prevKey, keyAt_of_not_lt hi]
      rw [eachFrom_cons_break hb, List.drop_of_length_le (Nat.le_of_not_lt hi)]
      exact ⟨_, rfl⟩

/-- the each-loop of `map-n 1` folds the aggregator over the pairs, up to the shorter sequence; neither `(in ind k)` nor
    `(in ind0 key0)` is out of range -/
theorem mapN1_each {α β σ : Type} (agg : σ → α → β → σ) (init : σ) (ind : List α) (ind0 : List β) :
    ∃ k, each ind (mapN1Body agg ind0) (init, none) = .ok ((List.zip ind ind0).foldl (fun s p => agg s p.1 p.2) init, k) := by
  obtain ⟨k, hk⟩ := mapN1Loop_spec agg ind0 ind 0 init
  exact ⟨k, (each_eq_eachFrom ind _ _).trans hk⟩

theorem mapN1_eq_spec {α β σ : Type} (agg : σ → α → β → σ) (init : σ) (ind : List α) (ind0 : List β) :
    Boot.mapN1 agg init ind ind0 = .ok ((List.zip ind ind0).foldl (fun s p => agg s p.1 p.2) init) := by
  obtain ⟨k, hk⟩ := mapN1_each agg init ind ind0
  unfold Boot.mapN1
  rw [hk]
  rfl

/-- the body written out for `map` in Lib/Boot.lean is the `map-n 1` body with the aggregator `(array/push res val)` -/
theorem map2Body_eq {α β γ : Type} (f : α → β → γ) (ind0 : List β) :
    map2Body f ind0 = mapN1Body (fun (res : Array γ) x y => res.push (f x y)) ind0 := rfl

/-- `(map f ind ind0)` (branch `map-n 1` of map-template) is `zipWith`: in particular its length is the shorter of the
    two, and neither `(in ind k)` nor `(in ind0 key0)` is ever out of range -/
theorem map2_eq_spec {α β γ : Type} (f : α → β → γ) (ind : List α) (ind0 : List β) :
    Boot.map2 f ind ind0 = .ok (List.zipWith f ind ind0) := by
  obtain ⟨k, hk⟩ := mapN1_each (fun (res : Array γ) x y => res.push (f x y)) #[] ind ind0
  unfold Boot.map2
  rw [map2Body_eq, hk, foldl_snoc _ _ (fun p => (p.map fun (q : α × β) => f q.1 q.2).toArray) #[] rfl (fun p x _ => by simp),
    ← List.map_uncurry_zip_eq_zipWith]
  rfl

theorem map3Loop_spec {α β γ δ : Type} (f : α → β → γ → δ) (ind0 : List β) (ind1 : List γ) :
    ∀ (xs : List α) (i : Nat) (res : Array δ),
      ∃ r k, eachFrom (map3Body f ind0 ind1) i xs (res, prevKey i, prevKey i) = .ok (r, k) ∧
        r.toList = res.toList
          ++ List.zipWith (fun (p : α × β) z => f p.1 p.2 z) (List.zip xs (ind0.drop i)) (ind1.drop i)
  | [], _, res => ⟨res, _, rfl, (List.append_nil _).symm⟩
  | x :: xs, i, res => by
    by_cases hi0 : i < ind0.length
    · by_cases hi1 : i < ind1.length
      · obtain ⟨r, k, hk, hr⟩ := map3Loop_spec f ind0 ind1 xs (i + 1) (res.push (f x ind0[i] ind1[i]))
        refine ⟨r, k, (eachFrom_cons_next ?_ xs).trans hk, ?_⟩
        · simp only [map3Body, nextKey_prevKey, keyAt_of_lt hi0, keyAt_of_lt hi1, inIdx_of_lt ind0 i hi0, inIdx_of_lt ind1 i hi1,
            prevKey_succ]
        · rw [hr, Array.toList_push, List.append_assoc, List.drop_eq_getElem_cons hi0, List.drop_eq_getElem_cons hi1]
          rfl
      · refine ⟨res, _, eachFrom_cons_break (s' := (res, some i, none)) ?_ xs, ?_⟩
        · simp only [map3Body, nextKey_prevKey, keyAt_of_lt hi0, keyAt_of_not_lt hi1]
        · rw [List.drop_of_length_le (Nat.le_of_not_lt hi1), List.zipWith_nil_right, List.append_nil]
    · refine ⟨res, _, eachFrom_cons_break (s' := (res, none, prevKey i)) ?_ xs, ?_⟩
      · simp only [map3Body, nextKey_prevKey, keyAt_of_not_lt hi0]
      · rw [List.drop_of_length_le (Nat.le_of_not_lt hi0), List.zip_nil_right, List.zipWith_nil_left, List.append_nil]

/-- `(map f ind ind0 ind1)` (branch `map-n 2`): element `k` is `f ind[k] ind0[k] ind1[k]`, for `k` below the shortest length -/
theorem map3_eq_spec {α β γ δ : Type} (f : α → β → γ → δ) (ind : List α) (ind0 : List β) (ind1 : List γ) :
    Boot.map3 f ind ind0 ind1 = .ok (List.zipWith (fun (p : α × β) z => f p.1 p.2 z) (List.zip ind ind0) ind1) := by
  obtain ⟨r, k, hk, hr⟩ := map3Loop_spec f ind0 ind1 ind 0 #[]
  have hk' : eachFrom (map3Body f ind0 ind1) 0 ind (#[], none, none) = .ok (r, k) := hk
  unfold Boot.map3
  rw [each_eq_eachFrom, hk', R.ok_bind, R.pure_eq, hr]
  rfl

example : Boot.map3 (fun (a b c : Nat) => a + b + c) [1, 2, 3] [10, 20, 30, 40] [100, 200] = .ok [111, 222] := by decide +kernel

theorem mapcat2_eq_spec {α β γ : Type} (f : α → β → List γ) (ind : List α) (ind0 : List β) :
    Boot.mapcat2 f ind ind0 = .ok ((List.zip ind ind0).flatMap (fun p => f p.1 p.2)) := by
  unfold Boot.mapcat2
  rw [mapN1_eq_spec, foldl_snoc _ _ (fun p => (p.flatMap fun (q : α × β) => f q.1 q.2).toArray) #[] rfl (fun p x _ => by simp)]
  rfl

theorem keep2_eq_spec {α β γ : Type} (pred : α → β → Option γ) (ind : List α) (ind0 : List β) :
    Boot.keep2 pred ind ind0 = .ok ((List.zip ind ind0).filterMap (fun p => pred p.1 p.2)) := by
  unfold Boot.keep2
  rw [mapN1_eq_spec, foldl_snoc _ _ (fun p => (p.filterMap fun (q : α × β) => pred q.1 q.2).toArray) #[] rfl
    (fun p x _ => filterMap_snoc (fun (q : α × β) => pred q.1 q.2) p x)]
  rfl

theorem count2_eq_spec {α β : Type} (pred : α → β → Bool) (ind : List α) (ind0 : List β) :
    Boot.count2 pred ind ind0 = .ok ((List.zip ind ind0).countP (fun p => pred p.1 p.2)) := by
  unfold Boot.count2
  rw [mapN1_eq_spec, foldl_snoc _ _ (fun p => p.countP fun (q : α × β) => pred q.1 q.2) 0 rfl
    (fun p x _ => countP_snoc (fun (q : α × β) => pred q.1 q.2) p x)]

example : Boot.mapcat2 (fun (a b : Nat) => [a, b]) [1, 2, 3] [10, 20] = .ok [1, 10, 2, 20] ∧
    Boot.keep1 (fun (a : Nat) => if a % 2 == 0 then some (a * a) else none) [1, 2, 3, 4] = .ok [4, 16] ∧
    Boot.count2 (fun (a b : Nat) => a < b) [1, 5, 3] [2, 4, 9, 9] = .ok 2 := by decide +kernel

theorem range_flatMap_take {α β : Type} (l : List α) (g : α → List β) (h : Nat → List β)
    (hh : ∀ i (hi : i < l.length), h i = g l[i]) :
    ∀ n, n ≤ l.length → (List.range n).flatMap h = (l.take n).flatMap g := by
  intro n
  induction n with
  | zero => intro _; simp
  | succ n ih =>
    intro hn
    have hlt : n < l.length := by omega
    rw [List.range_succ, List.flatMap_append, ih (by omega), List.take_succ_eq_append_getElem hlt, List.flatMap_append]
    simp [hh n hlt]

theorem interleave1_eq_spec {α : Type} (c0 : List α) : Boot.interleave1 c0 = .ok (Lib.interleave [c0]) := by
  unfold Boot.interleave1
  rw [mapcat1_eq_spec]
  congr 1
  have h := range_flatMap_take c0 (fun x => [x]) (fun i => [c0].filterMap (fun c => c[i]?))
    (fun i hi => by simp [List.getElem?_eq_getElem hi]) c0.length (Nat.le_refl _)
  simp only [Lib.interleave, List.map_cons, List.map_nil, List.foldl_cons, List.foldl_nil, List.head!, Nat.min_self]
  rw [h, List.take_length]

theorem interleave2_eq_spec {α : Type} (c0 c1 : List α) : Boot.interleave2 c0 c1 = .ok (Lib.interleave [c0, c1]) := by
  unfold Boot.interleave2
  rw [mapcat2_eq_spec]
  congr 1
  have hl : (List.zip c0 c1).length = min c0.length c1.length := by simp
  have h := range_flatMap_take (List.zip c0 c1) (fun p => [p.1, p.2]) (fun i => [c0, c1].filterMap (fun c => c[i]?))
    (fun i hi => by
      have hi' : i < min c0.length c1.length := hl ▸ hi
      simp [List.getElem?_eq_getElem (Nat.lt_of_lt_of_le hi' (Nat.min_le_left ..)),
        List.getElem?_eq_getElem (Nat.lt_of_lt_of_le hi' (Nat.min_le_right ..)), List.getElem_zip])
    _ (Nat.le_of_eq hl.symm)
  simp only [Lib.interleave, List.map_cons, List.map_nil, List.foldl_cons, List.foldl_nil, List.head!, Nat.min_self]
  rw [h, ← hl, List.take_length]

example : Boot.interleave2 [1, 2, 3] [7, 8] = .ok [1, 7, 2, 8] ∧ Lib.interleave [[1, 2, 3], [7, 8]] = [1, 7, 2, 8] := by decide +kernel

/-- the elements land in every second cell, which is `Lib.interpose` by its own recursion -/
theorem interposeLoop_spec {α : Type} (sep : α) : ∀ (xs pre : List α) (i : Nat), ∃ j,
    eachFrom (fun _ x (st : Array α × Int) => (do
        let ret ← setIdx st.1 st.2 x
        pure ((ret, st.2 + 2), false) : R ((Array α × Int) × Bool))) i xs
      ((pre ++ List.replicate (2 * xs.length - 1) sep).toArray, (pre.length : Int))
      = .ok ((pre ++ Lib.interpose sep xs).toArray, j)
  | [], _, _ => ⟨_, rfl⟩
  | [x], pre, i => by
    refine ⟨(pre.length : Int) + 2, ?_⟩
    rw [eachFrom_cons_next (s' := ((pre ++ [x]).toArray, (pre.length : Int) + 2))]
    · rfl
    · simp only [List.length_cons, List.length_nil, List.replicate, setIdx_append_cons, R.ok_bind, R.pure_eq]
  | x :: y :: rest, pre, i => by
    obtain ⟨j, hj⟩ := interposeLoop_spec sep (y :: rest) (pre ++ [x, sep]) (i + 1)
    refine ⟨j, ?_⟩
    have hlen : 2 * (x :: y :: rest).length - 1 = (2 * (y :: rest).length - 1) + 2 := by
      simp only [List.length_cons]; omega
    have hpre : ((pre ++ [x, sep]).length : Int) = (pre.length : Int) + 2 := by
      rw [List.length_append]; rfl
    rw [hlen, eachFrom_cons_next
      (s' := ((pre ++ x :: sep :: List.replicate (2 * (y :: rest).length - 1) sep).toArray, (pre.length : Int) + 2))]
    · rw [List.append_assoc, List.append_assoc, hpre] at hj
      exact hj
    · simp only [List.replicate, setIdx_append_cons, R.ok_bind, R.pure_eq]

/-- `interpose` on an indexed / bytes value: the array pre-sized to `2·len − 1` and filled with `sep` receives element `k`
    at index `2k`; no `put` lands outside the array, `array/new-filled` never sees a negative count -/
theorem interpose_eq_spec {α : Type} (sep : α) (ind : List α) : Boot.interpose sep ind = .ok (Lib.interpose sep ind) := by
  by_cases hlen : 0 < ind.length
  · obtain ⟨j, hj⟩ := interposeLoop_spec sep ind [] 0
    have hn : ¬ (2 * (ind.length : Int) - 1 < 0) := by omega
    have hsz : (2 * (ind.length : Int) - 1).toNat = 2 * ind.length - 1 := by omega
    unfold Boot.interpose
    simp only [nextKey, hlen, if_true, hn, if_false, R.ok_bind, hsz]
    rw [← keyAt_of_lt hlen,
      eachLoop_eq_eachFrom ind _ _ 0 _ (Nat.le_succ_of_le (Nat.sub_le _ _))]
    show (eachFrom _ 0 ind (([] ++ List.replicate (2 * ind.length - 1) sep).toArray, (([] : List α).length : Int)) >>= _) = _
    rw [hj]
    rfl
  · rw [List.eq_nil_of_length_eq_zero (Nat.eq_zero_of_not_pos hlen)]
    rfl

example : Boot.interpose 0 [1, 2, 3] = .ok [1, 0, 2, 0, 3] ∧ Boot.interpose 0 ([] : List Nat) = .ok [] := by decide +kernel

end JanetModel.Lib.Boot
