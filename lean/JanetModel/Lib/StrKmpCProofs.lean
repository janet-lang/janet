import JanetModel.Lib.StrCProofs
import JanetModel.Lib.KmpProofs
/- C17: the cfuns of string.c that drive the KMP machine (`findsetup`, `string/find`, `string/find-all`, `string/split`)
   as mirrored in Lib/StrC.lean, compute the reference definitions for all inputs. -/
namespace JanetModel.Lib.StrC
open JanetModel.Lib JanetModel.Lib.CLoop

/-- the decoded `start` argument: absent = 0; negative = the call raises -/
def startNat : Option Int → Option Nat
  | none => some 0
  | some x => if x < 0 then none else some x.toNat

theorem findsetup_spec (pat text : Bytes) (start : Option Int) :
    findsetup pat text start =
      match startNat start with
      | none => .panic
      | some st => if pat = [] then .panic else
          .ok { text := text.toArray, pat := pat.toArray, lookup := Kmp.lookupTable pat.toArray, st := { i := st, j := 0 } } := by
  unfold findsetup startNat kmpInit
  cases start with
  | none =>
    cases pat with
    | nil => rfl
    | cons x xs => simp
  | some x =>
    by_cases hx : x < 0
    · simp [hx]
    · cases pat with
      | nil => simp [hx]
      | cons y ys => simp [hx]

/-- `string/find patt str &opt start`: error for an empty pattern or a negative start, else the least occurrence at an
    index `≥ start` (nil when none — also when `start` is beyond the end of the text) -/
theorem find_eq_spec (pat text : Bytes) (start : Option Int) :
    StrC.find pat text start =
      match startNat start with
      | none => .panic
      | some st => R.ofOption (Lib.find pat text st) := by
  unfold StrC.find
  rw [findsetup_spec]
  cases hs : startNat start with
  | none => rfl
  | some st =>
    simp only [Lib.find]
    by_cases hp : pat = []
    · simp [hp]
    · simp only [hp, if_false, R.ok_bind, R.pure_eq, R.ofOption_some]
      congr 1
      exact Kmp.kmpNext_fresh pat text st hp

/-- the `while` loop of `string/find-all` collects what the KMP loop of `Lib/Kmp.lean` lists, provided its fuel outlasts
    that list (each match uses up one unit) -/
theorem findAllLoop_kmp (s : KmpS) (fuel : Nat) (st : Kmp.State) (arr : Array Nat)
    (h : (Kmp.findAllLoop s.text s.pat s.lookup fuel st).length < fuel) :
    findAllLoop s fuel st arr = .ok (arr.toList ++ Kmp.findAllLoop s.text s.pat s.lookup fuel st).toArray := by
  induction fuel generalizing st arr with
  | zero => exact absurd h (Nat.not_lt_zero _)
  | succ n ih =>
    rw [Kmp.findAllLoop] at h ⊢
    rw [findAllLoop, StrC.next]
    generalize Kmp.kmpNext s.text s.pat s.lookup st = res at h ⊢
    obtain ⟨_ | r, s'⟩ := res
    · exact congrArg R.ok (by rw [List.append_nil])
    · dsimp only at h ⊢
      rw [ih s' (arr.push r) (Nat.lt_of_succ_lt_succ h), Array.toList_push, List.append_assoc]
      rfl

/-- `string/find-all`: every (overlapping) occurrence at an index `≥ start`, ascending; the `while` loop terminates
    within `textlen + 2` calls of `kmp_next` -/
theorem findAll_eq_spec (pat text : Bytes) (start : Option Int) :
    StrC.findAll pat text start =
      match startNat start with
      | none => .panic
      | some st => if pat = [] then .panic else .ok (Lib.findAll pat text st) := by
  unfold StrC.findAll
  rw [findsetup_spec]
  cases hs : startNat start with
  | none => rfl
  | some st =>
    by_cases hp : pat = []
    · simp [hp]
    · simp only [hp, if_false, R.ok_bind, R.pure_eq]
      have e := Kmp.findAllLoop_fresh pat text hp st (text.length + 2) (Nat.lt_add_left _ (Nat.lt_add_of_pos_right (by decide)))
      rw [findAllLoop_kmp _ _ _ _ (by
        rw [e, Lib.findAll]
        exact Nat.lt_of_le_of_lt (length_findAllAux_le pat text _ _) (by omega)), e]
      rfl

example : StrC.findAll [97, 97] [97, 97, 97, 97] (some 1) = .ok [1, 2] ∧ StrC.findAll [] [97] none = .panic
    ∧ StrC.find [98] [97, 98] (some (-1)) = .panic ∧ StrC.find [98] [97, 98] (some 7) = .ok none := by decide +kernel

theorem next_fresh (pat text : Bytes) (hp : pat ≠ []) (s0 : Kmp.State) (st : Nat) :
    ∃ s', StrC.next { ({ text := text.toArray, pat := pat.toArray, lookup := Kmp.lookupTable pat.toArray, st := s0 } : KmpS) with
        st := { i := st, j := 0 } } = (findFrom pat text st, s') :=
  ⟨_, Prod.ext (Kmp.kmpNext_fresh pat text st hp) rfl⟩

theorem splitAux_neg (pat text : Bytes) (fuel last st : Nat) (l1 l2 : Int) (h1 : l1 < 0) (h2 : l2 < 0) :
    splitAux pat text fuel last st l1 = splitAux pat text fuel last st l2 := by
  induction fuel generalizing last st l1 l2 with
  | zero => rfl
  | succ n ih =>
    unfold splitAux
    cases hf : findFrom pat text st with
    | none => rfl
    | some r =>
      have e1 : ¬ (l1 - 1 = 0) := by omega
      have e2 : ¬ (l2 - 1 = 0) := by omega
      simp only [e1, e2, if_false]
      rw [ih _ _ (l1 - 1) (l2 - 1) (by omega) (by omega)]

theorem matchAt_le {pat text : Bytes} {r : Nat} (h : matchAt pat text r = true) : r + pat.length ≤ text.length :=
  ((matchAt_iff _ _ _).1 h).1

/-- `limit < 0 || --limit` on an int32 `limit`: the loop goes on iff `limit - 1 ≠ 0` (a negative limit is not decremented,
    and all negative limits behave alike), and the decrement cannot overflow -/
theorem limit_step (pat text : Bytes) (limit : Int) (h32 : in32 limit = true) :
    ∃ l', (if limit < 0 then pure (true, limit) else do let l ← sub32 limit 1; pure (decide (l ≠ 0), l) : R (Bool × Int))
        = .ok (decide (limit - 1 ≠ 0), l') ∧ in32 l' = true ∧
      ∀ fuel last st, splitAux pat text fuel last st l' = splitAux pat text fuel last st (limit - 1) := by
  by_cases hneg : limit < 0
  · have e : limit - 1 ≠ 0 ∧ limit - 1 < 0 := by omega
    refine ⟨limit, ?_, h32, fun fuel last st => splitAux_neg pat text fuel last st _ _ hneg e.2⟩
    rw [if_pos hneg, decide_eq_true e.1]
    rfl
  · have h32' : in32 (limit - 1) = true := by
      unfold in32 int32Min int32Max at h32 ⊢
      simp only [decide_eq_true_eq] at h32 ⊢
      omega
    refine ⟨limit - 1, ?_, h32', fun _ _ _ => rfl⟩
    rw [if_neg hneg, sub32, if_pos h32']
    rfl

theorem splitLoop_spec (pat text : Bytes) (hp : pat ≠ []) (s0 : Kmp.State) (fuel last st : Nat) (limit : Int) (arr : Array Bytes)
    (hfuel : text.length + 1 - st ≤ fuel) (hf1 : 1 ≤ fuel) (hls : last ≤ st) (hll : last ≤ text.length) (h32 : in32 limit = true) :
    ∃ arr' li, splitLoop { text := text.toArray, pat := pat.toArray, lookup := Kmp.lookupTable pat.toArray, st := s0 }
          text fuel (last : Int) { i := st, j := 0 } limit arr = .ok (arr', ((li : Nat) : Int)) ∧ li ≤ text.length ∧
      arr'.toList ++ [text.drop li] = arr.toList ++ splitAux pat text fuel last st limit := by
  induction fuel generalizing last st limit arr with
  | zero => omega
  | succ n ih =>
    obtain ⟨s', hn⟩ := next_fresh pat text hp s0 st
    rw [splitLoop, splitAux, hn]
    cases hf : findFrom pat text st with
    | none => exact ⟨arr, last, rfl, hll, rfl⟩
    | some r =>
      obtain ⟨l', hl, h32', haux⟩ := limit_step pat text limit h32
      simp only [hl, R.ok_bind]
      by_cases hz : limit - 1 = 0
      · rw [if_pos hz, decide_eq_false (not_not_intro hz)]
        exact ⟨arr, last, rfl, hll, rfl⟩
      · obtain ⟨g1, g2, _⟩ := findFrom_some hf
        have g3 := matchAt_le g2
        have hpl : 0 < pat.length := List.length_pos_iff.mpr hp
        have ⟨a1, a2, a3, a4⟩ : last + (r - last) ≤ text.length ∧ (r : Int) - (last : Int) = ((r - last : Nat) : Int) ∧
            text.length + 1 - (r + pat.length) ≤ n ∧ 1 ≤ n := by omega
        rw [if_neg hz, decide_eq_true hz, if_pos rfl, a2, stringv_spec text last (r - last) a1, List.size_toArray,
          ← Int.natCast_add, Int.toNat_natCast]
        obtain ⟨arr', li, h1, h2, h3⟩ := ih (r + pat.length) (r + pat.length) l' (arr.push ((text.drop last).take (r - last)))
          a3 a4 (Nat.le_refl _) g3 h32'
        refine ⟨arr', li, h1, h2, ?_⟩
        rw [h3, haux, Array.toList_push, List.append_assoc]
        rfl

/-- `string/split delim str &opt start limit` for every int32 limit (also `-2147483648`: `--limit` is evaluated only when
    `limit ≥ 0`, so it cannot overflow): error for an empty delimiter / negative start; otherwise the pieces of the reference
    definition; never UB; the loop terminates within `textlen + 1` calls of `kmp_next`. -/
theorem split_eq_spec (pat text : Bytes) (start limit : Option Int) (h32 : in32 (limit.getD (-1)) = true) :
    StrC.split pat text start limit =
      match startNat start with
      | none => .panic
      | some st => R.ofOption (Lib.split pat text st (limit.getD (-1))) := by
  unfold StrC.split
  rw [findsetup_spec]
  cases hs : startNat start with
  | none => rfl
  | some st =>
    simp only [Lib.split]
    by_cases hp : pat = []
    · simp [hp]
    · simp only [hp, if_false, R.ok_bind, R.ofOption_some]
      obtain ⟨arr', li, h1, h2, h3⟩ := splitLoop_spec pat text hp { i := st, j := 0 } (text.length + 1) 0 st (limit.getD (-1)) #[]
        (Nat.sub_le _ _) (Nat.le_add_left _ _) (Nat.zero_le _) (Nat.zero_le _) h32
      rw [Int.natCast_zero] at h1
      rw [h1]
      simp only [R.ok_bind, R.pure_eq]
      rw [← Int.natCast_sub h2, stringv_spec text li _ (by rw [Nat.add_sub_cancel' h2]; exact Nat.le_refl _), R.ok_bind,
        Array.toList_push, List.take_of_length_le (by rw [List.length_drop]; exact Nat.le_refl _), h3]
      rfl

example : StrC.split [44] [44, 44, 97, 44, 44] (some 0) (some 3) = .ok [[], [], [97, 44, 44]]
    ∧ StrC.split [97] [97, 97] (some 0) (some (-2147483648)) = .ok [[], [], []]
    ∧ StrC.split [] [97] none none = .panic := by decide +kernel

end JanetModel.Lib.StrC
