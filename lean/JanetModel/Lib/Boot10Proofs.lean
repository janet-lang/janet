import JanetModel.Lib.Boot10
import JanetModel.Lib.BootProofs
/- C17: `reverse!` reverses in place for every length (no `in` / `put` outside the array, the loop ends within
   `count + 1` tests); `merge` / `merge-into` equal the fold of `assocPut` (later collections win). -/
namespace JanetModel.Lib.Boot
open JanetModel.Lib JanetModel.Lib.JIter

theorem inInt_ok {α : Type} (t : Array α) (i : Nat) (h : i < t.size) : inInt t (i : Int) = .ok t[i] := by
  unfold inInt
  have : ¬ ((i : Int) < 0) := by omega
  simp [this, h]

theorem inInt_append_cons {α : Type} (pre : List α) (y : α) (tl : List α) :
    inInt (pre ++ y :: tl).toArray (pre.length : Int) = .ok y := by
  have h0 : ¬ ((pre.length : Int) < 0) := Int.not_lt.mpr (Int.natCast_nonneg _)
  simp only [inInt, h0, if_false, Int.toNat_natCast, List.getElem?_toArray, getElem?_append_cons]

/-- the loop with `i` at the start and `j` behind the end of a segment `M` of the array reverses that segment in place: a
    swap exchanges the ends of `M` and leaves the rest of it to the following iterations -/
theorem reverseBangLoop_list {α : Type} : ∀ (fuel : Nat) (L M T : List α), M.length < 2 * fuel →
    reverseBangLoop fuel (L ++ (M ++ T)).toArray (L.length : Int) ((L.length + M.length : Nat) : Int)
      = .ok (L ++ (M.reverse ++ T)).toArray := by
  intro fuel
  induction fuel with
  | zero => exact fun _ _ _ h => absurd h (Nat.not_lt_zero _)
  | succ n ih =>
    intro L M T hf
    unfold reverseBangLoop
    match M, hf with
    | [], _ =>
      have hc : ¬ ((L.length : Int) < ((L.length + 0 : Nat) : Int) - 1) := by omega
      simp only [List.length_nil, if_neg hc, List.reverse_nil]
    | [x], _ =>
      have hc : ¬ ((L.length : Int) < ((L.length + 1 : Nat) : Int) - 1) := by omega
      simp only [List.length_cons, List.length_nil, if_neg hc, List.reverse_singleton]
    | x :: y :: rest, hf =>
      obtain ⟨M', z, hz⟩ : ∃ M' z, y :: rest = M' ++ [z] := ⟨_, _, (List.dropLast_concat_getLast (List.cons_ne_nil y rest)).symm⟩
      rw [hz] at hf ⊢
      simp only [List.length_cons, List.length_append, List.length_nil] at hf
      have e : ∀ a b, L ++ (a :: (M' ++ [b]) ++ T) = (L ++ a :: M') ++ b :: T := fun a b => by simp
      have hlen : ∀ a, ((L.length + (x :: (M' ++ [z])).length : Nat) : Int) - 1 = ((L ++ a :: M').length : Int) := fun a => by
        simp only [List.length_cons, List.length_append, List.length_nil]
        omega
      have hc : (L.length : Int) < ((L ++ x :: M').length : Int) := by
        simp only [List.length_cons, List.length_append]
        omega
      have h1 : inInt (L ++ (x :: (M' ++ [z]) ++ T)).toArray (L.length : Int) = .ok x := inInt_append_cons L x _
      have h2 : inInt (L ++ (x :: (M' ++ [z]) ++ T)).toArray ((L ++ x :: M').length : Int) = .ok z := by
        rw [e]
        exact inInt_append_cons _ z T
      have h3 : setIdx (L ++ (x :: (M' ++ [z]) ++ T)).toArray (L.length : Int) z = .ok (L ++ (z :: (M' ++ [z]) ++ T)).toArray :=
        setIdx_append_cons L x _ z
      have h4 : setIdx (L ++ (z :: (M' ++ [z]) ++ T)).toArray ((L ++ x :: M').length : Int) x
          = .ok ((L ++ [z]) ++ (M' ++ ([x] ++ T))).toArray := by
        rw [e, (hlen x).symm.trans (hlen z), setIdx_append_cons]
        simp
      rw [hlen x, if_pos hc, h1, R.ok_bind, h2, R.ok_bind, h3, R.ok_bind, h4, R.ok_bind]
      have hi : (L.length : Int) + 1 = ((L ++ [z]).length : Int) := by
        rw [List.length_append]
        rfl
      have hj : ((L ++ x :: M').length : Int) = (((L ++ [z]).length + M'.length : Nat) : Int) := by
        simp only [List.length_cons, List.length_append, List.length_nil]
        omega
      rw [hi, hj, ih (L ++ [z]) M' ([x] ++ T) (by omega)]
      simp

theorem reverseBang_eq_spec {α : Type} (t : List α) : Boot.reverseBang t = .ok t.reverse := by
  have h := reverseBangLoop_list (t.length + 1) [] t [] (by omega)
  simp only [List.nil_append, List.append_nil, List.length_nil, Nat.zero_add] at h
  unfold Boot.reverseBang
  rw [show (((0 : Nat) : Int)) = 0 from rfl] at h
  rw [h]
  rfl

example : Boot.reverseBang [1, 2, 3, 4, 5] = .ok [5, 4, 3, 2, 1] ∧ Boot.reverseBang ([] : List Nat) = .ok [] := by decide +kernel

theorem assocGet_of_nodup {α β : Type} [BEq α] [LawfulBEq α] : ∀ (c : List (α × β)), (c.map (·.1)).Nodup →
    ∀ kv ∈ c, assocGet c kv.1 = some kv.2
  | [], _, _, h => nomatch h
  | (k, v) :: rest, hnd, kv, h => by
    rw [List.map_cons, List.nodup_cons] at hnd
    rcases List.mem_cons.mp h with rfl | h
    · simp [assocGet]
    · have hne : (k == kv.1) = false := Bool.eq_false_iff.mpr fun hh => hnd.1 (by
        rw [eq_of_beq hh]
        exact List.mem_map.mpr ⟨kv, h, rfl⟩)
      simp only [assocGet, hne, Bool.false_eq_true, if_false]
      exact assocGet_of_nodup rest hnd.2 kv h

/-- the inner `:keys` loop looks every key of `c` up again and finds the value it is paired with -/
theorem mergeOne_spec {α β : Type} [BEq α] [LawfulBEq α] (c : List (α × β)) (hnd : (c.map (·.1)).Nodup) (tab : List (α × β)) :
    each (c.map (·.1)) (fun _ key tab => mergeKeyStep c key tab) tab
      = .ok (c.foldl (fun acc kv => assocPut acc kv.1 kv.2) tab) := by
  rw [each_eq_eachFrom, eachFrom_map, ← each_eq_eachFrom]
  exact each_fold_mem c _ (fun acc kv => assocPut acc kv.1 kv.2) tab
    (fun _ kv s h => by simp only [mergeKeyStep, assocGet_of_nodup c hnd kv h])

/-- `merge-into` / `merge`: later collections win, a key keeps the position of its first insertion (collections with
    distinct keys, as every janet table / struct has) -/
theorem mergeInto_eq_spec {α β : Type} [BEq α] [LawfulBEq α] (tab : List (α × β)) (colls : List (List (α × β)))
    (hnd : ∀ c ∈ colls, (c.map (·.1)).Nodup) :
    Boot.mergeInto tab colls = .ok (colls.foldl (fun acc c => c.foldl (fun acc kv => assocPut acc kv.1 kv.2) acc) tab) := by
  unfold Boot.mergeInto
  exact each_fold_mem colls _ (fun s c => c.foldl (fun acc kv => assocPut acc kv.1 kv.2) s) tab
    (fun _ c s hc => by
      show mergeCollStep c s = _
      unfold mergeCollStep
      rw [mergeOne_spec c (hnd c hc) s]
      rfl)

theorem merge_eq_spec {α β : Type} [BEq α] [LawfulBEq α] (colls : List (List (α × β)))
    (hnd : ∀ c ∈ colls, (c.map (·.1)).Nodup) : Boot.merge colls = .ok (Lib.merge colls) :=
  mergeInto_eq_spec [] colls hnd

example : Boot.merge [[(1, 10), (2, 20)], [(2, 21), (3, 30)]] = .ok [(1, 10), (2, 21), (3, 30)] := by decide +kernel

end JanetModel.Lib.Boot
