import JanetModel.Lib.BufC
import JanetModel.Lib.SpecLaws
/- C17: the buffer.c mirrors of Lib/BufC.lean (`bitloc` + the four bit operations with the real `|= &= ~ ^= &` on a byte,
   `buffer/fill`, `buffer/popn`, `buffer/blit`) compute the reference definitions. -/
namespace JanetModel.Lib.BufC
open JanetModel.Lib JanetModel.Lib.CLoop JanetModel.Util

theorem bitloc_eq_spec (b : Bytes) (x : Int) (hx : in64 x = true) : BufC.bitloc b x = R.ofOption (Lib.bitloc b x) := by
  unfold BufC.bitloc Lib.bitloc
  simp only [hx, Bool.not_true, Bool.false_eq_true, if_false]
  by_cases h : x < 0 ∨ x / 8 ≥ (b.length : Int) <;> simp [h]

/-- the byte-level facts, checked on all 256 × 8 (byte, bit) pairs -/
theorem byte_bit_table :
    (List.range 256).all (fun w => (List.range 8).all (fun bit =>
      ((w ||| (1 <<< bit)) % 256 == (if testBit w bit then w else w + 2 ^ bit)) &&
      ((w &&& (255 - (1 <<< bit))) % 256 == (if testBit w bit then w - 2 ^ bit else w)) &&
      ((w ^^^ (1 <<< bit)) % 256 == (if testBit w bit then w - 2 ^ bit else w + 2 ^ bit)) &&
      (decide (w &&& (1 <<< bit) ≠ 0) == testBit w bit))) = true := by decide +kernel

theorem byte_bit (w bit : Nat) (hw : w < 256) (hb : bit < 8) :
    (w ||| (1 <<< bit)) % 256 = (if testBit w bit then w else w + 2 ^ bit) ∧
    (w &&& (255 - (1 <<< bit))) % 256 = (if testBit w bit then w - 2 ^ bit else w) ∧
    (w ^^^ (1 <<< bit)) % 256 = (if testBit w bit then w - 2 ^ bit else w + 2 ^ bit) ∧
    decide (w &&& (1 <<< bit) ≠ 0) = testBit w bit := by
  have h := byte_bit_table
  rw [List.all_eq_true] at h
  have h1 := h w (List.mem_range.mpr hw)
  rw [List.all_eq_true] at h1
  have h2 := h1 bit (List.mem_range.mpr hb)
  simp only [Bool.and_eq_true, beq_iff_eq] at h2
  exact ⟨h2.1.1.1, h2.1.1.2, h2.1.2, h2.2⟩

theorem bitloc_some {b : Bytes} {x : Int} {i bit : Nat} (h : Lib.bitloc b x = some (i, bit)) : i < b.length ∧ bit < 8 := by
  unfold Lib.bitloc at h
  by_cases hc : x < 0 ∨ x / 8 ≥ (b.length : Int)
  · simp [hc] at h
  · simp only [hc, if_false, Option.some.injEq, Prod.mk.injEq] at h
    omega

/-- `buffer/bit`, `bit-set`, `bit-clear`, `bit-toggle` on byte buffers: the C's bitwise updates of the `uint8_t` cell equal
    the arithmetic definitions; an index outside the buffer raises; never UB -/
theorem bitops_eq_spec (b : Bytes) (x : Int) (hx : in64 x = true) (hb : ∀ c ∈ b, c < 256) :
    BufC.bitGet b x = R.ofOption (Lib.bitGet b x) ∧ BufC.bitSet b x = R.ofOption (Lib.bitSet b x) ∧
    BufC.bitClear b x = R.ofOption (Lib.bitClear b x) ∧ BufC.bitToggle b x = R.ofOption (Lib.bitToggle b x) := by
  unfold BufC.bitGet BufC.bitSet BufC.bitClear BufC.bitToggle Lib.bitGet Lib.bitSet Lib.bitClear Lib.bitToggle
  rw [bitloc_eq_spec b x hx]
  cases hl : Lib.bitloc b x with
  | none => exact ⟨rfl, rfl, rfl, rfl⟩
  | some ib =>
    obtain ⟨i, bit⟩ := ib
    obtain ⟨hi, hbit⟩ := bitloc_some hl
    have hw : b[i] < 256 := hb _ (List.getElem_mem hi)
    obtain ⟨t1, t2, t3, t4⟩ := byte_bit b[i] bit hw hbit
    have hgd : b.getD i 0 = b[i] := Util.getD_of_lt b 0 i hi
    simp only [R.ofOption_some, R.ok_bind, idx_list_ok b i hi, R.pure_eq, hgd]
    refine ⟨by rw [t4], ?_, ?_, ?_⟩
    · rw [setIdx_ok _ _ _ (by simpa using hi), t1]; simp
    · rw [setIdx_ok _ _ _ (by simpa using hi), t2]; simp
    · rw [setIdx_ok _ _ _ (by simpa using hi), t3]; simp

example : BufC.bitSet [0, 128] 15 = .ok [0, 128] ∧ BufC.bitToggle [0, 128] 9 = .ok [0, 130] ∧ BufC.bitClear [255] 0 = .ok [254]
    ∧ BufC.bitGet [1] 8 = .panic ∧ BufC.bitGet [1] (-1) = .panic ∧ BufC.bitGet [1] 0 = .ok true := by decide +kernel

theorem fill_eq_spec (b : Bytes) (byte : Int) : BufC.fill b byte = .ok (bufferFill b byte) := by
  rw [BufC.fill, fill_const _ _ List.size_toArray, bufferFill, List.map_const']
  rfl

theorem popn_eq_spec (b : Bytes) (n : Int) (hL : Len32 b) : BufC.popn b n = R.ofOption (bufferPopn b n) := by
  unfold BufC.popn bufferPopn
  by_cases hn : n < 0
  · simp only [hn, if_true, R.ofOption_none]
  · obtain ⟨k, rfl⟩ : ∃ k : Nat, n = (k : Int) := ⟨n.toNat, by omega⟩
    simp only [hn, if_false, R.ofOption_some, Int.toNat_natCast]
    by_cases hlt : (b.length : Int) < (k : Int)
    · rw [if_pos hlt, Nat.sub_eq_zero_of_le (Nat.le_of_lt (Int.ofNat_lt.mp hlt))]; rfl
    · rw [if_neg hlt, sub32_nat _ _ (Int.ofNat_le.mp (Int.not_lt.mp hlt)) (Int.ofNat_le.mp hL)]
      simp only [R.ok_bind, R.pure_eq, Int.toNat_natCast]

def blitLenO (s : Bytes) (os : Nat) (se : Option (Option Int)) : Option Nat :=
  match se with
  | none => some (s.length - os)
  | some none => some (s.length - os)
  | some (some r) =>
    match halfrange r s.length with
    | none => none
    | some e => some (e - os)

theorem bufferBlit_unfold (dest : Bytes) (src : Option Bytes) (ds ss : Option Int) (se : Option (Option Int)) :
    bufferBlit dest src ds ss se =
      match startrange ds dest.length with
      | none => none
      | some od =>
        match startrange ss (srcOf dest src).length with
        | none => none
        | some os =>
          match blitLenO (srcOf dest src) os se with
          | none => none
          | some len =>
            if (od : Int) + len > int32Max then none else
            some (dest.take od ++ ((srcOf dest src).drop os).take len ++ dest.drop (od + len)) := by
  unfold bufferBlit startrange blitLenO srcOf
  cases ds <;> cases ss <;> cases se <;> rfl

theorem optHalf_eq (a : Option Int) (len : Nat) : optHalf a len = R.ofOption (startrange a len) := by
  cases a <;> rfl

theorem blitLen_eq (s : Bytes) (os : Nat) (se : Option (Option Int)) (hs : (s.length : Int) ≤ 2147483647) (hos : os ≤ s.length) :
    blitLen s os se = R.ofOption ((blitLenO s os se).map (fun (n : Nat) => (n : Int))) ∧
    ∀ len, blitLenO s os se = some len → os + len ≤ s.length := by
  have hs' : s.length ≤ 2147483647 := Int.ofNat_le.mp hs
  have hfull : os + (s.length - os) ≤ s.length := Nat.le_of_eq (Nat.add_sub_cancel' hos)
  cases se with
  | none => exact ⟨sub32_nat _ _ hos hs', fun len h => by cases h; exact hfull⟩
  | some e =>
    cases e with
    | none =>
      refine ⟨?_, fun len h => by cases h; exact hfull⟩
      simp only [blitLen, blitLenO, R.pure_eq, R.ok_bind, sub32_nat _ _ hos hs', natCast_not_neg, if_false, Option.map_some,
        R.ofOption_some]
    | some r =>
      cases hh : halfrange r s.length with
      | none => exact ⟨by simp [blitLen, blitLenO, hh], fun len h => by simp [blitLenO, hh] at h⟩
      | some e =>
        have hele := (halfrange_some hh).1
        have i2 : in32 ((e : Int) - (os : Int)) = true := by
          unfold in32 int32Min int32Max; simp only [decide_eq_true_eq]; omega
        refine ⟨?_, fun len h => by simp [blitLenO, hh] at h; omega⟩
        simp only [blitLen, blitLenO, hh, R.ofOption_some, R.ok_bind, sub32, i2, if_true, R.pure_eq, Option.map_some]
        congr 1
        split <;> omega

theorem blitCopy_spec (dest pad : Bytes) (src : Option Bytes) (od os len : Nat)
    (hd : od + len ≤ (dest ++ pad).length) (hs : os + len ≤ (srcOf dest src).length) :
    (if (len : Int) ≠ 0 then blitCopy (dest ++ pad).toArray src (od : Int) (os : Int) len else pure (dest ++ pad).toArray)
      = .ok (splice (dest ++ pad) od (((srcOf dest src).drop os).take len)).toArray := by
  by_cases hz : (len : Int) ≠ 0
  · rw [if_pos hz]
    cases src with
    | none =>
      simp only [srcOf] at hs
      simp only [blitCopy, memmove, srcOf]
      rw [memcpy_spec _ _ od os len (by simp; omega) (by simpa using hd)]
      simp only [take_drop_append_left dest pad os len hs, splice, length_take_drop dest os len hs]
    | some l =>
      simp only [srcOf] at hs
      simp only [blitCopy, srcOf]
      rw [memcpy_spec _ _ od os len (by simpa using hs) (by simpa using hd)]
      simp only [splice, length_take_drop l os len hs]
  · have hl0 : len = 0 := by omega
    subst hl0
    simp only [Int.natCast_zero, ne_eq, not_true_eq_false, if_false, R.pure_eq, splice, List.take_zero, List.length_nil,
      List.append_nil, Nat.add_zero, List.take_append_drop]

/-- `buffer/blit dest src &opt dest-start src-start src-end`, also with `src` = `dest` (memmove): errors exactly for
    out-of-range offsets and for a result beyond INT32_MAX; the int32 subtraction and the int64 sum never overflow; the
    negative-length clamp makes the copy size non-negative; the copy stays inside source and (grown) destination; every
    byte below the new count is determined; the result is the reference definition evaluated on the OLD contents. -/
theorem blit_eq_spec (dest : Bytes) (src : Option Bytes) (ds ss : Option Int) (se : Option (Option Int))
    (hd : Len32 dest) (hs : ∀ l, src = some l → Len32 l) :
    BufC.blit dest src ds ss se = R.ofOption (bufferBlit dest src ds ss se) := by
  rw [bufferBlit_unfold]
  unfold BufC.blit
  simp only
  have hsl : Len32 (srcOf dest src) := by
    cases src with
    | none => exact hd
    | some l => exact hs l rfl
  unfold Len32 int32Max at hd hsl
  rw [optHalf_eq, optHalf_eq]
  cases hod : startrange ds dest.length with
  | none => rfl
  | some od =>
    have hodle := startrange_le hod
    simp only [R.ofOption_some, R.ok_bind]
    cases hos : startrange ss (srcOf dest src).length with
    | none => rfl
    | some os =>
      have hosle := startrange_le hos
      simp only [R.ofOption_some, R.ok_bind]
      obtain ⟨hlenR, hlenB⟩ := blitLen_eq (srcOf dest src) os se hsl hosle
      rw [hlenR]
      cases hlen : blitLenO (srcOf dest src) os se with
      | none => rfl
      | some len =>
        have hlenle := hlenB len hlen
        simp only [Option.map_some, R.ofOption_some, R.ok_bind]
        have i64 : in64 (od + len : Int) = true := by
          unfold in64 int64Min int64Max; simp only [decide_eq_true_eq]; omega
        simp only [add64, i64, if_true, R.ok_bind]
        by_cases hbig : (od + len : Int) > int32Max
        · simp only [hbig, if_true, R.ofOption_none]
        · have ecount : (if (od + len : Int) > dest.length then (od + len : Int).toNat else dest.length)
              = max (od + len) dest.length := by
            rw [← Int.natCast_add, Int.toNat_natCast]
            by_cases h : dest.length < od + len
            · rw [if_pos (Int.ofNat_lt.mpr h), Nat.max_eq_left (Nat.le_of_lt h)]
            · rw [if_neg (h ∘ Int.ofNat_lt.mp), Nat.max_eq_right (Nat.le_of_not_lt h)]
          have hX := length_take_drop (srcOf dest src) os len hlenle
          simp only [hbig, if_false, natCast_not_neg, R.ofOption_some, ecount, Int.toNat_natCast, ← List.toArray_replicate,
            List.append_toArray]
          rw [blitCopy_spec dest _ src od os len (by
            rw [List.length_append, List.length_replicate, Nat.add_sub_of_le (Nat.le_max_right _ _)]
            exact Nat.le_max_left _ _) hlenle]
          simp only [R.ok_bind, R.pure_eq, List.toList_toArray]
          congr 1
          have := take_splice_grown dest (((srcOf dest src).drop os).take len) (List.replicate (max (od + len) dest.length - dest.length) 0)
            od hodle (by rw [hX, List.length_replicate])
          rwa [hX] at this

example : BufC.blit [1, 2, 3] none (some 1) (some 0) none = .ok [1, 1, 2, 3] ∧
    BufC.blit [1, 2, 3] (some [9, 8, 7]) (some (-1)) (some 1) (some (some 0)) = .ok [1, 2, 3] ∧
    BufC.blit [1, 2, 3] (some [9]) (some 5) none none = .panic := by decide +kernel

end JanetModel.Lib.BufC
