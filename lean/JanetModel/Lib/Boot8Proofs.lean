import JanetModel.Lib.Boot8
import JanetModel.Lib.SortProofs
import JanetModel.Lib.ArrCProofs
/- C17: `sort-by`, `sorted`, `sorted-by` return an ordered permutation whenever `<` on the keys (resp. `before?`)
   is a strict weak order: the comparator built from a key function inherits the three laws, `(array/slice ind)` is a
   copy of the whole argument, and `Sort.sort_sorted` applies. -/
namespace JanetModel.Lib.Boot
open JanetModel.Lib

theorem byKey_swo {α κ : Type} (lt : κ → κ → Bool) (f : α → κ) (h : Sort.SWO lt) : Sort.SWO (byKey lt f) :=
  ⟨fun x => h.irr (f x), fun x y => h.asym (f x) (f y), fun x y z => h.negtrans (f x) (f y) (f z)⟩

theorem slice_all {α : Type} [Inhabited α] (ind : List α) : ArrC.slice ind none none = .ok ind := by
  rw [ArrC.slice_eq_spec]
  have : Lib.slice ind none none = some ind := by
    simp [Lib.slice, Lib.getslice, Lib.startrange, Lib.endrange]
  rw [this]; rfl

theorem sortBy_sorted {α κ : Type} (le : α → α → Bool) (lt : κ → κ → Bool) (f : α → κ) (h : Sort.SWO lt) (a : Array α) :
    ∃ r, sortBy le lt f a = .ok r ∧ Array.Perm r a ∧ r.size = a.size ∧
      ∀ i j (hij : i < j) (hj : j < r.size), lt (f r[j]) (f (r[i]'(by omega))) = false :=
  Sort.sort_sorted le (byKey lt f) (byKey_swo lt f h) a

theorem sorted_sorted {α : Type} [Inhabited α] (le before : α → α → Bool) (h : Sort.SWO before) (ind : List α) :
    ∃ r, sorted le before ind = .ok r ∧ Array.Perm r ind.toArray ∧ r.size = ind.length ∧
      ∀ i j (hij : i < j) (hj : j < r.size), before r[j] (r[i]'(by omega)) = false := by
  unfold sorted
  rw [slice_all]
  obtain ⟨r, h1, h2, h3, h4⟩ := Sort.sort_sorted le before h ind.toArray
  exact ⟨r, h1, h2, by simpa using h3, h4⟩

theorem sortedBy_sorted {α κ : Type} [Inhabited α] (le : α → α → Bool) (lt : κ → κ → Bool) (f : α → κ) (h : Sort.SWO lt)
    (ind : List α) :
    ∃ r, sortedBy le lt f ind = .ok r ∧ Array.Perm r ind.toArray ∧ r.size = ind.length ∧
      ∀ i j (hij : i < j) (hj : j < r.size), lt (f r[j]) (f (r[i]'(by omega))) = false :=
  sorted_sorted le (byKey lt f) (byKey_swo lt f h) ind

/-- `<` on the integers is a strict weak order (so the hypotheses above are satisfiable; it is the default `before?`) -/
theorem int_lt_swo : Sort.SWO (fun (a b : Int) => decide (a < b)) :=
  ⟨fun x => by simp, fun x y h => by simp at h ⊢; omega, fun x y z h1 h2 => by simp at h1 h2 ⊢; omega⟩

example : sortedBy (fun (a b : Int) => decide (a ≤ b)) (fun (a b : Int) => decide (a < b)) (fun x => -x) [1, 3, 2] = .ok #[3, 2, 1] := by
  decide +kernel

end JanetModel.Lib.Boot
