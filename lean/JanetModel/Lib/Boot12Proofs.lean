import JanetModel.Lib.Boot12
import JanetModel.Lib.Boot11Proofs
/- C17: map-template with a breaking aggregator (`some`, `all`), every branch and any number of sequences,
   equals the stopping fold `foldB` over the row results up to the shortest sequence; for the two aggregators of boot.janet
   that fold is `find?` (first truthy / first falsey result, else the initial value). -/
namespace JanetModel.Lib.Boot
open JanetModel.Lib JanetModel.Lib.JIter

theorem foldB_cons {γ σ : Type} (agg : σ → γ → σ × Bool) (s : σ) (v : γ) (vs : List γ) :
    foldB agg s (v :: vs) = if (agg s v).2 then (agg s v).1 else foldB agg (agg s v).1 vs := rfl

section
variable {α β γ σ : Type} (f : α → List β → γ) (ind : List α) (inds : List (List β))

def rowVal (j : Nat) : Option γ :=
  ind[j]?.map (fun x => f x (inds.filterMap (fun c => c[j]?)))

def rowValsFrom (i : Nat) : List γ :=
  (List.range' i (minLen ind.length inds - i)).filterMap (rowVal f ind inds)

theorem rowVals_eq : rowVals f ind inds = rowValsFrom f ind inds 0 := by
  simp only [rowVals, rowValsFrom, List.range_eq_range', Nat.sub_zero]
  rfl

theorem rowValsFrom_end (i : Nat) (h : minLen ind.length inds ≤ i) : rowValsFrom f ind inds i = [] := by
  simp only [rowValsFrom, Nat.sub_eq_zero_of_le h, List.range'_zero, List.filterMap_nil]

theorem rowValsFrom_step (i : Nat) (h : i < ind.length) (hall : ∀ c ∈ inds, i < c.length) :
    rowValsFrom f ind inds i = f ind[i] (inds.filterMap (fun c => c[i]?)) :: rowValsFrom f ind inds (i + 1) := by
  have hm : i + 1 ≤ minLen ind.length inds := le_minLen inds ind.length (i + 1) h hall
  have e : minLen ind.length inds - i = (minLen ind.length inds - (i + 1)) + 1 := by omega
  simp only [rowValsFrom]
  rw [e, List.range'_succ, List.filterMap_cons]
  simp [rowVal, List.getElem?_eq_getElem h]

/-- the each-loop of every branch of map-template at once: `res st` is the aggregate, `K i st` says that every key stands
    on row `i - 1` -/
theorem rowLoop_spec {τ : Type} (agg : σ → γ → σ × Bool) (body : Nat → α → τ → R (τ × Bool)) (res : τ → σ)
    (K : Nat → τ → Prop)
    (hstep : ∀ i x st, K i st →
      (∃ st', body i x st = .ok (st', true) ∧ res st' = res st ∧ ∃ c ∈ inds, ¬ i < c.length) ∨
      (∃ st', body i x st = .ok (st', (agg (res st) (f x (inds.filterMap (fun c => c[i]?)))).2) ∧
        res st' = (agg (res st) (f x (inds.filterMap (fun c => c[i]?)))).1 ∧ K (i + 1) st' ∧ ∀ c ∈ inds, i < c.length))
    (st0 : τ) (h0 : K 0 st0) :
    ∃ st', each ind body st0 = .ok st' ∧ res st' = foldB agg (res st0) (rowVals f ind inds) := by
  rw [rowVals_eq]
  obtain ⟨st', hs, hP⟩ := each_inv ind body
    (fun i st => (∀ c ∈ inds, i ≤ c.length) ∧ K i st ∧
      foldB agg (res st) (rowValsFrom f ind inds i) = foldB agg (res st0) (rowValsFrom f ind inds 0))
    (fun st => res st = foldB agg (res st0) (rowValsFrom f ind inds 0))
    (by
      intro i h st ⟨hle, hK, hres⟩
      rcases hstep i ind[i] st hK with ⟨st', hb, hr, hex⟩ | ⟨st', hb, hr, hK', hall⟩
      · rw [rowValsFrom_end f ind inds i (Nat.le_of_eq (minLen_eq_of_short (Nat.le_of_lt h) hle hex))] at hres
        exact Or.inr ⟨st', hb, hr.trans hres⟩
      · rw [rowValsFrom_step f ind inds i h hall, foldB_cons, ← hr] at hres
        cases hbk : (agg (res st) (f ind[i] (inds.filterMap (fun c => c[i]?)))).2 with
        | false =>
          rw [hbk] at hb hres
          exact Or.inl ⟨st', hb, hall, hK', hres⟩
        | true =>
          rw [hbk] at hb hres
          exact Or.inr ⟨st', hb, hres⟩)
    st0 ⟨fun _ _ => Nat.zero_le _, h0, rfl⟩
  refine ⟨st', hs, ?_⟩
  rcases hP with ⟨_, _, h⟩ | h
  · rw [rowValsFrom_end f ind inds ind.length (minLen_le inds ind.length)] at h
    exact h
  · exact h

end

theorem mapNB_eq_spec {α β γ σ : Type} (agg : σ → γ → σ × Bool) (f : α → List β → γ) (init : σ) (ind : List α)
    (inds : List (List β)) : Boot.mapNB agg f init ind inds = .ok (foldB agg init (rowVals f ind inds)) := by
  obtain ⟨st', hs, hr⟩ := rowLoop_spec f ind inds agg (mapNBBody agg f inds) Prod.fst
    (fun i st => st.2 = inds.map (fun _ => prevKey i))
    (fun i x st hK => by
      by_cases hall : ∀ c ∈ inds, i < c.length
      · exact Or.inr ⟨((agg st.1 (f x (inds.filterMap (fun c => c[i]?)))).1, (inds.map (fun _ => i)).map some),
          by simp only [mapNBBody, hK, advanceKeys_all i inds hall, fetchRow_all i inds hall], rfl,
          by rw [List.map_map]; rfl, hall⟩
      · exact Or.inl ⟨st, by simp only [mapNBBody, hK, advanceKeys_short i inds (exists_short hall)], rfl,
          exists_short hall⟩)
    (init, inds.map (fun _ => none)) rfl
  unfold Boot.mapNB
  rw [hs]
  exact congrArg R.ok hr

theorem mapGenB_eq_spec {α β γ σ : Type} (agg : σ → γ → σ × Bool) (f : α → List β → γ) (init : σ) (ind : List α)
    (inds : List (List β)) : Boot.mapGenB agg f init ind inds = .ok (foldB agg init (rowVals f ind inds)) := by
  obtain ⟨st', hs, hr⟩ := rowLoop_spec f ind inds agg (mapGenBBody agg f inds.toArray) GenSt.res
    (fun i st => st.iterKeys = (inds.map (fun _ => prevKey i)).toArray ∧ st.callBuffer.size = inds.length)
    (fun i x st hK => by
      obtain ⟨ik', cb', d, hf, hd1, hd2⟩ := fillCallBuffer_row inds i st.callBuffer hK.2
      rw [← hK.1] at hf
      cases d with
      | true =>
        exact Or.inl ⟨{ st with iterKeys := ik', callBuffer := cb', done := true },
          by simp only [mapGenBBody, List.size_toArray, hf, if_true], rfl, hd1 rfl⟩
      | false =>
        obtain ⟨hk', hsz, hrow, hall⟩ := hd2 rfl
        exact Or.inr ⟨⟨(agg st.res (f x (inds.filterMap (fun c => c[i]?)))).1, ik', cb', false⟩,
          by simp only [mapGenBBody, List.size_toArray, hf, Bool.false_eq_true, if_false, hrow], rfl, ⟨hk', hsz⟩, hall⟩)
    ⟨init, Array.replicate inds.length none, Array.replicate inds.length none, false⟩
    ⟨by rw [← List.toArray_replicate, List.map_const']; rfl, Array.size_replicate⟩
  unfold Boot.mapGenB
  simp only [hs]
  exact congrArg R.ok hr

theorem map0B_eq_spec {α β γ σ : Type} (agg : σ → γ → σ × Bool) (f : α → List β → γ) (init : σ) (ind : List α) :
    Boot.map0B agg f init ind = .ok (foldB agg init (rowVals f ind ([] : List (List β)))) := by
  obtain ⟨st', hs, hr⟩ := rowLoop_spec f ind [] agg (fun _ x (res : σ) => R.ok (agg res (f x []))) id (fun _ _ => True)
    (fun _ x st _ => Or.inr ⟨(agg st (f x [])).1, rfl, rfl, trivial, fun c hc => absurd hc List.not_mem_nil⟩) init trivial
  unfold Boot.map0B
  rw [hs]
  exact congrArg R.ok hr

theorem foldB_nobreak {γ σ : Type} (agg : σ → γ → σ) : ∀ (vs : List γ) (s : σ),
    foldB (fun s v => (agg s v, false)) s vs = vs.foldl agg s
  | [], _ => rfl
  | v :: vs, s => foldB_nobreak agg vs (agg s v)

theorem mapRows_eq_foldl {α β γ σ : Type} (agg : σ → γ → σ) (f : α → List β → γ) (init : σ) (ind : List α)
    (inds : List (List β)) : mapRows agg f init ind inds = (rowVals f ind inds).foldl agg init := by
  unfold mapRows rowVals
  simp only [List.foldl_filterMap]
  congr 1
  funext s j
  cases ind[j]? <;> rfl

/-- `map-n n` for every `n`.  The bodies written for the aggregators that do not break (Lib/Boot11.lean) unfold to those of
    Lib/Boot12.lean with an aggregator that never says `(break)`. -/
theorem mapN_eq_spec {α β γ σ : Type} (agg : σ → γ → σ) (f : α → List β → γ) (init : σ) (ind : List α) (inds : List (List β)) :
    Boot.mapN agg f init ind inds = .ok (mapRows agg f init ind inds) := by
  rw [show Boot.mapN agg f init ind inds = Boot.mapNB (fun s v => (agg s v, false)) f init ind inds from rfl,
    mapNB_eq_spec, foldB_nobreak, mapRows_eq_foldl]

theorem mapGen_eq_spec {α β γ σ : Type} (agg : σ → γ → σ) (f : α → List β → γ) (init : σ) (ind : List α) (inds : List (List β)) :
    Boot.mapGen agg f init ind inds = .ok (mapRows agg f init ind inds) := by
  rw [show Boot.mapGen agg f init ind inds = Boot.mapGenB (fun s v => (agg s v, false)) f init ind inds from rfl,
    mapGenB_eq_spec, foldB_nobreak, mapRows_eq_foldl]

theorem mapTemplateB_eq_spec {α β γ σ : Type} (agg : σ → γ → σ × Bool) (f : α → List β → γ) (init : σ) (ind : List α)
    (inds : List (List β)) : Boot.mapTemplateB agg f init ind inds = .ok (foldB agg init (rowVals f ind inds)) := by
  unfold Boot.mapTemplateB
  split
  · rename_i h
    have : inds = [] := List.eq_nil_of_length_eq_zero h
    subst this
    exact map0B_eq_spec agg f init ind
  · exact mapNB_eq_spec agg f init ind inds
  · exact mapNB_eq_spec agg f init ind inds
  · exact mapNB_eq_spec agg f init ind inds
  · exact mapGenB_eq_spec agg f init ind inds

theorem foldB_someAgg {γ : Type} (truthy : γ → Bool) : ∀ (vs : List γ) (s : γ),
    foldB (someAgg truthy) s vs = (vs.find? truthy).getD s
  | [], _ => rfl
  | v :: vs, s => by
    rw [foldB_cons, List.find?_cons]
    cases hv : truthy v with
    | true => simp [someAgg, hv]
    | false => simp only [someAgg, hv, Bool.false_eq_true, if_false]; exact foldB_someAgg truthy vs s

theorem foldB_allAgg {γ : Type} (truthy : γ → Bool) : ∀ (vs : List γ) (s : γ),
    foldB (allAgg truthy) s vs = (vs.find? (fun v => !truthy v)).getD s
  | [], _ => rfl
  | v :: vs, s => by
    rw [foldB_cons, List.find?_cons]
    cases hv : truthy v with
    | true => simp only [allAgg, hv, if_true, Bool.not_true, Bool.false_eq_true, if_false]; exact foldB_allAgg truthy vs s
    | false => simp [allAgg, hv]

theorem someOf_eq_spec {α β γ : Type} (truthy : γ → Bool) (nilv : γ) (pred : α → List β → γ) (ind : List α) (inds : List (List β)) :
    Boot.someOf truthy nilv pred ind inds = .ok (someSpec truthy nilv pred ind inds) := by
  unfold Boot.someOf someSpec
  rw [mapTemplateB_eq_spec, foldB_someAgg]

theorem allOf_eq_spec {α β γ : Type} (truthy : γ → Bool) (truev : γ) (pred : α → List β → γ) (ind : List α) (inds : List (List β)) :
    Boot.allOf truthy truev pred ind inds = .ok (allSpec truthy truev pred ind inds) := by
  unfold Boot.allOf allSpec
  rw [mapTemplateB_eq_spec, foldB_allAgg]

theorem rowVals_length_le_minLen {α β γ : Type} (f : α → List β → γ) (ind : List α) (inds : List (List β)) :
    (rowVals f ind inds).length ≤ minLen ind.length inds := by
  unfold rowVals
  exact Nat.le_trans (List.length_filterMap_le _ _) (by simp [minLen])

theorem rowVals_length_le {α β γ : Type} (f : α → List β → γ) (ind : List α) (inds : List (List β)) :
    (rowVals f ind inds).length ≤ ind.length :=
  Nat.le_trans (rowVals_length_le_minLen f ind inds) (minLen_le inds ind.length)

theorem rowVals_length_le_mem {α β γ : Type} (f : α → List β → γ) (ind : List α) (inds : List (List β)) :
    ∀ c ∈ inds, (rowVals f ind inds).length ≤ c.length :=
  fun c hc => Nat.le_trans (rowVals_length_le_minLen f ind inds) (minLen_le_mem inds ind.length c hc)

example : Boot.someOf (fun (v : Option Nat) => v.isSome) none (fun (x : Nat) row => let t := row.foldl (· + ·) x; if t > 2000 then some t else none)
    [1, 2, 3, 4] [[10, 20, 30], [100, 200, 300], [1000, 2000, 3000], [0, 0, 0, 0], [0, 0, 0]] = .ok (some 2222) := by decide +kernel

example : Boot.allOf (fun (v : Bool) => v) true (fun (x : Nat) row => decide (row.foldl (· + ·) x < 3000))
    [1, 2, 3, 4] [[10, 20, 30], [100, 200], [1000, 2000, 3000], [0, 0, 0, 0]] = .ok true := by decide +kernel

end JanetModel.Lib.Boot
