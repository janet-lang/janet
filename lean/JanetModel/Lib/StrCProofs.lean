import JanetModel.Lib.StrC
import JanetModel.Lib.SpecLaws
/- C17: the mirrors of string.c (Lib/StrC.lean) compute the reference definitions (Lib/Spec.lean), for all inputs:
   same value, `.panic` exactly where the C raises, never `.ub`. -/
namespace JanetModel.Lib.StrC
open JanetModel.Lib JanetModel.Lib.CLoop JanetModel.Gen.Lib JanetModel.Util

theorem stringv_spec (src : Bytes) (off n : Nat) (h : off + n ≤ src.length) :
    stringv src (off : Int) (n : Int) = .ok ((src.drop off).take n) := by
  unfold stringv
  have hn : ¬ ((n : Int) < 0) := by omega
  simp only [hn, if_false, Int.toNat_natCast]
  have := memcpy_spec (Array.replicate n 0) src.toArray 0 off n (by simpa using h) (by simp)
  simp only [Int.natCast_zero] at this
  rw [this]
  simp

theorem stringv_zero (src : Bytes) (off : Int) : stringv src off 0 = .ok [] := by
  unfold stringv memcpy
  simp [forUp]

theorem checkset_spec (set : Bytes) (x : Nat) : checkset set x = .ok (inSet set x) := by
  unfold checkset
  rw [scanUp_while set _ (fun c => !(x == c)) (fun _ => true) (fun j h => by
    rw [idx_list_ok set j h]
    by_cases hc : set[j] = x
    · simp [hc]
    · simp [hc, show ¬ x = set[j] from fun e => hc e.symm])]
  simp only [R.ok_bind, R.pure_eq]
  rw [scan_getD, inSet, List.contains_eq_any_beq, List.any_eq_not_all_not]
  cases set.all fun c => !(x == c) <;> rfl

theorem leftEdge_le (s set : Bytes) : leftEdge s set ≤ s.length := by
  unfold leftEdge; exact (List.takeWhile_sublist _).length_le

theorem rightEdge_le (s set : Bytes) : rightEdge s set ≤ s.length := by
  unfold rightEdge; omega

theorem edge_body (s set : Bytes) (v : Nat → Int) (j : Nat) (h : j < s.length) :
    (do let c ← idx s.toArray (j : Int)
        let inset ← checkset set c
        pure (if !inset then some (v j) else none) : R (Option Int))
      = .ok (if inSet set s[j] then none else some (v j)) := by
  rw [idx_list_ok s j h, R.ok_bind, checkset_spec]
  cases inSet set s[j] <;> rfl

theorem leftedge_spec (s set : Bytes) : leftedge s set = .ok ((leftEdge s set : Nat) : Int) := by
  unfold leftedge
  rw [scanUp_while s _ (inSet set) (fun j => (j : Int)) (edge_body s set _)]
  have hle := leftEdge_le s set
  unfold leftEdge at hle ⊢
  split
  · rfl
  · next h => exact congrArg (fun k : Nat => R.ok (k : Int)) (Nat.le_antisymm (Nat.le_of_not_lt h) hle)

theorem rightedge_spec (s set : Bytes) : rightedge s set = .ok ((rightEdge s set : Nat) : Int) := by
  unfold rightedge
  rw [scanDown_while s _ (inSet set) (fun j => (j : Int) + 1) (edge_body s set _) s.length (Nat.le_refl _), List.take_length]
  unfold rightEdge
  split
  · next h => exact congrArg R.ok (by simp only [Option.getD_some]; omega)
  · next h => exact congrArg R.ok (by simp only [Option.getD_none]; omega)

theorem trim_eq_spec (s set : Bytes) : StrC.trim s set = .ok (Lib.trim s set) := by
  unfold StrC.trim Lib.trim
  rw [leftedge_spec, R.ok_bind, rightedge_spec, R.ok_bind]
  simp only [Int.ofNat_lt]
  by_cases h : rightEdge s set < leftEdge s set
  · rw [if_pos h, if_pos h]
    rfl
  · have h' := Nat.le_of_not_lt h
    rw [if_neg h, if_neg h, ← Int.natCast_sub h',
      stringv_spec _ _ _ (by rw [Nat.add_sub_cancel' h']; exact rightEdge_le s set)]

theorem triml_eq_spec (s set : Bytes) : StrC.triml s set = .ok (Lib.triml s set) := by
  unfold StrC.triml
  have hl := leftEdge_le s set
  rw [leftedge_spec, R.ok_bind, ← Int.natCast_sub hl,
    stringv_spec _ _ _ (by rw [Nat.add_sub_cancel' hl]; exact Nat.le_refl _), triml_eq_drop,
    List.take_of_length_le (by rw [List.length_drop]; exact Nat.le_refl _)]

theorem trimr_eq_spec (s set : Bytes) : StrC.trimr s set = .ok (Lib.trimr s set) := by
  unfold StrC.trimr
  rw [rightedge_spec]
  simp only [R.ok_bind]
  have hr := rightEdge_le s set
  have := stringv_spec s 0 (rightEdge s set) (by omega)
  simp only [Int.natCast_zero, List.drop_zero] at this
  rw [this, trimr_eq_take]

example : StrC.trim [32, 120, 32, 121, 10] trimSet = .ok [120, 32, 121] := by decide +kernel
example : StrC.trim [97, 98, 97] [97, 98] = .ok [] ∧ StrC.trimr [120, 97, 98] [98, 97] = .ok [120] := by decide +kernel

theorem reverse_eq_spec (s : Bytes) : StrC.reverse s = .ok s.reverse := by
  unfold StrC.reverse
  -- cell `i` receives `s.reverse[i]`, read through the pointer that walks down from the last byte
  have := forUp_fill s.reverse (fun buf i => (buf, (s.length : Int) - 1 - (i : Int)))
    (fun i (st : Array Nat × Int) => (do
      let c ← idx s.toArray st.2
      let buf ← setIdx st.1 (i : Int) c
      pure (buf, st.2 - 1) : R (Array Nat × Int))) (Array.replicate s.length 0)
    (by rw [Array.size_replicate, List.length_reverse])
    (fun i hi buf hbuf => by
      rw [List.length_reverse] at hi
      have ⟨h1, e, e'⟩ : s.length - 1 - i < s.length ∧ (s.length : Int) - 1 - (i : Int) = ((s.length - 1 - i : Nat) : Int) ∧
          (s.length : Int) - 1 - (i : Int) - 1 = (s.length : Int) - 1 - ((i + 1 : Nat) : Int) := by omega
      simp only [e]
      rw [idx_list_ok s _ h1, R.ok_bind, setIdx_ok _ _ _ hbuf, R.ok_bind, List.getElem_reverse, ← e, e']
      rfl)
  rw [List.length_reverse, Int.natCast_zero, Int.sub_zero] at this
  rw [this]
  rfl

theorem caseLoop_spec (s : Bytes) (lo up : Nat) (g : Nat → Nat) (hg : ∀ c, lo ≤ c → c ≤ up → g c % 256 = g c) :
    forUp (fun i (buf : Array Nat) => do
        let c ← idx s.toArray (i : Int)
        if lo ≤ c ∧ c ≤ up then setIdx buf (i : Int) (g c % 256) else setIdx buf (i : Int) c) s.length 0
        (Array.replicate s.length 0)
      = .ok (s.map (fun c => if lo ≤ c ∧ c ≤ up then g c else c)).toArray := by
  apply forUp_map
  intro i hi buf hi'
  rw [idx_list_ok s i hi, R.ok_bind]
  by_cases hc : lo ≤ s[i] ∧ s[i] ≤ up
  · rw [if_pos hc, if_pos hc, hg _ hc.1 hc.2]
    exact setIdx_ok _ _ _ hi'
  · rw [if_neg hc, if_neg hc]
    exact setIdx_ok _ _ _ hi'

theorem asciiLower_eq_spec (s : Bytes) : StrC.asciiLower s = .ok (Lib.asciiLower s) := by
  unfold StrC.asciiLower
  rw [caseLoop_spec s lowerFrom lowerTo (· + lowerAdd) (fun c _ h => by simp only [lowerTo, lowerAdd] at h ⊢; omega)]
  rfl

theorem asciiUpper_eq_spec (s : Bytes) : StrC.asciiUpper s = .ok (Lib.asciiUpper s) := by
  unfold StrC.asciiUpper
  rw [caseLoop_spec s upperFrom upperTo (· - upperSub) (fun c _ h => by simp only [upperTo, upperSub] at h ⊢; omega)]
  rfl

theorem bytes_eq_spec (s : Bytes) : StrC.bytes s = .ok (s.map (fun (c : Nat) => (c : Int))) := by
  unfold StrC.bytes
  rw [forUp_map s 0 _ (fun (c : Nat) => (c : Int)) (fun i hi buf hbuf => by
    rw [idx_list_ok s i hi, R.ok_bind]
    exact setIdx_ok _ _ _ hbuf)]
  rfl

/-- `string/from-bytes & byte-vals`: every argument is decoded by `janet_getinteger` (a non-int32 number raises, at the
    first such argument), each byte is `c & 0xFF` -/
theorem fromBytes_eq_spec (argv : List Int) :
    StrC.fromBytes argv = R.ofOption ((argv.mapM getInt32).map (fun l => l.map toByte)) := by
  rw [StrC.fromBytes, forUp_store0 argv (fun a => (getInt32 a).map toByte) _ 0 (fun j h buf hj => by
    rw [idx_list_ok argv j h, R.ok_bind, getinteger_eq]
    cases getInt32 argv[j] with
    | none => rfl
    | some c => exact setIdx_ok buf j _ hj), mapM_option_map]
  cases argv.mapM getInt32 <;> rfl

example : StrC.fromBytes [65, 256 + 66, -1] = .ok [65, 66, 255] ∧ StrC.fromBytes [65, 4294967296, 7] = .panic := by decide +kernel

example : StrC.reverse [1, 2, 3] = .ok [3, 2, 1] ∧ StrC.asciiUpper [97, 64, 122, 200] = .ok [65, 64, 90, 200] := by decide +kernel

theorem zip_all_beq : ∀ (xs ys : Bytes), xs.length = ys.length → ((xs.zip ys).all fun q => q.1 == q.2) = (xs == ys)
  | [], [], _ => rfl
  | x :: xs, y :: ys, h => by
    rw [List.zip_cons_cons, List.all_cons, List.cons_beq_cons, zip_all_beq xs ys (Nat.succ.inj h)]

theorem memEq_spec (a b : Bytes) (boff : Nat) (h : boff + a.length ≤ b.length) :
    memEq a 0 b (boff : Int) a.length = .ok (a == (b.drop boff).take a.length) := by
  have hl := length_take_drop b boff a.length h
  obtain ⟨b', hb'⟩ : ∃ b', b' = (b.drop boff).take a.length := ⟨_, rfl⟩
  rw [← hb'] at hl ⊢
  have hz : (a.zip b').length = a.length := by rw [List.length_zip, hl, Nat.min_self]
  unfold memEq
  -- the comparison loop scans the pairs `(a[k], b[boff + k])` for the first unequal one
  rw [← hz, scanUp_while (a.zip b') _ (fun q => q.1 == q.2) (fun _ => false) (fun j hj => by
      rw [hz] at hj
      rw [Int.zero_add, ← Int.natCast_add, idx_list_ok a j hj, idx_list_ok b _ (by omega), List.getElem_zip]
      simp only [hb', List.getElem_take, List.getElem_drop, R.ok_bind, R.pure_eq, ne_eq, ite_not, beq_iff_eq])]
  simp only [R.ok_bind, R.pure_eq]
  rw [scan_getD, zip_all_beq a b' hl.symm]
  cases a == b' <;> rfl

theorem hasPrefix_eq_spec (p s : Bytes) : StrC.hasPrefix p s = .ok (Lib.hasPrefix p s) := by
  unfold StrC.hasPrefix Lib.hasPrefix
  by_cases h : s.length < p.length
  · have : (s.take p.length == p) = false := beq_eq_false_iff_ne.mpr fun e => by
      have := congrArg List.length e
      rw [List.length_take] at this
      omega
    rw [if_pos h, this]
    rfl
  · have := memEq_spec p s 0 (by omega)
    rw [Int.natCast_zero, List.drop_zero] at this
    rw [if_neg h, this, BEq.comm]

theorem hasSuffix_eq_spec (p s : Bytes) : StrC.hasSuffix p s = .ok (Lib.hasSuffix p s) := by
  unfold StrC.hasSuffix Lib.hasSuffix
  by_cases h : s.length < p.length
  · rw [if_pos h, decide_eq_false (Nat.not_le_of_lt h)]
    rfl
  · have h' := Nat.le_of_not_lt h
    rw [if_neg h, decide_eq_true h', Bool.true_and, ← Int.natCast_sub h', memEq_spec p s _ (by omega),
      List.take_of_length_le (by rw [List.length_drop]; omega), BEq.comm]

example : StrC.hasPrefix [1, 2] [1, 2, 3] = .ok true ∧ StrC.hasSuffix [2, 3] [1, 2, 3] = .ok true
    ∧ StrC.hasSuffix [1, 3] [1, 2, 3] = .ok false ∧ StrC.hasPrefix [1, 2, 3, 4] [1, 2, 3] = .ok false := by decide +kernel

theorem slice_eq_spec (s : Bytes) (st en : Option Int) : StrC.slice s st en = R.ofOption (Lib.slice s st en) := by
  unfold StrC.slice Lib.slice
  cases hg : getslice st en s.length with
  | none => rfl
  | some ab =>
    obtain ⟨a, b⟩ := ab
    obtain ⟨hab, hbl⟩ := getslice_some hg
    have e : (b : Int) - (a : Int) = ((b - a : Nat) : Int) := by omega
    simp only [e, R.ofOption_some]
    exact stringv_spec s a (b - a) (by omega)

example : StrC.slice [1, 2, 3, 4] (some (-3)) (some (-1)) = .ok [3, 4] ∧ StrC.slice [1, 2] (some 3) none = .panic := by decide +kernel

end JanetModel.Lib.StrC
