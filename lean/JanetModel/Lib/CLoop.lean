import JanetModel.Lib.C32
import JanetModel.Util.List
/- C17: the loop shapes that occur in string.c / buffer.c / array.c / tuple.c, as recursions over the loop counter, and the
   rules by which the proofs use them.  Core Lean only (linked into the driver).  The mirrors in Lib/StrC.lean, Lib/BufC.lean,
   Lib/ArrC.lean instantiate `body` with the C loop body.  For `forUp`: `forUp_inv` (an invariant), `forUp_list` (a loop that
   reads `l[i]` is `List.foldlM`), `forUp_store` / `forUp_fill` (a loop that writes cell `i` in iteration `i`), and for the
   two passes of a join — size, then copy behind a moving cursor — `sizePass_fold` / `copyPass_fold`.  For the scans:
   `scanUp_while` / `scanDown_while` (a scan that returns at the first element failing `p` has passed over `takeWhile p`).

     forUp  body n i s      for (k = i; k < i + n; k++) s = body(k, s);          (no break / return in the body)
     scanUp body n i        for (k = i; k < i + n; k++) if (body(k) returns v) return v;      → none when it falls through
     scanDown body n        for (k = n - 1; k >= 0; k--) if (body(k) returns v) return v;
-/
namespace JanetModel.Lib.CLoop
open JanetModel.Lib JanetModel.Util

def forUp {σ : Type} (body : Nat → σ → R σ) : Nat → Nat → σ → R σ
  | 0, _, s => .ok s
  | n + 1, i, s =>
    match body i s with
    | .ok s' => forUp body n (i + 1) s'
    | .panic => .panic
    | .ub => .ub

def scanUp {ρ : Type} (body : Nat → R (Option ρ)) : Nat → Nat → R (Option ρ)
  | 0, _ => .ok none
  | n + 1, i =>
    match body i with
    | .ok none => scanUp body n (i + 1)
    | r => r

def scanDown {ρ : Type} (body : Nat → R (Option ρ)) : Nat → R (Option ρ)
  | 0 => .ok none
  | n + 1 =>
    match body n with
    | .ok none => scanDown body n
    | r => r

theorem add_one_add (a n : Nat) : a + 1 + n = a + (n + 1) := Nat.succ_add_eq_add_succ a n

theorem forUp_inv {σ : Type} (body : Nat → σ → R σ) (P : Nat → σ → Prop) :
    ∀ (n i : Nat) (s : σ), P i s →
      (∀ j t, i ≤ j → j < i + n → P j t → ∃ t', body j t = .ok t' ∧ P (j + 1) t') →
      ∃ s', forUp body n i s = .ok s' ∧ P (i + n) s' := by
  intro n
  induction n with
  | zero => intro i s h0 _; exact ⟨s, rfl, h0⟩
  | succ n ih =>
    intro i s h0 hstep
    obtain ⟨t', hb, hP⟩ := hstep i s (Nat.le_refl _) (Nat.lt_add_of_pos_right (Nat.succ_pos n)) h0
    obtain ⟨s', hf, hP'⟩ := ih (i + 1) t' hP
      (fun j t h1 h2 h3 => hstep j t (Nat.le_of_succ_le h1) (add_one_add i n ▸ h2) h3)
    refine ⟨s', ?_, add_one_add i n ▸ hP'⟩
    simp only [forUp, hb]; exact hf

theorem scanUp_eq {ρ : Type} (body : Nat → R (Option ρ)) (g : Nat → Option ρ) :
    ∀ (n i : Nat), (∀ j, i ≤ j → j < i + n → body j = .ok (g j)) →
      scanUp body n i = .ok ((List.range' i n).findSome? g) := by
  intro n
  induction n with
  | zero => intro i _; rfl
  | succ n ih =>
    intro i h
    have hi := h i (Nat.le_refl _) (Nat.lt_add_of_pos_right (Nat.succ_pos n))
    rw [List.range'_succ, List.findSome?_cons]
    simp only [scanUp, hi]
    cases hg : g i with
    | some v => rfl
    | none => exact ih (i + 1) (fun j h1 h2 => h j (Nat.le_of_succ_le h1) (add_one_add i n ▸ h2))

theorem scanDown_eq {ρ : Type} (body : Nat → R (Option ρ)) (g : Nat → Option ρ) :
    ∀ (n : Nat), (∀ j, j < n → body j = .ok (g j)) →
      scanDown body n = .ok ((List.range n).reverse.findSome? g) := by
  intro n
  induction n with
  | zero => intro _; rfl
  | succ n ih =>
    intro h
    have hn := h n (Nat.lt_succ_self n)
    rw [List.range_succ, List.reverse_append, List.reverse_singleton, List.singleton_append, List.findSome?_cons]
    simp only [scanDown, hn]
    cases hg : g n with
    | some v => rfl
    | none => exact ih (fun j hj => h j (Nat.lt_succ_of_lt hj))

theorem natCast_not_neg (n : Nat) : ¬ ((n : Int) < 0) := Int.not_lt.mpr (Int.natCast_nonneg n)

theorem setIdx_ok {α : Type} (a : Array α) (i : Nat) (v : α) (h : i < a.size) :
    setIdx a (i : Int) v = .ok (a.setIfInBounds i v) := by
  unfold setIdx
  rw [if_neg (natCast_not_neg i), Int.toNat_natCast, if_pos h]

theorem idx_ok {α : Type} (a : Array α) (i : Nat) (h : i < a.size) : idx a (i : Int) = .ok a[i] := by
  unfold idx
  rw [if_neg (natCast_not_neg i), Int.toNat_natCast, Array.getElem?_eq_getElem h]

theorem idx_list_ok {α : Type} (l : List α) (i : Nat) (h : i < l.length) : idx l.toArray (i : Int) = .ok l[i] :=
  idx_ok l.toArray i h

/-- `memcpy(dst + doff, src + soff, n * sizeof cell)`: `for (k = 0; k < n; k++) dst[doff + k] = src[soff + k];`
    (any cell outside either object is UB).  `src` is a value, i.e. a snapshot: used with `src := dst` it is `memmove`
    ("as if through a temporary"). -/
def memcpyBody {α : Type} (doff : Int) (src : Array α) (soff : Int) (k : Nat) (buf : Array α) : R (Array α) :=
  match idx src (soff + (k : Int)) with
  | .ok c => setIdx buf (doff + (k : Int)) c
  | .panic => .panic
  | .ub => .ub

def memcpy {α : Type} (dst : Array α) (doff : Int) (src : Array α) (soff : Int) (n : Nat) : R (Array α) :=
  forUp (memcpyBody doff src soff) n 0 dst

/-- `memmove(a + doff, a + soff, n)` -/
def memmove {α : Type} (a : Array α) (doff soff : Int) (n : Nat) : R (Array α) := memcpy a doff a soff n

theorem memcpyBody_ok {α : Type} (src buf : Array α) (doff soff k : Nat) (hs : soff + k < src.size) (hd : doff + k < buf.size) :
    memcpyBody (doff : Int) src (soff : Int) k buf = .ok (buf.setIfInBounds (doff + k) src[soff + k]) := by
  unfold memcpyBody
  rw [← Int.natCast_add, ← Int.natCast_add, idx_ok src _ hs]
  exact setIdx_ok buf _ _ hd

theorem memcpy_from {α : Type} (src : Array α) (doff soff : Nat) : ∀ (n i : Nat) (buf : Array α),
    soff + i + n ≤ src.size → doff + i + n ≤ buf.size →
    forUp (memcpyBody (doff : Int) src (soff : Int)) n i buf
      = .ok (buf.toList.take (doff + i) ++ (src.toList.drop (soff + i)).take n ++ buf.toList.drop (doff + i + n)).toArray := by
  intro n
  induction n with
  | zero =>
    intro i buf _ _
    rw [List.take_zero, List.append_nil, Nat.add_zero, List.take_append_drop, Array.toArray_toList]
    rfl
  | succ n ih =>
    intro i buf h1 h2
    have hs : soff + i < src.size := Nat.lt_of_lt_of_le (Nat.lt_add_of_pos_right (Nat.succ_pos n)) h1
    have hd : doff + i < buf.size := Nat.lt_of_lt_of_le (Nat.lt_add_of_pos_right (Nat.succ_pos n)) h2
    simp only [forUp, memcpyBody_ok src buf doff soff i hs hd]
    rw [ih (i + 1) _ (by rw [← Nat.add_assoc, add_one_add]; exact h1)
      (by rw [Array.size_setIfInBounds, ← Nat.add_assoc, add_one_add]; exact h2)]
    rw [Array.toList_setIfInBounds, ← Nat.add_assoc doff i 1, ← Nat.add_assoc soff i 1, take_succ_set _ _ _ hd,
      List.drop_set_of_lt (Nat.lt_of_lt_of_le (Nat.lt_succ_self _) (Nat.le_add_right _ n)), add_one_add,
      List.drop_eq_getElem_cons (l := src.toList) hs, List.take_succ_cons, Array.getElem_toList,
      List.append_assoc (buf.toList.take (doff + i)), List.singleton_append]

theorem memcpy_spec {α : Type} (dst src : Array α) (doff soff n : Nat) (h1 : soff + n ≤ src.size) (h2 : doff + n ≤ dst.size) :
    memcpy dst (doff : Int) src (soff : Int) n
      = .ok (dst.toList.take doff ++ (src.toList.drop soff).take n ++ dst.toList.drop (doff + n)).toArray :=
  memcpy_from src doff soff n 0 dst h1 h2

/-- a scan that stops at the first element failing `p` and answers with a function of its index: that index is the length
    of `l.takeWhile p` -/
theorem scanUp_while {α ρ : Type} (l : List α) (body : Nat → R (Option ρ)) (p : α → Bool) (v : Nat → ρ)
    (hb : ∀ j (h : j < l.length), body j = .ok (if p l[j] then none else some (v j))) :
    scanUp body l.length 0
      = .ok (if (l.takeWhile p).length < l.length then some (v (l.takeWhile p).length) else none) := by
  have : ∀ (suffix : List α) (i : Nat), l.drop i = suffix → scanUp body suffix.length i
      = .ok (if (suffix.takeWhile p).length < suffix.length then some (v (i + (suffix.takeWhile p).length)) else none) := by
    intro suffix
    induction suffix with
    | nil => intro i _; rfl
    | cons x xs ih =>
      intro i hd
      obtain ⟨hi, h1, h2⟩ := drop_eq_cons hd
      simp only [List.length_cons, scanUp, hb i hi, h1, List.takeWhile_cons]
      cases p x with
      | false => rfl
      | true =>
        simp only [if_true, List.length_cons, Nat.add_lt_add_iff_right, ih (i + 1) h2]
        rw [Nat.add_assoc, Nat.add_comm 1]
  rw [this l 0 rfl, Nat.zero_add]

/-- the same from the last element down: the scan passes over `(l.reverse.takeWhile p).length` elements -/
theorem scanDown_while {α ρ : Type} (l : List α) (body : Nat → R (Option ρ)) (p : α → Bool) (v : Nat → ρ)
    (hb : ∀ j (h : j < l.length), body j = .ok (if p l[j] then none else some (v j))) :
    ∀ n, n ≤ l.length → scanDown body n
      = .ok (if ((l.take n).reverse.takeWhile p).length < n then some (v (n - 1 - ((l.take n).reverse.takeWhile p).length))
          else none) := by
  intro n
  induction n with
  | zero => intro _; rfl
  | succ n ih =>
    intro hn
    have hlt : n < l.length := hn
    have e : (l.take (n + 1)).reverse = l[n] :: (l.take n).reverse := by
      rw [List.take_succ_eq_append_getElem hlt, List.reverse_append]; rfl
    simp only [e, scanDown, hb n hlt, List.takeWhile_cons]
    cases p l[n] with
    | false => rfl
    | true =>
      simp only [if_true, List.length_cons, Nat.add_lt_add_iff_right, ih (Nat.le_of_lt hlt)]
      rw [Nat.add_sub_cancel, Nat.sub_add_eq, Nat.sub_right_comm]

/-- a scan that answers the constant `a` at the first element failing `p`, read with the default `d` -/
theorem scan_getD {α ρ : Type} (p : α → Bool) (a d : ρ) (l : List α) :
    (if (l.takeWhile p).length < l.length then some a else none).getD d = if l.all p then d else a := by
  induction l with
  | nil => rfl
  | cons x xs ih =>
    rw [List.takeWhile_cons, List.all_cons]
    cases p x with
    | false => simp
    | true => simpa using ih

/-- `B` with the cells `[p, p + X.length)` overwritten by `X` -/
def splice {α : Type} (B : List α) (p : Nat) (X : List α) : List α := B.take p ++ X ++ B.drop (p + X.length)

theorem length_take_append {α : Type} (B X : List α) (p : Nat) (h : p + X.length ≤ B.length) :
    (B.take p ++ X).length = p + X.length := by
  rw [List.length_append, List.length_take_of_le (Nat.le_trans (Nat.le_add_right p _) h)]

theorem splice_length {α : Type} (B X : List α) (p : Nat) (h : p + X.length ≤ B.length) :
    (splice B p X).length = B.length := by
  rw [splice, List.length_append, length_take_append B X p h, List.length_drop, Nat.add_sub_of_le h]

theorem take_splice {α : Type} (B X : List α) (p : Nat) (h : p + X.length ≤ B.length) :
    (splice B p X).take (p + X.length) = B.take p ++ X :=
  List.take_left' (length_take_append B X p h)

theorem take_splice_before {α : Type} (B X : List α) (p : Nat) (h : p + X.length ≤ B.length) :
    (splice B p X).take p = B.take p := by
  rw [splice, List.append_assoc]
  exact List.take_left' (List.length_take_of_le (Nat.le_trans (Nat.le_add_right p _) h))

theorem getElem?_splice_after {α : Type} (B X : List α) (p k : Nat) (h : p + X.length ≤ B.length) (hk : p + X.length ≤ k) :
    (splice B p X)[k]? = B[k]? := by
  have hl := length_take_append B X p h
  unfold splice
  rw [List.getElem?_append_right (hl ▸ hk), hl, List.getElem?_drop, Nat.add_sub_of_le hk]

theorem setIdx_splice {α : Type} (a : Array α) (i : Nat) (v : α) (h : i < a.size) :
    setIdx a (i : Int) v = .ok (splice a.toList i [v]).toArray := by
  rw [setIdx_ok a i v h, ← Array.toArray_toList (xs := a.setIfInBounds i v), Array.toList_setIfInBounds,
    List.set_eq_take_append_cons_drop, if_pos (by rw [Array.length_toList]; exact h)]
  simp only [splice, List.append_assoc, List.singleton_append, List.length_singleton]

theorem splice_set_succ (L : List Nat) (p v : Nat) (vs : List Nat) (h : p + (vs.length + 1) ≤ L.length) :
    splice (L.set p v) (p + 1) vs = splice L p (v :: vs) := by
  rw [splice, splice, take_succ_set v L p (Nat.lt_of_lt_of_le (Nat.lt_add_of_pos_right (Nat.succ_pos _)) h),
    List.drop_set_of_lt (Nat.lt_of_lt_of_le (Nat.lt_succ_self p) (Nat.le_add_right _ _)), List.length_cons, add_one_add,
    List.append_assoc (L.take p), List.singleton_append]

theorem take_splice_grown {α : Type} (dest X pad : List α) (od : Nat) (hod : od ≤ dest.length)
    (hpad : pad.length = max (od + X.length) dest.length - dest.length) :
    (splice (dest ++ pad) od X).take (max (od + X.length) dest.length)
      = dest.take od ++ X ++ dest.drop (od + X.length) := by
  unfold splice
  rw [List.take_append_of_le_length hod]
  by_cases hc : od + X.length ≤ dest.length
  · rw [Nat.max_eq_right hc, Nat.sub_self] at hpad
    rw [List.eq_nil_of_length_eq_zero hpad, List.append_nil, Nat.max_eq_right hc]
    exact List.take_of_length_le (Nat.le_of_eq (splice_length dest X od hc))
  · have hlt := Nat.le_of_lt (Nat.lt_of_not_le hc)
    rw [List.drop_of_length_le (l := dest) hlt, List.append_nil, Nat.max_eq_left hlt]
    exact List.take_left' (by rw [List.length_append, List.length_take_of_le hod])

theorem memcpy_splice {α : Type} (dst src : Array α) (doff soff n : Nat) (h1 : soff + n ≤ src.size) (h2 : doff + n ≤ dst.size) :
    memcpy dst (doff : Int) src (soff : Int) n = .ok (splice dst.toList doff ((src.toList.drop soff).take n)).toArray := by
  rw [memcpy_spec dst src doff soff n h1 h2]
  unfold splice
  rw [length_take_drop _ soff n (by simpa using h1)]

/-- copying at the write cursor: a block that holds `A` followed by `junk` receives `n` cells right behind `A` -/
theorem memcpy_cursor {α : Type} (A junk : List α) (src : Array α) (p soff n : Nat) (hp : A.length = p)
    (h1 : soff + n ≤ src.size) (h2 : n ≤ junk.length) :
    memcpy (A ++ junk).toArray (p : Int) src (soff : Int) n
      = .ok (A ++ (src.toList.drop soff).take n ++ junk.drop n).toArray := by
  subst hp
  rw [memcpy_spec _ _ A.length soff n h1 (by rw [List.size_toArray, List.length_append]; exact Nat.add_le_add_left h2 _)]
  simp only [List.take_left' rfl, ← List.drop_drop, List.drop_left' rfl]

theorem memcpy_cursor_whole {α : Type} (A junk X : List α) (p : Nat) (hp : A.length = p) (h : X.length ≤ junk.length) :
    memcpy (A ++ junk).toArray (p : Int) X.toArray 0 X.length = .ok (A ++ X ++ junk.drop X.length).toArray := by
  have := memcpy_cursor A junk X.toArray p 0 X.length hp (by rw [List.size_toArray, Nat.zero_add]; exact Nat.le_refl _) h
  simp only [Int.natCast_zero, List.drop_zero, List.take_length] at this
  exact this

/-- a loop whose body, from iteration `i0` on, reads `l[j]` and nothing else of `l`, is a monadic fold over the rest of `l` -/
theorem forUp_list {α σ : Type} (l : List α) (body : Nat → σ → R σ) (f : σ → α → R σ) (i0 : Nat)
    (hb : ∀ j, i0 ≤ j → ∀ (h : j < l.length) s, body j s = f s l[j]) :
    ∀ (suffix : List α) (i : Nat) (s : σ), i0 ≤ i → l.drop i = suffix → forUp body suffix.length i s = suffix.foldlM f s := by
  intro suffix
  induction suffix with
  | nil => intro i s _ _; rfl
  | cons x xs ih =>
    intro i s hi0 hd
    obtain ⟨hi, h1, h2⟩ := drop_eq_cons hd
    simp only [List.length_cons, forUp, hb i hi0 hi, h1, List.foldlM_cons]
    cases f s x with
    | ok s' => exact ih (i + 1) s' (Nat.le_succ_of_le hi0) h2
    | panic => rfl
    | ub => rfl

theorem forUp_list0 {α σ : Type} (l : List α) (body : Nat → σ → R σ) (f : σ → α → R σ) (s : σ)
    (hb : ∀ j (h : j < l.length) s, body j s = f s l[j]) : forUp body l.length 0 s = l.foldlM f s :=
  forUp_list l body f 0 (fun j _ => hb j) l 0 s (Nat.le_refl 0) rfl

theorem forUp_succ_ok {σ : Type} {body : Nat → σ → R σ} {i : Nat} {s s' : σ} (h : body i s = .ok s') (n : Nat) :
    forUp body (n + 1) i s = forUp body n (i + 1) s' := by
  simp only [forUp, h]

/-- the sizing pass: the total of the piece lengths `g x`, refused as soon as it exceeds `M` -/
theorem sizePass_fold {α : Type} (g : α → Nat) (M : Nat) (step : Int → α → R Int) (l : List α)
    (hstep : ∀ (t : Nat), ∀ x ∈ l, t ≤ M → step (t : Int) x = if t + g x ≤ M then .ok ((t + g x : Nat) : Int) else .panic) :
    ∀ (t : Nat), t ≤ M →
      l.foldlM step (t : Int) = if t + (l.map g).sum ≤ M then .ok ((t + (l.map g).sum : Nat) : Int) else .panic := by
  induction l with
  | nil => intro t ht; exact (if_pos ht).symm
  | cons x xs ih =>
    intro t ht
    rw [List.foldlM_cons, hstep t x List.mem_cons_self ht, List.map_cons, List.sum_cons, ← Nat.add_assoc]
    by_cases h : t + g x ≤ M
    · rw [if_pos h, R.ok_bind, ih (fun t y hy => hstep t y (List.mem_cons_of_mem _ hy)) _ h]
    · rw [if_neg h, if_neg (fun h' => h (Nat.le_trans (Nat.le_add_right _ _) h'))]
      rfl

/-- the copying pass on a block that holds `A` followed by `junk`, the cursor standing behind `A`: every piece `g x` lands
    right behind the previous one -/
theorem copyPass_fold {α β : Type} (g : α → List β) (step : Array β × Int → α → R (Array β × Int))
    (hstep : ∀ (A junk : List β) x, (g x).length ≤ junk.length →
      step ((A ++ junk).toArray, (A.length : Int)) x
        = .ok ((A ++ g x ++ junk.drop (g x).length).toArray, ((A ++ g x).length : Int))) :
    ∀ (l : List α) (A junk : List β), (l.flatMap g).length ≤ junk.length →
      l.foldlM step ((A ++ junk).toArray, (A.length : Int))
        = .ok ((A ++ l.flatMap g ++ junk.drop (l.flatMap g).length).toArray, ((A ++ l.flatMap g).length : Int)) := by
  intro l
  induction l with
  | nil =>
    intro A junk _
    simp only [List.flatMap_nil, List.append_nil, List.length_nil, List.drop_zero]
    rfl
  | cons x xs ih =>
    intro A junk h
    rw [List.flatMap_cons, List.length_append] at h
    rw [List.foldlM_cons, hstep A junk x (Nat.le_of_add_right_le h), R.ok_bind,
      ih (A ++ g x) (junk.drop (g x).length) (by rw [List.length_drop]; omega)]
    simp only [List.flatMap_cons, List.append_assoc, List.length_append, List.drop_drop]

/-- a loop whose iteration `j` computes a value from `l[j]`, or raises, and stores it in cell `j`.  `mk buf j` is the loop
    state before iteration `j`: the block and whatever else the loop carries (a second pointer, a running offset) as a
    function of the counter. -/
theorem forUp_store {α β σ : Type} (l : List α) (g : α → Option β) (mk : Array β → Nat → σ) (body : Nat → σ → R σ)
    (hb : ∀ j (h : j < l.length) (buf : Array β), j < buf.size →
      body j (mk buf j) = R.ofOption ((g l[j]).map fun v => mk (buf.setIfInBounds j v) (j + 1))) :
    ∀ (suffix : List α) (done junk : List β), l.drop done.length = suffix → suffix.length = junk.length →
      forUp body suffix.length done.length (mk (done ++ junk).toArray done.length)
        = R.ofOption ((suffix.mapM g).map fun vs => mk (done ++ vs).toArray (done.length + suffix.length)) := by
  intro suffix
  induction suffix with
  | nil =>
    intro done junk _ hj
    rw [List.eq_nil_of_length_eq_zero hj.symm]
    rfl
  | cons x xs ih =>
    intro done junk hd hj
    obtain ⟨hi, h1, h2⟩ := drop_eq_cons hd
    cases junk with
    | nil => cases hj
    | cons d js =>
      rw [List.length_cons, forUp, hb _ hi _ (by rw [List.size_toArray, List.length_append, List.length_cons]; omega), h1,
        List.mapM_cons]
      cases g x with
      | none => rfl
      | some v =>
        have := ih (done ++ [v]) js (by rw [List.length_append]; exact h2) (Nat.succ.inj hj)
        rw [List.length_append, List.length_singleton, List.append_assoc] at this
        simp only [Option.map_some, R.ofOption_some, List.setIfInBounds_toArray, List.set_append_right _ _ (Nat.le_refl _),
          Nat.sub_self, List.set_cons_zero, List.singleton_append] at this ⊢
        rw [this, Nat.add_assoc, Nat.add_comm 1]
        cases List.mapM g xs with
        | none => rfl
        | some vs => simp only [Option.bind_eq_bind, Option.bind_some, Option.pure_def, Option.map_some,
            List.append_assoc, List.cons_append, List.nil_append]

theorem forUp_store0 {α β : Type} (l : List α) (g : α → Option β) (body : Nat → Array β → R (Array β)) (d : β)
    (hb : ∀ j (h : j < l.length) (buf : Array β), j < buf.size →
      body j buf = R.ofOption ((g l[j]).map (buf.setIfInBounds j))) :
    forUp body l.length 0 (Array.replicate l.length d) = R.ofOption ((l.mapM g).map List.toArray) := by
  have := forUp_store l g (fun buf _ => buf) body hb l [] (List.replicate l.length d) rfl List.length_replicate.symm
  simp only [List.nil_append, List.toArray_replicate, List.length_nil] at this
  exact this

/-- the case without failure, stated by what ends up in the block: a loop whose iteration `j` stores `l[j]` in cell `j` of a
    block of `l.length` cells leaves `l` -/
theorem forUp_fill {β σ : Type} (l : List β) (mk : Array β → Nat → σ) (body : Nat → σ → R σ) (init : Array β)
    (hsz : init.size = l.length)
    (hb : ∀ j (h : j < l.length) (buf : Array β), j < buf.size → body j (mk buf j) = .ok (mk (buf.setIfInBounds j l[j]) (j + 1))) :
    forUp body l.length 0 (mk init 0) = .ok (mk l.toArray l.length) := by
  have := forUp_store l some mk body hb l [] init.toList rfl (by rw [Array.length_toList]; exact hsz.symm)
  have e : ∀ l : List β, l.mapM some = some l := fun l => by
    induction l with
    | nil => rfl
    | cons x xs ih => rw [List.mapM_cons, ih]; rfl
  simp only [List.nil_append, List.length_nil, Array.toArray_toList, Nat.zero_add, e l, Option.map_some, R.ofOption_some] at this
  exact this

/-- `for (i = 0; i < len; i++) buf[i] = f(s[i]);` into a fresh block -/
theorem forUp_map {α β : Type} (s : List α) (d : β) (body : Nat → Array β → R (Array β)) (f : α → β)
    (hb : ∀ i (h : i < s.length) (buf : Array β), i < buf.size → body i buf = .ok (buf.setIfInBounds i (f s[i]))) :
    forUp body s.length 0 (Array.replicate s.length d) = .ok (s.map f).toArray := by
  have := forUp_fill (s.map f) (fun buf _ => buf) body (Array.replicate s.length d)
    (by rw [Array.size_replicate, List.length_map])
    (fun j hj buf hbuf => by rw [List.getElem_map]; exact hb j (List.length_map f ▸ hj) buf hbuf)
  rwa [List.length_map] at this

/-- `for (i = 0; i < n; i++) data[i] = x;` over a block of `n` cells -/
theorem fill_const {β : Type} (n : Nat) (init : Array β) (hsz : init.size = n) (x : β) :
    forUp (fun i (data : Array β) => setIdx data (i : Int) x) n 0 init = .ok (List.replicate n x).toArray := by
  have := forUp_fill (List.replicate n x) (fun buf _ => buf) (fun i (data : Array β) => setIdx data (i : Int) x) init
    (by rw [List.length_replicate, hsz])
    (fun j _ buf hbuf => by rw [List.getElem_replicate]; exact setIdx_ok _ _ _ hbuf)
  rwa [List.length_replicate] at this

theorem getInt32_some {x v : Int} (h : getInt32 x = some v) : -2147483648 ≤ v ∧ v ≤ 2147483647 := by
  unfold getInt32 at h
  split at h
  · next hx => exact Option.some.inj h ▸ hx
  · cases h

theorem getinteger_eq (x : Int) : getinteger x = R.ofOption (getInt32 x) := by
  unfold getinteger getInt32 in32
  by_cases h : int32Min ≤ x ∧ x ≤ int32Max <;> simp [h]

theorem in32_natCast {n : Nat} (h : n ≤ 2147483647) : in32 (n : Int) = true := by
  unfold in32 int32Min int32Max; simp only [decide_eq_true_eq]; omega

theorem add32_nat (a b : Nat) (h : a + b ≤ 2147483647) : add32 (a : Int) (b : Int) = .ok ((a + b : Nat) : Int) := by
  unfold add32; rw [← Int.natCast_add, in32_natCast h]; rfl

theorem sub32_nat (a b : Nat) (hb : b ≤ a) (h : a ≤ 2147483647) : sub32 (a : Int) (b : Int) = .ok ((a - b : Nat) : Int) := by
  unfold sub32; rw [← Int.natCast_sub hb, in32_natCast (Nat.le_trans (Nat.sub_le a b) h)]; rfl

theorem add32_ok {a b : Int} (h : -2147483648 ≤ a + b ∧ a + b ≤ 2147483647) : add32 a b = .ok (a + b) :=
  if_pos (decide_eq_true h)

theorem in64_natCast {n : Nat} (h : n ≤ 9223372036854775807) : in64 (n : Int) = true := by
  unfold in64 int64Min int64Max; simp only [decide_eq_true_eq]; omega

theorem add64_nat (a b : Nat) (h : a + b ≤ 9223372036854775807) : add64 (a : Int) (b : Int) = .ok ((a + b : Nat) : Int) := by
  unfold add64; rw [← Int.natCast_add, in64_natCast h]; rfl

theorem mul64_nat (a b : Nat) (h : a * b ≤ 9223372036854775807) : mul64 (a : Int) (b : Int) = .ok ((a * b : Nat) : Int) := by
  unfold mul64; rw [← Int.natCast_mul, in64_natCast h]; rfl

/-- `if (x > max) panic; else x` -/
theorem panic_of_gt (x m : Int) : (if x > m then R.panic else pure x) = if x ≤ m then .ok x else .panic := by
  by_cases h : x ≤ m
  · rw [if_pos h, if_neg (Int.not_lt.mpr h)]; rfl
  · rw [if_neg h, if_pos (Int.not_le.mp h)]

end JanetModel.Lib.CLoop
