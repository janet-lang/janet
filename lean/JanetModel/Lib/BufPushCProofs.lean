import JanetModel.Lib.BufPushC
import JanetModel.Lib.SpecLaws
/- C17: the push family of buffer.c (Lib/BufPushC.lean) computes `Spec.bufferPushSt` / `Spec.bufferPushAt`: same contents
   on success AND at the moment of an error, `buffer/push-at`'s count restoration brings back the old tail bytes. -/
namespace JanetModel.Lib.BufPush
open JanetModel.Lib JanetModel.Lib.CLoop

/-- well-formed, and the cells of the original block `D` at positions ≥ count are still there -/
structure Inv (D : List Nat) (b : Buf) : Prop where
  wf : b.count ≤ b.data.size
  tail : ∀ k, b.count ≤ k → k < D.length → b.data.toList[k]? = D[k]?

theorem contents_length {D : List Nat} {b : Buf} (hI : Inv D b) : (contents b).length = b.count := by
  unfold contents
  rw [List.length_take, Array.length_toList]
  exact Nat.min_eq_left hI.wf

theorem Inv.drop_take {D : List Nat} {b : Buf} (hI : Inv D b) : (b.data.toList.take D.length).drop b.count = D.drop b.count := by
  apply List.ext_getElem?
  intro k
  rw [List.getElem?_drop, List.getElem?_drop]
  by_cases hk : b.count + k < D.length
  · rw [List.getElem?_take_of_lt hk]
    exact hI.tail _ (Nat.le_add_right _ _) hk
  · rw [List.getElem?_take_eq_none (Nat.le_of_not_lt hk), List.getElem?_eq_none (Nat.le_of_not_lt hk)]

theorem extra_spec (D : List Nat) (b : Buf) (n : Nat) (hI : Inv D b) (h32 : (b.count : Int) + (n : Int) ≤ int32Max) :
    ∃ b1, extra b n = .ok b1 ∧ b1.count = b.count ∧ b.count + n ≤ b1.data.size ∧ contents b1 = contents b ∧ Inv D b1 ∧
      b1.data.toList.take b.data.size = b.data.toList := by
  unfold extra
  have i64 : in64 ((n : Int) + (b.count : Int)) = true := by
    unfold int32Max at h32; unfold in64 int64Min int64Max; simp only [decide_eq_true_eq]; omega
  have hle : ¬ ((n : Int) + (b.count : Int) > int32Max) := by omega
  simp only [add64, i64, if_true, R.ok_bind, hle, if_false, R.pure_eq]
  refine ⟨_, rfl, rfl, by simp; omega, ?_, ⟨by simp; have := hI.wf; omega, ?_⟩, by simp⟩
  · unfold contents
    simp only [Array.toList_append, Array.toList_replicate]
    rw [List.take_append_of_le_length (by simpa using hI.wf)]
  · intro k hk hkD
    have h1 := (hI.tail k hk hkD).trans (List.getElem?_eq_getElem hkD)
    rw [Array.toList_append, List.getElem?_append_left (List.getElem?_eq_some_iff.mp h1).1]
    exact hI.tail k hk hkD

/-- `janet_buffer_extra(buffer, n)`, a write `wr` of the `n` cells `X` at `count`, `count += n`: push_u8, push_u32 and
    push_bytes are this with a store, four stores and a `memcpy` for `wr` -/
theorem extra_write (D : List Nat) (b : Buf) (X : List Nat) (n : Nat) (hX : X.length = n) (hI : Inv D b)
    (h32 : (b.count : Int) + (n : Int) ≤ int32Max) (wr : Buf → R (Array Nat))
    (hwr : ∀ b1 : Buf, b1.count + n ≤ b1.data.size → wr b1 = .ok (splice b1.data.toList b1.count X).toArray) :
    ∃ b', (do let b1 ← extra b n; let data ← wr b1; pure { data := data, count := b1.count + n } : R Buf) = .ok b' ∧
      contents b' = contents b ++ X ∧ Inv D b' ∧ b'.count = b.count + n := by
  obtain ⟨b1, he, hc, hroom, hcont, hI1, _⟩ := extra_spec D b n hI h32
  rw [← hc] at hroom
  subst hX
  have hB : b1.count + X.length ≤ b1.data.toList.length := by rw [Array.length_toList]; exact hroom
  rw [he, R.ok_bind, hwr b1 hroom]
  refine ⟨_, rfl, ?_, ⟨?_, fun k hk hkD => ?_⟩, by rw [← hc]⟩
  · rw [← hcont]
    exact take_splice _ _ _ hB
  · rw [List.size_toArray, splice_length _ _ _ hB, Array.length_toList]
    exact hroom
  · rw [List.toList_toArray, getElem?_splice_after _ _ _ _ hB hk]
    exact hI1.tail k (Nat.le_trans (Nat.le_add_right _ _) hk) hkD

theorem pushU8_spec (D : List Nat) (b : Buf) (byte : Nat) (hI : Inv D b) (h32 : (b.count : Int) + 1 ≤ int32Max) :
    ∃ b', pushU8 b byte = .ok b' ∧ contents b' = contents b ++ [byte] ∧ Inv D b' := by
  obtain ⟨b', h, hc, hI', _⟩ := extra_write D b [byte] 1 rfl hI h32 (fun b1 => setIdx b1.data (b1.count : Int) byte)
    (fun b1 hroom => setIdx_splice _ _ _ hroom)
  exact ⟨b', h, hc, hI'⟩

theorem pushBytes_spec (D : List Nat) (b : Buf) (src : Array Nat) (len : Nat) (hI : Inv D b) (hsrc : len ≤ src.size)
    (h32 : (b.count : Int) + (len : Int) ≤ int32Max) :
    ∃ b', pushBytes b src len = .ok b' ∧ contents b' = contents b ++ src.toList.take len ∧ Inv D b' := by
  unfold pushBytes
  by_cases hz : len = 0
  · subst hz
    exact ⟨b, by simp, by simp, hI⟩
  · obtain ⟨b', h, hc, hI', _⟩ := extra_write D b (src.toList.take len) len
      (List.length_take_of_le (by rw [Array.length_toList]; exact hsrc)) hI h32
      (fun b1 => memcpy b1.data (b1.count : Int) src 0 len)
      (fun b1 hroom => by
        have m := memcpy_splice b1.data src b1.count 0 len (by omega) hroom
        rwa [Int.natCast_zero, List.drop_zero] at m)
    exact ⟨b', (if_neg hz).trans h, hc, hI'⟩

def argBytes (p : Bytes) : PushArg → Option Bytes
  | .byte x => (getInt32 x).map (fun v => [toByte v])
  | .bytes l => some l
  | .self => some p

theorem pushArg_spec (D : List Nat) (b : Buf) (a : PushArg) (hI : Inv D b)
    (h32 : ∀ X, argBytes (contents b) a = some X → (b.count : Int) + (X.length : Int) ≤ int32Max) :
    match argBytes (contents b) a with
    | none => pushArg b a = .panic
    | some X => ∃ b', pushArg b a = .ok b' ∧ contents b' = contents b ++ X ∧ Inv D b' := by
  cases a with
  | byte x =>
    simp only [argBytes, pushArg, getinteger_eq]
    cases hg : getInt32 x with
    | none => rfl
    | some v => exact pushU8_spec D b (toByte v) hI (h32 [toByte v] (by rw [argBytes, hg]; rfl))
  | bytes l =>
    simp only [argBytes, pushArg]
    have := h32 l rfl
    obtain ⟨b', h1, h2, h3⟩ := pushBytes_spec D b l.toArray l.length hI (by simp) this
    exact ⟨b', h1, by simpa using h2, h3⟩
  | self =>
    simp only [argBytes, pushArg]
    have h := h32 (contents b) rfl
    rw [contents_length hI] at h
    obtain ⟨b1, he, hc, hroom, hcont, hI1, hpre⟩ := extra_spec D b b.count hI h
    rw [he]
    simp only [R.ok_bind]
    obtain ⟨b', h1, h2, h3⟩ := pushBytes_spec D b1 b1.data b.count hI1 (by omega) (by rw [hc]; exact h)
    refine ⟨b', h1, ?_, h3⟩
    rw [h2, hcont]
    congr 1
    -- the first `count` cells of the (grown) block are the old contents
    unfold contents
    have : List.take b.count b1.data.toList = List.take b.count (List.take b.data.size b1.data.toList) := by
      rw [List.take_take]; congr 1; have := hI.wf; omega
    rw [this, hpre]

theorem pushSt_cons (bs : Bytes) (a : PushArg) (rest : List PushArg) :
    bufferPushSt bs (a :: rest) =
      match argBytes bs a with
      | none => (false, bs)
      | some X => bufferPushSt (bs ++ X) rest := by
  cases a with
  | byte x => simp only [bufferPushSt, argBytes]; cases getInt32 x <;> rfl
  | bytes l => rfl
  | self => rfl

theorem push_cons (bs : Bytes) (a : PushArg) (rest : List PushArg) :
    bufferPush bs (a :: rest) =
      match argBytes bs a with
      | none => none
      | some X => bufferPush (bs ++ X) rest := by
  cases a with
  | byte x => simp only [bufferPush, argBytes]; cases getInt32 x <;> rfl
  | bytes l => rfl
  | self => rfl

theorem pushSt_len_ge (xs : List PushArg) (bs : Bytes) : bs.length ≤ (bufferPushSt bs xs).2.length := by
  induction xs generalizing bs with
  | nil => exact Nat.le_refl _
  | cons a rest ih =>
    rw [pushSt_cons]
    cases argBytes bs a with
    | none => exact Nat.le_refl _
    | some X => exact Nat.le_trans (by rw [List.length_append]; exact Nat.le_add_right _ _) (ih (bs ++ X))

/-- `buffer_push_impl` / `buffer/push` (numbers, byte sequences, the buffer itself): when the final length fits an int32,
    the buffer contents after the call — also after a call that raised on an ill-typed number — are those of the
    reference definition, the call raises exactly when the definition does, never UB, and the stale cells of the
    original block beyond the count are untouched. -/
theorem pushImpl_spec (D : List Nat) (xs : List PushArg) (b : Buf) (hI : Inv D b)
    (h32 : ((bufferPushSt (contents b) xs).2.length : Int) ≤ int32Max) :
    contents (pushImpl b xs).1 = (bufferPushSt (contents b) xs).2 ∧
    (pushImpl b xs).2 = (if (bufferPushSt (contents b) xs).1 then .ok () else .panic) ∧ Inv D (pushImpl b xs).1 := by
  induction xs generalizing b with
  | nil => exact ⟨rfl, rfl, hI⟩
  | cons a rest ih =>
    have hstep := pushArg_spec D b a hI
    rw [pushSt_cons] at h32 ⊢
    cases hX : argBytes (contents b) a with
    | none =>
      rw [hX] at hstep
      simp only [pushImpl, hstep (fun X h => by cases h)]
      exact ⟨trivial, rfl, hI⟩
    | some X =>
      rw [hX] at hstep
      simp only [hX] at h32
      have hge := pushSt_len_ge rest (contents b ++ X)
      rw [List.length_append, contents_length hI] at hge
      obtain ⟨b', h1, h2, h3⟩ := hstep (fun Y h => by cases h; omega)
      simp only [pushImpl, h1]
      have := ih b' h3 (by rw [h2]; exact h32)
      rw [h2] at this
      exact this

theorem pushSt_of_push (xs : List PushArg) (bs p : Bytes) (h : bufferPush bs xs = some p) :
    bufferPushSt bs xs = (true, p) := by
  induction xs generalizing bs with
  | nil => exact congrArg (Prod.mk true) (Option.some.inj h)
  | cons a rest ih =>
    rw [push_cons] at h
    rw [pushSt_cons]
    cases hX : argBytes bs a with
    | none =>
      rw [hX] at h
      cases h
    | some X =>
      rw [hX] at h
      exact ih _ h

/-- `buffer/push-at buffer index & xs` on a buffer with contents `bs` (block = exactly those bytes): on success
    the contents are `Spec.bufferPushAt` — the pushed bytes overwrite from `index`, and if they end
    before the old count the count is restored and the OLD tail bytes reappear (they were never overwritten). -/
theorem pushAt_eq_spec (bs : Bytes) (index : Int) (xs : List PushArg) (r : Bytes)
    (hspec : bufferPushAt bs index xs = some r) (h32 : (r.length : Int) ≤ int32Max) :
    contents (pushAt { data := bs.toArray, count := bs.length } index xs).1 = r ∧
    (pushAt { data := bs.toArray, count := bs.length } index xs).2 = .ok () := by
  unfold bufferPushAt at hspec
  by_cases hr : index < 0 ∨ index > (bs.length : Int)
  · simp [hr] at hspec
  · simp only [hr, if_false] at hspec
    obtain ⟨i, rfl⟩ : ∃ i : Nat, index = (i : Int) := ⟨index.toNat, by omega⟩
    have hi : i ≤ bs.length := by omega
    simp only [Int.toNat_natCast] at hspec
    cases hp : bufferPush (bs.take i) xs with
    | none => simp [hp] at hspec
    | some p =>
      simp only [hp, Option.some.injEq] at hspec
      subst hspec
      have hst := pushSt_of_push xs (bs.take i) p hp
      have hok : (bufferPushSt (bs.take i) xs).1 = true ∧ (bufferPushSt (bs.take i) xs).2 = p := by
        rw [hst]
        exact ⟨rfl, rfl⟩
      let b1 : Buf := { data := bs.toArray, count := i }
      have hI : Inv bs b1 := ⟨by simpa [b1] using hi, fun k _ _ => by simp [b1]⟩
      have hc1 : contents b1 = bs.take i := by simp [contents, b1]
      have hplen : (p.length : Int) ≤ int32Max := by
        simp only [List.length_append, List.length_drop] at h32
        omega
      obtain ⟨g1, g2, g3⟩ := pushImpl_spec bs xs b1 hI (by rw [hc1, hok.2]; exact hplen)
      rw [hc1, hok.2] at g1
      rw [hc1, hok.1] at g2
      simp only [if_true] at g2
      unfold pushAt
      simp only [hr, if_false, Int.toNat_natCast]
      have hpair : pushImpl b1 xs = ((pushImpl b1 xs).1, R.ok ()) := by rw [← g2]
      have hb1 : ({ data := bs.toArray, count := i } : Buf) = b1 := rfl
      rw [hb1, hpair]
      simp only
      have hcnt : (pushImpl b1 xs).1.count = p.length := by rw [← contents_length g3, g1]
      refine ⟨?_, trivial⟩
      by_cases hlt : (pushImpl b1 xs).1.count < bs.length
      · simp only [hlt, if_true]
        unfold contents
        simp only
        rw [← List.take_append_drop (pushImpl b1 xs).1.count (List.take bs.length _), g3.drop_take, List.take_take,
          Nat.min_eq_left (Nat.le_of_lt hlt), show List.take _ _ = p from g1, hcnt]
      · simp only [hlt, if_false]
        rw [g1]
        have : List.drop p.length bs = [] := List.drop_of_length_le (by omega)
        rw [this]; simp

example : contents (pushAt { data := #[1, 2, 3, 4, 5], count := 5 } 1 [.byte 9, .self]).1 = [1, 9, 1, 9, 5] := by decide +kernel
example : (push { data := #[1, 2], count := 2 } [.self, .byte 4294967296, .byte 7]).2 = .panic ∧
    contents (push { data := #[1, 2], count := 2 } [.self, .byte 4294967296, .byte 7]).1 = [1, 2, 1, 2] := by decide +kernel

end JanetModel.Lib.BufPush
