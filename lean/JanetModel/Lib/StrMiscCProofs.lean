import JanetModel.Lib.StrCProofs
import JanetModel.Util.Bits
/- C17: `string/repeat` (pointer loop + int64 length check) and `string/check-set` (the 256-bit `uint32_t bitset[8]`)
   as mirrored in Lib/StrC.lean compute the reference definitions. -/
namespace JanetModel.Lib.StrC
open JanetModel.Lib JanetModel.Lib.CLoop JanetModel.Util

theorem length_flatten_replicate (k : Nat) (s : Bytes) : (List.replicate k s).flatten.length = k * s.length := by
  induction k with
  | zero => rw [Nat.zero_mul]; rfl
  | succ k ih => rw [List.replicate_succ, List.flatten_cons, List.length_append, ih, Nat.succ_mul, Nat.add_comm]

theorem repeatLoop_spec (s : Bytes) (hL : 0 < s.length) (fuel k : Nat) (junk : Bytes) (hj : junk.length = fuel * s.length) :
    repeatLoop s (((k + fuel) * s.length : Nat) : Int) fuel ((k * s.length : Nat) : Int)
        ((List.replicate k s).flatten ++ junk).toArray
      = .ok (List.replicate (k + fuel) s).flatten.toArray := by
  induction fuel generalizing k junk with
  | zero =>
    rw [Nat.zero_mul] at hj
    rw [repeatLoop, Nat.add_zero, if_neg (Int.lt_irrefl _), List.length_eq_zero_iff.mp hj, List.append_nil]
  | succ n ih =>
    have hlt : ((k * s.length : Nat) : Int) < (((k + (n + 1)) * s.length : Nat) : Int) :=
      Int.ofNat_lt.mpr (Nat.mul_lt_mul_of_pos_right (by omega) hL)
    rw [Nat.succ_mul] at hj
    rw [repeatLoop, if_pos hlt, memcpy_cursor_whole _ junk s _ (length_flatten_replicate k s) (by omega), R.ok_bind,
      ← Int.natCast_add, ← Nat.succ_mul, ← add_one_add k n]
    have e : (List.replicate k s).flatten ++ s = (List.replicate (k + 1) s).flatten := by
      rw [List.replicate_succ', List.flatten_append, List.flatten_cons, List.flatten_nil, List.append_nil]
    rw [e]
    exact ih (k + 1) (junk.drop s.length) (by rw [List.length_drop, hj, Nat.add_sub_cancel])

/-- `string/repeat bytes n` for every string (length fits int32) and every int32 `n`: error for `n < 0` and when
    `n * len > INT32_MAX` (the int64 product never overflows), otherwise `n` copies; the pointer loop runs exactly `n`
    times (none for the empty string) and every `memcpy` stays inside the result buffer. -/
theorem repeat_eq_spec (s : Bytes) (rep : Int) (hs : Len32 s) (hr : in32 rep = true) :
    StrC.repeatStr s rep = R.ofOption (Lib.repeatBytes s rep) := by
  rw [StrC.repeatStr, Lib.repeatBytes]
  by_cases hneg : rep < 0
  · rw [if_pos hneg, if_pos hneg]
    rfl
  · obtain ⟨r, rfl⟩ : ∃ r : Nat, rep = r := ⟨rep.toNat, (Int.toNat_of_nonneg (Int.not_lt.mp hneg)).symm⟩
    have ⟨hs', hr'⟩ : s.length ≤ 2147483647 ∧ r ≤ 2147483647 := by
      unfold Len32 int32Max at hs
      unfold in32 int32Max at hr
      simp only [decide_eq_true_eq] at hr
      omega
    -- the product of two int32 values fits an int64
    have hm : r * s.length ≤ 9223372036854775807 := Nat.le_trans (Nat.mul_le_mul hr' hs') (by decide)
    rw [if_neg hneg, if_neg hneg, ← Int.natCast_mul]
    by_cases hz : r = 0
    · subst hz
      rw [if_pos Int.natCast_zero, Nat.zero_mul, if_neg (by decide)]
      by_cases he : s = []
      · rw [if_pos he]
        rfl
      · rw [if_neg he]
        rfl
    · rw [if_neg (fun e => hz (Int.ofNat_eq_zero.mp e)), mul64_nat r s.length hm, R.ok_bind]
      by_cases hbig : ((r * s.length : Nat) : Int) > int32Max
      · rw [if_pos hbig, if_pos hbig]
        rfl
      · rw [if_neg hbig, if_neg hbig, Int.toNat_natCast, Int.toNat_natCast]
        by_cases he : s = []
        · -- the empty string: `p < end` fails at once
          subst he
          rw [if_pos rfl, List.length_nil, Nat.mul_zero]
          cases r with
          | zero => rfl
          | succ r => rfl
        · have h0 := repeatLoop_spec s (List.length_pos_iff.mpr he) r 0 (List.replicate (r * s.length) 0) List.length_replicate
          simp only [Nat.zero_add, Nat.zero_mul, Int.natCast_zero, List.replicate_zero, List.flatten_nil, List.nil_append,
            List.toArray_replicate] at h0
          rw [if_neg he, h0]
          rfl

example : StrC.repeatStr [1, 2] 3 = .ok [1, 2, 1, 2, 1, 2] ∧ StrC.repeatStr [] 5 = .ok [] ∧ StrC.repeatStr [1] (-1) = .panic
    ∧ StrC.repeatStr [1, 2] 2147483647 = .panic := by decide +kernel

theorem byte_split (b c : Nat) : (b / 32 = c / 32 ∧ b % 32 = c % 32) ↔ b = c := by
  constructor
  · intro ⟨h1, h2⟩; omega
  · intro h; subst h; exact ⟨rfl, rfl⟩

theorem shl32_spec (c : Nat) : shl32 (c &&& 0x1F) = .ok (2 ^ (c % 32)) := by
  have e : c &&& 0x1F = c % 32 := Nat.and_two_pow_sub_one_eq_mod c 5
  rw [e]
  unfold shl32
  have hlt : c % 32 < 32 := Nat.mod_lt _ (by omega)
  simp only [hlt, if_true, Nat.one_shiftLeft]
  congr 1
  apply Nat.mod_eq_of_lt
  calc 2 ^ (c % 32) < 2 ^ 32 := Nat.pow_lt_pow_right (by omega) hlt
    _ = 4294967296 := by rfl

/-- invariant of the populate loop: bit `b % 32` of word `b / 32` is set iff `b` is among the bytes processed so far -/
def BitsetInv (seen : Bytes) (bitset : Array Nat) : Prop :=
  bitset.size = 8 ∧ ∀ b, b < 256 → ((bitset.getD (b / 32) 0).testBit (b % 32) = seen.contains b)

theorem BitsetInv.step {seen : Bytes} {bitset : Array Nat} (h : BitsetInv seen bitset) (c : Nat)
    (hidx : c / 32 < bitset.size) :
    BitsetInv (seen ++ [c]) (bitset.setIfInBounds (c / 32) (bitset[c / 32] ||| 2 ^ (c % 32))) := by
  obtain ⟨hsz, hbits⟩ := h
  refine ⟨by rw [Array.size_setIfInBounds]; exact hsz, fun b hb => ?_⟩
  rw [List.contains_append, ← hbits b hb, List.contains_cons, List.contains_nil, Bool.or_false]
  by_cases hw : c / 32 = b / 32
  · -- same word: the new bit is bit `b % 32` iff `b = c`
    rw [← hw, Array.getD_setIfInBounds_self _ _ _ hidx, Array.getD_of_lt _ _ _ hidx, Nat.testBit_or, Nat.testBit_two_pow]
    congr 1
    rw [Bool.eq_iff_iff, decide_eq_true_eq, beq_iff_eq]
    exact ⟨fun h => (byte_split b c).1 ⟨hw.symm, h.symm⟩, fun h => by rw [h]⟩
  · have hne : (b == c) = false := beq_eq_false_iff_ne.mpr fun e => hw (by rw [e])
    rw [Array.getD_setIfInBounds_ne _ _ _ hw, hne, Bool.or_false]

theorem populate_spec (set : Bytes) (hset : ∀ c ∈ set, c < 256) :
    ∃ bitset, forUp (checkSetPopBody set) set.length 0 (Array.replicate 8 0) = .ok bitset ∧
      BitsetInv set bitset := by
  obtain ⟨bs, hf, hP⟩ := forUp_inv (checkSetPopBody set) (fun i (bitset : Array Nat) => BitsetInv (set.take i) bitset) set.length 0
    (Array.replicate 8 0)
    ⟨Array.size_replicate, fun b hb => by
      rw [Array.getD_of_lt _ _ _ (by rw [Array.size_replicate]; omega), Array.getElem_replicate, Nat.zero_testBit]
      rfl⟩
    (by
      intro i bitset _ hi hinv
      have hi' : i < set.length := by omega
      have hc : set[i] < 256 := hset _ (List.getElem_mem hi')
      have hidx : set[i] / 32 < bitset.size := by rw [hinv.1]; omega
      rw [checkSetPopBody, idx_list_ok set i hi']
      simp only [R.ok_bind, shl32_spec, Nat.shiftRight_eq_div_pow, Nat.reducePow]
      rw [idx_ok bitset _ hidx, R.ok_bind, setIdx_ok _ _ _ hidx, List.take_succ_eq_append_getElem hi']
      exact ⟨_, rfl, hinv.step set[i] hidx⟩)
  refine ⟨bs, hf, ?_⟩
  rw [Nat.zero_add, List.take_length] at hP
  exact hP

theorem BitsetInv.check {set : Bytes} {bitset : Array Nat} (h : BitsetInv set bitset) (c : Nat) (hc : c < 256)
    (hidx : c / 32 < bitset.size) :
    (if bitset[c / 32] &&& 2 ^ (c % 32) = 0 then some false else none) = if inSet set c then none else some false := by
  have hb := h.2 c hc
  rw [Array.getD_of_lt _ _ _ hidx] at hb
  by_cases hz : bitset[c / 32] &&& 2 ^ (c % 32) = 0
  · rw [if_pos hz, inSet, ← hb, (and_two_pow_eq_zero _ _).1 hz]
    rfl
  · rw [if_neg hz, inSet, ← hb, Bool.of_not_eq_false fun e => hz ((and_two_pow_eq_zero _ _).2 e)]
    rfl

/-- `string/check-set set str` with the real data structure (`uint32_t bitset[8]`, `>> 5`, `& 0x1F`, `(uint32_t)1 << k`):
    for byte strings it answers exactly "every byte of `str` occurs in `set`"; no shift amount reaches 32 and no word
    index reaches 8 (never UB: the shift is `(uint32_t) 1 << k`, defined also for `k = 31`). -/
theorem checkSet_eq_spec (set s : Bytes) (hset : ∀ c ∈ set, c < 256) (hs : ∀ c ∈ s, c < 256) :
    StrC.checkSet set s = .ok (Lib.checkSet set s) := by
  unfold StrC.checkSet
  obtain ⟨bitset, hf, hinv⟩ := populate_spec set hset
  rw [hf]
  simp only [R.ok_bind]
  rw [scanUp_while s _ (inSet set) (fun _ => false)
    (fun j hj => by
      have hc : s[j] < 256 := hs _ (List.getElem_mem hj)
      have hidx : s[j] / 32 < bitset.size := by rw [hinv.1]; omega
      rw [checkSetChkBody, idx_list_ok s j hj]
      simp only [R.ok_bind, shl32_spec, Nat.shiftRight_eq_div_pow, Nat.reducePow]
      rw [idx_ok bitset _ hidx]
      exact congrArg R.ok (hinv.check s[j] hc hidx))]
  simp only [R.ok_bind, R.pure_eq]
  rw [scan_getD, Lib.checkSet]
  cases s.all (inSet set) <;> rfl

example : StrC.checkSet [97, 255, 31] [255, 97, 97, 31] = .ok true ∧ StrC.checkSet [97, 255] [255, 98] = .ok false
    ∧ StrC.checkSet [] [] = .ok true := by decide +kernel

end JanetModel.Lib.StrC
