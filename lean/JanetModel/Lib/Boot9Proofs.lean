import JanetModel.Lib.Boot9
import JanetModel.Lib.BootProofs
/- C17: `flatten` returns the leaves in left-to-right order for every nesting (fuel > depth). -/
namespace JanetModel.Lib.Boot
open JanetModel.Lib JanetModel.Lib.JIter

theorem depth_le_of_mem {α : Type} (x : Nest α) : ∀ xs : List (Nest α), x ∈ xs → x.depth ≤ depthList xs
  | [], h => by simp at h
  | y :: ys, h => by
    simp only [depthList]
    rcases List.mem_cons.mp h with h | h
    · subst h; omega
    · have := depth_le_of_mem x ys h; omega

theorem flattenInto_spec {α : Type} : ∀ (fuel : Nat) (into : Array α) (xs : List (Nest α)), depthList xs < fuel →
    flattenInto fuel into xs = .ok (into ++ (flatList xs).toArray) := by
  intro fuel
  induction fuel with
  | zero => intro _ _ h; omega
  | succ n ih =>
    intro into xs hd
    unfold flattenInto
    rw [each_fold_mem xs _ (fun s x => s ++ x.flat.toArray) into (fun _ x s hx => by
      have hdx := depth_le_of_mem x xs hx
      cases x with
      | leaf v => simp [flattenBody, Nest.flat]
      | node ys =>
        simp only [Nest.depth] at hdx
        simp only [flattenBody, Nest.flat]
        rw [ih s ys (by omega)])]
    congr 1
    clear hd
    induction xs generalizing into with
    | nil => simp [flatList]
    | cons x xs ihx => rw [List.foldl_cons, ihx]; simp [flatList]

theorem flatten_eq_spec {α : Type} (fuel : Nat) (xs : List (Nest α)) (h : depthList xs < fuel) :
    Boot.flatten fuel xs = .ok (flatList xs) := by
  unfold Boot.flatten
  rw [flattenInto_spec fuel #[] xs h]
  simp

example : Boot.flatten 3 [.leaf 1, .node [.leaf 2, .node [.leaf 3], .node []], .leaf 4] = .ok [1, 2, 3, 4] := by decide +kernel

end JanetModel.Lib.Boot
