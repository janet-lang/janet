import JanetModel.Lib.CLoop
import JanetModel.Lib.Kmp
/- C17: mirrors of the cfuns of src/core/string.c, loop by loop (the normalised source text each mirror was transcribed
   from is regenerated into Gen/LibSrc.lean and compared in Lib/SrcTie.lean).  Core Lean only.

   Conventions (Lib/C32.lean, Lib/CLoop.lean): result `R` = ok / panic / ub; arguments are the values already decoded by
   `janet_getbytes` / `janet_getinteger` (type and arity errors are decoded in the driver).  Arithmetic on user-supplied
   int32 goes through the checked operations; offsets inside one object (`0 ≤ x ≤ len`) use plain `Int` arithmetic.
   The theorems `… = Spec.…` are in Lib/Str*CProofs.lean. -/
namespace JanetModel.Lib.StrC
open JanetModel.Lib JanetModel.Lib.CLoop JanetModel.Gen.Lib

/-- `janet_string(buf + off, len)` / `janet_stringv`: `janet_string_begin(len)`, `safe_memcpy`, `janet_string_end`. -/
def stringv (src : Bytes) (off len : Int) : R Bytes :=
  if len < 0 then .ub else do
    let buf ← memcpy (Array.replicate len.toNat 0) 0 src.toArray off len.toNat
    pure buf.toList

/-! ## trim family -/

/-- `static int trim_help_checkset(JanetByteView set, uint8_t x) {
       for (int32_t j = 0; j < set.len; j++) if (set.bytes[j] == x) return 1;
       return 0; }` -/
def checkset (set : Bytes) (x : Nat) : R Bool := do
  let r ← scanUp (fun j => do
      let c ← idx set.toArray (j : Int)
      pure (if c = x then some true else none)) set.length 0
  pure (r.getD false)

/-- `for (int32_t i = 0; i < str.len; i++) if (!trim_help_checkset(set, str.bytes[i])) return i;  return str.len;` -/
def leftedge (str set : Bytes) : R Int := do
  let r ← scanUp (fun i => do
      let c ← idx str.toArray (i : Int)
      let inset ← checkset set c
      pure (if !inset then some (i : Int) else none)) str.length 0
  pure (r.getD (str.length : Int))

/-- `for (int32_t i = str.len - 1; i >= 0; i--) if (!trim_help_checkset(set, str.bytes[i])) return i + 1;  return 0;` -/
def rightedge (str set : Bytes) : R Int := do
  let r ← scanDown (fun i => do
      let c ← idx str.toArray (i : Int)
      let inset ← checkset set c
      pure (if !inset then some ((i : Int) + 1) else none)) str.length
  pure (r.getD 0)

/-- `cfun_string_trim`:  `if (right_edge < left_edge) return janet_stringv(NULL, 0);
                          return janet_stringv(str.bytes + left_edge, right_edge - left_edge);` -/
def trim (str set : Bytes) : R Bytes := do
  let left_edge ← leftedge str set
  let right_edge ← rightedge str set
  if right_edge < left_edge then pure []
  else stringv str left_edge (right_edge - left_edge)

/-- `cfun_string_triml`: `return janet_stringv(str.bytes + left_edge, str.len - left_edge);` -/
def triml (str set : Bytes) : R Bytes := do
  let left_edge ← leftedge str set
  stringv str left_edge ((str.length : Int) - left_edge)

/-- `cfun_string_trimr`: `return janet_stringv(str.bytes, right_edge);` -/
def trimr (str set : Bytes) : R Bytes := do
  let right_edge ← rightedge str set
  stringv str 0 right_edge

/-! ## reverse, case conversion, bytes -/

/-- `cfun_string_reverse`: `for (i = 0, j = view.len - 1; i < view.len; i++, j--) buf[i] = view.bytes[j];` -/
def reverse (s : Bytes) : R Bytes := do
  let (buf, _) ← forUp (fun i (st : Array Nat × Int) => do
      let c ← idx s.toArray st.2
      let buf ← setIdx st.1 (i : Int) c
      pure (buf, st.2 - 1)) s.length 0 (Array.replicate s.length 0, (s.length : Int) - 1)
  pure buf.toList

/-- `cfun_string_asciilower`: `uint8_t c = view.bytes[i]; if (c >= 65 && c <= 90) buf[i] = c + 32; else buf[i] = c;`
    (the store into a `uint8_t` cell truncates: `% 256`) -/
def asciiLower (s : Bytes) : R Bytes := do
  let buf ← forUp (fun i (buf : Array Nat) => do
      let c ← idx s.toArray (i : Int)
      if lowerFrom ≤ c ∧ c ≤ lowerTo then setIdx buf (i : Int) ((c + lowerAdd) % 256)
      else setIdx buf (i : Int) c) s.length 0 (Array.replicate s.length 0)
  pure buf.toList

/-- `cfun_string_asciiupper`: `if (c >= 97 && c <= 122) buf[i] = c - 32; else buf[i] = c;` -/
def asciiUpper (s : Bytes) : R Bytes := do
  let buf ← forUp (fun i (buf : Array Nat) => do
      let c ← idx s.toArray (i : Int)
      if upperFrom ≤ c ∧ c ≤ upperTo then setIdx buf (i : Int) ((c - upperSub) % 256)
      else setIdx buf (i : Int) c) s.length 0 (Array.replicate s.length 0)
  pure buf.toList

/-- `cfun_string_bytes`: `for (i = 0; i < view.len; i++) tup[i] = janet_wrap_integer((int32_t) view.bytes[i]);` -/
def bytes (s : Bytes) : R (List Int) := do
  let tup ← forUp (fun i (tup : Array Int) => do
      let c ← idx s.toArray (i : Int)
      setIdx tup (i : Int) (c : Int)) s.length 0 (Array.replicate s.length 0)
  pure tup.toList

/-- `cfun_string_frombytes`: `for (i = 0; i < argc; i++) { int32_t c = janet_getinteger(argv, i); buf[i] = c & 0xFF; }`
    (`c & 0xFF` on a two's-complement int32 is `c mod 256` = `Spec.toByte`) -/
def fromBytes (argv : List Int) : R Bytes := do
  let buf ← forUp (fun i (buf : Array Nat) => do
      let a ← idx argv.toArray (i : Int)
      let c ← getinteger a
      setIdx buf (i : Int) (toByte c)) argv.length 0 (Array.replicate argv.length 0)
  pure buf.toList

/-! ## has-prefix? / has-suffix? -/

/-- `memcmp(a + aoff, b + boff, n) == 0` as a byte loop -/
def memEq (a : Bytes) (aoff : Int) (b : Bytes) (boff : Int) (n : Nat) : R Bool := do
  let r ← scanUp (fun k => do
      let x ← idx a.toArray (aoff + (k : Int))
      let y ← idx b.toArray (boff + (k : Int))
      pure (if x ≠ y then some false else none)) n 0
  pure (r.getD true)

/-- `cfun_string_hasprefix`: `return str.len < prefix.len ? false : memcmp(prefix.bytes, str.bytes, prefix.len) == 0;` -/
def hasPrefix (pfx str : Bytes) : R Bool :=
  if str.length < pfx.length then pure false else memEq pfx 0 str 0 pfx.length

/-- `cfun_string_hassuffix`: `… memcmp(suffix.bytes, str.bytes + str.len - suffix.len, suffix.len) == 0` -/
def hasSuffix (sfx str : Bytes) : R Bool :=
  if str.length < sfx.length then pure false
  else memEq sfx 0 str ((str.length : Int) - (sfx.length : Int)) sfx.length

/-! ## slice -/

/-- `cfun_string_slice` (also `cfun_symbol_slice`, `cfun_keyword_slice`, `cfun_buffer_slice`): `janet_arity(argc, 1, 3);` first
    (since /repo 06301a5: before that the arity was only checked inside `janet_getslice`, after `argv[0]` had been read —
    the arity decode is the driver's, see the arity family of the check), then `JanetRange range = janet_getslice(argc, argv);
      return janet_stringv(view.bytes + range.start, range.end - range.start);`
    (`Spec.getslice` is the mirror of capi.c `janet_getslice`, see `halfrange_spec` / `slice_spec`) -/
def slice (s : Bytes) (st en : Option Int) : R Bytes :=
  match getslice st en s.length with
  | none => .panic
  | some (a, b) => stringv s (a : Int) ((b : Int) - (a : Int))

/-! ## repeat -/

/-- the pointer loop `for (uint8_t *p = newbuf; p < end; p += view.len) safe_memcpy(p, view.bytes, view.len);`
    with `p`, `end` as offsets into `newbuf`; `fuel` bounds the iterations (exhaustion = outside the model: `.ub`). -/
def repeatLoop (s : Bytes) (end_ : Int) : Nat → Int → Array Nat → R (Array Nat)
  | 0, p, buf => if p < end_ then .ub else .ok buf
  | fuel + 1, p, buf =>
    if p < end_ then do
      let buf ← memcpy buf p s.toArray 0 s.length
      repeatLoop s end_ fuel (p + (s.length : Int)) buf
    else .ok buf

/-- `cfun_string_repeat`:
      `if (rep < 0) janet_panic(…); if (rep == 0) return janet_cstringv("");
       int64_t mulres = (int64_t) rep * view.len;
       if (mulres > INT32_MAX) janet_panic("result string is too long");
       uint8_t *newbuf = janet_string_begin((int32_t) mulres); uint8_t *end = newbuf + mulres; (loop)` -/
def repeatStr (s : Bytes) (rep : Int) : R Bytes :=
  if rep < 0 then .panic
  else if rep = 0 then .ok []
  else do
    let mulres ← mul64 rep (s.length : Int)
    if mulres > int32Max then .panic
    else do
      let buf ← repeatLoop s mulres rep.toNat 0 (Array.replicate mulres.toNat 0)
      pure buf.toList

/-! ## check-set -/

/-- `cfun_string_checkset`: `uint32_t bitset[8]`;
      populate: `int index = set.bytes[i] >> 5; uint32_t mask = (uint32_t) 1 << (set.bytes[i] & 0x1F); bitset[index] |= mask;`
      check:    `if (!(bitset[index] & mask)) return janet_wrap_false();` … `return janet_wrap_true();`
    A shift amount ≥ 32 would be UB (it cannot be: `& 0x1F`); `(uint32_t) 1 << 31` is defined (the cast is the fix of a
    past `1 << 31` signed-overflow defect). -/
def shl32 (k : Nat) : R Nat := if k < 32 then .ok ((1 <<< k) % 4294967296) else .ub

def checkSetPopBody (set : Bytes) (i : Nat) (bitset : Array Nat) : R (Array Nat) := do
  let c ← idx set.toArray (i : Int)
  let index := c >>> 5
  let mask ← shl32 (c &&& 0x1F)
  let w ← idx bitset (index : Int)
  setIdx bitset (index : Int) (w ||| mask)

def checkSetChkBody (bitset : Array Nat) (str : Bytes) (i : Nat) : R (Option Bool) := do
  let c ← idx str.toArray (i : Int)
  let index := c >>> 5
  let mask ← shl32 (c &&& 0x1F)
  let w ← idx bitset (index : Int)
  pure (if w &&& mask = 0 then some false else none)

def checkSet (set str : Bytes) : R Bool := do
  let bitset ← forUp (checkSetPopBody set) set.length 0 (Array.replicate 8 0)
  let r ← scanUp (checkSetChkBody bitset str) str.length 0
  pure (r.getD true)

/-! ## the cfuns built on the KMP machine (`Lib/Kmp.lean` mirrors kmp_init / kmp_next / kmp_seti) -/

structure KmpS where
  text : Array Nat
  pat : Array Nat
  lookup : Array Nat
  st : Kmp.State

/-- `kmp_init`: `if (patlen == 0) janet_panic("expected non-empty pattern");` … table … `s->i = 0; s->j = 0;` -/
def kmpInit (text pat : Bytes) : R KmpS :=
  if pat.length = 0 then .panic
  else .ok { text := text.toArray, pat := pat.toArray, lookup := Kmp.lookupTable pat.toArray, st := { i := 0, j := 0 } }

/-- `findsetup`: `int32_t start = 0; if (argc >= 3) { start = janet_getinteger(argv, 2);
      if (start < 0) janet_panic("expected non-negative start index"); }  kmp_init(…);  s->i = start;` -/
def findsetup (pat text : Bytes) (start : Option Int) : R KmpS := do
  let start ← match start with
    | none => pure (0 : Int)
    | some x => if x < 0 then .panic else pure x
  let s ← kmpInit text pat
  pure { s with st := { i := start.toNat, j := 0 } }

def next (s : KmpS) : Option Nat × Kmp.State := Kmp.kmpNext s.text s.pat s.lookup s.st

/-- `cfun_string_find`: `result = kmp_next(&state); return result < 0 ? nil : integer(result);` -/
def find (pat text : Bytes) (start : Option Int) : R (Option Nat) := do
  let s ← findsetup pat text start
  pure (next s).1

/-- `cfun_string_findall`: `while ((result = kmp_next(&state)) >= 0) janet_array_push(array, integer(result));` -/
def findAllLoop (s : KmpS) : Nat → Kmp.State → Array Nat → R (Array Nat)
  | 0, _, _ => .ub
  | fuel + 1, st, array =>
    match next { s with st := st } with
    | (none, _) => .ok array
    | (some result, st') => findAllLoop s fuel st' (array.push result)

def findAll (pat text : Bytes) (start : Option Int) : R (List Nat) := do
  let s ← findsetup pat text start
  let array ← findAllLoop s (text.length + 2) s.st #[]
  pure array.toList

/-- `cfun_string_split`:
      `int32_t limit = -1, lastindex = 0;  if (argc == 4) limit = janet_getinteger(argv, 3);  findsetup(…, 1);
       while ((result = kmp_next(&state)) >= 0 && (limit < 0 || --limit)) {
           slice = janet_string(state.text + lastindex, result - lastindex);  push(slice);
           lastindex = result + state.patlen;  kmp_seti(&state, lastindex); }
       slice = janet_string(state.text + lastindex, state.textlen - lastindex);  push(slice);`
    `--limit` is an int32 decrement (`sub32`), evaluated only when `limit >= 0` (short-circuit `||`). -/
def splitLoop (s : KmpS) (txt : Bytes) : Nat → Int → Kmp.State → Int → Array Bytes → R (Array Bytes × Int)
  | 0, _, _, _, _ => .ub
  | fuel + 1, lastindex, st, limit, array =>
    match next { s with st := st } with
    | (none, _) => .ok (array, lastindex)
    | (some result, _) => do
      let (go, limit) ← (if limit < 0 then pure (true, limit)
                         else do let l ← sub32 limit 1; pure (decide (l ≠ 0), l) : R (Bool × Int))
      if go then do
        let sl ← stringv txt lastindex ((result : Int) - lastindex)
        let lastindex := (result : Int) + (s.pat.size : Int)
        splitLoop s txt fuel lastindex { i := lastindex.toNat, j := 0 } limit (array.push sl)
      else .ok (array, lastindex)

def split (pat text : Bytes) (start : Option Int) (limit : Option Int) : R (List Bytes) := do
  let limit := limit.getD (-1)
  let s ← findsetup pat text start
  let (array, lastindex) ← splitLoop s text (text.length + 1) 0 s.st limit #[]
  let sl ← stringv text lastindex ((text.length : Int) - lastindex)
  pure (array.push sl).toList

/-! ## join -/

/-- first loop of `cfun_string_join` (the parts are byte sequences):
      `int64_t finallen = 0; for (i = 0; i < parts.len; i++) { … if (i) finallen += joiner.len; finallen += chunklen;
         if (finallen > INT32_MAX) janet_panic("result string too long"); }` -/
def joinLenBody (parts : List Bytes) (joiner : Bytes) (i : Nat) (finallen : Int) : R Int := do
  let chunk ← idx parts.toArray (i : Int)
  let finallen ← (if i ≠ 0 then add64 finallen (joiner.length : Int) else pure finallen)
  let finallen ← add64 finallen (chunk.length : Int)
  if finallen > int32Max then .panic else pure finallen

def joinLen (parts : List Bytes) (joiner : Bytes) : R Int := forUp (joinLenBody parts joiner) parts.length 0 0

/-- second loop: `out = buf = janet_string_begin((int32_t) finallen);
      for (i = 0; i < parts.len; i++) { if (i) { safe_memcpy(out, joiner.bytes, joiner.len); out += joiner.len; }
         safe_memcpy(out, chunk, chunklen); out += chunklen; }` -/
def joinCopyBody (parts : List Bytes) (joiner : Bytes) (i : Nat) (st : Array Nat × Int) : R (Array Nat × Int) := do
  let (buf, out) ← (if i ≠ 0 then do
                      let b ← memcpy st.1 st.2 joiner.toArray 0 joiner.length
                      pure (b, st.2 + (joiner.length : Int))
                    else pure st : R (Array Nat × Int))
  let chunk ← idx parts.toArray (i : Int)
  let buf ← memcpy buf out chunk.toArray 0 chunk.length
  pure (buf, out + (chunk.length : Int))

def join (parts : List Bytes) (joiner : Bytes) : R Bytes := do
  let finallen ← joinLen parts joiner
  let (buf, _) ← forUp (joinCopyBody parts joiner) parts.length 0 (Array.replicate finallen.toNat 0, 0)
  pure buf.toList

end JanetModel.Lib.StrC
