/- C17: lemmas about the reference definitions of Lib/Spec.lean (range decoding, search family, laws). -/
import JanetModel.Lib.Spec
namespace JanetModel.Lib
open JanetModel.Gen.Lib

/-- the common shape of `janet_gethalfrange` and `janet_getargindex`: a negative `raw` counts from `len + adj` -/
def decodeIdx (adj : Int) (raw : Int) (len : Nat) : Option Nat :=
  let nr : Int := if raw < 0 then raw + (len : Int) + adj else raw
  if nr < 0 ∨ nr > (len : Int) then none else some nr.toNat

theorem decodeIdx_none_iff (adj raw : Int) (len : Nat) :
    decodeIdx adj raw len = none ↔
      (if raw < 0 then raw + (len : Int) + adj else raw) < 0 ∨ (if raw < 0 then raw + (len : Int) + adj else raw) > (len : Int) := by
  unfold decodeIdx
  generalize (if raw < 0 then raw + (len : Int) + adj else raw) = nr
  by_cases hb : nr < 0 ∨ nr > (len : Int)
  · rw [if_pos hb]; exact ⟨fun _ => hb, fun _ => rfl⟩
  · rw [if_neg hb]; exact ⟨fun h => (nomatch h), fun h => absurd h hb⟩

theorem decodeIdx_some {adj raw : Int} {len k : Nat} (h : decodeIdx adj raw len = some k) :
    k ≤ len ∧ (0 ≤ raw → (k : Int) = raw) ∧ (raw < 0 → (k : Int) = raw + len + adj) := by
  unfold decodeIdx at h
  generalize hnr : (if raw < 0 then raw + (len : Int) + adj else raw) = nr at h
  by_cases hb : nr < 0 ∨ nr > (len : Int)
  · rw [if_pos hb] at h; exact nomatch h
  · rw [if_neg hb] at h
    have hk : (k : Int) = nr := by
      rw [← Option.some.inj h]; exact Int.toNat_of_nonneg (Int.not_lt.mp (fun h' => hb (Or.inl h')))
    refine ⟨Int.ofNat_le.mp (hk ▸ Int.not_lt.mp (fun h' => hb (Or.inr h'))), fun h0 => ?_, fun h0 => ?_⟩
    · rw [hk, ← hnr, if_neg (Int.not_lt.mpr h0)]
    · rw [hk, ← hnr, if_pos h0]

theorem halfrange_some {raw : Int} {len k : Nat} (h : halfrange raw len = some k) :
    k ≤ len ∧ (0 ≤ raw → (k : Int) = raw) ∧ (raw < 0 → (k : Int) = raw + len + 1) :=
  decodeIdx_some (adj := halfAdj) h

theorem halfrange_none_iff (raw : Int) (len : Nat) :
    halfrange raw len = none ↔ ¬ (-(len : Int) - 1 ≤ raw ∧ raw ≤ len) := by
  refine (decodeIdx_none_iff 1 raw len).trans ?_
  by_cases hr : raw < 0
  · rw [if_pos hr]; omega
  · rw [if_neg hr]; omega

theorem argindex_some {raw : Int} {len k : Nat} (h : argindex raw len = some k) :
    k ≤ len ∧ (0 ≤ raw → (k : Int) = raw) ∧ (raw < 0 → (k : Int) = raw + len) :=
  have ⟨h1, h2, h3⟩ := decodeIdx_some (adj := argAdj) h
  ⟨h1, h2, fun h0 => (h3 h0).trans (Int.add_zero _)⟩

theorem startrange_le {arg : Option Int} {len k : Nat} (h : startrange arg len = some k) : k ≤ len := by
  cases arg with
  | none => exact Option.some.inj h ▸ Nat.zero_le len
  | some r => exact (halfrange_some h).1

theorem endrange_le {arg : Option Int} {len k : Nat} (h : endrange arg len = some k) : k ≤ len := by
  cases arg with
  | none => exact Option.some.inj h ▸ Nat.le_refl len
  | some r => exact (halfrange_some h).1

theorem getslice_some {s e : Option Int} {len a b : Nat} (h : getslice s e len = some (a, b)) :
    a ≤ b ∧ b ≤ len := by
  unfold getslice at h
  cases hs : startrange s len with
  | none => rw [hs] at h; exact nomatch h
  | some st =>
    cases he : endrange e len with
    | none => rw [hs, he] at h; exact nomatch h
    | some en =>
      rw [hs, he] at h
      cases h
      have h1 := startrange_le hs
      have h2 := endrange_le he
      simp only [sliceClamp, Bool.true_and, decide_eq_true_eq]
      by_cases hlt : en < a
      · rw [if_pos hlt]; exact ⟨Nat.le_refl _, h1⟩
      · rw [if_neg hlt]; exact ⟨Nat.le_of_not_lt hlt, h2⟩

theorem slice_some {α : Type} {l : List α} {s e : Option Int} {r : List α} (h : slice l s e = some r) :
    ∃ a b, getslice s e l.length = some (a, b) ∧ a ≤ b ∧ b ≤ l.length ∧ r = (l.drop a).take (b - a) := by
  unfold slice at h
  cases hg : getslice s e l.length with
  | none => rw [hg] at h; cases h
  | some ab =>
    obtain ⟨a, b⟩ := ab
    rw [hg] at h
    obtain ⟨hab, hbl⟩ := getslice_some hg
    exact ⟨a, b, rfl, hab, hbl, (Option.some.inj h).symm⟩

theorem halfrange_neg_one (len : Nat) : halfrange (-1) len = some len := by
  unfold halfrange
  simp only [halfAdj, halfUpperIncl, if_true]
  rw [if_pos (show (-1 : Int) < 0 by decide), show (-1 : Int) + (len : Int) + 1 = (len : Int) by omega,
    if_neg (fun h => h.elim (Int.not_lt.mpr (Int.natCast_nonneg len)) (Int.lt_irrefl _)), Int.toNat_natCast]

theorem matchAt_iff (pat text : Bytes) (i : Nat) :
    matchAt pat text i = true ↔ i + pat.length ≤ text.length ∧ (text.drop i).take pat.length = pat := by
  simp [matchAt]

theorem matchAt_drop {pat text : Bytes} {i : Nat} (h : matchAt pat text i = true) :
    text.drop i = pat ++ text.drop (i + pat.length) := by
  obtain ⟨_, h2⟩ := (matchAt_iff _ _ _).1 h
  have := (List.take_append_drop pat.length (text.drop i)).symm
  rw [h2, List.drop_drop] at this
  exact this

theorem findFromAux_some {pat text : Bytes} {i fuel r : Nat} (h : findFromAux pat text i fuel = some r) :
    i ≤ r ∧ r < i + fuel ∧ matchAt pat text r = true ∧ ∀ k, i ≤ k → k < r → matchAt pat text k = false := by
  induction fuel generalizing i with
  | zero => exact nomatch h
  | succ n ih =>
    unfold findFromAux at h
    by_cases hm : matchAt pat text i = true
    · rw [if_pos hm] at h
      cases h
      exact ⟨Nat.le_refl _, Nat.lt_add_of_pos_right (Nat.succ_pos n), hm, fun k h1 h2 => absurd h1 (Nat.not_le_of_lt h2)⟩
    · rw [if_neg hm] at h
      obtain ⟨h1, h2, h3, h4⟩ := ih h
      rw [Nat.add_assoc, Nat.add_comm 1] at h2
      refine ⟨Nat.le_of_succ_le h1, h2, h3, fun k hk1 hk2 => ?_⟩
      by_cases hki : k = i
      · rw [hki]; exact Bool.eq_false_iff.mpr hm
      · exact h4 k (Nat.lt_of_le_of_ne hk1 (Ne.symm hki)) hk2

theorem findFromAux_none {pat text : Bytes} {i fuel : Nat} (h : findFromAux pat text i fuel = none) :
    ∀ k, i ≤ k → k < i + fuel → matchAt pat text k = false := by
  induction fuel generalizing i with
  | zero => intro k h1 h2; exact absurd h1 (Nat.not_le_of_lt h2)
  | succ n ih =>
    unfold findFromAux at h
    by_cases hm : matchAt pat text i = true
    · rw [if_pos hm] at h; exact nomatch h
    · rw [if_neg hm] at h
      intro k h1 h2
      by_cases hki : k = i
      · rw [hki]; exact Bool.eq_false_iff.mpr hm
      · exact ih h k (Nat.lt_of_le_of_ne h1 (Ne.symm hki)) (by rw [Nat.add_assoc, Nat.add_comm 1]; exact h2)

theorem findFrom_some {pat text : Bytes} {start r : Nat} (h : findFrom pat text start = some r) :
    start ≤ r ∧ matchAt pat text r = true ∧ ∀ k, start ≤ k → k < r → matchAt pat text k = false := by
  obtain ⟨h1, _, h3, h4⟩ := findFromAux_some h
  exact ⟨h1, h3, h4⟩

theorem findFrom_none {pat text : Bytes} {start : Nat} (h : findFrom pat text start = none) :
    ∀ k, start ≤ k → matchAt pat text k = false := by
  intro k hk
  by_cases hlt : k < start + (text.length + 1 - start)
  · exact findFromAux_none h k hk hlt
  ·
    simp only [matchAt, Bool.and_eq_false_imp, decide_eq_true_eq]
    intro hle
    omega

theorem length_findAllAux_le (pat text : Bytes) (i fuel : Nat) : (findAllAux pat text i fuel).length ≤ fuel := by
  induction fuel generalizing i with
  | zero => exact Nat.le_refl _
  | succ n ih =>
    rw [findAllAux]
    split
    · exact Nat.succ_le_succ (ih _)
    · exact Nat.le_succ_of_le (ih _)

theorem join_cons_cons (p q : Bytes) (qs : List Bytes) (sep : Bytes) :
    join (p :: q :: qs) sep = p ++ sep ++ join (q :: qs) sep := by
  simp [join, List.foldr]

theorem join_singleton (p sep : Bytes) : join [p] sep = p := by simp [join]

theorem splitAux_ne_nil (pat text : Bytes) (fuel last start : Nat) (limit : Int) :
    splitAux pat text fuel last start limit ≠ [] := by
  cases fuel with
  | zero => simp [splitAux]
  | succ n =>
    unfold splitAux
    split
    · simp
    · split <;> simp

theorem drop_split_at_match {pat text : Bytes} {last r : Nat} (hlr : last ≤ r) (hm : matchAt pat text r = true) :
    text.drop last = (text.drop last).take (r - last) ++ pat ++ text.drop (r + pat.length) := by
  have h1 : text.drop last = (text.drop last).take (r - last) ++ (text.drop last).drop (r - last) :=
    (List.take_append_drop _ _).symm
  rw [List.drop_drop] at h1
  rw [Nat.add_sub_of_le hlr, matchAt_drop hm] at h1
  rw [List.append_assoc]
  exact h1

theorem join_splitAux (pat text : Bytes) (fuel last start : Nat) (limit : Int) (hls : last ≤ start) :
    join (splitAux pat text fuel last start limit) pat = text.drop last := by
  induction fuel generalizing last start limit with
  | zero => simp [splitAux, join]
  | succ n ih =>
    unfold splitAux
    cases hf : findFrom pat text start with
    | none => simp [join]
    | some r =>
      simp only
      obtain ⟨hsr, hm, _⟩ := findFrom_some hf
      by_cases hl : limit - 1 = 0
      · rw [if_pos hl]; simp [join]
      · rw [if_neg hl]
        have hne := splitAux_ne_nil pat text n (r + pat.length) (r + pat.length) (limit - 1)
        cases hrest : splitAux pat text n (r + pat.length) (r + pat.length) (limit - 1) with
        | nil => exact absurd hrest hne
        | cons q qs =>
          rw [join_cons_cons, ← hrest, ih _ _ _ (Nat.le_refl _)]
          exact (drop_split_at_match (Nat.le_trans hls hsr) hm).symm

theorem replaceAllAux_self (pat text : Bytes) (fuel last start : Nat) (hls : last ≤ start) :
    replaceAllAux pat pat text fuel last start = text.drop last := by
  induction fuel generalizing last start with
  | zero => simp [replaceAllAux]
  | succ n ih =>
    unfold replaceAllAux
    cases hf : findFrom pat text start with
    | none => rfl
    | some r =>
      simp only
      obtain ⟨hsr, hm, _⟩ := findFrom_some hf
      rw [ih _ _ (Nat.le_refl _)]
      exact (drop_split_at_match (Nat.le_trans hls hsr) hm).symm

theorem replaceAllAux_no_match (pat subst text : Bytes) (fuel last start : Nat)
    (h : findFrom pat text start = none) : replaceAllAux pat subst text fuel last start = text.drop last := by
  cases fuel with
  | zero => rfl
  | succ n => simp [replaceAllAux, h]

theorem takeN_dropN_nonneg {α : Type} (n : Int) (l : List α) (h : 0 ≤ n) : takeN n l ++ dropN n l = l := by
  simp [takeN, dropN, h]

theorem dropN_takeN_neg {α : Type} (n : Int) (l : List α) (h : n < 0) : dropN n l ++ takeN n l = l := by
  simp [takeN, dropN, Int.not_le.mpr h]

theorem takeN_length_nonneg {α : Type} (n : Int) (l : List α) (h : 0 ≤ n) : (takeN n l).length = min n.toNat l.length := by
  simp [takeN, h]

theorem partitionAux_flatten {α : Type} (n : Nat) (hn : 1 ≤ n) (fuel : Nat) (l : List α) (hf : l.length < fuel) :
    (partitionAux n fuel l).flatten = l := by
  induction fuel generalizing l with
  | zero => exact absurd hf (Nat.not_lt_zero _)
  | succ k ih =>
    cases l with
    | nil => rfl
    | cons x xs =>
      simp only [partitionAux, List.flatten_cons]
      rw [ih]
      · exact List.take_append_drop _ _
      · rw [List.length_drop]
        exact Nat.lt_of_le_of_lt (Nat.sub_le_sub_left hn _) (Nat.lt_of_succ_lt_succ hf)

theorem partition_flatten {α : Type} (n : Nat) (hn : 1 ≤ n) (l : List α) : (partition n l).flatten = l :=
  partitionAux_flatten n hn _ l (Nat.lt_succ_self _)

theorem partitionAux_chunk_le {α : Type} (n : Nat) (fuel : Nat) (l : List α) :
    ∀ c ∈ partitionAux n fuel l, c.length ≤ n := by
  induction fuel generalizing l with
  | zero => simp [partitionAux]
  | succ k ih =>
    cases l with
    | nil => simp [partitionAux]
    | cons x xs =>
      simp only [partitionAux, List.mem_cons]
      intro c hc
      cases hc with
      | inl h => subst h; exact List.length_take_le n _
      | inr h => exact ih _ c h

theorem contains_distinct {α : Type} [BEq α] [LawfulBEq α] (x : α) : ∀ p : List α, (distinct p).contains x = p.contains x
  | [] => rfl
  | y :: p => by
    have ih := contains_distinct x p
    rw [Bool.eq_iff_iff] at ih ⊢
    simp only [List.contains_iff_mem] at ih ⊢
    simp only [distinct, List.mem_cons, List.mem_filter, ih, Bool.not_eq_true', beq_eq_false_iff_ne, ne_eq]
    by_cases h : x = y <;> simp [h]

theorem nodup_distinct {α : Type} [BEq α] [LawfulBEq α] : ∀ p : List α, (distinct p).Nodup
  | [] => List.nodup_nil
  | y :: p => by
    simp only [distinct, List.nodup_cons]
    refine ⟨fun h => by simpa using (List.mem_filter.mp h).2, ?_⟩
    exact List.Pairwise.filter _ (nodup_distinct p)

theorem distinct_snoc {α : Type} [BEq α] [LawfulBEq α] (x : α) : ∀ p : List α,
    distinct (p ++ [x]) = if p.contains x then distinct p else distinct p ++ [x]
  | [] => by simp [distinct]
  | y :: p => by
    have ih := distinct_snoc x p
    show distinct (y :: (p ++ [x])) = _
    simp only [distinct, ih, List.contains_cons]
    cases hp : p.contains x with
    | true => simp only [Bool.or_true, if_true]
    | false =>
      simp only [Bool.or_false, Bool.false_eq_true, if_false, List.filter_append]
      cases hxy : (x == y) with
      | true => simp [hxy]
      | false => simp [hxy]

theorem interpose_cons_length {α : Type} (sep : α) : ∀ (x : α) (xs : List α), (interpose sep (x :: xs)).length = 2 * xs.length + 1
  | _, [] => rfl
  | x, y :: ys => by
    rw [interpose, List.length_cons, List.length_cons, interpose_cons_length sep y ys, List.length_cons, Nat.mul_succ]

theorem interpose_length {α : Type} (sep : α) (l : List α) (h : l ≠ []) : (interpose sep l).length = 2 * l.length - 1 := by
  cases l with
  | nil => exact absurd rfl h
  | cons x xs => rw [interpose_cons_length, List.length_cons, Nat.mul_succ]; rfl

theorem takeWhile_length_add_dropWhile {α : Type} (p : α → Bool) (l : List α) :
    (l.takeWhile p).length + (l.dropWhile p).length = l.length := by
  have := congrArg List.length (List.takeWhile_append_dropWhile (p := p) (l := l))
  rw [List.length_append] at this
  exact this

theorem triml_eq_drop (s set : Bytes) : triml s set = s.drop (leftEdge s set) := by
  unfold triml leftEdge
  have h := List.takeWhile_append_dropWhile (p := inSet set) (l := s)
  have h2 : List.drop (List.takeWhile (inSet set) s).length (List.takeWhile (inSet set) s ++ List.dropWhile (inSet set) s)
      = List.dropWhile (inSet set) s := List.drop_left
  rw [h] at h2
  exact h2.symm

theorem trimr_eq_take (s set : Bytes) : trimr s set = s.take (rightEdge s set) := by
  unfold trimr rightEdge
  have h := List.takeWhile_append_dropWhile (p := inSet set) (l := s.reverse)
  have hs : s = (List.dropWhile (inSet set) s.reverse).reverse ++ (List.takeWhile (inSet set) s.reverse).reverse := by
    have := congrArg List.reverse h
    rw [List.reverse_append, List.reverse_reverse] at this
    exact this.symm
  have hlen : s.length - (List.takeWhile (inSet set) s.reverse).length = (List.dropWhile (inSet set) s.reverse).reverse.length := by
    have := takeWhile_length_add_dropWhile (inSet set) s.reverse
    rw [List.length_reverse] at this ⊢
    rw [← this, Nat.add_sub_cancel_left]
  rw [hlen]
  have h2 : List.take (List.dropWhile (inSet set) s.reverse).reverse.length
      ((List.dropWhile (inSet set) s.reverse).reverse ++ (List.takeWhile (inSet set) s.reverse).reverse)
      = (List.dropWhile (inSet set) s.reverse).reverse := List.take_left
  rw [← hs] at h2
  exact h2.symm

theorem hasPrefix_iff (pfx s : Bytes) : hasPrefix pfx s = true ↔ ∃ t, s = pfx ++ t := by
  simp only [hasPrefix, beq_iff_eq]
  constructor
  · intro h
    refine ⟨s.drop pfx.length, ?_⟩
    have := (List.take_append_drop pfx.length s).symm
    rw [h] at this
    exact this
  · rintro ⟨t, rfl⟩
    simp

theorem checkSet_iff (set s : Bytes) : checkSet set s = true ↔ ∀ c ∈ s, c ∈ set := by
  simp [checkSet, inSet, List.all_eq_true]

theorem asciiUpper_length (s : Bytes) : (asciiUpper s).length = s.length := by simp [asciiUpper]
theorem asciiLower_length (s : Bytes) : (asciiLower s).length = s.length := by simp [asciiLower]

theorem asciiLower_upper_of_lower (s : Bytes) (h : ∀ c ∈ s, ¬ (65 ≤ c ∧ c ≤ 90)) :
    asciiLower (asciiUpper s) = s := by
  induction s with
  | nil => rfl
  | cons c cs ih =>
    have hc := h c (by simp)
    have ih' := ih (fun x hx => h x (by simp [hx]))
    simp only [asciiLower, asciiUpper, List.map_cons, List.cons.injEq] at *
    refine ⟨?_, ih'⟩
    simp only [upperFrom, upperTo, upperSub, lowerFrom, lowerTo, lowerAdd]
    by_cases h1 : 97 ≤ c ∧ c ≤ 122
    · rw [if_pos h1]
      have : 65 ≤ c - 32 ∧ c - 32 ≤ 90 := by omega
      rw [if_pos this]; omega
    · rw [if_neg h1, if_neg hc]

theorem bufferPush_self (b : Bytes) : bufferPush b [PushArg.self] = some (b ++ b) := by
  simp [bufferPush]

theorem bufferPush_bytes (b l : Bytes) : bufferPush b [PushArg.bytes l] = some (b ++ l) := by
  simp [bufferPush]

theorem bufferBlit_end_is_push (d s : Bytes) (hsmall : (d.length : Int) + (s.length : Int) ≤ int32Max) :
    bufferBlit d (some s) (some (-1)) none none = some (d ++ s) := by
  unfold bufferBlit
  simp only [halfrange_neg_one]
  simp
  exact hsmall

/-- `arrayRemove` with its checks in the order in which `cfun_array_remove` makes them -/
theorem arrayRemove_eq {α : Type} (a : List α) (at_ n : Int) : arrayRemove a at_ n =
    match getInt32 at_ with
    | none => none
    | some raw =>
      let i : Int := if raw < 0 then (a.length : Int) + raw else raw
      if i < 0 ∨ i > (a.length : Int) then none
      else match getInt32 n with
        | none => none
        | some n => if n < 0 then none else some (a.take i.toNat ++ a.drop (i.toNat + n.toNat)) := by
  unfold arrayRemove
  cases getInt32 at_ <;> cases getInt32 n <;> simp only [ite_self]

theorem getInt32_natCast {n : Nat} (h : (n : Int) ≤ int32Max) : getInt32 (n : Int) = some (n : Int) :=
  if_pos ⟨Int.le_trans (by decide) (Int.natCast_nonneg n), h⟩

theorem arrayInsert_remove {α : Type} (a xs : List α) (i : Nat) (hi : i ≤ a.length)
    (h32 : (a.length : Int) + xs.length ≤ int32Max) :
    (arrayInsert a i xs).bind (fun r => arrayRemove r i xs.length) = some a := by
  have hi32 := getInt32_natCast (Int.le_trans (Int.ofNat_le.mpr hi)
    (Int.le_trans (Int.le_add_of_nonneg_right (Int.natCast_nonneg _)) h32))
  have hn32 := getInt32_natCast (Int.le_trans (Int.le_add_of_nonneg_left (Int.natCast_nonneg _)) h32)
  have hlen : (List.take i a).length = i := List.length_take_of_le hi
  have hsplit : List.take i a ++ List.drop i a = a := List.take_append_drop i a
  have inside : ∀ {m n : Nat}, m ≤ n → ¬ ((m : Int) < 0 ∨ (m : Int) > (n : Int)) :=
    fun hmn h => h.elim (Int.not_lt.mpr (Int.natCast_nonneg _)) (Int.not_lt.mpr (Int.ofNat_le.mpr hmn))
  have h1 : ¬ ((i : Int) < 0) := Int.not_lt.mpr (Int.natCast_nonneg i)
  unfold arrayInsert
  simp only [hi32, if_neg h1]
  rw [if_neg (inside hi)]
  simp only [Option.bind_some, Int.toNat_natCast]
  unfold arrayRemove
  simp only [hi32, hn32, if_neg h1]
  generalize List.take i a = A at *
  generalize List.drop i a = C at *
  subst hlen
  rw [if_neg (inside (by rw [List.length_append, List.length_append, Nat.add_assoc]; exact Nat.le_add_right _ _)),
    if_neg (Int.not_lt.mpr (Int.natCast_nonneg xs.length))]
  simp only [Int.toNat_natCast, Option.some.injEq]
  rw [List.append_assoc, List.take_left, ← List.append_assoc, ← List.length_append, List.drop_left]
  exact hsplit

end JanetModel.Lib
