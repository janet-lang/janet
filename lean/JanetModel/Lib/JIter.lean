import JanetModel.Lib.C32
/- C17: the two primitives through which every boot.janet sequence function walks an indexed / bytes value, shared by the
   boot.janet mirrors (Lib/Boot*.lean).  Core Lean only.

   boot.janet `each-template` expands `(each x ds body…)` to

       (var k (next ds nil))
       (while (not= nil k)
         (def x (in ds k))
         body…
         (set k (next ds k)))

   and value.c `janet_next_impl` on string / buffer / array / tuple is

       if (key is nil) i = 0; else if (janet_checkint(key)) i = unwrap(key) + 1; else break;
       if (i < len && i >= 0) return i;   /* else nil */
-/
namespace JanetModel.Lib.JIter
open JanetModel.Lib

/-- `(next ds key)` on an indexed / bytes value of length `len`; keys are `none` (nil) or an index. -/
def nextKey (len : Nat) : Option Nat → Option Nat
  | none => if 0 < len then some 0 else none
  | some k => if k + 1 < len then some (k + 1) else none

/-- `(in ds k)` on an indexed value: raises for an index outside `[0, len)`. -/
def inIdx {α : Type} (l : List α) (k : Nat) : R α :=
  match l[k]? with
  | some x => .ok x
  | none => .panic

/-- `(get ds k)` on an indexed value: nil (none) for an index outside `[0, len)`. -/
def getIdx {α : Type} (l : List α) (k : Nat) : Option α := l[k]?

theorem nextKey_none (len : Nat) : nextKey len none = if 0 < len then some 0 else none := rfl
theorem nextKey_some (len k : Nat) : nextKey len (some k) = if k + 1 < len then some (k + 1) else none := rfl

/-- a key produced by `next` is a valid index, so the `(in ds k)` that follows never raises -/
theorem inIdx_of_lt {α : Type} (l : List α) (k : Nat) (h : k < l.length) : inIdx l k = .ok l[k] := by
  simp [inIdx, List.getElem?_eq_getElem h]

end JanetModel.Lib.JIter
