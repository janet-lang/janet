import JanetModel.Gen.Lib
/- C17: reference definitions of janet's string / buffer / array / tuple library functions and of the
   boot.janet sequence combinators.  Core Lean only (linked into the driver jm_c17).

   Bytes are `List Nat` (each < 256), generic sequences are `List α`.  `none` = the call raises an error.
   These are *specifications* (naive definitions); the mirrors of the C / janet code live in the other
   model files of Lib/ (e.g. `Lib/Kmp.lean`: string.c kmp_*, `Lib/Sort.lean`: boot.janet sort-help, `Lib/BufMem.lean`:
   buffer.c growth + memcpy order, `Lib/StrC.lean`, `Lib/BufC.lean`, `Lib/ArrC.lean`, `Lib/Boot*.lean`).  -/
namespace JanetModel.Lib
open JanetModel.Gen.Lib

abbrev Bytes := List Nat

def int32Min : Int := -2147483648
def int32Max : Int := 2147483647

/-- `janet_getinteger`: a number is accepted iff it is an int32. -/
def getInt32 (x : Int) : Option Int := if int32Min ≤ x ∧ x ≤ int32Max then some x else none

/-! ## Range decoding (capi.c janet_gethalfrange / getstartrange / getendrange / getargindex / getslice) -/

/-- capi.c `janet_gethalfrange`: `raw < 0` means `raw + length + 1`; error unless the result is in `[0,length]`. -/
def halfrange (raw : Int) (len : Nat) : Option Nat :=
  let nr : Int := if raw < 0 then raw + (len : Int) + halfAdj else raw
  if nr < 0 ∨ (if halfUpperIncl then nr > (len : Int) else nr ≥ (len : Int)) then none else some nr.toNat

/-- capi.c `janet_getargindex`: `raw < 0` means `raw + length`; NOTE the C accepts `not_raw == length`. -/
def argindex (raw : Int) (len : Nat) : Option Nat :=
  let nr : Int := if raw < 0 then raw + (len : Int) + argAdj else raw
  if nr < 0 ∨ (if argUpperIncl then nr > (len : Int) else nr ≥ (len : Int)) then none else some nr.toNat

/-- `janet_getstartrange`: absent / nil argument = 0. -/
def startrange (arg : Option Int) (len : Nat) : Option Nat :=
  match arg with
  | none => some 0
  | some r => halfrange r len

/-- `janet_getendrange`: absent / nil argument = length. -/
def endrange (arg : Option Int) (len : Nat) : Option Nat :=
  match arg with
  | none => some len
  | some r => halfrange r len

/-- `janet_getslice`: `(start, end)` with `end` clamped up to `start`. -/
def getslice (s e : Option Int) (len : Nat) : Option (Nat × Nat) :=
  match startrange s len with
  | none => none
  | some st =>
    match endrange e len with
    | none => none
    | some en => some (st, if sliceClamp && decide (en < st) then st else en)

/-- `string/slice`, `buffer/slice`, `array/slice`, `tuple/slice`, `slice`: elements `[start,end)`. -/
def slice {α : Type} (l : List α) (s e : Option Int) : Option (List α) :=
  match getslice s e l.length with
  | none => none
  | some (a, b) => some ((l.drop a).take (b - a))

/-! ## Substring search (naive reference; the KMP mirror is in Kmp.lean) -/

/-- `pat` occurs in `text` at offset `i`. -/
def matchAt (pat text : Bytes) (i : Nat) : Bool :=
  decide (i + pat.length ≤ text.length) && ((text.drop i).take pat.length == pat)

/-- least `i` in `[start, start+fuel)` with `matchAt pat text i`. -/
def findFromAux (pat text : Bytes) : Nat → Nat → Option Nat
  | _, 0 => none
  | i, fuel + 1 => if matchAt pat text i then some i else findFromAux pat text (i + 1) fuel

/-- first occurrence at an index `≥ start` (`string/find patt str start`), pattern must be non-empty. -/
def findFrom (pat text : Bytes) (start : Nat) : Option Nat :=
  findFromAux pat text start (text.length + 1 - start)

/-- every position in `[i, i+fuel)` at which the pattern occurs, ascending -/
def findAllAux (pat text : Bytes) : Nat → Nat → List Nat
  | _, 0 => []
  | i, fuel + 1 => if matchAt pat text i then i :: findAllAux pat text (i + 1) fuel else findAllAux pat text (i + 1) fuel

/-- `string/find-all`: every occurrence (overlapping ones included — kmp_next continues with
    `j = lookup[patlen-1]`) at an index `≥ start`, ascending. -/
def findAll (pat text : Bytes) (start : Nat) : List Nat :=
  findAllAux pat text start (text.length + 1 - start)

/-- `string/find`: `none` = error (empty pattern); `some none` = nil. -/
def find (pat text : Bytes) (start : Nat) : Option (Option Nat) :=
  if pat = [] then none else some (findFrom pat text start)

/-- `string/replace patt subst str start`: first occurrence at `≥ start` replaced. -/
def replace (pat subst text : Bytes) (start : Nat) : Option Bytes :=
  if pat = [] then none else
  match findFrom pat text start with
  | none => some text
  | some r => some (text.take r ++ subst ++ text.drop (r + pat.length))

/-- body of `string/replace-all`: leftmost non-overlapping occurrences (search resumes *after* a match,
    `kmp_seti(lastindex)`); `last` = how much of `text` has been emitted, `start` = where the search resumes. -/
def replaceAllAux (pat subst text : Bytes) : Nat → Nat → Nat → Bytes
  | 0, last, _ => text.drop last
  | fuel + 1, last, start =>
    match findFrom pat text start with
    | none => text.drop last
    | some r => (text.drop last).take (r - last) ++ subst
                  ++ replaceAllAux pat subst text fuel (r + pat.length) (r + pat.length)

def replaceAll (pat subst text : Bytes) (start : Nat) : Option Bytes :=
  if pat = [] then none else some (replaceAllAux pat subst text (text.length + 1) 0 start)

/-- body of `string/split delim str start limit`: the C loop is
    `while ((result = kmp_next()) >= 0 && --limit)`; `limit` starts at -1 when absent. -/
def splitAux (pat text : Bytes) : Nat → Nat → Nat → Int → List Bytes
  | 0, last, _, _ => [text.drop last]
  | fuel + 1, last, start, limit =>
    match findFrom pat text start with
    | none => [text.drop last]
    | some r =>
      if limit - 1 = 0 then [text.drop last]
      else (text.drop last).take (r - last)
             :: splitAux pat text fuel (r + pat.length) (r + pat.length) (limit - 1)

def split (pat text : Bytes) (start : Nat) (limit : Int) : Option (List Bytes) :=
  if pat = [] then none else some (splitAux pat text (text.length + 1) 0 start limit)

/-- `string/join parts sep`. -/
def join (parts : List Bytes) (sep : Bytes) : Bytes :=
  match parts with
  | [] => []
  | p :: ps => p ++ (ps.foldr (fun q acc => sep ++ q ++ acc) [])

/-! ## trim family (string.c trim_help_*) -/

def inSet (set : Bytes) (x : Nat) : Bool := set.contains x

def defaultTrimSet : Bytes := trimSet   -- " \t\r\n\v\f", from string.c

/-- `string/triml`: drop the longest prefix made of bytes of `set`. -/
def triml (s set : Bytes) : Bytes := s.dropWhile (inSet set)

/-- `string/trimr`. -/
def trimr (s set : Bytes) : Bytes := (s.reverse.dropWhile (inSet set)).reverse

/-- trim_help_leftedge / rightedge as indices. -/
def leftEdge (s set : Bytes) : Nat := (s.takeWhile (inSet set)).length
def rightEdge (s set : Bytes) : Nat := s.length - (s.reverse.takeWhile (inSet set)).length

/-- `string/trim` as implemented: empty when `right_edge < left_edge`, else the slice between the edges. -/
def trim (s set : Bytes) : Bytes :=
  let l := leftEdge s set
  let r := rightEdge s set
  if r < l then [] else (s.drop l).take (r - l)

/-! ## small byte functions -/

def repeatBytes (s : Bytes) (n : Int) : Option Bytes :=
  if n < 0 then none
  else if n * (s.length : Int) > int32Max then none
  else if s = [] then some []       -- (same value as the next line; avoids building 2^31 empty chunks)
  else some ((List.replicate n.toNat s).flatten)

def asciiUpper (s : Bytes) : Bytes := s.map (fun c => if upperFrom ≤ c ∧ c ≤ upperTo then c - upperSub else c)
def asciiLower (s : Bytes) : Bytes := s.map (fun c => if lowerFrom ≤ c ∧ c ≤ lowerTo then c + lowerAdd else c)

def hasPrefix (pfx s : Bytes) : Bool := s.take pfx.length == pfx
def hasSuffix (sfx s : Bytes) : Bool := decide (sfx.length ≤ s.length) && (s.drop (s.length - sfx.length) == sfx)

/-- `string/check-set set str`. -/
def checkSet (set s : Bytes) : Bool := s.all (inSet set)

/-- byte coercion `c & 0xFF` of an int32. -/
def toByte (x : Int) : Nat := (x % 256).toNat

/-! ## buffers (abstract level: contents only; growth / aliasing order is modelled in BufMem.lean) -/

/-- one argument of `buffer/push`: a number (pushed as a byte), an independent byte sequence, or the
    destination buffer itself. -/
inductive PushArg where
  | byte (x : Int)
  | bytes (l : Bytes)
  | self
  deriving Repr

/-- `buffer/push b & xs` (also push-string for the non-byte cases): left to right; `self` appends the
    *current* contents (the view is taken when the argument is reached). -/
def bufferPush (b : Bytes) : List PushArg → Option Bytes
  | [] => some b
  | .byte x :: rest =>
    match getInt32 x with
    | none => none
    | some v => bufferPush (b ++ [toByte v]) rest
  | .bytes l :: rest => bufferPush (b ++ l) rest
  | .self :: rest => bufferPush (b ++ b) rest

/-- like `bufferPush` but also returns the buffer contents at the moment an error is raised
    (arguments before the offending one have been pushed). -/
def bufferPushSt (b : Bytes) : List PushArg → Bool × Bytes
  | [] => (true, b)
  | .byte x :: rest =>
    match getInt32 x with
    | none => (false, b)
    | some v => bufferPushSt (b ++ [toByte v]) rest
  | .bytes l :: rest => bufferPushSt (b ++ l) rest
  | .self :: rest => bufferPushSt (b ++ b) rest

/-- `buffer/push-at b index & xs` as implemented: the count is set to `index`, the items are pushed, then
    the count is restored to the old one if it ended up smaller (the tail bytes are still there).
    A `self` argument therefore pushes the *truncated* buffer. -/
def bufferPushAt (b : Bytes) (index : Int) (xs : List PushArg) : Option Bytes :=
  if index < 0 ∨ index > (b.length : Int) then none else
  match bufferPush (b.take index.toNat) xs with
  | none => none
  | some p => some (p ++ b.drop p.length)

/-- `buffer/blit dest src dest-start src-start src-end`; `src = none` means src is dest itself
    (memmove: the source bytes are the ones before the call). -/
def bufferBlit (dest : Bytes) (src : Option Bytes) (ds ss : Option Int) (se : Option (Option Int)) : Option Bytes :=
  let s := match src with | none => dest | some l => l
  match (match ds with | none => some 0 | some r => halfrange r dest.length) with
  | none => none
  | some od =>
    match (match ss with | none => some 0 | some r => halfrange r s.length) with
    | none => none
    | some os =>
      let len? : Option Nat :=
        match se with
        | none => some (s.length - os)
        | some none => some (s.length - os)
        | some (some r) =>
          match halfrange r s.length with
          | none => none
          | some e => some (e - os)
      match len? with
      | none => none
      | some len =>
        if (od : Int) + len > int32Max then none else
        some (dest.take od ++ (s.drop os).take len ++ dest.drop (od + len))

def bufferPopn (b : Bytes) (n : Int) : Option Bytes :=
  if n < 0 then none else some (b.take (b.length - n.toNat))

def bufferFill (b : Bytes) (byte : Int) : Bytes := b.map (fun _ => toByte byte)

def newFilled (count : Int) (byte : Int) : Bytes := List.replicate (if count < 0 then 0 else count.toNat) (toByte byte)

/-- little-endian bytes of `x` (`n` of them). -/
def leBytes : Nat → Nat → Bytes
  | 0, _ => []
  | n + 1, x => (x % 256) :: leBytes n (x / 256)

/-- `buffer/push-word`: each number must be an integer in `[0, 2^32)`. -/
def pushWord (b : Bytes) : List Int → Option Bytes
  | [] => some b
  | x :: rest => if 0 ≤ x ∧ x < 4294967296 then pushWord (b ++ leBytes 4 x.toNat) rest else none

/-- `buffer/push-uint16/32/64 b order x` (`be = true` for :be). -/
def pushUint (b : Bytes) (nbytes : Nat) (be : Bool) (x : Int) : Option Bytes :=
  if 0 ≤ x ∧ x < (256 : Int) ^ nbytes then
    let bs := leBytes nbytes x.toNat
    some (b ++ (if be then bs.reverse else bs))
  else none

/-- bit location of `buffer/bit*`: error unless `0 ≤ idx` and `idx / 8 < count`. -/
def bitloc (b : Bytes) (idx : Int) : Option (Nat × Nat) :=
  if idx < 0 ∨ idx / 8 ≥ (b.length : Int) then none else some ((idx / 8).toNat, (idx % 8).toNat)

def testBit (x bit : Nat) : Bool := x / 2 ^ bit % 2 == 1

def bitGet (b : Bytes) (idx : Int) : Option Bool :=
  match bitloc b idx with
  | none => none
  | some (i, bit) => some (testBit (b.getD i 0) bit)

def bitSet (b : Bytes) (idx : Int) : Option Bytes :=
  match bitloc b idx with
  | none => none
  | some (i, bit) => let x := b.getD i 0; some (b.set i (if testBit x bit then x else x + 2 ^ bit))

def bitClear (b : Bytes) (idx : Int) : Option Bytes :=
  match bitloc b idx with
  | none => none
  | some (i, bit) => let x := b.getD i 0; some (b.set i (if testBit x bit then x - 2 ^ bit else x))

def bitToggle (b : Bytes) (idx : Int) : Option Bytes :=
  match bitloc b idx with
  | none => none
  | some (i, bit) => let x := b.getD i 0; some (b.set i (if testBit x bit then x - 2 ^ bit else x + 2 ^ bit))

/-! ## arrays (array.c) -/

/-- `array/insert arr at & xs`: `at < 0` means `count + at + 1`. -/
def arrayInsert {α : Type} (a : List α) (at_ : Int) (xs : List α) : Option (List α) :=
  match getInt32 at_ with
  | none => none
  | some raw =>
    let i : Int := if raw < 0 then (a.length : Int) + raw + 1 else raw
    if i < 0 ∨ i > (a.length : Int) then none
    else some (a.take i.toNat ++ xs ++ a.drop i.toNat)

/-- `array/remove arr at n` as documented: remove up to `n` elements starting at `at`
    (`at < 0` means `count + at`; `at = count` is accepted and removes nothing). -/
def arrayRemove {α : Type} (a : List α) (at_ : Int) (n : Int) : Option (List α) :=
  match getInt32 at_, getInt32 n with
  | some raw, some n =>
    let i : Int := if raw < 0 then (a.length : Int) + raw else raw
    if i < 0 ∨ i > (a.length : Int) then none
    else if n < 0 then none
    else some (a.take i.toNat ++ a.drop (i.toNat + n.toNat))
  | _, _ => none

/-- one part of `array/concat`: a plain value, an independent indexed value, or the array itself. -/
inductive ConcatArg (α : Type) where
  | item (x : α)
  | seq (l : List α)
  | self

def arrayConcat {α : Type} (a : List α) : List (ConcatArg α) → List α
  | [] => a
  | .item x :: rest => arrayConcat (a ++ [x]) rest
  | .seq l :: rest => arrayConcat (a ++ l) rest
  | .self :: rest => arrayConcat (a ++ a) rest

def arrayFill {α : Type} (a : List α) (x : α) : List α := a.map (fun _ => x)

/-! ## boot.janet sequence functions -/

/-- `take n ind` on indexed / bytes: first `n`, or last `-n` when `n < 0`. -/
def takeN {α : Type} (n : Int) (l : List α) : List α :=
  if n ≥ 0 then l.take n.toNat else l.drop (l.length - (-n).toNat)

/-- `drop n ind`: drop the first `n`, or the last `-n` when `n < 0`. -/
def dropN {α : Type} (n : Int) (l : List α) : List α :=
  if n ≥ 0 then l.drop n.toNat else l.take (l.length - (-n).toNat)

def takeWhileL {α : Type} (p : α → Bool) (l : List α) : List α := l.takeWhile p
def dropWhileL {α : Type} (p : α → Bool) (l : List α) : List α := l.dropWhile p

/-- `partition n ind` for `n ≥ 1`: consecutive chunks of `n`, the last one possibly shorter. -/
def partitionAux {α : Type} (n : Nat) : Nat → List α → List (List α)
  | 0, _ => []
  | fuel + 1, l => match l with
    | [] => []
    | _ :: _ => l.take n :: partitionAux n fuel (l.drop n)

def partition {α : Type} (n : Nat) (l : List α) : List (List α) := partitionAux n (l.length + 1) l

/-- `interleave & cols` = `mapcat tuple ;cols`: rows up to the shortest column. -/
def interleave {α : Type} : List (List α) → List α
  | [] => []
  | cols =>
    let n := (cols.map List.length).foldl min (cols.head!.length)
    (List.range n).flatMap (fun i => cols.filterMap (fun c => c[i]?))

/-- `interpose sep ind`. -/
def interpose {α : Type} (sep : α) : List α → List α
  | [] => []
  | [x] => [x]
  | x :: y :: rest => x :: sep :: interpose sep (y :: rest)

/-- `range` on integers: `start, start+step, …` strictly before `stop` (after it for negative steps). -/
def rangeI (start stop step : Int) : List Int :=
  if step > 0 then
    if stop ≤ start then [] else (List.range ((stop - start + step - 1) / step).toNat).map (fun (i : Nat) => start + (i : Int) * step)
  else if step < 0 then
    if stop ≥ start then [] else (List.range ((start - stop + (-step) - 1) / (-step)).toNat).map (fun (i : Nat) => start + (i : Int) * step)
  else []

/-- `distinct`: first occurrences, in order. -/
def distinct {α : Type} [BEq α] : List α → List α
  | [] => []
  | x :: xs => x :: (distinct xs).filter (fun y => !(y == x))

/-- `frequencies` as an association list in order of first occurrence. -/
def frequencies {α : Type} [BEq α] (l : List α) : List (α × Nat) :=
  (distinct l).map (fun x => (x, l.count x))

/-- insertion into an association list (later values replace earlier ones, position of first insertion kept). -/
def assocPut {α β : Type} [BEq α] (m : List (α × β)) (k : α) (v : β) : List (α × β) :=
  match m with
  | [] => [(k, v)]
  | (k', v') :: rest => if k' == k then (k, v) :: rest else (k', v') :: assocPut rest k v

/-- `merge & colls`: later collections win. -/
def merge {α β : Type} [BEq α] (colls : List (List (α × β))) : List (α × β) :=
  colls.foldl (fun acc c => c.foldl (fun acc kv => assocPut acc kv.1 kv.2) acc) []

/-- `zipcoll ks vs`: pairs up to the shorter one, later duplicates of a key win. -/
def zipcoll {α β : Type} [BEq α] (ks : List α) (vs : List β) : List (α × β) :=
  (ks.zip vs).foldl (fun acc kv => assocPut acc kv.1 kv.2) []

/-- `extreme order args` (do-extreme): the first element `x` such that no later element is `order`-better
    in the left-to-right scan. -/
def extreme {α : Type} (order : α → α → Bool) : List α → Option α
  | [] => none
  | x :: xs => some (xs.foldl (fun ret y => if order y ret then y else ret) x)

def sumI (l : List Int) : Int := l.foldl (· + ·) 0
def productI (l : List Int) : Int := l.foldl (· * ·) 1

/-- `reduce f init ind`. -/
def reduce {α β : Type} (f : β → α → β) (init : β) (l : List α) : β := l.foldl f init

/-- insertion sort: the *specification* of `sorted` for a strict weak order (any ordered permutation is
    accepted by the oracle; this one is stable). -/
def insertSorted {α : Type} (before : α → α → Bool) (x : α) : List α → List α
  | [] => [x]
  | y :: ys => if before y x || !(before x y) then y :: insertSorted before x ys else x :: y :: ys

def isort {α : Type} (before : α → α → Bool) : List α → List α
  | [] => []
  | x :: xs => insertSorted before x (isort before xs)

/-- no element is strictly before an earlier one. -/
def isSortedBy {α : Type} (before : α → α → Bool) : List α → Bool
  | [] => true
  | x :: xs => xs.all (fun y => !(before y x)) && isSortedBy before xs

end JanetModel.Lib
