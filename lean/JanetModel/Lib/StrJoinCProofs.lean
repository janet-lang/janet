import JanetModel.Lib.StrCProofs
/- C17: `string/join` (string.c cfun_string_join: length pass with the int64 accumulator and the INT32_MAX check, then the
   copy pass with the moving `out` pointer) computes `Spec.join`, and raises exactly when the result would be too long.
   The first part is handled by itself (no separator before it); from the second on every iteration appends `sep ++ part`,
   so both loops are the passes of `CLoop.sizePass_fold` / `CLoop.copyPass_fold`. -/
namespace JanetModel.Lib.StrC
open JanetModel.Lib JanetModel.Lib.CLoop

theorem join_cons (p : Bytes) (ps : List Bytes) (sep : Bytes) : Lib.join (p :: ps) sep = p ++ ps.flatMap (sep ++ ·) := by
  show p ++ _ = _
  congr 1
  induction ps with
  | nil => rfl
  | cons q qs ih => rw [List.foldr_cons, ih, List.flatMap_cons, List.append_assoc]

/-- iterations `i ≥ 1` of the two loops of `cfun_string_join`, as functions of the part read -/
def joinLenStep (sep : Bytes) (finallen : Int) (chunk : Bytes) : R Int := do
  let finallen ← add64 finallen (sep.length : Int)
  let finallen ← add64 finallen (chunk.length : Int)
  if finallen > int32Max then .panic else pure finallen

def joinCopyStep (sep : Bytes) (st : Array Nat × Int) (chunk : Bytes) : R (Array Nat × Int) := do
  let b ← memcpy st.1 st.2 sep.toArray 0 sep.length
  let buf ← memcpy b (st.2 + (sep.length : Int)) chunk.toArray 0 chunk.length
  pure (buf, st.2 + (sep.length : Int) + (chunk.length : Int))

theorem joinLenBody_succ (parts : List Bytes) (sep : Bytes) (j : Nat) (hj : 1 ≤ j) (h : j < parts.length) (s : Int) :
    joinLenBody parts sep j s = joinLenStep sep s parts[j] := by
  unfold joinLenBody
  rw [idx_list_ok _ j h, R.ok_bind, if_pos (Nat.ne_of_gt hj)]
  rfl

theorem joinCopyBody_succ (parts : List Bytes) (sep : Bytes) (j : Nat) (hj : 1 ≤ j) (h : j < parts.length)
    (s : Array Nat × Int) : joinCopyBody parts sep j s = joinCopyStep sep s parts[j] := by
  unfold joinCopyBody
  rw [if_pos (Nat.ne_of_gt hj), idx_list_ok _ j h, joinCopyStep]
  cases memcpy s.1 s.2 sep.toArray 0 sep.length <;> rfl

/-- three int32 lengths add up far below INT64_MAX -/
theorem joinLenStep_eq (sep q : Bytes) (hsep : sep.length ≤ 2147483647) (hq : q.length ≤ 2147483647) (t : Nat)
    (ht : t ≤ 2147483647) :
    joinLenStep sep (t : Int) q
      = if t + (sep ++ q).length ≤ 2147483647 then .ok ((t + (sep ++ q).length : Nat) : Int) else .panic := by
  rw [joinLenStep, add64_nat t sep.length (by omega), R.ok_bind, add64_nat _ q.length (by omega), R.ok_bind,
    panic_of_gt, List.length_append, ← Nat.add_assoc]
  unfold int32Max
  by_cases h : t + sep.length + q.length ≤ 2147483647
  · rw [if_pos h, if_pos (by omega)]
  · rw [if_neg h, if_neg (by omega)]

theorem joinCopyStep_eq (sep A junk q : Bytes) (hq : (sep ++ q).length ≤ junk.length) :
    joinCopyStep sep ((A ++ junk).toArray, (A.length : Int)) q
      = .ok ((A ++ (sep ++ q) ++ junk.drop (sep ++ q).length).toArray, ((A ++ (sep ++ q)).length : Int)) := by
  rw [List.length_append] at hq
  rw [joinCopyStep]
  simp only
  rw [memcpy_cursor_whole A junk sep _ rfl (by omega), R.ok_bind, ← Int.natCast_add, ← List.length_append,
    memcpy_cursor_whole (A ++ sep) _ q _ rfl (by rw [List.length_drop]; omega), R.ok_bind, ← Int.natCast_add,
    ← List.length_append]
  simp only [R.pure_eq, List.append_assoc, List.drop_drop, List.length_append]

/-- `string/join parts sep`: for byte-sequence parts whose lengths fit an int32, the two loops of the C produce exactly
    `Spec.join`, the call raises ("result string too long") iff the joined length exceeds INT32_MAX, the `int64_t`
    accumulator never overflows and no `memcpy` leaves the result buffer. -/
theorem join_eq_spec (parts : List Bytes) (sep : Bytes) (hsep : Len32 sep) (hp : ∀ p ∈ parts, Len32 p) :
    StrC.join parts sep
      = if ((Lib.join parts sep).length : Int) ≤ int32Max then .ok (Lib.join parts sep) else .panic := by
  cases parts with
  | nil => rfl
  | cons p ps =>
    unfold Len32 int32Max at hsep
    have hp0 : p.length ≤ 2147483647 := by have := hp p List.mem_cons_self; unfold Len32 int32Max at this; omega
    have hps : ∀ q ∈ ps, q.length ≤ 2147483647 := fun q hq => by
      have := hp q (List.mem_cons_of_mem _ hq); unfold Len32 int32Max at this; omega
    have hsum : (ps.map fun q => (sep ++ q).length).sum = (ps.flatMap (sep ++ ·)).length := by
      rw [List.flatMap_def, List.length_flatten, List.map_map]; rfl
    have hlen : joinLen (p :: ps) sep
        = if p.length + (ps.flatMap (sep ++ ·)).length ≤ 2147483647
          then .ok ((p.length + (ps.flatMap (sep ++ ·)).length : Nat) : Int) else .panic := by
      -- iteration 0: no separator, and a single part always fits
      have h0 : joinLenBody (p :: ps) sep 0 ((0 : Nat) : Int) = .ok (p.length : Int) := by
        unfold joinLenBody
        rw [idx_list_ok (p :: ps) 0 (Nat.zero_lt_succ _)]
        simp only [ne_eq, not_true_eq_false, if_false, R.ok_bind, R.pure_eq, List.getElem_cons_zero]
        rw [add64_nat 0 p.length (by omega), R.ok_bind, Nat.zero_add, if_neg (by unfold int32Max; omega)]
      rw [joinLen, List.length_cons, show (0 : Int) = ((0 : Nat) : Int) from rfl, forUp_succ_ok h0,
        forUp_list (p :: ps) _ (joinLenStep sep) 1 (joinLenBody_succ (p :: ps) sep) ps 1 _ (Nat.le_refl _) rfl,
        sizePass_fold (fun q => (sep ++ q).length) 2147483647 (joinLenStep sep) ps
          (fun t q hq ht => joinLenStep_eq sep q (by omega) (hps q hq) t ht) p.length hp0, hsum]
    unfold StrC.join
    rw [hlen, join_cons, List.length_append]
    by_cases hb : p.length + (ps.flatMap (sep ++ ·)).length ≤ 2147483647
    · have h0 : joinCopyBody (p :: ps) sep 0 (Array.replicate (p.length + (ps.flatMap (sep ++ ·)).length) 0, 0)
          = .ok ((p ++ List.replicate (ps.flatMap (sep ++ ·)).length 0).toArray, (p.length : Int)) := by
        have := memcpy_cursor_whole [] (List.replicate (p.length + (ps.flatMap (sep ++ ·)).length) 0) p 0 rfl
          (by rw [List.length_replicate]; omega)
        rw [List.nil_append, List.toArray_replicate, Int.natCast_zero, List.nil_append, List.drop_replicate,
          Nat.add_sub_cancel_left] at this
        unfold joinCopyBody
        rw [idx_list_ok (p :: ps) 0 (Nat.zero_lt_succ _)]
        simp only [ne_eq, not_true_eq_false, if_false, R.ok_bind, R.pure_eq, List.getElem_cons_zero, this, Int.zero_add]
      rw [if_pos hb, if_pos (by unfold int32Max; omega), R.ok_bind, Int.toNat_natCast, List.length_cons, forUp_succ_ok h0,
        forUp_list (p :: ps) _ (joinCopyStep sep) 1 (joinCopyBody_succ (p :: ps) sep) ps 1 _ (Nat.le_refl _) rfl,
        copyPass_fold (sep ++ ·) (joinCopyStep sep) (joinCopyStep_eq sep) ps p _
          (by rw [List.length_replicate]; exact Nat.le_refl _)]
      simp only [R.ok_bind, R.pure_eq]
      rw [List.drop_of_length_le (by rw [List.length_replicate]; exact Nat.le_refl _), List.append_nil]
    · rw [if_neg hb, if_neg (by unfold int32Max; omega)]
      rfl

example : StrC.join [[1], [], [2, 3]] [9, 9] = .ok [1, 9, 9, 9, 9, 2, 3] ∧ StrC.join [] [9] = .ok [] := by decide +kernel

end JanetModel.Lib.StrC
