/- C17: sanity laws of the formatter subset (Lib/Format.lean). -/
import JanetModel.Lib.Format
namespace JanetModel.Lib.Format

theorem go_plain (l : Bytes) (h : ∀ c ∈ l, c ≠ 37) (fuel : Nat) (hf : l.length < fuel) (args : List FArg) (out : Bytes) :
    go fuel l args out = .ok (out ++ l) := by
  induction l generalizing fuel out with
  | nil =>
    rw [List.append_nil]
    cases fuel with
    | zero => rfl
    | succ n => rfl
  | cons c rest ih =>
    cases fuel with
    | zero => exact nomatch hf
    | succ n =>
      refine (if_pos (bne_iff_ne.mpr (h c List.mem_cons_self))).trans ?_
      rw [ih (fun x hx => h x (List.mem_cons_of_mem c hx)) n (Nat.lt_of_succ_lt_succ hf), List.append_assoc, List.singleton_append]

/-- a format string without `%` (and without NUL, where the C string ends) is copied verbatim, arguments are ignored -/
theorem format_plain (s : Bytes) (args : List FArg) (h : ∀ c ∈ s, c ≠ 37 ∧ c ≠ 0) : format s args = .ok s := by
  have htw : s.takeWhile (· != 0) = s := by
    simpa using List.takeWhile_append_of_pos (l₂ := []) fun c hc => bne_iff_ne.mpr (h c hc).2
  simp only [format, htw]
  rw [go_plain s (fun c hc => (h c hc).1) _ (Nat.lt_succ_self _), List.nil_append]

theorem padLeft_length {c w : Nat} {b : Bytes} : (padLeft c w b).length = max w b.length := by
  rw [padLeft, List.length_append, List.length_replicate, Nat.sub_add_eq_max]

theorem padRight_length {c w : Nat} {b : Bytes} : (b ++ List.replicate (w - b.length) c).length = max w b.length := by
  rw [List.length_append, List.length_replicate, Nat.add_comm, Nat.sub_add_eq_max]

/-- `%<w>.<p>s`: at most `p` bytes of the argument, padded to at least `w` -/
theorem fmtString_length (f : Flags) (w : Nat) (p : Option Nat) (s : Bytes) :
    (fmtString f w p s).length = max w (match p with | some p => min p s.length | none => s.length) := by
  have padded (t : Bytes) : (fmtString f w none t).length = max w t.length := by
    unfold fmtString
    dsimp only
    split
    · exact padRight_length
    · exact padLeft_length
  cases p with
  | none => exact padded s
  | some p => exact (padded (s.take p)).trans (by rw [List.length_take])

/-- the output of a numeric conversion is never shorter than the field width -/
theorem layout_width (f : Flags) (w : Nat) (p : Option Nat) (pre digs : Bytes) : w ≤ (layout f w p pre digs).length := by
  unfold layout
  simp only
  split
  · rw [padRight_length]; exact Nat.le_max_left _ _
  · split
    · rw [List.length_append, padLeft_length, Nat.add_comm]
      exact Nat.le_add_of_sub_le (Nat.le_max_left _ _)
    · rw [padLeft_length]; exact Nat.le_max_left _ _

theorem fmtSigned_width (f : Flags) (w : Nat) (p : Option Nat) (n : Int) : w ≤ (fmtSigned f w p n).length :=
  layout_width _ _ _ _ _

end JanetModel.Lib.Format
