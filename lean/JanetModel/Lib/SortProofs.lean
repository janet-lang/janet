/- C17: proofs about the mirror of boot.janet `sort-help` (Lib/Sort.lean).
   For EVERY comparator (strict or not) a returning sort yields a permutation of its input (`sort_perm`).
   For a strict weak order (`SWO`) the sort returns within the model's fuel, never indexes outside the array, and its result is
   ordered (`sort_sorted`).  The Hoare partition loop keeps `PInv` (a sentinel on each side stops the scans inside the range),
   with one lemma per action of the loop (`PInv.scanLeft`, `PInv.scanRight`, `PInv.swap_next`, `PInv.swap_exit`, `PInv.exit`);
   `RPerm` is a permutation confined to a range of positions; `sortHelp_spec` is the partition postcondition `PPost`, the two
   recursive calls and `SortedOn.glue`. -/
import JanetModel.Lib.Sort
namespace JanetModel.Lib.Sort
open Array

variable {α : Type} {le before : α → α → Bool} {pivot : α} {lo hi : Nat} {a : Array α}

theorem swapIfInBounds_perm (a : Array α) (i j : Nat) : Array.Perm (a.swapIfInBounds i j) a := by
  rw [Array.swapIfInBounds_def]
  split
  · split
    · exact Array.swap_perm _ _
    · exact .refl _
  · exact .refl _

theorem partitionLoop_perm {fuel left : Nat} {right r' : Int} {a' : Array α} {l' : Nat}
    (h : partitionLoop before pivot fuel a left right = .ok (a', l', r')) :
    Array.Perm a' a := by
  induction fuel generalizing a left right with
  | zero => cases h
  | succ n ih =>
    unfold partitionLoop at h
    split at h
    · cases h
    · cases h
    · split at h
      · cases h
      · cases h
      · split at h
        · split at h
          · dsimp only at h
            split at h
            · cases h
              exact swapIfInBounds_perm _ _ _
            · exact (ih h).trans (swapIfInBounds_perm _ _ _)
          · cases h
        · cases h
          exact .refl _

theorem sortHelp_perm {fuel : Nat} {lo hi : Int} {r : Array α} (h : sortHelp le before fuel a lo hi = .ok r) :
    Array.Perm r a := by
  induction fuel generalizing a lo hi r with
  | zero => cases h
  | succ n ih =>
    rw [sortHelp] at h
    by_cases hlt : lo < hi
    · rw [if_pos hlt] at h
      by_cases hneg : lo < 0
      · rw [if_pos hneg] at h
        cases h
      · rw [if_neg hneg] at h
        split at h
        · dsimp only at h
          split at h
          · cases h
          · cases h
          · rename_i a1 left right hpl
            have hp1 := partitionLoop_perm hpl
            split at h
            · cases h
            · cases h
            · rename_i a2 h2
              have hp2 : Array.Perm a2 a1 := by
                by_cases h1 : lo < right
                · rw [if_pos h1] at h2
                  exact ih h2
                · rw [if_neg h1] at h2
                  cases h2
                  exact .refl _
              by_cases h3 : (left : Int) < hi
              · rw [if_pos h3] at h
                exact (ih h).trans (hp2.trans hp1)
              · rw [if_neg h3] at h
                cases h
                exact hp2.trans hp1
        · cases h
    · rw [if_neg hlt] at h
      cases h
      exact .refl _

theorem sort_perm {α : Type} (le before : α → α → Bool) (a r : Array α) (h : sort le before a = .ok r) :
    Array.Perm r a := sortHelp_perm h

theorem scanLeft_ok {α : Type} (before : α → α → Bool) (a : Array α) (pivot : α) (fuel left k : Nat)
    (h : scanLeft before a pivot fuel left = .ok k) :
    left ≤ k ∧ (∃ x, a[k]? = some x ∧ before x pivot = false) ∧
    ∀ i, left ≤ i → i < k → ∃ x, a[i]? = some x ∧ before x pivot = true := by
  induction fuel generalizing left with
  | zero => simp [scanLeft] at h
  | succ n ih =>
    unfold scanLeft at h
    split at h
    · simp at h
    · rename_i x hx
      by_cases hb : before x pivot = true
      · rw [if_pos hb] at h
        obtain ⟨h1, h2, h3⟩ := ih _ h
        refine ⟨Nat.le_of_succ_le h1, h2, fun i hi1 hi2 => ?_⟩
        by_cases hil : i = left
        · subst hil; exact ⟨x, hx, hb⟩
        · exact h3 i (Nat.lt_of_le_of_ne hi1 (Ne.symm hil)) hi2
      · rw [if_neg hb] at h
        cases h
        exact ⟨Nat.le_refl _, ⟨x, hx, Bool.eq_false_iff.mpr hb⟩, fun i h1 h2 => absurd h2 (Nat.not_lt_of_le h1)⟩

/-- with a sentinel (an element at `s ≥ left` that is not before the pivot) and enough fuel the left scan cannot run off
    the array or out of fuel: it stops at or before the sentinel -/
theorem scanLeft_sentinel {α : Type} (before : α → α → Bool) (a : Array α) (pivot : α) (fuel left s : Nat) (x : α)
    (hs : left ≤ s) (hx : a[s]? = some x) (hnb : before x pivot = false) (hf : s - left < fuel) :
    ∃ k, scanLeft before a pivot fuel left = .ok k ∧ k ≤ s := by
  induction fuel generalizing left with
  | zero => exact absurd hf (Nat.not_lt_zero _)
  | succ n ih =>
    unfold scanLeft
    by_cases hls : left = s
    · subst hls
      rw [hx]
      simp only [hnb, Bool.false_eq_true, if_false]
      exact ⟨left, rfl, Nat.le_refl _⟩
    · have hlt : left < a.size := Nat.lt_of_le_of_lt hs (Array.getElem?_eq_some_iff.mp hx).1
      rw [Array.getElem?_eq_getElem hlt]
      simp only
      by_cases hb : before a[left] pivot = true
      · rw [if_pos hb]
        have hs' : left + 1 ≤ s := Nat.lt_of_le_of_ne hs hls
        exact ih (left + 1) hs' (by omega)
      · rw [if_neg hb]
        exact ⟨left, rfl, hs⟩

theorem scanLeft_spec {α : Type} (before : α → α → Bool) (a : Array α) (pivot : α) (left s : Nat) (x : α)
    (hs : left ≤ s) (hx : a[s]? = some x) (hnb : before x pivot = false) :
    ∃ k, scanLeft before a pivot (a.size + 1) left = .ok k ∧ left ≤ k ∧ k ≤ s ∧
      (∃ y, a[k]? = some y ∧ before y pivot = false) ∧
      ∀ i, left ≤ i → i < k → ∃ y, a[i]? = some y ∧ before y pivot = true := by
  obtain ⟨k, hk, hks⟩ := scanLeft_sentinel before a pivot (a.size + 1) left s x hs hx hnb
    (Nat.lt_succ_of_le (Nat.le_trans (Nat.sub_le _ _) (Nat.le_of_lt (Array.getElem?_eq_some_iff.mp hx).1)))
  obtain ⟨h1, h2, h3⟩ := scanLeft_ok before a pivot _ left k hk
  exact ⟨k, hk, h1, hks, h2, h3⟩

theorem scanRight_spec {t : Nat} {xt : α} (hx : a[t]? = some xt) (hnb : before pivot xt = false) (fuel m : Nat)
    (htm : t ≤ m) (hm : m < a.size) (hf : m - t < fuel) :
    ∃ j : Nat, scanRight before a pivot fuel m = .ok (j : Int) ∧ t ≤ j ∧ j ≤ m ∧ (∃ x, a[j]? = some x ∧ before pivot x = false) ∧
      ∀ k, j < k → k ≤ m → ∃ x, a[k]? = some x ∧ before pivot x = true := by
  induction fuel generalizing m with
  | zero => exact absurd hf (Nat.not_lt_zero _)
  | succ n ih =>
    have ham := Array.getElem?_eq_getElem hm
    rw [scanRight, if_neg (Int.not_lt.mpr (Int.natCast_nonneg m)), Int.toNat_natCast, ham]
    dsimp only
    by_cases hb : before pivot a[m] = true
    · rw [if_pos hb]
      -- the sentinel fails the test, so `m` is not the sentinel and `m - 1` is still a position
      have hne : t ≠ m := fun e => by
        rw [e, ham] at hx
        cases hx
        rw [hnb] at hb
        cases hb
      obtain ⟨m', rfl⟩ : ∃ m', m = m' + 1 := ⟨m - 1, by omega⟩
      have ⟨e, h1, h2, h3⟩ : ((m' + 1 : Nat) : Int) - 1 = m' ∧ t ≤ m' ∧ m' < a.size ∧ m' - t < n := by omega
      rw [e]
      obtain ⟨j, hj, g1, g2, g3, g4⟩ := ih m' h1 h2 h3
      refine ⟨j, hj, g1, Nat.le_succ_of_le g2, g3, fun k hk1 hk2 => ?_⟩
      by_cases hk : k = m' + 1
      · rw [hk]
        exact ⟨_, ham, hb⟩
      · exact g4 k hk1 (Nat.le_of_lt_succ (Nat.lt_of_le_of_ne hk2 hk))
    · rw [if_neg hb]
      exact ⟨m, rfl, htm, Nat.le_refl _, ⟨_, ham, Bool.eq_false_iff.mpr hb⟩, fun k h1 h2 => absurd h2 (Nat.not_le_of_lt h1)⟩

structure SWO {α : Type} (before : α → α → Bool) : Prop where
  irr : ∀ x, before x x = false
  asym : ∀ x y, before x y = true → before y x = false
  negtrans : ∀ x y z, before x y = false → before y z = false → before x z = false

/-- invariant of the `(while true …)` loop of sort-help on the range `[lo, hi]`: `sl` / `sr` are the sentinels that stop the
    left / right scan inside the range; `prog`: both indices have moved, or an element equivalent to the pivot still lies
    between them (what makes `PInv.exit` go through) -/
structure PInv {α : Type} (before : α → α → Bool) (pivot : α) (lo hi : Nat) (a : Array α) (left : Nat) (right : Int) : Prop where
  hlo : lo ≤ left
  hhi : right ≤ hi
  hsz : hi < a.size
  small : ∀ k x, lo ≤ k → k < left → a[k]? = some x → before pivot x = false        -- a[k] ≤ pivot
  large : ∀ (k : Nat) x, right < (k : Int) → k ≤ hi → a[k]? = some x → before x pivot = false  -- a[k] ≥ pivot
  sl : ∃ s x, left ≤ s ∧ s ≤ hi ∧ a[s]? = some x ∧ before x pivot = false
  sr : ∃ (s : Nat) (x : α), lo ≤ s ∧ (s : Int) ≤ right ∧ a[s]? = some x ∧ before pivot x = false
  prog : (lo < left ∧ right < hi) ∨ ∃ (p : Nat) (x : α), left ≤ p ∧ (p : Int) ≤ right ∧ a[p]? = some x ∧ before x pivot = false ∧ before pivot x = false

/-- `r` is `a` with the positions `[lo, hi]` permuted (an injective index map `σ` on the range), nothing else touched -/
structure RPerm {α : Type} (lo hi : Nat) (a r : Array α) : Prop where
  size : r.size = a.size
  frame : ∀ k, k < lo ∨ hi < k → r[k]? = a[k]?
  perm : ∃ σ : Nat → Nat, (∀ k, lo ≤ k → k ≤ hi → lo ≤ σ k ∧ σ k ≤ hi) ∧
          (∀ k k', lo ≤ k → k ≤ hi → lo ≤ k' → k' ≤ hi → σ k = σ k' → k = k') ∧
          (∀ k, lo ≤ k → k ≤ hi → r[k]? = a[σ k]?)

theorem RPerm.refl {α : Type} (lo hi : Nat) (a : Array α) : RPerm lo hi a a :=
  ⟨rfl, fun _ _ => rfl, ⟨id, fun _ h1 h2 => ⟨h1, h2⟩, fun _ _ _ _ _ _ h => h, fun _ _ _ => rfl⟩⟩

theorem RPerm.trans {α : Type} {lo hi : Nat} {a b c : Array α} (h1 : RPerm lo hi a b) (h2 : RPerm lo hi b c) :
    RPerm lo hi a c := by
  obtain ⟨σ, hs1, hs2, hs3⟩ := h1.perm
  obtain ⟨τ, ht1, ht2, ht3⟩ := h2.perm
  refine ⟨by rw [h2.size, h1.size], fun k hk => by rw [h2.frame k hk, h1.frame k hk], ⟨fun k => σ (τ k), ?_, ?_, ?_⟩⟩
  · intro k hk1 hk2
    obtain ⟨a1, a2⟩ := ht1 k hk1 hk2
    exact hs1 _ a1 a2
  · intro k k' hk1 hk2 hk1' hk2' heq
    obtain ⟨a1, a2⟩ := ht1 k hk1 hk2
    obtain ⟨b1, b2⟩ := ht1 k' hk1' hk2'
    exact ht2 k k' hk1 hk2 hk1' hk2' (hs2 _ _ a1 a2 b1 b2 heq)
  · intro k hk1 hk2
    obtain ⟨a1, a2⟩ := ht1 k hk1 hk2
    rw [ht3 k hk1 hk2, hs3 _ a1 a2]

theorem outside_of_not_mem {lo hi k : Nat} (h : ¬(lo ≤ k ∧ k ≤ hi)) : k < lo ∨ hi < k := by
  omega

theorem RPerm.mono {α : Type} {lo hi lo' hi' : Nat} {a r : Array α} (h : RPerm lo' hi' a r) (hl : lo ≤ lo') (hh : hi' ≤ hi) :
    RPerm lo hi a r := by
  obtain ⟨σ, hs1, hs2, hs3⟩ := h.perm
  -- the index map extended by the identity outside `[lo', hi']`
  refine ⟨h.size, fun k hk => h.frame k (hk.imp (fun h => Nat.lt_of_lt_of_le h hl) (fun h => Nat.lt_of_le_of_lt hh h)),
    ⟨fun k => if lo' ≤ k ∧ k ≤ hi' then σ k else k, ?_, ?_, ?_⟩⟩
  · intro k hk1 hk2
    by_cases hin : lo' ≤ k ∧ k ≤ hi'
    · simp only [if_pos hin]
      obtain ⟨a1, a2⟩ := hs1 k hin.1 hin.2
      exact ⟨Nat.le_trans hl a1, Nat.le_trans a2 hh⟩
    · simp only [if_neg hin]
      exact ⟨hk1, hk2⟩
  · intro k k' _ _ _ _ heq
    by_cases hin : lo' ≤ k ∧ k ≤ hi'
    · by_cases hin' : lo' ≤ k' ∧ k' ≤ hi'
      · simp only [if_pos hin, if_pos hin'] at heq
        exact hs2 k k' hin.1 hin.2 hin'.1 hin'.2 heq
      · simp only [if_pos hin, if_neg hin'] at heq
        exact absurd (heq ▸ hs1 k hin.1 hin.2) hin'
    · by_cases hin' : lo' ≤ k' ∧ k' ≤ hi'
      · simp only [if_neg hin, if_pos hin'] at heq
        exact absurd (heq ▸ hs1 k' hin'.1 hin'.2) hin
      · simp only [if_neg hin, if_neg hin'] at heq
        exact heq
  · intro k _ _
    by_cases hin : lo' ≤ k ∧ k ≤ hi'
    · simp only [if_pos hin]
      exact hs3 k hin.1 hin.2
    · simp only [if_neg hin]
      exact h.frame k (outside_of_not_mem hin)

/-- the position that `swapIfInBounds i j` reads position `k` from -/
def swapIdx (i j k : Nat) : Nat := if k = i then j else if k = j then i else k

theorem swapIdx_left (i j : Nat) : swapIdx i j i = j := if_pos rfl

theorem swapIdx_right (i j : Nat) : swapIdx i j j = i := by
  unfold swapIdx
  split
  · next h => exact h
  · exact if_pos rfl

theorem swapIdx_of_ne {i j k : Nat} (hi : k ≠ i) (hj : k ≠ j) : swapIdx i j k = k := by
  rw [swapIdx, if_neg hi, if_neg hj]

theorem swapIdx_swapIdx (i j k : Nat) : swapIdx i j (swapIdx i j k) = k := by
  by_cases hi : k = i
  · rw [hi, swapIdx_left, swapIdx_right]
  · by_cases hj : k = j
    · rw [hj, swapIdx_right, swapIdx_left]
    · rw [swapIdx_of_ne hi hj, swapIdx_of_ne hi hj]

theorem swapIdx_mem {P : Nat → Prop} {i j k : Nat} (hi : P i) (hj : P j) (hk : P k) : P (swapIdx i j k) := by
  unfold swapIdx
  split
  · exact hj
  · split
    · exact hi
    · exact hk

theorem getElem?_swapIfInBounds (a : Array α) {i j : Nat} (k : Nat) (hi : i < a.size) (hj : j < a.size) :
    (a.swapIfInBounds i j)[k]? = a[swapIdx i j k]? := by
  rw [Array.swapIfInBounds_def, dif_pos hi, dif_pos hj, Array.getElem?_swap]
  by_cases h1 : k = i
  · rw [h1, swapIdx_left, Array.getElem?_eq_getElem hj]
    split
    · next h => subst h; rfl
    · exact if_pos rfl
  · by_cases h2 : k = j
    · rw [h2, swapIdx_right, if_pos rfl, Array.getElem?_eq_getElem hi]
    · rw [swapIdx_of_ne h1 h2, if_neg (Ne.symm h2), if_neg (Ne.symm h1)]

theorem ne_of_outside {lo hi i k : Nat} (hk : k < lo ∨ hi < k) (h1 : lo ≤ i) (h2 : i ≤ hi) : k ≠ i := by
  omega

theorem RPerm.swap {α : Type} (lo hi : Nat) (a : Array α) (i j : Nat) (hi1 : lo ≤ i) (hi2 : i ≤ hi) (hj1 : lo ≤ j) (hj2 : j ≤ hi)
    (his : i < a.size) (hjs : j < a.size) : RPerm lo hi a (a.swapIfInBounds i j) := by
  refine ⟨size_swapIfInBounds, fun k hk => ?_, ⟨swapIdx i j, ?_, ?_, ?_⟩⟩
  · rw [getElem?_swapIfInBounds a k his hjs, swapIdx_of_ne (ne_of_outside hk hi1 hi2) (ne_of_outside hk hj1 hj2)]
  · exact fun k hk1 hk2 => swapIdx_mem (P := fun k => lo ≤ k ∧ k ≤ hi) ⟨hi1, hi2⟩ ⟨hj1, hj2⟩ ⟨hk1, hk2⟩
  · -- `swapIdx i j` is its own inverse
    intro k k' _ _ _ _ heq
    rw [← swapIdx_swapIdx i j k, heq, swapIdx_swapIdx]
  · exact fun k _ _ => getElem?_swapIfInBounds a k his hjs

theorem RPerm.transfer {α : Type} {lo' hi' : Nat} {a r : Array α} (h : RPerm lo' hi' a r) (lo hi : Nat) (hl : lo ≤ lo') (hh : hi' ≤ hi)
    (P : α → Prop) (hP : ∀ k x, lo ≤ k → k ≤ hi → a[k]? = some x → P x) :
    ∀ k x, lo ≤ k → k ≤ hi → r[k]? = some x → P x := by
  obtain ⟨σ, hs1, _, hs3⟩ := h.perm
  intro k x hk1 hk2 hx
  by_cases hin : lo' ≤ k ∧ k ≤ hi'
  · rw [hs3 k hin.1 hin.2] at hx
    obtain ⟨a1, a2⟩ := hs1 k hin.1 hin.2
    exact hP _ x (Nat.le_trans hl a1) (Nat.le_trans a2 hh) hx
  · rw [h.frame k (outside_of_not_mem hin)] at hx
    exact hP k x hk1 hk2 hx

/-- what the partition loop establishes -/
structure PPost {α : Type} (before : α → α → Bool) (pivot : α) (lo hi : Nat) (a a' : Array α) (l' : Nat) (r' : Int) : Prop where
  size : a'.size = a.size
  frame : ∀ k, k < lo ∨ hi < k → a'[k]? = a[k]?
  small : ∀ k x, lo ≤ k → k < l' → a'[k]? = some x → before pivot x = false
  large : ∀ (k : Nat) x, r' < (k : Int) → k ≤ hi → a'[k]? = some x → before x pivot = false
  cross : r' ≤ (l' : Int)
  lprog : lo < l'
  rprog : r' < hi
  lbound : l' ≤ hi + 1
  rbound : (lo : Int) - 1 ≤ r'
  rperm : RPerm lo hi a a'

theorem PInv.scanLeft {left : Nat} {right : Int} (hswo : SWO before) (h : PInv before pivot lo hi a left right) :
    ∃ left1 x, scanLeft before a pivot (a.size + 1) left = .ok left1 ∧ left ≤ left1 ∧ a[left1]? = some x ∧
      before x pivot = false ∧ PInv before pivot lo hi a left1 right := by
  obtain ⟨s, xs, hs1, hs2, hs3, hs4⟩ := h.sl
  obtain ⟨left1, hl, hl1, hls, ⟨xl, hxl, hxlb⟩, hl3⟩ := scanLeft_spec before a pivot left s xs hs1 hs3 hs4
  refine ⟨left1, xl, hl, hl1, hxl, hxlb, Nat.le_trans h.hlo hl1, h.hhi, h.hsz, ?_, h.large, ⟨s, xs, hls, hs2, hs3, hs4⟩, h.sr, ?_⟩
  · intro k x h1 h2 h3
    by_cases hk : k < left
    · exact h.small k x h1 hk h3
    · -- the scan skipped `k`
      obtain ⟨y, hy, hyb⟩ := hl3 k (Nat.le_of_not_lt hk) h2
      rw [h3] at hy
      cases hy
      exact hswo.asym _ _ hyb
  · rcases h.prog with ⟨p1, p2⟩ | ⟨p, xp, hp1, hp2, hp3, hp4, hp5⟩
    · exact Or.inl ⟨Nat.lt_of_lt_of_le p1 hl1, p2⟩
    · -- the scan cannot skip `p`
      refine Or.inr ⟨p, xp, Nat.le_of_not_lt fun hlt => ?_, hp2, hp3, hp4, hp5⟩
      obtain ⟨y, hy, hyb⟩ := hl3 p hp1 hlt
      rw [hp3] at hy
      cases hy
      rw [hp4] at hyb
      cases hyb

theorem PInv.scanRight {left : Nat} {right : Int} (hswo : SWO before) (h : PInv before pivot lo hi a left right) :
    ∃ (j : Nat) (x : α), scanRight before a pivot (a.size + 1) right = .ok (j : Int) ∧ (j : Int) ≤ right ∧ a[j]? = some x ∧
      before pivot x = false ∧ PInv before pivot lo hi a left j := by
  obtain ⟨t, xt, ht1, ht2, ht3, ht4⟩ := h.sr
  obtain ⟨m, rfl⟩ : ∃ m : Nat, right = m :=
    ⟨right.toNat, (Int.toNat_of_nonneg (Int.le_trans (Int.natCast_nonneg t) ht2)).symm⟩
  have hm : m < a.size := Nat.lt_of_le_of_lt (Int.ofNat_le.mp h.hhi) h.hsz
  obtain ⟨j, hr, hj1, hj2, ⟨xr, hxr, hxrb⟩, hr3⟩ := scanRight_spec ht3 ht4 (a.size + 1) m (Int.ofNat_le.mp ht2) hm
    (Nat.lt_succ_of_le (Nat.le_trans (Nat.sub_le _ _) (Nat.le_of_lt hm)))
  have hjm := Int.ofNat_le.mpr hj2
  refine ⟨j, xr, hr, hjm, hxr, hxrb, h.hlo, Int.le_trans hjm h.hhi, h.hsz, h.small, ?_, h.sl,
    ⟨t, xt, ht1, Int.ofNat_le.mpr hj1, ht3, ht4⟩, ?_⟩
  · intro k x h1 h2 h3
    by_cases hk : (m : Int) < (k : Int)
    · exact h.large k x hk h2 h3
    · -- the scan skipped `k`
      obtain ⟨y, hy, hyb⟩ := hr3 k (Int.ofNat_lt.mp h1) (Int.ofNat_le.mp (Int.not_lt.mp hk))
      rw [h3] at hy
      cases hy
      exact hswo.asym _ _ hyb
  · rcases h.prog with ⟨p1, p2⟩ | ⟨p, xp, hp1, hp2, hp3, hp4, hp5⟩
    · exact Or.inl ⟨p1, Int.lt_of_le_of_lt hjm p2⟩
    · -- the scan cannot skip `p`
      refine Or.inr ⟨p, xp, hp1, Int.not_lt.mp fun hlt => ?_, hp3, hp4, hp5⟩
      obtain ⟨y, hy, hyb⟩ := hr3 p (Int.ofNat_lt.mp hlt) (Int.ofNat_le.mp hp2)
      rw [hp3] at hy
      cases hy
      rw [hp5] at hyb
      cases hyb

/-- the loop is left without a swap only after an earlier one: a common sentinel forces `left ≤ right` -/
theorem PInv.exit {left : Nat} {right : Int} (h : PInv before pivot lo hi a left right) (hlt : right < (left : Int)) :
    PPost before pivot lo hi a a left right := by
  obtain ⟨s, _, hs1, hs2, _⟩ := h.sl
  obtain ⟨t, _, ht1, ht2, _⟩ := h.sr
  have hp : lo < left ∧ right < hi := by
    rcases h.prog with hp | ⟨p, _, hp1, hp2, _⟩
    · exact hp
    · exact absurd (Int.lt_of_le_of_lt (Int.le_trans (Int.ofNat_le.mpr hp1) hp2) hlt) (Int.lt_irrefl _)
  exact ⟨rfl, fun _ _ => rfl, h.small, h.large, Int.le_of_lt hlt, hp.1, hp.2, Nat.le_succ_of_le (Nat.le_trans hs1 hs2),
    Int.le_trans (Int.sub_le_self _ (by decide)) (Int.le_trans (Int.ofNat_le.mpr ht1) ht2), RPerm.refl lo hi a⟩

section swap
variable {i j : Nat} {xi xj : α} (h : PInv before pivot lo hi a i j) (hij : i ≤ j)
  (hxi : a[i]? = some xi) (hbi : before xi pivot = false) (hxj : a[j]? = some xj) (hbj : before pivot xj = false)
include h hij

theorem PInv.bounds : lo ≤ i ∧ i ≤ hi ∧ lo ≤ j ∧ j ≤ hi ∧ i < a.size ∧ j < a.size := by
  have h1 := h.hlo
  have h2 := h.hhi
  have h3 := h.hsz
  omega

theorem PInv.swap_rperm : RPerm lo hi a (a.swapIfInBounds i j) :=
  have ⟨h1, h2, h3, h4, h5, h6⟩ := h.bounds hij
  RPerm.swap lo hi a i j h1 h2 h3 h4 h5 h6

include hxj hbj in
theorem PInv.swap_small : ∀ k x, lo ≤ k → k < i + 1 → (a.swapIfInBounds i j)[k]? = some x → before pivot x = false := by
  have ⟨_, _, _, _, h5, h6⟩ := h.bounds hij
  intro k x h1 h2 h3
  rw [getElem?_swapIfInBounds a k h5 h6] at h3
  by_cases hk : k = i
  · rw [hk, swapIdx_left, hxj] at h3
    cases h3
    exact hbj
  · have hki : k < i := Nat.lt_of_le_of_ne (Nat.le_of_lt_succ h2) hk
    rw [swapIdx_of_ne hk (Nat.ne_of_lt (Nat.lt_of_lt_of_le hki hij))] at h3
    exact h.small k x h1 hki h3

include hxi hbi in
theorem PInv.swap_large :
    ∀ (k : Nat) x, (j : Int) - 1 < (k : Int) → k ≤ hi → (a.swapIfInBounds i j)[k]? = some x → before x pivot = false := by
  have ⟨_, _, _, _, h5, h6⟩ := h.bounds hij
  intro k x h1 h2 h3
  rw [getElem?_swapIfInBounds a k h5 h6] at h3
  by_cases hk : k = j
  · rw [hk, swapIdx_right, hxi] at h3
    cases h3
    exact hbi
  · have hjk : j < k := Nat.lt_of_le_of_ne (Int.ofNat_le.mp (Int.le_of_sub_one_lt h1)) (Ne.symm hk)
    rw [swapIdx_of_ne (Nat.ne_of_gt (Nat.lt_of_le_of_lt hij hjk)) hk] at h3
    exact h.large k x (Int.ofNat_lt.mpr hjk) h2 h3

include hxi hbi hxj hbj

/-- after the swap the two exchanged elements are the new sentinels -/
theorem PInv.swap_next (hlt : ((i + 1 : Nat) : Int) < (j : Int) - 1) :
    PInv before pivot lo hi (a.swapIfInBounds i j) (i + 1) ((j : Int) - 1) := by
  have ⟨hij', hij''⟩ : i + 1 ≤ j ∧ (i : Int) ≤ (j : Int) - 1 := by omega
  have ⟨h1, _, _, h4, h5, h6⟩ := h.bounds hij
  have hj : (j : Int) - 1 < hi := Int.sub_one_lt_of_le h.hhi
  refine ⟨Nat.le_succ_of_le h1, Int.le_of_lt hj, by rw [size_swapIfInBounds]; exact h.hsz, h.swap_small hij hxj hbj,
    h.swap_large hij hxi hbi, ⟨j, xi, hij', h4, ?_, hbi⟩, ⟨i, xj, h1, hij'', ?_, hbj⟩, Or.inl ⟨Nat.lt_succ_of_le h1, hj⟩⟩
  · rw [getElem?_swapIfInBounds a j h5 h6, swapIdx_right, hxi]
  · rw [getElem?_swapIfInBounds a i h5 h6, swapIdx_left, hxj]

theorem PInv.swap_exit (hge : ((i + 1 : Nat) : Int) ≥ (j : Int) - 1) :
    PPost before pivot lo hi a (a.swapIfInBounds i j) (i + 1) ((j : Int) - 1) := by
  have ⟨h1, h2, h3, _, _, _⟩ := h.bounds hij
  have hp := h.swap_rperm hij
  exact ⟨hp.size, hp.frame, h.swap_small hij hxj hbj, h.swap_large hij hxi hbi, hge, Nat.lt_succ_of_le h1,
    Int.sub_one_lt_of_le h.hhi, Nat.succ_le_succ h2, Int.sub_le_sub_right (Int.ofNat_le.mpr h3) 1, hp⟩

end swap

theorem partitionLoop_spec {α : Type} (before : α → α → Bool) (hswo : SWO before) (pivot : α) (lo hi : Nat)
    (fuel : Nat) (a : Array α) (left : Nat) (right : Int)
    (hinv : PInv before pivot lo hi a left right) (hf : (right - left).toNat + 2 ≤ 2 * fuel) :
    ∃ a' l' r', partitionLoop before pivot fuel a left right = .ok (a', l', r') ∧ PPost before pivot lo hi a a' l' r' := by
  induction fuel generalizing a left right with
  | zero => omega
  | succ n ih =>
    obtain ⟨i, xi, hl, hli, hxi, hbi, hinv1⟩ := hinv.scanLeft hswo
    obtain ⟨j, xj, hr, hjr, hxj, hbj, hinv2⟩ := hinv1.scanRight hswo
    rw [partitionLoop, hl, hr]
    simp only [Int.toNat_natCast]
    by_cases hle : (i : Int) ≤ (j : Int)
    · rw [if_pos hle, hxi, hxj]
      simp only
      have hij : i ≤ j := Int.ofNat_le.mp hle
      by_cases hdone : ((i + 1 : Nat) : Int) ≥ (j : Int) - 1
      · rw [if_pos hdone]
        exact ⟨_, _, _, rfl, hinv2.swap_exit hij hxi hbi hxj hbj hdone⟩
      · rw [if_neg hdone]
        -- both indices moved, so the distance dropped by at least two
        obtain ⟨a', l', r', hres, hpost⟩ := ih _ _ _ (hinv2.swap_next hij hxi hbi hxj hbj (Int.not_le.mp hdone)) (by omega)
        have hp := (hinv2.swap_rperm hij).trans hpost.rperm
        exact ⟨a', l', r', hres, hp.size, hp.frame, hpost.small, hpost.large, hpost.cross, hpost.lprog, hpost.rprog,
          hpost.lbound, hpost.rbound, hp⟩
    · rw [if_neg hle]
      exact ⟨_, _, _, rfl, hinv2.exit (Int.not_le.mp hle)⟩

theorem mid_mem {lo hi : Nat} (h : lo ≤ hi) : lo ≤ (lo + hi) / 2 ∧ (lo + hi) / 2 ≤ hi := by
  omega

theorem fuel_sub {lo hi lo' hi' : Int} {n : Nat} (hf : (hi - lo).toNat + 1 ≤ n + 1) (hlt : lo < hi) (h1 : lo ≤ lo') (h2 : hi' ≤ hi)
    (h3 : lo < lo' ∨ hi' < hi) : (hi' - lo').toNat + 1 ≤ n := by
  omega

theorem medianOfThree_mem (le : α → α → Bool) (x y z : α) :
    medianOfThree le x y z = x ∨ medianOfThree le x y z = y ∨ medianOfThree le x y z = z := by
  unfold medianOfThree
  split <;> split <;> (try split) <;> simp only [true_or, or_true]

theorem partition_step {α : Type} (le before : α → α → Bool) (hswo : SWO before) (a : Array α) (lo hi : Nat)
    (hlt : lo < hi) (hsz : hi < a.size) :
    let pivot := medianOfThree le a[lo] (a[(lo + hi) / 2]'(by omega)) a[hi]
    ∃ a' l' r', partitionLoop before pivot (a.size + 2) a lo hi = .ok (a', l', r') ∧ PPost before pivot lo hi a a' l' r' := by
  intro pivot
  have hmid := mid_mem (Nat.le_of_lt hlt)
  -- the pivot occurs at some position p of [lo, hi]: the sentinel of both scans in the first iteration
  obtain ⟨p, hp1, hp2, hp3⟩ : ∃ p, lo ≤ p ∧ p ≤ hi ∧ a[p]? = some pivot := by
    rcases (medianOfThree_mem le _ _ _ : pivot = _ ∨ pivot = _ ∨ pivot = _) with h | h | h
    · exact ⟨lo, Nat.le_refl _, Nat.le_of_lt hlt, (Array.getElem?_eq_getElem _).trans (congrArg some h.symm)⟩
    · exact ⟨(lo + hi) / 2, hmid.1, hmid.2, (Array.getElem?_eq_getElem _).trans (congrArg some h.symm)⟩
    · exact ⟨hi, Nat.le_of_lt hlt, Nat.le_refl _, (Array.getElem?_eq_getElem _).trans (congrArg some h.symm)⟩
  have hpi : (p : Int) ≤ (hi : Int) := Int.ofNat_le.mpr hp2
  apply partitionLoop_spec before hswo pivot lo hi (a.size + 2) a lo hi
  · exact ⟨Nat.le_refl _, Int.le_refl _, hsz, fun k x h1 h2 => absurd h1 (Nat.not_le_of_lt h2),
      fun k x h1 h2 => absurd (Int.ofNat_le.mpr h2) (Int.not_le.mpr h1),
      ⟨p, pivot, hp1, hp2, hp3, hswo.irr _⟩, ⟨p, pivot, hp1, hpi, hp3, hswo.irr _⟩,
      Or.inr ⟨p, pivot, hp1, hpi, hp3, hswo.irr _, hswo.irr _⟩⟩
  · omega

/-- no element of `[lo, hi]` is strictly before an earlier one -/
def SortedOn {α : Type} (before : α → α → Bool) (r : Array α) (lo hi : Nat) : Prop :=
  ∀ i j x y, lo ≤ i → i < j → j ≤ hi → r[i]? = some x → r[j]? = some y → before y x = false

theorem SortedOn.of_le (before : α → α → Bool) (r : Array α) (h : hi ≤ lo) : SortedOn before r lo hi :=
  fun _ _ _ _ h1 h2 h3 _ _ => absurd (Nat.lt_of_le_of_lt h1 (Nat.lt_of_lt_of_le h2 h3)) (Nat.not_lt_of_le h)

/-- "not after the pivot" below `l` survives sorting `[lo, r]` with `r ≤ l`.  Only `r = l` needs an argument: an element
    that came from position `l` to some `k < l` pushed another one, which is not after the pivot, to position `l`, and the
    range is sorted. -/
theorem RPerm.small_of_sorted (hswo : SWO before) {r l : Nat} {b : Array α}
    (h : RPerm lo r a b) (hs : SortedOn before b lo r) (hrl : r ≤ l)
    (small : ∀ k x, lo ≤ k → k < l → a[k]? = some x → before pivot x = false) :
    ∀ k x, lo ≤ k → k < l → b[k]? = some x → before pivot x = false := by
  obtain ⟨σ, hσ1, hσ2, hσ3⟩ := h.perm
  intro k x hk1 hk2 hx
  by_cases hkr : k ≤ r
  · obtain ⟨b1, b2⟩ := hσ1 k hk1 hkr
    have hx' := hx
    rw [hσ3 k hk1 hkr] at hx'
    by_cases hσk : σ k < l
    · exact small _ x b1 hσk hx'
    · have hlr : l ≤ r := Nat.le_trans (Nat.le_of_not_lt hσk) b2
      have hσr : σ k = r := Nat.le_antisymm b2 (Nat.le_trans hrl (Nat.le_of_not_lt hσk))
      have hkr' : k < r := Nat.lt_of_lt_of_le hk2 hlr
      have hr : r < b.size := by
        rw [h.size, ← hσr]
        exact (Array.getElem?_eq_some_iff.mp hx').1
      obtain ⟨c1, c2⟩ := hσ1 r (Nat.le_trans hk1 hkr) (Nat.le_refl _)
      have hne : σ r ≠ r := fun e => Nat.ne_of_lt hkr' (hσ2 k r hk1 hkr (Nat.le_trans hk1 hkr) (Nat.le_refl _) (hσr.trans e.symm))
      have hbr : b[r]? = some b[r] := Array.getElem?_eq_getElem hr
      have e1 : before pivot b[r] = false := small (σ r) b[r] c1 (Nat.lt_of_lt_of_le (Nat.lt_of_le_of_ne c2 hne) hrl) (by rw [← hσ3 r (Nat.le_trans hk1 hkr) (Nat.le_refl _)]; exact hbr)
      exact hswo.negtrans pivot b[r] x e1 (hs k r x b[r] hk1 hkr' (Nat.le_refl _) hx hbr)
  · rw [h.frame k (Or.inr (Nat.lt_of_not_le hkr))] at hx
    exact small k x hk1 hk2 hx

theorem SortedOn.glue (hswo : SWO before) {r l : Nat} {a1 a2 a3 : Array α}
    (hrl : r ≤ l)
    (small : ∀ k x, lo ≤ k → k < l → a1[k]? = some x → before pivot x = false)
    (large : ∀ k x, r < k → k ≤ hi → a1[k]? = some x → before x pivot = false)
    (P1 : RPerm lo r a1 a2) (S1 : SortedOn before a2 lo r) (P2 : RPerm l hi a2 a3) (S2 : SortedOn before a3 l hi) :
    SortedOn before a3 lo hi := by
  have small2 := P1.small_of_sorted hswo S1 hrl small
  -- in `a2` an element below `l` is not after any later element of the range
  have pre : ∀ i x, lo ≤ i → i < l → a2[i]? = some x → ∀ j y, i < j → j ≤ hi → a2[j]? = some y → before y x = false := by
    intro i x hi1 hil hx j y hij hj hy
    by_cases hjr : j ≤ r
    · exact S1 i j x y hi1 hij hjr hx hy
    · have hjr' := Nat.lt_of_not_le hjr
      rw [P1.frame j (Or.inr hjr')] at hy
      exact hswo.negtrans y pivot x (large j y hjr' hj hy) (small2 i x hi1 hil hx)
  intro i j x y hi1 hij hj hx hy
  by_cases hil : l ≤ i
  · exact S2 i j x y hil hij hj hx hy
  · have hil' := Nat.lt_of_not_le hil
    rw [P2.frame i (Or.inl hil')] at hx
    by_cases hjl : j < l
    · rw [P2.frame j (Or.inl hjl)] at hy
      exact pre i x hi1 hil' hx j y hij hj hy
    · exact P2.transfer l hi (Nat.le_refl _) (Nat.le_refl _) (fun y => before y x = false)
        (fun k y hk1 hk2 hy => pre i x hi1 hil' hx k y (Nat.lt_of_lt_of_le hil' hk1) hk2 hy) j y (Nat.le_of_not_lt hjl) hj hy

theorem sortHelp_spec {α : Type} (le before : α → α → Bool) (hswo : SWO before) (fuel : Nat) (a : Array α) (lo : Nat) (hi : Int)
    (hsz : hi < a.size) (hf : (hi - lo).toNat + 1 ≤ fuel) :
    ∃ r, sortHelp le before fuel a lo hi = .ok r ∧ RPerm lo hi.toNat a r ∧ SortedOn before r lo hi.toNat := by
  induction fuel generalizing a lo hi with
  | zero => omega
  | succ n ih =>
    rw [sortHelp]
    by_cases hlt : (lo : Int) < hi
    · rw [if_pos hlt, if_neg (Int.not_lt.mpr (Int.natCast_nonneg lo))]
      obtain ⟨hiN, rfl⟩ : ∃ m : Nat, hi = m :=
        ⟨hi.toNat, (Int.toNat_of_nonneg (Int.le_trans (Int.natCast_nonneg lo) (Int.le_of_lt hlt))).symm⟩
      have hlt' : lo < hiN := Int.ofNat_lt.mp hlt
      have hsz' : hiN < a.size := Int.ofNat_lt.mp hsz
      have hmid : (lo + hiN) / 2 < a.size := Nat.lt_of_le_of_lt (mid_mem (Nat.le_of_lt hlt')).2 hsz'
      have e2 : ((lo : Int) + (hiN : Int)) / 2 = (((lo + hiN) / 2 : Nat) : Int) := by
        rw [Int.natCast_ediv, Int.natCast_add]
        rfl
      rw [e2]
      simp only [Int.toNat_natCast]
      rw [Array.getElem?_eq_getElem (Nat.lt_trans hlt' hsz'), Array.getElem?_eq_getElem hmid, Array.getElem?_eq_getElem hsz']
      simp only
      obtain ⟨a1, l, r', hpl, hpost⟩ := partition_step le before hswo a lo hiN hlt' hsz'
      rw [hpl]
      simp only
      have hlprog := hpost.lprog
      have hrprog := hpost.rprog
      have hrec : ∀ (a : Array α) (lo : Nat) (hi : Int), hi < a.size → (hi - lo).toNat + 1 ≤ n →
          ∃ r, (if (lo : Int) < hi then sortHelp le before n a lo hi else .ok a) = .ok r ∧
            RPerm lo hi.toNat a r ∧ SortedOn before r lo hi.toNat := by
        intro a lo hi h1 h2
        by_cases h : (lo : Int) < hi
        · rw [if_pos h]
          exact ih a lo hi h1 h2
        · rw [if_neg h]
          exact ⟨a, rfl, RPerm.refl _ _ _, SortedOn.of_le _ _ (Int.toNat_le.mpr (Int.not_lt.mp h))⟩
      obtain ⟨a2, g1, P1, S1⟩ := hrec a1 lo r' (by rw [hpost.size]; exact Int.lt_trans hrprog hsz)
        (fuel_sub hf hlt (Int.le_refl _) (Int.le_of_lt hrprog) (Or.inr hrprog))
      rw [g1]
      simp only
      obtain ⟨a3, g2, P2, S2⟩ := hrec a2 l hiN (by rw [P1.size, hpost.size]; exact hsz)
        (fuel_sub hf hlt (Int.le_of_lt (Int.ofNat_lt.mpr hlprog)) (Int.le_refl _) (Or.inl (Int.ofNat_lt.mpr hlprog)))
      rw [g2]
      rw [Int.toNat_natCast] at P2 S2
      have hrl : r'.toNat ≤ l := Int.toNat_le.mpr hpost.cross
      have hrh : r'.toNat ≤ hiN := Int.toNat_le.mpr (Int.le_of_lt hrprog)
      exact ⟨a3, rfl,
        hpost.rperm.trans ((P1.mono (Nat.le_refl _) hrh).trans (P2.mono (Nat.le_of_lt hlprog) (Nat.le_refl _))),
        SortedOn.glue hswo hrl hpost.small
          (fun k x h1 => hpost.large k x (Int.lt_of_le_of_lt (Int.self_le_toNat r') (Int.ofNat_lt.mpr h1))) P1 S1 P2 S2⟩
    · rw [if_neg hlt]
      exact ⟨a, rfl, RPerm.refl _ _ _, SortedOn.of_le _ _ (Int.toNat_le.mpr (Int.not_lt.mp hlt))⟩

/-- for every strict weak order `before?` (and whatever `<=` is used to pick the median) `sort`
    returns — within the model's fuel `length + 1`, never indexing outside the array — an ordered permutation of its input. -/
theorem sort_sorted {α : Type} (le before : α → α → Bool) (hswo : SWO before) (a : Array α) :
    ∃ r, sort le before a = .ok r ∧ Array.Perm r a ∧ r.size = a.size ∧
      ∀ i j (hij : i < j) (hj : j < r.size), before r[j] (r[i]'(by omega)) = false := by
  obtain ⟨r, h1, h2, h3⟩ := sortHelp_spec le before hswo (a.size + 1) a 0 ((a.size : Int) - 1) (by omega) (by omega)
  have h1' : sort le before a = .ok r := h1
  have hp := sort_perm le before a r h1'
  refine ⟨r, h1', hp, h2.size, fun i j hij hj => ?_⟩
  have hsz := h2.size
  exact h3 i j _ _ (Nat.zero_le _) hij (by omega) (Array.getElem?_eq_getElem _) (Array.getElem?_eq_getElem hj)

end JanetModel.Lib.Sort
