/- C17: proofs about the memory-level buffer model (self-aliasing safety). -/
import JanetModel.Lib.BufMem
import JanetModel.Util.List
namespace JanetModel.Lib.BufMem
open JanetModel.Util (take_drop_append_left length_take_drop)

theorem allSome_map_some (l : List Nat) : allSome (l.map some) = some l := by
  induction l with
  | nil => rfl
  | cons x xs ih => simp only [List.map_cons, allSome, ih]

theorem allSome_eq_some {l : List (Option Nat)} {bs : List Nat} (h : allSome l = some bs) : l = bs.map some := by
  induction l generalizing bs with
  | nil => simp [allSome] at h; subst h; rfl
  | cons x xs ih =>
    cases x with
    | none => simp [allSome] at h
    | some v =>
      simp only [allSome] at h
      cases hx : allSome xs with
      | none => rw [hx] at h; simp at h
      | some l =>
        rw [hx] at h
        simp at h
        subst h
        simp [ih hx]

/-- well-formed buffer with visible contents `bs`: the block begins with these bytes, all of them determinate -/
def Holds (b : Buf) (bs : List Nat) : Prop :=
  b.count = bs.length ∧ ∃ rest, b.data = bs.map some ++ rest

theorem contents_of_holds {b : Buf} {bs : List Nat} (h : Holds b bs) : contents b = some bs := by
  obtain ⟨h1, rest, h2⟩ := h
  have hl : (bs.map some).length = b.count := by rw [List.length_map, h1]
  unfold contents
  rw [h2, if_pos (by rw [List.length_append, hl]; exact Nat.le_add_right _ _), List.take_left' hl, allSome_map_some]

theorem holds_of_contents {b : Buf} {bs : List Nat} (h : contents b = some bs) : Holds b bs := by
  unfold contents at h
  by_cases hc : b.count ≤ b.data.length
  · rw [if_pos hc] at h
    have ht := allSome_eq_some h
    refine ⟨?_, b.data.drop b.count, by rw [← ht, List.take_append_drop]⟩
    have hl := congrArg List.length ht
    rw [List.length_take, List.length_map, Nat.min_eq_left hc] at hl
    exact hl
  · rw [if_neg hc] at h; cases h

theorem realloc_holds {b : Buf} {bs : List Nat} (h : Holds b bs) (cap : Nat) :
    Holds (realloc b cap) bs ∧ cap ≤ (realloc b cap).data.length ∧ (realloc b cap).count = b.count := by
  obtain ⟨h1, rest, h2⟩ := h
  refine ⟨⟨h1, rest ++ List.replicate (cap - b.data.length) none, ?_⟩, ?_, rfl⟩
  · simp only [realloc, h2, List.append_assoc]
  · simp only [realloc, List.length_append, List.length_replicate]; omega

theorem ensure_holds {b : Buf} {bs : List Nat} (h : Holds b bs) (capacity growth : Nat) (hg : 1 ≤ growth) :
    Holds (ensure b capacity growth) bs ∧ capacity ≤ (ensure b capacity growth).data.length ∧
      (ensure b capacity growth).count = b.count := by
  unfold ensure
  by_cases hc : capacity ≤ b.data.length
  · rw [if_pos hc]; exact ⟨h, hc, rfl⟩
  · rw [if_neg hc]
    obtain ⟨r1, r2, r3⟩ := realloc_holds h (capacity * growth)
    exact ⟨r1, Nat.le_trans (Nat.le_mul_of_pos_right _ hg) r2, r3⟩

theorem extra_holds {b : Buf} {bs : List Nat} (h : Holds b bs) (n : Nat) :
    Holds (extra b n) bs ∧ b.count + n ≤ (extra b n).data.length ∧ (extra b n).count = b.count := by
  unfold extra
  by_cases hc : b.count + n > b.data.length
  · rw [if_pos hc]
    obtain ⟨r1, r2, r3⟩ := realloc_holds h ((b.count + n) * 2)
    exact ⟨r1, Nat.le_trans (Nat.le_mul_of_pos_right _ (by decide)) r2, r3⟩
  · rw [if_neg hc]; exact ⟨h, Nat.le_of_not_gt hc, rfl⟩

theorem readSrc_self {b : Buf} {bs : List Nat} {rest : List (Option Nat)} (hd : b.data = bs.map some ++ rest)
    (os len : Nat) (hs : os + len ≤ bs.length) :
    readSrc b (Src.dataAt b.gen) os len = some ((bs.drop os).take len) := by
  have hl : os + len ≤ (bs.map some).length := by rw [List.length_map]; exact hs
  simp only [readSrc]
  rw [if_neg (fun h => h rfl), if_pos (by rw [hd, List.length_append]; exact Nat.le_trans hl (Nat.le_add_right _ _)), hd,
    take_drop_append_left _ _ os len hl, ← List.map_drop, ← List.map_take, allSome_map_some]

theorem writeAt_visible (bs X : List Nat) (rest : List (Option Nat)) (od : Nat) (hod : od ≤ bs.length) :
    ∃ rest', writeAt (bs.map some ++ rest) od X = (bs.take od ++ X ++ bs.drop (od + X.length)).map some ++ rest' := by
  refine ⟨rest.drop (od + X.length - (bs.map some).length), ?_⟩
  unfold writeAt
  rw [List.take_append_of_le_length (by rw [List.length_map]; exact hod), List.drop_append]
  simp only [List.map_append, List.map_take, List.map_drop, List.append_assoc]

/-- core step: a buffer whose block has room for `2 * count` pushes its own visible bytes after themselves -/
theorem pushBytes_self {b : Buf} {bs : List Nat} (h : Holds b bs) (hroom : b.count + b.count ≤ b.data.length) :
    ∃ b', pushBytes b (Src.dataAt b.gen) b.count = some b' ∧ Holds b' (bs ++ bs) := by
  obtain ⟨h1, rest, h2⟩ := h
  unfold pushBytes
  by_cases hz : b.count = 0
  · rw [if_pos hz]
    have : bs = [] := List.eq_nil_of_length_eq_zero (by rw [← h1, hz])
    subst this
    exact ⟨b, rfl, h1, rest, h2⟩
  · rw [if_neg hz]
    have hex : extra b b.count = b := by
      unfold extra
      rw [if_neg (Nat.not_lt.mpr hroom)]
    simp only [hex]
    have hread := readSrc_self h2 0 b.count (by rw [h1, Nat.zero_add]; exact Nat.le_refl _)
    rw [h1, List.drop_zero, List.take_length] at hread
    rw [h1, hread]
    simp only [Nat.le_refl, decide_true, if_true]
    obtain ⟨rest', hw⟩ := writeAt_visible bs bs rest bs.length (Nat.le_refl _)
    rw [List.take_length, List.drop_of_length_le (Nat.le_add_right _ _), List.append_nil] at hw
    exact ⟨_, rfl, by rw [List.length_append], rest', by rw [h2]; exact hw⟩

/-- `(buffer/push b b)`: with the guard of buffer.c — grown by `janet_buffer_extra(buffer, view.len)` or by
    `janet_buffer_ensure(buffer, count + view.len, 2)` — the result is defined and is `bs ++ bs` (the bytes read are the ones
    the buffer had before it grew). -/
theorem pushSelf_guard_safe_any (viaExtra : Bool) {b : Buf} {bs : List Nat} (h : Holds b bs) :
    ∃ b', pushSelf true b viaExtra = some b' ∧ Holds b' (bs ++ bs) := by
  unfold pushSelf
  simp only [if_true]
  obtain ⟨he, hcap, hc⟩ : Holds (if viaExtra then extra b b.count else ensure b (b.count + b.count) 2) bs ∧
      b.count + b.count ≤ (if viaExtra then extra b b.count else ensure b (b.count + b.count) 2).data.length ∧
      (if viaExtra then extra b b.count else ensure b (b.count + b.count) 2).count = b.count := by
    cases viaExtra with
    | true => exact extra_holds h b.count
    | false => exact ensure_holds h (b.count + b.count) 2 (by decide)
  have := pushBytes_self he (by rw [hc]; exact hcap)
  rw [hc] at this
  exact this

/-- blit of a buffer into itself with the memmove branch: defined, and equal to the list-level definition computed from
    the contents *before* the call. -/
theorem blitSelf_guard_safe {b : Buf} {bs : List Nat} (h : Holds b bs) (od os len : Nat)
    (hod : od ≤ bs.length) (hsrc : os + len ≤ bs.length) :
    ∃ b', blitSelf true b od os len = some b' ∧
      Holds b' (bs.take od ++ (bs.drop os).take len ++ bs.drop (od + len)) := by
  obtain ⟨⟨e1, rest, e2⟩, -, hc⟩ := ensure_holds h (od + len) 2 (by decide)
  unfold blitSelf
  simp only [if_true]
  generalize ensure b (od + len) 2 = b1 at *
  have hX := length_take_drop bs os len hsrc
  have hcount : (if od + len > b1.count then od + len else b1.count)
      = (bs.take od ++ (bs.drop os).take len ++ bs.drop (od + len)).length := by
    simp only [List.length_append, hX, List.length_take, List.length_drop, e1]
    split <;> omega
  by_cases hz : len = 0
  · subst hz
    rw [if_pos rfl]
    refine ⟨_, rfl, hcount, rest, ?_⟩
    rw [e2, List.take_zero, List.append_nil, Nat.add_zero, List.take_append_drop]
  · have hread : readSrc ⟨b1.data, if od + len > b1.count then od + len else b1.count, b1.gen⟩ (Src.dataAt b1.gen) os len
        = some ((bs.drop os).take len) := readSrc_self e2 os len hsrc
    rw [if_neg hz, hread]
    obtain ⟨rest', hw⟩ := writeAt_visible bs ((bs.drop os).take len) rest od hod
    rw [hX] at hw
    exact ⟨_, rfl, hcount, rest', by rw [e2]; exact hw⟩

end JanetModel.Lib.BufMem
