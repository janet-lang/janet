/- C17: `range` — element count formula, membership, and never-abort. -/
import JanetModel.Lib.Range
namespace JanetModel.Lib.Range
open JanetModel.Lib JanetModel.Gen.Lib

theorem ceilDiv_pos_spec (x y : Int) (hy : 0 < y) : ceilDiv x y * y - y < x ∧ x ≤ ceilDiv x y * y := by
  unfold ceilDiv
  rw [if_pos hy]
  have h1 := Int.ediv_mul_le (x + y - 1) (Int.ne_of_gt hy)
  have h2 := Int.lt_ediv_add_one_mul_self (x + y - 1) hy
  rw [Int.add_mul, Int.one_mul] at h2
  omega

theorem ceilDiv_neg (x y : Int) (hy : y < 0) : ceilDiv x y = ceilDiv (-x) (-y) := by
  unfold ceilDiv
  rw [if_neg (Int.lt_asymm hy), if_pos (Int.neg_pos_of_neg hy)]

/-- in exact arithmetic the correcting loop never has anything to correct -/
theorem bump_id (start stop step : Int) (fuel : Nat) (c : Int)
    (h : ¬ ((step > 0 ∧ start + c * step < stop) ∨ (step < 0 ∧ start + c * step > stop))) : bump start stop step fuel c = c := by
  cases fuel with
  | zero => rfl
  | succ n => rw [bump, if_neg h]

/-- `n` steps reach the distance `x` (this is the C's assertion), fewer do not; a negative step is the same fact about `-x`, `-step` -/
theorem covers (x step : Int) (hs : 0 < step) (n : Nat) (hn : (n : Int) = if ceilDiv x step > 0 then ceilDiv x step else 0) :
    x ≤ (n : Int) * step ∧ ∀ i : Nat, i < n → 0 ≤ (i : Int) * step ∧ (i : Int) * step < x := by
  obtain ⟨h1, h2⟩ := ceilDiv_pos_spec x step hs
  have hs' := Int.le_of_lt hs
  by_cases hc : ceilDiv x step > 0
  · rw [if_pos hc] at hn
    rw [← hn] at h1 h2
    refine ⟨h2, fun i hi => ⟨Int.mul_nonneg (Int.natCast_nonneg i) hs', Int.lt_of_le_of_lt ?_ h1⟩⟩
    have h3 := Int.mul_le_mul_of_nonneg_right (Int.le_sub_one_of_lt (Int.ofNat_lt.mpr hi)) hs'
    rw [Int.sub_mul, Int.one_mul] at h3
    exact h3
  · rw [if_neg hc] at hn
    rw [Int.natCast_eq_zero.mp hn]
    refine ⟨?_, fun i hi => absurd hi (Nat.not_lt_zero i)⟩
    rw [Int.natCast_zero, Int.zero_mul]
    exact Int.le_trans h2 (Int.mul_nonpos_of_nonpos_of_nonneg (Int.not_lt.mp hc) hs')

theorem rangeC_eq (start stop step : Int) :
    ∃ n : Nat, rangeC start stop step = some ((List.range n).map fun (i : Nat) => start + (i : Int) * step) ∧
      (n : Int) = if step = 0 then 0 else if ceilDiv (stop - start) step > 0 then ceilDiv (stop - start) step else 0 := by
  have hnn : 0 ≤ (if ceilDiv (stop - start) step > 0 then ceilDiv (stop - start) step else 0) := by
    split
    · exact Int.le_of_lt ‹_›
    · exact Int.le_refl 0
  obtain ⟨n, hn⟩ := Int.eq_ofNat_of_zero_le hnn
  unfold rangeC
  simp only [rangePostAssert, rangeBump, if_true, Bool.false_eq_true, if_false]
  rcases Int.lt_trichotomy step 0 with hs | hs | hs
  · have hc := (covers (-(stop - start)) (-step) (Int.neg_pos_of_neg hs) n (by rw [← ceilDiv_neg _ _ hs, hn])).1
    rw [Int.mul_neg] at hc
    simp only [if_neg (Int.lt_asymm hs), if_pos hs, hn]
    rw [bump_id _ _ _ _ _ (by omega), Int.toNat_natCast]
    exact ⟨n, rfl, by rw [if_neg (Int.ne_of_lt hs)]⟩
  · subst hs
    simp only [if_neg (Int.lt_irrefl 0)]
    rw [bump_id _ _ _ _ _ (by omega)]
    exact ⟨0, rfl, rfl⟩
  · have hc := (covers (stop - start) step hs n hn.symm).1
    simp only [if_pos hs, hn]
    rw [bump_id _ _ _ _ _ (by omega), Int.toNat_natCast]
    exact ⟨n, rfl, by rw [if_neg (Int.ne_of_gt hs)]⟩

/-- never-abort + count formula + membership for `rangeC` with the correcting loops and without the assertion (the two
    Gen facts `rangePostAssert = false`, `rangeBump = true`); with the assertion the call can abort, see `rangeCOld_aborts`. -/
theorem rangeC_spec (start stop step : Int) :
    ∃ l, rangeC start stop step = some l ∧
      (step > 0 → (l.length : Int) = (if ceilDiv (stop - start) step > 0 then ceilDiv (stop - start) step else 0)) ∧
      (step < 0 → (l.length : Int) = (if ceilDiv (stop - start) step > 0 then ceilDiv (stop - start) step else 0)) ∧
      (step = 0 → l = []) ∧
      (∀ i (h : i < l.length), l[i] = start + (i : Int) * step) ∧
      (step > 0 → (∀ x ∈ l, start ≤ x ∧ x < stop) ∧ start + (l.length : Int) * step ≥ stop) ∧
      (step < 0 → (∀ x ∈ l, stop < x ∧ x ≤ start) ∧ start + (l.length : Int) * step ≤ stop) := by
  obtain ⟨n, hr, hn⟩ := rangeC_eq start stop step
  refine ⟨_, hr, ?_⟩
  simp only [List.length_map, List.length_range, List.getElem_map, List.getElem_range, List.mem_map, List.mem_range]
  refine ⟨fun hs => by rw [hn, if_neg (Int.ne_of_gt hs)], fun hs => by rw [hn, if_neg (Int.ne_of_lt hs)], fun hs => ?_,
    fun i h => trivial, fun hs => ?_, fun hs => ?_⟩
  · rw [if_pos hs] at hn
    rw [Int.natCast_eq_zero.mp hn]
    rfl
  · rw [if_neg (Int.ne_of_gt hs)] at hn
    obtain ⟨hend, hel⟩ := covers (stop - start) step hs n hn
    refine ⟨?_, by omega⟩
    rintro x ⟨i, hi, rfl⟩
    have := hel i hi
    omega
  · rw [if_neg (Int.ne_of_lt hs), ceilDiv_neg _ _ hs] at hn
    obtain ⟨hend, hel⟩ := covers (-(stop - start)) (-step) (Int.neg_pos_of_neg hs) n hn
    rw [Int.mul_neg] at hend
    refine ⟨?_, by omega⟩
    rintro x ⟨i, hi, rfl⟩
    have := hel i hi
    rw [Int.mul_neg] at this
    omega

/-- with the assertion and without the correcting loops, in exact arithmetic: a zero step with `start > stop` trips the assertion -/
theorem rangeCOld_aborts : rangeCOld 1 0 0 = none := by decide +kernel

end JanetModel.Lib.Range
