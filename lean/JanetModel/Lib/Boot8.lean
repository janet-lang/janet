import JanetModel.Lib.Sort
import JanetModel.Lib.ArrC
/- C17: the boot.janet wrappers around `sort` (mirror: Lib/Sort.lean).  Core Lean only.

     (defn sort-by [f ind] (sort ind (fn :sort-by-comp [x y] (< (f x) (f y)))))
     (defn sorted [ind &opt before?] (sort (array/slice ind) before?))
     (defn sorted-by [f ind] (sorted ind (fn :sorted-by-comp [x y] (< (f x) (f y)))))

   `lt` is janet's polymorphic `<` on the keys; `(array/slice ind)` is the mirror `ArrC.slice` of cfun_array_slice with
   both range arguments absent (a fresh array: the argument of `sorted` is not modified). -/
namespace JanetModel.Lib.Boot
open JanetModel.Lib

/-- the comparator `(fn [x y] (< (f x) (f y)))` -/
def byKey {α κ : Type} (lt : κ → κ → Bool) (f : α → κ) : α → α → Bool := fun x y => lt (f x) (f y)

def sortBy {α κ : Type} (le : α → α → Bool) (lt : κ → κ → Bool) (f : α → κ) (a : Array α) : Sort.Res (Array α) :=
  Sort.sort le (byKey lt f) a

def sorted {α : Type} [Inhabited α] (le before : α → α → Bool) (ind : List α) : Sort.Res (Array α) :=
  match ArrC.slice ind none none with                 -- (array/slice ind)
  | .ok copy => Sort.sort le before copy.toArray
  | _ => .err

def sortedBy {α κ : Type} [Inhabited α] (le : α → α → Bool) (lt : κ → κ → Bool) (f : α → κ) (ind : List α) :
    Sort.Res (Array α) :=
  sorted le (byKey lt f) ind

end JanetModel.Lib.Boot
