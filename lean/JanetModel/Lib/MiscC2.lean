import JanetModel.Lib.BufPushC
import JanetModel.Lib.ArrC
/- C17: mirrors of further buffer.c / array.c cfuns of the property: `janet_buffer_push_u32`,
   `buffer/push-word`, `reverse_u32` / `reverse_u64`, `should_reverse_bytes`, `buffer/push-uint16|32|64`,
   `buffer/new-filled`, `array/new-filled`, `array/push`, `janet_array_pop` / `array/pop`, `janet_array_peek` / `array/peek`.
   Core Lean only.  Theorems in Lib/MiscC2Proofs.lean.

   Assumption stated once: the target is little-endian (`JANET_LITTLE_ENDIAN`, as on the machine the check runs on), so
   `memcpy(bytes, &data, sizeof(data))` yields the little-endian bytes of `data` and `should_reverse_bytes` answers 1 for `:be`. -/
namespace JanetModel.Lib.BufPush
open JanetModel.Lib JanetModel.Lib.CLoop

/-- consecutive stores `data[p] = v0; data[p + 1] = v1; …` -/
def writeCells (data : Array Nat) (p : Nat) : List Nat → R (Array Nat)
  | [] => .ok data
  | v :: vs => do
    let data ← setIdx data (p : Int) v
    writeCells data (p + 1) vs

/-- `janet_buffer_push_u32`:
      `janet_buffer_extra(buffer, 4);
       buffer->data[buffer->count] = x & 0xFF;            buffer->data[buffer->count + 1] = (x >> 8) & 0xFF;
       buffer->data[buffer->count + 2] = (x >> 16) & 0xFF; buffer->data[buffer->count + 3] = (x >> 24) & 0xFF;
       buffer->count += 4;` -/
def pushU32 (b : Buf) (x : Nat) : R Buf := do
  let b ← extra b 4
  let data ← writeCells b.data b.count [x &&& 0xFF, (x >>> 8) &&& 0xFF, (x >>> 16) &&& 0xFF, (x >>> 24) &&& 0xFF]
  pure { data := data, count := b.count + 4 }

/-- one argument of `cfun_buffer_word`:
      `double number = janet_getnumber(argv, i);  uint32_t word = (uint32_t) number;
       if (word != number) janet_panicf("cannot convert %v to machine word", argv[i]);
       janet_buffer_push_u32(buffer, word);`
    `number` is an integral double here.  For a value outside `[0, 2^32)` the cast is not defined by ISO C; every
    supported compiler produces some `uint32_t`, which then differs from `number`, so the call raises — this branch is
    compared with the implementation by correspondence, not derived. -/
def pushWordArg (b : Buf) (number : Int) : R Buf :=
  if 0 ≤ number ∧ number < 4294967296 then pushU32 b number.toNat else .panic

/-- `for (i = 1; i < argc; i++) …`: the buffer as it is when the function returns or raises -/
def pushWord : Buf → List Int → Buf × R Unit
  | b, [] => (b, .ok ())
  | b, x :: rest =>
    match pushWordArg b x with
    | .ok b' => pushWord b' rest
    | .panic => (b, .panic)
    | .ub => (b, .ub)

/-- `reverse_u32`: `temp = bytes[3]; bytes[3] = bytes[0]; bytes[0] = temp; temp = bytes[2]; bytes[2] = bytes[1]; bytes[1] = temp;` -/
def swapCells (bytes : Array Nat) (i j : Nat) : R (Array Nat) := do
  let temp ← idx bytes (i : Int)          -- temp = bytes[i];
  let v ← idx bytes (j : Int)
  let bytes ← setIdx bytes (i : Int) v    -- bytes[i] = bytes[j];
  setIdx bytes (j : Int) temp             -- bytes[j] = temp;

def reverseU16 (bytes : Array Nat) : R (Array Nat) := swapCells bytes 1 0
def reverseU32 (bytes : Array Nat) : R (Array Nat) := do
  let bytes ← swapCells bytes 3 0
  swapCells bytes 2 1
def reverseU64 (bytes : Array Nat) : R (Array Nat) := do
  let bytes ← swapCells bytes 7 0
  let bytes ← swapCells bytes 6 1
  let bytes ← swapCells bytes 5 2
  swapCells bytes 4 3

/-- `should_reverse_bytes` on a little-endian target: `:le` → 0, `:be` → 1, `:native` → 0, anything else raises -/
def shouldReverse (order : Bytes) : R Bool :=
  if order = [108, 101] then .ok false
  else if order = [98, 101] then .ok true
  else if order = [110, 97, 116, 105, 118, 101] then .ok false
  else .panic

/-- `cfun_buffer_push_uint16|32|64` (`nbytes` = `sizeof(data)`):
      `int reverse = should_reverse_bytes(argv, 1);  uintN_t data = janet_getuintegerN(argv, 2);
       uint8_t bytes[sizeof(data)];  memcpy(bytes, &data, sizeof(bytes));
       if (reverse) reverse_uN(bytes);
       janet_buffer_push_bytes(buffer, bytes, sizeof(bytes));`
    `janet_getuintegerN` raises unless `0 ≤ data < 2^(8·nbytes)` (uint64: doubles only up to 2^53, decoded by the driver). -/
def pushUintC (b : Buf) (nbytes : Nat) (order : Bytes) (data : Int) : R Buf := do
  let reverse ← shouldReverse order
  if ¬ (0 ≤ data ∧ data < (256 : Int) ^ nbytes) then .panic else
  let bytes := (leBytes nbytes data.toNat).toArray                    -- memcpy(bytes, &data, sizeof(bytes))
  let bytes ← (if reverse then
      (if nbytes = 2 then reverseU16 bytes else if nbytes = 4 then reverseU32 bytes else reverseU64 bytes)
    else .ok bytes)
  pushBytes b bytes nbytes

/-- `cfun_buffer_new_filled`:
      `int32_t count = janet_getinteger(argv, 0);  if (count < 0) count = 0;
       int32_t byte = 0;  if (argc == 2) byte = janet_getinteger(argv, 1) & 0xFF;
       JanetBuffer *buffer = janet_buffer(count);
       if (buffer->data && count > 0) memset(buffer->data, byte, count);   buffer->count = count;` -/
def newFilledC (count byte : Int) : R Bytes := do
  let count := if count < 0 then 0 else count
  let n := count.toNat
  let data ← forUp (fun i (data : Array Nat) => setIdx data (i : Int) (toByte byte)) n 0 (Array.replicate n 0)
  pure data.toList

end JanetModel.Lib.BufPush

namespace JanetModel.Lib.ArrC
open JanetModel.Lib JanetModel.Lib.CLoop

/-- `cfun_array_new_filled`: `int32_t count = janet_getnat(argv, 0);  Janet x = (argc == 2) ? argv[1] : nil;
      JanetArray *array = janet_array(count);  for (int32_t i = 0; i < count; i++) array->data[i] = x;  array->count = count;` -/
def newFilled {α : Type} [Inhabited α] (count : Int) (x : α) : R (List α) :=
  if count < 0 then .panic else do                                     -- janet_getnat
    let n := count.toNat
    let data ← forUp (fun i (data : Array α) => setIdx data (i : Int) x) n 0 (Array.replicate n default)
    pure data.toList

/-- `cfun_array_push` (`argc = 1 + xs.length`):
      `if (INT32_MAX - argc + 1 <= array->count) janet_panic("array overflow");
       int32_t newcount = array->count - 1 + argc;  janet_array_ensure(array, newcount, 2);
       if (argc > 1) memcpy(array->data + array->count, argv + 1, (size_t)(argc - 1) * sizeof(Janet));
       array->count = newcount;` -/
def pushC {α : Type} [Inhabited α] (a : List α) (xs : List α) : R (List α) := do
  let argc : Int := 1 + xs.length
  let count : Int := a.length
  let t ← sub32 int32Max argc
  let t ← add32 t 1
  if t ≤ count then .panic else do
  let t ← sub32 count 1
  let newcount ← add32 t argc
  if newcount < count then .ub else do                                 -- (the block must not shrink)
  let data := a.toArray ++ Array.replicate (newcount.toNat - a.length) default     -- janet_array_ensure
  let n ← sub32 argc 1
  if n < 0 then .ub else do
  let data ← (if argc > 1 then memcpy data count xs.toArray 0 n.toNat else pure data : R (Array α))
  pure (data.toList.take newcount.toNat)

/-- `janet_array_pop`: `if (array->count) return array->data[--array->count]; else return nil;` → (value, array after) -/
def pop {α : Type} (a : List α) : R (Option α × List α) :=
  if a.length ≠ 0 then do
    let count ← sub32 (a.length : Int) 1
    let v ← idx a.toArray count
    pure (some v, a.take count.toNat)
  else pure (none, a)

/-- `janet_array_peek`: `if (array->count) return array->data[array->count - 1]; else return nil;` -/
def peek {α : Type} (a : List α) : R (Option α) :=
  if a.length ≠ 0 then do
    let i ← sub32 (a.length : Int) 1
    let v ← idx a.toArray i
    pure (some v)
  else pure none

end JanetModel.Lib.ArrC
