import JanetModel.Lib.Boot2
import JanetModel.Lib.BootProofs
/- C17: proofs for index-of, find, reverse (mirrors in Lib/Boot.lean) and reduce2, zipcoll, distinct (Lib/Boot2.lean);
   `distinct` (a `ret` array and a `seen` table walked by `each`) for a lawful equality on the elements. -/
namespace JanetModel.Lib.Boot
open JanetModel.Lib JanetModel.Lib.JIter

theorem indexOfLoop_spec {α : Type} [BEq α] (x : α) : ∀ (xs : List α) (i : Nat),
    eachFrom (fun k y (ret : Option Nat) => if y == x then R.ok (some k, true) else R.ok (ret, false)) i xs none
      = .ok ((xs.findIdx? (fun y => y == x)).map (· + i))
  | [], _ => rfl
  | y :: ys, i => by
    rw [List.findIdx?_cons]
    by_cases hy : (y == x) = true
    · rw [eachFrom_cons_break (s' := some i) (if_pos hy), if_pos hy, Option.map_some, Nat.zero_add]
    · rw [eachFrom_cons_next (s' := none) (if_neg hy), if_neg hy, indexOfLoop_spec x ys (i + 1), map_add_succ]

theorem indexOf_eq_spec {α : Type} [BEq α] (x : α) (ind : List α) :
    Boot.indexOf x ind = .ok (ind.findIdx? (fun y => y == x)) := by
  unfold Boot.indexOf
  rw [each_eq_eachFrom, indexOfLoop_spec]
  cases ind.findIdx? (fun y => y == x) <;> rfl

theorem find_eq_spec {α : Type} (pred : α → Bool) (ind : List α) : Boot.find pred ind = .ok (ind.find? pred) := by
  unfold Boot.find
  rw [findIndex_eq_spec]
  simp only [R.ok_bind]
  induction ind with
  | nil => rfl
  | cons x xs ih =>
    rw [List.findIdx?_cons, List.find?_cons]
    by_cases hp : pred x = true
    · simp [hp, inIdx]
    · simp only [hp, Bool.false_eq_true, if_false]
      cases h : xs.findIdx? pred with
      | none => simp [h] at ih ⊢; exact ih
      | some v =>
        simp only [h, Option.map_some] at ih ⊢
        simp only [inIdx, List.getElem?_cons_succ] at ih ⊢
        exact ih

theorem reverseLoop_spec {α : Type} [Inhabited α] : ∀ (xs suf : List α) (i : Nat),
    eachFrom (fun _ v (st : Array α × Int) => (do
        let n := st.2 - 1
        let ret ← setIdx st.1 n v
        pure ((ret, n), false) : R ((Array α × Int) × Bool))) i xs
      ((List.replicate xs.length default ++ suf).toArray, (xs.length : Int))
      = .ok ((xs.reverse ++ suf).toArray, 0)
  | [], _, _ => rfl
  | x :: xs, suf, i => by
    have e : ((x :: xs).length : Int) - 1 = ((List.replicate xs.length (default : α)).length : Int) := by
      rw [List.length_replicate, List.length_cons, Int.natCast_add, Int.natCast_one, Int.add_sub_cancel]
    have hcells : List.replicate (x :: xs).length default ++ suf = List.replicate xs.length default ++ default :: suf := by
      rw [List.length_cons, List.replicate_succ', List.append_assoc]
      rfl
    rw [hcells, List.reverse_cons, List.append_assoc,
      eachFrom_cons_next (s' := ((List.replicate xs.length default ++ x :: suf).toArray, (xs.length : Int)))]
    · exact reverseLoop_spec xs (x :: suf) (i + 1)
    · simp only [e, setIdx_append_cons, R.ok_bind, R.pure_eq]
      rw [List.length_replicate]

/-- `reverse` on an indexed / bytes value: `(put ret (-- n) v)` writes cells `len-1, …, 0`, never outside the new array -/
theorem reverse_eq_spec {α : Type} [Inhabited α] (t : List α) : Boot.reverse t = .ok t.reverse := by
  have h := reverseLoop_spec t [] 0
  rw [List.append_nil, List.append_nil] at h
  unfold Boot.reverse
  rw [each_eq_eachFrom]
  show (eachFrom _ 0 t ((List.replicate t.length default).toArray, (t.length : Int)) >>= _) = _
  rw [h]
  rfl

theorem reduce2_eq_spec {α : Type} (f : α → α → α) (ind : List α) :
    Boot.reduce2 f ind = .ok (match ind with | [] => none | x :: xs => some (xs.foldl f x)) := by
  cases ind with
  | nil => rfl
  | cons x xs =>
    have h := (eachLoop_eq_eachFrom (x :: xs) (fun _ y res => R.ok (f res y, false)) ((x :: xs).length + 1) 1 x
      (Nat.le_succ_of_le (Nat.sub_le _ _))).trans
      (eachFrom_snoc _ xs (fun p => p.foldl f x) 1 rfl
        (fun _ p y _ => congrArg (fun r => R.ok (r, false)) (List.foldl_append (l' := [y])).symm))
    unfold Boot.reduce2
    simp only [nextKey_nil, nextKey_keyAt, List.length_cons, keyAt_of_lt (Nat.zero_lt_succ _), inIdx, List.getElem?_cons_zero]
    simp only [List.length_cons] at h
    rw [h]

theorem zipcollLoop_spec {α β : Type} [BEq α] (ks : List α) (vs : List β) :
    ∀ fuel i res, ks.length - i + 1 ≤ fuel →
      zipcollLoop ks vs fuel (prevKey i) (prevKey i) res
        = .ok (((ks.drop i).zip (vs.drop i)).foldl (fun acc kv => assocPut acc kv.1 kv.2) res) := by
  intro fuel
  induction fuel with
  | zero => intro i res h; exact absurd h (Nat.not_succ_le_zero _)
  | succ n ih =>
    intro i res hf
    simp only [zipcollLoop, nextKey_prevKey]
    by_cases hk : i < ks.length
    · simp only [keyAt_of_lt hk]
      by_cases hv : i < vs.length
      · simp only [keyAt_of_lt hv, inIdx_of_lt ks i hk, inIdx_of_lt vs i hv]
        rw [← prevKey_succ i, ih (i + 1) _ (by omega), List.drop_eq_getElem_cons hk, List.drop_eq_getElem_cons hv]
        simp only [List.zip_cons_cons, List.foldl_cons]
      · simp only [keyAt_of_not_lt hv]
        rw [List.drop_of_length_le (Nat.le_of_not_lt hv), List.zip_nil_right]
        rfl
    · simp only [keyAt_of_not_lt hk]
      rw [List.drop_of_length_le (Nat.le_of_not_lt hk)]
      rfl

theorem zipcoll_eq_spec {α β : Type} [BEq α] (ks : List α) (vs : List β) : Boot.zipcoll ks vs = .ok (Lib.zipcoll ks vs) := by
  unfold Boot.zipcoll Lib.zipcoll
  exact zipcollLoop_spec ks vs (ks.length + 1) 0 [] (Nat.le_refl _)

example : Boot.zipcoll [1, 2, 1] [10, 20, 30, 40] = .ok [(1, 30), (2, 20)] ∧ Boot.reduce2 (fun (a b : Nat) => a * 10 + b) [1, 2, 3] = .ok (some 123)
    ∧ Boot.reverse [1, 2, 3] = .ok [3, 2, 1] ∧ Boot.indexOf 2 [1, 2, 2] = .ok (some 1) := by decide +kernel

/-- `ret` holds the distinct elements seen so far in order, `seen` the same keys -/
theorem distinct_eq_spec {α : Type} [BEq α] [LawfulBEq α] (xs : List α) : Boot.distinct xs = .ok (Lib.distinct xs) := by
  unfold Boot.distinct
  rw [each_snoc xs _ (fun p => ((Lib.distinct p).toArray, (Lib.distinct p).reverse)) (#[], []) rfl (fun _ p x _ => by
    simp only [List.contains_reverse, contains_distinct, distinct_snoc]
    cases h : p.contains x <;> simp)]
  rfl

example : Boot.distinct [3, 1, 3, 2, 1] = .ok [3, 1, 2] := by decide +kernel

end JanetModel.Lib.Boot
