import JanetModel.Lib.MiscC2
import JanetModel.Lib.BufPushCProofs
/- C17: the mirrors of Lib/MiscC2.lean compute the reference definitions of Lib/Spec.lean for all inputs:
   `buffer/push-word` (also the state left by a failing call), `buffer/push-uint16|32|64` (byte order by the explicit
   swaps of reverse_u32 / reverse_u64), `buffer/new-filled`, `array/new-filled`, `array/push` (the overflow guard keeps the
   int32 arithmetic in range), `array/pop`, `array/peek`. -/
namespace JanetModel.Lib.BufPush
open JanetModel.Lib JanetModel.Lib.CLoop

/-- `data[p] = v0; data[p+1] = v1; …` inside the block writes exactly those cells -/
theorem writeCells_spec : ∀ (X : List Nat) (data : Array Nat) (p : Nat), p + X.length ≤ data.size →
    writeCells data p X = .ok (splice data.toList p X).toArray
  | [], data, p, _ => by simp [writeCells, splice]
  | v :: vs, data, p, h => by
    simp only [List.length_cons] at h
    unfold writeCells
    rw [setIdx_ok _ _ _ (by omega)]
    simp only [R.ok_bind]
    rw [writeCells_spec vs _ (p + 1) (by simp; omega)]
    congr 2
    simp only [Array.toList_setIfInBounds]
    exact splice_set_succ data.toList p v vs (by simpa using h)

theorem le4_eq (x : Nat) :
    [x &&& 0xFF, (x >>> 8) &&& 0xFF, (x >>> 16) &&& 0xFF, (x >>> 24) &&& 0xFF] = leBytes 4 x := by
  have hand : ∀ y : Nat, y &&& 0xFF = y % 256 := fun y => Nat.and_two_pow_sub_one_eq_mod y 8
  simp [hand, Nat.shiftRight_eq_div_pow, leBytes, Nat.div_div_eq_div_mul]

theorem pushU32_spec (D : List Nat) (b : Buf) (x : Nat) (hI : Inv D b) (h32 : (b.count : Int) + 4 ≤ int32Max) :
    ∃ b', pushU32 b x = .ok b' ∧ contents b' = contents b ++ leBytes 4 x ∧ Inv D b' := by
  obtain ⟨b', h, hc, hI', _⟩ := extra_write D b (leBytes 4 x) 4 rfl hI h32
    (fun b1 => writeCells b1.data b1.count [x &&& 0xFF, (x >>> 8) &&& 0xFF, (x >>> 16) &&& 0xFF, (x >>> 24) &&& 0xFF])
    (fun b1 hroom => by rw [writeCells_spec _ _ _ hroom, le4_eq])
  exact ⟨b', h, hc, hI'⟩

/-- the reference: contents after the call (also after a failing one) and whether every argument was a machine word -/
def pushWordSt (b : Bytes) : List Int → Bool × Bytes
  | [] => (true, b)
  | x :: rest => if 0 ≤ x ∧ x < 4294967296 then pushWordSt (b ++ leBytes 4 x.toNat) rest else (false, b)

theorem pushWordSt_spec (b : Bytes) (xs : List Int) :
    Lib.pushWord b xs = if (pushWordSt b xs).1 then some (pushWordSt b xs).2 else none := by
  induction xs generalizing b with
  | nil => simp [Lib.pushWord, pushWordSt]
  | cons x rest ih =>
    unfold Lib.pushWord pushWordSt
    by_cases h : 0 ≤ x ∧ x < 4294967296
    · simp only [h, and_self, if_true]; exact ih _
    · simp [h]

theorem pushWordSt_len_ge (xs : List Int) (b : Bytes) : b.length ≤ (pushWordSt b xs).2.length := by
  induction xs generalizing b with
  | nil => simp [pushWordSt]
  | cons x rest ih =>
    unfold pushWordSt
    by_cases h : 0 ≤ x ∧ x < 4294967296
    · simp only [h, and_self, if_true]
      have := ih (b ++ leBytes 4 x.toNat)
      simp only [List.length_append] at this
      omega
    · simp [h]

/-- `buffer/push-word`: contents after the call — also after a call that raised part-way — and the error condition -/
theorem pushWord_spec (D : List Nat) (xs : List Int) (b : Buf) (hI : Inv D b)
    (h32 : ((pushWordSt (contents b) xs).2.length : Int) ≤ int32Max) :
    contents (pushWord b xs).1 = (pushWordSt (contents b) xs).2 ∧
    (pushWord b xs).2 = (if (pushWordSt (contents b) xs).1 then .ok () else .panic) ∧ Inv D (pushWord b xs).1 := by
  induction xs generalizing b with
  | nil => simp [pushWord, pushWordSt, hI]
  | cons x rest ih =>
    unfold pushWord pushWordSt pushWordArg
    unfold pushWordSt at h32
    by_cases h : 0 ≤ x ∧ x < 4294967296
    · simp only [h, and_self, if_true] at h32 ⊢
      have hge := pushWordSt_len_ge rest (contents b ++ leBytes 4 x.toNat)
      have hcl := contents_length hI
      have hl4 : (leBytes 4 x.toNat).length = 4 := by simp [leBytes]
      simp only [List.length_append, hcl, hl4] at hge
      obtain ⟨b', hp, hcont, hI'⟩ := pushU32_spec D b x.toNat hI (by omega)
      rw [hp]
      simp only
      rw [← hcont] at h32 ⊢
      exact ih b' hI' h32
    · simp [h, hI]

theorem swapCells_list (l : List Nat) (i j n : Nat) (hn : l.length = n) (hi : i < n) (hj : j < n) :
    swapCells l.toArray i j = .ok ((l.set i (l[j]'(hn ▸ hj))).set j (l[i]'(hn ▸ hi))).toArray := by
  subst hn
  unfold swapCells
  rw [idx_list_ok l i hi, idx_list_ok l j hj]
  simp only [R.ok_bind]
  rw [setIdx_ok _ _ _ hi]
  simp only [R.ok_bind]
  rw [setIdx_ok _ _ _ (by rw [Array.size_setIfInBounds]; exact hj), List.setIfInBounds_toArray, List.setIfInBounds_toArray]

theorem reverseU16_spec (a b : Nat) : reverseU16 #[a, b] = .ok #[b, a] :=
  swapCells_list [a, b] 1 0 2 rfl (by decide) (by decide)

theorem reverseU32_spec (a b c d : Nat) : reverseU32 #[a, b, c, d] = .ok #[d, c, b, a] := by
  have s1 : swapCells #[a, b, c, d] 3 0 = .ok #[d, b, c, a] := swapCells_list _ 3 0 4 rfl (by decide) (by decide)
  have s2 : swapCells #[d, b, c, a] 2 1 = .ok #[d, c, b, a] := swapCells_list _ 2 1 4 rfl (by decide) (by decide)
  unfold reverseU32
  rw [s1, R.ok_bind, s2]

theorem reverseU64_spec (a b c d e f g h : Nat) :
    reverseU64 #[a, b, c, d, e, f, g, h] = .ok #[h, g, f, e, d, c, b, a] := by
  have s1 : swapCells #[a, b, c, d, e, f, g, h] 7 0 = .ok #[h, b, c, d, e, f, g, a] :=
    swapCells_list _ 7 0 8 rfl (by decide) (by decide)
  have s2 : swapCells #[h, b, c, d, e, f, g, a] 6 1 = .ok #[h, g, c, d, e, f, b, a] :=
    swapCells_list _ 6 1 8 rfl (by decide) (by decide)
  have s3 : swapCells #[h, g, c, d, e, f, b, a] 5 2 = .ok #[h, g, f, d, e, c, b, a] :=
    swapCells_list _ 5 2 8 rfl (by decide) (by decide)
  have s4 : swapCells #[h, g, f, d, e, c, b, a] 4 3 = .ok #[h, g, f, e, d, c, b, a] :=
    swapCells_list _ 4 3 8 rfl (by decide) (by decide)
  unfold reverseU64
  rw [s1, R.ok_bind, s2, R.ok_bind, s3, R.ok_bind, s4]

theorem leBytes_length (n x : Nat) : (leBytes n x).length = n := by
  induction n generalizing x with
  | zero => rfl
  | succ n ih => simp [leBytes, ih]

/-- the local `bytes[]` after the optional reversal holds the bytes in the requested order -/
theorem orderBytes_spec (nbytes : Nat) (hn : nbytes = 2 ∨ nbytes = 4 ∨ nbytes = 8) (x : Nat) (be : Bool) :
    (if be then (if nbytes = 2 then reverseU16 (leBytes nbytes x).toArray else if nbytes = 4 then reverseU32 (leBytes nbytes x).toArray
        else reverseU64 (leBytes nbytes x).toArray) else .ok (leBytes nbytes x).toArray)
      = .ok (if be then (leBytes nbytes x).reverse else leBytes nbytes x).toArray := by
  cases be with
  | false => simp
  | true =>
    rcases hn with h | h | h <;> subst h
    · simp only [if_true, leBytes]; rw [reverseU16_spec]; simp
    · simp only [if_true, leBytes]
      rw [if_neg (by decide), reverseU32_spec]; simp
    · simp only [if_true, leBytes]
      rw [if_neg (by decide), if_neg (by decide), reverseU64_spec]; simp

/-- `buffer/push-uint16`, `-uint32`, `-uint64`: raises for an unknown byte order or a value outside `[0, 2^(8n))`, otherwise
    appends the `n` bytes in the requested order -/
theorem pushUintC_spec (D : List Nat) (b : Buf) (nbytes : Nat) (hn : nbytes = 2 ∨ nbytes = 4 ∨ nbytes = 8) (order : Bytes)
    (data : Int) (hI : Inv D b) (h32 : (b.count : Int) + (nbytes : Int) ≤ int32Max) :
    (shouldReverse order = .panic → pushUintC b nbytes order data = .panic) ∧
    (∀ be, shouldReverse order = .ok be →
      (pushUint (contents b) nbytes be data = none → pushUintC b nbytes order data = .panic) ∧
      (∀ r, pushUint (contents b) nbytes be data = some r →
        ∃ b', pushUintC b nbytes order data = .ok b' ∧ contents b' = r ∧ Inv D b')) := by
  refine ⟨fun h => by unfold pushUintC; rw [h]; rfl, fun be hbe => ?_⟩
  unfold pushUintC pushUint
  rw [hbe]
  simp only [R.ok_bind]
  by_cases hr : 0 ≤ data ∧ data < (256 : Int) ^ nbytes
  · simp only [hr, and_self, not_true_eq_false, if_false, if_true]
    refine ⟨fun h => by simp at h, fun r hr' => ?_⟩
    rw [orderBytes_spec nbytes hn data.toNat be]
    simp only [R.ok_bind]
    have hlen : (if be then (leBytes nbytes data.toNat).reverse else leBytes nbytes data.toNat).length = nbytes := by
      cases be <;> simp [leBytes_length]
    obtain ⟨b', hp, hc, hI'⟩ := pushBytes_spec D b
      (if be then (leBytes nbytes data.toNat).reverse else leBytes nbytes data.toNat).toArray nbytes hI
      (by simp [hlen]) h32
    refine ⟨b', hp, ?_, hI'⟩
    rw [hc]
    simp only [Option.some.injEq] at hr'
    rw [← hr']
    congr 1
    rw [List.take_of_length_le (by simp [hlen])]
  · simp only [hr, not_false_eq_true, if_true, if_false]
    refine ⟨fun _ => ?_, fun r h => by simp at h⟩
    trivial

/-- `buffer/new-filled`: a negative count gives the empty buffer; every byte is `byte & 0xFF` -/
theorem newFilledC_eq_spec (count byte : Int) : newFilledC count byte = .ok (Lib.newFilled count byte) := by
  unfold newFilledC Lib.newFilled
  simp only
  rw [fill_const _ _ Array.size_replicate, apply_ite Int.toNat]
  rfl

example : (pushWord { data := #[7], count := 1 } [258, -1, 3]).1.data.toList.take 5 = [7, 2, 1, 0, 0] ∧
    (match pushUintC { data := #[], count := 0 } 4 [98, 101] 258 with | .ok b => contents b | _ => []) = [0, 0, 1, 2] := by decide +kernel

end JanetModel.Lib.BufPush

namespace JanetModel.Lib.ArrC
open JanetModel.Lib JanetModel.Lib.CLoop

theorem newFilled_eq_spec {α : Type} [Inhabited α] (count : Int) (x : α) :
    ArrC.newFilled count x = if count < 0 then .panic else .ok (List.replicate count.toNat x) := by
  unfold ArrC.newFilled
  by_cases hc : count < 0
  · simp [hc]
  · simp only [hc, if_false]
    rw [fill_const _ _ Array.size_replicate]
    rfl

/-- `array/push`: raises exactly when the new count would reach INT32_MAX (the guard `INT32_MAX - argc + 1 <= count`),
    otherwise appends the arguments; neither the guard nor `count - 1 + argc` overflows an int32 -/
theorem pushC_eq_spec {α : Type} [Inhabited α] (a xs : List α) (hx : (xs.length : Int) + 1 ≤ int32Max) :
    ArrC.pushC a xs = if int32Max ≤ (a.length : Int) + (xs.length : Int) then .panic else .ok (a ++ xs) := by
  unfold ArrC.pushC
  unfold int32Max at *
  obtain ⟨e1, e2⟩ : in32 ((2147483647 : Int) - (1 + (xs.length : Int))) = true ∧
      in32 ((2147483647 : Int) - (1 + (xs.length : Int)) + 1) = true := by
    unfold in32 int32Min int32Max; simp only [decide_eq_true_eq]; omega
  simp only [sub32, add32, e1, e2, if_true, R.ok_bind]
  by_cases hov : (2147483647 : Int) ≤ (a.length : Int) + (xs.length : Int)
  · have : (2147483647 : Int) - (1 + (xs.length : Int)) + 1 ≤ (a.length : Int) := by omega
    simp only [this, if_true, hov]
  · -- past the guard: `count - 1`, `count - 1 + argc`, `argc - 1` are in range and equal `count + n`, `n`
    obtain ⟨hn, e3, e4, e5, hnc, hn2⟩ : ¬ ((2147483647 : Int) - (1 + (xs.length : Int)) + 1 ≤ (a.length : Int)) ∧
        in32 ((a.length : Int) - 1) = true ∧ in32 ((a.length : Int) - 1 + (1 + (xs.length : Int))) = true ∧
        in32 ((1 : Int) + (xs.length : Int) - 1) = true ∧
        (a.length : Int) - 1 + (1 + (xs.length : Int)) = ((a.length + xs.length : Nat) : Int) ∧
        (1 : Int) + (xs.length : Int) - 1 = ((xs.length : Nat) : Int) := by
      unfold in32 int32Min int32Max; simp only [decide_eq_true_eq]; omega
    simp only [hn, hov, if_false, e3, e4, e5, if_true, R.ok_bind]
    rw [hnc, hn2]
    have h1 : ¬ (((a.length + xs.length : Nat) : Int) < (a.length : Int)) := by omega
    simp only [h1, natCast_not_neg, if_false, Int.toNat_natCast]
    by_cases hxs : (1 : Int) + (xs.length : Int) > 1
    · simp only [hxs, if_true]
      rw [← List.toArray_replicate, List.append_toArray,
        memcpy_cursor_whole a _ xs a.length rfl (by rw [List.length_replicate, Nat.add_sub_cancel_left]; exact Nat.le_refl _)]
      simp only [R.ok_bind, R.pure_eq, List.take_left' (List.length_append (as := a) (bs := xs))]
    · have : xs = [] := List.eq_nil_of_length_eq_zero (by omega)
      subst this
      simp

/-- `array/pop` (value and array after) and `array/peek`: nil for an empty array, else the last element; `--count` and
    `count - 1` stay inside the array -/
theorem pop_peek_eq_spec {α : Type} (a : List α) (ha : Len32 a) :
    ArrC.pop a = .ok (a.getLast?, a.dropLast) ∧ ArrC.peek a = .ok a.getLast? := by
  unfold ArrC.pop ArrC.peek
  by_cases h0 : a.length = 0
  · have : a = [] := List.eq_nil_of_length_eq_zero h0
    subst this
    exact ⟨rfl, rfl⟩
  · have hpos : 1 ≤ a.length := Nat.pos_of_ne_zero h0
    have hlt : a.length - 1 < a.length := Nat.sub_lt hpos Nat.one_pos
    have hsub := sub32_nat a.length 1 hpos (Int.ofNat_le.mp ha)
    rw [Int.natCast_one] at hsub
    simp only [h0, ne_eq, not_false_eq_true, if_true, hsub, R.ok_bind, idx_list_ok a (a.length - 1) hlt, R.pure_eq,
      Int.toNat_natCast]
    rw [List.getLast?_eq_getElem?, List.getElem?_eq_getElem hlt, List.dropLast_eq_take]
    exact ⟨rfl, rfl⟩

example : ArrC.pushC [1, 2] [3, 4] = .ok [1, 2, 3, 4] ∧ ArrC.pop [1, 2, 3] = .ok (some 3, [1, 2]) ∧
    ArrC.peek ([] : List Nat) = .ok none ∧ ArrC.newFilled 3 7 = .ok [7, 7, 7] := by decide +kernel

end JanetModel.Lib.ArrC
