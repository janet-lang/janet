import JanetModel.Lib.StrReplC
import JanetModel.Lib.StrKmpCProofs
import JanetModel.Lib.BufPushCProofs
/- C17: `string/replace` and `string/replace-all` (string substitution values) as mirrored in Lib/StrReplC.lean compute
   the reference definitions: the int32 size/offset arithmetic of `replace` does not overflow, its three memcpys tile the
   new string exactly; the result buffer of `replace-all` grows by `janet_buffer_push_bytes` without overflow. -/
namespace JanetModel.Lib.StrC
open JanetModel.Lib JanetModel.Lib.CLoop JanetModel.Lib.BufPush JanetModel.Util

theorem replace_tiles (text subst : Bytes) (r pl : Nat) (h : r + pl ≤ text.length) :
    (do let buf ← memcpy (Array.replicate (r + subst.length + (text.length - r - pl)) 0) 0 text.toArray 0 r
        let buf ← memcpy buf (r : Int) subst.toArray 0 subst.length
        let buf ← memcpy buf ((r + subst.length : Nat) : Int) text.toArray ((r + pl : Nat) : Int) (text.length - r - pl)
        pure buf.toList : R Bytes)
      = .ok (text.take r ++ subst ++ text.drop (r + pl)) := by
  have hr : r ≤ text.length := Nat.le_trans (Nat.le_add_right r pl) h
  have m1 := memcpy_cursor [] (List.replicate (r + subst.length + (text.length - r - pl)) 0) text.toArray 0 0 r rfl
    (by rw [List.size_toArray, Nat.zero_add]; exact hr) (by rw [List.length_replicate]; omega)
  have m2 := memcpy_cursor (text.take r) (List.replicate (subst.length + (text.length - r - pl)) 0) subst.toArray r 0
    subst.length (by rw [List.length_take, Nat.min_eq_left hr]) (by rw [List.size_toArray, Nat.zero_add]; exact Nat.le_refl _)
    (by rw [List.length_replicate]; exact Nat.le_add_right _ _)
  have m3 := memcpy_cursor (text.take r ++ subst) (List.replicate (text.length - r - pl) 0) text.toArray (r + subst.length)
    (r + pl) (text.length - r - pl) (by rw [List.length_append, List.length_take, Nat.min_eq_left hr])
    (by rw [List.size_toArray]; omega) (by rw [List.length_replicate]; exact Nat.le_refl _)
  have e1 : r + subst.length + (text.length - r - pl) - r = subst.length + (text.length - r - pl) := by omega
  simp only [List.nil_append, Int.natCast_zero, List.toList_toArray, List.drop_zero, List.drop_replicate, e1,
    Nat.add_sub_cancel_left, Nat.sub_self, List.replicate_zero, List.append_nil, List.take_length, List.toArray_replicate] at m1 m2 m3
  rw [m1, R.ok_bind, m2, R.ok_bind, m3, R.ok_bind,
    List.take_of_length_le (l := text.drop (r + pl)) (i := text.length - r - pl) (by rw [List.length_drop]; omega)]
  rfl

/-- `string/replace patt subst str &opt start` (string `subst`): errors as `findsetup`; without a match the text is
    copied; with a match at `r` the new string of `textlen - patlen + subst.len` bytes is tiled exactly by the three copies -/
theorem replace_eq_spec (pat subst text : Bytes) (start : Option Int)
    (hlen : (text.length : Int) - (pat.length : Int) + (subst.length : Int) ≤ int32Max) (ht : Len32 text) :
    StrC.replace pat subst text start =
      match startNat start with
      | none => .panic
      | some st => R.ofOption (Lib.replace pat subst text st) := by
  unfold StrC.replace replacesetup
  rw [findsetup_spec]
  cases hst : startNat start with
  | none => rfl
  | some st =>
    simp only [Lib.replace]
    by_cases hp : pat = []
    · rw [if_pos hp, if_pos hp]
      rfl
    · simp only [hp, if_false, R.ok_bind]
      simp only [StrC.next]
      rw [Kmp.kmpNext_fresh pat text st hp]
      unfold Len32 int32Max at ht
      unfold int32Max at hlen
      cases hf : findFrom pat text st with
      | none =>
        simp only [R.ofOption_some]
        have := stringv_spec text 0 text.length (by omega)
        simp only [Int.natCast_zero, List.drop_zero, List.take_length] at this
        exact this
      | some r =>
        have g3 := matchAt_le (findFrom_some hf).2.1
        have ⟨a1, a2, a3, a4, a5, a6, a7, a8⟩ : pat.length ≤ text.length ∧ text.length ≤ 2147483647 ∧
            text.length - pat.length + subst.length ≤ 2147483647 ∧ r + subst.length ≤ 2147483647 ∧
            r + pat.length ≤ 2147483647 ∧ r ≤ text.length ∧ pat.length ≤ text.length - r ∧
            text.length - pat.length + subst.length = r + subst.length + (text.length - r - pat.length) := by omega
        simp only [R.ofOption_some, sub32_nat _ _ a1 a2, add32_nat _ _ a3, add32_nat _ _ a4, add32_nat _ _ a5,
          sub32_nat _ _ a6 a2, sub32_nat _ _ a7 (Nat.le_trans (Nat.sub_le _ _) a2), R.ok_bind, natCast_not_neg, if_false,
          Int.toNat_natCast, a8]
        exact replace_tiles text subst r pat.length g3

theorem pushBytesFrom_spec (b : Buf) (src : Array Nat) (soff len : Nat) (hI : Inv [] b) (hsrc : soff + len ≤ src.size)
    (h32 : b.count + len ≤ 2147483647) :
    ∃ b', pushBytesFrom b src (soff : Int) (len : Int) = .ok b' ∧
      contents b' = contents b ++ (src.toList.drop soff).take len ∧ Inv [] b' ∧ b'.count = b.count + len := by
  unfold pushBytesFrom
  rw [if_neg (natCast_not_neg len), Int.toNat_natCast]
  by_cases hz : len = 0
  · subst hz
    exact ⟨b, by simp, by simp, hI, rfl⟩
  · rw [if_neg (fun h => hz (Int.ofNat_eq_zero.mp h))]
    exact extra_write [] b _ len (length_take_drop src.toList soff len (by simpa using hsrc)) hI
      (by unfold int32Max; omega) (fun b1 => memcpy b1.data (b1.count : Int) src (soff : Int) len)
      (fun b1 hroom => memcpy_splice _ _ b1.count soff len hsrc hroom)

/-- `li` is the end of the last match: what remains to be appended afterwards is `text.drop li` -/
theorem replaceAllLoop_spec (pat subst text : Bytes) (hp : pat ≠ []) (s0 : Kmp.State) (fuel last st : Nat) (b : Buf)
    (hfuel : text.length + 1 - st ≤ fuel) (hf1 : 1 ≤ fuel) (hls : last ≤ st) (hll : last ≤ text.length) (hI : Inv [] b)
    (h32 : b.count + (replaceAllAux pat subst text fuel last st).length ≤ 2147483647) :
    ∃ b' li, replaceAllLoop { text := text.toArray, pat := pat.toArray, lookup := Kmp.lookupTable pat.toArray, st := s0 }
          subst fuel (last : Int) { i := st, j := 0 } b = .ok (b', ((li : Nat) : Int)) ∧ li ≤ text.length ∧ Inv [] b' ∧
      contents b' ++ text.drop li = contents b ++ replaceAllAux pat subst text fuel last st := by
  induction fuel generalizing last st b with
  | zero => omega
  | succ n ih =>
    obtain ⟨s', hn⟩ := next_fresh pat text hp s0 st
    rw [replaceAllAux] at h32 ⊢
    rw [replaceAllLoop, hn]
    cases hf : findFrom pat text st with
    | none => exact ⟨b, last, rfl, hll, hI, rfl⟩
    | some r =>
      obtain ⟨g1, g2, _⟩ := findFrom_some hf
      have g3 := matchAt_le g2
      have hpl : 0 < pat.length := List.length_pos_iff.mpr hp
      have hlr : last + (r - last) ≤ text.length := by omega
      simp only [hf, List.length_append, length_take_drop text last (r - last) hlr] at h32
      -- the two pushes of this round and the remaining rounds stay within the int32 bound; the fuel lasts
      have ⟨a1, a2, a3, a4, a5⟩ : b.count + (r - last) ≤ 2147483647 ∧ b.count + (r - last) + subst.length ≤ 2147483647 ∧
          text.length + 1 - (r + pat.length) ≤ n ∧ 1 ≤ n ∧
          b.count + (r - last) + subst.length
            + (replaceAllAux pat subst text n (r + pat.length) (r + pat.length)).length ≤ 2147483647 := by omega
      obtain ⟨b1, hb1, hc1, hI1, hn1⟩ := pushBytesFrom_spec b text.toArray last (r - last) hI
        (by rw [List.size_toArray]; exact hlr) a1
      obtain ⟨b2, hb2, hc2, hI2, hn2⟩ := pushBytesFrom_spec b1 subst.toArray 0 subst.length hI1
        (by rw [List.size_toArray, Nat.zero_add]; exact Nat.le_refl _) (by rw [hn1]; exact a2)
      rw [Int.natCast_zero] at hb2
      obtain ⟨b', li, h1, h2, h3, h4⟩ := ih (r + pat.length) (r + pat.length) b2 a3 a4 (Nat.le_refl _) g3 hI2
        (by rw [hn2, hn1]; exact a5)
      dsimp only
      rw [← Int.natCast_sub (Nat.le_trans hls g1), hb1, R.ok_bind, hb2, R.ok_bind, List.size_toArray, ← Int.natCast_add,
        Int.toNat_natCast]
      refine ⟨b', li, h1, h2, h3, ?_⟩
      rw [h4, hc2, hc1]
      simp only [List.drop_zero, List.take_length, List.append_assoc]

/-- `string/replace-all patt subst str &opt start` (string `subst`): leftmost non-overlapping occurrences from `start`;
    when the result fits an int32 no `janet_buffer_push_bytes` raises ("buffer overflow") and every pushed slice of the
    text is in range; the loop terminates within `textlen + 1` calls of `kmp_next`. -/
theorem replaceAll_eq_spec (pat subst text : Bytes) (start : Option Int)
    (h32 : ∀ st r, startNat start = some st → Lib.replaceAll pat subst text st = some r → (r.length : Int) ≤ int32Max) :
    StrC.replaceAll pat subst text start =
      match startNat start with
      | none => .panic
      | some st => R.ofOption (Lib.replaceAll pat subst text st) := by
  unfold StrC.replaceAll replacesetup
  rw [findsetup_spec]
  cases hst : startNat start with
  | none => rfl
  | some st =>
    simp only [Lib.replaceAll]
    by_cases hp : pat = []
    · simp [hp]
    · simp only [hp, if_false, R.ok_bind, R.ofOption_some]
      have hbound := h32 st (replaceAllAux pat subst text (text.length + 1) 0 st) hst (by simp [Lib.replaceAll, hp])
      unfold int32Max at hbound
      have hI0 : Inv [] ({ data := #[], count := 0 } : Buf) := ⟨by simp, fun k _ h => by simp at h⟩
      obtain ⟨b', li, h1, h2, h3, h4⟩ := replaceAllLoop_spec pat subst text hp { i := st, j := 0 } (text.length + 1) 0 st
        { data := #[], count := 0 } (by omega) (by omega) (Nat.zero_le _) (Nat.zero_le _) hI0 (by show 0 + _ ≤ 2147483647; omega)
      simp only [Int.natCast_zero] at h1
      rw [h1]
      simp only [R.ok_bind]
      rw [show (text.length : Int) - (li : Int) = ((text.length - li : Nat) : Int) by omega]
      have hfin := congrArg List.length h4
      simp only [List.length_append, List.length_drop, contents_length h3] at hfin
      simp only [contents, List.take_zero, List.nil_append, List.length_nil, Nat.zero_add] at hfin h4
      obtain ⟨b2, hb2, hc2, _⟩ := pushBytesFrom_spec b' text.toArray li (text.length - li) h3
        (by rw [List.size_toArray]; omega) (by omega)
      rw [hb2]
      simp only [R.ok_bind, R.pure_eq]
      rw [hc2, ← h4, List.toList_toArray, List.take_of_length_le (by rw [List.length_drop]; exact Nat.le_refl _)]
      rfl

example : StrC.replaceAll [97, 97] [120] [97, 97, 97, 97, 97] none = .ok [120, 120, 97] ∧
    StrC.replace [98] [120, 121] [97, 98, 98] (some 2) = .ok [97, 98, 120, 121] ∧ StrC.replace [] [1] [2] none = .panic := by decide +kernel

end JanetModel.Lib.StrC
