import JanetModel.Lib.Boot11
/- C17: boot.janet `some` and `all` — map-template with an aggregator that itself executes `(break)`:

     :some ~(if (def y ,val) (do (set ,res y) (break)))
     :all  ~(if (def y ,val) nil (do (set ,res y) (break)))

     (defn some [pred ind & inds] (var res nil)  (map-template :some res pred ind inds) res)
     (defn all  [pred ind & inds] (var res true) (map-template :all  res pred ind inds) res)

   The aggregator's `(break)` is a statement of the body of `(each x ind …)` in every branch of map-template (branch 0, the
   `map-n` expansion, the general branch after `(if done (break))`), so it leaves that `each`.  The key-advancing statements,
   the argument fetch and the `forv` loop are the definitions of Lib/Boot11.lean, unchanged.  Core Lean only. -/
namespace JanetModel.Lib.Boot
open JanetModel.Lib JanetModel.Lib.JIter

/-- `(if (def y val) (do (set res y) (break)))`: new `res`, and whether `(break)` ran -/
def someAgg {γ : Type} (truthy : γ → Bool) (res val : γ) : γ × Bool :=
  if truthy val then (val, true) else (res, false)

/-- `(if (def y val) nil (do (set res y) (break)))` -/
def allAgg {γ : Type} (truthy : γ → Bool) (res val : γ) : γ × Bool :=
  if truthy val then (res, false) else (val, true)

/-- branch `0` of map-template: `(each x ind (map-aggregator maptype res (f x)))` -/
def map0B {α β γ σ : Type} (agg : σ → γ → σ × Bool) (f : α → List β → γ) (init : σ) (ind : List α) : R σ :=
  each ind (fun _ x (res : σ) => .ok (agg res (f x []))) init

/-- the body of the `each` of `map-n n` with a breaking aggregator -/
def mapNBBody {α β γ σ : Type} (agg : σ → γ → σ × Bool) (f : α → List β → γ) (inds : List (List β)) (_ : Nat) (x : α)
    (st : σ × List (Option Nat)) : R ((σ × List (Option Nat)) × Bool) :=
  match advanceKeys inds st.2 with
  | none => .ok (st, true)                                             -- (break) of a key statement
  | some ks =>
    match fetchRow inds ks with
    | .ok row =>
      let r := agg st.1 (f x row)                                      -- (map-aggregator maptype res (f x …))
      .ok ((r.1, ks.map some), r.2)                                    -- its (break), if any
    | .panic => .panic
    | .ub => .ub

def mapNB {α β γ σ : Type} (agg : σ → γ → σ × Bool) (f : α → List β → γ) (init : σ) (ind : List α) (inds : List (List β)) : R σ := do
  let st ← each ind (mapNBBody agg f inds) (init, inds.map (fun _ => none))
  pure st.1

/-- the body of the `each` of the general branch with a breaking aggregator -/
def mapGenBBody {α β γ σ : Type} (agg : σ → γ → σ × Bool) (f : α → List β → γ) (inds : Array (List β)) (_ : Nat) (x : α)
    (st : GenSt β σ) : R (GenSt β σ × Bool) :=
  match fillCallBuffer inds inds.size 0 st.iterKeys st.callBuffer with
  | .ok (ik, cb, done) =>
    if done then .ok ({ st with iterKeys := ik, callBuffer := cb, done := true }, true)     -- (if done (break))
    else
      let r := agg st.res (f x (cb.toList.filterMap id))               -- (map-aggregator maptype res (f x ;call-buffer))
      .ok ({ res := r.1, iterKeys := ik, callBuffer := cb, done := false }, r.2)
  | .panic => .panic
  | .ub => .ub

def mapGenB {α β γ σ : Type} (agg : σ → γ → σ × Bool) (f : α → List β → γ) (init : σ) (ind : List α) (inds : List (List β)) : R σ := do
  let n := inds.length
  let st ← each ind (mapGenBBody agg f inds.toArray)
    { res := init, iterKeys := Array.replicate n none, callBuffer := Array.replicate n none, done := false }
  pure st.res

/-- `(case ninds 0 … 1 (map-n 1 …) 2 (map-n 2 …) 3 (map-n 3 …) (do …))` -/
def mapTemplateB {α β γ σ : Type} (agg : σ → γ → σ × Bool) (f : α → List β → γ) (init : σ) (ind : List α) (inds : List (List β)) : R σ :=
  match inds.length with
  | 0 => map0B agg f init ind
  | 1 => mapNB agg f init ind inds
  | 2 => mapNB agg f init ind inds
  | 3 => mapNB agg f init ind inds
  | _ => mapGenB agg f init ind inds

/-- `(some pred ind ;inds)`; `nilv` is the value nil, `pred x row` the result of `(pred x ;row)` -/
def someOf {α β γ : Type} (truthy : γ → Bool) (nilv : γ) (pred : α → List β → γ) (ind : List α) (inds : List (List β)) : R γ :=
  mapTemplateB (someAgg truthy) pred nilv ind inds

/-- `(all pred ind ;inds)`; `truev` is the value true -/
def allOf {α β γ : Type} (truthy : γ → Bool) (truev : γ) (pred : α → List β → γ) (ind : List α) (inds : List (List β)) : R γ :=
  mapTemplateB (allAgg truthy) pred truev ind inds

/-! ## reference definitions -/

/-- the results `(f x_j ;row_j)` for the rows `j` below the length of the shortest sequence, in order -/
def rowVals {α β γ : Type} (f : α → List β → γ) (ind : List α) (inds : List (List β)) : List γ :=
  let m := (inds.map List.length).foldl min ind.length
  (List.range m).filterMap (fun j => ind[j]?.map (fun x => f x (inds.filterMap (fun c => c[j]?))))

/-- a left fold that stops after the first step that says so -/
def foldB {γ σ : Type} (agg : σ → γ → σ × Bool) : σ → List γ → σ
  | s, [] => s
  | s, v :: vs => if (agg s v).2 then (agg s v).1 else foldB agg (agg s v).1 vs

/-- reference definition of `some`: the first truthy result, nil when there is none (or a sequence is empty) -/
def someSpec {α β γ : Type} (truthy : γ → Bool) (nilv : γ) (pred : α → List β → γ) (ind : List α) (inds : List (List β)) : γ :=
  ((rowVals pred ind inds).find? truthy).getD nilv

/-- reference definition of `all`: the first falsey result, true when there is none (or a sequence is empty) -/
def allSpec {α β γ : Type} (truthy : γ → Bool) (truev : γ) (pred : α → List β → γ) (ind : List α) (inds : List (List β)) : γ :=
  ((rowVals pred ind inds).find? (fun v => !truthy v)).getD truev

end JanetModel.Lib.Boot
