/- C17: proofs about the mirror of string.c kmp_* (Lib/Kmp.lean): the failure table holds the longest proper border of
   every prefix, and `kmp_next` started at `(start, 0)` returns exactly the naive first match.  Both loops are one scan:
   `kmp_init` is `kmp_next` run on the pattern against itself from position 1. -/
import JanetModel.Lib.Kmp
import JanetModel.Lib.SpecLaws
import JanetModel.Util.List
namespace JanetModel.Lib.Kmp
open JanetModel.Lib

/-- the prefix of length `k` of `P` occurs in `Q` ending at position `m` -/
def PrefAt (P Q : Nat → Nat) (k m : Nat) : Prop := k ≤ m ∧ ∀ t, t < k → P t = Q (m - k + t)

/-- the prefix of length `k` of `P` equals the suffix of length `k` of `P[0..m)`: `PrefAt P P k m`.  `Border` and `IsLPB`
    (= `Longest P P 1`) are written out so that the statement about the table reads without the scan notions -/
def Border (P : Nat → Nat) (k m : Nat) : Prop := k ≤ m ∧ ∀ t, t < k → P t = P (m - k + t)

/-- `b` is the length of the longest proper border of `P[0..m)` -/
def IsLPB (P : Nat → Nat) (m b : Nat) : Prop :=
  b < m ∧ Border P b m ∧ ∀ k, b < k → k < m → ¬ Border P k m

/-- `j` is the greatest length of a prefix of `P` that occurs in `Q` ending at `m` and beginning at or after `s` -/
structure Longest (P Q : Nat → Nat) (s m j : Nat) : Prop where
  sj : j + s ≤ m
  pm : PrefAt P Q j m
  max : ∀ k, j < k → k + s ≤ m → ¬ PrefAt P Q k m

/-- state `(i, j)` of a scan that began at `s`: the prefix of length `j` ends at `i`, and no longer prefix ending at `i`
    is continued by `Q i` -/
structure Live (P Q : Nat → Nat) (s i j : Nat) : Prop where
  sj : j + s ≤ i
  pm : PrefAt P Q j i
  dead : ∀ k, j < k → k + s ≤ i → ¬ PrefAt P Q (k + 1) (i + 1)

section
variable {P Q : Nat → Nat} {a b k m s i j : Nat}

theorem border_iff_prefAt : Border P k m ↔ PrefAt P P k m := Iff.rfl

theorem isLPB_iff_longest : IsLPB P m b ↔ Longest P P 1 m b :=
  ⟨fun h => ⟨h.1, h.2.1, h.2.2⟩, fun h => ⟨h.sj, h.pm, h.max⟩⟩

theorem PrefAt.zero : PrefAt P Q 0 m := ⟨Nat.zero_le m, fun _ h => absurd h (Nat.not_lt_zero _)⟩

theorem prefAt_succ : PrefAt P Q (k + 1) (m + 1) ↔ PrefAt P Q k m ∧ P k = Q m := by
  simp only [PrefAt, Nat.add_sub_add_right, Nat.add_le_add_iff_right]
  constructor
  · rintro ⟨hk, h⟩
    exact ⟨⟨hk, fun t ht => h t (Nat.lt_succ_of_lt ht)⟩, Nat.sub_add_cancel hk ▸ h k (Nat.lt_succ_self k)⟩
  · rintro ⟨⟨hk, h⟩, hc⟩
    refine ⟨hk, fun t ht => ?_⟩
    rcases Nat.lt_succ_iff_lt_or_eq.1 ht with ht | rfl
    · exact h t ht
    · rw [Nat.sub_add_cancel hk]
      exact hc

/-- below a matching prefix of length `b`, the matching prefixes ending at the same place are the borders of `P[0..b)` -/
theorem PrefAt.shorter_iff (hb : PrefAt P Q b m) (hab : a ≤ b) : PrefAt P Q a m ↔ Border P a b := by
  have key : ∀ t, t < a → P (b - a + t) = Q (m - a + t) := fun t ht => by
    have hlt : b - a + t < b := by
      have := Nat.add_lt_add_left ht (b - a)
      rwa [Nat.sub_add_cancel hab] at this
    rw [hb.2 _ hlt, ← Nat.add_assoc, Nat.sub_add_sub_cancel hb.1 hab]
  exact ⟨fun h => ⟨hab, fun t ht => (h.2 t ht).trans (key t ht).symm⟩,
         fun h => ⟨Nat.le_trans hab hb.1, fun t ht => (h.2 t ht).trans (key t ht)⟩⟩

theorem Longest.live (h : Longest P Q s i j) : Live P Q s i j :=
  ⟨h.sj, h.pm, fun k hk hs hp => h.max k hk hs (prefAt_succ.1 hp).1⟩

theorem succ_add_le_succ : k + 1 + s ≤ i + 1 ↔ k + s ≤ i := by
  rw [Nat.add_right_comm, Nat.add_le_add_iff_right]

theorem Live.hit (h : Live P Q s i j) (hc : P j = Q i) : Longest P Q s (i + 1) (j + 1) := by
  refine ⟨succ_add_le_succ.2 h.sj, prefAt_succ.2 ⟨h.pm, hc⟩, fun k hk hs => ?_⟩
  cases k with
  | zero => exact absurd hk (Nat.not_lt_zero _)
  | succ k => exact h.dead k (Nat.lt_of_succ_lt_succ hk) (succ_add_le_succ.1 hs)

theorem Live.miss (h : Live P Q s i 0) (hc : P 0 ≠ Q i) : Longest P Q s (i + 1) 0 := by
  refine ⟨Nat.le_succ_of_le h.sj, PrefAt.zero, fun k hk hs hp => ?_⟩
  cases k with
  | zero => exact absurd hk (Nat.lt_irrefl _)
  | succ k =>
    cases k with
    | zero => exact hc (prefAt_succ.1 hp).2
    | succ k => exact h.dead (k + 1) (Nat.succ_pos k) (succ_add_le_succ.1 hs) hp

/-- Restart from the longest proper border `b` of a matched prefix of length `j`, none of the prefixes of length `≥ j`
    ending at `i` being continued by `Q i`.  This is the fallback `j = lookup[j - 1]` and also the state after a full match. -/
theorem Live.restart (hp : PrefAt P Q j i) (hb : IsLPB P j b) (hs : b + s ≤ i)
    (hd : ∀ k, j ≤ k → k + s ≤ i → ¬ PrefAt P Q (k + 1) (i + 1)) : Live P Q s i b := by
  refine ⟨hs, (hp.shorter_iff (Nat.le_of_lt hb.1)).2 hb.2.1, fun k hk hsk hq => ?_⟩
  rcases Nat.lt_or_ge k j with hkj | hjk
  · exact hb.2.2 k hk hkj ((hp.shorter_iff (Nat.le_of_lt hkj)).1 (prefAt_succ.1 hq).1)
  · exact hd k hjk hsk hq

theorem Live.fallback (h : Live P Q s i j) (hc : P j ≠ Q i) (hb : IsLPB P j b) : Live P Q s i b := by
  refine Live.restart h.pm hb (Nat.le_trans (Nat.add_le_add_right (Nat.le_of_lt hb.1) s) h.sj) fun k hjk hsk hq => ?_
  rcases Nat.eq_or_lt_of_le hjk with rfl | hlt
  · exact hc (prefAt_succ.1 hq).2
  · exact h.dead k hlt hsk hq

end

theorem getD_replicate_zero (n k : Nat) : (Array.replicate n 0).getD k 0 = 0 := by
  rw [Array.getD_eq_getD_getElem?, Array.getElem?_replicate]
  split <;> rfl

theorem isLPB_one (P : Nat → Nat) : IsLPB P 1 0 :=
  ⟨Nat.zero_lt_one, border_iff_prefAt.2 PrefAt.zero, fun _ h1 h2 => absurd (Nat.lt_of_le_of_lt h1 h2) (Nat.lt_irrefl 1)⟩

theorem IsLPB.live {P : Nat → Nat} {m b : Nat} (h : IsLPB P m b) : Live P P 1 m b :=
  (isLPB_iff_longest.1 h).live

/-- The inner `while (j && pat[j] != pat[i]) j = lookup[j - 1]` of `kmp_init`, followed by `if (pat[j] == pat[i]) j++`,
    finds the longest proper border of `pat[0..i]`. -/
theorem initInner_spec (pat lookup : Array Nat) (i : Nat)
    (htab : ∀ m, 1 ≤ m → m < i → IsLPB (fun k => pat.getD k 0) m (lookup.getD (m - 1) 0))
    (fuel j : Nat) (hf : j < fuel) (h : Live (fun k => pat.getD k 0) (fun k => pat.getD k 0) 1 i j) :
    let j1 := initInner pat lookup (pat.getD i 0) fuel j
    IsLPB (fun k => pat.getD k 0) (i + 1) (if pat.getD j1 0 = pat.getD i 0 then j1 + 1 else j1) := by
  induction fuel generalizing j with
  | zero => exact absurd hf (Nat.not_lt_zero _)
  | succ n ih =>
    rw [initInner]
    by_cases hcond : j ≠ 0 ∧ pat.getD j 0 ≠ pat.getD i 0
    · rw [if_pos hcond]
      have hb := htab j (Nat.pos_of_ne_zero hcond.1) h.sj
      exact ih _ (Nat.lt_of_lt_of_le hb.1 (Nat.le_of_lt_succ hf)) (h.fallback hcond.2 hb)
    · rw [if_neg hcond]
      by_cases hc : pat.getD j 0 = pat.getD i 0
      · simp only [if_pos hc]
        exact isLPB_iff_longest.2 (h.hit hc)
      · simp only [if_neg hc]
        obtain rfl : j = 0 := Decidable.not_not.1 fun h0 => hcond ⟨h0, hc⟩
        exact isLPB_iff_longest.2 (h.miss hc)

/-- invariant of the outer `for (i = 1, j = 0; i < patlen; i++)` loop -/
structure TableInv (pat lookup : Array Nat) (i j : Nat) : Prop where
  size : lookup.size = pat.size
  pos : 1 ≤ i
  lpb : ∀ m, 1 ≤ m → m ≤ i → IsLPB (fun k => pat.getD k 0) m (lookup.getD (m - 1) 0)
  cur : j = lookup.getD (i - 1) 0

theorem TableInv.step {pat lookup : Array Nat} {i j b : Nat} (h : TableInv pat lookup i j) (hi : i < pat.size)
    (hb : IsLPB (fun k => pat.getD k 0) (i + 1) b) : TableInv pat (lookup.setIfInBounds i b) (i + 1) b := by
  have hset : (lookup.setIfInBounds i b).getD (i + 1 - 1) 0 = b := Util.Array.getD_setIfInBounds_self _ b 0 (h.size ▸ hi)
  refine ⟨Array.size_setIfInBounds.trans h.size, Nat.succ_pos i, fun m h1 h2 => ?_, hset.symm⟩
  rcases Nat.eq_or_lt_of_le h2 with rfl | hlt
  · rw [hset]
    exact hb
  · rw [Util.Array.getD_setIfInBounds_ne _ _ _ (Nat.ne_of_gt (Nat.sub_one_lt_of_le h1 (Nat.le_of_lt_succ hlt)))]
    exact h.lpb m h1 (Nat.le_of_lt_succ hlt)

theorem TableInv.done {pat lookup : Array Nat} {i j : Nat} (h : TableInv pat lookup i j) (hi : pat.size ≤ i) :
    lookup.size = pat.size ∧ ∀ m, 1 ≤ m → m ≤ pat.size → IsLPB (fun k => pat.getD k 0) m (lookup.getD (m - 1) 0) :=
  ⟨h.size, fun m h1 h2 => h.lpb m h1 (Nat.le_trans h2 hi)⟩

theorem initLoop_spec (pat : Array Nat) (fuel i j : Nat) (lookup : Array Nat)
    (hf : pat.size ≤ i + fuel) (hinv : TableInv pat lookup i j) :
    let T := initLoop pat fuel i j lookup
    T.size = pat.size ∧ ∀ m, 1 ≤ m → m ≤ pat.size → IsLPB (fun k => pat.getD k 0) m (T.getD (m - 1) 0) := by
  induction fuel generalizing i j lookup with
  | zero => exact hinv.done hf
  | succ n ih =>
    rw [initLoop]
    by_cases hlt : i < pat.size
    · rw [if_pos hlt]
      refine ih _ _ _ (by rw [Nat.add_right_comm]; exact hf) (hinv.step hlt ?_)
      exact initInner_spec pat lookup i (fun m h1 h2 => hinv.lpb m h1 (Nat.le_of_lt h2)) (j + 1) j (Nat.lt_succ_self j)
        (hinv.cur ▸ hinv.lpb i hinv.pos (Nat.le_refl i)).live
    · rw [if_neg hlt]
      exact hinv.done (Nat.le_of_not_lt hlt)

/-- `kmp_init`: entry `m-1` of the table is the longest proper border of the prefix of length `m`. -/
theorem lookupTable_spec (pat : Array Nat) :
    (lookupTable pat).size = pat.size ∧
    ∀ m, 1 ≤ m → m ≤ pat.size → IsLPB (fun k => pat.getD k 0) m ((lookupTable pat).getD (m - 1) 0) := by
  refine initLoop_spec pat pat.size 1 0 _ (Nat.le_add_left _ _)
    ⟨Array.size_replicate, Nat.le_refl 1, fun m h1 h2 => ?_, (getD_replicate_zero _ _).symm⟩
  rw [getD_replicate_zero, Nat.le_antisymm h2 h1]
  exact isLPB_one _

/-- the pattern occurs in the text at offset `r` (array / index form) -/
def MatchA (pat text : Array Nat) (r : Nat) : Prop :=
  r + pat.size ≤ text.size ∧ ∀ t, t < pat.size → pat.getD t 0 = text.getD (r + t) 0

theorem matchA_iff {pat text : Array Nat} {r : Nat} : MatchA pat text r ↔
    r + pat.size ≤ text.size ∧ PrefAt (fun k => pat.getD k 0) (fun k => text.getD k 0) pat.size (r + pat.size) := by
  simp only [MatchA, PrefAt, Nat.add_sub_cancel, Nat.le_add_left, true_and]

/-- loop invariant of `kmp_next` for a search that began at `(start, 0)`: the scan state, and no occurrence at or after
    `start` ends at or before `i` -/
structure NInv (pat text : Array Nat) (start i j : Nat) : Prop
    extends Live (fun k => pat.getD k 0) (fun k => text.getD k 0) start i j where
  jlt : j < pat.size
  ile : i ≤ text.size
  none_before : ∀ r, start ≤ r → r + pat.size ≤ i → ¬ MatchA pat text r

section
variable {pat text : Array Nat} {s i j b : Nat}

theorem NInv.advance {j' : Nat} (h : NInv pat text s i j) (hi : i < text.size) (hj : j' < pat.size)
    (hl : Longest (fun k => pat.getD k 0) (fun k => text.getD k 0) s (i + 1) j') : NInv pat text s (i + 1) j' :=
  { hl.live with
    jlt := hj, ile := hi
    none_before := fun r h1 h2 hm => by
      rcases Nat.eq_or_lt_of_le h2 with e | hlt
      · refine hl.max _ hj ?_ (e ▸ (matchA_iff.1 hm).2)
        rw [← e, Nat.add_comm r]
        exact Nat.add_le_add_left h1 _
      · exact h.none_before r h1 (Nat.le_of_lt_succ hlt) hm }

theorem NInv.fallback (h : NInv pat text s i j) (hc : pat.getD j 0 ≠ text.getD i 0)
    (hb : IsLPB (fun k => pat.getD k 0) j b) : NInv pat text s i b :=
  { h.toLive.fallback hc hb with jlt := Nat.lt_trans hb.1 h.jlt, ile := h.ile, none_before := h.none_before }

theorem NInv.found {r : Nat} (h : NInv pat text s (r + j) j) (hi : r + j < text.size) (hc : pat.getD j 0 = text.getD (r + j) 0)
    (hj : j + 1 = pat.size) : s ≤ r ∧ MatchA pat text r ∧ ∀ r', s ≤ r' → r' < r → ¬ MatchA pat text r' := by
  have hp := (h.hit hc).pm
  rw [hj, Nat.add_assoc, hj] at hp
  refine ⟨?_, matchA_iff.2 ⟨?_, hp⟩, fun r' h1 h2 => h.none_before r' h1 ?_⟩
  · exact Nat.le_of_add_le_add_left (Nat.add_comm r j ▸ h.sj)
  · rw [← hj]
    exact hi
  · rw [← hj, ← Nat.add_assoc, Nat.add_right_comm]
    exact Nat.add_le_add_right h2 j

theorem NInv.no_match (h : NInv pat text s i j) (hi : text.size ≤ i) (r : Nat) (hr : s ≤ r) : ¬ MatchA pat text r :=
  fun hm => h.none_before r hr (Nat.le_trans hm.1 hi) hm

end

theorem next_fuel_step {N i j n : Nat} (hi : i < N) (hf : 2 * (N - i) + j < n + 1) : 2 * (N - (i + 1)) + (j + 1) < n := by
  omega

theorem next_spec (pat text T : Array Nat) (start : Nat)
    (hT : ∀ m, 1 ≤ m → m ≤ pat.size → IsLPB (fun k => pat.getD k 0) m (T.getD (m - 1) 0))
    (fuel : Nat) (s : State) (hinv : NInv pat text start s.i s.j) (hf : 2 * (text.size - s.i) + s.j < fuel) :
    match next text pat T fuel s with
    | (some r, s') => start ≤ r ∧ MatchA pat text r ∧ (∀ r', start ≤ r' → r' < r → ¬ MatchA pat text r') ∧
                       s' = { i := r + pat.size, j := T.getD (pat.size - 1) 0 }
    | (none, _) => ∀ r', start ≤ r' → ¬ MatchA pat text r' := by
  induction fuel generalizing s with
  | zero => exact absurd hf (Nat.not_lt_zero _)
  | succ n ih =>
    obtain ⟨i, j⟩ := s
    have hjn : j = pat.size - 1 ↔ j + 1 = pat.size :=
      ⟨fun e => e ▸ Nat.sub_add_cancel (Nat.zero_lt_of_lt hinv.jlt), Nat.eq_sub_of_add_eq⟩
    rw [next]
    by_cases hlt : i < text.size
    · rw [if_pos hlt]
      by_cases hc : text.getD i 0 = pat.getD j 0
      · rw [if_pos hc]
        by_cases hlast : j = pat.size - 1
        · rw [if_pos hlast]
          obtain ⟨r, rfl⟩ : ∃ r, i = r + j := ⟨i - j, (Nat.sub_add_cancel hinv.pm.1).symm⟩
          obtain ⟨h1, h2, h3⟩ := hinv.found hlt hc.symm (hjn.1 hlast)
          rw [Nat.add_sub_cancel]
          exact ⟨h1, h2, h3, by rw [← hlast, ← hjn.1 hlast, Nat.add_assoc]⟩
        · rw [if_neg hlast]
          exact ih ⟨i + 1, j + 1⟩ (hinv.advance hlt (Nat.lt_of_le_of_ne hinv.jlt (mt hjn.2 hlast)) (hinv.hit hc.symm))
            (next_fuel_step hlt hf)
      · rw [if_neg hc]
        by_cases hj : j > 0
        · rw [if_pos hj]
          have hb := hT j hj (Nat.le_of_lt hinv.jlt)
          exact ih ⟨i, _⟩ (hinv.fallback (Ne.symm hc) hb)
            (Nat.lt_of_lt_of_le (Nat.add_lt_add_left hb.1 _) (Nat.le_of_lt_succ hf))
        · rw [if_neg hj]
          obtain rfl : j = 0 := Nat.eq_zero_of_not_pos hj
          exact ih ⟨i + 1, 0⟩ (hinv.advance hlt hinv.jlt (hinv.miss (Ne.symm hc)))
            (Nat.lt_of_le_of_lt (Nat.le_add_right _ _) (next_fuel_step hlt hf))
    · rw [if_neg hlt]
      exact hinv.no_match (Nat.le_of_not_lt hlt)

theorem toArray_getD (l : List Nat) (k : Nat) : l.toArray.getD k 0 = l.getD k 0 := by
  simp [Array.getD_eq_getD_getElem?, List.getD_eq_getElem?_getD]

theorem matchAt_iff_MatchA (pat text : Bytes) (r : Nat) :
    matchAt pat text r = true ↔ MatchA pat.toArray text.toArray r := by
  rw [matchAt_iff]
  unfold MatchA
  simp only [List.size_toArray, toArray_getD]
  refine and_congr_right fun h1 => ⟨fun h2 t ht => ?_, fun h2 => ?_⟩
  · rw [← List.getElem_eq_getD 0 (h := ht), ← List.getElem_eq_getD 0 (h := Nat.lt_of_lt_of_le (Nat.add_lt_add_left ht r) h1),
      List.getElem_of_eq h2.symm ht, List.getElem_take, List.getElem_drop]
  · refine List.ext_getElem (by rw [List.length_take, List.length_drop]; omega) fun t ht1 ht2 => ?_
    rw [List.getElem_take, List.getElem_drop, List.getElem_eq_getD 0, List.getElem_eq_getD 0]
    exact (h2 t ht2).symm

theorem findFrom_eq_some {pat text : Bytes} {start r : Nat} (h1 : start ≤ r) (h2 : MatchA pat.toArray text.toArray r)
    (h3 : ∀ r', start ≤ r' → r' < r → ¬ MatchA pat.toArray text.toArray r') : findFrom pat text start = some r := by
  have hm := (matchAt_iff_MatchA pat text r).2 h2
  cases hf : findFrom pat text start with
  | none => exact absurd ((findFrom_none hf r h1).symm.trans hm) Bool.false_ne_true
  | some r0 =>
    obtain ⟨g1, g2, g3⟩ := findFrom_some hf
    rcases Nat.lt_trichotomy r0 r with h | rfl | h
    · exact absurd ((matchAt_iff_MatchA pat text r0).1 g2) (h3 r0 g1 h)
    · rfl
    · exact absurd ((g3 r h1 h).symm.trans hm) Bool.false_ne_true

theorem findFrom_eq_none {pat text : Bytes} {start : Nat} (h : ∀ r, start ≤ r → ¬ MatchA pat.toArray text.toArray r) :
    findFrom pat text start = none := by
  cases hf : findFrom pat text start with
  | none => rfl
  | some r =>
    obtain ⟨g1, g2, _⟩ := findFrom_some hf
    exact absurd ((matchAt_iff_MatchA pat text r).1 g2) (h r g1)

theorem findFrom_past_end (pat : Bytes) {text : Bytes} {start : Nat} (h : text.length < start) : findFrom pat text start = none := by
  unfold findFrom
  rw [Nat.sub_eq_zero_of_le h]
  rfl

/-- one `kmp_next` call from a state satisfying the invariant: its result is the naive first match at an index `≥ start`,
    and after a match the machine is in state `(r + patlen, lookup[patlen-1])` -/
theorem kmpNext_spec (pat text : Bytes) (start : Nat) (s : State)
    (hinv : NInv pat.toArray text.toArray start s.i s.j) :
    (kmpNext text.toArray pat.toArray (lookupTable pat.toArray) s).1 = findFrom pat text start ∧
    ∀ r, (kmpNext text.toArray pat.toArray (lookupTable pat.toArray) s).1 = some r →
      (kmpNext text.toArray pat.toArray (lookupTable pat.toArray) s).2
        = { i := r + pat.toArray.size, j := (lookupTable pat.toArray).getD (pat.toArray.size - 1) 0 } := by
  have hspec := next_spec pat.toArray text.toArray (lookupTable pat.toArray) start
    (lookupTable_spec pat.toArray).2 (nextFuel text.toArray s) s hinv (by simp only [nextFuel]; omega)
  unfold kmpNext
  generalize next text.toArray pat.toArray (lookupTable pat.toArray) (nextFuel text.toArray s) s = res at hspec
  obtain ⟨_ | r, s'⟩ := res
  · exact ⟨(findFrom_eq_none hspec).symm, fun r hr => nomatch hr⟩
  · obtain ⟨h1, h2, h3, h4⟩ := hspec
    exact ⟨(findFrom_eq_some h1 h2 h3).symm, fun r' hr' => Option.some.inj hr' ▸ h4⟩

theorem ninv_init (pat text : Bytes) (hp : pat ≠ []) (start : Nat) (hs : start ≤ text.length) :
    NInv pat.toArray text.toArray start start 0 where
  sj := Nat.le_of_eq (Nat.zero_add _)
  pm := PrefAt.zero
  dead _ h1 h2 := absurd h2 (Nat.not_le.2 (Nat.lt_add_of_pos_left h1))
  jlt := List.length_pos_iff.2 hp
  ile := hs
  none_before _ h1 h2 := absurd (Nat.le_trans h2 h1) (Nat.not_le.2 (Nat.lt_add_of_pos_right (List.length_pos_iff.2 hp)))

theorem next_past_end (text pat T : Array Nat) (fuel : Nat) (s : State) (h : text.size ≤ s.i) :
    next text pat T fuel s = (none, s) := by
  cases fuel with
  | zero => rfl
  | succ n => rw [next, if_neg (Nat.not_lt.2 h)]

theorem kmpNext_past_end (pat text : Bytes) (s : State) (hs : text.length ≤ s.i) :
    (kmpNext text.toArray pat.toArray (lookupTable pat.toArray) s).1 = none :=
  congrArg Prod.fst (next_past_end _ _ _ _ s hs)

theorem kmpNext_fresh (pat text : Bytes) (st : Nat) (hp : pat ≠ []) :
    (kmpNext text.toArray pat.toArray (lookupTable pat.toArray) { i := st, j := 0 }).1 = findFrom pat text st := by
  rcases Nat.lt_or_ge text.length st with hs | hs
  · rw [kmpNext_past_end pat text _ (Nat.le_of_lt hs), findFrom_past_end pat hs]
  · exact (kmpNext_spec pat text st { i := st, j := 0 } (ninv_init pat text hp st hs)).1

/-- `kmp_eq_naive` for `string/find`: the KMP state machine of string.c (failure table built by `kmp_init`, search by
    `kmp_next` from `(start, 0)`) returns exactly the least occurrence at an index `≥ start`, or nothing when there is none. -/
theorem find_eq_naive (pat text : Bytes) (start : Nat) (hp : pat ≠ []) :
    Kmp.find pat text start = findFrom pat text start :=
  kmpNext_fresh pat text start hp

theorem replaceAllLoop_eq (pat subst text : Bytes) (hp : pat ≠ []) (fuel last st : Nat) :
    replaceAllLoop text.toArray pat.toArray (lookupTable pat.toArray) text subst fuel last { i := st, j := 0 }
      = replaceAllAux pat subst text fuel last st := by
  induction fuel generalizing last st with
  | zero => rfl
  | succ n ih =>
    unfold replaceAllLoop replaceAllAux
    rw [← kmpNext_fresh pat text st hp]
    generalize kmpNext text.toArray pat.toArray (lookupTable pat.toArray) { i := st, j := 0 } = res
    obtain ⟨_ | r, s'⟩ := res
    · rfl
    · simp only [List.size_toArray, ih]

theorem replaceAll_eq_naive (pat subst text : Bytes) (start : Nat) (hp : pat ≠ []) :
    some (Kmp.replaceAll pat subst text start) = JanetModel.Lib.replaceAll pat subst text start := by
  rw [JanetModel.Lib.replaceAll, if_neg hp, ← replaceAllLoop_eq pat subst text hp]
  rfl

theorem splitLoop_eq (pat text : Bytes) (hp : pat ≠ []) (fuel last st : Nat) (limit : Int) :
    splitLoop text.toArray pat.toArray (lookupTable pat.toArray) text fuel last { i := st, j := 0 } limit
      = splitAux pat text fuel last st limit := by
  induction fuel generalizing last st limit with
  | zero => rfl
  | succ n ih =>
    unfold splitLoop splitAux
    rw [← kmpNext_fresh pat text st hp]
    generalize kmpNext text.toArray pat.toArray (lookupTable pat.toArray) { i := st, j := 0 } = res
    obtain ⟨_ | r, s'⟩ := res
    · rfl
    · simp only [List.size_toArray, ih]

theorem split_eq_naive (pat text : Bytes) (start : Nat) (limit : Int) (hp : pat ≠ []) :
    some (Kmp.split pat text start limit) = JanetModel.Lib.split pat text start limit := by
  rw [JanetModel.Lib.split, if_neg hp, ← splitLoop_eq pat text hp]
  rfl

theorem findAllAux_unfold (pat text : Bytes) (fuel i e : Nat) (he : i + fuel = e) :
    findAllAux pat text i fuel =
      match findFromAux pat text i fuel with
      | none => []
      | some r => r :: findAllAux pat text (r + 1) (e - (r + 1)) := by
  induction fuel generalizing i with
  | zero => rfl
  | succ n ih =>
    rw [findAllAux, findFromAux]
    by_cases hm : matchAt pat text i = true
    · have : e - (i + 1) = n := Nat.sub_eq_of_eq_add (he.symm.trans (Nat.add_left_comm i n 1))
      rw [if_pos hm, if_pos hm]
      show _ = i :: findAllAux pat text (i + 1) (e - (i + 1))
      rw [this]
    · rw [if_neg hm, if_neg hm]
      exact ih (i + 1) (by rw [← he, Nat.add_right_comm, Nat.add_assoc])

theorem findAll_unfold (pat text : Bytes) (start : Nat) :
    JanetModel.Lib.findAll pat text start =
      match findFrom pat text start with
      | none => []
      | some r => r :: JanetModel.Lib.findAll pat text (r + 1) := by
  unfold JanetModel.Lib.findAll findFrom
  rcases Nat.le_total start (text.length + 1) with h | h
  · exact findAllAux_unfold pat text _ _ _ (Nat.add_sub_cancel' h)
  · rw [Nat.sub_eq_zero_of_le h]
    rfl

/-- after a match at `r`, `kmp_next` leaves the state `(r + patlen, lookup[patlen-1])`, from which the search for
    occurrences at or after `r + 1` goes on -/
theorem ninv_after_match (pat text : Array Nat) (b r : Nat)
    (hb : IsLPB (fun k => pat.getD k 0) pat.size b) (hm : MatchA pat text r) :
    NInv pat text (r + 1) (r + pat.size) b :=
  { Live.restart (matchA_iff.1 hm).2 hb (by rw [Nat.add_left_comm]; exact Nat.add_le_add_left hb.1 r)
      fun k h1 h2 _ => Nat.not_le.2 (Nat.le_of_add_le_add_left (Nat.add_left_comm k r 1 ▸ h2)) h1 with
    jlt := hb.1, ile := hm.1
    none_before := fun r' h1 h2 => absurd (Nat.le_of_add_le_add_right h2) (Nat.not_le.2 h1) }

theorem findAllLoop_eq (pat text : Bytes) (hp : pat ≠ []) (fuel start : Nat) (s : State)
    (hinv : NInv pat.toArray text.toArray start s.i s.j) (hf : text.length < start + fuel) :
    findAllLoop text.toArray pat.toArray (lookupTable pat.toArray) fuel s = JanetModel.Lib.findAll pat text start := by
  induction fuel generalizing start s with
  | zero => exact absurd (Nat.le_trans (Nat.le_trans (Nat.le_add_left _ _) hinv.sj) hinv.ile) (Nat.not_le.2 hf)
  | succ n ih =>
    unfold findAllLoop
    obtain ⟨h1, h2⟩ := kmpNext_spec pat text start s hinv
    rw [findAll_unfold, ← h1]
    generalize kmpNext text.toArray pat.toArray (lookupTable pat.toArray) s = res at h1 h2
    obtain ⟨_ | r, s'⟩ := res
    · rfl
    · obtain rfl := h2 r rfl
      obtain ⟨g1, g2, _⟩ := findFrom_some h1.symm
      have hn : 0 < pat.toArray.size := List.length_pos_iff.2 hp
      have hinv' := ninv_after_match pat.toArray text.toArray _ r
        ((lookupTable_spec pat.toArray).2 _ hn (Nat.le_refl _)) ((matchAt_iff_MatchA pat text r).1 g2)
      exact congrArg (List.cons r) (ih (r + 1) ⟨_, _⟩ hinv' (by omega))

theorem findAllLoop_fresh (pat text : Bytes) (hp : pat ≠ []) (start fuel : Nat) (hf : text.length < start + fuel) :
    findAllLoop text.toArray pat.toArray (lookupTable pat.toArray) fuel ⟨start, 0⟩ = JanetModel.Lib.findAll pat text start := by
  rcases Nat.lt_or_ge text.length start with hs | hs
  · rw [findAll_unfold, findFrom_past_end pat hs]
    cases fuel with
    | zero => rfl
    | succ n => simp only [findAllLoop, kmpNext, next_past_end text.toArray _ _ _ ⟨start, 0⟩ (Nat.le_of_lt hs)]
  · exact findAllLoop_eq pat text hp fuel start _ (ninv_init pat text hp start hs) hf

/-- `kmp_eq_naive` for `string/find-all` (overlapping occurrences included) -/
theorem findAll_eq_naive (pat text : Bytes) (start : Nat) (hp : pat ≠ []) :
    Kmp.findAll pat text start = JanetModel.Lib.findAll pat text start :=
  findAllLoop_fresh pat text hp start _ (Nat.lt_add_left _ (Nat.lt_succ_self _))

end JanetModel.Lib.Kmp
