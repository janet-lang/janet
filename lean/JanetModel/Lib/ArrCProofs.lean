import JanetModel.Lib.ArrC
import JanetModel.Lib.SpecLaws
/- C17: the cfuns of array.c / tuple.c mirrored in Lib/ArrC.lean (insert, remove, slice, concat incl. an array onto itself,
   tuple/join) compute the reference definitions: index decode, range errors, the clamp of `n`, every copy inside the block. -/
namespace JanetModel.Lib.ArrC
open JanetModel.Lib JanetModel.Lib.CLoop

/-- `if (restsize) memmove(…)`: a `memmove` of no cells does nothing anyway -/
theorem memmove_if {α : Type} (d : Array α) (doff soff n : Int) :
    (if n ≠ 0 then memmove d doff soff n.toNat else pure d : R (Array α)) = memmove d doff soff n.toNat := by
  split
  · rfl
  · next h =>
    rw [Decidable.not_not.1 h]
    rfl

/-- `memmove(data + at + n, data + at, restsize); memcpy(data + at, xs, chunksize)` on the grown block `p ++ q ++ junk` -/
theorem insert_moves {α β : Type} (p q xs J : List α) (hJ : J.length = xs.length) (k : Array α → R β) :
    (do let d ← memmove (p ++ q ++ J).toArray ((p.length + xs.length : Nat) : Int) (p.length : Int) q.length
        let d ← memcpy d (p.length : Int) xs.toArray 0 xs.length
        k d) = k (p ++ xs ++ q).toArray := by
  have hT : (List.take xs.length (q ++ J)).length = xs.length := by
    rw [List.length_take, List.length_append]
    omega
  -- the tail `q` moves up by `xs.length` cells; the gap keeps stale cells until the copy fills it
  have h1 := memcpy_cursor (p ++ List.take xs.length (q ++ J)) (List.drop xs.length (q ++ J)) (p ++ q ++ J).toArray
    (p.length + xs.length) p.length q.length (by rw [List.length_append, hT])
    (by simp only [List.size_toArray, List.length_append]; omega) (by simp only [List.length_drop, List.length_append]; omega)
  rw [List.append_assoc p, List.take_append_drop, List.toList_toArray, List.append_assoc p q, List.drop_left' rfl,
    List.take_left' rfl, List.drop_drop, List.drop_of_length_le (by rw [List.length_append]; omega), List.append_nil,
    List.append_assoc p] at h1
  have h2 := memcpy_cursor_whole p (List.take xs.length (q ++ J) ++ q) xs p.length rfl
    (by rw [List.length_append, hT]; exact Nat.le_add_right _ _)
  rw [List.drop_left' hT] at h2
  rw [List.append_assoc p q J, memmove, h1, R.ok_bind, h2, R.ok_bind]

/-- `array/insert arr at & xs` for EVERY `at`: non-int32 / out-of-range index raises; negative `at` counts from one past
    the end; the decode `count + at + 1` never overflows; `memmove` of the tail and `memcpy` of the new elements stay
    inside the grown block; the result is `take at ++ xs ++ drop at`.  (Hypothesis: the new length fits an int32 — otherwise
    the C raises "array overflow".) -/
theorem insert_eq_spec {α : Type} [Inhabited α] (a : List α) (at_ : Int) (xs : List α)
    (hlen : (a.length : Int) + (xs.length : Int) ≤ int32Max) :
    ArrC.insert a at_ xs = R.ofOption (arrayInsert a at_ xs) := by
  unfold ArrC.insert arrayInsert
  rw [getinteger_eq]
  cases hg : getInt32 at_ with
  | none => rfl
  | some raw =>
    unfold int32Max at hlen
    have hdec : (if raw < 0 then (do let t ← add32 (a.length : Int) raw; add32 t 1) else pure raw : R Int)
        = .ok (if raw < 0 then (a.length : Int) + raw + 1 else raw) := by
      have := getInt32_some hg
      split
      · rw [add32_ok (by omega), R.ok_bind, add32_ok (by omega)]
      · rfl
    simp only [R.ofOption_some, R.ok_bind, hdec]
    generalize (if raw < 0 then (a.length : Int) + raw + 1 else raw) = i
    by_cases hr : i < 0 ∨ i > (a.length : Int)
    · rw [if_pos hr, if_pos hr]
      rfl
    · obtain ⟨k, rfl⟩ : ∃ k : Nat, i = (k : Int) := ⟨i.toNat, by omega⟩
      obtain ⟨p, q, rfl, rfl⟩ : ∃ p q, a = p ++ q ∧ p.length = k :=
        ⟨a.take k, a.drop k, (List.take_append_drop k a).symm, List.length_take_of_le (by omega)⟩
      have hov : ¬ (int32Max - (xs.length : Int) < ((p ++ q).length : Int)) := by unfold int32Max; omega
      rw [if_neg hr, if_neg hr, if_neg hov, memmove_if]
      have hrest : ((p ++ q).length : Int) - (p.length : Int) = (q.length : Int) := by rw [List.length_append]; omega
      rw [hrest, Int.toNat_natCast, ← Int.natCast_add]
      rw [← List.toArray_replicate, List.append_toArray, insert_moves p q xs _ List.length_replicate]
      simp only [R.pure_eq, R.ofOption_some, Int.toNat_natCast]
      rw [List.take_left' rfl, List.drop_left' rfl, List.take_of_length_le (by simp only [List.length_append]; omega)]

example : ArrC.insert [1, 2, 3] (-1) [9, 8] = .ok [1, 2, 3, 9, 8] ∧ ArrC.insert [1, 2, 3] 1 [9] = .ok [1, 9, 2, 3]
    ∧ ArrC.insert [1, 2, 3] (-5) [9] = .panic ∧ ArrC.insert [1, 2] 4294967296 [9] = .panic := by decide +kernel

theorem clamp_nat (w d : Nat) : (if (w : Int) > (d : Int) then (d : Int) else (w : Int)) = ((min w d : Nat) : Int) := by
  split
  · next h => rw [Nat.min_eq_right (by omega)]
  · next h => rw [Nat.min_eq_left (by omega)]

theorem drop_clamp {α : Type} (a : List α) (k w : Nat) (hk : k ≤ a.length) :
    a.drop (k + min w (a.length - k)) = a.drop (k + w) := by
  rcases Nat.le_total w (a.length - k) with h | h
  · rw [Nat.min_eq_left h]
  · rw [Nat.min_eq_right h, Nat.add_sub_cancel' hk, List.drop_length, List.drop_of_length_le (by omega)]

/-- `memmove(data + at, data + at + n, (count - at - n) * sizeof(Janet))` closes the gap -/
theorem remove_move {α : Type} (a : List α) (k m : Nat) (h : k + m ≤ a.length) :
    memmove a.toArray (k : Int) ((k + m : Nat) : Int) (a.length - k - m)
      = .ok (a.take k ++ a.drop (k + m) ++ (a.drop k).drop (a.length - k - m)).toArray := by
  have := memcpy_cursor (a.take k) (a.drop k) a.toArray k (k + m) (a.length - k - m)
    (List.length_take_of_le (by omega)) (by rw [List.size_toArray]; omega) (by rw [List.length_drop]; omega)
  rw [List.take_append_drop] at this
  rw [memmove, this, List.toList_toArray, List.take_of_length_le (l := a.drop (k + m)) (by rw [List.length_drop]; omega)]

theorem decodeN_eq (n : Option Int) : decodeN n
    = (match getInt32 (n.getD 1) with | none => R.panic | some v => if v < 0 then R.panic else R.ok v) := by
  cases n with
  | none => rfl
  | some x =>
    simp only [decodeN, Option.getD_some, getinteger_eq]
    cases getInt32 x <;> rfl

/-- `array/remove arr at &opt n` for EVERY int32 `at` and `n` (e.g. `n = 2147483647`): errors for an out-of-range index
    or a negative `n`; `n` is clamped to the elements available, so neither `at + n` nor `count - at - n` overflows and
    the `memmove` stays inside the array; the result is `take at ++ drop (at + n)`. -/
theorem remove_eq_spec {α : Type} (a : List α) (at_ : Int) (n : Option Int) (hL : Len32 a) :
    ArrC.remove a at_ n = R.ofOption (arrayRemove a at_ (n.getD 1)) := by
  unfold ArrC.remove
  rw [getinteger_eq, decodeN_eq, arrayRemove_eq]
  cases hg : getInt32 at_ with
  | none => rfl
  | some raw =>
    have hL' : a.length ≤ 2147483647 := Int.ofNat_le.1 hL
    have hdec : (if raw < 0 then add32 (a.length : Int) raw else pure raw : R Int)
        = .ok (if raw < 0 then (a.length : Int) + raw else raw) := by
      have := getInt32_some hg
      split
      · exact add32_ok (by omega)
      · rfl
    simp only [R.ofOption_some, R.ok_bind, hdec]
    generalize (if raw < 0 then (a.length : Int) + raw else raw) = i
    by_cases hr : i < 0 ∨ i > (a.length : Int)
    · rw [if_pos hr, if_pos hr]
      rfl
    · rw [if_neg hr, if_neg hr]
      cases hgn : getInt32 (n.getD 1) with
      | none => rfl
      | some v =>
        by_cases hvn : v < 0
        · simp only [if_pos hvn]
          rfl
        · have hv := getInt32_some hgn
          obtain ⟨k, rfl⟩ : ∃ k : Nat, i = (k : Int) := ⟨i.toNat, by omega⟩
          obtain ⟨w, rfl⟩ : ∃ w : Nat, v = (w : Int) := ⟨v.toNat, by omega⟩
          have hk : k ≤ a.length := by omega
          simp only [if_neg hvn, R.ok_bind, R.ofOption_some, sub32_nat _ _ hk hL', clamp_nat, Int.toNat_natCast,
            ← drop_clamp a k w hk]
          generalize hm : min w (a.length - k) = m
          have ⟨b1, b2, b3, b4, b5⟩ : k + m ≤ 2147483647 ∧ m ≤ a.length - k ∧ a.length - k ≤ 2147483647 ∧ m ≤ a.length
              ∧ k + m ≤ a.length := by omega
          by_cases hm0 : (m : Int) > 0
          · simp only [if_pos hm0, add32_nat _ _ b1, sub32_nat _ _ b2 b3, sub32_nat _ _ b4 hL', R.ok_bind, natCast_not_neg,
              if_false, Int.toNat_natCast, remove_move a k m b5, R.pure_eq]
            rw [List.take_left' (by rw [List.length_append, List.length_take_of_le hk, List.length_drop]; omega)]
          · obtain rfl : m = 0 := by omega
            simp only [if_neg hm0, R.pure_eq, Nat.add_zero, List.take_append_drop]

example : ArrC.remove [1, 2, 3] 1 (some 2147483647) = .ok [1] ∧ ArrC.remove [1, 2, 3] (-1) none = .ok [1, 2]
    ∧ ArrC.remove [1, 2, 3] 3 none = .ok [1, 2, 3] ∧ ArrC.remove [1, 2, 3] 4 none = .panic
    ∧ ArrC.remove [1, 2, 3] 0 (some (-1)) = .panic := by decide +kernel

theorem slice_eq_spec {α : Type} [Inhabited α] (l : List α) (st en : Option Int) :
    ArrC.slice l st en = R.ofOption (Lib.slice l st en) := by
  unfold ArrC.slice Lib.slice
  cases hg : getslice st en l.length with
  | none => rfl
  | some ab =>
    obtain ⟨a, b⟩ := ab
    obtain ⟨hab, hbl⟩ := getslice_some hg
    have hnn : ¬ ((b : Int) - (a : Int) < 0) := by omega
    simp only [hnn, if_false, R.ofOption_some]
    have := memcpy_spec (Array.replicate (b - a) (default : α)) l.toArray 0 a (b - a) (by simp; omega) (by simp)
    simp only [Int.natCast_zero] at this
    rw [this]
    simp

theorem fill_eq_spec {α : Type} (a : List α) (x : α) : ArrC.fill a x = .ok (arrayFill a x) := by
  rw [ArrC.fill, fill_const _ _ List.size_toArray, arrayFill, List.map_const']
  rfl

theorem push_ok {α : Type} (array : Array α) (x : α) (h : array.size < 2147483647) : push array x = .ok (array.push x) :=
  if_neg (by unfold int32Max; omega)

/-- a loop of `janet_array_push(array, vals[j])`, `vals` being an independent source or the array itself -/
theorem push_loop {α : Type} (base l : List α) (body : Nat → Array α → R (Array α))
    (hb : ∀ j (h : j < l.length) (arr : Array α), arr.toList = base ++ l.take j → body j arr = push arr l[j])
    (hsz : base.length + l.length ≤ 2147483647) :
    forUp body l.length 0 base.toArray = .ok (base ++ l).toArray := by
  obtain ⟨s', hf, hP⟩ := forUp_inv body (fun j (arr : Array α) => arr.toList = base ++ l.take j) l.length 0 base.toArray
    (by rw [List.take_zero, List.append_nil])
    (fun j arr _ hj hP => by
      have hj' : j < l.length := Nat.zero_add l.length ▸ hj
      have hsz' : arr.size = base.length + j := by
        rw [← Array.length_toList, hP, List.length_append, List.length_take_of_le (Nat.le_of_lt hj')]
      refine ⟨_, (hb j hj' arr hP).trans (push_ok _ _ (by omega)), ?_⟩
      rw [Array.toList_push, hP, List.take_succ_eq_append_getElem hj', List.append_assoc])
  rw [Nat.zero_add, List.take_length] at hP
  rw [hf, ← hP]

theorem pushFrom_spec {α : Type} (array : Array α) (l : List α) (h : array.size + l.length ≤ 2147483647) :
    forUp (pushFromBody l.toArray) l.length 0 array = .ok (array.toList ++ l).toArray :=
  push_loop array.toList l _ (fun j hj arr _ => by rw [pushFromBody, idx_list_ok l j hj]; rfl)
    (Array.length_toList ▸ h)

theorem pushSelf_spec {α : Type} (array : Array α) (h : array.size + array.size ≤ 2147483647) :
    forUp pushSelfBody array.size 0 array = .ok (array.toList ++ array.toList).toArray := by
  refine push_loop array.toList array.toList _ (fun j hj arr hP => ?_) (Array.length_toList ▸ h)
  have hlt : j < arr.size := by
    rw [← Array.length_toList, hP, List.length_append]
    omega
  have hcell : arr[j] = array.toList[j] := by
    rw [← Array.getElem_toList, List.getElem_of_eq hP, List.getElem_append_left hj]
  rw [pushSelfBody, idx_ok arr j hlt, hcell]
  rfl

theorem arrayConcat_length_ge {α : Type} (parts : List (ConcatArg α)) (a : List α) : a.length ≤ (arrayConcat a parts).length := by
  induction parts generalizing a with
  | nil => exact Nat.le_refl _
  | cons p rest ih =>
    cases p <;> exact Nat.le_trans (by rw [List.length_append]; exact Nat.le_add_right _ _) (ih _)

def partCells {α : Type} (a : List α) : ConcatArg α → List α
  | .item x => [x]
  | .seq l => l
  | .self => a

theorem arrayConcat_cons {α : Type} (a : List α) (p : ConcatArg α) (rest : List (ConcatArg α)) :
    arrayConcat a (p :: rest) = arrayConcat (a ++ partCells a p) rest := by
  cases p <;> rfl

theorem concatPart_spec {α : Type} (array : Array α) (p : ConcatArg α)
    (h : array.size + (partCells array.toList p).length ≤ 2147483647) :
    concatPart array p = .ok (array.toList ++ partCells array.toList p).toArray := by
  cases p with
  | item x => exact (push_ok array x h).trans (congrArg R.ok (Array.ext' (by rw [Array.toList_push]; rfl)))
  | seq l => exact pushFrom_spec array l h
  | self => exact pushSelf_spec array (Array.length_toList ▸ h)

theorem concatLoop_spec {α : Type} (parts : List (ConcatArg α)) (array : Array α)
    (h : (arrayConcat array.toList parts).length ≤ 2147483647) :
    concatLoop array parts = .ok (arrayConcat array.toList parts).toArray := by
  induction parts generalizing array with
  | nil => rfl
  | cons p rest ih =>
    rw [arrayConcat_cons] at h ⊢
    have hge := arrayConcat_length_ge rest (array.toList ++ partCells array.toList p)
    rw [List.length_append, Array.length_toList] at hge
    rw [concatLoop, concatPart_spec array p (Nat.le_trans hge h)]
    exact ih _ h

/-- `array/concat arr & parts` (plain values, arrays / tuples, and the array itself): when the final length fits an
    int32 no `janet_array_push` raises, no `vals[j]` is read outside the source (for the array itself: outside its
    pre-call cells), and the result is the reference definition — self-concatenation appends the OLD contents once. -/
theorem concat_eq_spec {α : Type} (a : List α) (parts : List (ConcatArg α))
    (h : ((arrayConcat a parts).length : Int) ≤ int32Max) :
    ArrC.concat a parts = .ok (arrayConcat a parts) := by
  unfold ArrC.concat
  rw [concatLoop_spec parts a.toArray (by rw [List.toList_toArray]; unfold int32Max at h; omega)]
  rfl

example : ArrC.concat [1, 2] [.self, .item 9, .seq [7, 8], .self] = .ok [1, 2, 1, 2, 9, 7, 8, 1, 2, 1, 2, 9, 7, 8] := by decide +kernel

/-- the bodies of the two loops of `cfun_tuple_join`, as functions of the part read -/
def joinLenStep {α : Type} (total : Int) (p : List α) : R Int :=
  if int32Max - total < (p.length : Int) then .panic else add32 total (p.length : Int)

def joinCopyStep {α : Type} (st : Array α × Int) (p : List α) : R (Array α × Int) := do
  let tup ← memcpy st.1 st.2 p.toArray 0 p.length
  pure (tup, st.2 + (p.length : Int))

/-- `tuple/join & parts`: the int32 accumulator `total_len` never overflows (the check `INT32_MAX - total_len < len`
    precedes the addition), the call raises "tuple too large" iff the concatenation is longer than INT32_MAX, and the
    cursor copy writes exactly the concatenation, inside the new tuple. -/
theorem tupleJoin_eq_spec {α : Type} [Inhabited α] (parts : List (List α)) :
    ArrC.tupleJoin parts = if (parts.flatten.length : Int) ≤ int32Max then .ok parts.flatten else .panic := by
  unfold ArrC.tupleJoin
  rw [forUp_list0 parts _ joinLenStep 0 (fun j h s => by rw [tupleJoinLenBody, idx_list_ok parts j h]; rfl),
    show (0 : Int) = ((0 : Nat) : Int) from rfl,
    sizePass_fold List.length 2147483647 joinLenStep parts
      (fun t p _ ht => by
        rw [joinLenStep]
        by_cases h : t + p.length ≤ 2147483647
        · rw [if_neg (by unfold int32Max; omega), add32_nat _ _ h, if_pos h]
        · rw [if_pos (by unfold int32Max; omega), if_neg h])
      0 (Nat.zero_le _), Nat.zero_add, ← List.length_flatten]
  by_cases hb : parts.flatten.length ≤ 2147483647
  · have hc := copyPass_fold id joinCopyStep
      (fun A junk p hp => by
        rw [joinCopyStep]
        simp only [memcpy_cursor_whole A junk p A.length rfl hp, R.ok_bind, R.pure_eq, ← Int.natCast_add, ← List.length_append]
        rfl)
      parts [] (List.replicate parts.flatten.length default) (by rw [List.flatMap_id, List.length_replicate]; exact Nat.le_refl _)
    rw [if_pos hb, if_pos (by unfold int32Max; omega), R.ok_bind, Int.toNat_natCast,
      forUp_list0 parts (tupleJoinCopyBody parts) joinCopyStep _
        (fun j h s => by rw [tupleJoinCopyBody, idx_list_ok parts j h]; rfl)]
    rw [List.nil_append, List.nil_append, List.flatMap_id, List.drop_of_length_le (by rw [List.length_replicate]; exact Nat.le_refl _),
      List.append_nil, List.toArray_replicate, List.length_nil] at hc
    rw [hc]
    rfl
  · rw [if_neg hb, if_neg (by unfold int32Max; omega)]
    rfl

example : ArrC.tupleJoin [[1, 2], [], [3]] = .ok [1, 2, 3] ∧ ArrC.tupleJoin ([] : List (List Nat)) = .ok [] := by decide +kernel

end JanetModel.Lib.ArrC
