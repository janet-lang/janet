import JanetModel.Lib.Format
import JanetModel.Lib.CLoop
import JanetModel.Gen.Lib
/- C17: mirror of pp.c `scanformat`, the directive scanner of `janet_formatbv` (string/format, buffer/format):
   flags, width (≤ 2 digits), `.precision` (≤ 2 digits), the two error exits, and the construction of the `snprintf` format
   in the local `char form[MAX_FORMAT]`.  Core Lean only.  Theorems in Lib/FormatCProofs.lean.

     static const char *scanformat(const char *strfrmt, char *form, char width[3], char precision[3]) {
         const char *p = strfrmt;
         memset(width, '\0', 3);  memset(precision, '\0', 3);
         while (*p != '\0' && strchr(FMT_FLAGS, *p) != NULL) p++;
         if ((size_t)(p - strfrmt) >= sizeof(FMT_FLAGS)) janet_panic("invalid format (repeated flags)");
         if (isdigit((int)(*p))) width[0] = *p++;
         if (isdigit((int)(*p))) width[1] = *p++;
         if (*p == '.') { p++; if (isdigit((int)(*p))) precision[0] = *p++; if (isdigit((int)(*p))) precision[1] = *p++; }
         if (isdigit((int)(*p))) janet_panic("invalid format (width or precision too long)");
         *(form++) = '%';
         const char *p2 = strfrmt;
         while (p2 <= p) {
             char *loc = strchr(FMT_REPLACE_INTTYPES, *p2);
             if (loc != NULL && *loc != '\0') { const char *mapping = get_fmt_mapping(*p2++); size_t len = strlen(mapping);
                                                memcpy(form, mapping, len); form += len; }
             else { *(form++) = *(p2++); }
         }
         *form = '\0';
         return p;
     }

   `strfrmt` is the NUL-terminated rest of the format after the `%`: the array `rest ++ [0]`; reading past the terminator or
   writing outside `form[32]` is `.ub`.  `FMT_FLAGS` = "-+ #0" (`sizeof` = 6), `FMT_REPLACE_INTTYPES` = "diouxX",
   `MAX_FORMAT` = 32 (Gen/LibSrc `define_*`, tied).  `get_fmt_mapping(c)` = PRId64 … = `"l"` followed by `c` (LP64 glibc: stated
   assumption; only the length 2 matters for the bound). -/
namespace JanetModel.Lib.FormatC
open JanetModel.Lib JanetModel.Lib.Format

def maxFormat : Nat := 32
def sizeofFmtFlags : Nat := 6

/-- `strchr(FMT_REPLACE_INTTYPES, c)` finds a character other than the terminator -/
def isIntType (c : Nat) : Bool := c == 100 || c == 105 || c == 111 || c == 117 || c == 120 || c == 88   -- "diouxX"

structure Scan where
  p : Nat                -- offset of the conversion character (the returned pointer) in `strfrmt`
  width : Bytes          -- the digits stored in `width[]`
  precision : Bytes      -- the digits stored in `precision[]`
  form : Bytes           -- the contents of `form[]` before the terminating NUL
  deriving Repr, DecidableEq

/-- `while (*p != '\0' && strchr(FMT_FLAGS, *p) != NULL) p++;` -/
def skipFlags (s : Array Nat) : Nat → Nat → R Nat
  | 0, _ => .ub
  | fuel + 1, p => do
    let c ← idx s (p : Int)
    if c ≠ 0 ∧ isFlag c = true then skipFlags s fuel (p + 1) else pure p

/-- `if (isdigit((int)(*p))) arr[k] = *p++;` (the digits collected so far, `p`) -/
def digitStep (s : Array Nat) (st : Bytes × Nat) : R (Bytes × Nat) := do
  let c ← idx s (st.2 : Int)
  if isDigit c = true then pure (st.1 ++ [c], st.2 + 1) else pure st

/-- the two statements `if (isdigit((int)(*p))) arr[0] = *p++;  if (isdigit((int)(*p))) arr[1] = *p++;` -/
def twoDigits (s : Array Nat) (p : Nat) : R (Bytes × Nat) := do
  let st ← digitStep s ([], p)
  digitStep s st

/-- `while (p2 <= p) { … }`: (form, write offset) -/
def writeForm (s : Array Nat) (p : Nat) : Nat → Nat → Array Nat → Nat → R (Array Nat × Nat)
  | 0, _, _, _ => .ub
  | fuel + 1, p2, form, pos =>
    if p2 ≤ p then do
      let c ← idx s (p2 : Int)
      if c ≠ 0 ∧ isIntType c = true then do                 -- loc != NULL && *loc != '\0'
        let form ← setIdx form (pos : Int) 108                -- memcpy(form, mapping, len): "l", c
        let form ← setIdx form ((pos + 1 : Nat) : Int) c
        writeForm s p fuel (p2 + 1) form (pos + 2)
      else do
        let form ← setIdx form (pos : Int) c                  -- *(form++) = *(p2++)
        writeForm s p fuel (p2 + 1) form (pos + 1)
    else pure (form, pos)

/-- the end of `scanformat`: the "too long" check, the construction of `form`, the result -/
def finish (s : Array Nat) (p : Nat) (w pr : Bytes) : R Scan := do
  let c ← idx s (p : Int)
  if isDigit c = true then .panic else do                      -- "invalid format (width or precision too long)"
  let form ← setIdx (Array.replicate maxFormat 0) 0 37         -- *(form++) = '%'
  let (form, pos) ← writeForm s p (p + 2) 0 form 1
  let form ← setIdx form (pos : Int) 0                         -- *form = '\0'
  pure { p := p, width := w, precision := pr, form := form.toList.take pos }

def scanformat (rest : Bytes) : R Scan := do
  let s := (rest ++ [0]).toArray
  let p ← skipFlags s s.size 0
  if p ≥ sizeofFmtFlags then .panic else do                    -- "invalid format (repeated flags)"
  let (w, p) ← twoDigits s p
  let c ← idx s (p : Int)
  let (pr, p) ← (if c = 46 then twoDigits s (p + 1) else pure ([], p) : R (Bytes × Nat))
  finish s p w pr

/-! ## the per-directive item step of `janet_formatbv` / `janet_buffer_format`

     char form[MAX_FORMAT], item[MAX_ITEM];   int nb = 0;
     …  nb = snprintf(item, MAX_ITEM, form, <argument>);  …                      (one of the conversion cases)
     if (nb >= MAX_ITEM) janet_panic("format buffer overflow");
     if (nb > 0) janet_buffer_push_bytes(b, (uint8_t *) item, nb);

   `snprintf(item, bound, form, x)` is specified by C99 7.19.6.5 in terms of the *complete* rendering `full` of the directive
   (what `sprintf` would write; a parameter here): it returns `full.length` whether or not that fits, stores the first
   `min(full.length, bound − 1)` bytes followed by a NUL when `bound > 0`, and leaves the rest of `item[]` indeterminate
   (`indeterminate` below, a value that is not a byte).  Writing outside `item[size]`, and `memcpy` reading outside it, is `.ub`.
   The array size, the bound, the limit and the comparison operator are taken from the current pp.c (Gen/Lib.lean). -/

/-- content of an `item[]` cell that no one has written -/
def indeterminate : Nat := 256

/-- `snprintf(item, bound, form, x)` where the complete rendering of the directive is `full`: (`item[]` afterwards, return value) -/
def snprintfItem (size bound : Nat) (full : Bytes) : R (Array Nat × Int) :=
  if bound = 0 then .ok (Array.replicate size indeterminate, (full.length : Int)) else
  let kept := full.take (bound - 1)
  if kept.length + 1 > size then .ub else                                 -- the terminator would be written outside item[]
  .ok ((kept ++ [0] ++ List.replicate (size - (kept.length + 1)) indeterminate).toArray, (full.length : Int))

/-- `janet_buffer_push_bytes(b, (uint8_t *) item, nb)`: `memcpy(b->data + b->count, item, nb)` -/
def pushItem (out : Bytes) (item : Array Nat) (nb : Int) : R Bytes :=
  if nb < 0 then .ub else
  if nb.toNat ≤ item.size then .ok (out ++ item.toList.take nb.toNat) else .ub

/-- the statements after `scanformat` for a conversion that goes through `snprintf`; `ge` = the overflow test is
    `nb >= limit` (true) or `nb > limit` (false) -/
def itemStep (size bound limit : Nat) (ge : Bool) (out full : Bytes) : R Bytes := do
  let (item, nb) ← snprintfItem size bound full
  if (if ge then nb ≥ (limit : Int) else nb > (limit : Int)) then .panic else do   -- "format buffer overflow"
  if nb > 0 then pushItem out item nb else pure out

/-- the item step as it stands in the current `janet_formatbv` (janet_formatc, janet_formatb, error messages) -/
def formatbvItem (out full : Bytes) : R Bytes :=
  itemStep Gen.Lib.formatbvItemSize Gen.Lib.formatbvSnprintfBound Gen.Lib.formatbvOverflowLimit Gen.Lib.formatbvOverflowGe out full

/-- the item step as it stands in the current `janet_buffer_format` (string/format, buffer/format, printf family) -/
def bufferFormatItem (out full : Bytes) : R Bytes :=
  itemStep Gen.Lib.bufferFormatItemSize Gen.Lib.bufferFormatSnprintfBound Gen.Lib.bufferFormatOverflowLimit
    Gen.Lib.bufferFormatOverflowGe out full

/-- the documented limit: an item of at most 255 bytes (`MAX_ITEM` 256 with the terminator) -/
def maxItem : Nat := 256

/-- reference: the item is appended exactly, or the call raises because it does not fit -/
def itemSpec (out full : Bytes) : R Bytes := if full.length ≥ maxItem then .panic else .ok (out ++ full)

/-- the conversion character must not be a third digit; its offset is what has been consumed -/
def parseTail (len : Nat) (w : Bytes) (p : Option Bytes) (r3 : Bytes) : Option (Nat × Bytes × Bytes) :=
  match r3 with
  | conv :: _ => if isDigit conv then none else some (len - r3.length, w, p.getD [])
  | [] => some (len, w, p.getD [])

/-- the directive syntax as `Format.go` reads it (the same expressions: flags by `takeWhile isFlag`, at most two width
    digits, an optional `.` with at most two precision digits): offset of the conversion character, width digits,
    precision digits; `none` = one of the two "invalid format" errors -/
def parse (rest : Bytes) : Option (Nat × Bytes × Bytes) :=
  let fl := rest.takeWhile isFlag
  let r1 := rest.dropWhile isFlag
  if fl.length ≥ 6 then none else
  let w := (r1.takeWhile isDigit).take 2
  let r2 := r1.drop w.length
  let pr := precPart r2
  parseTail rest.length w pr.1 pr.2

end JanetModel.Lib.FormatC
