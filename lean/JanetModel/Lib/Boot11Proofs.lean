import JanetModel.Lib.Boot11
import JanetModel.Lib.Boot6Proofs
/- C17: what the branches of map-template share, row by row (shortest length, key advance, argument fetch, the `forv` loop
   `fillCallBuffer_from`), and `interleave` as `mapRows`; the map-template theorems are in Lib/Boot12Proofs.lean. -/
namespace JanetModel.Lib.Boot
open JanetModel.Lib JanetModel.Lib.JIter

def minLen {β : Type} (b : Nat) (cols : List (List β)) : Nat := (cols.map List.length).foldl min b

theorem minLen_cons {β : Type} (b : Nat) (c : List β) (cols : List (List β)) :
    minLen b (c :: cols) = minLen (min b c.length) cols := rfl

theorem minLen_le {β : Type} (cols : List (List β)) : ∀ b, minLen b cols ≤ b := by
  induction cols with
  | nil => intro b; exact Nat.le_refl _
  | cons c cs ih => intro b; rw [minLen_cons]; have := ih (min b c.length); omega

theorem minLen_le_mem {β : Type} (cols : List (List β)) : ∀ b, ∀ c ∈ cols, minLen b cols ≤ c.length := by
  induction cols with
  | nil => intro b c h; simp at h
  | cons c0 cs ih =>
    intro b c h
    rw [minLen_cons]
    rcases List.mem_cons.mp h with h | h
    · subst h; have := minLen_le cs (min b c.length); omega
    · exact ih _ c h

theorem le_minLen {β : Type} (cols : List (List β)) : ∀ b i, i ≤ b → (∀ c ∈ cols, i ≤ c.length) → i ≤ minLen b cols := by
  induction cols with
  | nil => intro b i h _; exact h
  | cons c0 cs ih =>
    intro b i h hc
    rw [minLen_cons]
    exact ih _ i (by have := hc c0 (by simp); omega) (fun c hm => hc c (by simp [hm]))

theorem minLen_eq_of_short {β : Type} {cols : List (List β)} {b i : Nat} (hb : i ≤ b) (hle : ∀ c ∈ cols, i ≤ c.length)
    (hex : ∃ c ∈ cols, ¬ i < c.length) : minLen b cols = i := by
  obtain ⟨c, hm, hn⟩ := hex
  exact Nat.le_antisymm (Nat.le_trans (minLen_le_mem cols b c hm) (Nat.le_of_not_lt hn)) (le_minLen cols b i hb hle)

theorem exists_short {β : Type} {cols : List (List β)} {i : Nat} (h : ¬ ∀ c ∈ cols, i < c.length) :
    ∃ c ∈ cols, ¬ i < c.length :=
  Classical.byContradiction fun hno => h fun c hm => Classical.byContradiction fun hn => hno ⟨c, hm, hn⟩

theorem advanceKeys_all {β : Type} (i : Nat) : ∀ cols : List (List β), (∀ c ∈ cols, i < c.length) →
    advanceKeys cols (cols.map (fun _ => prevKey i)) = some (cols.map (fun _ => i))
  | [], _ => rfl
  | c :: cs, h => by
    simp only [List.map_cons, advanceKeys, nextKey_prevKey, keyAt_of_lt (h c List.mem_cons_self)]
    rw [advanceKeys_all i cs (fun c' hm => h c' (by simp [hm]))]

theorem advanceKeys_short {β : Type} (i : Nat) : ∀ cols : List (List β), (∃ c ∈ cols, ¬ i < c.length) →
    advanceKeys cols (cols.map (fun _ => prevKey i)) = none
  | [], h => by simp at h
  | c :: cs, h => by
    simp only [List.map_cons, advanceKeys, nextKey_prevKey]
    by_cases hc : i < c.length
    · simp only [keyAt_of_lt hc]
      have : ∃ c' ∈ cs, ¬ i < c'.length := by
        obtain ⟨c', hm, hn⟩ := h
        rcases List.mem_cons.mp hm with e | e
        · subst e; exact absurd hc hn
        · exact ⟨c', e, hn⟩
      rw [advanceKeys_short i cs this]
    · simp only [keyAt_of_not_lt hc]

theorem fetchRow_all {β : Type} (i : Nat) : ∀ cols : List (List β), (∀ c ∈ cols, i < c.length) →
    fetchRow cols (cols.map (fun _ => i)) = .ok (cols.filterMap (fun c => c[i]?))
  | [], _ => rfl
  | c :: cs, h => by
    have hc := h c (by simp)
    simp only [List.map_cons, fetchRow, inIdx_of_lt c i hc, R.ok_bind]
    rw [fetchRow_all i cs (fun c' hm => h c' (by simp [hm]))]
    simp [List.filterMap_cons, List.getElem?_eq_getElem hc]

def rowStep {α β γ σ : Type} (agg : σ → γ → σ) (f : α → List β → γ) (ind : List α) (inds : List (List β)) (s : σ) (j : Nat) : σ :=
  match ind[j]? with
  | some x => agg s (f x (inds.filterMap (fun c => c[j]?)))
  | none => s

theorem mapRows_eq {α β γ σ : Type} (agg : σ → γ → σ) (f : α → List β → γ) (init : σ) (ind : List α) (inds : List (List β)) :
    mapRows agg f init ind inds = (List.range (minLen ind.length inds)).foldl (rowStep agg f ind inds) init := rfl

example : Boot.mapN (fun (s : List Nat) v => s ++ [v]) (fun (x : Nat) row => x + row.foldl (· + ·) 0) [] [1, 2, 3] [[10, 20, 30], [100, 200]]
    = .ok [111, 222] := by decide +kernel

/-- the `forv` loop before column `pre.length`, all columns having been at row `i - 1` when the each-iteration began: the
    columns `pre` already have their key advanced and their cell of the call buffer filled -/
theorem fillCallBuffer_from {β : Type} (inds : List (List β)) (i : Nat) : ∀ (rest pre : List (List β)) (junk : List (Option β)),
    pre ++ rest = inds → junk.length = rest.length → (∀ c ∈ pre, i < c.length) →
    ∃ ik' cb' d, fillCallBuffer inds.toArray rest.length pre.length
        (pre.map (fun _ => some i) ++ rest.map (fun _ => prevKey i)).toArray (pre.map (fun c => c[i]?) ++ junk).toArray
        = .ok (ik', cb', d) ∧
      (d = true → ∃ c ∈ inds, ¬ i < c.length) ∧
      (d = false → ik' = (inds.map (fun _ => some i)).toArray ∧ cb' = (inds.map (fun c => c[i]?)).toArray ∧
        ∀ c ∈ inds, i < c.length)
  | [], pre, junk, hp, hj, hpre => by
    rw [List.append_nil] at hp
    rw [List.eq_nil_of_length_eq_zero hj, hp]
    exact ⟨_, _, false, rfl, fun h => (nomatch h), fun _ => ⟨by simp, by simp, hp ▸ hpre⟩⟩
  | c :: rest, pre, junk, hp, hj, hpre => by
    obtain ⟨j, junk', rfl⟩ : ∃ j junk', junk = j :: junk' := by
      cases junk with
      | nil => exact nomatch hj
      | cons j junk' => exact ⟨j, junk', rfl⟩
    have hk : ((pre.map (fun _ => some i)).length : Int) = (pre.length : Int) := by rw [List.length_map]
    have hc : ((pre.map (fun c => c[i]?)).length : Int) = (pre.length : Int) := by rw [List.length_map]
    have h1 : (pre.map (fun _ => some i) ++ (c :: rest).map (fun _ => prevKey i)).toArray[pre.length]? = some (prevKey i) := by
      have := getElem?_append_cons (pre.map (fun _ => some i)) (prevKey i) (rest.map (fun _ => prevKey i))
      rw [List.length_map] at this
      rw [List.getElem?_toArray]
      exact this
    have h2 : inds.toArray[pre.length]? = some c := by
      rw [List.getElem?_toArray, ← hp]
      exact getElem?_append_cons pre c rest
    rw [List.length_cons]
    unfold fillCallBuffer
    simp only [h1, h2, nextKey_prevKey]
    by_cases hlt : i < c.length
    · obtain ⟨ik', cb', d, hf, hd⟩ := fillCallBuffer_from inds i rest (pre ++ [c]) junk' ((List.append_assoc pre [c] rest).trans hp)
        (Nat.succ.inj hj) (fun c' hc' => by
          rcases List.mem_append.mp hc' with h | h
          · exact hpre c' h
          · exact List.mem_singleton.mp h ▸ hlt)
      refine ⟨ik', cb', d, ?_, hd⟩
      simp only [keyAt_of_lt hlt, inIdx_of_lt c i hlt, List.map_cons, ← hk, setIdx_append_cons]
      rw [hk, ← hc, setIdx_append_cons]
      simp only [List.map_append, List.map_cons, List.map_nil, List.append_assoc, List.singleton_append, List.length_append,
        List.length_cons, List.length_nil, List.getElem?_eq_getElem hlt] at hf ⊢
      exact hf
    · simp only [keyAt_of_not_lt hlt]
      exact ⟨_, _, true, rfl, fun _ => ⟨c, hp ▸ List.mem_append_right _ List.mem_cons_self, hlt⟩, fun h => nomatch h⟩

theorem fillCallBuffer_row {β : Type} (inds : List (List β)) (i : Nat) (cb : Array (Option β)) (hcb : cb.size = inds.length) :
    ∃ ik' cb' d, fillCallBuffer inds.toArray inds.length 0 (inds.map (fun _ => prevKey i)).toArray cb = .ok (ik', cb', d) ∧
      (d = true → ∃ c ∈ inds, ¬ i < c.length) ∧
      (d = false → ik' = (inds.map (fun _ => prevKey (i + 1))).toArray ∧ cb'.size = inds.length ∧
        cb'.toList.filterMap id = inds.filterMap (fun c => c[i]?) ∧ ∀ c ∈ inds, i < c.length) := by
  obtain ⟨ik', cb', d, hf, hd1, hd2⟩ := fillCallBuffer_from inds i inds [] cb.toList rfl hcb (fun _ h => nomatch h)
  refine ⟨ik', cb', d, hf, hd1, fun hd => ?_⟩
  obtain ⟨h1, h2, h3⟩ := hd2 hd
  rw [h2, List.size_toArray, List.length_map, List.filterMap_map]
  exact ⟨h1, rfl, rfl, h3⟩

/-- `interleave` of any number of columns is `mapcat tuple` over the first column and the others: the reference
    definition (rows up to the shortest column) in terms of `mapRows` -/
theorem interleave_eq_mapRows {α : Type} (c0 : List α) (cols : List (List α)) :
    (mapRows (fun (res : Array α) (row : List α) => res ++ row.toArray) (fun x row => x :: row) #[] c0 cols).toList
      = Lib.interleave (c0 :: cols) := by
  rw [mapRows_eq]
  have hm : ((c0 :: cols).map List.length).foldl min (c0 :: cols).head!.length = minLen c0.length cols := by
    simp [minLen, List.head!]
  simp only [Lib.interleave, hm]
  rw [foldl_snoc _ _ (fun p => (p.flatMap fun i => (c0 :: cols).filterMap (fun c => c[i]?)).toArray) #[] rfl (fun p j hj => by
    have hlt : j < c0.length := Nat.lt_of_lt_of_le (List.mem_range.mp hj) (minLen_le cols c0.length)
    simp [rowStep, List.getElem?_eq_getElem hlt])]

example : Boot.mapGen (fun (s : List Nat) v => s ++ [v]) (fun (x : Nat) row => x + row.foldl (· + ·) 0) [] [1, 2, 3]
    [[10, 20, 30], [100, 200], [1000, 2000, 3000], [0, 0, 0, 0]] = .ok [1111, 2222] := by decide +kernel

end JanetModel.Lib.Boot
