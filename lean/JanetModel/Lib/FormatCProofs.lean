import JanetModel.Lib.FormatC
/- C17: pp.c `scanformat` (mirror Lib/FormatC.lean) reads exactly the directive syntax that the reference
   formatter `Format.go` uses (`FormatC.parse`: the same expressions), raises exactly in the two "invalid format" cases, never
   reads past the terminating NUL of the format and never writes outside `char form[MAX_FORMAT]`. -/
namespace JanetModel.Lib.FormatC
open JanetModel.Lib JanetModel.Lib.Format JanetModel.Lib.CLoop

/-- the character at offset `p` of the NUL-terminated string -/
def chr (rest : Bytes) (p : Nat) : Nat := (rest.drop p).headD 0

/-- `strfrmt`, the NUL-terminated rest of the format after the `%`, as `scanformat` sets it up -/
abbrev strfrmt (rest : Bytes) : Array Nat := (rest ++ [0]).toArray

theorem idx_s (rest : Bytes) (p : Nat) (hp : p ≤ rest.length) : idx (strfrmt rest) (p : Int) = .ok (chr rest p) := by
  rw [idx_list_ok (rest ++ [0]) p (by rw [List.length_append]; exact Nat.lt_succ_of_le hp)]
  congr 1
  unfold chr
  by_cases h : p < rest.length
  · rw [List.getElem_append_left h, List.drop_eq_getElem_cons h]; rfl
  · have : p = rest.length := Nat.le_antisymm hp (Nat.le_of_not_lt h)
    subst this
    simp

theorem chr_nil {rest : Bytes} {p : Nat} (h : rest.drop p = []) : chr rest p = 0 := by rw [chr, h]; rfl

theorem chr_cons {rest : Bytes} {p c : Nat} {t : Bytes} (h : rest.drop p = c :: t) : chr rest p = c := by rw [chr, h]; rfl

theorem offset_le {rest : Bytes} {p : Nat} (hp : p ≤ rest.length) {l : Bytes} (hl : l.length ≤ (rest.drop p).length) :
    p + l.length ≤ rest.length := by
  rw [List.length_drop] at hl
  exact Nat.le_trans (Nat.add_le_add_left hl p) (Nat.le_of_eq (Nat.add_sub_of_le hp))

theorem takeDigits_length_le (r : Bytes) (k : Nat) : ((r.takeWhile isDigit).take k).length ≤ r.length :=
  Nat.le_trans (List.length_take_le' _ _) (List.takeWhile_sublist _).length_le

theorem drop_takeWhile_length {α : Type} (f : α → Bool) : ∀ l : List α, l.drop (l.takeWhile f).length = l.dropWhile f
  | [] => rfl
  | x :: xs => by
    by_cases h : f x = true
    · simp [List.takeWhile, List.dropWhile, h, drop_takeWhile_length f xs]
    · simp [List.takeWhile, List.dropWhile, h]

theorem skipFlags_spec (rest : Bytes) (hz : ∀ c ∈ rest, c ≠ 0) : ∀ fuel p, p ≤ rest.length → rest.length < p + fuel →
    skipFlags (strfrmt rest) fuel p = .ok (p + ((rest.drop p).takeWhile isFlag).length) := by
  intro fuel
  induction fuel with
  | zero => intro p hp h; exact absurd h (Nat.not_lt.mpr hp)
  | succ n ih =>
    intro p hp hf
    unfold skipFlags
    rw [idx_s rest p hp]
    simp only [R.ok_bind]
    cases h : rest.drop p with
    | nil => rw [chr_nil h]; rfl
    | cons c t =>
      obtain ⟨hlt, hc, ht⟩ := Util.drop_eq_cons h
      rw [chr_cons h, List.takeWhile_cons]
      by_cases hfl : isFlag c = true
      · rw [if_pos ⟨hz c (hc ▸ List.getElem_mem hlt), hfl⟩, if_pos hfl, ih (p + 1) hlt (by rw [Nat.add_right_comm]; exact hf), ht, List.length_cons,
          Nat.add_assoc, Nat.add_comm 1]
      · rw [if_neg (fun h => hfl h.2), if_neg hfl]
        rfl

theorem digitStep_spec (rest : Bytes) (acc : Bytes) (p : Nat) (hp : p ≤ rest.length) :
    digitStep (strfrmt rest) (acc, p)
      = .ok (acc ++ ((rest.drop p).takeWhile isDigit).take 1, p + (((rest.drop p).takeWhile isDigit).take 1).length) := by
  unfold digitStep
  rw [idx_s rest p hp]
  simp only [R.ok_bind]
  cases h : rest.drop p with
  | nil => rw [chr_nil h]; simp [show isDigit 0 = false from rfl]
  | cons c t =>
    rw [chr_cons h, List.takeWhile_cons]
    by_cases hd : isDigit c = true <;> simp [hd]

theorem chr_lt_of_digit (rest : Bytes) (p : Nat) (h : isDigit (chr rest p) = true) : p < rest.length := by
  rcases Nat.lt_or_ge p rest.length with h' | h'
  · exact h'
  · rw [chr_nil (List.drop_of_length_le h')] at h
    exact nomatch h

theorem take_one_twice {α : Type} (f : α → Bool) : ∀ r : List α,
    (r.takeWhile f).take 1 ++ ((r.drop ((r.takeWhile f).take 1).length).takeWhile f).take 1 = (r.takeWhile f).take 2
  | [] => rfl
  | c :: t => by by_cases h : f c = true <;> simp [h]

/-- the two digit statements read `((rest.drop p).takeWhile isDigit).take 2` -/
theorem twoDigits_spec (rest : Bytes) (p : Nat) (hp : p ≤ rest.length) :
    twoDigits (strfrmt rest) p
      = .ok (((rest.drop p).takeWhile isDigit).take 2, p + (((rest.drop p).takeWhile isDigit).take 2).length) := by
  unfold twoDigits
  rw [digitStep_spec rest [] p hp]
  simp only [R.ok_bind]
  rw [digitStep_spec rest _ _ (offset_le hp (takeDigits_length_le _ 1)), ← List.drop_drop, Nat.add_assoc, ← List.length_append,
    List.nil_append, take_one_twice]

/-- the copy loop stays inside `form[MAX_FORMAT]` and inside the format string: `k` characters are left to copy, each
    takes at most two cells -/
theorem writeForm_ok (rest : Bytes) (p : Nat) (hp : p ≤ rest.length) : ∀ (k p2 : Nat) (form : Array Nat) (pos : Nat),
    p2 + k = p + 1 → form.size = maxFormat → pos + 2 * k < maxFormat →
    ∃ form' pos', writeForm (strfrmt rest) p (k + 1) p2 form pos = .ok (form', pos') ∧ form'.size = maxFormat ∧
      pos' < maxFormat := by
  intro k
  induction k with
  | zero =>
    intro p2 form pos hk hsz hroom
    have h2 : p2 = p + 1 := hk
    subst h2
    unfold writeForm
    rw [if_neg (Nat.not_succ_le_self p)]
    exact ⟨form, pos, rfl, hsz, hroom⟩
  | succ k ih =>
    intro p2 form pos hk hsz hroom
    have hle : p2 ≤ p := Nat.succ.inj hk ▸ Nat.le_add_right p2 k
    have hk' : p2 + 1 + k = p + 1 := (Nat.add_right_comm p2 1 k).trans hk
    have h2 : pos + 2 + 2 * k < maxFormat := by rw [Nat.add_assoc, Nat.add_comm 2, ← Nat.mul_succ]; exact hroom
    have h1 : pos + 1 + 2 * k < maxFormat := Nat.lt_trans (Nat.add_lt_add_right (Nat.lt_succ_self _) _) h2
    have h0 : pos + 1 < maxFormat := Nat.lt_of_le_of_lt (Nat.le_add_right _ _) h1
    unfold writeForm
    rw [if_pos hle, idx_s rest p2 (Nat.le_trans hle hp)]
    simp only [R.ok_bind]
    by_cases hc : chr rest p2 ≠ 0 ∧ isIntType (chr rest p2) = true
    · rw [if_pos hc, setIdx_ok form pos 108 (hsz ▸ Nat.lt_of_succ_lt h0)]
      simp only [R.ok_bind]
      rw [setIdx_ok _ (pos + 1) _ (by rw [Array.size_setIfInBounds, hsz]; exact h0)]
      exact ih (p2 + 1) _ (pos + 2) hk' (by rw [Array.size_setIfInBounds, Array.size_setIfInBounds]; exact hsz) h2
    · rw [if_neg hc, setIdx_ok form pos _ (hsz ▸ Nat.lt_of_succ_lt h0)]
      exact ih (p2 + 1) _ (pos + 1) hk' (by rw [Array.size_setIfInBounds]; exact hsz) h1

/-- the last step of `parse`, in terms of the character at the offset -/
theorem parse_tail (rest : Bytes) (p3 : Nat) (hp3 : p3 ≤ rest.length) (w : Bytes) (pr : Option Bytes) :
    parseTail rest.length w pr (rest.drop p3) = if isDigit (chr rest p3) = true then none else some (p3, w, pr.getD []) := by
  cases h : rest.drop p3 with
  | nil =>
    have : p3 = rest.length := Nat.le_antisymm hp3 (List.drop_eq_nil_iff.mp h)
    rw [chr_nil h, this]; rfl
  | cons c t =>
    have hl : (c :: t).length = rest.length - p3 := h ▸ List.length_drop
    rw [chr_cons h, parseTail, hl, Nat.sub_sub_self hp3]

/-- the scan ends at an offset of at most 10 (5 flags, 2 + 1 + 2 characters of width / precision) -/
theorem finish_parseTail (rest : Bytes) (p : Nat) (w : Bytes) (pr : Option Bytes) (hp : p ≤ rest.length) (h10 : p ≤ 10) :
    (parseTail rest.length w pr (rest.drop p) = none → finish (strfrmt rest) p w (pr.getD []) = .panic) ∧
    (∀ p' w' pr', parseTail rest.length w pr (rest.drop p) = some (p', w', pr') →
      ∃ form, finish (strfrmt rest) p w (pr.getD []) = .ok { p := p', width := w', precision := pr', form := form } ∧
        form.length < maxFormat) := by
  rw [parse_tail rest p hp]
  unfold finish
  rw [idx_s rest p hp]
  simp only [R.ok_bind]
  cases isDigit (chr rest p) with
  | true => exact ⟨fun _ => if_pos rfl, fun _ _ _ h => nomatch h⟩
  | false =>
    refine ⟨fun h => (nomatch h), fun p' w' pr' h => ?_⟩
    cases h
    rw [if_neg Bool.false_ne_true]
    have hsz0 : (Array.replicate maxFormat 0).size = maxFormat := Array.size_replicate
    have h0 : setIdx (Array.replicate maxFormat 0) 0 37 = .ok ((Array.replicate maxFormat 0).setIfInBounds 0 37) :=
      setIdx_ok (Array.replicate maxFormat 0) 0 37 (by rw [hsz0]; decide)
    rw [h0]
    simp only [R.ok_bind]
    obtain ⟨form', pos', hw, hsz, hpos⟩ := writeForm_ok rest p hp (p + 1) 0 ((Array.replicate maxFormat 0).setIfInBounds 0 37) 1
      (Nat.zero_add _) (by rw [Array.size_setIfInBounds, hsz0]) (by unfold maxFormat; omega)
    rw [hw]
    simp only [R.ok_bind]
    rw [setIdx_ok form' pos' 0 (hsz ▸ hpos)]
    exact ⟨_, rfl, Nat.lt_of_le_of_lt (List.length_take_le _ _) hpos⟩

theorem precPart_other (c : Nat) (r : Bytes) (h : c ≠ 46) : precPart (c :: r) = (none, c :: r) := by
  unfold precPart
  split
  · rename_i heq; exact absurd (List.cons.inj heq).1 h
  · rfl

theorem precision_spec (rest : Bytes) (p : Nat) (hp : p ≤ rest.length) :
    ∃ q, (if chr rest p = 46 then twoDigits (strfrmt rest) (p + 1) else pure ([], p) : R (Bytes × Nat))
        = .ok ((precPart (rest.drop p)).1.getD [], q) ∧
      rest.drop q = (precPart (rest.drop p)).2 ∧ q ≤ rest.length ∧ q ≤ p + 3 := by
  cases h : rest.drop p with
  | nil => exact ⟨p, by rw [chr_nil h]; rfl, h, hp, Nat.le_add_right p 3⟩
  | cons c t =>
    obtain ⟨hlt, _, ht⟩ := Util.drop_eq_cons h
    rw [chr_cons h]
    by_cases h46 : c = 46
    · subst h46
      refine ⟨p + 1 + ((t.takeWhile isDigit).take 2).length, ?_, ?_, ?_, Nat.add_le_add_left (List.length_take_le 2 _) (p + 1)⟩
      · rw [if_pos rfl, twoDigits_spec rest (p + 1) hlt, ht]; rfl
      · rw [← List.drop_drop, ht]; rfl
      · exact offset_le (Nat.succ_le_of_lt hlt) (ht ▸ takeDigits_length_le t 2)
    · rw [if_neg h46, precPart_other c t h46]
      exact ⟨p, rfl, h, hp, Nat.le_add_right p 3⟩

theorem parse_of_ge {rest : Bytes} (h6 : (rest.takeWhile isFlag).length ≥ 6) : parse rest = none := if_pos h6

theorem parse_of_lt {rest : Bytes} (h6 : ¬ (rest.takeWhile isFlag).length ≥ 6) :
    parse rest = parseTail rest.length (((rest.dropWhile isFlag).takeWhile isDigit).take 2)
      (precPart ((rest.dropWhile isFlag).drop (((rest.dropWhile isFlag).takeWhile isDigit).take 2).length)).1
      (precPart ((rest.dropWhile isFlag).drop (((rest.dropWhile isFlag).takeWhile isDigit).take 2).length)).2 := if_neg h6

/-- `scanformat` = the directive syntax of the reference formatter: same offset of the conversion character, same width
    and precision digits, an error exactly for ≥ 6 flags or a third digit; every read is before the terminating NUL's
    successor, every write inside `form[MAX_FORMAT]` (the mirror never returns `.ub`) -/
theorem scanformat_spec (rest : Bytes) (hz : ∀ c ∈ rest, c ≠ 0) :
    (parse rest = none → scanformat rest = .panic) ∧
    (∀ p w pr, parse rest = some (p, w, pr) →
      ∃ form, scanformat rest = .ok { p := p, width := w, precision := pr, form := form } ∧ form.length < maxFormat) := by
  have ha : (rest.takeWhile isFlag).length ≤ rest.length := (List.takeWhile_sublist isFlag).length_le
  have hskip := skipFlags_spec rest hz (strfrmt rest).size 0 (Nat.zero_le _)
    (by rw [List.size_toArray, List.length_append, Nat.zero_add]; exact Nat.lt_succ_self _)
  rw [List.drop_zero, Nat.zero_add] at hskip
  unfold scanformat
  simp only [hskip, R.ok_bind]
  by_cases h6 : (rest.takeWhile isFlag).length ≥ sizeofFmtFlags
  · rw [if_pos h6, parse_of_ge h6]
    exact ⟨fun _ => rfl, fun _ _ _ h => nomatch h⟩
  · have hw := offset_le ha (takeDigits_length_le (rest.drop (rest.takeWhile isFlag).length) 2)
    obtain ⟨q, hq, hdrop, hql, hq3⟩ := precision_spec rest _ hw
    have h10 : q ≤ 10 := Nat.le_trans hq3 (Nat.add_le_add_right
      (Nat.add_le_add (Nat.le_of_lt_succ (Nat.lt_of_not_le h6)) (List.length_take_le 2 _)) 3)
    rw [if_neg h6, parse_of_lt h6, ← drop_takeWhile_length, List.drop_drop, ← hdrop]
    simp only [twoDigits_spec rest _ ha, idx_s rest _ hw, hq, R.ok_bind]
    exact finish_parseTail rest q _ _ hql h10

theorem parseTail_eq_none {len : Nat} {w : Bytes} {p : Option Bytes} {r3 : Bytes} (h : parseTail len w p r3 = none) :
    ∃ conv tl, r3 = conv :: tl ∧ isDigit conv = true := by
  cases r3 with
  | nil => exact nomatch h
  | cons conv tl =>
    refine ⟨conv, tl, rfl, ?_⟩
    by_cases hd : isDigit conv = true
    · exact hd
    · rw [parseTail, if_neg hd] at h; exact nomatch h

/-- the reference formatter raises on a directive exactly where `scanformat` does: if the scanner raises (≥ 6 flags, a
    third digit), `Format.go` — which reads the directive with the same expressions — stops with an error and the output
    produced so far -/
theorem go_error_of_scan_panic (fuel : Nat) (rest : Bytes) (hz : ∀ c ∈ rest, c ≠ 0) (c0 : Nat) (r0 : Bytes) (hr : rest = c0 :: r0)
    (h37 : c0 ≠ 37) (a : FArg) (args : List FArg) (out : Bytes) (hs : scanformat rest = .panic) :
    go (fuel + 1) (37 :: rest) (a :: args) out = .err out := by
  have hpn : parse rest = none := by
    cases hp : parse rest with
    | none => rfl
    | some t =>
      obtain ⟨form, hok, _⟩ := (scanformat_spec rest hz).2 t.1 t.2.1 t.2.2 hp
      rw [hok] at hs
      exact nomatch hs
  subst hr
  unfold go
  rw [if_neg (by decide)]
  split
  · rename_i heq; exact nomatch heq
  · rename_i heq; exact absurd (List.cons.inj heq).1 h37
  · by_cases h6 : ((c0 :: r0).takeWhile isFlag).length ≥ 6
    · exact if_pos h6
    · rw [parse_of_lt h6] at hpn
      obtain ⟨conv, tl, heq, hd⟩ := parseTail_eq_none hpn
      refine (if_neg h6).trans ?_
      dsimp only
      rw [heq]
      exact if_pos hd

-- `[0]` carries its type because the bare literal under `++` is slow to elaborate
theorem snprintfItem_fit (n : Nat) (hn : 1 ≤ n) (full : Bytes) :
    ∃ pad : Bytes, snprintfItem n n full = .ok ((full.take (n - 1) ++ ([0] : Bytes) ++ pad).toArray, (full.length : Int)) ∧
      (full.take (n - 1) ++ ([0] : Bytes) ++ pad).length = n := by
  have hk : (full.take (n - 1)).length + 1 ≤ n :=
    Nat.le_trans (Nat.succ_le_succ (List.length_take_le _ _)) (Nat.le_of_eq (Nat.sub_add_cancel hn))
  refine ⟨List.replicate (n - ((full.take (n - 1)).length + 1)) indeterminate,
    (if_neg (Nat.ne_of_gt hn)).trans (if_neg (Nat.not_lt.mpr hk)), ?_⟩
  rw [List.length_append, List.length_replicate, List.length_append, List.length_singleton]
  exact Nat.add_sub_of_le hk

theorem pushItem_take (out l : Bytes) (k : Nat) (hk : k ≤ l.length) : pushItem out l.toArray (k : Int) = .ok (out ++ l.take k) := by
  unfold pushItem
  rw [if_neg (Int.not_lt.mpr (Int.natCast_nonneg k)), Int.toNat_natCast, List.size_toArray, if_pos hk, List.toList_toArray]

theorem le_kept_succ {n l : Nat} (hn : 1 ≤ n) (h : l ≤ n) : l ≤ min (n - 1) l + 1 := by
  rcases Nat.le_total l (n - 1) with h' | h'
  · rw [Nat.min_eq_right h']; exact Nat.le_succ l
  · rw [Nat.min_eq_left h', Nat.sub_add_cancel hn]; exact h

theorem itemStep_eq (n : Nat) (hn : 1 ≤ n) (ge : Bool) (out full : Bytes) :
    itemStep n n n ge out full = if (if ge = true then n ≤ full.length else n < full.length) then .panic
      else .ok (out ++ (full.take (n - 1) ++ ([0] : Bytes)).take full.length) := by
  obtain ⟨pad, hs, hlen⟩ := snprintfItem_fit n hn full
  unfold itemStep
  rw [hs]
  simp only [R.ok_bind, ge_iff_le, gt_iff_lt, Int.ofNat_le, Int.ofNat_lt, Int.natCast_pos]
  by_cases hov : if ge = true then n ≤ full.length else n < full.length
  · rw [if_pos hov, if_pos hov]
  · have hfit : full.length ≤ n := by
      cases ge
      · exact Nat.le_of_not_lt hov
      · exact Nat.le_of_lt (Nat.lt_of_not_le hov)
    rw [if_neg hov, if_neg hov]
    by_cases h0 : 0 < full.length
    · rw [if_pos h0, pushItem_take _ _ _ (Nat.le_trans hfit (Nat.le_of_eq hlen.symm)), List.take_append_of_le_length]
      rw [List.length_append, List.length_take, List.length_singleton]
      exact le_kept_succ hn hfit
    · rw [if_neg h0, Nat.eq_zero_of_not_pos h0, List.take_zero, List.append_nil]
      rfl

/-- with `item[n]`, `snprintf(item, n, …)` and the test `nb >= n` (n ≥ 1): the item is appended exactly or the call raises -/
theorem itemStep_ge (n : Nat) (hn : 1 ≤ n) (out full : Bytes) :
    itemStep n n n true out full = if full.length ≥ n then .panic else .ok (out ++ full) := by
  rw [itemStep_eq n hn]
  simp only [if_true]
  by_cases hL : n ≤ full.length
  · rw [if_pos hL, if_pos hL]
  · rw [if_neg hL, if_neg hL, List.take_of_length_le (Nat.le_sub_one_of_lt (Nat.lt_of_not_le hL)), List.take_left' rfl]

/-- the strict test `nb > n` lets an item of exactly `n` bytes through: the `n − 1` bytes that fit and the terminating NUL
    are appended: the comparison has to be `>=` -/
theorem itemStep_gt_pushes_terminator (n : Nat) (hn : 1 ≤ n) (out full : Bytes) (hL : full.length = n) :
    itemStep n n n false out full = .ok (out ++ full.take (n - 1) ++ [0]) := by
  have hlen : (full.take (n - 1) ++ [0]).length = full.length := by
    rw [List.length_append, List.length_take, List.length_singleton, hL, Nat.min_eq_left (Nat.sub_le n 1), Nat.sub_add_cancel hn]
  rw [itemStep_eq n hn]
  simp only [Bool.false_eq_true, if_false]
  rw [if_neg (hL ▸ Nat.lt_irrefl _), List.take_of_length_le (Nat.le_of_eq hlen), List.append_assoc]

example : scanformat [45, 48, 49, 50, 46, 51, 100, 65]
    = .ok { p := 6, width := [49, 50], precision := [51], form := [37, 45, 48, 49, 50, 46, 51, 108, 100] } ∧
    scanformat [45, 45, 45, 45, 45, 45, 100] = .panic ∧ scanformat [49, 50, 51, 100] = .panic := by decide +kernel

end JanetModel.Lib.FormatC
