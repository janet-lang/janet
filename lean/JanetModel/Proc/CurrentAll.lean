/-
C16 — exit status, ALL 16-bit wait-status words, for the decoder of the CURRENT source (Gen/ProcStat.lean regenerated from
`cc -E` of os.c on every run).  The per-run obligation is that the regenerated chain is, token by token, the chain
`modelBranches` for which `status_decoder_total` is proved; on a libc whose macros expand differently this file does not
build and `Proc/Current.lean` (evaluation on the 508 words the kernel delivers) is what remains.
-/
import JanetModel.Proc.StatusSpec
import JanetModel.Gen.ProcStat

namespace JanetModel.Proc.CurrentAll
open JanetModel.Proc

/-- for EVERY 16-bit wait-status word the macro-expanded if / else-if chain of `proc_get_status` in the current tree
    computes `specDecode` -/
theorem status_decoder_total_current (w : Nat) (h : w < 65536) : decode Gen.ProcStat.branches (Int.ofNat w) = specDecode w := by
  have e : Gen.ProcStat.branches = modelBranches := by decide
  rw [e]
  exact status_decoder_total (by omega)

/-- exit code n ↦ n and signal s ↦ 128 + s, stated over the whole word: whatever the other bits of a 16-bit status word
    are, a word whose low 7 bits are 0 reports bits 8‥15 (the exit code), and a word whose low 7 bits are a signal number
    1‥126 reports 128 + that number (the core-dump bit and bits 8‥15 do not matter). -/
theorem exit_and_signal_words_total (w : Nat) (h : w < 65536) :
    (w % 128 = 0 → decode Gen.ProcStat.branches (Int.ofNat w) = .code (Int.ofNat (w / 256 % 256))) ∧
    (1 ≤ w % 128 → w % 128 ≤ 126 → decode Gen.ProcStat.branches (Int.ofNat w) = .code (Int.ofNat (w % 128 + 128))) := by
  rw [status_decoder_total_current w h]
  constructor
  · intro h0; simp [specDecode, h0]
  · intro h1 h2
    have a : ¬ w % 128 = 0 := by omega
    have b : ¬ w % 256 = 127 := by omega
    have c : ¬ w % 128 = 127 := by omega
    simp [specDecode, a, b, c]

example : decode Gen.ProcStat.branches (Int.ofNat (42 * 256)) = .code 42 := (exit_and_signal_words_total _ (by decide)).1 (by decide)
example : decode Gen.ProcStat.branches (Int.ofNat (9 + 128)) = .code 137 := (exit_and_signal_words_total _ (by decide)).2 (by decide) (by decide)

end JanetModel.Proc.CurrentAll
