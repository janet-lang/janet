/-
C16 — the wait-status decoder specified as plain arithmetic on the status word (`specDecode`), and the proof that the
if / else-if chain of `proc_get_status` with glibc's macro expansions (`modelBranches`) computes it on every non-negative
`int`: each mask of the expansions is a remainder, the shift a quotient (Proc/CurrentAll.lean instantiates this for the
regenerated chain).
-/
import JanetModel.Proc.Status

namespace JanetModel.Proc

/-- what `proc_get_status` has to return for the status word `w` (Linux layout): low 7 bits 0 → exited, bits 8‥15 are the
    exit code; low byte 0x7f → stopped, 128 + bits 8‥15; low 7 bits 0x7f otherwise (0xff) → no arm applies (panic); else
    killed by the signal in the low 7 bits (bit 7 = core dump), 128 + signal. -/
def specDecode (w : Nat) : Outcome :=
  if w % 128 = 0 then .code (Int.ofNat (w / 256 % 256))
  else if w % 256 = 127 then .code (Int.ofNat (w / 256 % 256 + 128))
  else if w % 128 = 127 then .panic
  else .code (Int.ofNat (w % 128 + 128))

theorem and_mask_shift (w n k : Nat) : w &&& ((2 ^ n - 1) <<< k) = ((w >>> k) % 2 ^ n) <<< k := by
  apply Nat.eq_of_testBit_eq
  intro i
  simp only [Nat.testBit_and, Nat.testBit_shiftLeft, Nat.testBit_shiftRight, Nat.testBit_mod_two_pow, Nat.testBit_two_pow_sub_one]
  by_cases h : k ≤ i
  · simp [h, Nat.add_sub_cancel' h, Bool.and_comm]
  · simp [h]

theorem toI32_ofNat {n : Nat} (h : n < 2147483648) : toI32 (Int.ofNat n) = Int.ofNat n := by
  unfold toI32; simp only [Int.ofNat_eq_natCast]; omega

theorem b2i_ne_zero (b : Bool) : (b2i b != 0) = b := by cases b <;> rfl

/-- `status & m` for a non-negative `int` status and a non-negative mask: no sign bit is involved -/
theorem band32_ofNat {w m : Nat} (hw : w < 2147483648) (hm : m < 2147483648) :
    band32 (Int.ofNat w) (Int.ofNat m) = Int.ofNat (w &&& m) := by
  have hle : w &&& m ≤ m := Nat.and_le_right
  have e1 : (Int.ofNat w % 4294967296).toNat = w := by simp; omega
  have e2 : (Int.ofNat m % 4294967296).toNat = m := by simp; omega
  unfold band32
  rw [e1, e2]
  exact toI32_ofNat (n := w &&& m) (by omega)

section
variable {w : Nat} (hw : w < 2147483648)
include hw

theorem eval_low7 : (CExpr.band .status (.lit 0x7f)).eval (Int.ofNat w) = Int.ofNat (w % 128) := by
  simp only [CExpr.eval]
  rw [band32_ofNat hw (by decide)]
  exact congrArg _ (Nat.and_two_pow_sub_one_eq_mod w 7)

theorem eval_low8 : (CExpr.band .status (.lit 0xff)).eval (Int.ofNat w) = Int.ofNat (w % 256) := by
  simp only [CExpr.eval]
  rw [band32_ofNat hw (by decide)]
  exact congrArg _ (Nat.and_two_pow_sub_one_eq_mod w 8)

theorem eval_WEXITSTATUS : mWEXITSTATUS.eval (Int.ofNat w) = Int.ofNat (w / 256 % 256) := by
  have h := and_mask_shift w 8 8
  simp only [Nat.shiftLeft_eq, Nat.shiftRight_eq_div_pow] at h
  simp only [mWEXITSTATUS, CExpr.eval]
  rw [band32_ofNat hw (by decide), show (65280 : Nat) = (2 ^ 8 - 1) * 2 ^ 8 by decide, h]
  simp

theorem eval_WIFEXITED : (mWIFEXITED.eval (Int.ofNat w) != 0) = decide (w % 128 = 0) := by
  simp only [mWIFEXITED, mWTERMSIG, ↓eval_low7 hw, CExpr.eval, b2i_ne_zero]
  exact Bool.eq_iff_iff.mpr (by simp only [beq_iff_eq, decide_eq_true_eq, Int.ofNat_eq_natCast]; omega)

theorem eval_WIFSTOPPED : (mWIFSTOPPED.eval (Int.ofNat w) != 0) = decide (w % 256 = 127) := by
  simp only [mWIFSTOPPED, ↓eval_low8 hw, CExpr.eval, b2i_ne_zero]
  exact Bool.eq_iff_iff.mpr (by simp only [beq_iff_eq, decide_eq_true_eq, Int.ofNat_eq_natCast]; omega)

/-- `((signed char)((status & 0x7f) + 1) >> 1) > 0`: adding 1 sends 0x7f to the sign bit of the `signed char`, and halving
    sends 0 + 1 to 0, so exactly the signal numbers 1 ‥ 126 are left positive -/
theorem eval_WIFSIGNALED : (mWIFSIGNALED.eval (Int.ofNat w) != 0) = decide (1 ≤ w % 128 ∧ w % 128 ≤ 126) := by
  have hx : w % 128 < 128 := Nat.mod_lt _ (by decide)
  simp only [mWIFSIGNALED, ↓eval_low7 hw, CExpr.eval, b2i_ne_zero]
  rw [decide_eq_decide]
  unfold sextChar toI32
  simp only [Int.ofNat_eq_natCast, Int.toNat_natCast]
  omega

omit hw in
theorem eval_plus128 (e : CExpr) {n : Nat} (hn : n < 256) (he : e.eval (Int.ofNat w) = Int.ofNat n) :
    (CExpr.add e (.lit 128)).eval (Int.ofNat w) = Int.ofNat (n + 128) := by
  simp only [CExpr.eval, he]
  exact toI32_ofNat (n := n + 128) (by omega)

/-- the decoder as written (glibc expansions) computes `specDecode` on every non-negative `int` -/
theorem status_decoder_total : decode modelBranches (Int.ofNat w) = specDecode w := by
  have hx : w % 128 < 128 := Nat.mod_lt _ (by decide)
  have hy : w / 256 % 256 < 256 := Nat.mod_lt _ (by decide)
  simp only [modelBranches, decode, eval_WIFEXITED hw, eval_WIFSTOPPED hw, eval_WIFSIGNALED hw, eval_WEXITSTATUS hw,
    eval_plus128 mWSTOPSIG hy (eval_WEXITSTATUS hw), eval_plus128 mWTERMSIG (by omega) (eval_low7 hw), specDecode,
    decide_eq_true_eq]
  split
  · rfl
  · split
    · rfl
    · by_cases h : w % 128 = 127
      · rw [if_neg (by omega), if_pos h]
      · rw [if_pos (by omega), if_neg h]
end
end JanetModel.Proc
