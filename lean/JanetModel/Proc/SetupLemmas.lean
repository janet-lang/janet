/-
C16 — `os_execute_impl` establishes `Safe` (hypothesis of `child_table`): specs of `makePipes` / `moveStd`, the freshness
hypothesis on the kernel (`Fresh`), the origin of every source handed to `adddup2`, and `setup_safe`.
-/
import JanetModel.Proc.SpawnLemmas
namespace JanetModel.Proc

def Tab.le (t t' : Tab) : Prop := ∀ x, (t x).isSome → (t' x).isSome

theorem Tab.le_refl (t : Tab) : t.le t := fun _ h => h
theorem Tab.le_trans {a b c : Tab} (h1 : a.le b) (h2 : b.le c) : a.le c := fun x h => h2 x (h1 x h)
theorem Tab.le_put (t : Tab) (fd : Nat) (e : Ent) : t.le (t.put fd e) := by
  intro x h; unfold Tab.put; by_cases hx : x = fd <;> simp [hx, h]
theorem Tab.put_self (t : Tab) (fd : Nat) (e : Ent) : ((t.put fd e) fd).isSome := by simp [Tab.put]

/-- what `makePipes` returns when it does not fail -/
theorem makePipes_spec (s : PS) (k : Nat) (rev : Bool) (ans : Option (Nat × Nat))
    (h : (makePipes s k rev ans).2.2.2 = false) :
    ∃ r w, ans = some (r, w) ∧
      (makePipes s k rev ans).2.2.1 = some (if rev then r else w) ∧
      (makePipes s k rev ans).2.1 = some (if rev then w else r) ∧
      s.tab.le (makePipes s k rev ans).1.tab ∧
      ((makePipes s k rev ans).1.tab r).isSome ∧ ((makePipes s k rev ans).1.tab w).isSome := by
  cases ans with
  | none => simp [makePipes] at h
  | some rw =>
    obtain ⟨r, w⟩ := rw
    refine ⟨r, w, rfl, ?_⟩
    cases rev with
    | true =>
      simp only [makePipes, if_true]
      refine ⟨trivial, trivial, ?_, ?_, ?_⟩
      · exact Tab.le_trans (Tab.le_trans (Tab.le_put _ _ _) (Tab.le_put _ _ _)) (Tab.le_put _ _ _)
      · exact Tab.le_put _ _ _ _ (Tab.le_put _ _ _ _ (Tab.put_self _ _ _))
      · exact Tab.put_self _ _ _
    | false =>
      simp only [makePipes]
      refine ⟨rfl, rfl, ?_, ?_, ?_⟩
      · exact Tab.le_trans (Tab.le_trans (Tab.le_put _ _ _) (Tab.le_put _ _ _)) (Tab.le_put _ _ _)
      · exact Tab.put_self _ _ _
      · exact Tab.le_put _ _ _ _ (Tab.put_self _ _ _)

/-- what one iteration of the `src_handles` loop returns when the error flag stays clear -/
theorem moveStd_spec (s : PS) (i : Nat) (src ans : Option Nat) (err : Bool)
    (h : (moveStd true s i src ans err).2.2.2 = false) :
    err = false ∧ s.tab.le (moveStd true s i src ans err).1.tab ∧
    (((moveStd true s i src ans err).2.1 = src ∧ ∀ x, src = some x → 2 < x ∨ x = i) ∨
     (∃ x f, src = some x ∧ x ≤ 2 ∧ x ≠ i ∧ ans = some f ∧ (moveStd true s i src ans err).2.1 = some f ∧
        ((moveStd true s i src ans err).1.tab f).isSome)) := by
  cases err with
  | true => simp [moveStd] at h
  | false =>
    refine ⟨rfl, ?_⟩
    cases src with
    | none => simp [moveStd, Tab.le_refl]
    | some x =>
      by_cases hx : x > 2 ∨ x = i
      · have : (decide (x > 2) || decide (x = i)) = true := by simpa using hx
        simp only [moveStd, Bool.not_true, Bool.false_or, this, if_true, Bool.false_eq_true, if_false]
        exact ⟨Tab.le_refl _, Or.inl ⟨trivial, fun y hy => by cases hy; exact hx⟩⟩
      · have hx' : (decide (x > 2) || decide (x = i)) = false := by simpa using hx
        cases ans with
        | none => simp [moveStd, hx'] at h
        | some f =>
          cases hts : s.tab x with
          | none => simp [moveStd, hx', hts] at h
          | some e =>
            simp only [moveStd, Bool.not_true, Bool.false_or, hx', Bool.false_eq_true, if_false, hts]
            refine ⟨Tab.le_put _ _ _, Or.inr ⟨x, f, rfl, by omega, by omega, rfl, rfl, Tab.put_self _ _ _⟩⟩


def Ans.isPipeAns (a : Ans) (r w : Nat) : Prop := a.pin = some (r, w) ∨ a.pout = some (r, w) ∨ a.perr = some (r, w)
def Ans.isTmpAns (a : Ans) (f : Nat) : Prop := a.tmp0 = some f ∨ a.tmp1 = some f ∨ a.tmp2 = some f

/-- what is assumed of the kernel and of the caller: 0, 1, 2 and the handles given are open; `pipe()` and
    `fcntl(F_DUPFD, 3)` return descriptors that are not open (nothing is closed before `posix_spawn`, so they are also
    different from one another), F_DUPFD honours its minimum -/
structure Fresh (rq : Req) (a : Ans) (t0 : Tab) : Prop where
  std : (t0 0).isSome ∧ (t0 1).isSome ∧ (t0 2).isSome
  handles : ∀ fd, (rq.rin.handleFd = some fd ∨ rq.rout.handleFd = some fd ∨ rq.rerr.handleFd = some fd) → (t0 fd).isSome
  pipesNew : ∀ r w, a.isPipeAns r w → t0 r = none ∧ t0 w = none
  tmpsNew : ∀ f, a.isTmpAns f → t0 f = none ∧ 2 < f
  io : ∀ r w r' w', a.pin = some (r, w) → a.pout = some (r', w') → r ≠ r' ∧ r ≠ w' ∧ w ≠ r' ∧ w ≠ w'
  ie : ∀ r w r' w', a.pin = some (r, w) → a.perr = some (r', w') → r ≠ r' ∧ r ≠ w' ∧ w ≠ r' ∧ w ≠ w'
  oe : ∀ r w r' w', a.pout = some (r, w) → a.perr = some (r', w') → r ≠ r' ∧ r ≠ w' ∧ w ≠ r' ∧ w ≠ w'
  pt : ∀ r w f, a.isPipeAns r w → a.isTmpAns f → r ≠ f ∧ w ≠ f

/-- where the source a block hands to `adddup2` comes from -/
inductive Origin (a : Ans) (t0 : Tab) (pipeAns : Option (Nat × Nat)) (pipe src : Option Nat) (s : Nat) : Prop where
  | childEnd (r w : Nat) (h : pipeAns = some (r, w)) (hq : s = r ∨ s = w) (hp : pipe = some s)
  | handle (hp : pipe = none) (hs : src = some s) (ho : (t0 s).isSome)
  | tmp (hp : pipe = none) (hs : src = some s) (ht : a.isTmpAns s)

theorem fresh_gt_two {rq : Req} {a : Ans} {t0 : Tab} (hf : Fresh rq a t0) (x : Nat) (h : t0 x = none) : 2 < x := by
  obtain ⟨h0, h1, h2⟩ := hf.std
  by_cases hx : 2 < x
  · exact hx
  · have : x = 0 ∨ x = 1 ∨ x = 2 := by omega
    rcases this with e | e | e <;> subst e <;> simp [h] at h0 h1 h2

/-- two origins of different directions name different descriptors unless both are non-pipe sources (then the C compares
    `src_handles` itself) -/
theorem origin_ne {rq : Req} {a : Ans} {t0 : Tab} (hf : Fresh rq a t0)
    {pa pa' : Option (Nat × Nat)} {pipe src pipe' src' : Option Nat} {s s' : Nat}
    (o : Origin a t0 pa pipe src s) (o' : Origin a t0 pa' pipe' src' s')
    (hpa : ∀ r w r' w', pa = some (r, w) → pa' = some (r', w') → r ≠ r' ∧ r ≠ w' ∧ w ≠ r' ∧ w ≠ w')
    (hpa1 : ∀ r w, pa = some (r, w) → a.isPipeAns r w) (hpa2 : ∀ r w, pa' = some (r, w) → a.isPipeAns r w)
    (hsrc : pipe = none → pipe' = none → src ≠ src') : s ≠ s' := by
  cases o with
  | childEnd r w h hq hp =>
    have hn := hf.pipesNew r w (hpa1 r w h)
    have hsn : t0 s = none := by rcases hq with e | e <;> rw [e] <;> first | exact hn.1 | exact hn.2
    cases o' with
    | childEnd r' w' h' hq' hp' =>
      have := hpa r w r' w' h h'
      rcases hq with e | e <;> rcases hq' with e' | e' <;> rw [e, e'] <;> first | exact this.1 | exact this.2.1 | exact this.2.2.1 | exact this.2.2.2
    | handle hp' hs' ho' => intro e; rw [e] at hsn; rw [hsn] at ho'; cases ho'
    | tmp hp' hs' ht' =>
      have := hf.pt r w s' (hpa1 r w h) ht'
      rcases hq with e | e <;> rw [e] <;> first | exact this.1 | exact this.2
  | handle hp hs ho =>
    cases o' with
    | childEnd r' w' h' hq' hp' =>
      have hn := hf.pipesNew r' w' (hpa2 r' w' h')
      have hsn : t0 s' = none := by rcases hq' with e | e <;> rw [e] <;> first | exact hn.1 | exact hn.2
      intro e; rw [e] at ho; rw [hsn] at ho; cases ho
    | handle hp' hs' ho' => intro e; apply hsrc hp hp'; rw [hs, hs', e]
    | tmp hp' hs' ht' => intro e; apply hsrc hp hp'; rw [hs, hs', e]
  | tmp hp hs ht =>
    cases o' with
    | childEnd r' w' h' hq' hp' =>
      have := hf.pt r' w' s (hpa2 r' w' h') ht
      rcases hq' with e | e <;> rw [e] <;> first | exact fun x => this.1 x.symm | exact fun x => this.2 x.symm
    | handle hp' hs' ho' => intro e; apply hsrc hp hp'; rw [hs, hs', e]
    | tmp hp' hs' ht' => intro e; apply hsrc hp hp'; rw [hs, hs', e]


def effOf (i : Nat) (pipe new src : Option Nat) : Option Nat :=
  match pipe with
  | some q => some q
  | none => match new, src with
    | some n, some s => if n ≠ i then some s else none
    | _, _ => none

theorem effIn_eq (p : Plumb) : effIn p = effOf 0 p.pipeIn p.newIn p.srcIn := rfl
theorem effOut_eq (p : Plumb) : effOut p = effOf 1 p.pipeOut p.newOut p.srcOut := rfl
theorem effErr_eq (p : Plumb) : effErr p = effOf 2 p.pipeErr p.newErr p.srcErr := rfl

/-- one direction after the set-up: its effective source is above 2, open, and of known origin -/
def DirOK (a : Ans) (t0 tab : Tab) (i : Nat) (pa : Option (Nat × Nat)) (pipe new src : Option Nat) : Prop :=
  ∀ s, effOf i pipe new src = some s → 2 < s ∧ (tab s).isSome ∧ Origin a t0 pa pipe src s

/-- a direction that got a pipe: `r` = result of makePipes (before the src loop), `m` = result of its moveStd iteration -/
theorem dirOK_pipe {rq : Req} {a : Ans} {t0 : Tab} (hf : Fresh rq a t0) (i k : Nat) (rev : Bool) (pa : Option (Nat × Nat))
    (s0 sm : PS) (ans : Option Nat) (err : Bool) (tab : Tab)
    (hpa : ∀ r w, pa = some (r, w) → a.isPipeAns r w)
    (hr : (makePipes s0 k rev pa).2.2.2 = false)
    (hm : (moveStd true sm i (makePipes s0 k rev pa).2.1 ans err).2.2.2 = false)
    (hle : (makePipes s0 k rev pa).1.tab.le tab) :
    DirOK a t0 tab i pa (makePipes s0 k rev pa).2.2.1 (makePipes s0 k rev pa).2.1 (moveStd true sm i (makePipes s0 k rev pa).2.1 ans err).2.1 := by
  obtain ⟨r, w, hans, hpipe, hnew, _, hor, how⟩ := makePipes_spec s0 k rev pa hr
  intro s hs
  rw [hpipe] at hs ⊢
  simp only [effOf] at hs
  cases hs
  have hn := hf.pipesNew r w (hpa r w hans)
  cases rev with
  | true => exact ⟨fresh_gt_two hf r hn.1, hle r hor, Origin.childEnd r w hans (Or.inl rfl) rfl⟩
  | false => exact ⟨fresh_gt_two hf w hn.2, hle w how, Origin.childEnd r w hans (Or.inr rfl) rfl⟩

/-- a direction without a pipe: `new` is the handle given (or none), `m` its moveStd iteration -/
theorem dirOK_handle {rq : Req} {a : Ans} {t0 : Tab} (hf : Fresh rq a t0) (i : Nat) (pa : Option (Nat × Nat))
    (sm : PS) (new ans : Option Nat) (err : Bool) (tab : Tab)
    (hnew : ∀ x, new = some x → (t0 x).isSome)
    (hans : ∀ f, ans = some f → a.isTmpAns f)
    (hm : (moveStd true sm i new ans err).2.2.2 = false)
    (hle0 : t0.le tab) (hle : (moveStd true sm i new ans err).1.tab.le tab) :
    DirOK a t0 tab i pa none new (moveStd true sm i new ans err).2.1 := by
  obtain ⟨_, _, hcase⟩ := moveStd_spec sm i new ans err hm
  intro s hs
  rcases hcase with ⟨hsrc, hgt⟩ | ⟨x, f, hx, hx2, hxi, hf', hsrc, hopen⟩
  · rw [hsrc] at hs ⊢
    cases new with
    | none => simp [effOf] at hs
    | some n =>
      simp only [effOf] at hs
      by_cases hni : n = i
      · simp [hni] at hs
      · simp [hni] at hs
        subst hs
        rcases hgt n rfl with h | h
        · exact ⟨h, hle0 n (hnew n rfl), Origin.handle rfl rfl (hnew n rfl)⟩
        · exact absurd h hni
  · rw [hsrc] at hs ⊢
    rw [hx] at hs
    simp only [effOf] at hs
    rw [if_pos hxi] at hs
    have hfs : f = s := Option.some.inj hs
    subst hfs
    have ht := hans f hf'
    exact ⟨(hf.tmpsNew f ht).2, hle f hopen, Origin.tmp rfl rfl ht⟩


theorem safe_of_dirOK {rq : Req} {a : Ans} {t0 : Tab} (hf : Fresh rq a t0) (p : Plumb) (tab : Tab)
    (d0 : DirOK a t0 tab 0 a.pin p.pipeIn p.newIn p.srcIn)
    (d1 : DirOK a t0 tab 1 a.pout p.pipeOut p.newOut p.srcOut)
    (d2 : DirOK a t0 tab 2 a.perr p.pipeErr p.newErr p.srcErr)
    (hle : t0.le tab) : Safe p tab := by
  have pi : ∀ r w, a.pin = some (r, w) → a.isPipeAns r w := fun r w h => Or.inl h
  have po : ∀ r w, a.pout = some (r, w) → a.isPipeAns r w := fun r w h => Or.inr (Or.inl h)
  have pe : ∀ r w, a.perr = some (r, w) → a.isPipeAns r w := fun r w h => Or.inr (Or.inr h)
  refine ⟨?_, ?_, ?_, ?_, ?_, ?_⟩
  · intro s hs; rw [effIn_eq] at hs; exact ⟨(d0 s hs).1, (d0 s hs).2.1⟩
  · intro s hs; rw [effOut_eq] at hs; exact ⟨(d1 s hs).1, (d1 s hs).2.1⟩
  · intro s hs; rw [effErr_eq] at hs; exact ⟨(d2 s hs).1, (d2 s hs).2.1⟩
  · intro hc s hs
    rw [effIn_eq] at hs
    have o0 := (d0 s hs).2.2
    have hcl : p.pipeIn = none → p.srcIn ≠ p.srcOut ∧ p.srcIn ≠ p.srcErr := by
      intro hp; unfold clIn at hc; rw [hp] at hc; simpa using hc
    constructor
    · intro ho; rw [effOut_eq] at ho
      exact origin_ne hf o0 (d1 s ho).2.2 hf.io pi po (fun h _ => (hcl h).1) rfl
    · intro ho; rw [effErr_eq] at ho
      exact origin_ne hf o0 (d2 s ho).2.2 hf.ie pi pe (fun h _ => (hcl h).2) rfl
  · intro hc s hs
    rw [effOut_eq] at hs
    have o1 := (d1 s hs).2.2
    have hcl : p.pipeOut = none → p.srcOut ≠ p.srcErr := by
      intro hp; unfold clOut at hc; rw [hp] at hc; simpa using hc
    intro ho; rw [effErr_eq] at ho
    exact origin_ne hf o1 (d2 s ho).2.2 hf.oe po pe (fun h _ => hcl h) rfl
  · intro _ _ _; exact hle 1 hf.std.2.1


abbrev R4 := PS × Option Nat × Option Nat × Bool

theorem pipeStage_le (c : Bool) (s : PS) (k : Nat) (rev : Bool) (pa : Option (Nat × Nat)) (hfd : Option Nat)
    (r : R4) (hr : r = if c then makePipes s k rev pa else (s, hfd, none, false)) (he : r.2.2.2 = false) : s.tab.le r.1.tab := by
  cases c with
  | true =>
    simp only [if_true] at hr
    rw [hr] at he ⊢
    obtain ⟨_, _, _, _, _, hle, _, _⟩ := makePipes_spec s k rev pa he
    exact hle
  | false => simp only [Bool.false_eq_true, if_false] at hr; rw [hr]; exact Tab.le_refl _

theorem dirOK_stage {rq : Req} {a : Ans} {t0 : Tab} (hf : Fresh rq a t0) (c : Bool) (i k : Nat) (rev : Bool) (pa : Option (Nat × Nat))
    (hfd : Option Nat) (s sm : PS) (ans : Option Nat) (err : Bool) (tab : Tab) (r m : R4)
    (hr : r = if c then makePipes s k rev pa else (s, hfd, none, false))
    (hm : m = moveStd true sm i r.2.1 ans err)
    (hpa : ∀ r w, pa = some (r, w) → a.isPipeAns r w)
    (hnew : ∀ x, hfd = some x → (t0 x).isSome)
    (hans : ∀ f, ans = some f → a.isTmpAns f)
    (her : r.2.2.2 = false) (hem : m.2.2.2 = false)
    (hle0 : t0.le tab) (hler : r.1.tab.le tab) (hlem : m.1.tab.le tab) :
    DirOK a t0 tab i pa r.2.2.1 r.2.1 m.2.1 := by
  cases c with
  | true =>
    simp only [if_true] at hr
    subst hr
    subst hm
    exact dirOK_pipe hf i k rev pa s sm ans err tab hpa her hem hler
  | false =>
    simp only [Bool.false_eq_true, if_false] at hr
    subst hr
    subst hm
    exact dirOK_handle hf i pa sm hfd ans err tab hnew hans hem hle0 hlem

theorem setup_safe_aux {rq : Req} {a : Ans} {t0 : Tab} (hf : Fresh rq a t0) (c1 c2 c3 eo : Bool) (r1 r2 r3 m1 m2 m3 : R4)
    (h1 : r1 = if c1 then makePipes { tab := t0, log := [] } 0 true a.pin else ({ tab := t0, log := [] }, rq.rin.handleFd, none, false))
    (h2 : r2 = if c2 then makePipes r1.1 1 false a.pout else (r1.1, rq.rout.handleFd, none, false))
    (h3 : r3 = if c3 then makePipes r2.1 2 false a.perr else (r2.1, if eo then none else rq.rerr.handleFd, none, false))
    (g1 : m1 = moveStd true r3.1 0 r1.2.1 a.tmp0 (r1.2.2.2 || r2.2.2.2 || r3.2.2.2))
    (g2 : m2 = moveStd true m1.1 1 r2.2.1 a.tmp1 m1.2.2.2)
    (g3 : m3 = moveStd true m2.1 2 r3.2.1 a.tmp2 m2.2.2.2)
    (he : m3.2.2.2 = false) :
    Safe { pipeIn := r1.2.2.1, pipeOut := r2.2.2.1, pipeErr := r3.2.2.1, newIn := r1.2.1, newOut := r2.2.1, newErr := r3.2.1,
           srcIn := m1.2.1, srcOut := m2.2.1, srcErr := m3.2.1, errIsOut := eo } m3.1.tab := by
  have s3 := moveStd_spec m2.1 2 r3.2.1 a.tmp2 m2.2.2.2 (by rw [← g3]; exact he)
  have s2 := moveStd_spec m1.1 1 r2.2.1 a.tmp1 m1.2.2.2 (by rw [← g2]; exact s3.1)
  have s1 := moveStd_spec r3.1 0 r1.2.1 a.tmp0 (r1.2.2.2 || r2.2.2.2 || r3.2.2.2) (by rw [← g1]; exact s2.1)
  have e123 := s1.1
  simp only [Bool.or_eq_false_iff] at e123
  obtain ⟨⟨e1, e2⟩, e3⟩ := e123
  have l1 : t0.le r1.1.tab := pipeStage_le c1 _ 0 true a.pin _ r1 h1 e1
  have l2 : r1.1.tab.le r2.1.tab := pipeStage_le c2 _ 1 false a.pout _ r2 h2 e2
  have l3 : r2.1.tab.le r3.1.tab := pipeStage_le c3 _ 2 false a.perr _ r3 h3 e3
  have l4 : r3.1.tab.le m1.1.tab := by rw [g1]; exact s1.2.1
  have l5 : m1.1.tab.le m2.1.tab := by rw [g2]; exact s2.2.1
  have l6 : m2.1.tab.le m3.1.tab := by rw [g3]; exact s3.2.1
  have L0 : t0.le m3.1.tab := Tab.le_trans l1 (Tab.le_trans l2 (Tab.le_trans l3 (Tab.le_trans l4 (Tab.le_trans l5 l6))))
  have d0 := dirOK_stage hf c1 0 0 true a.pin rq.rin.handleFd _ r3.1 a.tmp0 _ m3.1.tab r1 m1 h1 g1 (fun r w h => Or.inl h)
    (fun x hx => hf.handles x (Or.inl hx)) (fun f h => Or.inl h) e1 s2.1 L0
    (Tab.le_trans l2 (Tab.le_trans l3 (Tab.le_trans l4 (Tab.le_trans l5 l6)))) (Tab.le_trans l5 l6)
  have d1 := dirOK_stage hf c2 1 1 false a.pout rq.rout.handleFd _ m1.1 a.tmp1 _ m3.1.tab r2 m2 h2 g2 (fun r w h => Or.inr (Or.inl h))
    (fun x hx => hf.handles x (Or.inr (Or.inl hx))) (fun f h => Or.inr (Or.inl h)) e2 s3.1 L0
    (Tab.le_trans l3 (Tab.le_trans l4 (Tab.le_trans l5 l6))) l6
  have d2 := dirOK_stage hf c3 2 2 false a.perr (if eo then none else rq.rerr.handleFd) _ m2.1 a.tmp2 _ m3.1.tab r3 m3 h3 g3 (fun r w h => Or.inr (Or.inr h))
    (fun x hx => by
      cases eo with
      | true => simp at hx
      | false => exact hf.handles x (Or.inr (Or.inr (by simpa using hx)))) (fun f h => Or.inr (Or.inr h)) e3 he L0
    (Tab.le_trans l4 (Tab.le_trans l5 l6)) (Tab.le_refl _)
  exact safe_of_dirOK hf _ _ d0 d1 d2 L0

/-- `os_execute_impl` ESTABLISHES `Safe`: for every request and every kernel that hands out descriptors that are not
    open (`Fresh`), when the set-up phase does not fail the handles and the table at `posix_spawn` satisfy the hypothesis of
    `child_table` / `child_stdio_exact`. -/
theorem setup_safe (rq : Req) (a : Ans) (t0 : Tab) (hf : Fresh rq a t0) (he : (setup true rq a t0).err = false) :
    Safe (setup true rq a t0).p (setup true rq a t0).s.tab := by
  simp only [setup] at he ⊢
  exact setup_safe_aux hf _ _ _ _ _ _ _ _ _ _ rfl rfl rfl rfl rfl rfl he

end JanetModel.Proc
