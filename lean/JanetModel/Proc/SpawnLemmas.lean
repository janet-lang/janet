/-
C16 — lemmas about the descriptor plumbing model (Proc/Spawn.lean): effect of the posix_spawn file actions on the
child's table, block by block; `child_table` is the statement Props/C16.lean builds on.
-/
import JanetModel.Proc.Spawn
namespace JanetModel.Proc
def effIn (p : Plumb) : Option Fd :=
  match p.pipeIn with
  | some q => some q
  | none => match p.newIn, p.srcIn with
    | some n, some s => if n ≠ 0 then some s else none
    | _, _ => none
def effOut (p : Plumb) : Option Fd :=
  match p.pipeOut with
  | some q => some q
  | none => match p.newOut, p.srcOut with
    | some n, some s => if n ≠ 1 then some s else none
    | _, _ => none
def effErr (p : Plumb) : Option Fd :=
  match p.pipeErr with
  | some q => some q
  | none => match p.newErr, p.srcErr with
    | some n, some s => if n ≠ 2 then some s else none
    | _, _ => none
def clIn (p : Plumb) : Bool :=
  match p.pipeIn with
  | some _ => true
  | none => decide (p.srcIn ≠ p.srcOut ∧ p.srcIn ≠ p.srcErr)
def clOut (p : Plumb) : Bool :=
  match p.pipeOut with
  | some _ => true
  | none => decide (p.srcOut ≠ p.srcErr)

def stageActs (i : Fd) : Option Fd → Bool → List Act
  | none, _ => []
  | some s, true => [.dup2 s i, .close s]
  | some s, false => [.dup2 s i]

def errTail (p : Plumb) : List Act :=
  match effErr p with
  | some _ => []
  | none => if p.errIsOut then [.dup2 1 2] else []

theorem inActs_eq (p : Plumb) : inActs p = stageActs 0 (effIn p) (clIn p) := by
  obtain ⟨pi, po, pe, ni, no, ne, si, so, se, eo⟩ := p
  cases pi <;> cases ni <;> cases si <;> simp [inActs, effIn, clIn, stageActs]
  rename_i n s
  by_cases h0 : n = 0 <;> by_cases h1 : so = some s <;> by_cases h2 : se = some s <;> simp [h0, h1, h2, stageActs, eq_comm]

theorem outActs_eq (p : Plumb) : outActs p = stageActs 1 (effOut p) (clOut p) := by
  obtain ⟨pi, po, pe, ni, no, ne, si, so, se, eo⟩ := p
  cases po <;> cases no <;> cases so <;> simp [outActs, effOut, clOut, stageActs]
  rename_i n s
  by_cases h0 : n = 1 <;> by_cases h2 : se = some s <;> simp [h0, h2, stageActs, eq_comm]

theorem errActs_eq (p : Plumb) : errActs p = stageActs 2 (effErr p) true ++ errTail p := by
  obtain ⟨pi, po, pe, ni, no, ne, si, so, se, eo⟩ := p
  cases pe <;> cases ne <;> cases se <;> cases eo <;> simp [errActs, effErr, errTail, stageActs]
  all_goals (rename_i n s; by_cases h0 : n = 2 <;> simp [h0, stageActs])

theorem runActs_append (t : Tab) (a b : List Act) :
    runActs t (a ++ b) = (runActs t a).bind (fun t' => runActs t' b) := by
  induction a generalizing t with
  | nil => rfl
  | cons x xs ih =>
    simp only [List.cons_append, runActs]
    cases x.run t with
    | none => rfl
    | some t' => exact ih t'

/-- the table after one direction's block -/
def stageTab (t : Tab) (i : Fd) (eff : Option Fd) (cl : Bool) : Tab :=
  match eff with
  | none => t
  | some s => match t s with
    | none => t
    | some e => if cl then (t.put i { e with cloexec := false }).del s else t.put i { e with cloexec := false }

theorem runActs_stage (t : Tab) (i : Fd) (eff : Option Fd) (cl : Bool)
    (h : ∀ s, eff = some s → (t s).isSome) :
    runActs t (stageActs i eff cl) = some (stageTab t i eff cl) := by
  cases eff with
  | none => rfl
  | some s =>
    have hs := h s rfl
    cases hts : t s with
    | none => rw [hts] at hs; cases hs
    | some e => cases cl <;> simp [stageActs, runActs, Act.run, stageTab, hts]

def clearCx (e : Ent) : Ent := { e with cloexec := false }

theorem stageTab_other (t : Tab) (i : Fd) (eff : Option Fd) (cl : Bool) (x : Fd)
    (hx : x ≠ i) (h : eff ≠ some x ∨ cl = false) : stageTab t i eff cl x = t x := by
  cases eff with
  | none => rfl
  | some s =>
    cases hts : t s with
    | none => simp [stageTab, hts]
    | some e =>
      cases cl with
      | false => simp [stageTab, hts, Tab.put, hx]
      | true =>
        have : x ≠ s := by
          rcases h with h | h
          · intro e; apply h; rw [e]
          · cases h
        simp [stageTab, hts, Tab.put, Tab.del, hx, this]

theorem stageTab_target (t : Tab) (i s : Fd) (cl : Bool) (e : Ent) (hs : t s = some e) (hne : i ≠ s) :
    stageTab t i (some s) cl i = some (clearCx e) := by
  cases cl <;> simp [stageTab, hs, Tab.put, Tab.del, hne, clearCx]

theorem stageTab_closed (t : Tab) (i s : Fd) (e : Ent) (hs : t s = some e) :
    stageTab t i (some s) true s = none := by
  simp [stageTab, hs, Tab.del]

theorem stageTab_above (t : Tab) (i : Fd) (eff : Option Fd) (cl : Bool) (x : Fd) (hx : x ≠ i) :
    stageTab t i eff cl x = t x ∨ stageTab t i eff cl x = none := by
  cases eff with
  | none => left; rfl
  | some s =>
    cases hts : t s with
    | none => left; simp [stageTab, hts]
    | some e =>
      cases cl with
      | false => left; simp [stageTab, hts, Tab.put, hx]
      | true =>
        by_cases hxs : x = s
        · right; simp [stageTab, hts, Tab.del, hxs]
        · left; simp [stageTab, hts, Tab.put, Tab.del, hx, hxs]


/-- what the three blocks need from the handles and the table at the time of posix_spawn -/
structure Safe (p : Plumb) (t : Tab) : Prop where
  inOpen : ∀ s, effIn p = some s → 2 < s ∧ (t s).isSome
  outOpen : ∀ s, effOut p = some s → 2 < s ∧ (t s).isSome
  errOpen : ∀ s, effErr p = some s → 2 < s ∧ (t s).isSome
  inKeep : clIn p = true → ∀ s, effIn p = some s → effOut p ≠ some s ∧ effErr p ≠ some s
  outKeep : clOut p = true → ∀ s, effOut p = some s → effErr p ≠ some s
  tailOpen : p.errIsOut = true → effErr p = none → effOut p = none → (t 1).isSome

/-- the entry a standard descriptor of the child must have: the redirection's source (never close-on-exec), else inherited -/
def redirected (t : Tab) (eff : Option Fd) (i : Fd) : Option Ent :=
  match eff with
  | some s => (t s).map clearCx
  | none => t i

theorem stage_self (t : Tab) (i : Fd) (eff : Option Fd) (cl : Bool)
    (h : ∀ s, eff = some s → i ≠ s ∧ (t s).isSome) : stageTab t i eff cl i = redirected t eff i := by
  cases eff with
  | none => rfl
  | some s =>
    obtain ⟨hne, ho⟩ := h s rfl
    cases hts : t s with
    | none => rw [hts] at ho; cases ho
    | some e => rw [stageTab_target t i s cl e hts hne]; simp [redirected, hts]

/-- a source lies above 2, so it is none of the three targets -/
private theorem ne_target {e : Option Fd} {P : Fd → Prop} (h : ∀ s, e = some s → 2 < s ∧ P s) {x : Fd} (hx : x ≤ 2) (c : Bool) :
    e ≠ some x ∨ c = false :=
  .inl fun he => by have := (h x he).1; omega

theorem child_table (p : Plumb) (t : Tab) (h : Safe p t) :
    ∃ t', runActs t (fileActions p) = some t' ∧
      t' 0 = redirected t (effIn p) 0 ∧
      t' 1 = redirected t (effOut p) 1 ∧
      t' 2 = (match effErr p with
              | some s => (t s).map clearCx
              | none => if p.errIsOut then (redirected t (effOut p) 1).map clearCx else t 2) ∧
      (∀ x, 2 < x → t' x = t x ∨ t' x = none) := by
  obtain ⟨inOpen, outOpen, errOpen, inKeep, outKeep, tailOpen⟩ := h
  generalize hI : effIn p = eI at inOpen outOpen errOpen inKeep outKeep tailOpen
  generalize hO : effOut p = eO at inOpen outOpen errOpen inKeep outKeep tailOpen
  generalize hE : effErr p = eE at inOpen outOpen errOpen inKeep outKeep tailOpen
  generalize hcI : clIn p = cI at inKeep
  generalize hcO : clOut p = cO at outKeep
  -- the sources of later blocks are untouched by earlier ones
  have nI : ∀ s, eI = some s → (eO ≠ some s ∨ cI = false) ∧ (eE ≠ some s ∨ cI = false) := by
    intro s hs
    cases cI with
    | false => exact ⟨Or.inr rfl, Or.inr rfl⟩
    | true => have := inKeep rfl s hs; exact ⟨Or.inl this.1, Or.inl this.2⟩
  have F0 : ∀ s, 2 < s → (eI = some s → cI = false) → stageTab t 0 eI cI s = t s := by
    intro s h2 hc
    apply stageTab_other _ _ _ _ _ (by omega)
    by_cases ha : eI = some s
    · exact .inr (hc ha)
    · exact .inl ha
  have F1 : ∀ s, eO = some s → stageTab t 0 eI cI s = t s := fun s hs =>
    F0 s (outOpen s hs).1 fun hI => (nI s hI).1.resolve_left fun h => h hs
  have F1e : ∀ s, eE = some s → stageTab t 0 eI cI s = t s := fun s hs =>
    F0 s (errOpen s hs).1 fun hI => (nI s hI).2.resolve_left fun h => h hs
  have F2 : ∀ s, eE = some s → stageTab (stageTab t 0 eI cI) 1 eO cO s = t s := by
    intro s hs
    have h2 := (errOpen s hs).1
    rw [stageTab_other _ _ _ _ _ (by omega)]
    · exact F1e s hs
    · cases eO with
      | none => left; simp
      | some b =>
        by_cases hb : b = s
        · subst hb
          cases cO with
          | false => right; rfl
          | true => exact absurd hs (outKeep rfl b rfl)
        · left; simp [hb]
  -- run the three blocks
  have r1 := runActs_stage t 0 eI cI (fun s hs => (inOpen s hs).2)
  have r2 := runActs_stage (stageTab t 0 eI cI) 1 eO cO (fun s hs => by rw [F1 s hs]; exact (outOpen s hs).2)
  have r3 := runActs_stage (stageTab (stageTab t 0 eI cI) 1 eO cO) 2 eE true (fun s hs => by rw [F2 s hs]; exact (errOpen s hs).2)
  -- entries 0, 1, 2 and the rest after the three blocks
  have e0 : stageTab (stageTab (stageTab t 0 eI cI) 1 eO cO) 2 eE true 0 = redirected t eI 0 := by
    rw [stageTab_other _ _ _ _ _ (by omega), stageTab_other _ _ _ _ _ (by omega)]
    · exact stage_self t 0 eI cI (fun s hs => ⟨by have := (inOpen s hs).1; omega, (inOpen s hs).2⟩)
    · exact ne_target outOpen (by omega) _
    · exact ne_target errOpen (by omega) _
  have e1 : stageTab (stageTab (stageTab t 0 eI cI) 1 eO cO) 2 eE true 1 = redirected t eO 1 := by
    rw [stageTab_other _ _ _ _ _ (by omega)]
    · rw [stage_self (stageTab t 0 eI cI) 1 eO cO (fun s hs => ⟨by have := (outOpen s hs).1; omega, by rw [F1 s hs]; exact (outOpen s hs).2⟩)]
      cases eO with
      | none =>
        simp only [redirected]
        apply stageTab_other _ _ _ _ _ (by omega)
        exact ne_target inOpen (by omega) _
      | some b => simp only [redirected]; rw [F1 b rfl]
    · exact ne_target errOpen (by omega) _
  have e2 : stageTab (stageTab (stageTab t 0 eI cI) 1 eO cO) 2 eE true 2 =
      (match eE with | some s => (t s).map clearCx | none => t 2) := by
    rw [stage_self _ 2 eE true (fun s hs => ⟨by have := (errOpen s hs).1; omega, by rw [F2 s hs]; exact (errOpen s hs).2⟩)]
    cases eE with
    | none =>
      simp only [redirected]
      rw [stageTab_other _ _ _ _ _ (by omega), stageTab_other _ _ _ _ _ (by omega)]
      · exact ne_target inOpen (by omega) _
      · exact ne_target outOpen (by omega) _
    | some c => simp only [redirected]; rw [F2 c rfl]
  have eX : ∀ x, 2 < x → stageTab (stageTab (stageTab t 0 eI cI) 1 eO cO) 2 eE true x = t x ∨
      stageTab (stageTab (stageTab t 0 eI cI) 1 eO cO) 2 eE true x = none := by
    intro x hx
    rcases stageTab_above (stageTab (stageTab t 0 eI cI) 1 eO cO) 2 eE true x (by omega) with h3 | h3
    · rcases stageTab_above (stageTab t 0 eI cI) 1 eO cO x (by omega) with h2 | h2
      · rcases stageTab_above t 0 eI cI x (by omega) with h1 | h1
        · left; rw [h3, h2, h1]
        · right; rw [h3, h2, h1]
      · right; rw [h3, h2]
    · right; exact h3
  -- assemble
  have run3 : runActs t (stageActs 0 eI cI ++ stageActs 1 eO cO ++ stageActs 2 eE true) =
      some (stageTab (stageTab (stageTab t 0 eI cI) 1 eO cO) 2 eE true) := by
    rw [runActs_append, runActs_append, r1]
    simp only [Option.bind_some]
    rw [r2]
    simp only [Option.bind_some]
    exact r3
  have hfa : fileActions p = (stageActs 0 eI cI ++ stageActs 1 eO cO ++ stageActs 2 eE true) ++ errTail p := by
    unfold fileActions
    rw [inActs_eq, outActs_eq, errActs_eq, hI, hO, hE, hcI, hcO, List.append_assoc, List.append_assoc, List.append_assoc]
  rw [hfa, runActs_append, run3]
  simp only [Option.bind_some]
  unfold errTail
  rw [hE]
  cases eE with
  | some c =>
    refine ⟨_, rfl, e0, e1, ?_, eX⟩
    rw [e2]
  | none =>
    cases hout : p.errIsOut with
    | false =>
      refine ⟨_, rfl, e0, e1, ?_, eX⟩
      rw [e2]; simp
    | true =>
      -- the child's descriptor 1 is open after the first two blocks
      have open1 : ∃ e, redirected t eO 1 = some e := by
        cases eO with
        | none =>
          have := tailOpen hout rfl rfl
          cases h1 : t 1 with
          | none => rw [h1] at this; cases this
          | some e => exact ⟨e, by simp [redirected, h1]⟩
        | some b =>
          have := (outOpen b rfl).2
          cases hb : t b with
          | none => rw [hb] at this; cases this
          | some e => exact ⟨clearCx e, by simp [redirected, hb]⟩
      obtain ⟨e, he⟩ := open1
      have h1 : stageTab (stageTab (stageTab t 0 eI cI) 1 eO cO) 2 none true 1 = some e := by rw [e1]; exact he
      refine ⟨(stageTab (stageTab (stageTab t 0 eI cI) 1 eO cO) 2 none true).put 2 (clearCx e), ?_, ?_, ?_, ?_, ?_⟩
      · simp [runActs, Act.run, h1, clearCx]
      · simp only [Tab.put]; rw [if_neg (by omega)]; exact e0
      · simp only [Tab.put]; rw [if_neg (by omega)]; exact e1
      · simp [Tab.put, he]
      · intro x hx
        simp only [Tab.put]; rw [if_neg (by omega)]; exact eX x hx


/-! ### `Safe` as an executable check (used by the driver on every intercepted spawn) -/
def optAll (o : Option Nat) (f : Nat → Bool) : Bool := match o with | some s => f s | none => true

def safeB (p : Plumb) (t : Tab) : Bool :=
  optAll (effIn p) (fun s => decide (2 < s) && (t s).isSome) &&
  optAll (effOut p) (fun s => decide (2 < s) && (t s).isSome) &&
  optAll (effErr p) (fun s => decide (2 < s) && (t s).isSome) &&
  (!clIn p || optAll (effIn p) (fun s => decide (effOut p ≠ some s) && decide (effErr p ≠ some s))) &&
  (!clOut p || optAll (effOut p) (fun s => decide (effErr p ≠ some s))) &&
  (!(p.errIsOut && (effErr p).isNone && (effOut p).isNone) || (t 1).isSome)

theorem optAll_spec (o : Option Nat) (f : Nat → Bool) (h : optAll o f = true) : ∀ s, o = some s → f s = true := by
  intro s hs; subst hs; exact h

theorem safeB_sound (p : Plumb) (t : Tab) (h : safeB p t = true) : Safe p t := by
  unfold safeB at h
  simp only [Bool.and_eq_true, Bool.or_eq_true, Bool.not_eq_true', decide_eq_true_eq] at h
  obtain ⟨⟨⟨⟨⟨h1, h2⟩, h3⟩, h4⟩, h5⟩, h6⟩ := h
  refine ⟨?_, ?_, ?_, ?_, ?_, ?_⟩
  · intro s hs; have := optAll_spec _ _ h1 s hs; simpa using this
  · intro s hs; have := optAll_spec _ _ h2 s hs; simpa using this
  · intro s hs; have := optAll_spec _ _ h3 s hs; simpa using this
  · intro hc s hs
    rcases h4 with h4 | h4
    · rw [hc] at h4; cases h4
    · have := optAll_spec _ _ h4 s hs; simpa using this
  · intro hc s hs
    rcases h5 with h5 | h5
    · rw [hc] at h5; cases h5
    · have := optAll_spec _ _ h5 s hs; simpa using this
  · intro ho he hu
    rcases h6 with h6 | h6
    · simp [ho, he, hu] at h6
    · exact h6

end JanetModel.Proc
