/- C16 — the life cycle of a process value (`ProcSt`, Proc/Spawn.lean): what the operations preserve holds along every
   sequence of them; once waited (or being waited for) always so; `os/proc-close` closes the owned pipe ends and clears the
   OWNS flags, after which nothing is closed again.  Core Lean only. -/
import JanetModel.Proc.Spawn
namespace JanetModel.Proc

theorem ProcSt.run_inv {Q : ProcSt → Prop} (hstep : ∀ p o, Q p → Q (p.step o).1) : ∀ (ops : List ProcOp) (p : ProcSt), Q p → Q (p.run ops).1
  | [], _, h => h
  | o :: os, p, h => ProcSt.run_inv hstep os (p.step o).1 (hstep p o h)

theorem ProcSt.step_waited (p : ProcSt) (o : ProcOp) (h : p.waited = true ∨ p.waiting = true) :
    (p.step o).1.waited = true ∨ (p.step o).1.waiting = true := by
  cases o with
  | wait => rcases h with h | h <;> simp [ProcSt.step, ProcSt.waitImpl, h]
  | reaped st alive => left; rfl
  | close => rcases h with h | h <;> simp [ProcSt.step, ProcSt.waitImpl, h]

theorem closeOwned_eq (o : Bool) (f : Option Fd) (acc : List Fd) : closeOwned o f acc = acc ++ (if o then f.toList else []) := by
  cases o <;> cases f <;> simp [closeOwned]

theorem ProcSt.waitImpl_fds (p : ProcSt) : p.waitImpl.1.closedFds = p.closedFds ∧ p.waitImpl.1.owns = p.owns := by
  unfold ProcSt.waitImpl
  split <;> exact ⟨rfl, rfl⟩

/-- `close` closes the owned ends, in the order in, out, err, and clears the OWNS flags -/
theorem ProcSt.step_close_fds (p : ProcSt) :
    (p.step .close).1.closedFds = p.closedFds ++ ((if p.owns.1 then p.fds.1.toList else []) ++
      (if p.owns.2.1 then p.fds.2.1.toList else []) ++ (if p.owns.2.2 then p.fds.2.2.toList else [])) ∧
    (p.step .close).1.owns = (false, false, false) := by
  simp only [ProcSt.step, closeOwned_eq]
  split
  · exact ⟨by simp only [List.append_assoc], rfl⟩
  · exact ⟨(ProcSt.waitImpl_fds _).1.trans (by simp only [List.append_assoc]), (ProcSt.waitImpl_fds _).2⟩

/-- a process value that owns nothing closes nothing -/
theorem ProcSt.step_unowned (q : ProcSt) (hq : q.owns = (false, false, false)) (o : ProcOp) :
    (q.step o).1.owns = (false, false, false) ∧ (q.step o).1.closedFds = q.closedFds := by
  cases o with
  | wait => exact ⟨q.waitImpl_fds.2.trans hq, q.waitImpl_fds.1⟩
  | reaped st alive => exact ⟨hq, rfl⟩
  | close => exact ⟨q.step_close_fds.2, by simp [q.step_close_fds.1, hq]⟩

theorem ProcSt.run_unowned (q : ProcSt) (hq : q.owns = (false, false, false)) (ops : List ProcOp) :
    (q.run ops).1.closedFds = q.closedFds :=
  (ProcSt.run_inv (Q := fun p => p.owns = (false, false, false) ∧ p.closedFds = q.closedFds)
    (fun p o h => ⟨(p.step_unowned h.1 o).1, (p.step_unowned h.1 o).2.trans h.2⟩) ops q ⟨hq, rfl⟩).2

end JanetModel.Proc
