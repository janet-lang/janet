import JanetModel.Wait.Atom
/-
C07 — "current wait" in the property's own terms.

Ghost `epoch f` = how many times the loop has resumed fiber `f` so far.  Every registration (pending channel entry, timer,
process-wait record, threaded await, stream listener) remembers the epoch of its fiber at the moment it was made, every task the epoch of the
registration (or request) it stems from.  Invariant `EInv`: a record (`Rec`) whose generation is still the fiber's current generation was
made in the fiber's CURRENT epoch, i.e. after the fiber's last resume.  Consequence (`Props.C07.resumed_only_by_registration_of_current_wait`):
every executed task stems from a registration made after the previous resume of that fiber — never from a wait the fiber has
already left.  This needs the generation to be bumped both when a fiber is scheduled and when it is resumed (`resumeBumps`).
-/
namespace JanetModel.Wait

/-- a record of fiber `f` with generation `g`, made in epoch `ep`, is consistent with `w` -/
def RecOk (w : World) (f g ep : Nat) : Prop :=
  g ≤ (w.fibers f).schedId ∧ (g = (w.fibers f).schedId → ep = (w.fibers f).epoch)

/-- generations only grow, and an epoch changes only together with the generation -/
def Adv (w w' : World) : Prop :=
  ∀ f, (w.fibers f).schedId ≤ (w'.fibers f).schedId ∧
       ((w.fibers f).schedId = (w'.fibers f).schedId → (w.fibers f).epoch = (w'.fibers f).epoch)

theorem Adv.refl (w : World) : Adv w w := fun _ => ⟨Nat.le_refl _, fun _ => rfl⟩

theorem Adv.trans {a b c : World} (h1 : Adv a b) (h2 : Adv b c) : Adv a c := by
  intro f
  obtain ⟨a1, a2⟩ := h1 f
  obtain ⟨b1, b2⟩ := h2 f
  refine ⟨Nat.le_trans a1 b1, fun h => ?_⟩
  have e1 : (a.fibers f).schedId = (b.fibers f).schedId := by omega
  have e2 : (b.fibers f).schedId = (c.fibers f).schedId := by omega
  rw [a2 e1, b2 e2]

theorem RecOk.adv {w w' : World} {f g ep : Nat} (h : RecOk w f g ep) (ha : Adv w w') : RecOk w' f g ep := by
  obtain ⟨a1, a2⟩ := ha f
  obtain ⟨h1, h2⟩ := h
  refine ⟨Nat.le_trans h1 a1, fun hg => ?_⟩
  have e1 : (w.fibers f).schedId = (w'.fibers f).schedId := by omega
  rw [← a2 e1]; exact h2 (by omega)

theorem RecOk.cur (w : World) (f : Nat) : RecOk w f (w.fibers f).schedId (w.fibers f).epoch := ⟨Nat.le_refl _, fun _ => rfl⟩

structure EInv (w : World) : Prop where
  recs : ∀ f g ep, Rec w f g ep → RecOk w f g ep
  ls : ∀ f, (w.fibers f).listener ≠ none → (w.fibers f).listenEpoch = (w.fibers f).epoch
  log : ∀ e ∈ w.log, e.task.regEpoch = e.epochAtRun

theorem init_EInv : EInv init :=
  ⟨fun _ _ _ r => by cases r <;> simp_all [init], fun _ h => by simp [init] at h, fun _ h => by simp [init] at h⟩

theorem Current.ok {w : World} {f g ep : Nat} (h : Current w f g ep) : RecOk w f g ep := h.1 ▸ h.2 ▸ RecOk.cur w f

theorem Quiet.adv {w w' : World} (h : Quiet w w') : Adv w w' := fun f => ⟨h.sid f, fun _ => (h.epoch f).symm⟩

theorem Edit.adv {cfg : Cfg} {a b : World} (e : Edit cfg a b) : Adv a b :=
  fun f => ⟨Nat.le_of_eq (e.sid f).symm, fun _ => (e.epoch f).symm⟩

theorem Edit.einv {cfg : Cfg} {a b : World} (e : Edit cfg a b) (h : EInv a) : EInv b := by
  refine ⟨fun f g ep r => ((e.recs f g ep r).elim (h.recs f g ep) Current.ok).adv e.adv, fun f hf => ?_, by rw [e.log]; exact h.log⟩
  rw [e.epoch]
  rcases e.ls f hf with ⟨h1, h2⟩ | h1
  · rw [h2]; exact h.ls f h1
  · exact h1

/-- scheduling on behalf of a record (or request) of the fiber's current epoch -/
theorem schedule_einv (cfg : Cfg) (hb : cfg.scheduleBumps = true) {w : World} (h : EInv w) (f : Nat) (v : Val) (e : Bool)
    (rg nb : Nat) (src : Src) {re : Nat} (hre : re = (w.fibers f).epoch) : EInv (schedule cfg w f v e rg nb src re) := by
  have ha := (schedule_Quiet cfg w f v e rg nb src re).adv
  unfold schedule at ha ⊢
  by_cases hg : (cfg.canceledGuard && (w.fibers f).canceled) = true
  · rw [if_pos hg]; exact h
  · rw [if_neg hg] at ha ⊢
    refine ⟨fun f' g ep r => (r.transfer (a := w) (fun t ht => ?_) (fun _ _ h => .inl h) (fun _ _ h => .inl h) (fun _ h => .inl h)
      (fun _ _ _ h => .inl ⟨h, rfl⟩) (fun _ _ _ h => .inl ⟨h, rfl⟩)).elim (fun r' => (h.recs _ _ _ r').adv ha) id, fun g hg => ?_, h.log⟩
    · refine (List.mem_append.mp ht).imp_right fun ht => ?_
      rw [List.mem_singleton.mp ht]
      simp [RecOk, hre, nextSid, hb]
    · by_cases hgf : g = f
      · subst hgf; simp only [set_same] at hg ⊢; exact h.ls g hg
      · simp only [set_other _ _ _ _ hgf] at hg ⊢; exact h.ls g hg

/-- a wake-up is for a record of `w0`, still consistent after the changes since, or for the current generation -/
theorem Atom.einv {cfg : Cfg} (hc : cfg.allChecked = true) {w0 : World} (h0 : EInv w0) {a b : World} (s : Atom cfg w0 a b)
    (h : EInv a ∧ Adv w0 a) : EInv b ∧ Adv w0 b := by
  cases s with
  | edit e _ => exact ⟨e.einv h.1, h.2.trans e.adv⟩
  | wake f v e g nb src ep hrec hlive hnb hsl =>
    refine ⟨schedule_einv cfg (Cfg.checked hc).scheduleBumps h.1 f v e g nb src ?_, h.2.trans (schedule_Quiet ..).adv⟩
    rcases hrec with r | ⟨_, rfl | ⟨hl, rfl⟩⟩
    · exact ((h0.recs _ _ _ r).adv h.2).2 (hlive hc)
    · rfl
    · exact h.1.ls f hl

/-- the run phase: an executed task stems from a record of the fiber's current epoch; the bump at resume makes every other
    record of that fiber stale, so the epoch can advance -/
theorem Exec.einv {cfg : Cfg} (hc : cfg.allChecked = true) {t : Task} {a b : World} (x : Exec cfg t a b) (h : EInv a) : EInv b := by
  have ha : Adv a b := fun g => by
    by_cases hg : g = t.fiber
    · rw [hg, x.sid, if_pos (Cfg.checked hc).resumeBumps]
      exact ⟨Nat.le_succ _, fun hh => absurd hh (Nat.ne_of_lt (Nat.lt_succ_self _))⟩
    · rw [x.sids hg, x.epochs hg]; exact ⟨Nat.le_refl _, fun _ => rfl⟩
  refine ⟨fun f g ep r => ?_, fun g hl => ?_, fun e he => ?_⟩
  · rcases x.edit.recs f g ep r with r' | c
    · exact (h.recs f g ep (r'.frame fun _ h => h)).adv ha
    · exact Current.ok ⟨c.1.trans (x.edit.sid f).symm, c.2.trans (x.edit.epoch f).symm⟩
  · by_cases hg : g = t.fiber
    · exact absurd (hg ▸ x.detached (Cfg.checked hc).didResumeDetaches (Cfg.checked hc).didResumeFirst) hl
    · have := x.edit.ls g hl
      simp only [set_other _ _ _ _ hg] at this
      rw [x.epochs hg]
      rcases this with ⟨h1, h2⟩ | h1
      · rw [h2]; exact h.ls g h1
      · exact h1
  · rw [x.log] at he
    rcases List.mem_cons.mp he with rfl | he
    · exact (h.recs _ _ _ (.q x.mem)).2 (x.cur (Cfg.checked hc).runFilter)
    · exact h.log e he

theorem chanPop_fibers (cfg : Cfg) (w : World) (f c : Nat) (ch : Bool) (g : Nat) :
    ((chanPop cfg w f c ch).1.fibers g).epoch = (w.fibers g).epoch :=
  (chanPop_steps cfg w f c ch).quiet.epoch g

theorem step_einv (cfg : Cfg) (hc : cfg.allChecked = true) {w : World} (h : EInv w) (op : Op) : EInv (step cfg w op) := by
  rcases step_cases cfg w op with s | ⟨e, _⟩ | ⟨_, t, x⟩
  · exact (s.keeps (Atom.einv hc h) ⟨h, Adv.refl w⟩).1
  · exact e.einv h
  · exact x.einv hc h

theorem run_einv (cfg : Cfg) (hc : cfg.allChecked = true) (ops : List Op) {w : World} (h : EInv w) : EInv (run cfg w ops) :=
  Util.foldl_inv (P := EInv) (fun _ op h => step_einv cfg hc h op) ops w h

end JanetModel.Wait
