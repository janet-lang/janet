import Mathlib.Data.Rat.Floor
import Mathlib.Tactic.Linarith
import Mathlib.Tactic.Positivity
import Mathlib.Data.Int.Interval
import Mathlib.Data.Finset.Max
import Mathlib.Algebra.Order.Floor.Semiring
import JanetModel.Wait.Rounding
/-
C07 — the two assumptions of `cMs_ge_exact` about the rounding `fl` of the double product (`Monotone fl`, `fl` fixes representable
half-integers) are CONSEQUENCES of the IEEE-754 definition of round-to-nearest: `fl x` is a binary64 number nearest to `x`, whatever
the tie-breaking rule.  So the only thing assumed about the hardware multiplication is that it rounds to nearest.
-/
namespace JanetModel.Wait

/-- the finite binary64 numbers (no upper exponent bound: the theorems carry a range hypothesis) -/
def IsBinary64 (x : ℚ) : Prop := ∃ (m : ℤ) (e : ℤ), |m| < 2 ^ 53 ∧ -1074 ≤ e ∧ x = (m : ℚ) * (2 : ℚ) ^ e

/-- IEEE-754 round-to-nearest with an arbitrary tie rule (ties-to-even, ties-away, …) -/
structure IsRoundNearest (fl : ℚ → ℚ) : Prop where
  mem : ∀ x, IsBinary64 (fl x)
  nearest : ∀ x z, IsBinary64 z → |x - fl x| ≤ |x - z|

theorem IsRoundNearest.monotone {fl : ℚ → ℚ} (h : IsRoundNearest fl) : Monotone fl := by
  intro x y hxy
  by_contra hlt
  rw [not_le] at hlt
  -- a = fl y < b = fl x
  have h1 := h.nearest x (fl y) (h.mem y)     -- |x - b| ≤ |x - a|
  have h2 := h.nearest y (fl x) (h.mem x)     -- |y - a| ≤ |y - b|
  -- from h1: x is at least the midpoint; from h2: y is at most the midpoint
  have hx : fl x + fl y ≤ 2 * x := by
    by_contra hc
    rw [not_le] at hc
    have : |x - fl y| < |x - fl x| := by
      have := le_abs_self (fl x - x)
      rw [abs_sub_comm] at this
      rw [abs_lt]
      constructor <;> linarith
    linarith
  have hy : 2 * y ≤ fl x + fl y := by
    by_contra hc
    rw [not_le] at hc
    have : |y - fl x| < |y - fl y| := by
      have := le_abs_self (y - fl y)
      rw [abs_lt]
      constructor <;> linarith
    linarith
  -- hence x = y = midpoint, so fl x = fl y
  have hxy' : x = y := by linarith
  rw [hxy'] at hlt
  exact lt_irrefl _ hlt

theorem IsRoundNearest.fixes {fl : ℚ → ℚ} (h : IsRoundNearest fl) {z : ℚ} (hz : IsBinary64 z) : fl z = z := by
  have := h.nearest z z hz
  simp only [sub_self, abs_zero] at this
  have h0 : |z - fl z| = 0 := le_antisymm this (abs_nonneg _)
  have := abs_eq_zero.mp h0
  linarith

/-- half-integers up to 2^52 are binary64 numbers -/
theorem halfInt_isBinary64 (k : ℤ) (hk : |k| ≤ 2 ^ 53) : IsBinary64 ((k : ℚ) / 2) := by
  by_cases hlt : |k| < 2 ^ 53
  · refine ⟨k, -1, hlt, by norm_num, ?_⟩
    rw [zpow_neg, zpow_one]; ring
  · have heq : |k| = 2 ^ 53 := le_antisymm hk (not_lt.mp hlt)
    rcases abs_eq (by positivity : (0 : ℤ) ≤ 2 ^ 53) |>.mp heq with h | h
    · refine ⟨2 ^ 52, 0, by norm_num, by norm_num, ?_⟩
      rw [h]; norm_num
    · refine ⟨-(2 ^ 52), 0, by norm_num, by norm_num, ?_⟩
      rw [h]; norm_num

example : IsBinary64 (3 / 2) := halfInt_isBinary64 3 (by norm_num)

/-- `cMs_ge_exact` with the rounding assumption reduced to "the multiplication rounds to nearest" -/
theorem cMs_rn_ge_exact (fl : ℚ → ℚ) (hfl : IsRoundNearest fl) (δ : ℚ)
    (hrange : |2 * roundHalfUp (δ * 1000) - 1| ≤ 2 ^ 53) : roundHalfUp (δ * 1000) ≤ cMs fl δ :=
  cMs_ge_exact fl hfl.monotone (fun k hk => hfl.fixes (halfInt_isBinary64 k hk)) δ hrange

theorem cMs_rn_ge_floor (fl : ℚ → ℚ) (hfl : IsRoundNearest fl) (δ : ℚ)
    (hrange : |2 * roundHalfUp (δ * 1000) - 1| ≤ 2 ^ 53) : ⌊δ * 1000⌋ ≤ cMs fl δ :=
  cMs_ge_floor fl hfl.monotone (fun k hk => hfl.fixes (halfInt_isBinary64 k hk)) δ hrange

/-! non-vacuity: a round-to-nearest function exists (every binary64 number is a multiple of 2^-1074, so near any `x` there are
finitely many candidates) -/

theorem exists_nearest (x : ℚ) : ∃ z, IsBinary64 z ∧ ∀ z', IsBinary64 z' → |x - z| ≤ |x - z'| := by
  classical
  have hu0 : (0 : ℚ) < (2 : ℚ) ^ (-1074 : ℤ) := zpow_pos (by norm_num) _
  generalize hu : (2 : ℚ) ^ (-1074 : ℤ) = u at hu0
  have hmul : ∀ z, IsBinary64 z → ∃ n : ℤ, z = (n : ℚ) * u := by
    rintro z ⟨m, e, -, he, rfl⟩
    refine ⟨m * 2 ^ (e + 1074).toNat, ?_⟩
    have h2 : (2 : ℚ) ^ e = (2 : ℚ) ^ (((e + 1074).toNat : ℤ)) * u := by
      rw [← hu, ← zpow_add₀ (by norm_num : (2 : ℚ) ≠ 0), Int.toNat_of_nonneg (by omega)]
      congr 1; ring
    rw [h2, zpow_natCast]; push_cast; ring
  obtain ⟨K, hK⟩ : ∃ K : ℕ, |x| / u ≤ K := ⟨⌈|x| / u⌉₊, Nat.le_ceil _⟩
  have hxK : |x| ≤ K * u := by rwa [div_le_iff₀ hu0] at hK
  let S : Finset ℤ := (Finset.Icc (-(2 * (K : ℤ) + 1)) (2 * K + 1)).filter (fun n => IsBinary64 ((n : ℚ) * u))
  have h0 : (0 : ℤ) ∈ S := by
    refine Finset.mem_filter.mpr ⟨Finset.mem_Icc.mpr ⟨by omega, by omega⟩, ⟨0, 0, by norm_num, by norm_num, by simp⟩⟩
  obtain ⟨n, hnS, hmin⟩ := Finset.exists_min_image S (fun n : ℤ => |x - (n : ℚ) * u|) ⟨0, h0⟩
  refine ⟨n * u, (Finset.mem_filter.mp hnS).2, ?_⟩
  intro z' hz'
  obtain ⟨n', rfl⟩ := hmul z' hz'
  by_cases hin : n' ∈ S
  · exact hmin n' hin
  · have hout : 2 * (K : ℤ) + 2 ≤ |n'| := by
      by_contra hc
      rw [not_le] at hc
      apply hin
      refine Finset.mem_filter.mpr ⟨Finset.mem_Icc.mpr ?_, hz'⟩
      have := abs_lt.mp hc
      constructor <;> omega
    have hq : (2 * (K : ℚ) + 2) * u ≤ |(n' : ℚ) * u| := by
      rw [abs_mul, abs_of_pos hu0]
      have h3 : (2 * (K : ℚ) + 2) ≤ |(n' : ℚ)| := by exact_mod_cast hout
      exact mul_le_mul_of_nonneg_right h3 hu0.le
    have h1 : |x - ((0 : ℤ) : ℚ) * u| ≤ |x - (n' : ℚ) * u| := by
      simp only [Int.cast_zero, zero_mul, sub_zero]
      have ht : |(n' : ℚ) * u| - |x| ≤ |x - (n' : ℚ) * u| := by
        rw [abs_sub_comm x]; exact abs_sub_abs_le_abs_sub _ _
      have hKu : 0 ≤ (K : ℚ) * u := by positivity
      linarith
    exact le_trans (hmin 0 h0) h1

theorem exists_roundNearest : ∃ fl : ℚ → ℚ, IsRoundNearest fl :=
  ⟨fun x => Classical.choose (exists_nearest x),
   fun x => (Classical.choose_spec (exists_nearest x)).1,
   fun x z hz => (Classical.choose_spec (exists_nearest x)).2 z hz⟩

end JanetModel.Wait
