import JanetModel.Wait.Atom
/-
C07 — what the steps leave alone, under ANY configuration of checks, read off `step_cases`: generations never decrease (`Mono`: a
stale registration stays stale forever); nothing but `bodyStart` / `bodyDone` touches the with-deadline bodies, and a finished body
stays finished (`BInv`).  (That only the execution of a task moves an epoch or the log is EpochCount.lean.)
-/
namespace JanetModel.Wait

theorem step_Mono (cfg : Cfg) (w : World) (op : Op) : Mono w (step cfg w op) := by
  rcases step_cases cfg w op with s | ⟨e, _⟩ | ⟨_, t, x⟩
  · exact s.quiet.sid
  · exact e.mono
  · exact x.mono

theorem run_Mono (cfg : Cfg) (ops : List Op) (w : World) : Mono w (run cfg w ops) :=
  Util.foldl_inv (P := Mono w) (fun _ op h => h.trans (step_Mono cfg _ op)) ops w (.refl w)

/-- every step except `bodyStart` / `bodyDone` leaves the bodies alone -/
theorem step_BF (cfg : Cfg) (w : World) (op : Op) (h1 : ∀ b, op ≠ .bodyStart b) (h2 : ∀ b, op ≠ .bodyDone b) : SameBodies w (step cfg w op) := by
  rcases step_cases cfg w op with s | ⟨_, hb⟩ | ⟨_, t, x⟩
  · exact s.quiet.bodies
  · exact hb h1 h2
  · exact x.bodies

/-- a finished body is not resumable -/
def BInv (w : World) : Prop := ∀ b, w.bodyDead b = true → w.bodies b = false

theorem init_BInv : BInv init := by intro b h; simp [init] at h

theorem step_body (cfg : Cfg) (w : World) (op : Op) (h : BInv w) :
    BInv (step cfg w op) ∧ ∀ b, w.bodyDead b = true → (step cfg w op).bodyDead b = true := by
  by_cases h1 : ∃ b, op = .bodyStart b
  · obtain ⟨b, rfl⟩ := h1
    simp only [step]
    by_cases hd : w.bodyDead b = true
    · rw [if_pos hd]; exact ⟨h, fun _ hb => hb⟩
    · rw [if_neg hd]
      refine ⟨?_, fun _ hb => hb⟩
      intro b' hb'
      by_cases hbb : b' = b
      · subst hbb; exact absurd hb' hd
      · simp only [set_other _ _ _ _ hbb]; exact h b' hb'
  · by_cases h2 : ∃ b, op = .bodyDone b
    · obtain ⟨b, rfl⟩ := h2
      simp only [step]
      refine ⟨?_, ?_⟩
      · intro b' hb'
        by_cases hbb : b' = b
        · subst hbb; simp
        · simp only [set_other _ _ _ _ hbb] at hb' ⊢; exact h b' hb'
      · intro b' hb'
        by_cases hbb : b' = b
        · subst hbb; simp
        · simp only [set_other _ _ _ _ hbb]; exact hb'
    · have hf := step_BF cfg w op (fun b hb => h1 ⟨b, hb⟩) (fun b hb => h2 ⟨b, hb⟩)
      refine ⟨?_, ?_⟩
      · intro b hb; rw [hf.1]; rw [hf.2] at hb; exact h b hb
      · intro b hb; rw [hf.2]; exact hb

theorem run_body (cfg : Cfg) (ops : List Op) (w : World) (h : BInv w) :
    BInv (run cfg w ops) ∧ ∀ b, w.bodyDead b = true → (run cfg w ops).bodyDead b = true :=
  Util.foldl_inv (P := fun u => BInv u ∧ ∀ b, w.bodyDead b = true → u.bodyDead b = true)
    (fun u op hu => ⟨(step_body cfg u op hu.1).1, fun b hb => (step_body cfg u op hu.1).2 b (hu.2 b hb)⟩) ops w ⟨h, fun _ hb => hb⟩

end JanetModel.Wait
