import JanetModel.Wait.Model
import JanetModel.Util.List
/-
C07 — the generation-counter invariant of the wait model, and what `schedule` (`Quiet` under any configuration), `popLive`,
`asyncEnd` and the kernel-side completions do.
-/
namespace JanetModel.Wait

structure Cfg.Checked (c : Cfg) : Prop where
  runFilter : c.runFilter = true
  timerCheck : c.timerCheck = true
  pushSkipsStale : c.pushSkipsStale = true
  popSkipsStale : c.popSkipsStale = true
  closeChecks : c.closeChecks = true
  procCheck : c.procCheck = true
  deadlineChecks : c.deadlineChecks = true
  didResumeDetaches : c.didResumeDetaches = true
  scheduleBumps : c.scheduleBumps = true
  canceledGuard : c.canceledGuard = true
  sleepRounds : c.sleepRounds = true
  hasReaderChecks : c.hasReaderChecks = true
  timeoutAfterValidation : c.timeoutAfterValidation = true
  didResumeFirst : c.didResumeFirst = true
  procErrCheck : c.procErrCheck = true
  threadCheck : c.threadCheck = true
  resumeBumps : c.resumeBumps = true

theorem Cfg.checked {c : Cfg} (h : c.allChecked = true) : c.Checked := by
  simp only [Cfg.allChecked, Bool.and_eq_true] at h
  obtain ⟨⟨⟨⟨⟨⟨⟨⟨⟨⟨⟨⟨⟨⟨⟨⟨a, b⟩, c⟩, d⟩, e⟩, f⟩, g⟩, i⟩, j⟩, k⟩, l⟩, m⟩, n⟩, o⟩, p⟩, q⟩, r⟩ := h
  exact ⟨a, b, c, d, e, f, g, i, j, k, l, m, n, o, p, q, r⟩

theorem set_set {α : Type} (m : Nat → α) (k : Nat) (a b : α) : set (set m k a) k b = set m k b := by
  funext i; by_cases h : i = k <;> simp [set, h]

/-- a queued task: created by a registration of generation `regGen` that was live when the task was created -/
structure TaskOk (w : World) (t : Task) : Prop where
  gen : t.regGen + 1 = t.expected
  le : t.expected ≤ (w.fibers t.fiber).schedId
  nb : t.notBefore ≤ w.now
  sl : ∀ s d, t.src = .sleep s d → s + (d + 500) / 1000 ≤ t.notBefore

structure EventOk (e : Event) : Prop where
  cur : e.task.expected = e.schedIdAtRun
  gen : e.task.regGen + 1 = e.task.expected
  nb : e.task.notBefore ≤ e.tick
  sl : ∀ s d, e.task.src = .sleep s d → s + (d + 500) / 1000 ≤ e.tick

structure Inv (w : World) : Prop where
  q : ∀ t ∈ w.queue, TaskOk w t
  l : ∀ e ∈ w.log, EventOk e
  tm : ∀ to ∈ w.timers, to.when = to.start + (to.durUs + 500) / 1000

theorem init_inv : Inv init := by
  refine ⟨?_, ?_, ?_⟩ <;> intro x hx <;> simp [init] at hx

def Mono (w w' : World) : Prop := ∀ g, (w.fibers g).schedId ≤ (w'.fibers g).schedId

theorem Mono.refl (w : World) : Mono w w := fun _ => Nat.le_refl _
theorem Mono.trans {a b c : World} (h1 : Mono a b) (h2 : Mono b c) : Mono a c := fun g => Nat.le_trans (h1 g) (h2 g)

def SameBodies (w w' : World) : Prop := w'.bodies = w.bodies ∧ w'.bodyDead = w.bodyDead

/-- log, epochs and with-deadline bodies stay, generations only grow -/
structure Quiet (w w' : World) : Prop where
  log : w'.log = w.log
  bodies : SameBodies w w'
  epoch : ∀ f, (w'.fibers f).epoch = (w.fibers f).epoch
  sid : Mono w w'

theorem Quiet.refl (w : World) : Quiet w w := ⟨rfl, ⟨rfl, rfl⟩, fun _ => rfl, fun _ => Nat.le_refl _⟩

theorem Quiet.trans {a b c : World} (h1 : Quiet a b) (h2 : Quiet b c) : Quiet a c :=
  ⟨h2.log.trans h1.log, ⟨h2.bodies.1.trans h1.bodies.1, h2.bodies.2.trans h1.bodies.2⟩, fun f => (h2.epoch f).trans (h1.epoch f),
   fun f => Nat.le_trans (h1.sid f) (h2.sid f)⟩

theorem schedule_Quiet (cfg : Cfg) (w : World) (f : Nat) (v : Val) (e : Bool) (rg nb : Nat) (src : Src) (re : Nat) :
    Quiet w (schedule cfg w f v e rg nb src re) := by
  unfold schedule
  split
  · exact .refl w
  · refine ⟨rfl, ⟨rfl, rfl⟩, fun g => ?_, fun g => ?_⟩ <;> by_cases hg : g = f
    · subst hg; simp
    · simp [set_other _ _ _ _ hg]
    · subst hg; simp only [set_same, nextSid]; split <;> (try split) <;> omega
    · simp [set_other _ _ _ _ hg]

theorem schedule_mono (cfg : Cfg) (w : World) (f : Nat) (v : Val) (e : Bool) (rg nb : Nat) (src : Src) (re : Nat) (g : Nat) :
    (w.fibers g).schedId ≤ ((schedule cfg w f v e rg nb src re).fibers g).schedId :=
  (schedule_Quiet cfg w f v e rg nb src re).sid g

theorem schedule_now (cfg : Cfg) (w : World) (f : Nat) (v : Val) (e : Bool) (rg nb : Nat) (src : Src) (re : Nat) :
    (schedule cfg w f v e rg nb src re).now = w.now := by
  unfold schedule
  by_cases hc : (cfg.canceledGuard && (w.fibers f).canceled) = true <;> simp [hc]

theorem schedule_log (cfg : Cfg) (w : World) (f : Nat) (v : Val) (e : Bool) (rg nb : Nat) (src : Src) (re : Nat) :
    (schedule cfg w f v e rg nb src re).log = w.log :=
  (schedule_Quiet cfg w f v e rg nb src re).log

theorem schedule_timers (cfg : Cfg) (w : World) (f : Nat) (v : Val) (e : Bool) (rg nb : Nat) (src : Src) (re : Nat) :
    (schedule cfg w f v e rg nb src re).timers = w.timers := by
  unfold schedule
  by_cases hc : (cfg.canceledGuard && (w.fibers f).canceled) = true <;> simp [hc]

theorem schedule_bodies (cfg : Cfg) (w : World) (f : Nat) (v : Val) (e : Bool) (rg nb : Nat) (src : Src) (re : Nat) :
    (schedule cfg w f v e rg nb src re).bodies = w.bodies :=
  (schedule_Quiet cfg w f v e rg nb src re).bodies.1

/-- Every schedule that is not swallowed by the CANCELED guard bumps the generation by exactly one. -/
theorem schedule_bumps (cfg : Cfg) (hb : cfg.scheduleBumps = true) (w : World) (f : Nat) (v : Val) (e : Bool) (rg nb : Nat) (src : Src) (re : Nat) :
    schedule cfg w f v e rg nb src re = w ∨
    (((schedule cfg w f v e rg nb src re).fibers f).schedId = (w.fibers f).schedId + 1 ∧
     (schedule cfg w f v e rg nb src re).queue = w.queue ++
        [{ fiber := f, value := v, isErr := e, expected := (w.fibers f).schedId + 1, regGen := rg, notBefore := nb, src := src,
           regEpoch := re }]) := by
  unfold schedule
  by_cases hc : (cfg.canceledGuard && (w.fibers f).canceled) = true
  · left; simp [hc]
  · right; simp [hc, hb, nextSid]

theorem schedule_live (cfg : Cfg) (hb : cfg.scheduleBumps = true) (w : World) (f : Nat) (v : Val) (e : Bool) (rg nb : Nat)
    (src : Src) (re : Nat) (hnc : (w.fibers f).canceled = false) :
    ((schedule cfg w f v e rg nb src re).fibers f).schedId = (w.fibers f).schedId + 1 ∧
    (schedule cfg w f v e rg nb src re).queue = w.queue ++
      [{ fiber := f, value := v, isErr := e, expected := (w.fibers f).schedId + 1, regGen := rg, notBefore := nb, src := src,
         regEpoch := re }] := by
  simp [schedule, hnc, nextSid, hb]

/-- scheduling on behalf of a LIVE registration keeps the invariant -/
theorem schedule_inv (cfg : Cfg) (hb : cfg.scheduleBumps = true) {w : World} (h : Inv w) (f : Nat) (v : Val) (e : Bool)
    (rg nb : Nat) (src : Src) {re : Nat} (hrg : rg = (w.fibers f).schedId) (hnb : nb ≤ w.now)
    (hsl : ∀ s d, src = .sleep s d → s + (d + 500) / 1000 ≤ nb) :
    Inv (schedule cfg w f v e rg nb src re) := by
  rcases schedule_bumps cfg hb w f v e rg nb src re with heq | ⟨hsid, hq⟩
  · rw [heq]; exact h
  · refine ⟨?_, ?_, ?_⟩
    · intro t ht
      rw [hq] at ht
      rcases List.mem_append.mp ht with ht | ht
      · have := h.q t ht
        exact ⟨this.gen, Nat.le_trans this.le (schedule_mono ..), by rw [schedule_now]; exact this.nb, this.sl⟩
      · simp at ht
        subst ht
        refine ⟨by simp [hrg], by simp [hsid], by simp [schedule_now, hnb], by simpa using hsl⟩
    · intro ev hev; rw [schedule_log] at hev; exact h.l ev hev
    · intro to hto; rw [schedule_timers] at hto; exact h.tm to hto

/-- tasks of fiber `h` in the run queue -/
def Callback.tasksOf (w : World) (h : Nat) : List Task := w.queue.filter (fun t => t.fiber == h)

theorem Callback.schedule_other (cfg : Cfg) (w : World) (f h : Nat) (hne : h ≠ f) (v : Val) (e : Bool) (rg nb : Nat) (src : Src) (re : Nat) :
    (schedule cfg w f v e rg nb src re).fibers h = w.fibers h ∧ Callback.tasksOf (schedule cfg w f v e rg nb src re) h = Callback.tasksOf w h := by
  unfold schedule
  by_cases hc : (cfg.canceledGuard && (w.fibers f).canceled) = true
  · simp [hc]
  · have hne' : (f == h) = false := by simpa using fun h' => hne h'.symm
    simp [hc, Callback.tasksOf, set_other _ _ _ _ hne, List.filter_append, hne']

theorem eq_of_live {w : World} {f g : Nat} (h : live w f g = true) : g = (w.fibers f).schedId :=
  (beq_iff_eq.mp h).symm

theorem popLive_congr (c : Bool) (w w' : World) (hf : w.fibers = w'.fibers) (l : List Pending) : popLive c w l = popLive c w' l := by
  induction l with
  | nil => rfl
  | cons e rest ih => simp [popLive, live, hf, ih]

theorem popLive_stale_head (w : World) (e : Pending) (rest : List Pending) (h : live w e.fiber e.schedId = false) :
    popLive true w (e :: rest) = popLive true w rest := by
  simp [popLive, h]

theorem popLive_all_stale (w : World) (l : List Pending) (h : ∀ e ∈ l, live w e.fiber e.schedId = false) :
    popLive true w l = (none, []) := by
  induction l with
  | nil => rfl
  | cons x xs ih =>
    have hx := h x (by simp)
    simp [popLive, hx]
    exact ih (fun e he => h e (by simp [he]))

theorem popLive_of_any_live (w : World) (l : List Pending) (h : l.any (fun e => live w e.fiber e.schedId) = true) :
    ∃ e rest, popLive true w l = (some e, rest) := by
  induction l with
  | nil => simp at h
  | cons x xs ih =>
    by_cases hl : live w x.fiber x.schedId = true
    · exact ⟨x, xs, by simp [popLive, hl]⟩
    · have hx : xs.any (fun e => live w e.fiber e.schedId) = true := by simpa [hl] using h
      obtain ⟨e, rest, he⟩ := ih hx
      exact ⟨e, rest, by simp [popLive, hl, he]⟩

theorem mem_insertTimer (t x : Timer) (l : List Timer) : x ∈ insertTimer t l ↔ x = t ∨ x ∈ l := by
  induction l with
  | nil => simp [insertTimer]
  | cons y ys ih =>
    unfold insertTimer
    by_cases h : t.when < y.when
    · simp [h]
    · simp [h, ih]
      constructor
      · rintro (h1 | h1 | h1) <;> simp [h1]
      · rintro (h1 | h1 | h1) <;> simp [h1]

theorem asyncEnd_listener (w : World) (f : Nat) : ((asyncEnd w f).fibers f).listener = none := by
  unfold asyncEnd
  split
  · assumption
  · exact congrArg Fiber.listener (set_same ..)

/-- the shape of a two-branch guarded wake-up: nothing happens (`W`), or one of the two branches fires under its guard -/
theorem guarded_branches {α : Type} (a b c d : Bool) (A B W : α) :
    (if a then (if b then (if c then A else W) else (if d then B else W)) else W) = W ∨
    (c = true ∧ (if a then (if b then (if c then A else W) else (if d then B else W)) else W) = A) ∨
    (d = true ∧ (if a then (if b then (if c then A else W) else (if d then B else W)) else W) = B) := by
  cases a <;> cases b <;> cases c <;> cases d <;> simp

theorem procExit_cases (cfg : Cfg) (w : World) (k st : Nat) :
    procExit cfg w k st = w ∨ ∃ f g, w.procs k = some (f, g) ∧
      (procExit cfg w k st = { w with procs := set w.procs k none } ∨
       ∃ v e, (cfg.procErrCheck = true → cfg.procCheck = true → live w f g = true) ∧
         procExit cfg w k st = schedule cfg { w with procs := set w.procs k none } f v e g w.now (.proc k) (w.procEpoch k)) := by
  unfold procExit
  cases hp : w.procs k with
  | none => exact Or.inl rfl
  | some fg =>
    obtain ⟨f, g⟩ := fg
    refine Or.inr ⟨f, g, rfl, ?_⟩
    rcases guarded_branches (!(w.fibers f).dead) (st != 0 && w.procX k) (!cfg.procErrCheck || live w f g)
      (!cfg.procCheck || live w f g)
      (schedule cfg { w with procs := set w.procs k none } f (procErrVal st) true g w.now (.proc k) (w.procEpoch k))
      (schedule cfg { w with procs := set w.procs k none } f (.int st) false g w.now (.proc k) (w.procEpoch k))
      { w with procs := set w.procs k none } with h | ⟨hl, h⟩ | ⟨hl, h⟩
    · exact Or.inl h
    · exact Or.inr ⟨_, _, fun hc _ => by simpa [hc] using hl, h⟩
    · exact Or.inr ⟨_, _, fun _ hc => by simpa [hc] using hl, h⟩

theorem thrDone_cases (cfg : Cfg) (w : World) (k : Nat) (v : Val) (e : Bool) :
    thrDone cfg w k v e = w ∨ ∃ f g, w.thr k = some (f, g) ∧
      (thrDone cfg w k v e = { w with thr := set w.thr k none } ∨
       (cfg.threadCheck = true → live w f g = true) ∧
         thrDone cfg w k v e = schedule cfg { w with thr := set w.thr k none } f v e g w.now (.thread k) (w.thrEpoch k)) := by
  unfold thrDone
  cases hp : w.thr k with
  | none => exact Or.inl rfl
  | some fg =>
    obtain ⟨f, g⟩ := fg
    refine Or.inr ⟨f, g, rfl, ?_⟩
    simp only
    split
    · rename_i hl
      exact Or.inr ⟨fun h => by simp only [h, Bool.not_true, Bool.false_or, Bool.and_eq_true] at hl; exact hl.2, rfl⟩
    · exact Or.inl rfl

theorem streamEvent_cases (cfg : Cfg) (w : World) (s : Nat) (r : Bool) (v : Val) (e : Bool) :
    streamEvent cfg w s r v e = w ∨ ∃ f, (w.fibers f).listener ≠ none ∧
      streamEvent cfg w s r v e =
        asyncEnd (schedule cfg w f v e (w.fibers f).schedId w.now (.stream s) (w.fibers f).listenEpoch) f := by
  unfold streamEvent
  simp only
  split
  · exact Or.inl rfl
  · rename_i f _
    split
    · exact Or.inl rfl
    · rename_i hl
      split
      · exact Or.inr ⟨f, by rw [hl]; exact nofun, rfl⟩
      · exact Or.inl rfl
end JanetModel.Wait
