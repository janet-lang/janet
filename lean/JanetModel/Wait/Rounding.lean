import Mathlib.Data.Rat.Floor
import JanetModel.Wait.Model
/-
C07 — the IEEE side of `ev/sleep`:  ts_delta computes  `ts += (int64_t) round(delta * 1000)`  on doubles.
`round()` is exact on doubles; the product `delta * 1000` is the correctly rounded value `fl (δ · 1000)` of the real product.
Assumptions on `fl` (any IEEE rounding mode satisfies them): it is monotone, and it leaves representable numbers alone —
used here only for half-integers `k/2` with `|k| ≤ 2^53`.
-/
namespace JanetModel.Wait

/-- C `round()` (half away from zero) on a non-negative argument; negative durations are outside the mirror -/
def roundHalfUp (x : ℚ) : ℤ := ⌊x + 1 / 2⌋

/-- `(int64_t) round(delta * 1000)` with `fl` the rounding of the double multiplication -/
def cMs (fl : ℚ → ℚ) (δ : ℚ) : ℤ := roundHalfUp (fl (δ * 1000))

/-- The milliseconds computed in doubles are never fewer than the exactly rounded milliseconds of the real duration. -/
theorem cMs_ge_exact (fl : ℚ → ℚ) (hmono : Monotone fl)
    (hfix : ∀ k : ℤ, |k| ≤ 2 ^ 53 → fl ((k : ℚ) / 2) = (k : ℚ) / 2)
    (δ : ℚ) (hrange : |2 * roundHalfUp (δ * 1000) - 1| ≤ 2 ^ 53) :
    roundHalfUp (δ * 1000) ≤ cMs fl δ := by
  unfold cMs
  set x := δ * 1000 with hx
  set n := roundHalfUp x with hn
  have h1 : (n : ℚ) ≤ x + 1 / 2 := by
    rw [hn]; unfold roundHalfUp; exact Int.floor_le _
  have h2 : ((2 * n - 1 : ℤ) : ℚ) / 2 ≤ x := by
    push_cast; linarith
  have h3 := hmono h2
  rw [hfix (2 * n - 1) hrange] at h3
  unfold roundHalfUp
  apply Int.le_floor.mpr
  push_cast at h3
  linarith

/-- The milliseconds computed in doubles are never fewer than the whole milliseconds contained in the real duration. -/
theorem cMs_ge_floor (fl : ℚ → ℚ) (hmono : Monotone fl)
    (hfix : ∀ k : ℤ, |k| ≤ 2 ^ 53 → fl ((k : ℚ) / 2) = (k : ℚ) / 2)
    (δ : ℚ) (hrange : |2 * roundHalfUp (δ * 1000) - 1| ≤ 2 ^ 53) :
    ⌊δ * 1000⌋ ≤ cMs fl δ := by
  refine le_trans ?_ (cMs_ge_exact fl hmono hfix δ hrange)
  unfold roundHalfUp
  apply Int.floor_le_floor
  linarith

/-- for a duration written with microsecond digits the exact rounding is what the executable model computes (`deltaMs`) -/
theorem roundHalfUp_us (us : ℕ) : roundHalfUp ((us : ℚ) / 1000000 * 1000) = (((us + 500) / 1000 : ℕ) : ℤ) := by
  unfold roundHalfUp
  have : (us : ℚ) / 1000000 * 1000 + 1 / 2 = ((us + 500 : ℕ) : ℤ) / ((1000 : ℕ) : ℚ) := by
    push_cast; ring
  rw [this, Rat.floor_intCast_div_natCast]
  norm_cast

/-- the model's operation for `(ev/sleep δ)` with the double `δ`: the timer is set `cMs fl δ` ms ahead -/
def sleepOp (fl : ℚ → ℚ) (f : Nat) (δ : ℚ) : Op := .sleep f (1000 * (cMs fl δ).toNat)

theorem deltaMs_sleepOp (cfg : Cfg) (h : cfg.sleepRounds = true) (m : Nat) : deltaMs cfg (1000 * m) = m := by
  simp [deltaMs, h]; omega

end JanetModel.Wait
