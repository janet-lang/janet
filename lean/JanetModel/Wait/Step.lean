import JanetModel.Wait.Atom
/-
C07 — every step of the model preserves the generation-counter invariant when all checks are present: it is kept by an edit, by a
wake-up on behalf of a live registration and by the execution of a task.
-/
namespace JanetModel.Wait

theorem Edit.inv {cfg : Cfg} (hr : cfg.sleepRounds = true) {a b : World} (e : Edit cfg a b) (h : Inv a) : Inv b := by
  refine ⟨fun t ht => ?_, by rw [e.log]; exact h.l, fun to hto => (e.tm to hto).elim (h.tm to) fun h' => ?_⟩
  · have k := h.q t (e.queue t ht)
    exact ⟨k.gen, by rw [e.sid]; exact k.le, Nat.le_trans k.nb e.now, k.sl⟩
  · rw [h', deltaMs, if_pos hr]

theorem Atom.inv {cfg : Cfg} (hc : cfg.allChecked = true) {w0 : World} (h0 : Inv w0) {a b : World} (s : Atom cfg w0 a b)
    (h : Inv a) : Inv b := by
  cases s with
  | edit e _ => exact e.inv (Cfg.checked hc).sleepRounds h
  | wake f v e g nb src ep _ hlive hnb hsl =>
    refine schedule_inv cfg (Cfg.checked hc).scheduleBumps h f v e g nb src (hlive hc) hnb fun s d hs => ?_
    -- a sleep is woken at the `when` of a timer of `w0`; `Inv w0` says where that lies
    obtain ⟨to, hto, rfl, rfl, rfl⟩ := hsl s d hs
    exact Nat.le_of_eq (h0.tm to hto).symm

/-- the executed task carried the fiber's generation; it was queued for a registration that was live then -/
theorem Exec.inv {cfg : Cfg} (hc : cfg.allChecked = true) {t : Task} {a b : World} (x : Exec cfg t a b) (h : Inv a) : Inv b := by
  have ht := h.q t x.mem
  refine ⟨fun u hu => ?_, fun e he => ?_, fun to hto => (x.edit.tm to hto).elim (h.tm to) fun h' => ?_⟩
  · have k := h.q u (x.edit.queue u hu)
    exact ⟨k.gen, Nat.le_trans k.le (x.mono u.fiber), Nat.le_trans k.nb x.edit.now, k.sl⟩
  · rw [x.log] at he
    rcases List.mem_cons.mp he with rfl | he
    · exact ⟨x.cur (Cfg.checked hc).runFilter, ht.gen, ht.nb, fun s d hs => Nat.le_trans (ht.sl s d hs) ht.nb⟩
    · exact h.l e he
  · rw [h', deltaMs, if_pos (Cfg.checked hc).sleepRounds]

theorem step_inv (cfg : Cfg) (hc : cfg.allChecked = true) {w : World} (h : Inv w) (op : Op) : Inv (step cfg w op) := by
  rcases step_cases cfg w op with s | ⟨e, _⟩ | ⟨_, t, x⟩
  · exact s.keeps (Atom.inv hc h) h
  · exact e.inv (Cfg.checked hc).sleepRounds h
  · exact x.inv hc h

theorem run_inv (cfg : Cfg) (hc : cfg.allChecked = true) (ops : List Op) {w : World} (h : Inv w) : Inv (run cfg w ops) :=
  Util.foldl_inv (P := Inv) (fun _ op h => step_inv cfg hc h op) ops w h

end JanetModel.Wait
