import JanetModel.Wait.Lemmas
/-
C07 — what a step does, said once (`step_cases`): a sequence (`Steps`) of elementary changes, or a single edit, or the execution
of a queued task (`Exec`).  An elementary change is an edit of tables (`Edit`) or a wake-up (`schedule` on behalf of a record of the
world the step began in, or of a request in the fiber's current generation); each invariant is proved once for `Edit`, once for a
wake-up and once for `Exec`.
-/
namespace JanetModel.Wait

/-- `⟨f, g, ep⟩` is on record in `w`: a queued task, a pending channel entry, a timer, a process-wait or threaded-await record of
    fiber `f` that carries generation `g` and epoch `ep` -/
inductive Rec (w : World) : Nat → Nat → Nat → Prop
  | q {t : Task} : t ∈ w.queue → Rec w t.fiber t.expected t.regEpoch
  | rp {c : Nat} {p : Pending} : p ∈ (w.chans c).rp → Rec w p.fiber p.schedId p.epoch
  | wp {c : Nat} {p : Pending} : p ∈ (w.chans c).wp → Rec w p.fiber p.schedId p.epoch
  | tm {to : Timer} : to ∈ w.timers → Rec w to.fiber to.schedId to.epoch
  | pr {k f g : Nat} : w.procs k = some (f, g) → Rec w f g (w.procEpoch k)
  | th {k f g : Nat} : w.thr k = some (f, g) → Rec w f g (w.thrEpoch k)

theorem Rec.transfer {a b : World} {X : Nat → Nat → Nat → Prop} {f g ep : Nat} (h : Rec b f g ep)
    (hq : ∀ t ∈ b.queue, t ∈ a.queue ∨ X t.fiber t.expected t.regEpoch)
    (hrp : ∀ c, ∀ p ∈ (b.chans c).rp, p ∈ (a.chans c).rp ∨ X p.fiber p.schedId p.epoch)
    (hwp : ∀ c, ∀ p ∈ (b.chans c).wp, p ∈ (a.chans c).wp ∨ X p.fiber p.schedId p.epoch)
    (htm : ∀ to ∈ b.timers, to ∈ a.timers ∨ X to.fiber to.schedId to.epoch)
    (hpr : ∀ k f g, b.procs k = some (f, g) → (a.procs k = some (f, g) ∧ b.procEpoch k = a.procEpoch k) ∨ X f g (b.procEpoch k))
    (hth : ∀ k f g, b.thr k = some (f, g) → (a.thr k = some (f, g) ∧ b.thrEpoch k = a.thrEpoch k) ∨ X f g (b.thrEpoch k)) :
    Rec a f g ep ∨ X f g ep := by
  cases h with
  | q h => exact (hq _ h).imp_left .q
  | rp h => exact (hrp _ _ h).imp_left .rp
  | wp h => exact (hwp _ _ h).imp_left .wp
  | tm h => exact (htm _ h).imp_left .tm
  | pr h => exact (hpr _ _ _ h).imp_left fun ⟨h1, h2⟩ => h2 ▸ .pr h1
  | th h => exact (hth _ _ _ h).imp_left fun ⟨h1, h2⟩ => h2 ▸ .th h1

/-- the records sit in `chans`, `timers`, `procs`, `thr` and the queue; the other fields carry none -/
theorem Rec.frame {w : World} {now now' : Nat} {fibers fibers' : Nat → Fiber} {streams streams' : Nat → Stream}
    {procX procX' bodies bodies' bodyDead bodyDead' : Nat → Bool} {q q' : List Task} {log log' : List Event}
    (hq : ∀ t ∈ q, t ∈ q') {f g ep : Nat}
    (h : Rec { w with now := now, fibers := fibers, streams := streams, procX := procX, bodies := bodies, bodyDead := bodyDead,
                      queue := q, log := log } f g ep) :
    Rec { w with now := now', fibers := fibers', streams := streams', procX := procX', bodies := bodies', bodyDead := bodyDead',
                 queue := q', log := log' } f g ep := by
  cases h with
  | q h => exact .q (hq _ h)
  | rp h => exact .rp h
  | wp h => exact .wp h
  | tm h => exact .tm h
  | pr h => exact .pr h
  | th h => exact .th h

def Current (w : World) (f g ep : Nat) : Prop := g = (w.fibers f).schedId ∧ ep = (w.fibers f).epoch

/-- An edit of tables: nobody is scheduled or resumed, every record is an old one or carries its fiber's current generation and
    epoch.  The bodies are not among the fields because the two body transitions are edits too. -/
structure Edit (cfg : Cfg) (a b : World) : Prop where
  queue : ∀ t ∈ b.queue, t ∈ a.queue
  log : b.log = a.log
  now : a.now ≤ b.now
  sid : ∀ f, (b.fibers f).schedId = (a.fibers f).schedId
  epoch : ∀ f, (b.fibers f).epoch = (a.fibers f).epoch
  ls : ∀ f, (b.fibers f).listener ≠ none →
    ((a.fibers f).listener ≠ none ∧ (b.fibers f).listenEpoch = (a.fibers f).listenEpoch) ∨
      (b.fibers f).listenEpoch = (a.fibers f).epoch
  recs : ∀ f g ep, Rec b f g ep → Rec a f g ep ∨ Current a f g ep
  tm : ∀ to ∈ b.timers, to ∈ a.timers ∨ to.when = to.start + deltaMs cfg to.durUs

theorem Edit.tables {cfg : Cfg} {a b : World} (hf : b.fibers = a.fibers) (hq : b.queue = a.queue) (hl : b.log = a.log)
    (hn : a.now ≤ b.now) (hr : ∀ f g ep, Rec b f g ep → Rec a f g ep ∨ Current a f g ep)
    (ht : ∀ to ∈ b.timers, to ∈ a.timers ∨ to.when = to.start + deltaMs cfg to.durUs) : Edit cfg a b :=
  ⟨fun _ h => hq ▸ h, hl, hn, fun _ => by rw [hf], fun _ => by rw [hf], fun _ h => by rw [hf] at h ⊢; exact .inl ⟨h, rfl⟩, hr, ht⟩

/-- the pending entries (`sel` = `rp` or `wp`) of channel `c'` after entry `c` of the channel table was replaced -/
theorem chan_set {X : Pending → Prop} (sel : Chan → List Pending) (chans : Nat → Chan) (c : Nat) (ch : Chan)
    (hc : ∀ p ∈ sel ch, p ∈ sel (chans c) ∨ X p) (c' : Nat) (p : Pending) (hp : p ∈ sel (set chans c ch c')) :
    p ∈ sel (chans c') ∨ X p := by
  by_cases hcc : c' = c
  · subst hcc; rw [set_same] at hp; exact hc p hp
  · rw [set_other _ _ _ _ hcc] at hp; exact .inl hp

theorem Edit.chan (cfg : Cfg) (w : World) (c : Nat) (ch : Chan)
    (hrp : ∀ p ∈ ch.rp, p ∈ (w.chans c).rp ∨ Current w p.fiber p.schedId p.epoch)
    (hwp : ∀ p ∈ ch.wp, p ∈ (w.chans c).wp ∨ Current w p.fiber p.schedId p.epoch) :
    Edit cfg w { w with chans := set w.chans c ch } :=
  .tables rfl rfl rfl (Nat.le_refl _) (fun _ _ _ r => r.transfer (fun _ h => .inl h) (chan_set (·.rp) w.chans c ch hrp)
    (chan_set (·.wp) w.chans c ch hwp) (fun _ h => .inl h) (fun _ _ _ h => .inl ⟨h, rfl⟩) (fun _ _ _ h => .inl ⟨h, rfl⟩))
    (fun _ h => .inl h)

theorem Edit.timers (cfg : Cfg) (w : World) (ts : List Timer)
    (ht : ∀ to ∈ ts, to ∈ w.timers ∨ (Current w to.fiber to.schedId to.epoch ∧ to.when = to.start + deltaMs cfg to.durUs)) :
    Edit cfg w { w with timers := ts } :=
  .tables rfl rfl rfl (Nat.le_refl _) (fun _ _ _ r => r.transfer (fun _ h => .inl h) (fun _ _ h => .inl h)
    (fun _ _ h => .inl h) (fun to h => (ht to h).imp_right (·.1)) (fun _ _ _ h => .inl ⟨h, rfl⟩) (fun _ _ _ h => .inl ⟨h, rfl⟩))
    (fun to h => (ht to h).imp_right (·.2))

/-- updating entry `k` of a wait table (`procs` with `procEpoch`, `thr` with `thrEpoch`) -/
theorem wait_set {X : Nat → Nat → Nat → Prop} (tbl : Nat → Option (Nat × Nat)) (old new : Nat → Nat) (k : Nat)
    (r : Option (Nat × Nat)) (hnew : ∀ k', k' ≠ k → new k' = old k') (hr : ∀ f g, r = some (f, g) → X f g (new k)) (k' f g : Nat)
    (h : set tbl k r k' = some (f, g)) : (tbl k' = some (f, g) ∧ new k' = old k') ∨ X f g (new k') := by
  by_cases hk : k' = k
  · subst hk; rw [set_same] at h; exact .inr (hr f g h)
  · rw [set_other _ _ _ _ hk] at h; exact .inl ⟨h, hnew k' hk⟩

theorem Edit.proc (cfg : Cfg) (w : World) (k : Nat) (r : Option (Nat × Nat)) (pe : Nat → Nat)
    (hpe : ∀ k', k' ≠ k → pe k' = w.procEpoch k') (hr : ∀ f g, r = some (f, g) → Current w f g (pe k)) :
    Edit cfg w { w with procs := set w.procs k r, procEpoch := pe } :=
  .tables rfl rfl rfl (Nat.le_refl _) (fun _ _ _ r' => r'.transfer (fun _ h => .inl h) (fun _ _ h => .inl h) (fun _ _ h => .inl h)
    (fun _ h => .inl h) (wait_set w.procs w.procEpoch pe k r hpe hr) (fun _ _ _ h => .inl ⟨h, rfl⟩)) (fun _ h => .inl h)

theorem Edit.thr (cfg : Cfg) (w : World) (k : Nat) (r : Option (Nat × Nat)) (te : Nat → Nat)
    (hte : ∀ k', k' ≠ k → te k' = w.thrEpoch k') (hr : ∀ f g, r = some (f, g) → Current w f g (te k)) :
    Edit cfg w { w with thr := set w.thr k r, thrEpoch := te } :=
  .tables rfl rfl rfl (Nat.le_refl _) (fun _ _ _ r' => r'.transfer (fun _ h => .inl h) (fun _ _ h => .inl h) (fun _ _ h => .inl h)
    (fun _ h => .inl h) (fun _ _ _ h => .inl ⟨h, rfl⟩) (wait_set w.thr w.thrEpoch te k r hte hr)) (fun _ h => .inl h)

theorem Edit.fields (cfg : Cfg) (w : World) (now : Nat) (fibers : Nat → Fiber) (streams : Nat → Stream)
    (procX bodies bodyDead : Nat → Bool) (q : List Task) (hn : w.now ≤ now) (hq : ∀ t ∈ q, t ∈ w.queue)
    (hs : ∀ f, (fibers f).schedId = (w.fibers f).schedId) (he : ∀ f, (fibers f).epoch = (w.fibers f).epoch)
    (hls : ∀ f, (fibers f).listener ≠ none →
      ((w.fibers f).listener ≠ none ∧ (fibers f).listenEpoch = (w.fibers f).listenEpoch) ∨ (fibers f).listenEpoch = (w.fibers f).epoch) :
    Edit cfg w { w with now := now, fibers := fibers, streams := streams, procX := procX, bodies := bodies, bodyDead := bodyDead,
                        queue := q } :=
  ⟨hq, rfl, hn, hs, he, hls, fun _ _ _ r => .inl (r.frame hq), fun _ h => .inl h⟩

theorem Edit.misc (cfg : Cfg) (w : World) (now : Nat) (procX bodies bodyDead : Nat → Bool) (hn : w.now ≤ now) :
    Edit cfg w { w with now := now, procX := procX, bodies := bodies, bodyDead := bodyDead } :=
  .fields cfg w now _ _ procX bodies bodyDead _ hn (fun _ h => h) (fun _ => rfl) (fun _ => rfl) fun _ h => .inl ⟨h, rfl⟩

theorem Edit.fiber (cfg : Cfg) (w : World) (f : Nat) (fb : Fiber) (streams : Nat → Stream) (q : List Task)
    (hs : fb.schedId = (w.fibers f).schedId) (he : fb.epoch = (w.fibers f).epoch)
    (hls : fb.listener ≠ none →
      ((w.fibers f).listener ≠ none ∧ fb.listenEpoch = (w.fibers f).listenEpoch) ∨ fb.listenEpoch = (w.fibers f).epoch)
    (hq : ∀ t ∈ q, t ∈ w.queue) : Edit cfg w { w with fibers := set w.fibers f fb, streams := streams, queue := q } := by
  refine .fields cfg w _ _ streams _ _ _ q (Nat.le_refl _) hq (fun g => ?_) (fun g => ?_) (fun g hg => ?_) <;> by_cases hgf : g = f
  · subst hgf; rw [set_same, hs]
  · rw [set_other _ _ _ _ hgf]
  · subst hgf; rw [set_same, he]
  · rw [set_other _ _ _ _ hgf]
  · subst hgf; rw [set_same] at hg ⊢; exact hls hg
  · rw [set_other _ _ _ _ hgf] at hg ⊢; exact .inl ⟨hg, rfl⟩

theorem asyncEnd_edit (cfg : Cfg) (w : World) (f : Nat) : Edit cfg w (asyncEnd w f) := by
  unfold asyncEnd
  split
  · exact .misc cfg w _ _ _ _ (Nat.le_refl _)
  · exact .fiber cfg w f _ _ _ rfl rfl (fun h => absurd rfl h) (fun _ h => h)

theorem asyncEnd_bodies (w : World) (f : Nat) : SameBodies w (asyncEnd w f) := by
  unfold asyncEnd
  split <;> exact ⟨rfl, rfl⟩

theorem asyncEnd_recs {w : World} {f f' g ep : Nat} (r : Rec (asyncEnd w f) f' g ep) : Rec w f' g ep := by
  unfold asyncEnd at r
  split at r
  · exact r
  · exact r.frame fun _ h => h

/-- One elementary change of a step that began in `w0`: an edit that leaves the bodies alone, or a wake-up on behalf of a record of
    `w0`, of the fiber's own request or of its listener. -/
inductive Atom (cfg : Cfg) (w0 : World) : World → World → Prop
  | edit {a b : World} (h : Edit cfg a b) (hb : SameBodies a b) : Atom cfg w0 a b
  | wake (a : World) (f : Nat) (v : Val) (e : Bool) (g nb : Nat) (src : Src) (ep : Nat)
      (hrec : Rec w0 f g ep ∨ (g = (a.fibers f).schedId ∧
        (ep = (a.fibers f).epoch ∨ ((a.fibers f).listener ≠ none ∧ ep = (a.fibers f).listenEpoch))))
      (hlive : cfg.allChecked = true → g = (a.fibers f).schedId) (hnb : nb ≤ a.now)
      (hsl : ∀ s d, src = .sleep s d → ∃ to ∈ w0.timers, to.start = s ∧ to.durUs = d ∧ to.when = nb) :
      Atom cfg w0 a (schedule cfg a f v e g nb src ep)

/-- a sequence of elementary changes of one step; `w0` stays the world the step began in -/
inductive Steps (cfg : Cfg) (w0 : World) : World → World → Prop
  | nil (w : World) : Steps cfg w0 w w
  | cons {a b c : World} : Atom cfg w0 a b → Steps cfg w0 b c → Steps cfg w0 a c

theorem Steps.keeps {cfg : Cfg} {w0 : World} {P : World → Prop} (hP : ∀ {a b}, Atom cfg w0 a b → P a → P b) {w w' : World}
    (h : Steps cfg w0 w w') : P w → P w' := by
  induction h with
  | nil => exact id
  | cons ha _ ih => exact fun h => ih (hP ha h)

theorem Steps.one {cfg : Cfg} {w0 a b : World} (h : Atom cfg w0 a b) : Steps cfg w0 a b := .cons h (.nil b)

theorem Steps.trans {cfg : Cfg} {w0 a b c : World} (h₁ : Steps cfg w0 a b) (h₂ : Steps cfg w0 b c) : Steps cfg w0 a c := by
  induction h₁ with
  | nil => exact h₂
  | cons ha _ ih => exact .cons ha (ih h₂)

/-- an edit written as a record update that does not mention the bodies -/
theorem Atom.ofEdit {cfg : Cfg} {w0 a b : World} (h : Edit cfg a b) (hb : b.bodies = a.bodies := by rfl)
    (hd : b.bodyDead = a.bodyDead := by rfl) : Atom cfg w0 a b :=
  .edit h ⟨hb, hd⟩

theorem Atom.detach (cfg : Cfg) (w0 w : World) (f : Nat) : Atom cfg w0 w (asyncEnd w f) :=
  .edit (asyncEnd_edit cfg w f) (asyncEnd_bodies w f)

/-- the `do … while` loop that skips stale entries: nothing is left, or an entry of the list, live if the loop checks -/
theorem popLive_spec (chk : Bool) (w : World) (l : List Pending) :
    popLive chk w l = (none, []) ∨ ∃ e rest, popLive chk w l = (some e, rest) ∧ e ∈ l ∧ (∀ p ∈ rest, p ∈ l) ∧
      (chk = true → e.schedId = (w.fibers e.fiber).schedId) := by
  induction l with
  | nil => exact .inl rfl
  | cons x xs ih =>
    unfold popLive
    split
    · rcases ih with h | ⟨e, rest, h, he, hr, hl⟩
      · exact .inl h
      · exact .inr ⟨e, rest, h, List.mem_cons_of_mem _ he, fun p hp => List.mem_cons_of_mem _ (hr p hp), hl⟩
    · rename_i hx
      refine .inr ⟨x, xs, rfl, List.mem_cons_self, fun p hp => List.mem_cons_of_mem _ hp, fun hc => ?_⟩
      simp only [hc, Bool.true_and, Bool.not_eq_true', Bool.not_eq_false] at hx
      exact (eq_of_live hx)

theorem mem_snoc_cur {w : World} {f : Nat} {ch : Bool} {l : List Pending} {p : Pending}
    (hp : p ∈ l ++ [{ fiber := f, schedId := (w.fibers f).schedId, choice := ch, epoch := (w.fibers f).epoch }]) :
    p ∈ l ∨ Current w p.fiber p.schedId p.epoch :=
  (List.mem_append.mp hp).imp_right (fun h => by rw [List.mem_singleton.mp h]; exact ⟨rfl, rfl⟩)

/-- a live head of a pending queue `l` of `w` is taken off (table edit `ch`) and woken -/
theorem wakeHead_steps (cfg : Cfg) (w : World) (c : Nat) (ch : Chan) (r : Pending) (v : Val) (src : Src)
    (hr : Rec w r.fiber r.schedId r.epoch) (hl : cfg.allChecked = true → r.schedId = (w.fibers r.fiber).schedId)
    (hrp : ∀ p ∈ ch.rp, p ∈ (w.chans c).rp) (hwp : ∀ p ∈ ch.wp, p ∈ (w.chans c).wp) (hs : ∀ s d, src ≠ .sleep s d) :
    Steps cfg w w (schedule cfg { w with chans := set w.chans c ch } r.fiber v false r.schedId w.now src r.epoch) :=
  .cons (.ofEdit (.chan cfg w c ch (fun p hp => .inl (hrp p hp)) (fun p hp => .inl (hwp p hp))))
    (.one (.wake _ _ _ _ _ _ _ _ (.inl hr) hl (Nat.le_refl _) (fun s d h => absurd h (hs s d))))

theorem chanPush_steps (cfg : Cfg) (w : World) (f c : Nat) (x : Val) (ch : Bool) : Steps cfg w w (chanPush cfg w f c x ch).1 := by
  unfold chanPush
  rcases popLive_spec cfg.pushSkipsStale w (w.chans c).rp with h | ⟨r, rest, h, hr, hrest, hl⟩ <;> rw [h] <;> simp only
  · split
    · exact .one (Atom.ofEdit (.chan cfg w c _ (fun _ hp => absurd hp List.not_mem_nil) (fun _ hp => mem_snoc_cur hp)))
    · exact .one (Atom.ofEdit (.chan cfg w c _ (fun _ hp => absurd hp List.not_mem_nil) (fun _ hp => .inl hp)))
  · exact wakeHead_steps cfg w c _ r _ _ (.rp hr) (fun hc => hl (Cfg.checked hc).pushSkipsStale) hrest (fun _ hp => hp) nofun

theorem superPush_steps (cfg : Cfg) (w : World) (c : Nat) (x : Val) : Steps cfg w w (superPush cfg w c x) := by
  unfold superPush
  split
  · exact .nil w
  · rcases popLive_spec cfg.pushSkipsStale w (w.chans c).rp with h | ⟨r, rest, h, hr, hrest, hl⟩ <;> rw [h] <;> simp only
    · exact .one (Atom.ofEdit (.chan cfg w c _ (fun _ hp => absurd hp List.not_mem_nil) (fun _ hp => .inl hp)))
    · exact wakeHead_steps cfg w c _ r _ _ (.rp hr) (fun hc => hl (Cfg.checked hc).pushSkipsStale) hrest (fun _ hp => hp) nofun

theorem chanPopWake_steps (cfg : Cfg) (w : World) (c : Nat) (items : List Val) : Steps cfg w w (chanPopWake cfg w c items) := by
  unfold chanPopWake
  rcases popLive_spec cfg.popSkipsStale w (w.chans c).wp with h | ⟨r, rest, h, hr, hrest, hl⟩ <;> rw [h] <;> simp only
  · exact .one (Atom.ofEdit (.chan cfg w c _ (fun _ hp => .inl hp) (fun _ hp => absurd hp List.not_mem_nil)))
  · exact wakeHead_steps cfg w c _ r _ _ (.wp hr) (fun hc => hl (Cfg.checked hc).popSkipsStale) (fun _ hp => hp) hrest nofun

theorem chanPop_steps (cfg : Cfg) (w : World) (f c : Nat) (ch : Bool) : Steps cfg w w (chanPop cfg w f c ch).1 := by
  unfold chanPop
  split
  · exact .one (Atom.ofEdit (.chan cfg w c _ (fun _ hp => mem_snoc_cur hp) (fun _ hp => .inl hp)))
  · exact chanPopWake_steps cfg w c _

/-- the two loops of cfun_channel_close, over entries that were pending when the close began -/
theorem closeFold_steps (cfg : Cfg) (w0 : World) (c : Nat) (l : List Pending) (hl : ∀ e ∈ l, Rec w0 e.fiber e.schedId e.epoch)
    (w : World) : Steps cfg w0 w (l.foldl (closeOne cfg c) w) := by
  induction l generalizing w with
  | nil => exact .nil w
  | cons e es ih =>
    refine .trans ?_ (ih (fun e' he' => hl e' (List.mem_cons_of_mem _ he')) _)
    unfold closeOne
    split
    · rename_i hd
      refine .one (.wake _ _ _ _ _ _ _ _ (.inl (hl e List.mem_cons_self)) (fun hc => ?_) (Nat.le_refl _) nofun)
      simp only [(Cfg.checked hc).closeChecks, Bool.not_true, Bool.false_or, Bool.and_eq_true] at hd
      exact eq_of_live hd.2
    · exact .nil w

theorem chanClose_steps (cfg : Cfg) (w : World) (c : Nat) : Steps cfg w w (chanClose cfg w c) := by
  unfold chanClose
  split
  · exact .nil w
  · refine .cons (Atom.ofEdit (.chan cfg w c _ (fun _ hp => absurd hp List.not_mem_nil) (fun _ hp => absurd hp List.not_mem_nil)))
      (closeFold_steps cfg w c _ (fun e he => ?_) _)
    exact (List.mem_append.mp he).elim .wp .rp

theorem fireTimer_timers (cfg : Cfg) (w : World) (to : Timer) : (fireTimer cfg w to).timers = w.timers := by
  unfold fireTimer
  split <;> split <;> first | rfl | exact schedule_timers ..

theorem fireTimer_steps (cfg : Cfg) (w0 w : World) (to : Timer) (hto : to ∈ w0.timers) (hw : to.when ≤ w.now) :
    Steps cfg w0 w (fireTimer cfg w to) := by
  unfold fireTimer
  split
  · split
    · exact .one (.wake _ _ _ _ _ _ _ _ (.inr ⟨rfl, .inl rfl⟩) (fun _ => rfl) hw nofun)
    · exact .nil w
  · split
    · rename_i hl
      refine .one (.wake _ _ _ _ _ _ _ _ (.inl (.tm hto)) (fun hc => ?_) hw nofun)
      simp only [(Cfg.checked hc).timerCheck, Bool.not_true, Bool.false_or] at hl
      exact eq_of_live hl
    · exact .nil w
  · split
    · rename_i hl
      refine .one (.wake _ _ _ _ _ _ _ _ (.inl (.tm hto)) (fun hc => ?_) hw (fun s d h => ?_))
      · simp only [(Cfg.checked hc).timerCheck, Bool.not_true, Bool.false_or] at hl
        exact eq_of_live hl
      · cases h
        exact ⟨to, hto, rfl, rfl, rfl⟩
    · exact .nil w

theorem timerPhase_steps (cfg : Cfg) (w0 : World) (fuel : Nat) (w : World) (hsub : ∀ to ∈ w.timers, to ∈ w0.timers) :
    Steps cfg w0 w (timerPhase cfg w fuel) := by
  induction fuel generalizing w with
  | zero => exact .nil w
  | succ n ih =>
    unfold timerPhase
    split
    · exact .nil w
    · rename_i to rest hts
      have hrest : ∀ x ∈ rest, x ∈ w.timers := fun x hx => hts ▸ List.mem_cons_of_mem _ hx
      split
      · rename_i hw
        refine .cons (.ofEdit (.timers cfg w rest fun x hx => .inl (hrest x hx)))
          (.trans (fireTimer_steps cfg w0 _ to (hsub to (hts ▸ List.mem_cons_self)) hw) (ih _ fun x hx => ?_))
        rw [fireTimer_timers] at hx
        exact hsub x (hrest x hx)
      · exact .nil w

/-- `b` is `a` after the queued task `t` was executed: logged, generation bumped, epoch advanced, listener detached.  With
    that fiber and the log already in place, the rest is an edit. -/
structure Exec (cfg : Cfg) (t : Task) (a b : World) : Prop where
  mem : t ∈ a.queue
  cur : cfg.runFilter = true → t.expected = (a.fibers t.fiber).schedId
  log : b.log = { tick := a.now, fiber := t.fiber, schedIdAtRun := (a.fibers t.fiber).schedId, task := t,
                  epochAtRun := (a.fibers t.fiber).epoch } :: a.log
  sid : (b.fibers t.fiber).schedId = if cfg.resumeBumps then (a.fibers t.fiber).schedId + 1 else (a.fibers t.fiber).schedId
  epoch : (b.fibers t.fiber).epoch = (a.fibers t.fiber).epoch + 1
  detached : cfg.didResumeDetaches = true → cfg.didResumeFirst = true → (b.fibers t.fiber).listener = none
  bodies : SameBodies a b
  edit : Edit cfg { a with fibers := set a.fibers t.fiber (b.fibers t.fiber), log := b.log } b

theorem Exec.sids {cfg : Cfg} {t : Task} {a b : World} (x : Exec cfg t a b) {g : Nat} (hg : g ≠ t.fiber) :
    (b.fibers g).schedId = (a.fibers g).schedId :=
  (x.edit.sid g).trans (congrArg _ (set_other _ _ _ _ hg))

theorem Exec.epochs {cfg : Cfg} {t : Task} {a b : World} (x : Exec cfg t a b) {g : Nat} (hg : g ≠ t.fiber) :
    (b.fibers g).epoch = (a.fibers g).epoch :=
  (x.edit.epoch g).trans (congrArg _ (set_other _ _ _ _ hg))

theorem Exec.mono {cfg : Cfg} {t : Task} {a b : World} (x : Exec cfg t a b) : Mono a b := by
  intro g
  by_cases hg : g = t.fiber
  · rw [hg, x.sid]; split <;> omega
  · exact Nat.le_of_eq (x.sids hg).symm

/-- the run phase: nothing is queued; the task at the head is stale and is dropped; or it is executed -/
theorem runTask_cases (cfg : Cfg) (w : World) :
    runTask cfg w = w ∨ (Edit cfg w (runTask cfg w) ∧ SameBodies w (runTask cfg w)) ∨ ∃ t, Exec cfg t w (runTask cfg w) := by
  unfold runTask
  split
  · exact .inl rfl
  · rename_i t q hq
    have hsub : ∀ x ∈ q, x ∈ w.queue := fun x hx => hq ▸ List.mem_cons_of_mem _ hx
    simp only
    split
    · exact .inr (.inl ⟨.fiber cfg w t.fiber _ _ q rfl rfl (fun h => .inl ⟨h, rfl⟩) hsub, rfl, rfl⟩)
    · rename_i hf
      refine .inr (.inr ⟨t, ?_⟩)
      have key : ∀ (fb : Fiber) (w2 : World),
          fb.schedId = (if cfg.resumeBumps then (w.fibers t.fiber).schedId + 1 else (w.fibers t.fiber).schedId) →
          fb.epoch = (w.fibers t.fiber).epoch + 1 → Edit cfg { w with queue := q, fibers := set w.fibers t.fiber fb } w2 →
          SameBodies { w with queue := q, fibers := set w.fibers t.fiber fb } w2 →
          (∀ f g ep, Rec w2 f g ep → Rec { w with queue := q, fibers := set w.fibers t.fiber fb } f g ep) →
          (cfg.didResumeDetaches = true → cfg.didResumeFirst = true → (w2.fibers t.fiber).listener = none) →
          Exec cfg t w { w2 with log :=
            { tick := w.now, fiber := t.fiber, schedIdAtRun := (w.fibers t.fiber).schedId, task := t,
              epochAtRun := (w.fibers t.fiber).epoch } :: w2.log } := by
        intro fb w2 hs he E B R hd
        have hne : ∀ g, g ≠ t.fiber → set w.fibers t.fiber fb g = w.fibers g := fun g hg => set_other _ _ _ _ hg
        refine ⟨hq ▸ List.mem_cons_self, fun h => by simpa [h] using hf, congrArg _ E.log,
          (E.sid t.fiber).trans ((congrArg _ (set_same ..)).trans hs), (E.epoch t.fiber).trans ((congrArg _ (set_same ..)).trans he),
          hd, B, fun x hx => hsub x (E.queue x hx), rfl, E.now, fun g => ?_, fun g => ?_, fun g hl => ?_,
          fun f g ep r => .inl ((R f g ep (r.frame fun _ h => h)).frame hsub), E.tm⟩ <;> by_cases hg : g = t.fiber
        · subst hg; simp only [set_same]
        · simp only [set_other _ _ _ _ hg]; exact (E.sid g).trans (congrArg _ (hne g hg))
        · subst hg; simp only [set_same]
        · simp only [set_other _ _ _ _ hg]; exact (E.epoch g).trans (congrArg _ (hne g hg))
        · subst hg; simp only [set_same]; exact .inl ⟨hl, trivial⟩
        · have := E.ls g hl
          simp only [hne g hg] at this
          simp only [set_other _ _ _ _ hg]
          exact this
      split
      · rename_i hd
        exact key _ _ rfl rfl (asyncEnd_edit cfg _ _) (asyncEnd_bodies _ _) (fun _ _ _ => asyncEnd_recs)
          (fun _ _ => asyncEnd_listener _ _)
      · rename_i hd
        refine key _ _ rfl rfl (.misc cfg _ _ _ _ _ (Nat.le_refl _)) ⟨rfl, rfl⟩ (fun _ _ _ r => r) (fun h1 h2 => absurd ?_ hd)
        simp [h1, h2]

theorem Edit.mono {cfg : Cfg} {a b : World} (e : Edit cfg a b) : Mono a b := fun g => Nat.le_of_eq (e.sid g).symm

theorem Atom.quiet {cfg : Cfg} {w0 a b : World} (s : Atom cfg w0 a b) : Quiet a b := by
  cases s with
  | edit e hb => exact ⟨e.log, hb, e.epoch, e.mono⟩
  | wake => exact schedule_Quiet ..

theorem Steps.quiet {cfg : Cfg} {w0 w w' : World} (h : Steps cfg w0 w w') : Quiet w w' :=
  h.keeps (P := Quiet w) (fun s q => q.trans s.quiet) (.refl w)

theorem Steps.now {cfg : Cfg} {w0 w w' : World} (h : Steps cfg w0 w w') : w.now ≤ w'.now :=
  h.keeps (P := fun u => w.now ≤ u.now) (fun s hu => by
    cases s with
    | edit e _ => exact Nat.le_trans hu e.now
    | wake => rw [schedule_now]; exact hu) (Nat.le_refl _)

theorem Atom.request (cfg : Cfg) (w0 a : World) (f : Nat) (v : Val) (e : Bool) (nb : Nat) (src : Src) (hnb : nb ≤ a.now)
    (hs : ∀ s d, src ≠ .sleep s d) : Atom cfg w0 a (schedule cfg a f v e (a.fibers f).schedId nb src (a.fibers f).epoch) :=
  .wake a f v e _ nb src _ (.inr ⟨rfl, .inl rfl⟩) (fun _ => rfl) hnb (fun s d h => absurd h (hs s d))

theorem Atom.fiber (cfg : Cfg) (w0 w : World) (f : Nat) (fb : Fiber) (hs : fb.schedId = (w.fibers f).schedId)
    (he : fb.epoch = (w.fibers f).epoch) (hl : fb.listener = (w.fibers f).listener)
    (hle : fb.listenEpoch = (w.fibers f).listenEpoch) : Atom cfg w0 w { w with fibers := set w.fibers f fb } :=
  .ofEdit (.fiber cfg w f fb _ _ hs he (fun h => .inl ⟨hl ▸ h, hle⟩) fun _ h => h)

theorem addTimer_steps (cfg : Cfg) (w : World) (f : Nat) (k : TKind) (d : Nat) : Steps cfg w w (addTimer cfg w f k d) := by
  refine .one (.ofEdit (.timers cfg w _ fun to h => ?_))
  rcases (mem_insertTimer _ _ _).mp h with rfl | h
  · exact .inr ⟨⟨rfl, rfl⟩, rfl⟩
  · exact .inl h

/-- every step but the run phase and the two body transitions -/
def Op.plain : Op → Bool
  | .run | .bodyStart _ | .bodyDone _ => false
  | _ => true

theorem step_steps (cfg : Cfg) (w : World) (op : Op) (hq : op.plain = true) : Steps cfg w w (step cfg w op) := by
  cases op with
  | spawn f => exact .one (.request cfg w w f _ _ _ _ (Nat.le_refl _) nofun)
  | give f c x ch =>
    simp only [step]
    split
    · exact .nil w
    · exact chanPush_steps ..
  | take f c ch =>
    have hp := chanPop_steps cfg w f c ch
    simp only [step]
    split
    · split
      · exact .nil w
      · exact .one (.request cfg w w f _ _ _ _ (Nat.le_refl _) nofun)
    · split
      · rename_i w1 it heq
        rw [heq] at hp
        split
        · exact hp
        · exact hp.trans (.one (.request cfg w w1 f _ _ _ _ hp.now nofun))
      · rename_i w1 heq
        rw [heq] at hp
        exact hp
  | close c => exact chanClose_steps ..
  | cancel f v => exact .one (.request cfg w w f _ _ _ _ (Nat.le_refl _) nofun)
  | sleep f d => exact addTimer_steps ..
  | timeout f d => exact addTimer_steps ..
  | deadline f b d => exact addTimer_steps ..
  | bodyStart b => cases hq
  | bodyDone b => cases hq
  | fiberDead f => exact .one (.fiber cfg w w f _ rfl rfl rfl rfl)
  | asyncStart f s r => exact .one (.ofEdit (.fiber cfg w f _ _ _ rfl rfl (fun _ => .inr rfl) fun _ h => h))
  | streamEvent s r v e =>
    show Steps cfg w w (streamEvent cfg w s r v e)
    rcases streamEvent_cases cfg w s r v e with e' | ⟨f, hl, e'⟩ <;> rw [e']
    · exact .nil w
    · exact .cons (.wake w f v e _ _ (.stream s) _ (.inr ⟨rfl, .inr ⟨hl, rfl⟩⟩) (fun _ => rfl) (Nat.le_refl _) nofun)
        (.one (.detach cfg w _ f))
  | procWait f k =>
    refine .one (.ofEdit (.proc cfg w k _ _ (fun k' hk => set_other _ _ _ _ hk) fun f' g hk => ?_))
    cases hk
    rw [set_same]
    exact ⟨rfl, rfl⟩
  | procExit k st =>
    have h0 : Atom cfg w w { w with procs := set w.procs k none } :=
      .ofEdit (.proc cfg w k none _ (fun _ _ => rfl) fun _ _ h => nomatch h)
    show Steps cfg w w (procExit cfg w k st)
    rcases procExit_cases cfg w k st with e | ⟨f, g, hfg, e | ⟨v, er, hl, e⟩⟩ <;> rw [e]
    · exact .nil w
    · exact .one h0
    · exact .cons h0 (.one (.wake _ f v er g _ _ _ (.inl (.pr hfg))
        (fun hc => eq_of_live (hl (Cfg.checked hc).procErrCheck (Cfg.checked hc).procCheck)) (Nat.le_refl _) nofun))
  | procFlag k x => exact .one (.ofEdit (.misc cfg w _ _ _ _ (Nat.le_refl _)))
  | thrWait f k =>
    refine .one (.ofEdit (.thr cfg w k _ _ (fun k' hk => set_other _ _ _ _ hk) fun f' g hk => ?_))
    cases hk
    rw [set_same]
    exact ⟨rfl, rfl⟩
  | thrDone k v e =>
    have h0 : Atom cfg w w { w with thr := set w.thr k none } :=
      .ofEdit (.thr cfg w k none _ (fun _ _ => rfl) fun _ _ h => nomatch h)
    show Steps cfg w w (thrDone cfg w k v e)
    rcases thrDone_cases cfg w k v e with e' | ⟨f, g, hfg, e' | ⟨hl, e'⟩⟩ <;> rw [e']
    · exact .nil w
    · exact .one h0
    · exact .cons h0 (.one (.wake _ f v e g _ _ _ (.inl (.th hfg)) (fun hc => eq_of_live (hl (Cfg.checked hc).threadCheck))
        (Nat.le_refl _) nofun))
  | superPush c x => exact superPush_steps ..
  | childEnter f => exact .one (.fiber cfg w w f _ rfl rfl rfl rfl)
  | childLeave f =>
    have h0 := Atom.fiber cfg w w f { w.fibers f with depth := (w.fibers f).depth - 1 } rfl rfl rfl rfl
    simp only [step]
    split
    · exact .cons h0 (.one (.detach cfg w _ f))
    · exact .one h0
  | advance dt => exact .one (.ofEdit (.misc cfg w _ _ _ _ (Nat.le_add_right _ _)))
  | timers => exact timerPhase_steps cfg w _ w fun _ h => h
  | run => cases hq

/-- What a step can be: a sequence of edits and wake-ups; a single edit (the run phase without an executable task; the two body
    transitions, which alone touch the bodies); the execution of a task. -/
theorem step_cases (cfg : Cfg) (w : World) (op : Op) :
    Steps cfg w w (step cfg w op) ∨
    (Edit cfg w (step cfg w op) ∧ ((∀ b, op ≠ .bodyStart b) → (∀ b, op ≠ .bodyDone b) → SameBodies w (step cfg w op))) ∨
    (op = .run ∧ ∃ t, Exec cfg t w (step cfg w op)) := by
  cases op with
  | run =>
    rcases runTask_cases cfg w with e | e | x
    · exact .inl (by rw [show step cfg w .run = w from e]; exact .nil w)
    · exact .inr (.inl ⟨e.1, fun _ _ => e.2⟩)
    · exact .inr (.inr ⟨rfl, x⟩)
  | bodyStart b =>
    refine .inr (.inl ⟨?_, fun h _ => absurd rfl (h b)⟩)
    simp only [step]
    split <;> exact .misc cfg w _ _ _ _ (Nat.le_refl _)
  | bodyDone b => exact .inr (.inl ⟨.misc cfg w _ _ _ _ (Nat.le_refl _), fun _ h => absurd rfl (h b)⟩)
  | _ => exact .inl (step_steps cfg w _ rfl)

end JanetModel.Wait
