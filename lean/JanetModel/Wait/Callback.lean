import JanetModel.Wait.Lemmas
/-
C07 — listener callbacks (`JanetEVCallback`: ev_callback_read / ev_callback_write, net_callback_connect / net_callback_accept,
filewatch's watcher_callback_read) as case tables, and the wake-up call sites of ev.c / net.c / os.c / filewatch.c / io.c.

`Gen/WaitCb.lean` (tools/gen/waitcb.py, regenerated on every run from the preprocessed source) instantiates `Callback` once per
function with the listener signature: the wake-relevant calls (janet_schedule* / janet_cancel / janet_async_end with their
target, janet_mark*, janet_channel_give) of every case group of `switch (event)` in source order, and how control can leave
the group.  `reach cb e` over-approximates the calls that an invocation `cb(fiber, e)` can perform: the statements before the
switch, every group reachable from the entry group of `e` by falling through or by `goto`, and the statements after the switch
when some reachable group can `break` (or the event has no group at all).  The closure is computed with fuel and CHECKED to be
closed (`Callback.closedFor`), so no termination argument is trusted.

An execution of the callback is any sequence of instantiated actions drawn from `reach cb e` (any order, any multiplicity —
conditions, loops and data are opaque); `applyActs` replays it on the `World` of Wait/Model.lean with the model's own
primitives (`schedule`, `asyncEnd`, `superPush`).  Core Lean only.
-/
namespace JanetModel.Wait.Callback
open JanetModel.Wait

/-- JanetAsyncEvent (janet.h) -/
inductive Ev where
  | init | mark | deinit | close | err | hup | read | write | complete | failed
  deriving DecidableEq, Repr, Inhabited

def Ev.all : List Ev := [.init, .mark, .deinit, .close, .err, .hup, .read, .write, .complete, .failed]

theorem Ev.mem_all (e : Ev) : e ∈ Ev.all := by cases e <;> simp [Ev.all]

/-- first argument of a wake-relevant call: the callback's own fiber parameter, a fiber created by `janet_fiber(..)` inside the
callback (the handler of net/accept-loop), anything else -/
inductive Tgt where
  | self | fresh | other
  deriving DecidableEq, Repr, Inhabited

inductive Act where
  | schedule (t : Tgt)      -- janet_schedule / janet_schedule_soon / janet_schedule_signal
  | cancel (t : Tgt)        -- janet_cancel
  | asyncEnd (t : Tgt)      -- janet_async_end
  | mark                    -- janet_mark*: the collector's business, no effect on the wait state
  | chanGive                -- janet_channel_give: `janet_channel_push_with_lock(chan, x, 2)` = `superPush` of the model
  | callsWaker              -- a call of some other function that (transitively) schedules / cancels / ends: unknown
  deriving DecidableEq, Repr, Inhabited

structure Group where
  labels : List Ev
  isDefault : Bool
  acts : List Act
  canBreak : Bool           -- a `break;` occurs in the group: control may continue after the switch
  canFall : Bool            -- the group does not end in break / return / goto: control may enter the next group
  gotos : List Nat          -- groups that hold the target labels of the group's `goto`s
  deriving Repr, Inhabited

structure Callback where
  name : String
  file : String
  pre : List Act
  groups : List Group
  post : List Act
  deriving Repr, Inhabited

def findIdx (p : Group → Bool) : List Group → Nat → Option Nat
  | [], _ => none
  | g :: gs, i => if p g then some i else findIdx p gs (i + 1)

/-- the group `switch (event)` jumps to: the one labelled `e`, else `default:`, else none (the switch is skipped) -/
def Callback.entry (cb : Callback) (e : Ev) : Option Nat :=
  match findIdx (fun g => g.labels.contains e) cb.groups 0 with
  | some i => some i
  | none => findIdx (fun g => g.isDefault) cb.groups 0

def Callback.succs (cb : Callback) (i : Nat) : List Nat :=
  match cb.groups[i]? with
  | none => []
  | some g => (if g.canFall then [i + 1] else []) ++ g.gotos

def Callback.closure (cb : Callback) : Nat → List Nat → List Nat
  | 0, vis => vis
  | fuel + 1, vis => cb.closure fuel (vis ++ (vis.flatMap cb.succs).filter (fun j => !vis.contains j))

def Callback.visited (cb : Callback) (e : Ev) : List Nat :=
  match cb.entry e with
  | none => []
  | some i => cb.closure cb.groups.length [i]

/-- the visited set is closed under fall-through and goto (checked per generated callback, not argued) -/
def Callback.closedFor (cb : Callback) (e : Ev) : Bool :=
  ((cb.visited e).flatMap cb.succs).all (fun j => (cb.visited e).contains j)

def Callback.leavesSwitch (cb : Callback) (e : Ev) : Bool :=
  (cb.entry e).isNone ||
  (cb.visited e).any (fun i => match cb.groups[i]? with
    | none => true                                  -- fell off the last group
    | some g => g.canBreak)

/-- every wake-relevant call an invocation `cb(fiber, e)` can perform (over-approximation) -/
def Callback.reach (cb : Callback) (e : Ev) : List Act :=
  cb.pre ++ (cb.visited e).flatMap (fun i => match cb.groups[i]? with | none => [] | some g => g.acts) ++
    (if cb.leavesSwitch e then cb.post else [])

/-- what the opaque data of one executed call turned out to be -/
structure Inst where
  val : Val := .nil       -- value / error the fiber is resumed with
  fresh : Nat := 0        -- id of the fiber created by janet_fiber() (target `.fresh`)
  chan : Nat := 0         -- channel of a janet_channel_give
  stream : Nat := 0       -- ghost: the stream the callback belongs to
  deriving Inhabited

/-- actions whose effect the model knows -/
def Act.known : Act → Bool
  | .schedule .self | .cancel .self | .asyncEnd .self | .schedule .fresh | .cancel .fresh | .mark | .chanGive => true
  | _ => false

/-- actions that can only touch the callback's own fiber or a fiber it has just created -/
def Act.own : Act → Bool
  | .schedule .self | .cancel .self | .asyncEnd .self | .schedule .fresh | .cancel .fresh | .mark => true
  | _ => false

/-- actions with no effect on the wait state -/
def Act.quiet : Act → Bool
  | .mark => true
  | _ => false

theorem Act.own_of_known {a : Act} (hk : a.known = true) (hg : a ≠ .chanGive) : a.own = true := by
  cases a with
  | schedule t => cases t <;> simp [Act.known, Act.own] at hk ⊢
  | cancel t => cases t <;> simp [Act.known, Act.own] at hk ⊢
  | asyncEnd t => cases t <;> simp [Act.known, Act.own] at hk ⊢
  | mark => rfl
  | chanGive => exact absurd rfl hg
  | callsWaker => simp [Act.known] at hk

def applyAct (cfg : Cfg) (w : World) (f : Nat) (a : Act) (i : Inst) : World :=
  match a with
  | .schedule .self => schedule cfg w f i.val false (w.fibers f).schedId w.now (.stream i.stream) (w.fibers f).listenEpoch
  | .cancel .self => schedule cfg w f i.val true (w.fibers f).schedId w.now (.stream i.stream) (w.fibers f).listenEpoch
  | .asyncEnd .self => asyncEnd w f
  | .schedule .fresh => schedule cfg w i.fresh .nil false (w.fibers i.fresh).schedId w.now .spawn (w.fibers i.fresh).epoch
  | .cancel .fresh => schedule cfg w i.fresh i.val true (w.fibers i.fresh).schedId w.now .cancel (w.fibers i.fresh).epoch
  | .chanGive => superPush cfg w i.chan i.val
  | .mark => w
  -- `.other` targets and `.callsWaker` are NOT modelled: every theorem about `applyActs` carries `Act.known` / `Act.own` /
  -- `Act.quiet` of the actions involved, and those are established for the generated callbacks by `decide`
  | _ => w

def applyActs (cfg : Cfg) (w : World) (f : Nat) (xs : List (Act × Inst)) : World :=
  xs.foldl (fun w x => applyAct cfg w f x.1 x.2) w

theorem applyActs_quiet (cfg : Cfg) (f : Nat) (xs : List (Act × Inst)) (h : ∀ x ∈ xs, x.1.quiet = true) (w : World) :
    applyActs cfg w f xs = w := by
  refine Util.foldl_inv_mem (P := (· = w)) xs w (fun u x hx hu => ?_) rfl
  have hxm : x.1 = .mark := by
    have := h x hx
    cases hxa : x.1 <;> simp [Act.quiet, hxa] at this ⊢
  simp only [hxm, applyAct]
  exact hu

theorem asyncEnd_other (w : World) (f h : Nat) (hne : h ≠ f) :
    (asyncEnd w f).fibers h = w.fibers h ∧ tasksOf (asyncEnd w f) h = tasksOf w h := by
  unfold asyncEnd
  split
  · exact ⟨rfl, rfl⟩
  · exact ⟨set_other _ _ _ _ hne, rfl⟩

/-- frame: an execution made of `own` actions leaves every fiber other than the listener and the fibers the callback has just
created exactly as it was — same generation, same flags, same listener, no task added to or removed from the run queue. -/
theorem applyActs_own_frame (cfg : Cfg) (f h : Nat) (hne : h ≠ f) (xs : List (Act × Inst))
    (hown : ∀ x ∈ xs, x.1.own = true) (hfresh : ∀ x ∈ xs, x.2.fresh ≠ h) (w : World) :
    (applyActs cfg w f xs).fibers h = w.fibers h ∧ tasksOf (applyActs cfg w f xs) h = tasksOf w h := by
  refine Util.foldl_inv_mem (P := fun u => u.fibers h = w.fibers h ∧ tasksOf u h = tasksOf w h) xs w (fun u x hxm hu => ?_) ⟨rfl, rfl⟩
  have hx := hown x hxm
  have hf : h ≠ x.2.fresh := fun e => hfresh x hxm e.symm
  have h1 : (applyAct cfg u f x.1 x.2).fibers h = u.fibers h ∧ tasksOf (applyAct cfg u f x.1 x.2) h = tasksOf u h := by
    cases hxa : x.1 with
    | schedule t => cases t <;> simp [Act.own, hxa] at hx <;> simp only [applyAct] <;> first
        | exact schedule_other cfg u f h hne ..
        | exact schedule_other cfg u x.2.fresh h hf ..
    | cancel t => cases t <;> simp [Act.own, hxa] at hx <;> simp only [applyAct] <;> first
        | exact schedule_other cfg u f h hne ..
        | exact schedule_other cfg u x.2.fresh h hf ..
    | asyncEnd t => cases t <;> simp [Act.own, hxa] at hx <;> simp only [applyAct] <;> exact asyncEnd_other u f h hne
    | mark => exact ⟨rfl, rfl⟩
    | chanGive => simp [Act.own, hxa] at hx
    | callsWaker => simp [Act.own, hxa] at hx
  exact ⟨h1.1.trans hu.1, h1.2.trans hu.2⟩

structure Site where
  file : String
  func : String
  callee : String
  listener : Bool          -- the enclosing function has the signature `(JanetFiber *, JanetAsyncEvent)`
  attributed : String      -- `func`, or — when `func` is a file-static helper with exactly one caller that is never used as a
                           --   function pointer — that caller (transitively): folding code into a helper is not a new source
  deriving DecidableEq, Repr, Inhabited

/-- what kind of wake-up source a janet_schedule* / janet_cancel call site is -/
inductive SiteClass where
  | listenerCallback     -- inside a JanetEVCallback: reached only through `stream->read_fiber / write_fiber` of a listening fiber
  | chanGive             -- janet_channel_push_with_lock: a pending reader woken by a give
  | chanTake             -- janet_channel_pop_with_lock: a pending writer woken by a take
  | chanImmediate        -- janet_channel_pop / cfun_channel_pop: the running fiber itself, value already there
  | chanClose            -- cfun_channel_close
  | threadChan           -- janet_thread_chan_cb: threaded channels (property C08; compares the generation)
  | timers               -- janet_loop1: expired sleep / timeout / deadline
  | rescheduleInterrupted-- janet_loop: an interrupted task is put back (not a wait)
  | threadedAwait        -- janet_ev_default_threaded_callback: os/shell, ev/thread, ev/do-thread
  | request              -- ev/go, ev/cancel, ev/thread: an explicit request of the program
  | procWait             -- janet_proc_wait_cb
  | signalHandler        -- janet_signal_callback: runs the handler in a fresh fiber, no waiter involved
  deriving DecidableEq, Repr, Inhabited

def classifyFunc : String → Option SiteClass
  | "janet_channel_push_with_lock" => some .chanGive
  | "janet_channel_pop_with_lock" => some .chanTake
  | "janet_channel_pop" => some .chanImmediate
  | "cfun_channel_pop" => some .chanImmediate
  | "cfun_channel_close" => some .chanClose
  | "janet_thread_chan_cb" => some .threadChan
  | "janet_loop1" => some .timers
  | "janet_loop" => some .rescheduleInterrupted
  | "janet_ev_default_threaded_callback" => some .threadedAwait
  | "cfun_ev_go" => some .request
  | "cfun_ev_thread" => some .request
  | "janet_go_thread_subr" => some .request
  | "cfun_ev_cancel" => some .request
  | "janet_proc_wait_cb" => some .procWait
  | "janet_signal_callback" => some .signalHandler
  | _ => none

def classify (s : Site) : Option SiteClass :=
  if s.listener then some .listenerCallback else classifyFunc s.attributed

end JanetModel.Wait.Callback
