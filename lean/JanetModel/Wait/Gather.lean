import JanetModel.Wait.Mono
/-
C07 — mirrors of the boot.janet forms that cancel other tasks: `cancel-all` / `wait-for-fibers` (ev/gather) and the
`ev/with-deadline` macro, on the wait model; plus the S-expression type the forms are regenerated into
(`Gen/WaitBoot.lean`, tools/gen/waitboot.py) so that the kernel checks on every run that the forms the mirrors were written from
are the forms of the current boot.janet (locals renamed in order of binding).  Core Lean only.

    (defn- cancel-all [chan fibers reason]
      (each f fibers (ev/cancel f reason))                       -- cancelAll
      (let [n (length fibers)] (table/clear fibers) (repeat n (ev/take chan))))
    (defn- wait-for-fibers [chan fibers]
      (defer (cancel-all chan fibers "parent canceled")          -- gatherEnd
        (repeat (length fibers)
          (def [sig fiber] (ev/take chan))                       -- gatherEvent
          (if (= sig :ok) (put fibers fiber nil)
            (do (cancel-all chan fibers "sibling canceled") (propagate (fiber/last-value fiber) fiber))))))
    (defmacro ev/with-deadline [sec & body]
      (with-syms [f] ~(let [,f (coro ,;body)] (,ev/deadline ,sec nil ,f) (,resume ,f))))      -- withDeadline

`fibers` is a table: `each` visits its keys in an order the program cannot rely on; the mirrors take the set as a list in ANY
order and the theorems hold for every order.
-/
namespace JanetModel.Wait.Gather
open JanetModel.Wait JanetModel.Wait.Callback

/-- janet source as data (symbols, keywords, strings and numbers are atoms with their source text) -/
inductive Sexp where
  | atom (s : String)
  | list (bracket : Char) (xs : List Sexp)      -- '(' tuple, '[' bracket tuple, '{' struct, with a leading '@' folded into the atom "@"
  deriving Repr, Inhabited

mutual
def Sexp.beq : Sexp → Sexp → Bool
  | .atom a, .atom b => a == b
  | .list c xs, .list d ys => c == d && Sexp.beqList xs ys
  | _, _ => false
def Sexp.beqList : List Sexp → List Sexp → Bool
  | [], [] => true
  | x :: xs, y :: ys => Sexp.beq x y && Sexp.beqList xs ys
  | _, _ => false
end

/-- `(ev/cancel f reason)` = cfun_ev_cancel = janet_cancel -/
def evCancel (cfg : Cfg) (w : World) (f : Nat) (reason : Val) : World := cancel cfg w f reason

/-- first line of cancel-all: `(each f fibers (ev/cancel f reason))` -/
def cancelAll (cfg : Cfg) (w : World) (fibers : List Nat) (reason : Val) : World :=
  fibers.foldl (fun w f => evCancel cfg w f reason) w

/-- what the parent does with one event `[sig fiber]` taken from the gather channel inside wait-for-fibers:
`:ok` → the fiber leaves the set; anything else → cancel-all with "sibling canceled" (the set still contains the failed fiber
itself), then the error is propagated.  Returns (world, remaining set, propagates?) -/
def gatherEvent (cfg : Cfg) (w : World) (fibers : List Nat) (sigOk : Bool) (fiber : Nat) (siblingCanceled : Val) :
    World × List Nat × Bool :=
  if sigOk then (w, fibers.filter (· != fiber), false)
  else (cancelAll cfg w fibers siblingCanceled, [], true)

/-- the `defer` of wait-for-fibers, run when the form is left for whatever reason (normally, by the propagated error, or because the
parent itself was cancelled while it waited): cancel-all with "parent canceled" on what is still in the set -/
def gatherEnd (cfg : Cfg) (w : World) (fibers : List Nat) (parentCanceled : Val) : World :=
  cancelAll cfg w fibers parentCanceled

/-- ev/with-deadline: `(ev/deadline sec nil f)` — cfun_ev_deadline with tocancel = nil → the ROOT fiber of the caller (the task),
tocheck = the body coroutine — then `(resume f)` -/
def withDeadline (cfg : Cfg) (w : World) (task body us : Nat) : World :=
  step cfg (addTimer cfg w task (.deadline body) us) (.bodyStart body)

theorem cancel_other (cfg : Cfg) (w : World) (f h : Nat) (hne : h ≠ f) (v : Val) :
    (cancel cfg w f v).fibers h = w.fibers h ∧ tasksOf (cancel cfg w f v) h = tasksOf w h :=
  schedule_other cfg w f h hne ..

theorem cancelAll_other (cfg : Cfg) (fibers : List Nat) (h : Nat) (hn : h ∉ fibers) (v : Val) (w : World) :
    (cancelAll cfg w fibers v).fibers h = w.fibers h ∧ tasksOf (cancelAll cfg w fibers v) h = tasksOf w h := by
  refine Util.foldl_inv_mem (P := fun u => u.fibers h = w.fibers h ∧ tasksOf u h = tasksOf w h) fibers w (fun u f hf hu => ?_) ⟨rfl, rfl⟩
  have h1 := cancel_other cfg u f h (fun e => hn (e ▸ hf)) v
  exact ⟨h1.1.trans hu.1, h1.2.trans hu.2⟩

/-- cancel-all is a run of `cancel` steps -/
theorem cancelAll_eq_run (cfg : Cfg) (w : World) (fibers : List Nat) (v : Val) :
    cancelAll cfg w fibers v = run cfg w (fibers.map (.cancel · v)) := by
  rw [run, List.foldl_map]; rfl

theorem cancelAll_mono (cfg : Cfg) (fibers : List Nat) (v : Val) (w : World) (g : Nat) :
    (w.fibers g).schedId ≤ ((cancelAll cfg w fibers v).fibers g).schedId := by
  rw [cancelAll_eq_run]; exact run_Mono cfg _ w g

/-- one `ev/cancel` of a fiber that is not already cancelled in this round: the generation moves on, so every registration the
fiber made for the wait it is in (recorded generation = the old one) is stale from now on -/
theorem cancel_live (cfg : Cfg) (hb : cfg.scheduleBumps = true) (w : World) (f : Nat) (v : Val) (hc : (w.fibers f).canceled = false) :
    ((cancel cfg w f v).fibers f).schedId = (w.fibers f).schedId + 1 :=
  (schedule_live cfg hb w f v true _ _ _ _ hc).1

/-- cancel-all (any order, duplicates allowed) strictly raises the generation of every member not yet cancelled in this round -/
theorem cancelAll_bumps (cfg : Cfg) (hb : cfg.scheduleBumps = true) (fibers : List Nat) (reason : Val) (f : Nat) (hf : f ∈ fibers)
    (w : World) (hcan : (w.fibers f).canceled = false) :
    (w.fibers f).schedId < ((cancelAll cfg w fibers reason).fibers f).schedId := by
  induction fibers generalizing w with
  | nil => exact absurd hf (List.not_mem_nil)
  | cons g gs ih =>
    simp only [cancelAll, List.foldl_cons]
    by_cases hg : g = f
    · subst hg
      have h1 := cancel_live cfg hb w g reason hcan
      have h2 := cancelAll_mono cfg gs reason (evCancel cfg w g reason) g
      simp only [cancelAll, evCancel] at h2 ⊢
      omega
    · have hf' : f ∈ gs := (List.mem_cons.mp hf).resolve_left fun h => hg h.symm
      have ho := cancel_other cfg w g f (fun e => hg e.symm) reason
      have := ih hf' (evCancel cfg w g reason) (by simp only [evCancel]; rw [ho.1]; exact hcan)
      simp only [cancelAll, evCancel] at this ⊢
      rw [ho.1] at this
      exact this

end JanetModel.Wait.Gather
