import JanetModel.Wait.Atom
/-
C07 — the ghost `epoch` of Wait/Model.lean is not an arbitrary label: for every configuration and every step sequence it equals the
number of times the loop has resumed the fiber (events of that fiber in the log), and `epochAtRun` of an event is the number of
earlier events of the same fiber.  Only the execution of a task changes either (`step_cases`).
-/
namespace JanetModel.Wait

/-- number of earlier resumes of fiber `f` recorded in a log (newest first) -/
def resumesOf (f : Nat) (l : List Event) : Nat := (l.filter (fun e => e.fiber == f)).length

/-- each event's `epochAtRun` is the number of earlier events of the same fiber -/
def LogOk : List Event → Prop
  | [] => True
  | e :: rest => e.epochAtRun = resumesOf e.fiber rest ∧ LogOk rest

/-- the ghost epoch IS the number of resumes: of the fiber so far, and at each logged event -/
structure CInv (w : World) : Prop where
  ep : ∀ f, (w.fibers f).epoch = resumesOf f w.log
  log : LogOk w.log

theorem init_CInv : CInv init := ⟨fun _ => rfl, trivial⟩

theorem CInv.of_eq {w w' : World} (h : CInv w) (hl : w'.log = w.log) (he : ∀ f, (w'.fibers f).epoch = (w.fibers f).epoch) :
    CInv w' :=
  ⟨fun f => by rw [he f, hl]; exact h.ep f, by rw [hl]; exact h.log⟩

/-- executed: epoch + 1 and one more event of this fiber -/
theorem Exec.cinv {cfg : Cfg} {t : Task} {a b : World} (x : Exec cfg t a b) (h : CInv a) : CInv b := by
  refine ⟨fun g => ?_, by rw [x.log]; exact ⟨h.ep t.fiber, h.log⟩⟩
  rw [x.log]
  simp only [resumesOf, List.filter_cons]
  by_cases hg : g = t.fiber
  · subst hg; rw [x.epoch]; simp [h.ep t.fiber, resumesOf]
  · have : (t.fiber == g) = false := by simp [Ne.symm hg]
    rw [x.epochs hg]; simp [this, h.ep g, resumesOf]

theorem step_cinv (cfg : Cfg) {w : World} (h : CInv w) (op : Op) : CInv (step cfg w op) := by
  rcases step_cases cfg w op with s | ⟨e, _⟩ | ⟨_, t, x⟩
  · exact h.of_eq s.quiet.log s.quiet.epoch
  · exact h.of_eq e.log e.epoch
  · exact x.cinv h

theorem run_cinv (cfg : Cfg) (ops : List Op) {w : World} (h : CInv w) : CInv (run cfg w ops) :=
  Util.foldl_inv (P := CInv) (fun _ op h => step_cinv cfg h op) ops w h

theorem LogOk.at {pre : List Event} {e : Event} {rest : List Event} (h : LogOk (pre ++ e :: rest)) :
    e.epochAtRun = resumesOf e.fiber rest := by
  induction pre with
  | nil => exact h.1
  | cons x xs ih => exact ih h.2

end JanetModel.Wait
