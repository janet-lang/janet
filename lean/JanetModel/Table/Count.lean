/-
The counting invariant of a table (`CInv`: `count` = number of live buckets, `deleted` = number of tombstones, at least
half of the buckets are empty — hence `janet_dict_find` never returns NULL where table.c dereferences its result), and
the operations of table.c under both invariants: each of `rehash`, `remove`, `put` keeps `DInv` and `CInv`, leaves `bad`
alone, and is the expected update of the map `k ↦ rawgetD h data k`.
-/
import JanetModel.Table.Lemmas
import JanetModel.Table.Pow2

namespace JanetModel.Table
open JanetModel.Gen.Table

def isLive (s : Slot) : Bool := s.key.isSome
def isTomb (s : Slot) : Bool := s.key.isNone && s.val != vNil
def isEmp (s : Slot) : Bool := s.key.isNone && s.val == vNil

def nLive (data : Array Slot) : Nat := data.countP isLive
def nTomb (data : Array Slot) : Nat := data.countP isTomb
def nEmp (data : Array Slot) : Nat := data.countP isEmp

theorem setIfInBounds_eq_set (data : Array Slot) (j : Nat) (s : Slot) (hj : j < data.size) :
    data.setIfInBounds j s = data.set j s hj := by
  simp [Array.setIfInBounds, hj]

theorem countP_setIfInBounds (p : Slot → Bool) (data : Array Slot) (j : Nat) (s : Slot) (hj : j < data.size) :
    (data.setIfInBounds j s).countP p =
      (data.countP p - if p (slotAt data j) = true then 1 else 0) + if p s = true then 1 else 0 := by
  rw [setIfInBounds_eq_set data j s hj, Array.countP_set, slotAt_lt data j hj]

theorem countP_pos_of_slot (p : Slot → Bool) (data : Array Slot) (j : Nat) (hj : j < data.size)
    (hp : p (slotAt data j) = true) : 0 < data.countP p := by
  rw [Array.countP_pos_iff]
  refine ⟨data[j], Array.mem_iff_getElem.mpr ⟨j, hj, rfl⟩, ?_⟩
  rw [← slotAt_lt data j hj]; exact hp

/-- a bucket write moves a count by what left and what came -/
theorem countP_set_add (p : Slot → Bool) (data : Array Slot) (j : Nat) (s : Slot) (hj : j < data.size) :
    (data.setIfInBounds j s).countP p + (if p (slotAt data j) = true then 1 else 0) =
      data.countP p + if p s = true then 1 else 0 := by
  rw [countP_setIfInBounds p data j s hj]
  by_cases c : p (slotAt data j) = true
  · have := countP_pos_of_slot p data j hj c
    rw [if_pos c]; omega
  · rw [if_neg c]; omega

theorem nLive_replicate (n : Nat) : nLive (Array.replicate n Slot.empty) = 0 := by
  rw [nLive, Array.countP_replicate]; rfl

theorem nTomb_replicate (n : Nat) : nTomb (Array.replicate n Slot.empty) = 0 := by
  rw [nTomb, Array.countP_replicate]; rfl

theorem partition_list (l : List Slot) :
    l.countP isLive + l.countP isTomb + l.countP isEmp = l.length := by
  induction l with
  | nil => rfl
  | cons s rest ih =>
    simp only [List.countP_cons, List.length_cons]
    cases hk : s.key with
    | some k => simp [isLive, isTomb, isEmp, hk]; omega
    | none =>
      by_cases hv : s.val = vNil
      · simp [isLive, isTomb, isEmp, hk, hv]; omega
      · simp [isLive, isTomb, isEmp, hk, hv]; omega

theorem partition (data : Array Slot) : nLive data + nTomb data + nEmp data = data.size := by
  unfold nLive nTomb nEmp
  rw [← Array.countP_toList, ← Array.countP_toList, ← Array.countP_toList]
  simpa using partition_list data.toList

theorem isEmp_iff (s : Slot) : isEmp s = true ↔ s.isEmpty := by
  simp only [isEmp, Slot.isEmpty, Bool.and_eq_true, Option.isNone_iff_eq_none, beq_iff_eq]

theorem exists_empty {data : Array Slot} (hpos : 0 < nEmp data) :
    ∃ x, x < data.size ∧ (slotAt data x).isEmpty := by
  obtain ⟨a, hm, hp⟩ := Array.countP_pos_iff.mp hpos
  obtain ⟨i, hi, e⟩ := Array.mem_iff_getElem.mp hm
  exact ⟨i, hi, by rw [slotAt_lt data i hi, e]; exact (isEmp_iff a).mp hp⟩

/-- with an empty bucket somewhere, `janet_dict_find` does not return NULL -/
theorem find_ne_none {h : Nat → Nat} {data : Array Slot} (inv : DInv h data) (hpos : 0 < nEmp data) (k : Nat) :
    dictFind h data k ≠ none := by
  by_cases hex : ∃ i, (slotAt data i).key = some k
  · obtain ⟨i, hi⟩ := hex
    rw [find_hit inv hi]; simp
  · have hno : ∀ i, (slotAt data i).key ≠ some k := fun i hi => hex ⟨i, hi⟩
    have hm := find_miss (h := h) hno
    intro hnone
    rw [hnone] at hm
    obtain ⟨x, hx, he⟩ := exists_empty hpos
    exact hm x ((mem_probeSeq (maphash_le _ _)).mpr hx) he


theorem nLive_eq_range (data : Array Slot) :
    nLive data = (List.range data.size).countP (fun i => isLive (slotAt data i)) := by
  unfold nLive
  rw [← Array.countP_toList, toList_eq_map, List.countP_map]
  rfl

/-- the copy loop of `janet_table_rehash`, over the old buckets with indices `idxs`, into an array without tombstones
that has room for them: every copied bucket finds a free one (no NULL), the live buckets are counted, and the map is
the old one on the keys copied -/
theorem rehashLoop_spec {h : Nat → Nat} {old : Array Slot} (oinv : DInv h old) :
    ∀ (idxs : List Nat) (nd : Array Slot) (bad : Bool), idxs.Nodup → DInv h nd →
      (∀ i ∈ idxs, ∀ k, (slotAt old i).key = some k → ∀ x, (slotAt nd x).key ≠ some k) →
      nTomb nd = 0 → nLive nd + idxs.countP (fun i => isLive (slotAt old i)) < nd.size →
      let r := rehashLoop h (idxs.map (slotAt old)) (nd, bad)
      DInv h r.1 ∧ r.2 = bad ∧ nLive r.1 = nLive nd + idxs.countP (fun i => isLive (slotAt old i)) ∧ nTomb r.1 = 0 ∧
        ∀ k', rawgetD h r.1 k' =
          if (∃ i ∈ idxs, (slotAt old i).key = some k') then rawgetD h old k' else rawgetD h nd k' := by
  intro idxs
  induction idxs with
  | nil => intro nd bad _ ninv _ hT _; simp [rehashLoop, ninv, hT]
  | cons i rest ih =>
    intro nd bad hnd ninv habs hT hroom
    obtain ⟨hinot, hrestnd⟩ := List.nodup_cons.mp hnd
    have habsr := fun i' hi' => habs i' (List.mem_cons_of_mem _ hi')
    simp only [List.map_cons]
    unfold rehashLoop
    cases hk : (slotAt old i).key with
    | none =>
      simp only []
      have hc : (i :: rest).countP (fun i => isLive (slotAt old i)) = rest.countP (fun i => isLive (slotAt old i)) := by
        simp [isLive, hk]
      rw [hc] at hroom ⊢
      obtain ⟨r1, r2, r3, r4, r5⟩ := ih nd bad hrestnd ninv habsr hT hroom
      refine ⟨r1, r2, r3, r4, fun k' => ?_⟩
      rw [r5 k']
      simp only [exists_mem_cons', hk, reduceCtorEq, false_or]
    | some k =>
      simp only []
      have hc : (i :: rest).countP (fun i => isLive (slotAt old i)) = rest.countP (fun i => isLive (slotAt old i)) + 1 := by
        simp [isLive, hk]
      rw [hc] at hroom ⊢
      have hno : ∀ x, (slotAt nd x).key ≠ some k := habs i List.mem_cons_self k hk
      have hfm := find_miss (h := h) hno
      cases hf : dictFind h nd k with
      | none => exact absurd hf (find_ne_none ninv (by have := partition nd; omega) k)
      | some j =>
        simp only []
        rw [hf] at hfm
        obtain ⟨ninv', hj, habs'⟩ := rehash_step oinv ninv hinot hk hno hfm habsr
        have hl := countP_set_add isLive nd j (slotAt old i) hj
        have ht := countP_set_add isTomb nd j (slotAt old i) hj
        rw [if_neg (by rw [isLive, hfm.1]; decide), if_pos (by rw [isLive, hk]; rfl)] at hl
        rw [if_neg (show ¬ isTomb (slotAt old i) = true by simp [isTomb, hk])] at ht
        have ht0 : nTomb (nd.setIfInBounds j (slotAt old i)) = 0 := by
          unfold nTomb at hT ⊢; split at ht <;> omega
        obtain ⟨r1, r2, r3, r4, r5⟩ := ih (nd.setIfInBounds j (slotAt old i)) bad hrestnd ninv' habs' ht0
          (by unfold nLive at hroom ⊢; rw [Array.size_setIfInBounds]; omega)
        refine ⟨r1, r2, by rw [r3]; unfold nLive; omega, r4, fun k' => ?_⟩
        rw [r5 k']
        simp only [exists_mem_cons', hk]
        by_cases h2 : ∃ i', i' ∈ rest ∧ (slotAt old i').key = some k'
        · rw [if_pos h2, if_pos (Or.inr h2)]
        · rw [if_neg h2]
          by_cases hkk : k = k'
          · subst hkk
            rw [if_pos (Or.inl rfl), rawgetD_set_self ninv' hj hk, rawgetD_hit oinv hk]
          · rw [if_neg (by rintro (e | e); exact hkk (Option.some.inj e); exact h2 e)]
            exact rawgetD_set_other ninv ninv' (by rw [hfm.1]; exact fun e => by cases e)
              (by rw [hk]; exact fun e => hkk (Option.some.inj e))


structure CInv (t : Table) : Prop where
  cnt : t.count = nLive t.data
  del : t.deleted = nTomb t.data
  /-- a bucket with a nil key is empty or the tombstone written by `janet_table_remove` -/
  shape : ∀ x, (slotAt t.data x).key = none → (slotAt t.data x).val = vNil ∨ (slotAt t.data x).val = tombVal
  pos : 0 < t.data.size
  /-- at least half of the buckets are empty -/
  room : 2 * (t.count + t.deleted) ≤ t.data.size

theorem CInv.emp_pos {t : Table} (c : CInv t) : 0 < nEmp t.data := by
  have := partition t.data
  have h1 := c.cnt; have h2 := c.del; have h3 := c.pos; have h4 := c.room
  omega

theorem shape_of_nTomb_zero {data : Array Slot} (h0 : nTomb data = 0) :
    ∀ x, (slotAt data x).key = none → (slotAt data x).val = vNil ∨ (slotAt data x).val = tombVal := by
  intro x hk
  left
  by_cases hx : x < data.size
  · unfold nTomb at h0
    rw [Array.countP_eq_zero] at h0
    have := h0 data[x] (Array.mem_iff_getElem.mpr ⟨x, hx, rfl⟩)
    rw [← slotAt_lt data x hx] at this
    simp only [isTomb, hk, Option.isNone_none, Bool.true_and, bne_iff_ne, ne_eq, Decidable.not_not] at this
    exact this
  · rw [slotAt_oob data x (by omega)]; rfl

theorem CInv.congr {t t' : Table} (c : CInv t) (h1 : t'.count = t.count) (h2 : t'.deleted = t.deleted)
    (h3 : t'.data = t.data) : CInv t' :=
  ⟨by rw [h1, h3]; exact c.cnt, by rw [h2, h3]; exact c.del, by rw [h3]; exact c.shape, by rw [h3]; exact c.pos,
    by rw [h1, h2, h3]; exact c.room⟩

/-- `janet_table_rehash(t, n)` with at least half of the `n` buckets free: the invariants hold again, no NULL bucket was
met, and the map is the same -/
theorem rehash_inv {h : Nat → Nat} {t : Table} (inv : DInv h t.data) (c : CInv t) (n : Nat) (hn : 2 * t.count ≤ n)
    (hpos : t.count < n) :
    DInv h (t.rehash h n).data ∧ CInv (t.rehash h n) ∧ (t.rehash h n).bad = t.bad ∧
      ∀ k', rawgetD h (t.rehash h n).data k' = rawgetD h t.data k' := by
  have hl := rehashLoop_spec inv (List.range t.data.size) (Array.replicate n Slot.empty) t.bad
    List.nodup_range (DInv.replicate h n) (fun _ _ k _ x => key_replicate n x k) (nTomb_replicate n)
    (by rw [← nLive_eq_range, nLive_replicate, Array.size_replicate, Nat.zero_add, ← c.cnt]; exact hpos)
  simp only [] at hl
  rw [← toList_eq_map, ← nLive_eq_range, nLive_replicate, Nat.zero_add] at hl
  obtain ⟨r1, r2, r3, r4, r5⟩ := hl
  have hsz := size_rehash h t n
  refine ⟨r1, ⟨c.cnt.trans r3.symm, r4.symm, shape_of_nTomb_zero r4, by omega,
    by rw [hsz]; show 2 * (t.count + 0) ≤ n; omega⟩, r2, fun k' => ?_⟩
  refine (r5 k').trans ?_
  by_cases hex : ∃ i, i ∈ List.range t.data.size ∧ (slotAt t.data i).key = some k'
  · rw [if_pos hex]
  · rw [if_neg hex, rawgetD_miss (fun x => key_replicate n x k'), rawgetD_miss]
    intro x hx
    exact hex ⟨x, List.mem_range.mpr (key_some_lt hx), hx⟩

theorem isBool_tombVal : isBoolVal tombVal = true := by decide

theorem CInv.replicate (n : Nat) (pr : Option Nat) (bd : Bool) (hn : 0 < n) :
    CInv ⟨0, 0, Array.replicate n Slot.empty, pr, bd⟩ :=
  ⟨(nLive_replicate n).symm, (nTomb_replicate n).symm,
    fun x _ => Or.inl (by show (slotAt (Array.replicate n Slot.empty) x).val = vNil; rw [slotAt_replicate]; rfl),
    by rw [Array.size_replicate]; exact hn, Nat.zero_le _⟩

theorem CInv.init (n : Nat) : CInv (Table.init n) :=
  CInv.replicate _ _ _ (Nat.lt_of_le_of_lt (Nat.zero_le n) (tablen_gt n))

theorem CInv.clear {t : Table} (c : CInv t) : CInv t.clear :=
  CInv.replicate _ _ _ c.pos

/-- the counting invariant after one bucket write, given how `count` and `deleted` moved -/
theorem CInv.set {t : Table} (c : CInv t) {j : Nat} (hj : j < t.data.size) {s : Slot} {cnt del : Nat}
    (hcnt : cnt + (if isLive (slotAt t.data j) = true then 1 else 0) = t.count + if isLive s = true then 1 else 0)
    (hdel : del + (if isTomb (slotAt t.data j) = true then 1 else 0) = t.deleted + if isTomb s = true then 1 else 0)
    (hshape : s.key = none → s.val = vNil ∨ s.val = tombVal) (hroom : 2 * (cnt + del) ≤ t.data.size)
    (pr : Option Nat) (bd : Bool) : CInv ⟨cnt, del, t.data.setIfInBounds j s, pr, bd⟩ := by
  have hl := countP_set_add isLive t.data j s hj
  have ht := countP_set_add isTomb t.data j s hj
  have h1 := c.cnt; have h2 := c.del
  unfold nLive at h1; unfold nTomb at h2
  refine ⟨show cnt = Array.countP isLive (t.data.setIfInBounds j s) by omega,
    show del = Array.countP isTomb (t.data.setIfInBounds j s) by omega, fun x hx => ?_,
    by rw [Array.size_setIfInBounds]; exact c.pos, by rw [Array.size_setIfInBounds]; exact hroom⟩
  show (slotAt (t.data.setIfInBounds j s) x).val = vNil ∨ _
  by_cases cx : x = j
  · rw [cx, slotAt_set_self s hj] at hx ⊢; exact hshape hx
  · rw [slotAt_set_ne s cx] at hx ⊢; exact c.shape x hx

theorem tombVal_ne_nil : tombVal ≠ vNil := by decide

/-- `janet_table_remove`: the key's bucket, if there is one, becomes a tombstone -/
theorem remove_inv {h : Nat → Nat} {t : Table} (inv : DInv h t.data) (c : CInv t) (k : Nat) :
    DInv h (t.remove h k).1.data ∧ CInv (t.remove h k).1 ∧ (t.remove h k).2 = rawgetD h t.data k ∧
      ∀ k', rawgetD h (t.remove h k).1.data k' = if k' = k then vNil else rawgetD h t.data k' := by
  unfold Table.remove
  by_cases hex : ∃ i, (slotAt t.data i).key = some k
  · obtain ⟨i, hi⟩ := hex
    have hil : i < t.data.size := key_some_lt hi
    have hli : isLive (slotAt t.data i) = true := by rw [isLive, hi]; rfl
    have hti : ¬ isTomb (slotAt t.data i) = true := by simp [isTomb, hi]
    have hlp := countP_pos_of_slot isLive t.data i hil hli
    have hc := c.cnt; have hr := c.room
    unfold nLive at hc
    have inv' := inv.tomb i tombVal_ne_nil
    rw [find_hit inv hi, hit_of_key hi]
    exact ⟨inv', c.set hil (by rw [if_pos hli, if_neg (by decide)]; omega) (by rw [if_neg hti, if_pos (by decide)])
      (fun _ => Or.inr rfl) (by omega) _ _, (rawgetD_hit inv hi).symm, rawgetD_tomb inv inv' hi⟩
  · have hno : ∀ i, (slotAt t.data i).key ≠ some k := fun i hi => hex ⟨i, hi⟩
    rw [hit_miss hno]
    refine ⟨inv, c, (rawgetD_miss hno).symm, fun k' => ?_⟩
    by_cases hkk : k' = k
    · rw [if_pos hkk, hkk]; exact rawgetD_miss hno
    · rw [if_neg hkk]

/-- the rehash decision: afterwards the invariants hold, nothing was dereferenced through NULL, there is room for one
more entry, and the map is the same -/
theorem maybeRehash_inv {h : Nat → Nat} {t : Table} (inv : DInv h t.data) (c : CInv t) (b : Option Nat) :
    DInv h (t.maybeRehash h b).data ∧ CInv (t.maybeRehash h b) ∧ (t.maybeRehash h b).bad = t.bad ∧
      2 * ((t.maybeRehash h b).count + (t.maybeRehash h b).deleted + 1) ≤ (t.maybeRehash h b).data.size ∧
      ∀ k', rawgetD h (t.maybeRehash h b).data k' = rawgetD h t.data k' := by
  unfold Table.maybeRehash
  by_cases cnd : (b.isNone || rehashNeeded t.count t.deleted t.capacity) = true
  · rw [if_pos cnd]
    have hbig : 2 * t.count + 2 < rehashSize t.count := by unfold rehashSize; exact tablen_gt _
    obtain ⟨d', c', hbad, hmap⟩ := rehash_inv (h := h) inv c (rehashSize t.count) (by omega) (by omega)
    exact ⟨d', c', hbad, by rw [size_rehash]; show 2 * (t.count + 0 + 1) ≤ _; omega, hmap⟩
  · rw [if_neg cnd]
    refine ⟨inv, c, rfl, ?_, fun _ => rfl⟩
    have : rehashNeeded t.count t.deleted t.capacity = false := by
      cases hr : rehashNeeded t.count t.deleted t.capacity with
      | false => rfl
      | true => rw [hr] at cnd; simp at cnd
    unfold rehashNeeded Table.capacity at this
    simp at this
    omega

/-- the insertion proper, for an absent key: with an empty bucket available `janet_dict_find` returns a free bucket of
the key's probe path (no NULL), the counters follow, and the map is updated -/
theorem insertAt_inv {h : Nat → Nat} {t : Table} (inv : DInv h t.data) (c : CInv t) {k : Nat} {v : Val}
    (hno : ∀ i, (slotAt t.data i).key ≠ some k) (hv : v ≠ vNil)
    (hroom : 2 * (t.count + t.deleted + 1) ≤ t.data.size) :
    DInv h (t.insertAt h k v).data ∧ CInv (t.insertAt h k v) ∧ (t.insertAt h k v).bad = t.bad ∧
      ∀ k', rawgetD h (t.insertAt h k v).data k' = if k' = k then v else rawgetD h t.data k' := by
  have hfm := find_miss (h := h) hno
  unfold Table.insertAt
  cases hf : dictFind h t.data k with
  | none => exact absurd hf (find_ne_none inv c.emp_pos k)
  | some j =>
    rw [hf] at hfm
    simp only []
    have hj : j < t.data.size := hfm.lt (maphash_le _ _)
    have hlj : ¬ isLive (slotAt t.data j) = true := by simp [isLive, hfm.1]
    have hlk : isLive (⟨some k, v⟩ : Slot) = true := rfl
    have htk : ¬ isTomb (⟨some k, v⟩ : Slot) = true := by simp [isTomb]
    have inv' := inv.insert hno hfm hv
    refine ⟨inv', c.set hj (by rw [if_neg hlj, if_pos hlk]) ?_ (fun e => by cases e) ?_ _ _, trivial,
      rawgetD_put inv inv' hj fun k' e => by rw [hfm.1] at e; cases e⟩
    · -- the free bucket is empty, or the tombstone `janet_table_remove` writes (a boolean)
      rw [if_neg htk]
      rcases c.shape j hfm.1 with e | e
      · rw [if_neg (by rw [e]; decide), if_neg (by simp [isTomb, e])]
      · have htj : isTomb (slotAt t.data j) = true := by simp [isTomb, hfm.1, e]
        have := countP_pos_of_slot isTomb t.data j hj htj
        have hd := c.del; unfold nTomb at hd
        rw [if_pos (by rw [e]; exact isBool_tombVal), if_pos htj]; omega
    · split <;> omega

/-- **`janet_table_put` on a storable key**: the invariants are kept, no NULL bucket is met, and the map is updated
(a nil value erases) -/
theorem putKey_inv {h : Nat → Nat} {t : Table} (inv : DInv h t.data) (c : CInv t) (k : Nat) (v : Val) :
    DInv h (t.putKey h k v).data ∧ CInv (t.putKey h k v) ∧ (t.putKey h k v).bad = t.bad ∧
      ∀ k', rawgetD h (t.putKey h k v).data k' = if k' = k then v else rawgetD h t.data k' := by
  unfold Table.putKey
  by_cases hv : v = vNil
  · simp only [hv, if_true]
    have r := remove_inv (h := h) inv c k
    exact ⟨r.1, r.2.1, (remove_frame h t k).2.1, r.2.2.2⟩
  · simp only [hv, if_false]
    by_cases hex : ∃ i, (slotAt t.data i).key = some k
    · obtain ⟨i, hi⟩ := hex
      rw [find_hit inv hi, hit_of_key hi]
      have hlk : isLive (⟨some k, v⟩ : Slot) = true := rfl
      have htk : ¬ isTomb (⟨some k, v⟩ : Slot) = true := by simp [isTomb]
      have inv' := inv.overwrite hi hv
      exact ⟨inv', c.set (key_some_lt hi) (by rw [if_pos (by rw [isLive, hi]; rfl), if_pos hlk])
        (by rw [if_neg (by simp [isTomb, hi]), if_neg htk]) (fun e => by cases e) c.room _ _, rfl,
        rawgetD_put inv inv' (key_some_lt hi) fun k' e => by rw [hi] at e; exact (Option.some.inj e).symm⟩
    · have hno : ∀ i, (slotAt t.data i).key ≠ some k := fun i hi => hex ⟨i, hi⟩
      rw [hit_miss hno]
      simp only []
      unfold Table.insertNew
      obtain ⟨d1, c1, hb1, hroom, hsame⟩ := maybeRehash_inv (h := h) inv c (dictFind h t.data k)
      -- the key is still absent after the rehash
      have hno1 := absent_of_rawgetD_nil d1 (by rw [hsame, rawgetD_miss hno])
      obtain ⟨d2, c2, hb2, hmap⟩ := insertAt_inv (h := h) d1 c1 hno1 hv hroom
      exact ⟨d2, c2, hb2.trans hb1, fun k' => by rw [hmap k', hsame]⟩

end JanetModel.Table
