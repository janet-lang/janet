/-
Structs as finite maps.  A struct bucket array that satisfies the same structural invariant as a table's
(`DInv`: no duplicate keys, probe-path property, stored values non-nil) and holds no tombstone (`NoTomb`) is read by
`janet_struct_find` exactly as `janet_dict_find` reads it; so `struct/rawget`, `janet_struct_get_ex` (prototype walk)
and `struct/to-table` are finite-map operations.

`checkSInv` is an executable decision procedure for the invariant, proved sound here (`checkSInv_sound`); the model
driver evaluates it, as a second check, on every struct a history creates — the same struct whose bucket array is
compared with the implementation's slot by slot.
-/
import JanetModel.Table.Lemmas
namespace JanetModel.Table
open JanetModel.Gen.Table

/-- a nil-key bucket is empty (structs have no tombstones) -/
def NoTomb (data : Array Slot) : Prop := ∀ i, (slotAt data i).key = none → (slotAt data i).val = vNil

structure SInv (h : Nat → Nat) (s : Struct) : Prop where
  d : DInv h s.data
  nt : NoTomb s.data

/-- without tombstones the probe loop of `janet_dict_find` stops where `janet_struct_find` stops: at the first bucket
with a nil key or the key -/
theorem scan_noTomb {data : Array Slot} (nt : NoTomb data) (k : Nat) (l : List Nat) :
    (match scan data k l none with | .ret i => some i | .cont f => f) =
      l.find? (fun i => match (slotAt data i).key with | none => true | some k' => k' == k) := by
  induction l with
  | nil => rfl
  | cons i rest ih =>
    rw [List.find?_cons]
    cases hk : (slotAt data i).key with
    | none => rw [scan_stop _ _ (Or.inl ⟨hk, nt i hk⟩)]
    | some k' =>
      by_cases hkk : k' = k
      · rw [scan_stop _ _ (Or.inr (hkk ▸ hk))]
        simp only [beq_iff_eq.mpr hkk]
      · rw [scan_skip _ _ (fun e => by rw [e.1] at hk; cases hk) (fun e => hkk (by rw [hk] at e; exact Option.some.inj e)),
          hk]
        simp only [beq_eq_false_iff_ne.mpr hkk]
        exact ih

theorem structFind_eq_dictFind (h : Nat → Nat) {data : Array Slot} (nt : NoTomb data) (k : Nat) :
    structFind h data k = dictFind h data k := by
  rw [dictFind_eq]
  exact (scan_noTomb nt k _).symm

/-- `struct/rawget` reads the bucket array as `table/rawget` does (the bucket `janet_struct_find` stops at holds the key
or is empty) -/
theorem struct_rawget_eq_dict {h : Nat → Nat} {s : Struct} (inv : SInv h s) (k : Nat) :
    s.rawget h k = rawgetD h s.data k := by
  unfold Struct.rawget rawgetD
  rw [structFind_eq_dictFind h inv.nt]
  cases hf : dictFind h s.data k with
  | none => rfl
  | some i =>
    simp only [hit]
    cases hk : (slotAt s.data i).key with
    | none => exact inv.nt i hk
    | some _ => rfl

/-- **`janet_struct_get_ex`: lookups fall back along the struct prototype chain** — the struct's own entry if it has
one, else the prototype's answer, for at most `fuel` levels -/
theorem struct_get_spec (h : Nat → Nat) (heap : Nat → Option Struct) (hinv : ∀ r s, heap r = some s → SInv h s)
    (k : Nat) (fuel : Nat) (r : Nat) :
    structGetChain h heap k (fuel + 1) (some r) =
      match heap r with
      | none => vNil
      | some s => if s.rawget h k ≠ vNil then s.rawget h k else structGetChain h heap k fuel s.proto := by
  conv => lhs; unfold structGetChain
  cases hr : heap r with
  | none => rfl
  | some s =>
    simp only []
    rw [structFind_eq_dictFind h (hinv r s hr).nt, struct_rawget_eq_dict (hinv r s hr)]
    exact rawgetD_or (hinv r s hr).d k _

theorem struct_get_depth_cutoff (h : Nat → Nat) (heap : Nat → Option Struct) (k : Nat) (r : Option Nat) :
    structGetChain h heap k 0 r = vNil := by
  cases r <;> rfl


def updKV (m : Nat → Val) (kv : Slot) : Nat → Val :=
  match kv.key with
  | some k => fun k' => if k' = k then kv.val else m k'
  | none => m

theorem fold_upd_absent (l : List Slot) (k : Nat) (hno : ∀ s ∈ l, s.key ≠ some k) :
    ∀ m : Nat → Val, (l.foldl updKV m) k = m k := by
  induction l with
  | nil => intro m; rfl
  | cons a rest ih =>
    intro m
    simp only [List.foldl_cons]
    rw [ih (fun s hs => hno s (by simp [hs]))]
    unfold updKV
    cases ha : a.key with
    | none => rfl
    | some k' =>
      simp only []
      have : k ≠ k' := fun e => hno a (by simp) (by rw [ha, e])
      simp [this]

theorem fold_upd_last (pre : List Slot) (s : Slot) (post : List Slot) (k : Nat) (hs : s.key = some k)
    (hpost : ∀ x ∈ post, x.key ≠ some k) (m : Nat → Val) : ((pre ++ s :: post).foldl updKV m) k = s.val := by
  rw [List.foldl_append, List.foldl_cons, fold_upd_absent post k hpost]
  unfold updKV
  rw [hs]
  simp

/-- the buckets of an array satisfying `DInv`, folded in bucket order into a map, give the array's lookup function:
a key held by bucket `i` maps to that bucket's value ... -/
theorem fold_buckets_hit {h : Nat → Nat} {data : Array Slot} (inv : DInv h data) (m : Nat → Val) {i k : Nat}
    (hi : (slotAt data i).key = some k) : (data.toList.foldl updKV m) k = (slotAt data i).val := by
  have hlt : i < data.size := key_some_lt hi
  have hlt' : i < data.toList.length := by simpa using hlt
  have hsplit : data.toList = data.toList.take i ++ data.toList[i] :: data.toList.drop (i + 1) := by
    rw [List.getElem_cons_drop hlt', List.take_append_drop]
  rw [hsplit, fold_upd_last _ _ _ k (by rw [toList_getElem]; exact hi), toList_getElem]
  intro x hx hk
  obtain ⟨j, hj, hxj⟩ := List.getElem_of_mem hx
  have hjl : i + 1 + j < data.toList.length := by
    have : j < data.toList.length - (i + 1) := by simpa using hj
    omega
  rw [List.getElem_drop] at hxj
  rw [← hxj, toList_getElem] at hk
  have := inv.nodup _ _ k hk hi
  omega

/-- ... and a key held by no bucket keeps what the map had -/
theorem fold_buckets_miss {data : Array Slot} (m : Nat → Val) {k : Nat}
    (hno : ∀ i, (slotAt data i).key ≠ some k) : (data.toList.foldl updKV m) k = m k := by
  apply fold_upd_absent
  intro s hs hk
  obtain ⟨j, hj, hsj⟩ := List.getElem_of_mem hs
  rw [← hsj, toList_getElem] at hk
  exact hno j hk

/-- so folded into the empty map they give exactly `janet_table_rawget` on the array -/
theorem fold_buckets_eq {h : Nat → Nat} {data : Array Slot} (inv : DInv h data) {m : Nat → Val} (hm : ∀ k, m k = vNil)
    (k : Nat) : (data.toList.foldl updKV m) k = rawgetD h data k := by
  by_cases ck : ∃ i, (slotAt data i).key = some k
  · obtain ⟨i, hi⟩ := ck
    rw [fold_buckets_hit inv _ hi, rawgetD_hit inv hi]
  · have hno : ∀ i, (slotAt data i).key ≠ some k := fun i hi => ck ⟨i, hi⟩
    rw [fold_buckets_miss _ hno, hm, rawgetD_miss hno]


/-- bucket `i` holds key `k`: `i` occurs in `k`'s probe sequence and every bucket before it is live with another key -/
def checkPath (h : Nat → Nat) (data : Array Slot) (i k : Nat) : Bool :=
  let l := probeSeq data.size (maphash data.size (h k))
  l.contains i && (l.takeWhile (· != i)).all (fun x =>
    match (slotAt data x).key with
    | none => false
    | some k' => k' != k)

def checkSlot (h : Nat → Nat) (data : Array Slot) (i : Nat) : Bool :=
  match (slotAt data i).key with
  | none => (slotAt data i).val == vNil
  | some k => (slotAt data i).val != vNil && checkPath h data i k

def checkSInv (h : Nat → Nat) (data : Array Slot) : Bool :=
  (List.range data.size).all (checkSlot h data)

theorem takeWhile_split (l : List Nat) (i : Nat) (hi : i ∈ l) :
    ∃ post, l = l.takeWhile (· != i) ++ i :: post := by
  induction l with
  | nil => cases hi
  | cons a rest ih =>
    by_cases c : a = i
    · subst c
      exact ⟨rest, by simp [List.takeWhile]⟩
    · have hi' : i ∈ rest := by
        rcases List.mem_cons.mp hi with e | e
        · exact absurd e.symm c
        · exact e
      obtain ⟨post, hp⟩ := ih hi'
      refine ⟨post, ?_⟩
      have : (a != i) = true := by simpa using c
      simp only [List.takeWhile, this, List.cons_append]
      rw [← hp]

theorem checkSInv_sound (h : Nat → Nat) (data : Array Slot) (hc : checkSInv h data = true) :
    DInv h data ∧ NoTomb data := by
  have hall : ∀ i, i < data.size → checkSlot h data i = true := by
    intro i hi
    unfold checkSInv at hc
    rw [List.all_eq_true] at hc
    exact hc i (by simpa using hi)
  have hpath : ∀ i k, (slotAt data i).key = some k →
      (slotAt data i).val ≠ vNil ∧ ∃ pre post, probeSeq data.size (maphash data.size (h k)) = pre ++ i :: post ∧
        ∀ x ∈ pre, ∃ k', (slotAt data x).key = some k' ∧ k' ≠ k := by
    intro i k hi
    have hs := hall i (key_some_lt hi)
    unfold checkSlot at hs
    rw [hi] at hs
    simp only [Bool.and_eq_true, bne_iff_ne, ne_eq] at hs
    refine ⟨hs.1, ?_⟩
    have hp := hs.2
    unfold checkPath at hp
    simp only [Bool.and_eq_true, List.all_eq_true] at hp
    have hmem : i ∈ probeSeq data.size (maphash data.size (h k)) := by
      have := hp.1
      simpa using this
    obtain ⟨post, hsplit⟩ := takeWhile_split _ i hmem
    refine ⟨_, post, hsplit, ?_⟩
    intro x hx
    have := hp.2 x hx
    cases hk : (slotAt data x).key with
    | none => rw [hk] at this; simp at this
    | some k' =>
      rw [hk] at this
      exact ⟨k', rfl, by simpa using this⟩
  refine ⟨⟨?_, ?_, ?_⟩, ?_⟩
  · -- no duplicate keys: both buckets lie on the key's probe sequence; one of them is in the other's prefix
    intro i j k hi hj
    obtain ⟨_, pre1, post1, e1, hp1⟩ := hpath i k hi
    obtain ⟨_, pre2, post2, e2, hp2⟩ := hpath j k hj
    rcases split_cmp e1 e2 with hm | hm | ⟨_, e⟩
    · obtain ⟨k', hk', hne'⟩ := hp2 i hm
      rw [hi] at hk'; cases hk'; exact absurd rfl hne'
    · obtain ⟨k', hk', hne'⟩ := hp1 j hm
      rw [hj] at hk'; cases hk'; exact absurd rfl hne'
    · exact e
  · intro i k hi
    obtain ⟨_, pre, post, e, hp⟩ := hpath i k hi
    refine ⟨pre, post, e, ?_⟩
    intro x hx
    obtain ⟨k', hk', hne'⟩ := hp x hx
    refine ⟨fun he => (by rw [he.1] at hk'; cases hk'), ?_⟩
    rw [hk']; intro e; cases e; exact hne' rfl
  · intro i k hi
    exact (hpath i k hi).1
  · intro i hi
    by_cases hlt : i < data.size
    · have hs := hall i hlt
      unfold checkSlot at hs
      rw [hi] at hs
      simpa using hs
    · rw [slotAt_oob data i (by omega)]; rfl


def checkSub (h : Nat → Nat) (a b : Array Slot) : Bool :=
  (List.range a.size).all (fun i =>
    match (slotAt a i).key with
    | none => true
    | some k => rawgetD h b k == (slotAt a i).val)

def checkSameMap (h : Nat → Nat) (a b : Array Slot) : Bool := checkSub h a b && checkSub h b a

theorem checkSub_sound {h : Nat → Nat} {a b : Array Slot} (hc : checkSub h a b = true) {i k : Nat}
    (hi : (slotAt a i).key = some k) : rawgetD h b k = (slotAt a i).val := by
  unfold checkSub at hc
  rw [List.all_eq_true] at hc
  have := hc i (by simpa using key_some_lt hi)
  rw [hi] at this
  simpa using this

theorem checkSameMap_sound {h : Nat → Nat} {a b : Array Slot} (ia : DInv h a) (ib : DInv h b)
    (hc : checkSameMap h a b = true) (k : Nat) : rawgetD h a k = rawgetD h b k := by
  unfold checkSameMap at hc
  rw [Bool.and_eq_true] at hc
  by_cases ca : ∃ i, (slotAt a i).key = some k
  · obtain ⟨i, hi⟩ := ca
    rw [rawgetD_hit ia hi, checkSub_sound hc.1 hi]
  · have hno : ∀ i, (slotAt a i).key ≠ some k := fun i hi => ca ⟨i, hi⟩
    rw [rawgetD_miss hno]
    by_cases cb : ∃ j, (slotAt b j).key = some k
    · obtain ⟨j, hj⟩ := cb
      have h1 := checkSub_sound hc.2 hj
      rw [rawgetD_miss hno] at h1
      exact absurd h1.symm (ib.live j k hj)
    · have hnb : ∀ j, (slotAt b j).key ≠ some k := fun j hj => cb ⟨j, hj⟩
      rw [rawgetD_miss hnb]

/-- certificate for one `table/to-struct` result: the struct invariant holds and both bucket arrays hold the same map -/
def certToStruct (h : Nat → Nat) (t : Table) (s : Struct) : Bool :=
  checkSInv h s.data && checkSameMap h t.data s.data

end JanetModel.Table
