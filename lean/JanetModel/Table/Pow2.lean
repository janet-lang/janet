/-
`janet_tablen` returns a power of two (for arguments below 2^32, i.e. everything an `int32_t` can hold), hence the
capacity of a table always is one, and it exceeds its argument.  The proof follows the generated smearing steps
`n |= n >> 1, 2, 4, 8, 16`.
-/
import JanetModel.Gen.Table

namespace JanetModel.Table
open JanetModel.Gen.Table

/-- bit `i` of `m` is set iff one of the `w` bits of `n` starting at `i` is set -/
def Win (n m w : Nat) : Prop := ∀ i, m.testBit i = true ↔ ∃ j, j < w ∧ n.testBit (i + j) = true

theorem win_base (n : Nat) : Win n n 1 := by
  intro i
  constructor
  · intro h; exact ⟨0, by omega, by simpa using h⟩
  · rintro ⟨j, hj, h⟩
    have : j = 0 := by omega
    subst this; simpa using h

theorem win_step {n m w : Nat} (hw : Win n m w) : Win n (m ||| (m >>> w)) (2 * w) := by
  intro i
  rw [Nat.testBit_or, Nat.testBit_shiftRight, Bool.or_eq_true, hw i, hw (w + i)]
  constructor
  · rintro (⟨j, hj, h⟩ | ⟨j, hj, h⟩)
    · exact ⟨j, by omega, h⟩
    · exact ⟨w + j, by omega, by rw [show i + (w + j) = w + i + j by omega]; exact h⟩
  · rintro ⟨j, hj, h⟩
    by_cases c : j < w
    · left; exact ⟨j, c, h⟩
    · right; exact ⟨j - w, by omega, by rw [show w + i + (j - w) = i + j by omega]; exact h⟩

/-- after the generated smearing steps every bit sees the 32 bits above it -/
theorem smear_win (n : Nat) : Win n (smear n) 32 := by
  have h1 := win_step (win_step (win_step (win_step (win_step (win_base n)))))
  simpa [smear, tablenShifts, List.foldl] using h1

theorem smear_eq (n k : Nat) (hk : n < 2 ^ k) (hk32 : k ≤ 32) (hlow : k = 0 ∨ 2 ^ (k - 1) ≤ n) :
    smear n = 2 ^ k - 1 := by
  apply Nat.eq_of_testBit_eq
  intro i
  rw [Nat.testBit_two_pow_sub_one]
  by_cases hi : i < k
  · have hl : 2 ^ (k - 1) ≤ n := by
      rcases hlow with h | h
      · omega
      · exact h
    obtain ⟨b, hb, hbt⟩ := Nat.exists_ge_and_testBit_of_ge_two_pow hl
    have hbk : b < k := by
      apply Decidable.byContradiction
      intro c
      have : n < 2 ^ b := Nat.lt_of_lt_of_le hk (Nat.pow_le_pow_right (by omega) (by omega))
      rw [Nat.testBit_lt_two_pow this] at hbt
      cases hbt
    simp only [hi, decide_true]
    exact (smear_win n i).mpr ⟨b - i, by omega, by rw [show i + (b - i) = b by omega]; exact hbt⟩
  · simp only [hi, decide_false]
    cases hs : (smear n).testBit i with
    | false => rfl
    | true =>
      exfalso
      obtain ⟨j, _, h⟩ := (smear_win n i).mp hs
      have : n < 2 ^ (i + j) := Nat.lt_of_lt_of_le hk (Nat.pow_le_pow_right (by omega) (by omega))
      rw [Nat.testBit_lt_two_pow this] at h
      cases h

/-- `janet_tablen(n)` is a power of two for every `n` an `int32_t` (even a `uint32_t`) can hold -/
theorem tablen_pow2 (n : Nat) (hn : n < 2 ^ 32) : ∃ k, tablen n = 2 ^ k := by
  by_cases h0 : n = 0
  · refine ⟨0, ?_⟩
    subst h0
    have := smear_eq 0 0 (by decide) (by decide) (Or.inl rfl)
    unfold tablen; simp only []; rw [this]
  · refine ⟨n.log2 + 1, ?_⟩
    have h1 : n < 2 ^ (n.log2 + 1) := Nat.lt_log2_self
    have h2 : 2 ^ n.log2 ≤ n := Nat.log2_self_le h0
    have h3 : n.log2 < 32 := (Nat.log2_lt h0).mpr hn
    have := smear_eq n (n.log2 + 1) h1 (by omega) (Or.inr (by simpa using h2))
    unfold tablen; simp only []; rw [this]
    have : 0 < 2 ^ (n.log2 + 1) := Nat.two_pow_pos _
    omega

theorem smear_ge_aux (l : List Nat) (n : Nat) : n ≤ l.foldl (fun n s => n ||| (n >>> s)) n := by
  induction l generalizing n with
  | nil => exact Nat.le_refl n
  | cons s rest ih =>
    simp only [List.foldl_cons]
    exact Nat.le_trans Nat.left_le_or (ih _)

/-- `janet_tablen(n) > n` (whatever the smearing steps are) -/
theorem tablen_gt (n : Nat) : n < tablen n := by
  unfold tablen smear
  have := smear_ge_aux tablenShifts n
  simp only []
  omega

end JanetModel.Table
