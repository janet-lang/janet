/-
Executable model of janet's hash tables (src/core/table.c, `janet_dict_find` / `janet_dictionary_next` in util.c,
`janet_next` for dictionaries in value.c).  Core Lean only (linked into the driver `jm_c04`).

Conventions
* A key is a natural number `id`; equality of keys (`janet_equals`) is equality of ids; the hash function
  `h : Nat → Nat` (`janet_hash`, as an unsigned 32-bit value) is a parameter of every operation — the harness tells the
  driver each pool key's real hash; the theorems hold for every `h`.
* A value is a `Val` id: `0` = nil, `1` = false, `2` = true, `n ≥ 3` = some other non-nil value.
* A bucket (`JanetKV`) is `{key : Option Nat, val : Val}`: `key = none` is the nil key.  As in the C, an *empty* bucket is
  (nil, nil) and a *tombstone* is (nil, non-nil); `janet_table_remove` writes (nil, `tombVal`) where `tombVal` is read
  off the source by the translator (Gen/Table.lean), as are `maphash`, `tablen`, the rehash rule and the prototype
  depth limit.
* Loops are structural recursion over the index lists the C loops enumerate; mutation is returned state.
* A NULL bucket dereference in the C (possible only if `janet_dict_find` returns NULL where the code assumes it cannot)
  is recorded in the field `bad`; the invariant proves it never happens.
-/
import JanetModel.Gen.Table

namespace JanetModel.Table
open JanetModel.Gen.Table

abbrev Val := Nat
abbrev vNil : Val := 0

/-- `janet_checktype(v, JANET_BOOLEAN)` on value ids -/
@[inline] def isBoolVal (v : Val) : Bool := v == 1 || v == 2

structure Slot where
  key : Option Nat
  val : Val
  deriving DecidableEq, Repr, Inhabited

/-- bucket as initialised by `janet_memempty` -/
def Slot.empty : Slot := ⟨none, vNil⟩

structure Table where
  count : Nat
  deleted : Nat
  data : Array Slot            -- `capacity` is `data.size`
  proto : Option Nat := none   -- index of the prototype table in the driver's heap
  bad : Bool := false          -- a NULL bucket was dereferenced
  deriving Repr, Inhabited

@[inline] def Table.capacity (t : Table) : Nat := t.data.size

/-- bucket `i` (reads outside the array do not occur; they read an empty bucket in the model) -/
@[inline] def slotAt (data : Array Slot) (i : Nat) : Slot := data.getD i Slot.empty

/-! ### `janet_dict_find` (util.c) -/

inductive ScanR where
  | ret (i : Nat)                 -- `return buckets + i`
  | cont (first : Option Nat)     -- loop finished; `first_bucket`
  deriving Repr, DecidableEq

/-- `if (NULL == first_bucket) first_bucket = kv;` -/
@[inline] def firstOr (first : Option Nat) (i : Nat) : Option Nat :=
  match first with
  | none => some i
  | some f => some f

/-- one probe loop of `janet_dict_find` over the bucket indices `idxs` -/
def scan (data : Array Slot) (k : Nat) : List Nat → Option Nat → ScanR
  | [], first => .cont first
  | i :: rest, first =>
    let kv := slotAt data i
    match kv.key with
    | none =>
      if kv.val = vNil then .ret i
      else scan data k rest (firstOr first i)
    | some k' => if k' = k then .ret i else scan data k rest first

/-- `janet_dict_find(buckets, cap, key)`: `some i` = pointer to bucket `i`, `none` = NULL -/
def dictFind (h : Nat → Nat) (data : Array Slot) (k : Nat) : Option Nat :=
  let cap := data.size
  let index := maphash cap (h k)
  match scan data k (List.range' index (cap - index)) none with      -- "higher half"
  | .ret i => some i
  | .cont first =>
    match scan data k (List.range' 0 index) first with               -- "lower half"
    | .ret i => some i
    | .cont first => first

/-- `bucket != NULL && !janet_checktype(bucket->key, JANET_NIL)` -/
@[inline] def hit (data : Array Slot) (b : Option Nat) : Option Nat :=
  match b with
  | some i => if (slotAt data i).key.isSome then some i else none
  | none => none

/-! ### table.c -/

/-- `janet_table_init_impl` -/
def Table.init (capacity : Nat) : Table :=
  { count := 0, deleted := 0, data := Array.replicate (tablen capacity) Slot.empty }

/-- `janet_table_rawget` -/
def Table.rawget (h : Nat → Nat) (t : Table) (k : Nat) : Val :=
  match hit t.data (dictFind h t.data k) with
  | some i => (slotAt t.data i).val
  | none => vNil

/-- `janet_table_remove`: returns the table and the removed value -/
def Table.remove (h : Nat → Nat) (t : Table) (k : Nat) : Table × Val :=
  match hit t.data (dictFind h t.data k) with
  | some i =>
    ({ t with count := t.count - 1, deleted := t.deleted + 1,
              data := t.data.setIfInBounds i ⟨none, tombVal⟩ }, (slotAt t.data i).val)
  | none => (t, vNil)

/-- the copy loop of `janet_table_rehash` over the old buckets -/
def rehashLoop (h : Nat → Nat) : List Slot → Array Slot × Bool → Array Slot × Bool
  | [], acc => acc
  | kv :: rest, (nd, bad) =>
    match kv.key with
    | none => rehashLoop h rest (nd, bad)
    | some k =>
      match dictFind h nd k with
      | some j => rehashLoop h rest (nd.setIfInBounds j kv, bad)
      | none => rehashLoop h rest (nd, true)            -- `*newkv = *kv` with newkv == NULL

/-- `janet_table_rehash(t, size)` -/
def Table.rehash (h : Nat → Nat) (t : Table) (size : Nat) : Table :=
  let r := rehashLoop h t.data.toList (Array.replicate size Slot.empty, t.bad)
  { t with data := r.1, deleted := 0, bad := r.2 }

/-- `if (NULL == bucket || <rehash test>) janet_table_rehash(t, janet_tablen(<size>));` -/
def Table.maybeRehash (h : Nat → Nat) (t : Table) (b : Option Nat) : Table :=
  if b.isNone || rehashNeeded t.count t.deleted t.capacity then t.rehash h (rehashSize t.count) else t

/-- `bucket = janet_table_find(t, key); if (bucket->value is a boolean) --t->deleted; bucket->key = key; ...; ++t->count;` -/
def Table.insertAt (h : Nat → Nat) (t : Table) (k : Nat) (v : Val) : Table :=
  match dictFind h t.data k with
  | none => { t with bad := true }
  | some i =>
    { t with deleted := if isBoolVal (slotAt t.data i).val then t.deleted - 1 else t.deleted,
             data := t.data.setIfInBounds i ⟨some k, v⟩, count := t.count + 1 }

/-- the tail shared by `janet_table_put` and `janet_table_put_no_overwrite` once the key is known to be absent;
`b` is the bucket `janet_table_find` returned -/
def Table.insertNew (h : Nat → Nat) (t : Table) (b : Option Nat) (k : Nat) (v : Val) : Table :=
  (t.maybeRehash h b).insertAt h k v

/-- key argument of `janet_table_put`: nil and NaN keys are ignored -/
inductive KArg where
  | nil | nan | key (id : Nat)
  deriving Repr, DecidableEq

/-- `janet_table_put` on a storable key -/
def Table.putKey (h : Nat → Nat) (t : Table) (k : Nat) (v : Val) : Table :=
  if v = vNil then (t.remove h k).1
  else
    let b := dictFind h t.data k
    match hit t.data b with
    | some i => { t with data := t.data.setIfInBounds i ⟨some k, v⟩ }     -- `bucket->value = value`
    | none => t.insertNew h b k v

/-- `janet_table_put` -/
def Table.put (h : Nat → Nat) (t : Table) (k : KArg) (v : Val) : Table :=
  match k with
  | .nil => t
  | .nan => t
  | .key k => t.putKey h k v

/-- `janet_table_put_no_overwrite` -/
def Table.putNoOverwrite (h : Nat → Nat) (t : Table) (k : Nat) (v : Val) : Table :=
  let b := dictFind h t.data k
  match hit t.data b with
  | some _ => t
  | none => t.insertNew h b k v

/-- `janet_table_clear` -/
def Table.clear (t : Table) : Table :=
  { t with count := 0, deleted := 0, data := Array.replicate t.data.size Slot.empty }

/-- `janet_table_clone`: the bucket array is copied (value semantics here; the harness checks that the C copy
is not shared by mutating one side and comparing both after every op) -/
def Table.clone (t : Table) : Table :=
  { count := t.count, deleted := t.deleted, data := t.data, proto := t.proto, bad := t.bad }

/-- `janet_table_mergekv` -/
def Table.mergekv (h : Nat → Nat) (t : Table) (kvs : List Slot) : Table :=
  kvs.foldl (fun t kv => match kv.key with | some k => t.putKey h k kv.val | none => t) t

/-- boot.janet `merge`: `(def container @{}) (loop [c :in colls key :keys c] (put container key (in c key))) container`
(the shape is asserted by the translator); `colls` = the bucket arrays of the arguments -/
def mergeNew (h : Nat → Nat) (colls : List (List Slot)) : Table :=
  colls.foldl (fun t kvs => t.mergekv h kvs) (Table.init 0)

/-- boot.janet `zipcoll` / `from-pairs` / `tabseq`: a fresh `@{}` filled by `put` -/
def fromPuts (h : Nat → Nat) (kvs : List (KArg × Val)) : Table :=
  kvs.foldl (fun t kv => t.put h kv.1 kv.2) (Table.init 0)

/-- prototype walk of `janet_table_get`: `for (i = JANET_MAX_PROTO_DEPTH; t && i; t = t->proto, --i)`.
`heap` resolves a table reference. -/
def getChain (h : Nat → Nat) (heap : Nat → Option Table) (k : Nat) : Nat → Option Nat → Val
  | 0, _ => vNil
  | _, none => vNil
  | fuel + 1, some r =>
    match heap r with
    | none => vNil
    | some t =>
      match hit t.data (dictFind h t.data k) with
      | some i => (slotAt t.data i).val
      | none => getChain h heap k fuel t.proto

/-- `janet_table_get` -/
def tableGet (h : Nat → Nat) (heap : Nat → Option Table) (r : Nat) (k : Nat) : Val :=
  getChain h heap k maxProtoDepth (some r)

/-! ### iteration: `janet_next` on a dictionary (value.c) -/

/-- `while (kv < end) { if (!nil key) return kv->key; kv++; }` starting at bucket `i`, `n` buckets left -/
def nextFrom (data : Array Slot) : Nat → Nat → Option Nat
  | _, 0 => none
  | i, n + 1 =>
    match (slotAt data i).key with
    | some k => some k
    | none => nextFrom data (i + 1) n

/-- `janet_next(ds, key)` for a table/struct bucket array; `key = none` is nil.  A NULL result of
`janet_dict_find` (+1 is undefined behaviour in C; cannot happen on a table satisfying the invariant with
capacity > 0) is treated as "end". -/
def dictNext (h : Nat → Nat) (data : Array Slot) (k : Option Nat) : Option Nat :=
  match k with
  | none => nextFrom data 0 data.size
  | some k =>
    match dictFind h data k with
    | some i => nextFrom data (i + 1) (data.size - (i + 1))
    | none => none

/-- keys in bucket order (what repeated `next` should enumerate) -/
def keysOf (data : Array Slot) : List Nat := data.toList.filterMap (·.key)

/-- live buckets in bucket order -/
def liveOf (data : Array Slot) : List Slot := data.toList.filter (·.key.isSome)

/-- iterate `next` from nil at most `fuel` times, collecting the keys -/
def iterNext (h : Nat → Nat) (data : Array Slot) : Nat → Option Nat → List Nat
  | 0, _ => []
  | fuel + 1, cur =>
    match dictNext h data cur with
    | none => []
    | some k => k :: iterNext h data fuel (some k)

/-! ### structs (struct.c): `janet_struct_begin` / `janet_struct_put_ext` / `janet_struct_end`

The signed 32-bit hash (`toI32 (h k)`) and the key's rank in `janet_compare` order (`rank k`) are needed by the
robin-hood insertion of `janet_struct_put_ext`. -/

structure Struct where
  length : Nat                -- `janet_struct_length`
  data : Array Slot
  proto : Option Nat := none
  deriving Repr, Inhabited

/-- temporary struct under construction: `filled` is the running count kept in the hash field -/
structure StructB where
  length : Nat
  filled : Nat
  data : Array Slot
  deriving Repr, Inhabited

def structBegin (count : Nat) : StructB :=
  { length := count, filled := 0, data := Array.replicate (structCap count) Slot.empty }

def toI32 (u : Nat) : Int := if u % 4294967296 < 2147483648 then (u % 4294967296 : Nat) else (u % 4294967296 : Nat) - (4294967296 : Int)

/-- the probe loop of `janet_struct_put_ext`; `idxs` enumerates `bounds[0..1]` then `bounds[2..3]` -/
def structPutLoop (h : Nat → Nat) (rank : Nat → Nat) (replace : Bool) (cap : Nat) :
    List Nat → (key : Nat) → (value : Val) → (hash : Int) → (dist : Nat) → StructB → StructB
  | [], _, _, _, _, st => st
  | i :: rest, key, value, hash, dist, st =>
    let kv := slotAt st.data i
    match kv.key with
    | none => { st with data := st.data.setIfInBounds i ⟨some key, value⟩, filled := st.filled + 1 }
    | some okey =>
      let otherhash := toI32 (h okey)
      let otherindex := maphash cap (h okey)
      let otherdist := (i + cap - otherindex) &&& (cap - 1)
      let status : Int :=
        if dist < otherdist then -1
        else if otherdist < dist then 1
        else if hash < otherhash then -1
        else if otherhash < hash then 1
        else if rank key < rank okey then -1 else if rank okey < rank key then 1 else 0
      if status = 1 then
        structPutLoop h rank replace cap rest okey kv.val otherhash (otherdist + 1)
          { st with data := st.data.setIfInBounds i ⟨some key, value⟩ }
      else if status = 0 then
        if replace then { st with data := st.data.setIfInBounds i ⟨kv.key, value⟩ } else st
      else structPutLoop h rank replace cap rest key value hash (dist + 1) st

/-- `janet_struct_put_ext` for a non-nil, non-NaN key -/
def structPut (h : Nat → Nat) (rank : Nat → Nat) (replace : Bool) (st : StructB) (key : Nat) (value : Val) : StructB :=
  if value = vNil then st
  else if st.filled = st.length then st
  else
    let cap := st.data.size
    let index := maphash cap (h key)
    structPutLoop h rank replace cap (List.range' index (cap - index) ++ List.range' 0 index) key value (toI32 (h key)) 0 st

/-- `janet_struct_end` (the hash value itself is not modelled) -/
def structEnd (h : Nat → Nat) (rank : Nat → Nat) (st : StructB) : Struct :=
  if st.filled ≠ st.length then
    let nb := (liveOf st.data).foldl (fun b kv => match kv.key with | some k => structPut h rank true b k kv.val | none => b)
      (structBegin st.filled)
    { length := nb.length, data := nb.data }
  else { length := st.length, data := st.data }

/-- `janet_table_to_struct` -/
def Table.toStruct (h : Nat → Nat) (rank : Nat → Nat) (t : Table) : Struct :=
  structEnd h rank ((liveOf t.data).foldl
    (fun b kv => match kv.key with | some k => structPut h rank true b k kv.val | none => b) (structBegin t.count))

/-- the own entries of a table in bucket order (the order of `keys` / `pairs` / `eachp`), as `put` arguments -/
def putsOf (t : Table) : List (KArg × Val) :=
  (liveOf t.data).map (fun kv => (match kv.key with | some k => KArg.key k | none => KArg.nil, kv.val))

/-- one level of boot.janet `freeze` on a table whose keys and values freeze to themselves:
`(let [temp-tab @{}] (eachp [k v] x ... (put temp-tab kk new)) (table/to-struct temp-tab ...))` — distinct keys, so
`old` is always nil and `new` is the value (source shape asserted by the translator) -/
def freezeLevel (h : Nat → Nat) (rank : Nat → Nat) (t : Table) : Struct :=
  (fromPuts h (putsOf t)).toStruct h rank

/-- boot.janet `thaw` on an already flattened table whose keys and values thaw to themselves:
`(walk-dict thaw (table/proto-flatten ds))` = a fresh `@{}` filled by `put` in iteration order -/
def thawFlat (h : Nat → Nat) (flat : Table) : Table := fromPuts h (putsOf flat)

/-- `struct/with-proto` applied to the entries of `s` in iteration order: `janet_struct_begin(length)`, one
`janet_struct_put` per entry, `janet_struct_end`, prototype link `p` -/
def Struct.withProto (h : Nat → Nat) (rank : Nat → Nat) (s : Struct) (p : Option Nat) : Struct :=
  { structEnd h rank ((liveOf s.data).foldl
      (fun b kv => match kv.key with | some k => structPut h rank true b k kv.val | none => b) (structBegin s.length))
    with proto := p }

/-- `janet_struct_find`: no tombstones in structs; first nil-key bucket or the key -/
def structFind (h : Nat → Nat) (data : Array Slot) (k : Nat) : Option Nat :=
  let cap := data.size
  let index := maphash cap (h k)
  (List.range' index (cap - index) ++ List.range' 0 index).find? (fun i =>
    match (slotAt data i).key with | none => true | some k' => k' == k)

/-- `janet_struct_rawget` -/
def Struct.rawget (h : Nat → Nat) (s : Struct) (k : Nat) : Val :=
  match structFind h s.data k with
  | some i => (slotAt s.data i).val
  | none => vNil

/-- `janet_struct_get` -/
def structGetChain (h : Nat → Nat) (heap : Nat → Option Struct) (k : Nat) : Nat → Option Nat → Val
  | 0, _ => vNil
  | _, none => vNil
  | fuel + 1, some r =>
    match heap r with
    | none => vNil
    | some s =>
      match hit s.data (structFind h s.data k) with
      | some i => (slotAt s.data i).val
      | none => structGetChain h heap k fuel s.proto

/-- `janet_struct_to_table` / one level of `struct/to-table` -/
def Struct.toTable (h : Nat → Nat) (s : Struct) (initCap : Nat) : Table :=
  (Table.init initCap).mergekv h s.data.toList

/-- `janet_table_proto_flatten`, `chain` = the tables met following `proto` -/
def protoFlatten (h : Nat → Nat) (chain : List Table) : Table :=
  chain.foldl (fun nt t => t.data.toList.foldl
    (fun nt kv => match kv.key with | some k => nt.putNoOverwrite h k kv.val | none => nt) nt) (Table.init 0)

end JanetModel.Table
