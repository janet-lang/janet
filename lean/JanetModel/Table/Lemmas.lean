/-
Lemmas about the table model (Table/Model.lean): `janet_dict_find` finds a present key and returns a free bucket
on the probe path of an absent one; the structural invariant `DInv` of the bucket array, kept by a bucket write
(`DInv.set`); what a write does to the map `k ↦ rawgetD h data k`; what the operations leave alone whatever the state
(`*_frame`); iteration with `next`.
-/
import JanetModel.Table.Model
import JanetModel.Util.List

namespace JanetModel.Table
open JanetModel.Gen.Table

/-- (nil, nil) bucket -/
def Slot.isEmpty (s : Slot) : Prop := s.key = none ∧ s.val = vNil

/-- the probe order of `janet_dict_find`: `index .. cap-1`, then `0 .. index-1` -/
def probeSeq (cap index : Nat) : List Nat := List.range' index (cap - index) ++ List.range' 0 index

theorem exists_mem_cons' {p : Nat → Prop} {a : Nat} {l : List Nat} :
    (∃ x, x ∈ a :: l ∧ p x) ↔ p a ∨ ∃ x, x ∈ l ∧ p x := by
  simp

/-- `janet_dict_find` returns the first bucket that is empty or holds the key ... -/
theorem scan_stop {data : Array Slot} {k i : Nat} (rest : List Nat) (first : Option Nat)
    (h : (slotAt data i).isEmpty ∨ (slotAt data i).key = some k) : scan data k (i :: rest) first = .ret i := by
  simp only [scan]
  rcases h with ⟨hk, hv⟩ | hk
  · simp only [hk, hv, if_true]
  · simp only [hk, if_true]

/-- ... and walks past any other bucket, remembering the first tombstone -/
theorem scan_skip {data : Array Slot} {k i : Nat} (rest : List Nat) (first : Option Nat)
    (he : ¬ (slotAt data i).isEmpty) (hk : (slotAt data i).key ≠ some k) :
    scan data k (i :: rest) first =
      scan data k rest (first <|> if (slotAt data i).key = none then some i else none) := by
  simp only [scan]
  cases hkey : (slotAt data i).key with
  | none =>
    simp only [if_neg fun hv => he ⟨hkey, hv⟩, if_true]
    cases first <;> rfl
  | some k' =>
    simp only [if_neg fun e : k' = k => hk (by rw [hkey, e]), reduceCtorEq, if_false]
    cases first <;> rfl

theorem scan_append (data : Array Slot) (k : Nat) (l1 l2 : List Nat) (first : Option Nat) :
    scan data k (l1 ++ l2) first =
      match scan data k l1 first with
      | .ret i => .ret i
      | .cont f => scan data k l2 f := by
  induction l1 generalizing first with
  | nil => simp [scan]
  | cons i rest ih =>
    rw [List.cons_append]
    by_cases h : (slotAt data i).isEmpty ∨ (slotAt data i).key = some k
    · rw [scan_stop _ _ h, scan_stop _ _ h]
    · rw [scan_skip _ _ (fun e => h (Or.inl e)) (fun e => h (Or.inr e)),
        scan_skip _ _ (fun e => h (Or.inl e)) (fun e => h (Or.inr e))]
      exact ih _

theorem dictFind_eq (h : Nat → Nat) (data : Array Slot) (k : Nat) :
    dictFind h data k =
      match scan data k (probeSeq data.size (maphash data.size (h k))) none with
      | .ret i => some i
      | .cont f => f := by
  unfold dictFind probeSeq
  simp only [scan_append]
  cases scan data k (List.range' (maphash data.size (h k)) (data.size - maphash data.size (h k))) none <;> simp
  · rename_i f
    cases scan data k (List.range' 0 (maphash data.size (h k))) f <;> simp

/-- a present key is found when nothing before it on the probe path is empty or holds the same key -/
theorem scan_hit (data : Array Slot) (k : Nat) (pre : List Nat) (i : Nat) (post : List Nat) (first : Option Nat)
    (hpre : ∀ j ∈ pre, ¬ (slotAt data j).isEmpty ∧ (slotAt data j).key ≠ some k)
    (hi : (slotAt data i).key = some k) :
    scan data k (pre ++ i :: post) first = .ret i := by
  induction pre generalizing first with
  | nil => exact scan_stop _ _ (Or.inr hi)
  | cons j rest ih =>
    rw [List.cons_append, scan_skip _ _ (hpre j (by simp)).1 (hpre j (by simp)).2]
    exact ih _ fun x hx => hpre x (by simp [hx])

/-- bucket `j` is free (nil key) and nothing before it in `l` is empty -/
def Good (data : Array Slot) (l : List Nat) (j : Nat) : Prop :=
  (slotAt data j).key = none ∧ ∃ pre post, l = pre ++ j :: post ∧ ∀ x ∈ pre, ¬ (slotAt data x).isEmpty

theorem Good.cons {data : Array Slot} {l : List Nat} {j : Nat} (i : Nat) (hi : ¬ (slotAt data i).isEmpty)
    (g : Good data l j) : Good data (i :: l) j := by
  obtain ⟨hk, pre, post, hl, hp⟩ := g
  refine ⟨hk, i :: pre, post, by simp [hl], ?_⟩
  intro x hx
  rcases List.mem_cons.mp hx with e | e
  · rw [e]; exact hi
  · exact hp x e

/-- for an absent key `scan` returns a free bucket with no empty bucket before it, or reports that `l` has no
empty bucket at all (then the first tombstone, if any) -/
theorem scan_miss (data : Array Slot) (k : Nat) (l : List Nat) (first : Option Nat)
    (hno : ∀ j ∈ l, (slotAt data j).key ≠ some k) :
    match scan data k l first with
    | .ret i => Good data l i
    | .cont f => (∀ x ∈ l, ¬ (slotAt data x).isEmpty) ∧
        (match first with
         | some f0 => f = some f0
         | none => match f with
           | none => True
           | some j => Good data l j) := by
  induction l generalizing first with
  | nil =>
    simp only [scan]
    refine ⟨by simp, ?_⟩
    cases first <;> simp
  | cons i rest ih =>
    by_cases he : (slotAt data i).isEmpty
    · rw [scan_stop _ _ (Or.inl he)]
      exact ⟨he.1, [], rest, by simp, by simp⟩
    · rw [scan_skip _ _ he (hno i (by simp))]
      have := ih (first <|> if (slotAt data i).key = none then some i else none) fun j hj => hno j (by simp [hj])
      generalize scan data k rest _ = r at this
      cases r with
      | ret j => exact Good.cons i he this
      | cont f =>
        obtain ⟨hall, hf⟩ := this
        refine ⟨List.forall_mem_cons.mpr ⟨he, hall⟩, ?_⟩
        cases first with
        | some f0 => exact hf
        | none =>
          by_cases hkn : (slotAt data i).key = none
          · -- a tombstone: it is the first one, and what the loop returns at its end
            rw [if_pos hkn] at hf
            rw [show f = some i from hf]
            exact ⟨hkn, [], rest, by simp, by simp⟩
          · rw [if_neg hkn] at hf
            cases f with
            | none => trivial
            | some j => exact Good.cons i he hf


theorem slotAt_set (data : Array Slot) (i x : Nat) (s : Slot) :
    slotAt (data.setIfInBounds i s) x = if x = i ∧ i < data.size then s else slotAt data x := by
  unfold slotAt
  simp only [Array.getD_eq_getD_getElem?, Array.getElem?_setIfInBounds]
  by_cases h1 : i = x
  · subst h1
    by_cases h2 : i < data.size
    · simp [h2]
    · simp [h2]
  · have : ¬ (x = i ∧ i < data.size) := fun h => h1 h.1.symm
    simp [h1, this]

theorem slotAt_set_self {data : Array Slot} {i : Nat} (s : Slot) (hi : i < data.size) :
    slotAt (data.setIfInBounds i s) i = s := by
  rw [slotAt_set, if_pos ⟨rfl, hi⟩]

theorem slotAt_set_ne {data : Array Slot} {i x : Nat} (s : Slot) (hx : x ≠ i) :
    slotAt (data.setIfInBounds i s) x = slotAt data x := by
  rw [slotAt_set, if_neg fun c => hx c.1]

theorem slotAt_oob (data : Array Slot) (x : Nat) (hx : data.size ≤ x) : slotAt data x = Slot.empty := by
  unfold slotAt
  simp only [Array.getD_eq_getD_getElem?]
  have : data[x]? = none := by simp; omega
  simp [this]

theorem slotAt_replicate (n x : Nat) : slotAt (Array.replicate n Slot.empty) x = Slot.empty := by
  unfold slotAt
  simp only [Array.getD_eq_getD_getElem?, Array.getElem?_replicate]
  by_cases h : x < n <;> simp [h]

theorem key_replicate (n x k : Nat) : (slotAt (Array.replicate n Slot.empty) x).key ≠ some k := by
  rw [slotAt_replicate]; exact fun e => by cases e

theorem key_some_lt {data : Array Slot} {i k : Nat} (h : (slotAt data i).key = some k) : i < data.size := by
  by_cases hi : i < data.size
  · exact hi
  · rw [slotAt_oob data i (by omega)] at h; cases h

theorem slotAt_lt (data : Array Slot) (j : Nat) (hj : j < data.size) : slotAt data j = data[j] := by
  simp [slotAt, Array.getD_eq_getD_getElem?, hj]

theorem toList_eq_map (data : Array Slot) : data.toList = (List.range data.size).map (slotAt data) := by
  apply List.ext_getElem?
  intro i
  simp only [List.getElem?_map, Array.getElem?_toList]
  by_cases hi : i < data.size
  · simp [hi, slotAt, Array.getD_eq_getD_getElem?]
  · simp [hi]

theorem toList_getElem (data : Array Slot) (j : Nat) (hj : j < data.toList.length) : data.toList[j] = slotAt data j := by
  have hj' : j < data.size := by simpa using hj
  unfold slotAt
  simp [Array.getD, hj']

theorem mem_toList_iff (data : Array Slot) (s : Slot) : s ∈ data.toList ↔ ∃ j, j < data.size ∧ slotAt data j = s := by
  rw [Array.mem_toList_iff, Array.mem_iff_getElem]
  constructor
  · rintro ⟨j, hj, e⟩; exact ⟨j, hj, by rw [slotAt_lt data j hj]; exact e⟩
  · rintro ⟨j, hj, e⟩; exact ⟨j, hj, by rw [← slotAt_lt data j hj]; exact e⟩

theorem maphash_lt (cap hv : Nat) (hc : 0 < cap) : maphash cap hv < cap := by
  unfold maphash
  have : hv &&& (cap - 1) ≤ cap - 1 := Nat.and_le_right
  omega

theorem maphash_le (cap hv : Nat) : maphash cap hv ≤ cap := by
  unfold maphash
  have : hv &&& (cap - 1) ≤ cap - 1 := Nat.and_le_right
  omega

theorem mem_probeSeq {cap idx x : Nat} (hidx : idx ≤ cap) : x ∈ probeSeq cap idx ↔ x < cap := by
  unfold probeSeq
  simp only [List.mem_append, List.mem_range'_1]
  omega

theorem Good.lt {data : Array Slot} {cap idx j : Nat} (hidx : idx ≤ cap) (g : Good data (probeSeq cap idx) j) : j < cap := by
  obtain ⟨_, pre, post, hp, _⟩ := g
  exact (mem_probeSeq hidx).mp (by rw [hp]; simp)

theorem probeSeq_nodup (cap idx : Nat) : (probeSeq cap idx).Nodup := by
  unfold probeSeq
  refine List.nodup_append.mpr ⟨List.nodup_range' 1, List.nodup_range' 1, ?_⟩
  intro p hp1 q hq1 e
  rw [List.mem_range'_1] at hp1 hq1
  omega

theorem not_mem_pre {l pre post : List Nat} {j : Nat} (hn : l.Nodup) (hl : l = pre ++ j :: post) : j ∉ pre := by
  subst hl
  intro hm
  exact (List.nodup_append.mp hn).2.2 j hm j (by simp) rfl

/-- two splits of one list: one pivot lies before the other, or they are the same split -/
theorem split_cmp {l pre post pre' post' : List Nat} {i j : Nat} (e1 : l = pre ++ i :: post)
    (e2 : l = pre' ++ j :: post') : i ∈ pre' ∨ j ∈ pre ∨ (pre = pre' ∧ i = j) := by
  have hee : pre ++ i :: post = pre' ++ j :: post' := by rw [← e1, e2]
  rcases List.append_eq_append_iff.mp hee with ⟨a', h1, h2⟩ | ⟨c', h1, h2⟩
  · cases a' with
    | nil =>
      simp only [List.nil_append, List.cons.injEq] at h2
      exact Or.inr (Or.inr ⟨by simpa using h1.symm, h2.1⟩)
    | cons a rest =>
      simp only [List.cons_append, List.cons.injEq] at h2
      exact Or.inl (by rw [h1, ← h2.1]; simp)
  · cases c' with
    | nil =>
      simp only [List.nil_append, List.cons.injEq] at h2
      exact Or.inr (Or.inr ⟨by simpa using h1, h2.1.symm⟩)
    | cons c rest =>
      simp only [List.cons_append, List.cons.injEq] at h2
      exact Or.inr (Or.inl (by rw [h1, ← h2.1]; simp))


structure DInv (h : Nat → Nat) (data : Array Slot) : Prop where
  /-- no key is stored twice -/
  nodup : ∀ i j k, (slotAt data i).key = some k → (slotAt data j).key = some k → i = j
  /-- probe-path property: between a key's home bucket and its bucket (cyclically) there is no empty bucket -/
  path : ∀ i k, (slotAt data i).key = some k →
    ∃ pre post, probeSeq data.size (maphash data.size (h k)) = pre ++ i :: post ∧
      ∀ x ∈ pre, ¬ (slotAt data x).isEmpty ∧ (slotAt data x).key ≠ some k
  /-- stored values are never nil -/
  live : ∀ i k, (slotAt data i).key = some k → (slotAt data i).val ≠ vNil

theorem find_hit {h : Nat → Nat} {data : Array Slot} (inv : DInv h data) {i k : Nat}
    (hi : (slotAt data i).key = some k) : dictFind h data k = some i := by
  obtain ⟨pre, post, hp, hpre⟩ := inv.path i k hi
  rw [dictFind_eq, hp, scan_hit data k pre i post none hpre hi]

theorem find_miss {h : Nat → Nat} {data : Array Slot} {k : Nat}
    (hno : ∀ i, (slotAt data i).key ≠ some k) :
    match dictFind h data k with
    | some j => Good data (probeSeq data.size (maphash data.size (h k))) j
    | none => ∀ x ∈ probeSeq data.size (maphash data.size (h k)), ¬ (slotAt data x).isEmpty := by
  rw [dictFind_eq]
  have := scan_miss data k (probeSeq data.size (maphash data.size (h k))) none (fun j _ => hno j)
  generalize scan data k (probeSeq data.size (maphash data.size (h k))) none = r at this
  cases r with
  | ret i => exact this
  | cont f =>
    obtain ⟨hall, hf⟩ := this
    cases f with
    | none => exact hall
    | some j => exact hf

theorem hit_of_key {data : Array Slot} {i k : Nat} (hi : (slotAt data i).key = some k) :
    hit data (some i) = some i := by
  simp [hit, hi]

theorem hit_miss {h : Nat → Nat} {data : Array Slot} {k : Nat} (hno : ∀ i, (slotAt data i).key ≠ some k) :
    hit data (dictFind h data k) = none := by
  have := find_miss (h := h) hno
  cases hf : dictFind h data k with
  | none => rfl
  | some j =>
    rw [hf] at this
    simp [hit, this.1]

/-- `janet_table_rawget` on a bare bucket array -/
def rawgetD (h : Nat → Nat) (data : Array Slot) (k : Nat) : Val :=
  match hit data (dictFind h data k) with
  | some i => (slotAt data i).val
  | none => vNil

theorem rawget_eq_rawgetD (h : Nat → Nat) (t : Table) (k : Nat) : t.rawget h k = rawgetD h t.data k := rfl

theorem rawgetD_hit {h : Nat → Nat} {data : Array Slot} (inv : DInv h data) {i k : Nat}
    (hi : (slotAt data i).key = some k) : rawgetD h data k = (slotAt data i).val := by
  unfold rawgetD
  rw [find_hit inv hi, hit_of_key hi]

theorem rawgetD_miss {h : Nat → Nat} {data : Array Slot} {k : Nat}
    (hno : ∀ i, (slotAt data i).key ≠ some k) : rawgetD h data k = vNil := by
  unfold rawgetD
  rw [hit_miss hno]

/-- `rawget` reads exactly the bucket array: present key ↦ its non-nil value, absent key ↦ nil -/
theorem rawgetD_spec {h : Nat → Nat} {data : Array Slot} (inv : DInv h data) (k : Nat) :
    (∀ i, (slotAt data i).key = some k → rawgetD h data k = (slotAt data i).val ∧ rawgetD h data k ≠ vNil) ∧
    ((∀ i, (slotAt data i).key ≠ some k) → rawgetD h data k = vNil) :=
  ⟨fun i hi => ⟨rawgetD_hit inv hi, by rw [rawgetD_hit inv hi]; exact inv.live i k hi⟩, rawgetD_miss⟩

/-- one level of a prototype walk (`janet_table_get`, `janet_struct_get`): the level's own entry, else `x` -/
theorem rawgetD_or {h : Nat → Nat} {data : Array Slot} (inv : DInv h data) (k : Nat) (x : Val) :
    (match hit data (dictFind h data k) with | some i => (slotAt data i).val | none => x) =
      if rawgetD h data k ≠ vNil then rawgetD h data k else x := by
  by_cases c : ∃ i, (slotAt data i).key = some k
  · obtain ⟨i, hi⟩ := c
    rw [rawgetD_hit inv hi, find_hit inv hi, hit_of_key hi, if_pos (inv.live i k hi)]
  · have hno : ∀ i, (slotAt data i).key ≠ some k := fun i hi => c ⟨i, hi⟩
    rw [rawgetD_miss hno, hit_miss hno, if_neg fun e => e rfl]

theorem rawget_miss {h : Nat → Nat} {t : Table} {k : Nat}
    (hno : ∀ i, (slotAt t.data i).key ≠ some k) : t.rawget h k = vNil := rawgetD_miss hno


theorem isEmpty_set_of_nonempty {data : Array Slot} {i : Nat} {s : Slot} (hs : ¬ s.isEmpty) {x : Nat}
    (hx : ¬ (slotAt data x).isEmpty) : ¬ (slotAt (data.setIfInBounds i s) x).isEmpty := by
  rw [slotAt_set]
  split
  · exact hs
  · exact hx

/-- a write to bucket `j` keeps the invariant when the new bucket is not empty and, if it holds a key: its value is
not nil, no other bucket holds that key, and no bucket before `j` on the key's probe path is empty -/
theorem DInv.set {h : Nat → Nat} {data : Array Slot} (inv : DInv h data) {j : Nat} {s : Slot} (hs : ¬ s.isEmpty)
    (hk : ∀ k, s.key = some k → s.val ≠ vNil ∧ (∀ x, x ≠ j → (slotAt data x).key ≠ some k) ∧
      ∃ pre post, probeSeq data.size (maphash data.size (h k)) = pre ++ j :: post ∧
        ∀ x ∈ pre, ¬ (slotAt data x).isEmpty) :
    DInv h (data.setIfInBounds j s) := by
  have hkey : ∀ x k', (slotAt (data.setIfInBounds j s) x).key = some k' →
      (x = j ∧ s.key = some k') ∨ (x ≠ j ∧ (slotAt data x).key = some k') := by
    intro x k' hx
    by_cases c : x = j
    · have hj := key_some_lt hx
      rw [Array.size_setIfInBounds, c] at hj
      rw [c, slotAt_set_self s hj] at hx
      exact Or.inl ⟨c, hx⟩
    · rw [slotAt_set_ne s c] at hx
      exact Or.inr ⟨c, hx⟩
  refine ⟨?_, ?_, ?_⟩
  · intro a b k' ha hb
    rcases hkey a k' ha with ⟨ea, sa⟩ | ⟨na, ha'⟩
    · rcases hkey b k' hb with ⟨eb, _⟩ | ⟨nb, hb'⟩
      · rw [ea, eb]
      · exact absurd hb' ((hk k' sa).2.1 b nb)
    · rcases hkey b k' hb with ⟨_, sb⟩ | ⟨_, hb'⟩
      · exact absurd ha' ((hk k' sb).2.1 a na)
      · exact inv.nodup a b k' ha' hb'
  · intro a k' ha
    rw [Array.size_setIfInBounds]
    rcases hkey a k' ha with ⟨ea, sa⟩ | ⟨na, ha'⟩
    · obtain ⟨_, hoth, pre, post, hp, hpre⟩ := hk k' sa
      refine ⟨pre, post, ea ▸ hp, fun x hx => ⟨isEmpty_set_of_nonempty hs (hpre x hx), fun hkx => ?_⟩⟩
      rcases hkey x k' hkx with ⟨ex, _⟩ | ⟨nx, hx'⟩
      · exact not_mem_pre (probeSeq_nodup _ _) hp (ex ▸ hx)
      · exact hoth x nx hx'
    · obtain ⟨pre, post, hp, hpre⟩ := inv.path a k' ha'
      refine ⟨pre, post, hp, fun x hx => ⟨isEmpty_set_of_nonempty hs (hpre x hx).1, fun hkx => ?_⟩⟩
      rcases hkey x k' hkx with ⟨_, sx⟩ | ⟨_, hx'⟩
      · exact (hk k' sx).2.1 a na ha'
      · exact (hpre x hx).2 hx'
  · intro a k' ha
    rcases hkey a k' ha with ⟨ea, sa⟩ | ⟨na, ha'⟩
    · have hj := key_some_lt ha
      rw [Array.size_setIfInBounds, ea] at hj
      rw [ea, slotAt_set_self s hj]
      exact (hk k' sa).1
    · rw [slotAt_set_ne s na]
      exact inv.live a k' ha'

/-- `bucket->value = value` on a bucket that holds the key -/
theorem DInv.overwrite {h : Nat → Nat} {data : Array Slot} (inv : DInv h data) {i k : Nat} {v : Val}
    (hi : (slotAt data i).key = some k) (hv : v ≠ vNil) : DInv h (data.setIfInBounds i ⟨some k, v⟩) := by
  refine inv.set (fun e => by cases e.1) fun k' e => ?_
  cases e
  obtain ⟨pre, post, hp, hpre⟩ := inv.path i k hi
  exact ⟨hv, fun x nx hx => nx (inv.nodup x i k hx hi), pre, post, hp, fun x hx => (hpre x hx).1⟩

/-- `janet_table_remove`: the bucket becomes a tombstone (nil key, non-nil value) -/
theorem DInv.tomb {h : Nat → Nat} {data : Array Slot} (inv : DInv h data) (i : Nat) {tv : Val}
    (htv : tv ≠ vNil) : DInv h (data.setIfInBounds i ⟨none, tv⟩) :=
  inv.set (fun e => htv e.2) fun _ e => by cases e

/-- writing a new key into the free bucket `janet_dict_find` returned for it -/
theorem DInv.insert {h : Nat → Nat} {data : Array Slot} (inv : DInv h data) {j k : Nat} {v : Val}
    (hno : ∀ i, (slotAt data i).key ≠ some k)
    (g : Good data (probeSeq data.size (maphash data.size (h k))) j) (hv : v ≠ vNil) :
    DInv h (data.setIfInBounds j ⟨some k, v⟩) := by
  refine inv.set (fun e => by cases e.1) fun k' e => ?_
  cases e
  exact ⟨hv, fun x _ => hno x, g.2⟩

theorem DInv.replicate (h : Nat → Nat) (n : Nat) : DInv h (Array.replicate n Slot.empty) :=
  ⟨fun i _ k hi => absurd hi (key_replicate n i k), fun i k hi => absurd hi (key_replicate n i k),
    fun i k hi => absurd hi (key_replicate n i k)⟩


theorem rawgetD_set_other {h : Nat → Nat} {data : Array Slot} {i : Nat} {s : Slot} {k' : Nat}
    (inv : DInv h data) (inv' : DInv h (data.setIfInBounds i s))
    (hold : (slotAt data i).key ≠ some k') (hnew : s.key ≠ some k') :
    rawgetD h (data.setIfInBounds i s) k' = rawgetD h data k' := by
  by_cases hex : ∃ x, (slotAt data x).key = some k'
  · obtain ⟨x, hx⟩ := hex
    have hxi : x ≠ i := fun e => hold (e ▸ hx)
    have hsame : slotAt (data.setIfInBounds i s) x = slotAt data x := by
      rw [slotAt_set]; simp [hxi]
    rw [rawgetD_hit inv hx, rawgetD_hit inv' (by rw [hsame]; exact hx), hsame]
  · have hno : ∀ x, (slotAt data x).key ≠ some k' := fun x hx => hex ⟨x, hx⟩
    rw [rawgetD_miss hno, rawgetD_miss]
    intro x
    rw [slotAt_set]
    by_cases c : x = i ∧ i < data.size
    · simp only [c, and_self, if_true]; exact hnew
    · simp only [c, if_false]; exact hno x

theorem rawgetD_set_self {h : Nat → Nat} {data : Array Slot} {i k : Nat} {s : Slot}
    (inv' : DInv h (data.setIfInBounds i s)) (hi : i < data.size) (hs : s.key = some k) :
    rawgetD h (data.setIfInBounds i s) k = s.val := by
  rw [rawgetD_hit inv' (i := i) (by rw [slotAt_set_self s hi]; exact hs), slotAt_set_self s hi]

/-- writing `(k, v)` into a bucket that held `k` or no key is the map update -/
theorem rawgetD_put {h : Nat → Nat} {data : Array Slot} {i k : Nat} {v : Val} (inv : DInv h data)
    (inv' : DInv h (data.setIfInBounds i ⟨some k, v⟩)) (hi : i < data.size)
    (hold : ∀ k', (slotAt data i).key = some k' → k' = k) (k' : Nat) :
    rawgetD h (data.setIfInBounds i ⟨some k, v⟩) k' = if k' = k then v else rawgetD h data k' := by
  by_cases hkk : k' = k
  · rw [if_pos hkk, hkk]; exact rawgetD_set_self inv' hi rfl
  · rw [if_neg hkk]
    exact rawgetD_set_other inv inv' (fun e => hkk (hold k' e)) (fun e => hkk (Option.some.inj e).symm)


/-- turning the bucket that holds `k` into a tombstone erases `k` from the map -/
theorem rawgetD_tomb {h : Nat → Nat} {data : Array Slot} {i k : Nat} {tv : Val} (inv : DInv h data)
    (inv' : DInv h (data.setIfInBounds i ⟨none, tv⟩)) (hi : (slotAt data i).key = some k) (k' : Nat) :
    rawgetD h (data.setIfInBounds i ⟨none, tv⟩) k' = if k' = k then vNil else rawgetD h data k' := by
  by_cases hkk : k' = k
  · rw [if_pos hkk, hkk]
    apply rawgetD_miss
    intro x hx
    by_cases c : x = i
    · rw [c, slotAt_set_self _ (key_some_lt hi)] at hx; cases hx
    · rw [slotAt_set_ne _ c] at hx; exact c (inv.nodup x i k hx hi)
  · rw [if_neg hkk]
    exact rawgetD_set_other inv inv' (fun e => hkk (by rw [hi] at e; exact (Option.some.inj e).symm))
      (fun e => by cases e)

/-- one copied bucket of the rehash loop: the old bucket `i` (key `k`, not in `nd`) goes into the free bucket `j` that
`janet_dict_find` returned for `k`; the keys of the old buckets still to come stay absent -/
theorem rehash_step {h : Nat → Nat} {old nd : Array Slot} (oinv : DInv h old) (ninv : DInv h nd) {i k j : Nat}
    {rest : List Nat} (hinot : i ∉ rest) (hk : (slotAt old i).key = some k) (hno : ∀ x, (slotAt nd x).key ≠ some k)
    (g : Good nd (probeSeq nd.size (maphash nd.size (h k))) j)
    (habs : ∀ i' ∈ rest, ∀ k2, (slotAt old i').key = some k2 → ∀ x, (slotAt nd x).key ≠ some k2) :
    DInv h (nd.setIfInBounds j (slotAt old i)) ∧ j < nd.size ∧
      ∀ i' ∈ rest, ∀ k2, (slotAt old i').key = some k2 → ∀ x, (slotAt (nd.setIfInBounds j (slotAt old i)) x).key ≠ some k2 := by
  have hj : j < nd.size := g.lt (maphash_le _ _)
  refine ⟨ninv.set (fun e => by rw [e.1] at hk; cases hk) fun k' e => ?_, hj, fun i' hi' k2 hk2 x => ?_⟩
  · rw [hk] at e
    cases e
    exact ⟨oinv.live i k hk, fun x _ => hno x, g.2⟩
  · by_cases c : x = j
    · rw [c, slotAt_set_self _ hj, hk]
      intro e
      cases e
      exact hinot (oinv.nodup i i' k hk hk2 ▸ hi')
    · rw [slotAt_set_ne _ c]
      exact habs i' hi' k2 hk2 x

theorem absent_of_rawgetD_nil {h : Nat → Nat} {data : Array Slot} (inv : DInv h data) {k : Nat}
    (hn : rawgetD h data k = vNil) : ∀ x, (slotAt data x).key ≠ some k := by
  intro x hx
  rw [rawgetD_hit inv hx] at hn
  exact inv.live x k hx hn

/-- `janet_table_put` ignores a nil or NaN key and is `putKey` on any other -/
theorem Table.put_cases {h : Nat → Nat} {t : Table} {k : KArg} {v : Val} {P : Table → Prop} (hsame : P t)
    (hkey : ∀ k, P (t.putKey h k v)) : P (t.put h k v) := by
  cases k with
  | nil => exact hsame
  | nan => exact hsame
  | key k => exact hkey k

theorem mergekv_cons (h : Nat → Nat) (t : Table) (kv : Slot) (rest : List Slot) :
    t.mergekv h (kv :: rest) = (match kv.key with | some k => t.putKey h k kv.val | none => t).mergekv h rest := rfl


theorem size_rehash (h : Nat → Nat) (t : Table) (n : Nat) : (t.rehash h n).data.size = n := by
  have : ∀ (l : List Slot) (nd : Array Slot) (b : Bool), (rehashLoop h l (nd, b)).1.size = nd.size := by
    intro l
    induction l with
    | nil => intros; rfl
    | cons a l ih =>
      intro nd b
      unfold rehashLoop
      cases a.key with
      | none => exact ih nd b
      | some ka =>
        simp only []
        cases dictFind h nd ka with
        | none => exact ih nd true
        | some j => rw [ih]; simp
  unfold Table.rehash
  simp only []
  rw [this]; simp

theorem remove_frame (h : Nat → Nat) (t : Table) (k : Nat) :
    (t.remove h k).1.proto = t.proto ∧ (t.remove h k).1.bad = t.bad ∧ (t.remove h k).1.count ≤ t.count ∧
      (t.remove h k).1.data.size = t.data.size := by
  unfold Table.remove
  cases hit t.data (dictFind h t.data k) with
  | none => exact ⟨rfl, rfl, Nat.le_refl _, rfl⟩
  | some i => exact ⟨rfl, rfl, Nat.sub_le _ _, Array.size_setIfInBounds⟩

theorem maybeRehash_frame (h : Nat → Nat) (t : Table) (b : Option Nat) :
    (t.maybeRehash h b).proto = t.proto ∧ (t.maybeRehash h b).count = t.count ∧
      ((t.maybeRehash h b).data.size = t.data.size ∨ (t.maybeRehash h b).data.size = rehashSize t.count) := by
  unfold Table.maybeRehash
  split
  · exact ⟨rfl, rfl, Or.inr (size_rehash h t _)⟩
  · exact ⟨rfl, rfl, Or.inl rfl⟩

theorem insertAt_frame (h : Nat → Nat) (t : Table) (k : Nat) (v : Val) :
    (t.insertAt h k v).proto = t.proto ∧ (t.insertAt h k v).count ≤ t.count + 1 ∧
      (t.insertAt h k v).data.size = t.data.size := by
  unfold Table.insertAt
  cases dictFind h t.data k with
  | none => exact ⟨rfl, Nat.le_succ _, rfl⟩
  | some j => exact ⟨rfl, Nat.le_refl _, Array.size_setIfInBounds⟩

/-- a `put` keeps the prototype link, adds at most one entry, and leaves the capacity alone or makes it
`janet_tablen(2 * count + 2)` -/
theorem putKey_frame (h : Nat → Nat) (t : Table) (k : Nat) (v : Val) :
    (t.putKey h k v).proto = t.proto ∧ (t.putKey h k v).count ≤ t.count + 1 ∧
      ((t.putKey h k v).data.size = t.data.size ∨ (t.putKey h k v).data.size = rehashSize t.count) := by
  unfold Table.putKey
  split
  · have := remove_frame h t k
    exact ⟨this.1, Nat.le_succ_of_le this.2.2.1, Or.inl this.2.2.2⟩
  · simp only []
    cases hit t.data (dictFind h t.data k) with
    | some i => exact ⟨rfl, Nat.le_succ _, Or.inl Array.size_setIfInBounds⟩
    | none =>
      have hr := maybeRehash_frame h t (dictFind h t.data k)
      have hi := insertAt_frame h (t.maybeRehash h (dictFind h t.data k)) k v
      exact ⟨hi.1.trans hr.1, hr.2.1 ▸ hi.2.1, hi.2.2.symm ▸ hr.2.2⟩


/-- keys of the buckets `i .. i+n-1`, in bucket order -/
def keysFrom (data : Array Slot) (i n : Nat) : List Nat := (List.range' i n).filterMap (fun x => (slotAt data x).key)

theorem keysFrom_succ (data : Array Slot) (i n : Nat) :
    keysFrom data i (n + 1) = match (slotAt data i).key with
      | none => keysFrom data (i + 1) n
      | some k => k :: keysFrom data (i + 1) n := by
  unfold keysFrom
  rw [List.range'_succ, List.filterMap_cons]
  cases (slotAt data i).key <;> rfl

theorem nextFrom_spec (data : Array Slot) : ∀ (n i : Nat),
    match nextFrom data i n with
    | none => keysFrom data i n = []
    | some k => ∃ j, i ≤ j ∧ j < i + n ∧ (slotAt data j).key = some k ∧
        keysFrom data i n = k :: keysFrom data (j + 1) (i + n - (j + 1)) := by
  intro n
  induction n with
  | zero => intro i; simp [nextFrom, keysFrom]
  | succ n ih =>
    intro i
    unfold nextFrom
    rw [keysFrom_succ]
    cases hk : (slotAt data i).key with
    | some k =>
      simp only []
      refine ⟨i, Nat.le_refl i, by omega, hk, ?_⟩
      have : i + (n + 1) - (i + 1) = n := by omega
      rw [this]
    | none =>
      simp only []
      have := ih (i + 1)
      cases hn : nextFrom data (i + 1) n with
      | none => rw [hn] at this; exact this
      | some k =>
        rw [hn] at this
        obtain ⟨j, h1, h2, h3, h4⟩ := this
        refine ⟨j, by omega, by omega, h3, ?_⟩
        rw [h4]
        have : i + 1 + n - (j + 1) = i + (n + 1) - (j + 1) := by omega
        rw [this]

theorem keysFrom_length_le (data : Array Slot) (i n : Nat) : (keysFrom data i n).length ≤ n := by
  unfold keysFrom
  have := List.length_filterMap_le (fun x => (slotAt data x).key) (List.range' i n)
  simpa using this

theorem mem_keysFrom {data : Array Slot} {i n k : Nat} :
    k ∈ keysFrom data i n ↔ ∃ x, i ≤ x ∧ x < i + n ∧ (slotAt data x).key = some k := by
  unfold keysFrom
  rw [List.mem_filterMap]
  constructor
  · rintro ⟨x, hx, hk⟩
    rw [List.mem_range'_1] at hx
    exact ⟨x, hx.1, hx.2, hk⟩
  · rintro ⟨x, h1, h2, hk⟩
    exact ⟨x, List.mem_range'_1.mpr ⟨h1, h2⟩, hk⟩

theorem keysFrom_nodup {h : Nat → Nat} {data : Array Slot} (inv : DInv h data) : ∀ (n i : Nat), (keysFrom data i n).Nodup := by
  intro n
  induction n with
  | zero => intro i; simp [keysFrom]
  | succ n ih =>
    intro i
    rw [keysFrom_succ]
    cases hk : (slotAt data i).key with
    | none => exact ih (i + 1)
    | some k =>
      simp only []
      refine List.nodup_cons.mpr ⟨?_, ih (i + 1)⟩
      intro hm
      obtain ⟨x, h1, _, hx⟩ := mem_keysFrom.mp hm
      have := inv.nodup x i k hx hk
      omega

/-- where `next` resumes its walk: at bucket 0 after nil, behind the bucket of the key otherwise -/
theorem dictNext_eq {h : Nat → Nat} {data : Array Slot} (inv : DInv h data) {cur : Option Nat} {s : Nat}
    (hs : match cur with | none => s = 0 | some k => ∃ j, (slotAt data j).key = some k ∧ s = j + 1) :
    dictNext h data cur = nextFrom data s (data.size - s) := by
  cases cur with
  | none => rw [hs]; rfl
  | some k =>
    obtain ⟨j, hj, rfl⟩ := hs
    unfold dictNext
    simp only [find_hit inv hj]

/-- repeated `next` enumerates exactly the keys of the buckets from where it resumes -/
theorem iterNext_from {h : Nat → Nat} {data : Array Slot} (inv : DInv h data) :
    ∀ (fuel : Nat) (cur : Option Nat) (s : Nat),
      (match cur with | none => s = 0 | some k => ∃ j, (slotAt data j).key = some k ∧ s = j + 1) →
      (keysFrom data s (data.size - s)).length < fuel →
      iterNext h data fuel cur = keysFrom data s (data.size - s) := by
  intro fuel
  induction fuel with
  | zero => intro _ _ _ hl; omega
  | succ fuel ih =>
    intro cur s hs hl
    unfold iterNext
    rw [dictNext_eq inv hs]
    have hn := nextFrom_spec data (data.size - s) s
    cases hd : nextFrom data s (data.size - s) with
    | none => rw [hd] at hn; rw [hn]
    | some k' =>
      rw [hd] at hn
      obtain ⟨j', h1, h2, h3, h4⟩ := hn
      simp only []
      have e : s + (data.size - s) - (j' + 1) = data.size - (j' + 1) := by omega
      rw [e] at h4
      rw [h4] at hl ⊢
      rw [ih (some k') (j' + 1) ⟨j', h3, rfl⟩ (by simp at hl; omega)]

/-- **iteration visits every key exactly once**: calling `next` from nil until it answers nil enumerates the keys
in bucket order — a duplicate-free list whose members are exactly the keys with a non-nil `rawget` -/
theorem iterNext_all {h : Nat → Nat} {data : Array Slot} (inv : DInv h data) :
    iterNext h data (data.size + 1) none = keysOf data ∧ (keysOf data).Nodup ∧
      ∀ k, k ∈ keysOf data ↔ rawgetD h data k ≠ vNil := by
  have hko : keysOf data = keysFrom data 0 data.size := by
    unfold keysOf keysFrom
    rw [toList_eq_map, List.filterMap_map, List.range_eq_range']
    rfl
  rw [hko]
  refine ⟨iterNext_from inv _ none 0 rfl (Nat.lt_succ_of_le (keysFrom_length_le data 0 _)), keysFrom_nodup inv _ _,
    fun k => ?_⟩
  rw [mem_keysFrom]
  constructor
  · rintro ⟨x, _, _, hx⟩
    rw [rawgetD_hit inv hx]
    exact inv.live x k hx
  · intro hne
    by_cases hex : ∃ x, (slotAt data x).key = some k
    · obtain ⟨x, hx⟩ := hex
      exact ⟨x, Nat.zero_le x, by have := key_some_lt hx; omega, hx⟩
    · exact absurd (rawgetD_miss (fun x hx => hex ⟨x, hx⟩)) hne

end JanetModel.Table
