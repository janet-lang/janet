/-
The ordering invariant of the robin-hood layout of struct.c, and the `status == 0` (replace) path of
`janet_struct_put_ext`.

`OInv`: a stored key `k`, were it carried again from its home bucket towards its bucket, would pass over every
occupant it meets on the way — at each bucket `x` of the cyclic interval [home k, bucket k) the triple
(distance of `k` at `x`, hash of `k`, rank of `k`) is lexicographically smaller than the occupant's triple.
`janet_struct_put_ext` keeps `OInv` when it inserts a key that is not stored (`putLoop_ord`), and under `OInv` a key
that IS stored is found by the loop with `status == 0` before any swap or empty bucket (`putLoop_dup`): the put then
only replaces the value.  Hence a struct literal that repeats keys is the finite map in which the last non-nil value
wins, with the struct invariant, for all inputs.
-/
import JanetModel.Table.StructBuild
import JanetModel.Table.Pow2
import JanetModel.Probe.Cyclic
namespace JanetModel.Table
open JanetModel.Gen.Table


/-- number of steps from bucket `s` to bucket `x` in the cyclic order of `n` buckets -/
def cd (n s x : Nat) : Nat := if s ≤ x then x - s else x + n - s

/-- `cd` is `dst` of Probe/Cyclic.lean -/
theorem cd_eq_dst {n s x : Nat} (hs : s < n) (hx : x < n) : cd n s x = Value.dst n x s := by
  have := Value.dst_cases hx hs
  unfold cd
  split <;> omega

/-- the distance expression of struct.c, `(i + cap - index) & (cap - 1)`, for a power-of-two capacity -/
theorem and_eq_cd {n s x : Nat} (hp : ∃ p, n = 2 ^ p) (hs : s < n) (hx : x < n) :
    (x + n - s) &&& (n - 1) = cd n s x := by
  obtain ⟨p, rfl⟩ := hp
  rw [Nat.and_two_pow_sub_one_eq_mod, cd_eq_dst hs hx]
  rfl

theorem cd_self (n s : Nat) : cd n s s = 0 := by unfold cd; simp

theorem cd_nx {n s i : Nat} (hs : s < n) (hi : i < n) (hne : Value.nx n i ≠ s) : cd n s (Value.nx n i) = cd n s i + 1 := by
  rw [cd_eq_dst hs (Value.nx_lt hi), cd_eq_dst hs hi]
  exact Value.dst_nx_of_ne hi hs (Ne.symm hne)

/-- every bucket but `i` lies in the cyclic interval from `i`'s successor to `i` -/
theorem btw_all {n i e : Nat} (hi : i < n) (he : e < n) (hne : e ≠ i) : Btw (Value.nx n i) i e := by
  have := Value.nx_cases hi
  unfold Btw
  omega

theorem btw_irrefl (s i : Nat) : ¬ Btw s i i := by unfold Btw; omega

theorem btw_empty (s x : Nat) : ¬ Btw s s x := by unfold Btw; omega

theorem btw_step {n s p i : Nat} (hi : i < n) (hp : p < n) (hb : Btw s p i) :
    Btw s p (Value.nx n i) ∨ Value.nx n i = p := by
  have := Value.nx_cases hi
  unfold Btw at hb ⊢
  omega

theorem nx_ne_of_btw {n s p i : Nat} (hi : i < n) (hs : s < n) (hp : p < n) (hb : Btw s p i) : Value.nx n i ≠ s := by
  have := Value.nx_cases hi
  unfold Btw at hb
  omega

theorem mem_cyc_lt (n : Nat) : ∀ (len i e : Nat), i < n → e ∈ cyc n i len → e < n := by
  intro len
  induction len with
  | zero => intro i e _ hm; simp [cyc] at hm
  | succ len ih =>
    intro i e hi hm
    rw [cyc] at hm
    rcases List.mem_cons.mp hm with c | c
    · omega
    · exact ih (Value.nx n i) e (Value.nx_lt hi) c


theorem rhStatus_of_lt {d od : Nat} {hh oh : Int} {r ork : Nat} (hl : Lt3 d hh r od oh ork) :
    rhStatus d od hh oh r ork = -1 := by
  rcases rhStatus_cases d od hh oh r ork with ⟨_, e⟩ | ⟨l, _⟩ | ⟨e1, e2, e3, _⟩
  · exact e
  · unfold Lt3 at *; omega
  · unfold Lt3 at *; omega

theorem rhStatus_self (d : Nat) (hh : Int) (r : Nat) : rhStatus d d hh hh r r = 0 := by
  rcases rhStatus_cases d d hh hh r r with ⟨l, _⟩ | ⟨l, _⟩ | ⟨_, _, _, e⟩
  · unfold Lt3 at *; omega
  · unfold Lt3 at *; omega
  · exact e

/-- key `k`, carried to bucket `x`, passes over the occupant `o` of `x` (`status == -1`) -/
def Loses (h : Nat → Nat) (rank : Nat → Nat) (n k o x : Nat) : Prop :=
  Lt3 (cd n (maphash n (h k)) x) (toI32 (h k)) (rank k) (cd n (maphash n (h o)) x) (toI32 (h o)) (rank o)

theorem Loses.trans {h : Nat → Nat} {rank : Nat → Nat} {n a b c x : Nat}
    (p : Loses h rank n a b x) (q : Loses h rank n b c x) : Loses h rank n a c x := Lt3.trans p q

/-- **ordering invariant of the robin-hood layout** -/
def OInv (h : Nat → Nat) (rank : Nat → Nat) (data : Array Slot) : Prop :=
  ∀ j k, (slotAt data j).key = some k → ∀ x, x < data.size → Btw (maphash data.size (h k)) j x →
    ∀ o, (slotAt data x).key = some o → Loses h rank data.size k o x

theorem OInv.replicate (h : Nat → Nat) (rank : Nat → Nat) (n : Nat) : OInv h rank (Array.replicate n Slot.empty) := by
  intro j k hj
  exact absurd hj (key_replicate n j k)

theorem key_setVal {data : Array Slot} {p k : Nat} (hp : (slotAt data p).key = some k) (v : Val) (x : Nat) :
    (slotAt (data.setIfInBounds p ⟨some k, v⟩) x).key = (slotAt data x).key := by
  rw [slotAt_set]
  by_cases c : x = p ∧ p < data.size
  · simp only [c, and_self, if_true]
    exact hp.symm
  · simp only [c, if_false]

theorem OInv.of_keys {h : Nat → Nat} {rank : Nat → Nat} {data data' : Array Slot} (oi : OInv h rank data)
    (hsz : data'.size = data.size) (hk : ∀ x, (slotAt data' x).key = (slotAt data x).key) : OInv h rank data' := by
  intro j k hj x hx hb o ho
  rw [hsz] at hx hb ⊢
  rw [hk] at hj ho
  exact oi j k hj x hx hb o ho

/-- writing a key that is not stored into bucket `i`: the ordering invariant is kept when the new key passes over
everything before `i` on its path and every stored key whose path crosses `i` passes over the new key -/
theorem OInv.place {h : Nat → Nat} {rank : Nat → Nat} {data : Array Slot} (oi : OInv h rank data) {i ck : Nat} {v : Val}
    (hi : i < data.size)
    (hcar : ∀ x, x < data.size → Btw (maphash data.size (h ck)) i x → ∀ o, (slotAt data x).key = some o →
      Loses h rank data.size ck o x)
    (hoth : ∀ j k, j ≠ i → (slotAt data j).key = some k → Btw (maphash data.size (h k)) j i →
      Loses h rank data.size k ck i) :
    OInv h rank (data.setIfInBounds i ⟨some ck, v⟩) := by
  intro j k hj x hx hb o ho
  have hsz : (data.setIfInBounds i ⟨some ck, v⟩).size = data.size := by simp
  rw [hsz] at hx hb ⊢
  rw [slotAt_set] at hj ho
  by_cases cj : j = i ∧ i < data.size
  · simp only [cj, and_self, if_true] at hj
    have ek : k = ck := by cases hj; rfl
    rw [ek] at hb ⊢
    rw [cj.1] at hb
    by_cases cx : x = i ∧ i < data.size
    · rw [cx.1] at hb; exact absurd hb (btw_irrefl _ _)
    · simp only [cx, if_false] at ho
      exact hcar x hx hb o ho
  · simp only [cj, if_false] at hj
    have hji : j ≠ i := fun e => cj ⟨e, hi⟩
    by_cases cx : x = i ∧ i < data.size
    · simp only [cx, and_self, if_true] at ho
      have eo : o = ck := by cases ho; rfl
      rw [eo, cx.1]
      rw [cx.1] at hb
      exact hoth j k hji hj hb
    · simp only [cx, if_false] at ho
      exact oi j k hj x hx hb o ho


theorem putLoop_ord (h : Nat → Nat) (rank : Nat → Nat) (hr : RankInj rank) (replace : Bool) (n : Nat)
    (hp2 : ∃ p, n = 2 ^ p) :
    ∀ (len i ck : Nat) (cv : Val) (hash : Int) (dist : Nat) (st : StructB),
      st.data.size = n → i < n → DInv h st.data → NoTomb st.data → OInv h rank st.data →
      (∀ x, (slotAt st.data x).key ≠ some ck) → cv ≠ vNil →
      (∀ x, x < n → Btw (maphash n (h ck)) i x → ¬ (slotAt st.data x).isEmpty) →
      (∃ e, e ∈ cyc n i len ∧ (slotAt st.data e).isEmpty) →
      (∀ x, x < n → Btw (maphash n (h ck)) i x → ∀ o, (slotAt st.data x).key = some o → Loses h rank n ck o x) →
      dist = cd n (maphash n (h ck)) i → hash = toI32 (h ck) →
      OInv h rank (structPutLoop h rank replace n (cyc n i len) ck cv hash dist st).data := by
  intro len
  induction len with
  | zero =>
    intro i ck cv hash dist st _ _ _ _ _ _ _ _ he
    obtain ⟨e, hm, _⟩ := he
    simp [cyc] at hm
  | succ len ih =>
    intro i ck cv hash dist st hsz hi inv nt oi hno hcv hpath hemp hcar hdist hhash
    have hi' : i < st.data.size := by omega
    have hn0 : 0 < n := by omega
    rw [cyc, structPutLoop_cons]
    cases hk : (slotAt st.data i).key with
    | none =>
      simp only []
      show OInv h rank (st.data.setIfInBounds i ⟨some ck, cv⟩)
      refine oi.place hi' (by rw [hsz]; exact hcar) ?_
      intro j k _ hj hb
      have := path_btw inv hj i hi' hb
      exact absurd ⟨hk, nt i hk⟩ this
    | some okey =>
      simp only []
      have hine : ¬ (slotAt st.data i).isEmpty := fun e => by rw [e.1] at hk; cases hk
      obtain ⟨e, hem, hee⟩ := hemp
      have hen : e < n := mem_cyc_lt n (len + 1) i e hi hem
      have hei : e ≠ i := fun c => hine (c ▸ hee)
      have hem' : e ∈ cyc n (Value.nx n i) len := by
        rcases List.mem_cons.mp hem with c | c
        · exact absurd c hei
        · exact c
      have hsi := Value.nx_lt hi
      have hho : maphash n (h okey) < n := maphash_lt n (h okey) hn0
      have hhc : maphash n (h ck) < n := maphash_lt n (h ck) hn0
      have hod : (i + n - maphash n (h okey)) &&& (n - 1) = cd n (maphash n (h okey)) i := and_eq_cd hp2 hho hi
      rw [hod, hdist, hhash]
      rcases rhStatus_cases (cd n (maphash n (h ck)) i) (cd n (maphash n (h okey)) i) (toI32 (h ck)) (toI32 (h okey))
        (rank ck) (rank okey) with ⟨hl, hs⟩ | ⟨hl, hs⟩ | ⟨_, _, e3, _⟩
      · -- status = -1: the carried pair moves on
        rw [hs, if_neg (by decide), if_neg (by decide)]
        have hpo := path_nx hi hine hpath
        have hcar' : ∀ x, x < n → Btw (maphash n (h ck)) (Value.nx n i) x → ∀ o, (slotAt st.data x).key = some o →
            Loses h rank n ck o x := by
          intro x hx hb o ho
          rcases btw_nx hi hx hb with hb' | hxi
          · exact hcar x hx hb' o ho
          · rw [hxi] at ho ⊢
            rw [hk] at ho
            cases ho
            exact hl
        have hne : Value.nx n i ≠ maphash n (h ck) := by
          intro c
          have := btw_all hi hen hei
          rw [c] at this
          exact hpath e hen this hee
        exact ih (Value.nx n i) ck cv (toI32 (h ck)) (cd n (maphash n (h ck)) i + 1) st hsz hsi inv nt oi hno hcv hpo
          ⟨e, hem', hee⟩ hcar' (cd_nx hhc hi hne).symm rfl
      · -- status = 1: swap
        rw [hs, if_pos rfl]
        obtain ⟨inv', nt', hno', hov, hpo⟩ := putLoop_swap hi' inv nt hno hcv (by rw [hsz]; exact hpath) hk
        rw [hsz] at hpo
        have oi' : OInv h rank (st.data.setIfInBounds i ⟨some ck, cv⟩) := by
          refine oi.place hi' (by rw [hsz]; exact hcar) ?_
          intro j k _ hj hb
          rw [hsz] at hb ⊢
          have h1 : Loses h rank n k okey i := by
            have := oi j k hj i hi' (by rw [hsz]; exact hb) okey hk
            rw [hsz] at this; exact this
          exact h1.trans hl
        have hcar' : ∀ x, x < n → Btw (maphash n (h okey)) (Value.nx n i) x → ∀ o,
            (slotAt (st.data.setIfInBounds i ⟨some ck, cv⟩) x).key = some o → Loses h rank n okey o x := by
          intro x hx hb o ho
          rcases btw_nx hi hx hb with hb' | hxi
          · rw [slotAt_set_ne _ fun c => btw_irrefl _ _ (c ▸ hb')] at ho
            have := oi i okey hk x (by omega) (by rw [hsz]; exact hb') o ho
            rw [hsz] at this; exact this
          · rw [hxi, slotAt_set_self _ hi'] at ho
            cases ho
            rw [hxi]; exact hl
        have hne : Value.nx n i ≠ maphash n (h okey) := by
          intro c
          have := btw_all hi hen hei
          rw [c] at this
          exact path_btw inv hk e (by omega) (by rw [hsz]; exact this) hee
        exact ih (Value.nx n i) okey (slotAt st.data i).val (toI32 (h okey)) (cd n (maphash n (h okey)) i + 1)
          { st with data := st.data.setIfInBounds i ⟨some ck, cv⟩ } (by simpa using hsz) hsi inv' nt' oi' hno' hov hpo
          ⟨e, hem', isEmpty_place_other hei hee⟩ hcar' (cd_nx hho hi hne).symm rfl
      · -- status = 0: equal ranks, i.e. the carried key is stored — excluded
        have := hr _ _ e3
        rw [this] at hno
        exact absurd hk (hno i)


theorem putLoop_dup (h : Nat → Nat) (rank : Nat → Nat) (n : Nat) (hp2 : ∃ p, n = 2 ^ p) :
    ∀ (len i ck : Nat) (cv : Val) (hash : Int) (dist : Nat) (st : StructB) (p : Nat),
      st.data.size = n → i < n → DInv h st.data → NoTomb st.data → OInv h rank st.data →
      (slotAt st.data p).key = some ck → p ∈ cyc n i len → (Btw (maphash n (h ck)) p i ∨ i = p) →
      dist = cd n (maphash n (h ck)) i → hash = toI32 (h ck) →
      structPutLoop h rank true n (cyc n i len) ck cv hash dist st =
        { st with data := st.data.setIfInBounds p ⟨some ck, cv⟩ } := by
  intro len
  induction len with
  | zero =>
    intro i ck cv hash dist st p _ _ _ _ _ _ hm
    simp [cyc] at hm
  | succ len ih =>
    intro i ck cv hash dist st p hsz hi inv nt oi hp hm hb hdist hhash
    have hi' : i < st.data.size := by omega
    have hn0 : 0 < n := by omega
    have hpn : p < n := by have := key_some_lt hp; omega
    have hhc : maphash n (h ck) < n := maphash_lt n (h ck) hn0
    rw [cyc, structPutLoop_cons]
    by_cases hip : i = p
    · rw [hip, hp]
      simp only []
      have hod : (p + n - maphash n (h ck)) &&& (n - 1) = cd n (maphash n (h ck)) p := and_eq_cd hp2 hhc hpn
      rw [hod, hdist, hhash, hip, rhStatus_self, if_neg (by decide), if_pos rfl, if_pos trivial]
    · have hb' : Btw (maphash n (h ck)) p i := by
        rcases hb with c | c
        · exact c
        · exact absurd c hip
      have hne := path_btw inv hp i hi' (by rw [hsz]; exact hb')
      cases hk : (slotAt st.data i).key with
      | none => exact absurd ⟨hk, nt i hk⟩ hne
      | some o =>
        simp only []
        have hho : maphash n (h o) < n := maphash_lt n (h o) hn0
        have hod : (i + n - maphash n (h o)) &&& (n - 1) = cd n (maphash n (h o)) i := and_eq_cd hp2 hho hi
        have hl : Loses h rank n ck o i := by
          have := oi p ck hp i hi' (by rw [hsz]; exact hb') o hk
          rw [hsz] at this; exact this
        rw [hod, hdist, hhash, rhStatus_of_lt hl, if_neg (by decide), if_neg (by decide)]
        have hm' : p ∈ cyc n (Value.nx n i) len := by
          rcases List.mem_cons.mp hm with c | c
          · exact absurd c.symm hip
          · exact c
        exact ih (Value.nx n i) ck cv (toI32 (h ck)) (cd n (maphash n (h ck)) i + 1) st p hsz (Value.nx_lt hi) inv nt oi hp hm'
          (btw_step hi hpn hb') (cd_nx hhc hi (nx_ne_of_btw hi hhc hpn hb')).symm rfl


theorem structPutLoop_size (h : Nat → Nat) (rank : Nat → Nat) (replace : Bool) (cap : Nat) :
    ∀ (l : List Nat) (key : Nat) (value : Val) (hash : Int) (dist : Nat) (st : StructB),
      (structPutLoop h rank replace cap l key value hash dist st).data.size = st.data.size := by
  intro l
  induction l with
  | nil => intros; rfl
  | cons i rest ih =>
    intro key value hash dist st
    rw [structPutLoop_cons]
    cases hk : (slotAt st.data i).key with
    | none => simp
    | some okey =>
      simp only []
      by_cases c1 : rhStatus dist ((i + cap - maphash cap (h okey)) &&& (cap - 1)) hash (toI32 (h okey)) (rank key) (rank okey) = 1
      · rw [if_pos c1, ih]; simp
      · rw [if_neg c1]
        by_cases c0 : rhStatus dist ((i + cap - maphash cap (h okey)) &&& (cap - 1)) hash (toI32 (h okey)) (rank key) (rank okey) = 0
        · rw [if_pos c0]
          cases replace <;> simp
        · rw [if_neg c0, ih]

theorem structPut_size (h : Nat → Nat) (rank : Nat → Nat) (replace : Bool) (st : StructB) (key : Nat) (v : Val) :
    (structPut h rank replace st key v).data.size = st.data.size := by
  unfold structPut
  by_cases c1 : v = vNil
  · rw [if_pos c1]
  · rw [if_neg c1]
    by_cases c2 : st.filled = st.length
    · rw [if_pos c2]
    · rw [if_neg c2]
      exact structPutLoop_size _ _ _ _ _ _ _ _ _ _

/-- invariant of a struct under construction, with the ordering of the robin-hood layout -/
structure OBInv (h : Nat → Nat) (rank : Nat → Nat) (st : StructB) : Prop where
  b : BInv h st
  o : OInv h rank st.data
  p2 : ∃ p, st.data.size = 2 ^ p

theorem OBInv.begin (h : Nat → Nat) (rank : Nat → Nat) (count : Nat) (hc : 2 * count < 2 ^ 32) :
    OBInv h rank (structBegin count) := by
  refine ⟨BInv.begin h count, OInv.replicate h rank _, ?_⟩
  obtain ⟨k, hk⟩ := tablen_pow2 (2 * count) hc
  exact ⟨k, by simp [structBegin, structCap, hk]⟩

/-- **the `status == 0` path**: putting a key that is stored in bucket `p` replaces that bucket's value, nothing else -/
theorem structPut_dup (h : Nat → Nat) (rank : Nat → Nat) (st : StructB) (key : Nat) (v : Val) (p : Nat)
    (inv : OBInv h rank st) (hp : (slotAt st.data p).key = some key) (hv : v ≠ vNil) (hroom : st.filled < st.length) :
    structPut h rank true st key v = { st with data := st.data.setIfInBounds p ⟨some key, v⟩ } := by
  have hpos : 0 < st.data.size := by have := inv.b.room; omega
  have hs := maphash_lt st.data.size (h key) hpos
  rw [structPut_eq_loop h rank true st key v hv hroom hpos]
  exact putLoop_dup h rank st.data.size inv.p2 st.data.size _ key v (toI32 (h key)) 0 st p rfl hs inv.b.d inv.b.nt
    inv.o hp (mem_cyc_all hs (key_some_lt hp)) (by unfold Btw; omega) (cd_self _ _).symm rfl

/-- **`janet_struct_put_ext`, any key**: a key that is not stored is added, a key that is stored gets the new value
(`status == 0`); the invariants — including the ordering of the layout — are kept -/
theorem structPut_any (h : Nat → Nat) (rank : Nat → Nat) (hr : RankInj rank)
    (st : StructB) (key : Nat) (v : Val) (inv : OBInv h rank st) (hv : v ≠ vNil) (hroom : st.filled < st.length) :
    OBInv h rank (structPut h rank true st key v) ∧
    (structPut h rank true st key v).filled ≤ st.filled + 1 ∧
    (structPut h rank true st key v).length = st.length ∧
    ∀ k v', Ent (structPut h rank true st key v).data k v' ↔ ((k = key ∧ v' = v) ∨ (k ≠ key ∧ Ent st.data k v')) := by
  have hpos : 0 < st.data.size := by have := inv.b.room; omega
  have hs := maphash_lt st.data.size (h key) hpos
  have hsz := structPut_size h rank true st key v
  by_cases hex : ∃ p, (slotAt st.data p).key = some key
  · -- the key is stored: replace
    obtain ⟨p, hp⟩ := hex
    have hpn := key_some_lt hp
    rw [structPut_dup h rank st key v p inv hp hv hroom]
    have hkeys := key_setVal hp v
    refine ⟨⟨⟨inv.b.d.overwrite hp hv, inv.b.nt.place p key v, ?_, ?_⟩, inv.o.of_keys (by simp) hkeys, ?_⟩, ?_, rfl, ?_⟩
    · show nLive (st.data.setIfInBounds p ⟨some key, v⟩) = st.filled
      rw [nLive_place hpn]
      have : isLive (slotAt st.data p) = true := by simp [isLive, hp]
      rw [if_pos this, inv.b.cnt]; rfl
    · show st.length ≤ (st.data.setIfInBounds p ⟨some key, v⟩).size
      simpa using inv.b.room
    · obtain ⟨q, hq⟩ := inv.p2
      exact ⟨q, by simpa using hq⟩
    · show st.filled ≤ st.filled + 1
      omega
    · intro k v'
      show Ent (st.data.setIfInBounds p ⟨some key, v⟩) k v' ↔ _
      rw [ent_place hpn]
      constructor
      · rintro (c | ⟨x, hx, hkx, hvx⟩)
        · left; exact c
        · right
          refine ⟨?_, x, hkx, hvx⟩
          intro ek
          rw [ek] at hkx
          exact hx (inv.b.d.nodup x p key hkx hp)
      · rintro (c | ⟨hne, x, hkx, hvx⟩)
        · left; exact c
        · right
          refine ⟨x, ?_, hkx, hvx⟩
          intro ex
          rw [ex, hp] at hkx
          cases hkx
          exact hne rfl
  · -- the key is not stored: insert
    have hno : ∀ x, (slotAt st.data x).key ≠ some key := fun x hx => hex ⟨x, hx⟩
    obtain ⟨p1, p2, p3, p4⟩ := structPut_spec h rank hr true st key v inv.b hno hv hroom
    have ho := putLoop_ord h rank hr true st.data.size inv.p2 st.data.size _ key v (toI32 (h key)) 0 st rfl hs
      inv.b.d inv.b.nt inv.o hno hv (fun x _ hb => absurd hb (btw_empty _ _)) (inv.b.exists_empty hroom hs)
      (fun x _ hb => absurd hb (btw_empty _ _)) (cd_self _ _).symm rfl
    rw [← structPut_eq_loop h rank true st key v hv hroom hpos] at ho
    refine ⟨⟨p1, ho, ?_⟩, by omega, p3, ?_⟩
    · rw [hsz]; exact inv.p2
    · intro k v'
      rw [p4 k v']
      constructor
      · rintro (c | c)
        · left; exact c
        · right
          refine ⟨?_, c⟩
          intro ek
          obtain ⟨x, hx, _⟩ := c
          rw [ek] at hx
          exact hno x hx
      · rintro (c | ⟨_, c⟩)
        · left; exact c
        · right; exact c


/-- the finite map a struct literal denotes: pairs with a nil value are dropped, the LAST non-nil value of a key wins -/
def litMap (kvs : List (Nat × Val)) (m : Nat → Option Val) : Nat → Option Val :=
  kvs.foldl (fun m kv => if kv.2 = vNil then m else fun k => if k = kv.1 then some kv.2 else m k) m

theorem putArgs_any (h : Nat → Nat) (rank : Nat → Nat) (hr : RankInj rank) :
    ∀ (l : List (Nat × Val)) (b : StructB) (m : Nat → Option Val), OBInv h rank b →
      (∀ k v, Ent b.data k v ↔ m k = some v) → b.filled + l.length ≤ b.length →
      OBInv h rank (putArgs h rank b l) ∧ (putArgs h rank b l).length = b.length ∧
      ∀ k v, Ent (putArgs h rank b l).data k v ↔ litMap l m k = some v := by
  intro l
  induction l with
  | nil =>
    intro b m inv hm _
    exact ⟨inv, rfl, hm⟩
  | cons s rest ih =>
    intro b m inv hm hlen
    have e : putArgs h rank b (s :: rest) = putArgs h rank (structPut h rank true b s.1 s.2) rest := by
      unfold putArgs
      rw [List.foldl_cons]
    have el : litMap (s :: rest) m = litMap rest (if s.2 = vNil then m else fun k => if k = s.1 then some s.2 else m k) := by
      unfold litMap
      rw [List.foldl_cons]
    rw [e, el]
    simp only [List.length_cons] at hlen
    by_cases hv : s.2 = vNil
    · rw [hv, structPut_nil, if_pos rfl]
      exact ih b m inv hm (by omega)
    · rw [if_neg hv]
      obtain ⟨p1, p2, p3, p4⟩ := structPut_any h rank hr b s.1 s.2 inv hv (by omega)
      obtain ⟨q1, q2, q3⟩ := ih (structPut h rank true b s.1 s.2) (fun k => if k = s.1 then some s.2 else m k) p1
        (by
          intro k v
          rw [p4 k v]
          by_cases c : k = s.1
          · rw [if_pos c]
            constructor
            · rintro (⟨_, ev⟩ | ⟨hne, _⟩)
              · rw [ev]
              · exact absurd c hne
            · intro hsome
              left; exact ⟨c, by cases hsome; rfl⟩
          · rw [if_neg c, ← hm k v]
            constructor
            · rintro (⟨ek, _⟩ | ⟨_, hent⟩)
              · exact absurd ek c
              · exact hent
            · intro hent; right; exact ⟨c, hent⟩)
        (by rw [p3]; omega)
      exact ⟨q1, by rw [q2, p3], q3⟩

/-- **a struct literal with ANY arguments, repeated keys included** (`janet_struct_begin(n)`, at most `n` ×
`janet_struct_put`, `janet_struct_end` with its rebuild): the struct invariant holds, and the entries are the finite
map in which the last non-nil value of each key wins -/
theorem structLiteral_any (h : Nat → Nat) (rank : Nat → Nat) (hr : RankInj rank)
    (kvs : List (Nat × Val)) (n : Nat) (hn : kvs.length ≤ n) (hc : 2 * n < 2 ^ 32) :
    SInv h (structEnd h rank (putArgs h rank (structBegin n) kvs)) ∧
    (∀ k v, Ent (structEnd h rank (putArgs h rank (structBegin n) kvs)).data k v ↔ litMap kvs (fun _ => none) k = some v) ∧
    nLive (structEnd h rank (putArgs h rank (structBegin n) kvs)).data =
      (structEnd h rank (putArgs h rank (structBegin n) kvs)).length ∧
    (structEnd h rank (putArgs h rank (structBegin n) kvs)).proto = none := by
  obtain ⟨p1, _, p3⟩ := putArgs_any h rank hr kvs (structBegin n) (fun _ => none) (OBInv.begin h rank n hc)
    (fun k v => by
      constructor
      · intro hb; exact absurd hb (ent_replicate _ k v)
      · intro hb; cases hb)
    (by show 0 + kvs.length ≤ n; omega)
  have r := structEnd_spec h rank hr _ p1.b
  refine ⟨r.1, ?_, r.2.2.2.1, r.2.2.2.2⟩
  intro k v
  rw [r.2.1 k v, p3 k v]

end JanetModel.Table
