/-
The robin-hood insertion of struct.c (`janet_struct_put_ext`) establishes the struct invariant.

`structPutLoop` walks the cyclic probe sequence from the key's home bucket carrying a (key, value) pair; at a live
bucket it either moves on or swaps the carried pair with the bucket's (the displaced pair is carried on); at the
first empty bucket the carried pair is stored.  Whatever the comparisons decide (distance, hash, `janet_compare`
rank), the bucket array keeps `DInv` (no duplicate keys, probe-path property, non-nil values) and stays free of
tombstones, provided the inserted key is not already present and `janet_compare` separates distinct keys (`rank`
injective — the `status == 0` branch then never fires).  Hence `table/to-struct` of any table satisfying the table
invariant yields a struct satisfying `SInv` with the same finite map, for all inputs.
-/
import JanetModel.Table.StructLemmas
import JanetModel.Table.Count
import JanetModel.Probe.Cyclic
namespace JanetModel.Table
open JanetModel.Gen.Table


/-- `len` consecutive bucket indices starting at `i`, cyclically (`Value.nx`: the next bucket, wrapping) -/
def cyc (n : Nat) : Nat → Nat → List Nat
  | _, 0 => []
  | i, len + 1 => i :: cyc n (Value.nx n i) len

theorem cyc_eq_range' (n : Nat) : ∀ (len i : Nat), i + len ≤ n → cyc n i len = List.range' i len := by
  intro len
  induction len with
  | zero => intro i _; rfl
  | succ len ih =>
    intro i hi
    cases len with
    | zero => simp [cyc]
    | succ l =>
      have hs : Value.nx n i = i + 1 := by have := Value.nx_cases (show i < n by omega); omega
      rw [cyc, hs, ih (i + 1) (by omega)]
      simp [List.range'_succ]

theorem cyc_wrap (n : Nat) : ∀ (d s m : Nat), s + d = n → 0 < d → m ≤ n →
    cyc n s (d + m) = List.range' s d ++ List.range' 0 m := by
  intro d
  induction d with
  | zero => intro s m _ h; omega
  | succ d ih =>
    intro s m hs _ hm
    have e : d + 1 + m = (d + m) + 1 := by omega
    rw [e, cyc]
    cases d with
    | zero =>
      have hsu : Value.nx n s = 0 := by have := Value.nx_cases (show s < n by omega); omega
      rw [hsu, Nat.zero_add, cyc_eq_range' n m 0 (by omega)]
      simp [List.range'_succ]
    | succ d' =>
      have hsu : Value.nx n s = s + 1 := by have := Value.nx_cases (show s < n by omega); omega
      rw [hsu, ih (s + 1) m (by omega) (by omega) hm]
      simp [List.range'_succ]

/-- the probe order of `janet_dict_find` / `janet_struct_put_ext` is the cyclic order from the home bucket -/
theorem probeSeq_eq_cyc {n s : Nat} (hs : s < n) : probeSeq n s = cyc n s n := by
  unfold probeSeq
  have := cyc_wrap n (n - s) s s (by omega) (by omega) (by omega)
  rw [← this]
  congr 1
  omega

/-- `x` lies in the cyclic interval `[s, i)` -/
def Btw (s i x : Nat) : Prop := (s ≤ i ∧ s ≤ x ∧ x < i) ∨ (i < s ∧ (s ≤ x ∨ x < i))

theorem probeSeq_split {n s i : Nat} (hs : s < n) (hi : i < n) :
    ∃ pre post, probeSeq n s = pre ++ i :: post ∧ ∀ x, x ∈ pre ↔ (x < n ∧ Btw s i x) := by
  unfold probeSeq Btw
  by_cases c : s ≤ i
  · refine ⟨List.range' s (i - s), List.range' (i + 1) (n - (i + 1)) ++ List.range' 0 s, ?_, ?_⟩
    · have e : n - s = (i - s) + ((n - (i + 1)) + 1) := by omega
      rw [e, ← List.range'_append_1, List.range'_succ]
      have : s + (i - s) = i := by omega
      simp [this]
    · intro x
      rw [List.mem_range'_1]
      omega
  · refine ⟨List.range' s (n - s) ++ List.range' 0 i, List.range' (i + 1) (s - (i + 1)), ?_, ?_⟩
    · have e : s = i + ((s - (i + 1)) + 1) := by omega
      conv => lhs; rhs; rw [e, ← List.range'_append_1, List.range'_succ]
      simp
    · intro x
      rw [List.mem_append, List.mem_range'_1, List.mem_range'_1]
      omega

theorem split_unique {l pre post pre' post' : List Nat} {i : Nat} (hn : l.Nodup)
    (e1 : l = pre ++ i :: post) (e2 : l = pre' ++ i :: post') : pre = pre' := by
  rcases split_cmp e1 e2 with hm | hm | ⟨e, _⟩
  · exact absurd hm (not_mem_pre hn e2)
  · exact absurd hm (not_mem_pre hn e1)
  · exact e

/-- the probe-path property of `DInv`, read as a statement about the cyclic interval -/
theorem path_btw {h : Nat → Nat} {data : Array Slot} (inv : DInv h data) {i k : Nat}
    (hi : (slotAt data i).key = some k) :
    ∀ x, x < data.size → Btw (maphash data.size (h k)) i x → ¬ (slotAt data x).isEmpty := by
  intro x hx hb
  have hlt := key_some_lt hi
  obtain ⟨pre, post, hp, hpre⟩ := inv.path i k hi
  obtain ⟨pre', post', hp', hm⟩ := probeSeq_split (maphash_lt data.size (h k) (by omega)) hlt
  have := split_unique (probeSeq_nodup _ _) hp hp'
  subst this
  exact (hpre x ((hm x).mpr ⟨hx, hb⟩)).1


/-- `janet_compare` separates distinct keys -/
def RankInj (rank : Nat → Nat) : Prop := ∀ a b, rank a = rank b → a = b

/-- the three-level comparison of `janet_struct_put_ext` (distance, hash, `janet_compare`) -/
def rhStatus (dist otherdist : Nat) (hash otherhash : Int) (rk rok : Nat) : Int :=
  if dist < otherdist then -1
  else if otherdist < dist then 1
  else if hash < otherhash then -1
  else if otherhash < hash then 1
  else if rk < rok then -1 else if rok < rk then 1 else 0

/-- lexicographic order on (distance, hash, rank) -/
def Lt3 (d1 : Nat) (h1 : Int) (r1 : Nat) (d2 : Nat) (h2 : Int) (r2 : Nat) : Prop :=
  d1 < d2 ∨ (d1 = d2 ∧ (h1 < h2 ∨ (h1 = h2 ∧ r1 < r2)))

theorem Lt3.trans {d1 d2 d3 : Nat} {h1 h2 h3 : Int} {r1 r2 r3 : Nat}
    (a : Lt3 d1 h1 r1 d2 h2 r2) (b : Lt3 d2 h2 r2 d3 h3 r3) : Lt3 d1 h1 r1 d3 h3 r3 := by
  unfold Lt3 at *; omega

theorem rhStatus_cases (d od : Nat) (hh oh : Int) (r ork : Nat) :
    (Lt3 d hh r od oh ork ∧ rhStatus d od hh oh r ork = -1) ∨
    (Lt3 od oh ork d hh r ∧ rhStatus d od hh oh r ork = 1) ∨
    (d = od ∧ hh = oh ∧ r = ork ∧ rhStatus d od hh oh r ork = 0) := by
  unfold rhStatus Lt3
  by_cases h1 : d < od
  · exact Or.inl ⟨Or.inl h1, if_pos h1⟩
  rw [if_neg h1]
  by_cases h2 : od < d
  · exact Or.inr (Or.inl ⟨Or.inl h2, if_pos h2⟩)
  rw [if_neg h2]
  have hd : d = od := by omega
  by_cases h3 : hh < oh
  · exact Or.inl ⟨Or.inr ⟨hd, Or.inl h3⟩, if_pos h3⟩
  rw [if_neg h3]
  by_cases h4 : oh < hh
  · exact Or.inr (Or.inl ⟨Or.inr ⟨hd.symm, Or.inl h4⟩, if_pos h4⟩)
  rw [if_neg h4]
  have hh' : hh = oh := by omega
  by_cases h5 : r < ork
  · exact Or.inl ⟨Or.inr ⟨hd, Or.inr ⟨hh', h5⟩⟩, if_pos h5⟩
  rw [if_neg h5]
  by_cases h6 : ork < r
  · exact Or.inr (Or.inl ⟨Or.inr ⟨hd.symm, Or.inr ⟨hh'.symm, h6⟩⟩, if_pos h6⟩)
  · exact Or.inr (Or.inr ⟨hd, hh', by omega, if_neg h6⟩)

theorem rhStatus_zero {dist otherdist : Nat} {hash otherhash : Int} {rk rok : Nat}
    (hz : rhStatus dist otherdist hash otherhash rk rok = 0) : rk = rok := by
  rcases rhStatus_cases dist otherdist hash otherhash rk rok with ⟨_, e⟩ | ⟨_, e⟩ | ⟨_, _, e, _⟩
  · exact absurd (e ▸ hz) (by decide)
  · exact absurd (e ▸ hz) (by decide)
  · exact e

theorem structPutLoop_cons (h : Nat → Nat) (rank : Nat → Nat) (replace : Bool) (cap i : Nat) (rest : List Nat)
    (key : Nat) (value : Val) (hash : Int) (dist : Nat) (st : StructB) :
    structPutLoop h rank replace cap (i :: rest) key value hash dist st =
      match (slotAt st.data i).key with
      | none => { st with data := st.data.setIfInBounds i ⟨some key, value⟩, filled := st.filled + 1 }
      | some okey =>
        let otherdist := (i + cap - maphash cap (h okey)) &&& (cap - 1)
        let status := rhStatus dist otherdist hash (toI32 (h okey)) (rank key) (rank okey)
        if status = 1 then
          structPutLoop h rank replace cap rest okey (slotAt st.data i).val (toI32 (h okey)) (otherdist + 1)
            { st with data := st.data.setIfInBounds i ⟨some key, value⟩ }
        else if status = 0 then
          if replace then { st with data := st.data.setIfInBounds i ⟨(slotAt st.data i).key, value⟩ } else st
        else structPutLoop h rank replace cap rest key value hash (dist + 1) st := by
  rfl

theorem DInv.place {h : Nat → Nat} {data : Array Slot} (inv : DInv h data) {j k : Nat} {v : Val}
    (hj : j < data.size) (hno : ∀ i, (slotAt data i).key ≠ some k)
    (hpath : ∀ x, x < data.size → Btw (maphash data.size (h k)) j x → ¬ (slotAt data x).isEmpty) (hv : v ≠ vNil) :
    DInv h (data.setIfInBounds j ⟨some k, v⟩) := by
  refine inv.set (fun e => by cases e.1) fun k' e => ?_
  cases e
  obtain ⟨pre, post, hp, hm⟩ := probeSeq_split (maphash_lt data.size (h k) (by omega)) hj
  exact ⟨hv, fun x _ => hno x, pre, post, hp, fun x hx => hpath x ((hm x).mp hx).1 ((hm x).mp hx).2⟩

theorem NoTomb.place {data : Array Slot} (nt : NoTomb data) (j k : Nat) (v : Val) :
    NoTomb (data.setIfInBounds j ⟨some k, v⟩) := by
  intro x hx
  rw [slotAt_set] at hx ⊢
  by_cases c : x = j ∧ j < data.size
  · rw [if_pos c] at hx; cases hx
  · rw [if_neg c] at hx ⊢; exact nt x hx

theorem btw_nx {n s i x : Nat} (hi : i < n) (hx : x < n) (hb : Btw s (Value.nx n i) x) : Btw s i x ∨ x = i := by
  have := Value.nx_cases hi
  unfold Btw at hb ⊢
  omega

/-- `(k, v)` is an entry of the bucket array -/
def Ent (data : Array Slot) (k : Nat) (v : Val) : Prop := ∃ x, (slotAt data x).key = some k ∧ (slotAt data x).val = v

theorem ent_place {data : Array Slot} {j : Nat} (hj : j < data.size) (k : Nat) (v : Val) (k' : Nat) (v' : Val) :
    Ent (data.setIfInBounds j ⟨some k, v⟩) k' v' ↔
      ((k' = k ∧ v' = v) ∨ ∃ x, x ≠ j ∧ (slotAt data x).key = some k' ∧ (slotAt data x).val = v') := by
  unfold Ent
  constructor
  · rintro ⟨x, hk, hv⟩
    by_cases c : x = j
    · rw [c, slotAt_set_self _ hj] at hk hv
      exact Or.inl ⟨(Option.some.inj hk).symm, hv.symm⟩
    · rw [slotAt_set_ne _ c] at hk hv
      exact Or.inr ⟨x, c, hk, hv⟩
  · rintro (⟨ek, ev⟩ | ⟨x, hx, hk, hv⟩)
    · exact ⟨j, by rw [slotAt_set_self _ hj, ek], by rw [slotAt_set_self _ hj, ev]⟩
    · exact ⟨x, by rw [slotAt_set_ne _ hx]; exact hk, by rw [slotAt_set_ne _ hx]; exact hv⟩

theorem ent_split (data : Array Slot) (j : Nat) (k' : Nat) (v' : Val) :
    Ent data k' v' ↔ (((slotAt data j).key = some k' ∧ (slotAt data j).val = v') ∨
      ∃ x, x ≠ j ∧ (slotAt data x).key = some k' ∧ (slotAt data x).val = v') := by
  unfold Ent
  constructor
  · rintro ⟨x, hk, hv⟩
    by_cases c : x = j
    · left; rw [← c]; exact ⟨hk, hv⟩
    · right; exact ⟨x, c, hk, hv⟩
  · rintro (⟨hk, hv⟩ | ⟨x, _, hk, hv⟩)
    · exact ⟨j, hk, hv⟩
    · exact ⟨x, hk, hv⟩

theorem nLive_place {data : Array Slot} {j : Nat} (hj : j < data.size) (k : Nat) (v : Val) :
    nLive (data.setIfInBounds j ⟨some k, v⟩) = nLive data + (if isLive (slotAt data j) = true then 0 else 1) := by
  have := countP_set_add isLive data j ⟨some k, v⟩ hj
  rw [if_pos (show isLive (⟨some k, v⟩ : Slot) = true from rfl)] at this
  unfold nLive
  by_cases c : isLive (slotAt data j) = true
  · rw [if_pos c] at this ⊢; omega
  · rw [if_neg c] at this ⊢; omega

theorem isEmpty_place_other {data : Array Slot} {j e : Nat} {s : Slot} (hne : e ≠ j)
    (he : (slotAt data e).isEmpty) : (slotAt (data.setIfInBounds j s) e).isEmpty := by
  rw [slotAt_set_ne s hne]; exact he

theorem path_nx {n s i : Nat} {data : Array Slot} (hi : i < n) (hine : ¬ (slotAt data i).isEmpty)
    (hpath : ∀ x, x < n → Btw s i x → ¬ (slotAt data x).isEmpty) :
    ∀ x, x < n → Btw s (Value.nx n i) x → ¬ (slotAt data x).isEmpty := by
  intro x hx hb
  rcases btw_nx hi hx hb with hb' | hxi
  · exact hpath x hx hb'
  · rw [hxi]; exact hine

/-- the swap of `janet_struct_put_ext`: the carried pair `(ck, cv)` takes the live bucket `i`; its occupant `okey` is no
longer stored, has a non-nil value, and from its home bucket up to `i` there is no empty bucket — what the loop needs
to carry the displaced pair on from the next bucket -/
theorem putLoop_swap {h : Nat → Nat} {data : Array Slot} {i ck okey : Nat} {cv : Val} (hi : i < data.size)
    (inv : DInv h data) (nt : NoTomb data) (hno : ∀ x, (slotAt data x).key ≠ some ck) (hcv : cv ≠ vNil)
    (hpath : ∀ x, x < data.size → Btw (maphash data.size (h ck)) i x → ¬ (slotAt data x).isEmpty)
    (hk : (slotAt data i).key = some okey) :
    DInv h (data.setIfInBounds i ⟨some ck, cv⟩) ∧ NoTomb (data.setIfInBounds i ⟨some ck, cv⟩) ∧
      (∀ x, (slotAt (data.setIfInBounds i ⟨some ck, cv⟩) x).key ≠ some okey) ∧ (slotAt data i).val ≠ vNil ∧
      ∀ x, x < data.size → Btw (maphash data.size (h okey)) (Value.nx data.size i) x →
        ¬ (slotAt (data.setIfInBounds i ⟨some ck, cv⟩) x).isEmpty := by
  have hne : ¬ (Slot.isEmpty ⟨some ck, cv⟩) := fun e => by cases e.1
  refine ⟨inv.place hi hno hpath hcv, nt.place i ck cv, fun x hx => ?_, inv.live i okey hk, fun x hx hb => ?_⟩
  · by_cases c : x = i
    · rw [c, slotAt_set_self _ hi] at hx
      cases hx
      exact hno i hk
    · rw [slotAt_set_ne _ c] at hx
      exact c (inv.nodup x i okey hx hk)
  · rcases btw_nx hi hx hb with hb' | hxi
    · exact isEmpty_set_of_nonempty hne (path_btw inv hk x hx hb')
    · rw [hxi, slotAt_set_self _ hi]
      exact hne

/-- **the loop of `janet_struct_put_ext`**, for every outcome of its comparisons: carrying a pair whose key is not
stored, over a cyclic stretch that contains an empty bucket, it stores exactly that pair (possibly displacing others
along the way) and keeps `DInv` / `NoTomb` -/
theorem putLoop_spec (h : Nat → Nat) (rank : Nat → Nat) (hr : RankInj rank) (replace : Bool) (n : Nat) :
    ∀ (len i ck : Nat) (cv : Val) (hash : Int) (dist : Nat) (st : StructB),
      st.data.size = n → i < n → DInv h st.data → NoTomb st.data →
      (∀ x, (slotAt st.data x).key ≠ some ck) → cv ≠ vNil →
      (∀ x, x < n → Btw (maphash n (h ck)) i x → ¬ (slotAt st.data x).isEmpty) →
      (∃ e, e ∈ cyc n i len ∧ (slotAt st.data e).isEmpty) →
      (structPutLoop h rank replace n (cyc n i len) ck cv hash dist st).data.size = n ∧
      DInv h (structPutLoop h rank replace n (cyc n i len) ck cv hash dist st).data ∧
      NoTomb (structPutLoop h rank replace n (cyc n i len) ck cv hash dist st).data ∧
      (structPutLoop h rank replace n (cyc n i len) ck cv hash dist st).filled = st.filled + 1 ∧
      (structPutLoop h rank replace n (cyc n i len) ck cv hash dist st).length = st.length ∧
      nLive (structPutLoop h rank replace n (cyc n i len) ck cv hash dist st).data = nLive st.data + 1 ∧
      ∀ k v, Ent (structPutLoop h rank replace n (cyc n i len) ck cv hash dist st).data k v ↔
        ((k = ck ∧ v = cv) ∨ Ent st.data k v) := by
  intro len
  induction len with
  | zero =>
    intro i ck cv hash dist st _ _ _ _ _ _ _ he
    obtain ⟨e, hm, _⟩ := he
    simp [cyc] at hm
  | succ len ih =>
    intro i ck cv hash dist st hsz hi inv nt hno hcv hpath hemp
    have hi' : i < st.data.size := by omega
    rw [cyc, structPutLoop_cons]
    cases hk : (slotAt st.data i).key with
    | none =>
      simp only []
      have hpath' : ∀ x, x < st.data.size → Btw (maphash st.data.size (h ck)) i x → ¬ (slotAt st.data x).isEmpty := by
        rw [hsz]; exact hpath
      refine ⟨by simpa using hsz, inv.place hi' hno hpath' hcv, nt.place i ck cv, trivial, trivial, ?_, ?_⟩
      · show nLive (st.data.setIfInBounds i ⟨some ck, cv⟩) = _
        rw [nLive_place hi']
        have : ¬ isLive (slotAt st.data i) = true := by simp [isLive, hk]
        rw [if_neg this]
      · intro k v
        show Ent (st.data.setIfInBounds i ⟨some ck, cv⟩) k v ↔ _
        rw [ent_place hi', ent_split st.data i k v]
        constructor
        · rintro (e | ⟨x, hx⟩)
          · left; exact e
          · right; right; exact ⟨x, hx⟩
        · rintro (e | ⟨hk', _⟩ | ⟨x, hx⟩)
          · left; exact e
          · rw [hk] at hk'; cases hk'
          · right; exact ⟨x, hx⟩
    | some okey =>
      simp only []
      -- the bucket is live: the empty bucket lies further on
      have hine : ¬ (slotAt st.data i).isEmpty := fun e => by rw [e.1] at hk; cases hk
      obtain ⟨e, hem, hee⟩ := hemp
      have hei : e ≠ i := fun c => hine (c ▸ hee)
      have hem' : e ∈ cyc n (Value.nx n i) len := by
        rcases List.mem_cons.mp hem with c | c
        · exact absurd c hei
        · exact c
      have hsi := Value.nx_lt hi
      by_cases hs1 : rhStatus dist ((i + n - maphash n (h okey)) &&& (n - 1)) hash (toI32 (h okey)) (rank ck) (rank okey) = 1
      · rw [if_pos hs1]
        -- swap: the carried pair takes the bucket, the displaced pair is carried on
        obtain ⟨inv', nt', hno', hov, hpo⟩ := putLoop_swap hi' inv nt hno hcv (by rw [hsz]; exact hpath) hk
        rw [hsz] at hpo
        have := ih (Value.nx n i) okey (slotAt st.data i).val (toI32 (h okey)) (((i + n - maphash n (h okey)) &&& (n - 1)) + 1)
          { st with data := st.data.setIfInBounds i ⟨some ck, cv⟩ } (by simpa using hsz) hsi inv' nt' hno' hov hpo
          ⟨e, hem', isEmpty_place_other hei hee⟩
        obtain ⟨r1, r2, r3, r4, r5, r6, r7⟩ := this
        refine ⟨r1, r2, r3, r4, r5, ?_, ?_⟩
        · rw [r6]
          show nLive (st.data.setIfInBounds i ⟨some ck, cv⟩) + 1 = _
          rw [nLive_place hi']
          have : isLive (slotAt st.data i) = true := by simp [isLive, hk]
          rw [if_pos this]
        · intro k v
          rw [r7 k v]
          show ((k = okey ∧ v = (slotAt st.data i).val) ∨ Ent (st.data.setIfInBounds i ⟨some ck, cv⟩) k v) ↔ _
          rw [ent_place hi', ent_split st.data i k v, hk]
          constructor
          · rintro (⟨e1, e2⟩ | e | ⟨x, hx⟩)
            · right; left; exact ⟨by rw [e1], e2.symm⟩
            · left; exact e
            · right; right; exact ⟨x, hx⟩
          · rintro (e | ⟨e1, e2⟩ | ⟨x, hx⟩)
            · right; left; exact e
            · left; exact ⟨by cases e1; rfl, e2.symm⟩
            · right; right; exact ⟨x, hx⟩
      · rw [if_neg hs1]
        by_cases hs0 : rhStatus dist ((i + n - maphash n (h okey)) &&& (n - 1)) hash (toI32 (h okey)) (rank ck) (rank okey) = 0
        · -- equal distance, hash and rank: the keys would be equal, but the carried key is not stored
          have := hr _ _ (rhStatus_zero hs0)
          rw [this] at hno
          exact absurd hk (hno i)
        · rw [if_neg hs0]
          exact ih (Value.nx n i) ck cv hash (dist + 1) st hsz hsi inv nt hno hcv (path_nx hi hine hpath) ⟨e, hem', hee⟩


/-- invariant of a struct under construction (`janet_struct_begin` .. `janet_struct_end`) -/
structure BInv (h : Nat → Nat) (st : StructB) : Prop where
  d : DInv h st.data
  nt : NoTomb st.data
  /-- the running count kept in the hash field = number of live buckets -/
  cnt : nLive st.data = st.filled
  /-- the bucket array was allocated for `length` entries -/
  room : st.length ≤ st.data.size

theorem nTomb_zero_of_noTomb {data : Array Slot} (nt : NoTomb data) : nTomb data = 0 := by
  unfold nTomb
  rw [Array.countP_eq_zero]
  intro a ha
  obtain ⟨i, hi, e⟩ := Array.mem_iff_getElem.mp ha
  have := nt i
  rw [slotAt_lt data i hi, e] at this
  intro ht
  simp only [isTomb, Bool.and_eq_true, Option.isNone_iff_eq_none, bne_iff_ne, ne_eq] at ht
  exact ht.2 (this ht.1)

theorem BInv.begin (h : Nat → Nat) (count : Nat) : BInv h (structBegin count) := by
  refine ⟨DInv.replicate h _, ?_, ?_, ?_⟩
  · intro i _
    show (slotAt (Array.replicate _ Slot.empty) i).val = vNil
    rw [slotAt_replicate]; rfl
  · exact nLive_replicate _
  · show count ≤ (Array.replicate (structCap count) Slot.empty).size
    have := tablen_gt (2 * count)
    simp only [Array.size_replicate, structCap]
    omega

theorem absent_iff_noEnt (data : Array Slot) (k : Nat) : (∀ x, (slotAt data x).key ≠ some k) ↔ ∀ v, ¬ Ent data k v := by
  constructor
  · rintro hno v ⟨x, hk, _⟩; exact hno x hk
  · intro hne x hk; exact hne _ ⟨x, hk, rfl⟩

theorem structPut_eq_loop (h : Nat → Nat) (rank : Nat → Nat) (replace : Bool) (st : StructB) (key : Nat) (v : Val)
    (hv : v ≠ vNil) (hroom : st.filled < st.length) (hpos : 0 < st.data.size) :
    structPut h rank replace st key v =
      structPutLoop h rank replace st.data.size (cyc st.data.size (maphash st.data.size (h key)) st.data.size)
        key v (toI32 (h key)) 0 st := by
  have hs := maphash_lt st.data.size (h key) hpos
  unfold structPut
  rw [if_neg hv, if_neg (by omega)]
  simp only []
  rw [← probeSeq_eq_cyc hs]
  rfl

theorem mem_cyc_all {n s x : Nat} (hs : s < n) (hx : x < n) : x ∈ cyc n s n := by
  rw [← probeSeq_eq_cyc hs]
  exact (mem_probeSeq (Nat.le_of_lt hs)).mpr hx

theorem BInv.exists_empty {h : Nat → Nat} {st : StructB} (inv : BInv h st) (hroom : st.filled < st.length) {s : Nat}
    (hs : s < st.data.size) : ∃ e, e ∈ cyc st.data.size s st.data.size ∧ (slotAt st.data e).isEmpty := by
  have hp := partition st.data
  have h1 := inv.cnt
  have h2 := nTomb_zero_of_noTomb inv.nt
  have h3 := inv.room
  obtain ⟨x, hx, he⟩ := Table.exists_empty (data := st.data) (by omega)
  exact ⟨x, mem_cyc_all hs hx, he⟩

/-- **`janet_struct_put_ext`** with a key that is not yet stored: one more entry, invariant kept -/
theorem structPut_spec (h : Nat → Nat) (rank : Nat → Nat) (hr : RankInj rank) (replace : Bool)
    (st : StructB) (key : Nat) (v : Val) (inv : BInv h st) (hno : ∀ x, (slotAt st.data x).key ≠ some key)
    (hv : v ≠ vNil) (hroom : st.filled < st.length) :
    BInv h (structPut h rank replace st key v) ∧ (structPut h rank replace st key v).filled = st.filled + 1 ∧
    (structPut h rank replace st key v).length = st.length ∧
    ∀ k v', Ent (structPut h rank replace st key v).data k v' ↔ ((k = key ∧ v' = v) ∨ Ent st.data k v') := by
  have hpos : 0 < st.data.size := by have := inv.room; omega
  have hs := maphash_lt st.data.size (h key) hpos
  rw [structPut_eq_loop h rank replace st key v hv hroom hpos]
  have hemp := inv.exists_empty hroom hs
  have hb : ∀ x, x < st.data.size → Btw (maphash st.data.size (h key)) (maphash st.data.size (h key)) x →
      ¬ (slotAt st.data x).isEmpty := by
    intro x _ hb
    unfold Btw at hb
    omega
  obtain ⟨r1, r2, r3, r4, r5, r6, r7⟩ := putLoop_spec h rank hr replace st.data.size st.data.size _ key v (toI32 (h key)) 0 st
    rfl hs inv.d inv.nt hno hv hb hemp
  refine ⟨⟨r2, r3, ?_, ?_⟩, r4, r5, r7⟩
  · rw [r6, r4, inv.cnt]
  · rw [r5, r1]; exact inv.room

/-- the `janet_struct_put` calls of a struct literal / `struct` / `struct/with-proto`: one per (key, value) argument -/
def putArgs (h : Nat → Nat) (rank : Nat → Nat) (b : StructB) (kvs : List (Nat × Val)) : StructB :=
  kvs.foldl (fun b kv => structPut h rank true b kv.1 kv.2) b

theorem structPut_nil (h : Nat → Nat) (rank : Nat → Nat) (replace : Bool) (st : StructB) (key : Nat) :
    structPut h rank replace st key vNil = st := by
  unfold structPut
  rw [if_pos rfl]

theorem putArgs_spec (h : Nat → Nat) (rank : Nat → Nat) (hr : RankInj rank) :
    ∀ (l : List (Nat × Val)) (b : StructB), BInv h b →
      l.Pairwise (fun s s' => s.1 ≠ s'.1) →
      (∀ s ∈ l, ∀ x, (slotAt b.data x).key ≠ some s.1) →
      b.filled + l.length ≤ b.length →
      BInv h (putArgs h rank b l) ∧ (putArgs h rank b l).length = b.length ∧
      (putArgs h rank b l).filled = b.filled + l.countP (fun s => s.2 != vNil) ∧
      ∀ k v, Ent (putArgs h rank b l).data k v ↔ (Ent b.data k v ∨ ((k, v) ∈ l ∧ v ≠ vNil)) := by
  intro l
  induction l with
  | nil =>
    intro b inv _ _ _
    refine ⟨inv, rfl, rfl, ?_⟩
    intro k v
    simp [putArgs]
  | cons s rest ih =>
    intro b inv hpw habs hlen
    have e : putArgs h rank b (s :: rest) = putArgs h rank (structPut h rank true b s.1 s.2) rest := by
      unfold putArgs
      rw [List.foldl_cons]
    rw [e, List.countP_cons]
    have hpw' := List.pairwise_cons.mp hpw
    simp only [List.length_cons] at hlen
    by_cases hv : s.2 = vNil
    · rw [hv, structPut_nil]
      obtain ⟨q1, q2, q3, q4⟩ := ih b inv hpw'.2 (fun s' hs' => habs s' (by simp [hs'])) (by omega)
      refine ⟨q1, q2, by rw [q3]; simp, ?_⟩
      intro k v
      rw [q4 k v]
      constructor
      · rintro (hb | ⟨hm, hn⟩)
        · left; exact hb
        · right; exact ⟨by simp [hm], hn⟩
      · rintro (hb | ⟨hm, hn⟩)
        · left; exact hb
        · rcases List.mem_cons.mp hm with c | c
          · rw [← c] at hv; exact absurd hv hn
          · right; exact ⟨c, hn⟩
    · obtain ⟨p1, p2, p3, p4⟩ := structPut_spec h rank hr true b s.1 s.2 inv (habs s (by simp)) hv (by omega)
      have habs' : ∀ s' ∈ rest, ∀ x, (slotAt (structPut h rank true b s.1 s.2).data x).key ≠ some s'.1 := by
        intro s' hs'
        rw [absent_iff_noEnt]
        intro v hent
        rcases (p4 s'.1 v).mp hent with ⟨ek, _⟩ | hent'
        · exact hpw'.1 s' hs' ek.symm
        · exact (absent_iff_noEnt _ _).mp (habs s' (by simp [hs'])) v hent'
      obtain ⟨q1, q2, q3, q4⟩ := ih (structPut h rank true b s.1 s.2) p1 hpw'.2 habs' (by rw [p2, p3]; omega)
      refine ⟨q1, by rw [q2, p3], by rw [q3, p2]; simp [hv]; omega, ?_⟩
      intro k v
      rw [q4 k v, p4 k v]
      constructor
      · rintro ((⟨ek, ev⟩ | hb) | ⟨hm, hn⟩)
        · right; refine ⟨by rw [ek, ev]; simp, by rw [ev]; exact hv⟩
        · left; exact hb
        · right; exact ⟨by simp [hm], hn⟩
      · rintro (hb | ⟨hm, hn⟩)
        · left; right; exact hb
        · rcases List.mem_cons.mp hm with c | c
          · left; left
            rw [← c]
            exact ⟨rfl, rfl⟩
          · right; exact ⟨c, hn⟩


/-- the entries of a bucket array in bucket order, as `janet_struct_put` arguments -/
def entries (data : Array Slot) : List (Nat × Val) := data.toList.filterMap fun s => s.key.map (·, s.val)

theorem mem_entries {data : Array Slot} {k : Nat} {v : Val} : (k, v) ∈ entries data ↔ Ent data k v := by
  unfold entries Ent
  rw [List.mem_filterMap]
  constructor
  · rintro ⟨s, hs, he⟩
    obtain ⟨j, _, e⟩ := (mem_toList_iff data s).mp hs
    cases hk : s.key with
    | none => rw [hk] at he; cases he
    | some k0 =>
      rw [hk] at he
      cases he
      exact ⟨j, by rw [e]; exact hk, by rw [e]⟩
  · rintro ⟨x, hk, hv⟩
    exact ⟨slotAt data x, (mem_toList_iff data _).mpr ⟨x, key_some_lt hk, rfl⟩, by rw [hk, hv]; rfl⟩

theorem entries_pairwise {h : Nat → Nat} {data : Array Slot} (inv : DInv h data) :
    (entries data).Pairwise (fun s s' => s.1 ≠ s'.1) := by
  unfold entries
  rw [List.pairwise_filterMap, List.pairwise_iff_getElem]
  intro a b ha hb hab p hp p' hp' e
  rw [toList_getElem] at hp hp'
  cases hk : (slotAt data a).key with
  | none => rw [hk] at hp; cases hp
  | some k =>
    cases hk' : (slotAt data b).key with
    | none => rw [hk'] at hp'; cases hp'
    | some k' =>
      rw [hk] at hp; rw [hk'] at hp'
      cases hp; cases hp'
      have := inv.nodup a b k hk (by rw [hk']; exact congrArg some e.symm)
      omega

theorem entries_length (data : Array Slot) : (entries data).length = nLive data := by
  unfold entries nLive
  rw [← Array.countP_toList, List.length_filterMap_eq_countP]
  exact List.countP_congr fun s _ => by rw [Option.isSome_map]; rfl

/-- the insertion loops of `janet_table_to_struct` / `janet_struct_end` -/
def putAll (h : Nat → Nat) (rank : Nat → Nat) (b : StructB) (l : List Slot) : StructB :=
  l.foldl (fun b kv => match kv.key with | some k => structPut h rank true b k kv.val | none => b) b

theorem putAll_live (h : Nat → Nat) (rank : Nat → Nat) (data : Array Slot) (b : StructB) :
    putAll h rank b (liveOf data) = putArgs h rank b (entries data) := by
  unfold liveOf entries
  generalize data.toList = l
  induction l generalizing b with
  | nil => rfl
  | cons a rest ih =>
    cases hk : a.key with
    | none =>
      simp only [List.filter, List.filterMap_cons, hk, Option.isSome_none, Option.map_none]
      exact ih b
    | some k =>
      simp only [List.filter, List.filterMap_cons, hk, Option.isSome_some, Option.map_some]
      unfold putAll putArgs
      rw [List.foldl_cons, List.foldl_cons, hk]
      exact ih _

theorem ent_replicate (n : Nat) (k : Nat) (v : Val) : ¬ Ent (Array.replicate n Slot.empty) k v :=
  fun ⟨x, hk, _⟩ => key_replicate n x k hk

theorem rawgetD_of_ent {h : Nat → Nat} {a b : Array Slot} (ia : DInv h a) (ib : DInv h b)
    (he : ∀ k v, Ent a k v ↔ Ent b k v) (k : Nat) : rawgetD h a k = rawgetD h b k := by
  by_cases c : ∃ i, (slotAt a i).key = some k
  · obtain ⟨i, hi⟩ := c
    obtain ⟨j, hj, hv⟩ := (he k _).mp ⟨i, hi, rfl⟩
    rw [rawgetD_hit ia hi, rawgetD_hit ib hj, hv]
  · have hno : ∀ i, (slotAt a i).key ≠ some k := fun i hi => c ⟨i, hi⟩
    have hnb : ∀ j, (slotAt b j).key ≠ some k := by
      intro j hj
      obtain ⟨i, hi, _⟩ := (he k _).mpr ⟨j, hj, rfl⟩
      exact hno i hi
    rw [rawgetD_miss hno, rawgetD_miss hnb]

/-- `janet_struct_begin(c)` and one `janet_struct_put` per live bucket of `data`, `c` the number of live buckets (the
loop of `janet_table_to_struct` and of the rebuild in `janet_struct_end`): every entry arrives, so the builder is full -/
theorem build_spec (h : Nat → Nat) (rank : Nat → Nat) (hr : RankInj rank) {data : Array Slot} (inv : DInv h data)
    {c : Nat} (hc : c = nLive data) :
    BInv h (putArgs h rank (structBegin c) (entries data)) ∧
    (putArgs h rank (structBegin c) (entries data)).filled = c ∧
    (putArgs h rank (structBegin c) (entries data)).length = c ∧
    ∀ k v, Ent (putArgs h rank (structBegin c) (entries data)).data k v ↔ Ent data k v := by
  have hlive : ∀ k v, Ent data k v → v ≠ vNil := fun k v ⟨x, hk, hv⟩ => hv ▸ inv.live x k hk
  obtain ⟨p1, p2, p3, p4⟩ := putArgs_spec h rank hr (entries data) (structBegin c) (BInv.begin h c) (entries_pairwise inv)
    (fun s _ x => key_replicate _ x s.1) (by show 0 + (entries data).length ≤ c; rw [entries_length]; omega)
  refine ⟨p1, ?_, p2, fun k v => ?_⟩
  · rw [p3, List.countP_eq_length.mpr fun s hs => by simpa using hlive s.1 s.2 (mem_entries.mp hs), entries_length]
    show 0 + nLive data = c
    omega
  · rw [p4 k v, mem_entries]
    constructor
    · rintro (hb | hb)
      · exact absurd hb (ent_replicate _ k v)
      · exact hb.1
    · intro hb; right; exact ⟨hb, hlive k v hb⟩

/-- `janet_struct_end` on a builder that received every announced entry: no rebuild -/
theorem structEnd_full (h : Nat → Nat) (rank : Nat → Nat) {b : StructB} (hf : b.filled = b.length) :
    structEnd h rank b = { length := b.length, data := b.data } := by
  unfold structEnd
  rw [if_neg fun c => c hf]

/-- **`janet_table_to_struct` establishes the struct invariant and keeps the map** — for every table whose bucket
array satisfies `DInv` and whose `count` field is the number of live buckets, every hash function, and every
`janet_compare` ranking that separates distinct keys -/
theorem toStruct_spec (h : Nat → Nat) (rank : Nat → Nat) (hr : RankInj rank) (t : Table)
    (inv : DInv h t.data) (hc : t.count = nLive t.data) :
    SInv h (t.toStruct h rank) ∧ (t.toStruct h rank).length = t.count ∧ (t.toStruct h rank).proto = none ∧
    (∀ k v, Ent (t.toStruct h rank).data k v ↔ Ent t.data k v) ∧
    (∀ k, (t.toStruct h rank).rawget h k = t.rawget h k) ∧
    nLive (t.toStruct h rank).data = (t.toStruct h rank).length := by
  obtain ⟨p1, p2, p3, p4⟩ := build_spec h rank hr inv hc
  have e : t.toStruct h rank = { length := (putArgs h rank (structBegin t.count) (entries t.data)).length,
                                 data := (putArgs h rank (structBegin t.count) (entries t.data)).data } := by
    show structEnd h rank (putAll h rank (structBegin t.count) (liveOf t.data)) = _
    rw [putAll_live]
    exact structEnd_full h rank (p2.trans p3.symm)
  rw [e]
  have si : SInv h { length := (putArgs h rank (structBegin t.count) (entries t.data)).length,
                     data := (putArgs h rank (structBegin t.count) (entries t.data)).data } := ⟨p1.d, p1.nt⟩
  refine ⟨si, p3, rfl, p4, fun k => ?_, p1.cnt.trans (p2.trans p3.symm)⟩
  rw [struct_rawget_eq_dict si k, rawget_eq_rawgetD]
  exact rawgetD_of_ent si.d inv p4 k

/-- `struct/with-proto` over the entries of a struct = `janet_table_to_struct` over the same bucket array -/
theorem withProto_eq (h : Nat → Nat) (rank : Nat → Nat) (s : Struct) (p : Option Nat) :
    s.withProto h rank p =
      { (Table.toStruct h rank { count := s.length, deleted := 0, data := s.data }) with proto := p } := rfl

theorem foldl_updKV_filter (l : List Slot) (m : Nat → Val) :
    (l.filter (·.key.isSome)).foldl updKV m = l.foldl updKV m := by
  induction l generalizing m with
  | nil => rfl
  | cons a rest ih =>
    cases hk : a.key with
    | none =>
      have : updKV m a = m := by unfold updKV; rw [hk]
      simp only [List.filter, hk, Option.isSome_none, List.foldl_cons, this]
      exact ih m
    | some k =>
      simp only [List.filter, hk, Option.isSome_some, List.foldl_cons]
      exact ih _


/-- **`janet_struct_end`**: from a struct under construction satisfying `BInv` — whether or not every announced entry
arrived (nil values and NaN / nil keys are skipped by `janet_struct_put`, the struct is then rebuilt with the
entries that went in) — the result satisfies the struct invariant, holds exactly the entries of the builder, and its
`length` is the number of live buckets -/
theorem structEnd_spec (h : Nat → Nat) (rank : Nat → Nat) (hr : RankInj rank) (b : StructB)
    (inv : BInv h b) :
    SInv h (structEnd h rank b) ∧ (∀ k v, Ent (structEnd h rank b).data k v ↔ Ent b.data k v) ∧
    (structEnd h rank b).length = b.filled ∧ nLive (structEnd h rank b).data = (structEnd h rank b).length ∧
    (structEnd h rank b).proto = none := by
  by_cases c : b.filled ≠ b.length
  · obtain ⟨p1, p2, p3, p4⟩ := build_spec h rank hr inv.d inv.cnt.symm
    have e : structEnd h rank b = { length := (putArgs h rank (structBegin b.filled) (entries b.data)).length,
                                    data := (putArgs h rank (structBegin b.filled) (entries b.data)).data } := by
      unfold structEnd
      rw [if_pos c]
      show (⟨(putAll h rank (structBegin b.filled) (liveOf b.data)).length,
        (putAll h rank (structBegin b.filled) (liveOf b.data)).data, none⟩ : Struct) = _
      rw [putAll_live]
    rw [e]
    exact ⟨⟨p1.d, p1.nt⟩, p4, p3, p1.cnt.trans (p2.trans p3.symm), rfl⟩
  · have hfl : b.filled = b.length := Decidable.not_not.mp c
    rw [structEnd_full h rank hfl]
    refine ⟨⟨inv.d, inv.nt⟩, fun _ _ => Iff.rfl, hfl.symm, ?_, rfl⟩
    show nLive b.data = b.length
    rw [inv.cnt, hfl]

/-- **a struct literal with pairwise distinct keys** (`janet_struct_begin(n)`, at most `n` × `janet_struct_put` — pairs
with a nil / NaN key are skipped by the caller's loop —, `janet_struct_end`): struct invariant, and its entries are exactly the arguments with a non-nil value -/
theorem structLiteral_spec (h : Nat → Nat) (rank : Nat → Nat) (hr : RankInj rank)
    (kvs : List (Nat × Val)) (hd : kvs.Pairwise (fun s s' => s.1 ≠ s'.1)) (n : Nat) (hn : kvs.length ≤ n) :
    SInv h (structEnd h rank (putArgs h rank (structBegin n) kvs)) ∧
    (∀ k v, Ent (structEnd h rank (putArgs h rank (structBegin n) kvs)).data k v ↔ ((k, v) ∈ kvs ∧ v ≠ vNil)) ∧
    nLive (structEnd h rank (putArgs h rank (structBegin n) kvs)).data =
      (structEnd h rank (putArgs h rank (structBegin n) kvs)).length := by
  obtain ⟨p1, _, _, p4⟩ := putArgs_spec h rank hr kvs (structBegin n) (BInv.begin h n) hd
    (fun s _ x => key_replicate _ x s.1)
    (by show 0 + kvs.length ≤ n; omega)
  have r := structEnd_spec h rank hr _ p1
  refine ⟨r.1, ?_, r.2.2.2.1⟩
  intro k v
  rw [r.2.1 k v, p4 k v]
  constructor
  · rintro (hb | hb)
    · exact absurd hb (ent_replicate _ k v)
    · exact hb
  · intro hb; right; exact hb

end JanetModel.Table
