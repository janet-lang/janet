/- C03 — the iterative `janet_equals` / `janet_compare` (explicit traversal stack, Value/Traverse.lean) compute the
   recursive definitions of Value/Model.lean, for every well-formed value (any depth, any width).

   Method: both loops are `loopG` over an algebra `Den` (`cmpDen`: `jcompare`, `then`; `eqDen`: `equals`, `&&`); a denotation
   of the stack (`restD`: what the frames still have to compare, top first, combined by the algebra's operation), a frame
   invariant (`FrameOK`), and the loop invariant
       loopG visit D.stop fuel x y st = some (D.op (D.pair x y) (restD D st))
   for any fuel above the number of nodes still to visit. -/
import JanetModel.Value.Traverse
import JanetModel.Value.Order

set_option linter.unusedSimpArgs false

namespace JanetModel.Value.Traverse
open JanetModel.Gen.Value JanetModel.Value

variable {N : Type}

mutual
/-- well-formed values: a struct's slot array has `janet_tablen(2 * length)` slots (janet_struct_begin / the rebuild of
    janet_struct_end), i.e. `flat` has twice that many entries, and at most one prototype -/
def WFv : JVal N → Prop
  | .tuple _ xs => WFl xs
  | .struct f p => f.length = 2 * tablen (2 * structLength f) ∧ p.length ≤ 1 ∧ WFl f ∧ WFl p
  | _ => True
def WFl : List (JVal N) → Prop
  | [] => True
  | x :: xs => WFv x ∧ WFl xs
end

theorem WFl_drop : ∀ (xs : List (JVal N)) (i : Nat), WFl xs → WFl (xs.drop i)
  | [], i, _ => by simp [WFl]
  | _ :: _, 0, h => by simpa using h
  | _ :: xs, i + 1, h => by
      simp only [List.drop_succ_cons]
      exact WFl_drop xs i (by simp only [WFl] at h; exact h.2)

theorem WFl_getD : ∀ (xs : List (JVal N)) (i : Nat), WFl xs → WFv (xs.getD i .nil)
  | [], i, _ => by simp [WFv]
  | _ :: _, 0, h => by simp only [WFl] at h; simpa using h.1
  | _ :: xs, i + 1, h => by
      simp only [List.getD_cons_succ]
      exact WFl_getD xs i (by simp only [WFl] at h; exact h.2)

theorem weight_pos (x : JVal N) : 0 < weight x := by
  cases x <;> simp [weight] <;> omega

theorem then_assoc (a b c : Ordering) : (a.then b).then c = a.then (b.then c) := by
  cases a <;> rfl

section
variable [NumLike N]

theorem equalsList_cons (a b : JVal N) (as bs : List (JVal N)) :
    equalsList (a :: as) (b :: bs) = (equals a b && equalsList as bs) := by
  simp only [equalsList]


/-- `cmp = true`: frames pushed by janet_compare (tuple frames carry the length flag); `cmp = false`: frames pushed by
    janet_equals (tuples of equal length, prototypes both present or both absent) -/
def FrameOK (cmp : Bool) : Frame N → Prop
  | .tup xs ys i i2 => i ≤ xs.length ∧ i ≤ ys.length ∧ (if cmp then i2 = true else xs.length = ys.length) ∧ WFl xs ∧ WFl ys
  | .str f1 p1 f2 p2 i i2 =>
      f1.length = f2.length ∧ f1.length % 2 = 0 ∧ (i2 = true → 2 * i + 1 < f1.length) ∧ p1.length ≤ 1 ∧ p2.length ≤ 1 ∧
      (cmp = false → p1.isEmpty = p2.isEmpty) ∧ WFl f1 ∧ WFl f2 ∧ WFl p1 ∧ WFl p2

def StackOK (cmp : Bool) : List (Frame N) → Prop
  | [] => True
  | f :: st => FrameOK cmp f ∧ StackOK cmp st

def frameCmp : Frame N → Ordering
  | .tup xs ys i _ => compareList (xs.drop i) (ys.drop i)
  | .str f1 p1 f2 p2 i i2 =>
      (compareList (f1.drop (2 * i + i2.toNat)) (f2.drop (2 * i + i2.toNat))).then (compareList p1 p2)

def restCmp : List (Frame N) → Ordering
  | [] => .eq
  | f :: st => (frameCmp f).then (restCmp st)

end

def frameW : Frame N → Nat
  | .tup xs _ i _ => weightL (xs.drop i)
  | .str f1 p1 _ _ i i2 => weightL (f1.drop (2 * i + i2.toNat)) + weightL p1

def stackW : List (Frame N) → Nat
  | [] => 0
  | f :: st => frameW f + stackW st

section
variable [NumLike N] {α : Type}

/-- what the two loops compute, as one algebra: the result for a pair and for two lists, its combination with what remains
    to be compared (`then` / `&&`), the neutral result, the result for an exit status of `traversal_next` -/
structure Den (N α : Type) where
  pair : JVal N → JVal N → α
  list : List (JVal N) → List (JVal N) → α
  op : α → α → α
  one : α
  stop : Nat → α
  op_assoc : ∀ a b c, op (op a b) c = op a (op b c)
  one_op : ∀ a, op one a = a
  list_nil : list [] [] = one
  list_cons : ∀ a b as bs, list (a :: as) (b :: bs) = op (pair a b) (list as bs)
  stop_two : stop 2 = one

def cmpDen : Den N Ordering :=
  ⟨jcompare, compareList, Ordering.then, .eq, statusOrd, then_assoc, fun _ => rfl, rfl, compareList_cons, rfl⟩

def eqDen : Den N Bool :=
  ⟨equals, equalsList, and, true, fun _ => true, Bool.and_assoc, Bool.true_and, rfl, equalsList_cons, rfl⟩

def frameD (D : Den N α) : Frame N → α
  | .tup xs ys i _ => D.list (xs.drop i) (ys.drop i)
  | .str f1 p1 f2 p2 i i2 => D.op (D.list (f1.drop (2 * i + i2.toNat)) (f2.drop (2 * i + i2.toNat))) (D.list p1 p2)

def restD (D : Den N α) : List (Frame N) → α
  | [] => D.one
  | f :: st => D.op (frameD D f) (restD D st)

theorem restCmp_eq : ∀ st : List (Frame N), restCmp st = restD cmpDen st
  | [] => rfl
  | .tup .. :: st => congrArg _ (restCmp_eq st)
  | .str .. :: st => congrArg _ (restCmp_eq st)

/-- what one call of `traversal_next` does to the denotation of the stack -/
def NextSpec (D : Den N α) (cmp : Bool) (st : List (Frame N)) : Next N → Prop
  | .found x y st' => restD D st = D.op (D.pair x y) (restD D st') ∧ StackOK cmp st' ∧ WFv x ∧ WFv y ∧
      weight x + stackW st' ≤ stackW st
  | .stop s => restD D st = D.stop s

theorem NextSpec.push {D : Den N α} {cmp : Bool} {f : Frame N} {st : List (Frame N)} (hf : frameD D f = D.one) :
    ∀ {r : Next N}, NextSpec D cmp st r → NextSpec D cmp (f :: st) r
  | .found .., h => ⟨by rw [restD, hf, D.one_op]; exact h.1, h.2.1, h.2.2.1, h.2.2.2.1, Nat.le_trans h.2.2.2.2 (Nat.le_add_left ..)⟩
  | .stop _, h => by rw [NextSpec, restD, hf, D.one_op]; exact h

/-- a mismatch of lengths / prototypes only occurs in frames pushed by janet_compare (`hmis`: there it decides the comparison) -/
theorem next_spec (D : Den N α) (cmp : Bool)
    (hmis : cmp = true → (∀ x xs r, D.op (D.list (x :: xs) []) r = D.stop 3) ∧ (∀ y ys r, D.op (D.list [] (y :: ys)) r = D.stop 1)) :
    ∀ (st : List (Frame N)), StackOK cmp st → NextSpec D cmp st (traversalNext st)
  | [], _ => D.stop_two.symm
  | .tup xs ys i i2 :: st, hok => by
    obtain ⟨⟨hix, hiy, hi2, hwx, hwy⟩, hst⟩ := hok
    simp only [traversalNext]
    by_cases h1 : i < xs.length ∧ i < ys.length
    · rw [if_pos h1]
      simp only [NextSpec, restD, frameD, stackW, frameW]
      rw [Util.drop_eq_getD_cons (l := xs) (i := i) h1.1 .nil, Util.drop_eq_getD_cons (l := ys) (i := i) h1.2 .nil, D.list_cons, D.op_assoc]
      refine ⟨rfl, ⟨⟨by omega, by omega, hi2, hwx, hwy⟩, hst⟩, WFl_getD xs i hwx, WFl_getD ys i hwy, ?_⟩
      simp only [weightL]; omega
    · rw [if_neg h1]
      by_cases h2 : i2 = true ∧ xs.length ≠ ys.length
      · rw [if_pos h2]
        have hc : cmp = true := by
          cases cmp with
          | true => rfl
          | false => exact absurd hi2 h2.2
        simp only [NextSpec, restD, frameD]
        by_cases h3 : xs.length > ys.length
        · rw [if_pos h3, List.drop_eq_nil_of_le (as := ys) (by omega), Util.drop_eq_getD_cons (l := xs) (i := i) (by omega) .nil]
          exact (hmis hc).1 _ _ _
        · rw [if_neg h3, List.drop_eq_nil_of_le (as := xs) (by omega), Util.drop_eq_getD_cons (l := ys) (i := i) (by omega) .nil]
          exact (hmis hc).2 _ _ _
      · rw [if_neg h2]
        have hlen : xs.length = ys.length := by
          cases cmp with
          | false => exact hi2
          | true => exact Classical.byContradiction fun e => h2 ⟨hi2, e⟩
        refine NextSpec.push ?_ (next_spec D cmp hmis st hst)
        rw [frameD, List.drop_eq_nil_of_le (as := xs) (by omega), List.drop_eq_nil_of_le (as := ys) (by omega), D.list_nil]
  | .str f1 p1 f2 p2 i i2 :: st, hok => by
    obtain ⟨⟨hlen, hev, hi2, hp1, hp2, hpe, hw1, hw2, hwp1, hwp2⟩, hst⟩ := hok
    simp only [traversalNext]
    by_cases h1 : i2 = true
    · rw [if_pos h1]
      have hlt := hi2 h1
      subst h1
      simp only [NextSpec, restD, frameD, stackW, frameW, Bool.toNat_true, Bool.toNat_false, Nat.add_zero]
      rw [Util.drop_eq_getD_cons (l := f1) (i := 2 * i + 1) hlt .nil, Util.drop_eq_getD_cons (l := f2) (i := 2 * i + 1) (by omega) .nil, D.list_cons,
        show 2 * i + 1 + 1 = 2 * (i + 1) by omega]
      simp only [D.op_assoc]
      refine ⟨trivial, ⟨⟨hlen, hev, by simp, hp1, hp2, hpe, hw1, hw2, hwp1, hwp2⟩, hst⟩,
        WFl_getD f1 _ hw1, WFl_getD f2 _ hw2, ?_⟩
      simp only [weightL]; omega
    · rw [if_neg h1]
      have h1' : i2 = false := by cases i2 <;> simp_all
      subst h1'
      by_cases h2 : i < f1.length / 2
      · rw [if_pos h2]
        simp only [NextSpec, restD, frameD, stackW, frameW, Bool.toNat_true, Bool.toNat_false, Nat.add_zero]
        rw [Util.drop_eq_getD_cons (l := f1) (i := 2 * i) (by omega) .nil, Util.drop_eq_getD_cons (l := f2) (i := 2 * i) (by omega) .nil, D.list_cons]
        simp only [D.op_assoc]
        refine ⟨trivial, ⟨⟨hlen, hev, fun _ => by omega, hp1, hp2, hpe, hw1, hw2, hwp1, hwp2⟩, hst⟩,
          WFl_getD f1 _ hw1, WFl_getD f2 _ hw2, ?_⟩
        simp only [weightL]; omega
      · rw [if_neg h2]
        -- the slots are exhausted: the frame stands for its prototypes
        have hfr : frameD D (.str f1 p1 f2 p2 i false) = D.list p1 p2 := by
          rw [frameD, Bool.toNat_false, Nat.add_zero, List.drop_eq_nil_of_le (as := f1) (by omega),
            List.drop_eq_nil_of_le (as := f2) (by omega), D.list_nil, D.one_op]
        match p1, p2, hp1, hp2, hwp1, hwp2, hpe, hfr with
        | a :: r1, [], _, _, _, _, hpe, hfr =>
          have hc : cmp = true := by
            cases cmp with
            | true => rfl
            | false => exact absurd (hpe rfl) (by simp)
          simp only [NextSpec, restD, hfr]
          exact (hmis hc).1 _ _ _
        | [], b :: r2, _, _, _, _, hpe, hfr =>
          have hc : cmp = true := by
            cases cmp with
            | true => rfl
            | false => exact absurd (hpe rfl) (by simp)
          simp only [NextSpec, restD, hfr]
          exact (hmis hc).2 _ _ _
        | a :: r1, b :: r2, hp1, hp2, hwp1, hwp2, _, hfr =>
          have e1 : r1 = [] := by cases r1 with | nil => rfl | cons _ _ => simp at hp1
          have e2 : r2 = [] := by cases r2 with | nil => rfl | cons _ _ => simp at hp2
          subst e1; subst e2
          simp only [NextSpec, restD, hfr, D.list_cons, D.list_nil, D.op_assoc, D.one_op, stackW, frameW]
          simp only [WFl] at hwp1 hwp2
          refine ⟨trivial, hst, hwp1.1, hwp2.1, ?_⟩
          simp only [weightL]; omega
        | [], [], _, _, _, _, _, hfr =>
          exact NextSpec.push (hfr.trans D.list_nil) (next_spec D cmp hmis st hst)

end

section
variable [NumLike N] {α : Type}

/-- the shape both loops have: the `switch` on the current pair, then `traversal_next` -/
def loopG (visit : JVal N → JVal N → List (Frame N) → Visit α N) (stop : Nat → α) :
    Nat → JVal N → JVal N → List (Frame N) → Option α
  | 0, _, _, _ => none
  | fuel + 1, x, y, st =>
    match visit x y st with
    | .ret r => some r
    | .go st' =>
      match traversalNext st' with
      | .found x' y' st'' => loopG visit stop fuel x' y' st''
      | .stop s => some (stop s)

theorem compareLoop_eq : ∀ (fuel : Nat) (x y : JVal N) (st : List (Frame N)),
    compareLoop fuel x y st = loopG visitCompare statusOrd fuel x y st
  | 0, _, _, _ => rfl
  | fuel + 1, x, y, st => by
    rw [compareLoop, loopG]
    cases visitCompare x y st with
    | ret r => rfl
    | go st' =>
      simp only []
      cases traversalNext st' with
      | found x' y' st'' => exact compareLoop_eq fuel x' y' st''
      | stop s => rfl

theorem equalsLoop_eq : ∀ (fuel : Nat) (x y : JVal N) (st : List (Frame N)),
    equalsLoop fuel x y st = loopG visitEquals (fun _ => true) fuel x y st
  | 0, _, _, _ => rfl
  | fuel + 1, x, y, st => by
    rw [equalsLoop, loopG]
    cases visitEquals x y st with
    | ret r => rfl
    | go st' =>
      simp only []
      cases traversalNext st' with
      | found x' y' st'' => exact equalsLoop_eq fuel x' y' st''
      | stop s => rfl

/-- what the `switch` has to do with the current pair (`e` its recursive result, `w` its weight): return the result of the
    whole comparison, or leave a stack that stands for it and is lighter than the pair and the old stack together -/
def VisitSpec (D : Den N α) (cmp : Bool) (e : α) (w : Nat) (st : List (Frame N)) : Visit α N → Prop
  | .ret r => r = D.op e (restD D st)
  | .go st' => StackOK cmp st' ∧ restD D st' = D.op e (restD D st) ∧ stackW st' < w + stackW st

/-- an early return of the `switch`: the guard also decides the recursive result, the value absorbs whatever remains -/
theorem VisitSpec.guard {D : Den N α} {cmp : Bool} {e : α} {w : Nat} {st : List (Frame N)} {g : Prop} [Decidable g] {r : α}
    {v : Visit α N} (hr : ∀ a, D.op r a = r) (h : ¬ g → VisitSpec D cmp e w st v) :
    VisitSpec D cmp (if g then r else e) w st (if g then .ret r else v) := by
  by_cases hg : g
  · rw [if_pos hg, if_pos hg]; exact (hr _).symm
  · rw [if_neg hg, if_neg hg]; exact h hg

theorem loopG_spec (D : Den N α) (cmp : Bool)
    (hmis : cmp = true → (∀ x xs r, D.op (D.list (x :: xs) []) r = D.stop 3) ∧ (∀ y ys r, D.op (D.list [] (y :: ys)) r = D.stop 1))
    {visit : JVal N → JVal N → List (Frame N) → Visit α N}
    (hvisit : ∀ x y st, StackOK cmp st → WFv x → WFv y → VisitSpec D cmp (D.pair x y) (weight x) st (visit x y st)) :
    ∀ (fuel : Nat) (x y : JVal N) (st : List (Frame N)), StackOK cmp st → WFv x → WFv y → weight x + stackW st < fuel →
      loopG visit D.stop fuel x y st = some (D.op (D.pair x y) (restD D st))
  | 0, _, _, _, _, _, _, h => by omega
  | fuel + 1, x, y, st, hst, hx, hy, hw => by
    have hv := hvisit x y st hst hx hy
    rw [loopG]
    cases hvis : visit x y st with
    | ret r => rw [hvis] at hv; exact congrArg some hv
    | go st' =>
      rw [hvis] at hv
      obtain ⟨hok, hr, hlt⟩ := hv
      have hn := next_spec D cmp hmis st' hok
      simp only []
      cases hnx : traversalNext st' with
      | found x' y' st'' =>
        rw [hnx] at hn
        simp only []
        rw [loopG_spec D cmp hmis hvisit fuel x' y' st'' hn.2.1 hn.2.2.1 hn.2.2.2.1 (by have := hn.2.2.2.2; omega), ← hn.1, hr]
      | stop s =>
        rw [hnx] at hn
        simp only []
        rw [← hr]; exact congrArg some hn.symm

theorem jcompare_tuple_ite (br1 br2 : Bool) (xs ys : List (JVal N)) :
    jcompare (.tuple br1 xs) (.tuple br2 ys) = if br1 != br2 then (if br1 then .gt else .lt) else compareList xs ys := by
  simp only [jcompare]

theorem jcompare_struct_ite (f1 p1 f2 p2 : List (JVal N)) :
    jcompare (.struct f1 p1) (.struct f2 p2) =
      if f1.length / 2 < f2.length / 2 then .lt
      else if f1.length / 2 > f2.length / 2 then .gt
      else match sCompare (hash (.struct f1 p1 : JVal N)) (hash (.struct f2 p2 : JVal N)) with
        | .lt => .lt
        | .gt => .gt
        | .eq => (compareList f1 f2).then (compareList p1 p2) := by
  simp only [jcompare]
  by_cases h1 : f1.length / 2 < f2.length / 2
  · simp only [h1, if_true]
  · simp only [h1, if_false]
    by_cases h2 : f1.length / 2 > f2.length / 2
    · simp only [h2, if_true]
    · simp only [h2, if_false]
      cases sCompare (hash (.struct f1 p1 : JVal N)) (hash (.struct f2 p2 : JVal N)) with
      | lt => rfl
      | gt => rfl
      | eq => simp only []; cases compareList f1 f2 <;> rfl

theorem visitCompare_spec (x y : JVal N) (st : List (Frame N)) (hst : StackOK true st) (hx : WFv x) (hy : WFv y) :
    VisitSpec cmpDen true (jcompare x y) (weight x) st (visitCompare x y st) := by
  have hwx := weight_pos x
  unfold visitCompare
  split
  · next br1 xs br2 ys =>
    simp only [WFv] at hx hy
    rw [jcompare_tuple_ite]
    refine .guard (fun _ => by cases br1 <;> rfl) fun _ => ⟨⟨⟨Nat.zero_le _, Nat.zero_le _, rfl, hx, hy⟩, hst⟩, rfl, ?_⟩
    simp only [stackW, frameW, List.drop_zero, weight]; omega
  · next f1 p1 f2 p2 =>
    simp only [WFv] at hx hy
    rw [jcompare_struct_ite]
    refine .guard (fun _ => rfl) fun h1 => .guard (fun _ => rfl) fun h2 => ?_
    cases sCompare (hash (.struct f1 p1 : JVal N)) (hash (.struct f2 p2 : JVal N)) with
    | lt => exact (rfl : Ordering.lt = _)
    | gt => exact (rfl : Ordering.gt = _)
    | eq =>
      refine ⟨⟨⟨by omega, by omega, by simp, hx.2.1, hy.2.1, by simp, hx.2.2.1, hy.2.2.1, hx.2.2.2, hy.2.2.2⟩, hst⟩, rfl, ?_⟩
      simp only [stackW, frameW, Bool.toNat_false, Nat.add_zero, Nat.mul_zero, List.drop_zero, weight]; omega
  · cases jcompare x y with
    | lt => exact (rfl : Ordering.lt = _)
    | gt => exact (rfl : Ordering.gt = _)
    | eq => exact ⟨hst, rfl, by omega⟩

theorem equals_tuple (br1 br2 : Bool) (xs ys : List (JVal N)) :
    equals (.tuple br1 xs) (.tuple br2 ys) =
      if br1 != br2 then false else if tupleHash xs != tupleHash ys then false
      else if xs.length != ys.length then false else equalsList xs ys := by
  simp only [equals]

theorem equals_struct (f1 p1 f2 p2 : List (JVal N)) :
    equals (.struct f1 p1) (.struct f2 p2) =
      if hash (.struct f1 p1 : JVal N) != hash (.struct f2 p2 : JVal N) then false
      else if structLength f1 != structLength f2 then false
      else if !p1.isEmpty && p2.isEmpty then false
      else if p1.isEmpty && !p2.isEmpty then false
      else equalsList f1 f2 && equalsList p1 p2 := by
  simp only [equals]

theorem visitEquals_spec (x y : JVal N) (st : List (Frame N)) (hst : StackOK false st) (hx : WFv x) (hy : WFv y) :
    VisitSpec eqDen false (equals x y) (weight x) st (visitEquals x y st) := by
  have hwx := weight_pos x
  unfold visitEquals
  split
  · next br1 xs br2 ys =>
    simp only [WFv] at hx hy
    rw [equals_tuple]
    refine .guard (fun _ => rfl) fun _ => .guard (fun _ => rfl) fun _ => .guard (fun _ => rfl) fun hl => ?_
    have hl' : xs.length = ys.length := by simpa using hl
    refine ⟨⟨⟨Nat.zero_le _, Nat.zero_le _, hl', hx, hy⟩, hst⟩, rfl, ?_⟩
    simp only [stackW, frameW, List.drop_zero, weight]; omega
  · next f1 p1 f2 p2 =>
    simp only [WFv] at hx hy
    rw [equals_struct]
    refine .guard (fun _ => rfl) fun _ => .guard (fun _ => rfl) fun hl => .guard (fun _ => rfl) fun hq1 =>
      .guard (fun _ => rfl) fun hq2 => ?_
    have hl' : structLength f1 = structLength f2 := by simpa using hl
    have hpe : p1.isEmpty = p2.isEmpty := by
      cases h1 : p1.isEmpty <;> cases h2 : p2.isEmpty <;> simp_all
    have hlen : f1.length = f2.length := by rw [hx.1, hy.1, hl']
    refine ⟨⟨⟨hlen, by omega, by simp, hx.2.1, hy.2.1, fun _ => hpe, hx.2.2.1, hy.2.2.1, hx.2.2.2, hy.2.2.2⟩, hst⟩, rfl, ?_⟩
    simp only [stackW, frameW, Bool.toNat_false, Nat.add_zero, Nat.mul_zero, List.drop_zero, weight]; omega
  · cases equals x y with
    | false => exact (rfl : false = _)
    | true => exact ⟨hst, rfl, by omega⟩

/-- **loop invariant of `janet_compare`**: from any reachable state the loop returns the recursive comparison of the
    current pair, then (lexicographically) what the stack still holds -/
theorem compareLoop_spec (fuel : Nat) (x y : JVal N) (st : List (Frame N)) (hst : StackOK true st) (hx : WFv x) (hy : WFv y)
    (hw : weight x + stackW st < fuel) : compareLoop fuel x y st = some ((jcompare x y).then (restCmp st)) := by
  rw [compareLoop_eq, restCmp_eq]
  exact loopG_spec cmpDen true (fun _ => ⟨fun _ _ _ => rfl, fun _ _ _ => rfl⟩) visitCompare_spec fuel x y st hst hx hy hw

/-- **`janet_compare` by the explicit traversal stack is the recursive `jcompare`**, for all well-formed values (nested
    tuples and structs of any depth and width); the fuel `weight x + 1` the executable version starts with always suffices -/
theorem compareIter_eq (x y : JVal N) (hx : WFv x) (hy : WFv y) : compareIter x y = some (jcompare x y) := by
  unfold compareIter
  rw [compareLoop_spec (weight x + 1) x y [] trivial hx hy (by simp [stackW])]
  cases jcompare x y <;> rfl

/-- **`janet_equals` by the explicit traversal stack is the recursive `equals`**, for all well-formed values.  The statuses
    1 and 3 of `traversal_next` cannot occur there (equal lengths and prototype presence were checked before the push), so
    the C's `return 1` after ANY non-zero status is right -/
theorem equalsIter_eq (x y : JVal N) (hx : WFv x) (hy : WFv y) : equalsIter x y = some (equals x y) := by
  unfold equalsIter
  rw [equalsLoop_eq]
  exact (loopG_spec eqDen false (fun h => nomatch h) visitEquals_spec _ x y [] trivial hx hy (by simp [stackW])).trans
    (congrArg some (Bool.and_true _))

end
end JanetModel.Value.Traverse
