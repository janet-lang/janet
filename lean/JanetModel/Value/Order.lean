/- C03 — three-way comparisons (`Tri`, closed under lexicographic products), the comparisons of naturals, integers, numbers
   and byte strings, and what `jcompare` does on each form of input. -/
import JanetModel.Value.Lemmas

namespace JanetModel.Value
open JanetModel.Gen.Value


/-- the results of comparing a–b, b–c, a–c are consistent with a total preorder -/
def Tri (ab bc ac : Ordering) : Prop :=
  (ab ≠ .gt → bc ≠ .gt → ac ≠ .gt) ∧ (ab = .lt → bc ≠ .gt → ac = .lt) ∧ (ab ≠ .gt → bc = .lt → ac = .lt) ∧
  (ab = .eq → bc = .eq → ac = .eq)

theorem Tri.then' {o1 o2 o3 r1 r2 r3 : Ordering} (h : Tri o1 o2 o3)
    (hr : o1 = .eq → o2 = .eq → o3 = .eq → Tri r1 r2 r3) : Tri (o1.then r1) (o2.then r2) (o3.then r3) := by
  cases o1 <;> cases o2 <;> cases o3 <;>
    first
    | exact hr rfl rfl rfl
    | (simp [Tri, Ordering.then] at h ⊢)

theorem Tri.congr {ab ba ac bc : Ordering} (hab : ab = .eq) (hba : ba = .eq) (t1 : Tri ab bc ac) (t2 : Tri ba ac bc) :
    ac = bc := by
  cases h1 : bc with
  | lt => exact t1.2.2.1 (by rw [hab]; decide) h1
  | eq => exact t1.2.2.2 hab h1
  | gt =>
    cases h2 : ac with
    | lt => rw [t2.2.2.1 (by rw [hba]; decide) h2] at h1; cases h1
    | eq => rw [t2.2.2.2 hba h2] at h1; cases h1
    | gt => rfl

theorem Tri.comm {x y w : Ordering} (h : Tri x y w) : Tri y x w :=
  ⟨fun a b => h.1 b a, fun a b => h.2.2.1 b a, fun a b => h.2.1 b a, fun a b => h.2.2.2 b a⟩

theorem Tri.le_trans {ab bc ac : Ordering} (t : Tri ab bc ac) (h1 : (ab != .gt) = true) (h2 : (bc != .gt) = true) :
    (ac != .gt) = true :=
  bne_iff_ne.mpr (t.1 (bne_iff_ne.mp h1) (bne_iff_ne.mp h2))

theorem eq_of_le_of_swap_le {c c' : Ordering} (hs : c' = c.swap) (h1 : (c != .gt) = true) (h2 : (c' != .gt) = true) : c = .eq := by
  subst hs
  cases c with
  | lt => cases h2
  | eq => rfl
  | gt => cases h1

theorem le_or_swap_le {c c' : Ordering} (hs : c' = c.swap) : (c != .gt) = true ∨ (c' != .gt) = true := by
  subst hs; cases c <;> decide

theorem ops_agree {c c' : Ordering} {e : Bool} (hs : c' = c.swap) (he : c = .eq ↔ e = true) :
    (c == .gt) = (c' == .lt) ∧ (c != .lt) = (c' != .gt) ∧ (c != .gt) = (c == .lt || e) ∧
    (c == .lt) = !(c != .lt) := by
  subst hs
  cases c <;> cases e <;> simp_all <;> decide

theorem then_match (o r : Ordering) : (match o with | .lt => .lt | .gt => .gt | .eq => r) = o.then r := by
  cases o <;> rfl

/-- comparison of two naturals, written with `<` only -/
def natCmp (a b : Nat) : Ordering := if a < b then .lt else if b < a then .gt else .eq

theorem natCmp_swap (a b : Nat) : natCmp b a = (natCmp a b).swap := by
  unfold natCmp; split <;> split <;> simp <;> omega

theorem natCmp_eq_iff (a b : Nat) : natCmp a b = .eq ↔ a = b := by
  unfold natCmp; split <;> (try split) <;> simp <;> omega

theorem natCmp_lt_iff (a b : Nat) : natCmp a b = .lt ↔ a < b := by
  unfold natCmp; split <;> (try split) <;> simp <;> omega

theorem natCmp_gt_iff (a b : Nat) : natCmp a b = .gt ↔ b < a := by
  unfold natCmp; split <;> (try split) <;> simp <;> omega

theorem natCmp_sub {a b x : Nat} (ha : a ≤ x) (hb : b ≤ x) : natCmp (x - a) (x - b) = (natCmp a b).swap := by
  rcases Nat.lt_trichotomy a b with h | h | h
  · rw [(natCmp_lt_iff a b).mpr h, (natCmp_gt_iff _ _).mpr (by omega)]; rfl
  · subst h; rw [(natCmp_eq_iff a a).mpr rfl, (natCmp_eq_iff _ _).mpr rfl]; rfl
  · rw [(natCmp_gt_iff a b).mpr h, (natCmp_lt_iff _ _).mpr (by omega)]; rfl

theorem then_natCmp_self {a b : Nat} {c : Ordering} (h : a ≠ b → c = natCmp a b) : c = (natCmp a b).then c := by
  by_cases e : a = b
  · rw [e, (natCmp_eq_iff _ _).mpr rfl]; rfl
  · rw [h e]; cases natCmp a b <;> rfl

theorem tri_natCmp (a b c : Nat) : Tri (natCmp a b) (natCmp b c) (natCmp a c) := by
  simp only [Tri, ne_eq, natCmp_lt_iff, natCmp_gt_iff, natCmp_eq_iff]
  omega

def intCmp (a b : Int) : Ordering := if a < b then .lt else if b < a then .gt else .eq

theorem intCmp_swap (a b : Int) : intCmp b a = (intCmp a b).swap := by
  unfold intCmp; split <;> split <;> simp <;> omega

theorem intCmp_eq_iff (a b : Int) : intCmp a b = .eq ↔ a = b := by
  unfold intCmp; split <;> (try split) <;> simp <;> omega

theorem intCmp_lt_iff (a b : Int) : intCmp a b = .lt ↔ a < b := by
  unfold intCmp; split <;> (try split) <;> simp <;> omega

theorem intCmp_gt_iff (a b : Int) : intCmp a b = .gt ↔ b < a := by
  unfold intCmp; split <;> (try split) <;> simp <;> omega

theorem tri_intCmp (a b c : Int) : Tri (intCmp a b) (intCmp b c) (intCmp a c) := by
  simp only [Tri, ne_eq, intCmp_lt_iff, intCmp_gt_iff, intCmp_eq_iff]
  omega

variable {N : Type} [NumLike N]

theorem ref_tag_ne (k : RefKind) : k.tag ≠ 0 ∧ k.tag ≠ 1 ∧ k.tag ≠ 2 ∧ k.tag ≠ 4 ∧ k.tag ≠ 5 ∧ k.tag ≠ 6 ∧ k.tag ≠ 8 ∧ k.tag ≠ 10 := by
  cases k <;> decide

theorem RefKind.tag_inj (k1 k2 : RefKind) (h : k1.tag = k2.tag) : k1 = k2 := by
  cases k1 <;> cases k2 <;> first | rfl | (exact absurd h (by decide))

theorem sCompare_eq (a b : UInt32) : sCompare a b = intCmp (sInt a) (sInt b) := by
  unfold sCompare intCmp
  rw [Int.compare_eq_ite_lt]

theorem compare_nat_eq (a b : Nat) : compare a b = natCmp a b := by
  unfold natCmp; rw [Nat.compare_eq_ite_lt]

theorem jcompare_tuple (b1 b2 : Bool) (xs ys : List (JVal N)) :
    jcompare (.tuple b1 xs) (.tuple b2 ys) = (natCmp b1.toNat b2.toNat).then (compareList xs ys) := by
  cases b1 <;> cases b2 <;> simp [jcompare, natCmp, Ordering.then]

theorem jcompare_struct (f1 p1 f2 p2 : List (JVal N)) :
    jcompare (.struct f1 p1) (.struct f2 p2) =
      (natCmp (f1.length / 2) (f2.length / 2)).then
        ((intCmp (sInt (hash (.struct f1 p1))) (sInt (hash (.struct f2 p2)))).then
          ((compareList f1 f2).then (compareList p1 p2))) := by
  simp only [jcompare, sCompare_eq]
  unfold natCmp
  split
  · rfl
  · split
    · simp [Ordering.then]
    · have : ¬ (f2.length / 2 < f1.length / 2) := by omega
      simp only [this, if_false, Ordering.then]
      cases intCmp (sInt (hash (JVal.struct f1 p1))) (sInt (hash (JVal.struct f2 p2))) <;> simp
      cases compareList f1 f2 <;> simp

theorem compareList_cons (x y : JVal N) (xs ys : List (JVal N)) :
    compareList (x :: xs) (y :: ys) = (jcompare x y).then (compareList xs ys) := by
  simp only [compareList]
  cases jcompare x y <;> rfl

theorem jcompare_ref (k1 k2 : RefKind) (b1 b2 : UInt64) :
    jcompare (.ref k1 b1 : JVal N) (.ref k2 b2) = (natCmp k1.tag k2.tag).then (natCmp b1.toNat b2.toNat) := by
  simp only [jcompare, natCmp]
  by_cases h : k1.tag = k2.tag
  · simp [h, Ordering.then]
    by_cases h2 : b1 = b2
    · simp [h2]
    · have : b1.toNat ≠ b2.toNat := fun e => h2 (UInt64.toNat_inj.mp e)
      simp only [h2, if_false, gt_iff_lt, UInt64.lt_iff_toNat_lt]
      by_cases h3 : b2.toNat < b1.toNat
      · have : ¬ b1.toNat < b2.toNat := by omega
        simp [h3, this]
      · have : b1.toNat < b2.toNat := by omega
        simp [h3, this]
  · simp only [bne_iff_ne, ne_eq, h, not_false_eq_true, if_true]
    by_cases h3 : k1.tag < k2.tag
    · simp [h3, Ordering.then]
    · have : k2.tag < k1.tag := by omega
      simp [h3, this, Ordering.then]

theorem jcompare_bool (a b : Bool) : jcompare (.bool a : JVal N) (.bool b) = natCmp a.toNat b.toNat := by
  simp only [jcompare, compare_nat_eq]

/-- number comparison as written in janet_compare -/
def numCmp (a b : N) : Ordering := if NumLike.eq a b then .eq else if NumLike.lt a b then .lt else .gt

theorem jcompare_num (a b : N) : jcompare (.num a) (.num b) = numCmp a b := by simp [jcompare, numCmp]


theorem swap_then' (o r : Ordering) : (o.then r).swap = o.swap.then r.swap := by cases o <;> rfl
theorem then_eq_iff (o r : Ordering) : o.then r = .eq ↔ o = .eq ∧ r = .eq := by cases o <;> simp [Ordering.then]

theorem bytesCompare_cons (a b : UInt8) (as bs : List UInt8) :
    bytesCompare (a :: as) (b :: bs) = (natCmp a.toNat b.toNat).then (bytesCompare as bs) := by
  simp only [bytesCompare, natCmp, UInt8.lt_iff_toNat_lt]
  split
  · rfl
  · split <;> rfl

theorem bytesCompare_swap : ∀ a b : List UInt8, bytesCompare b a = (bytesCompare a b).swap
  | [], [] => rfl
  | [], _ :: _ => rfl
  | _ :: _, [] => rfl
  | a :: as, b :: bs => by
      rw [bytesCompare_cons, bytesCompare_cons, swap_then', natCmp_swap, bytesCompare_swap as bs]

theorem bytesCompare_eq_iff : ∀ a b : List UInt8, bytesCompare a b = .eq ↔ a = b
  | [], [] => by simp [bytesCompare]
  | [], _ :: _ => by simp [bytesCompare]
  | _ :: _, [] => by simp [bytesCompare]
  | a :: as, b :: bs => by
      rw [bytesCompare_cons, then_eq_iff, natCmp_eq_iff, bytesCompare_eq_iff as bs]
      simp [UInt8.toNat_inj]

theorem tri_bytes : ∀ a b c : List UInt8, Tri (bytesCompare a b) (bytesCompare b c) (bytesCompare a c)
  | [], [], [] => by simp [bytesCompare, Tri]
  | [], [], _ :: _ => by simp [bytesCompare, Tri]
  | [], _ :: _, [] => by simp [bytesCompare, Tri]
  | [], _ :: _, _ :: _ => by simp [bytesCompare, Tri]
  | _ :: _, [], [] => by simp [bytesCompare, Tri]
  | _ :: _, [], _ :: _ => by simp [bytesCompare, Tri]
  | _ :: _, _ :: _, [] => by simp [bytesCompare, Tri]
  | a :: as, b :: bs, c :: cs => by
      rw [bytesCompare_cons, bytesCompare_cons, bytesCompare_cons]
      exact Tri.then' (tri_natCmp _ _ _) (fun _ _ _ => tri_bytes as bs cs)

variable [LawfulNum N]

theorem numCmp_swap (a b : N) : numCmp b a = (numCmp a b).swap := by
  unfold numCmp
  rw [LawfulNum.eq_symm b a]
  by_cases h : NumLike.eq a b = true
  · simp [h]
  · simp only [h, if_false, Bool.false_eq_true]
    simp only [Bool.not_eq_true] at h
    by_cases h2 : NumLike.lt a b = true
    · simp [h2, LawfulNum.lt_asymm a b h2]
    · simp only [Bool.not_eq_true] at h2
      simp [h2, LawfulNum.lt_total a b h h2]

omit [LawfulNum N] in
theorem numCmp_eq_iff (a b : N) : numCmp a b = .eq ↔ NumLike.eq a b = true := by
  unfold numCmp; split <;> (try split) <;> simp_all

theorem numCmp_lt_iff (a b : N) : numCmp a b = .lt ↔ NumLike.lt a b = true := by
  unfold numCmp
  by_cases h : NumLike.eq a b = true
  · simp only [h, if_true]
    constructor
    · intro h'; cases h'
    · intro h2; have := LawfulNum.lt_not_eq a b h2; simp_all
  · simp only [h, if_false, Bool.false_eq_true]; split <;> simp_all

theorem numCmp_gt_iff (a b : N) : numCmp a b = .gt ↔ NumLike.lt b a = true := by
  rw [← numCmp_lt_iff b a, numCmp_swap a b]; cases numCmp a b <;> simp

theorem numCmp_ne_gt_iff (a b : N) : numCmp a b ≠ .gt ↔ NumLike.lt b a = false := by
  rw [ne_eq, numCmp_gt_iff]; simp

theorem num_trichotomy (a b : N) (h : NumLike.lt b a = false) : NumLike.eq a b = true ∨ NumLike.lt a b = true := by
  by_cases he : NumLike.eq a b = true
  · exact Or.inl he
  · simp only [Bool.not_eq_true] at he
    by_cases hl : NumLike.lt a b = true
    · exact Or.inr hl
    · simp only [Bool.not_eq_true] at hl
      have := LawfulNum.lt_total a b he hl
      simp_all

theorem tri_num (a b c : N) : Tri (numCmp a b) (numCmp b c) (numCmp a c) := by
  simp only [Tri, numCmp_ne_gt_iff, numCmp_lt_iff, numCmp_eq_iff]
  refine ⟨?_, ?_, ?_, ?_⟩
  · intro h1 h2
    cases hca : NumLike.lt c a
    · rfl
    · exfalso
      rcases num_trichotomy a b h1 with he | hl
      · rw [LawfulNum.lt_congr_right a b c he] at hca; simp_all
      · have := LawfulNum.lt_trans c a b hca hl; simp_all
  · intro h1 h2
    rcases num_trichotomy b c h2 with he | hl
    · rw [← LawfulNum.lt_congr_right b c a he]; exact h1
    · exact LawfulNum.lt_trans a b c h1 hl
  · intro h1 h2
    rcases num_trichotomy a b h1 with he | hl
    · rw [LawfulNum.lt_congr_left a b c he]; exact h2
    · exact LawfulNum.lt_trans a b c hl h2
  · exact LawfulNum.eq_trans a b c

/-- closes a goal whose hypothesis `h` equates the type tags of two different constructors -/
macro "tagelim " h:ident : tactic =>
  `(tactic| (simp only [JVal.typeTag, tyNumber, tyNil, tyBoolean, tyString, tySymbol, tyKeyword, tyTuple, tyStruct] at $h:ident;
             first | exact absurd $h (by decide) | (have hk := ref_tag_ne ‹RefKind›; omega)))

end JanetModel.Value
