/- C03 — the leaves of value.c are lawful (`LawfulLeaf (Leaf N)`) when the numbers are (`LawfulNum N`) and the hooks of every
   abstract type are (`LawfulAbstract`): janet_compare_abstract is then "type pointer first, then the hook (or the address)",
   a lexicographic total preorder whose equality the hash hook respects. -/
import JanetModel.Value.AbstractLemmas

namespace JanetModel.Value
open JanetModel.Gen.Value

/-- LAWFUL HOOKS.  For every abstract type with a compare hook `f`: the sign of `f` is a total preorder on payloads
    (antisymmetric as a three-way comparison, transitive), and the type has a hash hook that gives `f`-equal payloads the same
    hash.  (A type with a compare hook and NO hash hook would hash two `f`-equal objects by their addresses: not lawful.) -/
class LawfulAbstract [AbsHeap] : Prop where
  cmp_swap : ∀ t f, (AbsHeap.hooks t).compare = some f → ∀ p q, ordOfInt (f q p) = (ordOfInt (f p q)).swap
  cmp_tri : ∀ t f, (AbsHeap.hooks t).compare = some f → ∀ p q r, Tri (ordOfInt (f p q)) (ordOfInt (f q r)) (ordOfInt (f p r))
  hash_congr : ∀ t f, (AbsHeap.hooks t).compare = some f →
    ∃ h, (AbsHeap.hooks t).hash = some h ∧ ∀ p q, f p q = 0 → h p = h q

theorem ordOfInt_eq_iff (d : Int) : ordOfInt d = .eq ↔ d = 0 := by
  unfold ordOfInt; split <;> (try split) <;> simp <;> omega

theorem then_of_ne_eq (o r : Ordering) (h : o ≠ .eq) : o.then r = o := by cases o <;> simp_all [Ordering.then]

section abs
variable [AbsHeap]

/-- what janet_compare_abstract does once the type pointers agree: the compare hook, or the address order -/
def absRest (a b : UInt64) : Ordering :=
  match (AbsHeap.hooks (AbsHeap.tyOf a)).compare with
  | none => natCmp a.toNat b.toNat
  | some f => ordOfInt (f (AbsHeap.payload a) (AbsHeap.payload b))

variable [LawfulAbstract]

theorem hook_refl (t : Nat) (f) (h : (AbsHeap.hooks t).compare = some f) (p : AbsHeap.Payload) : f p p = 0 := by
  have := LawfulAbstract.cmp_swap t f h p p
  rw [← ordOfInt_eq_iff]
  cases hc : ordOfInt (f p p) <;> simp_all

/-- janet_compare_abstract is lexicographic: type pointer, then hook / address.  In particular the first statement
    `if (xx == yy) return 0` never changes the result (the hook of a lawful type is reflexive). -/
theorem cmpAbs_then (a b : UInt64) :
    ordOfInt (compareAbstract a b) = (natCmp (AbsHeap.tyOf a) (AbsHeap.tyOf b)).then (absRest a b) := by
  unfold compareAbstract
  by_cases hab : a = b
  · subst hab
    simp only [beq_self_eq_true, if_true]
    rw [(natCmp_eq_iff _ _).mpr rfl]
    simp only [Ordering.then, absRest]
    cases hh : (AbsHeap.hooks (AbsHeap.tyOf a)).compare with
    | none => simp [(natCmp_eq_iff _ _).mpr rfl, ordOfInt]
    | some f => simp only; rw [hook_refl _ f hh]
  · have hab' : (a == b) = false := by simp [hab]
    simp only [hab', Bool.false_eq_true, if_false]
    by_cases ht : AbsHeap.tyOf a = AbsHeap.tyOf b
    · simp only [ht, bne_self_eq_false, Bool.false_eq_true, if_false]
      rw [(natCmp_eq_iff _ _).mpr rfl]
      simp only [Ordering.then, absRest, ht]
      cases hh : (AbsHeap.hooks (AbsHeap.tyOf b)).compare with
      | some f => rfl
      | none =>
        simp only
        have hne : a.toNat ≠ b.toNat := fun e => hab (UInt64.toNat_inj.mp e)
        by_cases hgt : a > b
        · have : b.toNat < a.toNat := UInt64.lt_iff_toNat_lt.mp hgt
          simp [hgt, ordOfInt, (natCmp_gt_iff _ _).mpr this]
        · have : a.toNat < b.toNat := by
            have : ¬ b.toNat < a.toNat := fun h => hgt (UInt64.lt_iff_toNat_lt.mpr h)
            omega
          simp [hgt, ordOfInt, (natCmp_lt_iff _ _).mpr this]
    · have ht' : (AbsHeap.tyOf a != AbsHeap.tyOf b) = true := by simp [ht]
      simp only [ht', if_true]
      by_cases hgt : AbsHeap.tyOf a > AbsHeap.tyOf b
      · simp [hgt, ordOfInt, (natCmp_gt_iff _ _).mpr hgt, Ordering.then]
      · have : AbsHeap.tyOf a < AbsHeap.tyOf b := by omega
        simp [hgt, ordOfInt, (natCmp_lt_iff _ _).mpr this, Ordering.then]

theorem absRest_swap (a b : UInt64) (ht : AbsHeap.tyOf a = AbsHeap.tyOf b) : absRest b a = (absRest a b).swap := by
  unfold absRest
  rw [← ht]
  cases hh : (AbsHeap.hooks (AbsHeap.tyOf a)).compare with
  | none => exact natCmp_swap _ _
  | some f => exact LawfulAbstract.cmp_swap _ f hh _ _

theorem cmpAbs_swap (a b : UInt64) : ordOfInt (compareAbstract b a) = (ordOfInt (compareAbstract a b)).swap := by
  rw [cmpAbs_then, cmpAbs_then, swap_then', ← natCmp_swap]
  by_cases ht : AbsHeap.tyOf a = AbsHeap.tyOf b
  · rw [absRest_swap a b ht]
  · have : natCmp (AbsHeap.tyOf b) (AbsHeap.tyOf a) ≠ .eq := fun e => ht ((natCmp_eq_iff _ _).mp e).symm
    rw [then_of_ne_eq _ _ this, then_of_ne_eq _ _ this]

theorem cmpAbs_tri (a b c : UInt64) :
    Tri (ordOfInt (compareAbstract a b)) (ordOfInt (compareAbstract b c)) (ordOfInt (compareAbstract a c)) := by
  rw [cmpAbs_then, cmpAbs_then, cmpAbs_then]
  refine Tri.then' (tri_natCmp _ _ _) (fun h1 h2 _ => ?_)
  have hab := (natCmp_eq_iff _ _).mp h1
  have hbc := (natCmp_eq_iff _ _).mp h2
  unfold absRest
  rw [← hab]
  cases hh : (AbsHeap.hooks (AbsHeap.tyOf a)).compare with
  | none => exact tri_natCmp _ _ _
  | some f => exact LawfulAbstract.cmp_tri _ f hh _ _ _

/-- equal abstracts (janet_compare_abstract = 0) hash alike -/
theorem eqAbs_hash (a b : UInt64) (h : compareAbstract a b = 0) : hashAbstract a = hashAbstract b := by
  by_cases hab : a = b
  · rw [hab]
  · have h' := (ordOfInt_eq_iff _).mpr h
    rw [cmpAbs_then, then_eq_iff, natCmp_eq_iff] at h'
    obtain ⟨ht, hr⟩ := h'
    unfold absRest at hr
    cases hh : (AbsHeap.hooks (AbsHeap.tyOf a)).compare with
    | none =>
      rw [hh] at hr
      exact absurd (UInt64.toNat_inj.mp ((natCmp_eq_iff _ _).mp hr)) hab
    | some f =>
      rw [hh] at hr
      obtain ⟨hf, hhash, hc⟩ := LawfulAbstract.hash_congr _ f hh
      unfold hashAbstract
      rw [← ht, hhash]
      exact hc _ _ ((ordOfInt_eq_iff _).mp hr)

end abs


variable {N : Type}

theorem Leaf.tag_ne' (a : Leaf N) : a.tag ≠ tyTuple ∧ a.tag ≠ tyStruct := by
  cases a <;> simp only [Leaf.tag] <;>
    first | decide | exact ⟨(ref_tag_ne _).2.2.2.2.2.2.1, (ref_tag_ne _).2.2.2.2.2.2.2⟩

/-- leaves with the same type tag are built by the same constructor -/
theorem sameTagLeaf_cases {motive : Leaf N → Leaf N → Prop} (a b : Leaf N) (h : a.tag = b.tag)
    (num : ∀ x y, motive (.num x) (.num y)) (nil : motive .nil .nil) (bool : ∀ x y, motive (.bool x) (.bool y))
    (str : ∀ x y, motive (.str x) (.str y)) (sym : ∀ x y, motive (.sym x) (.sym y)) (kw : ∀ x y, motive (.kw x) (.kw y))
    (ref : ∀ k b1 b2, motive (.ref k b1) (.ref k b2)) (abs : ∀ x y, motive (.abs x) (.abs y)) : motive a b := by
  cases a <;> cases b <;>
    simp only [Leaf.tag, tyNumber, tyNil, tyBoolean, tyString, tySymbol, tyKeyword, tyAbstract] at h <;>
    first
    | (exact absurd h (by decide))
    | apply num | exact nil | apply bool | apply str | apply sym | apply kw | apply abs
    | (rename_i k1 _ k2 _; have := RefKind.tag_inj k1 k2 h; subst this; apply ref)
    | (have hk := ref_tag_ne ‹RefKind›; have : RefKind.tag ‹RefKind› ≠ 14 := by cases ‹RefKind› <;> decide
       omega)

variable [NumLike N] [AbsHeap]

/-- different constructors fall through to the last case of `Leaf.cmp`, which is `natCmp` of the tags; equal constructors
    other than `ref` have equal tags -/
theorem Leaf.cmp_tag' (a b : Leaf N) (h : a.tag ≠ b.tag) : Leaf.cmp a b = natCmp a.tag b.tag := by
  cases a <;> cases b <;> first | exact absurd rfl h | rfl | skip
  rename_i k1 b1 k2 b2
  have h' : k1.tag ≠ k2.tag := h
  show (if k1.tag != k2.tag then (if k1.tag < k2.tag then Ordering.lt else .gt) else _) = natCmp k1.tag k2.tag
  rw [if_pos (bne_iff_ne.mpr h'), natCmp]
  by_cases h3 : k1.tag < k2.tag
  · rw [if_pos h3, if_pos h3]
  · rw [if_neg h3, if_neg h3, if_pos (by omega)]

theorem Leaf.cmp_tag_then (a b : Leaf N) : Leaf.cmp a b = (natCmp a.tag b.tag).then (Leaf.cmp a b) :=
  then_natCmp_self (Leaf.cmp_tag' a b)

theorem Leaf.cmp_ref (k1 k2 : RefKind) (b1 b2 : UInt64) :
    Leaf.cmp (.ref k1 b1 : Leaf N) (.ref k2 b2) = (natCmp k1.tag k2.tag).then (natCmp b1.toNat b2.toNat) := by
  have := jcompare_ref (N := N) k1 k2 b1 b2
  simpa [jcompare, Leaf.cmp] using this

theorem Leaf.eq_tag' (a b : Leaf N) (h : Leaf.eq a b = true) : a.tag = b.tag := by
  cases a <;> cases b <;> first | rfl | cases h | skip
  rename_i k1 _ k2 _
  have h' : (k1 == k2 && _) = true := h
  rw [Bool.and_eq_true, beq_iff_eq] at h'
  exact congrArg RefKind.tag h'.1

theorem Leaf.eq_isNil' (a b : Leaf N) (h : Leaf.eq a b = true) : a.isNil = b.isNil :=
  sameTagLeaf_cases (motive := fun a b => a.isNil = b.isNil) a b (Leaf.eq_tag' a b h)
    (fun _ _ => rfl) rfl (fun _ _ => rfl) (fun _ _ => rfl) (fun _ _ => rfl) (fun _ _ => rfl) (fun _ _ _ => rfl) (fun _ _ => rfl)

variable [LawfulNum N] [LawfulAbstract]

theorem Leaf.cmp_swap' (a b : Leaf N) : Leaf.cmp b a = (Leaf.cmp a b).swap := by
  by_cases h : a.tag = b.tag
  · refine sameTagLeaf_cases (motive := fun a b => Leaf.cmp b a = (Leaf.cmp a b).swap) a b h ?_ ?_ ?_ ?_ ?_ ?_ ?_ ?_
    · intro x y; simp only [Leaf.cmp]; exact numCmp_swap x y
    · rfl
    · intro x y; simp only [Leaf.cmp, compare_nat_eq]; exact natCmp_swap _ _
    · intro x y; simp only [Leaf.cmp]; exact bytesCompare_swap x y
    · intro x y; simp only [Leaf.cmp]; exact bytesCompare_swap x y
    · intro x y; simp only [Leaf.cmp]; exact bytesCompare_swap x y
    · intro k b1 b2; rw [Leaf.cmp_ref, Leaf.cmp_ref, swap_then', natCmp_swap b1.toNat, ← natCmp_swap k.tag]
    · intro x y; simp only [Leaf.cmp]; exact cmpAbs_swap x y
  · rw [Leaf.cmp_tag' a b h, Leaf.cmp_tag' b a (Ne.symm h), natCmp_swap]

omit [LawfulNum N] [LawfulAbstract] in
theorem Leaf.cmp_eq_iff' (a b : Leaf N) : Leaf.cmp a b = .eq ↔ Leaf.eq a b = true := by
  by_cases h : a.tag = b.tag
  · refine sameTagLeaf_cases (motive := fun a b => Leaf.cmp a b = .eq ↔ Leaf.eq a b = true) a b h ?_ ?_ ?_ ?_ ?_ ?_ ?_ ?_
    · intro x y; simp only [Leaf.cmp, Leaf.eq]; exact numCmp_eq_iff x y
    · simp [Leaf.cmp, Leaf.eq]
    · intro x y; simp only [Leaf.cmp, Leaf.eq, compare_nat_eq, natCmp_eq_iff]; cases x <;> cases y <;> simp
    · intro x y; simp only [Leaf.cmp, Leaf.eq, bytesCompare_eq_iff, bytesEqual_eq, beq_iff_eq]
    · intro x y; simp only [Leaf.cmp, Leaf.eq, bytesCompare_eq_iff, beq_iff_eq]
    · intro x y; simp only [Leaf.cmp, Leaf.eq, bytesCompare_eq_iff, beq_iff_eq]
    · intro k b1 b2
      rw [Leaf.cmp_ref, then_eq_iff, natCmp_eq_iff, natCmp_eq_iff]
      simp [Leaf.eq, UInt64.toNat_inj]
    · intro x y; simp only [Leaf.cmp, Leaf.eq, ordOfInt_eq_iff, beq_iff_eq]
  · rw [Leaf.cmp_tag' a b h]
    have h1 : natCmp a.tag b.tag ≠ .eq := fun e => h ((natCmp_eq_iff _ _).mp e)
    have h2 : Leaf.eq a b ≠ true := fun e => h (Leaf.eq_tag' a b e)
    simp [h1, h2]

/-- closes a goal whose hypothesis equates the type tags of two different leaf constructors -/
macro "leaftagelim " h:ident : tactic =>
  `(tactic| (simp only [Leaf.tag, tyNumber, tyNil, tyBoolean, tyString, tySymbol, tyKeyword, tyAbstract] at $h:ident;
             first | exact absurd $h (by decide)
                   | (have hk := ref_tag_ne ‹RefKind›; have : RefKind.tag ‹RefKind› ≠ 14 := by cases ‹RefKind› <;> decide
                      omega)))

theorem Leaf.cmp_tri' (a b c : Leaf N) : Tri (Leaf.cmp a b) (Leaf.cmp b c) (Leaf.cmp a c) := by
  rw [Leaf.cmp_tag_then a b, Leaf.cmp_tag_then b c, Leaf.cmp_tag_then a c]
  refine Tri.then' (tri_natCmp _ _ _) ?_
  intro h1 h2 _
  have hab := (natCmp_eq_iff _ _).mp h1
  have hbc := (natCmp_eq_iff _ _).mp h2
  clear h1 h2
  revert hbc
  refine sameTagLeaf_cases (motive := fun a b => b.tag = c.tag → Tri (Leaf.cmp a b) (Leaf.cmp b c) (Leaf.cmp a c)) a b hab
    ?_ ?_ ?_ ?_ ?_ ?_ ?_ ?_
  · intro x y hbc
    cases c <;> first | leaftagelim hbc | skip
    simp only [Leaf.cmp]; exact tri_num _ _ _
  · intro hbc
    cases c <;> first | leaftagelim hbc | skip
    simp [Leaf.cmp, Tri]
  · intro x y hbc
    cases c <;> first | leaftagelim hbc | skip
    simp only [Leaf.cmp, compare_nat_eq]; exact tri_natCmp _ _ _
  · intro x y hbc
    cases c <;> first | leaftagelim hbc | skip
    simp only [Leaf.cmp]; exact tri_bytes _ _ _
  · intro x y hbc
    cases c <;> first | leaftagelim hbc | skip
    simp only [Leaf.cmp]; exact tri_bytes _ _ _
  · intro x y hbc
    cases c <;> first | leaftagelim hbc | skip
    simp only [Leaf.cmp]; exact tri_bytes _ _ _
  · intro k b1 b2 hbc
    cases c <;> first | leaftagelim hbc | skip
    simp only [Leaf.cmp_ref]
    exact Tri.then' (tri_natCmp _ _ _) (fun _ _ _ => tri_natCmp _ _ _)
  · intro x y hbc
    cases c <;> first | leaftagelim hbc | skip
    simp only [Leaf.cmp]; exact cmpAbs_tri _ _ _

theorem Leaf.eq_hash' (a b : Leaf N) (h : Leaf.eq a b = true) : Leaf.hash a = Leaf.hash b := by
  have ht := Leaf.eq_tag' a b h
  revert h
  refine sameTagLeaf_cases (motive := fun a b => Leaf.eq a b = true → Leaf.hash a = Leaf.hash b) a b ht ?_ ?_ ?_ ?_ ?_ ?_ ?_ ?_
  · intro x y h; simp only [Leaf.hash, LawfulNum.eq_norm x y h]
  · intro _; rfl
  · intro x y h; rw [beq_iff_eq.mp h]
  · intro x y h; rw [Leaf.eq, bytesEqual_eq] at h; rw [beq_iff_eq.mp h]
  · intro x y h; rw [beq_iff_eq.mp h]
  · intro x y h; rw [beq_iff_eq.mp h]
  · intro k b1 b2 h
    simp only [Leaf.eq, Bool.and_eq_true, beq_iff_eq] at h
    rw [h.2]
  · intro x y h; exact eqAbs_hash x y (beq_iff_eq.mp h)

/-- the leaves of value.c, with lawful numbers and lawful abstract hooks, are lawful -/
instance : LawfulLeaf (Leaf N) where
  tag_ne := Leaf.tag_ne'
  cmp_tag := Leaf.cmp_tag'
  cmp_swap := Leaf.cmp_swap'
  cmp_tri := Leaf.cmp_tri'
  cmp_eq_iff := Leaf.cmp_eq_iff'
  eq_hash := Leaf.eq_hash'
  eq_isNil := Leaf.eq_isNil'
  eq_tag := Leaf.eq_tag'

end JanetModel.Value
