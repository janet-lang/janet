/- C03 — the slot array built by `janet_struct_put` is a function of the key/value map alone:
   the robin-hood ordering invariant `RH` and its preservation by `putLoop` (cyclic index arithmetic: Probe/Cyclic.lean). -/
import JanetModel.Value.Laws
import JanetModel.Value.Struct
import JanetModel.Probe.Cyclic

namespace JanetModel.Value
open JanetModel.Gen.Value


variable {N : Type} [NumLike N]

theorem putStatus_then (d1 d2 : Nat) (h1 h2 : UInt32) (a b : JVal N) :
    putStatus d1 d2 h1 h2 a b = (natCmp d1 d2).then ((intCmp (sInt h1) (sInt h2)).then (jcompare a b)) := by
  unfold putStatus natCmp intCmp
  split
  · rfl
  · split
    · rfl
    · simp only [Ordering.then]
      split
      · rfl
      · split <;> rfl

theorem putStatus_eq_cmp {d od : Nat} {h oh : UInt32} {a b : JVal N} (e : putStatus d od h oh a b = .eq) :
    jcompare a b = .eq := by
  rw [putStatus_then, then_eq_iff, then_eq_iff] at e
  exact e.2.2

variable [LawfulNum N]

theorem putStatus_swap (d1 d2 : Nat) (h1 h2 : UInt32) (a b : JVal N) :
    putStatus d2 d1 h2 h1 b a = (putStatus d1 d2 h1 h2 a b).swap := by
  rw [putStatus_then, putStatus_then, swap_then', swap_then', natCmp_swap, intCmp_swap, jcompare_swap]

theorem putStatus_tri (d1 d2 d3 : Nat) (h1 h2 h3 : UInt32) (a b c : JVal N) :
    Tri (putStatus d1 d2 h1 h2 a b) (putStatus d2 d3 h2 h3 b c) (putStatus d1 d3 h1 h3 a c) := by
  rw [putStatus_then, putStatus_then, putStatus_then]
  exact Tri.then' (tri_natCmp _ _ _) (fun _ _ _ => Tri.then' (tri_intCmp _ _ _) (fun _ _ _ => jcompare_tri a b c))

theorem putStatus_gt_trans {d1 d2 d3 : Nat} {h1 h2 h3 : UInt32} {a b c : JVal N}
    (hab : putStatus d1 d2 h1 h2 a b = .gt) (hbc : putStatus d2 d3 h2 h3 b c = .gt) :
    putStatus d1 d3 h1 h3 a c = .gt := by
  have t := putStatus_tri d3 d2 d1 h3 h2 h1 c b a
  have e1 := putStatus_swap d1 d2 h1 h2 a b
  have e2 := putStatus_swap d2 d3 h2 h3 b c
  have e3 := putStatus_swap d1 d3 h1 h3 a c
  rw [hab] at e1; rw [hbc] at e2
  have := t.2.1 (by rw [e2]; rfl) (by rw [e1]; simp)
  rw [this] at e3
  cases h : putStatus d1 d3 h1 h3 a c <;> rw [h] at e3 <;> simp at e3 ⊢

theorem putStatus_eq_content {d1 d2 : Nat} {h1 h2 : UInt32} {a b : JVal N}
    (h : putStatus d1 d2 h1 h2 a b = .eq) : contentEq a b = true :=
  (jcompare_eq_iff a b).mp (putStatus_eq_cmp h)


omit [LawfulNum N]

abbrev sg (sl : List (Slot N)) (i : Nat) : Slot N := sl.getD i emptySlot
def Occ (sl : List (Slot N)) (i : Nat) : Prop := (sg sl i).1.isNil = false
/-- home slot of a key -/
def hm (cap : Nat) (k : JVal N) : Nat := mapHash cap (hash k)
/-- priority of key `a` against key `b` at slot `i` (what `putStatus` computes when `a` travels and `b` resides, or vice versa);
    `.gt`: `a` takes the slot -/
def stat (cap i : Nat) (a b : JVal N) : Ordering :=
  putStatus (dst cap i (hm cap a)) (dst cap i (hm cap b)) (hash a) (hash b) a b

theorem hm_lt {cap : Nat} (h : 0 < cap) (k : JVal N) : hm cap k < cap := Nat.mod_lt _ h

omit [NumLike N] in
theorem sg_set (sl : List (Slot N)) (i j : Nat) (a : Slot N) :
    sg (sl.set i a) j = if i = j ∧ i < sl.length then a else sg sl j := Util.getD_set sl i j a _

/-- the robin-hood invariant of a slot array -/
structure RH (sl : List (Slot N)) : Prop where
  /-- no hole between the home slot of an entry and the slot it sits in -/
  chain : ∀ i j, i < sl.length → j < sl.length → Occ sl i →
    dst sl.length j (hm sl.length (sg sl i).1) < dst sl.length i (hm sl.length (sg sl i).1) → Occ sl j
  /-- an entry has priority, at its own slot, over its successor (unless the successor sits at its home) -/
  order : ∀ i, i < sl.length → Occ sl i → Occ sl (nx sl.length i) →
    hm sl.length (sg sl (nx sl.length i)).1 ≠ nx sl.length i →
    stat sl.length i (sg sl i).1 (sg sl (nx sl.length i)).1 = .gt
  /-- keys are pairwise different -/
  distinct : ∀ a b, a < sl.length → b < sl.length → Occ sl a → Occ sl b →
    contentEq (sg sl a).1 (sg sl b).1 = true → a = b
  /-- unused slots are exactly (nil, nil) -/
  blank : ∀ j, j < sl.length → ¬ Occ sl j → sg sl j = emptySlot


theorem sg_set_of_lt {sl : List (Slot N)} {i : Nat} (hi : i < sl.length) (a : Slot N) (j : Nat) :
    sg (sl.set i a) j = if j = i then a else sg sl j := by
  rw [sg_set]
  by_cases h : j = i
  · rw [if_pos ⟨h.symm, hi⟩, if_pos h]
  · rw [if_neg (fun c => h c.1.symm), if_neg h]

theorem occ_set {sl : List (Slot N)} {i : Nat} (hi : i < sl.length) (k v : JVal N) (j : Nat) :
    Occ (sl.set i (k, v)) j ↔ (if j = i then k.isNil = false else Occ sl j) := by
  unfold Occ; rw [sg_set_of_lt hi]
  by_cases h : j = i
  · rw [if_pos h, if_pos h]
  · rw [if_neg h, if_neg h]

theorem occ_set_key {sl : List (Slot N)} {i : Nat} (hi : i < sl.length) {k : JVal N} (hk : k.isNil = false) (v : JVal N)
    (j : Nat) : Occ (sl.set i (k, v)) j ↔ (Occ sl j ∨ j = i) := by
  rw [occ_set hi]
  by_cases h : j = i
  · rw [if_pos h]; exact ⟨fun _ => Or.inr h, fun _ => hk⟩
  · rw [if_neg h]; exact ⟨Or.inl, fun c => c.resolve_right h⟩

theorem occ_lt {sl : List (Slot N)} {i : Nat} (h : Occ sl i) : i < sl.length := by
  unfold Occ sg at h
  by_cases hl : i < sl.length
  · exact hl
  · rw [List.getD_eq_getElem?_getD, List.getElem?_eq_none (by omega)] at h
    simp [emptySlot, JVal.isNil] at h

/-- with an empty slot somewhere, a fully occupied stretch from `h` up to `i` cannot cover the whole array -/
theorem no_full {sl : List (Slot N)} {cap i h d : Nat} (hi : i < cap) (hh : h < cap)
    (hz : ∃ z, z < cap ∧ ¬ Occ sl z) (hpath : ∀ j, j < cap → dst cap j h < d → Occ sl j) (hocc : Occ sl i)
    (hd : dst cap i h = d) : d + 1 < cap := by
  obtain ⟨z, hz1, hz2⟩ := hz
  have := dst_lt hi hh
  by_cases hlt : d + 1 < cap
  · exact hlt
  · exfalso
    have hdz := dst_lt hz1 hh
    by_cases e : dst cap z h < d
    · exact hz2 (hpath z hz1 e)
    · have : dst cap z h = dst cap i h := by omega
      have := dst_inj_left hz1 hi hh this
      subst this; exact hz2 hocc

def Has (sl : List (Slot N)) (e : Slot N) : Prop := ∃ j, j < sl.length ∧ Occ sl j ∧ sg sl j = e

/-- the pairs stored in a slot array, in slot order -/
def entries (sl : List (Slot N)) : List (Slot N) := sl.filter (fun s => !s.1.isNil)

theorem entries_cons (a : Slot N) (l : List (Slot N)) :
    entries (a :: l) = if a.1.isNil then entries l else a :: entries l := by
  unfold entries; rw [List.filter_cons]; cases a.1.isNil <;> simp

omit [NumLike N] in
theorem mem_entries_iff (sl : List (Slot N)) (e : Slot N) : e ∈ entries sl ↔ Has sl e := by
  unfold entries Has Occ sg
  rw [List.mem_filter, List.mem_iff_getElem]
  constructor
  · rintro ⟨⟨j, hj, rfl⟩, h2⟩
    refine ⟨j, hj, ?_, ?_⟩ <;> simp [List.getD_eq_getElem?_getD, hj] at h2 ⊢
    exact h2
  · rintro ⟨j, hj, ho, rfl⟩
    simp only [List.getD_eq_getElem?_getD, List.getElem?_eq_getElem hj, Option.getD_some] at ho ⊢
    exact ⟨⟨j, hj, rfl⟩, by simp [ho]⟩

theorem entries_set_occ : ∀ (sl : List (Slot N)) (i : Nat) (new : Slot N), i < sl.length → Occ sl i → new.1.isNil = false →
    (sg sl i :: entries (sl.set i new)).Perm (new :: entries sl)
  | [], _, _, h, _, _ => by simp at h
  | a :: l, 0, new, _, ho, hn => by
      have ha : a.1.isNil = false := by simpa [Occ, sg] using ho
      simp only [List.set_cons_zero, entries_cons, hn, ha, Bool.false_eq_true, if_false]
      simp only [sg, List.getD_cons_zero]
      exact List.Perm.swap _ _ _
  | a :: l, i + 1, new, h, ho, hn => by
      have ih := entries_set_occ l i new (by simpa using h) (by simpa [Occ, sg] using ho) hn
      have e : sg (a :: l) (i + 1) = sg l i := by simp [sg]
      rw [e]
      simp only [List.set_cons_succ, entries_cons]
      cases a.1.isNil with
      | true => simpa using ih
      | false =>
        simp only [Bool.false_eq_true, if_false]
        exact ((List.Perm.swap _ _ _).trans (ih.cons a)).trans (List.Perm.swap _ _ _)

theorem entries_set_empty : ∀ (sl : List (Slot N)) (i : Nat) (new : Slot N), i < sl.length → ¬ Occ sl i → new.1.isNil = false →
    (entries (sl.set i new)).Perm (new :: entries sl)
  | [], _, _, h, _, _ => by simp at h
  | a :: l, 0, new, _, ho, hn => by
      have ha : a.1.isNil = true := by
        cases h : a.1.isNil with
        | true => rfl
        | false => exact absurd (by simpa [Occ, sg] using h) ho
      simp only [List.set_cons_zero, entries_cons, hn, ha, Bool.false_eq_true, if_false, if_true]
      exact List.Perm.refl _
  | a :: l, i + 1, new, h, ho, hn => by
      have ih := entries_set_empty l i new (by simpa using h) (by simpa [Occ, sg] using ho) hn
      simp only [List.set_cons_succ, entries_cons]
      cases a.1.isNil with
      | true => simpa using ih
      | false =>
        simp only [Bool.false_eq_true, if_false]
        exact (ih.cons a).trans (List.Perm.swap _ _ _)


/-- number of occupied slots -/
def nOcc (sl : List (Slot N)) : Nat := sl.countP (fun s => !s.1.isNil)

theorem nOcc_eq_length_entries (sl : List (Slot N)) : nOcc sl = (entries sl).length := List.countP_eq_length_filter

theorem nOcc_lt_exists_empty (sl : List (Slot N)) (h : nOcc sl < sl.length) : ∃ z, z < sl.length ∧ ¬ Occ sl z := by
  obtain ⟨z, hz, hp⟩ := Probe.exists_not_of_countP_lt _ emptySlot sl h
  exact ⟨z, hz, fun ho => by rw [show (sl.getD z emptySlot).1.isNil = false from ho] at hp; cases hp⟩

/-- two arrays that together hold fewer entries than they have slots have an empty slot in common -/
theorem exists_common_empty : ∀ (sl1 sl2 : List (Slot N)), sl2.length = sl1.length → nOcc sl1 + nOcc sl2 < sl1.length →
    ∃ z, z < sl1.length ∧ ¬ Occ sl1 z ∧ ¬ Occ sl2 z
  | [], _, _, h => by simp at h
  | _ :: _, [], hl, _ => by simp at hl
  | a :: l1, b :: l2, hl, h => by
      simp only [nOcc, List.countP_cons, List.length_cons] at h
      by_cases hab : a.1.isNil = true ∧ b.1.isNil = true
      · exact ⟨0, by simp, by simp [Occ, sg, hab.1], by simp [Occ, sg, hab.2]⟩
      · obtain ⟨z, hz, h1, h2⟩ := exists_common_empty l1 l2 (by simpa using hl) (by
          unfold nOcc
          cases ha : a.1.isNil <;> cases hb : b.1.isNil <;> simp_all <;> omega)
        exact ⟨z + 1, by simpa using hz, by simpa [Occ, sg] using h1, by simpa [Occ, sg] using h2⟩

variable [LawfulNum N]

/-- the travelling pair is stored at slot `i`: into an empty slot, or over a resident it has priority over -/
theorem RH.set {sl : List (Slot N)} (hrh : RH sl) {i : Nat} (hi : i < sl.length) {key value : JVal N} (hk : key.isNil = false)
    (hpath : ∀ j, j < sl.length → dst sl.length j (hm sl.length key) < dst sl.length i (hm sl.length key) → Occ sl j)
    (hprev : ∀ p, p < sl.length → nx sl.length p = i → hm sl.length key ≠ i → stat sl.length p (sg sl p).1 key = .gt)
    (hgt : Occ sl i → stat sl.length i key (sg sl i).1 = .gt)
    (hnew : ∀ j, j < sl.length → Occ sl j → contentEq key (sg sl j).1 = false) :
    RH (sl.set i (key, value)) := by
  have hlen : (sl.set i (key, value)).length = sl.length := List.length_set ..
  have hcap : 0 < sl.length := by omega
  have hoc := occ_set_key hi hk value
  have hsg := sg_set_of_lt hi (key, value)
  have hold : ∀ {j}, j ≠ i → Occ (sl.set i (key, value)) j → Occ sl j := fun hj h => ((hoc _).mp h).resolve_right hj
  refine ⟨?_, ?_, ?_, ?_⟩
  · intro x j hx hj hox hd
    rw [hlen] at hx hj hd
    rw [hsg] at hd
    refine (hoc j).mpr (Or.inl ?_)
    by_cases hxi : x = i
    · rw [if_pos hxi, hxi] at hd; exact hpath j hj hd
    · rw [if_neg hxi] at hd; exact hrh.chain x j hx hj (hold hxi hox) hd
  · intro x hx hox hon hne
    rw [hlen] at hx hne hon ⊢
    rw [hsg] at hne
    rw [hsg, hsg]
    have hn := nx_lt hx
    by_cases hxi : x = i
    · subst hxi
      rw [if_pos rfl]
      by_cases hni : nx sl.length x = x
      · -- a one-slot array: the home of every key is that slot
        rw [if_pos hni] at hne
        have hne' : hm sl.length key ≠ nx sl.length x := hne
        have := nx_cases hx
        have := hm_lt hcap key
        omega
      · rw [if_neg hni] at hne ⊢
        have hon' := hold hni hon
        by_cases hocc : Occ sl x
        · exact putStatus_gt_trans (hgt hocc) (hrh.order x hx hocc hon' hne)
        · have e := dst_nx_of_ne hx (hm_lt hcap (sg sl (nx sl.length x)).1) hne
          exact absurd (hrh.chain (nx sl.length x) x hn hx hon' (by omega)) hocc
    · rw [if_neg hxi]
      by_cases hnxi : nx sl.length x = i
      · rw [if_pos hnxi] at hne ⊢
        exact hprev x hx hnxi (by rw [← hnxi]; exact hne)
      · rw [if_neg hnxi] at hne ⊢
        exact hrh.order x hx (hold hxi hox) (hold hnxi hon) hne
  · intro a b ha hb hoa hob he
    rw [hlen] at ha hb
    rw [hsg, hsg] at he
    by_cases hai : a = i <;> by_cases hbi : b = i
    · rw [hai, hbi]
    · rw [if_pos hai, if_neg hbi, hnew b hb (hold hbi hob)] at he; cases he
    · rw [if_neg hai, if_pos hbi, contentEq_symm_both.1, hnew a ha (hold hai hoa)] at he; cases he
    · rw [if_neg hai, if_neg hbi] at he
      exact hrh.distinct a b ha hb (hold hai hoa) (hold hbi hob) he
  · intro j hj hnj
    rw [hlen] at hj
    have hji : j ≠ i := fun e => hnj ((hoc j).mpr (Or.inr e))
    rw [hsg, if_neg hji]
    exact hrh.blank j hj (fun h => hnj ((hoc j).mpr (Or.inl h)))


theorem putLoop_step_empty {cap : Nat} {replace : Bool} {fuel i dist : Nat} {key value : JVal N} {h : UInt32}
    {sl : List (Slot N)} (he : (sg sl i).1.isNil = true) :
    putLoop cap replace (fuel + 1) i dist key value h sl = (sl.set i (key, value), true) := by
  rw [putLoop]; simp only [sg] at he; simp only [he, if_true]

theorem putLoop_step_occ {cap : Nat} {replace : Bool} {fuel i dist : Nat} {key value : JVal N} {h : UInt32}
    {sl : List (Slot N)} (he : (sg sl i).1.isNil = false) :
    putLoop cap replace (fuel + 1) i dist key value h sl =
      match putStatus dist (dst cap i (hm cap (sg sl i).1)) h (hash (sg sl i).1) key (sg sl i).1 with
      | .gt => putLoop cap replace fuel (nx cap i) (dst cap i (hm cap (sg sl i).1) + 1) (sg sl i).1 (sg sl i).2
                 (hash (sg sl i).1) (sl.set i (key, value))
      | .eq => ((if replace then sl.set i ((sg sl i).1, value) else sl), false)
      | .lt => putLoop cap replace fuel (nx cap i) (dist + 1) key value h sl := by
  rw [putLoop]; simp only [sg] at he; simp only [he, Bool.false_eq_true, if_false]; rfl


/-- **the probe loop of `janet_struct_put_ext`** inserting a key that is not in the array: it ends in an empty slot,
    keeps the robin-hood invariant, and adds exactly the new pair.
    The displaced pair always travels on with ITS OWN hash and distance (`hash kv.1`, `otherdist + 1`).
    `i0` is the slot the probe started from, `s` the number of slots visited so far (all occupied). -/
theorem putLoop_spec (cap : Nat) (i0 : Nat) (hi0 : i0 < cap) :
    ∀ (fuel s i : Nat) (key value : JVal N) (sl : List (Slot N)),
      sl.length = cap → RH sl → i < cap → s + fuel = cap → dst cap i i0 = s →
      (∀ j, j < cap → dst cap j i0 < s → Occ sl j) →
      (∃ z, z < cap ∧ ¬ Occ sl z) →
      key.isNil = false →
      (∀ j, j < cap → dst cap j (hm cap key) < dst cap i (hm cap key) → Occ sl j) →
      (∀ p, p < cap → nx cap p = i → hm cap key ≠ i → stat cap p (sg sl p).1 key = .gt) →
      (∀ j, j < cap → Occ sl j → contentEq key (sg sl j).1 = false) →
      ∃ sl', (∀ replace, putLoop cap replace fuel i (dst cap i (hm cap key)) key value (hash key) sl = (sl', true)) ∧
        sl'.length = cap ∧ RH sl' ∧ (entries sl').Perm ((key, value) :: entries sl) := by
  intro fuel
  induction fuel with
  | zero =>
    intro s i key value sl hlen hrh hi hs hd
    have := dst_lt hi hi0; omega
  | succ fuel ih =>
    intro s i key value sl hlen hrh hi hs hd hvis hz hk hpath hprev hnew
    subst hlen
    have hcap : 0 < sl.length := by omega
    by_cases hocc : Occ sl i
    · -- occupied: compare with the resident
      have hr_home := hm_lt hcap (sg sl i).1
      have hk_home := hm_lt hcap key
      have hn := nx_lt hi
      -- the visited stretch does not cover the array
      have hs1 : s + 1 < sl.length := no_full hi hi0 hz hvis hocc hd
      have hvis' : ∀ j, j < sl.length → dst sl.length j i0 < s + 1 → Occ sl j := by
        intro j hj hlt
        by_cases e : dst sl.length j i0 < s
        · exact hvis j hj e
        · have : j = i := dst_inj_left hj hi hi0 (by omega)
          subst this; exact hocc
      have hd' : dst sl.length (nx sl.length i) i0 = s + 1 := by rw [dst_nx hi hi0 (by omega), hd]
      -- a stretch occupied from the home of `k` up to `i` stays so one slot further
      have hext : ∀ k : JVal N, hm sl.length k < sl.length →
          (∀ j, j < sl.length → dst sl.length j (hm sl.length k) < dst sl.length i (hm sl.length k) → Occ sl j) →
          dst sl.length (nx sl.length i) (hm sl.length k) = dst sl.length i (hm sl.length k) + 1 ∧
          ∀ j, j < sl.length → dst sl.length j (hm sl.length k) < dst sl.length i (hm sl.length k) + 1 → Occ sl j := by
        intro k hkh hp
        refine ⟨dst_nx hi hkh (no_full hi hkh hz hp hocc rfl), fun j hj hlt => ?_⟩
        by_cases e : dst sl.length j (hm sl.length k) < dst sl.length i (hm sl.length k)
        · exact hp j hj e
        · have : j = i := dst_inj_left hj hi hkh (by omega)
          subst this; exact hocc
      cases hst : putStatus (dst sl.length i (hm sl.length key)) (dst sl.length i (hm sl.length (sg sl i).1)) (hash key)
          (hash (sg sl i).1) key (sg sl i).1 with
      | eq =>
        have := putStatus_eq_content hst
        rw [hnew i hi hocc] at this; cases this
      | gt =>
        -- the key takes the slot, the resident travels on
        have hoc1 : ∀ j, Occ (sl.set i (key, value)) j ↔ Occ sl j := fun j => by
          rw [occ_set_key hi hk]
          exact ⟨fun h => h.elim id (fun e => e ▸ hocc), Or.inl⟩
        have hsg1 := sg_set_of_lt hi (key, value)
        obtain ⟨hrdn, hrpath⟩ := hext (sg sl i).1 hr_home (fun j hj hlt => hrh.chain i j hi hj hocc hlt)
        obtain ⟨sl', hres, hlen', hrh', hperm⟩ :=
          ih (s + 1) (nx sl.length i) (sg sl i).1 (sg sl i).2 (sl.set i (key, value)) (List.length_set ..)
            (hrh.set hi hk hpath hprev (fun _ => hst) hnew) hn (by omega) hd'
            (fun j hj hlt => (hoc1 j).mpr (hvis' j hj hlt))
            (hz.imp fun z hz => ⟨hz.1, fun h => hz.2 ((hoc1 z).mp h)⟩)
            hocc
            (fun j hj hlt => (hoc1 j).mpr (hrpath j hj (hrdn ▸ hlt)))
            (fun p hp hnp _ => by
              have : p = i := nx_inj hp hi hnp
              subst this
              rw [hsg1, if_pos rfl]
              exact hst)
            (fun j hj hoj => by
              rw [hsg1]
              by_cases hji : j = i
              · rw [if_pos hji, contentEq_symm_both.1]; exact hnew i hi hocc
              · rw [if_neg hji]
                cases hce : contentEq (sg sl i).1 (sg sl j).1 with
                | false => rfl
                | true => exact absurd (hrh.distinct i j hi hj hocc ((hoc1 j).mp hoj) hce).symm hji)
        exact ⟨sl', fun replace => by rw [putLoop_step_occ hocc, hst, ← hrdn]; exact hres replace, hlen', hrh',
          hperm.trans (entries_set_occ sl i (key, value) hi hocc hk)⟩
      | lt =>
        -- the resident stays, the key travels on
        obtain ⟨hkdn, hkpath⟩ := hext key hk_home hpath
        obtain ⟨sl', hres, hlen', hrh', hperm⟩ :=
          ih (s + 1) (nx sl.length i) key value sl rfl hrh hn (by omega) hd' hvis' hz hk
            (fun j hj hlt => hkpath j hj (hkdn ▸ hlt))
            (fun p hp hnp _ => by
              have : p = i := nx_inj hp hi hnp
              subst this
              have := putStatus_swap (dst sl.length p (hm sl.length key)) (dst sl.length p (hm sl.length (sg sl p).1))
                (hash key) (hash (sg sl p).1) key (sg sl p).1
              rw [hst] at this
              exact this)
            hnew
        exact ⟨sl', fun replace => by rw [putLoop_step_occ hocc, hst, ← hkdn]; exact hres replace, hlen', hrh', hperm⟩
    · -- empty slot: the pair is stored
      exact ⟨sl.set i (key, value), fun _ => putLoop_step_empty (eq_true_of_ne_false hocc), List.length_set ..,
        hrh.set hi hk hpath hprev (fun h => absurd h hocc) hnew, entries_set_empty sl i (key, value) hi hocc hk⟩

end JanetModel.Value
