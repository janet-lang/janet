/- C03 — the ITERATIVE form of `janet_equals` / `janet_compare` (src/core/value.c): explicit traversal stack
   (`push_traversal_node`, `traversal_next`, the `do { switch … } while (!traversal_next(&x, &y))` loops), mirrored
   statement by statement.  `Value/Model.lean` has the same two functions by structural recursion; `TraverseLemmas.lean`
   proves that the two agree on every value (nested tuples / structs of any depth and width).

   A stack frame is a `JanetTraversalNode`: the two objects (`self`, `other`), `index`, `index2`.  For a tuple frame `index2`
   is the flag "compare the lengths when the common prefix is exhausted" (set by janet_compare, clear in janet_equals); for a
   struct frame it is the flag "the key at `index` has been returned, the value comes next".  Slot `i` of a struct is
   `flat[2i]` (key) and `flat[2i+1]` (value); reads use `getD … nil` (the C reads `other->data[index]` relying on equal
   capacities).
   CORE LEAN ONLY (linked into the driver). -/
import JanetModel.Value.Model

namespace JanetModel.Value.Traverse
open JanetModel.Gen.Value JanetModel.Value

variable {N : Type}

/-- `JanetTraversalNode` -/
inductive Frame (N : Type) where
  | tup (xs ys : List (JVal N)) (index : Nat) (index2 : Bool)
  | str (f1 p1 f2 p2 : List (JVal N)) (index : Nat) (index2 : Bool)

/-- result of `traversal_next`: 0 = next pair found (with the stack as it is left), or the status 1 / 2 / 3 -/
inductive Next (N : Type) where
  | found (x y : JVal N) (st : List (Frame N))
  | stop (status : Nat)

/-- `traversal_next`: the `while (t && t > janet_vm.traversal_base)` loop, one frame per recursive call -/
def traversalNext : List (Frame N) → Next N
  | [] => .stop 2
  | .tup xs ys i i2 :: st =>
    if i < xs.length ∧ i < ys.length then
      .found (xs.getD i .nil) (ys.getD i .nil) (.tup xs ys (i + 1) i2 :: st)
    else if i2 = true ∧ xs.length ≠ ys.length then
      .stop (if xs.length > ys.length then 3 else 1)
    else traversalNext st            -- t--
  | .str f1 p1 f2 p2 i i2 :: st =>
    if i2 = true then
      .found (f1.getD (2 * i + 1) .nil) (f2.getD (2 * i + 1) .nil) (.str f1 p1 f2 p2 (i + 1) false :: st)
    else if i < f1.length / 2 then
      .found (f1.getD (2 * i) .nil) (f2.getD (2 * i) .nil) (.str f1 p1 f2 p2 i true :: st)
    else
      match p1, p2 with
      | _ :: _, [] => .stop 3
      | [], _ :: _ => .stop 1
      | a :: _, b :: _ => .found a b st          -- janet_vm.traversal = t - 1
      | [], [] => traversalNext st               -- t--

/-- `status - 2` -/
def statusOrd (s : Nat) : Ordering := if s = 1 then .lt else if s = 3 then .gt else .eq

/-- what the `switch` does with the current pair: return, or fall to `traversal_next` with the (possibly grown) stack -/
inductive Visit (α : Type) (N : Type) where
  | ret (r : α)
  | go (st : List (Frame N))

section
variable [NumLike N]

/-- the `switch` of `janet_compare` -/
def visitCompare (x y : JVal N) (st : List (Frame N)) : Visit Ordering N :=
  match x, y with
  | .tuple br1 xs, .tuple br2 ys =>
    if br1 != br2 then .ret (if br1 then .gt else .lt)
    else .go (.tup xs ys 0 true :: st)                      -- push_traversal_node(lhs, rhs, 1)
  | .struct f1 p1, .struct f2 p2 =>
    if f1.length / 2 < f2.length / 2 then .ret .lt
    else if f1.length / 2 > f2.length / 2 then .ret .gt
    else match sCompare (hash (.struct f1 p1)) (hash (.struct f2 p2)) with
      | .lt => .ret .lt
      | .gt => .ret .gt
      | .eq => .go (.str f1 p1 f2 p2 0 false :: st)         -- push_traversal_node(lhs, rhs, 0)
  | x, y =>
    -- type tags, nil, booleans, numbers, strings / symbols / keywords, pointers: no node is pushed
    match jcompare x y with
    | .eq => .go st
    | r => .ret r

/-- the loop of `janet_compare`; `fuel` bounds the number of pairs visited -/
def compareLoop : Nat → JVal N → JVal N → List (Frame N) → Option Ordering
  | 0, _, _, _ => none
  | fuel + 1, x, y, st =>
    match visitCompare x y st with
    | .ret r => some r
    | .go st' =>
      match traversalNext st' with
      | .found x' y' st'' => compareLoop fuel x' y' st''
      | .stop s => some (statusOrd s)

/-- the `switch` of `janet_equals` (the pointer short-cuts `t1 == t2`, `s1 == s2`: Value/PtrShortcut.lean) -/
def visitEquals (x y : JVal N) (st : List (Frame N)) : Visit Bool N :=
  match x, y with
  | .tuple br1 xs, .tuple br2 ys =>
    if br1 != br2 then .ret false
    else if tupleHash xs != tupleHash ys then .ret false
    else if xs.length != ys.length then .ret false
    else .go (.tup xs ys 0 false :: st)                     -- push_traversal_node(t1, t2, 0)
  | .struct f1 p1, .struct f2 p2 =>
    if hash (.struct f1 p1) != hash (.struct f2 p2) then .ret false
    else if structLength f1 != structLength f2 then .ret false
    else if !p1.isEmpty && p2.isEmpty then .ret false
    else if p1.isEmpty && !p2.isEmpty then .ret false
    else .go (.str f1 p1 f2 p2 0 false :: st)
  | x, y => if equals x y then .go st else .ret false

/-- the loop of `janet_equals`: `do { … } while (!traversal_next(&x, &y)); return 1;` — ANY non-zero status ends it with 1 -/
def equalsLoop : Nat → JVal N → JVal N → List (Frame N) → Option Bool
  | 0, _, _, _ => none
  | fuel + 1, x, y, st =>
    match visitEquals x y st with
    | .ret r => some r
    | .go st' =>
      match traversalNext st' with
      | .found x' y' st'' => equalsLoop fuel x' y' st''
      | .stop _ => some true

end

mutual
/-- number of nodes of a value (bound on the pairs the loops visit) -/
def weight : JVal N → Nat
  | .tuple _ xs => 1 + weightL xs
  | .struct f p => 1 + weightL f + weightL p
  | _ => 1
def weightL : List (JVal N) → Nat
  | [] => 0
  | x :: xs => weight x + weightL xs
end

/-- the stack depth reached (reported by the driver; the C grows `janet_vm.traversal_base` on demand) -/
def depthOf : List (Frame N) → Nat := List.length

section
variable [NumLike N]

/-- `janet_compare(x, y)` by the iterative algorithm -/
def compareIter (x y : JVal N) : Option Ordering := compareLoop (weight x + 1) x y []
/-- `janet_equals(x, y)` by the iterative algorithm -/
def equalsIter (x y : JVal N) : Option Bool := equalsLoop (weight x + 1) x y []

/-- the same loop, also returning the deepest stack seen (driver only) -/
def compareLoopD : Nat → JVal N → JVal N → List (Frame N) → Nat → Option Ordering × Nat
  | 0, _, _, _, d => (none, d)
  | fuel + 1, x, y, st, d =>
    match visitCompare x y st with
    | .ret r => (some r, d)
    | .go st' =>
      match traversalNext st' with
      | .found x' y' st'' => compareLoopD fuel x' y' st'' (max d st'.length)
      | .stop s => (some (statusOrd s), max d st'.length)

end

end JanetModel.Value.Traverse
