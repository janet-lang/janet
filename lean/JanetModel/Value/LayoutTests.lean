/- C03 — the layout theorems at concrete collision patterns over `F64`: the key sets of Value/StructLemmas.lean are NaN-free,
   so each insertion order is the image under `lift` of one over the NaN-free numbers, where the general theorems apply. -/
import JanetModel.Value.StructLemmas
import JanetModel.Value.NaN

namespace JanetModel.Props.C03
open JanetModel.Value

/-- with a duplicate of the first key (overwritten later), a nil value, a nil key; announced count = sequence length -/
def noisy (kvs : List (Slot F64)) : List (Slot F64) :=
  match kvs with
  | [] => []
  | (k, _) :: _ => (k, .kw [1]) :: kvs ++ [(.kw [2], .nil), (.nil, .bool true)]

section
variable {M : Type} [NumLike M] [LawfulNaNNum M]

/-- what the layout theorems ask of the pairs, stated over a number type with NaN -/
abbrev Plain (kvs : List (Slot M)) : Prop :=
  (∀ kv ∈ kvs, nanFree kv.1 = true ∧ nanFree kv.2 = true ∧ kv.1.isNil = false ∧ kv.2.isNil = false) ∧
    kvs.Pairwise (fun a b => equals a.1 b.1 = false)

theorem equals_lift_self (a : JVal (NonNaN M)) : equals (lift a) (lift a) = true := by
  rw [equals_lift, equals_eq_contentEq_both.1]; exact contentEq_refl_both.1 a

theorem exists_lift_of_mem_permsOf {kvs p : List (Slot M)} (h : Plain kvs) (hp : p ∈ permsOf kvs) :
    ∃ kvs' p' : List (Slot (NonNaN M)), kvs = kvs'.map liftSlot ∧ p = p'.map liftSlot ∧ kvs'.Perm p' ∧
      (∀ kv ∈ kvs', kv.1.isNil = false ∧ kv.2.isNil = false) ∧ DistinctKeys kvs' := by
  obtain ⟨kvs', rfl⟩ := liftSlot_surj kvs fun kv hkv => ⟨(h.1 kv hkv).1, (h.1 kv hkv).2.1⟩
  rw [permsOf_map] at hp
  obtain ⟨p', hp', rfl⟩ := List.mem_map.mp hp
  refine ⟨kvs', p', rfl, rfl, (perm_of_mem_permsOf hp').symm, fun kv hkv => ?_, ?_⟩
  · have := (h.1 _ (List.mem_map_of_mem hkv)).2.2
    rwa [liftSlot, isNil_lift, isNil_lift] at this
  · refine (List.pairwise_map.mp h.2).imp fun {a b} hab => ?_
    rwa [liftSlot, liftSlot, equals_lift, equals_eq_contentEq_both.1] at hab

end

theorem noisy_lift (k v : JVal (NonNaN F64)) (rest : List (Slot (NonNaN F64))) :
    noisy (((k, v) :: rest).map liftSlot) =
      (((k, .kw [1]) :: (k, v) :: rest ++ [(.kw [2], .nil), (.nil, .bool true)] : List (Slot (NonNaN F64))).map liftSlot) := by
  simp only [noisy, List.map_cons, List.map_append, List.map_nil, liftSlot, lift]

theorem struct_layout_canonical_partial :
    (layoutFamilies.all fun kvs =>
      (permsOf kvs).all fun p =>
        equals (structOf p) (structOf kvs) && equals (structOf (noisy p)) (structOf kvs) &&
        equals (structOf p [structOf kvs]) (structOf kvs [structOf kvs.reverse])) = true := by
  have plain : ∀ kvs ∈ layoutFamilies, Plain kvs := by decide +kernel
  rw [List.all_eq_true]; intro kvs hk
  rw [List.all_eq_true]; intro p hp
  obtain ⟨kvs', p', rfl, rfl, hperm, hv, hd⟩ := exists_lift_of_mem_permsOf (plain kvs hk) hp
  have l1 : ∀ (l : List (Slot (NonNaN F64))) x, structOf (l.map liftSlot) [lift x] = lift (structOf l [x]) :=
    fun l x => structOf_lift l [x]
  have e1 : ∀ proto, structOf p' proto = structOf kvs' proto := fun proto => (structOf_perm proto hperm hv hd).symm
  have e2 : structOf kvs'.reverse = structOf kvs' := (structOf_perm [] (List.reverse_perm kvs').symm hv hd).symm
  have e3 : structOf (noisy (p'.map liftSlot)) = lift (structOf kvs') := by
    cases p' with
    | nil => exact (structOf_lift_nil []).trans (congrArg lift (e1 []))
    | cons kv rest =>
      obtain ⟨k, v⟩ := kv
      rw [noisy_lift, structOf_lift_nil, structOf, structOfCount_finalMap _ _ _ (List.length_filter_le ..),
        finalMap_dup_head rfl (fun kv h => hv kv (hperm.mem_iff.mpr h)) (hd.perm hperm) rfl, e1]
  rw [e3, ← List.map_reverse, structOf_lift_nil, structOf_lift_nil, structOf_lift_nil, l1, l1, e1, e1, e2, equals_lift_self, equals_lift_self]
  rfl

/-- a six-key probe cluster with eviction (all 720 insertion orders) -/
theorem struct_layout_canonical_partial_cluster :
    ((permsOf clusterFamily).all fun p => equals (structOf p) (structOf clusterFamily)) = true := by
  have plain : Plain clusterFamily := by decide +kernel
  rw [List.all_eq_true]; intro p hp
  obtain ⟨kvs', p', h, rfl, hperm, hv, hd⟩ := exists_lift_of_mem_permsOf plain hp
  rw [h, structOf_lift_nil, structOf_lift_nil, structOf_perm [] hperm hv hd]
  exact equals_lift_self _

end JanetModel.Props.C03
