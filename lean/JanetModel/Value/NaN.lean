/- C03 — NaN inside the model type.

   `JVal N` for a number type `N` WITH NaN (`LawfulNaNNum N`, e.g. `F64` = all 64-bit patterns with IEEE `==` / `<`).
   `lift : JVal (NonNaN N) → JVal N` embeds the values built from non-NaN numbers; `janet_hash`, `janet_equals`,
   `janet_compare` commute with it (`hash_lift`, `equals_lift`, `jcompare_lift`), and every NaN-free value of `JVal N`
   (`nanFree`: no NaN at any depth) is in its image (`lift_surj`).  So every law proved for lawful numbers holds on the
   NaN-free part of `JVal N` — stated in Props/C03.lean — while on NaN itself the laws fail (`nan_*` below), which is why
   the property excludes it.  `janet_struct_put_ext` refuses a NaN key (`structPutExt_nan_key`) and a whole struct
   construction commutes with `lift` (`structOfCount_lift`), NaN-keyed puts interspersed or not. -/
import JanetModel.Value.NaNNum
import JanetModel.Value.RobinDup

namespace JanetModel.Value
open JanetModel.Gen.Value

variable {N : Type} [NumLike N]

mutual
/-- the embedding of values over the non-NaN numbers -/
def lift : JVal (NonNaN N) → JVal N
  | .num n => .num n.1
  | .nil => .nil
  | .bool b => .bool b
  | .str b => .str b
  | .sym b => .sym b
  | .kw b => .kw b
  | .tuple br xs => .tuple br (liftList xs)
  | .struct f p => .struct (liftList f) (liftList p)
  | .ref k b => .ref k b
def liftList : List (JVal (NonNaN N)) → List (JVal N)
  | [] => []
  | x :: xs => lift x :: liftList xs
end

mutual
/-- no NaN at any depth -/
def nanFree : JVal N → Bool
  | .num n => NumLike.eq n n
  | .tuple _ xs => nanFreeList xs
  | .struct f p => nanFreeList f && nanFreeList p
  | _ => true
def nanFreeList : List (JVal N) → Bool
  | [] => true
  | x :: xs => nanFree x && nanFreeList xs
end

theorem liftList_eq_map (l : List (JVal (NonNaN N))) : liftList l = l.map lift := by
  induction l with
  | nil => rfl
  | cons x xs ih => simp [liftList, ih]

theorem liftList_length (l : List (JVal (NonNaN N))) : (liftList l).length = l.length := by
  rw [liftList_eq_map]; simp

theorem liftList_isEmpty (l : List (JVal (NonNaN N))) : (liftList l).isEmpty = l.isEmpty := by
  cases l <;> rfl

theorem typeTag_lift (a : JVal (NonNaN N)) : (lift a).typeTag = a.typeTag := by
  cases a <;> rfl

theorem isNil_lift (a : JVal (NonNaN N)) : (lift a).isNil = a.isNil := by
  cases a <;> rfl

theorem isNaNKey_lift (a : JVal (NonNaN N)) : isNaNKey (lift a) = isNaNKey a := by
  cases a <;> rfl

theorem structLength_lift : ∀ (l : List (JVal (NonNaN N))), structLength (liftList l) = structLength l
  | [] => rfl
  | [_] => rfl
  | k :: _ :: rest => by
      simp only [liftList, structLength, isNil_lift, structLength_lift rest]

theorem hash_lift_both :
    (∀ a : JVal (NonNaN N), hash (lift a) = hash a) ∧
    (∀ l : List (JVal (NonNaN N)), (∀ h, hashFold h (liftList l) = hashFold h l) ∧ protoHash (liftList l) = protoHash l) := by
  apply JVal.induct (P := fun a => hash (lift a) = hash a)
    (Q := fun l => (∀ h, hashFold h (liftList l) = hashFold h l) ∧ protoHash (liftList l) = protoHash l)
  case num => intro n; rfl
  case tuple => intro br xs ih; simp only [lift]; rw [hash_tuple, hash_tuple, tupleHash, tupleHash, ih.1]
  case struct => intro f p ihf ihp; simp only [lift]; rw [hash_struct, hash_struct, ihf.1, ihp.2]
  case lnil => exact ⟨fun _ => rfl, rfl⟩
  case lcons =>
    intro x xs ihx ihxs
    refine ⟨fun h => ?_, ?_⟩
    · simp only [liftList, hashFold, ihx, ihxs.1]
    · simp only [liftList, protoHash, ihx]
  all_goals intros; rfl

theorem hash_lift (a : JVal (NonNaN N)) : hash (lift a) = hash a := hash_lift_both.1 a

theorem tupleHash_lift (l : List (JVal (NonNaN N))) : tupleHash (liftList l) = tupleHash l := (hash_lift_both.2 l).1 _

theorem equals_lift_both :
    (∀ a b : JVal (NonNaN N), equals (lift a) (lift b) = equals a b) ∧
    (∀ l m : List (JVal (NonNaN N)), equalsList (liftList l) (liftList m) = equalsList l m) := by
  apply JVal.induct (P := fun a => ∀ b, equals (lift a) (lift b) = equals a b)
    (Q := fun l => ∀ m, equalsList (liftList l) (liftList m) = equalsList l m)
  case tuple =>
    intro br xs ih b
    cases b <;> simp only [lift, equals]
    rename_i br2 ys
    rw [tupleHash_lift, tupleHash_lift, liftList_length, liftList_length, ih ys]
  case struct =>
    intro f p ihf ihp b
    cases b <;> simp only [lift, equals]
    rename_i f2 p2
    have h1 : hash (JVal.struct (liftList f) (liftList p) : JVal N) = hash (JVal.struct f p) := hash_lift (.struct f p)
    have h2 : hash (JVal.struct (liftList f2) (liftList p2) : JVal N) = hash (JVal.struct f2 p2) := hash_lift (.struct f2 p2)
    rw [h1, h2, structLength_lift, structLength_lift, liftList_isEmpty, liftList_isEmpty, ihf f2, ihp p2]
  case lnil => intro m; cases m <;> rfl
  case lcons =>
    intro x xs ihx ihxs m
    cases m with
    | nil => rfl
    | cons y ys => simp only [liftList, equalsList, ihx y, ihxs ys]
  all_goals intros
  all_goals (rename_i b; cases b <;> rfl)

theorem equals_lift (a b : JVal (NonNaN N)) : equals (lift a) (lift b) = equals a b := equals_lift_both.1 a b

theorem jcompare_lift_both :
    (∀ a b : JVal (NonNaN N), jcompare (lift a) (lift b) = jcompare a b) ∧
    (∀ l m : List (JVal (NonNaN N)), compareList (liftList l) (liftList m) = compareList l m) := by
  apply JVal.induct (P := fun a => ∀ b, jcompare (lift a) (lift b) = jcompare a b)
    (Q := fun l => ∀ m, compareList (liftList l) (liftList m) = compareList l m)
  case tuple =>
    intro br xs ih b
    cases b <;> try rfl
    rename_i br2 ys
    simp only [lift, jcompare]
    rw [ih ys]
  case struct =>
    intro f p ihf ihp b
    cases b <;> try rfl
    rename_i f2 p2
    have h1 : hash (JVal.struct (liftList f) (liftList p) : JVal N) = hash (JVal.struct f p) := hash_lift (.struct f p)
    have h2 : hash (JVal.struct (liftList f2) (liftList p2) : JVal N) = hash (JVal.struct f2 p2) := hash_lift (.struct f2 p2)
    simp only [lift, jcompare]
    rw [h1, h2, liftList_length, liftList_length, ihf f2, ihp p2]
  case lnil => intro m; cases m <;> rfl
  case lcons =>
    intro x xs ihx ihxs m
    cases m with
    | nil => rfl
    | cons y ys => simp only [liftList, compareList, ihx y, ihxs ys]
  all_goals intros
  all_goals (rename_i b; cases b <;> rfl)

theorem jcompare_lift (a b : JVal (NonNaN N)) : jcompare (lift a) (lift b) = jcompare a b := jcompare_lift_both.1 a b

/-- every value in the image of the embedding is NaN-free -/
theorem nanFree_lift_both :
    (∀ a : JVal (NonNaN N), nanFree (lift a) = true) ∧ (∀ l : List (JVal (NonNaN N)), nanFreeList (liftList l) = true) := by
  apply JVal.induct
  case num => intro n; exact n.2
  case tuple => intro br xs ih; simpa only [lift, nanFree] using ih
  case struct => intro f p ihf ihp; simp only [lift, nanFree, ihf, ihp, Bool.and_self]
  case lnil => rfl
  case lcons => intro x xs ihx ihxs; simp only [liftList, nanFreeList, ihx, ihxs, Bool.and_self]
  all_goals intros; rfl

theorem lift_surj_both :
    (∀ a : JVal N, nanFree a = true → ∃ a' : JVal (NonNaN N), lift a' = a) ∧
    (∀ l : List (JVal N), nanFreeList l = true → ∃ l' : List (JVal (NonNaN N)), liftList l' = l) := by
  apply JVal.induct
  case num => intro n h; exact ⟨.num ⟨n, h⟩, rfl⟩
  case nil => intro _; exact ⟨.nil, rfl⟩
  case bool => intro b _; exact ⟨.bool b, rfl⟩
  case str => intro b _; exact ⟨.str b, rfl⟩
  case sym => intro b _; exact ⟨.sym b, rfl⟩
  case kw => intro b _; exact ⟨.kw b, rfl⟩
  case ref => intro k b _; exact ⟨.ref k b, rfl⟩
  case tuple =>
    intro br xs ih h
    obtain ⟨xs', rfl⟩ := ih (by simpa only [nanFree] using h)
    exact ⟨.tuple br xs', rfl⟩
  case struct =>
    intro f p ihf ihp h
    simp only [nanFree, Bool.and_eq_true] at h
    obtain ⟨f', rfl⟩ := ihf h.1
    obtain ⟨p', rfl⟩ := ihp h.2
    exact ⟨.struct f' p', rfl⟩
  case lnil => intro _; exact ⟨[], rfl⟩
  case lcons =>
    intro x xs ihx ihxs h
    simp only [nanFreeList, Bool.and_eq_true] at h
    obtain ⟨x', rfl⟩ := ihx h.1
    obtain ⟨xs', rfl⟩ := ihxs h.2
    exact ⟨x' :: xs', rfl⟩

theorem lift_surj (a : JVal N) (h : nanFree a = true) : ∃ a' : JVal (NonNaN N), lift a' = a := lift_surj_both.1 a h


/-- `janet_struct_put_ext` ignores a NaN key (struct.c: `janet_checktype(key, JANET_NUMBER) && isnan(…)`), whatever the value,
    the flag and the state of the build -/
theorem structPutExt_nan_key (st : StructBuild N) (n : N) (h : NumLike.isNaN n = true) (v : JVal N) (r : Bool) :
    structPutExt st (.num n) v r = st := by
  unfold structPutExt
  have : isNaNKey (JVal.num n) = true := h
  simp only [this, if_true]
  split <;> rfl

def liftSlot (s : Slot (NonNaN N)) : Slot N := (lift s.1, lift s.2)

theorem liftSlot_rel : SlotRelPut (fun (s : Slot (NonNaN N)) (s' : Slot N) => s' = liftSlot s) where
  empty := rfl
  nil := by rintro s _ rfl; exact (isNil_lift s.1).symm
  vnil := by rintro s _ rfl; exact (isNil_lift s.2).symm
  nan := by rintro s _ rfl; exact (isNaNKey_lift s.1).symm
  hash := by rintro s _ rfl; exact (hash_lift s.1).symm
  cmp := by rintro s _ t _ rfl rfl; exact (jcompare_lift s.1 t.1).symm
  repl := by rintro s _ t _ rfl rfl _; rfl

theorem flatten_liftSlot : ∀ (sl : List (Slot (NonNaN N))), flatten (sl.map liftSlot) = liftList (flatten sl)
  | [] => rfl
  | (k, v) :: rest => by simp only [List.map_cons, liftSlot, flatten, liftList, flatten_liftSlot rest]

/-- **a whole struct construction commutes with the embedding** -/
theorem structOfCount_lift (c : Nat) (kvs : List (Slot (NonNaN N))) (proto : List (JVal (NonNaN N))) :
    structOfCount c (kvs.map liftSlot) (liftList proto) = lift (structOfCount c kvs proto) := by
  obtain ⟨sl, sl', e1, e2, hpw⟩ := structOfCount_rel (RP := fun p p' => p' = liftList p) liftSlot_rel rfl c
    (kvs := kvs) (kvs' := kvs.map liftSlot) (by simp)
    (fun i => by
      simp only [List.getD_eq_getElem?_getD, List.getElem?_map]
      cases kvs[i]? <;> rfl)
    (proto := proto) (proto' := liftList proto) rfl
  rw [e1, e2, (PW_graph_iff liftSlot rfl _ _).mp hpw, flatten_liftSlot]
  rfl

theorem structOf_lift (kvs : List (Slot (NonNaN N))) (proto : List (JVal (NonNaN N))) :
    structOf (kvs.map liftSlot) (liftList proto) = lift (structOf kvs proto) := by
  rw [structOf, List.length_map, structOfCount_lift]; rfl

theorem structOf_lift_nil (kvs : List (Slot (NonNaN N))) : structOf (kvs.map liftSlot) = lift (structOf kvs) :=
  structOf_lift kvs []

theorem liftSlot_surj : ∀ (kvs : List (Slot N)), (∀ kv ∈ kvs, nanFree kv.1 = true ∧ nanFree kv.2 = true) →
    ∃ kvs' : List (Slot (NonNaN N)), kvs'.map liftSlot = kvs
  | [], _ => ⟨[], rfl⟩
  | (k, v) :: rest, h => by
      obtain ⟨k', rfl⟩ := lift_surj k (h _ (List.mem_cons_self ..)).1
      obtain ⟨v', rfl⟩ := lift_surj v (h _ (List.mem_cons_self ..)).2
      obtain ⟨rest', rfl⟩ := liftSlot_surj rest fun kv hkv => h kv (List.mem_cons_of_mem _ hkv)
      exact ⟨(k', v') :: rest', rfl⟩

/-- puts with a NaN key interspersed change nothing -/
theorem structOfCount_drop_nan_keys (c : Nat) (raw : List (Slot N)) (proto : List (JVal N)) :
    structOfCount c raw proto = structOfCount c (raw.filter (fun kv => !isNaNKey kv.1)) proto := by
  unfold structOfCount
  rw [foldl_filter_of_noop (p := fun kv : Slot N => !isNaNKey kv.1) (fun st kv h => ?_) (fun _ _ _ => rfl) raw]
  obtain ⟨k, v⟩ := kv
  rw [Bool.not_eq_false'] at h
  cases k <;> first | cases h | exact structPutExt_nan_key st _ h v true


variable [LawfulNaNNum N]

omit [LawfulNaNNum N] in
/-- NaN is not `=` to itself: reflexivity fails … -/
theorem nan_not_equal_self (n : N) (h : NumLike.isNaN n = true) : equals (.num n : JVal N) (.num n) = false := by
  simpa [equals, NumLike.isNaN] using h

/-- … NaN "is greater than" every number AND every number "is greater than" NaN: antisymmetry fails, `compare = 0 ⇔ =`
    holds only vacuously; a tuple holding NaN is not `=` to itself (content walk; the C short-cuts on pointer identity) -/
theorem nan_compare (n m : N) (h : NumLike.isNaN n = true) :
    jcompare (.num n : JVal N) (.num m) = .gt ∧ jcompare (.num m : JVal N) (.num n) = .gt ∧
    equals (.tuple false [.num n] : JVal N) (.tuple false [.num n]) = false := by
  have hn : NumLike.eq n n = false := by simpa [NumLike.isNaN] using h
  refine ⟨?_, ?_, ?_⟩
  · simp [jcompare, LawfulNaNNum.nan_eq_left n m hn, LawfulNaNNum.nan_lt_left n m hn]
  · simp [jcompare, LawfulNaNNum.nan_eq_right m n hn, LawfulNaNNum.nan_lt_right m n hn]
  · simp [equals, equalsList, hn]

end JanetModel.Value
