/- C03 — the hooks of src/core/inttypes.c (`janet_int64_compare`, `janet_uint64_compare`, `janet_int64_hash`) are lawful; what
   janet_compare_abstract does between an s64 and a u64; `JVal N` is the abstract-free fragment of `AVal N`. -/
import JanetModel.Value.AbstractLeaf

namespace JanetModel.Value
open JanetModel.Gen.Value


theorem s64_inj (p q : UInt64) (h : s64 p = s64 q) : p = q := by
  apply UInt64.toNat_inj.mp
  have hp := p.toNat_lt
  have hq := q.toNat_lt
  unfold s64 at h
  split at h <;> split at h <;> omega

theorem int64Compare_ord (p q : UInt64) : ordOfInt (int64Compare p q) = intCmp (s64 p) (s64 q) := by
  unfold int64Compare intCmp ordOfInt
  by_cases h1 : s64 p = s64 q
  · simp [h1]
  · by_cases h2 : s64 p < s64 q
    · simp [h1, h2]
    · have : s64 q < s64 p := by omega
      simp [h1, h2, this]

theorem uint64Compare_ord (p q : UInt64) : ordOfInt (uint64Compare p q) = natCmp p.toNat q.toNat := by
  unfold uint64Compare natCmp ordOfInt
  by_cases h1 : p.toNat = q.toNat
  · simp [h1]
  · by_cases h2 : p.toNat < q.toNat
    · simp [h1, h2]
    · have : q.toNat < p.toNat := by omega
      simp [h1, h2, this]

/-- both hooks return −1, 0 or 1 only (so `cmp` / `compare` show the same three numbers as for every other type) -/
theorem int64Compare_range (p q : UInt64) : int64Compare p q = -1 ∨ int64Compare p q = 0 ∨ int64Compare p q = 1 := by
  unfold int64Compare; simp only; split <;> (try split) <;> simp

theorem uint64Compare_range (p q : UInt64) : uint64Compare p q = -1 ∨ uint64Compare p q = 0 ∨ uint64Compare p q = 1 := by
  unfold uint64Compare; simp only; split <;> (try split) <;> simp

/-- `janet_int64_compare` returns 0 exactly on identical 64-bit payloads -/
theorem int64Compare_eq_zero (p q : UInt64) : int64Compare p q = 0 ↔ p = q := by
  rw [← ordOfInt_eq_iff, int64Compare_ord, intCmp_eq_iff]
  exact ⟨s64_inj p q, fun h => by rw [h]⟩

theorem uint64Compare_eq_zero (p q : UInt64) : uint64Compare p q = 0 ↔ p = q := by
  rw [← ordOfInt_eq_iff, uint64Compare_ord, natCmp_eq_iff]
  exact UInt64.toNat_inj

theorem int64Compare_swap (p q : UInt64) : ordOfInt (int64Compare q p) = (ordOfInt (int64Compare p q)).swap := by
  rw [int64Compare_ord, int64Compare_ord, intCmp_swap]
theorem uint64Compare_swap (p q : UInt64) : ordOfInt (uint64Compare q p) = (ordOfInt (uint64Compare p q)).swap := by
  rw [uint64Compare_ord, uint64Compare_ord, natCmp_swap]
theorem int64Compare_tri (p q r : UInt64) :
    Tri (ordOfInt (int64Compare p q)) (ordOfInt (int64Compare q r)) (ordOfInt (int64Compare p r)) := by
  rw [int64Compare_ord, int64Compare_ord, int64Compare_ord]; exact tri_intCmp _ _ _
theorem uint64Compare_tri (p q r : UInt64) :
    Tri (ordOfInt (uint64Compare p q)) (ordOfInt (uint64Compare q r)) (ordOfInt (uint64Compare p r)) := by
  rw [uint64Compare_ord, uint64Compare_ord, uint64Compare_ord]; exact tri_natCmp _ _ _
theorem int64Hash_congr (p q : UInt64) (e : int64Compare p q = 0) : int64Hash p = int64Hash q := by
  rw [(int64Compare_eq_zero p q).mp e]
theorem uint64Hash_congr (p q : UInt64) (e : uint64Compare p q = 0) : int64Hash p = int64Hash q := by
  rw [(uint64Compare_eq_zero p q).mp e]

/-- memory whose payloads are 64-bit words (boxed integers; the payload of any other abstract is never read by a hook) -/
abbrev intHeap (tyOf : UInt64 → Nat) (payload : UInt64 → UInt64) (hooks : Nat → AbsType UInt64) : AbsHeap :=
  intHeapD tyOf payload hooks

/-- THE HOOKS OF inttypes.c ARE LAWFUL: in any memory where every abstract type with a compare hook is `janet_s64_type` or
    `janet_u64_type` (the translator lists every JanetAbstractType initialiser of src/core: these are the only two) -/
theorem intHeap_lawful (tyOf : UInt64 → Nat) (payload : UInt64 → UInt64) (hooks : Nat → AbsType UInt64)
    (hh : ∀ t, (hooks t).compare = none ∨ hooks t = s64Type ∨ hooks t = u64Type) :
    @LawfulAbstract (intHeap tyOf payload hooks) := by
  have key : ∀ t (f : UInt64 → UInt64 → Int), (hooks t).compare = some f →
      (f = int64Compare ∧ (hooks t).hash = some int64Hash) ∨ (f = uint64Compare ∧ (hooks t).hash = some int64Hash) := by
    intro t f hf
    rcases hh t with h | h | h
    · rw [h] at hf; cases hf
    · rw [h] at hf ⊢; exact Or.inl ⟨(Option.some.inj hf).symm, rfl⟩
    · rw [h] at hf ⊢; exact Or.inr ⟨(Option.some.inj hf).symm, rfl⟩
  refine @LawfulAbstract.mk (intHeap tyOf payload hooks) ?_ ?_ ?_
  · intro t f hf p q
    rcases key t f hf with ⟨rfl, _⟩ | ⟨rfl, _⟩
    · exact int64Compare_swap p q
    · exact uint64Compare_swap p q
  · intro t f hf p q r
    rcases key t f hf with ⟨rfl, _⟩ | ⟨rfl, _⟩
    · exact int64Compare_tri p q r
    · exact uint64Compare_tri p q r
  · intro t f hf
    rcases key t f hf with ⟨rfl, h⟩ | ⟨rfl, h⟩
    · exact ⟨int64Hash, h, int64Hash_congr⟩
    · exact ⟨int64Hash, h, uint64Hash_congr⟩

/-- the regenerated table of hooked types (Gen/ValueAbs.lean) has these two entries -/
theorem coreHooks_s64 : coreHooks "core/s64" = some s64Type := by rfl
theorem coreHooks_u64 : coreHooks "core/u64" = some u64Type := by rfl


section
variable [AbsHeap] [LawfulAbstract]

/-- two abstracts of DIFFERENT types (an s64 and a u64, whatever their payloads) are ordered by the addresses of their
    JanetAbstractType records and are never equal -/
theorem compareAbstract_of_type_ne (a b : UInt64) (h : AbsHeap.tyOf a ≠ AbsHeap.tyOf b) :
    ordOfInt (compareAbstract a b) = natCmp (AbsHeap.tyOf a) (AbsHeap.tyOf b) ∧ compareAbstract a b ≠ 0 := by
  have h1 : natCmp (AbsHeap.tyOf a) (AbsHeap.tyOf b) ≠ .eq := fun e => h ((natCmp_eq_iff _ _).mp e)
  have h2 : ordOfInt (compareAbstract a b) = natCmp (AbsHeap.tyOf a) (AbsHeap.tyOf b) := by
    rw [cmpAbs_then, then_of_ne_eq _ _ h1]
  refine ⟨h2, fun e => h1 ?_⟩
  rw [← h2]; exact (ordOfInt_eq_iff _).mpr e

end


section embed
variable {N : Type} [NumLike N] [AbsHeap]

omit [NumLike N] [AbsHeap] in
theorem ofJVals_length : ∀ l : List (JVal N), (ofJVals l).length = l.length
  | [] => rfl
  | _ :: xs => by simp [ofJVals, ofJVals_length xs]

theorem ofJVal_isNil (a : JVal N) : (ofJVal a).isNil = a.isNil := by
  cases a <;> rfl

theorem ofJVal_typeTag (a : JVal N) : (ofJVal a).typeTag = a.typeTag := by
  cases a <;> rfl

theorem ofJVals_structLength : ∀ l : List (JVal N), structLengthL (ofJVals l) = structLength l
  | [] => rfl
  | [_] => rfl
  | k :: _ :: rest => by simp [ofJVals, structLengthL, structLength, ofJVal_isNil, ofJVals_structLength rest]

omit [NumLike N] [AbsHeap] in
theorem ofJVals_isEmpty (l : List (JVal N)) : (ofJVals l).isEmpty = l.isEmpty := by
  cases l <;> rfl

theorem ofJVal_hash_both :
    (∀ a : JVal N, hashL (ofJVal a) = hash a) ∧
    (∀ l : List (JVal N), (∀ h, hashFoldL h (ofJVals l) = hashFold h l) ∧ protoHashL (ofJVals l) = protoHash l) := by
  apply JVal.induct
  case tuple => intro br xs ih; simp [ofJVal, hashL, hash, ih.1]
  case struct => intro f p ihf ihp; rw [ofJVal, hashL_struct, hash_struct, ihf.1, ihp.2]
  case lnil => exact ⟨fun _ => rfl, rfl⟩
  case lcons =>
    intro x xs ihx ihxs
    exact ⟨fun h => by simp [ofJVals, hashFoldL, hashFold, ihx, ihxs.1], by simp [ofJVals, protoHashL, protoHash, ihx]⟩
  all_goals (intros; rfl)

theorem ofJVal_equals_both :
    (∀ a b : JVal N, equalsL (ofJVal a) (ofJVal b) = equals a b) ∧
    (∀ l m : List (JVal N), equalsListL (ofJVals l) (ofJVals m) = equalsList l m) := by
  apply JVal.induct (P := fun a => ∀ b, equalsL (ofJVal a) (ofJVal b) = equals a b)
    (Q := fun l => ∀ m, equalsListL (ofJVals l) (ofJVals m) = equalsList l m)
  case tuple =>
    intro br xs ih b; cases b <;> try rfl
    rename_i br2 ys
    simp only [ofJVal, equalsL, equals, tupleHashL, tupleHash, (ofJVal_hash_both.2 _).1, ofJVals_length, ih ys]
    rfl
  case struct =>
    intro f p ihf ihp b; cases b <;> try rfl
    rename_i f2 p2
    have h1 := ofJVal_hash_both.1 (.struct f p)
    have h2 := ofJVal_hash_both.1 (.struct f2 p2)
    simp only [ofJVal] at h1 h2
    simp only [ofJVal, equalsL, equals, h1, h2, ofJVals_structLength, ofJVals_isEmpty, ihf f2, ihp p2]
  case lnil => intro m; cases m <;> rfl
  case lcons =>
    intro x xs ihx ihxs m; cases m
    · rfl
    · simp only [ofJVals, equalsListL, equalsList, ihx, ihxs]
  all_goals (intros; rename_i b; cases b <;> rfl)

theorem ofJVal_compare_both :
    (∀ a b : JVal N, jcompareL (ofJVal a) (ofJVal b) = jcompare a b) ∧
    (∀ l m : List (JVal N), compareListL (ofJVals l) (ofJVals m) = compareList l m) := by
  apply JVal.induct (P := fun a => ∀ b, jcompareL (ofJVal a) (ofJVal b) = jcompare a b)
    (Q := fun l => ∀ m, compareListL (ofJVals l) (ofJVals m) = compareList l m)
  case tuple =>
    intro br xs ih b; cases b <;> try rfl
    rename_i br2 ys
    simp only [ofJVal, jcompareL, jcompare, ih ys]
  case struct =>
    intro f p ihf ihp b; cases b <;> try rfl
    rename_i f2 p2
    have h1 := ofJVal_hash_both.1 (.struct f p)
    have h2 := ofJVal_hash_both.1 (.struct f2 p2)
    simp only [ofJVal] at h1 h2
    simp only [ofJVal, jcompareL, jcompare, h1, h2, ofJVals_length, ihf f2, ihp p2]
    rfl
  case lnil => intro m; cases m <;> rfl
  case lcons =>
    intro x xs ihx ihxs m; cases m
    · rfl
    · simp only [ofJVals, compareListL, compareList, ihx, ihxs]
      rfl
  all_goals (intros; rename_i b; cases b <;> rfl)

end embed

end JanetModel.Value
