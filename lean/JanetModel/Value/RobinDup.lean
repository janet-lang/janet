/- C03 — struct construction as a function of the final key→value map.

   `janet_struct_put_ext(st, key, value, replace)` on a key that is already in the array keeps the key object that went in
   FIRST and (with `replace`) stores the value that came LAST (`status == 0` branch); the layout does not move.  What a build
   knows about its slot array is `Holds cap sl m`: the array has the invariant and stores exactly the pairs of the map `m`.
   Every accepted put keeps this (`structPutExt_holds`, with `m` updated by `updMap`), `janet_struct_end` keeps it through
   its rebuild (`structEnd_holds`), and a less than half full array is determined by it (`Holds.eq`, from `RH.canonical`).  So

     structOfCount c raw proto = structOf (finalMap raw) proto            (`structOfCount_finalMap`)

   for EVERY insertion sequence `raw` (duplicates, nil keys / values interspersed) and every announced count `c` that is at
   least the number of accepted puts (what every caller in src/core announces); that the order of insertion, the announced
   count and ignored pairs do not matter (`structOf_perm`, `structOfCount_canonical`) are special cases.
   With a smaller announced count the "avoid extra items" test drops puts — also replacing ones — and the result DOES
   depend on the order (`Props/C03.lean: struct_put_extra_dropped_witness`). -/
import JanetModel.Value.RobinRel

namespace JanetModel.Value

variable {N : Type} [NumLike N]


/-- give every entry whose key equals `k` the value `v` -/
def setVal (k v : JVal N) (e : Slot N) : Slot N := (e.1, if contentEq e.1 k then v else e.2)

/-- one accepted `janet_struct_put_ext(st, k, v, replace)` seen on the map: a new key is appended; an existing key keeps
    its (first) key object and, with `replace`, gets the new value -/
def updMap (replace : Bool) (acc : List (Slot N)) (kv : Slot N) : List (Slot N) :=
  if acc.any (fun e => contentEq e.1 kv.1) then (if replace then acc.map (setVal kv.1 kv.2) else acc)
  else acc ++ [kv]

/-- the final key→value map of an insertion sequence (pairs with a nil key or value are ignored) -/
def finalMapR (replace : Bool) (raw : List (Slot N)) : List (Slot N) := (raw.filter validPair).foldl (updMap replace) []

/-- … for `janet_struct_put` (replace) -/
def finalMap (raw : List (Slot N)) : List (Slot N) := finalMapR true raw

/-- lookup in the map: the value stored under a key equal to `k`, nil when there is none -/
def mapGet (m : List (Slot N)) (k : JVal N) : JVal N :=
  match m.find? (fun e => contentEq e.1 k) with
  | some e => e.2
  | none => .nil


theorem contentEq_nil_left {k : JVal N} (hk : k.isNil = false) : contentEq (.nil : JVal N) k = false := by
  cases k <;> simp [contentEq, JVal.isNil] at hk ⊢

theorem setVal_empty {k v : JVal N} (hk : k.isNil = false) : setVal k v (emptySlot : Slot N) = emptySlot := by
  simp [setVal, emptySlot, contentEq_nil_left hk]

/-- the invariant looks at keys only: rewriting values keeps it -/
theorem RH.map_values {sl : List (Slot N)} (hrh : RH sl) {φ : Slot N → Slot N} (hk : ∀ s, (φ s).1 = s.1)
    (he : φ emptySlot = emptySlot) : RH (sl.map φ) := by
  have hs : ∀ i, sg (sl.map φ) i = φ (sg sl i) := getD_map_empty φ he sl
  have hkey : ∀ i, (sg (sl.map φ) i).1 = (sg sl i).1 := fun i => by rw [hs, hk]
  have hocc : ∀ i, Occ (sl.map φ) i ↔ Occ sl i := fun i => by unfold Occ; rw [hkey]
  refine ⟨?_, ?_, ?_, ?_⟩
  · intro i j hi hj ho hd
    rw [List.length_map] at hi hj hd
    rw [hkey] at hd
    exact (hocc j).mpr (hrh.chain i j hi hj ((hocc i).mp ho) hd)
  · intro i hi ho hon hne
    rw [List.length_map] at hi hon hne ⊢
    rw [hkey] at hne ⊢
    rw [hkey]
    exact hrh.order i hi ((hocc i).mp ho) ((hocc _).mp hon) hne
  · intro a b ha hb hoa hob hab
    rw [List.length_map] at ha hb
    rw [hkey, hkey] at hab
    exact hrh.distinct a b ha hb ((hocc a).mp hoa) ((hocc b).mp hob) hab
  · intro j hj hnj
    rw [List.length_map] at hj
    rw [hs, hrh.blank j hj (fun h => hnj ((hocc j).mpr h)), he]

omit [NumLike N] in
theorem entries_map (sl : List (Slot N)) {φ : Slot N → Slot N} (hk : ∀ s, (φ s).1 = s.1) :
    entries (sl.map φ) = (entries sl).map φ := by
  unfold entries
  rw [List.filter_map]
  congr 1
  exact List.filter_congr fun s _ => by simp only [Function.comp, hk]

variable [LawfulNum N]

/-- in an array with pairwise different keys, rewriting the values under `k` is overwriting the one slot that holds `k` -/
theorem map_setVal_eq_set {sl : List (Slot N)} (hrh : RH sl) {k v : JVal N} (hk : k.isNil = false) {p : Nat}
    (hp : p < sl.length) (hop : Occ sl p) (heq : contentEq (sg sl p).1 k = true) :
    sl.map (setVal k v) = sl.set p ((sg sl p).1, v) := by
  apply List.ext_getElem (by simp)
  intro j h1 h2
  have hj : j < sl.length := by simpa using h1
  have hsg : sg sl j = sl[j] := by simp [sg, List.getD_eq_getElem?_getD, hj]
  rw [List.getElem_map, List.getElem_set]
  by_cases e : p = j
  · subst e
    simp only [if_true]
    rw [hsg] at heq ⊢
    simp only [setVal, heq, if_true]
  · simp only [e, if_false]
    by_cases ho : Occ sl j
    · have : contentEq sl[j].1 k = false := by
        cases h : contentEq sl[j].1 k
        · rfl
        · exfalso
          apply e
          have h' : contentEq (sg sl j).1 (sg sl p).1 = true :=
            contentEq_trans_both.1 _ _ _ (by rw [hsg]; exact h) (by rw [contentEq_symm_both.1]; exact heq)
          exact (hrh.distinct j p hj hp ho hop h').symm
      simp [setVal, this]
    · have hb := hrh.blank j hj ho
      rw [hsg] at hb
      rw [hb]; exact setVal_empty hk


/-- `janet_struct_put_ext` of a valid pair whose key IS in the array (at slot `p`): nothing moves, nothing is counted;
    with `replace` the value of that slot is overwritten (the resident key object stays) -/
theorem structPutExt_dup {st : StructBuild N} (hrh : RH st.slots) (hcnt : st.count = nOcc st.slots)
    (hroom : st.count < st.length) (hcap : st.length < st.slots.length) {kv : Slot N}
    (hk : kv.1.isNil = false) (hv : kv.2.isNil = false) {p : Nat} (hp : p < st.slots.length) (hop : Occ st.slots p)
    (heq : contentEq kv.1 (sg st.slots p).1 = true) (r : Bool) :
    structPutExt st kv.1 kv.2 r =
      { st with slots := if r then st.slots.set p ((sg st.slots p).1, kv.2) else st.slots } := by
  obtain ⟨z, hz, hez⟩ := nOcc_lt_exists_empty st.slots (by omega)
  have hd := putLoop_dup_home hrh hz hez hp hop heq (value := kv.2) r
  unfold hm at hd
  unfold structPutExt
  have hne : (st.count == st.length) = false := by simp; omega
  simp only [hk, hv, Bool.or_self, Bool.false_eq_true, if_false, isNaNKey_false, hne, hd]


omit [LawfulNum N] in
theorem distinctKeys_map_setVal {m : List (Slot N)} (hd : DistinctKeys m) (k v : JVal N) : DistinctKeys (m.map (setVal k v)) := by
  unfold DistinctKeys at hd ⊢
  rw [List.pairwise_map]
  exact hd.imp (fun h => by simpa [setVal] using h)

omit [LawfulNum N] in
theorem updMap_spec (r : Bool) {m : List (Slot N)} {kv : Slot N} (hd : DistinctKeys m)
    (hvm : ∀ e ∈ m, e.1.isNil = false ∧ e.2.isNil = false) (hkv : kv.1.isNil = false ∧ kv.2.isNil = false) :
    DistinctKeys (updMap r m kv) ∧ (∀ e ∈ updMap r m kv, e.1.isNil = false ∧ e.2.isNil = false) ∧
    (updMap r m kv).length ≤ m.length + 1 := by
  unfold updMap
  by_cases hany : m.any (fun e => contentEq e.1 kv.1) = true
  · rw [if_pos hany]
    cases r with
    | false => exact ⟨hd, hvm, Nat.le_succ _⟩
    | true =>
      refine ⟨distinctKeys_map_setVal hd _ _, fun e he => ?_, by simp⟩
      obtain ⟨e0, he0, rfl⟩ := List.mem_map.mp he
      refine ⟨(hvm e0 he0).1, ?_⟩
      simp only [setVal]; split
      · exact hkv.2
      · exact (hvm e0 he0).2
  · rw [if_neg hany]
    have hany' : m.any (fun e => contentEq e.1 kv.1) = false := by simpa using hany
    refine ⟨?_, fun e he => ?_, by simp⟩
    · unfold DistinctKeys at hd ⊢
      rw [List.pairwise_append]
      refine ⟨hd, List.pairwise_singleton _ _, ?_⟩
      intro a ha b hb
      simp only [List.mem_singleton] at hb; subst hb
      simpa using List.any_eq_false.mp hany' a ha
    · rcases List.mem_append.mp he with h | h
      · exact hvm e h
      · simp only [List.mem_singleton] at h; subst h; exact hkv

omit [LawfulNum N] in
theorem foldl_updMap_spec (r : Bool) : ∀ (V m : List (Slot N)), DistinctKeys m →
    (∀ e ∈ m, e.1.isNil = false ∧ e.2.isNil = false) → (∀ kv ∈ V, kv.1.isNil = false ∧ kv.2.isNil = false) →
    DistinctKeys (V.foldl (updMap r) m) ∧ (∀ e ∈ V.foldl (updMap r) m, e.1.isNil = false ∧ e.2.isNil = false) ∧
    (V.foldl (updMap r) m).length ≤ m.length + V.length
  | [], _, hd, hvm, _ => ⟨hd, hvm, Nat.le_refl _⟩
  | kv :: rest, m, hd, hvm, hvV => by
      obtain ⟨hd', hv', hl'⟩ := updMap_spec r hd hvm (hvV kv (List.mem_cons_self ..))
      obtain ⟨h1, h2, h3⟩ := foldl_updMap_spec r rest _ hd' hv' (fun e he => hvV e (List.mem_cons_of_mem _ he))
      exact ⟨h1, h2, by simp only [List.foldl_cons, List.length_cons]; omega⟩


/-- the array `sl` of capacity `cap` has the invariant and stores exactly the pairs of the map `m` (pairwise different
    keys, no nil key or value) -/
structure Holds (cap : Nat) (sl m : List (Slot N)) : Prop where
  rh : RH sl
  len : sl.length = cap
  ent : (entries sl).Perm m
  distinct : DistinctKeys m
  valid : ∀ kv ∈ m, kv.1.isNil = false ∧ kv.2.isNil = false

omit [LawfulNum N] in
theorem Holds.nOcc {cap : Nat} {sl m : List (Slot N)} (h : Holds cap sl m) : nOcc sl = m.length := by
  rw [nOcc_eq_length_entries, h.ent.length_eq]

/-- **a less than half full array is determined by its capacity and the map it holds** (`janet_struct_begin` allocates more
    than twice the announced count) -/
theorem Holds.eq {cap : Nat} {sl₁ sl₂ m₁ m₂ : List (Slot N)} (h₁ : Holds cap sl₁ m₁) (h₂ : Holds cap sl₂ m₂) (hp : m₁.Perm m₂)
    (hroom : 2 * m₁.length < cap) : sl₁ = sl₂ :=
  h₁.rh.canonical h₂.rh (h₂.len.trans h₁.len.symm) (h₁.ent.trans (hp.trans h₂.ent.symm)) (by rw [h₁.nOcc, h₁.len]; exact hroom)

theorem Holds.perm {cap : Nat} {sl m m' : List (Slot N)} (h : Holds cap sl m) (hp : m.Perm m') : Holds cap sl m' :=
  ⟨h.rh, h.len, h.ent.trans hp, h.distinct.perm hp, fun kv hkv => h.valid kv (hp.mem_iff.mpr hkv)⟩

theorem Holds.replicate (cap : Nat) : Holds cap (List.replicate cap (emptySlot : Slot N)) [] :=
  ⟨RH.replicate _, List.length_replicate, by rw [entries_replicate], List.Pairwise.nil, nofun⟩

/-- **one accepted `janet_struct_put_ext`** (any `replace` flag, new key or not) on a build that holds `m` and has not yet
    been given as many keys as were announced: afterwards it holds the updated map, the temporary count is its size -/
theorem structPutExt_holds {st : StructBuild N} {cap : Nat} {m : List (Slot N)} (h : Holds cap st.slots m)
    (hcnt : st.count = m.length) (hroom : m.length < st.length) (hcap : st.length < cap) {kv : Slot N}
    (hkv : kv.1.isNil = false ∧ kv.2.isNil = false) (r : Bool) :
    ∃ sl, structPutExt st kv.1 kv.2 r = { st with slots := sl, count := (updMap r m kv).length } ∧
      Holds cap sl (updMap r m kv) := by
  obtain ⟨hd', hv', _⟩ := updMap_spec r h.distinct h.valid hkv
  have hn : st.count = nOcc st.slots := by rw [h.nOcc, hcnt]
  have hlen := h.len
  by_cases hany : m.any (fun e => contentEq e.1 kv.1) = true
  · -- the key is in the array, at slot `p`
    obtain ⟨e, he, hc⟩ := List.any_eq_true.mp hany
    obtain ⟨p, hp, hop, hs⟩ := (mem_entries_iff st.slots e).mp (h.ent.mem_iff.mpr he)
    have heq : contentEq (sg st.slots p).1 kv.1 = true := by rw [hs]; exact hc
    have hupd : updMap r m kv = if r then m.map (setVal kv.1 kv.2) else m := by unfold updMap; rw [if_pos hany]
    rw [structPutExt_dup h.rh hn (by omega) (by omega) hkv.1 hkv.2 hp hop (contentEq_symm heq) r, hupd]
    cases r with
    | false => exact ⟨st.slots, by simp only [Bool.false_eq_true, if_false, hcnt], h⟩
    | true =>
      simp only [if_true, List.length_map, ← hcnt]
      refine ⟨_, rfl, ?_⟩
      rw [← map_setVal_eq_set h.rh hkv.1 hp hop heq]
      rw [hupd] at hd' hv'
      exact ⟨h.rh.map_values (fun _ => rfl) (setVal_empty hkv.1), by rw [List.length_map, hlen],
        by rw [entries_map (φ := setVal kv.1 kv.2) _ (fun _ => rfl)]; exact h.ent.map _, hd', hv'⟩
  · -- a new key
    have hany' : m.any (fun e => contentEq e.1 kv.1) = false := by simpa using hany
    have hnew : NewKey st.slots kv.1 := fun j hj ho => by
      have := List.any_eq_false.mp hany' _ (h.ent.mem_iff.mp ((mem_entries_iff st.slots _).mpr ⟨j, hj, ho, rfl⟩))
      rw [contentEq_symm_both.1]; simpa using this
    have hupd : updMap r m kv = m ++ [kv] := by unfold updMap; rw [if_neg hany]
    obtain ⟨_, len', rh', ent'⟩ := ins_new h.rh (by omega) hkv.1 hnew
    rw [structPutExt_new h.rh hn (by omega) (by omega) hkv.1 hkv.2 hnew r, hupd, List.length_append, ← hcnt]
    rw [hupd] at hd' hv'
    exact ⟨_, rfl, rh', len'.trans hlen, ent'.trans ((h.ent.cons kv).trans (List.perm_append_singleton kv m).symm), hd', hv'⟩

/-- **any run of accepted puts, duplicates included**, on a build that holds `m`: afterwards it holds the updated map.
    Needs only that the announced count covers the puts (so that "avoid extra items" never fires). -/
theorem foldl_putExt_holds (r : Bool) {cap : Nat} : ∀ (V m : List (Slot N)) (st : StructBuild N), Holds cap st.slots m →
    st.count = m.length → m.length + V.length ≤ st.length → st.length < cap →
    (∀ kv ∈ V, kv.1.isNil = false ∧ kv.2.isNil = false) →
    ∃ sl, V.foldl (fun acc kv => structPutExt acc kv.1 kv.2 r) st =
        { st with slots := sl, count := (V.foldl (updMap r) m).length } ∧ Holds cap sl (V.foldl (updMap r) m)
  | [], m, st, h, hc, _, _, _ => ⟨st.slots, by simp only [List.foldl_nil, ← hc], h⟩
  | kv :: rest, m, st, h, hc, hroom, hcap, hV => by
      simp only [List.length_cons] at hroom
      have hkv := hV kv (List.mem_cons_self ..)
      obtain ⟨sl, e, h'⟩ := structPutExt_holds h hc (by omega) hcap hkv r
      have hl := (updMap_spec r h.distinct h.valid hkv).2.2
      obtain ⟨sl', e', h''⟩ := foldl_putExt_holds r rest (updMap r m kv) { st with slots := sl, count := (updMap r m kv).length }
        h' rfl (by simp only []; omega) hcap (fun x hx => hV x (List.mem_cons_of_mem _ hx))
      exact ⟨sl', by rw [List.foldl_cons, List.foldl_cons, e, e'], h''⟩

theorem finalMapR_spec (r : Bool) (raw : List (Slot N)) :
    DistinctKeys (finalMapR r raw) ∧ (∀ kv ∈ finalMapR r raw, kv.1.isNil = false ∧ kv.2.isNil = false) ∧
    (finalMapR r raw).length ≤ (raw.filter validPair).length := by
  have := foldl_updMap_spec r (raw.filter validPair) [] List.Pairwise.nil (by simp) (filter_validPair_valid raw)
  exact ⟨this.1, this.2.1, by unfold finalMapR; simpa using this.2.2⟩


theorem foldl_putExt_begin (r : Bool) {c : Nat} (raw : List (Slot N)) (hc : (raw.filter validPair).length ≤ c) :
    ∃ sl, raw.foldl (fun acc kv => structPutExt acc kv.1 kv.2 r) (structBegin c) =
        { slots := sl, count := (finalMapR r raw).length, length := c, proto := [] } ∧
      Holds (tablen (2 * c)) sl (finalMapR r raw) := by
  have hcap := lt_tablen (2 * c)
  rw [foldl_putExt_filter r raw]
  exact foldl_putExt_holds r (raw.filter validPair) [] (structBegin c) (Holds.replicate _) rfl
    (by simpa [structBegin] using hc) (by simp only [structBegin]; omega) (filter_validPair_valid raw)

omit [LawfulNum N] in
theorem foldl_updMap_new (r : Bool) : ∀ (l m : List (Slot N)), DistinctKeys (m ++ l) → l.foldl (updMap r) m = m ++ l
  | [], m, _ => (List.append_nil m).symm
  | kv :: rest, m, hd => by
      have hnew : m.any (fun e => contentEq e.1 kv.1) = false :=
        List.any_eq_false.mpr fun e he => by
          rw [(List.pairwise_append.mp hd).2.2 e he kv (List.mem_cons_self ..)]; exact Bool.false_ne_true
      have hstep : updMap r m kv = m ++ [kv] := by rw [updMap, hnew]; rfl
      rw [List.foldl_cons, hstep, foldl_updMap_new r rest _ (by rwa [List.append_assoc]), List.append_assoc]
      rfl

omit [LawfulNum N] in
theorem finalMapR_of_distinct (r : Bool) {raw : List (Slot N)} (hd : DistinctKeys (raw.filter validPair)) :
    finalMapR r raw = raw.filter validPair := by
  rw [finalMapR, foldl_updMap_new r _ [] (by rwa [List.nil_append]), List.nil_append]

omit [NumLike N] [LawfulNum N] in
theorem filter_validPair_self {kvs : List (Slot N)} (hv : ∀ kv ∈ kvs, kv.1.isNil = false ∧ kv.2.isNil = false) :
    kvs.filter validPair = kvs :=
  List.filter_eq_self.mpr fun kv h => (validPair_iff kv).mpr (hv kv h)

/-- **`janet_struct_end`** on a build that holds `m`: the finished struct is laid out in an array that holds `m` and has the
    capacity `janet_struct_begin` chooses for `m.length` pairs — the build's own array, or the rebuilt one when fewer keys
    came than were announced -/
theorem structEnd_holds {st : StructBuild N} {m : List (Slot N)} (h : Holds (tablen (2 * st.length)) st.slots m)
    (hcnt : st.count = m.length) :
    ∃ sl, structEnd st = .struct (flatten sl) st.proto ∧ Holds (tablen (2 * m.length)) sl m := by
  by_cases hne : st.count = st.length
  · refine ⟨st.slots, ?_, by rw [← hcnt, hne]; exact h⟩
    simp only [structEnd, hne, bne_self_eq_false, Bool.false_eq_true, if_false]
  · have hE : DistinctKeys (entries st.slots) := h.distinct.perm h.ent.symm
    have hcap := lt_tablen (2 * st.count)
    obtain ⟨sl, e, hs⟩ := foldl_putExt_holds true (entries st.slots) [] (structBegin st.count) (Holds.replicate _) rfl
      (by simp only [structBegin, List.length_nil, Nat.zero_add, h.ent.length_eq, hcnt]; exact Nat.le_refl _)
      (by simp only [structBegin]; omega) (fun kv hkv => h.valid kv (h.ent.mem_iff.mp hkv))
    rw [foldl_updMap_new true _ [] (by rwa [List.nil_append]), List.nil_append] at e hs
    refine ⟨sl, ?_, by rw [← hcnt]; exact hs.perm h.ent⟩
    have hb : (st.count != st.length) = true := by simpa using hne
    simp only [structEnd, hb, if_true, foldl_skip]
    rw [show (entries st.slots).foldl (fun acc kv => structPut acc kv.1 kv.2) (structBegin st.count) = _ from e]

/-- **a whole construction** — `janet_struct_begin(c)`, any insertion sequence, the prototype, `janet_struct_end` — is laid
    out in an array that holds the final map, of the capacity chosen for its size -/
theorem structOfCount_holds (c : Nat) (raw : List (Slot N)) (proto : List (JVal N)) (hc : (raw.filter validPair).length ≤ c) :
    ∃ sl, structOfCount c raw proto = .struct (flatten sl) proto ∧
      Holds (tablen (2 * (finalMap raw).length)) sl (finalMap raw) := by
  obtain ⟨sl, e, h⟩ := foldl_putExt_begin true raw hc
  rw [structOfCount, show raw.foldl (fun acc kv => structPut acc kv.1 kv.2) (structBegin c) = _ from e]
  exact structEnd_holds (st := { slots := sl, count := (finalMapR true raw).length, length := c, proto := proto }) h rfl

theorem structOf_holds {kvs : List (Slot N)} (proto : List (JVal N)) (hv : ∀ kv ∈ kvs, kv.1.isNil = false ∧ kv.2.isNil = false)
    (hd : DistinctKeys kvs) : ∃ sl, structOf kvs proto = .struct (flatten sl) proto ∧ Holds (tablen (2 * kvs.length)) sl kvs := by
  have hf : kvs.filter validPair = kvs := filter_validPair_self hv
  obtain ⟨sl, e, h⟩ := structOfCount_holds kvs.length kvs proto (by rw [hf]; exact Nat.le_refl _)
  rw [finalMap, finalMapR_of_distinct true (by rw [hf]; exact hd), hf] at h
  exact ⟨sl, e, h⟩

/-- **struct construction is a function of the final key→value map**, for every insertion sequence and every announced
    count that is at least the number of accepted puts -/
theorem structOfCount_finalMap (c : Nat) (raw : List (Slot N)) (proto : List (JVal N))
    (hc : (raw.filter validPair).length ≤ c) : structOfCount c raw proto = structOf (finalMap raw) proto := by
  obtain ⟨hd, hv, _⟩ := finalMapR_spec true raw
  obtain ⟨sl₁, e₁, h₁⟩ := structOfCount_holds c raw proto hc
  obtain ⟨sl₂, e₂, h₂⟩ := structOf_holds (kvs := finalMap raw) proto hv hd
  rw [e₁, e₂, h₁.eq h₂ (List.Perm.refl _) (by have := lt_tablen (2 * (finalMap raw).length); omega)]

/-- **struct layout is canonical**: structs built from the same pairs (valid, pairwise different keys) in ANY insertion
    order are the same value — identical slot arrays, whatever the collision pattern, including wrap-around -/
theorem structOf_perm {kvs1 kvs2 : List (Slot N)} (proto : List (JVal N)) (hp : kvs1.Perm kvs2)
    (hvalid : ∀ kv ∈ kvs1, kv.1.isNil = false ∧ kv.2.isNil = false) (hd : DistinctKeys kvs1) :
    structOf kvs1 proto = structOf kvs2 proto := by
  obtain ⟨sl₁, e₁, h₁⟩ := structOf_holds proto hvalid hd
  obtain ⟨sl₂, e₂, h₂⟩ := structOf_holds proto (fun kv h => hvalid kv (hp.mem_iff.mpr h)) (hd.perm hp)
  rw [← hp.length_eq] at h₂
  rw [e₁, e₂, h₁.eq h₂ hp (by have := lt_tablen (2 * kvs1.length); omega)]

/-- **struct layout is canonical, general form**: whatever is announced to `janet_struct_begin` (at least the number of
    accepted pairs), whatever ignored pairs (nil key or nil value) are interspersed, and in whatever order the accepted
    pairs (pairwise different keys) are put, the resulting struct is the same value -/
theorem structOfCount_canonical {raw1 raw2 : List (Slot N)} (proto : List (JVal N)) {c1 c2 : Nat}
    (hp : (raw1.filter validPair).Perm (raw2.filter validPair)) (hd : DistinctKeys (raw1.filter validPair))
    (hc1 : (raw1.filter validPair).length ≤ c1) (hc2 : (raw2.filter validPair).length ≤ c2) :
    structOfCount c1 raw1 proto = structOfCount c2 raw2 proto := by
  rw [structOfCount_finalMap c1 raw1 proto hc1, structOfCount_finalMap c2 raw2 proto hc2, finalMap, finalMap,
    finalMapR_of_distinct true hd, finalMapR_of_distinct true (hd.perm hp)]
  exact structOf_perm proto hp (filter_validPair_valid raw1) hd

theorem finalMap_dup_head {k w v : JVal N} {rest tail : List (Slot N)} (hw : w.isNil = false)
    (hv : ∀ kv ∈ (k, v) :: rest, kv.1.isNil = false ∧ kv.2.isNil = false) (hd : DistinctKeys ((k, v) :: rest))
    (ht : tail.filter validPair = []) : finalMap ((k, w) :: (k, v) :: rest ++ tail) = (k, v) :: rest := by
  have hk := hv _ (List.mem_cons_self ..)
  have hf : ((k, w) :: (k, v) :: rest ++ tail).filter validPair = (k, w) :: (k, v) :: rest := by
    rw [List.filter_append, ht, List.append_nil, List.filter_eq_self]
    intro kv hkv
    rcases List.mem_cons.mp hkv with rfl | hkv
    · exact (validPair_iff _).mpr ⟨hk.1, hw⟩
    · exact (validPair_iff _).mpr (hv kv hkv)
  have h2 : updMap true (updMap true [] (k, w)) (k, v) = [(k, v)] := by
    simp [updMap, setVal, contentEq_refl_both.1 k]
  rw [finalMap, finalMapR, hf, List.foldl_cons, List.foldl_cons, h2]
  exact foldl_updMap_new true rest [(k, v)] hd


omit [LawfulNum N] in
theorem mapGet_cons (e : Slot N) (m : List (Slot N)) (k : JVal N) :
    mapGet (e :: m) k = if contentEq e.1 k then e.2 else mapGet m k := by
  unfold mapGet; rw [List.find?_cons]; cases contentEq e.1 k <;> rfl

omit [LawfulNum N] in
theorem mapGet_append (a b : List (Slot N)) (k : JVal N) :
    mapGet (a ++ b) k = if a.any (fun e => contentEq e.1 k) then mapGet a k else mapGet b k := by
  induction a with
  | nil => simp
  | cons e a ih =>
    rw [List.cons_append, mapGet_cons, mapGet_cons, List.any_cons, ih]
    cases contentEq e.1 k
    · simp only [Bool.false_or, Bool.false_eq_true, if_false]
    · simp only [Bool.true_or, if_true]

omit [LawfulNum N] in
theorem mapGet_none (m : List (Slot N)) (k : JVal N) (h : m.any (fun e => contentEq e.1 k) = false) : mapGet m k = .nil := by
  induction m with
  | nil => rfl
  | cons e m ih =>
    simp only [List.any_cons, Bool.or_eq_false_iff] at h
    rw [mapGet_cons, h.1, ih h.2]; rfl

theorem mapGet_map_setVal (m : List (Slot N)) (k0 v0 k : JVal N) :
    mapGet (m.map (setVal k0 v0)) k =
      if contentEq k0 k && m.any (fun e => contentEq e.1 k) then v0 else mapGet m k := by
  induction m with
  | nil => simp [mapGet]
  | cons e m ih =>
    rw [List.map_cons, mapGet_cons, mapGet_cons, ih, List.any_cons]
    simp only [setVal]
    by_cases h1 : contentEq e.1 k = true
    · -- e.1 = k: then (e.1 = k0) ↔ (k0 = k)
      have : contentEq e.1 k0 = contentEq k0 k := by
        rw [contentEq_congr_left h1 k0, contentEq_symm_both.1]
      rw [this]
      simp only [h1, if_true, Bool.true_or, Bool.and_true]
    · have h1' : contentEq e.1 k = false := by simpa using h1
      simp only [h1', Bool.false_eq_true, if_false, Bool.false_or]

/-- one accepted `janet_struct_put` on the map: the key now maps to the put value -/
theorem mapGet_updMap_true (m : List (Slot N)) (kv : Slot N) (k : JVal N) :
    mapGet (updMap true m kv) k = if contentEq kv.1 k then kv.2 else mapGet m k := by
  unfold updMap
  by_cases hany : m.any (fun e => contentEq e.1 kv.1) = true
  · simp only [hany, if_true]
    rw [mapGet_map_setVal]
    cases h : contentEq kv.1 k
    · simp
    · have : m.any (fun e => contentEq e.1 k) = true := by
        obtain ⟨e, he, hc⟩ := List.any_eq_true.mp hany
        exact List.any_eq_true.mpr ⟨e, he, contentEq_trans_both.1 _ _ _ hc h⟩
      simp [this]
  · have hany' : m.any (fun e => contentEq e.1 kv.1) = false := by simpa using hany
    simp only [hany', Bool.false_eq_true, if_false]
    rw [mapGet_append, mapGet_cons]
    cases h : contentEq kv.1 k
    · cases h2 : m.any (fun e => contentEq e.1 k)
      · exact (mapGet_none m k h2).symm
      · rfl
    · have : m.any (fun e => contentEq e.1 k) = false := by
        cases h2 : m.any (fun e => contentEq e.1 k)
        · rfl
        · obtain ⟨e, he, hc⟩ := List.any_eq_true.mp h2
          have := List.any_eq_false.mp hany' e he
          rw [contentEq_trans_both.1 _ _ _ hc (contentEq_symm h)] at this
          simp at this
      rw [this]; rfl

/-- the value the LAST accepted put with a key equal to `k` carried (nil when there is none) -/
def lastPut (V : List (Slot N)) (k : JVal N) : JVal N :=
  V.foldl (fun acc kv => if contentEq kv.1 k then kv.2 else acc) .nil

theorem mapGet_foldl_updMap : ∀ (V m : List (Slot N)) (k : JVal N),
    mapGet (V.foldl (updMap true) m) k = V.foldl (fun acc kv => if contentEq kv.1 k then kv.2 else acc) (mapGet m k)
  | [], _, _ => rfl
  | kv :: rest, m, k => by
      simp only [List.foldl_cons]
      rw [mapGet_foldl_updMap rest, mapGet_updMap_true]

/-- **which value wins**: in the final map of an insertion sequence a key maps to the value of the LAST accepted put under
    an equal key -/
theorem mapGet_finalMap (raw : List (Slot N)) (k : JVal N) : mapGet (finalMap raw) k = lastPut (raw.filter validPair) k := by
  unfold finalMap finalMapR lastPut
  rw [mapGet_foldl_updMap]; rfl


/-- `struct/proto-flatten`'s construction is the struct of the keep-first map -/
theorem structOfCountKeep_finalMap (c : Nat) (raw : List (Slot N)) (hc : (raw.filter validPair).length ≤ c) :
    structOfCountKeep c raw = structOf (finalMapR false raw) [] := by
  obtain ⟨hd, hv, _⟩ := finalMapR_spec false raw
  obtain ⟨sl, e, h⟩ := foldl_putExt_begin false raw hc
  obtain ⟨sl₁, e₁, h₁⟩ := structEnd_holds (st := { slots := sl, count := (finalMapR false raw).length, length := c, proto := [] }) h rfl
  obtain ⟨sl₂, e₂, h₂⟩ := structOf_holds [] hv hd
  rw [structOfCountKeep, e, e₁, e₂, h₁.eq h₂ (List.Perm.refl _) (by have := lt_tablen (2 * (finalMapR false raw).length); omega)]

theorem mapGet_foldl_updMap_false : ∀ (V m : List (Slot N)) (k : JVal N),
    mapGet (V.foldl (updMap false) m) k = mapGet (m ++ V) k
  | [], m, k => by simp
  | kv :: rest, m, k => by
      simp only [List.foldl_cons]
      rw [mapGet_foldl_updMap_false rest]
      unfold updMap
      by_cases hany : m.any (fun e => contentEq e.1 kv.1) = true
      · simp only [hany, if_true, Bool.false_eq_true, if_false]
        rw [mapGet_append, mapGet_append m (kv :: rest), mapGet_cons]
        cases h : contentEq kv.1 k
        · rfl
        · have : m.any (fun e => contentEq e.1 k) = true := by
            obtain ⟨e, he, hc⟩ := List.any_eq_true.mp hany
            exact List.any_eq_true.mpr ⟨e, he, contentEq_trans_both.1 _ _ _ hc h⟩
          simp [this]
      · have hany' : m.any (fun e => contentEq e.1 kv.1) = false := by simpa using hany
        simp only [hany', Bool.false_eq_true, if_false, List.append_assoc, List.cons_append, List.nil_append]

/-- with `replace = 0` a key maps to the value of the FIRST accepted put under an equal key -/
theorem mapGet_finalMapKeep (raw : List (Slot N)) (k : JVal N) :
    mapGet (finalMapR false raw) k = mapGet (raw.filter validPair) k := by
  unfold finalMapR
  rw [mapGet_foldl_updMap_false]; rfl


def pairEq (s s' : Slot N) : Prop := contentEq s.1 s'.1 = true ∧ contentEq s.2 s'.2 = true

theorem pairEq_rel : SlotRelPut (pairEq : Slot N → Slot N → Prop) where
  empty := ⟨rfl, rfl⟩
  nil := fun _ _ h => contentEq_isNil _ _ h.1
  vnil := fun _ _ h => contentEq_isNil _ _ h.2
  nan := fun _ _ _ => by rw [isNaNKey_false, isNaNKey_false]
  hash := fun _ _ h => contentEq_hash_both.1 _ _ h.1
  cmp := fun _ _ _ _ h1 h2 => by rw [jcompare_congr_left h1.1, jcompare_congr_right h2.1]
  repl := fun _ _ _ _ h1 h2 _ => ⟨h2.1, h1.2⟩

omit [NumLike N] [LawfulNum N] in
theorem PW_cons {M : Type} (R : Slot N → Slot M → Prop) (a : Slot N) (l : List (Slot N)) (a' : Slot M) (l' : List (Slot M)) :
    PW R (a :: l) (a' :: l') ↔ R a a' ∧ PW R l l' := by
  unfold PW
  constructor
  · rintro ⟨hl, h⟩
    exact ⟨by simpa using h 0, by simpa using hl, fun i => by simpa using h (i + 1)⟩
  · rintro ⟨h0, hl, h⟩
    refine ⟨by simp [hl], fun i => ?_⟩
    cases i with
    | zero => simpa using h0
    | succ i => simpa using h i

omit [LawfulNum N] in
theorem PW_pairEq_flatten : ∀ (sl sl' : List (Slot N)), PW pairEq sl sl' → contentEqList (flatten sl) (flatten sl') = true
  | [], [], _ => rfl
  | [], _ :: _, h => by have := h.1; simp at this
  | _ :: _, [], h => by have := h.1; simp at this
  | (k, v) :: l, (k', v') :: l', h => by
      rw [PW_cons] at h
      simp only [flatten, contentEqList, Bool.and_eq_true]
      exact ⟨h.1.1, h.1.2, PW_pairEq_flatten l l' h.2⟩

/-- insertion sequences that are equal pair by pair up to `=` (e.g. −0 for +0 as a key), announced alike, with `=`
    prototypes, give `=` structs -/
theorem structOfCount_contentEq (c : Nat) {kvs kvs' : List (Slot N)} (hlen : kvs.length = kvs'.length)
    (hkv : ∀ i, pairEq (kvs.getD i emptySlot) (kvs'.getD i emptySlot)) {proto proto' : List (JVal N)}
    (hp : contentEqList proto proto' = true) :
    contentEq (structOfCount c kvs proto) (structOfCount c kvs' proto') = true := by
  obtain ⟨sl, sl', e1, e2, hpw⟩ := structOfCount_rel (RP := fun p p' => contentEqList p p' = true) pairEq_rel rfl c hlen hkv hp
  rw [e1, e2]
  simp only [contentEq, Bool.and_eq_true]
  exact ⟨PW_pairEq_flatten _ _ hpw, hp⟩

/-- two maps with the same keys and values up to `=`, listed in any order -/
def MapEquiv (m₁ m₂ : List (Slot N)) : Prop :=
  ∃ m₂', m₂.Perm m₂' ∧ m₁.length = m₂'.length ∧ ∀ i, pairEq (m₁.getD i emptySlot) (m₂'.getD i emptySlot)

/-- the struct is a function of the final key→value map alone, up to `=` of keys and values and the order of listing -/
theorem structOfCount_mapEquiv (c₁ c₂ : Nat) (raw₁ raw₂ : List (Slot N)) (proto : List (JVal N))
    (hc₁ : (raw₁.filter validPair).length ≤ c₁) (hc₂ : (raw₂.filter validPair).length ≤ c₂)
    (h : MapEquiv (finalMap raw₁) (finalMap raw₂)) :
    contentEq (structOfCount c₁ raw₁ proto) (structOfCount c₂ raw₂ proto) = true := by
  obtain ⟨m, hperm, hlen, hpw⟩ := h
  obtain ⟨hd, hv, _⟩ := finalMapR_spec true raw₂
  rw [structOfCount_finalMap c₁ raw₁ proto hc₁, structOfCount_finalMap c₂ raw₂ proto hc₂,
    structOf_perm proto hperm hv hd]
  unfold structOf
  rw [← hlen]
  exact structOfCount_contentEq _ hlen hpw (contentEq_refl_both.2 proto)

end JanetModel.Value
