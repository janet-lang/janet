/- C03 — the pointer short-cuts of `janet_equals` (`if (t1 == t2) break;`, `if (s1 == s2) break;`).

   `PVal L` = values whose tuples and structs carry their ADDRESS; `equalsP` = janet_equals with the two short-cuts in front of
   the flag / hash / length tests, exactly where the C has them.  Two values read from one memory (`Consistent mem`: the object at
   an address has one content) are `equalsP` exactly when their contents are `equalsL` — the short-cut is reflexivity of `=` on
   the content, nothing else (`equalsP_eq_equalsL`).  With a leaf type whose `=` is not reflexive (NaN) the short-cut IS visible:
   see the example in Props/C03.lean.  janet_compare has no such short-cut for tuples and structs (regenerated flag); the one in
   janet_compare_abstract (`if (xx == yy) return 0`) is part of `compareAbstract` itself and shown redundant by `cmpAbs_then`. -/
import JanetModel.Value.AbstractLemmas

namespace JanetModel.Value
open JanetModel.Gen.Value

/-- a janet value with the addresses of its tuples and structs -/
inductive PVal (L : Type) where
  | leaf (l : L)
  | tuple (addr : Nat) (bracket : Bool) (xs : List (PVal L))
  | struct (addr : Nat) (flat : List (PVal L)) (proto : List (PVal L))

variable {L : Type}

mutual
/-- the content of an addressed value -/
def erase : PVal L → LVal L
  | .leaf l => .leaf l
  | .tuple _ br xs => .tuple br (erases xs)
  | .struct _ f p => .struct (erases f) (erases p)
def erases : List (PVal L) → List (LVal L)
  | [] => []
  | x :: xs => erase x :: erases xs
end

mutual
/-- every tuple / struct object inside the value is the object the memory holds at its address -/
def Consistent (mem : Nat → Option (LVal L)) : PVal L → Prop
  | .leaf _ => True
  | .tuple a br xs => mem a = some (.tuple br (erases xs)) ∧ ConsistentL mem xs
  | .struct a f p => mem a = some (.struct (erases f) (erases p)) ∧ ConsistentL mem f ∧ ConsistentL mem p
def ConsistentL (mem : Nat → Option (LVal L)) : List (PVal L) → Prop
  | [] => True
  | x :: xs => Consistent mem x ∧ ConsistentL mem xs
end

variable [LeafOps L]

mutual
/-- `janet_equals` with its pointer short-cuts (stored hash / length fields are functions of the content) -/
def equalsP : PVal L → PVal L → Bool
  | .leaf a, .leaf b => LeafOps.eq a b
  | .tuple a1 br1 xs, .tuple a2 br2 ys =>
      if a1 == a2 then true                       -- `if (t1 == t2) break;`
      else if br1 != br2 then false
      else if tupleHashL (erases xs) != tupleHashL (erases ys) then false
      else if xs.length != ys.length then false
      else equalsListP xs ys
  | .struct a1 f1 p1, .struct a2 f2 p2 =>
      if a1 == a2 then true                       -- `if (s1 == s2) break;`
      else if hashL (.struct (erases f1) (erases p1)) != hashL (.struct (erases f2) (erases p2)) then false
      else if structLengthL (erases f1) != structLengthL (erases f2) then false
      else if !p1.isEmpty && p2.isEmpty then false
      else if p1.isEmpty && !p2.isEmpty then false
      else equalsListP f1 f2 && equalsListP p1 p2
  | _, _ => false
def equalsListP : List (PVal L) → List (PVal L) → Bool
  | [], [] => true
  | x :: xs, y :: ys => equalsP x y && equalsListP xs ys
  | _, _ => false
end

/-- which cases of the model's janet_equals start with a pointer test (for the tie with the regenerated flags) -/
def equalsP.tupleShortcut : Bool := true
def equalsP.structShortcut : Bool := true

omit [LeafOps L] in
theorem PVal.induct {P : PVal L → Prop} {Q : List (PVal L) → Prop}
    (leaf : ∀ l, P (.leaf l)) (tuple : ∀ a br xs, Q xs → P (.tuple a br xs)) (struct : ∀ a f p, Q f → Q p → P (.struct a f p))
    (lnil : Q []) (lcons : ∀ x xs, P x → Q xs → Q (x :: xs)) : (∀ a, P a) ∧ (∀ l, Q l) :=
  ⟨fun a => PVal.rec (motive_1 := P) (motive_2 := Q) leaf tuple struct lnil lcons a,
   fun l => PVal.rec_1 (motive_1 := P) (motive_2 := Q) leaf tuple struct lnil lcons l⟩

omit [LeafOps L] in
theorem erases_length : ∀ l : List (PVal L), (erases l).length = l.length
  | [] => rfl
  | _ :: xs => by simp [erases, erases_length xs]

omit [LeafOps L] in
theorem erases_isEmpty (l : List (PVal L)) : (erases l).isEmpty = l.isEmpty := by
  cases l <;> rfl

/-- THE POINTER SHORT-CUTS DO NOT CHANGE THE RESULT: for two values read from one memory, janet_equals with the short-cuts
    answers what janet_equals without them answers on the contents — given that `=` is reflexive on contents -/
theorem equalsP_eq_equalsL_both (mem : Nat → Option (LVal L)) (hrefl : ∀ v : LVal L, equalsL v v = true) :
    (∀ x y : PVal L, Consistent mem x → Consistent mem y → equalsP x y = equalsL (erase x) (erase y)) ∧
    (∀ l m : List (PVal L), ConsistentL mem l → ConsistentL mem m → equalsListP l m = equalsListL (erases l) (erases m)) := by
  apply PVal.induct
    (P := fun x => ∀ y, Consistent mem x → Consistent mem y → equalsP x y = equalsL (erase x) (erase y))
    (Q := fun l => ∀ m, ConsistentL mem l → ConsistentL mem m → equalsListP l m = equalsListL (erases l) (erases m))
  case leaf => intro l y _ _; cases y <;> rfl
  case tuple =>
    intro a br xs ih y hx hy
    cases y with
    | leaf _ => rfl
    | struct _ _ _ => rfl
    | tuple a2 br2 ys =>
      simp only [Consistent] at hx hy
      by_cases ha : a = a2
      · subst ha
        have he : erase (.tuple a br xs) = erase (.tuple a br2 ys) := by
          have := hx.1.symm.trans hy.1
          simpa [erase] using this
        rw [← he, hrefl]
        simp [equalsP]
      · have ha' : (a == a2) = false := by simp [ha]
        simp only [equalsP, erase, equalsL, ha', Bool.false_eq_true, if_false, erases_length, ih ys hx.2 hy.2]
  case struct =>
    intro a f p ihf ihp y hx hy
    cases y with
    | leaf _ => rfl
    | tuple _ _ _ => rfl
    | struct a2 f2 p2 =>
      simp only [Consistent] at hx hy
      by_cases ha : a = a2
      · subst ha
        have he : erase (.struct a f p) = erase (.struct a f2 p2) := by
          have := hx.1.symm.trans hy.1
          simpa [erase] using this
        rw [← he, hrefl]
        simp [equalsP]
      · have ha' : (a == a2) = false := by simp [ha]
        simp only [equalsP, erase, equalsL, ha', Bool.false_eq_true, if_false, erases_isEmpty,
          ihf f2 hx.2.1 hy.2.1, ihp p2 hx.2.2 hy.2.2]
  case lnil => intro m _ _; cases m <;> rfl
  case lcons =>
    intro x xs ihx ihxs m hl hm
    cases m with
    | nil => rfl
    | cons y ys =>
      simp only [ConsistentL] at hl hm
      simp only [equalsListP, erases, equalsListL, ihx y hl.1 hm.1, ihxs ys hl.2 hm.2]

theorem equalsP_eq_equalsL [LawfulLeaf L] (mem : Nat → Option (LVal L)) (x y : PVal L)
    (hx : Consistent mem x) (hy : Consistent mem y) : equalsP x y = equalsL (erase x) (erase y) :=
  (equalsP_eq_equalsL_both mem (fun v => by rw [equalsL_eq_contentEqL_both.1]; exact contentEqL_equivalence.1 v)).1 x y hx hy

end JanetModel.Value
