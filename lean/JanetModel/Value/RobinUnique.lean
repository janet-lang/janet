/- C03 — uniqueness of the robin-hood layout: two arrays with the invariant and the same entries are equal when they have
   an empty slot in common, in particular when they are less than half full. -/
import JanetModel.Value.Robin

namespace JanetModel.Value
open JanetModel.Gen.Value

/-! ### offsets from an anchor slot `z` (an empty slot): `off z x` counts from the slot after `z` -/

def off (cap z x : Nat) : Nat := dst cap x (nx cap z)

theorem off_lt {cap z x : Nat} (hz : z < cap) (hx : x < cap) : off cap z x < cap := dst_lt hx (nx_lt hz)

theorem off_anchor {cap z : Nat} (hz : z < cap) : off cap z z = cap - 1 := by
  unfold off
  have hn := nx_lt hz
  by_cases hcap : 1 < cap
  · have := dst_rev hn hz (fun e => by have := nx_cases hz; omega); have := dst_nx_self hz hcap; omega
  · have := dst_lt hz hn; omega

theorem off_inj {cap z a b : Nat} (hz : z < cap) (ha : a < cap) (hb : b < cap) (e : off cap z a = off cap z b) : a = b :=
  dst_inj_left ha hb (nx_lt hz) e

theorem off_nx {cap z x : Nat} (hz : z < cap) (hx : x < cap) (hne : x ≠ z) : off cap z (nx cap x) = off cap z x + 1 :=
  dst_nx_of_ne hx (nx_lt hz) (fun e => hne (nx_inj hx hz e.symm))

theorem dst_of_off {cap z x h : Nat} (hz : z < cap) (hx : x < cap) (hh : h < cap) (hle : off cap z h ≤ off cap z x) :
    dst cap x h = off cap z x - off cap z h := by
  have := dst_add hh (nx_lt hz) hx hle
  unfold off; omega

theorem dst_cross {cap z x h : Nat} (hz : z < cap) (hx : x < cap) (hh : h < cap) (hlt : off cap z x < off cap z h) :
    dst cap z h < dst cap x h := by
  have hu := nx_lt hz
  have h1 := dst_add hx hu hh (Nat.le_of_lt hlt)
  have h2 := dst_add hh hu hz (by have := off_anchor hz; have := off_lt hz hh; unfold off at *; omega)
  have h3 := dst_rev hx hh (fun e => by subst e; omega)
  have := off_anchor hz
  unfold off at *
  omega

variable {N : Type} [NumLike N] [LawfulNum N]

/-- the order in which entries appear along the array, seen from the anchor: by home slot, then by hash (descending),
    then by `janet_compare` (descending) -/
def cmpz (cap z : Nat) (a b : JVal N) : Ordering :=
  (natCmp (off cap z (hm cap a)) (off cap z (hm cap b))).then
    ((intCmp (sInt (hash b)) (sInt (hash a))).then (jcompare b a))

theorem cmpz_swap (cap z : Nat) (a b : JVal N) : cmpz cap z b a = (cmpz cap z a b).swap := by
  unfold cmpz; rw [swap_then', swap_then', natCmp_swap, intCmp_swap, jcompare_swap]

theorem cmpz_tri (cap z : Nat) (a b c : JVal N) : Tri (cmpz cap z a b) (cmpz cap z b c) (cmpz cap z a c) := by
  unfold cmpz
  exact Tri.then' (tri_natCmp _ _ _) (fun _ _ _ =>
    Tri.then' (tri_intCmp _ _ _).comm (fun _ _ _ => (jcompare_tri c b a).comm))

theorem stat_eq_cmpz {cap z x : Nat} (hz : z < cap) (hx : x < cap) (a b : JVal N)
    (ha : off cap z (hm cap a) ≤ off cap z x) (hb : off cap z (hm cap b) ≤ off cap z x) :
    stat cap x a b = (cmpz cap z a b).swap := by
  have hcap : 0 < cap := by omega
  unfold stat cmpz
  rw [putStatus_then, dst_of_off hz hx (hm_lt hcap a) ha, dst_of_off hz hx (hm_lt hcap b) hb, natCmp_sub ha hb,
    swap_then', swap_then', ← intCmp_swap, ← jcompare_swap]


/-- no entry's probe path crosses an empty slot: seen from the anchor, the home of an entry is not after its slot -/
theorem RH.home_le {sl : List (Slot N)} (hrh : RH sl) {z j : Nat} (hz : z < sl.length) (hez : ¬ Occ sl z)
    (hj : j < sl.length) (hoj : Occ sl j) :
    off sl.length z (hm sl.length (sg sl j).1) ≤ off sl.length z j := by
  have hcap : 0 < sl.length := by omega
  have hh := hm_lt hcap (sg sl j).1
  by_cases h : off sl.length z (hm sl.length (sg sl j).1) ≤ off sl.length z j
  · exact h
  · exfalso
    exact hez (hrh.chain j z hj hz hoj (dst_cross hz hj hh (by omega)))

/-- neighbours are in anchor order -/
theorem RH.local_lt {sl : List (Slot N)} (hrh : RH sl) {z x : Nat} (hz : z < sl.length) (hez : ¬ Occ sl z)
    (hx : x < sl.length) (hox : Occ sl x) (hon : Occ sl (nx sl.length x)) :
    cmpz sl.length z (sg sl x).1 (sg sl (nx sl.length x)).1 = .lt := by
  have hcap : 0 < sl.length := by omega
  have hxz : x ≠ z := fun e => hez (e ▸ hox)
  have hn := nx_lt hx
  have ha := hrh.home_le hz hez hx hox
  have hb := hrh.home_le hz hez hn hon
  have hoff := off_nx hz hx hxz
  by_cases hhome : hm sl.length (sg sl (nx sl.length x)).1 = nx sl.length x
  · unfold cmpz
    rw [hhome, (natCmp_lt_iff _ _).mpr (by omega)]; rfl
  · have hb' : off sl.length z (hm sl.length (sg sl (nx sl.length x)).1) ≤ off sl.length z x := by
      have : off sl.length z (hm sl.length (sg sl (nx sl.length x)).1) ≠ off sl.length z (nx sl.length x) :=
        fun e => hhome (off_inj hz (hm_lt hcap _) hn e)
      omega
    have := hrh.order x hx hox hon hhome
    rw [stat_eq_cmpz hz hx _ _ ha hb'] at this
    cases h : cmpz sl.length z (sg sl x).1 (sg sl (nx sl.length x)).1 <;> rw [h] at this <;> simp at this ⊢

/-- along a fully occupied stretch the entries are in anchor order -/
theorem RH.sorted {sl : List (Slot N)} (hrh : RH sl) {z : Nat} (hz : z < sl.length) (hez : ¬ Occ sl z) :
    ∀ (n x y : Nat), x < sl.length → y < sl.length → off sl.length z y = off sl.length z x + n + 1 →
      (∀ w, w < sl.length → off sl.length z x ≤ off sl.length z w → off sl.length z w ≤ off sl.length z y → Occ sl w) →
      cmpz sl.length z (sg sl x).1 (sg sl y).1 = .lt := by
  intro n
  induction n with
  | zero =>
    intro x y hx hy ho hocc
    have hox := hocc x hx (Nat.le_refl _) (by omega)
    have hxz : x ≠ z := by
      intro e; subst e; have := off_anchor hz; have := off_lt hz hy; omega
    have : y = nx sl.length x := off_inj hz hy (nx_lt hx) (by rw [off_nx hz hx hxz]; omega)
    subst this
    exact hrh.local_lt hz hez hx hox (hocc _ hy (by omega) (Nat.le_refl _))
  | succ n ih =>
    intro x y hx hy ho hocc
    have hox := hocc x hx (Nat.le_refl _) (by omega)
    have hxz : x ≠ z := by
      intro e; subst e; have := off_anchor hz; have := off_lt hz hy; omega
    have hn := nx_lt hx
    have hoff := off_nx hz hx hxz
    have hon := hocc _ hn (by omega) (by omega)
    have h1 := hrh.local_lt hz hez hx hox hon
    have h2 := ih (nx sl.length x) y hn hy (by omega) (fun w hw h3 h4 => hocc w hw (by omega) h4)
    exact (cmpz_tri sl.length z _ _ _).2.1 h1 (by rw [h2]; simp)


/-- a slot on the probe path of the entry at `p` lies, seen from the anchor, not before the home of that entry, and is
    occupied by an entry that comes earlier in anchor order -/
theorem RH.before_lt {sl : List (Slot N)} (hrh : RH sl) {z : Nat} (hz : z < sl.length) (hez : ¬ Occ sl z) {x p : Nat}
    (hx : x < sl.length) (hp : p < sl.length) (hop : Occ sl p)
    (hlt : dst sl.length x (hm sl.length (sg sl p).1) < dst sl.length p (hm sl.length (sg sl p).1)) :
    Occ sl x ∧ off sl.length z (hm sl.length (sg sl p).1) ≤ off sl.length z x ∧
      cmpz sl.length z (sg sl x).1 (sg sl p).1 = .lt := by
  have hh := hm_lt (by omega : 0 < sl.length) (sg sl p).1
  have hHp := hrh.home_le hz hez hp hop
  have dp := dst_of_off hz hp hh hHp
  -- seen from the anchor, x lies between the home of the entry and p
  have hxle : off sl.length z (hm sl.length (sg sl p).1) ≤ off sl.length z x := by
    by_cases hc : off sl.length z (hm sl.length (sg sl p).1) ≤ off sl.length z x
    · exact hc
    · exact absurd (hrh.chain p z hp hz hop (by have := dst_cross hz hx hh (by omega); omega)) hez
  have dx := dst_of_off hz hx hh hxle
  have hstretch : ∀ w, w < sl.length → off sl.length z x ≤ off sl.length z w → off sl.length z w ≤ off sl.length z p → Occ sl w := by
    intro w hw hw1 hw2
    by_cases e : w = p
    · subst e; exact hop
    · have : off sl.length z w ≠ off sl.length z p := fun e' => e (off_inj hz hw hp e')
      have dw := dst_of_off hz hw hh (by omega)
      exact hrh.chain p w hp hw hop (by omega)
  exact ⟨hrh.chain p x hp hx hop hlt, hxle,
    hrh.sorted hz hez (off sl.length z p - off sl.length z x - 1) x p hx hp (by omega) hstretch⟩

/-- where the two arrays first differ (seen from a common anchor), an entry of `slA` sits further on in `slB`: the slot is
    occupied in `slB` too, by an entry that comes earlier in anchor order -/
theorem RH.entry_later {slA slB : List (Slot N)} {cap : Nat} (hA : RH slA) (hB : RH slB) (hlenA : slA.length = cap)
    (hlenB : slB.length = cap) (hhas : ∀ e, Has slA e → Has slB e) {z : Nat} (hz : z < cap)
    (hez : ¬ Occ slA z) (hezB : ¬ Occ slB z) {j : Nat} (hj : j < cap) (ho : Occ slA j) (hne : sg slA j ≠ sg slB j)
    (ih : ∀ i, i < cap → off cap z i < off cap z j → sg slA i = sg slB i) :
    Occ slB j ∧ cmpz cap z (sg slB j).1 (sg slA j).1 = .lt := by
  subst hlenA
  -- where `slB` keeps the entry: further on, since the slots before `j` agree and keys are pairwise different
  obtain ⟨ja, hja, hoja, heja⟩ := hhas (sg slA j) ⟨j, hj, ho, rfl⟩
  rw [hlenB] at hja
  have hja_gt : off slA.length z j < off slA.length z ja := by
    by_cases hlt : off slA.length z ja < off slA.length z j
    · exfalso
      have e : sg slA ja = sg slA j := by rw [ih ja hja hlt, heja]
      have := hA.distinct ja j hja hj (show Occ slA ja by unfold Occ; rw [e]; exact ho) ho
        (by rw [e]; exact contentEq_refl_both.1 _)
      subst this; exact hne heja.symm
    · have : off slA.length z ja ≠ off slA.length z j := by
        intro e; have := off_inj hz hja hj e; subst this; exact hne heja.symm
      omega
  -- in `slB` the entry sits at `ja`, and `j` is on its probe path: its home is not after `j`
  have hh := hm_lt (by omega : 0 < slA.length) (sg slA j).1
  have hA1 := hA.home_le hz hez hj ho
  have d1 := dst_of_off hz hj hh hA1
  have d2 := dst_of_off hz hja hh (by omega)
  have := hB.before_lt (by omega : z < slB.length) hezB (by omega : j < slB.length) (by omega : ja < slB.length) hoja
    (by rw [heja, hlenB]; omega)
  rw [heja, hlenB] at this
  exact ⟨this.1, this.2.2⟩

/-- **uniqueness of the robin-hood layout**: two arrays of the same capacity that satisfy the invariant, hold the same
    entries and have an empty slot in common are equal -/
theorem RH.unique {sl1 sl2 : List (Slot N)} (h1 : RH sl1) (h2 : RH sl2) (hlen : sl2.length = sl1.length)
    (hent : (entries sl1).Perm (entries sl2)) {z : Nat} (hz : z < sl1.length) (hez : ¬ Occ sl1 z) (hez2 : ¬ Occ sl2 z) :
    sl1 = sl2 := by
  have hhas : ∀ e, Has sl1 e ↔ Has sl2 e := fun e => by rw [← mem_entries_iff, ← mem_entries_iff]; exact hent.mem_iff
  -- slot by slot, in the order of the offsets from the anchor
  have key : ∀ n j, j < sl1.length → off sl1.length z j = n → sg sl1 j = sg sl2 j := by
    intro n
    induction n using Nat.strongRecOn with
    | ind n ih =>
      intro j hj hoj
      apply Classical.byContradiction
      intro hne
      have l12 := fun ho => RH.entry_later h1 h2 rfl hlen (fun e => (hhas e).mp) hz hez hez2 hj ho hne
        (fun i hi hlt => ih _ (hoj ▸ hlt) i hi rfl)
      have l21 := fun ho => RH.entry_later h2 h1 hlen rfl (fun e => (hhas e).mpr) hz hez2 hez hj ho (Ne.symm hne)
        (fun i hi hlt => (ih _ (hoj ▸ hlt) i hi rfl).symm)
      by_cases ho : Occ sl1 j
      · have := cmpz_swap sl1.length z (sg sl1 j).1 (sg sl2 j).1
        rw [(l21 (l12 ho).1).2, (l12 ho).2] at this
        cases this
      · have ho2 : ¬ Occ sl2 j := fun h => ho (l21 h).1
        exact hne (by rw [h1.blank j hj ho, h2.blank j (by omega) ho2])
  apply List.ext_getElem hlen.symm
  intro i hi1 hi2
  have := key _ i hi1 rfl
  unfold sg at this
  simpa [List.getD_eq_getElem?_getD, hi1, hi2] using this

/-- **the layout is a function of the entries**: two arrays of one capacity that satisfy the invariant, hold the same
    entries and are less than half full are equal (they have an empty slot in common; `janet_struct_begin` allocates more
    than twice the announced count) -/
theorem RH.canonical {sl1 sl2 : List (Slot N)} (h1 : RH sl1) (h2 : RH sl2) (hlen : sl2.length = sl1.length)
    (hent : (entries sl1).Perm (entries sl2)) (hroom : 2 * nOcc sl1 < sl1.length) : sl1 = sl2 := by
  obtain ⟨z, hz, e1, e2⟩ := exists_common_empty sl1 sl2 hlen
    (by rw [nOcc_eq_length_entries sl2, ← hent.length_eq, ← nOcc_eq_length_entries]; omega)
  exact h1.unique h2 hlen hent hz e1 e2

end JanetModel.Value
