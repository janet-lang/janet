/- C03 — `janet_symbol_gen` on the symbol-cache model: one call is a run of `janet_symbol` calls on consecutive counter
   names, all but the last of which find a live symbol; hence every history with gensym is realised by a plain
   intern / sweep history and inherits the cache invariant. -/
import JanetModel.Value.SymGen
import JanetModel.Value.SymCacheLemmas

namespace JanetModel.Value.SymCache
open JanetModel.Gen.Value JanetModel.Value

theorem run_append : ∀ (ops1 ops2 : List Op) (c : Cache),
    run c (ops1 ++ ops2) = (run c ops1).bind (fun c' => run c' ops2)
  | [], _, _ => rfl
  | .intern b :: ops1, ops2, c => by
      simp only [List.cons_append, run]
      cases intern c b with
      | none => rfl
      | some r => exact run_append ops1 ops2 r.1
  | .sweep b :: ops1, ops2, c => by
      simp only [List.cons_append, run]; exact run_append ops1 ops2 _

theorem genLoop_hit {c : Cache} (h : CInvC c) {ctr : List UInt8} {q : Nat} (hl : Live c.slots q ctr) (fuel : Nat) :
    ∃ c1, intern c ctr = some (c1, q) ∧ CInvC c1 ∧ c1.next = c.next ∧ (∀ q' x, Live c1.slots q' x ↔ Live c.slots q' x) ∧
      genLoop (fuel + 1) c ctr = genLoop fuel c1 (incGensym ctr) := by
  obtain ⟨i, hi⟩ := hl
  obtain ⟨sl', bkt, hf, hb, _, _, _, _⟩ := find_hit h.inv hi
  obtain ⟨c1, hint, hinv1, hl1⟩ := intern_liveC h ⟨i, hi⟩
  have hc1 : c1 = { c with slots := sl' } := by
    unfold gd at hb
    have : intern c ctr = some ({ c with slots := sl' }, q) := by simp only [intern, hf, hb]
    rw [this] at hint; simp only [Option.some.injEq, Prod.mk.injEq] at hint; exact hint.1.symm
  exact ⟨c1, hint, hinv1, by rw [hc1], hl1, by simp only [genLoop, hf, hc1]⟩

/-- **one `janet_symbol_gen` call**: the counter names it skips (`names`) are all live; the name it settles on (`ctr'`) is
    the bytes of NO live symbol; the call has the effect of `janet_symbol` on the skipped names followed by `janet_symbol` on
    `ctr'`; the new symbol gets a fresh address; every other symbol stays where it is. -/
theorem gensym_spec : ∀ (fuel : Nat) (c : Cache) (ctr : List UInt8) (c' : Cache) (ctr' : List UInt8) (p : Nat),
    CInvC c → gensym fuel c ctr = some (c', ctr', p) →
    ∃ names : List (List UInt8),
      (∀ n ∈ names, ∃ q, Live c.slots q n) ∧
      run c ((names ++ [ctr']).map Op.intern) = some c' ∧
      (∀ q, ¬ Live c.slots q ctr') ∧ p = c.next ∧ CInvC c' ∧
      ∀ q x, Live c'.slots q x ↔ (Live c.slots q x ∨ (q = p ∧ x = ctr'))
  | 0, c, ctr, c', ctr', p, _, hg => by simp [gensym, genLoop] at hg
  | fuel + 1, c, ctr, c', ctr', p, h, hg => by
    by_cases hex : ∃ q, Live c.slots q ctr
    · -- the probe finds the counter name: inc_gensym, probe again
      obtain ⟨q, hq⟩ := hex
      obtain ⟨c1, hint, hinv1, hnext, hl1, hloop⟩ := genLoop_hit h hq fuel
      have hstep : gensym (fuel + 1) c ctr = gensym fuel c1 (incGensym ctr) := by simp only [gensym, hloop]
      rw [hstep] at hg
      obtain ⟨names, hn, hrun, hfresh, hp, hinv', hl'⟩ := gensym_spec fuel c1 (incGensym ctr) c' ctr' p hinv1 hg
      refine ⟨ctr :: names, ?_, ?_, fun q' hq' => hfresh q' ((hl1 q' ctr').mpr hq'), ?_, hinv', fun q' x => ?_⟩
      · intro n hn'
        rcases List.mem_cons.mp hn' with e | e
        · subst e; exact ⟨q, hq⟩
        · obtain ⟨q', hq'⟩ := hn n e; exact ⟨q', (hl1 q' n).mp hq'⟩
      · simp only [List.cons_append, List.map_cons, run, hint]; exact hrun
      · rw [hp, hnext]
      · rw [hl' q' x, hl1 q' x]
    · -- the probe misses: the rest of janet_symbol_gen is what janet_symbol does for bytes that are not cached
      have hno : ∀ q, ¬ Live c.slots q ctr := fun q hq => hex ⟨q, hq⟩
      obtain ⟨r, hf, _⟩ := find_miss hno
      have hg' : (intern c ctr).map (fun r => (r.1, ctr, r.2)) = some (c', ctr', p) := by
        rw [← hg]
        cases r with
        | none => simp [gensym, genLoop, intern, hf]
        | some bk =>
          simp only [gensym, genLoop, intern, hf]
          cases put { slots := c.slots, count := c.count, deleted := c.deleted, next := c.next + 1 } c.next ctr (some bk) <;> rfl
      cases hi : intern c ctr with
      | none => simp [hi] at hg'
      | some r0 =>
        obtain ⟨c0, p0⟩ := r0
        simp only [hi, Option.map_some, Option.some.injEq, Prod.mk.injEq] at hg'
        obtain ⟨e1, e2, e3⟩ := hg'
        subst e1; subst e2; subst e3
        obtain ⟨hp, hinv', hl'⟩ := intern_newC h hno hi
        exact ⟨[], by simp, by simp [run, hi], hno, hp, hinv', hl'⟩

/-- the model counterpart of what a history with gensym looks like without it -/
def OpG.plain? : OpG → Option Op
  | .intern b => some (.intern b)
  | .sweep b => some (.sweep b)
  | .gensym => none

/-- **every history with gensym is realised by a plain history**: the cache reached by `runG` from a cache satisfying the
    invariant is reached by `run` on intern / sweep alone (each gensym replaced by the `janet_symbol` calls of `gensym_spec`);
    and the invariant holds at the end -/
theorem runG_as_run : ∀ (fuel : Nat) (ops : List OpG) (s s' : GState), CInvC s.cache → runG fuel s ops = some s' →
    CInvC s'.cache ∧ ∃ ops' : List Op, run s.cache ops' = some s'.cache
  | _, [], s, s', h, hr => by
      simp only [runG, Option.some.injEq] at hr; subst hr; exact ⟨h, [], rfl⟩
  | fuel, .intern b :: ops, s, s', h, hr => by
      simp only [runG] at hr
      cases hi : intern s.cache b with
      | none => simp [hi] at hr
      | some r =>
        obtain ⟨c1, p1⟩ := r
        simp only [hi] at hr
        have hinv1 : CInvC c1 := (intern_post h hi).1
        obtain ⟨hfin, ops', ho⟩ := runG_as_run fuel ops { s with cache := c1 } s' hinv1 hr
        exact ⟨hfin, .intern b :: ops', by simp only [run, hi]; exact ho⟩
  | fuel, .sweep b :: ops, s, s', h, hr => by
      simp only [runG] at hr
      obtain ⟨hfin, ops', ho⟩ := runG_as_run fuel ops { s with cache := deinit s.cache b } s' (deinit_cnt h b) hr
      exact ⟨hfin, .sweep b :: ops', by simp only [run]; exact ho⟩
  | fuel, .gensym :: ops, s, s', h, hr => by
      simp only [runG] at hr
      cases hg : gensym fuel s.cache s.counter with
      | none => simp [hg] at hr
      | some r =>
        obtain ⟨c1, ctr1, p1⟩ := r
        simp only [hg] at hr
        obtain ⟨names, _, hrun, _, _, hinv1, _⟩ := gensym_spec fuel s.cache s.counter c1 ctr1 p1 h hg
        obtain ⟨hfin, ops', ho⟩ := runG_as_run fuel ops { cache := c1, counter := ctr1 } s' hinv1 hr
        refine ⟨hfin, (names ++ [ctr1]).map Op.intern ++ ops', ?_⟩
        rw [run_append, hrun]; exact ho

end JanetModel.Value.SymCache
