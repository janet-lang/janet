/- C03 — executable model of janet's value equality, ordering and hashing.

   Mirrors (function by function):
     src/core/util.c    janet_hash_mix, janet_string_calchash, janet_array_calchash, janet_kv_calchash, janet_tablen
     src/core/value.c   janet_hash, janet_equals, janet_compare (by structural recursion; the explicit traversal stack of the C
                        is Value/Traverse.lean, proved to compute the same in Value/TraverseLemmas.lean), murmur64
     src/core/string.c  janet_string_compare, janet_string_equalconst
     src/core/struct.c  janet_struct_begin, janet_struct_put_ext, janet_struct_end   (see Value/Struct.lean)

   Numbers are abstract: any type `N` with `NumLike N` (IEEE `==`, `<`, and the 64-bit pattern after `d += 0.0`).
   The laws that non-NaN doubles satisfy are the class `LawfulNum` (Value/Lemmas.lean), the laws of all doubles, NaN
   included, the class `LawfulNaNNum` (Value/NaNNum.lean); `F64` below is the executable instance on ALL 64-bit patterns
   used by the driver (Value/F64.lean: `LawfulNaNNum F64`, hence `LawfulNum (NonNaN F64)`).

   CORE LEAN ONLY (the driver links this file). -/
import JanetModel.Gen.Value

namespace JanetModel.Value
open JanetModel.Gen.Value

/-- what the model needs from doubles: `==`, `<`, and the bit pattern after `as.d += 0.0` (value.c janet_hash) -/
class NumLike (N : Type) where
  eq : N → N → Bool
  lt : N → N → Bool
  normBits : N → UInt64

/-- reference ("identity") types: compared by address -/
inductive RefKind where
  | fiber | array | table | buffer | function | cfunction | pointer
  deriving DecidableEq, Repr

def RefKind.tag : RefKind → Nat
  | .fiber => tyFiber | .array => tyArray | .table => tyTable | .buffer => tyBuffer
  | .function => tyFunction | .cfunction => tyCfunction | .pointer => tyPointer

/-- A janet value.  `struct flat proto`: `flat` is the slot array of the struct, flattened as
    key₀, value₀, key₁, value₁, … (an empty slot is nil, nil), exactly the order in which value.c traverses it;
    `proto = []` stands for a NULL prototype pointer, `proto = [p]` for the prototype `p` (an optional value written
    as a list so that one list traversal serves tuples, slots and prototypes; only the head is ever a prototype).  `ref k bits`: `bits` is the 64-bit NaN-boxed word
    (type tag and address), which is what `janet_hash` feeds to murmur64 and what pointer comparison orders by
    (same kind ⇒ same tag bits). -/
inductive JVal (N : Type) where
  | num (n : N)
  | nil
  | bool (b : Bool)
  | str (bs : List UInt8)
  | sym (bs : List UInt8)
  | kw (bs : List UInt8)
  | tuple (bracket : Bool) (xs : List (JVal N))
  | struct (flat : List (JVal N)) (proto : List (JVal N))
  | ref (kind : RefKind) (bits : UInt64)
  deriving Repr

namespace JVal
variable {N : Type}

/-- `janet_type(x)` as the enum value (janet.h JanetType) -/
def typeTag : JVal N → Nat
  | .num _ => tyNumber | .nil => tyNil | .bool _ => tyBoolean
  | .str _ => tyString | .sym _ => tySymbol | .kw _ => tyKeyword
  | .tuple _ _ => tyTuple | .struct _ _ => tyStruct | .ref k _ => k.tag

def isNil : JVal N → Bool
  | .nil => true
  | _ => false

end JVal

/-! ### util.c -/

/-- `janet_hash_mix` -/
def hashMix (input more : UInt32) : UInt32 :=
  let mix1 := more + mixK1.toUInt32 + (input <<< mixShl1.toUInt32) + (input >>> mixShr1.toUInt32)
  input ^^^ (mixK2.toUInt32 + (mix1 <<< mixShl2.toUInt32) + (mix1 >>> mixShr2.toUInt32))

/-- `janet_string_calchash` (the non-`JANET_PRF` branch; the translator checks `JANET_PRF` is not configured) -/
def stringHash (bs : List UInt8) : UInt32 :=
  if bs.length = 0 then strEmpty.toUInt32
  else hashMix (bs.foldl (fun h b => (h <<< strShl.toUInt32) + h + b.toUInt32) strSeed.toUInt32) bs.length.toUInt32

/-- `janet_tablen` for 0 ≤ n < 2^31 -/
def tablen (n : Nat) : Nat :=
  (tablenShifts.foldl (fun n s => n ||| (n >>> s)) n) + 1

/-- `janet_maphash(cap, hash)`; `cap` is a power of two in every call, so `& (cap-1)` is `% cap` -/
def mapHash (cap : Nat) (h : UInt32) : Nat := h.toNat % cap

/-- the value of an `int32_t` holding the bits `h` (struct.c and value.c compare hashes as signed ints) -/
def sInt (h : UInt32) : Int := if h.toNat < 2147483648 then (h.toNat : Int) else (h.toNat : Int) - 4294967296

/-- `murmur64` -/
def murmur64 (h : UInt64) : UInt64 :=
  let h := h ^^^ (h >>> murShr1.toUInt64)
  let h := h * murMul1.toUInt64
  let h := h ^^^ (h >>> murShr2.toUInt64)
  let h := h * murMul2.toUInt64
  h ^^^ (h >>> murShr3.toUInt64)

/-- hash of a number from its normalised bit pattern (value.c janet_hash, JANET_NUMBER) -/
def numHashBits (u : UInt64) : UInt32 :=
  let lo := u.toUInt32
  let hi := (u >>> 32).toUInt32
  let hilo := (hi ^^^ lo) * numMul.toUInt32
  (hilo <<< numShl.toUInt32) ||| (hilo >>> numShr.toUInt32)

/-- default pointer hash on a 64-bit build (value.c janet_hash, default case) -/
def ptrHash (bits : UInt64) : UInt32 := (murmur64 bits >>> ptrShr.toUInt64).toUInt32

/-! ### string.c -/

/-- `janet_string_compare`: memcmp on the common prefix, then length -/
def bytesCompare : List UInt8 → List UInt8 → Ordering
  | [], [] => .eq
  | [], _ :: _ => .lt
  | _ :: _, [] => .gt
  | a :: as, b :: bs => if a < b then .lt else if b < a then .gt else bytesCompare as bs

/-- `janet_string_equal` = `janet_string_equalconst(lhs, rhs, len rhs, hash rhs)` -/
def bytesEqual (a b : List UInt8) : Bool :=
  if stringHash a != stringHash b || a.length != b.length then false else a == b

/-! ### value.c -/

section
variable {N : Type} [NumLike N]

mutual
/-- `janet_hash`.  For tuples and structs the C reads the hash stored by `janet_tuple_end` / `janet_struct_end`;
    here it is recomputed from the contents (the stored field is a pure function of them). -/
def hash : JVal N → UInt32
  | .num n => numHashBits (NumLike.normBits n)
  | .nil => 0
  | .bool b => if b then 1 else 0
  | .str bs => stringHash bs
  | .sym bs => stringHash bs
  | .kw bs => stringHash bs
  | .tuple br xs => hashFold arraySeed.toUInt32 xs + (if br then 1 else 0)
  | .struct flat proto =>
      -- janet_struct_end: kv hash, plus protoMul * hash of the prototype when there is one
      hashFold kvSeed.toUInt32 flat + (match proto with
        | [] => 0
        | p :: _ => protoMul.toUInt32 * hash p)
  | .ref _ bits => ptrHash bits
/-- the loop of `janet_array_calchash`; `janet_kv_calchash` is the same loop over key, value, key, value, … -/
def hashFold : UInt32 → List (JVal N) → UInt32
  | h, [] => h
  | h, x :: xs => hashFold (hashMix h (hash x)) xs
end

/-- `janet_tuple_hash(t)`: the field stored by `janet_tuple_end` (no bracket flag) -/
def tupleHash (xs : List (JVal N)) : UInt32 := hashFold arraySeed.toUInt32 xs

/-- `janet_struct_length(st)` for a finished struct: number of occupied slots -/
def structLength : List (JVal N) → Nat
  | k :: _ :: rest => (if k.isNil then 0 else 1) + structLength rest
  | _ => 0

mutual
/-- `janet_equals` -/
def equals : JVal N → JVal N → Bool
  | .num a, .num b => NumLike.eq a b
  | .nil, .nil => true
  | .bool a, .bool b => a == b
  | .str a, .str b => bytesEqual a b
  -- symbols and keywords: pointer comparison in C; interning makes that equality of bytes (Value/SymCache.lean)
  | .sym a, .sym b => a == b
  | .kw a, .kw b => a == b
  | .ref k1 b1, .ref k2 b2 => k1 == k2 && b1 == b2
  | .tuple br1 xs, .tuple br2 ys =>
      if br1 != br2 then false
      else if tupleHash xs != tupleHash ys then false
      else if xs.length != ys.length then false
      else equalsList xs ys
  | .struct f1 p1, .struct f2 p2 =>
      if hash (.struct f1 p1) != hash (.struct f2 p2) then false
      else if structLength f1 != structLength f2 then false
      else if !p1.isEmpty && p2.isEmpty then false
      else if p1.isEmpty && !p2.isEmpty then false
      else equalsList f1 f2 && equalsList p1 p2   -- slots, then (traversal_next) the prototypes, themselves structs
  | _, _ => false
/-- element-wise traversal (traversal_next with index2 = 0).  The C walks `capacity(self)` slots of both structs,
    relying on equal length ⇒ equal capacity (struct.c janet_struct_begin); the model requires equal lengths. -/
def equalsList : List (JVal N) → List (JVal N) → Bool
  | [], [] => true
  | x :: xs, y :: ys => equals x y && equalsList xs ys
  | _, _ => false
end

/-- comparison of two `int32_t` -/
def sCompare (a b : UInt32) : Ordering := compare (sInt a) (sInt b)

mutual
/-- `janet_compare` (result −1 / 0 / 1 as `Ordering`) -/
def jcompare : JVal N → JVal N → Ordering
  | .num a, .num b => if NumLike.eq a b then .eq else if NumLike.lt a b then .lt else .gt
  | .nil, .nil => .eq
  | .bool a, .bool b => compare a.toNat b.toNat
  | .str a, .str b => bytesCompare a b
  | .sym a, .sym b => bytesCompare a b
  | .kw a, .kw b => bytesCompare a b
  | .ref k1 b1, .ref k2 b2 =>
      if k1.tag != k2.tag then (if k1.tag < k2.tag then .lt else .gt)
      else if b1 == b2 then .eq else if b1 > b2 then .gt else .lt
  | .tuple br1 xs, .tuple br2 ys =>
      if br1 != br2 then (if br1 then .gt else .lt)
      else compareList xs ys
  | .struct f1 p1, .struct f2 p2 =>
      -- capacity, then stored hash as signed ints, then slots, then prototypes
      if f1.length / 2 < f2.length / 2 then .lt
      else if f1.length / 2 > f2.length / 2 then .gt
      else match sCompare (hash (.struct f1 p1)) (hash (.struct f2 p2)) with
        | .lt => .lt
        | .gt => .gt
        | .eq => match compareList f1 f2 with
          | .lt => .lt
          | .gt => .gt
          | .eq => compareList p1 p2   -- no proto < proto; both: compare the prototypes
  | x, y => if x.typeTag < y.typeTag then .lt else if x.typeTag > y.typeTag then .gt else .eq
/-- traversal_next with index2 = 1: element-wise, then by length -/
def compareList : List (JVal N) → List (JVal N) → Ordering
  | [], [] => .eq
  | [], _ :: _ => .lt
  | _ :: _, [] => .gt
  | x :: xs, y :: ys =>
      match jcompare x y with
      | .lt => .lt
      | .gt => .gt
      | .eq => compareList xs ys
end

/-- `<`, `<=`, `>`, `>=` (vm.c / corelib.c: `janet_compare(a, b) OP 0`) -/
def jlt (a b : JVal N) : Bool := jcompare a b == .lt
def jle (a b : JVal N) : Bool := jcompare a b != .gt
def jgt (a b : JVal N) : Bool := jcompare a b == .gt
def jge (a b : JVal N) : Bool := jcompare a b != .lt

end

/-! ### executable doubles: 64-bit patterns -/

/-- a double given by its IEEE-754 bit pattern -/
structure F64 where
  bits : UInt64
  deriving Repr, DecidableEq

namespace F64
def mag (x : F64) : Nat := x.bits.toNat % 9223372036854775808
def neg (x : F64) : Bool := 9223372036854775808 ≤ x.bits.toNat
def isNaN (x : F64) : Bool := 0x7FF0000000000000 < x.mag
/-- sign-magnitude reading of the pattern: for non-NaN doubles `==` and `<` are `=` and `<` of the keys -/
def key (x : F64) : Int := if x.neg then -(x.mag : Int) else (x.mag : Int)
end F64

/-- IEEE-754 `==`, `<` and `d += 0.0` on 64-bit patterns, NaN included: a NaN is `==` to nothing (not even itself) and
    unordered; `+= 0.0` turns −0 into +0 and quiets a signalling NaN (sets the top mantissa bit), everything else is kept -/
instance : NumLike F64 where
  eq a b := !a.isNaN && !b.isNaN && a.key == b.key
  lt a b := !a.isNaN && !b.isNaN && decide (a.key < b.key)
  normBits a := if a.bits == 0x8000000000000000 then 0 else if a.isNaN then a.bits ||| 0x0008000000000000 else a.bits

end JanetModel.Value
