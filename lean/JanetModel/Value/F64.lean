/- C03 — the executable doubles (`F64`: ALL 64-bit patterns, NaN included, sign-magnitude reading for the order) satisfy
   `LawfulNaNNum`; so the non-NaN patterns `NonNaN F64` satisfy `LawfulNum` (instance in NaNNum.lean). -/
import JanetModel.Value.NaNNum

namespace JanetModel.Value

/-- equal keys: the same pattern, or the two zeros — and `+= 0.0` sends both zeros to +0 -/
theorem F64.key_inj_norm (a b : F64) (ha : a.isNaN = false) (hb : b.isNaN = false) (h : a.key = b.key) :
    (NumLike.normBits a : UInt64) = NumLike.normBits b := by
  have hzero : ∀ x : F64, x.isNaN = false → x.bits.toNat % 9223372036854775808 = 0 → (NumLike.normBits x : UInt64) = 0 := by
    intro x hx hm
    simp only [NumLike.normBits, hx, Bool.false_eq_true, if_false]
    split
    · rfl
    · next hne =>
      have : x.bits.toNat ≠ 9223372036854775808 := fun e => hne (beq_iff_eq.mpr (UInt64.toNat_inj.mp e))
      have := x.bits.toNat_lt
      exact UInt64.toNat_inj.mp (show x.bits.toNat = 0 by omega)
  have hk : a.bits.toNat = b.bits.toNat ∨
      (a.bits.toNat % 9223372036854775808 = 0 ∧ b.bits.toNat % 9223372036854775808 = 0) := by
    simp only [F64.key, F64.neg, F64.mag, decide_eq_true_eq] at h
    have := a.bits.toNat_lt
    have := b.bits.toNat_lt
    split at h <;> split at h <;> omega
  rcases hk with e | ⟨ea, eb⟩
  · rw [show a = b from congrArg F64.mk (UInt64.toNat_inj.mp e)]
  · rw [hzero a ha ea, hzero b hb eb]

theorem F64.eq_iff (a b : F64) : NumLike.eq a b = true ↔ a.isNaN = false ∧ b.isNaN = false ∧ a.key = b.key := by
  simp only [NumLike.eq]
  cases a.isNaN <;> cases b.isNaN <;> simp

theorem F64.lt_iff (a b : F64) : NumLike.lt a b = true ↔ a.isNaN = false ∧ b.isNaN = false ∧ a.key < b.key := by
  simp only [NumLike.lt]
  cases a.isNaN <;> cases b.isNaN <;> simp

theorem F64.eq_false_iff (a b : F64) : NumLike.eq a b = false ↔ ¬ (a.isNaN = false ∧ b.isNaN = false ∧ a.key = b.key) := by
  rw [← F64.eq_iff]; simp

theorem F64.lt_false_iff (a b : F64) : NumLike.lt a b = false ↔ ¬ (a.isNaN = false ∧ b.isNaN = false ∧ a.key < b.key) := by
  rw [← F64.lt_iff]; simp

/-- `isnan` of the model is the IEEE classification of the pattern: exponent all ones, mantissa non-zero -/
theorem F64.isNaN_iff (a : F64) : NumLike.isNaN a = a.isNaN := by
  simp only [NumLike.isNaN, NumLike.eq]
  cases a.isNaN <;> simp

instance : LawfulNaNNum F64 where
  nan_eq_left a b := by rw [F64.eq_false_iff, F64.eq_false_iff]; intro h1 h2; exact h1 ⟨h2.1, h2.1, rfl⟩
  nan_eq_right a b := by rw [F64.eq_false_iff, F64.eq_false_iff]; intro h1 h2; exact h1 ⟨h2.2.1, h2.2.1, rfl⟩
  nan_lt_left a b := by rw [F64.eq_false_iff, F64.lt_false_iff]; intro h1 h2; exact h1 ⟨h2.1, h2.1, rfl⟩
  nan_lt_right a b := by rw [F64.eq_false_iff, F64.lt_false_iff]; intro h1 h2; exact h1 ⟨h2.2.1, h2.2.1, rfl⟩
  eq_symm a b := by
    cases h : NumLike.eq b a
    · rw [F64.eq_false_iff] at h ⊢; intro h2; exact h ⟨h2.2.1, h2.1, h2.2.2.symm⟩
    · rw [F64.eq_iff] at h ⊢; exact ⟨h.2.1, h.1, h.2.2.symm⟩
  eq_trans a b c := by simp only [F64.eq_iff]; intro h1 h2; exact ⟨h1.1, h2.2.1, h1.2.2.trans h2.2.2⟩
  lt_not_eq a b := by rw [F64.lt_iff, F64.eq_false_iff]; intro h1 h2; omega
  lt_asymm a b := by rw [F64.lt_iff, F64.lt_false_iff]; intro h1 h2; omega
  lt_total a b := by
    rw [F64.eq_iff, F64.eq_iff, F64.eq_false_iff, F64.lt_false_iff, F64.lt_iff]
    intro h1 h2 h3 h4
    refine ⟨h2.1, h1.1, ?_⟩
    have : a.key ≠ b.key := fun e => h3 ⟨h1.1, h2.1, e⟩
    have : ¬ a.key < b.key := fun e => h4 ⟨h1.1, h2.1, e⟩
    omega
  lt_trans a b c := by simp only [F64.lt_iff]; intro h1 h2; exact ⟨h1.1, h2.2.1, by omega⟩
  lt_congr_left a b c := by
    rw [F64.eq_iff]; intro h
    cases h2 : NumLike.lt b c
    · rw [F64.lt_false_iff] at h2 ⊢; intro h3; exact h2 ⟨h.2.1, h3.2.1, by omega⟩
    · rw [F64.lt_iff] at h2 ⊢; exact ⟨h.1, h2.2.1, by omega⟩
  lt_congr_right a b c := by
    rw [F64.eq_iff]; intro h
    cases h2 : NumLike.lt c b
    · rw [F64.lt_false_iff] at h2 ⊢; intro h3; exact h2 ⟨h3.1, h.2.1, by omega⟩
    · rw [F64.lt_iff] at h2 ⊢; exact ⟨h2.1, h.1, by omega⟩
  eq_norm a b := by
    rw [F64.eq_iff]; intro h
    exact F64.key_inj_norm a b h.1 h.2.1 h.2.2

end JanetModel.Value
