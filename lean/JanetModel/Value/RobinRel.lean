/- C03 — the probe loop of `janet_struct_put_ext` runs in lock-step on RELATED slot arrays.

   `putLoop` looks at a key only through `isNil`, `janet_hash` and `janet_compare`, and never looks at a value.  So for
   any relation `R` between slots (possibly of two different number types) that respects those three observations, the
   loop takes the same branch at every step on related inputs and the resulting arrays are related slot by slot
   (`putLoop_rel`); the same for `janet_struct_put_ext`, the rebuild loop of `janet_struct_end`, and a whole construction
   (`structOfCount_rel`).  Two instances are used:
     * `R := contentEq` on keys and values                        → `=`-equal insertion sequences give `=` structs (RobinDup.lean);
     * `R s s' := s' = (lift s.1, lift s.2)` for the embedding of the NaN-free numbers into all doubles (NaN.lean). -/
import JanetModel.Value.RobinPerm

namespace JanetModel.Value

section rel
variable {N M : Type} [NumLike N] [NumLike M]

/-- what a relation between slots has to respect for the probe loop to run in lock-step on related arrays -/
structure SlotRel (R : Slot N → Slot M → Prop) : Prop where
  empty : R emptySlot emptySlot
  nil : ∀ s s', R s s' → s.1.isNil = s'.1.isNil
  hash : ∀ s s', R s s' → hash s.1 = hash s'.1
  cmp : ∀ s s' t t', R s s' → R t t' → jcompare s.1 t.1 = jcompare s'.1 t'.1
  /-- the `status == 0` branch writes the travelling value next to the resident key -/
  repl : ∀ s s' t t', R s s' → R t t' → jcompare s.1 t.1 = .eq → R (t.1, s.2) (t'.1, s'.2)

/-- … and for the guards of `janet_struct_put_ext` in front of the loop (nil value, NaN key) -/
structure SlotRelPut (R : Slot N → Slot M → Prop) : Prop extends SlotRel R where
  vnil : ∀ s s', R s s' → s.2.isNil = s'.2.isNil
  nan : ∀ s s', R s s' → isNaNKey s.1 = isNaNKey s'.1

/-- two slot arrays related slot by slot -/
def PW (R : Slot N → Slot M → Prop) (sl : List (Slot N)) (sl' : List (Slot M)) : Prop :=
  sl.length = sl'.length ∧ ∀ i, R (sl.getD i emptySlot) (sl'.getD i emptySlot)

omit [NumLike N] [NumLike M] in
theorem PW.set {R : Slot N → Slot M → Prop} {sl : List (Slot N)} {sl' : List (Slot M)} (h : PW R sl sl')
    {a : Slot N} {a' : Slot M} (ha : R a a') (i : Nat) : PW R (sl.set i a) (sl'.set i a') := by
  refine ⟨by simp [h.1], fun j => ?_⟩
  have e1 := sg_set sl i j a
  have e2 := sg_set sl' i j a'
  unfold sg at e1 e2
  rw [e1, e2, ← h.1]
  by_cases c : i = j ∧ i < sl.length
  · rw [if_pos c, if_pos c]; exact ha
  · rw [if_neg c, if_neg c]; exact h.2 j

omit [NumLike N] [NumLike M] in
theorem PW.replicate {R : Slot N → Slot M → Prop} (he : R emptySlot emptySlot) (n : Nat) :
    PW R (List.replicate n emptySlot) (List.replicate n emptySlot) := by
  refine ⟨by simp, fun i => ?_⟩
  by_cases h : i < n <;> simp [List.getD_eq_getElem?_getD, h, he]

omit [NumLike N] [NumLike M] in
theorem getD_map_empty (φ : Slot N → Slot M) (he : φ emptySlot = emptySlot) (sl : List (Slot N)) (i : Nat) :
    (sl.map φ).getD i emptySlot = φ (sl.getD i emptySlot) := by
  simp only [List.getD_eq_getElem?_getD, List.getElem?_map]
  cases sl[i]? <;> simp [he]

omit [NumLike N] [NumLike M] in
theorem PW_graph_iff (φ : Slot N → Slot M) (he : φ emptySlot = emptySlot) (sl : List (Slot N)) (sl' : List (Slot M)) :
    PW (fun s s' => s' = φ s) sl sl' ↔ sl' = sl.map φ := by
  constructor
  · rintro ⟨hl, h⟩
    apply List.ext_getElem (by simp [hl])
    intro i h1 h2
    have := h i
    simp only [List.getD_eq_getElem?_getD] at this
    rw [List.getElem?_eq_getElem h1, List.getElem?_eq_getElem (by rw [hl]; exact h1)] at this
    simpa using this
  · rintro rfl
    exact ⟨by simp, fun i => getD_map_empty φ he sl i⟩

/-- **the probe loop on related arrays**: same branch at every step, related results, same "filled an empty slot" flag -/
theorem putLoop_rel {R : Slot N → Slot M → Prop} (hR : SlotRel R) (cap : Nat) (replace : Bool) :
    ∀ (fuel i dist : Nat) (key value : JVal N) (key' value' : JVal M) (h : UInt32) (sl : List (Slot N)) (sl' : List (Slot M)),
      PW R sl sl' → R (key, value) (key', value') →
      PW R (putLoop cap replace fuel i dist key value h sl).1 (putLoop cap replace fuel i dist key' value' h sl').1 ∧
      (putLoop cap replace fuel i dist key value h sl).2 = (putLoop cap replace fuel i dist key' value' h sl').2 := by
  intro fuel
  induction fuel with
  | zero => intro i dist key value key' value' h sl sl' hpw _; exact ⟨by simpa [putLoop] using hpw, by simp [putLoop]⟩
  | succ fuel ih =>
    intro i dist key value key' value' h sl sl' hpw hkv
    have hr := hpw.2 i
    have hnil := hR.nil _ _ hr
    have hhash := hR.hash _ _ hr
    have hcmp : jcompare key (sl.getD i emptySlot).1 = jcompare key' (sl'.getD i emptySlot).1 := hR.cmp _ _ _ _ hkv hr
    rw [putLoop, putLoop]
    simp only []
    rw [← hnil]
    by_cases he : (sl.getD i emptySlot).1.isNil = true
    · simp only [he, if_true]
      exact ⟨hpw.set hkv i, trivial⟩
    · simp only [he, Bool.false_eq_true, if_false]
      rw [← hhash]
      have hst : putStatus dist ((i + cap - mapHash cap (hash (sl.getD i emptySlot).1)) % cap) h (hash (sl.getD i emptySlot).1) key
            (sl.getD i emptySlot).1 =
          putStatus dist ((i + cap - mapHash cap (hash (sl.getD i emptySlot).1)) % cap) h (hash (sl.getD i emptySlot).1) key'
            (sl'.getD i emptySlot).1 := by
        unfold putStatus; rw [hcmp]
      rw [← hst]
      cases hs : putStatus dist ((i + cap - mapHash cap (hash (sl.getD i emptySlot).1)) % cap) h (hash (sl.getD i emptySlot).1) key
          (sl.getD i emptySlot).1 with
      | lt => exact ih _ _ key value key' value' h sl sl' hpw hkv
      | gt => exact ih _ _ _ _ _ _ _ _ _ (hpw.set hkv i) hr
      | eq =>
        simp only []
        cases replace with
        | false => exact ⟨hpw, trivial⟩
        | true =>
          simp only [if_true]
          exact ⟨hpw.set (hR.repl _ _ _ _ hkv hr (putStatus_eq_cmp hs)) i, trivial⟩

/-- two structs under construction related field by field -/
def BuildRel (R : Slot N → Slot M → Prop) (RP : List (JVal N) → List (JVal M) → Prop) (st : StructBuild N) (st' : StructBuild M) : Prop :=
  PW R st.slots st'.slots ∧ st.count = st'.count ∧ st.length = st'.length ∧ RP st.proto st'.proto

theorem structPutExt_rel {R : Slot N → Slot M → Prop} {RP : List (JVal N) → List (JVal M) → Prop} (hR : SlotRelPut R)
    {st : StructBuild N} {st' : StructBuild M} (hst : BuildRel R RP st st') {key value : JVal N} {key' value' : JVal M}
    (hkv : R (key, value) (key', value')) (replace : Bool) :
    BuildRel R RP (structPutExt st key value replace) (structPutExt st' key' value' replace) := by
  obtain ⟨hpw, hc, hl, hp⟩ := hst
  have h1 : key.isNil = key'.isNil := hR.nil _ _ hkv
  have h2 : value.isNil = value'.isNil := hR.vnil _ _ hkv
  have h3 : isNaNKey key = isNaNKey key' := hR.nan _ _ hkv
  have h4 : hash key = hash key' := hR.hash _ _ hkv
  unfold structPutExt
  simp only []
  rw [← h1, ← h2, ← h3, ← hc, ← hl, ← h4, ← hpw.1]
  by_cases c1 : (key.isNil || value.isNil) = true
  · simp only [c1, if_true]; exact ⟨hpw, hc, hl, hp⟩
  · simp only [c1, Bool.false_eq_true, if_false]
    by_cases c2 : isNaNKey key = true
    · simp only [c2, if_true]; exact ⟨hpw, hc, hl, hp⟩
    · simp only [c2, Bool.false_eq_true, if_false]
      by_cases c3 : (st.count == st.length) = true
      · simp only [c3, if_true]; exact ⟨hpw, hc, hl, hp⟩
      · simp only [c3, Bool.false_eq_true, if_false]
        have := putLoop_rel hR.toSlotRel st.slots.length replace st.slots.length (mapHash st.slots.length (hash key)) 0 key value key' value'
          (hash key) st.slots st'.slots hpw hkv
        refine ⟨this.1, ?_, rfl, hp⟩
        simp only []
        rw [← this.2]

theorem foldl_rel {R : Slot N → Slot M → Prop} {RP : List (JVal N) → List (JVal M) → Prop}
    {step : StructBuild N → Slot N → StructBuild N} {step' : StructBuild M → Slot M → StructBuild M}
    (hstep : ∀ st st' kv kv', BuildRel R RP st st' → R kv kv' → BuildRel R RP (step st kv) (step' st' kv')) :
    ∀ (kvs : List (Slot N)) (kvs' : List (Slot M)) (st : StructBuild N) (st' : StructBuild M),
      kvs.length = kvs'.length → (∀ i, R (kvs.getD i emptySlot) (kvs'.getD i emptySlot)) → BuildRel R RP st st' →
      BuildRel R RP (kvs.foldl step st) (kvs'.foldl step' st')
  | [], [], _, _, _, _, h => h
  | [], _ :: _, _, _, hl, _, _ => by simp at hl
  | _ :: _, [], _, _, hl, _, _ => by simp at hl
  | kv :: rest, kv' :: rest', st, st', hl, hr, h => by
      simp only [List.foldl_cons]
      exact foldl_rel hstep rest rest' _ _ (by simpa using hl) (fun i => by simpa using hr (i + 1))
        (hstep _ _ _ _ h (by simpa using hr 0))

theorem foldl_structPut_rel {R : Slot N → Slot M → Prop} {RP : List (JVal N) → List (JVal M) → Prop} (hR : SlotRelPut R) :
    ∀ (kvs : List (Slot N)) (kvs' : List (Slot M)) (st : StructBuild N) (st' : StructBuild M),
      kvs.length = kvs'.length → (∀ i, R (kvs.getD i emptySlot) (kvs'.getD i emptySlot)) → BuildRel R RP st st' →
      BuildRel R RP (kvs.foldl (fun acc kv => structPut acc kv.1 kv.2) st) (kvs'.foldl (fun acc kv => structPut acc kv.1 kv.2) st') :=
  foldl_rel fun _ _ _ _ h hkv => structPutExt_rel hR h hkv true

theorem foldl_rebuild_rel {R : Slot N → Slot M → Prop} {RP : List (JVal N) → List (JVal M) → Prop} (hR : SlotRelPut R) :
    ∀ (S : List (Slot N)) (S' : List (Slot M)) (st : StructBuild N) (st' : StructBuild M),
      S.length = S'.length → (∀ i, R (S.getD i emptySlot) (S'.getD i emptySlot)) → BuildRel R RP st st' →
      BuildRel R RP (S.foldl (fun acc kv => if kv.1.isNil then acc else structPut acc kv.1 kv.2) st)
        (S'.foldl (fun acc kv => if kv.1.isNil then acc else structPut acc kv.1 kv.2) st') :=
  foldl_rel fun _ _ kv kv' h hkv => by
    simp only [← hR.nil _ _ hkv]
    by_cases c : kv.1.isNil = true
    · rw [if_pos c, if_pos c]; exact h
    · rw [if_neg c, if_neg c]; exact structPutExt_rel hR h hkv true

/-- the build state that `janet_struct_end` hashes: the slot array after the optional rebuild, and the prototype -/
def structEndState (st : StructBuild N) : StructBuild N :=
  if st.count != st.length then
    let newst : StructBuild N := structBegin st.count
    let newst := st.slots.foldl (fun acc kv => if kv.1.isNil then acc else structPut acc kv.1 kv.2) newst
    { newst with proto := st.proto }
  else st

omit [NumLike M] in
theorem structEnd_eq (st : StructBuild N) : structEnd st = .struct (flatten (structEndState st).slots) (structEndState st).proto := rfl

theorem structEndState_rel {R : Slot N → Slot M → Prop} {RP : List (JVal N) → List (JVal M) → Prop} (hR : SlotRelPut R)
    (hnil : RP [] []) {st : StructBuild N} {st' : StructBuild M} (h : BuildRel R RP st st') :
    BuildRel R RP (structEndState st) (structEndState st') := by
  obtain ⟨hpw, hc, hl, hp⟩ := h
  unfold structEndState
  rw [← hc, ← hl]
  by_cases c : (st.count != st.length) = true
  · simp only [c, if_true]
    have h0 : BuildRel R RP (structBegin st.count : StructBuild N) (structBegin st.count : StructBuild M) :=
      ⟨PW.replicate hR.empty _, rfl, rfl, hnil⟩
    have := foldl_rebuild_rel hR st.slots st'.slots _ _ hpw.1 hpw.2 h0
    exact ⟨this.1, this.2.1, this.2.2.1, hp⟩
  · simp only [c, Bool.false_eq_true, if_false]
    exact ⟨hpw, hc, hl, hp⟩

/-- **a whole construction on related insertion sequences**: `janet_struct_begin(c)`, the puts, the prototype,
    `janet_struct_end` (with its rebuild) — the two finished slot arrays are related slot by slot -/
theorem structOfCount_rel {R : Slot N → Slot M → Prop} {RP : List (JVal N) → List (JVal M) → Prop} (hR : SlotRelPut R)
    (hnil : RP [] []) (c : Nat) {kvs : List (Slot N)} {kvs' : List (Slot M)} (hlen : kvs.length = kvs'.length)
    (hkv : ∀ i, R (kvs.getD i emptySlot) (kvs'.getD i emptySlot)) {proto : List (JVal N)} {proto' : List (JVal M)}
    (hp : RP proto proto') :
    ∃ (sl : List (Slot N)) (sl' : List (Slot M)), structOfCount c kvs proto = .struct (flatten sl) proto ∧
      structOfCount c kvs' proto' = .struct (flatten sl') proto' ∧ PW R sl sl' := by
  have h0 : BuildRel R RP (structBegin c : StructBuild N) (structBegin c : StructBuild M) :=
    ⟨PW.replicate hR.empty _, rfl, rfl, hnil⟩
  have h1 := foldl_structPut_rel hR kvs kvs' _ _ hlen hkv h0
  have h2 : BuildRel R RP { (kvs.foldl (fun acc kv => structPut acc kv.1 kv.2) (structBegin c)) with proto := proto }
      { (kvs'.foldl (fun acc kv => structPut acc kv.1 kv.2) (structBegin c)) with proto := proto' } :=
    ⟨h1.1, h1.2.1, h1.2.2.1, hp⟩
  have h3 := structEndState_rel hR hnil h2
  refine ⟨_, _, ?_, ?_, h3.1⟩
  · unfold structOfCount; rw [structEnd_eq]
    congr 1
    unfold structEndState; simp only []; split <;> rfl
  · unfold structOfCount; rw [structEnd_eq]
    congr 1
    unfold structEndState; simp only []; split <;> rfl

end rel

end JanetModel.Value
