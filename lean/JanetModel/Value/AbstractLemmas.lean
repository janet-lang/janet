/- C03 — the laws of `=` / hash / compare for values over ANY lawful leaf type (`LawfulLeaf`): the container part of value.c
   (tuples, structs, prototypes, the hash / length short-cuts) preserves the laws of the leaves.
   The laws of the abstract-free model `JVal N` are these, carried over through `ofJVal` (Value/Laws.lean). -/
import JanetModel.Value.Abstract
import JanetModel.Value.Order

namespace JanetModel.Value
open JanetModel.Gen.Value

/-- what the container code needs of the leaves: different types are ordered by type tag, `cmp` is a total preorder whose
    equality is `eq`, `eq`-equal leaves hash alike (and are both nil or both not: struct length counts non-nil keys) -/
class LawfulLeaf (L : Type) [LeafOps L] : Prop where
  tag_ne : ∀ a : L, LeafOps.tag a ≠ tyTuple ∧ LeafOps.tag a ≠ tyStruct
  cmp_tag : ∀ a b : L, LeafOps.tag a ≠ LeafOps.tag b → LeafOps.cmp a b = natCmp (LeafOps.tag a) (LeafOps.tag b)
  cmp_swap : ∀ a b : L, LeafOps.cmp b a = (LeafOps.cmp a b).swap
  cmp_tri : ∀ a b c : L, Tri (LeafOps.cmp a b) (LeafOps.cmp b c) (LeafOps.cmp a c)
  cmp_eq_iff : ∀ a b : L, LeafOps.cmp a b = .eq ↔ LeafOps.eq a b = true
  eq_hash : ∀ a b : L, LeafOps.eq a b = true → LeafOps.hash a = LeafOps.hash b
  eq_isNil : ∀ a b : L, LeafOps.eq a b = true → LeafOps.isNil a = LeafOps.isNil b
  eq_tag : ∀ a b : L, LeafOps.eq a b = true → LeafOps.tag a = LeafOps.tag b

variable {L : Type} [LeafOps L]

mutual
/-- content equality over leaves: no hashes, no lengths, no layout short-cuts -/
def contentEqL : LVal L → LVal L → Bool
  | .leaf a, .leaf b => LeafOps.eq a b
  | .tuple br1 xs, .tuple br2 ys => br1 == br2 && contentEqListL xs ys
  | .struct f1 p1, .struct f2 p2 => contentEqListL f1 f2 && contentEqListL p1 p2
  | _, _ => false
def contentEqListL : List (LVal L) → List (LVal L) → Bool
  | [], [] => true
  | x :: xs, y :: ys => contentEqL x y && contentEqListL xs ys
  | _, _ => false
end

omit [LeafOps L] in
theorem LVal.induct {P : LVal L → Prop} {Q : List (LVal L) → Prop}
    (leaf : ∀ l, P (.leaf l)) (tuple : ∀ br xs, Q xs → P (.tuple br xs)) (struct : ∀ f p, Q f → Q p → P (.struct f p))
    (lnil : Q []) (lcons : ∀ x xs, P x → Q xs → Q (x :: xs)) : (∀ a, P a) ∧ (∀ l, Q l) :=
  ⟨fun a => LVal.rec (motive_1 := P) (motive_2 := Q) leaf tuple struct lnil lcons a,
   fun l => LVal.rec_1 (motive_1 := P) (motive_2 := Q) leaf tuple struct lnil lcons l⟩

theorem contentEqListL_length : ∀ (l m : List (LVal L)), contentEqListL l m = true → l.length = m.length
  | [], [], _ => rfl
  | [], _ :: _, h => by simp [contentEqListL] at h
  | _ :: _, [], h => by simp [contentEqListL] at h
  | _ :: xs, _ :: ys, h => by
      simp [contentEqListL] at h
      simp [contentEqListL_length xs ys h.2]

theorem contentEqListL_isEmpty (l m : List (LVal L)) (h : contentEqListL l m = true) : l.isEmpty = m.isEmpty := by
  cases l <;> cases m <;> simp [contentEqListL] at h <;> rfl

/-- the prototype term of a struct hash -/
def protoHashL (p : List (LVal L)) : UInt32 :=
  match p with
  | [] => 0
  | q :: _ => protoMul.toUInt32 * hashL q

theorem hashL_struct (f p : List (LVal L)) : hashL (.struct f p) = hashFoldL kvSeed.toUInt32 f + protoHashL p := by
  cases p <;> simp [hashL, protoHashL]

theorem hashL_tuple (br : Bool) (xs : List (LVal L)) : hashL (.tuple br xs) = tupleHashL xs + (if br then 1 else 0) := by
  simp [hashL, tupleHashL]

theorem jcompareL_tuple (b1 b2 : Bool) (xs ys : List (LVal L)) :
    jcompareL (.tuple b1 xs) (.tuple b2 ys) = (natCmp b1.toNat b2.toNat).then (compareListL xs ys) := by
  cases b1 <;> cases b2 <;> simp [jcompareL, natCmp, Ordering.then]

theorem jcompareL_struct (f1 p1 f2 p2 : List (LVal L)) :
    jcompareL (.struct f1 p1) (.struct f2 p2) =
      (natCmp (f1.length / 2) (f2.length / 2)).then
        ((intCmp (sInt (hashL (.struct f1 p1))) (sInt (hashL (.struct f2 p2)))).then
          ((compareListL f1 f2).then (compareListL p1 p2))) := by
  simp only [jcompareL, sCompare_eq]
  unfold natCmp
  split
  · rfl
  · split
    · simp [Ordering.then]
    · have : ¬ (f2.length / 2 < f1.length / 2) := by omega
      simp only [Ordering.then]
      cases intCmp (sInt (hashL (LVal.struct f1 p1))) (sInt (hashL (LVal.struct f2 p2))) <;> simp
      cases compareListL f1 f2 <;> simp

theorem compareListL_cons (x y : LVal L) (xs ys : List (LVal L)) :
    compareListL (x :: xs) (y :: ys) = (jcompareL x y).then (compareListL xs ys) := by
  simp only [compareListL]
  cases jcompareL x y <;> rfl

theorem natCmp_of_ite (a b : Nat) : (if a < b then Ordering.lt else if a > b then .gt else .eq) = natCmp a b := by
  unfold natCmp; rfl

theorem jcompareL_of_tag_ne'
    (hc : ∀ x y : L, LeafOps.tag x ≠ LeafOps.tag y → LeafOps.cmp x y = natCmp (LeafOps.tag x) (LeafOps.tag y))
    (a b : LVal L) (h : a.typeTag ≠ b.typeTag) : jcompareL a b = natCmp a.typeTag b.typeTag := by
  cases a <;> cases b <;> simp only [LVal.typeTag] at h ⊢ <;>
    first
    | (simp only [jcompareL]; exact hc _ _ h)
    | exact absurd rfl h
    | (simp only [jcompareL, LVal.typeTag]; rfl)

variable [LawfulLeaf L]

theorem contentEqL_isNil (a b : LVal L) (h : contentEqL a b = true) : a.isNil = b.isNil := by
  cases a <;> cases b <;> simp [contentEqL] at h <;> try rfl
  exact LawfulLeaf.eq_isNil _ _ h

theorem contentEqListL_structLength : ∀ (l m : List (LVal L)), contentEqListL l m = true → structLengthL l = structLengthL m
  | [], [], _ => rfl
  | [], _ :: _, h => by simp [contentEqListL] at h
  | [_], [], h => by simp [contentEqListL] at h
  | [_], [_], _ => by simp [structLengthL]
  | [_], _ :: _ :: _, h => by simp [contentEqListL] at h
  | _ :: _ :: _, [], h => by simp [contentEqListL] at h
  | _ :: _ :: _, [_], h => by simp [contentEqListL] at h
  | k :: _ :: rest, k' :: _ :: rest', h => by
      simp [contentEqListL] at h
      simp [structLengthL, contentEqL_isNil k k' h.1, contentEqListL_structLength rest rest' h.2.2]

theorem contentEqL_hash_both :
    (∀ a b : LVal L, contentEqL a b = true → hashL a = hashL b) ∧
    (∀ l m : List (LVal L), contentEqListL l m = true → (∀ h, hashFoldL h l = hashFoldL h m) ∧ protoHashL l = protoHashL m) := by
  apply LVal.induct (P := fun a => ∀ b, contentEqL a b = true → hashL a = hashL b)
    (Q := fun l => ∀ m, contentEqListL l m = true → (∀ h, hashFoldL h l = hashFoldL h m) ∧ protoHashL l = protoHashL m)
  case leaf => intro l b hab; cases b <;> simp [contentEqL] at hab; simp [hashL, LawfulLeaf.eq_hash _ _ hab]
  case tuple =>
    intro br xs ih b hab; cases b <;> simp [contentEqL] at hab
    rw [hashL_tuple, hashL_tuple, tupleHashL, tupleHashL, (ih _ hab.2).1, hab.1]
  case struct =>
    intro f p ihf ihp b hab; cases b <;> simp [contentEqL] at hab
    rw [hashL_struct, hashL_struct, (ihf _ hab.1).1, (ihp _ hab.2).2]
  case lcons =>
    intro x xs ihx ihxs m hab; cases m <;> simp [contentEqListL] at hab
    have hx := ihx _ hab.1
    have hxs := ihxs _ hab.2
    refine ⟨fun h => ?_, ?_⟩
    · simp [hashFoldL, hx, hxs.1]
    · simp [protoHashL, hx]
  case lnil => intro m hab; cases m <;> simp [contentEqListL] at hab; simp

theorem equalsL_eq_contentEqL_both :
    (∀ a b : LVal L, equalsL a b = contentEqL a b) ∧ (∀ l m : List (LVal L), equalsListL l m = contentEqListL l m) := by
  apply LVal.induct (P := fun a => ∀ b, equalsL a b = contentEqL a b) (Q := fun l => ∀ m, equalsListL l m = contentEqListL l m)
  case tuple =>
    intro br xs ih b; cases b <;> simp [equalsL, contentEqL]
    rename_i br2 ys
    rw [ih ys]
    by_cases hc : contentEqListL xs ys = true
    · have h1 : tupleHashL xs = tupleHashL ys := (contentEqL_hash_both.2 xs ys hc).1 _
      have h2 := contentEqListL_length xs ys hc
      simp [hc, h1, h2]
      cases br <;> cases br2 <;> rfl
    · simp at hc; simp [hc]
  case struct =>
    intro f p ihf ihp b; cases b <;> simp [equalsL, contentEqL]
    rename_i f2 p2
    rw [ihf f2, ihp p2]
    by_cases hc : contentEqListL f f2 = true ∧ contentEqListL p p2 = true
    · have h1 : hashL (.struct f p) = hashL (.struct f2 p2) := contentEqL_hash_both.1 _ _ (by simp [contentEqL, hc])
      have h2 := contentEqListL_structLength f f2 hc.1
      have h3 := contentEqListL_isEmpty p p2 hc.2
      simp [hc, h1, h2]
      cases p <;> cases p2 <;> simp_all
    · have : (contentEqListL f f2 && contentEqListL p p2) = false := by
        cases h1 : contentEqListL f f2 <;> cases h2 : contentEqListL p p2 <;> simp_all
      simp [this]
  all_goals intros
  all_goals (rename_i b; cases b <;> simp_all [equalsL, equalsListL, contentEqL, contentEqListL])


theorem jcompareL_of_tag_ne (a b : LVal L) (h : a.typeTag ≠ b.typeTag) : jcompareL a b = natCmp a.typeTag b.typeTag :=
  jcompareL_of_tag_ne' LawfulLeaf.cmp_tag a b h

theorem jcompareL_tag_then (a b : LVal L) : jcompareL a b = (natCmp a.typeTag b.typeTag).then (jcompareL a b) :=
  then_natCmp_self (jcompareL_of_tag_ne a b)

/-- values with the same type tag have the same shape -/
theorem sameTagL_cases {motive : LVal L → LVal L → Prop} (a b : LVal L) (h : a.typeTag = b.typeTag)
    (leaf : ∀ x y, motive (.leaf x) (.leaf y))
    (tuple : ∀ b1 xs b2 ys, motive (.tuple b1 xs) (.tuple b2 ys))
    (struct : ∀ f1 p1 f2 p2, motive (.struct f1 p1) (.struct f2 p2)) : motive a b := by
  cases a <;> cases b <;> simp only [LVal.typeTag] at h
  · apply leaf
  · exact absurd h (LawfulLeaf.tag_ne _).1
  · exact absurd h (LawfulLeaf.tag_ne _).2
  · exact absurd h.symm (LawfulLeaf.tag_ne _).1
  · apply tuple
  · exact absurd h (by decide)
  · exact absurd h.symm (LawfulLeaf.tag_ne _).2
  · exact absurd h (by decide)
  · apply struct

omit [LeafOps L] [LawfulLeaf L] in
theorem LVal.sizeOf_pos [SizeOf L] (a : LVal L) : 1 ≤ sizeOf a := by
  cases a <;> simp <;> omega

/- The three order laws go by induction on a bound for the sizes, not by `LVal.induct`: the same-tag case split
   (`sameTagL_cases`) then applies to a pair of any shape, and the hypothesis to every pair of components. -/
theorem swapL_all : ∀ n : Nat,
    (∀ a b : LVal L, sizeOf a + sizeOf b ≤ n → jcompareL b a = (jcompareL a b).swap) ∧
    (∀ l m : List (LVal L), sizeOf l + sizeOf m ≤ n → compareListL m l = (compareListL l m).swap) := by
  intro n
  induction n with
  | zero =>
    constructor
    · intro a b hs; have := LVal.sizeOf_pos a; omega
    · intro l m hs; cases l <;> simp at hs
  | succ n ih =>
    constructor
    · intro a b hs
      by_cases h : a.typeTag = b.typeTag
      · revert hs
        refine sameTagL_cases (motive := fun a b => sizeOf a + sizeOf b ≤ n + 1 → jcompareL b a = (jcompareL a b).swap) a b h ?_ ?_ ?_
        · intro x y _; simp only [jcompareL]; exact LawfulLeaf.cmp_swap x y
        · intro b1 xs b2 ys hs
          rw [jcompareL_tuple, jcompareL_tuple, swap_then', natCmp_swap, ih.2 xs ys (by simp at hs; omega)]
        · intro f1 p1 f2 p2 hs
          rw [jcompareL_struct, jcompareL_struct, swap_then', swap_then', swap_then', natCmp_swap, intCmp_swap,
            ih.2 f1 f2 (by simp at hs; omega), ih.2 p1 p2 (by simp at hs; omega)]
      · rw [jcompareL_of_tag_ne a b h, jcompareL_of_tag_ne b a (Ne.symm h), natCmp_swap]
    · intro l m hs
      cases l <;> cases m
      · rfl
      · rfl
      · rfl
      · rename_i x xs y ys
        rw [compareListL_cons, compareListL_cons, swap_then', ih.1 x y (by simp at hs; omega), ih.2 xs ys (by simp at hs; omega)]

theorem contentEqL_tag (a b : LVal L) (h : contentEqL a b = true) : a.typeTag = b.typeTag := by
  cases a <;> cases b <;> simp [contentEqL] at h <;> simp only [LVal.typeTag]
  exact LawfulLeaf.eq_tag _ _ h

theorem eqiffL_all : ∀ n : Nat,
    (∀ a b : LVal L, sizeOf a + sizeOf b ≤ n → (jcompareL a b = .eq ↔ contentEqL a b = true)) ∧
    (∀ l m : List (LVal L), sizeOf l + sizeOf m ≤ n → (compareListL l m = .eq ↔ contentEqListL l m = true)) := by
  intro n
  induction n with
  | zero =>
    constructor
    · intro a b hs; have := LVal.sizeOf_pos a; omega
    · intro l m hs; cases l <;> simp at hs
  | succ n ih =>
    constructor
    · intro a b hs
      by_cases h : a.typeTag = b.typeTag
      · revert hs
        refine sameTagL_cases (motive := fun a b => sizeOf a + sizeOf b ≤ n + 1 → (jcompareL a b = .eq ↔ contentEqL a b = true)) a b h ?_ ?_ ?_
        · intro x y _; simp only [jcompareL, contentEqL]; exact LawfulLeaf.cmp_eq_iff x y
        · intro b1 xs b2 ys hs
          rw [jcompareL_tuple, then_eq_iff, natCmp_eq_iff, ih.2 xs ys (by simp at hs; omega)]
          cases b1 <;> cases b2 <;> simp [contentEqL]
        · intro f1 p1 f2 p2 hs
          rw [jcompareL_struct, then_eq_iff, then_eq_iff, then_eq_iff, natCmp_eq_iff, intCmp_eq_iff,
            ih.2 f1 f2 (by simp at hs; omega), ih.2 p1 p2 (by simp at hs; omega)]
          simp only [contentEqL, Bool.and_eq_true]
          constructor
          · intro h'; exact ⟨h'.2.2.1, h'.2.2.2⟩
          · intro h'
            have hh : hashL (.struct f1 p1) = hashL (.struct f2 p2) := contentEqL_hash_both.1 _ _ (by simp [contentEqL, h'.1, h'.2])
            exact ⟨by rw [contentEqListL_length f1 f2 h'.1], by rw [hh], h'.1, h'.2⟩
      · rw [jcompareL_of_tag_ne a b h]
        have h1 : natCmp a.typeTag b.typeTag ≠ .eq := fun e => h ((natCmp_eq_iff _ _).mp e)
        have h2 : contentEqL a b ≠ true := fun e => h (contentEqL_tag a b e)
        simp [h1, h2]
    · intro l m hs
      cases l <;> cases m
      · simp [compareListL, contentEqListL]
      · simp [compareListL, contentEqListL]
      · simp [compareListL, contentEqListL]
      · rename_i x xs y ys
        rw [compareListL_cons, then_eq_iff, ih.1 x y (by simp at hs; omega), ih.2 xs ys (by simp at hs; omega)]
        simp [contentEqListL]

theorem triL_all : ∀ n : Nat,
    (∀ a b c : LVal L, sizeOf a + sizeOf b + sizeOf c ≤ n → Tri (jcompareL a b) (jcompareL b c) (jcompareL a c)) ∧
    (∀ l m k : List (LVal L), sizeOf l + sizeOf m + sizeOf k ≤ n → Tri (compareListL l m) (compareListL m k) (compareListL l k)) := by
  intro n
  induction n with
  | zero =>
    constructor
    · intro a b c hs; have := LVal.sizeOf_pos a; omega
    · intro l m k hs; cases l <;> simp at hs
  | succ n ih =>
    constructor
    · intro a b c hs
      rw [jcompareL_tag_then a b, jcompareL_tag_then b c, jcompareL_tag_then a c]
      refine Tri.then' (tri_natCmp _ _ _) ?_
      intro h1 h2 h3
      have hab := (natCmp_eq_iff _ _).mp h1
      have hbc := (natCmp_eq_iff _ _).mp h2
      clear h1 h2 h3
      revert hs hbc
      refine sameTagL_cases (motive := fun a b => sizeOf a + sizeOf b + sizeOf c ≤ n + 1 → b.typeTag = c.typeTag →
        Tri (jcompareL a b) (jcompareL b c) (jcompareL a c)) a b hab ?_ ?_ ?_
      · intro x y hs hbc
        cases c with
        | leaf z => simp only [jcompareL]; exact LawfulLeaf.cmp_tri x y z
        | tuple b3 zs => exact absurd hbc (LawfulLeaf.tag_ne y).1
        | struct f p => exact absurd hbc (LawfulLeaf.tag_ne y).2
      · intro b1 xs b2 ys hs hbc
        cases c with
        | leaf z => exact absurd hbc.symm (LawfulLeaf.tag_ne z).1
        | struct f p => exact absurd hbc (by simp only [LVal.typeTag]; decide)
        | tuple b3 zs =>
          simp only [jcompareL_tuple]
          exact Tri.then' (tri_natCmp _ _ _) (fun _ _ _ => ih.2 xs ys zs (by simp at hs; omega))
      · intro f1 p1 f2 p2 hs hbc
        cases c with
        | leaf z => exact absurd hbc.symm (LawfulLeaf.tag_ne z).2
        | tuple b3 zs => exact absurd hbc (by simp only [LVal.typeTag]; decide)
        | struct f3 p3 =>
          simp only [jcompareL_struct]
          refine Tri.then' (tri_natCmp _ _ _) (fun _ _ _ => Tri.then' (tri_intCmp _ _ _) (fun _ _ _ => ?_))
          exact Tri.then' (ih.2 f1 f2 f3 (by simp at hs; omega)) (fun _ _ _ => ih.2 p1 p2 p3 (by simp at hs; omega))
    · intro l m k hs
      cases l <;> cases m <;> cases k <;> try (simp [compareListL, Tri]; done)
      rename_i x xs y ys z zs
      simp only [compareListL_cons]
      exact Tri.then' (ih.1 x y z (by simp at hs; omega)) (fun _ _ _ => ih.2 xs ys zs (by simp at hs; omega))

theorem jcompareL_swap (a b : LVal L) : jcompareL b a = (jcompareL a b).swap := (swapL_all _).1 a b (Nat.le_refl _)

theorem jcompareL_tri (a b c : LVal L) : Tri (jcompareL a b) (jcompareL b c) (jcompareL a c) :=
  (triL_all _).1 a b c (Nat.le_refl _)

theorem jcompareL_eq_iff (a b : LVal L) : jcompareL a b = .eq ↔ contentEqL a b = true := (eqiffL_all _).1 a b (Nat.le_refl _)

/-- an equality test that is the `.eq` outcome of a three-way comparison with the order laws is an equivalence -/
theorem equivalence_of_cmp {α : Type} {e : α → α → Bool} {c : α → α → Ordering} (hs : ∀ a b, c b a = (c a b).swap)
    (ht : ∀ a b d, Tri (c a b) (c b d) (c a d)) (he : ∀ a b, c a b = .eq ↔ e a b = true) :
    (∀ a, e a a = true) ∧ (∀ a b, e a b = e b a) ∧ (∀ a b d, e a b = true → e b d = true → e a d = true) := by
  refine ⟨fun a => (he a a).mp ?_, fun a b => ?_, fun a b d h1 h2 => (he a d).mp ((ht a b d).2.2.2 ((he a b).mpr h1) ((he b d).mpr h2))⟩
  · have := hs a a
    cases h : c a a <;> rw [h] at this <;> first | rfl | cases this
  · rw [Bool.eq_iff_iff, ← he, ← he, hs a b]
    cases c a b <;> decide

theorem contentEqL_equivalence :
    (∀ a : LVal L, contentEqL a a = true) ∧ (∀ a b : LVal L, contentEqL a b = contentEqL b a) ∧
    (∀ a b c : LVal L, contentEqL a b = true → contentEqL b c = true → contentEqL a c = true) :=
  equivalence_of_cmp jcompareL_swap jcompareL_tri jcompareL_eq_iff

theorem contentEqListL_equivalence :
    (∀ l : List (LVal L), contentEqListL l l = true) ∧ (∀ l m : List (LVal L), contentEqListL l m = contentEqListL m l) ∧
    (∀ l m n : List (LVal L), contentEqListL l m = true → contentEqListL m n = true → contentEqListL l n = true) :=
  equivalence_of_cmp (fun l m => (swapL_all _).2 l m (Nat.le_refl _)) (fun l m n => (triL_all _).2 l m n (Nat.le_refl _))
    (fun l m => (eqiffL_all _).2 l m (Nat.le_refl _))

theorem jcompareL_congr_left {a b : LVal L} (h : contentEqL a b = true) (c : LVal L) : jcompareL a c = jcompareL b c := by
  have hab := (jcompareL_eq_iff a b).mpr h
  exact Tri.congr hab (by rw [jcompareL_swap a b, hab]; rfl) (jcompareL_tri a b c) (jcompareL_tri b a c)

theorem jcompareL_congr_right {a b : LVal L} (h : contentEqL a b = true) (c : LVal L) : jcompareL c a = jcompareL c b := by
  rw [jcompareL_swap a c, jcompareL_swap b c, jcompareL_congr_left h]

end JanetModel.Value
