/- C03 — the symbol cache keeps interned symbols unique: invariants of `SymCache` and their preservation. -/
import JanetModel.Value.SymCache
import JanetModel.Value.Lemmas
import JanetModel.Probe.Cyclic

namespace JanetModel.Value.SymCache
open JanetModel.Gen.Value JanetModel.Value

theorem pos_lt {cap index k : Nat} (hi : index < cap) (hk : k < cap) : pos cap index k < cap := by
  unfold pos; split <;> omega

theorem pos_inj {cap index j k : Nat} (hi : index < cap) (hj : j < cap) (hk : k < cap)
    (h : pos cap index j = pos cap index k) : j = k := by
  unfold pos at h; split at h <;> split at h <;> omega

theorem pos_surj {cap index i : Nat} (hi : index < cap) (h : i < cap) : ∃ k, k < cap ∧ pos cap index k = i := by
  by_cases hge : index ≤ i
  · exact ⟨i - index, by omega, by unfold pos; split <;> omega⟩
  · exact ⟨i + cap - index, by omega, by unfold pos; split <;> omega⟩

theorem home_lt {cap : Nat} (h : 0 < cap) (b : List UInt8) : home cap b < cap := Nat.mod_lt _ h

abbrev gd (sl : List Slot) (i : Nat) : Slot := sl.getD i .empty

theorem gd_set (sl : List Slot) (i j : Nat) (a : Slot) :
    gd (sl.set i a) j = if i = j ∧ i < sl.length then a else gd sl j := Util.getD_set sl i j a _

theorem gd_lt {sl : List Slot} {i : Nat} (h : gd sl i ≠ .empty) : i < sl.length := by
  unfold gd at h
  by_cases hl : i < sl.length
  · exact hl
  · simp [List.getD_eq_getElem?_getD, List.getElem?_eq_none (by omega : sl.length ≤ i)] at h

theorem vacatedByMove_ne : vacatedByMove ≠ .empty := by simp [vacatedByMove]
theorem vacatedByDeinit_ne : vacatedByDeinit ≠ .empty := by simp [vacatedByDeinit]
theorem vacatedByMove_not_live (p : Nat) (b : List UInt8) : vacatedByMove ≠ .live p b := by
  unfold vacatedByMove; split <;> simp
theorem vacatedByDeinit_not_live (p : Nat) (b : List UInt8) : vacatedByDeinit ≠ .live p b := by
  unfold vacatedByDeinit; split <;> simp

/-- the probe path from the home of `b` reaches slot `i` without crossing an empty slot -/
def Reach (sl : List Slot) (b : List UInt8) (i : Nat) : Prop :=
  ∃ d, d < sl.length ∧ i = pos sl.length (home sl.length b) d ∧
    ∀ k, k < d → gd sl (pos sl.length (home sl.length b) k) ≠ .empty

/-- invariant of `janet_vm.cache` -/
structure Inv (sl : List Slot) : Prop where
  nodup : ∀ i j p q b, gd sl i = .live p b → gd sl j = .live q b → i = j
  /-- probe-chain: every live entry is reachable from its home slot without crossing an empty slot -/
  chain : ∀ i p b, gd sl i = .live p b → Reach sl b i

theorem Reach.mono {sl sl' : List Slot} {b : List UInt8} {i : Nat} (hl : sl'.length = sl.length)
    (hm : ∀ y, gd sl y ≠ .empty → gd sl' y ≠ .empty) (h : Reach sl b i) : Reach sl' b i := by
  obtain ⟨d, hd, hi, hk⟩ := h
  exact ⟨d, by omega, by rw [hl]; exact hi, fun k hk' => by rw [hl]; exact hm _ (hk k hk')⟩

theorem findLoop_empty {bytes : List UInt8} {cap index fuel k : Nat} {fe : Option Nat} {sl : List Slot}
    (h : gd sl (pos cap index k) = .empty) :
    findLoop bytes cap index (fuel + 1) k fe sl = (sl, .miss (some (fe.getD (pos cap index k)))) := by
  unfold findLoop; simp only [gd] at h; simp only [h]

theorem findLoop_deleted {bytes : List UInt8} {cap index fuel k : Nat} {fe : Option Nat} {sl : List Slot}
    (h : gd sl (pos cap index k) = .deleted) :
    findLoop bytes cap index (fuel + 1) k fe sl = findLoop bytes cap index fuel (k + 1) (some (fe.getD (pos cap index k))) sl := by
  rw [findLoop]; simp only [gd] at h; simp only [h]

theorem findLoop_other {bytes : List UInt8} {cap index fuel k : Nat} {fe : Option Nat} {sl : List Slot} {q : Nat} {b : List UInt8}
    (h : gd sl (pos cap index k) = .live q b) (hne : b ≠ bytes) :
    findLoop bytes cap index (fuel + 1) k fe sl = findLoop bytes cap index fuel (k + 1) fe sl := by
  rw [findLoop]; simp only [gd] at h; simp only [h, hne, if_false]

theorem findLoop_match {bytes : List UInt8} {cap index fuel k : Nat} {fe : Option Nat} {sl : List Slot} {q : Nat}
    (h : gd sl (pos cap index k) = .live q bytes) :
    findLoop bytes cap index (fuel + 1) k fe sl =
      match fe with
      | some f => ((sl.set f (.live q bytes)).set (pos cap index k) vacatedByMove, .hit f)
      | none => (sl, .hit (pos cap index k)) := by
  rw [findLoop]; simp only [gd] at h; simp only [h, if_true]; cases fe <;> rfl

/-- `findLoop` when the bytes are live at probe number `d` and nothing before it stops the probe -/
theorem findLoop_hit (bytes : List UInt8) (cap index : Nat) (sl : List Slot) (p d : Nat)
    (hlive : gd sl (pos cap index d) = .live p bytes) :
    ∀ (fuel k0 : Nat) (fe : Option Nat), k0 ≤ d → d < k0 + fuel →
      (∀ k, k0 ≤ k → k < d → gd sl (pos cap index k) ≠ .empty ∧ ∀ q, gd sl (pos cap index k) ≠ .live q bytes) →
      (findLoop bytes cap index fuel k0 fe sl = (sl, .hit (pos cap index d)) ∧ fe = none ∧
          ∀ k, k0 ≤ k → k < d → gd sl (pos cap index k) ≠ .deleted) ∨
      (∃ f, findLoop bytes cap index fuel k0 fe sl =
            ((sl.set f (.live p bytes)).set (pos cap index d) vacatedByMove, .hit f) ∧
          (fe = some f ∨ (fe = none ∧ ∃ j, k0 ≤ j ∧ j < d ∧ f = pos cap index j ∧ gd sl f = .deleted))) := by
  intro fuel
  induction fuel with
  | zero => intro k0 fe h1 h2; omega
  | succ fuel ih =>
    intro k0 fe h1 h2 hpath
    by_cases hk : k0 = d
    · subst hk
      rw [findLoop_match hlive]
      cases fe with
      | none => left; exact ⟨rfl, rfl, fun k a b => by omega⟩
      | some f => right; exact ⟨f, rfl, Or.inl rfl⟩
    · have hlt : k0 < d := by omega
      have hp := hpath k0 (Nat.le_refl _) hlt
      cases hs : gd sl (pos cap index k0) with
      | empty => exact absurd hs hp.1
      | deleted =>
        rw [findLoop_deleted hs]
        have := ih (k0 + 1) (some (fe.getD (pos cap index k0))) (by omega) (by omega) (fun k a b => hpath k (by omega) b)
        rcases this with ⟨_, h, _⟩ | ⟨f, hf, hor⟩
        · cases h
        · right
          refine ⟨f, hf, ?_⟩
          rcases hor with h | ⟨h, _⟩
          · cases fe with
            | none =>
              right
              simp at h
              exact ⟨rfl, k0, Nat.le_refl _, hlt, h.symm, by rw [← h]; exact hs⟩
            | some g => left; simp at h; rw [h]
          · cases h
      | live q b =>
        have hne : b ≠ bytes := fun e => hp.2 q (by rw [← e]; exact hs)
        rw [findLoop_other hs hne]
        have := ih (k0 + 1) fe (by omega) (by omega) (fun k a b => hpath k (by omega) b)
        rcases this with ⟨h1', h2', h3'⟩ | ⟨f, hf, hor⟩
        · left
          refine ⟨h1', h2', fun k a b => ?_⟩
          by_cases hkk : k = k0
          · subst hkk; rw [hs]; simp
          · exact h3' k (by omega) b
        · right
          refine ⟨f, hf, ?_⟩
          rcases hor with h | ⟨h, j, hj1, hj2, hj3, hj4⟩
          · exact Or.inl h
          · exact Or.inr ⟨h, j, by omega, hj2, hj3, hj4⟩

/-- `findLoop` when no live entry has these bytes: nothing changes, and the returned bucket (if any) is the first
    tombstone on the probe path or the empty slot ending it; without one, every slot probed is occupied -/
theorem findLoop_miss (bytes : List UInt8) (cap index : Nat) (sl : List Slot) (hno : ∀ i q, gd sl i ≠ .live q bytes) :
    ∀ (fuel k0 : Nat) (fe : Option Nat), ∃ r, findLoop bytes cap index fuel k0 fe sl = (sl, .miss r) ∧
      (∀ b, r = some b → fe = some b ∨
        (fe = none ∧ ∃ j, k0 ≤ j ∧ j < k0 + fuel ∧ b = pos cap index j ∧ (gd sl b = .empty ∨ gd sl b = .deleted) ∧
          ∀ k, k0 ≤ k → k < j → gd sl (pos cap index k) ≠ .empty)) ∧
      (r = none → ∀ k, k0 ≤ k → k < k0 + fuel → gd sl (pos cap index k) ≠ .empty) := by
  intro fuel
  induction fuel with
  | zero => intro k0 fe; exact ⟨fe, rfl, fun b h => Or.inl h, fun _ k _ _ => by omega⟩
  | succ fuel ih =>
    intro k0 fe
    cases hs : gd sl (pos cap index k0) with
    | empty =>
      rw [findLoop_empty hs]
      refine ⟨_, rfl, fun b h => ?_, fun h => by cases h⟩
      cases fe with
      | some f => left; simpa using h
      | none =>
        right
        simp at h
        exact ⟨rfl, k0, Nat.le_refl _, by omega, h.symm, Or.inl (by rw [← h]; exact hs), fun k a b => by omega⟩
    | deleted =>
      rw [findLoop_deleted hs]
      obtain ⟨r, hr, hb, hn⟩ := ih (k0 + 1) (some (fe.getD (pos cap index k0)))
      have hn' : r = none → ∀ k, k0 ≤ k → k < k0 + (fuel + 1) → gd sl (pos cap index k) ≠ .empty := fun h k _ _ => by
        by_cases hk : k = k0
        · subst hk; rw [hs]; simp
        · exact hn h k (by omega) (by omega)
      refine ⟨r, hr, fun b h => ?_, hn'⟩
      rcases hb b h with h' | ⟨h', _⟩
      · cases fe with
        | some f => left; simpa using h'
        | none =>
          right
          simp at h'
          exact ⟨rfl, k0, Nat.le_refl _, by omega, h'.symm, Or.inr (by rw [← h']; exact hs), fun k a b => by omega⟩
      · cases h'
    | live q b' =>
      have hne : b' ≠ bytes := fun e => hno _ q (by rw [← e]; exact hs)
      rw [findLoop_other hs hne]
      obtain ⟨r, hr, hb, hn⟩ := ih (k0 + 1) fe
      have hn' : r = none → ∀ k, k0 ≤ k → k < k0 + (fuel + 1) → gd sl (pos cap index k) ≠ .empty := fun h k _ _ => by
        by_cases hk : k = k0
        · subst hk; rw [hs]; simp
        · exact hn h k (by omega) (by omega)
      refine ⟨r, hr, fun b h => ?_, hn'⟩
      rcases hb b h with h' | ⟨h', j, hj1, hj2, hj3, hj4, hj5⟩
      · exact Or.inl h'
      · right
        refine ⟨h', j, by omega, by omega, hj3, hj4, fun k a c => ?_⟩
        by_cases hk : k = k0
        · subst hk; rw [hs]; simp
        · exact hj5 k (by omega) c

theorem gd_set_lt {sl : List Slot} {j : Nat} (hj : j < sl.length) (v : Slot) (y : Nat) :
    gd (sl.set j v) y = if y = j then v else gd sl y := by
  rw [gd_set]; by_cases h : y = j
  · subst h; simp [hj]
  · simp [h, Ne.symm h]

/-- the symbol with address `q` and bytes `c` is in the cache -/
def Live (sl : List Slot) (q : Nat) (c : List UInt8) : Prop := ∃ y, gd sl y = .live q c

theorem Inv.ptr_unique {sl : List Slot} (hinv : Inv sl) {p q : Nat} {b : List UInt8} (hp : Live sl p b) (hq : Live sl q b) :
    p = q := by
  obtain ⟨i, hi⟩ := hp
  obtain ⟨j, hj⟩ := hq
  have := hinv.nodup i j p q b hi hj
  subst this; rw [hi] at hj; cases hj; rfl

/-- one slot is overwritten with a value other than `empty`: the invariant stays provided a symbol written there is stored
    nowhere else and its probe path reaches the slot; the live symbols are the one written and those of the other slots -/
theorem Inv.set {sl : List Slot} (hinv : Inv sl) {j : Nat} (hj : j < sl.length) {v : Slot} (hv : v ≠ .empty)
    (hk : ∀ p b, v = .live p b → (∀ x q, x ≠ j → gd sl x ≠ .live q b) ∧ Reach sl b j) :
    Inv (sl.set j v) ∧ ∀ q c, Live (sl.set j v) q c ↔ (v = .live q c ∨ ∃ y, y ≠ j ∧ gd sl y = .live q c) := by
  have hg := gd_set_lt hj v
  have hlen : (sl.set j v).length = sl.length := List.length_set ..
  have hmono : ∀ y, gd sl y ≠ .empty → gd (sl.set j v) y ≠ .empty := fun y hy => by
    rw [hg]; split
    · exact hv
    · exact hy
  refine ⟨⟨fun x y q1 q2 c hx hy => ?_, fun x q c hx => ?_⟩, fun q c => ⟨?_, ?_⟩⟩
  · rw [hg] at hx hy
    by_cases hxj : x = j <;> by_cases hyj : y = j
    · rw [hxj, hyj]
    · rw [if_pos hxj] at hx; rw [if_neg hyj] at hy; exact absurd hy ((hk _ _ hx).1 y q2 hyj)
    · rw [if_neg hxj] at hx; rw [if_pos hyj] at hy; exact absurd hx ((hk _ _ hy).1 x q1 hxj)
    · rw [if_neg hxj] at hx; rw [if_neg hyj] at hy; exact hinv.nodup _ _ _ _ _ hx hy
  · rw [hg] at hx
    by_cases hxj : x = j
    · rw [if_pos hxj] at hx; rw [hxj]; exact ((hk _ _ hx).2).mono hlen hmono
    · rw [if_neg hxj] at hx; exact (hinv.chain x q c hx).mono hlen hmono
  · rintro ⟨y, hy⟩
    rw [hg] at hy
    by_cases hyj : y = j
    · rw [if_pos hyj] at hy; exact Or.inl hy
    · rw [if_neg hyj] at hy; exact Or.inr ⟨y, hyj, hy⟩
  · rintro (h | ⟨y, hyj, hy⟩)
    · exact ⟨j, by rw [hg, if_pos rfl]; exact h⟩
    · exact ⟨y, by rw [hg, if_neg hyj]; exact hy⟩

def isLive : Slot → Bool
  | .live _ _ => true
  | _ => false
def isOcc : Slot → Bool
  | .empty => false
  | _ => true

def liveCount (sl : List Slot) : Nat := sl.countP isLive
def occ (sl : List Slot) : Nat := sl.countP isOcc

theorem gd_cons_succ (a : Slot) (l : List Slot) (i : Nat) : gd (a :: l) (i + 1) = gd l i := by simp [gd]

theorem liveCount_cons (a : Slot) (l : List Slot) : liveCount (a :: l) = (if isLive a then 1 else 0) + liveCount l := by
  unfold liveCount; rw [List.countP_cons]; omega

theorem liveCount_set : ∀ (sl : List Slot) (i : Nat) (v : Slot), i < sl.length →
    liveCount (sl.set i v) + (if isLive (gd sl i) then 1 else 0) = liveCount sl + (if isLive v then 1 else 0)
  | [], _, _, h => by simp at h
  | a :: l, 0, v, _ => by simp only [List.set_cons_zero, liveCount_cons, gd]; simp; omega
  | a :: l, i + 1, v, h => by
      have := liveCount_set l i v (by simpa using h)
      simp only [List.set_cons_succ, liveCount_cons, gd_cons_succ]; omega

@[simp] theorem isLive_live (p : Nat) (b : List UInt8) : isLive (.live p b) = true := rfl
@[simp] theorem isLive_deleted : isLive .deleted = false := rfl
@[simp] theorem isLive_empty : isLive .empty = false := rfl
theorem liveCount_replicate (n : Nat) : liveCount (List.replicate n Slot.empty) = 0 := by
  simp [liveCount, List.countP_replicate]

theorem vacatedByMove_isLive : isLive vacatedByMove = false := by unfold vacatedByMove; split <;> rfl
theorem vacatedByDeinit_isLive : isLive vacatedByDeinit = false := by unfold vacatedByDeinit; split <;> rfl

/-- moving a live entry from probe number `d` into a tombstone at an earlier probe number keeps the invariant -/
theorem Inv.move {sl : List Slot} (hinv : Inv sl) {p : Nat} {b : List UInt8} {d j : Nat}
    (hd : d < sl.length) (hj : j < d)
    (hlive : gd sl (pos sl.length (home sl.length b) d) = .live p b)
    (hdel : gd sl (pos sl.length (home sl.length b) j) = .deleted)
    (hpath : ∀ k, k < d → gd sl (pos sl.length (home sl.length b) k) ≠ .empty) :
    let f := pos sl.length (home sl.length b) j
    let i := pos sl.length (home sl.length b) d
    let sl' := (sl.set f (.live p b)).set i vacatedByMove
    Inv sl' ∧ sl'.length = sl.length ∧ gd sl' f = .live p b ∧ (∀ q c, Live sl' q c ↔ Live sl q c) ∧
      liveCount sl' = liveCount sl := by
  intro f i sl'
  have hh := home_lt (by omega : 0 < sl.length) b
  have hfi : f ≠ i := fun e => by have := pos_inj hh (by omega) hd e; omega
  have hf : f < sl.length := pos_lt hh (by omega)
  have hi : i < sl.length := pos_lt hh hd
  -- the same array written in the other order: vacate `i` (no symbol is written), then store the symbol at `f`
  have e : sl' = (sl.set i vacatedByMove).set f (.live p b) := List.set_comm _ _ hfi
  have hlen : (sl.set i vacatedByMove).length = sl.length := List.length_set ..
  have hg := gd_set_lt hi vacatedByMove
  obtain ⟨h1, -⟩ := hinv.set hi vacatedByMove_ne fun q c e => absurd e (vacatedByMove_not_live q c)
  obtain ⟨h2, l2⟩ := h1.set (hlen ▸ hf) (v := .live p b) (by simp) fun q c e => by
    cases e
    refine ⟨fun x q hx hq => ?_, j, by omega, by rw [hlen], fun k hk => ?_⟩
    · rw [hg] at hq; split at hq
      · exact vacatedByMove_not_live _ _ hq
      · rename_i hxi; exact hxi (hinv.nodup _ _ _ _ _ hq hlive)
    · rw [hlen, hg]; split
      · exact vacatedByMove_ne
      · exact hpath k (by omega)
  have hcount : liveCount sl' = liveCount sl := by
    have e1 := liveCount_set sl i vacatedByMove hi
    have e2 := liveCount_set (sl.set i vacatedByMove) f (.live p b) (hlen ▸ hf)
    rw [hg, if_neg hfi, hdel] at e2
    rw [hlive] at e1
    simp only [isLive_live, isLive_deleted, vacatedByMove_isLive, if_true, if_false, Bool.false_eq_true] at e1 e2
    rw [e]; omega
  rw [e]
  refine ⟨h2, by simp, by rw [gd_set_lt (hlen ▸ hf), if_pos rfl], fun q c => (l2 q c).trans ⟨?_, ?_⟩, e ▸ hcount⟩
  · rintro (h | ⟨y, _, hy⟩)
    · cases h; exact ⟨i, hlive⟩
    · rw [hg] at hy; split at hy
      · exact absurd hy (vacatedByMove_not_live _ _)
      · exact ⟨y, hy⟩
  · rintro ⟨y, hy⟩
    by_cases hyi : y = i
    · subst hyi; rw [hlive] at hy; exact Or.inl hy
    · exact Or.inr ⟨y, fun e => by rw [e] at hy; exact absurd (hdel.symm.trans hy) (by simp), by rw [hg, if_neg hyi]; exact hy⟩

/-- `janet_symcache_findmem` on the bytes of a live symbol: finds it (possibly after moving it into an earlier
    tombstone); the cache invariant and the set of live symbols are unchanged -/
theorem find_hit {sl : List Slot} (hinv : Inv sl) {i p : Nat} {b : List UInt8} (hlive : gd sl i = .live p b) :
    ∃ sl' bkt, find sl b = (sl', .hit bkt) ∧ gd sl' bkt = .live p b ∧ Inv sl' ∧ sl'.length = sl.length ∧
      (∀ q c, Live sl' q c ↔ Live sl q c) ∧ liveCount sl' = liveCount sl := by
  obtain ⟨d, hd, hi, hpath⟩ := hinv.chain i p b hlive
  have hcap : 0 < sl.length := by omega
  have hh := home_lt hcap b
  rw [hi] at hlive
  have hother : ∀ k, 0 ≤ k → k < d → gd sl (pos sl.length (home sl.length b) k) ≠ .empty ∧
      ∀ q, gd sl (pos sl.length (home sl.length b) k) ≠ .live q b := by
    intro k _ hk
    refine ⟨hpath k hk, fun q hq => ?_⟩
    have := hinv.nodup _ _ _ _ _ hq hlive
    have := pos_inj hh (by omega) hd this
    omega
  have := findLoop_hit b sl.length (home sl.length b) sl p d hlive sl.length 0 none (Nat.zero_le _) (by omega) hother
  unfold find
  rcases this with ⟨h1, _, _⟩ | ⟨f, h1, hor⟩
  · exact ⟨sl, _, h1, hlive, hinv, rfl, fun q c => Iff.rfl, rfl⟩
  · rcases hor with h | ⟨_, j, _, hj2, hj3, hj4⟩
    · cases h
    · subst hj3
      have := Inv.move hinv hd hj2 hlive hj4 hpath
      exact ⟨_, _, h1, this.2.2.1, this.1, this.2.1, this.2.2.2.1, this.2.2.2.2⟩

/-- `janet_symcache_findmem` on bytes that are not in the cache: nothing changes; the returned bucket is a free slot
    (empty or tombstone) reachable from the home slot without crossing an empty slot -/
theorem find_miss {sl : List Slot} {b : List UInt8} (hno : ∀ q, ¬ Live sl q b) :
    ∃ r, find sl b = (sl, .miss r) ∧
      ∀ bk, r = some bk → bk < sl.length ∧ (gd sl bk = .empty ∨ gd sl bk = .deleted) ∧ Reach sl b bk := by
  have hno' : ∀ i q, gd sl i ≠ .live q b := fun i q h => hno q ⟨i, h⟩
  obtain ⟨r, hr, hb, _⟩ := findLoop_miss b sl.length (home sl.length b) sl hno' sl.length 0 none
  refine ⟨r, hr, fun bk h => ?_⟩
  rcases hb bk h with h' | ⟨_, j, _, hj2, hj3, hj4, hj5⟩
  · cases h'
  · have hcap : 0 < sl.length := by omega
    have hh := home_lt hcap b
    refine ⟨by rw [hj3]; exact pos_lt hh (by omega), hj4, j, by omega, hj3, fun k hk => hj5 k (Nat.zero_le _) hk⟩

/-- writing a new symbol into the bucket returned by a failed lookup -/
theorem Inv.insert {sl : List Slot} (hinv : Inv sl) {b : List UInt8} (hno : ∀ q, ¬ Live sl q b) {bk ptr : Nat}
    (hlt : bk < sl.length) (hfree : gd sl bk = .empty ∨ gd sl bk = .deleted) (hreach : Reach sl b bk) :
    Inv (sl.set bk (.live ptr b)) ∧ ∀ q c, Live (sl.set bk (.live ptr b)) q c ↔ (Live sl q c ∨ (q = ptr ∧ c = b)) := by
  obtain ⟨h1, h2⟩ := hinv.set hlt (v := .live ptr b) (by simp) fun p c e => by
    cases e; exact ⟨fun x q _ h => hno q ⟨x, h⟩, hreach⟩
  refine ⟨h1, fun q c => (h2 q c).trans ⟨?_, ?_⟩⟩
  · rintro (h | ⟨y, _, hy⟩)
    · cases h; exact Or.inr ⟨rfl, rfl⟩
    · exact Or.inl ⟨y, hy⟩
  · rintro (⟨y, hy⟩ | ⟨rfl, rfl⟩)
    · exact Or.inr ⟨y, fun e => (by subst e; rcases hfree with h | h <;> rw [h] at hy <;> cases hy), hy⟩
    · exact Or.inl rfl

/-- overwriting a live symbol's slot with a tombstone (janet_symbol_deinit) -/
theorem Inv.delete {sl : List Slot} (hinv : Inv sl) {bk p : Nat} {b : List UInt8} (hlive : gd sl bk = .live p b)
    {v : Slot} (hv : v ≠ .empty) (hv2 : ∀ q c, v ≠ .live q c) :
    Inv (sl.set bk v) ∧ ∀ q c, Live (sl.set bk v) q c ↔ (Live sl q c ∧ c ≠ b) := by
  obtain ⟨h1, h2⟩ := hinv.set (gd_lt (by rw [hlive]; simp)) hv fun p c e => absurd e (hv2 p c)
  refine ⟨h1, fun q c => (h2 q c).trans ⟨?_, ?_⟩⟩
  · rintro (h | ⟨y, hyb, hy⟩)
    · exact absurd h (hv2 q c)
    · exact ⟨⟨y, hy⟩, fun e => by subst e; exact hyb (hinv.nodup _ _ _ _ _ hy hlive)⟩
  · rintro ⟨⟨y, hy⟩, hne⟩
    exact Or.inr ⟨y, fun e => (by subst e; rw [hlive] at hy; cases hy; exact hne rfl), hy⟩

theorem gd_replicate (n i : Nat) : gd (List.replicate n Slot.empty) i = .empty := by
  unfold gd
  by_cases hi : i < n <;> simp [List.getD_eq_getElem?_getD, hi]

theorem not_live_replicate (n q : Nat) (c : List UInt8) : ¬ Live (List.replicate n Slot.empty) q c :=
  fun ⟨y, hy⟩ => by rw [gd_replicate] at hy; cases hy

theorem Inv.replicate (n : Nat) : Inv (List.replicate n Slot.empty) :=
  ⟨fun i _ p _ b hi _ => absurd ⟨i, hi⟩ (not_live_replicate n p b), fun i p b hi => absurd ⟨i, hi⟩ (not_live_replicate n p b)⟩

/-- invariant of the whole cache state: the slot invariant, every cached address was handed out before (`next`), and one
    address names one symbol -/
structure CInv (c : Cache) : Prop where
  inv : Inv c.slots
  fresh : ∀ q b, Live c.slots q b → q < c.next
  ptrInj : ∀ q b b', Live c.slots q b → Live c.slots q b' → b = b'

theorem CInv.of_live_imp {c c' : Cache} (h : CInv c) (hinv : Inv c'.slots) (hnext : c.next ≤ c'.next)
    (hl : ∀ q x, Live c'.slots q x → Live c.slots q x) : CInv c' :=
  ⟨hinv, fun q x hq => Nat.lt_of_lt_of_le (h.fresh q x (hl q x hq)) hnext,
   fun q x x' h1 h2 => h.ptrInj q x x' (hl q x h1) (hl q x' h2)⟩

theorem init_inv : CInv init :=
  ⟨Inv.replicate _, fun q b h => absurd h (not_live_replicate _ _ _), fun q b b' h => absurd h (not_live_replicate _ _ _)⟩

/-- `janet_symbol_deinit`: the symbol with these bytes (if any) leaves the cache, every other symbol stays -/
theorem deinit_spec {c : Cache} (h : CInv c) (b : List UInt8) :
    CInv (deinit c b) ∧ ∀ q x, Live (deinit c b).slots q x ↔ (Live c.slots q x ∧ x ≠ b) := by
  by_cases hex : ∃ q, Live c.slots q b
  · obtain ⟨q, i, hi⟩ := hex
    obtain ⟨sl', bkt, hf, hb, hinv', _, hlive', _⟩ := find_hit h.inv hi
    have hd := Inv.delete hinv' hb vacatedByDeinit_ne vacatedByDeinit_not_live
    have hl : ∀ q x, Live (deinit c b).slots q x ↔ (Live c.slots q x ∧ x ≠ b) := by
      intro q x; simp only [deinit, hf]; rw [hd.2, hlive']
    exact ⟨h.of_live_imp (by simp only [deinit, hf]; exact hd.1) (by simp [deinit, hf]) (fun q x hq => ((hl q x).mp hq).1), hl⟩
  · have hno : ∀ q, ¬ Live c.slots q b := fun q hq => hex ⟨q, hq⟩
    obtain ⟨r, hf, _⟩ := find_miss hno
    have hl : ∀ q x, Live (deinit c b).slots q x ↔ (Live c.slots q x ∧ x ≠ b) := by
      intro q x; simp only [deinit, hf]
      exact ⟨fun hq => ⟨hq, fun e => hno q (e ▸ hq)⟩, fun hq => hq.1⟩
    exact ⟨h.of_live_imp (by simp only [deinit, hf]; exact h.inv) (by simp [deinit, hf]) (fun q x hq => ((hl q x).mp hq).1), hl⟩

theorem occ_lt_exists_empty (sl : List Slot) (h : occ sl < sl.length) : ∃ i, i < sl.length ∧ gd sl i = .empty := by
  obtain ⟨i, hi, hp⟩ := Probe.exists_not_of_countP_lt isOcc .empty sl h
  refine ⟨i, hi, ?_⟩
  cases hs : gd sl i with
  | empty => rfl
  | deleted => rw [show sl.getD i .empty = .deleted from hs] at hp; cases hp
  | live q b => rw [show sl.getD i .empty = .live q b from hs] at hp; cases hp

/-- with a free slot somewhere a failed lookup always returns a bucket: the probe gives up (NULL bucket) only after
    seeing a non-empty slot at every position -/
theorem find_miss_some {sl : List Slot} {b : List UInt8} (hno : ∀ q, ¬ Live sl q b) (hocc : occ sl < sl.length) :
    ∃ bk, find sl b = (sl, .miss (some bk)) := by
  obtain ⟨r, hf, _, hn⟩ := findLoop_miss b sl.length (home sl.length b) sl (fun i q h => hno q ⟨i, h⟩) sl.length 0 none
  cases r with
  | some bk => exact ⟨bk, hf⟩
  | none =>
    obtain ⟨i, hi, he⟩ := occ_lt_exists_empty sl hocc
    obtain ⟨k, hk, hp⟩ := pos_surj (home_lt (by omega) b) hi
    exact absurd (hp ▸ he) (hn rfl k (Nat.zero_le _) (by omega))

theorem occ_set_le (sl : List Slot) (i : Nat) (v : Slot) : occ (sl.set i v) ≤ occ sl + 1 := by
  unfold occ
  by_cases h : i < sl.length
  · rw [List.countP_set h]; split <;> split <;> omega
  · rw [List.set_eq_of_length_le (by omega)]; omega

theorem occ_replicate (n : Nat) : occ (List.replicate n Slot.empty) = 0 := by
  unfold occ; simp [List.countP_replicate, isOcc]

theorem liveCount_insert {sl : List Slot} {bk : Nat} (hlt : bk < sl.length) (hfree : gd sl bk = .empty ∨ gd sl bk = .deleted)
    (p : Nat) (b : List UInt8) : liveCount (sl.set bk (.live p b)) = liveCount sl + 1 := by
  have := liveCount_set sl bk (.live p b) hlt
  rcases hfree with h | h <;> rw [h] at this <;> simp [isLive] at this <;> omega

theorem live_cons (a : Slot) (l : List Slot) (q : Nat) (c : List UInt8) :
    Live (a :: l) q c ↔ (a = .live q c ∨ Live l q c) := by
  constructor
  · rintro ⟨y, hy⟩
    cases y with
    | zero => exact Or.inl hy
    | succ y => exact Or.inr ⟨y, by rwa [gd_cons_succ] at hy⟩
  · rintro (e | ⟨y, hy⟩)
    · exact ⟨0, e⟩
    · exact ⟨y + 1, by rwa [gd_cons_succ]⟩

/-- the re-insertion loop of `janet_cache_resize`, from an old array without repeated symbols into a new array that has
    room and holds none of them: every lookup misses and finds a bucket, so the invariant is kept and the result holds
    exactly the symbols of both arrays -/
theorem reinsert_spec : ∀ (old new : List Slot), Inv new →
    (∀ i j p q b, gd old i = .live p b → gd old j = .live q b → i = j) →
    (∀ i p b, gd old i = .live p b → ∀ q, ¬ Live new q b) →
    occ new + liveCount old ≤ new.length →
    Inv (reinsert old new) ∧ (∀ q c, Live (reinsert old new) q c ↔ (Live new q c ∨ Live old q c)) ∧
    liveCount (reinsert old new) = liveCount new + liveCount old
  | [], new, hinv, _, _, _ =>
    ⟨hinv, fun q c => ⟨Or.inl, fun h => h.elim id fun ⟨y, hy⟩ => by simp [gd] at hy⟩, by simp [reinsert, liveCount]⟩
  | .empty :: rest, new, hinv, hnd, hdis, hroom | .deleted :: rest, new, hinv, hnd, hdis, hroom => by
      have ih := reinsert_spec rest new hinv (fun i j p q b h1 h2 => by
          have := hnd (i + 1) (j + 1) p q b (by rw [gd_cons_succ]; exact h1) (by rw [gd_cons_succ]; exact h2); omega)
        (fun i p b h => hdis (i + 1) p b (by rw [gd_cons_succ]; exact h))
        (by rw [liveCount_cons] at hroom; simp [isLive] at hroom; exact hroom)
      simp only [reinsert]
      refine ⟨ih.1, fun q c => ?_, by rw [liveCount_cons]; simp [isLive]; exact ih.2.2⟩
      rw [ih.2.1, live_cons]; simp
  | .live p0 b0 :: rest, new, hinv, hnd, hdis, hroom => by
      have hno : ∀ q, ¬ Live new q b0 := hdis 0 p0 b0 rfl
      rw [liveCount_cons] at hroom
      simp only [isLive, if_true] at hroom
      obtain ⟨bk, hf⟩ := find_miss_some hno (by omega)
      obtain ⟨r, hf', hb⟩ := find_miss hno
      rw [hf] at hf'
      have hr : r = some bk := by simpa using hf'.symm
      obtain ⟨hlt, hfree, hreach⟩ := hb bk hr
      have hins := Inv.insert hinv hno (ptr := p0) hlt hfree hreach
      have ih := reinsert_spec rest (new.set bk (.live p0 b0)) hins.1
        (fun i j p q b h1 h2 => by
          have := hnd (i + 1) (j + 1) p q b (by rw [gd_cons_succ]; exact h1) (by rw [gd_cons_succ]; exact h2); omega)
        (fun i p b h q hl => by
          rcases (hins.2 q b).mp hl with h1 | ⟨_, h2⟩
          · exact hdis (i + 1) p b (by rw [gd_cons_succ]; exact h) q h1
          · subst h2
            have := hnd (i + 1) 0 p p0 b (by rw [gd_cons_succ]; exact h) rfl; omega)
        (by have := occ_set_le new bk (.live p0 b0); simp; omega)
      simp only [reinsert, hf]
      refine ⟨ih.1, fun q c => ?_, ?_⟩
      · rw [ih.2.1, hins.2, live_cons]
        simp only [Slot.live.injEq]
        constructor
        · rintro ((h | ⟨h1, h2⟩) | h)
          · exact Or.inl h
          · exact Or.inr (Or.inl ⟨h1.symm, h2.symm⟩)
          · exact Or.inr (Or.inr h)
        · rintro (h | ⟨h1, h2⟩ | h)
          · exact Or.inl (Or.inl h)
          · exact Or.inl (Or.inr ⟨h1.symm, h2.symm⟩)
          · exact Or.inr h
      · have := liveCount_insert hlt hfree p0 b0
        have := ih.2.2
        rw [liveCount_cons]; simp only [isLive, if_true]; omega

/-- `CInv` and `count` = number of live slots -/
structure CInvC (c : Cache) : Prop extends CInv c where
  cnt : c.count = liveCount c.slots

theorem init_invC : CInvC init :=
  { toCInv := init_inv, cnt := by simp [init, liveCount_replicate] }

theorem deinit_cnt {c : Cache} (h : CInvC c) (b : List UInt8) : CInvC (deinit c b) := by
  refine { toCInv := (deinit_spec h.toCInv b).1, cnt := ?_ }
  by_cases hex : ∃ q, Live c.slots q b
  · obtain ⟨q, i, hi⟩ := hex
    obtain ⟨sl', bkt, hf, hb, _, _, _, hc⟩ := find_hit h.inv hi
    have hlt : bkt < sl'.length := gd_lt (by rw [hb]; simp)
    have e := liveCount_set sl' bkt vacatedByDeinit hlt
    rw [hb] at e
    simp only [isLive_live, if_true, vacatedByDeinit_isLive, if_false, Bool.false_eq_true] at e
    simp only [deinit, hf]
    have := h.cnt
    omega
  · have hno : ∀ q, ¬ Live c.slots q b := fun q hq => hex ⟨q, hq⟩
    obtain ⟨r, hf, _⟩ := find_miss hno
    simp only [deinit, hf]; exact h.cnt

/-- `janet_symcache_put` of a new symbol (bytes not in the cache, bucket from the failed lookup), the counter in step: the
    new symbol is added, no symbol is lost (also across a resize) -/
theorem put_specC {c : Cache} (hinv : Inv c.slots) (hcnt : c.count = liveCount c.slots) {b : List UInt8}
    (hno : ∀ q, ¬ Live c.slots q b) {ptr : Nat} {bucket : Option Nat}
    (hb : ∀ bk, bucket = some bk → bk < c.slots.length ∧ (gd c.slots bk = .empty ∨ gd c.slots bk = .deleted) ∧ Reach c.slots b bk)
    {c' : Cache} (hput : put c ptr b bucket = some c') :
    Inv c'.slots ∧ c'.next = c.next ∧ c'.count = liveCount c'.slots ∧
      ∀ q x, Live c'.slots q x ↔ (Live c.slots q x ∨ (q = ptr ∧ x = b)) := by
  unfold put at hput
  by_cases hres : (c.count + c.deleted) * 2 > c.slots.length
  · simp only [hres, if_true] at hput
    have hroom : occ (List.replicate (tablen (2 * c.count + 1)) Slot.empty) + liveCount c.slots ≤
        (List.replicate (tablen (2 * c.count + 1)) Slot.empty).length := by
      have := lt_tablen (2 * c.count + 1)
      rw [occ_replicate]; simp; omega
    obtain ⟨hr, hlv, hlc⟩ := reinsert_spec c.slots (List.replicate (tablen (2 * c.count + 1)) .empty) (Inv.replicate _)
      hinv.nodup (fun i p b' _ q => not_live_replicate _ _ _) hroom
    -- the resized array holds exactly the symbols of the old one
    have hsame : ∀ q x, Live (resize c (tablen (2 * c.count + 1))).slots q x ↔ Live c.slots q x := fun q x =>
      (hlv q x).trans ⟨fun h => h.elim (fun h1 => absurd h1 (not_live_replicate _ _ _)) id, Or.inr⟩
    have hno2 : ∀ q, ¬ Live (resize c (tablen (2 * c.count + 1))).slots q b := fun q hq => hno q ((hsame q b).mp hq)
    obtain ⟨r, hf, hb2⟩ := find_miss hno2
    simp only [hf] at hput
    cases r with
    | none => simp at hput
    | some bk =>
      simp only [Option.some.injEq] at hput
      obtain ⟨hlt, hfree, hreach⟩ := hb2 bk rfl
      have hins := Inv.insert (show Inv (resize c (tablen (2 * c.count + 1))).slots from hr) hno2 (ptr := ptr) hlt hfree hreach
      subst hput
      refine ⟨hins.1, rfl, ?_, fun q x => by rw [hins.2, hsame]⟩
      have := liveCount_insert hlt hfree ptr b
      have h4 := hlc
      rw [liveCount_replicate] at h4
      simp only [resize] at this ⊢
      omega
  · simp only [hres, if_false] at hput
    cases bucket with
    | none => simp at hput
    | some bk =>
      simp only [Option.some.injEq] at hput
      obtain ⟨hlt, hfree, hreach⟩ := hb bk rfl
      have hins := Inv.insert hinv hno (ptr := ptr) hlt hfree hreach
      subst hput
      exact ⟨hins.1, rfl, by have := liveCount_insert hlt hfree ptr b; simp only []; omega, hins.2⟩

theorem intern_hit {c : Cache} (hinv : Inv c.slots) {i p : Nat} {b : List UInt8} (hi : gd c.slots i = .live p b) :
    ∃ sl', intern c b = some ({ c with slots := sl' }, p) ∧ Inv sl' ∧ liveCount sl' = liveCount c.slots ∧
      ∀ q x, Live sl' q x ↔ Live c.slots q x := by
  obtain ⟨sl', bkt, hf, hb, hinv', _, hlive', hc⟩ := find_hit hinv hi
  unfold gd at hb
  exact ⟨sl', by simp only [intern, hf, hb], hinv', hc, hlive'⟩

/-- `janet_symbol` on bytes that are in the cache returns the existing address; nothing else changes -/
theorem intern_live {c : Cache} (h : CInv c) {p : Nat} {b : List UInt8} (hl : Live c.slots p b) :
    ∃ c', intern c b = some (c', p) ∧ CInv c' ∧ c'.next = c.next ∧ ∀ q x, Live c'.slots q x ↔ Live c.slots q x := by
  obtain ⟨i, hi⟩ := hl
  obtain ⟨sl', he, hinv', _, hlive'⟩ := intern_hit h.inv hi
  exact ⟨_, he, h.of_live_imp hinv' (Nat.le_refl _) (fun q x => (hlive' q x).mp), rfl, hlive'⟩

theorem intern_liveC {c : Cache} (h : CInvC c) {p : Nat} {b : List UInt8} (hl : Live c.slots p b) :
    ∃ c', intern c b = some (c', p) ∧ CInvC c' ∧ ∀ q x, Live c'.slots q x ↔ Live c.slots q x := by
  obtain ⟨i, hi⟩ := hl
  obtain ⟨sl', he, hinv', hc, hlive'⟩ := intern_hit h.inv hi
  exact ⟨_, he, { toCInv := h.toCInv.of_live_imp hinv' (Nat.le_refl _) (fun q x => (hlive' q x).mp),
                  cnt := hc.symm ▸ h.cnt }, hlive'⟩

/-- `janet_symbol` on bytes that are not in the cache allocates a fresh address (or trips the NULL-bucket assertion) -/
theorem intern_newC {c : Cache} (h : CInvC c) {b : List UInt8} (hno : ∀ q, ¬ Live c.slots q b) {c' : Cache} {p : Nat}
    (hi : intern c b = some (c', p)) :
    p = c.next ∧ CInvC c' ∧ ∀ q x, Live c'.slots q x ↔ (Live c.slots q x ∨ (q = p ∧ x = b)) := by
  obtain ⟨r, hf, hb⟩ := find_miss hno
  cases r with
  | none => simp [intern, hf] at hi
  | some bk0 =>
  simp only [intern, hf, Option.map_eq_some_iff] at hi
  obtain ⟨c'', hput, he⟩ := hi
  simp only [Prod.mk.injEq] at he
  obtain ⟨he1, he2⟩ := he
  subst he1; subst he2
  obtain ⟨hinv', hnext, hcnt', hl⟩ :=
    put_specC (c := { c with slots := c.slots, next := c.next + 1 }) h.inv h.cnt hno hb hput
  refine ⟨rfl, { inv := hinv', fresh := fun q x hq => ?_, ptrInj := fun q x x' h1 h2 => ?_, cnt := hcnt' }, hl⟩
  · rw [hnext]
    rcases (hl q x).mp hq with h1 | ⟨h1, _⟩
    · have := h.fresh q x h1; simp; omega
    · simp; omega
  · rcases (hl q x).mp h1 with a | ⟨a1, a2⟩ <;> rcases (hl q x').mp h2 with b' | ⟨b1, b2⟩
    · exact h.ptrInj q x x' a b'
    · have := h.fresh q x a; omega
    · have := h.fresh q x' b'; omega
    · rw [a2, b2]

/-- `janet_symbol`: afterwards the symbol is cached at the returned address, which is fresh when the bytes were not
    cached; every other symbol stays -/
theorem intern_step {c c1 : Cache} {b : List UInt8} {p1 : Nat} (hc : CInvC c) (h1 : intern c b = some (c1, p1)) :
    CInvC c1 ∧ Live c1.slots p1 b ∧ (∀ q x, Live c1.slots q x ↔ (Live c.slots q x ∨ (q = p1 ∧ x = b))) ∧
      ((∀ q, ¬ Live c.slots q b) → p1 = c.next) := by
  by_cases hex : ∃ q, Live c.slots q b
  · obtain ⟨q, hq⟩ := hex
    obtain ⟨c1', hi', hinv1, hl1⟩ := intern_liveC hc hq
    rw [h1] at hi'; simp only [Option.some.injEq, Prod.mk.injEq] at hi'
    obtain ⟨e1, e2⟩ := hi'; subst e1; subst e2
    exact ⟨hinv1, (hl1 _ _).mpr hq, fun q' x => by
      rw [hl1]; exact ⟨Or.inl, fun h => h.elim id (fun e => e.1 ▸ e.2 ▸ hq)⟩, fun hno => absurd hq (hno _)⟩
  · obtain ⟨hp, hinv1, hl1⟩ := intern_newC hc (fun q hq => hex ⟨q, hq⟩) h1
    exact ⟨hinv1, (hl1 _ _).mpr (Or.inr ⟨rfl, rfl⟩), hl1, fun _ => hp⟩

theorem run_intern {c c' : Cache} {b : List UInt8} {ops : List Op} (hr : run c (.intern b :: ops) = some c') :
    ∃ c1 p1, intern c b = some (c1, p1) ∧ run c1 ops = some c' := by
  simp only [run] at hr
  cases hi : intern c b with
  | none => simp [hi] at hr
  | some r => exact ⟨r.1, r.2, rfl, by simpa [hi] using hr⟩

/-- ghost state: the byte strings interned and not swept since -/
def aliveAfter : List (List UInt8) → List Op → List (List UInt8)
  | s, [] => s
  | s, .intern b :: ops => aliveAfter (if b ∈ s then s else b :: s) ops
  | s, .sweep b :: ops => aliveAfter (s.filter (· ≠ b)) ops

/-- along any history the invariant holds and the cache contains exactly the symbols interned and not swept since -/
theorem run_spec : ∀ (ops : List Op) (c : Cache) (s : List (List UInt8)) (c' : Cache), CInvC c →
    (∀ b, (∃ p, Live c.slots p b) ↔ b ∈ s) → run c ops = some c' →
    CInvC c' ∧ ∀ b, (∃ p, Live c'.slots p b) ↔ b ∈ aliveAfter s ops
  | [], c, s, c', h, hs, hr => by simp only [run, Option.some.injEq] at hr; subst hr; exact ⟨h, hs⟩
  | .intern b :: ops, c, s, c', h, hs, hr => by
      obtain ⟨c1, p1, hi, hr⟩ := run_intern hr
      obtain ⟨hinv1, hlp, hl1, _⟩ := intern_step h hi
      refine run_spec ops c1 _ c' hinv1 (fun x => ?_) hr
      have hm : x ∈ (if b ∈ s then s else b :: s) ↔ (x = b ∨ x ∈ s) := by
        split
        · exact ⟨Or.inr, fun h => h.elim (fun e => e ▸ ‹b ∈ s›) id⟩
        · exact List.mem_cons
      rw [hm, ← hs x]
      constructor
      · rintro ⟨q, hq⟩
        exact ((hl1 q x).mp hq).elim (fun h1 => Or.inr ⟨q, h1⟩) (fun h2 => Or.inl h2.2)
      · rintro (e | ⟨q, hq⟩)
        · exact ⟨p1, e ▸ hlp⟩
        · exact ⟨q, (hl1 q x).mpr (Or.inl hq)⟩
  | .sweep b :: ops, c, s, c', h, hs, hr => by
      simp only [run] at hr
      have hd := deinit_spec h.toCInv b
      refine run_spec ops (deinit c b) _ c' (deinit_cnt h b) (fun x => ?_) hr
      simp only [List.mem_filter, decide_eq_true_eq]
      rw [← hs x]
      constructor
      · rintro ⟨q, hq⟩; exact ⟨⟨q, ((hd.2 q x).mp hq).1⟩, ((hd.2 q x).mp hq).2⟩
      · rintro ⟨⟨q, hq⟩, hne⟩; exact ⟨q, (hd.2 q x).mpr ⟨hq, hne⟩⟩

/-- a symbol stays at its address as long as it is not swept -/
theorem live_stable : ∀ (ops : List Op) (c c' : Cache) (p : Nat) (b : List UInt8), CInvC c → Live c.slots p b →
    run c ops = some c' → (∀ o ∈ ops, o ≠ Op.sweep b) → Live c'.slots p b
  | [], c, c', p, b, _, hl, hr, _ => by simp only [run, Option.some.injEq] at hr; subst hr; exact hl
  | .intern b0 :: ops, c, c', p, b, h, hl, hr, hns => by
      obtain ⟨c1, p1, hi, hr⟩ := run_intern hr
      obtain ⟨hinv1, _, hl1, _⟩ := intern_step h hi
      exact live_stable ops c1 c' p b hinv1 ((hl1 p b).mpr (Or.inl hl)) hr (fun o ho => hns o (List.mem_cons_of_mem _ ho))
  | .sweep b0 :: ops, c, c', p, b, h, hl, hr, hns => by
      simp only [run] at hr
      have hne : b ≠ b0 := fun e => hns (.sweep b0) (List.mem_cons_self ..) (by rw [e])
      have hd := deinit_spec h.toCInv b0
      exact live_stable ops (deinit c b0) c' p b (deinit_cnt h b0) ((hd.2 p b).mpr ⟨hl, hne⟩) hr
        (fun o ho => hns o (List.mem_cons_of_mem _ ho))

theorem run_inv : ∀ (ops : List Op) (c c' : Cache), CInvC c → run c ops = some c' → CInvC c'
  | [], c, c', h, hr => by simp only [run, Option.some.injEq] at hr; subst hr; exact h
  | .intern b :: ops, c, c', h, hr => by
      obtain ⟨c1, p1, hi, hr⟩ := run_intern hr
      exact run_inv ops c1 c' (intern_step h hi).1 hr
  | .sweep b :: ops, c, c', h, hr => by
      simp only [run] at hr
      exact run_inv ops (deinit c b) c' (deinit_cnt h b) hr

/-- after `intern` the symbol is cached at the returned address -/
theorem intern_post {c c1 : Cache} {b : List UInt8} {p1 : Nat} (hc : CInvC c) (h1 : intern c b = some (c1, p1)) :
    CInvC c1 ∧ Live c1.slots p1 b ∧ ((∀ q, ¬ Live c.slots q b) → p1 = c.next) ∧ (∀ q, Live c.slots q b → q = p1) := by
  obtain ⟨hinv1, hl, hl1, hnew⟩ := intern_step hc h1
  exact ⟨hinv1, hl, hnew, fun q hq => hinv1.inv.ptr_unique ((hl1 q b).mpr (Or.inl hq)) hl⟩

end JanetModel.Value.SymCache
