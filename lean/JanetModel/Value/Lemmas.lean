/- C03 — the laws asked of the numbers (`LawfulNum`), content equality (`contentEq`), induction over values; the laws of
   `=` / hash / compare themselves are in Value/Laws.lean. -/
import JanetModel.Value.Model
import JanetModel.Util.List

namespace JanetModel.Value
open JanetModel.Gen.Value

/-- what the proofs need from doubles other than NaN: `==` is an equivalence, `<` a strict order total modulo `==`,
    and `==`-equal doubles have the same bit pattern after `+= 0.0` (−0 ↦ +0) -/
class LawfulNum (N : Type) [NumLike N] : Prop where
  eq_refl : ∀ a : N, NumLike.eq a a = true
  eq_symm : ∀ a b : N, NumLike.eq a b = NumLike.eq b a
  eq_trans : ∀ a b c : N, NumLike.eq a b = true → NumLike.eq b c = true → NumLike.eq a c = true
  lt_not_eq : ∀ a b : N, NumLike.lt a b = true → NumLike.eq a b = false
  lt_asymm : ∀ a b : N, NumLike.lt a b = true → NumLike.lt b a = false
  lt_total : ∀ a b : N, NumLike.eq a b = false → NumLike.lt a b = false → NumLike.lt b a = true
  lt_trans : ∀ a b c : N, NumLike.lt a b = true → NumLike.lt b c = true → NumLike.lt a c = true
  lt_congr_left : ∀ a b c : N, NumLike.eq a b = true → NumLike.lt a c = NumLike.lt b c
  lt_congr_right : ∀ a b c : N, NumLike.eq a b = true → NumLike.lt c a = NumLike.lt c b
  eq_norm : ∀ a b : N, NumLike.eq a b = true → NumLike.normBits a = NumLike.normBits b

theorem lt_tablen (n : Nat) : n < tablen n := by
  unfold tablen
  have : ∀ (l : List Nat) (m : Nat), m ≤ l.foldl (fun n s => n ||| (n >>> s)) m := by
    intro l
    induction l with
    | nil => intro m; exact Nat.le_refl _
    | cons s l ih => intro m; exact Nat.le_trans Nat.left_le_or (ih _)
  have := this tablenShifts n
  omega

variable {N : Type} [NumLike N]

mutual
/-- content equality: what the property calls "the same value" — no hashes, no lengths, no layout shortcuts -/
def contentEq : JVal N → JVal N → Bool
  | .num a, .num b => NumLike.eq a b
  | .nil, .nil => true
  | .bool a, .bool b => a == b
  | .str a, .str b => a == b
  | .sym a, .sym b => a == b
  | .kw a, .kw b => a == b
  | .ref k1 b1, .ref k2 b2 => k1 == k2 && b1 == b2
  | .tuple br1 xs, .tuple br2 ys => br1 == br2 && contentEqList xs ys
  | .struct f1 p1, .struct f2 p2 => contentEqList f1 f2 && contentEqList p1 p2
  | _, _ => false
def contentEqList : List (JVal N) → List (JVal N) → Bool
  | [], [] => true
  | x :: xs, y :: ys => contentEq x y && contentEqList xs ys
  | _, _ => false
end

/-- simultaneous induction over values and lists of values (the recursor of the nested inductive type) -/
theorem JVal.induct {P : JVal N → Prop} {Q : List (JVal N) → Prop}
    (num : ∀ n, P (.num n)) (nil : P .nil) (bool : ∀ b, P (.bool b)) (str : ∀ b, P (.str b)) (sym : ∀ b, P (.sym b))
    (kw : ∀ b, P (.kw b)) (tuple : ∀ br xs, Q xs → P (.tuple br xs)) (struct : ∀ f p, Q f → Q p → P (.struct f p))
    (ref : ∀ k b, P (.ref k b)) (lnil : Q []) (lcons : ∀ x xs, P x → Q xs → Q (x :: xs)) :
    (∀ a, P a) ∧ (∀ l, Q l) :=
  ⟨fun a => JVal.rec (motive_1 := P) (motive_2 := Q) num nil bool str sym kw tuple struct ref lnil lcons a,
   fun l => JVal.rec_1 (motive_1 := P) (motive_2 := Q) num nil bool str sym kw tuple struct ref lnil lcons l⟩


theorem bytesEqual_eq (a b : List UInt8) : bytesEqual a b = (a == b) := by
  unfold bytesEqual
  by_cases h : a = b
  · subst h; simp
  · split <;> simp [h]

/-- the prototype term of a struct hash -/
def protoHash (p : List (JVal N)) : UInt32 :=
  match p with
  | [] => 0
  | q :: _ => protoMul.toUInt32 * hash q

theorem hash_struct (f p : List (JVal N)) : hash (.struct f p) = hashFold kvSeed.toUInt32 f + protoHash p := by
  cases p <;> simp [hash, protoHash]

theorem hash_tuple (br : Bool) (xs : List (JVal N)) : hash (.tuple br xs) = tupleHash xs + (if br then 1 else 0) := by
  simp [hash, tupleHash]


end JanetModel.Value
