/- C03 — the laws of `=` / hash / compare for the abstract-free model `JVal N`: `ofJVal` embeds it into `AVal N`, content
   equality, hash, `janet_equals` and `janet_compare` commute with the embedding (Value/AbstractInt.lean), and a memory without
   hooked abstract types is lawful — so each law of Value/AbstractLemmas.lean holds of `JVal N`. -/
import JanetModel.Value.AbstractInt

namespace JanetModel.Value
open JanetModel.Gen.Value

def noHooks : AbsHeap := ⟨Unit, fun _ => 0, fun _ => (), fun _ => ⟨none, none⟩⟩

theorem noHooks_lawful : @LawfulAbstract noHooks :=
  @LawfulAbstract.mk noHooks (fun _ _ h => nomatch h) (fun _ _ h => nomatch h) (fun _ _ h => nomatch h)

attribute [local instance] noHooks noHooks_lawful

variable {N : Type} [NumLike N]

theorem ofJVal_contentEq_both :
    (∀ a b : JVal N, contentEqL (ofJVal a) (ofJVal b) = contentEq a b) ∧
    (∀ l m : List (JVal N), contentEqListL (ofJVals l) (ofJVals m) = contentEqList l m) := by
  apply JVal.induct (P := fun a => ∀ b, contentEqL (ofJVal a) (ofJVal b) = contentEq a b)
    (Q := fun l => ∀ m, contentEqListL (ofJVals l) (ofJVals m) = contentEqList l m)
  case tuple => intro br xs ih b; cases b <;> try rfl
                simp only [ofJVal, contentEqL, contentEq, ih]
  case struct => intro f p ihf ihp b; cases b <;> try rfl
                 simp only [ofJVal, contentEqL, contentEq, ihf, ihp]
  case str => intro x b; cases b <;> try rfl
              exact bytesEqual_eq _ _
  case lnil => intro m; cases m <;> rfl
  case lcons =>
    intro x xs ihx ihxs m; cases m
    · rfl
    · simp only [ofJVals, contentEqListL, contentEqList, ihx, ihxs]
  all_goals (intros; rename_i b; cases b <;> rfl)

theorem jcompare_of_tag_ne (a b : JVal N) (h : a.typeTag ≠ b.typeTag) : jcompare a b = natCmp a.typeTag b.typeTag := by
  rw [← ofJVal_compare_both.1, ← ofJVal_typeTag a, ← ofJVal_typeTag b]
  exact jcompareL_of_tag_ne' Leaf.cmp_tag' _ _ (by rwa [ofJVal_typeTag, ofJVal_typeTag])

variable [LawfulNum N]

theorem contentEq_isNil (a b : JVal N) (h : contentEq a b = true) : a.isNil = b.isNil := by
  rw [← ofJVal_isNil, ← ofJVal_isNil]; exact contentEqL_isNil _ _ (by rwa [ofJVal_contentEq_both.1])

theorem contentEq_refl_both : (∀ a : JVal N, contentEq a a = true) ∧ (∀ l : List (JVal N), contentEqList l l = true) :=
  ⟨fun a => by rw [← ofJVal_contentEq_both.1]; exact contentEqL_equivalence.1 _,
   fun l => by rw [← ofJVal_contentEq_both.2]; exact contentEqListL_equivalence.1 _⟩

theorem contentEq_symm_both :
    (∀ a b : JVal N, contentEq a b = contentEq b a) ∧ (∀ l m : List (JVal N), contentEqList l m = contentEqList m l) :=
  ⟨fun a b => by rw [← ofJVal_contentEq_both.1, ← ofJVal_contentEq_both.1]; exact contentEqL_equivalence.2.1 _ _,
   fun l m => by rw [← ofJVal_contentEq_both.2, ← ofJVal_contentEq_both.2]; exact contentEqListL_equivalence.2.1 _ _⟩

theorem contentEq_symm {a b : JVal N} (h : contentEq a b = true) : contentEq b a = true :=
  (contentEq_symm_both.1 b a).trans h

theorem contentEq_trans_both :
    (∀ a b c : JVal N, contentEq a b = true → contentEq b c = true → contentEq a c = true) ∧
    (∀ l m n : List (JVal N), contentEqList l m = true → contentEqList m n = true → contentEqList l n = true) := by
  simp only [← ofJVal_contentEq_both.1, ← ofJVal_contentEq_both.2]
  exact ⟨fun a b c => contentEqL_equivalence.2.2 _ _ _, fun l m n => contentEqListL_equivalence.2.2 _ _ _⟩

theorem contentEq_hash_both :
    (∀ a b : JVal N, contentEq a b = true → hash a = hash b) ∧
    (∀ l m : List (JVal N), contentEqList l m = true → (∀ h, hashFold h l = hashFold h m) ∧ protoHash l = protoHash m) := by
  simp only [← ofJVal_contentEq_both.1, ← ofJVal_contentEq_both.2, ← ofJVal_hash_both.1, ← (ofJVal_hash_both.2 _).1,
    ← (ofJVal_hash_both.2 _).2]
  exact ⟨fun a b => contentEqL_hash_both.1 _ _, fun l m => contentEqL_hash_both.2 _ _⟩

theorem equals_eq_contentEq_both :
    (∀ a b : JVal N, equals a b = contentEq a b) ∧ (∀ l m : List (JVal N), equalsList l m = contentEqList l m) := by
  simp only [← ofJVal_contentEq_both.1, ← ofJVal_contentEq_both.2, ← ofJVal_equals_both.1, ← ofJVal_equals_both.2]
  exact ⟨fun a b => equalsL_eq_contentEqL_both.1 _ _, fun l m => equalsL_eq_contentEqL_both.2 _ _⟩

theorem jcompare_swap (a b : JVal N) : jcompare b a = (jcompare a b).swap := by
  rw [← ofJVal_compare_both.1, ← ofJVal_compare_both.1]; exact jcompareL_swap _ _

theorem jcompare_tri (a b c : JVal N) : Tri (jcompare a b) (jcompare b c) (jcompare a c) := by
  rw [← ofJVal_compare_both.1, ← ofJVal_compare_both.1, ← ofJVal_compare_both.1]
  exact jcompareL_tri _ _ _

theorem jcompare_eq_iff (a b : JVal N) : jcompare a b = .eq ↔ contentEq a b = true := by
  rw [← ofJVal_compare_both.1, ← ofJVal_contentEq_both.1]; exact jcompareL_eq_iff _ _

/-- equal values are interchangeable on the left of a comparison -/
theorem jcompare_congr_left {a b : JVal N} (h : contentEq a b = true) (c : JVal N) : jcompare a c = jcompare b c := by
  rw [← ofJVal_compare_both.1, ← ofJVal_compare_both.1]
  exact jcompareL_congr_left ((ofJVal_contentEq_both.1 a b).trans h) _

theorem jcompare_congr_right {a b : JVal N} (h : contentEq a b = true) (c : JVal N) : jcompare c a = jcompare c b := by
  rw [jcompare_swap a c, jcompare_swap b c, jcompare_congr_left h]

theorem contentEq_congr_left {a b : JVal N} (h : contentEq a b = true) (c : JVal N) : contentEq a c = contentEq b c := by
  cases h1 : contentEq b c
  · cases h2 : contentEq a c
    · rfl
    · rw [contentEq_trans_both.1 _ _ _ (by rw [contentEq_symm_both.1]; exact h) h2] at h1; cases h1
  · exact contentEq_trans_both.1 _ _ _ h h1

end JanetModel.Value
