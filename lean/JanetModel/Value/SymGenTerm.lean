/- C03 — TERMINATION of the probe loop of `janet_symbol_gen` (src/core/symcache.c).

   `inc_gensym` is "+1" on a little-endian base-62 number (digit order '0'…'9' < 'a'…'z' < 'A'…'Z', read off the REGENERATED
   transitions `Gen.Value.gensymSteps`), so the names `ctr, inc ctr, inc² ctr, …` are pairwise distinct for 62^6 steps; every
   probe that HITS proves one more of them to be a live symbol, and hits do not change which symbols are live; so after
   `cache_count + 1` hits the cache would hold `cache_count + 1` different symbols.  Hence the loop finishes within
   `cache_count + 1` probes whenever `cache_count < 62^6` (the C's `cache_count` is a uint32_t < 2^32 < 62^6). -/
import JanetModel.Value.SymGenLemmas

namespace JanetModel.Value.SymCache
open JanetModel.Gen.Value JanetModel.Value


/-- value of a counter digit in the order `inc_gensym` walks through them; 62 = not a digit -/
def dval (d : UInt8) : Nat :=
  if 48 ≤ d.toNat ∧ d.toNat ≤ 57 then d.toNat - 48
  else if 97 ≤ d.toNat ∧ d.toNat ≤ 122 then d.toNat - 87
  else if 65 ≤ d.toNat ∧ d.toNat ≤ 90 then d.toNat - 29
  else 62

/-- one position of `inc_gensym` on the regenerated transitions: digit + 1 without carry, or 61 → 0 with carry -/
theorem incDigit_spec_nat : ∀ n, n < 256 → dval n.toUInt8 < 62 →
    (dval n.toUInt8 < 61 → (incDigit n.toUInt8).2 = false ∧ dval (incDigit n.toUInt8).1 = dval n.toUInt8 + 1) ∧
    (dval n.toUInt8 = 61 → (incDigit n.toUInt8).2 = true ∧ dval (incDigit n.toUInt8).1 = 0) := by
  decide +kernel

theorem incDigit_spec (d : UInt8) (h : dval d < 62) :
    (dval d < 61 → (incDigit d).2 = false ∧ dval (incDigit d).1 = dval d + 1) ∧
    (dval d = 61 → (incDigit d).2 = true ∧ dval (incDigit d).1 = 0) := by
  have := incDigit_spec_nat d.toNat (UInt8.toNat_lt d)
  have e : d.toNat.toUInt8 = d := by simp
  rw [e] at this
  exact this h

/-- little-endian base-62 value -/
def valLE : List UInt8 → Nat
  | [] => 0
  | d :: r => dval d + 62 * valLE r

theorem valLE_lt : ∀ ds : List UInt8, (∀ d ∈ ds, dval d < 62) → valLE ds < 62 ^ ds.length
  | [], _ => by simp [valLE]
  | d :: r, h => by
    have h1 := h d (by simp)
    have h2 := valLE_lt r (fun x hx => h x (by simp [hx]))
    simp only [valLE, List.length_cons, Nat.pow_succ]
    omega

theorem incDigits_spec : ∀ ds : List UInt8, (∀ d ∈ ds, dval d < 62) →
    (∀ d ∈ incDigits ds, dval d < 62) ∧ (incDigits ds).length = ds.length ∧
    valLE (incDigits ds) = (valLE ds + 1) % 62 ^ ds.length
  | [], _ => by simp [incDigits, valLE]
  | d :: r, h => by
    have h1 := h d (by simp)
    have hr : ∀ x ∈ r, dval x < 62 := fun x hx => h x (by simp [hx])
    have hlt := valLE_lt r hr
    obtain ⟨ih1, ih2, ih3⟩ := incDigits_spec r hr
    have hs := incDigit_spec d h1
    rcases hid : incDigit d with ⟨d', carry⟩
    rw [hid] at hs
    by_cases h61 : dval d < 61
    · obtain ⟨hc, hv⟩ := hs.1 h61
      simp only at hc hv
      subst hc
      have e : incDigits (d :: r) = d' :: r := by simp [incDigits, hid]
      rw [e]
      refine ⟨fun x hx => ?_, by simp, ?_⟩
      · rcases List.mem_cons.mp hx with e1 | e1
        · subst e1; omega
        · exact hr x e1
      · simp only [valLE, List.length_cons, Nat.pow_succ, hv]
        rw [Nat.mod_eq_of_lt (by omega)]; omega
    · have h61' : dval d = 61 := by omega
      obtain ⟨hc, hv⟩ := hs.2 h61'
      simp only at hc hv
      subst hc
      have e : incDigits (d :: r) = d' :: incDigits r := by simp [incDigits, hid]
      rw [e]
      refine ⟨fun x hx => ?_, by simp [ih2], ?_⟩
      · rcases List.mem_cons.mp hx with e1 | e1
        · subst e1; omega
        · exact ih1 x e1
      · simp only [valLE, List.length_cons, Nat.pow_succ, hv, ih3, h61']
        rw [show 61 + 62 * valLE r + 1 = 62 * (valLE r + 1) by omega, Nat.mul_comm (62 ^ r.length) 62,
          Nat.mul_mod_mul_left]
        omega

/-- a gensym counter: every byte after the first is one of the 62 digits -/
def CounterOK (ctr : List UInt8) : Prop := ∀ d ∈ ctr.tail, dval d < 62

/-- the number the counter name stands for (position sizeof-2 is the least significant digit) -/
def cval (ctr : List UInt8) : Nat := valLE ctr.tail.reverse

theorem cval_lt {ctr : List UInt8} (h : CounterOK ctr) : cval ctr < 62 ^ (ctr.length - 1) := by
  have := valLE_lt ctr.tail.reverse (fun d hd => h d (List.mem_reverse.mp hd))
  simpa [cval] using this

/-- **`inc_gensym` is +1 modulo 62^(number of digits)** -/
theorem incGensym_spec (ctr : List UInt8) (h : CounterOK ctr) :
    CounterOK (incGensym ctr) ∧ (incGensym ctr).length = ctr.length ∧
    cval (incGensym ctr) = (cval ctr + 1) % 62 ^ (ctr.length - 1) := by
  cases ctr with
  | nil => simp [incGensym, CounterOK, cval, valLE]
  | cons u ds =>
    have hd : ∀ d ∈ ds.reverse, dval d < 62 := fun d hd => h d (by simpa using hd)
    obtain ⟨h1, h2, h3⟩ := incDigits_spec ds.reverse hd
    refine ⟨fun d hd' => h1 d (by simpa [incGensym] using hd'), by simp [incGensym, h2], ?_⟩
    simp only [incGensym, cval, List.tail_cons, List.reverse_reverse, h3, List.length_reverse, List.length_cons,
      Nat.add_sub_cancel]

def incN : Nat → List UInt8 → List UInt8
  | 0, c => c
  | n + 1, c => incN n (incGensym c)

theorem incN_spec : ∀ (n : Nat) (ctr : List UInt8), CounterOK ctr →
    CounterOK (incN n ctr) ∧ (incN n ctr).length = ctr.length ∧
    cval (incN n ctr) = (cval ctr + n) % 62 ^ (ctr.length - 1)
  | 0, ctr, h => ⟨h, rfl, by simp only [incN, Nat.add_zero]; exact (Nat.mod_eq_of_lt (cval_lt h)).symm⟩
  | n + 1, ctr, h => by
    obtain ⟨a1, a2, a3⟩ := incGensym_spec ctr h
    obtain ⟨b1, b2, b3⟩ := incN_spec n (incGensym ctr) a1
    refine ⟨b1, by simp only [incN]; omega, ?_⟩
    simp only [incN]
    rw [b3, a3, a2, Nat.mod_add_mod]
    congr 1; omega

/-- **the first 62^digits counter names are pairwise distinct** -/
theorem incN_ne {ctr : List UInt8} (h : CounterOK ctr) {j k : Nat} (hjk : j < k) (hk : k < 62 ^ (ctr.length - 1)) :
    incN j ctr ≠ incN k ctr := by
  intro e
  have e' : cval (incN k ctr) = cval (incN j ctr) := by rw [e]
  rw [(incN_spec k ctr h).2.2, (incN_spec j ctr h).2.2] at e'
  have := Nat.sub_mod_eq_zero_of_mod_eq e'
  rw [show cval ctr + k - (cval ctr + j) = k - j by omega, Nat.mod_eq_of_lt (by omega)] at this
  omega


/-- more fuel never changes the result of a loop that finished -/
theorem genLoop_mono : ∀ (fuel k : Nat) (c : Cache) (ctr : List UInt8) (r : Cache × List UInt8 × Option Nat),
    genLoop fuel c ctr = some r → genLoop (fuel + k) c ctr = some r
  | 0, _, _, _, _, h => by simp [genLoop] at h
  | fuel + 1, k, c, ctr, r, h => by
    rw [show fuel + 1 + k = (fuel + k) + 1 by omega]
    rcases hf : find c.slots ctr with ⟨sl, res⟩
    cases res with
    | hit b =>
      simp only [genLoop, hf] at h ⊢
      exact genLoop_mono fuel k _ _ r h
    | miss b =>
      simp only [genLoop, hf] at h ⊢
      exact h

/-- the name the loop settles on is the counter advanced some number of times (fewer than the probes allowed) -/
theorem genLoop_counter : ∀ (fuel : Nat) (c : Cache) (ctr : List UInt8) (c1 : Cache) (ctr' : List UInt8) (b : Option Nat),
    genLoop fuel c ctr = some (c1, ctr', b) → ∃ j, j < fuel ∧ ctr' = incN j ctr
  | 0, _, _, _, _, _, h => by simp [genLoop] at h
  | fuel + 1, c, ctr, c1, ctr', b, h => by
    rcases hf : find c.slots ctr with ⟨sl, res⟩
    cases res with
    | hit b0 =>
      simp only [genLoop, hf] at h
      obtain ⟨j, hj, e⟩ := genLoop_counter fuel _ _ c1 ctr' b h
      exact ⟨j + 1, by omega, by simpa [incN] using e⟩
    | miss b0 =>
      simp only [genLoop, hf, Option.some.injEq, Prod.mk.injEq] at h
      exact ⟨0, by omega, h.2.1.symm⟩

/-- a loop that is still running after `fuel` probes has found `fuel` consecutive counter names, all live in the cache it
    started from (a probe that hits may move the symbol, it never changes which symbols are live) -/
theorem genLoop_none_live : ∀ (fuel : Nat) (c : Cache) (ctr : List UInt8), CInvC c → genLoop fuel c ctr = none →
    ∀ j, j < fuel → ∃ q, Live c.slots q (incN j ctr)
  | 0, _, _, _, _, j, hj => by omega
  | fuel + 1, c, ctr, h, hg, j, hj => by
    by_cases hex : ∃ q, Live c.slots q ctr
    · obtain ⟨q, hq⟩ := hex
      obtain ⟨c1, _, hinv1, _, hl1, hstep⟩ := genLoop_hit h hq fuel
      rw [hstep] at hg
      cases j with
      | zero => exact ⟨q, hq⟩
      | succ j =>
        obtain ⟨q', hq'⟩ := genLoop_none_live fuel c1 (incGensym ctr) hinv1 hg j (by omega)
        exact ⟨q', (hl1 q' _).mp hq'⟩
    · have hno : ∀ q, ¬ Live c.slots q ctr := fun q hq => hex ⟨q, hq⟩
      obtain ⟨r, hf, _⟩ := find_miss hno
      simp [genLoop, hf] at hg


def slotBytes : Slot → Option (List UInt8)
  | .live _ b => some b
  | _ => none

def bytesOf (sl : List Slot) : List (List UInt8) := sl.filterMap slotBytes

theorem length_bytesOf : ∀ sl : List Slot, (bytesOf sl).length = liveCount sl
  | [] => rfl
  | a :: l => by
    have ih := length_bytesOf l
    rw [liveCount_cons]
    cases a <;> simp [bytesOf, slotBytes, List.filterMap_cons] at ih ⊢ <;> omega

theorem mem_bytesOf_of_live {sl : List Slot} {q : Nat} {b : List UInt8} (h : Live sl q b) : b ∈ bytesOf sl := by
  obtain ⟨y, hy⟩ := h
  have hlt : y < sl.length := gd_lt (by rw [hy]; simp)
  have hm : Slot.live q b ∈ sl := by
    unfold gd at hy
    rw [List.getD_eq_getElem?_getD, List.getElem?_eq_getElem hlt] at hy
    simp only [Option.getD_some] at hy
    exact hy ▸ List.getElem_mem hlt
  exact List.mem_filterMap.mpr ⟨_, hm, rfl⟩

theorem nodup_map_range {α : Type} (f : Nat → α) (n : Nat) (h : ∀ j k, j < k → k < n → f j ≠ f k) :
    ((List.range n).map f).Nodup := by
  rw [List.Nodup, List.pairwise_map]
  exact (List.pairwise_lt_range (n := n)).imp_of_mem (fun _ hb hlt => h _ _ hlt (List.mem_range.mp hb))

/-- **termination of the probe loop of `janet_symbol_gen`**: `cache_count + 1` probes are enough, and the result does not
    depend on the bound -/
theorem genLoop_terminates {c : Cache} {ctr : List UInt8} (h : CInvC c) (hw : CounterOK ctr)
    (hsmall : c.count < 62 ^ (ctr.length - 1)) :
    ∃ r, ∀ fuel, c.count < fuel → genLoop fuel c ctr = some r := by
  cases hg : genLoop (c.count + 1) c ctr with
  | some r =>
    refine ⟨r, fun fuel hf => ?_⟩
    have := genLoop_mono (c.count + 1) (fuel - (c.count + 1)) c ctr r hg
    rwa [show c.count + 1 + (fuel - (c.count + 1)) = fuel by omega] at this
  | none =>
    exfalso
    have hl := genLoop_none_live (c.count + 1) c ctr h hg
    have hnd : ((List.range (c.count + 1)).map (fun j => incN j ctr)).Nodup :=
      nodup_map_range _ _ (fun j k hjk hk => incN_ne hw hjk (by omega))
    have hsub : (List.range (c.count + 1)).map (fun j => incN j ctr) ⊆ bytesOf c.slots := by
      intro x hx
      obtain ⟨j, hj, e⟩ := List.mem_map.mp hx
      obtain ⟨q, hq⟩ := hl j (List.mem_range.mp hj)
      exact e ▸ mem_bytesOf_of_live hq
    have := hnd.length_le_of_subset hsub
    rw [length_bytesOf, ← h.cnt] at this
    simp only [List.length_map, List.length_range] at this
    omega


theorem gensymCounterInit_ok : CounterOK gensymCounterInit ∧ gensymCounterInit.length = 7 := by
  refine ⟨?_, by decide⟩
  unfold CounterOK
  decide +kernel

theorem gensym_counter {fuel : Nat} {c c' : Cache} {ctr ctr' : List UInt8} {p : Nat} (hw : CounterOK ctr)
    (hg : gensym fuel c ctr = some (c', ctr', p)) : CounterOK ctr' ∧ ctr'.length = ctr.length := by
  unfold gensym at hg
  cases hl : genLoop fuel c ctr with
  | none => simp [hl] at hg
  | some r =>
    obtain ⟨c1, ctr1, b⟩ := r
    obtain ⟨j, _, e⟩ := genLoop_counter fuel c ctr c1 ctr1 b hl
    have hs := incN_spec j ctr hw
    cases b with
    | none => simp [hl] at hg
    | some bk =>
      simp only [hl, Option.map_eq_some_iff, Prod.mk.injEq] at hg
      obtain ⟨_, _, _, e2, _⟩ := hg
      rw [← e2, e]; exact ⟨hs.1, hs.2.1⟩

/-- every history without a probe bound keeps the cache invariant and the counter well-formed, and is realised by a plain
    intern / sweep history -/
theorem runGT_inv : ∀ (ops : List OpG) (s s' : GState), CInvC s.cache → CounterOK s.counter → runGT s ops = some s' →
    CInvC s'.cache ∧ CounterOK s'.counter ∧ s'.counter.length = s.counter.length ∧
      ∃ ops' : List Op, run s.cache ops' = some s'.cache
  | [], s, s', h, hw, hr => by
      simp only [runGT, Option.some.injEq] at hr; subst hr; exact ⟨h, hw, rfl, [], rfl⟩
  | .intern b :: ops, s, s', h, hw, hr => by
      simp only [runGT] at hr
      cases hi : intern s.cache b with
      | none => simp [hi] at hr
      | some r =>
        obtain ⟨c1, p1⟩ := r
        simp only [hi] at hr
        have hinv1 : CInvC c1 := (intern_post h hi).1
        obtain ⟨hfin, hw', hlen, ops', ho⟩ := runGT_inv ops { s with cache := c1 } s' hinv1 hw hr
        exact ⟨hfin, hw', hlen, .intern b :: ops', by simp only [run, hi]; exact ho⟩
  | .sweep b :: ops, s, s', h, hw, hr => by
      simp only [runGT] at hr
      obtain ⟨hfin, hw', hlen, ops', ho⟩ := runGT_inv ops { s with cache := deinit s.cache b } s' (deinit_cnt h b) hw hr
      exact ⟨hfin, hw', hlen, .sweep b :: ops', by simp only [run]; exact ho⟩
  | .gensym :: ops, s, s', h, hw, hr => by
      simp only [runGT] at hr
      cases hg : gensymT s.cache s.counter with
      | none => simp [hg] at hr
      | some r =>
        obtain ⟨c1, ctr1, p1⟩ := r
        simp only [hg] at hr
        obtain ⟨names, _, hrun, _, _, hinv1, _⟩ := gensym_spec _ s.cache s.counter c1 ctr1 p1 h hg
        obtain ⟨hw1, hlen1⟩ := gensym_counter hw hg
        obtain ⟨hfin, hw', hlen, ops', ho⟩ := runGT_inv ops { cache := c1, counter := ctr1 } s' hinv1 hw1 hr
        refine ⟨hfin, hw', by simpa [hlen1] using hlen, (names ++ [ctr1]).map Op.intern ++ ops', ?_⟩
        rw [run_append, hrun]; exact ho

end JanetModel.Value.SymCache
