/- C03 — struct construction: general invariants, and the key sets with chosen collision patterns at which
   Value/LayoutTests.lean instantiates the layout theorems. -/
import JanetModel.Value.Struct
import JanetModel.Value.F64

namespace JanetModel.Value
open JanetModel.Gen.Value

variable {N : Type} [NumLike N]

theorem putLoop_length (cap : Nat) (replace : Bool) : ∀ (fuel i dist : Nat) (key value : JVal N) (h : UInt32) (slots : List (Slot N)),
    (putLoop cap replace fuel i dist key value h slots).1.length = slots.length
  | 0, _, _, _, _, _, _ => rfl
  | fuel + 1, i, dist, key, value, h, slots => by
      unfold putLoop
      simp only []
      split
      · simp
      · split
        · rw [putLoop_length cap replace fuel]; simp
        · split <;> simp
        · rw [putLoop_length cap replace fuel]

/-- `janet_struct_put_ext` never changes the capacity chosen by `janet_struct_begin` -/
theorem structPutExt_capacity (st : StructBuild N) (key value : JVal N) (replace : Bool) :
    (structPutExt st key value replace).slots.length = st.slots.length := by
  unfold structPutExt
  simp only []
  split
  · rfl
  · split
    · rfl
    · split
      · rfl
      · simp [putLoop_length]

/-- all permutations of a list (insertion at every position) -/
def permsOf {α : Type} : List α → List (List α)
  | [] => [[]]
  | x :: xs => (permsOf xs).flatMap (fun p => (List.range (p.length + 1)).map (fun i => p.take i ++ x :: p.drop i))

theorem perm_of_mem_permsOf {α : Type} : ∀ {l p : List α}, p ∈ permsOf l → p.Perm l
  | [], p, h => by
      rw [permsOf, List.mem_singleton] at h; rw [h]
  | x :: xs, p, h => by
      rw [permsOf, List.mem_flatMap] at h
      obtain ⟨q, hq, hp⟩ := h
      obtain ⟨i, _, rfl⟩ := List.mem_map.mp hp
      refine List.perm_middle.trans (List.Perm.cons x ?_)
      rw [List.take_append_drop]
      exact perm_of_mem_permsOf hq

theorem permsOf_map {α β : Type} (f : α → β) : ∀ l : List α, permsOf (l.map f) = (permsOf l).map (List.map f)
  | [] => rfl
  | x :: xs => by
      simp only [List.map_cons, permsOf, permsOf_map f xs, List.flatMap_map, List.map_flatMap, List.map_map,
        List.length_map]
      congr 1
      funext q
      apply List.map_congr_left
      intro i _
      simp only [Function.comp, List.map_append, List.map_cons, List.map_take, List.map_drop]

private abbrev K (bs : List UInt8) : JVal F64 := .kw bs
private abbrev S (bs : List UInt8) : JVal F64 := .str bs
private abbrev Y (bs : List UInt8) : JVal F64 := .sym bs
private abbrev D (n : UInt64) : JVal F64 := .num ⟨n⟩

/-- key sets chosen for their collision pattern (homes computed by the model's own `hash`):
    1. "aa"/"b@" as string, keyword, symbol: five keys with the SAME 32-bit hash (tie broken by `janet_compare`), capacity 16
    2. doubles with equal hi⊕lo (same hash) mixed with −0/1.0, capacity 8
    3. :j :r :y — all three at home slot 7 of 8: the run wraps around the end of the array
    4. :i :j :b — homes 6, 7, 0: adjacent runs across the wrap
    5. :b :c :t :a :d — homes 0,0,0,1,1 of 16: two colliding runs that displace each other (robin-hood swaps)
    6. a nested struct and a tuple as keys, a bracketed tuple as value -/
def layoutFamilies : List (List (Slot F64)) :=
  [ [(K [97, 97], D 1), (K [98, 64], D 2), (S [97, 97], D 3), (S [98, 64], D 4), (Y [97, 97], D 5)],
    [(D 0x3FF0000000000000, .bool true), (D 0x3FF0000100000001, .bool false), (D 0x8000000000000000, K [120])],
    [(K [106], D 1), (K [114], D 2), (K [121], D 3)],
    [(K [105], D 1), (K [106], D 2), (K [98], D 3)],
    [(K [98], D 1), (K [99], D 2), (K [116], D 3), (K [97], D 4), (K [100], D 5)],
    [(.tuple false [D 0, K [97]], .tuple true [D 1]), (.struct [K [97], D 1, .nil, .nil] [], K [98]), (K [97], S [])] ]

/-- six small integers (27 16 23 56 0 55) forming one probe cluster of capacity 16 in which a key from an earlier bucket
    evicts a resident whose successor shares the resident's home bucket: the displaced key must travel on with ITS OWN
    hash (struct.c `hash = otherhash;`) for the layout to be independent of the insertion order -/
def clusterFamily : List (Slot F64) :=
  [(D 0x403B000000000000, D 1), (D 0x4030000000000000, D 2), (D 0x4037000000000000, D 3),
   (D 0x404C000000000000, D 4), (D 0, D 5), (D 0x404B800000000000, D 6)]

end JanetModel.Value
