/- C03 — from equal lookups to `MapEquiv`: two key→value maps (pairwise different keys, non-nil values — what `finalMap` yields)
   that answer every lookup alike, up to `=` of the values, list the same pairs up to `=` and order. -/
import JanetModel.Value.RobinDup

namespace JanetModel.Value

variable {N : Type} [NumLike N] [LawfulNum N]

/-- the two maps answer every lookup alike (values up to `=`) -/
def SameLookups (m₁ m₂ : List (Slot N)) : Prop := ∀ k, contentEq (mapGet m₁ k) (mapGet m₂ k) = true

theorem ceq_false_of {a b c : JVal N} (h1 : contentEq a b = false) (h2 : contentEq b c = true) : contentEq a c = false := by
  cases h : contentEq a c
  · rfl
  · rw [contentEq_trans_both.1 _ _ _ h (contentEq_symm h2)] at h1; cases h1

/-- in a map with pairwise different keys the entry under a key is THE entry whose key equals it -/
theorem mapGet_of_mem : ∀ (m : List (Slot N)) (e : Slot N) (k : JVal N), DistinctKeys m → e ∈ m → contentEq e.1 k = true →
    mapGet m k = e.2
  | [], _, _, _, h, _ => by cases h
  | hd :: tl, e, k, hd', hm, hk => by
    rw [mapGet_cons]
    rcases List.mem_cons.mp hm with rfl | hm'
    · rw [hk]; rfl
    · have hne : contentEq hd.1 e.1 = false := (List.pairwise_cons.mp hd').1 e hm'
      rw [ceq_false_of hne hk]
      exact mapGet_of_mem tl e k (List.pairwise_cons.mp hd').2 hm' hk

omit [LawfulNum N] in
theorem mapGet_nil_or_mem : ∀ (m : List (Slot N)) (k : JVal N),
    m.any (fun e => contentEq e.1 k) = false ∨ ∃ e ∈ m, contentEq e.1 k = true
  | [], _ => Or.inl rfl
  | hd :: tl, k => by
    cases h : contentEq hd.1 k
    · rcases mapGet_nil_or_mem tl k with h' | ⟨e, he, hk⟩
      · exact Or.inl (by simp [List.any_cons, h, h'])
      · exact Or.inr ⟨e, List.mem_cons_of_mem _ he, hk⟩
    · exact Or.inr ⟨hd, List.mem_cons_self, h⟩

/-- lookups do not depend on the order in which a map with pairwise different keys is listed -/
theorem mapGet_perm {l l' : List (Slot N)} (hp : l.Perm l') (hd : DistinctKeys l) (k : JVal N) : mapGet l k = mapGet l' k := by
  rcases mapGet_nil_or_mem l k with h | ⟨e, he, hk⟩
  · have h' : l'.any (fun e => contentEq e.1 k) = false := by
      rw [List.any_eq_false] at *
      intro x hx; exact h x (hp.mem_iff.mpr hx)
    rw [mapGet_none l k h, mapGet_none l' k h']
  · rw [mapGet_of_mem l e k hd he hk, mapGet_of_mem l' e k (hd.perm hp) (hp.mem_iff.mp he) hk]

omit [LawfulNum N] in
theorem ceq_nil_left {x : JVal N} (h : contentEq (.nil : JVal N) x = true) : x.isNil = true := by
  cases x <;> simp [contentEq] at h; rfl

/-- equal lookups ⇒ `MapEquiv` -/
theorem mapEquiv_of_sameLookups : ∀ (m₁ m₂ : List (Slot N)), DistinctKeys m₁ → DistinctKeys m₂ →
    (∀ kv ∈ m₁, kv.2.isNil = false) → (∀ kv ∈ m₂, kv.2.isNil = false) → SameLookups m₁ m₂ → MapEquiv m₁ m₂
  | [], m₂, _, _, _, hv₂, hs => by
    cases m₂ with
    | nil => exact ⟨[], List.Perm.refl _, rfl, fun i => by simp [pairEq, emptySlot, contentEq]⟩
    | cons e rest =>
      exfalso
      have := hs e.1
      rw [mapGet_cons, contentEq_refl_both.1] at this
      have h1 := ceq_nil_left (by simpa [mapGet] using this)
      rw [hv₂ e List.mem_cons_self] at h1; cases h1
  | (k, v) :: rest, m₂, hd₁, hd₂, hv₁, hv₂, hs => by
    have hk := hs k
    rw [mapGet_cons] at hk
    simp only [contentEq_refl_both.1, if_true] at hk
    have hvn : v.isNil = false := hv₁ (k, v) List.mem_cons_self
    have hgn : (mapGet m₂ k).isNil = false := by rw [← contentEq_isNil v _ hk]; exact hvn
    rcases mapGet_nil_or_mem m₂ k with h | ⟨e, he, hek⟩
    · rw [mapGet_none m₂ k h] at hgn; cases hgn
    · have hge := mapGet_of_mem m₂ e k hd₂ he hek
      obtain ⟨s, t, rfl⟩ := List.mem_iff_append.mp he
      have hperm : (s ++ e :: t).Perm (e :: (s ++ t)) := List.perm_middle
      have hd₂' := hd₂.perm hperm
      have hdr := (List.pairwise_cons.mp hd₁).2
      have hd₂t := (List.pairwise_cons.mp hd₂').2
      have hs' : SameLookups rest (s ++ t) := by
        intro k'
        have h0 := hs k'
        rw [mapGet_cons, mapGet_perm hperm hd₂ k', mapGet_cons] at h0
        cases hkk : contentEq k k'
        · have : contentEq e.1 k' = false := by
            cases hx : contentEq e.1 k'
            · rfl
            · rw [contentEq_trans_both.1 _ _ _ (contentEq_symm hek) hx] at hkk; cases hkk
          simpa [hkk, this] using h0
        · have h1 : rest.any (fun x => contentEq x.1 k') = false := by
            rw [List.any_eq_false]; intro x hx
            have := (List.pairwise_cons.mp hd₁).1 x hx
            simp only at this
            cases hxx : contentEq x.1 k'
            · simp
            · rw [contentEq_trans_both.1 _ _ _ hkk (contentEq_symm hxx)] at this; cases this
          have h2 : (s ++ t).any (fun x => contentEq x.1 k') = false := by
            rw [List.any_eq_false]; intro x hx
            have := (List.pairwise_cons.mp hd₂').1 x hx
            cases hxx : contentEq x.1 k'
            · simp
            · rw [contentEq_trans_both.1 _ _ _ (contentEq_trans_both.1 _ _ _ hek hkk) (contentEq_symm hxx)] at this; cases this
          rw [mapGet_none _ _ h1, mapGet_none _ _ h2]; rfl
      obtain ⟨m', hp', hl', hpw'⟩ := mapEquiv_of_sameLookups rest (s ++ t) hdr hd₂t
        (fun kv h => hv₁ kv (List.mem_cons_of_mem _ h))
        (fun kv h => hv₂ kv (by rcases List.mem_append.mp h with h | h
                                · exact List.mem_append_left _ h
                                · exact List.mem_append_right _ (List.mem_cons_of_mem _ h))) hs'
      refine ⟨e :: m', hperm.trans (List.Perm.cons e hp'), by simp [hl'], fun i => ?_⟩
      cases i with
      | zero => exact ⟨contentEq_symm hek, by rw [hge] at hk; exact hk⟩
      | succ i => simpa using hpw' i

end JanetModel.Value
