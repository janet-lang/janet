/- C02: correctness of the emit layer (pure emitters of Emit/Model.lean on the machine of Emit/Machine.lean) for every
   combination of slot kinds (local near / far, upvalue, constant, ref) and every index, and of the temporary allocator.
   `Loads`: what `janetc_movenear` / `janetc_regnear` / `janetc_regfar` establish for one operand; `emit_ops_correct`: operands
   loaded in sequence, payload, write-back - the five emitters are its instances for one to three operands (Props/C02.lean). -/
import JanetModel.Emit.Machine
namespace JanetModel.Emit

variable {β : Type}

theorem run_append (lit : KConst → β) (F) (m : M β) (a b : List MI) : run lit F m (a ++ b) = run lit F (run lit F m a) b := by
  simp [run, List.foldl_append]

theorem run_nil (lit : KConst → β) (F) (m : M β) : run lit F m [] = m := rfl
theorem run_cons (lit : KConst → β) (F) (m : M β) (i : MI) (is : List MI) : run lit F m (i :: is) = run lit F (exec lit F m i) is := rfl

theorem upd_same {α : Type} (f : Nat → α) (i : Nat) (v : α) : upd f i v i = v := by simp [upd]
theorem upd_other {α : Type} (f : Nat → α) (i j : Nat) (v : α) (h : j ≠ i) : upd f i v j = f j := by simp [upd, h]

theorem Sim.refl (T : List Nat) (m : M β) : Sim T m m := ⟨fun _ _ => rfl, rfl, rfl, rfl, rfl⟩

theorem Sim.trans {T : List Nat} {a b c : M β} (h1 : Sim T a b) (h2 : Sim T b c) : Sim T a c :=
  ⟨fun x hx => (h1.regs x hx).trans (h2.regs x hx), h1.up.trans h2.up, h1.cell.trans h2.cell, h1.log.trans h2.log, h1.ok.trans h2.ok⟩

theorem Sim.mono {T U : List Nat} {a b : M β} (h : Sim T a b) (hs : ∀ x, x ∈ T → x ∈ U) : Sim U a b :=
  ⟨fun x hx => h.regs x (fun hm => hx (hs x hm)), h.up, h.cell, h.log, h.ok⟩

theorem Sim.symm {T : List Nat} {a b : M β} (h : Sim T a b) : Sim T b a :=
  ⟨fun x hx => (h.regs x hx).symm, h.up.symm, h.cell.symm, h.log.symm, h.ok.symm⟩

/-- reading a slot is insensitive to the temporaries as long as the slot is not one of them -/
theorem readSlot_sim (lit : KConst → β) {T : List Nat} {a b : M β} (h : Sim T a b) (s : Slot) (hs : s.avoids T) :
    readSlot lit a s = readSlot lit b s := by
  cases s with
  | loc i => exact h.regs i (hs i rfl)
  | up e i => simp [readSlot, h.up]
  | const k => rfl
  | ref id => simp [readSlot, h.cell]

/-- `code` brings the value of slot `s` into register `r` and changes at most the registers `T`; `r` is one of them or the
    slot's own register -/
structure Loads (lit : KConst → β) (F : Nat → List (RV β) → RV β) (s : Slot) (r : Nat) (code : List MI) (T : List Nat) : Prop where
  val : ∀ m, (run lit F m code).regs r = readSlot lit m s
  sim : ∀ m, Sim T (run lit F m code) m
  reg : r ∈ T ∨ s = .loc r

theorem Loads.mono {lit : KConst → β} {F} {s : Slot} {r : Nat} {code : List MI} {T U : List Nat} (h : Loads lit F s r code T)
    (hs : ∀ x, x ∈ T → x ∈ U) : Loads lit F s r code U :=
  ⟨h.val, fun m => (h.sim m).mono hs, h.reg.imp_left (hs r)⟩

/-- a local slot is in its own register -/
theorem loads_loc (lit : KConst → β) (F) (i : Nat) (T : List Nat) : Loads lit F (.loc i) i [] T :=
  ⟨fun _ => rfl, fun _ => Sim.refl _ _, .inr rfl⟩

/-- `janetc_movenear`: afterwards register `t` holds the slot's value, nothing else changed -/
theorem movenear_loads (lit : KConst → β) (F) (cidx : KConst → Nat) (t : Nat) (s : Slot) :
    Loads lit F s t (movenear cidx t s) [t] := by
  have h : ∀ m, (run lit F m (movenear cidx t s)).regs t = readSlot lit m s ∧ Sim [t] (run lit F m (movenear cidx t s)) m := by
    intro m
    cases s with
    | loc i =>
      by_cases h : i = t
      · subst h; simp [movenear, run, readSlot]; exact Sim.refl _ _
      · simp only [movenear, h, ne_eq, not_false_eq_true, if_true, run, List.foldl, exec, readSlot, upd_same, true_and]
        exact ⟨fun x hx => by simp at hx; simp [upd, hx], rfl, rfl, rfl, rfl⟩
    | up e i =>
      simp only [movenear, run, List.foldl, exec, readSlot, upd_same, true_and]
      exact ⟨fun x hx => by simp at hx; simp [upd, hx], rfl, rfl, rfl, rfl⟩
    | const k =>
      simp only [movenear, run, List.foldl, exec, readSlot, upd_same, true_and]
      exact ⟨fun x hx => by simp at hx; simp [upd, hx], rfl, rfl, rfl, rfl⟩
    | ref id =>
      simp only [movenear, run, List.foldl, exec, readSlot, upd_same, true_and]
      exact ⟨fun x hx => by simp at hx; simp [upd, hx], rfl, rfl, rfl, rfl⟩
  exact ⟨fun m => (h m).1, fun m => (h m).2, .inl List.mem_cons_self⟩

theorem nearLocal_loc {s : Slot} (h : s.nearLocal = true) : ∃ i, s = .loc i := by
  cases s with
  | loc i => exact ⟨i, rfl⟩
  | up e i => simp [Slot.nearLocal] at h
  | const k => simp [Slot.nearLocal] at h
  | ref id => simp [Slot.nearLocal] at h

theorem isLocal_loc {s : Slot} (h : s.isLocal = true) : ∃ i, s = .loc i := by
  cases s with
  | loc i => exact ⟨i, rfl⟩
  | up e i => simp [Slot.isLocal] at h
  | const k => simp [Slot.isLocal] at h
  | ref id => simp [Slot.isLocal] at h

/-- `janetc_regnear`: the slot's own near register, or the temporary after `janetc_movenear` -/
theorem regnear_loads (lit : KConst → β) (F) (cidx : KConst → Nat) (s : Slot) (t : Nat) :
    Loads lit F s (regnear cidx s t).1 (regnear cidx s t).2 [t] := by
  unfold regnear
  by_cases hn : s.nearLocal = true
  · rw [if_pos hn]
    obtain ⟨i, rfl⟩ := nearLocal_loc hn
    exact loads_loc lit F i _
  · rw [if_neg hn]
    exact movenear_loads lit F cidx t s

/-- `janetc_regfar`: the slot's own register, the near temporary, or - when that is a reserved one - the far register `fr`
    after a `movf` from it -/
theorem regfar_loads (lit : KConst → β) (F) (cidx : KConst → Nat) (s : Slot) (t fr : Nat) :
    Loads lit F s (regfar cidx s t fr).1 (regfar cidx s t fr).2 [t, fr] := by
  unfold regfar
  by_cases hl : s.isLocal = true
  · rw [if_pos hl]
    obtain ⟨i, rfl⟩ := isLocal_loc hl
    exact loads_loc lit F i _
  · rw [if_neg hl]
    have hm := movenear_loads lit F cidx t s
    by_cases ht : t ≥ 0xF0
    · rw [if_pos ht]
      refine ⟨fun m => ?_, fun m => ?_, .inl (by simp)⟩
      · simp only [run_append, run_cons, run_nil, exec, upd_same]
        exact hm.val m
      · simp only [run_append, run_cons, run_nil, exec]
        refine ⟨fun x hx => ?_, (hm.sim m).up, (hm.sim m).cell, (hm.sim m).log, (hm.sim m).ok⟩
        simp at hx
        simp only [upd, hx.2, if_false]
        exact (hm.sim m).regs x (by simp [hx.1])
    · rw [if_neg ht]
      exact hm.mono (by simp)

/-- `janetc_moveback`: the destination slot receives register `r`; only the tag-5 temporary may change besides -/
theorem moveback_run (lit : KConst → β) (F) (cidx : KConst → Nat) (m : M β) (s : Slot) (r t5 : Nat)
    (hc : ∀ k, s ≠ .const k) (h5 : t5 ≠ r) :
    Sim [t5] (run lit F m (moveback cidx t5 s r)) (writeSlot m s (m.regs r)) := by
  cases s with
  | const k => exact absurd rfl (hc k)
  | loc i =>
    by_cases h : i = r
    · subst h
      simp only [moveback, ne_eq, not_true_eq_false, if_false, run_nil, writeSlot]
      exact ⟨fun x _ => by simp [upd]; intro hx; rw [hx], rfl, rfl, rfl, rfl⟩
    · simp only [moveback, h, ne_eq, not_false_eq_true, if_true, run_cons, run_nil, exec, writeSlot]
      exact Sim.refl _ _
  | up e i =>
    simp only [moveback, run_cons, run_nil, exec, writeSlot]
    exact Sim.refl _ _
  | ref id =>
    simp only [moveback, run_cons, run_nil, exec, writeSlot, upd_same]
    refine ⟨fun x hx => ?_, rfl, ?_, rfl, rfl⟩
    · simp at hx; simp [upd, hx]
    · simp [upd_other _ _ _ _ (Ne.symm h5)]

theorem writeSlot_sim {T : List Nat} {a b : M β} (s : Slot) (v : RV β) (e : Nat)
    (h : Sim (e :: T) a b) (he : e ∈ T ∨ s = .loc e) : Sim T (writeSlot a s v) (writeSlot b s v) := by
  have hr : ∀ x, x ∉ T → x ≠ e → a.regs x = b.regs x := fun x hx hxe => h.regs x (by simp [hx, hxe])
  cases s with
  | loc i =>
    refine ⟨fun x hx => ?_, h.up, h.cell, h.log, h.ok⟩
    simp only [writeSlot, upd]
    by_cases hxi : x = i
    · simp [hxi]
    · simp only [hxi, if_false]
      rcases he with he | he
      · exact hr x hx (fun hxe => hx (hxe ▸ he))
      · injection he with he; exact hr x hx (he ▸ hxi)
  | up e' i =>
    rcases he with he | he
    · exact ⟨fun x hx => hr x hx (fun hxe => hx (hxe ▸ he)), by simp [writeSlot, h.up], h.cell, h.log, h.ok⟩
    · cases he
  | ref id =>
    rcases he with he | he
    · exact ⟨fun x hx => hr x hx (fun hxe => hx (hxe ▸ he)), h.up, by simp [writeSlot, h.cell], h.log, h.ok⟩
    · cases he
  | const k =>
    rcases he with he | he
    · exact ⟨fun x hx => hr x hx (fun hxe => hx (hxe ▸ he)), h.up, h.cell, h.log, h.ok⟩
    · cases he

theorem payload_nowr (lit : KConst → β) (F) {T : List Nat} {m3 m : M β} (op : Nat) (sh : Shape) (rs : List Nat) (rest : Nat)
    (vals : List (RV β)) (h : Sim T m3 m) (hv : rs.map m3.regs = vals) :
    Sim T (run lit F m3 [.pay op sh false rs rest]) (logged m op vals) := by
  simp only [run_cons, run_nil, exec, logged, Bool.false_eq_true, if_false, hv]
  exact ⟨h.regs, h.up, h.cell, by simp [h.log], h.ok⟩

/-- payload with write-back through `janetc_moveback` -/
theorem payload_wr (lit : KConst → β) (F) (cidx : KConst → Nat) {T : List Nat} {m3 m : M β} (op : Nat) (sh : Shape)
    (r1 : Nat) (srcs : List Nat) (rest : Nat) (s1 : Slot) (t5 : Nat) (vals : List (RV β))
    (h : Sim T m3 m) (hv : srcs.map m3.regs = vals) (hr1 : r1 ∈ T ∨ s1 = .loc r1) (ht5 : t5 ∈ T) (h5 : t5 ≠ r1)
    (hc : ∀ k, s1 ≠ .const k) :
    Sim T (run lit F m3 ([.pay op sh true (r1 :: srcs) rest] ++ moveback cidx t5 s1 r1))
      (writeSlot (logged m op vals) s1 (F op vals)) := by
  rw [run_append]
  simp only [run_cons, run_nil, exec, if_true, List.tail_cons, List.headD_cons, hv]
  have hmb := moveback_run lit F cidx
    ({ m3 with log := m3.log ++ [(op, vals)], regs := upd m3.regs r1 (F op vals) } : M β) s1 r1 t5 hc h5
  simp only [upd_same] at hmb
  refine Sim.trans (hmb.mono (by intro x hx; simp at hx; rw [hx]; exact ht5)) ?_
  apply writeSlot_sim s1 (F op vals) r1 _ hr1
  refine ⟨fun x hx => ?_, h.up, h.cell, by simp [logged, h.log], h.ok⟩
  simp at hx
  simp only [upd, hx.1, if_false, logged]
  exact h.regs x hx.2

/-- an operand of a payload instruction: its slot, the register the payload names, the loads that fill it, the temporaries
    they may use -/
structure Opnd where
  s : Slot
  r : Nat
  code : List MI
  T : List Nat

def Opnd.near (cidx : KConst → Nat) (s : Slot) (t : Nat) : Opnd := ⟨s, (regnear cidx s t).1, (regnear cidx s t).2, [t]⟩
def Opnd.far (cidx : KConst → Nat) (s : Slot) (t fr : Nat) : Opnd := ⟨s, (regfar cidx s t fr).1, (regfar cidx s t fr).2, [t, fr]⟩

/-- operands loaded one after the other, each through temporaries of its own (`hd`) that are no operand's slot (`avoids`):
    afterwards every operand's register holds the value its slot had at the start -/
theorem loads_run (lit : KConst → β) (F) (U : List Nat) (tail : List MI) : ∀ (ops : List Opnd) (m : M β),
    (∀ p ∈ ops, Loads lit F p.s p.r p.code p.T ∧ (∀ x ∈ p.T, x ∈ U) ∧ p.s.avoids U) →
    ops.Pairwise (fun p q => ∀ x ∈ p.T, x ∉ q.T) →
    ∃ m', run lit F m (ops.foldr (fun p acc => p.code ++ acc) tail) = run lit F m' tail ∧
      Sim (ops.flatMap (·.T)) m' m ∧ ∀ p ∈ ops, m'.regs p.r = readSlot lit m p.s
  | [], m, _, _ => ⟨m, rfl, Sim.refl _ _, fun _ h => nomatch h⟩
  | p :: ps, m, hl, hd => by
    obtain ⟨hp, hps⟩ := List.forall_mem_cons.1 hl
    obtain ⟨hdp, hdps⟩ := List.pairwise_cons.1 hd
    obtain ⟨m', e, S, V⟩ := loads_run lit F U tail ps (run lit F m p.code) hps hdps
    have S1 := hp.1.sim m
    refine ⟨m', by rw [List.foldr_cons, run_append, e], ?_, ?_⟩
    · exact (S.mono fun x hx => List.mem_flatMap.2 (by
        obtain ⟨q, hq, hx⟩ := List.mem_flatMap.1 hx
        exact ⟨q, List.mem_cons_of_mem _ hq, hx⟩)).trans
        (S1.mono fun x hx => List.mem_flatMap.2 ⟨p, List.mem_cons_self, hx⟩)
    · intro q hq
      rcases List.mem_cons.1 hq with rfl | hq
      · -- no later load touches the register of an earlier operand: it is a temporary of that operand alone, or its slot
        rw [S.regs q.r fun hx => by
          obtain ⟨q', hq', hx⟩ := List.mem_flatMap.1 hx
          rcases hp.1.reg with h | h
          · exact hdp q' hq' _ h hx
          · exact hp.2.2 _ h ((hps q' hq').2.1 _ hx)]
        exact hp.1.val m
      · rw [V q hq]
        exact readSlot_sim lit (S1.mono hp.2.1) q.s (hps q hq).2.2

/-- every emitter of emit.c (`janetc_emit_sss/ss/s`, `emit2s`, `emit1s`) for EVERY combination of slot kinds and indices: the
    operands are loaded one after the other, then comes the payload on the registers obtained, then - for `wr` - the first
    register is moved back to its slot.  wr = 1: the destination slot receives `F op` of the values the source slots had in the
    ORIGINAL state, the payload is logged with exactly those values, everything except the temporaries `U` is otherwise
    unchanged.  wr = 0: the payload saw the values of all slots, nothing but temporaries changed.
    Hypotheses = what the allocator guarantees (`regtemp_disjoint`): temporaries pairwise distinct and not operand registers. -/
theorem emit_ops_correct (lit : KConst → β) (F) (cidx : KConst → Nat) (m : M β) (op : Nat) (sh : Shape) (wr : Bool) (rest t5 : Nat)
    (U : List Nat) (o : Opnd) (os : List Opnd)
    (hl : ∀ p ∈ o :: os, Loads lit F p.s p.r p.code p.T ∧ (∀ x ∈ p.T, x ∈ U) ∧ p.s.avoids U)
    (hd : (o :: os).Pairwise fun p q => ∀ x ∈ p.T, x ∉ q.T)
    (h5 : t5 ∈ U) (h5o : t5 ∉ o.T) (hw : wr = true → ∀ k, o.s ≠ .const k) :
    Sim U (run lit F m ((o :: os).foldr (fun p acc => p.code ++ acc)
        ([.pay op sh wr ((o :: os).map (·.r)) rest] ++ wb cidx t5 wr o.s o.r)))
      (if wr then writeSlot (logged m op (os.map fun p => readSlot lit m p.s)) o.s (F op (os.map fun p => readSlot lit m p.s))
       else logged m op ((o :: os).map fun p => readSlot lit m p.s)) := by
  obtain ⟨m', e, S, V⟩ := loads_run lit F U _ (o :: os) m hl hd
  have S' : Sim U m' m := S.mono fun x hx => by
    obtain ⟨q, hq, hx⟩ := List.mem_flatMap.1 hx
    exact (hl q hq).2.1 x hx
  have vals : ∀ l : List Opnd, (∀ p ∈ l, p ∈ o :: os) → (l.map (·.r)).map m'.regs = l.map fun p => readSlot lit m p.s := fun l hl => by
    rw [List.map_map]
    exact List.map_congr_left fun p hp => V p (hl p hp)
  have ho := hl o List.mem_cons_self
  rw [e]
  cases wr with
  | false =>
    simp only [wb, Bool.false_eq_true, if_false, List.append_nil]
    exact payload_nowr lit F op sh _ rest _ S' (vals _ fun _ h => h)
  | true =>
    simp only [wb, if_true, List.map_cons]
    refine payload_wr lit F cidx op sh o.r _ rest o.s t5 _ S' (vals os fun _ h => List.mem_cons_of_mem _ h)
      (ho.1.reg.imp_left (ho.2.1 _)) h5 ?_ (hw rfl)
    -- the tag-5 temporary is not the destination's register
    rintro rfl
    exact ho.1.reg.elim h5o fun h => ho.2.2 _ h h5

theorem writeSlot_self (lit : KConst → β) (T : List Nat) (m : M β) (s : Slot) : Sim T (writeSlot m s (readSlot lit m s)) m := by
  cases s with
  | loc i => exact ⟨fun x _ => by simp only [writeSlot, readSlot, upd]; split <;> simp_all, rfl, rfl, rfl, rfl⟩
  | up e i =>
    refine ⟨fun _ _ => rfl, ?_, rfl, rfl, rfl⟩
    funext e' j
    simp only [writeSlot, readSlot, upd2]
    split
    · rename_i h; rw [h.1, h.2]
    · rfl
  | const k => exact Sim.refl _ _
  | ref id =>
    refine ⟨fun _ _ => rfl, rfl, ?_, rfl, rfl⟩
    funext j
    simp only [writeSlot, readSlot, upd]
    split
    · rename_i h; rw [h]
    · rfl

theorem copy_unfold (cidx : KConst → Nat) (dest src : Slot) (t3 t5 : Nat) (hc : ∀ k, dest ≠ .const k) :
    copy cidx dest src t3 t5 =
      (if dest = src then [] else if dest.nearLocal then movenear cidx dest.index src
       else if src.nearLocal then moveback cidx t5 dest src.index
       else movenear cidx t3 src ++ moveback cidx t5 dest t3) := by
  cases dest with
  | const k => exact absurd rfl (hc k)
  | loc i => rfl
  | up e i => rfl
  | ref id => rfl

/-- `janetc_copy`: destination slot := value of the source slot, for all 4 x 5 kind combinations -/
theorem copy_correct (lit : KConst → β) (F) (cidx : KConst → Nat) (m : M β) (dest src : Slot) (t3 t5 : Nat)
    (h35 : t3 ≠ t5) (ad : dest.avoids [t3, t5]) (as : src.avoids [t3, t5]) (hc : ∀ k, dest ≠ .const k) :
    Sim [t3, t5] (run lit F m (copy cidx dest src t3 t5)) (writeSlot m dest (readSlot lit m src)) := by
  rw [copy_unfold cidx dest src t3 t5 hc]
  by_cases heq : dest = src
  · rw [if_pos heq, run_nil, heq]
    exact (writeSlot_self lit _ m src).symm
  · rw [if_neg heq]
    by_cases hdn : dest.nearLocal = true
    · rw [if_pos hdn]
      obtain ⟨i, hi⟩ := nearLocal_loc hdn
      subst hi
      have A := movenear_loads lit F cidx i src
      have S := A.sim m
      show Sim [t3, t5] (run lit F m (movenear cidx i src)) (writeSlot m (.loc i) (readSlot lit m src))
      refine ⟨fun x hx => ?_, S.up, S.cell, S.log, S.ok⟩
      simp only [writeSlot, upd]
      by_cases hxi : x = i
      · rw [if_pos hxi, hxi]; exact A.val m
      · rw [if_neg hxi]; exact S.regs x (by simp [hxi])
    · rw [if_neg hdn]
      by_cases hsn : src.nearLocal = true
      · rw [if_pos hsn]
        obtain ⟨j, hj⟩ := nearLocal_loc hsn
        subst hj
        have h5 : t5 ≠ j := fun h => as j rfl (by simp [h])
        have B := moveback_run lit F cidx m dest j t5 hc h5
        show Sim [t3, t5] (run lit F m (moveback cidx t5 dest j)) (writeSlot m dest (m.regs j))
        exact B.mono (by intro x hx; simp at hx; simp [hx])
      · rw [if_neg hsn, run_append]
        have A := movenear_loads lit F cidx t3 src
        have B := moveback_run lit F cidx (run lit F m (movenear cidx t3 src)) dest t3 t5 hc (Ne.symm h35)
        rw [A.val m] at B
        refine (B.mono (by intro x hx; simp at hx; simp [hx])).trans ?_
        exact writeSlot_sim dest _ t3 ((A.sim m).mono (by intro x hx; simp at hx; simp [hx])) (Or.inl (by simp))

/-- first fit from `r` returns the least register from `r` on that is not taken, or `r + fuel` when the search runs out -/
theorem firstFit_least (ra : RA) : ∀ fuel r,
    r ≤ firstFit ra fuel r ∧ firstFit ra fuel r ≤ r + fuel ∧ (∀ k, r ≤ k → k < firstFit ra fuel r → ra.taken k = true) ∧
    (firstFit ra fuel r < r + fuel → ra.taken (firstFit ra fuel r) = false)
  | 0, r => ⟨Nat.le_refl _, Nat.le_refl _, fun k h1 h2 => absurd h1 (Nat.not_le.2 h2), fun h => absurd h (Nat.lt_irrefl _)⟩
  | n + 1, r => by
    by_cases ht : ra.taken r = true
    · obtain ⟨h1, h2, h3, h4⟩ := firstFit_least ra n (r + 1)
      simp only [firstFit, ht, if_true]
      refine ⟨by omega, by omega, fun k hk hlt => ?_, fun h => h4 (by omega)⟩
      by_cases hkr : k = r
      · rw [hkr]; exact ht
      · exact h3 k (by omega) hlt
    · have hf : ra.taken r = false := by simpa using ht
      rw [firstFit, hf, if_neg Bool.false_ne_true]
      exact ⟨Nat.le_refl _, by omega, fun k h1 h2 => absurd h1 (Nat.not_le.2 h2), fun _ => hf⟩

/-- so when some register within the fuel is free, first fit returns a free one -/
theorem firstFit_free (ra : RA) (fuel r : Nat) (hf : ∃ k, r ≤ k ∧ k < r + fuel ∧ ra.taken k = false) :
    ra.taken (firstFit ra fuel r) = false := by
  obtain ⟨_, _, h3, h4⟩ := firstFit_least ra fuel r
  obtain ⟨k, hk1, hk2, hk3⟩ := hf
  refine h4 (Nat.lt_of_not_le fun hge => ?_)
  rw [h3 k hk1 (by omega)] at hk3
  exact Bool.noConfusion hk3

theorem taken_mark (ra : RA) (r : Nat) : (ra.mark r).taken r = true := by simp [RA.taken, RA.mark]

theorem taken_mark_mono (ra : RA) (r k : Nat) (h : ra.taken k = true) : (ra.mark r).taken k = true := by
  simp only [RA.taken, RA.mark] at *
  by_cases hk : k = r <;> simp_all

/-- Temporaries handed out for two tags that are held at the same time are distinct near registers, and neither is a
    register that was allocated before (`taken` includes the reserved range 0xF0..0xFF, so a first-fit temporary is never a
    reserved one, and a reserved one 0xF0+tag is never a first-fit one).  `hfree*`: the search does find a free register
    within its fuel (the compiler gives up at 0x10000 registers). -/
theorem regtemp_disjoint (ra : RA) (fuel tag1 tag2 : Nat) (ht : tag1 ≠ tag2) (h1 : tag1 < 8) (h2 : tag2 < 8)
    (hfree1 : ∃ k, k < fuel ∧ ra.taken k = false)
    (hfree2 : ∃ k, k < fuel ∧ ((regallocTemp ra fuel tag1).2).taken k = false) :
    let r1 := (regallocTemp ra fuel tag1).1
    let ra1 := (regallocTemp ra fuel tag1).2
    let r2 := (regallocTemp ra1 fuel tag2).1
    r1 ≠ r2 ∧ r1 ≤ 0xFF ∧ r2 ≤ 0xFF ∧ (ra.alloc r1 = false ∨ 0xF0 ≤ r1) ∧ (ra.alloc r2 = false ∨ 0xF0 ≤ r2) := by
  intro r1 ra1 r2
  have hf1 : ra.taken (firstFit ra fuel 0) = false := by
    apply firstFit_free
    obtain ⟨k, hk, hk2⟩ := hfree1
    exact ⟨k, by omega, by omega, hk2⟩
  have hf2 : ra1.taken (firstFit ra1 fuel 0) = false := by
    apply firstFit_free
    obtain ⟨k, hk, hk2⟩ := hfree2
    exact ⟨k, by omega, by omega, hk2⟩
  have hmin1 := fun k => (firstFit_least ra fuel 0).2.2.1 k (Nat.zero_le k)
  -- the second first-fit register differs from the first one (which is marked in ra1) and is not taken in ra
  have hne : firstFit ra1 fuel 0 ≠ firstFit ra fuel 0 := by
    intro e
    have := taken_mark ra (firstFit ra fuel 0)
    have h' : ra1.taken (firstFit ra fuel 0) = true := this
    rw [← e] at h'
    rw [h'] at hf2
    exact Bool.noConfusion hf2
  have hnt2 : ra.taken (firstFit ra1 fuel 0) = false := by
    cases h : ra.taken (firstFit ra1 fuel 0) with
    | false => rfl
    | true =>
      have := taken_mark_mono ra (firstFit ra fuel 0) _ h
      have h' : ra1.taken (firstFit ra1 fuel 0) = true := this
      rw [h'] at hf2
      exact Bool.noConfusion hf2
  -- everything below the first first-fit register is taken in ra, hence in ra1: the second one is above it
  have hgt : firstFit ra fuel 0 < firstFit ra1 fuel 0 := by
    rcases Nat.lt_trichotomy (firstFit ra1 fuel 0) (firstFit ra fuel 0) with hlt | heq | hgt
    · have := hmin1 _ hlt
      rw [this] at hnt2
      exact Bool.noConfusion hnt2
    · exact absurd heq hne
    · exact hgt
  have hres1 : ¬ (0xF0 ≤ firstFit ra fuel 0 ∧ firstFit ra fuel 0 ≤ 0xFF) := by
    intro h
    simp [RA.taken, h.1, h.2] at hf1
  have hres2 : ¬ (0xF0 ≤ firstFit ra1 fuel 0 ∧ firstFit ra1 fuel 0 ≤ 0xFF) := by
    intro h
    simp [RA.taken, h.1, h.2] at hnt2
  have ha1 : ra.alloc (firstFit ra fuel 0) = false := by
    simp [RA.taken] at hf1; exact hf1.1
  have ha2 : ra.alloc (firstFit ra1 fuel 0) = false := by
    simp [RA.taken] at hnt2; exact hnt2.1
  -- a temporary is either a register that was free (first fit) or a reserved one, which first fit never hands out
  show (regallocTemp ra fuel tag1).1 ≠ (regallocTemp ra1 fuel tag2).1 ∧ (regallocTemp ra fuel tag1).1 ≤ 0xFF ∧
    (regallocTemp ra1 fuel tag2).1 ≤ 0xFF ∧ (ra.alloc (regallocTemp ra fuel tag1).1 = false ∨ 0xF0 ≤ (regallocTemp ra fuel tag1).1) ∧
    (ra.alloc (regallocTemp ra1 fuel tag2).1 = false ∨ 0xF0 ≤ (regallocTemp ra1 fuel tag2).1)
  simp only [regallocTemp]
  by_cases c1 : firstFit ra fuel 0 > 0xFF <;> by_cases c2 : firstFit ra1 fuel 0 > 0xFF <;> simp only [c1, c2, if_true, if_false]
  · exact ⟨by omega, by omega, by omega, Or.inr (by omega), Or.inr (by omega)⟩
  · exact absurd hgt (by omega)
  · exact ⟨by omega, by omega, by omega, Or.inl ha1, Or.inr (by omega)⟩
  · exact ⟨by omega, by omega, by omega, Or.inl ha1, Or.inl ha2⟩

theorem firstFit_congr (a b : RA) (h : ∀ x, a.alloc x = b.alloc x) : ∀ fuel r, firstFit a fuel r = firstFit b fuel r := by
  intro fuel
  induction fuel with
  | zero => intro r; rfl
  | succ n ih => intro r; simp only [firstFit, RA.taken, h, ih] <;> rfl

/-- the stateful `janetc_regalloc_temp` of the correspondence model returns the register described by `regallocTemp` and
    marks the same register: `regtemp_disjoint` speaks about the function that is compared with regalloc.c -/
theorem allocTemp_eq (ra : RA) (tag : Nat) :
    (ra.allocTemp tag).1 = (regallocTemp ra searchFuel tag).1 ∧
    ∀ x, (ra.allocTemp tag).2.alloc x = (regallocTemp ra searchFuel tag).2.alloc x := by
  have hc := firstFit_congr { ra with temps := fun j => if j = tag then true else ra.temps j } ra (fun _ => rfl) searchFuel 0
  simp only [RA.allocTemp, RA.alloc1, regallocTemp, hc]
  constructor
  · split <;> rfl
  · intro x; split <;> rfl

end JanetModel.Emit
