/- C10 (PEG): generic soundness of the verifier in `peg_unmarshal` with respect to the operand uses of `peg_rule`. -/
import JanetModel.PegVerify.Defs
namespace JanetModel.PegVerify

/-- what `peg_rule` needs at an instruction index `i` it evaluates -/
structure InstrSafe (T : PegTables) (bc : List Nat) (nc : Nat) (starts : List Nat) (i : Nat) : Prop where
  inBounds : i + (T.urow (word bc i)).maxOperand < bc.length
  rules : ∀ k ∈ (T.urow (word bc i)).ruleOps, word bc (i + k) ∈ starts
  consts : ∀ k ∈ (T.urow (word bc i)).constOps, word bc (i + k) < nc
  signedIdx : ∀ k ∈ (T.urow (word bc i)).signedIndexOps, word bc (i + k) < 2147483648
  list : (T.urow (word bc i)).listRules = true → ∀ j, j < word bc (i + 1) → i + 2 + j < bc.length ∧ word bc (i + 2 + j) ∈ starts
  literal : (T.urow (word bc i)).literal = true → i + 2 + (word bc (i + 1) + 3) / 4 ≤ bc.length

theorem scan_spec (T : PegTables) (bc : List Nat) (nc : Nat) :
    ∀ (fuel i : Nat) (st : List Nat) (e : Nat) (st' : List Nat), scan T bc nc fuel i st = some (e, st') →
      (∀ j ∈ st, j ∈ st') ∧ (∀ j ∈ st', j ∈ st ∨ (j < bc.length ∧ localOk T bc nc j = true)) ∧ (i < bc.length → i ∈ st') := by
  intro fuel
  induction fuel with
  | zero => intro i st e st' h; simp [scan] at h
  | succ n ih =>
    intro i st e st' h
    simp only [scan] at h
    by_cases hi : i ≥ bc.length
    · rw [if_pos hi] at h
      injection h with h; injection h with h1 h2
      subst h2
      exact ⟨fun j hj => hj, fun j hj => Or.inl hj, fun hlt => absurd hi (by omega)⟩
    · rw [if_neg hi] at h
      by_cases hl : localOk T bc nc i = true
      · rw [if_pos hl] at h
        obtain ⟨h1, h2, _⟩ := ih _ _ _ _ h
        refine ⟨fun j hj => h1 j (List.mem_cons_of_mem _ hj), ?_, fun _ => h1 i (List.mem_cons_self)⟩
        intro j hj
        rcases h2 j hj with hc | hc
        · rcases List.mem_cons.mp hc with rfl | hc'
          · exact Or.inr ⟨by omega, hl⟩
          · exact Or.inl hc'
        · exact Or.inr hc
      · rw [if_neg hl] at h; exact absurd h (by simp)

theorem vrow_known_lt (T : PegTables) (op : Nat) (h : (T.vrow op).known = true) : op < T.count := by
  unfold PegTables.vrow PegTables.count at *
  by_cases hlt : op < T.vrows.length
  · exact hlt
  · have : T.vrows.getD op {} = ({} : VRow) := by
      simp [List.getD, List.getElem?_eq_none (by omega : T.vrows.length ≤ op)]
    rw [this] at h
    exact absurd h (by decide)

/-- **peg_verify_sound** (generic): for any tables that pass `PegTables.consistent`, bytecode accepted by the verifier has a
    set of instruction starts containing the entry point 0, closed under every rule offset `peg_rule` follows, and at every
    start the fixed operand words up to `maxOperand`, every list element and the literal payload are inside the bytecode and
    all constant indices are below `num_constants`. -/
theorem peg_verify_sound_generic (T : PegTables) (hT : T.consistent = true) (bc : List Nat) (nc : Nat)
    (hv : pegVerify T bc nc = true) :
    ∃ starts : List Nat, 0 ∈ starts ∧ ∀ i ∈ starts, i < bc.length ∧ InstrSafe T bc nc starts i := by
  simp only [PegTables.consistent, Bool.and_eq_true, List.all_eq_true, List.mem_range] at hT
  obtain ⟨⟨⟨hE, hM⟩, hN⟩, hrows⟩ := hT
  unfold pegVerify at hv
  cases hs : scan T bc nc (bc.length + 1) 0 [] with
  | none => rw [hs] at hv; simp at hv
  | some p =>
    obtain ⟨e, st⟩ := p
    rw [hs] at hv
    simp only [hE, hM, hN, Bool.not_true, Bool.false_or, Bool.and_eq_true, List.all_eq_true, decide_eq_true_eq,
      List.contains_iff_mem] at hv
    obtain ⟨⟨_, hmarks⟩, hpos⟩ := hv
    obtain ⟨_, hst, h0⟩ := scan_spec T bc nc _ _ _ _ _ hs
    refine ⟨st, h0 hpos, ?_⟩
    intro i hi
    rcases hst i hi with hnil | ⟨hlt, hloc⟩
    · exact absurd hnil (by simp)
    refine ⟨hlt, ?_⟩
    simp only [localOk, Bool.and_eq_true, decide_eq_true_eq, List.all_eq_true] at hloc
    obtain ⟨⟨⟨⟨⟨⟨⟨hk, hneed⟩, hvar⟩, hcr⟩, hcc⟩, hnn⟩, _⟩, hlist⟩ := hloc
    have hop := vrow_known_lt T _ hk
    have hrow := hrows _ hop
    simp only [rowOk, hk, Bool.not_true, Bool.false_or, Bool.and_eq_true, List.all_eq_true, decide_eq_true_eq,
      List.contains_iff_mem] at hrow
    obtain ⟨⟨⟨⟨⟨⟨⟨⟨⟨⟨⟨hw, hur⟩, _⟩, huc⟩, husi⟩, hul⟩, _⟩, hulit⟩, hmax⟩, _⟩, _⟩, hvar2⟩ := hrow
    have hm := hmarks i hi
    refine ⟨by omega, ?_, ?_, ?_, ?_, ?_⟩
    · intro k hk'
      apply hm
      simp only [marksAt, List.mem_append, List.mem_map]
      exact Or.inl ⟨k, hur k hk', rfl⟩
    · intro k hk'
      exact hcc k (huc k hk')
    · intro k hk'
      exact hnn k (husi k hk')
    · intro hl j hj
      simp only [hl, Bool.not_true, Bool.false_or, Bool.and_eq_true, beq_iff_eq] at hul
      obtain ⟨⟨⟨hv1, hv2⟩, hv3⟩, hv4⟩ := hul
      rw [hv1] at hvar hvar2
      simp [hv2] at hvar hvar2
      simp only [hv1, hv3, beq_self_eq_true, Bool.and_self, Bool.not_true, Bool.false_or, List.all_eq_true, List.mem_range,
        decide_eq_true_eq] at hlist
      have hlj := hlist j hj
      refine ⟨by omega, ?_⟩
      apply hm
      simp only [marksAt, hv1, hv4, beq_self_eq_true, Bool.and_self, if_true, List.mem_append, List.mem_map, List.mem_range]
      exact Or.inr ⟨j, hj, rfl⟩
    · intro hl
      simp only [hl, Bool.not_true, Bool.false_or, Bool.and_eq_true, beq_iff_eq] at hulit
      obtain ⟨hv1, hv2⟩ := hulit
      rw [hv1] at hvar hvar2
      simp [hv2] at hvar hvar2
      omega

/-- the rule offsets `peg_rule` follows from instruction `i` -/
inductive Follows (T : PegTables) (bc : List Nat) : Nat → Nat → Prop
  | op (i k : Nat) : k ∈ (T.urow (word bc i)).ruleOps → Follows T bc i (word bc (i + k))
  | list (i j : Nat) : (T.urow (word bc i)).listRules = true → j < word bc (i + 1) → Follows T bc i (word bc (i + 2 + j))

/-- every instruction index `peg_rule` can be called on, starting from `bytecode[0]` -/
inductive Reach (T : PegTables) (bc : List Nat) : Nat → Prop
  | entry : Reach T bc 0
  | step (i t : Nat) : Reach T bc i → Follows T bc i t → Reach T bc t

theorem reach_safe (T : PegTables) (hT : T.consistent = true) (bc : List Nat) (nc : Nat) (hv : pegVerify T bc nc = true) :
    ∃ starts : List Nat, ∀ i, Reach T bc i → i ∈ starts ∧ i < bc.length ∧ InstrSafe T bc nc starts i := by
  obtain ⟨st, h0, hall⟩ := peg_verify_sound_generic T hT bc nc hv
  refine ⟨st, ?_⟩
  intro i hr
  have hmem : i ∈ st := by
    induction hr with
    | entry => exact h0
    | step i t _ hf ih =>
      have hs := (hall i ih).2
      cases hf with
      | op k hk => exact hs.rules k hk
      | list j hl hj => exact (hs.list hl j hj).2
  exact ⟨hmem, hall i hmem⟩

end JanetModel.PegVerify
