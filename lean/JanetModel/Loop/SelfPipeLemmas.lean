/- C20 — facts about the self-pipe machine (Loop/SelfPipe.lean): the handler conserves events and, when it reads again after
   every successful read, drains the pipe; `NoStrand` (the pipe is empty or its edge is pending) is kept by every step; a poll
   leaves the pipe empty.  Core Lean only. -/
import JanetModel.Loop.SelfPipe
import JanetModel.Util.List
namespace JanetModel.Loop.SelfPipe

theorem handle_conserve (cfg : Cfg) : ∀ fuel pipe d, (handle cfg fuel pipe d).1 + (handle cfg fuel pipe d).2 = pipe + d
  | 0, pipe, d => by simp [handle]
  | fuel + 1, pipe, d => by
    by_cases hp : pipe = 0
    · simp [handle, hp]
    · by_cases hr : cfg.recur = true
      · have ih := handle_conserve cfg fuel (pipe - min cfg.batch pipe) (d + min cfg.batch pipe)
        simp only [handle, if_neg hp, hr, if_true]
        omega
      · simp only [handle, if_neg hp, hr]
        simp
        omega

theorem handle_drains (cfg : Cfg) (hr : cfg.recur = true) (hb : 1 ≤ cfg.batch) : ∀ fuel pipe d, pipe ≤ fuel → (handle cfg fuel pipe d).1 = 0
  | 0, pipe, d, h => by
    have : pipe = 0 := by omega
    simp [handle, this]
  | fuel + 1, pipe, d, h => by
    by_cases hp : pipe = 0
    · simp [handle, hp]
    · simp only [handle, if_neg hp, hr, if_true]
      exact handle_drains cfg hr hb fuel _ _ (by omega)

theorem run_eq_foldl (cfg : Cfg) : ∀ (evs : List Ev) (p : P), run cfg p evs = evs.foldl (step cfg) p
  | [], _ => rfl
  | e :: es, p => run_eq_foldl cfg es (step cfg p e)

theorem run_append (cfg : Cfg) (a b : List Ev) (p : P) : run cfg p (a ++ b) = run cfg (run cfg p a) b := by
  simp only [run_eq_foldl, List.foldl_append]

theorem run_inv (cfg : Cfg) {Q : P → Prop} (hstep : ∀ p e, Q p → Q (step cfg p e)) (evs : List Ev) (p : P) (h : Q p) :
    Q (run cfg p evs) :=
  run_eq_foldl cfg evs p ▸ Util.foldl_inv hstep evs p h

/-- "no event is stranded": the pipe is empty or its edge is still pending -/
def NoStrand (p : P) : Prop := p.pipe = 0 ∨ p.armed = true

/-- a poll leaves the pipe empty: a reported pipe is drained, an unreported one was empty -/
theorem poll_empties (cfg : Cfg) (hr : cfg.recur = true) (hb : 1 ≤ cfg.batch) (p : P) (h : NoStrand p) : (step cfg p .poll).pipe = 0 := by
  simp only [step]
  by_cases hrep : reported cfg p = true
  · rw [if_pos hrep]
    exact handle_drains cfg hr hb p.pipe p.pipe p.delivered (Nat.le_refl _)
  · rw [if_neg hrep]
    rcases h with h | h
    · exact h
    · -- armed, yet not reported: only possible level-triggered with an empty pipe
      unfold reported at hrep
      by_cases he : cfg.edge = true
      · simp [he, h] at hrep
      · simp [he] at hrep; exact hrep

theorem run_noStrand (cfg : Cfg) (hr : cfg.recur = true) (hb : 1 ≤ cfg.batch) (evs : List Ev) : NoStrand (run cfg init evs) :=
  run_inv cfg (fun p e h => by
    cases e with
    | write => right; simp [step]
    | poll => exact .inl (poll_empties cfg hr hb p h)) evs init (.inl rfl)

theorem run_writes (cfg : Cfg) : ∀ (k : Nat) (p : P),
    run cfg p (List.replicate (k + 1) .write) =
      { pipe := p.pipe + (k + 1), armed := true, written := p.written + (k + 1), delivered := p.delivered }
  | 0, p => by simp [run, step]
  | k + 1, p => by
    rw [List.replicate_succ]
    simp only [run]
    rw [run_writes cfg k]
    simp [step]
    omega

theorem run_polls_unarmed (cfg : Cfg) (he : cfg.edge = true) : ∀ (n : Nat) (p : P), p.armed = false →
    run cfg p (List.replicate n .poll) = p
  | 0, p, _ => rfl
  | n + 1, p, h => by
    rw [List.replicate_succ]
    simp only [run, step, reported, he, h, if_true]
    simp
    exact run_polls_unarmed cfg he n p h

end JanetModel.Loop.SelfPipe
