/- C20 — the replay of a descriptor path (Loop/FdPaths.lean) counts: one event changes the number of descriptors held in C
   locals by its `delta`.  Core Lean only. -/
import JanetModel.Loop.FdPaths
import JanetModel.Loop.ModelLemmas
namespace JanetModel.FdPaths

theorem step_length {held h1 : List String} {e : PEv} (hs : step held e = some h1) : (h1.length : Int) = held.length + delta e := by
  unfold step at hs
  unfold delta
  by_cases c1 : e.1 = "create"
  · simp only [c1, if_true] at hs ⊢
    by_cases m : e.2.1 ∈ held
    · simp [m] at hs
    · simp [m] at hs; subst hs; simp
  · simp only [c1, if_false] at hs ⊢
    by_cases c2 : e.1 = "close" ∨ e.1 = "wrap"
    · simp only [c2, if_true] at hs ⊢
      by_cases m : e.2.1 ∈ held
      · simp [m] at hs; subst hs; have := Loop.len_erase m; omega
      · simp [m] at hs
    · simp only [c2, if_false] at hs ⊢
      by_cases c3 : e.1 = "move"
      · simp only [c3, if_true] at hs
        by_cases m : e.2.1 ∈ held ∧ e.2.2.1 ∉ held.erase e.2.1
        · rw [if_pos m] at hs; simp at hs; subst hs
          have := Loop.len_erase m.1
          simp only [List.length_cons]; omega
        · rw [if_neg m] at hs; simp at hs
      · simp only [c3, if_false] at hs
        by_cases c4 : e.1 = "release"
        · simp [c4] at hs; subst hs; simp
        · simp [c4] at hs

end JanetModel.FdPaths
