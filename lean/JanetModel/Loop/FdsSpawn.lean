/-
C20 — os_execute_impl keeps the descriptor-ownership discipline for every combination of redirections and failures
(proof file).  The three stdio slots use disjoint locals, so the check runs slot by slot: the creating calls leave exactly the
locals `held` names, the closes after the spawn leave `news`, and every exit path releases what is left.
-/
import JanetModel.Loop.FdsLemmas

namespace JanetModel.Fds

theorem check_slotPipes (v : SlotVars) (hv : v.new ≠ v.pipe) (s : Slot) (l : List Var) (hp : v.pipe ∉ l) (hn : v.new ∉ l) :
    check l (slotPipes v s) = some (if s.hasPipe then v.new :: v.pipe :: l else l) := by
  cases s <;> simp [slotPipes, makePipe, check, checkStep, Slot.hasPipe, hp, hn, hv, hv.symm]

theorem check_slotTmp (v : SlotVars) (e : Bool) (s : Slot) (l : List Var) (ht : v.tmp ∉ l) :
    check l (slotTmp v e s) = some (if s.hasTmp e then v.tmp :: l else l) := by
  cases s <;> cases e <;> simp [slotTmp, check, checkStep, Slot.hasTmp, ht]

/-- the locals held once the pipes and the duplicates have been created -/
def held (pa pb pc ta tb tc : Bool) : List Var :=
  let l := if pa then [Var.newIn, .pipeIn] else []
  let l := if pb then .newOut :: .pipeOut :: l else l
  let l := if pc then .newErr :: .pipeErr :: l else l
  let l := if ta then .tmp0 :: l else l
  let l := if tb then .tmp1 :: l else l
  if tc then .tmp2 :: l else l

theorem check_create (a b c : Slot) (e0 e1 e2 : Bool) (rest : List Prim) :
    check [] (slotPipes slotIn a ++ (slotPipes slotOut b ++ (slotPipes slotErr c ++
      (slotTmp slotIn e0 a ++ (slotTmp slotOut e1 b ++ (slotTmp slotErr e2 c ++ rest)))))) =
    check (held a.hasPipe b.hasPipe c.hasPipe (a.hasTmp e0) (b.hasTmp e1) (c.hasTmp e2)) rest := by
  rw [check_append, check_slotPipes slotIn (by decide) a [] (by simp) (by simp), Option.bind_some]
  generalize a.hasPipe = pa
  rw [check_append, check_slotPipes slotOut (by decide) b _ (by cases pa <;> decide) (by cases pa <;> decide), Option.bind_some]
  generalize b.hasPipe = pb
  rw [check_append, check_slotPipes slotErr (by decide) c _ (by cases pa <;> cases pb <;> decide)
    (by cases pa <;> cases pb <;> decide), Option.bind_some]
  generalize c.hasPipe = pc
  rw [check_append, check_slotTmp slotIn e0 a _ (by cases pa <;> cases pb <;> cases pc <;> decide), Option.bind_some]
  generalize a.hasTmp e0 = ta
  rw [check_append, check_slotTmp slotOut e1 b _ (by cases pa <;> cases pb <;> cases pc <;> cases ta <;> decide), Option.bind_some]
  generalize b.hasTmp e1 = tb
  rw [check_append, check_slotTmp slotErr e2 c _ (by cases pa <;> cases pb <;> cases pc <;> cases ta <;> cases tb <;> decide),
    Option.bind_some]
  rfl

theorem check_closeTmps (pa pb pc ta tb tc : Bool) (n : String) (rest : List Prim) :
    check (held pa pb pc ta tb tc) (closeIf ta n .tmp0 ++ (closeIf tb n .tmp1 ++ (closeIf tc n .tmp2 ++ rest))) =
    check (held pa pb pc false false false) rest := by
  cases ta <;> cases tb <;> cases tc <;> rfl

/-- the locals held after the spawn: our ends of the pipes -/
def news (pa pb pc : Bool) : List Var :=
  let l := if pa then [Var.newIn] else []
  let l := if pb then .newOut :: l else l
  if pc then .newErr :: l else l

theorem check_closeAfterSpawn : ∀ pa pb pc ta tb tc : Bool,
    check (held pa pb pc ta tb tc) (closeIf pa "close($1)" .pipeIn ++ closeIf pb "close($2)" .pipeOut ++
      closeIf pc "close($3)" .pipeErr ++ closeIf ta "close($6[$5])#2" .tmp0 ++ closeIf tb "close($6[$5])#2" .tmp1 ++
      closeIf tc "close($6[$5])#2" .tmp2) = some (news pa pb pc) := by
  decide

theorem check_afterSpawn (pa pb pc ta tb tc : Bool) (rest : List Prim) :
    check (held pa pb pc ta tb tc) (closeIf pa "close($1)" .pipeIn ++ (closeIf pb "close($2)" .pipeOut ++
      (closeIf pc "close($3)" .pipeErr ++ (closeIf ta "close($6[$5])#2" .tmp0 ++ (closeIf tb "close($6[$5])#2" .tmp1 ++
        (closeIf tc "close($6[$5])#2" .tmp2 ++ rest)))))) = check (news pa pb pc) rest := by
  simp only [← List.append_assoc]
  rw [check_append, check_closeAfterSpawn, Option.bind_some]

theorem check_slotStdio_ok {cfg : Cfg} {v : SlotVars} {o : Oid} {cl : List Prim} {s : Slot}
    (h : (slotStdio cfg v o cl s).2 = true) (l : List Var) (rest : List Prim) (hd : v.dup ∉ l) (hn : s.hasPipe = true → v.new ∈ l) :
    check l ((slotStdio cfg v o cl s).1 ++ rest) = check (if s.hasPipe then l.erase v.new else l) rest := by
  cases s <;> simp [slotStdio, check, checkStep, hd, Slot.hasPipe] at h hn ⊢
  rw [if_pos hn]

theorem slotStdio_fail {cfg : Cfg} (hc : cfg.spawnStdioFailCloses = true) {v : SlotVars} {o : Oid} {cl : List Prim} {s : Slot}
    (h : (slotStdio cfg v o cl s).2 = false) :
    s.hasPipe = false ∧ (slotStdio cfg v o cl s).1 = cl ++ [.leave [S fnX "janet_panic(failedtoconstructproc)"]] := by
  cases s <;> simp [slotStdio, hc, Slot.hasPipe] at h ⊢

theorem check_stdioIn {cfg : Cfg} {o : Oid} {cl : List Prim} {a : Slot} (h : (slotStdio cfg slotIn o cl a).2 = true)
    (pb pc : Bool) (rest : List Prim) :
    check (news a.hasPipe pb pc) ((slotStdio cfg slotIn o cl a).1 ++ rest) = check (news false pb pc) rest := by
  rw [check_slotStdio_ok h]
  all_goals generalize a.hasPipe = pa
  · cases pa <;> cases pb <;> cases pc <;> rfl
  · cases pa <;> cases pb <;> cases pc <;> decide
  · intro h'; subst h'; cases pb <;> cases pc <;> decide

theorem check_stdioOut {cfg : Cfg} {o : Oid} {cl : List Prim} {b : Slot} (h : (slotStdio cfg slotOut o cl b).2 = true)
    (pc : Bool) (rest : List Prim) :
    check (news false b.hasPipe pc) ((slotStdio cfg slotOut o cl b).1 ++ rest) = check (news false false pc) rest := by
  rw [check_slotStdio_ok h]
  all_goals generalize b.hasPipe = pb
  · cases pb <;> cases pc <;> rfl
  · cases pb <;> cases pc <;> decide
  · intro h'; subst h'; cases pc <;> decide

theorem check_stdioErr {cfg : Cfg} {o : Oid} {cl : List Prim} {c : Slot} (h : (slotStdio cfg slotErr o cl c).2 = true)
    (rest : List Prim) :
    check (news false false c.hasPipe) ((slotStdio cfg slotErr o cl c).1 ++ rest) = check [] rest := by
  rw [check_slotStdio_ok h]
  all_goals generalize c.hasPipe = pc
  · cases pc <;> rfl
  · cases pc <;> decide
  · intro h'; subst h'; decide

theorem Slot.hasPipe_le_isPipe (s : Slot) (h : s.isPipe = false) : s.hasPipe = false := by cases s <;> first | rfl | cases h

theorem osExecuteShape_ok (isSpawn argsOk spawnOk : Bool) (a b c : Slot) :
    check [] (osExecuteShape Cfg.fixed isSpawn argsOk spawnOk a b c) = some [] := by
  cases argsOk
  · rfl
  simp only [osExecuteShape, Cfg.fixed, Bool.not_true, Bool.and_false, Bool.false_eq_true, if_false]
  -- where the loop over `tmp_handles` stopped does not matter: creation and clean-up consult the same flags
  generalize (a.isPipe && a.err || b.isPipe && b.err || c.isPipe && c.err) = e0
  generalize (e0 || a.err && !e0) = e1
  generalize (e1 || b.err && !e1) = e2
  generalize (e2 || c.err && !e2) = e3
  by_cases hp : (!isSpawn && (a.isPipe || b.isPipe || c.isPipe)) = true
  · rw [if_pos hp]
    rfl
  rw [if_neg hp]
  simp only [List.append_assoc, apply_ite (check []), check_create, check_afterSpawn, Bool.not_eq_true']
  cases e3
  case true =>
    rw [if_pos rfl, check_closeTmps]
    generalize a.hasPipe = pa, b.hasPipe = pb, c.hasPipe = pc
    revert pa pb pc
    decide
  rw [if_neg Bool.false_ne_true]
  cases spawnOk
  · rw [if_pos rfl]
    generalize a.hasPipe = pa, b.hasPipe = pb, c.hasPipe = pc
    revert pa pb pc
    decide
  rw [if_neg (c := true = false) Bool.true_eq_false.mp]
  cases isSpawn
  · rw [if_pos rfl]
    simp only [Bool.not_false, Bool.true_and, Bool.or_eq_true, not_or, Bool.not_eq_true] at hp
    rw [a.hasPipe_le_isPipe hp.1.1, b.hasPipe_le_isPipe hp.1.2, c.hasPipe_le_isPipe hp.2]
    rfl
  rw [if_neg (c := true = false) Bool.true_eq_false.mp]
  split
  · rename_i ha
    obtain ⟨ha, hl⟩ := slotStdio_fail rfl ha
    rw [hl, ha]
    generalize b.hasPipe = pb, c.hasPipe = pc
    revert pb pc
    decide
  have ha := check_stdioIn (eq_true_of_ne_false ‹_›)
  split
  · rename_i hb
    obtain ⟨hb, hl⟩ := slotStdio_fail rfl hb
    rw [ha, hl, hb]
    generalize c.hasPipe = pc
    revert pc
    decide
  have hb := check_stdioOut (eq_true_of_ne_false ‹_›)
  split
  · rename_i hc
    obtain ⟨hc, hl⟩ := slotStdio_fail rfl hc
    rw [ha, hb, hl, hc]
    rfl
  rw [ha, hb, check_stdioErr (eq_true_of_ne_false ‹_›)]
  rfl

theorem Slot.mem_all (a : Slot) : a ∈ Slot.all := by cases a <;> decide

theorem checkStep_reoid (g : Oid → Oid) (l : List Var) (p : Prim) : checkStep l (p.reoid g) = checkStep l p := by
  cases p <;> rfl

theorem check_reoid (g : Oid → Oid) : ∀ (ps : List Prim) (l : List Var), check l (ps.map (Prim.reoid g)) = check l ps
  | [], l => rfl
  | p :: ps, l => by
    simp only [List.map_cons, check, checkStep_reoid]
    cases checkStep l p with
    | none => rfl
    | some l1 => simp [check_reoid g ps l1]

/-- the finite check, read as a statement about every input -/
theorem check_of_osExecuteAllOk {cfg : Cfg} (h : osExecuteAllOk cfg = true) (isSpawn argsOk spawnOk : Bool) (a b c : Slot) :
    check [] (osExecuteShape cfg isSpawn argsOk spawnOk a b c) = some [] := by
  unfold osExecuteAllOk at h
  simp only [List.all_eq_true] at h
  have := h isSpawn (by cases isSpawn <;> simp) argsOk (by cases argsOk <;> simp) spawnOk (by cases spawnOk <;> simp)
    a (Slot.mem_all a) b (Slot.mem_all b) c (Slot.mem_all c)
  simpa using this

/-- os/spawn and os/execute: whatever the redirections are and whichever call fails, no local is left holding a descriptor and
    nothing is closed twice -/
theorem osExecute_ok (isSpawn argsOk spawnOk : Bool) (a b c : Slot) (oa ob oc : Oid) :
    check [] (osExecute Cfg.fixed isSpawn argsOk spawnOk a b c oa ob oc) = some [] := by
  unfold osExecute
  rw [check_reoid]
  exact osExecuteShape_ok isSpawn argsOk spawnOk a b c

/-- every API-level operation of the model keeps the discipline (fixed tree), for all its inputs -/
theorem op_ok (op : Op) : check [] (op.prog Cfg.fixed) = some [] := by
  cases op with
  | osPipe a b c o1 o2 => exact osPipe_ok a b c o1 o2
  | osOpen a b o => exact osOpen_ok a b o
  | watcherInit a o => exact watcherInit_ok a o
  | watcherUnlisten o => exact watcherUnlisten_ok o
  | toFile a b c o => exact toFile_ok a b c o
  | streamMarshal a b m => exact streamMarshal_ok a b m
  | ioFopen a b c d e o => exact ioFopen_ok a b c d e o
  | ioTemp a o => exact ioTemp_ok a o
  | netAccept a o => exact netAccept_ok a o
  | netConnect a b c d e f o => exact netConnect_ok a b c d e f o
  | netListen a b c d t f g h o => exact netListen_ok a b c d t f g h o
  | streamClose o => exact streamClose_ok o
  | streamGc o => exact streamGc_ok o
  | fileClose o => exact fileClose_ok o
  | fileGc o => exact fileGc_ok o
  | procClose a b c => exact procClose_ok a b c
  | osExecute s a k x y z oa ob oc => exact osExecute_ok s a k x y z oa ob oc
  | evInit a b c d => exact evInit_ok a b c d
  | evDeinit a b c d => exact evDeinit_ok a b c d

/-- any sequence of operations runs without an ownership violation and ends with no local holding a descriptor -/
theorem progs_run (ext : List Fd) : ∀ (ops : List Op) {s : St}, Inv ext s → s.loose = [] →
    ∃ s', exec s (progs Cfg.fixed ops) = some s' ∧ s'.loose = [] ∧ Inv ext s'
  | [], s, hi, hl => ⟨s, rfl, hl, hi⟩
  | op :: ops, s, hi, hl => by
    have hc : check s.loose (op.prog Cfg.fixed) = some [] := hl ▸ op_ok op
    obtain ⟨s1, h1, hl1⟩ := exec_of_check (op.prog Cfg.fixed) hc
    have hi1 := exec_inv ext _ hi h1
    obtain ⟨s2, h2, hl2, hi2⟩ := progs_run ext ops hi1 hl1
    refine ⟨s2, ?_, hl2, hi2⟩
    simp only [progs, exec_append, h1, Option.bind_some, h2]

end JanetModel.Fds
