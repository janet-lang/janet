/- C20 — facts about the event-loop machine (Loop/Model.lean) that do not mention a particular invariant: what every transition
   preserves holds along every run; `loopDone` spelt out; `dropStale` is `List.dropWhile`; list-length arithmetic of the
   transitions that erase.  Core Lean only. -/
import JanetModel.Loop.Model
namespace JanetModel.Loop

theorem len_erase {α} [DecidableEq α] {a : α} {l : List α} (h : a ∈ l) : ((l.erase a).length : Int) = (l.length : Int) - 1 := by
  have h1 := List.length_erase_of_mem h
  have h2 : 0 < l.length := List.length_pos_of_mem h
  omega

/-- the `sigs` list after `sigaction sig install` -/
theorem len_sigs (sig : Nat) (install : Bool) (l : List Nat) :
    (((if install then [sig] else []) ++ l.erase sig).length : Int) =
      l.length - (if sig ∈ l then 1 else 0) + (if install then 1 else 0) := by
  have := List.length_erase (a := sig) (l := l)
  have := @List.length_pos_of_mem _ sig l
  cases install <;> by_cases hm : sig ∈ l <;> simp [hm] at * <;> omega

theorem run_induction (cfg : Cfg) {P : St → Prop} (hstep : ∀ {s s' : St} {e : Ev}, P s → step cfg s e = some s' → P s') :
    ∀ (evs : List Ev) {s s' : St}, P s → run cfg s evs = some s' → P s'
  | [], s, s', hp, h => by cases h; exact hp
  | e :: es, s, s', hp, h => by
    simp only [run] at h
    split at h
    · cases h
    · exact run_induction cfg hstep es (hstep hp ‹_›) h

theorem loopDone_iff (s : St) : loopDone s = true ↔ s.runq = [] ∧ s.timers = [] ∧ s.lc = 0 := by
  unfold loopDone
  cases hq : s.runq <;> cases ht : s.timers <;> simp

theorem dropStale_eq_dropWhile (stale : Timer → Bool) : ∀ ts : List Timer, dropStale stale ts = ts.dropWhile stale
  | [] => rfl
  | t :: ts => by rw [dropStale, List.dropWhile_cons, dropStale_eq_dropWhile stale ts]

end JanetModel.Loop
