/-
C20 — executable model of descriptor ownership (src/core/ev.c, net.c, os.c, io.c, filewatch.c).  Core Lean only.

The kernel side is the process' descriptor table (`St.open`; `create` hands out the lowest free number, `close` removes a
number).  The janet side is *who is responsible for closing a descriptor*:

  * an open, closeable stream / file object (`St.objs`: object id ↦ descriptor; the VM's own self-pipe / epoll / timerfd and a
    dup travelling inside a marshalled message are objects too).  `janet_stream_close_impl` / `janet_file_close` — reached by an
    explicit close, by `os/proc-close`, by `janet_stream_close` on an error path, and by the finalisers `janet_stream_gc` /
    `cfun_io_gc` — close the descriptor iff the object still has one (`handle != -1`, not `CLOSED`) and forget it;
  * or a C local of the running function (`St.loose`, ghost: the C code has no such list) between the creating call and the
    `close` / the hand-over to an object (`janet_stream`, `make_stream`, `janet_makefile`).

One model function per C function that creates or closes descriptors: it maps the *inputs the model does not decide* (does
the libc call succeed, are the arguments well-typed, does bind / connect / posix_spawn succeed, …) to the sequence of
descriptor operations (`Prim`) the C function performs on that path, each tagged with the call site(s) it mirrors
(`Gen.Fds.fdSites` keys, innermost first).  `step` executes one operation and returns `none` at the statement where
ownership is violated: a local that still holds a descriptor is overwritten or the function is left (return / raise) while a
local still holds one (leak), or a descriptor is closed / handed over by a local that does not hold it (double close: the
number may by then belong to somebody else).  `stepRaw` is the kernel's view only (no ownership), used to exhibit leaks.
-/
import JanetModel.Gen.Fds

namespace JanetModel.Fds

abbrev Fd := Nat
/-- a call site: (function, key) as in `Gen.Fds.fdSites` -/
abbrev Site := String × String
abbrev Oid := Nat

/-- C locals / fields that hold a descriptor inside the modelled functions -/
inductive Var
  | h0 | h1                       -- janet_make_pipe: handles[0], handles[1] (os_pipe: fds[0], fds[1]; selfpipe)
  | pipeIn | pipeOut | pipeErr    -- os_execute_impl: child's ends of :pipe redirections
  | newIn | newOut | newErr       -- os_execute_impl: our ends
  | tmp0 | tmp1 | tmp2            -- os_execute_impl: close-on-exec duplicates of standard descriptors
  | dupIn | dupOut | dupErr       -- get_stdio_for_handle: newHandle
  | fd                            -- os_open, janet_watcher_init, accept (connfd), get_file_for_stream (fd_dup), stream marshal (duph)
  | f                             -- FILE* (fopen, fdopen, tmpfile)
  | sock                          -- cfun_net_connect / cfun_net_listen (sfd)
  | epoll | timerfd
  deriving DecidableEq, Repr

def maxl : List Nat → Nat
  | [] => 0
  | a :: l => max a (maxl l)

def lowestFrom (l : List Nat) : Nat → Nat → Nat
  | 0, _ => maxl l + 1
  | fuel + 1, n => if n ∈ l then lowestFrom l fuel (n + 1) else n

/-- the kernel hands out the lowest descriptor number that is not in use -/
def fresh (l : List Fd) : Fd := lowestFrom l (l.length + 1) 0

structure St where
  /-- the process' descriptor table -/
  «open» : List Fd
  /-- open closeable stream / file objects and the descriptor each owns -/
  objs : List (Oid × Fd)
  /-- C locals -/
  env : Var → Fd
  /-- locals holding a descriptor that no object owns yet -/
  loose : List Var

def St.init (ext : List Fd) : St := { «open» := ext, objs := [], env := fun _ => 0, loose := [] }

inductive Prim
  /-- a successful creating call stores the new descriptor in local `v` -/
  | create (site : List Site) (v : Var)
  /-- `close(v)` -/
  | close (site : List Site) (v : Var)
  /-- `janet_stream(v, …)` / `make_stream` / `janet_makefile`: the new object `o` takes over the descriptor -/
  | wrap (site : List Site) (v : Var) (o : Oid)
  /-- `w = fdopen(v, …)` succeeded: the FILE in `w` takes over descriptor `v` -/
  | move (site : List Site) (v w : Var)
  /-- `janet_stream_close_impl(o)` / `janet_file_close(o)`: close the object's descriptor if it still has one -/
  | closeObj (site : List Site) (o : Oid)
  /-- the C frame is left (return or janet_panic longjmp): its locals are gone -/
  | leave (site : List Site)
  deriving Repr

def Prim.site : Prim → List Site
  | .create s _ | .close s _ | .wrap s _ _ | .move s _ _ | .closeObj s _ | .leave s => s

def Prim.kind : Prim → String
  | .create .. => "create" | .close .. => "close" | .wrap .. => "wrap" | .move .. => "create"
  | .closeObj .. => "close" | .leave .. => "leave"

def setEnv (env : Var → Fd) (v : Var) (x : Fd) : Var → Fd := fun y => if y = v then x else env y

def step (s : St) : Prim → Option St
  | .create _ v =>
    if v ∈ s.loose then none
    else some { s with «open» := fresh s.open :: s.open, env := setEnv s.env v (fresh s.open), loose := v :: s.loose }
  | .close _ v =>
    if v ∈ s.loose then some { s with «open» := s.open.erase (s.env v), loose := s.loose.erase v } else none
  | .wrap _ v o =>
    if v ∈ s.loose then some { s with objs := (o, s.env v) :: s.objs, loose := s.loose.erase v } else none
  | .move _ v w =>
    if v ∈ s.loose ∧ w ∉ s.loose.erase v then
      some { s with env := setEnv s.env w (s.env v), loose := w :: s.loose.erase v }
    else none
  | .closeObj _ o =>
    match s.objs.lookup o with
    | none => some s
    | some x => some { s with «open» := s.open.erase x, objs := s.objs.erase (o, x) }
  | .leave _ => if s.loose = [] then some s else none

def exec : St → List Prim → Option St
  | s, [] => some s
  | s, p :: ps =>
    match step s p with
    | none => none
    | some s' => exec s' ps

/-- the kernel's view: what happens to the descriptor table, whoever owns what -/
def stepRaw (s : St) : Prim → St
  | .create _ v => { s with «open» := fresh s.open :: s.open, env := setEnv s.env v (fresh s.open), loose := v :: s.loose }
  | .close _ v => { s with «open» := s.open.erase (s.env v), loose := s.loose.erase v }
  | .wrap _ v o => { s with objs := (o, s.env v) :: s.objs, loose := s.loose.erase v }
  | .move _ v w => { s with env := setEnv s.env w (s.env v), loose := w :: s.loose.erase v }
  | .closeObj _ o =>
    match s.objs.lookup o with
    | none => s
    | some x => { s with «open» := s.open.erase x, objs := s.objs.erase (o, x) }
  | .leave _ => { s with loose := [] }

def execRaw (s : St) (ps : List Prim) : St := ps.foldl stepRaw s

/-- static ownership discipline: the same checks as `step`, on the list of held locals only -/
def checkStep (l : List Var) : Prim → Option (List Var)
  | .create _ v => if v ∈ l then none else some (v :: l)
  | .close _ v => if v ∈ l then some (l.erase v) else none
  | .wrap _ v _ => if v ∈ l then some (l.erase v) else none
  | .move _ v w => if v ∈ l ∧ w ∉ l.erase v then some (w :: l.erase v) else none
  | .closeObj _ _ => some l
  | .leave _ => if l = [] then some l else none

def check : List Var → List Prim → Option (List Var)
  | l, [] => some l
  | l, p :: ps =>
    match checkStep l p with
    | none => none
    | some l' => check l' ps

/-! ## tree-dependent switches, computed from the generated site table -/

def siteIdx (fn key : String) : Option Nat :=
  (Gen.Fds.fdSites.findIdx? (fun x => x.2.1 == fn && x.2.2.2.1 == key))

def hasSite (fn key : String) : Bool := (siteIdx fn key).isSome

/-- does site `a` come before site `b` in function `fn` (both must exist) -/
def siteBefore (fn a b : String) : Bool :=
  match siteIdx fn a, siteIdx fn b with
  | some i, some j => decide (i < j)
  | _, _ => false

structure Cfg where
  /-- os_execute_impl: every check that can raise (command line strings, :cd, non-pipe redirections) comes before the first
      make_pipes -/
  spawnChecksFirst : Bool
  /-- os_execute_impl: a failed get_stdio_for_handle closes the pipe ends no stream owns yet -/
  spawnStdioFailCloses : Bool
  /-- cfun_io_fopen: the buffer-size argument is checked before fopen -/
  fopenSizeFirst : Bool
  /-- cfun_io_fopen: a failed setvbuf closes the file -/
  fopenSetvbufCloses : Bool
  /-- cfun_net_connect: a failed connect closes the socket through the stream that owns it -/
  connectFailViaStream : Bool
  deriving Repr, DecidableEq

def Cfg.ofGen : Cfg :=
  { spawnChecksFirst :=
      siteBefore "os_execute_impl" "janet_getcstring" "make_pipes(&$1)" &&
      siteBefore "os_execute_impl" "janet_getjstream#3" "make_pipes(&$1)" &&
      siteBefore "os_execute_impl" "janet_panicf" "make_pipes(&$1)" &&
      siteBefore "os_execute_impl" "janet_getdictionary#2" "make_pipes(&$1)"
    spawnStdioFailCloses :=
      hasSite "os_execute_impl" "close_handle($8)#2" && hasSite "os_execute_impl" "close_handle($9)#2" &&
      hasSite "os_execute_impl" "close_handle($9)#3"
    fopenSizeFirst := siteBefore "cfun_io_fopen" "janet_optsize" "fopen((constchar*)$1)"
    fopenSetvbufCloses := hasSite "cfun_io_fopen" "fclose($2)#2"
    connectFailViaStream := hasSite "cfun_net_connect" "janet_stream_close($3)" }

def Cfg.fixed : Cfg := ⟨true, true, true, true, true⟩

/-! ## the C functions -/

def S (fn key : String) : Site := (fn, key)

/-- `janet_make_pipe(handles, mode)`: `pipe()`, then up to four `fcntl`s; `goto error` closes both ends.
    `outer` = the call chain above (who called janet_make_pipe).  Returns the operations and whether it returned 0. -/
def makePipe (outer : List Site) (a b : Var) (pipeOk fcntlOk : Bool) : List Prim × Bool :=
  if !pipeOk then ([], false)
  else
    let c := [Prim.create (S "janet_make_pipe" "pipe($1)" :: outer) a, .create (S "janet_make_pipe" "pipe($1)" :: outer) b]
    if fcntlOk then (c, true)
    else (c ++ [.close (S "janet_make_pipe" "close($1[0])" :: outer) a, .close (S "janet_make_pipe" "close($1[1])" :: outer) b], false)

/-- `os/pipe` -/
def osPipe (argsOk pipeOk fcntlOk : Bool) (o1 o2 : Oid) : List Prim :=
  if !argsOk then [.leave [S "os_pipe" "janet_getflags"]]
  else
    let (ps, ok) := makePipe [S "os_pipe" "janet_make_pipe($1)"] .h0 .h1 pipeOk fcntlOk
    if ok then ps ++ [.wrap [S "os_pipe" "janet_stream($1[0])"] .h0 o1, .wrap [S "os_pipe" "janet_stream($1[1])"] .h1 o2,
                      .leave [S "os_pipe" "return"]]
    else ps ++ [.leave [S "os_pipe" "janet_panicv"]]

/-- `os/open` -/
def osOpen (argsOk openOk : Bool) (o : Oid) : List Prim :=
  if !argsOk then [.leave [S "os_open" "janet_getcstring"]]
  else if !openOk then [.leave [S "os_open" "janet_panicv"]]
  else [.create [S "os_open" "open($1)"] .fd, .wrap [S "os_open" "janet_stream($2)"] .fd o, .leave [S "os_open" "return"]]

/-- `janet_watcher_init` (filewatch/new) -/
def watcherInit (initOk : Bool) (o : Oid) : List Prim :=
  if !initOk then [.leave [S "janet_watcher_init" "janet_panicv"]]
  else [.create [S "janet_watcher_init" "inotify_init1(IN_NONBLOCK|IN_CLOEXEC)"] .fd,
        .wrap [S "janet_watcher_init" "janet_stream($1)"] .fd o, .leave [S "janet_watcher_init" "return"]]

/-- `get_file_for_stream` (ev/to-file): `dup`, `fdopen`, `janet_makejfile` -/
def toFile (sandboxOk dupOk fdopenOk : Bool) (o : Oid) : List Prim :=
  if !sandboxOk then [.leave [S "get_file_for_stream" "janet_sandbox_assert"]]
  else if !dupOk then [.leave [S "get_file_for_stream" "return"]]
  else if fdopenOk then
    [.create [S "get_file_for_stream" "dup($1->handle)"] .fd, .move [S "get_file_for_stream" "fdopen($2)"] .fd .f,
     .wrap [S "janet_makejfile" "makef($1)", S "get_file_for_stream" "janet_makejfile($3)"] .f o, .leave [S "get_file_for_stream" "return"]]
  else
    [.create [S "get_file_for_stream" "dup($1->handle)"] .fd, .close [S "get_file_for_stream" "close($2)"] .fd,
     .leave [S "get_file_for_stream" "return"]]

/-- `janet_stream_marshal`: the dup'ed handle travels in the message (object `msg`) until `janet_stream_unmarshal` makes it
    the handle of a new stream -/
def streamMarshal (unsafeOk dupOk : Bool) (msg : Oid) : List Prim :=
  if !unsafeOk then [.leave [S "janet_stream_marshal" "janet_panic"]]
  else if !dupOk then [.leave [S "janet_stream_marshal" "janet_panicf"]]
  else [.create [S "janet_stream_marshal" "dup($1->handle)"] .fd, .wrap [S "janet_stream_marshal" "janet_marshal_int"] .fd msg,
        .leave [S "janet_stream_marshal" "return"]]

/-- `file/open` -/
def ioFopen (cfg : Cfg) (argsOk sizeOk fopenOk isDir setvbufOk : Bool) (o : Oid) : List Prim :=
  if !argsOk then [.leave [S "cfun_io_fopen" "janet_getstring"]]
  else if cfg.fopenSizeFirst && !sizeOk then [.leave [S "cfun_io_fopen" "janet_optsize"]]
  else if !fopenOk then [.leave [S "cfun_io_fopen" "return"]]
  else
    let c := Prim.create [S "cfun_io_fopen" "fopen((constchar*)$1)"] .f
    if isDir then [c, .close [S "cfun_io_fopen" "fclose($2)"] .f, .leave [S "cfun_io_fopen" "janet_panicf"]]
    else if !cfg.fopenSizeFirst && !sizeOk then [c, .leave [S "cfun_io_fopen" "janet_optsize"]]
    else if !setvbufOk then
      (if cfg.fopenSetvbufCloses then [c, .close [S "cfun_io_fopen" "fclose($2)#2"] .f, .leave [S "cfun_io_fopen" "janet_panic"]]
       else [c, .leave [S "cfun_io_fopen" "janet_panic"]])
    else [c, .wrap [S "janet_makefile" "makef($1)", S "cfun_io_fopen" "janet_makefile($2)"] .f o, .leave [S "cfun_io_fopen" "return"]]

/-- `file/temp` -/
def ioTemp (ok : Bool) (o : Oid) : List Prim :=
  if !ok then [.leave [S "cfun_io_temp" "janet_panicf"]]
  else [.create [S "cfun_io_temp" "tmpfile()"] .f, .wrap [S "janet_makefile" "makef($1)", S "cfun_io_temp" "janet_makefile($1)"] .f o,
        .leave [S "cfun_io_temp" "return"]]

/-- `net_callback_accept` on INIT / READ -/
def netAccept (acceptOk : Bool) (o : Oid) : List Prim :=
  if !acceptOk then [.leave [S "net_callback_accept" "break"]]
  else [.create [S "net_callback_accept" "accept4($1->handle)"] .fd,
        .wrap [S "make_stream" "janet_stream((JanetHandle)$1)", S "net_callback_accept" "make_stream($2)"] .fd o,
        .leave [S "net_callback_accept" "return"]]

/-- `net/connect` -/
def netConnect (cfg : Cfg) (argsOk isUnix sockOk hasBinding bindOk connectOk : Bool) (o : Oid) : List Prim :=
  if !argsOk then [.leave [S "cfun_net_connect" "janet_get_addrinfo"]]
  else if !sockOk then [.leave [S "cfun_net_connect" "janet_panicf"]]
  else
    let c := Prim.create [S "cfun_net_connect" (if isUnix then "socket(1)" else "socket($1->ai_family)")] .sock
    if hasBinding && !bindOk then [c, .close [S "cfun_net_connect" "close($2)"] .sock, .leave [S "cfun_net_connect" "janet_panicf#4"]]
    else
      let w := Prim.wrap [S "make_stream" "janet_stream((JanetHandle)$1)", S "cfun_net_connect" "make_stream($2)"] .sock o
      if connectOk then [c, w, .leave [S "cfun_net_connect" "net_sched_connect"]]
      else if cfg.connectFailViaStream then
        [c, w, .closeObj [S "janet_stream_close_impl" "close($1->handle)", S "janet_stream_close" "janet_stream_close_impl($1)",
                          S "cfun_net_connect" "janet_stream_close($3)"] o, .leave [S "cfun_net_connect" "janet_panicf#5"]]
      else [c, w, .close [S "cfun_net_connect" "close(sock)#2"] .sock, .leave [S "cfun_net_connect" "janet_panicf#5"]]

/-- one iteration of net/listen's loop over the address list that does not `break` -/
inductive ListenTry
  | sockFail | serverifyFail | bindFail
  deriving DecidableEq, Repr

def listenTry : ListenTry → List Prim
  | .sockFail => []
  | .serverifyFail => [.create [S "cfun_net_listen" "socket($2->ai_family)"] .sock, .close [S "cfun_net_listen" "close($1)#2"] .sock]
  | .bindFail => [.create [S "cfun_net_listen" "socket($2->ai_family)"] .sock, .close [S "cfun_net_listen" "close($1)#3"] .sock]

def listenTries : List ListenTry → List Prim
  | [] => []
  | t :: ts => listenTry t ++ listenTries ts

/-- `net/listen` -/
def netListen (argsOk isUnix sockOk setupOk : Bool) (tries : List ListenTry) (found isDgram listenOk : Bool) (o : Oid) : List Prim :=
  if !argsOk then [.leave [S "cfun_net_listen" "janet_get_addrinfo"]]
  else
    let tail : List Prim :=
      if isDgram then [.wrap [S "make_stream" "janet_stream((JanetHandle)$1)", S "cfun_net_listen" "make_stream($1)"] .sock o,
                       .leave [S "cfun_net_listen" "return"]]
      else if listenOk then [.wrap [S "make_stream" "janet_stream((JanetHandle)$1)", S "cfun_net_listen" "make_stream($1)#2"] .sock o,
                             .leave [S "cfun_net_listen" "return"]]
      else [.close [S "cfun_net_listen" "close($1)#4"] .sock, .leave [S "cfun_net_listen" "janet_panicf#3"]]
    if isUnix then
      if !sockOk then [.leave [S "cfun_net_listen" "janet_panicf"]]
      else if !setupOk then [.create [S "cfun_net_listen" "socket(1)"] .sock, .close [S "cfun_net_listen" "close($1)"] .sock,
                             .leave [S "cfun_net_listen" "janet_panic"]]
      else .create [S "cfun_net_listen" "socket(1)"] .sock :: tail
    else
      listenTries tries ++
        (if found then .create [S "cfun_net_listen" "socket($2->ai_family)"] .sock :: tail
         else [.leave [S "cfun_net_listen" "janet_panic#2"]])

/-- explicit close (`ev/close`, `:close`), `janet_stream_close` on the object, and the finaliser `janet_stream_gc` -/
def streamClose (o : Oid) : List Prim :=
  [.closeObj [S "janet_stream_close_impl" "close($1->handle)", S "janet_stream_close" "janet_stream_close_impl($1)",
              S "janet_cfun_stream_close" "janet_stream_close($1)"] o, .leave [S "janet_cfun_stream_close" "return"]]

def streamGc (o : Oid) : List Prim :=
  [.closeObj [S "janet_stream_close_impl" "close($1->handle)", S "janet_stream_gc" "janet_stream_close_impl($1)"] o,
   .leave [S "janet_stream_gc" "return"]]

/-- `file/close` and the finaliser `cfun_io_gc` -/
def fileClose (o : Oid) : List Prim :=
  [.closeObj [S "cfun_io_fclose" "fclose($1->file)"] o, .leave [S "cfun_io_fclose" "return"]]

def fileGc (o : Oid) : List Prim :=
  [.closeObj [S "janet_file_close" "fclose($1->file)", S "cfun_io_gc" "janet_file_close($1)"] o, .leave [S "cfun_io_gc" "return"]]

/-- `filewatch/unlisten` -/
def watcherUnlisten (o : Oid) : List Prim :=
  [.closeObj [S "janet_stream_close_impl" "close($1->handle)", S "janet_stream_close" "janet_stream_close_impl($1)",
              S "janet_watcher_unlisten" "janet_stream_close($1->stream)"] o, .leave [S "janet_watcher_unlisten" "return"]]

/-- `os/proc-close`: closes the streams of the :pipe redirections it owns -/
def procClose (oin oout oerr : Option Oid) : List Prim :=
  let c (k : String) (o : Option Oid) : List Prim :=
    match o with
    | none => []
    | some x => [.closeObj [S "janet_stream_close_impl" "close($1->handle)", S "janet_stream_close" "janet_stream_close_impl($1)",
                            S "os_proc_close" k] x]
  c "janet_stream_close($1->in)" oin ++ c "janet_stream_close($1->out)" oout ++ c "janet_stream_close($1->err)" oerr ++
    [.leave [S "os_proc_close" "return"]]

/-- `janet_ev_init` / `janet_ev_deinit` of one VM (main thread or worker thread): self pipe, epoll, timerfd.
    A failure is `JANET_EXIT` (the process ends), not modelled. -/
def evInit (o0 o1 oe ot : Oid) : List Prim :=
  (makePipe [S "janet_ev_setup_selfpipe" "janet_make_pipe(janet_vm.selfpipe)"] .h0 .h1 true true).1 ++
  [.wrap [S "janet_ev_setup_selfpipe" "janet_vm.selfpipe"] .h0 o0, .wrap [S "janet_ev_setup_selfpipe" "janet_vm.selfpipe"] .h1 o1,
   .create [S "janet_ev_init" "epoll_create1(EPOLL_CLOEXEC)"] .epoll, .wrap [S "janet_ev_init" "janet_vm.epoll"] .epoll oe,
   .create [S "janet_ev_init" "timerfd_create(1)"] .timerfd, .wrap [S "janet_ev_init" "janet_vm.timerfd"] .timerfd ot,
   .leave [S "janet_ev_init" "return"]]

def evDeinit (o0 o1 oe ot : Oid) : List Prim :=
  [.closeObj [S "janet_ev_deinit" "close(janet_vm.epoll)"] oe, .closeObj [S "janet_ev_deinit" "close(janet_vm.timerfd)"] ot,
   .closeObj [S "janet_ev_cleanup_selfpipe" "close(janet_vm.selfpipe[0])"] o0,
   .closeObj [S "janet_ev_cleanup_selfpipe" "close(janet_vm.selfpipe[1])"] o1, .leave [S "janet_ev_deinit" "return"]]

/-! ### os_execute_impl (os/spawn, os/execute)

What one stdio slot (:in / :out / :err) contributes, as far as descriptors are concerned. -/
inductive Slot
  /-- no redirection, or an existing stream (its handle is borrowed, nothing is created) -/
  | none
  /-- an existing core/file whose descriptor is > 2: `get_stdio_for_handle` dups it for the proc's stream -/
  | fileDupOk | fileDupFail
  /-- `:pipe`: make_pipes succeeded / pipe() failed / a later fcntl failed -/
  | pipeOk | pipeFailP | pipeFailF
  /-- the source is one of the standard descriptors 0..2 (≠ its own slot): close-on-exec duplicate `tmp_handles[i]`;
      a stream, or a file whose dup succeeds / fails -/
  | tmpOk | tmpOkFileDupOk | tmpOkFileDupFail
  /-- `fcntl(F_DUPFD)` failed / `fcntl(F_SETFD)` on the duplicate failed -/
  | tmpFail | tmpSetfdFail
  deriving DecidableEq, Repr

def Slot.isPipe : Slot → Bool
  | .pipeOk | .pipeFailP | .pipeFailF => true
  | _ => false

/-- sets `pipe_errflag` -/
def Slot.err : Slot → Bool
  | .pipeFailP | .pipeFailF | .tmpFail | .tmpSetfdFail => true
  | _ => false

structure SlotVars where
  pipe : Var
  new : Var
  tmp : Var
  dup : Var
  mkPipes : String   -- the make_pipes call site
  stdio : String     -- the get_stdio_for_handle call site

def slotIn : SlotVars := ⟨.pipeIn, .newIn, .tmp0, .dupIn, "make_pipes(&$1)", "get_stdio_for_handle($7)"⟩
def slotOut : SlotVars := ⟨.pipeOut, .newOut, .tmp1, .dupOut, "make_pipes(&$2)", "get_stdio_for_handle($8)"⟩
def slotErr : SlotVars := ⟨.pipeErr, .newErr, .tmp2, .dupErr, "make_pipes(&$3)", "get_stdio_for_handle($9)"⟩

def fnX : String := "os_execute_impl"

/-- `new_x = make_pipes(&pipe_x, …)` -/
def slotPipes (v : SlotVars) : Slot → List Prim
  | .pipeOk => (makePipe [S "make_pipes" "janet_make_pipe($1)", S fnX v.mkPipes] v.pipe v.new true true).1
  | .pipeFailF => (makePipe [S "make_pipes" "janet_make_pipe($1)", S fnX v.mkPipes] v.pipe v.new true false).1
  | _ => []

/-- the loop creating `tmp_handles[i]`; it stops at the first error (`!pipe_errflag` in the loop condition) -/
def slotTmp (v : SlotVars) (errBefore : Bool) : Slot → List Prim
  | .tmpOk | .tmpOkFileDupOk | .tmpOkFileDupFail | .tmpSetfdFail =>
    if errBefore then [] else [.create [S fnX "fcntl_dupfd($4[$5])"] v.tmp]
  | _ => []

/-- does the slot hold the named local at the time of the clean-up / the spawn? -/
def Slot.hasPipe : Slot → Bool
  | .pipeOk => true
  | _ => false

def Slot.hasTmp (errBefore : Bool) : Slot → Bool
  | .tmpOk | .tmpOkFileDupOk | .tmpOkFileDupFail | .tmpSetfdFail => !errBefore
  | _ => false

def closeIf (c : Bool) (site : String) (v : Var) : List Prim := if c then [.close [S fnX site] v] else []

/-- through the `close_handle` helper -/
def closeHIf (c : Bool) (site : String) (v : Var) : List Prim :=
  if c then [.close [S "close_handle" "close($1)", S fnX site] v] else []

/-- `get_stdio_for_handle(new_x, orig_x, …)` for one slot, given what a failure has to clean up -/
def slotStdio (cfg : Cfg) (v : SlotVars) (o : Oid) (cleanup : List Prim) : Slot → List Prim × Bool
  | .pipeOk => ([.wrap [S "get_stdio_for_handle" "janet_stream($1)", S fnX v.stdio] v.new o], true)
  | .fileDupOk | .tmpOkFileDupOk =>
    ([.create [S "get_stdio_for_handle" "dup($1)", S fnX v.stdio] v.dup,
      .wrap [S "get_stdio_for_handle" "janet_stream($2)", S fnX v.stdio] v.dup o], true)
  | .fileDupFail | .tmpOkFileDupFail =>
    ((if cfg.spawnStdioFailCloses then cleanup else []) ++ [.leave [S fnX "janet_panic(failedtoconstructproc)"]], false)
  | _ => ([], true)

/-- `os_execute_impl` in spawn mode (`os/execute` has no :pipe and builds no streams: `isSpawn = false`).
    `argsOk`: every check that can raise succeeds (command line strings, :cd, the types of non-pipe redirections). -/
def osExecuteShape (cfg : Cfg) (isSpawn argsOk spawnOk : Bool) (a b c : Slot) : List Prim :=
  let oa : Oid := 0
  let ob : Oid := 1
  let oc : Oid := 2
  if cfg.spawnChecksFirst && !argsOk then [.leave [S fnX "janet_getcstring"]]
  else if !isSpawn && (a.isPipe || b.isPipe || c.isPipe) then [.leave [S fnX "janet_getjstream"]]
  else
    let pipes := slotPipes slotIn a ++ slotPipes slotOut b ++ slotPipes slotErr c
    if !cfg.spawnChecksFirst && !argsOk then pipes ++ [.leave [S fnX "janet_getcstring#2"]]
    else
      let pe := a.isPipe && a.err || b.isPipe && b.err || c.isPipe && c.err      -- pipe_errflag after the redirections
      let e0 := pe
      let e1 := e0 || (a.err && !e0)
      let e2 := e1 || (b.err && !e1)
      let e3 := e2 || (c.err && !e2)
      let tmps := slotTmp slotIn e0 a ++ slotTmp slotOut e1 b ++ slotTmp slotErr e2 c
      let closeTmps (n : String) : List Prim :=
        closeIf (a.hasTmp e0) n .tmp0 ++ closeIf (b.hasTmp e1) n .tmp1 ++ closeIf (c.hasTmp e2) n .tmp2
      if e3 then
        -- `if (pipe_errflag) { close tmp_handles; close pipe_x; close owned new_x; janet_panic }`
        pipes ++ tmps ++ closeTmps "close($6[$5])" ++
          closeHIf a.hasPipe "close_handle($1)" .pipeIn ++ closeHIf b.hasPipe "close_handle($2)" .pipeOut ++
          closeHIf c.hasPipe "close_handle($3)" .pipeErr ++
          closeHIf a.hasPipe "close_handle($7)" .newIn ++ closeHIf b.hasPipe "close_handle($8)" .newOut ++
          closeHIf c.hasPipe "close_handle($9)" .newErr ++ [.leave [S fnX "janet_panic(failedtocreatepipes)"]]
      else
        -- posix_spawn, then the child's ends and the duplicates are closed in the parent
        let afterSpawn := closeIf a.hasPipe "close($1)" .pipeIn ++ closeIf b.hasPipe "close($2)" .pipeOut ++
          closeIf c.hasPipe "close($3)" .pipeErr ++ closeTmps "close($6[$5])#2"
        if !spawnOk then
          pipes ++ tmps ++ afterSpawn ++ closeIf a.hasPipe "close($7)" .newIn ++ closeIf b.hasPipe "close($8)" .newOut ++
            closeIf c.hasPipe "close($9)" .newErr ++ [.leave [S fnX "janet_panicf(%p:%s)"]]
        else if !isSpawn then pipes ++ tmps ++ afterSpawn ++ [.leave [S fnX "os_proc_wait_impl"]]
        else
          let (pa, oka) := slotStdio cfg slotIn oa
            (closeHIf b.hasPipe "close_handle($8)#2" .newOut ++ closeHIf c.hasPipe "close_handle($9)#2" .newErr) a
          if !oka then pipes ++ tmps ++ afterSpawn ++ pa
          else
            let (pb, okb) := slotStdio cfg slotOut ob (closeHIf c.hasPipe "close_handle($9)#3" .newErr) b
            if !okb then pipes ++ tmps ++ afterSpawn ++ pa ++ pb
            else
              let (pc, okc) := slotStdio cfg slotErr oc [] c
              if !okc then pipes ++ tmps ++ afterSpawn ++ pa ++ pb ++ pc
              else pipes ++ tmps ++ afterSpawn ++ pa ++ pb ++ pc ++ [.leave [S fnX "return"]]

/-- rename object ids -/
def Prim.reoid (g : Oid → Oid) : Prim → Prim
  | .wrap s v o => .wrap s v (g o)
  | .closeObj s o => .closeObj s (g o)
  | p => p

/-- `os_execute_impl` with the object ids of the streams it builds for :in / :out / :err -/
def osExecute (cfg : Cfg) (isSpawn argsOk spawnOk : Bool) (a b c : Slot) (oa ob oc : Oid) : List Prim :=
  (osExecuteShape cfg isSpawn argsOk spawnOk a b c).map (Prim.reoid (fun i => if i = 0 then oa else if i = 1 then ob else oc))

def Slot.all : List Slot :=
  [.none, .fileDupOk, .fileDupFail, .pipeOk, .pipeFailP, .pipeFailF, .tmpOk, .tmpOkFileDupOk, .tmpOkFileDupFail, .tmpFail, .tmpSetfdFail]

/-- the discipline holds for every combination of slot states and outcomes (a finite check; see `osExecute_ok`) -/
def osExecuteAllOk (cfg : Cfg) : Bool :=
  [true, false].all fun isSpawn => [true, false].all fun argsOk => [true, false].all fun spawnOk =>
    Slot.all.all fun a => Slot.all.all fun b => Slot.all.all fun c =>
      check [] (osExecuteShape cfg isSpawn argsOk spawnOk a b c) == some []

/-! ## API-level operations: one complete execution of a C entry point with its inputs -/

inductive Op
  | osPipe (argsOk pipeOk fcntlOk : Bool) (o1 o2 : Oid)
  | osOpen (argsOk openOk : Bool) (o : Oid)
  | watcherInit (ok : Bool) (o : Oid)
  | watcherUnlisten (o : Oid)
  | toFile (sandboxOk dupOk fdopenOk : Bool) (o : Oid)
  | streamMarshal (unsafeOk dupOk : Bool) (msg : Oid)
  | ioFopen (argsOk sizeOk fopenOk isDir setvbufOk : Bool) (o : Oid)
  | ioTemp (ok : Bool) (o : Oid)
  | netAccept (ok : Bool) (o : Oid)
  | netConnect (argsOk isUnix sockOk hasBinding bindOk connectOk : Bool) (o : Oid)
  | netListen (argsOk isUnix sockOk setupOk : Bool) (tries : List ListenTry) (found isDgram listenOk : Bool) (o : Oid)
  | streamClose (o : Oid)
  | streamGc (o : Oid)
  | fileClose (o : Oid)
  | fileGc (o : Oid)
  | procClose (oin oout oerr : Option Oid)
  | osExecute (isSpawn argsOk spawnOk : Bool) (a b c : Slot) (oa ob oc : Oid)
  | evInit (o0 o1 oe ot : Oid)
  | evDeinit (o0 o1 oe ot : Oid)

def Op.prog (cfg : Cfg) : Op → List Prim
  | .osPipe a b c o1 o2 => Fds.osPipe a b c o1 o2
  | .osOpen a b o => Fds.osOpen a b o
  | .watcherInit a o => Fds.watcherInit a o
  | .watcherUnlisten o => Fds.watcherUnlisten o
  | .toFile a b c o => Fds.toFile a b c o
  | .streamMarshal a b m => Fds.streamMarshal a b m
  | .ioFopen a b c d e o => Fds.ioFopen cfg a b c d e o
  | .ioTemp a o => Fds.ioTemp a o
  | .netAccept a o => Fds.netAccept a o
  | .netConnect a b c d e f o => Fds.netConnect cfg a b c d e f o
  | .netListen a b c d t f g h o => Fds.netListen a b c d t f g h o
  | .streamClose o => Fds.streamClose o
  | .streamGc o => Fds.streamGc o
  | .fileClose o => Fds.fileClose o
  | .fileGc o => Fds.fileGc o
  | .procClose a b c => Fds.procClose a b c
  | .osExecute s a k x y z oa ob oc => Fds.osExecute cfg s a k x y z oa ob oc
  | .evInit a b c d => Fds.evInit a b c d
  | .evDeinit a b c d => Fds.evDeinit a b c d

def progs (cfg : Cfg) : List Op → List Prim
  | [] => []
  | o :: os => o.prog cfg ++ progs cfg os

/-! ## the model's site list

Every create / close / wrap site of `Gen.Fds.fdSites`, as `function:key`, that some model function mirrors (`Props.C20.fdModelSites`), and the
sites that hand a descriptor to an object nobody ever closes on purpose or that are wrappers of wrappers (`Props.C20.fdPassiveSites`). -/

def sitesOf (ps : List Prim) : List Site := (ps.map Prim.site).flatten

end JanetModel.Fds
