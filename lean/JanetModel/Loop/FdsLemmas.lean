/-
C20 — lemmas about the descriptor-ownership model `JanetModel.Fds` (proof file; core Lean only).
-/
import JanetModel.Loop.Fds

namespace JanetModel.Fds

theorem le_maxl {a : Nat} : ∀ {l : List Nat}, a ∈ l → a ≤ maxl l
  | [], h => by simp at h
  | b :: l, h => by
    simp only [List.mem_cons] at h
    simp only [maxl]
    rcases h with h | h
    · subst h; exact Nat.le_max_left _ _
    · exact Nat.le_trans (le_maxl h) (Nat.le_max_right _ _)

theorem lowestFrom_not_mem (l : List Nat) : ∀ fuel n, lowestFrom l fuel n ∉ l
  | 0, _ => by
    intro h
    have := le_maxl h
    simp only [lowestFrom] at this
    omega
  | fuel + 1, n => by
    simp only [lowestFrom]
    by_cases h : n ∈ l
    · rw [if_pos h]; exact lowestFrom_not_mem l fuel (n + 1)
    · rw [if_neg h]; exact h

theorem fresh_not_mem (l : List Fd) : fresh l ∉ l := lowestFrom_not_mem l _ _

/-- every open descriptor has exactly one responsible holder: a local of the running C function, an open object, or the
    environment (`ext`: stdin/stdout/stderr and whatever the process inherited) -/
def Inv (ext : List Fd) (s : St) : Prop :=
  List.Perm s.open (s.loose.map s.env ++ s.objs.map Prod.snd ++ ext)

theorem inv_init (ext : List Fd) : Inv ext (St.init ext) := by
  simp [Inv, St.init]

private theorem perm_erase_of_perm_cons {l m : List Nat} {a : Nat} (h : List.Perm l (a :: m)) : List.Perm (l.erase a) m := by
  have := h.erase a
  simpa using this

private theorem map_setEnv_of_not_mem (env : Var → Fd) (v : Var) (x : Fd) :
    ∀ (l : List Var), v ∉ l → l.map (setEnv env v x) = l.map env
  | [], _ => rfl
  | a :: l, h => by
    simp only [List.mem_cons, not_or] at h
    simp only [List.map_cons, map_setEnv_of_not_mem env v x l h.2]
    have : a ≠ v := fun e => h.1 e.symm
    simp [setEnv, this]

private theorem map_perm_cons_erase (env : Var → Fd) {v : Var} {l : List Var} (h : v ∈ l) :
    List.Perm (l.map env) (env v :: (l.erase v).map env) := by
  have := (List.perm_cons_erase h).map env
  simpa using this

theorem step_inv (ext : List Fd) {s s' : St} {p : Prim} (hi : Inv ext s) (h : step s p = some s') : Inv ext s' := by
  unfold Inv at hi ⊢
  cases p with
  | create site v =>
    simp only [step] at h
    by_cases hv : v ∈ s.loose
    · rw [if_pos hv] at h; simp at h
    · rw [if_neg hv] at h
      simp at h; subst h
      simp only [List.map_cons, map_setEnv_of_not_mem s.env v _ s.loose hv, setEnv, if_true, List.cons_append]
      exact List.Perm.cons _ hi
  | close site v =>
    simp only [step] at h
    by_cases hv : v ∈ s.loose
    · rw [if_pos hv] at h
      simp at h; subst h
      simp only
      apply perm_erase_of_perm_cons
      refine hi.trans ?_
      have h1 := map_perm_cons_erase s.env hv
      have h2 := (h1.append_right (s.objs.map Prod.snd)).append_right ext
      simpa using h2
    · rw [if_neg hv] at h; simp at h
  | wrap site v o =>
    simp only [step] at h
    by_cases hv : v ∈ s.loose
    · rw [if_pos hv] at h
      simp at h; subst h
      simp only [List.map_cons]
      refine hi.trans ?_
      have h1 := map_perm_cons_erase s.env hv
      have h2 := (h1.append_right (s.objs.map Prod.snd)).append_right ext
      refine h2.trans ?_
      simp only [List.cons_append, List.append_assoc]
      exact List.perm_middle.symm
    · rw [if_neg hv] at h; simp at h
  | move site v w =>
    simp only [step] at h
    by_cases hv : v ∈ s.loose ∧ w ∉ s.loose.erase v
    · rw [if_pos hv] at h
      simp at h; subst h
      simp only [List.map_cons, map_setEnv_of_not_mem s.env w _ _ hv.2, setEnv, if_true]
      refine hi.trans ?_
      have h1 := map_perm_cons_erase s.env hv.1
      have h2 := (h1.append_right (s.objs.map Prod.snd)).append_right ext
      simpa using h2
    · rw [if_neg hv] at h; simp at h
  | closeObj site o =>
    simp only [step] at h
    cases hl : s.objs.lookup o with
    | none => rw [hl] at h; simp at h; subst h; exact hi
    | some x =>
      rw [hl] at h
      simp at h; subst h
      simp only
      have hm : (o, x) ∈ s.objs := by
        have := List.lookup_eq_some_iff.1 hl   -- ∃ l₁ l₂, …
        obtain ⟨l1, l2, he, _⟩ := this
        rw [he]; simp
      apply perm_erase_of_perm_cons
      refine hi.trans ?_
      have h1 : List.Perm (s.objs.map Prod.snd) (x :: (s.objs.erase (o, x)).map Prod.snd) := by
        have := (List.perm_cons_erase hm).map Prod.snd
        simpa using this
      have h2 := (h1.append_left (s.loose.map s.env)).append_right ext
      refine h2.trans ?_
      simp only [List.append_assoc, List.cons_append]
      exact List.perm_middle
  | leave site =>
    simp only [step] at h
    by_cases hv : s.loose = []
    · rw [if_pos hv] at h; simp at h; subst h; exact hi
    · rw [if_neg hv] at h; simp at h

theorem exec_inv (ext : List Fd) : ∀ (ps : List Prim) {s s' : St}, Inv ext s → exec s ps = some s' → Inv ext s'
  | [], s, s', hi, h => by simp [exec] at h; subst h; exact hi
  | p :: ps, s, s', hi, h => by
    simp only [exec] at h
    cases hs : step s p with
    | none => rw [hs] at h; simp at h
    | some s1 => rw [hs] at h; exact exec_inv ext ps (step_inv ext hi hs) h

theorem inv_count {ext : List Fd} {s : St} (hi : Inv ext s) : s.open.length = s.loose.length + s.objs.length + ext.length := by
  have := hi.length_eq
  simp at this
  omega

/-- `checkStep` is `step` seen through the held locals -/
theorem step_loose (s : St) (p : Prim) : (step s p).map (·.loose) = checkStep s.loose p := by
  cases p <;> simp only [step, checkStep] <;> split <;> rfl

theorem exec_loose : ∀ (ps : List Prim) (s : St), (exec s ps).map (·.loose) = check s.loose ps
  | [], _ => rfl
  | p :: ps, s => by
    simp only [exec, check, ← step_loose]
    cases step s p with
    | none => rfl
    | some s1 => exact exec_loose ps s1

theorem exec_of_check (ps : List Prim) {s : St} {l : List Var} (h : check s.loose ps = some l) :
    ∃ s', exec s ps = some s' ∧ s'.loose = l :=
  Option.map_eq_some_iff.1 (exec_loose ps s ▸ h)

theorem check_append : ∀ (ps qs : List Prim) (l : List Var),
    check l (ps ++ qs) = (check l ps).bind (fun l' => check l' qs)
  | [], qs, l => by simp [check]
  | p :: ps, qs, l => by
    simp only [List.cons_append, check]
    cases checkStep l p with
    | none => simp
    | some l1 => simp [check_append ps qs l1]

theorem exec_append : ∀ (ps qs : List Prim) (s : St),
    exec s (ps ++ qs) = (exec s ps).bind (fun s' => exec s' qs)
  | [], qs, s => by simp [exec]
  | p :: ps, qs, s => by
    simp only [List.cons_append, exec]
    cases step s p with
    | none => simp
    | some s1 => simp [exec_append ps qs s1]

theorem osPipe_ok (a b c : Bool) (o1 o2 : Oid) : check [] (osPipe a b c o1 o2) = some [] := by
  cases a <;> cases b <;> cases c <;> rfl

theorem osOpen_ok (a b : Bool) (o : Oid) : check [] (osOpen a b o) = some [] := by
  cases a <;> cases b <;> rfl

theorem watcherInit_ok (a : Bool) (o : Oid) : check [] (watcherInit a o) = some [] := by
  cases a <;> rfl

theorem toFile_ok (a b c : Bool) (o : Oid) : check [] (toFile a b c o) = some [] := by
  cases a <;> cases b <;> cases c <;> rfl

theorem streamMarshal_ok (a b : Bool) (o : Oid) : check [] (streamMarshal a b o) = some [] := by
  cases a <;> cases b <;> rfl

theorem ioFopen_ok (a b c d e : Bool) (o : Oid) : check [] (ioFopen Cfg.fixed a b c d e o) = some [] := by
  cases a <;> cases b <;> cases c <;> cases d <;> cases e <;> rfl

theorem ioTemp_ok (a : Bool) (o : Oid) : check [] (ioTemp a o) = some [] := by
  cases a <;> rfl

theorem netAccept_ok (a : Bool) (o : Oid) : check [] (netAccept a o) = some [] := by
  cases a <;> rfl

theorem netConnect_ok (a b c d e f : Bool) (o : Oid) : check [] (netConnect Cfg.fixed a b c d e f o) = some [] := by
  cases a <;> cases b <;> cases c <;> cases d <;> cases e <;> cases f <;> rfl

theorem listenTries_ok : ∀ (ts : List ListenTry), check [] (listenTries ts) = some []
  | [] => rfl
  | t :: ts => by
    simp only [listenTries, check_append]
    have : check [] (listenTry t) = some [] := by cases t <;> rfl
    rw [this]
    simpa using listenTries_ok ts

theorem netListen_ok (a b c d : Bool) (ts : List ListenTry) (f g h : Bool) (o : Oid) :
    check [] (netListen a b c d ts f g h o) = some [] := by
  cases a
  · rfl
  · cases b
    · -- inet: the loop, then the tail
      simp only [netListen, Bool.not_true, Bool.false_eq_true, if_false, check_append, listenTries_ok, Option.bind_some]
      cases f <;> cases g <;> cases h <;> rfl
    · cases c <;> cases d <;> cases g <;> cases h <;> rfl

theorem streamClose_ok (o : Oid) : check [] (streamClose o) = some [] := rfl
theorem streamGc_ok (o : Oid) : check [] (streamGc o) = some [] := rfl
theorem fileClose_ok (o : Oid) : check [] (fileClose o) = some [] := rfl
theorem fileGc_ok (o : Oid) : check [] (fileGc o) = some [] := rfl
theorem watcherUnlisten_ok (o : Oid) : check [] (watcherUnlisten o) = some [] := rfl

theorem procClose_ok (a b c : Option Oid) : check [] (procClose a b c) = some [] := by
  cases a <;> cases b <;> cases c <;> rfl

theorem evInit_ok (a b c d : Oid) : check [] (evInit a b c d) = some [] := rfl
theorem evDeinit_ok (a b c d : Oid) : check [] (evDeinit a b c d) = some [] := rfl

end JanetModel.Fds
