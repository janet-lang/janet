/- C02: error propagation, the notions: `ErrOK` (the VM, started at a form's code, reaches a configuration in the world `Lang/Sem`
   has when the error is raised, whose next step raises the same error at the same position), stated against the FINAL compiler
   state of the form, and `App` (the rest of a compile only appends and never decreases the allocator's `max`), with the ways
   to combine them. -/
import JanetModel.Compile.SeqShapeMaxR
import JanetModel.Compile.SemCall
namespace JanetModel.Compile
open JanetModel.Emit JanetModel.Lang JanetModel.Bytecode.Exec JanetModel.Gen.Bytecode

/-- append-only step of the compiler state (innermost scope's `max` monotone) -/
def App (c c' : CState) (rs : List Scope) (ps : List (List KConst)) : Prop :=
  ∃ (sc sc' : Scope) (pool more : List KConst) (seg : List CI) (segm : List Pos),
    c.scopes = sc :: rs ∧ c'.scopes = sc' :: rs ∧ sc.ra.max ≤ sc'.ra.max ∧ c.pools = pool :: ps ∧ c'.pools = (pool ++ more) :: ps ∧
    c'.buf = c.buf ++ seg ∧ c'.map = c.map ++ segm ∧ PrefA c.vals c'.vals

theorem App.refl (c : CState) (sc : Scope) (rs : List Scope) (pool : List KConst) (ps : List (List KConst))
    (hs : c.scopes = sc :: rs) (hp : c.pools = pool :: ps) : App c c rs ps :=
  ⟨sc, sc, pool, [], [], [], hs, hs, Nat.le_refl _, hp, by simp [hp], by simp, by simp, PrefA.refl _⟩

theorem App.trans {c c1 c2 : CState} {rs : List Scope} {ps : List (List KConst)} (h1 : App c c1 rs ps) (h2 : App c1 c2 rs ps) : App c c2 rs ps := by
  obtain ⟨sc, sc1, pool, more1, seg1, segm1, a1, a2, a3, a4, a5, a6, a7, a8⟩ := h1
  obtain ⟨sc1', sc2, pool1, more2, seg2, segm2, b1, b2, b3, b4, b5, b6, b7, b8⟩ := h2
  rw [a2] at b1
  rw [a5] at b4
  have e1 : sc1 = sc1' := (List.cons.inj b1).1
  have e2 : pool ++ more1 = pool1 := (List.cons.inj b4).1
  subst e1 e2
  exact ⟨sc, sc2, pool, more1 ++ more2, seg1 ++ seg2, segm1 ++ segm2, a1, b2, Nat.le_trans a3 b3, a4, by rw [b5]; simp, by rw [b6, a6]; simp,
    by rw [b7, a7]; simp, PrefA.trans a8 b8⟩

theorem Shp.app {G : String → Prop} {c c' : CState} {sc : Scope} {rs : List Scope} {pool : List KConst} {ps : List (List KConst)}
    (hs : c.scopes = sc :: rs) (hp : c.pools = pool :: ps) (h : Shp G c c' sc rs pool ps) (hM : MaxR c c' rs) : App c c' rs ps := by
  obtain ⟨ra', ns, more, seg, segm, hc, pv, _, _⟩ := h
  have hs' : c'.scopes = { sc with ra := ra', syms := sc.syms ++ ns } :: rs := by rw [hc]
  exact ⟨sc, _, pool, more, seg, segm, hs, hs', hM sc _ hs hs', hp, by rw [hc], by rw [hc], by rw [hc], pv⟩

theorem StepR.app {c c' : CState} {sc : Scope} {rs : List Scope} {pool : List KConst} {ps : List (List KConst)}
    (hs : c.scopes = sc :: rs) (hp : c.pools = pool :: ps) (h : StepR c c' sc rs pool ps) (hM : MaxR c c' rs) : App c c' rs ps := by
  obtain ⟨ra', more, seg, segm, hc, _⟩ := h
  have hs' : c'.scopes = { sc with ra := ra' } :: rs := by rw [hc]
  exact ⟨sc, _, pool, more, seg, segm, hs, hs', hM sc _ hs hs', hp, by rw [hc], by rw [hc], by rw [hc], by rw [hc]; exact PrefA.refl _⟩

section
variable (p : Program) (f0 : Frame) (rest : List Frame) (V : Array Value) (P : List KConst)

/-- the error outcome of a form, against the final compiler state `c'` of the form -/
def ErrOK (c c' : CState) (rs : List Scope) (ps : List (List KConst)) (env : Env) (s s' : SS) (ev : Value) (epos : Pos) : Prop :=
  ∀ (sc' : Scope) (pool' : List KConst) (seg : List CI) (segm : List Pos),
    c'.scopes = sc' :: rs → c'.pools = pool' :: ps → c'.buf = c.buf ++ seg → c'.map = c.map ++ segm →
    ∀ (k : Cfg), k.w = s.st.world → k.args = #[] → EnvD c.scopes env s k.regs →
      CodeAt (p.defs.getD f0.defIdx default).code k.pc seg → MapAt (p.defs.getD f0.defIdx default).smap k.pc segm →
      PrefL pool' P → PrefA c'.vals V → sc'.ra.max < k.regs.size →
      ∃ (regs' A : Array Value) (pc' : Nat),
        Reach p (inj f0 rest k) (inj f0 rest { regs := regs', pc := pc', args := A, w := s'.st.world }) ∧ regs'.size = k.regs.size ∧
        step p (inj f0 rest { regs := regs', pc := pc', args := A, w := s'.st.world }) =
          .err ev epos (inj f0 rest { regs := regs', pc := pc', args := A, w := s'.st.world })

variable {p f0 rest V P}

/-- from a run stated against one presentation of the final state -/
theorem ErrOK.of_explicit {c cq : CState} {rs : List Scope} {ps : List (List KConst)} {env : Env} {s s' : SS} {ev : Value} {epos : Pos}
    (pool more : List KConst) (seg : List CI) (segm : List Pos) (mx : Nat)
    (e1 : cq.buf = c.buf ++ seg) (e2 : cq.map = c.map ++ segm) (e3 : cq.pools = (pool ++ more) :: ps)
    (e5 : ∃ sc0, cq.scopes = sc0 :: rs ∧ sc0.ra.max = mx)
    (vm : ∀ (k : Cfg), k.w = s.st.world → k.args = #[] → EnvD c.scopes env s k.regs →
      CodeAt (p.defs.getD f0.defIdx default).code k.pc seg → MapAt (p.defs.getD f0.defIdx default).smap k.pc segm →
      PrefL (pool ++ more) P → PrefA cq.vals V → mx < k.regs.size →
      ∃ (regs' A : Array Value) (pc' : Nat),
        Reach p (inj f0 rest k) (inj f0 rest { regs := regs', pc := pc', args := A, w := s'.st.world }) ∧ regs'.size = k.regs.size ∧
        step p (inj f0 rest { regs := regs', pc := pc', args := A, w := s'.st.world }) =
          .err ev epos (inj f0 rest { regs := regs', pc := pc', args := A, w := s'.st.world })) :
    ErrOK p f0 rest V P c cq rs ps env s s' ev epos := by
  obtain ⟨sc0, e5, e6⟩ := e5
  intro sc' pool' seg' segm' a1 a2 a3 a4 k b1 b2 b3 b4 b5 b6 b7 b8
  rw [e5] at a1
  rw [e3] at a2
  have x1 : sc0 = sc' := (List.cons.inj a1).1
  have x2 : pool ++ more = pool' := (List.cons.inj a2).1
  have x3 : seg = seg' := by rw [e1] at a3; exact List.append_cancel_left a3
  have x4 : segm = segm' := by rw [e2] at a4; exact List.append_cancel_left a4
  subst x1 x2 x3 x4
  exact vm k b1 b2 b3 b4 b5 b6 b7 (by rw [← e6]; exact b8)


/-- the run against the presentation of the final state the shape theorem gives -/
theorem ErrOK.explicit {G : String → Prop} {c c' : CState} {sc : Scope} {rs : List Scope} {pool : List KConst} {ps : List (List KConst)}
    {env : Env} {s s' : SS} {ev : Value} {epos : Pos}
    (h : ErrOK p f0 rest V P c c' rs ps env s s' ev epos) (hS : Shp G c c' sc rs pool ps) :
    ∃ (mx : Nat) (more : List KConst) (seg : List CI) (segm : List Pos),
      c'.buf = c.buf ++ seg ∧ c'.map = c.map ++ segm ∧ c'.pools = (pool ++ more) :: ps ∧ PrefA c.vals c'.vals ∧
      (∃ sc', c'.scopes = sc' :: rs ∧ sc'.ra.max = mx) ∧
      ∀ (k : Cfg), k.w = s.st.world → k.args = #[] → EnvD c.scopes env s k.regs →
        CodeAt (p.defs.getD f0.defIdx default).code k.pc seg → MapAt (p.defs.getD f0.defIdx default).smap k.pc segm →
        PrefL (pool ++ more) P → PrefA c'.vals V → mx < k.regs.size →
        ∃ (regs' A : Array Value) (pc' : Nat),
          Reach p (inj f0 rest k) (inj f0 rest { regs := regs', pc := pc', args := A, w := s'.st.world }) ∧ regs'.size = k.regs.size ∧
          step p (inj f0 rest { regs := regs', pc := pc', args := A, w := s'.st.world }) =
            .err ev epos (inj f0 rest { regs := regs', pc := pc', args := A, w := s'.st.world }) := by
  obtain ⟨ra', ns, more, seg, segm, hc, pv, _, _⟩ := hS
  exact ⟨ra'.max, more, seg, segm, by rw [hc], by rw [hc], by rw [hc], pv, ⟨_, by rw [hc], rfl⟩,
    h _ _ seg segm (by rw [hc]) (by rw [hc]) (by rw [hc]) (by rw [hc])⟩

/-- the states at the two ends may be replaced by states with the same scopes (up to `lk`), code, map, pool, values -/
theorem ErrOK.congr {c c' d d' : CState} {rs : List Scope} {ps : List (List KConst)} {env : Env} {s s' : SS} {ev : Value} {epos : Pos}
    (h : ErrOK p f0 rest V P c c' rs ps env s s' ev epos)
    (hlk : ∀ x, lk c.scopes x = lk d.scopes x) (hb : d.buf = c.buf) (hm : d.map = c.map)
    (hs' : d'.scopes = c'.scopes) (hp' : d'.pools = c'.pools) (hb' : d'.buf = c'.buf) (hm' : d'.map = c'.map) (hv' : d'.vals = c'.vals) :
    ErrOK p f0 rest V P d d' rs ps env s s' ev epos := by
  intro sc' pool' seg segm a1 a2 a3 a4 k b1 b2 b3 b4 b5 b6 b7 b8
  rw [hs'] at a1
  rw [hp'] at a2
  rw [hb', hb] at a3
  rw [hm', hm] at a4
  rw [hv'] at b7
  exact h sc' pool' seg segm a1 a2 a3 a4 k b1 b2 (b3.of_lk hlk) b4 b5 b6 b7 b8

/-- the failing part first, then more compile -/
theorem ErrOK.extend {c c1 c' : CState} {rs : List Scope} {ps : List (List KConst)} {env : Env} {s s' : SS} {ev : Value} {epos : Pos}
    (h : ErrOK p f0 rest V P c c1 rs ps env s s' ev epos) (seg1 : List CI) (segm1 : List Pos) (hb1 : c1.buf = c.buf ++ seg1)
    (hm1 : c1.map = c.map ++ segm1) (hA : App c1 c' rs ps) : ErrOK p f0 rest V P c c' rs ps env s s' ev epos := by
  obtain ⟨sc1, sc2, pool1, more2, seg2, segm2, a1, a2, a3, a4, a5, a6, a7, a8⟩ := hA
  intro sc' pool' seg segm hs' hp' hb' hm' k hkw hka hD hcode hmap hpre hV hsz
  rw [a2] at hs'
  rw [a5] at hp'
  have e1 : sc2 = sc' := (List.cons.inj hs').1
  have e2 : pool1 ++ more2 = pool' := (List.cons.inj hp').1
  subst e1 e2
  have e3 : seg = seg1 ++ seg2 := by
    rw [a6, hb1, List.append_assoc] at hb'
    exact (List.append_cancel_left hb').symm
  have e4 : segm = segm1 ++ segm2 := by
    rw [a7, hm1, List.append_assoc] at hm'
    exact (List.append_cancel_left hm').symm
  subst e3 e4
  exact h sc1 pool1 seg1 segm1 a1 a4 hb1 hm1 k hkw hka hD hcode.left hmap.left (PrefL.trans ⟨more2, rfl⟩ hpre) (PrefA.trans a8 hV) (by omega)

theorem ErrOK.after {G : String → Prop} {dr : Bool} {c c1 c' : CState} {slot : JSlot} {sc : Scope} {rs : List Scope} {pool : List KConst}
    {ps : List (List KConst)} {env env1 : Env} {s s1 s' : SS} {v ev : Value} {epos : Pos}
    (H : Correct2 p f0 rest V P G dr c c1 slot sc rs pool ps env env1 s s1 v)
    (hm : c.map.length = c.buf.length) (hm1 : c1.map.length = c1.buf.length)
    (hA : App c1 c' rs ps) (hE : ErrOK p f0 rest V P c1 c' rs ps env1 s1 s' ev epos) :
    ErrOK p f0 rest V P c c' rs ps env s s' ev epos := by
  obtain ⟨ra1, ns1, more1, seg1, segm1, hc1, pv1, mono1, max1, sok1, bx1, es1, nf1, vm1⟩ := H
  have hs1 : c1.scopes = { sc with ra := ra1, syms := sc.syms ++ ns1 } :: rs := by rw [hc1]
  have hp1 : c1.pools = (pool ++ more1) :: ps := by rw [hc1]
  have hb1 : c1.buf = c.buf ++ seg1 := by rw [hc1]
  have hmm1 : c1.map = c.map ++ segm1 := by rw [hc1]
  have hlen1 : segm1.length = seg1.length := by
    rw [hb1, hmm1] at hm1
    simp only [List.length_append] at hm1
    omega
  obtain ⟨scf, sc2, poolf, more2, seg2, segm2, a1, a2, a3, a4, a5, a6, a7, a8⟩ := hA
  rw [hp1] at a4
  have e0 : pool ++ more1 = poolf := (List.cons.inj a4).1
  subst e0
  intro sc' pool' seg segm hs' hp' hb' hm' k hkw hka hD hcode hmap hpre hV hsz
  rw [a2] at hs'
  rw [a5] at hp'
  have e1 : sc2 = sc' := (List.cons.inj hs').1
  have e2 : pool ++ more1 ++ more2 = pool' := (List.cons.inj hp').1
  subst e1 e2
  have e3 : seg = seg1 ++ seg2 := by
    rw [a6, hb1, List.append_assoc] at hb'
    exact (List.append_cancel_left hb').symm
  have e4 : segm = segm1 ++ segm2 := by
    rw [a7, hmm1, List.append_assoc] at hm'
    exact (List.append_cancel_left hm').symm
  subst e3 e4
  rw [hs1] at a1
  have hmaxf : ra1.max ≤ sc2.ra.max := by rw [← (List.cons.inj a1).1] at a3; exact a3
  obtain ⟨regs1, rch1, sz1, _, _, ed1⟩ := vm1 k hkw hka hD hcode.left (PrefL.trans ⟨more2, rfl⟩ hpre) (PrefA.trans a8 hV) (by omega)
  have hmapR := hmap.right
  rw [hlen1] at hmapR
  obtain ⟨regs', A, pc', rch2, sz2, hst⟩ := hE sc2 _ seg2 segm2 a2 a5 a6 a7
    { regs := regs1, pc := k.pc + seg1.length, args := #[], w := s1.st.world } rfl rfl ed1 hcode.right hmapR hpre hV
    (by show sc2.ra.max < regs1.size; omega)
  exact ⟨regs', A, pc', Reach.trans rch1 rch2, by rw [sz2]; exact sz1, hst⟩

/-- a block scope around the failing part: `janetc_scope` … `janetc_popscope[_keepslot]` -/
theorem ErrOK.block {c c2 c3 : CState} {sc old : Scope} {rs : List Scope} {ps : List (List KConst)} {env : Env} {s s' : SS} {ev : Value} {epos : Pos}
    (hs : c.scopes = sc :: rs) (hs2 : c2.scopes = old :: sc :: rs)
    (h : ErrOK p f0 rest V P { c with scopes := blk c sc false :: sc :: rs } c2 (sc :: rs) ps env s s' ev epos)
    (hs3 : ∀ sc3, c3.scopes = sc3 :: rs → old.ra.max ≤ sc3.ra.max)
    (hp3 : c3.pools = c2.pools) (hb3 : c3.buf = c2.buf) (hm3 : c3.map = c2.map) (hv3 : c3.vals = c2.vals) :
    ErrOK p f0 rest V P c c3 rs ps env s s' ev epos := by
  intro sc' pool' seg segm a1 a2 a3 a4 k b1 b2 b3 b4 b5 b6 b7 b8
  have hlk1 : ∀ y, lk (blk c sc false :: sc :: rs) y = lk c.scopes y := by
    intro y; rw [hs]; exact lk_push _ _ rfl rfl rfl y
  rw [hp3] at a2
  rw [hb3] at a3
  rw [hm3] at a4
  rw [hv3] at b7
  have := hs3 sc' a1
  exact h old pool' seg segm hs2 a2 a3 a4 k b1 b2 (b3.of_lk hlk1) b4 b5 b6 b7 (by omega)

end

theorem posOf_curAt (c : CState) (cur pp : Pos) (h : c.cur = cur) : curAt c pp = { c with cur := posOf cur pp } := by
  unfold curAt posOf
  split
  · rfl
  · rw [← h]

theorem evalArgs_cons_err_inv (n : Nat) (cur : Pos) (env : Env) (a : Expr) (as : List Expr) (s s' : SS) (ev : Value) (epos : Pos)
    (hsp : isSplice a = none) (h : evalArgs n cur env (a :: as) s = .err ev epos s') :
    ∃ n2, n = n2 + 1 ∧ (eval n2 cur env a s = .err ev epos s' ∨
      ∃ v1 env1 s1, eval n2 cur env a s = .ok (v1, env1) s1 ∧ evalArgs n2 cur env1 as s1 = .err ev epos s') := by
  cases n with
  | zero => simp [evalArgs] at h
  | succ n =>
    refine ⟨n, rfl, ?_⟩
    simp only [evalArgs, hsp] at h
    cases he : eval n cur env a s with
    | ok r s1 =>
      obtain ⟨v1, env1⟩ := r
      rw [he] at h
      simp only at h
      refine Or.inr ⟨v1, env1, s1, rfl, ?_⟩
      cases hr : evalArgs n cur env1 as s1 with
      | ok r2 s2 => rw [hr] at h; exact absurd h (by simp)
      | err e2 p2 s2 => rw [hr] at h; exact h
      | brk _ _ => rw [hr] at h; exact absurd h (by simp)
      | stop _ => rw [hr] at h; exact absurd h (by simp)
    | err e2 p2 s2 =>
      rw [he] at h
      simp only [R.err.injEq] at h
      obtain ⟨h1, h2, h3⟩ := h
      subst h1 h2 h3
      exact Or.inl rfl
    | brk _ _ => rw [he] at h; exact absurd h (by simp)
    | stop _ => rw [he] at h; exact absurd h (by simp)

theorem evalArgs_nil_err (n : Nat) (cur : Pos) (env : Env) (s s' : SS) (ev : Value) (epos : Pos) : evalArgs n cur env [] s ≠ .err ev epos s' := by
  cases n <;> simp [evalArgs]

end JanetModel.Compile
