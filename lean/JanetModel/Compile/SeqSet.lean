/- C02: `(set x e)` on a local variable (`janetc_varset`, symbol case): the value compiled with the variable's slot as HINT
   (correctness of hinted compiles = the hypothesis `HintAtM`, Compile/SeqHintBase.lean), then `janetc_copy` of the slot onto itself
   (emits nothing).  Against `Lang/Sem`: the box of the binding of `x` visible AT the `set` form is overwritten.  The run-time invariant at the exit holds for EVERY
   name: the register written belongs to `x` alone (`MutInj`), the box written to `x` alone (`BoxInj`). -/
import JanetModel.Compile.SeqHintBase
namespace JanetModel.Compile
open JanetModel.Emit JanetModel.Lang JanetModel.Bytecode.Exec JanetModel.Gen.Bytecode

/-- `janetc_varset`, symbol case -/
def cSet (rec' : Fopts → Expr → CState → Option (JSlot × CState)) (name : String) (v : Expr) (c : CState) : Option (JSlot × CState) := do
  let (dest, c1) ← resolve c name
  if !dest.mutable then none else do
    let (r, c2) ← rec' { hint := some dest } v c1
    let c3 ← copySlot c2 dest r
    pure (r, c3)

theorem cValue_set_any (fuel : Nat) (opts : Fopts) (name : String) (v : Expr) (p : Pos) (c : CState) :
    cValue (fuel + 1) opts (.form [.sym "set", .sym name, v] p) c = finO opts c.cur (cSet (cValue fuel) name v (curAt c p)) := by
  simp only [cValue]
  split
  · rename_i h; exact (congrArg (finO opts c.cur) h).symm
  · rename_i r c1 h; exact (congrArg (finO opts c.cur) h).symm

theorem cValue_set_o (fuel : Nat) (opts : Fopts) (ht : opts.tail = false) (hh : opts.hint = none) (name : String) (v : Expr) (p : Pos) (c : CState) :
    cValue (fuel + 1) opts (.form [.sym "set", .sym name, v] p) c = fin c.cur (cSet (cValue fuel) name v (curAt c p)) := by
  rw [cValue_set_any, finO_o opts ht hh]

theorem eval_set (n : Nat) (cur : Pos) (env : Env) (x : String) (ve : Expr) (p : Pos) (s : SS) :
    eval (n + 1) cur env (.form [.sym "set", .sym x, ve] p) s =
      (match eval n (posOf cur p) env ve s with
       | .ok (v, env1) s' =>
         match lookupEnv env x with
         | some a => .ok (v, env1) (writeBox s' a v)
         | none => .stop ("set of unknown variable " ++ x)
       | r => r) := by
  simp only [eval] <;> rfl

theorem eval_set_inv (n : Nat) (cur : Pos) (env env' : Env) (x : String) (ve : Expr) (p : Pos) (s s' : SS) (v : Value)
    (h : eval n cur env (.form [.sym "set", .sym x, ve] p) s = .ok (v, env') s') :
    ∃ n2 s1 a, n = n2 + 1 ∧ eval n2 (posOf cur p) env ve s = .ok (v, env') s1 ∧ lookupEnv env x = some a ∧ s' = writeBox s1 a v := by
  cases n with
  | zero => simp [eval] at h
  | succ n2 =>
    rw [eval_set] at h
    cases he : eval n2 (posOf cur p) env ve s with
    | ok r s1 =>
      obtain ⟨v1, env1⟩ := r
      rw [he] at h
      simp only at h
      cases hl : lookupEnv env x with
      | none => rw [hl] at h; exact absurd h (by simp)
      | some a =>
        rw [hl] at h
        simp only [R.ok.injEq, Prod.mk.injEq] at h
        obtain ⟨⟨hv, henv⟩, hs⟩ := h
        subst hv henv
        exact ⟨n2, s1, a, rfl, he, rfl, hs.symm⟩
    | err _ _ _ => rw [he] at h; exact absurd h (by simp)
    | brk _ _ => rw [he] at h; exact absurd h (by simp)
    | stop _ => rw [he] at h; exact absurd h (by simp)

/-- `janetc_copy` of a slot onto itself: nothing emitted, the state unchanged -/
theorem copySlot_self (c c3 : CState) (d : JSlot) (hcf : d.cflag = false) (sc : Scope) (rs : List Scope) (pool : List KConst) (ps : List (List KConst))
    (hs : c.scopes = sc :: rs) (hp : c.pools = pool :: ps) (h : copySlot c d d = some c3) : c3 = c := by
  have hsf : sameFlags d d = true := by simp [sameFlags]
  simp only [copySlot, hcf, Bool.false_eq_true, if_false, hsf, Bool.not_true, Bool.and_false, Bool.false_and] at h
  obtain ⟨_, hc3⟩ := emitW_spec c c3 _ sc rs pool ps hs hp h
  have hX : W.copy { ra := sc.ra, buf := [], consts := pool } d.k d.k = { ra := sc.ra, buf := [], consts := pool } := by
    simp only [W.copy]
    split <;> simp
  rw [hX] at hc3
  rw [hc3]
  cases c
  simp_all

theorem resolve_mutable {G : String → Prop} {c c' : CState} {x : String} {dest : JSlot} (hL : LkL G c.scopes)
    (h : resolve c x = some (dest, c')) (hmut : dest.mutable = true) : c' = c ∧ ∃ u, lk c.scopes x = some (dest, u, true) := by
  rcases resolve_lkl hL h with ⟨_, hd, _⟩ | ⟨hc, _, _, _, u, hu⟩
  · rw [hd] at hmut; exact absurd hmut (by simp [constSlot, cslot])
  · exact ⟨hc, u, hu⟩

section
variable (p : Program) (f0 : Frame) (rest : List Frame) (V : Array Value) (P : List KConst)

/-- what `(set x e)` delivers: compile side as `Correct2`; run side: the value in the variable's register `rx`, every OTHER
    register allocated at entry unchanged, the run-time invariant for every name at the exit -/
def SetOK (G : String → Prop) (c c' : CState) (slot : JSlot) (rx : Nat) (sc : Scope) (rs : List Scope) (pool : List KConst) (ps : List (List KConst))
    (env env' : Env) (s s' : SS) (v : Value) : Prop :=
  ∃ (ra' : RA) (nsyms : List SymPair) (more : List KConst) (seg : List CI) (segm : List Pos),
    c' = { c with scopes := { sc with ra := ra', syms := sc.syms ++ nsyms } :: rs, pools := (pool ++ more) :: ps, buf := c.buf ++ seg,
                  map := c.map ++ segm, vals := c'.vals } ∧
    PrefA c.vals c'.vals ∧ (∀ r, sc.ra.alloc r = true → ra'.alloc r = true) ∧ sc.ra.max ≤ ra'.max ∧
    slot.k = .loc rx ∧ slot.named = true ∧ sc.ra.alloc rx = true ∧ rx < 240 ∧
    s.boxes.size ≤ s'.boxes.size ∧ EnvS G c'.scopes env' s'.boxes.size ra' ∧ segm.length = seg.length ∧
    ∀ (k : Cfg), k.w = s.st.world → k.args = #[] → EnvD c.scopes env s k.regs →
      CodeAt (p.defs.getD f0.defIdx default).code k.pc seg → PrefL (pool ++ more) P → PrefA c'.vals V → ra'.max < k.regs.size →
      ∃ regs', Reach p (inj f0 rest k) (inj f0 rest { regs := regs', pc := k.pc + seg.length, args := #[], w := s'.st.world }) ∧
        regs'.size = k.regs.size ∧ (∀ r, sc.ra.alloc r = true → r ≠ rx → regs'.getD r .nil = k.regs.getD r .nil) ∧
        slotVal V regs' slot = v ∧ EnvD c'.scopes env' s' regs'

theorem set_core (G : String → Prop) (b : Bool) (fuel : Nat) (HA : HintAtM p f0 rest V P G (TF G b) fuel)
    (x : String) (ve : Expr) (hTv : TF G b ve)
    (c c2 c3 : CState) (dest r : JSlot) (sc : Scope) (rs : List Scope) (pool : List KConst) (ps : List (List KConst))
    (n2 : Nat) (pos : Pos) (env env1 : Env) (s s1 : SS) (v : Value) (a : Nat)
    (hs : c.scopes = sc :: rs) (hp : c.pools = pool :: ps) (hl : c.lim ≤ 240) (htop : sc.top = false) (hm : c.map.length = c.buf.length)
    (u l : Bool) (hlk : lk c.scopes x = some (dest, u, l)) (hmut : dest.mutable = true)
    (hv : cValue fuel { hint := some dest } ve c = some (r, c2))
    (hcp : copySlot c2 dest r = some c3)
    (hsem : eval n2 pos env ve s = .ok (v, env1) s1) (hla : lookupEnv env x = some a) (hsame : lookupEnv env1 x = some a)
    (hE : EnvS G c.scopes env s.boxes.size sc.ra)
    (hmaxx : ∀ rx, dest.k = .loc rx → rx ≤ sc.ra.max) (hx2 : ∃ u2 l2, lk c2.scopes x = some (dest, u2, l2))
    (hMI : MutInj c2.scopes) (hBI : BoxInj env1 s1.boxes.size) :
    ∃ rx, SetOK p f0 rest V P G c c3 r rx sc rs pool ps env env1 s (writeBox s1 a v) v := by
  obtain ⟨_, hnm, hcf, rx, a0, hk, _, _, hal, hr240⟩ := hE.found hlk
  obtain ⟨hrd, ra', nsyms, more, seg, segm, hc2, pv, mono, max', bx, es, hlen, vm⟩ :=
    HA ve { hint := some dest } c c2 r sc rs pool ps n2 pos env env1 s s1 v dest rx rfl rfl rfl hk hcf hr240 hal (hmaxx rx hk) hs hp hl htop hm hTv hv hsem hE
  subst hrd
  have hs2 : c2.scopes = { sc with ra := ra', syms := sc.syms ++ nsyms } :: rs := by rw [hc2]
  have hp2 : c2.pools = (pool ++ more) :: ps := by rw [hc2]
  have hc3 : c3 = c2 := copySlot_self c2 c3 r hcf _ rs _ ps hs2 hp2 hcp
  subst hc3
  obtain ⟨u2, l2, hlk2⟩ := hx2
  have ha : a < s1.boxes.size := hBI.2 x a hsame
  have hsize : (writeBox s1 a v).boxes.size = s1.boxes.size := by simp [writeBox]
  refine ⟨rx, ra', nsyms, more, seg, segm, hc2, pv, mono, max', hk, hnm, hal, hr240, ?_, ?_, hlen, ?_⟩
  · rw [hsize]; exact bx.1
  · rw [hsize]; exact es
  · intro k hkw hka hD hcode hpre hV hsz
    obtain ⟨regs', rch, sz, pr, hval, edx⟩ := vm k hkw hka hD hcode hpre hV hsz
    refine ⟨regs', rch, sz, pr, by simp only [slotVal, hk]; exact hval, ?_⟩
    intro y slot uy ly ry ay hy hky hey
    by_cases e : ry = rx
    · subst e
      have hxy : x = y := hMI x y r slot u2 l2 uy ly hlk2 hy hmut (by rw [hk, hky])
      subst hxy
      have : ay = a := by rw [hsame] at hey; exact (Option.some.inj hey).symm
      subst this
      rw [hval]
      simp [readBox, writeBox, Array.getD, ha]
    · rw [edx y slot uy ly ry ay hy hky e hey]
      have hne : ay ≠ a := by
        intro e2
        subst e2
        have hyx : y = x := hBI.1 y x ay hey hsame
        subst hyx
        rw [hlk2] at hy
        simp only [Option.some.injEq, Prod.mk.injEq] at hy
        rw [← hy.1, hk] at hky
        injection hky with e3
        exact e e3.symm
      simp only [readBox, writeBox]
      exact (getD_set_ne _ _ _ _ hne).symm

theorem SetOK.recur {G : String → Prop} {c c1 : CState} {q : Pos} {slot : JSlot} {rx : Nat} {sc : Scope} {rs : List Scope} {pool : List KConst}
    {ps : List (List KConst)} {env env' : Env} {s s' : SS} {v : Value}
    (h : SetOK p f0 rest V P G { c with cur := q } c1 slot rx sc rs pool ps env env' s s' v) :
    SetOK p f0 rest V P G c { c1 with cur := c.cur } slot rx sc rs pool ps env env' s s' v := by
  obtain ⟨ra', nsyms, more, seg, segm, hc, h2⟩ := h
  refine ⟨ra', nsyms, more, seg, segm, ?_, h2⟩
  conv => lhs; rw [hc]

/-- `(set x e)` on a local variable: from the compile and the run of the whole form.  Side conditions at the exit of the value
    (hypotheses): `x` still resolves to the same slot and the same box (the value does not rebind it), a mutable name's register is held by no other name (`MutInj`), distinct
    names have distinct boxes (`BoxInj`) -/
theorem set_correct (G : String → Prop) (b : Bool) (fuel : Nat) (HA : HintAtM p f0 rest V P G (TF G b) fuel)
    (x : String) (ve : Expr) (pp : Pos) (hTv : TF G b ve)
    (opts : Fopts) (c c' : CState) (slot : JSlot) (sc : Scope) (rs : List Scope) (pool : List KConst) (ps : List (List KConst))
    (n : Nat) (cur : Pos) (env env' : Env) (s s' : SS) (v : Value)
    (ht : opts.tail = false) (hh : opts.hint = none) (hs : c.scopes = sc :: rs) (hp : c.pools = pool :: ps) (hl : c.lim ≤ 240)
    (htop : sc.top = false) (hm : c.map.length = c.buf.length)
    (hc : cValue (fuel + 1) opts (.form [.sym "set", .sym x, ve] pp) c = some (slot, c'))
    (hsem : eval n cur env (.form [.sym "set", .sym x, ve] pp) s = .ok (v, env') s')
    (hE : EnvS G c.scopes env s.boxes.size sc.ra)
    (hmaxx : ∀ dest rx u l, lk c.scopes x = some (dest, u, l) → dest.k = .loc rx → rx ≤ sc.ra.max)
    (hside : ∀ (q : Pos) (dest r : JSlot) (c2 : CState), (∃ u l, lk c.scopes x = some (dest, u, l)) →
      cValue fuel { hint := some dest } ve { c with cur := q } = some (r, c2) →
      (∀ u l, lk c.scopes x = some (dest, u, l) → ∃ u2 l2, lk c2.scopes x = some (dest, u2, l2)) ∧ MutInj c2.scopes)
    (hsame : ∀ a, lookupEnv env x = some a → lookupEnv env' x = some a)
    (hBI : ∀ (n2 : Nat) (pos : Pos) (s1 : SS), eval n2 pos env ve s = .ok (v, env') s1 → BoxInj env' s1.boxes.size) :
    ∃ rx, SetOK p f0 rest V P G c c' slot rx sc rs pool ps env env' s s' v := by
  rw [cValue_set_o fuel opts ht hh x ve pp c] at hc
  obtain ⟨cq, hcc, rfl⟩ := fin_inv hc
  obtain ⟨q, hq⟩ := curAt_eq c pp
  rw [hq] at hcc
  obtain ⟨n2, s1, a, hn, hev, hla, hs'⟩ := eval_set_inv n cur env env' x ve pp s s' v hsem
  subst hs'
  simp only [cSet, Option.bind_eq_bind, Option.bind_eq_some_iff, Prod.exists] at hcc
  obtain ⟨dest, c1, hres, hrest⟩ := hcc
  cases hmut : dest.mutable with
  | false => simp [hmut] at hrest
  | true =>
    simp only [hmut, Bool.not_true, Bool.false_eq_true, if_false, Option.bind_eq_some_iff, Prod.exists, Option.pure_def, Option.some.injEq,
      Prod.mk.injEq] at hrest
    obtain ⟨r, c2, hv, c3, hcp, hr, hc3⟩ := hrest
    subst hr hc3
    obtain ⟨hc1, u, hlkx⟩ := resolve_mutable (show LkL G ({ c with cur := q } : CState).scopes from hE.lkl) hres hmut
    subst hc1
    obtain ⟨hx2, hMI⟩ := hside q dest r c2 ⟨u, true, hlkx⟩ hv
    obtain ⟨rx, H⟩ := set_core p f0 rest V P G b fuel HA x ve hTv { c with cur := q } c2 c3 dest r sc rs pool ps n2 (posOf cur pp) env env' s s1 v a
      hs hp hl htop hm u true hlkx hmut hv hcp hev hla (hsame a hla) hE (fun rx hk => hmaxx dest rx u true hlkx hk) (hx2 u true hlkx) hMI (hBI n2 (posOf cur pp) s1 hev)
    exact ⟨rx, SetOK.recur p f0 rest V P (q := q) H⟩

end

end JanetModel.Compile
