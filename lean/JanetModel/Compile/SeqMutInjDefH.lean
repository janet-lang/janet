/- C02: `MutInj` at the exit of a compile, with any options (`set` compiles its value hinted), of a form of the fragment that MAY
   contain `def` — from the entry invariant `AllocInv` to `PInv P` with `P` the registers of the mutable names at entry — and the
   `hside` statement of `compile_correct_set` from entry facts. -/
import JanetModel.Compile.SeqMutInjDefM
namespace JanetModel.Compile
open JanetModel.Emit JanetModel.Lang JanetModel.Bytecode.Exec JanetModel.Gen.Bytecode

/-- the registers of the resolvable mutable locals -/
def MutRegs (scs : List Scope) (r : Nat) : Prop := ∃ x sl u l, lk scs x = some (sl, u, l) ∧ sl.mutable = true ∧ sl.k = .loc r

theorem AllocInv.pinv {sc : Scope} {rs : List Scope} (h : AllocInv (sc :: rs)) : PInv (MutRegs (sc :: rs)) (sc :: rs) sc.ra := by
  refine ⟨h.1, fun x sl u l r h1 h2 => ⟨fun hm => ⟨x, sl, u, l, h1, hm, h2⟩, fun hm hP => ?_⟩, fun r hP => ?_⟩
  · obtain ⟨y, sly, uy, ly, hy, hmy, hky⟩ := hP
    have e := h.1 y x sly sl uy ly u l hy h1 hmy (by rw [hky, h2])
    subst e
    rw [hy] at h1
    simp only [Option.some.injEq, Prod.mk.injEq] at h1
    rw [h1.1, hm] at hmy
    exact absurd hmy (by simp)
  · obtain ⟨y, sly, uy, ly, hy, _, hky⟩ := hP
    exact h.2 sc rs rfl y sly uy ly r hy hky

/-- `MutInj` at the exit of a compile, with any options, of a form that may contain `def` -/
theorem tf_mutinj_any (G : String → Prop) (b : Bool) (fuel : Nat) (e : Expr) (opts : Fopts) (c c' : CState) (slot : JSlot) (sc : Scope)
    (rs : List Scope) (pool : List KConst) (ps : List (List KConst)) (hs : c.scopes = sc :: rs) (hp : c.pools = pool :: ps)
    (hm : c.map.length = c.buf.length) (hl : c.lim ≤ 65536) (hT : TF G b e) (hL : LkL G c.scopes) (hA : AllocInv c.scopes)
    (hc : cValue fuel opts e c = some (slot, c')) : MutInj c'.scopes := by
  rw [hs] at hA
  obtain ⟨_, sc1, hs1, hJ⟩ := tf_inv (pinv_cinv (MutRegs (sc :: rs))) G b fuel e opts c c' slot sc rs pool ps hs hp hm hl hT
    (fun _ h => h.elim) hL hA.pinv hc
  rw [hs1]
  exact hJ.1

theorem tf_mutinj_def (G : String → Prop) (b : Bool) (fuel : Nat) (e : Expr) (opts : Fopts) (c c' : CState) (slot : JSlot) (sc : Scope)
    (rs : List Scope) (pool : List KConst) (ps : List (List KConst))
    (ht : opts.tail = false) (hh : opts.hint = none) (hs : c.scopes = sc :: rs) (hp : c.pools = pool :: ps) (htop : sc.top = false)
    (hm : c.map.length = c.buf.length) (hl : c.lim ≤ 65536) (hT : TF G b e) (hL : LkL G c.scopes) (hA : AllocInv c.scopes)
    (hc : cValue fuel opts e c = some (slot, c')) : MutInj c'.scopes :=
  tf_mutinj_any G b fuel e opts c c' slot sc rs pool ps hs hp hm hl hT hL hA hc

/-- the `hside` statement of `compile_correct_set` for a value of the fragment that may contain `def` (of names other than the
    assigned variable `x`): from `AllocInv` at entry -/
theorem set_hside_def (G : String → Prop) (b : Bool) (fuel : Nat) (x : String) (ve : Expr) (c : CState) (sc : Scope)
    (rs : List Scope) (pool : List KConst) (ps : List (List KConst))
    (hs : c.scopes = sc :: rs) (hp : c.pools = pool :: ps)
    (hm : c.map.length = c.buf.length) (hl : c.lim ≤ 65536) (hT : TF G b ve) (hN : NoBind x ve) (hL : LkL G c.scopes) (hA : AllocInv c.scopes) :
    ∀ (q : Pos) (dest r : JSlot) (c2 : CState), (∃ u l, lk c.scopes x = some (dest, u, l)) →
      cValue fuel { hint := some dest } ve { c with cur := q } = some (r, c2) →
      (∀ u l, lk c.scopes x = some (dest, u, l) → ∃ u2 l2, lk c2.scopes x = some (dest, u2, l2)) ∧ MutInj c2.scopes := by
  intro q dest r c2 ⟨u, l, hlk⟩ hc
  refine ⟨fun u' l' _ => ?_, ?_⟩
  · have := nobind_lk G b x fuel ve { hint := some dest } { c with cur := q } c2 r sc rs pool ps hs hp hm hT hN hL hc
    exact ⟨u, l, by rw [this]; exact hlk⟩
  · exact tf_mutinj_any G b fuel ve { hint := some dest } { c with cur := q } c2 r sc rs pool ps hs hp hm hl hT hL hA hc

end JanetModel.Compile
