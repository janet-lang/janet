/- C02: the SHAPE theorem of the compiler model on the core fragment, for ANY options (`tf_shape`): compiling a form only
   appends to the code / map, only appends to the pool of the current function, only extends the value table, only changes the
   allocator and (by appending) the symbols of the innermost scope.  The shape relation is an instance of `Closed`
   (Compile/Closed.lean); its entry condition includes map length = code length, which `janetc_throwaway` (constant-condition
   `if`) needs because it truncates the source map by the CODE length, and which the conclusion's `segm.length = seg.length`
   re-establishes.  After the instance: what it hands to a relation that rides on it, step by step. -/
import JanetModel.Compile.SeqShapeCases
import JanetModel.Compile.Closed
namespace JanetModel.Compile
open JanetModel.Emit JanetModel.Lang JanetModel.Bytecode.Exec JanetModel.Gen.Bytecode

/-- entry condition of the shape theorem -/
def ShpI (G : String → Prop) (c : CState) : Prop :=
  LkL G c.scopes ∧ c.map.length = c.buf.length ∧ ∃ sc rs pool ps, c.scopes = sc :: rs ∧ c.pools = pool :: ps

/-- `Shp` for whatever the innermost scope and pool are -/
def ShpR (G : String → Prop) (c c' : CState) : Prop :=
  ∀ sc rs pool ps, c.scopes = sc :: rs → c.pools = pool :: ps → Shp G c c' sc rs pool ps

theorem ShpI.mk' {G : String → Prop} {c : CState} {sc : Scope} {rs : List Scope} {pool : List KConst} {ps : List (List KConst)}
    (hL : LkL G c.scopes) (hm : c.map.length = c.buf.length) (hs : c.scopes = sc :: rs) (hp : c.pools = pool :: ps) : ShpI G c :=
  ⟨hL, hm, sc, rs, pool, ps, hs, hp⟩

theorem ShpR.of_step {G : String → Prop} {c c' : CState} (hL : LkL G c.scopes)
    (h : ∀ sc rs pool ps, c.scopes = sc :: rs → c.pools = pool :: ps → StepR c c' sc rs pool ps) : ShpR G c c' :=
  fun sc rs pool ps hs hp => (h sc rs pool ps hs hp).shp hs hL

/-- the primitive steps that change only the innermost allocator (and append to code, map and pool) -/
inductive AllocStep (c c' : CState) : Prop
  | emit {f : Emit.C → Emit.C} : WOK f → emitW c f = some c' → AllocStep c c'
  | far {r : Nat} : allocFar c = some (r, c') → AllocStep c c'
  | free {s : JSlot} : freeslot c s = some c' → AllocStep c c'

theorem AllocStep.stepR {c c' : CState} (a : AllocStep c c') (sc : Scope) (rs : List Scope) (pool : List KConst) (ps : List (List KConst))
    (hs : c.scopes = sc :: rs) (hp : c.pools = pool :: ps) : StepR c c' sc rs pool ps := by
  cases a with
  | emit hW h => exact emitW_stepR _ _ _ sc rs pool ps hs hp (hW.consts _) h
  | @far r h => exact getTarget_stepR c c' {} { k := .loc r } rfl sc rs pool ps hs hp (by simp [getTarget, h])
  | free h => exact freeslot_stepR _ _ _ sc rs pool ps hs hp h

theorem shp_closed (G : String → Prop) : Closed (fun n => ¬ G n) (ShpI G) SlotSh (ShpR G) where
  refl hI := fun _ _ _ _ hs hp => Shp.refl hs hp hI.1
  trans {a b c} _ h1 h2 := by
    intro sc rs pool ps hs hp
    have S1 := h1 sc rs pool ps hs hp
    obtain ⟨sc1, pool1, hs1, hp1, _⟩ := S1.out
    exact S1.trans' hs1 hp1 (h2 sc1 rs pool1 ps hs1 hp1)
  inv {c c'} hI h := by
    obtain ⟨_, hm, sc, rs, pool, ps, hs, hp⟩ := hI
    have S := h sc rs pool ps hs hp
    obtain ⟨sc1, pool1, hs1, hp1, _, hL1, _⟩ := S.out
    exact ⟨hL1, S.mapLen hm, sc1, rs, pool1, ps, hs1, hp1⟩
  icur hI := hI
  curB _ h := fun sc rs pool ps hs hp => (h sc rs pool ps hs hp).recur
  resolve {c c' x sl} hI h := by
    rcases resolve_lkl hI.1 h with ⟨_, e1, e2⟩ | ⟨e, hcf, hk, _⟩
    · rw [e1, e2]
      exact ⟨fun sc rs pool ps hs hp => constSlot_shape G c _ sc rs pool ps hs hp hI.1, Or.inl ⟨rfl, _, rfl⟩⟩
    · rw [e]
      exact ⟨fun _ _ _ _ hs hp => Shp.refl hs hp hI.1, Or.inr ⟨hcf, hk⟩⟩
  const {c v} hI := fun sc rs pool ps hs hp => constSlot_shape G c v sc rs pool ps hs hp hI.1
  kconst := Or.inl ⟨rfl, _, rfl⟩
  emit hI hW h := ShpR.of_step hI.1 (AllocStep.emit hW h).stepR
  raw hI _ := ShpR.of_step hI.1 (fun sc rs pool ps hs hp => emitRaw_stepR _ _ sc rs pool ps hs hp)
  far {c c' r} hI h := ⟨ShpR.of_step hI.1 (AllocStep.far h).stepR, Or.inr ⟨rfl, r, rfl⟩⟩
  free hI _ h := ShpR.of_step hI.1 (AllocStep.free h).stepR
  name {c n s d} hI hG hK _ hk := fun sc rs pool ps hs hp =>
    nameslot_shape G c n _ sc rs pool ps hs hp hI.1 hG
      (by rcases hK with ⟨_, kc, h⟩ | ⟨hcf, _⟩
          · rw [hk] at h; cases h
          · exact hcf) ⟨d, hk⟩
  upname {c n s e i mf} _ hK hk := by
    rcases hK with ⟨_, kc, h⟩ | ⟨_, r, h⟩ <;> rw [hk] at h <;> cases h
  push {c un} hI := by
    obtain ⟨hL, hm, sc, rs, pool, ps, hs, hp⟩ := hI
    rw [pushScope_blk c sc rs un hs]
    exact ⟨by rw [hs] at hL; exact hL.push _ rfl rfl, hm, _, _, pool, ps, rfl, hp⟩
  block {c c2 c3} hI h hpop := by
    intro sc rs pool ps hs hp
    rw [pushScope_blk c sc rs false hs] at h
    exact Shp.of_block G c c2 c3 sc rs pool ps hs hI.1 (h (blk c sc false) (sc :: rs) pool ps rfl hp) hpop
  throw {c c2 c3} hI h hpop := by
    intro sc rs pool ps hs hp
    rw [pushScope_blk c sc rs true hs] at h
    obtain ⟨more, e, pv⟩ := throw_eq G c c2 c3 sc rs pool ps hs hI.2.1 (h (blk c sc true) (sc :: rs) pool ps rfl hp) hpop
    refine ⟨sc.ra, [], more, [], [], ?_, pv, by rw [e]; exact hI.1, rfl⟩
    conv => lhs; rw [e]
    simp [hs]
  mono {c c'} hI h := by
    obtain ⟨_, _, sc, rs, pool, ps, hs, hp⟩ := hI
    obtain ⟨_, _, _, _, _, _, hb⟩ := (h sc rs pool ps hs hp).out
    exact hb
  patch {c c14 nj i off j} _ h hi hj := fun sc rs pool ps hs hp => (h sc rs pool ps hs hp).patch nj i off j hi hj

theorem SlotSh.not_up {s : JSlot} {e i : Nat} (hK : SlotSh s) : s.k ≠ .up e i := fun hk => by
  rcases hK with ⟨_, kc, h⟩ | ⟨_, r, h⟩ <;> rw [hk] at h <;> cases h

theorem ShpI.alloc {G : String → Prop} {c c' : CState} (hI : ShpI G c) (a : AllocStep c c') :
    ∃ sc rs ra', c.scopes = sc :: rs ∧ c'.scopes = { sc with ra := ra' } :: rs ∧ c'.lim = c.lim := by
  obtain ⟨_, _, sc, rs, pool, ps, hs, hp⟩ := hI
  obtain ⟨ra', more, seg, segm, hc, _⟩ := a.stepR sc rs pool ps hs hp
  exact ⟨sc, rs, ra', hs, by rw [hc], by rw [hc]⟩

theorem nameslot_scopes (c : CState) (name : String) (s : JSlot) (sc : Scope) (rs : List Scope) (hs : c.scopes = sc :: rs) :
    (nameslot c name s).scopes = { sc with ra := sc.ra, syms := sc.syms ++ [{ name := name, slot := { s with named := true } }] } :: rs := by
  simp only [nameslot, hs]

/-- what a pushed-and-popped block scope leaves in its parent, whatever its body did: invisible pairs (every name resolves as
    before), every mark of the parent, a `max` not below the parent's -/
theorem ShpR.block_out {G : String → Prop} {c c2 c3 : CState} (hI : ShpI G c) (a : ShpR G (pushScope c false false false false) c2)
    (hpop : popScope c2 = some c3 ∨ ∃ r, popScopeKeep c2 r = some c3) :
    ∃ sc rs sc3, c.scopes = sc :: rs ∧ c3.scopes = sc3 :: rs ∧ c3.lim = c.lim ∧
      (∃ ns, sc3.syms = sc.syms ++ ns ∧ ∀ q, q ∈ ns → q.visible = false) ∧ (∀ x, lk c3.scopes x = lk c.scopes x) ∧
      RSub sc.ra sc3.ra ∧ sc.ra.max ≤ sc3.ra.max := by
  obtain ⟨_, _, sc, rs, pool, ps, hs, hp⟩ := hI
  rw [pushScope_blk c sc rs false hs] at a
  obtain ⟨ra3, ns3, more, seg, segm, hc3, _, _, hinv, hsub, hmax⟩ :=
    block_shape G c c2 c3 sc rs pool ps (a (blk c sc false) (sc :: rs) pool ps rfl hp) hpop
  refine ⟨sc, rs, { sc with ra := ra3, syms := sc.syms ++ ns3 }, hs, by rw [hc3], by rw [hc3], ⟨ns3, rfl, hinv⟩, fun x => ?_, hsub, hmax⟩
  rw [hc3, hs]
  exact (lk_append_invisible { sc with ra := ra3 } rs ns3 hinv x).trans (lk_ra sc rs ra3 x)

theorem ShpR.throw_out {G : String → Prop} {c c2 c3 : CState} (hI : ShpI G c) (a : ShpR G (pushScope c false false false true) c2)
    (hpop : popScope c2 = some c3) : c3.scopes = c.scopes ∧ c3.lim = c.lim := by
  obtain ⟨_, hm, sc, rs, pool, ps, hs, hp⟩ := hI
  rw [pushScope_blk c sc rs true hs] at a
  obtain ⟨more, e, _⟩ := throw_eq G c c2 c3 sc rs pool ps hs hm (a (blk c sc true) (sc :: rs) pool ps rfl hp) hpop
  have e1 := congrArg CState.scopes e
  have e2 := congrArg CState.lim e
  exact ⟨e1, e2⟩

theorem tf_shape (G : String → Prop) (b : Bool) (fuel : Nat) (e : Expr) (opts : Fopts) (c c' : CState) (slot : JSlot) (sc : Scope) (rs : List Scope)
    (pool : List KConst) (ps : List (List KConst)) (hs : c.scopes = sc :: rs)
    (hp : c.pools = pool :: ps) (hm : c.map.length = c.buf.length) (hT : TF G b e) (hL : LkL G c.scopes)
    (hc : cValue fuel opts e c = some (slot, c')) : Shp G c c' sc rs pool ps ∧ (opts.tail = false → opts.hint = none → SlotSh slot) :=
  have h := tf_closed (shp_closed G) b fuel e opts c c' slot hT (ShpI.mk' hL hm hs hp) hc
  ⟨h.1 sc rs pool ps hs hp, h.2⟩

theorem tf_shapeM (G : String → Prop) (b : Bool) (fuel : Nat) (e : Expr) (opts : Fopts) (c c' : CState) (slot : JSlot) (sc : Scope) (rs : List Scope)
    (pool : List KConst) (ps : List (List KConst))
    (ht : opts.tail = false) (hh : opts.hint = none) (hs : c.scopes = sc :: rs) (hp : c.pools = pool :: ps) (htop : sc.top = false)
    (hm : c.map.length = c.buf.length) (hT : TF G b e) (hL : LkL G c.scopes) (hc : cValue fuel opts e c = some (slot, c')) :
    (∃ (ra' : RA) (nsyms : List SymPair) (more : List KConst) (seg : List CI) (segm : List Pos),
      c' = { c with scopes := { sc with ra := ra', syms := sc.syms ++ nsyms } :: rs, pools := (pool ++ more) :: ps, buf := c.buf ++ seg,
                    map := c.map ++ segm, vals := c'.vals } ∧
      PrefA c.vals c'.vals ∧ LkL G c'.scopes ∧ segm.length = seg.length) ∧ SlotSh slot :=
  have h := tf_shape G b fuel e opts c c' slot sc rs pool ps hs hp hm hT hL hc
  ⟨h.1, h.2 ht hh⟩

theorem cReturn_stepR (c c' : CState) (s s' : JSlot) (sc : Scope) (rs : List Scope) (pool : List KConst) (ps : List (List KConst))
    (hs : c.scopes = sc :: rs) (hp : c.pools = pool :: ps) (h : cReturn c s = some (s', c')) :
    StepR c c' sc rs pool ps ∧ s'.returned = true := by
  rcases cReturn_inv c c' s s' h with ⟨hr, e1, e2⟩ | ⟨e1, e2 | e2⟩
  · rw [e1, e2]; exact ⟨StepR.refl c sc rs pool ps hs hp, hr⟩
  · rw [e1, e2]; exact ⟨emitRaw_stepR c _ sc rs pool ps hs hp, rfl⟩
  · rw [e1]; exact ⟨emitS_stepR c c' _ s false sc rs pool ps hs hp e2, rfl⟩

theorem tf_finO {G : String → Prop} {b : Bool} {e : Expr} (hT : TF G b e) (fuel : Nat) (opts : Fopts) (c c' : CState) (slot : JSlot)
    (hc : cValue fuel opts e c = some (slot, c')) : ∃ ret c1, finO opts c.cur (some (ret, c1)) = some (slot, c') := by
  have some_of : ∀ {X : Option (JSlot × CState)}, finO opts c.cur X = some (slot, c') → ∃ ret c1, finO opts c.cur (some (ret, c1)) = some (slot, c') := by
    intro X h
    cases X with
    | none => simp [finO] at h
    | some a => exact ⟨a.1, a.2, h⟩
  cases fuel with
  | zero => simp [cValue] at hc
  | succ fuel =>
    cases hT with
    | lit w hw => rw [cValue_lit_any fuel opts w hw c] at hc; exact some_of hc
    | sym x => rw [cValue_sym_any fuel opts x c] at hc; exact some_of hc
    | call f args pp hf _ _ _ => rw [cValue_call_any fuel opts f args pp c hf] at hc; exact some_of hc
    | doo body pp _ => rw [cValue_do_any fuel opts body pp c] at hc; exact some_of hc
    | ups body pp _ => rw [cValue_upscope_any fuel opts body pp c] at hc; exact some_of hc
    | deff x ve pp _ _ => rw [cValue_def_any fuel opts x ve pp c] at hc; exact some_of hc
    | iff cnd tb rest pp _ _ _ _ _ _ =>
      rcases Bool.eq_false_or_eq_true opts.tail with ht | ht
      · rw [cValue_if_any_t fuel opts ht cnd tb rest pp c] at hc; exact some_of hc
      · rw [cValue_if_any fuel opts ht cnd tb rest pp c] at hc; exact some_of hc

theorem tf_tail_returned {G : String → Prop} {b : Bool} {e : Expr} (hT : TF G b e) (fuel : Nat) (opts : Fopts) (ht : opts.tail = true)
    (hh : opts.hint = none) (c c' : CState) (slot : JSlot) (hc : cValue fuel opts e c = some (slot, c')) : slot.returned = true := by
  obtain ⟨ret, c1, hf⟩ := tf_finO hT fuel opts c c' slot hc
  obtain ⟨ret1, c2, c3, h1, h2, _⟩ := finO_inv opts c.cur ret slot c1 c' hf
  rw [hh] at h2
  simp only [Option.some.injEq, Prod.mk.injEq] at h2
  rw [if_pos ht] at h1
  rw [← h2.1]
  rcases cReturn_inv c1 c2 ret ret1 h1 with ⟨hr, e, _⟩ | ⟨e, _⟩
  · rw [e]; exact hr
  · rw [e]

theorem tf_shapeT (G : String → Prop) (b : Bool) (fuel : Nat) (e : Expr) (opts : Fopts) (c c' : CState) (slot : JSlot) (sc : Scope) (rs : List Scope)
    (pool : List KConst) (ps : List (List KConst))
    (ht : opts.tail = true) (hh : opts.hint = none) (hs : c.scopes = sc :: rs) (hp : c.pools = pool :: ps) (htop : sc.top = false)
    (hm : c.map.length = c.buf.length) (hT : TF G b e) (hL : LkL G c.scopes) (hc : cValue fuel opts e c = some (slot, c')) :
    (∃ (ra' : RA) (nsyms : List SymPair) (more : List KConst) (seg : List CI) (segm : List Pos),
      c' = { c with scopes := { sc with ra := ra', syms := sc.syms ++ nsyms } :: rs, pools := (pool ++ more) :: ps, buf := c.buf ++ seg,
                    map := c.map ++ segm, vals := c'.vals } ∧
      PrefA c.vals c'.vals ∧ LkL G c'.scopes ∧ segm.length = seg.length) ∧ slot.returned = true :=
  ⟨(tf_shape G b fuel e opts c c' slot sc rs pool ps hs hp hm hT hL hc).1, tf_tail_returned hT fuel opts ht hh c c' slot hc⟩

theorem args_pushed_len (G : String → Prop) (fuel : Nat) (b : Bool) (args : List Expr) (hTa : ∀ a, a ∈ args → TF G b a)
    (c1 c2 c3 : CState) (slots : List JSlot) (sc sc2 : Scope) (rs : List Scope) (pool pool2 : List KConst) (ps : List (List KConst))
    (hs1 : c1.scopes = sc :: rs) (hp1 : c1.pools = pool :: ps) (hm : c1.map.length = c1.buf.length)
    (hL : LkL G c1.scopes) (h2 : toSlots (cValue fuel) args c1 = some (slots, c2))
    (hs2 : c2.scopes = sc2 :: rs) (hp2 : c2.pools = pool2 :: ps) (h3 : pushSlots c2 slots = some c3)
    {seg2 seg3 : List CI} {segm2 segm3 : List Pos} (hb2 : c2.buf = c1.buf ++ seg2) (hm2 : c2.map = c1.map ++ segm2)
    (hb3 : c3.buf = c2.buf ++ seg3) (hm3 : c3.map = c2.map ++ segm3) :
    segm2.length = seg2.length ∧ segm3.length = seg3.length := by
  have m2 := ((toSlots_closed (shp_closed G) fuel (tf_closed (shp_closed G) b fuel) args hTa c1 c2 slots (ShpI.mk' hL hm hs1 hp1) h2).1
    sc rs pool ps hs1 hp1).mapLen hm
  have m3 := (pushSlots_stepR slots c2 c3 sc2 rs pool2 ps hs2 hp2 h3).mapLen m2
  have m2' := m2
  rw [hm3, hb3] at m3
  rw [hm2, hb2] at m2'
  simp only [List.length_append] at m2' m3
  omega

end JanetModel.Compile
