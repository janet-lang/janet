/- C02: ONE induction for the compile-only facts about the compiler model: facts of the form "across the compile of a form the
   compiler state changes only so-and-so", with no run of the VM.

   On the fragment, `cValue` with any options is a composition of a handful of primitive steps inside two kinds of bracket.
   `Closed D I K R` — the relation `R` between compiler states is kept by all of them — has one field per primitive and per
   bracket, and nothing else:
     · `refl`, `trans`, `inv`: `R` composes and carries the entry condition `I` (what the next step needs to know of the
       state, e.g. that every name is a plain local) from state to state;
     · primitives: `emit` (any emit-layer wrapper, through its contract `WOK`, Compile/EmitW.lean), `raw` (a raw instruction other
       than the `break` placeholder), `far` (`janetc_allocfar`), `free` (`janetc_freeslot`), `const`, `resolve`, and
       `janetc_nameslot` as `namelocal` uses it: `name` (an immutable local — the value's own slot, or a fresh register — under a new
       name), `upname` (an upvalue slot: impossible when the slots in play are plain);
     · brackets: a block scope — whatever is related to the PUSHED state is, once popped, related to the state before the push
       (`push` moves `I` in; `block` = `janetc_popscope` or `janetc_popscope_keepslot`, `throw` = `janetc_throwaway`, which also
       truncates code and map) — and the mapping cursor (`icur`, `curB`: moved at entry, restored at exit);
     · `janetc_if` patches two instructions it emitted itself: `mono` (the code never shrinks) places the labels in the code
       appended since the `if` began, `patch` says that `R` survives a patch there.
   `K` is what is known of a slot that one step hands to a later one (`resolve`, `far`, `kconst` produce it, `free` and `name`
   consume it); `D`: the names a `def` may bind.
   `tf_closed`: `R c c'` across the compile of any form of `TF G b` with ANY options (un-hinted, hinted, tail, dropped: they
   differ only in `finO`); `tf_closedN`: the same for the forms that bind no name of a set `X`.  The lemmas on the way
   (`toSlots_closed`, `doBody_closed`, `cCall_closed`, `ifSteps_closed`, …) take the fragment as a parameter `T`.

   To add a fact.  If it stands on its own (as "no placeholder is added", `nbl_closed`, Compile/SeqNoBrk.lean) give a `Closed`
   instance.  If it needs to know how the scopes decompose — most do — let it ride (`Rides`) on the shape relation `shp_closed`
   (Compile/SeqShapeM.lean): `Rides` has the fields of `Closed` except `upname` and `mono`, each handed in addition the base's
   entry condition and the base relation over the same states; an invariant `J` of the state is the rider `I2 = J`,
   `R2 _ c' = J c'`.  Over `shp_closed` every field is one call of a lemma stated there: `emit` / `far` / `free` change the
   innermost allocator only (`ShpI.alloc`); `resolve` / `const` keep scopes and limit (`resolve_kept`, `constSlot_kept`,
   Compile/SeqShapeBase.lean); `name` appends one pair (`nameslot_scopes`); `block` leaves invisible pairs, every mark and a `max`
   not below (`ShpR.block_out`); `throw` leaves scopes and limit as they were (`ShpR.throw_out`).  `nr_rides` (an invariant,
   Compile/SeqTailNRb.lean) is a complete instance to copy; `maxr_rides` (a relation, Compile/SeqShapeMaxR.lean) and
   `cinv_rides` (a family of invariants, Compile/SeqInv.lean) are the others.  `Closed.and` puts base and rider together
   (`Rides.over`: a second rider on top), and the fact is read off by
     `have h := tf_closed ((shp_closed G).and (nr_rides G) SlotSh.not_up) b fuel e opts c c' slot hT ⟨ShpI.mk' hL hm hs hp, hN⟩ hc`
   — `h.1.1 sc rs pool ps hs hp : Shp G c c' sc rs pool ps`, `h.1.2` the rider's relation, `h.2 ht hh` the slot's `K ∧ K2`. -/
import JanetModel.Compile.SeqShapeBase
import JanetModel.Compile.SeqIfDef
namespace JanetModel.Compile
open JanetModel.Emit JanetModel.Lang JanetModel.Bytecode.Exec JanetModel.Gen.Bytecode

theorem cstate_cur_eta (c : CState) : ({ c with cur := c.cur } : CState) = c := by cases c; rfl

structure Closed (D : String → Prop) (I : CState → Prop) (K : JSlot → Prop) (R : CState → CState → Prop) : Prop where
  refl : ∀ {c}, I c → R c c
  trans : ∀ {a b c}, I b → R a b → R b c → R a c
  inv : ∀ {c c'}, I c → R c c' → I c'
  icur : ∀ {c q}, I c → I { c with cur := q }
  curB : ∀ {c c3 q}, I c → R { c with cur := q } c3 → R c { c3 with cur := c.cur }
  resolve : ∀ {c c' x sl}, I c → resolve c x = some (sl, c') → R c c' ∧ K sl
  const : ∀ {c v}, I c → R c (constSlot c v).2
  kconst : ∀ {kc}, K (cslot kc)
  emit : ∀ {c c' f}, I c → WOK f → emitW c f = some c' → R c c'
  raw : ∀ {c i}, I c → i ≠ .brk → R c (emitRaw c i)
  far : ∀ {c c' r}, I c → allocFar c = some (r, c') → R c c' ∧ K { k := .loc r }
  free : ∀ {c c' s}, I c → K s → freeslot c s = some c' → R c c'
  name : ∀ {c n s d}, I c → D n → K s → s.mutable = false → s.k = .loc d → R c (nameslot c n s)
  upname : ∀ {c n s e i mf}, I c → K s → s.k = .up e i → R c (nameslot c n { s with mutable := s.mutable || mf })
  push : ∀ {c un}, I c → I (pushScope c false false false un)
  block : ∀ {c c2 c3}, I c → R (pushScope c false false false false) c2 →
    (popScope c2 = some c3 ∨ ∃ r, popScopeKeep c2 r = some c3) → R c c3
  throw : ∀ {c c2 c3}, I c → R (pushScope c false false false true) c2 → popScope c2 = some c3 →
    R c { c3 with buf := c3.buf.take c.buf.length, map := c3.map.take c.buf.length }
  mono : ∀ {c c'}, I c → R c c' → c.buf.length ≤ c'.buf.length
  patch : ∀ {c c14 nj i off j}, I c → R c c14 → c.buf.length ≤ i → c.buf.length ≤ j → R c { c14 with buf := ifPatch nj c14.buf i off j }

section
variable {D : String → Prop} {T : Expr → Prop} {I : CState → Prop} {K : JSlot → Prop} {R : CState → CState → Prop}

/-- `c` is reached from `c0`, and the entry condition holds at `c` -/
def Acc (I : CState → Prop) (R : CState → CState → Prop) (c0 c : CState) : Prop := I c ∧ R c0 c

theorem Acc.start (hC : Closed D I K R) {c : CState} (hI : I c) : Acc I R c c := ⟨hI, hC.refl hI⟩

theorem Acc.step (hC : Closed D I K R) {c0 c c' : CState} (a : Acc I R c0 c) (h : I c → R c c') : Acc I R c0 c' :=
  ⟨hC.inv a.1 (h a.1), hC.trans a.1 a.2 (h a.1)⟩

theorem Closed.emitS (hC : Closed D I K R) {c c' : CState} {op : Op} {s : JSlot} {wr : Bool} (hI : I c) (h : emitS c op s wr = some c') :
    R c c' := hC.emit hI (wok_emitS _ _ _) h

theorem Closed.emitSS (hC : Closed D I K R) {c c' : CState} {op : Op} {s1 s2 : JSlot} {wr : Bool} (hI : I c)
    (h : emitSS c op s1 s2 wr = some c') : R c c' := hC.emit hI (wok_emitSS _ _ _ _) h

theorem Closed.emitSSS (hC : Closed D I K R) {c c' : CState} {op : Op} {s1 s2 s3 : JSlot} {wr : Bool} (hI : I c)
    (h : emitSSS c op s1 s2 s3 wr = some c') : R c c' := hC.emit hI (wok_emitSSS _ _ _ _ _) h

theorem Closed.emitSI (hC : Closed D I K R) {c c' : CState} {op : Op} {s : JSlot} {imm : Nat} {wr : Bool} (hI : I c)
    (h : emitSI c op s imm wr = some c') : R c c' := hC.emit hI (wok_emitSI _ _ _ _) h

/-- `janetc_copy`: past its two refusals it is an emit wrapper -/
theorem Closed.copy (hC : Closed D I K R) {c c' : CState} {d s : JSlot} (hI : I c) (h : copySlot c d s = some c') : R c c' := by
  unfold copySlot at h
  split at h
  · cases h
  · split at h
    · cases h
    · exact hC.emit hI (wok_copy _ _) h

theorem pushSlots_closed (hC : Closed D I K R) : ∀ (ss : List JSlot) (c c' : CState), I c → pushSlots c ss = some c' → R c c'
  | [], c, c', hI, h => by simp only [pushSlots, Option.some.injEq] at h; rw [← h]; exact hC.refl hI
  | [_], c, c', hI, h => hC.emitS hI h
  | [_, _], c, c', hI, h => hC.emitSS hI h
  | _ :: _ :: _ :: rest, c, c', hI, h => by
    simp only [pushSlots, Option.bind_eq_bind, Option.bind_eq_some_iff] at h
    obtain ⟨c1, h1, h2⟩ := h
    have r1 := hC.emitSSS hI h1
    exact hC.trans (hC.inv hI r1) r1 (pushSlots_closed hC rest c1 c' (hC.inv hI r1) h2)

theorem freeslots_closed (hC : Closed D I K R) : ∀ (ss : List JSlot) (c c' : CState), I c → (∀ s, s ∈ ss → K s) → freeslots c ss = some c' → R c c'
  | [], c, c', hI, _, h => by simp only [freeslots, Option.some.injEq] at h; rw [← h]; exact hC.refl hI
  | s :: ss, c, c', hI, hK, h => by
    simp only [freeslots, Option.bind_eq_bind, Option.bind_eq_some_iff] at h
    obtain ⟨c1, h1, h2⟩ := h
    have r1 := hC.free hI (hK s (by simp)) h1
    exact hC.trans (hC.inv hI r1) r1 (freeslots_closed hC ss c1 c' (hC.inv hI r1) (fun s' hs' => hK s' (by simp [hs'])) h2)

theorem getTarget_closed (hC : Closed D I K R) (opts : Fopts) (c c' : CState) (t : JSlot) (hI : I c)
    (h : getTarget c opts = some (t, c')) : R c c' ∧ (opts.hint = none → K t) := by
  have far : ∀ {x : Option (JSlot × CState)}, x = (do let (r, c') ← allocFar c; pure ({ k := .loc r }, c')) → x = some (t, c') → R c c' ∧ K t := by
    intro x e h; subst e
    simp only [Option.bind_eq_bind, Option.bind_eq_some_iff, Prod.exists, Option.pure_def, Option.some.injEq, Prod.mk.injEq] at h
    obtain ⟨r, c1, h1, ht, hc⟩ := h
    subst ht hc; exact hC.far hI h1
  unfold getTarget at h
  split at h
  · rename_i hh heq
    have nh : opts.hint = none → K t := fun e => by rw [e] at heq; cases heq
    split at h
    · split at h
      · simp only [Option.some.injEq, Prod.mk.injEq] at h
        rw [← h.2]; exact ⟨hC.refl hI, nh⟩
      · exact ⟨(far rfl h).1, nh⟩
    · exact ⟨(far rfl h).1, nh⟩
  · exact ⟨(far rfl h).1, fun _ => (far rfl h).2⟩

theorem finO_closed (hC : Closed D I K R) (opts : Fopts) (q : Pos) (ret slot : JSlot) (c0 c1 c' : CState)
    (a : Acc I R c0 c1) (hK : opts.tail = false → opts.hint = none → K ret) (h : finO opts q (some (ret, c1)) = some (slot, c')) :
    ∃ c3, Acc I R c0 c3 ∧ c' = { c3 with cur := q } ∧ (opts.tail = false → opts.hint = none → K slot) := by
  obtain ⟨ret1, c2, c3, h1, h2, hc⟩ := finO_inv opts q ret slot c1 c' h
  have A2 : Acc I R c0 c2 ∧ (opts.tail = false → opts.hint = none → K ret1) := by
    split at h1
    · rename_i htl
      have nt : opts.tail = false → opts.hint = none → K ret1 := fun e => by rw [e] at htl; cases htl
      rcases cReturn_inv c1 c2 ret ret1 h1 with ⟨_, _, e⟩ | ⟨_, e | e⟩
      · rw [e]; exact ⟨a, nt⟩
      · rw [e]; exact ⟨a.step hC (fun hI => hC.raw hI (by simp)), nt⟩
      · exact ⟨a.step hC (fun hI => hC.emitS hI e), nt⟩
    · simp only [Option.some.injEq, Prod.mk.injEq] at h1
      rw [← h1.1, ← h1.2]; exact ⟨a, hK⟩
  split at h2
  · rename_i hh heq
    simp only [Option.map_eq_some_iff, Prod.mk.injEq] at h2
    obtain ⟨cx, hcp, hs, hcx⟩ := h2
    subst hs hcx
    exact ⟨cx, A2.1.step hC (fun hI => hC.copy hI hcp), hc, fun _ e => by rw [e] at heq; cases heq⟩
  · simp only [Option.some.injEq, Prod.mk.injEq] at h2
    obtain ⟨e1, e2⟩ := h2
    subst e1 e2
    exact ⟨c2, A2.1, hc, A2.2⟩

/-- the induction at compile fuel `fuel`.  `K slot` is claimed only without tail and hint: every slot a later step consumes (call head,
    operands, dropped statements, the value of a `def`, a condition) comes from such a compile -/
def ClosedAt (T : Expr → Prop) (I : CState → Prop) (K : JSlot → Prop) (R : CState → CState → Prop) (fuel : Nat) : Prop :=
  ∀ (e : Expr) (opts : Fopts) (c c' : CState) (slot : JSlot), T e → I c →
    cValue fuel opts e c = some (slot, c') → R c c' ∧ (opts.tail = false → opts.hint = none → K slot)

theorem toSlots_closed (hC : Closed D I K R) (fuel : Nat) (IH : ClosedAt T I K R fuel) : ∀ (args : List Expr),
    (∀ a, a ∈ args → T a) → ∀ (c c' : CState) (slots : List JSlot), I c → toSlots (cValue fuel) args c = some (slots, c') →
      R c c' ∧ ∀ s, s ∈ slots → K s
  | [], _, c, c', slots, hI, h => by
    simp only [toSlots, Option.some.injEq, Prod.mk.injEq] at h
    rw [← h.2, ← h.1]; exact ⟨hC.refl hI, fun s hs => by simp at hs⟩
  | a :: as, hT, c, c', slots, hI, h => by
    simp only [toSlots, Option.bind_eq_bind, Option.bind_eq_some_iff, Prod.exists, Option.pure_def, Option.some.injEq, Prod.mk.injEq] at h
    obtain ⟨sl1, c1, hx, ss, c2, hrest, hsl, hc2⟩ := h
    subst hsl hc2
    obtain ⟨r1, k1⟩ := IH a {} c c1 sl1 (hT a (by simp)) hI hx
    obtain ⟨r2, k2⟩ := toSlots_closed hC fuel IH as (fun e he => hT e (by simp [he])) c1 c2 ss (hC.inv hI r1) hrest
    exact ⟨hC.trans (hC.inv hI r1) r1 r2, fun s hs => by
      rcases List.mem_cons.mp hs with e | e
      · rw [e]; exact k1 rfl rfl
      · exact k2 s e⟩

theorem cCall_closed (hC : Closed D I K R) (fuel : Nat) (IH : ClosedAt T I K R fuel) (f : String) (args : List Expr)
    (hTa : ∀ a, a ∈ args → T a) (opts : Fopts) (hTf : T (.sym f)) (c cq : CState) (slot : JSlot) (hI : I c)
    (h : cCall (cValue fuel) opts (.sym f) args c = some (slot, cq)) :
    Acc I R c cq ∧ (opts.tail = false → opts.hint = none → K slot) := by
  obtain ⟨head, c1, slots, c2, c3, c4, c5, h1, h2, h3, hE, hf1, hf2⟩ := cCall_inv _ opts _ args c cq slot h
  obtain ⟨r1, kh⟩ := IH (.sym f) {} c c1 head hTf hI h1
  have A1 := (Acc.start hC hI).step hC (fun _ => r1)
  obtain ⟨r2, ks⟩ := toSlots_closed hC fuel IH args hTa c1 c2 slots A1.1 h2
  have A3 := (A1.step hC (fun _ => r2)).step hC (fun hI => pushSlots_closed hC slots c2 c3 hI h3)
  have A4 : Acc I R c c4 ∧ (opts.tail = false → opts.hint = none → K slot) := by
    unfold cCallOut at hE
    split at hE
    · rename_i htl
      simp only [Option.bind_eq_bind, Option.bind_eq_some_iff, Option.pure_def, Option.some.injEq, Prod.mk.injEq] at hE
      obtain ⟨cx, hem, hs, hcx⟩ := hE
      subst hs hcx
      exact ⟨A3.step hC (fun hI => hC.emitS hI hem), fun e _ => by rw [e] at htl; simp at htl⟩
    · simp only [Option.bind_eq_bind, Option.bind_eq_some_iff, Prod.exists, Option.pure_def, Option.some.injEq, Prod.mk.injEq] at hE
      obtain ⟨t, cT, hT, cx, hem, hs, hcx⟩ := hE
      subst hs hcx
      obtain ⟨rT, kT⟩ := getTarget_closed hC opts c3 cT t A3.1 hT
      exact ⟨(A3.step hC (fun _ => rT)).step hC (fun hI => hC.emitSS hI hem), fun _ => kT⟩
  exact ⟨(A4.1.step hC (fun hI => freeslots_closed hC slots c4 c5 hI ks hf1)).step hC (fun hI => hC.free hI (kh rfl rfl) hf2), A4.2⟩

theorem doBody_closed (hC : Closed D I K R) (fuel : Nat) (IH : ClosedAt T I K R fuel) : ∀ (body : List Expr),
    (∀ e, e ∈ body → T e) → ∀ (opts : Fopts) (c c' : CState) (slot : JSlot), I c →
      doBody (cValue fuel) opts body c = some (slot, c') → R c c' ∧ (opts.tail = false → opts.hint = none → K slot)
  | [], _, opts, c, c', slot, hI, h => by
    simp only [doBody, Option.some.injEq, Prod.mk.injEq] at h
    rw [← h.2, ← h.1]; exact ⟨hC.refl hI, fun _ _ => hC.kconst⟩
  | [x], hT, opts, c, c', slot, hI, h => by
    simp only [doBody] at h
    exact IH x opts c c' slot (hT x (by simp)) hI h
  | x :: y :: r, hT, opts, c, c', slot, hI, h => by
    simp only [doBody, Option.bind_eq_bind, Option.bind_eq_some_iff, Prod.exists] at h
    obtain ⟨sl1, c1, hx, c1f, hf, hrest⟩ := h
    obtain ⟨r1, k1⟩ := IH x { drop := true } c c1 sl1 (hT x (by simp)) hI hx
    have A2 := ((Acc.start hC hI).step hC (fun _ => r1)).step hC (fun hI => hC.free hI (k1 rfl rfl) hf)
    obtain ⟨r3, k3⟩ := doBody_closed hC fuel IH (y :: r) (fun e he => hT e (by simp [he])) opts c1f c' slot A2.1 hrest
    exact ⟨hC.trans A2.1 A2.2 r3, k3⟩

theorem cDo_closed (hC : Closed D I K R) (fuel : Nat) (IH : ClosedAt T I K R fuel) (body : List Expr) (hT : ∀ e, e ∈ body → T e)
    (opts : Fopts) (c c' : CState) (slot : JSlot) (hI : I c)
    (h : cDo (cValue fuel) opts body c = some (slot, c')) : R c c' ∧ (opts.tail = false → opts.hint = none → K slot) := by
  simp only [cDo, Option.bind_eq_bind, Option.bind_eq_some_iff, Prod.exists, Option.pure_def, Option.some.injEq, Prod.mk.injEq] at h
  obtain ⟨r, c2, hbody, c3, hpop, hslot, hc3⟩ := h
  subst hslot hc3
  obtain ⟨r1, k1⟩ := doBody_closed hC fuel IH body hT opts _ c2 r (hC.push hI) hbody
  exact ⟨hC.block hI r1 (Or.inr ⟨_, hpop⟩), k1⟩

theorem cDef_closed (hC : Closed D I K R) (fuel : Nat) (IH : ClosedAt T I K R fuel) (x : String) (ve : Expr) (hD : D x) (hTv : T ve)
    (c c' : CState) (slot : JSlot) (hI : I c) (h : cDef (cValue fuel) x ve c = some (slot, c')) : R c c' ∧ K slot := by
  unfold cDef at h
  split at h
  · cases h
  simp only [Option.bind_eq_bind, Option.bind_eq_some_iff, Prod.exists, Option.pure_def, Option.some.injEq, Prod.mk.injEq] at h
  obtain ⟨r, c1, hv, c2, hnl, hslot, hc2⟩ := h
  subst hslot hc2
  obtain ⟨r1, k1⟩ := IH ve {} c c1 r hTv hI hv
  have A1 := (Acc.start hC hI).step hC (fun _ => r1)
  refine ⟨?_, k1 rfl rfl⟩
  rcases namelocal_inv c1 c2 x false r hnl with ⟨hn, hm, ⟨d, hk⟩, e⟩ | ⟨d, c1a, c1b, hfar, hcp, e⟩ | ⟨ei, i, hk, e⟩
  · have er : ({ r with mutable := false } : JSlot) = r := by cases r; simp_all
    rw [e, er]; exact (A1.step hC (fun hI => hC.name hI hD (k1 rfl rfl) hm hk)).2
  · rw [e]
    obtain ⟨rf, kf⟩ := hC.far A1.1 hfar
    exact (((A1.step hC (fun _ => rf)).step hC (fun hI => hC.copy hI hcp)).step hC (fun hI => hC.name hI hD kf rfl rfl)).2
  · rw [e]; exact (A1.step hC (fun hI => hC.upname hI (k1 rfl rfl) hk)).2

theorem branch_closed (hC : Closed D I K R) (fuel : Nat) (IH : ClosedAt T I K R fuel) (x : Expr) (hx : T x) (opts : Fopts)
    (dc : Bool) (target left : JSlot) (c c6 c7 c8 : CState) (hI : I c)
    (h1 : cValue fuel opts x (pushScope c false false false false) = some (left, c6))
    (h2 : ifCopy dc c6 target left = some c7) (h3 : popScope c7 = some c8) : R c c8 := by
  obtain ⟨r1, _⟩ := IH x opts _ c6 left hx (hC.push hI) h1
  have A2 : Acc I R (pushScope c false false false false) c7 := ((Acc.start hC (hC.push hI)).step hC (fun _ => r1)).step hC (fun hI6 => by
    unfold ifCopy at h2
    split at h2
    · rw [← Option.some.inj h2]; exact hC.refl hI6
    · exact hC.copy hI6 h2)
  exact hC.block hI A2.2 (Or.inl h3)

theorem throwaway_closed (hC : Closed D I K R) (fuel : Nat) (IH : ClosedAt T I K R fuel) (x : Expr) (hx : T x) (opts : Fopts)
    (c c' : CState) (hI : I c) (h : throwaway (cValue fuel) opts x c = some c') : R c c' := by
  simp only [throwaway, Option.bind_eq_bind, Option.bind_eq_some_iff, Prod.exists, Option.pure_def, Option.some.injEq] at h
  obtain ⟨sl, c2, h1, c3, hpop, hc'⟩ := h
  obtain ⟨r1, _⟩ := IH x opts _ c2 sl hx (hC.push hI) h1
  rw [← hc']; exact hC.throw hI r1 hpop

/-- `cE`: the state in which the condition's block is popped (either path, any mode); `c'` is that pop, on the jump path patched at two
    positions behind `c3`'s code -/
theorem ifSteps_mid (hC : Closed D I K R) (fuel : Nat) (IH : ClosedAt T I K R fuel) (opts : Fopts) (dc nj : Bool)
    (target cond : JSlot) (tb fb : Expr) (hTt : T tb) (hTf : T fb) (c3 c' : CState) (hI3 : I c3)
    (hsteps : IfSteps fuel opts dc nj target cond tb fb c3 c') :
    ∃ cE cPop, Acc I R c3 cE ∧ popScope cE = some cPop ∧
      (c' = cPop ∨ ∃ i off j, c3.buf.length ≤ i ∧ c3.buf.length ≤ j ∧ c' = { cPop with buf := ifPatch nj cPop.buf i off j }) := by
  have A3 := Acc.start hC hI3
  rcases hsteps with ⟨k, right, c5, c6, c7, c8, e1, e2, e3, e4, e5⟩ |
    ⟨c4, left, c6, c7, c8, right, c11, c12, c13, c14, e1, e2, e3, e4, e5, e6, e7, e8, ec'⟩
  · have hl : T (if constTruthy k then tb else fb) := by split <;> assumption
    have hd : T (if constTruthy k then fb else tb) := by split <;> assumption
    obtain ⟨dead, hdead⟩ : ∃ d, d = (if constTruthy k then fb else tb) := ⟨_, rfl⟩
    rw [← hdead] at e4 hd
    have A7 := A3.step hC (fun hI3 => branch_closed hC fuel IH _ hl opts dc target right c3 c5 c6 c7 hI3 e1 e2 e3)
    have A8 : Acc I R c3 c8 := A7.step hC (fun hI7 => by
      split at e4
      · rw [← Option.some.inj e4]; exact hC.refl hI7
      · exact throwaway_closed hC fuel IH _ hd opts c7 c8 hI7 e4)
    exact ⟨c8, c', A8, e5, Or.inl rfl⟩
  · have A4 := A3.step hC (fun hI3 => hC.emitSI hI3 e1)
    have A8 := A4.step hC (fun hI4 => branch_closed hC fuel IH tb hTt opts dc target left c4 c6 c7 c8 hI4 e2 e3 e4)
    have A9 : Acc I R c3 (ifJmp nj c8) := A8.step hC (fun hI8 => by
      unfold ifJmp
      split
      · exact hC.refl hI8
      · exact hC.raw hI8 (by simp))
    have A13 := A9.step hC (fun hI9 => branch_closed hC fuel IH fb hTf opts dc target right _ c11 c12 c13 hI9 e5 e6 e7)
    have m4 := emitSI_len c3 c4 _ _ _ _ e1
    have m8 : c4.buf.length ≤ c8.buf.length :=
      hC.mono A4.1 (branch_closed hC fuel IH tb hTt opts dc target left c4 c6 c7 c8 A4.1 e2 e3 e4)
    exact ⟨c13, c14, A13, e8, Or.inr ⟨_, _, _, by unfold lastLabel; omega, by omega, ec'⟩⟩

theorem ifSteps_closed (hC : Closed D I K R) (fuel : Nat) (IH : ClosedAt T I K R fuel) (opts : Fopts) (dc nj : Bool)
    (target cond : JSlot) (tb fb : Expr) (hTt : T tb) (hTf : T fb) (c1 c3 c' : CState) (hI1 : I c1)
    (r3 : R (pushScope c1 false false false false) c3) (hsteps : IfSteps fuel opts dc nj target cond tb fb c3 c') : R c1 c' := by
  have I3 := hC.inv (hC.push hI1) r3
  obtain ⟨cE, cPop, A, hpop, hc'⟩ := ifSteps_mid hC fuel IH opts dc nj target cond tb fb hTt hTf c3 c' I3 hsteps
  have rP := hC.block hI1 (hC.trans I3 r3 A.2) (Or.inl hpop)
  rcases hc' with e | ⟨i, off, j, hi, hj, e⟩
  · rw [e]; exact rP
  · have m3 : c1.buf.length ≤ c3.buf.length := hC.mono (c := pushScope c1 false false false false) (hC.push hI1) r3
    rw [e]
    exact hC.patch hI1 rP (by omega) (by omega)

theorem cIfBody_closed (hC : Closed D I K R) (fuel : Nat) (IH : ClosedAt T I K R fuel) (opts : Fopts)
    (cnd tb fb : Expr) (hTc : T cnd) (hTt : T tb) (hTf : T fb) (c c' : CState) (slot : JSlot) (hI : I c)
    (h : cIfBody (cValue fuel) opts cnd tb fb c = some (slot, c')) : R c c' ∧ (opts.hint = none → K slot) := by
  obtain ⟨target, c1, cond, c3, hT, hcond, hrest⟩ := cIfBody_inv _ opts cnd tb fb c c' slot h
  have A1 : Acc I R c c1 ∧ (opts.hint = none → K target) := by
    split at hT
    · simp only [Option.some.injEq, Prod.mk.injEq] at hT
      rw [← hT.1, ← hT.2]; exact ⟨Acc.start hC hI, fun _ => hC.kconst⟩
    · obtain ⟨rT, kT⟩ := getTarget_closed hC opts c c1 target hI hT
      exact ⟨(Acc.start hC hI).step hC (fun _ => rT), kT⟩
  obtain ⟨r3, _⟩ := IH cnd {} _ c3 cond hTc (hC.push A1.1.1) hcond
  obtain ⟨eslot, hst⟩ := IfSteps.of_body fuel opts target cond tb fb c3 c' slot hrest
  have r := ifSteps_closed hC fuel IH opts _ _ target cond tb fb hTt hTf c1 c3 c' A1.1.1 r3 hst
  exact ⟨hC.trans A1.1.1 A1.1.2 r, eslot ▸ A1.2⟩

theorem cIfBodyT_closed (hC : Closed D I K R) (fuel : Nat) (IH : ClosedAt T I K R fuel) (opts : Fopts)
    (cnd tb fb : Expr) (hTc : T cnd) (hTt : T tb) (hTf : T fb) (c c' : CState) (slot : JSlot) (hI : I c)
    (h : cIfBodyT (cValue fuel) opts cnd tb fb c = some (slot, c')) : R c c' := by
  obtain ⟨cond, c3, hcond, hrest⟩ := cIfBodyT_inv _ opts cnd tb fb c c' slot h
  obtain ⟨r3, _⟩ := IH cnd {} _ c3 cond hTc (hC.push hI) hcond
  exact ifSteps_closed hC fuel IH opts true true (cslot .nil) cond tb fb hTt hTf c c3 c' hI r3 (IfSteps.of_bodyT fuel opts cond tb fb c3 c' slot hrest)

def TFN (G : String → Prop) (b : Bool) (X : String → Prop) (e : Expr) : Prop := TF G b e ∧ ∀ x, X x → NoBind x e

theorem TFN.sub {G : String → Prop} {b : Bool} {X : String → Prop} {l : List Expr} {p : Pos} (hN : ∀ x, X x → NoBind x (.form l p))
    {l' : List Expr} (hT : ∀ a, a ∈ l' → TF G b a) (hl : ∀ a, a ∈ l' → a ∈ l) : ∀ a, a ∈ l' → TFN G b X a :=
  fun a ha => ⟨hT a ha, fun x hx => (hN x hx).sub (hl a ha)⟩

theorem tf_closedN {G X : String → Prop} (hC : Closed (fun n => ¬ G n ∧ ¬ X n) I K R) (b : Bool) : ∀ fuel, ClosedAt (TFN G b X) I K R fuel := by
  intro fuel
  induction fuel with
  | zero => intro e opts c c' slot _ _ hc; simp [cValue] at hc
  | succ fuel ih =>
    intro e opts c c' slot hT hI hc
    obtain ⟨hT, hN⟩ := hT
    -- the body of the form at cursor `q`, then `finO`, then the cursor bracket
    have ends : ∀ {q res}, (∀ r c1, res = some (r, c1) → R { c with cur := q } c1 ∧ (opts.tail = false → opts.hint = none → K r)) →
        finO opts c.cur res = some (slot, c') → R c c' ∧ (opts.tail = false → opts.hint = none → K slot) := by
      intro q res hres hf
      cases res with
      | none => simp [finO] at hf
      | some a =>
        obtain ⟨r, c1⟩ := a
        obtain ⟨r1, k1⟩ := hres r c1 rfl
        obtain ⟨c3, A, e', k⟩ := finO_closed hC opts c.cur r slot _ c1 c' ((Acc.start hC (hC.icur (q := q) hI)).step hC (fun _ => r1)) k1 hf
        rw [e']
        exact ⟨hC.curB hI A.2, k⟩
    have hIq : ∀ q, I { c with cur := q } := fun q => hC.icur hI
    cases hT with
    | lit w hw =>
      rw [cValue_lit_any fuel opts w hw c] at hc
      refine ends (q := c.cur) (fun r c1 e => ?_) hc
      simp only [Option.some.injEq] at e
      have e1 : r = (constSlot c w).1 := by rw [e]
      have e2 : c1 = (constSlot c w).2 := by rw [e]
      rw [e1, e2, cstate_cur_eta c]
      exact ⟨hC.const hI, fun _ _ => hC.kconst⟩
    | sym x =>
      rw [cValue_sym_any fuel opts x c] at hc
      refine ends (q := c.cur) (fun r c1 e => ?_) hc
      rw [cstate_cur_eta c]
      exact ⟨(hC.resolve hI e).1, fun _ _ => (hC.resolve hI e).2⟩
    | call f args pp hf hna hG hTa =>
      rw [cValue_call_any fuel opts f args pp c hf] at hc
      obtain ⟨q, hq⟩ := curAt_eq c pp
      rw [hq] at hc
      exact ends (fun r c1 e => by
        obtain ⟨A, k⟩ := cCall_closed hC fuel ih f args (TFN.sub hN hTa (fun a ha => List.mem_cons_of_mem _ ha)) opts
          ⟨.sym f, fun x _ => .sym f⟩ _ c1 r (hIq q) e
        exact ⟨A.2, k⟩) hc
    | doo body pp hTb =>
      rw [cValue_do_any fuel opts body pp c] at hc
      obtain ⟨q, hq⟩ := curAt_eq c pp
      rw [hq] at hc
      exact ends (fun r c1 e => cDo_closed hC fuel ih body (TFN.sub hN hTb (fun a ha => List.mem_cons_of_mem _ ha)) opts _ c1 r (hIq q) e) hc
    | ups body pp hTb =>
      rw [cValue_upscope_any fuel opts body pp c] at hc
      obtain ⟨q, hq⟩ := curAt_eq c pp
      rw [hq] at hc
      exact ends (fun r c1 e =>
        doBody_closed hC fuel ih body (TFN.sub hN hTb (fun a ha => List.mem_cons_of_mem _ ha)) opts _ c1 r (hIq q) e) hc
    | deff x ve pp hGx hTv =>
      rw [cValue_def_any fuel opts x ve pp c] at hc
      obtain ⟨q, hq⟩ := curAt_eq c pp
      rw [hq] at hc
      exact ends (fun r c1 e => by
        obtain ⟨r1, k1⟩ := cDef_closed hC fuel ih x ve ⟨hGx, fun hx => (hN x hx).name rfl⟩
          ⟨hTv, fun y hy => (hN y hy).sub (by simp)⟩ _ c1 r (hIq q) e
        exact ⟨r1, fun _ _ => k1⟩) hc
    | iff cnd tb rest pp _ _ hlen hTc hTt hTe =>
      have hTf : TFN G b X (rest.headD (.lit .nil)) := by
        cases rest with
        | nil => exact ⟨.lit .nil trivial, fun _ _ => .lit .nil⟩
        | cons e _ => exact ⟨hTe e (by simp), fun x hx => (hN x hx).sub (by simp)⟩
      have hTc' : TFN G b X cnd := ⟨hTc, fun x hx => (hN x hx).sub (by simp)⟩
      have hTt' : TFN G b X tb := ⟨hTt, fun x hx => (hN x hx).sub (by simp)⟩
      obtain ⟨q, hq⟩ := curAt_eq c pp
      rcases Bool.eq_false_or_eq_true opts.tail with ht | ht
      · rw [cValue_if_any_t fuel opts ht cnd tb rest pp c, cIfT_le1 _ _ _ _ _ _ hlen, hq] at hc
        exact ends (fun r c1 e => ⟨cIfBodyT_closed hC fuel ih opts cnd tb _ hTc' hTt' hTf _ c1 r (hIq q) e,
          fun e' _ => by rw [ht] at e'; cases e'⟩) hc
      · rw [cValue_if_any fuel opts ht cnd tb rest pp c, cIf_le1 _ _ _ _ _ _ hlen, hq] at hc
        exact ends (fun r c1 e => by
          obtain ⟨r1, k1⟩ := cIfBody_closed hC fuel ih opts cnd tb _ hTc' hTt' hTf _ c1 r (hIq q) e
          exact ⟨r1, fun _ => k1⟩) hc

theorem Closed.of_D {D' : String → Prop} (hC : Closed D I K R) (h : ∀ n, D' n → D n) : Closed D' I K R :=
  { hC with name := fun hI hD => hC.name hI (h _ hD) }

theorem tf_closed {G : String → Prop} (hC : Closed (fun n => ¬ G n) I K R) (b : Bool) : ∀ fuel, ClosedAt (TF G b) I K R fuel :=
  fun fuel e opts c c' slot hT hI hc =>
    tf_closedN (X := fun _ => False) (hC.of_D (fun _ h => h.1)) b fuel e opts c c' slot ⟨hT, fun _ hx => hx.elim⟩ hI hc

end

/-- `R2` (entry condition `I2`, slot property `K2`) is kept by the steps, given what a closed `R` provides at each -/
structure Rides (D : String → Prop) (I : CState → Prop) (K : JSlot → Prop) (R : CState → CState → Prop)
    (I2 : CState → Prop) (K2 : JSlot → Prop) (R2 : CState → CState → Prop) : Prop where
  refl : ∀ {c}, I c → I2 c → R2 c c
  trans : ∀ {a b c}, I b → I2 b → R a b → R b c → R2 a b → R2 b c → R2 a c
  inv : ∀ {c c'}, I c → I2 c → R c c' → R2 c c' → I2 c'
  icur : ∀ {c q}, I2 c → I2 { c with cur := q }
  curB : ∀ {c c3 q}, I c → I2 c → R { c with cur := q } c3 → R2 { c with cur := q } c3 → R2 c { c3 with cur := c.cur }
  resolve : ∀ {c c' x sl}, I c → I2 c → resolve c x = some (sl, c') → R2 c c' ∧ K2 sl
  const : ∀ {c v}, I c → I2 c → R2 c (constSlot c v).2
  kconst : ∀ {kc}, K2 (cslot kc)
  emit : ∀ {c c' f}, I c → I2 c → WOK f → emitW c f = some c' → R2 c c'
  raw : ∀ {c i}, I c → I2 c → i ≠ .brk → R2 c (emitRaw c i)
  far : ∀ {c c' r}, I c → I2 c → allocFar c = some (r, c') → R2 c c' ∧ K2 { k := .loc r }
  free : ∀ {c c' s}, I c → I2 c → K s → K2 s → freeslot c s = some c' → R2 c c'
  name : ∀ {c n s d}, I c → I2 c → D n → K s → K2 s → s.mutable = false → s.k = .loc d → R2 c (nameslot c n s)
  push : ∀ {c un}, I c → I2 c → I2 (pushScope c false false false un)
  block : ∀ {c c2 c3}, I c → I2 c → R (pushScope c false false false false) c2 → R2 (pushScope c false false false false) c2 →
    (popScope c2 = some c3 ∨ ∃ r, popScopeKeep c2 r = some c3) → R2 c c3
  throw : ∀ {c c2 c3}, I c → I2 c → R (pushScope c false false false true) c2 → R2 (pushScope c false false false true) c2 →
    popScope c2 = some c3 → R2 c { c3 with buf := c3.buf.take c.buf.length, map := c3.map.take c.buf.length }
  patch : ∀ {c c14 nj i off j}, I c → I2 c → R c c14 → R2 c c14 → c.buf.length ≤ i → c.buf.length ≤ j →
    R2 c { c14 with buf := ifPatch nj c14.buf i off j }

/-- a closed relation with a rider is closed (`hup`: the slots in play are never upvalue slots) -/
theorem Closed.and {D : String → Prop} {I I2 : CState → Prop} {K K2 : JSlot → Prop} {R R2 : CState → CState → Prop}
    (h1 : Closed D I K R) (h2 : Rides D I K R I2 K2 R2) (hup : ∀ {s e i}, K s → s.k ≠ .up e i) :
    Closed D (fun c => I c ∧ I2 c) (fun s => K s ∧ K2 s) (fun c c' => R c c' ∧ R2 c c') where
  refl hI := ⟨h1.refl hI.1, h2.refl hI.1 hI.2⟩
  trans hI a b := ⟨h1.trans hI.1 a.1 b.1, h2.trans hI.1 hI.2 a.1 b.1 a.2 b.2⟩
  inv hI a := ⟨h1.inv hI.1 a.1, h2.inv hI.1 hI.2 a.1 a.2⟩
  icur hI := ⟨h1.icur hI.1, h2.icur hI.2⟩
  curB hI a := ⟨h1.curB hI.1 a.1, h2.curB hI.1 hI.2 a.1 a.2⟩
  resolve hI h := ⟨⟨(h1.resolve hI.1 h).1, (h2.resolve hI.1 hI.2 h).1⟩, (h1.resolve hI.1 h).2, (h2.resolve hI.1 hI.2 h).2⟩
  const hI := ⟨h1.const hI.1, h2.const hI.1 hI.2⟩
  kconst := ⟨h1.kconst, h2.kconst⟩
  emit hI hW h := ⟨h1.emit hI.1 hW h, h2.emit hI.1 hI.2 hW h⟩
  raw hI hi := ⟨h1.raw hI.1 hi, h2.raw hI.1 hI.2 hi⟩
  far hI h := ⟨⟨(h1.far hI.1 h).1, (h2.far hI.1 hI.2 h).1⟩, (h1.far hI.1 h).2, (h2.far hI.1 hI.2 h).2⟩
  free hI k h := ⟨h1.free hI.1 k.1 h, h2.free hI.1 hI.2 k.1 k.2 h⟩
  name hI g k m d := ⟨h1.name hI.1 g k.1 m d, h2.name hI.1 hI.2 g k.1 k.2 m d⟩
  upname _ k hk := absurd hk (hup k.1)
  push hI := ⟨h1.push hI.1, h2.push hI.1 hI.2⟩
  block hI a h := ⟨h1.block hI.1 a.1 h, h2.block hI.1 hI.2 a.1 a.2 h⟩
  throw hI a h := ⟨h1.throw hI.1 a.1 h, h2.throw hI.1 hI.2 a.1 a.2 h⟩
  mono hI a := h1.mono hI.1 a.1
  patch hI a hi hj := ⟨h1.patch hI.1 a.1 hi hj, h2.patch hI.1 hI.2 a.1 a.2 hi hj⟩

/-- a rider on `R` rides on `R` with a first rider: `(h1.and r1 hup).and r2.over hup'` carries both -/
theorem Rides.over {D : String → Prop} {I I1 I2 : CState → Prop} {K K1 K2 : JSlot → Prop} {R R1 R2 : CState → CState → Prop}
    (h : Rides D I K R I2 K2 R2) :
    Rides D (fun c => I c ∧ I1 c) (fun s => K s ∧ K1 s) (fun c c' => R c c' ∧ R1 c c') I2 K2 R2 where
  refl hI := h.refl hI.1
  trans hI i2 a b := h.trans hI.1 i2 a.1 b.1
  inv hI i2 a := h.inv hI.1 i2 a.1
  icur := h.icur
  curB hI i2 a := h.curB hI.1 i2 a.1
  resolve hI := h.resolve hI.1
  const hI := h.const hI.1
  kconst := h.kconst
  emit hI := h.emit hI.1
  raw hI := h.raw hI.1
  far hI := h.far hI.1
  free hI i2 k := h.free hI.1 i2 k.1
  name hI i2 g k := h.name hI.1 i2 g k.1
  push hI := h.push hI.1
  block hI i2 a := h.block hI.1 i2 a.1
  throw hI i2 a := h.throw hI.1 i2 a.1
  patch hI i2 a := h.patch hI.1 i2 a.1

end JanetModel.Compile
