/- C02: `while` loops without `break` nested at most `k` deep, `TFWn G k`: a part of `TL G` for every `k`. -/
import JanetModel.Compile.SeqNest
namespace JanetModel.Compile
open JanetModel.Emit JanetModel.Lang JanetModel.Bytecode.Exec JanetModel.Gen.Bytecode

/-- forms of the fragment and `while` loops without `break` nested at most `k` deep -/
def TFWn (G : String → Prop) : Nat → Expr → Prop
  | 0, e => TF G true e
  | k + 1, e => TFWn G k e ∨
      ∃ cnd body pp, e = .form (.sym "while" :: cnd :: body) pp ∧ CondOK cnd ∧ TF G true cnd ∧ ∀ x, x ∈ body → TFWn G k x

theorem tfwn_of_tf (G : String → Prop) : ∀ (k : Nat) (e : Expr), TF G true e → TFWn G k e
  | 0, _, h => h
  | k + 1, e, h => Or.inl (tfwn_of_tf G k e h)

theorem TL.of_tfwn {G : String → Prop} : ∀ {k : Nat} {e : Expr}, TFWn G k e → TL G e
  | 0, e, h => .base e h
  | _ + 1, _, .inl h => TL.of_tfwn h
  | _ + 1, _, .inr ⟨cnd, body, pp, he, hok, hTc, hTb⟩ => he ▸ .loop cnd body pp hok hTc (fun x hx => TL.of_tfwn (hTb x hx))

end JanetModel.Compile
