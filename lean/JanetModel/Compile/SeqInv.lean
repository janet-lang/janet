/- C02: invariants of the scope stack across the compile of a form of the fragment.  `CInv J K X L`: `J`, a property of what names
   resolve to and of the innermost allocator's marks, is kept by the single steps of the compiler — marks only added (`of_lk`); a mark
   cleared only for a `K` slot (`unmark`); a name added only by `def`, immutable, outside `X`, for a `K` slot (`snoc`), which is the
   value's own slot (`sym`, `const`) or a fresh register (`fresh`: first fit ends below the limit `L`, inside its search bound).
   Such a `J` rides on the shape relation (`cinv_rides`; Compile/Closed.lean), hence `tf_inv`, for any options.  `J` may depend on
   the slot and the local flag a name resolves to (`LkEq`), not on the `unused` flag of the answer, which a thrown-away scope sets. -/
import JanetModel.Compile.SeqShapeM
namespace JanetModel.Compile
open JanetModel.Emit JanetModel.Lang JanetModel.Bytecode.Exec JanetModel.Gen.Bytecode

def dropU (r : JSlot × Bool × Bool) : JSlot × Bool := (r.1, r.2.2)

/-- every name resolves to the same slot with the same local flag -/
def LkEq (scs' scs : List Scope) : Prop := ∀ x, (lk scs' x).map dropU = (lk scs x).map dropU

theorem LkEq.of_eq {scs' scs : List Scope} (h : ∀ x, lk scs' x = lk scs x) : LkEq scs' scs := fun x => by rw [h x]

theorem LkEq.found {scs' scs : List Scope} (h : LkEq scs' scs) {x : String} {sl : JSlot} {u l : Bool} (hx : lk scs' x = some (sl, u, l)) :
    ∃ u', lk scs x = some (sl, u', l) := by
  have := h x
  rw [hx] at this
  cases hh : lk scs x with
  | none => rw [hh] at this; cases this
  | some r =>
    rw [hh] at this
    simp only [Option.map_some, Option.some.injEq, dropU, Prod.mk.injEq] at this
    exact ⟨r.2.1, by rw [this.1, this.2]⟩

/-- `janetc_scope` for a block, used or not -/
theorem LkEq.push (nw : Scope) (l : List Scope) (h1 : nw.syms = []) (h3 : nw.fn = false) : LkEq (nw :: l) l := fun x => by
  rw [lk_push_u nw l h1 h3 x]
  cases lk l x <;> rfl

structure CInv (J : List Scope → RA → Prop) (K : JSlot → Prop) (X : String → Prop) (L : Nat) : Prop where
  of_lk : ∀ {scs scs' ra ra'}, J scs ra → LkEq scs' scs → RSub ra ra' → J scs' ra'
  unmark : ∀ {scs ra s i}, J scs ra → K s → s.k = .loc i → s.named = false → J scs (ra.unmark i)
  fresh : ∀ {scs ra}, J scs ra → ra.alloc1.1 < L → K { k := .loc ra.alloc1.1 }
  const : ∀ {s}, (∀ i, s.k ≠ .loc i) → K s
  sym : ∀ {scs ra x sl u l}, J scs ra → lk scs x = some (sl, u, l) → sl.named = true → K sl
  snoc : ∀ {sc rs ra n s d}, J (sc :: rs) ra → ¬ X n → K s → s.mutable = false → s.k = .loc d →
    J ({ sc with ra := ra, syms := sc.syms ++ [{ name := n, slot := { s with named := true } }] } :: rs) ra

/-- `J` at the innermost scope of `c`, and the register limit -/
def CAt (J : List Scope → RA → Prop) (L : Nat) (c : CState) : Prop := c.lim ≤ L ∧ ∀ sc rs, c.scopes = sc :: rs → J (sc :: rs) sc.ra

section
variable {J : List Scope → RA → Prop} {K : JSlot → Prop} {X : String → Prop} {L : Nat}

theorem CAt.of_eq {c c' : CState} (h : CAt J L c) (hs : c'.scopes = c.scopes) (hl : c'.lim = c.lim) : CAt J L c' :=
  ⟨by rw [hl]; exact h.1, fun sc rs e => h.2 sc rs (by rw [← hs]; exact e)⟩

theorem CAt.mk' {c' : CState} {sc' : Scope} {rs : List Scope} (hl : c'.lim ≤ L) (hs' : c'.scopes = sc' :: rs) (hJ : J (sc' :: rs) sc'.ra) :
    CAt J L c' :=
  ⟨hl, fun sc0 rs0 e0 => by
    rw [hs'] at e0
    obtain ⟨e2, e3⟩ := List.cons.inj e0
    subst e2 e3
    exact hJ⟩

theorem cinv_rides (hC : CInv J K X L) (G : String → Prop) :
    Rides (fun n => ¬ G n ∧ ¬ X n) (ShpI G) SlotSh (ShpR G) (CAt J L) K (fun _ c' => CAt J L c') where
  refl _ h := h
  trans _ _ _ _ _ h := h
  inv _ _ _ h := h
  icur h := h
  curB _ _ _ h := h
  resolve {c c' x sl} hI h2 h := by
    obtain ⟨es, el, k⟩ := resolve_kept hI.1 h
    refine ⟨h2.of_eq es el, ?_⟩
    rcases k with ⟨kc, e⟩ | ⟨_, _, hnm, u, hlk⟩
    · rw [e]; exact hC.const (fun i hi => by cases hi)
    · obtain ⟨_, _, sc, rs, _, _, hs, _⟩ := hI
      rw [hs] at hlk
      exact hC.sym (h2.2 sc rs hs) hlk hnm
  const _ h2 := h2.of_eq (constSlot_kept _ _).1 (constSlot_kept _ _).2
  kconst := hC.const (fun i hi => by cases hi)
  emit {c c' f} hI h2 hW h := by
    obtain ⟨sc, rs, ra', hs, hs', hl⟩ := hI.alloc (.emit hW h)
    obtain ⟨sc1, hs1, hsub⟩ := emitW_marks c c' f sc rs hs (fun pool => hW.marks { ra := sc.ra, buf := [], consts := pool }) h
    rw [hs'] at hs1
    rw [← (List.cons.inj hs1).1] at hsub
    exact CAt.mk' (by rw [hl]; exact h2.1) hs' (hC.of_lk (h2.2 sc rs hs) (LkEq.of_eq (lk_ra sc rs ra')) hsub)
  raw _ h2 _ := h2.of_eq rfl rfl
  far {c c' r} hI h2 h := by
    obtain ⟨_, _, sc, rs, _, _, hs, _⟩ := hI
    have hf : farslot c = some ({ k := .loc r }, c') := by simp [farslot, h]
    obtain ⟨hlt, hls, hc1⟩ := farslot_inv c c' _ sc rs hs hf
    exact ⟨CAt.mk' (sc' := { sc with ra := sc.ra.alloc1.2 }) (by rw [hc1]; exact h2.1) (by rw [hc1])
        (hC.of_lk (h2.2 sc rs hs) (LkEq.of_eq (lk_ra sc rs _)) (alloc1_rsub (RSub.refl sc.ra)).1),
      by rw [hls]; exact hC.fresh (h2.2 sc rs hs) (Nat.lt_of_lt_of_le hlt h2.1)⟩
  free {c c' s} hI h2 _ hK h := by
    obtain ⟨sc, rs, _, hs, _, hl⟩ := hI.alloc (.free h)
    refine ⟨by rw [hl]; exact h2.1, fun sc0 rs0 e0 => ?_⟩
    unfold freeslot at h
    split at h
    · rw [← Option.some.inj h] at e0; exact h2.2 sc0 rs0 e0
    · rename_i hcond
      split at h
      · rw [← Option.some.inj h] at e0; exact h2.2 sc0 rs0 e0
      · rename_i i hk
        rw [hs] at h
        simp only [Option.some.injEq] at h
        rw [← h] at e0
        obtain ⟨e2, e3⟩ := List.cons.inj e0
        subst e2 e3
        have hn : s.named = false := Bool.eq_false_iff.mpr (fun hn => hcond (by rw [hn, Bool.or_true]))
        exact hC.of_lk (hC.unmark (h2.2 sc rs hs) hK hk hn) (LkEq.of_eq (fun x => lk_ra sc rs _ x)) (RSub.refl _)
      · exact absurd h (by simp)
  name {c n s d} hI h2 hD _ hK hmu hk := by
    obtain ⟨_, _, sc, rs, _, _, hs, _⟩ := hI
    exact CAt.mk' (by simp only [nameslot, hs]; exact h2.1) (nameslot_scopes c n s sc rs hs) (hC.snoc (h2.2 sc rs hs) hD.2 hK hmu hk)
  push {c un} hI h2 := by
    obtain ⟨_, _, sc, rs, _, _, hs, _⟩ := hI
    rw [pushScope_blk c sc rs un hs]
    exact CAt.mk' (sc' := blk c sc un) h2.1 rfl (hC.of_lk (h2.2 sc rs hs) (LkEq.push (blk c sc un) (sc :: rs) rfl rfl) (fun _ h => h))
  block hI h2 a _ h := by
    obtain ⟨sc, rs, sc3, hs, hs3, hl, _, hlk, hsub, _⟩ := a.block_out hI h
    rw [hs3, hs] at hlk
    exact CAt.mk' (by rw [hl]; exact h2.1) hs3 (hC.of_lk (h2.2 sc rs hs) (LkEq.of_eq hlk) hsub)
  throw hI h2 a _ hpop := h2.of_eq (a.throw_out hI hpop).1 (a.throw_out hI hpop).2
  patch _ _ _ h _ _ := h

theorem tf_inv (hC : CInv J K X L) (G : String → Prop) (b : Bool) (fuel : Nat) (e : Expr) (opts : Fopts) (c c' : CState) (slot : JSlot)
    (sc : Scope) (rs : List Scope) (pool : List KConst) (ps : List (List KConst)) (hs : c.scopes = sc :: rs) (hp : c.pools = pool :: ps)
    (hm : c.map.length = c.buf.length) (hl : c.lim ≤ L) (hT : TF G b e) (hN : ∀ x, X x → NoBind x e) (hL : LkL G c.scopes)
    (hI : J (sc :: rs) sc.ra) (hc : cValue fuel opts e c = some (slot, c')) :
    (opts.tail = false → opts.hint = none → K slot) ∧ ∃ sc', c'.scopes = sc' :: rs ∧ J (sc' :: rs) sc'.ra := by
  have h := tf_closedN (((shp_closed G).of_D (fun _ h => h.1)).and (cinv_rides hC G) SlotSh.not_up) b fuel e opts c c' slot ⟨hT, hN⟩
    ⟨ShpI.mk' hL hm hs hp, CAt.mk' hl hs hI⟩ hc
  obtain ⟨sc1, _, hs1, _⟩ := (h.1.1 sc rs pool ps hs hp).out
  exact ⟨fun ht hh => (h.2 ht hh).2, sc1, hs1, h.1.2.2 sc1 rs hs1⟩

end

end JanetModel.Compile
