/- C02: the `if` case.  The folding path needs `truthy cv = constTruthy k` (the constant the condition compiled to stands for its
   semantic value): proved here for conditions that are literals, symbols, calls and `if` forms (`CondOK`; the last two never
   compile to a constant).  `do` / `upscope` / `def` forms as conditions would need a constant-value induction of their own. -/
import JanetModel.Compile.SeqIfConst
import JanetModel.Compile.SemCall
namespace JanetModel.Compile
open JanetModel.Emit JanetModel.Lang JanetModel.Bytecode.Exec JanetModel.Gen.Bytecode

theorem kOf_truthy (c : CState) (w : Value) (hw : SimpleLit w) : constTruthy (kOf c w).1 = truthy w := by
  cases w with
  | nil => rfl
  | bool b => cases b <;> rfl
  | num x =>
    simp only [kOf]
    split
    · rfl
    · split <;> rfl
  | str s => simp only [kOf]; split <;> rfl
  | sym s => simp only [kOf]; split <;> rfl
  | kw s => simp only [kOf]; split <;> rfl
  | cfun s => simp only [kOf]; split <;> rfl
  | tuple _ _ => exact absurd hw (by simp [SimpleLit])
  | struct _ => exact absurd hw (by simp [SimpleLit])
  | arr _ => exact absurd hw (by simp [SimpleLit])
  | tbl _ => exact absurd hw (by simp [SimpleLit])
  | buf _ => exact absurd hw (by simp [SimpleLit])
  | fn _ => exact absurd hw (by simp [SimpleLit])

/-- the constant a condition compiles to decides like its semantic value -/
def CondT (G : String → Prop) (fuel : Nat) (cnd : Expr) : Prop :=
  ∀ (c2 c3 : CState) (cond : JSlot) (k : KConst) (n2 : Nat) (pos : Pos) (env cenv : Env) (s s1 : SS) (cv : Value),
    LkL G c2.scopes → (∀ x, lk c2.scopes x = none → lookupEnv env x = none) →
    cValue fuel {} cnd c2 = some (cond, c3) → isConstSlot cond = some k → eval n2 pos env cnd s = .ok (cv, cenv) s1 →
    truthy cv = constTruthy k

theorem isConstSlot_cslot (k : KConst) : isConstSlot (cslot k) = some k := rfl

theorem condT_lit (G : String → Prop) (fuel : Nat) (w : Value) (hw : SimpleLit w) : CondT G fuel (.lit w) := by
  intro c2 c3 cond k n2 pos env cenv s s1 cv _ _ hc hk hsem
  cases fuel with
  | zero => simp [cValue] at hc
  | succ fuel =>
    rw [cValue_lit_o fuel {} rfl rfl w hw c2] at hc
    simp only [Option.some.injEq, Prod.mk.injEq] at hc
    rw [← hc.1] at hk
    have hk' : (kOf c2 w).1 = k := by
      have : isConstSlot (constSlot c2 w).1 = some (kOf c2 w).1 := rfl
      rw [this] at hk; exact Option.some.inj hk
    cases n2 with
    | zero => simp [eval] at hsem
    | succ n2 =>
      rw [eval_lit] at hsem
      simp only [R.ok.injEq, Prod.mk.injEq] at hsem
      rw [← hsem.1.1, ← hk']
      exact (kOf_truthy c2 w hw).symm

theorem condT_sym (G : String → Prop) (fuel : Nat) (x : String) : CondT G fuel (.sym x) := by
  intro c2 c3 cond k n2 pos env cenv s s1 cv hL hag hc hk hsem
  cases fuel with
  | zero => simp [cValue] at hc
  | succ fuel =>
    rw [cValue_sym_o fuel {} rfl rfl] at hc
    cases hlk : lk c2.scopes x with
    | none =>
      rw [resolve_global c2 x (by rw [lookupSlot_lk]; exact hlk)] at hc
      have hg : globalSlot c2 x = some (constSlot c2 (.cfun x)) := by
        unfold globalSlot at hc ⊢
        split at hc <;> simp_all [fin]
      rw [hg] at hc
      simp only [fin, Option.some.injEq, Prod.mk.injEq] at hc
      rw [← hc.1] at hk
      have hk' : (kOf c2 (.cfun x)).1 = k := by
        have : isConstSlot (constSlot c2 (.cfun x)).1 = some (kOf c2 (.cfun x)).1 := rfl
        rw [this] at hk; exact Option.some.inj hk
      cases n2 with
      | zero => simp [eval] at hsem
      | succ n2 =>
        rw [eval_sym_global n2 pos env x s (hag x hlk)] at hsem
        simp only [R.ok.injEq, Prod.mk.injEq] at hsem
        rw [← hsem.1.1, ← hk']
        exact (kOf_truthy c2 (.cfun x) trivial).symm
    | some r =>
      obtain ⟨sl, u, l⟩ := r
      obtain ⟨hl, hcf, _, _⟩ := hL.2 x sl u l hlk
      subst hl
      rw [resolve_local c2 x sl u (by rw [lookupSlot_lk]; exact hlk) hcf] at hc
      simp only [fin, Option.some.injEq, Prod.mk.injEq] at hc
      rw [← hc.1] at hk
      simp [isConstSlot, hcf] at hk

theorem condT_call (G : String → Prop) (fuel : Nat) (e : Expr) (hic : IsCall e) : CondT G fuel e := by
  intro c2 c3 cond k n2 pos env cenv s s1 cv _ _ hc hk _
  rw [call_isConst_none fuel {} rfl rfl e hic c2 c3 cond hc] at hk
  exact absurd hk (by simp)

/-- an `if` never compiles to a constant slot (its slot is its target register), so `CondT` holds vacuously -/
theorem condT_if (G : String → Prop) (fuel : Nat) (a t : Expr) (r : List Expr) (q : Pos) : CondT G fuel (.form (.sym "if" :: a :: t :: r) q) := by
  intro c2 c3 cond k n2 pos env cenv s s1 cv _ _ hc hk _
  exfalso
  cases fuel with
  | zero => simp [cValue] at hc
  | succ fuel =>
    rw [cValue_if_o fuel {} rfl rfl a t r q c2] at hc
    have hlen : r.length ≤ 1 := by
      rcases r with _ | ⟨e, _ | ⟨e2, r'⟩⟩
      · simp
      · simp
      · simp [cIf, fin] at hc
    rw [cIf_le1 _ _ _ _ _ _ hlen] at hc
    obtain ⟨cq, hcc, _⟩ := fin_inv hc
    obtain ⟨target, c1, cond', c3', hT, _, hrest⟩ := cIfBody_inv _ {} a t _ _ cq cond hcc
    simp only [Bool.false_eq_true, if_false] at hT
    obtain ⟨d, hd⟩ := getTarget_slot _ c1 {} rfl target hT
    have hst : cond = target := by
      cases hk' : isConstSlot cond' with
      | some k' =>
        rw [hk'] at hrest
        obtain ⟨_, _, _, _, _, _, _, _, _, _, e⟩ := cIfConst_inv _ _ _ _ _ _ _ _ _ hrest
        exact e.symm
      | none =>
        rw [hk'] at hrest
        obtain ⟨_, _, _, _, _, _, _, _, _, _, _, _, _, _, _, _, _, _, _, _, _, e, _⟩ := cIfJump_inv _ _ _ _ _ _ _ _ _ _ hrest
        exact e
    rw [hst, hd] at hk
    simp [isConstSlot] at hk

theorem condT_of_ok (G : String → Prop) (b : Bool) (fuel : Nat) (cnd : Expr) (hok : CondOK cnd) (hT : TF G b cnd) : CondT G fuel cnd := by
  rcases hok with ⟨w, rfl⟩ | ⟨x, rfl⟩ | hic | ⟨a, t, r, q, rfl⟩
  · cases hT with
    | lit _ hw => exact condT_lit G fuel w hw
  · exact condT_sym G fuel x
  · exact condT_call G fuel cnd hic
  · exact condT_if G fuel a t r q

theorem cIfBody_run (fuel : Nat) (opts : Fopts) (cnd tb fb : Expr) (c cq : CState) (slot0 : JSlot)
    (h : cIfBody (cValue fuel) opts cnd tb fb c = some (slot0, cq)) :
    ∃ target c1 cond c3, (if opts.drop then some (cslot .nil, c) else getTarget c opts) = some (target, c1) ∧
      cValue fuel {} cnd (pushScope c1 false false false false) = some (cond, c3) ∧
      IfRun fuel opts opts.drop (opts.drop && fbNilOf fb) target cond tb fb c3 cq ∧ slot0 = target := by
  obtain ⟨target, c1, cond, c3, hT, hcond, hrest⟩ := cIfBody_inv _ opts cnd tb fb c cq slot0 h
  obtain ⟨hst, es⟩ := IfRun.of_body fuel opts target cond tb fb c3 cq slot0 hrest
  exact ⟨target, c1, cond, c3, hT, hcond, hst, es⟩

theorem cIfBodyT_run (fuel : Nat) (opts : Fopts) (ht : opts.tail = true) (cnd tb fb : Expr) (c cq : CState) (slot0 : JSlot)
    (h : cIfBodyT (cValue fuel) opts cnd tb fb c = some (slot0, cq)) :
    ∃ cond c3, cValue fuel {} cnd (pushScope c false false false false) = some (cond, c3) ∧
      IfRun fuel opts true true (cslot .nil) cond tb fb c3 cq ∧
      (isConstSlot cond = none → slot0.returned = true) ∧ (∀ k, isConstSlot cond = some k → slot0 = cslot .nil) := by
  obtain ⟨cond, c3, hcond, hrest⟩ := cIfBodyT_inv _ opts cnd tb fb c cq slot0 h
  obtain ⟨hst, e1, e2⟩ := IfRun.of_bodyT fuel opts ht cond tb fb c3 cq slot0 hrest
  exact ⟨cond, c3, hcond, hst, e1, e2⟩

/-- `CondT` at the state the condition of an `if` is compiled in: the scopes resolve names as the scopes at entry do -/
theorem condT_at {G : String → Prop} {b : Bool} {fuel : Nat} {cnd : Expr} (hok : CondOK cnd) (hTc : TF G b cnd)
    {c c1 c3 : CState} {sc : Scope} {rs : List Scope} {raT : RA} {cond : JSlot} {env cenv : Env} {nb n2 : Nat} {pos : Pos} {s s1 : SS} {cv : Value}
    (hs : c.scopes = sc :: rs) (hc1 : c1 = { c with scopes := { sc with ra := raT } :: rs }) (hE : EnvS G c.scopes env nb sc.ra)
    (hcond : cValue fuel {} cnd (pushScope c1 false false false false) = some (cond, c3))
    (hsc : eval n2 pos env cnd s = .ok (cv, cenv) s1) : ∀ k, isConstSlot cond = some k → truthy cv = constTruthy k := by
  intro k hk
  have hs1 : c1.scopes = { sc with ra := raT } :: rs := by rw [hc1]
  have hlk2 : ∀ y, lk (pushScope c1 false false false false).scopes y = lk c.scopes y := by
    intro y
    rw [pushScope_blk c1 _ rs false hs1, hs]
    exact (lk_push _ _ rfl rfl rfl y).trans (lk_ra sc rs raT y)
  exact condT_of_ok G b fuel cnd hok hTc _ c3 cond k n2 pos env cenv s s1 cv (hE.lkl.of_lk hlk2)
    (fun x hx => by
      rw [hlk2] at hx
      rcases hE.2 x with ⟨_, h2⟩ | ⟨sl, r, a, u, h1, _⟩
      · exact h2
      · rw [hx] at h1; exact absurd h1 (by simp))
    hcond hk hsc

section
variable (p : Program) (f0 : Frame) (rest : List Frame) (V : Array Value) (P : List KConst)

theorem if_value (hP : P.length < 65536)
    (hK : ∀ i, i < P.length → (p.defs.getD f0.defIdx default).consts.getD i .nil = litOf V (P.getD i .nil))
    (G : String → Prop) (b w : Bool) (fuel : Nat) (IH : CorrectAt p f0 rest V P G (TF G b) w fuel)
    (cnd tb fb : Expr) (hTc : TF G b cnd) (hTt : TF G b tb) (hTf : TF G b fb)
    (opts : Fopts) (ht : opts.tail = false) (hh : opts.hint = none)
    (c c' : CState) (slot : JSlot) (sc : Scope) (rs : List Scope) (pool : List KConst) (ps : List (List KConst))
    (n2 : Nat) (pos : Pos) (env cenv envb : Env) (s s1 s' : SS) (cv v : Value)
    (hs : c.scopes = sc :: rs) (hp : c.pools = pool :: ps) (hl : c.lim ≤ 240) (hm : c.map.length = c.buf.length)
    (target : JSlot) (c1 c3 : CState) (cond : JSlot)
    (hT : (if opts.drop then some (cslot .nil, c) else getTarget c opts) = some (target, c1))
    (hcond : cValue fuel {} cnd (pushScope c1 false false false false) = some (cond, c3))
    (hst : IfRun fuel opts opts.drop (opts.drop && fbNilOf fb) target cond tb fb c3 c') (eslot : slot = target)
    (hsc : eval n2 pos env cnd s = .ok (cv, cenv) s1)
    (hct : ∀ raT, c1 = { c with scopes := { sc with ra := raT } :: rs } → ∀ k, isConstSlot cond = some k → truthy cv = constTruthy k)
    (hsb : eval n2 pos cenv (if truthy cv then tb else fb) s1 = .ok (v, envb) s')
    (hE : EnvS G c.scopes env s.boxes.size sc.ra) :
    Correct2 p f0 rest V P G opts.drop c c' slot sc rs pool ps env env s s' v := by
  obtain ⟨raT, hc1, monoT, maxT, htgtT, htgtF⟩ := if_target c c1 opts hh target sc rs hs hl hT
  exact IfOut.correct2 p f0 rest V P hE monoT maxT htgtT htgtF eslot
    (if_any p f0 rest V P G b w fuel IH cnd tb fb hTc hTt hTf opts opts.drop (opts.drop && fbNilOf fb) target (TgFresh opts target) _ _ _
      False (fun x => eval n2 pos cenv x s1 = .ok (v, envb) s') (PrefA s1.boxes s'.boxes) _ true (fun _ => True) s'.st.world TgFresh.of_lk
      c c' sc rs pool ps n2 pos env cenv s s1 cv
      (fun x hx => branch_core p f0 rest V P hP hK G b w fuel IH x hx opts ht hh target n2 pos cenv envb s1 s' v)
      hs hp hl hm (fun h => h.elim) c1 c3 cond raT hc1 monoT (TgFresh.after hs hE htgtF) hcond hst (fun _ => ht) hsc (hct raT hc1) hsb
      PrefA.trans hE)

theorem if_core (hP : P.length < 65536)
    (hK : ∀ i, i < P.length → (p.defs.getD f0.defIdx default).consts.getD i .nil = litOf V (P.getD i .nil))
    (G : String → Prop) (b w : Bool) (fuel : Nat) (IH : CorrectAt p f0 rest V P G (TF G b) w fuel)
    (cnd tb : Expr) (els : List Expr) (pp : Pos) (hic : IsCall cnd)
    (hlen : els.length ≤ 1) (hTc : TF G b cnd) (hTt : TF G b tb) (hTe : ∀ e, e ∈ els → TF G b e)
    (opts : Fopts) (c c' : CState) (slot : JSlot) (sc : Scope) (rs : List Scope) (pool : List KConst) (ps : List (List KConst))
    (n : Nat) (cur : Pos) (env env' : Env) (s s' : SS) (v : Value)
    (ht : opts.tail = false) (hh : opts.hint = none) (hs : c.scopes = sc :: rs) (hp : c.pools = pool :: ps) (hl : c.lim ≤ 240)
    (_htop : sc.top = false) (hm : c.map.length = c.buf.length)
    (hc : cValue (fuel + 1) opts (.form (.sym "if" :: cnd :: tb :: els) pp) c = some (slot, c'))
    (hsem : eval n cur env (.form (.sym "if" :: cnd :: tb :: els) pp) s = .ok (v, env') s')
    (hE : EnvS G c.scopes env s.boxes.size sc.ra) :
    Correct2 p f0 rest V P G opts.drop c c' slot sc rs pool ps env env' s s' v := by
  rw [cValue_if_o fuel opts ht hh cnd tb els pp c, cIf_le1 _ _ _ _ _ _ hlen] at hc
  obtain ⟨cq, hcc, rfl⟩ := fin_inv hc
  obtain ⟨q, hq⟩ := curAt_eq c pp
  rw [hq] at hcc
  obtain ⟨n2, cv, cenv, s1, envb, _, hsc, henv, hsb⟩ := eval_if_inv n cur env env' cnd tb els pp s s' v hsem
  subst henv
  obtain ⟨target, c1, cond, c3, hT, hcond, hst, es⟩ := cIfBody_run fuel opts cnd tb _ _ cq slot hcc
  have hTf : TF G b (els.headD (.lit .nil)) := by
    cases els with
    | nil => exact .lit .nil trivial
    | cons e _ => exact hTe e (by simp)
  exact Correct2.recur p f0 rest V P (q := q)
    (if_value p f0 rest V P hP hK G b w fuel IH cnd tb _ hTc hTt hTf opts ht hh { c with cur := q } cq slot sc rs pool ps n2 (posOf cur pp)
      env' cenv envb s s1 s' cv v hs hp hl hm target c1 c3 cond hT hcond hst es hsc
      (fun raT hc1 => condT_at (Or.inr (Or.inr (Or.inl hic))) hTc (c := { c with cur := q }) hs hc1 hE hcond hsc) hsb hE)

end

end JanetModel.Compile
