/- C02: `while` WITH `break`, building blocks: `(break)` in a non-function `while` scope compiles to the placeholder `.brk`; the
   semantics of a statement list `pre ++ (break) :: post`. -/
import JanetModel.Compile.SeqWhileBody
namespace JanetModel.Compile
open JanetModel.Emit JanetModel.Lang JanetModel.Bytecode.Exec JanetModel.Gen.Bytecode

/-- `(break)` when the innermost function-or-while scope is a `while` scope that is not a function scope: the placeholder -/
theorem cValue_break_o (fuel : Nat) (opts : Fopts) (ht : opts.tail = false) (hh : opts.hint = none) (p : Pos) (c : CState) (sc0 : Scope)
    (hf : c.scopes.find? (fun s => s.fn || s.whl) = some sc0) (hfn : sc0.fn = false) :
    cValue (fuel + 1) opts (.form [.sym "break"] p) c = fin c.cur (some (cslot .nil, emitRaw (curAt c p) .brk)) := by
  have hf2 : (if p.line ≥ 0 then { c with cur := p } else c).scopes.find? (fun s => s.fn || s.whl) = some sc0 := by
    split <;> exact hf
  simp only [cValue, ht, hh]
  split
  · rename_i h
    simp [hf2, hfn] at h
  · rename_i r c1 h
    simp [hf2, hfn] at h
    obtain ⟨h1, h2⟩ := h
    subst h1 h2
    simp [fin, curAt]

theorem whileBody_append (rec' : Fopts → Expr → CState → Option (JSlot × CState)) :
    ∀ (a b : List Expr) (c c' : CState), whileBody rec' (a ++ b) c = some c' ↔
      ∃ c1, whileBody rec' a c = some c1 ∧ whileBody rec' b c1 = some c'
  | [], b, c, c' => by simp [whileBody]
  | x :: a, b, c, c' => by
    simp only [List.cons_append, whileBody, Option.bind_eq_bind, Option.bind_eq_some_iff, Prod.exists]
    constructor
    · rintro ⟨sl, c1, h1, c2, h2, h3⟩
      obtain ⟨c3, h4, h5⟩ := (whileBody_append rec' a b c2 c').mp h3
      exact ⟨c3, ⟨sl, c1, h1, c2, h2, h4⟩, h5⟩
    · rintro ⟨c3, ⟨sl, c1, h1, c2, h2, h4⟩, h5⟩
      exact ⟨sl, c1, h1, c2, h2, (whileBody_append rec' a b c2 c').mpr ⟨c3, h4, h5⟩⟩

theorem fix1_id {off : Nat} {ci : CI} (h : ci ≠ .brk) : fix1 off ci = ci := by
  cases ci with
  | brk => exact absurd rfl h
  | _ => rfl

theorem brkRewrite_one (A B : List CI) (lo hi : Nat) (hlo : lo ≤ A.length) (hhi : A.length < hi)
    (hA : ∀ i, lo ≤ i → i < A.length → A.getD i default ≠ .brk) (hB : ∀ ci, ci ∈ B → ci ≠ .brk) :
    brkRewrite (A ++ CI.brk :: B) lo hi = A ++ CI.jump (Int.ofNat (hi - A.length)) :: B := by
  apply List.ext_getElem?
  intro i
  rw [brkRewrite_getElem?]
  rcases Nat.lt_trichotomy i A.length with h | h | h
  · rw [List.getElem?_append_left h, List.getElem?_append_left h, List.getElem?_eq_getElem h, Option.map_some]
    split
    · rename_i hin
      rw [fix1_id (by simpa [List.getD, h] using hA i hin.1 h)]
    · rfl
  · subst h
    simp [hlo, hhi, fix1]
  · rw [List.getElem?_append_right (Nat.le_of_lt h), List.getElem?_append_right (Nat.le_of_lt h)]
    obtain ⟨j, hj⟩ : ∃ j, i - A.length = j + 1 := ⟨i - A.length - 1, by omega⟩
    rw [hj, List.getElem?_cons_succ, List.getElem?_cons_succ]
    cases hb : B[j]? with
    | none => rfl
    | some ci =>
      simp only [Option.map_some]
      split
      · rw [fix1_id (hB ci (List.mem_of_getElem? hb))]
      · rfl

theorem eval_break (n : Nat) (cur : Pos) (env : Env) (p : Pos) (s : SS) :
    eval (n + 1) cur env (.form [.sym "break"] p) s = .brk .nil s := by
  simp only [eval] <;> rfl

/-- `(break) :: post` breaks at once (or runs out of fuel) -/
theorem evalSeq_break_head (f : Nat) (cur : Pos) (env : Env) (p : Pos) (post : List Expr) (s : SS) :
    (1 ≤ f ∧ evalSeq f cur env (.form [.sym "break"] p :: post) s = .brk .nil s) ∨
    evalSeq f cur env (.form [.sym "break"] p :: post) s = .stop "fuel" := by
  cases f with
  | zero => right; simp [evalSeq]
  | succ f =>
    cases f with
    | zero =>
      right
      cases post <;> simp [evalSeq, eval]
    | succ f =>
      left
      refine ⟨by omega, ?_⟩
      cases post <;> simp [evalSeq, eval_break]

/-- a statement list `pre ++ (break) :: post` never ends normally, and when it breaks, either `pre` ran to its end (and the
    break carries nil from `pre`'s final state) or `pre` itself broke -/
theorem evalSeq_break_inv (cur : Pos) (p : Pos) (post : List Expr) :
    ∀ (pre : List Expr) (f : Nat) (env : Env) (s : SS),
      (∀ r s', evalSeq f cur env (pre ++ .form [.sym "break"] p :: post) s ≠ .ok r s') ∧
      (∀ bv s', evalSeq f cur env (pre ++ .form [.sym "break"] p :: post) s = .brk bv s' →
        (∃ v envA, evalSeq f cur env pre s = .ok (v, envA) s') ∨ evalSeq f cur env pre s = .brk bv s')
  | [], f, env, s => by
    simp only [List.nil_append]
    rcases evalSeq_break_head f cur env p post s with ⟨hf1, h⟩ | h
    · rw [h]
      refine ⟨fun _ _ e => by simp at e, fun bv s' e => ?_⟩
      simp only [R.brk.injEq] at e
      obtain ⟨_, e2⟩ := e
      subst e2
      obtain ⟨f0, rfl⟩ : ∃ f0, f = f0 + 1 := ⟨f - 1, by omega⟩
      exact Or.inl ⟨.nil, env, by simp [evalSeq]⟩
    · rw [h]
      exact ⟨fun _ _ e => by simp at e, fun _ _ e => by simp at e⟩
  | [e], f, env, s => by
    cases f with
    | zero => simp [evalSeq]
    | succ f =>
      simp only [List.cons_append, List.nil_append, evalSeq]
      cases he : eval f cur env e s with
      | ok r1 s1 =>
        obtain ⟨v1, env1⟩ := r1
        simp only
        rcases evalSeq_break_head f cur env1 p post s1 with ⟨_, h⟩ | h
        · rw [h]
          refine ⟨fun _ _ e => by simp at e, fun bv s' e => ?_⟩
          simp only [R.brk.injEq] at e
          obtain ⟨_, e2⟩ := e
          subst e2
          exact Or.inl ⟨v1, env1, by simp [evalSeq, he]⟩
        · rw [h]
          exact ⟨fun _ _ e => by simp at e, fun _ _ e => by simp at e⟩
      | err a b c => exact ⟨fun _ _ e => by simp at e, fun _ _ e => by simp at e⟩
      | stop w => exact ⟨fun _ _ e => by simp at e, fun _ _ e => by simp at e⟩
      | brk bv0 s0 =>
        refine ⟨fun _ _ e => by simp at e, fun bv s' e => ?_⟩
        simp only [R.brk.injEq] at e
        obtain ⟨e1, e2⟩ := e
        subst e1 e2
        exact Or.inr (by simp [evalSeq, he])
  | e :: y :: r, f, env, s => by
    cases f with
    | zero => simp [evalSeq]
    | succ f =>
      simp only [List.cons_append, evalSeq]
      cases he : eval f cur env e s with
      | ok r1 s1 =>
        obtain ⟨v1, env1⟩ := r1
        simp only
        obtain ⟨h1, h2⟩ := evalSeq_break_inv cur p post (y :: r) f env1 s1
        simp only [List.cons_append] at h1 h2
        refine ⟨h1, fun bv s' hb => ?_⟩
        rcases h2 bv s' hb with ⟨v, envA, h⟩ | h
        · exact Or.inl ⟨v, envA, h⟩
        · exact Or.inr h
      | err a b c => exact ⟨fun _ _ e => by simp at e, fun _ _ e => by simp at e⟩
      | stop w => exact ⟨fun _ _ e => by simp at e, fun _ _ e => by simp at e⟩
      | brk bv0 s0 =>
        refine ⟨fun _ _ e => by simp at e, fun bv s' e => ?_⟩
        simp only [R.brk.injEq] at e
        obtain ⟨e1, e2⟩ := e
        subst e1 e2
        exact Or.inr (by simp [evalSeq, he])

end JanetModel.Compile
