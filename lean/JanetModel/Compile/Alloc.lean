/- C02: allocator facts (regalloc.c model `Emit.RA`) in the form the compile-correctness induction uses, for the near case
   (every register < 0xF0, which a successful compile with `lim ≤ 0xF0` guarantees). -/
import JanetModel.Emit.Proofs
namespace JanetModel.Compile
open JanetModel.Emit

/-- first fit stopped before its fuel ran out: it stopped at a register that is not taken -/
theorem firstFit_lt_free (ra : RA) : ∀ (fuel r0 : Nat), firstFit ra fuel r0 < r0 + fuel → ra.taken (firstFit ra fuel r0) = false := by
  intro fuel
  induction fuel with
  | zero => intro r0 h; simp [firstFit] at h
  | succ n ih =>
    intro r0 h
    by_cases ht : ra.taken r0 = true
    · simp only [firstFit, ht, if_true] at h ⊢
      exact ih (r0 + 1) (by omega)
    · simp only [firstFit, ht]
      cases hh : ra.taken r0 with
      | true => exact absurd hh ht
      | false => simp [hh]

theorem firstFit_at (ra : RA) (j : Nat) (h1 : ∀ r, r < j → ra.taken r = true) (h2 : ra.taken j = false) :
    ∀ (fuel r0 : Nat), r0 ≤ j → j < r0 + fuel → firstFit ra fuel r0 = j := by
  intro fuel
  induction fuel with
  | zero => intro r0 h3 h4; omega
  | succ n ih =>
    intro r0 h3 h4
    by_cases e : r0 = j
    · subst e; simp [firstFit, h2]
    · have : ra.taken r0 = true := h1 r0 (by omega)
      simp only [firstFit, this, if_true]
      exact ih (r0 + 1) (by omega) (by omega)

/-- `janetc_regalloc_1` that stays below 0xF0: a free register, now marked, `max` covers it -/
theorem alloc1_near (ra : RA) (h : (ra.alloc1).2.max < 240) :
    ra.alloc (ra.alloc1).1 = false ∧ (ra.alloc1).1 ≤ (ra.alloc1).2.max ∧ ra.max ≤ (ra.alloc1).2.max ∧
    (∀ j, (ra.alloc1).2.alloc j = (if j = (ra.alloc1).1 then true else ra.alloc j)) := by
  simp only [RA.alloc1, RA.mark] at h ⊢
  have hr : firstFit ra searchFuel 0 < 240 := by
    by_cases c : firstFit ra searchFuel 0 > ra.max
    · simp only [c, if_true] at h; exact h
    · simp only [c, if_false] at h; omega
  have hfree := firstFit_lt_free ra searchFuel 0 (by have : searchFuel = 70000 := rfl; omega)
  have ha : ra.alloc (firstFit ra searchFuel 0) = false := by
    simp only [RA.taken, Bool.or_eq_false_iff] at hfree
    exact hfree.1
  refine ⟨ha, ?_, ?_, fun j => rfl⟩
  · split <;> omega
  · split <;> omega

/-- `janetc_regalloc_temp` that stays below 0xF0 -/
theorem allocTemp_near (ra : RA) (tag : Nat) (h : (ra.allocTemp tag).2.max < 240) :
    ra.alloc (ra.allocTemp tag).1 = false ∧ (ra.allocTemp tag).1 ≤ (ra.allocTemp tag).2.max ∧ (ra.allocTemp tag).1 < 240 ∧
    ra.max ≤ (ra.allocTemp tag).2.max ∧
    (∀ j, (ra.allocTemp tag).2.alloc j = (if j = (ra.allocTemp tag).1 then true else ra.alloc j)) := by
  have hc := firstFit_congr { ra with temps := fun j => if j = tag then true else ra.temps j } ra (fun _ => rfl) searchFuel 0
  by_cases c : firstFit ra searchFuel 0 > 0xFF
  · -- the far case sets max ≥ 0xF0
    exfalso
    simp only [RA.allocTemp, RA.alloc1, hc, c, if_true] at h
    split at h <;> omega
  · have e1 : (ra.allocTemp tag) = ((({ ra with temps := fun j => if j = tag then true else ra.temps j } : RA).alloc1)) := by
      simp only [RA.allocTemp, RA.alloc1, hc, c, if_false]
    rw [e1] at h ⊢
    have := alloc1_near ({ ra with temps := fun j => if j = tag then true else ra.temps j } : RA) h
    obtain ⟨a1, a2, a3, a4⟩ := this
    exact ⟨a1, a2, by omega, a3, a4⟩

end JanetModel.Compile
