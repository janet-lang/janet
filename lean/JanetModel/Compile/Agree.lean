/- C02: agreement of the Lean VM (`Bytecode/Exec`) and the reference semantics (`Lang/Sem`) at the instruction level, for the
   instructions whose meaning is a rule of the language: a call of a core function (`JOP_CALL` on a
   cfunction: same value, same effects, same error and the error is attributed to the position recorded for the call
   instruction), the conditional jumps (`truthy`).  These are the semantic steps of the compile-correctness induction. -/
import JanetModel.Compile.Step
namespace JanetModel.Compile
open JanetModel.Emit JanetModel.Lang JanetModel.Bytecode.Exec JanetModel.Gen.Bytecode

/-- what both sides do with the outcome of the core function -/
def primOutcome (name : String) (vs : List Value) (w : World) : PRes (Value × World) := callPrimW name vs w

theorem applyFn_cfun (n : Nat) (pos : Pos) (name : String) (hna : name ≠ "apply") (vs : List Value) (s : SS) :
    applyFn (n + 1) pos (.cfun name) vs s =
      (match callPrimW name vs s.st.world with
       | .ok (v, w) => .ok v { s with st := s.st.withWorld w }
       | .rt => .err Lang.rtErr pos s
       | .user e => .err e pos s
       | .unsup why => .stop why) := by
  rw [applyFn] <;> try (simp [hna]; done)
  simp only [callPrim, Lang.liftP]
  cases callPrimW name vs s.st.world with
  | ok a => cases a; rfl
  | rt => rfl
  | user e => rfl
  | unsup why => rfl

theorem doCall_cfun (p : Program) (st : State) (d : Nat) (name : String) :
    doCall p st d (.cfun name) =
      (match callPrimW name st.args.toList st.world with
       | .ok (v, w) => .next ((({ st with args := #[] } : State).withWorld w).setAdv d v)
       | .rt => .err JanetModel.Bytecode.Exec.rtErr (curPos p st) st
       | .user e => .err e (curPos p st) st
       | .unsup why => .unsup why) := by
  simp only [doCall, callPrim, JanetModel.Bytecode.Exec.liftP, raise]
  have hw : ({ st with args := #[] } : State).world = st.world := rfl
  rw [hw]
  cases callPrimW name st.args.toList st.world with
  | ok a => cases a; rfl
  | rt => rfl
  | user e => rfl
  | unsup why => rfl

/-- `JOP_CALL` on a core function (the word of `CI.call d f`, which is the word `janetc_call` emits: `call_word`), against the reference semantics' function application:
    with the pending arguments `vs` and the same world, the VM step and `applyFn` are the same case analysis on the same
    core-function result — value into the destination register and the new world, or the same error value attributed to
    the source position recorded for the call instruction, or both outside the model. -/
theorem call_agrees (p : Program) (st : State) (s : SS) (n d f : Nat) (name : String) (hna : name ≠ "apply")
    (hd : d < 256) (hfr : f < 65536)
    (hcode : (curDef p st).code[st.cur.pc]? = some (CI.call d f).word)
    (hfn : st.getReg f = .cfun name) (hw : st.world = s.st.world) :
    (match callPrimW name st.args.toList st.world with
     | .ok (v, w) =>
        step p st = .next ((({ st with args := #[] } : State).withWorld w).setAdv d v) ∧
        applyFn (n + 1) (curPos p st) (.cfun name) st.args.toList s = .ok v { s with st := s.st.withWorld w }
     | .rt =>
        step p st = .err JanetModel.Bytecode.Exec.rtErr (curPos p st) st ∧
        applyFn (n + 1) (curPos p st) (.cfun name) st.args.toList s = .err Lang.rtErr (curPos p st) s
     | .user e =>
        step p st = .err e (curPos p st) st ∧ applyFn (n + 1) (curPos p st) (.cfun name) st.args.toList s = .err e (curPos p st) s
     | .unsup why =>
        step p st = .unsup why ∧ applyFn (n + 1) (curPos p st) (.cfun name) st.args.toList s = .stop why) := by
  have h1 := step_call p st d f hd hfr hcode
  rw [hfn, doCall_cfun] at h1
  have h2 := applyFn_cfun n (curPos p st) name hna st.args.toList s
  rw [← hw] at h2
  cases hc : callPrimW name st.args.toList st.world with
  | ok a => cases a; rw [hc] at h1 h2; exact ⟨h1, h2⟩
  | rt => rw [hc] at h1 h2; exact ⟨h1, h2⟩
  | user e => rw [hc] at h1 h2; exact ⟨h1, h2⟩
  | unsup why => rw [hc] at h1 h2; exact ⟨h1, h2⟩

/-- the runtime-error value is the same object on both sides -/
theorem rtErr_same : JanetModel.Bytecode.Exec.rtErr = Lang.rtErr := rfl

/-- `JOP_JUMP_IF_NOT` (what `janetc_if` / `janetc_while` emit for a non-constant condition) branches on `truthy`, the test
    `Lang/Sem` uses for `if` and `while`; `off` is the forward offset the compiler patched in -/
theorem step_jumpIfNot (p : Program) (st : State) (a off : Nat) (ha : a < 256) (hoff : off < 32768)
    (hcode : (curDef p st).code[st.cur.pc]? = some (MI.pay Op.jumpIfNot.toNat .si false [a] off).word) :
    step p st = .next (if truthy (st.getReg a) then st.adv else st.jump (off : Int)) := by
  obtain ⟨h, hA, _, hES⟩ := step_pay_si p st .jumpIfNot false a off ha hoff hcode
  rw [h]
  simp only [execOp, condJump, hA, hES]
  cases truthy (st.getReg a) <;> rfl

/-- `JOP_RETURN` -/
theorem step_return (p : Program) (st : State) (r : Nat) (hr : r < 16777216)
    (hcode : (curDef p st).code[st.cur.pc]? = some (MI.pay Op.return.toNat .s false [r] 0).word) :
    step p st = doReturn p st (st.getReg r) := by
  obtain ⟨h, hD⟩ := step_pay_s p st .return false r 0 hr hcode
  rw [h]
  simp only [execOp, hD]

/-- `JOP_PUSH` / `JOP_PUSH_2` / `JOP_PUSH_3` (what `janetc_pushslots` emits): the register values are appended to the pending
    arguments in operand order, which is the left-to-right order of `Lang/Sem.evalArgs` -/
theorem step_push (p : Program) (st : State) (r : Nat) (hr : r < 16777216)
    (hcode : (curDef p st).code[st.cur.pc]? = some (MI.pay Op.push.toNat .s false [r] 0).word) :
    step p st = .next ({ st with args := st.args.push (st.getReg r) } : State).adv := by
  obtain ⟨h, hD⟩ := step_pay_s p st .push false r 0 hr hcode
  rw [h]
  simp only [execOp, hD]

theorem step_push2 (p : Program) (st : State) (a e : Nat) (ha : a < 256) (he : e < 65536)
    (hcode : (curDef p st).code[st.cur.pc]? = some (MI.pay Op.push2.toNat .ss false [a, e] 0).word) :
    step p st = .next ({ st with args := (st.args.push (st.getReg a)).push (st.getReg e) } : State).adv := by
  obtain ⟨h, hA, hE⟩ := step_pay_ss p st .push2 false a e 0 ha he hcode
  rw [h]
  simp only [execOp, hA, hE]

theorem step_push3 (p : Program) (st : State) (a b c : Nat) (ha : a < 256) (hb : b < 256) (hc : c < 256)
    (hcode : (curDef p st).code[st.cur.pc]? = some (MI.pay Op.push3.toNat .sss false [a, b, c] 0).word) :
    step p st = .next ({ st with args := ((st.args.push (st.getReg a)).push (st.getReg b)).push (st.getReg c) } : State).adv := by
  obtain ⟨h, hA, hB, hC⟩ := step_pay_sss p st .push3 false a b c 0 ha hb hc hcode
  rw [h]
  simp only [execOp, hA, hB, hC]

/-- `JOP_MAKE_TUPLE` (bracket-tuple literal with a non-constant element): the pending arguments become an ordinary tuple,
    the value `Lang/Sem.eval` gives `[e₁ … eₙ]` -/
theorem step_makeTuple (p : Program) (st : State) (r : Nat) (hr : r < 16777216)
    (hcode : (curDef p st).code[st.cur.pc]? = some (MI.pay Op.makeTuple.toNat .s true [r] 0).word) :
    step p st = .next (({ st with args := #[] } : State).setAdv r (.tuple st.args.toList false)) := by
  obtain ⟨h, hD⟩ := step_pay_s p st .makeTuple true r 0 hr hcode
  rw [h]
  simp only [execOp, hD, takeArgs]

/-- `JOP_MAKE_ARRAY` (array literal): a fresh heap array of the pending arguments, allocated by the same `allocV` that
    `Lang/Sem.eval` uses for `@[e₁ … eₙ]` — so with equal heaps the two sides get the same address -/
theorem step_makeArray (p : Program) (st : State) (r : Nat) (hr : r < 16777216)
    (hcode : (curDef p st).code[st.cur.pc]? = some (MI.pay Op.makeArray.toNat .s true [r] 0).word) :
    step p st = .next ((allocV ({ st with args := #[] } : State) (.arr st.args.toList.toArray) Value.arr).2.setAdv r
                        (allocV ({ st with args := #[] } : State) (.arr st.args.toList.toArray) Value.arr).1) := by
  obtain ⟨h, hD⟩ := step_pay_s p st .makeArray true r 0 hr hcode
  rw [h]
  simp only [execOp, hD, takeArgs]

end JanetModel.Compile
