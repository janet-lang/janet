/- C02: `Lang/Sem.eval` on the forms of the call fragment, unfolded once and inverted. -/
import JanetModel.Compile.Model
namespace JanetModel.Compile
open JanetModel.Emit JanetModel.Lang JanetModel.Bytecode.Exec JanetModel.Gen.Bytecode

theorem eval_zero (cur : Pos) (env : Env) (e : Expr) (s : SS) : eval 0 cur env e s = .stop "fuel" := by
  simp only [eval]

theorem eval_lit (n : Nat) (cur : Pos) (env : Env) (v : Value) (s : SS) : eval (n + 1) cur env (.lit v) s = .ok (v, env) s := by
  simp only [eval]

theorem eval_sym_global (n : Nat) (cur : Pos) (env : Env) (x : String) (s : SS) (h : lookupEnv env x = none) :
    eval (n + 1) cur env (.sym x) s = .ok (.cfun x, env) s := by
  simp only [eval, h]

theorem eval_sym_local (n : Nat) (cur : Pos) (env : Env) (x : String) (s : SS) (a : Nat) (h : lookupEnv env x = some a) :
    eval (n + 1) cur env (.sym x) s = .ok (readBox s a, env) s := by
  simp only [eval, h]

/-- a form whose head symbol is not a special form is a call -/
theorem eval_call (n : Nat) (cur : Pos) (env : Env) (f : String) (args : List Expr) (p : Pos) (s : SS) (hf : specials.contains f = false) :
    eval (n + 1) cur env (.form (.sym f :: args) p) s =
      (match eval n (posOf cur p) env (.sym f) s with
       | .ok (fv, env1) s1 =>
         match evalArgs n (posOf cur p) env1 args s1 with
         | .ok (vs, env2) s2 =>
           match applyFn n (posOf cur p) fv vs s2 with
           | .ok v s3 => .ok (v, env2) s3
           | .err v p s3 => .err v p s3 | .brk v s3 => .brk v s3 | .stop w => .stop w
         | .err v p s' => .err v p s' | .brk v s' => .brk v s' | .stop w => .stop w
       | r => r) := by
  simp only [specials, List.contains_cons, List.contains_nil, Bool.or_false, Bool.or_eq_false_iff, beq_eq_false_iff_ne, ne_eq] at hf
  obtain ⟨h1, h2, h3, h4, h5, h6, h7, h8, h9, h10, h11, h12, h13⟩ := hf
  -- `eval` matches on the head symbol: each of the 13 inequalities closes the side goal of one special form
  rw [eval] <;> first | (intros; simp_all; done) | rfl

theorem evalArgs_nil_inv (n : Nat) (cur : Pos) (env env' : Env) (s s' : SS) (vs : List Value)
    (h : evalArgs n cur env [] s = .ok (vs, env') s') : vs = [] ∧ env' = env ∧ s' = s := by
  cases n with
  | zero => simp [evalArgs] at h
  | succ n =>
    simp only [evalArgs, R.ok.injEq, Prod.mk.injEq] at h
    obtain ⟨⟨h1, h2⟩, h3⟩ := h
    exact ⟨h1.symm, h2.symm, h3.symm⟩

theorem evalArgs_cons_inv (n : Nat) (cur : Pos) (env env' : Env) (a : Expr) (as : List Expr) (s s' : SS) (vs : List Value)
    (hsp : isSplice a = none) (h : evalArgs n cur env (a :: as) s = .ok (vs, env') s') :
    ∃ n2 v1 env1 s1 vs', n = n2 + 1 ∧ eval n2 cur env a s = .ok (v1, env1) s1 ∧ evalArgs n2 cur env1 as s1 = .ok (vs', env') s' ∧
      vs = v1 :: vs' := by
  cases n with
  | zero => simp [evalArgs] at h
  | succ n =>
    simp only [evalArgs, hsp] at h
    cases he : eval n cur env a s with
    | ok r s1 =>
      obtain ⟨v1, env1⟩ := r
      rw [he] at h
      simp only at h
      cases hr : evalArgs n cur env1 as s1 with
      | ok r2 s2 =>
        obtain ⟨vs', env2⟩ := r2
        rw [hr] at h
        simp only [R.ok.injEq, Prod.mk.injEq] at h
        obtain ⟨⟨h1, h2⟩, h3⟩ := h
        subst h1 h2 h3
        exact ⟨n, v1, env1, s1, vs', rfl, he, hr, rfl⟩
      | err _ _ _ => rw [hr] at h; exact absurd h (by simp)
      | brk _ _ => rw [hr] at h; exact absurd h (by simp)
      | stop _ => rw [hr] at h; exact absurd h (by simp)
    | err _ _ _ => rw [he] at h; exact absurd h (by simp)
    | brk _ _ => rw [he] at h; exact absurd h (by simp)
    | stop _ => rw [he] at h; exact absurd h (by simp)

theorem eval_call_inv (n : Nat) (cur : Pos) (env env' : Env) (f : String) (fv : Value) (args : List Expr) (pp : Pos) (s s' : SS) (v : Value)
    (hf : specials.contains f = false) (hhead : ∀ m, eval (m + 1) (posOf cur pp) env (.sym f) s = .ok (fv, env) s)
    (h : eval n cur env (.form (.sym f :: args) pp) s = .ok (v, env') s') :
    ∃ n2 vs s_a, n = n2 + 2 ∧ evalArgs (n2 + 1) (posOf cur pp) env args s = .ok (vs, env') s_a ∧
      applyFn (n2 + 1) (posOf cur pp) fv vs s_a = .ok v s' := by
  match n, h with
  | 0, h => simp [eval] at h
  | 1, h =>
    rw [eval_call 0 cur env f args pp s hf] at h
    simp [eval] at h
  | n2 + 2, h =>
    rw [eval_call (n2 + 1) cur env f args pp s hf, hhead n2] at h
    simp only at h
    cases he : evalArgs (n2 + 1) (posOf cur pp) env args s with
    | ok r s_a =>
      obtain ⟨vs, env_a⟩ := r
      rw [he] at h
      simp only at h
      cases ha : applyFn (n2 + 1) (posOf cur pp) fv vs s_a with
      | ok v2 s3 =>
        rw [ha] at h
        simp only [R.ok.injEq, Prod.mk.injEq] at h
        obtain ⟨⟨hv, henv⟩, hs⟩ := h
        subst hv hs henv
        exact ⟨n2, vs, s_a, rfl, he, ha⟩
      | err _ _ _ => rw [ha] at h; exact absurd h (by simp)
      | brk _ _ => rw [ha] at h; exact absurd h (by simp)
      | stop _ => rw [ha] at h; exact absurd h (by simp)
    | err _ _ _ => rw [he] at h; exact absurd h (by simp)
    | brk _ _ => rw [he] at h; exact absurd h (by simp)
    | stop _ => rw [he] at h; exact absurd h (by simp)

theorem eval_callN_err_inv (n : Nat) (cur : Pos) (env : Env) (f : String) (args : List Expr) (pp : Pos) (s s' : SS) (ev : Value) (epos : Pos)
    (hf : specials.contains f = false) (hg : lookupEnv env f = none)
    (h : eval n cur env (.form (.sym f :: args) pp) s = .err ev epos s') :
    ∃ n2, n = n2 + 2 ∧
      (evalArgs (n2 + 1) (posOf cur pp) env args s = .err ev epos s' ∨
       ∃ vs env_a s_a, evalArgs (n2 + 1) (posOf cur pp) env args s = .ok (vs, env_a) s_a ∧
         applyFn (n2 + 1) (posOf cur pp) (.cfun f) vs s_a = .err ev epos s') := by
  match n, h with
  | 0, h => simp [eval] at h
  | 1, h =>
    rw [eval_call 0 cur env f args pp s hf] at h
    simp [eval] at h
  | n2 + 2, h =>
    rw [eval_call (n2 + 1) cur env f args pp s hf, eval_sym_global n2 _ env f s hg] at h
    simp only at h
    refine ⟨n2, rfl, ?_⟩
    cases he : evalArgs (n2 + 1) (posOf cur pp) env args s with
    | ok r s_a =>
      obtain ⟨vs, env_a⟩ := r
      rw [he] at h
      simp only at h
      refine Or.inr ⟨vs, env_a, s_a, rfl, ?_⟩
      cases ha : applyFn (n2 + 1) (posOf cur pp) (.cfun f) vs s_a with
      | ok v2 s3 => rw [ha] at h; exact absurd h (by simp)
      | err e2 p2 s3 =>
        rw [ha] at h
        simp only [R.err.injEq] at h
        obtain ⟨h1, h2, h3⟩ := h
        subst h1 h2 h3
        rfl
      | brk _ _ => rw [ha] at h; exact absurd h (by simp)
      | stop _ => rw [ha] at h; exact absurd h (by simp)
    | err e2 p2 s2 =>
      rw [he] at h
      simp only [R.err.injEq] at h
      obtain ⟨h1, h2, h3⟩ := h
      subst h1 h2 h3
      exact Or.inl rfl
    | brk _ _ => rw [he] at h; exact absurd h (by simp)
    | stop _ => rw [he] at h; exact absurd h (by simp)

end JanetModel.Compile
