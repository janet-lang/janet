/- C02: `janetc_if` whose condition compiles to a constant slot (folding): only the branch the constant selects is kept; the other
   one is compiled by `janetc_throwaway` in an unused scope and its code removed — it leaves constants in the pool and the value
   table.  Then both paths as one: `IfRun`, `if_any`. -/
import JanetModel.Compile.SeqIfJump
namespace JanetModel.Compile
open JanetModel.Emit JanetModel.Lang JanetModel.Bytecode.Exec JanetModel.Gen.Bytecode

/-- the steps of `janetc_if` after the condition with what the run needs to know of them: which path the condition's slot selects,
    and on the jump path the ranges of the two jumps (`dc`: no copy into the target, `nj`: no JUMP over the else-branch) -/
def IfRun (fuel : Nat) (opts : Fopts) (dc nj : Bool) (target cond : JSlot) (tb fb : Expr) (c3 c' : CState) : Prop :=
  (∃ k right c5 c6 c7 c8, isConstSlot cond = some k ∧
    cValue fuel opts (if constTruthy k then tb else fb) (pushScope c3 false false false false) = some (right, c5) ∧
    ifCopy dc c5 target right = some c6 ∧ popScope c6 = some c7 ∧
    (if fbNilOf (if constTruthy k then fb else tb) then some c7
     else throwaway (cValue fuel) opts (if constTruthy k then fb else tb) c7) = some c8 ∧ popScope c8 = some c') ∨
  (isConstSlot cond = none ∧ ∃ c4 left c6 c7 c8 right c11 c12 c13 c14,
    emitSI c3 .jumpIfNot cond 0 false = some c4 ∧
    cValue fuel opts tb (pushScope c4 false false false false) = some (left, c6) ∧
    ifCopy dc c6 target left = some c7 ∧ popScope c7 = some c8 ∧
    cValue fuel opts fb (pushScope (ifJmp nj c8) false false false false) = some (right, c11) ∧
    ifCopy dc c11 target right = some c12 ∧ popScope c12 = some c13 ∧ popScope c13 = some c14 ∧
    (ifJmp nj c8).buf.length ≤ 32767 + lastLabel c4 ∧ (nj = false → c14.buf.length ≤ 8388607 + c8.buf.length) ∧
    (opts.tail = false → nj = true → c14.buf.length = c8.buf.length) ∧
    c' = { c14 with buf := ifPatch nj c14.buf (lastLabel c4) ((ifJmp nj c8).buf.length - lastLabel c4) c8.buf.length })

theorem IfRun.of_body (fuel : Nat) (opts : Fopts) (target cond : JSlot) (tb fb : Expr) (c3 c' : CState) (slot : JSlot)
    (h : (match isConstSlot cond with
          | some k => cIfConst (cValue fuel) opts target tb fb k c3
          | none => cIfJump (cValue fuel) opts target cond tb fb (fbNilOf fb) c3) = some (slot, c')) :
    IfRun fuel opts opts.drop (opts.drop && fbNilOf fb) target cond tb fb c3 c' ∧ slot = target := by
  cases hk : isConstSlot cond with
  | some k =>
    rw [hk] at h
    obtain ⟨right, c5, c6, c7, c8, e1, e2, e3, e4, e5, es⟩ := cIfConst_inv _ _ _ _ _ _ _ _ _ h
    exact ⟨Or.inl ⟨k, right, c5, c6, c7, c8, hk, e1, e2, e3, e4, e5⟩, es.symm⟩
  | none =>
    rw [hk] at h
    obtain ⟨c4, left, c6, c7, c8, right, c11, c12, c13, c14, e1, e2, e3, e4, e5, e6, e7, e8, r1, r2, r3, es, ec'⟩ :=
      cIfJump_inv _ _ _ _ _ _ _ _ _ _ h
    exact ⟨Or.inr ⟨hk, c4, left, c6, c7, c8, right, c11, c12, c13, c14, e1, e2, e3, e4, e5, e6, e7, e8, r1, fun _ => r2, fun _ => r3, ec'⟩, es⟩

/-- in tail position; the result slot is flagged RETURNED on the jump path and is the un-flagged constant nil on the folding path -/
theorem IfRun.of_bodyT (fuel : Nat) (opts : Fopts) (ht : opts.tail = true) (cond : JSlot) (tb fb : Expr) (c3 c' : CState) (slot : JSlot)
    (h : (match isConstSlot cond with
          | some k => cIfConstT (cValue fuel) opts (cslot .nil) tb fb k c3
          | none => cIfJumpT (cValue fuel) opts (cslot .nil) cond tb fb (fbNilOf fb) c3) = some (slot, c')) :
    IfRun fuel opts true true (cslot .nil) cond tb fb c3 c' ∧
    (isConstSlot cond = none → slot.returned = true) ∧ (∀ k, isConstSlot cond = some k → slot = cslot .nil) := by
  cases hk : isConstSlot cond with
  | some k =>
    rw [hk] at h
    obtain ⟨right, c5, c7, c8, e1, e3, e4, e5, es⟩ := cIfConstT_inv _ _ _ _ _ _ _ _ _ h
    exact ⟨Or.inl ⟨k, right, c5, c5, c7, c8, hk, e1, rfl, e3, e4, e5⟩, fun h' => absurd h' (by simp [hk]), fun _ _ => es.symm⟩
  | none =>
    rw [hk] at h
    have h' := h
    simp [cIfJumpT, Option.bind_eq_some_iff] at h'
    obtain ⟨c4, h1, left, c6, h2, c8, h4, right, c11, h5, c13, h7, c14, h8, hb, h11, h12⟩ := h'
    exact ⟨Or.inr ⟨hk, c4, left, c6, c6, c8, right, c11, c11, c13, c14, h1, h2, rfl, h4, h5, rfl, h7, h8, hb.1,
      fun h' => absurd h' (by simp), fun h' => absurd h' (by simp [ht]), h12.symm⟩, fun _ => by rw [← h11], fun _ h' => absurd h' (by simp [hk])⟩

theorem IfRun.steps {fuel : Nat} {opts : Fopts} {dc nj : Bool} {target cond : JSlot} {tb fb : Expr} {c3 c' : CState}
    (h : IfRun fuel opts dc nj target cond tb fb c3 c') : IfSteps fuel opts dc nj target cond tb fb c3 c' := by
  rcases h with ⟨k, right, c5, c6, c7, c8, _, e⟩ | ⟨_, c4, left, c6, c7, c8, right, c11, c12, c13, c14, e1, e2, e3, e4, e5, e6, e7, e8, _, _, _, ec'⟩
  · exact Or.inl ⟨k, right, c5, c6, c7, c8, e⟩
  · exact Or.inr ⟨c4, left, c6, c7, c8, right, c11, c12, c13, c14, e1, e2, e3, e4, e5, e6, e7, e8, ec'⟩

section
variable (p : Program) (f0 : Frame) (rest : List Frame) (V : Array Value) (P : List KConst)

theorem if_const_any (G : String → Prop) (b w : Bool) (fuel : Nat) (IH : CorrectAt p f0 rest V P G (TF G b) w fuel)
    (cnd tb fb : Expr) (hTc : TF G b cnd) (hTt : TF G b tb) (hTf : TF G b fb) (opts : Fopts) (dc : Bool) (target : JSlot)
    (Tg : RA → List Scope → Prop) (Keep : Nat → Prop) (Post : Array Value → Prop) (Pre : Nat → Prop)
    (Cu : Prop) (Sem : Expr → Prop) (Bx BxS : Prop) (fall : Bool) (Fin : Cfg → Prop) (w' : World)
    (c c' : CState) (sc : Scope) (rs : List Scope) (pool : List KConst) (ps : List (List KConst))
    (n2 : Nat) (pos : Pos) (env cenv : Env) (s s1 : SS) (cv : Value)
    (BRt : BranchRun p f0 rest V P G fuel opts dc target Tg Cu pos cenv s1 Sem Bx fall Fin Keep Post w' Pre tb)
    (BRf : BranchRun p f0 rest V P G fuel opts dc target Tg Cu pos cenv s1 Sem Bx fall Fin Keep Post w' Pre fb)
    (hs : c.scopes = sc :: rs) (hp : c.pools = pool :: ps) (hl : c.lim ≤ 240) (hm : c.map.length = c.buf.length)
    (hcur : Cu → c.cur = pos)
    (c1 c3 : CState) (cond : JSlot) (k : KConst) (raT : RA) (hc1 : c1 = { c with scopes := { sc with ra := raT } :: rs })
    (monoT : ∀ j, sc.ra.alloc j = true → raT.alloc j = true)
    (hTg3 : ∀ ra3 : RA, (∀ r, raT.alloc r = true → ra3.alloc r = true) → raT.max ≤ ra3.max →
      (∀ d, raT.alloc d = true → NoName (blk c1 { sc with ra := raT } false :: { sc with ra := raT } :: rs) d → NoName c3.scopes d) →
      Tg ra3 c3.scopes)
    (hcond : cValue fuel {} cnd (pushScope c1 false false false false) = some (cond, c3))
    (c5 c6 c7 c8 : CState) (right : JSlot)
    (e1 : cValue fuel opts (if constTruthy k then tb else fb) (pushScope c3 false false false false) = some (right, c5))
    (e2 : ifCopy dc c5 target right = some c6) (e3 : popScope c6 = some c7)
    (e4 : (if fbNilOf (if constTruthy k then fb else tb) then some c7
           else throwaway (cValue fuel) opts (if constTruthy k then fb else tb) c7) = some c8)
    (e5 : popScope c8 = some c')
    (hsc : eval n2 pos env cnd s = .ok (cv, cenv) s1)
    (hct : truthy cv = constTruthy k)
    (hsb : Sem (if truthy cv then tb else fb))
    (hBx : PrefA s.boxes s1.boxes → Bx → BxS)
    (hE : EnvS G c.scopes env s.boxes.size sc.ra) :
    IfOut p f0 V P c c' sc rs pool ps raT env s BxS Cu Pre (RunRes p f0 rest fall Fin raT Keep Post w') := by
  have hs1 : c1.scopes = { sc with ra := raT } :: rs := by rw [hc1]
  have hp1 : c1.pools = pool :: ps := by rw [hc1]; exact hp
  have hl1 : c1.lim ≤ 240 := by rw [hc1]; exact hl
  have hm1 : c1.map.length = c1.buf.length := by rw [hc1]; exact hm
  rw [pushScope_blk c1 { sc with ra := raT } rs false hs1] at hcond
  have hlk1 : ∀ y, lk (blk c1 { sc with ra := raT } false :: { sc with ra := raT } :: rs) y = lk c.scopes y := by
    intro y; rw [hs]; exact (lk_push _ _ rfl rfl rfl y).trans (lk_ra sc rs raT y)
  have hE1 : EnvS G ({ c1 with scopes := blk c1 { sc with ra := raT } false :: { sc with ra := raT } :: rs } : CState).scopes env s.boxes.size
      (blk c1 { sc with ra := raT } false).ra :=
    hE.of_lk hlk1 (Nat.le_refl _) (fun _ _ _ _ r _ _ h => monoT r h)
  obtain ⟨ra3, ns3, more3, seg3, segm3, hc3, pv3, mono3, max3, sok3, bx3, es3, nf3, vm3⟩ :=
    IH cnd {} { c1 with scopes := blk c1 { sc with ra := raT } false :: { sc with ra := raT } :: rs } c3 cond (blk c1 { sc with ra := raT } false)
      ({ sc with ra := raT } :: rs) pool ps n2 pos env cenv s s1 cv rfl rfl rfl hp1 hl1 rfl (fun _ => hm1) hTc hcond hsc hE1
  have hm3 : c3.map.length = c3.buf.length :=
    (tf_shape G b fuel cnd {} { c1 with scopes := blk c1 { sc with ra := raT } false :: { sc with ra := raT } :: rs } c3 cond
      (blk c1 { sc with ra := raT } false) ({ sc with ra := raT } :: rs) pool ps rfl hp1 hm1 hTc hE1.lkl hcond).1.mapLen hm1
  have hs3 : c3.scopes = upd (blk c1 { sc with ra := raT } false) ra3 ns3 :: { sc with ra := raT } :: rs := by rw [hc3]
  have hp3 : c3.pools = (pool ++ more3) :: ps := by rw [hc3]
  have mono3' : ∀ r, raT.alloc r = true → ra3.alloc r = true := mono3
  have hl3 : c3.lim ≤ 240 := by rw [hc3]; exact hl1
  obtain ⟨live, hlive⟩ : ∃ x, x = (if constTruthy k then tb else fb) := ⟨_, rfl⟩
  obtain ⟨dead, hdead⟩ : ∃ x, x = (if constTruthy k then fb else tb) := ⟨_, rfl⟩
  rw [← hlive] at e1
  rw [← hdead] at e4
  have hTl : TF G b live := by rw [hlive]; split <;> assumption
  have BRl : BranchRun p f0 rest V P G fuel opts dc target Tg Cu pos cenv s1 Sem Bx fall Fin Keep Post w' Pre live := by
    rw [hlive]; split <;> assumption
  have hTd : TF G b dead := by rw [hdead]; split <;> assumption
  have hsb' : Sem live := by
    rw [hct] at hsb; rw [hlive]; exact hsb
  have hL3 : LkL G c3.scopes := es3.lkl
  obtain ⟨ra7, ns7, more7, seg7, segm7, hc7, pv7, hl7, inv7, mono7, max7⟩ :=
    branch_shape_any G fuel b live hTl opts dc target c3 c5 c6 c7 right _ ({ sc with ra := raT } :: rs) (pool ++ more3) ps hs3 hp3 hm3 hL3 e1 e2 e3
  have max7' : ra3.max ≤ ra7.max := max7
  have hs7 : c7.scopes = upd (upd (blk c1 { sc with ra := raT } false) ra3 ns3) ra7 ns7 :: { sc with ra := raT } :: rs := by rw [hc7]
  have hp7 : c7.pools = (pool ++ more3 ++ more7) :: ps := by rw [hc7]
  have hm7 : c7.map.length = c7.buf.length := by rw [hc7]; simp [hm3, hl7]
  have hlk7 : ∀ y, lk c7.scopes y = lk c3.scopes y := by
    intro y; rw [hs7, hs3]; exact lk_upd _ _ _ _ inv7 y
  have hL7 : LkL G c7.scopes := es3.lkl.of_lk hlk7
  obtain ⟨more8, hc8, pv8⟩ : ∃ more8, c8 = { c7 with pools := (pool ++ more3 ++ more7 ++ more8) :: ps, vals := c8.vals } ∧ PrefA c7.vals c8.vals := by
    split at e4
    · refine ⟨[], ?_, ?_⟩
      · rw [← Option.some.inj e4, List.append_nil, ← hp7]
      · rw [← Option.some.inj e4]; exact PrefA.refl _
    · refine throwaway_eq G _ opts dead c7 c8 _ ({ sc with ra := raT } :: rs) (pool ++ more3 ++ more7) ps hs7 hm7 (fun c2 sl h => ?_) e4
      have hLT : LkL G (blk c7 (upd (upd (blk c1 { sc with ra := raT } false) ra3 ns3) ra7 ns7) true ::
          upd (upd (blk c1 { sc with ra := raT } false) ra3 ns3) ra7 ns7 :: { sc with ra := raT } :: rs) := by
        rw [hs7] at hL7; exact hL7.push _ rfl rfl
      exact (tf_shape G b fuel dead opts { c7 with scopes := _ } c2 sl _ _ (pool ++ more3 ++ more7) ps rfl hp7 hm7 hTd hLT h).1
  have hs8 : c8.scopes = upd (upd (blk c1 { sc with ra := raT } false) ra3 ns3) ra7 ns7 :: { sc with ra := raT } :: rs := by rw [hc8]; exact hs7
  obtain ⟨raX, hpop, hmaxX, hmonoX⟩ := popScope_block c8 _ { sc with ra := raT } rs hs8 rfl rfl rfl
  rw [hpop] at e5
  have hc' := (Option.some.inj e5).symm
  have hmaxX' : raX.max = (if raT.max < ra7.max then ra7.max else raT.max) := hmaxX
  have hmonoX' : ∀ j, raT.alloc j = true → raX.alloc j = true := hmonoX
  have hb3 : c3.buf = c.buf ++ seg3 := by rw [hc3]; show c1.buf ++ seg3 = _; rw [hc1]
  have hb7 : c7.buf = c3.buf ++ seg7 := by rw [hc7]
  have hlk' : ∀ x, lk c'.scopes x = lk c.scopes x := by
    intro x
    rw [hc', hs]
    exact lk_popped sc rs raX _ x
  have hcur3 : Cu → c3.cur = pos := fun h => by rw [hc3]; show c1.cur = _; rw [hc1]; exact hcur h
  obtain ⟨bxB, vmB⟩ := BRl c3 c5 c6 c7 right _
    ({ sc with ra := raT } :: rs) (pool ++ more3) ps hs3 hp3 hl3 hm3 hcur3 (hTg3 ra3 mono3 max3 nf3.1) e1 e2 e3 hsb' es3
  have hv' : c'.vals = c8.vals := by rw [hc']
  have pv3' : PrefA c.vals c3.vals := by
    have : ({ c1 with scopes := blk c1 { sc with ra := raT } false :: { sc with ra := raT } :: rs } : CState).vals = c.vals := by
      show c1.vals = _; rw [hc1]
    rw [← this]; exact pv3
  have hmp3 : c3.map = c.map ++ segm3 := by rw [hc3]; show c1.map ++ segm3 = _; rw [hc1]
  have hmp7 : c7.map = c3.map ++ segm7 := by rw [hc7]
  have hl3' : segm3.length = seg3.length := by
    have := hm3
    rw [hmp3, hb3] at this
    simp only [List.length_append] at this
    omega
  refine ⟨raX, (upd (upd (blk c1 { sc with ra := raT } false) ra3 ns3) ra7 ns7).syms.map (fun q => { q with visible := false }),
    more3 ++ more7 ++ more8, seg3 ++ seg7, segm3 ++ segm7, ?_, ?_, hmonoX', ?_, hlk', hBx bx3 bxB, ?_, ?_⟩
  · rw [hc', hc8, hc7, hc3, hc1]
    simp [List.append_assoc]
  · rw [hv']; exact PrefA.trans pv3' (PrefA.trans pv7 pv8)
  · rw [hmaxX']; exact le_ite_max _ _
  · simp [hl3', hl7]
  · intro k0 hkw hka hD hcode hmap hpre hV hsz hPre
    rw [hv'] at hV
    have hsz7 : ra7.max < k0.regs.size := by
      rw [hmaxX'] at hsz; exact lt_of_ite_max_lt hsz
    have hV7 : PrefA c7.vals V := PrefA.trans pv8 hV
    obtain ⟨regs3, rch3, sz3, pr3, sv3, ed3⟩ := vm3 k0 hkw hka (hD.of_lk hlk1) hcode.left
      (PrefL.trans ⟨more7 ++ more8, by simp [List.append_assoc]⟩ hpre) (PrefA.trans pv7 hV7) (Nat.lt_of_le_of_lt max7' hsz7)
    have res := vmB seg7 segm7 _ _ hb7 hmp7 hp7 hs7
      { regs := regs3, pc := k0.pc + seg3.length, args := #[], w := s1.st.world } rfl rfl ed3 hcode.right
      (fun h => by have := (hmap h).right; rw [hl3'] at this; exact this)
      (PrefL.trans ⟨more8, by simp [List.append_assoc]⟩ hpre) hV7 (by show ra7.max < regs3.size; rw [sz3]; exact hsz7)
      (by show Pre regs3.size; rw [sz3]; exact hPre)
    cases fall with
    | false =>
      obtain ⟨cf, rch, sz, fin⟩ := res
      exact ⟨cf, Reach.trans rch3 rch, sz.trans sz3, fin⟩
    | true =>
      obtain ⟨regsF, rchF, szF, prF, svF⟩ := res
      have szF' : regsF.size = regs3.size := szF
      have pr3' : ∀ r, raT.alloc r = true → regs3.getD r .nil = k0.regs.getD r .nil := pr3
      refine ⟨regsF, ?_, szF'.trans sz3, fun r hr hk => by rw [prF r (mono3' r hr) hk, pr3' r hr], svF⟩
      rw [List.length_append]
      exact Runs.seq rch3 rchF

theorem if_any (G : String → Prop) (b w : Bool) (fuel : Nat) (IH : CorrectAt p f0 rest V P G (TF G b) w fuel)
    (cnd tb fb : Expr) (hTc : TF G b cnd) (hTt : TF G b tb) (hTf : TF G b fb) (opts : Fopts) (dc nj : Bool) (target : JSlot)
    (Tg : RA → List Scope → Prop) (Keep : Nat → Prop) (Post : Array Value → Prop) (Pre : Nat → Prop)
    (Cu : Prop) (Sem : Expr → Prop) (Bx BxS : Prop) (fall : Bool) (Fin : Cfg → Prop) (w' : World)
    (TgLk : ∀ (ra ra' : RA) (scs scs' : List Scope), Tg ra scs → (∀ r, ra.alloc r = true → ra'.alloc r = true) → ra.max ≤ ra'.max →
      (∀ y, lk scs' y = lk scs y) → Tg ra' scs')
    (c c' : CState) (sc : Scope) (rs : List Scope) (pool : List KConst) (ps : List (List KConst))
    (n2 : Nat) (pos : Pos) (env cenv : Env) (s s1 : SS) (cv : Value)
    (BR : ∀ x, TF G b x → BranchRun p f0 rest V P G fuel opts dc target Tg Cu pos cenv s1 Sem Bx fall Fin Keep Post w' Pre x)
    (hs : c.scopes = sc :: rs) (hp : c.pools = pool :: ps) (hl : c.lim ≤ 240) (hm : c.map.length = c.buf.length)
    (hcur : Cu → c.cur = pos)
    (c1 c3 : CState) (cond : JSlot) (raT : RA) (hc1 : c1 = { c with scopes := { sc with ra := raT } :: rs })
    (monoT : ∀ j, sc.ra.alloc j = true → raT.alloc j = true)
    (hTg3 : ∀ ra3 : RA, (∀ r, raT.alloc r = true → ra3.alloc r = true) → raT.max ≤ ra3.max →
      (∀ d, raT.alloc d = true → NoName (blk c1 { sc with ra := raT } false :: { sc with ra := raT } :: rs) d → NoName c3.scopes d) →
      Tg ra3 c3.scopes)
    (hcond : cValue fuel {} cnd (pushScope c1 false false false false) = some (cond, c3))
    (hst : IfRun fuel opts dc nj target cond tb fb c3 c') (hft : fall = true → opts.tail = false)
    (hsc : eval n2 pos env cnd s = .ok (cv, cenv) s1)
    (hct : ∀ k, isConstSlot cond = some k → truthy cv = constTruthy k)
    (hsb : Sem (if truthy cv then tb else fb))
    (hBx : PrefA s.boxes s1.boxes → Bx → BxS)
    (hE : EnvS G c.scopes env s.boxes.size sc.ra) :
    IfOut p f0 V P c c' sc rs pool ps raT env s BxS Cu Pre (RunRes p f0 rest fall Fin raT Keep Post w') := by
  rcases hst with ⟨k, right, c5, c6, c7, c8, hk, e1, e2, e3, e4, e5⟩ |
    ⟨hnc, c4, left, c6, c7, c8, right, c11, c12, c13, c14, e1, e2, e3, e4, e5, e6, e7, e8, r1, r2, r3, ec'⟩
  · exact if_const_any p f0 rest V P G b w fuel IH cnd tb fb hTc hTt hTf opts dc target Tg Keep Post Pre Cu Sem Bx BxS fall Fin w'
      c c' sc rs pool ps n2 pos env cenv s s1 cv (BR tb hTt) (BR fb hTf) hs hp hl hm hcur c1 c3 cond k raT hc1 monoT hTg3 hcond
      c5 c6 c7 c8 right e1 e2 e3 e4 e5 hsc (hct k hk) hsb hBx hE
  · exact if_jump_any p f0 rest V P G b w fuel IH cnd tb fb hTc hTt hTf opts dc nj target Tg Keep Post Pre Cu Sem Bx BxS fall Fin w' TgLk
      c c' sc rs pool ps n2 pos env cenv s s1 cv (BR tb hTt) (BR fb hTf) hs hp hl hm hcur c1 c3 cond raT hc1 monoT hTg3 hcond hnc
      c4 c6 c7 c8 c11 c12 c13 c14 left right e1 e2 e3 e4 e5 e6 e7 e8 r1 r2 (fun hf hn => r3 (hft hf) hn) ec' hsc hsb hBx hE

end

end JanetModel.Compile
