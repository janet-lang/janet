/- C02: compiles with a hint slot (`opts.hint = some h`, not tail): `janetc_value` ends with `janetc_copy(hint, slot)` and hands back
   the hint.  The copy into the hint register is `LDK` from a constant, `MOVN` from another local, nothing from the hint itself
   (so the end of a hinted compile whose inner form already delivered the hint is a no-op); the block scope around a hinted body. -/
import JanetModel.Compile.SeqHintDef
import JanetModel.Compile.SeqDef
import JanetModel.Compile.SeqShapeBase
namespace JanetModel.Compile
open JanetModel.Emit JanetModel.Lang JanetModel.Bytecode.Exec JanetModel.Gen.Bytecode

theorem copySlot_same (c c2 : CState) (h : JSlot) (rh : Nat) (hk : h.k = .loc rh) (hcf : h.cflag = false) (hr : rh < 240)
    (sc : Scope) (rs : List Scope) (pool : List KConst) (ps : List (List KConst))
    (hs : c.scopes = sc :: rs) (hp : c.pools = pool :: ps) (hcp : copySlot c h h = some c2) : c2 = c := by
  have hnl : (Slot.loc rh).nearLocal = true := by simp [Slot.nearLocal]; omega
  simp only [copySlot, hcf, Bool.false_eq_true, if_false, hk, hnl, Bool.not_true, Bool.and_false] at hcp
  obtain ⟨_, hcb⟩ := emitW_spec c c2 _ sc rs pool ps hs hp hcp
  have hX : W.copy { ra := sc.ra, buf := [], consts := pool } (.loc rh) (.loc rh) = { ra := sc.ra, buf := [], consts := pool } := by
    simp [W.copy]
  rw [hX] at hcb
  rw [hcb]
  simp only [List.map_nil, List.append_nil, ← hs, ← hp]

/-- the end of `janetc_value` with a hint (not tail): copy into the hint, mapping cursor restored -/
def finH (last : Pos) (h : JSlot) : Option (JSlot × CState) → Option (JSlot × CState)
  | none => none
  | some (ret, c1) => (copySlot c1 h ret).bind (fun c' => some (h, { c' with cur := last }))

theorem finO_h (opts : Fopts) (ht : opts.tail = false) (h : JSlot) (hh : opts.hint = some h) (last : Pos) (X : Option (JSlot × CState)) :
    finO opts last X = finH last h X := by
  cases X with
  | none => rfl
  | some a =>
    obtain ⟨ret, c1⟩ := a
    simp only [finO, finH, ht, hh, Bool.false_eq_true, if_false, Option.pure_def, Option.bind_eq_bind, Option.bind_some]

theorem finH_split (last : Pos) (h : JSlot) (X : Option (JSlot × CState)) (Y : Option (JSlot × CState))
    (hXY : (match X with
      | none => none
      | some (ret, c1) => (copySlot c1 h ret).bind (fun c' => some (h, { c' with cur := last }))) = Y) : finH last h X = Y := by
  cases X with
  | none => exact hXY
  | some a => obtain ⟨ret, c1⟩ := a; exact hXY

section
variable (p : Program) (f0 : Frame) (rest : List Frame) (V : Array Value) (P : List KConst)

theorem copyHint (hP : P.length < 65536)
    (hK : ∀ i, i < P.length → (p.defs.getD f0.defIdx default).consts.getD i .nil = litOf V (P.getD i .nil))
    (c cb : CState) (h src : JSlot) (rh : Nat) (hk : h.k = .loc rh) (hcf : h.cflag = false) (hr : rh < 240)
    (sc : Scope) (rs : List Scope) (pool : List KConst) (ps : List (List KConst))
    (hs : c.scopes = sc :: rs) (hp : c.pools = pool :: ps) (hsk : SK src) (hcp : copySlot c h src = some cb) :
    ∃ (more : List KConst) (seg : List CI) (segm : List Pos),
      cb = { c with scopes := sc :: rs, pools := (pool ++ more) :: ps, buf := c.buf ++ seg, map := c.map ++ segm } ∧ segm.length = seg.length ∧
      ∀ (k : Cfg), CodeAt (p.defs.getD f0.defIdx default).code k.pc seg → PrefL (pool ++ more) P → rh < k.regs.size →
        ∃ regs', Reach p (inj f0 rest k) (inj f0 rest { regs := regs', pc := k.pc + seg.length, args := k.args, w := k.w }) ∧
          regs'.size = k.regs.size ∧ (∀ r, r ≠ rh → regs'.getD r .nil = k.regs.getD r .nil) ∧ regs'.getD rh .nil = slotVal V k.regs src := by
  by_cases hsame : src.k = .loc rh
  · have hnl : (Slot.loc rh).nearLocal = true := by simp [Slot.nearLocal]; omega
    have hcp' := hcp
    simp only [copySlot, hcf, Bool.false_eq_true, if_false, hk, hnl, Bool.not_true, Bool.and_false] at hcp'
    obtain ⟨_, hcb⟩ := emitW_spec c cb _ sc rs pool ps hs hp hcp'
    have hX : W.copy { ra := sc.ra, buf := [], consts := pool } (.loc rh) src.k = { ra := sc.ra, buf := [], consts := pool } := by
      rw [hsame]; simp [W.copy]
    rw [hX] at hcb
    refine ⟨[], [], [], by rw [hcb]; simp, rfl, ?_⟩
    intro k _ _ _
    exact ⟨k.regs, Reach.refl _ _, rfl, fun _ _ => rfl, by simp [slotVal, hsame]⟩
  · obtain ⟨more, seg, segm, hcb, vm⟩ := copyFresh p f0 rest V P hP hK c cb h src rh hk hcf sc rs pool ps hs hp hr hsk
      (fun r hkr e => hsame (by rw [hkr, e])) hcp
    obtain ⟨ra', more', seg', segm', hcb', hl'⟩ := copySlot_stepR c cb h src sc rs pool ps hs hp hcp
    have e1 : seg = seg' := by
      have a : cb.buf = c.buf ++ seg := by rw [hcb]
      have b : cb.buf = c.buf ++ seg' := by rw [hcb']
      rw [a] at b; exact List.append_cancel_left b
    have e2 : segm = segm' := by
      have a : cb.map = c.map ++ segm := by rw [hcb]
      have b : cb.map = c.map ++ segm' := by rw [hcb']
      rw [a] at b; exact List.append_cancel_left b
    refine ⟨more, seg, segm, hcb, by rw [e1, e2]; exact hl', ?_⟩
    intro k hcode hpre hsz
    refine ⟨k.regs.setIfInBounds rh (slotVal V k.regs src), vm k hcode hpre hsz, by simp, fun r hne => getD_set_ne _ _ _ _ hne, getD_set_eq _ _ _ hsz⟩

variable {p f0 rest V P}

/-- the mapping cursor does not matter -/
theorem HintOK.recur {G : String → Prop} {c c1 : CState} {q : Pos} {rh : Nat} {sc : Scope} {rs : List Scope} {pool : List KConst}
    {ps : List (List KConst)} {env env' : Env} {s s' : SS} {v : Value}
    (h : HintOK p f0 rest V P G { c with cur := q } c1 rh sc rs pool ps env env' s s' v) :
    HintOK p f0 rest V P G c { c1 with cur := c.cur } rh sc rs pool ps env env' s s' v := by
  obtain ⟨ra', nsyms, more, seg, segm, hc, h2⟩ := h
  refine ⟨ra', nsyms, more, seg, segm, ?_, h2⟩
  conv => lhs; rw [hc]

variable (p f0 rest V P)

theorem HintOK.of_copy (hP : P.length < 65536)
    (hK : ∀ i, i < P.length → (p.defs.getD f0.defIdx default).consts.getD i .nil = litOf V (P.getD i .nil))
    (G : String → Prop) (c c1 c2 : CState) (ret h : JSlot) (rh : Nat) (sc : Scope) (rs : List Scope) (pool : List KConst) (ps : List (List KConst))
    (env env' : Env) (s s' : SS) (v : Value)
    (hk : h.k = .loc rh) (hcf : h.cflag = false) (hr : rh < 240)
    (hm : c.map.length = c.buf.length) (hm1 : c1.map.length = c1.buf.length)
    (H : Correct2 p f0 rest V P G false c c1 ret sc rs pool ps env env' s s' v)
    (hcp : copySlot c1 h ret = some c2) (hrm : rh ≤ sc.ra.max) :
    HintOK p f0 rest V P G c c2 rh sc rs pool ps env env' s s' v := by
  obtain ⟨ra1, ns1, more1, seg1, segm1, hc1, pv1, mono1, max1, sok1, bx1, es1, nf1, vm1⟩ := H
  have hs1 : c1.scopes = { sc with ra := ra1, syms := sc.syms ++ ns1 } :: rs := by rw [hc1]
  have hp1 : c1.pools = (pool ++ more1) :: ps := by rw [hc1]
  have hlen1 : segm1.length = seg1.length := by
    have hb : c1.buf = c.buf ++ seg1 := by rw [hc1]
    have hmm : c1.map = c.map ++ segm1 := by rw [hc1]
    rw [hb, hmm] at hm1
    simp only [List.length_append] at hm1
    omega
  obtain ⟨more2, seg2, segm2, hc2, hlen2, vm2⟩ := copyHint p f0 rest V P hP hK c1 c2 h ret rh hk hcf hr _ rs (pool ++ more1) ps hs1 hp1 sok1.sk hcp
  have hsc2 : c2.scopes = c1.scopes := by rw [hc2, hs1]
  have hv2 : c2.vals = c1.vals := by rw [hc2]
  refine ⟨ra1, ns1, more1 ++ more2, seg1 ++ seg2, segm1 ++ segm2, ?_, by rw [hv2]; exact pv1, mono1, max1, bx1, by rw [hsc2]; exact es1,
    by simp [hlen1, hlen2], ?_⟩
  · rw [hc2, hc1]; simp [List.append_assoc]
  · intro k hkw hka hD hcode hpre hV hsz
    rw [hv2] at hV
    obtain ⟨regs1, rch1, sz1, pr1, sv1, ed1⟩ := vm1 k hkw hka hD hcode.left (PrefL.trans ⟨more2, by simp [List.append_assoc]⟩ hpre) hV hsz
    have hrsz : rh < regs1.size := by rw [sz1]; omega
    obtain ⟨regs2, rch2, sz2, pr2, hv2'⟩ := vm2 { regs := regs1, pc := k.pc + seg1.length, args := #[], w := s'.st.world } hcode.right
      (by rw [List.append_assoc]; exact hpre) hrsz
    have sz2' : regs2.size = regs1.size := sz2
    refine ⟨regs2, ?_, by omega, ?_, ?_, ?_⟩
    · rw [List.length_append]
      exact Runs.seq rch1 rch2
    · intro r hra hne
      rw [pr2 r hne, pr1 r hra]
    · rw [hv2']; exact sv1 rfl
    · intro x slot u l r a hx hkk hne he
      rw [hsc2] at hx
      rw [pr2 r hne]
      exact ed1 x slot u l r a hx hkk he

end

theorem finH_inv (last : Pos) (h ret slot : JSlot) (c1 c' : CState) (hf : finH last h (some (ret, c1)) = some (slot, c')) :
    slot = h ∧ ∃ c2, copySlot c1 h ret = some c2 ∧ c' = { c2 with cur := last } := by
  simp only [finH, Option.bind_eq_some_iff, Option.some.injEq, Prod.mk.injEq] at hf
  obtain ⟨c2, h1, h2, h3⟩ := hf
  exact ⟨h2.symm, c2, h1, h3.symm⟩

section
variable (p : Program) (f0 : Frame) (rest : List Frame) (V : Array Value) (P : List KConst)

/-- compile correctness with a hint at compile fuel `fuel`: the hint is a near local inside the frame (`rh ≤ sc.ra.max`: needed to WRITE
    it; the allocator model does not carry "allocated ⇒ ≤ max" as an invariant) and the value is not dropped -/
def HintAtM (G : String → Prop) (T : Expr → Prop) (fuel : Nat) : Prop :=
  ∀ (e : Expr) (opts : Fopts) (c c' : CState) (slot : JSlot) (sc : Scope) (rs : List Scope) (pool : List KConst) (ps : List (List KConst))
    (n : Nat) (cur : Pos) (env env' : Env) (s s' : SS) (v : Value) (h : JSlot) (rh : Nat),
    opts.tail = false → opts.drop = false → opts.hint = some h → h.k = .loc rh → h.cflag = false → rh < 240 → sc.ra.alloc rh = true → rh ≤ sc.ra.max →
    c.scopes = sc :: rs → c.pools = pool :: ps → c.lim ≤ 240 → sc.top = false → c.map.length = c.buf.length → T e →
    cValue fuel opts e c = some (slot, c') → eval n cur env e s = .ok (v, env') s' → EnvS G c.scopes env s.boxes.size sc.ra →
    slot = h ∧ HintOK p f0 rest V P G c c' rh sc rs pool ps env env' s s' v

end

section
variable (p : Program) (f0 : Frame) (rest : List Frame) (V : Array Value) (P : List KConst)

theorem HintOK_block (G : String → Prop) (c c2 c3 : CState) (r : JSlot) (rh : Nat) (sc : Scope) (rs : List Scope) (pool : List KConst)
    (ps : List (List KConst)) (env envb : Env) (s s' : SS) (v : Value) (hs : c.scopes = sc :: rs)
    (hE : EnvS G c.scopes env s.boxes.size sc.ra)
    (H : HintOK p f0 rest V P G { c with scopes := blk c sc false :: sc :: rs } c2 rh (blk c sc false) (sc :: rs) pool ps env envb s s' v)
    (hpop : popScopeKeep c2 r = some c3) : HintOK p f0 rest V P G c c3 rh sc rs pool ps env env s s' v := by
  obtain ⟨ra2, ns2, more2, seg2, segm2, hc2, pv2, mono2, max2, bx2, es2, hlen2, vm2⟩ := H
  obtain ⟨raX, D, hmax, hv3, _, hlk1, hlk3⟩ := Delta.block c.buf.length hs ⟨hc2, pv2, mono2, max2⟩ hpop
  refine ⟨raX, _, more2, seg2, segm2, D.eq, D.pv, D.mono, D.max, bx2, hE.of_lk hlk3 bx2.1 (fun _ _ _ _ r' _ _ h' => D.mono r' h'), hlen2, ?_⟩
  intro k hkw hka hD hcode hpre hV hsz
  rw [hv3] at hV
  obtain ⟨regs2, rch2, sz2, pr2, hv2, _⟩ := vm2 k hkw hka (hD.of_lk hlk1) hcode hpre hV (Nat.lt_of_le_of_lt hmax hsz)
  refine ⟨regs2, rch2, sz2, pr2, hv2, ?_⟩
  intro x sl u l r' a hx hk hne he
  rw [hlk3] at hx
  obtain ⟨_, _, _, r'', a'', hk', he', ha, hal', _⟩ := hE.found hx
  have e1 : r'' = r' := by rw [hk'] at hk; injection hk
  have e2 : a'' = a := by rw [he] at he'; exact (Option.some.inj he').symm
  subst e1 e2
  rw [pr2 r'' hal' hne, hD x sl u l r'' a'' hx hk he]
  exact (readBox_pref bx2 a'' ha).symm

theorem finH_same (G : String → Prop) (q : Pos) (h slot0 slot : JSlot) (rh : Nat) (c cq c' : CState) (sc : Scope) (rs : List Scope) (pool : List KConst)
    (ps : List (List KConst)) (env env' : Env) (s s' : SS) (v : Value)
    (hk : h.k = .loc rh) (hcf : h.cflag = false) (hr : rh < 240) (hsl : slot0 = h)
    (H : HintOK p f0 rest V P G { c with cur := q } cq rh sc rs pool ps env env' s s' v)
    (hc : finH c.cur h (some (slot0, cq)) = some (slot, c')) :
    slot = h ∧ HintOK p f0 rest V P G c c' rh sc rs pool ps env env' s s' v := by
  obtain ⟨hs', c2, hcp, hc'⟩ := finH_inv _ _ _ _ _ _ hc
  refine ⟨hs', ?_⟩
  rw [hsl] at hcp
  have H2 := H
  obtain ⟨ra', ns, more, seg, segm, hcq, _⟩ := H2
  have e := copySlot_same cq c2 h rh hk hcf hr _ rs (pool ++ more) ps (by rw [hcq]) (by rw [hcq]) hcp
  rw [hc', e]
  exact HintOK.recur H

end

end JanetModel.Compile
