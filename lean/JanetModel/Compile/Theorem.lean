/- C02: compile correctness for the call fragment  e ::= literal | symbol | (f e)  (f a global core function other than `apply`;
   value used, near registers): the statement `Correct`, what it is stated with (`EnvOK`, `TC`, `SlotOK`), and the induction on
   the compile fuel `tc_correct`.  Its one client is `compile_correct_calls`; the n-ary fragment is stated with `EnvS` / `EnvD`,
   `SlotOK2`, `Correct2` (Compile/SeqCorrect.lean). -/
import JanetModel.Compile.SeqPush
import JanetModel.Compile.SemCall
namespace JanetModel.Compile
open JanetModel.Emit JanetModel.Lang JanetModel.Bytecode.Exec JanetModel.Gen.Bytecode

theorem lookupSlot_ra (c c1 : CState) (sc : Scope) (rs : List Scope) (ra : RA) (hs : c.scopes = sc :: rs)
    (h1 : c1.scopes = { sc with ra := ra } :: rs) (x : String) : lookupSlot c1 x = lookupSlot c x := by
  unfold lookupSlot
  rw [h1, hs, searchScopes_ra]
  cases searchScopes x (sc :: rs) 0 false true with
  | none => rfl
  | some r =>
    obtain ⟨pos, i, u, l⟩ := r
    cases pos <;> rfl

/-- the names: a global name is unbound in the environment; a local name is a named near local whose register is allocated,
    in bounds of the model's limit, and holds the box of the name -/
def EnvOK (c : CState) (env : Env) (s : SS) (regs : Array Value) (ra : RA) : Prop :=
  ∀ x, (lookupSlot c x = none ∧ lookupEnv env x = none) ∨
    (∃ slot r a u, lookupSlot c x = some (slot, u, true) ∧ slot.k = .loc r ∧ slot.named = true ∧ slot.cflag = false ∧
      lookupEnv env x = some a ∧ regs.getD r .nil = readBox s a ∧ ra.alloc r = true ∧ r < 240)

/-- the call fragment (relative to the scopes: call heads are global) -/
inductive TC (c : CState) : Expr → Prop
  | lit (v : Value) : SimpleLit v → TC c (.lit v)
  | sym (x : String) : TC c (.sym x)
  | call1 (f : String) (a : Expr) (p : Pos) : specials.contains f = false → f ≠ "apply" → lookupSlot c f = none → TC c a →
      TC c (.form [.sym f, a] p)

theorem TC.ra {c c1 : CState} {sc : Scope} {rs : List Scope} {ra : RA} (hs : c.scopes = sc :: rs)
    (h1 : c1.scopes = { sc with ra := ra } :: rs) {e : Expr} (h : TC c e) : TC c1 e := by
  induction h with
  | lit v hv => exact .lit v hv
  | sym x => exact .sym x
  | call1 f a p h1' h2 h3 _ ih => exact .call1 f a p h1' h2 (by rw [lookupSlot_ra c c1 sc rs ra hs h1]; exact h3) ih

theorem TC.notSplice {c : CState} {e : Expr} (h : TC c e) : isSplice e = none := by
  cases h with
  | lit v hv => rfl
  | sym x => rfl
  | call1 f a p h1 h2 h3 h4 =>
    simp only [isSplice]
    split
    · rename_i x _ heq
      simp only [Expr.form.injEq, List.cons.injEq, Expr.sym.injEq] at heq
      obtain ⟨⟨hf, _⟩, _⟩ := heq
      subst hf
      simp [specials] at h1
    · rfl

theorem cCall1_inv (rec' : Fopts → Expr → CState → Option (JSlot × CState)) (f : String) (a : Expr) (c0 cq : CState) (slot : JSlot)
    (h : cCall rec' {} (.sym f) [a] c0 = some (slot, cq)) :
    ∃ head c1 sa c2 c3 cT c4 c5, rec' {} (.sym f) c0 = some (head, c1) ∧ rec' {} a c1 = some (sa, c2) ∧
      emitS c2 .push sa false = some c3 ∧ getTarget c3 {} = some (slot, cT) ∧ emitSS cT .call slot head true = some c4 ∧
      freeslot c4 sa = some c5 ∧ freeslot c5 head = some cq := by
  obtain ⟨head, c1, slots, c2, c3, cT, c4, c5, h1, h2, h3, hT, hE, hf1, hf2⟩ := cCall_steps rec' (.sym f) [a] c0 cq slot h
  simp only [toSlots, Option.bind_eq_bind, Option.pure_def, Option.bind_eq_some_iff, Prod.exists, Option.some.injEq, Prod.mk.injEq] at h2
  obtain ⟨sa, c2', ha, _, _, ⟨rfl, rfl⟩, rfl, rfl⟩ := h2
  simp only [freeslots, Option.bind_eq_bind, Option.bind_eq_some_iff, Option.some.injEq] at hf1
  obtain ⟨c5', hf1, rfl⟩ := hf1
  exact ⟨head, c1, sa, _, c3, cT, c4, _, h1, ha, h3, hT, hE, hf1, hf2⟩

theorem eval_call1_inv (n : Nat) (cur : Pos) (env env' : Env) (f : String) (a : Expr) (pp : Pos) (s s' : SS) (v : Value)
    (hf : specials.contains f = false) (hg : lookupEnv env f = none) (hsp : isSplice a = none)
    (h : eval n cur env (.form [.sym f, a] pp) s = .ok (v, env') s') :
    ∃ n2 va env_a s_a, n = n2 + 3 ∧ eval (n2 + 1) (posOf cur pp) env a s = .ok (va, env_a) s_a ∧
      applyFn (n2 + 2) (posOf cur pp) (.cfun f) [va] s_a = .ok v s' := by
  obtain ⟨m, vs, s_a, rfl, hsa, happ⟩ := eval_call_inv n cur env env' f (.cfun f) [a] pp s s' v hf
    (fun m => eval_sym_global m _ env f s hg) h
  obtain ⟨n1, va, env_a, s1, vs', hm, he, hr, rfl⟩ := evalArgs_cons_inv (m + 1) _ env env' a [] s s_a vs hsp hsa
  obtain rfl : m = n1 := by omega
  obtain ⟨rfl, _, rfl⟩ := evalArgs_nil_inv m _ env_a env' s1 s_a vs' hr
  cases m with
  | zero => simp [evalArgs] at hr
  | succ n2 => exact ⟨n2, va, env_a, _, rfl, he, happ⟩

/-- what is known about the slot a form of the fragment is compiled to -/
def SlotOK (sc : Scope) (ra' : RA) (vals : Array Value) (slot : JSlot) : Prop :=
  (slot.cflag = true ∧ ∃ kc, slot.k = .const kc ∧ KWf vals kc) ∨
  (slot.cflag = false ∧ slot.named = true ∧ ∃ r, slot.k = .loc r ∧ sc.ra.alloc r = true ∧ r < 240) ∨
  (slot.cflag = false ∧ slot.named = false ∧ ∃ d, slot.k = .loc d ∧ sc.ra.alloc d = false ∧ ra'.alloc d = true ∧ d < 240)

theorem SlotOK.sk {sc : Scope} {ra' : RA} {vals : Array Value} {slot : JSlot} (h : SlotOK sc ra' vals slot) : SK slot := by
  rcases h with ⟨_, kc, hk, _⟩ | ⟨_, _, r, hk, _, hr⟩ | ⟨_, _, d, hk, _, _, hd⟩
  · exact Or.inl ⟨kc, hk⟩
  · exact Or.inr ⟨r, hk, hr⟩
  · exact Or.inr ⟨d, hk, hd⟩

section
variable (p : Program) (f0 : Frame) (rest : List Frame) (V : Array Value) (P : List KConst)

/-- the statement of compile correctness for one form (value used, near registers; `vals := c'.vals`: the equation leaves the
    value table free, `PrefA` says what is known of it) -/
def Correct (c c' : CState) (slot : JSlot) (sc : Scope) (rs : List Scope) (pool : List KConst) (ps : List (List KConst))
    (s' : SS) (v : Value) (k : Cfg) : Prop :=
  ∃ (ra' : RA) (more : List KConst) (seg : List CI) (segm : List Pos),
    c' = { c with scopes := { sc with ra := ra' } :: rs, pools := (pool ++ more) :: ps, buf := c.buf ++ seg, map := c.map ++ segm, vals := c'.vals } ∧
    PrefA c.vals c'.vals ∧ (∀ r, sc.ra.alloc r = true → ra'.alloc r = true) ∧ sc.ra.max ≤ ra'.max ∧ SlotOK sc ra' c'.vals slot ∧
    (CodeAt (p.defs.getD f0.defIdx default).code k.pc seg → PrefL (pool ++ more) P → PrefA c'.vals V → ra'.max < k.regs.size →
      ∃ regs', Reach p (inj f0 rest k) (inj f0 rest { regs := regs', pc := k.pc + seg.length, args := #[], w := s'.st.world }) ∧
        regs'.size = k.regs.size ∧ (∀ r, sc.ra.alloc r = true → regs'.getD r .nil = k.regs.getD r .nil) ∧ slotVal V regs' slot = v)

theorem atom_const (FF : FloatFacts) (c : CState) (w : Value) (hw : SimpleLit w) (sc : Scope) (rs : List Scope) (pool : List KConst)
    (ps : List (List KConst)) (hs : c.scopes = sc :: rs) (hp : c.pools = pool :: ps) (s : SS) (k : Cfg) (hkw : k.w = s.st.world) (hka : k.args = #[]) :
    Correct p f0 rest V P c { (constSlot c w).2 with cur := c.cur } (constSlot c w).1 sc rs pool ps s w k := by
  obtain ⟨h1, h2, h3, h4⟩ := kOf_spec FF c w hw
  refine ⟨sc.ra, [], [], [], ?_, h2, fun _ h => h, Nat.le_refl _, Or.inl ⟨rfl, (kOf c w).1, rfl, h3⟩, ?_⟩
  · show ({ (kOf c w).2 with cur := c.cur } : CState) = _
    rw [h1]
    simp [hs, hp]
    rfl
  · intro _ _ hV _
    refine ⟨k.regs, ?_, rfl, fun _ _ => rfl, ?_⟩
    · rw [cfg_eta k _ hkw hka]; exact Reach.refl _ _
    · show litOf V (kOf c w).1 = w
      rw [litOf_pref hV _ h3]; exact h4

end

theorem EnvOK.ra {c c1 : CState} {sc : Scope} {rs : List Scope} {env : Env} {s : SS} {regs : Array Value}
    (hs : c.scopes = sc :: rs) (h1 : c1.scopes = sc :: rs) (h : EnvOK c env s regs sc.ra) : EnvOK c1 env s regs sc.ra := by
  intro x
  have e : lookupSlot c1 x = lookupSlot c x := lookupSlot_ra c c1 sc rs sc.ra hs (by rw [h1]) x
  rw [e]
  exact h x

section
variable (p : Program) (f0 : Frame) (rest : List Frame) (V : Array Value) (P : List KConst)

theorem tc_correct (hP : P.length < 65536)
    (hK : ∀ i, i < P.length → (p.defs.getD f0.defIdx default).consts.getD i .nil = litOf V (P.getD i .nil))
    (FF : FloatFacts) :
    ∀ (fuel : Nat) (e : Expr) (c c' : CState) (slot : JSlot) (sc : Scope) (rs : List Scope) (pool : List KConst) (ps : List (List KConst))
      (n : Nat) (cur : Pos) (env env' : Env) (s s' : SS) (v : Value) (k : Cfg),
      c.scopes = sc :: rs → c.pools = pool :: ps → c.lim ≤ 240 → TC c e →
      cValue fuel {} e c = some (slot, c') → eval n cur env e s = .ok (v, env') s' →
      k.w = s.st.world → k.args = #[] → EnvOK c env s k.regs sc.ra →
      Correct p f0 rest V P c c' slot sc rs pool ps s' v k := by
  intro fuel
  induction fuel with
  | zero => intro e c c' slot sc rs pool ps n cur env env' s s' v k _ _ _ _ hc; simp [cValue] at hc
  | succ fuel ih =>
    intro e c c' slot sc rs pool ps n cur env env' s s' v k hs hp hl hTC hc hsem hkw hka henv
    cases hTC with
    | lit w hw =>
      rw [cValue_lit_o fuel {} rfl rfl w hw c] at hc
      simp only [Option.some.injEq, Prod.mk.injEq] at hc
      obtain ⟨h1, h2⟩ := hc
      subst h1 h2
      cases n with
      | zero => simp [eval] at hsem
      | succ n =>
        rw [eval_lit] at hsem
        simp only [R.ok.injEq, Prod.mk.injEq] at hsem
        obtain ⟨⟨hv, _⟩, hss⟩ := hsem
        subst hv hss
        exact atom_const p f0 rest V P FF c w hw sc rs pool ps hs hp s k hkw hka
    | sym x =>
      rw [cValue_sym] at hc
      rcases henv x with ⟨hl1, hl2⟩ | ⟨sl, r, a, u, hl1, hk1, hn1, hc1, hl2, hreg, hal, hr⟩
      · -- global function
        rw [resolve_global c x hl1] at hc
        have hg : globalSlot c x = some (constSlot c (.cfun x)) := by
          unfold globalSlot at hc ⊢
          split at hc <;> simp_all [fin]
        rw [hg] at hc
        simp only [fin, Option.some.injEq, Prod.mk.injEq] at hc
        obtain ⟨h1, h2⟩ := hc
        subst h1 h2
        cases n with
        | zero => simp [eval] at hsem
        | succ n =>
          rw [eval_sym_global n cur env x s hl2] at hsem
          simp only [R.ok.injEq, Prod.mk.injEq] at hsem
          obtain ⟨⟨hv, _⟩, hss⟩ := hsem
          subst hv hss
          exact atom_const p f0 rest V P FF c (.cfun x) trivial sc rs pool ps hs hp s k hkw hka
      · -- local
        rw [resolve_local c x sl u hl1 hc1] at hc
        simp only [fin, Option.some.injEq, Prod.mk.injEq] at hc
        obtain ⟨h1, h2⟩ := hc
        subst h1 h2
        cases n with
        | zero => simp [eval] at hsem
        | succ n =>
          rw [eval_sym_local n cur env x s a hl2] at hsem
          simp only [R.ok.injEq, Prod.mk.injEq] at hsem
          obtain ⟨⟨hv, _⟩, hss⟩ := hsem
          subst hv hss
          refine ⟨sc.ra, [], [], [], ?_, PrefA.refl _, fun _ h => h, Nat.le_refl _, Or.inr (Or.inl ⟨hc1, hn1, r, hk1, hal, hr⟩), ?_⟩
          · simp [hs, hp]
          · intro _ _ _ _
            refine ⟨k.regs, ?_, rfl, fun _ _ => rfl, ?_⟩
            · rw [cfg_eta k _ hkw hka]; exact Reach.refl _ _
            · simp only [slotVal, hk1]; exact hreg
    | call1 f a pp hf hna hg hTa =>
      rw [cValue_call_o fuel {} rfl rfl f [a] pp c hf] at hc
      obtain ⟨q, hq⟩ := curAt_eq c pp
      obtain ⟨cq, hcc, hc'⟩ := fin_inv hc
      obtain ⟨head, c1, sa, c2, c3, cT, c4, c5, h1, h2, h3, hT, hE, hf1, hf2⟩ := cCall1_inv (cValue fuel) f a (curAt c pp) cq slot hcc
      rw [hq] at h1
      cases fuel with
      | zero => simp [cValue] at h1
      | succ fuel' =>
      obtain ⟨vals1, kf, hhead, hc1eq, k2, k3, k4⟩ := head_globalS FF fuel' { c with cur := q } c1 head f
        (by rw [lookupSlot_ra c { c with cur := q } sc rs sc.ra hs hs]; exact hg) h1
      subst hhead hc1eq
      have hs1 : ({ c with cur := q, vals := vals1 } : CState).scopes = sc :: rs := hs
      have hp1 : ({ c with cur := q, vals := vals1 } : CState).pools = pool :: ps := hp
      have hTa1 : TC { c with cur := q, vals := vals1 } a := TC.ra (ra := sc.ra) hs (by rw [hs1]) hTa
      have henv1 : EnvOK { c with cur := q, vals := vals1 } env s k.regs sc.ra := EnvOK.ra hs hs1 henv
      have hgl : lookupEnv env f = none := by
        rcases henv f with ⟨_, h⟩ | ⟨sl, r, a', u, h, _⟩
        · exact h
        · rw [hg] at h; exact absurd h (by simp)
      obtain ⟨n2, va, env_a, s_a, hn, hsa, happ⟩ := eval_call1_inv n cur env env' f a pp s s' v hf hgl hTa.notSplice hsem
      obtain ⟨ra2, more2, seg2, segm2, hc2, pv2, r1a, r3a, sok2, vm2⟩ :=
        ih a _ c2 sa sc rs pool ps (n2 + 1) (posOf cur pp) env env_a s s_a va k hs1 hp1 hl hTa1 h2 hsa hkw hka henv1
      have hs2 : c2.scopes = { sc with ra := ra2 } :: rs := by rw [hc2]
      have hp2 : c2.pools = (pool ++ more2) :: ps := by rw [hc2]
      have hl2 : c2.lim ≤ 240 := by rw [hc2]; exact hl
      have la : ∀ r, sa.k = .loc r → ra2.alloc r = true := by
        intro r hr
        rcases sok2 with ⟨_, kc, hk, _⟩ | ⟨_, _, r', hk, hal, _⟩ | ⟨_, _, d', hk, _, hal, _⟩
        · rw [hk] at hr; cases hr
        · rw [hk] at hr; cases hr; exact r1a _ hal
        · rw [hk] at hr; cases hr; exact hal
      obtain ⟨ra3, more3, seg3, segm3, hc3, e3, m3, vm3⟩ :=
        push1 p f0 rest V P hP hK c2 c3 sa { sc with ra := ra2 } rs (pool ++ more2) ps hs2 hp2 hl2 sok2.sk la h3
      have hs3 : c3.scopes = { sc with ra := ra3 } :: rs := by rw [hc3]
      have hp3 : c3.pools = ((pool ++ more2) ++ more3) :: ps := by rw [hc3]
      have hl3 : c3.lim ≤ 240 := by rw [hc3]; exact hl2
      obtain ⟨d, ra4, more4, seg4, segm4, hslot, hc4, d1, d2, d3, d4, d5, vm4⟩ :=
        callEmit p f0 rest V P hP hK c3 cT c4 slot (cslot kf) f hna { sc with ra := ra3 } rs ((pool ++ more2) ++ more3) ps
          hs3 hp3 hl3 (Or.inl ⟨kf, rfl⟩) (fun r hr => nomatch hr) hT hE
      have hs4 : c4.scopes = { sc with ra := ra4 } :: rs := by rw [hc4]
      rw [freeslot_const c5 (cslot kf) rfl] at hf2
      have hcq : c5 = cq := Option.some.inj hf2
      subst hcq
      have e3' : ∀ j, ra3.alloc j = ra2.alloc j := e3
      have d1' : ra3.alloc d = false := d1
      have d2' : ∀ j, ra4.alloc j = (if j = d then true else ra3.alloc j) := d2
      have m3' : ra2.max ≤ ra3.max := m3
      have d4' : ra3.max ≤ ra4.max := d4
      have hd240 : d < 240 := by
        have : c3.lim ≤ 240 := hl3
        omega
      have hd_sc : sc.ra.alloc d = false := by
        cases hh : sc.ra.alloc d with
        | false => rfl
        | true => have := r1a d hh; rw [← e3' d, d1'] at this; exact Bool.noConfusion this
      have hfinal : ∃ ra5, c5 = { c4 with scopes := { sc with ra := ra5 } :: rs } ∧ ra5.max = ra4.max ∧
          (∀ r, sc.ra.alloc r = true → ra5.alloc r = true) ∧ ra5.alloc d = true := by
        have base : ∀ r, sc.ra.alloc r = true → ra4.alloc r = true := by
          intro r hr
          rw [d2' r]; split
          · rfl
          · rw [e3' r]; exact r1a r hr
        have hd4 : ra4.alloc d = true := by rw [d2' d]; simp
        rcases sok2 with ⟨hcf, _⟩ | ⟨_, hnm, _⟩ | ⟨hcf, hnm, da, hka', hda1, hda2, _⟩
        · rw [freeslot_const c4 sa hcf] at hf1
          exact ⟨ra4, by rw [← Option.some.inj hf1, hc4], rfl, base, hd4⟩
        · rw [freeslot_named c4 sa hnm] at hf1
          exact ⟨ra4, by rw [← Option.some.inj hf1, hc4], rfl, base, hd4⟩
        · rw [freeslot_loc c4 sa da { sc with ra := ra4 } rs hs4 hcf hnm hka'] at hf1
          refine ⟨ra4.unmark da, by rw [← Option.some.inj hf1], rfl, ?_, ?_⟩
          · intro r hr
            have hne : r ≠ da := by intro e; rw [e] at hr; rw [hr] at hda1; exact Bool.noConfusion hda1
            simp only [RA.unmark, hne, if_false]; exact base r hr
          · have hne : d ≠ da := by
              intro e
              rw [← e] at hda2
              rw [← e3' d, d1'] at hda2
              exact Bool.noConfusion hda2
            simp only [RA.unmark, hne, if_false]; exact hd4
      obtain ⟨ra5, hc5, hmax5, r15, hd5⟩ := hfinal
      refine ⟨ra5, more2 ++ more3 ++ more4, seg2 ++ seg3 ++ seg4, segm2 ++ segm3 ++ segm4, ?_, ?_, r15, ?_, ?_, ?_⟩
      · rw [hc', hc5, hc4, hc3, hc2]
        simp [List.append_assoc]
      · rw [hc', hc5, hc4, hc3]
        exact PrefA.trans k2 pv2
      · rw [hmax5]; exact Nat.le_trans r3a (Nat.le_trans m3' d4')
      · exact Or.inr (Or.inr ⟨by rw [hslot], by rw [hslot], d, by rw [hslot], hd_sc, hd5, hd240⟩)
      · intro hcode hpre hV hsz
        rw [hmax5] at hsz
        have hvals : c'.vals = c2.vals := by rw [hc', hc5, hc4, hc3]
        rw [hvals] at hV
        have hcodeA : CodeAt (p.defs.getD f0.defIdx default).code k.pc seg2 := by
          rw [List.append_assoc] at hcode; exact hcode.left
        have hcodeB : CodeAt (p.defs.getD f0.defIdx default).code (k.pc + seg2.length) seg3 := by
          rw [List.append_assoc] at hcode; exact hcode.right.left
        have hcodeC : CodeAt (p.defs.getD f0.defIdx default).code (k.pc + seg2.length + seg3.length) seg4 := by
          rw [List.append_assoc] at hcode; exact hcode.right.right
        have hpreA : PrefL (pool ++ more2) P := by
          refine PrefL.trans ?_ hpre
          exact ⟨more3 ++ more4, by simp [List.append_assoc]⟩
        have hpreB : PrefL (pool ++ more2 ++ more3) P := by
          refine PrefL.trans ?_ hpre
          exact ⟨more4, by simp [List.append_assoc]⟩
        have hpreC : PrefL (pool ++ more2 ++ more3 ++ more4) P := by
          refine PrefL.trans ?_ hpre
          exact ⟨[], by simp [List.append_assoc]⟩
        obtain ⟨regs2, rch2, sz2, pr2, sv2⟩ := vm2 hcodeA hpreA hV (by omega)
        obtain ⟨regs3, A3, rch3, hA3, sz3, pr3⟩ := vm3 { regs := regs2, pc := k.pc + seg2.length, args := #[], w := s_a.st.world } hcodeB hpreB
          (by show ra3.max < regs2.size; omega)
        have sz3' : regs3.size = regs2.size := sz3
        have hlit : litOf V kf = .cfun f := by
          rw [litOf_pref (PrefA.trans pv2 hV) kf k3]; exact k4
        have hargs : A3.toList = [va] := by rw [hA3]; simp [sv2]
        obtain ⟨regs4, rch4, hv4, sz4, pr4⟩ := vm4
          { regs := regs3, pc := k.pc + seg2.length + seg3.length, args := A3, w := s_a.st.world }
          s_a s' (n2 + 1) (posOf cur pp) v hcodeC hpreC (by show ra4.max < regs3.size; omega) rfl hlit (by rw [hargs]; exact happ)
        have sz4' : regs4.size = regs3.size := sz4
        refine ⟨regs4, ?_, by omega, ?_, ?_⟩
        · have e : k.pc + (seg2 ++ seg3 ++ seg4).length = k.pc + seg2.length + seg3.length + seg4.length := by
            simp [List.length_append]; omega
          rw [e]
          exact Reach.trans rch2 (Reach.trans rch3 rch4)
        · intro r hr
          have h2r : ra2.alloc r = true := r1a r hr
          have h3r : ra3.alloc r = true := by rw [e3' r]; exact h2r
          rw [pr4 r h3r, pr3 r h2r, pr2 r hr]
        · simp only [slotVal, hslot]; exact hv4
end

end JanetModel.Compile
