/- C02: `while` loops without `break` as a constructor of the statement level: the fragment `TL G`, its compile correctness by one
   induction on the compile fuel, its compile-only facts; the predicates with a bounded nesting depth are parts of `TL`. -/
import JanetModel.Compile.SeqNestForm
import JanetModel.Compile.SeqWhileAll
import JanetModel.Compile.SeqAll
import JanetModel.Compile.SeqNoBrkSem
namespace JanetModel.Compile
open JanetModel.Emit JanetModel.Lang JanetModel.Bytecode.Exec JanetModel.Gen.Bytecode

/-- the compile-only facts (shape, `max` monotonicity, no `break` placeholder) of one statement of `T` at compile fuel `fuel` -/
def StmtFacts (G : String → Prop) (T : Expr → Prop) (fuel : Nat) : Prop :=
  ∀ (e : Expr) (opts : Fopts) (c c' : CState) (slot : JSlot) (sc : Scope) (rs : List Scope) (pool : List KConst) (ps : List (List KConst)),
    opts.tail = false → opts.hint = none → c.scopes = sc :: rs → c.pools = pool :: ps → sc.top = false → c.map.length = c.buf.length →
    T e → LkL G c.scopes → cValue fuel opts e c = some (slot, c') → (Shp G c c' sc rs pool ps ∧ SlotSh slot) ∧ MaxR c c' rs ∧ NBR c c'

theorem ml_of_stmtFacts (G : String → Prop) (T : Expr → Prop) (fuel : Nat) (F : StmtFacts G T fuel) : MLAt G T true fuel := by
  intro _ e opts c c' slot sc rs pool ps env nb ht hh hs hp htop hT hE hc hm
  exact (F e opts c c' slot sc rs pool ps ht hh hs hp htop hm hT hE.lkl hc).1.1.mapLen hm

theorem tf_stmtFacts (G : String → Prop) (b : Bool) (fuel : Nat) : StmtFacts G (TF G b) fuel := by
  intro e opts c c' slot sc rs pool ps ht hh hs hp htop hm hT hL hc
  have h := tf_shape_max G b fuel e opts c c' slot sc rs pool ps hs hp hm hT hL hc
  exact ⟨⟨h.1, h.2.2 ht hh⟩, h.2.1, tf_nobrk_any G b fuel e opts c c' slot hT hc⟩

theorem whileBody_facts {G : String → Prop} {T : Expr → Prop} {fuel : Nat} (F : StmtFacts G T fuel) :
    ∀ {body : List Expr}, (∀ e, e ∈ body → T e) → BodyFacts G fuel body := by
  intro body
  induction body with
  | nil =>
    intro _ c c' sc rs pool ps hs hp _ _ hL h
    simp only [whileBody, Option.some.injEq] at h
    rw [← h]
    exact ⟨Shp.refl hs hp hL, MaxR.refl c rs, NBR.refl c⟩
  | cons x t ih =>
    intro hT c c' sc rs pool ps hs hp htop hm hL h
    simp only [whileBody, Option.bind_eq_bind, Option.bind_eq_some_iff, Prod.exists] at h
    obtain ⟨sl1, c1, hx, c1f, hf, hrest⟩ := h
    obtain ⟨⟨S1, _⟩, M1, N1⟩ := F x { drop := true } c c1 sl1 sc rs pool ps rfl rfl hs hp htop hm (hT x (by simp)) hL hx
    obtain ⟨sc1, pool1, hs1, hp1, ht1, hL1, _⟩ := S1.out
    have R2 := freeslot_stepR c1 c1f sl1 sc1 rs pool1 ps hs1 hp1 hf
    have S2 : Shp G c1 c1f sc1 rs pool1 ps := R2.shp hs1 hL1
    obtain ⟨sc2, pool2, hs2, hp2, ht2, hL2, _⟩ := S2.out
    obtain ⟨S3, M3, N3⟩ := ih (fun e he => hT e (by simp [he])) c1f c' sc2 rs pool2 ps hs2 hp2
      (by rw [ht2, ht1]; exact htop) (R2.mapLen (S1.mapLen hm)) hL2 hrest
    exact ⟨S1.trans' hs1 hp1 (S2.trans' hs2 hp2 S3),
      M1.trans hs1 ((freeslot_maxR c1 c1f sl1 sc1 rs hs1 hf).trans hs2 M3),
      N1.trans ((NBR.of_eq (freeslot_buf c1 c1f sl1 hf)).trans N3)⟩

theorem whileLoop_nobrk (G : String → Prop) (cnd : Expr) (body : List Expr)
    (hcn : ∀ n cur env s v s', GFree G env → eval n cur env cnd s ≠ .brk v s') :
    ∀ (f : Nat) (cur : Pos) (env : Env) (s : SS) (v : Value) (s' : SS), GFree G env → whileLoop f cur env cnd body s ≠ .brk v s' := by
  intro f
  induction f with
  | zero => intro cur env s v s' _; simp [whileLoop]
  | succ f ih =>
    intro cur env s v s' hg
    simp only [whileLoop]
    cases he : eval f cur env cnd s with
    | ok r s1 =>
      obtain ⟨cv, cenv⟩ := r
      simp only
      split
      · cases hb : evalSeq f cur cenv body s1 with
        | ok r2 s2 => exact ih cur env s2 v s' hg
        | brk _ _ => simp
        | err _ _ _ => simp
        | stop _ => simp
      · simp
    | brk v1 s1 => exact absurd he (hcn f cur env s v1 s1 hg)
    | err _ _ _ => simp
    | stop _ => simp

/-- a loop form with a condition of the fragment never has the outcome `.brk` (whatever its body) -/
theorem loop_eval_nbg (G : String → Prop) (n : Nat) (cur : Pos) (env : Env) (cnd : Expr) (body : List Expr) (pp : Pos) (s : SS)
    (hg : GFree G env) (hTc : TF G true cnd) : NBG G (eval n cur env (.form (.sym "while" :: cnd :: body) pp) s) := by
  cases n with
  | zero => simp only [eval]; exact NBG.stop _
  | succ n =>
    rw [eval_while]
    cases hw : whileLoop n (posOf cur pp) env cnd body s with
    | ok u s1 => exact NBG.ok _ _ _ hg
    | err _ _ _ => exact NBG.err _ _ _
    | brk v s1 =>
      exact absurd hw (whileLoop_nobrk G cnd body (fun n cur env s v s' hg => tf_eval_nobrk G true n cur env cnd s v s' hg hTc)
        n (posOf cur pp) env s v s1 hg)
    | stop _ => exact NBG.stop _

theorem evalSeq_nbg_of (G : String → Prop) (T : Expr → Prop)
    (H : ∀ (n : Nat) (cur : Pos) (env : Env) (e : Expr) (s : SS), GFree G env → T e → NBG G (eval n cur env e s)) :
    ∀ (n : Nat) (cur : Pos) (env : Env) (body : List Expr) (s : SS), GFree G env → (∀ e, e ∈ body → T e) → NBG G (evalSeq n cur env body s) := by
  intro n
  induction n with
  | zero => intro cur env body s _ _; simp only [evalSeq]; exact NBG.stop _
  | succ n ih =>
    intro cur env body s hg hT
    cases body with
    | nil => simp only [evalSeq]; exact NBG.ok _ _ _ hg
    | cons e t =>
      cases t with
      | nil => simp only [evalSeq]; exact H n cur env e s hg (hT e (by simp))
      | cons y r =>
        simp only [evalSeq]
        have hE1 := H n cur env e s hg (hT e (by simp))
        cases he : eval n cur env e s with
        | ok r1 s1 =>
          obtain ⟨v1, env1⟩ := r1
          exact ih cur env1 (y :: r) s1 (hE1.2 v1 env1 s1 he) (fun e' he' => hT e' (by simp [he']))
        | err v q s1 => exact NBG.err _ _ _
        | brk v s1 => exact absurd he (hE1.1 v s1)
        | stop w => exact NBG.stop _

section
variable {p : Program} {f0 : Frame} {rest : List Frame} {V : Array Value} {P : List KConst}

theorem while_core_of (G : String → Prop) (T : Expr → Prop) (b w : Bool) (fuel : Nat) (IH : CorrectAt p f0 rest V P G T w fuel)
    (F : StmtFacts G T fuel) (hTT : ∀ e, TF G b e → T e)
    (hnb : ∀ (n : Nat) (cur : Pos) (env : Env) (e : Expr) (s : SS), GFree G env → T e → NBG G (eval n cur env e s))
    (cnd : Expr) (body : List Expr) (pp : Pos) (hTc : TF G b cnd) (hTb : ∀ e, e ∈ body → T e) (hok : CondOK cnd)
    (opts : Fopts) (c c' : CState) (slot : JSlot) (sc : Scope) (rs : List Scope) (pool : List KConst) (ps : List (List KConst))
    (n : Nat) (cur : Pos) (env env' : Env) (s s' : SS) (v : Value)
    (ht : opts.tail = false) (hh : opts.hint = none) (hs : c.scopes = sc :: rs) (hp : c.pools = pool :: ps) (hl : c.lim ≤ 240)
    (hm : c.map.length = c.buf.length)
    (hc : cValue (fuel + 1) opts (.form (.sym "while" :: cnd :: body) pp) c = some (slot, c'))
    (hsem : eval n cur env (.form (.sym "while" :: cnd :: body) pp) s = .ok (v, env') s')
    (hE : EnvS G c.scopes env s.boxes.size sc.ra) :
    Correct2 p f0 rest V P G opts.drop c c' slot sc rs pool ps env env' s s' v :=
  while_core_gen G T b w fuel IH (ml_of_stmtFacts G T fuel F) hTT cnd body pp hTc hTb hok
    (whileBody_facts F hTb)
    (fun n cur env0 s0 v0 s1 hg => (evalSeq_nbg_of G T hnb n cur env0 body s0 hg hTb).1 v0 s1)
    opts c c' slot sc rs pool ps n cur env env' s s' v ht hh hs hp hl hm hc hsem hE

theorem while_core (G : String → Prop) (b w : Bool) (fuel : Nat) (IH : CorrectAt p f0 rest V P G (TF G b) w fuel)
    (cnd : Expr) (body : List Expr) (pp : Pos) (hTc : TF G b cnd) (hTb : ∀ e, e ∈ body → TF G b e) (hok : CondOK cnd)
    (opts : Fopts) (c c' : CState) (slot : JSlot) (sc : Scope) (rs : List Scope) (pool : List KConst) (ps : List (List KConst))
    (n : Nat) (cur : Pos) (env env' : Env) (s s' : SS) (v : Value)
    (ht : opts.tail = false) (hh : opts.hint = none) (hs : c.scopes = sc :: rs) (hp : c.pools = pool :: ps) (hl : c.lim ≤ 240)
    (hm : c.map.length = c.buf.length)
    (hc : cValue (fuel + 1) opts (.form (.sym "while" :: cnd :: body) pp) c = some (slot, c'))
    (hsem : eval n cur env (.form (.sym "while" :: cnd :: body) pp) s = .ok (v, env') s')
    (hE : EnvS G c.scopes env s.boxes.size sc.ra) :
    Correct2 p f0 rest V P G opts.drop c c' slot sc rs pool ps env env' s s' v :=
  while_core_of G (TF G b) b w fuel IH (tf_stmtFacts G b fuel) (fun _ h => h) (fun n cur env e s hg hT => (tf_nball G b n).1 cur env e s hg hT)
    cnd body pp hTc hTb hok opts c c' slot sc rs pool ps n cur env env' s s' v ht hh hs hp hl hm hc hsem hE

end

/-- the fragment with the loop as a constructor of the statement level: loop bodies may hold loops -/
inductive TL (G : String → Prop) : Expr → Prop
  | base (e : Expr) : TF G true e → TL G e
  | loop (cnd : Expr) (body : List Expr) (pp : Pos) : CondOK cnd → TF G true cnd → (∀ x, x ∈ body → TL G x) →
      TL G (.form (.sym "while" :: cnd :: body) pp)

theorem tl_stmtFacts (G : String → Prop) : ∀ fuel, StmtFacts G (TL G) fuel := by
  intro fuel
  induction fuel with
  | zero => intro e opts c c' slot sc rs pool ps _ _ _ _ _ _ _ _ hc; simp [cValue] at hc
  | succ f ih =>
    intro e opts c c' slot sc rs pool ps ht hh hs hp htop hm hT hL hc
    cases hT with
    | base _ hT => exact tf_stmtFacts G true (f + 1) e opts c c' slot sc rs pool ps ht hh hs hp htop hm hT hL hc
    | loop cnd body pp _ hTc hTb =>
      exact while_form_facts G true f cnd body pp hTc (whileBody_facts ih hTb) opts ht hh c c' slot sc rs pool ps hs hp hL hm hc

theorem tl_ML (G : String → Prop) (fuel : Nat) : MLAt G (TL G) true fuel := ml_of_stmtFacts G (TL G) fuel (tl_stmtFacts G fuel)

theorem tl_eval_nbg (G : String → Prop) (n : Nat) (cur : Pos) (env : Env) (e : Expr) (s : SS) (hg : GFree G env) (hT : TL G e) :
    NBG G (eval n cur env e s) := by
  cases hT with
  | base _ hT => exact (tf_nball G true n).1 cur env e s hg hT
  | loop cnd body pp _ hTc _ => exact loop_eval_nbg G n cur env cnd body pp s hg hTc

theorem tl_evalSeq_nobrk (G : String → Prop) {body : List Expr} (hT : ∀ e, e ∈ body → TL G e) (n : Nat) (cur : Pos) (env : Env)
    (s : SS) (v : Value) (s' : SS) (hg : GFree G env) : evalSeq n cur env body s ≠ .brk v s' :=
  (evalSeq_nbg_of G (TL G) (tl_eval_nbg G) n cur env body s hg hT).1 v s'

section
variable {p : Program} {f0 : Frame} {rest : List Frame} {V : Array Value} {P : List KConst}

theorem tl_correct (hP : P.length < 65536)
    (hK : ∀ i, i < P.length → (p.defs.getD f0.defIdx default).consts.getD i .nil = litOf V (P.getD i .nil))
    (FF : FloatFacts) (G : String → Prop) : ∀ fuel, CorrectAt p f0 rest V P G (TL G) true fuel := by
  intro fuel
  induction fuel with
  | zero => intro e opts c c' slot sc rs pool ps n cur env env' s s' v _ _ _ _ _ _ _ _ hc; simp [cValue] at hc
  | succ f ih =>
    intro e opts c c' slot sc rs pool ps n cur env env' s s' v ht hh hs hp hl htop hm hT hc hsem hE
    cases hT with
    | base _ hT =>
      exact tf_correct_b p f0 rest V P hP hK FF G true (f + 1) e opts c c' slot sc rs pool ps n cur env env' s s' v ht hh hs hp hl htop hm hT hc hsem hE
    | loop cnd body pp hok hTc hTb =>
      rw [Bool.and_true]
      exact while_core_of G (TL G) true true f ih (tl_stmtFacts G f) (fun e h => .base e h) (tl_eval_nbg G) cnd body pp hTc hTb hok
        opts c c' slot sc rs pool ps n cur env env' s s' v ht hh hs hp hl (hm rfl) hc hsem hE

theorem CorrectAt.part {G : String → Prop} {T T' : Expr → Prop} {w : Bool} {fuel : Nat} (hTT : ∀ e, T e → T' e)
    (h : CorrectAt p f0 rest V P G T' w fuel) : CorrectAt p f0 rest V P G T w fuel :=
  fun e opts c c' slot sc rs pool ps n cur env env' s s' v ht hh hs hp hl htop hm hT =>
    h e opts c c' slot sc rs pool ps n cur env env' s s' v ht hh hs hp hl htop hm (hTT e hT)

end

theorem MLAt.part {G : String → Prop} {T T' : Expr → Prop} {w : Bool} {fuel : Nat} (hTT : ∀ e, T e → T' e) (h : MLAt G T' w fuel) :
    MLAt G T w fuel :=
  fun hw e opts c c' slot sc rs pool ps env nb ht hh hs hp htop hT => h hw e opts c c' slot sc rs pool ps env nb ht hh hs hp htop (hTT e hT)

theorem StmtFacts.part {G : String → Prop} {T T' : Expr → Prop} {fuel : Nat} (hTT : ∀ e, T e → T' e) (h : StmtFacts G T' fuel) :
    StmtFacts G T fuel :=
  fun e opts c c' slot sc rs pool ps ht hh hs hp htop hm hT => h e opts c c' slot sc rs pool ps ht hh hs hp htop hm (hTT e hT)

/-- one `while` loop without `break` whose condition and body statements are in the fragment -/
def WL (G : String → Prop) (b : Bool) (e : Expr) : Prop :=
  ∃ cnd body pp, e = .form (.sym "while" :: cnd :: body) pp ∧ CondOK cnd ∧ TF G b cnd ∧ ∀ x, x ∈ body → TF G b x

/-- a form of the fragment or such a loop -/
def TFW (G : String → Prop) (b : Bool) (e : Expr) : Prop := TF G b e ∨ WL G b e

/-- an outer loop: condition in the fragment (`CondOK`), body statements fragment forms or inner loops without `break` -/
def WL2 (G : String → Prop) (e : Expr) : Prop :=
  ∃ cnd body pp, e = .form (.sym "while" :: cnd :: body) pp ∧ CondOK cnd ∧ TF G true cnd ∧ ∀ x, x ∈ body → TFW G true x

/-- a form of the fragment, a loop over the fragment, or a loop over those -/
def TFW2 (G : String → Prop) (e : Expr) : Prop := TFW G true e ∨ WL2 G e

theorem TL.of_tfw {G : String → Prop} {e : Expr} : TFW G true e → TL G e
  | .inl h => .base e h
  | .inr ⟨cnd, body, pp, he, hok, hTc, hTb⟩ => he ▸ .loop cnd body pp hok hTc (fun x hx => .base x (hTb x hx))

theorem TL.of_tfw2 {G : String → Prop} {e : Expr} : TFW2 G e → TL G e
  | .inl h => TL.of_tfw h
  | .inr ⟨cnd, body, pp, he, hok, hTc, hTb⟩ => he ▸ .loop cnd body pp hok hTc (fun x hx => TL.of_tfw (hTb x hx))

theorem tfw2_ML (G : String → Prop) (fuel : Nat) : MLAt G (TFW2 G) true fuel := (tl_ML G fuel).part (fun _ => TL.of_tfw2)

section
variable (p : Program) (f0 : Frame) (rest : List Frame) (V : Array Value) (P : List KConst)

theorem tfw2_correct (hP : P.length < 65536)
    (hK : ∀ i, i < P.length → (p.defs.getD f0.defIdx default).consts.getD i .nil = litOf V (P.getD i .nil))
    (FF : FloatFacts) (G : String → Prop) : ∀ fuel, CorrectAt p f0 rest V P G (TFW2 G) true fuel :=
  fun fuel => (tl_correct hP hK FF G fuel).part (fun _ => TL.of_tfw2)

end

end JanetModel.Compile
