/- C02: compiling a form of the core fragment never decreases the `max` of the innermost scope's allocator, whatever the options:
   every primitive is monotone, and a pushed-and-popped block scope merges its `max` into the parent.  The relation rides on the
   shape relation (Compile/Closed.lean), which supplies the scopes of the intermediate states; `tf_shape_max`: both in one
   statement. -/
import JanetModel.Compile.SeqShapeM
namespace JanetModel.Compile
open JanetModel.Emit JanetModel.Lang JanetModel.Bytecode.Exec JanetModel.Gen.Bytecode

/-- the innermost allocator's `max` did not decrease from `c` to `c'` (scopes below the innermost: `rs`) -/
def MaxR (c c' : CState) (rs : List Scope) : Prop :=
  ∀ sc sc', c.scopes = sc :: rs → c'.scopes = sc' :: rs → sc.ra.max ≤ sc'.ra.max

theorem MaxR.of_eq {c c' : CState} {rs : List Scope} (h : c'.scopes = c.scopes) : MaxR c c' rs := by
  intro sc sc' a b
  rw [h, a] at b
  rw [(List.cons.inj b).1]
  exact Nat.le_refl _

theorem MaxR.refl (c : CState) (rs : List Scope) : MaxR c c rs := MaxR.of_eq rfl

theorem MaxR.trans {c c1 c2 : CState} {rs : List Scope} {sc1 : Scope} (h1 : MaxR c c1 rs) (hs1 : c1.scopes = sc1 :: rs) (h2 : MaxR c1 c2 rs) :
    MaxR c c2 rs :=
  fun sc sc' a b => Nat.le_trans (h1 sc sc1 a hs1) (h2 sc1 sc' hs1 b)

theorem MaxR.of_ra {c c' : CState} {sc : Scope} {rs : List Scope} {ra' : RA} {ns : List SymPair} (hs : c.scopes = sc :: rs)
    (hs' : c'.scopes = { sc with ra := ra', syms := sc.syms ++ ns } :: rs) (h : sc.ra.max ≤ ra'.max) : MaxR c c' rs := by
  intro sc0 sc0' a b
  rw [hs] at a
  rw [hs'] at b
  rw [← (List.cons.inj a).1, ← (List.cons.inj b).1]
  exact h

theorem emitW_maxR (c c' : CState) (f : Emit.C → Emit.C) (sc : Scope) (rs : List Scope) (pool : List KConst) (ps : List (List KConst))
    (hs : c.scopes = sc :: rs) (hp : c.pools = pool :: ps) (hmx : ∀ e : Emit.C, e.ra.max ≤ (f e).ra.max)
    (h : emitW c f = some c') : MaxR c c' rs := by
  obtain ⟨_, hc'⟩ := emitW_spec c c' f sc rs pool ps hs hp h
  refine MaxR.of_ra (ns := []) hs ?_ (hmx { ra := sc.ra, buf := [], consts := pool })
  rw [hc']; simp

theorem copySlot_maxR (c c' : CState) (dest src : JSlot) (sc : Scope) (rs : List Scope) (pool : List KConst) (ps : List (List KConst))
    (hs : c.scopes = sc :: rs) (hp : c.pools = pool :: ps) (h : copySlot c dest src = some c') : MaxR c c' rs := by
  unfold copySlot at h
  split at h
  · exact absurd h (by simp)
  · split at h
    · exact absurd h (by simp)
    · exact emitW_maxR c c' _ sc rs pool ps hs hp (fun e => W_copy_max e _ _) h

theorem freeslot_maxR (c c' : CState) (s : JSlot) (sc : Scope) (rs : List Scope) (hs : c.scopes = sc :: rs)
    (h : freeslot c s = some c') : MaxR c c' rs := by
  unfold freeslot at h
  split at h
  · rw [← Option.some.inj h]; exact MaxR.refl c rs
  · split at h
    · rw [← Option.some.inj h]; exact MaxR.refl c rs
    · rename_i h0 x0 i heq0
      rw [hs] at h
      simp only [Option.some.injEq] at h
      refine MaxR.of_ra (ra' := sc.ra.unmark i) (ns := []) hs ?_ (Nat.le_refl _)
      rw [← h]; simp
    · exact absurd h (by simp)

theorem getTarget_maxR (c c' : CState) (opts : Fopts) (t : JSlot) (hh : opts.hint = none) (sc : Scope) (rs : List Scope)
    (hs : c.scopes = sc :: rs) (h : getTarget c opts = some (t, c')) : MaxR c c' rs := by
  simp only [getTarget, hh, allocFar, hs] at h
  split at h
  · exact absurd h (by simp)
  · simp only [Option.bind_eq_bind, Option.bind_some, Option.pure_def, Option.some.injEq, Prod.mk.injEq] at h
    refine MaxR.of_ra (ns := []) hs ?_ (alloc1_max_mono sc.ra)
    rw [← h.2]; simp

theorem ifCopy_maxR (drop : Bool) (c c' : CState) (dest src : JSlot) (sc : Scope) (rs : List Scope) (pool : List KConst) (ps : List (List KConst))
    (hs : c.scopes = sc :: rs) (hp : c.pools = pool :: ps) (h : ifCopy drop c dest src = some c') : MaxR c c' rs := by
  unfold ifCopy at h
  split at h
  · rw [← Option.some.inj h]; exact MaxR.refl c rs
  · exact copySlot_maxR c c' dest src sc rs pool ps hs hp h

/-- a chain of allocator-only steps: the `StepR` lemmas give the scopes, the `*_maxR` lemmas the `max` -/
theorem freeslots_maxR : ∀ (ss : List JSlot) (c c' : CState) (sc : Scope) (rs : List Scope) (pool : List KConst) (ps : List (List KConst)),
    c.scopes = sc :: rs → c.pools = pool :: ps → freeslots c ss = some c' → MaxR c c' rs
  | [], c, c', sc, rs, pool, ps, hs, hp, h => by
    simp only [freeslots, Option.some.injEq] at h
    rw [← h]; exact MaxR.refl c rs
  | s :: ss, c, c', sc, rs, pool, ps, hs, hp, h => by
    simp only [freeslots, Option.bind_eq_bind, Option.bind_eq_some_iff] at h
    obtain ⟨c1, h1, h2⟩ := h
    obtain ⟨sc1, pool1, hs1, hp1, _, _⟩ := (freeslot_stepR c c1 s sc rs pool ps hs hp h1).out
    exact (freeslot_maxR c c1 s sc rs hs h1).trans hs1 (freeslots_maxR ss c1 c' sc1 rs pool1 ps hs1 hp1 h2)

theorem pushSlots_maxR : ∀ (ss : List JSlot) (c c' : CState) (sc : Scope) (rs : List Scope) (pool : List KConst) (ps : List (List KConst)),
    c.scopes = sc :: rs → c.pools = pool :: ps → pushSlots c ss = some c' → MaxR c c' rs
  | [], c, c', sc, rs, pool, ps, hs, hp, h => by
    simp only [pushSlots, Option.some.injEq] at h
    rw [← h]; exact MaxR.refl c rs
  | [a], c, c', sc, rs, pool, ps, hs, hp, h => by
    simp only [pushSlots] at h
    exact emitW_maxR c c' _ sc rs pool ps hs hp (fun e => W_emitS_max e _ _ _) h
  | [a, b], c, c', sc, rs, pool, ps, hs, hp, h => by
    simp only [pushSlots] at h
    exact emitW_maxR c c' _ sc rs pool ps hs hp (fun e => W_emitSS_max e _ _ _ _) h
  | a :: b :: d :: rest, c, c', sc, rs, pool, ps, hs, hp, h => by
    simp only [pushSlots, Option.bind_eq_bind, Option.bind_eq_some_iff] at h
    obtain ⟨c1, h1, h2⟩ := h
    obtain ⟨sc1, pool1, hs1, hp1, _, _⟩ := (emitSSS_stepR c c1 _ a b d false sc rs pool ps hs hp h1).out
    exact (emitW_maxR c c1 _ sc rs pool ps hs hp (fun e => W_emitSSS_max e _ _ _ _ _) h1).trans hs1
      (pushSlots_maxR rest c1 c' sc1 rs pool1 ps hs1 hp1 h2)

theorem namelocal_maxR (c c2 : CState) (name : String) (r : JSlot) (sc : Scope) (rs : List Scope)
    (pool : List KConst) (ps : List (List KConst)) (hs : c.scopes = sc :: rs) (hp : c.pools = pool :: ps)
    (hsl : SlotSh r) (h : namelocal c name false r = some c2) : MaxR c c2 rs := by
  rcases namelocal_inv c c2 name false r h with ⟨_, _, _, e⟩ | ⟨d, c1a, c1b, hfar, hcp, e⟩ | ⟨ei, i, hk, _⟩
  · rw [e]; exact MaxR.of_ra hs (nameslot_scopes c name _ sc rs hs) (Nat.le_refl _)
  · have hT : getTarget c {} = some ({ k := .loc d }, c1a) := by simp [getTarget, hfar]
    obtain ⟨sc1, pool1, hs1, hp1, _, _⟩ := (getTarget_stepR c c1a {} _ rfl sc rs pool ps hs hp hT).out
    obtain ⟨sc2, _, hs2, _, _, _⟩ := (copySlot_stepR c1a c1b _ r sc1 rs pool1 ps hs1 hp1 hcp).out
    rw [e]
    exact (getTarget_maxR c c1a {} _ rfl sc rs hs hT).trans hs1 ((copySlot_maxR c1a c1b _ r sc1 rs pool1 ps hs1 hp1 hcp).trans hs2
      (MaxR.of_ra hs2 (nameslot_scopes c1b name _ sc2 rs hs2) (Nat.le_refl _)))
  · exact absurd hk hsl.not_up

theorem cReturn_maxR (c c' : CState) (s s' : JSlot) (sc : Scope) (rs : List Scope) (pool : List KConst) (ps : List (List KConst))
    (hs : c.scopes = sc :: rs) (hp : c.pools = pool :: ps) (h : cReturn c s = some (s', c')) : MaxR c c' rs := by
  rcases cReturn_inv c c' s s' h with ⟨_, _, e⟩ | ⟨_, e | e⟩
  · rw [e]; exact MaxR.refl c rs
  · rw [e]; exact MaxR.of_eq rfl
  · exact emitW_maxR c c' _ sc rs pool ps hs hp (fun e => W_emitS_max e _ _ _) e

theorem MaxR.of_alloc {G : String → Prop} {c c' : CState} (hI : ShpI G c) (a : AllocStep c c') (rs : List Scope) : MaxR c c' rs :=
  fun sc sc' hs hs' => by
    obtain ⟨_, _, _, _, pool, ps, _, hp⟩ := hI
    cases a with
    | emit hW h => exact emitW_maxR _ _ _ sc rs pool ps hs hp hW.max h sc sc' hs hs'
    | @far r h => exact getTarget_maxR c c' {} { k := .loc r } rfl sc rs hs (by simp [getTarget, h]) sc sc' hs hs'
    | free h => exact freeslot_maxR _ _ _ sc rs hs h sc sc' hs hs'

theorem MaxR.of_block {G : String → Prop} {c c2 c3 : CState} (hI : ShpI G c) (a : ShpR G (pushScope c false false false false) c2)
    (hpop : popScope c2 = some c3 ∨ ∃ r, popScopeKeep c2 r = some c3) (rs : List Scope) : MaxR c c3 rs := by
  obtain ⟨sc, rs0, sc3, hs, hs3, _, _, _, _, hmax⟩ := a.block_out hI hpop
  exact fun sc1 sc1' h1 h1' => by
    rw [hs] at h1; rw [hs3] at h1'
    rw [← (List.cons.inj h1).1, ← (List.cons.inj h1').1]; exact hmax

theorem maxr_rides (G : String → Prop) :
    Rides (fun n => ¬ G n) (ShpI G) SlotSh (ShpR G) (fun _ => True) (fun _ => True) (fun c c' => ∀ rs, MaxR c c' rs) where
  refl _ _ := MaxR.refl _
  trans {a b c} hI _ _ rbc h1 h2 := fun rs sc sc' hs hs' => by
    obtain ⟨_, _, scb, rsb, pool, ps, hsb, hpb⟩ := hI
    obtain ⟨scc, _, hsc, _⟩ := (rbc scb rsb pool ps hsb hpb).out
    rw [hsc] at hs'
    have e : rsb = rs := (List.cons.inj hs').2
    rw [e] at hsb
    exact (h1 rs).trans hsb (h2 rs) sc sc' hs (by rw [hsc, e, (List.cons.inj hs').1])
  inv _ _ _ _ := trivial
  icur _ := trivial
  curB _ _ _ h := h
  resolve hI _ h := ⟨fun _ => MaxR.of_eq (resolve_kept hI.1 h).1, trivial⟩
  const _ _ := fun _ => MaxR.of_eq (constSlot_kept _ _).1
  kconst := trivial
  emit hI _ hW h := MaxR.of_alloc hI (.emit hW h)
  raw _ _ _ := fun _ => MaxR.of_eq rfl
  far hI _ h := ⟨MaxR.of_alloc hI (.far h), trivial⟩
  free hI _ _ _ h := MaxR.of_alloc hI (.free h)
  name {c n s d} _ _ _ _ _ _ _ := fun rs sc sc' hs hs' => MaxR.of_ra hs (nameslot_scopes c n s sc rs hs) (Nat.le_refl _) sc sc' hs hs'
  push _ _ := trivial
  block hI _ a _ h := MaxR.of_block hI a h
  throw hI _ a _ hpop := fun _ => MaxR.of_eq (a.throw_out hI hpop).1
  patch _ _ _ h _ _ := h

theorem shpmax_closed (G : String → Prop) :
    Closed (fun n => ¬ G n) (ShpI G) SlotSh (fun c c' => ShpR G c c' ∧ ∀ rs, MaxR c c' rs) := by
  simpa only [and_true] using (shp_closed G).and (maxr_rides G) SlotSh.not_up

theorem tf_shape_max (G : String → Prop) (b : Bool) (fuel : Nat) (e : Expr) (opts : Fopts) (c c' : CState) (slot : JSlot) (sc : Scope)
    (rs : List Scope) (pool : List KConst) (ps : List (List KConst)) (hs : c.scopes = sc :: rs)
    (hp : c.pools = pool :: ps) (hm : c.map.length = c.buf.length) (hT : TF G b e) (hL : LkL G c.scopes)
    (hc : cValue fuel opts e c = some (slot, c')) : Shp G c c' sc rs pool ps ∧ MaxR c c' rs ∧ (opts.tail = false → opts.hint = none → SlotSh slot) :=
  have h := tf_closed (shpmax_closed G) b fuel e opts c c' slot hT (ShpI.mk' hL hm hs hp) hc
  ⟨h.1.1 sc rs pool ps hs hp, h.1.2 rs, h.2⟩

theorem doBody_shape_max (G : String → Prop) (b : Bool) (fuel : Nat) (body : List Expr) (hT : ∀ e, e ∈ body → TF G b e) (opts : Fopts)
    (c c' : CState) (slot : JSlot) (sc : Scope) (rs : List Scope) (pool : List KConst) (ps : List (List KConst))
    (hs : c.scopes = sc :: rs) (hp : c.pools = pool :: ps) (hm : c.map.length = c.buf.length)
    (hL : LkL G c.scopes) (hc : doBody (cValue fuel) opts body c = some (slot, c')) :
    Shp G c c' sc rs pool ps ∧ MaxR c c' rs ∧ (opts.tail = false → opts.hint = none → SlotSh slot) :=
  have h := doBody_closed (shpmax_closed G) fuel (tf_closed (shpmax_closed G) b fuel) body hT opts c c' slot
    (ShpI.mk' hL hm hs hp) hc
  ⟨h.1.1 sc rs pool ps hs hp, h.1.2 rs, h.2⟩

theorem toSlots_shape_max (G : String → Prop) (b : Bool) (fuel : Nat) (args : List Expr) (hT : ∀ a, a ∈ args → TF G b a)
    (c c' : CState) (slots : List JSlot) (sc : Scope) (rs : List Scope) (pool : List KConst) (ps : List (List KConst))
    (hs : c.scopes = sc :: rs) (hp : c.pools = pool :: ps) (hm : c.map.length = c.buf.length) (hL : LkL G c.scopes)
    (hc : toSlots (cValue fuel) args c = some (slots, c')) : Shp G c c' sc rs pool ps ∧ MaxR c c' rs ∧ ∀ s, s ∈ slots → SlotSh s :=
  have h := toSlots_closed (shpmax_closed G) fuel (tf_closed (shpmax_closed G) b fuel) args hT c c' slots (ShpI.mk' hL hm hs hp) hc
  ⟨h.1.1 sc rs pool ps hs hp, h.1.2 rs, h.2⟩

theorem cDo_shape_max (G : String → Prop) (b : Bool) (fuel : Nat) (body : List Expr) (hT : ∀ e, e ∈ body → TF G b e) (opts : Fopts)
    (c c' : CState) (slot : JSlot) (sc : Scope) (rs : List Scope) (pool : List KConst) (ps : List (List KConst))
    (hs : c.scopes = sc :: rs) (hp : c.pools = pool :: ps) (hm : c.map.length = c.buf.length)
    (hL : LkL G c.scopes) (hc : cDo (cValue fuel) opts body c = some (slot, c')) :
    Shp G c c' sc rs pool ps ∧ MaxR c c' rs ∧ (opts.tail = false → opts.hint = none → SlotSh slot) :=
  have h := cDo_closed (shpmax_closed G) fuel (tf_closed (shpmax_closed G) b fuel) body hT opts c c' slot (ShpI.mk' hL hm hs hp) hc
  ⟨h.1.1 sc rs pool ps hs hp, h.1.2 rs, h.2⟩

theorem cDef_shape_max (G : String → Prop) (b : Bool) (fuel : Nat) (x : String) (ve : Expr) (hGx : ¬ G x) (hTv : TF G b ve)
    (c c' : CState) (slot : JSlot) (sc : Scope) (rs : List Scope) (pool : List KConst) (ps : List (List KConst))
    (hs : c.scopes = sc :: rs) (hp : c.pools = pool :: ps) (hm : c.map.length = c.buf.length) (hL : LkL G c.scopes)
    (hc : cDef (cValue fuel) x ve c = some (slot, c')) : Shp G c c' sc rs pool ps ∧ MaxR c c' rs ∧ SlotSh slot :=
  have h := cDef_closed (shpmax_closed G) fuel (tf_closed (shpmax_closed G) b fuel) x ve hGx hTv c c' slot (ShpI.mk' hL hm hs hp) hc
  ⟨h.1.1 sc rs pool ps hs hp, h.1.2 rs, h.2⟩

theorem cCall_shape_max (G : String → Prop) (b : Bool) (fuel : Nat) (f : String) (args : List Expr) (hTa : ∀ a, a ∈ args → TF G b a)
    (opts : Fopts) (c c' : CState) (slot : JSlot) (sc : Scope) (rs : List Scope) (pool : List KConst) (ps : List (List KConst))
    (hs : c.scopes = sc :: rs) (hp : c.pools = pool :: ps) (hm : c.map.length = c.buf.length) (hL : LkL G c.scopes)
    (hc : cCall (cValue fuel) opts (.sym f) args c = some (slot, c')) :
    Shp G c c' sc rs pool ps ∧ MaxR c c' rs ∧ (opts.tail = false → opts.hint = none → SlotSh slot) :=
  have h := cCall_closed (shpmax_closed G) fuel (tf_closed (shpmax_closed G) b fuel) f args hTa opts (.sym f) c c' slot
    (ShpI.mk' hL hm hs hp) hc
  ⟨h.1.2.1 sc rs pool ps hs hp, h.1.2.2 rs, h.2⟩

theorem cIfBodyT_shape_max (G : String → Prop) (b : Bool) (fuel : Nat) (cnd tb fb : Expr) (hTc : TF G b cnd) (hTt : TF G b tb) (hTf : TF G b fb)
    (opts : Fopts) (c c' : CState) (slot : JSlot) (sc : Scope) (rs : List Scope) (pool : List KConst) (ps : List (List KConst))
    (hs : c.scopes = sc :: rs) (hp : c.pools = pool :: ps) (hm : c.map.length = c.buf.length) (hL : LkL G c.scopes)
    (hc : cIfBodyT (cValue fuel) opts cnd tb fb c = some (slot, c')) : Shp G c c' sc rs pool ps ∧ MaxR c c' rs :=
  have h := cIfBodyT_closed (shpmax_closed G) fuel (tf_closed (shpmax_closed G) b fuel) opts cnd tb fb hTc hTt hTf c c' slot
    (ShpI.mk' hL hm hs hp) hc
  ⟨h.1 sc rs pool ps hs hp, h.2 rs⟩

theorem tf_max (G : String → Prop) (b : Bool) (fuel : Nat) (e : Expr) (opts : Fopts) (c c' : CState) (slot : JSlot) (sc : Scope) (rs : List Scope)
    (pool : List KConst) (ps : List (List KConst)) (hs : c.scopes = sc :: rs)
    (hp : c.pools = pool :: ps) (hm : c.map.length = c.buf.length) (hT : TF G b e) (hL : LkL G c.scopes)
    (hc : cValue fuel opts e c = some (slot, c')) : MaxR c c' rs :=
  (tf_shape_max G b fuel e opts c c' slot sc rs pool ps hs hp hm hT hL hc).2.1

theorem tf_maxM (G : String → Prop) (b : Bool) (fuel : Nat) (e : Expr) (opts : Fopts) (c c' : CState) (slot : JSlot) (sc sc' : Scope) (rs : List Scope)
    (pool : List KConst) (ps : List (List KConst))
    (ht : opts.tail = false) (hh : opts.hint = none) (hs : c.scopes = sc :: rs) (hp : c.pools = pool :: ps) (htop : sc.top = false)
    (hm : c.map.length = c.buf.length) (hT : TF G b e) (hL : LkL G c.scopes) (hc : cValue fuel opts e c = some (slot, c'))
    (hs' : c'.scopes = sc' :: rs) : sc.ra.max ≤ sc'.ra.max :=
  tf_max G b fuel e opts c c' slot sc rs pool ps hs hp hm hT hL hc sc sc' hs hs'

theorem branch_maxT (G : String → Prop) (fuel : Nat) (b : Bool) (x : Expr) (hx : TF G b x)
    (opts : Fopts) (ht : opts.tail = true) (hh : opts.hint = none)
    (c c6 c8 : CState) (left : JSlot) (sc : Scope) (rs : List Scope) (pool : List KConst) (ps : List (List KConst))
    (hs : c.scopes = sc :: rs) (hp : c.pools = pool :: ps) (hm : c.map.length = c.buf.length) (hL : LkL G c.scopes)
    (h1 : cValue fuel opts x (pushScope c false false false false) = some (left, c6)) (h3 : popScope c6 = some c8) : MaxR c c8 rs :=
  (branch_closed (shpmax_closed G) fuel (tf_closed (shpmax_closed G) b fuel) x hx opts true (cslot .nil) left c c6 c6 c8
    (ShpI.mk' hL hm hs hp) h1 rfl h3).2 rs

theorem tf_maxT (G : String → Prop) (b : Bool) (fuel : Nat) (e : Expr) (opts : Fopts) (c c' : CState) (slot : JSlot) (sc sc' : Scope) (rs : List Scope)
    (pool : List KConst) (ps : List (List KConst))
    (ht : opts.tail = true) (hh : opts.hint = none) (hs : c.scopes = sc :: rs) (hp : c.pools = pool :: ps) (htop : sc.top = false)
    (hm : c.map.length = c.buf.length) (hT : TF G b e) (hL : LkL G c.scopes) (hc : cValue fuel opts e c = some (slot, c'))
    (hs' : c'.scopes = sc' :: rs) : sc.ra.max ≤ sc'.ra.max :=
  tf_max G b fuel e opts c c' slot sc rs pool ps hs hp hm hT hL hc sc sc' hs hs'

end JanetModel.Compile
