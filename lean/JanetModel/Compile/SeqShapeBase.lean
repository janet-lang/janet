/- C02: what one compile step does to the compiler state (no semantics, no VM): code / map only appended, pool of the current
   function only appended, value table only extended, only the innermost scope's allocator (`StepR`) and, by appending, its symbols
   (`Shp`) changed.  The steps of the shape relation `tf_shape` (Compile/SeqShapeM.lean). -/
import JanetModel.Compile.EmitW
import JanetModel.Compile.SeqDo
namespace JanetModel.Compile
open JanetModel.Emit JanetModel.Lang JanetModel.Bytecode.Exec JanetModel.Gen.Bytecode

/-- compile-time invariant of the shape theorem: every resolvable name is a plain named local found without crossing a
    function scope; names used as global functions are not bound -/
def LkL (G : String → Prop) (scs : List Scope) : Prop :=
  (∀ f, G f → lk scs f = none) ∧
  ∀ x slot u l, lk scs x = some (slot, u, l) → l = true ∧ slot.cflag = false ∧ (∃ r, slot.k = .loc r) ∧ slot.named = true

theorem EnvS.lkl {G : String → Prop} {scs : List Scope} {env : Env} {nb : Nat} {ra : RA} (h : EnvS G scs env nb ra) : LkL G scs := by
  refine ⟨h.1, fun x slot u l hx => ?_⟩
  obtain ⟨a1, a2, a3, r, _, a4, _⟩ := h.found hx
  exact ⟨a1, a3, ⟨r, a4⟩, a2⟩

theorem LkL.of_lk {G : String → Prop} {scs scs' : List Scope} (h : LkL G scs) (hlk : ∀ x, lk scs' x = lk scs x) : LkL G scs' :=
  ⟨fun f hf => by rw [hlk]; exact h.1 f hf, fun x slot u l hx => h.2 x slot u l (by rw [← hlk]; exact hx)⟩

theorem globalSlot_cases (c : CState) (x : String) : globalSlot c x = none ∨ globalSlot c x = some (constSlot c (.cfun x)) := by
  unfold globalSlot
  split
  · exact Or.inr rfl
  · exact Or.inr rfl
  · exact Or.inl rfl

/-- `janetc_resolve` when every name is a plain local: a global constant, or the local's slot and nothing changed -/
theorem resolve_lkl {G : String → Prop} {c c' : CState} {x : String} {sl : JSlot} (hL : LkL G c.scopes) (h : resolve c x = some (sl, c')) :
    (lk c.scopes x = none ∧ sl = (constSlot c (.cfun x)).1 ∧ c' = (constSlot c (.cfun x)).2) ∨
    (c' = c ∧ sl.cflag = false ∧ (∃ r, sl.k = .loc r) ∧ sl.named = true ∧ ∃ u, lk c.scopes x = some (sl, u, true)) := by
  cases hlk : lk c.scopes x with
  | none =>
    rw [resolve_global c x (by rw [lookupSlot_lk]; exact hlk)] at h
    rcases globalSlot_cases c x with hg | hg
    · rw [hg] at h; cases h
    · rw [hg] at h
      simp only [Option.some.injEq] at h
      exact Or.inl ⟨rfl, by rw [h], by rw [h]⟩
  | some r =>
    obtain ⟨sl0, u, l⟩ := r
    obtain ⟨hl, hcf, hk, hn⟩ := hL.2 x sl0 u l hlk
    subst hl
    rw [resolve_local c x sl0 u (by rw [lookupSlot_lk]; exact hlk) hcf] at h
    simp only [Option.some.injEq, Prod.mk.injEq] at h
    rw [← h.1, ← h.2]
    exact Or.inr ⟨rfl, hcf, hk, hn, u, rfl⟩

/-- the `unused` flag seen so far only shows in the `unused` component of the answer -/
theorem lookupR_u (x : String) : ∀ (l : List Scope) (u lc : Bool),
    lookupR x l u lc = (lookupR x l false lc).map (fun r => (r.1, u || r.2.1, r.2.2))
  | [], _, _ => rfl
  | sc :: rest, u, lc => by
    simp only [lookupR]
    cases hf : findSym sc.syms x with
    | some i => simp
    | none =>
      simp only []
      rw [lookupR_u x rest (u || sc.unused), lookupR_u x rest (false || sc.unused)]
      cases lookupR x rest false (lc && !sc.fn) <;> simp [Bool.or_assoc]

/-- the block scope `janetc_scope` pushes (flags: not a function, not a loop, not top) -/
def blk (c : CState) (sc : Scope) (un : Bool) : Scope :=
  { unused := un, ra := { alloc := sc.ra.alloc, max := sc.ra.max }, start := c.buf.length }

theorem pushScope_blk (c : CState) (sc : Scope) (rs : List Scope) (un : Bool) (hs : c.scopes = sc :: rs) :
    pushScope c false false false un = { c with scopes := blk c sc un :: sc :: rs } := by
  simp [pushScope, hs, blk]

/-- `janetc_scope` for a block: the names resolve to the same slots; only the `unused` flag of the answer may be set -/
theorem lk_push_u (nw : Scope) (l : List Scope) (h1 : nw.syms = []) (h3 : nw.fn = false) (x : String) :
    lk (nw :: l) x = (lk l x).map (fun r => (r.1, nw.unused || r.2.1, r.2.2)) := by
  have hf : findSym nw.syms x = none := by rw [h1]; rfl
  simp only [lk, lookupR, hf, h3, Bool.false_or, Bool.not_false, Bool.and_true]
  exact lookupR_u x l nw.unused true

theorem LkL.push {G : String → Prop} {l : List Scope} (h : LkL G l) (nw : Scope) (h1 : nw.syms = []) (h3 : nw.fn = false) : LkL G (nw :: l) := by
  have e := lk_push_u nw l h1 h3
  refine ⟨fun f hf' => by rw [e, h.1 f hf']; rfl, fun x slot u lc hx => ?_⟩
  rw [e] at hx
  cases hh : lk l x with
  | none => rw [hh] at hx; exact absurd hx (by simp)
  | some r =>
    obtain ⟨s0, u0, l0⟩ := r
    rw [hh] at hx
    simp only [Option.map_some, Option.some.injEq, Prod.mk.injEq] at hx
    obtain ⟨e1, _, e3⟩ := hx
    subst e1 e3
    exact h.2 x s0 u0 l0 hh

/-- a compile step that changes only the innermost allocator, appends to the pool, the code and the map -/
def StepR (c c' : CState) (sc : Scope) (rs : List Scope) (pool : List KConst) (ps : List (List KConst)) : Prop :=
  ∃ (ra' : RA) (more : List KConst) (seg : List CI) (segm : List Pos),
    c' = { c with scopes := { sc with ra := ra' } :: rs, pools := (pool ++ more) :: ps, buf := c.buf ++ seg, map := c.map ++ segm } ∧
    segm.length = seg.length

theorem StepR.of_ra (c : CState) (sc : Scope) (rs : List Scope) (pool : List KConst) (ps : List (List KConst))
    (hp : c.pools = pool :: ps) (ra : RA) : StepR c { c with scopes := { sc with ra := ra } :: rs } sc rs pool ps :=
  ⟨ra, [], [], [], by simp [← hp], rfl⟩

theorem StepR.refl (c : CState) (sc : Scope) (rs : List Scope) (pool : List KConst) (ps : List (List KConst))
    (hs : c.scopes = sc :: rs) (hp : c.pools = pool :: ps) : StepR c c sc rs pool ps := by
  have := StepR.of_ra c sc rs pool ps hp sc.ra
  rw [← cstate_scopes_eta c sc rs hs] at this
  exact this

theorem StepR.trans {c c1 c2 : CState} {sc : Scope} {rs : List Scope} {pool : List KConst} {ps : List (List KConst)}
    (h1 : StepR c c1 sc rs pool ps)
    (h2 : ∀ sc1 pool1, c1.scopes = sc1 :: rs → c1.pools = pool1 :: ps → StepR c1 c2 sc1 rs pool1 ps) : StepR c c2 sc rs pool ps := by
  obtain ⟨ra1, more1, seg1, segm1, hc1, hl1⟩ := h1
  obtain ⟨ra2, more2, seg2, segm2, hc2, hl2⟩ := h2 { sc with ra := ra1 } (pool ++ more1) (by rw [hc1]) (by rw [hc1])
  refine ⟨ra2, more1 ++ more2, seg1 ++ seg2, segm1 ++ segm2, ?_, by simp [hl1, hl2]⟩
  rw [hc2, hc1]
  simp [List.append_assoc]

theorem emitW_some (c c' : CState) (f : Emit.C → Emit.C) (h : emitW c f = some c') :
    ∃ sc rs pool ps, c.scopes = sc :: rs ∧ c.pools = pool :: ps := by
  cases hsc : c.scopes with
  | nil => simp [emitW, hsc] at h
  | cons sc rs =>
    cases hpl : c.pools with
    | nil => simp [emitW, hsc, hpl] at h
    | cons pool ps => exact ⟨sc, rs, pool, ps, rfl, rfl⟩

theorem emitW_stepR (c c' : CState) (f : Emit.C → Emit.C) (sc : Scope) (rs : List Scope) (pool : List KConst) (ps : List (List KConst))
    (hs : c.scopes = sc :: rs) (hp : c.pools = pool :: ps) (hpre : PrefL pool (f { ra := sc.ra, buf := [], consts := pool }).consts)
    (h : emitW c f = some c') : StepR c c' sc rs pool ps := by
  obtain ⟨_, hc'⟩ := emitW_spec c c' f sc rs pool ps hs hp h
  obtain ⟨m, hm⟩ := hpre
  exact ⟨_, m, _, _, by rw [hc', hm], by simp⟩

theorem emitS_stepR (c c' : CState) (op : Op) (s : JSlot) (wr : Bool) (sc : Scope) (rs : List Scope) (pool : List KConst) (ps : List (List KConst))
    (hs : c.scopes = sc :: rs) (hp : c.pools = pool :: ps) (h : emitS c op s wr = some c') : StepR c c' sc rs pool ps :=
  emitW_stepR c c' _ sc rs pool ps hs hp (by rw [W_emitS_consts]; exact foldl_intern_pref _ _) h

theorem emitSS_stepR (c c' : CState) (op : Op) (s1 s2 : JSlot) (wr : Bool) (sc : Scope) (rs : List Scope) (pool : List KConst) (ps : List (List KConst))
    (hs : c.scopes = sc :: rs) (hp : c.pools = pool :: ps) (h : emitSS c op s1 s2 wr = some c') : StepR c c' sc rs pool ps :=
  emitW_stepR c c' _ sc rs pool ps hs hp (by rw [W_emitSS_consts]; exact foldl_intern_pref _ _) h

theorem emitSSS_stepR (c c' : CState) (op : Op) (s1 s2 s3 : JSlot) (wr : Bool) (sc : Scope) (rs : List Scope) (pool : List KConst) (ps : List (List KConst))
    (hs : c.scopes = sc :: rs) (hp : c.pools = pool :: ps) (h : emitSSS c op s1 s2 s3 wr = some c') : StepR c c' sc rs pool ps :=
  emitW_stepR c c' _ sc rs pool ps hs hp (by rw [W_emitSSS_consts]; exact foldl_intern_pref _ _) h

/-- `emit1s`: at least the payload is emitted -/
theorem emitSI_stepR (c c' : CState) (op : Op) (s : JSlot) (imm : Nat) (wr : Bool) (sc : Scope) (rs : List Scope) (pool : List KConst) (ps : List (List KConst))
    (hs : c.scopes = sc :: rs) (hp : c.pools = pool :: ps) (h : emitSI c op s imm wr = some c') :
    StepR c c' sc rs pool ps ∧ c.buf.length + 1 ≤ c'.buf.length := by
  refine ⟨emitW_stepR c c' _ sc rs pool ps hs hp (by rw [(W_emitSI_consts _ _ _ _ _).1]; exact foldl_intern_pref _ _) h, ?_⟩
  obtain ⟨_, hc'⟩ := emitW_spec c c' _ sc rs pool ps hs hp h
  have := (W_emitSI_consts { ra := sc.ra, buf := [], consts := pool } op.toNat wr s.k imm).2
  rw [hc']
  simp only [List.length_append, List.length_map]
  omega

theorem emitSI_len (c c' : CState) (op : Op) (s : JSlot) (imm : Nat) (wr : Bool) (h : emitSI c op s imm wr = some c') :
    c.buf.length + 1 ≤ c'.buf.length := by
  obtain ⟨sc, rs, pool, ps, hs, hp⟩ := emitW_some c c' _ h
  exact (emitSI_stepR c c' op s imm wr sc rs pool ps hs hp h).2

theorem emitW_marks (c c' : CState) (f : Emit.C → Emit.C) (sc : Scope) (rs : List Scope) (hs : c.scopes = sc :: rs)
    (hf : ∀ pool, RSub sc.ra (f { ra := sc.ra, buf := [], consts := pool }).ra) (h : emitW c f = some c') :
    ∃ sc', c'.scopes = sc' :: rs ∧ RSub sc.ra sc'.ra := by
  obtain ⟨_, _, pool, ps, _, hp⟩ := emitW_some c c' f h
  obtain ⟨_, hc'⟩ := emitW_spec c c' f sc rs pool ps hs hp h
  exact ⟨{ sc with ra := (f { ra := sc.ra, buf := [], consts := pool }).ra }, by rw [hc'], hf pool⟩

theorem emitSI_marks (c c' : CState) (op : Op) (s : JSlot) (imm : Nat) (wr : Bool) (sc : Scope) (rs : List Scope) (hs : c.scopes = sc :: rs)
    (h : emitSI c op s imm wr = some c') : ∃ sc', c'.scopes = sc' :: rs ∧ RSub sc.ra sc'.ra :=
  emitW_marks c c' _ sc rs hs (fun pool => W_emitSI_rsub { ra := sc.ra, buf := [], consts := pool } op.toNat wr s.k imm) h

/-- `janetc_farslot`: first fit in the innermost scope -/
theorem farslot_inv (c c1 : CState) (ls : JSlot) (sc : Scope) (rs : List Scope) (hs : c.scopes = sc :: rs)
    (h : farslot c = some (ls, c1)) :
    sc.ra.alloc1.1 < c.lim ∧ ls = { k := .loc sc.ra.alloc1.1 } ∧ c1 = { c with scopes := { sc with ra := sc.ra.alloc1.2 } :: rs } := by
  simp only [farslot, allocFar, hs] at h
  split at h
  · exact absurd h (by simp)
  · rename_i hlt
    simp only [Option.bind_eq_bind, Option.bind_some, Option.pure_def, Option.some.injEq, Prod.mk.injEq] at h
    exact ⟨Nat.lt_of_not_le hlt, h.1.symm, h.2.symm⟩

theorem copySlot_stepR (c c' : CState) (dest src : JSlot) (sc : Scope) (rs : List Scope) (pool : List KConst) (ps : List (List KConst))
    (hs : c.scopes = sc :: rs) (hp : c.pools = pool :: ps) (h : copySlot c dest src = some c') : StepR c c' sc rs pool ps := by
  unfold copySlot at h
  split at h
  · exact absurd h (by simp)
  · split at h
    · exact absurd h (by simp)
    · exact emitW_stepR c c' _ sc rs pool ps hs hp (W_copy_consts _ _ _) h

theorem freeslot_stepR (c c' : CState) (s : JSlot) (sc : Scope) (rs : List Scope) (pool : List KConst) (ps : List (List KConst))
    (hs : c.scopes = sc :: rs) (hp : c.pools = pool :: ps) (h : freeslot c s = some c') : StepR c c' sc rs pool ps := by
  unfold freeslot at h
  split at h
  · rw [← Option.some.inj h]; exact StepR.refl c sc rs pool ps hs hp
  · split at h
    · rw [← Option.some.inj h]; exact StepR.refl c sc rs pool ps hs hp
    · rw [hs] at h
      simp only [Option.some.injEq] at h
      rw [← h]
      exact StepR.of_ra c sc rs pool ps hp _
    · exact absurd h (by simp)

theorem freeslots_stepR : ∀ (ss : List JSlot) (c c' : CState) (sc : Scope) (rs : List Scope) (pool : List KConst) (ps : List (List KConst)),
    c.scopes = sc :: rs → c.pools = pool :: ps → freeslots c ss = some c' → StepR c c' sc rs pool ps
  | [], c, c', sc, rs, pool, ps, hs, hp, h => by
    simp only [freeslots, Option.some.injEq] at h
    rw [← h]; exact StepR.refl c sc rs pool ps hs hp
  | s :: ss, c, c', sc, rs, pool, ps, hs, hp, h => by
    simp only [freeslots, Option.bind_eq_bind, Option.bind_eq_some_iff] at h
    obtain ⟨c1, h1, h2⟩ := h
    exact (freeslot_stepR c c1 s sc rs pool ps hs hp h1).trans (fun sc1 pool1 hs1 hp1 => freeslots_stepR ss c1 c' sc1 rs pool1 ps hs1 hp1 h2)

theorem getTarget_stepR (c c' : CState) (opts : Fopts) (t : JSlot) (hh : opts.hint = none) (sc : Scope) (rs : List Scope) (pool : List KConst) (ps : List (List KConst))
    (hs : c.scopes = sc :: rs) (hp : c.pools = pool :: ps) (h : getTarget c opts = some (t, c')) : StepR c c' sc rs pool ps := by
  simp only [getTarget, hh, allocFar, hs] at h
  split at h
  · exact absurd h (by simp)
  · simp only [Option.bind_eq_bind, Option.bind_some, Option.pure_def, Option.some.injEq, Prod.mk.injEq] at h
    rw [← h.2]
    exact StepR.of_ra c sc rs pool ps hp _

theorem emitRaw_stepR (c : CState) (i : CI) (sc : Scope) (rs : List Scope) (pool : List KConst) (ps : List (List KConst))
    (hs : c.scopes = sc :: rs) (hp : c.pools = pool :: ps) : StepR c (emitRaw c i) sc rs pool ps := by
  refine ⟨sc.ra, [], [i], [c.cur], ?_, rfl⟩
  simp only [emitRaw, List.append_nil, ← hp]
  conv => lhs; rw [cstate_scopes_eta c sc rs hs]

theorem pushSlots_stepR : ∀ (ss : List JSlot) (c c' : CState) (sc : Scope) (rs : List Scope) (pool : List KConst) (ps : List (List KConst)),
    c.scopes = sc :: rs → c.pools = pool :: ps → pushSlots c ss = some c' → StepR c c' sc rs pool ps
  | [], c, c', sc, rs, pool, ps, hs, hp, h => by
    simp only [pushSlots, Option.some.injEq] at h
    rw [← h]; exact StepR.refl c sc rs pool ps hs hp
  | [a], c, c', sc, rs, pool, ps, hs, hp, h => by
    simp only [pushSlots] at h
    exact emitS_stepR c c' _ a false sc rs pool ps hs hp h
  | [a, b], c, c', sc, rs, pool, ps, hs, hp, h => by
    simp only [pushSlots] at h
    exact emitSS_stepR c c' _ a b false sc rs pool ps hs hp h
  | a :: b :: d :: rest, c, c', sc, rs, pool, ps, hs, hp, h => by
    simp only [pushSlots, Option.bind_eq_bind, Option.bind_eq_some_iff] at h
    obtain ⟨c1, h1, h2⟩ := h
    exact (emitSSS_stepR c c1 _ a b d false sc rs pool ps hs hp h1).trans
      (fun sc1 pool1 hs1 hp1 => pushSlots_stepR rest c1 c' sc1 rs pool1 ps hs1 hp1 h2)

/-- what compiling a form does to the compiler state -/
def Shp (G : String → Prop) (c c' : CState) (sc : Scope) (rs : List Scope) (pool : List KConst) (ps : List (List KConst)) : Prop :=
  ∃ (ra' : RA) (nsyms : List SymPair) (more : List KConst) (seg : List CI) (segm : List Pos),
    c' = { c with scopes := { sc with ra := ra', syms := sc.syms ++ nsyms } :: rs, pools := (pool ++ more) :: ps, buf := c.buf ++ seg,
                  map := c.map ++ segm, vals := c'.vals } ∧
    PrefA c.vals c'.vals ∧ LkL G c'.scopes ∧ segm.length = seg.length

theorem StepR.shp {G : String → Prop} {c c' : CState} {sc : Scope} {rs : List Scope} {pool : List KConst} {ps : List (List KConst)}
    (hs : c.scopes = sc :: rs) (hL : LkL G c.scopes) (h : StepR c c' sc rs pool ps) : Shp G c c' sc rs pool ps := by
  obtain ⟨ra', more, seg, segm, hc, hl⟩ := h
  refine ⟨ra', [], more, seg, segm, ?_, ?_, ?_, hl⟩
  · rw [hc]; simp
  · rw [hc]; exact PrefA.refl _
  · refine hL.of_lk (fun x => ?_)
    rw [hc, hs]; rfl

theorem Shp.refl {G : String → Prop} {c : CState} {sc : Scope} {rs : List Scope} {pool : List KConst} {ps : List (List KConst)}
    (hs : c.scopes = sc :: rs) (hp : c.pools = pool :: ps) (hL : LkL G c.scopes) : Shp G c c sc rs pool ps :=
  (StepR.refl c sc rs pool ps hs hp).shp hs hL

theorem Shp.mapLen {G : String → Prop} {c c' : CState} {sc : Scope} {rs : List Scope} {pool : List KConst} {ps : List (List KConst)}
    (h : Shp G c c' sc rs pool ps) (hm : c.map.length = c.buf.length) : c'.map.length = c'.buf.length := by
  obtain ⟨ra', ns, more, seg, segm, hc, _, _, hl⟩ := h
  rw [hc]; simp [hm, hl]

theorem Shp.trans {G : String → Prop} {c c1 c2 : CState} {sc : Scope} {rs : List Scope} {pool : List KConst} {ps : List (List KConst)}
    (h1 : Shp G c c1 sc rs pool ps)
    (h2 : ∀ sc1 pool1, c1.scopes = sc1 :: rs → c1.pools = pool1 :: ps → sc1.top = sc.top → LkL G c1.scopes →
          Shp G c1 c2 sc1 rs pool1 ps) : Shp G c c2 sc rs pool ps := by
  obtain ⟨ra1, ns1, more1, seg1, segm1, hc1, pv1, lk1, hl1⟩ := h1
  obtain ⟨ra2, ns2, more2, seg2, segm2, hc2, pv2, lk2, hl2⟩ :=
    h2 { sc with ra := ra1, syms := sc.syms ++ ns1 } (pool ++ more1) (by rw [hc1]) (by rw [hc1]) rfl lk1
  refine ⟨ra2, ns1 ++ ns2, more1 ++ more2, seg1 ++ seg2, segm1 ++ segm2, ?_, PrefA.trans pv1 pv2, lk2, by simp [hl1, hl2]⟩
  rw [hc2, hc1]
  simp [List.append_assoc]

theorem Shp.thenR {G : String → Prop} {c c1 c2 : CState} {sc : Scope} {rs : List Scope} {pool : List KConst} {ps : List (List KConst)}
    (h1 : Shp G c c1 sc rs pool ps)
    (h2 : ∀ sc1 pool1, c1.scopes = sc1 :: rs → c1.pools = pool1 :: ps → StepR c1 c2 sc1 rs pool1 ps) : Shp G c c2 sc rs pool ps :=
  h1.trans (fun sc1 pool1 hs1 hp1 _ hL1 => (h2 sc1 pool1 hs1 hp1).shp hs1 hL1)

theorem StepR.mapLen {c c' : CState} {sc : Scope} {rs : List Scope} {pool : List KConst} {ps : List (List KConst)}
    (h : StepR c c' sc rs pool ps) (hm : c.map.length = c.buf.length) : c'.map.length = c'.buf.length := by
  obtain ⟨ra', more, seg, segm, hc, hl⟩ := h
  rw [hc]; simp [hm, hl]

/-- the mapping cursor does not matter -/
theorem Shp.recur {G : String → Prop} {c c1 : CState} {q : Pos} {sc : Scope} {rs : List Scope} {pool : List KConst} {ps : List (List KConst)}
    (h : Shp G { c with cur := q } c1 sc rs pool ps) : Shp G c { c1 with cur := c.cur } sc rs pool ps := by
  obtain ⟨ra', nsyms, more, seg, segm, hc, h2⟩ := h
  refine ⟨ra', nsyms, more, seg, segm, ?_, h2⟩
  conv => lhs; rw [hc]

theorem kOf_shape (c : CState) (v : Value) : (kOf c v).2 = { c with vals := (kOf c v).2.vals } ∧ PrefA c.vals (kOf c v).2.vals := by
  unfold kOf
  split
  · exact ⟨rfl, PrefA.refl _⟩
  · exact ⟨rfl, PrefA.refl _⟩
  · exact ⟨rfl, PrefA.refl _⟩
  · split
    · exact ⟨rfl, PrefA.refl _⟩
    · split
      · exact ⟨rfl, PrefA.refl _⟩
      · exact ⟨rfl, PrefA.push _ _⟩
  · split
    · exact ⟨rfl, PrefA.refl _⟩
    · exact ⟨rfl, PrefA.push _ _⟩

theorem constSlot_shape (G : String → Prop) (c : CState) (v : Value) (sc : Scope) (rs : List Scope) (pool : List KConst) (ps : List (List KConst))
    (hs : c.scopes = sc :: rs) (hp : c.pools = pool :: ps) (hL : LkL G c.scopes) : Shp G c (constSlot c v).2 sc rs pool ps := by
  obtain ⟨h1, h2⟩ := kOf_shape c v
  have hsc : (constSlot c v).2.scopes = c.scopes := by
    show (kOf c v).2.scopes = _
    rw [h1]
  refine ⟨sc.ra, [], [], [], [], ?_, h2, by rw [hsc]; exact hL, rfl⟩
  show (kOf c v).2 = _
  conv => lhs; rw [h1]
  simp [hs, hp]
  rfl

theorem constSlot_kept (c : CState) (v : Value) : (constSlot c v).2.scopes = c.scopes ∧ (constSlot c v).2.lim = c.lim := by
  have h := (kOf_shape c v).1
  exact ⟨by show (kOf c v).2.scopes = _; rw [h], by show (kOf c v).2.lim = _; rw [h]⟩

/-- `janetc_resolve` when every name is a plain local: scopes and limit stay; the slot is a constant or what the name resolves to -/
theorem resolve_kept {G : String → Prop} {c c' : CState} {x : String} {sl : JSlot} (hL : LkL G c.scopes) (h : resolve c x = some (sl, c')) :
    c'.scopes = c.scopes ∧ c'.lim = c.lim ∧
      ((∃ kc, sl = cslot kc) ∨ (sl.cflag = false ∧ (∃ r, sl.k = .loc r) ∧ sl.named = true ∧ ∃ u, lk c.scopes x = some (sl, u, true))) := by
  rcases resolve_lkl hL h with ⟨_, e1, e2⟩ | ⟨e, h4⟩
  · rw [e1, e2]; exact ⟨(constSlot_kept c _).1, (constSlot_kept c _).2, Or.inl ⟨_, rfl⟩⟩
  · rw [e]; exact ⟨rfl, rfl, Or.inr h4⟩

/-- a used block scope popped (`janetc_popscope` or `janetc_popscope_keepslot`) after a shaped body: what is left in the parent -/
theorem block_shape (G : String → Prop) (c c2 c3 : CState) (sc : Scope) (rs : List Scope) (pool : List KConst) (ps : List (List KConst))
    (h : Shp G { c with scopes := blk c sc false :: sc :: rs } c2 (blk c sc false) (sc :: rs) pool ps)
    (hpop : popScope c2 = some c3 ∨ ∃ r, popScopeKeep c2 r = some c3) :
    ∃ (ra3 : RA) (ns3 : List SymPair) (more : List KConst) (seg : List CI) (segm : List Pos),
      c3 = { c with scopes := { sc with ra := ra3, syms := sc.syms ++ ns3 } :: rs, pools := (pool ++ more) :: ps, buf := c.buf ++ seg,
                    map := c.map ++ segm, vals := c3.vals } ∧
      PrefA c.vals c3.vals ∧ segm.length = seg.length ∧ (∀ q, q ∈ ns3 → q.visible = false) ∧ RSub sc.ra ra3 ∧ sc.ra.max ≤ ra3.max := by
  obtain ⟨ra2, ns2, more2, seg2, segm2, hc2, pv2, _, hl2⟩ := h
  have hs2 : c2.scopes = { blk c sc false with ra := ra2, syms := (blk c sc false).syms ++ ns2 } :: sc :: rs := by rw [hc2]
  have hinv : ∀ q, q ∈ ((blk c sc false).syms ++ ns2).map (fun q : SymPair => { q with visible := false }) → q.visible = false := by
    intro q hq
    simp only [List.mem_map] at hq
    obtain ⟨q0, _, rfl⟩ := hq
    rfl
  have hX : ∃ raX ns3, c3 = { c2 with scopes := { sc with ra := raX, syms := sc.syms ++ ns3 } :: rs } ∧ (∀ q, q ∈ ns3 → q.visible = false) ∧
      raX.max = (if sc.ra.max < ra2.max then ra2.max else sc.ra.max) ∧ RSub sc.ra raX := by
    rcases hpop with hpop | ⟨r, hpop⟩
    · obtain ⟨raX, hpop', hmaxX, hmonoX⟩ := popScope_block c2 _ sc rs hs2 rfl rfl rfl
      rw [hpop'] at hpop
      exact ⟨raX, _, (Option.some.inj hpop).symm, hinv, hmaxX, hmonoX⟩
    · obtain ⟨raX, hc3, hmaxX, hmonoX, _⟩ := popScopeKeep_block c2 c3 r _ sc rs hs2 rfl rfl rfl hpop
      exact ⟨raX, _, hc3, hinv, hmaxX, hmonoX⟩
  obtain ⟨raX, ns3, hc3, hinv3, hmaxX, hmonoX⟩ := hX
  refine ⟨raX, ns3, more2, seg2, segm2, ?_, ?_, hl2, hinv3, hmonoX, ?_⟩
  · rw [hc3, hc2]
  · rw [hc3]; exact pv2
  · rw [hmaxX]; split <;> omega

theorem Shp.of_block (G : String → Prop) (c c2 c3 : CState) (sc : Scope) (rs : List Scope) (pool : List KConst) (ps : List (List KConst))
    (hs : c.scopes = sc :: rs) (hL : LkL G c.scopes)
    (h : Shp G { c with scopes := blk c sc false :: sc :: rs } c2 (blk c sc false) (sc :: rs) pool ps)
    (hpop : popScope c2 = some c3 ∨ ∃ r, popScopeKeep c2 r = some c3) : Shp G c c3 sc rs pool ps := by
  obtain ⟨ra3, ns3, more, seg, segm, hc3, pv, hl, hinv, _, _⟩ := block_shape G c c2 c3 sc rs pool ps h hpop
  refine ⟨ra3, ns3, more, seg, segm, hc3, pv, hL.of_lk (fun x => ?_), hl⟩
  rw [hc3, hs]
  exact (lk_append_invisible { sc with ra := ra3 } rs ns3 hinv x).trans (lk_ra sc rs ra3 x)

/-- the end of `janetc_throwaway` — the unused scope popped, code and map cut back — after a shaped body: only the pool and
    the value table keep a trace -/
theorem throw_eq (G : String → Prop) (c c2 c3 : CState) (sc : Scope) (rs : List Scope) (pool : List KConst) (ps : List (List KConst))
    (hs : c.scopes = sc :: rs) (hm : c.map.length = c.buf.length)
    (h : Shp G { c with scopes := blk c sc true :: sc :: rs } c2 (blk c sc true) (sc :: rs) pool ps) (hpop : popScope c2 = some c3) :
    ∃ (more : List KConst), ({ c3 with buf := c3.buf.take c.buf.length, map := c3.map.take c.buf.length } : CState) =
      { c with pools := (pool ++ more) :: ps, vals := c3.vals } ∧ PrefA c.vals c3.vals := by
  obtain ⟨ra2, ns2, more2, seg2, segm2, hc2, pv2, _, hl2⟩ := h
  have hs2 : c2.scopes = { blk c sc true with ra := ra2, syms := (blk c sc true).syms ++ ns2 } :: sc :: rs := by rw [hc2]
  have hc3 : c3 = { c2 with scopes := sc :: rs } := by
    unfold popScope at hpop
    rw [hs2] at hpop
    simp [blk] at hpop
    exact hpop.symm
  refine ⟨more2, ?_, by rw [hc3]; exact pv2⟩
  rw [hc3, hc2]
  simp [hm]
  rw [← hs]

/-- `janetc_throwaway`: only the pool and the value table keep a trace -/
theorem throwaway_eq (G : String → Prop) (rec' : Fopts → Expr → CState → Option (JSlot × CState)) (opts : Fopts) (x : Expr)
    (c c' : CState) (sc : Scope) (rs : List Scope) (pool : List KConst) (ps : List (List KConst))
    (hs : c.scopes = sc :: rs) (hm : c.map.length = c.buf.length)
    (IH : ∀ c2 sl, rec' opts x { c with scopes := blk c sc true :: sc :: rs } = some (sl, c2) →
          Shp G { c with scopes := blk c sc true :: sc :: rs } c2 (blk c sc true) (sc :: rs) pool ps)
    (h : throwaway rec' opts x c = some c') :
    ∃ (more : List KConst), c' = { c with pools := (pool ++ more) :: ps, vals := c'.vals } ∧ PrefA c.vals c'.vals := by
  simp only [throwaway, pushScope_blk c sc rs true hs, Option.bind_eq_bind, Option.bind_eq_some_iff, Prod.exists, Option.pure_def,
    Option.some.injEq] at h
  obtain ⟨sl, c2, h1, c3, hpop, hc'⟩ := h
  obtain ⟨more, e, pv⟩ := throw_eq G c c2 c3 sc rs pool ps hs hm (IH c2 sl h1) hpop
  rw [← hc']
  exact ⟨more, e, pv⟩

theorem modBuf_append (f : CI → CI) : ∀ (a b : List CI) (i : Nat), a.length ≤ i → modBuf (a ++ b) i f = a ++ modBuf b (i - a.length) f
  | [], b, i, _ => by simp
  | x :: a, b, i, h => by
    cases i with
    | zero => simp at h
    | succ j =>
      have := modBuf_append f a b j (by simpa using h)
      simp only [modBuf] at this ⊢
      simp [List.modify_succ_cons, this]

theorem modBuf_length (f : CI → CI) (b : List CI) (i : Nat) : (modBuf b i f).length = b.length := by simp [modBuf]

end JanetModel.Compile
