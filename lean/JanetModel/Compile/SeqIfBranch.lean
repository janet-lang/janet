/- C02: `janetc_if`, one branch: the notions the `if` theorems are stated over (`BranchRun`, `RunRes`), and the branch
   whose value is copied into a fresh target.  The VM run of a branch is stated against the segment the branch appended,
   whatever it is. -/
import JanetModel.Compile.SeqShapeM
import JanetModel.Compile.SeqDef
namespace JanetModel.Compile
open JanetModel.Emit JanetModel.Lang JanetModel.Bytecode.Exec JanetModel.Gen.Bytecode

/-- compile-only effect of one branch of an `if`, for any options (also for the branch not taken; `dc`: no copy into the target) -/
theorem branch_shape_any (G : String → Prop) (fuel : Nat) (b : Bool) (x : Expr) (hx : TF G b x) (opts : Fopts) (dc : Bool) (target : JSlot) :
    ∀ (c c6 c7 c8 : CState) (left : JSlot) (sc : Scope) (rs : List Scope) (pool : List KConst) (ps : List (List KConst)),
      c.scopes = sc :: rs → c.pools = pool :: ps → c.map.length = c.buf.length → LkL G c.scopes →
      cValue fuel opts x (pushScope c false false false false) = some (left, c6) →
      ifCopy dc c6 target left = some c7 → popScope c7 = some c8 →
      ∃ (ra3 : RA) (ns3 : List SymPair) (more : List KConst) (seg : List CI) (segm : List Pos),
        c8 = { c with scopes := { sc with ra := ra3, syms := sc.syms ++ ns3 } :: rs, pools := (pool ++ more) :: ps, buf := c.buf ++ seg,
                      map := c.map ++ segm, vals := c8.vals } ∧
        PrefA c.vals c8.vals ∧ segm.length = seg.length ∧ (∀ q, q ∈ ns3 → q.visible = false) ∧
        (∀ j, sc.ra.alloc j = true → ra3.alloc j = true) ∧ sc.ra.max ≤ ra3.max := by
  intro c c6 c7 c8 left sc rs pool ps hs hp hm hL h1 h2 h3
  rw [pushScope_blk c sc rs false hs] at h1
  have hLP : LkL G (blk c sc false :: sc :: rs) := by
    rw [hs] at hL; exact hL.push _ rfl rfl
  obtain ⟨S1, _⟩ := tf_shape G b fuel x opts { c with scopes := blk c sc false :: sc :: rs } c6 left (blk c sc false) (sc :: rs) pool ps rfl hp hm hx
    hLP h1
  obtain ⟨sc6, pool6, hs6, hp6, _, hL6, _⟩ := S1.out
  have R2 : StepR c6 c7 sc6 (sc :: rs) pool6 ps := by
    unfold ifCopy at h2
    split at h2
    · rw [← Option.some.inj h2]; exact StepR.refl c6 sc6 _ pool6 ps hs6 hp6
    · exact copySlot_stepR c6 c7 target left sc6 _ pool6 ps hs6 hp6 h2
  exact block_shape G c c7 c8 sc rs pool ps (S1.trans' hs6 hp6 (R2.shp hs6 hL6)) (Or.inl h3)

/-- what the branches of an un-hinted `if` know about the target: a nameless allocated register, unless the value is dropped -/
def TgFresh (opts : Fopts) (target : JSlot) (ra : RA) (scs : List Scope) : Prop :=
  opts.drop = false → ∃ d, target = { k := .loc d } ∧ d < 240 ∧ ra.alloc d = true ∧ NoName scs d

theorem TgFresh.of_lk {opts : Fopts} {target : JSlot} (ra ra' : RA) (scs scs' : List Scope) (h : TgFresh opts target ra scs)
    (hmono : ∀ r, ra.alloc r = true → ra'.alloc r = true) (_ : ra.max ≤ ra'.max)
    (hlk : ∀ y, lk scs' y = lk scs y) : TgFresh opts target ra' scs' := by
  intro hd
  obtain ⟨d, e, h240, hal, hn⟩ := h hd
  exact ⟨d, e, h240, hmono d hal, hn.of_lk hlk⟩

section
variable (p : Program) (f0 : Frame) (rest : List Frame) (V : Array Value) (P : List KConst)

/-- how a run of `n` words from `k` ends: `fall`, at the end of the code with the registers of `ra` in `Keep` untouched and `Post`;
    otherwise in a configuration `Fin` whose next step leaves the code (it raises, or it returns) -/
def RunRes (fall : Bool) (Fin : Cfg → Prop) (ra : RA) (Keep : Nat → Prop) (Post : Array Value → Prop) (w' : World) (k : Cfg) (n : Nat) : Prop :=
  match fall with
  | true => ∃ regs', Reach p (inj f0 rest k) (inj f0 rest { regs := regs', pc := k.pc + n, args := #[], w := w' }) ∧
      regs'.size = k.regs.size ∧ (∀ r, ra.alloc r = true → Keep r → regs'.getD r .nil = k.regs.getD r .nil) ∧ Post regs'
  | false => ∃ cf : Cfg, Reach p (inj f0 rest k) (inj f0 rest cf) ∧ cf.regs.size = k.regs.size ∧ Fin cf

/-- the run of one branch of an `if`, for every mode and outcome: `Sem` is what `Lang/Sem` says of the branch (a value, an error),
    `Tg` what is known about the target at its entry, `Cu` whether error positions matter (then the mapping cursor and the source
    map are supplied), `Bx` what the branch says of the boxes, `Pre` what is asked of the frame size beyond `max`; `fall`, `Fin`,
    `Keep`, `Post`, `w'` are `RunRes`'s: how the run ends.  The branch's segment is whatever it appended (given by equations) -/
def BranchRun (G : String → Prop) (fuel : Nat) (opts : Fopts) (dc : Bool) (target : JSlot) (Tg : RA → List Scope → Prop) (Cu : Prop)
    (pos : Pos) (cenv : Env) (s1 : SS) (Sem : Expr → Prop) (Bx : Prop) (fall : Bool) (Fin : Cfg → Prop) (Keep : Nat → Prop)
    (Post : Array Value → Prop) (w' : World) (Pre : Nat → Prop) (x : Expr) : Prop :=
  ∀ (c4 c6 c7 c8 : CState) (left : JSlot) (sc4 : Scope) (rs4 : List Scope) (pool4 : List KConst) (ps : List (List KConst)),
    c4.scopes = sc4 :: rs4 → c4.pools = pool4 :: ps → c4.lim ≤ 240 → c4.map.length = c4.buf.length → (Cu → c4.cur = pos) →
    Tg sc4.ra c4.scopes →
    cValue fuel opts x (pushScope c4 false false false false) = some (left, c6) →
    ifCopy dc c6 target left = some c7 → popScope c7 = some c8 →
    Sem x → EnvS G c4.scopes cenv s1.boxes.size sc4.ra →
    Bx ∧
    ∀ (seg : List CI) (segm : List Pos) (pool8 : List KConst) (sc8 : Scope), c8.buf = c4.buf ++ seg → c8.map = c4.map ++ segm →
      c8.pools = pool8 :: ps → c8.scopes = sc8 :: rs4 →
      ∀ (k : Cfg), k.w = s1.st.world → k.args = #[] → EnvD c4.scopes cenv s1 k.regs →
        CodeAt (p.defs.getD f0.defIdx default).code k.pc seg → (Cu → MapAt (p.defs.getD f0.defIdx default).smap k.pc segm) →
        PrefL pool8 P → PrefA c8.vals V → sc8.ra.max < k.regs.size → Pre k.regs.size →
        RunRes p f0 rest fall Fin sc4.ra Keep Post w' k seg.length

theorem ifCopy_core (hP : P.length < 65536)
    (hK : ∀ i, i < P.length → (p.defs.getD f0.defIdx default).consts.getD i .nil = litOf V (P.getD i .nil))
    (drop : Bool) (c6 c7 : CState) (target left : JSlot) (sc6 : Scope) (rs6 : List Scope) (pool6 : List KConst) (ps : List (List KConst))
    (hs6 : c6.scopes = sc6 :: rs6) (hp6 : c6.pools = pool6 :: ps)
    (htgt : drop = false → ∃ d, target = { k := .loc d } ∧ d < 240 ∧ ∀ r, left.k = .loc r → r ≠ d)
    (hsk : SK left) (h : ifCopy drop c6 target left = some c7) :
    ∃ (more : List KConst) (seg : List CI) (segm : List Pos),
      c7 = { c6 with scopes := sc6 :: rs6, pools := (pool6 ++ more) :: ps, buf := c6.buf ++ seg, map := c6.map ++ segm } ∧
      ∀ (k : Cfg), CodeAt (p.defs.getD f0.defIdx default).code k.pc seg → PrefL (pool6 ++ more) P →
        (drop = false → ∀ d, target.k = .loc d → d < k.regs.size) →
        ∃ regs', Reach p (inj f0 rest k) (inj f0 rest { regs := regs', pc := k.pc + seg.length, args := k.args, w := k.w }) ∧
          regs'.size = k.regs.size ∧
          (∀ r, (drop = false → target.k ≠ .loc r) → regs'.getD r .nil = k.regs.getD r .nil) ∧
          (drop = false → slotVal V regs' target = slotVal V k.regs left) := by
  cases drop with
  | true =>
    simp only [ifCopy, if_true, Option.some.injEq] at h
    subst h
    refine ⟨[], [], [], ?_, ?_⟩
    · simp only [List.append_nil, ← hs6, ← hp6]
    · intro k _ _ _
      exact ⟨k.regs, Reach.refl _ _, rfl, fun _ _ => rfl, fun h => absurd h (by simp)⟩
  | false =>
    obtain ⟨d, ht, hd, hne⟩ := htgt rfl
    subst ht
    simp only [ifCopy, Bool.false_eq_true, if_false] at h
    obtain ⟨more, seg, segm, hc7, vm⟩ := copyFresh p f0 rest V P hP hK c6 c7 _ left d rfl rfl sc6 rs6 pool6 ps hs6 hp6 hd hsk hne h
    refine ⟨more, seg, segm, hc7, ?_⟩
    intro k hcode hpre hsz
    have hdsz : d < k.regs.size := hsz rfl d rfl
    refine ⟨k.regs.setIfInBounds d (slotVal V k.regs left), vm k hcode hpre hdsz, by simp, ?_, ?_⟩
    · intro r hr
      exact getD_set_ne _ _ _ _ (by intro e; subst e; exact hr rfl rfl)
    · intro _
      simp only [slotVal]
      exact getD_set_eq _ _ _ hdsz

theorem branch_core (hP : P.length < 65536)
    (hK : ∀ i, i < P.length → (p.defs.getD f0.defIdx default).consts.getD i .nil = litOf V (P.getD i .nil))
    (G : String → Prop) (b w : Bool) (fuel : Nat) (IH : CorrectAt p f0 rest V P G (TF G b) w fuel)
    (x : Expr) (hx : TF G b x) (opts : Fopts) (ht : opts.tail = false) (hh : opts.hint = none)
    (target : JSlot) (n2 : Nat) (pos : Pos) (cenv envb : Env) (s1 s' : SS) (v : Value) :
    BranchRun p f0 rest V P G fuel opts opts.drop target (TgFresh opts target) False pos cenv s1
      (fun x => eval n2 pos cenv x s1 = .ok (v, envb) s') (PrefA s1.boxes s'.boxes) true (fun _ => True)
      (fun r => opts.drop = false → target.k ≠ .loc r) (fun regs => opts.drop = false → slotVal V regs target = v) s'.st.world
      (fun n => opts.drop = false → ∀ d, target.k = .loc d → d < n) x := by
  intro c4 c6 c7 c8 left sc4 rs4 pool4 ps hs4 hp4 hl hm4 _ htgt h1 h2 h3 hsem hE
  rw [pushScope_blk c4 sc4 rs4 false hs4] at h1
  have hlk1 : ∀ y, lk (blk c4 sc4 false :: sc4 :: rs4) y = lk c4.scopes y := by
    intro y; rw [hs4]; exact lk_push _ _ rfl rfl rfl y
  have hE1 : EnvS G ({ c4 with scopes := blk c4 sc4 false :: sc4 :: rs4 } : CState).scopes cenv s1.boxes.size (blk c4 sc4 false).ra :=
    hE.of_lk hlk1 (Nat.le_refl _) (fun _ _ _ _ _ _ _ h => h)
  obtain ⟨ra6, ns6, more6, seg6, segm6, hc6, pv6, mono6, max6, sok6, bx6, es6, nf6, vm6⟩ :=
    IH x opts { c4 with scopes := blk c4 sc4 false :: sc4 :: rs4 } c6 left (blk c4 sc4 false) (sc4 :: rs4) pool4 ps n2 pos cenv envb s1 s' v
      ht hh rfl hp4 hl rfl (fun _ => hm4) hx h1 hsem hE1
  have hs6 : c6.scopes = { blk c4 sc4 false with ra := ra6, syms := (blk c4 sc4 false).syms ++ ns6 } :: sc4 :: rs4 := by rw [hc6]
  have hp6 : c6.pools = (pool4 ++ more6) :: ps := by rw [hc6]
  have htgt' : opts.drop = false → ∃ d, target = { k := .loc d } ∧ d < 240 ∧ ∀ r, left.k = .loc r → r ≠ d := by
    intro hd
    obtain ⟨d, e, hd240, hal, hnn⟩ := htgt hd
    refine ⟨d, e, hd240, ?_⟩
    intro r hk er
    subst er
    have hnn1 : NoName (blk c4 sc4 false :: sc4 :: rs4) r := hnn.of_lk hlk1
    rcases sok6 with ⟨_, kc, hk', _⟩ | ⟨_, hnm, r', hk', _, _⟩ | ⟨_, _, d', hk', hfree, _⟩
    · rw [hk] at hk'; exact absurd hk' (by simp)
    · exact nf6.2 r hnm hk hal hnn1
    · rw [hk] at hk'
      injection hk' with e'
      subst e'
      have h1' : (blk c4 sc4 false).ra.alloc r = true := hal
      rw [hfree] at h1'
      exact Bool.noConfusion h1'
  obtain ⟨more7, seg7, segm7, hc7, vm7⟩ :=
    ifCopy_core p f0 rest V P hP hK opts.drop c6 c7 target left _ (sc4 :: rs4) (pool4 ++ more6) ps hs6 hp6 htgt' sok6.sk h2
  have hs7 : c7.scopes = { blk c4 sc4 false with ra := ra6, syms := (blk c4 sc4 false).syms ++ ns6 } :: sc4 :: rs4 := by rw [hc7]
  obtain ⟨raX, hpop, hmaxX, _⟩ := popScope_block c7 _ sc4 rs4 hs7 rfl rfl rfl
  rw [hpop] at h3
  have hc8 := (Option.some.inj h3).symm
  refine ⟨bx6, ?_⟩
  intro seg _ pool8 sc8 hbuf _ hpool hscope k hkw hka hD hcode _ hpre hV hsz hdsz
  have e_seg : seg = seg6 ++ seg7 := by
    have : c8.buf = c4.buf ++ (seg6 ++ seg7) := by
      rw [hc8]
      show c7.buf = _
      rw [hc7]
      show c6.buf ++ seg7 = _
      rw [hc6]
      simp
    rw [this] at hbuf
    exact (List.append_cancel_left hbuf).symm
  have e_pool : pool8 = pool4 ++ more6 ++ more7 := by
    have : c8.pools = (pool4 ++ more6 ++ more7) :: ps := by
      rw [hc8]
      show c7.pools = _
      rw [hc7]
    rw [this] at hpool
    exact (List.cons.inj hpool).1.symm
  have e_sc : sc8.ra.max = raX.max := by
    have : c8.scopes = { sc4 with ra := raX, syms := sc4.syms ++
        ((blk c4 sc4 false).syms ++ ns6).map (fun q => { q with visible := false }) } :: rs4 := by rw [hc8]
    rw [this] at hscope
    rw [← (List.cons.inj hscope).1]
  subst e_seg e_pool
  have hvals : c8.vals = c6.vals := by
    rw [hc8]
    show c7.vals = _
    rw [hc7]
  rw [hvals] at hV
  have hmaxX' : raX.max = (if sc4.ra.max < ra6.max then ra6.max else sc4.ra.max) := hmaxX
  have hsz6 : ra6.max < k.regs.size := by
    rw [e_sc, hmaxX'] at hsz
    split at hsz <;> omega
  obtain ⟨regs6, rch6, sz6, pr6, sv6, _⟩ :=
    vm6 k hkw hka (hD.of_lk hlk1) hcode.left (PrefL.trans ⟨more7, by simp⟩ hpre) hV hsz6
  obtain ⟨regs7, rch7, sz7, pr7, sv7⟩ :=
    vm7 { regs := regs6, pc := k.pc + seg6.length, args := #[], w := s'.st.world } hcode.right hpre
      (by intro hd d hk; show d < regs6.size; rw [sz6]; exact hdsz hd d hk)
  have sz7' : regs7.size = regs6.size := sz7
  refine ⟨regs7, ?_, by omega, ?_, ?_⟩
  · rw [List.length_append]
    exact Runs.seq rch6 rch7
  · intro r hr hne
    have := pr7 r hne
    rw [this]
    exact pr6 r hr
  · intro hd
    rw [sv7 hd]
    exact sv6 (by simp [hd])

end

end JanetModel.Compile
