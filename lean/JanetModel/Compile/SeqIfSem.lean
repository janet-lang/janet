/- C02: `if`: the reference semantics unfolded and inverted (value and error outcome); `janetc_emit_si` on a near local, a patch at a
   known position. -/
import JanetModel.Compile.EmitSpec
namespace JanetModel.Compile
open JanetModel.Emit JanetModel.Lang JanetModel.Bytecode.Exec JanetModel.Gen.Bytecode

theorem eval_if (n : Nat) (cur : Pos) (env : Env) (c : Expr) (rest : List Expr) (p : Pos) (s : SS) :
    eval (n + 1) cur env (.form (.sym "if" :: c :: rest) p) s =
      (match eval n (posOf cur p) env c s with
       | .ok (cv, cenv) s' =>
         match (if truthy cv then rest.head? else (rest.drop 1).head?) with
         | none => .ok (.nil, env) s'
         | some b =>
           match eval n (posOf cur p) cenv b s' with
           | .ok (v, _) s'' => .ok (v, env) s''
           | r => r
       | r => r) := by
  simp only [eval] <;> rfl

/-- `Lang/Sem.eval` of an `if` that returned a value: the condition's run, then the run of the branch `truthy` selects (the
    missing else branch = the literal nil) -/
theorem eval_if_inv (n : Nat) (cur : Pos) (env env' : Env) (cnd tb : Expr) (els : List Expr) (pp : Pos) (s s' : SS) (v : Value)
    (h : eval n cur env (.form (.sym "if" :: cnd :: tb :: els) pp) s = .ok (v, env') s') :
    ∃ n2 cv cenv s1 envb, n = n2 + 1 ∧ eval n2 (posOf cur pp) env cnd s = .ok (cv, cenv) s1 ∧ env' = env ∧
      eval n2 (posOf cur pp) cenv (if truthy cv then tb else els.headD (.lit .nil)) s1 = .ok (v, envb) s' := by
  cases n with
  | zero => simp [eval] at h
  | succ n2 =>
    rw [eval_if] at h
    cases hc : eval n2 (posOf cur pp) env cnd s with
    | ok r s1 =>
      obtain ⟨cv, cenv⟩ := r
      rw [hc] at h
      have hn2 : n2 ≠ 0 := by intro e; subst e; simp [eval] at hc
      obtain ⟨n3, rfl⟩ := Nat.exists_eq_succ_of_ne_zero hn2
      cases ht : truthy cv with
      | true =>
        simp only [ht, if_true, List.head?_cons] at h
        cases hb : eval (n3 + 1) (posOf cur pp) cenv tb s1 with
        | ok r2 s2 =>
          obtain ⟨v2, envb⟩ := r2
          rw [hb] at h
          simp only [R.ok.injEq, Prod.mk.injEq] at h
          obtain ⟨⟨hv, henv⟩, hs⟩ := h
          subst hv hs
          exact ⟨n3 + 1, cv, cenv, s1, envb, rfl, hc, henv.symm, by simp only [ht, if_true]; exact hb⟩
        | err _ _ _ => rw [hb] at h; exact absurd h (by simp)
        | brk _ _ => rw [hb] at h; exact absurd h (by simp)
        | stop _ => rw [hb] at h; exact absurd h (by simp)
      | false =>
        simp only [ht, Bool.false_eq_true, if_false, List.drop_succ_cons, List.drop_zero] at h
        cases els with
        | nil =>
          simp only [List.head?_nil, R.ok.injEq, Prod.mk.injEq] at h
          obtain ⟨⟨hv, henv⟩, hs⟩ := h
          subst hv hs
          exact ⟨n3 + 1, cv, cenv, s1, cenv, rfl, hc, henv.symm, by simp [ht, eval]⟩
        | cons e es =>
          simp only [List.head?_cons] at h
          cases hb : eval (n3 + 1) (posOf cur pp) cenv e s1 with
          | ok r2 s2 =>
            obtain ⟨v2, envb⟩ := r2
            rw [hb] at h
            simp only [R.ok.injEq, Prod.mk.injEq] at h
            obtain ⟨⟨hv, henv⟩, hs⟩ := h
            subst hv hs
            exact ⟨n3 + 1, cv, cenv, s1, envb, rfl, hc, henv.symm, by simp only [ht, Bool.false_eq_true, if_false, List.headD_cons]; exact hb⟩
          | err _ _ _ => rw [hb] at h; exact absurd h (by simp)
          | brk _ _ => rw [hb] at h; exact absurd h (by simp)
          | stop _ => rw [hb] at h; exact absurd h (by simp)
    | err _ _ _ => rw [hc] at h; exact absurd h (by simp)
    | brk _ _ => rw [hc] at h; exact absurd h (by simp)
    | stop _ => rw [hc] at h; exact absurd h (by simp)

theorem eval_if_err_inv (n : Nat) (cur : Pos) (env : Env) (cnd tb : Expr) (els : List Expr) (pp : Pos) (s s' : SS) (ev : Value) (epos : Pos)
    (h : eval n cur env (.form (.sym "if" :: cnd :: tb :: els) pp) s = .err ev epos s') :
    ∃ n2, n = n2 + 1 ∧ (eval n2 (posOf cur pp) env cnd s = .err ev epos s' ∨
      ∃ cv cenv s1, eval n2 (posOf cur pp) env cnd s = .ok (cv, cenv) s1 ∧
        eval n2 (posOf cur pp) cenv (if truthy cv then tb else els.headD (.lit .nil)) s1 = .err ev epos s') := by
  cases n with
  | zero => simp [eval] at h
  | succ n2 =>
    refine ⟨n2, rfl, ?_⟩
    rw [eval_if] at h
    cases hc : eval n2 (posOf cur pp) env cnd s with
    | ok r s1 =>
      obtain ⟨cv, cenv⟩ := r
      rw [hc] at h
      refine Or.inr ⟨cv, cenv, s1, rfl, ?_⟩
      cases ht : truthy cv with
      | true =>
        simp only [ht, if_true, List.head?_cons] at h ⊢
        cases hb : eval n2 (posOf cur pp) cenv tb s1 with
        | ok r2 s2 => obtain ⟨v2, envb⟩ := r2; rw [hb] at h; exact absurd h (by simp)
        | err e2 p2 s2 => rw [hb] at h; exact h
        | brk _ _ => rw [hb] at h; exact absurd h (by simp)
        | stop _ => rw [hb] at h; exact absurd h (by simp)
      | false =>
        simp only [ht, Bool.false_eq_true, if_false, List.drop_succ_cons, List.drop_zero] at h ⊢
        cases els with
        | nil => simp at h
        | cons e es =>
          simp only [List.head?_cons, List.headD_cons] at h ⊢
          cases hb : eval n2 (posOf cur pp) cenv e s1 with
          | ok r2 s2 => obtain ⟨v2, envb⟩ := r2; rw [hb] at h; exact absurd h (by simp)
          | err e2 p2 s2 => rw [hb] at h; exact h
          | brk _ _ => rw [hb] at h; exact absurd h (by simp)
          | stop _ => rw [hb] at h; exact absurd h (by simp)
    | err e2 p2 s2 =>
      rw [hc] at h
      simp only [R.err.injEq] at h
      obtain ⟨h1, h2, h3⟩ := h
      subst h1 h2 h3
      exact Or.inl rfl
    | brk _ _ => rw [hc] at h; exact absurd h (by simp)
    | stop _ => rw [hc] at h; exact absurd h (by simp)

/-- `janetc_emit_si(c, op, near local, imm, 0)`: just the payload -/
theorem emitSI_local (c c' : CState) (op : Op) (s : JSlot) (i imm : Nat) (hk : s.k = .loc i) (hi : i ≤ 0xFF)
    (sc : Scope) (rs : List Scope) (pool : List KConst) (ps : List (List KConst))
    (hs : c.scopes = sc :: rs) (hp : c.pools = pool :: ps) (h : emitSI c op s imm false = some c') :
    sc.ra.max < c.lim ∧
    c' = { c with scopes := sc :: rs, pools := pool :: ps, buf := c.buf ++ [CI.mi (.pay op.toNat .si false [i] imm)], map := c.map ++ [c.cur] } := by
  unfold emitSI at h
  rw [hk] at h
  obtain ⟨hmax, hc'⟩ := emitW_spec c c' _ sc rs pool ps hs hp h
  have hX : W.emitSI { ra := sc.ra, buf := [], consts := pool } op.toNat false (.loc i) imm =
      { ra := sc.ra, buf := [.pay op.toNat .si false [i] imm], consts := pool } := by
    simp [W.emitSI, W.nearTemp, W.needTemp, Slot.nearLocal, hi, W.backTemp, W.freeNear, Slot.isLocal, Slot.index, W.slotConst, W.finish,
      Emit.emitSI, regnear, wb]
  rw [hX] at hmax hc'
  exact ⟨hmax, by rw [hc']; simp⟩

theorem modBuf_at (f : CI → CI) (x : CI) : ∀ (a b : List CI), modBuf (a ++ x :: b) a.length f = a ++ f x :: b
  | [], b => by simp [modBuf]
  | y :: a, b => by
    have := modBuf_at f x a b
    simp only [modBuf] at this ⊢
    simp [List.modify_succ_cons, this]


end JanetModel.Compile
