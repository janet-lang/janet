/- C02: side conditions of `set`: a form in which no `(def x …)` occurs leaves the binding of `x` alone (semantic side): a reading
   of `tf_ext` (Compile/SeqNoBrkSem.lean) — the bindings put on top are of names the form binds. -/
import JanetModel.Compile.SeqNoBrkSem
namespace JanetModel.Compile
open JanetModel.Emit JanetModel.Lang JanetModel.Bytecode.Exec JanetModel.Gen.Bytecode

theorem Ext.keeps {α : Type} {G B : String → Prop} {env env' : Env} {s s' : SS} {r : R (α × Env)} {a : α} {x : String}
    (h : Ext G B env s r) (hx : B x) (hr : r = .ok (a, env') s') : lookupEnv env' x = lookupEnv env x := by
  obtain ⟨_, added, he, hA⟩ := h.2 a env' s' hr
  rw [he]
  exact lookupEnv_append x added env (fun a' ha => (hA.1 x a' ha).2.1 hx)

/-- semantic side: the value of a form of the fragment without `(def x …)` leaves the binding of `x` alone -/
theorem nobind_env (G : String → Prop) (b : Bool) (x : String) (n : Nat) (cur : Pos) (env env' : Env) (e : Expr) (s s' : SS) (v : Value)
    (hg : ∀ f, G f → lookupEnv env f = none) (hT : TF G b e) (hN : NoBind x e)
    (h : eval n cur env e s = .ok (v, env') s') : lookupEnv env' x = lookupEnv env x :=
  ((tf_ext G b n).1 cur env e s hg hT).keeps hN h

theorem nobind_env_seq (G : String → Prop) (b : Bool) (x : String) (n : Nat) (cur : Pos) (env env' : Env) (body : List Expr) (s s' : SS) (v : Value)
    (hg : ∀ f, G f → lookupEnv env f = none) (hT : ∀ e, e ∈ body → TF G b e) (hN : ∀ e, e ∈ body → NoBind x e)
    (h : evalSeq n cur env body s = .ok (v, env') s') : lookupEnv env' x = lookupEnv env x :=
  ((tf_ext G b n).2.1 cur env body s hg hT).keeps hN h

end JanetModel.Compile
