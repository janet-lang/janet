/- C02: one `while` loop WITH an unconditional `(break)` statement, `(while cnd pre... (break) post...)`: the body specification of
   such a body — the one placeholder becomes `JUMP (post's length + 2)`, which lands on the loop's end label; `post` is dead code. -/
import JanetModel.Compile.SeqBrk
import JanetModel.Compile.SeqNest
namespace JanetModel.Compile
open JanetModel.Emit JanetModel.Lang JanetModel.Bytecode.Exec JanetModel.Gen.Bytecode

theorem cValue_break_while (fuel : Nat) (p : Pos) (c : CState) (sc0 : Scope)
    (hf : c.scopes.find? (fun s => s.fn || s.whl) = some sc0) (hfn : sc0.fn = false) (sl : JSlot) (c1 : CState)
    (h : cValue fuel { drop := true } (.form [.sym "break"] p) c = some (sl, c1)) :
    sl = cslot .nil ∧ c1 = { emitRaw (curAt c p) .brk with cur := c.cur } := by
  cases fuel with
  | zero => simp [cValue] at h
  | succ fuel =>
    rw [cValue_break_o fuel _ rfl rfl p c sc0 hf hfn] at h
    simp only [fin, Option.some.injEq, Prod.mk.injEq] at h
    exact ⟨h.1.symm, h.2.symm⟩

section
variable {p : Program} {f0 : Frame} {rest : List Frame} {V : Array Value} {P : List KConst}

theorem bodyRun_break (G : String → Prop) (T : Expr → Prop) (w : Bool) (fuel : Nat) (IH : CorrectAt p f0 rest V P G T w fuel)
    (ML : MLAt G T true fuel) (pre post : List Expr) (bp : Pos) (hTb : ∀ e, e ∈ pre → T e)
    (HFa : BodyFacts G fuel pre) (HFp : BodyFacts G fuel post)
    (hnbP : ∀ n cur env0 s0 v0 s1, (∀ f, G f → lookupEnv env0 f = none) → evalSeq n cur env0 pre s0 ≠ .brk v0 s1) :
    BodyRun p f0 rest V P G fuel (pre ++ .form [.sym "break"] bp :: post) 8388607 := by
  intro c3j c4 sc3 rs pool3 ps hbody hs3 hp3 htop3 hwhl3 hfn3 hm3 hl3 hL3
  obtain ⟨cA, hpreC, hrestC⟩ := (whileBody_append _ pre _ c3j c4).mp hbody
  obtain ⟨SA, MA, NA⟩ := HFa c3j cA sc3 rs pool3 ps hs3 hp3 htop3 hm3 hL3 hpreC
  have hmA : cA.map.length = cA.buf.length := SA.mapLen hm3
  have NA := noBrkFrom_drop (NA _ (noBrkFrom_length _))
  obtain ⟨raA, nsA, moreA, segA, segmA, hcA, pvA, hLA, hlA⟩ := id SA
  have hsA : cA.scopes = upd sc3 raA nsA :: rs := by rw [hcA]
  have hpA : cA.pools = (pool3 ++ moreA) :: ps := by rw [hcA]
  have hbA : cA.buf = c3j.buf ++ segA := by rw [hcA]
  simp only [whileBody, Option.bind_eq_bind, Option.bind_eq_some_iff, Prod.exists] at hrestC
  obtain ⟨slB, cB, hB, cBf, hfB, hpostC⟩ := hrestC
  have hfind : cA.scopes.find? (fun s => s.fn || s.whl) = some (upd sc3 raA nsA) := by
    rw [hsA]; simp [List.find?, upd, hwhl3, hfn3]
  obtain ⟨hslB, hcB⟩ := cValue_break_while fuel bp cA _ hfind (by simp [hfn3]) slB cB hB
  obtain ⟨qb, hqb⟩ := curAt_eq cA bp
  rw [hqb] at hcB
  subst hslB
  have hcBf : cB = cBf := by
    simp [freeslot, cslot] at hfB; exact hfB
  subst hcBf
  have hsB : cB.scopes = upd sc3 raA nsA :: rs := by rw [hcB]; exact hsA
  have hpB : cB.pools = (pool3 ++ moreA) :: ps := by rw [hcB]; exact hpA
  have hbB : cB.buf = cA.buf ++ [CI.brk] := by rw [hcB]; rfl
  have hmB : cB.map.length = cB.buf.length := by rw [hcB]; simp [emitRaw, hmA]
  have hLB : LkL G cB.scopes := by rw [hsB, ← hsA]; exact hLA
  have htopA : (upd sc3 raA nsA).top = false := htop3
  have SB : Shp G cA cB (upd sc3 raA nsA) rs (pool3 ++ moreA) ps := by
    rw [hcB]
    exact (StepR.shp (c := { cA with cur := qb }) hsA hLA (emitRaw_stepR { cA with cur := qb } CI.brk _ rs _ ps hsA hpA)).recur
  obtain ⟨SP, MP, NP⟩ := HFp cB c4 _ rs _ ps hsB hpB htopA hmB hLB hpostC
  have NP := noBrkFrom_drop (NP _ (noBrkFrom_length _))
  refine ⟨SA.trans' hsA hpA (SB.trans' hsB hpB SP), MA.trans hsA ((MaxR.of_eq (by rw [hsB, hsA])).trans hsB MP), ?_⟩
  obtain ⟨ra4, ns4, more4, segP, segmP, hc4, pv4, hL4, hlP⟩ := SP
  intro sc4 pool4 segB hb4 hp4 hs4 hrg n pos cenv s1 hE3
  have hb4' : c4.buf = cB.buf ++ segP := by rw [hc4]
  have hsegB : segB = segA ++ CI.brk :: segP := by
    rw [hb4', hbB, hbA] at hb4
    have : c3j.buf ++ (segA ++ CI.brk :: segP) = c3j.buf ++ segB := by simpa [List.append_assoc] using hb4
    exact (List.append_cancel_left this).symm
  rw [hbA] at NA
  rw [hb4'] at NP
  simp only [List.drop_left] at NA NP
  have hfix : fixBrk 1 segB = segA ++ CI.jump (Int.ofNat (segP.length + 2)) :: segP := by
    rw [hsegB, fixBrk_append, fixBrk_id _ segA NA]
    simp [fixBrk, fixBrk_id _ segP NP]
    omega
  rw [hfix]
  obtain ⟨hnok, hbrkinv⟩ := evalSeq_break_inv pos bp post pre n cenv s1
  refine ⟨fun bv benv s2 hsb => absurd hsb (hnok _ _), fun bv s2 hbrk => ?_⟩
  rcases hbrkinv bv s2 hbrk with ⟨vA, envA, hpreS⟩ | hpb
  rotate_left
  · exact absurd hpb (hnbP _ _ _ _ _ _ (EnvS.gfree hE3))
  obtain ⟨bx, vm⟩ := whileBody_run G T w fuel IH ML pre hTb c3j cA sc3 (upd sc3 raA nsA) rs pool3 (pool3 ++ moreA) ps segA
    n pos cenv envA s1 s2 vA hs3 hp3 hl3 htop3 hm3 hpreC hpreS hE3 hbA hpA hsA
  refine ⟨bx, fun pc regs hD hcode hpre hV hsz => ?_⟩
  have hp4' : pool4 = pool3 ++ moreA ++ more4 := by
    have : c4.pools = (pool3 ++ moreA ++ more4) :: ps := by rw [hc4]
    rw [this] at hp4; exact ((List.cons.inj hp4).1).symm
  have pv4' : PrefA cA.vals c4.vals := by
    have : cB.vals = cA.vals := by rw [hcB]; rfl
    rw [← this]; exact pv4
  obtain ⟨regs4, R4, K4⟩ := vm pc regs hD hcode.left (PrefL.trans ⟨more4, hp4'⟩ hpre) (PrefA.trans pv4' hV)
    (Nat.lt_of_le_of_lt (MP _ sc4 hsB hs4) hsz)
  have hlenB : segB.length = segA.length + 1 + segP.length := by rw [hsegB]; simp; omega
  have jst := step_jump p (inj f0 rest { regs := regs4, pc := pc + segA.length, args := #[], w := s2.st.world }) (Int.ofNat (segP.length + 2))
    (by simp only [Int.ofNat_eq_natCast]; omega) (by simp only [Int.ofNat_eq_natCast]; omega) (by rw [inj_curDef, inj_pc]; exact hcode.right.head)
  rw [inj_jump] at jst
  have e2 : (Int.ofNat (pc + segA.length) + Int.ofNat (segP.length + 2)).toNat = pc + (segB.length + 1) := by
    simp only [Int.ofNat_eq_natCast, toNat_cast_add, hlenB]; omega
  simp only [e2] at jst
  exact ⟨regs4, R4.jump jst, K4⟩

theorem while_break_core (hP : P.length < 65536)
    (hK : ∀ i, i < P.length → (p.defs.getD f0.defIdx default).consts.getD i .nil = litOf V (P.getD i .nil))
    (FF : FloatFacts) (G : String → Prop) (fuel : Nat)
    (cnd : Expr) (pre post : List Expr) (bp pp : Pos) (hTc : TF G true cnd)
    (hTpre : ∀ e, e ∈ pre → TL G e) (hTpost : ∀ e, e ∈ post → TL G e) (hok : CondOK cnd)
    (opts : Fopts) (c c' : CState) (slot : JSlot) (sc : Scope) (rs : List Scope) (pool : List KConst) (ps : List (List KConst))
    (n : Nat) (cur : Pos) (env env' : Env) (s s' : SS) (v : Value)
    (ht : opts.tail = false) (hh : opts.hint = none) (hs : c.scopes = sc :: rs) (hp : c.pools = pool :: ps) (hl : c.lim ≤ 240)
    (hm : c.map.length = c.buf.length)
    (hc : cValue (fuel + 1) opts (.form (.sym "while" :: cnd :: (pre ++ .form [.sym "break"] bp :: post)) pp) c = some (slot, c'))
    (hrg : c'.buf.length - c.buf.length ≤ 8388607)
    (hsem : eval n cur env (.form (.sym "while" :: cnd :: (pre ++ .form [.sym "break"] bp :: post)) pp) s = .ok (v, env') s')
    (hE : EnvS G c.scopes env s.boxes.size sc.ra) :
    Correct2 p f0 rest V P G opts.drop c c' slot sc rs pool ps env env' s s' v :=
  while_gen G (TL G) true true fuel (tl_correct hP hK FF G fuel) (fun e h => .base e h) cnd _ pp hTc hok 8388607
    (bodyRun_break G (TL G) true fuel (tl_correct hP hK FF G fuel) (tl_ML G fuel) pre post bp hTpre
      (whileBody_facts (tl_stmtFacts G fuel) hTpre) (whileBody_facts (tl_stmtFacts G fuel) hTpost)
      (fun n cur env0 s0 v0 s1 hg => tl_evalSeq_nobrk G hTpre n cur env0 s0 v0 s1 hg))
    opts c c' slot sc rs pool ps n cur env env' s s' v ht hh hs hp hl hm hc hrg hsem hE

end

end JanetModel.Compile
