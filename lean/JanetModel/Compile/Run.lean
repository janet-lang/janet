/- C02: code and source map of the running function at a pc (`CodeAt`, `MapAt`), the facts about `Float` that are trusted
   (`FloatFacts`), and the VM steps of a constant load and a JOP_PUSH on frame-local configurations. -/
import JanetModel.Compile.Frame
import JanetModel.Compile.Agree
namespace JanetModel.Compile
open JanetModel.Emit JanetModel.Lang JanetModel.Bytecode.Exec JanetModel.Gen.Bytecode

/-- IEEE facts about Lean's opaque `Float` that the constant cases need (not provable inside Lean: `Float` has no
    computational content for the kernel) -/
structure FloatFacts : Prop where
  bits : ∀ x y : Float, x.toBits = y.toBits → x = y
  int16 : ∀ (x : Float) (n : Int), intLit x = some n → Float.ofInt n = x

variable (p : Program) (f0 : Frame) (rest : List Frame)

/-- `seg` sits in the code of the running function at `pc` -/
def CodeAt (code : Array Nat) (pc : Nat) (seg : List CI) : Prop := ∀ i ci, seg[i]? = some ci → code[pc + i]? = some ci.word

theorem CodeAt.head {code : Array Nat} {pc : Nat} {ci : CI} {seg : List CI} (h : CodeAt code pc (ci :: seg)) : code[pc]? = some ci.word := by
  have := h 0 ci rfl
  simpa using this

theorem CodeAt.tail {code : Array Nat} {pc : Nat} {ci : CI} {seg : List CI} (h : CodeAt code pc (ci :: seg)) : CodeAt code (pc + 1) seg := by
  intro i x hx
  have := h (i + 1) x (by simpa using hx)
  have e : pc + 1 + i = pc + (i + 1) := by omega
  rw [e]; exact this

theorem CodeAt.left {code : Array Nat} {pc : Nat} {a b : List CI} (h : CodeAt code pc (a ++ b)) : CodeAt code pc a := by
  intro i x hx
  exact h i x (by rw [List.getElem?_append_left (by exact (List.getElem?_eq_some_iff.mp hx).1)]; exact hx)

theorem CodeAt.right {code : Array Nat} {pc : Nat} {a b : List CI} (h : CodeAt code pc (a ++ b)) : CodeAt code (pc + a.length) b := by
  intro i x hx
  have := h (a.length + i) x (by rw [List.getElem?_append_right (by omega)]; simpa using hx)
  have e : pc + a.length + i = pc + (a.length + i) := by omega
  rw [e]; exact this

/-- the source map of the running function holds `segm` at `pc` -/
def MapAt (smap : Array (Int × Int)) (pc : Nat) (segm : List Pos) : Prop := ∀ i q, segm[i]? = some q → smap[pc + i]? = some (q.line, q.col)

theorem MapAt.left {smap : Array (Int × Int)} {pc : Nat} {a b : List Pos} (h : MapAt smap pc (a ++ b)) : MapAt smap pc a := by
  intro i x hx
  exact h i x (by rw [List.getElem?_append_left (by exact (List.getElem?_eq_some_iff.mp hx).1)]; exact hx)

theorem MapAt.right {smap : Array (Int × Int)} {pc : Nat} {a b : List Pos} (h : MapAt smap pc (a ++ b)) : MapAt smap (pc + a.length) b := by
  intro i x hx
  have := h (a.length + i) x (by rw [List.getElem?_append_right (by omega)]; simpa using hx)
  have e : pc + a.length + i = pc + (a.length + i) := by omega
  rw [e]; exact this

/-- load of a constant into register `t` -/
theorem run_ldk (k : Cfg) (t : Nat) (kc : KConst) (idx : Nat) (V : Array Value) (ht : t < 256) (hi : idx < 65536)
    (hcode : (p.defs.getD f0.defIdx default).code[k.pc]? = some (CI.mi (.ldk t kc idx)).word)
    (hconst : kc.pooled = true → (p.defs.getD f0.defIdx default).consts.getD idx .nil = litOf V kc) :
    step p (inj f0 rest k) = .next (inj f0 rest { k with regs := k.regs.setIfInBounds t (litOf V kc), pc := k.pc + 1 }) := by
  have h := step_mi p (inj f0 rest k) (.ldk t kc idx) ⟨ht, hi⟩ (by rw [inj_curDef, inj_pc]; exact hcode)
  rw [h]
  cases kc with
  | nil => simp only [vmExecMI, litOf, inj_setAdv]
  | tru => simp only [vmExecMI, litOf, inj_setAdv]
  | fls => simp only [vmExecMI, litOf, inj_setAdv]
  | int n =>
    by_cases hn : -32768 ≤ n ∧ n ≤ 32767
    · simp only [vmExecMI, hn, and_self, if_true, litOf, inj_setAdv]
    · have hp : (KConst.int n).pooled = true := by simp [KConst.pooled, hn]
      simp only [vmExecMI, hn, if_false, inj_curDef, hconst hp, inj_setAdv]
  | refarr id => simp only [vmExecMI, inj_curDef, hconst rfl, inj_setAdv]
  | other id => simp only [vmExecMI, inj_curDef, hconst rfl, inj_setAdv]

/-- JOP_PUSH of register `r` -/
theorem run_push (k : Cfg) (r : Nat) (hr : r < 16777216)
    (hcode : (p.defs.getD f0.defIdx default).code[k.pc]? = some (CI.mi (.pay Op.push.toNat .s false [r] 0)).word) :
    step p (inj f0 rest k) = .next (inj f0 rest { k with args := k.args.push (k.regs.getD r .nil), pc := k.pc + 1 }) := by
  have h := step_push p (inj f0 rest k) r hr (by rw [inj_curDef, inj_pc]; exact hcode)
  rw [h]
  rfl

end JanetModel.Compile
