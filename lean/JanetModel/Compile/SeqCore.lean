/- C02: what every call of the core fragment `TF G b` has done before its call instruction, whatever the options and the outcome
   (`CallPre`, `call_pre`); the emit part of a call whose value is used, whatever the head is (`call_emit_core`): a global core
   function (`callN_core`) or a local whose box holds one (`callL_core`). -/
import JanetModel.Compile.SeqCallN
import JanetModel.Compile.SeqShapeM
namespace JanetModel.Compile
open JanetModel.Emit JanetModel.Lang JanetModel.Bytecode.Exec JanetModel.Gen.Bytecode

theorem tf_ML (G : String → Prop) (b w : Bool) (fuel : Nat) : MLAt G (TF G b) w fuel := by
  intro _ e opts c c' slot sc rs pool ps env nb _ _ hs hp _ hT hE hc hm
  exact (tf_shape G b fuel e opts c c' slot sc rs pool ps hs hp hm hT hE.lkl hc).1.mapLen hm

section
variable (p : Program) (f0 : Frame) (rest : List Frame) (V : Array Value) (P : List KConst)

/-- what every call of a global core function `f` has done before its call instruction: the head is the constant `kf`, the
    operands are compiled and pushed, the VM has run them and holds their values as pending arguments -/
structure CallPre (G : String → Prop) (f : String) (c c2 c3 : CState) (slots : List JSlot) (kf : KConst) (sc : Scope) (rs : List Scope)
    (pool : List KConst) (ps : List (List KConst)) (env env_a : Env) (s s_a : SS) (vs : List Value)
    (ra2 : RA) (ns2 : List SymPair) (more2 : List KConst) (seg2 : List CI) (segm2 : List Pos)
    (ra3 : RA) (more3 : List KConst) (seg3 : List CI) (segm3 : List Pos) : Prop
    extends CallArgs p f0 rest V P G c c2 c3 slots sc rs pool ps env env_a s s_a vs ra2 ns2 more2 seg2 segm2 ra3 more3 seg3 segm3 where
  lit : ∀ V', PrefA c2.vals V' → litOf V' kf = .cfun f
  len : c.map.length = c.buf.length → segm2.length = seg2.length ∧ segm3.length = seg3.length

theorem call_pre (hP : P.length < 65536)
    (hK : ∀ i, i < P.length → (p.defs.getD f0.defIdx default).consts.getD i .nil = litOf V (P.getD i .nil))
    (FF : FloatFacts) (G : String → Prop) (b w : Bool) (fuel : Nat) (IH : CorrectAt p f0 rest V P G (TF G b) w fuel)
    (f : String) (args : List Expr) (hG : G f) (hTa : ∀ a, a ∈ args → TF G b a)
    (c c1 c2 c3 : CState) (head : JSlot) (slots : List JSlot) (sc : Scope) (rs : List Scope) (pool : List KConst) (ps : List (List KConst))
    (n2 : Nat) (pos : Pos) (env env_a : Env) (s s_a : SS) (vs : List Value)
    (hs : c.scopes = sc :: rs) (hp : c.pools = pool :: ps) (hl : c.lim ≤ 240) (htop : sc.top = false)
    (hm : w = true → c.map.length = c.buf.length)
    (h1 : cValue fuel {} (.sym f) c = some (head, c1)) (h2 : toSlots (cValue fuel) args c1 = some (slots, c2))
    (h3 : pushSlots c2 slots = some c3) (hsa : evalArgs (n2 + 1) pos env args s = .ok (vs, env_a) s_a)
    (hE : EnvS G c.scopes env s.boxes.size sc.ra) :
    ∃ (kf : KConst) (ra2 : RA) (ns2 : List SymPair) (more2 : List KConst) (seg2 : List CI) (segm2 : List Pos)
      (ra3 : RA) (more3 : List KConst) (seg3 : List CI) (segm3 : List Pos), head = cslot kf ∧
      CallPre p f0 rest V P G f c c2 c3 slots kf sc rs pool ps env env_a s s_a vs ra2 ns2 more2 seg2 segm2 ra3 more3 seg3 segm3 := by
  cases fuel with
  | zero => simp [cValue] at h1
  | succ fuel' =>
  obtain ⟨vals1, kf, hhead, hc1eq, k2, k3, k4⟩ := head_globalS FF fuel' c c1 head f (by rw [lookupSlot_lk]; exact hE.1 f hG) h1
  subst hhead hc1eq
  have hs1 : ({ c with vals := vals1 } : CState).scopes = sc :: rs := hs
  have hp1 : ({ c with vals := vals1 } : CState).pools = pool :: ps := hp
  obtain ⟨ra2, ns2, more2, seg2, segm2, ra3, more3, seg3, segm3, A⟩ :=
    args_pushed p f0 rest V P hP hK (c1 := { c with vals := vals1 }) hl
      (toSlots_correct p f0 rest V P G (TF G b) w (fuel' + 1) IH (tf_ML G b w (fuel' + 1)) (fun a h => h.notSplice) args hTa _ c2 slots sc rs pool ps
        (n2 + 1) pos env env_a s s_a vs hs1 hp1 hl htop hm h2 hsa hE)
      h3
  have hc2 := A.hc2
  have hc3 := A.hc3
  refine ⟨kf, ra2, ns2, more2, seg2, segm2, ra3, more3, seg3, segm3, rfl,
    ⟨⟨hc2, hc3, PrefA.trans k2 A.pv, A.mono, A.max, A.sok, A.bx, A.es, A.nf, A.e3, A.m3, A.run⟩,
      fun V' hV => by rw [litOf_pref (PrefA.trans A.pv hV) kf k3]; exact k4, ?_⟩⟩
  intro hm'
  have hs2 : c2.scopes = { sc with ra := ra2, syms := sc.syms ++ ns2 } :: rs := by rw [hc2]
  have hp2 : c2.pools = (pool ++ more2) :: ps := by rw [hc2]
  exact args_pushed_len G (fuel' + 1) b args hTa { c with vals := vals1 } c2 c3 slots sc _ rs pool _ ps
    hs1 hp1 hm' hE.lkl h2 hs2 hp2 h3 (by rw [hc2]) (by rw [hc2]) (by rw [hc3]) (by rw [hc3])

/-- the emit part of a call whose value is used and whose application returns, whatever the head is: a constant or a near local
    `head` that stands for the core function `f` in the registers the operands' run leaves (`hval`) -/
theorem call_emit_core (hP : P.length < 65536)
    (hK : ∀ i, i < P.length → (p.defs.getD f0.defIdx default).consts.getD i .nil = litOf V (P.getD i .nil))
    (G : String → Prop) (f : String) (hna : f ≠ "apply")
    (c c2 c3 cT c4 c5 : CState) (slot0 head : JSlot) (slots : List JSlot) (sc : Scope) (rs : List Scope) (pool : List KConst)
    (ps : List (List KConst)) (env env_a : Env) (s s_a : SS) (vs : List Value)
    {ra2 : RA} {ns2 : List SymPair} {more2 : List KConst} {seg2 : List CI} {segm2 : List Pos}
    {ra3 : RA} {more3 : List KConst} {seg3 : List CI} {segm3 : List Pos}
    (X : CallArgs p f0 rest V P G c c2 c3 slots sc rs pool ps env env_a s s_a vs ra2 ns2 more2 seg2 segm2 ra3 more3 seg3 segm3)
    (hl : c.lim ≤ 240) (hhead : SK head) (lh : ∀ r, head.k = .loc r → sc.ra.alloc r = true)
    (hval : ∀ (k : Cfg) (regs3 : Array Value), EnvD c.scopes env s k.regs → PrefA c2.vals V → Keeps sc.ra.alloc k.regs regs3 →
      slotVal V regs3 head = .cfun f)
    (hT : getTarget c3 {} = some (slot0, cT)) (hEm : emitSS cT .call slot0 head true = some c4)
    (hf1 : freeslots c4 slots = some c5)
    (n2 : Nat) (pos : Pos) (s' : SS) (v : Value) (happ : applyFn (n2 + 1) pos (.cfun f) vs s_a = .ok v s') :
    Correct2 p f0 rest V P G false c c5 slot0 sc rs pool ps env env_a s s' v := by
  obtain ⟨d, ra4, more4, seg4, segm4, hslot, hc4, d1', d2', d3, d4', d5, vm4⟩ :=
    callEmit p f0 rest V P hP hK c3 cT c4 slot0 head f hna { sc with ra := ra3, syms := sc.syms ++ ns2 } rs ((pool ++ more2) ++ more3) ps
      (by rw [X.hc3]) (by rw [X.hc3]) (by rw [X.hc3, X.hc2]; exact hl) hhead (fun r hr => by rw [X.e3 r]; exact X.mono r (lh r hr)) hT hEm
  have d1' : ra3.alloc d = false := d1'
  have d2' : ∀ j, ra4.alloc j = (if j = d then true else ra3.alloc j) := d2'
  have d4' : ra3.max ≤ ra4.max := d4'
  obtain ⟨hc2, hc3, pvX, r1a, r3a, sok2, bx2, es2, nf2, e3', m3', vm3⟩ := X
  have hs2 : c2.scopes = { sc with ra := ra2, syms := sc.syms ++ ns2 } :: rs := by rw [hc2]
  have hl3 : c3.lim ≤ 240 := by rw [hc3, hc2]; exact hl
  have hs4 : c4.scopes = { sc with ra := ra4, syms := sc.syms ++ ns2 } :: rs := by rw [hc4]
  have hd240 : d < 240 := by
    have : c3.lim ≤ 240 := hl3
    omega
  have hd_sc : sc.ra.alloc d = false := by
    cases hh : sc.ra.alloc d with
    | false => rfl
    | true => have := r1a d hh; rw [← e3' d, d1'] at this; exact Bool.noConfusion this
  have hlk2 : ∀ ra x, lk ({ sc with ra := ra, syms := sc.syms ++ ns2 } :: rs) x = lk c2.scopes x := by
    intro ra x; rw [hs2]; rfl
  let Keep : Nat → Prop := fun r => sc.ra.alloc r = true ∨ r = d ∨ ∃ x slot u l, lk c2.scopes x = some (slot, u, l) ∧ slot.k = .loc r
  have hfree : ∀ sl, sl ∈ slots → sl.cflag = true ∨ sl.named = true ∨ (sl.cflag = false ∧ sl.named = false ∧ ∃ da, sl.k = .loc da ∧ ¬ Keep da) := by
    intro sl hsl
    rcases sok2 sl hsl with ⟨hcf, _⟩ | ⟨_, hnm, _⟩ | ⟨hcf, hnm, da, hka', hda1, hda2, _, hnn⟩
    · exact Or.inl hcf
    · exact Or.inr (Or.inl hnm)
    · refine Or.inr (Or.inr ⟨hcf, hnm, da, hka', ?_⟩)
      rintro (h | h | ⟨x, slot, u, l, hx, hk⟩)
      · rw [h] at hda1; exact Bool.noConfusion hda1
      · rw [h, ← e3' d, d1'] at hda2; exact Bool.noConfusion hda2
      · exact hnn x slot u l hx hk
  obtain ⟨ra5, hc5, hmax5, r15⟩ := freeslots_keep Keep slots c4 c5 { sc with ra := ra4, syms := sc.syms ++ ns2 } rs hs4 hfree hf1
  have hmax5' : ra5.max = ra4.max := hmax5
  have r15' : ∀ r, ra4.alloc r = true → Keep r → ra5.alloc r = true := r15
  have hs5 : c5.scopes = { sc with ra := ra5, syms := sc.syms ++ ns2 } :: rs := by rw [hc5]
  have h24 : ∀ r, ra2.alloc r = true → ra4.alloc r = true := by
    intro r hr; rw [d2' r]; split
    · rfl
    · rw [e3' r]; exact hr
  have hd5 : ra5.alloc d = true := r15' d (by rw [d2' d]; simp) (Or.inr (Or.inl rfl))
  have hbx : s'.boxes = s_a.boxes := applyFn_cfun_boxes n2 pos f hna vs s_a s' v happ
  have hnames : ∀ x slot u l r, lk c2.scopes x = some (slot, u, l) → slot.k = .loc r → ra2.alloc r = true → ra5.alloc r = true :=
    fun x slot u l r hx hk hr => r15' r (h24 r hr) (Or.inr (Or.inr ⟨x, slot, u, l, hx, hk⟩))
  refine ⟨ra5, ns2, more2 ++ more3 ++ more4, seg2 ++ seg3 ++ seg4, segm2 ++ segm3 ++ segm4, ?_, ?_, ?_, ?_, ?_, ?_, ?_, ?_, ?_⟩
  · rw [hc5, hc4, hc3, hc2]
    simp [List.append_assoc]
  · rw [hc5, hc4, hc3]
    exact pvX
  · intro r hr; exact r15' r (h24 r (r1a r hr)) (Or.inl hr)
  · rw [hmax5']; exact Nat.le_trans r3a (Nat.le_trans m3' d4')
  · refine Or.inr (Or.inr ⟨by rw [hslot], by rw [hslot], d, by rw [hslot], hd_sc, hd5, hd240, ?_⟩)
    intro x slot u l hx hk
    rw [hs5, hlk2] at hx
    obtain ⟨_, _, _, r, a', hk', _, _, hal, _⟩ := es2.found hx
    rw [hk'] at hk
    have : r = d := by injection hk
    rw [this, ← e3' d, d1'] at hal
    exact Bool.noConfusion hal
  · rw [hbx]; exact bx2
  · rw [hs5, hbx]
    exact es2.of_lk (hlk2 ra5) (Nat.le_refl _) hnames
  · refine ⟨fun d0 hd0 hno => (nf2 d0 hd0 hno).of_lk (fun x => by rw [hs5, hlk2]), fun r hnm => ?_⟩
    rw [hslot] at hnm; exact absurd hnm (by simp)
  · intro k hkw hka hD hcode hpre hV hsz
    rw [hmax5'] at hsz
    have hvals : c5.vals = c2.vals := by rw [hc5, hc4, hc3]
    rw [hvals] at hV
    have hcodeC : CodeAt (p.defs.getD f0.defIdx default).code (k.pc + seg2.length + seg3.length) seg4 := by
      rw [List.append_assoc] at hcode; exact hcode.right.right
    have hpreC : PrefL (pool ++ more2 ++ more3 ++ more4) P := by
      refine PrefL.trans ?_ hpre
      exact ⟨[], by simp [List.append_assoc]⟩
    obtain ⟨regs3, A, rch3, hargs, sz3, pr3, al3, ed3⟩ := vm3 k hkw hka hD hcode.left (PrefL.trans ⟨more4, rfl⟩ hpreC) hV (Nat.lt_of_le_of_lt d4' hsz)
    obtain ⟨regs4, rch4, hv4, sz4, pr4⟩ := vm4
      { regs := regs3, pc := k.pc + seg2.length + seg3.length, args := A, w := s_a.st.world }
      s_a s' n2 pos v hcodeC hpreC (by show ra4.max < regs3.size; rw [sz3]; exact hsz) rfl (hval k regs3 hD hV ⟨sz3, pr3⟩) (by rw [hargs]; exact happ)
    have sz4' : regs4.size = regs3.size := sz4
    have pr4' : ∀ r, ra3.alloc r = true → regs4.getD r .nil = regs3.getD r .nil := pr4
    refine ⟨regs4, ?_, sz4'.trans sz3, ?_, ?_, ?_⟩
    · have e : k.pc + (seg2 ++ seg3 ++ seg4).length = k.pc + seg2.length + seg3.length + seg4.length := by
        simp only [List.length_append, Nat.add_assoc]
      rw [e]
      exact Reach.trans rch3 rch4
    · intro r hr
      rw [pr4' r (al3 r (r1a r hr)), pr3 r hr]
    · intro _; simp only [slotVal, hslot]; exact hv4
    · intro x slot u l r a' hx hk he
      rw [hs5, hlk2] at hx
      obtain ⟨_, _, _, r', _, hk', _, _, hal, _⟩ := es2.found hx
      have hrr : r' = r := by rw [hk'] at hk; injection hk
      rw [hrr] at hal
      have h3r : ra3.alloc r = true := by rw [e3' r]; exact hal
      rw [pr4' r h3r, ed3 x slot u l r a' hx hk he]
      simp only [readBox, hbx]


theorem callN_core (hP : P.length < 65536)
    (hK : ∀ i, i < P.length → (p.defs.getD f0.defIdx default).consts.getD i .nil = litOf V (P.getD i .nil))
    (G : String → Prop) (f : String) (hna : f ≠ "apply")
    {c c2 c3 cT c4 c5 : CState} {slot0 : JSlot} {slots : List JSlot} {kf : KConst} {sc : Scope} {rs : List Scope} {pool : List KConst}
    {ps : List (List KConst)} {env env_a : Env} {s s_a : SS} {vs : List Value}
    {ra2 : RA} {ns2 : List SymPair} {more2 : List KConst} {seg2 : List CI} {segm2 : List Pos}
    {ra3 : RA} {more3 : List KConst} {seg3 : List CI} {segm3 : List Pos}
    (X : CallPre p f0 rest V P G f c c2 c3 slots kf sc rs pool ps env env_a s s_a vs ra2 ns2 more2 seg2 segm2 ra3 more3 seg3 segm3)
    (hl : c.lim ≤ 240)
    (hT : getTarget c3 {} = some (slot0, cT)) (hEm : emitSS cT .call slot0 (cslot kf) true = some c4) (hf1 : freeslots c4 slots = some c5)
    (n2 : Nat) (pos : Pos) (s' : SS) (v : Value) (happ : applyFn (n2 + 1) pos (.cfun f) vs s_a = .ok v s') :
    Correct2 p f0 rest V P G false c c5 slot0 sc rs pool ps env env_a s s' v :=
  call_emit_core p f0 rest V P hP hK G f hna c c2 c3 cT c4 c5 slot0 (cslot kf) slots sc rs pool ps env env_a s s_a vs X.toCallArgs hl (Or.inl ⟨kf, rfl⟩) (fun r hr => nomatch hr)
    (fun _ _ _ hV _ => X.lit V hV) hT hEm hf1 n2 pos s' v happ

end

theorem eval_callL_inv (n : Nat) (cur : Pos) (env env' : Env) (x : String) (a : Nat) (args : List Expr) (pp : Pos) (s s' : SS) (v : Value)
    (hf : specials.contains x = false) (hx : lookupEnv env x = some a)
    (h : eval n cur env (.form (.sym x :: args) pp) s = .ok (v, env') s') :
    ∃ n2 vs s_a, n = n2 + 2 ∧ evalArgs (n2 + 1) (posOf cur pp) env args s = .ok (vs, env') s_a ∧
      applyFn (n2 + 1) (posOf cur pp) (readBox s a) vs s_a = .ok v s' :=
  eval_call_inv n cur env env' x (readBox s a) args pp s s' v hf (fun m => eval_sym_local m _ env x s a hx) h

section
variable (p : Program) (f0 : Frame) (rest : List Frame) (V : Array Value) (P : List KConst)

theorem callL_core (hP : P.length < 65536)
    (hK : ∀ i, i < P.length → (p.defs.getD f0.defIdx default).consts.getD i .nil = litOf V (P.getD i .nil))
    (G : String → Prop) (T : Expr → Prop) (w : Bool) (fuel : Nat) (IH : CorrectAt p f0 rest V P G T w fuel)
    (ML : MLAt G T w fuel) (hns : ∀ a, T a → isSplice a = none)
    (x : String) (args : List Expr) (f : String) (hna : f ≠ "apply") (hTa : ∀ a, a ∈ args → T a)
    (c cq : CState) (slot0 : JSlot) (sc : Scope) (rs : List Scope) (pool : List KConst) (ps : List (List KConst))
    (n2 : Nat) (pos : Pos) (env env_a : Env) (s s_a s' : SS) (vs : List Value) (v : Value) (a : Nat)
    (hs : c.scopes = sc :: rs) (hp : c.pools = pool :: ps) (hl : c.lim ≤ 240) (htop : sc.top = false)
    (hm : w = true → c.map.length = c.buf.length)
    (hx : lookupEnv env x = some a) (hbox : readBox s a = .cfun f)
    (hcc : cCall (cValue fuel) {} (.sym x) args c = some (slot0, cq))
    (hsa : evalArgs (n2 + 1) pos env args s = .ok (vs, env_a) s_a) (happ : applyFn (n2 + 1) pos (.cfun f) vs s_a = .ok v s')
    (hE : EnvS G c.scopes env s.boxes.size sc.ra) :
    Correct2 p f0 rest V P G false c cq slot0 sc rs pool ps env env_a s s' v := by
  obtain ⟨head, c1, slots, c2, c3, cT, c4, c5, h1, h2, h3, hT, hEm, hf1, hf2⟩ := cCall_steps (cValue fuel) (.sym x) args c cq slot0 hcc
  cases fuel with
  | zero => simp [cValue] at h1
  | succ fuel' =>
  obtain ⟨sl, r, a', u, hl1, hk1, hn1, hc1, hl2, ha, hal, hr⟩ : ∃ slot r a' u, lk c.scopes x = some (slot, u, true) ∧ slot.k = .loc r ∧
      slot.named = true ∧ slot.cflag = false ∧ lookupEnv env x = some a' ∧ a' < s.boxes.size ∧ sc.ra.alloc r = true ∧ r < 240 := by
    rcases hE.2 x with ⟨_, h⟩ | h
    · rw [hx] at h; exact absurd h (by simp)
    · exact h
  have haa : a' = a := by rw [hx] at hl2; exact (Option.some.inj hl2).symm
  subst haa
  rw [cValue_sym, resolve_local c x sl u (by rw [lookupSlot_lk]; exact hl1) hc1] at h1
  simp only [fin, Option.some.injEq, Prod.mk.injEq] at h1
  obtain ⟨hh, hc1eq⟩ := h1
  subst hh
  have hc1' : c1 = c := hc1eq.symm
  subst hc1'
  obtain ⟨ra2, ns2, more2, seg2, segm2, ra3, more3, seg3, segm3, A⟩ :=
    args_pushed p f0 rest V P hP hK (c1 := c1) hl
      (toSlots_correct p f0 rest V P G T w (fuel' + 1) IH ML hns args hTa _ c2 slots sc rs pool ps (n2 + 1) pos env env_a s s_a vs hs hp hl htop hm h2 hsa hE)
      h3
  rw [freeslot_named c5 sl hn1] at hf2
  obtain rfl : c5 = cq := Option.some.inj hf2
  exact call_emit_core p f0 rest V P hP hK G f hna c1 c2 c3 cT c4 c5 slot0 sl slots sc rs pool ps env env_a s s_a vs A hl (Or.inr ⟨r, hk1, hr⟩)
    (fun r' hr' => by rw [hk1] at hr'; cases hr'; exact hal)
    (fun k regs3 hD _ K => by simp only [slotVal, hk1]; rw [K.2 r hal, hD x sl u true r a' hl1 hk1 hx, hbox]) hT hEm hf1 n2 pos s' v happ

end

end JanetModel.Compile
