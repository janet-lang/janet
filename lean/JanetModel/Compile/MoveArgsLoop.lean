/- C02: the parameter loop of `janetc_fn` for ANY number of symbol parameters (also > 240: far registers), and the function-entry
   code of the model compiler: on a fresh function scope parameter k gets register `argReg k` (k, or k + 16 from the 241st on: the
   first-fit allocator skips the temporaries 0xF0–0xFF), the scope names it, and `fnMoveArgs` then appends exactly
   `moveArgsCode n argReg (n + 16)` — the code `moveArgs_alloc` (Compile/MoveArgs.lean) proves to deliver every argument in its
   parameter's register.  Compile-only. -/
import JanetModel.Compile.MoveArgs
import JanetModel.Compile.Alloc
namespace JanetModel.Compile
open JanetModel.Emit JanetModel.Lang JanetModel.Bytecode.Exec JanetModel.Gen.Bytecode

/-- allocation bits after j parameters on a fresh function scope -/
def parAlloc (j r : Nat) : Bool := decide ((r < 0xF0 ∧ r < j) ∨ (0x100 ≤ r ∧ r < j + 16))

/-- the symbols the loop appends: parameter j + i named in register `argReg (j + i)` -/
def parSyms : List String → Nat → List SymPair
  | [], _ => []
  | nm :: r, j => { name := nm, slot := { k := .loc (argReg j), named := true } } :: parSyms r (j + 1)

theorem parSyms_regs : ∀ (names : List String) (j : Nat), (parSyms names j).map (fun p => slotReg p.slot) = (List.range names.length).map (fun i => argReg (j + i))
  | [], _ => rfl
  | nm :: r, j => by
    simp only [parSyms, List.map_cons, List.length_cons, List.range_succ_eq_map, List.map_map]
    rw [parSyms_regs r (j + 1)]
    simp only [slotReg, Nat.add_zero, List.cons.injEq, true_and]
    apply List.map_congr_left
    intro i _
    simp only [Function.comp]
    congr 1
    omega

/-- `janetc_regalloc_1` after j parameters: register `argReg j`, and the bits of j + 1 parameters -/
theorem alloc1_par (ra : RA) (j : Nat) (hj : j + 16 < searchFuel) (hal : ∀ r, ra.alloc r = parAlloc j r) :
    ra.alloc1.1 = argReg j ∧ ∀ r, ra.alloc1.2.alloc r = parAlloc (j + 1) r := by
  have h1 : ∀ r, r < argReg j → ra.taken r = true := by
    intro r hr
    simp only [RA.taken, hal, parAlloc, Bool.or_eq_true, decide_eq_true_eq, Bool.and_eq_true]
    simp only [argReg] at hr
    split at hr <;> omega
  have h2 : ra.taken (argReg j) = false := by
    simp only [RA.taken, hal, parAlloc, Bool.or_eq_false_iff, decide_eq_false_iff_not, Bool.and_eq_false_imp, decide_eq_true_eq]
    simp only [argReg]
    split <;> omega
  have hf : firstFit ra searchFuel 0 = argReg j :=
    firstFit_at ra (argReg j) h1 h2 searchFuel 0 (Nat.zero_le _) (by simp only [argReg]; split <;> omega)
  refine ⟨by simp [RA.alloc1, hf], fun r => ?_⟩
  simp only [RA.alloc1, hf, RA.mark, hal]
  by_cases e : r = argReg j
  · simp only [e, if_true, parAlloc, argReg]
    simp only [Bool.true_eq, decide_eq_true_eq]
    split <;> omega
  · simp only [e, if_false, parAlloc]
    simp only [argReg] at e
    apply decide_eq_decide.mpr
    split at e <;> omega

/-- `janetc_allocfar` for parameter k (k ≥ 0xF0) on the allocator the parameter loop has built: register k + 16 -/
theorem alloc1_param_far (ra : RA) (k : Nat) (hk : 0xF0 ≤ k) (hk2 : k + 16 < searchFuel)
    (hal : ∀ r, ra.alloc r = decide (r < 0xF0 ∨ (0x100 ≤ r ∧ r < k + 16))) : ra.alloc1.1 = argReg k :=
  (alloc1_par ra k hk2 (fun r => by
    rw [hal, parAlloc]
    exact decide_eq_decide.mpr (by omega))).1

/-- **the parameter loop, any number of names**: registers `argReg j`, `argReg (j+1)`, … in order, named in the scope -/
theorem params_loop_regs : ∀ (names : List String) (c c3 : CState) (sc : Scope) (rs : List Scope) (j : Nat),
    c.scopes = sc :: rs → j + names.length + 16 < searchFuel → (∀ r, sc.ra.alloc r = parAlloc j r) →
    names.foldlM (fun (cc : CState) nm => do let (sl, cc') ← farslot cc; pure (nameslot cc' nm sl)) c = some c3 →
    ∃ (ra3 : RA), c3 = { c with scopes := { sc with ra := ra3, syms := sc.syms ++ parSyms names j } :: rs } ∧
      (∀ r, ra3.alloc r = parAlloc (j + names.length) r) := by
  intro names
  induction names with
  | nil =>
    intro c c3 sc rs j hs _ hal h
    simp only [List.foldlM_nil, Option.pure_def, Option.some.injEq] at h
    subst h
    refine ⟨sc.ra, ?_, by simpa using hal⟩
    cases c
    simp only [parSyms, List.append_nil] at *
    subst hs
    rfl
  | cons nm r ih =>
    intro c c3 sc rs j hs hfu hal h
    simp only [List.foldlM_cons, Option.bind_eq_bind, Option.bind_eq_some_iff] at h
    obtain ⟨c1, h1, h⟩ := h
    simp only [farslot, allocFar, hs, Option.pure_def, Option.bind_eq_bind, Option.bind_eq_some_iff, Prod.exists] at h1
    obtain ⟨sl, cc', ⟨r0, cf, hfar, hsl⟩, hc1⟩ := h1
    simp only [List.length_cons] at hfu
    obtain ⟨a1, a2⟩ := alloc1_par sc.ra j (by omega) hal
    split at hfar
    · exact absurd hfar (by simp)
    · simp only [Option.some.injEq, Prod.mk.injEq] at hfar hsl hc1
      obtain ⟨hr0, hcf⟩ := hfar
      obtain ⟨hsl1, hsl2⟩ := hsl
      subst hsl1 hsl2 hcf hc1
      have hs1 : (nameslot { c with scopes := { sc with ra := sc.ra.alloc1.2 } :: rs } nm { k := .loc r0 }).scopes =
          { sc with ra := sc.ra.alloc1.2, syms := sc.syms ++ [{ name := nm, slot := { k := .loc r0, named := true } }] } :: rs := by
        simp [nameslot]
      obtain ⟨ra3, e3, al3⟩ := ih _ c3 _ rs (j + 1) hs1 (by omega) a2 h
      refine ⟨ra3, ?_, fun r => by rw [al3 r]; simp only [List.length_cons]; congr 1; omega⟩
      rw [e3]
      have hr : r0 = argReg j := by rw [← hr0]; exact a1
      subst hr
      simp [nameslot, parSyms, List.append_assoc]

theorem movesLow_congr (reg reg' : Nat → Nat) (lo : Nat) : ∀ cnt, (∀ k, lo ≤ k → k < lo + cnt → reg k = reg' k) →
    movesLow reg lo cnt = movesLow reg' lo cnt
  | 0, _ => rfl
  | cnt + 1, h => by
    simp only [movesLow]
    rw [h (lo + cnt) (by omega) (by omega), movesLow_congr reg reg' lo cnt (fun k a b => h k a (by omega))]

theorem movesHigh_congr (reg reg' : Nat → Nat) (lo : Nat) : ∀ cnt, (∀ k, lo ≤ k → k < lo + cnt → reg k = reg' k) →
    movesHigh reg lo cnt = movesHigh reg' lo cnt
  | 0, _ => rfl
  | cnt + 1, h => by
    simp only [movesHigh]
    rw [h (lo + cnt) (by omega) (by omega), movesHigh_congr reg reg' lo cnt (fun k a b => h k a (by omega))]

theorem moveArgsCode_congr (n : Nat) (reg reg' : Nat → Nat) (park : Nat) (hn : 0xF0 < n) (h : ∀ k, k < n → reg k = reg' k) :
    moveArgsCode n reg park = moveArgsCode n reg' park := by
  unfold moveArgsCode
  by_cases hb : n > 0x100
  · simp only [hb, if_true]
    rw [movesHigh_congr reg reg' 0x100 (n - 0x100) (fun k a b => h k (by omega)),
      movesLow_congr reg reg' 0xF0 15 (fun k a b => h k (by omega)), h 0xFF (by omega)]
  · simp only [hb, if_false]
    rw [movesLow_congr reg reg' 0xF0 (n - 0xF0) (fun k a b => h k (by omega))]

/-- **the entry code of a function with n > 0xF0 symbol parameters in the model compiler** (the two steps of `cValue`'s `fn` case
    after `pushScope`): the parameters are named in registers `argReg 0 … argReg (n−1)` and the code appended is
    `moveArgsCode n argReg (n + 16)` — by `moveArgs_alloc` it puts every argument in its parameter's register. -/
theorem fn_entry_code (c2 c3p c3 : CState) (sc : Scope) (rs : List Scope) (names : List String)
    (hs : c2.scopes = sc :: rs) (hfresh : ∀ r, sc.ra.alloc r = false) (hsy : sc.syms = [])
    (hn : 0xF0 < names.length) (hfu : names.length + 33 < searchFuel)
    (hpar : names.foldlM (fun (cc : CState) nm => do let (sl, cc') ← farslot cc; pure (nameslot cc' nm sl)) c2 = some c3p)
    (hmv : fnMoveArgs c3p ((c3p.scopes.headD default).syms.map (fun p => slotReg p.slot)) = some c3) :
    (∃ ra3, c3p.scopes = { sc with ra := ra3, syms := parSyms names 0 } :: rs) ∧
    c3.buf = c2.buf ++ (moveArgsCode names.length argReg (names.length + 16)).map CI.mi := by
  obtain ⟨ra3, e3, al3⟩ := params_loop_regs names c2 c3p sc rs 0 hs (by omega)
    (fun r => by rw [hfresh r]; simp only [parAlloc, Bool.false_eq, decide_eq_false_iff_not]; omega) hpar
  have hsc : c3p.scopes = { sc with ra := ra3, syms := parSyms names 0 } :: rs := by rw [e3, hsy]; rfl
  refine ⟨⟨ra3, hsc⟩, ?_⟩
  have hb3 : c3p.buf = c2.buf := by rw [e3]
  have hregs : (c3p.scopes.headD default).syms.map (fun p => slotReg p.slot) = (List.range names.length).map (fun i => argReg i) := by
    rw [hsc]
    simp only [List.headD_cons]
    rw [parSyms_regs names 0]
    simp
  rw [hregs] at hmv
  generalize hA : (List.range names.length).map (fun i => argReg i) = A at hmv
  have hAl : A.length = names.length := by rw [← hA]; simp
  have hAg : ∀ k, k < names.length → A.getD k 0 = argReg k := by
    intro k hk
    rw [← hA]
    simp [List.getD, hk]
  have hcode : ∀ park, moveArgsCode A.length (fun k => A.getD k 0) park = moveArgsCode names.length argReg park := by
    intro park
    rw [hAl]
    exact moveArgsCode_congr names.length _ argReg park hn hAg
  obtain ⟨park, hpark, hbuf⟩ := fnMoveArgs_code c3p c3 A (by omega) hmv
  rw [hbuf, hb3, hcode]
  by_cases hb : 0x100 < names.length
  · obtain ⟨c1, ha⟩ := hpark (by omega)
    simp only [allocFar, hsc] at ha
    split at ha
    · exact absurd ha (by simp)
    · simp only [Option.some.injEq, Prod.mk.injEq] at ha
      rw [← ha.1, (alloc1_par ra3 names.length (by omega) (fun r => by rw [al3 r]; simp)).1]
      simp only [argReg]
      split
      · omega
      · rfl
  · simp [moveArgsCode, hb]

theorem params_loop_total : ∀ (names : List String) (c : CState) (sc : Scope) (rs : List Scope) (j : Nat),
    c.scopes = sc :: rs → j + names.length + 16 < c.lim → c.lim ≤ searchFuel → (∀ r, sc.ra.alloc r = parAlloc j r) →
    ∃ c3, names.foldlM (fun (cc : CState) nm => do let (sl, cc') ← farslot cc; pure (nameslot cc' nm sl)) c = some c3 ∧ c3.lim = c.lim := by
  intro names
  induction names with
  | nil => intro c sc rs j _ _ _ _; exact ⟨c, rfl, rfl⟩
  | cons nm r ih =>
    intro c sc rs j hs hl hf hal
    simp only [List.length_cons] at hl
    obtain ⟨a1, a2⟩ := alloc1_par sc.ra j (by omega) hal
    have hlt : ¬ sc.ra.alloc1.1 ≥ c.lim := by
      rw [a1]; simp only [argReg]; split <;> omega
    have hfar : farslot c = some ({ k := .loc sc.ra.alloc1.1 }, { c with scopes := { sc with ra := sc.ra.alloc1.2 } :: rs }) := by
      simp [farslot, allocFar, hs, hlt]
    have hs1 : (nameslot { c with scopes := { sc with ra := sc.ra.alloc1.2 } :: rs } nm { k := .loc sc.ra.alloc1.1 }).scopes =
        { sc with ra := sc.ra.alloc1.2, syms := sc.syms ++ [{ name := nm, slot := { k := .loc sc.ra.alloc1.1, named := true } }] } :: rs := by
      simp [nameslot]
    have hl1 : (nameslot { c with scopes := { sc with ra := sc.ra.alloc1.2 } :: rs } nm { k := .loc sc.ra.alloc1.1 }).lim = c.lim := by
      simp [nameslot]
    obtain ⟨c3, h3, l3⟩ := ih _ _ rs (j + 1) hs1 (by rw [hl1]; omega) (by rw [hl1]; exact hf) a2
    refine ⟨c3, ?_, by rw [l3, hl1]⟩
    simp only [List.foldlM_cons, Option.bind_eq_bind, hfar, Option.pure_def, Option.bind_some]
    exact h3

/-- the hypotheses of `fn_entry_code` are satisfiable for every n with 0xF0 < n and n + 33 < 65536: the model compiler's two entry
    steps succeed on a fresh function scope -/
theorem fn_entry_total (names : List String) (hn : 0xF0 < names.length) (hb : names.length + 33 < 65536) :
    ∃ c3p c3, names.foldlM (fun (cc : CState) nm => do let (sl, cc') ← farslot cc; pure (nameslot cc' nm sl))
        (pushScope {} true false false false) = some c3p ∧
      fnMoveArgs c3p ((c3p.scopes.headD default).syms.map (fun p => slotReg p.slot)) = some c3 := by
  have hs : (pushScope ({} : CState) true false false false).scopes = [{ fn := true, ra := { alloc := fun _ => false }, start := 0 }] := rfl
  have hal : ∀ r, ({ fn := true, ra := { alloc := fun _ => false }, start := 0 } : Scope).ra.alloc r = parAlloc 0 r := by
    intro r; simp only [parAlloc, Bool.false_eq, decide_eq_false_iff_not]; omega
  have hlim : (pushScope ({} : CState) true false false false).lim = 65536 := rfl
  obtain ⟨c3p, h3, l3⟩ := params_loop_total names _ _ [] 0 hs (by rw [hlim]; omega) (by rw [hlim]; decide) hal
  obtain ⟨ra3, e3, al3⟩ := params_loop_regs names _ c3p _ [] 0 hs (by simp only [searchFuel]; omega) hal h3
  refine ⟨c3p, ?_⟩
  have hsc : c3p.scopes = [{ fn := true, ra := ra3, syms := parSyms names 0, start := 0 }] := by rw [e3]; rfl
  have hlen : ((c3p.scopes.headD default).syms.map (fun p => slotReg p.slot)).length = names.length := by
    rw [hsc]; simp only [List.headD_cons, List.length_map]
    have := congrArg List.length (parSyms_regs names 0)
    simpa using this
  unfold fnMoveArgs
  simp only [hlen, show ¬ names.length ≤ 0xF0 by omega, if_false]
  by_cases hbig : names.length > 0x100
  · simp only [hbig, if_true]
    obtain ⟨a1, _⟩ := alloc1_par ra3 names.length (by simp only [searchFuel]; omega) (fun r => by rw [al3 r]; simp)
    have hlt : ¬ ra3.alloc1.1 ≥ c3p.lim := by
      rw [a1, l3, hlim]; simp only [argReg]; split <;> omega
    have hfar : allocFar c3p = some (ra3.alloc1.1, { c3p with scopes := [{ fn := true, ra := ra3.alloc1.2, syms := parSyms names 0, start := 0 }] }) := by
      simp [allocFar, hsc, hlt]
    simp only [hfar, Option.bind_eq_bind, Option.bind_some]
    have hsc2 := (emitMIs_buf { c3p with scopes := [{ fn := true, ra := ra3.alloc1.2, syms := parSyms names 0, start := 0 }] }
      (moveArgsCode names.length (fun k => ((c3p.scopes.headD default).syms.map (fun p => slotReg p.slot)).getD k 0) ra3.alloc1.1)).2.1
    rw [hsc2]
    exact ⟨_, h3, rfl⟩
  · simp only [hbig, if_false]
    exact ⟨_, h3, rfl⟩

end JanetModel.Compile
