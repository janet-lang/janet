/- C02: error propagation, the call: an operand raises (the operands before it ran, what is compiled after it only appends), or the
   application raises AT the call instruction (JOP_CALL / JOP_TAILCALL), whose source-map entry is the cursor = the position of the
   call form.  `ErrAt` / `ErrAny`: the statement at one compile fuel. -/
import JanetModel.Compile.SeqErrAllBase
import JanetModel.Compile.SeqTail
import JanetModel.Compile.SeqCore
namespace JanetModel.Compile
open JanetModel.Emit JanetModel.Lang JanetModel.Bytecode.Exec JanetModel.Gen.Bytecode

section
variable (p : Program) (f0 : Frame) (rest : List Frame) (V : Array Value) (P : List KConst)

/-- error propagation out of tail position, at compile fuel `fuel` -/
def ErrAt (G : String → Prop) (b : Bool) (fuel : Nat) : Prop :=
  ∀ (e : Expr) (opts : Fopts) (c c' : CState) (slot : JSlot) (sc : Scope) (rs : List Scope) (pool : List KConst) (ps : List (List KConst))
    (n : Nat) (cur : Pos) (env : Env) (s s' : SS) (ev : Value) (epos : Pos),
    opts.tail = false → opts.hint = none → c.scopes = sc :: rs → c.pools = pool :: ps → c.lim ≤ 240 → sc.top = false →
    c.map.length = c.buf.length → c.cur = cur → TF G b e → cValue fuel opts e c = some (slot, c') →
    eval n cur env e s = .err ev epos s' → EnvS G c.scopes env s.boxes.size sc.ra →
    ErrOK p f0 rest V P c c' rs ps env s s' ev epos

/-- `ErrAt` whether or not the form is in tail position -/
def ErrAny (G : String → Prop) (b : Bool) (fuel : Nat) : Prop :=
  ∀ (e : Expr) (opts : Fopts) (c c' : CState) (slot : JSlot) (sc : Scope) (rs : List Scope) (pool : List KConst) (ps : List (List KConst))
    (n : Nat) (cur : Pos) (env : Env) (s s' : SS) (ev : Value) (epos : Pos),
    opts.hint = none → c.scopes = sc :: rs → c.pools = pool :: ps → c.lim ≤ 240 → sc.top = false →
    c.map.length = c.buf.length → c.cur = cur → TF G b e → cValue fuel opts e c = some (slot, c') →
    eval n cur env e s = .err ev epos s' → EnvS G c.scopes env s.boxes.size sc.ra →
    ErrOK p f0 rest V P c c' rs ps env s s' ev epos

theorem toSlots_err (G : String → Prop) (b w : Bool) (fuel : Nat) (CN : CorrectAt p f0 rest V P G (TF G b) w fuel)
    (IH : ErrAny p f0 rest V P G b fuel) : ∀ (args : List Expr), (∀ a, a ∈ args → TF G b a) →
    ∀ (c c' : CState) (slots : List JSlot) (sc : Scope) (rs : List Scope) (pool : List KConst) (ps : List (List KConst))
      (n : Nat) (cur : Pos) (env : Env) (s s' : SS) (ev : Value) (epos : Pos),
      c.scopes = sc :: rs → c.pools = pool :: ps → c.lim ≤ 240 → sc.top = false → c.map.length = c.buf.length → c.cur = cur →
      toSlots (cValue fuel) args c = some (slots, c') → evalArgs n cur env args s = .err ev epos s' →
      EnvS G c.scopes env s.boxes.size sc.ra → ErrOK p f0 rest V P c c' rs ps env s s' ev epos := by
  intro args
  induction args with
  | nil =>
    intro _ c c' slots sc rs pool ps n cur env s s' ev epos _ _ _ _ _ _ _ hsem
    exact absurd hsem (evalArgs_nil_err n cur env s s' ev epos)
  | cons a as ih =>
    intro hT c c' slots sc rs pool ps n cur env s s' ev epos hs hp hl htop hm hcur hc hsem hE
    simp only [toSlots, Option.bind_eq_bind, Option.bind_eq_some_iff, Prod.exists, Option.pure_def, Option.some.injEq, Prod.mk.injEq] at hc
    obtain ⟨sl1, c1, hx, ss, c2, hrest, _, hc2⟩ := hc
    rw [← hc2]
    have hTa := hT a (by simp)
    obtain ⟨S1, _⟩ := tf_shape G b fuel a {} c c1 sl1 sc rs pool ps hs hp hm hTa hE.lkl hx
    obtain ⟨sc1, pool1, hs1, hp1, ht1, hL1, _⟩ := S1.out
    have hm1 := S1.mapLen hm
    have htop1 : sc1.top = false := by rw [ht1]; exact htop
    have SM := toSlots_shape_max G b fuel as (fun e he => hT e (by simp [he])) c1 c2 ss sc1 rs pool1 ps hs1 hp1 hm1 hL1 hrest
    have SR := SM.1
    have MR := SM.2.1
    have AR : App c1 c2 rs ps := SR.app hs1 hp1 MR
    obtain ⟨n2, hn, hcase⟩ := evalArgs_cons_err_inv n cur env a as s s' ev epos hTa.notSplice hsem
    rcases hcase with he | ⟨v1, env1, s1, he1, he2⟩
    · have E1 := IH a {} c c1 sl1 sc rs pool ps n2 cur env s s' ev epos rfl hs hp hl htop hm hcur hTa hx he hE
      obtain ⟨ra', ns, more, seg, segm, hc1, _⟩ := S1
      exact E1.extend seg segm (by rw [hc1]) (by rw [hc1]) AR
    · have H := CN a {} c c1 sl1 sc rs pool ps n2 cur env env1 s s1 v1 rfl rfl hs hp hl htop (fun _ => hm) hTa hx he1 hE
      have H2 := H
      obtain ⟨ra1, ns1, more1, seg1, segm1, hc1, pv1, mono1, max1, sok1, bx1, es1, nf1, vm1⟩ := H2
      have hs1' : c1.scopes = { sc with ra := ra1, syms := sc.syms ++ ns1 } :: rs := by rw [hc1]
      have hp1' : c1.pools = (pool ++ more1) :: ps := by rw [hc1]
      have E2 := ih (fun e he => hT e (by simp [he])) c1 c2 ss _ rs _ ps n2 cur env1 s1 s' ev epos hs1' hp1' (by rw [hc1]; exact hl) htop
        hm1 (by rw [hc1]; exact hcur) hrest he2 es1
      exact ErrOK.after H hm hm1 AR E2

/-- what `cCall` does after the operands, for any options without a hint: pushes, the call instruction, frees — append only -/
theorem call_rest_app (opts : Fopts) (hh : opts.hint = none) (c2 c3 c4 c5 cq : CState) (slots : List JSlot) (slot head : JSlot) (sc2 : Scope)
    (rs : List Scope) (pool2 : List KConst) (ps : List (List KConst)) (hs2 : c2.scopes = sc2 :: rs) (hp2 : c2.pools = pool2 :: ps)
    (htop2 : sc2.top = false) (h3 : pushSlots c2 slots = some c3) (hO : cCallOut opts head c3 = some (slot, c4))
    (hf1 : freeslots c4 slots = some c5) (hf2 : freeslot c5 head = some cq) : App c2 cq rs ps := by
  have R3 := pushSlots_stepR slots c2 c3 sc2 rs pool2 ps hs2 hp2 h3
  obtain ⟨sc3, pool3, hs3, hp3, ht3, _⟩ := R3.out
  have A3 := R3.app hs2 hp2 (pushSlots_maxR slots c2 c3 sc2 rs pool2 ps hs2 hp2 h3)
  have A4 : ∃ sc4 pool4, c4.scopes = sc4 :: rs ∧ c4.pools = pool4 :: ps ∧ App c3 c4 rs ps := by
    cases ht : opts.tail with
    | true =>
      obtain ⟨hem, _⟩ := cCallOut_tail ht (by simp [curTop, hs3, ht3, htop2]) hO
      have R4 := emitS_stepR c3 c4 _ head false sc3 rs pool3 ps hs3 hp3 hem
      obtain ⟨sc4, pool4, hs4, hp4, _, _⟩ := R4.out
      exact ⟨sc4, pool4, hs4, hp4, R4.app hs3 hp3 (emitW_maxR c3 c4 _ sc3 rs pool3 ps hs3 hp3 (fun e => W_emitS_max e _ _ _) hem)⟩
    | false =>
      obtain ⟨cT, hT, hEm⟩ := cCallOut_plain ht hh hO
      have R4 := getTarget_stepR c3 cT {} slot rfl sc3 rs pool3 ps hs3 hp3 hT
      obtain ⟨scT, poolT, hsT, hpT, _, _⟩ := R4.out
      have R5 := emitSS_stepR cT c4 _ slot head true scT rs poolT ps hsT hpT hEm
      obtain ⟨sc4, pool4, hs4, hp4, _, _⟩ := R5.out
      exact ⟨sc4, pool4, hs4, hp4, (R4.app hs3 hp3 (getTarget_maxR c3 cT {} slot rfl sc3 rs hs3 hT)).trans
        (R5.app hsT hpT (emitW_maxR cT c4 _ scT rs poolT ps hsT hpT (fun e => W_emitSS_max e _ _ _ _) hEm))⟩
  obtain ⟨sc4, pool4, hs4, hp4, A4⟩ := A4
  have R6 := freeslots_stepR slots c4 c5 sc4 rs pool4 ps hs4 hp4 hf1
  obtain ⟨sc5, pool5, hs5, hp5, _, _⟩ := R6.out
  have R7 := freeslot_stepR c5 cq head sc5 rs pool5 ps hs5 hp5 hf2
  exact A3.trans (A4.trans ((R6.app hs4 hp4 (freeslots_maxR slots c4 c5 sc4 rs pool4 ps hs4 hp4 hf1)).trans
    (R7.app hs5 hp5 (freeslot_maxR c5 cq head sc5 rs hs5 hf2))))

/-- an operand of a call raises: the head is a constant, the operands before it ran, what `cCall` compiles afterwards is never reached -/
theorem call_args_err (FF : FloatFacts) (G : String → Prop) (b w : Bool) (fuel : Nat) (CN : CorrectAt p f0 rest V P G (TF G b) w fuel)
    (EN : ErrAny p f0 rest V P G b fuel) (opts : Fopts) (hh : opts.hint = none)
    (f : String) (args : List Expr) (hG : G f) (hTa : ∀ a, a ∈ args → TF G b a)
    (c cq : CState) (slot0 : JSlot) (sc : Scope) (rs : List Scope) (pool : List KConst) (ps : List (List KConst))
    (n : Nat) (pos : Pos) (env : Env) (s s' : SS) (ev : Value) (epos : Pos)
    (hs : c.scopes = sc :: rs) (hp : c.pools = pool :: ps) (hl : c.lim ≤ 240) (htop : sc.top = false) (hm : c.map.length = c.buf.length)
    (hcur : c.cur = pos) (hcc : cCall (cValue fuel) opts (.sym f) args c = some (slot0, cq))
    (hargs : evalArgs n pos env args s = .err ev epos s') (hE : EnvS G c.scopes env s.boxes.size sc.ra) :
    ErrOK p f0 rest V P c cq rs ps env s s' ev epos := by
  obtain ⟨head, c1, slots, c2, c3, c4, c5, h1, h2, h3, hO, hf1, hf2⟩ := cCall_inv (cValue fuel) opts (.sym f) args c cq slot0 hcc
  cases fuel with
  | zero => simp [cValue] at h1
  | succ fuel' =>
  obtain ⟨vals1, kf, _, hc1eq, _, _, _⟩ := head_globalS FF fuel' c c1 head f (by rw [lookupSlot_lk]; exact hE.1 f hG) h1
  subst hc1eq
  have hs1 : ({ c with vals := vals1 } : CState).scopes = sc :: rs := hs
  have hp1 : ({ c with vals := vals1 } : CState).pools = pool :: ps := hp
  have E2 := toSlots_err p f0 rest V P G b w (fuel' + 1) CN EN args hTa { c with vals := vals1 } c2 slots sc rs pool ps n pos env s s' ev epos hs1 hp1
    hl htop hm hcur h2 hargs hE
  have S2 := (toSlots_shape_max G b (fuel' + 1) args hTa { c with vals := vals1 } c2 slots sc rs pool ps hs1 hp1 hm hE.lkl h2).1
  obtain ⟨sc2, pool2, hs2, hp2, ht2, _, _⟩ := S2.out
  have A3 : App c2 cq rs ps :=
    call_rest_app opts hh c2 c3 c4 c5 cq slots slot0 head sc2 rs pool2 ps hs2 hp2 (by rw [ht2]; exact htop) h3 hO hf1 hf2
  obtain ⟨ra', ns, more, seg, segm, hc2, _⟩ := S2
  exact ErrOK.congr (E2.extend seg segm (by rw [hc2]) (by rw [hc2]) A3) (fun _ => rfl) rfl rfl rfl rfl rfl rfl rfl

/-- the source-map entry of the call instruction — the second word after the operands' and the pushes' code — is the cursor -/
theorem curPos_call {q : Pos} {segm2 segm3 : List Pos} {n2 n3 : Nat} (k : Cfg) (regs A : Array Value) (w : World)
    (hmap : MapAt (p.defs.getD f0.defIdx default).smap k.pc (segm2 ++ segm3 ++ [q, q])) (h2 : segm2.length = n2) (h3 : segm3.length = n3) :
    curPos p (inj f0 rest { regs := regs, pc := k.pc + n2 + n3 + 1, args := A, w := w }) = q := by
  rw [inj_curPos]
  have hi : (segm2 ++ segm3 ++ [q, q])[n2 + n3 + 1]? = some q := by
    rw [List.getElem?_append_right (by simp [h2, h3])]
    simp [h2, h3]
  have := hmap (n2 + n3 + 1) q hi
  have e : k.pc + (n2 + n3 + 1) = k.pc + n2 + n3 + 1 := by simp only [Nat.add_assoc]
  rw [e] at this
  show (match (p.defs.getD f0.defIdx default).smap[k.pc + n2 + n3 + 1]? with
    | some (l, c) => ({ line := l, col := c } : Pos) | none => {}) = _
  rw [this]

/-- the application raises AT the call instruction: `cI` is the state the instruction is emitted from (after the target step, if
    any), `HA` the conclusion of `call_at` / `tailcall_at`, `STEP` what the instruction's step does (`callStep` / `tailStep`) -/
theorem err_instr_core (G : String → Prop) (f : String)
    {c c2 c3 cI c4 c5 : CState} {slots : List JSlot} {kf : KConst} {sc : Scope} {rs : List Scope} {pool : List KConst}
    {ps : List (List KConst)} {env env_a : Env} {s s_a : SS} {vs : List Value}
    {ra2 : RA} {ns2 : List SymPair} {more2 : List KConst} {seg2 : List CI} {segm2 : List Pos}
    {ra3 : RA} {more3 : List KConst} {seg3 : List CI} {segm3 : List Pos}
    (X : CallPre p f0 rest V P G f c c2 c3 slots kf sc rs pool ps env env_a s s_a vs ra2 ns2 more2 seg2 segm2 ra3 more3 seg3 segm3)
    (hm : c.map.length = c.buf.length)
    (raI : RA) (hcI : cI = { c3 with scopes := { sc with ra := raI, syms := sc.syms ++ ns2 } :: rs }) (hmaxI : ra3.max ≤ raI.max)
    (STEP : Cfg → StepRes)
    (HA : ∃ (t : Nat) (ra4 : RA) (m4 : List KConst) (seg4 : List CI),
      c4 = { cI with scopes := { sc with ra := ra4, syms := sc.syms ++ ns2 } :: rs, pools := (((pool ++ more2) ++ more3) ++ m4) :: ps,
                     buf := cI.buf ++ seg4, map := cI.map ++ [cI.cur, cI.cur] } ∧
      seg4.length = 2 ∧ raI.max ≤ ra4.max ∧
      ∀ (k : Cfg), CodeAt (p.defs.getD f0.defIdx default).code k.pc seg4 → PrefL (((pool ++ more2) ++ more3) ++ m4) P → ra4.max < k.regs.size →
        litOf V kf = .cfun f →
        Reach p (inj f0 rest k) (inj f0 rest { k with regs := k.regs.setIfInBounds t (.cfun f), pc := k.pc + 1 }) ∧
        step p (inj f0 rest { k with regs := k.regs.setIfInBounds t (.cfun f), pc := k.pc + 1 }) =
          STEP { k with regs := k.regs.setIfInBounds t (.cfun f), pc := k.pc + 1 })
    (n2 : Nat)
    (hSTEP : ∀ (k1 : Cfg) (s s' : SS) (ev : Value) (epos : Pos), k1.w = s.st.world →
      applyFn (n2 + 1) c.cur (.cfun f) k1.args.toList s = .err ev epos s' → curPos p (inj f0 rest k1) = c.cur →
      STEP k1 = .err ev epos (inj f0 rest k1))
    (hna : f ≠ "apply") (hf1 : freeslots c4 slots = some c5)
    (s' : SS) (ev : Value) (epos : Pos) (happ : applyFn (n2 + 1) c.cur (.cfun f) vs s_a = .err ev epos s') :
    ErrOK p f0 rest V P c c5 rs ps env s s' ev epos := by
  obtain ⟨hpos, hst, _⟩ := applyFn_cfun_err n2 c.cur f hna vs s_a s' ev epos happ
  subst hpos hst
  obtain ⟨⟨hc2, hc3, _, _, _, sok2, _, _, _, _, m3', vm3⟩, hlitX, hlenX⟩ := X
  obtain ⟨hlen2, hlen3⟩ := hlenX hm
  obtain ⟨t, ra4, m4, seg4, hc4, hlen4, a4, vm4⟩ := HA
  have hcur3 : c3.cur = c.cur := by rw [hc3, hc2]
  have hcurI : cI.cur = c.cur := by rw [hcI]; exact hcur3
  have hs4 : c4.scopes = { sc with ra := ra4, syms := sc.syms ++ ns2 } :: rs := by rw [hc4]
  obtain ⟨ra5, hc5, hmax5, _⟩ := freeslots_keep (fun _ => False) slots c4 c5 { sc with ra := ra4, syms := sc.syms ++ ns2 } rs hs4
    (by
      intro sl hsl
      rcases sok2 sl hsl with ⟨hcf, _⟩ | ⟨_, hnm, _⟩ | ⟨hcf, hnm, da, hka', _⟩
      · exact Or.inl hcf
      · exact Or.inr (Or.inl hnm)
      · exact Or.inr (Or.inr ⟨hcf, hnm, da, hka', fun h => h⟩)) hf1
  refine ErrOK.of_explicit pool (more2 ++ more3 ++ m4) (seg2 ++ seg3 ++ seg4) (segm2 ++ segm3 ++ [c.cur, c.cur]) ra4.max ?_ ?_ ?_ ?_ ?_
  · rw [hc5, hc4, hcI, hc3, hc2]; simp [List.append_assoc]
  · rw [hc5, hc4, hcurI, hcI, hc3, hc2]; simp [List.append_assoc]
  · rw [hc5, hc4]; simp [List.append_assoc]
  · exact ⟨_, by rw [hc5], hmax5⟩
  · intro k hkw hka hD hcode hmap hpre hV hsz
    have hvals : c5.vals = c2.vals := by rw [hc5, hc4, hcI, hc3]
    rw [hvals] at hV
    have hcodeC : CodeAt (p.defs.getD f0.defIdx default).code (k.pc + seg2.length + seg3.length) seg4 := by
      rw [List.append_assoc] at hcode; exact hcode.right.right
    have hpreC : PrefL (pool ++ more2 ++ more3 ++ m4) P := by
      refine PrefL.trans ⟨[], ?_⟩ hpre; simp [List.append_assoc]
    obtain ⟨regs3, A, rch3, hargs, sz3, _, _, _⟩ :=
      vm3 k hkw hka hD hcode.left (PrefL.trans ⟨m4, by simp [List.append_assoc]⟩ hpre) hV (Nat.lt_of_le_of_lt (Nat.le_trans hmaxI a4) hsz)
    obtain ⟨rch4, hst⟩ := vm4 { regs := regs3, pc := k.pc + seg2.length + seg3.length, args := A, w := s'.st.world } hcodeC hpreC
      (by show ra4.max < regs3.size; rw [sz3]; exact hsz) (hlitX V hV)
    rw [hSTEP { regs := regs3.setIfInBounds t (.cfun f), pc := k.pc + seg2.length + seg3.length + 1, args := A, w := s'.st.world } s' s' ev c.cur rfl
      (by show applyFn (n2 + 1) c.cur (.cfun f) A.toList s' = _; rw [hargs]; exact happ)
      (curPos_call p f0 rest k (regs3.setIfInBounds t (.cfun f)) A s'.st.world hmap hlen2 hlen3)] at hst
    exact ⟨regs3.setIfInBounds t (.cfun f), A, k.pc + seg2.length + seg3.length + 1, Reach.trans rch3 rch4,
      by simp only [Array.size_setIfInBounds]; exact sz3, hst⟩

theorem err_call_core (hP : P.length < 65536)
    (hK : ∀ i, i < P.length → (p.defs.getD f0.defIdx default).consts.getD i .nil = litOf V (P.getD i .nil))
    (G : String → Prop) (f : String) (hna : f ≠ "apply")
    {c c2 c3 cT c4 c5 : CState} {slot0 : JSlot} {slots : List JSlot} {kf : KConst} {sc : Scope} {rs : List Scope} {pool : List KConst}
    {ps : List (List KConst)} {env env_a : Env} {s s_a : SS} {vs : List Value}
    {ra2 : RA} {ns2 : List SymPair} {more2 : List KConst} {seg2 : List CI} {segm2 : List Pos}
    {ra3 : RA} {more3 : List KConst} {seg3 : List CI} {segm3 : List Pos}
    (X : CallPre p f0 rest V P G f c c2 c3 slots kf sc rs pool ps env env_a s s_a vs ra2 ns2 more2 seg2 segm2 ra3 more3 seg3 segm3)
    (hl : c.lim ≤ 240) (hm : c.map.length = c.buf.length)
    (hT : getTarget c3 {} = some (slot0, cT)) (hEm : emitSS cT .call slot0 (cslot kf) true = some c4) (hf1 : freeslots c4 slots = some c5)
    (n2 : Nat) (s' : SS) (ev : Value) (epos : Pos) (happ : applyFn (n2 + 1) c.cur (.cfun f) vs s_a = .err ev epos s') :
    ErrOK p f0 rest V P c c5 rs ps env s s' ev epos := by
  have hc3 := X.hc3
  have hs3 : c3.scopes = { sc with ra := ra3, syms := sc.syms ++ ns2 } :: rs := by rw [hc3]
  have hl3 : c3.lim ≤ 240 := by rw [hc3, X.hc2]; exact hl
  obtain ⟨d, raT, ht, b1, b2, b3, b4, b5, hcT⟩ := getTarget_spec c3 cT slot0 _ rs hs3 hl3 hT
  obtain ⟨t', ra4, m4, seg4, hc4, hlen4, _, a4, _, _, vm4⟩ :=
    call_at p f0 rest V P hP hK cT c4 slot0 (cslot kf) d kf f _ rs ((pool ++ more2) ++ more3) ps (by rw [hcT]) (by rw [hcT, hc3])
      (by rw [hcT]; exact hl3) (by rw [ht]) (by omega) rfl hEm
  exact err_instr_core p f0 rest V P G f (cI := cT) X hm raT hcT b4 (callStep p f0 rest f d) ⟨t', ra4, m4, seg4, hc4, hlen4, a4, vm4⟩ n2
    (fun k1 s s' ev epos hw ha hp => (callStep_err p f0 rest f hna d k1 s s' n2 c.cur ev epos hw ha hp).2.2) hna hf1 s' ev epos happ

/-- the cursor restored at the end of a form does not matter -/
theorem ErrOK.recur {c cq : CState} {q : Pos} {rs : List Scope} {ps : List (List KConst)} {env : Env} {s s' : SS} {ev : Value} {epos : Pos}
    (h : ErrOK p f0 rest V P { c with cur := q } cq rs ps env s s' ev epos) :
    ErrOK p f0 rest V P c { cq with cur := c.cur } rs ps env s s' ev epos :=
  ErrOK.congr h (fun _ => rfl) rfl rfl rfl rfl rfl rfl rfl

end

section
variable (p : Program) (f0 : Frame) (rest : List Frame) (V : Array Value) (P : List KConst)

theorem err_tailcall_core (hP : P.length < 65536)
    (hK : ∀ i, i < P.length → (p.defs.getD f0.defIdx default).consts.getD i .nil = litOf V (P.getD i .nil))
    (G : String → Prop) (f : String) (hna : f ≠ "apply")
    {c c2 c3 c4 c5 : CState} {slots : List JSlot} {kf : KConst} {sc : Scope} {rs : List Scope} {pool : List KConst} {ps : List (List KConst)}
    {env env_a : Env} {s s_a : SS} {vs : List Value} {ra2 : RA} {ns2 : List SymPair} {more2 : List KConst} {seg2 : List CI} {segm2 : List Pos}
    {ra3 : RA} {more3 : List KConst} {seg3 : List CI} {segm3 : List Pos}
    (X : CallPre p f0 rest V P G f c c2 c3 slots kf sc rs pool ps env env_a s s_a vs ra2 ns2 more2 seg2 segm2 ra3 more3 seg3 segm3)
    (hl : c.lim ≤ 240) (hm : c.map.length = c.buf.length)
    (hem : emitS c3 .tailcall (cslot kf) false = some c4) (hf1 : freeslots c4 slots = some c5)
    (n2 : Nat) (s' : SS) (ev : Value) (epos : Pos) (happ : applyFn (n2 + 1) c.cur (.cfun f) vs s_a = .err ev epos s') :
    ErrOK p f0 rest V P c c5 rs ps env s s' ev epos := by
  have hc3 := X.hc3
  have hs3 : c3.scopes = { sc with ra := ra3, syms := sc.syms ++ ns2 } :: rs := by rw [hc3]
  obtain ⟨t, ra4, m4, seg4, hc4, hlen4, _, a4, _, vm4⟩ :=
    tailcall_at p f0 rest V P hP hK c3 c4 (cslot kf) kf f _ rs ((pool ++ more2) ++ more3) ps hs3 (by rw [hc3])
      (by rw [hc3, X.hc2]; exact hl) rfl hem
  exact err_instr_core p f0 rest V P G f (cI := c3) X hm ra3 (cstate_scopes_eta c3 _ rs hs3) (Nat.le_refl _) (tailStep p f0 rest f) ⟨t, ra4, m4, seg4, hc4, hlen4, a4, vm4⟩ n2
    (fun k1 s s' ev epos hw ha hp => (tailStep_err p f0 rest f hna k1 s s' n2 c.cur ev epos hw ha hp).2.2) hna hf1 s' ev epos happ

end

end JanetModel.Compile
