/- C02: target allocation, freeing, resolution in the near case. -/
import JanetModel.Compile.EmitSpec
import JanetModel.Compile.Alloc
namespace JanetModel.Compile
open JanetModel.Emit JanetModel.Lang JanetModel.Bytecode.Exec JanetModel.Gen.Bytecode

/-- `janetc_gettarget` without a hint = `janetc_allocfar`, near case -/
theorem getTarget_spec (c c' : CState) (t : JSlot) (sc : Scope) (rs : List Scope) (hs : c.scopes = sc :: rs) (hl : c.lim ≤ 240)
    (h : getTarget c {} = some (t, c')) :
    ∃ d ra', t = { k := .loc d } ∧ sc.ra.alloc d = false ∧ d ≤ ra'.max ∧ d < c.lim ∧ sc.ra.max ≤ ra'.max ∧
      (∀ j, ra'.alloc j = (if j = d then true else sc.ra.alloc j)) ∧ c' = { c with scopes := { sc with ra := ra' } :: rs } := by
  simp only [getTarget, allocFar, hs] at h
  by_cases hc : (sc.ra.alloc1).1 ≥ c.lim
  · simp [hc] at h
  · simp [hc] at h
    obtain ⟨h1, h2⟩ := h
    -- max after alloc1 is max(old max, r): near only if the old max was; we only need facts about r
    have hr : (sc.ra.alloc1).1 < 240 := by omega
    have hfree : sc.ra.alloc (sc.ra.alloc1).1 = false := by
      have := firstFit_lt_free sc.ra searchFuel 0 (by have : searchFuel = 70000 := rfl; simp only [RA.alloc1] at hr; omega)
      simp only [RA.taken, Bool.or_eq_false_iff] at this
      exact this.1
    refine ⟨(sc.ra.alloc1).1, (sc.ra.alloc1).2, h1.symm, hfree, ?_, by omega, alloc1_max_mono sc.ra, fun j => rfl, h2.symm⟩
    simp only [RA.alloc1, RA.mark]; split <;> omega

theorem freeslot_const (c : CState) (s : JSlot) (h : s.cflag = true) : freeslot c s = some c := by simp [freeslot, h]
theorem freeslot_named (c : CState) (s : JSlot) (h : s.named = true) : freeslot c s = some c := by simp [freeslot, h]
theorem freeslot_loc (c : CState) (s : JSlot) (d : Nat) (sc : Scope) (rs : List Scope) (hs : c.scopes = sc :: rs)
    (h1 : s.cflag = false) (h2 : s.named = false) (hk : s.k = .loc d) :
    freeslot c s = some { c with scopes := { sc with ra := sc.ra.unmark d } :: rs } := by
  simp [freeslot, h1, h2, JSlot.isRef, hk, hs]

/-- the scope search does not look at the allocator -/
theorem searchScopes_ra (x : String) (sc : Scope) (rs : List Scope) (ra : RA) (pos : Nat) (u l : Bool) :
    searchScopes x ({ sc with ra := ra } :: rs) pos u l = searchScopes x (sc :: rs) pos u l := by
  simp only [searchScopes]

end JanetModel.Compile
