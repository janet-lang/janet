/- C02: compile correctness, tail position: "no resolvable name carries the RETURNED flag" (`NR`, Compile/SeqTailRet.lean) across the
   compile of a form of `TF G b` with any options, and the slot of a compile without tail and hint is not flagged (`tf_NR_any`).
   `NR` is an invariant of the compiler state riding on the shape relation (`Rides`, Compile/Closed.lean): most steps keep the
   symbol table, a popped block leaves only invisible pairs, `def` names the value's slot or a fresh register, neither flagged (the
   flag is set by `janetc_return` only, on the copy of the slot it hands back). -/
import JanetModel.Compile.SeqTailRet
namespace JanetModel.Compile
open JanetModel.Emit JanetModel.Lang JanetModel.Bytecode.Exec JanetModel.Gen.Bytecode

theorem nameslot_NR (c : CState) (name : String) (s : JSlot) (sc : Scope) (rs : List Scope) (hs : c.scopes = sc :: rs) (hN : NR c.scopes)
    (hr : s.returned = false) : NR (nameslot c name s).scopes := by
  let pair : SymPair := { name := name, slot := { s with named := true } }
  have hsn : (nameslot c name s).scopes = { sc with syms := sc.syms ++ [pair] } :: rs := by
    simp only [nameslot, hs]
    rfl
  rw [hsn]
  rw [hs] at hN
  intro x slot u l hx
  rw [lk_snoc sc rs pair rfl x] at hx
  cases hb : (pair.name == x) with
  | true =>
    rw [hb] at hx
    simp only [if_true, Option.some.injEq, Prod.mk.injEq] at hx
    obtain ⟨e1, _, _⟩ := hx
    subst e1
    exact hr
  | false =>
    rw [hb] at hx
    simp only [Bool.false_eq_true, if_false] at hx
    exact hN x slot u l hx

theorem NR.of_alloc {G : String → Prop} {c c' : CState} (hI : ShpI G c) (a : AllocStep c c') (hN : NR c.scopes) : NR c'.scopes := by
  obtain ⟨sc, rs, ra', hs, hs', _⟩ := hI.alloc a
  exact hN.of_lk (fun x => by rw [hs', hs]; exact lk_ra sc rs ra' x)

theorem nr_rides (G : String → Prop) :
    Rides (fun n => ¬ G n) (ShpI G) SlotSh (ShpR G) (fun c => NR c.scopes) (fun s => s.returned = false) (fun _ c' => NR c'.scopes) where
  refl _ hN := hN
  trans _ _ _ _ _ h := h
  inv _ _ _ h := h
  icur hN := hN
  curB _ _ _ h := h
  resolve {c c' x sl} hI hN h := by
    obtain ⟨es, _, k⟩ := resolve_kept hI.1 h
    refine ⟨by rw [es]; exact hN, ?_⟩
    rcases k with ⟨kc, e⟩ | ⟨_, _, _, u, hlk⟩
    · rw [e]; rfl
    · exact hN x sl u true hlk
  const _ hN := by rw [(constSlot_kept _ _).1]; exact hN
  kconst := rfl
  emit hI hN hW h := NR.of_alloc hI (.emit hW h) hN
  raw _ hN _ := hN
  far hI hN h := ⟨NR.of_alloc hI (.far h) hN, rfl⟩
  free hI hN _ _ h := NR.of_alloc hI (.free h) hN
  name {c n s d} hI hN _ _ hr _ _ := by
    obtain ⟨_, _, sc, rs, _, _, hs, _⟩ := hI
    exact nameslot_NR c n s sc rs hs hN hr
  push {c un} hI hN := by
    obtain ⟨_, _, sc, rs, _, _, hs, _⟩ := hI
    rw [pushScope_blk c sc rs un hs]
    rw [hs] at hN
    intro x slot u l hx
    rw [lk_push_u (blk c sc un) (sc :: rs) rfl rfl x] at hx
    cases hh : lk (sc :: rs) x with
    | none => rw [hh] at hx; cases hx
    | some r =>
      rw [hh] at hx
      simp only [Option.map_some, Option.some.injEq, Prod.mk.injEq] at hx
      rw [← hx.1]
      exact hN x r.1 r.2.1 r.2.2 hh
  block hI hN a _ h := by
    obtain ⟨_, _, _, _, _, _, _, hlk, _, _⟩ := a.block_out hI h
    exact hN.of_lk hlk
  throw {c c2 c3} hI hN a _ hpop := by
    show NR c3.scopes
    rw [(a.throw_out hI hpop).1]
    exact hN
  patch _ _ _ h _ _ := h

theorem tf_NR_any (G : String → Prop) (b : Bool) (fuel : Nat) (e : Expr) (opts : Fopts) (c c' : CState) (slot : JSlot) (sc : Scope)
    (rs : List Scope) (pool : List KConst) (ps : List (List KConst)) (hs : c.scopes = sc :: rs) (hp : c.pools = pool :: ps)
    (hm : c.map.length = c.buf.length) (hT : TF G b e) (hL : LkL G c.scopes) (hN : NR c.scopes)
    (hc : cValue fuel opts e c = some (slot, c')) : NR c'.scopes ∧ (opts.tail = false → opts.hint = none → slot.returned = false) :=
  have h := tf_closed ((shp_closed G).and (nr_rides G) SlotSh.not_up) b fuel e opts c c' slot hT ⟨ShpI.mk' hL hm hs hp, hN⟩ hc
  ⟨h.1.2, fun ht hh => (h.2 ht hh).2⟩

end JanetModel.Compile
