/- C02: side conditions of `set`, compile side.  A form in which no `(def x …)` occurs leaves `lk · x` alone (`nobind_lk`): the pairs
   it appends to the innermost scope are invisible or not named `x` (`OKs`; a rider on the shape relation, Compile/Closed.lean), so
   `MutInj` is kept when no `def` occurs at all (`tf_mutinj`). -/
import JanetModel.Compile.SeqInv
import JanetModel.Compile.SeqHintDef
namespace JanetModel.Compile
open JanetModel.Emit JanetModel.Lang JanetModel.Bytecode.Exec JanetModel.Gen.Bytecode

/-- every pair is invisible or not named `xn` -/
def OKs (xn : String) (ns : List SymPair) : Prop := ∀ p, p ∈ ns → p.visible = false ∨ p.name ≠ xn

theorem OKs.single {xn : String} (p : SymPair) (h : p.name ≠ xn) : OKs xn [p] := fun q hq => by
  simp only [List.mem_singleton] at hq; rw [hq]; exact Or.inr h

theorem OKs.append {xn : String} {a b : List SymPair} (ha : OKs xn a) (hb : OKs xn b) : OKs xn (a ++ b) := fun p hp => by
  rcases List.mem_append.mp hp with h | h
  · exact ha p h
  · exact hb p h

theorem lk_append_oks (x : String) (rs : List Scope) : ∀ (ns : List SymPair) (sc : Scope), OKs x ns →
    lk ({ sc with syms := sc.syms ++ ns } :: rs) x = lk (sc :: rs) x
  | [], sc, _ => by rw [List.append_nil]
  | p :: ns, sc, h => by
    have e : sc.syms ++ p :: ns = ({ sc with syms := sc.syms ++ [p] } : Scope).syms ++ ns := by simp
    rw [e]
    refine (lk_append_oks x rs ns { sc with syms := sc.syms ++ [p] } (fun q hq => h q (List.mem_cons_of_mem _ hq))).trans ?_
    rcases Bool.eq_false_or_eq_true p.visible with hv | hv
    · rw [lk_snoc sc rs p hv x]
      rcases h p (by simp) with h1 | h1
      · rw [hv] at h1; cases h1
      · rw [if_neg (fun hb => h1 (beq_iff_eq.mp hb))]
    · exact lk_append_invisible sc rs [p] (fun q hq => by rw [List.mem_singleton.mp hq]; exact hv) x

/-- the innermost scope's symbols grew by pairs that are invisible or not named `xn` -/
def SymsApp (xn : String) (c c' : CState) : Prop :=
  ∃ ns, (c'.scopes.headD default).syms = (c.scopes.headD default).syms ++ ns ∧ OKs xn ns

theorem SymsApp.of_scopes {xn : String} {c c' : CState} (h : (c'.scopes.headD default).syms = (c.scopes.headD default).syms) :
    SymsApp xn c c' := ⟨[], by rw [h, List.append_nil], fun _ hp => by cases hp⟩

theorem SymsApp.of_alloc {xn : String} {G : String → Prop} {c c' : CState} (hI : ShpI G c) (a : AllocStep c c') : SymsApp xn c c' := by
  obtain ⟨sc, rs, ra', hs, hs', _⟩ := hI.alloc a
  exact SymsApp.of_scopes (by rw [hs', hs]; rfl)

theorem SymsApp.of_block {xn : String} {G : String → Prop} {c c2 c3 : CState} (hI : ShpI G c)
    (a : ShpR G (pushScope c false false false false) c2) (hpop : popScope c2 = some c3 ∨ ∃ r, popScopeKeep c2 r = some c3) :
    SymsApp xn c c3 := by
  obtain ⟨sc, rs, sc3, hs, hs3, _, ⟨ns, e, hinv⟩, _⟩ := a.block_out hI hpop
  exact ⟨ns, by rw [hs, hs3]; exact e, fun p hp => Or.inl (hinv p hp)⟩

theorem symsapp_rides (G : String → Prop) (xn : String) :
    Rides (fun n => ¬ G n ∧ ¬ n = xn) (ShpI G) SlotSh (ShpR G) (fun _ => True) (fun _ => True) (SymsApp xn) where
  refl _ _ := SymsApp.of_scopes rfl
  trans _ _ _ _ h1 h2 := by
    obtain ⟨n1, e1, o1⟩ := h1
    obtain ⟨n2, e2, o2⟩ := h2
    exact ⟨n1 ++ n2, by rw [e2, e1, List.append_assoc], o1.append o2⟩
  inv _ _ _ _ := trivial
  icur _ := trivial
  curB _ _ _ h := h
  resolve hI _ h := ⟨SymsApp.of_scopes (by rw [(resolve_kept hI.1 h).1]), trivial⟩
  const _ _ := SymsApp.of_scopes (by rw [(constSlot_kept _ _).1])
  kconst := trivial
  emit hI _ hW h := SymsApp.of_alloc hI (.emit hW h)
  raw _ _ _ := SymsApp.of_scopes rfl
  far hI _ h := ⟨SymsApp.of_alloc hI (.far h), trivial⟩
  free hI _ _ _ h := SymsApp.of_alloc hI (.free h)
  name {c n s d} hI _ hD _ _ _ _ := by
    obtain ⟨_, _, sc, rs, _, _, hs, _⟩ := hI
    exact ⟨_, by rw [nameslot_scopes c n s sc rs hs, hs]; rfl, OKs.single _ hD.2⟩
  push _ _ := trivial
  block hI _ a _ h := SymsApp.of_block hI a h
  throw {c c2 c3} hI _ a _ hpop := SymsApp.of_scopes (by
    show (c3.scopes.headD default).syms = _
    rw [(a.throw_out hI hpop).1])
  patch _ _ _ h _ _ := h

/-- a form of the fragment without `(def x …)`, compiled with any options, leaves `lk · x` alone -/
theorem nobind_lk (G : String → Prop) (b : Bool) (x : String) (fuel : Nat) (e : Expr) (opts : Fopts) (c c' : CState) (slot : JSlot) (sc : Scope)
    (rs : List Scope) (pool : List KConst) (ps : List (List KConst)) (hs : c.scopes = sc :: rs) (hp : c.pools = pool :: ps)
    (hm : c.map.length = c.buf.length) (hT : TF G b e) (hN : NoBind x e) (hL : LkL G c.scopes) (hc : cValue fuel opts e c = some (slot, c')) :
    lk c'.scopes x = lk c.scopes x := by
  have h := tf_closedN (X := fun y => y = x) (((shp_closed G).of_D (fun _ h => h.1)).and (symsapp_rides G x) SlotSh.not_up) b fuel e opts c c'
    slot ⟨hT, fun y hy => hy ▸ hN⟩ ⟨ShpI.mk' hL hm hs hp, trivial⟩ hc
  obtain ⟨ra', nsyms, more, seg, segm, hc', _⟩ := h.1.1 sc rs pool ps hs hp
  obtain ⟨ns, e1, ho⟩ := h.1.2
  have hs' : c'.scopes = { sc with ra := ra', syms := sc.syms ++ nsyms } :: rs := by rw [hc']
  rw [hs', hs] at e1
  have e2 : nsyms = ns := List.append_cancel_left e1
  rw [hs', hs, e2]
  exact (lk_append_oks x rs ns { sc with ra := ra' } ho).trans (lk_ra sc rs ra' x)

theorem MutInj.of_lkEq {scs scs' : List Scope} (h : LkEq scs' scs) (hM : MutInj scs) : MutInj scs' := by
  intro x y slx sly ux lx uy ly h1 h2 hm hk
  obtain ⟨_, h1'⟩ := h.found h1
  obtain ⟨_, h2'⟩ := h.found h2
  exact hM x y slx sly _ lx _ ly h1' h2' hm hk

theorem tf_mutinj (G : String → Prop) (b : Bool) (fuel : Nat) (e : Expr) (opts : Fopts) (c c' : CState) (slot : JSlot) (sc : Scope)
    (rs : List Scope) (pool : List KConst) (ps : List (List KConst))
    (ht : opts.tail = false) (hh : opts.hint = none) (hs : c.scopes = sc :: rs) (hp : c.pools = pool :: ps) (htop : sc.top = false)
    (hm : c.map.length = c.buf.length) (hT : TF G b e) (hN : ∀ x, NoBind x e) (hL : LkL G c.scopes) (hc : cValue fuel opts e c = some (slot, c'))
    (hM : MutInj c.scopes) : MutInj c'.scopes :=
  MutInj.of_lkEq (LkEq.of_eq (fun x => nobind_lk G b x fuel e opts c c' slot sc rs pool ps hs hp hm hT (hN x) hL hc)) hM

end JanetModel.Compile
