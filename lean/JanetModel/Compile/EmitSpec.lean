/- C02: `emitW` on the compiler state (`emitW_spec`) and what the allocator's operations do to `max`; the emit wrappers on
   constant and near-local operands are in Compile/SeqPush.lean. -/
import JanetModel.Compile.Model
namespace JanetModel.Compile
open JanetModel.Emit JanetModel.Gen.Bytecode

theorem allocTemp_max_ge (ra : RA) (tag : Nat) : (ra.allocTemp tag).1 ≤ (ra.allocTemp tag).2.max := by
  simp only [RA.allocTemp, RA.alloc1]
  split
  · dsimp only; split <;> omega
  · dsimp only [RA.mark]; split <;> omega

theorem allocTemp_max_mono (ra : RA) (tag : Nat) : ra.max ≤ (ra.allocTemp tag).2.max := by
  simp only [RA.allocTemp, RA.alloc1]
  split
  · dsimp only; split <;> omega
  · dsimp only [RA.mark]; split <;> omega

theorem alloc1_max_mono (ra : RA) : ra.max ≤ (ra.alloc1).2.max := by
  simp only [RA.alloc1, RA.mark]; split <;> omega

theorem freeTemp_max (ra : RA) (r tag : Nat) : (ra.freeTemp r tag).max = ra.max := by
  simp only [RA.freeTemp]; split <;> rfl

theorem mark_max (ra : RA) (r : Nat) : (ra.mark r).max = ra.max := rfl
theorem unmark_max (ra : RA) (r : Nat) : (ra.unmark r).max = ra.max := rfl

theorem emitW_spec (c c' : CState) (f : Emit.C → Emit.C) (sc : Scope) (rs : List Scope) (pool : List KConst) (ps : List (List KConst))
    (hs : c.scopes = sc :: rs) (hp : c.pools = pool :: ps) (h : emitW c f = some c') :
    (f { ra := sc.ra, buf := [], consts := pool }).ra.max < c.lim ∧
    c' = { c with scopes := { sc with ra := (f { ra := sc.ra, buf := [], consts := pool }).ra } :: rs,
                  pools := (f { ra := sc.ra, buf := [], consts := pool }).consts :: ps,
                  buf := c.buf ++ (f { ra := sc.ra, buf := [], consts := pool }).buf.map CI.mi,
                  map := c.map ++ (f { ra := sc.ra, buf := [], consts := pool }).buf.map (fun _ => c.cur) } := by
  unfold emitW at h
  rw [hs, hp] at h
  simp only at h
  by_cases hc : (f { ra := sc.ra, buf := [], consts := pool }).ra.max ≥ c.lim
  · rw [if_pos hc] at h; exact absurd h (by simp)
  · rw [if_neg hc] at h
    exact ⟨by omega, (Option.some.inj h).symm⟩

theorem freeNear_max (ra : RA) (s : Slot) (r tag : Nat) : (W.freeNear ra s r tag).max = ra.max := by
  simp only [W.freeNear]; split
  · rfl
  · exact freeTemp_max ra r tag

theorem slotConst_const (pool : List KConst) (k : KConst) :
    (W.slotConst (.const k)).foldl W.intern pool = (if k.pooled then W.intern pool k else pool) := by
  simp only [W.slotConst]; split <;> rfl

/-- `janetc_emit_s(c, op, near local, 0)`: just the payload -/
theorem emitS_local (c c' : CState) (op : Op) (s : JSlot) (i : Nat) (hk : s.k = .loc i)
    (sc : Scope) (rs : List Scope) (pool : List KConst) (ps : List (List KConst))
    (hs : c.scopes = sc :: rs) (hp : c.pools = pool :: ps) (h : emitS c op s false = some c') :
    sc.ra.max < c.lim ∧
    c' = { c with scopes := sc :: rs, pools := pool :: ps, buf := c.buf ++ [CI.mi (.pay op.toNat .s false [i] 0)], map := c.map ++ [c.cur] } := by
  unfold emitS at h
  rw [hk] at h
  obtain ⟨hmax, hc'⟩ := emitW_spec c c' _ sc rs pool ps hs hp h
  have hX : W.emitS { ra := sc.ra, buf := [], consts := pool } op.toNat false (.loc i) =
      { ra := sc.ra, buf := [.pay op.toNat .s false [i] 0], consts := pool } := by
    simp [W.emitS, W.farTemp, Slot.isLocal, W.backTemp, W.freeNear, Slot.index, W.slotConst, W.finish, Emit.emitS, regfar, wb]
  rw [hX] at hmax hc'
  exact ⟨hmax, by rw [hc']; simp⟩

end JanetModel.Compile
