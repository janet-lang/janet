/- C02: what `Lang/Sem` does to the environment and the box store across a form of the fragment `TF G b`, in one theorem
   (`tf_ext`): the outcome is never `.brk` (no `break` in the fragment; a call applies a core function, the call heads being
   unbound), and an `.ok` outcome's environment is the old one with bindings on top — of names some `def` of the form binds, none
   a call head, in boxes allocated since, newest first — over a box store that only grew.  The no-`.brk` fact (the `while` case: a
   loop of the fragment ends only through its condition), the `set` side conditions and box injectivity are read off it. -/
import JanetModel.Compile.SeqIfSem
import JanetModel.Compile.SeqCorrect
import JanetModel.Compile.SemCall
import JanetModel.Compile.SeqSpec
namespace JanetModel.Compile
open JanetModel.Emit JanetModel.Lang JanetModel.Bytecode.Exec JanetModel.Gen.Bytecode

/-- no `.brk`, and an `.ok` result's environment keeps the call heads unbound -/
def NBG {α : Type} (G : String → Prop) (r : R (α × Env)) : Prop :=
  (∀ v s, r ≠ .brk v s) ∧ (∀ a env' s, r = .ok (a, env') s → GFree G env')

theorem NBG.ok {α : Type} {G : String → Prop} (a : α) (env : Env) (s : SS) (h : GFree G env) : NBG G (.ok (a, env) s : R (α × Env)) :=
  ⟨fun _ _ => by simp, fun a' env' s' e => by simp only [R.ok.injEq, Prod.mk.injEq] at e; rw [← e.1.2]; exact h⟩

theorem NBG.err {α : Type} {G : String → Prop} (v : Value) (p : Pos) (s : SS) : NBG G (.err v p s : R (α × Env)) :=
  ⟨fun _ _ => by simp, fun _ _ _ e => by simp at e⟩

theorem NBG.stop {α : Type} {G : String → Prop} (w : String) : NBG G (.stop w : R (α × Env)) :=
  ⟨fun _ _ => by simp, fun _ _ _ e => by simp at e⟩

theorem applyFn_cfun_nb (n : Nat) (pos : Pos) (f : String) (hna : f ≠ "apply") (vs : List Value) (s : SS) (v : Value) (s' : SS) :
    applyFn n pos (.cfun f) vs s ≠ .brk v s' := by
  cases n with
  | zero => simp [applyFn]
  | succ n =>
    rw [applyFn_cfun n pos f hna]
    cases callPrimW f vs s.st.world with
    | ok a => obtain ⟨v', w'⟩ := a; simp
    | rt => simp
    | user e => simp
    | unsup w => simp

theorem lookupEnv_append (x : String) : ∀ (added env : Env), (∀ a, (x, a) ∉ added) → lookupEnv (added ++ env) x = lookupEnv env x
  | [], _, _ => rfl
  | (y, a) :: t, env, h => by
    have hne : (y == x) = false := by
      cases hb : (y == x) with
      | false => rfl
      | true => exact absurd (by rw [beq_iff_eq.mp hb]; exact List.mem_cons_self) (h a)
    simp only [List.cons_append, lookupEnv, hne, Bool.false_eq_true, if_false]
    exact lookupEnv_append x t env (fun a' h' => h a' (List.mem_cons_of_mem _ h'))

/-- bindings a form may add: of names that are not call heads and not in `B` (the names the form binds nowhere), in boxes
    `lo ≤ a < hi`, the newest (first) in the highest box -/
def Adds (G B : String → Prop) (lo hi : Nat) (added : Env) : Prop :=
  (∀ y a, (y, a) ∈ added → ¬ G y ∧ ¬ B y ∧ lo ≤ a ∧ a < hi) ∧ added.Pairwise (fun p q => q.2 < p.2)

theorem Adds.nil {G B : String → Prop} {lo hi : Nat} : Adds G B lo hi [] := ⟨fun _ _ h => (by cases h), List.Pairwise.nil⟩

theorem Adds.mono {G B B' : String → Prop} {lo lo' hi hi' : Nat} {added : Env} (h : Adds G B lo hi added) (hB : ∀ y, B' y → B y)
    (hlo : lo' ≤ lo) (hhi : hi ≤ hi') : Adds G B' lo' hi' added :=
  ⟨fun y a hy => by
    obtain ⟨h1, h2, h3, h4⟩ := h.1 y a hy
    exact ⟨h1, fun hb => h2 (hB y hb), by omega, by omega⟩, h.2⟩

theorem Adds.append {G B : String → Prop} {lo mid hi : Nat} {a2 a1 : Env} (h2 : Adds G B mid hi a2) (h1 : Adds G B lo mid a1)
    (hlm : lo ≤ mid) (hmh : mid ≤ hi) : Adds G B lo hi (a2 ++ a1) := by
  refine ⟨fun y a hy => ?_, List.pairwise_append.mpr ⟨h2.2, h1.2, fun p hp q hq => ?_⟩⟩
  · rcases List.mem_append.mp hy with h | h
    · exact (h2.mono (fun _ hb => hb) hlm (Nat.le_refl _)).1 y a h
    · exact (h1.mono (fun _ hb => hb) (Nat.le_refl _) hmh).1 y a h
  · have := (h2.1 p.1 p.2 hp).2.2.1
    have := (h1.1 q.1 q.2 hq).2.2.2
    omega

/-- `Lang/Sem.bind`: the next box -/
theorem Adds.cons {G B : String → Prop} {lo nb : Nat} {a1 : Env} (x : String) (hG : ¬ G x) (hB : ¬ B x) (h1 : Adds G B lo nb a1)
    (hle : lo ≤ nb) : Adds G B lo (nb + 1) ((x, nb) :: a1) :=
  Adds.append (a2 := [(x, nb)]) ⟨fun y a hy => by
    simp only [List.mem_singleton, Prod.mk.injEq] at hy
    rw [hy.1, hy.2]
    exact ⟨hG, hB, Nat.le_refl _, Nat.lt_succ_self _⟩, List.pairwise_singleton _ _⟩ h1 hle (Nat.le_succ _)

theorem Adds.gfree {G B : String → Prop} {lo hi : Nat} {added env : Env} (h : Adds G B lo hi added) (hg : GFree G env) :
    GFree G (added ++ env) := fun f hf => by
  rw [lookupEnv_append f added env (fun a ha => (h.1 f a ha).1 hf)]
  exact hg f hf

/-- an outcome of the fragment seen from `env`, `s`: never `.brk`; if `.ok`, the store grew and the environment is `env` with `Adds` on top -/
def Ext {α : Type} (G B : String → Prop) (env : Env) (s : SS) (r : R (α × Env)) : Prop :=
  (∀ v s', r ≠ .brk v s') ∧
  ∀ a env' s', r = .ok (a, env') s' → s.boxes.size ≤ s'.boxes.size ∧ ∃ added, env' = added ++ env ∧ Adds G B s.boxes.size s'.boxes.size added

section
variable {α : Type} {G B : String → Prop} {env : Env} {s : SS}

theorem Ext.ok (a : α) {env' : Env} {s' : SS} (hle : s.boxes.size ≤ s'.boxes.size) (added : Env) (he : env' = added ++ env)
    (hA : Adds G B s.boxes.size s'.boxes.size added) : Ext G B env s (.ok (a, env') s' : R (α × Env)) :=
  ⟨fun _ _ => by simp, fun a' e' s2 h => by
    simp only [R.ok.injEq, Prod.mk.injEq] at h
    rw [← h.1.2, ← h.2]
    exact ⟨hle, added, he, hA⟩⟩

/-- the environment handed back is the one at entry (`do`, `if`, atoms) -/
theorem Ext.same (a : α) {s' : SS} (hle : s.boxes.size ≤ s'.boxes.size) : Ext G B env s (.ok (a, env) s' : R (α × Env)) :=
  Ext.ok a hle [] rfl Adds.nil

theorem Ext.err (v : Value) (p : Pos) (s' : SS) : Ext G B env s (.err v p s' : R (α × Env)) :=
  ⟨fun _ _ => by simp, fun _ _ _ e => by simp at e⟩

theorem Ext.stop (w : String) : Ext G B env s (.stop w : R (α × Env)) :=
  ⟨fun _ _ => by simp, fun _ _ _ e => by simp at e⟩

theorem Ext.mono {B' : String → Prop} {r : R (α × Env)} (h : Ext G B env s r) (hB : ∀ y, B' y → B y) : Ext G B' env s r :=
  ⟨h.1, fun a env' s' hr => by
    obtain ⟨hle, added, he, hA⟩ := h.2 a env' s' hr
    exact ⟨hle, added, he, hA.mono hB (Nat.le_refl _) (Nat.le_refl _)⟩⟩

theorem Ext.after {env1 : Env} {s1 : SS} {r : R (α × Env)} (h1 : s.boxes.size ≤ s1.boxes.size) (a1 : Env) (he1 : env1 = a1 ++ env)
    (hA1 : Adds G B s.boxes.size s1.boxes.size a1) (h2 : Ext G B env1 s1 r) : Ext G B env s r :=
  ⟨h2.1, fun a env' s' hr => by
    obtain ⟨hle, a2, he, hA2⟩ := h2.2 a env' s' hr
    exact ⟨Nat.le_trans h1 hle, a2 ++ a1, by rw [he, he1, List.append_assoc], hA2.append hA1 h1 hle⟩⟩

theorem Ext.nbg {r : R (α × Env)} (h : Ext G B env s r) (hg : GFree G env) : NBG G r :=
  ⟨h.1, fun a env' s' hr => by
    obtain ⟨_, added, he, hA⟩ := h.2 a env' s' hr
    rw [he]; exact hA.gfree hg⟩

end

/-- the three evaluators of `Lang/Sem` on the fragment, at a given fuel; `B`: the names no `def` of the form(s) binds -/
def ExtAll (G : String → Prop) (b : Bool) (n : Nat) : Prop :=
  (∀ cur env e s, GFree G env → TF G b e → Ext G (fun y => NoBind y e) env s (eval n cur env e s)) ∧
  (∀ cur env body s, GFree G env → (∀ e, e ∈ body → TF G b e) → Ext G (fun y => ∀ e, e ∈ body → NoBind y e) env s (evalSeq n cur env body s)) ∧
  (∀ cur env args s, GFree G env → (∀ e, e ∈ args → TF G b e) → Ext G (fun y => ∀ e, e ∈ args → NoBind y e) env s (evalArgs n cur env args s))

theorem tf_ext (G : String → Prop) (b : Bool) : ∀ n, ExtAll G b n := by
  intro n
  induction n with
  | zero =>
    refine ⟨fun cur env e s _ _ => ?_, fun cur env body s _ _ => ?_, fun cur env args s _ _ => ?_⟩
    · simp only [eval]; exact Ext.stop _
    · simp only [evalSeq]; exact Ext.stop _
    · simp only [evalArgs]; exact Ext.stop _
  | succ n ih =>
    obtain ⟨ihE, ihS, ihA⟩ := ih
    refine ⟨fun cur env e s hg hT => ?_, fun cur env body s hg hT => ?_, fun cur env args s hg hT => ?_⟩
    · cases hT with
      | lit w hw => rw [eval_lit]; exact Ext.same _ (Nat.le_refl _)
      | sym x =>
        cases hl : lookupEnv env x with
        | none => rw [eval_sym_global n cur env x s hl]; exact Ext.same _ (Nat.le_refl _)
        | some a => rw [eval_sym_local n cur env x s a hl]; exact Ext.same _ (Nat.le_refl _)
      | call f args p hf hna hG hTa =>
        rw [eval_call n cur env f args p s hf]
        cases n with
        | zero => simp only [eval]; exact Ext.stop _
        | succ n' =>
          rw [eval_sym_global n' _ env f s (hg f hG)]
          simp only
          have hA := (ihA (posOf cur p) env args s hg hTa).mono (B' := fun y => NoBind y (.form (.sym f :: args) p))
            (fun y hy e he => hy.sub (List.mem_cons_of_mem _ he))
          cases he : evalArgs (n' + 1) (posOf cur p) env args s with
          | ok r s2 =>
            obtain ⟨vs, env2⟩ := r
            simp only
            obtain ⟨hle, added, hen, hAd⟩ := hA.2 vs env2 s2 he
            cases ha : applyFn (n' + 1) (posOf cur p) (.cfun f) vs s2 with
            | ok v s3 =>
              have hbx : s3.boxes = s2.boxes := applyFn_cfun_boxes n' (posOf cur p) f hna vs s2 s3 v ha
              exact Ext.ok _ (by rw [hbx]; exact hle) added hen (by rw [hbx]; exact hAd)
            | err v q s3 => exact Ext.err _ _ _
            | brk v s3 => exact absurd ha (applyFn_cfun_nb _ _ f hna vs s2 v s3)
            | stop w => exact Ext.stop _
          | err v q s2 => exact Ext.err _ _ _
          | brk v s2 => exact absurd he (hA.1 v s2)
          | stop w => exact Ext.stop _
      | doo body p hTb =>
        rw [eval_do]
        have hS := ihS (posOf cur p) env body s hg hTb
        cases he : evalSeq n (posOf cur p) env body s with
        | ok r s2 => obtain ⟨v, envb⟩ := r; exact Ext.same _ (hS.2 v envb s2 he).1
        | err v q s2 => exact Ext.err _ _ _
        | brk v s2 => exact absurd he (hS.1 v s2)
        | stop w => exact Ext.stop _
      | ups body p hTb =>
        rw [eval_upscope]
        exact (ihS (posOf cur p) env body s hg hTb).mono (fun y hy e he => hy.sub (List.mem_cons_of_mem _ he))
      | deff x ve p hGx hTv =>
        rw [eval_def]
        have hV := (ihE (posOf cur p) env ve s hg hTv).mono (B' := fun y => NoBind y (.form [.sym "def", .sym x, ve] p))
          (fun y hy => hy.sub (by simp))
        cases he : eval n (posOf cur p) env ve s with
        | ok r s2 =>
          obtain ⟨v, env1⟩ := r
          simp only
          obtain ⟨hle, added, hen, hAd⟩ := hV.2 v env1 s2 he
          cases n with
          | zero => simp only [destructure]; exact Ext.stop _
          | succ n' =>
            simp only [destructure, Lang.bind]
            refine Ext.ok _ (by simp only [Array.size_push]; omega) ((x, s2.boxes.size) :: added) (by rw [hen]; rfl) ?_
            simp only [Array.size_push]
            exact Adds.cons x hGx (fun hb => hb.name rfl) hAd hle
        | err v q s2 => exact Ext.err _ _ _
        | brk v s2 => exact absurd he (hV.1 v s2)
        | stop w => exact Ext.stop _
      | iff cnd tb rest p hb hok hlen hTc hTt hTe =>
        rw [eval_if]
        have hC := ihE (posOf cur p) env cnd s hg hTc
        cases he : eval n (posOf cur p) env cnd s with
        | ok r s2 =>
          obtain ⟨cv, cenv⟩ := r
          simp only
          obtain ⟨hlec, added, hen, hAd⟩ := hC.2 cv cenv s2 he
          have hgc : GFree G cenv := by rw [hen]; exact hAd.gfree hg
          have hbr : ∀ br, (if truthy cv then (tb :: rest).head? else ((tb :: rest).drop 1).head?) = some br → TF G b br := by
            intro br hbr
            by_cases ht : truthy cv = true
            · rw [if_pos ht] at hbr
              simp only [List.head?_cons, Option.some.injEq] at hbr
              rw [← hbr]; exact hTt
            · rw [if_neg ht] at hbr
              simp only [List.drop_succ_cons, List.drop_zero] at hbr
              exact hTe br (List.mem_of_mem_head? hbr)
          cases hsel : (if truthy cv then (tb :: rest).head? else ((tb :: rest).drop 1).head?) with
          | none => exact Ext.same _ hlec
          | some br =>
            simp only
            have hB := ihE (posOf cur p) cenv br s2 hgc (hbr br hsel)
            cases hbe : eval n (posOf cur p) cenv br s2 with
            | ok r3 s3 => obtain ⟨v, envx⟩ := r3; exact Ext.same _ (Nat.le_trans hlec (hB.2 v envx s3 hbe).1)
            | err v q s3 => exact Ext.err _ _ _
            | brk v s3 => exact absurd hbe (hB.1 v s3)
            | stop w => exact Ext.stop _
        | err v q s2 => exact Ext.err _ _ _
        | brk v s2 => exact absurd he (hC.1 v s2)
        | stop w => exact Ext.stop _
    · cases body with
      | nil => simp only [evalSeq]; exact Ext.same _ (Nat.le_refl _)
      | cons e t =>
        cases t with
        | nil => simp only [evalSeq]; exact (ihE cur env e s hg (hT e (by simp))).mono (fun y hy => hy e (by simp))
        | cons y r =>
          simp only [evalSeq]
          have hE1 := (ihE cur env e s hg (hT e (by simp))).mono (B' := fun z => ∀ e', e' ∈ e :: y :: r → NoBind z e') (fun z hz => hz e (by simp))
          cases he : eval n cur env e s with
          | ok r1 s1 =>
            obtain ⟨v1, env1⟩ := r1
            obtain ⟨hle, added, hen, hAd⟩ := hE1.2 v1 env1 s1 he
            exact Ext.after hle added hen hAd ((ihS cur env1 (y :: r) s1 (by rw [hen]; exact hAd.gfree hg)
              (fun e' he' => hT e' (by simp [he']))).mono (fun z hz e' he' => hz e' (by simp [he'])))
          | err v q s1 => exact Ext.err _ _ _
          | brk v s1 => exact absurd he (hE1.1 v s1)
          | stop w => exact Ext.stop _
    · cases args with
      | nil => simp only [evalArgs]; exact Ext.same _ (Nat.le_refl _)
      | cons e t =>
        simp only [evalArgs, (hT e (by simp)).notSplice]
        have hE1 := (ihE cur env e s hg (hT e (by simp))).mono (B' := fun z => ∀ e', e' ∈ e :: t → NoBind z e') (fun z hz => hz e (by simp))
        cases he : eval n cur env e s with
        | ok r1 s1 =>
          obtain ⟨v1, env1⟩ := r1
          simp only
          obtain ⟨hle, added, hen, hAd⟩ := hE1.2 v1 env1 s1 he
          have hA := Ext.after hle added hen hAd ((ihA cur env1 t s1 (by rw [hen]; exact hAd.gfree hg)
            (fun e' he' => hT e' (by simp [he']))).mono (B' := fun z => ∀ e', e' ∈ e :: t → NoBind z e') (fun z hz e' he' => hz e' (by simp [he'])))
          cases ha : evalArgs n cur env1 t s1 with
          | ok r2 s2 =>
            obtain ⟨vs, env2⟩ := r2
            obtain ⟨hle2, a2, hen2, hAd2⟩ := hA.2 vs env2 s2 ha
            exact Ext.ok _ hle2 a2 hen2 hAd2
          | err v q s2 => exact Ext.err _ _ _
          | brk v s2 => exact absurd ha (hA.1 v s2)
          | stop w => exact Ext.stop _
        | err v q s1 => exact Ext.err _ _ _
        | brk v s1 => exact absurd he (hE1.1 v s1)
        | stop w => exact Ext.stop _

/-- no `.brk`, and the call heads stay unbound -/
def NBAll (G : String → Prop) (b : Bool) (n : Nat) : Prop :=
  (∀ cur env e s, GFree G env → TF G b e → NBG G (eval n cur env e s)) ∧
  (∀ cur env body s, GFree G env → (∀ e, e ∈ body → TF G b e) → NBG G (evalSeq n cur env body s)) ∧
  (∀ cur env args s, GFree G env → (∀ e, e ∈ args → TF G b e) → NBG G (evalArgs n cur env args s))

theorem tf_nball (G : String → Prop) (b : Bool) (n : Nat) : NBAll G b n :=
  ⟨fun cur env e s hg hT => ((tf_ext G b n).1 cur env e s hg hT).nbg hg,
   fun cur env body s hg hT => ((tf_ext G b n).2.1 cur env body s hg hT).nbg hg,
   fun cur env args s hg hT => ((tf_ext G b n).2.2 cur env args s hg hT).nbg hg⟩

theorem tf_eval_nobrk (G : String → Prop) (b : Bool) (n : Nat) (cur : Pos) (env : Env) (e : Expr) (s : SS) (v : Value) (s' : SS)
    (hg : ∀ f, G f → lookupEnv env f = none) (hT : TF G b e) : eval n cur env e s ≠ .brk v s' :=
  ((tf_nball G b n).1 cur env e s hg hT).1 v s'

end JanetModel.Compile
