/- C02: a call of a global core function compiled in tail position (`janetc_call` with JANET_FOPTS_TAIL in a non-top scope):
   operands and pushes as in the non-tail case, then JOP_TAILCALL of the constant callee — no target register; the result slot is
   the constant nil flagged RETURNED, so `janetc_value` emits no RETURN.  On the VM the TAILCALL of a core function runs it on the
   pending arguments and returns its result from the activation. -/
import JanetModel.Compile.SeqPush
namespace JanetModel.Compile
open JanetModel.Emit JanetModel.Lang JanetModel.Bytecode.Exec JanetModel.Gen.Bytecode

theorem cReturn_returned (c : CState) (s : JSlot) (h : s.returned = true) : cReturn c s = some (s, c) := by
  simp [cReturn, h]

theorem tailcall_word (t : Nat) : (CI.mi (.pay Op.tailcall.toNat .s false [t] 0)).word = (CI.tailcall t).word := by
  simp [CI.word, MI.word]

/-- JOP_TAILCALL of a core function: it runs on the pending arguments and its result is returned from the activation -/
theorem doTailcall_cfun (p : Program) (st : State) (name : String) :
    doTailcall p st (.cfun name) =
      (match callPrimW name st.args.toList st.world with
       | .ok (v, w) => doReturn p (({ st with args := #[] } : State).withWorld w) v
       | .rt => raise p st JanetModel.Bytecode.Exec.rtErr
       | .user e => raise p st e
       | .unsup why => .unsup why) := by
  simp only [doTailcall, callPrim, JanetModel.Bytecode.Exec.liftP]
  have hw : ({ st with args := #[] } : State).world = st.world := rfl
  rw [hw]
  cases callPrimW name st.args.toList st.world with
  | ok a => cases a; rfl
  | rt => rfl
  | user e => rfl
  | unsup why => rfl


section
variable (p : Program) (f0 : Frame) (rest : List Frame) (V : Array Value) (P : List KConst)

/-- the step `JOP_TAILCALL t` takes from `k1` when register `t` holds the core function `f`: what `callPrimW` says -/
def tailStep (f : String) (k1 : Cfg) : StepRes :=
  match callPrimW f k1.args.toList k1.w with
  | .ok (v, w) => doReturn p (inj f0 rest { k1 with args := #[], w := w }) v
  | .rt => .err JanetModel.Bytecode.Exec.rtErr (curPos p (inj f0 rest k1)) (inj f0 rest k1)
  | .user e => .err e (curPos p (inj f0 rest k1)) (inj f0 rest k1)
  | .unsup why => .unsup why

theorem tailStep_ok (f : String) (hna : f ≠ "apply") (k1 : Cfg) (s s' : SS) (n : Nat) (pos : Pos) (v : Value) (hw : k1.w = s.st.world)
    (happ : applyFn (n + 1) pos (.cfun f) k1.args.toList s = .ok v s') :
    tailStep p f0 rest f k1 = doReturn p (inj f0 rest { k1 with args := #[], w := s'.st.world }) v := by
  rw [applyFn_cfun n pos f hna, ← hw] at happ
  unfold tailStep
  cases hcp : callPrimW f k1.args.toList k1.w with
  | rt => rw [hcp] at happ; exact absurd happ (by simp)
  | user e => rw [hcp] at happ; exact absurd happ (by simp)
  | unsup why => rw [hcp] at happ; exact absurd happ (by simp)
  | ok a =>
    obtain ⟨v', w'⟩ := a
    rw [hcp] at happ
    simp only [R.ok.injEq] at happ
    obtain ⟨hv, hs'⟩ := happ
    subst hv
    have : s'.st.world = w' := by rw [← hs']; rfl
    rw [this]

theorem tailStep_err (f : String) (hna : f ≠ "apply") (k1 : Cfg) (s s' : SS) (n : Nat) (pos : Pos) (ev : Value) (epos : Pos)
    (hw : k1.w = s.st.world) (happ : applyFn (n + 1) pos (.cfun f) k1.args.toList s = .err ev epos s')
    (hpos : curPos p (inj f0 rest k1) = pos) :
    epos = pos ∧ s' = s ∧ tailStep p f0 rest f k1 = .err ev epos (inj f0 rest k1) := by
  obtain ⟨h1, h2, hraise⟩ := applyFn_cfun_err n pos f hna k1.args.toList s s' ev epos happ
  refine ⟨h1, h2, ?_⟩
  rw [← hw] at hraise
  unfold tailStep
  rcases hraise with ⟨hcp, hev⟩ | hcp
  · rw [hcp, hev, hpos, h1]; rfl
  · rw [hcp, hpos, h1]

/-- `JOP_TAILCALL` of a constant core function, up to the instruction: the VM reaches the configuration AT the TAILCALL, whose
    step is `tailStep` -/
theorem tailcall_at (hP : P.length < 65536)
    (hK : ∀ i, i < P.length → (p.defs.getD f0.defIdx default).consts.getD i .nil = litOf V (P.getD i .nil))
    (c c4 : CState) (head : JSlot) (kf : KConst) (f : String)
    (sc : Scope) (rs : List Scope) (pool : List KConst) (ps : List (List KConst))
    (hs : c.scopes = sc :: rs) (hp : c.pools = pool :: ps) (hl : c.lim ≤ 240) (hhead : head.k = .const kf)
    (hE : emitS c .tailcall head false = some c4) :
    ∃ (t : Nat) (ra4 : RA) (more : List KConst) (seg : List CI),
      c4 = { c with scopes := { sc with ra := ra4 } :: rs, pools := (pool ++ more) :: ps, buf := c.buf ++ seg, map := c.map ++ [c.cur, c.cur] } ∧
      seg.length = 2 ∧ (∀ j, ra4.alloc j = sc.ra.alloc j) ∧ sc.ra.max ≤ ra4.max ∧ ra4.max < c.lim ∧
      ∀ (k : Cfg), CodeAt (p.defs.getD f0.defIdx default).code k.pc seg → PrefL (pool ++ more) P → ra4.max < k.regs.size →
        litOf V kf = .cfun f →
        Reach p (inj f0 rest k) (inj f0 rest { k with regs := k.regs.setIfInBounds t (.cfun f), pc := k.pc + 1 }) ∧
        step p (inj f0 rest { k with regs := k.regs.setIfInBounds t (.cfun f), pc := k.pc + 1 }) =
          tailStep p f0 rest f { k with regs := k.regs.setIfInBounds t (.cfun f), pc := k.pc + 1 } := by
  obtain ⟨t, ra', a1, a2, a3, a4, a5, a6, hc4⟩ := emitS_const c c4 .tailcall head kf hhead sc rs pool ps hs hp hl hE
  obtain ⟨m, hm⟩ : PrefL pool (if kf.pooled then W.intern pool kf else pool) := by
    split
    · exact intern_pref pool kf
    · exact PrefL.refl _
  refine ⟨t, ra', m, [CI.mi (MI.ldk t kf (W.poolIdx (if kf.pooled = true then W.intern pool kf else pool) kf)),
      CI.mi (MI.pay Op.tailcall.toNat Shape.s false [t] 0)], ?_, rfl, a6, a4, a5, ?_⟩
  · rw [hc4, hm]
  · intro k hcode hpre hsz hlit
    rw [← hm] at hpre
    obtain ⟨hidx, hconst⟩ := pool_ok p f0 V P hP hK _ hpre kf (fun hp => by rw [if_pos hp]; exact intern_mem pool kf)
    have s1 := run_ldk p f0 rest k t kf _ V (by omega) hidx hcode.head hconst
    rw [hlit] at s1
    have hcode2 : (p.defs.getD f0.defIdx default).code[k.pc + 1]? = some (CI.tailcall t).word := by
      rw [← tailcall_word]; exact hcode.tail.head
    refine ⟨Reach.head s1 (Reach.refl _ _), ?_⟩
    have hreg : (inj f0 rest { k with regs := k.regs.setIfInBounds t (.cfun f), pc := k.pc + 1 }).getReg t = .cfun f := by
      rw [inj_getReg]
      exact getD_set_eq _ _ _ (by omega)
    have s2 := step_tailcall p (inj f0 rest { k with regs := k.regs.setIfInBounds t (.cfun f), pc := k.pc + 1 }) t (by omega)
      (by rw [inj_curDef, inj_pc]; exact hcode2)
    rw [hreg, doTailcall_cfun] at s2
    rw [s2]
    simp only [tailStep, inj_world, inj_args]
    cases callPrimW f k.args.toList k.w with
    | ok a => cases a; rfl
    | rt => rfl
    | user e => rfl
    | unsup why => rfl

end

end JanetModel.Compile
