/- C02: the invariant behind `MutInj` at the exit of a compile of a form of the fragment that MAY contain `def`, relative to a fixed
   set `P` of protected registers (think: the registers of the mutable names at entry):
   `PInv P scs ra` = `MutInj scs` ∧ (a resolvable local's register is in `P` iff the local is mutable) ∧ (`P` is marked in `ra`).
   Returned slots: `RetOK P s` = a local slot is a named mutable one or lies outside `P` (so `freeslot` never clears a mark of `P`
   and `namelocal` aliases only sources outside `P`).  The compiler's steps keep it (`pinv_cinv`). -/
import JanetModel.Compile.SeqMutInjDef
import JanetModel.Compile.SeqSetSideC
namespace JanetModel.Compile
open JanetModel.Emit JanetModel.Lang JanetModel.Bytecode.Exec JanetModel.Gen.Bytecode

def PInv (P : Nat → Prop) (scs : List Scope) (ra : RA) : Prop :=
  MutInj scs ∧
  (∀ x sl u l r, lk scs x = some (sl, u, l) → sl.k = .loc r → (sl.mutable = true → P r) ∧ (sl.mutable = false → ¬ P r)) ∧
  (∀ r, P r → ra.alloc r = true)

def RetOK (P : Nat → Prop) (s : JSlot) : Prop := ∀ i, s.k = .loc i → (s.named = true ∧ s.mutable = true) ∨ ¬ P i

theorem pinv_cinv (P : Nat → Prop) : CInv (PInv P) (RetOK P) (fun _ => False) 65536 where
  of_lk h hlk hsub :=
    ⟨MutInj.of_lkEq hlk h.1, fun x sl u l r h1 h2 => by
      obtain ⟨u', h1'⟩ := hlk.found h1
      exact h.2.1 x sl u' l r h1' h2, fun r hr => hsub r (h.2.2 r hr)⟩
  unmark {scs ra s i} h hK hk hn := by
    refine ⟨h.1, h.2.1, fun r hr => ?_⟩
    have hnP : ¬ P i := (hK i hk).resolve_left (fun hnm => by rw [hn] at hnm; exact Bool.noConfusion hnm.1)
    have hne : r ≠ i := fun e => hnP (e ▸ hr)
    simp only [RA.unmark, if_neg hne]
    exact h.2.2 r hr
  fresh {scs ra} h hlt i hi := by
    cases hi
    refine Or.inr (fun hp => ?_)
    have hm := h.2.2 _ hp
    rw [(alloc1_rsub (RSub.refl ra)).2 (by omega)] at hm
    exact Bool.noConfusion hm
  const hs i hi := absurd hi (hs i)
  sym {scs ra x sl u l} h hlk hnm i hi := by
    cases hmu : sl.mutable with
    | true => exact Or.inl ⟨hnm, rfl⟩
    | false => exact Or.inr ((h.2.1 x sl u l i hlk hi).2 hmu)
  snoc {sc rs ra n s d} hI _ hK hmu hk := by
    have hnp : ¬ P d := (hK d hk).resolve_left (fun hm => by rw [hmu] at hm; exact Bool.noConfusion hm.2)
    refine ⟨mutinj_snoc sc rs ra _ rfl hmu hI.1 (fun y sl u l hy hm hke => ?_), fun x sl u l r h1 h2 => ?_, hI.2.2⟩
    · exact hnp ((hI.2.1 y sl u l d hy (hke.trans hk)).1 hm)
    · rw [lk_def sc rs ra _ rfl x] at h1
      split at h1
      · rw [← (Prod.mk.inj (Option.some.inj h1)).1] at h2 ⊢
        have e : Slot.loc d = Slot.loc r := hk.symm.trans h2
        cases e
        exact ⟨fun hm => by rw [hmu] at hm; exact Bool.noConfusion hm, fun _ => hnp⟩
      · exact hI.2.1 x sl u l r h1 h2

end JanetModel.Compile
