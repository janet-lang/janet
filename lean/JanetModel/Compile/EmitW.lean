/- C02: what the compiler needs to know of an emit-layer wrapper (`Emit.W`): the constant pool only grows (by the constants of the
   operands), the allocator's `max` never decreases (regalloc.c: temporaries are released without touching it) and no mark that was
   set before the call is cleared.  `WOK` collects the three; the compile-only facts (Compile/Closed.lean) know a wrapper only
   through it. -/
import JanetModel.Compile.SeqPush
namespace JanetModel.Compile
open JanetModel.Emit JanetModel.Lang JanetModel.Bytecode.Exec JanetModel.Gen.Bytecode

theorem W_emitS_consts (e : Emit.C) (op : Nat) (wr : Bool) (s : Slot) :
    (W.emitS e op wr s).consts = (W.slotConst s).foldl W.intern e.consts := by
  unfold W.emitS
  rcases W.farTemp e.ra s 0 with ⟨t0, fr, r, ra1⟩
  simp only
  rcases W.backTemp ra1 wr s with ⟨t5, ra2⟩
  rfl

theorem W_emitSS_consts (e : Emit.C) (op : Nat) (wr : Bool) (s1 s2 : Slot) :
    (W.emitSS e op wr s1 s2).consts = (W.slotConst s1 ++ W.slotConst s2).foldl W.intern e.consts := by
  unfold W.emitSS
  rcases W.nearTemp e.ra s1 0 with ⟨t0, ra1⟩
  simp only
  rcases W.farTemp ra1 s2 1 with ⟨t1, fr, r2, ra2⟩
  simp only
  rcases W.backTemp (W.freeNear ra2 s2 r2 1) wr s1 with ⟨t5, ra4⟩
  rfl

theorem W_emitSSS_consts (e : Emit.C) (op : Nat) (wr : Bool) (s1 s2 s3 : Slot) :
    (W.emitSSS e op wr s1 s2 s3).consts = (W.slotConst s1 ++ W.slotConst s2 ++ W.slotConst s3).foldl W.intern e.consts := by
  unfold W.emitSSS
  rcases W.nearTemp e.ra s1 0 with ⟨t0, ra1⟩
  simp only
  rcases W.nearTemp ra1 s2 1 with ⟨t1, ra2⟩
  simp only
  rcases W.nearTemp ra2 s3 2 with ⟨t2, ra3⟩
  simp only
  rcases W.backTemp (W.freeNear (W.freeNear ra3 s2 t1 1) s3 t2 2) wr s1 with ⟨t5, ra6⟩
  rfl

theorem W_emitSI_consts (e : Emit.C) (op : Nat) (wr : Bool) (s : Slot) (imm : Nat) :
    (W.emitSI e op wr s imm).consts = (W.slotConst s).foldl W.intern e.consts ∧ 1 ≤ (W.emitSI e op wr s imm).buf.length := by
  unfold W.emitSI
  rcases W.nearTemp e.ra s 0 with ⟨t0, ra1⟩
  simp only
  rcases W.backTemp ra1 wr s with ⟨t5, ra2⟩
  refine ⟨rfl, ?_⟩
  simp only [W.finish, Emit.emitSI, List.length_append, List.length_cons, List.length_nil]
  omega

theorem W_copy_consts (e : Emit.C) (dest src : Slot) : PrefL e.consts (W.copy e dest src).consts := by
  unfold W.copy
  split
  · exact PrefL.refl _
  · split
    · exact PrefL.refl _
    · split
      · exact foldl_intern_pref _ _
      · split
        · rcases W.backTemp e.ra true dest with ⟨t5, ra1⟩
          exact foldl_intern_pref _ _
        · rcases e.ra.allocTemp 3 with ⟨t3, ra1⟩
          simp only
          rcases W.backTemp ra1 true dest with ⟨t5, ra2⟩
          exact foldl_intern_pref _ _

theorem backTemp_max_mono (ra : RA) (wr : Bool) (s : Slot) : ra.max ≤ (W.backTemp ra wr s).2.max := by
  unfold W.backTemp
  split
  · simp only [freeTemp_max]; exact allocTemp_max_mono ra 5
  · exact Nat.le_refl _

theorem farTemp_max_mono (ra : RA) (s : Slot) (tag : Nat) : ra.max ≤ (W.farTemp ra s tag).2.2.2.max := by
  unfold W.farTemp
  split
  · exact Nat.le_refl _
  · have h1 := allocTemp_max_mono ra tag
    rcases ha : ra.allocTemp tag with ⟨t, ra1⟩
    rw [ha] at h1
    simp only at h1 ⊢
    split
    · have h2 := alloc1_max_mono ra1
      rcases hb : ra1.alloc1 with ⟨fr, ra2⟩
      rw [hb] at h2
      simp only [freeTemp_max] at h2 ⊢
      omega
    · simp only [mark_max, freeTemp_max]; exact h1

theorem W_emitS_max (e : Emit.C) (op : Nat) (wr : Bool) (s : Slot) : e.ra.max ≤ (W.emitS e op wr s).ra.max := by
  unfold W.emitS
  have h1 := farTemp_max_mono e.ra s 0
  rcases hf : W.farTemp e.ra s 0 with ⟨t0, fr, r, ra1⟩
  rw [hf] at h1
  simp only at h1 ⊢
  have h2 := backTemp_max_mono ra1 wr s
  rcases hb : W.backTemp ra1 wr s with ⟨t5, ra2⟩
  rw [hb] at h2
  simp only [W.finish, freeNear_max] at h2 ⊢
  omega

theorem W_emitSI_max (e : Emit.C) (op : Nat) (wr : Bool) (s : Slot) (imm : Nat) : e.ra.max ≤ (W.emitSI e op wr s imm).ra.max := by
  unfold W.emitSI
  have h1 := nearTemp_max_mono e.ra s 0
  rcases hf : W.nearTemp e.ra s 0 with ⟨t0, ra1⟩
  rw [hf] at h1
  simp only at h1 ⊢
  have h2 := backTemp_max_mono ra1 wr s
  rcases hb : W.backTemp ra1 wr s with ⟨t5, ra2⟩
  rw [hb] at h2
  simp only [W.finish, freeNear_max] at h2 ⊢
  omega

theorem W_emitSS_max (e : Emit.C) (op : Nat) (wr : Bool) (s1 s2 : Slot) : e.ra.max ≤ (W.emitSS e op wr s1 s2).ra.max := by
  unfold W.emitSS
  have h1 := nearTemp_max_mono e.ra s1 0
  rcases hf : W.nearTemp e.ra s1 0 with ⟨t0, ra1⟩
  rw [hf] at h1
  simp only at h1 ⊢
  have h2 := farTemp_max_mono ra1 s2 1
  rcases hg : W.farTemp ra1 s2 1 with ⟨t1, fr, r2, ra2⟩
  rw [hg] at h2
  simp only at h2 ⊢
  have h3 := backTemp_max_mono (W.freeNear ra2 s2 r2 1) wr s1
  rcases hb : W.backTemp (W.freeNear ra2 s2 r2 1) wr s1 with ⟨t5, ra4⟩
  rw [hb] at h3
  simp only [W.finish, freeNear_max] at h3 ⊢
  omega

theorem W_emitSSS_max (e : Emit.C) (op : Nat) (wr : Bool) (s1 s2 s3 : Slot) : e.ra.max ≤ (W.emitSSS e op wr s1 s2 s3).ra.max := by
  unfold W.emitSSS
  have h1 := nearTemp_max_mono e.ra s1 0
  rcases hf : W.nearTemp e.ra s1 0 with ⟨t0, ra1⟩
  rw [hf] at h1
  simp only at h1 ⊢
  have h2 := nearTemp_max_mono ra1 s2 1
  rcases hg : W.nearTemp ra1 s2 1 with ⟨t1, ra2⟩
  rw [hg] at h2
  simp only at h2 ⊢
  have h2' := nearTemp_max_mono ra2 s3 2
  rcases hg' : W.nearTemp ra2 s3 2 with ⟨t2, ra3⟩
  rw [hg'] at h2'
  simp only at h2' ⊢
  have h3 := backTemp_max_mono (W.freeNear (W.freeNear ra3 s2 t1 1) s3 t2 2) wr s1
  rcases hb : W.backTemp (W.freeNear (W.freeNear ra3 s2 t1 1) s3 t2 2) wr s1 with ⟨t5, ra6⟩
  rw [hb] at h3
  simp only [W.finish, freeNear_max] at h3 ⊢
  omega

theorem W_copy_max (e : Emit.C) (dest src : Slot) : e.ra.max ≤ (W.copy e dest src).ra.max := by
  unfold W.copy
  split
  · exact Nat.le_refl _
  · split
    · exact Nat.le_refl _
    · split
      · exact Nat.le_refl _
      · split
        · have h := backTemp_max_mono e.ra true dest
          rcases hb : W.backTemp e.ra true dest with ⟨t5, ra1⟩
          rw [hb] at h
          exact h
        · have h1 := allocTemp_max_mono e.ra 3
          rcases ha : e.ra.allocTemp 3 with ⟨t3, ra1⟩
          rw [ha] at h1
          simp only at h1 ⊢
          have h2 := backTemp_max_mono ra1 true dest
          rcases hb : W.backTemp ra1 true dest with ⟨t5, ra2⟩
          rw [hb] at h2
          simp only [W.finish, freeTemp_max] at h2 ⊢
          omega

/-- every register marked in `a` is marked in `b` -/
def RSub (a b : RA) : Prop := ∀ r, a.alloc r = true → b.alloc r = true

theorem RSub.refl (a : RA) : RSub a a := fun _ h => h

theorem RSub.of_alloc {ra0 ra ra' : RA} (h : RSub ra0 ra) (e : ra'.alloc = ra.alloc) : RSub ra0 ra' :=
  fun j hj => by rw [e]; exact h j hj

theorem RSub.mark {ra0 ra : RA} (h : RSub ra0 ra) (r : Nat) : RSub ra0 (ra.mark r) := by
  intro j hj
  simp only [RA.mark]
  split
  · rfl
  · exact h j hj

theorem RSub.unmark {ra0 ra : RA} (h : RSub ra0 ra) (r : Nat) (hr : ra0.alloc r = false) : RSub ra0 (ra.unmark r) := by
  intro j hj
  simp only [RA.unmark]
  split
  · next e => subst e; rw [hr] at hj; exact absurd hj (by simp)
  · exact h j hj

/-- first fit: every mark is kept, and a register found within the search bound was un-marked -/
theorem alloc1_rsub {ra0 ra : RA} (h : RSub ra0 ra) :
    RSub ra0 ra.alloc1.2 ∧ (ra.alloc1.1 < 70000 → ra0.alloc ra.alloc1.1 = false) := by
  refine ⟨(h.mark _).of_alloc rfl, ?_⟩
  intro hlt
  simp only [RA.alloc1] at hlt ⊢
  have hfree := firstFit_lt_free ra searchFuel 0 (by rw [Nat.zero_add]; exact hlt)
  simp only [RA.taken, Bool.or_eq_false_iff] at hfree
  cases hh : ra0.alloc (firstFit ra searchFuel 0) with
  | false => rfl
  | true => have := h _ hh; rw [hfree.1] at this; exact absurd this (by simp)

theorem allocTemp_rsub {ra0 ra : RA} (h : RSub ra0 ra) (tag : Nat) :
    RSub ra0 (ra.allocTemp tag).2 ∧ ((ra.allocTemp tag).1 < 0xF0 → ra0.alloc (ra.allocTemp tag).1 = false) := by
  have h1 : RSub ra0 ({ ra with temps := fun j => if j = tag then true else ra.temps j } : RA) := h.of_alloc rfl
  obtain ⟨a, b⟩ := alloc1_rsub h1
  unfold RA.allocTemp
  simp only []
  split
  · exact ⟨a.of_alloc rfl, fun hlt => by omega⟩
  · exact ⟨a, fun hlt => b (by omega)⟩

theorem freeTemp_rsub {ra0 ra : RA} (h : RSub ra0 ra) (t tag : Nat) (ht : t < 0xF0 → ra0.alloc t = false) :
    RSub ra0 (ra.freeTemp t tag) := by
  have h1 : RSub ra0 ({ ra with temps := fun j => if j = tag then false else ra.temps j } : RA) := h.of_alloc rfl
  unfold RA.freeTemp
  simp only []
  split
  · next hlt => exact h1.unmark t (ht hlt)
  · exact h1

/-- what `freeNear` needs of a register obtained for slot `s`: either releasing it clears no mark of `ra0`, or it is the slot's
    own local register (then `freeNear` does nothing) -/
def TOk (ra0 : RA) (s : Slot) (t : Nat) : Prop := (t < 0xF0 → ra0.alloc t = false) ∨ (s.isLocal = true ∧ t = s.index)

theorem nearTemp_rsub {ra0 ra : RA} (h : RSub ra0 ra) (s : Slot) (tag : Nat) :
    RSub ra0 (W.nearTemp ra s tag).2 ∧ TOk ra0 s (W.nearTemp ra s tag).1 := by
  unfold W.nearTemp
  split
  · exact ⟨(allocTemp_rsub h tag).1, Or.inl (allocTemp_rsub h tag).2⟩
  · next hn =>
    refine ⟨h, Or.inr ⟨?_, rfl⟩⟩
    cases s <;> simp_all [W.needTemp, Slot.nearLocal, Slot.isLocal]

theorem freeNear_rsub {ra0 ra : RA} (h : RSub ra0 ra) (s : Slot) (t tag : Nat) (ht : TOk ra0 s t) :
    RSub ra0 (W.freeNear ra s t tag) := by
  unfold W.freeNear
  split
  · exact h
  · next hn =>
    rcases ht with ht | ⟨a, b⟩
    · exact freeTemp_rsub h t tag ht
    · exact absurd (by simp [a, b]) hn

theorem farTemp_rsub {ra0 ra : RA} (h : RSub ra0 ra) (s : Slot) (tag : Nat) :
    RSub ra0 (W.farTemp ra s tag).2.2.2 ∧ TOk ra0 s (W.farTemp ra s tag).2.2.1 := by
  unfold W.farTemp
  split
  · next hl => exact ⟨h, Or.inr ⟨hl, rfl⟩⟩
  · obtain ⟨a, b⟩ := allocTemp_rsub h tag
    rcases hh : ra.allocTemp tag with ⟨t, ra1⟩
    rw [hh] at a b
    simp only at a b ⊢
    split
    · next hge =>
      obtain ⟨a2, b2⟩ := alloc1_rsub a
      rcases hh2 : ra1.alloc1 with ⟨fr, ra2⟩
      rw [hh2] at a2 b2
      simp only at a2 b2 ⊢
      exact ⟨freeTemp_rsub a2 t tag (fun hlt => by omega), Or.inl (fun hlt => b2 (by omega))⟩
    · exact ⟨(freeTemp_rsub a t tag b).mark t, Or.inl b⟩

theorem backTemp_rsub {ra0 ra : RA} (h : RSub ra0 ra) (wr : Bool) (s : Slot) : RSub ra0 (W.backTemp ra wr s).2 := by
  unfold W.backTemp
  split
  · obtain ⟨a, b⟩ := allocTemp_rsub h 5
    rcases hh : ra.allocTemp 5 with ⟨t, ra1⟩
    rw [hh] at a b
    exact freeTemp_rsub a t 5 b
  · exact h

theorem W_emitS_rsub (e : Emit.C) (op : Nat) (wr : Bool) (s : Slot) : RSub e.ra (W.emitS e op wr s).ra := by
  obtain ⟨a1, b1⟩ := farTemp_rsub (RSub.refl e.ra) s 0
  unfold W.emitS
  rcases hh : W.farTemp e.ra s 0 with ⟨t0, fr, r, ra1⟩
  rw [hh] at a1 b1
  simp only at a1 b1 ⊢
  have a2 := backTemp_rsub a1 wr s
  rcases hh2 : W.backTemp ra1 wr s with ⟨t5, ra2⟩
  rw [hh2] at a2
  exact freeNear_rsub a2 s r 0 b1

theorem W_emitSI_rsub (e : Emit.C) (op : Nat) (wr : Bool) (s : Slot) (imm : Nat) : RSub e.ra (W.emitSI e op wr s imm).ra := by
  obtain ⟨a1, b1⟩ := nearTemp_rsub (RSub.refl e.ra) s 0
  unfold W.emitSI
  rcases hh : W.nearTemp e.ra s 0 with ⟨t0, ra1⟩
  rw [hh] at a1 b1
  simp only at a1 b1 ⊢
  have a2 := backTemp_rsub a1 wr s
  rcases hh2 : W.backTemp ra1 wr s with ⟨t5, ra2⟩
  rw [hh2] at a2
  exact freeNear_rsub a2 s t0 0 b1

theorem W_emitSS_rsub (e : Emit.C) (op : Nat) (wr : Bool) (s1 s2 : Slot) : RSub e.ra (W.emitSS e op wr s1 s2).ra := by
  obtain ⟨a1, b1⟩ := nearTemp_rsub (RSub.refl e.ra) s1 0
  unfold W.emitSS
  rcases hh : W.nearTemp e.ra s1 0 with ⟨t0, ra1⟩
  rw [hh] at a1 b1
  simp only at a1 b1 ⊢
  obtain ⟨a2, b2⟩ := farTemp_rsub a1 s2 1
  rcases hh2 : W.farTemp ra1 s2 1 with ⟨t1, fr, r2, ra2⟩
  rw [hh2] at a2 b2
  simp only at a2 b2 ⊢
  have a3 := freeNear_rsub a2 s2 r2 1 b2
  have a4 := backTemp_rsub a3 wr s1
  rcases hh4 : W.backTemp (W.freeNear ra2 s2 r2 1) wr s1 with ⟨t5, ra4⟩
  rw [hh4] at a4
  exact freeNear_rsub a4 s1 t0 0 b1

theorem W_emitSSS_rsub (e : Emit.C) (op : Nat) (wr : Bool) (s1 s2 s3 : Slot) : RSub e.ra (W.emitSSS e op wr s1 s2 s3).ra := by
  obtain ⟨a1, b1⟩ := nearTemp_rsub (RSub.refl e.ra) s1 0
  unfold W.emitSSS
  rcases hh : W.nearTemp e.ra s1 0 with ⟨t0, ra1⟩
  rw [hh] at a1 b1
  simp only at a1 b1 ⊢
  obtain ⟨a2, b2⟩ := nearTemp_rsub a1 s2 1
  rcases hh2 : W.nearTemp ra1 s2 1 with ⟨t1, ra2⟩
  rw [hh2] at a2 b2
  simp only at a2 b2 ⊢
  obtain ⟨a3, b3⟩ := nearTemp_rsub a2 s3 2
  rcases hh3 : W.nearTemp ra2 s3 2 with ⟨t2, ra3⟩
  rw [hh3] at a3 b3
  simp only at a3 b3 ⊢
  have a4 := freeNear_rsub a3 s2 t1 1 b2
  have a5 := freeNear_rsub a4 s3 t2 2 b3
  have a6 := backTemp_rsub a5 wr s1
  rcases hh6 : W.backTemp (W.freeNear (W.freeNear ra3 s2 t1 1) s3 t2 2) wr s1 with ⟨t5, ra6⟩
  rw [hh6] at a6
  exact freeNear_rsub a6 s1 t0 0 b1

theorem W_copy_rsub (e : Emit.C) (dest src : Slot) : RSub e.ra (W.copy e dest src).ra := by
  unfold W.copy
  split
  · exact RSub.refl _
  · split
    · exact RSub.refl _
    · split
      · exact RSub.refl _
      · split
        · have a1 := backTemp_rsub (RSub.refl e.ra) true dest
          rcases hh : W.backTemp e.ra true dest with ⟨t5, ra1⟩
          rw [hh] at a1
          exact a1
        · obtain ⟨a1, b1⟩ := allocTemp_rsub (RSub.refl e.ra) 3
          rcases hh : e.ra.allocTemp 3 with ⟨t3, ra1⟩
          rw [hh] at a1 b1
          simp only at a1 b1 ⊢
          have a2 := backTemp_rsub a1 true dest
          rcases hh2 : W.backTemp ra1 true dest with ⟨t5, ra2⟩
          rw [hh2] at a2
          exact freeTemp_rsub a2 t3 3 b1

theorem RSub.trans {a b c : RA} (h1 : RSub a b) (h2 : RSub b c) : RSub a c := fun r hr => h2 r (h1 r hr)

/-- an emit-layer wrapper as the compiler calls it: the pool only grows, `max` does not decrease, no mark is lost -/
structure WOK (f : Emit.C → Emit.C) : Prop where
  consts : ∀ e, PrefL e.consts (f e).consts
  max : ∀ e, e.ra.max ≤ (f e).ra.max
  marks : ∀ e, RSub e.ra (f e).ra

theorem wok_emitS (op : Nat) (wr : Bool) (s : Slot) : WOK (fun e => W.emitS e op wr s) :=
  ⟨fun e => by rw [W_emitS_consts]; exact foldl_intern_pref _ _, fun e => W_emitS_max e op wr s, fun e => W_emitS_rsub e op wr s⟩

theorem wok_emitSS (op : Nat) (wr : Bool) (s1 s2 : Slot) : WOK (fun e => W.emitSS e op wr s1 s2) :=
  ⟨fun e => by rw [W_emitSS_consts]; exact foldl_intern_pref _ _, fun e => W_emitSS_max e op wr s1 s2, fun e => W_emitSS_rsub e op wr s1 s2⟩

theorem wok_emitSSS (op : Nat) (wr : Bool) (s1 s2 s3 : Slot) : WOK (fun e => W.emitSSS e op wr s1 s2 s3) :=
  ⟨fun e => by rw [W_emitSSS_consts]; exact foldl_intern_pref _ _, fun e => W_emitSSS_max e op wr s1 s2 s3,
    fun e => W_emitSSS_rsub e op wr s1 s2 s3⟩

theorem wok_emitSI (op : Nat) (wr : Bool) (s : Slot) (imm : Nat) : WOK (fun e => W.emitSI e op wr s imm) :=
  ⟨fun e => by rw [(W_emitSI_consts e op wr s imm).1]; exact foldl_intern_pref _ _, fun e => W_emitSI_max e op wr s imm,
    fun e => W_emitSI_rsub e op wr s imm⟩

theorem wok_copy (dest src : Slot) : WOK (fun e => W.copy e dest src) :=
  ⟨fun e => W_copy_consts e dest src, fun e => W_copy_max e dest src, fun e => W_copy_rsub e dest src⟩

end JanetModel.Compile
