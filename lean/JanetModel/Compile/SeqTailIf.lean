/- C02: `janetc_if` compiled in tail position: no target register; the condition compiled non-tail in its block scope; both
   branches compiled with the tail flag in block scopes of their own, no copy, no JUMP after the then-branch; only the conditional
   jump is patched.  On the folding path (constant condition) the model hands back the un-flagged constant nil, so `janetc_value`
   appends a RETURN_NIL the VM never reaches. -/
import JanetModel.Compile.SeqTailNRb
import JanetModel.Compile.SeqIfConst
namespace JanetModel.Compile
open JanetModel.Emit JanetModel.Lang JanetModel.Bytecode.Exec JanetModel.Gen.Bytecode

section
variable (p : Program) (f0 : Frame) (rest : List Frame) (V : Array Value) (P : List KConst)

/-- the configurations whose next step returns `v` in world `w'` -/
def Returns (w' : World) (v : Value) (cf : Cfg) : Prop :=
  step p (inj f0 rest cf) = doReturn p (inj f0 rest { regs := cf.regs, pc := cf.pc, args := #[], w := w' }) v

/-- the branch of a tail-position `if` that is taken: the VM run of its code (stated against the segment the branch appended) -/
theorem branchT_core (G : String → Prop) (b : Bool) (fuel : Nat) (IHt : TailAt p f0 rest V P G (TF G b) fuel)
    (x : Expr) (hx : TF G b x) (opts : Fopts) (ht : opts.tail = true) (hh : opts.hint = none) (target : JSlot)
    (n2 : Nat) (pos : Pos) (cenv envb : Env) (s1 s' : SS) (v : Value) :
    BranchRun p f0 rest V P G fuel opts true target (fun _ scs => NR scs) False pos cenv s1
      (fun x => eval n2 pos cenv x s1 = .ok (v, envb) s') True false (Returns p f0 rest s'.st.world v) (fun _ => True)
      (fun _ => True) s'.st.world (fun _ => True) x := by
  intro c4 c6 c7 c8 left sc4 rs4 pool4 ps hs4 hp4 hl hm4 _ hN h1 h2 h3 hsem hE
  have e : c6 = c7 := by simpa [ifCopy] using h2
  subst e
  refine ⟨trivial, ?_⟩
  rw [pushScope_blk c4 sc4 rs4 false hs4] at h1
  have hlk1 : ∀ y, lk (blk c4 sc4 false :: sc4 :: rs4) y = lk c4.scopes y := by
    intro y; rw [hs4]; exact lk_push _ _ rfl rfl rfl y
  have hE1 : EnvS G ({ c4 with scopes := blk c4 sc4 false :: sc4 :: rs4 } : CState).scopes cenv s1.boxes.size (blk c4 sc4 false).ra :=
    hE.of_lk hlk1 (Nat.le_refl _) (fun _ _ _ _ _ _ _ h => h)
  obtain ⟨_, ra6, ns6, more6, seg6, segm6, hc6, pv6, mono6, max6, vm6⟩ :=
    IHt x opts { c4 with scopes := blk c4 sc4 false :: sc4 :: rs4 } c6 left (blk c4 sc4 false) (sc4 :: rs4) pool4 ps n2 pos cenv envb s1 s' v
      ht hh rfl hp4 hl rfl hm4 hx h1 hsem hE1 (hN.of_lk hlk1)
  have hs6 : c6.scopes = { blk c4 sc4 false with ra := ra6, syms := (blk c4 sc4 false).syms ++ ns6 } :: sc4 :: rs4 := by rw [hc6]
  obtain ⟨raX, hpop, hmaxX, _⟩ := popScope_block c6 _ sc4 rs4 hs6 rfl rfl rfl
  rw [hpop] at h3
  have hc8 := (Option.some.inj h3).symm
  intro seg _ pool8 sc8 hbuf _ hpool hscope k hkw hka hD hcode _ hpre hV hsz _
  have e_seg : seg = seg6 := by
    have : c8.buf = c4.buf ++ seg6 := by
      rw [hc8]
      show c6.buf = _
      rw [hc6]
    rw [this] at hbuf
    exact (List.append_cancel_left hbuf).symm
  have e_pool : pool8 = pool4 ++ more6 := by
    have : c8.pools = (pool4 ++ more6) :: ps := by
      rw [hc8]
      show c6.pools = _
      rw [hc6]
    rw [this] at hpool
    exact (List.cons.inj hpool).1.symm
  have e_sc : sc8.ra.max = raX.max := by
    have : c8.scopes = { sc4 with ra := raX, syms := sc4.syms ++
        ((blk c4 sc4 false).syms ++ ns6).map (fun q => { q with visible := false }) } :: rs4 := by rw [hc8]
    rw [this] at hscope
    rw [← (List.cons.inj hscope).1]
  subst e_seg e_pool
  have hvals : c8.vals = c6.vals := by rw [hc8]
  rw [hvals] at hV
  have hmaxX' : raX.max = (if sc4.ra.max < ra6.max then ra6.max else sc4.ra.max) := hmaxX
  have hsz6 : ra6.max < k.regs.size := by
    rw [e_sc, hmaxX'] at hsz
    split at hsz <;> omega
  obtain ⟨regs', A, pc', wa, rch, sz, st⟩ := vm6 k hkw hka (hD.of_lk hlk1) hcode hpre hV hsz6
  exact ⟨{ regs := regs', pc := pc', args := A, w := wa }, rch, sz, st⟩

theorem IfOut.tailOK {G : String → Prop} {c c' : CState} {slot : JSlot} {sc : Scope} {rs : List Scope} {pool : List KConst}
    {ps : List (List KConst)} {env : Env} {s s' : SS} {v : Value} (hr : slot.returned = true)
    (H : IfOut p f0 V P c c' sc rs pool ps sc.ra env s True False (fun _ => True)
      (RunRes p f0 rest false (Returns p f0 rest s'.st.world v) sc.ra (fun _ => True) (fun _ => True) s'.st.world)) :
    TailOK p f0 rest V P G c c' slot sc rs pool ps env s s' v := by
  obtain ⟨raX, kept, more, seg, segm, hc', pv, monoX, maxX, _, _, _, vm⟩ := H
  refine ⟨hr, raX, kept, more, seg, segm, hc', pv, monoX, maxX, fun k hkw hka hD hcode hpre hV hsz => ?_⟩
  obtain ⟨⟨regs', pc', A, wa⟩, rch, sz, st⟩ := vm k hkw hka hD hcode (fun h => h.elim) hpre hV hsz trivial
  exact ⟨regs', A, pc', wa, rch, sz, st⟩

theorem NR.afterCond (G : String → Prop) (b : Bool) (fuel : Nat) (cnd : Expr) (hTc : TF G b cnd)
    (c c3 : CState) (cond : JSlot) (sc : Scope) (rs : List Scope) (pool : List KConst) (ps : List (List KConst))
    (hs : c.scopes = sc :: rs) (hp : c.pools = pool :: ps) (hm : c.map.length = c.buf.length)
    (hcond : cValue fuel {} cnd (pushScope c false false false false) = some (cond, c3))
    (hL : LkL G c.scopes) (hN : NR c.scopes) : NR c3.scopes := by
  rw [pushScope_blk c sc rs false hs] at hcond
  have hlk1 : ∀ y, lk (blk c sc false :: sc :: rs) y = lk c.scopes y := by
    intro y; rw [hs]; exact lk_push _ _ rfl rfl rfl y
  exact (tf_NR_any G b fuel cnd {} { c with scopes := blk c sc false :: sc :: rs } c3 cond (blk c sc false) (sc :: rs) pool ps
    rfl hp hm hTc (by rw [hs] at hL; exact hL.push _ rfl rfl) (hN.of_lk hlk1) hcond).1

theorem if_tail (G : String → Prop) (b w : Bool) (fuel : Nat) (IH : CorrectAt p f0 rest V P G (TF G b) w fuel)
    (IHt : TailAt p f0 rest V P G (TF G b) fuel)
    (cnd tb fb : Expr) (hTc : TF G b cnd) (hTt : TF G b tb) (hTf : TF G b fb)
    (opts : Fopts) (ht : opts.tail = true) (hh : opts.hint = none)
    (c c' : CState) (sc : Scope) (rs : List Scope) (pool : List KConst) (ps : List (List KConst))
    (n2 : Nat) (pos : Pos) (env cenv envb : Env) (s s1 s' : SS) (cv v : Value)
    (hs : c.scopes = sc :: rs) (hp : c.pools = pool :: ps) (hl : c.lim ≤ 240) (hm : c.map.length = c.buf.length)
    (c3 : CState) (cond : JSlot)
    (hcond : cValue fuel {} cnd (pushScope c false false false false) = some (cond, c3))
    (hst : IfRun fuel opts true true (cslot .nil) cond tb fb c3 c')
    (hsc : eval n2 pos env cnd s = .ok (cv, cenv) s1)
    (hct : ∀ k, isConstSlot cond = some k → truthy cv = constTruthy k)
    (hsb : eval n2 pos cenv (if truthy cv then tb else fb) s1 = .ok (v, envb) s')
    (hE : EnvS G c.scopes env s.boxes.size sc.ra) (hN : NR c.scopes) :
    IfOut p f0 V P c c' sc rs pool ps sc.ra env s True False (fun _ => True)
      (RunRes p f0 rest false (Returns p f0 rest s'.st.world v) sc.ra (fun _ => True) (fun _ => True) s'.st.world) := by
  have hN3 := NR.afterCond G b fuel cnd hTc c c3 cond sc rs pool ps hs hp hm hcond hE.lkl hN
  exact if_any p f0 rest V P G b w fuel IH cnd tb fb hTc hTt hTf opts true true (cslot .nil) (fun _ scs => NR scs) _ _ _
    False (fun x => eval n2 pos cenv x s1 = .ok (v, envb) s') True True false _ s'.st.world (fun _ _ _ _ h _ _ hlk => h.of_lk hlk)
    c c' sc rs pool ps n2 pos env cenv s s1 cv
    (fun x hx => branchT_core p f0 rest V P G b fuel IHt x hx opts ht hh _ n2 pos cenv envb s1 s' v)
    hs hp hl hm (fun h => h.elim) c c3 cond sc.ra (cstate_scopes_eta c sc rs hs) (fun _ h => h) (fun _ _ _ _ => hN3) hcond hst
    (fun h => absurd h (by simp)) hsc hct hsb (fun _ _ => trivial) hE

theorem IfOut.tailOK_retnil {G : String → Prop} {c cq c2 : CState} {slot : JSlot} {sc : Scope} {rs : List Scope} {pool : List KConst}
    {ps : List (List KConst)} {env : Env} {s s' : SS} {v : Value} (hcr : cReturn cq (cslot .nil) = some (slot, c2))
    (H : IfOut p f0 V P c cq sc rs pool ps sc.ra env s True False (fun _ => True)
      (RunRes p f0 rest false (Returns p f0 rest s'.st.world v) sc.ra (fun _ => True) (fun _ => True) s'.st.world)) :
    TailOK p f0 rest V P G c c2 slot sc rs pool ps env s s' v := by
  obtain ⟨raX, kept, more, seg, segm, hcq, pv, monoX, maxX, _, _, _, vm⟩ := H
  rw [cReturn_unret cq (cslot .nil) rfl] at hcr
  have hcond' : ((cslot KConst.nil).cflag && (cslot KConst.nil).k == Slot.const KConst.nil) = true := by decide
  rw [if_pos hcond'] at hcr
  simp only [Option.bind_some, Option.some.injEq, Prod.mk.injEq] at hcr
  obtain ⟨hslot, hc2⟩ := hcr
  refine ⟨by rw [← hslot], raX, kept, more, seg ++ [CI.retNil], segm ++ [cq.cur], ?_, ?_, monoX, maxX, ?_⟩
  · rw [← hc2]
    simp only [emitRaw]
    rw [hcq]
    simp [List.append_assoc]
  · have : c2.vals = cq.vals := by rw [← hc2]; rfl
    rw [this]; exact pv
  · intro k0 hkw hka hD hcode hpre hV hsz
    have hv : c2.vals = cq.vals := by rw [← hc2]; rfl
    rw [hv] at hV
    obtain ⟨⟨regs', pc', A, wa⟩, rch, sz, st⟩ := vm k0 hkw hka hD hcode.left (fun h => h.elim) hpre hV hsz trivial
    exact ⟨regs', A, pc', wa, rch, sz, st⟩

end

end JanetModel.Compile
