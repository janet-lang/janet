/- C02: `Compile.cValue` unfolded once per form for any option set (`finO` = the end of `janetc_value`: return in tail position,
   copy into the hint, cursor restored); the steps of `janetc_call` and of `namelocal` for any options; `janetc_copy` into a fresh
   near register. -/
import JanetModel.Compile.Correct
import JanetModel.Compile.EmitSpec
namespace JanetModel.Compile
open JanetModel.Emit JanetModel.Lang JanetModel.Bytecode.Exec JanetModel.Gen.Bytecode

/-- the end of `janetc_value` for any options: `janetc_return` in tail position, the copy into the hint, mapping cursor restored -/
def finO (opts : Fopts) (last : Pos) : Option (JSlot × CState) → Option (JSlot × CState)
  | none => none
  | some (ret, c1) => do
    let (ret1, c2) ← if opts.tail then cReturn c1 ret else pure (ret, c1)
    let (ret2, c3) ← match opts.hint with
      | some h => do let c' ← copySlot c2 h ret1; pure (h, c')
      | none => pure (ret1, c2)
    pure (ret2, { c3 with cur := last })

theorem finO_o (opts : Fopts) (ht : opts.tail = false) (hh : opts.hint = none) (last : Pos) (X : Option (JSlot × CState)) :
    finO opts last X = fin last X := by
  cases X with
  | none => rfl
  | some a =>
    obtain ⟨ret, c1⟩ := a
    simp only [finO, fin, ht, hh, Bool.false_eq_true, if_false, Option.pure_def, Option.bind_eq_bind, Option.bind_some]

theorem cReturn_inv (c c' : CState) (s s' : JSlot) (h : cReturn c s = some (s', c')) :
    (s.returned = true ∧ s' = s ∧ c' = c) ∨
    (s' = { s with returned := true } ∧ (c' = emitRaw c .retNil ∨ emitS c .return s false = some c')) := by
  unfold cReturn at h
  by_cases hr : s.returned = true
  · rw [if_pos hr] at h
    simp only [Option.some.injEq, Prod.mk.injEq] at h
    exact Or.inl ⟨hr, h.1.symm, h.2.symm⟩
  · rw [if_neg hr] at h
    by_cases hn : (s.cflag && s.k == Slot.const .nil) = true
    · simp only [hn, if_true, Option.pure_def, Option.bind_eq_bind, Option.bind_some, Option.some.injEq, Prod.mk.injEq] at h
      exact Or.inr ⟨h.1.symm, Or.inl h.2.symm⟩
    · simp only [hn, Bool.false_eq_true, if_false, Option.pure_def, Option.bind_eq_bind, Option.bind_eq_some_iff, Option.some.injEq,
        Prod.mk.injEq] at h
      obtain ⟨cx, hem, hs, hcx⟩ := h
      exact Or.inr ⟨hs.symm, Or.inr (hcx ▸ hem)⟩

theorem finO_inv (opts : Fopts) (q : Pos) (ret slot : JSlot) (c1 c' : CState) (h : finO opts q (some (ret, c1)) = some (slot, c')) :
    ∃ ret1 c2 c3, (if opts.tail then cReturn c1 ret else some (ret, c1)) = some (ret1, c2) ∧
      (match opts.hint with
        | some hs => (copySlot c2 hs ret1).map (fun cx => (hs, cx))
        | none => some (ret1, c2)) = some (slot, c3) ∧ c' = { c3 with cur := q } := by
  obtain ⟨tail, drop, hint⟩ := opts
  cases tail <;> cases hint <;>
    simp only [finO, Bool.false_eq_true, if_false, if_true, Option.pure_def, Option.bind_eq_bind, Option.bind_some, Option.bind_eq_some_iff,
      Option.some.injEq, Prod.mk.injEq, Prod.exists, Option.map_eq_some_iff] at h ⊢
  · obtain ⟨h1, h2⟩ := h
    exact ⟨ret, c1, c1, ⟨rfl, rfl⟩, ⟨h1, rfl⟩, h2.symm⟩
  · obtain ⟨cx, hcp, h1, h2⟩ := h
    exact ⟨ret, c1, cx, ⟨rfl, rfl⟩, ⟨cx, hcp, h1, rfl⟩, h2.symm⟩
  · obtain ⟨r1, c2, hr, h1, h2⟩ := h
    exact ⟨r1, c2, c2, hr, ⟨h1, rfl⟩, h2.symm⟩
  · obtain ⟨r1, c2, hr, cx, hcp, h1, h2⟩ := h
    exact ⟨r1, c2, cx, hr, ⟨cx, hcp, h1, rfl⟩, h2.symm⟩

theorem cValue_lit_any (fuel : Nat) (opts : Fopts) (v : Value) (hv : SimpleLit v) (c : CState) :
    cValue (fuel + 1) opts (.lit v) c = finO opts c.cur (some (constSlot c v)) := by
  cases v <;> first | rfl | (simp [SimpleLit] at hv)

theorem cValue_sym_any (fuel : Nat) (opts : Fopts) (x : String) (c : CState) :
    cValue (fuel + 1) opts (.sym x) c = finO opts c.cur (resolve c x) := by
  simp only [cValue]
  cases resolve c x with
  | none => rfl
  | some a => cases a; rfl

theorem cValue_call_any (fuel : Nat) (opts : Fopts) (f : String) (args : List Expr) (p : Pos) (c : CState) (hf : specials.contains f = false) :
    cValue (fuel + 1) opts (.form (.sym f :: args) p) c = finO opts c.cur (cCall (cValue fuel) opts (.sym f) args (curAt c p)) := by
  have hf' := hf
  simp only [specials, List.contains_cons, List.contains_nil, Bool.or_false, Bool.or_eq_false_iff, beq_eq_false_iff_ne, ne_eq] at hf'
  obtain ⟨h1, h2, h3, h4, h5, h6, h7, h8, h9, h10, h11, h12, h13⟩ := hf'
  rw [cValue] <;> first | (intros; simp_all; done) | skip
  simp only [hf, curAt]
  cases cCall (cValue fuel) opts (.sym f) args (if p.line ≥ 0 then { c with cur := p } else c) with
  | none => rfl
  | some a => cases a; rfl

/-- the emit part of `janetc_call`: JOP_TAILCALL in tail position of a non-top scope, else the target and JOP_CALL -/
def cCallOut (opts : Fopts) (head : JSlot) (c3 : CState) : Option (JSlot × CState) :=
  if opts.tail && !curTop c3 then do
    let c' ← emitS c3 .tailcall head false
    pure (({ k := .const .nil, returned := true } : JSlot), c')
  else do
    let (t, c') ← getTarget c3 opts
    let c'' ← emitSS c' .call t head true
    pure (t, c'')

theorem cCall_inv (rec' : Fopts → Expr → CState → Option (JSlot × CState)) (opts : Fopts) (hd : Expr) (args : List Expr) (c0 cq : CState)
    (slot : JSlot) (h : cCall rec' opts hd args c0 = some (slot, cq)) :
    ∃ head c1 slots c2 c3 c4 c5, rec' {} hd c0 = some (head, c1) ∧ toSlots rec' args c1 = some (slots, c2) ∧
      pushSlots c2 slots = some c3 ∧ cCallOut opts head c3 = some (slot, c4) ∧ freeslots c4 slots = some c5 ∧ freeslot c5 head = some cq := by
  unfold cCall at h
  simp only [Option.bind_eq_bind, Option.pure_def, Option.bind_eq_some_iff, Prod.exists] at h
  obtain ⟨head, c1, h1, slots, c2, h2, h⟩ := h
  simp only [Option.ite_none_left_eq_some] at h
  obtain ⟨_, h⟩ := h
  simp only [Option.bind_eq_some_iff] at h
  obtain ⟨c3, h3, h⟩ := h
  refine ⟨head, c1, slots, c2, c3, ?_⟩
  by_cases hc : (opts.tail && !curTop c3) = true
  · rw [if_pos hc] at h
    simp only [Option.bind_eq_bind, Option.pure_def, Option.bind_eq_some_iff, Option.some.injEq, Prod.mk.injEq, Prod.exists] at h
    obtain ⟨c4, hem, sl', b, ⟨hsl, hb⟩, c5, hf1, c6, hf2, hq1, hq2⟩ := h
    subst hb hq1 hq2 hsl
    exact ⟨c4, c5, h1, h2, h3, by simp [cCallOut, hc, hem], hf1, hf2⟩
  · rw [if_neg hc] at h
    simp only [Option.bind_eq_bind, Option.pure_def, Option.bind_eq_some_iff, Option.some.injEq, Prod.mk.injEq, Prod.exists] at h
    obtain ⟨t, cT, hT, c4, hem, sl', b, ⟨hsl, hb⟩, c5, hf1, c6, hf2, hq1, hq2⟩ := h
    subst hb hq1 hq2 hsl
    exact ⟨c4, c5, h1, h2, h3, by simp [cCallOut, hc, hT, hem], hf1, hf2⟩

theorem cCallOut_tail {opts : Fopts} {head slot : JSlot} {c3 c4 : CState} (ht : opts.tail = true) (hct : curTop c3 = false)
    (h : cCallOut opts head c3 = some (slot, c4)) :
    emitS c3 .tailcall head false = some c4 ∧ slot = { k := .const .nil, returned := true } := by
  simp only [cCallOut, ht, hct, Bool.not_false, Bool.and_self, if_true, Option.bind_eq_bind, Option.pure_def, Option.bind_eq_some_iff,
    Option.some.injEq, Prod.mk.injEq] at h
  obtain ⟨c', hem, e1, e2⟩ := h
  subst e2
  exact ⟨hem, e1.symm⟩

theorem cCallOut_plain {opts : Fopts} {head slot : JSlot} {c3 c4 : CState} (ht : opts.tail = false) (hh : opts.hint = none)
    (h : cCallOut opts head c3 = some (slot, c4)) :
    ∃ cT, getTarget c3 {} = some (slot, cT) ∧ emitSS cT .call slot head true = some c4 := by
  simp only [cCallOut, ht, Bool.false_and, Bool.false_eq_true, if_false, getTarget, hh, Option.bind_eq_bind, Option.pure_def,
    Option.bind_eq_some_iff, Option.some.injEq, Prod.mk.injEq, Prod.exists] at h ⊢
  obtain ⟨t, cT, hT, c'', hem, e1, e2⟩ := h
  subst e1 e2
  exact ⟨cT, hT, hem⟩

theorem cCallOut_hint {opts : Fopts} {head slot hs : JSlot} {rh : Nat} {c3 c4 : CState} (ht : opts.tail = false) (hh : opts.hint = some hs)
    (hk : hs.k = .loc rh) (hr : rh ≤ 0xFF) (h : cCallOut opts head c3 = some (slot, c4)) :
    slot = hs ∧ emitSS c3 .call hs head true = some c4 := by
  simp only [cCallOut, ht, Bool.false_and, Bool.false_eq_true, if_false, getTarget, hh, hk, hr, if_true, Option.bind_eq_bind, Option.pure_def,
    Option.bind_eq_some_iff, Option.some.injEq, Prod.mk.injEq, Prod.exists] at h
  obtain ⟨t, cT, ⟨e1, e2⟩, c'', hem, e3, e4⟩ := h
  subst e1 e2 e3 e4
  exact ⟨rfl, hem⟩

/-- the three ways of `namelocal`: an alias of a named immutable local; a fresh register and a copy; an upvalue slot renamed -/
theorem namelocal_inv (c c2 : CState) (name : String) (mf : Bool) (r : JSlot) (h : namelocal c name mf r = some c2) :
    (r.named = true ∧ r.mutable = false ∧ (∃ d, r.k = .loc d) ∧ c2 = nameslot c name { r with mutable := false }) ∨
    (∃ d c1a c1b, allocFar c = some (d, c1a) ∧ copySlot c1a { k := .loc d } r = some c1b ∧ c2 = nameslot c1b name { k := .loc d, mutable := mf }) ∨
    (∃ e i, r.k = .up e i ∧ c2 = nameslot c name { r with mutable := r.mutable || mf }) := by
  have hcopy : (do let (ls, c1) ← farslot c
                   let c2 ← copySlot c1 ls r
                   pure (nameslot c2 name { ls with mutable := mf })) = some c2 →
      ∃ d c1a c1b, allocFar c = some (d, c1a) ∧ copySlot c1a { k := .loc d } r = some c1b ∧ c2 = nameslot c1b name { k := .loc d, mutable := mf } := by
    intro h
    simp only [farslot, Option.bind_eq_bind, Option.bind_eq_some_iff, Prod.exists, Option.pure_def, Option.some.injEq, Prod.mk.injEq] at h
    obtain ⟨ls, c1a, ⟨d, cx, hd, hls, hcx⟩, c1b, h2, h3⟩ := h
    subst hls hcx
    exact ⟨d, _, c1b, hd, h2, h3.symm⟩
  unfold namelocal at h
  cases hk : r.k with
  | loc d =>
    simp only [hk, Bool.and_false, Bool.and_true, Bool.not_false, if_true] at h
    split at h
    · rename_i ha
      simp only [Bool.and_eq_true, Bool.not_eq_true'] at ha
      exact Or.inl ⟨ha.2, ha.1.2, ⟨d, rfl⟩, (Option.some.inj h).symm⟩
    · exact Or.inr (Or.inl (hcopy h))
  | const kc =>
    simp only [hk, Bool.and_false, Bool.false_eq_true, if_false, Bool.not_false, if_true] at h
    exact Or.inr (Or.inl (hcopy h))
  | ref id =>
    simp only [hk, Bool.and_false, Bool.false_eq_true, if_false, Bool.not_false, if_true] at h
    exact Or.inr (Or.inl (hcopy h))
  | up e i =>
    simp only [hk, Bool.and_false, Bool.false_eq_true, if_false] at h
    split at h
    · exact Or.inr (Or.inl (hcopy h))
    · exact Or.inr (Or.inr ⟨e, i, rfl, (Option.some.inj h).symm⟩)

/-- `janetc_do` -/
def cDo (rec' : Fopts → Expr → CState → Option (JSlot × CState)) (opts : Fopts) (body : List Expr) (c : CState) : Option (JSlot × CState) := do
  let (r, c2) ← doBody rec' opts body (pushScope c false false false false)
  let c3 ← popScopeKeep c2 r
  pure (r, c3)

theorem cValue_do_any (fuel : Nat) (opts : Fopts) (body : List Expr) (p : Pos) (c : CState) :
    cValue (fuel + 1) opts (.form (.sym "do" :: body) p) c = finO opts c.cur (cDo (cValue fuel) opts body (curAt c p)) := by
  simp only [cValue]
  split
  · rename_i h; exact (congrArg (finO opts c.cur) h).symm
  · rename_i r c1 h; exact (congrArg (finO opts c.cur) h).symm

theorem cValue_upscope_any (fuel : Nat) (opts : Fopts) (body : List Expr) (p : Pos) (c : CState) :
    cValue (fuel + 1) opts (.form (.sym "upscope" :: body) p) c = finO opts c.cur (doBody (cValue fuel) opts body (curAt c p)) := by
  simp only [cValue]
  split
  · rename_i h; exact (congrArg (finO opts c.cur) h).symm
  · rename_i r c1 h; exact (congrArg (finO opts c.cur) h).symm

/-- `janetc_def` with a symbol pattern in a local scope -/
def cDef (rec' : Fopts → Expr → CState → Option (JSlot × CState)) (name : String) (v : Expr) (c : CState) : Option (JSlot × CState) :=
  if curTop c then none else do
    let (r, c1) ← rec' {} v c
    let c2 ← namelocal c1 name false r
    pure (r, c2)

theorem cValue_def_any (fuel : Nat) (opts : Fopts) (name : String) (v : Expr) (p : Pos) (c : CState) :
    cValue (fuel + 1) opts (.form [.sym "def", .sym name, v] p) c = finO opts c.cur (cDef (cValue fuel) name v (curAt c p)) := by
  simp only [cValue]
  split
  · rename_i h; exact (congrArg (finO opts c.cur) h).symm
  · rename_i r c1 h; exact (congrArg (finO opts c.cur) h).symm

theorem eval_do (n : Nat) (cur : Pos) (env : Env) (body : List Expr) (p : Pos) (s : SS) :
    eval (n + 1) cur env (.form (.sym "do" :: body) p) s =
      (match evalSeq n (posOf cur p) env body s with
       | .ok (v, _) s' => .ok (v, env) s'
       | r => r) := by
  simp only [eval] <;> rfl

theorem eval_upscope (n : Nat) (cur : Pos) (env : Env) (body : List Expr) (p : Pos) (s : SS) :
    eval (n + 1) cur env (.form (.sym "upscope" :: body) p) s = evalSeq n (posOf cur p) env body s := by
  simp only [eval]

theorem eval_def (n : Nat) (cur : Pos) (env : Env) (x : String) (ve : Expr) (p : Pos) (s : SS) :
    eval (n + 1) cur env (.form [.sym "def", .sym x, ve] p) s =
      (match eval n (posOf cur p) env ve s with
       | .ok (v, env1) s' =>
         match destructure n (posOf cur p) env1 (.sym x) v s' with
         | .ok env2 s'' => .ok (v, env2) s''
         | .err v p s'' => .err v p s'' | .brk v s'' => .brk v s'' | .stop w => .stop w
       | r => r) := by
  simp only [eval, List.getLast?, List.getLast_singleton] <;> rfl

theorem eval_def_inv (kw : String) (hkw : kw = "def" ∨ kw = "var") (n : Nat) (cur : Pos) (env env' : Env) (x : String) (ve : Expr) (p : Pos)
    (s s' : SS) (v : Value) (h : eval n cur env (.form [.sym kw, .sym x, ve] p) s = .ok (v, env') s') :
    ∃ n2 env1 s1, n = n2 + 1 ∧ eval n2 (posOf cur p) env ve s = .ok (v, env1) s1 ∧
      env' = (x, s1.boxes.size) :: env1 ∧ s' = { s1 with boxes := s1.boxes.push v } := by
  cases n with
  | zero => simp [eval] at h
  | succ n2 =>
    have e : eval (n2 + 1) cur env (.form [.sym kw, .sym x, ve] p) s = eval (n2 + 1) cur env (.form [.sym "def", .sym x, ve] p) s := by
      rcases hkw with rfl | rfl
      · rfl
      · rw [eval_def]; simp only [eval, List.getLast?, List.getLast_singleton] <;> rfl
    rw [e, eval_def] at h
    cases he : eval n2 (posOf cur p) env ve s with
    | ok r s1 =>
      obtain ⟨v1, env1⟩ := r
      rw [he] at h
      cases n2 with
      | zero => simp [eval] at he
      | succ n3 =>
        simp only [destructure, Lang.bind, R.ok.injEq, Prod.mk.injEq] at h
        obtain ⟨⟨hv, henv⟩, hs⟩ := h
        subst hv
        exact ⟨n3 + 1, env1, s1, rfl, he, henv.symm, hs.symm⟩
    | err _ _ _ => rw [he] at h; exact absurd h (by simp)
    | brk _ _ => rw [he] at h; exact absurd h (by simp)
    | stop _ => rw [he] at h; exact absurd h (by simp)

theorem eval_def_err_inv (n : Nat) (cur : Pos) (env : Env) (x : String) (ve : Expr) (p : Pos) (s s' : SS) (ev : Value) (epos : Pos)
    (h : eval n cur env (.form [.sym "def", .sym x, ve] p) s = .err ev epos s') :
    ∃ n2, n = n2 + 1 ∧ eval n2 (posOf cur p) env ve s = .err ev epos s' := by
  cases n with
  | zero => simp [eval] at h
  | succ n2 =>
    rw [eval_def] at h
    cases he : eval n2 (posOf cur p) env ve s with
    | ok r s1 =>
      obtain ⟨v1, env1⟩ := r
      rw [he] at h
      cases n2 with
      | zero => simp [eval] at he
      | succ n3 => simp [destructure, Lang.bind] at h
    | err e2 p2 s2 => rw [he] at h; simp only at h; exact ⟨n2, rfl, by rw [he]; exact h⟩
    | brk _ _ => rw [he] at h; exact absurd h (by simp)
    | stop _ => rw [he] at h; exact absurd h (by simp)

theorem evalSeq_nil_inv (n : Nat) (cur : Pos) (env env' : Env) (s s' : SS) (v : Value)
    (h : evalSeq n cur env [] s = .ok (v, env') s') : v = .nil ∧ env' = env ∧ s' = s := by
  cases n with
  | zero => simp [evalSeq] at h
  | succ n =>
    simp only [evalSeq, R.ok.injEq, Prod.mk.injEq] at h
    obtain ⟨⟨h1, h2⟩, h3⟩ := h
    exact ⟨h1.symm, h2.symm, h3.symm⟩

theorem evalSeq_nil_err (n : Nat) (cur : Pos) (env : Env) (s s' : SS) (ev : Value) (epos : Pos) : evalSeq n cur env [] s ≠ .err ev epos s' := by
  cases n <;> simp [evalSeq]

theorem evalSeq_one_inv (n : Nat) (cur : Pos) (env env' : Env) (e : Expr) (s s' : SS) (v : Value)
    (h : evalSeq n cur env [e] s = .ok (v, env') s') : ∃ n2, n = n2 + 1 ∧ eval n2 cur env e s = .ok (v, env') s' := by
  cases n with
  | zero => simp [evalSeq] at h
  | succ n => exact ⟨n, rfl, by simpa only [evalSeq] using h⟩

theorem evalSeq_cons_inv (n : Nat) (cur : Pos) (env env' : Env) (e y : Expr) (rest : List Expr) (s s' : SS) (v : Value)
    (h : evalSeq n cur env (e :: y :: rest) s = .ok (v, env') s') :
    ∃ n2 v1 env1 s1, n = n2 + 1 ∧ eval n2 cur env e s = .ok (v1, env1) s1 ∧ evalSeq n2 cur env1 (y :: rest) s1 = .ok (v, env') s' := by
  cases n with
  | zero => simp [evalSeq] at h
  | succ n =>
    simp only [evalSeq] at h
    cases he : eval n cur env e s with
    | ok r s1 =>
      obtain ⟨v1, env1⟩ := r
      rw [he] at h
      exact ⟨n, v1, env1, s1, rfl, he, h⟩
    | err _ _ _ => rw [he] at h; exact absurd h (by simp)
    | brk _ _ => rw [he] at h; exact absurd h (by simp)
    | stop _ => rw [he] at h; exact absurd h (by simp)

/-- `janetc_copy(c, near local r, constant)`: one load; allocator untouched; the constant interned -/
theorem copy_loc_const (c c' : CState) (dest src : JSlot) (r : Nat) (k : KConst) (hd : dest.k = .loc r) (hr : r ≤ 0xFF) (hdc : dest.cflag = false)
    (hsrc : src.k = .const k) (sc : Scope) (rs : List Scope) (pool : List KConst) (ps : List (List KConst))
    (hs : c.scopes = sc :: rs) (hp : c.pools = pool :: ps) (h : copySlot c dest src = some c') :
    sc.ra.max < c.lim ∧
    c' = { c with scopes := sc :: rs, pools := (if k.pooled then W.intern pool k else pool) :: ps,
                  buf := c.buf ++ [CI.mi (.ldk r k (W.poolIdx (if k.pooled then W.intern pool k else pool) k))], map := c.map ++ [c.cur] } := by
  have hne : ¬ (dest.k = src.k) := by rw [hd, hsrc]; simp
  simp only [copySlot, hdc, Bool.false_eq_true, if_false, hne, decide_false, Bool.false_and] at h
  obtain ⟨hmax, hc'⟩ := emitW_spec c c' _ sc rs pool ps hs hp h
  have hnl : (Slot.loc r).nearLocal = true := by simp [Slot.nearLocal, hr]
  have hX : W.copy { ra := sc.ra, buf := [], consts := pool } dest.k src.k =
      { ra := sc.ra, buf := [.ldk r k (W.poolIdx (if k.pooled then W.intern pool k else pool) k)], consts := (if k.pooled then W.intern pool k else pool) } := by
    rw [hd, hsrc]
    simp only [W.copy, hnl, if_true, slotConst_const, W.finish, Emit.copy, Slot.index, movenear, List.nil_append]
    simp
  rw [hX] at hmax hc'
  exact ⟨hmax, by rw [hc']; simp⟩

/-- `janetc_copy(c, near local r, near local d)`, `r ≠ d`: one move -/
theorem copy_loc_loc (c c' : CState) (dest src : JSlot) (r d : Nat) (hd : dest.k = .loc r) (hr : r ≤ 0xFF) (hdc : dest.cflag = false)
    (hsrc : src.k = .loc d) (hne : d ≠ r) (sc : Scope) (rs : List Scope) (pool : List KConst) (ps : List (List KConst))
    (hs : c.scopes = sc :: rs) (hp : c.pools = pool :: ps) (h : copySlot c dest src = some c') :
    sc.ra.max < c.lim ∧
    c' = { c with scopes := sc :: rs, pools := pool :: ps, buf := c.buf ++ [CI.mi (.movn r d)], map := c.map ++ [c.cur] } := by
  have hne' : ¬ (dest.k = src.k) := by rw [hd, hsrc]; simp; exact fun e => hne e.symm
  simp only [copySlot, hdc, Bool.false_eq_true, if_false, hne', decide_false, Bool.false_and] at h
  obtain ⟨hmax, hc'⟩ := emitW_spec c c' _ sc rs pool ps hs hp h
  have hnl : (Slot.loc r).nearLocal = true := by simp [Slot.nearLocal, hr]
  have hX : W.copy { ra := sc.ra, buf := [], consts := pool } dest.k src.k = { ra := sc.ra, buf := [.movn r d], consts := pool } := by
    rw [hd, hsrc]
    have hrd : ¬ (Slot.loc r = Slot.loc d) := by simp; exact fun e => hne e.symm
    simp only [W.copy, hrd, if_false, hnl, if_true, W.slotConst, W.finish, Emit.copy, Slot.index, movenear, List.nil_append, List.foldl_nil]
    simp [hne]
  rw [hX] at hmax hc'
  exact ⟨hmax, by rw [hc']; simp⟩

section
variable (p : Program) (f0 : Frame) (rest : List Frame)

theorem run_movn (k : Cfg) (r d : Nat) (hr : r < 256) (hd : d < 65536)
    (hcode : (p.defs.getD f0.defIdx default).code[k.pc]? = some (CI.mi (.movn r d)).word) :
    step p (inj f0 rest k) = .next (inj f0 rest { k with regs := k.regs.setIfInBounds r (k.regs.getD d .nil), pc := k.pc + 1 }) := by
  have h := step_mi p (inj f0 rest k) (.movn r d) ⟨hr, hd⟩ (by rw [inj_curDef, inj_pc]; exact hcode)
  rw [h]
  simp only [vmExecMI, inj_getReg, inj_setAdv]

end

end JanetModel.Compile
