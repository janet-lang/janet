/- C02: a call of a global core function with any number of operands, the part before the call instruction: operands by
   `janetc_toslots`, pushed by `janetc_pushslots` in groups; `janetc_freeslots` releases exactly the unnamed operand registers. -/
import JanetModel.Compile.SeqArgs
import JanetModel.Compile.SeqPush
import JanetModel.Compile.SeqDo
namespace JanetModel.Compile
open JanetModel.Emit JanetModel.Lang JanetModel.Bytecode.Exec JanetModel.Gen.Bytecode

/-- `janetc_freeslots`: only unnamed temporaries are released; every register in `Keep` (which contains none of them) stays
    allocated -/
theorem freeslots_keep (Keep : Nat → Prop) : ∀ (slots : List JSlot) (c cf : CState) (sc1 : Scope) (rs : List Scope), c.scopes = sc1 :: rs →
    (∀ sl, sl ∈ slots → sl.cflag = true ∨ sl.named = true ∨ (sl.cflag = false ∧ sl.named = false ∧ ∃ d, sl.k = .loc d ∧ ¬ Keep d)) →
    freeslots c slots = some cf →
    ∃ raf, cf = { c with scopes := { sc1 with ra := raf } :: rs } ∧ raf.max = sc1.ra.max ∧
      ∀ r, sc1.ra.alloc r = true → Keep r → raf.alloc r = true
  | [], c, cf, sc1, rs, hs, _, hf => by
    simp only [freeslots, Option.some.injEq] at hf
    exact ⟨sc1.ra, by rw [← hf]; exact cstate_scopes_eta c sc1 rs hs, rfl, fun _ h _ => h⟩
  | sl :: ss, c, cf, sc1, rs, hs, hok, hf => by
    simp only [freeslots, Option.bind_eq_bind, Option.bind_eq_some_iff] at hf
    obtain ⟨c1, h1, h2⟩ := hf
    have hrec := fun sl' (h : sl' ∈ ss) => hok sl' (by simp [h])
    rcases hok sl (by simp) with hcf | hnm | ⟨hcf, hnm, da, hka, hnk⟩
    · rw [freeslot_const c sl hcf] at h1
      rw [← Option.some.inj h1] at h2
      exact freeslots_keep Keep ss c cf sc1 rs hs hrec h2
    · rw [freeslot_named c sl hnm] at h1
      rw [← Option.some.inj h1] at h2
      exact freeslots_keep Keep ss c cf sc1 rs hs hrec h2
    · rw [freeslot_loc c sl da sc1 rs hs hcf hnm hka] at h1
      rw [← Option.some.inj h1] at h2
      obtain ⟨raf, e1, e2, e3⟩ := freeslots_keep Keep ss _ cf { sc1 with ra := sc1.ra.unmark da } rs rfl hrec h2
      refine ⟨raf, by rw [e1], e2, fun r hr hk => e3 r ?_ hk⟩
      have hne : r ≠ da := by intro e; rw [e] at hk; exact hnk hk
      simp only [RA.unmark, hne, if_false]; exact hr

section
variable (p : Program) (f0 : Frame) (rest : List Frame) (V : Array Value) (P : List KConst)

/-- the operands of a call compiled and pushed, and run -/
structure CallArgs (G : String → Prop) (c c2 c3 : CState) (slots : List JSlot) (sc : Scope) (rs : List Scope)
    (pool : List KConst) (ps : List (List KConst)) (env env_a : Env) (s s_a : SS) (vs : List Value)
    (ra2 : RA) (ns2 : List SymPair) (more2 : List KConst) (seg2 : List CI) (segm2 : List Pos)
    (ra3 : RA) (more3 : List KConst) (seg3 : List CI) (segm3 : List Pos) : Prop where
  hc2 : c2 = { c with scopes := { sc with ra := ra2, syms := sc.syms ++ ns2 } :: rs, pools := (pool ++ more2) :: ps, buf := c.buf ++ seg2,
                      map := c.map ++ segm2, vals := c2.vals }
  hc3 : c3 = { c2 with scopes := { sc with ra := ra3, syms := sc.syms ++ ns2 } :: rs, pools := ((pool ++ more2) ++ more3) :: ps,
                       buf := c2.buf ++ seg3, map := c2.map ++ segm3 }
  pv : PrefA c.vals c2.vals
  mono : ∀ r, sc.ra.alloc r = true → ra2.alloc r = true
  max : sc.ra.max ≤ ra2.max
  sok : ∀ sl, sl ∈ slots → SlotOK2 sc ra2 c2.scopes c2.vals sl
  bx : PrefA s.boxes s_a.boxes
  es : EnvS G c2.scopes env_a s_a.boxes.size ra2
  nf : ∀ d, sc.ra.alloc d = true → NoName c.scopes d → NoName c2.scopes d
  e3 : ∀ j, ra3.alloc j = ra2.alloc j
  m3 : ra2.max ≤ ra3.max
  run : ∀ (k : Cfg), k.w = s.st.world → k.args = #[] → EnvD c.scopes env s k.regs →
    CodeAt (p.defs.getD f0.defIdx default).code k.pc (seg2 ++ seg3) → PrefL ((pool ++ more2) ++ more3) P → PrefA c2.vals V →
    ra3.max < k.regs.size →
    ∃ (regs3 A : Array Value),
      Reach p (inj f0 rest k) (inj f0 rest { regs := regs3, pc := k.pc + seg2.length + seg3.length, args := A, w := s_a.st.world }) ∧
      A.toList = vs ∧ regs3.size = k.regs.size ∧ (∀ r, sc.ra.alloc r = true → regs3.getD r .nil = k.regs.getD r .nil) ∧
      (∀ r, ra2.alloc r = true → ra3.alloc r = true) ∧ EnvD c2.scopes env_a s_a regs3

theorem args_pushed (hP : P.length < 65536)
    (hK : ∀ i, i < P.length → (p.defs.getD f0.defIdx default).consts.getD i .nil = litOf V (P.getD i .nil))
    {G : String → Prop} {c1 c2 c3 : CState} {slots : List JSlot} {sc : Scope} {rs : List Scope}
    {pool : List KConst} {ps : List (List KConst)} {env env_a : Env} {s s_a : SS} {vs : List Value} (hl : c1.lim ≤ 240)
    (CA : CorrectArgs p f0 rest V P G c1 c2 slots sc rs pool ps env env_a s s_a vs) (h3 : pushSlots c2 slots = some c3) :
    ∃ (ra2 : RA) (ns2 : List SymPair) (more2 : List KConst) (seg2 : List CI) (segm2 : List Pos)
      (ra3 : RA) (more3 : List KConst) (seg3 : List CI) (segm3 : List Pos),
      CallArgs p f0 rest V P G c1 c2 c3 slots sc rs pool ps env env_a s s_a vs ra2 ns2 more2 seg2 segm2 ra3 more3 seg3 segm3 := by
  obtain ⟨ra2, ns2, more2, seg2, segm2, hc2, pv2, r1a, r3a, sok2, bx2, es2, nf2, vm2⟩ := CA
  have hs2 : c2.scopes = { sc with ra := ra2, syms := sc.syms ++ ns2 } :: rs := by rw [hc2]
  have hp2 : c2.pools = (pool ++ more2) :: ps := by rw [hc2]
  have hl2 : c2.lim ≤ 240 := by rw [hc2]; exact hl
  have hal2 : ∀ sl r, sl ∈ slots → sl.k = .loc r → ra2.alloc r = true := by
    intro sl r hsl hk
    rcases sok2 sl hsl with ⟨_, kc, hk', _⟩ | ⟨_, _, r', hk', a4, _⟩ | ⟨_, _, d', hk', _, a5, _, _⟩
    · rw [hk] at hk'; exact absurd hk' (by simp)
    · rw [hk] at hk'; injection hk' with e; subst e; exact a4
    · rw [hk] at hk'; injection hk' with e; subst e; exact a5
  obtain ⟨ra3, more3, seg3, segm3, hc3, e3, m3, vm3⟩ :=
    pushN p f0 rest V P hP hK slots c2 c3 { sc with ra := ra2, syms := sc.syms ++ ns2 } rs (pool ++ more2) ps hs2 hp2 hl2 (fun sl h => (sok2 sl h).sk) hal2 h3
  have e3' : ∀ j, ra3.alloc j = ra2.alloc j := e3
  have m3' : ra2.max ≤ ra3.max := m3
  refine ⟨ra2, ns2, more2, seg2, segm2, ra3, more3, seg3, segm3, ⟨hc2, hc3, pv2, r1a, r3a, sok2, bx2, es2, nf2, e3', m3', ?_⟩⟩
  intro k hkw hka hD hcode hpre hV hsz
  obtain ⟨regs2, rch2, sz2, pr2, sv2, ed2⟩ := vm2 k hkw hka hD hcode.left (PrefL.trans ⟨more3, rfl⟩ hpre) hV (Nat.lt_of_le_of_lt m3' hsz)
  obtain ⟨regs3, A, rch3, hA, sz3, pr3⟩ := vm3 { regs := regs2, pc := k.pc + seg2.length, args := #[], w := s_a.st.world } hcode.right hpre
    (by show ra3.max < regs2.size; rw [sz2]; exact hsz)
  have sz3' : regs3.size = regs2.size := sz3
  have pr3' : ∀ r, ra2.alloc r = true → regs3.getD r .nil = regs2.getD r .nil := pr3
  refine ⟨regs3, A, Reach.trans rch2 rch3, by rw [hA, ← sv2]; simp, sz3'.trans sz2,
    fun r hr => by rw [pr3' r (r1a r hr)]; exact pr2 r hr, fun r hr => by rw [e3' r]; exact hr, ?_⟩
  intro x slot u l r a hx hk he
  obtain ⟨_, _, _, r', _, hk', _, _, hal, _⟩ := es2.found hx
  have hrr : r' = r := by rw [hk'] at hk; injection hk
  rw [pr3' r (hrr ▸ hal)]
  exact ed2 x slot u l r a hx hk he

end

end JanetModel.Compile
