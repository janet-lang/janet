/- C02: compile correctness, core fragment: `janetc_toslots` — the operands of a call compiled left to right and HELD TOGETHER
   (no slot is freed between two operands), against `Lang/Sem.evalArgs`.  Every operand slot keeps its value while the later
   operands run (a constant; a named local, which is allocated; an unnamed register that was free when its operand started and
   is allocated since), no later operand gives a name to an earlier operand's unnamed register (`NameFrame`). -/
import JanetModel.Compile.SeqCorrect
import JanetModel.Compile.SemCall
namespace JanetModel.Compile
open JanetModel.Emit JanetModel.Lang JanetModel.Bytecode.Exec JanetModel.Gen.Bytecode

theorem SlotOK2.later {sc : Scope} {ra1 ra' : RA} {scs1 scs' : List Scope} {vals1 vals' : Array Value} {sl : JSlot}
    (h : SlotOK2 sc ra1 scs1 vals1 sl) (hv : PrefA vals1 vals') (hmono : ∀ r, ra1.alloc r = true → ra'.alloc r = true)
    (hnn : ∀ d, ra1.alloc d = true → NoName scs1 d → NoName scs' d) : SlotOK2 sc ra' scs' vals' sl := by
  rcases h with ⟨a1, kc, a2, a3⟩ | ⟨a1, a2, r, a3, a4, a5⟩ | ⟨a1, a2, d, a3, a4, a5, a6, a7⟩
  · exact Or.inl ⟨a1, kc, a2, KWf.mono hv kc a3⟩
  · exact Or.inr (Or.inl ⟨a1, a2, r, a3, hmono r a4, a5⟩)
  · exact Or.inr (Or.inr ⟨a1, a2, d, a3, a4, hmono d a5, a6, hnn d a5 a7⟩)

theorem SlotOK2.earlier {sc sc1 : Scope} {ra' : RA} {scs' : List Scope} {vals' : Array Value} {sl : JSlot}
    (h : SlotOK2 sc1 ra' scs' vals' sl) (hmono : ∀ r, sc.ra.alloc r = true → sc1.ra.alloc r = true) : SlotOK2 sc ra' scs' vals' sl := by
  rcases h with h | h | ⟨a1, a2, d, a3, a4, a5, a6, a7⟩
  · exact Or.inl h
  · exact Or.inr (Or.inl h)
  · refine Or.inr (Or.inr ⟨a1, a2, d, a3, ?_, a5, a6, a7⟩)
    cases hh : sc.ra.alloc d with
    | false => rfl
    | true => have := hmono d hh; rw [a4] at this; exact Bool.noConfusion this

theorem slotVal_keep {sc : Scope} {ra1 : RA} {scs1 : List Scope} {vals1 : Array Value} {sl : JSlot} (V : Array Value) (regs1 regs2 : Array Value)
    (h : SlotOK2 sc ra1 scs1 vals1 sl) (hk : ∀ r, ra1.alloc r = true → regs2.getD r .nil = regs1.getD r .nil) :
    slotVal V regs2 sl = slotVal V regs1 sl := by
  rcases h with ⟨_, kc, a2, _⟩ | ⟨_, _, r, a3, a4, _⟩ | ⟨_, _, d, a3, _, a5, _, _⟩
  · simp only [slotVal, a2]
  · simp only [slotVal, a3]; exact hk r a4
  · simp only [slotVal, a3]; exact hk d a5

section
variable (p : Program) (f0 : Frame) (rest : List Frame) (V : Array Value) (P : List KConst)

/-- the statement of compile correctness for an operand list (`vals := c'.vals`: the equation leaves the value table free; `PrefA`
    says what is known of it) -/
def CorrectArgs (G : String → Prop) (c c' : CState) (slots : List JSlot) (sc : Scope) (rs : List Scope) (pool : List KConst)
    (ps : List (List KConst)) (env env' : Env) (s s' : SS) (vs : List Value) : Prop :=
  ∃ (ra' : RA) (nsyms : List SymPair) (more : List KConst) (seg : List CI) (segm : List Pos),
    c' = { c with scopes := { sc with ra := ra', syms := sc.syms ++ nsyms } :: rs, pools := (pool ++ more) :: ps, buf := c.buf ++ seg,
                  map := c.map ++ segm, vals := c'.vals } ∧
    PrefA c.vals c'.vals ∧ (∀ r, sc.ra.alloc r = true → ra'.alloc r = true) ∧ sc.ra.max ≤ ra'.max ∧
    (∀ sl, sl ∈ slots → SlotOK2 sc ra' c'.scopes c'.vals sl) ∧ PrefA s.boxes s'.boxes ∧ EnvS G c'.scopes env' s'.boxes.size ra' ∧
    (∀ d, sc.ra.alloc d = true → NoName c.scopes d → NoName c'.scopes d) ∧
    ∀ (k : Cfg), k.w = s.st.world → k.args = #[] → EnvD c.scopes env s k.regs →
      CodeAt (p.defs.getD f0.defIdx default).code k.pc seg → PrefL (pool ++ more) P → PrefA c'.vals V → ra'.max < k.regs.size →
      ∃ regs', Reach p (inj f0 rest k) (inj f0 rest { regs := regs', pc := k.pc + seg.length, args := #[], w := s'.st.world }) ∧
        regs'.size = k.regs.size ∧ (∀ r, sc.ra.alloc r = true → regs'.getD r .nil = k.regs.getD r .nil) ∧
        slots.map (slotVal V regs') = vs ∧ EnvD c'.scopes env' s' regs'

theorem toSlots_correct (G : String → Prop) (T : Expr → Prop) (w : Bool) (fuel : Nat) (IH : CorrectAt p f0 rest V P G T w fuel)
    (ML : MLAt G T w fuel) (hns : ∀ a, T a → isSplice a = none) :
    ∀ (args : List Expr), (∀ a, a ∈ args → T a) →
    ∀ (c c' : CState) (slots : List JSlot) (sc : Scope) (rs : List Scope) (pool : List KConst) (ps : List (List KConst))
      (n : Nat) (cur : Pos) (env env' : Env) (s s' : SS) (vs : List Value),
      c.scopes = sc :: rs → c.pools = pool :: ps → c.lim ≤ 240 → sc.top = false → (w = true → c.map.length = c.buf.length) →
      toSlots (cValue fuel) args c = some (slots, c') → evalArgs n cur env args s = .ok (vs, env') s' → EnvS G c.scopes env s.boxes.size sc.ra →
      CorrectArgs p f0 rest V P G c c' slots sc rs pool ps env env' s s' vs := by
  intro args
  induction args with
  | nil =>
    intro _ c c' slots sc rs pool ps n cur env env' s s' vs hs hp hl htop hm hc hsem hE
    clear hl htop hm
    simp only [toSlots, Option.some.injEq, Prod.mk.injEq] at hc
    obtain ⟨h1, h2⟩ := hc
    obtain ⟨e1, e2, e3⟩ := evalArgs_nil_inv n cur env env' s s' vs hsem
    subst h1 h2 e1 e2 e3
    refine ⟨sc.ra, [], [], [], [], ?_, PrefA.refl _, fun _ h => h, Nat.le_refl _, fun _ h => absurd h (by simp), PrefA.refl _, hE,
      fun _ _ h => h, ?_⟩
    · simp [hs, hp]
      cases c; simp_all
    · intro k hkw hka hD _ _ _ _
      refine ⟨k.regs, ?_, rfl, fun _ _ => rfl, rfl, hD⟩
      rw [cfg_eta k _ hkw hka]; exact Reach.refl _ _
  | cons a as ih =>
    intro hT c c' slots sc rs pool ps n cur env env' s s' vs hs hp hl htop hm hc hsem hE
    simp only [toSlots, Option.bind_eq_bind, Option.bind_eq_some_iff, Prod.exists, Option.pure_def, Option.some.injEq, Prod.mk.injEq] at hc
    obtain ⟨sl1, c1, hx, ss, c2, hrest, hsl, hc2⟩ := hc
    subst hsl
    rw [← hc2]
    clear hc2 c'
    obtain ⟨n2, v1, env1, s1, vs', hn, he1, he2, hvs⟩ := evalArgs_cons_inv n cur env env' a as s s' vs (hns a (hT a (by simp))) hsem
    subst hvs
    obtain ⟨ra1, ns1, more1, seg1, segm1, hc1, pv1, mono1, max1, sok1, bx1, es1, nf1, vm1⟩ :=
      IH a {} c c1 sl1 sc rs pool ps n2 cur env env1 s s1 v1 rfl rfl hs hp hl htop hm (hT a (by simp)) hx he1 hE
    have hm1 : w = true → c1.map.length = c1.buf.length := fun hw =>
      ML hw a {} c c1 sl1 sc rs pool ps env s.boxes.size rfl rfl hs hp htop (hT a (by simp)) hE hx (hm hw)
    have hs1 : c1.scopes = { sc with ra := ra1, syms := sc.syms ++ ns1 } :: rs := by rw [hc1]
    have hp1 : c1.pools = (pool ++ more1) :: ps := by rw [hc1]
    have hl1 : c1.lim ≤ 240 := by rw [hc1]; exact hl
    obtain ⟨ra', ns2, more2, seg2, segm2, hc', pv2, mono2, max2, sok2, bx2, es2, nf2, vm2⟩ :=
      ih (fun e he => hT e (by simp [he])) c1 c2 ss { sc with ra := ra1, syms := sc.syms ++ ns1 } rs (pool ++ more1) ps n2 cur env1 env' s1 s' vs'
        hs1 hp1 hl1 htop hm1 hrest he2 es1
    have mono2' : ∀ r, ra1.alloc r = true → ra'.alloc r = true := mono2
    have max2' : ra1.max ≤ ra'.max := max2
    have nf2' : ∀ d, ra1.alloc d = true → NoName c1.scopes d → NoName c2.scopes d := nf2
    refine ⟨ra', ns1 ++ ns2, more1 ++ more2, seg1 ++ seg2, segm1 ++ segm2, ?_, PrefA.trans pv1 pv2, fun r hr => mono2' r (mono1 r hr),
      by omega, ?_, PrefA.trans bx1 bx2, es2, fun d hd hno => nf2' d (mono1 d hd) (nf1.1 d hd hno), ?_⟩
    · rw [hc', hc1]
      simp [List.append_assoc]
    · intro sl hsl
      simp only [List.mem_cons] at hsl
      rcases hsl with rfl | hsl
      · exact sok1.later pv2 mono2' nf2'
      · exact (sok2 sl hsl).earlier mono1
    · intro k hkw hka hD hcode hpre hV hsz
      have hV1 : PrefA c1.vals V := PrefA.trans pv2 hV
      obtain ⟨regs1, rch1, sz1, pr1, sv1, ed1⟩ :=
        vm1 k hkw hka hD hcode.left (PrefL.trans ⟨more2, by simp [List.append_assoc]⟩ hpre) hV1 (by omega)
      obtain ⟨regs2, rch2, sz2, pr2, sv2, ed2⟩ :=
        vm2 { regs := regs1, pc := k.pc + seg1.length, args := #[], w := s1.st.world } rfl rfl ed1 hcode.right
          (by rw [List.append_assoc]; exact hpre) hV (by show ra'.max < regs1.size; omega)
      have sz2' : regs2.size = regs1.size := sz2
      have pr2' : ∀ r, ra1.alloc r = true → regs2.getD r .nil = regs1.getD r .nil := pr2
      refine ⟨regs2, ?_, by omega, ?_, ?_, ed2⟩
      · have e : k.pc + (seg1 ++ seg2).length = k.pc + seg1.length + seg2.length := by
          simp [List.length_append]; omega
        rw [e]
        exact Reach.trans rch1 rch2
      · intro r hr
        rw [pr2' r (mono1 r hr), pr1 r hr]
      · simp only [List.map_cons, sv2, List.cons.injEq, and_true]
        rw [slotVal_keep V regs1 regs2 sok1 pr2']
        exact sv1 rfl

end

end JanetModel.Compile
