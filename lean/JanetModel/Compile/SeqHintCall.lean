/- C02: a call of a global core function compiled with a hint slot (`(set x (f a …))`): `janetc_gettarget` returns the near hint
   itself (no allocation), the call is `LDK t f; CALL rh t`, the final `janetc_copy(hint, hint)` emits nothing.  The operands may
   read the hint register: they run before the CALL writes it. -/
import JanetModel.Compile.SeqHintBase
import JanetModel.Compile.SeqCore
namespace JanetModel.Compile
open JanetModel.Emit JanetModel.Lang JanetModel.Bytecode.Exec JanetModel.Gen.Bytecode

section
variable (p : Program) (f0 : Frame) (rest : List Frame) (V : Array Value) (P : List KConst)

theorem callEmitH (hP : P.length < 65536)
    (hK : ∀ i, i < P.length → (p.defs.getD f0.defIdx default).consts.getD i .nil = litOf V (P.getD i .nil))
    (c c4 : CState) (h head : JSlot) (rh : Nat) (kf : KConst) (f : String) (hna : f ≠ "apply")
    (sc : Scope) (rs : List Scope) (pool : List KConst) (ps : List (List KConst))
    (hs : c.scopes = sc :: rs) (hp : c.pools = pool :: ps) (hl : c.lim ≤ 240)
    (hk : h.k = .loc rh) (hr : rh < 240) (hhead : head.k = .const kf)
    (hE : emitSS c .call h head true = some c4) :
    ∃ (ra4 : RA) (more : List KConst) (seg : List CI) (segm : List Pos),
      c4 = { c with scopes := { sc with ra := ra4 } :: rs, pools := (pool ++ more) :: ps, buf := c.buf ++ seg, map := c.map ++ segm } ∧
      (∀ j, ra4.alloc j = sc.ra.alloc j) ∧ sc.ra.max ≤ ra4.max ∧ segm.length = seg.length ∧
      ∀ (k : Cfg) (s s' : SS) (n : Nat) (pos : Pos) (v : Value),
        CodeAt (p.defs.getD f0.defIdx default).code k.pc seg → PrefL (pool ++ more) P → ra4.max < k.regs.size → rh < k.regs.size → k.w = s.st.world →
        litOf V kf = .cfun f →
        applyFn (n + 1) pos (.cfun f) k.args.toList s = .ok v s' →
        ∃ regs', Reach p (inj f0 rest k) (inj f0 rest { regs := regs', pc := k.pc + seg.length, args := #[], w := s'.st.world }) ∧
          regs'.size = k.regs.size ∧ regs'.getD rh .nil = v ∧ ∀ r, sc.ra.alloc r = true → r ≠ rh → regs'.getD r .nil = k.regs.getD r .nil := by
  obtain ⟨t', ra4, more, seg, hc4, hlen, a6, a4, _, a1, vm⟩ :=
    call_at p f0 rest V P hP hK c c4 h head rh kf f sc rs pool ps hs hp hl hk hr hhead hE
  refine ⟨ra4, more, seg, [c.cur, c.cur], hc4, a6, a4, by rw [hlen]; rfl, ?_⟩
  intro k s s' n pos v hcode hpre hsz hrsz hw hlit happ
  obtain ⟨rch, hst⟩ := vm k hcode hpre hsz hlit
  rw [callStep_ok p f0 rest f hna rh { k with regs := k.regs.setIfInBounds t' (.cfun f), pc := k.pc + 1 } s s' n pos v hw happ] at hst
  refine ⟨(k.regs.setIfInBounds t' (.cfun f)).setIfInBounds rh v, ?_, by simp, getD_set_eq _ _ _ (by simp; exact hrsz), ?_⟩
  · rw [hlen]
    exact Reach.trans rch (Reach.head hst (Reach.refl _ _))
  · intro r hra hne
    have hrt : r ≠ t' := by
      intro e
      rw [e] at hra
      rw [hra] at a1
      exact Bool.noConfusion a1
    rw [getD_set_ne _ _ _ _ hne, getD_set_ne _ _ _ _ hrt]

theorem hint_call_core (hP : P.length < 65536)
    (hK : ∀ i, i < P.length → (p.defs.getD f0.defIdx default).consts.getD i .nil = litOf V (P.getD i .nil))
    (G : String → Prop) (f : String) (hna : f ≠ "apply")
    {c c2 c3 c4 c5 : CState} {slots : List JSlot} {kf : KConst} {sc : Scope} {rs : List Scope} {pool : List KConst} {ps : List (List KConst)}
    {env env_a : Env} {s s_a : SS} {vs : List Value} {ra2 : RA} {ns2 : List SymPair} {more2 : List KConst} {seg2 : List CI} {segm2 : List Pos}
    {ra3 : RA} {more3 : List KConst} {seg3 : List CI} {segm3 : List Pos}
    (X : CallPre p f0 rest V P G f c c2 c3 slots kf sc rs pool ps env env_a s s_a vs ra2 ns2 more2 seg2 segm2 ra3 more3 seg3 segm3)
    (hl : c.lim ≤ 240) (hm : c.map.length = c.buf.length)
    (h : JSlot) (rh : Nat) (hk : h.k = .loc rh) (hr : rh < 240) (hal : sc.ra.alloc rh = true) (hrm : rh ≤ sc.ra.max)
    (hEm : emitSS c3 .call h (cslot kf) true = some c4) (hf1 : freeslots c4 slots = some c5)
    (n2 : Nat) (pos : Pos) (s' : SS) (v : Value) (happ : applyFn (n2 + 1) pos (.cfun f) vs s_a = .ok v s') :
    HintOK p f0 rest V P G c c5 rh sc rs pool ps env env_a s s' v := by
  obtain ⟨⟨hc2, hc3, pvX, r1a, r3a, sok2, bx2, es2, _, e3', m3', vm3⟩, hlitX, hlenX⟩ := X
  obtain ⟨hlen2, hlen3⟩ := hlenX hm
  have hs2 : c2.scopes = { sc with ra := ra2, syms := sc.syms ++ ns2 } :: rs := by rw [hc2]
  have hs3 : c3.scopes = { sc with ra := ra3, syms := sc.syms ++ ns2 } :: rs := by rw [hc3]
  have hp3 : c3.pools = ((pool ++ more2) ++ more3) :: ps := by rw [hc3]
  have hl3 : c3.lim ≤ 240 := by rw [hc3, hc2]; exact hl
  have hal3 : ra3.alloc rh = true := by rw [e3']; exact r1a rh hal
  obtain ⟨ra4, more4, seg4, segm4, hc4, d2, d4, hlen4, vm4⟩ :=
    callEmitH p f0 rest V P hP hK c3 c4 h (cslot kf) rh kf f hna { sc with ra := ra3, syms := sc.syms ++ ns2 } rs ((pool ++ more2) ++ more3) ps
      hs3 hp3 hl3 hk hr rfl hEm
  have hs4 : c4.scopes = { sc with ra := ra4, syms := sc.syms ++ ns2 } :: rs := by rw [hc4]
  have d2' : ∀ j, ra4.alloc j = ra3.alloc j := d2
  have d4' : ra3.max ≤ ra4.max := d4
  have hlk2 : ∀ ra x, lk ({ sc with ra := ra, syms := sc.syms ++ ns2 } :: rs) x = lk c2.scopes x := by
    intro ra x; rw [hs2]; rfl
  let Keep : Nat → Prop := fun r => sc.ra.alloc r = true ∨ ∃ x slot u l, lk c2.scopes x = some (slot, u, l) ∧ slot.k = .loc r
  have hfree : ∀ sl, sl ∈ slots → sl.cflag = true ∨ sl.named = true ∨ (sl.cflag = false ∧ sl.named = false ∧ ∃ da, sl.k = .loc da ∧ ¬ Keep da) := by
    intro sl hsl
    rcases sok2 sl hsl with ⟨hcf, _⟩ | ⟨_, hnm, _⟩ | ⟨hcf, hnm, da, hka', hda1, hda2, _, hnn⟩
    · exact Or.inl hcf
    · exact Or.inr (Or.inl hnm)
    · refine Or.inr (Or.inr ⟨hcf, hnm, da, hka', ?_⟩)
      rintro (h' | ⟨x, slot, u, l, hx, hk'⟩)
      · rw [h'] at hda1; exact Bool.noConfusion hda1
      · exact hnn x slot u l hx hk'
  obtain ⟨ra5, hc5, hmax5, r15⟩ := freeslots_keep Keep slots c4 c5 { sc with ra := ra4, syms := sc.syms ++ ns2 } rs hs4 hfree hf1
  have hmax5' : ra5.max = ra4.max := hmax5
  have r15' : ∀ r, ra4.alloc r = true → Keep r → ra5.alloc r = true := r15
  have hs5 : c5.scopes = { sc with ra := ra5, syms := sc.syms ++ ns2 } :: rs := by rw [hc5]
  have h24 : ∀ r, ra2.alloc r = true → ra4.alloc r = true := by
    intro r hr'; rw [d2' r, e3' r]; exact hr'
  have hbx : s'.boxes = s_a.boxes := applyFn_cfun_boxes n2 pos f hna vs s_a s' v happ
  have hnames : ∀ x slot u l r, lk c2.scopes x = some (slot, u, l) → slot.k = .loc r → ra2.alloc r = true → ra5.alloc r = true :=
    fun x slot u l r hx hk' hr' => r15' r (h24 r hr') (Or.inr ⟨x, slot, u, l, hx, hk'⟩)
  refine ⟨ra5, ns2, more2 ++ more3 ++ more4, seg2 ++ seg3 ++ seg4, segm2 ++ segm3 ++ segm4, ?_, ?_, ?_, ?_, ?_, ?_, ?_, ?_⟩
  · rw [hc5, hc4, hc3, hc2]
    simp [List.append_assoc]
  · rw [hc5, hc4, hc3]
    exact pvX
  · intro r hr'; exact r15' r (h24 r (r1a r hr')) (Or.inl hr')
  · rw [hmax5']; omega
  · rw [hbx]; exact bx2
  · rw [hs5, hbx]
    exact es2.of_lk (hlk2 ra5) (Nat.le_refl _) hnames
  · simp [hlen2, hlen3, hlen4]
  · intro k hkw hka hD hcode hpre hV hsz
    rw [hmax5'] at hsz
    have hvals : c5.vals = c2.vals := by rw [hc5, hc4, hc3]
    rw [hvals] at hV
    have hcodeC : CodeAt (p.defs.getD f0.defIdx default).code (k.pc + seg2.length + seg3.length) seg4 := by
      rw [List.append_assoc] at hcode; exact hcode.right.right
    have hpreC : PrefL (pool ++ more2 ++ more3 ++ more4) P := by
      refine PrefL.trans ?_ hpre
      exact ⟨[], by simp [List.append_assoc]⟩
    obtain ⟨regs3, A, rch3, hargs, sz3, pr3, al3, ed3⟩ := vm3 k hkw hka hD hcode.left (PrefL.trans ⟨more4, rfl⟩ hpreC) hV (Nat.lt_of_le_of_lt d4' hsz)
    have hlit := hlitX V hV
    obtain ⟨regs4, rch4, sz4, hv4, pr4⟩ := vm4
      { regs := regs3, pc := k.pc + seg2.length + seg3.length, args := A, w := s_a.st.world }
      s_a s' n2 pos v hcodeC hpreC (by show ra4.max < regs3.size; rw [sz3]; exact hsz) (by show rh < regs3.size; omega) rfl hlit (by rw [hargs]; exact happ)
    have sz4' : regs4.size = regs3.size := sz4
    have pr4' : ∀ r, ra3.alloc r = true → r ≠ rh → regs4.getD r .nil = regs3.getD r .nil := pr4
    refine ⟨regs4, ?_, sz4'.trans sz3, ?_, hv4, ?_⟩
    · have e : k.pc + (seg2 ++ seg3 ++ seg4).length = k.pc + seg2.length + seg3.length + seg4.length := by
        simp only [List.length_append, Nat.add_assoc]
      rw [e]
      exact Reach.trans rch3 rch4
    · intro r hr' hne
      rw [pr4' r (al3 r (r1a r hr')) hne, pr3 r hr']
    · intro x slot u l r a' hx hk' hne he
      rw [hs5, hlk2] at hx
      obtain ⟨_, _, _, r', _, hk'', _, _, hal', _⟩ := es2.found hx
      have hrr : r' = r := by rw [hk''] at hk'; injection hk'
      rw [hrr] at hal'
      have h3r : ra3.alloc r = true := by rw [e3' r]; exact hal'
      rw [pr4' r h3r hne, ed3 x slot u l r a' hx hk' he]
      simp only [readBox, hbx]

end

end JanetModel.Compile
