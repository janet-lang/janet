/- C02: error propagation, the `if` case, on either path and under any options without a hint: the condition evaluates and the branch
   `truthy` selects raises; or the condition raises — then everything compiled after it only appends and is never reached. -/
import JanetModel.Compile.SeqErrAll
import JanetModel.Compile.SeqIfConst
namespace JanetModel.Compile
open JanetModel.Emit JanetModel.Lang JanetModel.Bytecode.Exec JanetModel.Gen.Bytecode

section
variable (p : Program) (f0 : Frame) (rest : List Frame) (V : Array Value) (P : List KConst)

/-- the configurations whose next step raises `ev` at `epos` in world `w'` -/
def Raises (w' : World) (ev : Value) (epos : Pos) (cf : Cfg) : Prop :=
  cf.w = w' ∧ step p (inj f0 rest cf) = .err ev epos (inj f0 rest cf)

/-- one branch of an `if` that raises, any position: the copy and the pop are never reached -/
theorem branch_err (G : String → Prop) (b : Bool) (fuel : Nat) (IHe : ErrAny p f0 rest V P G b fuel)
    (x : Expr) (hx : TF G b x) (opts : Fopts) (hh : opts.hint = none) (dc : Bool)
    (target : JSlot) (n2 : Nat) (pos : Pos) (cenv : Env) (s1 s' : SS) (ev : Value) (epos : Pos) :
    BranchRun p f0 rest V P G fuel opts dc target (fun _ _ => True) True pos cenv s1
      (fun x => eval n2 pos cenv x s1 = .err ev epos s') True false (Raises p f0 rest s'.st.world ev epos) (fun _ => True)
      (fun _ => True) s'.st.world (fun _ => True) x := by
  intro c4 c6 c7 c8 left sc4 rs4 pool4 ps hs4 hp4 hl hm4 hcur' _ h1 h2 h3 hsem hE
  have hcur : c4.cur = pos := hcur' trivial
  have E : ErrOK p f0 rest V P c4 c8 rs4 ps cenv s1 s' ev epos := by
    rw [pushScope_blk c4 sc4 rs4 false hs4] at h1
    have hlk1 : ∀ y, lk (blk c4 sc4 false :: sc4 :: rs4) y = lk c4.scopes y := by
      intro y; rw [hs4]; exact lk_push _ _ rfl rfl rfl y
    have hE1 : EnvS G (blk c4 sc4 false :: sc4 :: rs4) cenv s1.boxes.size (blk c4 sc4 false).ra :=
      hE.of_lk hlk1 (Nat.le_refl _) (fun _ _ _ _ _ _ _ h => h)
    have E1 := IHe x opts { c4 with scopes := blk c4 sc4 false :: sc4 :: rs4 } c6 left (blk c4 sc4 false) (sc4 :: rs4) pool4 ps n2 pos cenv s1 s' ev epos
      hh rfl hp4 hl rfl hm4 hcur hx h1 hsem hE1
    obtain ⟨S1, _⟩ := tf_shape G b fuel x opts { c4 with scopes := blk c4 sc4 false :: sc4 :: rs4 } c6 left (blk c4 sc4 false) (sc4 :: rs4) pool4 ps
      rfl hp4 hm4 hx hE1.lkl h1
    obtain ⟨sc6, pool6, hs6, hp6, _, _, _⟩ := S1.out
    have A2 : App c6 c7 (sc4 :: rs4) ps := by
      have R2 : StepR c6 c7 sc6 (sc4 :: rs4) pool6 ps := by
        unfold ifCopy at h2
        split at h2
        · rw [← Option.some.inj h2]; exact StepR.refl c6 sc6 _ pool6 ps hs6 hp6
        · exact copySlot_stepR c6 c7 target left sc6 _ pool6 ps hs6 hp6 h2
      exact R2.app hs6 hp6 (ifCopy_maxR dc c6 c7 target left sc6 _ pool6 ps hs6 hp6 h2)
    obtain ⟨ra', ns, more, seg, segm, hc6, _⟩ := S1
    have E2 := E1.extend seg segm (by rw [hc6]) (by rw [hc6]) A2
    obtain ⟨sc6', sc7, pool6', more7, seg7, segm7, a1, a2, a3, a4, a5, a6, a7, a8⟩ := A2
    have hs6' : c6.scopes = { blk c4 sc4 false with ra := ra', syms := (blk c4 sc4 false).syms ++ ns } :: sc4 :: rs4 := by rw [hc6]
    -- the scope popped at the end is a block scope: take its flags from the shape
    have hs7 : ∃ old, c7.scopes = old :: sc4 :: rs4 ∧ old.fn = false ∧ old.unused = false ∧ old.closure = false := by
      unfold ifCopy at h2
      split at h2
      · rw [← Option.some.inj h2]; exact ⟨_, hs6', rfl, rfl, rfl⟩
      · obtain ⟨raq, moreq, segq, segmq, hcq, _⟩ := copySlot_stepR c6 c7 target left _ _ pool6' ps hs6' a4 h2
        exact ⟨_, by rw [hcq], rfl, rfl, rfl⟩
    obtain ⟨old, hs7', f1, f2, f3⟩ := hs7
    obtain ⟨raX, hpop, hmaxX, _⟩ := popScope_block c7 old sc4 rs4 hs7' f1 f2 f3
    rw [hpop] at h3
    have hc8 := (Option.some.inj h3).symm
    refine ErrOK.block hs4 hs7' E2 ?_ (by rw [hc8]) (by rw [hc8]) (by rw [hc8]) (by rw [hc8])
    intro sc3 h3'
    rw [hc8] at h3'
    rw [← (List.cons.inj h3').1]
    show old.ra.max ≤ raX.max
    rw [hmaxX]; split <;> omega
  refine ⟨trivial, ?_⟩
  intro seg segm pool8 sc8 hbuf hmap hpool hscope k hkw hka hD hcode hmapAt hpre hV hsz _
  obtain ⟨regs', A, pc', rch, sz, hst⟩ := E sc8 pool8 seg segm hscope hpool hbuf hmap k hkw hka hD hcode (hmapAt trivial) hpre hV hsz
  exact ⟨{ regs := regs', pc := pc', args := A, w := s'.st.world }, rch, sz, rfl, hst⟩

theorem IfOut.errOK {c c' : CState} {sc : Scope} {rs : List Scope} {pool : List KConst} {ps : List (List KConst)} {raT : RA}
    {env : Env} {s s' : SS} {ev : Value} {epos : Pos}
    (H : IfOut p f0 V P c c' sc rs pool ps raT env s True True (fun _ => True)
      (RunRes p f0 rest false (Raises p f0 rest s'.st.world ev epos) raT (fun _ => True) (fun _ => True) s'.st.world)) :
    ErrOK p f0 rest V P c c' rs ps env s s' ev epos := by
  obtain ⟨raX, kept, more, seg0, segm0, hc', _, _, _, _, _, _, vm⟩ := H
  intro sc' pool' seg segm a1 a2 a3 a4 k hkw hka hD hcode hmap hpre hV hsz
  rw [hc'] at a1 a2 a3 a4
  have y1 := (List.cons.inj a1).1
  have y2 := (List.cons.inj a2).1
  have y3 := List.append_cancel_left a3
  have y4 := List.append_cancel_left a4
  subst y1 y2 y3 y4
  obtain ⟨⟨regs', pc', A, w0⟩, rch, sz, hw, hst⟩ := vm k hkw hka hD hcode (fun _ => hmap) hpre hV hsz trivial
  have hw' : w0 = s'.st.world := hw
  subst hw'
  exact ⟨regs', A, pc', rch, sz, hst⟩

theorem if_err (G : String → Prop) (b w : Bool) (fuel : Nat) (IH : CorrectAt p f0 rest V P G (TF G b) w fuel)
    (cnd tb fb : Expr) (hTc : TF G b cnd) (hTt : TF G b tb) (hTf : TF G b fb) (opts : Fopts) (dc nj : Bool) (target : JSlot)
    (c c' : CState) (sc : Scope) (rs : List Scope) (pool : List KConst) (ps : List (List KConst))
    (n2 : Nat) (pos : Pos) (env cenv : Env) (s s1 s' : SS) (cv ev : Value) (epos : Pos)
    (BR : ∀ x, TF G b x → BranchRun p f0 rest V P G fuel opts dc target (fun _ _ => True) True pos cenv s1
      (fun x => eval n2 pos cenv x s1 = .err ev epos s') True false (Raises p f0 rest s'.st.world ev epos) (fun _ => True)
      (fun _ => True) s'.st.world (fun _ => True) x)
    (hs : c.scopes = sc :: rs) (hp : c.pools = pool :: ps) (hl : c.lim ≤ 240) (hm : c.map.length = c.buf.length) (hcur : c.cur = pos)
    (c1 c3 : CState) (cond : JSlot) (raT : RA) (hc1 : c1 = { c with scopes := { sc with ra := raT } :: rs })
    (monoT : ∀ j, sc.ra.alloc j = true → raT.alloc j = true)
    (hcond : cValue fuel {} cnd (pushScope c1 false false false false) = some (cond, c3))
    (hst : IfRun fuel opts dc nj target cond tb fb c3 c')
    (hsc : eval n2 pos env cnd s = .ok (cv, cenv) s1)
    (hct : ∀ k, isConstSlot cond = some k → truthy cv = constTruthy k)
    (hsb : eval n2 pos cenv (if truthy cv then tb else fb) s1 = .err ev epos s')
    (hE : EnvS G c.scopes env s.boxes.size sc.ra) :
    ErrOK p f0 rest V P c c' rs ps env s s' ev epos :=
  IfOut.errOK p f0 rest V P
    (if_any p f0 rest V P G b w fuel IH cnd tb fb hTc hTt hTf opts dc nj target (fun _ _ => True) _ _ _
      True (fun x => eval n2 pos cenv x s1 = .err ev epos s') True True false _ s'.st.world (fun _ _ _ _ _ _ _ _ => trivial)
      c c' sc rs pool ps n2 pos env cenv s s1 cv BR hs hp hl hm (fun _ => hcur) c1 c3 cond raT hc1 monoT (fun _ _ _ _ => trivial) hcond hst
      (fun h => absurd h (by simp)) hsc hct hsb (fun _ _ => trivial) hE)

end

theorem ifPatch_prefix (nj : Bool) (a r : List CI) (i off j : Nat) (hi : a.length ≤ i) (hj : a.length ≤ j) :
    ∃ r', ifPatch nj (a ++ r) i off j = a ++ r' := by
  unfold ifPatch
  split
  · exact ⟨_, modBuf_append _ _ _ _ hi⟩
  · rw [modBuf_append _ _ _ _ hi, modBuf_append _ _ _ _ hj]
    exact ⟨_, rfl⟩

section
variable (p : Program) (f0 : Frame) (rest : List Frame) (V : Array Value) (P : List KConst)

/-- the condition raises: what `janetc_if` compiles after the condition only appends (`ifSteps_mid`) -/
theorem if_cond_err (G : String → Prop) (b : Bool) (fuel : Nat) (IHe : ErrAny p f0 rest V P G b fuel)
    (cnd tb fb : Expr) (hTc : TF G b cnd) (hTt : TF G b tb) (hTf : TF G b fb) (opts : Fopts) (dc nj : Bool) (target : JSlot)
    (c c' : CState) (sc : Scope) (rs : List Scope) (pool : List KConst) (ps : List (List KConst))
    (n2 : Nat) (pos : Pos) (env : Env) (s s' : SS) (ev : Value) (epos : Pos)
    (hs : c.scopes = sc :: rs) (hp : c.pools = pool :: ps) (hl : c.lim ≤ 240) (hm : c.map.length = c.buf.length) (hcur : c.cur = pos)
    (c1 c3 : CState) (cond : JSlot) (raT : RA) (hc1 : c1 = { c with scopes := { sc with ra := raT } :: rs })
    (monoT : ∀ j, sc.ra.alloc j = true → raT.alloc j = true)
    (hcond : cValue fuel {} cnd (pushScope c1 false false false false) = some (cond, c3))
    (hst : IfRun fuel opts dc nj target cond tb fb c3 c')
    (hsc : eval n2 pos env cnd s = .err ev epos s')
    (hE : EnvS G c.scopes env s.boxes.size sc.ra) :
    ErrOK p f0 rest V P c c' rs ps env s s' ev epos := by
  have hs1 : c1.scopes = { sc with ra := raT } :: rs := by rw [hc1]
  have hp1 : c1.pools = pool :: ps := by rw [hc1]; exact hp
  have hl1 : c1.lim ≤ 240 := by rw [hc1]; exact hl
  have hm1 : c1.map.length = c1.buf.length := by rw [hc1]; exact hm
  have hcur1 : c1.cur = pos := by rw [hc1]; exact hcur
  rw [pushScope_blk c1 { sc with ra := raT } rs false hs1] at hcond
  have hlk1 : ∀ y, lk (blk c1 { sc with ra := raT } false :: { sc with ra := raT } :: rs) y = lk c.scopes y := by
    intro y; rw [hs]; exact (lk_push _ _ rfl rfl rfl y).trans (lk_ra sc rs raT y)
  have hE1 : EnvS G (blk c1 { sc with ra := raT } false :: { sc with ra := raT } :: rs) env s.boxes.size (blk c1 { sc with ra := raT } false).ra :=
    hE.of_lk hlk1 (Nat.le_refl _) (fun _ _ _ _ r _ _ h => monoT r h)
  have E3 := IHe cnd {} { c1 with scopes := blk c1 { sc with ra := raT } false :: { sc with ra := raT } :: rs } c3 cond
    (blk c1 { sc with ra := raT } false) ({ sc with ra := raT } :: rs) pool ps n2 pos env s s' ev epos rfl rfl hp1 hl1 rfl hm1 hcur1 hTc hcond hsc hE1
  obtain ⟨S1, _⟩ := tf_shape G b fuel cnd {} { c1 with scopes := blk c1 { sc with ra := raT } false :: { sc with ra := raT } :: rs } c3 cond
    (blk c1 { sc with ra := raT } false) ({ sc with ra := raT } :: rs) pool ps rfl hp1 hm1 hTc hE1.lkl hcond
  have hm3 : c3.map.length = c3.buf.length := S1.mapLen hm1
  obtain ⟨ra3, ns3, more3, seg3, segm3, hc3, _, hL3, _⟩ := S1
  have hs3 : c3.scopes = upd (blk c1 { sc with ra := raT } false) ra3 ns3 :: { sc with ra := raT } :: rs := by rw [hc3]
  have hp3 : c3.pools = (pool ++ more3) :: ps := by rw [hc3]
  have hb3 : c3.buf = c.buf ++ seg3 := by rw [hc3]; show c1.buf ++ seg3 = _; rw [hc1]
  have hmp3 : c3.map = c.map ++ segm3 := by rw [hc3]; show c1.map ++ segm3 = _; rw [hc1]
  obtain ⟨cE, cPop, AE, epop, hc'⟩ := ifSteps_mid (shpmax_closed G) fuel (tf_closed (shpmax_closed G) b fuel) opts dc nj target cond tb fb
    hTt hTf c3 c' (ShpI.mk' hL3 hm3 hs3 hp3) hst.steps
  obtain ⟨raE, nsE, moreE, segE, segmE, hcE, pvE, _, _⟩ := AE.2.1 _ _ _ ps hs3 hp3
  obtain ⟨scE, hscE⟩ : ∃ scE : Scope, scE = upd (upd (blk c1 { sc with ra := raT } false) ra3 ns3) raE nsE := ⟨_, rfl⟩
  have hsE : cE.scopes = scE :: { sc with ra := raT } :: rs := by rw [hcE, hscE]
  have a3 : ra3.max ≤ scE.ra.max := AE.2.2 _ _ _ hs3 hsE
  obtain ⟨raX, hpop, hmaxX, _⟩ := popScope_block cE scE { sc with ra := raT } rs hsE (by rw [hscE]; rfl) (by rw [hscE]; rfl) (by rw [hscE]; rfl)
  rw [hpop] at epop
  have hcPop := (Option.some.inj epop).symm
  have hmaxX' : raX.max = (if raT.max < scE.ra.max then scE.ra.max else raT.max) := hmaxX
  have hbE : cE.buf = c3.buf ++ segE := by rw [hcE]
  obtain ⟨q1, q2, q3, q4, rest', hb'⟩ : c'.scopes = cPop.scopes ∧ c'.pools = cPop.pools ∧ c'.map = cPop.map ∧ c'.vals = cPop.vals ∧
      ∃ r', c'.buf = c3.buf ++ r' := by
    rcases hc' with rfl | ⟨i, off, j, hi, hj, rfl⟩
    · exact ⟨rfl, rfl, rfl, rfl, segE, by rw [hcPop]; exact hbE⟩
    · refine ⟨rfl, rfl, rfl, rfl, ?_⟩
      show ∃ r', ifPatch nj cPop.buf i off j = _
      rw [hcPop]
      show ∃ r', ifPatch nj cE.buf i off j = _
      rw [hbE]
      exact ifPatch_prefix _ _ _ _ _ _ hi hj
  intro sc' pool' seg segm b1 b2 b3 b4 k hkw hka hD hcode hmap hpre hV hsz
  obtain ⟨kept, hkept⟩ : ∃ kept : List SymPair, kept = scE.syms.map (fun q => { q with visible := false }) := ⟨_, rfl⟩
  have x1 : c'.scopes = { ({ sc with ra := raT } : Scope) with ra := raX, syms := ({ sc with ra := raT } : Scope).syms ++ kept } :: rs := by
    rw [q1, hcPop, hkept]
  have x2 : c'.pools = (pool ++ more3 ++ moreE) :: ps := by rw [q2, hcPop]; show cE.pools = _; rw [hcE]
  have x3 : c'.buf = c.buf ++ (seg3 ++ rest') := by rw [hb', hb3]; simp
  have x4 : c'.map = c.map ++ (segm3 ++ segmE) := by rw [q3, hcPop]; show cE.map = _; rw [hcE]; show c3.map ++ segmE = _; rw [hmp3]; simp
  have x5 : c'.vals = cE.vals := by rw [q4, hcPop]
  rw [x1] at b1
  rw [x2] at b2
  rw [x3] at b3
  rw [x4] at b4
  have y1 := (List.cons.inj b1).1
  have y2 := (List.cons.inj b2).1
  have y3 := List.append_cancel_left b3
  have y4 := List.append_cancel_left b4
  subst y1 y2 y3 y4
  rw [x5] at hV
  have hsz' : raX.max < k.regs.size := hsz
  exact E3 _ _ seg3 segm3 hs3 hp3 (by rw [hc3]) (by rw [hc3]) k hkw hka (hD.of_lk hlk1) hcode.left hmap.left
    (PrefL.trans ⟨moreE, rfl⟩ hpre) (PrefA.trans pvE hV) (by show ra3.max < _; rw [hmaxX'] at hsz'; split at hsz' <;> omega)

end

end JanetModel.Compile
