/- C02: the statement of compile correctness for a form compiled with its value used or dropped (`Correct2`), the core fragment
   `TF G b` (literals, symbols, calls of the global core functions `G`, `do`, `upscope`, `def`, and `if` when `b` is on) and the
   induction hypotheses over it.  The invariant tying registers to boxes is split into a compile-time part `EnvS` and a run-time
   part `EnvD` so that statements compose. -/
import JanetModel.Compile.Scope
namespace JanetModel.Compile
open JanetModel.Emit JanetModel.Lang JanetModel.Bytecode.Exec JanetModel.Gen.Bytecode

inductive TS (G : String → Prop) : Expr → Prop
  | lit (v : Value) : SimpleLit v → TS G (.lit v)
  | sym (x : String) : TS G (.sym x)
  | call1 (f : String) (a : Expr) (p : Pos) : specials.contains f = false → f ≠ "apply" → G f → TS G a → TS G (.form [.sym f, a] p)
  | doo (body : List Expr) (p : Pos) : (∀ e, e ∈ body → TS G e) → TS G (.form (.sym "do" :: body) p)
  | deff (x : String) (v : Expr) (p : Pos) : ¬ G x → TS G v → TS G (.form [.sym "def", .sym x, v] p)
  | ups (body : List Expr) (p : Pos) : (∀ e, e ∈ body → TS G e) → TS G (.form (.sym "upscope" :: body) p)

/-- a call form (its compiled slot is a fresh register, never a constant: `janetc_if` takes the jump path, not the
    constant-condition folding) -/
def IsCall (e : Expr) : Prop := ∃ f args q, e = .form (.sym f :: args) q ∧ specials.contains f = false

/-- conditions the `if` case covers: a literal or a symbol (a global one compiles to a constant: `janetc_if` folds the `if`; a local
    one to its register: jump path), a call, a nested `if` (fresh register: jump path).  Not covered: `do` / `upscope` / `def` forms as
    conditions (their slot can be a constant whose value is known only through the run) -/
def CondOK (e : Expr) : Prop :=
  (∃ w, e = .lit w) ∨ (∃ x, e = .sym x) ∨ IsCall e ∨ (∃ a t r q, e = .form (.sym "if" :: a :: t :: r) q)

/-- the core fragment: calls of global core functions with any number of arguments, and — when the
    switch `b` is on — `if` -/
inductive TF (G : String → Prop) (b : Bool) : Expr → Prop
  | lit (v : Value) : SimpleLit v → TF G b (.lit v)
  | sym (x : String) : TF G b (.sym x)
  | call (f : String) (args : List Expr) (p : Pos) : specials.contains f = false → f ≠ "apply" → G f → (∀ a, a ∈ args → TF G b a) →
      TF G b (.form (.sym f :: args) p)
  | doo (body : List Expr) (p : Pos) : (∀ e, e ∈ body → TF G b e) → TF G b (.form (.sym "do" :: body) p)
  | deff (x : String) (v : Expr) (p : Pos) : ¬ G x → TF G b v → TF G b (.form [.sym "def", .sym x, v] p)
  | ups (body : List Expr) (p : Pos) : (∀ e, e ∈ body → TF G b e) → TF G b (.form (.sym "upscope" :: body) p)
  | iff (cnd tb : Expr) (rest : List Expr) (p : Pos) : b = true → CondOK cnd → rest.length ≤ 1 → TF G b cnd → TF G b tb → (∀ e, e ∈ rest → TF G b e) →
      TF G b (.form (.sym "if" :: cnd :: tb :: rest) p)

/-- no form `(def x …)` occurs anywhere in the expression (literals, symbols and forms: the constructors of the fragment) -/
inductive NoBind (x : String) : Expr → Prop
  | lit (v : Value) : NoBind x (.lit v)
  | sym (y : String) : NoBind x (.sym y)
  | form (l : List Expr) (p : Pos) : (∀ e, e ∈ l → NoBind x e) → (∀ y r, l = .sym "def" :: .sym y :: r → y ≠ x) → NoBind x (.form l p)

theorem NoBind.sub {x : String} {l : List Expr} {p : Pos} {e : Expr} (h : NoBind x (.form l p)) (he : e ∈ l) : NoBind x e := by
  cases h with
  | form _ _ hall _ => exact hall e he

theorem NoBind.name {x y : String} {r : List Expr} {p : Pos} (h : NoBind x (.form (.sym "def" :: .sym y :: r) p)) : y ≠ x := by
  cases h with
  | form _ _ _ hdef => exact hdef y r rfl

theorem TF.call1 {G : String → Prop} {b : Bool} (f : String) {a : Expr} (p : Pos) (h1 : specials.contains f = false) (h2 : f ≠ "apply") (h3 : G f)
    (ha : TF G b a) : TF G b (.form [.sym f, a] p) :=
  .call f [a] p h1 h2 h3 (fun x hx => by simp only [List.mem_cons, List.not_mem_nil, or_false] at hx; subst hx; exact ha)

theorem CondOK.call (f : String) (args : List Expr) (p : Pos) (h : specials.contains f = false) : CondOK (.form (.sym f :: args) p) :=
  Or.inr (Or.inr (Or.inl ⟨f, args, p, rfl, h⟩))

theorem TF.notSplice {G : String → Prop} {b : Bool} {e : Expr} (h : TF G b e) : isSplice e = none := by
  cases h with
  | lit v hv => rfl
  | sym x => rfl
  | call f args p h1 h2 h3 h4 =>
    simp only [isSplice]
    split
    · rename_i x _ heq
      simp only [Expr.form.injEq, List.cons.injEq, Expr.sym.injEq] at heq
      obtain ⟨⟨hf, _⟩, _⟩ := heq
      subst hf
      simp [specials] at h1
    · rfl
  | doo _ _ _ | deff _ _ _ _ _ | ups _ _ _ | iff _ _ _ _ _ _ _ _ _ _ =>
    simp only [isSplice]
    split
    · rename_i x _ heq
      simp at heq
    · rfl

theorem TS.toTF {G : String → Prop} {e : Expr} (h : TS G e) : TF G false e := by
  induction h with
  | lit v hv => exact .lit v hv
  | sym x => exact .sym x
  | call1 f a p h1 h2 h3 _ ih => exact .call f [a] p h1 h2 h3 (fun a' ha => by rw [List.mem_singleton.mp ha]; exact ih)
  | doo body p _ ih => exact .doo body p ih
  | deff x v p hx _ ih => exact .deff x v p hx ih
  | ups body p _ ih => exact .ups body p ih

/-- compile-time part of the invariant: a name is either unknown to both sides, or a named near local whose register is
    allocated and whose box exists; names used as global functions are unknown -/
def EnvS (G : String → Prop) (scs : List Scope) (env : Env) (nb : Nat) (ra : RA) : Prop :=
  (∀ f, G f → lk scs f = none) ∧
  ∀ x, (lk scs x = none ∧ lookupEnv env x = none) ∨
    (∃ slot r a u, lk scs x = some (slot, u, true) ∧ slot.k = .loc r ∧ slot.named = true ∧ slot.cflag = false ∧
      lookupEnv env x = some a ∧ a < nb ∧ ra.alloc r = true ∧ r < 240)

/-- run-time part: the register of a name holds the content of its box -/
def EnvD (scs : List Scope) (env : Env) (s : SS) (regs : Array Value) : Prop :=
  ∀ x slot u l r a, lk scs x = some (slot, u, l) → slot.k = .loc r → lookupEnv env x = some a → regs.getD r .nil = readBox s a

/-- no resolvable name lives in register `d` -/
def NoName (scs : List Scope) (d : Nat) : Prop := ∀ x slot u l, lk scs x = some (slot, u, l) → slot.k ≠ .loc d

theorem NoName.of_lk {scs scs' : List Scope} {d : Nat} (h : NoName scs d) (hlk : ∀ x, lk scs' x = lk scs x) : NoName scs' d := by
  intro x slot u l hx; rw [hlk] at hx; exact h x slot u l hx

/-- names and registers across a compiled form: a register that was allocated at entry and carried no name carries none at exit;
    a named result slot whose register was allocated at entry had a visible name at entry -/
def NameFrame (sc : Scope) (scs scs' : List Scope) (slot : JSlot) : Prop :=
  (∀ d, sc.ra.alloc d = true → NoName scs d → NoName scs' d) ∧
  (∀ r, slot.named = true → slot.k = .loc r → sc.ra.alloc r = true → ¬ NoName scs r)

theorem NameFrame.of_lk {sc : Scope} {scs scs' : List Scope} {slot : JSlot} (hlk : ∀ x, lk scs' x = lk scs x) (hn : slot.named = false) :
    NameFrame sc scs scs' slot :=
  ⟨fun _ _ h => h.of_lk hlk, fun _ h => by rw [hn] at h; exact absurd h (by simp)⟩

/-- what is known about the slot a form compiles to: a constant; a named local (allocated at exit); or an unnamed register
    that was free at entry, is allocated at exit and carries no name -/
def SlotOK2 (sc : Scope) (ra' : RA) (scs' : List Scope) (vals : Array Value) (slot : JSlot) : Prop :=
  (slot.cflag = true ∧ ∃ kc, slot.k = .const kc ∧ KWf vals kc) ∨
  (slot.cflag = false ∧ slot.named = true ∧ ∃ r, slot.k = .loc r ∧ ra'.alloc r = true ∧ r < 240) ∨
  (slot.cflag = false ∧ slot.named = false ∧ ∃ d, slot.k = .loc d ∧ sc.ra.alloc d = false ∧ ra'.alloc d = true ∧ d < 240 ∧ NoName scs' d)

theorem SlotOK2.sk {sc : Scope} {ra' : RA} {scs' : List Scope} {vals : Array Value} {slot : JSlot} (h : SlotOK2 sc ra' scs' vals slot) : SK slot := by
  rcases h with ⟨_, kc, hk, _⟩ | ⟨_, _, r, hk, _, hr⟩ | ⟨_, _, d, hk, _, _, hd, _⟩
  · exact Or.inl ⟨kc, hk⟩
  · exact Or.inr ⟨r, hk, hr⟩
  · exact Or.inr ⟨d, hk, hd⟩

theorem EnvS.found {G : String → Prop} {scs : List Scope} {env : Env} {nb : Nat} {ra : RA} (h : EnvS G scs env nb ra)
    {x : String} {slot : JSlot} {u l : Bool} (hl : lk scs x = some (slot, u, l)) :
    l = true ∧ slot.named = true ∧ slot.cflag = false ∧ ∃ r a, slot.k = .loc r ∧ lookupEnv env x = some a ∧ a < nb ∧ ra.alloc r = true ∧ r < 240 := by
  rcases h.2 x with ⟨h1, _⟩ | ⟨slot', r, a, u', h1, hk, hn, hc, he, ha, hal, hr⟩
  · rw [h1] at hl; exact absurd hl (by simp)
  · rw [h1] at hl
    simp only [Option.some.injEq, Prod.mk.injEq] at hl
    obtain ⟨e1, _, e3⟩ := hl
    subst e1 e3
    exact ⟨rfl, hn, hc, r, a, hk, he, ha, hal, hr⟩

/-- the names used as call heads are unbound -/
def GFree (G : String → Prop) (env : Env) : Prop := ∀ f, G f → lookupEnv env f = none

theorem EnvS.gfree {G : String → Prop} {scs : List Scope} {env : Env} {nb : Nat} {ra : RA} (h : EnvS G scs env nb ra) : GFree G env := by
  intro f hf
  rcases h.2 f with ⟨_, h2⟩ | ⟨sl, r, a, u, h1, _⟩
  · exact h2
  · rw [h.1 f hf] at h1; exact absurd h1 (by simp)

theorem EnvS.of_lk {G : String → Prop} {scs scs' : List Scope} {env : Env} {nb nb' : Nat} {ra ra' : RA} (h : EnvS G scs env nb ra)
    (hlk : ∀ x, lk scs' x = lk scs x) (hnb : nb ≤ nb')
    (hra : ∀ x slot u l r, lk scs x = some (slot, u, l) → slot.k = .loc r → ra.alloc r = true → ra'.alloc r = true) : EnvS G scs' env nb' ra' := by
  refine ⟨fun f hf => by rw [hlk]; exact h.1 f hf, fun x => ?_⟩
  rcases h.2 x with ⟨h1, h2⟩ | ⟨slot, r, a, u, h1, hk, hn, hc, he, ha, hal, hr⟩
  · exact Or.inl ⟨by rw [hlk]; exact h1, h2⟩
  · exact Or.inr ⟨slot, r, a, u, by rw [hlk]; exact h1, hk, hn, hc, he, by omega, hra x slot u true r h1 hk hal, hr⟩

theorem EnvD.of_lk {scs scs' : List Scope} {env : Env} {s : SS} {regs : Array Value} (h : EnvD scs env s regs)
    (hlk : ∀ x, lk scs' x = lk scs x) : EnvD scs' env s regs := by
  intro x slot u l r a h1 h2 h3
  rw [hlk] at h1
  exact h x slot u l r a h1 h2 h3

theorem applyFn_cfun_boxes (n : Nat) (pos : Pos) (f : String) (hna : f ≠ "apply") (vs : List Value) (s s' : SS) (v : Value)
    (h : applyFn (n + 1) pos (.cfun f) vs s = .ok v s') : s'.boxes = s.boxes := by
  rw [applyFn_cfun n pos f hna] at h
  cases hc : callPrimW f vs s.st.world with
  | ok a =>
    obtain ⟨v', w'⟩ := a
    rw [hc] at h
    simp only [R.ok.injEq] at h
    rw [← h.2]
  | rt => rw [hc] at h; exact absurd h (by simp)
  | user e => rw [hc] at h; exact absurd h (by simp)
  | unsup why => rw [hc] at h; exact absurd h (by simp)

theorem readBox_pref {s s' : SS} (h : PrefA s.boxes s'.boxes) (a : Nat) (ha : a < s.boxes.size) : readBox s' a = readBox s a := h.2 a ha

theorem EnvS.noName_free {G : String → Prop} {scs : List Scope} {env : Env} {nb : Nat} {ra : RA} (h : EnvS G scs env nb ra) {d : Nat}
    (hd : ra.alloc d = false) : NoName scs d := by
  intro x sl u l hx hk
  obtain ⟨_, _, _, r, _, hk', _, _, hal, _⟩ := h.found hx
  rw [hk'] at hk
  injection hk with e
  rw [e, hd] at hal
  exact Bool.noConfusion hal

theorem EnvD.frame {G : String → Prop} {scs scs' : List Scope} {env : Env} {s s' : SS} {regs regs' : Array Value} {ra : RA}
    (hE : EnvS G scs env s.boxes.size ra) (hD : EnvD scs env s regs) (hlk : ∀ x, lk scs' x = lk scs x)
    (hfr : ∀ r, ra.alloc r = true → regs'.getD r .nil = regs.getD r .nil) (hbx : PrefA s.boxes s'.boxes) : EnvD scs' env s' regs' := by
  intro x sl u l r a hx hk he
  rw [hlk] at hx
  obtain ⟨_, _, _, r', a', hk', he', ha, hal, _⟩ := hE.found hx
  have e1 : r' = r := by rw [hk'] at hk; injection hk
  have e2 : a' = a := by rw [he] at he'; exact (Option.some.inj he').symm
  subst e1 e2
  rw [hfr r' hal, hD x sl u l r' a' hx hk he]
  exact (readBox_pref hbx a' ha).symm

section
variable (p : Program) (f0 : Frame) (rest : List Frame) (V : Array Value) (P : List KConst)

/-- the compile side that `Correct2`, `HintOK`, `TailOK` and `IfOut` open with: `c'` is `c` with the innermost scope's allocator
    replaced and its symbols extended, pool / code / map appended.  `vals := c'.vals` says: every field but `vals` is determined;
    `vals` only grows -/
structure Delta (c c' : CState) (sc : Scope) (rs : List Scope) (pool : List KConst) (ps : List (List KConst))
    (ra' : RA) (nsyms : List SymPair) (more : List KConst) (seg : List CI) (segm : List Pos) : Prop where
  eq : c' = { c with scopes := { sc with ra := ra', syms := sc.syms ++ nsyms } :: rs, pools := (pool ++ more) :: ps, buf := c.buf ++ seg,
                     map := c.map ++ segm, vals := c'.vals }
  pv : PrefA c.vals c'.vals
  mono : ∀ r, sc.ra.alloc r = true → ra'.alloc r = true
  max : sc.ra.max ≤ ra'.max

theorem Delta.trans {c c1 c' : CState} {sc : Scope} {rs : List Scope} {pool : List KConst} {ps : List (List KConst)} {ra1 ra' : RA}
    {ns1 ns2 : List SymPair} {more1 more2 : List KConst} {seg1 seg2 : List CI} {segm1 segm2 : List Pos}
    (h1 : Delta c c1 sc rs pool ps ra1 ns1 more1 seg1 segm1)
    (h2 : Delta c1 c' { sc with ra := ra1, syms := sc.syms ++ ns1 } rs (pool ++ more1) ps ra' ns2 more2 seg2 segm2) :
    Delta c c' sc rs pool ps ra' (ns1 ++ ns2) (more1 ++ more2) (seg1 ++ seg2) (segm1 ++ segm2) :=
  ⟨by rw [h2.eq, h1.eq]; simp [List.append_assoc], PrefA.trans h1.pv h2.pv, fun r hr => h2.mono r (h1.mono r hr), Nat.le_trans h1.max h2.max⟩

/-- what a form compiled with its value used or dropped delivers (`dr`: the value is dropped, the clause `slot holds v` waived) -/
def Correct2 (G : String → Prop) (dr : Bool) (c c' : CState) (slot : JSlot) (sc : Scope) (rs : List Scope) (pool : List KConst)
    (ps : List (List KConst)) (env env' : Env) (s s' : SS) (v : Value) : Prop :=
  ∃ (ra' : RA) (nsyms : List SymPair) (more : List KConst) (seg : List CI) (segm : List Pos),
    c' = { c with scopes := { sc with ra := ra', syms := sc.syms ++ nsyms } :: rs, pools := (pool ++ more) :: ps, buf := c.buf ++ seg,
                  map := c.map ++ segm, vals := c'.vals } ∧
    PrefA c.vals c'.vals ∧ (∀ r, sc.ra.alloc r = true → ra'.alloc r = true) ∧ sc.ra.max ≤ ra'.max ∧
    SlotOK2 sc ra' c'.scopes c'.vals slot ∧ PrefA s.boxes s'.boxes ∧ EnvS G c'.scopes env' s'.boxes.size ra' ∧
    NameFrame sc c.scopes c'.scopes slot ∧
    ∀ (k : Cfg), k.w = s.st.world → k.args = #[] → EnvD c.scopes env s k.regs →
      CodeAt (p.defs.getD f0.defIdx default).code k.pc seg → PrefL (pool ++ more) P → PrefA c'.vals V → ra'.max < k.regs.size →
      ∃ regs', Reach p (inj f0 rest k) (inj f0 rest { regs := regs', pc := k.pc + seg.length, args := #[], w := s'.st.world }) ∧
        regs'.size = k.regs.size ∧ (∀ r, sc.ra.alloc r = true → regs'.getD r .nil = k.regs.getD r .nil) ∧
        (dr = false → slotVal V regs' slot = v) ∧ EnvD c'.scopes env' s' regs'

/-- the mapping cursor does not matter -/
theorem Correct2.recur {G : String → Prop} {c c1 : CState} {q : Pos} {slot : JSlot} {sc : Scope} {rs : List Scope} {pool : List KConst}
    {ps : List (List KConst)} {env env' : Env} {s s' : SS} {v : Value}
    {dr : Bool} (h : Correct2 p f0 rest V P G dr { c with cur := q } c1 slot sc rs pool ps env env' s s' v) :
    Correct2 p f0 rest V P G dr c { c1 with cur := c.cur } slot sc rs pool ps env env' s s' v := by
  obtain ⟨ra', nsyms, more, seg, segm, hc, h2⟩ := h
  refine ⟨ra', nsyms, more, seg, segm, ?_, h2⟩
  conv => lhs; rw [hc]

theorem Correct2.weaken {G : String → Prop} {c c1 : CState} {slot : JSlot} {sc : Scope} {rs : List Scope} {pool : List KConst}
    {ps : List (List KConst)} {env env' : Env} {s s' : SS} {v : Value} (dr : Bool)
    (h : Correct2 p f0 rest V P G false c c1 slot sc rs pool ps env env' s s' v) :
    Correct2 p f0 rest V P G dr c c1 slot sc rs pool ps env env' s s' v := by
  obtain ⟨ra', nsyms, more, seg, segm, hc, a1, a2, a3, a4, a5, a6, a7, vm⟩ := h
  refine ⟨ra', nsyms, more, seg, segm, hc, a1, a2, a3, a4, a5, a6, a7, ?_⟩
  intro k h1 h2 h3 h4 h5 h6 h7
  obtain ⟨regs', b1, b2, b3, b4, b5⟩ := vm k h1 h2 h3 h4 h5 h6 h7
  exact ⟨regs', b1, b2, b3, fun _ => b4 rfl, b5⟩

/-- a form compiled to a slot without code (a constant, a resolved local): at most the value table grows -/
theorem Correct2.quiet (G : String → Prop) (c : CState) (vals1 : Array Value) (slot : JSlot) (sc : Scope) (rs : List Scope)
    (pool : List KConst) (ps : List (List KConst)) (hs : c.scopes = sc :: rs) (hp : c.pools = pool :: ps) (env : Env) (s : SS) (v : Value)
    (hE : EnvS G c.scopes env s.boxes.size sc.ra) (pv : PrefA c.vals vals1) (hsl : SlotOK2 sc sc.ra c.scopes vals1 slot)
    (hnf : NameFrame sc c.scopes c.scopes slot)
    (hv : ∀ regs, PrefA vals1 V → EnvD c.scopes env s regs → slotVal V regs slot = v) :
    Correct2 p f0 rest V P G false c { c with vals := vals1 } slot sc rs pool ps env env s s v := by
  refine ⟨sc.ra, [], [], [], [], ?_, pv, fun _ h => h, Nat.le_refl _, hsl, PrefA.refl _, hE, hnf, ?_⟩
  · simp [hs, hp]
  · intro k hkw hka hD _ _ hV _
    refine ⟨k.regs, ?_, rfl, fun _ _ => rfl, fun _ => hv k.regs hV hD, hD⟩
    rw [cfg_eta k _ hkw hka]; exact Reach.refl _ _

theorem atom_const2 (G : String → Prop) (c : CState) (vals1 : Array Value) (kf : KConst) (w : Value) (sc : Scope) (rs : List Scope)
    (pool : List KConst) (ps : List (List KConst)) (hs : c.scopes = sc :: rs) (hp : c.pools = pool :: ps) (env : Env) (s : SS)
    (hE : EnvS G c.scopes env s.boxes.size sc.ra) (pv : PrefA c.vals vals1) (hk : KWf vals1 kf) (hw : litOf vals1 kf = w) :
    Correct2 p f0 rest V P G false c { c with vals := vals1 } (cslot kf) sc rs pool ps env env s s w :=
  Correct2.quiet p f0 rest V P G c vals1 (cslot kf) sc rs pool ps hs hp env s w hE pv (Or.inl ⟨rfl, kf, rfl, hk⟩)
    (NameFrame.of_lk (fun _ => rfl) rfl) (fun _ hV _ => by rw [← hw]; exact litOf_pref hV _ hk)

theorem atom_local2 (G : String → Prop) (c : CState) (x : String) (sl : JSlot) (u : Bool) (sc : Scope) (rs : List Scope)
    (pool : List KConst) (ps : List (List KConst)) (hs : c.scopes = sc :: rs) (hp : c.pools = pool :: ps) (env : Env) (s : SS) (a : Nat)
    (hE : EnvS G c.scopes env s.boxes.size sc.ra) (hl : lk c.scopes x = some (sl, u, true)) (he : lookupEnv env x = some a) :
    Correct2 p f0 rest V P G false c c sl sc rs pool ps env env s s (readBox s a) := by
  obtain ⟨_, hn, hc, r, a', hk, he', _, hal, hr⟩ := hE.found hl
  have haa : a' = a := by rw [he] at he'; exact (Option.some.inj he').symm
  subst haa
  exact Correct2.quiet p f0 rest V P G c c.vals sl sc rs pool ps hs hp env s _ hE (PrefA.refl _) (Or.inr (Or.inl ⟨hc, hn, r, hk, hal, hr⟩))
    ⟨fun _ _ h => h, fun r' _ hk' _ hno => hno x sl u true hl hk'⟩
    (fun regs _ hD => by simp only [slotVal, hk]; exact hD x sl u true r a' hl hk he)

theorem atom_nil2 (G : String → Prop) (c : CState) (sc : Scope) (rs : List Scope)
    (pool : List KConst) (ps : List (List KConst)) (hs : c.scopes = sc :: rs) (hp : c.pools = pool :: ps) (env : Env) (s : SS)
    (hE : EnvS G c.scopes env s.boxes.size sc.ra) :
    Correct2 p f0 rest V P G false c c (cslot .nil) sc rs pool ps env env s s .nil :=
  Correct2.quiet p f0 rest V P G c c.vals (cslot .nil) sc rs pool ps hs hp env s .nil hE (PrefA.refl _) (Or.inl ⟨rfl, .nil, rfl, trivial⟩)
    (NameFrame.of_lk (fun _ => rfl) rfl) (fun _ _ _ => rfl)

/-- compile correctness for every form of the fragment `T` at compile fuel `fuel` (`w`: the drop flag waives the value clause — it
    must where a dropped `if` has no target; `w = true` also asks the source map to be as long as the code) -/
def CorrectAt (G : String → Prop) (T : Expr → Prop) (w : Bool) (fuel : Nat) : Prop :=
  ∀ (e : Expr) (opts : Fopts) (c c' : CState) (slot : JSlot) (sc : Scope) (rs : List Scope) (pool : List KConst) (ps : List (List KConst))
    (n : Nat) (cur : Pos) (env env' : Env) (s s' : SS) (v : Value),
    opts.tail = false → opts.hint = none → c.scopes = sc :: rs → c.pools = pool :: ps → c.lim ≤ 240 → sc.top = false →
    (w = true → c.map.length = c.buf.length) → T e →
    cValue fuel opts e c = some (slot, c') → eval n cur env e s = .ok (v, env') s' → EnvS G c.scopes env s.boxes.size sc.ra →
    Correct2 p f0 rest V P G (opts.drop && w) c c' slot sc rs pool ps env env' s s' v

/-- compile-only fact used when the induction hypothesis is applied at a later state (second statement, second operand): the
    source map stays as long as the code (needed only with `w = true`: `janetc_throwaway` truncates the map by the code length) -/
def MLAt (G : String → Prop) (T : Expr → Prop) (w : Bool) (fuel : Nat) : Prop :=
  w = true → ∀ (e : Expr) (opts : Fopts) (c c' : CState) (slot : JSlot) (sc : Scope) (rs : List Scope) (pool : List KConst) (ps : List (List KConst))
    (env : Env) (nb : Nat),
    opts.tail = false → opts.hint = none → c.scopes = sc :: rs → c.pools = pool :: ps → sc.top = false → T e →
    EnvS G c.scopes env nb sc.ra → cValue fuel opts e c = some (slot, c') → c.map.length = c.buf.length → c'.map.length = c'.buf.length

theorem freeslot_bufmap (c c' : CState) (s : JSlot) (h : freeslot c s = some c') : c'.buf = c.buf ∧ c'.map = c.map := by
  unfold freeslot at h
  split at h
  · rw [← Option.some.inj h]; exact ⟨rfl, rfl⟩
  · split at h
    · rw [← Option.some.inj h]; exact ⟨rfl, rfl⟩
    · split at h
      · rw [← Option.some.inj h]; exact ⟨rfl, rfl⟩
      · exact absurd h (by simp)
    · exact absurd h (by simp)

end

section
variable {p : Program} {f0 : Frame} {rest : List Frame} {V : Array Value} {P : List KConst}

/-- a `Correct2` read against a presentation of the final state given by equations (as a loop's invariant provides it) -/
theorem Correct2.use {G : String → Prop} {dr : Bool} {c c1 : CState} {slot : JSlot} {sc : Scope} {rs : List Scope} {pool : List KConst}
    {ps : List (List KConst)} {env env' : Env} {s s' : SS} {v : Value}
    (h : Correct2 p f0 rest V P G dr c c1 slot sc rs pool ps env env' s s' v)
    (seg : List CI) (pool1 : List KConst) (sc1 : Scope) (hb : c1.buf = c.buf ++ seg) (hp1 : c1.pools = pool1 :: ps) (hs1 : c1.scopes = sc1 :: rs) :
    PrefA s.boxes s'.boxes ∧ EnvS G c1.scopes env' s'.boxes.size sc1.ra ∧ SlotOK2 sc sc1.ra c1.scopes c1.vals slot ∧
    (∀ r, sc.ra.alloc r = true → sc1.ra.alloc r = true) ∧
    ∀ (k : Cfg), k.w = s.st.world → k.args = #[] → EnvD c.scopes env s k.regs →
      CodeAt (p.defs.getD f0.defIdx default).code k.pc seg → PrefL pool1 P → PrefA c1.vals V → sc1.ra.max < k.regs.size →
      ∃ regs', Runs p f0 rest k.pc seg.length k.regs k.args k.w regs' #[] s'.st.world ∧ Keeps sc.ra.alloc k.regs regs' ∧
        (dr = false → slotVal V regs' slot = v) ∧ EnvD c1.scopes env' s' regs' := by
  obtain ⟨ra', nsyms, more, seg0, segm, hc, a1, a2, a3, a4, a5, a6, a7, vm⟩ := h
  have e_seg : seg = seg0 := by
    have : c1.buf = c.buf ++ seg0 := by rw [hc]
    rw [this] at hb
    exact (List.append_cancel_left hb).symm
  have e_pool : pool1 = pool ++ more := by
    have : c1.pools = (pool ++ more) :: ps := by rw [hc]
    rw [this] at hp1
    exact (List.cons.inj hp1).1.symm
  have e_sc : sc1 = { sc with ra := ra', syms := sc.syms ++ nsyms } := by
    have : c1.scopes = { sc with ra := ra', syms := sc.syms ++ nsyms } :: rs := by rw [hc]
    rw [this] at hs1
    exact (List.cons.inj hs1).1.symm
  subst e_seg e_pool e_sc
  refine ⟨a5, a6, a4, a2, fun k h1 h2 h3 h4 h5 h6 h7 => ?_⟩
  obtain ⟨regs', r, sz, pr, x⟩ := vm k h1 h2 h3 h4 h5 h6 h7
  exact ⟨regs', r, ⟨sz, pr⟩, x⟩

end

end JanetModel.Compile
