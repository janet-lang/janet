/- C02: the entry moves of `janetc_fn` for functions with more than 240 parameters (`janetc_fn_moveargs`; model
   `Compile/Model.lean`: `moveArgsCode`, `fnMoveArgs`), on the abstract machine of Emit/Machine.lean, for EVERY number of
   arguments: the VM puts argument k in stack slot k; afterwards the register of every parameter k ≥ 0xF0 holds argument k, and
   the near registers below 0xF0 are untouched (far registers: item (4) of `compile_correct_partial`). -/
import JanetModel.Emit.Proofs
import JanetModel.Compile.Model
namespace JanetModel.Compile
open JanetModel.Emit JanetModel.Lang JanetModel.Bytecode.Exec JanetModel.Gen.Bytecode

variable {β : Type}

/-- only the registers change across moves -/
def SameRest (a b : M β) : Prop := a.up = b.up ∧ a.cell = b.cell ∧ a.log = b.log ∧ a.ok = b.ok

theorem SameRest.refl (a : M β) : SameRest a a := ⟨rfl, rfl, rfl, rfl⟩
theorem SameRest.trans {a b c : M β} (h1 : SameRest a b) (h2 : SameRest b c) : SameRest a c :=
  ⟨h1.1.trans h2.1, h1.2.1.trans h2.2.1, h1.2.2.1.trans h2.2.2.1, h1.2.2.2.trans h2.2.2.2⟩

theorem run_cons (lit : KConst → β) (F) (m : M β) (i : MI) (r : List MI) : run lit F m (i :: r) = run lit F (exec lit F m i) r :=
  Emit.run_cons lit F m i r

theorem run_nil (lit : KConst → β) (F) (m : M β) : run lit F m [] = m := Emit.run_nil lit F m

/-- `for (k = lo + cnt − 1; k >= lo; k--) MOVE_FAR k → reg k`, highest first: every destination lies above its source and the
    destinations are distinct, so no source is overwritten before it is read -/
theorem movesLow_run (lit : KConst → β) (F) (reg : Nat → Nat) (lo : Nat) : ∀ (cnt : Nat) (st : M β),
    (∀ k, lo ≤ k → k < lo + cnt → k < reg k) →
    (∀ j k, lo ≤ j → j < lo + cnt → lo ≤ k → k < lo + cnt → reg j = reg k → j = k) →
    (∀ k, lo ≤ k → k < lo + cnt → (run lit F st (movesLow reg lo cnt)).regs (reg k) = st.regs k) ∧
    (∀ r, (∀ k, lo ≤ k → k < lo + cnt → reg k ≠ r) → (run lit F st (movesLow reg lo cnt)).regs r = st.regs r) ∧
    SameRest (run lit F st (movesLow reg lo cnt)) st := by
  intro cnt
  induction cnt with
  | zero =>
    intro st _ _
    refine ⟨fun k h1 h2 => by omega, fun r _ => rfl, SameRest.refl _⟩
  | succ cnt ih =>
    intro st hlt hinj
    simp only [movesLow, run_cons]
    have hst1 : (exec lit F st (.movf (lo + cnt) (reg (lo + cnt)))) = { st with regs := upd st.regs (reg (lo + cnt)) (st.regs (lo + cnt)) } := rfl
    rw [hst1]
    obtain ⟨iA, iB, iS⟩ := ih { st with regs := upd st.regs (reg (lo + cnt)) (st.regs (lo + cnt)) }
      (fun k h1 h2 => hlt k h1 (by omega)) (fun j k a b c d e => hinj j k a (by omega) c (by omega) e)
    have hK := hlt (lo + cnt) (by omega) (by omega)
    refine ⟨fun k h1 h2 => ?_, fun r hr => ?_, iS⟩
    · by_cases e : k = lo + cnt
      · subst e
        rw [iB (reg (lo + cnt)) (fun k' a b he => by have := hinj k' (lo + cnt) a (by omega) (by omega) (by omega) he; omega)]
        simp [upd]
      · rw [iA k h1 (by omega)]
        have : k ≠ reg (lo + cnt) := by omega
        simp [upd, this]
    · rw [iB r (fun k a b => hr k a (by omega))]
      have : r ≠ reg (lo + cnt) := fun e => hr (lo + cnt) (by omega) (by omega) e.symm
      simp [upd, this]

/-- the same through the temporary 0xFF (stack slots ≥ 0x100 do not fit MOVE_FAR's 8-bit source field) -/
theorem movesHigh_run (lit : KConst → β) (F) (reg : Nat → Nat) (lo : Nat) (hlo : 0x100 ≤ lo) : ∀ (cnt : Nat) (st : M β),
    (∀ k, lo ≤ k → k < lo + cnt → k < reg k) →
    (∀ j k, lo ≤ j → j < lo + cnt → lo ≤ k → k < lo + cnt → reg j = reg k → j = k) →
    (∀ k, lo ≤ k → k < lo + cnt → (run lit F st (movesHigh reg lo cnt)).regs (reg k) = st.regs k) ∧
    (∀ r, r ≠ 0xFF → (∀ k, lo ≤ k → k < lo + cnt → reg k ≠ r) → (run lit F st (movesHigh reg lo cnt)).regs r = st.regs r) ∧
    SameRest (run lit F st (movesHigh reg lo cnt)) st := by
  intro cnt
  induction cnt with
  | zero =>
    intro st _ _
    refine ⟨fun k h1 h2 => by omega, fun r _ _ => rfl, SameRest.refl _⟩
  | succ cnt ih =>
    intro st hlt hinj
    simp only [movesHigh, List.cons_append, List.nil_append, run_cons]
    have hK := hlt (lo + cnt) (by omega) (by omega)
    have hst1 : exec lit F (exec lit F st (.movn 0xFF (lo + cnt))) (.movf 0xFF (reg (lo + cnt))) =
        { st with regs := upd (upd st.regs 0xFF (st.regs (lo + cnt))) (reg (lo + cnt)) (st.regs (lo + cnt)) } := by
      simp [exec, upd]
    rw [hst1]
    obtain ⟨iA, iB, iS⟩ := ih { st with regs := upd (upd st.regs 0xFF (st.regs (lo + cnt))) (reg (lo + cnt)) (st.regs (lo + cnt)) }
      (fun k h1 h2 => hlt k h1 (by omega)) (fun j k a b c d e => hinj j k a (by omega) c (by omega) e)
    refine ⟨fun k h1 h2 => ?_, fun r hr1 hr => ?_, iS⟩
    · by_cases e : k = lo + cnt
      · subst e
        rw [iB (reg (lo + cnt)) (by omega) (fun k' a b he => by have := hinj k' (lo + cnt) a (by omega) (by omega) (by omega) he; omega)]
        simp [upd]
      · rw [iA k h1 (by omega)]
        have h1' : k ≠ reg (lo + cnt) := by omega
        have h2' : k ≠ 0xFF := by omega
        simp [upd, h1', h2']
    · rw [iB r hr1 (fun k a b => hr k a (by omega))]
      have : r ≠ reg (lo + cnt) := fun e => hr (lo + cnt) (by omega) (by omega) e.symm
      simp [upd, this, hr1]

/-- **`janetc_fn_moveargs` is correct, for every number of arguments**: after the emitted moves the register of every
    argument k ≥ 0xF0 holds what the VM put in stack slot k, every register below 0xF0 is unchanged, nothing else of the machine
    state changes.  The hypotheses on `reg` and the spare register `park` are what the first-fit allocator gives (`moveArgs_alloc`). -/
theorem moveArgs_run (lit : KConst → β) (F) (m : M β) (n : Nat) (reg : Nat → Nat) (park : Nat)
    (hge : ∀ k, 0xF0 ≤ k → k < n → 0x100 ≤ reg k ∧ k < reg k)
    (hinj : ∀ j k, 0xF0 ≤ j → j < n → 0xF0 ≤ k → k < n → reg j = reg k → j = k)
    (hpark : 0x100 < n → n ≤ park ∧ ∀ k, 0xF0 ≤ k → k < n → reg k ≠ park) :
    (∀ k, 0xF0 ≤ k → k < n → (run lit F m (moveArgsCode n reg park)).regs (reg k) = m.regs k) ∧
    (∀ r, r < 0xF0 → (run lit F m (moveArgsCode n reg park)).regs r = m.regs r) ∧
    SameRest (run lit F m (moveArgsCode n reg park)) m := by
  unfold moveArgsCode
  by_cases hbig : n > 0x100
  · rw [if_pos hbig]
    obtain ⟨hp1, hp2⟩ := hpark hbig
    simp only [run_cons, run_append, run_nil]
    -- s1: argument 0xFF parked
    have e1 : exec lit F m (.movf 0xFF park) = { m with regs := upd m.regs park (m.regs 0xFF) } := rfl
    rw [e1]
    generalize hs1 : ({ m with regs := upd m.regs park (m.regs 0xFF) } : M β) = s1
    have s1r : ∀ r, r ≠ park → s1.regs r = m.regs r := by intro r hr; rw [← hs1]; simp [upd, hr]
    have s1p : s1.regs park = m.regs 0xFF := by rw [← hs1]; simp [upd]
    have s1S : SameRest s1 m := by rw [← hs1]; exact ⟨rfl, rfl, rfl, rfl⟩
    -- s2: arguments 0x100 .. n-1
    obtain ⟨hA, hB, hS⟩ := movesHigh_run lit F reg 0x100 (Nat.le_refl _) (n - 0x100) s1
      (fun k a b => (hge k (by omega) (by omega)).2)
      (fun j k a b c d e => hinj j k (by omega) (by omega) (by omega) (by omega) e)
    generalize hs2 : run lit F s1 (movesHigh reg 0x100 (n - 0x100)) = s2 at hA hB hS
    -- s3: arguments 0xF0 .. 0xFE
    obtain ⟨lA, lB, lS⟩ := movesLow_run lit F reg 0xF0 15 s2
      (fun k a b => (hge k a (by omega)).2)
      (fun j k a b c d e => hinj j k a (by omega) c (by omega) e)
    generalize hs3 : run lit F s2 (movesLow reg 0xF0 15) = s3 at lA lB lS
    have e4 : exec lit F (exec lit F s3 (.movn 0xFF park)) (.movf 0xFF (reg 0xFF)) =
        { s3 with regs := upd (upd s3.regs 0xFF (s3.regs park)) (reg 0xFF) (s3.regs park) } := by
      simp [exec, upd]
    rw [e4]
    have g255 := hge 0xFF (by omega) (by omega)
    -- the parked value survives both loops
    have s3p : s3.regs park = m.regs 0xFF := by
      rw [lB park (fun k a b => hp2 k a (by omega)), hB park (by omega) (fun k a b => hp2 k (by omega) (by omega)), s1p]
    refine ⟨fun k h1 h2 => ?_, fun r hr => ?_, ?_⟩
    · show upd (upd s3.regs 0xFF (s3.regs park)) (reg 0xFF) (s3.regs park) (reg k) = m.regs k
      by_cases e : k = 0xFF
      · subst e; simp [upd, s3p]
      · have n1 : reg k ≠ reg 0xFF := fun he => e (hinj k 0xFF h1 h2 (by omega) (by omega) he)
        have n2 : reg k ≠ 0xFF := by have := (hge k h1 h2).1; omega
        simp only [upd, n1, n2, if_false]
        by_cases hk : k < 0xFF
        · rw [lA k h1 (by omega)]
          have hk2 : k ≠ 0xFF := e
          rw [hB k hk2 (fun k' a b => by have := (hge k' (by omega) (by omega)).1; omega)]
          exact s1r k (by omega)
        · rw [lB (reg k) (fun k' a b he => by have := hinj k' k a (by omega) h1 h2 he; omega)]
          rw [hA k (by omega) (by omega)]
          exact s1r k (by omega)
    · show upd (upd s3.regs 0xFF (s3.regs park)) (reg 0xFF) (s3.regs park) r = m.regs r
      have n1 : r ≠ reg 0xFF := by omega
      have n2 : r ≠ 0xFF := by omega
      simp only [upd, n1, n2, if_false]
      rw [lB r (fun k a b => by have := (hge k a (by omega)).1; omega),
        hB r n2 (fun k a b => by have := (hge k (by omega) (by omega)).1; omega)]
      exact s1r r (by omega)
    · exact SameRest.trans (b := s3) ⟨rfl, rfl, rfl, rfl⟩ (lS.trans (hS.trans s1S))
  · rw [if_neg hbig]
    obtain ⟨lA, lB, lS⟩ := movesLow_run lit F reg 0xF0 (n - 0xF0) m
      (fun k a b => (hge k a (by omega)).2)
      (fun j k a b c d e => hinj j k a (by omega) c (by omega) e)
    refine ⟨fun k h1 h2 => lA k h1 (by omega), fun r hr => lB r (fun k a b => by have := (hge k a (by omega)).1; omega), lS⟩

/-- register of stack argument k on a fresh function scope: k below the temporaries, k + 16 from the 241st on -/
def argReg (k : Nat) : Nat := if k < 0xF0 then k else k + 16

/-- the hypotheses of `moveArgs_run` hold for the registers the allocator gives (`argReg`) and the spare register n + 16 -/
theorem moveArgs_alloc (lit : KConst → β) (F) (m : M β) (n : Nat) (hn : 0xF0 < n) :
    (∀ k, k < n → (run lit F m (moveArgsCode n argReg (n + 16))).regs (argReg k) = m.regs k) ∧
    SameRest (run lit F m (moveArgsCode n argReg (n + 16))) m := by
  obtain ⟨hA, hB, hS⟩ := moveArgs_run lit F m n argReg (n + 16)
    (fun k a b => by simp only [argReg]; split <;> omega)
    (fun j k a b c d e => by simp only [argReg] at e; split at e <;> split at e <;> omega)
    (fun _ => ⟨by omega, fun k a b => by simp only [argReg]; split <;> omega⟩)
  refine ⟨fun k hk => ?_, hS⟩
  by_cases h : k < 0xF0
  · have : argReg k = k := by simp [argReg, h]
    rw [this]; exact hB k h
  · exact hA k (by omega) hk

theorem emitMIs_buf (c : CState) (is : List MI) : (emitMIs c is).buf = c.buf ++ is.map CI.mi ∧ (emitMIs c is).scopes = c.scopes ∧
    (emitMIs c is).map.length = c.map.length + is.length := by
  unfold emitMIs
  induction is generalizing c with
  | nil => simp
  | cons i r ih =>
    obtain ⟨a, b, d⟩ := ih (emitRaw c (.mi i))
    simp only [List.foldl_cons]
    refine ⟨by rw [a]; simp [emitRaw], by rw [b]; rfl, by rw [d]; simp [emitRaw]; omega⟩

/-- at most 0xF0 parameters (the case of `compile_correct_fn_params`, `lim ≤ 240`): no entry moves, the state is unchanged -/
theorem fnMoveArgs_near (c : CState) (argregs : List Nat) (h : argregs.length ≤ 0xF0) : fnMoveArgs c argregs = some c := by
  simp [fnMoveArgs, h]

/-- more than 0xF0 parameters: the code appended is exactly `moveArgsCode` (the instructions `moveArgs_run` executes); `park` is the
    allocator's next far register when there are more than 0x100 -/
theorem fnMoveArgs_code (c c' : CState) (argregs : List Nat) (h : 0xF0 < argregs.length) (hc : fnMoveArgs c argregs = some c') :
    ∃ park, (0x100 < argregs.length → ∃ c1, allocFar c = some (park, c1)) ∧
      c'.buf = c.buf ++ (moveArgsCode argregs.length (fun k => argregs.getD k 0) park).map CI.mi := by
  unfold fnMoveArgs at hc
  simp only [show ¬ argregs.length ≤ 0xF0 by omega, if_false] at hc
  by_cases hb : argregs.length > 0x100
  · simp only [hb, if_true, Option.bind_eq_bind, Option.bind_eq_some_iff, Prod.exists] at hc
    obtain ⟨park, c1, ha, hc⟩ := hc
    refine ⟨park, fun _ => ⟨c1, ha⟩, ?_⟩
    have hb1 : c1.buf = c.buf := by
      cases hsc : c.scopes with
      | nil => simp [allocFar, hsc] at ha
      | cons sc rs =>
        simp only [allocFar, hsc] at ha
        split at ha
        · exact absurd ha (by simp)
        · simp only [Option.some.injEq, Prod.mk.injEq] at ha
          rw [← ha.2]
    split at hc
    · simp only [Option.some.injEq] at hc
      rw [← hc]
      show (emitMIs c1 _).buf = _
      rw [(emitMIs_buf c1 _).1, hb1]
    · exact absurd hc (by simp)
  · simp only [hb, if_false, Option.some.injEq] at hc
    refine ⟨0, fun h => absurd h hb, ?_⟩
    rw [← hc, (emitMIs_buf c _).1]

end JanetModel.Compile
