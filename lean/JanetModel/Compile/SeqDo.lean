/- C02: sequencing of forms (`Correct2.freed`, `Correct2.comp`), the `janetc_do` body, block scope push / pop (`janetc_scope`,
   `janetc_popscope_keepslot`). -/
import JanetModel.Compile.SeqCorrect
import JanetModel.Compile.Pieces
import JanetModel.Compile.SeqSpec
namespace JanetModel.Compile
open JanetModel.Emit JanetModel.Lang JanetModel.Bytecode.Exec JanetModel.Gen.Bytecode

theorem cstate_scopes_eta (c : CState) (sc : Scope) (rs : List Scope) (hs : c.scopes = sc :: rs) :
    c = { c with scopes := { sc with ra := sc.ra } :: rs } := by
  cases c; simp_all

/-- `janetc_freeslot` on the slot of a compiled form: only an unnamed temporary is released; registers allocated before the
    form and registers of names stay allocated -/
theorem freeslot_ok (c cf : CState) (sl : JSlot) (sc0 sc1 : Scope) (rs : List Scope) (hs : c.scopes = sc1 :: rs)
    (hok : SlotOK2 sc0 sc1.ra c.scopes c.vals sl) (hf : freeslot c sl = some cf) :
    ∃ raf, cf = { c with scopes := { sc1 with ra := raf } :: rs } ∧ raf.max = sc1.ra.max ∧
      (∀ r, sc1.ra.alloc r = true →
        (sc0.ra.alloc r = true ∨ ∃ x slot u l, lk c.scopes x = some (slot, u, l) ∧ slot.k = .loc r) → raf.alloc r = true) := by
  rcases hok with ⟨hcf, _⟩ | ⟨_, hnm, _⟩ | ⟨hcf, hnm, da, hka, hda1, hda2, _, hnn⟩
  · rw [freeslot_const c sl hcf] at hf
    exact ⟨sc1.ra, by rw [← Option.some.inj hf]; exact cstate_scopes_eta c sc1 rs hs, rfl, fun r h _ => h⟩
  · rw [freeslot_named c sl hnm] at hf
    exact ⟨sc1.ra, by rw [← Option.some.inj hf]; exact cstate_scopes_eta c sc1 rs hs, rfl, fun r h _ => h⟩
  · rw [freeslot_loc c sl da sc1 rs hs hcf hnm hka] at hf
    refine ⟨sc1.ra.unmark da, by rw [← Option.some.inj hf], rfl, ?_⟩
    intro r hr why
    have hne : r ≠ da := by
      rcases why with h | ⟨x, slot, u, l, hx, hk⟩
      · intro e; rw [e] at h; rw [h] at hda1; exact Bool.noConfusion hda1
      · intro e; rw [e] at hk; exact hnn x slot u l hx hk
    simp only [RA.unmark, hne, if_false]; exact hr

section
variable (p : Program) (f0 : Frame) (rest : List Frame) (V : Array Value) (P : List KConst)

/-- a statement whose slot has been freed is a dropped statement without a slot, ending in the state the next one starts from -/
theorem Correct2.freed {G : String → Prop} {dr : Bool} {c c1 c1f : CState} {sl1 : JSlot} {sc : Scope} {rs : List Scope} {pool : List KConst}
    {ps : List (List KConst)} {env env1 : Env} {s s1 : SS} {v1 : Value}
    (h1 : Correct2 p f0 rest V P G dr c c1 sl1 sc rs pool ps env env1 s s1 v1) (hf : freeslot c1 sl1 = some c1f) :
    Correct2 p f0 rest V P G true c c1f (cslot .nil) sc rs pool ps env env1 s s1 v1 ∧ ∀ x, lk c1f.scopes x = lk c1.scopes x := by
  obtain ⟨ra1, ns1, more1, seg1, segm1, hc1, pv1, mono1, max1, sok1, bx1, es1, nf1, vm1⟩ := h1
  have hs1 : c1.scopes = { sc with ra := ra1, syms := sc.syms ++ ns1 } :: rs := by rw [hc1]
  obtain ⟨raf, hcf, hmaxf, hkeep⟩ := freeslot_ok c1 c1f sl1 sc { sc with ra := ra1, syms := sc.syms ++ ns1 } rs hs1 sok1 hf
  have hlkf : ∀ x, lk c1f.scopes x = lk c1.scopes x := by intro x; rw [hcf, hs1]; rfl
  have hmaxf' : raf.max = ra1.max := hmaxf
  refine ⟨⟨raf, ns1, more1, seg1, segm1, ?_, by rw [hcf]; exact pv1, fun r hr => hkeep r (mono1 r hr) (Or.inl hr), by omega,
    Or.inl ⟨rfl, .nil, rfl, trivial⟩, bx1,
    es1.of_lk hlkf (Nat.le_refl _) (fun x slot u l r hx hk hr => hkeep r hr (Or.inr ⟨x, slot, u, l, hx, hk⟩)),
    ⟨fun d hd hno => (nf1.1 d hd hno).of_lk hlkf, fun _ h => absurd h (by simp [cslot])⟩, ?_⟩, hlkf⟩
  · rw [hcf, hc1]
  · intro k hkw hka hD hcode hpre hV hsz
    obtain ⟨regs1, rch1, sz1, pr1, _, ed1⟩ := vm1 k hkw hka hD hcode hpre (by rw [hcf] at hV; exact hV) (by omega)
    exact ⟨regs1, rch1, sz1, pr1, fun h => absurd h (by simp), ed1.of_lk hlkf⟩

/-- two forms in sequence: the second starts from the state the first left; the first one's slot plays no part -/
theorem Correct2.comp {G : String → Prop} {dr1 dr : Bool} {c c1 c' : CState} {sl1 slot : JSlot} {sc : Scope} {rs : List Scope} {pool : List KConst}
    {ps : List (List KConst)} {env env1 env' : Env} {s s1 s' : SS} {v1 v : Value}
    (h1 : Correct2 p f0 rest V P G dr1 c c1 sl1 sc rs pool ps env env1 s s1 v1)
    (h2 : ∀ sc1 pool1, c1.scopes = sc1 :: rs → c1.pools = pool1 :: ps → sc1.top = sc.top → c1.lim = c.lim →
          EnvS G c1.scopes env1 s1.boxes.size sc1.ra → Correct2 p f0 rest V P G dr c1 c' slot sc1 rs pool1 ps env1 env' s1 s' v) :
    Correct2 p f0 rest V P G dr c c' slot sc rs pool ps env env' s s' v := by
  obtain ⟨ra1, ns1, more1, seg1, segm1, hc1, pv1, mono1, max1, _, bx1, es1, nf1, vm1⟩ := h1
  obtain ⟨ra', ns2, more2, seg2, segm2, hc', pv2, mono2, max2, sok2, bx2, es2, nf2, vm2⟩ :=
    h2 { sc with ra := ra1, syms := sc.syms ++ ns1 } (pool ++ more1) (by rw [hc1]) (by rw [hc1]) rfl (by rw [hc1]) es1
  have max2' : ra1.max ≤ ra'.max := max2
  have D := Delta.trans ⟨hc1, pv1, mono1, max1⟩ ⟨hc', pv2, mono2, max2⟩
  refine ⟨ra', _, _, _, _, D.eq, D.pv, D.mono, D.max, ?_, PrefA.trans bx1 bx2, es2,
    ⟨fun d hd hno => nf2.1 d (mono1 d hd) (nf1.1 d hd hno), fun r hnm hk hr hno => nf2.2 r hnm hk (mono1 r hr) (nf1.1 r hr hno)⟩, ?_⟩
  · rcases sok2 with h | h | ⟨a1, a2, d, a3, a4, a5, a6, a7⟩
    · exact Or.inl h
    · exact Or.inr (Or.inl h)
    · refine Or.inr (Or.inr ⟨a1, a2, d, a3, ?_, a5, a6, a7⟩)
      cases hh : sc.ra.alloc d with
      | false => rfl
      | true =>
        have a4' : ra1.alloc d = false := a4
        rw [mono1 d hh] at a4'
        exact Bool.noConfusion a4'
  · intro k hkw hka hD hcode hpre hV hsz
    obtain ⟨regs1, rch1, sz1, pr1, _, ed1⟩ :=
      vm1 k hkw hka hD hcode.left (PrefL.trans ⟨more2, by simp [List.append_assoc]⟩ hpre) (PrefA.trans pv2 hV) (by omega)
    obtain ⟨regs2, rch2, sz2, pr2, sv2, ed2⟩ :=
      vm2 { regs := regs1, pc := k.pc + seg1.length, args := #[], w := s1.st.world } rfl rfl ed1 hcode.right
        (by rw [List.append_assoc]; exact hpre) hV (by show ra'.max < regs1.size; omega)
    have sz2' : regs2.size = regs1.size := sz2
    refine ⟨regs2, ?_, by omega, fun r hr => by rw [pr2 r (mono1 r hr), pr1 r hr], sv2, ed2⟩
    rw [List.length_append]
    exact Runs.seq rch1 rch2

theorem doBody_correct (G : String → Prop) (T : Expr → Prop) (w : Bool) (fuel : Nat) (IH : CorrectAt p f0 rest V P G T w fuel)
    (ML : MLAt G T w fuel) :
    ∀ (b : List Expr), (∀ e, e ∈ b → T e) →
    ∀ (opts : Fopts) (c c' : CState) (slot : JSlot) (sc : Scope) (rs : List Scope) (pool : List KConst) (ps : List (List KConst))
      (n : Nat) (cur : Pos) (env env' : Env) (s s' : SS) (v : Value),
      opts.tail = false → opts.hint = none → c.scopes = sc :: rs → c.pools = pool :: ps → c.lim ≤ 240 → sc.top = false →
      (w = true → c.map.length = c.buf.length) →
      doBody (cValue fuel) opts b c = some (slot, c') → evalSeq n cur env b s = .ok (v, env') s' → EnvS G c.scopes env s.boxes.size sc.ra →
      Correct2 p f0 rest V P G (opts.drop && w) c c' slot sc rs pool ps env env' s s' v := by
  intro b
  induction b with
  | nil =>
    intro _ opts c c' slot sc rs pool ps n cur env env' s s' v _ _ hs hp _ _ _ hc hsem hE
    simp only [doBody, Option.some.injEq, Prod.mk.injEq] at hc
    obtain ⟨h1, h2⟩ := hc
    obtain ⟨e1, e2, e3⟩ := evalSeq_nil_inv n cur env env' s s' v hsem
    subst h1 h2 e1 e2 e3
    exact Correct2.weaken p f0 rest V P _ (atom_nil2 p f0 rest V P G _ sc rs pool ps hs hp _ _ hE)
  | cons x t ih =>
    intro hT opts c c' slot sc rs pool ps n cur env env' s s' v ht hh hs hp hl htop hm hc hsem hE
    cases t with
    | nil =>
      simp only [doBody] at hc
      obtain ⟨n2, hn, he⟩ := evalSeq_one_inv n cur env env' x s s' v hsem
      exact IH x opts c c' slot sc rs pool ps n2 cur env env' s s' v ht hh hs hp hl htop hm (hT x (by simp)) hc he hE
    | cons y r =>
      simp only [doBody, Option.bind_eq_bind, Option.bind_eq_some_iff, Prod.exists] at hc
      obtain ⟨sl1, c1, hx, c1f, hf, hrest⟩ := hc
      obtain ⟨n2, v1, env1, s1, hn, he1, he2⟩ := evalSeq_cons_inv n cur env env' x y r s s' v hsem
      have h1 := IH x { drop := true } c c1 sl1 sc rs pool ps n2 cur env env1 s s1 v1 rfl rfl hs hp hl htop hm (hT x (by simp)) hx he1 hE
      have hm1 : w = true → c1f.map.length = c1f.buf.length := by
        intro hw
        obtain ⟨e1, e2⟩ := freeslot_bufmap c1 c1f sl1 hf
        rw [e1, e2]
        exact ML hw x { drop := true } c c1 sl1 sc rs pool ps env s.boxes.size rfl rfl hs hp htop (hT x (by simp)) hE hx (hm hw)
      refine (h1.freed p f0 rest V P hf).1.comp p f0 rest V P ?_
      intro sc1 pool1 hs1 hp1 htop1 hl1 hE1
      exact ih (fun e he => hT e (by simp [he])) opts c1f c' slot sc1 rs pool1 ps n2 cur env1 env' s1 s' v ht hh hs1 hp1
        (by rw [hl1]; exact hl) (by rw [htop1]; exact htop) hm1 hrest he2 hE1

theorem foldl_keep_mono (F : RA → SymPair → RA)
    (hF : ∀ ra q, (F ra q).max = ra.max ∧ ∀ j, ra.alloc j = true → (F ra q).alloc j = true) :
    ∀ (kept : List SymPair) (ra : RA), (kept.foldl F ra).max = ra.max ∧ ∀ j, ra.alloc j = true → (kept.foldl F ra).alloc j = true
  | [], ra => ⟨rfl, fun _ h => h⟩
  | q :: ks, ra => by
    obtain ⟨a1, a2⟩ := foldl_keep_mono F hF ks (F ra q)
    obtain ⟨b1, b2⟩ := hF ra q
    exact ⟨by rw [List.foldl_cons, a1, b1], fun j hj => a2 j (b2 j hj)⟩

theorem popScope_block (c2 : CState) (old sc : Scope) (rs : List Scope) (hs : c2.scopes = old :: sc :: rs)
    (hfn : old.fn = false) (hun : old.unused = false) (hcl : old.closure = false) :
    ∃ raX, popScope c2 = some { c2 with scopes := { sc with ra := raX, syms := sc.syms ++ old.syms.map (fun q => { q with visible := false }) } :: rs } ∧
      raX.max = (if sc.ra.max < old.ra.max then old.ra.max else sc.ra.max) ∧ (∀ j, sc.ra.alloc j = true → raX.alloc j = true) := by
  unfold popScope
  rw [hs]
  simp only [hfn, hun, hcl, Bool.or_false, Bool.false_eq_true, if_false]
  refine ⟨_, rfl, foldl_keep_mono _ (fun ra q => ?_) _ _⟩
  split
  · split
    · exact ⟨rfl, fun j hj => by simp [RA.mark, hj]⟩
    · exact ⟨rfl, fun _ h => h⟩
  · exact ⟨rfl, fun _ h => h⟩

abbrev upd (sc : Scope) (ra : RA) (ns : List SymPair) : Scope := { sc with ra := ra, syms := sc.syms ++ ns }

theorem lk_upd (sc : Scope) (rs : List Scope) (ra : RA) (ns : List SymPair) (h : ∀ q, q ∈ ns → q.visible = false) (x : String) :
    lk (upd sc ra ns :: rs) x = lk (sc :: rs) x :=
  (lk_append_invisible { sc with ra := ra } rs ns h x).trans (lk_ra sc rs ra x)

/-- names hidden by the pop of a block scope do not resolve -/
theorem lk_popped (sc : Scope) (rs : List Scope) (ra : RA) (l : List SymPair) (x : String) :
    lk ({ sc with ra := ra, syms := sc.syms ++ l.map (fun q => { q with visible := false }) } :: rs) x = lk (sc :: rs) x :=
  (lk_append_invisible { sc with ra := ra } rs _ (fun q hq => by
    simp only [List.mem_map] at hq
    obtain ⟨q0, _, rfl⟩ := hq
    rfl) x).trans (lk_ra sc rs ra x)

theorem popScopeKeep_block (c2 c3 : CState) (r : JSlot) (old sc : Scope) (rs : List Scope) (hs : c2.scopes = old :: sc :: rs)
    (hfn : old.fn = false) (hun : old.unused = false) (hcl : old.closure = false) (h : popScopeKeep c2 r = some c3) :
    ∃ raX, c3 = { c2 with scopes := { sc with ra := raX, syms := sc.syms ++ old.syms.map (fun q => { q with visible := false }) } :: rs } ∧
      raX.max = (if sc.ra.max < old.ra.max then old.ra.max else sc.ra.max) ∧ (∀ j, sc.ra.alloc j = true → raX.alloc j = true) ∧
      (∀ i, r.k = .loc i → raX.alloc i = true) := by
  obtain ⟨raX, hpop, hmax, hmono⟩ := popScope_block c2 old sc rs hs hfn hun hcl
  simp only [popScopeKeep, hpop, Option.bind_eq_bind, Option.bind_some] at h
  cases hk : r.k with
  | loc i =>
    rw [hk] at h
    simp only [Option.pure_def, Option.some.injEq] at h
    refine ⟨raX.mark i, h.symm, hmax, fun j hj => by simp [RA.mark, hmono j hj], fun i' hi' => ?_⟩
    injection hi' with e
    subst e
    simp [RA.mark]
  | const kc =>
    rw [hk] at h
    simp only [Option.pure_def, Option.some.injEq] at h
    exact ⟨raX, h.symm, hmax, hmono, fun i hi => by simp at hi⟩
  | up e i =>
    rw [hk] at h
    simp only [Option.pure_def, Option.some.injEq] at h
    exact ⟨raX, h.symm, hmax, hmono, fun i hi => by simp at hi⟩
  | ref id =>
    rw [hk] at h
    simp only [Option.pure_def, Option.some.injEq] at h
    exact ⟨raX, h.symm, hmax, hmono, fun i hi => by simp at hi⟩

/-- `janetc_scope` … `janetc_popscope_keepslot` around a compile (`st`: the scope's start): the compile side, and what the pop does to
    names and allocator -/
theorem Delta.block {c c2 c3 : CState} {r : JSlot} {sc : Scope} {rs : List Scope} {pool : List KConst} {ps : List (List KConst)} {ra2 : RA}
    {ns2 : List SymPair} {more : List KConst} {seg : List CI} {segm : List Pos} (st : Nat) (hs : c.scopes = sc :: rs)
    (h : Delta { c with scopes := { ra := { alloc := sc.ra.alloc, max := sc.ra.max }, start := st } :: sc :: rs } c2
      { ra := { alloc := sc.ra.alloc, max := sc.ra.max }, start := st } (sc :: rs) pool ps ra2 ns2 more seg segm)
    (hpop : popScopeKeep c2 r = some c3) :
    ∃ raX, Delta c c3 sc rs pool ps raX (ns2.map (fun q => { q with visible := false })) more seg segm ∧ ra2.max ≤ raX.max ∧
      c3.vals = c2.vals ∧ (∀ i, r.k = .loc i → raX.alloc i = true) ∧
      (∀ x, lk (({ ra := { alloc := sc.ra.alloc, max := sc.ra.max }, start := st } : Scope) :: sc :: rs) x = lk c.scopes x) ∧
      ∀ x, lk c3.scopes x = lk c.scopes x := by
  let nw : Scope := { ra := { alloc := sc.ra.alloc, max := sc.ra.max }, start := st }
  have hc2 := h.eq
  have hs2 : c2.scopes = { nw with ra := ra2, syms := nw.syms ++ ns2 } :: sc :: rs := by rw [hc2]
  obtain ⟨raX, hc3, hmaxX, hmonoX, hkeepX⟩ :=
    popScopeKeep_block c2 c3 r { nw with ra := ra2, syms := nw.syms ++ ns2 } sc rs hs2 rfl rfl rfl hpop
  have hs3 : c3.scopes = { sc with ra := raX, syms := sc.syms ++ ns2.map (fun q => { q with visible := false }) } :: rs := by rw [hc3]; rfl
  have max2 : sc.ra.max ≤ ra2.max := h.max
  have hmaxX' : raX.max = (if sc.ra.max < ra2.max then ra2.max else sc.ra.max) := hmaxX
  refine ⟨raX, ⟨?_, ?_, hmonoX, ?_⟩, ?_, by rw [hc3], hkeepX, fun x => by rw [hs]; exact lk_push nw (sc :: rs) rfl rfl rfl x, fun x => ?_⟩
  · rw [hc3, hc2]; rfl
  · rw [hc3]; exact h.pv
  · rw [hmaxX']; split <;> omega
  · rw [hmaxX']; split <;> omega
  · rw [hs3, hs]
    exact lk_popped sc rs raX ns2 x

/-- block scope around a body whose value is used or dropped: `janetc_scope` … `janetc_popscope_keepslot` (`st`: the scope's start) -/
theorem Correct2.block {G : String → Prop} {dr : Bool} {c c2 c3 : CState} {r : JSlot} {sc : Scope} {rs : List Scope} {pool : List KConst}
    {ps : List (List KConst)} {env envb : Env} {s s' : SS} {v : Value} (st : Nat) (hs : c.scopes = sc :: rs)
    (hE : EnvS G c.scopes env s.boxes.size sc.ra)
    (H : Correct2 p f0 rest V P G dr { c with scopes := { ra := { alloc := sc.ra.alloc, max := sc.ra.max }, start := st } :: sc :: rs } c2 r
      { ra := { alloc := sc.ra.alloc, max := sc.ra.max }, start := st } (sc :: rs) pool ps env envb s s' v)
    (hpop : popScopeKeep c2 r = some c3) : Correct2 p f0 rest V P G dr c c3 r sc rs pool ps env env s s' v := by
  obtain ⟨ra2, ns2, more2, seg2, segm2, hc2, pv2, mono2, max2, sok2, bx2, es2, nf2, vm2⟩ := H
  obtain ⟨raX, D, hmax, hv3, hkeepX, hlk1, hlk3⟩ := Delta.block st hs ⟨hc2, pv2, mono2, max2⟩ hpop
  refine ⟨raX, _, more2, seg2, segm2, D.eq, D.pv, D.mono, D.max, ?_, bx2, hE.of_lk hlk3 bx2.1 (fun _ _ _ _ r _ _ h => D.mono r h),
    ⟨fun d _ hno => hno.of_lk hlk3, fun r0 hnm hk hr hno => nf2.2 r0 hnm hk hr (hno.of_lk hlk1)⟩, ?_⟩
  · rcases sok2 with ⟨a1, kc, a2, a3⟩ | ⟨a1, a2, r0, a3, a4, a5⟩ | ⟨a1, a2, d, a3, a4, a5, a6, a7⟩
    · exact Or.inl ⟨a1, kc, a2, by rw [hv3]; exact a3⟩
    · exact Or.inr (Or.inl ⟨a1, a2, r0, a3, hkeepX r0 a3, a5⟩)
    · refine Or.inr (Or.inr ⟨a1, a2, d, a3, a4, hkeepX d a3, a6, ?_⟩)
      intro x sl u l hx hk
      rw [hlk3] at hx
      obtain ⟨_, _, _, r', _, hk', _, _, hal, _⟩ := hE.found hx
      rw [hk'] at hk
      have : r' = d := by injection hk
      rw [this] at hal
      have a4' : sc.ra.alloc d = false := a4
      rw [a4'] at hal
      exact Bool.noConfusion hal
  · intro k hkw hka hD hcode hpre hV hsz
    rw [hv3] at hV
    obtain ⟨regs2, rch2, sz2, pr2, sv2, _⟩ := vm2 k hkw hka (hD.of_lk hlk1) hcode hpre hV (Nat.lt_of_le_of_lt hmax hsz)
    exact ⟨regs2, rch2, sz2, pr2, sv2, EnvD.frame hE hD hlk3 pr2 bx2⟩

theorem do_core (G : String → Prop) (T : Expr → Prop) (w : Bool) (fuel : Nat) (IH : CorrectAt p f0 rest V P G T w fuel) (ML : MLAt G T w fuel)
    (body : List Expr) (hT : ∀ e, e ∈ body → T e)
    (opts : Fopts) (c c' : CState) (slot : JSlot) (sc : Scope) (rs : List Scope) (pool : List KConst) (ps : List (List KConst))
    (n : Nat) (cur : Pos) (env envb : Env) (s s' : SS) (v : Value)
    (ht : opts.tail = false) (hh : opts.hint = none) (hs : c.scopes = sc :: rs) (hp : c.pools = pool :: ps) (hl : c.lim ≤ 240)
    (hm : w = true → c.map.length = c.buf.length)
    (hc : cDo (cValue fuel) opts body c = some (slot, c')) (hsem : evalSeq n cur env body s = .ok (v, envb) s')
    (hE : EnvS G c.scopes env s.boxes.size sc.ra) :
    Correct2 p f0 rest V P G (opts.drop && w) c c' slot sc rs pool ps env env s s' v := by
  simp only [cDo, Option.bind_eq_bind, Option.bind_eq_some_iff, Prod.exists, Option.pure_def, Option.some.injEq, Prod.mk.injEq] at hc
  obtain ⟨r, c2, hbody, c3, hpop, hslot, hc3⟩ := hc
  subst hslot hc3
  let nw : Scope := { ra := { alloc := sc.ra.alloc, max := sc.ra.max }, start := c.buf.length }
  have hc1 : pushScope c false false false false = { c with scopes := nw :: sc :: rs } := by
    simp [pushScope, hs, nw]
  rw [hc1] at hbody
  have hlk1 : ∀ x, lk (nw :: sc :: rs) x = lk c.scopes x := by
    intro x; rw [hs]; exact lk_push nw (sc :: rs) rfl rfl rfl x
  have hE1 : EnvS G ({ c with scopes := nw :: sc :: rs } : CState).scopes env s.boxes.size nw.ra :=
    hE.of_lk hlk1 (Nat.le_refl _) (fun _ _ _ _ _ _ _ h => h)
  exact Correct2.block p f0 rest V P c.buf.length hs hE
    (doBody_correct p f0 rest V P G T w fuel IH ML body hT opts { c with scopes := nw :: sc :: rs } c2 r nw (sc :: rs) pool ps n cur env envb s s' v
      ht hh rfl hp hl rfl hm hbody hsem hE1) hpop

end

end JanetModel.Compile
