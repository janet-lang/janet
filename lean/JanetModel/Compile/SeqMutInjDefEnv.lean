/- C02: the compile-time invariant `EnvS` marks every resolvable name's register, so with `MutInj` it gives `AllocInv`
   (entry hypothesis of `set_hside_def`, Compile/SeqMutInjDefH.lean). -/
import JanetModel.Compile.SeqMutInjDef
namespace JanetModel.Compile
open JanetModel.Emit JanetModel.Lang JanetModel.Bytecode.Exec JanetModel.Gen.Bytecode

/-- the compile-time invariant `EnvS` marks every resolvable name's register -/
theorem EnvS.allocInv {G : String → Prop} {sc : Scope} {rs : List Scope} {env : Env} {nb : Nat}
    (h : EnvS G (sc :: rs) env nb sc.ra) (hM : MutInj (sc :: rs)) : AllocInv (sc :: rs) := by
  refine ⟨hM, fun sc' rs' e x sl u l r hlk hk => ?_⟩
  obtain ⟨_, _, _, r', a, hk', _, _, hal, _⟩ := h.found hlk
  rw [hk] at hk'
  simp only [Slot.loc.injEq] at hk'
  subst hk'
  rw [← (List.cons.inj e).1]
  exact hal

end JanetModel.Compile
