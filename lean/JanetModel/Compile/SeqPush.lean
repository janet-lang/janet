/- C02: the emit wrappers on operand slots that are constants or near locals, near registers: how an operand gets its register
   (`Prep`), the load it costs and its run (`operand_run`); `janetc_pushslots` in general (operands pushed in groups of three with
   JOP_PUSH_3, then a remaining pair with JOP_PUSH_2 or a single one with JOP_PUSH: `Pushed`); target allocation and the JOP_CALL
   of a core function held in a constant or a local (`callEmit`). -/
import JanetModel.Compile.Correct
import JanetModel.Compile.Pieces
namespace JanetModel.Compile
open JanetModel.Emit JanetModel.Lang JanetModel.Bytecode.Exec JanetModel.Gen.Bytecode

def isC : Slot → Bool
  | .const _ => true
  | _ => false

/-- `SK` on the emit-layer slot -/
def SKs (s : Slot) : Prop := (∃ kc, s = .const kc) ∨ (∃ r, s = .loc r ∧ r < 240)

theorem SK.sks {sl : JSlot} (h : SK sl) : SKs sl.k := h

/-- the load list of an `SK` operand that uses register `t` -/
def ldOf (cidx : KConst → Nat) (s : Slot) (t : Nat) : List MI :=
  match s with
  | .const k => [.ldk t k (cidx k)]
  | _ => []

/-- what obtaining the register of an `SK` operand does in the near case: `t` is the register the payload uses -/
structure Prep (ra : RA) (s : Slot) (tag t : Nat) (ra' : RA) : Prop where
  lt : t < 240
  maxge : isC s = true → t ≤ ra'.max
  mono : ra.max ≤ ra'.max
  alloc : ∀ j, ra'.alloc j = if (isC s = true ∧ j = t) then true else ra.alloc j
  free : isC s = true → ra.alloc t = false
  loc : ∀ r, s = .loc r → t = r
  rel : ∀ (ra'' : RA) (j : Nat), (W.freeNear ra'' s t tag).alloc j = if (isC s = true ∧ j = t) then false else ra''.alloc j

theorem nearTemp_max_mono (ra : RA) (s : Slot) (tag : Nat) : ra.max ≤ (W.nearTemp ra s tag).2.max := by
  unfold W.nearTemp
  split
  · exact allocTemp_max_mono ra tag
  · exact Nat.le_refl _

theorem backTemp_false (ra : RA) (s : Slot) : W.backTemp ra false s = (0, ra) := by
  cases s <;> rfl

theorem freeNear_const (ra'' : RA) (kc : KConst) (t tag : Nat) (ht : t < 240) (j : Nat) :
    (W.freeNear ra'' (.const kc) t tag).alloc j = if (isC (.const kc) = true ∧ j = t) then false else ra''.alloc j := by
  simp only [W.freeNear, Slot.isLocal, Bool.false_and, Bool.false_eq_true, if_false, RA.freeTemp, ht, if_true, RA.unmark, isC, true_and]

theorem freeNear_loc (ra'' : RA) (r tag : Nat) (j : Nat) :
    (W.freeNear ra'' (.loc r) r tag).alloc j = if (isC (.loc r) = true ∧ j = r) then false else ra''.alloc j := by
  simp [W.freeNear, Slot.isLocal, Slot.index, isC]

theorem prep_loc (ra : RA) (r tag : Nat) (hr : r < 240) : Prep ra (.loc r) tag r ra := by
  refine ⟨hr, fun hh => absurd hh (by simp [isC]), Nat.le_refl _, ?_, fun hh => absurd hh (by simp [isC]), ?_, ?_⟩
  · intro j; simp [isC]
  · intro r' hh; exact (Slot.loc.inj hh)
  · intro ra'' j; exact freeNear_loc ra'' r tag j

theorem nearTemp_prep (cidx : KConst → Nat) (ra ra' : RA) (s : Slot) (tag t : Nat) (hs : SKs s)
    (h : W.nearTemp ra s tag = (t, ra')) (hmax : ra'.max < 240) :
    Prep ra s tag t ra' ∧ regnear cidx s t = (t, ldOf cidx s t) := by
  rcases hs with ⟨kc, rfl⟩ | ⟨r, rfl, hr⟩
  · have e : W.nearTemp ra (.const kc) tag = ra.allocTemp tag := by
      simp [W.nearTemp, W.needTemp, Slot.nearLocal]
    rw [e] at h
    have ht : (ra.allocTemp tag).1 = t := by rw [h]
    have hr' : (ra.allocTemp tag).2 = ra' := by rw [h]
    obtain ⟨a1, a2, a3, a4, a5⟩ := allocTemp_near ra tag (by rw [hr']; exact hmax)
    rw [ht] at a1 a2 a3 a5
    rw [hr'] at a2 a4 a5
    refine ⟨⟨a3, fun _ => a2, a4, ?_, fun _ => a1, ?_, ?_⟩, ?_⟩
    · intro j; rw [a5 j]; simp [isC]
    · intro r hh; exact Slot.noConfusion hh
    · intro ra'' j; exact freeNear_const ra'' kc t tag a3 j
    · simp [regnear, Slot.nearLocal, movenear, ldOf]
  · have hnl : (Slot.loc r).nearLocal = true := by simp only [Slot.nearLocal, decide_eq_true_eq]; omega
    have e : W.nearTemp ra (.loc r) tag = (r, ra) := by simp [W.nearTemp, W.needTemp, hnl, Slot.index]
    rw [e] at h
    obtain ⟨rfl, rfl⟩ := Prod.mk.inj h
    exact ⟨prep_loc ra r tag hr, by simp [regnear, hnl, Slot.index, ldOf]⟩

theorem farTemp_prep (cidx : KConst → Nat) (ra ra' : RA) (s : Slot) (tag t1 fr r2 : Nat) (hs : SKs s)
    (h : W.farTemp ra s tag = (t1, fr, r2, ra')) (hmax : ra'.max < 240) :
    Prep ra s tag r2 ra' ∧ regfar cidx s t1 fr = (r2, ldOf cidx s r2) := by
  rcases hs with ⟨kc, rfl⟩ | ⟨r, rfl, hr⟩
  · by_cases hn : (ra.allocTemp tag).1 ≥ 0xF0
    · exfalso
      have e : W.farTemp ra (.const kc) tag =
          ((ra.allocTemp tag).1, ((ra.allocTemp tag).2.alloc1).1, ((ra.allocTemp tag).2.alloc1).1,
            ((ra.allocTemp tag).2.alloc1).2.freeTemp (ra.allocTemp tag).1 tag) := by
        simp only [W.farTemp, Slot.isLocal, Bool.false_eq_true, if_false, hn, if_true]
      rw [e] at h
      have hra : ((ra.allocTemp tag).2.alloc1).2.freeTemp (ra.allocTemp tag).1 tag = ra' := by
        have := congrArg (fun x => x.2.2.2) h; exact this
      have m1 := allocTemp_max_ge ra tag
      have m2 := alloc1_max_mono (ra.allocTemp tag).2
      have m3 := freeTemp_max ((ra.allocTemp tag).2.alloc1).2 (ra.allocTemp tag).1 tag
      rw [hra] at m3
      omega
    · have e : W.farTemp ra (.const kc) tag =
          ((ra.allocTemp tag).1, 0, (ra.allocTemp tag).1, (((ra.allocTemp tag).2).freeTemp (ra.allocTemp tag).1 tag).mark (ra.allocTemp tag).1) := by
        simp only [W.farTemp, Slot.isLocal, Bool.false_eq_true, if_false, hn]
      rw [e] at h
      have h1 : (ra.allocTemp tag).1 = t1 := congrArg (fun x => x.1) h
      have h2 : 0 = fr := congrArg (fun x => x.2.1) h
      have h3 : (ra.allocTemp tag).1 = r2 := congrArg (fun x => x.2.2.1) h
      have h4 : (((ra.allocTemp tag).2).freeTemp (ra.allocTemp tag).1 tag).mark (ra.allocTemp tag).1 = ra' := congrArg (fun x => x.2.2.2) h
      have hm : ra'.max = (ra.allocTemp tag).2.max := by rw [← h4, mark_max, freeTemp_max]
      obtain ⟨a1, a2, a3, a4, a5⟩ := allocTemp_near ra tag (by omega)
      rw [h3] at a1 a2 a3 a5
      rw [← hm] at a2 a4
      have ht1 : t1 = r2 := by rw [← h1, h3]
      refine ⟨⟨a3, fun _ => a2, a4, ?_, fun _ => a1, ?_, ?_⟩, ?_⟩
      · intro j
        rw [← h4, h3]
        simp only [RA.mark, RA.freeTemp, a3, if_true, RA.unmark, isC, true_and]
        by_cases hj : j = r2
        · simp only [hj, if_true]
        · simp only [hj, if_false]; rw [a5 j, if_neg hj]
      · intro r hh; exact Slot.noConfusion hh
      · intro ra'' j; exact freeNear_const ra'' kc r2 tag a3 j
      · have hn' : ¬ (r2 ≥ 240) := by omega
        subst ht1
        simp [regfar, Slot.isLocal, hn', movenear, ldOf]
  · have e : W.farTemp ra (.loc r) tag = (0, 0, r, ra) := by simp [W.farTemp, Slot.isLocal, Slot.index]
    rw [e] at h
    have h3 : r = r2 := congrArg (fun x => x.2.2.1) h
    have h4 : ra = ra' := congrArg (fun x => x.2.2.2) h
    subst h3 h4
    exact ⟨prep_loc ra r tag hr, by simp [regfar, Slot.isLocal, Slot.index, ldOf]⟩

/-- three temporaries obtained in order and released (second, third, first): `alloc` is what it was -/
theorem net3 (a a1 a2 a3 a4 a5 a6 : Nat → Bool) (c0 c1 c2 : Bool) (t0 t1 t2 : Nat)
    (h1 : ∀ j, a1 j = if (c0 = true ∧ j = t0) then true else a j) (f0 : c0 = true → a t0 = false)
    (h2 : ∀ j, a2 j = if (c1 = true ∧ j = t1) then true else a1 j) (f1 : c1 = true → a1 t1 = false)
    (h3 : ∀ j, a3 j = if (c2 = true ∧ j = t2) then true else a2 j) (f2 : c2 = true → a2 t2 = false)
    (h4 : ∀ j, a4 j = if (c1 = true ∧ j = t1) then false else a3 j)
    (h5 : ∀ j, a5 j = if (c2 = true ∧ j = t2) then false else a4 j)
    (h6 : ∀ j, a6 j = if (c0 = true ∧ j = t0) then false else a5 j) : ∀ j, a6 j = a j := by
  intro j
  rw [h6]
  by_cases e0 : c0 = true ∧ j = t0
  · rw [if_pos e0, e0.2]; exact (f0 e0.1).symm
  · rw [if_neg e0, h5]
    by_cases e2 : c2 = true ∧ j = t2
    · rw [if_pos e2, e2.2]
      have := f2 e2.1
      rw [h2, h1] at this
      split at this
      · exact Bool.noConfusion this
      · split at this
        · exact Bool.noConfusion this
        · exact this.symm
    · rw [if_neg e2, h4]
      by_cases e1 : c1 = true ∧ j = t1
      · rw [if_pos e1, e1.2]
        have := f1 e1.1
        rw [h1] at this
        split at this
        · exact Bool.noConfusion this
        · exact this.symm
      · rw [if_neg e1, h3, if_neg e2, h2, if_neg e1, h1, if_neg e0]

/-- `net3` with nothing in the third place -/
theorem net2 (a a1 a2 a4 a6 : Nat → Bool) (c0 c1 : Bool) (t0 t1 : Nat)
    (h1 : ∀ j, a1 j = if (c0 = true ∧ j = t0) then true else a j) (f0 : c0 = true → a t0 = false)
    (h2 : ∀ j, a2 j = if (c1 = true ∧ j = t1) then true else a1 j) (f1 : c1 = true → a1 t1 = false)
    (h4 : ∀ j, a4 j = if (c1 = true ∧ j = t1) then false else a2 j)
    (h6 : ∀ j, a6 j = if (c0 = true ∧ j = t0) then false else a4 j) : ∀ j, a6 j = a j :=
  net3 a a1 a2 a2 a4 a4 a6 c0 c1 false t0 t1 0 h1 f0 h2 f1 (fun j => by simp) (fun hh => Bool.noConfusion hh) h4 (fun j => by simp) h6

theorem backTemp_sk (ra : RA) (wr : Bool) (s : Slot) (hs : SKs s) : W.backTemp ra wr s = (0, ra) := by
  rcases hs with ⟨kc, rfl⟩ | ⟨r, rfl, _⟩ <;> cases wr <;> rfl

theorem W_emitSSS_eq (ra0 : RA) (pool : List KConst) (op : Nat) (s1 s2 s3 : Slot) (t0 : Nat) (ra1 : RA) (t1 : Nat) (ra2 : RA) (t2 : Nat) (ra3 : RA)
    (poolF : List KConst) (e0 : W.nearTemp ra0 s1 0 = (t0, ra1)) (e1 : W.nearTemp ra1 s2 1 = (t1, ra2)) (e2 : W.nearTemp ra2 s3 2 = (t2, ra3))
    (hF : (W.slotConst s1 ++ W.slotConst s2 ++ W.slotConst s3).foldl W.intern pool = poolF) :
    W.emitSSS { ra := ra0, buf := [], consts := pool } op false s1 s2 s3 =
      { ra := W.freeNear (W.freeNear (W.freeNear ra3 s2 t1 1) s3 t2 2) s1 t0 0,
        buf := Emit.emitSSS (W.poolIdx poolF) op false s1 s2 s3 t0 t1 t2 0, consts := poolF } := by
  subst hF
  simp only [W.emitSSS, e0, e1, e2, backTemp_false, W.finish, List.nil_append]

theorem W_emitSS_eq (ra0 : RA) (pool : List KConst) (op : Nat) (wr : Bool) (s1 s2 : Slot) (t0 : Nat) (ra1 : RA) (t1 fr r2 : Nat) (ra2 : RA)
    (poolF : List KConst) (hs1 : SKs s1) (e0 : W.nearTemp ra0 s1 0 = (t0, ra1)) (e1 : W.farTemp ra1 s2 1 = (t1, fr, r2, ra2))
    (hF : (W.slotConst s1 ++ W.slotConst s2).foldl W.intern pool = poolF) :
    W.emitSS { ra := ra0, buf := [], consts := pool } op wr s1 s2 =
      { ra := W.freeNear (W.freeNear ra2 s2 r2 1) s1 t0 0,
        buf := Emit.emitSS (W.poolIdx poolF) op wr s1 s2 t0 t1 fr 0, consts := poolF } := by
  subst hF
  simp only [W.emitSS, e0, e1, backTemp_sk _ _ _ hs1, W.finish, List.nil_append]

theorem W_emitS_eq (ra0 : RA) (pool : List KConst) (op : Nat) (s : Slot) (t0 fr r : Nat) (ra1 : RA)
    (poolF : List KConst) (e0 : W.farTemp ra0 s 0 = (t0, fr, r, ra1)) (hF : (W.slotConst s).foldl W.intern pool = poolF) :
    W.emitS { ra := ra0, buf := [], consts := pool } op false s =
      { ra := W.freeNear ra1 s r 0, buf := Emit.emitS (W.poolIdx poolF) op false s t0 fr 0, consts := poolF } := by
  subst hF
  simp only [W.emitS, e0, backTemp_false, W.finish, List.nil_append]

theorem emitSSS_pure (cidx : KConst → Nat) (op : Nat) (s1 s2 s3 : Slot) (t0 t1 t2 : Nat)
    (r0 : regnear cidx s1 t0 = (t0, ldOf cidx s1 t0)) (r1 : regnear cidx s2 t1 = (t1, ldOf cidx s2 t1))
    (r2 : regnear cidx s3 t2 = (t2, ldOf cidx s3 t2)) :
    (Emit.emitSSS cidx op false s1 s2 s3 t0 t1 t2 0).map CI.mi =
      (ldOf cidx s1 t0).map CI.mi ++ ((ldOf cidx s2 t1).map CI.mi ++ ((ldOf cidx s3 t2).map CI.mi ++ [CI.mi (.pay op .sss false [t0, t1, t2] 0)])) := by
  simp only [Emit.emitSSS, r0, r1, r2, wb, Bool.false_eq_true, if_false, List.append_nil, List.map_append, List.append_assoc,
    List.map_cons, List.map_nil]

theorem emitSS_pure (cidx : KConst → Nat) (op : Nat) (wr : Bool) (s1 s2 : Slot) (t0 t1 fr r2 : Nat)
    (r0 : regnear cidx s1 t0 = (t0, ldOf cidx s1 t0)) (r1 : regfar cidx s2 t1 fr = (r2, ldOf cidx s2 r2))
    (hwb : wb cidx 0 wr s1 t0 = []) :
    (Emit.emitSS cidx op wr s1 s2 t0 t1 fr 0).map CI.mi =
      (ldOf cidx s1 t0).map CI.mi ++ ((ldOf cidx s2 r2).map CI.mi ++ [CI.mi (.pay op .ss wr [t0, r2] 0)]) := by
  simp only [Emit.emitSS, r0, r1, hwb, List.append_nil, List.map_append, List.append_assoc, List.map_cons, List.map_nil]

theorem emitS_pure (cidx : KConst → Nat) (op : Nat) (s : Slot) (t0 fr r : Nat) (r0 : regfar cidx s t0 fr = (r, ldOf cidx s r)) :
    (Emit.emitS cidx op false s t0 fr 0).map CI.mi = (ldOf cidx s r).map CI.mi ++ [CI.mi (.pay op .s false [r] 0)] := by
  simp only [Emit.emitS, r0, wb, Bool.false_eq_true, if_false, List.append_nil, List.map_append, List.map_cons, List.map_nil]

theorem foldl_intern_pref : ∀ (L pool : List KConst), PrefL pool (L.foldl W.intern pool)
  | [], _ => PrefL.refl _
  | k :: L, pool => (intern_pref pool k).trans (foldl_intern_pref L _)

theorem foldl_intern_mem : ∀ (L pool : List KConst) (k : KConst), (k ∈ pool ∨ k ∈ L) → k ∈ L.foldl W.intern pool
  | [], pool, k, h => by
    rcases h with h | h
    · exact h
    · exact absurd h (by simp)
  | a :: L, pool, k, h => by
    simp only [List.foldl_cons]
    apply foldl_intern_mem L
    rcases h with h | h
    · left
      obtain ⟨m, hm⟩ := intern_pref pool a
      rw [hm]; exact List.mem_append_left _ h
    · rcases List.mem_cons.mp h with e | h
      · left; rw [e]; exact intern_mem pool _
      · right; exact h

theorem slotConst_mem (s : Slot) (kc : KConst) (h : s = .const kc) (hp : kc.pooled = true) : kc ∈ W.slotConst s := by
  subst h; simp [W.slotConst, hp]


/-- the register file after the load list of an operand -/
def ldRegs (V : Array Value) (regs : Array Value) (s : Slot) (t : Nat) : Array Value :=
  match s with
  | .const kc => regs.setIfInBounds t (litOf V kc)
  | _ => regs

def slotValS (V : Array Value) (regs : Array Value) (s : Slot) : Value :=
  match s with
  | .const kc => litOf V kc
  | .loc r => regs.getD r .nil
  | _ => .nil

theorem slotVal_eq (V regs : Array Value) (sl : JSlot) : slotVal V regs sl = slotValS V regs sl.k := rfl

theorem slotValS_frame (V regs regs' : Array Value) (s : Slot)
    (h : ∀ r, s = .loc r → regs'.getD r .nil = regs.getD r .nil) : slotValS V regs' s = slotValS V regs s := by
  cases s with
  | loc r => exact h r rfl
  | _ => rfl

theorem slotVal_frame (V regs regs' : Array Value) (sl : JSlot) (ra : RA)
    (hl : ∀ r, sl.k = .loc r → ra.alloc r = true) (hf : ∀ r, ra.alloc r = true → regs'.getD r .nil = regs.getD r .nil) :
    slotVal V regs' sl = slotVal V regs sl :=
  slotValS_frame V _ _ _ (fun r hr => hf r (hl r hr))

section
variable (p : Program) (f0 : Frame) (rest : List Frame) (V : Array Value) (P : List KConst)

/-- a constant interned somewhere before the final pool `P` of the function: its index (looked up in any intermediate pool
    that contains it) is where the function's constant table has its value -/
theorem pool_ok (hP : P.length < 65536)
    (hK : ∀ i, i < P.length → (p.defs.getD f0.defIdx default).consts.getD i .nil = litOf V (P.getD i .nil))
    (pool' : List KConst) (hpre : PrefL pool' P) (kc : KConst) (hm : kc.pooled = true → kc ∈ pool') :
    W.poolIdx pool' kc < 65536 ∧
      (kc.pooled = true → (p.defs.getD f0.defIdx default).consts.getD (W.poolIdx pool' kc) .nil = litOf V kc) := by
  have hl := hpre.length
  refine ⟨by have := poolIdx_le pool' kc; omega, ?_⟩
  intro hp
  obtain ⟨h1, h2⟩ := idxOf_getD pool' kc (hm hp)
  unfold W.poolIdx
  rw [hK _ (by omega), hpre.getD _ h1, h2]

/-- `pool_ok` for an operand `s` of an emit call that interns the constants `L` -/
theorem pool_ok_foldl (hP : P.length < 65536)
    (hK : ∀ i, i < P.length → (p.defs.getD f0.defIdx default).consts.getD i .nil = litOf V (P.getD i .nil))
    (L pool poolF : List KConst) (hF : L.foldl W.intern pool = poolF) (hpre : PrefL poolF P) (s : Slot) (hL : ∀ k ∈ W.slotConst s, k ∈ L)
    (kc : KConst) (hk : s = .const kc) :
    W.poolIdx poolF kc < 65536 ∧
      (kc.pooled = true → (p.defs.getD f0.defIdx default).consts.getD (W.poolIdx poolF kc) .nil = litOf V kc) :=
  pool_ok p f0 V P hP hK poolF hpre kc
    (fun hp => by rw [← hF]; exact foldl_intern_mem L pool kc (Or.inr (hL kc (slotConst_mem s kc hk hp))))

/-- the load list of one operand on the VM: the register `t` then holds the operand's value, and the registers allocated before keep theirs -/
theorem operand_run (regs : Array Value) (pc : Nat) (args : Array Value) (w : World) (ra ra' : RA) (s : Slot) (tag t : Nat)
    (cidx : KConst → Nat) (hs : SKs s) (hp : Prep ra s tag t ra') (hloc : ∀ r, s = .loc r → ra.alloc r = true) (hsz : ra'.max < regs.size)
    (hpool : ∀ kc, s = .const kc → cidx kc < 65536 ∧
      (kc.pooled = true → (p.defs.getD f0.defIdx default).consts.getD (cidx kc) .nil = litOf V kc))
    (hcode : CodeAt (p.defs.getD f0.defIdx default).code pc ((ldOf cidx s t).map CI.mi)) :
    Runs p f0 rest pc ((ldOf cidx s t).map CI.mi).length regs args w (ldRegs V regs s t) args w ∧
    Keeps ra.alloc regs (ldRegs V regs s t) ∧ (ldRegs V regs s t).getD t .nil = slotValS V regs s ∧
    ra'.alloc t = true ∧ (∀ j, ra.alloc j = true → ra'.alloc j = true) := by
  have hmono : ∀ j, ra.alloc j = true → ra'.alloc j = true := by
    intro j hj; rw [hp.alloc j]; split
    · rfl
    · exact hj
  have ht := hp.lt
  rcases hs with ⟨kc, rfl⟩ | ⟨r, rfl, _⟩
  · have hm := hp.maxge rfl
    obtain ⟨hi, hc⟩ := hpool kc rfl
    refine ⟨Runs.step (run_ldk p f0 rest { regs := regs, pc := pc, args := args, w := w } t kc (cidx kc) V (by omega) hi hcode.head hc),
      Keeps.set regs _ (hp.free rfl), getD_set_eq _ _ _ (by omega), ?_, hmono⟩
    rw [hp.alloc t]; simp [isC]
  · have e := hp.loc r rfl
    subst e
    exact ⟨Runs.nil _ _ _ _, Keeps.refl _ _, rfl, hmono _ (hloc _ rfl), hmono⟩

theorem run_push2 (regs : Array Value) (pc : Nat) (args : Array Value) (w : World) (a e : Nat) (ha : a < 256) (he : e < 65536)
    (hcode : (p.defs.getD f0.defIdx default).code[pc]? = some (CI.mi (.pay Op.push2.toNat .ss false [a, e] 0)).word) :
    step p (inj f0 rest { regs := regs, pc := pc, args := args, w := w }) =
      .next (inj f0 rest { regs := regs, pc := pc + 1, args := (args.push (regs.getD a .nil)).push (regs.getD e .nil), w := w }) := by
  have h := step_push2 p (inj f0 rest { regs := regs, pc := pc, args := args, w := w }) a e ha he (by rw [inj_curDef, inj_pc]; exact hcode)
  rw [h]
  rfl

theorem run_push3 (regs : Array Value) (pc : Nat) (args : Array Value) (w : World) (a b c : Nat) (ha : a < 256) (hb : b < 256) (hc : c < 256)
    (hcode : (p.defs.getD f0.defIdx default).code[pc]? = some (CI.mi (.pay Op.push3.toNat .sss false [a, b, c] 0)).word) :
    step p (inj f0 rest { regs := regs, pc := pc, args := args, w := w }) =
      .next (inj f0 rest { regs := regs, pc := pc + 1, args := ((args.push (regs.getD a .nil)).push (regs.getD b .nil)).push (regs.getD c .nil), w := w }) := by
  have h := step_push3 p (inj f0 rest { regs := regs, pc := pc, args := args, w := w }) a b c ha hb hc (by rw [inj_curDef, inj_pc]; exact hcode)
  rw [h]
  rfl

/-- `c3` is `c` after an emit call that pushes the operand slots `sls` — allocator restored, pool and code appended —, and from any
    configuration at that code the VM appends their values to the pending arguments -/
def Pushed (c c3 : CState) (sc : Scope) (rs : List Scope) (pool : List KConst) (ps : List (List KConst)) (sls : List JSlot) : Prop :=
  ∃ (ra3 : RA) (more : List KConst) (seg : List CI) (segm : List Pos),
    c3 = { c with scopes := { sc with ra := ra3 } :: rs, pools := (pool ++ more) :: ps, buf := c.buf ++ seg, map := c.map ++ segm } ∧
    (∀ j, ra3.alloc j = sc.ra.alloc j) ∧ sc.ra.max ≤ ra3.max ∧
    ∀ (k : Cfg), CodeAt (p.defs.getD f0.defIdx default).code k.pc seg → PrefL (pool ++ more) P → ra3.max < k.regs.size →
      ∃ (regs' A : Array Value), Runs p f0 rest k.pc seg.length k.regs k.args k.w regs' A k.w ∧
        A.toList = k.args.toList ++ sls.map (slotVal V k.regs) ∧ Keeps sc.ra.alloc k.regs regs'

/-- `janetc_emit_s(c, op, a, 0)` on the compiler state: the register `r0` of the operand (`Prep`), its load, the payload -/
theorem emitS_sk (c c3 : CState) (op : Op) (s1 : JSlot) (sc : Scope) (rs : List Scope) (pool : List KConst) (ps : List (List KConst))
    (hs : c.scopes = sc :: rs) (hp : c.pools = pool :: ps) (hl : c.lim ≤ 240) (k1 : SK s1) (h : emitS c op s1 false = some c3) :
    ∃ (r0 : Nat) (ra1 ra3 : RA) (poolF more : List KConst),
      (W.slotConst s1.k).foldl W.intern pool = poolF ∧ pool ++ more = poolF ∧ Prep sc.ra s1.k 0 r0 ra1 ∧ ra3.max = ra1.max ∧
      (∀ j, ra3.alloc j = sc.ra.alloc j) ∧ ra3.max < c.lim ∧
      c3 = { c with scopes := { sc with ra := ra3 } :: rs, pools := (pool ++ more) :: ps,
                    buf := c.buf ++ ((ldOf (W.poolIdx poolF) s1.k r0).map CI.mi ++ [CI.mi (.pay op.toNat .s false [r0] 0)]),
                    map := c.map ++ List.replicate (((ldOf (W.poolIdx poolF) s1.k r0).map CI.mi).length + 1) c.cur } := by
  unfold emitS at h
  obtain ⟨hmax, hc3⟩ := emitW_spec c c3 _ sc rs pool ps hs hp h
  obtain ⟨t0, fr, r0, ra1, e0⟩ : ∃ t0 fr r0 ra1, W.farTemp sc.ra s1.k 0 = (t0, fr, r0, ra1) := ⟨_, _, _, _, rfl⟩
  obtain ⟨poolF, hF⟩ : ∃ poolF, (W.slotConst s1.k).foldl W.intern pool = poolF := ⟨_, rfl⟩
  rw [W_emitS_eq sc.ra pool op.toNat s1.k t0 fr r0 ra1 poolF e0 hF] at hmax hc3
  obtain ⟨p0, q0⟩ := farTemp_prep (W.poolIdx poolF) sc.ra ra1 s1.k 0 t0 fr r0 k1 e0 (by simp only [freeNear_max] at hmax; omega)
  obtain ⟨more, hmore⟩ : PrefL pool poolF := by rw [← hF]; exact foldl_intern_pref _ _
  have hpure := emitS_pure (W.poolIdx poolF) op.toNat s1.k t0 fr r0 q0
  have hlen := congrArg List.length hpure
  simp only [List.length_map] at hlen
  refine ⟨r0, ra1, W.freeNear ra1 s1.k r0 0, poolF, more, hF, hmore.symm, p0, freeNear_max _ _ _ _, ?_, hmax, ?_⟩
  · intro j
    rw [p0.rel, p0.alloc]
    by_cases e : isC s1.k = true ∧ j = r0
    · rw [if_pos e, e.2]; exact (p0.free e.1).symm
    · rw [if_neg e, if_neg e]
  · rw [hc3, ← hmore, hpure, List.map_const', hlen]
    simp only [List.length_append, List.length_map, List.length_cons, List.length_nil]

/-- `janetc_emit_s(c, op, constant, 0)`: one temporary that was free, a load and the payload; allocator restored; the constant
    interned -/
theorem emitS_const (c c' : CState) (op : Op) (s : JSlot) (k : KConst) (hk : s.k = .const k)
    (sc : Scope) (rs : List Scope) (pool : List KConst) (ps : List (List KConst))
    (hs : c.scopes = sc :: rs) (hp : c.pools = pool :: ps) (hl : c.lim ≤ 240) (h : emitS c op s false = some c') :
    ∃ t ra', sc.ra.alloc t = false ∧ t ≤ ra'.max ∧ t < 240 ∧ sc.ra.max ≤ ra'.max ∧ ra'.max < c.lim ∧ (∀ j, ra'.alloc j = sc.ra.alloc j) ∧
      c' = { c with scopes := { sc with ra := ra' } :: rs, pools := (if k.pooled then W.intern pool k else pool) :: ps,
                    buf := c.buf ++ [CI.mi (.ldk t k (W.poolIdx (if k.pooled then W.intern pool k else pool) k)), CI.mi (.pay op.toNat .s false [t] 0)],
                    map := c.map ++ [c.cur, c.cur] } := by
  obtain ⟨t, ra1, ra', poolF, more, hF, hmore, p0, hm, hal, hlim, hc'⟩ :=
    emitS_sk c c' op s sc rs pool ps hs hp hl (Or.inl ⟨k, hk⟩) h
  rw [hk] at hF hc' p0
  rw [slotConst_const] at hF
  rw [hmore, ← hF] at hc'
  exact ⟨t, ra', p0.free rfl, by rw [hm]; exact p0.maxge rfl, p0.lt, by rw [hm]; exact p0.mono, hlim, hal, hc'⟩

/-- `janetc_emit_s(c, JOP_PUSH, a, 0)` -/
theorem push1 (hP : P.length < 65536)
    (hK : ∀ i, i < P.length → (p.defs.getD f0.defIdx default).consts.getD i .nil = litOf V (P.getD i .nil))
    (c c3 : CState) (s1 : JSlot) (sc : Scope) (rs : List Scope) (pool : List KConst) (ps : List (List KConst))
    (hs : c.scopes = sc :: rs) (hp : c.pools = pool :: ps) (hl : c.lim ≤ 240) (k1 : SK s1)
    (l1 : ∀ r, s1.k = .loc r → sc.ra.alloc r = true) (h : emitS c .push s1 false = some c3) :
    Pushed p f0 rest V P c c3 sc rs pool ps [s1] := by
  obtain ⟨r0, ra1, ra3, poolF, more, hF, hmore, p0, hm, hal, _, hc3⟩ := emitS_sk c c3 .push s1 sc rs pool ps hs hp hl k1 h
  refine ⟨ra3, more, _, _, hc3, hal, by rw [hm]; exact p0.mono, ?_⟩
  intro k hcode hpre hsz
  rw [hmore] at hpre
  obtain ⟨R0, K0, g0, _, _⟩ := operand_run p f0 rest V k.regs k.pc k.args k.w sc.ra ra1 s1.k 0 r0 (W.poolIdx poolF) k1 p0 l1 (by omega)
    (pool_ok_foldl p f0 V P hP hK _ pool poolF hF hpre s1.k (fun _ h => h)) hcode.left
  have S := run_push p f0 rest { regs := ldRegs V k.regs s1.k r0, pc := _, args := k.args, w := k.w } r0 (by have := p0.lt; omega)
    hcode.right.head
  refine ⟨_, k.args.push ((ldRegs V k.regs s1.k r0).getD r0 .nil), ?_, ?_, K0⟩
  · rw [List.length_append]
    exact R0.seq (Runs.step S)
  · simp only [g0, slotVal_eq, Array.toList_push, List.map_cons, List.map_nil]

/-- `janetc_emit_sss(c, JOP_PUSH_3, a, b, d, 0)` -/
theorem push3 (hP : P.length < 65536)
    (hK : ∀ i, i < P.length → (p.defs.getD f0.defIdx default).consts.getD i .nil = litOf V (P.getD i .nil))
    (c c3 : CState) (s1 s2 s3 : JSlot) (sc : Scope) (rs : List Scope) (pool : List KConst) (ps : List (List KConst))
    (hs : c.scopes = sc :: rs) (hp : c.pools = pool :: ps) (hl : c.lim ≤ 240)
    (k1 : SK s1) (k2 : SK s2) (k3 : SK s3)
    (l1 : ∀ r, s1.k = .loc r → sc.ra.alloc r = true) (l2 : ∀ r, s2.k = .loc r → sc.ra.alloc r = true)
    (l3 : ∀ r, s3.k = .loc r → sc.ra.alloc r = true)
    (h : emitSSS c .push3 s1 s2 s3 false = some c3) :
    Pushed p f0 rest V P c c3 sc rs pool ps [s1, s2, s3] := by
  unfold emitSSS at h
  obtain ⟨hmax, hc3⟩ := emitW_spec c c3 _ sc rs pool ps hs hp h
  obtain ⟨t0, ra1, e0⟩ : ∃ t0 ra1, W.nearTemp sc.ra s1.k 0 = (t0, ra1) := ⟨_, _, rfl⟩
  obtain ⟨t1, ra2, e1⟩ : ∃ t1 ra2, W.nearTemp ra1 s2.k 1 = (t1, ra2) := ⟨_, _, rfl⟩
  obtain ⟨t2, ra3, e2⟩ : ∃ t2 ra3, W.nearTemp ra2 s3.k 2 = (t2, ra3) := ⟨_, _, rfl⟩
  obtain ⟨poolF, hF⟩ : ∃ poolF, (W.slotConst s1.k ++ W.slotConst s2.k ++ W.slotConst s3.k).foldl W.intern pool = poolF := ⟨_, rfl⟩
  rw [W_emitSSS_eq sc.ra pool Op.push3.toNat s1.k s2.k s3.k t0 ra1 t1 ra2 t2 ra3 poolF e0 e1 e2 hF] at hmax hc3
  simp only [freeNear_max] at hmax
  have m1 : ra1.max ≤ ra2.max := by have := nearTemp_max_mono ra1 s2.k 1; rw [e1] at this; exact this
  have m2 : ra2.max ≤ ra3.max := by have := nearTemp_max_mono ra2 s3.k 2; rw [e2] at this; exact this
  obtain ⟨p0, r0⟩ := nearTemp_prep (W.poolIdx poolF) sc.ra ra1 s1.k 0 t0 k1 e0 (by omega)
  obtain ⟨p1, r1⟩ := nearTemp_prep (W.poolIdx poolF) ra1 ra2 s2.k 1 t1 k2 e1 (by omega)
  obtain ⟨p2, r2⟩ := nearTemp_prep (W.poolIdx poolF) ra2 ra3 s3.k 2 t2 k3 e2 (by omega)
  obtain ⟨more, hmore⟩ : PrefL pool poolF := by rw [← hF]; exact foldl_intern_pref _ _
  have hpure := emitSSS_pure (W.poolIdx poolF) Op.push3.toNat s1.k s2.k s3.k t0 t1 t2 r0 r1 r2
  refine ⟨W.freeNear (W.freeNear (W.freeNear ra3 s2.k t1 1) s3.k t2 2) s1.k t0 0, more,
    (Emit.emitSSS (W.poolIdx poolF) Op.push3.toNat false s1.k s2.k s3.k t0 t1 t2 0).map CI.mi,
    (Emit.emitSSS (W.poolIdx poolF) Op.push3.toNat false s1.k s2.k s3.k t0 t1 t2 0).map (fun _ => c.cur), ?_,
    net3 sc.ra.alloc ra1.alloc ra2.alloc ra3.alloc _ _ _ (isC s1.k) (isC s2.k) (isC s3.k) t0 t1 t2
      p0.alloc p0.free p1.alloc p1.free p2.alloc p2.free (p1.rel ra3) (p2.rel _) (p0.rel _), ?_, ?_⟩
  · rw [← hmore]; exact hc3
  · simp only [freeNear_max]; have := p0.mono; omega
  · intro k hcode hpre hsz
    simp only [freeNear_max] at hsz
    rw [← hmore] at hpre
    rw [hpure] at hcode
    have hpl := pool_ok_foldl p f0 V P hP hK _ pool poolF hF hpre
    obtain ⟨R0, K0, g0, al0, mo0⟩ := operand_run p f0 rest V k.regs k.pc k.args k.w sc.ra ra1 s1.k 0 t0 (W.poolIdx poolF) k1 p0 l1 (by omega)
      (hpl s1.k (fun _ h => by simp [h])) hcode.left
    obtain ⟨R1, K1, g1, al1, mo1⟩ := operand_run p f0 rest V (ldRegs V k.regs s1.k t0) _ k.args k.w ra1 ra2 s2.k 1 t1 (W.poolIdx poolF) k2 p1
      (fun r hr => mo0 r (l2 r hr)) (by rw [K0.1]; omega) (hpl s2.k (fun _ h => by simp [h])) hcode.right.left
    obtain ⟨R2, K2, g2, _, _⟩ := operand_run p f0 rest V (ldRegs V (ldRegs V k.regs s1.k t0) s2.k t1) _ k.args k.w ra2 ra3 s3.k 2 t2
      (W.poolIdx poolF) k3 p2 (fun r hr => mo1 r (mo0 r (l3 r hr))) (by rw [K1.1, K0.1]; omega) (hpl s3.k (fun _ h => by simp [h]))
      hcode.right.right.left
    have S := run_push3 p f0 rest (ldRegs V (ldRegs V (ldRegs V k.regs s1.k t0) s2.k t1) s3.k t2) _ k.args k.w t0 t1 t2
      (by have := p0.lt; omega) (by have := p1.lt; omega) (by have := p2.lt; omega) hcode.right.right.right.head
    have v0 : (ldRegs V (ldRegs V (ldRegs V k.regs s1.k t0) s2.k t1) s3.k t2).getD t0 .nil = slotVal V k.regs s1 := by
      rw [K2.2 t0 (mo1 t0 al0), K1.2 t0 al0, g0]; rfl
    have v1 : (ldRegs V (ldRegs V (ldRegs V k.regs s1.k t0) s2.k t1) s3.k t2).getD t1 .nil = slotVal V k.regs s2 := by
      rw [K2.2 t1 al1, g1]
      exact slotValS_frame V _ _ _ (fun r hr => K0.2 r (l2 r hr))
    have v2 : (ldRegs V (ldRegs V (ldRegs V k.regs s1.k t0) s2.k t1) s3.k t2).getD t2 .nil = slotVal V k.regs s3 := by
      rw [g2]
      exact slotValS_frame V _ _ _ (fun r hr => by rw [K1.2 r (mo0 r (l3 r hr)), K0.2 r (l3 r hr)])
    rw [v0, v1, v2] at S
    refine ⟨_, ((k.args.push (slotVal V k.regs s1)).push (slotVal V k.regs s2)).push (slotVal V k.regs s3), ?_, ?_,
      (K0.trans K1 mo0).trans K2 (fun r hr => mo1 r (mo0 r hr))⟩
    · rw [hpure, List.length_append, List.length_append, List.length_append]
      exact R0.seq (R1.seq (R2.seq (Runs.step S)))
    · simp

/-- `janetc_emit_ss(c, JOP_PUSH_2, a, b, 0)`: as `push3`, the second operand through `janetc_regfar` -/
theorem push2 (hP : P.length < 65536)
    (hK : ∀ i, i < P.length → (p.defs.getD f0.defIdx default).consts.getD i .nil = litOf V (P.getD i .nil))
    (c c3 : CState) (s1 s2 : JSlot) (sc : Scope) (rs : List Scope) (pool : List KConst) (ps : List (List KConst))
    (hs : c.scopes = sc :: rs) (hp : c.pools = pool :: ps) (hl : c.lim ≤ 240)
    (k1 : SK s1) (k2 : SK s2)
    (l1 : ∀ r, s1.k = .loc r → sc.ra.alloc r = true) (l2 : ∀ r, s2.k = .loc r → sc.ra.alloc r = true)
    (h : emitSS c .push2 s1 s2 false = some c3) :
    Pushed p f0 rest V P c c3 sc rs pool ps [s1, s2] := by
  unfold emitSS at h
  obtain ⟨hmax, hc3⟩ := emitW_spec c c3 _ sc rs pool ps hs hp h
  obtain ⟨t0, ra1, e0⟩ : ∃ t0 ra1, W.nearTemp sc.ra s1.k 0 = (t0, ra1) := ⟨_, _, rfl⟩
  obtain ⟨t1, fr, r2, ra2, e1⟩ : ∃ t1 fr r2 ra2, W.farTemp ra1 s2.k 1 = (t1, fr, r2, ra2) := ⟨_, _, _, _, rfl⟩
  obtain ⟨poolF, hF⟩ : ∃ poolF, (W.slotConst s1.k ++ W.slotConst s2.k).foldl W.intern pool = poolF := ⟨_, rfl⟩
  rw [W_emitSS_eq sc.ra pool Op.push2.toNat false s1.k s2.k t0 ra1 t1 fr r2 ra2 poolF k1 e0 e1 hF] at hmax hc3
  simp only [freeNear_max] at hmax
  obtain ⟨p1, r1⟩ := farTemp_prep (W.poolIdx poolF) ra1 ra2 s2.k 1 t1 fr r2 k2 e1 (by omega)
  have m1 : ra1.max ≤ ra2.max := p1.mono
  obtain ⟨p0, r0⟩ := nearTemp_prep (W.poolIdx poolF) sc.ra ra1 s1.k 0 t0 k1 e0 (by omega)
  obtain ⟨more, hmore⟩ : PrefL pool poolF := by rw [← hF]; exact foldl_intern_pref _ _
  have hpure := emitSS_pure (W.poolIdx poolF) Op.push2.toNat false s1.k s2.k t0 t1 fr r2 r0 r1 rfl
  refine ⟨W.freeNear (W.freeNear ra2 s2.k r2 1) s1.k t0 0, more,
    (Emit.emitSS (W.poolIdx poolF) Op.push2.toNat false s1.k s2.k t0 t1 fr 0).map CI.mi,
    (Emit.emitSS (W.poolIdx poolF) Op.push2.toNat false s1.k s2.k t0 t1 fr 0).map (fun _ => c.cur), ?_,
    net2 sc.ra.alloc ra1.alloc ra2.alloc _ _ (isC s1.k) (isC s2.k) t0 r2 p0.alloc p0.free p1.alloc p1.free (p1.rel ra2) (p0.rel _), ?_, ?_⟩
  · rw [← hmore]; exact hc3
  · simp only [freeNear_max]; have := p0.mono; omega
  · intro k hcode hpre hsz
    simp only [freeNear_max] at hsz
    rw [← hmore] at hpre
    rw [hpure] at hcode
    have hpl := pool_ok_foldl p f0 V P hP hK _ pool poolF hF hpre
    obtain ⟨R0, K0, g0, al0, mo0⟩ := operand_run p f0 rest V k.regs k.pc k.args k.w sc.ra ra1 s1.k 0 t0 (W.poolIdx poolF) k1 p0 l1 (by omega)
      (hpl s1.k (fun _ h => by simp [h])) hcode.left
    obtain ⟨R1, K1, g1, _, _⟩ := operand_run p f0 rest V (ldRegs V k.regs s1.k t0) _ k.args k.w ra1 ra2 s2.k 1 r2 (W.poolIdx poolF) k2 p1
      (fun r hr => mo0 r (l2 r hr)) (by rw [K0.1]; omega) (hpl s2.k (fun _ h => by simp [h])) hcode.right.left
    have S := run_push2 p f0 rest (ldRegs V (ldRegs V k.regs s1.k t0) s2.k r2) _ k.args k.w t0 r2
      (by have := p0.lt; omega) (by have := p1.lt; omega) hcode.right.right.head
    have v0 : (ldRegs V (ldRegs V k.regs s1.k t0) s2.k r2).getD t0 .nil = slotVal V k.regs s1 := by
      rw [K1.2 t0 al0, g0]; rfl
    have v1 : (ldRegs V (ldRegs V k.regs s1.k t0) s2.k r2).getD r2 .nil = slotVal V k.regs s2 := by
      rw [g1]
      exact slotValS_frame V _ _ _ (fun r hr => K0.2 r (l2 r hr))
    rw [v0, v1] at S
    refine ⟨_, (k.args.push (slotVal V k.regs s1)).push (slotVal V k.regs s2), ?_, ?_, K0.trans K1 mo0⟩
    · rw [hpure, List.length_append, List.length_append]
      exact R0.seq (R1.seq (Runs.step S))
    · simp

/-- `janetc_pushslots` -/
theorem pushN (hP : P.length < 65536)
    (hK : ∀ i, i < P.length → (p.defs.getD f0.defIdx default).consts.getD i .nil = litOf V (P.getD i .nil)) :
    ∀ (slots : List JSlot) (c c3 : CState) (sc : Scope) (rs : List Scope) (pool : List KConst) (ps : List (List KConst)),
      c.scopes = sc :: rs → c.pools = pool :: ps → c.lim ≤ 240 →
      (∀ sl, sl ∈ slots → SK sl) → (∀ sl r, sl ∈ slots → sl.k = .loc r → sc.ra.alloc r = true) →
      pushSlots c slots = some c3 → Pushed p f0 rest V P c c3 sc rs pool ps slots
  | [], c, c3, sc, rs, pool, ps, hs, hp, _, _, _, h => by
    have e : c = c3 := by simpa [pushSlots] using h
    refine ⟨sc.ra, [], [], [], ?_, fun _ => rfl, Nat.le_refl _, fun k _ _ _ => ⟨k.regs, k.args, Runs.nil _ _ _ _, by simp, Keeps.refl _ _⟩⟩
    rw [← e]
    cases c
    simp only at hs hp
    subst hs hp
    simp
  | [a], c, c3, sc, rs, pool, ps, hs, hp, hl, hsk, hloc, h =>
    push1 p f0 rest V P hP hK c c3 a sc rs pool ps hs hp hl (hsk a (by simp)) (fun r hr => hloc a r (by simp) hr) h
  | [a, b], c, c3, sc, rs, pool, ps, hs, hp, hl, hsk, hloc, h =>
    push2 p f0 rest V P hP hK c c3 a b sc rs pool ps hs hp hl (hsk a (by simp)) (hsk b (by simp))
      (fun r hr => hloc a r (by simp) hr) (fun r hr => hloc b r (by simp) hr) h
  | a :: b :: d :: tl, c, c3, sc, rs, pool, ps, hs, hp, hl, hsk, hloc, h => by
    have h' : (emitSSS c .push3 a b d false).bind (fun c' => pushSlots c' tl) = some c3 := h
    obtain ⟨c', hE, hT⟩ := Option.bind_eq_some_iff.mp h'
    obtain ⟨ra1, more1, seg1, segm1, q1, q2, q3, q5⟩ :=
      push3 p f0 rest V P hP hK c c' a b d sc rs pool ps hs hp hl (hsk a (by simp)) (hsk b (by simp)) (hsk d (by simp))
        (fun r hr => hloc a r (by simp) hr) (fun r hr => hloc b r (by simp) hr) (fun r hr => hloc d r (by simp) hr) hE
    obtain ⟨ra3, more2, seg2, segm2, w1, w2, w3, w5⟩ :=
      pushN hP hK tl c' c3 { sc with ra := ra1 } rs (pool ++ more1) ps (by rw [q1]) (by rw [q1]) (by rw [q1]; exact hl)
        (fun sl hm => hsk sl (by simp [hm]))
        (fun sl r hm hr => by rw [q2 r]; exact hloc sl r (by simp [hm]) hr) hT
    refine ⟨ra3, more1 ++ more2, seg1 ++ seg2, segm1 ++ segm2, ?_, fun j => (w2 j).trans (q2 j), Nat.le_trans q3 w3, ?_⟩
    · rw [w1, q1]; simp only [List.append_assoc]
    · intro k hcode hpre hsz
      have w3' : ra1.max ≤ ra3.max := w3
      rw [← List.append_assoc] at hpre
      obtain ⟨regs1, A1, hR1, hA1, K1⟩ := q5 k hcode.left ((PrefL.app _ more2).trans hpre) (by omega)
      obtain ⟨regs2, A, hR2, hA, K2⟩ := w5 { regs := regs1, pc := k.pc + seg1.length, args := A1, w := k.w } hcode.right hpre
        (by rw [K1.1]; exact hsz)
      refine ⟨regs2, A, ?_, ?_, K1.trans K2 (fun r hr => (q2 r).trans hr)⟩
      · rw [List.length_append]; exact hR1.seq hR2
      · have hmap : tl.map (slotVal V regs1) = tl.map (slotVal V k.regs) :=
          List.map_congr_left (fun sl hm => slotVal_frame V k.regs regs1 sl sc.ra (fun r hr => hloc sl r (by simp [hm]) hr) K1.2)
        rw [hA, hA1, hmap]
        simp only [List.map_cons, List.map_nil, List.append_assoc, List.cons_append, List.nil_append]

/-- `janetc_emit_ss(c, JOP_CALL, near local d, callee, 1)` with the callee a constant or a near local, up to the CALL instruction:
    the callee's load runs, and the step of the CALL is `callStep` — the value and the error outcome are both read off it -/
theorem call_sk (hP : P.length < 65536)
    (hK : ∀ i, i < P.length → (p.defs.getD f0.defIdx default).consts.getD i .nil = litOf V (P.getD i .nil))
    (c c4 : CState) (tg head : JSlot) (d : Nat) (f : String)
    (sc : Scope) (rs : List Scope) (pool : List KConst) (ps : List (List KConst))
    (hs : c.scopes = sc :: rs) (hp : c.pools = pool :: ps) (hl : c.lim ≤ 240)
    (hk : tg.k = .loc d) (hd : d < 240) (hhead : SK head) (lh : ∀ r, head.k = .loc r → sc.ra.alloc r = true)
    (hE : emitSS c .call tg head true = some c4) :
    ∃ (t' : Nat) (ra4 : RA) (more : List KConst) (cidx : KConst → Nat),
      c4 = { c with scopes := { sc with ra := ra4 } :: rs, pools := (pool ++ more) :: ps,
                    buf := c.buf ++ ((ldOf cidx head.k t').map CI.mi ++ [CI.mi (.pay Op.call.toNat .ss true [d, t'] 0)]),
                    map := c.map ++ List.replicate (((ldOf cidx head.k t').map CI.mi).length + 1) c.cur } ∧
      (∀ j, ra4.alloc j = sc.ra.alloc j) ∧ sc.ra.max ≤ ra4.max ∧ ra4.max < c.lim ∧ (isC head.k = true → sc.ra.alloc t' = false) ∧
      ∀ (k : Cfg), CodeAt (p.defs.getD f0.defIdx default).code k.pc
          ((ldOf cidx head.k t').map CI.mi ++ [CI.mi (.pay Op.call.toNat .ss true [d, t'] 0)]) →
        PrefL (pool ++ more) P → ra4.max < k.regs.size → slotVal V k.regs head = .cfun f →
        Runs p f0 rest k.pc ((ldOf cidx head.k t').map CI.mi).length k.regs k.args k.w (ldRegs V k.regs head.k t') k.args k.w ∧
        Keeps sc.ra.alloc k.regs (ldRegs V k.regs head.k t') ∧
        step p (inj f0 rest { regs := ldRegs V k.regs head.k t', pc := k.pc + ((ldOf cidx head.k t').map CI.mi).length, args := k.args, w := k.w }) =
          callStep p f0 rest f d { regs := ldRegs V k.regs head.k t', pc := k.pc + ((ldOf cidx head.k t').map CI.mi).length, args := k.args, w := k.w } := by
  have kt : SKs tg.k := Or.inr ⟨d, hk, hd⟩
  unfold emitSS at hE
  obtain ⟨hmax, hc4⟩ := emitW_spec c c4 _ sc rs pool ps hs hp hE
  obtain ⟨t0, ra1, e0⟩ : ∃ t0 ra1, W.nearTemp sc.ra tg.k 0 = (t0, ra1) := ⟨_, _, rfl⟩
  obtain ⟨t1, fr, t', ra2, e1⟩ : ∃ t1 fr r2 ra2, W.farTemp ra1 head.k 1 = (t1, fr, r2, ra2) := ⟨_, _, _, _, rfl⟩
  obtain ⟨poolF, hF⟩ : ∃ poolF, (W.slotConst tg.k ++ W.slotConst head.k).foldl W.intern pool = poolF := ⟨_, rfl⟩
  rw [W_emitSS_eq sc.ra pool Op.call.toNat true tg.k head.k t0 ra1 t1 fr t' ra2 poolF kt e0 e1 hF] at hmax hc4
  simp only [freeNear_max] at hmax
  obtain ⟨p1, r1⟩ := farTemp_prep (W.poolIdx poolF) ra1 ra2 head.k 1 t1 fr t' hhead e1 (by omega)
  obtain ⟨p0, r0⟩ := nearTemp_prep (W.poolIdx poolF) sc.ra ra1 tg.k 0 t0 kt e0 (by have := p1.mono; omega)
  obtain rfl : t0 = d := p0.loc d hk
  have ea : ∀ j, ra1.alloc j = sc.ra.alloc j := fun j => by rw [p0.alloc j, hk]; simp [isC]
  obtain ⟨more, hmore⟩ : PrefL pool poolF := by rw [← hF]; exact foldl_intern_pref _ _
  have hpure := emitSS_pure (W.poolIdx poolF) Op.call.toNat true tg.k head.k t0 t1 fr t' r0 r1 (by rw [hk]; simp [wb, moveback])
  have hl0 : ldOf (W.poolIdx poolF) tg.k t0 = [] := by rw [hk]; rfl
  rw [hl0, List.map_nil, List.nil_append] at hpure
  have hlen := congrArg List.length hpure
  simp only [List.length_map] at hlen
  refine ⟨t', W.freeNear (W.freeNear ra2 head.k t' 1) tg.k t0 0, more, W.poolIdx poolF, ?_,
    net2 sc.ra.alloc ra1.alloc ra2.alloc _ _ (isC tg.k) (isC head.k) t0 t' p0.alloc p0.free p1.alloc p1.free (p1.rel ra2) (p0.rel _),
    ?_, ?_, fun hc => by rw [← ea]; exact p1.free hc, ?_⟩
  · rw [hc4, ← hmore, hpure, List.map_const', hlen]
    simp only [List.length_append, List.length_map, List.length_cons, List.length_nil]
  · simp only [freeNear_max]; have := p0.mono; have := p1.mono; omega
  · simp only [freeNear_max]; exact hmax
  · intro k hcode hpre hsz hval
    simp only [freeNear_max] at hsz
    rw [← hmore] at hpre
    obtain ⟨R, K, g, _, _⟩ := operand_run p f0 rest V k.regs k.pc k.args k.w ra1 ra2 head.k 1 t' (W.poolIdx poolF) hhead p1
      (fun r hr => by rw [ea]; exact lh r hr) hsz
      (pool_ok_foldl p f0 V P hP hK _ pool poolF hF hpre head.k (fun _ h => by simp [h])) hcode.left
    refine ⟨R, ⟨K.1, fun r hr => K.2 r (by rw [ea]; exact hr)⟩, ?_⟩
    exact step_callStep p f0 rest f t0 t' _ (by omega) (by have := p1.lt; omega) hcode.right.head (by rw [g, ← slotVal_eq]; exact hval)

/-- `call_sk` for a constant callee -/
theorem call_at (hP : P.length < 65536)
    (hK : ∀ i, i < P.length → (p.defs.getD f0.defIdx default).consts.getD i .nil = litOf V (P.getD i .nil))
    (c c4 : CState) (tg head : JSlot) (d : Nat) (kf : KConst) (f : String)
    (sc : Scope) (rs : List Scope) (pool : List KConst) (ps : List (List KConst))
    (hs : c.scopes = sc :: rs) (hp : c.pools = pool :: ps) (hl : c.lim ≤ 240)
    (hk : tg.k = .loc d) (hd : d < 240) (hhead : head.k = .const kf)
    (hE : emitSS c .call tg head true = some c4) :
    ∃ (t' : Nat) (ra4 : RA) (more : List KConst) (seg : List CI),
      c4 = { c with scopes := { sc with ra := ra4 } :: rs, pools := (pool ++ more) :: ps, buf := c.buf ++ seg, map := c.map ++ [c.cur, c.cur] } ∧
      seg.length = 2 ∧ (∀ j, ra4.alloc j = sc.ra.alloc j) ∧ sc.ra.max ≤ ra4.max ∧ ra4.max < c.lim ∧ sc.ra.alloc t' = false ∧
      ∀ (k : Cfg), CodeAt (p.defs.getD f0.defIdx default).code k.pc seg → PrefL (pool ++ more) P → ra4.max < k.regs.size →
        litOf V kf = .cfun f →
        Reach p (inj f0 rest k) (inj f0 rest { k with regs := k.regs.setIfInBounds t' (.cfun f), pc := k.pc + 1 }) ∧
        step p (inj f0 rest { k with regs := k.regs.setIfInBounds t' (.cfun f), pc := k.pc + 1 }) =
          callStep p f0 rest f d { k with regs := k.regs.setIfInBounds t' (.cfun f), pc := k.pc + 1 } := by
  obtain ⟨t', ra4, more, cidx, hc4, a6, a4, a5, a1, vm⟩ :=
    call_sk p f0 rest V P hP hK c c4 tg head d f sc rs pool ps hs hp hl hk hd (Or.inl ⟨kf, hhead⟩)
      (fun r hr => by rw [hhead] at hr; cases hr) hE
  rw [hhead] at hc4 vm a1
  refine ⟨t', ra4, more, _, hc4, rfl, a6, a4, a5, a1 rfl, ?_⟩
  intro k hcode hpre hsz hlit
  obtain ⟨R, _, hst⟩ := vm k hcode hpre hsz (by simp only [slotVal, hhead]; exact hlit)
  simp only [ldRegs, hlit] at R hst
  exact ⟨R, hst⟩

/-- target allocation + `JOP_CALL` of a core function held in a constant or a near local: compile-side effect, VM run, agreement
    with `applyFn` -/
theorem callEmit (hP : P.length < 65536)
    (hK : ∀ i, i < P.length → (p.defs.getD f0.defIdx default).consts.getD i .nil = litOf V (P.getD i .nil))
    (c cT c4 : CState) (t head : JSlot) (f : String) (hna : f ≠ "apply")
    (sc : Scope) (rs : List Scope) (pool : List KConst) (ps : List (List KConst))
    (hs : c.scopes = sc :: rs) (hp : c.pools = pool :: ps) (hl : c.lim ≤ 240)
    (hhead : SK head) (lh : ∀ r, head.k = .loc r → sc.ra.alloc r = true)
    (hT : getTarget c {} = some (t, cT)) (hE : emitSS cT .call t head true = some c4) :
    ∃ (d : Nat) (ra4 : RA) (more : List KConst) (seg : List CI) (segm : List Pos),
      t = { k := .loc d } ∧
      c4 = { c with scopes := { sc with ra := ra4 } :: rs, pools := (pool ++ more) :: ps, buf := c.buf ++ seg, map := c.map ++ segm } ∧
      sc.ra.alloc d = false ∧ (∀ j, ra4.alloc j = (if j = d then true else sc.ra.alloc j)) ∧ d ≤ ra4.max ∧ sc.ra.max ≤ ra4.max ∧ ra4.max < c.lim ∧
      ∀ (k : Cfg) (s s' : SS) (n : Nat) (pos : Pos) (v : Value),
        CodeAt (p.defs.getD f0.defIdx default).code k.pc seg → PrefL (pool ++ more) P → ra4.max < k.regs.size → k.w = s.st.world →
        slotVal V k.regs head = .cfun f → applyFn (n + 1) pos (.cfun f) k.args.toList s = .ok v s' →
        ∃ regs', Runs p f0 rest k.pc seg.length k.regs k.args k.w regs' #[] s'.st.world ∧ regs'.getD d .nil = v ∧
          Keeps sc.ra.alloc k.regs regs' := by
  obtain ⟨d, raT, ht, b1, b2, b3, b4, b5, hcT⟩ := getTarget_spec c cT t sc rs hs hl hT
  have hmono : ∀ r, sc.ra.alloc r = true → raT.alloc r = true := fun r hr => by rw [b5 r, hr]; split <;> rfl
  obtain ⟨t', ra4, more, cidx, hc4, a6, a4, a5, _, vm⟩ :=
    call_sk p f0 rest V P hP hK cT c4 t head d f { sc with ra := raT } rs pool ps (by rw [hcT]) (by rw [hcT]; exact hp) (by rw [hcT]; exact hl)
      (by rw [ht]) (by omega) hhead (fun r hr => hmono r (lh r hr)) hE
  have a4' : raT.max ≤ ra4.max := a4
  refine ⟨d, ra4, more, _, _, ht, by rw [hc4, hcT], b1, fun j => (a6 j).trans (b5 j), Nat.le_trans b2 a4, Nat.le_trans b4 a4,
    by rw [hcT] at a5; exact a5, ?_⟩
  intro k s s' n pos v hcode hpre hsz hw hval happ
  obtain ⟨R, K, hst⟩ := vm k hcode hpre hsz hval
  rw [callStep_ok p f0 rest f hna d
    { regs := ldRegs V k.regs head.k t', pc := k.pc + ((ldOf cidx head.k t').map CI.mi).length, args := k.args, w := k.w } s s' n pos v hw happ] at hst
  refine ⟨(ldRegs V k.regs head.k t').setIfInBounds d v, ?_, getD_set_eq _ _ _ (by rw [K.1]; omega), ?_⟩
  · rw [List.length_append]
    exact R.seq (Runs.step hst)
  · exact (K.mono hmono).trans (Keeps.set _ v b1) (fun _ h => h)

end

end JanetModel.Compile
