/- C02: `janetc_if` compiled with a hint slot, both paths: the target IS the hint (no allocation), both branches are compiled with
   the hint and deliver it, the copies into the target are no-ops. -/
import JanetModel.Compile.SeqHintCall
import JanetModel.Compile.SeqHintBase
import JanetModel.Compile.SeqIfConst
namespace JanetModel.Compile
open JanetModel.Emit JanetModel.Lang JanetModel.Bytecode.Exec JanetModel.Gen.Bytecode

section
variable (p : Program) (f0 : Frame) (rest : List Frame) (V : Array Value) (P : List KConst)

theorem branch_hint (G : String → Prop) (b : Bool) (fuel : Nat) (IHh : HintAtM p f0 rest V P G (TF G b) fuel)
    (x : Expr) (hx : TF G b x) (opts : Fopts) (ht : opts.tail = false) (hd : opts.drop = false) (h : JSlot) (rh : Nat) (hh : opts.hint = some h)
    (hk : h.k = .loc rh) (hcf : h.cflag = false) (hr : rh < 240) (n2 : Nat) (pos : Pos) (cenv envb : Env) (s1 s' : SS) (v : Value) :
    BranchRun p f0 rest V P G fuel opts opts.drop h (fun ra _ => ra.alloc rh = true ∧ rh ≤ ra.max) False pos cenv s1
      (fun x => eval n2 pos cenv x s1 = .ok (v, envb) s') (PrefA s1.boxes s'.boxes) true (fun _ => True) (fun r => r ≠ rh)
      (fun regs => regs.getD rh .nil = v) s'.st.world (fun _ => True) x := by
  intro c4 c6 c7 c8 left sc4 rs4 pool4 ps hs4 hp4 hl hm4 _ ⟨hal, hrm⟩ h1 h2 h3 hsem hE
  rw [pushScope_blk c4 sc4 rs4 false hs4] at h1
  have hlk1 : ∀ y, lk (blk c4 sc4 false :: sc4 :: rs4) y = lk c4.scopes y := by
    intro y; rw [hs4]; exact lk_push _ _ rfl rfl rfl y
  have hE1 : EnvS G (blk c4 sc4 false :: sc4 :: rs4) cenv s1.boxes.size (blk c4 sc4 false).ra :=
    hE.of_lk hlk1 (Nat.le_refl _) (fun _ _ _ _ _ _ _ h' => h')
  obtain ⟨hleft, ra6, ns6, more6, seg6, segm6, hc6, pv6, mono6, max6, bx6, es6, hlen6, vm6⟩ :=
    IHh x opts { c4 with scopes := blk c4 sc4 false :: sc4 :: rs4 } c6 left (blk c4 sc4 false) (sc4 :: rs4) pool4 ps n2 pos cenv envb s1 s' v h rh
      ht hd hh hk hcf hr hal hrm rfl hp4 hl rfl hm4 hx h1 hsem hE1
  have hs6 : c6.scopes = { blk c4 sc4 false with ra := ra6, syms := (blk c4 sc4 false).syms ++ ns6 } :: sc4 :: rs4 := by rw [hc6]
  have hp6 : c6.pools = (pool4 ++ more6) :: ps := by rw [hc6]
  have hc7 : c7 = c6 := by
    rw [hd] at h2
    simp only [ifCopy, Bool.false_eq_true, if_false] at h2
    rw [hleft] at h2
    exact copySlot_same c6 c7 h rh hk hcf hr _ (sc4 :: rs4) (pool4 ++ more6) ps hs6 hp6 h2
  rw [hc7] at h3
  obtain ⟨raX, hpop, hmaxX, _⟩ := popScope_block c6 _ sc4 rs4 hs6 rfl rfl rfl
  rw [hpop] at h3
  have hc8 := (Option.some.inj h3).symm
  refine ⟨bx6, ?_⟩
  intro seg _ pool8 sc8 hbuf _ hpool hscope k hkw hka hD hcode _ hpre hV hsz _
  have e_seg : seg = seg6 := by
    have : c8.buf = c4.buf ++ seg6 := by rw [hc8]; show c6.buf = _; rw [hc6]
    rw [this] at hbuf
    exact (List.append_cancel_left hbuf).symm
  have e_pool : pool8 = pool4 ++ more6 := by
    have : c8.pools = (pool4 ++ more6) :: ps := by rw [hc8]; exact hp6
    rw [this] at hpool
    exact (List.cons.inj hpool).1.symm
  have e_sc : sc8.ra.max = raX.max := by
    have : c8.scopes = { sc4 with ra := raX, syms := sc4.syms ++
        ((blk c4 sc4 false).syms ++ ns6).map (fun q => { q with visible := false }) } :: rs4 := by rw [hc8]
    rw [this] at hscope
    rw [← (List.cons.inj hscope).1]
  subst e_seg e_pool
  have hvals : c8.vals = c6.vals := by rw [hc8]
  rw [hvals] at hV
  have hmaxX' : raX.max = (if sc4.ra.max < ra6.max then ra6.max else sc4.ra.max) := hmaxX
  have hsz6 : ra6.max < k.regs.size := by
    rw [e_sc, hmaxX'] at hsz
    split at hsz <;> omega
  obtain ⟨regs6, rch6, sz6, pr6, hv6, _⟩ := vm6 k hkw hka (hD.of_lk hlk1) hcode hpre hV hsz6
  exact ⟨regs6, rch6, sz6, pr6, hv6⟩

theorem IfOut.hintOK {G : String → Prop} {c c' : CState} {rh : Nat} {sc : Scope} {rs : List Scope}
    {pool : List KConst} {ps : List (List KConst)} {env : Env} {s s' : SS} {v : Value}
    (hE : EnvS G c.scopes env s.boxes.size sc.ra)
    (H : IfOut p f0 V P c c' sc rs pool ps sc.ra env s (PrefA s.boxes s'.boxes) False (fun _ => True)
      (RunRes p f0 rest true (fun _ => True) sc.ra (fun r => r ≠ rh) (fun regs => regs.getD rh .nil = v) s'.st.world)) :
    HintOK p f0 rest V P G c c' rh sc rs pool ps env env s s' v := by
  obtain ⟨raX, kept, more, seg, segm, hc', pv, monoX, maxX, hlk', bx, hlen, vm⟩ := H
  refine ⟨raX, kept, more, seg, segm, hc', pv, monoX, maxX, bx, hE.of_lk hlk' bx.1 (fun _ _ _ _ r _ _ h' => monoX r h'), hlen, ?_⟩
  intro k hkw hka hD hcode hpre hV hsz
  obtain ⟨regs', rch, sz, fr, post⟩ := vm k hkw hka hD hcode (fun h => h.elim) hpre hV hsz trivial
  refine ⟨regs', rch, sz, fr, post, ?_⟩
  intro x sl u l r a hx hk' hne he
  rw [hlk'] at hx
  obtain ⟨_, _, _, r', a', hk'', he', ha, hal', _⟩ := hE.found hx
  have e1 : r' = r := by rw [hk''] at hk'; injection hk'
  have e2 : a' = a := by rw [he] at he'; exact (Option.some.inj he').symm
  subst e1 e2
  rw [fr r' hal' hne, hD x sl u l r' a' hx hk' he]
  exact (readBox_pref bx a' ha).symm

theorem if_hint (G : String → Prop) (b w : Bool) (fuel : Nat) (IH : CorrectAt p f0 rest V P G (TF G b) w fuel)
    (IHh : HintAtM p f0 rest V P G (TF G b) fuel)
    (cnd tb fb : Expr) (hTc : TF G b cnd) (hTt : TF G b tb) (hTf : TF G b fb)
    (opts : Fopts) (ht : opts.tail = false) (hd : opts.drop = false) (h : JSlot) (rh : Nat) (hh' : opts.hint = some h)
    (hk : h.k = .loc rh) (hcf : h.cflag = false) (hr : rh < 240)
    (c c' : CState) (sc : Scope) (rs : List Scope) (pool : List KConst) (ps : List (List KConst))
    (n2 : Nat) (pos : Pos) (env cenv envb : Env) (s s1 s' : SS) (cv v : Value)
    (hs : c.scopes = sc :: rs) (hp : c.pools = pool :: ps) (hl : c.lim ≤ 240) (hm : c.map.length = c.buf.length)
    (hal : sc.ra.alloc rh = true) (hrm : rh ≤ sc.ra.max)
    (c3 : CState) (cond : JSlot)
    (hcond : cValue fuel {} cnd (pushScope c false false false false) = some (cond, c3))
    (hst : IfRun fuel opts opts.drop (opts.drop && fbNilOf fb) h cond tb fb c3 c')
    (hsc : eval n2 pos env cnd s = .ok (cv, cenv) s1)
    (hct : ∀ k, isConstSlot cond = some k → truthy cv = constTruthy k)
    (hsb : eval n2 pos cenv (if truthy cv then tb else fb) s1 = .ok (v, envb) s')
    (hE : EnvS G c.scopes env s.boxes.size sc.ra) :
    HintOK p f0 rest V P G c c' rh sc rs pool ps env env s s' v :=
  IfOut.hintOK p f0 rest V P hE
    (if_any p f0 rest V P G b w fuel IH cnd tb fb hTc hTt hTf opts opts.drop (opts.drop && fbNilOf fb) h
      (fun ra _ => ra.alloc rh = true ∧ rh ≤ ra.max) _ _ _
      False (fun x => eval n2 pos cenv x s1 = .ok (v, envb) s') (PrefA s1.boxes s'.boxes) _ true (fun _ => True) s'.st.world
      (fun _ _ _ _ h1 hmono hmax _ => ⟨hmono rh h1.1, Nat.le_trans h1.2 hmax⟩)
      c c' sc rs pool ps n2 pos env cenv s s1 cv
      (fun x hx => branch_hint p f0 rest V P G b fuel IHh x hx opts ht hd h rh hh' hk hcf hr n2 pos cenv envb s1 s' v)
      hs hp hl hm (fun h => h.elim) c c3 cond sc.ra (cstate_scopes_eta c sc rs hs) (fun _ h' => h')
      (fun _ hmono hmax _ => ⟨hmono rh hal, Nat.le_trans hrm hmax⟩) hcond hst (fun _ => ht) hsc hct hsb PrefA.trans hE)

end

end JanetModel.Compile
