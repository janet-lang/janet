/- C02: what every proof about calls stands on: `Compile.cValue` on the forms of the call fragment unfolded once, name lookup
   (`lookupSlot`), `slotVal`, pool prefixes (`PrefL`), operand slot kinds (`SK`), and what the step of the call instruction does
   (`callStep`). -/
import JanetModel.Compile.Const
namespace JanetModel.Compile
open JanetModel.Emit JanetModel.Lang JanetModel.Bytecode.Exec JanetModel.Gen.Bytecode

/-- mapping cursor move of `macroexpand1` -/
def curAt (c : CState) (p : Pos) : CState := if p.line ≥ 0 then { c with cur := p } else c

def fin (last : Pos) : Option (JSlot × CState) → Option (JSlot × CState)
  | none => none
  | some (s, c1) => some (s, { c1 with cur := last })

theorem fin_inv {last : Pos} {X : Option (JSlot × CState)} {slot : JSlot} {c' : CState} (h : fin last X = some (slot, c')) :
    ∃ c1, X = some (slot, c1) ∧ c' = { c1 with cur := last } := by
  cases X with
  | none => cases h
  | some r =>
    obtain ⟨s1, c1⟩ := r
    simp only [fin, Option.some.injEq, Prod.mk.injEq] at h
    exact ⟨c1, by rw [h.1], h.2.symm⟩

theorem cValue_lit_o (fuel : Nat) (opts : Fopts) (ht : opts.tail = false) (hh : opts.hint = none) (v : Value) (hv : SimpleLit v) (c : CState) :
    cValue (fuel + 1) opts (.lit v) c = some ((constSlot c v).1, { (constSlot c v).2 with cur := c.cur }) := by
  cases v <;> simp_all [cValue, SimpleLit]

theorem cValue_sym_o (fuel : Nat) (opts : Fopts) (ht : opts.tail = false) (hh : opts.hint = none) (x : String) (c : CState) :
    cValue (fuel + 1) opts (.sym x) c = fin c.cur (resolve c x) := by
  simp only [cValue, ht, hh]
  cases resolve c x with
  | none => rfl
  | some a => cases a; rfl

theorem cCall_o (rec' : Fopts → Expr → CState → Option (JSlot × CState)) (opts : Fopts) (ht : opts.tail = false) (hh : opts.hint = none)
    (hd : Expr) (args : List Expr) (c : CState) : cCall rec' opts hd args c = cCall rec' {} hd args c := by
  simp only [cCall, ht, hh, getTarget]

theorem cCall_steps (rec' : Fopts → Expr → CState → Option (JSlot × CState)) (hd : Expr) (args : List Expr) (c0 cq : CState) (slot : JSlot)
    (h : cCall rec' {} hd args c0 = some (slot, cq)) :
    ∃ head c1 slots c2 c3 cT c4 c5, rec' {} hd c0 = some (head, c1) ∧ toSlots rec' args c1 = some (slots, c2) ∧
      pushSlots c2 slots = some c3 ∧ getTarget c3 {} = some (slot, cT) ∧ emitSS cT .call slot head true = some c4 ∧
      freeslots c4 slots = some c5 ∧ freeslot c5 head = some cq := by
  unfold cCall at h
  simp only [Option.bind_eq_bind, Option.pure_def, Bool.false_and, Bool.false_eq_true, if_false, Option.bind_eq_some_iff, Prod.exists] at h
  obtain ⟨head, c1, h1, slots, c2, h2, h⟩ := h
  simp only [Option.ite_none_left_eq_some] at h
  obtain ⟨_, h⟩ := h
  simp only [Option.bind_eq_bind, Option.bind_eq_some_iff, Prod.exists, Option.some.injEq, Prod.mk.injEq, Option.pure_def] at h
  obtain ⟨c3, h3, t, cT, hT, c4, hE, t2, c42, ⟨ht, hc4⟩, c5, hf1, c6, hf2, hs, hq⟩ := h
  subst_vars
  exact ⟨head, c1, slots, c2, c3, cT, _, c5, h1, h2, h3, hT, hE, hf1, hf2⟩

theorem cValue_call_o (fuel : Nat) (opts : Fopts) (ht : opts.tail = false) (hh : opts.hint = none) (f : String) (args : List Expr) (p : Pos)
    (c : CState) (hf : specials.contains f = false) :
    cValue (fuel + 1) opts (.form (.sym f :: args) p) c = fin c.cur (cCall (cValue fuel) {} (.sym f) args (curAt c p)) := by
  have hf' := hf
  simp only [specials, List.contains_cons, List.contains_nil, Bool.or_false, Bool.or_eq_false_iff, beq_eq_false_iff_ne, ne_eq] at hf'
  obtain ⟨h1, h2, h3, h4, h5, h6, h7, h8, h9, h10, h11, h12, h13⟩ := hf'
  rw [← cCall_o (cValue fuel) opts ht hh]
  -- `cValue` matches on the head symbol: each of the 13 inequalities closes the side goal of one special form
  rw [cValue] <;> first | (intros; simp_all; done) | skip
  simp only [hf, curAt, ht, hh]
  cases cCall (cValue fuel) opts (.sym f) args (if p.line ≥ 0 then { c with cur := p } else c) with
  | none => rfl
  | some a => cases a; rfl

theorem cValue_sym (fuel : Nat) (x : String) (c : CState) : cValue (fuel + 1) {} (.sym x) c = fin c.cur (resolve c x) :=
  cValue_sym_o fuel {} rfl rfl x c

/-- what the scopes know about a name: its slot and the two flags of the search -/
def lookupSlot (c : CState) (x : String) : Option (JSlot × Bool × Bool) :=
  (searchScopes x c.scopes 0 false true).map (fun r => (((c.scopes.getD r.1 default).syms.getD r.2.1 default).slot, r.2.2.1, r.2.2.2))

theorem resolve_global (c : CState) (x : String) (h : lookupSlot c x = none) : resolve c x = globalSlot c x := by
  unfold lookupSlot at h
  cases hs : searchScopes x c.scopes 0 false true with
  | none => simp only [resolve, hs]
  | some r => rw [hs] at h; exact absurd h (by simp)

theorem resolve_local (c : CState) (x : String) (slot : JSlot) (u : Bool) (h : lookupSlot c x = some (slot, u, true))
    (hc : slot.cflag = false) : resolve c x = some (slot, c) := by
  unfold lookupSlot at h
  cases hs : searchScopes x c.scopes 0 false true with
  | none => rw [hs] at h; exact absurd h (by simp)
  | some r =>
    obtain ⟨pos, i, u', l⟩ := r
    rw [hs] at h
    simp only [Option.map_some, Option.some.injEq, Prod.mk.injEq] at h
    obtain ⟨h1, h2, h3⟩ := h
    subst h2 h3
    simp only [resolve, hs, h1, hc, Bool.false_or, Bool.or_true, if_true]
    split <;> rfl

/-- value a slot stands for -/
def slotVal (V : Array Value) (regs : Array Value) (s : JSlot) : Value :=
  match s.k with
  | .const kc => litOf V kc
  | .loc r => regs.getD r .nil
  | _ => .nil

def PrefL (a b : List KConst) : Prop := ∃ more, b = a ++ more

theorem PrefL.refl (a : List KConst) : PrefL a a := ⟨[], by simp⟩
theorem PrefL.trans {a b c : List KConst} (h1 : PrefL a b) (h2 : PrefL b c) : PrefL a c := by
  obtain ⟨m1, rfl⟩ := h1; obtain ⟨m2, rfl⟩ := h2; exact ⟨m1 ++ m2, by simp⟩
theorem PrefL.app (a m : List KConst) : PrefL a (a ++ m) := ⟨m, rfl⟩
theorem PrefL.length {a b : List KConst} (h : PrefL a b) : a.length ≤ b.length := by obtain ⟨m, rfl⟩ := h; simp
theorem PrefL.getD {a b : List KConst} (h : PrefL a b) (i : Nat) (hi : i < a.length) : b.getD i .nil = a.getD i .nil := by
  obtain ⟨m, rfl⟩ := h
  simp [List.getD, List.getElem?_append_left hi]

theorem intern_pref (pool : List KConst) (k : KConst) : PrefL pool (W.intern pool k) := by
  unfold W.intern; split
  · exact PrefL.refl _
  · exact PrefL.app _ _

theorem intern_mem (pool : List KConst) (k : KConst) : k ∈ W.intern pool k := by
  unfold W.intern; split
  · assumption
  · simp

theorem idxOf_getD : ∀ (l : List KConst) (k : KConst), k ∈ l → l.idxOf k < l.length ∧ l.getD (l.idxOf k) .nil = k
  | [], k, h => by simp at h
  | a :: l, k, h => by
    by_cases e : a = k
    · subst e; simp [List.idxOf_cons_self]
    · have hm : k ∈ l := by simpa [Ne.symm e] using h
      have ih := idxOf_getD l k hm
      have hne : (a == k) = false := by simpa using e
      rw [List.idxOf_cons, hne]
      simp only [cond_false, List.length_cons]
      exact ⟨by omega, by simpa [List.getD] using ih.2⟩

theorem poolIdx_le (pool : List KConst) (k : KConst) : W.poolIdx pool k ≤ pool.length := List.idxOf_le_length

theorem getD_set_eq (a : Array Value) (t : Nat) (v : Value) (h : t < a.size) : (a.setIfInBounds t v).getD t .nil = v := by
  simp [Array.getD, h]

theorem getD_set_ne (a : Array Value) (t r : Nat) (v : Value) (h : r ≠ t) : (a.setIfInBounds t v).getD r .nil = a.getD r .nil := by
  simp [Array.getD_eq_getD_getElem?, Array.getElem?_setIfInBounds, Ne.symm h]

theorem head_globalS (FF : FloatFacts) (fuel : Nat) (c c1 : CState) (head : JSlot) (f : String) (hg : lookupSlot c f = none)
    (h1 : cValue (fuel + 1) {} (.sym f) c = some (head, c1)) :
    ∃ (vals1 : Array Value) (kf : KConst), head = cslot kf ∧ c1 = { c with vals := vals1 } ∧ PrefA c.vals vals1 ∧ KWf vals1 kf ∧
      litOf vals1 kf = .cfun f := by
  rw [cValue_sym, resolve_global _ f hg] at h1
  have hgs : globalSlot c f = some (constSlot c (.cfun f)) := by
    unfold globalSlot at h1 ⊢
    split at h1 <;> simp_all [fin]
  rw [hgs] at h1
  simp only [fin, Option.some.injEq, Prod.mk.injEq] at h1
  obtain ⟨hh, hc1⟩ := h1
  obtain ⟨vals1, kf, k1, k2, k3, k4⟩ := kOf_spec' FF c (.cfun f) trivial
  have cs : constSlot c (.cfun f) = (cslot kf, { c with vals := vals1 }) := by
    unfold constSlot; rw [k1]
  rw [cs] at hh hc1
  exact ⟨vals1, kf, hh.symm, hc1.symm, k2, k3, k4⟩

/-- kinds of operand slot the fragment produces -/
def SK (s : JSlot) : Prop := (∃ kc, s.k = .const kc) ∨ (∃ r, s.k = .loc r ∧ r < 240)

/-- a core function that raises: the error is attributed to the position handed to `applyFn`, the state is unchanged -/
theorem applyFn_cfun_err (n : Nat) (pos : Pos) (f : String) (hna : f ≠ "apply") (vs : List Value) (s s' : SS) (ev : Value) (epos : Pos)
    (h : applyFn (n + 1) pos (.cfun f) vs s = .err ev epos s') :
    epos = pos ∧ s' = s ∧ ((callPrimW f vs s.st.world = .rt ∧ ev = Lang.rtErr) ∨ callPrimW f vs s.st.world = .user ev) := by
  rw [applyFn_cfun n pos f hna] at h
  cases hc : callPrimW f vs s.st.world with
  | ok a => obtain ⟨v', w'⟩ := a; rw [hc] at h; exact absurd h (by simp)
  | rt =>
    rw [hc] at h
    simp only [R.err.injEq] at h
    exact ⟨h.2.1.symm, h.2.2.symm, Or.inl ⟨rfl, h.1.symm⟩⟩
  | user e =>
    rw [hc] at h
    simp only [R.err.injEq] at h
    obtain ⟨h1, h2, h3⟩ := h
    subst h1
    exact ⟨h2.symm, h3.symm, Or.inr rfl⟩
  | unsup why => rw [hc] at h; exact absurd h (by simp)

section
variable (p : Program) (f0 : Frame) (rest : List Frame) (V : Array Value) (P : List KConst)

theorem call_word (d t : Nat) : (CI.mi (.pay Op.call.toNat .ss true [d, t] 0)).word = (CI.call d t).word := by
  simp [CI.word, MI.word]

/-- the step `JOP_CALL d _` takes from `k1` when the callee register holds the core function `f`: what `callPrimW` says -/
def callStep (f : String) (d : Nat) (k1 : Cfg) : StepRes :=
  match callPrimW f k1.args.toList k1.w with
  | .ok (v, w) => .next (inj f0 rest { regs := k1.regs.setIfInBounds d v, pc := k1.pc + 1, args := #[], w := w })
  | .rt => .err JanetModel.Bytecode.Exec.rtErr (curPos p (inj f0 rest k1)) (inj f0 rest k1)
  | .user e => .err e (curPos p (inj f0 rest k1)) (inj f0 rest k1)
  | .unsup why => .unsup why

theorem callStep_ok (f : String) (hna : f ≠ "apply") (d : Nat) (k1 : Cfg) (s s' : SS) (n : Nat) (pos : Pos) (v : Value) (hw : k1.w = s.st.world)
    (happ : applyFn (n + 1) pos (.cfun f) k1.args.toList s = .ok v s') :
    callStep p f0 rest f d k1 = .next (inj f0 rest { regs := k1.regs.setIfInBounds d v, pc := k1.pc + 1, args := #[], w := s'.st.world }) := by
  rw [applyFn_cfun n pos f hna, ← hw] at happ
  unfold callStep
  cases hcp : callPrimW f k1.args.toList k1.w with
  | rt => rw [hcp] at happ; exact absurd happ (by simp)
  | user e => rw [hcp] at happ; exact absurd happ (by simp)
  | unsup why => rw [hcp] at happ; exact absurd happ (by simp)
  | ok a =>
    obtain ⟨v', w'⟩ := a
    rw [hcp] at happ
    simp only [R.ok.injEq] at happ
    obtain ⟨hv, hs'⟩ := happ
    subst hv
    have : s'.st.world = w' := by rw [← hs']; rfl
    rw [this]

/-- the application raised: the CALL raises the same value at the position its source-map entry records -/
theorem callStep_err (f : String) (hna : f ≠ "apply") (d : Nat) (k1 : Cfg) (s s' : SS) (n : Nat) (pos : Pos) (ev : Value) (epos : Pos)
    (hw : k1.w = s.st.world) (happ : applyFn (n + 1) pos (.cfun f) k1.args.toList s = .err ev epos s')
    (hpos : curPos p (inj f0 rest k1) = pos) :
    epos = pos ∧ s' = s ∧ callStep p f0 rest f d k1 = .err ev epos (inj f0 rest k1) := by
  obtain ⟨h1, h2, hraise⟩ := applyFn_cfun_err n pos f hna k1.args.toList s s' ev epos happ
  refine ⟨h1, h2, ?_⟩
  rw [← hw] at hraise
  unfold callStep
  rcases hraise with ⟨hcp, hev⟩ | hcp
  · rw [hcp, hev, hpos, h1]; rfl
  · rw [hcp, hpos, h1]

theorem step_callStep (f : String) (d t : Nat) (k1 : Cfg) (hd : d < 256) (ht : t < 65536)
    (hcode : (p.defs.getD f0.defIdx default).code[k1.pc]? = some (CI.mi (.pay Op.call.toNat .ss true [d, t] 0)).word)
    (hreg : k1.regs.getD t .nil = .cfun f) : step p (inj f0 rest k1) = callStep p f0 rest f d k1 := by
  have s2 := step_call p (inj f0 rest k1) d t hd ht (by rw [inj_curDef, inj_pc, ← call_word]; exact hcode)
  rw [inj_getReg, hreg, doCall_cfun] at s2
  rw [s2]
  simp only [callStep, inj_world, inj_args]
  cases callPrimW f k1.args.toList k1.w with
  | ok a => cases a; rfl
  | rt => rfl
  | user e => rfl
  | unsup why => rfl

end

theorem curAt_eq (c : CState) (p : Pos) : ∃ q, curAt c p = { c with cur := q } := by
  unfold curAt; split
  · exact ⟨p, rfl⟩
  · exact ⟨c.cur, rfl⟩

end JanetModel.Compile
