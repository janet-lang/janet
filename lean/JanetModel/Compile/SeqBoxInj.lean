/- C02: `Lang/Sem` keeps the boxes of distinct names distinct across a form of the fragment `TF G b` (`bind` always allocates the
   next box; nothing in the fragment rebinds or frees), and the box store only grows: a reading of `tf_ext`
   (Compile/SeqNoBrkSem.lean) — the bindings put on top sit in boxes allocated since, each above the ones before.  Needed by
   `set`: writing the box of `x` must not change what any other name reads. -/
import JanetModel.Compile.SeqNoBrkSem
import JanetModel.Compile.SeqHintDef
namespace JanetModel.Compile
open JanetModel.Emit JanetModel.Lang JanetModel.Bytecode.Exec JanetModel.Gen.Bytecode

theorem BoxInj.mono {env : Env} {nb nb' : Nat} (h : BoxInj env nb) (hle : nb ≤ nb') : BoxInj env nb' :=
  ⟨h.1, fun x a hx => Nat.lt_of_lt_of_le (h.2 x a hx) hle⟩

theorem BoxInj.cons {env : Env} {nb : Nat} (h : BoxInj env nb) (x : String) : BoxInj ((x, nb) :: env) (nb + 1) := by
  refine ⟨fun y z a hy hz => ?_, fun y a hy => ?_⟩
  · simp only [lookupEnv] at hy hz
    by_cases e1 : (x == y) = true
    · by_cases e2 : (x == z) = true
      · rw [← beq_iff_eq.mp e1, ← beq_iff_eq.mp e2]
      · rw [if_pos e1] at hy
        rw [if_neg e2] at hz
        have := h.2 z a hz
        have : a = nb := (Option.some.inj hy).symm
        omega
    · rw [if_neg e1] at hy
      by_cases e2 : (x == z) = true
      · rw [if_pos e2] at hz
        have := h.2 y a hy
        have : a = nb := (Option.some.inj hz).symm
        omega
      · rw [if_neg e2] at hz
        exact h.1 y z a hy hz
  · simp only [lookupEnv] at hy
    by_cases e1 : (x == y) = true
    · rw [if_pos e1] at hy
      have : a = nb := (Option.some.inj hy).symm
      omega
    · rw [if_neg e1] at hy
      have := h.2 y a hy
      omega

theorem BoxInj.adds {env : Env} {lo : Nat} (h : BoxInj env lo) : ∀ (added : Env) (hi : Nat), (∀ y a, (y, a) ∈ added → lo ≤ a ∧ a < hi) →
    added.Pairwise (fun p q => q.2 < p.2) → lo ≤ hi → BoxInj (added ++ env) hi
  | [], _, _, _, hle => h.mono hle
  | (x, a) :: t, hi, hm, hp, _ => by
    have ha := hm x a List.mem_cons_self
    have ht := BoxInj.adds h t a (fun y a' hy => ⟨(hm y a' (List.mem_cons_of_mem _ hy)).1, (List.pairwise_cons.mp hp).1 (y, a') hy⟩)
      (List.pairwise_cons.mp hp).2 ha.1
    exact (ht.cons x).mono (by omega)

/-- across a form of the fragment: distinct names keep distinct boxes, the store only grows -/
theorem tf_boxinj (G : String → Prop) (b : Bool) (n : Nat) (cur : Pos) (env env' : Env) (e : Expr) (s s' : SS) (v : Value)
    (hg : ∀ f, G f → lookupEnv env f = none) (hb : BoxInj env s.boxes.size) (hT : TF G b e)
    (h : eval n cur env e s = .ok (v, env') s') : BoxInj env' s'.boxes.size ∧ s.boxes.size ≤ s'.boxes.size := by
  obtain ⟨hle, added, he, hA⟩ := ((tf_ext G b n).1 cur env e s hg hT).2 v env' s' h
  rw [he]
  exact ⟨hb.adds added _ (fun y a hy => (hA.1 y a hy).2.2) hA.2 hle, hle⟩

end JanetModel.Compile
