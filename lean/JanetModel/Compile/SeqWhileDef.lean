/- C02: `janetc_while` (specials.c) as the model compiles it: `cWhile`, its end `cWhileEnd`, and the three ways through it. -/
import JanetModel.Compile.SeqSpec
import JanetModel.Compile.Scope
namespace JanetModel.Compile
open JanetModel.Emit JanetModel.Lang JanetModel.Bytecode.Exec JanetModel.Gen.Bytecode

/-- the `break`-placeholder rewrite of `janetc_while` -/
def brkRewrite (buf2 : List CI) (labelwt labeld : Nat) : List CI :=
  (List.range buf2.length).map (fun i =>
    match buf2.getD i default with
    | .brk => if labelwt ≤ i && i < labeld then CI.jump (Int.ofNat (labeld - i)) else .brk
    | ci => ci)

/-- a closure was created in the loop: `janetc_while` recompiles the loop as a tail-recursive function -/
def cWhileFn (rec' : Fopts → Expr → CState → Option (JSlot × CState)) (cnd : Expr) (body : List Expr) (labelwt : Nat) (c4 : CState) :
    Option (JSlot × CState) := do
  let c5 ← popScope { c4 with scopes := c4.scopes.modify 0 (fun s => { s with unused := true }) }
  let c6 : CState := { c5 with buf := c5.buf.take labelwt, map := c5.map.take labelwt }
  let c7 := pushScope c6 true false false false
  let (cond2, c8) ← rec' {} cnd c7
  let c9 ← if (isConstSlot cond2).isNone then do
              let c' ← emitSI c8 .jumpIf cond2 2 false
              pure (emitRaw c' .retNil)
            else pure c8
  let c10 ← whileBody rec' body c9
  match c10.scopes with
  | [] => none
  | sc :: rest =>
    let (tself, ra1) := sc.ra.allocTemp 0
    if ra1.max ≥ c10.lim then none else
    let c11 := emitRaw (emitRaw { c10 with scopes := { sc with ra := ra1.freeTemp tself 0 } :: rest } (.loadSelf tself)) (.tailcall tself)
    let (d, c12) ← popFuncdef c11 0 0 2147483647 false
    let (di, c13) := addFuncdef c12 d
    match c13.scopes with
    | [] => none
    | sc2 :: rest2 =>
      let (clo, ra2) := sc2.ra.allocTemp 0
      if ra2.max ≥ c13.lim then none else
      let c14 := emitRaw (emitRaw { c13 with scopes := { sc2 with ra := ra2.freeTemp clo 0, closure := true } :: rest2 } (.closure clo di)) (.call clo clo)
      pure (cslot .nil, c14)

/-- the block scope `janetc_while` pushes: flagged as a loop, the allocator cloned -/
def wblk (c : CState) (sc : Scope) : Scope := { whl := true, ra := { alloc := sc.ra.alloc, max := sc.ra.max }, start := c.buf.length }

theorem pushScope_whl (c : CState) (sc : Scope) (rs : List Scope) (hs : c.scopes = sc :: rs) :
    pushScope c false true false false = { c with scopes := wblk c sc :: sc :: rs } := by
  simp [pushScope, hs, wblk]

theorem lk_wblk (c : CState) (sc : Scope) (rs : List Scope) (x : String) : lk (wblk c sc :: sc :: rs) x = lk (sc :: rs) x :=
  lk_push (wblk c sc) (sc :: rs) rfl rfl rfl x

/-- the end of `janetc_while` after the body; `inf`: the condition slot is a truthy constant and no conditional jump was emitted -/
def cWhileEnd (rec' : Fopts → Expr → CState → Option (JSlot × CState)) (cnd : Expr) (body : List Expr) (inf : Bool) (labelwt labelc : Nat)
    (c4 : CState) : Option (JSlot × CState) :=
  if (c4.scopes.headD default).closure then cWhileFn rec' cnd body labelwt c4
  else
    let labeljt := c4.buf.length
    let c5 := emitRaw c4 (.jump 0)
    let labeld := c5.buf.length
    if (!inf && labeld - labelc > 32767) || labeljt - labelwt > 0x7FFFFF then none else
    let buf1 := if inf then c5.buf else modBuf c5.buf labelc (patchCond (labeld - labelc))
    let buf2 := modBuf buf1 labeljt (fun _ => .jump (Int.ofNat labelwt - Int.ofNat labeljt))
    do
      let c6 ← popScope { c5 with buf := brkRewrite buf2 labelwt labeld }
      pure (cslot .nil, c6)

/-- `janetc_while` -/
def cWhile (rec' : Fopts → Expr → CState → Option (JSlot × CState)) (cnd : Expr) (body : List Expr) (c : CState) : Option (JSlot × CState) := do
  let c1 := pushScope c false true false false
  let (cond, c2) ← rec' {} cnd c1
  let infinite : Option Bool := match isConstSlot cond with
    | some k => if !constTruthy k then none else some true
    | none => some false
  match infinite with
  | none => do let c3 ← popScope c2; pure (cslot .nil, c3)
  | some inf => do
    let c3 ← if inf then pure c2 else emitSI c2 .jumpIfNot cond 0 false
    let c4 ← whileBody rec' body c3
    cWhileEnd rec' cnd body inf c.buf.length (if inf then 0 else lastLabel c3) c4

theorem cValue_while_any (fuel : Nat) (opts : Fopts) (cnd : Expr) (body : List Expr) (p : Pos) (c : CState) :
    cValue (fuel + 1) opts (.form (.sym "while" :: cnd :: body) p) c = finO opts c.cur (cWhile (cValue fuel) cnd body (curAt c p)) := by
  simp only [cValue]
  split
  · rename_i h; exact (congrArg (finO opts c.cur) h).symm
  · rename_i r c1 h; exact (congrArg (finO opts c.cur) h).symm

theorem cValue_while_o (fuel : Nat) (opts : Fopts) (ht : opts.tail = false) (hh : opts.hint = none) (cnd : Expr) (body : List Expr) (p : Pos) (c : CState) :
    cValue (fuel + 1) opts (.form (.sym "while" :: cnd :: body) p) c = fin c.cur (cWhile (cValue fuel) cnd body (curAt c p)) := by
  rw [cValue_while_any, finO_o opts ht hh]

theorem cWhile_inv {rec' : Fopts → Expr → CState → Option (JSlot × CState)} {cnd : Expr} {body : List Expr} {c c' : CState} {slot : JSlot}
    (h : cWhile rec' cnd body c = some (slot, c')) :
    ∃ cond c2, rec' {} cnd (pushScope c false true false false) = some (cond, c2) ∧
      ((∃ k, isConstSlot cond = some k ∧ constTruthy k = false ∧ popScope c2 = some c' ∧ slot = cslot .nil) ∨
       (∃ inf c3 c4, (inf = true ∧ (∃ k, isConstSlot cond = some k ∧ constTruthy k = true) ∧ c3 = c2 ∨
            inf = false ∧ isConstSlot cond = none ∧ emitSI c2 .jumpIfNot cond 0 false = some c3) ∧
          whileBody rec' body c3 = some c4 ∧
          cWhileEnd rec' cnd body inf c.buf.length (if inf then 0 else lastLabel c3) c4 = some (slot, c'))) := by
  simp only [cWhile, Option.bind_eq_bind, Option.bind_eq_some_iff, Prod.exists] at h
  obtain ⟨cond, c2, hcond, h⟩ := h
  refine ⟨cond, c2, hcond, ?_⟩
  cases hk : isConstSlot cond with
  | none =>
    simp only [hk, Bool.false_eq_true, if_false, Option.bind_eq_some_iff] at h
    obtain ⟨c3, hem, c4, hbody, hend⟩ := h
    exact Or.inr ⟨false, c3, c4, Or.inr ⟨rfl, rfl, hem⟩, hbody, hend⟩
  | some k =>
    cases htk : constTruthy k with
    | false =>
      simp only [hk, htk, Bool.not_false, if_true, Option.bind_eq_some_iff, Option.pure_def, Option.some.injEq, Prod.mk.injEq] at h
      obtain ⟨c3, hpop, hslot, hc3⟩ := h
      exact Or.inl ⟨k, rfl, htk, hc3 ▸ hpop, hslot.symm⟩
    | true =>
      simp only [hk, htk, Bool.not_true, Bool.false_eq_true, if_false, if_true, Option.pure_def, Option.bind_some, Option.bind_eq_some_iff] at h
      obtain ⟨c4, hbody, hend⟩ := h
      exact Or.inr ⟨true, c2, c4, Or.inl ⟨rfl, ⟨k, rfl, htk⟩, rfl⟩, hbody, hend⟩

end JanetModel.Compile
