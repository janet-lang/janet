/- C02: what `StepR` / `Shp` hand to the next step, the two patches of `janetc_if`, `janetc_nameslot` and `namelocal`; and the cases
   call, `do`, `def`, branch of a shape statement without the map-length condition (`ShapeAt`), each relative to that statement at
   the fuel below.  The shape theorem itself, `tf_shape` (Compile/SeqShapeM.lean), does not go through them. -/
import JanetModel.Compile.SeqShapeBase
import JanetModel.Compile.SeqIfDef
namespace JanetModel.Compile
open JanetModel.Emit JanetModel.Lang JanetModel.Bytecode.Exec JanetModel.Gen.Bytecode

/-- result slots of the fragment: a constant or a plain local -/
def SlotSh (s : JSlot) : Prop := (s.cflag = true ∧ ∃ kc, s.k = .const kc) ∨ (s.cflag = false ∧ ∃ r, s.k = .loc r)

theorem StepR.out {c c1 : CState} {sc : Scope} {rs : List Scope} {pool : List KConst} {ps : List (List KConst)} (h : StepR c c1 sc rs pool ps) :
    ∃ sc1 pool1, c1.scopes = sc1 :: rs ∧ c1.pools = pool1 :: ps ∧ sc1.top = sc.top ∧ c.buf.length ≤ c1.buf.length := by
  obtain ⟨ra1, more1, seg1, segm1, hc1, _⟩ := h
  exact ⟨{ sc with ra := ra1 }, pool ++ more1, by rw [hc1], by rw [hc1], rfl, by rw [hc1]; simp⟩

theorem Shp.out {G : String → Prop} {c c1 : CState} {sc : Scope} {rs : List Scope} {pool : List KConst} {ps : List (List KConst)}
    (h : Shp G c c1 sc rs pool ps) :
    ∃ sc1 pool1, c1.scopes = sc1 :: rs ∧ c1.pools = pool1 :: ps ∧ sc1.top = sc.top ∧ LkL G c1.scopes ∧ c.buf.length ≤ c1.buf.length := by
  obtain ⟨ra1, ns1, more1, seg1, segm1, hc1, _, lk1, _⟩ := h
  exact ⟨{ sc with ra := ra1, syms := sc.syms ++ ns1 }, pool ++ more1, by rw [hc1], by rw [hc1], rfl, lk1, by rw [hc1]; simp⟩

theorem Shp.trans' {G : String → Prop} {c c1 c2 : CState} {sc sc1 : Scope} {rs : List Scope} {pool pool1 : List KConst} {ps : List (List KConst)}
    (h1 : Shp G c c1 sc rs pool ps) (hs1 : c1.scopes = sc1 :: rs) (hp1 : c1.pools = pool1 :: ps) (h2 : Shp G c1 c2 sc1 rs pool1 ps) :
    Shp G c c2 sc rs pool ps :=
  h1.trans (fun sc1' pool1' hs' hp' _ _ => by
    rw [hs1] at hs'
    rw [hp1] at hp'
    have e1 : sc1 = sc1' := (List.cons.inj hs').1
    have e2 : pool1 = pool1' := (List.cons.inj hp').1
    subst e1 e2
    exact h2)

theorem StepR.trans' {c c1 c2 : CState} {sc sc1 : Scope} {rs : List Scope} {pool pool1 : List KConst} {ps : List (List KConst)}
    (h1 : StepR c c1 sc rs pool ps) (hs1 : c1.scopes = sc1 :: rs) (hp1 : c1.pools = pool1 :: ps) (h2 : StepR c1 c2 sc1 rs pool1 ps) :
    StepR c c2 sc rs pool ps :=
  h1.trans (fun sc1' pool1' hs' hp' => by
    rw [hs1] at hs'
    rw [hp1] at hp'
    have e1 : sc1 = sc1' := (List.cons.inj hs').1
    have e2 : pool1 = pool1' := (List.cons.inj hp').1
    subst e1 e2
    exact h2)

/-- the two patches of `janetc_if` hit instructions of the appended segment -/
theorem Shp.patch {G : String → Prop} {c c14 : CState} {sc : Scope} {rs : List Scope} {pool : List KConst} {ps : List (List KConst)}
    (h : Shp G c c14 sc rs pool ps) (nj : Bool) (i off j : Nat) (hi : c.buf.length ≤ i) (hj : c.buf.length ≤ j) :
    Shp G c { c14 with buf := ifPatch nj c14.buf i off j } sc rs pool ps := by
  obtain ⟨ra', ns, more, seg, segm, hc, pv, lkl, hl⟩ := h
  have hbuf : c14.buf = c.buf ++ seg := by rw [hc]
  have : ∃ seg', ifPatch nj c14.buf i off j = c.buf ++ seg' ∧ seg'.length = seg.length := by
    rw [hbuf]; unfold ifPatch; split
    · exact ⟨_, modBuf_append _ _ _ _ hi, modBuf_length _ _ _⟩
    · rw [modBuf_append _ _ _ _ hi, modBuf_append _ _ _ _ hj]
      exact ⟨_, rfl, by simp [modBuf_length]⟩
  obtain ⟨seg', e1, e2⟩ := this
  refine ⟨ra', ns, more, seg', segm, ?_, pv, lkl, by omega⟩
  rw [e1]
  conv => lhs; rw [hc]

/-- the shape statement at compile fuel `fuel` -/
def ShapeAt (G : String → Prop) (fuel : Nat) : Prop :=
  ∀ (b : Bool) (e : Expr) (opts : Fopts) (c c' : CState) (slot : JSlot) (sc : Scope) (rs : List Scope) (pool : List KConst) (ps : List (List KConst)),
    opts.tail = false → opts.hint = none → c.scopes = sc :: rs → c.pools = pool :: ps → sc.top = false → TF G b e → LkL G c.scopes →
    cValue fuel opts e c = some (slot, c') → Shp G c c' sc rs pool ps ∧ SlotSh slot

theorem getTarget_slot (c c' : CState) (opts : Fopts) (hh : opts.hint = none) (t : JSlot) (h : getTarget c opts = some (t, c')) :
    ∃ r, t = { k := .loc r } := by
  simp only [getTarget, hh] at h
  cases ha : allocFar c with
  | none => rw [ha] at h; simp at h
  | some rc =>
    rw [ha] at h
    simp only [Option.bind_eq_bind, Option.bind_some, Option.pure_def, Option.some.injEq, Prod.mk.injEq] at h
    exact ⟨rc.1, h.1.symm⟩

theorem getTarget_hint (c c1 : CState) (opts : Fopts) (t h : JSlot) (rh : Nat) (hh : opts.hint = some h) (hk : h.k = .loc rh) (hr : rh ≤ 0xFF)
    (hT : getTarget c opts = some (t, c1)) : t = h ∧ c1 = c := by
  simp only [getTarget, hh, hk, hr, if_true, Option.some.injEq, Prod.mk.injEq] at hT
  exact ⟨hT.1.symm, hT.2.symm⟩

/-- `cCall_inv` without tail and hint: the emit part is a fresh target and JOP_CALL -/
theorem cCall_inv_plain (rec' : Fopts → Expr → CState → Option (JSlot × CState)) (hd : Expr) (args : List Expr) (c0 cq : CState) (slot : JSlot)
    (h : cCall rec' {} hd args c0 = some (slot, cq)) :
    ∃ head c1 slots c2 c3 cT c4 c5, rec' {} hd c0 = some (head, c1) ∧ toSlots rec' args c1 = some (slots, c2) ∧
      pushSlots c2 slots = some c3 ∧ getTarget c3 {} = some (slot, cT) ∧ emitSS cT .call slot head true = some c4 ∧
      freeslots c4 slots = some c5 ∧ freeslot c5 head = some cq := by
  obtain ⟨head, c1, slots, c2, c3, c4, c5, h1, h2, h3, hE, hf1, hf2⟩ := cCall_inv rec' {} hd args c0 cq slot h
  simp only [cCallOut, Bool.false_and, Bool.false_eq_true, if_false, Option.bind_eq_bind, Option.bind_eq_some_iff, Prod.exists,
    Option.pure_def, Option.some.injEq, Prod.mk.injEq] at hE
  obtain ⟨t, cT, hT, cx, hem, hs, hc⟩ := hE
  subst hs hc
  exact ⟨head, c1, slots, c2, c3, cT, _, c5, h1, h2, h3, hT, hem, hf1, hf2⟩

/-- a call compiles to a fresh (non-constant) target register -/
theorem call_slot_loc (fuel : Nat) (opts : Fopts) (ht : opts.tail = false) (hh : opts.hint = none) (e : Expr) (hic : IsCall e)
    (c c' : CState) (slot : JSlot) (h : cValue fuel opts e c = some (slot, c')) : ∃ r, slot = { k := .loc r } := by
  obtain ⟨f, args, q, rfl, hf⟩ := hic
  cases fuel with
  | zero => simp [cValue] at h
  | succ fuel =>
    rw [cValue_call_o fuel opts ht hh f args q c hf] at h
    cases hcc : cCall (cValue fuel) {} (.sym f) args (curAt c q) with
    | none => rw [hcc] at h; simp [fin] at h
    | some res =>
      obtain ⟨s0, cq⟩ := res
      rw [hcc] at h
      simp only [fin, Option.some.injEq, Prod.mk.injEq] at h
      rw [← h.1]
      obtain ⟨head, c1, slots, c2, c3, cT, c4, c5, _, _, _, hT, _⟩ := cCall_inv_plain (cValue fuel) _ args _ cq s0 hcc
      exact getTarget_slot c3 cT {} rfl s0 hT

theorem call_isConst_none (fuel : Nat) (opts : Fopts) (ht : opts.tail = false) (hh : opts.hint = none) (e : Expr) (hic : IsCall e)
    (c c' : CState) (slot : JSlot) (h : cValue fuel opts e c = some (slot, c')) : isConstSlot slot = none := by
  obtain ⟨r, hr⟩ := call_slot_loc fuel opts ht hh e hic c c' slot h
  rw [hr]; rfl

theorem toSlots_shape (G : String → Prop) (fuel : Nat) (IH : ShapeAt G fuel) (b : Bool) : ∀ (args : List Expr), (∀ a, a ∈ args → TF G b a) →
    ∀ (c c' : CState) (slots : List JSlot) (sc : Scope) (rs : List Scope) (pool : List KConst) (ps : List (List KConst)),
      c.scopes = sc :: rs → c.pools = pool :: ps → sc.top = false → LkL G c.scopes →
      toSlots (cValue fuel) args c = some (slots, c') → Shp G c c' sc rs pool ps := by
  intro args
  induction args with
  | nil =>
    intro _ c c' slots sc rs pool ps hs hp _ hL h
    simp only [toSlots, Option.some.injEq, Prod.mk.injEq] at h
    rw [← h.2]; exact Shp.refl hs hp hL
  | cons a as ih =>
    intro hT c c' slots sc rs pool ps hs hp htop hL h
    simp only [toSlots, Option.bind_eq_bind, Option.bind_eq_some_iff, Prod.exists, Option.pure_def, Option.some.injEq, Prod.mk.injEq] at h
    obtain ⟨sl1, c1, hx, ss, c2, hrest, _, hc2⟩ := h
    rw [← hc2]
    exact (IH b a {} c c1 sl1 sc rs pool ps rfl rfl hs hp htop (hT a (by simp)) hL hx).1.trans
      (fun sc1 pool1 hs1 hp1 ht1 hL1 =>
        ih (fun e he => hT e (by simp [he])) c1 c2 ss sc1 rs pool1 ps hs1 hp1 (by rw [ht1]; exact htop) hL1 hrest)

theorem cCall_shape (G : String → Prop) (fuel : Nat) (IH : ShapeAt G fuel) (b : Bool) (f : String) (args : List Expr)
    (hTa : ∀ a, a ∈ args → TF G b a) (c cq : CState) (slot : JSlot) (sc : Scope) (rs : List Scope) (pool : List KConst) (ps : List (List KConst))
    (hs : c.scopes = sc :: rs) (hp : c.pools = pool :: ps) (htop : sc.top = false) (hL : LkL G c.scopes)
    (h : cCall (cValue fuel) {} (.sym f) args c = some (slot, cq)) : Shp G c cq sc rs pool ps ∧ SlotSh slot := by
  obtain ⟨head, c1, slots, c2, c3, cT, c4, c5, h1, h2, h3, hT, hEm, hf1, hf2⟩ := cCall_inv_plain (cValue fuel) _ args c cq slot h
  refine ⟨?_, ?_⟩
  · refine (IH b (.sym f) {} c c1 head sc rs pool ps rfl rfl hs hp htop (.sym f) hL h1).1.trans (fun sc1 pool1 hs1 hp1 ht1 hL1 => ?_)
    refine (toSlots_shape G fuel IH b args hTa c1 c2 slots sc1 rs pool1 ps hs1 hp1 (by rw [ht1]; exact htop) hL1 h2).thenR
      (fun sc2 pool2 hs2 hp2 => ?_)
    refine (pushSlots_stepR slots c2 c3 sc2 rs pool2 ps hs2 hp2 h3).trans (fun sc3 pool3 hs3 hp3 => ?_)
    refine (getTarget_stepR c3 cT {} slot rfl sc3 rs pool3 ps hs3 hp3 hT).trans (fun sc4 pool4 hs4 hp4 => ?_)
    refine (emitSS_stepR cT c4 _ slot head true sc4 rs pool4 ps hs4 hp4 hEm).trans (fun sc5 pool5 hs5 hp5 => ?_)
    refine (freeslots_stepR slots c4 c5 sc5 rs pool5 ps hs5 hp5 hf1).trans (fun sc6 pool6 hs6 hp6 => ?_)
    exact freeslot_stepR c5 cq head sc6 rs pool6 ps hs6 hp6 hf2
  · obtain ⟨r, hr⟩ := getTarget_slot c3 cT {} rfl slot hT
    rw [hr]; exact Or.inr ⟨rfl, r, rfl⟩

theorem doBody_shape (G : String → Prop) (fuel : Nat) (IH : ShapeAt G fuel) (b : Bool) : ∀ (body : List Expr), (∀ e, e ∈ body → TF G b e) →
    ∀ (opts : Fopts) (c c' : CState) (slot : JSlot) (sc : Scope) (rs : List Scope) (pool : List KConst) (ps : List (List KConst)),
      opts.tail = false → opts.hint = none → c.scopes = sc :: rs → c.pools = pool :: ps → sc.top = false → LkL G c.scopes →
      doBody (cValue fuel) opts body c = some (slot, c') → Shp G c c' sc rs pool ps ∧ SlotSh slot := by
  intro body
  induction body with
  | nil =>
    intro _ opts c c' slot sc rs pool ps _ _ hs hp _ hL h
    simp only [doBody, Option.some.injEq, Prod.mk.injEq] at h
    rw [← h.1, ← h.2]
    exact ⟨Shp.refl hs hp hL, Or.inl ⟨rfl, .nil, rfl⟩⟩
  | cons x t ih =>
    intro hT opts c c' slot sc rs pool ps ht hh hs hp htop hL h
    cases t with
    | nil =>
      simp only [doBody] at h
      exact IH b x opts c c' slot sc rs pool ps ht hh hs hp htop (hT x (by simp)) hL h
    | cons y r =>
      simp only [doBody, Option.bind_eq_bind, Option.bind_eq_some_iff, Prod.exists] at h
      obtain ⟨sl1, c1, hx, c1f, hf, hrest⟩ := h
      have S1 := (IH b x { drop := true } c c1 sl1 sc rs pool ps rfl rfl hs hp htop (hT x (by simp)) hL hx).1
      obtain ⟨sc1, pool1, hs1, hp1, ht1, hL1, _⟩ := S1.out
      have S2 := (freeslot_stepR c1 c1f sl1 sc1 rs pool1 ps hs1 hp1 hf).shp hs1 hL1
      obtain ⟨sc2, pool2, hs2, hp2, ht2, hL2, _⟩ := S2.out
      obtain ⟨S3, hsl⟩ := ih (fun e he => hT e (by simp [he])) opts c1f c' slot sc2 rs pool2 ps ht hh hs2 hp2
        (by rw [ht2, ht1]; exact htop) hL2 hrest
      exact ⟨S1.trans' hs1 hp1 (S2.trans' hs2 hp2 S3), hsl⟩

theorem do_shape (G : String → Prop) (fuel : Nat) (IH : ShapeAt G fuel) (b : Bool) (body : List Expr) (hT : ∀ e, e ∈ body → TF G b e)
    (opts : Fopts) (ht : opts.tail = false) (hh : opts.hint = none)
    (c c' : CState) (slot : JSlot) (sc : Scope) (rs : List Scope) (pool : List KConst) (ps : List (List KConst))
    (hs : c.scopes = sc :: rs) (hp : c.pools = pool :: ps) (hL : LkL G c.scopes)
    (h : cDo (cValue fuel) opts body c = some (slot, c')) : Shp G c c' sc rs pool ps ∧ SlotSh slot := by
  simp only [cDo, Option.bind_eq_bind, Option.bind_eq_some_iff, Prod.exists, Option.pure_def, Option.some.injEq, Prod.mk.injEq] at h
  obtain ⟨r, c2, hbody, c3, hpop, hslot, hc3⟩ := h
  subst hslot hc3
  rw [pushScope_blk c sc rs false hs] at hbody
  have hLP : LkL G (blk c sc false :: sc :: rs) := by
    rw [hs] at hL; exact hL.push _ rfl rfl
  obtain ⟨S1, hsl⟩ := doBody_shape G fuel IH b body hT opts { c with scopes := blk c sc false :: sc :: rs } c2 r (blk c sc false) (sc :: rs) pool ps ht hh rfl hp rfl hLP hbody
  exact ⟨Shp.of_block G c c2 c3 sc rs pool ps hs hL S1 (Or.inr ⟨r, hpop⟩), hsl⟩

theorem nameslot_shape (G : String → Prop) (c : CState) (name : String) (s : JSlot) (sc : Scope) (rs : List Scope) (pool : List KConst)
    (ps : List (List KConst)) (hs : c.scopes = sc :: rs) (hp : c.pools = pool :: ps) (hL : LkL G c.scopes) (hG : ¬ G name)
    (hcf : s.cflag = false) (hk : ∃ r, s.k = .loc r) : Shp G c (nameslot c name s) sc rs pool ps := by
  let pair : SymPair := { name := name, slot := { s with named := true } }
  have hsn : (nameslot c name s).scopes = { sc with syms := sc.syms ++ [pair] } :: rs := by
    simp only [nameslot, hs]
    rfl
  refine ⟨sc.ra, [pair], [], [], [], ?_, ?_, ?_, rfl⟩
  · simp only [nameslot, hs, List.append_nil, ← hp]
    rfl
  · simp only [nameslot, hs]; exact PrefA.refl _
  · rw [hsn]
    rw [hs] at hL
    refine ⟨fun f hf => ?_, fun x slot u l hx => ?_⟩
    · rw [lk_snoc sc rs pair rfl f]
      have hne : (pair.name == f) = false := by
        cases hb : (pair.name == f) with
        | false => rfl
        | true =>
          have : name = f := beq_iff_eq.mp hb
          exact absurd (this ▸ hf) hG
      simp only [hne, Bool.false_eq_true, if_false]
      exact hL.1 f hf
    · rw [lk_snoc sc rs pair rfl x] at hx
      cases hb : (pair.name == x) with
      | true =>
        rw [hb] at hx
        simp only [if_true, Option.some.injEq, Prod.mk.injEq] at hx
        obtain ⟨e1, _, e3⟩ := hx
        subst e1 e3
        exact ⟨rfl, hcf, hk, rfl⟩
      | false =>
        rw [hb] at hx
        simp only [Bool.false_eq_true, if_false] at hx
        exact hL.2 x slot u l hx

theorem namelocal_shape (G : String → Prop) (c c2 : CState) (name : String) (r : JSlot) (sc : Scope) (rs : List Scope)
    (pool : List KConst) (ps : List (List KConst)) (hs : c.scopes = sc :: rs) (hp : c.pools = pool :: ps) (hL : LkL G c.scopes) (hG : ¬ G name)
    (hsl : SlotSh r) (h : namelocal c name false r = some c2) : Shp G c c2 sc rs pool ps := by
  rcases namelocal_inv c c2 name false r h with ⟨_, _, ⟨d, hk⟩, e⟩ | ⟨d, c1a, c1b, hfar, hcp, e⟩ | ⟨ei, i, hk, _⟩
  · rw [e]
    refine nameslot_shape G c name _ sc rs pool ps hs hp hL hG ?_ ⟨d, hk⟩
    rcases hsl with ⟨_, kc, h'⟩ | ⟨hcf, _⟩
    · rw [hk] at h'; cases h'
    · exact hcf
  · have R1 := getTarget_stepR c c1a {} { k := .loc d } rfl sc rs pool ps hs hp (by simp [getTarget, hfar])
    obtain ⟨sc1, pool1, hs1, hp1, _, _⟩ := R1.out
    have S12 := (R1.trans' hs1 hp1 (copySlot_stepR c1a c1b _ r sc1 rs pool1 ps hs1 hp1 hcp)).shp hs hL
    obtain ⟨sc2, pool2, hs2, hp2, _, hL2, _⟩ := S12.out
    rw [e]
    exact S12.trans' hs2 hp2 (nameslot_shape G c1b name _ sc2 rs pool2 ps hs2 hp2 hL2 hG rfl ⟨d, rfl⟩)
  · rcases hsl with ⟨_, kc, h'⟩ | ⟨_, r0, h'⟩ <;> rw [hk] at h' <;> cases h'

theorem def_shape (G : String → Prop) (fuel : Nat) (IH : ShapeAt G fuel) (b : Bool) (x : String) (ve : Expr) (hGx : ¬ G x) (hTv : TF G b ve)
    (c c' : CState) (slot : JSlot) (sc : Scope) (rs : List Scope) (pool : List KConst) (ps : List (List KConst))
    (hs : c.scopes = sc :: rs) (hp : c.pools = pool :: ps) (htop : sc.top = false) (hL : LkL G c.scopes)
    (h : cDef (cValue fuel) x ve c = some (slot, c')) : Shp G c c' sc rs pool ps ∧ SlotSh slot := by
  have hct : curTop c = false := by simp [curTop, hs, htop]
  simp only [cDef, hct, Bool.false_eq_true, if_false, Option.bind_eq_bind, Option.bind_eq_some_iff, Prod.exists, Option.pure_def,
    Option.some.injEq, Prod.mk.injEq] at h
  obtain ⟨r, c1, hv, c2, hnl, hslot, hc2⟩ := h
  subst hslot hc2
  obtain ⟨S1, hsl⟩ := IH b ve {} c c1 r sc rs pool ps rfl rfl hs hp htop hTv hL hv
  obtain ⟨sc1, pool1, hs1, hp1, _, hL1, _⟩ := S1.out
  exact ⟨S1.trans' hs1 hp1 (namelocal_shape G c1 c2 x r sc1 rs pool1 ps hs1 hp1 hL1 hGx hsl hnl), hsl⟩

/-- one branch: block scope, the form, the optional copy into the target, pop -/
theorem branch_shape (G : String → Prop) (fuel : Nat) (IH : ShapeAt G fuel) (b : Bool) (x : Expr) (hx : TF G b x)
    (opts : Fopts) (ht : opts.tail = false) (hh : opts.hint = none) (target : JSlot)
    (c c6 c7 c8 : CState) (left : JSlot) (sc : Scope) (rs : List Scope) (pool : List KConst) (ps : List (List KConst))
    (hs : c.scopes = sc :: rs) (hp : c.pools = pool :: ps) (hL : LkL G c.scopes)
    (h1 : cValue fuel opts x (pushScope c false false false false) = some (left, c6))
    (h2 : ifCopy opts.drop c6 target left = some c7) (h3 : popScope c7 = some c8) : Shp G c c8 sc rs pool ps := by
  rw [pushScope_blk c sc rs false hs] at h1
  have hLP : LkL G (blk c sc false :: sc :: rs) := by
    rw [hs] at hL; exact hL.push _ rfl rfl
  obtain ⟨S1, _⟩ := IH b x opts { c with scopes := blk c sc false :: sc :: rs } c6 left (blk c sc false) (sc :: rs) pool ps ht hh rfl hp rfl hx hLP h1
  obtain ⟨sc6, pool6, hs6, hp6, _, hL6, _⟩ := S1.out
  have R2 : StepR c6 c7 sc6 (sc :: rs) pool6 ps := by
    unfold ifCopy at h2
    split at h2
    · rw [← Option.some.inj h2]; exact StepR.refl c6 sc6 _ pool6 ps hs6 hp6
    · exact copySlot_stepR c6 c7 target left sc6 _ pool6 ps hs6 hp6 h2
  exact Shp.of_block G c c7 c8 sc rs pool ps hs hL (S1.trans' hs6 hp6 (R2.shp hs6 hL6)) (Or.inl h3)

end JanetModel.Compile
