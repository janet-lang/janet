/- C02: statements for compiles with a hint slot (`opts.hint = some h`): what `janetc_varset` uses — `(set x e)` compiles `e` with the
   variable's slot as hint, so that calls take it as target (`CALL r_x f`), `if` writes both branches into it, `do` passes it to its
   last statement, and every other form is followed by a `janetc_copy` into it. -/
import JanetModel.Compile.SeqCorrect
namespace JanetModel.Compile
open JanetModel.Emit JanetModel.Lang JanetModel.Bytecode.Exec JanetModel.Gen.Bytecode

/-- the run-time invariant for every name that does not live in register `rh` -/
def EnvDx (scs : List Scope) (env : Env) (s : SS) (regs : Array Value) (rh : Nat) : Prop :=
  ∀ x slot u l r a, lk scs x = some (slot, u, l) → slot.k = .loc r → r ≠ rh → lookupEnv env x = some a → regs.getD r .nil = readBox s a

theorem EnvD.toX {scs : List Scope} {env : Env} {s : SS} {regs : Array Value} (h : EnvD scs env s regs) (rh : Nat) : EnvDx scs env s regs rh :=
  fun x slot u l r a h1 h2 _ h3 => h x slot u l r a h1 h2 h3

/-- a mutable name's register is held by no other resolvable name (`namelocal` aliases only immutable sources) -/
def MutInj (scs : List Scope) : Prop :=
  ∀ x y slx sly ux lx uy ly, lk scs x = some (slx, ux, lx) → lk scs y = some (sly, uy, ly) → slx.mutable = true → slx.k = sly.k → x = y

/-- distinct names have distinct boxes, all below `nb` (`Lang/Sem.bind` always allocates `boxes.size`) -/
def BoxInj (env : Env) (nb : Nat) : Prop :=
  (∀ x y a, lookupEnv env x = some a → lookupEnv env y = some a → x = y) ∧ ∀ x a, lookupEnv env x = some a → a < nb

section
variable (p : Program) (f0 : Frame) (rest : List Frame) (V : Array Value) (P : List KConst)

/-- what a form compiled with the hint `h` (a near local in register `rh`, allocated) delivers: compile side as `Correct2`; run
    side: the value ends up in `rh`, every OTHER register allocated at entry keeps its content, the run-time invariant holds for
    every name outside `rh` -/
def HintOK (G : String → Prop) (c c' : CState) (rh : Nat) (sc : Scope) (rs : List Scope) (pool : List KConst) (ps : List (List KConst))
    (env env' : Env) (s s' : SS) (v : Value) : Prop :=
  ∃ (ra' : RA) (nsyms : List SymPair) (more : List KConst) (seg : List CI) (segm : List Pos),
    c' = { c with scopes := { sc with ra := ra', syms := sc.syms ++ nsyms } :: rs, pools := (pool ++ more) :: ps, buf := c.buf ++ seg,
                  map := c.map ++ segm, vals := c'.vals } ∧
    PrefA c.vals c'.vals ∧ (∀ r, sc.ra.alloc r = true → ra'.alloc r = true) ∧ sc.ra.max ≤ ra'.max ∧
    PrefA s.boxes s'.boxes ∧ EnvS G c'.scopes env' s'.boxes.size ra' ∧ segm.length = seg.length ∧
    ∀ (k : Cfg), k.w = s.st.world → k.args = #[] → EnvD c.scopes env s k.regs →
      CodeAt (p.defs.getD f0.defIdx default).code k.pc seg → PrefL (pool ++ more) P → PrefA c'.vals V → ra'.max < k.regs.size →
      ∃ regs', Reach p (inj f0 rest k) (inj f0 rest { regs := regs', pc := k.pc + seg.length, args := #[], w := s'.st.world }) ∧
        regs'.size = k.regs.size ∧ (∀ r, sc.ra.alloc r = true → r ≠ rh → regs'.getD r .nil = k.regs.getD r .nil) ∧
        regs'.getD rh .nil = v ∧ EnvDx c'.scopes env' s' regs' rh

/-- the induction hypothesis for hinted compiles over a fragment `T` -/
def HintAt (G : String → Prop) (T : Expr → Prop) (fuel : Nat) : Prop :=
  ∀ (e : Expr) (opts : Fopts) (c c' : CState) (slot : JSlot) (sc : Scope) (rs : List Scope) (pool : List KConst) (ps : List (List KConst))
    (n : Nat) (cur : Pos) (env env' : Env) (s s' : SS) (v : Value) (h : JSlot) (rh : Nat),
    opts.tail = false → opts.hint = some h → h.k = .loc rh → h.cflag = false → rh < 240 → sc.ra.alloc rh = true →
    c.scopes = sc :: rs → c.pools = pool :: ps → c.lim ≤ 240 → sc.top = false → c.map.length = c.buf.length → T e →
    cValue fuel opts e c = some (slot, c') → eval n cur env e s = .ok (v, env') s' → EnvS G c.scopes env s.boxes.size sc.ra →
    slot = h ∧ HintOK p f0 rest V P G c c' rh sc rs pool ps env env' s s' v

end

end JanetModel.Compile
