/- C02: one statement of compile correctness for the core fragment `TF G b`: what a compiled form does is a function of the options
   it was compiled with and of what `Lang/Sem.eval` says of the source form (`Post`), proved by one induction on the compile fuel
   (`tf_all`).  All clauses share the compile side `Delta` (SeqCorrect.lean) and differ in the run: `Correct2` — pc + |seg| reached,
   allocated registers kept, the slot holds the value (unless dropped); `HintOK` — the same with the value in the hint register;
   `TailOK` — a configuration whose next step returns the value; `ErrOK` — one whose next step raises the error at its position.
   The modes differ in two places only: the end of `janetc_value` (`OkPost.fin`, `OkPost.fin_same`, `ErrOK.fin`) and which sub-form
   inherits the options (`Post.after`).  A new syntactic form needs: a constructor of `TF` (+ `TF.notSplice`), its unfolding
   `cValue_X_any` and the inversions of `eval` on `.ok` / `.err`, a case in `tf_closedN` (Closed.lean: the compile-only facts), and
   its `X_all` case here (under `Post.form`: the cursor moved to the form and back).  `CorrectAt`, `HintAtM`, `TailAt`, `ErrAt`, `ErrAny` are
   readings. -/
import JanetModel.Compile.SeqTailIf
import JanetModel.Compile.SeqHintIf
import JanetModel.Compile.SeqIfM
import JanetModel.Compile.SeqErrIf
namespace JanetModel.Compile
open JanetModel.Emit JanetModel.Lang JanetModel.Bytecode.Exec JanetModel.Gen.Bytecode

/-- what the options ask of the state at entry: a hint never comes with tail position or a dropped value, and is a near local
    inside the frame (`rh ≤ max`: needed to write it) -/
def ModePre (opts : Fopts) (sc : Scope) : Prop :=
  (opts.tail = true → opts.hint = none) ∧
  ∀ h, opts.hint = some h → opts.tail = false ∧ opts.drop = false ∧
    ∃ rh, h.k = .loc rh ∧ h.cflag = false ∧ rh < 240 ∧ sc.ra.alloc rh = true ∧ rh ≤ sc.ra.max

theorem ModePre.plain (d : Bool) (sc : Scope) : ModePre { drop := d } sc :=
  ⟨fun _ => rfl, fun _ h => absurd h (by simp)⟩

theorem ModePre.of_none {opts : Fopts} (hh : opts.hint = none) (sc : Scope) : ModePre opts sc :=
  ⟨fun _ => hh, fun _ h => absurd h (by simp [hh])⟩

theorem ModePre.mono {opts : Fopts} {sc sc1 : Scope} (h : ModePre opts sc)
    (hin : ∀ rh, sc.ra.alloc rh = true → rh ≤ sc.ra.max → sc1.ra.alloc rh = true ∧ rh ≤ sc1.ra.max) : ModePre opts sc1 := by
  refine ⟨h.1, fun hs hh => ?_⟩
  obtain ⟨ht, hd, rh, a1, a2, a3, a4, a5⟩ := h.2 hs hh
  exact ⟨ht, hd, rh, a1, a2, a3, (hin rh a4 a5).1, (hin rh a4 a5).2⟩

/-- the source map is as long as the code.  Not needed for the plain value of an `if`-free form (no `janetc_throwaway`), needed
    wherever a position or the copy into a hint is spoken of -/
def MapOK (b : Bool) (opts : Fopts) (c : CState) : Prop :=
  (b = false ∧ opts.tail = false ∧ opts.hint = none) ∨ c.map.length = c.buf.length

theorem MapOK.plain {b : Bool} {opts : Fopts} {c : CState} (h : MapOK b opts c) (d : Bool) : MapOK b { drop := d } c := by
  rcases h with ⟨hb, _, _⟩ | h
  · exact Or.inl ⟨hb, rfl, rfl⟩
  · exact Or.inr h

theorem MapOK.next {b : Bool} {opts : Fopts} {c c1 : CState} (h : MapOK b opts c)
    (hm1 : c.map.length = c.buf.length → c1.map.length = c1.buf.length) : MapOK b opts c1 := by
  rcases h with h | h
  · exact Or.inl h
  · exact Or.inr (hm1 h)

theorem MapOK.of_tail {b : Bool} {opts : Fopts} {c : CState} (h : MapOK b opts c) (ht : opts.tail = true) : c.map.length = c.buf.length := by
  rcases h with ⟨_, h, _⟩ | h
  · rw [ht] at h; exact absurd h (by simp)
  · exact h

theorem MapOK.of_hint {b : Bool} {opts : Fopts} {c : CState} {hs : JSlot} (h : MapOK b opts c) (hh : opts.hint = some hs) :
    c.map.length = c.buf.length := by
  rcases h with ⟨_, _, h⟩ | h
  · rw [hh] at h; exact absurd h (by simp)
  · exact h

theorem MapOK.of_b {opts : Fopts} {c : CState} (h : MapOK true opts c) : c.map.length = c.buf.length := by
  rcases h with ⟨h, _⟩ | h
  · exact absurd h (by simp)
  · exact h

section
variable (p : Program) (f0 : Frame) (rest : List Frame) (V : Array Value) (P : List KConst)

/-- what a compiled form delivers when `Lang/Sem` gives a value, by mode -/
def OkPost (G : String → Prop) (b : Bool) (opts : Fopts) (c c' : CState) (slot : JSlot) (sc : Scope) (rs : List Scope) (pool : List KConst)
    (ps : List (List KConst)) (env env' : Env) (s s' : SS) (v : Value) : Prop :=
  (opts.tail = true → NR c.scopes → TailOK p f0 rest V P G c c' slot sc rs pool ps env s s' v) ∧
  (opts.tail = false → opts.hint = none → Correct2 p f0 rest V P G (opts.drop && b) c c' slot sc rs pool ps env env' s s' v) ∧
  (∀ h rh, opts.tail = false → opts.hint = some h → h.k = .loc rh → slot = h ∧ HintOK p f0 rest V P G c c' rh sc rs pool ps env env' s s' v)

/-- what the compiled form does, as a function of what `Lang/Sem` says of the source form (an error under a hint is not covered) -/
def Post (G : String → Prop) (b : Bool) (opts : Fopts) (c c' : CState) (slot : JSlot) (sc : Scope) (rs : List Scope) (pool : List KConst)
    (ps : List (List KConst)) (cur : Pos) (env : Env) (s : SS) : R (Value × Env) → Prop
  | .ok (v, env') s' => OkPost p f0 rest V P G b opts c c' slot sc rs pool ps env env' s s' v
  | .err ev epos s' => opts.hint = none → c.map.length = c.buf.length → c.cur = cur → ErrOK p f0 rest V P c c' rs ps env s s' ev epos
  | _ => True

/-- compile correctness for every form of `TF G b`, every option set and every outcome, at compile fuel `fuel` -/
def AllAt (G : String → Prop) (b : Bool) (fuel : Nat) : Prop :=
  ∀ (e : Expr) (opts : Fopts) (c c' : CState) (slot : JSlot) (sc : Scope) (rs : List Scope) (pool : List KConst) (ps : List (List KConst))
    (n : Nat) (cur : Pos) (env : Env) (s : SS),
    c.scopes = sc :: rs → c.pools = pool :: ps → c.lim ≤ 240 → sc.top = false → MapOK b opts c → ModePre opts sc → TF G b e →
    cValue fuel opts e c = some (slot, c') → EnvS G c.scopes env s.boxes.size sc.ra →
    Post p f0 rest V P G b opts c c' slot sc rs pool ps cur env s (eval n cur env e s)

variable {p f0 rest V P}

theorem AllAt.correctAt {G : String → Prop} {b : Bool} {fuel : Nat} (h : AllAt p f0 rest V P G b fuel) :
    CorrectAt p f0 rest V P G (TF G b) b fuel :=
  fun e opts c c' slot sc rs pool ps n cur env env' s s' v ht hh hs hp hl htop hm hT hc hsem hE => by
    have hmo : MapOK b opts c := by
      cases b with
      | false => exact Or.inl ⟨rfl, ht, hh⟩
      | true => exact Or.inr (hm rfl)
    have := h e opts c c' slot sc rs pool ps n cur env s hs hp hl htop hmo (ModePre.of_none hh sc) hT hc hE
    rw [hsem] at this
    exact this.2.1 ht hh

theorem AllAt.tailAt {G : String → Prop} {b : Bool} {fuel : Nat} (h : AllAt p f0 rest V P G b fuel) : TailAt p f0 rest V P G (TF G b) fuel :=
  fun e opts c c' slot sc rs pool ps n cur env env' s s' v ht hh hs hp hl htop hm hT hc hsem hE hN => by
    have := h e opts c c' slot sc rs pool ps n cur env s hs hp hl htop (Or.inr hm) (ModePre.of_none hh sc) hT hc hE
    rw [hsem] at this
    exact this.1 ht hN

theorem AllAt.hintAtM {G : String → Prop} {b : Bool} {fuel : Nat} (h : AllAt p f0 rest V P G b fuel) : HintAtM p f0 rest V P G (TF G b) fuel :=
  fun e opts c c' slot sc rs pool ps n cur env env' s s' v hh rh ht hd hhh hk hcf hr hal hrm hs hp hl htop hm hT hc hsem hE => by
    have hpre : ModePre opts sc :=
      ⟨fun h' => absurd h' (by simp [ht]), fun h2 hh2 => by
        rw [hhh] at hh2
        cases hh2
        exact ⟨ht, hd, rh, hk, hcf, hr, hal, hrm⟩⟩
    have := h e opts c c' slot sc rs pool ps n cur env s hs hp hl htop (Or.inr hm) hpre hT hc hE
    rw [hsem] at this
    exact this.2.2 hh rh ht hhh hk

theorem AllAt.errAny {G : String → Prop} {b : Bool} {fuel : Nat} (h : AllAt p f0 rest V P G b fuel) : ErrAny p f0 rest V P G b fuel :=
  fun e opts c c' slot sc rs pool ps n cur env s s' ev epos hh hs hp hl htop hm hcur hT hc hsem hE => by
    have := h e opts c c' slot sc rs pool ps n cur env s hs hp hl htop (Or.inr hm) (ModePre.of_none hh sc) hT hc hE
    rw [hsem] at this
    exact this hh hm hcur

theorem AllAt.errAt {G : String → Prop} {b : Bool} {fuel : Nat} (h : AllAt p f0 rest V P G b fuel) : ErrAt p f0 rest V P G b fuel :=
  fun e opts c c' slot sc rs pool ps n cur env s s' ev epos _ => h.errAny e opts c c' slot sc rs pool ps n cur env s s' ev epos

variable (p f0 rest V P)

theorem OkPost.fin (hP : P.length < 65536)
    (hK : ∀ i, i < P.length → (p.defs.getD f0.defIdx default).consts.getD i .nil = litOf V (P.getD i .nil))
    (G : String → Prop) (b : Bool) (opts : Fopts) (q : Pos) (c c1 c' : CState) (ret slot : JSlot) (sc : Scope) (rs : List Scope)
    (pool : List KConst) (ps : List (List KConst)) (env env' : Env) (s s' : SS) (v : Value)
    (hl : c.lim ≤ 240) (hmo : MapOK b opts c) (hm1 : c.map.length = c.buf.length → c1.map.length = c1.buf.length) (hpre : ModePre opts sc)
    (H : Correct2 p f0 rest V P G false { c with cur := q } c1 ret sc rs pool ps env env' s s' v)
    (hnr : opts.tail = true → NR c.scopes → ret.returned = false)
    (hc : finO opts c.cur (some (ret, c1)) = some (slot, c')) :
    OkPost p f0 rest V P G b opts c c' slot sc rs pool ps env env' s s' v := by
  refine ⟨fun ht hN => ?_, fun ht hh => ?_, fun h rh ht hh hk => ?_⟩
  · rw [finO_t opts ht (hpre.1 ht)] at hc
    obtain ⟨c2, hcr, hc'⟩ := finT_some_inv c.cur ret slot c1 c' hc
    subst hc'
    exact TailOK.recur p f0 rest V P (q := q)
      (tail_ret_core p f0 rest V P hP hK G { c with cur := q } c1 c2 ret slot sc rs pool ps _ _ _ _ _ hl H (hnr ht hN) hcr)
  · rw [finO_o opts ht hh] at hc
    obtain ⟨_, h, rfl⟩ := fin_inv hc
    cases h
    exact Correct2.recur p f0 rest V P (q := q) (Correct2.weaken p f0 rest V P _ H)
  · rw [finO_h opts ht h hh] at hc
    obtain ⟨hsl, c2, hcp, hc'⟩ := finH_inv _ _ _ _ _ _ hc
    obtain ⟨_, _, rh', hk', hcf, hr, hal, hrm⟩ := hpre.2 h hh
    have e : rh' = rh := by rw [hk'] at hk; injection hk
    subst e
    have hm := hmo.of_hint hh
    refine ⟨hsl, ?_⟩
    rw [hc']
    exact HintOK.recur (HintOK.of_copy p f0 rest V P hP hK G { c with cur := q } c1 c2 ret h rh' sc rs pool ps env env' s s' v
      hk' hcf hr hm (hm1 hm) H hcp hrm)

/-- the inner form already delivered in the mode: the copy of the hint into itself and `janetc_return` of a RETURNED slot emit nothing -/
theorem OkPost.fin_same (G : String → Prop) (b : Bool) (opts : Fopts) (q : Pos) (c c1 c' : CState) (ret slot : JSlot) (sc : Scope) (rs : List Scope)
    (pool : List KConst) (ps : List (List KConst)) (env env' : Env) (s s' : SS) (v : Value) (hpre : ModePre opts sc)
    (H : OkPost p f0 rest V P G b opts { c with cur := q } c1 ret sc rs pool ps env env' s s' v)
    (hc : finO opts c.cur (some (ret, c1)) = some (slot, c')) :
    OkPost p f0 rest V P G b opts c c' slot sc rs pool ps env env' s s' v := by
  refine ⟨fun ht hN => ?_, fun ht hh => ?_, fun h rh ht hh hk => ?_⟩
  · have HT := H.1 ht hN
    rw [finO_t opts ht (hpre.1 ht)] at hc
    obtain ⟨c2, hcr, hc'⟩ := finT_some_inv c.cur ret slot c1 c' hc
    rw [cReturn_returned c1 ret HT.1] at hcr
    simp only [Option.some.injEq, Prod.mk.injEq] at hcr
    obtain ⟨e1, e2⟩ := hcr
    subst e1 e2 hc'
    exact TailOK.recur p f0 rest V P (q := q) HT
  · rw [finO_o opts ht hh] at hc
    obtain ⟨_, h, rfl⟩ := fin_inv hc
    cases h
    exact Correct2.recur p f0 rest V P (q := q) (H.2.1 ht hh)
  · obtain ⟨hsl, HH⟩ := H.2.2 h rh ht hh hk
    obtain ⟨_, _, rh', hk', hcf, hr, _, _⟩ := hpre.2 h hh
    have e : rh' = rh := by rw [hk'] at hk; injection hk
    subst e
    rw [finO_h opts ht h hh] at hc
    exact finH_same p f0 rest V P G q h ret slot rh' c c1 c' sc rs pool ps env env' s s' v hk' hcf hr hsl HH hc

/-- after a form that raised: what `janetc_value` still compiles is never reached -/
theorem ErrOK.fin (G : String → Prop) (opts : Fopts) (hh : opts.hint = none) (q : Pos) (ret slot : JSlot) (c c1 c' : CState) (sc : Scope)
    (rs : List Scope) (pool : List KConst) (ps : List (List KConst)) (env : Env) (s s' : SS) (ev : Value) (epos : Pos)
    (hE : ErrOK p f0 rest V P { c with cur := q } c1 rs ps env s s' ev epos) (hS : Shp G { c with cur := q } c1 sc rs pool ps)
    (hc : finO opts c.cur (some (ret, c1)) = some (slot, c')) : ErrOK p f0 rest V P c c' rs ps env s s' ev epos := by
  cases ht : opts.tail with
  | true =>
    rw [finO_t opts ht hh] at hc
    obtain ⟨c2, hcr, rfl⟩ := finT_some_inv c.cur ret slot c1 c' hc
    obtain ⟨sc1, pool1, hs1, hp1, _, _, _⟩ := hS.out
    have A2 : App c1 c2 rs ps :=
      (cReturn_stepR c1 c2 ret slot sc1 rs pool1 ps hs1 hp1 hcr).1.app hs1 hp1 (cReturn_maxR c1 c2 ret slot sc1 rs pool1 ps hs1 hp1 hcr)
    obtain ⟨ra', ns, more, seg, segm, hc1, _⟩ := hS
    exact ErrOK.recur p f0 rest V P (hE.extend seg segm (by rw [hc1]) (by rw [hc1]) A2)
  | false =>
    rw [finO_o opts ht hh] at hc
    obtain ⟨_, h, rfl⟩ := fin_inv hc
    cases h
    exact ErrOK.recur p f0 rest V P hE

theorem OkPost.after (G : String → Prop) (b dr1 : Bool) (opts : Fopts) (c c1 c' : CState) (sl1 slot : JSlot) (sc : Scope) (rs : List Scope)
    (pool : List KConst) (ps : List (List KConst)) (env env1 env' : Env) (s s1 s' : SS) (v1 v : Value)
    (hmo : MapOK b opts c) (hm1 : c.map.length = c.buf.length → c1.map.length = c1.buf.length)
    (h1 : Correct2 p f0 rest V P G dr1 c c1 sl1 sc rs pool ps env env1 s s1 v1) (hN1 : opts.tail = true → NR c.scopes → NR c1.scopes)
    (h2 : ∀ sc1 pool1, c1.scopes = sc1 :: rs → c1.pools = pool1 :: ps → sc1.top = sc.top → c1.lim = c.lim →
          (∀ rh, sc.ra.alloc rh = true → rh ≤ sc.ra.max → sc1.ra.alloc rh = true ∧ rh ≤ sc1.ra.max) →
          EnvS G c1.scopes env1 s1.boxes.size sc1.ra → OkPost p f0 rest V P G b opts c1 c' slot sc1 rs pool1 ps env1 env' s1 s' v) :
    OkPost p f0 rest V P G b opts c c' slot sc rs pool ps env env' s s' v := by
  have h1' := h1
  obtain ⟨ra1, ns1, more1, seg1, segm1, hc1, pv1, mono1, max1, _, bx1, es1, _, vm1⟩ := h1'
  have hs1 : c1.scopes = { sc with ra := ra1, syms := sc.syms ++ ns1 } :: rs := by rw [hc1]
  have hin : ∀ rh, sc.ra.alloc rh = true → rh ≤ sc.ra.max → ra1.alloc rh = true ∧ rh ≤ ra1.max :=
    fun rh hal hrm => ⟨mono1 rh hal, by omega⟩
  have H2 := h2 _ (pool ++ more1) hs1 (by rw [hc1]) rfl (by rw [hc1]) hin es1
  refine ⟨fun ht hN => ?_, fun ht hh => ?_, fun h rh ht hh hk => ?_⟩
  · obtain ⟨hret, ra', ns2, more2, seg2, segm2, hc', pv2, mono2, max2, vm2⟩ := H2.1 ht (hN1 ht hN)
    have max2' : ra1.max ≤ ra'.max := max2
    have D := Delta.trans ⟨hc1, pv1, mono1, max1⟩ ⟨hc', pv2, mono2, max2⟩
    refine ⟨hret, ra', _, _, _, _, D.eq, D.pv, D.mono, D.max, ?_⟩
    · intro k hkw hka hD hcode hpre hV hsz
      obtain ⟨regs1, rch1, sz1, _, _, ed1⟩ :=
        vm1 k hkw hka hD hcode.left (PrefL.trans ⟨more2, by simp [List.append_assoc]⟩ hpre) (PrefA.trans pv2 hV) (by omega)
      obtain ⟨regs2, A, pc2, wa, rch2, sz2, st2⟩ :=
        vm2 { regs := regs1, pc := k.pc + seg1.length, args := #[], w := s1.st.world } rfl rfl ed1 hcode.right
          (by rw [List.append_assoc]; exact hpre) hV (by show ra'.max < regs1.size; omega)
      have sz2' : regs2.size = regs1.size := sz2
      exact ⟨regs2, A, pc2, wa, Reach.trans rch1 rch2, by omega, st2⟩
  · refine h1.comp p f0 rest V P (fun sc1 pool1 a1 a2 a3 a4 a6 => (h2 sc1 pool1 a1 a2 a3 a4 ?_ a6).2.1 ht hh)
    rw [hs1] at a1
    rw [← (List.cons.inj a1).1]
    exact hin
  · obtain ⟨hsl, ra', ns2, more2, seg2, segm2, hc', pv2, mono2, max2, bx2, es2, hlen2, vm2⟩ := H2.2.2 h rh ht hh hk
    have hlen1 : segm1.length = seg1.length := by
      have hb : c1.buf = c.buf ++ seg1 := by rw [hc1]
      have hmm : c1.map = c.map ++ segm1 := by rw [hc1]
      have hm := hmo.of_hint hh
      have := hm1 hm
      rw [hb, hmm] at this
      simp only [List.length_append] at this
      omega
    have max2' : ra1.max ≤ ra'.max := max2
    have D := Delta.trans ⟨hc1, pv1, mono1, max1⟩ ⟨hc', pv2, mono2, max2⟩
    refine ⟨hsl, ra', _, _, _, _, D.eq, D.pv, D.mono, D.max, PrefA.trans bx1 bx2, es2, by simp [hlen1, hlen2], ?_⟩
    · intro k hkw hka hD hcode hpre hV hsz
      obtain ⟨regs1, rch1, sz1, pr1, _, ed1⟩ :=
        vm1 k hkw hka hD hcode.left (PrefL.trans ⟨more2, by simp [List.append_assoc]⟩ hpre) (PrefA.trans pv2 hV) (by omega)
      obtain ⟨regs2, rch2, sz2, pr2, hv2, ed2⟩ :=
        vm2 { regs := regs1, pc := k.pc + seg1.length, args := #[], w := s1.st.world } rfl rfl ed1 hcode.right
          (by rw [List.append_assoc]; exact hpre) hV (by show ra'.max < regs1.size; omega)
      have sz2' : regs2.size = regs1.size := sz2
      refine ⟨regs2, ?_, by omega, fun r hr hne => by rw [pr2 r (mono1 r hr) hne, pr1 r hr], hv2, ed2⟩
      rw [List.length_append]
      exact Runs.seq rch1 rch2

theorem Post.after (G : String → Prop) (b dr1 : Bool) (opts : Fopts) (c c1 c' : CState) (sl1 slot : JSlot) (sc : Scope) (rs : List Scope)
    (pool : List KConst) (ps : List (List KConst)) (cur : Pos) (env env1 : Env) (s s1 : SS) (v1 : Value) (r : R (Value × Env))
    (hmo : MapOK b opts c) (hm1 : c.map.length = c.buf.length → c1.map.length = c1.buf.length)
    (h1 : Correct2 p f0 rest V P G dr1 c c1 sl1 sc rs pool ps env env1 s s1 v1) (hN1 : opts.tail = true → NR c.scopes → NR c1.scopes)
    (hA : c.map.length = c.buf.length → opts.hint = none → App c1 c' rs ps)
    (h2 : ∀ sc1 pool1, c1.scopes = sc1 :: rs → c1.pools = pool1 :: ps → sc1.top = sc.top → c1.lim = c.lim →
          (∀ rh, sc.ra.alloc rh = true → rh ≤ sc.ra.max → sc1.ra.alloc rh = true ∧ rh ≤ sc1.ra.max) →
          EnvS G c1.scopes env1 s1.boxes.size sc1.ra → Post p f0 rest V P G b opts c1 c' slot sc1 rs pool1 ps cur env1 s1 r) :
    Post p f0 rest V P G b opts c c' slot sc rs pool ps cur env s r := by
  match r, h2 with
  | .ok (v, env') s', h2 =>
    exact OkPost.after p f0 rest V P G b dr1 opts c c1 c' sl1 slot sc rs pool ps env env1 env' s s1 s' v1 v hmo hm1 h1 hN1 h2
  | .err ev epos s', h2 =>
    intro hh hm hcur
    have h1' := h1
    obtain ⟨ra1, ns1, more1, seg1, segm1, hc1, _, mono1, max1, _, _, es1, _, _⟩ := h1'
    exact ErrOK.after h1 hm (hm1 hm) (hA hm hh)
      (h2 { sc with ra := ra1, syms := sc.syms ++ ns1 } (pool ++ more1) (by rw [hc1]) (by rw [hc1]) rfl (by rw [hc1])
        (fun rh hal hrm => ⟨mono1 rh hal, by show rh ≤ ra1.max; omega⟩) es1 hh (hm1 hm) (by rw [hc1]; exact hcur))
  | .brk _ _, _ => trivial
  | .stop _, _ => trivial

theorem doBody_all (G : String → Prop) (b : Bool) (fuel : Nat) (IH : AllAt p f0 rest V P G b fuel) :
    ∀ (body : List Expr), (∀ e, e ∈ body → TF G b e) → body ≠ [] →
    ∀ (opts : Fopts) (c c' : CState) (slot : JSlot) (sc : Scope) (rs : List Scope) (pool : List KConst) (ps : List (List KConst))
      (n : Nat) (cur : Pos) (env : Env) (s : SS),
      c.scopes = sc :: rs → c.pools = pool :: ps → c.lim ≤ 240 → sc.top = false → MapOK b opts c → ModePre opts sc →
      doBody (cValue fuel) opts body c = some (slot, c') → EnvS G c.scopes env s.boxes.size sc.ra →
      Post p f0 rest V P G b opts c c' slot sc rs pool ps cur env s (evalSeq n cur env body s) := by
  intro body
  induction body with
  | nil => intro _ hne; exact absurd rfl hne
  | cons x t ih =>
    intro hT _ opts c c' slot sc rs pool ps n cur env s hs hp hl htop hmo hpre hc hE
    have hTx := hT x (by simp)
    cases n with
    | zero => simp only [evalSeq, Post]
    | succ n2 =>
    cases t with
    | nil =>
      simp only [doBody] at hc
      simp only [evalSeq]
      exact IH x opts c c' slot sc rs pool ps n2 cur env s hs hp hl htop hmo hpre hTx hc hE
    | cons y r =>
      simp only [doBody, Option.bind_eq_bind, Option.bind_eq_some_iff, Prod.exists] at hc
      obtain ⟨sl1, c1, hx, c1f, hf, hrest⟩ := hc
      have H1 := IH x { drop := true } c c1 sl1 sc rs pool ps n2 cur env s hs hp hl htop (hmo.plain true) (ModePre.plain true sc) hTx hx hE
      have hTr : ∀ e, e ∈ y :: r → TF G b e := fun e he => hT e (by simp [he])
      have hm1 : c.map.length = c.buf.length → c1.map.length = c1.buf.length := fun hm =>
        (tf_shape G b fuel x { drop := true } c c1 sl1 sc rs pool ps hs hp hm hTx hE.lkl hx).1.mapLen hm
      have hbm := freeslot_bufmap c1 c1f sl1 hf
      have hmf : c.map.length = c.buf.length → c1f.map.length = c1f.buf.length := fun hm => by rw [hbm.1, hbm.2]; exact hm1 hm
      have hN1 : opts.tail = true → NR c.scopes → NR c1.scopes := fun ht hN =>
        (tf_NR_any G b fuel x { drop := true } c c1 sl1 sc rs pool ps hs hp (hmo.of_tail ht) hTx hE.lkl hN hx).1
      have hApp : c.map.length = c.buf.length →
          (App c1 c1f rs ps ∧ App c1f c' rs ps) ∧ ∃ seg segm, c1.buf = c.buf ++ seg ∧ c1.map = c.map ++ segm := by
        intro hm
        obtain ⟨S1, _⟩ := tf_shape G b fuel x { drop := true } c c1 sl1 sc rs pool ps hs hp hm hTx hE.lkl hx
        obtain ⟨sc1, pool1, hs1, hp1, _, hL1, _⟩ := S1.out
        have Rf := freeslot_stepR c1 c1f sl1 sc1 rs pool1 ps hs1 hp1 hf
        have Sf := Rf.shp hs1 hL1
        obtain ⟨sc2, pool2, hs2, hp2, _, hL2, _⟩ := Sf.out
        obtain ⟨SR, MR, _⟩ := doBody_shape_max G b fuel (y :: r) hTr opts c1f c' slot sc2 rs pool2 ps hs2 hp2 (hmf hm) hL2 hrest
        obtain ⟨ra', ns, more, seg, segm, hc1, _⟩ := S1
        exact ⟨⟨Rf.app hs1 hp1 (freeslot_maxR c1 c1f sl1 sc1 rs hs1 hf), SR.app hs2 hp2 MR⟩, seg, segm, by rw [hc1], by rw [hc1]⟩
      rw [evalSeq]
      case x_5 => intro hh; cases hh  -- the equation's side condition: `x :: y :: r` is not a singleton
      cases he : eval n2 cur env x s with
      | ok a s1 =>
        obtain ⟨v1, env1⟩ := a
        rw [he] at H1
        obtain ⟨H1f, hlkf⟩ := (H1.2.1 rfl rfl).freed p f0 rest V P hf
        refine Post.after p f0 rest V P G b _ opts c c1f c' _ slot sc rs pool ps cur env env1 s s1 v1 _ hmo hmf H1f
          (fun ht hN => (hN1 ht hN).of_lk hlkf) (fun hm _ => (hApp hm).1.2) ?_
        intro sc1' pool1' a1 a2 a3 a4 hin hE1
        exact ih hTr (by simp) opts c1f c' slot sc1' rs pool1' ps n2 cur env1 s1 a1 a2 (by rw [a4]; exact hl) (by rw [a3]; exact htop)
          (hmo.next hmf) (hpre.mono hin) hrest hE1
      | err ev epos s' =>
        rw [he] at H1
        intro hh hm hcur
        obtain ⟨⟨A1, A2⟩, seg, segm, e1, e2⟩ := hApp hm
        exact (H1 rfl hm hcur).extend seg segm e1 e2 (A1.trans A2)
      | brk _ _ => exact True.intro
      | stop _ => exact True.intro

theorem const_all (hP : P.length < 65536)
    (hK : ∀ i, i < P.length → (p.defs.getD f0.defIdx default).consts.getD i .nil = litOf V (P.getD i .nil))
    (FF : FloatFacts) (G : String → Prop) (b : Bool) (w : Value) (hw : SimpleLit w) (opts : Fopts)
    (c c' : CState) (slot : JSlot) (sc : Scope) (rs : List Scope) (pool : List KConst) (ps : List (List KConst)) (env : Env) (s : SS)
    (hs : c.scopes = sc :: rs) (hp : c.pools = pool :: ps) (hl : c.lim ≤ 240) (hmo : MapOK b opts c) (hpre : ModePre opts sc)
    (hc : finO opts c.cur (some (constSlot c w)) = some (slot, c')) (hE : EnvS G c.scopes env s.boxes.size sc.ra) :
    OkPost p f0 rest V P G b opts c c' slot sc rs pool ps env env s s w := by
  obtain ⟨vals1, kf, k1, k2, k3, k4⟩ := kOf_spec' FF c w hw
  have cs : constSlot c w = (cslot kf, { c with vals := vals1 }) := by unfold constSlot; rw [k1]
  rw [cs] at hc
  exact OkPost.fin p f0 rest V P hP hK G b opts c.cur c { c with vals := vals1 } c' (cslot kf) slot sc rs pool ps env env s s w
    hl hmo (fun h => h) hpre (atom_const2 p f0 rest V P G c vals1 kf w sc rs pool ps hs hp env s hE k2 k3 k4) (fun _ _ => rfl) hc

theorem lit_all (hP : P.length < 65536)
    (hK : ∀ i, i < P.length → (p.defs.getD f0.defIdx default).consts.getD i .nil = litOf V (P.getD i .nil))
    (FF : FloatFacts) (G : String → Prop) (b : Bool) (fuel : Nat) (w : Value) (hw : SimpleLit w) (opts : Fopts)
    (c c' : CState) (slot : JSlot) (sc : Scope) (rs : List Scope) (pool : List KConst) (ps : List (List KConst))
    (n : Nat) (cur : Pos) (env : Env) (s : SS)
    (hs : c.scopes = sc :: rs) (hp : c.pools = pool :: ps) (hl : c.lim ≤ 240) (hmo : MapOK b opts c) (hpre : ModePre opts sc)
    (hc : cValue (fuel + 1) opts (.lit w) c = some (slot, c')) (hE : EnvS G c.scopes env s.boxes.size sc.ra) :
    Post p f0 rest V P G b opts c c' slot sc rs pool ps cur env s (eval n cur env (.lit w) s) := by
  rw [cValue_lit_any fuel opts w hw c] at hc
  cases n with
  | zero => rw [eval_zero]; exact True.intro
  | succ n =>
    rw [eval_lit]
    exact const_all p f0 rest V P hP hK FF G b w hw opts c c' slot sc rs pool ps env s hs hp hl hmo hpre hc hE

theorem sym_all (hP : P.length < 65536)
    (hK : ∀ i, i < P.length → (p.defs.getD f0.defIdx default).consts.getD i .nil = litOf V (P.getD i .nil))
    (FF : FloatFacts) (G : String → Prop) (b : Bool) (fuel : Nat) (x : String) (opts : Fopts)
    (c c' : CState) (slot : JSlot) (sc : Scope) (rs : List Scope) (pool : List KConst) (ps : List (List KConst))
    (n : Nat) (cur : Pos) (env : Env) (s : SS)
    (hs : c.scopes = sc :: rs) (hp : c.pools = pool :: ps) (hl : c.lim ≤ 240) (hmo : MapOK b opts c) (hpre : ModePre opts sc)
    (hc : cValue (fuel + 1) opts (.sym x) c = some (slot, c')) (hE : EnvS G c.scopes env s.boxes.size sc.ra) :
    Post p f0 rest V P G b opts c c' slot sc rs pool ps cur env s (eval n cur env (.sym x) s) := by
  rw [cValue_sym_any] at hc
  cases n with
  | zero => rw [eval_zero]; exact True.intro
  | succ n =>
    cases hr : resolve c x with
    | none => rw [hr] at hc; exact absurd hc (by simp [finO])
    | some a =>
      obtain ⟨sl, c1⟩ := a
      rw [hr] at hc
      rcases resolve_lkl hE.lkl hr with ⟨hlk, e1, e2⟩ | ⟨e1, _, _, _, u, hlk⟩
      · have hgl : lookupEnv env x = none := by
          rcases hE.2 x with ⟨_, h⟩ | ⟨_, _, _, _, h, _⟩
          · exact h
          · rw [hlk] at h; exact absurd h (by simp)
        rw [eval_sym_global n cur env x s hgl]
        subst e1 e2
        exact const_all p f0 rest V P hP hK FF G b (.cfun x) trivial opts c c' slot sc rs pool ps env s hs hp hl hmo hpre hc hE
      · subst e1
        obtain ⟨_, _, _, _, a, _, hla, _, _, _⟩ := hE.found hlk
        rw [eval_sym_local n cur env x s a hla]
        have H := atom_local2 p f0 rest V P G c1 x sl u sc rs pool ps hs hp env s a hE hlk hla
        exact OkPost.fin p f0 rest V P hP hK G b opts c1.cur c1 c1 c' sl slot sc rs pool ps env env s s (readBox s a)
          hl hmo (fun h => h) hpre H (fun _ hN => hN x sl u true hlk) hc

theorem def_all (hP : P.length < 65536)
    (hK : ∀ i, i < P.length → (p.defs.getD f0.defIdx default).consts.getD i .nil = litOf V (P.getD i .nil))
    (G : String → Prop) (b : Bool) (fuel : Nat) (IH : AllAt p f0 rest V P G b fuel)
    (x : String) (ve : Expr) (pp : Pos) (hGx : ¬ G x) (hTv : TF G b ve) (opts : Fopts)
    (c c' : CState) (slot : JSlot) (sc : Scope) (rs : List Scope) (pool : List KConst) (ps : List (List KConst))
    (n : Nat) (cur : Pos) (env : Env) (s : SS)
    (hs : c.scopes = sc :: rs) (hp : c.pools = pool :: ps) (hl : c.lim ≤ 240) (htop : sc.top = false) (hmo : MapOK b opts c)
    (hpre : ModePre opts sc)
    (hc : cValue (fuel + 1) opts (.form [.sym "def", .sym x, ve] pp) c = some (slot, c'))
    (hE : EnvS G c.scopes env s.boxes.size sc.ra) :
    Post p f0 rest V P G b opts c c' slot sc rs pool ps cur env s (eval n cur env (.form [.sym "def", .sym x, ve] pp) s) := by
  rw [cValue_def_any] at hc
  cases hcc : cDef (cValue fuel) x ve (curAt c pp) with
  | none => rw [hcc] at hc; exact absurd hc (by simp [finO])
  | some res =>
    obtain ⟨ret, c1⟩ := res
    rw [hcc] at hc
    cases n with
    | zero => rw [eval_zero]; exact True.intro
    | succ n2 =>
    rw [eval_def]
    cases hev : eval n2 (posOf cur pp) env ve s with
    | ok a s1 =>
      obtain ⟨v, env1⟩ := a
      cases n2 with
      | zero => rw [eval_zero] at hev; cases hev
      | succ n3 =>
      simp only [destructure, Lang.bind]
      obtain ⟨q, hq⟩ := curAt_eq c pp
      rw [hq] at hcc
      have hmb : b = true → ({ c with cur := q } : CState).map.length = ({ c with cur := q } : CState).buf.length := fun hb => by
        subst hb; exact hmo.of_b
      have H := def_core p f0 rest V P hP hK G (TF G b) b fuel IH.correctAt x ve hGx hTv { c with cur := q } c1 ret sc rs pool ps
        (n3 + 1) (posOf cur pp) env env1 s s1 v hs hp hl htop hmb hcc hev hE
      have hm1 : c.map.length = c.buf.length → c1.map.length = c1.buf.length := fun hm =>
        (cDef_shape_max G b fuel x ve hGx hTv { c with cur := q } c1 ret sc rs pool ps hs hp hm hE.lkl hcc).1.mapLen hm
      have hret : opts.tail = true → NR c.scopes → ret.returned = false := by
        intro ht hN
        have hm := hmo.of_tail ht
        have hct : curTop ({ c with cur := q } : CState) = false := by simp [curTop, hs, htop]
        simp only [cDef, hct, Bool.false_eq_true, if_false, Option.bind_eq_bind, Option.bind_eq_some_iff, Prod.exists, Option.pure_def,
          Option.some.injEq, Prod.mk.injEq] at hcc
        obtain ⟨r, c1', hv, c2', hnl, hslot, _⟩ := hcc
        rw [← hslot]
        exact (tf_NR_any G b fuel ve {} { c with cur := q } c1' r sc rs pool ps hs hp hm hTv hE.lkl hN hv).2 rfl rfl
      exact OkPost.fin p f0 rest V P hP hK G b opts q c c1 c' ret slot sc rs pool ps env _ s _ v hl hmo hm1 hpre H hret hc
    | err ev epos s' =>
      intro hh hm hcur
      have hq := posOf_curAt c cur pp hcur
      rw [hq] at hcc
      have hS := (cDef_shape_max G b fuel x ve hGx hTv { c with cur := posOf cur pp } c1 ret sc rs pool ps hs hp hm hE.lkl hcc).1
      have key : ErrOK p f0 rest V P { c with cur := posOf cur pp } c1 rs ps env s s' ev epos := by
        have hct : curTop ({ c with cur := posOf cur pp } : CState) = false := by simp [curTop, hs, htop]
        simp only [cDef, hct, Bool.false_eq_true, if_false, Option.bind_eq_bind, Option.bind_eq_some_iff, Prod.exists, Option.pure_def,
          Option.some.injEq, Prod.mk.injEq] at hcc
        obtain ⟨r, c1a, hv, c2, hnl, _, hc2⟩ := hcc
        rw [← hc2]
        have E1 := IH ve {} { c with cur := posOf cur pp } c1a r sc rs pool ps n2 (posOf cur pp) env s hs hp hl htop (Or.inr hm)
          (ModePre.plain false sc) hTv hv hE
        rw [hev] at E1
        obtain ⟨S1, hsl'⟩ := tf_shape G b fuel ve {} { c with cur := posOf cur pp } c1a r sc rs pool ps hs hp hm hTv hE.lkl hv
        have hsl := hsl' rfl rfl
        obtain ⟨sc1, pool1, hs1, hp1, _, hL1, _⟩ := S1.out
        have S2 := namelocal_shape G c1a c2 x r sc1 rs pool1 ps hs1 hp1 hL1 hGx hsl hnl
        have M2 := namelocal_maxR c1a c2 x r sc1 rs pool1 ps hs1 hp1 hsl hnl
        obtain ⟨ra', ns, more, seg, segm, hc1, _⟩ := S1
        exact (E1 rfl hm rfl).extend seg segm (by rw [hc1]) (by rw [hc1]) (S2.app hs1 hp1 M2)
      exact ErrOK.fin p f0 rest V P G opts hh (posOf cur pp) ret slot c c1 c' sc rs pool ps env s s' ev epos key hS hc
    | brk _ _ => exact True.intro
    | stop _ => exact True.intro

theorem Post.fin_same (G : String → Prop) (b : Bool) (opts : Fopts) (q cur' : Pos) (c c1 c' : CState) (ret slot : JSlot) (sc : Scope) (rs : List Scope)
    (pool : List KConst) (ps : List (List KConst)) (cur : Pos) (env : Env) (s : SS) (r : R (Value × Env)) (hpre : ModePre opts sc)
    (H : Post p f0 rest V P G b opts { c with cur := q } c1 ret sc rs pool ps cur' env s r) (hq : c.cur = cur → q = cur')
    (hS : opts.hint = none → c.map.length = c.buf.length → Shp G { c with cur := q } c1 sc rs pool ps)
    (hc : finO opts c.cur (some (ret, c1)) = some (slot, c')) :
    Post p f0 rest V P G b opts c c' slot sc rs pool ps cur env s r := by
  match r, H with
  | .ok (v, env') s', H => exact OkPost.fin_same p f0 rest V P G b opts q c c1 c' ret slot sc rs pool ps env env' s s' v hpre H hc
  | .err ev epos s', H =>
    intro hh hm hcur
    exact ErrOK.fin p f0 rest V P G opts hh q ret slot c c1 c' sc rs pool ps env s s' ev epos (H hh hm (hq hcur)) (hS hh hm) hc
  | .brk _ _, _ => trivial
  | .stop _, _ => trivial

theorem curAt_cur (c : CState) (pp : Pos) : curAt c pp = { c with cur := (curAt c pp).cur } := by
  unfold curAt; split <;> rfl

/-- a form with a source position: `janetc_value` moves the mapping cursor to the form, compiles it (`inner`), restores the cursor
    and ends by `finO`; `Lang/Sem` evaluates the form's parts at `posOf cur pp` -/
theorem Post.form (G : String → Prop) (b : Bool) (opts : Fopts) (inner : CState → Option (JSlot × CState)) (pp : Pos) (c c' : CState)
    (slot : JSlot) (sc : Scope) (rs : List Scope) (pool : List KConst) (ps : List (List KConst)) (cur : Pos) (env : Env) (s : SS)
    (r : R (Value × Env)) (hpre : ModePre opts sc) (hc : finO opts c.cur (inner (curAt c pp)) = some (slot, c'))
    (H : ∀ q slot0 cq, (c.cur = cur → q = posOf cur pp) → inner { c with cur := q } = some (slot0, cq) →
      Post p f0 rest V P G b opts { c with cur := q } cq slot0 sc rs pool ps (posOf cur pp) env s r ∧
      (opts.hint = none → c.map.length = c.buf.length → Shp G { c with cur := q } cq sc rs pool ps)) :
    Post p f0 rest V P G b opts c c' slot sc rs pool ps cur env s r := by
  cases hcc : inner (curAt c pp) with
  | none => rw [hcc] at hc; exact absurd hc (by simp [finO])
  | some res =>
    obtain ⟨slot0, cq⟩ := res
    rw [hcc] at hc
    rw [curAt_cur c pp] at hcc
    have hq : c.cur = cur → (curAt c pp).cur = posOf cur pp := fun hcur => by rw [posOf_curAt c cur pp hcur]
    obtain ⟨D, hS⟩ := H _ slot0 cq hq hcc
    exact Post.fin_same p f0 rest V P G b opts _ (posOf cur pp) c cq c' slot0 slot sc rs pool ps cur env s r hpre D hq hS hc

/-- block scope around a body in tail position: the pop after the returning statement is compile-only -/
theorem TailOK_block (G : String → Prop) (c c2 c3 : CState) (r : JSlot) (sc : Scope) (rs : List Scope) (pool : List KConst)
    (ps : List (List KConst)) (env : Env) (s s' : SS) (v : Value) (hs : c.scopes = sc :: rs)
    (H : TailOK p f0 rest V P G { c with scopes := blk c sc false :: sc :: rs } c2 r (blk c sc false) (sc :: rs) pool ps env s s' v)
    (hpop : popScopeKeep c2 r = some c3) : TailOK p f0 rest V P G c c3 r sc rs pool ps env s s' v := by
  obtain ⟨hret, ra2, ns2, more2, seg2, segm2, hc2, pv2, mono2, max2, vm2⟩ := H
  obtain ⟨raX, D, hmax, hv3, _, hlk1, _⟩ := Delta.block c.buf.length hs ⟨hc2, pv2, mono2, max2⟩ hpop
  refine ⟨hret, raX, _, more2, seg2, segm2, D.eq, D.pv, D.mono, D.max, ?_⟩
  intro k hkw hka hD hcode hpre hV hsz
  rw [hv3] at hV
  exact vm2 k hkw hka (hD.of_lk hlk1) hcode hpre hV (Nat.lt_of_le_of_lt hmax hsz)

theorem ups_all (hP : P.length < 65536)
    (hK : ∀ i, i < P.length → (p.defs.getD f0.defIdx default).consts.getD i .nil = litOf V (P.getD i .nil))
    (G : String → Prop) (b : Bool) (fuel : Nat) (IH : AllAt p f0 rest V P G b fuel)
    (body : List Expr) (pp : Pos) (hTb : ∀ e, e ∈ body → TF G b e) (opts : Fopts)
    (c c' : CState) (slot : JSlot) (sc : Scope) (rs : List Scope) (pool : List KConst) (ps : List (List KConst))
    (n : Nat) (cur : Pos) (env : Env) (s : SS)
    (hs : c.scopes = sc :: rs) (hp : c.pools = pool :: ps) (hl : c.lim ≤ 240) (htop : sc.top = false) (hmo : MapOK b opts c)
    (hpre : ModePre opts sc)
    (hc : cValue (fuel + 1) opts (.form (.sym "upscope" :: body) pp) c = some (slot, c'))
    (hE : EnvS G c.scopes env s.boxes.size sc.ra) :
    Post p f0 rest V P G b opts c c' slot sc rs pool ps cur env s (eval n cur env (.form (.sym "upscope" :: body) pp) s) := by
  rw [cValue_upscope_any] at hc
  cases n with
  | zero => rw [eval_zero]; exact True.intro
  | succ n2 =>
    rw [eval_upscope]
    cases body with
    | nil =>
      simp only [doBody] at hc
      rw [curAt_cur c pp] at hc
      cases n2 with
      | zero => simp only [evalSeq]; exact True.intro
      | succ n3 =>
        simp only [evalSeq]
        exact OkPost.fin p f0 rest V P hP hK G b opts (curAt c pp).cur c { c with cur := (curAt c pp).cur } c' (cslot .nil) slot sc rs pool ps
          env env s s .nil hl hmo (fun h => h) hpre
          (atom_nil2 p f0 rest V P G { c with cur := (curAt c pp).cur } sc rs pool ps hs hp env s hE) (fun _ _ => rfl) hc
    | cons x t =>
      refine Post.form p f0 rest V P G b opts _ pp c c' slot sc rs pool ps cur env s _ hpre hc (fun q slot0 cq _ hcc =>
        ⟨?_, fun _ hm => (doBody_shape_max G b fuel (x :: t) hTb opts { c with cur := q } cq slot0 sc rs pool ps hs hp hm hE.lkl hcc).1⟩)
      exact doBody_all p f0 rest V P G b fuel IH (x :: t) hTb (by simp) opts { c with cur := q } cq slot0 sc rs pool ps
        n2 (posOf cur pp) env s hs hp hl htop hmo hpre hcc hE

theorem do_all (hP : P.length < 65536)
    (hK : ∀ i, i < P.length → (p.defs.getD f0.defIdx default).consts.getD i .nil = litOf V (P.getD i .nil))
    (G : String → Prop) (b : Bool) (fuel : Nat) (IH : AllAt p f0 rest V P G b fuel)
    (body : List Expr) (pp : Pos) (hTb : ∀ e, e ∈ body → TF G b e) (opts : Fopts)
    (c c' : CState) (slot : JSlot) (sc : Scope) (rs : List Scope) (pool : List KConst) (ps : List (List KConst))
    (n : Nat) (cur : Pos) (env : Env) (s : SS)
    (hs : c.scopes = sc :: rs) (hp : c.pools = pool :: ps) (hl : c.lim ≤ 240) (hmo : MapOK b opts c)
    (hpre : ModePre opts sc)
    (hc : cValue (fuel + 1) opts (.form (.sym "do" :: body) pp) c = some (slot, c'))
    (hE : EnvS G c.scopes env s.boxes.size sc.ra) :
    Post p f0 rest V P G b opts c c' slot sc rs pool ps cur env s (eval n cur env (.form (.sym "do" :: body) pp) s) := by
  rw [cValue_do_any] at hc
  cases n with
  | zero => rw [eval_zero]; exact True.intro
  | succ n2 =>
    rw [eval_do]
    have hlk1 : ∀ y, lk (blk c sc false :: sc :: rs) y = lk c.scopes y := by
      intro y; rw [hs]; exact lk_push _ _ rfl rfl rfl y
    have hE1 : EnvS G (blk c sc false :: sc :: rs) env s.boxes.size (blk c sc false).ra :=
      hE.of_lk hlk1 (Nat.le_refl _) (fun _ _ _ _ _ _ _ h' => h')
    cases body with
    | nil =>
      obtain ⟨q, hq⟩ := curAt_eq c pp
      rw [hq] at hc
      simp only [cDo, doBody, Option.bind_eq_bind, Option.bind_some, Option.pure_def] at hc
      rw [pushScope_blk { c with cur := q } sc rs false hs] at hc
      generalize hpop : popScopeKeep _ (cslot .nil) = o at hc
      cases o with
      | none => exact absurd hc (by simp [finO])
      | some c3 =>
        simp only [Option.bind_some] at hc
        cases hseq : evalSeq n2 (posOf cur pp) env [] s with
        | ok a s' =>
          obtain ⟨v, envb⟩ := a
          obtain ⟨rfl, _, rfl⟩ := evalSeq_nil_inv n2 _ env envb s s' v hseq
          have H := Correct2.block p f0 rest V P c.buf.length (c := { c with cur := q }) hs hE
            (atom_nil2 p f0 rest V P G { c with cur := q, scopes := blk c sc false :: sc :: rs } (blk c sc false) (sc :: rs) pool ps rfl hp env s' hE1) hpop
          have hm1 : c.map.length = c.buf.length → c3.map.length = c3.buf.length := fun hm => by
            obtain ⟨raX, hc3, _⟩ := popScopeKeep_block _ c3 (cslot .nil) (blk c sc false) sc rs rfl rfl rfl rfl hpop
            rw [hc3]; exact hm
          exact OkPost.fin p f0 rest V P hP hK G b opts q c c3 c' (cslot .nil) slot sc rs pool ps env env s' s' .nil hl hmo hm1 hpre H
            (fun _ _ => rfl) hc
        | err ev epos s' => exact absurd hseq (evalSeq_nil_err n2 _ env s s' ev epos)
        | brk _ _ => exact True.intro
        | stop _ => exact True.intro
    | cons x t =>
      refine Post.form p f0 rest V P G b opts _ pp c c' slot sc rs pool ps cur env s _ hpre hc (fun q r c3 _ hcc =>
        ⟨?_, fun _ hm => (cDo_shape_max G b fuel (x :: t) hTb opts { c with cur := q } c3 r sc rs pool ps hs hp hm hE.lkl hcc).1⟩)
      simp only [cDo, Option.bind_eq_bind, Option.bind_eq_some_iff, Prod.exists, Option.pure_def, Option.some.injEq, Prod.mk.injEq] at hcc
      obtain ⟨r', c2, hbody, c3', hpop, rfl, rfl⟩ := hcc
      rw [pushScope_blk { c with cur := q } sc rs false hs] at hbody
      have B := doBody_all p f0 rest V P G b fuel IH (x :: t) hTb (by simp) opts { c with cur := q, scopes := blk c sc false :: sc :: rs } c2 r'
        (blk c sc false) (sc :: rs) pool ps n2 (posOf cur pp) env s rfl hp hl rfl hmo hpre hbody hE1
      cases hseq : evalSeq n2 (posOf cur pp) env (x :: t) s with
      | ok a s' =>
        obtain ⟨v, envb⟩ := a
        rw [hseq] at B
        refine ⟨fun ht hN => ?_, fun ht hh => ?_, fun h rh ht hh hk => ?_⟩
        · exact TailOK_block p f0 rest V P G { c with cur := q } c2 c3' r' sc rs pool ps env s s' v hs (B.1 ht (hN.of_lk hlk1)) hpop
        · exact Correct2.block p f0 rest V P c.buf.length (c := { c with cur := q }) hs hE (B.2.1 ht hh) hpop
        · obtain ⟨hsl, HH⟩ := B.2.2 h rh ht hh hk
          exact ⟨hsl, HintOK_block p f0 rest V P G { c with cur := q } c2 c3' r' rh sc rs pool ps env envb s s' v hs hE HH hpop⟩
      | err ev epos s' =>
        rw [hseq] at B
        intro hh hm hcur
        have E1 := B hh hm hcur
        have S1 := (doBody_shape_max G b fuel (x :: t) hTb opts { c with cur := q, scopes := blk c sc false :: sc :: rs } c2 r'
          (blk c sc false) (sc :: rs) pool ps rfl hp hm hE1.lkl hbody).1
        obtain ⟨ra2, ns2, more2, seg2, segm2, hc2, _⟩ := S1
        have hs2 : c2.scopes = { blk c sc false with ra := ra2, syms := (blk c sc false).syms ++ ns2 } :: sc :: rs := by rw [hc2]
        obtain ⟨raX, hc3', hmaxX, _, _⟩ := popScopeKeep_block c2 c3' r' _ sc rs hs2 rfl rfl rfl hpop
        have hmaxX' : raX.max = (if sc.ra.max < ra2.max then ra2.max else sc.ra.max) := hmaxX
        refine ErrOK.block (c := { c with cur := q }) hs hs2 E1 ?_ (by rw [hc3']) (by rw [hc3']) (by rw [hc3']) (by rw [hc3'])
        intro sc3 h3
        rw [hc3'] at h3
        rw [← (List.cons.inj h3).1]
        show ra2.max ≤ raX.max
        rw [hmaxX']; split <;> omega
      | brk _ _ => exact True.intro
      | stop _ => exact True.intro

/-- what the call form says, given what the application says -/
def appRes (env_a : Env) : R Value → R (Value × Env)
  | .ok v s' => .ok (v, env_a) s'
  | .err e q s' => .err e q s'
  | .brk v s' => .brk v s'
  | .stop why => .stop why

/-- a call of a global core function, as a function of what its operands and the application say -/
theorem eval_call_global (n : Nat) (cur : Pos) (env : Env) (f : String) (args : List Expr) (pp : Pos) (s : SS)
    (hf : specials.contains f = false) (hg : lookupEnv env f = none) :
    eval (n + 2) cur env (.form (.sym f :: args) pp) s =
      (match evalArgs (n + 1) (posOf cur pp) env args s with
       | .ok (vs, env_a) s_a => appRes env_a (applyFn (n + 1) (posOf cur pp) (.cfun f) vs s_a)
       | .err e q s' => .err e q s'
       | .brk v s' => .brk v s'
       | .stop why => .stop why) := by
  rw [eval_call (n + 1) cur env f args pp s hf, eval_sym_global n _ env f s hg]
  simp only
  cases evalArgs (n + 1) (posOf cur pp) env args s with
  | ok a s_a => cases applyFn (n + 1) (posOf cur pp) (.cfun f) a.1 s_a <;> rfl
  | err _ _ _ => rfl
  | brk _ _ => rfl
  | stop _ => rfl

/-- a call whose operands evaluate: the prefix every call shares (`call_pre`), then the call instruction the options choose
    (`cCallOut`), by the outcome of the application -/
theorem call_core (hP : P.length < 65536)
    (hK : ∀ i, i < P.length → (p.defs.getD f0.defIdx default).consts.getD i .nil = litOf V (P.getD i .nil))
    (FF : FloatFacts) (G : String → Prop) (b : Bool) (fuel : Nat) (CN : CorrectAt p f0 rest V P G (TF G b) b fuel)
    (f : String) (args : List Expr) (hna : f ≠ "apply") (hG : G f) (hTa : ∀ a, a ∈ args → TF G b a)
    (opts : Fopts) (c cq : CState) (slot0 : JSlot) (sc : Scope) (rs : List Scope) (pool : List KConst) (ps : List (List KConst))
    (n2 : Nat) (pos : Pos) (env env_a : Env) (s s_a : SS) (vs : List Value)
    (hs : c.scopes = sc :: rs) (hp : c.pools = pool :: ps) (hl : c.lim ≤ 240) (htop : sc.top = false)
    (hmb : b = true → c.map.length = c.buf.length) (hmh : ∀ h, opts.hint = some h → c.map.length = c.buf.length) (hpre : ModePre opts sc)
    (hcc : cCall (cValue fuel) opts (.sym f) args c = some (slot0, cq))
    (hsa : evalArgs (n2 + 1) pos env args s = .ok (vs, env_a) s_a) (hE : EnvS G c.scopes env s.boxes.size sc.ra) :
    Post p f0 rest V P G b opts c cq slot0 sc rs pool ps pos env s (appRes env_a (applyFn (n2 + 1) pos (.cfun f) vs s_a)) := by
  obtain ⟨head, c1, slots, c2, c3, c4, c5, h1, h2, h3, hO, hf1, hf2⟩ := cCall_inv (cValue fuel) opts (.sym f) args c cq slot0 hcc
  obtain ⟨kf, ra2, ns2, more2, seg2, segm2, ra3, more3, seg3, segm3, hhead, X⟩ :=
    call_pre p f0 rest V P hP hK FF G b b fuel CN f args hG hTa c c1 c2 c3 head slots sc rs pool ps n2 pos env env_a s s_a vs hs hp hl htop hmb
      h1 h2 h3 hsa hE
  subst hhead
  rw [freeslot_const c5 (cslot kf) rfl] at hf2
  have hcq : c5 = cq := Option.some.inj hf2
  subst hcq
  have hct : curTop c3 = false := by rw [X.hc3]; simp [curTop, htop]
  cases happ : applyFn (n2 + 1) pos (.cfun f) vs s_a with
  | ok v s' =>
    refine ⟨fun ht _ => ?_, fun ht hh => ?_, fun h rh ht hh hk => ?_⟩
    · obtain ⟨hem, hsl⟩ := cCallOut_tail ht hct hO
      subst hsl
      exact tail_call_ok p f0 rest V P hP hK G f hna X hl hem hf1 n2 pos s' v happ
    · obtain ⟨cT, hT, hEm⟩ := cCallOut_plain ht hh hO
      exact Correct2.weaken p f0 rest V P _ (callN_core p f0 rest V P hP hK G f hna X hl hT hEm hf1 n2 pos s' v happ)
    · obtain ⟨_, _, rh', hk', _, hr, hal, hrm⟩ := hpre.2 h hh
      have e : rh' = rh := by rw [hk'] at hk; injection hk
      subst e
      obtain ⟨hsl, hEm⟩ := cCallOut_hint ht hh hk' (by omega) hO
      exact ⟨hsl, hint_call_core p f0 rest V P hP hK G f hna X hl (hmh h hh) h rh' hk' hr hal hrm hEm hf1 n2 pos s' v happ⟩
  | err ev epos s' =>
    intro hh hm hcur
    rw [← hcur] at happ
    cases ht : opts.tail with
    | true =>
      obtain ⟨hem, _⟩ := cCallOut_tail ht hct hO
      exact err_tailcall_core p f0 rest V P hP hK G f hna X hl hm hem hf1 n2 s' ev epos happ
    | false =>
      obtain ⟨cT, hT, hEm⟩ := cCallOut_plain ht hh hO
      exact err_call_core p f0 rest V P hP hK G f hna X hl hm hT hEm hf1 n2 s' ev epos happ
  | brk _ _ => exact True.intro
  | stop _ => exact True.intro

theorem call_all (hP : P.length < 65536)
    (hK : ∀ i, i < P.length → (p.defs.getD f0.defIdx default).consts.getD i .nil = litOf V (P.getD i .nil))
    (FF : FloatFacts) (G : String → Prop) (b : Bool) (fuel : Nat) (IH : AllAt p f0 rest V P G b fuel)
    (f : String) (args : List Expr) (pp : Pos) (hf : specials.contains f = false) (hna : f ≠ "apply") (hG : G f) (hTa : ∀ a, a ∈ args → TF G b a)
    (opts : Fopts) (c c' : CState) (slot : JSlot) (sc : Scope) (rs : List Scope) (pool : List KConst) (ps : List (List KConst))
    (n : Nat) (cur : Pos) (env : Env) (s : SS)
    (hs : c.scopes = sc :: rs) (hp : c.pools = pool :: ps) (hl : c.lim ≤ 240) (htop : sc.top = false) (hmo : MapOK b opts c)
    (hpre : ModePre opts sc)
    (hc : cValue (fuel + 1) opts (.form (.sym f :: args) pp) c = some (slot, c'))
    (hE : EnvS G c.scopes env s.boxes.size sc.ra) :
    Post p f0 rest V P G b opts c c' slot sc rs pool ps cur env s (eval n cur env (.form (.sym f :: args) pp) s) := by
  rw [cValue_call_any fuel opts f args pp c hf] at hc
  have hmb : b = true → c.map.length = c.buf.length := fun hb => by subst hb; exact hmo.of_b
  have hgl : lookupEnv env f = none := EnvS.gfree hE f hG
  refine Post.form p f0 rest V P G b opts _ pp c c' slot sc rs pool ps cur env s _ hpre hc (fun q slot0 cq _ hcc =>
    ⟨?_, fun _ hm => (cCall_shape_max G b fuel f args hTa opts { c with cur := q } cq slot0 sc rs pool ps hs hp hm hE.lkl hcc).1⟩)
  match n with
  | 0 => rw [eval_zero]; exact True.intro
  | 1 => rw [eval_call 0 cur env f args pp s hf, eval_zero]; exact True.intro
  | n2 + 2 =>
    rw [eval_call_global n2 cur env f args pp s hf hgl]
    cases hsa : evalArgs (n2 + 1) (posOf cur pp) env args s with
    | ok a s_a =>
      exact call_core p f0 rest V P hP hK FF G b fuel IH.correctAt f args hna hG hTa opts { c with cur := q } cq slot0 sc rs
        pool ps n2 (posOf cur pp) env a.2 s s_a a.1 hs hp hl htop hmb (fun h hh => hmo.of_hint hh) hpre hcc hsa hE
    | err ev epos s' =>
      intro hh hm hcur
      exact call_args_err p f0 rest V P FF G b b fuel IH.correctAt IH.errAny opts hh f args hG hTa { c with cur := q } cq slot0
        sc rs pool ps (n2 + 1) (posOf cur pp) env s s' ev epos hs hp hl htop hm hcur hcc hsa hE
    | brk _ _ => exact True.intro
    | stop _ => exact True.intro

/-- `(if c a [b])`: the compile taken apart once, then the reading of `if_any` for the options and the outcome -/
theorem if_all (hP : P.length < 65536)
    (hK : ∀ i, i < P.length → (p.defs.getD f0.defIdx default).consts.getD i .nil = litOf V (P.getD i .nil))
    (G : String → Prop) (fuel : Nat) (IH : AllAt p f0 rest V P G true fuel)
    (cnd tb : Expr) (els : List Expr) (pp : Pos) (hok : CondOK cnd) (hlen : els.length ≤ 1) (hTc : TF G true cnd) (hTt : TF G true tb)
    (hTe : ∀ e, e ∈ els → TF G true e)
    (opts : Fopts) (c c' : CState) (slot : JSlot) (sc : Scope) (rs : List Scope) (pool : List KConst) (ps : List (List KConst))
    (n : Nat) (cur : Pos) (env : Env) (s : SS)
    (hs : c.scopes = sc :: rs) (hp : c.pools = pool :: ps) (hl : c.lim ≤ 240) (hmo : MapOK true opts c)
    (hpre : ModePre opts sc)
    (hc : cValue (fuel + 1) opts (.form (.sym "if" :: cnd :: tb :: els) pp) c = some (slot, c'))
    (hE : EnvS G c.scopes env s.boxes.size sc.ra) :
    Post p f0 rest V P G true opts c c' slot sc rs pool ps cur env s (eval n cur env (.form (.sym "if" :: cnd :: tb :: els) pp) s) := by
  have hm := hmo.of_b
  have IHn := IH.correctAt
  have hTf : TF G true (els.headD (.lit .nil)) := by
    cases els with
    | nil => exact .lit .nil trivial
    | cons e _ => exact hTe e (by simp)
  have hq := curAt_cur c pp
  have hqc : c.cur = cur → (curAt c pp).cur = posOf cur pp := fun hcur => by rw [posOf_curAt c cur pp hcur]
  cases ht : opts.tail with
  | false =>
    rw [cValue_if_any fuel opts ht, cIf_le1 _ _ _ _ _ _ hlen] at hc
    cases hcc : cIfBody (cValue fuel) opts cnd tb (els.headD (.lit .nil)) (curAt c pp) with
    | none => rw [hcc] at hc; exact absurd hc (by simp [finO])
    | some res =>
      obtain ⟨slot0, cq⟩ := res
      rw [hcc] at hc
      rw [hq] at hcc
      obtain ⟨target, c1, cond, c3, hT, hcond, hst, es⟩ := cIfBody_run fuel opts cnd tb _ _ cq slot0 hcc
      cases hsem : eval n cur env (.form (.sym "if" :: cnd :: tb :: els) pp) s with
      | ok a s' =>
        obtain ⟨v, env'⟩ := a
        obtain ⟨n2, cv, cenv, s1, envb, _, hsc, henv, hsb⟩ := eval_if_inv n cur env env' cnd tb els pp s s' v hsem
        subst henv
        refine OkPost.fin_same p f0 rest V P G true opts (curAt c pp).cur c cq c' slot0 slot sc rs pool ps env' env' s s' v hpre
          ⟨fun h' => absurd h' (by simp [ht]), fun _ hh => ?_, fun h rh _ hh hk => ?_⟩ hc
        · rw [Bool.and_true]
          exact if_value p f0 rest V P hP hK G true true fuel IHn cnd tb _ hTc hTt hTf opts ht hh { c with cur := (curAt c pp).cur } cq slot0 sc rs
            pool ps n2 (posOf cur pp) env' cenv envb s s1 s' cv v hs hp hl hm target c1 c3 cond hT hcond hst es hsc
            (fun raT hc1 => condT_at hok hTc (c := { c with cur := (curAt c pp).cur }) hs hc1 hE hcond hsc) hsb hE
        · obtain ⟨_, hd, rh', hk', hcf, hr, hal, hrm⟩ := hpre.2 h hh
          have e : rh' = rh := by rw [hk'] at hk; injection hk
          subst e
          rw [hd] at hT hst
          simp only [Bool.false_eq_true, if_false] at hT
          obtain ⟨htg, hc1⟩ := getTarget_hint _ c1 opts target h rh' hh hk' (by omega) hT
          subst htg hc1
          exact ⟨es, if_hint p f0 rest V P G true true fuel IHn IH.hintAtM cnd tb _ hTc hTt hTf opts ht hd target rh' hh hk' hcf hr
            { c with cur := (curAt c pp).cur } cq sc rs pool ps n2 (posOf cur pp) env' cenv envb s s1 s' cv v hs hp hl hm hal hrm c3 cond hcond
            (by rw [hd]; exact hst) hsc
            (condT_at hok hTc (c := { c with cur := (curAt c pp).cur }) hs (cstate_scopes_eta _ sc rs hs) hE hcond hsc) hsb hE⟩
      | err ev epos s' =>
        intro hh _ hcur
        obtain ⟨raT, hc1, monoT, _⟩ := if_target { c with cur := (curAt c pp).cur } c1 opts hh target sc rs hs hl hT
        have E : ErrOK p f0 rest V P { c with cur := (curAt c pp).cur } cq rs ps env s s' ev epos := by
          obtain ⟨n2, _, hcase⟩ := eval_if_err_inv n cur env cnd tb els pp s s' ev epos hsem
          rcases hcase with hsc | ⟨cv, cenv, s1, hsc, hsb⟩
          · exact if_cond_err p f0 rest V P G true fuel IH.errAny cnd tb _ hTc hTt hTf opts _ _ target _ cq sc rs pool ps n2 (posOf cur pp) env s s'
              ev epos hs hp hl hm (hqc hcur) c1 c3 cond raT hc1 monoT hcond hst hsc hE
          · exact if_err p f0 rest V P G true true fuel IHn cnd tb _ hTc hTt hTf opts _ _ target _ cq sc rs pool ps n2 (posOf cur pp) env cenv
              s s1 s' cv ev epos
              (fun x hx => branch_err p f0 rest V P G true fuel IH.errAny x hx opts hh _ target n2 (posOf cur pp) cenv s1 s' ev epos)
              hs hp hl hm (hqc hcur) c1 c3 cond raT hc1 monoT hcond hst hsc
              (condT_at hok hTc (c := { c with cur := (curAt c pp).cur }) hs hc1 hE hcond hsc) hsb hE
        rw [finO_o opts ht hh] at hc
        obtain ⟨c1', e1, rfl⟩ := fin_inv hc
        simp only [Option.some.injEq, Prod.mk.injEq] at e1
        rw [← e1.2]
        exact ErrOK.recur p f0 rest V P E
      | brk _ _ => exact True.intro
      | stop _ => exact True.intro
  | true =>
    have hh := hpre.1 ht
    rw [cValue_if_any_t fuel opts ht, cIfT_le1 _ _ _ _ _ _ hlen] at hc
    cases hcc : cIfBodyT (cValue fuel) opts cnd tb (els.headD (.lit .nil)) (curAt c pp) with
    | none => rw [hcc] at hc; exact absurd hc (by simp [finO])
    | some res =>
      obtain ⟨slot0, cq⟩ := res
      rw [hcc] at hc
      rw [hq] at hcc
      obtain ⟨cond, c3, hcond, hst, hret, hnil⟩ := cIfBodyT_run fuel opts ht cnd tb _ _ cq slot0 hcc
      have hc1 := cstate_scopes_eta ({ c with cur := (curAt c pp).cur } : CState) sc rs hs
      cases hsem : eval n cur env (.form (.sym "if" :: cnd :: tb :: els) pp) s with
      | ok a s' =>
        obtain ⟨v, env'⟩ := a
        obtain ⟨n2, cv, cenv, s1, envb, _, hsc, henv, hsb⟩ := eval_if_inv n cur env env' cnd tb els pp s s' v hsem
        subst henv
        refine ⟨fun _ hN => ?_, fun h' => absurd h' (by simp [ht]), fun _ _ h' => absurd h' (by simp [ht])⟩
        have H := if_tail p f0 rest V P G true true fuel IHn IH.tailAt cnd tb _ hTc hTt hTf opts ht hh
          { c with cur := (curAt c pp).cur } cq sc rs pool ps n2 (posOf cur pp) env' cenv envb s s1 s' cv v hs hp hl hm c3 cond hcond hst hsc
          (condT_at hok hTc (c := { c with cur := (curAt c pp).cur }) hs hc1 hE hcond hsc) hsb hE hN
        rw [finO_t opts ht hh] at hc
        obtain ⟨c2, hcr, hc'⟩ := finT_some_inv c.cur slot0 slot cq c' hc
        subst hc'
        cases hk : isConstSlot cond with
        | none =>
          have HT := IfOut.tailOK p f0 rest V P (G := G) (hret hk) H
          rw [cReturn_returned cq slot0 (hret hk)] at hcr
          simp only [Option.some.injEq, Prod.mk.injEq] at hcr
          obtain ⟨e1, e2⟩ := hcr
          subst e1 e2
          exact TailOK.recur p f0 rest V P HT
        | some k =>
          rw [hnil k hk] at hcr
          exact TailOK.recur p f0 rest V P (IfOut.tailOK_retnil p f0 rest V P (G := G) hcr H)
      | err ev epos s' =>
        intro _ _ hcur
        have E : ErrOK p f0 rest V P { c with cur := (curAt c pp).cur } cq rs ps env s s' ev epos := by
          obtain ⟨n2, _, hcase⟩ := eval_if_err_inv n cur env cnd tb els pp s s' ev epos hsem
          rcases hcase with hsc | ⟨cv, cenv, s1, hsc, hsb⟩
          · exact if_cond_err p f0 rest V P G true fuel IH.errAny cnd tb _ hTc hTt hTf opts _ _ _ _ cq sc rs pool ps n2 (posOf cur pp) env s s'
              ev epos hs hp hl hm (hqc hcur) _ c3 cond sc.ra hc1 (fun _ h => h) hcond hst hsc hE
          · exact if_err p f0 rest V P G true true fuel IHn cnd tb _ hTc hTt hTf opts _ _ _ _ cq sc rs pool ps n2 (posOf cur pp) env cenv
              s s1 s' cv ev epos
              (fun x hx => branch_err p f0 rest V P G true fuel IH.errAny x hx opts hh _ _ n2 (posOf cur pp) cenv s1 s' ev epos)
              hs hp hl hm (hqc hcur) _ c3 cond sc.ra hc1 (fun _ h => h) hcond hst hsc
              (condT_at hok hTc (c := { c with cur := (curAt c pp).cur }) hs hc1 hE hcond hsc) hsb hE
        exact ErrOK.fin p f0 rest V P G opts hh _ slot0 slot c cq c' sc rs pool ps env s s' ev epos E
          (cIfBodyT_shape_max G true fuel cnd tb _ hTc hTt hTf opts { c with cur := (curAt c pp).cur } cq slot0 sc rs pool ps hs hp hm hE.lkl hcc).1 hc
      | brk _ _ => exact True.intro
      | stop _ => exact True.intro

/-- compile correctness of the core fragment, every option set, every outcome -/
theorem tf_all (hP : P.length < 65536)
    (hK : ∀ i, i < P.length → (p.defs.getD f0.defIdx default).consts.getD i .nil = litOf V (P.getD i .nil))
    (FF : FloatFacts) (G : String → Prop) (b : Bool) : ∀ fuel, AllAt p f0 rest V P G b fuel := by
  intro fuel
  induction fuel with
  | zero =>
    intro e opts c c' slot sc rs pool ps n cur env s _ _ _ _ _ _ _ hc
    simp [cValue] at hc
  | succ fuel ih =>
    intro e opts c c' slot sc rs pool ps n cur env s hs hp hl htop hmo hpre hT hc hE
    cases hT with
    | lit w hw => exact lit_all p f0 rest V P hP hK FF G b fuel w hw opts c c' slot sc rs pool ps n cur env s hs hp hl hmo hpre hc hE
    | sym x => exact sym_all p f0 rest V P hP hK FF G b fuel x opts c c' slot sc rs pool ps n cur env s hs hp hl hmo hpre hc hE
    | call f args pp hf hna hG hTa =>
      exact call_all p f0 rest V P hP hK FF G b fuel ih f args pp hf hna hG hTa opts c c' slot sc rs pool ps n cur env s hs hp hl htop hmo hpre hc hE
    | doo body pp hTb => exact do_all p f0 rest V P hP hK G b fuel ih body pp hTb opts c c' slot sc rs pool ps n cur env s hs hp hl hmo hpre hc hE
    | ups body pp hTb => exact ups_all p f0 rest V P hP hK G b fuel ih body pp hTb opts c c' slot sc rs pool ps n cur env s hs hp hl htop hmo hpre hc hE
    | deff x ve pp hGx hTv =>
      exact def_all p f0 rest V P hP hK G b fuel ih x ve pp hGx hTv opts c c' slot sc rs pool ps n cur env s hs hp hl htop hmo hpre hc hE
    | iff cnd tb els pp hb hok hlen hTc hTt hTe =>
      subst hb
      exact if_all p f0 rest V P hP hK G fuel ih cnd tb els pp hok hlen hTc hTt hTe opts c c' slot sc rs pool ps n cur env s hs hp hl hmo hpre hc hE

/-- the if-free fragment with a hint (`(set x e)` for `e` in `TF G false`) -/
theorem tf_hint_correct (hP : P.length < 65536)
    (hK : ∀ i, i < P.length → (p.defs.getD f0.defIdx default).consts.getD i .nil = litOf V (P.getD i .nil))
    (FF : FloatFacts) (G : String → Prop) (w : Bool) (CN : ∀ fuel, CorrectAt p f0 rest V P G (TF G false) w fuel) :
    ∀ fuel, HintAtM p f0 rest V P G (TF G false) fuel :=
  fun fuel => (tf_all p f0 rest V P hP hK FF G false fuel).hintAtM

/-- compiles with a hint slot, the whole fragment `TF G b` (with `if`) -/
theorem tf_hint_correct_b (hP : P.length < 65536)
    (hK : ∀ i, i < P.length → (p.defs.getD f0.defIdx default).consts.getD i .nil = litOf V (P.getD i .nil))
    (FF : FloatFacts) (G : String → Prop) (b w : Bool) (CN : ∀ fuel, CorrectAt p f0 rest V P G (TF G b) w fuel) :
    ∀ fuel, HintAtM p f0 rest V P G (TF G b) fuel :=
  fun fuel => (tf_all p f0 rest V P hP hK FF G b fuel).hintAtM

/-- tail position, both fragments -/
theorem tf_tail_correct_b (hP : P.length < 65536)
    (hK : ∀ i, i < P.length → (p.defs.getD f0.defIdx default).consts.getD i .nil = litOf V (P.getD i .nil))
    (FF : FloatFacts) (G : String → Prop) (b : Bool) : ∀ fuel, TailAt p f0 rest V P G (TF G b) fuel :=
  fun fuel => (tf_all p f0 rest V P hP hK FF G b fuel).tailAt

/-- tail position, the if-free fragment -/
theorem tf_tail_correct (hP : P.length < 65536)
    (hK : ∀ i, i < P.length → (p.defs.getD f0.defIdx default).consts.getD i .nil = litOf V (P.getD i .nil))
    (FF : FloatFacts) (G : String → Prop) : ∀ fuel, TailAt p f0 rest V P G (TF G false) fuel :=
  tf_tail_correct_b p f0 rest V P hP hK FF G false

theorem tf_tail_correct_if (hP : P.length < 65536)
    (hK : ∀ i, i < P.length → (p.defs.getD f0.defIdx default).consts.getD i .nil = litOf V (P.getD i .nil))
    (FF : FloatFacts) (G : String → Prop) : ∀ fuel, TailAt p f0 rest V P G (TF G true) fuel :=
  tf_tail_correct_b p f0 rest V P hP hK FF G true

/-- error propagation, plain options, both fragments -/
theorem tf_err_correct_b (hP : P.length < 65536)
    (hK : ∀ i, i < P.length → (p.defs.getD f0.defIdx default).consts.getD i .nil = litOf V (P.getD i .nil))
    (FF : FloatFacts) (G : String → Prop) (b : Bool) : ∀ fuel, ErrAt p f0 rest V P G b fuel :=
  fun fuel => (tf_all p f0 rest V P hP hK FF G b fuel).errAt

/-- the if-free fragment -/
theorem tf_err_correct (hP : P.length < 65536)
    (hK : ∀ i, i < P.length → (p.defs.getD f0.defIdx default).consts.getD i .nil = litOf V (P.getD i .nil))
    (FF : FloatFacts) (G : String → Prop) (w : Bool) (CN : ∀ fuel, CorrectAt p f0 rest V P G (TF G false) w fuel) :
    ∀ fuel, ErrAt p f0 rest V P G false fuel :=
  tf_err_correct_b p f0 rest V P hP hK FF G false

end

section
variable (p : Program) (f0 : Frame) (rest : List Frame) (V : Array Value) (P : List KConst)

/-- both fragments at once: `TF G b` with the dropped-value switch `w = b` -/
theorem tf_correct_b (hP : P.length < 65536)
    (hK : ∀ i, i < P.length → (p.defs.getD f0.defIdx default).consts.getD i .nil = litOf V (P.getD i .nil))
    (FF : FloatFacts) (G : String → Prop) (b : Bool) : ∀ fuel, CorrectAt p f0 rest V P G (TF G b) b fuel :=
  fun fuel => (tf_all p f0 rest V P hP hK FF G b fuel).correctAt

/-- the fragment without `if`: unconditional, and the value is in the result slot also under the drop flag -/
theorem tf_correct_calls (hP : P.length < 65536)
    (hK : ∀ i, i < P.length → (p.defs.getD f0.defIdx default).consts.getD i .nil = litOf V (P.getD i .nil))
    (FF : FloatFacts) (G : String → Prop) (fuel : Nat)
    (e : Expr) (opts : Fopts) (c c' : CState) (slot : JSlot) (sc : Scope) (rs : List Scope) (pool : List KConst) (ps : List (List KConst))
    (n : Nat) (cur : Pos) (env env' : Env) (s s' : SS) (v : Value)
    (ht : opts.tail = false) (hh : opts.hint = none) (hs : c.scopes = sc :: rs) (hp : c.pools = pool :: ps) (hl : c.lim ≤ 240) (htop : sc.top = false)
    (hT : TF G false e) (hc : cValue fuel opts e c = some (slot, c')) (hsem : eval n cur env e s = .ok (v, env') s')
    (hE : EnvS G c.scopes env s.boxes.size sc.ra) :
    Correct2 p f0 rest V P G false c c' slot sc rs pool ps env env' s s' v := by
  have h := tf_correct_b p f0 rest V P hP hK FF G false fuel e opts c c' slot sc rs pool ps n cur env env' s s' v
    ht hh hs hp hl htop (fun h => absurd h (by simp)) hT hc hsem hE
  rw [Bool.and_false] at h
  exact h

end

end JanetModel.Compile
