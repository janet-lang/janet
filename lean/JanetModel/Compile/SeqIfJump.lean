/- C02: `janetc_if` with a non-constant condition slot (JUMP_IF_NOT over the then-branch, JUMP over the else-branch, both
   patched), stated once for every way of providing the target and of ending a branch: the branch `Lang/Sem` evaluates is run by the
   hypothesis `BranchRun`, the other branch's compile-side effect comes from `branch_shape_any`. -/
import JanetModel.Compile.SeqIfBranch
import JanetModel.Compile.SeqIfSem
namespace JanetModel.Compile
open JanetModel.Emit JanetModel.Lang JanetModel.Bytecode.Exec JanetModel.Gen.Bytecode

theorem getTarget_hint_none (c : CState) (opts : Fopts) (hh : opts.hint = none) : getTarget c opts = getTarget c {} := by
  simp only [getTarget, hh]

/-- the unconditional jump `janetc_if` emits after the then-branch (none when the value is dropped and the else branch is nil) -/
def jmp0 (nj : Bool) : List CI := if nj then [] else [CI.jump 0]

theorem ifJmp_eq (nj : Bool) (c8 : CState) :
    ifJmp nj c8 = { c8 with buf := c8.buf ++ jmp0 nj, map := c8.map ++ (jmp0 nj).map (fun _ => c8.cur) } := by
  cases nj
  · simp [ifJmp, jmp0, emitRaw]
  · simp [ifJmp, jmp0]

theorem ifPatch_eq (nj : Bool) (a seg3 seg8 seg13 : List CI) (jin0 : CI) (offr : Nat) :
    ifPatch nj (a ++ (seg3 ++ jin0 :: (seg8 ++ (jmp0 nj ++ seg13)))) (a ++ seg3).length offr (a ++ seg3 ++ jin0 :: seg8).length =
      a ++ (seg3 ++ patchCond offr jin0 :: (seg8 ++ ((if nj then [] else
        [CI.jump (Int.ofNat ((a ++ (seg3 ++ jin0 :: (seg8 ++ (jmp0 nj ++ seg13)))).length - (a ++ seg3 ++ jin0 :: seg8).length))]) ++ seg13))) := by
  cases nj
  · simp only [ifPatch, jmp0, Bool.false_eq_true, if_false]
    have e1 : a ++ (seg3 ++ jin0 :: (seg8 ++ ([CI.jump 0] ++ seg13))) = (a ++ seg3) ++ jin0 :: (seg8 ++ CI.jump 0 :: seg13) := by simp
    rw [e1, modBuf_at]
    have e2 : (a ++ seg3) ++ patchCond offr jin0 :: (seg8 ++ CI.jump 0 :: seg13) = (a ++ seg3 ++ patchCond offr jin0 :: seg8) ++ CI.jump 0 :: seg13 := by simp
    have e3 : (a ++ seg3 ++ jin0 :: seg8).length = (a ++ seg3 ++ patchCond offr jin0 :: seg8).length := by simp
    rw [e2, e3, modBuf_at]
    simp
  · simp only [ifPatch, jmp0, if_true]
    have e1 : a ++ (seg3 ++ jin0 :: (seg8 ++ ([] ++ seg13))) = (a ++ seg3) ++ jin0 :: (seg8 ++ seg13) := by simp
    rw [e1, modBuf_at]
    simp

theorem toNat_cast_add (a b : Nat) : ((a : Int) + (b : Int)).toNat = a + b := by omega

theorem le_ite_max (a b : Nat) : a ≤ (if a < b then b else a) := by split <;> omega

theorem lt_of_ite_max_lt {a b n : Nat} (h : (if a < b then b else a) < n) : b < n := by split at h <;> omega

theorem jmp0_length (nj : Bool) : (jmp0 nj).length = if nj then 0 else 1 := by cases nj <;> rfl

section
variable (p : Program) (f0 : Frame) (rest : List Frame) (V : Array Value) (P : List KConst)

/-- what the compiled `if` delivers, for a target provided by `raT`: compile side as `Correct2` (names unchanged); run side `Res` -/
def IfOut (c c' : CState) (sc : Scope) (rs : List Scope) (pool : List KConst) (ps : List (List KConst)) (raT : RA)
    (env : Env) (s : SS) (BxS Cu : Prop) (Pre : Nat → Prop) (Res : Cfg → Nat → Prop) : Prop :=
  ∃ (raX : RA) (kept : List SymPair) (more : List KConst) (seg : List CI) (segm : List Pos),
    c' = { c with scopes := { sc with ra := raX, syms := sc.syms ++ kept } :: rs, pools := (pool ++ more) :: ps, buf := c.buf ++ seg,
                  map := c.map ++ segm, vals := c'.vals } ∧
    PrefA c.vals c'.vals ∧ (∀ r, raT.alloc r = true → raX.alloc r = true) ∧ raT.max ≤ raX.max ∧
    (∀ x, lk c'.scopes x = lk c.scopes x) ∧ BxS ∧ segm.length = seg.length ∧
    ∀ (k : Cfg), k.w = s.st.world → k.args = #[] → EnvD c.scopes env s k.regs →
      CodeAt (p.defs.getD f0.defIdx default).code k.pc seg → (Cu → MapAt (p.defs.getD f0.defIdx default).smap k.pc segm) →
      PrefL (pool ++ more) P → PrefA c'.vals V → raX.max < k.regs.size → Pre k.regs.size → Res k seg.length

/-- `janetc_if`, jump path.  The model's steps are hypotheses, so the same layout serves every mode and outcome. -/
theorem if_jump_any (G : String → Prop) (b w : Bool) (fuel : Nat) (IH : CorrectAt p f0 rest V P G (TF G b) w fuel)
    (cnd tb fb : Expr) (hTc : TF G b cnd) (hTt : TF G b tb) (hTf : TF G b fb) (opts : Fopts) (dc nj : Bool) (target : JSlot)
    (Tg : RA → List Scope → Prop) (Keep : Nat → Prop) (Post : Array Value → Prop) (Pre : Nat → Prop)
    (Cu : Prop) (Sem : Expr → Prop) (Bx BxS : Prop) (fall : Bool) (Fin : Cfg → Prop) (w' : World)
    (TgLk : ∀ (ra ra' : RA) (scs scs' : List Scope), Tg ra scs → (∀ r, ra.alloc r = true → ra'.alloc r = true) → ra.max ≤ ra'.max →
      (∀ y, lk scs' y = lk scs y) → Tg ra' scs')
    (c c' : CState) (sc : Scope) (rs : List Scope) (pool : List KConst) (ps : List (List KConst))
    (n2 : Nat) (pos : Pos) (env cenv : Env) (s s1 : SS) (cv : Value)
    (BRt : BranchRun p f0 rest V P G fuel opts dc target Tg Cu pos cenv s1 Sem Bx fall Fin Keep Post w' Pre tb)
    (BRf : BranchRun p f0 rest V P G fuel opts dc target Tg Cu pos cenv s1 Sem Bx fall Fin Keep Post w' Pre fb)
    (hs : c.scopes = sc :: rs) (hp : c.pools = pool :: ps) (hl : c.lim ≤ 240) (hm : c.map.length = c.buf.length)
    (hcur : Cu → c.cur = pos)
    (c1 c3 : CState) (cond : JSlot) (raT : RA) (hc1 : c1 = { c with scopes := { sc with ra := raT } :: rs })
    (monoT : ∀ j, sc.ra.alloc j = true → raT.alloc j = true)
    (hTg3 : ∀ ra3 : RA, (∀ r, raT.alloc r = true → ra3.alloc r = true) → raT.max ≤ ra3.max →
      (∀ d, raT.alloc d = true → NoName (blk c1 { sc with ra := raT } false :: { sc with ra := raT } :: rs) d → NoName c3.scopes d) →
      Tg ra3 c3.scopes)
    (hcond : cValue fuel {} cnd (pushScope c1 false false false false) = some (cond, c3))
    (hnc : isConstSlot cond = none)
    (c4 c6 c7 c8 c11 c12 c13 c14 : CState) (left right : JSlot)
    (e1 : emitSI c3 .jumpIfNot cond 0 false = some c4)
    (e2 : cValue fuel opts tb (pushScope c4 false false false false) = some (left, c6))
    (e3 : ifCopy dc c6 target left = some c7) (e4 : popScope c7 = some c8)
    (e5 : cValue fuel opts fb (pushScope (ifJmp nj c8) false false false false) = some (right, c11))
    (e6 : ifCopy dc c11 target right = some c12) (e7 : popScope c12 = some c13) (e8 : popScope c13 = some c14)
    (r1 : (ifJmp nj c8).buf.length ≤ 32767 + lastLabel c4) (r2 : nj = false → c14.buf.length ≤ 8388607 + c8.buf.length)
    (r3 : fall = true → nj = true → c14.buf.length = c8.buf.length)
    (ec' : c' = { c14 with buf := ifPatch nj c14.buf (lastLabel c4) ((ifJmp nj c8).buf.length - lastLabel c4) c8.buf.length })
    (hsc : eval n2 pos env cnd s = .ok (cv, cenv) s1)
    (hsb : Sem (if truthy cv then tb else fb))
    (hBx : PrefA s.boxes s1.boxes → Bx → BxS)
    (hE : EnvS G c.scopes env s.boxes.size sc.ra) :
    IfOut p f0 V P c c' sc rs pool ps raT env s BxS Cu Pre (RunRes p f0 rest fall Fin raT Keep Post w') := by
  have hs1 : c1.scopes = { sc with ra := raT } :: rs := by rw [hc1]
  have hp1 : c1.pools = pool :: ps := by rw [hc1]; exact hp
  have hl1 : c1.lim ≤ 240 := by rw [hc1]; exact hl
  have hm1 : c1.map.length = c1.buf.length := by rw [hc1]; exact hm
  rw [pushScope_blk c1 { sc with ra := raT } rs false hs1] at hcond
  have hlk1 : ∀ y, lk (blk c1 { sc with ra := raT } false :: { sc with ra := raT } :: rs) y = lk c.scopes y := by
    intro y; rw [hs]; exact (lk_push _ _ rfl rfl rfl y).trans (lk_ra sc rs raT y)
  have hE1 : EnvS G ({ c1 with scopes := blk c1 { sc with ra := raT } false :: { sc with ra := raT } :: rs } : CState).scopes env s.boxes.size
      (blk c1 { sc with ra := raT } false).ra :=
    hE.of_lk hlk1 (Nat.le_refl _) (fun _ _ _ _ r _ _ h => monoT r h)
  obtain ⟨ra3, ns3, more3, seg3, segm3, hc3, pv3, mono3, max3, sok3, bx3, es3, nf3, vm3⟩ :=
    IH cnd {} { c1 with scopes := blk c1 { sc with ra := raT } false :: { sc with ra := raT } :: rs } c3 cond (blk c1 { sc with ra := raT } false)
      ({ sc with ra := raT } :: rs) pool ps n2 pos env cenv s s1 cv rfl rfl rfl hp1 hl1 rfl (fun _ => hm1) hTc hcond hsc hE1
  have hm3 : c3.map.length = c3.buf.length :=
    (tf_shape G b fuel cnd {} { c1 with scopes := blk c1 { sc with ra := raT } false :: { sc with ra := raT } :: rs } c3 cond
      (blk c1 { sc with ra := raT } false) ({ sc with ra := raT } :: rs) pool ps rfl hp1 hm1 hTc hE1.lkl hcond).1.mapLen hm1
  have hs3 : c3.scopes = upd (blk c1 { sc with ra := raT } false) ra3 ns3 :: { sc with ra := raT } :: rs := by rw [hc3]
  have hp3 : c3.pools = (pool ++ more3) :: ps := by rw [hc3]
  have mono3' : ∀ r, raT.alloc r = true → ra3.alloc r = true := mono3
  obtain ⟨rc, hrc, hrc240, hrcal⟩ : ∃ rc, cond.k = .loc rc ∧ rc < 240 ∧ ra3.alloc rc = true := by
    rcases sok3 with ⟨hcf, kc, hk, _⟩ | ⟨_, _, r, hk, hal, hr⟩ | ⟨_, _, d, hk, _, hal, hd, _⟩
    · simp [isConstSlot, hcf, hk] at hnc
    · exact ⟨r, hk, hr, hal⟩
    · exact ⟨d, hk, hd, hal⟩
  obtain ⟨_, hc4⟩ := emitSI_local c3 c4 .jumpIfNot cond rc 0 hrc (Nat.le_trans (Nat.le_of_lt hrc240) (by decide)) _ ({ sc with ra := raT } :: rs) (pool ++ more3) ps hs3 hp3 e1
  have hs4 : c4.scopes = upd (blk c1 { sc with ra := raT } false) ra3 ns3 :: { sc with ra := raT } :: rs := by rw [hc4]
  have hp4 : c4.pools = (pool ++ more3) :: ps := by rw [hc4]
  have hl4 : c4.lim ≤ 240 := by rw [hc4]; show c3.lim ≤ 240; rw [hc3]; exact hl1
  have hm4 : c4.map.length = c4.buf.length := by rw [hc4]; simp [hm3]
  have hL4 : LkL G c4.scopes := by rw [hs4, ← hs3]; exact es3.lkl
  obtain ⟨ra8, ns8, more8, seg8, segm8, hc8, pv8, hl8, inv8, mono8, max8⟩ :=
    branch_shape_any G fuel b tb hTt opts dc target c4 c6 c7 c8 left _ ({ sc with ra := raT } :: rs) (pool ++ more3) ps hs4 hp4 hm4 hL4 e2 e3 e4
  have mono8' : ∀ r, ra3.alloc r = true → ra8.alloc r = true := mono8
  have max8' : ra3.max ≤ ra8.max := max8
  have hs8 : c8.scopes = upd (upd (blk c1 { sc with ra := raT } false) ra3 ns3) ra8 ns8 :: { sc with ra := raT } :: rs := by rw [hc8]
  obtain ⟨c9, hc9d⟩ : ∃ c9, c9 = ifJmp nj c8 := ⟨_, rfl⟩
  rw [← hc9d] at e5 r1 ec'
  have hc9 : c9 = { c8 with buf := c8.buf ++ jmp0 nj, map := c8.map ++ (jmp0 nj).map (fun _ => c8.cur) } := by rw [hc9d]; exact ifJmp_eq nj c8
  have hs9 : c9.scopes = upd (upd (blk c1 { sc with ra := raT } false) ra3 ns3) ra8 ns8 :: { sc with ra := raT } :: rs := by rw [hc9]; exact hs8
  have hp9 : c9.pools = (pool ++ more3 ++ more8) :: ps := by rw [hc9]; show c8.pools = _; rw [hc8]
  have hl9 : c9.lim ≤ 240 := by rw [hc9]; show c8.lim ≤ 240; rw [hc8]; exact hl4
  have hm8 : c8.map.length = c8.buf.length := by rw [hc8]; simp [hm4, hl8]
  have hm9 : c9.map.length = c9.buf.length := by rw [hc9]; simp [hm8]
  have hlk9 : ∀ y, lk c9.scopes y = lk c3.scopes y := by
    intro y; rw [hs9, hs3]; exact lk_upd _ _ _ _ inv8 y
  have hL9 : LkL G c9.scopes := es3.lkl.of_lk hlk9
  obtain ⟨ra13, ns13, more13, seg13, segm13, hc13, pv13, hl13, inv13, mono13, max13⟩ :=
    branch_shape_any G fuel b fb hTf opts dc target c9 c11 c12 c13 right _ ({ sc with ra := raT } :: rs) (pool ++ more3 ++ more8) ps hs9 hp9 hm9 hL9 e5 e6 e7
  have max13' : ra8.max ≤ ra13.max := max13
  have hs13 : c13.scopes = upd (upd (upd (blk c1 { sc with ra := raT } false) ra3 ns3) ra8 ns8) ra13 ns13 :: { sc with ra := raT } :: rs := by
    rw [hc13]
  obtain ⟨raX, hpop, hmaxX, hmonoX⟩ := popScope_block c13 _ { sc with ra := raT } rs hs13 rfl rfl rfl
  rw [hpop] at e8
  have hc14 := (Option.some.inj e8).symm
  have hmaxX' : raX.max = (if raT.max < ra13.max then ra13.max else raT.max) := hmaxX
  have hmonoX' : ∀ j, raT.alloc j = true → raX.alloc j = true := hmonoX
  have hb3 : c3.buf = c.buf ++ seg3 := by rw [hc3]; show c1.buf ++ seg3 = _; rw [hc1]
  have hb4 : c4.buf = c.buf ++ seg3 ++ [CI.mi (.pay Op.jumpIfNot.toNat .si false [rc] 0)] := by rw [hc4]; show c3.buf ++ _ = _; rw [hb3]
  have hb8 : c8.buf = c4.buf ++ seg8 := by rw [hc8]
  have hb9 : c9.buf = c8.buf ++ jmp0 nj := by rw [hc9]
  have hb13 : c13.buf = c9.buf ++ seg13 := by rw [hc13]
  have hb14 : c14.buf = c13.buf := by rw [hc14]
  have hbuf14 : c14.buf = c.buf ++ (seg3 ++ CI.mi (.pay Op.jumpIfNot.toNat .si false [rc] 0) :: (seg8 ++ (jmp0 nj ++ seg13))) := by
    rw [hb14, hb13, hb9, hb8, hb4]; simp
  have hll : lastLabel c4 = (c.buf ++ seg3).length := by unfold lastLabel; rw [hb4]; simp
  have hl8len : c8.buf.length = (c.buf ++ seg3 ++ CI.mi (.pay Op.jumpIfNot.toNat .si false [rc] 0) :: seg8).length := by rw [hb8, hb4]; simp
  obtain ⟨offr, hoffr⟩ : ∃ offr, offr = c9.buf.length - lastLabel c4 := ⟨_, rfl⟩
  obtain ⟨off2, hoff2⟩ : ∃ off2, off2 = c14.buf.length - c8.buf.length := ⟨_, rfl⟩
  have hoffr' : offr = 1 + seg8.length + (jmp0 nj).length := by
    rw [hoffr, hll, hb9, hb8, hb4]; simp <;> omega
  have hoff2' : off2 = (jmp0 nj).length + seg13.length := by
    rw [hoff2, hb14, hb13, hb9]; simp <;> omega
  have hoffr_lt : offr < 32768 := by
    rw [hoffr]; omega
  have hoff2_le : nj = false → off2 ≤ 8388607 := by
    intro h; have := r2 h; rw [hoff2]; omega
  have hnj13 : fall = true → nj = true → seg13 = [] := by
    intro hf h
    have := r3 hf h
    rw [hb14, hb13, hb9] at this
    simp at this
    exact this.2
  have hpatch : ifPatch nj c14.buf (lastLabel c4) (c9.buf.length - lastLabel c4) c8.buf.length =
      c.buf ++ (seg3 ++ CI.mi (.pay Op.jumpIfNot.toNat .si false [rc] offr) :: (seg8 ++ ((if nj then [] else [CI.jump (Int.ofNat off2)]) ++ seg13))) := by
    rw [← hoffr, hll, hl8len]
    have := ifPatch_eq nj c.buf seg3 seg8 seg13 (CI.mi (.pay Op.jumpIfNot.toNat .si false [rc] 0)) offr
    rw [← hbuf14, ← hl8len, ← hoff2] at this
    rw [hl8len] at this
    exact this
  have hlk' : ∀ x, lk c'.scopes x = lk c.scopes x := by
    intro x
    rw [ec']
    show lk c14.scopes x = _
    rw [hc14, hs]
    exact lk_popped sc rs raX _ x
  have hlk4 : ∀ y, lk c4.scopes y = lk c3.scopes y := by intro y; rw [hs4, hs3]
  have hE4 : EnvS G c4.scopes cenv s1.boxes.size (upd (blk c1 { sc with ra := raT } false) ra3 ns3).ra :=
    es3.of_lk hlk4 (Nat.le_refl _) (fun _ _ _ _ _ _ _ h => h)
  have hE9 : EnvS G c9.scopes cenv s1.boxes.size (upd (upd (blk c1 { sc with ra := raT } false) ra3 ns3) ra8 ns8).ra :=
    es3.of_lk hlk9 (Nat.le_refl _) (fun _ _ _ _ r _ _ h => mono8' r h)
  have hTg3' : Tg ra3 c3.scopes := hTg3 ra3 mono3 max3 nf3.1
  have hTg4 : Tg (upd (blk c1 { sc with ra := raT } false) ra3 ns3).ra c4.scopes := by rw [hs4, ← hs3]; exact hTg3'
  have hTg9 : Tg (upd (upd (blk c1 { sc with ra := raT } false) ra3 ns3) ra8 ns8).ra c9.scopes := TgLk _ _ _ _ hTg3' mono8' max8' hlk9
  have hv8 : PrefA c8.vals c13.vals := by
    have : c9.vals = c8.vals := by rw [hc9]
    rw [← this]; exact pv13
  have hv3 : PrefA c3.vals c13.vals := by
    have : c4.vals = c3.vals := by rw [hc4]
    rw [← this]; exact PrefA.trans pv8 hv8
  have hp8 : c8.pools = (pool ++ more3 ++ more8) :: ps := by rw [hc8]
  have hp13 : c13.pools = (pool ++ more3 ++ more8 ++ more13) :: ps := by rw [hc13]
  have hcur4 : Cu → c4.cur = pos := fun h => by rw [hc4]; show c3.cur = _; rw [hc3]; show c1.cur = _; rw [hc1]; exact hcur h
  have hcur9 : Cu → c9.cur = pos := fun h => by rw [hc9]; show c8.cur = _; rw [hc8]; exact hcur4 h
  have hmp3 : c3.map = c.map ++ segm3 := by rw [hc3]; show c1.map ++ segm3 = _; rw [hc1]
  have hmp8 : c8.map = c4.map ++ segm8 := by rw [hc8]
  have hmp13 : c13.map = c9.map ++ segm13 := by rw [hc13]
  have hl3 : segm3.length = seg3.length := by
    have := hm3
    rw [hmp3, hb3] at this
    simp only [List.length_append] at this
    omega
  have hmap8 : ∀ pc0, (Cu → MapAt (p.defs.getD f0.defIdx default).smap pc0 (segm3 ++ [c3.cur] ++ segm8 ++ (jmp0 nj).map (fun _ => c8.cur) ++ segm13)) →
      Cu → MapAt (p.defs.getD f0.defIdx default).smap (pc0 + seg3.length + 1) segm8 := by
    intro pc0 hmap hcu
    have h1 : MapAt (p.defs.getD f0.defIdx default).smap pc0 ((segm3 ++ [c3.cur]) ++ (segm8 ++ ((jmp0 nj).map (fun _ => c8.cur) ++ segm13))) := by
      simpa [List.append_assoc] using hmap hcu
    have h2 := h1.right.left
    have e : pc0 + (segm3 ++ [c3.cur]).length = pc0 + seg3.length + 1 := by simp [hl3]; omega
    rw [e] at h2
    exact h2
  have hmap13 : ∀ pc0, (Cu → MapAt (p.defs.getD f0.defIdx default).smap pc0 (segm3 ++ [c3.cur] ++ segm8 ++ (jmp0 nj).map (fun _ => c8.cur) ++ segm13)) →
      Cu → MapAt (p.defs.getD f0.defIdx default).smap (pc0 + seg3.length + 1 + seg8.length + (jmp0 nj).length) segm13 := by
    intro pc0 hmap hcu
    have h2 := (hmap hcu).right
    have e : pc0 + (segm3 ++ [c3.cur] ++ segm8 ++ (jmp0 nj).map (fun _ => c8.cur)).length =
        pc0 + seg3.length + 1 + seg8.length + (jmp0 nj).length := by simp [hl3, hl8]; omega
    rw [e] at h2
    exact h2
  have hv' : c'.vals = c13.vals := by rw [ec']; show c14.vals = _; rw [hc14]
  have pv3' : PrefA c.vals c3.vals := by
    have : ({ c1 with scopes := blk c1 { sc with ra := raT } false :: { sc with ra := raT } :: rs } : CState).vals = c.vals := by
      show c1.vals = _; rw [hc1]
    rw [← this]; exact pv3
  have hjl : (if nj then [] else [CI.jump (Int.ofNat off2)] : List CI).length = (jmp0 nj).length := by cases nj <;> rfl
  have compileSide : ∀ (Res : Cfg → Nat → Prop), Bx →
      (∀ (k : Cfg), k.w = s.st.world → k.args = #[] → EnvD c.scopes env s k.regs →
        CodeAt (p.defs.getD f0.defIdx default).code k.pc
          (seg3 ++ CI.mi (.pay Op.jumpIfNot.toNat .si false [rc] offr) :: (seg8 ++ ((if nj then [] else [CI.jump (Int.ofNat off2)]) ++ seg13))) →
        (Cu → MapAt (p.defs.getD f0.defIdx default).smap k.pc (segm3 ++ [c3.cur] ++ segm8 ++ (jmp0 nj).map (fun _ => c8.cur) ++ segm13)) →
        PrefL (pool ++ (more3 ++ more8 ++ more13)) P → PrefA c'.vals V → raX.max < k.regs.size → Pre k.regs.size →
        Res k (seg3 ++ CI.mi (.pay Op.jumpIfNot.toNat .si false [rc] offr) ::
          (seg8 ++ ((if nj then [] else [CI.jump (Int.ofNat off2)]) ++ seg13))).length) →
      IfOut p f0 V P c c' sc rs pool ps raT env s BxS Cu Pre Res := by
    intro Res bxB vm
    refine ⟨raX, (upd (upd (upd (blk c1 { sc with ra := raT } false) ra3 ns3) ra8 ns8) ra13 ns13).syms.map (fun q => { q with visible := false }),
      more3 ++ more8 ++ more13,
      seg3 ++ CI.mi (.pay Op.jumpIfNot.toNat .si false [rc] offr) :: (seg8 ++ ((if nj then [] else [CI.jump (Int.ofNat off2)]) ++ seg13)),
      segm3 ++ [c3.cur] ++ segm8 ++ (jmp0 nj).map (fun _ => c8.cur) ++ segm13, ?_, ?_, hmonoX', ?_, hlk', hBx bx3 bxB, ?_, vm⟩
    · rw [ec', hpatch, hc14, hc13, hc9, hc8, hc4, hc3, hc1]
      simp [List.append_assoc]
    · rw [hv']; exact PrefA.trans pv3' hv3
    · rw [hmaxX']; exact le_ite_max _ _
    · simp [hl3, hl8, hl13]
      exact hjl.symm
  have condRun : ∀ (k : Cfg), k.w = s.st.world → k.args = #[] → EnvD c.scopes env s k.regs →
      CodeAt (p.defs.getD f0.defIdx default).code k.pc
        (seg3 ++ CI.mi (.pay Op.jumpIfNot.toNat .si false [rc] offr) :: (seg8 ++ ((if nj then [] else [CI.jump (Int.ofNat off2)]) ++ seg13))) →
      PrefL (pool ++ (more3 ++ more8 ++ more13)) P → PrefA c'.vals V → raX.max < k.regs.size →
      ∃ regs3, Reach p (inj f0 rest k) (inj f0 rest { regs := regs3, pc := k.pc + seg3.length, args := #[], w := s1.st.world }) ∧
        regs3.size = k.regs.size ∧ (∀ r, raT.alloc r = true → regs3.getD r .nil = k.regs.getD r .nil) ∧ EnvD c3.scopes cenv s1 regs3 ∧
        ra13.max < regs3.size ∧ PrefA c13.vals V ∧ PrefL (pool ++ more3 ++ more8 ++ more13) P ∧
        step p (inj f0 rest { regs := regs3, pc := k.pc + seg3.length, args := #[], w := s1.st.world }) =
          .next (if truthy cv then inj f0 rest { regs := regs3, pc := k.pc + seg3.length + 1, args := #[], w := s1.st.world }
                 else inj f0 rest { regs := regs3, pc := k.pc + seg3.length + 1 + seg8.length + (jmp0 nj).length, args := #[], w := s1.st.world }) := by
    intro k hkw hka hD hcode hpre hV hsz
    rw [hv'] at hV
    have hsz13 : ra13.max < k.regs.size := by
      rw [hmaxX'] at hsz; exact lt_of_ite_max_lt hsz
    obtain ⟨regs3, rch3, sz3, pr3, sv3, ed3⟩ := vm3 k hkw hka (hD.of_lk hlk1) hcode.left
      (PrefL.trans ⟨more8 ++ more13, by simp [List.append_assoc]⟩ hpre) (PrefA.trans hv3 hV) (Nat.lt_of_le_of_lt (Nat.le_trans max8' max13') hsz13)
    have hcv3 : regs3.getD rc .nil = cv := by
      have := sv3 rfl
      simpa [slotVal, hrc] using this
    refine ⟨regs3, rch3, sz3, pr3, ed3, by rw [sz3]; exact hsz13, hV, by simpa [List.append_assoc] using hpre, ?_⟩
    have jstep := step_jumpIfNot p (inj f0 rest { regs := regs3, pc := k.pc + seg3.length, args := #[], w := s1.st.world }) rc offr
      (Nat.lt_trans hrc240 (by decide)) hoffr_lt (by rw [inj_curDef, inj_pc]; exact hcode.right.head)
    rw [inj_getReg] at jstep
    have hreg : ({ regs := regs3, pc := k.pc + seg3.length, args := #[], w := s1.st.world } : Cfg).regs.getD rc .nil = cv := hcv3
    rw [hreg] at jstep
    cases htr : truthy cv with
    | true =>
      simp only [htr, if_true, inj_adv] at jstep
      simpa using jstep
    | false =>
      simp only [htr, Bool.false_eq_true, if_false, inj_jump] at jstep
      have e1' : (Int.ofNat (k.pc + seg3.length) + (offr : Int)).toNat = k.pc + seg3.length + 1 + seg8.length + (jmp0 nj).length := by
        simp only [Int.ofNat_eq_natCast, toNat_cast_add, hoffr', Nat.add_assoc]
      simp only [e1'] at jstep
      simpa using jstep
  cases htr : truthy cv with
  | true =>
    have hsb' : Sem tb := by simpa [htr] using hsb
    obtain ⟨bxB, vmB⟩ := BRt c4 c6 c7 c8 left _ ({ sc with ra := raT } :: rs) (pool ++ more3) ps hs4 hp4 hl4 hm4 hcur4 hTg4 e2 e3 e4 hsb' hE4
    refine compileSide _ bxB (fun k hkw hka hD hcode hmap hpre hV hsz hPre => ?_)
    obtain ⟨regs3, rch3, sz3, pr3, ed3, hsz13, hV13, hpre', jstep⟩ := condRun k hkw hka hD hcode hpre hV hsz
    rw [htr, if_pos rfl] at jstep
    have res := vmB seg8 segm8 _ _ hb8 hmp8 hp8 hs8 { regs := regs3, pc := k.pc + seg3.length + 1, args := #[], w := s1.st.world } rfl rfl
      (ed3.of_lk hlk4) hcode.right.tail.left (hmap8 k.pc hmap) (PrefL.trans ⟨more13, rfl⟩ hpre') (PrefA.trans hv8 hV13)
      (Nat.lt_of_le_of_lt max13' hsz13) (by show Pre regs3.size; rw [sz3]; exact hPre)
    cases fall with
    | false =>
      obtain ⟨cf, rch, sz, fin⟩ := res
      exact ⟨cf, Reach.trans rch3 (Reach.head jstep rch), sz.trans sz3, fin⟩
    | true =>
      obtain ⟨regs8, rch8, sz8, pr8, sv8⟩ := res
      have sz8' : regs8.size = regs3.size := sz8
      refine ⟨regs8, Reach.trans rch3 (Reach.head jstep (Reach.trans rch8 ?_)), sz8'.trans sz3,
        fun r hr hk => by rw [pr8 r (mono3' r hr) hk]; exact pr3 r hr, sv8⟩
      have hcR := hcode.right.tail.right
      have hlen : (seg3 ++ CI.mi (.pay Op.jumpIfNot.toNat .si false [rc] offr) :: (seg8 ++ ((if nj then [] else [CI.jump (Int.ofNat off2)]) ++ seg13))).length = seg3.length + 1 + seg8.length + (jmp0 nj).length + seg13.length := by
        simp only [List.length_append, List.length_cons, hjl]; omega
      rw [hlen]
      cases nj with
      | true =>
        rw [hnj13 rfl rfl]
        have e : k.pc + (seg3.length + 1 + seg8.length + (jmp0 true).length + ([] : List CI).length) = k.pc + seg3.length + 1 + seg8.length := by
          simp [jmp0]; omega
        rw [e]
        exact Reach.refl _ _
      | false =>
        have h2 := hoff2_le rfl
        simp only [Bool.false_eq_true, if_false, List.singleton_append] at hcR
        have jst := step_jump p (inj f0 rest { regs := regs8, pc := k.pc + seg3.length + 1 + seg8.length, args := #[], w := w' })
          (Int.ofNat off2) (by simp <;> omega) (by simp <;> omega) (by rw [inj_curDef, inj_pc]; exact hcR.head)
        rw [inj_jump] at jst
        refine Reach.head jst ?_
        have e : (Int.ofNat (k.pc + seg3.length + 1 + seg8.length) + Int.ofNat off2).toNat =
            k.pc + (seg3.length + 1 + seg8.length + (jmp0 false).length + seg13.length) := by
          simp only [Int.ofNat_eq_natCast, toNat_cast_add, hoff2', Nat.add_assoc]
        simp only [e]
        exact Reach.refl _ _
  | false =>
    have hsb' : Sem fb := by simpa [htr] using hsb
    obtain ⟨bxB, vmB⟩ := BRf c9 c11 c12 c13 right _ ({ sc with ra := raT } :: rs) (pool ++ more3 ++ more8) ps hs9 hp9 hl9 hm9 hcur9 hTg9 e5 e6 e7 hsb' hE9
    refine compileSide _ bxB (fun k hkw hka hD hcode hmap hpre hV hsz hPre => ?_)
    obtain ⟨regs3, rch3, sz3, pr3, ed3, hsz13, hV13, hpre', jstep⟩ := condRun k hkw hka hD hcode hpre hV hsz
    rw [htr, if_neg Bool.false_ne_true] at jstep
    have hcR := hcode.right.tail.right.right
    rw [hjl] at hcR
    have res := vmB seg13 segm13 _ _ hb13 hmp13 hp13 hs13
      { regs := regs3, pc := k.pc + seg3.length + 1 + seg8.length + (jmp0 nj).length, args := #[], w := s1.st.world } rfl rfl
      (ed3.of_lk hlk9) hcR (hmap13 k.pc hmap) hpre' hV13 hsz13 (by show Pre regs3.size; rw [sz3]; exact hPre)
    cases fall with
    | false =>
      obtain ⟨cf, rch, sz, fin⟩ := res
      exact ⟨cf, Reach.trans rch3 (Reach.head jstep rch), sz.trans sz3, fin⟩
    | true =>
      obtain ⟨regs13, rch13, sz13, pr13, sv13⟩ := res
      have sz13' : regs13.size = regs3.size := sz13
      refine ⟨regs13, Reach.trans rch3 (Reach.head jstep ?_), sz13'.trans sz3,
        fun r hr hk => by rw [pr13 r (mono8' r (mono3' r hr)) hk]; exact pr3 r hr, sv13⟩
      have e : k.pc + (seg3 ++ CI.mi (.pay Op.jumpIfNot.toNat .si false [rc] offr) :: (seg8 ++ ((if nj then [] else [CI.jump (Int.ofNat off2)]) ++ seg13))).length = k.pc + seg3.length + 1 + seg8.length + (jmp0 nj).length + seg13.length := by
        simp only [List.length_append, List.length_cons, hjl]; omega
      rw [e]
      exact rch13

theorem if_target (c c1 : CState) (opts : Fopts) (hh : opts.hint = none) (target : JSlot) (sc : Scope) (rs : List Scope)
    (hs : c.scopes = sc :: rs) (hl : c.lim ≤ 240)
    (hT : (if opts.drop then some (cslot .nil, c) else getTarget c opts) = some (target, c1)) :
    ∃ raT, c1 = { c with scopes := { sc with ra := raT } :: rs } ∧
      (∀ j, sc.ra.alloc j = true → raT.alloc j = true) ∧ sc.ra.max ≤ raT.max ∧
      (opts.drop = true → target = cslot .nil) ∧
      (opts.drop = false → ∃ d, target = { k := .loc d } ∧ sc.ra.alloc d = false ∧ raT.alloc d = true ∧ d ≤ raT.max ∧ d < 240) := by
  cases hd : opts.drop with
  | true =>
    rw [hd] at hT
    simp only [if_true, Option.some.injEq, Prod.mk.injEq] at hT
    refine ⟨sc.ra, ?_, fun _ h => h, Nat.le_refl _, fun _ => hT.1.symm, fun h => absurd h (by simp)⟩
    rw [← hT.2]; exact cstate_scopes_eta c sc rs hs
  | false =>
    rw [hd] at hT
    simp only [Bool.false_eq_true, if_false] at hT
    rw [getTarget_hint_none c opts hh] at hT
    obtain ⟨d, raT, e1, b1, b2, b3, b4, b5, e2⟩ := getTarget_spec c c1 target sc rs hs hl hT
    refine ⟨raT, e2, ?_, b4, fun h => absurd h (by simp), fun _ => ⟨d, e1, b1, ?_, b2, by omega⟩⟩
    · intro j hj; rw [b5 j]; split
      · rfl
      · exact hj
    · rw [b5 d]; simp

theorem IfOut.correct2 {G : String → Prop} {opts : Fopts} {c c' : CState} {slot target : JSlot} {sc : Scope} {rs : List Scope}
    {pool : List KConst} {ps : List (List KConst)} {raT : RA} {env : Env} {s s' : SS} {v : Value}
    (hE : EnvS G c.scopes env s.boxes.size sc.ra)
    (monoT : ∀ j, sc.ra.alloc j = true → raT.alloc j = true) (maxT : sc.ra.max ≤ raT.max)
    (htgtT : opts.drop = true → target = cslot .nil)
    (htgtF : opts.drop = false → ∃ d, target = { k := .loc d } ∧ sc.ra.alloc d = false ∧ raT.alloc d = true ∧ d ≤ raT.max ∧ d < 240)
    (eslot : slot = target)
    (H : IfOut p f0 V P c c' sc rs pool ps raT env s (PrefA s.boxes s'.boxes) False (fun n => opts.drop = false → ∀ d, target.k = .loc d → d < n)
      (RunRes p f0 rest true (fun _ => True) raT (fun r => opts.drop = false → target.k ≠ .loc r)
        (fun regs => opts.drop = false → slotVal V regs target = v) s'.st.world)) :
    Correct2 p f0 rest V P G opts.drop c c' slot sc rs pool ps env env s s' v := by
  obtain ⟨raX, kept, more, seg, segm, hc', pv, monoX, maxX, hlk', bx, _, vm⟩ := H
  refine ⟨raX, kept, more, seg, segm, hc', pv, fun r hr => monoX r (monoT r hr), by omega, ?_, bx,
    hE.of_lk hlk' bx.1 (fun _ _ _ _ r _ _ h => monoX r (monoT r h)), NameFrame.of_lk hlk' ?_, ?_⟩
  · rw [eslot]
    cases hd : opts.drop with
    | true => rw [htgtT hd]; exact Or.inl ⟨rfl, .nil, rfl, trivial⟩
    | false =>
      obtain ⟨d, e, hfree, hal, _, hd240⟩ := htgtF hd
      rw [e]
      exact Or.inr (Or.inr ⟨rfl, rfl, d, rfl, hfree, monoX d hal, hd240, (hE.noName_free hfree).of_lk hlk'⟩)
  · rw [eslot]
    cases hd : opts.drop with
    | true => rw [htgtT hd]; rfl
    | false => obtain ⟨d, e, _⟩ := htgtF hd; rw [e]
  · intro k hkw hka hD hcode hpre hV hsz
    obtain ⟨regs', rch, sz, fr, post⟩ := vm k hkw hka hD hcode (fun h => h.elim) hpre hV hsz (by
      intro hd d' hk
      obtain ⟨d, e, _, _, hdm, _⟩ := htgtF hd
      rw [e] at hk
      injection hk with e'
      rw [← e']; omega)
    -- a register allocated at entry is not the fresh target
    have hframe : ∀ r, sc.ra.alloc r = true → regs'.getD r .nil = k.regs.getD r .nil := by
      intro r hr
      refine fr r (monoT r hr) (fun hd hk => ?_)
      obtain ⟨d, e, hfree, _⟩ := htgtF hd
      rw [e] at hk
      injection hk with e'
      rw [e', hr] at hfree
      exact Bool.noConfusion hfree
    exact ⟨regs', rch, sz, hframe, fun hd => by rw [eslot]; exact post hd, EnvD.frame hE hD hlk' hframe bx⟩

theorem TgFresh.after {G : String → Prop} {opts : Fopts} {target : JSlot} {c c1 c3 : CState} {sc : Scope} {rs : List Scope} {raT : RA}
    {env : Env} {nb : Nat} (hs : c.scopes = sc :: rs) (hE : EnvS G c.scopes env nb sc.ra)
    (htgtF : opts.drop = false → ∃ d, target = { k := .loc d } ∧ sc.ra.alloc d = false ∧ raT.alloc d = true ∧ d ≤ raT.max ∧ d < 240)
    (ra3 : RA) (hmono : ∀ r, raT.alloc r = true → ra3.alloc r = true) (_ : raT.max ≤ ra3.max)
    (hno : ∀ d, raT.alloc d = true → NoName (blk c1 { sc with ra := raT } false :: { sc with ra := raT } :: rs) d → NoName c3.scopes d) :
    TgFresh opts target ra3 c3.scopes := by
  intro hd
  obtain ⟨d, e, hfree, hal, _, hd240⟩ := htgtF hd
  have hlk1 : ∀ y, lk (blk c1 { sc with ra := raT } false :: { sc with ra := raT } :: rs) y = lk c.scopes y := by
    intro y; rw [hs]; exact (lk_push _ _ rfl rfl rfl y).trans (lk_ra sc rs raT y)
  exact ⟨d, e, hd240, hmono d hal, hno d hal ((hE.noName_free hfree).of_lk hlk1)⟩

end

end JanetModel.Compile
