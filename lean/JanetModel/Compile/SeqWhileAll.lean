/- C02: compile correctness of ONE `while` loop: the dispatcher `while_gen` over the ways through `janetc_while`, for any body with
   its specification `BodyRun`; the specification of a body without `break`. -/
import JanetModel.Compile.SeqWhile
import JanetModel.Compile.SeqIfM
namespace JanetModel.Compile
open JanetModel.Emit JanetModel.Lang JanetModel.Bytecode.Exec JanetModel.Gen.Bytecode

/-- a condition of the fragment whose slot is a constant has that constant's truth value, whenever it is evaluated in the loop -/
theorem while_condT (G : String → Prop) (b : Bool) (fuel : Nat) (cnd : Expr) (hok : CondOK cnd) (hTc : TF G b cnd)
    (c c2 : CState) (sc : Scope) (rs : List Scope) (hs : c.scopes = sc :: rs) (env : Env) (nb : Nat) (hE : EnvS G c.scopes env nb sc.ra)
    (cond : JSlot) (k : KConst) (hcond : cValue fuel {} cnd (pushScope c false true false false) = some (cond, c2))
    (hk : isConstSlot cond = some k) (f2 : Nat) (pos : Pos) (si s1 : SS) (cv : Value) (cenv : Env)
    (hsc : eval f2 pos env cnd si = .ok (cv, cenv) s1) : truthy cv = constTruthy k := by
  have hlk1 : ∀ y, lk (pushScope c false true false false).scopes y = lk c.scopes y := by
    intro y; rw [pushScope_whl c sc rs hs, hs]; exact lk_wblk c sc rs y
  refine condT_of_ok G b fuel cnd hok hTc _ c2 cond k f2 pos env cenv si s1 cv (hE.lkl.of_lk hlk1) (fun x hx => ?_) hcond hk hsc
  rw [hlk1] at hx
  rcases hE.2 x with ⟨_, h2⟩ | ⟨sl, r, a, u, h1, _⟩
  · exact h2
  · rw [hx] at h1; exact absurd h1 (by simp)

theorem while_cond_nobrk (G : String → Prop) (b : Bool) (fuel : Nat) (cnd : Expr) (hTc : TF G b cnd) (c c2 : CState) (cond : JSlot)
    (hcond : cValue fuel {} cnd (pushScope c false true false false) = some (cond, c2)) :
    ∀ ci, ci ∈ c2.buf.drop c.buf.length → ci ≠ CI.brk :=
  noBrkFrom_drop (tf_nobrk G b fuel cnd {} _ c2 cond c.buf.length rfl rfl hTc hcond (noBrkFrom_length c.buf))

section
variable {p : Program} {f0 : Frame} {rest : List Frame} {V : Array Value} {P : List KConst}

theorem bodyRun_plain (G : String → Prop) (T : Expr → Prop) (w : Bool) (fuel : Nat) (IH : CorrectAt p f0 rest V P G T w fuel)
    (ML : MLAt G T true fuel) (body : List Expr) (hTb : ∀ e, e ∈ body → T e)
    (HF : BodyFacts G fuel body)
    (hnbB : ∀ n cur env0 s0 v0 s1, (∀ f, G f → lookupEnv env0 f = none) → evalSeq n cur env0 body s0 ≠ .brk v0 s1) (bnd : Nat) :
    BodyRun p f0 rest V P G fuel body bnd := by
  intro c3j c4 sc3 rs pool3 ps hbody hs3 hp3 htop3 _ _ hm3 hl3 hL3
  obtain ⟨S4, M4, N4⟩ := HF c3j c4 sc3 rs pool3 ps hs3 hp3 htop3 hm3 hL3 hbody
  refine ⟨S4, M4, ?_⟩
  intro sc4 pool4 segB hb4 hp4 hs4 _ n pos cenv s1 hE3
  have hid : fixBrk 1 segB = segB := fixBrk_id _ _ (by
    have := noBrkFrom_drop (N4 _ (noBrkFrom_length c3j.buf))
    rw [hb4] at this
    simpa using this)
  rw [hid]
  exact ⟨fun bv benv s2 hsb => whileBody_run G T w fuel IH ML body hTb c3j c4 sc3 sc4 rs pool3 pool4 ps segB n pos cenv benv s1 s2 bv
      hs3 hp3 hl3 htop3 hm3 hbody hsb hE3 hb4 hp4 hs4,
    fun bv s2 hbrk => absurd hbrk (hnbB _ _ _ _ _ _ (EnvS.gfree hE3))⟩

theorem while_gen (G : String → Prop) (T : Expr → Prop) (b w : Bool) (fuel : Nat) (IH : CorrectAt p f0 rest V P G T w fuel)
    (hTT : ∀ e, TF G b e → T e) (cnd : Expr) (body : List Expr) (pp : Pos) (hTc : TF G b cnd) (hok : CondOK cnd)
    (bnd : Nat) (HB : BodyRun p f0 rest V P G fuel body bnd)
    (opts : Fopts) (c c' : CState) (slot : JSlot) (sc : Scope) (rs : List Scope) (pool : List KConst) (ps : List (List KConst))
    (n : Nat) (cur : Pos) (env env' : Env) (s s' : SS) (v : Value)
    (ht : opts.tail = false) (hh : opts.hint = none) (hs : c.scopes = sc :: rs) (hp : c.pools = pool :: ps) (hl : c.lim ≤ 240)
    (hm : c.map.length = c.buf.length)
    (hc : cValue (fuel + 1) opts (.form (.sym "while" :: cnd :: body) pp) c = some (slot, c')) (hrg : c'.buf.length - c.buf.length ≤ bnd)
    (hsem : eval n cur env (.form (.sym "while" :: cnd :: body) pp) s = .ok (v, env') s')
    (hE : EnvS G c.scopes env s.boxes.size sc.ra) :
    Correct2 p f0 rest V P G opts.drop c c' slot sc rs pool ps env env' s s' v := by
  rw [cValue_while_o fuel opts ht hh cnd body pp c] at hc
  obtain ⟨cq, hcc, rfl⟩ := fin_inv hc
  obtain ⟨q, hq⟩ := curAt_eq c pp
  rw [hq] at hcc
  obtain ⟨n2, hn, hw, hv, henv⟩ := eval_while_inv n cur env env' cnd body pp s s' v hsem
  subst hv henv
  refine Correct2.recur p f0 rest V P (q := q) (Correct2.weaken p f0 rest V P _ ?_)
  obtain ⟨c0, hc0⟩ : ∃ c0 : CState, c0 = { c with cur := q } := ⟨_, rfl⟩
  rw [← hc0] at hcc ⊢
  have hs0 : c0.scopes = sc :: rs := by rw [hc0]; exact hs
  have hp0 : c0.pools = pool :: ps := by rw [hc0]; exact hp
  have hl0 : c0.lim ≤ 240 := by rw [hc0]; exact hl
  have hm0 : c0.map.length = c0.buf.length := by rw [hc0]; exact hm
  have hE0 : EnvS G c0.scopes env' s.boxes.size sc.ra := by rw [hc0]; exact hE
  obtain ⟨cond, c2, hcond, hcase⟩ := cWhile_inv hcc
  have hCT := while_condT G b fuel cnd hok hTc c0 c2 sc rs hs0 env' s.boxes.size hE0 cond
  rcases hcase with ⟨k, hk, htk, hpop, hslot⟩ | ⟨inf, c3j, c4, hmode, hbody, hend⟩
  · -- a constant falsy condition: the condition's code, then nothing
    subst hslot
    rw [pushScope_whl c0 sc rs hs0] at hcond
    have hlk1 : ∀ y, lk (wblk c0 sc :: sc :: rs) y = lk c0.scopes y := by
      intro y; rw [hs0]; exact lk_wblk _ sc rs y
    obtain ⟨f2, cv, cenv, s1, hf, hsc, hrest⟩ := whileLoop_inv n2 (posOf cur pp) env' cnd body s s' hw
    have hcv := hCT k (by rw [pushScope_whl c0 sc rs hs0]; exact hcond) hk f2 (posOf cur pp) s s1 cv cenv hsc
    rw [htk] at hcv
    have hs1 : s' = s1 := by
      rcases hrest with ⟨_, h⟩ | ⟨htr, _⟩
      · exact h
      · rw [hcv] at htr; exact Bool.noConfusion htr
    subst hs1
    obtain ⟨ra3, ns3, more3, seg3, segm3, hc3, pv3, mono3, max3, sok3, bx3, es3, nf3, vm3⟩ :=
      IH cnd {} { c0 with scopes := wblk c0 sc :: sc :: rs } c2 cond (wblk c0 sc) (sc :: rs) pool ps f2 (posOf cur pp) env' cenv s s' cv
        rfl rfl rfl hp0 hl0 rfl (fun _ => hm0) (hTT cnd hTc) hcond hsc (hE0.of_lk hlk1 (Nat.le_refl _) (fun _ _ _ _ _ _ _ h => h))
    have hs3 : c2.scopes = upd (wblk c0 sc) ra3 ns3 :: sc :: rs := by rw [hc3]
    obtain ⟨raX, hpop', hmaxX, hmonoX⟩ := popScope_block c2 _ sc rs hs3 rfl rfl rfl
    rw [hpop'] at hpop
    have hc6 := (Option.some.inj hpop).symm
    have hmaxX' : raX.max = (if sc.ra.max < ra3.max then ra3.max else sc.ra.max) := hmaxX
    have max3' : sc.ra.max ≤ ra3.max := max3
    have hlk' : ∀ x, lk cq.scopes x = lk c0.scopes x := by
      intro x; rw [hc6, hs0]; exact lk_popped sc rs raX _ x
    have hv6 : cq.vals = c2.vals := by rw [hc6]
    refine ⟨raX, (upd (wblk c0 sc) ra3 ns3).syms.map (fun q => { q with visible := false }), more3, seg3, segm3,
      ?_, ?_, hmonoX, ?_, Or.inl ⟨rfl, .nil, rfl, trivial⟩, bx3, ?_, NameFrame.of_lk hlk' rfl, ?_⟩
    · rw [hc6, hc3]
    · rw [hv6]; exact pv3
    · rw [hmaxX']; split <;> omega
    · exact hE0.of_lk hlk' bx3.1 (fun _ _ _ _ r _ _ h => hmonoX r h)
    · intro k0 hkw hka hD hcode hpre hV hsz
      rw [hv6] at hV
      obtain ⟨regs3, rch3, sz3, pr3, _, _⟩ := vm3 k0 hkw hka (hD.of_lk hlk1) hcode hpre hV
        (by rw [hmaxX'] at hsz; show ra3.max < _; split at hsz <;> omega)
      exact ⟨regs3, rch3, sz3, pr3, fun _ => rfl, EnvD.frame hE0 hD hlk' pr3 bx3⟩
  · -- a loop
    refine while_any G T b w fuel IH hTT cnd body hTc bnd HB c0 cq slot sc rs pool ps n2 (posOf cur pp) env' s s'
      hs0 hp0 hl0 hm0 inf c2 c3j c4 cond hcond hmode ?_ hbody hend (while_cond_nobrk G b fuel cnd hTc _ c2 cond hcond)
      (by rw [hc0]; exact hrg) hw hE0
    intro hinf f2 si s1 cv cenv hsc
    rcases hmode with ⟨_, ⟨k, hk, htk⟩, _⟩ | ⟨hf, _⟩
    · rw [← htk]; exact hCT k hcond hk f2 (posOf cur pp) si s1 cv cenv hsc
    · rw [hf] at hinf; exact Bool.noConfusion hinf

theorem while_core_gen (G : String → Prop) (T : Expr → Prop) (b w : Bool) (fuel : Nat) (IH : CorrectAt p f0 rest V P G T w fuel)
    (ML : MLAt G T true fuel) (hTT : ∀ e, TF G b e → T e)
    (cnd : Expr) (body : List Expr) (pp : Pos) (hTc : TF G b cnd) (hTb : ∀ e, e ∈ body → T e) (hok : CondOK cnd)
    (HF : BodyFacts G fuel body)
    (hnbB : ∀ n cur env0 s0 v0 s1, (∀ f, G f → lookupEnv env0 f = none) → evalSeq n cur env0 body s0 ≠ .brk v0 s1)
    (opts : Fopts) (c c' : CState) (slot : JSlot) (sc : Scope) (rs : List Scope) (pool : List KConst) (ps : List (List KConst))
    (n : Nat) (cur : Pos) (env env' : Env) (s s' : SS) (v : Value)
    (ht : opts.tail = false) (hh : opts.hint = none) (hs : c.scopes = sc :: rs) (hp : c.pools = pool :: ps) (hl : c.lim ≤ 240)
    (hm : c.map.length = c.buf.length)
    (hc : cValue (fuel + 1) opts (.form (.sym "while" :: cnd :: body) pp) c = some (slot, c'))
    (hsem : eval n cur env (.form (.sym "while" :: cnd :: body) pp) s = .ok (v, env') s')
    (hE : EnvS G c.scopes env s.boxes.size sc.ra) :
    Correct2 p f0 rest V P G opts.drop c c' slot sc rs pool ps env env' s s' v :=
  while_gen G T b w fuel IH hTT cnd body pp hTc hok _ (bodyRun_plain G T w fuel IH ML body hTb HF hnbB _)
    opts c c' slot sc rs pool ps n cur env env' s s' v ht hh hs hp hl hm hc (Nat.le_refl _) hsem hE

end

end JanetModel.Compile
