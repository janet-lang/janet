/- C02: the symbol table of the compiler model seen as a function `lk scopes x` (what `janetc_resolve` finds for a name), and how
   the scope operations of compile.c act on it: `janetc_nameslot` (a visible pair appended to the innermost scope),
   `janetc_scope` (an empty block scope pushed), `janetc_popscope` (the popped scope's pairs appended invisibly to the parent),
   allocator changes (none). -/
import JanetModel.Compile.Correct
namespace JanetModel.Compile
open JanetModel.Emit JanetModel.Lang JanetModel.Bytecode.Exec JanetModel.Gen.Bytecode

/-- `searchScopes` + the slot of the pair it found, by recursion on the scopes (no positions) -/
def lookupR (x : String) : List Scope → Bool → Bool → Option (JSlot × Bool × Bool)
  | [], _, _ => none
  | sc :: rest, u, l =>
    match findSym sc.syms x with
    | some i => some ((sc.syms.getD i default).slot, u || sc.unused, l)
    | none => lookupR x rest (u || sc.unused) (l && !sc.fn)

/-- `lookupSlot` on the scope list alone (`lookupSlot_lk`) -/
def lk (scs : List Scope) (x : String) : Option (JSlot × Bool × Bool) := lookupR x scs false true

theorem getD_append_length {α : Type} (pre : List α) (a : α) (l : List α) (d : α) : (pre ++ a :: l).getD pre.length d = a := by
  simp [List.getD]

theorem searchScopes_lookupR (x : String) : ∀ (l pre : List Scope) (u lc : Bool),
    (searchScopes x l pre.length u lc).map (fun r => ((((pre ++ l).getD r.1 default).syms.getD r.2.1 default).slot, r.2.2.1, r.2.2.2)) =
      lookupR x l u lc
  | [], _, _, _ => rfl
  | sc :: rest, pre, u, lc => by
    simp only [searchScopes, lookupR]
    cases hf : findSym sc.syms x with
    | some i => simp only [Option.map_some, getD_append_length]
    | none =>
      have := searchScopes_lookupR x rest (pre ++ [sc]) (u || sc.unused) (lc && !sc.fn)
      simp only [List.length_append, List.length_singleton, List.append_assoc, List.singleton_append] at this
      exact this

theorem lookupSlot_lk (c : CState) (x : String) : lookupSlot c x = lk c.scopes x := by
  have := searchScopes_lookupR x c.scopes [] false true
  simpa [lookupSlot, lk] using this

theorem find?_congr' {α : Type} {p q : α → Bool} : ∀ (l : List α), (∀ x, x ∈ l → p x = q x) → l.find? p = l.find? q
  | [], _ => rfl
  | a :: l, h => by
    have ha : p a = q a := h a (by simp)
    have ht := find?_congr' l (fun x hx => h x (by simp [hx]))
    simp only [List.find?_cons, ha, ht]

theorem getD_append_lt (l m : List SymPair) (i : Nat) (h : i < l.length) : (l ++ m).getD i default = l.getD i default := by
  simp [List.getD, List.getElem?_append_left h]

theorem findSym_lt (syms : List SymPair) (x : String) (i : Nat) (h : findSym syms x = some i) : i < syms.length := by
  unfold findSym at h
  have := List.mem_of_find?_eq_some h
  simpa using this

theorem findSym_snoc (syms : List SymPair) (p : SymPair) (x : String) :
    findSym (syms ++ [p]) x = if (p.visible && p.name == x) = true then some syms.length else findSym syms x := by
  unfold findSym
  simp only [List.length_append, List.length_singleton, List.range_succ, List.reverse_append, List.reverse_singleton, List.singleton_append,
    List.find?_cons, getD_append_length]
  by_cases hp : (p.visible && p.name == x) = true
  · simp only [hp, if_true]
  · have hp' : (p.visible && p.name == x) = false := by simpa using hp
    simp only [hp', Bool.false_eq_true, if_false]
    apply find?_congr'
    intro i hi
    have hlt : i < syms.length := by simpa using hi
    rw [getD_append_lt syms [p] i hlt]

/-- pairs that are not visible are never found -/
theorem findSym_append_invisible (x : String) : ∀ (kept syms : List SymPair), (∀ p, p ∈ kept → p.visible = false) →
    findSym (syms ++ kept) x = findSym syms x
  | [], syms, _ => by simp
  | k :: ks, syms, h => by
    have e : syms ++ k :: ks = (syms ++ [k]) ++ ks := by simp
    rw [e, findSym_append_invisible x ks (syms ++ [k]) (fun p hp => h p (by simp [hp])), findSym_snoc]
    have : k.visible = false := h k (by simp)
    simp [this]

/-- the allocator is not part of the symbol table -/
theorem lk_ra (sc : Scope) (rs : List Scope) (ra : RA) (x : String) : lk ({ sc with ra := ra } :: rs) x = lk (sc :: rs) x := rfl

/-- `janetc_nameslot`: the new pair shadows, everything else is unchanged -/
theorem lk_snoc (sc : Scope) (rs : List Scope) (p : SymPair) (hv : p.visible = true) (x : String) :
    lk ({ sc with syms := sc.syms ++ [p] } :: rs) x =
      if (p.name == x) = true then some (p.slot, sc.unused, true) else lk (sc :: rs) x := by
  simp only [lk, lookupR, findSym_snoc, hv, Bool.true_and, Bool.false_or]
  cases hn : (p.name == x) with
  | true => simp only [if_true, getD_append_length]
  | false =>
    simp only [Bool.false_eq_true, if_false]
    cases hf : findSym sc.syms x with
    | some i => simp only [getD_append_lt sc.syms [p] i (findSym_lt _ _ _ hf)]
    | none => rfl

/-- `janetc_scope` for a block: an empty, used, non-function scope changes nothing -/
theorem lk_push (nw : Scope) (l : List Scope) (h1 : nw.syms = []) (h2 : nw.unused = false) (h3 : nw.fn = false) (x : String) :
    lk (nw :: l) x = lk l x := by
  have hf : findSym nw.syms x = none := by rw [h1]; rfl
  simp only [lk, lookupR, hf, h2, h3, Bool.or_false, Bool.not_false, Bool.and_true]

/-- `janetc_popscope`: the pairs of the popped scope stay in the parent, invisible -/
theorem lk_append_invisible (sc : Scope) (rs : List Scope) (kept : List SymPair) (hk : ∀ p, p ∈ kept → p.visible = false) (x : String) :
    lk ({ sc with syms := sc.syms ++ kept } :: rs) x = lk (sc :: rs) x := by
  simp only [lk, lookupR, findSym_append_invisible x kept sc.syms hk]
  cases hf : findSym sc.syms x with
  | some i => simp only [getD_append_lt sc.syms kept i (findSym_lt _ _ _ hf)]
  | none => rfl

end JanetModel.Compile
