/- C02: `while`, what the loop theorems stand on: the loop rule `whileLoop_rule` (the induction on the fuel of
   `Lang/Sem.whileLoop` for the `.ok` outcome), the `break`-placeholder rewrite as a map `fixBrk` of the loop's own code, and the body statements of
   `janetc_while`. -/
import JanetModel.Compile.SeqWhileDef
import JanetModel.Compile.SeqNoBrk
import JanetModel.Compile.SeqShapeMaxR
import JanetModel.Compile.SeqIfSem
namespace JanetModel.Compile
open JanetModel.Emit JanetModel.Lang JanetModel.Bytecode.Exec JanetModel.Gen.Bytecode

theorem eval_while (n : Nat) (cur : Pos) (env : Env) (c : Expr) (body : List Expr) (p : Pos) (s : SS) :
    eval (n + 1) cur env (.form (.sym "while" :: c :: body) p) s =
      (match whileLoop n (posOf cur p) env c body s with
       | .ok _ s' => .ok (.nil, env) s'
       | .err v p s' => .err v p s' | .brk v s' => .brk v s' | .stop w => .stop w) := by
  simp only [eval] <;> rfl

theorem eval_while_inv (n : Nat) (cur : Pos) (env env' : Env) (c : Expr) (body : List Expr) (p : Pos) (s s' : SS) (v : Value)
    (h : eval n cur env (.form (.sym "while" :: c :: body) p) s = .ok (v, env') s') :
    ∃ n2, n = n2 + 1 ∧ whileLoop n2 (posOf cur p) env c body s = .ok () s' ∧ v = .nil ∧ env' = env := by
  cases n with
  | zero => simp [eval] at h
  | succ n2 =>
    rw [eval_while] at h
    cases hw : whileLoop n2 (posOf cur p) env c body s with
    | ok u s1 =>
      rw [hw] at h
      simp only [R.ok.injEq, Prod.mk.injEq] at h
      obtain ⟨⟨hv, henv⟩, hs⟩ := h
      subst hs
      cases u
      exact ⟨n2, rfl, hw, hv.symm, henv.symm⟩
    | err _ _ _ => rw [hw] at h; exact absurd h (by simp)
    | brk _ _ => rw [hw] at h; exact absurd h (by simp)
    | stop _ => rw [hw] at h; exact absurd h (by simp)

theorem whileLoop_inv (f : Nat) (cur : Pos) (env : Env) (c : Expr) (body : List Expr) (s s' : SS)
    (h : whileLoop f cur env c body s = .ok () s') :
    ∃ f2 cv cenv s1, f = f2 + 1 ∧ eval f2 cur env c s = .ok (cv, cenv) s1 ∧
      ((truthy cv = false ∧ s' = s1) ∨
       (truthy cv = true ∧ ((∃ bv benv s2, evalSeq f2 cur cenv body s1 = .ok (bv, benv) s2 ∧ whileLoop f2 cur env c body s2 = .ok () s') ∨
          (∃ bv, evalSeq f2 cur cenv body s1 = .brk bv s')))) := by
  cases f with
  | zero => simp [whileLoop] at h
  | succ f2 =>
    simp only [whileLoop] at h
    cases hc : eval f2 cur env c s with
    | ok r s1 =>
      obtain ⟨cv, cenv⟩ := r
      rw [hc] at h
      simp only at h
      cases ht : truthy cv with
      | false =>
        simp only [ht, Bool.false_eq_true, if_false, R.ok.injEq, true_and] at h
        exact ⟨f2, cv, cenv, s1, rfl, hc, Or.inl ⟨ht, h.symm⟩⟩
      | true =>
        simp only [ht, if_true] at h
        cases hb : evalSeq f2 cur cenv body s1 with
        | ok r2 s2 =>
          obtain ⟨bv, benv⟩ := r2
          rw [hb] at h
          exact ⟨f2, cv, cenv, s1, rfl, hc, Or.inr ⟨ht, Or.inl ⟨bv, benv, s2, hb, h⟩⟩⟩
        | brk bv s2 =>
          rw [hb] at h
          simp only [R.ok.injEq, true_and] at h
          subst h
          exact ⟨f2, cv, cenv, s1, rfl, hc, Or.inr ⟨ht, Or.inr ⟨bv, hb⟩⟩⟩
        | err _ _ _ => rw [hb] at h; exact absurd h (by simp)
        | stop _ => rw [hb] at h; exact absurd h (by simp)
    | err _ _ _ => rw [hc] at h; exact absurd h (by simp)
    | brk _ _ => rw [hc] at h; exact absurd h (by simp)
    | stop _ => rw [hc] at h; exact absurd h (by simp)

/-- `whileLoop` that ends well is simulated by any transitive relation `R` (the VM: `Reach p`; compile-time bookkeeping: the trivial
    relation) as soon as one turn is: `Inv` at the loop head, `Mid` after a truthy condition, `Post` at the exit -/
theorem whileLoop_rule {α : Type} (R : α → α → Prop) (hR : ∀ {a b c}, R a b → R b c → R a c)
    (pos : Pos) (env : Env) (cnd : Expr) (body : List Expr)
    (Inv : SS → α → Prop) (Mid : Env → SS → α → Prop) (Post : SS → α → Prop)
    (hcond : ∀ f si a cv cenv s1, Inv si a → eval f pos env cnd si = .ok (cv, cenv) s1 →
      ∃ b, R a b ∧ (if truthy cv then Mid cenv s1 b else Post s1 b))
    (hbody : ∀ f cenv s1 b, Mid cenv s1 b →
      (∀ bv benv s2, evalSeq f pos cenv body s1 = .ok (bv, benv) s2 → ∃ a, R b a ∧ Inv s2 a) ∧
      (∀ bv s2, evalSeq f pos cenv body s1 = .brk bv s2 → ∃ d, R b d ∧ Post s2 d)) :
    ∀ (f : Nat) (si s' : SS) (a : α), whileLoop f pos env cnd body si = .ok () s' → Inv si a → ∃ d, R a d ∧ Post s' d := by
  intro f
  induction f with
  | zero => intro si s' a hw; simp [whileLoop] at hw
  | succ f ih =>
    intro si s' a hw hI
    obtain ⟨f2, cv, cenv, s1, hf, hc, hrest⟩ := whileLoop_inv (f + 1) pos env cnd body si s' hw
    obtain rfl : f2 = f := by omega
    obtain ⟨b, hab, hb⟩ := hcond f2 si a cv cenv s1 hI hc
    rcases hrest with ⟨ht, rfl⟩ | ⟨ht, ⟨bv, benv, s2, hsb, hw2⟩ | ⟨bv, hbrk⟩⟩
    · rw [ht] at hb; exact ⟨b, hab, hb⟩
    · rw [ht] at hb
      obtain ⟨a2, hba, hI2⟩ := (hbody f2 cenv s1 b hb).1 bv benv s2 hsb
      obtain ⟨d, had, hd⟩ := ih s2 s' a2 hw2 hI2
      exact ⟨d, hR hab (hR hba had), hd⟩
    · rw [ht] at hb
      obtain ⟨d, hbd, hd⟩ := (hbody f2 cenv s1 b hb).2 bv s' hbrk
      exact ⟨d, hR hab hbd, hd⟩

/-- `brkRewrite` seen from inside the loop: in code `L` followed by `n` more instructions up to the loop's end label, a
    placeholder at index `i` becomes `JUMP (n + L.length − i)` -/
def fixBrk (n : Nat) : List CI → List CI
  | [] => []
  | .brk :: L => .jump (Int.ofNat (n + L.length + 1)) :: fixBrk n L
  | ci :: L => ci :: fixBrk n L

theorem fixBrk_length (n : Nat) : ∀ L, (fixBrk n L).length = L.length
  | [] => rfl
  | ci :: L => by cases ci <;> simp [fixBrk, fixBrk_length n L]

theorem fixBrk_append (n : Nat) : ∀ A B, fixBrk n (A ++ B) = fixBrk (n + B.length) A ++ fixBrk n B
  | [], B => rfl
  | ci :: A, B => by
    cases ci <;> simp [fixBrk, fixBrk_append n A B] <;> omega

theorem fixBrk_id (n : Nat) : ∀ L, (∀ ci, ci ∈ L → ci ≠ .brk) → fixBrk n L = L
  | [], _ => rfl
  | ci :: L, h => by
    have ht := fixBrk_id n L (fun x hx => h x (by simp [hx]))
    cases ci with
    | brk => exact absurd rfl (h _ (by simp))
    | _ => simp [fixBrk, ht]

def fix1 (off : Nat) : CI → CI
  | .brk => .jump (Int.ofNat off)
  | ci => ci

theorem fixBrk_getElem? (n : Nat) : ∀ (L : List CI) (j : Nat), (fixBrk n L)[j]? = L[j]?.map (fix1 (n + L.length - j))
  | [], j => by simp [fixBrk]
  | ci :: L, 0 => by cases ci <;> simp [fixBrk, fix1] <;> omega
  | ci :: L, j + 1 => by
    have := fixBrk_getElem? n L j
    have e : n + (L.length + 1) - (j + 1) = n + L.length - j := by omega
    cases ci <;> simp [fixBrk, this, e]

theorem brkRewrite_getElem? (buf : List CI) (lo hi i : Nat) :
    (brkRewrite buf lo hi)[i]? = buf[i]?.map (fun ci => if lo ≤ i ∧ i < hi then fix1 (hi - i) ci else ci) := by
  by_cases h : i < buf.length
  · have hg : buf.getD i default = buf[i] := by simp [List.getD, h]
    simp only [brkRewrite, List.getElem?_map, List.getElem?_range h, Option.map_some, hg, List.getElem?_eq_getElem h]
    cases buf[i] <;> simp [fix1]
  · simp [brkRewrite, h]

theorem brkRewrite_fix (pre L : List CI) (n : Nat) (h : n = (pre ++ L).length) : brkRewrite (pre ++ L) pre.length n = pre ++ fixBrk 0 L := by
  subst h
  apply List.ext_getElem?
  intro i
  rw [brkRewrite_getElem?]
  by_cases h : i < pre.length
  · have : ¬ (pre.length ≤ i ∧ i < pre.length + L.length) := by omega
    simp [List.getElem?_append_left h, this]
  · have h' : pre.length ≤ i := Nat.le_of_not_lt h
    rw [List.getElem?_append_right h', List.getElem?_append_right h', fixBrk_getElem?]
    by_cases h2 : i - pre.length < L.length
    · have h3 : i < pre.length + L.length := by omega
      have e : pre.length + L.length - i = L.length - (i - pre.length) := by omega
      simp [h', h3, e]
    · simp [List.getElem?_eq_none (Nat.le_of_not_lt h2)]

theorem fixBrk_cons (n : Nat) {ci : CI} (L : List CI) (h : ci ≠ .brk) : fixBrk n (ci :: L) = ci :: fixBrk n L := by
  cases ci with
  | brk => exact absurd rfl h
  | _ => rfl

/-- the end of `janetc_while` on the code `A ++ cond ++ J ++ body`, `J` the conditional jump if one was emitted -/
theorem cWhileEnd_inv {rec' : Fopts → Expr → CState → Option (JSlot × CState)} {cnd : Expr} {body : List Expr}
    (inf : Bool) (labelc : Nat) (A seg3 J segB : List CI) (c4 c' : CState) (slot : JSlot)
    (hb : c4.buf = A ++ (seg3 ++ (J ++ segB))) (hJ : J.length = if inf then 0 else 1) (hlc : inf = false → labelc = (A ++ seg3).length)
    (hcl : (c4.scopes.headD default).closure = false) (hnb : ∀ ci, ci ∈ seg3 → ci ≠ .brk) (hnbJ : ∀ ci, ci ∈ J → ci ≠ .brk)
    (h : cWhileEnd rec' cnd body inf A.length labelc c4 = some (slot, c')) :
    slot = cslot .nil ∧ (inf = false → segB.length + 2 ≤ 32767) ∧ seg3.length + J.length + segB.length ≤ 8388607 ∧
    popScope { emitRaw c4 (.jump 0) with
      buf := A ++ (seg3 ++ (J.map (patchCond (segB.length + 2)) ++
        (fixBrk 1 segB ++ [CI.jump (-((seg3.length + J.length + segB.length : Nat) : Int))]))) } = some c' := by
  cases inf with
  | false =>
    obtain ⟨x, rfl⟩ := List.length_eq_one_iff.mp hJ
    have hx : patchCond (segB.length + 2) x ≠ .brk := patchCond_nobrk _ x (hnbJ x (by simp))
    have hlc' := hlc rfl
    simp only [cWhileEnd, hcl, Bool.false_eq_true, if_false, Bool.not_false, Bool.true_and] at h
    by_cases hrange : (decide ((emitRaw c4 (CI.jump 0)).buf.length - labelc > 32767) || decide (c4.buf.length - A.length > 8388607)) = true
    · rw [if_pos hrange] at h; exact absurd h (by simp)
    rw [if_neg hrange] at h
    simp only [Bool.or_eq_true, decide_eq_true_eq, not_or, Nat.not_lt] at hrange
    obtain ⟨hr1, hr2⟩ := hrange
    simp only [Option.bind_eq_bind, Option.bind_eq_some_iff, Option.pure_def, Option.some.injEq, Prod.mk.injEq] at h
    obtain ⟨c6, hpop, hslot, hc6⟩ := h
    subst hc6
    have hb5 : (emitRaw c4 (CI.jump 0)).buf = (A ++ seg3) ++ x :: (segB ++ [CI.jump 0]) := by
      simp only [emitRaw]; rw [hb]; simp
    have hlen4 : c4.buf.length = A.length + seg3.length + 1 + segB.length := by rw [hb]; simp; omega
    have hoffc : (emitRaw c4 (CI.jump 0)).buf.length - labelc = segB.length + 2 := by rw [hlc', hb5]; simp; omega
    have hoffb : Int.ofNat A.length - Int.ofNat c4.buf.length = -((seg3.length + [x].length + segB.length : Nat) : Int) := by
      rw [hlen4]; simp; omega
    rw [hoffc] at hr1 hpop
    rw [hoffb] at hpop
    refine ⟨hslot.symm, fun _ => hr1, by simp only [List.length_cons, List.length_nil]; omega, ?_⟩
    rw [← hpop, hb5, hlc', modBuf_at]
    have e2 : (A ++ seg3) ++ patchCond (segB.length + 2) x :: (segB ++ [CI.jump 0]) =
        (A ++ seg3 ++ patchCond (segB.length + 2) x :: segB) ++ CI.jump 0 :: [] := by simp
    have e3 : c4.buf.length = (A ++ seg3 ++ patchCond (segB.length + 2) x :: segB).length := by rw [hlen4]; simp; omega
    rw [e2, e3, modBuf_at]
    simp only [List.append_assoc, List.cons_append, List.nil_append, List.map_cons, List.map_nil]
    rw [brkRewrite_fix A _ _ (by simp), fixBrk_append, fixBrk_id _ seg3 hnb, fixBrk_cons _ _ hx, fixBrk_append]
    simp [fixBrk]
  | true =>
    obtain rfl := List.length_eq_zero_iff.mp hJ
    simp only [List.nil_append, List.length_nil, List.map_nil] at hb ⊢
    simp only [cWhileEnd, hcl, Bool.false_eq_true, if_false, if_true, Bool.not_true, Bool.false_and, Bool.false_or] at h
    by_cases hrange : decide (c4.buf.length - A.length > 8388607) = true
    · rw [if_pos hrange] at h; exact absurd h (by simp)
    rw [if_neg hrange] at h
    simp only [decide_eq_true_eq, Nat.not_lt] at hrange
    simp only [Option.bind_eq_bind, Option.bind_eq_some_iff, Option.pure_def, Option.some.injEq, Prod.mk.injEq] at h
    obtain ⟨c6, hpop, hslot, hc6⟩ := h
    subst hc6
    have hb5 : (emitRaw c4 (CI.jump 0)).buf = (A ++ seg3 ++ segB) ++ CI.jump 0 :: [] := by
      simp only [emitRaw]; rw [hb]; simp
    have hlen4 : c4.buf.length = (A ++ seg3 ++ segB).length := by rw [hb]; simp
    have hoffb : Int.ofNat A.length - Int.ofNat c4.buf.length = -((seg3.length + 0 + segB.length : Nat) : Int) := by
      rw [hlen4]; simp; omega
    rw [hoffb] at hpop
    refine ⟨hslot.symm, fun e => Bool.noConfusion e, by rw [hlen4] at hrange; simp at hrange; omega, ?_⟩
    rw [← hpop, hb5, hlen4, modBuf_at]
    simp only [List.append_assoc]
    rw [brkRewrite_fix A _ _ (by simp), fixBrk_append, fixBrk_id _ seg3 hnb]
    simp [fixBrk, fixBrk_append]

/-- the conditional jump of a loop, none when the condition slot is a truthy constant -/
def condJmp (inf : Bool) (rc off : Nat) : List CI := if inf then [] else [CI.mi (.pay Op.jumpIfNot.toNat .si false [rc] off)]

theorem condJmp_length (inf : Bool) (rc off : Nat) : (condJmp inf rc off).length = if inf then 0 else 1 := by
  cases inf <;> rfl

theorem condJmp_patch (inf : Bool) (rc off : Nat) : (condJmp inf rc 0).map (patchCond off) = condJmp inf rc off := by
  cases inf <;> rfl

theorem condJmp_nobrk (inf : Bool) (rc off : Nat) : ∀ ci, ci ∈ condJmp inf rc off → ci ≠ .brk := by
  cases inf <;> simp [condJmp]

theorem noBrkFrom_length (buf : List CI) : NoBrkFrom buf buf.length := by
  intro i ci hi hget
  rw [List.getElem?_eq_none (by omega)] at hget
  exact absurd hget (by simp)

theorem noBrkFrom_drop {buf : List CI} {n : Nat} (h : NoBrkFrom buf n) : ∀ ci, ci ∈ buf.drop n → ci ≠ CI.brk := by
  intro ci hci
  obtain ⟨i, hi⟩ := List.mem_iff_getElem?.mp hci
  rw [List.getElem?_drop] at hi
  exact h (n + i) ci (by omega) hi

/-- the compile-only facts of a list of body statements, as a hypothesis of the loop theorems -/
def BodyFacts (G : String → Prop) (fuel : Nat) (body : List Expr) : Prop :=
  ∀ (c c' : CState) (sc : Scope) (rs : List Scope) (pool : List KConst) (ps : List (List KConst)),
    c.scopes = sc :: rs → c.pools = pool :: ps → sc.top = false → c.map.length = c.buf.length →
    LkL G c.scopes → whileBody (cValue fuel) body c = some c' → Shp G c c' sc rs pool ps ∧ MaxR c c' rs ∧ NBR c c'

section
variable {p : Program} {f0 : Frame} {rest : List Frame} {V : Array Value} {P : List KConst}

/-- `janetc_while` body: every statement dropped and freed -/
theorem whileBody_correct (G : String → Prop) (T : Expr → Prop) (w : Bool) (fuel : Nat) (IH : CorrectAt p f0 rest V P G T w fuel)
    (ML : MLAt G T true fuel) :
    ∀ (b : List Expr), (∀ e, e ∈ b → T e) →
    ∀ (c c' : CState) (sc : Scope) (rs : List Scope) (pool : List KConst) (ps : List (List KConst))
      (n : Nat) (cur : Pos) (env env' : Env) (s s' : SS) (v : Value),
      c.scopes = sc :: rs → c.pools = pool :: ps → c.lim ≤ 240 → sc.top = false → c.map.length = c.buf.length →
      whileBody (cValue fuel) b c = some c' → evalSeq n cur env b s = .ok (v, env') s' → EnvS G c.scopes env s.boxes.size sc.ra →
      Correct2 p f0 rest V P G true c c' (cslot .nil) sc rs pool ps env env' s s' v := by
  intro b
  induction b with
  | nil =>
    intro _ c c' sc rs pool ps n cur env env' s s' v hs hp _ _ _ hc hsem hE
    simp only [whileBody, Option.some.injEq] at hc
    obtain ⟨e1, e2, e3⟩ := evalSeq_nil_inv n cur env env' s s' v hsem
    subst hc e1 e2 e3
    exact Correct2.weaken p f0 rest V P _ (atom_nil2 p f0 rest V P G _ sc rs pool ps hs hp _ _ hE)
  | cons x t ih =>
    intro hT c c' sc rs pool ps n cur env env' s s' v hs hp hl htop hm hc hsem hE
    simp only [whileBody, Option.bind_eq_bind, Option.bind_eq_some_iff, Prod.exists] at hc
    obtain ⟨sl1, c1, hx, c1f, hf, hrest⟩ := hc
    have hm1 : ∀ env0 nb, EnvS G c.scopes env0 nb sc.ra → c1f.map.length = c1f.buf.length := by
      intro env0 nb hE0
      obtain ⟨e1, e2⟩ := freeslot_bufmap c1 c1f sl1 hf
      rw [e1, e2]
      exact ML rfl x { drop := true } c c1 sl1 sc rs pool ps env0 nb rfl rfl hs hp htop (hT x (by simp)) hE0 hx hm
    cases t with
    | nil =>
      obtain ⟨n2, hn, he⟩ := evalSeq_one_inv n cur env env' x s s' v hsem
      have h1 := IH x { drop := true } c c1 sl1 sc rs pool ps n2 cur env env' s s' v rfl rfl hs hp hl htop (fun _ => hm) (hT x (by simp)) hx he hE
      simp only [whileBody, Option.some.injEq] at hrest
      subst hrest
      exact (Correct2.freed p f0 rest V P h1 hf).1
    | cons y r =>
      obtain ⟨n2, v1, env1, s1, hn, he1, he2⟩ := evalSeq_cons_inv n cur env env' x y r s s' v hsem
      have h1 := IH x { drop := true } c c1 sl1 sc rs pool ps n2 cur env env1 s s1 v1 rfl rfl hs hp hl htop (fun _ => hm) (hT x (by simp)) hx he1 hE
      refine (Correct2.freed p f0 rest V P h1 hf).1.comp p f0 rest V P ?_
      intro sc1 pool1 hs1 hp1 htop1 hl1 hE1
      exact ih (fun e he => hT e (by simp [he])) c1f c' sc1 rs pool1 ps n2 cur env1 env' s1 s' v hs1 hp1
        (by rw [hl1]; exact hl) (by rw [htop1]; exact htop) (hm1 env s.boxes.size hE) hrest he2 hE1

end

end JanetModel.Compile
