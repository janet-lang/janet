/- C02: `janetc_value` in tail position on the forms other than calls — the form's own code, then `janetc_return` on its slot:
   JOP_RETURN_NIL for the constant nil, `LDK t k; RETURN t` for another constant, `RETURN r` for a near local.  `TailOK` = what a
   form compiled in tail position delivers: the next VM step IS the return of the value and world `Lang/Sem` gives. -/
import JanetModel.Compile.SeqTail
import JanetModel.Compile.SeqCore
namespace JanetModel.Compile
open JanetModel.Emit JanetModel.Lang JanetModel.Bytecode.Exec JanetModel.Gen.Bytecode

/-- the end of `janetc_value` in tail position without hint: `janetc_return`, mapping cursor restored -/
def finT (last : Pos) : Option (JSlot × CState) → Option (JSlot × CState)
  | none => none
  | some (ret, c1) => (cReturn c1 ret).bind (fun r => some (r.1, { r.2 with cur := last }))

theorem finO_t (opts : Fopts) (ht : opts.tail = true) (hh : opts.hint = none) (last : Pos) (X : Option (JSlot × CState)) :
    finO opts last X = finT last X := by
  cases X with
  | none => rfl
  | some a =>
    obtain ⟨ret, c1⟩ := a
    simp only [finO, finT, ht, hh, if_true]
    cases cReturn c1 ret with
    | none => rfl
    | some r => cases r; rfl

theorem cReturn_unret (c : CState) (s : JSlot) (h : s.returned = false) :
    cReturn c s = (if (s.cflag && s.k == Slot.const KConst.nil) = true then some (emitRaw c .retNil) else emitS c .return s false).bind
      (fun c' => some ({ s with returned := true }, c')) := by
  simp only [cReturn, h, Bool.false_eq_true, if_false]
  split <;> rfl

/-- no resolvable name carries the RETURNED flag (`janetc_return` flags only the copy of the slot it hands back) -/
def NR (scs : List Scope) : Prop := ∀ x slot u l, lk scs x = some (slot, u, l) → slot.returned = false

theorem NR.of_lk {scs scs' : List Scope} (h : NR scs) (hlk : ∀ x, lk scs' x = lk scs x) : NR scs' := by
  intro x slot u l hx; rw [hlk] at hx; exact h x slot u l hx

section
variable (p : Program) (f0 : Frame) (rest : List Frame) (V : Array Value) (P : List KConst)

/-- what a form compiled in tail position delivers: the slot is flagged RETURNED; the compiler state changed as for any form
    (innermost allocator and symbols, pool / code / map appended); the VM, started at the form's code, reaches a configuration
    whose next step is the return of the value, in the world `Lang/Sem` gives -/
def TailOK (_G : String → Prop) (c c' : CState) (slot : JSlot) (sc : Scope) (rs : List Scope) (pool : List KConst) (ps : List (List KConst))
    (env : Env) (s s' : SS) (v : Value) : Prop :=
  slot.returned = true ∧
  ∃ (ra' : RA) (nsyms : List SymPair) (more : List KConst) (seg : List CI) (segm : List Pos),
    c' = { c with scopes := { sc with ra := ra', syms := sc.syms ++ nsyms } :: rs, pools := (pool ++ more) :: ps, buf := c.buf ++ seg,
                  map := c.map ++ segm, vals := c'.vals } ∧
    PrefA c.vals c'.vals ∧ (∀ r, sc.ra.alloc r = true → ra'.alloc r = true) ∧ sc.ra.max ≤ ra'.max ∧
    ∀ (k : Cfg), k.w = s.st.world → k.args = #[] → EnvD c.scopes env s k.regs →
      CodeAt (p.defs.getD f0.defIdx default).code k.pc seg → PrefL (pool ++ more) P → PrefA c'.vals V → ra'.max < k.regs.size →
      ∃ (regs' A : Array Value) (pc' : Nat) (wa : World),
        Reach p (inj f0 rest k) (inj f0 rest { regs := regs', pc := pc', args := A, w := wa }) ∧ regs'.size = k.regs.size ∧
        step p (inj f0 rest { regs := regs', pc := pc', args := A, w := wa }) =
          doReturn p (inj f0 rest { regs := regs', pc := pc', args := #[], w := s'.st.world }) v

/-- the mapping cursor does not matter -/
theorem TailOK.recur {G : String → Prop} {c c1 : CState} {q : Pos} {slot : JSlot} {sc : Scope} {rs : List Scope} {pool : List KConst}
    {ps : List (List KConst)} {env : Env} {s s' : SS} {v : Value}
    (h : TailOK p f0 rest V P G { c with cur := q } c1 slot sc rs pool ps env s s' v) :
    TailOK p f0 rest V P G c { c1 with cur := c.cur } slot sc rs pool ps env s s' v := by
  obtain ⟨hr, ra', nsyms, more, seg, segm, hc, h2⟩ := h
  refine ⟨hr, ra', nsyms, more, seg, segm, ?_, h2⟩
  conv => lhs; rw [hc]

theorem run_return (k : Cfg) (r : Nat) (hr : r < 16777216)
    (hcode : (p.defs.getD f0.defIdx default).code[k.pc]? = some (CI.mi (.pay Op.return.toNat .s false [r] 0)).word) :
    step p (inj f0 rest k) = doReturn p (inj f0 rest k) (k.regs.getD r .nil) := by
  have h := step_return p (inj f0 rest k) r hr (by rw [inj_curDef, inj_pc]; exact hcode)
  rw [h, inj_getReg]

theorem run_retNil (k : Cfg) (hcode : (p.defs.getD f0.defIdx default).code[k.pc]? = some CI.retNil.word) :
    step p (inj f0 rest k) = doReturn p (inj f0 rest k) .nil :=
  step_retNil p (inj f0 rest k) (by rw [inj_curDef, inj_pc]; exact hcode)

theorem tail_ret_core (hP : P.length < 65536)
    (hK : ∀ i, i < P.length → (p.defs.getD f0.defIdx default).consts.getD i .nil = litOf V (P.getD i .nil))
    (G : String → Prop) (c c1 c2 : CState) (ret slot : JSlot) (sc : Scope) (rs : List Scope) (pool : List KConst) (ps : List (List KConst))
    (env env' : Env) (s s' : SS) (v : Value) (hl : c.lim ≤ 240)
    (H : Correct2 p f0 rest V P G false c c1 ret sc rs pool ps env env' s s' v)
    (hnr : ret.returned = false) (hcr : cReturn c1 ret = some (slot, c2)) :
    TailOK p f0 rest V P G c c2 slot sc rs pool ps env s s' v := by
  obtain ⟨ra1, ns1, more1, seg1, segm1, hc1, pv1, mono1, max1, sok1, bx1, es1, nf1, vm1⟩ := H
  have hs1 : c1.scopes = { sc with ra := ra1, syms := sc.syms ++ ns1 } :: rs := by rw [hc1]
  have hp1 : c1.pools = (pool ++ more1) :: ps := by rw [hc1]
  have hl1 : c1.lim ≤ 240 := by rw [hc1]; exact hl
  rw [cReturn_unret c1 ret hnr] at hcr
  simp only [Option.bind_eq_some_iff, Option.some.injEq, Prod.mk.injEq] at hcr
  obtain ⟨cx, hem, hslot, hcx⟩ := hcr
  subst hcx
  have hret : slot.returned = true := by rw [← hslot]
  have hcases : (ret.cflag = true ∧ ∃ kc, ret.k = .const kc) ∨ (ret.cflag = false ∧ ∃ r, ret.k = .loc r ∧ r < 240) := by
    rcases sok1 with ⟨a1, kc, a2, _⟩ | ⟨a1, _, r, a2, _, a3⟩ | ⟨a1, _, d, a2, _, _, a3, _⟩
    · exact Or.inl ⟨a1, kc, a2⟩
    · exact Or.inr ⟨a1, r, a2, a3⟩
    · exact Or.inr ⟨a1, d, a2, a3⟩
  rcases hcases with ⟨hcf, kc, hkk⟩ | ⟨hcf, r, hkk, hr⟩
  · by_cases hnil : kc = .nil
    · -- JOP_RETURN_NIL
      subst hnil
      have hcond : (ret.cflag && ret.k == Slot.const KConst.nil) = true := by rw [hcf, hkk]; decide
      rw [if_pos hcond] at hem
      have hcx : cx = emitRaw c1 .retNil := (Option.some.inj hem).symm
      subst hcx
      refine ⟨hret, ra1, ns1, more1, seg1 ++ [CI.retNil], segm1 ++ [c1.cur], ?_, pv1, mono1, max1, ?_⟩
      · simp only [emitRaw]
        rw [hc1]; simp [List.append_assoc]
      · intro k hkw hka hD hcode hpre hV hsz
        obtain ⟨regs1, rch1, sz1, pr1, sv1, ed1⟩ := vm1 k hkw hka hD hcode.left hpre hV hsz
        have hv : v = .nil := by
          have := sv1 rfl
          simp only [slotVal, hkk, litOf] at this
          exact this.symm
        refine ⟨regs1, #[], k.pc + seg1.length, s'.st.world, rch1, sz1, ?_⟩
        rw [hv]
        exact run_retNil p f0 rest _ hcode.right.head
    · -- LDK t k; RETURN t
      have hcond : ¬ ((ret.cflag && ret.k == Slot.const KConst.nil) = true) := by rw [hcf, hkk]; simp [hnil]
      rw [if_neg hcond] at hem
      obtain ⟨t, ra4, a1, a2, a3, a4, a5, a6, hc4⟩ :=
        emitS_const c1 cx .return ret kc hkk { sc with ra := ra1, syms := sc.syms ++ ns1 } rs (pool ++ more1) ps hs1 hp1 hl1 hem
      obtain ⟨m4, hm4⟩ : PrefL (pool ++ more1) (if kc.pooled then W.intern (pool ++ more1) kc else pool ++ more1) := by
        split
        · exact intern_pref _ kc
        · exact PrefL.refl _
      have a4' : ra1.max ≤ ra4.max := a4
      have a6' : ∀ j, ra4.alloc j = ra1.alloc j := a6
      refine ⟨hret, ra4, ns1, more1 ++ m4, seg1 ++
          [CI.mi (MI.ldk t kc (W.poolIdx (if kc.pooled = true then W.intern (pool ++ more1) kc else pool ++ more1) kc)),
           CI.mi (MI.pay Op.return.toNat Shape.s false [t] 0)], segm1 ++ [c1.cur, c1.cur], ?_, ?_, ?_, by omega, ?_⟩
      · rw [hc4, hm4, hc1]; simp [List.append_assoc]
      · rw [hc4]; exact pv1
      · intro j hj; rw [a6' j]; exact mono1 j hj
      · intro k hkw hka hD hcode hpre hV hsz
        have hvals : cx.vals = c1.vals := by rw [hc4]
        rw [hvals] at hV
        have hpreC : PrefL (if kc.pooled then W.intern (pool ++ more1) kc else pool ++ more1) P := by
          rw [hm4]; refine PrefL.trans ⟨[], ?_⟩ hpre; simp [List.append_assoc]
        have hpreA : PrefL (pool ++ more1) P := PrefL.trans ⟨m4, by simp [List.append_assoc]⟩ hpre
        obtain ⟨regs1, rch1, sz1, pr1, sv1, ed1⟩ := vm1 k hkw hka hD hcode.left hpreA hV (by omega)
        have hv : litOf V kc = v := by
          have := sv1 rfl
          simp only [slotVal, hkk] at this
          exact this
        obtain ⟨hidx, hconst⟩ := pool_ok p f0 V P hP hK _ hpreC kc (fun hp => by rw [if_pos hp]; exact intern_mem (pool ++ more1) kc)
        let k1 : Cfg := { regs := regs1, pc := k.pc + seg1.length, args := #[], w := s'.st.world }
        have s1 := run_ldk p f0 rest k1 t kc _ V (by omega) hidx hcode.right.head hconst
        have s2 := run_return p f0 rest { k1 with regs := k1.regs.setIfInBounds t (litOf V kc), pc := k1.pc + 1 } t (by omega)
          hcode.right.tail.head
        refine ⟨regs1.setIfInBounds t (litOf V kc), #[], k.pc + seg1.length + 1, s'.st.world,
          Reach.trans rch1 (Reach.head s1 (Reach.refl _ _)), by simp [sz1], ?_⟩
        rw [← hv]
        refine Eq.trans s2 ?_
        show doReturn p _ ((regs1.setIfInBounds t (litOf V kc)).getD t .nil) = _
        rw [getD_set_eq _ _ _ (by omega)]
  · -- RETURN r
    have hcond : ¬ ((ret.cflag && ret.k == Slot.const KConst.nil) = true) := by rw [hcf]; simp
    rw [if_neg hcond] at hem
    obtain ⟨_, hc4⟩ := emitS_local c1 cx .return ret r hkk { sc with ra := ra1, syms := sc.syms ++ ns1 } rs (pool ++ more1) ps hs1 hp1 hem
    refine ⟨hret, ra1, ns1, more1, seg1 ++ [CI.mi (MI.pay Op.return.toNat Shape.s false [r] 0)], segm1 ++ [c1.cur], ?_, ?_, mono1, max1, ?_⟩
    · rw [hc4, hc1]; simp [List.append_assoc]
    · rw [hc4]; exact pv1
    · intro k hkw hka hD hcode hpre hV hsz
      have hvals : cx.vals = c1.vals := by rw [hc4]
      rw [hvals] at hV
      obtain ⟨regs1, rch1, sz1, pr1, sv1, ed1⟩ := vm1 k hkw hka hD hcode.left hpre hV hsz
      have hv : regs1.getD r .nil = v := by
        have := sv1 rfl
        simp only [slotVal, hkk] at this
        exact this
      refine ⟨regs1, #[], k.pc + seg1.length, s'.st.world, rch1, sz1, ?_⟩
      rw [← hv]
      exact run_return p f0 rest _ r (by omega) hcode.right.head

end

section
variable (p : Program) (f0 : Frame) (rest : List Frame) (V : Array Value) (P : List KConst)

theorem tail_call_ok (hP : P.length < 65536)
    (hK : ∀ i, i < P.length → (p.defs.getD f0.defIdx default).consts.getD i .nil = litOf V (P.getD i .nil))
    (G : String → Prop) (f : String) (hna : f ≠ "apply")
    {c c2 c3 c4 c5 : CState} {slots : List JSlot} {kf : KConst} {sc : Scope} {rs : List Scope} {pool : List KConst} {ps : List (List KConst)}
    {env env_a : Env} {s s_a : SS} {vs : List Value} {ra2 : RA} {ns2 : List SymPair} {more2 : List KConst} {seg2 : List CI} {segm2 : List Pos}
    {ra3 : RA} {more3 : List KConst} {seg3 : List CI} {segm3 : List Pos}
    (X : CallPre p f0 rest V P G f c c2 c3 slots kf sc rs pool ps env env_a s s_a vs ra2 ns2 more2 seg2 segm2 ra3 more3 seg3 segm3)
    (hl : c.lim ≤ 240) (hem : emitS c3 .tailcall (cslot kf) false = some c4) (hf1 : freeslots c4 slots = some c5)
    (n2 : Nat) (pos : Pos) (s' : SS) (v : Value) (happ : applyFn (n2 + 1) pos (.cfun f) vs s_a = .ok v s') :
    TailOK p f0 rest V P G c c5 { k := .const .nil, returned := true } sc rs pool ps env s s' v := by
  obtain ⟨⟨hc2, hc3, pvX, r1a, r3a, sok2, _, _, _, e3', m3', vm3⟩, hlitX, _⟩ := X
  have hs3 : c3.scopes = { sc with ra := ra3, syms := sc.syms ++ ns2 } :: rs := by rw [hc3]
  have hp3 : c3.pools = ((pool ++ more2) ++ more3) :: ps := by rw [hc3]
  have hl3 : c3.lim ≤ 240 := by rw [hc3, hc2]; exact hl
  obtain ⟨t, ra4, m4, seg4, hc4, hlen4, a6, a4, a5, vm4⟩ :=
    tailcall_at p f0 rest V P hP hK c3 c4 (cslot kf) kf f { sc with ra := ra3, syms := sc.syms ++ ns2 } rs ((pool ++ more2) ++ more3) ps
      hs3 hp3 hl3 rfl hem
  have hs4 : c4.scopes = { sc with ra := ra4, syms := sc.syms ++ ns2 } :: rs := by rw [hc4]
  -- freeing the operand slots and the head changes only the allocator
  obtain ⟨ra5, hc5, hmax5, hkeep5⟩ := freeslots_keep (fun r => sc.ra.alloc r = true) slots c4 c5 { sc with ra := ra4, syms := sc.syms ++ ns2 } rs hs4
    (by
      intro sl hsl
      rcases sok2 sl hsl with ⟨hcf, _⟩ | ⟨_, hnm, _⟩ | ⟨hcf, hnm, da, hka', hda1, _⟩
      · exact Or.inl hcf
      · exact Or.inr (Or.inl hnm)
      · exact Or.inr (Or.inr ⟨hcf, hnm, da, hka', fun h => by rw [hda1] at h; exact Bool.noConfusion h⟩)) hf1
  have a4' : ra3.max ≤ ra4.max := a4
  have a6' : ∀ j, ra4.alloc j = ra3.alloc j := a6
  have hmax5' : ra5.max = ra4.max := hmax5
  have r3a' : sc.ra.max ≤ ra2.max := r3a
  refine ⟨rfl, ra5, ns2, more2 ++ more3 ++ m4, seg2 ++ seg3 ++ seg4, segm2 ++ segm3 ++ [c3.cur, c3.cur], ?_, ?_, ?_, by omega, ?_⟩
  · rw [hc5, hc4, hc3, hc2]; simp [List.append_assoc]
  · rw [hc5, hc4, hc3]; exact pvX
  · intro r hr
    exact hkeep5 r (by show ra4.alloc r = true; rw [a6' r, e3' r]; exact r1a r hr) hr
  · intro k hkw hka hD hcode hpre hV hsz
    have hsz : ra4.max < k.regs.size := by rw [← hmax5']; exact hsz
    have hvals : c5.vals = c2.vals := by rw [hc5, hc4, hc3]
    rw [hvals] at hV
    have hcodeC : CodeAt (p.defs.getD f0.defIdx default).code (k.pc + seg2.length + seg3.length) seg4 := by
      rw [List.append_assoc] at hcode; exact hcode.right.right
    have hpreC : PrefL (pool ++ more2 ++ more3 ++ m4) P := by
      refine PrefL.trans ⟨[], ?_⟩ hpre; simp [List.append_assoc]
    obtain ⟨regs3, A, rch3, hargs, sz3, _, _, _⟩ :=
      vm3 k hkw hka hD hcode.left (PrefL.trans ⟨m4, by simp [List.append_assoc]⟩ hpre) hV (Nat.lt_of_le_of_lt a4' hsz)
    have hlit := hlitX V hV
    obtain ⟨rch4, hst4⟩ := vm4 { regs := regs3, pc := k.pc + seg2.length + seg3.length, args := A, w := s_a.st.world } hcodeC hpreC
      (by show ra4.max < regs3.size; rw [sz3]; exact hsz) hlit
    rw [tailStep_ok p f0 rest f hna
      { regs := regs3.setIfInBounds t (.cfun f), pc := k.pc + seg2.length + seg3.length + 1, args := A, w := s_a.st.world } s_a s' n2 pos v rfl
      (by show applyFn (n2 + 1) pos (.cfun f) A.toList s_a = _; rw [hargs]; exact happ)] at hst4
    exact ⟨regs3.setIfInBounds t (.cfun f), A, k.pc + seg2.length + seg3.length + 1, s_a.st.world, Reach.trans rch3 rch4,
      by simp only [Array.size_setIfInBounds]; exact sz3, hst4⟩

end

theorem finT_some_inv (last : Pos) (ret slot : JSlot) (c1 c' : CState) (h : finT last (some (ret, c1)) = some (slot, c')) :
    ∃ c2, cReturn c1 ret = some (slot, c2) ∧ c' = { c2 with cur := last } := by
  simp only [finT, Option.bind_eq_some_iff, Option.some.injEq, Prod.mk.injEq, Prod.exists] at h
  obtain ⟨sl, c2, hr, h1, h2⟩ := h
  subst h1
  exact ⟨c2, hr, h2.symm⟩

section
variable (p : Program) (f0 : Frame) (rest : List Frame) (V : Array Value) (P : List KConst)

/-- compile correctness in tail position for every form of the fragment `T` at compile fuel `fuel` (the source map as long as
    the code at entry: `janetc_throwaway` in a constant-folded `if` truncates the map by the code length) -/
def TailAt (G : String → Prop) (T : Expr → Prop) (fuel : Nat) : Prop :=
  ∀ (e : Expr) (opts : Fopts) (c c' : CState) (slot : JSlot) (sc : Scope) (rs : List Scope) (pool : List KConst) (ps : List (List KConst))
    (n : Nat) (cur : Pos) (env env' : Env) (s s' : SS) (v : Value),
    opts.tail = true → opts.hint = none → c.scopes = sc :: rs → c.pools = pool :: ps → c.lim ≤ 240 → sc.top = false →
    c.map.length = c.buf.length → T e →
    cValue fuel opts e c = some (slot, c') → eval n cur env e s = .ok (v, env') s' → EnvS G c.scopes env s.boxes.size sc.ra →
    NR c.scopes → TailOK p f0 rest V P G c c' slot sc rs pool ps env s s' v

end

end JanetModel.Compile
