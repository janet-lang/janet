/- C02: compile correctness of ONE `while` loop, whatever its body (`while_any`): of the body only its run specification `BodyRun`
   is asked, so that loops nest and bodies with and without `break` are instances. -/
import JanetModel.Compile.SeqWhileBody
import JanetModel.Compile.SeqIfJump
namespace JanetModel.Compile
open JanetModel.Emit JanetModel.Lang JanetModel.Bytecode.Exec JanetModel.Gen.Bytecode

theorem toNat_cast_add_neg (a n : Nat) : (Int.ofNat (a + n) + -((n : Nat) : Int)).toNat = a := by
  simp only [Int.ofNat_eq_natCast]; omega

section
variable (p : Program) (f0 : Frame) (rest : List Frame) (V : Array Value) (P : List KConst)

/-- running `seg` from the state `s` ends `off` instructions further in the state `s'`, keeping the registers marked in `A` -/
def RunTo (A : Nat → Bool) (scs : List Scope) (env : Env) (s s' : SS) (seg : List CI) (off : Nat) (pool : List KConst)
    (vals : Array Value) (mx : Nat) : Prop :=
  PrefA s.boxes s'.boxes ∧ ∀ (pc : Nat) (regs : Array Value), EnvD scs env s regs →
    CodeAt (p.defs.getD f0.defIdx default).code pc seg → PrefL pool P → PrefA vals V → mx < regs.size →
    ∃ regs', Runs p f0 rest pc off regs #[] s.st.world regs' #[] s'.st.world ∧ Keeps A regs regs'

/-- what `while_any` asks of the body statements of a loop: their compile-only shape, and that their code, its placeholders
    rewritten, runs to its end when `evalSeq` ends normally and to the loop's exit when it breaks out.  `bnd`: a placeholder at the
    body's start becomes a jump by `segB.length + 1`, one more than `janetc_while` checks when there is no conditional jump -/
def BodyRun (G : String → Prop) (fuel : Nat) (body : List Expr) (bnd : Nat) : Prop :=
  ∀ (c3j c4 : CState) (sc3 : Scope) (rs : List Scope) (pool3 : List KConst) (ps : List (List KConst)),
    whileBody (cValue fuel) body c3j = some c4 → c3j.scopes = sc3 :: rs → c3j.pools = pool3 :: ps →
    sc3.top = false → sc3.whl = true → sc3.fn = false → c3j.map.length = c3j.buf.length → c3j.lim ≤ 240 → LkL G c3j.scopes →
    Shp G c3j c4 sc3 rs pool3 ps ∧ MaxR c3j c4 rs ∧
    ∀ (sc4 : Scope) (pool4 : List KConst) (segB : List CI), c4.buf = c3j.buf ++ segB → c4.pools = pool4 :: ps → c4.scopes = sc4 :: rs →
      segB.length + 1 ≤ bnd →
      ∀ (n : Nat) (pos : Pos) (cenv : Env) (s1 : SS), EnvS G c3j.scopes cenv s1.boxes.size sc3.ra →
        (∀ bv benv s2, evalSeq n pos cenv body s1 = .ok (bv, benv) s2 →
          RunTo p f0 rest V P sc3.ra.alloc c3j.scopes cenv s1 s2 (fixBrk 1 segB) segB.length pool4 c4.vals sc4.ra.max) ∧
        (∀ bv s2, evalSeq n pos cenv body s1 = .brk bv s2 →
          RunTo p f0 rest V P sc3.ra.alloc c3j.scopes cenv s1 s2 (fixBrk 1 segB) (segB.length + 1) pool4 c4.vals sc4.ra.max)

variable {p f0 rest V P}

theorem whileBody_run (G : String → Prop) (T : Expr → Prop) (w : Bool) (fuel : Nat) (IH : CorrectAt p f0 rest V P G T w fuel)
    (ML : MLAt G T true fuel) (b : List Expr) (hTb : ∀ e, e ∈ b → T e)
    (c c' : CState) (sc sc1 : Scope) (rs : List Scope) (pool pool1 : List KConst) (ps : List (List KConst)) (seg : List CI)
    (n : Nat) (cur : Pos) (env env' : Env) (s s' : SS) (v : Value)
    (hs : c.scopes = sc :: rs) (hp : c.pools = pool :: ps) (hl : c.lim ≤ 240) (htop : sc.top = false) (hm : c.map.length = c.buf.length)
    (hc : whileBody (cValue fuel) b c = some c') (hsem : evalSeq n cur env b s = .ok (v, env') s')
    (hE : EnvS G c.scopes env s.boxes.size sc.ra) (hb : c'.buf = c.buf ++ seg) (hp1 : c'.pools = pool1 :: ps) (hs1 : c'.scopes = sc1 :: rs) :
    RunTo p f0 rest V P sc.ra.alloc c.scopes env s s' seg seg.length pool1 c'.vals sc1.ra.max := by
  obtain ⟨bx, _, _, _, vm⟩ := Correct2.use
    (whileBody_correct G T w fuel IH ML b hTb c c' sc rs pool ps n cur env env' s s' v hs hp hl htop hm hc hsem hE)
    seg pool1 sc1 hb hp1 hs1
  refine ⟨bx, fun pc regs hD hcode hpre hV hsz => ?_⟩
  obtain ⟨regs', R, K, _⟩ := vm { regs := regs, pc := pc, args := #[], w := s.st.world } rfl rfl hD hcode hpre hV hsz
  exact ⟨regs', R, K⟩

theorem while_any (G : String → Prop) (T : Expr → Prop) (b w : Bool) (fuel : Nat) (IH : CorrectAt p f0 rest V P G T w fuel)
    (hTT : ∀ e, TF G b e → T e) (cnd : Expr) (body : List Expr) (hTc : TF G b cnd)
    (bnd : Nat) (HB : BodyRun p f0 rest V P G fuel body bnd)
    (c c' : CState) (slot : JSlot) (sc : Scope) (rs : List Scope) (pool : List KConst) (ps : List (List KConst))
    (f : Nat) (pos : Pos) (env : Env) (s s' : SS)
    (hs : c.scopes = sc :: rs) (hp : c.pools = pool :: ps) (hl : c.lim ≤ 240) (hm : c.map.length = c.buf.length)
    (inf : Bool) (c3 c3j c4 : CState) (cond : JSlot)
    (hcond : cValue fuel {} cnd (pushScope c false true false false) = some (cond, c3))
    (hmode : inf = true ∧ (∃ k, isConstSlot cond = some k ∧ constTruthy k = true) ∧ c3j = c3 ∨
      inf = false ∧ isConstSlot cond = none ∧ emitSI c3 .jumpIfNot cond 0 false = some c3j)
    (hCT : inf = true → ∀ (f2 : Nat) (si s1 : SS) (cv : Value) (cenv : Env), eval f2 pos env cnd si = .ok (cv, cenv) s1 → truthy cv = true)
    (hbody : whileBody (cValue fuel) body c3j = some c4)
    (hend : cWhileEnd (cValue fuel) cnd body inf c.buf.length (if inf then 0 else lastLabel c3j) c4 = some (slot, c'))
    (hNB3 : ∀ ci, ci ∈ c3.buf.drop c.buf.length → ci ≠ CI.brk) (hbnd : c'.buf.length - c.buf.length ≤ bnd)
    (hw : whileLoop f pos env cnd body s = .ok () s')
    (hE : EnvS G c.scopes env s.boxes.size sc.ra) :
    Correct2 p f0 rest V P G false c c' slot sc rs pool ps env env s s' .nil := by
  rw [pushScope_whl c sc rs hs] at hcond
  obtain ⟨wb, hwb⟩ : ∃ wb, wb = wblk c sc := ⟨_, rfl⟩
  rw [← hwb] at hcond
  have hwtop : wb.top = false := by rw [hwb]; rfl
  have hwfn : wb.fn = false := by rw [hwb]; rfl
  have hwal : wb.ra.alloc = sc.ra.alloc := by rw [hwb]; rfl
  have hwmax : wb.ra.max = sc.ra.max := by rw [hwb]; rfl
  have hlk1 : ∀ y, lk (wb :: sc :: rs) y = lk c.scopes y := by
    intro y; rw [hs, hwb]; exact lk_wblk c sc rs y
  have hE1 : ∀ nb, s.boxes.size ≤ nb → EnvS G ({ c with scopes := wb :: sc :: rs } : CState).scopes env nb wb.ra :=
    fun nb hnb => hE.of_lk hlk1 hnb (fun _ _ _ _ r _ _ h => by rw [hwal]; exact h)
  -- the first turn evaluates the condition: that gives the compile-side facts of its code
  obtain ⟨f2, cv0, cenv0, s10, hf, hsc0, _⟩ := whileLoop_inv f pos env cnd body s s' hw
  obtain ⟨ra3, ns3, more3, seg3, segm3, hc3, pv3, mono3, max3, sok3, _, es30, _, _⟩ :=
    IH cnd {} { c with scopes := wb :: sc :: rs } c3 cond wb (sc :: rs) pool ps f2 pos env cenv0 s s10 cv0
      rfl rfl rfl hp hl hwtop (fun _ => hm) (hTT cnd hTc) hcond hsc0 (hE1 _ (Nat.le_refl _))
  have hm3 : c3.map.length = c3.buf.length :=
    (tf_shape G b fuel cnd {} { c with scopes := wb :: sc :: rs } c3 cond wb (sc :: rs) pool ps
      rfl hp hm hTc (hE1 _ (Nat.le_refl _)).lkl hcond).1.mapLen hm
  have hs3 : c3.scopes = upd wb ra3 ns3 :: sc :: rs := by rw [hc3]
  have hp3 : c3.pools = (pool ++ more3) :: ps := by rw [hc3]
  have hb3 : c3.buf = c.buf ++ seg3 := by rw [hc3]
  have hl3 : c3.lim ≤ 240 := by rw [hc3]; exact hl
  have mono3' : ∀ r, sc.ra.alloc r = true → ra3.alloc r = true := fun r hr => mono3 r (by rw [hwal]; exact hr)
  have hnb3 : ∀ ci, ci ∈ seg3 → ci ≠ CI.brk := fun ci h => hNB3 ci (by rw [hb3]; simpa using h)
  obtain ⟨rc, hrc, hc3j⟩ : ∃ rc, (inf = false → cond.k = .loc rc ∧ rc < 240) ∧
      c3j = { c3 with buf := c3.buf ++ condJmp inf rc 0, map := c3.map ++ (condJmp inf rc 0).map (fun _ => c3.cur) } := by
    rcases hmode with ⟨rfl, _, rfl⟩ | ⟨rfl, hnc, hem⟩
    · exact ⟨0, fun e => Bool.noConfusion e, by simp [condJmp]⟩
    · obtain ⟨rc, hrc, hrc240⟩ : ∃ rc, cond.k = .loc rc ∧ rc < 240 := by
        rcases sok3 with ⟨hcf, kc, hk, _⟩ | ⟨_, _, r, hk, _, hr⟩ | ⟨_, _, d, hk, _, _, hd, _⟩
        · simp [isConstSlot, hcf, hk] at hnc
        · exact ⟨r, hk, hr⟩
        · exact ⟨d, hk, hd⟩
      obtain ⟨_, hc3j⟩ := emitSI_local c3 c3j .jumpIfNot cond rc 0 hrc (Nat.le_trans (Nat.le_of_lt hrc240) (by decide)) _ (sc :: rs)
        (pool ++ more3) ps hs3 hp3 hem
      exact ⟨rc, fun _ => ⟨hrc, hrc240⟩, by rw [hc3j, ← hs3, ← hp3]; rfl⟩
  obtain ⟨jl, hjl⟩ : ∃ jl, jl = (condJmp inf rc 0).length := ⟨_, rfl⟩
  have hs3j : c3j.scopes = upd wb ra3 ns3 :: sc :: rs := by rw [hc3j]; exact hs3
  have hp3j : c3j.pools = (pool ++ more3) :: ps := by rw [hc3j]; exact hp3
  have hl3j : c3j.lim ≤ 240 := by rw [hc3j]; exact hl3
  have hm3j : c3j.map.length = c3j.buf.length := by rw [hc3j]; simp [hm3]
  have hlk3j : ∀ y, lk c3j.scopes y = lk c3.scopes y := by intro y; rw [hs3j, hs3]
  have hb3j : c3j.buf = c.buf ++ (seg3 ++ condJmp inf rc 0) := by rw [hc3j]; show c3.buf ++ _ = _; rw [hb3, List.append_assoc]
  obtain ⟨⟨ra4, ns4, more4, segB, segmB, hc4, pv4, _, _⟩, HMX, HB⟩ :=
    HB c3j c4 (upd wb ra3 ns3) (sc :: rs) (pool ++ more3) ps hbody hs3j hp3j hwtop (by rw [hwb]; rfl) hwfn hm3j hl3j (es30.lkl.of_lk hlk3j)
  have hs4 : c4.scopes = upd (upd wb ra3 ns3) ra4 ns4 :: sc :: rs := by rw [hc4]
  have hp4 : c4.pools = (pool ++ more3 ++ more4) :: ps := by rw [hc4]
  have hb4 : c4.buf = c3j.buf ++ segB := by rw [hc4]
  have max4 : ra3.max ≤ ra4.max := HMX (upd wb ra3 ns3) (upd (upd wb ra3 ns3) ra4 ns4) hs3j hs4
  obtain ⟨hslot, hr1, hr2, hpop⟩ := cWhileEnd_inv inf _ c.buf seg3 (condJmp inf rc 0) segB c4 c' slot
    (by rw [hb4, hb3j]; simp only [List.append_assoc]) (condJmp_length inf rc 0)
    (fun e => by subst e; simp only [Bool.false_eq_true, if_false, lastLabel, hb3j, condJmp]; simp)
    (by rw [hs4]; simp [upd, hwb, wblk]) hnb3 (condJmp_nobrk inf rc 0) hend
  subst hslot
  rw [condJmp_patch, ← hjl] at hpop
  rw [← hjl] at hr2
  obtain ⟨offb, hoffb⟩ : ∃ offb : Int, offb = -((seg3.length + jl + segB.length : Nat) : Int) := ⟨_, rfl⟩
  rw [← hoffb] at hpop
  obtain ⟨raX, hpop', hmaxX, hmonoX⟩ := popScope_block _ _ sc rs (show ({ emitRaw c4 (CI.jump 0) with
      buf := c.buf ++ (seg3 ++ (condJmp inf rc (segB.length + 2) ++ (fixBrk 1 segB ++ [CI.jump offb]))) } : CState).scopes = _ from hs4)
    hwfn (by rw [hwb]; rfl) (by rw [hwb]; rfl)
  rw [hpop'] at hpop
  have hc6 := (Option.some.inj hpop).symm
  have hmaxX' : raX.max = (if sc.ra.max < ra4.max then ra4.max else sc.ra.max) := hmaxX
  have hlk' : ∀ x, lk c'.scopes x = lk c.scopes x := by
    intro x; rw [hc6, hs]; exact lk_popped sc rs raX _ x
  have hv6 : c'.vals = c4.vals := by rw [hc6]; rfl
  have pv4' : PrefA c3.vals c4.vals := by
    have : c3j.vals = c3.vals := by rw [hc3j]
    rw [← this]; exact pv4
  have hlen : (seg3 ++ (condJmp inf rc (segB.length + 2) ++ (fixBrk 1 segB ++ [CI.jump offb]))).length = seg3.length + jl + segB.length + 1 := by
    simp only [List.length_append, List.length_cons, List.length_nil, fixBrk_length, condJmp_length, hjl]; omega
  have cndF := fun (f2 : Nat) (si s1 : SS) (cv : Value) (cenv : Env) (hbx : PrefA s.boxes si.boxes)
      (hsc : eval f2 pos env cnd si = .ok (cv, cenv) s1) =>
    Correct2.use (IH cnd {} { c with scopes := wb :: sc :: rs } c3 cond wb (sc :: rs) pool ps f2 pos env cenv si s1 cv
      rfl rfl rfl hp hl hwtop (fun _ => hm) (hTT cnd hTc) hcond hsc (hE1 _ hbx.1)) seg3 (pool ++ more3) (upd wb ra3 ns3) hb3 hp3 hs3
  have HB' := fun (n : Nat) (cenv : Env) (s1 : SS) (hE3 : EnvS G c3.scopes cenv s1.boxes.size (upd wb ra3 ns3).ra) =>
    HB (upd (upd wb ra3 ns3) ra4 ns4) (pool ++ more3 ++ more4) segB hb4 hp4 hs4
      (by rw [hc6] at hbnd; simp only [List.length_append] at hbnd hlen; omega)
      n pos cenv s1 (hE3.of_lk hlk3j (Nat.le_refl _) (fun _ _ _ _ _ _ _ h => h))
  -- boxes only grow: the loop rule over the trivial relation
  obtain ⟨_, _, hbxAll⟩ := whileLoop_rule (α := Unit) (fun _ _ => True) (fun _ _ => trivial) pos env cnd body
    (fun si _ => PrefA s.boxes si.boxes)
    (fun cenv s1 _ => PrefA s.boxes s1.boxes ∧ EnvS G c3.scopes cenv s1.boxes.size (upd wb ra3 ns3).ra)
    (fun s2 _ => PrefA s.boxes s2.boxes)
    (fun f2 si _ cv cenv s1 hbx hsc => by
      obtain ⟨bx3, es3, _⟩ := cndF f2 si s1 cv cenv hbx hsc
      refine ⟨(), trivial, ?_⟩
      split
      · exact ⟨hbx.trans bx3, es3⟩
      · exact hbx.trans bx3)
    (fun f2 cenv s1 _ hM => ⟨fun bv benv s2 hsb => ⟨(), trivial, hM.1.trans ((HB' f2 cenv s1 hM.2).1 bv benv s2 hsb).1⟩,
      fun bv s2 hbrk => ⟨(), trivial, hM.1.trans ((HB' f2 cenv s1 hM.2).2 bv s2 hbrk).1⟩⟩)
    f s s' () hw (PrefA.refl _)
  -- the loop on the VM: the loop rule over `Reach`
  have loop : ∀ (pc0 : Nat) (regs0 : Array Value), EnvD c.scopes env s regs0 →
      CodeAt (p.defs.getD f0.defIdx default).code pc0
        (seg3 ++ (condJmp inf rc (segB.length + 2) ++ (fixBrk 1 segB ++ [CI.jump offb]))) →
      PrefL (pool ++ more3 ++ more4) P → PrefA c4.vals V → ra4.max < regs0.size →
      ∃ regs', Runs p f0 rest pc0 (seg3.length + jl + segB.length + 1) regs0 #[] s.st.world regs' #[] s'.st.world ∧
        Keeps sc.ra.alloc regs0 regs' := by
    intro pc0 regs0 hD0 hcode hpre hV hsz
    obtain ⟨d, rch, regs', rfl, hK⟩ := whileLoop_rule (Reach p) Reach.trans pos env cnd body
      (fun si a => ∃ regsi, a = inj f0 rest { regs := regsi, pc := pc0, args := #[], w := si.st.world } ∧ PrefA s.boxes si.boxes ∧
        EnvD c.scopes env si regsi ∧ Keeps sc.ra.alloc regs0 regsi)
      (fun cenv s1 a => ∃ regs3, a = inj f0 rest { regs := regs3, pc := pc0 + (seg3.length + jl), args := #[], w := s1.st.world } ∧
        PrefA s.boxes s1.boxes ∧ EnvS G c3.scopes cenv s1.boxes.size (upd wb ra3 ns3).ra ∧ EnvD c3.scopes cenv s1 regs3 ∧
        Keeps sc.ra.alloc regs0 regs3)
      (fun s2 a => ∃ regs', a = inj f0 rest { regs := regs', pc := pc0 + (seg3.length + jl + segB.length + 1), args := #[], w := s2.st.world } ∧
        Keeps sc.ra.alloc regs0 regs')
      (by
        rintro f2 si _ cv cenv s1 ⟨regsi, rfl, hbx, hD, hKi⟩ hsc
        obtain ⟨bx3, es3, _, _, vm3⟩ := cndF f2 si s1 cv cenv hbx hsc
        obtain ⟨regs3, R3, K3, sv3, ed3⟩ := vm3 { regs := regsi, pc := pc0, args := #[], w := si.st.world } rfl rfl (hD.of_lk hlk1)
          hcode.left (PrefL.trans ⟨more4, rfl⟩ hpre) (PrefA.trans pv4' hV)
          (by show ra3.max < regsi.size; rw [hKi.1]; exact Nat.lt_of_le_of_lt max4 hsz)
        have R3 : Runs p f0 rest pc0 seg3.length regsi #[] si.st.world regs3 #[] s1.st.world := R3
        have hK3 : Keeps sc.ra.alloc regs0 regs3 := hKi.trans K3 (fun r hr => by rw [hwal]; exact hr)
        cases inf with
        | true =>
          have hj0 : jl = 0 := hjl
          subst hj0
          simp only [hCT rfl f2 si s1 cv cenv hsc, if_true]
          exact ⟨_, R3.reach, regs3, rfl, hbx.trans bx3, es3, ed3, hK3⟩
        | false =>
          have hj1 : jl = 1 := hjl
          subst hj1
          obtain ⟨hrc', hrc240⟩ := hrc rfl
          have hcv3 : regs3.getD rc .nil = cv := by simpa [slotVal, hrc'] using sv3 (by simp)
          have jstep := step_jumpIfNot p (inj f0 rest { regs := regs3, pc := pc0 + seg3.length, args := #[], w := s1.st.world }) rc (segB.length + 2)
            (Nat.lt_trans hrc240 (by decide)) (by have := hr1 rfl; omega) (by rw [inj_curDef, inj_pc]; exact hcode.right.left.head)
          rw [inj_getReg, show ({ regs := regs3, pc := pc0 + seg3.length, args := #[], w := s1.st.world } : Cfg).regs.getD rc .nil = cv from hcv3] at jstep
          cases htr : truthy cv with
          | false =>
            simp only [htr, Bool.false_eq_true, if_false, inj_jump] at jstep ⊢
            have e1 : (Int.ofNat (pc0 + seg3.length) + ((segB.length + 2 : Nat) : Int)).toNat = pc0 + (seg3.length + 1 + segB.length + 1) := by
              simp only [Int.ofNat_eq_natCast, toNat_cast_add]; omega
            simp only [e1] at jstep
            exact ⟨_, (R3.jump jstep).reach, regs3, rfl, hK3⟩
          | true =>
            simp only [htr, if_true, inj_adv] at jstep ⊢
            exact ⟨_, (R3.seq (Runs.step jstep)).reach, regs3, rfl, hbx.trans bx3, es3, ed3, hK3⟩)
      (by
        rintro f2 cenv s1 _ ⟨regs3, rfl, hbx1, es3, ed3, hK3⟩
        have hcodeB : CodeAt (p.defs.getD f0.defIdx default).code (pc0 + (seg3.length + jl)) (fixBrk 1 segB ++ [CI.jump offb]) := by
          have := hcode.right.right
          rw [condJmp_length, ← condJmp_length inf rc 0, ← hjl, Nat.add_assoc] at this
          exact this
        have hsz3 : ra4.max < regs3.size := by rw [hK3.1]; exact hsz
        refine ⟨fun bv benv s2 hsb => ?_, fun bv s2 hbrk => ?_⟩
        · obtain ⟨bx4, vm4⟩ := (HB' f2 cenv s1 es3).1 bv benv s2 hsb
          obtain ⟨regs4, R4, hK4⟩ := vm4 (pc0 + (seg3.length + jl)) regs3 (ed3.of_lk hlk3j) hcodeB.left hpre hV hsz3
          have hcJ := hcodeB.right.head
          rw [fixBrk_length] at hcJ
          have jst := step_jump p (inj f0 rest { regs := regs4, pc := pc0 + (seg3.length + jl) + segB.length, args := #[], w := s2.st.world })
            offb (by rw [hoffb]; omega) (by rw [hoffb]; omega) (by rw [inj_curDef, inj_pc]; exact hcJ)
          rw [inj_jump] at jst
          have e2 : (Int.ofNat (pc0 + (seg3.length + jl) + segB.length) + offb).toNat = pc0 := by
            rw [hoffb, show pc0 + (seg3.length + jl) + segB.length = pc0 + (seg3.length + jl + segB.length) by omega]
            exact toNat_cast_add_neg pc0 _
          simp only [e2] at jst
          have hK0 : Keeps sc.ra.alloc regs0 regs4 := hK3.trans hK4 mono3'
          have hbx2 := hbx1.trans bx4
          refine ⟨_, Reach.trans R4.reach (Reach.head jst (Reach.refl _ _)), regs4, rfl, hbx2, ?_, hK0⟩
          exact EnvD.frame hE hD0 (fun _ => rfl) hK0.2 hbx2
        · obtain ⟨bx4, vm4⟩ := (HB' f2 cenv s1 es3).2 bv s2 hbrk
          obtain ⟨regs4, R4, hK4⟩ := vm4 (pc0 + (seg3.length + jl)) regs3 (ed3.of_lk hlk3j) hcodeB.left hpre hV hsz3
          have R4' := R4.reach
          rw [show pc0 + (seg3.length + jl) + (segB.length + 1) = pc0 + (seg3.length + jl + segB.length + 1) by omega] at R4'
          exact ⟨_, R4', regs4, rfl, hK3.trans hK4 mono3'⟩)
      f s s' (inj f0 rest { regs := regs0, pc := pc0, args := #[], w := s.st.world }) hw ⟨regs0, rfl, PrefA.refl _, hD0, Keeps.refl _ _⟩
    exact ⟨regs', rch, hK⟩
  refine ⟨raX, (upd (upd wb ra3 ns3) ra4 ns4).syms.map (fun q => { q with visible := false }), more3 ++ more4,
    seg3 ++ (condJmp inf rc (segB.length + 2) ++ (fixBrk 1 segB ++ [CI.jump offb])),
    segm3 ++ (condJmp inf rc 0).map (fun _ => c3.cur) ++ segmB ++ [c4.cur], ?_, ?_, hmonoX, ?_, ?_, hbxAll, ?_, ?_, ?_⟩
  · rw [hc6]
    simp only [emitRaw]
    rw [hc4, hc3j, hc3]
    simp [List.append_assoc]
  · rw [hv6]; exact PrefA.trans pv3 pv4'
  · rw [hmaxX']; exact le_ite_max _ _
  · exact Or.inl ⟨rfl, .nil, rfl, trivial⟩
  · exact hE.of_lk hlk' hbxAll.1 (fun _ _ _ _ r _ _ h => hmonoX r h)
  · exact NameFrame.of_lk hlk' rfl
  · intro k hkw hka hD hcode hpre hV hsz
    rw [hv6] at hV
    obtain ⟨regs', R, hK⟩ := loop k.pc k.regs hD hcode (by simpa [List.append_assoc] using hpre) hV
      (by rw [hmaxX'] at hsz; exact lt_of_ite_max_lt hsz)
    rw [← hlen] at R
    obtain ⟨regs, pc, args, w0⟩ := k
    simp only at hkw hka
    subst hkw hka
    exact ⟨regs', R, hK.1, hK.2, fun _ => rfl, EnvD.frame hE hD hlk' hK.2 hbxAll⟩

end

end JanetModel.Compile
