/- C02: side condition `hside.2` of `compile_correct_set` for values that MAY contain `def`.  `MutInj` (a mutable name's register is
   held by no other resolvable name) survives `janetc_nameslot` of an immutable pair in a register no mutable name holds
   (`mutinj_snoc`); `AllocInv`: the entry invariant.  `namelocal_mutinj`: the `def` step on its own — the new name lives in a
   first-fit register (un-marked, hence no mutable name's, which are all marked) or aliases an immutable named source. -/
import JanetModel.Compile.SeqHintDef
import JanetModel.Compile.SeqDef
import JanetModel.Compile.SeqShapeM
namespace JanetModel.Compile
open JanetModel.Emit JanetModel.Lang JanetModel.Bytecode.Exec JanetModel.Gen.Bytecode

/-- every resolvable MUTABLE local's register is marked in `ra` -/
def MutMarked (scs : List Scope) (ra : RA) : Prop :=
  ∀ x sl u l r, lk scs x = some (sl, u, l) → sl.mutable = true → sl.k = .loc r → ra.alloc r = true

/-- every resolvable local's register is marked in `ra` -/
def NameMarked (scs : List Scope) (ra : RA) : Prop :=
  ∀ x sl u l r, lk scs x = some (sl, u, l) → sl.k = .loc r → ra.alloc r = true

/-- the entry invariant: `MutInj` + every resolvable local name's register is marked in the head scope's allocator -/
def AllocInv (scs : List Scope) : Prop :=
  MutInj scs ∧ ∀ sc rs, scs = sc :: rs → NameMarked scs sc.ra

theorem NameMarked.mut {scs : List Scope} {ra : RA} (h : NameMarked scs ra) : MutMarked scs ra :=
  fun x sl u l r h1 _ h3 => h x sl u l r h1 h3

theorem MutMarked.mono {scs : List Scope} {ra ra' : RA} (h : MutMarked scs ra) (hsub : ∀ r, ra.alloc r = true → ra'.alloc r = true) :
    MutMarked scs ra' := fun x sl u l r h1 h2 h3 => hsub r (h x sl u l r h1 h2 h3)

theorem NameMarked.mono {scs : List Scope} {ra ra' : RA} (h : NameMarked scs ra) (hsub : ∀ r, ra.alloc r = true → ra'.alloc r = true) :
    NameMarked scs ra' := fun x sl u l r h1 h3 => hsub r (h x sl u l r h1 h3)

theorem MutMarked.of_lk {scs scs' : List Scope} {ra : RA} (h : MutMarked scs ra) (hlk : ∀ x, lk scs' x = lk scs x) : MutMarked scs' ra :=
  fun x sl u l r h1 h2 h3 => h x sl u l r (by rw [← hlk]; exact h1) h2 h3

theorem NameMarked.of_lk {scs scs' : List Scope} {ra : RA} (h : NameMarked scs ra) (hlk : ∀ x, lk scs' x = lk scs x) : NameMarked scs' ra :=
  fun x sl u l r h1 h3 => h x sl u l r (by rw [← hlk]; exact h1) h3

/-- `janetc_nameslot` of an IMMUTABLE pair whose place is no mutable resolvable name's place keeps `MutInj` -/
theorem mutinj_snoc (sc : Scope) (rs : List Scope) (raT : RA) (pair : SymPair) (hv : pair.visible = true) (hmut : pair.slot.mutable = false)
    (hM : MutInj (sc :: rs))
    (hno : ∀ y sl u l, lk (sc :: rs) y = some (sl, u, l) → sl.mutable = true → sl.k ≠ pair.slot.k) :
    MutInj ({ sc with ra := raT, syms := sc.syms ++ [pair] } :: rs) := by
  intro x y slx sly ux lx uy ly h1 h2 hm hk
  rw [lk_def sc rs raT pair hv] at h1 h2
  split at h1
  · rw [← (Prod.mk.inj (Option.some.inj h1)).1, hmut] at hm
    exact Bool.noConfusion hm
  · split at h2
    · rw [← (Prod.mk.inj (Option.some.inj h2)).1] at hk
      exact absurd hk (hno x slx ux lx h1 hm)
    · exact hM x y slx sly ux lx uy ly h1 h2 hm hk

/-- `janetc_nameslot` of a pair whose register is marked keeps `NameMarked` -/
theorem namemarked_snoc (sc : Scope) (rs : List Scope) (raT : RA) (pair : SymPair) (hv : pair.visible = true)
    (hN : NameMarked (sc :: rs) raT) (hp : ∀ r, pair.slot.k = .loc r → raT.alloc r = true) :
    NameMarked ({ sc with ra := raT, syms := sc.syms ++ [pair] } :: rs) raT := by
  intro x sl u l r h1 hk
  rw [lk_def sc rs raT pair hv] at h1
  split at h1
  · rw [← (Prod.mk.inj (Option.some.inj h1)).1] at hk
    exact hp r hk
  · exact hN x sl u l r h1 hk

/-- `janetc_farslot`: first fit — the register is un-marked before, marked after, every other mark is kept -/
theorem farslot_fresh (c c1 : CState) (ls : JSlot) (sc : Scope) (rs : List Scope) (hs : c.scopes = sc :: rs) (hl : c.lim ≤ 65536)
    (h : farslot c = some (ls, c1)) :
    ∃ d ra1, ls = { k := .loc d } ∧ sc.ra.alloc d = false ∧ c1 = { c with scopes := { sc with ra := ra1 } :: rs } ∧
      ra1.alloc d = true ∧ ∀ j, sc.ra.alloc j = true → ra1.alloc j = true := by
  obtain ⟨hlt, hls, hc1⟩ := farslot_inv c c1 ls sc rs hs h
  obtain ⟨hsub, hfree⟩ := alloc1_rsub (RSub.refl sc.ra)
  exact ⟨_, _, hls, hfree (by omega), hc1, by simp [RA.alloc1, RA.mark], hsub⟩

/-- the `def` step keeps `MutInj`: `namelocal` (immutable) after a value whose slot is a constant or a plain local; in the alias
    case (named immutable source) the source's place must be no mutable resolvable name's place; otherwise the new name gets a
    first-fit register, un-marked and so no mutable name's -/
theorem namelocal_mutinj (c c2 : CState) (name : String) (r : JSlot) (sc : Scope) (rs : List Scope)
    (pool : List KConst) (ps : List (List KConst)) (hs : c.scopes = sc :: rs) (hp : c.pools = pool :: ps) (hl : c.lim ≤ 65536)
    (hM : MutInj c.scopes) (hMM : MutMarked c.scopes sc.ra) (hsl : SlotSh r)
    (hret : r.named = true → r.mutable = false → ∀ y sl u l, lk c.scopes y = some (sl, u, l) → sl.mutable = true → sl.k ≠ r.k)
    (h : namelocal c name false r = some c2) : MutInj c2.scopes := by
  rw [hs] at hM hMM hret
  rcases namelocal_cases c c2 name false r (hsl.elim (fun a => Or.inl a.2) (fun a => Or.inr a.2)) h with ⟨_, hnm, hmu, _, hc2⟩ | ⟨ls, c1a, c1b, h1, h2, hc2⟩
  · rw [hc2, nameslot_scopes c name _ sc rs hs]
    exact mutinj_snoc sc rs sc.ra _ rfl rfl hM (hret hnm hmu)
  · obtain ⟨d, ra1, hls, hfree, hc1a, _, _⟩ := farslot_fresh c c1a ls sc rs hs hl h1
    have hs1 : c1a.scopes = { sc with ra := ra1 } :: rs := by rw [hc1a]
    have hp1 : c1a.pools = pool :: ps := by rw [hc1a]; exact hp
    obtain ⟨ra2, more, seg, segm, hc1b, _⟩ := copySlot_stepR c1a c1b ls r _ rs pool ps hs1 hp1 h2
    have hs2 : c1b.scopes = { sc with ra := ra2 } :: rs := by rw [hc1b]
    rw [hc2, nameslot_scopes c1b name _ _ rs hs2]
    refine mutinj_snoc sc rs ra2 _ rfl rfl hM (fun y sl u l hy hm hk => ?_)
    rw [hls] at hk
    rw [hMM y sl u l d hy hm hk] at hfree
    exact Bool.noConfusion hfree

/-- a name's own slot (what `resolve` returns for a local): if it is immutable, no mutable resolvable name shares its place -/
theorem MutInj.sym_ret {scs : List Scope} (hM : MutInj scs) (x : String) (slx : JSlot) (ux lx : Bool) (hx : lk scs x = some (slx, ux, lx))
    (himm : slx.mutable = false) : ∀ y sl u l, lk scs y = some (sl, u, l) → sl.mutable = true → sl.k ≠ slx.k := by
  intro y sl u l hy hm hk
  have e := hM y x sl slx u l ux lx hy hx hm hk
  subst e
  rw [hy] at hx
  simp only [Option.some.injEq, Prod.mk.injEq] at hx
  rw [hx.1, himm] at hm
  exact absurd hm (by simp)

end JanetModel.Compile
