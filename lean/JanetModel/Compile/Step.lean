/- C02: the instruction words the emit layer / compiler model produce (`MI.word`, `CI.word`) are decoded and executed by the
   Lean VM (`Bytecode/Exec.step`) as the instruction they stand for.  `step_mi`: the word of a move / constant load / ref-cell access
   is executed by `Exec.step` as `vmExecMI` says; upvalue instructions and the link to `Emit.exec` are not covered.  These are the
   step lemmas of the compile-correctness proof. -/
import JanetModel.Compile.Model
import JanetModel.Bytecode.Exec
import JanetModel.Util.Bits
namespace JanetModel.Compile
open JanetModel.Emit JanetModel.Bytecode.Exec JanetModel.Gen.Bytecode

theorem Op.toNat_lt (op : Op) : op.toNat < 128 := by cases op <;> decide
theorem Op.ofNat_toNat (op : Op) : Op.ofNat? op.toNat = some op := by cases op <;> rfl

theorem step_decode (p : Program) (st : State) (w : Nat) (op : Op)
    (hf : (curDef p st).code[st.cur.pc]? = some w) (ho : w % 128 = op.toNat) :
    step p st = execOp p st (curDef p st) w op := by
  unfold step
  simp only [hf, ho, Op.ofNat_toNat]

theorem fA3 (o a b c : Nat) (ho : o < 256) (ha : a < 256) : fA (o + a * 256 + b * 65536 + c * 16777216) = a := by unfold fA; omega
theorem fB3 (o a b c : Nat) (ho : o < 256) (ha : a < 256) (hb : b < 256) : fB (o + a * 256 + b * 65536 + c * 16777216) = b := by unfold fB; omega
theorem fC3 (o a b c : Nat) (ho : o < 256) (ha : a < 256) (hb : b < 256) (hc : c < 256) : fC (o + a * 256 + b * 65536 + c * 16777216) = c := by
  unfold fC; omega
theorem fA2 (o a e : Nat) (ho : o < 256) (ha : a < 256) : fA (o + a * 256 + e * 65536) = a := by unfold fA; omega
theorem fE2 (o a e : Nat) (ho : o < 256) (ha : a < 256) (he : e < 65536) : fE (o + a * 256 + e * 65536) = e := by unfold fE; omega
theorem fB2 (o a e : Nat) (ho : o < 256) (ha : a < 256) (he : e < 256) : fB (o + a * 256 + e * 65536) = e := by unfold fB; omega
theorem fC2_zero (o a e : Nat) (ho : o < 256) (ha : a < 256) (he : e < 256) : fC (o + a * 256 + e * 65536) = 0 := by unfold fC; omega
theorem fD1 (o d : Nat) (ho : o < 256) (hd : d < 16777216) : fD (o + d * 256) = d := by unfold fD; omega
theorem op3 (o a b c : Nat) (ho : o < 128) : (o + a * 256 + b * 65536 + c * 16777216) % 128 = o := by omega
theorem op2 (o a e : Nat) (ho : o < 128) : (o + a * 256 + e * 65536) % 128 = o := by omega
theorem op1 (o d : Nat) (ho : o < 128) : (o + d * 256) % 128 = o := by omega

theorem sext_imod (bits : Nat) (hb : 1 ≤ bits) (n : Int) (lo : -((2 ^ (bits - 1) : Nat) : Int) ≤ n) (hi : n < ((2 ^ (bits - 1) : Nat) : Int)) :
    sext bits (imod n (2 ^ bits)) = n := by
  unfold sext imod
  rw [Util.two_pow_pred hb]
  exact Util.sext_wrap _ n lo hi

theorem sext16 (n : Int) (h1 : -32768 ≤ n) (h2 : n ≤ 32767) : sext 16 (imod n 65536) = n :=
  sext_imod 16 (by decide) n (by simpa using h1) (by simp; omega)

theorem sext24 (n : Int) (h1 : -8388608 ≤ n) (h2 : n ≤ 8388607) : sext 24 (imod n 16777216) = n :=
  sext_imod 24 (by decide) n (by simpa using h1) (by simp; omega)

/-- the VM's effect of the instruction (written by hand after `Emit/Machine.exec`; not proved equal to it) -/
def vmExecMI (p : Program) (st : State) : MI → StepRes
  | .movn d s => .next (st.setAdv d (st.getReg s))
  | .movf s d => .next (st.setAdv d (st.getReg s))
  | .ldu d e i => match st.readUp e i with
    | some v => .next (st.setAdv d v)
    | none => .unsup "invalid upvalue"
  | .setu s e i => match st.writeUp e i (st.getReg s) with
    | some st' => .next st'.adv
    | none => .unsup "invalid upvalue"
  | .ldk d .nil _ => .next (st.setAdv d .nil)
  | .ldk d .tru _ => .next (st.setAdv d (.bool true))
  | .ldk d .fls _ => .next (st.setAdv d (.bool false))
  | .ldk d (.int n) idx =>
    if -32768 ≤ n ∧ n ≤ 32767 then .next (st.setAdv d (.num (Float.ofInt n)))
    else .next (st.setAdv d ((curDef p st).consts.getD idx .nil))
  | .ldk d _ idx => .next (st.setAdv d ((curDef p st).consts.getD idx .nil))
  | .ldref d idx _ => .next (st.setAdv d ((curDef p st).consts.getD idx .nil))
  | .geti0 a b => liftP p st (vgetindex st.heap (st.getReg b) 0) (fun v => .next (st.setAdv a v))
  | .puti0 a b => liftP p st (vput st.heap (st.getReg a) (.num (Float.ofNat 0)) (st.getReg b)) (fun h => .next ({ st with heap := h }).adv)
  | .pay _ _ _ _ _ => .unsup "payload"

def MI.inRange : MI → Prop
  | .movn d s => d < 256 ∧ s < 65536
  | .movf s d => s < 256 ∧ d < 65536
  | .ldu _ _ _ => False          -- upvalue instructions: not covered (their VM semantics needs the environment objects)
  | .setu _ _ _ => False
  | .ldk d _ idx => d < 256 ∧ idx < 65536
  | .ldref d idx _ => d < 256 ∧ idx < 65536
  | .geti0 a b => a < 256 ∧ b < 256
  | .puti0 a b => a < 256 ∧ b < 256
  | .pay _ _ _ _ _ => False

/-- the word the emit layer produces for a move / constant load / ref-cell access is executed by `Exec.step` as `vmExecMI` says -/
theorem step_mi (p : Program) (st : State) (mi : MI) (hr : MI.inRange mi)
    (hf : (curDef p st).code[st.cur.pc]? = some mi.word) : step p st = vmExecMI p st mi := by
  cases mi with
  | movn d s =>
    obtain ⟨hd, hs⟩ := hr
    rw [step_decode p st _ .moveNear hf (by simp only [MI.word]; exact op2 _ _ _ (Op.toNat_lt _))]
    simp only [execOp, MI.word, vmExecMI]
    rw [fA2 _ _ _ (by decide) hd, fE2 _ _ _ (by decide) hd hs]
  | movf s d =>
    obtain ⟨hs, hd⟩ := hr
    rw [step_decode p st _ .moveFar hf (by simp only [MI.word]; exact op2 _ _ _ (Op.toNat_lt _))]
    simp only [execOp, MI.word, vmExecMI]
    rw [fA2 _ _ _ (by decide) hs, fE2 _ _ _ (by decide) hs hd]
  | ldu d e i => exact absurd hr id
  | setu s e i => exact absurd hr id
  | ldk d k idx =>
    obtain ⟨hd, hi⟩ := hr
    cases k with
    | nil =>
      rw [step_decode p st _ .loadNil hf (by simp only [MI.word]; exact op1 _ _ (Op.toNat_lt _))]
      simp only [execOp, MI.word, vmExecMI]
      rw [fD1 _ _ (by decide) (by omega)]
    | tru =>
      rw [step_decode p st _ .loadTrue hf (by simp only [MI.word]; exact op1 _ _ (Op.toNat_lt _))]
      simp only [execOp, MI.word, vmExecMI]
      rw [fD1 _ _ (by decide) (by omega)]
    | fls =>
      rw [step_decode p st _ .loadFalse hf (by simp only [MI.word]; exact op1 _ _ (Op.toNat_lt _))]
      simp only [execOp, MI.word, vmExecMI]
      rw [fD1 _ _ (by decide) (by omega)]
    | int n =>
      by_cases hn : -32768 ≤ n ∧ n ≤ 32767
      · have hw : (MI.ldk d (.int n) idx).word = Op.loadInteger.toNat + d * 256 + imod n 65536 * 65536 := by
          simp only [MI.word, hn, and_self, if_true]
        rw [hw] at hf
        have him : imod n 65536 < 65536 := by unfold imod; omega
        rw [step_decode p st _ .loadInteger hf (op2 _ _ _ (Op.toNat_lt _))]
        simp only [execOp, vmExecMI, hn, and_self, if_true, fES]
        rw [fA2 _ _ _ (by decide) hd, fE2 _ _ _ (by decide) hd him, sext16 n hn.1 hn.2]
      · have hw : (MI.ldk d (.int n) idx).word = Op.loadConstant.toNat + d * 256 + idx * 65536 := by
          simp only [MI.word, hn, if_false]
        rw [hw] at hf
        rw [step_decode p st _ .loadConstant hf (op2 _ _ _ (Op.toNat_lt _))]
        simp only [execOp, vmExecMI, hn, if_false]
        rw [fA2 _ _ _ (by decide) hd, fE2 _ _ _ (by decide) hd hi]
    | refarr id =>
      rw [step_decode p st _ .loadConstant hf (by simp only [MI.word]; exact op2 _ _ _ (Op.toNat_lt _))]
      simp only [execOp, MI.word, vmExecMI]
      rw [fA2 _ _ _ (by decide) hd, fE2 _ _ _ (by decide) hd hi]
    | other id =>
      rw [step_decode p st _ .loadConstant hf (by simp only [MI.word]; exact op2 _ _ _ (Op.toNat_lt _))]
      simp only [execOp, MI.word, vmExecMI]
      rw [fA2 _ _ _ (by decide) hd, fE2 _ _ _ (by decide) hd hi]
  | ldref d idx id =>
    obtain ⟨hd, hi⟩ := hr
    rw [step_decode p st _ .loadConstant hf (by simp only [MI.word]; exact op2 _ _ _ (Op.toNat_lt _))]
    simp only [execOp, MI.word, vmExecMI]
    rw [fA2 _ _ _ (by decide) hd, fE2 _ _ _ (by decide) hd hi]
  | geti0 a b =>
    obtain ⟨ha, hb⟩ := hr
    rw [step_decode p st _ .getIndex hf (by simp only [MI.word]; exact op2 _ _ _ (Op.toNat_lt _))]
    simp only [execOp, MI.word, vmExecMI]
    rw [fA2 _ _ _ (by decide) ha, fB2 _ _ _ (by decide) ha hb, fC2_zero _ _ _ (by decide) ha hb]
  | puti0 a b =>
    obtain ⟨ha, hb⟩ := hr
    rw [step_decode p st _ .putIndex hf (by simp only [MI.word]; exact op2 _ _ _ (Op.toNat_lt _))]
    simp only [execOp, MI.word, vmExecMI]
    rw [fA2 _ _ _ (by decide) ha, fB2 _ _ _ (by decide) ha hb, fC2_zero _ _ _ (by decide) ha hb]
  | pay _ _ _ _ _ => exact absurd hr id

/-- registers of a payload word, by shape (what `MI.word` packs) -/
theorem step_pay_s (p : Program) (st : State) (op : Op) (wr : Bool) (r rest : Nat) (hr : r < 16777216)
    (hf : (curDef p st).code[st.cur.pc]? = some (MI.pay op.toNat .s wr [r] rest).word) :
    step p st = execOp p st (curDef p st) (op.toNat + r * 256) op ∧ fD (op.toNat + r * 256) = r := by
  have hw : (MI.pay op.toNat .s wr [r] rest).word = op.toNat + r * 256 := by simp [MI.word]
  rw [hw] at hf
  exact ⟨step_decode p st _ op hf (op1 _ _ (Op.toNat_lt _)), fD1 _ _ (by have := Op.toNat_lt op; omega) hr⟩

theorem step_pay_ss (p : Program) (st : State) (op : Op) (wr : Bool) (a e rest : Nat) (ha : a < 256) (he : e < 65536)
    (hf : (curDef p st).code[st.cur.pc]? = some (MI.pay op.toNat .ss wr [a, e] rest).word) :
    step p st = execOp p st (curDef p st) (op.toNat + a * 256 + e * 65536) op ∧
      fA (op.toNat + a * 256 + e * 65536) = a ∧ fE (op.toNat + a * 256 + e * 65536) = e := by
  have hw : (MI.pay op.toNat .ss wr [a, e] rest).word = op.toNat + a * 256 + e * 65536 := by simp [MI.word]
  rw [hw] at hf
  have ho : op.toNat < 256 := by have := Op.toNat_lt op; omega
  exact ⟨step_decode p st _ op hf (op2 _ _ _ (Op.toNat_lt _)), fA2 _ _ _ ho ha, fE2 _ _ _ ho ha he⟩

theorem step_pay_sss (p : Program) (st : State) (op : Op) (wr : Bool) (a b c rest : Nat) (ha : a < 256) (hb : b < 256) (hc : c < 256)
    (hf : (curDef p st).code[st.cur.pc]? = some (MI.pay op.toNat .sss wr [a, b, c] rest).word) :
    step p st = execOp p st (curDef p st) (op.toNat + a * 256 + b * 65536 + c * 16777216) op ∧
      fA (op.toNat + a * 256 + b * 65536 + c * 16777216) = a ∧ fB (op.toNat + a * 256 + b * 65536 + c * 16777216) = b ∧
      fC (op.toNat + a * 256 + b * 65536 + c * 16777216) = c := by
  have hw : (MI.pay op.toNat .sss wr [a, b, c] rest).word = op.toNat + a * 256 + b * 65536 + c * 16777216 := by simp [MI.word]
  rw [hw] at hf
  have ho : op.toNat < 256 := by have := Op.toNat_lt op; omega
  exact ⟨step_decode p st _ op hf (op3 _ _ _ _ (Op.toNat_lt _)), fA3 _ _ _ _ ho ha, fB3 _ _ _ _ ho ha hb, fC3 _ _ _ _ ho ha hb hc⟩

/-- conditional jumps / CLOSURE: register + 16-bit immediate (`rest` = forward offset patched in by `janetc_if` / `janetc_while`) -/
theorem step_pay_si (p : Program) (st : State) (op : Op) (wr : Bool) (a rest : Nat) (ha : a < 256) (hr : rest < 32768)
    (hf : (curDef p st).code[st.cur.pc]? = some (MI.pay op.toNat .si wr [a] rest).word) :
    step p st = execOp p st (curDef p st) (op.toNat + a * 256 + rest * 65536) op ∧
      fA (op.toNat + a * 256 + rest * 65536) = a ∧ fE (op.toNat + a * 256 + rest * 65536) = rest ∧
      fES (op.toNat + a * 256 + rest * 65536) = (rest : Int) := by
  have hw : (MI.pay op.toNat .si wr [a] rest).word = op.toNat + a * 256 + rest * 65536 := by
    simp only [MI.word, List.getD_cons_zero]
    have : rest % 65536 = rest := by omega
    rw [this]
  rw [hw] at hf
  have ho : op.toNat < 256 := by have := Op.toNat_lt op; omega
  have hE := fE2 op.toNat a rest ho ha (by omega)
  refine ⟨step_decode p st _ op hf (op2 _ _ _ (Op.toNat_lt _)), fA2 _ _ _ ho ha, hE, ?_⟩
  unfold fES sext
  rw [hE]
  have : (2 : Nat) ^ (16 - 1) = 32768 := by decide
  rw [this, if_pos hr]

theorem step_jump (p : Program) (st : State) (off : Int) (h1 : -8388608 ≤ off) (h2 : off ≤ 8388607)
    (hf : (curDef p st).code[st.cur.pc]? = some (CI.jump off).word) : step p st = .next (st.jump off) := by
  have hw : (CI.jump off).word = Op.jump.toNat + imod off 16777216 * 256 := rfl
  rw [hw] at hf
  have hm : imod off 16777216 < 16777216 := by unfold imod; omega
  rw [step_decode p st _ .jump hf (op1 _ _ (Op.toNat_lt _))]
  simp only [execOp, fDS]
  rw [fD1 _ _ (by decide) hm, sext24 off h1 h2]

theorem step_retNil (p : Program) (st : State) (hf : (curDef p st).code[st.cur.pc]? = some CI.retNil.word) :
    step p st = doReturn p st .nil := by
  have hw : CI.retNil.word = Op.returnNil.toNat + 0 * 256 := rfl
  rw [hw] at hf
  rw [step_decode p st _ .returnNil hf (op1 _ _ (Op.toNat_lt _))]
  simp only [execOp]

theorem step_call (p : Program) (st : State) (d f : Nat) (hd : d < 256) (hfr : f < 65536)
    (hf : (curDef p st).code[st.cur.pc]? = some (CI.call d f).word) : step p st = doCall p st d (st.getReg f) := by
  have hw : (CI.call d f).word = Op.call.toNat + d * 256 + f * 65536 := rfl
  rw [hw] at hf
  rw [step_decode p st _ .call hf (op2 _ _ _ (Op.toNat_lt _))]
  simp only [execOp]
  rw [fA2 _ _ _ (by decide) hd, fE2 _ _ _ (by decide) hd hfr]

theorem step_tailcall (p : Program) (st : State) (r : Nat) (hr : r < 16777216)
    (hf : (curDef p st).code[st.cur.pc]? = some (CI.tailcall r).word) : step p st = doTailcall p st (st.getReg r) := by
  have hw : (CI.tailcall r).word = Op.tailcall.toNat + r * 256 := rfl
  rw [hw] at hf
  rw [step_decode p st _ .tailcall hf (op1 _ _ (Op.toNat_lt _))]
  simp only [execOp]
  rw [fD1 _ _ (by decide) hr]

theorem step_loadSelf (p : Program) (st : State) (r : Nat) (hr : r < 16777216)
    (hf : (curDef p st).code[st.cur.pc]? = some (CI.loadSelf r).word) : step p st = .next (st.setAdv r (.fn st.cur.self)) := by
  have hw : (CI.loadSelf r).word = Op.loadSelf.toNat + r * 256 := rfl
  rw [hw] at hf
  rw [step_decode p st _ .loadSelf hf (op1 _ _ (Op.toNat_lt _))]
  simp only [execOp]
  rw [fD1 _ _ (by decide) hr]

theorem step_closure (p : Program) (st : State) (r d : Nat) (hr : r < 256) (hd : d < 65536)
    (hf : (curDef p st).code[st.cur.pc]? = some (CI.closure r d).word) : step p st = doClosure p st r d := by
  have hw : (CI.closure r d).word = Op.closure.toNat + r * 256 + d * 65536 := rfl
  rw [hw] at hf
  rw [step_decode p st _ .closure hf (op2 _ _ _ (Op.toNat_lt _))]
  simp only [execOp]
  rw [fA2 _ _ _ (by decide) hr, fE2 _ _ _ (by decide) hr hd]

end JanetModel.Compile
