/- C02: `janetc_fn`.  The body loop: every form but the last with the drop flag (its slot is NOT freed), the last one in tail position —
   the tail reading of `Post` over the outcome of `Lang/Sem.evalSeq`.  The parameter loop (symbol parameters): on an allocator whose
   allocated registers are exactly `0..j-1`, `janetc_farslot` hands out `j, j+1, …` in order.  The closed statement for
   `(fn [a₁ … aₖ] body…)` without captured variables: the hypotheses the compile-correctness theorems carry about the running
   funcdef are what `janetc_fn` and `janetc_pop_funcdef` establish. -/
import JanetModel.Compile.SeqAll
namespace JanetModel.Compile
open JanetModel.Emit JanetModel.Lang JanetModel.Bytecode.Exec JanetModel.Gen.Bytecode

theorem fnBody_app (G : String → Prop) (b : Bool) (fuel : Nat) : ∀ (body : List Expr), (∀ e, e ∈ body → TF G b e) →
    ∀ (c c' : CState) (sc : Scope) (rs : List Scope) (pool : List KConst) (ps : List (List KConst)),
      c.scopes = sc :: rs → c.pools = pool :: ps → c.map.length = c.buf.length → LkL G c.scopes →
      fnBody (cValue fuel) body c = some c' → App c c' rs ps := by
  intro body
  induction body with
  | nil =>
    intro _ c c' sc rs pool ps hs hp _ _ h
    simp only [fnBody, Option.some.injEq] at h
    rw [← h]; exact App.refl c sc rs pool ps hs hp
  | cons x t ih =>
    intro hT c c' sc rs pool ps hs hp hm hL h
    cases t with
    | nil =>
      simp only [fnBody, Option.bind_eq_bind, Option.bind_eq_some_iff, Prod.exists, Option.pure_def, Option.some.injEq] at h
      obtain ⟨slot, c1, hx, hc1⟩ := h
      rw [← hc1]
      obtain ⟨S, M, _⟩ := tf_shape_max G b fuel x _ c c1 slot sc rs pool ps hs hp hm (hT x (by simp)) hL hx
      exact S.app hs hp M
    | cons y r =>
      simp only [fnBody, Option.bind_eq_bind, Option.bind_eq_some_iff, Prod.exists] at h
      obtain ⟨sl1, c1, hx, hrest⟩ := h
      obtain ⟨S1, M1, _⟩ := tf_shape_max G b fuel x _ c c1 sl1 sc rs pool ps hs hp hm (hT x (by simp)) hL hx
      obtain ⟨sc1, pool1, hs1, hp1, _, hL1, _⟩ := S1.out
      exact (S1.app hs hp M1).trans (ih (fun e he => hT e (by simp [he])) c1 c' sc1 rs pool1 ps hs1 hp1 (S1.mapLen hm) hL1 hrest)

section
variable (p : Program) (f0 : Frame) (rest : List Frame) (V : Array Value) (P : List KConst)

theorem fnBody_all (G : String → Prop) (b : Bool) (fuel : Nat) (IH : AllAt p f0 rest V P G b fuel) :
    ∀ (body : List Expr), (∀ e, e ∈ body → TF G b e) → body ≠ [] →
    ∀ (c c' : CState) (sc : Scope) (rs : List Scope) (pool : List KConst) (ps : List (List KConst)),
      c.scopes = sc :: rs → c.pools = pool :: ps → c.lim ≤ 240 → sc.top = false → c.map.length = c.buf.length → LkL G c.scopes →
      fnBody (cValue fuel) body c = some c' →
      ∃ slot, ∀ (n : Nat) (cur : Pos) (env : Env) (s : SS), EnvS G c.scopes env s.boxes.size sc.ra →
        Post p f0 rest V P G b { tail := true } c c' slot sc rs pool ps cur env s (evalSeq n cur env body s) := by
  intro body
  induction body with
  | nil => intro _ hne; exact absurd rfl hne
  | cons x t ih =>
    intro hT _ c c' sc rs pool ps hs hp hl htop hm hL hc
    have hTx := hT x (by simp)
    cases t with
    | nil =>
      simp only [fnBody, Option.bind_eq_bind, Option.bind_eq_some_iff, Prod.exists, Option.pure_def, Option.some.injEq] at hc
      obtain ⟨slot, c1, hx, hc1⟩ := hc
      subst hc1
      refine ⟨slot, fun n cur env s hE => ?_⟩
      cases n with
      | zero => simp only [evalSeq, Post]
      | succ n2 =>
        simp only [evalSeq]
        exact IH x { tail := true } c c1 slot sc rs pool ps n2 cur env s hs hp hl htop (Or.inr hm) (ModePre.of_none rfl sc) hTx hx hE
    | cons y r =>
      simp only [fnBody, Option.bind_eq_bind, Option.bind_eq_some_iff, Prod.exists] at hc
      obtain ⟨sl1, c1, hx, hrest⟩ := hc
      have hTr : ∀ e, e ∈ y :: r → TF G b e := fun e he => hT e (by simp [he])
      obtain ⟨S1, _⟩ := tf_shape G b fuel x { drop := true } c c1 sl1 sc rs pool ps hs hp hm hTx hL hx
      obtain ⟨sc1, pool1, hs1, hp1, ht1, hL1, _⟩ := S1.out
      have hm1 := S1.mapLen hm
      have htop1 : sc1.top = false := by rw [ht1]; exact htop
      obtain ⟨ra', ns, more, seg, segm, hc1, _⟩ := S1
      have AR : App c1 c' rs ps := fnBody_app G b fuel (y :: r) hTr c1 c' sc1 rs pool1 ps hs1 hp1 hm1 hL1 hrest
      obtain ⟨slot, Hrest⟩ := ih hTr (by simp) c1 c' sc1 rs pool1 ps hs1 hp1 (by rw [hc1]; exact hl) htop1 hm1 hL1 hrest
      refine ⟨slot, fun n cur env s hE => ?_⟩
      cases n with
      | zero => simp only [evalSeq, Post]
      | succ n2 =>
        have H1 := IH x { drop := true } c c1 sl1 sc rs pool ps n2 cur env s hs hp hl htop (Or.inr hm) (ModePre.plain true sc) hTx hx hE
        rw [evalSeq]
        case x_5 => intro hh; cases hh  -- the equation's side condition: `x :: y :: r` is not a singleton
        cases he : eval n2 cur env x s with
        | ok a s1 =>
          obtain ⟨v1, env1⟩ := a
          rw [he] at H1
          refine Post.after p f0 rest V P G b _ { tail := true } c c1 c' sl1 slot sc rs pool ps cur env env1 s s1 v1 _ (Or.inr hm) (fun _ => hm1)
            (H1.2.1 rfl rfl)
            (fun _ hN => (tf_NR_any G b fuel x { drop := true } c c1 sl1 sc rs pool ps hs hp hm hTx hE.lkl hN hx).1)
            (fun _ _ => AR) (fun sc1' pool1' a1 a2 _ _ _ hE1 => ?_)
          rw [hs1] at a1
          rw [hp1] at a2
          cases a1
          cases a2
          exact Hrest n2 cur env1 s1 hE1
        | err ev epos s' =>
          rw [he] at H1
          intro hh hm' hcur
          exact (H1 rfl hm hcur).extend seg segm (by rw [hc1]) (by rw [hc1]) AR
        | brk _ _ => exact True.intro
        | stop _ => exact True.intro

end

/-- whether a name is found does not depend on the flags carried along -/
theorem lookupR_none_flags (x : String) : ∀ (l : List Scope) (u lc u' lc' : Bool), lookupR x l u lc = none → lookupR x l u' lc' = none
  | [], _, _, _, _, _ => rfl
  | sc :: rest, u, lc, u', lc', h => by
    simp only [lookupR] at h ⊢
    cases hf : findSym sc.syms x with
    | some i => rw [hf] at h; exact absurd h (by simp)
    | none =>
      rw [hf] at h
      exact lookupR_none_flags x rest _ _ _ _ h

/-- `janetc_scope` for a function over scopes that bind nothing: nothing resolves (no upvalue capture) -/
theorem lk_fnscope_none (nw : Scope) (l : List Scope) (h1 : nw.syms = []) (hcl : ∀ x, lk l x = none) (x : String) : lk (nw :: l) x = none := by
  have hf : findSym nw.syms x = none := by rw [h1]; rfl
  simp only [lk, lookupR, hf]
  exact lookupR_none_flags x l _ _ _ _ (hcl x)

/-- `janetc_pop_funcdef`: the fields of the finished funcdef -/
theorem popFuncdef_fields (c5 : CState) (sc5 : Scope) (rs : List Scope) (arity minA maxA : Nat) (vararg : Bool)
    (hs : c5.scopes = sc5 :: rs) (hfn : sc5.fn = true) :
    ∃ c6, popFuncdef c5 arity minA maxA vararg =
      some (FDef.mk arity minA maxA (sc5.ra.max + 1) vararg false (c5.buf.drop sc5.start) (c5.map.drop sc5.start) (c5.pools.headD []) sc5.envs
        (if sc5.ua.isEmpty then none else some ((List.range (sc5.ra.max + 1)).map (fun i => sc5.ua.contains i && !(0xF0 ≤ i && i ≤ 0xFF))))
        (c5.fdefs.headD []), c6) := by
  unfold popFuncdef
  rw [hs]
  simp only [hfn, Bool.not_true, Bool.false_eq_true, if_false]
  cases rs with
  | nil => simp [popScope]
  | cons nw rest => simp [popScope, hfn]

theorem alloc1_prefix (ra : RA) (j : Nat) (hj : j < 240) (hal : ∀ r, ra.alloc r = decide (r < j)) :
    ra.alloc1.1 = j ∧ ∀ r, ra.alloc1.2.alloc r = decide (r < j + 1) := by
  have h1 : ∀ r, r < j → ra.taken r = true := fun r hr => by simp [RA.taken, hal, hr]
  have h2 : ra.taken j = false := by
    simp only [RA.taken, hal, Bool.or_eq_false_iff, decide_eq_false_iff_not, Bool.and_eq_false_imp, decide_eq_true_eq]
    omega
  have e : ra.alloc1.1 = j :=
    firstFit_at ra j h1 h2 searchFuel 0 (Nat.zero_le _) (by have : searchFuel = 70000 := rfl; omega)
  refine ⟨e, fun r => ?_⟩
  show (if r = ra.alloc1.1 then true else ra.alloc r) = _
  rw [e, hal]
  by_cases h : r = j
  · simp [h]
  · simp [h]; omega

/-- the environment `Lang/Sem` builds for symbol parameters: one fresh box each, in order -/
def bindParams : List String → Nat → Env → Env
  | [], _, env => env
  | nm :: r, nb, env => bindParams r (nb + 1) ((nm, nb) :: env)

theorem params_loop (G : String → Prop) : ∀ (names : List String) (c c3 : CState) (sc : Scope) (rs : List Scope) (env : Env) (nb j : Nat)
    (s : SS) (regs : Array Value),
    c.scopes = sc :: rs → c.lim ≤ 240 → (∀ r, sc.ra.alloc r = decide (r < j)) → (∀ nm, nm ∈ names → ¬ G nm) →
    EnvS G c.scopes env nb sc.ra → NR c.scopes → EnvD c.scopes env s regs →
    (∀ i, i < names.length → regs.getD (j + i) .nil = readBox s (nb + i)) →
    names.foldlM (fun (cc : CState) nm => do let (sl, cc') ← farslot cc; pure (nameslot cc' nm sl)) c = some c3 →
    ∃ (ra3 : RA) (ns3 : List SymPair), c3 = { c with scopes := { sc with ra := ra3, syms := sc.syms ++ ns3 } :: rs } ∧
      (∀ r, ra3.alloc r = decide (r < j + names.length)) ∧ sc.ra.max ≤ ra3.max ∧
      EnvS G c3.scopes (bindParams names nb env) (nb + names.length) ra3 ∧ NR c3.scopes ∧
      EnvD c3.scopes (bindParams names nb env) s regs := by
  intro names
  induction names with
  | nil =>
    intro c c3 sc rs env nb j s regs hs hl hal _ hE hN hD _ h
    simp only [List.foldlM_nil, Option.pure_def, Option.some.injEq] at h
    subst h
    refine ⟨sc.ra, [], ?_, hal, Nat.le_refl _, hE, hN, hD⟩
    simp only [List.append_nil]
    exact cstate_scopes_eta c sc rs hs
  | cons nm t ih =>
    intro c c3 sc rs env nb j s regs hs hl hal hG hE hN hD hregs h
    simp only [List.foldlM_cons, Option.bind_eq_bind, Option.bind_eq_some_iff, Prod.exists, Option.pure_def, Option.some.injEq] at h
    obtain ⟨c1, ⟨sl, cc', hfar, hc1⟩, hrest⟩ := h
    obtain ⟨hrlim, hsl, hcc'⟩ := farslot_inv c cc' sl sc rs hs hfar
    have hj240 : j < 240 := by
      have := (alloc1_rsub (RSub.refl sc.ra)).2 (by omega)
      rw [hal, decide_eq_false_iff_not] at this
      omega
    obtain ⟨hrj, hal'⟩ := alloc1_prefix sc.ra j hj240 hal
    rw [hrj] at hsl
    obtain ⟨ra', hra'⟩ : ∃ ra', ra' = (sc.ra.alloc1).2 := ⟨_, rfl⟩
    rw [← hra'] at hcc' hal'
    have hmax' : sc.ra.max ≤ ra'.max := by rw [hra']; exact alloc1_max_mono sc.ra
    subst hsl hcc'
    let pair : SymPair := { name := nm, slot := { ({ k := .loc j } : JSlot) with named := true } }
    have hs1 : c1.scopes = { sc with ra := ra', syms := sc.syms ++ [pair] } :: rs := by
      rw [← hc1]; simp only [nameslot]; rfl
    have hc1' : c1 = { c with scopes := { sc with ra := ra', syms := sc.syms ++ [pair] } :: rs } := by
      rw [← hc1]; simp only [nameslot]; rfl
    have hsup : ∀ r, sc.ra.alloc r = true → ra'.alloc r = true := by
      intro r hr; rw [hal] at hr; rw [hal']; simp at hr ⊢; omega
    have hdj : ra'.alloc j = true := by rw [hal']; simp
    rw [hs] at hE hN hD
    have hE1 : EnvS G c1.scopes ((nm, nb) :: env) (nb + 1) ra' := by
      rw [hs1]
      exact def_envS G sc rs env nb sc.ra ra' pair j hE (hG nm (by simp)) rfl rfl rfl rfl hsup hdj hj240
    have hN1 : NR c1.scopes := by
      rw [hs1]
      intro y slot u l hx
      rw [lk_def sc rs ra' pair rfl y] at hx
      split at hx
      · rw [← (Prod.mk.inj (Option.some.inj hx)).1]
      · exact hN y slot u l hx
    have hD1 : EnvD c1.scopes ((nm, nb) :: env) s regs := by
      rw [hs1]
      intro y slot u l r a hx hk he
      rw [lk_def sc rs ra' pair rfl y] at hx
      rw [lookupEnv_cons] at he
      by_cases hb : (nm == y) = true
      · rw [if_pos hb] at hx he
        rw [← (Prod.mk.inj (Option.some.inj hx)).1] at hk
        cases hk
        rw [← Option.some.inj he]
        exact hregs 0 (by simp)
      · rw [if_neg hb] at hx he
        exact hD y slot u l r a hx hk he
    obtain ⟨ra3, ns3, hc3, hal3, hmax3, hE3, hN3, hD3⟩ := ih c1 c3 { sc with ra := ra', syms := sc.syms ++ [pair] } rs ((nm, nb) :: env) (nb + 1) (j + 1) s regs
      hs1 (by rw [hc1']; exact hl) hal' (fun x hx => hG x (by simp [hx])) hE1 hN1 hD1
      (fun i hi => by
        have := hregs (i + 1) (by simp; omega)
        have e1 : j + 1 + i = j + (i + 1) := by omega
        have e2 : nb + 1 + i = nb + (i + 1) := by omega
        rw [e1, e2]; exact this)
      hrest
    have e3 : j + 1 + t.length = j + (nm :: t).length := by rw [List.length_cons]; omega
    have e4 : nb + 1 + t.length = nb + (nm :: t).length := by rw [List.length_cons]; omega
    refine ⟨ra3, [pair] ++ ns3, ?_, by intro r; rw [hal3 r, e3], by have : ra'.max ≤ ra3.max := hmax3; omega, ?_, hN3, hD3⟩
    · rw [hc3, hc1']; simp [List.append_assoc]
    · rw [← e4]; exact hE3

/-- the state after the parameters were bound: one box pushed per argument -/
def pushArgs : List Value → SS → SS
  | [], s => s
  | v :: r, s => pushArgs r { s with boxes := s.boxes.push v }

theorem pushArgs_world (vs : List Value) : ∀ (s : SS), (pushArgs vs s).st = s.st := by
  induction vs with
  | nil => intro s; rfl
  | cons v r ih => intro s; simp only [pushArgs]; rw [ih]

theorem pushArgs_size (vs : List Value) : ∀ (s : SS), (pushArgs vs s).boxes.size = s.boxes.size + vs.length := by
  induction vs with
  | nil => intro s; rfl
  | cons v r ih => intro s; simp only [pushArgs]; rw [ih]; simp; omega

theorem pushArgs_old (vs : List Value) : ∀ (s : SS) (a : Nat), a < s.boxes.size → readBox (pushArgs vs s) a = readBox s a := by
  induction vs with
  | nil => intro s a _; rfl
  | cons v r ih =>
    intro s a ha
    simp only [pushArgs]
    rw [ih _ a (by simp; omega)]
    simp [readBox, Array.getD, ha, Array.getElem_push_lt ha, Nat.lt_succ_of_lt ha]

theorem pushArgs_new (vs : List Value) : ∀ (s : SS) (i : Nat), i < vs.length → readBox (pushArgs vs s) (s.boxes.size + i) = vs.getD i .nil := by
  induction vs with
  | nil => intro s i hi; simp at hi
  | cons v r ih =>
    intro s i hi
    simp only [pushArgs]
    cases i with
    | zero =>
      rw [Nat.add_zero, pushArgs_old r { s with boxes := s.boxes.push v } s.boxes.size (by simp)]
      simp [readBox]
    | succ i =>
      have := ih { s with boxes := s.boxes.push v } i (by simpa using hi)
      have e : ({ s with boxes := s.boxes.push v } : SS).boxes.size + i = s.boxes.size + (i + 1) := by simp; omega
      rw [e] at this
      rw [this]; simp

/-- `Lang/Sem.bindAll` on symbol parameters: one fresh box per parameter, in order -/
theorem bindAll_syms : ∀ (names : List String) (vs : List Value) (f : Nat) (cur : Pos) (env : Env) (s : SS),
    names.length = vs.length → names.length + 1 ≤ f →
    bindAll f cur env ((names.zip vs).map (fun b => (Expr.sym b.1, b.2))) s = .ok (bindParams names s.boxes.size env) (pushArgs vs s) := by
  intro names
  induction names with
  | nil =>
    intro vs f cur env s hlen hf
    cases vs with
    | nil =>
      obtain ⟨f', rfl⟩ : ∃ f', f = f' + 1 := ⟨f - 1, by omega⟩
      simp [bindAll, bindParams, pushArgs]
    | cons _ _ => simp at hlen
  | cons nm t ih =>
    intro vs f cur env s hlen hf
    cases vs with
    | nil => simp at hlen
    | cons v r =>
      obtain ⟨f', rfl⟩ : ∃ f', f = f' + 1 := ⟨f - 1, by simp at hf; omega⟩
      obtain ⟨f'', rfl⟩ : ∃ f'', f' = f'' + 1 := ⟨f' - 1, by simp at hf; omega⟩
      simp only [List.zip_cons_cons, List.map_cons, bindAll, destructure, Lang.bind]
      have := ih r (f'' + 1) cur ((nm, s.boxes.size) :: env) { s with boxes := s.boxes.push v } (by simpa using hlen) (by simp at hf ⊢; omega)
      rw [this]
      simp [bindParams, pushArgs]

section
variable (p : Program) (f0 : Frame) (rest : List Frame) (V : Array Value)

/-- the body of `(fn [a₁ … aₖ] body...)` (symbol parameters, not names of global functions), compiled in a fresh function scope
    over scopes that bind nothing, run as the code of a funcdef whose constants are the scope's pool, on a register file with
    `slotcount` registers whose registers `0..k-1` hold the contents of the parameters' boxes: the VM reaches a configuration
    whose next step is the return of the body's value in the world `Lang/Sem.evalSeq` gives for the environment binding
    parameter `i` to box `nb0 + i` -/
theorem fn_params_body_correct (FF : FloatFacts) (G : String → Prop) (b : Bool) (fuel : Nat)
    (c c3 c5 : CState) (names : List String) (hGn : ∀ nm, nm ∈ names → ¬ G nm)
    (body : List Expr) (hT : ∀ e, e ∈ body → TF G b e) (hne : body ≠ [])
    (hm : c.map.length = c.buf.length) (hl : c.lim ≤ 240) (hclosed : ∀ x, lk c.scopes x = none)
    (hpar : names.foldlM (fun (cc : CState) nm => do let (sl, cc') ← farslot cc; pure (nameslot cc' nm sl))
      (pushScope c true false false false) = some c3)
    (hc : fnBody (cValue fuel) body c3 = some c5)
    (n : Nat) (cur : Pos) (env' : Env) (s s' : SS) (v : Value) (nb0 : Nat) (hnb : nb0 + names.length ≤ s.boxes.size)
    (hsem : evalSeq n cur (bindParams names nb0 []) body s = .ok (v, env') s')
    (hV : PrefA c5.vals V)
    (hcode : CodeAt (p.defs.getD f0.defIdx default).code 0 (c5.buf.drop c.buf.length))
    (hP : (c5.pools.headD []).length < 65536)
    (hK : ∀ i, i < (c5.pools.headD []).length →
      (p.defs.getD f0.defIdx default).consts.getD i .nil = litOf V ((c5.pools.headD []).getD i .nil))
    (regs : Array Value) (hregs : (c5.scopes.headD default).ra.max + 1 ≤ regs.size)
    (hargs : ∀ i, i < names.length → regs.getD i .nil = readBox s (nb0 + i)) :
    (∃ sc5, c5.scopes = sc5 :: c.scopes ∧ sc5.fn = true ∧ sc5.start = c.buf.length ∧ c5.pools = c5.pools.headD [] :: c.pools) ∧
    ∃ (regs' A : Array Value) (pc' : Nat) (wa : World),
      Reach p (inj f0 rest { regs := regs, pc := 0, args := #[], w := s.st.world })
        (inj f0 rest { regs := regs', pc := pc', args := A, w := wa }) ∧
      step p (inj f0 rest { regs := regs', pc := pc', args := A, w := wa }) =
        doReturn p (inj f0 rest { regs := regs', pc := pc', args := #[], w := s'.st.world }) v := by
  obtain ⟨fs, hfs⟩ : ∃ fs : Scope, fs = { fn := true, ra := { alloc := fun _ => false }, start := c.buf.length } := ⟨_, rfl⟩
  have hc2 : pushScope c true false false false = { c with scopes := fs :: c.scopes, pools := [] :: c.pools, fdefs := [] :: c.fdefs } := by
    simp [pushScope, hfs]
  rw [hc2] at hpar
  have hfsyms : fs.syms = [] := by rw [hfs]
  have hftop : fs.top = false := by rw [hfs]
  have hlk0 : ∀ x, lk (fs :: c.scopes) x = none := lk_fnscope_none fs c.scopes hfsyms hclosed
  have hE2 : EnvS G ({ c with scopes := fs :: c.scopes, pools := [] :: c.pools, fdefs := [] :: c.fdefs } : CState).scopes [] nb0 fs.ra :=
    ⟨fun f _ => hlk0 f, fun x => Or.inl ⟨hlk0 x, rfl⟩⟩
  have hN2 : NR ({ c with scopes := fs :: c.scopes, pools := [] :: c.pools, fdefs := [] :: c.fdefs } : CState).scopes := by
    intro x slot u l hx
    have : lk (fs :: c.scopes) x = some (slot, u, l) := hx
    rw [hlk0 x] at this
    exact absurd this (by simp)
  have hD2 : EnvD ({ c with scopes := fs :: c.scopes, pools := [] :: c.pools, fdefs := [] :: c.fdefs } : CState).scopes [] s regs := by
    intro x sl u l r a hx _ _
    have : lk (fs :: c.scopes) x = some (sl, u, l) := hx
    rw [hlk0 x] at this
    exact absurd this (by simp)
  obtain ⟨ra3, ns3, hc3, _, _, hE3, hN3, hD3⟩ := params_loop G names { c with scopes := fs :: c.scopes, pools := [] :: c.pools, fdefs := [] :: c.fdefs } c3 fs c.scopes [] nb0 0 s regs rfl hl
    (by intro r; rw [hfs]; simp) hGn hE2 hN2 hD2 (by intro i hi; rw [Nat.zero_add]; exact hargs i hi) hpar
  have hs3 : c3.scopes = { fs with ra := ra3, syms := fs.syms ++ ns3 } :: c.scopes := by rw [hc3]
  have hp3 : c3.pools = [] :: c.pools := by rw [hc3]
  have hl3 : c3.lim ≤ 240 := by rw [hc3]; exact hl
  have hm3 : c3.map.length = c3.buf.length := by rw [hc3]; exact hm
  have hE3' : EnvS G c3.scopes (bindParams names nb0 []) s.boxes.size ra3 :=
    hE3.of_lk (fun _ => rfl) hnb (fun _ _ _ _ _ _ _ h => h)
  obtain ⟨slot, HB⟩ := fnBody_all p f0 rest V (c5.pools.headD []) G b fuel (tf_all p f0 rest V (c5.pools.headD []) hP hK FF G b fuel)
    body hT hne c3 c5 { fs with ra := ra3, syms := fs.syms ++ ns3 } c.scopes [] c.pools hs3 hp3 hl3 hftop hm3 hE3'.lkl hc
  have HB' := HB n cur (bindParams names nb0 []) s hE3'
  rw [hsem] at HB'
  obtain ⟨hret, ra', nsyms, more, seg, segm, hc5, pv, mono, max', vm⟩ := HB'.1 rfl hN3
  have hs5 : c5.scopes = { fs with ra := ra', syms := fs.syms ++ ns3 ++ nsyms } :: c.scopes := by rw [hc5]
  have hp5 : c5.pools = ([] ++ more) :: c.pools := by rw [hc5]
  have hb5 : c5.buf = c.buf ++ seg := by rw [hc5]; show c3.buf ++ seg = _; rw [hc3]
  have hpool : c5.pools.headD [] = more := by rw [hp5]; simp
  have hdrop : c5.buf.drop c.buf.length = seg := by rw [hb5]; simp
  have hmax : (c5.scopes.headD default).ra.max = ra'.max := by rw [hs5]; rfl
  refine ⟨⟨_, hs5, by rw [hfs], by rw [hfs], by rw [hpool, hp5]; simp⟩, ?_⟩
  rw [hdrop] at hcode
  obtain ⟨regs', A, pc', wa, rch, _, st⟩ := vm { regs := regs, pc := 0, args := #[], w := s.st.world } rfl rfl hD3
    hcode (by rw [hpool]; simp; exact PrefL.refl _) hV (by show ra'.max < regs.size; omega)
  exact ⟨regs', A, pc', wa, rch, st⟩

theorem thunk_body_correct (FF : FloatFacts) (G : String → Prop) (b : Bool) (fuel : Nat)
    (c c5 : CState) (body : List Expr) (hT : ∀ e, e ∈ body → TF G b e) (hne : body ≠ [])
    (hm : c.map.length = c.buf.length) (hl : c.lim ≤ 240) (hclosed : ∀ x, lk c.scopes x = none)
    (hc : fnBody (cValue fuel) body (pushScope c true false false false) = some c5)
    (n : Nat) (cur : Pos) (env' : Env) (s s' : SS) (v : Value)
    (hsem : evalSeq n cur [] body s = .ok (v, env') s')
    (hV : PrefA c5.vals V)
    (hcode : CodeAt (p.defs.getD f0.defIdx default).code 0 (c5.buf.drop c.buf.length))
    (hP : (c5.pools.headD []).length < 65536)
    (hK : ∀ i, i < (c5.pools.headD []).length →
      (p.defs.getD f0.defIdx default).consts.getD i .nil = litOf V ((c5.pools.headD []).getD i .nil))
    (regs : Array Value) (hregs : (c5.scopes.headD default).ra.max + 1 ≤ regs.size) :
    (∃ sc5, c5.scopes = sc5 :: c.scopes ∧ sc5.fn = true ∧ sc5.start = c.buf.length ∧ c5.pools = c5.pools.headD [] :: c.pools) ∧
    ∃ (regs' A : Array Value) (pc' : Nat) (wa : World),
      Reach p (inj f0 rest { regs := regs, pc := 0, args := #[], w := s.st.world })
        (inj f0 rest { regs := regs', pc := pc', args := A, w := wa }) ∧
      step p (inj f0 rest { regs := regs', pc := pc', args := A, w := wa }) =
        doReturn p (inj f0 rest { regs := regs', pc := pc', args := #[], w := s'.st.world }) v :=
  fn_params_body_correct p f0 rest V FF G b fuel c _ c5 [] (fun _ h => absurd h List.not_mem_nil) body hT hne hm hl hclosed rfl hc
    n cur env' s s' v s.boxes.size (Nat.le_refl _) hsem hV hcode hP hK regs hregs (fun i hi => absurd hi (Nat.not_lt_zero i))

end

end JanetModel.Compile
