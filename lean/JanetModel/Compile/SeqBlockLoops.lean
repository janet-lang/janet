/- C02: `do` blocks and `do` / `upscope` bodies whose statements are in `TL G`. -/
import JanetModel.Compile.SeqNest
namespace JanetModel.Compile
open JanetModel.Emit JanetModel.Lang JanetModel.Bytecode.Exec JanetModel.Gen.Bytecode

section
variable {p : Program} {f0 : Frame} {rest : List Frame} {V : Array Value} {P : List KConst}

theorem do_tl (hP : P.length < 65536)
    (hK : ∀ i, i < P.length → (p.defs.getD f0.defIdx default).consts.getD i .nil = litOf V (P.getD i .nil))
    (FF : FloatFacts) (G : String → Prop) (fuel : Nat) (body : List Expr) (hT : ∀ e, e ∈ body → TL G e)
    (opts : Fopts) (c c' : CState) (slot : JSlot) (sc : Scope) (rs : List Scope) (pool : List KConst) (ps : List (List KConst))
    (n : Nat) (cur : Pos) (env envb : Env) (s s' : SS) (v : Value)
    (ht : opts.tail = false) (hh : opts.hint = none) (hs : c.scopes = sc :: rs) (hp : c.pools = pool :: ps) (hl : c.lim ≤ 240)
    (hm : c.map.length = c.buf.length)
    (hc : cDo (cValue fuel) opts body c = some (slot, c')) (hsem : evalSeq n cur env body s = .ok (v, envb) s')
    (hE : EnvS G c.scopes env s.boxes.size sc.ra) :
    Correct2 p f0 rest V P G opts.drop c c' slot sc rs pool ps env env s s' v :=
  Bool.and_true opts.drop ▸ do_core p f0 rest V P G (TL G) true fuel (tl_correct hP hK FF G fuel) (tl_ML G fuel) body hT
    opts c c' slot sc rs pool ps n cur env envb s s' v ht hh hs hp hl (fun _ => hm) hc hsem hE

end

section
variable (p : Program) (f0 : Frame) (rest : List Frame) (V : Array Value) (P : List KConst)

theorem doBody_loops_correct (hP : P.length < 65536)
    (hK : ∀ i, i < P.length → (p.defs.getD f0.defIdx default).consts.getD i .nil = litOf V (P.getD i .nil))
    (FF : FloatFacts) (G : String → Prop) (fuel : Nat) (body : List Expr) (hT : ∀ e, e ∈ body → TFW G true e)
    (opts : Fopts) (c c' : CState) (slot : JSlot) (sc : Scope) (rs : List Scope) (pool : List KConst) (ps : List (List KConst))
    (n : Nat) (cur : Pos) (env env' : Env) (s s' : SS) (v : Value)
    (ht : opts.tail = false) (hh : opts.hint = none) (hs : c.scopes = sc :: rs) (hp : c.pools = pool :: ps) (hl : c.lim ≤ 240)
    (htop : sc.top = false) (hm : c.map.length = c.buf.length)
    (hc : doBody (cValue fuel) opts body c = some (slot, c')) (hsem : evalSeq n cur env body s = .ok (v, env') s')
    (hE : EnvS G c.scopes env s.boxes.size sc.ra) :
    Correct2 p f0 rest V P G opts.drop c c' slot sc rs pool ps env env' s s' v :=
  Bool.and_true opts.drop ▸ doBody_correct p f0 rest V P G (TL G) true fuel (tl_correct hP hK FF G fuel) (tl_ML G fuel) body
    (fun e he => TL.of_tfw (hT e he)) opts c c' slot sc rs pool ps n cur env env' s s' v ht hh hs hp hl htop (fun _ => hm) hc hsem hE

end

end JanetModel.Compile
