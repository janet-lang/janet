/- C02: the code a form of the core fragment emits contains no `CI.brk` (the placeholder only `break` emits, which
   `janetc_while` rewrites inside the loop's code range), whatever the options and with no assumption on the compiler state
   (`tf_nobrk_any`): "no placeholder added and the code not shortened" is an instance of `Closed` (Compile/Closed.lean) on its
   own.  `NoBrkFrom buf n`: no placeholder at a position ≥ n. -/
import JanetModel.Compile.Closed
namespace JanetModel.Compile
open JanetModel.Emit JanetModel.Lang JanetModel.Bytecode.Exec JanetModel.Gen.Bytecode

def NoBrkFrom (buf : List CI) (n : Nat) : Prop := ∀ i ci, n ≤ i → buf[i]? = some ci → ci ≠ .brk

theorem NoBrkFrom.append {buf seg : List CI} {n : Nat} (h : NoBrkFrom buf n) (hs : ∀ ci, ci ∈ seg → ci ≠ .brk) : NoBrkFrom (buf ++ seg) n := by
  intro i ci hi hget
  by_cases hlt : i < buf.length
  · rw [List.getElem?_append_left hlt] at hget
    exact h i ci hi hget
  · rw [List.getElem?_append_right (by omega)] at hget
    exact hs ci (List.mem_of_getElem? hget)

theorem NoBrkFrom.take {buf : List CI} {n : Nat} (h : NoBrkFrom buf n) (m : Nat) : NoBrkFrom (buf.take m) n := by
  intro i ci hi hget
  rw [List.getElem?_take] at hget
  split at hget
  · exact h i ci hi hget
  · exact absurd hget (by simp)

theorem NoBrkFrom.modBuf {buf : List CI} {n : Nat} (h : NoBrkFrom buf n) (j : Nat) (f : CI → CI) (hf : ∀ x, x ≠ .brk → f x ≠ .brk) :
    NoBrkFrom (modBuf buf j f) n := by
  intro i ci hi hget
  simp only [JanetModel.Compile.modBuf, List.getElem?_modify] at hget
  cases hb : buf[i]? with
  | none => rw [hb] at hget; simp at hget
  | some x =>
    rw [hb] at hget
    simp only [Option.map_eq_map, Option.map_some, Option.some.injEq] at hget
    rw [← hget]
    split
    · exact hf x (h i x hi hb)
    · exact h i x hi hb

theorem patchCond_nobrk (off : Nat) (x : CI) (hx : x ≠ .brk) : patchCond off x ≠ .brk := by
  unfold patchCond
  split
  · simp
  · exact hx

/-- no placeholder is added from `c` to `c'` -/
def NBR (c c' : CState) : Prop := ∀ n0, NoBrkFrom c.buf n0 → NoBrkFrom c'.buf n0

theorem NBR.of_eq {c c' : CState} (h : c'.buf = c.buf) : NBR c c' := fun n0 hn => by rw [h]; exact hn
theorem NBR.refl (c : CState) : NBR c c := NBR.of_eq rfl
theorem NBR.trans {c c1 c2 : CState} (h1 : NBR c c1) (h2 : NBR c1 c2) : NBR c c2 := fun n0 hn => h2 n0 (h1 n0 hn)

theorem emitW_nbr (c c' : CState) (f : Emit.C → Emit.C) (h : emitW c f = some c') : NBR c c' := by
  obtain ⟨sc, rs, pool, ps, hsc, hpl⟩ := emitW_some c c' f h
  obtain ⟨_, hc'⟩ := emitW_spec c c' f sc rs pool ps hsc hpl h
  rw [hc']
  intro n0 hn
  refine NoBrkFrom.append hn (fun ci hci => ?_)
  simp only [List.mem_map] at hci
  obtain ⟨mi, _, rfl⟩ := hci
  simp

theorem emitRaw_nbr (c : CState) (i : CI) (hi : i ≠ .brk) : NBR c (emitRaw c i) := by
  intro n0 hn
  refine hn.append (fun ci hci => ?_)
  simp only [List.mem_singleton] at hci
  rw [hci]; exact hi

theorem freeslot_buf (c c' : CState) (s : JSlot) (h : freeslot c s = some c') : c'.buf = c.buf := (freeslot_bufmap c c' s h).1

theorem allocFar_buf (c c' : CState) (r : Nat) (h : allocFar c = some (r, c')) : c'.buf = c.buf := by
  cases hsc : c.scopes with
  | nil => simp [allocFar, hsc] at h
  | cons sc rs =>
    simp only [allocFar, hsc] at h
    split at h
    · exact absurd h (by simp)
    · simp only [Option.some.injEq, Prod.mk.injEq] at h
      rw [← h.2]

theorem popScope_buf (c c' : CState) (h : popScope c = some c') : c'.buf = c.buf := by
  unfold popScope at h
  split at h
  · exact absurd h (by simp)
  · rw [← Option.some.inj h]
  · split at h <;> rw [← Option.some.inj h]

theorem popScopeKeep_buf (c c' : CState) (s : JSlot) (h : popScopeKeep c s = some c') : c'.buf = c.buf := by
  simp only [popScopeKeep, Option.bind_eq_bind, Option.bind_eq_some_iff] at h
  obtain ⟨c1, h1, h2⟩ := h
  have := popScope_buf c c1 h1
  split at h2 <;> (simp only [Option.pure_def, Option.some.injEq] at h2; rw [← h2]; exact this)

theorem nameslot_buf (c : CState) (name : String) (s : JSlot) : (nameslot c name s).buf = c.buf := by
  unfold nameslot; split <;> rfl

theorem constSlot_buf (c : CState) (v : Value) : (constSlot c v).2.buf = c.buf := by
  show (kOf c v).2.buf = _
  rw [(kOf_shape c v).1]

theorem resolve_buf (c c' : CState) (x : String) (slot : JSlot) (h : resolve c x = some (slot, c')) : c'.buf = c.buf := by
  unfold resolve at h
  split at h
  · unfold globalSlot at h
    split at h
    · simp only [Option.some.injEq] at h
      have e : (constSlot c (.cfun x)).2 = c' := by rw [h]
      rw [← e]; exact constSlot_buf c _
    · simp only [Option.some.injEq] at h
      have e : (constSlot c (.cfun x)).2 = c' := by rw [h]
      rw [← e]; exact constSlot_buf c _
    · exact absurd h (by simp)
  · simp only at h
    split at h
    · simp only [Option.some.injEq, Prod.mk.injEq] at h; rw [← h.2]
    · split at h
      · simp only [Option.some.injEq, Prod.mk.injEq] at h; rw [← h.2]
      · split at h
        · split at h
          · exact absurd h (by simp)
          · split at h
            · exact absurd h (by simp)
            · simp only [Option.some.injEq, Prod.mk.injEq] at h; rw [← h.2]
        · exact absurd h (by simp)

/-- no placeholder added, the code not shortened -/
def NBL (c c' : CState) : Prop := NBR c c' ∧ c.buf.length ≤ c'.buf.length

theorem NBL.of_eq {c c' : CState} (h : c'.buf = c.buf) : NBL c c' := ⟨NBR.of_eq h, by rw [h]; exact Nat.le_refl _⟩

theorem NBL.trans {a b c : CState} (h1 : NBL a b) (h2 : NBL b c) : NBL a c := ⟨h1.1.trans h2.1, Nat.le_trans h1.2 h2.2⟩

theorem emitW_nbl (c c' : CState) (f : Emit.C → Emit.C) (h : emitW c f = some c') : NBL c c' := by
  refine ⟨emitW_nbr c c' f h, ?_⟩
  obtain ⟨sc, rs, pool, ps, hsc, hpl⟩ := emitW_some c c' f h
  obtain ⟨_, hc'⟩ := emitW_spec c c' f sc rs pool ps hsc hpl h
  rw [hc']
  simp

theorem nbl_closed (G : String → Prop) : Closed (fun n => ¬ G n) (fun _ => True) (fun _ => True) NBL where
  refl _ := NBL.of_eq rfl
  trans _ := NBL.trans
  inv _ _ := trivial
  icur _ := trivial
  curB _ h := h
  resolve _ h := ⟨NBL.of_eq (resolve_buf _ _ _ _ h), trivial⟩
  const _ := NBL.of_eq (constSlot_buf _ _)
  kconst := trivial
  emit _ _ h := emitW_nbl _ _ _ h
  raw {c i} _ hi := ⟨emitRaw_nbr c i hi, by simp [emitRaw]⟩
  far _ h := ⟨NBL.of_eq (allocFar_buf _ _ _ h), trivial⟩
  free _ _ h := NBL.of_eq (freeslot_buf _ _ _ h)
  name _ _ _ _ _ := NBL.of_eq (nameslot_buf _ _ _)
  upname _ _ _ := NBL.of_eq (nameslot_buf _ _ _)
  push _ := trivial
  block _ r h := (NBL.of_eq (c' := pushScope _ false false false false) rfl).trans (r.trans (NBL.of_eq (by
    rcases h with h | ⟨_, h⟩
    · exact popScope_buf _ _ h
    · exact popScopeKeep_buf _ _ _ h)))
  throw {c c2 c3} _ r h := by
    have e3 : c3.buf = c2.buf := popScope_buf c2 c3 h
    have hl : c.buf.length ≤ c2.buf.length := r.2
    refine ⟨fun n0 hn => ?_, ?_⟩
    · show NoBrkFrom (c3.buf.take c.buf.length) n0
      rw [e3]
      exact (r.1 n0 hn).take _
    · show c.buf.length ≤ (c3.buf.take c.buf.length).length
      rw [e3, List.length_take]
      omega
  mono _ r := r.2
  patch {c c14 nj i off j} _ r _ _ := by
    refine ⟨fun n0 hn => ?_, ?_⟩
    · show NoBrkFrom (ifPatch nj c14.buf i off j) n0
      unfold ifPatch
      split
      · exact (r.1 n0 hn).modBuf _ _ (patchCond_nobrk _)
      · exact ((r.1 n0 hn).modBuf _ _ (patchCond_nobrk _)).modBuf _ _ (fun _ _ => by simp)
    · show c.buf.length ≤ (ifPatch nj c14.buf i off j).length
      unfold ifPatch
      split
      · rw [modBuf_length]; exact r.2
      · rw [modBuf_length, modBuf_length]; exact r.2

theorem tf_nobrk_any (G : String → Prop) (b : Bool) (fuel : Nat) (e : Expr) (opts : Fopts) (c c' : CState) (slot : JSlot) (hT : TF G b e)
    (hc : cValue fuel opts e c = some (slot, c')) : NBR c c' :=
  (tf_closed (nbl_closed G) b fuel e opts c c' slot hT trivial hc).1.1

theorem tf_nobrk (G : String → Prop) (b : Bool) (fuel : Nat) (e : Expr) (opts : Fopts) (c c' : CState) (slot : JSlot) (n0 : Nat)
    (ht : opts.tail = false) (hh : opts.hint = none) (hT : TF G b e) (hc : cValue fuel opts e c = some (slot, c'))
    (hn : NoBrkFrom c.buf n0) : NoBrkFrom c'.buf n0 :=
  tf_nobrk_any G b fuel e opts c c' slot hT hc n0 hn

end JanetModel.Compile
