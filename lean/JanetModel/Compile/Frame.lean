/- C02: the states one activation of the VM goes through while it runs code of its own function differ from the state at entry only
   in the registers and pc of the current frame, the pending arguments and the world: `inj` builds such a state, `Reach` / `Runs`
   relate them, `Keeps A` is what a run owes the registers marked in `A`. -/
import JanetModel.Bytecode.Exec
import JanetModel.Emit.Model
import JanetModel.Lang.Sem
namespace JanetModel.Compile
open JanetModel.Emit JanetModel.Lang JanetModel.Bytecode.Exec JanetModel.Gen.Bytecode

structure Cfg where
  regs : Array Value
  pc : Nat
  args : Array Value
  w : World

/-- `k` written out, in the shape the run part of `Correct` / `Correct2` has for an empty code segment -/
theorem cfg_eta (k : Cfg) (w : World) (hkw : k.w = w) (hka : k.args = #[]) :
    ({ regs := k.regs, pc := k.pc + ([] : List CI).length, args := #[], w := w } : Cfg) = k := by
  obtain ⟨regs, pc, args, w0⟩ := k
  change w0 = w at hkw
  change args = #[] at hka
  subst hkw hka
  rfl

/-- the VM state with frame `f0` (registers and pc replaced) on top of `rest` -/
def inj (f0 : Frame) (rest : List Frame) (k : Cfg) : State :=
  { frames := { f0 with regs := k.regs, pc := k.pc } :: rest, heap := k.w.heap, args := k.args, trace := k.w.trace, result := k.w.result }

variable (f0 : Frame) (rest : List Frame)

theorem inj_cur (k : Cfg) : (inj f0 rest k).cur = { f0 with regs := k.regs, pc := k.pc } := rfl
theorem inj_getReg (k : Cfg) (r : Nat) : (inj f0 rest k).getReg r = k.regs.getD r .nil := rfl
theorem inj_pc (k : Cfg) : (inj f0 rest k).cur.pc = k.pc := rfl
theorem inj_world (k : Cfg) : (inj f0 rest k).world = k.w := rfl
theorem inj_args (k : Cfg) : (inj f0 rest k).args = k.args := rfl
theorem inj_curDef (p : Program) (k : Cfg) : curDef p (inj f0 rest k) = p.defs.getD f0.defIdx default := rfl
theorem inj_setAdv (k : Cfg) (r : Nat) (v : Value) :
    (inj f0 rest k).setAdv r v = inj f0 rest { k with regs := k.regs.setIfInBounds r v, pc := k.pc + 1 } := rfl
theorem inj_adv (k : Cfg) : (inj f0 rest k).adv = inj f0 rest { k with pc := k.pc + 1 } := rfl
theorem inj_jump (k : Cfg) (off : Int) : (inj f0 rest k).jump off = inj f0 rest { k with pc := (Int.ofNat k.pc + off).toNat } := rfl
theorem inj_setArgs (k : Cfg) (a : Array Value) : ({ inj f0 rest k with args := a } : State) = inj f0 rest { k with args := a } := rfl
theorem inj_withWorld (k : Cfg) (w : World) : (inj f0 rest k).withWorld w = inj f0 rest { k with w := w } := rfl
theorem inj_curPos (p : Program) (k : Cfg) :
    curPos p (inj f0 rest k) = (match (p.defs.getD f0.defIdx default).smap[k.pc]? with | some (l, c) => { line := l, col := c } | none => {}) := rfl

/-- `n` VM steps, each of which continues -/
def stepsTo (p : Program) : Nat → State → State → Prop
  | 0, a, b => a = b
  | n + 1, a, b => ∃ m, step p a = .next m ∧ stepsTo p n m b

def Reach (p : Program) (a b : State) : Prop := ∃ n, stepsTo p n a b

theorem Reach.refl (p : Program) (a : State) : Reach p a a := ⟨0, rfl⟩

theorem Reach.head {p : Program} {a m b : State} (h : step p a = .next m) (r : Reach p m b) : Reach p a b := by
  obtain ⟨n, hn⟩ := r
  exact ⟨n + 1, m, h, hn⟩

theorem stepsTo_trans {p : Program} : ∀ {n k : Nat} {a b c : State}, stepsTo p n a b → stepsTo p k b c → stepsTo p (n + k) a c
  | 0, k, a, b, c, h1, h2 => by
    have : a = b := h1
    subst this
    simpa using h2
  | n + 1, k, a, b, c, h1, h2 => by
    obtain ⟨m, hm, hr⟩ := h1
    have := stepsTo_trans hr h2
    have e : n + 1 + k = (n + k) + 1 := by omega
    rw [e]
    exact ⟨m, hm, this⟩

theorem Reach.trans {p : Program} {a b c : State} (h1 : Reach p a b) (h2 : Reach p b c) : Reach p a c := by
  obtain ⟨n, hn⟩ := h1
  obtain ⟨k, hk⟩ := h2
  exact ⟨n + k, stepsTo_trans hn hk⟩

/-- reaching a state from which `run` finishes: `run` finishes the same way from the start (with more fuel) -/
theorem run_of_stepsTo {p : Program} : ∀ {n : Nat} {a b : State} {fuel : Nat}, stepsTo p n a b → run p (n + fuel) a = run p fuel b
  | 0, a, b, fuel, h => by
    have : a = b := h
    subst this
    simp
  | n + 1, a, b, fuel, h => by
    obtain ⟨m, hm, hr⟩ := h
    have e : n + 1 + fuel = (n + fuel) + 1 := by omega
    rw [e, run, hm]
    exact run_of_stepsTo hr

theorem run_of_reach {p : Program} {a b : State} (h : Reach p a b) (fuel : Nat) : ∃ fuel', run p fuel' a = run p fuel b := by
  obtain ⟨n, hn⟩ := h
  exact ⟨n + fuel, run_of_stepsTo hn⟩

/-- `regs'` has as many registers as `regs` and agrees with it on the registers marked in `A` -/
def Keeps (A : Nat → Bool) (regs regs' : Array Value) : Prop :=
  regs'.size = regs.size ∧ ∀ r, A r = true → regs'.getD r .nil = regs.getD r .nil

theorem Keeps.refl (A : Nat → Bool) (regs : Array Value) : Keeps A regs regs := ⟨rfl, fun _ _ => rfl⟩

theorem Keeps.trans {A B : Nat → Bool} {r1 r2 r3 : Array Value} (h1 : Keeps A r1 r2) (h2 : Keeps B r2 r3)
    (hAB : ∀ r, A r = true → B r = true) : Keeps A r1 r3 :=
  ⟨h2.1.trans h1.1, fun r hr => (h2.2 r (hAB r hr)).trans (h1.2 r hr)⟩

theorem Keeps.mono {A B : Nat → Bool} {r1 r2 : Array Value} (h : Keeps B r1 r2) (hAB : ∀ r, A r = true → B r = true) : Keeps A r1 r2 :=
  ⟨h.1, fun r hr => h.2 r (hAB r hr)⟩

theorem Keeps.set {A : Nat → Bool} (regs : Array Value) {t : Nat} (v : Value) (ht : A t = false) :
    Keeps A regs (regs.setIfInBounds t v) := by
  refine ⟨by simp, fun r hr => ?_⟩
  have hne : t ≠ r := fun e => by rw [e, hr] at ht; exact Bool.noConfusion ht
  simp [Array.getD_eq_getD_getElem?, Array.getElem?_setIfInBounds, hne]

/-- `Reach` between two configurations of the activation `n` instructions apart -/
def Runs (p : Program) (f0 : Frame) (rest : List Frame) (pc n : Nat) (regs a : Array Value) (w : World) (regs' a' : Array Value) (w' : World) : Prop :=
  Reach p (inj f0 rest { regs := regs, pc := pc, args := a, w := w }) (inj f0 rest { regs := regs', pc := pc + n, args := a', w := w' })

variable {f0 rest} {p : Program}

theorem Runs.nil (pc : Nat) (regs a : Array Value) (w : World) : Runs p f0 rest pc 0 regs a w regs a w := Reach.refl _ _

theorem Runs.seq {pc n m : Nat} {r1 r2 r3 a1 a2 a3 : Array Value} {w1 w2 w3 : World}
    (h1 : Runs p f0 rest pc n r1 a1 w1 r2 a2 w2) (h2 : Runs p f0 rest (pc + n) m r2 a2 w2 r3 a3 w3) :
    Runs p f0 rest pc (n + m) r1 a1 w1 r3 a3 w3 := by
  unfold Runs at *
  rw [← Nat.add_assoc]
  exact Reach.trans h1 h2

theorem Runs.step {pc : Nat} {r1 r2 a1 a2 : Array Value} {w1 w2 : World}
    (h : Bytecode.Exec.step p (inj f0 rest { regs := r1, pc := pc, args := a1, w := w1 }) =
      .next (inj f0 rest { regs := r2, pc := pc + 1, args := a2, w := w2 })) : Runs p f0 rest pc 1 r1 a1 w1 r2 a2 w2 :=
  Reach.head h (Reach.refl _ _)

theorem Runs.jump {pc m n : Nat} {r1 r2 r3 a1 a2 a3 : Array Value} {w1 w2 w3 : World}
    (h1 : Runs p f0 rest pc m r1 a1 w1 r2 a2 w2)
    (h : Bytecode.Exec.step p (inj f0 rest { regs := r2, pc := pc + m, args := a2, w := w2 }) =
      .next (inj f0 rest { regs := r3, pc := pc + n, args := a3, w := w3 })) : Runs p f0 rest pc n r1 a1 w1 r3 a3 w3 :=
  Reach.trans h1 (Reach.head h (Reach.refl _ _))

theorem Runs.reach {pc n : Nat} {r1 r2 a1 a2 : Array Value} {w1 w2 : World} (h : Runs p f0 rest pc n r1 a1 w1 r2 a2 w2) :
    Reach p (inj f0 rest { regs := r1, pc := pc, args := a1, w := w1 }) (inj f0 rest { regs := r2, pc := pc + n, args := a2, w := w2 }) := h

end JanetModel.Compile
