/- C02: `janetc_def` and `janetc_var` with a symbol pattern in a local scope (`namelocal`: alias of a named immutable local, otherwise
   a fresh register and a copy; a mutable name never aliases), against `Lang/Sem`'s fresh box. -/
import JanetModel.Compile.SeqCorrect
import JanetModel.Compile.SeqPush
import JanetModel.Compile.Pieces
import JanetModel.Compile.SeqSpec
namespace JanetModel.Compile
open JanetModel.Emit JanetModel.Lang JanetModel.Bytecode.Exec JanetModel.Gen.Bytecode

theorem namelocal_cases (c c2 : CState) (name : String) (mf : Bool) (r : JSlot) (hk : (∃ kc, r.k = .const kc) ∨ ∃ r0, r.k = .loc r0)
    (h : namelocal c name mf r = some c2) :
    (mf = false ∧ r.named = true ∧ r.mutable = false ∧ (∃ r0, r.k = .loc r0) ∧ c2 = nameslot c name { r with mutable := false }) ∨
    ∃ ls c1a c1b, farslot c = some (ls, c1a) ∧ copySlot c1a ls r = some c1b ∧ c2 = nameslot c1b name { ls with mutable := mf } := by
  have hcopy : (do let (ls, c1) ← farslot c
                   let c2 ← copySlot c1 ls r
                   pure (nameslot c2 name { ls with mutable := mf })) = some c2 →
      ∃ ls c1a c1b, farslot c = some (ls, c1a) ∧ copySlot c1a ls r = some c1b ∧ c2 = nameslot c1b name { ls with mutable := mf } := by
    intro h
    simp only [Option.bind_eq_bind, Option.bind_eq_some_iff, Prod.exists, Option.pure_def, Option.some.injEq] at h
    obtain ⟨ls, c1a, h1, c1b, h2, h3⟩ := h
    exact ⟨ls, c1a, c1b, h1, h2, h3.symm⟩
  unfold namelocal at h
  rcases hk with ⟨kc, e⟩ | ⟨r0, e⟩
  · simp only [e, Bool.and_false, Bool.false_eq_true, if_false, Bool.not_false, if_true] at h
    exact Or.inr (hcopy h)
  · simp only [e, Bool.and_false, Bool.and_true, Bool.not_false, if_true] at h
    split at h
    · rename_i ha
      simp only [Bool.and_eq_true, Bool.not_eq_true'] at ha
      exact Or.inl ⟨ha.1.1, ha.2, ha.1.2, ⟨r0, e⟩, by rw [e]; exact (Option.some.inj h).symm⟩
    · exact Or.inr (hcopy h)

theorem lk_def (sc1 : Scope) (rs : List Scope) (raT : RA) (pair : SymPair) (hv : pair.visible = true) (y : String) :
    lk ({ sc1 with ra := raT, syms := sc1.syms ++ [pair] } :: rs) y =
      if (pair.name == y) = true then some (pair.slot, sc1.unused, true) else lk (sc1 :: rs) y :=
  lk_snoc { sc1 with ra := raT } rs pair hv y

theorem lookupEnv_cons (x : String) (a : Nat) (env : Env) (y : String) :
    lookupEnv ((x, a) :: env) y = if (x == y) = true then some a else lookupEnv env y := by
  simp only [lookupEnv]

/-- the compile-time invariant after a new name was bound to an allocated near register -/
theorem def_envS (G : String → Prop) (sc1 : Scope) (rs : List Scope) (env1 : Env) (nb : Nat) (ra1 raT : RA) (pair : SymPair) (d' : Nat)
    (hE : EnvS G (sc1 :: rs) env1 nb ra1) (hG : ¬ G pair.name) (hv : pair.visible = true) (hk : pair.slot.k = .loc d')
    (hn : pair.slot.named = true) (hc : pair.slot.cflag = false) (hsup : ∀ r, ra1.alloc r = true → raT.alloc r = true)
    (hd : raT.alloc d' = true) (hd240 : d' < 240) :
    EnvS G ({ sc1 with ra := raT, syms := sc1.syms ++ [pair] } :: rs) ((pair.name, nb) :: env1) (nb + 1) raT := by
  refine ⟨fun f hf => ?_, fun y => ?_⟩
  · rw [lk_def sc1 rs raT pair hv f]
    have hne : (pair.name == f) = false := by
      cases hb : (pair.name == f) with
      | false => rfl
      | true => exact absurd (by rw [← (beq_iff_eq.mp hb)] at hf; exact hf) hG
    simp only [hne, Bool.false_eq_true, if_false]
    exact hE.1 f hf
  · rw [lk_def sc1 rs raT pair hv y, lookupEnv_cons]
    cases hb : (pair.name == y) with
    | true =>
      simp only [if_true]
      exact Or.inr ⟨pair.slot, d', nb, sc1.unused, rfl, hk, hn, hc, rfl, by omega, hd, hd240⟩
    | false =>
      simp only [Bool.false_eq_true, if_false]
      rcases hE.2 y with ⟨h1, h2⟩ | ⟨slot, r, a, u, h1, hk1, hn1, hc1, he, ha, hal, hr⟩
      · exact Or.inl ⟨h1, h2⟩
      · exact Or.inr ⟨slot, r, a, u, h1, hk1, hn1, hc1, he, by omega, hsup r hal, hr⟩

/-- the run-time invariant after the bind: the new register holds the content of the new box, old names keep theirs -/
theorem def_envD (G : String → Prop) (sc1 : Scope) (rs : List Scope) (env1 : Env) (s1 : SS) (ra1 raT : RA) (pair : SymPair) (d' : Nat)
    (regs1 regsT : Array Value) (v : Value)
    (hE : EnvS G (sc1 :: rs) env1 s1.boxes.size ra1) (hD : EnvD (sc1 :: rs) env1 s1 regs1) (hv : pair.visible = true)
    (hk : pair.slot.k = .loc d') (hsame : ∀ r, ra1.alloc r = true → regsT.getD r .nil = regs1.getD r .nil) (hval : regsT.getD d' .nil = v) :
    EnvD ({ sc1 with ra := raT, syms := sc1.syms ++ [pair] } :: rs) ((pair.name, s1.boxes.size) :: env1)
      { s1 with boxes := s1.boxes.push v } regsT := by
  intro y slot u l r a hx hsk he
  rw [lk_def sc1 rs raT pair hv y] at hx
  rw [lookupEnv_cons] at he
  cases hb : (pair.name == y) with
  | true =>
    rw [hb] at hx he
    simp only [if_true, Option.some.injEq, Prod.mk.injEq] at hx he
    obtain ⟨e1, _, _⟩ := hx
    subst e1 he
    rw [hk] at hsk
    have : d' = r := by injection hsk
    subst this
    rw [hval]
    simp [readBox]
  | false =>
    rw [hb] at hx he
    simp only [Bool.false_eq_true, if_false] at hx he
    obtain ⟨_, _, _, r', a', hk', he', ha, hal, _⟩ := hE.found hx
    have e1 : r' = r := by rw [hk'] at hsk; injection hsk
    have e2 : a' = a := by rw [he] at he'; exact (Option.some.inj he').symm
    subst e1 e2
    rw [hsame r' hal, hD y slot u l r' a' hx hsk he]
    have : a' < s1.boxes.size := ha
    simp [readBox, Array.getD, Array.getElem_push_lt, this, Nat.lt_succ_of_lt this]

section
variable (p : Program) (f0 : Frame) (rest : List Frame) (V : Array Value) (P : List KConst)

/-- `janetc_copy` of a constant or a near local into a (different) near register: code, pool, VM run -/
theorem copyFresh (hP : P.length < 65536)
    (hK : ∀ i, i < P.length → (p.defs.getD f0.defIdx default).consts.getD i .nil = litOf V (P.getD i .nil))
    (c cb : CState) (dest src : JSlot) (d' : Nat) (hdk : dest.k = .loc d') (hdc : dest.cflag = false)
    (sc : Scope) (rs : List Scope) (pool : List KConst) (ps : List (List KConst))
    (hs : c.scopes = sc :: rs) (hp : c.pools = pool :: ps) (hd' : d' < 240) (hsk : SK src) (hne : ∀ r, src.k = .loc r → r ≠ d')
    (h : copySlot c dest src = some cb) :
    ∃ (more : List KConst) (seg : List CI) (segm : List Pos),
      cb = { c with scopes := sc :: rs, pools := (pool ++ more) :: ps, buf := c.buf ++ seg, map := c.map ++ segm } ∧
      ∀ (k : Cfg), CodeAt (p.defs.getD f0.defIdx default).code k.pc seg → PrefL (pool ++ more) P → d' < k.regs.size →
        Reach p (inj f0 rest k)
          (inj f0 rest { regs := k.regs.setIfInBounds d' (slotVal V k.regs src), pc := k.pc + seg.length, args := k.args, w := k.w }) := by
  rcases hsk with ⟨kc, hk⟩ | ⟨r, hk, hr⟩
  · obtain ⟨_, hcb⟩ := copy_loc_const c cb dest src d' kc hdk (by omega) hdc hk sc rs pool ps hs hp h
    obtain ⟨m, hm⟩ : PrefL pool (if kc.pooled then W.intern pool kc else pool) := by
      split
      · exact intern_pref pool kc
      · exact PrefL.refl _
    refine ⟨m, [CI.mi (MI.ldk d' kc (W.poolIdx (if kc.pooled = true then W.intern pool kc else pool) kc))], [c.cur], by rw [hcb, hm], ?_⟩
    intro k hcode hpre hsz
    rw [← hm] at hpre
    obtain ⟨hidx, hconst⟩ := pool_ok p f0 V P hP hK _ hpre kc (fun hp => by rw [if_pos hp]; exact intern_mem pool kc)
    have s1 := run_ldk p f0 rest k d' kc _ V (by omega) hidx hcode.head hconst
    refine Reach.head s1 ?_
    have e : slotVal V k.regs src = litOf V kc := by simp [slotVal, hk]
    rw [e]
    exact Reach.refl _ _
  · obtain ⟨_, hcb⟩ := copy_loc_loc c cb dest src d' r hdk (by omega) hdc hk (hne r hk) sc rs pool ps hs hp h
    refine ⟨[], [CI.mi (.movn d' r)], [c.cur], by rw [hcb]; simp, ?_⟩
    intro k hcode _ _
    have s1 := run_movn p f0 rest k d' r (by omega) (by omega) hcode.head
    refine Reach.head s1 ?_
    have e : slotVal V k.regs src = k.regs.getD r .nil := by simp [slotVal, hk]
    rw [e]
    exact Reach.refl _ _

theorem farslot_eq (c : CState) : farslot c = getTarget c {} := rfl

theorem name_copy (hP : P.length < 65536)
    (hK : ∀ i, i < P.length → (p.defs.getD f0.defIdx default).consts.getD i .nil = litOf V (P.getD i .nil))
    (G : String → Prop) (x : String) (hGx : ¬ G x) (mf : Bool)
    (c c1 c1a c1b c2 : CState) (r ls : JSlot) (sc : Scope) (rs : List Scope) (pool : List KConst) (ps : List (List KConst))
    (env env1 : Env) (s s1 : SS) (v : Value) (hl : c.lim ≤ 240)
    (H1 : Correct2 p f0 rest V P G false c c1 r sc rs pool ps env env1 s s1 v)
    (hfar : farslot c1 = some (ls, c1a)) (hcp : copySlot c1a ls r = some c1b) (hc2 : c2 = nameslot c1b x { ls with mutable := mf }) :
    Correct2 p f0 rest V P G false c c2 r sc rs pool ps env ((x, s1.boxes.size) :: env1) s { s1 with boxes := s1.boxes.push v } v := by
  obtain ⟨ra1, ns1, more1, seg1, segm1, hc1, pv1, mono1, max1, sok1, bx1, es1, nf1, vm1⟩ := H1
  have hs1 : c1.scopes = { sc with ra := ra1, syms := sc.syms ++ ns1 } :: rs := by rw [hc1]
  have hp1 : c1.pools = (pool ++ more1) :: ps := by rw [hc1]
  have hl1 : c1.lim ≤ 240 := by rw [hc1]; exact hl
  rw [hs1] at es1
  have hbx : PrefA s.boxes ({ s1 with boxes := s1.boxes.push v } : SS).boxes := PrefA.trans bx1 (PrefA.push _ _)
  have hsk : SK r := sok1.sk
  rw [farslot_eq] at hfar
  obtain ⟨d', raT, hls, b1, b2, b3, b4, b5, hc1a⟩ := getTarget_spec c1 c1a ls { sc with ra := ra1, syms := sc.syms ++ ns1 } rs hs1 hl1 hfar
  have b1' : ra1.alloc d' = false := b1
  have b4' : ra1.max ≤ raT.max := b4
  have b5' : ∀ j, raT.alloc j = (if j = d' then true else ra1.alloc j) := b5
  have hd240 : d' < 240 := by omega
  have hs1a : c1a.scopes = { sc with ra := raT, syms := sc.syms ++ ns1 } :: rs := by rw [hc1a]
  have hp1a : c1a.pools = (pool ++ more1) :: ps := by rw [hc1a]; exact hp1
  have hne : ∀ r0, r.k = .loc r0 → r0 ≠ d' := by
    intro r0 hk0 e
    subst e
    rcases sok1 with ⟨_, kc, hk, _⟩ | ⟨_, _, r', hk, a3, _⟩ | ⟨_, _, d, hk, _, a5, _⟩
    · rw [hk0] at hk; exact absurd hk (by simp)
    · rw [hk0] at hk; injection hk with e; subst e; rw [b1'] at a3; exact Bool.noConfusion a3
    · rw [hk0] at hk; injection hk with e; subst e; rw [b1'] at a5; exact Bool.noConfusion a5
  obtain ⟨moreC, segC, segmC, hc1b, vmC⟩ :=
    copyFresh p f0 rest V P hP hK c1a c1b ls r d' (by rw [hls]) (by rw [hls]) _ rs (pool ++ more1) ps hs1a hp1a hd240 hsk hne hcp
  have hs1b : c1b.scopes = { sc with ra := raT, syms := sc.syms ++ ns1 } :: rs := by rw [hc1b]
  let pair : SymPair := { name := x, slot := { ({ ls with mutable := mf } : JSlot) with named := true } }
  have hs2 : c2.scopes = { sc with ra := raT, syms := (sc.syms ++ ns1) ++ [pair] } :: rs := by
    rw [hc2]; simp only [nameslot, hs1b] <;> rfl
  have hsc2 : c2.scopes = ({ ({ sc with syms := sc.syms ++ ns1 } : Scope) with ra := raT, syms := ({ sc with syms := sc.syms ++ ns1 } : Scope).syms ++ [pair] } :: rs) := hs2
  have hpk : pair.slot.k = .loc d' := by show ls.k = _; rw [hls]
  have hpc : pair.slot.cflag = false := by show ls.cflag = _; rw [hls]
  have hsupT : ∀ r0, ra1.alloc r0 = true → raT.alloc r0 = true := by
    intro r0 h0; rw [b5' r0]; split
    · rfl
    · exact h0
  have hdT : raT.alloc d' = true := by rw [b5' d']; simp
  have hv2 : c2.vals = c1.vals := by rw [hc2]; simp only [nameslot, hs1b]; rw [hc1b, hc1a]
  -- the new name's register was free: a name of `c2` in a register marked before is a name of `c1`
  have hold : ∀ d, ra1.alloc d = true → ∀ y sl u l, lk c2.scopes y = some (sl, u, l) → sl.k = .loc d →
      lk ({ sc with ra := ra1, syms := sc.syms ++ ns1 } :: rs) y = some (sl, u, l) := by
    intro d hd y sl u l hy hk
    rw [hsc2, lk_def _ rs raT pair rfl y] at hy
    split at hy
    · rw [← (Prod.mk.inj (Option.some.inj hy)).1, hpk] at hk
      cases hk
      rw [b1'] at hd
      exact Bool.noConfusion hd
    · exact hy
  have nfC : NameFrame sc c.scopes c2.scopes r := by
    refine ⟨fun d hd hno y sl u l hy hk => ?_, nf1.2⟩
    have := nf1.1 d hd hno
    rw [hs1] at this
    exact this y sl u l (hold d (mono1 d hd) y sl u l hy hk) hk
  refine ⟨raT, ns1 ++ [pair], more1 ++ moreC, seg1 ++ segC, segm1 ++ segmC, ?_, ?_, fun r0 h0 => hsupT r0 (mono1 r0 h0), by omega, ?_, hbx, ?_, nfC, ?_⟩
  · rw [hc2]; simp only [nameslot, hs1b]
    rw [hc1b, hc1a, hc1]; simp only [List.append_assoc, pair]
  · rw [hv2]; exact pv1
  · rw [hv2]
    rcases sok1 with h | ⟨a1, a2, r', a3, a4, a5⟩ | ⟨a1, a2, d, a3, a4, a5, a6, a7⟩
    · exact Or.inl h
    · exact Or.inr (Or.inl ⟨a1, a2, r', a3, hsupT r' a4, a5⟩)
    · refine Or.inr (Or.inr ⟨a1, a2, d, a3, a4, hsupT d a5, a6, ?_⟩)
      intro y sl u l hy hk
      rw [hs1] at a7
      exact a7 y sl u l (hold d a5 y sl u l hy hk) hk
  · rw [hsc2]
    have := def_envS G { sc with syms := sc.syms ++ ns1 } rs env1 s1.boxes.size ra1 raT pair d' es1 hGx rfl hpk rfl hpc hsupT hdT hd240
    simp only [Array.size_push]
    exact this
  · intro k hkw hka hD hcode hpre hV hsz
    rw [hv2] at hV
    obtain ⟨regs1, rch1, sz1, pr1, sv1, ed1⟩ :=
      vm1 k hkw hka hD hcode.left (PrefL.trans ⟨moreC, by simp [List.append_assoc]⟩ hpre) hV (by omega)
    have rchC := vmC { regs := regs1, pc := k.pc + seg1.length, args := #[], w := s1.st.world } hcode.right
      (by rw [List.append_assoc]; exact hpre) (by show d' < regs1.size; omega)
    rw [hs1] at ed1
    have hsame : ∀ r0, ra1.alloc r0 = true → (regs1.setIfInBounds d' (slotVal V regs1 r)).getD r0 .nil = regs1.getD r0 .nil := by
      intro r0 h0
      exact getD_set_ne _ _ _ _ (by intro e; rw [e] at h0; rw [b1'] at h0; exact Bool.noConfusion h0)
    have hval : (regs1.setIfInBounds d' (slotVal V regs1 r)).getD d' .nil = v := by
      rw [getD_set_eq _ _ _ (by omega)]; exact sv1 rfl
    refine ⟨regs1.setIfInBounds d' (slotVal V regs1 r), ?_, by simp [sz1], ?_, ?_, ?_⟩
    · rw [List.length_append]
      exact Runs.seq rch1 rchC
    · intro r0 h0
      rw [hsame r0 (mono1 r0 h0), pr1 r0 h0]
    · intro _
      rcases hsk with ⟨kc, hk⟩ | ⟨r0, hk, _⟩
      · have := sv1 rfl
        simp only [slotVal, hk] at this ⊢
        exact this
      · have := sv1 rfl
        simp only [slotVal, hk] at this ⊢
        rw [getD_set_ne _ _ _ _ (hne r0 hk)]
        exact this
    · rw [hsc2]
      exact def_envD G { sc with syms := sc.syms ++ ns1 } rs env1 s1 ra1 raT pair d' regs1 _ v es1 ed1 rfl hpk hsame hval

theorem def_core (hP : P.length < 65536)
    (hK : ∀ i, i < P.length → (p.defs.getD f0.defIdx default).consts.getD i .nil = litOf V (P.getD i .nil))
    (G : String → Prop) (T : Expr → Prop) (w : Bool) (fuel : Nat) (IH : CorrectAt p f0 rest V P G T w fuel) (x : String) (ve : Expr) (hGx : ¬ G x) (hTv : T ve)
    (c c' : CState) (slot : JSlot) (sc : Scope) (rs : List Scope) (pool : List KConst) (ps : List (List KConst))
    (n2 : Nat) (pos : Pos) (env env1 : Env) (s s1 : SS) (v : Value)
    (hs : c.scopes = sc :: rs) (hp : c.pools = pool :: ps) (hl : c.lim ≤ 240) (htop : sc.top = false)
    (hm : w = true → c.map.length = c.buf.length)
    (hc : cDef (cValue fuel) x ve c = some (slot, c')) (hsem : eval n2 pos env ve s = .ok (v, env1) s1)
    (hE : EnvS G c.scopes env s.boxes.size sc.ra) :
    Correct2 p f0 rest V P G false c c' slot sc rs pool ps env ((x, s1.boxes.size) :: env1) s { s1 with boxes := s1.boxes.push v } v := by
  have hct : curTop c = false := by simp [curTop, hs, htop]
  simp only [cDef, hct, Bool.false_eq_true, if_false, Option.bind_eq_bind, Option.bind_eq_some_iff, Prod.exists, Option.pure_def,
    Option.some.injEq, Prod.mk.injEq] at hc
  obtain ⟨r, c1, hv, c2, hnl, hslot, hc2⟩ := hc
  subst hslot hc2
  obtain ⟨ra1, ns1, more1, seg1, segm1, hc1, pv1, mono1, max1, sok1, bx1, es1, nf1, vm1⟩ :=
    IH ve {} c c1 r sc rs pool ps n2 pos env env1 s s1 v rfl rfl hs hp hl htop hm hTv hv hsem hE
  have hs1 : c1.scopes = { sc with ra := ra1, syms := sc.syms ++ ns1 } :: rs := by rw [hc1]
  have hp1 : c1.pools = (pool ++ more1) :: ps := by rw [hc1]
  have hl1 : c1.lim ≤ 240 := by rw [hc1]; exact hl
  rw [hs1] at es1
  have hbx : PrefA s.boxes ({ s1 with boxes := s1.boxes.push v } : SS).boxes := PrefA.trans bx1 (PrefA.push _ _)
  rcases namelocal_cases c1 c2 x false r (sok1.sk.elim Or.inl (fun ⟨r0, hk, _⟩ => Or.inr ⟨r0, hk⟩)) hnl with
    ⟨_, hnm, hmut, ⟨r0, hk0⟩, hc2⟩ | ⟨ls, c1a, c1b, hfar, hcp, hc2⟩
  · -- alias: the new name shares the register of the named immutable local
    have hcf : r.cflag = false ∧ ra1.alloc r0 = true ∧ r0 < 240 := by
      rcases sok1 with ⟨_, kc, hk, _⟩ | ⟨a1, _, r', hk, a3, a4⟩ | ⟨_, a2, _⟩
      · rw [hk0] at hk; exact absurd hk (by simp)
      · rw [hk0] at hk; injection hk with e; subst e; exact ⟨a1, a3, a4⟩
      · rw [hnm] at a2; exact absurd a2 (by simp)
    obtain ⟨hcf0, hal0, hr0⟩ := hcf
    let pair : SymPair := { name := x, slot := { ({ r with mutable := false } : JSlot) with named := true } }
    have hs2 : c2.scopes = { sc with ra := ra1, syms := (sc.syms ++ ns1) ++ [pair] } :: rs := by
      rw [hc2]; simp only [nameslot, hs1] <;> rfl
    have hsc2 : c2.scopes = ({ ({ sc with syms := sc.syms ++ ns1 } : Scope) with ra := ra1, syms := ({ sc with syms := sc.syms ++ ns1 } : Scope).syms ++ [pair] } :: rs) := hs2
    have hpk : pair.slot.k = .loc r0 := hk0
    have nfA : NameFrame sc c.scopes c2.scopes r := by
      refine ⟨fun d hd hno y sl u l hy hk => ?_, nf1.2⟩
      rw [hsc2, lk_def _ rs ra1 pair rfl y] at hy
      cases hb : (pair.name == y) with
      | true =>
        rw [hb] at hy
        simp only [if_true, Option.some.injEq, Prod.mk.injEq] at hy
        obtain ⟨e1, _, _⟩ := hy
        subst e1
        rw [hpk] at hk
        injection hk with e
        subst e
        exact nf1.2 r0 hnm hk0 hd hno
      | false =>
        rw [hb] at hy
        simp only [Bool.false_eq_true, if_false] at hy
        have := nf1.1 d hd hno
        rw [hs1] at this
        exact this y sl u l hy hk
    have hv2 : c2.vals = c1.vals := by rw [hc2]; simp only [nameslot, hs1]
    refine ⟨ra1, ns1 ++ [pair], more1, seg1, segm1, ?_, ?_, mono1, max1, ?_, hbx, ?_, nfA, ?_⟩
    · rw [hc2]; simp only [nameslot, hs1]
      rw [hc1]; simp [List.append_assoc, pair]
    · rw [hv2]; exact pv1
    · rw [hv2]
      exact Or.inr (Or.inl ⟨hcf0, hnm, r0, hk0, hal0, hr0⟩)
    · rw [hsc2]
      have := def_envS G { sc with syms := sc.syms ++ ns1 } rs env1 s1.boxes.size ra1 ra1 pair r0 es1 hGx rfl hpk rfl hcf0 (fun _ h => h) hal0 hr0
      simpa using this
    · intro k hkw hka hD hcode hpre hV hsz
      rw [hv2] at hV
      obtain ⟨regs1, rch1, sz1, pr1, sv1, ed1⟩ := vm1 k hkw hka hD hcode hpre hV hsz
      refine ⟨regs1, rch1, sz1, pr1, fun _ => sv1 rfl, ?_⟩
      rw [hsc2]
      rw [hs1] at ed1
      have hval : regs1.getD r0 .nil = v := by
        have := sv1 rfl
        simp only [slotVal, hk0] at this
        exact this
      exact def_envD G { sc with syms := sc.syms ++ ns1 } rs env1 s1 ra1 ra1 pair r0 regs1 regs1 v es1 ed1 rfl hpk (fun _ _ => rfl) hval
  · exact name_copy p f0 rest V P hP hK G x hGx false c c1 c1a c1b c2 r ls sc rs pool ps env env1 s s1 v hl
      ⟨ra1, ns1, more1, seg1, segm1, hc1, pv1, mono1, max1, sok1, bx1, by rw [hs1]; exact es1, nf1, vm1⟩ hfar hcp hc2

end

def cVar (rec' : Fopts → Expr → CState → Option (JSlot × CState)) (name : String) (v : Expr) (c : CState) : Option (JSlot × CState) :=
  if curTop c then none else do
    let (r, c1) ← rec' {} v c
    let c2 ← namelocal c1 name true r
    pure (r, c2)

theorem cValue_var_o (fuel : Nat) (opts : Fopts) (ht : opts.tail = false) (hh : opts.hint = none) (name : String) (v : Expr) (p : Pos) (c : CState) :
    cValue (fuel + 1) opts (.form [.sym "var", .sym name, v] p) c = fin c.cur (cVar (cValue fuel) name v (curAt c p)) := by
  simp only [cValue, ht, hh]
  split
  · rename_i h; exact (congrArg (fin c.cur) h).symm
  · rename_i r c1 h
    simp only [Bool.false_eq_true, if_false, Option.pure_def, Option.bind_eq_bind, Option.bind_some]
    exact (congrArg (fin c.cur) h).symm

section
variable (p : Program) (f0 : Frame) (rest : List Frame) (V : Array Value) (P : List KConst)

theorem var_core (hP : P.length < 65536)
    (hK : ∀ i, i < P.length → (p.defs.getD f0.defIdx default).consts.getD i .nil = litOf V (P.getD i .nil))
    (G : String → Prop) (T : Expr → Prop) (w : Bool) (fuel : Nat) (IH : CorrectAt p f0 rest V P G T w fuel) (x : String) (ve : Expr) (hGx : ¬ G x) (hTv : T ve)
    (c c' : CState) (slot : JSlot) (sc : Scope) (rs : List Scope) (pool : List KConst) (ps : List (List KConst))
    (n2 : Nat) (pos : Pos) (env env1 : Env) (s s1 : SS) (v : Value)
    (hs : c.scopes = sc :: rs) (hp : c.pools = pool :: ps) (hl : c.lim ≤ 240) (htop : sc.top = false)
    (hm : w = true → c.map.length = c.buf.length)
    (hc : cVar (cValue fuel) x ve c = some (slot, c')) (hsem : eval n2 pos env ve s = .ok (v, env1) s1)
    (hE : EnvS G c.scopes env s.boxes.size sc.ra) :
    Correct2 p f0 rest V P G false c c' slot sc rs pool ps env ((x, s1.boxes.size) :: env1) s { s1 with boxes := s1.boxes.push v } v := by
  have hct : curTop c = false := by simp [curTop, hs, htop]
  simp only [cVar, hct, Bool.false_eq_true, if_false, Option.bind_eq_bind, Option.bind_eq_some_iff, Prod.exists, Option.pure_def,
    Option.some.injEq, Prod.mk.injEq] at hc
  obtain ⟨r, c1, hv, c2, hnl, hslot, hc2⟩ := hc
  subst hslot hc2
  have H1 := IH ve {} c c1 r sc rs pool ps n2 pos env env1 s s1 v rfl rfl hs hp hl htop hm hTv hv hsem hE
  have hsk : SK r := by obtain ⟨_, _, _, _, _, _, _, _, _, sok1, _⟩ := H1; exact sok1.sk
  -- a mutable name never aliases
  obtain ⟨ls, c1a, c1b, hfar, hcp, hc2⟩ :=
    (namelocal_cases c1 c2 x true r (hsk.elim Or.inl (fun ⟨r0, hk, _⟩ => Or.inr ⟨r0, hk⟩)) hnl).resolve_left (fun h => Bool.noConfusion h.1)
  exact name_copy p f0 rest V P hP hK G x hGx true c c1 c1a c1b c2 r ls sc rs pool ps env env1 s s1 v hl H1 hfar hcp hc2

end

end JanetModel.Compile
