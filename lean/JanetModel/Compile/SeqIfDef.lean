/- C02: `janetc_if` (specials.c) as the model compiles it: `Compile.cValue` on `(if cnd tb [fb])` unfolded once into `cIfB tl`
   (prologue: target, condition scope, condition), `cIfConstB tl` (constant condition: folding, the other branch thrown away) and
   `cIfJumpB tl` (JUMP_IF_NOT / JUMP with the two patches), `tl` = tail position; `cIf …` / `cIfT …` are the two instances.
   `IfSteps`: the steps after the condition, on either path, in either position. -/
import JanetModel.Compile.SeqSpec
namespace JanetModel.Compile
open JanetModel.Emit JanetModel.Lang JanetModel.Bytecode.Exec JanetModel.Gen.Bytecode

def fbNilOf (fb : Expr) : Bool := match fb with | .lit .nil => true | _ => false

/-- constant condition: only the live branch is kept (`tl`: tail position — no target register but constant nil, both branches
    compiled with the tail flag, no copy, no JUMP after the then-branch, which returned; the result slot flagged RETURNED) -/
@[simp] def cIfConstB (tl : Bool) (rec' : Fopts → Expr → CState → Option (JSlot × CState)) (opts : Fopts) (target : JSlot) (tb fb : Expr) (k : KConst) (c3 : CState) :
    Option (JSlot × CState) :=
  let (tb', fb') := if !constTruthy k then (fb, tb) else (tb, fb)
  let fbNil' : Bool := fbNilOf fb'
  let c4 := pushScope c3 false false false false
  do
    let (right, c5) ← rec' opts tb' c4
    let c6 ← if !opts.drop && !tl then copySlot c5 target right else pure c5
    let c7 ← popScope c6
    let c8 ← if !fbNil' then throwaway rec' opts fb' c7 else pure c7
    let c9 ← popScope c8
    pure (target, c9)

/-- non-constant condition: conditional jump over the then-branch, jump over the else-branch -/
@[simp] def cIfJumpB (tl : Bool) (rec' : Fopts → Expr → CState → Option (JSlot × CState)) (opts : Fopts) (target cond : JSlot) (tb fb : Expr) (fbNil : Bool) (c3 : CState) :
    Option (JSlot × CState) := do
  let c4 ← emitSI c3 .jumpIfNot cond 0 false
  let labeljr := lastLabel c4
  let c5 := pushScope c4 false false false false
  let (left, c6) ← rec' opts tb c5
  let c7 ← if !opts.drop && !tl then copySlot c6 target left else pure c6
  let c8 ← popScope c7
  let labeljd := c8.buf.length
  let c9 := if !tl && !(opts.drop && fbNil) then emitRaw c8 (.jump 0) else c8
  let labelr := c9.buf.length
  let c10 := pushScope c9 false false false false
  let (right, c11) ← rec' opts fb c10
  let c12 ← if !opts.drop && !tl then copySlot c11 target right else pure c11
  let c13 ← popScope c12
  let c14 ← popScope c13
  let labeld := c14.buf.length
  if labelr - labeljr > 32767 || labeld - labeljd > 0x7FFFFF then none else
  let buf1 := modBuf c14.buf labeljr (patchCond (labelr - labeljr))
  let jumped := !tl && !(opts.drop && fbNil)
  if !tl && !jumped && labeld ≠ labeljd then none else
  let buf2 := if jumped then modBuf buf1 labeljd (fun _ => .jump (Int.ofNat (labeld - labeljd))) else buf1
  pure ({ target with returned := target.returned || tl }, { c14 with buf := buf2 })

/-- target, condition scope, condition; then one of the two paths -/
@[simp] def cIfBodyB (tl : Bool) (rec' : Fopts → Expr → CState → Option (JSlot × CState)) (opts : Fopts) (cnd tb fb : Expr) (c : CState) : Option (JSlot × CState) :=
  let fbNil : Bool := fbNilOf fb
  do
    let (target, c1) ← if opts.drop || tl then pure (cslot .nil, c) else getTarget c opts
    let c2 := pushScope c1 false false false false
    let (cond, c3) ← rec' {} cnd c2
    match isConstSlot cond with
    | some k => cIfConstB tl rec' opts target tb fb k c3
    | none => cIfJumpB tl rec' opts target cond tb fb fbNil c3

@[simp] def cIfB (tl : Bool) (rec' : Fopts → Expr → CState → Option (JSlot × CState)) (opts : Fopts) (cnd tb : Expr) (rest : List Expr) (c : CState) :
    Option (JSlot × CState) :=
  match rest with
  | _ :: _ :: _ => none
  | _ => cIfBodyB tl rec' opts cnd tb (rest.headD (.lit .nil)) c

abbrev cIfConst (rec' : Fopts → Expr → CState → Option (JSlot × CState)) (opts : Fopts) (target : JSlot) (tb fb : Expr) (k : KConst) (c3 : CState) :=
  cIfConstB false rec' opts target tb fb k c3
abbrev cIfConstT (rec' : Fopts → Expr → CState → Option (JSlot × CState)) (opts : Fopts) (target : JSlot) (tb fb : Expr) (k : KConst) (c3 : CState) :=
  cIfConstB true rec' opts target tb fb k c3
abbrev cIfJump (rec' : Fopts → Expr → CState → Option (JSlot × CState)) (opts : Fopts) (target cond : JSlot) (tb fb : Expr) (fbNil : Bool) (c3 : CState) :=
  cIfJumpB false rec' opts target cond tb fb fbNil c3
abbrev cIfJumpT (rec' : Fopts → Expr → CState → Option (JSlot × CState)) (opts : Fopts) (target cond : JSlot) (tb fb : Expr) (fbNil : Bool) (c3 : CState) :=
  cIfJumpB true rec' opts target cond tb fb fbNil c3
abbrev cIfBody (rec' : Fopts → Expr → CState → Option (JSlot × CState)) (opts : Fopts) (cnd tb fb : Expr) (c : CState) := cIfBodyB false rec' opts cnd tb fb c
abbrev cIfBodyT (rec' : Fopts → Expr → CState → Option (JSlot × CState)) (opts : Fopts) (cnd tb fb : Expr) (c : CState) := cIfBodyB true rec' opts cnd tb fb c
abbrev cIf (rec' : Fopts → Expr → CState → Option (JSlot × CState)) (opts : Fopts) (cnd tb : Expr) (rest : List Expr) (c : CState) := cIfB false rec' opts cnd tb rest c
abbrev cIfT (rec' : Fopts → Expr → CState → Option (JSlot × CState)) (opts : Fopts) (cnd tb : Expr) (rest : List Expr) (c : CState) := cIfB true rec' opts cnd tb rest c

theorem cIfB_le1 (tl : Bool) (rec' : Fopts → Expr → CState → Option (JSlot × CState)) (opts : Fopts) (cnd tb : Expr) (rest : List Expr) (c : CState)
    (h : rest.length ≤ 1) : cIfB tl rec' opts cnd tb rest c = cIfBodyB tl rec' opts cnd tb (rest.headD (.lit .nil)) c := by
  rcases rest with _ | ⟨e, _ | ⟨e2, r⟩⟩
  · rfl
  · rfl
  · simp at h

theorem cIf_le1 (rec' : Fopts → Expr → CState → Option (JSlot × CState)) (opts : Fopts) (cnd tb : Expr) (rest : List Expr) (c : CState)
    (h : rest.length ≤ 1) : cIf rec' opts cnd tb rest c = cIfBody rec' opts cnd tb (rest.headD (.lit .nil)) c := cIfB_le1 false rec' opts cnd tb rest c h

theorem cIfT_le1 (rec' : Fopts → Expr → CState → Option (JSlot × CState)) (opts : Fopts) (cnd tb : Expr) (rest : List Expr) (c : CState)
    (h : rest.length ≤ 1) : cIfT rec' opts cnd tb rest c = cIfBodyT rec' opts cnd tb (rest.headD (.lit .nil)) c := cIfB_le1 true rec' opts cnd tb rest c h

theorem cValue_if_any (fuel : Nat) (opts : Fopts) (ht : opts.tail = false) (cnd tb : Expr) (rest : List Expr) (p : Pos) (c : CState) :
    cValue (fuel + 1) opts (.form (.sym "if" :: cnd :: tb :: rest) p) c = finO opts c.cur (cIf (cValue fuel) opts cnd tb rest (curAt c p)) := by
  simp only [cValue, ht]
  split
  · rename_i h; exact (congrArg (finO opts c.cur) h).symm
  · rename_i r c1 h
    refine Eq.trans ?_ (congrArg (finO opts c.cur) h).symm
    simp only [finO, ht, Bool.false_eq_true, if_false]
    rfl

theorem cValue_if_o (fuel : Nat) (opts : Fopts) (ht : opts.tail = false) (hh : opts.hint = none) (cnd tb : Expr) (rest : List Expr) (p : Pos) (c : CState) :
    cValue (fuel + 1) opts (.form (.sym "if" :: cnd :: tb :: rest) p) c = fin c.cur (cIf (cValue fuel) opts cnd tb rest (curAt c p)) := by
  rw [cValue_if_any fuel opts ht, finO_o opts ht hh]


def ifCopy (drop : Bool) (c : CState) (target s : JSlot) : Option CState := if drop then some c else copySlot c target s
def ifJmp (nojump : Bool) (c8 : CState) : CState := if nojump then c8 else emitRaw c8 (.jump 0)

/-- the two patches of `janetc_if` -/
def ifPatch (nojump : Bool) (buf : List CI) (ljr offr ljd : Nat) : List CI :=
  if nojump then modBuf buf ljr (patchCond offr)
  else modBuf (modBuf buf ljr (patchCond offr)) ljd (fun _ => .jump (Int.ofNat (buf.length - ljd)))

/- The conditionals of `cIfJump` and `cIfConst` in the words of `ifCopy`, `ifJmp`, `ifPatch`. A `let x ← if …` of a `do` block is
   elaborated with the rest of the block as a join point under both branches, hence the `_bind` forms; they have to be folded
   before the binds are taken apart. -/
theorem ifCopy_bind {β : Type} (d : Bool) (c : CState) (t s : JSlot) (f : CState → Option β) :
    (if (!d && !false) = true then copySlot c t s >>= f else pure c >>= f) = ifCopy d c t s >>= f := by
  cases d <;> rfl

theorem ite_bnot_bind {α β : Type} (b : Bool) (a : α) (x : Option α) (f : α → Option β) :
    (if (!b) = true then x >>= f else pure a >>= f) = (if b then some a else x) >>= f := by
  cases b <;> rfl

theorem ite_bnot_pair {α : Type} (b : Bool) (x y : α) : (if (!b) = true then (y, x) else (x, y)) = (if b then x else y, if b then y else x) := by
  cases b <;> rfl

theorem ifJmp_ite (nj : Bool) (c : CState) : (if (!false && !nj) = true then emitRaw c (.jump 0) else c) = ifJmp nj c := by
  cases nj <;> rfl

theorem ifPatch_ite (nj : Bool) (buf : List CI) (ljr offr ljd : Nat) :
    (if (!false && !nj) = true then modBuf (modBuf buf ljr (patchCond offr)) ljd (fun _ => .jump (Int.ofNat (buf.length - ljd)))
     else modBuf buf ljr (patchCond offr)) = ifPatch nj buf ljr offr ljd := by
  cases nj <;> rfl

/-- the steps of the jump path -/
theorem cIfJump_inv (rec' : Fopts → Expr → CState → Option (JSlot × CState)) (opts : Fopts) (target cond : JSlot) (tb fb : Expr) (fbNil : Bool)
    (c3 c' : CState) (slot : JSlot) (h : cIfJump rec' opts target cond tb fb fbNil c3 = some (slot, c')) :
    ∃ c4 left c6 c7 c8 right c11 c12 c13 c14,
      emitSI c3 .jumpIfNot cond 0 false = some c4 ∧
      rec' opts tb (pushScope c4 false false false false) = some (left, c6) ∧
      ifCopy opts.drop c6 target left = some c7 ∧ popScope c7 = some c8 ∧
      rec' opts fb (pushScope (ifJmp (opts.drop && fbNil) c8) false false false false) = some (right, c11) ∧
      ifCopy opts.drop c11 target right = some c12 ∧ popScope c12 = some c13 ∧ popScope c13 = some c14 ∧
      (ifJmp (opts.drop && fbNil) c8).buf.length ≤ 32767 + lastLabel c4 ∧ c14.buf.length ≤ 8388607 + c8.buf.length ∧
      ((opts.drop && fbNil) = true → c14.buf.length = c8.buf.length) ∧
      slot = target ∧
      c' = { c14 with buf := ifPatch (opts.drop && fbNil) c14.buf (lastLabel c4) ((ifJmp (opts.drop && fbNil) c8).buf.length - lastLabel c4) c8.buf.length } := by
  simp only [cIfJump, cIfJumpB, ifCopy_bind, ifJmp_ite, ifPatch_ite] at h
  simp only [Option.bind_eq_bind, Option.bind_eq_some_iff, Prod.exists, Option.ite_none_left_eq_some, Option.pure_def,
    Option.some.injEq, Prod.mk.injEq, Bool.or_eq_true, decide_eq_true_eq, not_or, gt_iff_lt, Nat.not_lt, Nat.sub_le_iff_le_add,
    Bool.not_false, Bool.true_and, Bool.not_not, Bool.and_eq_true, not_and, Decidable.not_not, Bool.or_false] at h
  obtain ⟨c4, h1, left, c6, h2, c7, h3, c8, h4, right, c11, h5, c12, h6, c13, h7, c14, h8, ⟨h9, h10⟩, hnj, hslot, hc'⟩ := h
  exact ⟨c4, left, c6, c7, c8, right, c11, c12, c13, c14, h1, h2, h3, h4, h5, h6, h7, h8, h9, h10,
    fun e => hnj (Bool.and_eq_true_iff.mp e), hslot.symm, hc'.symm⟩

/-- the steps of `janetc_if` after the condition, on the folding path or on the jump path (`dc`: no copy into the target, `nj`: no
    JUMP over the else-branch; in tail position neither) -/
def IfSteps (fuel : Nat) (opts : Fopts) (dc nj : Bool) (target cond : JSlot) (tb fb : Expr) (c3 c' : CState) : Prop :=
  (∃ k right c5 c6 c7 c8,
    cValue fuel opts (if constTruthy k then tb else fb) (pushScope c3 false false false false) = some (right, c5) ∧
    ifCopy dc c5 target right = some c6 ∧ popScope c6 = some c7 ∧
    (if fbNilOf (if constTruthy k then fb else tb) then some c7
     else throwaway (cValue fuel) opts (if constTruthy k then fb else tb) c7) = some c8 ∧ popScope c8 = some c') ∨
  (∃ c4 left c6 c7 c8 right c11 c12 c13 c14,
    emitSI c3 .jumpIfNot cond 0 false = some c4 ∧
    cValue fuel opts tb (pushScope c4 false false false false) = some (left, c6) ∧
    ifCopy dc c6 target left = some c7 ∧ popScope c7 = some c8 ∧
    cValue fuel opts fb (pushScope (ifJmp nj c8) false false false false) = some (right, c11) ∧
    ifCopy dc c11 target right = some c12 ∧ popScope c12 = some c13 ∧ popScope c13 = some c14 ∧
    c' = { c14 with buf := ifPatch nj c14.buf (lastLabel c4) ((ifJmp nj c8).buf.length - lastLabel c4) c8.buf.length })

/-- the prologue of `janetc_if` -/
theorem cIfBody_inv (rec' : Fopts → Expr → CState → Option (JSlot × CState)) (opts : Fopts) (cnd tb fb : Expr) (c c' : CState) (slot : JSlot)
    (h : cIfBody rec' opts cnd tb fb c = some (slot, c')) :
    ∃ target c1 cond c3, (if opts.drop then some (cslot .nil, c) else getTarget c opts) = some (target, c1) ∧
      rec' {} cnd (pushScope c1 false false false false) = some (cond, c3) ∧
      (match isConstSlot cond with
       | some k => cIfConst rec' opts target tb fb k c3
       | none => cIfJump rec' opts target cond tb fb (fbNilOf fb) c3) = some (slot, c') := by
  cases hd : opts.drop
  · simp only [cIfBody, cIfBodyB, hd, Bool.false_or, Bool.false_eq_true, if_false, Option.bind_eq_bind, Option.bind_eq_some_iff, Prod.exists] at h
    obtain ⟨target, c1, hT, cond, c3, hcond, hrest⟩ := h
    exact ⟨target, c1, cond, c3, by simpa using hT, hcond, hrest⟩
  · simp only [cIfBody, cIfBodyB, hd, Bool.true_or, if_true, Option.pure_def, Option.bind_eq_bind, Option.bind_some, Option.bind_eq_some_iff, Prod.exists] at h
    obtain ⟨cond, c3, hcond, hrest⟩ := h
    exact ⟨cslot .nil, c, cond, c3, by simp, hcond, hrest⟩


/-- the steps of the folding path -/
theorem cIfConst_inv (rec' : Fopts → Expr → CState → Option (JSlot × CState)) (opts : Fopts) (target : JSlot) (tb fb : Expr) (k : KConst)
    (c3 c' : CState) (slot : JSlot) (h : cIfConst rec' opts target tb fb k c3 = some (slot, c')) :
    ∃ right c5 c6 c7 c8, rec' opts (if constTruthy k then tb else fb) (pushScope c3 false false false false) = some (right, c5) ∧
      ifCopy opts.drop c5 target right = some c6 ∧ popScope c6 = some c7 ∧
      (if fbNilOf (if constTruthy k then fb else tb) then some c7 else throwaway rec' opts (if constTruthy k then fb else tb) c7) = some c8 ∧
      popScope c8 = some c' ∧ target = slot := by
  simp only [cIfConst, cIfConstB, ite_bnot_pair, ifCopy_bind, ite_bnot_bind] at h
  simp only [Option.bind_eq_bind, Option.bind_eq_some_iff, Prod.exists, Option.pure_def, Option.some.injEq, Prod.mk.injEq] at h
  obtain ⟨right, c5, h1, c6, h2, c7, h3, c8, h4, c9, h5, hslot, hc'⟩ := h
  exact ⟨right, c5, c6, c7, c8, h1, h2, h3, h4, hc' ▸ h5, hslot⟩

theorem IfSteps.of_body (fuel : Nat) (opts : Fopts) (target cond : JSlot) (tb fb : Expr) (c3 c' : CState) (slot : JSlot)
    (h : (match isConstSlot cond with
          | some k => cIfConst (cValue fuel) opts target tb fb k c3
          | none => cIfJump (cValue fuel) opts target cond tb fb (fbNilOf fb) c3) = some (slot, c')) :
    slot = target ∧ IfSteps fuel opts opts.drop (opts.drop && fbNilOf fb) target cond tb fb c3 c' := by
  cases hk : isConstSlot cond with
  | some k =>
    rw [hk] at h
    obtain ⟨right, c5, c6, c7, c8, e1, e2, e3, e4, e5, es⟩ := cIfConst_inv _ _ _ _ _ _ _ _ _ h
    exact ⟨es.symm, Or.inl ⟨k, right, c5, c6, c7, c8, e1, e2, e3, e4, e5⟩⟩
  | none =>
    rw [hk] at h
    obtain ⟨c4, left, c6, c7, c8, right, c11, c12, c13, c14, e1, e2, e3, e4, e5, e6, e7, e8, _, _, _, es, ec'⟩ :=
      cIfJump_inv _ _ _ _ _ _ _ _ _ _ h
    exact ⟨es, Or.inr ⟨c4, left, c6, c7, c8, right, c11, c12, c13, c14, e1, e2, e3, e4, e5, e6, e7, e8, ec'⟩⟩

theorem cValue_if_any_t (fuel : Nat) (opts : Fopts) (ht : opts.tail = true) (cnd tb : Expr) (rest : List Expr) (p : Pos) (c : CState) :
    cValue (fuel + 1) opts (.form (.sym "if" :: cnd :: tb :: rest) p) c = finO opts c.cur (cIfT (cValue fuel) opts cnd tb rest (curAt c p)) := by
  simp only [cValue, ht]
  split
  · rename_i h; exact (congrArg (finO opts c.cur) h).symm
  · rename_i r c1 h
    refine Eq.trans ?_ (congrArg (finO opts c.cur) h).symm
    simp only [finO, ht, if_true]
    rfl

theorem cIfBodyT_inv (rec' : Fopts → Expr → CState → Option (JSlot × CState)) (opts : Fopts) (cnd tb fb : Expr) (c c' : CState) (slot : JSlot)
    (h : cIfBodyT rec' opts cnd tb fb c = some (slot, c')) :
    ∃ cond c3, rec' {} cnd (pushScope c false false false false) = some (cond, c3) ∧
      (match isConstSlot cond with
       | some k => cIfConstT rec' opts (cslot .nil) tb fb k c3
       | none => cIfJumpT rec' opts (cslot .nil) cond tb fb (fbNilOf fb) c3) = some (slot, c') := by
  simp only [cIfBodyT, cIfBodyB, Bool.or_true, if_true, Option.pure_def, Option.bind_eq_bind, Option.bind_some, Option.bind_eq_some_iff, Prod.exists] at h
  obtain ⟨cond, c3, hcond, hrest⟩ := h
  exact ⟨cond, c3, hcond, hrest⟩

theorem cIfJumpT_inv (rec' : Fopts → Expr → CState → Option (JSlot × CState)) (opts : Fopts) (target cond : JSlot) (tb fb : Expr) (fbNil : Bool)
    (c3 c' : CState) (slot : JSlot) (h : cIfJumpT rec' opts target cond tb fb fbNil c3 = some (slot, c')) :
    ∃ c4 left c6 c8 right c11 c13 c14,
      emitSI c3 .jumpIfNot cond 0 false = some c4 ∧
      rec' opts tb (pushScope c4 false false false false) = some (left, c6) ∧ popScope c6 = some c8 ∧
      rec' opts fb (pushScope c8 false false false false) = some (right, c11) ∧ popScope c11 = some c13 ∧ popScope c13 = some c14 ∧
      slot.returned = true ∧
      c' = { c14 with buf := modBuf c14.buf (lastLabel c4) (patchCond (c8.buf.length - lastLabel c4)) } := by
  simp [cIfJumpT, Option.bind_eq_some_iff] at h
  obtain ⟨c4, h1, left, c6, h2, c8, h4, right, c11, h5, c13, h7, c14, h8, _, h11, h12⟩ := h
  exact ⟨c4, left, c6, c8, right, c11, c13, c14, h1, h2, h4, h5, h7, h8, by rw [← h11], h12.symm⟩

theorem cIfConstT_inv (rec' : Fopts → Expr → CState → Option (JSlot × CState)) (opts : Fopts) (target : JSlot) (tb fb : Expr) (k : KConst)
    (c3 c' : CState) (slot : JSlot) (h : cIfConstT rec' opts target tb fb k c3 = some (slot, c')) :
    ∃ right c5 c7 c8, rec' opts (if constTruthy k then tb else fb) (pushScope c3 false false false false) = some (right, c5) ∧
      popScope c5 = some c7 ∧
      (if fbNilOf (if constTruthy k then fb else tb) then some c7 else throwaway rec' opts (if constTruthy k then fb else tb) c7) = some c8 ∧
      popScope c8 = some c' ∧ target = slot := by
  cases hk : constTruthy k <;> cases hn : fbNilOf (if constTruthy k then fb else tb) <;>
    simp only [hk, Bool.false_eq_true, if_false, if_true] at hn <;>
    simp [cIfConstT, hk, hn, Option.bind_eq_some_iff] at h ⊢
  all_goals exact h

theorem IfSteps.of_bodyT (fuel : Nat) (opts : Fopts) (cond : JSlot) (tb fb : Expr) (c3 c' : CState) (slot : JSlot)
    (h : (match isConstSlot cond with
          | some k => cIfConstT (cValue fuel) opts (cslot .nil) tb fb k c3
          | none => cIfJumpT (cValue fuel) opts (cslot .nil) cond tb fb (fbNilOf fb) c3) = some (slot, c')) :
    IfSteps fuel opts true true (cslot .nil) cond tb fb c3 c' := by
  cases hk : isConstSlot cond with
  | some k =>
    rw [hk] at h
    obtain ⟨right, c5, c7, c8, e1, e3, e4, e5, _⟩ := cIfConstT_inv _ _ _ _ _ _ _ _ _ h
    exact Or.inl ⟨k, right, c5, c5, c7, c8, e1, rfl, e3, e4, e5⟩
  | none =>
    rw [hk] at h
    obtain ⟨c4, left, c6, c8, right, c11, c13, c14, e1, e2, e4, e5, e7, e8, _, ec'⟩ := cIfJumpT_inv _ _ _ _ _ _ _ _ _ _ h
    exact Or.inr ⟨c4, left, c6, c6, c8, right, c11, c11, c13, c14, e1, e2, rfl, e4, e5, rfl, e7, e8, ec'⟩

end JanetModel.Compile
