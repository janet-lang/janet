/- C02: compile-only facts for a `while` loop FORM without `break` (shape, `max` monotonicity, no `break` placeholder left),
   from the same facts for its body statements (`while_form_facts`). -/

import JanetModel.Compile.SeqWhileBody
namespace JanetModel.Compile
open JanetModel.Emit JanetModel.Lang JanetModel.Bytecode.Exec JanetModel.Gen.Bytecode

theorem emitSI_grows (c c' : CState) (op : Op) (s : JSlot) (imm : Nat) (wr : Bool)
    (sc : Scope) (rs : List Scope) (pool : List KConst) (ps : List (List KConst))
    (hs : c.scopes = sc :: rs) (hp : c.pools = pool :: ps) (h : emitSI c op s imm wr = some c') : c.buf.length + 1 ≤ c'.buf.length := by
  unfold emitSI at h
  obtain ⟨_, hc'⟩ := emitW_spec c c' _ sc rs pool ps hs hp h
  rw [hc']
  simp [W.emitSI, W.finish, Emit.emitSI]
  omega

/-- `janetc_popscope` of the loop's block scope after a shaped body, the loop's code replaced by `X` -/
theorem whilePop_shape (G : String → Prop) (c c4 c6 : CState) (wb sc : Scope) (rs : List Scope) (pool : List KConst) (ps : List (List KConst))
    (hs : c.scopes = sc :: rs) (hL : LkL G c.scopes) (hfn : wb.fn = false) (hun : wb.unused = false) (hcl : wb.closure = false)
    (h : Shp G { c with scopes := wb :: sc :: rs } c4 wb (sc :: rs) pool ps)
    (X : List CI) (ext : List Pos) (hlen : c.buf.length + X.length = c4.buf.length + ext.length)
    (hpop : popScope { c4 with buf := c.buf ++ X, map := c4.map ++ ext } = some c6) :
    Shp G c c6 sc rs pool ps ∧ MaxR c c6 rs := by
  obtain ⟨ra2, ns2, more2, seg2, segm2, hc4, pv2, _, hl2⟩ := h
  have hs4 : ({ c4 with buf := c.buf ++ X, map := c4.map ++ ext } : CState).scopes = { wb with ra := ra2, syms := wb.syms ++ ns2 } :: sc :: rs := by
    show c4.scopes = _
    rw [hc4]
  obtain ⟨raX, hpop', hmaxX, hmonoX⟩ := popScope_block _ _ sc rs hs4 hfn hun hcl
  rw [hpop'] at hpop
  have hc6 := (Option.some.inj hpop).symm
  have hb4 : c4.buf = c.buf ++ seg2 := by rw [hc4]
  have hmaxX' : raX.max = (if sc.ra.max < ra2.max then ra2.max else sc.ra.max) := hmaxX
  have hs6 : c6.scopes = { sc with ra := raX, syms := sc.syms ++ ({ wb with ra := ra2, syms := wb.syms ++ ns2 } : Scope).syms.map (fun q => { q with visible := false }) } :: rs := by
    rw [hc6]
  refine ⟨⟨raX, ({ wb with ra := ra2, syms := wb.syms ++ ns2 } : Scope).syms.map (fun q => { q with visible := false }), more2, X, segm2 ++ ext, ?_, ?_, ?_, ?_⟩, ?_⟩
  · rw [← List.append_assoc, hc6]
    conv => lhs; rw [hc4]
  · rw [hc6]; exact pv2
  · refine hL.of_lk (fun x => ?_)
    rw [hs6, hs]
    exact lk_popped sc rs raX _ x
  · rw [hb4] at hlen
    simp only [List.length_append] at hlen ⊢
    omega
  · exact MaxR.of_ra hs hs6 (by rw [hmaxX']; split <;> omega)

theorem while_form_facts (G : String → Prop) (b : Bool) (fuel : Nat) (cnd : Expr) (body : List Expr) (pp : Pos)
    (hTc : TF G b cnd) (HF : BodyFacts G fuel body)
    (opts : Fopts) (ht : opts.tail = false) (hh : opts.hint = none)
    (c c' : CState) (slot : JSlot) (sc : Scope) (rs : List Scope) (pool : List KConst) (ps : List (List KConst))
    (hs : c.scopes = sc :: rs) (hp : c.pools = pool :: ps) (hL : LkL G c.scopes) (hm : c.map.length = c.buf.length)
    (hc : cValue (fuel + 1) opts (.form (.sym "while" :: cnd :: body) pp) c = some (slot, c')) :
    (Shp G c c' sc rs pool ps ∧ SlotSh slot) ∧ MaxR c c' rs ∧ NBR c c' := by
  rw [cValue_while_o fuel opts ht hh cnd body pp c] at hc
  obtain ⟨cq, hcc, rfl⟩ := fin_inv hc
  obtain ⟨q, hq⟩ := curAt_eq c pp
  rw [hq] at hcc
  suffices H : (Shp G { c with cur := q } cq sc rs pool ps ∧ SlotSh slot) ∧ MaxR { c with cur := q } cq rs ∧ NBR { c with cur := q } cq from
    ⟨⟨H.1.1.recur, H.1.2⟩, fun sc0 sc0' a b => H.2.1 sc0 sc0' a b, fun n0 hn => H.2.2 n0 hn⟩
  obtain ⟨cond, c2, hcond, hcase⟩ := cWhile_inv hcc
  rw [pushScope_whl ({ c with cur := q } : CState) sc rs hs] at hcond
  obtain ⟨wb, hwb⟩ : ∃ wb, wb = wblk ({ c with cur := q } : CState) sc := ⟨_, rfl⟩
  rw [← hwb] at hcond
  have hwfn : wb.fn = false := by rw [hwb]; rfl
  have hwun : wb.unused = false := by rw [hwb]; rfl
  have hwcl : wb.closure = false := by rw [hwb]; rfl
  have hwtop : wb.top = false := by rw [hwb]; rfl
  have hLP : LkL G (wb :: sc :: rs) := by rw [hs] at hL; exact hL.push wb (by rw [hwb]; rfl) hwfn
  obtain ⟨S2, _⟩ := tf_shape G b fuel cnd {} { ({ c with cur := q } : CState) with scopes := wb :: sc :: rs } c2 cond wb (sc :: rs) pool ps
    rfl hp hm hTc hLP hcond
  have hm2 : c2.map.length = c2.buf.length := S2.mapLen hm
  obtain ⟨sc2, pool2, hs2, hp2, ht2, hL2, hlen2⟩ := S2.out
  have hlen2' : c.buf.length ≤ c2.buf.length := hlen2
  have htop2 : sc2.top = false := by rw [ht2]; exact hwtop
  have N2 : NBR ({ c with cur := q } : CState) c2 := fun n0 hn => tf_nobrk G b fuel cnd {} _ c2 cond n0 rfl rfl hTc hcond hn
  obtain ⟨ra2, ns2, more2, seg2, segm2, hc2, _⟩ := id S2
  have hb2 : c2.buf = c.buf ++ seg2 := by rw [hc2]
  have hn2 : ∀ ci, ci ∈ seg2 → ci ≠ CI.brk := by
    have := noBrkFrom_drop (N2 _ (noBrkFrom_length c.buf))
    rw [hb2] at this
    simpa using this
  rcases hcase with ⟨k, _, _, hpop, hslot⟩ | ⟨inf, c3j, c4, hmode, hbody, hend⟩
  · -- no loop: the condition's code
    rw [hslot]
    obtain ⟨S6, M6⟩ := whilePop_shape G ({ c with cur := q } : CState) c2 cq wb sc rs pool ps hs hL hwfn hwun hwcl S2 seg2 []
      (by rw [hb2]; simp) (by rw [← hb2, List.append_nil]; exact hpop)
    refine ⟨⟨S6, Or.inl ⟨rfl, _, rfl⟩⟩, M6, fun n0 hn => ?_⟩
    rw [popScope_buf _ cq hpop]
    exact N2 n0 hn
  · -- the conditional jump, if one was emitted: the last instruction of what `janetc_emit_si` appended
    obtain ⟨J0, J, hbJ, hJ, hnJ, S3, hm3, hlc⟩ : ∃ J0 J, c3j.buf = c2.buf ++ (J0 ++ J) ∧ J.length = (if inf then 0 else 1) ∧
        (∀ ci, ci ∈ J0 ++ J → ci ≠ CI.brk) ∧ Shp G c2 c3j sc2 (sc :: rs) pool2 ps ∧ c3j.map.length = c3j.buf.length ∧
        (inf = false → lastLabel c3j = (c.buf ++ (seg2 ++ J0)).length) := by
      rcases hmode with ⟨rfl, _, rfl⟩ | ⟨rfl, _, hem⟩
      · exact ⟨[], [], by simp, rfl, by simp, Shp.refl hs2 hp2 hL2, hm2, fun e => Bool.noConfusion e⟩
      · obtain ⟨R3, _⟩ := emitSI_stepR c2 c3j _ cond 0 false sc2 (sc :: rs) pool2 ps hs2 hp2 hem
        have hg3 := emitSI_grows c2 c3j _ cond 0 false sc2 (sc :: rs) pool2 ps hs2 hp2 hem
        have hN := noBrkFrom_drop (emitW_nbr c2 c3j _ hem _ (noBrkFrom_length c2.buf))
        obtain ⟨ra3, more3, segJ, segmJ, hc3j, _⟩ := id R3
        have hb3 : c3j.buf = c2.buf ++ segJ := by rw [hc3j]
        rw [hb3] at hN hg3
        simp only [List.drop_left] at hN
        rcases List.eq_nil_or_concat segJ with rfl | ⟨J0, x, hJx⟩
        · exact absurd hg3 (by simp)
        · rw [List.concat_eq_append] at hJx
          subst hJx
          refine ⟨J0, [x], hb3, rfl, hN, R3.shp hs2 hL2, R3.mapLen hm2, fun _ => ?_⟩
          simp [lastLabel, hb3, hb2]; omega
    obtain ⟨sc3, pool3, hs3, hp3, ht3, hL3, _⟩ := S3.out
    have htop3 : sc3.top = false := by rw [ht3]; exact htop2
    obtain ⟨S4, _, N4⟩ := HF c3j c4 sc3 (sc :: rs) pool3 ps hs3 hp3 htop3 hm3 hL3 hbody
    obtain ⟨ra4, ns4, more4, segB, segmB, hc4, _⟩ := id S4
    have hb4 : c4.buf = c3j.buf ++ segB := by rw [hc4]
    have hnB : ∀ ci, ci ∈ segB → ci ≠ CI.brk := by
      have := noBrkFrom_drop (N4 _ (noBrkFrom_length c3j.buf))
      rw [hb4] at this
      simpa using this
    have S14 : Shp G { ({ c with cur := q } : CState) with scopes := wb :: sc :: rs } c4 wb (sc :: rs) pool ps := S2.trans' hs2 hp2 (S3.trans' hs3 hp3 S4)
    have hcl4 : (c4.scopes.headD default).closure = false := by
      obtain ⟨ra4, ns4, more4, seg4, segm4, hc4, _⟩ := S14
      rw [hc4]; exact hwcl
    obtain ⟨hslot, _, _, hpop⟩ := cWhileEnd_inv inf _ c.buf (seg2 ++ J0) J segB c4 cq slot
      (by rw [hb4, hbJ, hb2]; simp only [List.append_assoc]) hJ
      (fun e => by subst e; simp only [Bool.false_eq_true, if_false]; exact hlc rfl) hcl4
      (fun ci h => (List.mem_append.mp h).elim (hn2 ci) (fun h => hnJ ci (List.mem_append_left _ h)))
      (fun ci h => hnJ ci (List.mem_append_right _ h)) hend
    rw [hslot]
    rw [fixBrk_id _ segB hnB] at hpop
    obtain ⟨S6, M6⟩ := whilePop_shape G ({ c with cur := q } : CState) c4 cq wb sc rs pool ps hs hL hwfn hwun hwcl S14 _ [c4.cur]
      (by rw [hb4, hbJ, hb2]; simp only [List.length_append, List.length_map, List.length_cons, List.length_nil]; omega) hpop
    refine ⟨⟨S6, Or.inl ⟨rfl, _, rfl⟩⟩, M6, fun n0 hn => ?_⟩
    rw [popScope_buf _ cq hpop]
    refine NoBrkFrom.append hn (fun ci h => ?_)
    simp only [List.mem_append, List.mem_map, List.mem_cons, List.not_mem_nil, or_false] at h
    rcases h with (h | h) | ⟨x, hx, rfl⟩ | h | rfl
    · exact hn2 ci h
    · exact hnJ ci (List.mem_append_left _ h)
    · exact patchCond_nobrk _ x (hnJ x (List.mem_append_right _ hx))
    · exact hnB ci h
    · exact fun e => CI.noConfusion e

end JanetModel.Compile
