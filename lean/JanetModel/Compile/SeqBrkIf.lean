/- C02: `(if cb (break))`, semantic side only: the statement either breaks with nil
   (condition truthy) or is the normal nil statement (condition falsy). -/
import JanetModel.Compile.SeqBrk
import JanetModel.Compile.SemCall
namespace JanetModel.Compile
open JanetModel.Emit JanetModel.Lang JanetModel.Bytecode.Exec JanetModel.Gen.Bytecode

theorem eval_ifbreak (n : Nat) (cur : Pos) (env : Env) (cb : Expr) (bp ip : Pos) (s : SS) :
    eval (n + 2) cur env (.form [.sym "if", cb, .form [.sym "break"] bp] ip) s =
      (match eval (n + 1) (posOf cur ip) env cb s with
       | .ok (cv, _) s' => if truthy cv then .brk .nil s' else .ok (.nil, env) s'
       | .err v p s' => .err v p s' | .brk v s' => .brk v s' | .stop w => .stop w) := by
  rw [eval_if]
  cases he : eval (n + 1) (posOf cur ip) env cb s with
  | ok r s1 =>
    obtain ⟨cv, cenv⟩ := r
    cases htr : truthy cv <;> simp [htr, eval_break]
  | err _ _ _ => rfl
  | brk _ _ => rfl
  | stop _ => rfl

/-- one turn of a loop whose body is `pre… (if cb (break)) post…` where the statement is reached: it ends the turn by `break`
    exactly when `cb` is truthy -/
theorem eval_ifbreak_inv (n : Nat) (cur : Pos) (env : Env) (cb : Expr) (bp ip : Pos) (s : SS) :
    (∀ v env' s', eval n cur env (.form [.sym "if", cb, .form [.sym "break"] bp] ip) s = .ok (v, env') s' →
      ∃ n2 cv cenv, n = n2 + 2 ∧ eval (n2 + 1) (posOf cur ip) env cb s = .ok (cv, cenv) s' ∧ truthy cv = false ∧ v = .nil ∧ env' = env) ∧
    (∀ bv s', eval n cur env (.form [.sym "if", cb, .form [.sym "break"] bp] ip) s = .brk bv s' →
      ∃ n2, n = n2 + 1 ∧ ((∃ cv cenv, eval n2 (posOf cur ip) env cb s = .ok (cv, cenv) s' ∧ truthy cv = true ∧ bv = .nil) ∨
        eval n2 (posOf cur ip) env cb s = .brk bv s')) := by
  cases n with
  | zero =>
    rw [eval_zero]
    exact ⟨fun _ _ _ h => by simp at h, fun _ _ h => by simp at h⟩
  | succ n =>
    cases n with
    | zero =>
      rw [eval_if, eval_zero]
      exact ⟨fun _ _ _ h => by simp at h, fun _ _ h => by simp at h⟩
    | succ n =>
      rw [eval_ifbreak]
      cases he : eval (n + 1) (posOf cur ip) env cb s with
      | ok r s1 =>
        obtain ⟨cv, cenv⟩ := r
        cases htr : truthy cv
        · simp only [htr, Bool.false_eq_true, if_false]
          refine ⟨fun v env' s' h => ?_, fun _ _ h => by simp at h⟩
          simp only [R.ok.injEq, Prod.mk.injEq] at h
          obtain ⟨⟨h1, h2⟩, h3⟩ := h
          subst h1 h2 h3
          exact ⟨n, cv, cenv, rfl, he, htr, rfl, rfl⟩
        · simp only [htr, if_true]
          refine ⟨fun _ _ _ h => by simp at h, fun bv s' h => ?_⟩
          simp only [R.brk.injEq] at h
          obtain ⟨h1, h2⟩ := h
          subst h1 h2
          exact ⟨n + 1, rfl, Or.inl ⟨cv, cenv, he, htr, rfl⟩⟩
      | err _ _ _ => exact ⟨fun _ _ _ h => by simp at h, fun _ _ h => by simp at h⟩
      | stop _ => exact ⟨fun _ _ _ h => by simp at h, fun _ _ h => by simp at h⟩
      | brk bv0 s0 =>
        refine ⟨fun _ _ _ h => by simp at h, fun bv s' h => ?_⟩
        simp only [R.brk.injEq] at h
        obtain ⟨h1, h2⟩ := h
        subst h1 h2
        exact ⟨n + 1, rfl, Or.inr he⟩

end JanetModel.Compile
