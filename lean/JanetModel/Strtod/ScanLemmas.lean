/- C13: lemmas about the literal scanners of Strtod/Model.lean: 64-bit integer scanning is exact-or-rejected with respect
   to an unbounded reference accumulation; the digit loop by character class (`scanDigits_point`, `_marker`, `_other`),
   induction along a successful run of it (`scanDigits_ind`) and
   inversion of a successful `parseBody` / `parseNumber`. -/
import JanetModel.Strtod.Lemmas

namespace JanetModel.Strtod
open JanetModel.Gen.Strtod

/-- reference digit loop: same syntax checks as `scan_uint64`, unbounded accumulation, no overflow test -/
def scanBigDigits (base : Nat) : List Nat → Nat → Bool → Option (Nat × Bool)
  | [], accum, sd => some (accum, sd)
  | c :: rest, accum, sd =>
    if c = 95 then
      if sd then scanBigDigits base rest accum sd else none
    else
      let digit := digitOf c
      if c > 127 ∨ digit ≥ base then none
      else scanBigDigits base rest (accum * base + digit) true

/-- the integer denoted by a literal (any size) and its sign flag: `scan_uint64` without the overflow test -/
def intSpec (str : List Nat) : Option (Nat × Bool) :=
  match intHeader str with
  | none => none
  | some (neg, base, s3, sd) =>
    match scanBigDigits base s3 0 sd with
    | none => none
    | some (v, sd2) => if sd2 then some (v, neg) else none

theorem scanBigDigits_ge (base : Nat) (s : List Nat) (acc : Nat) (sd : Bool) (v : Nat) (sd' : Bool)
    (h : scanBigDigits base s acc sd = some (v, sd')) : acc ≤ v := by
  induction s generalizing acc sd with
  | nil => simp [scanBigDigits] at h; omega
  | cons c rest ih =>
    simp only [scanBigDigits] at h
    by_cases h95 : c = 95
    · rw [if_pos h95] at h
      cases sd with
      | false => simp at h
      | true => simp at h; exact ih _ _ h
    · rw [if_neg h95] at h
      by_cases hbad : c > 127 ∨ digitOf c ≥ base
      · rw [if_pos hbad] at h; simp at h
      · rw [if_neg hbad] at h
        have := ih _ _ h
        have hb : 1 ≤ base := by omega
        have : acc * 1 ≤ acc * base := Nat.mul_le_mul_left _ hb
        omega

theorem guard_iff (accum digit base : Nat) (hb : 0 < base) (hd : digit ≤ u64Max) :
    accum > (u64Max - digit) / base ↔ accum * base + digit > u64Max := by
  show (u64Max - digit) / base < accum ↔ u64Max < accum * base + digit
  rw [Nat.div_lt_iff_lt_mul hb]
  omega

theorem scanU64Digits_eq (base : Nat) (hbase : base ≤ 36) (s : List Nat) (acc : Nat) (sd : Bool) (hacc : acc ≤ u64Max) :
    scanU64Digits base s acc sd =
      match scanBigDigits base s acc sd with
      | none => none
      | some (v, sd') => if v ≤ u64Max then some (v, sd') else none := by
  induction s generalizing acc sd with
  | nil => simp [scanU64Digits, scanBigDigits, hacc]
  | cons c rest ih =>
    simp only [scanU64Digits, scanBigDigits]
    by_cases h95 : c = 95
    · rw [if_pos h95, if_pos h95]
      cases sd with
      | false => simp
      | true => simp; exact ih _ _ hacc
    · rw [if_neg h95, if_neg h95]
      by_cases hbad : c > 127 ∨ digitOf c ≥ base
      · rw [if_pos hbad, if_pos hbad]
      · rw [if_neg hbad, if_neg hbad]
        have hb : 0 < base := by omega
        have hd : digitOf c ≤ u64Max := by
          have : digitOf c < 36 := by omega
          simp only [u64Max]; omega
        by_cases hov : acc > (u64Max - digitOf c) / base
        · rw [if_pos hov]
          have hov' := (guard_iff acc (digitOf c) base hb hd).1 hov
          cases hr : scanBigDigits base rest (acc * base + digitOf c) true with
          | none => rfl
          | some p =>
            obtain ⟨v, sd'⟩ := p
            have := scanBigDigits_ge _ _ _ _ _ _ hr
            have : ¬ v ≤ u64Max := by omega
            simp [this]
        · rw [if_neg hov]
          have hov' : acc * base + digitOf c ≤ u64Max := by
            by_contra hc
            exact hov ((guard_iff acc (digitOf c) base hb hd).2 (by omega))
          exact ih _ _ hov'

theorem scanIntPrefix_le (s : List Nat) (b : Nat) (r : List Nat) (hp : scanIntPrefix s = some (b, r)) : b ≤ 36 := by
  unfold scanIntPrefix at hp
  split at hp
  · simp at hp; omega
  · split at hp <;> simp at hp <;> omega
  · split at hp
    · simp only at hp
      split at hp
      · simp at hp
      · simp at hp; omega
    · simp at hp; omega
  · simp at hp; omega

theorem intHeader_base_le (str : List Nat) (neg : Bool) (base : Nat) (s3 : List Nat) (sd : Bool)
    (h : intHeader str = some (neg, base, s3, sd)) : base ≤ 36 := by
  unfold intHeader at h
  split at h
  · simp at h
  · split at h
    · simp at h
    · simp only at h
      split at h
      · simp at h
      · rename_i b s2 hp
        simp only [Option.some.injEq, Prod.mk.injEq] at h
        obtain ⟨_, rfl, _, _⟩ := h
        exact scanIntPrefix_le _ _ _ hp

theorem scanUint64Core_eq (str : List Nat) :
    scanUint64Core str =
      match intSpec str with
      | none => none
      | some (v, neg) => if v ≤ u64Max then some (v, neg) else none := by
  unfold scanUint64Core intSpec
  cases hh : intHeader str with
  | none => rfl
  | some p =>
    obtain ⟨neg, base, s3, sd⟩ := p
    have hb := intHeader_base_le str neg base s3 sd hh
    simp only
    rw [scanU64Digits_eq base hb s3 0 sd (by decide)]
    cases hr : scanBigDigits base s3 0 sd with
    | none => rfl
    | some q =>
      obtain ⟨v, sd2⟩ := q
      simp only
      by_cases hv : v ≤ u64Max
      · simp only [if_pos hv]
        cases sd2 <;> simp [hv]
      · simp only [if_neg hv]
        cases sd2 <;> simp [hv]

theorem scanPrefix_le (s : List Nat) (b : Nat) (r : List Nat) (hp : scanPrefix s = some (b, r)) : b ≤ 36 := by
  unfold scanPrefix at hp
  split at hp
  · simp at hp; omega
  · split at hp <;> simp at hp <;> omega
  · split at hp
    · simp only at hp
      split at hp
      · simp at hp
      · simp at hp; omega
    · simp at hp; omega
  · simp at hp; omega

theorem zero_inv : MantInv BigNat.zero := ⟨by decide, AllLt_nil, by simp [BigNat.zero, TopNZ]⟩

/-- the state `parseBody` starts in: radix `b` for mantissa and exponent, nothing seen, empty mantissa -/
abbrev ScanSt.init (b : Nat) : ScanSt := ⟨b, b, 0, false, false, false, BigNat.zero⟩

/-- `c` stops the digit loop in radix `b`: `&`, `e`/`E` in radix 10, `p`/`P` in radix 16 -/
def IsMarker (b c : Nat) : Prop := c = 38 ∨ (b = 10 ∧ (c = 69 ∨ c = 101)) ∨ (b = 16 ∧ (c = 80 ∨ c = 112))

/-- the state in which the digit loop stops at the marker `c` (a hex-float marker switches to radix 2, decimal exponent) -/
def markerSt (st : ScanSt) (c : Nat) : ScanSt :=
  if st.base = 16 ∧ (c = 80 ∨ c = 112) then { st with foundexp := true, expBase := 10, base := 2, ex := st.ex * 4 }
  else { st with foundexp := true }

theorem markerSt_mant (st : ScanSt) (c : Nat) : (markerSt st c).mant = st.mant := by
  unfold markerSt; split <;> rfl

def digitSt (st : ScanSt) (c : Nat) : ScanSt :=
  { st with ex := if st.seenpoint then st.ex - 1 else st.ex, mant := bignat_muladd st.mant st.base (digitOf c),
            seenadigit := true }

theorem scanDigits_point (rest : List Nat) (st : ScanSt) :
    scanDigits (46 :: rest) st = if st.seenpoint then none else scanDigits rest { st with seenpoint := true } := rfl

theorem scanDigits_marker {c : Nat} (rest : List Nat) {st : ScanSt} (h : IsMarker st.base c) :
    scanDigits (c :: rest) st = some (c :: rest, markerSt st c) := by
  have c46 : c ≠ 46 := by rcases h with h | ⟨_, h | h⟩ | ⟨_, h | h⟩ <;> omega
  unfold markerSt
  simp only [scanDigits, if_neg c46]
  by_cases c38 : c = 38
  · rw [if_pos c38, if_neg (by omega)]
  rw [if_neg c38]
  by_cases cp : st.base = 16 ∧ (c = 80 ∨ c = 112)
  · rw [if_pos cp, if_pos cp]
  rw [if_neg cp, if_neg cp, if_pos (by rcases h with h | h | h <;> [exact absurd h c38; exact h; exact absurd h cp])]

/-- any other character is a separator or a digit -/
theorem scanDigits_other {c : Nat} (rest : List Nat) {st : ScanSt} (c46 : c ≠ 46) (hm : ¬ IsMarker st.base c) :
    scanDigits (c :: rest) st =
      if c = 95 then (if st.seenadigit then scanDigits rest st else none)
      else if c > 127 ∨ digitOf c ≥ st.base then none else scanDigits rest (digitSt st c) := by
  have c38 : c ≠ 38 := fun e => hm (Or.inl e)
  have cp : ¬ (st.base = 16 ∧ (c = 80 ∨ c = 112)) := fun e => hm (Or.inr (Or.inr e))
  have ce : ¬ (st.base = 10 ∧ (c = 69 ∨ c = 101)) := fun e => hm (Or.inr (Or.inl e))
  simp only [scanDigits, if_neg c46, if_neg c38, if_neg cp, if_neg ce]
  rfl

theorem scanDigits_ind {P : List Nat → ScanSt → List Nat → ScanSt → Prop}
    (nil : ∀ st, P [] st [] st)
    (point : ∀ rest st s' st', st.seenpoint = false → P rest { st with seenpoint := true } s' st' → P (46 :: rest) st s' st')
    (marker : ∀ c rest st, IsMarker st.base c → P (c :: rest) st (c :: rest) (markerSt st c))
    (sep : ∀ rest st s' st', st.seenadigit = true → P rest st s' st' → P (95 :: rest) st s' st')
    (digit : ∀ c rest st s' st', c ≠ 46 → c ≠ 95 → ¬ IsMarker st.base c → c ≤ 127 → digitOf c < st.base →
      P rest (digitSt st c) s' st' → P (c :: rest) st s' st') :
    ∀ s st s' st', scanDigits s st = some (s', st') → P s st s' st' := by
  intro s
  induction s with
  | nil =>
    intro st s' st' h
    simp only [scanDigits, Option.some.injEq, Prod.mk.injEq] at h
    obtain ⟨rfl, rfl⟩ := h
    exact nil st
  | cons c rest ih =>
    intro st s' st' h
    by_cases c46 : c = 46
    · subst c46
      rw [scanDigits_point] at h
      cases hsp : st.seenpoint
      · rw [hsp, if_neg Bool.false_ne_true] at h
        exact point _ _ _ _ hsp (ih _ _ _ h)
      · rw [hsp, if_pos rfl] at h; exact absurd h (by simp)
    by_cases hm : IsMarker st.base c
    · rw [scanDigits_marker rest hm, Option.some.injEq, Prod.mk.injEq] at h
      obtain ⟨rfl, rfl⟩ := h
      exact marker c rest st hm
    rw [scanDigits_other rest c46 hm] at h
    by_cases c95 : c = 95
    · rw [if_pos c95] at h
      subst c95
      cases hsd : st.seenadigit
      · rw [hsd, if_neg Bool.false_ne_true] at h; exact absurd h (by simp)
      · rw [hsd, if_pos rfl] at h; exact sep _ _ _ _ hsd (ih _ _ _ h)
    rw [if_neg c95] at h
    by_cases hbad : c > 127 ∨ digitOf c ≥ st.base
    · rw [if_pos hbad] at h; exact absurd h (by simp)
    rw [if_neg hbad] at h
    exact digit c rest st s' st' c46 c95 hm (by omega) (by omega) (ih _ _ _ h)

def StInv (st : ScanSt) : Prop := MantInv st.mant ∧ 1 ≤ st.base ∧ st.base ≤ 36

/-- inversion of a successful `parseBody`; `foundexp = false` with input left is its unreachable branch -/
theorem parseBody_some {neg : Bool} {b : Nat} {s2 : List Nat} {p : Parsed} (h : parseBody neg b s2 = some p) :
    ∃ s3 st1 s4 st2, skipZeros s2 (ScanSt.init b) = some (s3, st1) ∧
      scanDigits s3 st1 = some (s4, st2) ∧ st2.seenadigit = true ∧ p.neg = neg ∧ p.mant = st2.mant ∧ p.base = st2.base ∧
      ((s4 = [] ∨ st2.foundexp = false) ∧ p.ex = st2.ex ∨
        ∃ mk s5, s4 = mk :: s5 ∧ st2.foundexp = true ∧ parseExponent st2 s5 = some p.ex) := by
  unfold parseBody at h
  simp only at h
  cases hz : skipZeros s2 (ScanSt.init b) with
  | none => rw [hz] at h; exact absurd h (by simp)
  | some r1 =>
    obtain ⟨s3, st1⟩ := r1
    rw [hz] at h
    simp only at h
    cases hd : scanDigits s3 st1 with
    | none => rw [hd] at h; exact absurd h (by simp)
    | some r2 =>
      obtain ⟨s4, st2⟩ := r2
      rw [hd] at h
      simp only at h
      cases hsa : st2.seenadigit
      · rw [hsa] at h; exact absurd h (by simp)
      rw [hsa] at h
      simp only [Bool.not_true, Bool.false_eq_true, if_false] at h
      refine ⟨s3, st1, s4, st2, rfl, hd, hsa, ?_⟩
      cases s4 with
      | nil =>
        simp only [Option.some.injEq] at h
        subst h
        exact ⟨rfl, rfl, rfl, Or.inl ⟨Or.inl rfl, rfl⟩⟩
      | cons mk s5 =>
        simp only at h
        cases hfe : st2.foundexp
        · rw [hfe] at h
          simp only [Bool.not_false, if_true, Option.some.injEq] at h
          subst h
          exact ⟨rfl, rfl, rfl, Or.inl ⟨Or.inr rfl, rfl⟩⟩
        · rw [hfe] at h
          simp only [Bool.not_true, Bool.false_eq_true, if_false] at h
          cases hpe : parseExponent st2 s5 with
          | none => rw [hpe] at h; exact absurd h (by simp)
          | some ex =>
            rw [hpe] at h
            simp only [Option.some.injEq] at h
            subst h
            exact ⟨rfl, rfl, rfl, Or.inr ⟨mk, s5, rfl, rfl, hpe⟩⟩

theorem parseNumber_some {str : List Nat} {base : Nat} {p : Parsed} (h : parseNumber str base = some p) :
    ∃ neg b s2, numHeader str base = some (neg, b, s2) ∧ parseBody neg b s2 = some p := by
  unfold parseNumber at h
  cases hh : numHeader str base with
  | none => rw [hh] at h; exact absurd h (by simp)
  | some r =>
    obtain ⟨neg, b, s2⟩ := r
    rw [hh] at h
    exact ⟨neg, b, s2, rfl, h⟩

end JanetModel.Strtod
