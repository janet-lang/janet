/- C13: `bignat_extract` — the 54-bit window, the rounding step and renormalisation give a faithful rounding. -/
import JanetModel.Strtod.Lemmas

namespace JanetModel.Strtod
open JanetModel.Gen.Strtod

/-- `t` is the floor of `N/D`, or — only when `N/D` is not an integer — its ceiling -/
def FaithfulN (t N D : Nat) : Prop := t = N / D ∨ (t = N / D + 1 ∧ N % D ≠ 0)

theorem FaithfulN.exact {t N D : Nat} (h : FaithfulN t N D) (hx : N % D = 0) : t * D = N := by
  rcases h with h | ⟨_, h⟩
  · rw [h]; exact Nat.div_mul_cancel (Nat.dvd_of_mod_eq_zero hx)
  · exact absurd hx h

theorem FaithfulN.within {t N D : Nat} (hD : 0 < D) (h : FaithfulN t N D) : t * D < N + D ∧ N < t * D + D := by
  have h1 := Nat.div_add_mod N D
  have h2 := Nat.mod_lt N hD
  rcases h with h | ⟨h, hne⟩
  · subst h
    constructor
    · have : N / D * D = D * (N / D) := Nat.mul_comm _ _
      omega
    · have : N / D * D = D * (N / D) := Nat.mul_comm _ _
      omega
  · subst h
    have e : (N / D + 1) * D = D * (N / D) + D := by ring
    constructor <;> omega

/-- `t` is `N/D` rounded to the nearest integer, exact ties going up: t·D ≤ N + D/2 and N < t·D + D/2 -/
def NearestUpN (t N D : Nat) : Prop := 2 * t * D ≤ 2 * N + D ∧ 2 * N < 2 * t * D + D

/-- the rounding step decides on the parity of the floor `⌊N/D1⌋` only, and that is exactly round-to-nearest (ties up)
    of `N/(2·D1)`: the bits below the 54-bit window never matter -/
theorem round_step_nearest (N D1 : Nat) (hD : 0 < D1) : NearestUpN ((N / D1 + 1) / 2) N (2 * D1) := by
  have h1 : D1 * (N / D1) ≤ N := Nat.mul_div_le N D1
  have h2 : N < D1 * (N / D1 + 1) := Nat.lt_mul_div_succ N hD
  generalize N / D1 = t2 at h1 h2 ⊢
  -- with `h = ⌊(t2+1)/2⌋`: `2h ≤ t2 + 1 ≤ 2h + 1`, so `(2h − 1)·D1 ≤ N < (2h + 1)·D1`
  obtain ⟨h, hh⟩ : ∃ h, (t2 + 1) / 2 = h := ⟨_, rfl⟩
  have hl := Nat.mul_le_mul_left D1 (show 2 * h ≤ t2 + 1 by omega)
  have hr := Nat.mul_le_mul_left D1 (show t2 + 1 ≤ 2 * h + 1 by omega)
  rw [Nat.mul_add_one, Nat.mul_left_comm] at hl
  rw [Nat.mul_add_one, Nat.mul_add_one, Nat.mul_left_comm] at hr
  rw [Nat.mul_add_one] at h2
  have e : 2 * h * (2 * D1) = 4 * (D1 * h) := by ring
  rw [hh]
  unfold NearestUpN
  rw [e]
  omega

theorem nearest_halve {t N D : Nat} (hev : t % 2 = 0) (h : NearestUpN t N D) : NearestUpN (t / 2) N (2 * D) := by
  obtain ⟨k, rfl⟩ : ∃ k, t = 2 * k := ⟨t / 2, by omega⟩
  rw [Nat.mul_div_cancel_left k (by decide)]
  have e : 2 * k * (2 * D) = 2 * (2 * k) * D := by ring
  unfold NearestUpN at *
  rw [e]
  omega

theorem NearestUpN.unique {t N D T : Nat} (h : NearestUpN t N D)
    (hlo : 2 * T * D < 2 * N + D) (hhi : 2 * N < 2 * T * D + D) : t = T := by
  unfold NearestUpN at h
  -- `2t·D < (2T + 2)·D` and `2T·D < (2t + 2)·D`
  have h1 : 2 * t * D < (2 * T + 2) * D := by rw [Nat.add_mul]; omega
  have h2 : 2 * T * D < (2 * t + 2) * D := by rw [Nat.add_mul]; omega
  have := Nat.lt_of_mul_lt_mul_right h1
  have := Nat.lt_of_mul_lt_mul_right h2
  omega

/-- faithful = less than one grid step away -/
theorem FaithfulN.of_within {t N D : Nat} (hD : 0 < D) (h1 : t * D < N + D) (h2 : N < t * D + D) : FaithfulN t N D := by
  have hdm := Nat.div_add_mod' N D
  have hr := Nat.mod_lt N hD
  unfold FaithfulN
  generalize N / D = q at hdm ⊢
  generalize N % D = r at hdm hr ⊢
  subst hdm
  have a : t < q + 2 := by
    apply Nat.lt_of_mul_lt_mul_right (a := D); rw [Nat.add_mul]; omega
  have b : q < t + 1 := by
    apply Nat.lt_of_mul_lt_mul_right (a := D); rw [Nat.add_mul, Nat.one_mul]; omega
  rcases Nat.lt_or_ge q t with c | c
  · obtain rfl : t = q + 1 := by omega
    rw [Nat.add_mul, Nat.one_mul] at h1
    exact Or.inr ⟨rfl, by omega⟩
  · exact Or.inl (by omega)

theorem NearestUpN.faithful {t N D : Nat} (hD : 0 < D) (h : NearestUpN t N D) : FaithfulN t N D := by
  obtain ⟨h1, h2⟩ := h
  rw [Nat.mul_assoc] at h1 h2
  exact FaithfulN.of_within hD (by omega) (by omega)

/-- what `bignat_extract` hands to `ldexp`: a normalised 53-bit significand `t`, the nearest (ties up) rounding of a value
    `N/D` that is at least 2^52 − ¼ -/
structure Sig53 (t N D : Nat) : Prop where
  nearest : NearestUpN t N D
  mag : (2 ^ 54 - 1) * D ≤ 4 * N
  lo : 2 ^ 52 ≤ t
  hi : t < 2 ^ 53

theorem Sig53.faithful {t N D : Nat} (h : Sig53 t N D) (hD : 0 < D) : FaithfulN t N D := h.nearest.faithful hD

theorem round_keep (t2 N D1 : Nat) (hD : 0 < D1) (ht : N / D1 = t2) (hlo : 2 ^ 53 ≤ t2) (hhi : (t2 + 1) / 2 < 2 ^ 53) :
    Sig53 ((t2 + 1) / 2) N (2 * D1) := by
  subst ht
  have hm := Nat.mul_le_of_le_div _ _ _ hlo
  have hn := round_step_nearest N D1 hD
  exact ⟨hn, by omega, by omega, hhi⟩

/-- the carry into bit 53: `top >>= 1; exponent2++` -/
theorem round_renorm (t2 N D1 : Nat) (hD : 0 < D1) (ht : N / D1 = t2) (hhi : t2 < 2 ^ 54) (hov : 2 ^ 53 ≤ (t2 + 1) / 2) :
    Sig53 ((t2 + 1) / 2 / 2) N (2 * (2 * D1)) := by
  subst ht
  have hm := Nat.mul_le_of_le_div D1 (2 ^ 54 - 1) N (by omega)
  have hev : (N / D1 + 1) / 2 % 2 = 0 := by omega
  have hn := nearest_halve hev (round_step_nearest N D1 hD)
  exact ⟨hn, by omega, by omega, by omega⟩

theorem bitLen_bounds (d : Nat) (hd : d ≠ 0) : 2 ^ (bitLen d - 1) ≤ d ∧ d < 2 ^ bitLen d ∧ 1 ≤ bitLen d := by
  unfold bitLen
  rw [if_neg hd]
  exact ⟨by simpa using Nat.log2_self_le hd, Nat.lt_log2_self, by omega⟩

theorem bitLen_le_of_lt (p k : Nat) (h : p < 2 ^ k) : bitLen p ≤ k := by
  by_cases h0 : p = 0
  · simp [bitLen, h0]
  · have := (bitLen_bounds p h0).1
    by_contra hc
    have hk : k ≤ bitLen p - 1 := by omega
    have : 2 ^ k ≤ 2 ^ (bitLen p - 1) := Nat.pow_le_pow_right (by decide) hk
    omega

theorem bitLen_le_31 (d : Nat) (hd : d < bigBase) : bitLen d ≤ 31 := bitLen_le_of_lt d 31 hd

/-- the three most significant digits as one number -/
def win (d1 d2 d3 : Nat) : Nat := d1 * 2 ^ 62 + d2 * 2 ^ 31 + d3

/-- the bit manipulation of `bignat_extract` computes the top 54 bits of the 3-digit window -/
theorem window_top54 (d1 d2 d3 : Nat) (h1 : d1 ≠ 0) (h1b : d1 < bigBase) (h2 : d2 < bigBase) (h3 : d3 < bigBase) :
    (((d2 <<< (window - nbit)) + (d3 >>> (2 * nbit - window))) >>> bitLen d1) ||| (d1 <<< (window - bitLen d1))
      = win d1 d2 d3 / 2 ^ (bitLen d1 + 8) := by
  obtain ⟨hlo, hhi, hpos⟩ := bitLen_bounds d1 h1
  have h31 := bitLen_le_31 d1 h1b
  generalize bitLen d1 = nb at *
  have ew : window - nbit = 23 := by decide
  have e8 : 2 * nbit - window = 8 := by decide
  rw [ew, e8, window_eq]
  simp only [Nat.shiftLeft_eq, Nat.shiftRight_eq_div_pow, bigBase] at *
  set t0 := d2 * 2 ^ 23 + d3 / 2 ^ 8 with ht0
  have ht0lt : t0 < 2 ^ 54 := by
    have : d3 / 2 ^ 8 < 2 ^ 23 := by omega
    omega
  have hsplit : (2 : Nat) ^ 54 = 2 ^ (54 - nb) * 2 ^ nb := by
    rw [← Nat.pow_add, show 54 - nb + nb = 54 by omega]
  have ht1 : t0 / 2 ^ nb < 2 ^ (54 - nb) := by
    rw [Nat.div_lt_iff_lt_mul (Nat.pow_pos (by decide))]; rw [← hsplit]; exact ht0lt
  have hor := Nat.shiftLeft_add_eq_or_of_lt ht1 d1
  rw [Nat.shiftLeft_eq] at hor
  rw [Nat.or_comm, ← hor]
  unfold win
  have hw8 : (d1 * 2 ^ 62 + d2 * 2 ^ 31 + d3) / 2 ^ 8 = d1 * 2 ^ 54 + t0 := by
    rw [ht0]; omega
  rw [Nat.add_comm nb 8, pow_add, ← Nat.div_div_eq_div_mul, hw8, hsplit]
  have hdiv := Nat.add_mul_div_right t0 (d1 * 2 ^ (54 - nb)) (Nat.pow_pos (by decide : 0 < 2) : 0 < 2 ^ nb)
  rw [← Nat.mul_assoc, Nat.add_comm (d1 * 2 ^ (54 - nb) * 2 ^ nb) t0, hdiv, Nat.add_comm]

theorem win_bounds (d1 d2 d3 : Nat) (h2 : d2 < bigBase) (h3 : d3 < bigBase) :
    d1 * 2 ^ 62 ≤ win d1 d2 d3 ∧ win d1 d2 d3 < (d1 + 1) * 2 ^ 62 := by
  unfold win
  simp only [bigBase] at h2 h3
  omega

theorem top54_range (d1 d2 d3 : Nat) (h1 : d1 ≠ 0) (h2 : d2 < bigBase) (h3 : d3 < bigBase) :
    2 ^ 53 ≤ win d1 d2 d3 / 2 ^ (bitLen d1 + 8) ∧ win d1 d2 d3 / 2 ^ (bitLen d1 + 8) < 2 ^ 54 := by
  obtain ⟨hlo, hhi, hpos⟩ := bitLen_bounds d1 h1
  obtain ⟨w1, w2⟩ := win_bounds d1 d2 d3 h2 h3
  generalize bitLen d1 = nb at hlo hhi hpos ⊢
  have e1 : 2 ^ 53 * 2 ^ (nb + 8) = 2 ^ (nb - 1) * 2 ^ 62 := by
    rw [← Nat.pow_add, ← Nat.pow_add, show 53 + (nb + 8) = nb - 1 + 62 by omega]
  have e2 : 2 ^ 54 * 2 ^ (nb + 8) = 2 ^ nb * 2 ^ 62 := by
    rw [← Nat.pow_add, ← Nat.pow_add, show 54 + (nb + 8) = nb + 62 by omega]
  constructor
  · rw [Nat.le_div_iff_mul_le (Nat.two_pow_pos _), e1]
    exact le_trans (Nat.mul_le_mul_right _ hlo) w1
  · rw [Nat.div_lt_iff_lt_mul (Nat.two_pow_pos _), e2]
    exact lt_of_lt_of_le w2 (Nat.mul_le_mul_right _ hhi)

/-- C's `d2`, `d3` of `bignat_extract`: the two digits below the top one, falling back to `first_digit` and 0 when the
    array is short -/
def sel2 (first : Nat) (below : List Nat) : Nat :=
  match below with
  | [] => first
  | b :: _ => b

def sel3 (first : Nat) (below : List Nat) : Nat :=
  match below with
  | [] => 0
  | [_] => first
  | _ :: c :: _ => c

theorem extractParts_nil (x : BigNat) (e2 : Int) (h : x.digits = []) : extractParts x e2 = (x.val, e2) := by
  simp only [extractParts, h, List.reverse_nil, BigNat.val, digitsVal, Nat.mul_zero, Nat.add_zero]

theorem extractParts_eq (x : BigNat) (e2 : Int) (d1 : Nat) (below : List Nat) (hrev : x.digits.reverse = d1 :: below) :
    extractParts x e2 =
      (let t2 := (((sel2 x.first below <<< (window - nbit)) + (sel3 x.first below >>> (2 * nbit - window))) >>> bitLen d1)
                  ||| (d1 <<< (window - bitLen d1))
       let t4 := (if t2 % 2 = 1 then t2 + 1 else t2) >>> 1
       let r := if t4 > mantMax then (t4 >>> 1, e2 + 1) else (t4, e2)
       (r.1, r.2 + ((bitLen d1 : Int) - mantBits) + nbit * x.digits.length)) := by
  unfold extractParts
  rw [hrev]
  cases below with
  | nil => rfl
  | cons b r => cases r <;> rfl

theorem round_if_eq (t2 : Nat) : (if t2 % 2 = 1 then t2 + 1 else t2) >>> 1 = (t2 + 1) / 2 := by
  rw [Nat.shiftRight_eq_div_pow]
  split <;> omega

theorem extractParts_spec (x : BigNat) (e2 : Int) (d1 : Nat) (below : List Nat) (hrev : x.digits.reverse = d1 :: below)
    (h1 : d1 ≠ 0) (h1b : d1 < bigBase) (h2 : sel2 x.first below < bigBase) (h3 : sel3 x.first below < bigBase) :
    ∃ k : Nat, (extractParts x e2).2 = e2 + (bitLen d1 : Int) - 53 + 31 * (x.digits.length : Int) + k ∧
      ∀ N D : Nat, 0 < D → N / D = win d1 (sel2 x.first below) (sel3 x.first below) →
        Sig53 (extractParts x e2).1 N (D * 2 ^ (bitLen d1 + 9 + k)) := by
  rw [extractParts_eq x e2 d1 below hrev]
  simp only
  rw [window_top54 d1 _ _ h1 h1b h2 h3, round_if_eq]
  obtain ⟨hlo, hhi⟩ := top54_range d1 _ _ h1 h2 h3
  have hpos : ∀ D, 0 < D → 0 < D * 2 ^ (bitLen d1 + 8) := fun D hD => Nat.mul_pos hD (Nat.two_pow_pos _)
  have hdiv : ∀ N D : Nat, N / D = win d1 (sel2 x.first below) (sel3 x.first below) →
      N / (D * 2 ^ (bitLen d1 + 8)) = win d1 (sel2 x.first below) (sel3 x.first below) / 2 ^ (bitLen d1 + 8) :=
    fun N D h => by rw [← Nat.div_div_eq_div_mul, h]
  generalize win d1 (sel2 x.first below) (sel3 x.first below) / 2 ^ (bitLen d1 + 8) = t2 at hlo hhi hdiv ⊢
  have hmm : mantMax = 2 ^ 53 - 1 := by decide
  have hmb : ((mantBits : Nat) : Int) = 53 := by decide
  have hnb : ((nbit : Nat) : Int) = 31 := by decide
  by_cases hov : (t2 + 1) / 2 > mantMax
  · rw [if_pos hov]
    simp only
    refine ⟨1, ?_, fun N D hD hN => ?_⟩
    · simp only [hmb, hnb]; push_cast; ring
    · rw [Nat.shiftRight_eq_div_pow, pow_one,
        show D * 2 ^ (bitLen d1 + 9 + 1) = 2 * (2 * (D * 2 ^ (bitLen d1 + 8))) by ring]
      exact round_renorm t2 N _ (hpos D hD) (hdiv N D hN) hhi (by rw [hmm] at hov; omega)
  · rw [if_neg hov]
    simp only
    refine ⟨0, ?_, fun N D hD hN => ?_⟩
    · simp only [hmb, hnb]; push_cast; ring
    · rw [show D * 2 ^ (bitLen d1 + 9 + 0) = 2 * (D * 2 ^ (bitLen d1 + 8)) by ring]
      exact round_keep t2 N _ (hpos D hD) (hdiv N D hN) hlo (by rw [hmm] at hov; omega)

theorem digitsVal_append (a b : List Nat) : digitsVal (a ++ b) = digitsVal a + bigBase ^ a.length * digitsVal b := by
  induction a with
  | nil => simp [digitsVal]
  | cons d r ih => simp only [List.cons_append, digitsVal, ih, List.length_cons, pow_succ]; ring

theorem AllLt_append_left {a b : List Nat} (h : AllLt (a ++ b)) : AllLt a := fun d hd => h d (List.mem_append_left _ hd)

theorem win_eq (d1 b c : Nat) : c + bigBase * (b + bigBase * (d1 + bigBase * 0)) = win d1 b c := by
  unfold win
  rw [bigBase_eq]; ring

theorem top3_bracket (L : List Nat) (d1 b c : Nat) (r : List Nat) (hrev : L.reverse = d1 :: b :: c :: r) (hall : AllLt L) :
    win d1 b c * bigBase ^ r.length ≤ digitsVal L ∧ digitsVal L < (win d1 b c + 1) * bigBase ^ r.length := by
  have hL : L = r.reverse ++ [c, b, d1] := by
    have := congrArg List.reverse hrev
    simpa using this
  rw [hL] at hall ⊢
  have hlow := digitsVal_lt (AllLt_append_left hall)
  rw [digitsVal_append]
  simp only [List.length_reverse] at *
  have hw : digitsVal [c, b, d1] = win d1 b c := by simp only [digitsVal]; exact win_eq d1 b c
  rw [hw]
  constructor
  · rw [Nat.mul_comm]; omega
  · have : (win d1 b c + 1) * bigBase ^ r.length = bigBase ^ r.length * win d1 b c + bigBase ^ r.length := by ring
    rw [this]; omega

theorem sel_pad (first : Nat) (below : List Nat) :
    ∃ r, below ++ [first, 0] = sel2 first below :: sel3 first below :: r ∧ r.length = below.length := by
  match below with
  | [] => exact ⟨[], rfl, rfl⟩
  | [_] => exact ⟨[0], rfl, rfl⟩
  | _ :: _ :: r => exact ⟨r ++ [first, 0], rfl, by simp⟩

/-- positive branch: `val * 2^31` (the array with one zero digit appended below) is bracketed by the window that
    `bignat_extract` selects (`d2`,`d3` fall back to `first_digit` and 0 when the array is short) -/
theorem bracket_pos (x : BigNat) (d1 : Nat) (below : List Nat) (hrev : x.digits.reverse = d1 :: below)
    (hall : AllLt (x.first :: x.digits)) :
    win d1 (sel2 x.first below) (sel3 x.first below) * bigBase ^ below.length ≤ x.val * bigBase ∧
    x.val * bigBase < (win d1 (sel2 x.first below) (sel3 x.first below) + 1) * bigBase ^ below.length := by
  obtain ⟨r, hr, hlen⟩ := sel_pad x.first below
  have hZ : x.val * bigBase = digitsVal (0 :: x.first :: x.digits) := by
    rw [val_def]; simp only [digitsVal]; ring
  have hrev' : (0 :: x.first :: x.digits).reverse = d1 :: sel2 x.first below :: sel3 x.first below :: r := by
    rw [← hr]; simp [hrev]
  rw [hZ, ← hlen]
  exact top3_bracket _ d1 _ _ r hrev' (AllLt_cons.2 ⟨bigBase_pos, hall⟩)

theorem bracket_neg (x : BigNat) (d1 : Nat) (below : List Nat) (hrev : x.digits.reverse = d1 :: below)
    (hall : AllLt x.digits) (hn : 4 ≤ x.digits.length) :
    win d1 (sel2 x.first below) (sel3 x.first below) * bigBase ^ (x.digits.length - 4) ≤ upper x ∧
    upper x < (win d1 (sel2 x.first below) (sel3 x.first below) + 1) * bigBase ^ (x.digits.length - 4) := by
  have hlen : x.digits.length = below.length + 1 := by
    have := congrArg List.length hrev; simpa using this
  match below, hrev, hlen with
  | b :: c :: r, hrev, hlen =>
    have hb := top3_bracket x.digits d1 b c r hrev hall
    simp only [List.length_cons] at hlen
    obtain ⟨m, hm⟩ : ∃ m, r.length = m + 1 := ⟨r.length - 1, by omega⟩
    have e4 : x.digits.length - 4 = m := by omega
    rw [e4]
    rw [hm, pow_succ, ← Nat.mul_assoc] at hb
    simp only [sel2, sel3]
    unfold upper
    exact ⟨(Nat.le_div_iff_mul_le bigBase_pos).2 hb.1, (Nat.div_lt_iff_lt_mul bigBase_pos).2 (by rw [Nat.mul_assoc]; exact hb.2)⟩
  | [], _, hlen => simp at hlen; omega
  | [_], _, hlen => simp at hlen; omega

theorem sel_lt (x : BigNat) (d1 : Nat) (below : List Nat) (hrev : x.digits.reverse = d1 :: below)
    (hf : x.first < bigBase) (hall : AllLt x.digits) :
    d1 < bigBase ∧ sel2 x.first below < bigBase ∧ sel3 x.first below < bigBase := by
  have hmem : ∀ d ∈ d1 :: below, d < bigBase := by
    intro d hd
    apply hall d
    have : d ∈ x.digits.reverse := by rw [hrev]; exact hd
    simpa using this
  refine ⟨hmem d1 (by simp), ?_, ?_⟩
  · cases below with
    | nil => exact hf
    | cons b r => exact hmem b (by simp)
  · cases below with
    | nil => exact bigBase_pos
    | cons b r =>
      cases r with
      | nil => exact hf
      | cons c r2 => exact hmem c (by simp)

theorem top_ne_zero (ds : List Nat) (d1 : Nat) (below : List Nat) (hrev : ds.reverse = d1 :: below) (ht : TopNZ ds) : d1 ≠ 0 := by
  have hL : ds = below.reverse ++ [d1] := by
    have := congrArg List.reverse hrev
    simpa using this
  rw [hL, TopNZ_append_singleton] at ht
  exact ht

theorem bigBase_pow (k : Nat) : bigBase ^ k = 2 ^ (31 * k) := by
  rw [bigBase_eq, ← pow_mul]

/-- integers (non-negative exponent branch): with (t, e) = `extractParts x 0`, `t` is the normalised nearest rounding
    of `val x` on the grid 2^e (stated after scaling both by 2^31 so that the grid exponent `G = e + 31` is a natural
    number). -/
theorem extract_faithful_pos_core (x : BigNat) (hi : MantInv x) (hne : x.digits ≠ []) :
    ∃ G : Nat, (extractParts x 0).2 + 31 = (G : Int) ∧ Sig53 (extractParts x 0).1 (x.val * 2 ^ 31) (2 ^ G) := by
  cases hr : x.digits.reverse with
  | nil => exact absurd (List.reverse_eq_nil_iff.1 hr) hne
  | cons d1 below =>
    obtain ⟨h1b, h2, h3⟩ := sel_lt x d1 below hr hi.first_lt hi.allLt
    obtain ⟨k, he, hS⟩ := extractParts_spec x 0 d1 below hr (top_ne_zero _ _ _ hr hi.topnz) h1b h2 h3
    obtain ⟨b1, b2⟩ := bracket_pos x d1 below hr (AllLt_cons.2 ⟨hi.first_lt, hi.allLt⟩)
    have hlen : x.digits.length = below.length + 1 := by
      have := congrArg List.length hr; simpa using this
    have hS' := hS (x.val * bigBase) _ (Nat.pow_pos bigBase_pos) (Nat.div_eq_of_lt_le b1 b2)
    rw [bigBase_pow, ← pow_add, bigBase_eq] at hS'
    refine ⟨_, ?_, hS'⟩
    rw [he, hlen]; push_cast; omega

theorem extract_faithful_neg_core (x : BigNat) (e2 : Int) (num den : Nat) (hden : 0 < den)
    (hf1 : x.first < bigBase) (hall : AllLt x.digits) (htop : TopNZ x.digits) (hn4 : 4 ≤ x.digits.length)
    (hU : upper x = num / den) :
    ∃ G : Nat, (extractParts x e2).2 = e2 + 62 + (G : Int) ∧ Sig53 (extractParts x e2).1 num (den * 2 ^ G) := by
  cases hr : x.digits.reverse with
  | nil => rw [List.reverse_eq_nil_iff.1 hr] at hn4; exact absurd hn4 (by decide)
  | cons d1 below =>
    obtain ⟨h1b, h2, h3⟩ := sel_lt x d1 below hr hf1 hall
    obtain ⟨k, he, hS⟩ := extractParts_spec x e2 d1 below hr (top_ne_zero _ _ _ hr htop) h1b h2 h3
    obtain ⟨b1, b2⟩ := bracket_neg x d1 below hr hall hn4
    have hN : num / (den * bigBase ^ (x.digits.length - 4)) = win d1 (sel2 x.first below) (sel3 x.first below) := by
      rw [← Nat.div_div_eq_div_mul, ← hU]; exact Nat.div_eq_of_lt_le b1 b2
    have hS' := hS num _ (Nat.mul_pos hden (Nat.pow_pos bigBase_pos)) hN
    rw [bigBase_pow, Nat.mul_assoc, ← pow_add] at hS'
    refine ⟨_, ?_, hS'⟩
    rw [he]; push_cast; omega

/-- fractions, on the chain `convert` runs for the exponent `−a`: `S = shamt` digits of pre-shift, exponent `−31·S` handed
    to `bignat_extract`; the significand is the normalised nearest rounding of `mant·B^(S−2) / base^a` on the grid `2^G`,
    `G = e + 31·(S − 2)` for the exponent `e` returned. -/
theorem extract_faithful_scaleNeg (mant : BigNat) (base a : Nat) (hb1 : 1 ≤ base) (hb : base ≤ 36)
    (hi : MantInv mant) (hnz : ¬ (mant.digits.length = 0 ∧ mant.first = 0)) :
    ∃ G : Nat, (extractParts (scaleNeg mant base a) (-(((shamtBase + a / shamtDiv) * nbit : Nat) : Int))).2 +
        31 * ((shamtBase + a / shamtDiv - 2 : Nat) : Int) = (G : Int) ∧
      Sig53 (extractParts (scaleNeg mant base a) (-(((shamtBase + a / shamtDiv) * nbit : Nat) : Int))).1
        (mant.val * bigBase ^ (shamtBase + a / shamtDiv - 2)) (base ^ a * 2 ^ G) := by
  obtain ⟨hl, _, hu⟩ := scaleNeg_facts mant base a hb1 hb hi hnz
  obtain ⟨G, he, hS⟩ := extract_faithful_neg_core (scaleNeg mant base a) (-(((shamtBase + a / shamtDiv) * nbit : Nat) : Int))
    _ _ (Nat.pow_pos hb1) (scaleNeg_first_lt mant base a hb1 hb) hl (scaleNeg_topnz mant base a hb1 hb hi hnz)
    (scaleNeg_length mant base a hb1 hb hi hnz) hu
  refine ⟨G, ?_, hS⟩
  have h2 := shamt_ge a
  generalize shamtBase + a / shamtDiv = S at he h2 ⊢
  rw [he, nbit_eq]
  push_cast
  omega

end JanetModel.Strtod
