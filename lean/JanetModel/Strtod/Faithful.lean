/- C13: the stage theorems of `convert` assembled: what it returns case by case (`convert_cases`), and that the returned
   pattern is `Adjacent` to the exact value `mant · base^exponent` (`convert_adjacent`). -/
import JanetModel.Strtod.Approx

namespace JanetModel.Strtod
open JanetModel.Gen.Strtod

/-- value of the sign-less bit pattern `k ≤ infBits`, in units of 2^−1074 (a natural number).  The pattern of +inf counts
    as 2^1024 (the overflow threshold of the faithful rule). -/
def ulps (k : Nat) : Nat := (decodeBits k).1 * 2 ^ ((decodeBits k).2 + 1074).toNat

/-- `mag` (a sign-less pattern, at most that of +inf) is *the* double of value `N/D` (units 2^−1074) if there is one, and
    otherwise one of the two doubles adjacent to `N/D`:  every double strictly below `mag` is strictly below `N/D`, and
    every double strictly above `mag` is strictly above `N/D` — so no double lies strictly between the result and the
    exact value, and none equals the exact value unless the result does. -/
def Adjacent (mag N D : Nat) : Prop :=
  mag ≤ infBits ∧ (∀ k, k ≤ infBits → ulps k < ulps mag → ulps k * D < N) ∧
    (∀ k, k ≤ infBits → ulps mag < ulps k → N < ulps k * D)

theorem Adjacent.exact {mag N D : Nat} (h : Adjacent mag N D) (k : Nat) (hk : k ≤ infBits) (hv : ulps k * D = N) :
    ulps mag = ulps k := by
  obtain ⟨_, hb, ha⟩ := h
  rcases Nat.lt_trichotomy (ulps k) (ulps mag) with c | c | c
  · have := hb k hk c; omega
  · exact c.symm
  · have := ha k hk c; omega

theorem Adjacent.congr {mag N D N' D' : Nat} (h : Adjacent mag N D) (hD' : 0 < D')
    (hx : N * D' = N' * D) : Adjacent mag N' D' := by
  obtain ⟨hle, hb, ha⟩ := h
  refine ⟨hle, fun k hk hu => ?_, fun k hk hu => ?_⟩
  · have h1 := hb k hk hu
    have h2 : ulps k * D * D' < N * D' := Nat.mul_lt_mul_of_pos_right h1 hD'
    rw [hx] at h2
    have h3 : ulps k * D' * D < N' * D := by rw [Nat.mul_right_comm]; exact h2
    exact Nat.lt_of_mul_lt_mul_right h3
  · have h1 := ha k hk hu
    have h2 : N * D' < ulps k * D * D' := Nat.mul_lt_mul_of_pos_right h1 hD'
    rw [hx] at h2
    have h3 : N' * D < ulps k * D' * D := by rw [Nat.mul_right_comm]; exact h2
    exact Nat.lt_of_mul_lt_mul_right h3

theorem ulps_eq (k : Nat) :
    ulps k = if k / 4503599627370496 % 2048 = 0 then k % 4503599627370496
      else (k % 4503599627370496 + 4503599627370496) * 2 ^ (k / 4503599627370496 % 2048 - 1) := by
  unfold ulps decodeBits
  by_cases h : k / 4503599627370496 % 2048 = 0
  · simp only [h, if_true]
    simp
  · simp only [h, if_false]
    have : (((k / 4503599627370496 % 2048 : Nat) : Int) - 1075 + 1074).toNat = k / 4503599627370496 % 2048 - 1 := by omega
    rw [this]

theorem ulps_form (k : Nat) : ∃ m g : Nat, ulps k = m * 2 ^ g ∧ m < 2 ^ 53 := by
  rw [ulps_eq]
  by_cases h : k / 4503599627370496 % 2048 = 0
  · rw [if_pos h]
    exact ⟨k % 4503599627370496, 0, by simp, by omega⟩
  · rw [if_neg h]
    exact ⟨_, _, rfl, by omega⟩

theorem ulps_small (k : Nat) (hk : k ≤ 2 ^ 52) : ulps k = k := by
  rw [ulps_eq]
  by_cases h : k / 4503599627370496 % 2048 = 0
  · rw [if_pos h]; omega
  · rw [if_neg h, show k / 4503599627370496 % 2048 = 1 by omega, Nat.sub_self, pow_zero, Nat.mul_one]
    omega

theorem ulps_inf : ulps infBits = 2 ^ 52 * 2 ^ 2046 := by
  have h1 : infBits / 4503599627370496 % 2048 = 2047 := by decide
  have h2 : infBits % 4503599627370496 = 0 := by decide
  rw [ulps_eq, h1, h2, show (2 : Nat) ^ 52 = 4503599627370496 by norm_num]
  simp

/-- every finite double is at most DBL_MAX = (2^53−1)·2^971 = (2^53−1)·2^2045 ulps -/
theorem ulps_finite_le (k : Nat) (hk : k < infBits) : ulps k ≤ (2 ^ 53 - 1) * 2 ^ 2045 := by
  have hk' : k < 0x7FF0000000000000 := hk
  rw [ulps_eq]
  by_cases h : k / 4503599627370496 % 2048 = 0
  · rw [if_pos h]
    exact le_trans (by omega : k % 4503599627370496 ≤ (2 ^ 53 - 1) * 1) (Nat.mul_le_mul_left _ Nat.one_le_two_pow)
  · rw [if_neg h]
    exact Nat.mul_le_mul (by omega) (Nat.pow_le_pow_right (by decide) (by omega))

theorem dblmax_lt_inf : (2 ^ 53 - 1) * 2 ^ 2045 < 2 ^ 52 * 2 ^ 2046 := by
  rw [show (2 : Nat) ^ 52 * 2 ^ 2046 = 2 ^ 53 * 2 ^ 2045 by rw [← pow_add, ← pow_add]]
  exact Nat.mul_lt_mul_of_pos_right (by decide) (Nat.two_pow_pos _)

theorem ulps_le_inf (k : Nat) (hk : k ≤ infBits) : ulps k ≤ ulps infBits := by
  rcases Nat.lt_or_ge k infBits with c | c
  · rw [ulps_inf]
    exact le_of_lt (lt_of_le_of_lt (ulps_finite_le k c) dblmax_lt_inf)
  · rw [Nat.le_antisymm hk c]

theorem decode_normal (k : Nat) (h1 : 2 ^ 52 ≤ k) (h2 : k < infBits) :
    ∃ T : Nat, ∃ q : Int, decodeBits k = (T, q) ∧ 2 ^ 52 ≤ T ∧ T < 2 ^ 53 ∧ -1074 ≤ q ∧ q ≤ 971 ∧
      ulps k = T * 2 ^ (q + 1074).toNat := by
  unfold infBits at h2
  have hd : decodeBits k = (k % 4503599627370496 + 4503599627370496, ((k / 4503599627370496 % 2048 : Nat) : Int) - 1075) := by
    unfold decodeBits
    simp only
    rw [if_neg (by omega)]
  refine ⟨_, _, hd, by omega, by omega, by omega, by omega, ?_⟩
  unfold ulps; rw [hd]

theorem decode_subnormal (k : Nat) (h : k < 2 ^ 52) : decodeBits k = (k, -1074) := by
  unfold decodeBits
  simp only
  rw [if_pos (by omega)]
  congr 1
  omega

theorem ulps_pos (k : Nat) (h0 : 0 < k) (h : k < infBits) : 0 < ulps k := by
  by_cases hn : 2 ^ 52 ≤ k
  · obtain ⟨T, q, _, hT, _, _, _, hu⟩ := decode_normal k hn h
    rw [hu]
    exact Nat.mul_pos (lt_of_lt_of_le (Nat.two_pow_pos 52) hT) (Nat.two_pow_pos _)
  · rw [ulps_small k (by omega)]; exact h0

theorem FaithfulN.below {t N D u : Nat} (hD : 0 < D) (h : FaithfulN t N D) (hu : u < t) : u * D < N := by
  obtain ⟨h1, _⟩ := h.within hD
  have : (u + 1) * D ≤ t * D := Nat.mul_le_mul_right _ hu
  rw [Nat.add_mul, Nat.one_mul] at this
  omega

theorem FaithfulN.above {t N D u : Nat} (hD : 0 < D) (h : FaithfulN t N D) (hu : t < u) : N < u * D := by
  obtain ⟨_, h2⟩ := h.within hD
  have : (t + 1) * D ≤ u * D := Nat.mul_le_mul_right _ hu
  rw [Nat.add_mul, Nat.one_mul] at this
  omega

theorem adjacent_of_count (c N D : Nat) (hD : 0 < D) (hc : c ≤ 2 ^ 52) (hF : FaithfulN c N D) : Adjacent c N D := by
  have hu := ulps_small c hc
  refine ⟨?_, fun k _ h => ?_, fun k _ h => ?_⟩
  · unfold infBits; omega
  · rw [hu] at h; exact hF.below hD h
  · rw [hu] at h; exact hF.above hD h

theorem adjacent_inf (N D : Nat) (h : (2 ^ 53 - 1) * 2 ^ 2045 * D < N) : Adjacent infBits N D := by
  refine ⟨le_refl _, fun k hk hu => ?_, fun k hk hu => absurd hu (not_lt.2 (ulps_le_inf k hk))⟩
  have hlt : k < infBits := lt_of_le_of_ne hk (fun e => by rw [e] at hu; exact lt_irrefl _ hu)
  exact lt_of_le_of_lt (Nat.mul_le_mul_right D (ulps_finite_le k hlt)) h

theorem adjacent_zero (N D : Nat) (h : N < D) : Adjacent 0 N D := by
  have h0 : ulps 0 = 0 := ulps_small 0 (Nat.zero_le _)
  refine ⟨Nat.zero_le _, fun k _ hu => ?_, fun k _ hu => ?_⟩
  · rw [h0] at hu; exact absurd hu (Nat.not_lt_zero _)
  · rw [h0] at hu
    calc N < D := h
      _ = 1 * D := (Nat.one_mul D).symm
      _ ≤ ulps k * D := Nat.mul_le_mul_right D hu

/-- a normalised significand `t ∈ [2^52, 2^53)` on the grid 2^G (G ≥ 0 in ulps): doubles above are at least one grid step
    away; doubles below are one grid step away, or — at the binade edge t = 2^52 — half a step, which the magnitude
    conjunct `(2^54−1)·D ≤ 4·N` (value ≥ 2^52 − ¼) of `extract_faithful_*` covers. -/
theorem adjacent_of_grid (mag t G N D : Nat) (hle : mag ≤ infBits) (hu : ulps mag = t * 2 ^ G) (hD : 0 < D)
    (hlo : 2 ^ 52 ≤ t) (hhi : t < 2 ^ 53) (hF : FaithfulN t N D) (hmag : (2 ^ 54 - 1) * D ≤ 4 * N) :
    Adjacent mag (N * 2 ^ G) D := by
  refine ⟨hle, fun k _ hk => ?_, fun k _ hk => ?_⟩
  · obtain ⟨m, g, hm, hm53⟩ := ulps_form k
    rw [hm, hu] at hk
    rw [hm]
    rcases Nat.lt_or_ge g G with hc | hc
    · obtain ⟨h, rfl⟩ : ∃ h, G = g + 1 + h := ⟨G - g - 1, by omega⟩
      have h1 : m * D ≤ (2 ^ 53 - 1) * D := Nat.mul_le_mul_right D (by omega)
      have h3 : m * D < 2 * N := by omega
      have h4 : m * D * 2 ^ g < 2 * N * 2 ^ g := Nat.mul_lt_mul_of_pos_right h3 (Nat.two_pow_pos _)
      have h5 : 2 * N * 2 ^ g ≤ 2 * N * 2 ^ g * 2 ^ h := Nat.le_mul_of_pos_right _ (Nat.two_pow_pos _)
      calc m * 2 ^ g * D = m * D * 2 ^ g := by ring
        _ < 2 * N * 2 ^ g := h4
        _ ≤ 2 * N * 2 ^ g * 2 ^ h := h5
        _ = N * 2 ^ (g + 1 + h) := by rw [pow_add, pow_add]; ring
    · obtain ⟨h, rfl⟩ := Nat.le.dest hc
      have e1 : m * 2 ^ (G + h) = m * 2 ^ h * 2 ^ G := by rw [pow_add]; ring
      rw [e1] at hk ⊢
      have h1 : m * 2 ^ h < t := Nat.lt_of_mul_lt_mul_right hk
      have h2 := hF.below hD h1
      calc m * 2 ^ h * 2 ^ G * D = m * 2 ^ h * D * 2 ^ G := by ring
        _ < N * 2 ^ G := Nat.mul_lt_mul_of_pos_right h2 (Nat.two_pow_pos _)
  · obtain ⟨m, g, hm, hm53⟩ := ulps_form k
    rw [hm, hu] at hk
    rw [hm]
    rcases Nat.lt_or_ge g G with hc | hc
    · exfalso
      obtain ⟨h, rfl⟩ : ∃ h, G = g + 1 + h := ⟨G - g - 1, by omega⟩
      have e1 : t * 2 ^ (g + 1 + h) = t * 2 * 2 ^ h * 2 ^ g := by rw [pow_add, pow_add]; ring
      rw [e1] at hk
      have h1 : t * 2 * 2 ^ h < m := Nat.lt_of_mul_lt_mul_right hk
      have h2 : t * 2 ≤ t * 2 * 2 ^ h := Nat.le_mul_of_pos_right _ (Nat.two_pow_pos _)
      omega
    · obtain ⟨h, rfl⟩ := Nat.le.dest hc
      have e1 : m * 2 ^ (G + h) = m * 2 ^ h * 2 ^ G := by rw [pow_add]; ring
      rw [e1] at hk ⊢
      have h1 : t < m * 2 ^ h := Nat.lt_of_mul_lt_mul_right hk
      have h2 := hF.above hD h1
      calc N * 2 ^ G < m * 2 ^ h * D * 2 ^ G := Nat.mul_lt_mul_of_pos_right h2 (Nat.two_pow_pos _)
        _ = m * 2 ^ h * 2 ^ G * D := by ring

/-- only the zero pattern is adjacent to the value 0 (used for texts denoting 0: "0", "-0") -/
theorem adjacent_zero_value (mag D : Nat) (h : Adjacent mag 0 D) : mag = 0 := by
  obtain ⟨hle, hb, _⟩ := h
  by_contra hne
  have hpos : 0 < ulps mag := by
    rcases Nat.lt_or_ge mag infBits with c | c
    · exact ulps_pos mag (Nat.pos_of_ne_zero hne) c
    · have : mag = infBits := Nat.le_antisymm hle c
      rw [this, ulps_inf]; exact Nat.mul_pos (Nat.two_pow_pos _) (Nat.two_pow_pos _)
  have h0 : ulps 0 = 0 := ulps_small 0 (Nat.zero_le _)
  have := hb 0 (Nat.zero_le _) (by rw [h0]; exact hpos)
  omega

theorem ldexpBits_le (m : Nat) (e : Int) : ldexpBits m e ≤ infBits := by
  unfold ldexpBits infBits
  by_cases h0 : m = 0
  · rw [if_pos h0]; omega
  rw [if_neg h0]
  simp only
  by_cases h1 : e + (bitLen m : Int) - 1 > 1100
  · rw [if_pos h1]
  rw [if_neg h1]
  split_ifs <;> omega

theorem infBits_lt : infBits < 2 ^ 63 := by decide

theorem decodeBits_inj (a b : Nat) (ha : a < 2 ^ 63) (hb : b < 2 ^ 63) (h : decodeBits a = decodeBits b) : a = b := by
  unfold decodeBits at h
  simp only at h
  split_ifs at h with h1 h2 h2 <;> simp only [Prod.mk.injEq] at h <;> omega

theorem ldexpBits_normalise (m : Nat) (h0 : m ≠ 0) (hm : m < 2 ^ 53) :
    ldexpBits m 0 = ldexpBits (m * 2 ^ (53 - bitLen m)) (-((53 - bitLen m : Nat) : Int)) := by
  obtain ⟨m1, m2⟩ := normalised_shift m h0 hm
  have hl := bitLen_le_53 m hm
  apply decodeBits_inj _ _ (lt_of_le_of_lt (ldexpBits_le _ _) infBits_lt) (lt_of_le_of_lt (ldexpBits_le _ _) infBits_lt)
  rw [ldexp_exact_int m h0 hm, ldexp_exact_normal _ _ m1 m2 (by omega) (by omega)]

/-- `(t, e2)` as produced by `bignat_extract` (normalised, faithful to `N/D` in units 2^e2, with the magnitude
    conjunct) goes through `ldexp` to a pattern adjacent to the exact value `N/D·2^e2` — for EVERY `e2`:
    exact in the normal range, second rounding onto the subnormal grid, overflow to +inf. -/
theorem finish_adjacent (t : Nat) (e2 : Int) (N D : Nat) (hD : 0 < D) (hS : Sig53 t N D) :
    Adjacent (ldexpBits t e2) (N * 2 ^ (e2 + 1074).toNat) (D * 2 ^ (-1074 - e2).toNat) := by
  have hF := hS.faithful hD
  obtain ⟨_, hmag, hlo, hhi⟩ := hS
  have ht0 : t ≠ 0 := by omega
  by_cases h1 : e2 < -1074
  · rw [show (e2 + 1074).toNat = 0 by omega, pow_zero, Nat.mul_one]
    obtain ⟨hF', hb⟩ := ldexp_faithful_subnormal t N D e2 hD ht0 hhi h1 hF
    exact adjacent_of_count _ _ _ (Nat.mul_pos hD (Nat.two_pow_pos _)) hb hF'
  · rw [show (-1074 - e2).toNat = 0 by omega, pow_zero, Nat.mul_one]
    by_cases h2 : e2 ≤ 971
    · have hu : ulps (ldexpBits t e2) = t * 2 ^ (e2 + 1074).toNat := by
        unfold ulps; rw [ldexp_exact_normal t e2 hlo hhi (by omega) h2]
      exact adjacent_of_grid _ t _ N D (ldexpBits_le _ _) hu hD hlo hhi hF hmag
    · obtain ⟨e, rfl⟩ : ∃ e : Nat, e2 = (e : Int) := ⟨e2.toNat, by omega⟩
      rw [ldexp_overflow_bits t e hlo hhi (by omega), show ((e : Int) + 1074).toNat = e + 1074 by omega]
      apply adjacent_inf
      have hv := Nat.mul_lt_mul_of_pos_right (overflow_value_gt_dblmax N D e hD hmag (by omega)) (Nat.two_pow_pos 1074)
      rw [pow_add, ← Nat.mul_assoc]
      rw [show (2 : Nat) ^ 2045 = 2 ^ 971 * 2 ^ 1074 from pow_add 2 971 1074, ← Nat.mul_assoc, Nat.mul_right_comm _ _ D]
      exact hv

theorem convert_eq (neg : Bool) (mant : BigNat) (base : Nat) (ex : Int) :
    convert neg mant base ex =
      if mant.digits.length = 0 ∧ mant.first = 0 then withSign neg 0
      else if exp2Approx mant base ex > hugeThresh then withSign neg infBits
      else if exp2Approx mant base ex < tinyThresh then withSign neg 0
      else withSign neg (ldexpBits (extractParts (scale mant base ex).1 (scale mant base ex).2).1
        (extractParts (scale mant base ex).1 (scale mant base ex).2).2) := rfl

theorem val_zero_of (x : BigNat) (hz : x.digits.length = 0 ∧ x.first = 0) : x.val = 0 := by
  obtain ⟨h1, h2⟩ := hz
  have : x.digits = [] := List.eq_nil_of_length_eq_zero h1
  simp [BigNat.val, this, h2, digitsVal]

/-- `v·2^(31·S')` over `b·2^G` at exponent `e = G − 31·S'` and `v·2^1074` over `b` are the same fraction in ulps -/
theorem grid_align (v b S' G : Nat) (e : Int) (he : e = (G : Int) - 31 * S') :
    v * 2 ^ (31 * S') * 2 ^ (e + 1074).toNat * b = v * 2 ^ 1074 * (b * 2 ^ G * 2 ^ (-1074 - e).toNat) := by
  have hkk : 2 ^ (31 * S') * 2 ^ (e + 1074).toNat = 2 ^ 1074 * 2 ^ G * 2 ^ (-1074 - e).toNat := by
    rw [← Nat.pow_add, ← Nat.pow_add, ← Nat.pow_add,
      show 31 * S' + (e + 1074).toNat = 1074 + G + (-1074 - e).toNat by omega]
  generalize 2 ^ (31 * S') = A at hkk ⊢
  generalize 2 ^ (e + 1074).toNat = Xp at hkk ⊢
  generalize 2 ^ (-1074 - e).toNat = Xm at hkk ⊢
  generalize 2 ^ G = Gg at hkk ⊢
  generalize 2 ^ 1074 = T at hkk ⊢
  calc v * A * Xp * b = v * (A * Xp) * b := by ring
    _ = v * (T * Gg * Xm) * b := by rw [hkk]
    _ = v * T * (b * Gg * Xm) := by ring

/-- what `convert` returns, case by case, against the exact value `mant·base^ex` written as `N/D` in units of 2^−1074
    (`N = mant·base^max(ex,0)·2^1074`, `D = base^max(−ex,0)`): a zero mantissa; the huge short-circuit, only for values of
    at least 2^1024; the tiny one, only for positive values below 2^−1159; otherwise `ldexp` of a normalised nearest
    significand `t` of the same value on the reader's grid. -/
theorem convert_cases (neg : Bool) (mant : BigNat) (base : Nat) (ex : Int) (hi : MantInv mant)
    (hb2 : 2 ≤ base) (hb : base ≤ 36) (hex : ex.natAbs < 2 ^ 31) :
    (convert neg mant base ex = withSign neg 0 ∧ mant.val = 0) ∨
    (convert neg mant base ex = withSign neg infBits ∧
      2 ^ 52 * 2 ^ 2046 * base ^ (-ex).toNat ≤ mant.val * base ^ ex.toNat * 2 ^ 1074) ∨
    (convert neg mant base ex = withSign neg 0 ∧ 0 < mant.val ∧
      mant.val * base ^ ex.toNat * 2 ^ 1074 * 2 ^ 85 < base ^ (-ex).toNat) ∨
    ∃ t e2 N D, convert neg mant base ex = withSign neg (ldexpBits t e2) ∧ 0 < D ∧ Sig53 t N D ∧
      N * 2 ^ (e2 + 1074).toNat * base ^ (-ex).toNat =
        mant.val * base ^ ex.toNat * 2 ^ 1074 * (D * 2 ^ (-1074 - e2).toNat) := by
  have hb1 : 1 ≤ base := by omega
  have hbpos : ∀ n, 0 < base ^ n := fun n => Nat.pow_pos (by omega)
  by_cases hz : mant.digits.length = 0 ∧ mant.first = 0
  · exact Or.inl ⟨by rw [convert_eq, if_pos hz], val_zero_of mant hz⟩
  have hM := val_pos_of_nonzero mant hi hz
  have hT : (2 : Nat) ^ 52 * 2 ^ 2046 = 2 ^ 1024 * 2 ^ 1074 := by rw [← pow_add, ← pow_add]
  right
  by_cases hneg : ex < 0
  · obtain ⟨a, rfl⟩ : ∃ a : Nat, ex = -(a : Int) := ⟨(-ex).toNat, by omega⟩
    have ha : 0 < a := by omega
    have ha31 : a < 2 ^ 31 := by simpa using hex
    rw [show (-(a : Int)).toNat = 0 by omega, show (- -(a : Int)).toNat = a by omega, pow_zero, Nat.mul_one]
    by_cases hh : exp2Approx mant base (-(a : Int)) > hugeThresh
    · refine Or.inl ⟨by rw [convert_eq, if_neg hz, if_pos hh], ?_⟩
      rw [hT, Nat.mul_right_comm]
      exact Nat.mul_le_mul_right _ (huge_sound_neg mant base a hi hz hb2 hb ha ha31 hh)
    by_cases ht : exp2Approx mant base (-(a : Int)) < tinyThresh
    · refine Or.inr (Or.inl ⟨by rw [convert_eq, if_neg hz, if_neg hh, if_pos ht], hM, ?_⟩)
      rw [Nat.mul_assoc, ← pow_add]
      exact tiny_sound_neg_strong mant base a hi hz hb2 hb ha ha31 ht
    · right; right
      obtain ⟨G, he, hS⟩ := extract_faithful_scaleNeg mant base a hb1 hb hi hz
      refine ⟨_, _, _, _, by rw [convert_eq, if_neg hz, if_neg hh, if_neg ht, scale_neg_eq _ _ _ ha],
        Nat.mul_pos (hbpos a) (Nat.two_pow_pos G), hS, ?_⟩
      rw [bigBase_pow]
      exact grid_align mant.val (base ^ a) _ G _ (eq_sub_of_add_eq he)
  · obtain ⟨a, rfl⟩ : ∃ a : Nat, ex = (a : Int) := ⟨ex.toNat, by omega⟩
    have ha31 : a < 2 ^ 31 := by simpa using hex
    rw [show ((a : Int)).toNat = a by omega, show (-(a : Int)).toNat = 0 by omega, pow_zero]
    by_cases hh : exp2Approx mant base (a : Int) > hugeThresh
    · refine Or.inl ⟨by rw [convert_eq, if_neg hz, if_pos hh], ?_⟩
      rw [hT, Nat.mul_one]
      exact Nat.mul_le_mul_right _ (huge_sound_pos mant base a hi hz hb2 hb ha31 hh)
    · right; right
      have hcv := convert_eq neg mant base a
      rw [if_neg hz, if_neg hh, if_neg (tiny_needs_negative mant base a), scale_pos_eq] at hcv
      obtain ⟨hi', hv⟩ := scalePos_facts mant base a hb1 hb hi
      rw [← hv]
      by_cases hd : (scalePos mant base a).digits = []
      · -- one digit: `ldexp((double) first_digit, 0)`, the value itself left-aligned in 53 bits
        rw [extractParts_nil _ _ hd] at hcv
        have hV0 : (scalePos mant base a).val ≠ 0 := by
          rw [hv]; exact Nat.ne_of_gt (Nat.mul_pos hM (hbpos a))
        have hV53 : (scalePos mant base a).val < 2 ^ 53 := by
          rw [BigNat.val, hd, digitsVal, Nat.mul_zero, Nat.add_zero]
          exact lt_trans hi'.first_lt (by decide)
        generalize (scalePos mant base a).val = V at hcv hV0 hV53 ⊢
        obtain ⟨m1, m2⟩ := normalised_shift V hV0 hV53
        have hl := bitLen_le_53 V hV53
        refine ⟨_, _, V * 2 ^ (53 - bitLen V), 1, by rw [hcv, ldexpBits_normalise V hV0 hV53], Nat.one_pos,
          ⟨⟨by omega, by omega⟩, by omega, m1, m2⟩, ?_⟩
        rw [show (-((53 - bitLen V : Nat) : Int) + 1074).toNat = 1074 - (53 - bitLen V) by omega,
          show (-1074 - -((53 - bitLen V : Nat) : Int)).toNat = 0 by omega, pow_zero, Nat.mul_one, Nat.mul_one,
          Nat.mul_one, Nat.mul_assoc, ← pow_add, show 53 - bitLen V + (1074 - (53 - bitLen V)) = 1074 by omega]
      · obtain ⟨G, he, hS⟩ := extract_faithful_pos_core _ hi' hd
        refine ⟨_, _, _, _, hcv, Nat.two_pow_pos G, hS, ?_⟩
        have := grid_align (scalePos mant base a).val 1 1 G (extractParts (scalePos mant base a) 0).2 (by omega)
        rw [Nat.mul_one, Nat.one_mul] at this
        rw [Nat.mul_one]
        exact this

theorem convert_adjacent (neg : Bool) (mant : BigNat) (base : Nat) (ex : Int) (hi : MantInv mant)
    (hb2 : 2 ≤ base) (hb : base ≤ 36) (hex : ex.natAbs < 2 ^ 31) :
    ∃ mag, convert neg mant base ex = withSign neg mag ∧
      Adjacent mag (mant.val * base ^ ex.toNat * 2 ^ 1074) (base ^ (-ex).toNat) := by
  have hbpos : ∀ n, 0 < base ^ n := fun n => Nat.pow_pos (by omega)
  rcases convert_cases neg mant base ex hi hb2 hb hex with
    ⟨hc, hv⟩ | ⟨hc, hv⟩ | ⟨hc, _, hv⟩ | ⟨t, e2, N, D, hc, hD, hS, hx⟩
  · refine ⟨0, hc, ?_⟩
    rw [hv, Nat.zero_mul, Nat.zero_mul]
    exact adjacent_zero _ _ (hbpos _)
  · exact ⟨infBits, hc, adjacent_inf _ _
      (lt_of_lt_of_le (Nat.mul_lt_mul_of_pos_right dblmax_lt_inf (hbpos _)) hv)⟩
  · exact ⟨0, hc, adjacent_zero _ _ (lt_of_le_of_lt (Nat.le_mul_of_pos_right _ (Nat.two_pow_pos 85)) hv)⟩
  · exact ⟨_, hc, (finish_adjacent t e2 N D hD hS).congr (hbpos _) hx⟩

/-- a result adjacent to a value at or above the overflow threshold is the overflow pattern, which is adjacent to every
    such value -/
theorem Adjacent.huge_transfer {mag N D N' D' : Nat} (h : Adjacent mag N D)
    (hN : 2 ^ 52 * 2 ^ 2046 * D ≤ N) (hN' : 2 ^ 52 * 2 ^ 2046 * D' ≤ N') (hD' : 0 < D') : Adjacent mag N' D' := by
  obtain ⟨hle, hb, ha⟩ := h
  rw [← ulps_inf] at hN hN'
  have hmag : ulps mag = ulps infBits := by
    refine Nat.le_antisymm (ulps_le_inf mag hle) (Nat.le_of_not_lt fun hlt => ?_)
    exact Nat.lt_irrefl _ (lt_of_lt_of_le (ha infBits (le_refl _) hlt) hN)
  refine ⟨hle, fun k hk hu => ?_, fun k hk hu => ?_⟩
  · rw [hmag] at hu
    exact lt_of_lt_of_le (Nat.mul_lt_mul_of_pos_right hu hD') hN'
  · rw [hmag] at hu
    exact absurd hu (not_lt.2 (ulps_le_inf k hk))

/-- a result adjacent to a positive value below one ulp (±0 or the smallest subnormal) is adjacent to every such value -/
theorem Adjacent.tiny_transfer {mag N D N' D' : Nat} (h : Adjacent mag N D)
    (hN : N < D) (hN0 : 0 < N') (hN' : N' < D') : Adjacent mag N' D' := by
  obtain ⟨hle, hb, ha⟩ := h
  refine ⟨hle, fun k hk hu => ?_, fun k hk hu => ?_⟩
  · have h1 := hb k hk hu
    have h0 : ulps k = 0 := by
      by_contra hc
      have : 1 * D ≤ ulps k * D := Nat.mul_le_mul_right D (by omega)
      omega
    rw [h0, Nat.zero_mul]; exact hN0
  · have h1 : 1 ≤ ulps k := by omega
    calc N' < D' := hN'
      _ = 1 * D' := (Nat.one_mul _).symm
      _ ≤ ulps k * D' := Nat.mul_le_mul_right D' h1

end JanetModel.Strtod
