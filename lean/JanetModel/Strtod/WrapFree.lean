/- C13: wrap-freedom of the unsigned C arithmetic in strtod.c.  The C-typed model (Strtod/ModelW.lean: every `uint64_t` /
   `uint32_t` intermediate reduced modulo 2^width, widths regenerated from the declarations) coincides with the unbounded
   model on every state the scanner can reach, because digits stay below 2^31, factors and divisors at most 2^31, carries
   and remainders below the factor resp. divisor. -/
import JanetModel.Strtod.ModelW
import JanetModel.Strtod.ScanLemmas
import JanetModel.Strtod.Extract
import JanetModel.Strtod.Plumbing

namespace JanetModel.Strtod
open JanetModel.Gen.Strtod

theorem wrap_eq_mod (bits x : Nat) : wrap bits x = x % 2 ^ bits := by
  unfold wrap
  split
  · rename_i h
    rw [Nat.shiftRight_eq_div_pow] at h
    have : x < 2 ^ bits := by
      by_contra hc
      have : 1 ≤ x / 2 ^ bits := (Nat.one_le_div_iff (Nat.two_pow_pos _)).2 (by omega)
      omega
    exact (Nat.mod_eq_of_lt this).symm
  · rfl

theorem wrap_of_lt {bits x : Nat} (h : x < 2 ^ bits) : wrap bits x = x := by
  rw [wrap_eq_mod]; exact Nat.mod_eq_of_lt h

/-! the regenerated widths are consumed HERE: each lemma fails to build if the declared C type is narrower -/
theorem wrapD {x : Nat} (h : x < 4294967296) : wrap digitBits x = x := wrap_of_lt (by norm_num [digitBits]; exact h)
theorem wrapF {x : Nat} (h : x < 4294967296) : wrap factorBits x = x := wrap_of_lt (by norm_num [factorBits]; exact h)
theorem wrapQ {x : Nat} (h : x < 4294967296) : wrap quotBits x = x := wrap_of_lt (by norm_num [quotBits]; exact h)
theorem wrapC {x : Nat} (h : x < 18446744073709551616) : wrap carryBits x = x :=
  wrap_of_lt (by norm_num [carryBits]; exact h)
theorem wrapV {x : Nat} (h : x < 18446744073709551616) : wrap dividendBits x = x :=
  wrap_of_lt (by norm_num [dividendBits]; exact h)
theorem wrapM {x : Nat} (h : x < 18446744073709551616) : wrap mulBits x = x :=
  wrap_of_lt (by norm_num [mulBits]; exact h)
theorem wrapDM {x : Nat} (h : x < 18446744073709551616) : wrap divMulBits x = x :=
  wrap_of_lt (by norm_num [divMulBits]; exact h)
theorem wrapDv {x : Nat} (h : x < 4294967296) : wrap divisorBits x = x := wrap_of_lt (by norm_num [divisorBits]; exact h)
theorem wrapT {x : Nat} (h : x < 18446744073709551616) : wrap top53Bits x = x :=
  wrap_of_lt (by norm_num [top53Bits]; exact h)

theorem muladdDigitsW_eq (f : Nat) (hf : f ≤ bigBase) (ds : List Nat) (carry : Nat) (hl : AllLt ds) (hc : carry < f) :
    muladdDigitsW f ds carry = muladdDigits f ds carry := by
  induction ds generalizing carry with
  | nil => simp only [muladdDigitsW, muladdDigits, wrap_eq_mod]; rfl
  | cons d r ih =>
    obtain ⟨hd, hr⟩ := AllLt_cons.1 hl
    have hdf : d * f ≤ 2147483647 * 2147483648 := Nat.mul_le_mul (Nat.le_of_lt_succ hd) hf
    have hm : (carry + d * f) % bigBase < 2147483648 := Nat.mod_lt _ bigBase_pos
    have hf' : f ≤ 2147483648 := hf
    simp only [muladdDigitsW, muladdDigits]
    rw [wrapM (x := d * f), wrapC (x := carry + d * f), wrapD (x := (carry + d * f) % bigBase),
      ih _ hr (carry_step hd hc)]
    all_goals omega

theorem bignat_muladdW_eq (x : BigNat) (f term : Nat) (hf : f ≤ bigBase) (ht : term < f) (hi : MantInv x) :
    bignat_muladdW x f term = bignat_muladd x f term := by
  have hf' : f ≤ 2147483648 := hf
  have hxf : x.first * f ≤ 2147483647 * 2147483648 := Nat.mul_le_mul (Nat.le_of_lt_succ hi.first_lt) hf
  have hm : (x.first * f + term) % bigBase < 2147483648 := Nat.mod_lt _ bigBase_pos
  unfold bignat_muladdW bignat_muladd
  simp only
  rw [wrapF (x := f), wrapF (x := term), wrapM (x := x.first * f), wrapM (x := x.first * f + term),
    wrapC (x := x.first * f + term), wrapD (x := (x.first * f + term) % bigBase),
    muladdDigitsW_eq f hf _ _ hi.allLt (first_carry hi.first_lt ht)]
  all_goals omega

/-- one step of the long division: `remainder < divisor ≤ 2^31`, incoming digit `< 2^31` ⇒ the 64-bit dividend does not
    wrap and quotient and remainder fit 32 (even 31) bits -/
theorem div_step (dv rem lo : Nat) (hdv : 0 < dv) (hle : dv ≤ 2147483648) (hrem : rem < dv) (hlo : lo < 2147483648) :
    wrap dividendBits (wrap divMulBits (wrap divMulBits (rem * bigBase) + lo)) = rem * bigBase + lo ∧
    (rem * bigBase + lo) / dv < 2147483648 ∧ (rem * bigBase + lo) % dv < 2147483648 := by
  have hrb : rem * bigBase ≤ 2147483647 * 2147483648 := Nat.mul_le_mul (by omega) (le_refl _)
  refine ⟨?_, ?_, lt_of_lt_of_le (Nat.mod_lt _ hdv) hle⟩
  · rw [wrapDM (x := rem * bigBase), wrapDM (x := rem * bigBase + lo), wrapV (x := rem * bigBase + lo)]
    all_goals omega
  · rw [Nat.div_lt_iff_lt_mul hdv]
    have h1 : (rem + 1) * bigBase ≤ dv * 2147483648 := Nat.mul_le_mul_right _ hrem
    rw [Nat.add_mul, Nat.one_mul] at h1
    have hB := bigBase_val
    omega

theorem divDigitsW_eq (dv : Nat) (hdv : 0 < dv) (hle : dv ≤ bigBase) (ds : List Nat) (hl : AllLt ds) :
    divDigitsW dv ds = divDigits dv ds := by
  induction ds with
  | nil => rfl
  | cons d r ih =>
    obtain ⟨hd, hr⟩ := AllLt_cons.1 hl
    obtain ⟨e1, e2, e3⟩ := div_step dv (divDigits dv r).2 d hdv hle (divDigits_rem_lt dv hdv r) hd
    simp only [divDigitsW, divDigits]
    rw [ih hr, e1, wrapQ (x := _ / dv), wrapQ (x := _ % dv)]
    all_goals omega

theorem bignat_divW_eq (x : BigNat) (dv : Nat) (hdv : 0 < dv) (hle : dv ≤ bigBase) (hf : x.first < bigBase)
    (hl : AllLt x.digits) : bignat_divW x dv = bignat_div x dv := by
  have hle' : dv ≤ 2147483648 := hle
  unfold bignat_divW bignat_div
  simp only
  rw [wrapDv (x := dv) (by omega)]
  cases hdg : x.digits with
  | nil =>
    obtain ⟨e1, e2, _⟩ := div_step dv 0 x.first hdv hle hdv hf
    simp only
    rw [e1, wrapD (x := _ / dv), Nat.zero_mul, Nat.zero_add]
    omega
  | cons d0 rest =>
    rw [hdg] at hl
    obtain ⟨hd0, hrest⟩ := AllLt_cons.1 hl
    obtain ⟨e1, _, e3⟩ := div_step dv (divDigits dv rest).2 d0 hdv hle (divDigits_rem_lt dv hdv rest) hd0
    obtain ⟨e4, e5, _⟩ := div_step dv (((divDigits dv rest).2 * bigBase + d0) % dv) x.first hdv hle (Nat.mod_lt _ hdv) hf
    simp only
    rw [divDigitsW_eq dv hdv hle rest hrest, e1, wrapQ (x := _ % dv), e4, wrapD (x := _ / dv)]
    · exact lt_trans e5 (by decide)
    · exact lt_trans e3 (by decide)

/-- what `bignat_div` needs and preserves -/
def DivInv (x : BigNat) : Prop := x.first < bigBase ∧ AllLt x.digits

theorem lshift_divInv (x : BigNat) (n : Nat) (hi : MantInv x) : DivInv (bignat_lshift_n x n) := by
  unfold bignat_lshift_n
  by_cases hn : n = 0
  · rw [if_pos hn]; exact ⟨hi.first_lt, hi.allLt⟩
  · rw [if_neg hn]
    exact ⟨bigBase_pos, AllLt_replicate_append _ (AllLt_cons.2 ⟨hi.first_lt, hi.allLt⟩)⟩

theorem scaleW_eq (mant : BigNat) (base : Nat) (ex : Int) (hb1 : 1 ≤ base) (hb : base ≤ 36) (hi : MantInv mant) :
    scaleW mant base ex = scale mant base ex ∧ DivInv (scale mant base ex).1 := by
  obtain ⟨⟨p4, h4⟩, ⟨p2, h2⟩, p1, h1⟩ := chain_factors base hb1 hb
  have M := fun f (hf0 : 0 < f) (hf : f ≤ bigBase) => iter_congr (I := MantInv)
    (f := fun m => bignat_muladdW m f 0) (g := fun m => bignat_muladd m f 0)
    (fun x hi => ⟨bignat_muladdW_eq x f 0 hf hf0 hi, muladd_inv x f 0 hf hf0 hi⟩)
  have D := fun dv (hdv : 0 < dv) (hle : dv ≤ bigBase) => iter_congr (I := DivInv)
    (f := fun m => bignat_divW m dv) (g := fun m => bignat_div m dv)
    (fun x hi => ⟨bignat_divW_eq x dv hdv hle hi.1 hi.2, div_first_lt x dv hdv hi.1, div_allLt x dv hdv hle hi.2⟩)
  unfold scaleW scale
  by_cases he : ex ≥ 0
  · rw [if_pos he, if_pos he]
    simp only
    obtain ⟨e1, i1⟩ := M _ p4 h4 (ex.toNat / 4) mant hi
    obtain ⟨e2, i2⟩ := M _ p2 h2 (ex.toNat % 4 / 2) _ i1
    obtain ⟨e3, i3⟩ := M _ p1 h1 (ex.toNat % 2) _ i2
    rw [e1, e2, e3]
    exact ⟨rfl, i3.first_lt, i3.allLt⟩
  · rw [if_neg he, if_neg he]
    simp only
    obtain ⟨e1, i1⟩ := D _ p4 h4 ((-ex).toNat / 4) _ (lshift_divInv mant (shamtBase + (-ex).toNat / shamtDiv) hi)
    obtain ⟨e2, i2⟩ := D _ p2 h2 ((-ex).toNat % 4 / 2) _ i1
    obtain ⟨e3, i3⟩ := D _ p1 h1 ((-ex).toNat % 2) _ i2
    rw [e1, e2, e3]
    exact ⟨rfl, i3⟩

theorem extractPartsW_form (x : BigNat) (e2 : Int) (d1 : Nat) (below : List Nat) (hrev : x.digits.reverse = d1 :: below) :
    extractPartsW x e2 =
      (let t2 := ((wrap top53Bits (wrap top53Bits (sel2 x.first below <<< (window - nbit)) +
                    (sel3 x.first below >>> (2 * nbit - window)))) >>> bitLen (wrap 32 d1))
                  ||| wrap top53Bits (d1 <<< (window - bitLen (wrap 32 d1)))
       let t4 := (if t2 % 2 = 1 then wrap top53Bits (t2 + 1) else t2) >>> 1
       let r := if t4 > mantMax then (t4 >>> 1, e2 + 1) else (t4, e2)
       (r.1, r.2 + ((bitLen (wrap 32 d1) : Int) - mantBits) + nbit * x.digits.length)) := by
  unfold extractPartsW
  rw [hrev]
  cases below with
  | nil => rfl
  | cons b r => cases r <;> rfl

theorem extractPartsW_eq (x : BigNat) (e2 : Int) (hi : DivInv x) : extractPartsW x e2 = extractParts x e2 := by
  cases hr : x.digits.reverse with
  | nil =>
    unfold extractPartsW extractParts
    rw [hr]
    simp only
    rw [wrapT (lt_trans hi.1 (by decide))]
  | cons d1 below =>
    obtain ⟨h1, h2, h3⟩ := sel_lt x d1 below hr hi.1 hi.2
    rw [extractPartsW_form x e2 d1 below hr, extractParts_eq x e2 d1 below hr]
    have hb1 : bitLen d1 ≤ 31 := bitLen_le_31 d1 h1
    rw [bigBase_val] at h1 h2 h3
    have s1 : sel2 x.first below <<< (window - nbit) < 2 ^ 54 := by
      rw [Nat.shiftLeft_eq, window_eq, nbit_eq]; omega
    have s2 : sel3 x.first below >>> (2 * nbit - window) ≤ sel3 x.first below := by
      rw [Nat.shiftRight_eq_div_pow]; exact Nat.div_le_self _ _
    have s3 : d1 <<< (window - bitLen d1) < 2 ^ 54 := by
      rw [Nat.shiftLeft_eq, window_eq]
      by_cases hz : d1 = 0
      · rw [hz]; simp
      · calc d1 * 2 ^ (54 - bitLen d1) < 2 ^ bitLen d1 * 2 ^ (54 - bitLen d1) :=
              Nat.mul_lt_mul_of_pos_right (bitLen_bounds d1 hz).2.1 (Nat.two_pow_pos _)
          _ = 2 ^ 54 := by rw [← pow_add, show bitLen d1 + (54 - bitLen d1) = 54 by omega]
    simp only
    rw [wrap_of_lt (x := d1) (bits := 32) (by omega), wrapT (x := sel2 x.first below <<< _) (by omega),
      wrapT (x := sel2 x.first below <<< _ + _) (by omega), wrapT (x := d1 <<< _) (by omega)]
    have ht2 : ((sel2 x.first below <<< (window - nbit) + sel3 x.first below >>> (2 * nbit - window)) >>> bitLen d1)
        ||| d1 <<< (window - bitLen d1) < 2 ^ 55 := by
      apply Nat.or_lt_two_pow
      · rw [Nat.shiftRight_eq_div_pow]
        exact lt_of_le_of_lt (Nat.div_le_self _ _) (by omega)
      · omega
    rw [wrapT (x := _ + 1) (by omega)]

theorem convertW_eq (neg : Bool) (mant : BigNat) (base : Nat) (ex : Int) (hb1 : 1 ≤ base) (hb : base ≤ 36)
    (hi : MantInv mant) : convertW neg mant base ex = convert neg mant base ex := by
  obtain ⟨es, hinv⟩ := scaleW_eq mant base ex hb1 hb hi
  unfold convertW convert bignat_extractW bignat_extract
  simp only
  rw [es, extractPartsW_eq _ _ hinv]

theorem scanDigitsW_eq (s : List Nat) (st : ScanSt) (hst : StInv st) : scanDigitsW s st = scanDigits s st := by
  induction s generalizing st with
  | nil => rfl
  | cons c rest ih =>
    unfold scanDigitsW scanDigits
    by_cases h46 : c = 46
    · rw [if_pos h46, if_pos h46]
      by_cases hsp : st.seenpoint
      · rw [if_pos hsp, if_pos hsp]
      · rw [if_neg hsp, if_neg hsp]; exact ih _ hst
    rw [if_neg h46, if_neg h46]
    by_cases h38 : c = 38
    · rw [if_pos h38, if_pos h38]
    rw [if_neg h38, if_neg h38]
    by_cases hp : st.base = 16 ∧ (c = 80 ∨ c = 112)
    · rw [if_pos hp, if_pos hp]
    rw [if_neg hp, if_neg hp]
    by_cases he : st.base = 10 ∧ (c = 69 ∨ c = 101)
    · rw [if_pos he, if_pos he]
    rw [if_neg he, if_neg he]
    by_cases hu : c = 95
    · rw [if_pos hu, if_pos hu]
      by_cases hsd : st.seenadigit
      · rw [if_pos hsd, if_pos hsd]; exact ih _ hst
      · rw [if_neg hsd, if_neg hsd]
    rw [if_neg hu, if_neg hu]
    simp only
    by_cases hbad : c > 127 ∨ digitOf c ≥ st.base
    · rw [if_pos hbad, if_pos hbad]
    rw [if_neg hbad, if_neg hbad]
    obtain ⟨hm, hb1, hb36⟩ := hst
    have hlt : digitOf c < st.base := by omega
    have hbb : st.base ≤ bigBase := le_trans hb36 (by decide)
    rw [bignat_muladdW_eq st.mant st.base (digitOf c) hbb hlt hm]
    exact ih _ ⟨muladd_inv st.mant st.base (digitOf c) hbb hlt hm, hb1, hb36⟩

theorem parseBodyW_eq (neg : Bool) (b : Nat) (s2 : List Nat) (hb : 1 ≤ b ∧ b ≤ 36) :
    parseBodyW neg b s2 = parseBody neg b s2 := by
  unfold parseBodyW parseBody
  simp only
  generalize hst : (⟨b, b, 0, false, false, false, BigNat.zero⟩ : ScanSt) = st0
  cases hz : skipZeros s2 st0 with
  | none => rfl
  | some r =>
    obtain ⟨s3, st1⟩ := r
    subst hst
    simp only
    rw [scanDigitsW_eq s3 st1 (skipZeros_stInv s2 _ s3 st1 hz ⟨zero_inv, hb.1, hb.2⟩)]
    rfl

theorem parseNumberW_eq (str : List Nat) (base0 : Nat) (hb : base0 ≤ 36) : parseNumberW str base0 = parseNumber str base0 := by
  unfold parseNumberW parseNumber
  cases hh : numHeader str base0 with
  | none => rfl
  | some r =>
    obtain ⟨neg, b, s2⟩ := r
    simp only
    obtain ⟨hb1, hb36, _⟩ := numHeader_spec str base0 hb neg b s2 hh
    exact parseBodyW_eq neg b s2 ⟨hb1, hb36⟩

/-- the C-typed model of `janet_scan_number_base` returns, on EVERY byte string and every radix parameter ≤ 36, exactly
    what the unbounded model returns: no `uint64_t` / `uint32_t` intermediate of `bignat_muladd`, `bignat_div`,
    `bignat_extract` wraps on any reachable state. -/
theorem scanNumberBaseW_eq (str : List Nat) (base0 : Nat) (hb : base0 ≤ 36) :
    scanNumberBaseW str base0 = scanNumberBase str base0 := by
  unfold scanNumberBaseW scanNumberBase
  rw [parseNumberW_eq str base0 hb]
  cases hp : parseNumber str base0 with
  | none => rfl
  | some p =>
    obtain ⟨hi, h1, h36⟩ := parseNumber_inv str base0 hb p hp
    simp only [Option.map]
    rw [convertW_eq p.neg p.mant p.base p.ex h1 h36 hi]

end JanetModel.Strtod
