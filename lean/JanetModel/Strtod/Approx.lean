/- C13: soundness of the two numeric short-circuits of `convert` (`exp2_approx > 1176` → ±inf, `< -1175` → ±0),
   including the floating-point term `floor(log2(base) * exponent)`.
   They use `Log2Within1Ulp base`: the libm value `log2((double) base)` recorded in Gen/Strtod.lean is within one unit in
   the last place of the true logarithm — proved for the recorded table, base 2..36, in Log2Cert.lean. -/
import JanetModel.Strtod.Ldexp
import JanetModel.Strtod.Log2Cert

namespace JanetModel.Strtod
open JanetModel.Gen.Strtod

theorem log2Table_shape : ∀ b : Fin 37, 2 ≤ b.val →
    2 ^ 52 ≤ (log2Entry b.val).1 ∧ (log2Entry b.val).1 < 2 ^ 53 ∧
    -52 ≤ (log2Entry b.val).2 ∧ (log2Entry b.val).2 ≤ -50 := by decide +kernel

theorem pow_root_lower (b a K c m : Nat) (hK : K ≠ 0) (hlow : 2 ^ c ≤ b ^ K) (hm : m * K ≤ c * a) : 2 ^ m ≤ b ^ a := by
  by_contra hc
  have hlt : b ^ a < 2 ^ m := Nat.lt_of_not_le hc
  have h1 : (b ^ a) ^ K < (2 ^ m) ^ K := Nat.pow_lt_pow_left hlt hK
  have h2 : (2 ^ m) ^ K ≤ 2 ^ (c * a) := by rw [← pow_mul]; exact Nat.pow_le_pow_right (by decide) hm
  have h3 : 2 ^ (c * a) ≤ (b ^ K) ^ a := by rw [pow_mul]; exact Nat.pow_le_pow_left hlow a
  have h4 : (b ^ K) ^ a = (b ^ a) ^ K := by rw [← pow_mul, ← pow_mul, Nat.mul_comm]
  rw [h4] at h3
  exact absurd (lt_of_lt_of_le h1 (le_trans h2 h3)) (lt_irrefl _)

theorem pow_root_upper (b a K c m : Nat) (hK : K ≠ 0) (hup : b ^ K ≤ 2 ^ c) (hm : c * a ≤ m * K) : b ^ a ≤ 2 ^ m := by
  by_contra hc
  have hlt : 2 ^ m < b ^ a := Nat.lt_of_not_le hc
  have h1 : (2 ^ m) ^ K < (b ^ a) ^ K := Nat.pow_lt_pow_left hlt hK
  have h4 : (b ^ a) ^ K = (b ^ K) ^ a := by rw [← pow_mul, ← pow_mul, Nat.mul_comm]
  have h3 : (b ^ K) ^ a ≤ 2 ^ (c * a) := by rw [pow_mul]; exact Nat.pow_le_pow_left hup a
  have h2 : 2 ^ (c * a) ≤ (2 ^ m) ^ K := by rw [← pow_mul]; exact Nat.pow_le_pow_right (by decide) hm
  rw [h4] at h1
  exact absurd (lt_of_lt_of_le h1 (le_trans h3 h2)) (lt_irrefl _)

/-- facts about `mulFloorMag lm le a` for a 53-bit `lm`, −52 ≤ le ≤ −50 and a < 2^31, with K = 2^(−le): there is the
    rounded product `r2` (in units of 1/K) with q·K ≤ r2 < (q+1)·K, r2 = q·K when no fraction was dropped, and
    |r2 − lm·a| ≤ 2^31 (rounding error of the double multiplication, crude). -/
theorem mulFloorMag_facts (lm : Nat) (le : Int) (a : Nat) (hlm : lm < 2 ^ 53) (hle1 : -52 ≤ le) (hle2 : le ≤ -50)
    (ha : a < 2 ^ 31) :
    ∃ r2 : Nat, (mulFloorMag lm le a).1 * 2 ^ (-le).toNat ≤ r2 ∧ r2 < ((mulFloorMag lm le a).1 + 1) * 2 ^ (-le).toNat ∧
      ((mulFloorMag lm le a).2 = false → r2 = (mulFloorMag lm le a).1 * 2 ^ (-le).toNat) ∧
      r2 ≤ lm * a + 2 ^ 31 ∧ lm * a ≤ r2 + 2 ^ 31 := by
  unfold mulFloorMag
  simp only
  by_cases hp : lm * a = 0
  · rw [if_pos hp]
    refine ⟨0, by simp, by simp [Nat.two_pow_pos], fun _ => by simp, by omega, by omega⟩
  · rw [if_neg hp]
    have hp84 : lm * a < 2 ^ 84 := by
      calc lm * a < 2 ^ 53 * 2 ^ 31 := Nat.mul_lt_mul'' hlm ha
        _ = 2 ^ 84 := by norm_num
    have hl := bitLen_le_of_lt _ 84 hp84
    set p := lm * a with hpdef
    set s := bitLen p - 53 with hs
    have hs31 : s ≤ 31 := by omega
    have hneg : ¬ (le + (s : Int) ≥ 0) := by omega
    rw [if_neg hneg]
    simp only
    obtain ⟨k, hk⟩ : ∃ k : Nat, (-(le + (s : Int))).toNat = k := ⟨_, rfl⟩
    have hkK : (-le).toNat = k + s := by omega
    rw [hk, hkK]
    set r := rneShift p s with hr
    have hK : 2 ^ (k + s) = 2 ^ k * 2 ^ s := pow_add 2 k s
    have hpk : 0 < 2 ^ k := Nat.two_pow_pos _
    have hps : 0 < 2 ^ s := Nat.two_pow_pos _
    have hps31 : 2 ^ s ≤ 2 ^ 31 := Nat.pow_le_pow_right (by decide) hs31
    have hq1 : r / 2 ^ k * 2 ^ k ≤ r := Nat.div_mul_le_self r (2 ^ k)
    have hq2 : r < (r / 2 ^ k + 1) * 2 ^ k := Nat.mul_comm _ _ ▸ Nat.lt_mul_div_succ r hpk
    have hpd1 : p / 2 ^ s * 2 ^ s ≤ p := Nat.div_mul_le_self p (2 ^ s)
    have hpd2 : p < (p / 2 ^ s + 1) * 2 ^ s := Nat.mul_comm _ _ ▸ Nat.lt_mul_div_succ p hps
    simp only [Nat.shiftRight_eq_div_pow]
    refine ⟨r * 2 ^ s, ?_, ?_, ?_, ?_, ?_⟩
    · rw [hK, ← Nat.mul_assoc]; exact Nat.mul_le_mul_right _ hq1
    · rw [hK, ← Nat.mul_assoc]; exact Nat.mul_lt_mul_of_pos_right hq2 hps
    · intro hfr
      have hz : r % 2 ^ k = 0 := by
        by_contra hne
        simp [hne] at hfr
      have := Nat.div_mul_cancel (Nat.dvd_of_mod_eq_zero hz)
      rw [hK, ← Nat.mul_assoc, this]
    · rcases rneShift_cases p s with h | ⟨h, _⟩
      · rw [hr, h]; omega
      · rw [hr, h, Nat.add_mul]; omega
    · rcases rneShift_cases p s with h | ⟨h, _⟩
      · rw [hr, h]
        have : p < p / 2 ^ s * 2 ^ s + 2 ^ s := by rw [Nat.add_mul] at hpd2; omega
        omega
      · rw [hr, h]; omega

/-- a BigNat of `n` array digits with a non-zero top digit is at least `2^(31·n)` -/
theorem two_pow_digits_le (x : BigNat) (hi : MantInv x) (hnz : ¬ (x.digits.length = 0 ∧ x.first = 0)) :
    2 ^ (x.digits.length * 31) ≤ x.val := by
  have hB : ∀ k, bigBase ^ k = 2 ^ (k * 31) := fun k => by rw [bigBase_pow, Nat.mul_comm]
  cases hd : x.digits with
  | nil => simpa using val_pos_of_nonzero x hi hnz
  | cons d r =>
    have := topnz_val_ge (ds := x.first :: x.digits) (by simp) (by rw [hd, TopNZ_cons_cons, ← hd]; exact hi.topnz)
    rw [← val_def, hB, hd] at this
    simpa using this

theorem mant_estimate (x : BigNat) (hi : MantInv x) (hnz : ¬ (x.digits.length = 0 ∧ x.first = 0)) :
    2 ^ (x.digits.length * approxPerDigit + approxBias) ≤ x.val * 2 ^ 16 ∧
    x.val * 2 ^ 16 < 2 ^ (x.digits.length * approxPerDigit + approxBias + 31) := by
  have hup := digitsVal_lt (AllLt_cons.2 ⟨hi.first_lt, hi.allLt⟩)
  rw [← val_def, bigBase_pow, Nat.mul_comm] at hup
  rw [approxPerDigit_eq, approxBias_eq]
  constructor
  · rw [pow_add]; exact Nat.mul_le_mul_right _ (two_pow_digits_le x hi hnz)
  · have e : x.digits.length * 31 + 16 + 31 = (x.digits.length + 1) * 31 + 16 := by ring
    rw [e, pow_add]
    simp only [List.length_cons] at hup
    exact Nat.mul_lt_mul_of_pos_right hup (by positivity)

/-- the quantity `exp2_approx` of `convert` -/
def exp2Approx (mant : BigNat) (base : Nat) (ex : Int) : Int :=
  ((mant.digits.length * approxPerDigit + approxBias : Nat) : Int) + log2MulFloor base ex

theorem log2MulFloor_nonneg (base a : Nat) :
    log2MulFloor base (a : Int) = ((mulFloorMag (log2Entry base).1 (log2Entry base).2 a).1 : Int) := by
  simp [log2MulFloor]

theorem log2MulFloor_neg (base a : Nat) (ha : 0 < a) :
    log2MulFloor base (-(a : Int)) =
      -(((mulFloorMag (log2Entry base).1 (log2Entry base).2 a).1 : Int) +
        (if (mulFloorMag (log2Entry base).1 (log2Entry base).2 a).2 then 1 else 0)) := by
  have h : ¬ (-(a : Int) ≥ 0) := by omega
  simp only [log2MulFloor, if_neg h, Int.natAbs_neg, Int.natAbs_natCast]
  split <;> simp

theorem log2Entry_shape (base : Nat) (hb2 : 2 ≤ base) (hb : base ≤ 36) :
    2 ^ 52 ≤ (log2Entry base).1 ∧ (log2Entry base).1 < 2 ^ 53 ∧ -52 ≤ (log2Entry base).2 ∧ (log2Entry base).2 ≤ -50 :=
  log2Table_shape ⟨base, by omega⟩ hb2

/-! The floored double product is off from the true `log2(base^a)` by less than 2: the libm entry is within one ulp, the
   product rounding loses at most 2^31 units of 1/K, and `a < 2^31 ≤ K/2^19`.  `r2`: the rounded product in units of 1/K. -/

theorem pow_le_of_units (base a lm K r2 F : Nat) (hK : 2 ^ 50 ≤ K) (ha : a < 2 ^ 31)
    (hup : base ^ K ≤ 2 ^ (lm + 1)) (hr2 : lm * a ≤ r2 + 2 ^ 31) (hF : r2 ≤ F * K) : base ^ a ≤ 2 ^ (F + 1) := by
  apply pow_root_upper base a K (lm + 1) (F + 1) (by omega) hup
  rw [Nat.add_mul, Nat.add_mul, Nat.one_mul, Nat.one_mul]
  omega

theorem pow_ge_of_units (base a lm K r2 F : Nat) (hb1 : 1 ≤ base) (hK : 2 ^ 50 ≤ K) (ha : a < 2 ^ 31) (hlm : 1 ≤ lm)
    (hlo : 2 ^ (lm - 1) ≤ base ^ K) (hr1 : r2 ≤ lm * a + 2 ^ 31) (hF : F * K ≤ r2 + K) : 2 ^ F ≤ 4 * base ^ a := by
  rcases Nat.lt_or_ge F 2 with h2 | h2
  · have h1 : 1 ≤ base ^ a := Nat.one_le_pow _ _ hb1
    have : 2 ^ F ≤ 2 ^ 2 := Nat.pow_le_pow_right (by decide) (by omega)
    omega
  · obtain ⟨m, rfl⟩ : ∃ m, F = m + 2 := ⟨F - 2, by omega⟩
    have hroot : 2 ^ m ≤ base ^ a := by
      apply pow_root_lower base a K (lm - 1) m (by omega) hlo
      have hla : a ≤ lm * a := Nat.le_mul_of_pos_left a hlm
      rw [Nat.add_mul] at hF
      rw [Nat.sub_mul, Nat.one_mul]
      omega
    rw [pow_add]
    omega

theorem log2MulFloor_pos_sound (base a : Nat) (hb2 : 2 ≤ base) (hb : base ≤ 36) (ha : a < 2 ^ 31) :
    ∃ q : Nat, log2MulFloor base (a : Int) = (q : Int) ∧ 2 ^ q ≤ 2 * base ^ a := by
  have hL := log2_table_within_1ulp base hb2 hb
  obtain ⟨hlm1, hlm2, hle1, hle2⟩ := log2Entry_shape base hb2 hb
  obtain ⟨r2, hq1, _, _, hr1, _⟩ := mulFloorMag_facts _ _ a hlm2 hle1 hle2 ha
  refine ⟨_, log2MulFloor_nonneg base a, ?_⟩
  generalize (mulFloorMag (log2Entry base).1 (log2Entry base).2 a).1 = q at hq1 ⊢
  have h := pow_ge_of_units base a _ _ r2 (q + 1) (by omega) (Nat.pow_le_pow_right (by decide) (by omega)) ha
    (le_trans Nat.one_le_two_pow hlm1) hL.1 hr1 (by rw [Nat.add_mul, Nat.one_mul]; omega)
  rw [pow_succ] at h
  omega

theorem log2MulFloor_neg_sound (base a : Nat) (hb2 : 2 ≤ base) (hb : base ≤ 36) (ha0 : 0 < a) (ha : a < 2 ^ 31) :
    ∃ F : Nat, log2MulFloor base (-(a : Int)) = -(F : Int) ∧ base ^ a ≤ 2 ^ (F + 1) ∧ 2 ^ F ≤ 4 * base ^ a := by
  have hL := log2_table_within_1ulp base hb2 hb
  obtain ⟨hlm1, hlm2, hle1, hle2⟩ := log2Entry_shape base hb2 hb
  obtain ⟨r2, hq1, hq2, hq3, hr1, hr2⟩ := mulFloorMag_facts _ _ a hlm2 hle1 hle2 ha
  have hK : 2 ^ 50 ≤ 2 ^ (-(log2Entry base).2).toNat := Nat.pow_le_pow_right (by decide) (by omega)
  have hlm : 1 ≤ (log2Entry base).1 := le_trans Nat.one_le_two_pow hlm1
  rw [log2MulFloor_neg _ _ ha0]
  rw [Nat.add_mul, Nat.one_mul] at hq2
  generalize mulFloorMag (log2Entry base).1 (log2Entry base).2 a = qf at hq1 hq2 hq3 ⊢
  obtain ⟨q, fr⟩ := qf
  dsimp only at hq1 hq2 hq3 ⊢
  cases fr
  · rw [hq3 rfl] at hr1 hr2
    exact ⟨q, by simp, pow_le_of_units base a _ _ _ q hK ha hL.2 hr2 (le_refl _),
      pow_ge_of_units base a _ _ _ q (by omega) hK ha hlm hL.1 hr1 (Nat.le_add_right _ _)⟩
  · exact ⟨q + 1, by simp, pow_le_of_units base a _ _ r2 (q + 1) hK ha hL.2 hr2 (by rw [Nat.add_mul, Nat.one_mul]; omega),
      pow_ge_of_units base a _ _ r2 (q + 1) (by omega) hK ha hlm hL.1 hr1 (by rw [Nat.add_mul, Nat.one_mul]; omega)⟩

theorem huge_sound_pos (mant : BigNat) (base a : Nat) (hi : MantInv mant)
    (hnz : ¬ (mant.digits.length = 0 ∧ mant.first = 0)) (hb2 : 2 ≤ base) (hb : base ≤ 36) (ha : a < 2 ^ 31)
    (happ : exp2Approx mant base (a : Int) > hugeThresh) :
    2 ^ 1024 ≤ mant.val * base ^ a := by
  obtain ⟨q, hq, hpow⟩ := log2MulFloor_pos_sound base a hb2 hb ha
  obtain ⟨hm1, _⟩ := mant_estimate mant hi hnz
  unfold exp2Approx at happ
  rw [hq, hugeThresh_eq] at happ
  generalize mant.digits.length * approxPerDigit + approxBias = A at hm1 happ
  -- 2^1024·2^17 ≤ 2^(A+q) ≤ (mant·2^16)·(2·base^a)
  have h1 : 2 ^ 1024 * 2 ^ 17 ≤ 2 ^ A * 2 ^ q := by
    rw [← pow_add, ← pow_add]; exact Nat.pow_le_pow_right (by decide) (by omega)
  have h2 : 2 ^ A * 2 ^ q ≤ mant.val * base ^ a * 2 ^ 17 :=
    le_trans (Nat.mul_le_mul hm1 hpow) (le_of_eq (by ring))
  exact Nat.le_of_mul_le_mul_right (le_trans h1 h2) (Nat.two_pow_pos 17)

theorem huge_sound_neg (mant : BigNat) (base a : Nat) (hi : MantInv mant)
    (hnz : ¬ (mant.digits.length = 0 ∧ mant.first = 0)) (hb2 : 2 ≤ base) (hb : base ≤ 36) (ha0 : 0 < a) (ha : a < 2 ^ 31)
    (happ : exp2Approx mant base (-(a : Int)) > hugeThresh) :
    2 ^ 1024 * base ^ a ≤ mant.val := by
  obtain ⟨F, hF, hroot, _⟩ := log2MulFloor_neg_sound base a hb2 hb ha0 ha
  obtain ⟨hm1, _⟩ := mant_estimate mant hi hnz
  unfold exp2Approx at happ
  rw [hF, hugeThresh_eq] at happ
  generalize mant.digits.length * approxPerDigit + approxBias = A at hm1 happ
  -- 2^1024·base^a·2^16 ≤ 2^1024·2^(F+1)·2^16 ≤ 2^A ≤ mant·2^16
  have h1 : 2 ^ 1024 * 2 ^ (F + 1) * 2 ^ 16 ≤ 2 ^ A := by
    rw [← pow_add, ← pow_add]; exact Nat.pow_le_pow_right (by decide) (by omega)
  have h2 : 2 ^ 1024 * base ^ a * 2 ^ 16 ≤ 2 ^ 1024 * 2 ^ (F + 1) * 2 ^ 16 :=
    Nat.mul_le_mul_right _ (Nat.mul_le_mul_left _ hroot)
  exact Nat.le_of_mul_le_mul_right (le_trans h2 (le_trans h1 hm1)) (Nat.two_pow_pos 16)

theorem tiny_needs_negative (mant : BigNat) (base a : Nat) :
    ¬ (exp2Approx mant base (a : Int) < tinyThresh) := by
  unfold exp2Approx
  rw [log2MulFloor_nonneg]
  rw [tinyThresh_eq]
  omega

/-- the tiny short-circuit has 85 bits of slack: it fires only for values below 2^−1159 (far below half the smallest subnormal), so it
    can never swallow a value within half a unit in the 17th digit of a non-zero double (`Close17`, RoundTrip.lean) -/
theorem tiny_sound_neg_strong (mant : BigNat) (base a : Nat) (hi : MantInv mant)
    (hnz : ¬ (mant.digits.length = 0 ∧ mant.first = 0)) (hb2 : 2 ≤ base) (hb : base ≤ 36) (ha0 : 0 < a) (ha : a < 2 ^ 31)
    (happ : exp2Approx mant base (-(a : Int)) < tinyThresh) :
    mant.val * 2 ^ 1159 < base ^ a := by
  obtain ⟨F, hF, _, hroot⟩ := log2MulFloor_neg_sound base a hb2 hb ha0 ha
  obtain ⟨_, hm2⟩ := mant_estimate mant hi hnz
  unfold exp2Approx at happ
  rw [hF, tinyThresh_eq] at happ
  generalize mant.digits.length * approxPerDigit + approxBias = A at hm2 happ
  -- (mant·2^1159)·2^18 = (mant·2^16)·2^1161 < 2^(A+31)·2^1161 ≤ 2^F·2^16 ≤ (4·base^a)·2^16 = base^a·2^18
  have h1 : 2 ^ (A + 31) * 2 ^ 1161 ≤ 2 ^ F * 2 ^ 16 := by
    rw [← pow_add, ← pow_add]; exact Nat.pow_le_pow_right (by decide) (by omega)
  have h2 : mant.val * 2 ^ 16 * 2 ^ 1161 < 2 ^ (A + 31) * 2 ^ 1161 :=
    Nat.mul_lt_mul_of_pos_right hm2 (Nat.two_pow_pos _)
  apply Nat.lt_of_mul_lt_mul_right (a := 2 ^ 18)
  calc mant.val * 2 ^ 1159 * 2 ^ 18 = mant.val * 2 ^ 16 * 2 ^ 1161 := by
        rw [Nat.mul_assoc, Nat.mul_assoc, ← pow_add, ← pow_add]
    _ < 2 ^ F * 2 ^ 16 := lt_of_lt_of_le h2 h1
    _ ≤ 4 * base ^ a * 2 ^ 16 := Nat.mul_le_mul_right _ hroot
    _ = base ^ a * 2 ^ 18 := by ring

theorem tiny_sound_neg (mant : BigNat) (base a : Nat) (hi : MantInv mant)
    (hnz : ¬ (mant.digits.length = 0 ∧ mant.first = 0)) (hb2 : 2 ≤ base) (hb : base ≤ 36) (ha0 : 0 < a) (ha : a < 2 ^ 31)
    (happ : exp2Approx mant base (-(a : Int)) < tinyThresh) :
    mant.val * 2 ^ 1074 < base ^ a :=
  lt_of_le_of_lt (Nat.mul_le_mul_left _ (Nat.pow_le_pow_right (by decide) (by decide)))
    (tiny_sound_neg_strong mant base a hi hnz hb2 hb ha0 ha happ)

end JanetModel.Strtod
