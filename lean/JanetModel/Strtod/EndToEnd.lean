/- C13: `scanNumberBase` (model of `janet_scan_number_base`) end to end against the independent value `denote`. -/
import JanetModel.Strtod.Plumbing
import JanetModel.Strtod.Faithful

namespace JanetModel.Strtod
open JanetModel.Gen.Strtod

/-- when is the exponent clamp harmless for a literal of `len` bytes: the code drops over-long exponent digits
    (`eeSat = 0`) and the literal is short enough that its mantissa cannot cancel the clamped exponent, or the code
    saturates (`else ee = INT32_MAX / 4`) — then for every length the scanner accepts -/
def ClampSafe (len : Nat) : Prop :=
  (eeSat = 0 ∧ 4 * len + 1100 ≤ eeLimit) ∨
  (eeLimit ≤ eeSat ∧ 4 * lenLimit + 1100 ≤ eeSat ∧ eeSat + 4 * lenLimit < 2 ^ 31)

/-- the regenerated clamp saturates, high enough for every length (with `eeSat = 0` this does not build) -/
theorem clampSafe (len : Nat) : ClampSafe len := Or.inr (by decide)

theorem zero_of_val_zero (x : BigNat) (hi : MantInv x) (h : x.val = 0) : x.digits.length = 0 ∧ x.first = 0 := by
  by_contra hc
  have := val_pos_of_nonzero x hi hc
  omega

theorem huge_of_long_exp (M b K cF Z : Nat) (hb2 : 2 ≤ b) (hM1 : 1 ≤ M) (hcF : cF ≤ K) (hZ : K + 1100 ≤ Z) :
    2 ^ 52 * 2 ^ 2046 * b ^ (-((Z : Int) - (cF : Int))).toNat ≤ M * b ^ ((Z : Int) - (cF : Int)).toNat * 2 ^ 1074 := by
  obtain ⟨n, hn⟩ : ∃ n : Nat, ((Z : Int) - (cF : Int)).toNat = 1024 + n := ⟨Z - cF - 1024, by omega⟩
  rw [show (-((Z : Int) - (cF : Int))).toNat = 0 by omega, hn, pow_zero, Nat.mul_one,
    show (2 : Nat) ^ 52 * 2 ^ 2046 = 2 ^ 1024 * 2 ^ 1074 by rw [← pow_add, ← pow_add]]
  apply Nat.mul_le_mul_right
  calc 2 ^ 1024 ≤ 2 ^ (1024 + n) := Nat.pow_le_pow_right (by decide) (by omega)
    _ ≤ b ^ (1024 + n) := Nat.pow_le_pow_left hb2 _
    _ = 1 * b ^ (1024 + n) := (Nat.one_mul _).symm
    _ ≤ M * b ^ (1024 + n) := Nat.mul_le_mul_right _ hM1

theorem tiny_of_long_exp (M b K cF Z : Nat) (hb2 : 2 ≤ b) (hMK : M < b ^ K) (hZ : K + 1100 ≤ Z) :
    2 * (M * b ^ (-(Z : Int) - (cF : Int)).toNat * 2 ^ 1074) ≤ b ^ (-(-(Z : Int) - (cF : Int))).toNat := by
  obtain ⟨n, hn⟩ : ∃ n : Nat, (-(-(Z : Int) - (cF : Int))).toNat = K + 1074 + 1 + n := ⟨Z + cF - K - 1075, by omega⟩
  rw [show (-(Z : Int) - (cF : Int)).toNat = 0 by omega, hn, pow_zero, Nat.mul_one]
  calc 2 * (M * 2 ^ 1074) = M * 2 ^ 1074 * 2 := Nat.mul_comm _ _
    _ ≤ b ^ K * 2 ^ 1074 * 2 := Nat.mul_le_mul_right _ (Nat.mul_le_mul_right _ (Nat.le_of_lt hMK))
    _ ≤ b ^ K * b ^ 1074 * b := Nat.mul_le_mul (Nat.mul_le_mul_left _ (Nat.pow_le_pow_left hb2 _)) hb2
    _ = b ^ (K + 1074 + 1) * 1 := by rw [pow_add, pow_add, pow_one, Nat.mul_one]
    _ ≤ b ^ (K + 1074 + 1) * b ^ n := Nat.mul_le_mul_left _ (Nat.pow_pos (by omega))
    _ = b ^ (K + 1074 + 1 + n) := by rw [← pow_add]

/-- The exponent handed to `convert` is the denoted one unless the mantissa is zero or the exponent clamp was reached; then
    the value under either exponent is at least 2^1024, or positive and at most half of 2^−1074. -/
theorem Accepted.exp_cases {len : Nat} {l : Lit} {p : Parsed} (A : Accepted len l p) :
    p.mant.val = 0 ∨ (2 ≤ p.base ∧ 0 < p.mant.val ∧ (p.ex = l.E ∨
    (∀ E, E = p.ex ∨ E = l.E → 2 ^ 52 * 2 ^ 2046 * p.base ^ (-E).toNat ≤ p.mant.val * p.base ^ E.toNat * 2 ^ 1074) ∨
    (∀ E, E = p.ex ∨ E = l.E → 2 * (p.mant.val * p.base ^ E.toNat * 2 ^ 1074) ≤ p.base ^ (-E).toNat))) := by
  obtain ⟨K, cF, Y, X, eneg, hpex, hlE, hcF, hK, hMK, hYK, hrel⟩ := A.exp
  rw [← A.base, ← A.mant] at hMK
  by_cases hb2 : 2 ≤ p.base
  · by_cases hM0 : p.mant.val = 0
    · exact Or.inl hM0
    have hM1 : 1 ≤ p.mant.val := by omega
    refine Or.inr ⟨hb2, hM1, ?_⟩
    rcases hrel with hYX | ⟨hX, hY1, hY2⟩
    · left; rw [hpex, hlE, hYX]
    right
    have hX' := hX hb2
    have hY' : K + 1100 ≤ Y := by
      have h2 := clamp_facts.2.2.1
      have h3 := A.short
      rcases hY2 with h0 | h0
      · exact absurd h0 clamp_facts.1
      · omega
    cases eneg
    · left
      simp only [Bool.false_eq_true, if_false] at hpex hlE
      rintro E (rfl | rfl)
      · rw [hpex]; exact huge_of_long_exp _ _ K cF Y hb2 hM1 hcF hY'
      · rw [hlE]; exact huge_of_long_exp _ _ K cF X hb2 hM1 hcF hX'
    · right
      simp only [if_true] at hpex hlE
      rintro E (rfl | rfl)
      · rw [hpex]; exact tiny_of_long_exp _ _ K cF Y hb2 hMK hY'
      · rw [hlE]; exact tiny_of_long_exp _ _ K cF X hb2 hMK hX'
  · -- radix 1 (only through base0 = 1 or the `1r` prefix): every digit is 0
    left
    rw [show p.base = 1 by have := A.base_le.1; omega, Nat.one_pow] at hMK
    omega

theorem scan_cases (str : List Nat) (base0 : Nat) (hb : base0 ≤ 36)
    (bits : Nat) (h : scanNumberBase str base0 = some bits) :
    ∃ p, parseNumber str base0 = some p ∧ bits = convert p.neg p.mant p.base p.ex ∧
      Accepted str.length (denote str base0) p := by
  unfold scanNumberBase at h
  cases hp : parseNumber str base0 with
  | none => rw [hp] at h; simp at h
  | some p =>
    rw [hp] at h
    simp only [Option.map_some, Option.some.injEq] at h
    exact ⟨p, rfl, h.symm, parseNumber_spec hb hp⟩

theorem scan_number_adjacent (str : List Nat) (base0 : Nat) (hb : base0 ≤ 36)
    (bits : Nat) (h : scanNumberBase str base0 = some bits) :
    ∃ mag, bits = withSign (denote str base0).neg mag ∧
      Adjacent mag ((denote str base0).M * (denote str base0).b ^ (denote str base0).E.toNat * 2 ^ 1074)
        ((denote str base0).b ^ (-(denote str base0).E).toNat) ∧
      ∃ p, parseNumber str base0 = some p ∧ p.ex.natAbs < 2 ^ 31 := by
  obtain ⟨p, hp, hbits, A⟩ := scan_cases str base0 hb bits h
  obtain ⟨hp1, hp36⟩ := A.base_le
  have hex31 := A.exp.natAbs_lt
  suffices hs : ∃ mag, convert p.neg p.mant p.base p.ex = withSign p.neg mag ∧
      Adjacent mag (p.mant.val * p.base ^ (denote str base0).E.toNat * 2 ^ 1074)
        (p.base ^ (-(denote str base0).E).toNat) by
    obtain ⟨mag, h1, h2⟩ := hs
    rw [A.base, A.mant] at h2
    exact ⟨mag, A.neg ▸ hbits.trans h1, h2, p, hp, hex31⟩
  have hbpos : ∀ n, 0 < p.base ^ n := fun n => Nat.pow_pos hp1
  rcases A.exp_cases with hM0 | ⟨hb2, hMpos, hcase⟩
  · refine ⟨0, by rw [convert_eq, if_pos (zero_of_val_zero p.mant A.inv hM0)], ?_⟩
    rw [hM0, Nat.zero_mul, Nat.zero_mul]
    exact adjacent_zero _ _ (hbpos _)
  · obtain ⟨mag, hc, hadj⟩ := convert_adjacent p.neg p.mant p.base p.ex A.inv hb2 hp36 hex31
    refine ⟨mag, hc, ?_⟩
    rcases hcase with hE | hbig | hsmall
    · rw [← hE]; exact hadj
    · exact hadj.huge_transfer (hbig _ (Or.inl rfl)) (hbig _ (Or.inr rfl)) (hbpos _)
    · have pos : ∀ E : Int, 0 < p.mant.val * p.base ^ E.toNat * 2 ^ 1074 := fun E =>
        Nat.mul_pos (Nat.mul_pos hMpos (hbpos _)) (Nat.two_pow_pos _)
      have h1 := hsmall _ (Or.inl rfl)
      have h2 := hsmall _ (Or.inr rfl)
      have p1 := pos p.ex
      have p2 := pos (denote str base0).E
      exact hadj.tiny_transfer (by omega) p2 (by omega)

end JanetModel.Strtod
