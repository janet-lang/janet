/- C13: a kernel-checked CERTIFICATE that the regenerated libm table `log2Table` (Gen/Strtod.lean: log2((double) b) as
   computed by the libm in use, b = 2..36) is within one unit in the last place of the true logarithm: `Log2Within1Ulp b`
   is a theorem about the table of the current run.

   `Log2Within1Ulp b` says 2^(lm−1) ≤ b^K ≤ 2^(lm+1) with K = 2^50..2^52, far too large to evaluate.  Instead: repeated
   squaring with interval arithmetic on P-bit fixed point numbers.  State (lo, hi, c) with invariant
        lo·2^c ≤ B·2^P ≤ hi·2^c        (lo/2^P ≤ B/2^c ≤ hi/2^P),
   B ↦ B·B is followed by (⌊lo²/2^P⌋, ⌈hi²/2^P⌉, 2c) and one renormalisation.  After j = −le steps B = b^(2^j) = b^K and
   c = ⌊K·log2 b⌋ is compared with lm.  The 35 runs of ≤ 52 steps on 192-bit numbers are evaluated by the kernel. -/
import JanetModel.Strtod.Lemmas

namespace JanetModel.Strtod
open JanetModel.Gen.Strtod

/-- the recorded libm value is within one ulp: with (lm, le) the table entry (value lm·2^le, le < 0) and K = 2^(−le):
    (lm−1)/K ≤ log2(base) ≤ (lm+1)/K, written without logarithms as 2^(lm−1) ≤ base^K ≤ 2^(lm+1). -/
def Log2Within1Ulp (base : Nat) : Prop :=
  2 ^ ((log2Entry base).1 - 1) ≤ base ^ (2 ^ (-(log2Entry base).2).toNat) ∧
  base ^ (2 ^ (-(log2Entry base).2).toNat) ≤ 2 ^ ((log2Entry base).1 + 1)

def certStep (P : Nat) (s : Nat × Nat × Nat) : Nat × Nat × Nat :=
  let lo := s.1 * s.1 / 2 ^ P
  let hi := (s.2.1 * s.2.1 + (2 ^ P - 1)) / 2 ^ P
  let c := 2 * s.2.2
  if 2 ^ (P + 1) ≤ lo then (lo / 2, (hi + 1) / 2, c + 1) else (lo, hi, c)

def certInit (P b : Nat) : Nat × Nat × Nat := (b * 2 ^ (P - Nat.log2 b), b * 2 ^ (P - Nat.log2 b), Nat.log2 b)

def CInv (P B : Nat) (s : Nat × Nat × Nat) : Prop :=
  s.1 * 2 ^ s.2.2 ≤ B * 2 ^ P ∧ B * 2 ^ P ≤ s.2.1 * 2 ^ s.2.2

theorem certInit_inv (P b : Nat) (h : Nat.log2 b ≤ P) : CInv P b (certInit P b) := by
  unfold CInv certInit
  simp only
  have : b * 2 ^ (P - Nat.log2 b) * 2 ^ Nat.log2 b = b * 2 ^ P := by
    rw [Nat.mul_assoc, ← pow_add, Nat.sub_add_cancel h]
  rw [this]
  exact ⟨le_refl _, le_refl _⟩

theorem certStep_inv (P B : Nat) (s : Nat × Nat × Nat) (h : CInv P B s) : CInv P (B * B) (certStep P s) := by
  obtain ⟨lo, hi, c⟩ := s
  obtain ⟨h1, h2⟩ := h
  simp only at h1 h2
  have hQ : 0 < 2 ^ P := Nat.two_pow_pos _
  have e2c : 2 ^ (2 * c) = 2 ^ c * 2 ^ c := by rw [two_mul, pow_add]
  have e2c1 : 2 ^ (2 * c + 1) = 2 * (2 ^ c * 2 ^ c) := by rw [pow_succ, e2c]; ring
  have L : lo * lo / 2 ^ P * 2 ^ (2 * c) ≤ B * B * 2 ^ P := by
    apply Nat.le_of_mul_le_mul_right _ hQ
    have a1 : lo * lo / 2 ^ P * 2 ^ P ≤ lo * lo := Nat.div_mul_le_self _ _
    have a2 : (lo * 2 ^ c) * (lo * 2 ^ c) ≤ (B * 2 ^ P) * (B * 2 ^ P) := Nat.mul_le_mul h1 h1
    rw [e2c]
    generalize 2 ^ P = Q at *
    generalize 2 ^ c = C at *
    calc lo * lo / Q * (C * C) * Q = (lo * lo / Q * Q) * (C * C) := by ring
      _ ≤ lo * lo * (C * C) := Nat.mul_le_mul_right _ a1
      _ = (lo * C) * (lo * C) := by ring
      _ ≤ (B * Q) * (B * Q) := a2
      _ = B * B * Q * Q := by ring
  have U : B * B * 2 ^ P ≤ (hi * hi + (2 ^ P - 1)) / 2 ^ P * 2 ^ (2 * c) := by
    apply Nat.le_of_mul_le_mul_right _ hQ
    have a1 : hi * hi ≤ (hi * hi + (2 ^ P - 1)) / 2 ^ P * 2 ^ P := by
      have d1 := Nat.div_add_mod (hi * hi + (2 ^ P - 1)) (2 ^ P)
      have d2 := Nat.mod_lt (hi * hi + (2 ^ P - 1)) hQ
      rw [Nat.mul_comm] at d1
      generalize (hi * hi + (2 ^ P - 1)) / 2 ^ P * 2 ^ P = X at *
      generalize (hi * hi + (2 ^ P - 1)) % 2 ^ P = R at *
      omega
    have a2 : (B * 2 ^ P) * (B * 2 ^ P) ≤ (hi * 2 ^ c) * (hi * 2 ^ c) := Nat.mul_le_mul h2 h2
    rw [e2c]
    generalize (hi * hi + (2 ^ P - 1)) / 2 ^ P = H' at *
    generalize 2 ^ P = Q at *
    generalize 2 ^ c = C at *
    calc B * B * Q * Q = (B * Q) * (B * Q) := by ring
      _ ≤ (hi * C) * (hi * C) := a2
      _ = hi * hi * (C * C) := by ring
      _ ≤ H' * Q * (C * C) := Nat.mul_le_mul_right _ a1
      _ = H' * (C * C) * Q := by ring
  unfold certStep CInv
  simp only
  split
  · simp only
    rw [e2c1]
    rw [e2c] at L U
    generalize lo * lo / 2 ^ P = lo' at *
    generalize (hi * hi + (2 ^ P - 1)) / 2 ^ P = hi' at *
    generalize 2 ^ c * 2 ^ c = CC at *
    generalize B * B * 2 ^ P = BB at *
    constructor
    · have : lo' / 2 * (2 * CC) ≤ lo' * CC := by
        calc lo' / 2 * (2 * CC) = (lo' / 2 * 2) * CC := by ring
          _ ≤ lo' * CC := Nat.mul_le_mul_right _ (Nat.div_mul_le_self _ _)
      omega
    · have : hi' * CC ≤ (hi' + 1) / 2 * (2 * CC) := by
        have : hi' ≤ (hi' + 1) / 2 * 2 := by omega
        calc hi' * CC ≤ ((hi' + 1) / 2 * 2) * CC := Nat.mul_le_mul_right _ this
          _ = (hi' + 1) / 2 * (2 * CC) := by ring
      omega
  · exact ⟨L, U⟩

theorem certIter_inv (P : Nat) (j : Nat) : ∀ (B : Nat) (s : Nat × Nat × Nat), CInv P B s →
    CInv P (B ^ (2 ^ j)) (iter (certStep P) j s) := by
  induction j with
  | zero => intro B s h; simpa [iter] using h
  | succ j ih =>
    intro B s h
    have := ih (B * B) (certStep P s) (certStep_inv P B s h)
    have e : (B * B) ^ (2 ^ j) = B ^ (2 ^ (j + 1)) := by
      rw [← pow_two, ← pow_mul, pow_succ, Nat.mul_comm]
    rw [e] at this
    exact this

/-- the final comparison: plain `Nat` tests on the certificate state (2^c is never formed) -/
def certOK (P b : Nat) : Bool :=
  let e := log2Entry b
  let f := iter (certStep P) (-e.2).toNat (certInit P b)
  decide (Nat.log2 b ≤ P ∧ 2 ^ P ≤ f.1 ∧ f.2.1 ≤ 2 ^ (P + 1) ∧ e.1 - 1 ≤ f.2.2 ∧ f.2.2 ≤ e.1)

theorem certOK_sound (P b : Nat) (h : certOK P b = true) : Log2Within1Ulp b := by
  unfold certOK at h
  simp only [decide_eq_true_eq] at h
  obtain ⟨hl, hlo, hhi, hc1, hc2⟩ := h
  have hinv := certIter_inv P (-(log2Entry b).2).toNat b _ (certInit_inv P b hl)
  generalize iter (certStep P) (-(log2Entry b).2).toNat (certInit P b) = f at *
  obtain ⟨lo, hi, c⟩ := f
  obtain ⟨i1, i2⟩ := hinv
  simp only at hlo hhi hc1 hc2 i1 i2
  unfold Log2Within1Ulp
  generalize b ^ 2 ^ (-(log2Entry b).2).toNat = B at *
  generalize (log2Entry b).1 = lm at *
  have hQ : 0 < 2 ^ P := Nat.two_pow_pos _
  constructor
  · apply Nat.le_of_mul_le_mul_right _ hQ
    calc 2 ^ (lm - 1) * 2 ^ P ≤ 2 ^ c * lo := Nat.mul_le_mul (Nat.pow_le_pow_right (by decide) hc1) hlo
      _ = lo * 2 ^ c := Nat.mul_comm _ _
      _ ≤ B * 2 ^ P := i1
  · apply Nat.le_of_mul_le_mul_right _ hQ
    calc B * 2 ^ P ≤ hi * 2 ^ c := i2
      _ ≤ 2 ^ (P + 1) * 2 ^ c := Nat.mul_le_mul_right _ hhi
      _ = 2 ^ (c + 1) * 2 ^ P := by rw [pow_succ, pow_succ]; ring
      _ ≤ 2 ^ (lm + 1) * 2 ^ P := Nat.mul_le_mul_right _ (Nat.pow_le_pow_right (by decide) (by omega))

theorem certOK_all : ∀ b : Fin 37, 2 ≤ b.val → certOK 192 b.val = true := by decide +kernel

/-- the libm values `log2((double) b)`, b = 2..36, recorded for this run are within one ulp of the true logarithms -/
theorem log2_table_within_1ulp (b : Nat) (h2 : 2 ≤ b) (h36 : b ≤ 36) : Log2Within1Ulp b :=
  certOK_sound 192 b (certOK_all ⟨b, by omega⟩ h2)

end JanetModel.Strtod
