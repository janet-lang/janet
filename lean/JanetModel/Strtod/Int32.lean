/- C13: the signed `int` / `int32_t` intermediates of `convert` stay in range for every accepted literal.  Those that depend
   only on the scanner's output come first; on the negative-exponent branch: `shamt * BIGNAT_NBIT`, `bignat_extra`'s `2 * newn` (reached through `bignat_lshift_n(mant, shamt)`), and
   `BIGNAT_NBIT * n` in `bignat_extract`.

   Why they are in range: `shamt = 5 + a/4` with `a = -exponent`, and `a` can be as large as 36·(INT32_MAX/40) — far too
   large — but then the tiny short-circuit `exp2_approx < -1175` fires first.  When it does not fire, the floored double
   product `floor(log2(base)·(−a))` is at least `−(31·n + 1191)`, and it is within 2 of the true logarithm
   (`log2MulFloor_neg_sound`), so
        base^a  ≤  2^(31·n + 1192);
   the mantissa the scanner built has `2^(31·n) ≤ mant < B^len`, B the radix the digits were read in: `base` itself, or
   `base^4 = 16` for the hex-float `p` form (radix-16 digits, `convert` runs in radix 2).  Together
        base^a  <  base^(c·len + 1192),  c ∈ {1, 4}:
   a ≤ 4·len + 1192, so shamt ≤ len + 303 and every product is below 2^31 because len ≤ INT32_MAX/40. -/
import JanetModel.Strtod.WrapFree
import JanetModel.Strtod.Approx

namespace JanetModel.Strtod
open JanetModel.Gen.Strtod

/-! `int` / `int32_t` intermediates of `convert` (signed: overflow would be undefined behaviour, so: in range) -/

/-- the `int32_t` intermediates of `convert` that depend only on the scanner's output stay in range for every accepted
    literal: `mant->n * BIGNAT_NBIT + 16` (computed in `int` before it is widened to `int64_t`), the radix powers
    `base * base * base * base` and `base * base`.
    `shamt * BIGNAT_NBIT` and `bignat_extra`'s `2 * newn` on the negative-exponent branch are bounded through the tiny
    short-circuit (a ≤ 4·len + 1192 whenever it does not fire): `convert_int32_in_range_full` in Strtod/Int32.lean. -/
theorem convert_int32_in_range (str : List Nat) (base0 : Nat) (hb : base0 ≤ 36) (p : Parsed)
    (h : parseNumber str base0 = some p) :
    p.mant.digits.length * approxPerDigit + approxBias < 2 ^ 31 ∧ p.base * p.base * p.base * p.base < 2 ^ 31 ∧
    p.base * p.base < 2 ^ 31 := by
  have A := parseNumber_spec hb h
  have h1 := A.digits
  have h2 := A.short
  have h36 := A.base_le.2
  rw [lenLimit_eq] at h2
  rw [approxPerDigit_eq, approxBias_eq]
  exact ⟨by omega, lt_of_le_of_lt (Nat.mul_le_mul (Nat.mul_le_mul (Nat.mul_le_mul h36 h36) h36) h36) (by decide),
    lt_of_le_of_lt (Nat.mul_le_mul h36 h36) (by decide)⟩

theorem bignat_div_length_le (x : BigNat) (dv : Nat) : (bignat_div x dv).digits.length ≤ x.digits.length := by
  cases hd : x.digits with
  | nil => rw [bignat_div_digits_nil x dv hd]
  | cons d0 rest =>
    rw [bignat_div_digits_cons x dv d0 rest hd]
    have h1 := dropLastZero_length (((divDigits dv rest).2 * bigBase + d0) % dv :: (divDigits dv rest).1)
    have h2 := divDigits_length dv rest
    simp only [List.length_cons] at h1 ⊢
    omega

theorem scaleNeg_length_le (mant : BigNat) (base a : Nat) (hb1 : 1 ≤ base) (hb : base ≤ 36) :
    (scaleNeg mant base a).digits.length ≤ mant.digits.length + (shamtBase + a / shamtDiv) := by
  refine scaleNeg_ind (I := fun x => x.digits.length ≤ mant.digits.length + (shamtBase + a / shamtDiv)) mant base a hb1 hb ?_
    (fun x dv _ _ h => le_trans (bignat_div_length_le x dv) h)
  have hs : 0 < shamtBase + a / shamtDiv := lt_of_lt_of_le (by decide : 0 < shamtBase) (Nat.le_add_right _ _)
  rw [lshift_digits _ _ hs]
  simp only [List.length_append, List.length_replicate, List.length_cons]
  omega

/-- every accepted literal, negative exponent `-a`, zero and tiny short-circuits not taken:
    `a ≤ 4·len + 1192`, and the mantissa has `31·n < 6·len`. -/
theorem convert_neg_branch_bounds (str : List Nat) (base0 : Nat) (hb : base0 ≤ 36) (p : Parsed)
    (h : parseNumber str base0 = some p) (a : Nat) (hex : p.ex = -(a : Int)) (ha0 : 0 < a)
    (hnz : ¬ (p.mant.digits.length = 0 ∧ p.mant.first = 0))
    (hnt : ¬ (exp2Approx p.mant p.base p.ex < tinyThresh)) :
    a ≤ 4 * str.length + 1192 ∧ p.mant.digits.length * 31 < 6 * str.length := by
  have A := parseNumber_spec hb h
  have hp36 := A.base_le.2
  obtain ⟨B, hB1, hB36, hval, hbase⟩ := A.radix
  have ha : a < 2 ^ 31 := by
    have := A.exp.natAbs_lt
    rw [hex] at this; simpa using this
  have hn := two_pow_digits_le p.mant A.inv hnz
  -- radix 1 is impossible with a non-zero mantissa
  have hB2 : 2 ≤ B := by
    by_contra hlt
    have : B = 1 := by omega
    rw [this, one_pow] at hval
    have := Nat.one_le_two_pow (n := p.mant.digits.length * 31)
    omega
  have hp2 : 2 ≤ p.base := by rcases hbase with h | ⟨_, h⟩ <;> omega
  -- the digits were read in `convert`'s radix, or (hex float) in its fourth power
  obtain ⟨c, hc4, hBc⟩ : ∃ c, c ≤ 4 ∧ B = p.base ^ c := by
    rcases hbase with h | ⟨h16, h2⟩
    · exact ⟨1, by decide, by rw [h, pow_one]⟩
    · exact ⟨4, le_refl _, by rw [h16, h2]; rfl⟩
  -- `convert` computed `floor(log2(base)·(−a)) = −F` with `base^a ≤ 2^(F+1)`; the tiny test not firing says `F ≤ 31·n + 1191`
  obtain ⟨F, hF, hroot, _⟩ := log2MulFloor_neg_sound p.base a hp2 hp36 ha0 ha
  rw [hex] at hnt
  unfold exp2Approx at hnt
  rw [hF, tinyThresh_eq, approxPerDigit_eq, approxBias_eq] at hnt
  push_cast at hnt
  have h1 : p.base ^ a < p.base ^ (c * str.length + 1192) :=
    calc p.base ^ a ≤ 2 ^ (F + 1) := hroot
      _ ≤ 2 ^ (p.mant.digits.length * 31) * 2 ^ 1192 := by
          rw [← pow_add]; exact Nat.pow_le_pow_right (by decide) (by omega)
      _ ≤ p.mant.val * 2 ^ 1192 := Nat.mul_le_mul_right _ hn
      _ < B ^ str.length * 2 ^ 1192 := Nat.mul_lt_mul_of_pos_right hval (Nat.two_pow_pos _)
      _ ≤ B ^ str.length * p.base ^ 1192 := Nat.mul_le_mul_left _ (Nat.pow_le_pow_left hp2 _)
      _ = p.base ^ (c * str.length + 1192) := by rw [hBc, ← pow_mul, ← pow_add]
  have h2 := (Nat.pow_lt_pow_iff_right (by omega : 1 < p.base)).1 h1
  have h3 : c * str.length ≤ 4 * str.length := Nat.mul_le_mul_right _ hc4
  refine ⟨by omega, (Nat.pow_lt_pow_iff_right (by decide : 1 < 2)).1 (lt_of_le_of_lt hn (lt_of_lt_of_le hval ?_))⟩
  rw [pow_mul]
  exact Nat.pow_le_pow_left (le_trans hB36 (by decide)) _

/-- the signed `int` intermediates of `convert` and of what it calls stay in range for EVERY accepted literal:
    `mant->n * BIGNAT_NBIT + 16`, the radix powers, and — on the negative-exponent branch, whenever neither the zero nor
    the tiny short-circuit returned first — `shamt * BIGNAT_NBIT` (`exponent2 -= …`), `2 * newn` in `bignat_extra` (called
    by `bignat_lshift_n(mant, shamt)` with `newn = mant->n + shamt`), and `BIGNAT_NBIT * n` in `bignat_extract` on the scaled
    mantissa. -/
theorem convert_int32_in_range_full (str : List Nat) (base0 : Nat) (hb : base0 ≤ 36) (p : Parsed)
    (h : parseNumber str base0 = some p) :
    (p.mant.digits.length * approxPerDigit + approxBias < 2 ^ 31 ∧ p.base * p.base * p.base * p.base < 2 ^ 31 ∧
      p.base * p.base < 2 ^ 31) ∧
    ∀ a : Nat, p.ex = -(a : Int) → 0 < a → ¬ (p.mant.digits.length = 0 ∧ p.mant.first = 0) →
      ¬ (exp2Approx p.mant p.base p.ex < tinyThresh) →
      (shamtBase + a / shamtDiv) * nbit < 2 ^ 31 ∧
      capFactor * (p.mant.digits.length + (shamtBase + a / shamtDiv)) < 2 ^ 31 ∧
      nbit * (scale p.mant p.base p.ex).1.digits.length < 2 ^ 31 := by
  refine ⟨convert_int32_in_range str base0 hb p h, ?_⟩
  intro a hex ha0 hnz hnt
  obtain ⟨hA, hN⟩ := convert_neg_branch_bounds str base0 hb p h a hex ha0 hnz hnt
  have hlen := (parseNumber_spec hb h).short
  rw [lenLimit_eq] at hlen
  obtain ⟨_, h1, h36⟩ := parseNumber_inv str base0 hb p h
  have hlen2 := scaleNeg_length_le p.mant p.base a h1 h36
  rw [hex, scale_neg_eq _ _ _ ha0]
  simp only
  have p31 : (2 : Nat) ^ 31 = 2147483648 := by norm_num
  rw [shamtBase_eq, shamtDiv_eq] at hlen2 ⊢
  rw [nbit_eq, capFactor_eq, p31]
  refine ⟨by omega, by omega, by omega⟩

end JanetModel.Strtod
