/- C13: the end-to-end statement in rational numbers, about the C-typed model `scanNumberBaseW` (what the correspondence
   harness runs), with wrap-freedom, the exponent clamp and the libm table discharged. -/
import JanetModel.Strtod.RoundTrip
import JanetModel.Strtod.WrapFree
import JanetModel.Strtod.Log2Cert
import Mathlib.Tactic.FieldSimp
import Mathlib.Algebra.Order.Field.Basic

namespace JanetModel.Strtod
open JanetModel.Gen.Strtod

/-- the rational value of a sign-less bit pattern `mag ≤ +inf` (the pattern of +inf counts as 2^1024, the overflow
    threshold of the faithful rule) -/
def dval (mag : Nat) : ℚ := (ulps mag : ℚ) / 2 ^ 1074

/-- the magnitude `M·b^E` of a denoted literal, as a rational -/
def Lit.absVal (l : Lit) : ℚ := (l.M : ℚ) * (l.b : ℚ) ^ l.E

theorem absVal_eq (l : Lit) (hb : 0 < l.b) :
    l.absVal = ((l.M * l.b ^ l.E.toNat * 2 ^ 1074 : Nat) : ℚ) / (((l.b ^ (-l.E).toNat : Nat) : ℚ) * 2 ^ 1074) := by
  unfold Lit.absVal
  have hb' : (l.b : ℚ) ≠ 0 := by exact_mod_cast hb.ne'
  rcases le_or_gt 0 l.E with h | h
  · obtain ⟨n, hn⟩ := Int.eq_ofNat_of_zero_le h
    rw [hn]
    have e1 : ((n : Int)).toNat = n := by omega
    have e2 : (-(n : Int)).toNat = 0 := by omega
    rw [e1, e2, zpow_natCast]
    push_cast
    field_simp
  · obtain ⟨n, hn⟩ : ∃ n : Nat, l.E = -(n : Int) := ⟨(-l.E).toNat, by omega⟩
    rw [hn]
    have e1 : (-(n : Int)).toNat = 0 := by omega
    have e2 : (- -(n : Int)).toNat = n := by omega
    rw [e1, e2, zpow_neg, zpow_natCast]
    push_cast
    field_simp

theorem denoteBody_b_pos (neg : Bool) (b : Nat) (s : List Nat) (hb : 0 < b) : 0 < (denoteBody neg b s).b := by
  unfold denoteBody
  simp only
  split
  · exact hb
  · split
    · exact Nat.succ_pos 1
    · exact hb

theorem denote_b_pos (str : List Nat) (base0 : Nat) : 0 < (denote str base0).b := by
  unfold denote
  apply denoteBody_b_pos
  have key : ∀ n : Nat, 0 < (if n = 0 then 10 else n) := fun n => by split <;> omega
  exact key _

theorem dval_lt_iff (a b : Nat) : dval a < dval b ↔ ulps a < ulps b := by
  unfold dval
  rw [div_lt_div_iff_of_pos_right (by positivity)]
  exact Nat.cast_lt

theorem dval_cmp (l : Lit) (hb : 0 < l.b) (k : Nat) :
    (dval k < l.absVal ↔ ulps k * l.b ^ (-l.E).toNat < l.M * l.b ^ l.E.toNat * 2 ^ 1074) ∧
    (l.absVal < dval k ↔ l.M * l.b ^ l.E.toNat * 2 ^ 1074 < ulps k * l.b ^ (-l.E).toNat) ∧
    (dval k = l.absVal ↔ ulps k * l.b ^ (-l.E).toNat = l.M * l.b ^ l.E.toNat * 2 ^ 1074) := by
  rw [absVal_eq l hb]
  unfold dval
  have hD : (0 : ℚ) < ((l.b ^ (-l.E).toNat : Nat) : ℚ) := by exact_mod_cast Nat.pow_pos hb
  have hP : (0 : ℚ) < 2 ^ 1074 := by positivity
  generalize l.M * l.b ^ l.E.toNat * 2 ^ 1074 = N
  generalize l.b ^ (-l.E).toNat = D at *
  refine ⟨?_, ?_, ?_⟩
  · rw [div_lt_div_iff₀ hP (mul_pos hD hP)]
    rw [show (ulps k : ℚ) * ((D : ℚ) * 2 ^ 1074) = ((ulps k * D : Nat) : ℚ) * 2 ^ 1074 by push_cast; ring]
    rw [mul_lt_mul_iff_left₀ hP]
    exact Nat.cast_lt
  · rw [div_lt_div_iff₀ (mul_pos hD hP) hP]
    rw [show (ulps k : ℚ) * ((D : ℚ) * 2 ^ 1074) = ((ulps k * D : Nat) : ℚ) * 2 ^ 1074 by push_cast; ring]
    rw [mul_lt_mul_iff_left₀ hP]
    exact Nat.cast_lt
  · rw [div_eq_div_iff hP.ne' (mul_pos hD hP).ne']
    rw [show (ulps k : ℚ) * ((D : ℚ) * 2 ^ 1074) = ((ulps k * D : Nat) : ℚ) * 2 ^ 1074 by push_cast; ring]
    rw [mul_left_inj' hP.ne']
    exact Nat.cast_inj

/-- END TO END, in rationals, no remaining hypothesis but the radix bound of the API: for every byte string and radix
    parameter ≤ 36 on which the C-typed model of `janet_scan_number_base` succeeds, the returned 64-bit pattern is
    `sign(text) | mag` where `mag ≤ +inf` and, with `v = M·b^E` the magnitude denoted by the text:
    * if SOME double (or the overflow threshold 2^1024 standing for ±inf) has exactly the value `v`, the result has it;
    * no double lies strictly between the result and `v`, on either side: every double below the result is `< v`, every
      double above it is `> v` — so otherwise the result is one of the two doubles adjacent to `v`
      (incl. subnormals on the 2^−1074 grid, ±0 / min-subnormal for `v < 2^−1074`, DBL_MAX / ±inf for `v > DBL_MAX`). -/
theorem scan_end_to_end_q (str : List Nat) (base0 : Nat) (hb : base0 ≤ 36) (bits : Nat)
    (h : scanNumberBaseW str base0 = some bits) :
    ∃ mag, mag ≤ infBits ∧ bits = withSign (denote str base0).neg mag ∧
      (∀ k, k ≤ infBits → dval k = (denote str base0).absVal → dval mag = (denote str base0).absVal) ∧
      (∀ k, k ≤ infBits → dval k < dval mag → dval k < (denote str base0).absVal) ∧
      (∀ k, k ≤ infBits → dval mag < dval k → (denote str base0).absVal < dval k) := by
  rw [scanNumberBaseW_eq str base0 hb] at h
  obtain ⟨mag, hbits, hadj, _⟩ := scan_number_adjacent str base0 hb bits h
  have hbp := denote_b_pos str base0
  generalize denote str base0 = l at *
  refine ⟨mag, hadj.1, hbits, ?_, ?_, ?_⟩
  · intro k hk hv
    have := hadj.exact k hk ((dval_cmp l hbp k).2.2.1 hv)
    rw [← hv]; unfold dval; rw [this]
  · intro k hk hlt
    exact (dval_cmp l hbp k).1.2 (hadj.2.1 k hk ((dval_lt_iff _ _).1 hlt))
  · intro k hk hlt
    exact (dval_cmp l hbp k).2.1.2 (hadj.2.2 k hk ((dval_lt_iff _ _).1 hlt))

theorem int_representable (v : Nat) (h0 : 0 < v) (h : v ≤ 2 ^ 53) : ∃ k, k ≤ infBits ∧ ulps k = v * 2 ^ 1074 := by
  rcases Nat.lt_or_ge v (2 ^ 53) with hlt | hge
  · refine ⟨ldexpBits v 0, ldexpBits_le _ _, ?_⟩
    have hd := ldexp_exact_int v (Nat.ne_of_gt h0) hlt
    have hl := bitLen_le_53 v hlt
    unfold ulps
    rw [hd]
    simp only
    have hx : (-((53 - bitLen v : Nat) : Int) + 1074).toNat = 1074 - (53 - bitLen v) := by omega
    rw [hx, Nat.mul_assoc, ← pow_add, show 53 - bitLen v + (1074 - (53 - bitLen v)) = 1074 by omega]
  · have hv : v = 2 ^ 53 := Nat.le_antisymm h hge
    refine ⟨ldexpBits (2 ^ 52) 1, ldexpBits_le _ _, ?_⟩
    have hd := ldexp_exact_normal (2 ^ 52) 1 (le_refl _) (by decide) (by decide) (by decide)
    unfold ulps
    rw [hd, hv]
    simp only
    rw [show ((1 : Int) + 1074).toNat = 1 + 1074 by rfl, pow_add, ← Nat.mul_assoc]
    norm_num

theorem integer_read_exact_q (str : List Nat) (base0 : Nat) (hb : base0 ≤ 36) (bits : Nat)
    (h : scanNumberBaseW str base0 = some bits) (hE : 0 ≤ (denote str base0).E)
    (h0 : 0 < (denote str base0).M * (denote str base0).b ^ (denote str base0).E.toNat)
    (h53 : (denote str base0).M * (denote str base0).b ^ (denote str base0).E.toNat ≤ 2 ^ 53) :
    ∃ mag, bits = withSign (denote str base0).neg mag ∧
      dval mag = (((denote str base0).M * (denote str base0).b ^ (denote str base0).E.toNat : Nat) : ℚ) := by
  obtain ⟨mag, _, hbits, hex, _, _⟩ := scan_end_to_end_q str base0 hb bits h
  have hbp := denote_b_pos str base0
  generalize denote str base0 = l at *
  obtain ⟨k, hk, hu⟩ := int_representable _ h0 h53
  have hval : l.absVal = ((l.M * l.b ^ l.E.toNat : Nat) : ℚ) := by
    unfold Lit.absVal
    obtain ⟨n, hn⟩ := Int.eq_ofNat_of_zero_le hE
    rw [hn]
    have e1 : ((n : Int)).toNat = n := by omega
    rw [e1, zpow_natCast]
    push_cast
    ring
  have hk' : dval k = l.absVal := by
    rw [hval]
    unfold dval
    rw [hu]
    push_cast
    field_simp
  exact ⟨mag, hbits, by rw [hex k hk hk', hval]⟩

end JanetModel.Strtod
