/- C13: the C-TYPED executable model of the arithmetic in src/core/strtod.c.  CORE LEAN ONLY (linked into jm_c13; this is
   the model the correspondence harness runs against the real code).

   Same functions as Strtod/Model.lean, but every unsigned C intermediate is reduced modulo 2^width exactly where the C
   type system does it (`wrap`): `uint64_t carry / dividend / top53`, `uint32_t` digits, `first_digit`,
   `quotient`, `remainder`, the `uint32_t factor / term / divisor` parameters, the `(uint32_t)` casts (`d1..d3` are read
   from 32-bit digits and are not reduced again; the `clz` operand `(uint32_t) d1` is, with the literal width 32).  The
   other widths are REGENERATED from the declarations and casts in the source (Gen/Strtod.lean: carryBits, dividendBits,
   top53Bits, digitBits, quotBits, factorBits, divisorBits; mulBits / divMulBits = the width in which `digit * factor` /
   `remainder * BASE` are evaluated: 64 with the `(uint64_t)` cast on the operand, 32 without it).  Strtod/WrapFree.lean
   proves that on every state the scanner can reach no reduction ever changes a value (`scanNumberBaseW_eq`), so all theorems about the unbounded model hold for this one. -/
import JanetModel.Strtod.Model

namespace JanetModel.Strtod
open JanetModel.Gen.Strtod

/-- reduction of an unsigned C value of the given width: `x mod 2^bits` (`wrap_eq_mod` in WrapFree.lean).  Written with
    a shift test first so that the compiled driver stays on machine words when nothing is cut off. -/
def wrap (bits x : Nat) : Nat := if x >>> bits = 0 then x else x % 2 ^ bits

/-- loop of `bignat_muladd`: `carry += ((uint64_t) digits[i]) * factor; digits[i] = carry % BASE; carry /= BASE;`
    then `if (carry) bignat_append(mant, (uint32_t) carry)` -/
def muladdDigitsW (factor : Nat) : List Nat → Nat → List Nat
  | [], carry => if carry = 0 then [] else [wrap digitBits carry]
  | d :: rest, carry =>
    let c := wrap carryBits (carry + wrap mulBits (d * factor))
    wrap digitBits (c % bigBase) :: muladdDigitsW factor rest (c / bigBase)

/-- `bignat_muladd(mant, uint32_t factor, uint32_t term)` -/
def bignat_muladdW (x : BigNat) (factor0 term0 : Nat) : BigNat :=
  let factor := wrap factorBits factor0
  let term := wrap factorBits term0
  let c := wrap carryBits (wrap mulBits (wrap mulBits (x.first * factor) + term))
  { first := wrap digitBits (c % bigBase), digits := muladdDigitsW factor x.digits (c / bigBase) }

/-- loop of `bignat_div`: `dividend = ((uint64_t)remainder * BASE) + digits[i]; quotient = (uint32_t)(dividend / divisor);
    remainder = (uint32_t)(dividend % divisor);` -/
def divDigitsW (dv : Nat) : List Nat → List Nat × Nat
  | [] => ([], 0)
  | d :: rest =>
    let qr := divDigitsW dv rest
    let dividend := wrap dividendBits (wrap divMulBits (wrap divMulBits (qr.2 * bigBase) + d))
    (wrap quotBits (dividend / dv) :: qr.1, wrap quotBits (dividend % dv))

/-- `bignat_div(mant, uint32_t divisor)` (keeps the remainder in `digits[0]`, see Model.lean) -/
def bignat_divW (x : BigNat) (dv0 : Nat) : BigNat :=
  let dv := wrap divisorBits dv0
  match x.digits with
  | [] => { first := wrap digitBits (wrap dividendBits (wrap divMulBits (wrap divMulBits (0 * bigBase) + x.first)) / dv), digits := [] }
  | d0 :: rest =>
    let qr := divDigitsW dv rest
    let r0 := wrap quotBits (wrap dividendBits (wrap divMulBits (wrap divMulBits (qr.2 * bigBase) + d0)) % dv)
    { first := wrap digitBits (wrap dividendBits (wrap divMulBits (wrap divMulBits (r0 * bigBase) + x.first)) / dv),
      digits := dropLastZero (r0 :: qr.1) }

/-- (top53, exponent2) of `bignat_extract` with `uint64_t top53, d1, d2, d3` and `clz((uint32_t) d1)` -/
def extractPartsW (x : BigNat) (exponent2 : Int) : Nat × Int :=
  match x.digits.reverse with
  | [] => (wrap top53Bits x.first, exponent2)
  | d1 :: below =>
    let n := x.digits.length
    let d2 := match below with
      | [] => x.first
      | b :: _ => b
    let d3 := match below with
      | [] => 0
      | [_] => x.first
      | _ :: c :: _ => c
    let nbits := bitLen (wrap 32 d1)
    let t0 := wrap top53Bits (wrap top53Bits (d2 <<< (window - nbit)) + (d3 >>> (2 * nbit - window)))
    let t1 := t0 >>> nbits
    let t2 := t1 ||| wrap top53Bits (d1 <<< (window - nbits))
    let t3 := if t2 % 2 = 1 then wrap top53Bits (t2 + 1) else t2
    let t4 := t3 >>> 1
    let (t5, e2) := if t4 > mantMax then (t4 >>> 1, exponent2 + 1) else (t4, exponent2)
    (t5, e2 + ((nbits : Int) - mantBits) + nbit * n)

def bignat_extractW (x : BigNat) (exponent2 : Int) : Nat :=
  let p := extractPartsW x exponent2
  ldexpBits p.1 p.2

/-- the scaling part of `convert` on the C-typed BigNat routines -/
def scaleW (mant : BigNat) (base : Nat) (exponent : Int) : BigNat × Int :=
  if exponent ≥ 0 then
    let e := exponent.toNat
    let m1 := iter (fun m => bignat_muladdW m (base * base * base * base) 0) (e / 4) mant
    let m2 := iter (fun m => bignat_muladdW m (base * base) 0) (e % 4 / 2) m1
    let m3 := iter (fun m => bignat_muladdW m base 0) (e % 2) m2
    (m3, 0)
  else
    let a := (-exponent).toNat
    let shamt := shamtBase + a / shamtDiv
    let m0 := bignat_lshift_n mant shamt
    let m1 := iter (fun m => bignat_divW m (base * base * base * base)) (a / 4) m0
    let m2 := iter (fun m => bignat_divW m (base * base)) (a % 4 / 2) m1
    let m3 := iter (fun m => bignat_divW m base) (a % 2) m2
    (m3, -((shamt * nbit : Nat) : Int))

def convertW (neg : Bool) (mant : BigNat) (base : Nat) (exponent : Int) : Nat :=
  let mantApprox : Int := (mant.digits.length * approxPerDigit + approxBias : Nat)
  let expApprox := log2MulFloor base exponent
  let approx := mantApprox + expApprox
  if mant.digits.length = 0 ∧ mant.first = 0 then withSign neg 0
  else if approx > hugeThresh then withSign neg infBits
  else if approx < tinyThresh then withSign neg 0
  else
    let s := scaleW mant base exponent
    withSign neg (bignat_extractW s.1 s.2)

/-- "Parse significant digits" loop on `bignat_muladdW` -/
def scanDigitsW : List Nat → ScanSt → Option (List Nat × ScanSt)
  | [], st => some ([], st)
  | c :: rest, st =>
    if c = 46 then
      if st.seenpoint then none else scanDigitsW rest { st with seenpoint := true }
    else if c = 38 then some (c :: rest, { st with foundexp := true })
    else if st.base = 16 ∧ (c = 80 ∨ c = 112) then
      some (c :: rest, { st with foundexp := true, expBase := 10, base := 2, ex := st.ex * 4 })
    else if st.base = 10 ∧ (c = 69 ∨ c = 101) then some (c :: rest, { st with foundexp := true })
    else if c = 95 then
      if st.seenadigit then scanDigitsW rest st else none
    else
      let digit := digitOf c
      if c > 127 ∨ digit ≥ st.base then none
      else scanDigitsW rest { st with ex := if st.seenpoint then st.ex - 1 else st.ex,
                                      mant := bignat_muladdW st.mant st.base digit, seenadigit := true }

def parseBodyW (neg : Bool) (b : Nat) (s2 : List Nat) : Option Parsed :=
  let st0 : ScanSt := { base := b, expBase := b, ex := 0, seenpoint := false, seenadigit := false,
                        foundexp := false, mant := BigNat.zero }
  match skipZeros s2 st0 with
  | none => none
  | some (s3, st1) =>
    match scanDigitsW s3 st1 with
    | none => none
    | some (s4, st2) =>
      if !st2.seenadigit then none
      else
        match s4 with
        | [] => some ⟨neg, st2.mant, st2.base, st2.ex⟩
        | _marker :: s5 =>
          if !st2.foundexp then some ⟨neg, st2.mant, st2.base, st2.ex⟩
          else
            match parseExponent st2 s5 with
            | none => none
            | some ex => some ⟨neg, st2.mant, st2.base, ex⟩

def parseNumberW (str : List Nat) (base : Nat) : Option Parsed :=
  match numHeader str base with
  | none => none
  | some (neg, b, s2) => parseBodyW neg b s2

/-- `janet_scan_number_base` on the C-typed arithmetic -/
def scanNumberBaseW (str : List Nat) (base : Nat) : Option Nat :=
  (parseNumberW str base).map (fun p => convertW p.neg p.mant p.base p.ex)

/-- `janet_scan_number(str, len, out)`: `return janet_scan_number_base(str, len, 0, out);` (shape asserted by the
    translator) — radix prefix `0x` / `Dr` / `DDr` read from the text, default radix 10 -/
def scanNumber (str : List Nat) : Option Nat := scanNumberBaseW str 0

end JanetModel.Strtod
