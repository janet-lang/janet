/- C13: lemmas about the BigNat digit-array routines of Strtod/Model.lean (refinement to `Nat`). -/
import JanetModel.Strtod.Model
import Mathlib.Tactic.Ring
import Mathlib.Tactic.Positivity

namespace JanetModel.Strtod
open JanetModel.Gen.Strtod

/-! The regenerated constants of Gen/Strtod.lean as the proofs use them: what to revisit when the source changes. -/

theorem bigBase_eq : bigBase = 2 ^ 31 := by decide
theorem bigBase_val : bigBase = 2147483648 := rfl
theorem nbit_eq : nbit = 31 := rfl
theorem window_eq : window = 54 := rfl
theorem lenLimit_eq : lenLimit = 53687091 := rfl
theorem eeLimit_eq : eeLimit = 53687091 := rfl
theorem approxPerDigit_eq : approxPerDigit = 31 := rfl
theorem approxBias_eq : approxBias = 16 := rfl
theorem hugeThresh_eq : hugeThresh = 1176 := rfl
theorem tinyThresh_eq : tinyThresh = -1175 := rfl
theorem shamtBase_eq : shamtBase = 5 := rfl
theorem shamtDiv_eq : shamtDiv = 4 := rfl
theorem capFactor_eq : capFactor = 2 := rfl

def AllLt (ds : List Nat) : Prop := ∀ d ∈ ds, d < bigBase

/-- the part of the number held in `digits[1..n)`, i.e. `val / 2^62`: the part `bignat_div` computes correctly -/
def upper (x : BigNat) : Nat := digitsVal x.digits / bigBase

theorem bigBase_pos : 0 < bigBase := by decide

theorem divDigits_eq (dv : Nat) (ds : List Nat) :
    digitsVal ds = dv * digitsVal (divDigits dv ds).1 + (divDigits dv ds).2 := by
  induction ds with
  | nil => simp [divDigits, digitsVal]
  | cons d rest ih =>
    simp only [divDigits, digitsVal]
    have h := Nat.div_add_mod ((divDigits dv rest).2 * bigBase + d) dv
    generalize (divDigits dv rest).2 = r at *
    generalize digitsVal (divDigits dv rest).1 = q at *
    generalize (r * bigBase + d) / dv = a at *
    generalize (r * bigBase + d) % dv = b at *
    have e : dv * (a + bigBase * q) + b = (dv * a + b) + bigBase * (dv * q) := by ring
    rw [e, h, ih]; ring

theorem divDigits_rem_lt (dv : Nat) (hdv : 0 < dv) (ds : List Nat) : (divDigits dv ds).2 < dv := by
  cases ds with
  | nil => simpa [divDigits] using hdv
  | cons d rest => simp only [divDigits]; exact Nat.mod_lt _ hdv

theorem divDigits_quot (dv : Nat) (hdv : 0 < dv) (ds : List Nat) :
    digitsVal (divDigits dv ds).1 = digitsVal ds / dv := by
  have h1 := divDigits_eq dv ds
  have h2 := divDigits_rem_lt dv hdv ds
  rw [h1, Nat.mul_add_div hdv, Nat.div_eq_of_lt h2]; simp

theorem divDigits_rem (dv : Nat) (hdv : 0 < dv) (ds : List Nat) :
    (divDigits dv ds).2 = digitsVal ds % dv := by
  have h1 := divDigits_eq dv ds
  have h2 := divDigits_rem_lt dv hdv ds
  rw [h1, Nat.mul_add_mod, Nat.mod_eq_of_lt h2]

/-- most significant digit (if any) is non-zero -/
def TopNZ : List Nat → Prop
  | [] => True
  | [d] => d ≠ 0
  | _ :: r => TopNZ r

theorem AllLt_cons {d : Nat} {r : List Nat} : AllLt (d :: r) ↔ d < bigBase ∧ AllLt r := by
  simp [AllLt]

theorem AllLt_nil : AllLt [] := by simp [AllLt]

theorem TopNZ_cons_cons {d e : Nat} {r : List Nat} : TopNZ (d :: e :: r) ↔ TopNZ (e :: r) := by
  simp [TopNZ]

theorem digitsVal_lt {ds : List Nat} (h : AllLt ds) : digitsVal ds < bigBase ^ ds.length := by
  induction ds with
  | nil => simp [digitsVal]
  | cons d r ih =>
    rw [AllLt_cons] at h
    have := ih h.2
    simp only [digitsVal, List.length_cons, pow_succ]
    have h1 : bigBase * (digitsVal r + 1) ≤ bigBase * bigBase ^ r.length := Nat.mul_le_mul_left _ this
    have h2 := h.1
    rw [Nat.mul_comm (bigBase ^ r.length) bigBase]
    simp only [bigBase] at *
    omega

theorem topnz_val_ge {ds : List Nat} (hne : ds ≠ []) (h : TopNZ ds) : bigBase ^ (ds.length - 1) ≤ digitsVal ds := by
  induction ds with
  | nil => exact absurd rfl hne
  | cons d r ih =>
    cases r with
    | nil => simp [TopNZ] at h; simp [digitsVal]; omega
    | cons e r2 =>
      have := ih (by simp) (TopNZ_cons_cons.1 h)
      simp only [digitsVal, List.length_cons, Nat.add_sub_cancel, pow_succ] at *
      have h1 : bigBase * bigBase ^ r2.length ≤ bigBase * (e + bigBase * digitsVal r2) := Nat.mul_le_mul_left _ this
      rw [Nat.mul_comm (bigBase ^ r2.length) bigBase]
      omega

theorem val_ge_topnz {ds : List Nat} (hl : AllLt ds) (hne : ds ≠ []) (h : bigBase ^ (ds.length - 1) ≤ digitsVal ds) :
    TopNZ ds := by
  induction ds with
  | nil => exact absurd rfl hne
  | cons d r ih =>
    rw [AllLt_cons] at hl
    cases r with
    | nil =>
      simp [digitsVal] at h
      simp [TopNZ]; omega
    | cons e r2 =>
      rw [TopNZ_cons_cons]
      apply ih hl.2 (by simp)
      simp only [digitsVal, List.length_cons, Nat.add_sub_cancel, pow_succ] at *
      by_contra hc
      have hc : e + bigBase * digitsVal r2 + 1 ≤ bigBase ^ r2.length := by omega
      have h1 : bigBase * (e + bigBase * digitsVal r2 + 1) ≤ bigBase * bigBase ^ r2.length := Nat.mul_le_mul_left _ hc
      rw [Nat.mul_comm (bigBase ^ r2.length) bigBase] at h
      have := hl.1
      simp only [bigBase] at *
      omega

theorem TopNZ_append_singleton (a : List Nat) (d : Nat) : TopNZ (a ++ [d]) ↔ d ≠ 0 := by
  induction a with
  | nil => simp [TopNZ]
  | cons x r ih =>
    cases r with
    | nil => simp [TopNZ]
    | cons y r2 =>
      have : (x :: y :: r2) ++ [d] = x :: (y :: (r2 ++ [d])) := by simp
      rw [this, TopNZ_cons_cons]
      simpa using ih

theorem dropLastZero_val (ds : List Nat) : digitsVal (dropLastZero ds) = digitsVal ds := by
  induction ds with
  | nil => simp [dropLastZero]
  | cons d r ih =>
    cases r with
    | nil =>
      by_cases h : d = 0 <;> simp [dropLastZero, h, digitsVal]
    | cons e r2 =>
      simp only [dropLastZero, digitsVal] at *
      rw [ih]

theorem dropLastZero_allLt {ds : List Nat} (h : AllLt ds) : AllLt (dropLastZero ds) := by
  induction ds with
  | nil => simpa [dropLastZero] using h
  | cons d r ih =>
    cases r with
    | nil => by_cases h0 : d = 0 <;> simp [dropLastZero, h0, AllLt_nil]; exact h
    | cons e r2 =>
      rw [AllLt_cons] at h
      simp only [dropLastZero]
      exact AllLt_cons.2 ⟨h.1, ih h.2⟩

theorem dropLastZero_length (ds : List Nat) :
    (dropLastZero ds).length = ds.length ∨ (dropLastZero ds).length + 1 = ds.length := by
  induction ds with
  | nil => simp [dropLastZero]
  | cons d r ih =>
    cases r with
    | nil => by_cases h0 : d = 0 <;> simp [dropLastZero, h0]
    | cons e r2 =>
      simp only [dropLastZero, List.length_cons] at *
      omega

theorem dropLastZero_same_topnz (ds : List Nat) (h : (dropLastZero ds).length = ds.length) : TopNZ ds := by
  induction ds with
  | nil => simp [TopNZ]
  | cons d r ih =>
    cases r with
    | nil =>
      by_cases h0 : d = 0
      · simp [dropLastZero, h0] at h
      · simpa [TopNZ] using h0
    | cons e r2 =>
      rw [TopNZ_cons_cons]
      apply ih
      simpa [dropLastZero] using h

theorem divDigits_allLt (dv : Nat) (hdv : 0 < dv) {ds : List Nat} (h : AllLt ds) : AllLt (divDigits dv ds).1 := by
  induction ds with
  | nil => simp [divDigits, AllLt_nil]
  | cons d r ih =>
    rw [AllLt_cons] at h
    simp only [divDigits]
    refine AllLt_cons.2 ⟨?_, ih h.2⟩
    have hr := divDigits_rem_lt dv hdv r
    rw [Nat.div_lt_iff_lt_mul hdv]
    have : ((divDigits dv r).2 + 1) * bigBase ≤ dv * bigBase := Nat.mul_le_mul_right _ hr
    have := h.1
    rw [Nat.mul_comm bigBase dv]
    simp only [bigBase] at *
    omega

theorem divDigits_length (dv : Nat) (ds : List Nat) : (divDigits dv ds).1.length = ds.length := by
  induction ds with
  | nil => simp [divDigits]
  | cons d r ih => simp [divDigits, ih]

/-- value form of "at least two digits ⇒ the most significant one is non-zero" -/
def Norm2 (ds : List Nat) : Prop := 2 ≤ ds.length → bigBase ^ (ds.length - 1) ≤ digitsVal ds

theorem bignat_div_digits_nil (x : BigNat) (dv : Nat) (h : x.digits = []) : (bignat_div x dv).digits = [] := by
  simp [bignat_div, h]

theorem bignat_div_digits_cons (x : BigNat) (dv d0 : Nat) (rest : List Nat) (h : x.digits = d0 :: rest) :
    (bignat_div x dv).digits =
      dropLastZero (((divDigits dv rest).2 * bigBase + d0) % dv :: (divDigits dv rest).1) := by
  simp [bignat_div, h]

/-- one `bignat_div` is an exact floor division on the part of the number above `digits[0]` -/
theorem div_upper (x : BigNat) (dv : Nat) (hdv : 0 < dv) (hle : dv ≤ bigBase) (hl : AllLt x.digits) :
    upper (bignat_div x dv) = upper x / dv := by
  unfold upper
  cases hx : x.digits with
  | nil => rw [bignat_div_digits_nil x dv hx]; simp [digitsVal]
  | cons d0 rest =>
    rw [bignat_div_digits_cons x dv d0 rest hx, dropLastZero_val]
    rw [hx] at hl
    rw [AllLt_cons] at hl
    simp only [digitsVal]
    rw [divDigits_quot dv hdv]
    have hr : ((divDigits dv rest).2 * bigBase + d0) % dv < bigBase := lt_of_lt_of_le (Nat.mod_lt _ hdv) hle
    rw [Nat.add_mul_div_left _ _ bigBase_pos, Nat.add_mul_div_left _ _ bigBase_pos,
        Nat.div_eq_of_lt hr, Nat.div_eq_of_lt hl.1]
    simp

theorem div_allLt (x : BigNat) (dv : Nat) (hdv : 0 < dv) (hle : dv ≤ bigBase) (hl : AllLt x.digits) :
    AllLt (bignat_div x dv).digits := by
  cases hx : x.digits with
  | nil => rw [bignat_div_digits_nil x dv hx]; exact AllLt_nil
  | cons d0 rest =>
    rw [bignat_div_digits_cons x dv d0 rest hx]
    rw [hx, AllLt_cons] at hl
    apply dropLastZero_allLt
    exact AllLt_cons.2 ⟨lt_of_lt_of_le (Nat.mod_lt _ hdv) hle, divDigits_allLt dv hdv hl.2⟩

theorem pow_le_of_mul_lt {k v : Nat} (h : bigBase * bigBase ^ k < bigBase * (v + 1)) : bigBase ^ k ≤ v := by
  have := Nat.lt_of_mul_lt_mul_left h
  omega

theorem div_norm2 (x : BigNat) (dv : Nat) (hdv : 0 < dv) (hle : dv ≤ bigBase) (hl : AllLt x.digits)
    (hn : Norm2 x.digits) : Norm2 (bignat_div x dv).digits := by
  cases hx : x.digits with
  | nil => rw [bignat_div_digits_nil x dv hx]; intro h; simp at h
  | cons d0 rest =>
    rw [bignat_div_digits_cons x dv d0 rest hx]
    rw [hx] at hl hn
    rw [AllLt_cons] at hl
    set r0 := ((divDigits dv rest).2 * bigBase + d0) % dv with hr0
    set q := (divDigits dv rest).1 with hq
    have hqlen : q.length = rest.length := divDigits_length dv rest
    intro h2
    rw [dropLastZero_val]
    rcases dropLastZero_length (r0 :: q) with hsame | hdrop
    · -- nothing dropped: the top digit is non-zero
      rw [hsame]
      exact topnz_val_ge (by simp) (dropLastZero_same_topnz _ hsame)
    · -- one digit dropped: at least three digits before
      have hlen : (dropLastZero (r0 :: q)).length = rest.length := by
        simp only [List.length_cons] at hdrop; omega
      rw [hlen] at h2 ⊢
      obtain ⟨k, hk⟩ : ∃ k, rest.length = k + 2 := ⟨rest.length - 2, by omega⟩
      have hn' := hn (by simp [hk])
      simp only [List.length_cons, hk, Nat.add_sub_cancel, digitsVal] at hn'
      -- B^(k+2) ≤ d0 + B * V(rest)  ⇒  B^(k+1) ≤ V(rest)
      have hv : bigBase ^ (k + 1) ≤ digitsVal rest := by
        apply pow_le_of_mul_lt
        have : bigBase ^ (k + 2) = bigBase * bigBase ^ (k + 1) := by ring
        have h1 := hl.1
        rw [this] at hn'
        simp only [bigBase] at *
        omega
      have hdiv : bigBase ^ k ≤ digitsVal rest / dv := by
        rw [Nat.le_div_iff_mul_le hdv]
        calc bigBase ^ k * dv ≤ bigBase ^ k * bigBase := Nat.mul_le_mul_left _ hle
          _ = bigBase ^ (k + 1) := by ring
          _ ≤ digitsVal rest := hv
      simp only [digitsVal, hk]
      rw [hq, divDigits_quot dv hdv]
      have : bigBase ^ (k + 2 - 1) = bigBase * bigBase ^ k := by
        have : k + 2 - 1 = k + 1 := by omega
        rw [this]; ring
      rw [this]
      have := Nat.mul_le_mul_left bigBase hdiv
      omega

theorem iter_succ {α : Type} (f : α → α) (k : Nat) (x : α) : iter f (k + 1) x = iter f k (f x) := rfl

theorem iter_inv {α : Type} {I : α → Prop} {f : α → α} (hf : ∀ x, I x → I (f x)) : ∀ (k : Nat) (x : α), I x → I (iter f k x)
  | 0, _, h => h
  | k + 1, x, h => iter_inv hf k (f x) (hf x h)

theorem iter_congr {α : Type} {I : α → Prop} {f g : α → α} (hfg : ∀ x, I x → f x = g x ∧ I (g x)) :
    ∀ (k : Nat) (x : α), I x → iter f k x = iter g k x ∧ I (iter g k x)
  | 0, _, h => ⟨rfl, h⟩
  | k + 1, x, h => by
    show iter f k (f x) = iter g k (g x) ∧ _
    rw [(hfg x h).1]
    exact iter_congr hfg k (g x) (hfg x h).2

theorem iter_div_inv (dv : Nat) (hdv : 0 < dv) (hle : dv ≤ bigBase) (k : Nat) (x : BigNat)
    (hl : AllLt x.digits) (hn : Norm2 x.digits) :
    AllLt (iter (fun m => bignat_div m dv) k x).digits ∧ Norm2 (iter (fun m => bignat_div m dv) k x).digits ∧
    upper (iter (fun m => bignat_div m dv) k x) = upper x / dv ^ k := by
  induction k generalizing x with
  | zero => simp [iter, hl, hn]
  | succ k ih =>
    rw [iter_succ]
    have := ih (bignat_div x dv) (div_allLt x dv hdv hle hl) (div_norm2 x dv hdv hle hl hn)
    refine ⟨this.1, this.2.1, ?_⟩
    rw [this.2.2, div_upper x dv hdv hle hl, Nat.div_div_eq_div_mul, pow_succ']

theorem digitsVal_replicate_append (k : Nat) (l : List Nat) :
    digitsVal (List.replicate k 0 ++ l) = bigBase ^ k * digitsVal l := by
  induction k with
  | zero => simp
  | succ k ih =>
    simp only [List.replicate_succ, List.cons_append, digitsVal, ih]
    ring

theorem AllLt_replicate_append (k : Nat) {l : List Nat} (h : AllLt l) : AllLt (List.replicate k 0 ++ l) := by
  intro d hd
  rcases List.mem_append.1 hd with h1 | h1
  · rw [List.mem_replicate] at h1; rw [h1.2]; exact bigBase_pos
  · exact h d h1

theorem TopNZ_cons_of_ne_nil (d : Nat) {l : List Nat} (h : l ≠ []) : TopNZ (d :: l) ↔ TopNZ l := by
  cases l with
  | nil => exact absurd rfl h
  | cons e r => exact TopNZ_cons_cons

theorem TopNZ_replicate_append (k : Nat) {l : List Nat} (h : l ≠ []) : TopNZ (List.replicate k 0 ++ l) ↔ TopNZ l := by
  induction k with
  | zero => simp
  | succ k ih =>
    simp only [List.replicate_succ, List.cons_append]
    rw [TopNZ_cons_of_ne_nil _ (by simp [h]), ih]

theorem lshift_digits (x : BigNat) (n : Nat) (hn : 0 < n) :
    (bignat_lshift_n x n).digits = List.replicate (n - 1) 0 ++ x.first :: x.digits := by
  simp [bignat_lshift_n, Nat.ne_of_gt hn]

/-- what the scanner guarantees about the mantissa handed to `convert` -/
structure MantInv (x : BigNat) : Prop where
  first_lt : x.first < bigBase
  allLt : AllLt x.digits
  topnz : TopNZ x.digits

theorem val_def (x : BigNat) : x.val = digitsVal (x.first :: x.digits) := rfl

theorem val_pos_of_nonzero (x : BigNat) (hi : MantInv x) (hnz : ¬ (x.digits.length = 0 ∧ x.first = 0)) : 1 ≤ x.val := by
  unfold BigNat.val
  cases hd : x.digits with
  | nil => simp [hd] at hnz; simp [digitsVal]; omega
  | cons d r =>
    have := topnz_val_ge (ds := x.digits) (by simp [hd]) hi.topnz
    rw [hd] at this
    have hp : 0 < bigBase ^ ((d :: r).length - 1) := Nat.pow_pos bigBase_pos
    have : 1 ≤ digitsVal (d :: r) := by omega
    have := Nat.mul_le_mul_left bigBase this
    simp only [bigBase] at *
    omega

theorem lshift_facts (x : BigNat) (n : Nat) (hn : 2 ≤ n) (hi : MantInv x) (hnz : x.digits = [] → x.first ≠ 0) :
    AllLt (bignat_lshift_n x n).digits ∧ Norm2 (bignat_lshift_n x n).digits ∧
    upper (bignat_lshift_n x n) = bigBase ^ (n - 2) * x.val := by
  rw [upper, lshift_digits x n (by omega)]
  have hall : AllLt (x.first :: x.digits) := AllLt_cons.2 ⟨hi.first_lt, hi.allLt⟩
  refine ⟨AllLt_replicate_append _ hall, ?_, ?_⟩
  · intro _
    apply topnz_val_ge (by simp)
    rw [TopNZ_replicate_append _ (by simp)]
    cases hd : x.digits with
    | nil => simpa [TopNZ] using hnz hd
    | cons e r => rw [TopNZ_cons_cons, ← hd]; exact hi.topnz
  · rw [digitsVal_replicate_append, ← val_def]
    obtain ⟨k, rfl⟩ : ∃ k, n = k + 2 := ⟨n - 2, by omega⟩
    have : k + 2 - 1 = k + 1 := by omega
    rw [this, pow_succ]
    have : bigBase ^ k * bigBase * x.val = bigBase * (bigBase ^ k * x.val) := by ring
    rw [this, Nat.mul_div_cancel_left _ bigBase_pos]
    simp

theorem pow4_le (base : Nat) (hb : base ≤ 36) : base * base * base * base ≤ bigBase := by
  have h1 : base * base ≤ 36 * 36 := Nat.mul_le_mul hb hb
  have h2 : base * base * base ≤ 36 * 36 * 36 := Nat.mul_le_mul h1 hb
  have h3 : base * base * base * base ≤ 36 * 36 * 36 * 36 := Nat.mul_le_mul h2 hb
  exact le_trans h3 (by decide)

theorem pow2_le (base : Nat) (hb : base ≤ 36) : base * base ≤ bigBase := by
  have h1 : base * base ≤ 36 * 36 := Nat.mul_le_mul hb hb
  exact le_trans h1 (by decide)

theorem base_pow_split (base a : Nat) :
    (base * base * base * base) ^ (a / 4) * ((base * base) ^ (a % 4 / 2) * base ^ (a % 2)) = base ^ a := by
  have e1 : base * base * base * base = base ^ 4 := by ring
  have e2 : base * base = base ^ 2 := by ring
  rw [e1, e2, ← pow_mul, ← pow_mul, ← pow_add, ← pow_add]
  congr 1
  omega

theorem shamt_ge (a : Nat) : 2 ≤ shamtBase + a / shamtDiv := le_trans (by decide : 2 ≤ shamtBase) (Nat.le_add_right _ _)

theorem chain_factors (base : Nat) (hb1 : 1 ≤ base) (hb : base ≤ 36) :
    (0 < base * base * base * base ∧ base * base * base * base ≤ bigBase) ∧ (0 < base * base ∧ base * base ≤ bigBase) ∧
    (0 < base ∧ base ≤ bigBase) :=
  ⟨⟨by positivity, pow4_le base hb⟩, ⟨by positivity, pow2_le base hb⟩, hb1, le_trans hb (by decide)⟩

/-- the BigNat handed to `bignat_extract` when the exponent is `-a`, a > 0 -/
def scaleNeg (mant : BigNat) (base a : Nat) : BigNat :=
  iter (fun m => bignat_div m base) (a % 2)
    (iter (fun m => bignat_div m (base * base)) (a % 4 / 2)
      (iter (fun m => bignat_div m (base * base * base * base)) (a / 4)
        (bignat_lshift_n mant (shamtBase + a / shamtDiv))))

theorem scale_neg_eq (mant : BigNat) (base a : Nat) (ha : 0 < a) :
    scale mant base (-(a : Int)) = (scaleNeg mant base a, -(((shamtBase + a / shamtDiv) * nbit : Nat) : Int)) := by
  have h1 : ¬ (-(a : Int) ≥ 0) := by omega
  have h2 : (- -(a : Int)).toNat = a := by simp
  simp only [scale, scaleNeg, if_neg h1, h2]

theorem scaleNeg_ind {I : BigNat → Prop} (mant : BigNat) (base a : Nat) (hb1 : 1 ≤ base) (hb : base ≤ 36)
    (h0 : I (bignat_lshift_n mant (shamtBase + a / shamtDiv)))
    (hd : ∀ x dv, 0 < dv → dv ≤ bigBase → I x → I (bignat_div x dv)) : I (scaleNeg mant base a) := by
  obtain ⟨⟨p4, l4⟩, ⟨p2, l2⟩, p1, l1⟩ := chain_factors base hb1 hb
  exact iter_inv (fun x => hd x _ p1 l1) _ _ (iter_inv (fun x => hd x _ p2 l2) _ _ (iter_inv (fun x => hd x _ p4 l4) _ _ h0))

theorem scaleNeg_facts (mant : BigNat) (base a : Nat) (hb1 : 1 ≤ base) (hb : base ≤ 36)
    (hi : MantInv mant) (hnz : ¬ (mant.digits.length = 0 ∧ mant.first = 0)) :
    AllLt (scaleNeg mant base a).digits ∧ Norm2 (scaleNeg mant base a).digits ∧
    upper (scaleNeg mant base a) = mant.val * bigBase ^ (shamtBase + a / shamtDiv - 2) / base ^ a := by
  obtain ⟨l0, n0, u0⟩ := lshift_facts mant (shamtBase + a / shamtDiv) (shamt_ge a) hi
    (fun hd hf => hnz ⟨by simp [hd], hf⟩)
  obtain ⟨⟨p4, h4⟩, ⟨p2, h2⟩, p1, h1⟩ := chain_factors base hb1 hb
  obtain ⟨l1, n1, u1⟩ := iter_div_inv _ p4 h4 (a / 4) _ l0 n0
  obtain ⟨l2, n2, u2⟩ := iter_div_inv _ p2 h2 (a % 4 / 2) _ l1 n1
  obtain ⟨l3, n3, u3⟩ := iter_div_inv base p1 h1 (a % 2) _ l2 n2
  refine ⟨l3, n3, ?_⟩
  unfold scaleNeg
  rw [u3, u2, u1, u0, Nat.div_div_eq_div_mul, Nat.div_div_eq_div_mul, base_pow_split, Nat.mul_comm]

theorem carry_step {d f carry : Nat} (hd : d < bigBase) (hc : carry < f) : (carry + d * f) / bigBase < f := by
  rw [Nat.div_lt_iff_lt_mul bigBase_pos]
  have : (d + 1) * f ≤ bigBase * f := Nat.mul_le_mul_right _ hd
  have e : (d + 1) * f = d * f + f := by ring
  rw [Nat.mul_comm f bigBase]
  omega

theorem carry_cast {carry f : Nat} (hc : carry < f) (hf : f ≤ bigBase) : carry % 4294967296 = carry :=
  Nat.mod_eq_of_lt (by rw [bigBase_val] at hf; omega)

theorem muladdDigits_val (f : Nat) (hf : f ≤ bigBase) (ds : List Nat) (carry : Nat) (hl : AllLt ds) (hc : carry < f) :
    digitsVal (muladdDigits f ds carry) = digitsVal ds * f + carry := by
  induction ds generalizing carry with
  | nil =>
    by_cases h0 : carry = 0
    · simp [muladdDigits, h0, digitsVal]
    · have := carry_cast hc hf
      simp [muladdDigits, h0, digitsVal, this]
  | cons d r ih =>
    rw [AllLt_cons] at hl
    simp only [muladdDigits, digitsVal]
    rw [ih _ hl.2 (carry_step hl.1 hc)]
    have := Nat.mod_add_div (carry + d * f) bigBase
    generalize (carry + d * f) % bigBase = lo at *
    generalize (carry + d * f) / bigBase = hi at *
    have e : lo + bigBase * (digitsVal r * f + hi) = (lo + bigBase * hi) + bigBase * digitsVal r * f := by ring
    rw [e, this]; ring

theorem muladdDigits_allLt (f : Nat) (hf : f ≤ bigBase) (ds : List Nat) (carry : Nat) (hl : AllLt ds) (hc : carry < f) :
    AllLt (muladdDigits f ds carry) := by
  induction ds generalizing carry with
  | nil =>
    by_cases h0 : carry = 0
    · simp [muladdDigits, h0, AllLt_nil]
    · have := carry_cast hc hf
      simp only [muladdDigits, h0, if_false, this]
      exact AllLt_cons.2 ⟨lt_of_lt_of_le hc hf, AllLt_nil⟩
  | cons d r ih =>
    rw [AllLt_cons] at hl
    simp only [muladdDigits]
    exact AllLt_cons.2 ⟨Nat.mod_lt _ bigBase_pos, ih _ hl.2 (carry_step hl.1 hc)⟩

theorem muladdDigits_ne_nil (f : Nat) (d : Nat) (r : List Nat) (carry : Nat) : muladdDigits f (d :: r) carry ≠ [] := by
  simp [muladdDigits]

theorem muladdDigits_topnz (f : Nat) (hf0 : 0 < f) (hf : f ≤ bigBase) (ds : List Nat) (carry : Nat) (hl : AllLt ds)
    (ht : TopNZ ds) (hc : carry < f) : TopNZ (muladdDigits f ds carry) := by
  induction ds generalizing carry with
  | nil =>
    by_cases h0 : carry = 0
    · simp [muladdDigits, h0, TopNZ]
    · have := carry_cast hc hf
      simp [muladdDigits, h0, TopNZ, this]
  | cons d r ih =>
    rw [AllLt_cons] at hl
    have hstep := carry_step hl.1 hc
    cases r with
    | nil =>
      simp only [muladdDigits]
      have hd : d ≠ 0 := by simpa [TopNZ] using ht
      by_cases h0 : (carry + d * f) / bigBase = 0
      · simp only [h0, if_true, TopNZ]
        have hlt : carry + d * f < bigBase := by
          rcases Nat.div_eq_zero_iff.1 h0 with h | h
          · simp [bigBase] at h
          · exact h
        rw [Nat.mod_eq_of_lt hlt]
        have : 0 < d * f := Nat.mul_pos (Nat.pos_of_ne_zero hd) hf0
        omega
      · have : ((carry + d * f) / bigBase) % 4294967296 = (carry + d * f) / bigBase :=
          Nat.mod_eq_of_lt (by simp only [bigBase] at hf; omega)
        simp only [h0, if_false, TopNZ, this]
        exact h0
    | cons e r2 =>
      have ht' : TopNZ (e :: r2) := TopNZ_cons_cons.1 ht
      simp only [muladdDigits] at *
      rw [TopNZ_cons_of_ne_nil _ (by simp)]
      exact ih _ hl.2 ht' hstep

theorem first_carry {first f term : Nat} (h1 : first < bigBase) (ht : term < f) : (first * f + term) / bigBase < f := by
  have := carry_step (d := first) (f := f) (carry := term) h1 ht
  rwa [Nat.add_comm] at this

theorem muladd_inv (x : BigNat) (f term : Nat) (hf : f ≤ bigBase) (ht : term < f) (hi : MantInv x) :
    MantInv (bignat_muladd x f term) := by
  have hf0 : 0 < f := by omega
  have hc := first_carry hi.first_lt ht
  exact ⟨Nat.mod_lt _ bigBase_pos, muladdDigits_allLt f hf _ _ hi.allLt hc, muladdDigits_topnz f hf0 hf _ _ hi.allLt hi.topnz hc⟩

theorem muladd_val (x : BigNat) (f term : Nat) (hf : f ≤ bigBase) (ht : term < f) (hi : MantInv x) :
    (bignat_muladd x f term).val = x.val * f + term := by
  have hc := first_carry hi.first_lt ht
  simp only [bignat_muladd, BigNat.val]
  rw [muladdDigits_val f hf _ _ hi.allLt hc]
  have := Nat.mod_add_div (x.first * f + term) bigBase
  generalize (x.first * f + term) % bigBase = lo at *
  generalize (x.first * f + term) / bigBase = hi' at *
  have e : lo + bigBase * (digitsVal x.digits * f + hi') = (lo + bigBase * hi') + bigBase * digitsVal x.digits * f := by ring
  rw [e, this]; ring

theorem iter_muladd (f : Nat) (hf0 : 0 < f) (hf : f ≤ bigBase) (k : Nat) (x : BigNat) (hi : MantInv x) :
    MantInv (iter (fun m => bignat_muladd m f 0) k x) ∧ (iter (fun m => bignat_muladd m f 0) k x).val = x.val * f ^ k := by
  induction k generalizing x with
  | zero => simp [iter, hi]
  | succ k ih =>
    rw [iter_succ]
    have := ih _ (muladd_inv x f 0 hf hf0 hi)
    refine ⟨this.1, ?_⟩
    rw [this.2, muladd_val x f 0 hf hf0 hi, pow_succ]; ring

/-- the BigNat handed to `bignat_extract` when the exponent is `e ≥ 0` -/
def scalePos (mant : BigNat) (base e : Nat) : BigNat :=
  iter (fun m => bignat_muladd m base 0) (e % 2)
    (iter (fun m => bignat_muladd m (base * base) 0) (e % 4 / 2)
      (iter (fun m => bignat_muladd m (base * base * base * base) 0) (e / 4) mant))

theorem scale_pos_eq (mant : BigNat) (base e : Nat) : scale mant base (e : Int) = (scalePos mant base e, 0) := by
  have h1 : ((e : Int) ≥ 0) := by omega
  simp only [scale, scalePos, if_pos h1, Int.toNat_natCast]

theorem scalePos_facts (mant : BigNat) (base e : Nat) (hb1 : 1 ≤ base) (hb : base ≤ 36) (hi : MantInv mant) :
    MantInv (scalePos mant base e) ∧ (scalePos mant base e).val = mant.val * base ^ e := by
  obtain ⟨⟨p4, h4⟩, ⟨p2, h2⟩, p1, h1⟩ := chain_factors base hb1 hb
  obtain ⟨i1, v1⟩ := iter_muladd _ p4 h4 (e / 4) mant hi
  obtain ⟨i2, v2⟩ := iter_muladd _ p2 h2 (e % 4 / 2) _ i1
  obtain ⟨i3, v3⟩ := iter_muladd base p1 h1 (e % 2) _ i2
  refine ⟨i3, ?_⟩
  unfold scalePos
  rw [v3, v2, v1, Nat.mul_assoc, Nat.mul_assoc, base_pow_split]

theorem small_pow_le (base j i : Nat) (hb : base ≤ 36) (hj : j ≤ 1) (hi : i ≤ 1) : (base * base) ^ j * base ^ i ≤ bigBase := by
  have h2 : base * base ≤ 1296 := le_trans (Nat.mul_le_mul hb hb) (by decide)
  have hj' : j = 0 ∨ j = 1 := by omega
  have hi' : i = 0 ∨ i = 1 := by omega
  rcases hj' with rfl | rfl <;> rcases hi' with rfl | rfl <;> simp only [pow_zero, pow_one, Nat.one_mul, Nat.mul_one]
  · decide
  · exact le_trans hb (by decide)
  · exact le_trans h2 (by decide)
  · exact le_trans (Nat.mul_le_mul h2 hb) (by decide)

theorem base_pow_le (base a : Nat) (hb : base ≤ 36) : base ^ a ≤ bigBase ^ (a / 4) * bigBase := by
  rw [← base_pow_split base a]
  exact Nat.mul_le_mul (Nat.pow_le_pow_left (pow4_le base hb) _) (small_pow_le base _ _ hb (by omega) (by omega))

theorem scaleNeg_upper_ge (mant : BigNat) (base a : Nat) (hb1 : 1 ≤ base) (hb : base ≤ 36)
    (hi : MantInv mant) (hnz : ¬ (mant.digits.length = 0 ∧ mant.first = 0)) :
    bigBase ^ 2 ≤ upper (scaleNeg mant base a) := by
  have hv := val_pos_of_nonzero mant hi hnz
  rw [(scaleNeg_facts mant base a hb1 hb hi hnz).2.2]
  have hpos : 0 < base ^ a := Nat.pow_pos hb1
  rw [Nat.le_div_iff_mul_le hpos]
  have e : shamtBase + a / shamtDiv - 2 = 3 + a / 4 := by simp only [shamtBase, shamtDiv]; omega
  rw [e]
  calc bigBase ^ 2 * base ^ a ≤ bigBase ^ 2 * (bigBase ^ (a / 4) * bigBase) := Nat.mul_le_mul_left _ (base_pow_le base a hb)
    _ = 1 * bigBase ^ (3 + a / 4) := by ring
    _ ≤ mant.val * bigBase ^ (3 + a / 4) := Nat.mul_le_mul_right _ hv

theorem scaleNeg_length (mant : BigNat) (base a : Nat) (hb1 : 1 ≤ base) (hb : base ≤ 36)
    (hi : MantInv mant) (hnz : ¬ (mant.digits.length = 0 ∧ mant.first = 0)) :
    4 ≤ (scaleNeg mant base a).digits.length := by
  have hu := scaleNeg_upper_ge mant base a hb1 hb hi hnz
  have hl := (scaleNeg_facts mant base a hb1 hb hi hnz).1
  have hlt := digitsVal_lt hl
  unfold upper at hu
  rw [Nat.le_div_iff_mul_le bigBase_pos] at hu
  have h3 : bigBase ^ 3 < bigBase ^ (scaleNeg mant base a).digits.length := by
    calc bigBase ^ 3 = bigBase ^ 2 * bigBase := by ring
      _ ≤ _ := hu
      _ < _ := hlt
  have := (Nat.pow_lt_pow_iff_right (by decide : 1 < bigBase)).1 h3
  omega

theorem scaleNeg_topnz (mant : BigNat) (base a : Nat) (hb1 : 1 ≤ base) (hb : base ≤ 36)
    (hi : MantInv mant) (hnz : ¬ (mant.digits.length = 0 ∧ mant.first = 0)) :
    TopNZ (scaleNeg mant base a).digits := by
  have hlen := scaleNeg_length mant base a hb1 hb hi hnz
  obtain ⟨hl, hn, _⟩ := scaleNeg_facts mant base a hb1 hb hi hnz
  exact val_ge_topnz hl (by intro h; simp [h] at hlen) (hn (by omega))

theorem div_first_lt (x : BigNat) (dv : Nat) (hdv : 0 < dv) (hf : x.first < bigBase) : (bignat_div x dv).first < bigBase := by
  cases hx : x.digits with
  | nil =>
    simp only [bignat_div, hx]
    exact lt_of_le_of_lt (Nat.div_le_self _ _) hf
  | cons d0 rest =>
    simp only [bignat_div, hx]
    rw [Nat.div_lt_iff_lt_mul hdv]
    have hr : ((divDigits dv rest).2 * bigBase + d0) % dv < dv := Nat.mod_lt _ hdv
    generalize ((divDigits dv rest).2 * bigBase + d0) % dv = r0 at *
    have : (r0 + 1) * bigBase ≤ dv * bigBase := Nat.mul_le_mul_right _ hr
    rw [Nat.mul_comm bigBase dv]
    simp only [bigBase] at *
    omega

theorem scaleNeg_first_lt (mant : BigNat) (base a : Nat) (hb1 : 1 ≤ base) (hb : base ≤ 36) :
    (scaleNeg mant base a).first < bigBase := by
  refine scaleNeg_ind (I := fun x => x.first < bigBase) mant base a hb1 hb ?_ (fun x dv h _ => div_first_lt x dv h)
  have hs : shamtBase + a / shamtDiv ≠ 0 := by have := shamt_ge a; omega
  rw [bignat_lshift_n, if_neg hs]
  exact bigBase_pos

end JanetModel.Strtod
