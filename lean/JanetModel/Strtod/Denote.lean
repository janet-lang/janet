/- C13: the VALUE DENOTED by a numeric literal, defined from the grammar of literals and independently of the scanner's
   state machine (no loops over scanner state, no BigNat, no clamp):

     literal  ::= sign? radix-prefix? mantissa (marker sign? exp-digits)?
     sign     ::= '-' | '+'
     prefix   ::= "0x" | D 'r' | D D 'r'                      (only when the caller passes base 0; "0r" means radix 10)
     mantissa ::= digits, '_' separators, at most one '.'     (value: all digits read as ONE integer M in the radix,
                                                                scaled by radix^−F, F = number of digits after the '.')
     marker   ::= '&' | 'e' | 'E' (radix 10) | 'p' | 'P' (radix 16: hex float — exponent written in decimal, scale 2^X)
     value    =  ± M · radix^(−F) · radix^(±X)                 (hex float: ± M · 16^(−F) · 2^(±X))

   `denote` is TOTAL: it assigns a value to every byte string; the theorems only use it on strings the scanner accepts
   (validity is the scanner's business, the value is the spec's).  CORE LEAN ONLY (linked into jm_c13: the driver prints
   `denote` so that the run compares it with the generator's by-construction value of every literal). -/
import JanetModel.Strtod.Model

namespace JanetModel.Strtod

/-- the intended digit valuation: '0'..'9' ↦ 0..9, 'A'..'Z' / 'a'..'z' ↦ 10..35 (anything else: 255) -/
def charVal (c : Nat) : Nat :=
  if 48 ≤ c ∧ c ≤ 57 then c - 48
  else if 65 ≤ c ∧ c ≤ 90 then c - 55
  else if 97 ≤ c ∧ c ≤ 122 then c - 87
  else 255

/-- a denoted value: ± M · b^E -/
structure Lit where
  neg : Bool
  M : Nat
  b : Nat
  E : Int
deriving Repr, DecidableEq

def splitSign (s : List Nat) : Bool × List Nat :=
  match s with
  | [] => (false, [])
  | c :: r => if c = 45 then (true, r) else if c = 43 then (false, r) else (false, c :: r)

def isDec (c : Nat) : Bool := decide (48 ≤ c) && decide (c ≤ 57)

/-- radix prefix: `0x` → 16, `Dr` → D, `DDr` → DD; otherwise none (radix 0 = "not given") -/
def splitRadix (s : List Nat) : Nat × List Nat :=
  if s.take 2 = [48, 120] then (16, s.drop 2)
  else if 2 ≤ s.length ∧ isDec (s.getD 0 0) ∧ s.getD 1 0 = 114 then (s.getD 0 0 - 48, s.drop 2)
  else if 3 ≤ s.length ∧ isDec (s.getD 0 0) ∧ isDec (s.getD 1 0) ∧ s.getD 2 0 = 114 then
    (10 * (s.getD 0 0 - 48) + (s.getD 1 0 - 48), s.drop 3)
  else (0, s)

/-- is `c` an exponent marker in radix `b` -/
def isExpMarker (b c : Nat) : Bool :=
  c == 38 || (b == 10 && (c == 69 || c == 101)) || (b == 16 && (c == 80 || c == 112))

/-- the digit characters of a mantissa text: everything but the separators `_` and the point -/
def mantChars (ms : List Nat) : List Nat := ms.filter (fun c => c != 95 && c != 46)

/-- positional value of a digit string (most significant first), continuing from `acc` -/
def ofDigitsFrom (b acc : Nat) (cs : List Nat) : Nat := cs.foldl (fun a c => a * b + charVal c) acc

def ofDigits (b : Nat) (cs : List Nat) : Nat := ofDigitsFrom b 0 cs

/-- the digit characters after the (first) point -/
def fracChars (ms : List Nat) : List Nat := mantChars (ms.dropWhile (fun c => c != 46))

/-- the value of the text after sign and radix prefix: mantissa, then optionally marker, sign, exponent digits -/
def denoteBody (neg : Bool) (b : Nat) (s : List Nat) : Lit :=
  let ms := s.takeWhile (fun c => !isExpMarker b c)
  let M := ofDigits b (mantChars ms)
  let F := (fracChars ms).length
  match s.dropWhile (fun c => !isExpMarker b c) with
  | [] => ⟨neg, M, b, -(F : Int)⟩
  | mk :: es =>
    let esg := splitSign es
    let hexp := (mk == 80 || mk == 112) && b == 16
    let X := ofDigits (if hexp then 10 else b) esg.2
    let Xs : Int := if esg.1 then -(X : Int) else (X : Int)
    if hexp then ⟨neg, M, 2, Xs - 4 * (F : Int)⟩ else ⟨neg, M, b, Xs - (F : Int)⟩

/-- ★ the value denoted by the text `str` when the caller passes radix `base0` (0 = read the prefix, default 10) -/
def denote (str : List Nat) (base0 : Nat) : Lit :=
  let sg := splitSign str
  let pr := if base0 = 0 then splitRadix sg.2 else (base0, sg.2)
  denoteBody sg.1 (if pr.1 = 0 then 10 else pr.1) pr.2

end JanetModel.Strtod
