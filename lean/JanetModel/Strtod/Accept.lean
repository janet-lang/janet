/- C13: every text of the shape libc's `%.17g` can produce for a finite double — `[-] D+ [. D*] [e (+|-)? D+]` — is ACCEPTED by
   the scanner model (radix parameter 0).  Closes the syntactic side condition of `print17_roundtrip`. -/
import JanetModel.Strtod.Plumbing

namespace JanetModel.Strtod
open JanetModel.Gen.Strtod

/-- decimal digit characters -/
def IsDecCh (c : Nat) : Prop := 48 ≤ c ∧ c ≤ 57

theorem digitOf_dec (c : Nat) (h : IsDecCh c) : digitOf c < 10 ∧ c ≤ 127 := by
  obtain ⟨h1, h2⟩ := h
  refine ⟨?_, by omega⟩
  rw [digitOf_eq_charVal c (by omega), charVal, if_pos ⟨h1, h2⟩]
  omega

/-- a mantissa body: decimal digits and — unless a point was already seen — at most one point -/
def MantShape : Bool → List Nat → Prop
  | _, [] => True
  | seen, c :: r => (IsDecCh c ∧ MantShape seen r) ∨ (c = 46 ∧ seen = false ∧ MantShape true r)

def hasDigit (l : List Nat) : Bool := l.any (fun c => decide (48 ≤ c) && decide (c ≤ 57))

theorem scanDigits_shape (ds : List Nat) : ∀ (st : ScanSt) (t : List Nat), MantShape st.seenpoint ds → st.base = 10 →
    (t = [] ∨ ∃ r, t = 101 :: r) →
    ∃ st', scanDigits (ds ++ t) st = some (t, st') ∧ st'.base = 10 ∧ st'.expBase = st.expBase ∧
      st'.seenadigit = (st.seenadigit || hasDigit ds) ∧ (t ≠ [] → st'.foundexp = true) := by
  induction ds with
  | nil =>
    intro st t _ hb ht
    rcases ht with rfl | ⟨r, rfl⟩
    · exact ⟨st, rfl, hb, rfl, by simp [hasDigit], by simp⟩
    · refine ⟨{ st with foundexp := true }, ?_, hb, rfl, by simp [hasDigit], by simp⟩
      rw [List.nil_append, scanDigits_marker r (Or.inr (Or.inl ⟨hb, Or.inr rfl⟩)), markerSt, if_neg (by omega)]
  | cons c r ih =>
    intro st t hs hb ht
    rcases hs with ⟨hc, hr⟩ | ⟨rfl, hseen, hr⟩
    · obtain ⟨hd, h127⟩ := digitOf_dec c hc
      obtain ⟨h1, h2⟩ := hc
      have nb : ¬ (c > 127 ∨ digitOf c ≥ st.base) := by omega
      obtain ⟨st', h, b1, b2, b3, b4⟩ := ih (digitSt st c) t hr hb ht
      refine ⟨st', ?_, b1, b2, ?_, b4⟩
      · rw [List.cons_append, scanDigits_other _ (by omega) (by unfold IsMarker; omega), if_neg (by omega), if_neg nb]
        exact h
      · rw [b3]; simp [digitSt, hasDigit, h1, h2]
    · obtain ⟨st', h, b1, b2, b3, b4⟩ := ih { st with seenpoint := true } t hr hb ht
      refine ⟨st', ?_, b1, b2, ?_, b4⟩
      · rw [List.cons_append, scanDigits_point, hseen, if_neg Bool.false_ne_true]
        exact h
      · rw [b3]; simp [hasDigit]

theorem scanExpDigits_dec (s7 : List Nat) : ∀ ee sd, (∀ c ∈ s7, IsDecCh c) →
    ∃ ee', scanExpDigits 10 s7 ee sd = some (ee', sd || !s7.isEmpty) := by
  induction s7 with
  | nil => intro ee sd _; exact ⟨ee, by simp [scanExpDigits]⟩
  | cons c r ih =>
    intro ee sd h
    obtain ⟨hd, h127⟩ := digitOf_dec c (h c (List.mem_cons_self ..))
    have nb : ¬ (c > 127 ∨ digitOf c ≥ 10) := by omega
    obtain ⟨ee', e⟩ := ih (eeStep 10 ee (digitOf c)) true (fun x hx => h x (List.mem_cons_of_mem _ hx))
    refine ⟨ee', ?_⟩
    simp only [scanExpDigits, if_neg nb]
    rw [e]; simp

theorem parseExponent_dec (st2 : ScanSt) (es ed : List Nat) (hb : st2.expBase = 10)
    (hes : es = [] ∨ es = [43] ∨ es = [45]) (hed : ed ≠ []) (hd : ∀ c ∈ ed, IsDecCh c) :
    ∃ ex, parseExponent st2 (es ++ ed) = some ex := by
  obtain ⟨c0, r0, rfl⟩ := List.exists_cons_of_ne_nil hed
  obtain ⟨h1, h2⟩ := hd c0 (List.mem_cons_self ..)
  have hsp : (splitSign (es ++ c0 :: r0)).2 = c0 :: r0 := by
    have n45 : c0 ≠ 45 := by omega
    have n43 : c0 ≠ 43 := by omega
    rcases hes with rfl | rfl | rfl <;> simp [splitSign, n45, n43]
  obtain ⟨ee', e⟩ := scanExpDigits_dec (c0 :: r0) 0 false hd
  rw [parseExponent_eq _ _ (by omega), if_neg (by simp), hsp, hb, e]
  exact ⟨_, rfl⟩

theorem scanPrefix_plain (s : List Nat) (h : ∀ c ∈ s, c ≠ 114 ∧ c ≠ 120) : scanPrefix s = some (0, s) := by
  unfold scanPrefix
  split
  · exact absurd rfl (h 120 (by simp)).2
  · exact absurd rfl (h 114 (by simp)).1
  · exact absurd rfl (h 114 (by simp)).1
  · rfl

/-- a mantissa body contains neither `r` nor `x`, so no radix prefix is read -/
theorem mantShape_chars (seen : Bool) (ds : List Nat) (h : MantShape seen ds) : ∀ c ∈ ds, c ≠ 114 ∧ c ≠ 120 := by
  induction ds generalizing seen with
  | nil => intro c hc; simp at hc
  | cons d r ih =>
    intro c hc
    rcases List.mem_cons.1 hc with rfl | hc
    · rcases h with ⟨⟨h1, h2⟩, _⟩ | ⟨rfl, _, _⟩ <;> omega
    · rcases h with ⟨_, hr⟩ | ⟨_, _, hr⟩
      · exact ih seen hr c hc
      · exact ih true hr c hc

/-- every text `[-] body [e [+|-] digits]` — body = decimal digits with at most one point, starting with a digit; at
    least one exponent digit — of at most `lenLimit` bytes is accepted by `janet_scan_number` (radix parameter 0).  This
    is the shape of libc's `%.17g` output for every finite double ("123", "-0.001", "1.5e+300", "4.9406564584124654e-324"). -/
theorem decimal_text_accepted (neg : Bool) (d0 : Nat) (ds es ed : List Nat) (hasExp : Bool)
    (hd0 : IsDecCh d0) (hds : MantShape false ds)
    (hes : es = [] ∨ es = [43] ∨ es = [45]) (hed : ed ≠ []) (hd : ∀ c ∈ ed, IsDecCh c)
    (hlen : ((if neg then [45] else []) ++ d0 :: ds ++ (if hasExp then 101 :: (es ++ ed) else [])).length ≤ lenLimit) :
    (parseNumber ((if neg then [45] else []) ++ d0 :: ds ++ (if hasExp then 101 :: (es ++ ed) else [])) 0).isSome = true := by
  set t : List Nat := if hasExp then 101 :: (es ++ ed) else [] with ht
  have htshape : t = [] ∨ ∃ r, t = 101 :: r := by
    cases hasExp
    · left; simp [ht]
    · right; exact ⟨es ++ ed, by simp [ht]⟩
  have hbody : MantShape false (d0 :: ds) := Or.inl ⟨hd0, hds⟩
  have hchars : ∀ c ∈ d0 :: ds ++ t, c ≠ 114 ∧ c ≠ 120 := by
    intro c hc
    rcases List.mem_append.1 hc with hc | hc
    · exact mantShape_chars false _ hbody c hc
    · cases hasExp
      · simp [ht] at hc
      · simp only [ht, if_true, List.mem_cons, List.mem_append] at hc
        rcases hc with rfl | hc | hc
        · omega
        · rcases hes with rfl | rfl | rfl <;> simp at hc <;> omega
        · obtain ⟨h1, h2⟩ := hd c hc; omega
  have hhead : numHeader ((if neg then [45] else []) ++ d0 :: ds ++ t) 0 = some (neg, 10, d0 :: ds ++ t) := by
    unfold numHeader
    rw [if_neg (by omega)]
    obtain ⟨h1, h2⟩ := hd0
    cases neg
    · have n45 : d0 ≠ 45 := by omega
      have n43 : d0 ≠ 43 := by omega
      simp only [Bool.false_eq_true, if_false, List.nil_append, List.cons_append, if_neg n45, if_neg n43, if_true]
      rw [show d0 :: (ds ++ t) = d0 :: ds ++ t by rfl, scanPrefix_plain _ hchars]
      rfl
    · simp only [if_true, List.cons_append, List.nil_append]
      rw [show d0 :: (ds ++ t) = d0 :: ds ++ t by rfl, scanPrefix_plain _ hchars]
      rfl
  unfold parseNumber
  rw [hhead]
  simp only
  unfold parseBody
  simp only
  obtain ⟨st2, hsd, c1, c2, c3, c4⟩ := scanDigits_shape (d0 :: ds) (ScanSt.init 10) t hbody rfl htshape
  -- the zero-skipping loop and the digit loop after it are that one run
  rw [← skipZeros_bind_scanDigits _ (ScanSt.init 10) rfl (by decide), Option.bind_eq_some_iff] at hsd
  obtain ⟨⟨s3, st1⟩, hz, hsd⟩ := hsd
  rw [hz]
  simp only
  rw [hsd]
  simp only
  have hsa : st2.seenadigit = true := by
    obtain ⟨h1, h2⟩ := hd0
    rw [c3]; simp [hasDigit, h1, h2]
  rw [hsa]
  simp only [Bool.not_true, Bool.false_eq_true, if_false]
  cases hasExp
  · simp [ht]
  · simp only [ht, if_true]
    have hfe : st2.foundexp = true := c4 (by simp [ht])
    rw [hfe]
    simp only [Bool.not_true, Bool.false_eq_true, if_false]
    obtain ⟨ex, hex⟩ := parseExponent_dec st2 es ed c2 hes hed hd
    rw [hex]
    rfl

end JanetModel.Strtod
