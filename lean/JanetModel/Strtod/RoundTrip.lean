/- C13: the reading side of the 17-significant-digit round trip.  `Close17 N D X`: the exact value `N/D` of a text is within
   half a unit in the 17th significant digit of `X`; this is the only thing assumed about the printing side (libc
   `snprintf("%.17g")`).  Then the reader returns exactly `X`: through `ldexp` (`finish_roundtrip`), `convert`, the scanner. -/
import JanetModel.Strtod.EndToEnd

namespace JanetModel.Strtod
open JanetModel.Gen.Strtod

/-- the value `N/D` is within half a unit in the 17th significant digit of `X` (all in the same unit):
    `(2·10^16 − 1)·N/D ≤ 2·10^16·X ≤ (2·10^16 + 1)·N/D`, i.e. `|N/D − X| ≤ (N/D)/(2·10^16)` -/
def Close17 (N D X : Nat) : Prop :=
  (2 * 10 ^ 16 - 1) * N ≤ 2 * 10 ^ 16 * (X * D) ∧ 2 * 10 ^ 16 * (X * D) ≤ (2 * 10 ^ 16 + 1) * N

theorem Close17.congr {N D N' D' X : Nat} (h : Close17 N D X) (hD : 0 < D) (hx : N * D' = N' * D) :
    Close17 N' D' X := by
  obtain ⟨h1, h2⟩ := h
  unfold Close17
  generalize 2 * 10 ^ 16 - 1 = c1 at *
  generalize 2 * 10 ^ 16 + 1 = c3 at *
  generalize 2 * 10 ^ 16 = c2 at *
  constructor
  · apply Nat.le_of_mul_le_mul_right _ hD
    calc c1 * N' * D = c1 * (N' * D) := by ring
      _ = c1 * (N * D') := by rw [hx]
      _ = c1 * N * D' := by ring
      _ ≤ c2 * (X * D) * D' := Nat.mul_le_mul_right _ h1
      _ = c2 * (X * D') * D := by ring
  · apply Nat.le_of_mul_le_mul_right _ hD
    calc c2 * (X * D') * D = c2 * (X * D) * D' := by ring
      _ ≤ c3 * N * D' := Nat.mul_le_mul_right _ h2
      _ = c3 * (N * D') := by ring
      _ = c3 * (N' * D) := by rw [hx]
      _ = c3 * N' * D := by ring

theorem rneShift_of_close (t s k : Nat) (hs : 1 ≤ s) (h1 : 2 * t < (2 * k + 1) * 2 ^ s)
    (h2 : 2 * k * 2 ^ s < 2 * t + 2 ^ s) : rneShift t s = k := by
  obtain ⟨n1, n2⟩ := rneShift_near t s hs
  generalize rneShift t s = r at n1 n2 ⊢
  generalize 2 ^ s = P at h1 h2 n1 n2
  rw [Nat.add_mul, Nat.one_mul, Nat.mul_assoc] at h1
  rw [Nat.mul_assoc] at h2
  -- both `r·P` and `k·P` are within half a step of `t`
  have a : r * P < (k + 1) * P := by rw [Nat.add_mul, Nat.one_mul]; omega
  have b : k * P < (r + 1) * P := by rw [Nat.add_mul, Nat.one_mul]; omega
  have := Nat.lt_of_mul_lt_mul_right a
  have := Nat.lt_of_mul_lt_mul_right b
  omega

/-! What `Close17` excludes, on grids.  `N/D` is the exact value and `X` the target, `P/D` the reader's significand times its
grid step `a/D` (so `|P − N| ≤ a/2`).  2^54 < 2·10^16 is what makes each of these hold. -/

theorem Close17.not_below {N D X : Nat} (hc : Close17 N D X) (a : Nat) (hmag : (2 ^ 54 - 1) * a ≤ 4 * N)
    (h : 4 * (X * D) ≤ (2 ^ 54 - 2) * a) (hpos : 0 < a) : False := by
  obtain ⟨h1, _⟩ := hc
  omega

theorem Close17.not_above {N D X : Nat} (hc : Close17 N D X) (P a c : Nat) (hn2 : 2 * N < 2 * P + a)
    (hP : P ≤ (2 ^ 53 - 1) * a) (hX : 2 ^ 52 * c ≤ X * D) (h : 2 * a ≤ c) : False := by
  obtain ⟨_, h2⟩ := hc
  omega

theorem Close17.same_grid {N D X : Nat} (hc : Close17 N D X) (P a : Nat) (hn1 : 2 * P ≤ 2 * N + a)
    (hn2 : 2 * N < 2 * P + a) (hP : P ≤ (2 ^ 53 - 1) * a) : P < X * D + a ∧ X * D < P + a := by
  obtain ⟨h1, h2⟩ := hc
  omega

theorem Close17.half_step {N S X : Nat} (hc : Close17 N S X) (P d : Nat) (hn1 : 2 * P ≤ 2 * N + d)
    (hn2 : 2 * N < 2 * P + d) (hd : 2 * d ≤ S) (hX : X * S ≤ (2 ^ 52 - 1) * S) :
    2 * P < 2 * (X * S) + S ∧ 2 * (X * S) < 2 * P + S := by
  obtain ⟨h1, h2⟩ := hc
  omega

/-- the reader's last two steps return EXACTLY the finite non-zero double `k` whenever the exact value (`N/D` in units
    of 2^e2) is `Close17` to it.  `(t, e2)` as produced by `bignat_extract`: normalised, nearest (ties away) to `N/D`, with
    the magnitude conjunct `N/D ≥ 2^52 − ¼`.  Covers: same binade; value just below a power of two (reader on the finer
    grid, rounds up to 2^53 and renormalises — the magnitude conjunct rules out a stale grid); value just above the top of a
    binade; subnormal `k` (second rounding in `ldexp`: |t/2^s − k| < ½ strictly, so no double-rounding error); overflow
    impossible. -/
theorem finish_roundtrip (t : Nat) (e2 : Int) (N D k : Nat) (hD : 0 < D) (hlo : 2 ^ 52 ≤ t) (hhi : t < 2 ^ 53)
    (hN : NearestUpN t N D) (hmag : (2 ^ 54 - 1) * D ≤ 4 * N) (hk0 : 0 < k) (hk : k < infBits)
    (hc : Close17 (N * 2 ^ (e2 + 1074).toNat) (D * 2 ^ (-1074 - e2).toNat) (ulps k)) :
    ldexpBits t e2 = k := by
  obtain ⟨hn1, hn2⟩ := hN
  rw [Nat.mul_assoc] at hn1 hn2
  have hP : t * D ≤ (2 ^ 53 - 1) * D := Nat.mul_le_mul_right _ (by omega)
  by_cases hA : -1074 ≤ e2
  · -- reader in the normal / overflow range, on the grid of 2^g ulps: scale its facts by 2^g
    rw [show (-1074 - e2).toNat = 0 by omega, pow_zero, Nat.mul_one] at hc
    generalize hg : (e2 + 1074).toNat = g at hc
    have hgp : 0 < 2 ^ g := Nat.two_pow_pos _
    have ha : 0 < 2 ^ g * D := Nat.mul_pos hgp hD
    have n1 : 2 * (t * (2 ^ g * D)) ≤ 2 * (N * 2 ^ g) + 2 ^ g * D :=
      calc 2 * (t * (2 ^ g * D)) = 2 * (t * D) * 2 ^ g := by ring
        _ ≤ (2 * N + D) * 2 ^ g := Nat.mul_le_mul_right _ hn1
        _ = 2 * (N * 2 ^ g) + 2 ^ g * D := by ring
    have n2 : 2 * (N * 2 ^ g) < 2 * (t * (2 ^ g * D)) + 2 ^ g * D :=
      calc 2 * (N * 2 ^ g) = 2 * N * 2 ^ g := by ring
        _ < (2 * (t * D) + D) * 2 ^ g := Nat.mul_lt_mul_of_pos_right hn2 hgp
        _ = 2 * (t * (2 ^ g * D)) + 2 ^ g * D := by ring
    have m1 : (2 ^ 54 - 1) * (2 ^ g * D) ≤ 4 * (N * 2 ^ g) :=
      calc (2 ^ 54 - 1) * (2 ^ g * D) = (2 ^ 54 - 1) * D * 2 ^ g := by ring
        _ ≤ 4 * N * 2 ^ g := Nat.mul_le_mul_right _ hmag
        _ = 4 * (N * 2 ^ g) := by ring
    have hP' : t * (2 ^ g * D) ≤ (2 ^ 53 - 1) * (2 ^ g * D) := Nat.mul_le_mul_right _ (by omega)
    by_cases hkn : 2 ^ 52 ≤ k
    · obtain ⟨T, q, hd, hT1, hT2, hq1, hq2, hu⟩ := decode_normal k hkn hk
      generalize hh : (q + 1074).toNat = h at hu
      rw [hu] at hc
      have Tlo : 2 ^ 52 * (2 ^ h * D) ≤ T * 2 ^ h * D := by
        rw [Nat.mul_assoc T]; exact Nat.mul_le_mul_right _ hT1
      have Thi : T * 2 ^ h * D ≤ (2 ^ 53 - 1) * (2 ^ h * D) := by
        rw [Nat.mul_assoc T]; exact Nat.mul_le_mul_right _ (by omega)
      rcases Nat.lt_trichotomy g h with hgh | hgh | hgh
      · -- the double's grid is coarser than the reader's
        refine (hc.not_above _ _ (2 ^ h * D) n2 hP' Tlo ?_).elim
        calc 2 * (2 ^ g * D) = 2 ^ (g + 1) * D := by rw [pow_succ]; ring
          _ ≤ 2 ^ h * D := Nat.mul_le_mul_right _ (Nat.pow_le_pow_right (by decide) hgh)
      · subst hgh
        obtain ⟨c1, c2⟩ := hc.same_grid _ _ n1 n2 hP'
        rw [Nat.mul_assoc T, ← Nat.succ_mul] at c1 c2
        have htT : t = T := by
          have := Nat.lt_of_mul_lt_mul_right c1
          have := Nat.lt_of_mul_lt_mul_right c2
          omega
        apply decodeBits_inj _ _ (lt_of_le_of_lt (ldexpBits_le _ _) infBits_lt) (lt_trans hk infBits_lt)
        rw [ldexp_exact_normal t e2 hlo hhi hA (by omega), hd, htT, show e2 = q by omega]
      · -- the double's grid is finer than the reader's: the value is too large for it
        have h2 : 2 * (2 ^ h * D) ≤ 2 ^ g * D :=
          calc 2 * (2 ^ h * D) = 2 ^ (h + 1) * D := by rw [pow_succ]; ring
            _ ≤ 2 ^ g * D := Nat.mul_le_mul_right _ (Nat.pow_le_pow_right (by decide) hgh)
        exact (hc.not_below (2 ^ g * D) m1 (by omega) ha).elim
    · -- a subnormal target, but the reader's result is at least 2^52 ulps
      rw [ulps_small k (by omega)] at hc
      have hkD : k * D ≤ (2 ^ 52 - 1) * D := Nat.mul_le_mul_right _ (by omega)
      have : D ≤ 2 ^ g * D := Nat.le_mul_of_pos_left D hgp
      exact (hc.not_below (2 ^ g * D) m1 (by omega) ha).elim
  · -- reader below the normal range: `ldexp` rounds again, by s bits
    rw [show (e2 + 1074).toNat = 0 by omega, pow_zero, Nat.mul_one] at hc
    generalize hs : (-1074 - e2).toNat = s at hc
    have hs1 : 1 ≤ s := by omega
    have hS2 : 2 * D ≤ D * 2 ^ s :=
      calc 2 * D = D * 2 ^ 1 := by ring
        _ ≤ D * 2 ^ s := Nat.mul_le_mul_left _ (Nat.pow_le_pow_right (by decide) hs1)
    by_cases hkn : 2 ^ 52 ≤ k
    · -- a normal target is out of reach
      obtain ⟨T, q, _, hT1, _, _, _, hu⟩ := decode_normal k hkn hk
      have hX : 2 ^ 52 * (D * 2 ^ s) ≤ ulps k * (D * 2 ^ s) := by
        rw [hu]
        exact Nat.mul_le_mul_right _ (le_trans hT1 (Nat.le_mul_of_pos_right _ (Nat.two_pow_pos _)))
      exact (hc.not_above (t * D) D (D * 2 ^ s) hn2 hP hX hS2).elim
    · rw [ulps_small k (by omega)] at hc
      obtain ⟨c1, c2⟩ := hc.half_step (t * D) D hn1 hn2 hS2 (Nat.mul_le_mul_right _ (by omega))
      rw [(ldexp_subnormal_bits t e2 (by omega) hhi (by omega)).1, hs]
      apply rneShift_of_close t s k hs1
      · apply Nat.lt_of_mul_lt_mul_right (a := D)
        calc 2 * t * D = 2 * (t * D) := Nat.mul_assoc _ _ _
          _ < 2 * (k * (D * 2 ^ s)) + D * 2 ^ s := c1
          _ = (2 * k + 1) * 2 ^ s * D := by ring
      · apply Nat.lt_of_mul_lt_mul_right (a := D)
        calc 2 * k * 2 ^ s * D = 2 * (k * (D * 2 ^ s)) := by ring
          _ < 2 * (t * D) + D * 2 ^ s := c2
          _ = (2 * t + 2 ^ s) * D := by ring

theorem close17_pos {N D X : Nat} (h : Close17 N D X) (hX : 0 < X) (hD : 0 < D) : 0 < N := by
  obtain ⟨_, h2⟩ := h
  have : 0 < X * D := Nat.mul_pos hX hD
  omega

theorem close17_not_tiny {N D X : Nat} (h : Close17 N D X) (hX : 0 < X) (hD : 0 < D) (ht : 2 * N ≤ D) : False := by
  obtain ⟨_, h2⟩ := h
  have : D ≤ X * D := Nat.le_mul_of_pos_left D hX
  omega

theorem close17_not_huge {N D : Nat} (k : Nat) (hk : k < infBits) (h : Close17 N D (ulps k)) (hD : 0 < D)
    (hbig : 2 ^ 52 * 2 ^ 2046 * D ≤ N) : False := by
  obtain ⟨h1, _⟩ := h
  have hX := Nat.mul_le_mul_right D (ulps_finite_le k hk)
  rw [show (2 : Nat) ^ 52 * 2 ^ 2046 = 2 ^ 53 * 2 ^ 2045 by rw [← pow_add, ← pow_add], Nat.mul_assoc] at hbig
  rw [Nat.mul_assoc] at hX
  have : 0 < 2 ^ 2045 * D := Nat.mul_pos (Nat.two_pow_pos _) hD
  generalize 2 ^ 2045 * D = a at hbig hX this
  omega

theorem convert_roundtrip (neg : Bool) (mant : BigNat) (base : Nat) (ex : Int) (hi : MantInv mant)
    (hb2 : 2 ≤ base) (hb : base ≤ 36) (hex : ex.natAbs < 2 ^ 31)
    (k : Nat) (hk0 : 0 < k) (hk : k < infBits)
    (hc : Close17 (mant.val * base ^ ex.toNat * 2 ^ 1074) (base ^ (-ex).toNat) (ulps k)) :
    convert neg mant base ex = withSign neg k := by
  have hD : 0 < base ^ (-ex).toNat := Nat.pow_pos (by omega)
  have hX := ulps_pos k hk0 hk
  rcases convert_cases neg mant base ex hi hb2 hb hex with
    ⟨_, hv⟩ | ⟨_, hv⟩ | ⟨_, _, hv⟩ | ⟨t, e2, N, D, hcv, hD', hS, hx⟩
  · rw [hv, Nat.zero_mul, Nat.zero_mul] at hc
    exact absurd (close17_pos hc hX hD) (lt_irrefl 0)
  · exact (close17_not_huge k hk hc hD hv).elim
  · refine (close17_not_tiny hc hX hD (le_of_lt (lt_of_le_of_lt ?_ hv))).elim
    rw [Nat.mul_comm 2]
    exact Nat.mul_le_mul_left _ (by decide)
  · rw [hcv, finish_roundtrip t e2 N D k hD' hS.lo hS.hi hS.nearest hS.mag hk0 hk (hc.congr hD hx.symm)]

/-- the READING half of the round trip, end to end: whenever the value DENOTED by an accepted text (`denote`, the
    grammar-level spec) is within half a unit in the 17th significant digit of a finite non-zero double `k`, the scanner
    returns exactly that double with the text's sign. -/
theorem scan_roundtrip (str : List Nat) (base0 : Nat) (hb : base0 ≤ 36)
    (bits : Nat) (h : scanNumberBase str base0 = some bits) (k : Nat) (hk0 : 0 < k) (hk : k < infBits)
    (hc : Close17 ((denote str base0).M * (denote str base0).b ^ (denote str base0).E.toNat * 2 ^ 1074)
        ((denote str base0).b ^ (-(denote str base0).E).toNat) (ulps k)) :
    bits = withSign (denote str base0).neg k := by
  have hXpos := ulps_pos k hk0 hk
  obtain ⟨p, _, hbits, A⟩ := scan_cases str base0 hb bits h
  have hbpos : ∀ n, 0 < p.base ^ n := fun n => Nat.pow_pos A.base_le.1
  rw [← A.neg, hbits]
  rw [← A.base, ← A.mant] at hc
  rcases A.exp_cases with hM0 | ⟨hb2, _, hE | hbig | hsmall⟩
  · rw [hM0, Nat.zero_mul, Nat.zero_mul] at hc
    exact absurd (close17_pos hc hXpos (hbpos _)) (lt_irrefl 0)
  · rw [← hE] at hc
    exact convert_roundtrip p.neg p.mant p.base p.ex A.inv hb2 A.base_le.2 A.exp.natAbs_lt k hk0 hk hc
  · exact (close17_not_huge k hk hc (hbpos _) (hbig _ (Or.inr rfl))).elim
  · exact (close17_not_tiny hc hXpos (hbpos _) (hsmall _ (Or.inr rfl))).elim

/-- The value `N/D` is the 17-significant-digit decimal `d·u` (`d ≥ 10^16` its digits read as an integer, `u = P/Q` the unit
    of its last digit) and lies within half such a unit of `X`  ⇒  `Close17 N D X`.  (2^53 < 10^16 is what makes 17 digits
    enough; it is used in `finish_roundtrip`.) -/
theorem close17_of_half_unit (N D X d P Q : Nat) (hd : 10 ^ 16 ≤ d) (hQ : 0 < Q) (hval : N * Q = d * P * D)
    (h1 : 2 * N * Q ≤ 2 * (X * D) * Q + P * D) (h2 : 2 * (X * D) * Q ≤ 2 * N * Q + P * D) : Close17 N D X := by
  have hdP : 10 ^ 16 * (P * D) ≤ N * Q := by
    rw [hval, Nat.mul_assoc]; exact Nat.mul_le_mul_right _ hd
  rw [Nat.mul_assoc 2 N Q, Nat.mul_assoc 2 (X * D) Q] at h1 h2
  -- multiplied by `Q`, both bounds are linear in `N·Q`, `X·D·Q` and `P·D`
  constructor
  · apply Nat.le_of_mul_le_mul_right _ hQ
    rw [Nat.mul_assoc _ N Q, Nat.mul_assoc _ (X * D) Q]
    omega
  · apply Nat.le_of_mul_le_mul_right _ hQ
    rw [Nat.mul_assoc _ N Q, Nat.mul_assoc _ (X * D) Q]
    omega

end JanetModel.Strtod
