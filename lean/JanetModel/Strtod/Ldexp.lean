/- C13: the final `ldexp` step: exact in the normal exponent range, a second (still faithful) rounding onto the subnormal
   grid, +inf above DBL_MAX. -/
import JanetModel.Strtod.Extract
import JanetModel.Util.Bits

namespace JanetModel.Strtod
open JanetModel.Gen.Strtod

theorem bitLen_53 (t : Nat) (hlo : 2 ^ 52 ≤ t) (hhi : t < 2 ^ 53) : bitLen t = 53 := by
  have h0 : t ≠ 0 := by
    intro h; rw [h] at hlo; exact absurd hlo (by norm_num)
  obtain ⟨h1, h2, h3⟩ := bitLen_bounds t h0
  have a : 2 ^ (bitLen t - 1) < 2 ^ 53 := lt_of_le_of_lt h1 hhi
  have b : 2 ^ 52 < 2 ^ bitLen t := lt_of_le_of_lt hlo h2
  have a' := (Nat.pow_lt_pow_iff_right (by decide : 1 < 2)).1 a
  have b' := (Nat.pow_lt_pow_iff_right (by decide : 1 < 2)).1 b
  omega

theorem bitLen_le_53 (t : Nat) (h : t < 2 ^ 53) : bitLen t ≤ 53 := bitLen_le_of_lt t 53 h

theorem normalised_shift (m : Nat) (h0 : m ≠ 0) (h : m < 2 ^ 53) :
    2 ^ 52 ≤ m * 2 ^ (53 - bitLen m) ∧ m * 2 ^ (53 - bitLen m) < 2 ^ 53 := by
  obtain ⟨hlo, hhi, hpos⟩ := bitLen_bounds m h0
  have hl := bitLen_le_53 m h
  have e52 : 2 ^ (bitLen m - 1) * 2 ^ (53 - bitLen m) = 2 ^ 52 := by
    rw [← Nat.pow_add, show bitLen m - 1 + (53 - bitLen m) = 52 by omega]
  have e53 : 2 ^ bitLen m * 2 ^ (53 - bitLen m) = 2 ^ 53 := by
    rw [← Nat.pow_add, show bitLen m + (53 - bitLen m) = 53 by omega]
  exact ⟨e52 ▸ Nat.mul_le_mul_right _ hlo, e53 ▸ Nat.mul_lt_mul_of_pos_right hhi (Nat.two_pow_pos _)⟩

theorem decodeBits_normal (E T : Nat) (hlo : 2 ^ 52 ≤ T) (hhi : T < 2 ^ 53) (hE : E ≤ 2045) :
    decodeBits (E * 4503599627370496 + T) = (T, (E : Int) - 1074) := by
  obtain ⟨d1, d2⟩ := Util.digit (B := 4503599627370496) (a := T - 4503599627370496) (E + 1) (by omega)
  have e : E * 4503599627370496 + T = T - 4503599627370496 + 4503599627370496 * (E + 1) := by omega
  have hef : (E * 4503599627370496 + T) / 4503599627370496 % 2048 = E + 1 := by
    rw [e, d2]; exact Nat.mod_eq_of_lt (by omega)
  have hf : (E * 4503599627370496 + T) % 4503599627370496 = T - 4503599627370496 := by rw [e, d1]
  unfold decodeBits
  simp only [hef, hf]
  rw [if_neg (Nat.succ_ne_zero E)]
  refine Prod.ext ?_ ?_
  · simp only; omega
  · simp only; omega

/-- whenever the leading bit of `m·2^e` (m < 2^53) has an exponent in the normal range −1022..1023, `ldexp((double) m, e)`
    is exact: the pattern decodes to `m`, left-aligned in 53 bits, with the exponent adjusted by the same shift. -/
theorem ldexp_exact (m : Nat) (e : Int) (h0 : m ≠ 0) (hm : m < 2 ^ 53) (he1 : -1022 ≤ e + bitLen m - 1)
    (he2 : e + bitLen m - 1 ≤ 1023) :
    decodeBits (ldexpBits m e) = (m * 2 ^ (53 - bitLen m), e - ((53 - bitLen m : Nat) : Int)) := by
  have hl := bitLen_le_53 m hm
  obtain ⟨m1, m2⟩ := normalised_shift m h0 hm
  unfold ldexpBits
  rw [if_neg h0]
  simp only
  rw [if_neg (by omega : ¬ e + (bitLen m : Int) - 1 > 1100), if_neg (by omega : ¬ e + (bitLen m : Int) - 1 - 52 < -1074),
    if_pos (by omega : e + (bitLen m : Int) - 1 - 52 ≤ e),
    show (e - (e + (bitLen m : Int) - 1 - 52)).toNat = 53 - bitLen m by omega, Nat.shiftLeft_eq]
  generalize m * 2 ^ (53 - bitLen m) = T at m1 m2 ⊢
  obtain ⟨E, hE⟩ : ∃ E : Nat, e + (bitLen m : Int) - 1 - 52 + 1074 = (E : Int) := ⟨(e + bitLen m + 1021).toNat, by omega⟩
  rw [hE, if_neg (by omega), show ((E : Int) * 4503599627370496 + (T : Int)).toNat = E * 4503599627370496 + T by omega,
    decodeBits_normal E T m1 m2 (by omega)]
  refine Prod.ext rfl ?_
  simp only; omega

theorem ldexp_exact_normal (t : Nat) (e : Int) (hlo : 2 ^ 52 ≤ t) (hhi : t < 2 ^ 53) (he1 : -1074 ≤ e) (he2 : e ≤ 971) :
    decodeBits (ldexpBits t e) = (t, e) := by
  have hl := bitLen_53 t hlo hhi
  rw [ldexp_exact t e (by omega) hhi (by omega) (by omega), hl]
  simp

theorem rneShift_cases (t s : Nat) : rneShift t s = t / 2 ^ s ∨ (rneShift t s = t / 2 ^ s + 1 ∧ t % 2 ^ s ≠ 0) := by
  unfold rneShift
  by_cases hs : s = 0
  · left; simp [hs]
  · rw [if_neg hs]
    simp only [Nat.shiftRight_eq_div_pow]
    split
    · rename_i h
      right
      refine ⟨rfl, ?_⟩
      have hp : 0 < 2 ^ (s - 1) := Nat.two_pow_pos _
      rcases h with h | h <;> omega
    · left; rfl

theorem rneShift_near (t s : Nat) (hs : 1 ≤ s) :
    2 * (rneShift t s * 2 ^ s) ≤ 2 * t + 2 ^ s ∧ 2 * t ≤ 2 * (rneShift t s * 2 ^ s) + 2 ^ s := by
  obtain ⟨s', rfl⟩ : ∃ s', s = s' + 1 := ⟨s - 1, by omega⟩
  unfold rneShift
  rw [if_neg (by omega)]
  simp only [Nat.shiftRight_eq_div_pow, Nat.add_sub_cancel]
  rw [pow_succ']
  have hH : 0 < 2 ^ s' := Nat.two_pow_pos _
  generalize 2 ^ s' = H at hH ⊢
  have hdm := Nat.div_add_mod' t (2 * H)
  have hml := Nat.mod_lt t (show 0 < 2 * H by omega)
  generalize t / (2 * H) = q at hdm ⊢
  generalize t % (2 * H) = r at hdm hml ⊢
  subst hdm
  split
  · rw [Nat.add_mul]; omega
  · omega

/-- double rounding keeps faithfulness: a faithful rounding `t` of `N/D`, rounded again (to nearest even) onto the 2^s
    times coarser grid, is still the floor or — only if inexact — the ceiling of the exact value on that grid.
    (Not necessarily the *nearest* any more; "one of the two adjacent doubles" is what the property asks.) -/
theorem rne_faithful (t N D s : Nat) (hD : 0 < D) (hF : FaithfulN t N D) : FaithfulN (rneShift t s) N (D * 2 ^ s) := by
  by_cases hs : s = 0
  · subst hs; simpa [rneShift] using hF
  -- less than one fine step from the first rounding, at most half a coarse step (≥ one fine step) from the second:
  -- less than one coarse step in all
  obtain ⟨h1, h2⟩ := hF.within hD
  obtain ⟨n1, n2⟩ := rneShift_near t s (by omega)
  have hP : 2 ≤ 2 ^ s := by
    calc 2 = 2 ^ 1 := rfl
      _ ≤ 2 ^ s := Nat.pow_le_pow_right (by decide) (by omega)
  have hPD : 2 * D ≤ 2 ^ s * D := Nat.mul_le_mul_right D hP
  have m1 := Nat.mul_le_mul_right D n1
  have m2 := Nat.mul_le_mul_right D n2
  generalize rneShift t s = r at *
  generalize 2 ^ s = P at *
  apply FaithfulN.of_within (Nat.mul_pos hD (by omega))
  · rw [show r * (D * P) = r * P * D by ring, show D * P = P * D by ring]
    rw [show 2 * (r * P) * D = 2 * (r * P * D) by ring, Nat.add_mul, show 2 * t * D = 2 * (t * D) by ring] at m1
    omega
  · rw [show r * (D * P) = r * P * D by ring, show D * P = P * D by ring]
    rw [show 2 * t * D = 2 * (t * D) by ring, Nat.add_mul, show 2 * (r * P) * D = 2 * (r * P * D) by ring] at m2
    omega

/-- below the normal range `ldexp((double) t, e)` returns the bit pattern `rneShift t (−1074 − e)`: a count of 2^−1074
    units (patterns 0..2^52 denote pattern·2^−1074, 2^52 being the smallest normal) -/
theorem ldexp_subnormal_bits (t : Nat) (e : Int) (ht0 : t ≠ 0) (ht : t < 2 ^ 53) (he : e < -1074) :
    ldexpBits t e = rneShift t (-1074 - e).toNat ∧ ldexpBits t e ≤ 2 ^ 52 := by
  have hl := bitLen_le_53 t ht
  have hb : rneShift t (-1074 - e).toNat ≤ 2 ^ 52 := by
    obtain ⟨s, hs⟩ : ∃ s : Nat, (-1074 - e).toNat = s + 1 := ⟨(-1074 - e).toNat - 1, by omega⟩
    rw [hs]
    have hdiv : t / 2 ^ (s + 1) < 2 ^ 52 := by
      rw [Nat.div_lt_iff_lt_mul (Nat.two_pow_pos _)]
      calc t < 2 ^ 53 := ht
        _ = 2 ^ 52 * 2 ^ 1 := by norm_num
        _ ≤ 2 ^ 52 * 2 ^ (s + 1) := Nat.mul_le_mul_left _ (Nat.pow_le_pow_right (by decide) (by omega))
    rcases rneShift_cases t (s + 1) with r | ⟨r, _⟩ <;> omega
  have hval : ldexpBits t e = rneShift t (-1074 - e).toNat := by
    unfold ldexpBits
    rw [if_neg ht0]
    simp only
    rw [if_neg (by omega : ¬ e + (bitLen t : Int) - 1 > 1100), if_pos (by omega : e + (bitLen t : Int) - 1 - 52 < -1074),
      if_neg (by omega : ¬ (-1074 : Int) ≤ e)]
    generalize rneShift t (-1074 - e).toNat = mant at hb ⊢
    rw [if_neg (by omega)]
    omega
  exact ⟨hval, by rw [hval]; exact hb⟩

theorem ldexp_faithful_subnormal (t N D : Nat) (e : Int) (hD : 0 < D) (ht0 : t ≠ 0) (ht : t < 2 ^ 53) (he : e < -1074)
    (hF : FaithfulN t N D) :
    FaithfulN (ldexpBits t e) N (D * 2 ^ (-1074 - e).toNat) ∧ ldexpBits t e ≤ 2 ^ 52 := by
  obtain ⟨hv, hb⟩ := ldexp_subnormal_bits t e ht0 ht he
  exact ⟨by rw [hv]; exact rne_faithful t N D _ hD hF, hb⟩

theorem ldexp_overflow_bits (t : Nat) (e : Int) (hlo : 2 ^ 52 ≤ t) (hhi : t < 2 ^ 53) (he : 972 ≤ e) :
    ldexpBits t e = infBits := by
  have hl := bitLen_53 t hlo hhi
  unfold ldexpBits
  rw [if_neg (by omega : t ≠ 0)]
  simp only [hl]
  by_cases c1 : e + ((53 : Nat) : Int) - 1 > 1100
  · rw [if_pos c1]
  · rw [if_neg c1, if_neg (by omega : ¬ e + ((53 : Nat) : Int) - 1 - 52 < -1074),
      show e + ((53 : Nat) : Int) - 1 - 52 = e by omega]
    simp only [le_refl, if_true, Int.sub_self, Int.toNat_zero, Nat.shiftLeft_zero]
    rw [if_pos (by omega)]

/-- for e ≥ 972 the exact value is above DBL_MAX = (2^53−1)·2^971 (so DBL_MAX and +inf are its two neighbours):
    from the magnitude fact `(2^54−1)·D ≤ 4·N` (`Sig53.mag`) for the exact value `N/D` (in units of
    2^e), `N/D · 2^e > (2^53−1)·2^971` whenever e ≥ 972. -/
theorem overflow_value_gt_dblmax (N D e : Nat) (hD : 0 < D) (hmag : (2 ^ 54 - 1) * D ≤ 4 * N) (he : 972 ≤ e) :
    (2 ^ 53 - 1) * 2 ^ 971 * D < N * 2 ^ e := by
  have h1 : N * (2 ^ 2 * 2 ^ 970) ≤ N * 2 ^ e := by
    rw [← pow_add]; exact Nat.mul_le_mul_left _ (Nat.pow_le_pow_right (by decide) he)
  have e971 : (2 : Nat) ^ 971 = 2 * 2 ^ 970 := pow_succ' 2 970
  have hDP : 0 < D * 2 ^ 970 := Nat.mul_pos hD (Nat.two_pow_pos _)
  rw [e971]
  generalize (2 : Nat) ^ 970 = P at h1 hDP ⊢
  -- (2^53 − 1)·2P·D = (2^54 − 2)·DP < (2^54 − 1)·DP ≤ 4N·P ≤ N·2^e
  calc (2 ^ 53 - 1) * (2 * P) * D = (2 ^ 53 - 1) * 2 * (D * P) := by ring
    _ < (2 ^ 54 - 1) * (D * P) := Nat.mul_lt_mul_of_pos_right (by decide) hDP
    _ = (2 ^ 54 - 1) * D * P := (Nat.mul_assoc _ _ _).symm
    _ ≤ 4 * N * P := Nat.mul_le_mul_right _ hmag
    _ = N * (2 ^ 2 * P) := by ring
    _ ≤ N * 2 ^ e := h1

theorem ldexp_exact_int (t : Nat) (ht0 : t ≠ 0) (ht : t < 2 ^ 53) :
    decodeBits (ldexpBits t 0) = (t * 2 ^ (53 - bitLen t), -((53 - bitLen t : Nat) : Int)) := by
  have hl := bitLen_le_53 t ht
  rw [ldexp_exact t 0 ht0 ht (by omega) (by omega), Int.zero_sub]

end JanetModel.Strtod
