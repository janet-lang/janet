import JanetModel.Sandbox.Model
import JanetModel.Util.Bits
/-
C18 - sandboxed capabilities stay disabled: the proofs that hold for every graph (independent of the generated graph, so they
are not rebuilt when Gen/Sandbox.lean changes).  Props/C18.lean restates the property theorems and holds the per-run obligations.
The flag word only gains bits; the cases a certificate lists at a node are an invariant of every execution (`ex_inv`,
`ob_inv`), so what `certOK` checked at a `libc` node holds whenever the node is reached.
-/
namespace JanetModel.Sandbox.Sound
open JanetModel.Sandbox

theorem subMask_iff {r f : Nat} : subMask r f = true ↔ r &&& f = r := by
  unfold subMask; exact beq_iff_eq

theorem subMask_refl (f : Nat) : subMask f f = true := by
  rw [subMask_iff]; exact Nat.and_self f

theorem subMask_trans {a b c : Nat} (h1 : subMask a b = true) (h2 : subMask b c = true) : subMask a c = true := by
  rw [subMask_iff] at *
  calc a &&& c = (a &&& b) &&& c := by rw [h1]
    _ = a &&& (b &&& c) := Nat.and_assoc a b c
    _ = a &&& b := by rw [h2]
    _ = a := h1

theorem subMask_zero (f : Nat) : subMask 0 f = true := by
  rw [subMask_iff]; exact Nat.zero_and f

theorem subMask_or_left (f x : Nat) : subMask f (f ||| x) = true := by
  rw [subMask_iff]
  apply Nat.eq_of_testBit_eq
  intro i
  simp only [Nat.testBit_and, Nat.testBit_or]
  cases f.testBit i <;> simp

theorem subMask_or_right (f x : Nat) : subMask x (f ||| x) = true := by
  rw [Nat.or_comm]; exact subMask_or_left x f

/-- an assert of `m` that is passed shows that every group meeting `m` has an enabled capability -/
theorem assert_gives {f m g : Nat} (hp : assertPasses f m = true) (hg : (g &&& m != 0) = true) : subMask g f = false := by
  unfold assertPasses at hp
  have hp' : f &&& m = 0 := beq_iff_eq.mp hp
  cases hs : subMask g f with
  | false => rfl
  | true =>
    exfalso
    rw [subMask_iff] at hs
    have : g &&& m = 0 := by
      calc g &&& m = (g &&& f) &&& m := by rw [hs]
        _ = g &&& (f &&& m) := Nat.and_assoc g f m
        _ = 0 := by rw [hp']; exact Nat.and_zero g
    rw [this] at hg
    simp at hg

theorem holds_imp {ks : List Nat} {f g' : Nat} (hk : holds ks f) (hi : imp g' ks = true) : subMask g' f = false := by
  unfold imp at hi
  rw [List.any_eq_true] at hi
  obtain ⟨g, hg, hsub⟩ := hi
  cases hs : subMask g' f with
  | false => rfl
  | true =>
    have := subMask_trans hsub hs
    rw [hk g hg] at this
    cases this

theorem holds_impAll {ks gs : List Nat} {f : Nat} (hk : holds ks f) (hi : impAll gs ks = true) : holds gs f := by
  intro g' hg'
  unfold impAll at hi
  rw [List.all_eq_true] at hi
  exact holds_imp hk (hi g' hg')

theorem not_dead_of_holds {ks : List Nat} {f : Nat} (hk : holds ks f) : ks.contains 0 = false := by
  cases h : ks.contains 0 with
  | false => rfl
  | true =>
    have hm : 0 ∈ ks := by simpa using h
    have := hk 0 hm
    rw [subMask_zero] at this
    cases this

theorem holds_nil (f : Nat) : holds [] f := by
  intro g hg; cases hg

theorem sandboxOp_eq {fl f fl' : Nat} (h : sandboxOp fl f = some fl') : fl' = fl ||| f := by
  unfold sandboxOp at h
  split at h
  · cases h
  · exact (Option.some.inj h).symm

theorem sandboxOp_mono {fl f fl' : Nat} (h : sandboxOp fl f = some fl') : subMask fl fl' = true :=
  sandboxOp_eq h ▸ subMask_or_left fl f

theorem sandboxOp_guarded (fl f : Nat) (h : fl &&& capSandbox ≠ 0) : sandboxOp fl f = none := by
  unfold sandboxOp
  have : (fl &&& capSandbox != 0) = true := bne_iff_ne.mpr h
  rw [if_pos this]

/-- corelib.c `janet_core_sandbox`: the mask handed to `janet_sandbox` contains the accumulator and the table entry of
    every keyword given -/
theorem sandboxMask_spec (tbl : List (String × Nat)) : ∀ (kws : List String) (acc m : Nat), sandboxMask tbl acc kws = some m →
    subMask acc m = true ∧ ∀ k ∈ kws, ∃ mk, kwLookup tbl k = some mk ∧ subMask mk m = true := by
  intro kws
  induction kws with
  | nil =>
    intro acc m h
    simp only [sandboxMask] at h
    cases h
    exact ⟨subMask_refl acc, fun k hk => by cases hk⟩
  | cons k ks ih =>
    intro acc m h
    simp only [sandboxMask] at h
    cases hk : kwLookup tbl k with
    | none => rw [hk] at h; cases h
    | some mk =>
      rw [hk] at h
      obtain ⟨h1, h2⟩ := ih (acc ||| mk) m h
      refine ⟨subMask_trans (subMask_or_left acc mk) h1, ?_⟩
      intro k' hk'
      cases hk' with
      | head => exact ⟨mk, hk, subMask_trans (subMask_or_right acc mk) h1⟩
      | tail _ ht => exact h2 k' ht

theorem sandboxCfun_disables (tbl : List (String × Nat)) (fl fl' : Nat) (kws : List String)
    (h : sandboxCfun tbl fl kws = some fl') :
    subMask fl fl' = true ∧ (∀ k ∈ kws, ∃ mk, kwLookup tbl k = some mk ∧ subMask mk fl' = true) ∧
    ∃ m, sandboxMask tbl 0 kws = some m ∧ sandboxOp fl m = some fl' := by
  unfold sandboxCfun at h
  cases hm : sandboxMask tbl 0 kws with
  | none => rw [hm] at h; cases h
  | some m =>
    rw [hm] at h
    replace h : sandboxOp fl m = some fl' := h
    have hs := (sandboxMask_spec tbl kws 0 m hm).2
    refine ⟨sandboxOp_mono h, ?_, m, rfl, h⟩
    intro k hk
    obtain ⟨mk, h1, h2⟩ := hs k hk
    exact ⟨mk, h1, subMask_trans h2 (sandboxOp_eq h ▸ subMask_or_right fl m)⟩

theorem sandboxCfun_unknown (tbl : List (String × Nat)) (fl : Nat) (kws : List String) (k : String) (hk : k ∈ kws)
    (hu : kwLookup tbl k = none) : sandboxCfun tbl fl kws = none := by
  cases h : sandboxCfun tbl fl kws with
  | none => rfl
  | some fl' =>
    obtain ⟨mk, h1, _⟩ := (sandboxCfun_disables tbl fl fl' kws h).2.1 k hk
    rw [hu] at h1; cases h1

theorem step_length_le (s : Sys) (o : SysOp) : s.length ≤ (s.step o).length := by
  cases o with
  | sandbox tid f =>
    simp only [Sys.step]
    split
    · split <;> simp
    · exact Nat.le_refl _
  | spawn tid =>
    simp only [Sys.step]
    split
    · simp
    · exact Nat.le_refl _
  | other tid => exact Nat.le_refl _

theorem step_monotone (s : Sys) (o : SysOp) (tid fl : Nat) (h : s[tid]? = some fl) :
    ∃ fl', (s.step o)[tid]? = some fl' ∧ subMask fl fl' = true := by
  have hlt : tid < s.length := by
    rcases List.getElem?_eq_some_iff.mp h with ⟨hl, _⟩
    exact hl
  cases o with
  | sandbox t f =>
    cases ht : s[t]? with
    | none => simp only [Sys.step, ht]; exact ⟨fl, h, subMask_refl fl⟩
    | some flt =>
      cases hso : sandboxOp flt f with
      | none => simp only [Sys.step, ht, hso]; exact ⟨fl, h, subMask_refl fl⟩
      | some flt' =>
        simp only [Sys.step, ht, hso]
        by_cases hEq : t = tid
        · subst hEq
          rw [h] at ht
          cases ht
          refine ⟨flt', ?_, sandboxOp_mono hso⟩
          simp [List.getElem?_set, hlt]
        · refine ⟨fl, ?_, subMask_refl fl⟩
          rw [List.getElem?_set_ne hEq]
          exact h
  | spawn t =>
    cases ht : s[t]? with
    | none => simp only [Sys.step, ht]; exact ⟨fl, h, subMask_refl fl⟩
    | some flt =>
      simp only [Sys.step, ht]
      refine ⟨fl, ?_, subMask_refl fl⟩
      rw [List.getElem?_append_left hlt]
      exact h
  | other t => exact ⟨fl, h, subMask_refl fl⟩

theorem flags_monotone (ops : List SysOp) : ∀ (s : Sys) (tid fl : Nat), s[tid]? = some fl →
    ∃ fl', (s.run ops)[tid]? = some fl' ∧ subMask fl fl' = true := by
  induction ops with
  | nil => intro s tid fl h; exact ⟨fl, h, subMask_refl fl⟩
  | cons o os ih =>
    intro s tid fl h
    obtain ⟨fl1, h1, hm1⟩ := step_monotone s o tid fl h
    obtain ⟨fl2, h2, hm2⟩ := ih (s.step o) tid fl1 h1
    exact ⟨fl2, h2, subMask_trans hm1 hm2⟩

theorem spawn_inherits (s : Sys) (tid fl : Nat) (h : s[tid]? = some fl) :
    (s.step (.spawn tid))[s.length]? = some fl := by
  simp only [Sys.step, h]
  simp

theorem thread_keeps_parent_flags (s : Sys) (tid fl : Nat) (h : s[tid]? = some fl) (ops : List SysOp) :
    ∃ fl', ((s.step (.spawn tid)).run ops)[s.length]? = some fl' ∧ subMask fl fl' = true :=
  flags_monotone ops _ _ _ (spawn_inherits s tid fl h)

/-- thread start followed through the message (`spawnC`): with every step of the checked shape the new thread's word is its
    parent's word - `SysOp.spawn` -/
theorem spawnC_spec (c : ThreadCfg) (h : c.allChecked = true) (parent junk : Nat) : spawnC c parent junk = parent := by
  unfold ThreadCfg.allChecked at h
  simp only [Bool.and_eq_true] at h
  obtain ⟨⟨⟨h1, h2⟩, h3⟩, h4⟩ := h
  simp [spawnC, h1, h2, h3, h4]

theorem spawn_is_spawnC (c : ThreadCfg) (h : c.allChecked = true) (s : Sys) (tid fl junk : Nat) (hs : s[tid]? = some fl) :
    (s.step (.spawn tid))[s.length]? = some (spawnC c fl junk) := by
  rw [spawnC_spec c h]
  exact spawn_inherits s tid fl hs

/-- … and each step matters: a hand-over site that does not pass the flag word (seeded/C18-1), a spawner that patches the
    message, a subroutine that does not copy - each lets a thread start with a capability enabled that its parent had disabled -/
example : spawnC ⟨false, true, true, true⟩ 8193 0 = 0 ∧ spawnC ⟨true, true, false, true⟩ 8193 0 = 0 ∧
    spawnC ⟨true, true, true, false⟩ 8193 0 = 0 ∧ spawnC ⟨true, false, true, true⟩ 8193 0 = 0 := by decide

section sound
variable {req : String → String → Nat → List Nat} {G : Graph} {C : Cert}

theorem nodeOK_of_lt (h : certOK req G C = true) {n : Nat} (hn : n < G.size) : nodeOK req G C n = true := by
  unfold certOK at h
  rw [Bool.and_eq_true] at h
  have := h.1
  rw [List.all_eq_true] at this
  exact this n (List.mem_range.mpr hn)

theorem cover_spec {K' : List Case} {m : Nat} {p : Nat → Bool} (h : cover K' m p = true) :
    ∃ c' ∈ K', c'.1 = m ∧ ∀ g' ∈ c'.2, p g' = true := by
  unfold cover at h
  rw [List.any_eq_true] at h
  obtain ⟨c', hc, hp⟩ := h
  rw [Bool.and_eq_true] at hp
  refine ⟨c', hc, beq_iff_eq.mp hp.1, ?_⟩
  have := hp.2
  rw [List.all_eq_true] at this
  exact this

/-- a covering case whose groups all follow from groups that hold -/
theorem inv_of_cover {K' : List Case} {m F : Nat} {p : Nat → Bool} (h : cover K' m p = true)
    (hp : ∀ g', p g' = true → subMask g' F = false) : inv K' m F := by
  obtain ⟨c', hc, hm, hall⟩ := cover_spec h
  exact ⟨c', hc, hm, fun g' hg' => hp g' (hall g' hg')⟩

theorem nodeOK_parts {n : Nat} (h : nodeOK req G C n = true) :
    ((G.node n).succs.all (fun s => (G.node s).fn == (G.node n).fn) = true) ∧
    ((!C.isPure (G.node n).fn || (match (G.node n).op with
                       | .havoc => false
                       | .call g _ => C.isPure g
                       | _ => true)) = true) ∧
    ((match (G.node n).op with
       | .call g _ => (G.node (G.fnEntry g)).fn == g
       | _ => true) = true) ∧
    (∀ c ∈ C.k n, caseOK req G C (G.node n) c.1 c.2 = true) := by
  unfold nodeOK at h
  simp only [Bool.and_eq_true] at h
  refine ⟨h.1.1.1, h.1.1.2, h.1.2, ?_⟩
  have := h.2
  rw [List.all_eq_true] at this
  exact this

theorem succ_fn {n s : Nat} (h : nodeOK req G C n = true) (hs : s ∈ (G.node n).succs) : (G.node s).fn = (G.node n).fn := by
  have := (nodeOK_parts h).1
  rw [List.all_eq_true] at this
  exact beq_iff_eq.mp (this s hs)

theorem case_at (h : certOK req G C = true) {n md F : Nat} (hlt : n < G.size) (hk : inv (C.k n) md F) :
    ∃ gs, holds gs F ∧ caseOK req G C (G.node n) md gs = true := by
  obtain ⟨c, hc, hm, hh⟩ := hk
  exact ⟨c.2, hh, hm ▸ (nodeOK_parts (nodeOK_of_lt h hlt)).2.2.2 c hc⟩

theorem inv_succ {n s m F : Nat} {p : Nat → Bool} (hall : (G.node n).succs.all (fun s => cover (C.k s) m p) = true)
    (hs : s ∈ (G.node n).succs) (hp : ∀ g', p g' = true → subMask g' F = false) : inv (C.k s) m F :=
  inv_of_cover (List.all_eq_true.mp hall s hs) hp

theorem to_node_of_succ {n s n' F F' : Nat} {P : Prop} (hok : nodeOK req G C n = true) (hs : s ∈ (G.node n).succs)
    (ih : P ∧ (G.node n').fn = (G.node s).fn ∧ (C.isPure (G.node s).fn = true → F' = F)) :
    P ∧ (G.node n').fn = (G.node n).fn ∧ (C.isPure (G.node n).fn = true → F' = F) := by
  rwa [succ_fn hok hs] at ih

/-- Invariant carried along an activation (nothing is claimed about interpreter runs: they only matter through `Ob`).
    Every case but `havoc` and `call`: the checker verified a covering case at each successor for the mode the step
    produces, whose groups follow from the groups that hold (and, after an assert, from its mask). -/
theorem ex_inv (h : certOK req G C = true) {b : Bool} {n F md n' F' md' : Nat} (hr : Ex G b n F md n' F' md') :
    b = false → inv (C.k n) md F →
    inv (C.k n') md' F' ∧ (G.node n').fn = (G.node n).fn ∧ (C.isPure (G.node n).fn = true → F' = F) := by
  induction hr with
  | refl n F md => intro _ hk; exact ⟨hk, rfl, fun _ => rfl⟩
  | nop hlt hop hs _ ih | modeSet hlt hop hs _ ih | modeOr hlt hop hs _ ih | modeUpd hlt hop hs _ ih =>
    intro _ hk
    obtain ⟨gs, hh, hp⟩ := case_at h hlt hk
    simp only [caseOK, hop] at hp
    exact to_node_of_succ (nodeOK_of_lt h hlt) hs (ih rfl (inv_succ hp hs fun _ => holds_imp hh))
  | libc hlt hop hs _ ih =>
    intro _ hk
    obtain ⟨gs, hh, hp⟩ := case_at h hlt hk
    simp only [caseOK, hop, Bool.and_eq_true] at hp
    exact to_node_of_succ (nodeOK_of_lt h hlt) hs (ih rfl (inv_succ hp.1 hs fun _ => holds_imp hh))
  | assert hlt hop hpass hs _ ih | assertMd hlt hop hpass hs _ ih =>
    intro _ hk
    obtain ⟨gs, hh, hp⟩ := case_at h hlt hk
    simp only [caseOK, hop] at hp
    exact to_node_of_succ (nodeOK_of_lt h hlt) hs (ih rfl (inv_succ hp hs fun _ hg' =>
      (Bool.or_eq_true _ _ ▸ hg').elim (assert_gives hpass) (holds_imp hh)))
  | modeGuard hlt hop hg hs _ ih | modeTest hlt hop hg hs _ ih =>
    intro _ hk
    obtain ⟨gs, hh, hp⟩ := case_at h hlt hk
    simp only [caseOK, hop, hg, Bool.not_true, Bool.false_or] at hp
    exact to_node_of_succ (nodeOK_of_lt h hlt) hs (ih rfl (inv_succ hp hs fun _ => holds_imp hh))
  | @havoc n F md F1 s n' F' md' hlt hop _ hs _ _ ih2 =>
    intro _ hk
    have hok := nodeOK_of_lt h hlt
    obtain ⟨gs, _, hp⟩ := case_at h hlt hk
    simp only [caseOK, hop] at hp
    obtain ⟨a, b', _⟩ := to_node_of_succ hok hs (ih2 rfl (inv_succ hp hs fun _ hg' => by cases hg'))
    refine ⟨a, b', fun hpure => ?_⟩
    -- a pure function has no `havoc` node
    have hpu := (nodeOK_parts hok).2.1
    rw [hpure, hop] at hpu
    cases hpu
  | @call n F md g m0 r F1 mdr s n' F' md' hlt hop _ hrlt hret hs _ ih1 ih2 =>
    intro _ hk
    have hparts := nodeOK_parts (nodeOK_of_lt h hlt)
    obtain ⟨gs, hh, hp⟩ := case_at h hlt hk
    simp only [caseOK, hop, Bool.and_eq_true] at hp
    obtain ⟨hkr, hfr, hpr⟩ := ih1 rfl (inv_of_cover hp.1 fun _ => holds_imp hh)
    have hfg : (G.node (G.fnEntry g)).fn = g := by
      have := hparts.2.2.1
      rw [hop] at this
      exact beq_iff_eq.mp this
    rw [hfg] at hfr hpr
    -- at the return node the callee's postcondition holds
    obtain ⟨gr, hhr, hpr2⟩ := case_at h hrlt hkr
    simp only [caseOK, hret, hfr] at hpr2
    have hkpost := holds_impAll hhr hpr2
    obtain ⟨a, b', c'⟩ := to_node_of_succ (nodeOK_of_lt h hlt) hs (ih2 rfl (inv_succ hp.2 hs fun _ hg' =>
      (Bool.or_eq_true _ _ ▸ hg').elim
        (fun hm' => hpr (Bool.and_eq_true _ _ ▸ hm').1 ▸ holds_imp hh (Bool.and_eq_true _ _ ▸ hm').2)
        (holds_imp hkpost)))
    refine ⟨a, b', fun hpure => ?_⟩
    -- a pure function calls only pure functions
    have hpu := hparts.2.1
    rw [hpure, hop] at hpu
    rw [c' hpure, hpr hpu]
  | idone F => intro hb; cases hb
  | igrow _ _ _ => intro hb; cases hb
  | ienter _ _ _ _ _ => intro hb; cases hb

theorem entry_inv (h : certOK req G C = true) {f : Nat} (hf : f ∈ G.entries) (F : Nat) : inv (C.k (G.fnEntry f)) 0 F := by
  unfold certOK at h
  rw [Bool.and_eq_true] at h
  have := h.2
  rw [List.all_eq_true] at this
  exact inv_of_cover (this f hf) (fun g' hg' => by cases hg')

/-- Whatever is observed - in the activation, in callees, or in entry points re-entered through the interpreter - is
    described by the certificate.  For an interpreter run (`b = true`) nothing has to be assumed. -/
theorem ob_inv (h : certOK req G C = true) {b : Bool} {n F md c F' md' : Nat} (ho : Ob G b n F md c F' md') :
    (b = false → inv (C.k n) md F) → inv (C.k c) md' F' := by
  induction ho with
  | here hr => intro hk; exact (ex_inv h hr rfl (hk rfl)).1
  | @inCall n F md n1 F1 md1 g m0 c F' md' hr hlt1 hop _ ih =>
    intro hk
    obtain ⟨gs, hh1, hp⟩ := case_at h hlt1 (ex_inv h hr rfl (hk rfl)).1
    simp only [caseOK, hop, Bool.and_eq_true] at hp
    exact ih fun _ => inv_of_cover hp.1 fun _ => holds_imp hh1
  | inHavoc _ _ _ _ ih => intro _; exact ih (fun hb => by cases hb)
  | iskipGrow _ _ ih => intro _; exact ih (fun hb => by cases hb)
  | iskipEnter _ _ _ ih => intro _; exact ih (fun hb => by cases hb)
  | @iin F f c F' md' hf _ ih => intro _; exact ih (fun _ => entry_inv h hf F)

theorem need_at (h : certOK req G C = true) {c md F : Nat} {fn nm : String} (hk : inv (C.k c) md F) (hlt : c < G.size)
    (hc : (G.node c).op = .libc fn nm) (R : Nat) (hR : R ∈ req fn nm md) : subMask R F = false := by
  obtain ⟨gs, hh, hp⟩ := case_at h hlt hk
  simp only [caseOK, hc, Bool.and_eq_true] at hp
  exact holds_imp hh (List.all_eq_true.mp hp.2 R hR)

theorem interp_sound (need : String → String → Nat → List Nat) (G : Graph) (C : Cert) (h : certOK need G C = true)
    (F0 c F md : Nat) (fn nm : String) (hobs : Ob G true 0 F0 0 c F md) (hlt : c < G.size)
    (hc : (G.node c).op = .libc fn nm) (R : Nat) (hR : R ∈ need fn nm md) : subMask R F = false :=
  need_at h (ob_inv h hobs (fun hb => by cases hb)) hlt hc R hR

theorem checker_sound (need : String → String → Nat → List Nat) (G : Graph) (C : Cert) (h : certOK need G C = true)
    (f : Nat) (hf : f ∈ G.entries) (F0 c F md : Nat) (fn nm : String)
    (hobs : Ob G false (G.fnEntry f) F0 0 c F md) (hlt : c < G.size) (hc : (G.node c).op = .libc fn nm)
    (R : Nat) (hR : R ∈ need fn nm md) : subMask R F = false :=
  interp_sound need G C h F0 c F md fn nm (.iin hf hobs) hlt hc R hR

end sound

theorem ex_mono {G : Graph} {b : Bool} {n F md n' F' md' : Nat} (hr : Ex G b n F md n' F' md') : subMask F F' = true := by
  induction hr with
  | refl n F md => exact subMask_refl F
  | nop _ _ _ _ ih | libc _ _ _ _ ih | modeSet _ _ _ _ ih | modeOr _ _ _ _ ih | modeUpd _ _ _ _ ih => exact ih
  | assert _ _ _ _ _ ih | assertMd _ _ _ _ _ ih | modeGuard _ _ _ _ _ ih | modeTest _ _ _ _ _ ih => exact ih
  | havoc _ _ _ _ _ ih1 ih2 => exact subMask_trans ih1 ih2
  | call _ _ _ _ _ _ _ ih1 ih2 => exact subMask_trans ih1 ih2
  | idone F => exact subMask_refl F
  | igrow hg _ ih => exact subMask_trans hg ih
  | ienter _ _ _ ih1 ih2 => exact subMask_trans ih1 ih2

theorem ob_mono {G : Graph} {b : Bool} {n F md c F' md' : Nat} (ho : Ob G b n F md c F' md') : subMask F F' = true := by
  induction ho with
  | here hr => exact ex_mono hr
  | inCall hr _ _ _ ih => exact subMask_trans (ex_mono hr) ih
  | inHavoc hr _ _ _ ih => exact subMask_trans (ex_mono hr) ih
  | iskipGrow hg _ ih => exact subMask_trans hg ih
  | iskipEnter _ hr _ ih => exact subMask_trans (ex_mono hr) ih
  | iin _ _ ih => exact ih

theorem checker_sound_entry (need : String → String → Nat → List Nat) (G : Graph) (C : Cert) (h : certOK need G C = true)
    (F0 c F md : Nat) (fn nm : String) (hlt : c < G.size) (hc : (G.node c).op = .libc fn nm)
    (R : Nat) (hR : R ∈ need fn nm md) (hdis : subMask R F0 = true) : ¬ Ob G true 0 F0 0 c F md := by
  intro hobs
  have h1 := interp_sound need G C h F0 c F md fn nm hobs hlt hc R hR
  have h2 := subMask_trans hdis (ob_mono hobs)
  rw [h1] at h2
  cases h2

theorem entriesCover_spec {ids : List Nat} {entries : List Nat} {taken : List Nat}
    (h : entriesCover ids entries taken = true) :
    ∀ p ∈ taken, ∀ i, ids[i]? = some p → i ∈ entries := by
  intro p hp i hi
  unfold entriesCover at h
  rw [List.all_eq_true] at h
  obtain ⟨hlt, hget⟩ := List.getElem?_eq_some_iff.mp hi
  have hi' := h i (List.mem_range.mpr hlt)
  have hgd : ids.getD i 0 = p := by
    rw [List.getD_eq_getElem?_getD, hi]; rfl
  rw [hgd] at hi'
  have hc : taken.contains p = true := List.contains_iff_mem.mpr hp
  rw [hc] at hi'
  simpa using hi'

theorem addrEntries_sub {ids : List Nat} {entries : List Nat} {taken : List Nat}
    (h : entriesCover ids entries taken = true) : ∀ i ∈ addrEntries ids taken, i ∈ entries := by
  intro i hi
  unfold addrEntries at hi
  rw [List.mem_filter] at hi
  unfold entriesCover at h
  rw [List.all_eq_true] at h
  have := h i hi.1
  rw [hi.2] at this
  simpa using this

/-- the checker reads the entry list only for the precondition of each entry -/
theorem certOK_withEntries {req : String → String → Nat → List Nat} {G : Graph} {C : Cert} (h : certOK req G C = true)
    {es : List Nat} (hsub : ∀ f ∈ es, f ∈ G.entries) : certOK req (G.withEntries es) C = true := by
  unfold certOK at h ⊢
  rw [Bool.and_eq_true] at h ⊢
  exact ⟨h.1, List.all_eq_true.mpr fun f hf => List.all_eq_true.mp h.2 f (hsub f hf)⟩

theorem certOK_addr {req : String → String → Nat → List Nat} {G : Graph} {C : Cert} (h : certOK req G C = true)
    {ids taken : List Nat} (hcov : entriesCover ids G.entries taken = true) :
    certOK req (G.withEntries (addrEntries ids taken)) C = true :=
  certOK_withEntries h (addrEntries_sub hcov)

theorem interp_sound_addr (need : String → String → Nat → List Nat) (G : Graph) (C : Cert) (h : certOK need G C = true)
    (ids : List Nat) (taken : List Nat) (hcov : entriesCover ids G.entries taken = true)
    (F0 c F md : Nat) (fn nm : String) (hobs : Ob (G.withEntries (addrEntries ids taken)) true 0 F0 0 c F md)
    (hlt : c < G.size) (hc : (G.node c).op = .libc fn nm) (R : Nat) (hR : R ∈ need fn nm md) : subMask R F = false :=
  interp_sound need _ C (certOK_addr h hcov) F0 c F md fn nm hobs hlt hc R hR

theorem stays_enforced (need : String → String → Nat → List Nat) (G : Graph) (C : Cert) (h : certOK need G C = true)
    (s : Sys) (tid fl : Nat) (hs : s[tid]? = some fl) (ops : List SysOp)
    (c F md : Nat) (fn nm : String) (hlt : c < G.size) (hc : (G.node c).op = .libc fn nm)
    (R : Nat) (hR : R ∈ need fn nm md) (hdis : subMask R fl = true) :
    ∃ fl', (s.run ops)[tid]? = some fl' ∧ ¬ Ob G true 0 fl' 0 c F md := by
  obtain ⟨fl', h1, hm⟩ := flags_monotone ops s tid fl hs
  exact ⟨fl', h1, checker_sound_entry need G C h fl' c F md fn nm hlt hc R hR (subMask_trans hdis hm)⟩

theorem thread_enforced (need : String → String → Nat → List Nat) (G : Graph) (C : Cert) (h : certOK need G C = true)
    (s : Sys) (tid fl : Nat) (hs : s[tid]? = some fl) (ops : List SysOp)
    (c F md : Nat) (fn nm : String) (hlt : c < G.size) (hc : (G.node c).op = .libc fn nm)
    (R : Nat) (hR : R ∈ need fn nm md) (hdis : subMask R fl = true) :
    ∃ fl', ((s.step (.spawn tid)).run ops)[s.length]? = some fl' ∧ ¬ Ob G true 0 fl' 0 c F md := by
  obtain ⟨fl', h1, hm⟩ := thread_keeps_parent_flags s tid fl hs ops
  exact ⟨fl', h1, checker_sound_entry need G C h fl' c F md fn nm hlt hc R hR (subMask_trans hdis hm)⟩

theorem fields_facts : ∀ f ∈ fields, (wordAll - f) &&& f = 0 ∧
    ∀ g ∈ fields, g ≠ f → (wordAll - f) &&& g = g ∧ f &&& g = 0 := by decide

theorem within_other {o f g : Nat} (hof : o &&& f = o) (hfg : f &&& g = 0) : o &&& g = 0 := by
  rw [← hof, Nat.and_assoc, hfg, Nat.and_zero]

/-- a `modeUpd` node accepted by `fieldsOK` is an assignment `x := o` to ONE tracked variable (field `f`): afterwards the
    field holds `o`, and every other tracked variable holds what it held before -/
theorem upd_semantics (k o : Nat) (h : opFieldsOK (.modeUpd k o) = true) (md : Nat) :
    ∃ f ∈ fields, ((md &&& k) ||| o) &&& f = o ∧ ∀ g ∈ fields, g ≠ f → ((md &&& k) ||| o) &&& g = md &&& g := by
  unfold opFieldsOK at h
  rw [List.any_eq_true] at h
  obtain ⟨f, hf, hk⟩ := h
  rw [Bool.and_eq_true] at hk
  have hk1 : k = wordAll - f := beq_iff_eq.mp hk.1
  have hof : o &&& f = o := beq_iff_eq.mp hk.2
  obtain ⟨h0, hoth⟩ := fields_facts f hf
  refine ⟨f, hf, ?_, ?_⟩
  · rw [hk1]; exact Util.upd_read md _ o f h0 hof
  · intro g hg hne
    obtain ⟨h1, h2⟩ := hoth g hg hne
    rw [hk1]; exact Util.upd_keep md _ o g h1 (within_other hof h2)

/-- a `modeOr` node accepted by `fieldsOK` is `x |= c` on the open-flags or the assert-mask variable: no other tracked
    variable changes -/
theorem or_semantics (x : Nat) (h : opFieldsOK (.modeOr x) = true) (md : Nat) :
    ∃ f ∈ fields, (md ||| x) &&& f = (md &&& f) ||| x ∧ ∀ g ∈ fields, g ≠ f → (md ||| x) &&& g = md &&& g := by
  unfold opFieldsOK at h
  rw [Bool.or_eq_true] at h
  have key : ∀ f ∈ fields, x &&& f = x →
      (md ||| x) &&& f = (md &&& f) ||| x ∧ ∀ g ∈ fields, g ≠ f → (md ||| x) &&& g = md &&& g := by
    intro f hf hx
    refine ⟨by rw [Nat.and_or_distrib_right, hx], ?_⟩
    intro g hg hne
    exact Util.or_keep md x g (within_other hx ((fields_facts f hf).2 g hg hne).2)
  cases h with
  | inl hl => exact ⟨fieldLo, by decide, key fieldLo (by decide) (beq_iff_eq.mp hl)⟩
  | inr hr => exact ⟨fieldHi, by decide, key fieldHi (by decide) (beq_iff_eq.mp hr)⟩

/-- two words that agree on the tested bits take the same branch of a `modeTest` (holds for every mask: `_h` is not used) -/
theorem test_semantics (m v : Nat) (eq : Bool) (_h : opFieldsOK (.modeTest m v eq) = true) (md md' : Nat)
    (hagree : md &&& m = md' &&& m) : (((md &&& m) == v) == eq) = (((md' &&& m) == v) == eq) := by
  rw [hagree]

/-- non-vacuity: writing guard variable 1 of a word that holds open flags 577, assert mask 96 and guard 0 = 1 -/
example : opFieldsOK (.modeUpd (wordAll - fieldGuard 1) (1 <<< 56)) = true ∧
    (((577 + 96 <<< 16 + 1 <<< 48) &&& (wordAll - fieldGuard 1)) ||| (1 <<< 56)) = 577 + 96 <<< 16 + 1 <<< 48 + 1 <<< 56 := by decide
/-- … and an assignment that spills into a neighbouring field is rejected -/
example : opFieldsOK (.modeUpd (wordAll - fieldGuard 1) (1 <<< 48)) = false ∧ opFieldsOK (.modeUpd 65535 0) = false := by decide

/-- a callee that the slice transcribes as "no event" never reaches - through direct calls or type-compatible indirect
    calls, to any depth - a function that writes the flag word -/
theorem benign_never_writes {may : Nat → Bool} {edges : List (Nat × Nat)} {benign writers : List Nat}
    (h : mayGrowOK may edges benign writers = true) {g w : Nat} (hg : g ∈ benign) (hp : CallPath edges g w) : w ∉ writers := by
  unfold mayGrowOK at h
  simp only [Bool.and_eq_true, List.all_eq_true] at h
  obtain ⟨⟨he, hb⟩, hw⟩ := h
  have hng : may g = false := by
    have := hb g hg
    simpa using this
  have hnw : may w = false := by
    clear hg
    induction hp with
    | refl a => exact hng
    | @step a b c hab _ ih =>
      apply ih
      have := he (a, b) hab
      simp only [hng, Bool.false_or] at this
      simpa using this
  intro hmem
  have := hw w hmem
  rw [hnw] at this
  cases this

/-- a two-function graph: entry `f0` asserts fs-write then calls `f1`, which removes a file -/
def exNodes : Array Node := #[⟨0, .assert 32, [1]⟩, ⟨0, .call 1 0, [2]⟩, ⟨0, .ret, []⟩,
                      ⟨1, .libc "f1" "remove", [4]⟩, ⟨1, .ret, []⟩]
def exG : Graph := ⟨5, fun n => exNodes.getD n ⟨0, .nop, []⟩, fun f => #[0, 3].getD f 0, [0]⟩
def exC : Cert := ⟨fun n => #[[(0, [])], [(0, [32])], [(0, [32])], [(0, [32])], [(0, [32])]].getD n [],
  fun f => #[[32], [32]].getD f [], fun _ => true⟩
example : certOK need exG exC = true := by decide +kernel
/-- the call is really reachable when fs-write is enabled (flag word 64 = only fs-read disabled), through the interpreter -/
example : Ob exG true 0 64 0 3 64 0 :=
  .iin (f := 0) (by decide)
    (.inCall (.assert (n := 0) (s := 1) (by decide) rfl (by decide) (by decide) (.refl 1 64 0)) (g := 1) (by decide) rfl
      (.here (.refl 3 64 0)))
/-- without the assert the checker rejects: the shape of `os/rm` on the pinned tree -/
example : certOK need ⟨2, fun n => #[⟨0, .libc "os_remove" "remove", [1]⟩, ⟨0, .ret, []⟩].getD n ⟨0, .nop, []⟩, fun _ => 0, [0]⟩
    ⟨fun _ => [(0, [])], fun _ => [], fun _ => true⟩ = false := by
  decide +kernel
/-- the shape of the `os/open :a` escape: the read-write open is reached with no assert; a certificate that tracks the mode
    cannot be accepted, while the fixed shape (assert fs-read|fs-write on that branch) is -/
example : certOK need ⟨3, fun n => #[⟨0, .modeOr 2, [1]⟩, ⟨0, .libc "os_open" "open64", [2]⟩, ⟨0, .ret, []⟩].getD n ⟨0, .nop, []⟩, fun _ => 0, [0]⟩
    ⟨fun n => #[[(0, [])], [(2, [])], [(2, [])]].getD n [], fun _ => [], fun _ => true⟩ = false := by decide +kernel
example : certOK need ⟨4, fun n => #[⟨0, .assert 96, [1]⟩, ⟨0, .modeOr 2, [2]⟩, ⟨0, .libc "os_open" "open64", [3]⟩, ⟨0, .ret, []⟩].getD n ⟨0, .nop, []⟩,
      fun _ => 0, [0]⟩
    ⟨fun n => #[[(0, [])], [(0, [32, 64])], [(2, [32, 64])], [(2, [32, 64])]].getD n [], fun _ => [], fun _ => true⟩ = true := by decide +kernel
/-- collected mask: `x = 0; x |= FS_WRITE (on the :c path); x = FS_READ (`=` where `|=` belongs); assert(x); open(O_CREAT)`
    is rejected (the certificate can only know fs-read at the open, mode O_CREAT needs fs-write); with `|=` it is accepted -/
example : certOK need ⟨6, fun n => #[⟨0, .modeUpd 65535 0, [1]⟩, ⟨0, .modeOr 64, [2]⟩, ⟨0, .modeOr (32 <<< 16), [3]⟩, ⟨0, .modeUpd 65535 (64 <<< 16), [4]⟩,
      ⟨0, .assertMd 16, [5]⟩, ⟨0, .libc "os_open" "open64", []⟩].getD n ⟨0, .nop, []⟩, fun _ => 0, [0]⟩
    ⟨fun n => #[[(0, [])], [(0, [])], [(64, [])], [(64 + 32 <<< 16, [])], [(64 + 64 <<< 16, [])], [(64 + 64 <<< 16, [64])]].getD n [],
     fun _ => [], fun _ => true⟩ = false := by decide +kernel
example : certOK need ⟨6, fun n => #[⟨0, .modeUpd 65535 0, [1]⟩, ⟨0, .modeOr 64, [2]⟩, ⟨0, .modeOr (32 <<< 16), [3]⟩, ⟨0, .modeOr (64 <<< 16), [4]⟩,
      ⟨0, .assertMd 16, [5]⟩, ⟨0, .libc "os_open" "open64", []⟩].getD n ⟨0, .nop, []⟩, fun _ => 0, [0]⟩
    ⟨fun n => #[[(0, [])], [(0, [])], [(64, [])], [(64 + 32 <<< 16, [])], [(64 + 96 <<< 16, [])], [(64 + 96 <<< 16, [32, 64])]].getD n [],
     fun _ => [], fun _ => true⟩ = true := by decide +kernel
/-- helper keyed by a constant argument: `f1(passive)` asserts `passive ? LISTEN : CONNECT` and resolves; called with 1 from an
    entry that then listens: accepted; the same helper called with 0 is rejected at `listen` -/
def exH (m0 : Nat) : Graph := ⟨9, fun n => #[⟨0, .call 1 m0, [1]⟩, ⟨0, .libc "f0" "listen", [2]⟩, ⟨0, .ret, []⟩,
      ⟨1, .nop, [4, 6]⟩, ⟨1, .modeGuard 0 false, [5]⟩, ⟨1, .assert 8, [8]⟩, ⟨1, .modeGuard 0 true, [7]⟩, ⟨1, .assert 4, [8]⟩,
      ⟨1, .ret, []⟩].getD n ⟨0, .nop, []⟩, fun f => #[0, 3].getD f 0, [0]⟩
example : certOK need (exH 1) ⟨fun n => #[[(0, [])], [(0, [8])], [(0, [8])], [(1, [])], [(1, [])], [(1, [])], [(1, [])], [], [(1, [8])]].getD n [],
    fun f => #[[], [8]].getD f [], fun _ => true⟩ = true := by decide +kernel
example : certOK need (exH 0) ⟨fun n => #[[(0, [])], [(0, [4])], [(0, [4])], [(0, [])], [(0, [])], [], [(0, [])], [(0, [])], [(0, [4])]].getD n [],
    fun f => #[[], [4]].getD f [], fun _ => true⟩ = false := by decide +kernel
/-- guard variables (`modeTest`): `rd = 0; wr = 0; loop { 'r': rd = 1; assert READ | 'w': wr = 1; assert WRITE };
    if (rd && !wr) open(O_RDONLY) else { assert READ|WRITE; open(O_RDWR) }` - the read-only open has no assert of its own on
    that branch, the per-character assert protects it: accepted with the guards.  Field of `rd`: bits 48..55, of `wr`: 56..63. -/
def exT (guarded : Bool) : Graph := ⟨12, fun n => #[
      ⟨0, .nop, [1, 3, 5]⟩,                                                    -- loop head: 'r' | 'w' | done
      ⟨0, .modeUpd (1208925819614629174706175 - 255 <<< 48) (1 <<< 48), [2]⟩, ⟨0, .assert 64, [0]⟩,
      ⟨0, .modeUpd (1208925819614629174706175 - 255 <<< 56) (1 <<< 56), [4]⟩, ⟨0, .assert 32, [0]⟩,
      ⟨0, .nop, if guarded then [6, 7] else [8, 9]⟩,                           -- if (rd …
      ⟨0, .modeTest (255 <<< 48) 0 false, [10]⟩,                               --   rd != 0  → && !wr
      ⟨0, .modeTest (255 <<< 48) 0 true, [9]⟩,                                 --   rd == 0  → else
      ⟨0, .libc "os_open" "open64", [11]⟩,                                     -- open(O_RDONLY): mode bits 0
      ⟨0, .assert 96, [11]⟩,                                                   -- else: assert READ|WRITE (then open O_RDWR, elided)
      ⟨0, .modeTest (255 <<< 56) 0 true, [8]⟩,                                 --   wr == 0 → then-branch
      ⟨0, .ret, []⟩].getD n ⟨0, .nop, []⟩, fun _ => 0, [0]⟩
/-- certificates computed by tools/gen/sandbox.py `certify` on these two graphs -/
def exTK (guarded : Bool) : Nat → List Case := fun n =>
  let r := 1 <<< 48; let w := 1 <<< 56
  let all : List Case := [(0, []), (r, [64]), (w, [32]), (r + w, [32, 64])]
  if guarded then
    #[all, all, [(r, []), (r + w, [32])], all, [(w, []), (r + w, [64])], all, all, all,
      [(r, [64])], [(0, []), (w, [32])], [(r, [64]), (r + w, [32, 64])], [(0, [32, 64]), (r, [64]), (w, [32, 64])]].getD n []
  else
    #[all, all, [(r, []), (r + w, [32])], all, [(w, []), (r + w, [64])], all, [], [], all, all, [], all].getD n []
example : certOK need (exT true) ⟨exTK true, fun _ => [64], fun _ => true⟩ = true := by decide +kernel
/-- … and without the guards (every path possible) the open is reachable with `rd = 0`, where nothing is known: rejected -/
example : certOK need (exT false) ⟨exTK false, fun _ => [], fun _ => true⟩ = false := by decide +kernel
/-- the end-to-end statements are not vacuous: thread 0 has fs-write disabled, starts a thread, which then also disables
    fs-read; `remove` (node 3 of `exG`) is never reached in the new thread -/
example (F : Nat) : ∃ fl', ((Sys.run (Sys.step [32] (.spawn 0)) [.sandbox 1 64])[1]? = some fl') ∧ ¬ Ob exG true 0 fl' 0 3 F 0 :=
  thread_enforced need exG exC (by decide) [32] 0 32 rfl [.sandbox 1 64] 3 F 0 "f1" "remove" (by decide) rfl 32 (by decide) (by decide)
/-- assert-forwarding helper `need(cap) { janet_sandbox_assert(cap); }` (`assertMd 0`: the word of the activation is the
    constant argument): cloned per constant it has one postcondition per constant and `need(32); remove(); need(64); stat()`
    is accepted; as ONE function its postcondition is the join of both calls and `stat` is not covered
    (certificates computed by tools/gen/sandbox.py `certify`) -/
def exN (cloned : Bool) : Graph :=
  if cloned then
    ⟨9, fun n => #[⟨0, .call 1 32, [1]⟩, ⟨0, .libc "f0" "remove", [2]⟩, ⟨0, .call 2 64, [3]⟩, ⟨0, .libc "f0" "stat", [4]⟩, ⟨0, .ret, []⟩,
        ⟨1, .assertMd 0, [6]⟩, ⟨1, .ret, []⟩, ⟨2, .assertMd 0, [8]⟩, ⟨2, .ret, []⟩].getD n ⟨0, .nop, []⟩, fun f => #[0, 5, 7].getD f 0, [0]⟩
  else
    ⟨7, fun n => #[⟨0, .call 1 32, [1]⟩, ⟨0, .libc "f0" "remove", [2]⟩, ⟨0, .call 1 64, [3]⟩, ⟨0, .libc "f0" "stat", [4]⟩, ⟨0, .ret, []⟩,
        ⟨1, .assertMd 0, [6]⟩, ⟨1, .ret, []⟩].getD n ⟨0, .nop, []⟩, fun f => #[0, 5].getD f 0, [0]⟩
example : certOK need (exN true) ⟨fun n => #[[(0, [])], [(0, [32])], [(0, [32])], [(0, [32, 64])], [(0, [32, 64])], [(32, [])], [(32, [32])],
    [(64, [32])], [(64, [32, 64])]].getD n [], fun f => #[[32, 64], [32], [32, 64]].getD f [], fun _ => true⟩ = true := by decide +kernel
example : certOK need (exN false) ⟨fun n => #[[(0, [])], [(0, [32])], [(0, [32])], [(0, [32])], [(0, [32])], [(32, []), (64, [32])],
    [(32, [32]), (64, [32, 64])]].getD n [], fun f => #[[32], [32]].getD f [], fun _ => true⟩ = false := by decide +kernel
/-- the name table check accepts a function that occurs once per constant argument (repeated program id) -/
example : namesAgree ["a", "b", "c", "d"] [1, 1, 3] #["b", "b", "d"] = true ∧ namesAgree ["a", "b", "c", "d"] [1, 1, 3] #["b", "c", "d"] = false := by decide
example : sandboxOp 0 96 = some 96 ∧ sandboxOp 1 96 = none := by decide
example : sandboxCfun keywordTable 64 ["fs-write", "net"] = some (64 + 32 + 12) ∧ sandboxCfun keywordTable 0 ["fs", "bogus"] = none ∧
    sandboxCfun keywordTable 1 ["fs"] = none := by decide +kernel

end JanetModel.Sandbox.Sound
