import JanetModel.Sandbox.Cap
/-
C18 - model of the sandbox flag word and of the program as a sliced interprocedural control-flow graph.

* Flag word: `janet_vm.sandbox_flags` (thread local).  Transitions (vm.c `janet_sandbox`, `janet_sandbox_assert`,
  ev.c `janet_go_thread_subr`): see `SysOp`, `Sys` below.
* Program: `Graph` = nodes (one *event* each) with successor lists, grouped into functions.  Generated from the LLVM
  IR of the amalgamation by tools/gen/sandbox.py (`Gen.Sandbox.graph`).
* `Ex`/`Ob`: big-step executions of the graph under the real semantics of the flag word
  (an assert is passed only when none of its capabilities is disabled; `havoc` = the flag word may have grown).
* `certOK`: executable checker of an untrusted certificate; `Sandbox/Sound.lean` proves it sound.
-/
namespace JanetModel.Sandbox

/-! ## Flag word -/

/-- `R ⊆ F` on bit masks: every capability of `R` is disabled in `F`. -/
def subMask (r f : Nat) : Bool := r &&& f == r

/-- vm.c `janet_sandbox`: guarded by the `sandbox` capability itself, then `flags |= f`.  `none` = panic. -/
def sandboxOp (flags f : Nat) : Option Nat :=
  if flags &&& capSandbox != 0 then none else some (flags ||| f)

/-- `kwLookup`, `sandboxMask`, `sandboxCfun`: corelib.c `janet_core_sandbox`, the `(sandbox & keywords)` core function: each argument is looked up in
    `sandbox_options[]` by a linear scan that stops at the first match (`tbl`: the regenerated table `Gen.Sandbox.options`,
    equal to `Cap.keywordTable` by `gen_tables`); its mask is or-ed into a local that starts at 0; an unknown keyword panics
    before anything is changed; then `janet_sandbox(flags)`. -/
def kwLookup : List (String × Nat) → String → Option Nat
  | [], _ => none
  | (k, m) :: t, kw => if k == kw then some m else kwLookup t kw

def sandboxMask (tbl : List (String × Nat)) (acc : Nat) : List String → Option Nat
  | [] => some acc
  | k :: ks => match kwLookup tbl k with
               | some m => sandboxMask tbl (acc ||| m) ks
               | none => none

def sandboxCfun (tbl : List (String × Nat)) (flags : Nat) (kws : List String) : Option Nat :=
  match sandboxMask tbl 0 kws with
  | some m => sandboxOp flags m
  | none => none

/-- vm.c `janet_sandbox_assert`: returns (`true`) iff no capability of `m` is disabled. -/
def assertPasses (flags m : Nat) : Bool := flags &&& m == 0

/-- A system of threads, each with its own flag word (index = thread id). -/
abbrev Sys := List Nat

inductive SysOp where
  | sandbox (tid : Nat) (f : Nat)   -- thread `tid` evaluates `(sandbox …)` with mask `f`
  | spawn (tid : Nat)               -- thread `tid` starts a thread (ev/thread, ev/spawn-thread): janet_init then flags := parent's
  | other (tid : Nat)               -- anything else: flag word untouched

def Sys.step (s : Sys) : SysOp → Sys
  | .sandbox tid f =>
    match s[tid]? with
    | some fl => match sandboxOp fl f with
                 | some fl' => s.set tid fl'
                 | none => s
    | none => s
  | .spawn tid =>
    match s[tid]? with
    | some fl => s ++ [fl]
    | none => s
  | .other _ => s

def Sys.run (s : Sys) : List SysOp → Sys
  | [] => s
  | o :: os => (s.step o).run os

/-! ## Program graph -/

inductive Op where
  | nop
  | assert (m : Nat)                    -- call of janet_sandbox_assert with constant mask
  | libc (fn : String) (name : String)  -- OS-level call `name` made by C function `fn`
  | call (g : Nat) (m0 : Nat)           -- direct call (or hand-over to a worker thread) of function `g` of the slice; the
                                        -- callee's tracked variable starts at `m0` (constant argument bound to a parameter
                                        -- listed in `Cap.paramModes`; 0 for every other function)
  | havoc                               -- indirect call, call into the interpreter / of a function that may reach
                                        -- janet_sandbox, store to the flag word: the interpreter runs (see `Ex`)
  | ret
  | modeSet (m : Nat)                   -- the tracked open(2)-flags variable of this activation := m  (relevant bits only)
  | modeOr (m : Nat)                    -- … |= m
  | modeUpd (keep : Nat) (or : Nat)     -- … := (… &&& keep) ||| or   (assignment to one of two variables packed in the word)
  | assertMd (shift : Nat)              -- call of janet_sandbox_assert with the tracked *mask variable* (32 bits at `shift`):
                                        -- `x = 0; x |= C1; if (…) x |= C2; janet_sandbox_assert(x)`
  | modeGuard (v : Nat) (eq : Bool)     -- control passes only when `(md == v) == eq`: one arm of `p ? A : B` where `p` is the
                                        -- tracked parameter (`Cap.paramModes`)
  | modeTest (mask v : Nat) (eq : Bool) -- control passes only when `((md &&& mask) == v) == eq`: one edge of a conditional
                                        -- branch `if (x)` / `if (x == K)` on a tracked *guard variable* `x` (an int local that
                                        -- is only ever assigned constants; it lives in the bit field `mask` of the word)
  deriving Repr, DecidableEq

structure Node where
  fn : Nat
  op : Op
  succs : List Nat
  deriving Repr

/-- Nodes are numbered `0 … size-1`; `node`, `fnEntry` are total lookup functions (the generated graph implements them
    by decision trees `if n < k …` so that the kernel can evaluate the checker quickly). -/
structure Graph where
  size : Nat
  node : Nat → Node
  fnEntry : Nat → Nat      -- entry node of each function
  entries : List Nat       -- functions callable from outside the slice (address escapes)

/-- One *case* of the knowledge at a program point: the exact value of the tracked mode variable and a list of groups
    `G` (bit masks), each meaning "some capability of `G` is still enabled" (`¬ G ⊆ flags`). -/
abbrev Case := Nat × List Nat

/-- Untrusted certificate.  Per node a list of cases (disjunction: one of them describes the current state; no case =
    unreachable); per function a postcondition (groups only) and a purity flag.  The precondition of a function is the
    case list of its entry node: one case per initial value of the tracked variable (`Op.call g m0`). -/
structure Cert where
  k : Nat → List Case      -- per node, on entry to the node
  fpost : Nat → List Nat   -- per function, at every return
  isPure : Nat → Bool      -- per function: never changes the flag word

/-- two-level table lookup (the generated graph and certificate use decision trees, not this) -/
def chunkGet {α : Type} (chunks : Array (Array α)) (d : α) (n : Nat) : α :=
  (chunks.getD (n / 32) #[]).getD (n % 32) d

/-- group `g'` follows from knowledge `ks`: some known group is contained in it -/
def imp (g' : Nat) (ks : List Nat) : Bool := ks.any (fun g => subMask g g')
def impAll (gs ks : List Nat) : Bool := gs.all (fun g' => imp g' ks)

/-- all groups of `ks` hold of the flag word `f` -/
def holds (ks : List Nat) (f : Nat) : Prop := ∀ g ∈ ks, subMask g f = false

/-- some case of `K` describes (mode `md`, flag word `f`) -/
def inv (K : List Case) (md f : Nat) : Prop := ∃ c ∈ K, c.1 = md ∧ holds c.2 f

/-- `K'` has a case with mode `m` all of whose groups satisfy `p` -/
def cover (K' : List Case) (m : Nat) (p : Nat → Bool) : Bool := K'.any (fun c' => c'.1 == m && c'.2.all p)

section semantics
variable (G : Graph)

/-- Executions.  `Ex false n F md n' F' md'`: starting at node `n` with flag word `F` and mode variable `md`, control
    reaches node `n'` *of the same activation* with `F'`, `md'` (calls are executed to completion, with a fresh mode variable
    that starts at the call's `m0`).
    `Ex true 0 F 0 0 F' 0`: a run of the interpreter / of code outside the slice that changes the flag word from `F` to `F'`:
    any sequence of (a) growth of the flag word (janet_sandbox) and (b) calls of entry points of the graph, each executed
    up to any point (completion, or abandoned by a panic) - under the same thread-global flag word.
    A `havoc` node is exactly such a run. -/
inductive Ex : Bool → Nat → Nat → Nat → Nat → Nat → Nat → Prop
  | refl (n F md) : Ex false n F md n F md
  | nop {n F md s n' F' md'} : n < G.size → (G.node n).op = .nop → s ∈ (G.node n).succs →
      Ex false s F md n' F' md' → Ex false n F md n' F' md'
  | libc {n F md s n' F' md' fn nm} : n < G.size → (G.node n).op = .libc fn nm → s ∈ (G.node n).succs →
      Ex false s F md n' F' md' → Ex false n F md n' F' md'
  | assert {n F md s n' F' md' m} : n < G.size → (G.node n).op = .assert m → assertPasses F m = true →
      s ∈ (G.node n).succs → Ex false s F md n' F' md' → Ex false n F md n' F' md'
  | modeSet {n F md s n' F' md' m} : n < G.size → (G.node n).op = .modeSet m → s ∈ (G.node n).succs →
      Ex false s F m n' F' md' → Ex false n F md n' F' md'
  | modeOr {n F md s n' F' md' m} : n < G.size → (G.node n).op = .modeOr m → s ∈ (G.node n).succs →
      Ex false s F (md ||| m) n' F' md' → Ex false n F md n' F' md'
  | modeUpd {n F md s n' F' md' kp o} : n < G.size → (G.node n).op = .modeUpd kp o → s ∈ (G.node n).succs →
      Ex false s F ((md &&& kp) ||| o) n' F' md' → Ex false n F md n' F' md'
  | assertMd {n F md s n' F' md' sh} : n < G.size → (G.node n).op = .assertMd sh →
      assertPasses F ((md >>> sh) &&& 4294967295) = true →
      s ∈ (G.node n).succs → Ex false s F md n' F' md' → Ex false n F md n' F' md'
  | modeGuard {n F md s n' F' md' v eq} : n < G.size → (G.node n).op = .modeGuard v eq → ((md == v) == eq) = true →
      s ∈ (G.node n).succs → Ex false s F md n' F' md' → Ex false n F md n' F' md'
  | modeTest {n F md s n' F' md' k v eq} : n < G.size → (G.node n).op = .modeTest k v eq →
      (((md &&& k) == v) == eq) = true → s ∈ (G.node n).succs → Ex false s F md n' F' md' → Ex false n F md n' F' md'
  | havoc {n F md F1 s n' F' md'} : n < G.size → (G.node n).op = .havoc → Ex true 0 F 0 0 F1 0 →
      s ∈ (G.node n).succs → Ex false s F1 md n' F' md' → Ex false n F md n' F' md'
  | call {n F md g m0 r F1 mdr s n' F' md'} : n < G.size → (G.node n).op = .call g m0 →
      Ex false (G.fnEntry g) F m0 r F1 mdr → r < G.size → (G.node r).op = .ret →
      s ∈ (G.node n).succs → Ex false s F1 md n' F' md' → Ex false n F md n' F' md'
  | idone (F) : Ex true 0 F 0 0 F 0
  | igrow {F F1 F2} : subMask F F1 = true → Ex true 0 F1 0 0 F2 0 → Ex true 0 F 0 0 F2 0
  | ienter {F f m F1 md1 F2} : f ∈ G.entries → Ex false (G.fnEntry f) F 0 m F1 md1 → Ex true 0 F1 0 0 F2 0 →
      Ex true 0 F 0 0 F2 0

/-- Observations.  `Ob false n F md c F' md'`: starting at `n`, node `c` is reached - in this activation, inside a callee,
    or inside an entry point re-entered from a `havoc` node, at any depth - with flag word `F'` and (its activation's) mode
    `md'`.  `Ob true 0 F 0 c F' md'`: same, during an interpreter run that starts with flag word `F`. -/
inductive Ob : Bool → Nat → Nat → Nat → Nat → Nat → Nat → Prop
  | here {n F md c F' md'} : Ex G false n F md c F' md' → Ob false n F md c F' md'
  | inCall {n F md n1 F1 md1 g m0 c F' md'} : Ex G false n F md n1 F1 md1 → n1 < G.size → (G.node n1).op = .call g m0 →
      Ob false (G.fnEntry g) F1 m0 c F' md' → Ob false n F md c F' md'
  | inHavoc {n F md n1 F1 md1 c F' md'} : Ex G false n F md n1 F1 md1 → n1 < G.size → (G.node n1).op = .havoc →
      Ob true 0 F1 0 c F' md' → Ob false n F md c F' md'
  | iskipGrow {F F1 c F' md'} : subMask F F1 = true → Ob true 0 F1 0 c F' md' → Ob true 0 F 0 c F' md'
  | iskipEnter {F f m F1 md1 c F' md'} : f ∈ G.entries → Ex G false (G.fnEntry f) F 0 m F1 md1 →
      Ob true 0 F1 0 c F' md' → Ob true 0 F 0 c F' md'
  | iin {F f c F' md'} : f ∈ G.entries → Ob false (G.fnEntry f) F 0 c F' md' → Ob true 0 F 0 c F' md'

end semantics

/-! ## Checker -/

def caseOK (need : String → String → Nat → List Nat) (G : Graph) (C : Cert) (nd : Node) (m : Nat) (gs : List Nat) : Bool :=
  match nd.op with
  | .nop => nd.succs.all (fun s => cover (C.k s) m (fun g' => imp g' gs))
  | .libc fn nm => nd.succs.all (fun s => cover (C.k s) m (fun g' => imp g' gs)) && (need fn nm m).all (fun r => imp r gs)
  | .assert a => nd.succs.all (fun s => cover (C.k s) m (fun g' => g' &&& a != 0 || imp g' gs))
  | .modeSet x => nd.succs.all (fun s => cover (C.k s) x (fun g' => imp g' gs))
  | .modeOr x => nd.succs.all (fun s => cover (C.k s) (m ||| x) (fun g' => imp g' gs))
  | .modeUpd kp o => nd.succs.all (fun s => cover (C.k s) ((m &&& kp) ||| o) (fun g' => imp g' gs))
  | .assertMd sh => nd.succs.all (fun s => cover (C.k s) m (fun g' => g' &&& ((m >>> sh) &&& 4294967295) != 0 || imp g' gs))
  | .modeGuard v eq => !((m == v) == eq) || nd.succs.all (fun s => cover (C.k s) m (fun g' => imp g' gs))
  | .modeTest k v eq => !(((m &&& k) == v) == eq) || nd.succs.all (fun s => cover (C.k s) m (fun g' => imp g' gs))
  | .havoc => nd.succs.all (fun s => cover (C.k s) m (fun _ => false))
  | .call g m0 => cover (C.k (G.fnEntry g)) m0 (fun g' => imp g' gs) &&
      nd.succs.all (fun s => cover (C.k s) m (fun g' => (C.isPure g && imp g' gs) || imp g' (C.fpost g)))
  | .ret => impAll (C.fpost nd.fn) gs

def nodeOK (need : String → String → Nat → List Nat) (G : Graph) (C : Cert) (n : Nat) : Bool :=
  let nd := G.node n
  -- structural
  nd.succs.all (fun s => (G.node s).fn == nd.fn) &&
  (!C.isPure nd.fn || (match nd.op with
                       | .havoc => false
                       | .call g _ => C.isPure g
                       | _ => true)) &&
  (match nd.op with
   | .call g _ => (G.node (G.fnEntry g)).fn == g
   | _ => true) &&
  -- every case known at the node is carried on correctly
  (C.k n).all (fun c => caseOK need G C nd c.1 c.2)

def certOK (need : String → String → Nat → List Nat) (G : Graph) (C : Cert) : Bool :=
  (List.range G.size).all (nodeOK need G C) &&
  G.entries.all (fun f => cover (C.k (G.fnEntry f)) 0 (fun _ => false))

/-- the nodes the checker rejects (for diagnostics / the witness synthesiser) -/
def badNodes (need : String → String → Nat → List Nat) (G : Graph) (C : Cert) : List Nat :=
  (List.range G.size).filter (fun n => !nodeOK need G C n)

/-! ## The tracked variables of an activation are bit fields of one word

`md` packs up to six variables of the C function: the open(2)-flags variable (bits 0..15), the assert-mask variable (bits
16..47) and up to four guard variables (8 bits each from bit 48).  `fieldsOK` (per-run obligation `gen_fieldsOK`) checks
that every node of the regenerated graph reads / writes ONE of these fields and nothing else; `Sound.upd_semantics` etc. show
that such a node is an assignment to that variable which leaves the other variables alone. -/
abbrev fieldLo : Nat := 65535
abbrev fieldHi : Nat := 4294967295 <<< 16
def fieldGuard (k : Nat) : Nat := 255 <<< (48 + 8 * k)
abbrev wordAll : Nat := 1208925819614629174706175     -- 2^80 - 1
def fields : List Nat := [fieldLo, fieldHi, fieldGuard 0, fieldGuard 1, fieldGuard 2, fieldGuard 3]

def opFieldsOK : Op → Bool
  | .modeSet m => m &&& fieldLo == m || m &&& fieldHi == m            -- (functions with ONE tracked variable only)
  | .modeOr x => x &&& fieldLo == x || x &&& fieldHi == x
  | .modeUpd k o => fields.any (fun f => k == wordAll - f && o &&& f == o)
  | .modeTest m v _ => (List.range 4).any (fun j => m == fieldGuard j) && v &&& m == v
  | .assertMd sh => sh == 16 || sh == 0
  | _ => true

def fieldsOK (G : Graph) : Bool := (List.range G.size).all (fun n => opFieldsOK (G.node n).op)

/-! ## Out-parameter functions: one clone per value the activation stores through the parameter

`janet_get_addrinfo(…, int *is_unix)` only ever does `*is_unix = constant`, and an activation stores at most one value (checked by
the translator on the CFG).  The translator emits one graph function per case "stores v" / "stores nothing" (value 256), in
which the stores of the other constants are `nop` nodes WITHOUT successors (an activation of that case never executes them), and
the call becomes a fork to one arm per clone: `call clone_v; x := v` (`modeUpd` on the caller's guard variable).
`outParamsOK` (per-run obligation `gen_outParams`) checks on the regenerated graph that nothing else distinguishes the clones:
same events and same edges node by node, except that at a listed store of `c` exactly the clones for other values stop; that
every stored constant and "nothing" has a clone; that every fork offers every clone of the family, each followed by the
assignment of that clone's value to one guard field; and that no other node calls a clone. -/
def relSuccs (G : Graph) (e j : Nat) : List Nat := (G.node (e + j)).succs.map (· - e)

def storeAt (j : Nat) : List (Nat × Nat) → Option Nat
  | [] => none
  | (k, c) :: t => if k == j then some c else storeAt j t

/-- node `j` of clone `(f, v)` against node `j` of the family's first clone `f0` -/
def outNodeOK (G : Graph) (stores : List (Nat × Nat)) (f0 f v j : Nat) : Bool :=
  let e0 := G.fnEntry f0
  let e := G.fnEntry f
  let b := G.node (e + j)
  b.fn == f && b.succs.all (fun s => e ≤ s) &&
  match storeAt j stores with
  | some c => b.op == .nop && (v == c || b.succs == [])
  | none => b.op == (G.node (e0 + j)).op && relSuccs G e j == relSuccs G e0 j

def outFamilyOK (G : Graph) (fam : Nat × List (Nat × Nat) × List (Nat × Nat)) : Bool :=
  match fam.2.1 with
  | [] => false
  | (f0, _) :: _ =>
    fam.2.1.all (fun fv => (List.range fam.1).all (fun j => outNodeOK G fam.2.2 f0 fv.1 fv.2 j)) &&
    fam.2.2.all (fun st => st.1 < fam.1 && st.2 < 256 && fam.2.1.any (fun fv => fv.2 == st.2)) &&
    fam.2.1.any (fun fv => fv.2 == 256)

/-- arm of a fork: `call f _`, and for a clone that stores `v` into a tracked guard variable at `off`: then `x := v` -/
def outArmOK (G : Graph) (off : Nat) (fv : Nat × Nat) (a : Nat) : Bool :=
  (match (G.node a).op with
   | .call g _ => g == fv.1
   | _ => false) &&
  (off == 0 || fv.2 == 256 ||
    match (G.node a).succs with
    | [u] => (G.node u).op == .modeUpd (wordAll - (255 <<< off)) (fv.2 <<< off)
    | _ => false)

def outSiteOK (G : Graph) (fams : List (Nat × List (Nat × Nat) × List (Nat × Nat))) (site : Nat × Nat × Nat) : Bool :=
  match fams[site.2.1]? with
  | none => false
  | some fam =>
    (G.node site.1).op == .nop && (G.node site.1).succs.length == fam.2.1.length &&
    (site.2.2 == 0 || (List.range 4).any (fun k => site.2.2 == 48 + 8 * k)) &&
    (fam.2.1.zip (G.node site.1).succs).all (fun p => outArmOK G site.2.2 p.1 p.2)

def outParamsOK (G : Graph) (fams : List (Nat × List (Nat × Nat) × List (Nat × Nat))) (sites : List (Nat × Nat × Nat)) : Bool :=
  fams.all (outFamilyOK G) && sites.all (outSiteOK G fams) &&
  -- a clone is called from the arms of the listed forks only
  (List.range G.size).all (fun n =>
    match (G.node n).op with
    | .call g _ => !(fams.any (fun fam => fam.2.1.any (fun fv => fv.1 == g))) ||
                   sites.any (fun site => (G.node site.1).succs.contains n)
    | _ => true) &&
  G.entries.all (fun f => !(fams.any (fun fam => fam.2.1.any (fun fv => fv.1 == f))))

/-! ## Entry points = address-taken functions of the slice

Functions of the *program* are identified by their position in the IR (`Gen.Sandbox.progFns`: id ↦ C name, definition
order); `ids` maps the functions of the slice (graph function index) to program ids.  (Comparing names as strings is ~2 ms
per comparison in the kernel; the numbering is checked against the name table of the graph by `namesAgree`.) -/

/-- same graph, other entry list -/
def Graph.withEntries (G : Graph) (es : List Nat) : Graph := { G with entries := es }

/-- The functions of the slice whose address is taken anywhere in the program (`taken`: program ids found by the
    translator's independent scan of the IR text for every mention of a defined function outside the callee position of a
    direct call - initialisers of `JanetReg`/`JanetMethod`/abstract-type tables, stores, call arguments). -/
def addrEntries (ids : List Nat) (taken : List Nat) : List Nat :=
  (List.range ids.length).filter (fun i => taken.contains (ids.getD i 0))

/-- executable form of `∀ f ∈ taken, f ∈ slice → f ∈ entries` (evaluated function by function of the slice) -/
def entriesCover (ids : List Nat) (entries : List Nat) (taken : List Nat) : Bool :=
  (List.range ids.length).all (fun i => entries.contains i || !taken.contains (ids.getD i 0))

/-- Functions handed to a spawner (`Cap.spawners`) as a constant argument are *called* at the hand-over point: for every
    such (function, caller) pair with the function in the slice, the caller is in the slice and has a `call` node for it. -/
def handoversOK (G : Graph) (ids : List Nat) (hs : List (Nat × Nat)) : Bool :=
  hs.all (fun h =>
    let g := ids.idxOf h.1
    let f := ids.idxOf h.2
    g ≥ ids.length ||
      (f < ids.length && (List.range G.size).any (fun n => (G.node n).fn == f &&
        (match (G.node n).op with
         | .call g' _ => g' == g
         | _ => false))))

/-- `x` once for every leading element of `ids` equal to `k`, and the remaining ids -/
def takeEq (x : String) (k : Nat) : List Nat → List String × List Nat
  | [] => ([], [])
  | i :: is => if i == k then let r := takeEq x k is; (x :: r.1, r.2) else ([], i :: is)

/-- the names of `prog` (position `k`, `k+1`, …) at the non-decreasing positions `ids`; a position may be repeated: a
    parameter-keyed function (`Cap.paramModes`, assert-forwarding helpers) occurs once per constant argument -/
def pickNames : List String → Nat → List Nat → List String
  | [], _, _ => []
  | _ :: _, _, [] => []
  | x :: xs, k, ids => let r := takeEq x k ids; r.1 ++ pickNames xs (k + 1) r.2

/-- the slice's name table is the program's name table at the slice's (non-decreasing) ids -/
def namesAgree (prog : List String) (ids : List Nat) (names : Array String) : Bool :=
  pickNames prog 0 ids == names.toList

/-! ## The summary `mayGrow` of functions outside the slice -/

/-- Certificate check for the translator's summary: no call edge leaves the complement of `may` into `may`, the callees that
    the slice treats as "no event" are outside `may`, and every function that writes the flag word is inside. -/
def mayGrowOK (may : Nat → Bool) (edges : List (Nat × Nat)) (benign writers : List Nat) : Bool :=
  edges.all (fun e => may e.1 || !may e.2) && benign.all (fun g => !may g) && writers.all may

/-- `b` is reachable from `a` through the listed call edges -/
inductive CallPath (edges : List (Nat × Nat)) : Nat → Nat → Prop
  | refl (a) : CallPath edges a a
  | step {a b c} : (a, b) ∈ edges → CallPath edges b c → CallPath edges a c

/-! ## Side tables -/

def tableEq (a b : List (String × Nat)) : Bool := a == b

/-- every header constant the specification knows has the expected value and no single-bit capability is unknown -/
def definesOK (defs spec : List (String × Nat)) : Bool :=
  spec.all (fun p => defs.contains p) && defs.all (fun p => spec.contains p)

/-- every capability of the header (`JANET_SANDBOX_*` single bits in `defs`) can be disabled on its own by some keyword of
    the table, and the keyword `all` disables every one of them -/
def keywordsCover (tbl defs : List (String × Nat)) : Bool :=
  (defs.filter (fun d => d.1.startsWith "JANET_SANDBOX_")).all (fun d =>
    tbl.any (fun o => o.2 == d.2) &&
    (match kwLookup tbl "all" with
     | some a => subMask d.2 a
     | none => false))

/-- the flag word is written only by: janet_init (zero, a fresh VM), janet_sandbox (or-in), janet_go_thread_subr
    (copy of the parent's word: `janet_init(); flags = msg->argi`), and the embedding API janet_vm_load (whole-VM restore; not
    reachable from core functions).  The list has EVERY store to the word found in the IR, every use of its address other
    than load/store (`addr`), every access to the field through a JanetVM pointer (`viaptr`) and every whole-VM overwrite;
    a store of any other shape has kind `other`. -/
def flagWritesOK (ws : List (String × String)) : Bool :=
  ws.all (fun w => [("janet_init", "zero"), ("janet_sandbox", "or"), ("janet_go_thread_subr", "copy"),
                    ("janet_vm_load", "vmcopy")].contains w) &&
  ws.contains ("janet_sandbox", "or") && ws.contains ("janet_go_thread_subr", "copy")

/-- Shape of thread start (ev.c), regenerated by tools/gen/sandbox.py `thread_start_shape`: the function with the `copy`
    store runs `janet_init` and then sets the flag word from the `argi` field of its message; EVERY site that hands that
    function to a spawner stores the *current* flag word of the calling thread into that field (or passes it as the `argi`
    argument of janet_ev_threaded_await, which forwards it).  This is `SysOp.spawn`: the child starts with its parent's
    word.  Any other use of the function (direct call, address stored elsewhere, a hand-over whose `argi` is not a load of
    the flag word) is listed with a different fact and rejected. -/
def threadStartFacts : List String := [
  "janet_init; flags := msg.argi",
  "janet_ev_threaded_call: msg.argi := flags",
  "janet_ev_threaded_await: argi := flags",
  "msg.argi := parameter argi; janet_ev_threaded_call(fp, msg)",
  -- the message path inside the spawner (tools/gen/sandbox.py `thread_message_path`, data flow):
  "init.msg := arguments; init.subr := fp; pthread_create(body, init)",   -- janet_ev_threaded_call: whole-struct copy into the
                                                                         -- heap block handed to the new thread, not patched afterwards
  "msg := init.msg; subr := init.subr; subr(msg)"]                        -- the thread body calls the subroutine with that copy

/-- Thread start followed step by step, as a configuration of regenerated booleans (the general statement is proved under
    `allChecked`; the instance for the current tree is `gen_threadStart`). -/
structure ThreadCfg where
  handover : Bool   -- every site that hands the thread-start subroutine to a spawner puts the CURRENT flag word into msg.argi
                    -- (directly, or as the `argi` argument of janet_ev_threaded_await) - and no site does anything else with it
  forward : Bool    -- janet_ev_threaded_await forwards its `argi` parameter as msg.argi to janet_ev_threaded_call
  carried : Bool    -- janet_ev_threaded_call copies the message whole into the block it hands to pthread_create, and the thread
                    -- body calls the subroutine with that copy
  initCopy : Bool   -- the subroutine runs janet_init (word := 0) and then word := msg.argi
  deriving DecidableEq, Repr

def ThreadCfg.allChecked (c : ThreadCfg) : Bool := c.handover && c.forward && c.carried && c.initCopy

def threadCfgOf (ts : List (String × String)) : ThreadCfg :=
  { handover := ts.all (fun t => threadStartFacts.contains t.2) &&
      ts.any (fun t => t.2 == "janet_ev_threaded_call: msg.argi := flags" || t.2 == "janet_ev_threaded_await: argi := flags"),
    forward := ts.contains ("janet_ev_threaded_await", "msg.argi := parameter argi; janet_ev_threaded_call(fp, msg)"),
    carried := ts.contains ("janet_ev_threaded_call", "init.msg := arguments; init.subr := fp; pthread_create(body, init)") &&
      ts.contains ("thread body", "msg := init.msg; subr := init.subr; subr(msg)"),
    initCopy := ts.contains ("janet_go_thread_subr", "janet_init; flags := msg.argi") }

/-- The flag word a new thread ends up with, following the message from the hand-over site to the subroutine; `junk` stands
    for whatever a step that is NOT of the checked shape may deliver. -/
def spawnC (c : ThreadCfg) (parent junk : Nat) : Nat :=
  let atSite := if c.handover && c.forward then parent else junk      -- msg.argi as handed to janet_ev_threaded_call
  let atSubr := if c.carried then atSite else junk                    -- msg.argi as seen by the subroutine in the new thread
  if c.initCopy then atSubr else 0                                    -- janet_init zeroes the word; then the copy (or not)

def threadStartOK (ts : List (String × String)) : Bool := (threadCfgOf ts).allChecked

/-- Data-flow shape of the two C functions behind `(sandbox & keywords)`, regenerated by tools/gen/sandbox.py
    `sandbox_cfun_shape` (loop syntax, block order and local names are free):
    * vm.c `janet_sandbox` = `sandboxOp`: the `sandbox` capability (mask 1 = `capSandbox`) is asserted first, then
      `flags |= parameter`, nothing else;
    * the C function registered as `sandbox` = `sandboxCfun`: exactly one call of `janet_sandbox`; its argument is a local
      that starts at 0 and is otherwise only or-ed with the `flag` field of an entry of `sandbox_options[]` (the accumulator
      of `sandboxMask`; the entries are `Gen.Sandbox.options`, compared with `Cap.keywordTable` by `gen_tables`); the entry
      pointer only takes the values `sandbox_options`, `+1`; an unknown keyword ends in the noreturn `janet_panic*`.
    Which entry is or-ed in for which keyword (first match by name) is tied by the keyword-sequence scenarios only. -/
def sandboxShapeFacts : List (String × String) := [
  ("janet_sandbox", "janet_sandbox_assert(1); flags |= parameter"),
  ("janet_core_sandbox", "mask := 0; mask |= opt->flag; janet_sandbox(mask)"),
  ("janet_core_sandbox", "opt := sandbox_options; opt++"),
  ("janet_core_sandbox", "unknown keyword: janet_panic*; unreachable")]

def sandboxShapeOK (fs : List (String × String)) : Bool :=
  fs.all (fun f => sandboxShapeFacts.contains f) && sandboxShapeFacts.all (fun f => fs.contains f)

end JanetModel.Sandbox
