/-
C01 — the mark phase marks exactly the reachable blocks, for every depth limit D ≥ 1, and never runs out of fuel.
-/
import JanetModel.GC.Lemmas

namespace JanetModel.GC
open Std

theorem reachable_closed (h : Heap) :
    ∀ i o e, Reachable h i → h.get i = some o → e ∈ outEdges o → (h.get e.tgt).isSome → Reachable h e.tgt :=
  fun _ _ _ r ho he hs => Reachable.step r ho he hs

structure DInv (h : Heap) (s : MState) : Prop where
  stuck : s.stuck = false
  closed : ∀ i, s.marked.contains i = true → ∀ o, h.get i = some o → ∀ e ∈ outEdges o, (h.get e.tgt).isSome →
    s.marked.contains e.tgt = true ∨ e.tgt ∈ s.spill
  roots : ∀ e ∈ h.roots, (h.get e.tgt).isSome → s.marked.contains e.tgt = true ∨ e.tgt ∈ s.spill
  sound : ∀ i, s.marked.contains i = true → Reachable h i
  soundSpill : ∀ i, i ∈ s.spill → (h.get i).isSome → Reachable h i

theorem init_marked (i : Nat) : MState.init.marked.contains i = false := by
  simp [MState.init]

theorem markRoots_inv (h : Heap) (D : Nat) (fuel : Nat) (hf : weight h MState.init < fuel) :
    DInv h (markRoots h fuel D MState.init) ∧ weight h (markRoots h fuel D MState.init) < fuel := by
  have ih := markObj_spec h (Reachable h) (reachable_closed h) fuel
  obtain ⟨sp, ms, _⟩ := fold_spec ih D h.roots MState.init rfl hf (fun e he hs => Reachable.root he hs)
  refine ⟨?_, Nat.lt_of_le_of_lt sp.wt hf⟩
  exact {
    stuck := sp.stuck
    closed := fun i hi o ho e he hs => sp.closed i hi (init_marked i) o ho e he hs
    roots := ms
    sound := fun i hi => by
      rcases sp.sound i hi with m | m
      · rw [init_marked] at m; cases m
      · exact m.1
    soundSpill := fun i hi hs => by
      rcases sp.soundSpill i hi with m | m
      · simp [MState.init] at m
      · exact m hs }

theorem drain_inv (h : Heap) (D : Nat) (hD : 1 ≤ D) (fuel : Nat) :
    ∀ (n : Nat) (s : MState), DInv h s → weight h s < fuel → Phi h s < n →
      DInv h (drain h fuel D n s) ∧ (drain h fuel D n s).spill = [] := by
  have ih := markObj_spec h (Reachable h) (reachable_closed h) fuel
  intro n
  induction n with
  | zero => intro s _ _ hp; omega
  | succ n ihn =>
    intro s inv hw hp
    cases hsp : s.spill with
    | nil =>
      have : drain h fuel D (n + 1) s = s := by simp [drain, hsp]
      rw [this]; exact ⟨inv, hsp⟩
    | cons x rest =>
      have hd : drain h fuel D (n + 1) s = drain h fuel D n (markEdge h fuel D { s with spill := rest } ⟨true, x, false⟩) := by
        simp [drain, hsp]
      rw [hd]
      have hwpop : weight h { s with spill := rest } = weight h s := rfl
      have hxr : (h.get x).isSome → Reachable h x := fun c => inv.soundSpill x (by simp [hsp]) c
      -- `1 ≤ D`: the popped value is marked by `markObj`, not spilled again
      obtain ⟨d', (hd' : _ = markObj h fuel d' x { s with spill := rest })⟩ :=
        markEdge_descends h fuel { s with spill := rest } (e := ⟨true, x, false⟩) (Or.inr hD)
      obtain ⟨sp, hmk, hph⟩ := ih d' x { s with spill := rest } inv.stuck (by rw [hwpop]; exact hw) hxr
      rw [hd']
      -- what was marked or pending stays so, and the popped `x` itself is now marked
      have keep : ∀ t, (h.get t).isSome → s.marked.contains t = true ∨ t ∈ s.spill →
          (markObj h fuel d' x { s with spill := rest }).marked.contains t = true ∨
            t ∈ (markObj h fuel d' x { s with spill := rest }).spill := by
        intro t hs m
        rcases m with m | m
        · exact Or.inl (sp.mono _ m)
        · rw [hsp] at m
          rcases List.mem_cons.mp m with m | m
          · subst m; exact Or.inl (hmk hs)
          · exact Or.inr (sp.spillMono _ m)
      apply ihn
      · exact {
          stuck := sp.stuck
          closed := by
            intro i hi o ho e he hs
            by_cases c : s.marked.contains i = true
            · exact keep _ hs (inv.closed i c o ho e he hs)
            · exact sp.closed i hi (by simpa using c) o ho e he hs
          roots := fun e he hs => keep _ hs (inv.roots e he hs)
          sound := by
            intro i hi
            rcases sp.sound i hi with m | m
            · exact inv.sound i m
            · exact m.1
          soundSpill := by
            intro i hi hs
            rcases sp.soundSpill i hi with m | m
            · exact inv.soundSpill i (by rw [hsp]; exact List.mem_cons_of_mem _ m) hs
            · exact m hs }
      · exact Nat.lt_of_le_of_lt sp.wt (by rw [hwpop]; exact hw)
      · have : Phi h { s with spill := rest } + 1 = Phi h s := by
          simp only [Phi, hsp, List.length_cons, hwpop]; omega
        omega

theorem mark_inv (h : Heap) (D : Nat) (hD : 1 ≤ D) : DInv h (mark D h) ∧ (mark D h).spill = [] := by
  unfold mark
  obtain ⟨inv, hw⟩ := markRoots_inv h D (weight h MState.init + 1) (Nat.lt_succ_self _)
  exact drain_inv h D hD _ _ _ inv hw (by simp only [Phi]; omega)

theorem mark_complete (h : Heap) (D : Nat) (hD : 1 ≤ D) (i : Id) (r : Reachable h i) :
    (mark D h).marked.contains i = true := by
  obtain ⟨inv, hsp⟩ := mark_inv h D hD
  induction r with
  | root he hs =>
    rcases inv.roots _ he hs with m | m
    · exact m
    · rw [hsp] at m; cases m
  | step _ ho he hs ihr =>
    rcases inv.closed _ ihr _ ho _ he hs with m | m
    · exact m
    · rw [hsp] at m; cases m

theorem mark_sound (h : Heap) (D : Nat) (hD : 1 ≤ D) (i : Id) (m : (mark D h).marked.contains i = true) :
    Reachable h i := (mark_inv h D hD).1.sound i m

end JanetModel.GC
