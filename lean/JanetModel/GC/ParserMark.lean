/- The one gcmark callback whose mark depends on STATE: `parsermark` (parse.c) marks `parser->error` - which is either NULL,
   a static C string, or the payload of a janet string allocated by `delim_error` - only when the flag bit
   JANET_PARSER_GENERATED_ERROR is set.  Marking it without the bit would lose a reachable block; marking a static string
   with the bit set would hand a non-heap pointer to the collector.  So the collector is right iff
        bit set  ⇔  error is the heap string                                                            (Inv)
   holds whenever a collection can run, i.e. between any two API calls on the parser.

   `Gen.GC.parserSites` lists every write of `->error` / `->flag` in parse.c per function.  This file gives the writes
   their meaning on the abstract state (kind of `error`, the two flag bits), takes one function's writes as one
   transition (a collection cannot happen in between: parse.c allocates but never reaches an interpreter safepoint),
   guards them as the source does (consumer callbacks run only inside the loop of janet_parser_consume, which is entered
   and continued only while `error == NULL`; janet_parser_error acts only when `error != NULL`) and proves Inv for every
   history of transitions.  CORE LEAN ONLY. -/
import JanetModel.Gen.GC

namespace JanetModel.GC.ParserMark
open JanetModel.Gen.GC

inductive ErrKind where
  | null      -- NULL
  | static    -- a string literal of parse.c
  | heap      -- payload of a janet string (delim_error)
  deriving DecidableEq, Repr

/-- what the collector's decision depends on -/
structure PState where
  err : ErrKind
  gen : Bool      -- JANET_PARSER_GENERATED_ERROR
  dead : Bool     -- JANET_PARSER_DEAD
  deriving DecidableEq, Repr

/-- one write; `errCopy` / `flagCopy` (janet_parser_clone) copy the field of the source parser `src` -/
def act (src : PState) (s : PState) : PAct → PState
  | .errStatic => { s with err := .static }
  | .errNull => { s with err := .null }
  | .errHeap => { s with err := .heap }
  | .errCopy => { s with err := src.err }
  | .setGen => { s with gen := true }
  | .clearGen => { s with gen := false }
  | .setDead => { s with dead := true }
  | .flagZero => { s with gen := false, dead := false }
  | .flagOnlyDead => { s with gen := false, dead := true }
  | .flagOnlyGen => { s with gen := true, dead := false }
  | .flagCopy => { s with gen := src.gen, dead := src.dead }

def acts (src : PState) (s : PState) (l : List PAct) : PState := l.foldl (act src) s

/-- when may the writes of a function run?  A function that stores a static message is a consumer callback (or a helper
    of one): `static`, reached only through `state->consumer(...)` in the loop `while (!consumed && !parser->error)` of
    janet_parser_consume, itself behind janet_parser_checkdead (`error == NULL`, `flag == 0`): it runs with
    `error == NULL`.  janet_parser_error writes only when `error != NULL`.  Everything else: any state. -/
def guard (site : String × Bool × List PAct) (s : PState) : Bool :=
  if site.2.2.contains .errStatic then site.2.1 && s.err == .null
  else if site.1 == "janet_parser_error" then s.err != .null
  else true

/-- parsermark: marks `error` as a heap string iff the bit is set -/
def marksError (s : PState) : Bool := s.gen

/-- the collector's decision is right -/
def Inv (s : PState) : Bool := s.gen == (s.err == .heap)

def allStates : List PState :=
  [.null, .static, .heap].flatMap fun e => [false, true].flatMap fun g => [false, true].map fun d => ⟨e, g, d⟩

theorem mem_allStates (s : PState) : s ∈ allStates := by
  obtain ⟨e, g, d⟩ := s
  cases e <;> cases g <;> cases d <;> decide

/-- the finite certificate: every function of the table keeps Inv, from every state in which it may run, whatever the
    state of the parser it copies from (itself satisfying Inv) -/
def sitesKeepInv (sites : List (String × Bool × List PAct)) : Bool :=
  sites.all fun site => allStates.all fun s => allStates.all fun src =>
    !(Inv s && Inv src && guard site s) || Inv (acts src s site.2.2)

theorem sitesKeepInv_step {sites : List (String × Bool × List PAct)} (hk : sitesKeepInv sites = true)
    {site : String × Bool × List PAct} (hm : site ∈ sites) {s src : PState} (hs : Inv s = true) (hsrc : Inv src = true)
    (hg : guard site s = true) : Inv (acts src s site.2.2) = true := by
  have h := List.all_eq_true.mp (List.all_eq_true.mp (List.all_eq_true.mp hk site hm) s (mem_allStates s)) src
    (mem_allStates src)
  rwa [hs, hsrc, hg, Bool.and_true, Bool.and_true, Bool.not_true, Bool.false_or] at h

/-- a history: which function ran, and (for clone) the state of the source parser -/
structure Ev where
  site : String × Bool × List PAct
  src : PState

/-- run a history; an event whose guard is false does not happen -/
def run (s : PState) : List Ev → PState
  | [] => s
  | e :: es => run (if guard e.site s then acts e.src s e.site.2.2 else s) es

theorem run_inv (sites : List (String × Bool × List PAct)) (hk : sitesKeepInv sites = true) :
    ∀ (es : List Ev) (s : PState), Inv s = true → (∀ e ∈ es, e.site ∈ sites ∧ Inv e.src = true) → Inv (run s es) = true
  | [], _, h, _ => h
  | e :: es, s, h, hall => by
    have he := hall e (List.mem_cons_self ..)
    refine run_inv sites hk es _ ?_ fun e' h' => hall e' (List.mem_cons_of_mem _ h')
    split
    · next g => exact sitesKeepInv_step hk he.1 h he.2 g
    · exact h

end JanetModel.GC.ParserMark
