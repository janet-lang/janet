/-
C01 — facts about the root-set protocol model (GC/Roots.lean): the roots array refines a multiset of idEq-classes,
janet_gcunroot removes exactly one occurrence, janet_gcunrootall (per loop shape), suspension.
-/
import JanetModel.GC.Roots
import JanetModel.GC.Collect
import JanetModel.Util.List

namespace JanetModel.GC
open List

theorem idEq_iff_norm (a b : RVal) : idEq a b = true ↔ a.norm = b.norm := by
  cases a with | mk ta pa => cases b with | mk tb pb =>
  unfold idEq RVal.norm
  by_cases ht : ta = tb
  · subst ht
    cases hc : alwaysEq ta <;> simp
  · cases hc : alwaysEq ta <;> cases hc' : alwaysEq tb <;> simp [ht]

theorem idEq_refl (a : RVal) : idEq a a = true := (idEq_iff_norm a a).mpr rfl
theorem idEq_symm {a b : RVal} (h : idEq a b = true) : idEq b a = true :=
  (idEq_iff_norm b a).mpr ((idEq_iff_norm a b).mp h).symm
theorem idEq_trans {a b c : RVal} (h1 : idEq a b = true) (h2 : idEq b c = true) : idEq a c = true :=
  (idEq_iff_norm a c).mpr (((idEq_iff_norm a b).mp h1).trans ((idEq_iff_norm b c).mp h2))

theorem getLast?_some_perm {α} {l : List α} {a : α} (h : l.getLast? = some a) :
    (a :: l.dropLast).Perm l ∧ l.dropLast.length + 1 = l.length := by
  have hne : l ≠ [] := fun e => by rw [e] at h; cases h
  have e := List.dropLast_concat_getLast hne
  rw [List.getLast?_eq_some_getLast hne, Option.some.injEq] at h
  have p := (perm_append_singleton a l.dropLast).symm
  rw [h] at e
  rw [e] at p
  exact ⟨p, by rw [length_dropLast]; exact Nat.sub_add_cancel (length_pos_iff.mpr hne)⟩

theorem swapLast_nil : swapLast [] = [] := rfl

theorem swapLast_perm (rest : List RVal) : (swapLast rest).Perm rest := by
  unfold swapLast
  cases hl : rest.getLast? with
  | none => rw [getLast?_eq_none_iff.mp hl]
  | some last => exact (getLast?_some_perm hl).1

theorem filter_cons_perm {α} {p : α → Bool} {l l' : List α} (h : (l.filter p).Perm (l'.filter p)) (a : α) :
    ((a :: l).filter p).Perm ((a :: l').filter p) := by
  rw [filter_cons, filter_cons]
  split
  · exact h.cons a
  · exact h

/-- `return 0`: no root is id-equal to `x` -/
theorem unrootGo_none {x : RVal} {l : List RVal} (h : unrootGo x l = none) : ∀ v ∈ l, idEq x v = false := by
  induction l with
  | nil => exact fun _ hv => nomatch hv
  | cons v rest ih =>
    unfold unrootGo at h
    split at h
    · cases h
    · next c =>
      rw [Option.map_eq_none_iff] at h
      exact forall_mem_cons.mpr ⟨Bool.eq_false_iff.mpr c, ih h⟩

/-- `return 1`: some root is id-equal to `x`, and the array afterwards is, as a multiset, the array before minus its FIRST
id-equal element -/
theorem unrootGo_some {x : RVal} {l l' : List RVal} (h : unrootGo x l = some l') :
    (∃ v ∈ l, idEq x v = true) ∧ l'.Perm (l.eraseP (fun v => idEq x v)) ∧ l'.length + 1 = l.length := by
  induction l generalizing l' with
  | nil => cases h
  | cons v rest ih =>
    unfold unrootGo at h
    split at h
    · next c =>
      cases h
      rw [eraseP_cons_of_pos c]
      exact ⟨⟨v, mem_cons_self, c⟩, swapLast_perm rest, congrArg (· + 1) (swapLast_perm rest).length_eq⟩
    · next c =>
      obtain ⟨r, hr, rfl⟩ := Option.map_eq_some_iff.mp h
      obtain ⟨⟨w, hw, cw⟩, p, len⟩ := ih hr
      rw [eraseP_cons_of_neg c]
      exact ⟨⟨w, mem_cons_of_mem _ hw, cw⟩, p.cons v, congrArg (· + 1) len⟩

theorem idEq_eq_beq_norm (x v : RVal) : idEq x v = (x.norm == v.norm) :=
  Bool.eq_iff_iff.mpr ((idEq_iff_norm x v).trans beq_iff_eq.symm)

/-- on class representatives `eraseP (idEq x)` is `erase x.norm` -/
theorem map_norm_eraseP (x : RVal) (l : List RVal) :
    (l.eraseP (fun v => idEq x v)).map RVal.norm = (l.map RVal.norm).erase x.norm := by
  rw [erase_eq_eraseP, eraseP_map]
  exact congrArg _ (congrArg (eraseP · l) (funext fun v => idEq_eq_beq_norm x v))

/-- Whatever the loop shape: every root NOT id-equal to `x` is kept (as a multiset), none is added, and the return value is
1 exactly when some root is id-equal to `x`.  With the re-examining loop nothing id-equal to `x` is left. -/
theorem unrootAllGo_spec (rescan : Bool) (x : RVal) : ∀ (fuel : Nat) (l : List RVal), l.length ≤ fuel →
    ((unrootAllGo rescan x fuel l).1.filter (fun v => !idEq x v)).Perm (l.filter (fun v => !idEq x v)) ∧
    (unrootAllGo rescan x fuel l).1.length ≤ l.length ∧
    (unrootAllGo rescan x fuel l).2 = l.any (fun v => idEq x v) ∧
    (rescan = true → ∀ v ∈ (unrootAllGo rescan x fuel l).1, idEq x v = false)
  | 0, [], _ => ⟨.refl _, Nat.le_refl _, rfl, fun _ _ hv => nomatch hv⟩
  | _ + 1, [], _ => ⟨.refl _, Nat.le_refl _, rfl, fun _ _ hv => nomatch hv⟩
  | fuel + 1, v :: rest, hl => by
    have hrest : rest.length ≤ fuel := Nat.le_of_succ_le_succ hl
    unfold unrootAllGo
    by_cases c : idEq x v = true
    · -- the freed slot is refilled with the last root; `v` itself is gone
      rw [if_pos c, filter_cons_of_neg (by rw [c]; decide), any_cons, c, Bool.true_or]
      cases hlast : rest.getLast? with
      | none =>
        rw [getLast?_eq_none_iff.mp hlast]
        exact ⟨.refl _, Nat.zero_le _, rfl, fun _ _ hv => nomatch hv⟩
      | some last =>
        obtain ⟨pr, hd⟩ := getLast?_some_perm hlast
        cases rescan with
        | true =>
          obtain ⟨p, len, _, cl⟩ := unrootAllGo_spec true x fuel (last :: rest.dropLast) (by rw [length_cons, hd]; exact hrest)
          exact ⟨p.trans (pr.filter _), Nat.le_succ_of_le (pr.length_eq ▸ len), rfl, cl⟩
        | false =>
          obtain ⟨p, len, _, _⟩ := unrootAllGo_spec false x fuel rest.dropLast (by omega)
          exact ⟨(filter_cons_perm p last).trans (pr.filter _),
            Nat.succ_le_succ (Nat.le_trans len (by omega : rest.dropLast.length ≤ rest.length)), rfl, fun h => nomatch h⟩
    · obtain ⟨p, len, ret, cl⟩ := unrootAllGo_spec rescan x fuel rest hrest
      rw [if_neg c, any_cons, Bool.eq_false_iff.mpr c, Bool.false_or]
      exact ⟨filter_cons_perm p v, Nat.succ_le_succ len, ret,
        fun h => forall_mem_cons.mpr ⟨Bool.eq_false_iff.mpr c, cl h⟩⟩

theorem unrootAllGo_rescan_perm (x : RVal) (fuel : Nat) (l : List RVal) (hl : l.length ≤ fuel) :
    (unrootAllGo true x fuel l).1.Perm (l.filter (fun v => !idEq x v)) := by
  obtain ⟨p, _, _, cl⟩ := unrootAllGo_spec true x fuel l hl
  rwa [filter_eq_self.mpr fun v hv => by rw [cl rfl v hv]; rfl] at p

theorem map_norm_filter (x : RVal) (l : List RVal) :
    (l.filter (fun v => !idEq x v)).map RVal.norm = (l.map RVal.norm).filter (fun v => v != x.norm) := by
  rw [filter_map]
  exact congrArg _ (filter_congr fun v _ => by rw [idEq_eq_beq_norm, BEq.comm]; rfl)

theorem Reachable.congr_roots {h h' : Heap} (hg : ∀ j, h.get j = h'.get j) (hr : ∀ e ∈ h.roots, e ∈ h'.roots) {i : Id}
    (r : Reachable h i) : Reachable h' i := by
  induction r with
  | root he hs => exact Reachable.root (hr _ he) (hg _ ▸ hs)
  | step _ ho he hs ih => exact Reachable.step ih (hg _ ▸ ho) he (hg _ ▸ hs)

theorem heapWithRoots_get (h : Heap) (vm : VM) (j : Id) : (heapWithRoots h vm).get j = h.get j := rfl

theorem refTy_not_alwaysEq (t : Nat) (ht : isRefTy t = true) : alwaysEq t = false := by
  unfold isRefTy at ht
  simp only [List.contains_eq_mem, List.mem_cons, List.mem_nil_iff, or_false, decide_eq_true_eq] at ht
  rcases ht with rfl | rfl | rfl | rfl | rfl | rfl | rfl | rfl | rfl | rfl | rfl <;> decide

/-- the edge a root contributes is that of its class representative: only immediates are merged -/
theorem edge_norm (v : RVal) : v.norm.edge = v.edge := by
  unfold RVal.norm
  split
  · next c =>
    cases hr : isRefTy v.ty with
    | true => rw [refTy_not_alwaysEq _ hr] at c; cases c
    | false => unfold RVal.edge; rw [hr]; rfl
  · rfl

theorem mem_flatMap_edge_of_perm {l l' : List RVal} (p : (l.map RVal.norm).Perm (l'.map RVal.norm)) {e : Edge}
    (he : e ∈ l.flatMap RVal.edge) : e ∈ l'.flatMap RVal.edge := by
  have e : ∀ l : List RVal, l.flatMap RVal.edge = (l.map RVal.norm).flatMap RVal.edge := fun l => by
    rw [flatMap_map]; exact congrArg (flatMap · l) (funext fun v => (edge_norm v).symm)
  rw [e] at he ⊢
  exact (p.flatMap_right _).subset he

/-- the specification: a multiset (list up to permutation) of idEq-class representatives -/
def absRoots (m : List RVal) : ROp → List RVal
  | .root x => m ++ [x.norm]
  | .unroot x => m.erase x.norm
  | .unrootall x => m.filter (fun v => v != x.norm)
  | _ => m

def ROp.isUnrootall : ROp → Bool
  | .unrootall _ => true
  | _ => false

theorem collectVM_eq (D : Nat) (h : Heap) (vm : VM) :
    collectVM D h vm = if vm.gcSuspend = 0 then
      ({ collect D (heapWithRoots h vm) with roots := h.roots },
       { vm with gcInterval := if vm.blockCount * Gen.GC.intervalMul > vm.gcInterval then vm.blockCount * Gen.GC.gcObjectSize
                               else vm.gcInterval,
                 markPhase := false, nextCollection := 0,
                 blockCount := vm.blockCount - (liveCount (heapWithRoots h vm) -
                   liveCount { collect D (heapWithRoots h vm) with roots := h.roots }),
                 scratch := [], collections := vm.collections + 1 })
    else (h, vm) := by
  unfold collectVM
  by_cases c : vm.gcSuspend = 0
  · rw [if_pos c, if_neg (by simp [c])]
  · rw [if_neg c, if_pos (by simpa using c)]

theorem collectVM_locked (D : Nat) (h : Heap) (vm : VM) (hs : vm.gcSuspend ≠ 0) : collectVM D h vm = (h, vm) := by
  rw [collectVM_eq]; simp only [hs, if_false]

theorem collectVM_frame (D : Nat) (h : Heap) (vm : VM) :
    (collectVM D h vm).2.gcSuspend = vm.gcSuspend ∧ (collectVM D h vm).2.roots = vm.roots ∧
    (collectVM D h vm).2.rootCap = vm.rootCap := by
  rw [collectVM_eq]
  split <;> exact ⟨rfl, rfl, rfl⟩

theorem maybeCollect_cases (D : Nat) (h : Heap) (vm : VM) (f : Bool) :
    maybeCollect D h vm f = (h, vm) ∨ maybeCollect D h vm f = collectVM D h vm := by
  unfold maybeCollect
  split
  · exact Or.inr rfl
  · exact Or.inl rfl

theorem maybeCollect_frame (D : Nat) (h : Heap) (vm : VM) (f : Bool) :
    (maybeCollect D h vm f).2.gcSuspend = vm.gcSuspend ∧ (maybeCollect D h vm f).2.roots = vm.roots ∧
    (maybeCollect D h vm f).2.rootCap = vm.rootCap := by
  rcases maybeCollect_cases D h vm f with e | e
  · rw [e]; exact ⟨rfl, rfl, rfl⟩
  · rw [e]; exact collectVM_frame D h vm

theorem maybeCollect_susp (D : Nat) (h : Heap) (vm : VM) (f : Bool) : (maybeCollect D h vm f).2.gcSuspend = vm.gcSuspend :=
  (maybeCollect_frame D h vm f).1

theorem sfree_some {vm vm' : VM} {id : Nat} (h : sfree vm id = some vm') : ∃ sc, vm' = { vm with scratch := sc } := by
  obtain ⟨sc, _, e⟩ := Option.map_eq_some_iff.mp h
  exact ⟨sc, e.symm⟩

/-- the ops that write `janet_vm.roots` -/
def ROp.touchesRoots : ROp → Bool
  | .root _ | .unroot _ | .unrootall _ => true
  | _ => false

theorem stepOp_frame (D : Nat) (s : Heap × VM) (op : ROp) (h : op.touchesRoots = false) :
    (stepOp D s op).1.2.roots = s.2.roots ∧ (stepOp D s op).1.2.rootCap = s.2.rootCap := by
  cases op with
  | root _ | unroot _ | unrootall _ => cases h
  | collect => exact (collectVM_frame D s.1 s.2).2
  | safepoint f => exact (maybeCollect_frame D s.1 s.2 f).2
  | sfree id =>
    simp only [stepOp]
    cases hs : sfree s.2 id with
    | none => exact ⟨rfl, rfl⟩
    | some vm => obtain ⟨sc, rfl⟩ := sfree_some hs; exact ⟨rfl, rfl⟩
  | _ => exact ⟨rfl, rfl⟩

theorem stepOp_roots (D : Nat) (s : Heap × VM) (op : ROp)
    (hcfg : Gen.GC.unrootallRescans = true ∨ op.isUnrootall = false) :
    ((stepOp D s op).1.2.roots.map RVal.norm).Perm (absRoots (s.2.roots.map RVal.norm) op) := by
  cases op with
  | root x => simp [stepOp, gcroot, absRoots]
  | unroot x =>
    simp only [stepOp, gcunroot, absRoots]
    cases hu : unrootGo x s.2.roots with
    | none =>
      simp only
      have hn := unrootGo_none hu
      have : ¬ x.norm ∈ s.2.roots.map RVal.norm := by
        intro hm
        obtain ⟨v, hv, e⟩ := mem_map.mp hm
        have := hn v hv
        rw [(idEq_iff_norm x v).mpr e.symm] at this; cases this
      rw [erase_of_not_mem this]
    | some rs =>
      simp only
      have := (unrootGo_some hu).2.1.map RVal.norm
      rw [map_norm_eraseP] at this
      exact this
  | unrootall x =>
    rcases hcfg with hcfg | hcfg
    · simp only [stepOp, gcunrootall, gcunrootallWith, absRoots, hcfg]
      have := (unrootAllGo_rescan_perm x (s.2.roots.length + 1) s.2.roots (by omega)).map RVal.norm
      rw [map_norm_filter] at this
      exact this
    · cases hcfg
  | _ => rw [(stepOp_frame D s _ rfl).1]; exact Perm.refl _

theorem absRoots_perm {m m' : List RVal} (p : m.Perm m') (op : ROp) : (absRoots m op).Perm (absRoots m' op) := by
  cases op with
  | root x => exact p.append_right _
  | unroot x => exact p.erase _
  | unrootall x => exact p.filter _
  | _ => exact p

theorem foldl_absRoots_perm (ops : List ROp) :
    ∀ {m m' : List RVal}, m.Perm m' → (ops.foldl absRoots m).Perm (ops.foldl absRoots m') := by
  induction ops with
  | nil => exact id
  | cons o r ih => exact fun p => ih (absRoots_perm p o)

theorem runOps_roots (D : Nat) (ops : List ROp) :
    ∀ (s : Heap × VM), (Gen.GC.unrootallRescans = true ∨ ∀ op ∈ ops, op.isUnrootall = false) →
      ((runOps D s ops).2.roots.map RVal.norm).Perm (ops.foldl absRoots (s.2.roots.map RVal.norm)) := by
  induction ops with
  | nil => intro s _; exact Perm.refl _
  | cons op rest ih =>
    intro s hcfg
    have hcfg1 : Gen.GC.unrootallRescans = true ∨ op.isUnrootall = false :=
      hcfg.imp id (fun h => h op mem_cons_self)
    have hcfg2 : Gen.GC.unrootallRescans = true ∨ ∀ o ∈ rest, o.isUnrootall = false :=
      hcfg.imp id (fun h o ho => h o (mem_cons_of_mem _ ho))
    simp only [runOps, foldl_cons]
    have h1 := stepOp_roots D s op hcfg1
    have h2 := ih (stepOp D s op).1 hcfg2
    simp only [runOps] at h2
    exact h2.trans (foldl_absRoots_perm rest h1)

theorem stepOp_cap (D : Nat) (s : Heap × VM) (op : ROp) (hinv : s.2.roots.length ≤ s.2.rootCap) :
    (stepOp D s op).1.2.roots.length ≤ (stepOp D s op).1.2.rootCap := by
  cases op with
  | root x =>
    simp only [stepOp, gcroot, length_append, length_cons, length_nil]
    by_cases c : s.2.roots.length + 1 > s.2.rootCap
    · simp only [c, if_true]
      have : 1 ≤ Gen.GC.rootGrowMul := by decide
      calc s.2.roots.length + (0 + 1) = 1 * (s.2.roots.length + 1) := by omega
        _ ≤ Gen.GC.rootGrowMul * (s.2.roots.length + 1) := Nat.mul_le_mul_right _ this
    · simp only [c, if_false]; omega
  | unroot x =>
    simp only [stepOp, gcunroot]
    cases hu : unrootGo x s.2.roots with
    | none => exact hinv
    | some rs =>
      have := (unrootGo_some hu).2.2
      simp only; omega
  | unrootall x =>
    simp only [stepOp, gcunrootall, gcunrootallWith]
    exact Nat.le_trans (unrootAllGo_spec _ x _ _ (Nat.le_succ _)).2.1 hinv
  | _ => rw [(stepOp_frame D s _ rfl).1, (stepOp_frame D s _ rfl).2]; exact hinv

/-- `root_count ≤ root_capacity` is an invariant of every op history (so `roots[root_count] = root` in janet_gcroot stays in
bounds): needs only `1 ≤ rootGrowMul` of the regenerated constants -/
theorem runOps_cap (D : Nat) (ops : List ROp) :
    ∀ (s : Heap × VM), s.2.roots.length ≤ s.2.rootCap → (runOps D s ops).2.roots.length ≤ (runOps D s ops).2.rootCap :=
  Util.foldl_inv (P := fun s => s.2.roots.length ≤ s.2.rootCap) (fun s op h => stepOp_cap D s op h) ops

/-- a history keeps collection suspended when it starts suspended and never unlocks down to a handle ≤ 0 -/
def keepsSuspended : List ROp → Bool
  | [] => true
  | .unlock hd :: r => decide (0 < hd) && keepsSuspended r
  | _ :: r => keepsSuspended r

theorem heapAdd_get_old (h : Heap) (o : Obj) (i : Nat) (x : Obj) (hx : h.get i = some x) : (heapAdd h o).get i = some x := by
  have hlt : i < h.size := get_lt hx
  unfold heapAdd Heap.get
  have : i < h.size + 1 := by omega
  have hne : i ≠ h.size := by omega
  simp only [this, if_true, hne, if_false]
  exact hx

theorem stepOp_suspended (D : Nat) (s : Heap × VM) (op : ROp) (hs : 0 < s.2.gcSuspend)
    (hop : ∀ hd, op = .unlock hd → 0 < hd) :
    0 < (stepOp D s op).1.2.gcSuspend ∧ (stepOp D s op).1.2.collections = s.2.collections ∧
    (∀ i x, s.1.get i = some x → (stepOp D s op).1.1.get i = some x) := by
  have hne : s.2.gcSuspend ≠ 0 := Int.ne_of_gt hs
  have hcol : collectVM D s.1 s.2 = (s.1, s.2) := collectVM_locked D _ _ hne
  cases op with
  | unroot x =>
    simp only [stepOp, gcunroot]
    cases hu : unrootGo x s.2.roots <;> exact ⟨hs, rfl, fun _ _ h => h⟩
  | lock => exact ⟨by show 0 < s.2.gcSuspend + 1; omega, rfl, fun _ _ h => h⟩
  | unlock hd => exact ⟨hop hd rfl, rfl, fun _ _ h => h⟩
  | newObj o size => exact ⟨hs, rfl, fun i x h => heapAdd_get_old s.1 o i x h⟩
  | collect =>
    rw [show stepOp D s .collect = (collectVM D s.1 s.2, 0) from rfl, hcol]
    exact ⟨hs, rfl, fun _ _ h => h⟩
  | safepoint f =>
    have e : maybeCollect D s.1 s.2 f = (s.1, s.2) := (maybeCollect_cases D s.1 s.2 f).elim id (·.trans hcol)
    rw [show stepOp D s (.safepoint f) = (maybeCollect D s.1 s.2 f, 0) from rfl, e]
    exact ⟨hs, rfl, fun _ _ h => h⟩
  | sfree id =>
    simp only [stepOp]
    cases hsf : sfree s.2 id with
    | none => exact ⟨hs, rfl, fun _ _ h => h⟩
    | some vm => obtain ⟨sc, rfl⟩ := sfree_some hsf; exact ⟨hs, rfl, fun _ _ h => h⟩
  | _ => exact ⟨hs, rfl, fun _ _ h => h⟩

theorem keepsSuspended_cons {op : ROp} {r : List ROp} (h : keepsSuspended (op :: r) = true) :
    (∀ hd, op = .unlock hd → 0 < hd) ∧ keepsSuspended r = true := by
  cases op with
  | unlock hd =>
    rw [keepsSuspended, Bool.and_eq_true, decide_eq_true_eq] at h
    exact ⟨fun _ e => by cases e; exact h.1, h.2⟩
  | _ => exact ⟨fun _ e => (nomatch e), h⟩

theorem runOps_suspended (D : Nat) (ops : List ROp) :
    ∀ (s : Heap × VM), 0 < s.2.gcSuspend → keepsSuspended ops = true →
      0 < (runOps D s ops).2.gcSuspend ∧ (runOps D s ops).2.collections = s.2.collections ∧
      (∀ i x, s.1.get i = some x → (runOps D s ops).1.get i = some x) := by
  induction ops with
  | nil => intro s hs _; exact ⟨hs, rfl, fun _ _ h => h⟩
  | cons op rest ih =>
    intro s hs hk
    obtain ⟨h1, h2⟩ := keepsSuspended_cons hk
    obtain ⟨a1, a2, a3⟩ := stepOp_suspended D s op hs h1
    obtain ⟨b1, b2, b3⟩ := ih (stepOp D s op).1 a1 h2
    simp only [runOps, foldl_cons] at b1 b2 b3 ⊢
    exact ⟨b1, b2.trans a2, fun i x h => b3 i x (a3 i x h)⟩

end JanetModel.GC
