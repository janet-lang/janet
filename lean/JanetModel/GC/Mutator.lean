/-
C01 — a mutator that can name heap objects only by paths from the roots, runs with a collection schedule, and the
simulation argument: collecting at any subset of safepoints does not change what the mutator observes.  The invariant of
the simulation is `Sub`: the heap of the collecting run is the heap of the run that never collects with some blocks
missing, none of them referred to by what is left.
-/
import JanetModel.GC.Collect

namespace JanetModel.GC
open Std

/-- how a program names an object: the n-th root, or the k-th strong reference of an object it can already name -/
inductive Path where
  | root (n : Nat)
  | field (p : Path) (k : Nat)
  deriving Repr, DecidableEq

inductive Step where
  | alloc (kind : Nat) (fields : List Path)   -- new object referencing the named objects; becomes a root (a local)
  | store (p : Path) (k : Nat) (q : Path)     -- p.field[k] := q
  | root (p : Path)                           -- janet_gcroot / push on the stack
  | unroot (n : Nat)                          -- drop the n-th root
  | emit (p : Path)                           -- observe kind and size of an object
  | same (p q : Path)                         -- observe identity of two objects
  deriving Repr

inductive Obs where
  | obj (kind nfields : Nat)
  | absent
  | same (b : Bool)
  deriving Repr, DecidableEq

def live (h : Heap) (i : Id) : Option Id := if (h.get i).isSome then some i else none

def resolve (h : Heap) : Path → Option Id
  | .root n => (h.roots[n]?).bind (fun e => live h e.tgt)
  | .field p k => (resolve h p).bind fun i => (h.get i).bind fun o => (o.strong[k]?).bind fun e => live h e.tgt

def setObj (h : Heap) (i : Id) (o : Obj) : Heap := { h with obj := fun j => if j = i then some o else h.get j }

def allocObj (h : Heap) (o : Obj) : Heap :=
  { size := h.size + 1, obj := fun j => if j = h.size then some o else h.get j, roots := ⟨true, h.size, false⟩ :: h.roots }

def execHeap (h : Heap) : Step → Heap
  | .alloc kind fields => allocObj h { kind, strong := (fields.filterMap (resolve h)).map (fun i => ⟨true, i, false⟩) }
  | .store p k q =>
    match resolve h p with
    | none => h
    | some i =>
      match resolve h q with
      | none => h
      | some t =>
        match h.get i with
        | some o => setObj h i { o with strong := o.strong.set k ⟨true, t, false⟩ }
        | none => h
  | .root p =>
    match resolve h p with
    | some i => { h with roots := ⟨true, i, false⟩ :: h.roots }
    | none => h
  | .unroot n => { h with roots := h.roots.eraseIdx n }
  | .emit _ => h
  | .same _ _ => h

def execObs (h : Heap) : Step → List Obs
  | .emit p =>
    [match (resolve h p).bind h.get with
     | some o => Obs.obj o.kind o.strong.length
     | none => Obs.absent]
  | .same p q =>
    [match resolve h p with
     | none => Obs.absent
     | some i =>
       match resolve h q with
       | none => Obs.absent
       | some j => Obs.same (i == j)]
  | _ => []

def exec (h : Heap) (st : Step) : Heap × List Obs := (execHeap h st, execObs h st)

/-- run a program; safepoint number `n` precedes the n-th step, and the collector runs there iff `sched n` -/
def run (D : Nat) : List Step → (Nat → Bool) → Nat → Heap → List Obs
  | [], _, _, _ => []
  | st :: rest, sched, n, h =>
    let h1 := if sched n then collect D h else h
    let r := exec h1 st
    r.2 ++ run D rest sched (n + 1) r.1

/- The symmetric formulation: `MReach` is what the mutator can reach (strong references only), `Agree` relates two heaps that look
   the same on everything reachable in either.  The transparency theorems go through the one-sided `Sub` below, which needs no
   reachability predicate. -/
inductive MReach (h : Heap) : Id → Prop
  | root {e : Edge} : e ∈ h.roots → (h.get e.tgt).isSome → MReach h e.tgt
  | step {i : Id} {o : Obj} {e : Edge} : MReach h i → h.get i = some o → e ∈ o.strong → (h.get e.tgt).isSome →
      MReach h e.tgt

theorem MReach.reachable {h : Heap} {i : Id} (m : MReach h i) : Reachable h i := by
  induction m with
  | root he hs => exact Reachable.root he hs
  | step _ ho he hs ih => exact Reachable.step ih ho (by simp [outEdges, he]) hs

/-- the part of an object the mutator can see -/
def objView (h : Heap) (i : Id) : Option (Nat × List Edge) := (h.get i).map (fun o => (o.kind, o.strong))

structure Agree (h h' : Heap) : Prop where
  size : h.size = h'.size
  roots : h.roots = h'.roots
  view : ∀ i, MReach h i ∨ MReach h' i → objView h i = objView h' i

theorem live_eq_some {h : Heap} {i j : Id} (hl : live h i = some j) : j = i ∧ (h.get i).isSome := by
  unfold live at hl
  by_cases c : (h.get i).isSome
  · simp [c] at hl; exact ⟨hl.symm, c⟩
  · simp [c] at hl

theorem setObj_get (h : Heap) (i : Id) (o : Obj) (hi : (h.get i).isSome) (j : Nat) :
    (setObj h i o).get j = if j = i then some o else h.get j := by
  obtain ⟨o0, hx⟩ := Option.isSome_iff_exists.mp hi
  have hlt := get_lt hx
  unfold setObj Heap.get
  by_cases c : j = i
  · subst c; simp [hlt]
  · by_cases c2 : j < h.size <;> simp [c, c2]

/-- a write keeps every block where it is -/
theorem setObj_isSome (h : Heap) (i : Id) (o : Obj) (hi : (h.get i).isSome) (j : Nat) :
    ((setObj h i o).get j).isSome = (h.get j).isSome := by
  rw [setObj_get h i o hi]
  split
  · next c => rw [c, hi]; rfl
  · rfl

theorem allocObj_get (h : Heap) (o : Obj) (j : Nat) :
    (allocObj h o).get j = if j = h.size then some o else h.get j := by
  unfold allocObj Heap.get
  by_cases c : j = h.size
  · subst c; simp
  · by_cases c2 : j < h.size
    · have : j < h.size + 1 := by omega
      simp [c, c2, this]
    · have : ¬ j < h.size + 1 := by omega
      simp [c, c2, this]

/-- `g` is `h` after some collections: same size and roots; a block `g` still holds looks to the mutator as it does in `h`;
and nothing `g` refers to, from a root or from a block it holds, is missing from it.  Every mutator step and every collection
keeps it. -/
structure Sub (g h : Heap) : Prop where
  size : g.size = h.size
  roots : g.roots = h.roots
  view : ∀ i, (g.get i).isSome → objView g i = objView h i
  rootLive : ∀ e ∈ h.roots, (h.get e.tgt).isSome → (g.get e.tgt).isSome
  closed : ∀ i o, g.get i = some o → ∀ e ∈ o.strong, (h.get e.tgt).isSome → (g.get e.tgt).isSome

theorem Sub.refl (h : Heap) : Sub h h := ⟨rfl, rfl, fun _ _ => rfl, fun _ _ c => c, fun _ _ _ _ _ c => c⟩

theorem Sub.get {g h : Heap} (s : Sub g h) {i : Id} {o : Obj} (ho : g.get i = some o) :
    ∃ o', h.get i = some o' ∧ o'.kind = o.kind ∧ o'.strong = o.strong := by
  have := s.view i (by rw [ho]; rfl)
  rw [objView, objView, ho] at this
  cases h2 : h.get i with
  | none => rw [h2] at this; cases this
  | some o' =>
    rw [h2] at this
    have e := Prod.mk.inj (Option.some.inj this)
    exact ⟨o', rfl, e.1.symm, e.2.symm⟩

theorem Sub.live_eq {g h : Heap} (s : Sub g h) {t : Id} (c : (h.get t).isSome → (g.get t).isSome) : live g t = live h t := by
  unfold live
  by_cases cg : (g.get t).isSome
  · obtain ⟨o, ho⟩ := Option.isSome_iff_exists.mp cg
    obtain ⟨o', ho', _⟩ := s.get ho
    rw [if_pos cg, if_pos (by rw [ho']; rfl)]
  · rw [if_neg cg, if_neg fun ch => cg (c ch)]

theorem resolve_live {h : Heap} {p : Path} {i : Id} (hr : resolve h p = some i) : ∃ o, h.get i = some o := by
  have : ∃ t, live h t = some i := by
    cases p with
    | root n =>
      obtain ⟨e, _, hl⟩ := Option.bind_eq_some_iff.mp hr
      exact ⟨_, hl⟩
    | field p k =>
      simp only [resolve, Option.bind_eq_some_iff] at hr
      obtain ⟨_, _, _, _, e, _, hl⟩ := hr
      exact ⟨_, hl⟩
  obtain ⟨t, hl⟩ := this
  obtain ⟨rfl, hs⟩ := live_eq_some hl
  exact Option.isSome_iff_exists.mp hs

theorem Sub.resolve_eq {g h : Heap} (s : Sub g h) : ∀ p, resolve g p = resolve h p := by
  intro p
  induction p with
  | root n =>
    simp only [resolve, s.roots]
    cases he : h.roots[n]? with
    | none => rfl
    | some e => exact s.live_eq (s.rootLive e (List.mem_of_getElem? he))
  | field p k ih =>
    simp only [resolve, ← ih]
    cases hr : resolve g p with
    | none => rfl
    | some j =>
      obtain ⟨o, ho⟩ := resolve_live hr
      obtain ⟨o', ho', _, hst⟩ := s.get ho
      simp only [Option.bind_some, ho, ho', hst]
      cases he : o.strong[k]? with
      | none => rfl
      | some e => exact s.live_eq (s.closed j o ho e (List.mem_of_getElem? he))

theorem Sub.exec_obs {g h : Heap} (s : Sub g h) (st : Step) : execObs g st = execObs h st := by
  cases st with
  | emit p =>
    simp only [execObs, ← s.resolve_eq p]
    cases hp : resolve g p with
    | none => rfl
    | some i =>
      obtain ⟨o, ho⟩ := resolve_live hp
      obtain ⟨o', ho', hk, hst⟩ := s.get ho
      simp only [Option.bind_some, ho, ho', hk, hst]
  | same p q => simp only [execObs, ← s.resolve_eq p, ← s.resolve_eq q]
  | _ => rfl

/-- the root array rearranged or shortened -/
theorem Sub.reroot {g h : Heap} (s : Sub g h) (f : List Edge → List Edge) (hf : ∀ l e, e ∈ f l → e ∈ l) :
    Sub { g with roots := f g.roots } { h with roots := f h.roots } :=
  ⟨s.size, congrArg f s.roots, s.view, fun e he => s.rootLive e (hf _ e he), s.closed⟩

/-- a live block becomes a root -/
theorem Sub.addRoot {g h : Heap} (s : Sub g h) {i : Id} {o : Obj} (hi : g.get i = some o) :
    Sub { g with roots := ⟨true, i, false⟩ :: g.roots } { h with roots := ⟨true, i, false⟩ :: h.roots } := by
  refine ⟨s.size, congrArg (_ :: ·) s.roots, s.view, fun e he hs => ?_, s.closed⟩
  rcases List.mem_cons.mp he with rfl | he
  · show (g.get i).isSome; rw [hi]; rfl
  · exact s.rootLive e he hs

/-- a new block whose references are live, held by a new root -/
theorem Sub.alloc {g h : Heap} (s : Sub g h) (o : Obj) (hl : ∀ e ∈ o.strong, (g.get e.tgt).isSome) :
    Sub (allocObj g o) (allocObj h o) := by
  -- the new slot is live in both heaps; elsewhere nothing has changed
  have live : ∀ t, (t ≠ h.size → (h.get t).isSome → (g.get t).isSome) → ((allocObj h o).get t).isSome →
      ((allocObj g o).get t).isSome := by
    intro t c ht
    rw [allocObj_get, s.size] at *
    split
    · rfl
    · next ne => rw [if_neg ne] at ht; exact c ne ht
  refine ⟨congrArg (· + 1) s.size, by simp only [allocObj, s.size, s.roots], fun i hi => ?_,
    fun e he => live _ fun ne c => ?_, fun i oi hoi e he => live _ fun _ c => ?_⟩
  · rw [objView, objView, allocObj_get, allocObj_get, s.size]
    rw [allocObj_get, s.size] at hi
    split
    · rfl
    · next c => rw [if_neg c] at hi; exact s.view i hi
  · rcases List.mem_cons.mp he with rfl | he
    · exact absurd rfl ne
    · exact s.rootLive e he c
  · rw [allocObj_get] at hoi
    split at hoi
    · cases hoi; exact hl e he
    · exact s.closed i oi hoi e he c

/-- a live block overwritten by one that looks the same to the mutator in both heaps and refers to nothing missing -/
theorem Sub.set {g h : Heap} (s : Sub g h) {i : Id} {y y' : Obj} (hg : (g.get i).isSome) (hk : y.kind = y'.kind)
    (hst : y.strong = y'.strong) (hl : ∀ e ∈ y.strong, (h.get e.tgt).isSome → (g.get e.tgt).isSome) :
    Sub (setObj g i y) (setObj h i y') := by
  obtain ⟨o, ho⟩ := Option.isSome_iff_exists.mp hg
  obtain ⟨o', ho', _⟩ := s.get ho
  have hh : (h.get i).isSome := by rw [ho']; rfl
  refine ⟨s.size, s.roots, fun j hj => ?_, fun e he hs => ?_, fun j oj hoj e he hs => ?_⟩
  · rw [objView, objView, setObj_get g i _ hg, setObj_get h i _ hh]
    rw [setObj_isSome g i y hg] at hj
    split
    · rw [Option.map_some, Option.map_some, hk, hst]
    · exact s.view j hj
  · rw [setObj_isSome g i y hg]; rw [setObj_isSome h i y' hh] at hs
    exact s.rootLive e he hs
  · rw [setObj_isSome g i y hg]; rw [setObj_isSome h i y' hh] at hs
    rw [setObj_get g i _ hg] at hoj
    split at hoj
    · cases hoj; exact hl e he hs
    · exact s.closed j oj hoj e he hs

theorem Sub.exec {g h : Heap} (s : Sub g h) (st : Step) : Sub (execHeap g st) (execHeap h st) := by
  cases st with
  | alloc kind fields =>
    simp only [execHeap, ← funext s.resolve_eq]
    refine s.alloc _ fun e he => ?_
    obtain ⟨t, ht, rfl⟩ := List.mem_map.mp he
    obtain ⟨p, _, hp⟩ := List.mem_filterMap.mp ht
    exact Option.isSome_iff_exists.mpr (resolve_live hp)
  | store p k q =>
    simp only [execHeap, ← s.resolve_eq p, ← s.resolve_eq q]
    cases hp : resolve g p with
    | none => exact s
    | some i =>
      cases hq : resolve g q with
      | none => exact s
      | some t =>
        obtain ⟨o, ho⟩ := resolve_live hp
        obtain ⟨o', ho', hk, hst⟩ := s.get ho
        simp only [ho, ho']
        refine s.set (by rw [ho]; rfl) hk.symm (by rw [hst]) fun e he hs => ?_
        -- a reference of the updated block is an old one or the stored target
        rcases List.mem_or_eq_of_mem_set he with he | rfl
        · exact s.closed i o ho e he hs
        · exact Option.isSome_iff_exists.mpr (resolve_live hq)
  | root p =>
    simp only [execHeap, ← s.resolve_eq p]
    cases hp : resolve g p with
    | none => exact s
    | some i =>
      obtain ⟨o, ho⟩ := resolve_live hp
      exact s.addRoot ho
  | unroot n => exact s.reroot (·.eraseIdx n) fun _ _ he => List.mem_of_mem_eraseIdx he
  | emit p => exact s
  | same p q => exact s

/-- a collection leaves a sub-heap: what it keeps was reachable, and what that refers to is reachable too -/
theorem Sub.collect {g h : Heap} (s : Sub g h) (D : Nat) (hD : 1 ≤ D) : Sub (collect D g) h := by
  refine ⟨s.size, s.roots, fun i hi => ?_, fun e he hs => ?_, fun i o' ho' e he hs => ?_⟩
  · obtain ⟨o', ho'⟩ := Option.isSome_iff_exists.mp hi
    obtain ⟨o, ho, _, rfl⟩ := collect_get_some ho'
    rw [← s.view i (by rw [ho]; rfl), objView, objView, ho', ho]
    rfl
  · exact collect_isSome_of_reachable hD (.root (s.roots ▸ he) (s.rootLive e he hs))
  · obtain ⟨o, ho, hm, rfl⟩ := collect_get_some ho'
    exact collect_isSome_of_reachable hD (.step (mark_sound g D hD i hm) ho (List.mem_append_left _ he) (s.closed i o ho e he hs))

theorem run_sub (D : Nat) (hD : 1 ≤ D) (sched : Nat → Bool) :
    ∀ (prog : List Step) (n : Nat) (g h : Heap), Sub g h →
      run D prog sched n g = run D prog (fun _ => false) n h := by
  intro prog
  induction prog with
  | nil => intro n g h _; rfl
  | cons st rest ih =>
    intro n g h s
    have s1 : Sub (if sched n then collect D g else g) h := by
      split
      · exact s.collect D hD
      · exact s
    simp only [run, exec, Bool.false_eq_true, if_false]
    rw [s1.exec_obs st, ih (n + 1) _ _ (s1.exec st)]

end JanetModel.GC
