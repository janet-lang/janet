/- The mark phase's walks over a JanetQueue (ev.c): `janet_ev_mark` (the run queue janet_vm.spawn - a ROOT set),
   `janet_chanat_mark_fq` (fibers pending on a channel) and `janet_chanat_mark` (values in flight in a channel).
   The loops are regenerated from the source as data (`Gen.GC.ringWalk*` : for-loops with init / comparison / bound / step
   over the terms 0, head, tail, capacity, optionally under one if/else); this file interprets that data and proves that the
   two loop shapes known to be right visit exactly the occupied slots of the ring, head first, for EVERY well-formed queue
   state - contiguous, wrapped, write position at slot 0, empty - and hence (with `Ev/QueueLemmas.lean`) mark exactly the
   abstract content of the queue after every history of janet_q_push / push_head / pop.
   CORE LEAN ONLY. -/
import JanetModel.Gen.GC
import JanetModel.Ev.QueueLemmas

namespace JanetModel.GC.RingMark
open JanetModel.Gen.GC JanetModel.Ev

/-- the three integers of a JanetQueue the walks read -/
structure QS where
  head : Nat
  tail : Nat
  cap : Nat
  deriving DecidableEq, Repr

def evalT (s : QS) : QTerm → Nat
  | .head => s.head
  | .tail => s.tail
  | .cap => s.cap
  | .zero => 0

def holds : QCmp → Nat → Nat → Bool
  | .lt, a, b => decide (a < b)
  | .le, a, b => decide (a ≤ b)
  | .ne, a, b => decide (a ≠ b)

def nextI (s : QS) : QStep → Nat → Nat
  | .inc, i => i + 1
  | .wrapInc, i => if i + 1 < s.cap then i + 1 else 0

/-- `for (i = a; i cmp bound; step) visit(i)`: the indices visited, in order.  `fuel` bounds the number of iterations;
    the theorems below hold for every fuel ≥ capacity, i.e. the loops stop by themselves. -/
def runLoop (s : QS) (l : ForLoop) : Nat → Nat → List Nat
  | 0, _ => []
  | fuel + 1, i => if holds l.cmp i (evalT s l.bound) then i :: runLoop s l fuel (nextI s l.step i) else []

def runLoops (fuel : Nat) (s : QS) : List ForLoop → List Nat
  | [] => []
  | l :: ls => runLoop s l fuel (evalT s l.init) ++ runLoops fuel s ls

def runWalk (fuel : Nat) (s : QS) : RingWalk → List Nat
  | .seq ls => runLoops fuel s ls
  | .ite a c b t e => if holds c (evalT s a) (evalT s b) then runLoops fuel s t else runLoops fuel s e

def WF (s : QS) : Prop := (s.cap = 0 ∧ s.head = 0 ∧ s.tail = 0) ∨ (s.head < s.cap ∧ s.tail < s.cap)
def count (s : QS) : Nat := if s.head > s.tail then s.tail + s.cap - s.head else s.tail - s.head
def slot (s : QS) (i : Nat) : Nat := if s.head + i < s.cap then s.head + i else s.head + i - s.cap
def ringSlots (s : QS) : List Nat := (List.range (count s)).map (slot s)

instance (s : QS) : Decidable (WF s) := by unfold WF; exact inferInstance

/-- `if (head <= tail) for (i = head; i < tail; i++) …  else { for (i = head; i < capacity; i++) …  for (i = 0; i < tail; i++) … }` -/
def twoSegment : RingWalk :=
  .ite .head .le .tail [⟨.head, .lt, .tail, .inc⟩] [⟨.head, .lt, .cap, .inc⟩, ⟨.zero, .lt, .tail, .inc⟩]

/-- `for (i = head; i != tail; i = i + 1 < capacity ? i + 1 : 0) …` (the idiom of janet_channel_has_reader) -/
def wrapLoop : RingWalk := .seq [⟨.head, .ne, .tail, .wrapInc⟩]

/-- the walk is one of the shapes proved right below (anything else - e.g. `i < tail` with the wrapping step, a bound off
    by one, a missing second segment - is rejected) -/
def knownSound (w : RingWalk) : Bool := decide (w = twoSegment) || decide (w = wrapLoop)

theorem runLoop_succ (s : QS) (l : ForLoop) (fuel i : Nat) :
    runLoop s l (fuel + 1) i = if holds l.cmp i (evalT s l.bound) then i :: runLoop s l fuel (nextI s l.step i) else [] := rfl

theorem runLoop_inc_lt (s : QS) (i0 b : QTerm) : ∀ (fuel a : Nat), evalT s b - a ≤ fuel →
    runLoop s ⟨i0, .lt, b, .inc⟩ fuel a = List.range' a (evalT s b - a)
  | 0, a, h => by rw [Nat.le_zero.mp h]; rfl
  | n + 1, a, h => by
    rw [runLoop_succ]
    by_cases hlt : a < evalT s b
    · rw [show evalT s b - a = (evalT s b - (a + 1)) + 1 by omega, List.range'_succ,
        ← runLoop_inc_lt s i0 b n (a + 1) (by omega)]
      exact if_pos (decide_eq_true hlt)
    · rw [show evalT s b - a = 0 by omega]
      exact if_neg fun c => hlt (of_decide_eq_true c)

/-- the three integers as a queue without content: `WF`, `count`, `slot` above are `RingQ.WF`, `RingQ.count`, `RingQ.slot` of it -/
def ring (s : QS) : RingQ Unit := ⟨fun _ => (), s.head, s.tail, s.cap⟩

theorem ringSlots_eq {s : QS} (wf : WF s) :
    ringSlots s = if s.head ≤ s.tail then List.range' s.head (s.tail - s.head)
      else List.range' s.head (s.cap - s.head) ++ List.range' 0 s.tail := RingQ.slots_eq (ring s) wf

theorem twoSegment_visits_ring (s : QS) (wf : WF s) (fuel : Nat) (hf : s.cap ≤ fuel) :
    runWalk fuel s twoSegment = ringSlots s := by
  have hb : s.head ≤ s.cap ∧ s.tail ≤ s.cap := by unfold WF at wf; omega
  rw [ringSlots_eq wf]
  simp only [twoSegment, runWalk, runLoops, List.append_nil]
  by_cases hle : s.head ≤ s.tail
  · rw [if_pos hle]
    exact (if_pos (decide_eq_true hle)).trans
      (runLoop_inc_lt s .head .tail fuel s.head (by show s.tail - s.head ≤ fuel; omega))
  · rw [if_neg hle]
    exact (if_neg fun c => hle (of_decide_eq_true c)).trans (congr
      (congrArg (· ++ ·) (runLoop_inc_lt s .head .cap fuel s.head (by show s.cap - s.head ≤ fuel; omega)))
      (runLoop_inc_lt s .zero .tail fuel 0 (by show s.tail - 0 ≤ fuel; omega)))

/-! the wrapping walk: from slot `k` of the ring it goes on to slot `k + 1`, and stops at slot `count` = the write position -/

theorem count_lt_cap {s : QS} (h1 : s.head < s.cap) (h2 : s.tail < s.cap) : count s < s.cap := RingQ.count_lt (ring s) h1 h2

theorem slot_count {s : QS} (h1 : s.head < s.cap) (h2 : s.tail < s.cap) : slot s (count s) = s.tail :=
  RingQ.slot_count (ring s) h1 h2

theorem slot_ne_tail {s : QS} (h1 : s.head < s.cap) (h2 : s.tail < s.cap) {k : Nat} (hk : k < count s) : slot s k ≠ s.tail :=
  fun e => Nat.ne_of_lt hk (RingQ.count_eq_of_slot (ring s) h1 (Nat.lt_trans hk (count_lt_cap h1 h2)) e).symm

theorem nextI_slot {s : QS} (h1 : s.head < s.cap) {k : Nat} (hk : k + 1 < s.cap) :
    nextI s .wrapInc (slot s k) = slot s (k + 1) := RingQ.slot_succ (ring s) h1 (Nat.lt_of_succ_lt hk)

theorem runLoop_ne_wrap (s : QS) (h1 : s.head < s.cap) (h2 : s.tail < s.cap) (i0 : QTerm) :
    ∀ (fuel k : Nat), k ≤ count s → count s - k ≤ fuel →
      runLoop s ⟨i0, .ne, .tail, .wrapInc⟩ fuel (slot s k) = (List.range' k (count s - k)).map (slot s)
  | 0, k, _, hf => by rw [Nat.le_zero.mp hf]; rfl
  | n + 1, k, hk, hf => by
    rw [runLoop_succ]
    by_cases hend : k = count s
    · subst hend
      rw [Nat.sub_self]
      exact if_neg fun c => absurd (slot_count h1 h2) (of_decide_eq_true c)
    · have hlt : k < count s := by omega
      have hc := count_lt_cap h1 h2
      rw [show count s - k = (count s - (k + 1)) + 1 by omega, List.range'_succ, List.map_cons,
        ← runLoop_ne_wrap s h1 h2 i0 n (k + 1) hlt (by omega), ← nextI_slot h1 (by omega : k + 1 < s.cap)]
      exact if_pos (decide_eq_true (slot_ne_tail h1 h2 hlt))

theorem wrapLoop_visits_ring (s : QS) (wf : WF s) (fuel : Nat) (hf : s.cap ≤ fuel) :
    runWalk fuel s wrapLoop = ringSlots s := by
  simp only [wrapLoop, runWalk, runLoops, List.append_nil, evalT, ringSlots, List.range_eq_range']
  rcases wf with ⟨a, b, c⟩ | ⟨a, b⟩
  · -- no storage yet: the loop condition `0 != 0` fails at once
    have hc : count s = 0 := by rw [count, b, c]; rfl
    rw [hc]
    cases fuel with
    | zero => rfl
    | succ n => exact if_neg fun c' => absurd (b.trans c.symm) (of_decide_eq_true c')
  · have := runLoop_ne_wrap s a b .head fuel 0 (Nat.zero_le _) (by have := count_lt_cap a b; omega)
    rwa [show slot s 0 = s.head from RingQ.slot_zero (ring s) a] at this

theorem sound_walk_visits_ring (w : RingWalk) (hw : knownSound w = true) (s : QS) (wf : WF s) (fuel : Nat)
    (hf : s.cap ≤ fuel) : runWalk fuel s w = ringSlots s := by
  unfold knownSound at hw
  rcases Bool.or_eq_true _ _ |>.mp hw with h | h
  · rw [of_decide_eq_true h]; exact twoSegment_visits_ring s wf fuel hf
  · rw [of_decide_eq_true h]; exact wrapLoop_visits_ring s wf fuel hf

def qs {α : Type} (q : RingQ α) : QS := ⟨q.head, q.tail, q.cap⟩

/-- what the walk passes to janet_mark -/
def marked {α : Type} (fuel : Nat) (w : RingWalk) (q : RingQ α) : List α := (runWalk fuel (qs q) w).map q.data

theorem WF_qs {α : Type} (q : RingQ α) : WF (qs q) ↔ q.WF := Iff.rfl
theorem count_qs {α : Type} (q : RingQ α) : count (qs q) = q.count := rfl
theorem slot_qs {α : Type} (q : RingQ α) : slot (qs q) = q.slot := rfl

theorem marked_eq_toList {α : Type} (w : RingWalk) (hw : knownSound w = true) (q : RingQ α) (h : q.WF) (fuel : Nat)
    (hf : q.cap ≤ fuel) : marked fuel w q = q.toList := by
  rw [marked, sound_walk_visits_ring w hw (qs q) ((WF_qs q).mpr h) fuel hf, RingQ.toList_eq q h, ringSlots, List.map_map,
    count_qs, slot_qs]
  rfl

/-- the operations ev.c performs on a queue -/
inductive QOp (α : Type) where
  | push (x : α)
  | pushHead (x : α)
  | pop

/-- one operation; `none` = the queue is at JANET_MAX_Q_CAPACITY (janet_q_push returns 1, callers raise an error);
    a pop from an empty queue changes nothing (returns 1) -/
def stepQ {α : Type} (maxCap : Nat) (q : RingQ α) : QOp α → Option (RingQ α)
  | .push x => q.push maxCap x
  | .pushHead x => q.pushHead maxCap x
  | .pop => match q.pop with
    | none => some q
    | some (_, q') => some q'

def runQ {α : Type} (maxCap : Nat) : RingQ α → List (QOp α) → Option (RingQ α)
  | q, [] => some q
  | q, op :: ops => match stepQ maxCap q op with
    | none => none
    | some q' => runQ maxCap q' ops

def absStep {α : Type} (l : List α) : QOp α → List α
  | .push x => l ++ [x]
  | .pushHead x => x :: l
  | .pop => l.tail

theorem stepQ_spec {α : Type} (maxCap : Nat) (q q' : RingQ α) (h : q.WF) (op : QOp α) (hs : stepQ maxCap q op = some q') :
    q'.WF ∧ q'.toList = absStep q.toList op := by
  cases op with
  | push x => have := RingQ.push_spec maxCap q h x q' hs; exact ⟨this.2, this.1⟩
  | pushHead x => have := RingQ.pushHead_spec maxCap q h x q' hs; exact ⟨this.2, this.1⟩
  | pop =>
    unfold stepQ at hs
    cases hp : q.pop with
    | none =>
      rw [hp] at hs
      cases hs
      refine ⟨h, ?_⟩
      rw [(RingQ.pop_none q h).mp hp]; rfl
    | some r =>
      obtain ⟨x, q2⟩ := r
      rw [hp] at hs
      cases hs
      have := RingQ.pop_some q h x q' hp
      refine ⟨this.2, ?_⟩
      rw [this.1]; rfl

theorem runQ_spec {α : Type} (maxCap : Nat) : ∀ (ops : List (QOp α)) (q q' : RingQ α), q.WF → runQ maxCap q ops = some q' →
    q'.WF ∧ q'.toList = ops.foldl absStep q.toList := by
  intro ops
  induction ops with
  | nil => intro q q' h hr; cases hr; exact ⟨h, rfl⟩
  | cons op ops ih =>
    intro q q' h hr
    unfold runQ at hr
    cases hs : stepQ maxCap q op with
    | none => rw [hs] at hr; cases hr
    | some q1 =>
      rw [hs] at hr
      have s1 := stepQ_spec maxCap q q1 h op hs
      have := ih q1 q' s1.1 hr
      refine ⟨this.1, ?_⟩
      rw [this.2, s1.2]; rfl

theorem init_wf {α : Type} (d : α) : (RingQ.init d).WF := Or.inl ⟨rfl, rfl, rfl⟩
theorem init_toList {α : Type} (d : α) : (RingQ.init d).toList = [] := rfl

end JanetModel.GC.RingMark
