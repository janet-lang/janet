/-
C01 — executable model of gc.c's root-set protocol, collection suspension and the collection decision.
Core Lean only (linked into jm_c01).

  janet_gc_idequals                 `idEq`        (types listed in Gen.GC.idequalsAlwaysTypes: always 1; else pointer compare)
  janet_gcroot                      `gcroot`      (grow to rootGrowMul * newcount when full, then push)
  janet_gcunroot                    `gcunroot`    (ascending scan, FIRST id-equal slot is overwritten with the last root)
  janet_gcunrootall                 `gcunrootall` (same swap; `rescan` = does the loop look again at the refilled slot)
  janet_gclock / janet_gcunlock     `gclock` / `gcunlock`   (`return gc_suspend++` / `gc_suspend = handle`)
  janet_gcpressure, janet_gcalloc   `gcpressure` / `gcallocAcct`
  maybe_collect (vm.c)              `shouldCollect`
  janet_collect                     `collectVM`   (early-out on gc_suspend; gc_mark_phase; interval heuristic; mark +
                                                   sweep of the heap model with the explicit roots; next_collection := 0;
                                                   scratch memory released)
  janet_smalloc / janet_sfree / janet_free_all_scratch      `smalloc` / `sfree` / `freeAllScratch`

The roots array is a `List RVal` = `janet_vm.roots[0 .. root_count)`, index 0 first.
-/
import JanetModel.GC.Model

namespace JanetModel.GC

/-- a Janet value as far as `janet_gc_idequals` and `janet_mark` are concerned: its JanetType and its payload (the
pointer — here the id of the heap block — for reference types; whatever bits for immediates) -/
structure RVal where
  ty : Nat
  payload : Nat
  deriving Repr, DecidableEq

/-- the `case`s of janet_gc_idequals that `return 1` (regenerated list) -/
def alwaysEq (ty : Nat) : Bool := Gen.GC.idequalsAlwaysTypes.contains ty

/-- janet_gc_idequals -/
def idEq (a b : RVal) : Bool :=
  if a.ty != b.ty then false
  else if alwaysEq a.ty then true
  else a.payload == b.payload

/-- the class representative of a value under `idEq` -/
def RVal.norm (a : RVal) : RVal :=
  if alwaysEq a.ty then ⟨a.ty, 0⟩ else a

/-- value types `janet_mark` follows into the heap (the `case`s of its switch, by number) -/
def isRefTy (ty : Nat) : Bool :=
  open Gen.GC in
  [tyString, tyKeyword, tySymbol, tyFunction, tyArray, tyTable, tyStruct, tyTuple, tyBuffer, tyFiber, tyAbstract].contains ty

/-- `janet_mark(roots[i])`: the edge a root value contributes -/
def RVal.edge (a : RVal) : List Edge := if isRefTy a.ty then [⟨true, a.payload, false⟩] else []

structure VM where
  roots : List RVal := []
  rootCap : Nat := 0
  gcSuspend : Int := 0
  markPhase : Bool := false
  nextCollection : Nat := 0
  gcInterval : Nat := Gen.GC.initialGcInterval
  blockCount : Nat := 0
  /-- janet_vm.scratch_mem[0 .. scratch_len): ids of scratch allocations -/
  scratch : List Nat := []
  /-- ghost: number of collections that actually ran -/
  collections : Nat := 0
  deriving Repr

/-! ### roots -/

def gcroot (vm : VM) (x : RVal) : VM :=
  let newcount := vm.roots.length + 1
  { vm with
    rootCap := if newcount > vm.rootCap then Gen.GC.rootGrowMul * newcount else vm.rootCap,
    roots := vm.roots ++ [x] }

/-- `*v = janet_vm.roots[--janet_vm.root_count]` where `v` points at the head of `v :: rest` = roots[v .. root_count) -/
def swapLast (rest : List RVal) : List RVal :=
  match rest.getLast? with
  | none => []                              -- v was the last root: it overwrites itself and is cut off
  | some last => last :: rest.dropLast

/-- the scan loop of janet_gcunroot over roots[v .. root_count): `none` = fell off the end (return 0) -/
def unrootGo (x : RVal) : List RVal → Option (List RVal)
  | [] => none
  | v :: rest => if idEq x v then some (swapLast rest) else (unrootGo x rest).map (v :: ·)

def gcunroot (vm : VM) (x : RVal) : VM × Nat :=
  match unrootGo x vm.roots with
  | some rs => ({ vm with roots := rs }, 1)
  | none => (vm, 0)

/-- the loop of janet_gcunrootall over roots[v .. vtop); fuel ≥ length suffices (`unrootAllGo_spec`) -/
def unrootAllGo (rescan : Bool) (x : RVal) : Nat → List RVal → List RVal × Bool
  | 0, l => (l, false)
  | _ + 1, [] => ([], false)
  | fuel + 1, v :: rest =>
    if idEq x v then
      match rest.getLast? with
      | none => ([], true)
      | some last =>
        if rescan then ((unrootAllGo rescan x fuel (last :: rest.dropLast)).1, true)
        else (last :: (unrootAllGo rescan x fuel rest.dropLast).1, true)       -- `v++` steps over the refilled slot
    else
      let r := unrootAllGo rescan x fuel rest
      (v :: r.1, r.2)

def gcunrootallWith (rescan : Bool) (vm : VM) (x : RVal) : VM × Nat :=
  let r := unrootAllGo rescan x (vm.roots.length + 1) vm.roots
  ({ vm with roots := r.1 }, if r.2 then 1 else 0)

/-- janet_gcunrootall as it is in the current source -/
def gcunrootall (vm : VM) (x : RVal) : VM × Nat := gcunrootallWith Gen.GC.unrootallRescans vm x

/-! ### suspension, pressure, decision -/

/-- `return janet_vm.gc_suspend++` -/
def gclock (vm : VM) : VM × Int := ({ vm with gcSuspend := vm.gcSuspend + 1 }, vm.gcSuspend)
/-- `janet_vm.gc_suspend = handle` -/
def gcunlock (vm : VM) (handle : Int) : VM := { vm with gcSuspend := handle }

def gcpressure (vm : VM) (s : Nat) : VM := { vm with nextCollection := vm.nextCollection + s }
/-- the accounting part of janet_gcalloc -/
def gcallocAcct (vm : VM) (size : Nat) : VM :=
  { vm with nextCollection := vm.nextCollection + size, blockCount := vm.blockCount + 1 }

/-- maybe_collect: `forced` is the verification safepoint hook's answer -/
def shouldCollect (vm : VM) (forced : Bool) : Bool :=
  forced || (if Gen.GC.maybeCollectGe then decide (vm.gcInterval ≤ vm.nextCollection) else decide (vm.gcInterval < vm.nextCollection))

/-- does a call of janet_collect get past `if (janet_vm.gc_suspend) return;` -/
def collectEnters (vm : VM) : Bool := vm.gcSuspend == 0

/-! ### scratch memory -/

def smalloc (vm : VM) (id : Nat) : VM := { vm with scratch := vm.scratch ++ [id] }

/-- janet_sfree: search from the top (`for (i = scratch_len - 1; ; i--)`), overwrite the slot with the last entry, shrink;
`none` = "invalid janet_sfree" (the process exits) -/
def sfreeGo (id : Nat) (l : List Nat) : Option (List Nat) :=
  match (List.range l.length).reverse.find? (fun i => l[i]? == some id) with
  | none => none
  | some i => some ((l.set i (l.getLast?.getD 0)).dropLast)

def sfree (vm : VM) (id : Nat) : Option VM := (sfreeGo id vm.scratch).map (fun s => { vm with scratch := s })
def freeAllScratch (vm : VM) : VM := { vm with scratch := [] }

/-! ### janet_collect on a heap whose explicit roots are the roots array -/

/-- the heap the collector sees: `h.roots` (root fiber, event-loop roots) followed by `janet_vm.roots` -/
def heapWithRoots (h : Heap) (vm : VM) : Heap := { h with roots := h.roots ++ vm.roots.flatMap RVal.edge }

def liveCount (h : Heap) : Nat := ((List.range h.size).filter (fun i => (h.get i).isSome)).length

/-- janet_collect.  `h.roots` holds the non-array roots; the result keeps them. -/
def collectVM (D : Nat) (h : Heap) (vm : VM) : Heap × VM :=
  if vm.gcSuspend != 0 then (h, vm)                                   -- if (janet_vm.gc_suspend) return;
  else
    let interval := if vm.blockCount * Gen.GC.intervalMul > vm.gcInterval then vm.blockCount * Gen.GC.gcObjectSize
                    else vm.gcInterval
    let hv := heapWithRoots h vm
    let h' := { collect D hv with roots := h.roots }
    let freed := liveCount hv - liveCount h'
    (h', { vm with gcInterval := interval, markPhase := false, nextCollection := 0, blockCount := vm.blockCount - freed,
                   scratch := [], collections := vm.collections + 1 })

/-- maybe_collect() -/
def maybeCollect (D : Nat) (h : Heap) (vm : VM) (forced : Bool) : Heap × VM :=
  if shouldCollect vm forced then collectVM D h vm else (h, vm)

/-! ### op histories (what harness/C01/roots.c replays against the real functions) -/

inductive ROp where
  | root (x : RVal)
  | unroot (x : RVal)
  | unrootall (x : RVal)
  | lock
  | unlock (handle : Int)
  | pressure (n : Nat)
  | newObj (o : Obj) (size : Nat)     -- janet_gcalloc of a block (held only in a C local until rooted)
  | collect
  | safepoint (forced : Bool)
  | smalloc (id : Nat)
  | sfree (id : Nat)
  | setInterval (n : Nat)            -- corelib.c janet_core_gcsetinterval: janet_vm.gc_interval = s
  deriving Repr

def heapAdd (h : Heap) (o : Obj) : Heap :=
  { h with size := h.size + 1, obj := fun j => if j = h.size then some o else h.get j }

/-- one op; the `Int` is the C return value (0 where the function returns void) -/
def stepOp (D : Nat) (s : Heap × VM) : ROp → (Heap × VM) × Int
  | .root x => ((s.1, gcroot s.2 x), 0)
  | .unroot x => let r := gcunroot s.2 x; ((s.1, r.1), r.2)
  | .unrootall x => let r := gcunrootall s.2 x; ((s.1, r.1), r.2)
  | .lock => let r := gclock s.2; ((s.1, r.1), r.2)
  | .unlock hd => ((s.1, gcunlock s.2 hd), 0)
  | .pressure n => ((s.1, gcpressure s.2 n), 0)
  | .newObj o size => ((heapAdd s.1 o, gcallocAcct s.2 size), s.1.size)
  | .collect => (collectVM D s.1 s.2, 0)
  | .safepoint f => (maybeCollect D s.1 s.2 f, 0)
  | .smalloc id => ((s.1, smalloc s.2 id), 0)
  | .sfree id => match sfree s.2 id with
    | some vm => ((s.1, vm), 0)
    | none => (s, -1)
  | .setInterval n => ((s.1, { s.2 with gcInterval := n }), 0)

def runOps (D : Nat) (s : Heap × VM) (ops : List ROp) : Heap × VM := ops.foldl (fun s op => (stepOp D s op).1) s

end JanetModel.GC
