/-
C01 — correctness of the model's mark phase: invariants of `markObj` / `markEdge` (the drain loop is in MarkCorrect.lean).
-/
import JanetModel.GC.Reach

namespace JanetModel.GC
open Std

theorem get_lt {h : Heap} {i : Id} {o : Obj} (hx : h.get i = some o) : i < h.size :=
  Decidable.by_contra fun c => by rw [Heap.get, if_neg c] at hx; cases hx

theorem sum_map_le {l : List Nat} {f g : Nat → Nat} (hle : ∀ i ∈ l, g i ≤ f i) : (l.map g).sum ≤ (l.map f).sum := by
  induction l with
  | nil => simp
  | cons a l ih =>
    simp only [List.map_cons, List.sum_cons]
    have h1 := hle a (by simp)
    have h2 := ih (fun i hi => hle i (by simp [hi]))
    omega

theorem sum_map_drop {l : List Nat} {f g : Nat → Nat} (hle : ∀ i ∈ l, g i ≤ f i) {x : Nat} (hx : x ∈ l) {c : Nat}
    (hc : g x + c ≤ f x) : (l.map g).sum + c ≤ (l.map f).sum := by
  induction l with
  | nil => simp at hx
  | cons a l ih =>
    simp only [List.map_cons, List.sum_cons]
    have h1 := hle a (by simp)
    have h2 : (l.map g).sum ≤ (l.map f).sum := sum_map_le (fun i hi => hle i (by simp [hi]))
    rcases List.mem_cons.mp hx with hxa | hxl
    · subst hxa; omega
    · have h3 := ih (fun i hi => hle i (by simp [hi])) hxl
      omega

theorem markObj_zero (h : Heap) (d x : Nat) (s : MState) : markObj h 0 d x s = { s with stuck := true } := rfl

theorem markObj_succ (h : Heap) (fuel d x : Nat) (s : MState) :
    markObj h (fuel + 1) d x s =
      match h.get x with
      | none => s
      | some o =>
        if s.marked.contains x then s
        else (outEdges o).foldl (markEdge h fuel d) { s with marked := s.marked.insert x } := rfl

theorem weight_mono (h : Heap) {s s' : MState} (hm : ∀ i, s.marked.contains i = true → s'.marked.contains i = true) :
    weight h s' ≤ weight h s := by
  unfold weight
  apply sum_map_le
  intro i _
  by_cases c : s.marked.contains i = true
  · simp [c, hm i c]
  · by_cases c' : s'.marked.contains i = true <;> simp [c, c']

theorem weight_insert (h : Heap) (s : MState) (x : Nat) (o : Obj) (hx : h.get x = some o)
    (hnm : s.marked.contains x = false) (sp : List Id) (st : Bool) :
    weight h { marked := s.marked.insert x, spill := sp, stuck := st } + ((outEdges o).length + 1) ≤ weight h s := by
  unfold weight
  apply sum_map_drop (x := x)
  · intro i _
    simp only [HashSet.contains_insert]
    by_cases c : s.marked.contains i = true
    · simp [c]
    · by_cases c2 : (x == i) = true <;> simp [c, c2]
  · exact List.mem_range.mpr (get_lt hx)
  · simp [HashSet.contains_insert, hnm, objWeight, hx]

/-- `s'` is a legal successor of `s` in a mark phase over `h`, everything new being inside the edge-closed set `R` -/
structure Spec (h : Heap) (R : Id → Prop) (s s' : MState) : Prop where
  stuck : s'.stuck = false
  mono : ∀ i, s.marked.contains i = true → s'.marked.contains i = true
  spillMono : ∀ i, i ∈ s.spill → i ∈ s'.spill
  closed : ∀ i, s'.marked.contains i = true → s.marked.contains i = false → ∀ o, h.get i = some o →
    ∀ e ∈ outEdges o, (h.get e.tgt).isSome → s'.marked.contains e.tgt = true ∨ e.tgt ∈ s'.spill
  sound : ∀ i, s'.marked.contains i = true → s.marked.contains i = true ∨ (R i ∧ (h.get i).isSome)
  soundSpill : ∀ i, i ∈ s'.spill → i ∈ s.spill ∨ ((h.get i).isSome → R i)

theorem Spec.refl (h : Heap) (R : Id → Prop) (s : MState) (hs : s.stuck = false) : Spec h R s s where
  stuck := hs
  mono := fun _ hi => hi
  spillMono := fun _ hi => hi
  closed := fun i h1 h2 => by simp [h1] at h2
  sound := fun _ hi => Or.inl hi
  soundSpill := fun _ hi => Or.inl hi

theorem Spec.wt {h : Heap} {R : Id → Prop} {s s' : MState} (sp : Spec h R s s') : weight h s' ≤ weight h s :=
  weight_mono h sp.mono

theorem Spec.trans {h : Heap} {R : Id → Prop} {s s' s'' : MState} (a : Spec h R s s') (b : Spec h R s' s'') :
    Spec h R s s'' where
  stuck := b.stuck
  mono := fun i hi => b.mono i (a.mono i hi)
  spillMono := fun i hi => b.spillMono i (a.spillMono i hi)
  closed := by
    intro i h2 h0 o ho e he hs
    by_cases c : s'.marked.contains i = true
    · rcases a.closed i c h0 o ho e he hs with m | m
      · exact Or.inl (b.mono _ m)
      · exact Or.inr (b.spillMono _ m)
    · exact b.closed i h2 (by simpa using c) o ho e he hs
  sound := by
    intro i h2
    rcases b.sound i h2 with m | m
    · exact a.sound i m
    · exact Or.inr m
  soundSpill := by
    intro i h2
    rcases b.soundSpill i h2 with m | m
    · exact a.soundSpill i m
    · exact Or.inr m

/-- potential that bounds the drain loop: pending spills + weight of the unmarked part -/
def Phi (h : Heap) (s : MState) : Nat := s.spill.length + weight h s

/-- what `markObj` guarantees at one fuel level; the bound on `Phi` is carried along because the drain loop's fuel rests on it -/
def ObjSpec (h : Heap) (R : Id → Prop) (fuel : Nat) : Prop :=
  ∀ (d x : Nat) (s : MState), s.stuck = false → weight h s < fuel → ((h.get x).isSome → R x) →
    Spec h R s (markObj h fuel d x s) ∧ ((h.get x).isSome → (markObj h fuel d x s).marked.contains x = true) ∧
      Phi h (markObj h fuel d x s) ≤ Phi h s

/-- unless a depth-checked edge meets an exhausted counter, marking along the edge is `markObj` on its target -/
theorem markEdge_descends (h : Heap) (fuel : Nat) {d : Nat} (s : MState) {e : Edge} (hc : e.dec = false ∨ 1 ≤ d) :
    ∃ d', markEdge h fuel d s e = markObj h fuel d' e.tgt s := by
  unfold markEdge
  by_cases hdec : e.dec = true
  · have hd : d ≠ 0 := fun c => hc.elim (fun c' => Bool.noConfusion (hdec.symm.trans c')) (by omega)
    exact ⟨d - 1, by rw [if_pos hdec, if_neg hd]⟩
  · exact ⟨_, by rw [if_neg hdec]⟩

theorem markEdge_spec {h : Heap} {R : Id → Prop} {fuel : Nat} (ih : ObjSpec h R fuel) (d : Nat) (s : MState) (e : Edge)
    (hs : s.stuck = false) (hw : weight h s < fuel) (hr : (h.get e.tgt).isSome → R e.tgt) :
    Spec h R s (markEdge h fuel d s e) ∧
      ((h.get e.tgt).isSome → (markEdge h fuel d s e).marked.contains e.tgt = true ∨ e.tgt ∈ (markEdge h fuel d s e).spill) ∧
      Phi h (markEdge h fuel d s e) ≤ Phi h s + 1 := by
  by_cases hc : e.dec = false ∨ 1 ≤ d
  · obtain ⟨d', hd'⟩ := markEdge_descends h fuel s hc
    obtain ⟨sp, mk, ph⟩ := ih d' e.tgt s hs hw hr
    rw [hd']
    exact ⟨sp, fun c => Or.inl (mk c), by omega⟩
  · -- a depth-checked edge at counter 0: the target is put on the spill list
    have hdec : e.dec = true := (Bool.not_eq_false _).mp fun he => hc (Or.inl he)
    have hd : d = 0 := by omega
    unfold markEdge
    rw [if_pos hdec, if_pos hd]
    refine ⟨?_, fun _ => Or.inr List.mem_cons_self, ?_⟩
    · exact {
        stuck := hs
        mono := fun _ hi => hi
        spillMono := fun i hi => List.mem_cons_of_mem _ hi
        closed := fun i h1 h2 => by simp [h1] at h2
        sound := fun _ hi => Or.inl hi
        soundSpill := fun i hi => by
          rcases List.mem_cons.mp hi with c | c
          · subst c; exact Or.inr hr
          · exact Or.inl c }
    · have : weight h { s with spill := e.tgt :: s.spill } = weight h s := rfl
      simp only [Phi, List.length_cons, this]; omega

theorem fold_spec {h : Heap} {R : Id → Prop} {fuel : Nat} (ih : ObjSpec h R fuel) (d : Nat) (es : List Edge) :
    ∀ (s : MState), s.stuck = false → weight h s < fuel → (∀ e ∈ es, (h.get e.tgt).isSome → R e.tgt) →
      Spec h R s (es.foldl (markEdge h fuel d) s) ∧
      (∀ e ∈ es, (h.get e.tgt).isSome →
        (es.foldl (markEdge h fuel d) s).marked.contains e.tgt = true ∨ e.tgt ∈ (es.foldl (markEdge h fuel d) s).spill) ∧
      Phi h (es.foldl (markEdge h fuel d) s) ≤ Phi h s + es.length := by
  induction es with
  | nil =>
    intro s hs _ _
    exact ⟨Spec.refl h R s hs, fun _ he => (nomatch he), Nat.le_refl _⟩
  | cons a es ihl =>
    intro s hs hw hr
    simp only [List.foldl_cons]
    obtain ⟨sp1, ms1, ph1⟩ := markEdge_spec ih d s a hs hw (hr a (by simp))
    have hw1 : weight h (markEdge h fuel d s a) < fuel := Nat.lt_of_le_of_lt sp1.wt hw
    obtain ⟨sp2, ms2, ph2⟩ := ihl (markEdge h fuel d s a) sp1.stuck hw1 (fun e he => hr e (by simp [he]))
    refine ⟨sp1.trans sp2, ?_, ?_⟩
    · intro e he hsome
      rcases List.mem_cons.mp he with c | c
      · subst c
        rcases ms1 hsome with m | m
        · exact Or.inl (sp2.mono _ m)
        · exact Or.inr (sp2.spillMono _ m)
      · exact ms2 e c hsome
    · simp only [List.length_cons]; omega

theorem markObj_spec (h : Heap) (R : Id → Prop)
    (hR : ∀ i o e, R i → h.get i = some o → e ∈ outEdges o → (h.get e.tgt).isSome → R e.tgt) :
    ∀ fuel, ObjSpec h R fuel := by
  intro fuel
  induction fuel with
  | zero => intro d x s _ hw _; omega
  | succ fuel ih =>
    intro d x s hs hw hr
    rw [markObj_succ]
    cases hx : h.get x with
    | none =>
      simp only
      exact ⟨Spec.refl h R s hs, fun c => by simp at c, Nat.le_refl _⟩
    | some o =>
      simp only
      by_cases hm : s.marked.contains x = true
      · rw [if_pos hm]
        exact ⟨Spec.refl h R s hs, fun _ => hm, Nat.le_refl _⟩
      · rw [if_neg hm]
        have hm' : s.marked.contains x = false := by simpa using hm
        have hw1 := weight_insert h s x o hx hm' s.spill s.stuck
        have hRx : R x := hr (by simp [hx])
        obtain ⟨sp, ms, ph⟩ := fold_spec ih d (outEdges o) { s with marked := s.marked.insert x } hs (by omega)
          (fun e he hsome => hR x o e hRx hx he hsome)
        have hx1 : ({ s with marked := s.marked.insert x } : MState).marked.contains x = true := by
          simp [HashSet.contains_insert]
        refine ⟨?_, fun _ => sp.mono x hx1, ?_⟩
        · exact {
            stuck := sp.stuck
            mono := fun i hi => sp.mono i (by simp [HashSet.contains_insert, hi])
            spillMono := fun i hi => sp.spillMono i hi
            closed := by
              intro i h2 h0 o' ho' e he hsome
              by_cases hix : i = x
              · subst hix
                rw [hx] at ho'
                cases ho'
                exact ms e he hsome
              · refine sp.closed i h2 ?_ o' ho' e he hsome
                have : (x == i) = false := by simp; exact fun c => hix c.symm
                simp [HashSet.contains_insert, this, h0]
            sound := by
              intro i h2
              rcases sp.sound i h2 with m | m
              · simp only [HashSet.contains_insert, Bool.or_eq_true, beq_iff_eq] at m
                rcases m with m | m
                · subst m; exact Or.inr ⟨hRx, by simp [hx]⟩
                · exact Or.inl m
              · exact Or.inr m
            soundSpill := fun i hi => sp.soundSpill i hi }
        · simp only [Phi] at ph hw1 ⊢
          have : ({ s with marked := s.marked.insert x } : MState).spill = s.spill := rfl
          rw [this] at ph
          omega

end JanetModel.GC
