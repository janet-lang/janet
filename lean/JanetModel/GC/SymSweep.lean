/- The sweep's side effect OUTSIDE the heap graph: for every symbol / keyword block it frees, `janet_deinit_block` calls
   `janet_symbol_deinit` (symcache.c), which removes the symbol from the interning cache `janet_vm.cache`.
   "Collection is transparent" includes this: afterwards the cache must still find every surviving symbol from its bytes
   (otherwise the next `(keyword name)` / parse of that name interns a second object and identity of a reachable keyword
   depends on the schedule), and must not mention freed memory.

   This file composes the collector model (`GC/Model.lean`: mark + sweep of the block lists) with the symbol-cache model of
   `Value/SymCache.lean` (open addressing with tombstones, the probe order of janet_symcache_findmem incl. the wrap from the
   last bucket to bucket 0 and the move of a found entry into the first tombstone, janet_symbol_deinit) and proves the
   invariant that ties the two together across a collection, for every heap, cache state, depth limit and order of the
   block list.  (The cache model and its lemmas belong to C03; nothing is restated here - the statements of this file are about the
   composition with `collect`.) -/
import JanetModel.GC.Collect
import JanetModel.Value.SymCacheLemmas

namespace JanetModel.GC.SymSweep
open JanetModel.GC JanetModel.Value.SymCache Std

/-- bytes of the symbol / keyword blocks (`none`: the block is not a symbol) -/
abbrev Names := Id → Option (List UInt8)

/-- the part of `janet_sweep` that touches the cache: walking the block list in its order, every block that is a symbol and
    is not marked is handed to `janet_symbol_deinit` -/
def sweepCache (m : HashSet Nat) (names : Names) : List Id → Cache → Cache
  | [], c => c
  | i :: is, c =>
    match names i with
    | some b => if m.contains i then sweepCache m names is c else sweepCache m names is (deinit c b)
    | none => sweepCache m names is c

structure SymVM where
  heap : Heap
  names : Names
  cache : Cache

/-- `janet_collect` on both: mark, sweep the block lists, and - during the sweep - deinit the freed symbols.
    `order` = the order in which the blocks are met on `janet_vm.blocks`. -/
def collectSym (D : Nat) (order : List Id) (s : SymVM) : SymVM :=
  { heap := collect D s.heap, names := s.names, cache := sweepCache (mark D s.heap).marked s.names order s.cache }

/-- the cache and the heap agree: the cache holds exactly the existing symbol blocks, each under its own bytes at its own
    address (`janet_symbol` puts every symbol it allocates into the cache; only `janet_symbol_deinit` takes one out) -/
def Tied (h : Heap) (names : Names) (c : Cache) : Prop :=
  ∀ i b, Live c.slots i b ↔ (names i = some b ∧ (h.get i).isSome = true)

theorem live_ptr_unique {c : Cache} (h : CInvC c) {i j : Nat} {b : List UInt8} (hi : Live c.slots i b) (hj : Live c.slots j b) :
    i = j := by
  obtain ⟨y1, h1⟩ := hi
  obtain ⟨y2, h2⟩ := hj
  have := h.inv.nodup y1 y2 i j b h1 h2
  subst this
  rw [h1] at h2
  cases h2; rfl

theorem sweepCache_spec (m : HashSet Nat) (names : Names) : ∀ (order : List Id) (c : Cache), CInvC c →
    CInvC (sweepCache m names order c) ∧
    ∀ q x, Live (sweepCache m names order c).slots q x ↔
      (Live c.slots q x ∧ ¬ ∃ i, i ∈ order ∧ names i = some x ∧ m.contains i = false) := by
  intro order
  induction order with
  | nil => intro c h; exact ⟨h, fun q x => ⟨fun hl => ⟨hl, fun ⟨_, hi, _⟩ => by cases hi⟩, fun hl => hl.1⟩⟩
  | cons i is ih =>
    intro c h
    unfold sweepCache
    -- block `i` adds its bytes to the removed ones exactly when it is an unmarked symbol; that is when `deinit` runs
    cases hn : names i with
    | none =>
      obtain ⟨h1, h2⟩ := ih c h
      exact ⟨h1, fun q x => by simp [h2, hn]⟩
    | some b =>
      by_cases hm : m.contains i = true
      · obtain ⟨h1, h2⟩ := ih c h
        simp only [if_pos hm]
        exact ⟨h1, fun q x => by simp [h2, hn, HashSet.mem_iff_contains.mpr hm]⟩
      · obtain ⟨h1, h2⟩ := ih (deinit c b) (deinit_cnt h b)
        simp only [if_neg hm]
        exact ⟨h1, fun q x => by simp [h2, (deinit_spec h.toCInv b).2, hn, mt HashSet.mem_iff_contains.mp hm, and_assoc, @eq_comm _ b x]⟩

theorem collectSym_tied (D : Nat) (order : List Id) (s : SymVM) (hc : CInvC s.cache) (ht : Tied s.heap s.names s.cache)
    (hall : ∀ i, (s.heap.get i).isSome = true → i ∈ order) (hex : ∀ i, i ∈ order → (s.heap.get i).isSome = true) :
    CInvC (collectSym D order s).cache ∧ Tied (collectSym D order s).heap (collectSym D order s).names (collectSym D order s).cache := by
  obtain ⟨h1, h2⟩ := sweepCache_spec (mark D s.heap).marked s.names order s.cache hc
  refine ⟨h1, ?_⟩
  intro q x
  show Live (sweepCache (mark D s.heap).marked s.names order s.cache).slots q x ↔ (s.names q = some x ∧ ((collect D s.heap).get q).isSome = true)
  rw [h2 q x, ht q x, collect_isSome, Bool.and_eq_true]
  constructor
  · rintro ⟨⟨hn, hs⟩, hno⟩
    exact ⟨hn, hs, Classical.byContradiction fun hm => hno ⟨q, hall q hs, hn, (Bool.not_eq_true _).mp hm⟩⟩
  · rintro ⟨hn, hs, hm⟩
    refine ⟨⟨hn, hs⟩, ?_⟩
    rintro ⟨j, hj, hnj, hmj⟩
    -- j is an existing symbol block with the same bytes: it is in the cache, so it is q itself - which is marked
    have := live_ptr_unique hc ((ht j x).mpr ⟨hnj, hex j hj⟩) ((ht q x).mpr ⟨hn, hs⟩)
    subst this
    rw [hm] at hmj; cases hmj

theorem intern_after_collect (D : Nat) (hD : 1 ≤ D) (order : List Id) (s : SymVM) (hc : CInvC s.cache)
    (ht : Tied s.heap s.names s.cache)
    (hall : ∀ i, (s.heap.get i).isSome = true → i ∈ order) (hex : ∀ i, i ∈ order → (s.heap.get i).isSome = true)
    (i : Id) (b : List UInt8) (hn : s.names i = some b) (r : Reachable s.heap i) :
    (∃ c', intern s.cache b = some (c', i)) ∧ (∃ c', intern (collectSym D order s).cache b = some (c', i)) := by
  have hs := r.isSome
  have l0 : Live s.cache.slots i b := (ht i b).mpr ⟨hn, hs⟩
  obtain ⟨h1, h2⟩ := collectSym_tied D order s hc ht hall hex
  have hm := mark_complete s.heap D hD i r
  have l1 : Live (collectSym D order s).cache.slots i b :=
    (h2 i b).mpr ⟨hn, (collect_isSome D s.heap i).trans (by rw [hs, hm]; rfl)⟩
  obtain ⟨c1, e1, _⟩ := intern_liveC hc l0
  obtain ⟨c2, e2, _⟩ := intern_liveC h1 l1
  exact ⟨⟨c1, e1⟩, ⟨c2, e2⟩⟩

theorem cache_after_collect_no_dangling (D : Nat) (order : List Id) (s : SymVM) (hc : CInvC s.cache)
    (ht : Tied s.heap s.names s.cache)
    (hall : ∀ i, (s.heap.get i).isSome = true → i ∈ order) (hex : ∀ i, i ∈ order → (s.heap.get i).isSome = true) :
    (∀ q x, Live (collectSym D order s).cache.slots q x → ((collectSym D order s).heap.get q).isSome = true) ∧
    (collectSym D order s).cache.count = liveCount (collectSym D order s).cache.slots := by
  obtain ⟨h1, h2⟩ := collectSym_tied D order s hc ht hall hex
  exact ⟨fun q x hl => ((h2 q x).mp hl).2, h1.cnt⟩

end JanetModel.GC.SymSweep
