/-
C01 — executable model of janet's collector (src/core/gc.c).  Core Lean + Std only (linked into jm_c01).

Heap      finite map Id → Obj (ids < size), root list.
Obj       kind (JanetMemoryType), ordered strong references, weak entries.
          A strong reference carries how the collector reaches its target:
            dec = true   through a Janet value, i.e. `janet_mark(x)`: the depth counter is checked / decremented
            dec = false  through a typed C pointer: direct call `janet_mark_function(frame->func)`,
                         `janet_mark_funcenv(func->envs[i])`, or the manual tail loops
                         `table = table->proto; goto recur`, `fiber = fiber->child; goto recur` (no depth change);
                         with lvl = true: `if (depth) { depth--; janet_mark_funcdef(def->defs[i]); depth++; } else
                         janet_mark_funcdef(def->defs[i]);` — a level is taken while one is left, never a spill
          A weak entry is one slot of a weak table / weak array: the weakly held referents and what the slot holds
          strongly while it exists (the value of a weak-key table slot, the key of a weak-value slot).
mark      mirrors janet_collect's mark phase:  `markObj` = janet_mark_<type>, `markEdge` = one followed reference: for a value,
          janet_mark (depth check, spill to the root list with janet_gcroot when the counter is 0); for a typed pointer, the direct call, `markRoots` = ev roots / root fiber / explicit
          roots, `drain` = the loop `while (orig_rootcount < janet_vm.root_count)`.
sweep     mirrors janet_sweep: pass 1 clears weak slots whose referent is dead, pass 2 frees unmarked blocks of the weak
          list, pass 3 frees unmarked blocks of the normal list.
The per-type constructors at the end (`Obj.table`, `Obj.fiber`, `Obj.funcenv`, …) mirror the janet_mark_* functions
field by field; the theorems are about arbitrary `Obj`s.
-/
import Std.Data.HashSet
import JanetModel.Gen.GC

namespace JanetModel.GC
open Std

abbrev Id := Nat

structure Edge where
  dec : Bool
  tgt : Id
  /-- for a typed-pointer edge (`dec = false`): the callee is entered one marking level lower while a level is left, and
  at level 0 it is entered all the same — nothing is deferred (`janet_mark_funcdef(def->defs[i])` since a60a379) -/
  lvl : Bool
  deriving Repr, DecidableEq

structure WeakEntry where
  weak : List Id
  strong : List Edge
  deriving Repr, DecidableEq

structure Obj where
  kind : Nat
  strong : List Edge
  entries : List WeakEntry := []
  deriving Repr, DecidableEq

/-- every reference the mark phase follows out of `o` -/
def outEdges (o : Obj) : List Edge := o.strong ++ o.entries.flatMap WeakEntry.strong

structure Heap where
  size : Nat
  obj : Id → Option Obj
  roots : List Edge

def Heap.get (h : Heap) (i : Id) : Option Obj := if i < h.size then h.obj i else none

/-- mark-phase state: mark bits, the values spilled to `janet_vm.roots[orig_rootcount ..]` (head = top), and a flag
that is raised only if the model's recursion fuel runs out (`mark_terminates` proves it never is) -/
structure MState where
  marked : HashSet Nat
  spill : List Id
  stuck : Bool

def MState.isMarked (s : MState) (i : Id) : Bool := s.marked.contains i

/-- `janet_mark_<type>(x)` with the depth counter currently `d` -/
def markObj (h : Heap) : Nat → Nat → Id → MState → MState
  | 0, _, _, s => { s with stuck := true }
  | fuel + 1, d, x, s =>
    match h.get x with
    | none => s
    | some o =>
      if s.marked.contains x then s
      else
        (outEdges o).foldl
          (fun s e =>
            if e.dec then
              -- janet_mark(child): `if (depth) { depth--; …; depth++ } else janet_gcroot(child)`
              (if d = 0 then { s with spill := e.tgt :: s.spill } else markObj h fuel (d - 1) e.tgt s)
            else markObj h fuel (if e.lvl then d - 1 else d) e.tgt s)
          { s with marked := s.marked.insert x }

/-- one reference followed from an object or from the root set, depth counter `d` -/
def markEdge (h : Heap) (fuel d : Nat) (s : MState) (e : Edge) : MState :=
  if e.dec then (if d = 0 then { s with spill := e.tgt :: s.spill } else markObj h fuel (d - 1) e.tgt s)
  else markObj h fuel (if e.lvl then d - 1 else d) e.tgt s

/-- weight of the unmarked part of the heap: bounds both the recursion depth and the number of drain iterations -/
def objWeight (h : Heap) (i : Id) : Nat :=
  match h.get i with
  | some o => (outEdges o).length + 1
  | none => 0

def weight (h : Heap) (s : MState) : Nat :=
  ((List.range h.size).map (fun i => if s.marked.contains i then 0 else objWeight h i)).sum

/-- `while (orig_rootcount < janet_vm.root_count) { x = roots[--root_count]; janet_mark(x); }` -/
def drain (h : Heap) (fuel D : Nat) : Nat → MState → MState
  | 0, s => match s.spill with
    | [] => s
    | _ :: _ => { s with stuck := true }
  | n + 1, s => match s.spill with
    | [] => s
    | x :: rest => drain h fuel D n (markEdge h fuel D { s with spill := rest } ⟨true, x, false⟩)

def MState.init : MState := { marked := ∅, spill := [], stuck := false }

def markRoots (h : Heap) (fuel D : Nat) (s : MState) : MState :=
  h.roots.foldl (markEdge h fuel D) s

/-- the mark phase of `janet_collect` with `depth = D` -/
def mark (D : Nat) (h : Heap) : MState :=
  let fuel := weight h MState.init + 1
  let s := markRoots h fuel D MState.init
  drain h fuel D (s.spill.length + weight h s + 1) s

/-! ### sweep -/

def isWeakKind (k : Nat) : Bool := decide (Gen.GC.memTableWeakK ≤ k)

/-- pass 1 on one reachable weak block: drop every slot one of whose weak referents was not marked -/
def clearWeak (m : HashSet Nat) (o : Obj) : Obj :=
  { o with entries := o.entries.filter (fun en => en.weak.all (fun w => m.contains w)) }

def sweepPass1 (m : HashSet Nat) (h : Heap) : Heap :=
  { h with obj := fun i => (h.get i).map (fun o => if m.contains i then clearWeak m o else o) }

/-- passes 2 and 3: free the unmarked blocks of the weak list (`weakList = true`) resp. of the normal list -/
def sweepFree (weakList : Bool) (m : HashSet Nat) (h : Heap) : Heap :=
  { h with obj := fun i =>
      match h.get i with
      | some o => if isWeakKind o.kind = weakList ∧ ¬ m.contains i then none else some o
      | none => none }

def sweep (m : HashSet Nat) (h : Heap) : Heap := sweepFree false m (sweepFree true m (sweepPass1 m h))

def collect (D : Nat) (h : Heap) : Heap := sweep (mark D h).marked h

/-! ### per-type constructors mirroring `janet_mark_*` (gc.c:99-312) -/

/-- a Janet value as far as the collector is concerned -/
inductive Val where
  | imm
  | ref (i : Id)
  deriving Repr, DecidableEq

def Val.edges : Val → List Edge
  | .imm => []
  | .ref i => [⟨true, i, false⟩]

def Val.ids : Val → List Id
  | .imm => []
  | .ref i => [i]

def vals (vs : List Val) : List Edge := vs.flatMap Val.edges
def ptr (p : Option Id) : List Edge := match p with | some i => [⟨false, i, false⟩] | none => []

open Gen.GC in
def Obj.leaf (kind : Nat) : Obj := { kind, strong := [] }
open Gen.GC in
/-- janet_mark_array: items only when the block type is ARRAY (not ARRAY_WEAK) -/
def Obj.array (weak : Bool) (items : List Val) : Obj :=
  if weak then { kind := memArrayWeak, strong := [], entries := items.map (fun v => ⟨v.ids, []⟩) }
  else { kind := memArray, strong := vals items }
open Gen.GC in
def Obj.tuple (items : List Val) : Obj := { kind := memTuple, strong := vals items }
open Gen.GC in
/-- janet_mark_table: values / keys / both / neither by weak kind, then the prototype tail loop -/
def Obj.table (weakK weakV : Bool) (kvs : List (Val × Val)) (proto : Option Id) : Obj :=
  match weakK, weakV with
  | false, false => { kind := memTable, strong := kvs.flatMap (fun kv => kv.1.edges ++ kv.2.edges) ++ ptr proto }
  | true, false => { kind := memTableWeakK, strong := ptr proto, entries := kvs.map (fun kv => ⟨kv.1.ids, kv.2.edges⟩) }
  | false, true => { kind := memTableWeakV, strong := ptr proto, entries := kvs.map (fun kv => ⟨kv.2.ids, kv.1.edges⟩) }
  | true, true => { kind := memTableWeakKV, strong := ptr proto, entries := kvs.map (fun kv => ⟨kv.1.ids ++ kv.2.ids, []⟩) }
open Gen.GC in
def Obj.struct (kvs : List (Val × Val)) (proto : Option Id) : Obj :=
  { kind := memStruct, strong := kvs.flatMap (fun kv => kv.1.edges ++ kv.2.edges) ++ ptr proto }

structure Frame where
  func : Option Id
  env : Option Id
  slots : List Val

open Gen.GC in
/-- janet_mark_fiber: last_value, pushed arguments, each frame's function / environment / slots, the dynamic-binding
table, supervisor channel, stream, whatever the pending event callback marks, then the child tail loop -/
def Obj.fiber (lastValue : Val) (args : List Val) (frames : List Frame) (env supervisor stream : Option Id)
    (evState : List Val) (child : Option Id) : Obj :=
  { kind := memFiber,
    strong := lastValue.edges ++ vals args ++ frames.flatMap (fun f => ptr f.func ++ ptr f.env ++ vals f.slots)
      ++ ptr env ++ ptr supervisor ++ ptr stream ++ vals evState ++ ptr child }
open Gen.GC in
def Obj.function (fdef : Option Id) (envs : List Id) : Obj :=
  { kind := memFunction, strong := match fdef with
      | some d => envs.map (fun e => ⟨false, e, false⟩) ++ [⟨false, d, false⟩]
      | none => [] }
/-- janet_env_maybe_detach, run by the mark phase on every reachable closure environment that is still on a fiber's
stack: the environment is copied off the stack iff the owning fiber's status is in the (regenerated) detach set -/
def detachOnMark (fiberStatus : Nat) : Bool := Gen.GC.detachStatuses.contains fiberStatus

/-- where a closure environment keeps its slots -/
inductive EnvMode where
  | onStack (fiber : Id)
  | detached
  deriving Repr, DecidableEq

/-- the mode of an environment after the mark phase has visited it -/
def envModeAfterMark (onStack : Option Id) (fiberStatus : Nat) : EnvMode :=
  match onStack with
  | some f => if detachOnMark fiberStatus then .detached else .onStack f
  | none => .detached

open Gen.GC in
/-- janet_mark_funcenv after janet_env_maybe_detach: still on the stack of a fiber that can run again → the fiber
(through `janet_mark`, so that fiber → frame function → environment → fiber chains are cut by the depth guard);
otherwise (already detached, or the fiber is finished and the slots are copied out) → the captured values -/
def Obj.funcenv (onStack : Option Id) (fiberStatus : Nat) (values : List Val) : Obj :=
  { kind := memFuncEnv, strong := match envModeAfterMark onStack fiberStatus with
      | .onStack f => [⟨true, f, false⟩]
      | .detached => vals values }
open Gen.GC in
def Obj.funcdef (constants : List Val) (defs : List Id) (source name : Option Id) (symbols : List Id) : Obj :=
  { kind := memFuncDef, strong := vals constants ++ defs.map (fun d => ⟨false, d, Gen.GC.funcdefNestTakesLevel⟩) ++ ptr source ++ ptr name
      ++ symbols.map (fun s => ⟨false, s, false⟩) }
open Gen.GC in
/-- janet_mark_abstract: the type's gcmark callback marks values (stream fibers, channel items and waiters, parser
stack, peg constants, process pipes) -/
def Obj.abstract (marks : List Val) : Obj := { kind := memAbstract, strong := vals marks }

def Heap.ofList (objs : List Obj) (roots : List Edge) : Heap :=
  { size := objs.length, obj := fun i => objs[i]?, roots }

end JanetModel.GC
