import JanetModel.Gen.GCRoot
import JanetModel.Util.Bits
/-!
# Which C functions can be interrupted by a collection (C01)

A collection is `janet_collect` (the translator `tools/gen/gcroot.py` asserts that nothing else reaches the sweep).  A C local that
holds a freshly allocated, not yet rooted object is therefore in danger only across a call from which `janet_collect` is
reachable in the whole-program call graph.  The translator emits the call graph (direct edges, type-compatible indirect edges,
address-mentioned edges) and an UNTRUSTED mask of the functions that can reach `janet_collect`; this file defines call chains
and proves that the mask is conservative once a finite closure condition (`closedOK`, evaluated by the kernel) holds.
-/
namespace JanetModel.GC.RootWin

/-- call chains over the edge list (`caller * 4096 + callee`; `tools/gen/gcroot.py` refuses a library of 4096 or more
    functions, `Gen.GCRoot.nFuncs`) -/
inductive Reaches (E : List Nat) : Nat → Nat → Prop
  | refl (a : Nat) : Reaches E a a
  | step {a b c : Nat} (hb : b < 4096) (he : a * 4096 + b ∈ E) (hr : Reaches E b c) : Reaches E a c

/-- function `f` is in the claimed may-collect set -/
def inMask (m f : Nat) : Bool := m.testBit f

/-- the certificate's closure condition: whenever a callee is in the mask, so is its caller -/
def closedOK (E : List Nat) (m : Nat) : Bool :=
  E.all fun e => !(inMask m (e % 4096)) || inMask m (e / 4096)

theorem edge_ends {a b : Nat} (hb : b < 4096) : (a * 4096 + b) % 4096 = b ∧ (a * 4096 + b) / 4096 = a := by
  rw [Nat.add_comm, Nat.mul_comm]
  exact Util.digit a hb

theorem closedOK_append (U L : List Nat) (m : Nat) : closedOK (U ++ L) m = (closedOK U m && closedOK L m) :=
  List.all_append

theorem edge_outside {E : List Nat} {m a b : Nat} (h : closedOK E m = true) (hb : b < 4096) (he : a * 4096 + b ∈ E)
    (ha : inMask m a = false) : inMask m b = false := by
  have h1 := (List.all_eq_true.mp h) _ he
  rw [(edge_ends hb).1, (edge_ends hb).2, ha, Bool.or_false, Bool.not_eq_true'] at h1
  exact h1

theorem reaches_outside {E : List Nat} {m : Nat} (h : closedOK E m = true) {a c : Nat} (hr : Reaches E a c)
    (ha : inMask m a = false) : inMask m c = false := by
  induction hr with
  | refl a => exact ha
  | step hb he _ ih => exact ih (edge_outside h hb he ha)

theorem outside_never_reaches {E : List Nat} {m t : Nat} (h : closedOK E m = true) (ht : inMask m t = true) {a : Nat}
    (ha : inMask m a = false) : ¬ Reaches E a t :=
  fun hr => Bool.noConfusion ((reaches_outside h hr ha).symm.trans ht)

theorem reaches_split {U L : List Nat} {a c : Nat} (hr : Reaches (U ++ L) a c) :
    Reaches U a c ∨ ∃ x y, Reaches U a x ∧ y < 4096 ∧ x * 4096 + y ∈ L ∧ Reaches (U ++ L) y c := by
  induction hr with
  | refl a => exact Or.inl (.refl a)
  | @step a b c hb he hr ih =>
    rcases List.mem_append.mp he with hu | hl
    · rcases ih with h | ⟨x, y, h1, h2, h3, h4⟩
      · exact Or.inl (.step hb hu h)
      · exact Or.inr ⟨x, y, .step hb hu h1, h2, h3, h4⟩
    · exact Or.inr ⟨a, b, .refl a, hb, hl, hr⟩

def allOutside (m : Nat) (l : List Nat) : Bool := l.all fun f => !(inMask m f)

theorem allOutside_mem {m : Nat} {l : List Nat} (h : allOutside m l = true) {f : Nat} (hf : f ∈ l) : inMask m f = false :=
  (Bool.not_eq_true' _).mp ((List.all_eq_true.mp h) f hf)

def coveredOrListed (m n : Nat) (listed : List Nat) : Bool :=
  (List.range n).all fun f => !(inMask m f) || listed.contains f

theorem coveredOrListed_lt {m n : Nat} {listed : List Nat} (h : coveredOrListed m n listed = true) {f : Nat} (hf : f < n) :
    inMask m f = false ∨ f ∈ listed := by
  have := (List.all_eq_true.mp h) f (List.mem_range.mpr hf)
  cases hm : inMask m f with
  | false => exact Or.inl rfl
  | true =>
    rw [hm, Bool.not_true, Bool.false_or] at this
    exact Or.inr (List.contains_iff_mem.mp this)

end JanetModel.GC.RootWin
