/-
C01 — sweep / collect facts.
-/
import JanetModel.GC.MarkCorrect

namespace JanetModel.GC
open Std

@[simp] theorem clearWeak_kind (m : HashSet Nat) (o : Obj) : (clearWeak m o).kind = o.kind := rfl
@[simp] theorem clearWeak_strong (m : HashSet Nat) (o : Obj) : (clearWeak m o).strong = o.strong := rfl

/-- a pass that rebuilds each slot from what `get` finds there, and nothing from nothing -/
theorem get_rebuild (h : Heap) (F : Id → Option Obj → Option Obj) (hF : ∀ i, F i none = none) (i : Id) :
    ({ h with obj := fun i => F i (h.get i) } : Heap).get i = F i (h.get i) := by
  unfold Heap.get
  by_cases c : i < h.size
  · simp only [c, if_true]
  · simp only [c, if_false, hF]

theorem sweepPass1_get (m : HashSet Nat) (h : Heap) (i : Id) :
    (sweepPass1 m h).get i = (h.get i).map fun o => if m.contains i then clearWeak m o else o :=
  get_rebuild h (fun i x => x.map fun o => if m.contains i then clearWeak m o else o) (fun _ => rfl) i

theorem sweepFree_get (w : Bool) (m : HashSet Nat) (h : Heap) (i : Id) :
    (sweepFree w m h).get i = match h.get i with
      | some o => if isWeakKind o.kind = w ∧ ¬ m.contains i then none else some o
      | none => none :=
  get_rebuild h (fun i x => match x with
    | some o => if isWeakKind o.kind = w ∧ ¬ m.contains i then none else some o
    | none => none) (fun _ => rfl) i

/-- the three passes together: a block survives iff it is marked; survivors only lose dead weak slots -/
theorem sweep_get (m : HashSet Nat) (h : Heap) (i : Id) :
    (sweep m h).get i = match h.get i with
      | some o => if m.contains i then some (clearWeak m o) else none
      | none => none := by
  rw [sweep, sweepFree_get, sweepFree_get, sweepPass1_get]
  cases h.get i with
  | none => rfl
  | some o =>
    -- marked: neither list frees it; unmarked: freed by the pass over the list its kind puts it on
    cases hm : m.contains i <;> cases hk : isWeakKind o.kind <;> simp [hk]

theorem collect_size (D : Nat) (h : Heap) : (collect D h).size = h.size := rfl
theorem collect_roots (D : Nat) (h : Heap) : (collect D h).roots = h.roots := rfl

theorem collect_get (D : Nat) (h : Heap) (i : Id) :
    (collect D h).get i = match h.get i with
      | some o => if (mark D h).marked.contains i then some (clearWeak (mark D h).marked o) else none
      | none => none := sweep_get _ h i

theorem collect_get_of_reachable {h : Heap} {D : Nat} (hD : 1 ≤ D) {i : Id} {o : Obj} (r : Reachable h i)
    (hx : h.get i = some o) : (collect D h).get i = some (clearWeak (mark D h).marked o) := by
  rw [collect_get, hx]
  exact if_pos (mark_complete h D hD i r)

theorem collect_isSome (D : Nat) (h : Heap) (i : Id) :
    ((collect D h).get i).isSome = ((h.get i).isSome && (mark D h).marked.contains i) := by
  rw [collect_get]
  cases h.get i with
  | none => rfl
  | some o => cases (mark D h).marked.contains i <;> rfl

theorem collect_get_some {D : Nat} {h : Heap} {i : Id} {o' : Obj} (hx : (collect D h).get i = some o') :
    ∃ o, h.get i = some o ∧ (mark D h).marked.contains i = true ∧ o' = clearWeak (mark D h).marked o := by
  rw [collect_get] at hx
  cases hg : h.get i with
  | none => rw [hg] at hx; cases hx
  | some o =>
    simp only [hg] at hx
    split at hx
    · next c => exact ⟨o, rfl, c, (Option.some.inj hx).symm⟩
    · cases hx

theorem collect_isSome_of_reachable {h : Heap} {D : Nat} (hD : 1 ≤ D) {j : Id} (r : Reachable h j) :
    ((collect D h).get j).isSome := by
  rw [collect_isSome, r.isSome, mark_complete h D hD j r]; rfl

theorem mem_outEdges_clearWeak {m : HashSet Nat} {o : Obj} {e : Edge} (he : e ∈ outEdges (clearWeak m o)) :
    e ∈ outEdges o := by
  simp only [outEdges, clearWeak, List.mem_append, List.mem_flatMap, List.mem_filter] at he ⊢
  rcases he with he | ⟨en, ⟨hen, _⟩, he⟩
  · exact Or.inl he
  · exact Or.inr ⟨en, hen, he⟩

end JanetModel.GC
