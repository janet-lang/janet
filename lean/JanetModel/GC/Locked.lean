/-
C01 — transparency for programs that hold objects in C locals while collection is suspended.

The mutator of GC/Mutator.lean is extended with what C code embedding the collector does (vm.c `janet_call`, compile.c):
    int handle = janet_gclock();  … allocate, keep the results only in C locals …  janet_gcunlock(handle);
A C local is a reference the program can use but the collector cannot see.  Safepoints precede every step; whether a
collection runs there is decided by the *modelled* `maybe_collect` / `janet_collect` of GC/Roots.lean (`shouldCollect`
on next_collection / gc_interval or the forced-schedule hook, then the `gc_suspend` early-out), not by a free schedule.

Representation: `h.roots = visible ++ locals` where the last `nloc` entries are the C locals (newest last).
-/
import JanetModel.GC.Mutator
import JanetModel.GC.RootsLemmas

namespace JanetModel.GC

inductive CStep where
  | step (st : Step)                         -- a step of the path-addressed mutator
  | newLocal (kind : Nat) (fields : List Path)  -- allocate; the only reference is a C local
  | keep                                     -- the oldest C local is stored where the collector looks (janet_gcroot / stack slot); none: nothing happens
  | drop                                     -- the newest C local goes out of scope
  | lock                                     -- int handle = janet_gclock();   (handles are kept LIFO, as C scoping does)
  | unlock                                   -- janet_gcunlock(handle);
  | pressure (n : Nat)                       -- janet_gcpressure(n)
  deriving Repr

inductive CObs where
  | obs (o : Obs)
  | handle (i : Int)
  deriving Repr, DecidableEq

structure CState where
  h : Heap
  nloc : Nat
  vm : VM
  handles : List Int

def rotate : List Edge → List Edge
  | [] => []
  | e :: r => r ++ [e]

def reroot (g : List Edge → List Edge) (h : Heap) : Heap := { h with roots := g h.roots }

/-- allocation accounting of a mutator step (janet_gcalloc) -/
def acct (vm : VM) : Step → VM
  | .alloc _ fields => gcallocAcct vm ((fields.length + 1) * Gen.GC.gcObjectSize)
  | _ => vm

/-- a mutator step may not release a C local through `.unroot` (that is `.drop`) -/
def mutOk (s : CState) : Step → Bool
  | .unroot n => decide (n < s.h.roots.length - s.nloc)
  | _ => true

def execC (s : CState) : CStep → CState × List CObs
  | .step st =>
    if mutOk s st then ({ s with h := execHeap s.h st, vm := acct s.vm st }, (execObs s.h st).map CObs.obs) else (s, [])
  | .newLocal kind fields =>
    ({ s with h := reroot rotate (execHeap s.h (.alloc kind fields)), nloc := s.nloc + 1,
              vm := acct s.vm (.alloc kind fields) }, [])
  | .keep => ({ s with nloc := s.nloc - 1 }, [])
  | .drop => if s.nloc = 0 then (s, []) else ({ s with h := reroot List.dropLast s.h, nloc := s.nloc - 1 }, [])
  | .lock => let r := gclock s.vm; ({ s with vm := r.1, handles := r.2 :: s.handles }, [CObs.handle r.2])
  | .unlock => match s.handles with
    | [] => (s, [])
    | hd :: rest => ({ s with vm := gcunlock s.vm hd, handles := rest }, [])
  | .pressure n => ({ s with vm := gcpressure s.vm n }, [])

/-- what the collector can see -/
def visibleRoots (s : CState) : List Edge := s.h.roots.take (s.h.roots.length - s.nloc)

def Heap.withRoots (h : Heap) (r : List Edge) : Heap := { h with roots := r }
def VM.withRoots (vm : VM) (r : List RVal) : VM := { vm with roots := r }

/-- `maybe_collect()` at a safepoint; `forced` = answer of the forced-schedule hook -/
def safepoint (D : Nat) (s : CState) (forced : Bool) : CState :=
  let r := maybeCollect D (s.h.withRoots (visibleRoots s)) (s.vm.withRoots []) forced
  { s with h := r.1.withRoots s.h.roots, vm := r.2.withRoots s.vm.roots }

def runC (D : Nat) : List CStep → (Nat → Bool) → Nat → CState → List CObs
  | [], _, _, _ => []
  | st :: rest, sched, n, s =>
    let s1 := safepoint D s (sched n)
    let r := execC s1 st
    r.2 ++ runC D rest sched (n + 1) r.1

/-- the program's meaning without a collector -/
def runC0 : List CStep → CState → List CObs
  | [], _ => []
  | st :: rest, s => let r := execC s st; r.2 ++ runC0 rest r.1

/-- the rooting discipline, checked statically: C locals exist only while collection is suspended (`d` = lock depth,
`k` = number of C locals) -/
def disc : Nat → Nat → List CStep → Bool
  | _, _, [] => true
  | d, k, .step _ :: r => disc d k r
  | d, k, .newLocal _ _ :: r => decide (0 < d) && disc d (k + 1) r
  | d, k, .keep :: r => decide (0 < k) && disc d (k - 1) r
  | d, k, .drop :: r => decide (0 < k) && disc d (k - 1) r
  | d, k, .lock :: r => disc (d + 1) k r
  | d, k, .unlock :: r => decide (0 < d) && (decide (1 < d) || decide (k = 0)) && disc (d - 1) k r
  | d, k, .pressure _ :: r => disc d k r

/-- handles handed out by nested `janet_gclock` calls: n-1, …, 1, 0 -/
def wfH : List Int → Bool
  | [] => true
  | hd :: r => hd == (r.length : Int) && wfH r

/- the two runs' states related symmetrically (heaps by `Agree`); the simulation below keeps the one-sided `CSub` -/
structure CRel (s s' : CState) : Prop where
  agree : Agree s.h s'.h
  nloc : s.nloc = s'.nloc
  handles : s.handles = s'.handles
  susp : s.vm.gcSuspend = s'.vm.gcSuspend

/-- the invariant of the simulation: `s` is the state of the collecting run, `s'` that of the program's meaning without a collector -/
structure CSub (s s' : CState) : Prop where
  sub : Sub s.h s'.h
  nloc : s.nloc = s'.nloc
  handles : s.handles = s'.handles
  susp : s.vm.gcSuspend = s'.vm.gcSuspend

theorem mem_rotate (l : List Edge) (e : Edge) (he : e ∈ rotate l) : e ∈ l := by
  cases l with
  | nil => exact he
  | cons x r =>
    simp only [rotate, List.mem_append, List.mem_singleton] at he
    rcases he with he | he
    · exact List.mem_cons_of_mem _ he
    · subst he; exact List.mem_cons_self

theorem acct_susp (vm : VM) (st : Step) : (acct vm st).gcSuspend = vm.gcSuspend := by
  cases st <;> rfl

@[simp] theorem Heap.withRoots_roots (h : Heap) (r : List Edge) : (h.withRoots r).roots = r := rfl
@[simp] theorem Heap.withRoots_size (h : Heap) (r : List Edge) : (h.withRoots r).size = h.size := rfl
@[simp] theorem Heap.withRoots_self (h : Heap) : h.withRoots h.roots = h := rfl
@[simp] theorem Heap.withRoots_withRoots (h : Heap) (r r' : List Edge) : (h.withRoots r).withRoots r' = h.withRoots r' := rfl
@[simp] theorem VM.withRoots_susp (vm : VM) (r : List RVal) : (vm.withRoots r).gcSuspend = vm.gcSuspend := rfl
@[simp] theorem VM.withRoots_roots (vm : VM) (r : List RVal) : (vm.withRoots r).roots = r := rfl

theorem collect_withRoots (D : Nat) (h : Heap) : (collect D h).withRoots h.roots = collect D h := by
  rw [← collect_roots D h, Heap.withRoots_self]

theorem collectVM_heap_enters (D : Nat) (h : Heap) (vm : VM) (hs : vm.gcSuspend = 0) (hr : vm.roots = []) :
    (collectVM D h vm).1 = collect D h := by
  have e : heapWithRoots h vm = h := by
    rw [heapWithRoots, hr, List.flatMap_nil, List.append_nil]
  rw [collectVM_eq, if_pos hs, e]
  exact collect_withRoots D h

theorem safepoint_fields (D : Nat) (s : CState) (f : Bool) :
    (safepoint D s f).nloc = s.nloc ∧ (safepoint D s f).handles = s.handles ∧
    (safepoint D s f).vm.gcSuspend = s.vm.gcSuspend :=
  ⟨rfl, rfl, maybeCollect_susp D _ (s.vm.withRoots []) f⟩

theorem safepoint_heap (D : Nat) (s : CState) (f : Bool) :
    (safepoint D s f).h = s.h ∨
    (s.vm.gcSuspend = 0 ∧ (safepoint D s f).h = (collect D (s.h.withRoots (visibleRoots s))).withRoots s.h.roots) := by
  simp only [safepoint]
  rcases maybeCollect_cases D (s.h.withRoots (visibleRoots s)) (s.vm.withRoots []) f with e | e
  · rw [e]; exact Or.inl rfl
  · rw [e]
    by_cases c : s.vm.gcSuspend = 0
    · exact Or.inr ⟨c, by rw [collectVM_heap_enters D _ (s.vm.withRoots []) c rfl]⟩
    · rw [collectVM_locked D _ (s.vm.withRoots []) c]; exact Or.inl rfl

theorem safepoint_rel (D : Nat) (hD : 1 ≤ D) {s s' : CState} (r : CSub s s') (f : Bool)
    (hk : s.vm.gcSuspend = 0 → s.nloc = 0) : CSub (safepoint D s f) s' := by
  obtain ⟨f1, f2, f3⟩ := safepoint_fields D s f
  refine ⟨?_, f1.trans r.nloc, f2.trans r.handles, f3.trans r.susp⟩
  rcases safepoint_heap D s f with e | ⟨hs, e⟩
  · rw [e]; exact r.sub
  · -- no C locals while unlocked, so the collector sees every root
    have hv : visibleRoots s = s.h.roots := by
      rw [visibleRoots, hk hs, Nat.sub_zero, List.take_length]
    rw [e, hv, Heap.withRoots_self, collect_withRoots]
    exact r.sub.collect D hD

theorem mutOk_eq {s s' : CState} (r : CSub s s') (st : Step) : mutOk s st = mutOk s' st := by
  cases st <;> simp only [mutOk, r.sub.roots, r.nloc]

theorem execC_rel {s s' : CState} (r : CSub s s') (st : CStep) :
    (execC s st).2 = (execC s' st).2 ∧ CSub (execC s st).1 (execC s' st).1 := by
  have hacct (st : Step) : (acct s.vm st).gcSuspend = (acct s'.vm st).gcSuspend :=
    (acct_susp _ _).trans (r.susp.trans (acct_susp _ _).symm)
  cases st with
  | step st =>
    simp only [execC, ← mutOk_eq r st]
    split
    · exact ⟨congrArg (List.map CObs.obs) (r.sub.exec_obs st), r.sub.exec st, r.nloc, r.handles, hacct st⟩
    · exact ⟨rfl, r⟩
  | newLocal kind fields =>
    exact ⟨rfl, (r.sub.exec (.alloc kind fields)).reroot rotate mem_rotate, congrArg (· + 1) r.nloc, r.handles, hacct _⟩
  | keep => exact ⟨rfl, r.sub, congrArg (· - 1) r.nloc, r.handles, r.susp⟩
  | drop =>
    simp only [execC, ← r.nloc]
    split
    · exact ⟨rfl, r⟩
    · exact ⟨rfl, r.sub.reroot List.dropLast (fun l _ he => (List.dropLast_sublist l).subset he), rfl, r.handles, r.susp⟩
  | lock =>
    have e : s.vm.gcSuspend :: s.handles = s'.vm.gcSuspend :: s'.handles := by rw [r.susp, r.handles]
    exact ⟨congrArg (fun i => [CObs.handle i]) r.susp, r.sub, r.nloc, e, congrArg (· + 1) r.susp⟩
  | unlock =>
    simp only [execC, ← r.handles]
    split
    · exact ⟨rfl, r⟩
    · exact ⟨rfl, r.sub, r.nloc, rfl, rfl⟩
  | pressure n => exact ⟨rfl, r.sub, r.nloc, r.handles, r.susp⟩

/-- what `disc d k` records about a state: `k` C locals, the `d` handles d-1, …, 0 held, `gc_suspend = d` -/
structure Tracks (d k : Nat) (s : CState) : Prop where
  nloc : s.nloc = k
  depth : s.handles.length = d
  wf : wfH s.handles = true
  susp : s.vm.gcSuspend = (d : Int)

theorem Tracks.safepoint {d k : Nat} {s : CState} (t : Tracks d k s) (D : Nat) (f : Bool) : Tracks d k (safepoint D s f) :=
  ⟨t.nloc, t.depth, t.wf, (safepoint_fields D s f).2.2.trans t.susp⟩

theorem Tracks.step {d k : Nat} {s : CState} (t : Tracks d k s) (h0 : d = 0 → k = 0) {st : CStep} {rest : List CStep}
    (hd : disc d k (st :: rest) = true) :
    ∃ d' k', Tracks d' k' (execC s st).1 ∧ (d' = 0 → k' = 0) ∧ disc d' k' rest = true := by
  cases st with
  | step st0 =>
    refine ⟨d, k, ?_, h0, hd⟩
    simp only [execC]
    split
    · exact ⟨t.nloc, t.depth, t.wf, (acct_susp _ _).trans t.susp⟩
    · exact t
  | newLocal kind fields =>
    simp only [disc, Bool.and_eq_true, decide_eq_true_eq] at hd
    exact ⟨d, k + 1, ⟨congrArg (· + 1) t.nloc, t.depth, t.wf, (acct_susp _ _).trans t.susp⟩, by omega, hd.2⟩
  | keep =>
    simp only [disc, Bool.and_eq_true, decide_eq_true_eq] at hd
    exact ⟨d, k - 1, ⟨congrArg (· - 1) t.nloc, t.depth, t.wf, t.susp⟩, by omega, hd.2⟩
  | drop =>
    simp only [disc, Bool.and_eq_true, decide_eq_true_eq] at hd
    refine ⟨d, k - 1, ?_, by omega, hd.2⟩
    have hne : ¬ s.nloc = 0 := by rw [t.nloc]; omega
    simp only [execC, if_neg hne]
    exact ⟨congrArg (· - 1) t.nloc, t.depth, t.wf, t.susp⟩
  | lock =>
    refine ⟨d + 1, k, ⟨t.nloc, congrArg (· + 1) t.depth, ?_, ?_⟩, by omega, hd⟩
    · -- the new handle is the old `gc_suspend`, the number of handles held so far
      simp only [execC, gclock, wfH, t.susp, t.depth, t.wf, beq_self_eq_true, Bool.and_self]
    · simp only [execC, gclock, t.susp, Int.natCast_add, Int.cast_ofNat_Int]
  | unlock =>
    simp only [disc, Bool.and_eq_true, Bool.or_eq_true, decide_eq_true_eq] at hd
    obtain ⟨⟨hpos, hor⟩, hrest⟩ := hd
    have hdepth := t.depth
    have hwf := t.wf
    cases hh : s.handles with
    | nil => rw [hh] at hdepth; exact absurd hdepth (Nat.ne_of_lt hpos)
    | cons hd0 tl =>
      rw [hh] at hdepth hwf
      simp only [wfH, Bool.and_eq_true, beq_iff_eq] at hwf
      have hl : tl.length = d - 1 := by rw [← hdepth]; rfl
      refine ⟨d - 1, k, ?_, by omega, hrest⟩
      simp only [execC, hh]
      -- unlocking restores `gc_suspend` to the handle, which is the number of handles left
      exact ⟨t.nloc, hl, hwf.2, by rw [gcunlock, hwf.1, hl]⟩
  | pressure m => exact ⟨d, k, ⟨t.nloc, t.depth, t.wf, t.susp⟩, h0, hd⟩

theorem runC_sim (D : Nat) (hD : 1 ≤ D) (sched : Nat → Bool) :
    ∀ (prog : List CStep) (d k n : Nat) (s s' : CState), CSub s s' → Tracks d k s → (d = 0 → k = 0) →
      disc d k prog = true → runC D prog sched n s = runC0 prog s' := by
  intro prog
  induction prog with
  | nil => intros; rfl
  | cons st rest ih =>
    intro d k n s s' r t hdk hdisc
    have r1 : CSub (safepoint D s (sched n)) s' := safepoint_rel D hD r (sched n) fun h0 =>
      t.nloc.trans (hdk (Int.natCast_eq_zero.mp (t.susp.symm.trans h0)))
    obtain ⟨eo, r2⟩ := execC_rel r1 st
    obtain ⟨d', k', t', hdk', hdisc'⟩ := (t.safepoint D (sched n)).step hdk hdisc
    simp only [runC, runC0]
    rw [eo, ih d' k' (n + 1) _ _ r2 t' hdk' hdisc']

end JanetModel.GC
