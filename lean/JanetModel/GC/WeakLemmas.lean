/-
C01 — the slot-level weak pass (GC/Weak.lean) characterised, its bookkeeping, and refinement of the heap model's `clearWeak`.
-/
import JanetModel.GC.Weak
import JanetModel.GC.Collect

namespace JanetModel.GC
open Std List

/-- the loop, closed form: dropped slots become tombstones, `count` / `deleted` move by their number -/
theorem sweepSlots_eq (m : HashSet Nat) (kind : Nat) : ∀ (data : List KV) (c d : Nat),
    sweepSlots m kind data c d =
      (data.map (fun kv => if dropSlot m kind kv then tombstone else kv),
       c - (data.filter (dropSlot m kind)).length, d + (data.filter (dropSlot m kind)).length)
  | [], _, _ => rfl
  | kv :: rest, c, d => by
    unfold sweepSlots
    split
    · next h =>
      rw [sweepSlots_eq m kind rest, map_cons, if_pos h, filter_cons_of_pos h, length_cons, Nat.sub_sub, Nat.add_assoc,
        Nat.add_comm 1]
    · next h => rw [sweepSlots_eq m kind rest, map_cons, if_neg h, filter_cons_of_neg h]

theorem tombstone_not_occupied : tombstone.occupied = false := by decide

theorem occupied_after_drop (m : HashSet Nat) (kind : Nat) (data : List KV) :
    (data.map (fun kv => if dropSlot m kind kv then tombstone else kv)).filter KV.occupied =
      data.filter (fun kv => kv.occupied && !dropSlot m kind kv) := by
  induction data with
  | nil => rfl
  | cons kv rest ih =>
    by_cases h : dropSlot m kind kv = true
    · simp only [map_cons, h, if_true]
      rw [filter_cons_of_neg (by simp [tombstone_not_occupied]), filter_cons_of_neg (by simp [h]), ih]
    · have h' : dropSlot m kind kv = false := by simpa using h
      simp only [map_cons, h', Bool.false_eq_true, if_false]
      by_cases ho : kv.occupied = true
      · rw [filter_cons_of_pos ho, filter_cons_of_pos (by simp [ho, h']), ih]
      · rw [filter_cons_of_neg ho, filter_cons_of_neg (by simp [ho]), ih]

theorem ids_all (m : HashSet Nat) (v : SVal) : v.toVal.ids.all (fun w => m.contains w) = checkLiveref m v := by
  cases v <;> simp [SVal.toVal, Val.ids, checkLiveref]

/-- a slot is kept exactly when the weakly held side of its model entry is entirely marked -/
theorem keep_iff_entry (m : HashSet Nat) (kind : Nat) (kv : KV) (hk : checkKeys kind = true ∨ checkValues kind = true) :
    (!dropSlot m kind kv) =
      (match checkKeys kind, checkValues kind with
        | true, false => kv.key.toVal.ids
        | false, true => kv.value.toVal.ids
        | true, true => kv.key.toVal.ids ++ kv.value.toVal.ids
        | false, false => []).all (fun w => m.contains w) := by
  unfold dropSlot
  cases hck : checkKeys kind <;> cases hcv : checkValues kind
  · rw [hck, hcv] at hk; simp at hk
  · simp [ids_all]
  · simp [ids_all]
  · simp [ids_all, Bool.not_or]

theorem entries_sweep (m : HashSet Nat) (kind : Nat) (data : List KV) (e : KV → WeakEntry)
    (he : ∀ kv, (!dropSlot m kind kv) = (e kv).weak.all (fun w => m.contains w)) :
    (data.filter (fun kv => kv.occupied && !dropSlot m kind kv)).map e =
      ((data.filter KV.occupied).map e).filter (fun en => en.weak.all (fun w => m.contains w)) := by
  rw [filter_map, filter_filter]
  exact congrArg _ (filter_congr fun kv _ => by rw [he, Bool.and_comm]; rfl)

/-- **refinement**: the C-shaped pass over `data[0..capacity)` followed by abstraction = abstraction followed by the heap
model's `clearWeak` (weak-key, weak-value and weak-key-value tables) -/
theorem absTable_sweep (m : HashSet Nat) (t : WTable) (hk : checkKeys t.kind = true ∨ checkValues t.kind = true) :
    absTable (sweepWeakTable m t) = clearWeak m (absTable t) := by
  unfold absTable sweepWeakTable
  simp only [sweepSlots_eq, occupied_after_drop]
  have key := fun kv => keep_iff_entry m t.kind kv hk
  -- whichever side is weak, `Obj.table` maps the occupied slots to entries whose weak part is what `dropSlot` tests
  cases hck : checkKeys t.kind <;> cases hcv : checkValues t.kind <;>
    simp only [hck, hcv, Bool.false_eq_true, or_self] at key hk
  all_goals
    simp only [Obj.table, clearWeak, map_map]
    congr 1
    exact entries_sweep m t.kind t.data _ key

theorem nilIfDead_ref_live (m : HashSet Nat) (i : Id) (c : m.contains i = true) : nilIfDead m (.ref i) = .ref i := by
  simp [nilIfDead, checkLiveref, c]
theorem nilIfDead_ref_dead (m : HashSet Nat) (i : Id) (c : m.contains i = false) : nilIfDead m (.ref i) = .nil := by
  simp [nilIfDead, checkLiveref, c]
theorem nilIfDead_nonref (m : HashSet Nat) (v : SVal) (h : ∀ i, v ≠ .ref i) : nilIfDead m v = v := by
  cases v with
  | ref i => exact absurd rfl (h i)
  | _ => simp [nilIfDead, checkLiveref]

theorem absArray_sweep (m : HashSet Nat) (items : List SVal) :
    absArray (sweepWeakArray m items) = clearWeak m (absArray items) := by
  unfold absArray sweepWeakArray clearWeak
  rw [filterMap_map, filter_filterMap]
  refine congrArg _ (congrArg (filterMap · items) (funext fun v => ?_))
  cases v with
  | ref i =>
    cases c : m.contains i
    · rw [Function.comp, nilIfDead_ref_dead m i c]; simp [refEntry, Option.filter, c]
    · rw [Function.comp, nilIfDead_ref_live m i c]; simp [refEntry, Option.filter, c]
  | _ => rw [Function.comp, nilIfDead_nonref m _ (fun _ h => SVal.noConfusion h)]; rfl

/-- bookkeeping: under well-formedness every dropped slot was occupied, so `count` keeps counting the occupied slots -/
theorem drop_occupied (m : HashSet Nat) (kind : Nat) (kv : KV)
    (hw : (kv.occupied || (kv.value matches .nil | .fls | .imm)) = true) (hd : dropSlot m kind kv = true) :
    kv.occupied = true := by
  cases hk : kv.key with
  | nil =>
    -- nil key: the value holds no reference, so both liveness tests pass
    have hv : (kv.value matches .nil | .fls | .imm) = true := by simpa [KV.occupied, hk] using hw
    unfold dropSlot at hd
    cases hvv : kv.value <;> simp_all [checkLiveref]
  | fls => simp [KV.occupied, hk]
  | imm => simp [KV.occupied, hk]
  | ref i => simp [KV.occupied, hk]

theorem filter_split_len {α} (l : List α) (occ drop : α → Bool) (h : ∀ kv ∈ l, drop kv = true → occ kv = true) :
    (l.filter occ).length = (l.filter (fun kv => occ kv && !drop kv)).length + (l.filter drop).length := by
  induction l with
  | nil => rfl
  | cons kv rest ih =>
    have ih' := ih (fun x hx => h x (mem_cons_of_mem _ hx))
    by_cases hd : drop kv = true
    · have ho := h kv mem_cons_self hd
      rw [filter_cons_of_pos ho, filter_cons_of_neg (by simp [hd]), filter_cons_of_pos hd]
      simp only [length_cons]; omega
    · have hd' : drop kv = false := by simpa using hd
      by_cases ho : occ kv = true
      · rw [filter_cons_of_pos ho, filter_cons_of_pos (by simp [ho, hd']), filter_cons_of_neg hd]
        simp only [length_cons]; omega
      · rw [filter_cons_of_neg ho, filter_cons_of_neg (by simp [ho]), filter_cons_of_neg hd]
        exact ih'

theorem sweepWeakTable_wf (m : HashSet Nat) (t : WTable) (hw : t.wf = true) : (sweepWeakTable m t).wf = true := by
  unfold WTable.wf at hw ⊢
  simp only [Bool.and_eq_true, all_eq_true, beq_iff_eq] at hw ⊢
  obtain ⟨hall, hcnt⟩ := hw
  have hdo : ∀ kv ∈ t.data, dropSlot m t.kind kv = true → kv.occupied = true :=
    fun kv hkv hd => drop_occupied m t.kind kv (hall kv hkv) hd
  constructor
  · intro kv hkv
    simp only [sweepWeakTable, sweepSlots_eq, mem_map] at hkv
    obtain ⟨kv0, h0, rfl⟩ := hkv
    by_cases hd : dropSlot m t.kind kv0 = true
    · simp only [hd, if_true]; decide
    · simp only [hd]; exact hall kv0 h0
  · simp only [sweepWeakTable, sweepSlots_eq, occupied_after_drop]
    have := filter_split_len t.data KV.occupied (dropSlot m t.kind) hdo
    omega

end JanetModel.GC
