/- C02: facts about the frame set-up of the VM model (`mkRegs` = `janet_fiber_funcframe` / `janet_fiber_funcframe_tail`):
   for a function without a variadic parameter every slot that did not receive an argument is nil, for calls and tail
   calls alike (the model uses one function). -/
import JanetModel.Bytecode.Exec
import JanetModel.Util.List
namespace JanetModel.Bytecode.Exec
set_option linter.unusedSimpArgs false

theorem foldl_set_other (args : Array Value) (l : List Nat) (base : Array Value) (j : Nat) (hj : j ∉ l) :
    (l.foldl (fun (r : Array Value) i => r.setIfInBounds i (args.getD i .nil)) base).getD j .nil = base.getD j .nil := by
  induction l generalizing base with
  | nil => rfl
  | cons a l ih =>
    simp only [List.foldl_cons]
    rw [ih _ (fun h => hj (List.mem_cons_of_mem _ h))]
    exact Util.Array.getD_setIfInBounds_ne base _ .nil fun h => hj (h ▸ List.mem_cons_self)
theorem mkRegs_omitted_nil (heap : Array HeapObj) (d : FuncDef) (args regs : Array Value) (hv : d.vararg = false)
    (h : mkRegs heap d args = some regs) (i : Nat) (hi : args.size ≤ i) : regs.getD i .nil = .nil := by
  simp only [mkRegs, hv, Bool.false_eq_true, if_false] at h
  split at h
  · cases h
  · injection h with h
    subst h
    rw [foldl_set_other args _ _ i (by simp; omega)]
    simp [Array.getD_eq_getD_getElem?, Array.getElem?_replicate]
    split <;> rfl
end JanetModel.Bytecode.Exec
