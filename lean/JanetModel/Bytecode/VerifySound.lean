/- C10: generic soundness of `janet_verify` with respect to what the VM handlers dereference, for ANY tables satisfying
   `Tables.consistent`. -/
import JanetModel.Bytecode.VerifyDefs
namespace JanetModel.Bytecode
open JanetModel.Gen.Bytecode

/-- what executing the handler `a` on instruction word `w` at `pc` of `d` needs -/
structure StepSafe (a : Access) (d : FuncDef) (pc : Nat) (w : Nat) : Prop where
  slots : ∀ f ∈ a.slots, fieldVal f w < d.slotcount
  consts : ∀ p ∈ a.consts, p.2 = false → fieldVal p.1 w < d.nconsts
  defs : ∀ p ∈ a.defs, p.2 = false → fieldVal p.1 w < d.ndefs
  envs : ∀ p ∈ a.envs, p.2 = false → fieldVal p.1 w < d.nenvs
  jumps : ∀ f ∈ a.jumps, 0 ≤ (pc : Int) + sfieldVal f w ∧ (pc : Int) + sfieldVal f w < (d.bytecode.length : Int)
  next : a.next = true → pc + 1 < d.bytecode.length
  /-- a frame that saved `pc` here and pushed a callee can be returned into: `stack[A] = retval; pc++` -/
  pushes : a.pushes = true → fieldVal .fA w < d.slotcount ∧ pc + 1 < d.bytecode.length

/-- the handler the VM jumps to for table index `idx`: `none` = label_unknown_op (returns a debug signal, touches nothing) -/
def HandlerSafe (T : Tables) (d : FuncDef) (pc w : Nat) : Option Nat → Prop
  | none => True
  | some op => StepSafe (T.access op) d pc w

theorem verifyLoop_zero (T : Tables) (d : FuncDef) :
    ∀ (ws : List Nat) (k : Nat), verifyLoop T d k ws = 0 → ∀ j (h : j < ws.length), checkInstr T d (k + j) ws[j] = 0 := by
  intro ws
  induction ws with
  | nil => intro k _ j h; simp at h
  | cons w ws ih =>
    intro k hv j hj
    simp only [verifyLoop] at hv
    by_cases hr : checkInstr T d k w ≠ 0
    · rw [if_pos hr] at hv; exact absurd hv hr
    · rw [if_neg hr] at hv
      have hr0 : checkInstr T d k w = 0 := by
        cases h0 : checkInstr T d k w with
        | zero => rfl
        | succ n => exact absurd (by rw [h0]; exact Nat.succ_ne_zero n) hr
      cases j with
      | zero => simpa using hr0
      | succ j =>
        have := ih (k + 1) hv j (by simpa using hj)
        simpa [Nat.add_assoc, Nat.add_comm 1 j] using this

theorem mem_of_contains {l : List Field} {f : Field} (h : l.contains f = true) : f ∈ l := by
  simpa using h

theorem ite_zero2 {c : Prop} [Decidable c] {n m : Nat} (hn : n ≠ 0) (h : (if c then n else m) = 0) : ¬c ∧ m = 0 := by
  by_cases hc : c
  · rw [if_pos hc] at h; exact absurd h hn
  · rw [if_neg hc] at h; exact ⟨hc, h⟩

theorem check_range (T : Tables) (d : FuncDef) (i w : Nat) (h : checkInstr T d i w = 0) : w % T.verifyRangeMod < T.count := by
  unfold checkInstr at h
  by_cases hc : w % T.verifyRangeMod ≥ T.count
  · rw [if_pos hc] at h; exact absurd h (by decide)
  · omega

/-- `checkInstr = 0` with the range test stripped: what is left is the test of the operand type -/
theorem check_body {T : Tables} {w body : Nat} (h : (if w % T.verifyRangeMod ≥ T.count then 3 else body) = 0) :
    body = 0 :=
  (ite_zero2 (by decide) h).2

/-- what `checkInstr = 0` gives for each verifier type: every slot field in `checkedSlots` is below `slotcount` -/
theorem check_slots (T : Tables) (d : FuncDef) (i w : Nat) (hw : w < 4294967296) (h : checkInstr T d i w = 0) :
    ∀ f ∈ checkedSlots (T.itype (w % T.verifyTypeMod)), fieldVal f w < d.slotcount := by
  have hb := check_body (by unfold checkInstr at h; exact h)
  have hA : w / 256 % 256 ≤ w / 256 := Nat.mod_le _ _
  have hB : w / 65536 % 256 ≤ w / 65536 := Nat.mod_le _ _
  have hC : w / 16777216 % 256 = w / 16777216 := Nat.mod_eq_of_lt (by omega)
  generalize T.itype (w % T.verifyTypeMod) = t at hb ⊢
  -- for every type the verifier's first test is the slot test, on exactly the fields listed
  cases t <;>
    simp only [checkedSlots, List.forall_mem_cons, List.not_mem_nil, false_imp_iff, implies_true, and_true, fieldVal] <;>
    simp only [] at hb
  all_goals have h1 := (ite_zero2 (by decide) hb).1; omega

theorem check_consts (T : Tables) (d : FuncDef) (i w : Nat) (h : checkInstr T d i w = 0) :
    ∀ f ∈ checkedConsts (T.itype (w % T.verifyTypeMod)), fieldVal f w < d.nconsts := by
  have hb := check_body (by unfold checkInstr at h; exact h)
  generalize T.itype (w % T.verifyTypeMod) = t at hb ⊢
  cases t <;> simp only [checkedConsts, List.forall_mem_cons, List.not_mem_nil, false_imp_iff, implies_true, and_true, fieldVal]
  -- one operand type has such a field; its test is the second of that type
  have h2 := (ite_zero2 (by decide) (ite_zero2 (by decide) hb).2).1
  omega

theorem check_defs (T : Tables) (d : FuncDef) (i w : Nat) (h : checkInstr T d i w = 0) :
    ∀ f ∈ checkedDefs (T.itype (w % T.verifyTypeMod)), fieldVal f w < d.ndefs := by
  have hb := check_body (by unfold checkInstr at h; exact h)
  generalize T.itype (w % T.verifyTypeMod) = t at hb ⊢
  cases t <;> simp only [checkedDefs, List.forall_mem_cons, List.not_mem_nil, false_imp_iff, implies_true, and_true, fieldVal]
  have h2 := (ite_zero2 (by decide) (ite_zero2 (by decide) hb).2).1
  omega

theorem check_envs (T : Tables) (d : FuncDef) (i w : Nat) (h : checkInstr T d i w = 0) :
    ∀ f ∈ checkedEnvs (T.itype (w % T.verifyTypeMod)), fieldVal f w < d.nenvs := by
  have hb := check_body (by unfold checkInstr at h; exact h)
  generalize T.itype (w % T.verifyTypeMod) = t at hb ⊢
  cases t <;> simp only [checkedEnvs, List.forall_mem_cons, List.not_mem_nil, false_imp_iff, implies_true, and_true, fieldVal]
  have h2 := (ite_zero2 (by decide) (ite_zero2 (by decide) hb).2).1
  omega

theorem check_jumps (T : Tables) (d : FuncDef) (i w : Nat) (h : checkInstr T d i w = 0) :
    ∀ f ∈ checkedJumps (T.itype (w % T.verifyTypeMod)),
      0 ≤ (i : Int) + sfieldVal f w ∧ (i : Int) + sfieldVal f w < (d.bytecode.length : Int) := by
  have hb := check_body (by unfold checkInstr at h; exact h)
  intro f hf
  cases ht : T.itype (w % T.verifyTypeMod) <;> rw [ht] at hb hf <;>
    simp only [checkedJumps, List.mem_cons, List.mem_nil_iff, or_false] at hf <;> simp only [] at hb
  all_goals try (exact absurd hf (by simp))
  case l =>
    have h1 := (ite_zero2 (by decide) hb).1
    subst hf; simp only [sfieldVal]; omega
  case sl =>
    have h2 := (ite_zero2 (by decide) (ite_zero2 (by decide) hb).2).1
    subst hf; simp only [sfieldVal]; omega

theorem verify_facts (T : Tables) (d : FuncDef) (hv : verify T d = 0) :
    0 < d.bytecode.length ∧ verifyLoop T d 0 d.bytecode = 0 ∧
    (∃ w, d.bytecode.getLast? = some w ∧ T.terminals.contains (w % T.verifyLastMod) = true) := by
  unfold verify at hv
  by_cases h0 : d.bytecode.length = 0
  · rw [if_pos h0] at hv; exact absurd hv (by decide)
  · rw [if_neg h0] at hv
    by_cases h1 : d.arity + (if d.vararg then 1 else 0) > d.slotcount
    · rw [if_pos h1] at hv; exact absurd hv (by decide)
    · rw [if_neg h1] at hv
      simp only [] at hv
      by_cases h2 : verifyLoop T d 0 d.bytecode ≠ 0
      · rw [if_pos h2] at hv; exact absurd hv h2
      · rw [if_neg h2] at hv
        have h2' : verifyLoop T d 0 d.bytecode = 0 := by omega
        refine ⟨by omega, h2', ?_⟩
        cases hl : d.bytecode.getLast? with
        | none => rw [hl] at hv; simp at hv
        | some w =>
          rw [hl] at hv
          refine ⟨w, rfl, ?_⟩
          by_cases hc : T.terminals.contains (w % T.verifyLastMod) = true
          · exact hc
          · simp only [] at hv
            rw [if_neg hc] at hv; exact absurd hv (by decide)

/-- **verify_sound** (generic part): for any tables that pass `Tables.consistent`, a funcdef accepted by `janet_verify`
    is safe to interpret: whichever handler `run_vm` dispatches to for the instruction at any `pc` inside the bytecode
    (normal dispatch on `*pc & 0xFF`, or `*pc & 0x7F` after a breakpoint), every slot / constant / funcdef / environment
    operand it dereferences without a run-time check is in range, every jump target and fall-through `pc` stays inside
    `[0, bytecode_length)`, and a frame suspended at a frame-pushing instruction can be returned into. -/
theorem verify_sound_generic (T : Tables) (hT : T.consistent = true) (d : FuncDef)
    (hw : ∀ w ∈ d.bytecode, w < 4294967296) (hv : verify T d = 0)
    (pc : Nat) (hpc : pc < d.bytecode.length) :
    ∀ idx, (idx = d.bytecode[pc] % T.dispatchMod ∨ idx = d.bytecode[pc] % T.breakMod) →
      ∃ h, T.lookup[idx]? = some h ∧ HandlerSafe T d pc d.bytecode[pc] h := by
  simp only [Tables.consistent, Bool.and_eq_true, beq_iff_eq, decide_eq_true_eq, List.all_eq_true, List.mem_range] at hT
  obtain ⟨⟨⟨⟨⟨⟨⟨⟨hM1, hM2⟩, hM3⟩, hM4⟩, hcnt⟩, hpos⟩, hlk⟩, hrows⟩, hterm⟩ := hT
  obtain ⟨hlen, hloop, wl, hlast, hlastT⟩ := verify_facts T d hv
  have hchk : checkInstr T d pc d.bytecode[pc] = 0 := by
    have := verifyLoop_zero T d d.bytecode 0 hloop pc hpc
    simpa using this
  generalize hwdef : d.bytecode[pc] = w at hchk ⊢
  have hwlt : w < 4294967296 := hw w (by rw [← hwdef]; exact List.getElem_mem hpc)
  have hrange := check_range T d pc w hchk
  rw [hM1] at hrange
  have hopM : w % T.verifyTypeMod < T.verifyTypeMod := Nat.mod_lt _ hpos
  -- terminal last instruction: not terminal -> not last
  have hnotlast : T.terminals.contains (w % T.verifyTypeMod) = false → pc + 1 < d.bytecode.length := by
    intro hnt
    by_cases hlt : pc + 1 < d.bytecode.length
    · exact hlt
    · exfalso
      have hpceq : pc = d.bytecode.length - 1 := by omega
      have : d.bytecode.getLast? = some w := by
        rw [List.getLast?_eq_getElem?, ← hpceq, List.getElem?_eq_getElem hpc, hwdef]
      rw [this] at hlast
      have hwl : wl = w := by injection hlast with h; exact h.symm
      subst hwl
      have hmem : wl % T.verifyLastMod ∈ T.terminals := by simpa using hlastT
      have ht0 := hterm _ hmem
      rw [hM4, hM3] at ht0 hlastT
      have h2 : wl % (2 * T.verifyTypeMod) % T.verifyTypeMod = wl % T.verifyTypeMod :=
        Nat.mod_mod_of_dvd _ (Nat.dvd_mul_left _ 2)
      have h3 : wl % (2 * T.verifyTypeMod) % T.verifyTypeMod = wl % (2 * T.verifyTypeMod) := Nat.mod_eq_of_lt (by omega)
      rw [← h2, h3, hlastT] at hnt
      exact Bool.noConfusion hnt
  -- safety of the handler of opcode op := w % M
  have hsafe : StepSafe (T.access (w % T.verifyTypeMod)) d pc w := by
    have hrow := hrows (w % T.verifyTypeMod) hrange
    simp only [rowOk, Bool.and_eq_true, List.all_eq_true, Bool.or_eq_true, Bool.not_eq_true', Bool.and_eq_false_iff,
      beq_iff_eq, Bool.not_eq_eq_eq_not, Bool.not_true] at hrow
    obtain ⟨⟨⟨⟨⟨⟨⟨hs, hc⟩, hd⟩, he⟩, hj⟩, hn⟩, hp⟩, _⟩ := hrow
    refine ⟨?_, ?_, ?_, ?_, ?_, ?_, ?_⟩
    · intro f hf
      exact check_slots T d pc w hwlt hchk f (mem_of_contains (hs f hf))
    · intro p hp' hg
      rcases hc p hp' with h | h
      · rw [hg] at h; exact Bool.noConfusion h
      · exact check_consts T d pc w hchk p.1 (mem_of_contains h)
    · intro p hp' hg
      rcases hd p hp' with h | h
      · rw [hg] at h; exact Bool.noConfusion h
      · exact check_defs T d pc w hchk p.1 (mem_of_contains h)
    · intro p hp' hg
      rcases he p hp' with h | h
      · rw [hg] at h; exact Bool.noConfusion h
      · exact check_envs T d pc w hchk p.1 (mem_of_contains h)
    · intro f hf
      exact check_jumps T d pc w hchk f (mem_of_contains (hj f hf))
    · intro hnext
      rcases hn with h | h
      · rw [hnext] at h; exact Bool.noConfusion h
      · exact hnotlast h
    · intro hpush
      rcases hp with h | h
      · rw [hpush] at h; exact Bool.noConfusion h
      · exact ⟨check_slots T d pc w hwlt hchk .fA (mem_of_contains h.1), hnotlast h.2⟩
  intro idx hidx
  have hidxM : idx % T.verifyTypeMod = w % T.verifyTypeMod := by
    rcases hidx with h | h
    · rw [h, hM3]; exact Nat.mod_mod_of_dvd _ (Nat.dvd_mul_left _ 2)
    · rw [h, hM2]; exact Nat.mod_mod _ _
  have hidxlt : idx < T.dispatchMod := by
    rcases hidx with h | h
    · rw [h]; exact Nat.mod_lt _ (by omega)
    · rw [h, hM2, hM3]; omega
  have hl := hlk idx hidxlt
  simp only [lookupOk, Bool.or_eq_true, Bool.not_eq_true', decide_eq_false_iff_not, decide_eq_true_eq] at hl
  rcases hl with hl | hl
  · rw [hidxM] at hl; exact absurd hrange hl
  · by_cases hic : idx < T.count
    · rw [if_pos hic] at hl
      have : idx = w % T.verifyTypeMod := by
        rw [← hidxM]; exact (Nat.mod_eq_of_lt (by omega)).symm
      refine ⟨some idx, by simpa using hl, ?_⟩
      rw [this]; exact hsafe
    · rw [if_neg hic] at hl
      exact ⟨none, by simpa using hl, trivial⟩

end JanetModel.Bytecode
