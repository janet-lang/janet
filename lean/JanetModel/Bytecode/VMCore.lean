import JanetModel.Bytecode.VMExec

/-!
`step` factored through a pc-independent core: what an instruction does to the slots, and whether control falls through,
jumps by a relative offset, or returns.  Used by the pass proofs (VMPasses.lean).
-/

namespace JanetModel.Bytecode.VM
open JanetModel.Gen.Bytecode

variable (P : Prims)

inductive Outcome where
  | next (s : List P.V)
  | jump (s : List P.V) (off : Int)
  | ret (v : P.V)

def getS (s : List P.V) (i : Nat) : P.V := s.getD i P.nil

/-- the pc-independent part of `step` -/
def stepCore (i : Instr) (s : List P.V) : Option (M P (Outcome P)) :=
  let nx (t : List P.V) : M P (Outcome P) := M.pure (.next t)
  match i.op with
  | .noop => some (nx s)
  | .return => some (M.pure (.ret (getS P s i.D)))
  | .returnNil => some (M.pure (.ret P.nil))
  | .loadNil => some (nx (s.set i.D P.nil))
  | .loadTrue => some (nx (s.set i.D P.tru))
  | .loadFalse => some (nx (s.set i.D P.fls))
  | .loadInteger => some (nx (s.set i.A (P.num i.ES)))
  | .moveNear => some (nx (s.set i.A (getS P s i.E)))
  | .moveFar => some (nx (s.set i.E (getS P s i.A)))
  | .jump => some (M.pure (.jump s i.DS))
  | .jumpIf => some (M.pure (if P.truthy (getS P s i.A) then .jump s i.ES else .next s))
  | .jumpIfNot => some (M.pure (if P.truthy (getS P s i.A) then .next s else .jump s i.ES))
  | .jumpIfNil => some (M.pure (if P.isNil (getS P s i.A) then .jump s i.ES else .next s))
  | .jumpIfNotNil => some (M.pure (if P.isNil (getS P s i.A) then .next s else .jump s i.ES))
  | .length | .bnot => some (M.bind (P.unary i.op (getS P s i.E)) fun v => nx (s.set i.A v))
  | .put => some (M.bind (P.put3 (getS P s i.A) (getS P s i.B) (getS P s i.C)) fun _ => nx s)
  | .signal => some (M.bind (P.signal (getS P s i.B) i.C) fun v => nx (s.set i.A v))
  | .error => some (M.throw (P.raise (getS P s i.A)))
  | .getIndex => some (M.bind (P.getIndex (getS P s i.B) i.C) fun v => nx (s.set i.A v))
  | op =>
    match immBase op with
    | some _ => some (M.bind (immop P op (getS P s i.B) i.CS) fun v => nx (s.set i.A v))
    | none =>
      match Op.itype op with
      | .sss => some (M.bind (binop P op (getS P s i.B) (getS P s i.C)) fun v => nx (s.set i.A v))
      | _ => none

def toStep (pc : Nat) : Outcome P → Step P
  | .next s => .cont ⟨s, pc + 1⟩
  | .jump s off => .cont ⟨s, (Int.ofNat pc + off).toNat⟩
  | .ret v => .ret v

def M.map {α β} (g : α → β) (m : M P α) : M P β := M.bind m fun a => M.pure (g a)

theorem M.map_pure {α β} (g : α → β) (a : α) : M.map P g (M.pure a) = M.pure (g a) := rfl
theorem M.map_bind {α β γ} (g : β → γ) (m : M P α) (f : α → M P β) :
    M.map P g (M.bind m f) = M.bind m (fun a => M.map P g (f a)) := by
  funext w
  simp only [M.map, M.bind]
  rcases m w with ⟨(_ | _), _⟩ <;> rfl
theorem M.map_throw {α β} (g : α → β) (e : P.E) : M.map P g (M.throw e : M P α) = M.throw e := rfl

theorem map_bind_next {α} (pc : Nat) (m : M P α) (k : α → Outcome P) :
    (M.bind m fun v => M.pure (toStep P pc (k v))) = M.map P (toStep P pc) (M.bind m fun v => M.pure (k v)) := by
  funext w
  simp only [M.map, M.bind, M.pure]
  rcases m w with ⟨(_ | _), _⟩ <;> rfl

/-- `step` is `stepCore` on the slots, with the outcome placed at the current pc -/
theorem step_core (i : Instr) (f : Frame P) :
    step P i f = (stepCore P i f.slots).map (M.map P (toStep P f.pc)) := by
  obtain ⟨s, pc⟩ := f
  unfold step stepCore
  generalize i.op = op
  have hb {α} (m : M P α) (k : α → List P.V) :
      some (M.bind m fun v => M.pure (Step.cont ⟨k v, pc + 1⟩)) =
        (some (M.bind m fun v => M.pure (Outcome.next (k v)))).map (M.map P (toStep P pc)) :=
    congrArg some (map_bind_next P pc m fun v => .next (k v))
  have hj (c : Bool) :
      some (M.pure (Step.cont (if c = true then jumpBy P ⟨s, pc⟩ i.ES else next P ⟨s, pc⟩))) =
        (some (M.pure (if c = true then Outcome.jump s i.ES else .next s))).map (M.map P (toStep P pc)) := by
    cases c <;> rfl
  have hn (c : Bool) :
      some (M.pure (Step.cont (if c = true then next P ⟨s, pc⟩ else jumpBy P ⟨s, pc⟩ i.ES))) =
        (some (M.pure (if c = true then Outcome.next s else .jump s i.ES))).map (M.map P (toStep P pc)) := by
    cases c <;> rfl
  -- the two definitions branch alike: in each explicit arm both sides reduce, by `rfl` unless a bind or a test is involved
  split
  case h_11 | h_13 => exact hj _
  case h_12 | h_14 => exact hn _
  case h_15 | h_16 | h_18 | h_20 => exact hb _ fun v => s.set i.A v
  case h_17 => exact hb _ fun _ => s
  case h_21 =>
    -- `op` is none of the explicit arms: bring `stepCore` to its last arm as well
    refine Eq.symm ?_
    split
    case h_21 =>
      cases immBase op with
      | some _ => exact (hb _ fun v => s.set i.A v).symm
      | none => cases Op.itype op <;> first | rfl | exact (hb _ fun v => s.set i.A v).symm
    all_goals exact absurd rfl (by assumption)
  all_goals rfl

end JanetModel.Bytecode.VM
