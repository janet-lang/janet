import JanetModel.Bytecode.VMCore

/-!
The rest of the janet VM over abstract values: the argument stack (`JOP_PUSH*`), `JOP_CALL` / `JOP_TAILCALL`, the
constructors `JOP_MAKE_*`, `JOP_CLOSURE`, `JOP_LOAD_CONSTANT` / `JOP_LOAD_SELF`, `JOP_LOAD_UPVALUE` / `JOP_SET_UPVALUE`,
`JOP_TYPECHECK`, `JOP_PUT_INDEX`.  Together with `VM.step` every one of the 77 opcodes has a semantics (`stepX`).

* a call is an *oracle* on values (`CallPrims.call`): callee, argument list, the caller's captured slots; it returns a
  result or an error, a new world, and updates of the captured slots.  Two runs are equal exactly when they make the same
  sequence of calls with the same arguments in the same worlds and end in the same result.
* `cap` is the `closure_bitset` of the running function: the slots closures created by this activation may read or write
  (fiber.c `janet_env_detach` keeps exactly those).  A callee sees (`view`) and changes (`merge`) only those slots.
* pending pushed arguments survive every instruction that is not a call / constructor (vm.c `janet_call` protects a dirty
  stack with a `void_cfunction` frame, so operator methods do not consume them).

Core Lean only (linked into `jm_c15`).
-/

namespace JanetModel.Bytecode.VM
open JanetModel.Gen.Bytecode

structure CallPrims (P : Prims) where
  /-- `janet_indexed_view`: the elements of an array / tuple, `none` for anything else -/
  indexedView : P.V → Option (List P.V)
  /-- error of `JOP_PUSH_ARRAY` on a value that is not indexed -/
  notIndexed : P.V → P.E
  /-- `JOP_CALL` / `JOP_TAILCALL`: callee, arguments, the caller's captured slots -> result and updated captured slots -/
  call : P.V → List P.V → (Nat → Option P.V) → P.W → Except P.E (P.V × (Nat → Option P.V)) × P.W
  /-- `JOP_MAKE_*` on the pushed values (struct / table raise on an odd count) -/
  make : Op → List P.V → P.W → Except P.E P.V × P.W
  /-- `JOP_CLOSURE`: the function object for `def->defs[E]` over this activation's environments (a pure read: vm.c only allocates) -/
  closure : Nat → P.V
  /-- `def->constants[E]` -/
  constant : Nat → P.V
  /-- `JOP_LOAD_SELF` -/
  self : P.V
  /-- `func->envs[B]->values[C]` (enclosing activations live in the world) -/
  loadUpvalue : Nat → Nat → P.W → P.V
  setUpvalue : Nat → Nat → P.V → P.W → P.W
  /-- `JOP_TYPECHECK`: the error raised when the value's type is not in the mask -/
  typecheck : P.V → Nat → Option P.E
  /-- `janet_putindex(ds, C, value)` -/
  putIndex : P.V → Nat → P.V → P.W → Except P.E Unit × P.W

variable (P : Prims)

/-- what a callee can see of the caller's frame: the captured slots -/
def view (cap : Nat → Bool) (s : List P.V) : Nat → Option P.V := fun i => if cap i then s[i]? else none

/-- what a callee can change in the caller's frame: the captured slots -/
def merge (cap : Nat → Bool) (s : List P.V) (upd : Nat → Option P.V) : List P.V :=
  s.mapIdx fun i v => if cap i then (upd i).getD v else v

/-- outcome of a call-family instruction: fall through with new slots and pending arguments, or return -/
inductive XOut where
  | next (s a : List P.V)
  | ret (v : P.V)

/-- the opcodes `callCore` gives a semantics to -/
def isCallOp : Op → Bool
  | .push | .push2 | .push3 | .pushArray | .call | .tailcall
  | .makeArray | .makeBuffer | .makeString | .makeStruct | .makeTable | .makeTuple | .makeBracketTuple
  | .closure | .loadConstant | .loadSelf | .loadUpvalue | .setUpvalue | .typecheck | .putIndex => true
  | _ => false

variable {P} in
/-- pc-independent semantics of the call family on (slots, pending arguments) -/
def callCore (X : CallPrims P) (cap : Nat → Bool) (i : Instr) (s a : List P.V) : Option (M P (XOut P)) :=
  let nx (t b : List P.V) : M P (XOut P) := M.pure (.next t b)
  match i.op with
  | .push => some (nx s (a ++ [getS P s i.D]))
  | .push2 => some (nx s (a ++ [getS P s i.A, getS P s i.E]))
  | .push3 => some (nx s (a ++ [getS P s i.A, getS P s i.B, getS P s i.C]))
  | .pushArray =>
    some (match X.indexedView (getS P s i.D) with
      | some l => nx s (a ++ l)
      | none => M.throw (X.notIndexed (getS P s i.D)))
  | .call => some (M.bind (X.call (getS P s i.E) a (view P cap s)) fun r => nx ((merge P cap s r.2).set i.A r.1) [])
  | .tailcall => some (M.bind (X.call (getS P s i.D) a (view P cap s)) fun r => M.pure (.ret r.1))
  | .makeArray | .makeBuffer | .makeString | .makeStruct | .makeTable | .makeTuple | .makeBracketTuple =>
    some (M.bind (X.make i.op a) fun v => nx (s.set i.D v) [])
  | .closure => some (nx (s.set i.A (X.closure i.E)) a)
  | .loadConstant => some (nx (s.set i.A (X.constant i.E)) a)
  | .loadSelf => some (nx (s.set i.D X.self) a)
  | .loadUpvalue => some (fun w => (.ok (.next (s.set i.A (X.loadUpvalue i.B i.C w)) a), w))
  | .setUpvalue => some (fun w => (.ok (.next s a), X.setUpvalue i.B i.C (getS P s i.A) w))
  | .typecheck =>
    some (match X.typecheck (getS P s i.A) i.E with
      | some e => M.throw e
      | none => nx s a)
  | .putIndex => some (M.bind (X.putIndex (getS P s i.A) i.C (getS P s i.B)) fun _ => nx s a)
  | _ => none

variable {P} in
theorem callCore_isSome (X : CallPrims P) (cap : Nat → Bool) (i : Instr) (s a : List P.V) :
    (callCore X cap i s a).isSome = isCallOp i.op := by
  unfold callCore
  generalize i.op = op
  split
  case h_21 =>
    -- `op` is none of the opcodes `callCore` lists, which are those of `isCallOp`
    unfold isCallOp
    split
    all_goals first | rfl | exact absurd rfl (by assumption)
  all_goals rfl

variable {P} in
theorem callCore_none (X : CallPrims P) (cap : Nat → Bool) (i : Instr) (s a : List P.V) (h : isCallOp i.op = false) :
    callCore X cap i s a = none := by
  have := callCore_isSome X cap i s a
  rw [h] at this
  cases hc : callCore X cap i s a with
  | none => rfl
  | some _ => rw [hc] at this; cases this

/-- a frame with the pending (pushed, not yet consumed) arguments -/
structure XFrame where
  slots : List P.V
  args : List P.V
  pc : Nat

inductive XStep where
  | cont (f : XFrame P)
  | ret (v : P.V)

def placeX (pc : Nat) : XOut P → XStep P
  | .next s a => .cont ⟨s, a, pc + 1⟩
  | .ret v => .ret v

def liftStep (a : List P.V) : Step P → XStep P
  | .cont g => .cont ⟨g.slots, a, g.pc⟩
  | .ret v => .ret v

variable {P} in
/-- one step of the full interpreter: the call family first (so `JOP_PUSH_3`, whose operand layout is SSS, is a push), every
    other opcode as `VM.step` with the pending arguments untouched -/
def stepX (X : CallPrims P) (cap : Nat → Bool) (i : Instr) (f : XFrame P) : Option (M P (XStep P)) :=
  match callCore X cap i f.slots f.args with
  | some m => some (M.map P (placeX P f.pc) m)
  | none => (step P i ⟨f.slots, f.pc⟩).map (M.map P (liftStep P f.args))

variable {P} in
/-- run `code` from frame `f`; `none` = out of fuel or fell off the code (every opcode is modelled) -/
def execX (X : CallPrims P) (cap : Nat → Bool) (code : List Instr) : Nat → XFrame P → P.W → Option (Except P.E P.V × P.W)
  | 0, _, _ => none
  | fuel + 1, f, w =>
    match code[f.pc]? with
    | none => none
    | some i =>
      match stepX X cap i f with
      | none => none
      | some m =>
        match m w with
        | (.error e, w') => some (.error e, w')
        | (.ok (.ret v), w') => some (.ok v, w')
        | (.ok (.cont g), w') => execX X cap code fuel g w'

variable {P} in
theorem stepX_total (X : CallPrims P) (cap : Nat → Bool) (i : Instr) (f : XFrame P) : (stepX X cap i f).isSome = true := by
  unfold stepX
  cases hc : callCore X cap i f.slots f.args with
  | some m => rfl
  | none =>
    -- not a call opcode: `step` gives it a semantics
    have hn : isCallOp i.op = false := by rw [← callCore_isSome X cap i f.slots f.args, hc]; rfl
    rw [Option.isSome_map]
    unfold step
    generalize i.op = op at hn
    cases op <;> first | rfl | cases hn

variable {P} in
theorem execX_succ (X : CallPrims P) (cap : Nat → Bool) (code : List Instr) (k : Nat) (f : XFrame P) (w : P.W) (i : Instr)
    (m : M P (XStep P)) (hc : code[f.pc]? = some i) (hs : stepX X cap i f = some m) :
    execX X cap code (k + 1) f w =
      match m w with
      | (.error e, w') => some (.error e, w')
      | (.ok (.ret v), w') => some (.ok v, w')
      | (.ok (.cont g), w') => execX X cap code k g w' := by
  simp only [execX, hc, hs]

variable {P} in
theorem execX_mono (X : CallPrims P) (cap : Nat → Bool) (code : List Instr) (k : Nat) (f : XFrame P) (w : P.W) (r)
    (h : execX X cap code k f w = some r) (k' : Nat) (hk : k ≤ k') : execX X cap code k' f w = some r := by
  induction k generalizing f w k' with
  | zero => simp [execX] at h
  | succ k ih =>
    cases k' with
    | zero => omega
    | succ k' =>
      simp only [execX] at h ⊢
      cases hc : code[f.pc]? with
      | none => simp [hc] at h
      | some i =>
        simp only [hc] at h ⊢
        cases hs : stepX X cap i f with
        | none => simp [hs] at h
        | some m =>
          simp only [hs] at h ⊢
          cases hm : m w with
          | mk res w' =>
            simp only [hm] at h ⊢
            cases res with
            | error e => exact h
            | ok st =>
              cases st with
              | ret v => exact h
              | cont g => exact ih g w' h k' (by omega)

variable {P} in
/-- on code without call-family opcodes the full interpreter is `VM.exec` (so the template theorems carry over) -/
theorem execX_of_exec (X : CallPrims P) (cap : Nat → Bool) (code : List Instr) (hno : ∀ x ∈ code, isCallOp x.op = false) :
    ∀ (fuel : Nat) (s a : List P.V) (pc : Nat) (w : P.W) (r), exec P code fuel ⟨s, pc⟩ w = some r →
      execX X cap code fuel ⟨s, a, pc⟩ w = some r := by
  intro fuel
  induction fuel with
  | zero => intro s a pc w r h; simp [exec] at h
  | succ k ih =>
    intro s a pc w r h
    simp only [exec] at h
    simp only [execX]
    cases hc : code[pc]? with
    | none => simp [hc] at h
    | some x =>
      simp only [hc] at h ⊢
      have hcc := callCore_none X cap x s a (hno x (List.mem_of_getElem? hc))
      cases hs : step P x ⟨s, pc⟩ with
      | none => simp [hs] at h
      | some m =>
        simp only [hs] at h
        simp only [stepX, hcc, hs, Option.map_some, M.map, M.bind, M.pure]
        rcases hm : m w with ⟨(e | st), w'⟩
        · rw [hm] at h; exact h
        · cases st with
          | ret v => rw [hm] at h; exact h
          | cont g =>
            rw [hm] at h
            simp only [liftStep]
            exact ih g.slots a g.pc w' r h

end JanetModel.Bytecode.VM
