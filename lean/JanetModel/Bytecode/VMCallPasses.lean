import JanetModel.Bytecode.VMCall
import JanetModel.Bytecode.VMMovopt

/-!
The clean-up passes of bytecode.c over the FULL interpreter `VM.execX` (all 77 opcodes: calls, tail calls, pushes,
constructors, closures, upvalues, constants, typecheck): `janet_bytecode_remove_noops` and `janet_bytecode_movopt` preserve
the result, the error, the world - hence the sequence of calls with their arguments, since every call is an oracle step on
the world - from every pc.
-/

namespace JanetModel.Bytecode.VMPasses
open JanetModel.Gen.Bytecode JanetModel.Gen.Cfuns JanetModel.Bytecode.VM

variable {P : Prims}

inductive OutX (P : Prims) where
  | next (s a : List P.V)
  | jump (s a : List P.V) (off : Int)
  | ret (v : P.V)

def ofXOut : XOut P → OutX P
  | .next s a => .next s a
  | .ret v => .ret v

def ofOutcome (a : List P.V) : Outcome P → OutX P
  | .next s => .next s a
  | .jump s o => .jump s a o
  | .ret v => .ret v

def coreX (X : CallPrims P) (cap : Nat → Bool) (x : Instr) (s a : List P.V) : Option (M P (OutX P)) :=
  match callCore X cap x s a with
  | some m => some (M.map P ofXOut m)
  | none => (stepCore P x s).map (M.map P (ofOutcome a))

def toStepX (pc : Nat) : OutX P → XStep P
  | .next s a => .cont ⟨s, a, pc + 1⟩
  | .jump s a off => .cont ⟨s, a, (Int.ofNat pc + off).toNat⟩
  | .ret v => .ret v

theorem M.map_map {α β γ} (g : β → γ) (f : α → β) (m : M P α) : M.map P g (M.map P f m) = M.map P (fun x => g (f x)) m := by
  funext w
  simp only [M.map, M.bind, M.pure]
  rcases m w with ⟨(_ | _), _⟩ <;> rfl

theorem M.map_congr {α β} (g h : α → β) (m : M P α) (e : ∀ x, g x = h x) : M.map P g m = M.map P h m := by
  have : g = h := funext e
  rw [this]

/-- `stepX` is `coreX` on slots and pending arguments, with the outcome placed at the current pc -/
theorem stepX_core (X : CallPrims P) (cap : Nat → Bool) (i : Instr) (f : XFrame P) :
    stepX X cap i f = (coreX X cap i f.slots f.args).map (M.map P (toStepX f.pc)) := by
  unfold stepX coreX
  cases hcc : callCore X cap i f.slots f.args with
  | some m =>
    simp only [Option.map_some, M.map_map]
    congr 1
    apply M.map_congr
    intro o; cases o <;> rfl
  | none =>
    simp only [step_core, Option.map_map]
    congr 1
    funext m
    simp only [Function.comp, M.map_map]
    apply M.map_congr
    intro o; cases o <;> rfl

theorem isCallOp_not_jump (op : Op) (h : isCallOp op = true) : isJumpOp op = false := by
  cases op <;> first | rfl | (simp [isCallOp] at h)

theorem isCallOp_not_noop (op : Op) (h : isCallOp op = true) : (op != .noop) = true := by
  cases op <;> first | rfl | (simp [isCallOp] at h)

theorem callCore_none_of_op (X : CallPrims P) (cap) (x y : Instr) (s a : List P.V) (hop : y.op = x.op) (h : callCore X cap x s a = none) :
    ∀ s' a', callCore X cap y s' a' = none := by
  intro s' a'
  have h1 := callCore_isSome X cap x s a
  rw [h] at h1
  exact callCore_none X cap y s' a' (hop ▸ h1.symm)

/-- `janet_bytecode_remove_noops` preserves behaviour for code with ANY opcode - calls, tail calls, pushes, constructors, closures,
    upvalues included: whatever the original computes from `pc` (result or error and the world after all effects, so the same calls
    with the same arguments in the same order) the rewritten code computes from `pc_map[pc]` with the same slots and pending arguments -/
theorem remove_noops_preserves_x (X : CallPrims P) (cap : Nat → Bool) (code : List Instr) (hwf : JumpsWf code) :
    ∀ (fuel : Nat) (s a : List P.V) (pc : Nat) (w : P.W) (r : Except P.E P.V × P.W),
      execX X cap code fuel ⟨s, a, pc⟩ w = some r → execX X cap (removeNoopsFull code) fuel ⟨s, a, pcMap code pc⟩ w = some r := by
  intro fuel
  induction fuel with
  | zero => intro s a pc w r h; simp [execX] at h
  | succ k ih =>
    intro s a pc w r h
    simp only [execX] at h
    cases hc : code[pc]? with
    | none => simp [hc] at h
    | some x =>
      obtain ⟨hlt, hx⟩ := List.getElem?_eq_some_iff.mp hc
      simp only [hc] at h
      by_cases hn : (x.op != .noop) = true
      · have hget := removeNoopsFull_get code pc hlt (by rw [hx]; exact hn)
        rw [hx] at hget
        have hsucc : pcMap code (pc + 1) = pcMap code pc + 1 := by
          rw [pcMap_succ code pc hlt, hx]; simp [hn]
        cases hcc : callCore X cap x s a with
        | some mc =>
          -- a call-family instruction: not a jump, so it is copied unchanged
          have hco : isCallOp x.op = true := by
            have := callCore_isSome X cap x s a
            rw [hcc] at this
            exact this.symm
          rw [retarget_nonjump code pc x (isCallOp_not_jump x.op hco)] at hget
          simp only [stepX, hcc] at h
          simp only [execX, hget, stepX, hcc]
          simp only [M.map, M.bind, M.pure] at h ⊢
          rcases hm : mc w with ⟨(e | o), w'⟩
          · rw [hm] at h; exact h
          · rw [hm] at h
            cases o with
            | ret v => exact h
            | next s' a' =>
              simp only [placeX] at h ⊢
              rw [← hsucc]
              exact ih s' a' (pc + 1) w' r h
        | none =>
          have hcc' := callCore_none_of_op X cap x (retarget code pc x) s a (retarget_op code pc x) hcc
          simp only [stepX, hcc] at h
          cases hs : step P x ⟨s, pc⟩ with
          | none => simp [hs] at h
          | some m =>
            simp only [hs, Option.map_some] at h
            obtain ⟨m', hm', hspec⟩ := retarget_step P code hwf pc hlt (by rw [hx]; exact hn) s m (by rw [hx]; exact hs)
            rw [hx] at hm'
            simp only [execX, hget, stepX, hcc' s a, hm', Option.map_some]
            have hw := hspec w
            simp only [M.map, M.bind, M.pure] at h ⊢
            rcases hmw : m w with ⟨(e | st), w'⟩
            · rw [hmw] at h hw; simp only [] at hw; rw [hw]; exact h
            · cases st with
              | ret v => rw [hmw] at h hw; simp only [] at hw; rw [hw]; exact h
              | cont g =>
                rw [hmw] at h hw
                simp only [] at hw h
                rw [hw]
                simp only [liftStep] at h ⊢
                exact ih g.slots a g.pc w' r h
      · have hop : x.op = .noop := by simpa using hn
        have hcc : callCore X cap x s a = none := by simp [callCore, hop]
        have hs : step P x ⟨s, pc⟩ = some (M.pure (.cont ⟨s, pc + 1⟩)) := by simp [step, hop, next]
        simp only [stepX, hcc, hs, Option.map_some, M.map, M.bind, M.pure, liftStep] at h
        have := ih s a (pc + 1) w r h
        have hpm : pcMap code (pc + 1) = pcMap code pc := by
          rw [pcMap_succ code pc hlt, hx]; simp [hop]
        rw [hpm] at this
        exact execX_mono X cap _ k _ w r this (k + 1) (by omega)

/-- related outcomes: same control transfer, same value, same pending arguments, slots agreeing outside `D` -/
def OutRelX (D : Nat → Bool) : OutX P → OutX P → Prop
  | .next s a, .next s' a' => Agree P D s s' ∧ a = a'
  | .jump s a o, .jump s' a' o' => Agree P D s s' ∧ a = a' ∧ o = o'
  | .ret v, .ret v' => v = v'
  | _, _ => False

def CoreRelX (D : Nat → Bool) : Option (M P (OutX P)) → Option (M P (OutX P)) → Prop := OptRel (OutRelX D)

theorem outRelX_refl (D : Nat → Bool) (o : OutX P) : OutRelX D o o := by
  cases o
  · exact ⟨agree_refl P D _, rfl⟩
  · exact ⟨agree_refl P D _, rfl, rfl⟩
  · rfl

theorem getElem?_of_agree (D : Nat → Bool) (s s' : List P.V) (h : Agree P D s s') (k : Nat) (hk : D k = false) : s[k]? = s'[k]? := by
  have hg := h.2 k hk
  unfold getS at hg
  rw [List.getD_eq_getElem?_getD, List.getD_eq_getElem?_getD] at hg
  by_cases hl : k < s.length
  · have hl' : k < s'.length := by rw [← h.1]; exact hl
    rw [List.getElem?_eq_getElem hl, List.getElem?_eq_getElem hl'] at hg ⊢
    simpa using hg
  · rw [List.getElem?_eq_none (by omega), List.getElem?_eq_none (by rw [← h.1]; omega)]

/-- a callee sees the same captured slots in both runs: no captured slot is dead -/
theorem view_agree (D cap : Nat → Bool) (hcap : ∀ k, cap k = true → D k = false) (s s' : List P.V) (h : Agree P D s s') :
    view P cap s = view P cap s' := by
  funext k
  unfold view
  by_cases hc : cap k = true
  · simp only [hc, if_true]
    exact getElem?_of_agree D s s' h k (hcap k hc)
  · simp [hc]

theorem getS_merge (cap : Nat → Bool) (s : List P.V) (u : Nat → Option P.V) (k : Nat) :
    getS P (merge P cap s u) k = if k < s.length then (if cap k then (u k).getD (getS P s k) else getS P s k) else P.nil := by
  unfold getS merge
  rw [List.getD_eq_getElem?_getD, List.getD_eq_getElem?_getD, List.getElem?_mapIdx]
  by_cases hl : k < s.length
  · simp [hl]
  · simp [hl, List.getElem?_eq_none (Nat.le_of_not_lt hl)]

theorem merge_agree (D cap : Nat → Bool) (s s' : List P.V) (h : Agree P D s s') (u : Nat → Option P.V) :
    Agree P D (merge P cap s u) (merge P cap s' u) := by
  refine ⟨by simp [merge, h.1], fun k hk => ?_⟩
  rw [getS_merge, getS_merge, h.1, h.2 k hk]

theorem mrel_map_bind {α : Type} (D : Nat → Bool) (c : M P α) (k k' : α → XOut P)
    (h : ∀ v, OutRelX D (ofXOut (k v)) (ofXOut (k' v))) :
    MRel (OutRelX D) (M.map P ofXOut (M.bind c fun v => M.pure (k v))) (M.map P ofXOut (M.bind c fun v => M.pure (k' v))) := by
  rw [M.map_bind, M.map_bind]
  exact mrel_bind (OutRelX D) c (fun v => ofXOut (k v)) (fun v => ofXOut (k' v)) h

/-- the call family reads only the slots `vmReads` lists and the captured slots: on slot arrays that agree outside `D`, with no
    listed and no captured slot in `D`, an instruction makes the same call with the same arguments and the same view, and leaves slot
    arrays that agree outside `D` -/
theorem callCore_respects (X : CallPrims P) (D cap : Nat → Bool) (hcap : ∀ k, cap k = true → D k = false) (x : Instr)
    (hr : ∀ f ∈ vmReads x.op, D (fieldVal x f) = false) (s s' a : List P.V) (h : Agree P D s s') :
    CoreRelX D ((callCore X cap x s a).map (M.map P ofXOut)) ((callCore X cap x s' a).map (M.map P ofXOut)) := by
  have ga : Field.a ∈ vmReads x.op → getS P s x.A = getS P s' x.A := fun hm => h.2 _ (hr _ hm)
  have gb : Field.b ∈ vmReads x.op → getS P s x.B = getS P s' x.B := fun hm => h.2 _ (hr _ hm)
  have gc : Field.c ∈ vmReads x.op → getS P s x.C = getS P s' x.C := fun hm => h.2 _ (hr _ hm)
  have gd : Field.d ∈ vmReads x.op → getS P s x.D = getS P s' x.D := fun hm => h.2 _ (hr _ hm)
  have ge : Field.e ∈ vmReads x.op → getS P s x.E = getS P s' x.E := fun hm => h.2 _ (hr _ hm)
  have hv := view_agree D cap hcap s s' h
  unfold callCore
  generalize x.op = op at ga gb gc gd ge
  -- in each arm: rewrite the slots read, listed in `vmReads`, to those of `s'`; what is left differs in the slot arrays written
  split
  case h_1 => rw [gd (by decide)]; exact mrel_pure (OutRelX D) _ _ ⟨h, rfl⟩
  case h_2 => rw [ga (by decide), ge (by decide)]; exact mrel_pure (OutRelX D) _ _ ⟨h, rfl⟩
  case h_3 => rw [ga (by decide), gb (by decide), gc (by decide)]; exact mrel_pure (OutRelX D) _ _ ⟨h, rfl⟩
  case h_4 =>
    rw [gd (by decide)]
    cases X.indexedView (getS P s' x.D)
    · exact fun w => ⟨rfl, rfl⟩
    · exact mrel_pure (OutRelX D) _ _ ⟨h, rfl⟩
  case h_5 =>
    rw [ge (by decide), hv]
    exact mrel_map_bind D _ _ _ fun r => ⟨agree_set P D _ _ (merge_agree D cap s s' h r.2) _ _, rfl⟩
  case h_6 => rw [gd (by decide), hv]; exact mrel_refl (OutRelX D) (outRelX_refl D) _
  case h_7 | h_8 | h_9 | h_10 | h_11 | h_12 | h_13 =>
    exact mrel_map_bind D _ _ _ fun v => ⟨agree_set P D s s' h _ _, rfl⟩
  case h_14 | h_15 | h_16 => exact mrel_pure (OutRelX D) _ _ ⟨agree_set P D s s' h _ _, rfl⟩
  case h_17 => exact fun w => ⟨⟨agree_set P D s s' h _ _, rfl⟩, rfl⟩
  case h_18 => rw [ga (by decide)]; exact fun w => ⟨⟨h, rfl⟩, rfl⟩
  case h_19 =>
    rw [ga (by decide)]
    cases X.typecheck (getS P s' x.A) x.E
    · exact mrel_pure (OutRelX D) _ _ ⟨h, rfl⟩
    · exact fun w => ⟨rfl, rfl⟩
  case h_20 => rw [ga (by decide), gb (by decide)]; exact mrel_map_bind D _ _ _ fun _ => ⟨h, rfl⟩
  case h_21 => trivial

theorem outRelX_ofOutcome (D : Nat → Bool) (a : List P.V) (o o' : Outcome P) (h : OutRel P D o o') :
    OutRelX D (ofOutcome a o) (ofOutcome a o') := by
  cases o <;> cases o' <;> simp_all [OutRel, OutRelX, ofOutcome]

theorem coreX_respects (X : CallPrims P) (D cap : Nat → Bool) (hcap : ∀ k, cap k = true → D k = false) (x : Instr)
    (hr : ∀ f ∈ vmReads x.op, D (fieldVal x f) = false) (s s' a : List P.V) (h : Agree P D s s') :
    CoreRelX D (coreX X cap x s a) (coreX X cap x s' a) := by
  have hcr := callCore_respects X D cap hcap x hr s s' a h
  unfold coreX
  cases h1 : callCore X cap x s a with
  | some m =>
    cases h2 : callCore X cap x s' a with
    | some m' => rw [h1, h2] at hcr; exact hcr
    | none => rw [h1, h2] at hcr; exact hcr.elim
  | none =>
    cases h2 : callCore X cap x s' a with
    | some m' => rw [h1, h2] at hcr; exact hcr.elim
    | none => exact OptRel.map (ofOutcome a) (outRelX_ofOutcome D a) (stepCore_respects P D x hr s s' h)

/-- an instruction the pass may delete: whenever it executes, all it does is write a dead slot (it may read the world) -/
def PureWriteDeadX (X : CallPrims P) (cap D : Nat → Bool) (x : Instr) : Prop :=
  ∀ s a m, coreX X cap x s a = some m → ∀ w, ∃ s', m w = (.ok (.next s' a), w) ∧ Agree P D s' s

def MovoptStepX (X : CallPrims P) (cap D : Nat → Bool) (code code' : List Instr) : Prop :=
  ∀ (i : Nat) (x : Instr), code[i]? = some x →
    code'[i]? = some x ∨ (∃ y : Instr, code'[i]? = some y ∧ y.op = Op.noop ∧ PureWriteDeadX X cap D x)

/-- generic theorem over the full interpreter: `D` a set of slots that no instruction reads and no closure captures; the pass
    turns only pure writes to `D` into noops; then the rewritten code computes the same result / error / world - the same calls with
    the same arguments in the same order - from slot arrays that agree outside `D` -/
theorem movopt_preserves_x (X : CallPrims P) (D cap : Nat → Bool) (hcap : ∀ k, cap k = true → D k = false) (code code' : List Instr)
    (hreads : ∀ x ∈ code, ∀ f ∈ vmReads x.op, D (fieldVal x f) = false) (hstep : MovoptStepX X cap D code code') :
    ∀ (fuel : Nat) (s s' a : List P.V) (pc : Nat) (w : P.W) (r : Except P.E P.V × P.W), Agree P D s s' →
      execX X cap code fuel ⟨s, a, pc⟩ w = some r → execX X cap code' fuel ⟨s', a, pc⟩ w = some r := by
  intro fuel
  induction fuel with
  | zero => intro s s' a pc w r _ h; simp [execX] at h
  | succ k ih =>
    intro s s' a pc w r hag h
    simp only [execX] at h
    cases hc : code[pc]? with
    | none => simp [hc] at h
    | some x =>
      simp only [hc] at h
      have hmem : x ∈ code := List.mem_of_getElem? hc
      rw [stepX_core] at h
      cases hsc : coreX X cap x s a with
      | none => simp [hsc] at h
      | some mc =>
        simp only [hsc, Option.map_some] at h
        rcases hstep pc x hc with hsame | ⟨y, hy, hnoop, hpure⟩
        · have hrel := coreX_respects X D cap hcap x (hreads x hmem) s s' a hag
          rw [hsc] at hrel
          cases hsc' : coreX X cap x s' a with
          | none => rw [hsc'] at hrel; exact hrel.elim
          | some mc' =>
            rw [hsc'] at hrel
            have hw := hrel w
            simp only [execX, hsame, stepX_core, hsc', Option.map_some]
            simp only [M.map, M.bind, M.pure] at h ⊢
            rcases h1 : mc w with ⟨(e | o), w1⟩ <;> rcases h2 : mc' w with ⟨(e' | o'), w2⟩ <;> rw [h1, h2] at hw <;>
              simp only [] at hw
            · obtain ⟨rfl, rfl⟩ := hw
              rw [h1] at h; exact h
            · obtain ⟨hor, rfl⟩ := hw
              rw [h1] at h
              cases o <;> cases o' <;> simp only [OutRelX] at hor
              · obtain ⟨hag', rfl⟩ := hor
                exact ih _ _ _ _ _ r hag' h
              · obtain ⟨hag', rfl, rfl⟩ := hor
                exact ih _ _ _ _ _ r hag' h
              · subst hor; exact h
        · obtain ⟨s1, hm1, hag1⟩ := hpure s a mc hsc w
          have hcy : callCore X cap y s' a = none := by simp [callCore, hnoop]
          have hs' : step P y ⟨s', pc⟩ = some (M.pure (.cont ⟨s', pc + 1⟩)) := by simp [step, hnoop, next]
          simp only [execX, hy, stepX, hcy, hs', Option.map_some, M.map, M.bind, M.pure, liftStep]
          simp only [M.map, M.bind, M.pure, hm1, toStepX] at h
          exact ih s1 s' a (pc + 1) w r (agree_trans P D _ _ _ hag1 hag) h

/-- the removable opcodes of the regenerated table are pure writes of the tested field, in the full interpreter too -/
theorem pureWriteDeadX_of_tables (X : CallPrims P) (cap D : Nat → Bool) (x : Instr) (f : Field) (hrem : movoptRemovable x.op = some f)
    (hok : movoptOpOk x.op = true) (hdead : D (fieldVal x f) = true)
    (hreadsC : ∀ g ∈ movoptReads x.op, D (fieldVal x g) = false) : PureWriteDeadX X cap D x := by
  unfold movoptOpOk at hok
  rw [hrem] at hok
  simp only [Bool.and_eq_true, beq_iff_eq, Bool.or_eq_true, List.contains_iff_mem] at hok
  obtain ⟨_, hw, hpure | hself⟩ := hok
  · intro s a m hm w
    simp only [pureOps, List.mem_cons, List.mem_nil_iff, or_false] at hpure
    rcases hpure with hop | hop | hop | hop | hop | hop | hop | hop | hop | hop <;>
      rw [hop] at hw <;> simp only [vmWrites, Option.some.injEq] at hw <;> subst hw <;>
      simp only [coreX, callCore, stepCore, hop, immBase, Op.itype, Option.map_some, Option.some.injEq, reduceCtorEq] at hm <;>
      subst hm <;>
      exact ⟨_, rfl, agree_set_dead P D s _ hdead _⟩
  · have := hreadsC f hself
    rw [this] at hdead
    cases hdead

/-- instance for the tables of bytecode.c over the full interpreter: `D` = slots the first loop leaves unmarked (no opcode's
    `movoptReads` field names them; the closure bitset is marked first, so no captured slot is in `D`); the second loop overwrites with
    `JOP_NOOP` only instructions whose `movoptRemovable` field names a slot of `D` -/
theorem movopt_preserves_tables_x (X : CallPrims P) (D cap : Nat → Bool) (hcap : ∀ k, cap k = true → D k = false) (code code' : List Instr)
    (hreadsC : ∀ x ∈ code, ∀ g ∈ movoptReads x.op, D (fieldVal x g) = false)
    (hok : ∀ x ∈ code, movoptOpOk x.op = true)
    (hchg : ∀ (i : Nat) (x : Instr), code[i]? = some x →
      code'[i]? = some x ∨ (code'[i]? = some ⟨.noop, 0⟩ ∧ ∃ f, movoptRemovable x.op = some f ∧ D (fieldVal x f) = true)) :
    ∀ (fuel : Nat) (s a : List P.V) (pc : Nat) (w : P.W) (r : Except P.E P.V × P.W),
      execX X cap code fuel ⟨s, a, pc⟩ w = some r → execX X cap code' fuel ⟨s, a, pc⟩ w = some r := by
  intro fuel s a pc w r h
  refine movopt_preserves_x X D cap hcap code code' (reads_of_tables D code hreadsC hok) ?_ fuel s s a pc w r (agree_refl P D s) h
  · intro i x hc
    rcases hchg i x hc with h1 | ⟨h1, f, hrem, hdead⟩
    · exact Or.inl h1
    · have hx : x ∈ code := List.mem_of_getElem? hc
      exact Or.inr ⟨_, h1, rfl, pureWriteDeadX_of_tables X cap D x f hrem (hok x hx) hdead (hreadsC x hx)⟩

end JanetModel.Bytecode.VMPasses
