import JanetModel.Bytecode.VMPasses

/-!
`janet_bytecode_movopt` preserves behaviour: a generic theorem for any set `D` of dead slots (slots no instruction of the
function reads), and its instance from the read / removable tables regenerated from bytecode.c.
-/

namespace JanetModel.Bytecode.VMPasses
open JanetModel.Gen.Bytecode JanetModel.Gen.Cfuns JanetModel.Bytecode.VM

variable (P : Prims)

/-- two slot arrays agree outside the dead slots -/
def Agree (D : Nat → Bool) (s s' : List P.V) : Prop := s.length = s'.length ∧ ∀ k, D k = false → getS P s k = getS P s' k

theorem agree_refl (D : Nat → Bool) (s : List P.V) : Agree P D s s := ⟨rfl, fun _ _ => rfl⟩

theorem getS_set (s : List P.V) (a k : Nat) (v : P.V) :
    getS P (s.set a v) k = if a = k ∧ a < s.length then v else getS P s k := by
  unfold getS
  rw [List.getD_eq_getElem?_getD, List.getD_eq_getElem?_getD, List.getElem?_set]
  by_cases h : a = k
  · subst h
    by_cases hl : a < s.length
    · simp [hl]
    · have : s[a]? = none := List.getElem?_eq_none (by omega)
      simp [hl, this]
  · simp [h]

theorem agree_set (D : Nat → Bool) (s s' : List P.V) (h : Agree P D s s') (a : Nat) (v : P.V) : Agree P D (s.set a v) (s'.set a v) := by
  refine ⟨by simp [h.1], fun k hk => ?_⟩
  rw [getS_set, getS_set, h.1, h.2 k hk]

theorem agree_set_dead (D : Nat → Bool) (s : List P.V) (a : Nat) (hd : D a = true) (v : P.V) : Agree P D (s.set a v) s := by
  refine ⟨by simp, fun k hk => ?_⟩
  rw [getS_set]
  have : a ≠ k := by intro h; subst h; rw [hd] at hk; cases hk
  simp [this]

theorem agree_trans (D : Nat → Bool) (a b c : List P.V) (h1 : Agree P D a b) (h2 : Agree P D b c) : Agree P D a c :=
  ⟨h1.1.trans h2.1, fun k hk => (h1.2 k hk).trans (h2.2 k hk)⟩

/-- related outcomes: same control transfer, same value, slots agreeing outside `D` -/
def OutRel (D : Nat → Bool) : Outcome P → Outcome P → Prop
  | .next s, .next s' => Agree P D s s'
  | .jump s o, .jump s' o' => Agree P D s s' ∧ o = o'
  | .ret v, .ret v' => v = v'
  | _, _ => False

section rel
variable {P} {O O' : Type}

/-- two actions fail alike or yield `Q`-related outcomes, and leave the same world -/
def MRel (Q : O → O → Prop) (m m' : M P O) : Prop :=
  ∀ w, match m w, m' w with
    | (.error e, w1), (.error e', w2) => e = e' ∧ w1 = w2
    | (.ok o, w1), (.ok o', w2) => Q o o' ∧ w1 = w2
    | _, _ => False

/-- an instruction has a semantics on both sides or on neither, and then the actions are related -/
def OptRel (Q : O → O → Prop) : Option (M P O) → Option (M P O) → Prop
  | none, none => True
  | some m, some m' => MRel Q m m'
  | _, _ => False

theorem mrel_pure (Q : O → O → Prop) (o o' : O) (h : Q o o') : MRel (P := P) Q (M.pure o) (M.pure o') := by
  intro w; exact ⟨h, rfl⟩

theorem mrel_throw (Q : O → O → Prop) (e : P.E) : MRel Q (M.throw e) (M.throw e) := by
  intro w; exact ⟨rfl, rfl⟩

theorem mrel_refl (Q : O → O → Prop) (hQ : ∀ o, Q o o) (m : M P O) : MRel Q m m := by
  intro w
  rcases m w with ⟨(e | o), w1⟩
  · exact ⟨rfl, rfl⟩
  · exact ⟨hQ o, rfl⟩

theorem MRel.map {Q : O → O → Prop} {Q' : O' → O' → Prop} (g : O → O') (hg : ∀ o o', Q o o' → Q' (g o) (g o'))
    {m m' : M P O} (h : MRel Q m m') : MRel Q' (M.map P g m) (M.map P g m') := by
  intro w
  have hw := h w
  simp only [M.map, M.bind, M.pure]
  rcases e1 : m w with ⟨(e | o), w1⟩ <;> rcases e2 : m' w with ⟨(e' | o'), w2⟩ <;> rw [e1, e2] at hw
  · exact hw
  · exact hw
  · exact hw
  · exact ⟨hg o o' hw.1, hw.2⟩

theorem OptRel.map {Q : O → O → Prop} {Q' : O' → O' → Prop} (g : O → O') (hg : ∀ o o', Q o o' → Q' (g o) (g o'))
    {c c' : Option (M P O)} (h : OptRel Q c c') : OptRel Q' (c.map (M.map P g)) (c'.map (M.map P g)) := by
  cases c <;> cases c'
  · trivial
  · exact h
  · exact h
  · exact MRel.map g hg h

theorem mrel_bind {α : Type} (Q : O → O → Prop) (c : M P α) (k k' : α → O) (h : ∀ v, Q (k v) (k' v)) :
    MRel Q (M.bind c fun v => M.pure (k v)) (M.bind c fun v => M.pure (k' v)) := by
  intro w
  simp only [M.bind, M.pure]
  rcases c w with ⟨(e | v), w1⟩
  · exact ⟨rfl, rfl⟩
  · exact ⟨h v, rfl⟩

end rel

def CoreRel (D : Nat → Bool) : Option (M P (Outcome P)) → Option (M P (Outcome P)) → Prop := OptRel (OutRel P D)

/-- `stepCore` reads only the slots `vmReads` lists: on slot arrays that agree outside `D`, with no listed slot in `D`, it
    behaves the same and leaves slot arrays that agree outside `D` -/
theorem stepCore_respects (D : Nat → Bool) (x : Instr) (hr : ∀ f ∈ vmReads x.op, D (fieldVal x f) = false)
    (s s' : List P.V) (h : Agree P D s s') : CoreRel P D (stepCore P x s) (stepCore P x s') := by
  have g : ∀ r ∈ vmReads x.op, getS P s (fieldVal x r) = getS P s' (fieldVal x r) := fun r hm => h.2 _ (hr r hm)
  have ha : Field.a ∈ vmReads x.op → getS P s x.A = getS P s' x.A := g .a
  have hb : Field.b ∈ vmReads x.op → getS P s x.B = getS P s' x.B := g .b
  have hc : Field.c ∈ vmReads x.op → getS P s x.C = getS P s' x.C := g .c
  have sh := stepCore_shape P x
  generalize stepCore P x = f at sh
  cases sh <;> dsimp only
  case none => trivial
  case next => exact mrel_pure (OutRel P D) _ _ h
  case retNil => exact mrel_pure (OutRel P D) _ _ rfl
  case ret r hm => exact mrel_pure (OutRel P D) _ _ (g r hm)
  case load => exact mrel_pure (OutRel P D) _ _ (agree_set P D s s' h _ _)
  case move r hm => rw [g r hm]; exact mrel_pure (OutRel P D) _ _ (agree_set P D s s' h _ _)
  case jump => exact mrel_pure (OutRel P D) _ _ ⟨h, rfl⟩
  case branch c hm _ =>
    rw [ha hm]
    cases c (getS P s' x.A)
    · exact mrel_pure (OutRel P D) _ _ h
    · exact mrel_pure (OutRel P D) _ _ ⟨h, rfl⟩
  case branchNot c hm _ =>
    rw [ha hm]
    cases c (getS P s' x.A)
    · exact mrel_pure (OutRel P D) _ _ ⟨h, rfl⟩
    · exact mrel_pure (OutRel P D) _ _ h
  case eff1 r hm => rw [g r hm]; exact mrel_bind (OutRel P D) _ _ _ fun v => agree_set P D s s' h _ v
  case eff2 hm hm' => rw [hb hm, hc hm']; exact mrel_bind (OutRel P D) _ _ _ fun v => agree_set P D s s' h _ v
  case put hm hm' hm'' => rw [ha hm, hb hm', hc hm'']; exact mrel_bind (OutRel P D) _ _ _ fun _ => h
  case raise hm => rw [ha hm]; exact mrel_throw (OutRel P D) _

/-- an instruction the pass may delete: whenever it executes at all, all it does is write a dead slot -/
def PureWriteDead (D : Nat → Bool) (x : Instr) : Prop :=
  ∀ s m, stepCore P x s = some m → ∃ s', m = M.pure (.next s') ∧ Agree P D s' s

/-- `code'` is `code` with some such instructions overwritten by noops (one round of the second loop of movopt) -/
def MovoptStep (D : Nat → Bool) (code code' : List Instr) : Prop :=
  ∀ (i : Nat) (x : Instr), code[i]? = some x → code'[i]? = some x ∨ (∃ y : Instr, code'[i]? = some y ∧ y.op = Op.noop ∧ PureWriteDead P D x)

/-- generic theorem: if no instruction reads a slot of `D` and the pass only turns pure writes to `D` into noops, the
    rewritten code computes the same result / error / effects, from slot arrays that agree outside `D` -/
theorem movopt_preserves (D : Nat → Bool) (code code' : List Instr)
    (hreads : ∀ x ∈ code, ∀ f ∈ vmReads x.op, D (fieldVal x f) = false) (hstep : MovoptStep P D code code') :
    ∀ (fuel : Nat) (s s' : List P.V) (pc : Nat) (w : P.W) (r : Except P.E P.V × P.W), Agree P D s s' →
      exec P code fuel ⟨s, pc⟩ w = some r → exec P code' fuel ⟨s', pc⟩ w = some r := by
  intro fuel
  induction fuel with
  | zero => intro s s' pc w r _ h; simp [exec] at h
  | succ k ih =>
    intro s s' pc w r hag h
    simp only [exec] at h
    cases hc : code[pc]? with
    | none => simp [hc] at h
    | some x =>
      simp only [hc] at h
      have hmem : x ∈ code := List.mem_of_getElem? hc
      rw [step_core] at h
      cases hsc : stepCore P x s with
      | none => simp [hsc] at h
      | some mc =>
        simp only [hsc, Option.map_some] at h
        rcases hstep pc x hc with hsame | ⟨y, hy, hnoop, hpure⟩
        · -- instruction kept
          have hrel := stepCore_respects P D x (hreads x hmem) s s' hag
          rw [hsc] at hrel
          cases hsc' : stepCore P x s' with
          | none => rw [hsc'] at hrel; exact hrel.elim
          | some mc' =>
            rw [hsc'] at hrel
            have hw := hrel w
            simp only [exec, hsame, step_core, hsc', Option.map_some]
            simp only [M.map, M.bind, M.pure] at h ⊢
            rcases h1 : mc w with ⟨(e | o), w1⟩ <;> rcases h2 : mc' w with ⟨(e' | o'), w2⟩ <;> rw [h1, h2] at hw <;>
              simp only [] at hw
            · obtain ⟨rfl, rfl⟩ := hw
              rw [h1] at h; exact h
            · obtain ⟨hor, rfl⟩ := hw
              rw [h1] at h
              cases o <;> cases o' <;> simp only [OutRel] at hor
              · exact ih _ _ _ _ r hor h
              · obtain ⟨hag', rfl⟩ := hor
                exact ih _ _ _ _ r hag' h
              · subst hor; exact h
        · -- instruction replaced by a noop: the original only wrote a dead slot
          obtain ⟨s1, rfl, hag1⟩ := hpure s mc hsc
          have hs' : step P y ⟨s', pc⟩ = some (M.pure (.cont ⟨s', pc + 1⟩)) := by simp [step, hnoop, next]
          simp only [exec, hy, hs', M.pure]
          simp only [M.map, M.bind, M.pure, toStep] at h
          exact ih s1 s' (pc + 1) w r (agree_trans P D _ _ _ hag1 hag) h

/-- the writes of the pure opcodes, as `stepCore` performs them -/
theorem pureWriteDead_of_tables (D : Nat → Bool) (x : Instr) (f : Field) (hrem : movoptRemovable x.op = some f)
    (hok : movoptOpOk x.op = true) (hdead : D (fieldVal x f) = true)
    (hreadsC : ∀ g ∈ movoptReads x.op, D (fieldVal x g) = false) : PureWriteDead P D x := by
  unfold movoptOpOk at hok
  rw [hrem] at hok
  simp only [Bool.and_eq_true, beq_iff_eq, Bool.or_eq_true, List.contains_iff_mem] at hok
  obtain ⟨_, hw, hpure | hself⟩ := hok
  · intro s m hm
    simp only [pureOps, List.mem_cons, List.mem_nil_iff, or_false] at hpure
    rcases hpure with hop | hop | hop | hop | hop | hop | hop | hop | hop | hop <;>
      rw [hop] at hw <;> simp only [vmWrites, Option.some.injEq] at hw <;> subst hw <;>
      simp only [stepCore, hop, immBase, Op.itype, Option.some.injEq, reduceCtorEq] at hm <;>
      (try subst hm) <;>
      first
        | exact ⟨_, rfl, agree_set_dead P D s _ hdead _⟩
        | exact absurd hm (by simp)
  · have := hreadsC f hself
    rw [this] at hdead
    cases hdead

/-- a slot the VM model reads is a slot the table of bytecode.c lists as read, for every opcode that passes `movoptOpOk` -/
theorem reads_of_tables (D : Nat → Bool) (code : List Instr)
    (hreadsC : ∀ x ∈ code, ∀ g ∈ movoptReads x.op, D (fieldVal x g) = false) (hok : ∀ x ∈ code, movoptOpOk x.op = true) :
    ∀ x ∈ code, ∀ f ∈ vmReads x.op, D (fieldVal x f) = false := by
  intro x hx f hf
  have := hok x hx
  unfold movoptOpOk at this
  simp only [Bool.and_eq_true, List.all_eq_true, List.contains_iff_mem] at this
  exact hreadsC x hx f (this.1 f hf)

/-- instance for the tables of bytecode.c: `D` = slots the first loop leaves unmarked (no opcode's `movoptReads` field names
    them), the second loop overwrites with `JOP_NOOP` only instructions whose `movoptRemovable` field names a slot of `D`; for
    code whose opcodes satisfy the table side conditions `movoptOpOk`, the result is preserved -/
theorem movopt_preserves_tables (D : Nat → Bool) (code code' : List Instr)
    (hreadsC : ∀ x ∈ code, ∀ g ∈ movoptReads x.op, D (fieldVal x g) = false)
    (hok : ∀ x ∈ code, movoptOpOk x.op = true)
    (hchg : ∀ (i : Nat) (x : Instr), code[i]? = some x →
      code'[i]? = some x ∨ (code'[i]? = some ⟨.noop, 0⟩ ∧ ∃ f, movoptRemovable x.op = some f ∧ D (fieldVal x f) = true)) :
    ∀ (fuel : Nat) (s : List P.V) (pc : Nat) (w : P.W) (r : Except P.E P.V × P.W),
      exec P code fuel ⟨s, pc⟩ w = some r → exec P code' fuel ⟨s, pc⟩ w = some r := by
  intro fuel s pc w r h
  refine movopt_preserves P D code code' (reads_of_tables D code hreadsC hok) ?_ fuel s s pc w r (agree_refl P D s) h
  · intro i x hc
    rcases hchg i x hc with h1 | ⟨h1, f, hrem, hdead⟩
    · exact Or.inl h1
    · have hx : x ∈ code := List.mem_of_getElem? hc
      exact Or.inr ⟨_, h1, rfl, pureWriteDead_of_tables P D x f hrem (hok x hx) hdead (hreadsC x hx)⟩

end JanetModel.Bytecode.VMPasses
