import JanetModel.Bytecode.VM
import JanetModel.Util.Bits

/-!
Running code on the VM model: `exec` (fuelled), instruction constructors by operand layout with their field lemmas, and
the extra laws (argument tuples, loop counters) the generic templates of corelib.c rely on.  Core Lean only.
-/

namespace JanetModel.Bytecode.VM
open JanetModel.Gen.Bytecode

variable (P : Prims)

/-- run `code` from frame `f`; `none` = out of fuel, fell off the code, or an opcode outside the modelled subset -/
def exec (code : List Instr) : Nat → Frame P → P.W → Option (Except P.E P.V × P.W)
  | 0, _, _ => none
  | fuel + 1, f, w =>
    match code[f.pc]? with
    | none => none
    | some i =>
      match step P i f with
      | none => none
      | some m =>
        match m w with
        | (.error e, w') => some (.error e, w')
        | (.ok (.ret v), w') => some (.ok v, w')
        | (.ok (.cont g), w') => exec code fuel g w'

theorem exec_mono (code : List Instr) (k : Nat) (f : Frame P) (w : P.W) (r) (h : exec P code k f w = some r) (k' : Nat) (hk : k ≤ k') :
    exec P code k' f w = some r := by
  induction k generalizing f w k' with
  | zero => simp [exec] at h
  | succ k ih =>
    cases k' with
    | zero => omega
    | succ k' =>
      simp only [exec] at h ⊢
      cases hc : code[f.pc]? with
      | none => simp [hc] at h
      | some i =>
        simp only [hc] at h ⊢
        cases hs : step P i f with
        | none => simp [hs] at h
        | some m =>
          simp only [hs] at h ⊢
          cases hm : m w with
          | mk res w' =>
            simp only [hm] at h ⊢
            cases res with
            | error e => exact h
            | ok st =>
              cases st with
              | ret v => exact h
              | cont g => exact ih g w' h k' (by omega)

def mkABC (op : Op) (a b c : Nat) : Instr := ⟨op, a + 256 * b + 65536 * c⟩
/-- SSI / SI with a signed immediate in the C byte -/
def mkABI (op : Op) (a b : Nat) (i : Int) : Instr := ⟨op, a + 256 * b + 65536 * (i % 256).toNat⟩
def mkAE (op : Op) (a e : Nat) : Instr := ⟨op, a + 256 * e⟩
/-- SI / SL with a signed 16-bit field -/
def mkAI (op : Op) (a : Nat) (i : Int) : Instr := ⟨op, a + 256 * (i % 65536).toNat⟩
def mkD (op : Op) (d : Nat) : Instr := ⟨op, d⟩

theorem mkABC_A (op a b c) (ha : a < 256) : (mkABC op a b c).A = a := by simp [mkABC, Instr.A]; omega
theorem mkABC_B (op a b c) (ha : a < 256) (hb : b < 256) : (mkABC op a b c).B = b := by simp [mkABC, Instr.B]; omega
theorem mkABC_C (op a b c) (ha : a < 256) (hb : b < 256) (hc : c < 256) : (mkABC op a b c).C = c := by simp [mkABC, Instr.C]; omega
theorem mkABI_A (op a b i) (ha : a < 256) : (mkABI op a b i).A = a := by simp [mkABI, Instr.A]; omega
theorem mkABI_B (op a b i) (ha : a < 256) (hb : b < 256) : (mkABI op a b i).B = b := by simp [mkABI, Instr.B]; omega
theorem signExt8 (i : Int) (hi : -128 ≤ i ∧ i < 128) : signExt 8 (i % 256).toNat = i :=
  Util.sext_wrap 128 i hi.1 hi.2
theorem signExt16 (i : Int) (hi : -32768 ≤ i ∧ i < 32768) : signExt 16 (i % 65536).toNat = i :=
  Util.sext_wrap 32768 i hi.1 hi.2
theorem mkABI_CS (op a b) (i : Int) (ha : a < 256) (hb : b < 256) (hi : -128 ≤ i ∧ i < 128) : (mkABI op a b i).CS = i := by
  have h1 : (mkABI op a b i).C = (i % 256).toNat := by simp only [mkABI, Instr.C]; omega
  unfold Instr.CS
  rw [h1]
  exact signExt8 i hi
theorem mkAE_A (op a e) (ha : a < 256) : (mkAE op a e).A = a := by simp [mkAE, Instr.A]; omega
theorem mkAE_E (op a e) (ha : a < 256) (he : e < 65536) : (mkAE op a e).E = e := by simp [mkAE, Instr.E]; omega
theorem mkAI_A (op a i) (ha : a < 256) : (mkAI op a i).A = a := by simp [mkAI, Instr.A]; omega
theorem mkAI_ES (op a) (i : Int) (ha : a < 256) (hi : -32768 ≤ i ∧ i < 32768) : (mkAI op a i).ES = i := by
  have h1 : (mkAI op a i).E = (i % 65536).toNat := by simp only [mkAI, Instr.E]; omega
  unfold Instr.ES
  rw [h1]
  exact signExt16 i hi
theorem mkD_D (op d) (hd : d < 16777216) : (mkD op d).D = d := by simp [mkD, Instr.D]; omega

/-- argument tuples and small-integer counters: what `JOP_LENGTH`, `JOP_GET_INDEX`, `JOP_IN` do on the vararg tuple and what
    number arithmetic / comparison does on the loop counter (exact on doubles for |values| < 2^53) -/
structure TupleLaws where
  tup : List P.V → P.V
  length_tup : ∀ l, P.unary .length (tup l) = M.pure (P.num l.length)
  getIndex_tup : ∀ (l : List P.V) (i : Nat) (h : i < l.length), P.getIndex (tup l) i = M.pure l[i]
  in_tup : ∀ (l : List P.V) (i : Nat) (h : i < l.length), P.other .in (tup l) (P.num i) = M.pure l[i]
  numEq_num : ∀ a b : Int, P.numEq (P.num a) (P.num b) = (a == b)
  numLt_num : ∀ a b : Int, P.numRel .lessThan (P.num a) (P.num b) = decide (a < b)
  add_num : ∀ a b : Int, P.arith .add (P.num a) (P.num b) = .ok (P.num (a + b))

end JanetModel.Bytecode.VM
