/- C14 — which method body each arithmetic opcode reaches on the current tree (`cfgGen`) when one operand is a box, and what the
   bodies return on integers of magnitude ≤ 2^53; `Props/C14.lean` derives the type-mix theorems from these.
   Proof file (Mathlib via IeeeInt), not linked into the driver. -/
import JanetModel.Int64.IeeeInt
import JanetModel.Int64.LemmasN
namespace JanetModel.Int64
open JanetModel.Gen.Int64 JanetModel.Int64.Ieee

/-- what every two-argument method does with the operand that is not the receiver: unwrap it in the receiver's kind, operate, box -/
def viaBox (k : Kind) (v : Val) (M : ℤ → Res ℤ) : Res Val :=
  (unwrap k v).bind (fun b => (M b).bind (fun r => .ok (Val.box k r)))

theorem viaBox_ok {k : Kind} {v : Val} {M : ℤ → Res ℤ} {b r : ℤ} (hu : unwrap k v = .ok b) (hM : M b = .ok r) :
    viaBox k v M = .ok (Val.box k r) := by
  rw [viaBox, hu, bind_ok, hM, bind_ok]

/-! Which method body an opcode reaches.  A box on the left: its method, whatever the right operand; a number on the left of
a box: the box's reversed method, which computes lhs ⊕ rhs (`a` is the number's integer). -/

/-- `+ - *` reach the same macro-defined body for both kinds -/
theorem vmOp_box_left (N : NumOps) (k : Kind) (x : ℤ) :
    (∀ v, vmOp cfgGen N "binop" "+" (Val.box k x) v = viaBox k v (opMethod k "+" x)) ∧
    (∀ v, vmOp cfgGen N "binop" "-" (Val.box k x) v = viaBox k v (opMethod k "-" x)) ∧
    (∀ v, vmOp cfgGen N "binop" "*" (Val.box k x) v = viaBox k v (opMethod k "*" x)) := by
  cases k <;> exact ⟨fun _ => rfl, fun _ => rfl, fun _ => rfl⟩

theorem vmOp_box_right (N : NumOps) (k : Kind) (a : Nat) (y : ℤ) :
    vmOp cfgGen N "binop" "+" (.num a) (Val.box k y) = viaBox k (.num a) (fun b => opMethod k "+" y b) ∧
    vmOp cfgGen N "binop" "-" (.num a) (Val.box k y) = viaBox k (.num a) (fun b => opMethod k "-" b y) ∧
    vmOp cfgGen N "binop" "*" (.num a) (Val.box k y) = viaBox k (.num a) (fun b => opMethod k "*" y b) := by
  cases k <;> exact ⟨rfl, rfl, rfl⟩

/-- the division-like opcodes: a body per kind -/
theorem vmOp_s64_left (N : NumOps) (x : ℤ) :
    (∀ v, vmOp cfgGen N "binop" "/" (.s64 x) v = viaBox .s64 v (divMethodS cfgGen.guardDiv "div" "/" x)) ∧
    (∀ v, vmOp cfgGen N "remainder" "%" (.s64 x) v = viaBox .s64 v (divMethodS cfgGen.guardDiv "rem" "%" x)) ∧
    (∀ v, vmOp cfgGen N "divfloor" "div" (.s64 x) v = viaBox .s64 v (divfMethod cfgGen.guardDivf x)) ∧
    (∀ v, vmOp cfgGen N "modulo" "mod" (.s64 x) v = viaBox .s64 v (modMethod cfgGen.guardMod x)) :=
  ⟨fun _ => rfl, fun _ => rfl, fun _ => rfl, fun _ => rfl⟩

theorem vmOp_s64_right (N : NumOps) (a : Nat) (y : ℤ) :
    vmOp cfgGen N "binop" "/" (.num a) (.s64 y) = viaBox .s64 (.num a) (fun b => divMethodS cfgGen.guardDivi "div" "/" b y) ∧
    vmOp cfgGen N "remainder" "%" (.num a) (.s64 y) = viaBox .s64 (.num a) (fun b => divMethodS cfgGen.guardDivi "rem" "%" b y) ∧
    vmOp cfgGen N "divfloor" "div" (.num a) (.s64 y) = viaBox .s64 (.num a) (fun b => divfMethod cfgGen.guardDivfi b y) ∧
    vmOp cfgGen N "modulo" "mod" (.num a) (.s64 y) = viaBox .s64 (.num a) (fun b => modMethod cfgGen.guardModi b y) :=
  ⟨rfl, rfl, rfl, rfl⟩

theorem vmOp_u64_left (N : NumOps) (x : ℤ) :
    (∀ v, vmOp cfgGen N "binop" "/" (.u64 x) v = viaBox .u64 v (divMethodU "div" "/" x)) ∧
    (∀ v, vmOp cfgGen N "remainder" "%" (.u64 x) v = viaBox .u64 v (divMethodU "rem" "%" x)) ∧
    (∀ v, vmOp cfgGen N "divfloor" "div" (.u64 x) v = viaBox .u64 v (divMethodU "div" "/" x)) ∧
    (∀ v, vmOp cfgGen N "modulo" "mod" (.u64 x) v = viaBox .u64 v (divMethodU "mod" "%" x)) :=
  ⟨fun _ => rfl, fun _ => rfl, fun _ => rfl, fun _ => rfl⟩

theorem vmOp_u64_right (N : NumOps) (a : Nat) (y : ℤ) :
    vmOp cfgGen N "binop" "/" (.num a) (.u64 y) = viaBox .u64 (.num a) (fun b => divMethodU "div" "/" b y) ∧
    vmOp cfgGen N "remainder" "%" (.num a) (.u64 y) = viaBox .u64 (.num a) (fun b => divMethodU "rem" "%" b y) ∧
    vmOp cfgGen N "divfloor" "div" (.num a) (.u64 y) = viaBox .u64 (.num a) (fun b => divMethodU "div" "/" b y) ∧
    vmOp cfgGen N "modulo" "mod" (.num a) (.u64 y) = viaBox .u64 (.num a) (fun b => divMethodU "mod" "%" b y) :=
  ⟨rfl, rfl, rfl, rfl⟩

theorem vmOp_three_forms {c : Cfg} (N : NumOps) (k : Kind) (t o : String) (M M' : ℤ → ℤ → Res ℤ) (x y r : ℤ)
    (ux : unwrap k (Val.ofInt x) = .ok x) (uy : unwrap k (Val.ofInt y) = .ok y)
    (hL : ∀ v, vmOp c N t o (Val.box k x) v = viaBox k v (M x))
    (hR : vmOp c N t o (Val.ofInt x) (Val.box k y) = viaBox k (Val.ofInt x) (fun b => M' b y))
    (h : M x y = .ok r) (h' : M' x y = .ok r) :
    vmOp c N t o (Val.box k x) (Val.ofInt y) = .ok (Val.box k r) ∧
    vmOp c N t o (Val.ofInt x) (Val.box k y) = .ok (Val.box k r) ∧
    vmOp c N t o (Val.box k x) (Val.box k y) = .ok (Val.box k r) :=
  ⟨(hL _).trans (viaBox_ok uy h), hR.trans (viaBox_ok ux h'), (hL _).trans (viaBox_ok (unwrap_box k y) h)⟩

theorem vmOp_wrap_three_forms (N : NumOps) (k : Kind) (x y : ℤ) (ux : unwrap k (Val.ofInt x) = .ok x)
    (uy : unwrap k (Val.ofInt y) = .ok y) :
    ∀ p ∈ [("binop", "+", x + y), ("binop", "-", x - y), ("binop", "*", x * y)], k.inRange p.2.2 →
      vmOp cfgGen N p.1 p.2.1 (Val.box k x) (Val.ofInt y) = .ok (Val.box k p.2.2) ∧
      vmOp cfgGen N p.1 p.2.1 (Val.ofInt x) (Val.box k y) = .ok (Val.box k p.2.2) ∧
      vmOp cfgGen N p.1 p.2.1 (Val.box k x) (Val.box k y) = .ok (Val.box k p.2.2) := by
  obtain ⟨La, Ls, Lm⟩ := vmOp_box_left N k x
  obtain ⟨Ra, Rs, Rm⟩ := vmOp_box_right N k (encodeInt x) y
  have F := fun t o M M' r => vmOp_three_forms (c := cfgGen) N k t o M M' x y r ux uy
  intro p hp hz
  simp only [List.mem_cons, List.mem_nil_iff, or_false] at hp
  rcases hp with rfl | rfl | rfl
  · exact F _ _ _ (fun b y => opMethod k "+" y b) _ La Ra ((op_exact_of_inRange k x y).1 hz)
      (Int.add_comm y x ▸ (op_exact_of_inRange k y x).1 (Int.add_comm x y ▸ hz))
  · exact F _ _ _ _ _ Ls Rs ((op_exact_of_inRange k x y).2.1 hz) ((op_exact_of_inRange k x y).2.1 hz)
  · exact F _ _ _ (fun b y => opMethod k "*" y b) _ Lm Rm ((op_exact_of_inRange k x y).2.2 hz)
      (Int.mul_comm y x ▸ (op_exact_of_inRange k y x).2.2 (Int.mul_comm x y ▸ hz))

theorem inRange_of_le_two53 (x : ℤ) (hx : |x| ≤ 9007199254740992) : Kind.s64.inRange x := by
  have := abs_le.1 hx; simp only [Kind.inRange, int64Min, int64Max]; omega
theorem not_min_of_le_two53 (x y : ℤ) (hx : |x| ≤ 9007199254740992) : ¬ (x = int64Min ∧ y = -1) := by
  have := abs_le.1 hx; simp only [int64Min]; omega
theorem unwrapS_ofInt (x : ℤ) (hx : |x| ≤ 9007199254740992) : unwrap .s64 (Val.ofInt x) = .ok x :=
  (unwrap_ofInt x (by have := abs_le.1 hx; simp only [two53]; omega)).1
theorem unwrapU_ofInt (x : ℤ) (h0 : 0 ≤ x) (hx : |x| ≤ 9007199254740992) : unwrap .u64 (Val.ofInt x) = .ok x :=
  (unwrap_ofInt x (by have := abs_le.1 hx; simp only [two53]; omega)).2 h0

/-- the other box reinterpreted (`*(int64_t *) abst` / `*(uint64_t *) abst`) -/
theorem unwrapS_u64 (y : ℤ) (hy : |y| ≤ 9007199254740992) : unwrap .s64 (.u64 y) = .ok y :=
  congrArg Res.ok (wrap_of_inRange .s64 y (inRange_of_le_two53 y hy))
theorem unwrapU_s64 (y : ℤ) (h0 : 0 ≤ y) (hy : |y| ≤ 9007199254740992) : unwrap .u64 (.s64 y) = .ok y :=
  congrArg Res.ok (wrap_of_inRange .u64 y (by have := abs_le.1 hy; simp only [Kind.inRange, two64]; omega))

end JanetModel.Int64
