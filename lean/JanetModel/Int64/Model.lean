/- C14 — executable model of janet's 64-bit integer types (src/core/inttypes.c), of the operator dispatch in
   src/core/vm.c (`_vm_binop`, `_vm_bitop`, `vm_compop`, `janet_binop_call`) and of boot.janet's polymorphic `compare`.

   * Integers are mathematical `Int`s; every store into a box goes through `Kind.wrap` (reduction mod 2^64), exactly
     where the C casts to `(T)`.
   * Which C operation would be *undefined* is explicit: `Res.ub`.
   * The model is parametrised by `Cfg`: flags that the translator reads off the current source (`Gen/Int64.lean`):
     is the INT64_MIN / -1 case tested before each signed `/` and `%`; are the edge comparisons in
     compare_int64_double / compare_uint64_double inclusive.  `cfgGen` is the configuration of the current tree.
   * IEEE double arithmetic on two plain numbers is not modelled here: it is a parameter (`NumOps`); the instance the
     driver runs is `Ieee.ieee` (`Int64/Ieee.lean`).  Everything else is exact integer arithmetic.
   Core Lean only. -/
import JanetModel.Int64.Basic
import JanetModel.Int64.Scan
import JanetModel.Gen.Int64
namespace JanetModel.Int64
open JanetModel.Gen.Int64

/-- what a looping division method does with a zero divisor: `DIVZERO(name)` / `DIVZERO_NEXT(name)` inside the `for` -/
inductive ZeroAct where
  | error     -- janet_panic("division by zero")
  | ret       -- return janet_wrap_abstract(box): the call ends with the value computed so far
  | cont      -- continue: x mod 0 = x, go on with the next operand
  deriving DecidableEq, Repr

def zeroActOf (s : String) : ZeroAct := if s == "return" then .ret else if s == "continue" then .cont else .error

/-- what the translator found in the source -/
structure Cfg where
  guardDiv : Bool      -- DIVMETHOD_SIGNED          (`/`, `%`)
  guardDivi : Bool     -- DIVMETHODINVERT_SIGNED    (`r/`, `r%`)
  guardDivf : Bool     -- cfun_it_s64_divf          (`div`)
  guardDivfi : Bool    -- cfun_it_s64_divfi         (`rdiv`)
  guardMod : Bool      -- cfun_it_s64_mod           (`mod`)
  guardModi : Bool     -- cfun_it_s64_modi          (`rmod`)
  cmpSUpperIncl : Bool -- compare_int64_double:  `y >= (double) INT64_MAX` (true) or `y >` (false)
  cmpSLowerIncl : Bool -- compare_int64_double:  `y <= (double) INT64_MIN` (true) or `y <` (false)
  cmpUUpperIncl : Bool -- compare_uint64_double: `y >= (double) UINT64_MAX` (true) or `y >` (false)
  loopZeroMod : ZeroAct := .cont   -- DIVMETHOD(uint64_t, u64, mod, %): zero divisor inside the loop
  s64BelowU64 : Bool := false  -- `&janet_s64_type < &janet_u64_type` (link order; read by the harness, not in the source):
                               -- the primitive order `janet_compare` puts between an s64 and a u64
  deriving DecidableEq, Repr

/-- the current source tree -/
def cfgGen : Cfg :=
  { guardDiv := guardDivMethodSigned, guardDivi := guardDivMethodInvertSigned, guardDivf := guardDivf,
    guardDivfi := guardDivfi, guardMod := guardMod, guardModi := guardModi,
    cmpSUpperIncl := cmpS64UpperInclusive, cmpSLowerIncl := cmpS64LowerInclusive, cmpUUpperIncl := cmpU64UpperInclusive,
    loopZeroMod := zeroActOf loopZeroMod }

/-- the pinned tree e691f18 (for the counterexample theorems, independent of regeneration) -/
def cfgPinned : Cfg :=
  { guardDiv := true, guardDivi := true, guardDivf := false, guardDivfi := false, guardMod := false, guardModi := false,
    cmpSUpperIncl := false, cmpSLowerIncl := false, cmpUUpperIncl := false, loopZeroMod := .ret }

/-- every signed `/` and `%` is protected -/
def Cfg.allGuarded (c : Cfg) : Bool :=
  c.guardDiv && c.guardDivi && c.guardDivf && c.guardDivfi && c.guardMod && c.guardModi

/-- the double -> integer casts in the compare functions can only see representable values:
    `(double) INT64_MAX` = 2^63 and `(double) UINT64_MAX` = 2^64 themselves must be answered before the cast. -/
def Cfg.castsGuarded (c : Cfg) : Bool := c.cmpSUpperIncl && c.cmpUUpperIncl

/-! ## values -/

inductive Val where
  | num (bits : Nat)        -- a janet number, as the 64-bit pattern of the double
  | s64 (v : Int)           -- core/s64, invariant: int64Min ≤ v ≤ int64Max
  | u64 (v : Int)           -- core/u64, invariant: 0 ≤ v < 2^64
  | str (s : List Nat)      -- a janet string
  | bool (b : Bool)
  | nil
  | bytes (bs : List Nat)   -- a buffer (result of int/to-bytes)
  | unspec                  -- (unused since the link order became a `Cfg` field)
  deriving DecidableEq, Repr

def Val.box : Kind → Int → Val
  | .s64, v => .s64 v
  | .u64, v => .u64 v

def Val.ofInt (n : Int) : Val := .num (encodeInt n)

/-! ## janet_unwrap_s64 / janet_unwrap_u64 -/

/-- `(int64_t) n` / `(uint64_t) n` for the integer value n of a double: exact when n fits the type.  When it does not fit the
    conversion is undefined in ISO C (6.3.1.4); what x86-64 produces at the first value past the range (2^63 resp. 2^64) is the
    two's-complement wrap, and that is what the model returns (`unwrap_number_exact_or_rejected` shows the branch is never reached
    with such a value on the current tree). -/
def castS64 (n : Int) : Int := wrapS n
def castU64 (n : Int) : Int := wrapU n

/-- number branch of `janet_unwrap_s64` with the accepted window as parameters: integrality test, `lo ≤ d ≤ hi`, then `(int64_t) d` -/
def numToS64W (lo hi : Int) (d : Dbl) : Option Int :=
  match d.toInt? with
  | some n => if lo ≤ n ∧ n ≤ hi then some (castS64 n) else none
  | none => none

/-- number branch of `janet_unwrap_u64`, window as parameters, then `(uint64_t) d` -/
def numToU64W (lo hi : Int) (d : Dbl) : Option Int :=
  match d.toInt? with
  | some n => if lo ≤ n ∧ n ≤ hi then some (castU64 n) else none
  | none => none

/-- the number branch of `janet_unwrap_s64` of the current tree: window `unwrapS64Lo .. unwrapS64Hi` regenerated from the range
    test in inttypes.c (through `janet_checkint64range` of janet.h when the function uses it), bounds evaluated as the C compiler
    evaluates them in a comparison with a double (`(double) INT64_MAX` is 2^63) -/
def numToS64 (d : Dbl) : Option Int := numToS64W unwrapS64Lo unwrapS64Hi d

/-- the number branch of `janet_unwrap_u64` of the current tree -/
def numToU64 (d : Dbl) : Option Int := numToU64W unwrapU64Lo unwrapU64Hi d

def unwrapS (v : Val) : Res Int :=
  match v with
  | .num b => match numToS64 (decode b) with | some n => .ok n | none => .err .cvts
  | .str s => match scanInt64 s with | some n => .ok n | none => .err .cvts
  | .s64 x => .ok x
  | .u64 x => .ok (wrapS x)          -- *(int64_t *) abst
  | _ => .err .cvts

def unwrapU (v : Val) : Res Int :=
  match v with
  | .num b => match numToU64 (decode b) with | some n => .ok n | none => .err .cvtu
  | .str s => match scanU64 s with | some n => .ok n | none => .err .cvtu
  | .s64 x => .ok (wrapU x)          -- *(uint64_t *) abst
  | .u64 x => .ok x
  | _ => .err .cvtu

def unwrap : Kind → Val → Res Int
  | .s64 => unwrapS
  | .u64 => unwrapU

/-! ## the method bodies, on unwrapped operands (`a` = the box, `b` = the other operand; both in range of `k`) -/

/-- bitwise operators through the unsigned representation -/
def natBit (f : Nat → Nat → Nat) (a b : Int) : Int := Int.ofNat (f (wrapU a).toNat (wrapU b).toNat)

/-- hardware shift count: the C shift is only defined for counts below the width; x86-64 and AArch64 use the low
    6 bits.  (`shiftDefined` says when the C operation has a meaning.) -/
def shiftCount (b : Int) : Nat := (wrapU b % 64).toNat
def shiftDefined (b : Int) : Prop := wrapU b < 64

/-- `OPMETHOD(T, type, name, oper)`: `*box = (T) ((uint64_t) *box) oper ((uint64_t) b)` -/
def opMethod (k : Kind) (oper : String) (a b : Int) : Res Int :=
  match oper with
  | "+" => .ok (k.wrap (wrapU a + wrapU b))
  | "-" => .ok (k.wrap (wrapU a - wrapU b))
  | "*" => .ok (k.wrap (wrapU a * wrapU b))
  | "&" => .ok (k.wrap (natBit Nat.land a b))
  | "|" => .ok (k.wrap (natBit Nat.lor a b))
  | "^" => .ok (k.wrap (natBit Nat.xor a b))
  | "<<" => .ok (k.wrap (a * 2 ^ shiftCount b))     -- left operand has type T: two's-complement result (gcc/clang)
  | ">>" => .ok (k.wrap (a / 2 ^ shiftCount b))     -- T = int64_t: arithmetic shift (floor); uint64_t: logical
  | _ => .err .nomethod

/-- `UNARYMETHOD(T, type, not, ~)` -/
def notMethod (k : Kind) (a : Int) : Int := k.wrap (-a - 1)

/-- `DIVMETHOD(uint64_t, u64, name, oper)` on one operand -/
def divMethodU (name : String) (oper : String) (a b : Int) : Res Int :=
  if b = 0 then
    (match name with
     | "div" => if divzeroErrorsDiv then .err .divzero else .ok a
     | "rem" => if divzeroErrorsRem then .err .divzero else .ok a
     | _ => if divzeroErrorsMod then .err .divzero else .ok a)
  else if oper = "/" then .ok (a / b) else .ok (a % b)

/-- `DIVMETHOD_SIGNED(int64_t, s64, name, oper)` on one operand: C `/` and `%` truncate -/
def divMethodS (guard : Bool) (name : String) (oper : String) (a b : Int) : Res Int :=
  if b = 0 then
    (match name with
     | "div" => if divzeroErrorsDiv then .err .divzero else .ok a
     | "rem" => if divzeroErrorsRem then .err .divzero else .ok a
     | _ => if divzeroErrorsMod then .err .divzero else .ok a)
  else if guard && b = -1 && a = int64Min then .err .minneg
  else if b = -1 ∧ a = int64Min then .ub
  else if oper = "/" then .ok (Int.tdiv a b) else .ok (Int.tmod a b)

/-- `cfun_it_s64_divf` / `divfi` on (op1, op2) -/
def divfMethod (guard : Bool) (op1 op2 : Int) : Res Int :=
  if op2 = 0 then .err .divzero
  else if guard && op2 = -1 && op1 = int64Min then .err .minneg
  else if op2 = -1 ∧ op1 = int64Min then .ub
  else
    let x := Int.tdiv op1 op2
    -- (op1 ^ op2) < 0  <=>  the sign bits differ
    let adj : Int := if (decide (op1 < 0) != decide (op2 < 0)) && x * op2 != op1 then 1 else 0
    .ok (wrapS (x - adj))

/-- `cfun_it_s64_mod` / `modi` on (op1, op2); the accepted guard is an `else if (op2 == -1) *box = 0` arm -/
def modMethod (guard : Bool) (op1 op2 : Int) : Res Int :=
  if op2 = 0 then .ok op1
  else if guard && op2 = -1 then .ok 0
  else if op2 = -1 ∧ op1 = int64Min then .ub
  else
    let x := Int.tmod op1 op2
    .ok (wrapS (if (decide (op1 < 0) != decide (op2 < 0)) && x != 0 then x + op2 else x))

/-! ## mixed comparison -/

def dblOfInt (n : Int) : Dbl := .fin (n < 0) n.natAbs 0

/-- `compare_int64_double` -/
def compareInt64Double (c : Cfg) (x : Int) (y : Dbl) : Res Int :=
  match y with
  | .nan => .ok 0
  | _ =>
    if cmpIntDbl intMinDouble y = -1 ∧ cmpIntDbl intMaxDouble y = 1 then .ok (cmpIntDbl (rnd53 x) y)
    else if (if c.cmpSUpperIncl then cmpIntDbl two63 y ≤ 0 else cmpIntDbl two63 y = -1) then .ok (-1)   -- (double) INT64_MAX = 2^63
    else if (if c.cmpSLowerIncl then cmpIntDbl int64Min y ≥ 0 else cmpIntDbl int64Min y = 1) then .ok 1
    else
      match y.trunc? with                         -- (int64_t) y
      | some yi => if int64Min ≤ yi ∧ yi ≤ int64Max then .ok (cmp3 x yi) else .ub
      | none => .ub

/-- `compare_uint64_double` -/
def compareUint64Double (c : Cfg) (x : Int) (y : Dbl) : Res Int :=
  match y with
  | .nan => .ok 0
  | _ =>
    if cmpIntDbl 0 y = 1 then .ok 1                                               -- y < 0
    else if cmpIntDbl 0 y ≤ 0 ∧ cmpIntDbl intMaxDouble y = 1 then .ok (cmpIntDbl (rnd53 x) y)
    else if (if c.cmpUUpperIncl then cmpIntDbl two64 y ≤ 0 else cmpIntDbl two64 y = -1) then .ok (-1)   -- (double) UINT64_MAX = 2^64
    else
      match y.trunc? with                         -- (uint64_t) y
      | some yi => if 0 ≤ yi ∧ yi < two64 then .ok (cmp3 x yi) else .ub
      | none => .ub

/-- `cfun_it_s64_compare` / `cfun_it_u64_compare` (first argument is a box of kind `k`): `none` = returns nil -/
def compareMethod (c : Cfg) (k : Kind) (x : Int) (y : Val) : Res (Option Int) :=
  match k, y with
  | .s64, .num b => (compareInt64Double c x (decode b)).bind (fun r => .ok (some r))
  | .s64, .s64 yv => .ok (some (cmp3 x yv))
  | .s64, .u64 yv => .ok (some (if x < 0 then -1 else if yv > int64Max then -1 else cmp3 x yv))
  | .u64, .num b => (compareUint64Double c x (decode b)).bind (fun r => .ok (some r))
  | .u64, .u64 yv => .ok (some (cmp3 x yv))
  | .u64, .s64 yv => .ok (some (if yv < 0 then 1 else if x > int64Max then 1 else cmp3 x yv))
  | _, _ => .ok none

/-! ## method tables and invocation -/

def methodTable : Kind → List (String × String)
  | .s64 => s64Methods
  | .u64 => u64Methods

def kindName : Kind → String
  | .s64 => "s64"
  | .u64 => "u64"

def lookupInstance (cfun : String) : Option (String × String × String × String) :=
  (instances.find? (fun r => r.1 == cfun)).map (fun r => r.2)

/-- Call `cfun_it_<cfun>` with `argv = [a0, a1]`.  Macro-defined methods get their meaning from the generated
    instantiation row (macro, name, operator); the five hand-written ones are mirrored by name. -/
def callCfun2 (c : Cfg) (k : Kind) (cfun : String) (a0 a1 : Val) : Res Val :=
  match lookupInstance cfun with
  | some (mac, kd, name, oper) =>
    if kd != kindName k then .err .nomethod else
    match mac with
    | "OPMETHOD" => do
        let a ← unwrap k a0; let b ← unwrap k a1
        let r ← opMethod k oper a b; pure (Val.box k r)
    | "OPMETHODINVERT" => do
        let a ← unwrap k a1; let b ← unwrap k a0
        let r ← opMethod k oper a b; pure (Val.box k r)
    | "UNARYMETHOD" => .err .arity
    | "DIVMETHOD" => do
        let a ← unwrap k a0; let b ← unwrap k a1
        let r ← divMethodU name oper a b; pure (Val.box k r)
    | "DIVMETHODINVERT" => do
        let a ← unwrap k a1; let b ← unwrap k a0
        let r ← divMethodU name oper a b; pure (Val.box k r)
    | "DIVMETHOD_SIGNED" => do
        let a ← unwrap k a0; let b ← unwrap k a1
        let r ← divMethodS c.guardDiv name oper a b; pure (Val.box k r)
    | "DIVMETHODINVERT_SIGNED" => do
        let a ← unwrap k a1; let b ← unwrap k a0
        let r ← divMethodS c.guardDivi name oper a b; pure (Val.box k r)
    | _ => .err .nomethod
  | none =>
    let arg (i : Nat) : Val := if i = 0 then a0 else a1
    match cfun with
    | "s64_divf" => do
        let op1 ← unwrapS (arg divfArgs.1); let op2 ← unwrapS (arg divfArgs.2)
        let r ← divfMethod c.guardDivf op1 op2; pure (.s64 r)
    | "s64_divfi" => do
        let op2 ← unwrapS (arg divfiArgs.2); let op1 ← unwrapS (arg divfiArgs.1)
        let r ← divfMethod c.guardDivfi op1 op2; pure (.s64 r)
    | "s64_mod" => do
        let op1 ← unwrapS (arg modArgs.1); let op2 ← unwrapS (arg modArgs.2)
        let r ← modMethod c.guardMod op1 op2; pure (.s64 r)
    | "s64_modi" => do
        let op2 ← unwrapS (arg modiArgs.2); let op1 ← unwrapS (arg modiArgs.1)
        let r ← modMethod c.guardModi op1 op2; pure (.s64 r)
    | "s64_compare" =>
        (match a0 with
         | .s64 x => (compareMethod c .s64 x a1).bind (fun r => match r with | some i => .ok (Val.ofInt i) | none => .ok .nil)
         | _ => .err .nomethod)
    | "u64_compare" =>
        (match a0 with
         | .u64 x => (compareMethod c .u64 x a1).bind (fun r => match r with | some i => .ok (Val.ofInt i) | none => .ok .nil)
         | _ => .err .nomethod)
    | _ => .err .nomethod

/-- The loop of OPMETHOD / DIVMETHOD / DIVMETHOD_SIGNED over `argv[1..]`: `box` is updated operand by operand; an error
    (operand does not convert, division by zero) or undefined operation ends the call.  `zero` = what the macro does when
    the operand is 0 *before* the operation (`none` for OPMETHOD, which has no such test): see `ZeroAct`. -/
def methodLoop (k : Kind) (stepOp : Int → Int → Res Int) (zero : Option ZeroAct) : Int → List Val → Res Int
  | box, [] => .ok box
  | box, v :: rest =>
    match unwrap k v with
    | .ok b =>
      if zero.isSome && b = 0 then
        (match zero with
         | some .error => .err .divzero
         | some .ret => .ok box
         | _ => methodLoop k stepOp zero box rest)
      else
        (match stepOp box b with
         | .ok box' => methodLoop k stepOp zero box' rest
         | .err e => .err e
         | .ub => .ub)
    | .err e => .err e
    | .ub => .ub

/-- the zero action of the loop macro instantiated with `name` (div / rem: regenerated; mod: `Cfg`, regenerated in `cfgGen`) -/
def loopZero (c : Cfg) (name : String) : ZeroAct :=
  match name with
  | "div" => zeroActOf loopZeroDiv
  | "rem" => zeroActOf loopZeroRem
  | _ => c.loopZeroMod

/-- Call `cfun_it_<cfun>` with any number of arguments (`janet_arity(argc, 2, -1)` for the three looping macros,
    `janet_fixarity` for everything else). -/
def callCfunN (c : Cfg) (k : Kind) (cfun : String) (args : List Val) : Res Val :=
  match args with
  | [a0, a1] => callCfun2 c k cfun a0 a1
  | a0 :: a1 :: rest =>
    (match lookupInstance cfun with
     | some (mac, kd, name, oper) =>
       if kd != kindName k then .err .nomethod else
       match mac with
       | "OPMETHOD" => do
           let a ← unwrap k a0
           let r ← methodLoop k (opMethod k oper) none a (a1 :: rest); pure (Val.box k r)
       | "DIVMETHOD" => do
           let a ← unwrap k a0
           let r ← methodLoop k (divMethodU name oper) (some (loopZero c name)) a (a1 :: rest); pure (Val.box k r)
       | "DIVMETHOD_SIGNED" => do
           let a ← unwrap k a0
           let r ← methodLoop k (divMethodS c.guardDiv name oper) (some (loopZero c name)) a (a1 :: rest); pure (Val.box k r)
       | _ => .err .arity
     | none => .err .arity)
  | _ => .err .arity

/-- one-argument call (only `~`) -/
def callCfun1 (k : Kind) (cfun : String) (a0 : Val) : Res Val :=
  match lookupInstance cfun with
  | some ("UNARYMETHOD", _, _, "~") => do
      let a ← unwrap k a0; pure (Val.box k (notMethod k a))
  | _ => .err .arity

/-- `janet_method_lookup(x, name)`: only boxed integers have methods among the values considered -/
def methodOf (x : Val) (name : String) : Option (Kind × String) :=
  match x with
  | .s64 _ => (s64Methods.lookup name).map (fun f => (Kind.s64, f))
  | .u64 _ => (u64Methods.lookup name).map (fun f => (Kind.u64, f))
  | _ => none

/-- `janet_binop_call(lmethod, rmethod, lhs, rhs)`; the look-up order and argument orders are the generated flags -/
def binopCall (c : Cfg) (lm rm : String) (lhs rhs : Val) : Res Val :=
  let first := if binopFirstIsLhs then lhs else rhs
  let second := if binopSecondIsRhs then rhs else lhs
  match methodOf first lm with
  | some (k, f) => if binopLArgsInOrder then callCfun2 c k f lhs rhs else callCfun2 c k f rhs lhs
  | none =>
    match methodOf second rm with
    | some (k, f) => if binopRArgsSwapped then callCfun2 c k f rhs lhs else callCfun2 c k f lhs rhs
    | none => .err .nomethod

/-- `janet_mcall(name, 2, {x, y})` (immediate opcodes) -/
def mcall (c : Cfg) (name : String) (x y : Val) : Res Val :=
  match methodOf x name with
  | some (k, f) => callCfun2 c k f x y
  | none => .err .nomethod

/-! ## the VM's operator opcodes -/

/-- IEEE primitives on bit patterns: a parameter of the handlers below.  The instance is `Ieee.ieee` (`Int64/Ieee.lean`,
    proofs in `Int64/IeeeQ.lean`); the `NumOps`-generic theorems about plain-number operators (Props/C14, section "plain numbers")
    are about how the VM handlers below combine the primitives, under named hypotheses. -/
structure NumOps where
  add : Nat → Nat → Nat
  sub : Nat → Nat → Nat
  mul : Nat → Nat → Nat
  div : Nat → Nat → Nat
  floor : Nat → Nat
  fmod : Nat → Nat → Nat

/-- C `x2 == 0` on a double: +0.0 or -0.0 -/
def isZeroBits (b : Nat) : Bool :=
  match decode b with
  | .fin _ 0 _ => true
  | _ => false

/-- `vm_binop(op)` fast path: `x1 op x2` -/
def numBinop (N : NumOps) (oper : String) (a b : Nat) : Nat :=
  match oper with
  | "+" => N.add a b
  | "-" => N.sub a b
  | "*" => N.mul a b
  | "/" => N.div a b
  | _ => 0x7ff8000000000000

/-- `JOP_DIVIDE_FLOOR` fast path: `floor(x1 / x2)` (shape asserted by the translator) -/
def numDivFloor (N : NumOps) (a b : Nat) : Nat := N.floor (N.div a b)

/-- `JOP_MODULO` fast path: `x2 == 0 ? x1 : x1 - x2 * floor(x1 / x2)` (shape asserted by the translator) -/
def numModulo (N : NumOps) (a b : Nat) : Nat :=
  if isZeroBits b then a else N.sub a (N.mul b (N.floor (N.div a b)))

/-- `JOP_REMAINDER` fast path: `fmod(x1, x2)` (shape asserted by the translator) -/
def numRemainder (N : NumOps) (a b : Nat) : Nat := N.fmod a b

def checkIntRange (d : Dbl) : Option Int :=
  match d.toInt? with
  | some n => if -two31 ≤ n ∧ n < two31 then some n else none
  | none => none

def checkUintRange (d : Dbl) : Option Int :=
  match d.toInt? with
  | some n => if 0 ≤ n ∧ n < two32 then some n else none
  | none => none

/-- hardware count of a 32-bit shift (low 5 bits); the C operation is defined for 0 ≤ count < 32 only -/
def shiftCount32 (b : Int) : Nat := (b % 32).toNat

/-- `(type1)` with type1 = uint32_t / int32_t -/
def wrap32 (unsigned : Bool) (x : Int) : Int := if unsigned then wrapU32 x else wrapS32 x

/-- `(type1) (x1 op x2)` of `_vm_bitop`, on operands that passed the range checks -/
def bitop32Value (unsigned : Bool) (oper : String) (x1 x2 : Int) : Option Int :=
  match oper with
  | "&" => some (wrap32 unsigned (natBit Nat.land x1 x2))
  | "|" => some (wrap32 unsigned (natBit Nat.lor x1 x2))
  | "^" => some (wrap32 unsigned (natBit Nat.xor x1 x2))
  | "<<" => some (wrap32 unsigned (x1 * 2 ^ shiftCount32 x2))
  | ">>" => some (wrap32 unsigned (x1 / 2 ^ shiftCount32 x2))
  | _ => none

/-- `_vm_bitop(op, int32_t, janet_checkintrange, ...)` / `_vm_bitop(op, uint32_t, janet_checkuintrange, ...)` on two numbers:
    range check of the left operand, `janet_checkintrange` of the right one, the 32-bit operation, `janet_wrap_number` -/
def bitop32 (unsigned : Bool) (oper : String) (b1 b2 : Nat) : Res Val :=
  match (if unsigned then checkUintRange (decode b1) else checkIntRange (decode b1)) with
  | none => .err (if unsigned then .range32u else .range32s)
  | some x1 =>
    match checkIntRange (decode b2) with
    | none => .err .rhs32
    | some x2 =>
      match bitop32Value unsigned oper x1 x2 with
      | some v => .ok (Val.ofInt v)
      | none => .err .nomethod

/-- `janet_compare` restricted to the value kinds considered.  Two abstracts of different types are ordered by the
    addresses of their type descriptors (`janet_compare_abstract`: `xt > yt ? 1 : -1`), whatever their contents. -/
def typeRank : Val → Nat
  | .num _ => 0 | .nil => 1 | .bool _ => 2 | .str _ => 4 | .bytes _ => 11 | .s64 _ => 14 | .u64 _ => 14 | .unspec => 15

def strCompare : List Nat → List Nat → Int
  | [], [] => 0
  | [], _ :: _ => -1
  | _ :: _, [] => 1
  | a :: as, b :: bs => if a < b then -1 else if a > b then 1 else strCompare as bs

def janetCompare (c : Cfg) (x y : Val) : Int :=
  if typeRank x ≠ typeRank y then (if typeRank x < typeRank y then -1 else 1)
  else
    match x, y with
    | .num a, .num b =>
      let dx := decode a; let dy := decode b
      (if dx.eq dy then 0 else if dx.lt dy then -1 else 1)
    | .str a, .str b => strCompare a b
    | .s64 a, .s64 b => cmp3 a b
    | .u64 a, .u64 b => cmp3 a b
    | .s64 _, .u64 _ => if c.s64BelowU64 then -1 else 1
    | .u64 _, .s64 _ => if c.s64BelowU64 then 1 else -1
    | .bool a, .bool b => cmp3 (if a then 1 else 0) (if b then 1 else 0)
    | _, _ => 0

/-- `janet_equals` -/
def janetEquals (x y : Val) : Bool :=
  match x, y with
  | .num a, .num b => (decode a).eq (decode b)
  | .str a, .str b => a == b
  | .s64 a, .s64 b => a == b
  | .u64 a, .u64 b => a == b
  | .bool a, .bool b => a == b
  | .nil, .nil => true
  | _, _ => false

def isNum : Val → Option Nat
  | .num b => some b
  | _ => none

/-- `vm_compop(op)`: two numbers are compared as doubles, anything else through `janet_compare(x, y) op 0`; never fails -/
def primCmp (c : Cfg) (oper : String) (x y : Val) : Bool :=
  match isNum x, isNum y with
  | some a, some b =>
    let dx := decode a; let dy := decode b
    (match oper with | "<" => dx.lt dy | "<=" => dx.le dy | ">" => dx.gt dy | ">=" => dx.ge dy | _ => false)
  | _, _ =>
    let r := janetCompare c x y
    (match oper with | "<" => decide (r < 0) | "<=" => decide (r ≤ 0) | ">" => decide (r > 0) | ">=" => decide (r ≥ 0) | _ => false)

/-- one opcode applied to two stack values: `template` and `oper` come from the generated `vmOps` row -/
def vmOp (c : Cfg) (N : NumOps) (template oper : String) (x y : Val) : Res Val :=
  match template with
  | "binop" | "divfloor" | "modulo" | "remainder" =>
    (match isNum x, isNum y with
     | some a, some b =>
       .ok (.num (match template with
                  | "divfloor" => numDivFloor N a b
                  | "modulo" => numModulo N a b
                  | "remainder" => numRemainder N a b
                  | _ => numBinop N oper a b))
     | _, _ => binopCall c oper ("r" ++ oper) x y)
  | "bitop" | "bitopu" =>
    (match isNum x, isNum y with
     | some a, some b => bitop32 (template == "bitopu") oper a b
     | _, _ => binopCall c oper ("r" ++ oper) x y)
  | "compop" => .ok (.bool (primCmp c oper x y))
  | _ => .err .nomethod

/-- JOP_BNOT: `janet_wrap_integer(~janet_unwrap_integer(op))` on numbers — the double -> int32 cast is *unchecked*
    (undefined when the truncated value does not fit); `~` method otherwise -/
def vmBnot (x : Val) : Res Val :=
  match x with
  | .num b =>
    (match (decode b).trunc? with
     | some n => if -two31 ≤ n ∧ n < two31 then .ok (Val.ofInt (-n - 1)) else .ub
     | none => .ub)
  | .s64 _ => (match s64Methods.lookup "~" with | some f => callCfun1 .s64 f x | none => .err .nomethod)
  | .u64 _ => (match u64Methods.lookup "~" with | some f => callCfun1 .u64 f x | none => .err .nomethod)
  | _ => .err .nomethod

/-! ## the core functions (`+`, `div`, `<`, `compare`, `int/s64`, ...) at arity 1 and 2 -/

def vmOpOf (opcode : String) : Option (String × String) :=
  (vmOps.find? (fun r => r.1 == opcode)).map (fun r => r.2)

/-- boot.janet `compare` -/
def polyCompare (c : Cfg) (x y : Val) : Res Val :=
  let viaCmp : Res Val := .ok (Val.ofInt (janetCompare c x y))
  let tryRight : Res Val :=
    match methodOf y "compare" with
    | none => viaCmp
    | some (k, f) =>
      (callCfun2 c k f y x).bind (fun r =>
        match r with
        | .nil => .err .nomethod                 -- `(- nil)`
        | .num b =>                              -- `(- r)`: boot.janet is compiled, unary minus is inlined as r * -1 (so 0 -> -0.0)
          (match (decode b).toInt? with
           | some i => .ok (if i = 0 then .num 0x8000000000000000 else Val.ofInt (0 - i))
           | none => .err .nomethod)
        | _ => .err .nomethod)
  match methodOf x "compare" with
  | none => tryRight
  | some (k, f) =>
    (callCfun2 c k f x y).bind (fun r => match r with | .nil => tryRight | v => .ok v)

/-- the "Main loop" of `templatize_varop`: accum = accum op args[i], left to right -/
def varopFold (c : Cfg) (N : NumOps) (tmpl oper : String) : Res Val → List Val → Res Val
  | acc, [] => acc
  | acc, z :: rest =>
    match acc with
    | .ok a => varopFold c N tmpl oper (vmOp c N tmpl oper a z) rest
    | .err e => .err e
    | .ub => .ub

/-- the loop of `templatize_comparator`: every adjacent pair must satisfy the comparison -/
def comparatorLoop (step : Val → Val → Res Val) (invert : Bool) : Val → List Val → Res Val
  | _, [] => .ok (.bool (!invert))
  | last, next :: rest =>
    match step last next with
    | .ok (.bool true) => comparatorLoop step invert next rest
    | .ok (.bool false) => .ok (.bool invert)
    | .ok v => .ok v          -- not a boolean: cannot happen with the steps used
    | .err e => .err e
    | .ub => .ub

/-- one comparator applied to two values (`vm_compop` / `janet_equals`), by the corelib opcode of the comparator -/
def cmpStep (c : Cfg) (N : NumOps) (opcode : String) : Val → Val → Res Val :=
  if opcode == "JOP_EQUALS" then fun a b => .ok (.bool (janetEquals a b))
  else match vmOpOf opcode with
       | some (tmpl, oper) => fun a b => vmOp c N tmpl oper a b
       | none => fun _ _ => .err .nomethod

/-- boot.janet `compare-reduce` (`compare<`, `compare<=`, `compare=`, `compare>`, `compare>=`): `x` is the last value that
    passed; for each next `y`: `(if (op (do-compare x y) 0) (set x y) (do (set res false) (break)))` -/
def compareReduce (c : Cfg) (N : NumOps) (opcode : String) : Val → List Val → Res Val
  | _, [] => .ok (.bool true)
  | x, y :: rest =>
    match polyCompare c x y with
    | .ok r =>
      (match cmpStep c N opcode r (Val.ofInt 0) with
       | .ok (.bool true) => compareReduce c N opcode y rest
       | .ok (.bool false) => .ok (.bool false)
       | .ok v => .ok v
       | .err e => .err e
       | .ub => .ub)
    | .err e => .err e
    | .ub => .ub

/-- the primitive comparator each polymorphic one is built on (regenerated from boot.janet) -/
def polyComparators : List (String × String) := polyChains

/-- `int/to-bytes x :le`: the 8 bytes of the box (memcpy on a little-endian machine), least significant first -/
def toBytesLE (v : Int) : List Nat := (List.range 8).map (fun i => ((wrapU v) / 256 ^ i % 256).toNat)

/-- value of a little-endian byte string -/
def ofBytesLE : List Nat → Nat
  | [] => 0
  | b :: rest => b + 256 * ofBytesLE rest

def evalFn (c : Cfg) (N : NumOps) (fn : String) (args : List Val) : Res Val :=
  match fn, args with
  | "int/to-bytes-le", [x] =>
    (match x with
     | .s64 v => .ok (.bytes (toBytesLE v))
     | .u64 v => .ok (.bytes (toBytesLE v))
     | _ => .err .tobytestype)
  | "int/to-bytes-be", [x] =>
    (match x with
     | .s64 v => .ok (.bytes (toBytesLE v).reverse)
     | .u64 v => .ok (.bytes (toBytesLE v).reverse)
     | _ => .err .tobytestype)
  | "compare", [x, y] => polyCompare c x y
  | "cmp", [x, y] => .ok (Val.ofInt (janetCompare c x y))
  | "bnot", [x] => vmBnot x
  | "int/s64", [x] => (unwrapS x).bind (fun v => .ok (.s64 v))
  | "int/u64", [x] => (unwrapU x).bind (fun v => .ok (.u64 v))
  | "int/to-number", [x] =>
    (match x with
     | .s64 v => if v > intMaxInt64 then .err .tonum else if v < -intMaxInt64 then .err .tonum else .ok (Val.ofInt v)
     | .u64 v => if v > intMaxInt64 then .err .tonum else .ok (Val.ofInt v)
     | _ => .err .tonumtype)
  | _, _ =>
    match polyComparators.lookup fn, args with
    | some prim, x :: rest =>
      (match coreFns.find? (fun r => r.1 == prim) with
       | some (_, _, opcode, _, _) => compareReduce c N opcode x rest
       | none => .err .nomethod)
    | _, _ =>
    match coreFns.find? (fun r => r.1 == fn) with
    | none => .err .nomethod
    | some (_, kind, opcode, nullary, unary) =>
      if kind == "varop" then
        match vmOpOf opcode, args with
        | some (tmpl, oper), [x] => vmOp c N tmpl oper (Val.ofInt unary) x
        | some (tmpl, oper), x :: y :: rest => varopFold c N tmpl oper (vmOp c N tmpl oper x y) rest
        | _, _ => .err .arity
      else
        -- comparators: nullary field is the invert flag
        match args with
        | [] => .err .arity
        | x :: rest =>
          comparatorLoop (cmpStep c N opcode) (nullary != 0) x rest

/-- `(:name a0 a1 ...)`: method call through a keyword (`resolve_method`, then the cfunction with all arguments) -/
def methodCall (c : Cfg) (name : String) (args : List Val) : Res Val :=
  match args with
  | [] => .err .arity
  | a0 :: _ =>
    match methodOf a0 name with
    | some (k, f) => (match args with | [x] => callCfun1 k f x | _ => callCfunN c k f args)
    | none => .err .nomethod

end JanetModel.Int64
