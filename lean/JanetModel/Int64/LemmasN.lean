/- C14 — n-ary method calls are left folds of the binary method; chained comparators are conjunctions of adjacent
   comparisons, evaluated left to right, first failure decides; string operands are scanned (`scanDigits`: the exact value
   or nothing, results in range of the type).  Core Lean only. -/
import JanetModel.Int64.Lemmas
namespace JanetModel.Int64
open JanetModel.Gen.Int64

/-- the zero test inside the loop agrees with what the operation itself does with a zero divisor (so it can be dropped):
    "error" where the two-argument form raises, "continue" where the two-argument form returns the dividend; an early
    `return` never agrees -/
def ZeroConsistent (step : Int → Int → Res Int) : ZeroAct → Prop
  | .error => ∀ a, step a 0 = .err .divzero
  | .cont => ∀ a, step a 0 = .ok a
  | .ret => False

theorem methodLoop_zero_irrelevant (k : Kind) (step : Int → Int → Res Int) (act : ZeroAct) (h : ZeroConsistent step act)
    (box : Int) (vs : List Val) : methodLoop k step (some act) box vs = methodLoop k step none box vs := by
  induction vs generalizing box with
  | nil => rfl
  | cons v rest ih =>
    unfold methodLoop
    cases hu : unwrap k v with
    | err e => rfl
    | ub => rfl
    | ok b =>
      simp only [Option.isSome_some, Bool.true_and, Option.isSome_none, Bool.false_and, Bool.false_eq_true, if_false]
      by_cases hb : b = 0
      · subst hb
        simp only [decide_true, if_true]
        cases act with
        | error => simp only [ZeroConsistent] at h; rw [h box]
        | cont => simp only [ZeroConsistent] at h; rw [h box]; exact ih box
        | ret => exact absurd h (by simp [ZeroConsistent])
      · simp only [hb, decide_false, Bool.false_eq_true, if_false]
        cases step box b with
        | ok box' => exact ih box'
        | err e => rfl
        | ub => rfl

/-- the two-argument call of a looping method: unwrap both in the receiver's type, operate, box -/
def binStep (k : Kind) (step : Int → Int → Res Int) (v z : Val) : Res Val := do
  let a ← unwrap k v; let b ← unwrap k z
  let r ← step a b; pure (Val.box k r)

/-- the loop is the left fold of the two-argument call, the intermediate result boxed and unwrapped again at every step
    (which is the identity, `unwrap_box`) -/
theorem methodLoop_eq_fold (k : Kind) (step : Int → Int → Res Int) (bx : Int) (vs : List Val) :
    (methodLoop k step none bx vs).bind (fun r => .ok (Val.box k r)) =
      vs.foldl (fun acc z => acc.bind (fun v => binStep k step v z)) (.ok (Val.box k bx)) := by
  induction vs generalizing bx with
  | nil => rfl
  | cons v rest ih =>
    have hb : binStep k step (Val.box k bx) v = (unwrap k v).bind (fun b => (step bx b).bind (fun r => .ok (Val.box k r))) := by
      show (unwrap k (Val.box k bx)).bind _ = _
      rw [unwrap_box]; rfl
    simp only [List.foldl, bind_ok]
    rw [hb]
    unfold methodLoop
    cases hu : unwrap k v with
    | err e => simp only [bind_err]; rw [foldl_bind_err]
    | ub => simp only [bind_ub]; rw [foldl_bind_ub]
    | ok b =>
      simp only [Option.isSome_none, Bool.false_and, Bool.false_eq_true, if_false, bind_ok]
      cases hs : step bx b with
      | ok box' => simp only [bind_ok]; exact ih box'
      | err e => simp only [bind_err]; rw [foldl_bind_err]
      | ub => simp only [bind_ub]; rw [foldl_bind_ub]

/-- the operation one of the three looping macros performs per operand -/
def loopStep (c : Cfg) (k : Kind) (mac name oper : String) : Int → Int → Res Int :=
  if mac = "OPMETHOD" then opMethod k oper
  else if mac = "DIVMETHOD" then divMethodU name oper
  else divMethodS c.guardDiv name oper

def IsLoopMacro (mac : String) : Prop := mac = "OPMETHOD" ∨ mac = "DIVMETHOD" ∨ mac = "DIVMETHOD_SIGNED"

theorem kindName_bne (k : Kind) : (kindName k != kindName k) = false := by simp

theorem callCfun2_loop (c : Cfg) (k : Kind) (f mac name oper : String)
    (hrow : lookupInstance f = some (mac, kindName k, name, oper)) (hmac : IsLoopMacro mac) (v z : Val) :
    callCfun2 c k f v z = binStep k (loopStep c k mac name oper) v z := by
  unfold callCfun2
  rw [hrow]
  simp only [kindName_bne, Bool.false_eq_true, if_false]
  rcases hmac with rfl | rfl | rfl <;> rfl

/-- zero action of the loop: none for OPMETHOD, `loopZero` for the two division macros -/
def loopZeroOf (c : Cfg) (mac name : String) : Option ZeroAct :=
  if mac = "OPMETHOD" then none else some (loopZero c name)

theorem callCfunN_loop (c : Cfg) (k : Kind) (f mac name oper : String)
    (hrow : lookupInstance f = some (mac, kindName k, name, oper)) (hmac : IsLoopMacro mac) (a0 a1 a2 : Val) (rest : List Val) :
    callCfunN c k f (a0 :: a1 :: a2 :: rest) =
      (unwrap k a0).bind (fun a => (methodLoop k (loopStep c k mac name oper) (loopZeroOf c mac name) a (a1 :: a2 :: rest)).bind
        (fun r => .ok (Val.box k r))) := by
  unfold callCfunN
  rw [hrow]
  simp only [kindName_bne, Bool.false_eq_true, if_false]
  rcases hmac with rfl | rfl | rfl <;> rfl

theorem callCfunN_eq_fold (c : Cfg) (k : Kind) (f mac name oper : String)
    (hrow : lookupInstance f = some (mac, kindName k, name, oper)) (hmac : IsLoopMacro mac)
    (hz : mac = "OPMETHOD" ∨ ZeroConsistent (loopStep c k mac name oper) (loopZero c name))
    (a0 a1 a2 : Val) (rest : List Val) :
    callCfunN c k f (a0 :: a1 :: a2 :: rest) =
      (a2 :: rest).foldl (fun acc z => acc.bind (fun v => callCfun2 c k f v z)) (callCfun2 c k f a0 a1) := by
  rw [callCfunN_loop c k f mac name oper hrow hmac]
  have hfun : (fun acc z => Res.bind acc (fun v => callCfun2 c k f v z)) =
      (fun acc z => Res.bind acc (fun v => binStep k (loopStep c k mac name oper) v z)) := by
    funext acc z; congr 1; funext v; exact callCfun2_loop c k f mac name oper hrow hmac v z
  rw [hfun, callCfun2_loop c k f mac name oper hrow hmac]
  have hnone : methodLoop k (loopStep c k mac name oper) (loopZeroOf c mac name) =
      methodLoop k (loopStep c k mac name oper) none := by
    funext box vs
    unfold loopZeroOf
    by_cases hm : mac = "OPMETHOD"
    · rw [if_pos hm]
    · rw [if_neg hm]
      rcases hz with h | h
      · exact absurd h hm
      · exact methodLoop_zero_irrelevant k _ _ h box vs
  rw [hnone]
  have hb2 : ∀ v z, binStep k (loopStep c k mac name oper) v z =
      (unwrap k v).bind (fun a => (unwrap k z).bind (fun b => ((loopStep c k mac name oper) a b).bind (fun r => .ok (Val.box k r)))) :=
    fun _ _ => rfl
  cases hu : unwrap k a0 with
  | err e => rw [hb2, hu]; simp only [bind_err]; rw [foldl_bind_err]
  | ub => rw [hb2, hu]; simp only [bind_ub]; rw [foldl_bind_ub]
  | ok a =>
    simp only [bind_ok]
    -- peel the first operand: the fold starts from the two-argument call on (a0, a1)
    have h1 : binStep k (loopStep c k mac name oper) a0 a1 =
        (List.foldl (fun acc z => Res.bind acc (fun v => binStep k (loopStep c k mac name oper) v z)) (.ok (Val.box k a)) [a1]) := by
      simp only [List.foldl, bind_ok]
      rw [hb2, hb2, hu, unwrap_box]
    rw [h1, ← List.foldl_append]
    exact methodLoop_eq_fold k _ a (a1 :: a2 :: rest)

/-- what the loop answers when a step does not say "true" -/
def chainStop (invert : Bool) : Res Val → Res Val
  | .ok (.bool false) => .ok (.bool invert)
  | r => r

/-- all adjacent pairs of `x :: rest` -/
def adjacentPairs (x : Val) (rest : List Val) : List (Val × Val) := (x :: rest).zip rest

/-- short circuit: the first adjacent pair (left to right) whose comparison does not say true decides, whatever follows —
    later operands are not looked at -/
theorem comparatorLoop_first_failure (step : Val → Val → Res Val) (invert : Bool) (x : Val) (pre : List Val) (a b : Val)
    (suf : List Val) (hlast : (x :: pre).getLast? = some a)
    (hpre : ∀ p ∈ adjacentPairs x pre, step p.1 p.2 = .ok (.bool true)) (hstop : step a b ≠ .ok (.bool true)) :
    comparatorLoop step invert x (pre ++ b :: suf) = chainStop invert (step a b) := by
  induction pre generalizing x with
  | nil =>
    simp only [List.getLast?_singleton, Option.some.injEq] at hlast
    subst hlast
    simp only [List.nil_append]
    unfold comparatorLoop
    cases hs : step x b with
    | ok v =>
      cases v with
      | bool t => cases t with
        | true => exact absurd hs hstop
        | false => rfl
      | _ => rfl
    | err e => rfl
    | ub => rfl
  | cons y pre ih =>
    simp only [List.cons_append]
    unfold comparatorLoop
    have h0 := hpre (x, y) (by simp [adjacentPairs])
    simp only [] at h0
    rw [h0]
    apply ih y
    · simpa [List.getLast?_cons_cons] using hlast
    · intro p hp
      exact hpre p (by simp only [adjacentPairs, List.zip_cons_cons, List.mem_cons] at hp ⊢; exact Or.inr hp)

theorem comparatorLoop_conj (stepB : Val → Val → Bool) (invert : Bool) (x : Val) (rest : List Val) :
    comparatorLoop (fun a b => .ok (.bool (stepB a b))) invert x rest =
      .ok (.bool (((adjacentPairs x rest).all (fun p => stepB p.1 p.2)) != invert)) := by
  induction rest generalizing x with
  | nil => simp [comparatorLoop, adjacentPairs]
  | cons y rest ih =>
    unfold comparatorLoop
    cases hs : stepB x y with
    | true =>
      simp only []
      rw [ih y]
      simp [adjacentPairs, hs]
    | false =>
      simp [adjacentPairs, hs]

theorem comparatorLoop_congr (step step' : Val → Val → Res Val) (invert : Bool) (x : Val) (rest : List Val)
    (h : ∀ p ∈ adjacentPairs x rest, step p.1 p.2 = step' p.1 p.2) :
    comparatorLoop step invert x rest = comparatorLoop step' invert x rest := by
  induction rest generalizing x with
  | nil => rfl
  | cons y rest ih =>
    have h0 := h (x, y) List.mem_cons_self
    simp only [] at h0
    unfold comparatorLoop
    rw [h0, ih y (fun p hp => h p (List.mem_cons_of_mem _ hp))]

theorem comparatorLoop_all_true (step : Val → Val → Res Val) (invert : Bool) (x : Val) (rest : List Val)
    (h : ∀ p ∈ adjacentPairs x rest, step p.1 p.2 = .ok (.bool true)) :
    comparatorLoop step invert x rest = .ok (.bool (!invert)) := by
  rw [comparatorLoop_congr step (fun _ _ => .ok (.bool true)) invert x rest h, comparatorLoop_conj (fun _ _ => true),
    List.all_eq_true.2 (fun _ _ => rfl)]
  cases invert <;> rfl

/-- the primitive comparison `vm_compop` never fails: it is a total boolean function of the two values -/
theorem vmOp_compop (c : Cfg) (N : NumOps) (oper : String) (x y : Val) :
    vmOp c N "compop" oper x y = .ok (.bool (primCmp c oper x y)) := rfl

/-- boot.janet `compare-reduce` is the same loop with the step "`(op (compare x y) 0)`" -/
def polyStep (c : Cfg) (N : NumOps) (opcode : String) (x y : Val) : Res Val :=
  (polyCompare c x y).bind (fun r => cmpStep c N opcode r (Val.ofInt 0))

theorem compareReduce_eq_loop (c : Cfg) (N : NumOps) (opcode : String) (x : Val) (rest : List Val) :
    compareReduce c N opcode x rest = comparatorLoop (polyStep c N opcode) false x rest := by
  induction rest generalizing x with
  | nil => rfl
  | cons y rest ih =>
    unfold compareReduce comparatorLoop polyStep
    cases hp : polyCompare c x y with
    | err e => rfl
    | ub => rfl
    | ok r =>
      simp only [bind_ok]
      cases hs : cmpStep c N opcode r (Val.ofInt 0) with
      | err e => rfl
      | ub => rfl
      | ok v =>
        cases v with
        | bool t => cases t with
          | true => exact ih y
          | false => rfl
        | _ => rfl

theorem unwrap_str (k : Kind) (s : List Nat) :
    unwrap k (.str s) =
      (match k with
       | .s64 => (match scanInt64 s with | some n => .ok n | none => .err .cvts)
       | .u64 => (match scanU64 s with | some n => .ok n | none => .err .cvtu)) := by
  cases k <;> rfl

def IsBinaryMacro (mac : String) : Prop :=
  mac = "OPMETHOD" ∨ mac = "OPMETHODINVERT" ∨ mac = "DIVMETHOD" ∨ mac = "DIVMETHODINVERT" ∨ mac = "DIVMETHOD_SIGNED" ∨
  mac = "DIVMETHODINVERT_SIGNED"

/-- a string operand in either position of any macro-defined two-argument method is *replaced by the integer it scans to*
    (the call equals the call with that integer boxed in the receiver's type) -/
theorem callCfun2_str_ok (c : Cfg) (k : Kind) (f mac name oper : String)
    (hrow : lookupInstance f = some (mac, kindName k, name, oper)) (hmac : IsBinaryMacro mac)
    (s : List Nat) (n : Int) (h : unwrap k (.str s) = .ok n) (other : Val) :
    callCfun2 c k f other (.str s) = callCfun2 c k f other (Val.box k n) ∧
    callCfun2 c k f (.str s) other = callCfun2 c k f (Val.box k n) other := by
  unfold callCfun2
  rw [hrow]
  simp only [kindName_bne, Bool.false_eq_true, if_false]
  rcases hmac with rfl | rfl | rfl | rfl | rfl | rfl <;> constructor <;> simp only [h, unwrap_box]

/-- ... and one that does not scan / does not fit the type makes the call fail with the conversion error, whatever the
    other operand of the receiver's kind is -/
theorem callCfun2_str_err (c : Cfg) (k : Kind) (f mac name oper : String)
    (hrow : lookupInstance f = some (mac, kindName k, name, oper)) (hmac : IsBinaryMacro mac)
    (s : List Nat) (e : Err) (h : unwrap k (.str s) = .err e) (a : Int) :
    callCfun2 c k f (Val.box k a) (.str s) = .err e ∧ callCfun2 c k f (.str s) (Val.box k a) = .err e := by
  unfold callCfun2
  rw [hrow]
  simp only [kindName_bne, Bool.false_eq_true, if_false]
  rcases hmac with rfl | rfl | rfl | rfl | rfl | rfl <;> constructor <;> simp only [h, unwrap_box] <;> rfl

/-- the four hand-written s64 methods (`div`, `rdiv`, `mod`, `rmod`): operand fetch order as in the C (generated indices) -/
theorem hand_divf (c : Cfg) (a0 a1 : Val) : callCfun2 c .s64 "s64_divf" a0 a1 =
    (unwrapS a0).bind (fun op1 => (unwrapS a1).bind (fun op2 => (divfMethod c.guardDivf op1 op2).bind (fun r => .ok (.s64 r)))) := rfl
theorem hand_divfi (c : Cfg) (a0 a1 : Val) : callCfun2 c .s64 "s64_divfi" a0 a1 =
    (unwrapS a0).bind (fun op2 => (unwrapS a1).bind (fun op1 => (divfMethod c.guardDivfi op1 op2).bind (fun r => .ok (.s64 r)))) := rfl
theorem hand_mod (c : Cfg) (a0 a1 : Val) : callCfun2 c .s64 "s64_mod" a0 a1 =
    (unwrapS a0).bind (fun op1 => (unwrapS a1).bind (fun op2 => (modMethod c.guardMod op1 op2).bind (fun r => .ok (.s64 r)))) := rfl
theorem hand_modi (c : Cfg) (a0 a1 : Val) : callCfun2 c .s64 "s64_modi" a0 a1 =
    (unwrapS a0).bind (fun op2 => (unwrapS a1).bind (fun op1 => (modMethod c.guardModi op1 op2).bind (fun r => .ok (.s64 r)))) := rfl

theorem callCfun2_str_hand (c : Cfg) (f : String) (hf : f = "s64_divf" ∨ f = "s64_divfi" ∨ f = "s64_mod" ∨ f = "s64_modi")
    (s : List Nat) (other : Val) :
    (∀ n, unwrapS (.str s) = .ok n →
      callCfun2 c .s64 f other (.str s) = callCfun2 c .s64 f other (.s64 n) ∧
      callCfun2 c .s64 f (.str s) other = callCfun2 c .s64 f (.s64 n) other) ∧
    (∀ e a, unwrapS (.str s) = .err e →
      callCfun2 c .s64 f (.s64 a) (.str s) = .err e ∧ callCfun2 c .s64 f (.str s) (.s64 a) = .err e) := by
  have hs : ∀ n : Int, unwrapS (.s64 n) = .ok n := fun _ => rfl
  rcases hf with rfl | rfl | rfl | rfl
  all_goals
    refine ⟨fun n h => ⟨?_, ?_⟩, fun e a h => ⟨?_, ?_⟩⟩ <;>
      simp only [hand_divf, hand_divfi, hand_mod, hand_modi, h, hs, bind_ok, bind_err]

/-- the number a digit string denotes in `base` (Horner; `_` separators skipped) -/
def digitsValue (base : Nat) : List Nat → Nat → Nat
  | [], acc => acc
  | c :: rest, acc => if c = 95 then digitsValue base rest acc else digitsValue base rest (acc * base + digitVal c)

theorem digitsValue_mono (base : Nat) (hb : 0 < base) (ds : List Nat) (a : Nat) : a ≤ digitsValue base ds a := by
  induction ds generalizing a with
  | nil => exact Nat.le_refl _
  | cons c rest ih =>
    unfold digitsValue
    by_cases hc : c = 95
    · rw [if_pos hc]; exact ih a
    · rw [if_neg hc]
      refine Nat.le_trans ?_ (ih _)
      calc a = a * 1 := (Nat.mul_one a).symm
        _ ≤ a * base := Nat.mul_le_mul_left a hb
        _ ≤ a * base + digitVal c := Nat.le_add_right _ _

theorem digitVal_le_255 (c : Nat) : digitVal c ≤ 255 := by
  unfold digitVal
  have hall : ∀ x ∈ digitLookup, x ≤ 255 := by
    have : digitLookup.all (· ≤ 255) = true := by decide +kernel
    simpa using this
  rw [List.getD_eq_getElem?_getD]
  cases h : digitLookup[c % 128]? with
  | none => exact Nat.le_refl _
  | some x => exact hall x (List.mem_of_getElem? h)

theorem scanDigits_some (base : Nat) (ds : List Nat) (acc : Nat) (seen : Bool) (v : Nat) (hacc : acc ≤ uint64Max)
    (h : scanDigits base ds acc seen = some v) : v = digitsValue base ds acc ∧ v ≤ uint64Max := by
  induction ds generalizing acc seen with
  | nil =>
    unfold scanDigits at h
    by_cases hs : seen = true
    · rw [if_pos hs] at h; injection h with h; subst h; exact ⟨rfl, hacc⟩
    · rw [if_neg hs] at h; exact absurd h (by simp)
  | cons c rest ih =>
    unfold scanDigits at h
    unfold digitsValue
    by_cases hc : c = 95
    · rw [if_pos hc] at h; rw [if_pos hc]
      by_cases hs : (!seen) = true
      · rw [if_pos hs] at h; exact absurd h (by simp)
      · rw [if_neg hs] at h; exact ih acc seen hacc h
    · rw [if_neg hc] at h; rw [if_neg hc]
      simp only [] at h
      by_cases h1 : (decide (c > 127) || decide (digitVal c ≥ base)) = true
      · rw [if_pos h1] at h; exact absurd h (by simp)
      · rw [if_neg h1] at h
        by_cases h2 : acc > (uint64Max - digitVal c) / base
        · rw [if_pos h2] at h; exact absurd h (by simp)
        · rw [if_neg h2] at h
          have hd : digitVal c < base := by
            simp only [Bool.or_eq_true, decide_eq_true_eq, not_or] at h1; exact Nat.lt_of_not_ge h1.2
          have hle : acc * base ≤ uint64Max - digitVal c := by
            have := Nat.div_mul_le_self (uint64Max - digitVal c) base
            have h3 : acc ≤ (uint64Max - digitVal c) / base := Nat.le_of_not_gt h2
            exact Nat.le_trans (Nat.mul_le_mul_right base h3) this
          have hdl : digitVal c ≤ uint64Max := Nat.le_trans (digitVal_le_255 c) (by decide)
          have hfit : acc * base + digitVal c ≤ uint64Max := by omega
          exact ih _ true hfit h

/-- an accepted string has the value it denotes, and that fits: one denoting more is not accepted -/
theorem scanDigits_overflow_none (base : Nat) (ds : List Nat) (acc : Nat) (seen : Bool) (hacc : acc ≤ uint64Max)
    (hov : uint64Max < digitsValue base ds acc) : scanDigits base ds acc seen = none := by
  cases h : scanDigits base ds acc seen with
  | none => rfl
  | some v =>
    obtain ⟨rfl, hle⟩ := scanDigits_some base ds acc seen v hacc h
    exact absurd hov (Nat.not_lt.2 hle)

theorem scanTail_le (neg : Bool) (pre : Option (Nat × List Nat)) (n : Bool) (v : Nat) (h : scanTail neg pre = some (n, v)) :
    v ≤ uint64Max := by
  unfold scanTail at h
  cases pre with
  | none => exact absurd h (by simp)
  | some p =>
    obtain ⟨base, s2⟩ := p
    simp only [] at h
    cases hd : scanDigits base (skipZeros s2 false).1 0 (skipZeros s2 false).2 with
    | none => rw [hd] at h; exact absurd h (by simp)
    | some w =>
      rw [hd] at h
      simp only [Option.some.injEq, Prod.mk.injEq] at h
      obtain ⟨_, rfl⟩ := h
      exact (scanDigits_some _ _ _ _ _ (by decide) hd).2

theorem scanUint64_le (s : List Nat) (neg : Bool) (v : Nat) (h : scanUint64 s = some (neg, v)) : v ≤ uint64Max := by
  unfold scanUint64 at h
  split at h
  · exact absurd h (by simp)
  · split at h
    · exact absurd h (by simp)
    · exact scanTail_le _ _ _ _ h

theorem scan_results_in_range (s : List Nat) :
    (∀ n, scanInt64 s = some n → Kind.s64.inRange n) ∧ (∀ n, scanU64 s = some n → Kind.u64.inRange n) := by
  constructor
  · intro n h
    unfold scanInt64 at h
    cases hu : scanUint64 s with
    | none => rw [hu] at h; exact absurd h (by simp)
    | some p =>
      obtain ⟨neg, bi⟩ := p
      rw [hu] at h
      simp only [] at h
      have hle := scanUint64_le s neg bi hu
      unfold uint64Max at hle h
      simp only [Kind.inRange, int64Min, int64Max]
      split at h
      · rename_i h1
        simp only [Bool.and_eq_true, decide_eq_true_eq] at h1
        split at h <;> (injection h with h; subst h; simp only [Int.ofNat_eq_natCast, int64Min] at *; omega)
      · split at h
        · rename_i h2
          simp only [Bool.and_eq_true, decide_eq_true_eq] at h2
          injection h with h; subst h; simp only [Int.ofNat_eq_natCast] at *; omega
        · exact absurd h (by simp)
  · intro n h
    unfold scanU64 at h
    cases hu : scanUint64 s with
    | none => rw [hu] at h; exact absurd h (by simp)
    | some p =>
      obtain ⟨neg, bi⟩ := p
      rw [hu] at h
      simp only [] at h
      have hle := scanUint64_le s neg bi hu
      unfold uint64Max at hle
      simp only [Kind.inRange, two64]
      split at h
      · injection h with h; subst h; simp only [Int.ofNat_eq_natCast] at *; omega
      · exact absurd h (by simp)

end JanetModel.Int64
