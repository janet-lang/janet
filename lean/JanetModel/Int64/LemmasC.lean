/- C14 — boot.janet's polymorphic `compare` orders numbers, int/s64 and int/u64 by mathematical value (extended rationals:
   ±inf included, NaN excluded), for all nine type pairs; hence the chains `compare<` ... do.
   Proof file (Mathlib ℚ), not linked into the driver. -/
import JanetModel.Int64.LemmasN
import JanetModel.Int64.LemmasQ
namespace JanetModel.Int64
open JanetModel.Gen.Int64

/-- the mathematical value of a numeric janet value: a rational or ±infinity -/
inductive ExtQ where
  | ninf
  | fin (q : ℚ)
  | pinf

/-- three-way comparison on the extended rationals -/
def cmpExt : ExtQ → ExtQ → Int
  | .ninf, .ninf => 0
  | .ninf, _ => -1
  | .pinf, .pinf => 0
  | .pinf, _ => 1
  | .fin _, .ninf => 1
  | .fin _, .pinf => -1
  | .fin a, .fin b => cmpQ a b

def Dbl.ext? : Dbl → Option ExtQ
  | .nan => none
  | .inf neg => some (if neg then .ninf else .pinf)
  | .fin neg m e => some (.fin (Dbl.toRat (.fin neg m e)))

/-- value of a number (not NaN), an int/s64 or an int/u64; nothing else has one -/
def Val.ext? : Val → Option ExtQ
  | .num b => (decode b).ext?
  | .s64 v => some (.fin v)
  | .u64 v => some (.fin v)
  | _ => none

/-- boxes hold values of their type -/
def Val.wf : Val → Prop
  | .s64 v => Kind.s64.inRange v
  | .u64 v => Kind.u64.inRange v
  | _ => True

/-- the integer a result number stands for (`-0.0` is 0) -/
def resInt : Val → Option Int
  | .num b => (decode b).toInt?
  | _ => none

theorem cmpQ_antisymm (a b : ℚ) : cmpQ a b = -cmpQ b a := by
  unfold cmpQ
  rcases lt_trichotomy a b with h | h | h
  · simp [h, not_lt.2 h.le]
  · subst h; simp
  · simp [h, not_lt.2 h.le]

theorem cmpExt_antisymm (a b : ExtQ) : cmpExt a b = -cmpExt b a := by
  cases a <;> cases b <;> simp only [cmpExt, neg_zero, neg_neg, Int.reduceNeg]
  exact cmpQ_antisymm _ _

theorem cmpQ_range (a b : ℚ) : cmpQ a b = -1 ∨ cmpQ a b = 0 ∨ cmpQ a b = 1 := by
  unfold cmpQ; split <;> (try split) <;> simp

theorem cmpExt_range (a b : ExtQ) : cmpExt a b = -1 ∨ cmpExt a b = 0 ∨ cmpExt a b = 1 := by
  cases a <;> cases b <;> simp [cmpExt]
  exact cmpQ_range _ _

theorem cmp3_eq_cmpQ_int (a b : Int) : cmp3 a b = cmpQ (a : ℚ) (b : ℚ) :=
  cmp3_eq_cmpQ_of_iff (by exact_mod_cast Iff.rfl) (by exact_mod_cast Iff.rfl)

theorem Dbl_cmp_ext (dx dy : Dbl) (vx vy : ExtQ) (hx : dx.ext? = some vx) (hy : dy.ext? = some vy) :
    dx.cmp? dy = some (cmpExt vx vy) := by
  cases dx with
  | nan => simp [Dbl.ext?] at hx
  | inf nx =>
    cases dy with
    | nan => simp [Dbl.ext?] at hy
    | inf ny =>
      simp only [Dbl.ext?, Option.some.injEq] at hx hy
      subst hx; subst hy
      cases nx <;> cases ny <;> simp [Dbl.cmp?, cmpExt]
    | fin ny my ey =>
      simp only [Dbl.ext?, Option.some.injEq] at hx hy
      subst hx; subst hy
      cases nx <;> simp [Dbl.cmp?, cmpExt]
  | fin nx mx ex =>
    cases dy with
    | nan => simp [Dbl.ext?] at hy
    | inf ny =>
      simp only [Dbl.ext?, Option.some.injEq] at hx hy
      subst hx; subst hy
      cases ny <;> simp [Dbl.cmp?, cmpExt]
    | fin ny my ey =>
      simp only [Dbl.ext?, Option.some.injEq] at hx hy
      subst hx; subst hy
      simp only [Dbl.cmp?, cmpExt, Dbl.toRat, cmpDyadic_eq_cmpQ]

theorem janetCompare_num (c : Cfg) (a b : Nat) (vx vy : ExtQ) (hx : (decode a).ext? = some vx) (hy : (decode b).ext? = some vy) :
    janetCompare c (.num a) (.num b) = cmpExt vx vy := by
  have h := Dbl_cmp_ext _ _ vx vy hx hy
  unfold janetCompare
  simp only [typeRank, ne_eq, not_true_eq_false, if_false, Dbl.eq, Dbl.lt, h]
  rcases cmpExt_range vx vy with e | e | e <;> rw [e] <;> decide

theorem cmpIntDbl_ext (n : Int) (d : Dbl) (v : ExtQ) (hd : d.ext? = some v) : cmpIntDbl n d = cmpExt (.fin n) v := by
  cases d with
  | nan => simp [Dbl.ext?] at hd
  | inf neg =>
    simp only [Dbl.ext?, Option.some.injEq] at hd
    subst hd
    cases neg <;> simp [cmpIntDbl, cmpExt]
  | fin neg m e =>
    simp only [Dbl.ext?, Option.some.injEq] at hd
    subst hd
    rw [cmpIntDbl_eq_cmpQ]; rfl

theorem ext_ne_nan (d : Dbl) (v : ExtQ) (hd : d.ext? = some v) : d ≠ .nan := by
  intro h; subst h; simp [Dbl.ext?] at hd

theorem resInt_ofInt (i : Int) (h : i = -1 ∨ i = 0 ∨ i = 1) : resInt (Val.ofInt i) = some i := by
  unfold resInt Val.ofInt
  exact decode_encodeInt i (by rcases h with h | h | h <;> subst h <;> decide)

theorem resInt_negzero : resInt (.num 0x8000000000000000) = some 0 := by
  have : decode 0x8000000000000000 = .fin true 0 (-1074) := by decide
  simp only [resInt, this]
  simp [Dbl.toInt?, smant]

/-- the mixed comparisons are exact: 2^63 resp. 2^64 are answered before the cast, the signed lower test is exclusive -/
structure Cfg.ComparesExact (c : Cfg) : Prop where
  sUpper : c.cmpSUpperIncl = true
  sLower : c.cmpSLowerIncl = false
  uUpper : c.cmpUUpperIncl = true

theorem cfgGen_comparesExact : cfgGen.ComparesExact := ⟨by decide, by decide, by decide⟩

theorem compareMethod_ext (c : Cfg) (hcfg : c.ComparesExact)
    (k : Kind) (x : Int) (hx : k.inRange x) (y : Val) (vy : ExtQ) (hy : y.ext? = some vy) (wy : y.wf) :
    compareMethod c k x y = .ok (some (cmpExt (.fin x) vy)) := by
  cases y with
  | num b =>
    simp only [Val.ext?] at hy
    have hn := ext_ne_nan _ _ hy
    cases k with
    | s64 =>
      simp only [compareMethod]
      rw [compareInt64Double_correct c hcfg.sUpper hcfg.sLower x hx _ hn (decode_wf b), cmpIntDbl_ext x _ vy hy]; rfl
    | u64 =>
      simp only [compareMethod]
      rw [compareUint64Double_partial c x hx _ hn (decode_wf b) (Or.inl hcfg.uUpper), cmpIntDbl_ext x _ vy hy]; rfl
  | s64 yv =>
    simp only [Val.ext?, Option.some.injEq] at hy
    subst hy
    simp only [Val.wf] at wy
    cases k with
    | s64 => simp only [compareMethod, cmpExt, cmp3_eq_cmpQ_int]
    | u64 => rw [(compareMethod_ints c yv x wy hx).2.1]; simp only [cmpExt, cmp3_eq_cmpQ_int]
  | u64 yv =>
    simp only [Val.ext?, Option.some.injEq] at hy
    subst hy
    simp only [Val.wf] at wy
    cases k with
    | s64 => rw [(compareMethod_ints c x yv hx wy).1]; simp only [cmpExt, cmp3_eq_cmpQ_int]
    | u64 => simp only [compareMethod, cmpExt, cmp3_eq_cmpQ_int]
  | _ => simp [Val.ext?] at hy

theorem callCompare_s (c : Cfg) (x : Int) (y : Val) :
    callCfun2 c .s64 "s64_compare" (.s64 x) y =
      (compareMethod c .s64 x y).bind (fun r => match r with | some i => .ok (Val.ofInt i) | none => .ok .nil) := rfl
theorem callCompare_u (c : Cfg) (x : Int) (y : Val) :
    callCfun2 c .u64 "u64_compare" (.u64 x) y =
      (compareMethod c .u64 x y).bind (fun r => match r with | some i => .ok (Val.ofInt i) | none => .ok .nil) := rfl
theorem methodOf_compare_s (x : Int) : methodOf (.s64 x) "compare" = some (.s64, "s64_compare") := rfl
theorem methodOf_compare_u (x : Int) : methodOf (.u64 x) "compare" = some (.u64, "u64_compare") := rfl
theorem methodOf_compare_n (b : Nat) : methodOf (.num b) "compare" = none := rfl

theorem callCompare (c : Cfg) (k : Kind) (x : Int) (y : Val) :
    ∃ f, methodOf (Val.box k x) "compare" = some (k, f) ∧
      callCfun2 c k f (Val.box k x) y =
        (compareMethod c k x y).bind (fun r => match r with | some i => .ok (Val.ofInt i) | none => .ok .nil) := by
  cases k
  · exact ⟨_, methodOf_compare_s x, callCompare_s c x y⟩
  · exact ⟨_, methodOf_compare_u x, callCompare_u c x y⟩

theorem polyCompare_box_left (c : Cfg) (hcfg : c.ComparesExact)
    (k : Kind) (x : Int) (hx : k.inRange x) (y : Val) (vy : ExtQ) (hy : y.ext? = some vy) (wy : y.wf) :
    polyCompare c (Val.box k x) y = .ok (Val.ofInt (cmpExt (.fin x) vy)) := by
  obtain ⟨f, hf, hc⟩ := callCompare c k x y
  unfold polyCompare
  simp only [hf, hc, compareMethod_ext c hcfg k x hx y vy hy wy, bind_ok]
  rfl

/-- a number on the left, a box on the right: the box's method with swapped operands, negated (`-0.0` for "equal") -/
theorem polyCompare_box_right (c : Cfg) (hcfg : c.ComparesExact)
    (k : Kind) (y : Int) (hy : k.inRange y) (a : Nat) (vx : ExtQ) (hx : (decode a).ext? = some vx) :
    ∃ r, polyCompare c (.num a) (Val.box k y) = .ok r ∧ resInt r = some (cmpExt vx (.fin y)) ∧
      (r = Val.ofInt (cmpExt vx (.fin y)) ∨ (cmpExt vx (.fin y) = 0 ∧ r = .num 0x8000000000000000)) := by
  obtain ⟨f, hf, hc⟩ := callCompare c k y (.num a)
  have hr := cmpExt_range (.fin y) vx
  have hres := resInt_ofInt _ hr
  have hanti := cmpExt_antisymm vx (.fin y)
  simp only [resInt, Val.ofInt] at hres
  unfold polyCompare
  simp only [methodOf_compare_n, hf, hc, compareMethod_ext c hcfg k y hy (.num a) vx hx trivial, bind_ok, Val.ofInt, hres]
  by_cases h0 : cmpExt (.fin y) vx = 0
  · rw [if_pos h0]; exact ⟨_, rfl, by rw [resInt_negzero, hanti, h0]; rfl, Or.inr ⟨by rw [hanti, h0]; rfl, rfl⟩⟩
  · rw [if_neg h0]
    refine ⟨_, rfl, ?_, Or.inl ?_⟩
    · rw [hanti, Int.zero_sub]
      exact resInt_ofInt _ (by omega)
    · rw [hanti, Int.zero_sub]

theorem polyCompare_nums (c : Cfg) (a b : Nat) (vx vy : ExtQ) (hx : (decode a).ext? = some vx) (hy : (decode b).ext? = some vy) :
    polyCompare c (.num a) (.num b) = .ok (Val.ofInt (cmpExt vx vy)) := by
  unfold polyCompare
  simp only [methodOf_compare_n, janetCompare_num c a b vx vy hx hy]

/-- boot.janet `compare` on any two numeric values (number other than NaN, int/s64, int/u64 — all nine type pairs):
    the result is a number whose value is the three-way comparison of the two mathematical values -/
theorem polyCompare_correct (c : Cfg) (hcfg : c.ComparesExact)
    (x y : Val) (vx vy : ExtQ) (hx : x.ext? = some vx) (hy : y.ext? = some vy) (wx : x.wf) (wy : y.wf) :
    ∃ r, polyCompare c x y = .ok r ∧ resInt r = some (cmpExt vx vy) ∧
      (r = Val.ofInt (cmpExt vx vy) ∨ (cmpExt vx vy = 0 ∧ r = .num 0x8000000000000000)) := by
  cases x with
  | s64 xv =>
    simp only [Val.ext?, Option.some.injEq] at hx; subst hx
    exact ⟨_, polyCompare_box_left c hcfg .s64 xv wx y vy hy wy, resInt_ofInt _ (cmpExt_range _ _), Or.inl rfl⟩
  | u64 xv =>
    simp only [Val.ext?, Option.some.injEq] at hx; subst hx
    exact ⟨_, polyCompare_box_left c hcfg .u64 xv wx y vy hy wy, resInt_ofInt _ (cmpExt_range _ _), Or.inl rfl⟩
  | num a =>
    simp only [Val.ext?] at hx
    cases y with
    | s64 yv =>
      simp only [Val.ext?, Option.some.injEq] at hy; subst hy
      exact polyCompare_box_right c hcfg .s64 yv wy a vx hx
    | u64 yv =>
      simp only [Val.ext?, Option.some.injEq] at hy; subst hy
      exact polyCompare_box_right c hcfg .u64 yv wy a vx hx
    | num b =>
      simp only [Val.ext?] at hy
      exact ⟨_, polyCompare_nums c a b vx vy hx hy, resInt_ofInt _ (cmpExt_range _ _), Or.inl rfl⟩
    | _ => simp [Val.ext?] at hy
  | _ => simp [Val.ext?] at hx

theorem cmpStep_num (c : Cfg) (N : NumOps) (a b : Nat) :
    cmpStep c N "JOP_LESS_THAN" (.num a) (.num b) = .ok (.bool ((decode a).lt (decode b))) ∧
    cmpStep c N "JOP_LESS_THAN_EQUAL" (.num a) (.num b) = .ok (.bool ((decode a).le (decode b))) ∧
    cmpStep c N "JOP_GREATER_THAN" (.num a) (.num b) = .ok (.bool ((decode a).gt (decode b))) ∧
    cmpStep c N "JOP_GREATER_THAN_EQUAL" (.num a) (.num b) = .ok (.bool ((decode a).ge (decode b))) ∧
    cmpStep c N "JOP_EQUALS" (.num a) (.num b) = .ok (.bool ((decode a).eq (decode b))) := ⟨rfl, rfl, rfl, rfl, rfl⟩

/-- the relation a polymorphic chain tests on the result of `compare` -/
def signRel (opcode : String) (i : Int) : Bool :=
  if opcode = "JOP_LESS_THAN" then decide (i < 0) else if opcode = "JOP_LESS_THAN_EQUAL" then decide (i ≤ 0)
  else if opcode = "JOP_GREATER_THAN" then decide (i > 0) else if opcode = "JOP_GREATER_THAN_EQUAL" then decide (i ≥ 0)
  else decide (i = 0)

def IsPolyOpcode (opcode : String) : Prop :=
  opcode = "JOP_LESS_THAN" ∨ opcode = "JOP_LESS_THAN_EQUAL" ∨ opcode = "JOP_GREATER_THAN" ∨ opcode = "JOP_GREATER_THAN_EQUAL" ∨ opcode = "JOP_EQUALS"

theorem Dbl_rel_of_cmp (dx dy : Dbl) (i : Int) (h : dx.cmp? dy = some i) (hi : i = -1 ∨ i = 0 ∨ i = 1) :
    dx.lt dy = decide (i < 0) ∧ dx.le dy = decide (i ≤ 0) ∧ dx.gt dy = decide (i > 0) ∧ dx.ge dy = decide (i ≥ 0) ∧
    dx.eq dy = decide (i = 0) := by
  simp only [Dbl.lt, Dbl.le, Dbl.gt, Dbl.ge, Dbl.eq, h]
  rcases hi with rfl | rfl | rfl <;> decide

theorem cmpStep_sign (c : Cfg) (N : NumOps) (opcode : String) (hop : IsPolyOpcode opcode) (r : Val) (i : Int)
    (hi : i = -1 ∨ i = 0 ∨ i = 1) (hr : r = Val.ofInt i ∨ (i = 0 ∧ r = .num 0x8000000000000000)) :
    cmpStep c N opcode r (Val.ofInt 0) = .ok (.bool (signRel opcode i)) := by
  -- `r` is one of the four numbers -1, 0, -0.0, 1, and compares with 0 as `i` does
  have hcmp : ∃ b, r = .num b ∧ (decode b).cmp? (decode 0) = some i := by
    rcases hr with rfl | ⟨rfl, rfl⟩
    · refine ⟨encodeInt i, rfl, ?_⟩
      rcases hi with rfl | rfl | rfl <;> decide +kernel
    · exact ⟨_, rfl, by decide +kernel⟩
  obtain ⟨b, rfl, hc⟩ := hcmp
  obtain ⟨l, le, g, ge, e⟩ := Dbl_rel_of_cmp _ _ i hc hi
  obtain ⟨n1, n2, n3, n4, n5⟩ := cmpStep_num c N b 0
  have hz : Val.ofInt 0 = .num 0 := by decide
  rw [hz]
  rcases hop with rfl | rfl | rfl | rfl | rfl
  · rw [n1, l]; rfl
  · rw [n2, le]; rfl
  · rw [n3, g]; rfl
  · rw [n4, ge]; rfl
  · rw [n5, e]; rfl

/-- total version of `Val.ext?` (0 for values without one) -/
def Val.extD (v : Val) : ExtQ := v.ext?.getD (.fin 0)

def Val.numeric (v : Val) : Prop := (∃ q, v.ext? = some q) ∧ v.wf

theorem polyStep_numeric (c : Cfg) (hcfg : c.ComparesExact)
    (N : NumOps) (opcode : String) (hop : IsPolyOpcode opcode) (x y : Val) (hx : x.numeric) (hy : y.numeric) :
    polyStep c N opcode x y = .ok (.bool (signRel opcode (cmpExt x.extD y.extD))) := by
  obtain ⟨⟨vx, hvx⟩, wx⟩ := hx
  obtain ⟨⟨vy, hvy⟩, wy⟩ := hy
  obtain ⟨r, h1, _, h3⟩ := polyCompare_correct c hcfg x y vx vy hvx hvy wx wy
  unfold polyStep
  rw [h1, bind_ok, cmpStep_sign c N opcode hop r _ (cmpExt_range vx vy) h3]
  simp [Val.extD, hvx, hvy]

/-- a polymorphic chain over numeric values (numbers other than NaN, int/s64, int/u64 in any mix) is the conjunction of
    the order relation between the *mathematical values* of all adjacent pairs -/
theorem compareReduce_numeric (c : Cfg) (hcfg : c.ComparesExact)
    (N : NumOps) (opcode : String) (hop : IsPolyOpcode opcode) (x : Val) (rest : List Val)
    (hall : ∀ v ∈ x :: rest, v.numeric) :
    compareReduce c N opcode x rest =
      .ok (.bool ((adjacentPairs x rest).all (fun p => signRel opcode (cmpExt p.1.extD p.2.extD)))) := by
  rw [compareReduce_eq_loop, comparatorLoop_congr _ (fun a b => .ok (.bool (signRel opcode (cmpExt a.extD b.extD)))) _ _ _
    (fun p hp => polyStep_numeric c hcfg N opcode hop p.1 p.2 (hall _ (List.of_mem_zip hp).1)
      (hall _ (List.mem_cons_of_mem _ (List.of_mem_zip hp).2))), comparatorLoop_conj]
  simp

end JanetModel.Int64
