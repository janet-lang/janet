/- C14 — integer-valued doubles: the plain-number handlers `div`, `mod`, `%` (and `+ - *`) of the VM, run on the IEEE
   instance, are **exact** on integers of magnitude ≤ 2^53: representability of every intermediate result is proved, not assumed.
   The key fact is `floor_rneQ_ratio`: a quotient p/q of two such integers never rounds up to (or past) the next integer,
   so ⌊RN(p/q)⌋ = ⌊p/q⌋.  Consequence: on their common domain the number operators and the int/s64 operators agree
   (`Props/C14.lean`: `number_ops_agree_with_s64_ops`).
   Proof file (Mathlib), not linked into the driver. -/
import JanetModel.Int64.IeeeQ
namespace JanetModel.Int64.Ieee
open JanetModel.Int64

theorem lt_two1024_of_le_two53 (v : ℚ) (h : v ≤ 9007199254740992) : v < 2 ^ (1024 : ℤ) := by
  have h1 : (2 : ℚ) ^ (53 : ℤ) < 2 ^ (1024 : ℤ) := zpow_lt_zpow_right₀ (by norm_num) (by norm_num)
  have h2 : (9007199254740992 : ℚ) = 2 ^ (53 : ℤ) := by norm_num
  rw [h2] at h
  exact lt_of_le_of_lt h h1

theorem int_is_format_value (z : ℤ) (hz : |z| ≤ 9007199254740992) :
    ∃ (n : Bool) (m : Nat) (e : ℤ), m < 9007199254740992 ∧ -1074 ≤ e ∧ e ≤ 971 ∧ (z : ℚ) = sgnQ n * ((m : ℚ) * 2 ^ e) := by
  have hk : z.natAbs ≤ 9007199254740992 := by have := abs_le.1 hz; omega
  rw [intCast_eq_sgnQ_natAbs z]
  rcases Nat.lt_or_ge z.natAbs 9007199254740992 with hlt | hge
  · exact ⟨decide (z < 0), z.natAbs, 0, hlt, by decide, by decide, by rw [zpow_zero, mul_one]⟩
  · refine ⟨decide (z < 0), 4503599627370496, 1, by decide, by decide, by decide, ?_⟩
    rw [le_antisymm hk hge]; norm_num

theorem repr64_int (z : ℤ) (hz : |z| ≤ 9007199254740992) : Repr64 (z : ℚ) := by
  obtain ⟨n, m, e, h1, h2, h3, h4⟩ := int_is_format_value z hz
  rw [h4]
  exact repr64_dyadic n m e h1 h2 h3

theorem rneQ_nearer_than_int (x : ℚ) (z : ℤ) (hz : |z| ≤ 9007199254740992) : |rneQ x - x| ≤ |(z : ℚ) - x| := by
  obtain ⟨n, m, e, h1, h2, _, h3⟩ := int_is_format_value z hz
  rw [h3]
  exact rneQ_nearest x n m e h1 h2

theorem rneQ_ge_int (x : ℚ) (z : ℤ) (hz : |z| ≤ 9007199254740992) (h : (z : ℚ) ≤ x) : (z : ℚ) ≤ rneQ x := by
  have h1 := rneQ_nearer_than_int x z hz
  rw [abs_sub_comm (z : ℚ), abs_of_nonneg (sub_nonneg.2 h)] at h1
  linarith only [(abs_le.1 h1).1]

theorem rneQ_le_int (x : ℚ) (z : ℤ) (hz : |z| ≤ 9007199254740992) (h : x ≤ (z : ℚ)) : rneQ x ≤ (z : ℚ) := by
  have h1 := rneQ_nearer_than_int x z hz
  rw [abs_of_nonneg (sub_nonneg.2 h)] at h1
  linarith only [(abs_le.1 h1).2]

theorem ratio_gap (p q m : ℤ) (hq0 : q ≠ 0) (h : (p : ℚ) / q < m) : 1 / |(q : ℚ)| ≤ m - (p : ℚ) / q := by
  have hqq : (q : ℚ) ≠ 0 := by exact_mod_cast hq0
  have e : (m : ℚ) - (p : ℚ) / q = ((m * q - p : ℤ) : ℚ) / q := by push_cast; field_simp
  have hpos : 0 < (m : ℚ) - (p : ℚ) / q := sub_pos.2 h
  rw [e] at hpos ⊢
  have hne : m * q - p ≠ 0 := by
    intro h0; rw [h0] at hpos; simp at hpos
  rw [← abs_of_pos hpos, abs_div]
  exact div_le_div_of_nonneg_right (by exact_mod_cast Int.one_le_abs hne) (abs_nonneg _)

/-- for integers p, q with |p|, |q| ≤ 2^53, q ≠ 0: **⌊RN(p / q)⌋ = ⌊p / q⌋**.
    (p/q = n + r/|q| with 1 ≤ r < |q|: the distance to n + 1 is at least 1/|q| ≥ |p/q| · 2^-53, which is at least half an
    ulp of p/q, with equality only when p/q is a power of two — an integer.) -/
theorem floor_rneQ_ratio (p q : ℤ) (hp : |p| ≤ 9007199254740992) (hq0 : q ≠ 0) (hq : |q| ≤ 9007199254740992) :
    ⌊rneQ ((p : ℚ) / q)⌋ = ⌊(p : ℚ) / q⌋ := by
  have T : (9007199254740992 : ℚ) = 2 ^ (53 : ℤ) := by norm_num
  have hQ1 : (1 : ℚ) ≤ |(q : ℚ)| := by exact_mod_cast Int.one_le_abs hq0
  have hQpos : (0 : ℚ) < |(q : ℚ)| := lt_of_lt_of_le one_pos hQ1
  have hQ53 : |(q : ℚ)| ≤ 9007199254740992 := by exact_mod_cast hq
  have hP53 : |(p : ℚ)| ≤ 9007199254740992 := by exact_mod_cast hp
  set x : ℚ := (p : ℚ) / q with hx
  have habsx : |x| = |(p : ℚ)| / |(q : ℚ)| := by rw [hx, abs_div]
  have hxle : |x| ≤ 9007199254740992 := by
    rw [habsx, div_le_iff₀ hQpos]
    exact le_trans hP53 (le_mul_of_one_le_right (by norm_num) hQ1)
  set n : ℤ := ⌊x⌋ with hn
  have hfl1 : (n : ℚ) ≤ x := Int.floor_le x
  have hfl2 : x < (n : ℚ) + 1 := Int.lt_floor_add_one x
  obtain ⟨hxlo, hxhi⟩ := abs_le.1 hxle
  have hnlo : -9007199254740992 ≤ n := Int.le_floor.2 (by push_cast; exact hxlo)
  have hnhi : n ≤ 9007199254740992 := by
    have : (n : ℚ) ≤ ((9007199254740992 : ℤ) : ℚ) := by push_cast; exact le_trans hfl1 hxhi
    exact_mod_cast this
  have hnabs : |n| ≤ 9007199254740992 := abs_le.2 ⟨hnlo, hnhi⟩
  rcases eq_or_lt_of_le hfl1 with heq | hlt
  · -- x is the integer n
    rw [← heq, (repr64_int n hnabs).1]
    exact Int.floor_intCast n
  -- n < x < n + 1, and n, n + 1 are binary64 values: n ≤ RN(x) ≤ n + 1
  have hn1hi : n + 1 ≤ 9007199254740992 := by
    have : (n : ℚ) < ((9007199254740992 : ℤ) : ℚ) := by push_cast; exact lt_of_lt_of_le hlt hxhi
    have : n < 9007199254740992 := by exact_mod_cast this
    omega
  have hlo := rneQ_ge_int x n hnabs hfl1
  have hhi := rneQ_le_int x (n + 1) (abs_le.2 ⟨by omega, hn1hi⟩) (by push_cast; exact hfl2.le)
  push_cast at hhi
  rw [Int.floor_eq_iff]
  refine ⟨hlo, lt_of_le_of_ne hhi ?_⟩
  intro hr
  -- the rounding went all the way up to n + 1: the distance d = n + 1 - x is at most half an ulp ...
  have hhalf := rneQ_half_ulp x
  rw [hr, abs_of_pos (sub_pos.2 hfl2)] at hhalf
  -- ... and at least 1 / |q|
  have hd : (1 : ℚ) / |(q : ℚ)| ≤ (n : ℚ) + 1 - x := by
    have := ratio_gap p q (n + 1) hq0 (by push_cast; exact hfl2)
    push_cast at this
    exact this
  have hxne : x ≠ 0 := by
    intro h0
    have : n = 0 := by rw [hn, h0]; simp
    rw [this, h0] at hlt
    simp at hlt
  have hQinv : (1 : ℚ) / 9007199254740992 ≤ 1 / |(q : ℚ)| := one_div_le_one_div_of_le hQpos hQ53
  rcases eq_or_lt_of_le (cexp_ge x) with hc | hc
  · -- subnormal quantum: impossible, 1/|q| ≥ 2^-53
    rw [← hc] at hhalf
    have : (2 : ℚ) ^ (-1074 : ℤ) / 2 < 1 / 9007199254740992 := by
      have h1 : (2 : ℚ) ^ (-1074 : ℤ) ≤ 2 ^ (-54 : ℤ) := zpow2_mono (by norm_num)
      have h2 : (2 : ℚ) ^ (-54 : ℤ) / 2 < 1 / 9007199254740992 := by rw [zpow_neg]; norm_num
      exact lt_of_le_of_lt (div_le_div_of_nonneg_right h1 (by norm_num)) h2
    linarith
  · have hlog : (2 : ℚ) ^ (cexp x + 52) ≤ |x| := le_abs_of_cexp hxne hc
    set L : ℤ := cexp x + 52 with hL
    have hsplit : (2 : ℚ) ^ cexp x / 2 = 2 ^ L / 9007199254740992 := by
      rw [T, show cexp x = L + (-53) + 1 by rw [hL]; ring, zpow_add₀ (by norm_num : (2 : ℚ) ≠ 0), zpow_add₀ (by norm_num : (2 : ℚ) ≠ 0), zpow_neg]
      field_simp
    rw [hsplit] at hhalf
    -- 1/Q ≤ d ≤ 2^L / 2^53 ≤ |x| / 2^53 = P / (Q 2^53)
    have hchain : (1 : ℚ) / |(q : ℚ)| ≤ 2 ^ L / 9007199254740992 := le_trans hd hhalf
    have hPQ : |(q : ℚ)| * 2 ^ L ≤ |(p : ℚ)| := by
      have := mul_le_mul_of_nonneg_left hlog hQpos.le
      rw [habsx, mul_div_cancel₀ _ hQpos.ne'] at this
      exact this
    have h253 : (9007199254740992 : ℚ) ≤ |(q : ℚ)| * 2 ^ L := by
      rw [div_le_div_iff₀ hQpos (by norm_num : (0 : ℚ) < 9007199254740992)] at hchain
      linarith
    -- so |q| * 2^L = 2^53 = |p|, and 2^L = |x|
    have hPeq : |(q : ℚ)| * 2 ^ L = 9007199254740992 := le_antisymm (le_trans hPQ hP53) h253
    have hL0 : 0 ≤ L := by
      by_contra hneg
      have hL1 : L ≤ -1 := by omega
      have h2 : (2 : ℚ) ^ L ≤ 2 ^ (-1 : ℤ) := zpow2_mono hL1
      have h3 : |(q : ℚ)| * 2 ^ L ≤ 9007199254740992 * 2 ^ (-1 : ℤ) :=
        mul_le_mul hQ53 h2 (two_zpow_pos L).le (by norm_num)
      rw [hPeq] at h3
      norm_num at h3
    have hxeq : |x| = 2 ^ L := by
      have hPe : |(p : ℚ)| = 9007199254740992 := le_antisymm hP53 (le_trans h253 hPQ)
      rw [habsx, hPe, ← hPeq, mul_div_cancel_left₀ _ hQpos.ne']
    obtain ⟨j, hj⟩ := Int.eq_ofNat_of_zero_le hL0
    rw [hj, zpow_natCast] at hxeq
    -- x = ± 2^j is an integer, contradiction with n < x
    have hxint : x = ((2 ^ j : ℤ) : ℚ) ∨ x = ((-(2 ^ j) : ℤ) : ℚ) := by
      rcases abs_eq (by positivity : (0 : ℚ) ≤ 2 ^ j) |>.1 hxeq with h | h
      · left; rw [h]; push_cast; rfl
      · right; rw [h]; push_cast; rfl
    rcases hxint with h | h
    · have : n = 2 ^ j := by rw [hn, h]; exact Int.floor_intCast _
      rw [h, this] at hlt; exact lt_irrefl _ hlt
    · have : n = -(2 ^ j) := by rw [hn, h]; exact Int.floor_intCast _
      rw [h, this] at hlt; exact lt_irrefl _ hlt

theorem intVal_encodeInt (z : ℤ) (hz : |z| ≤ 9007199254740992) : IntVal (encodeInt z) z :=
  intVal_of_toInt _ z (decode_encodeInt z (by have := abs_le.1 hz; simp only [two53]; omega))

theorem isZeroBits_of_intVal (b : Nat) (y : ℤ) (hb : IntVal b y) (hy : y ≠ 0) : isZeroBits b = false := by
  cases hz : isZeroBits b with
  | false => rfl
  | true =>
    have := (isZeroBits_iff_valQ b hb.1).1 hz
    rw [hb.2] at this
    exact absurd (by exact_mod_cast this) hy

theorem num_arith_int (a b : Nat) (x y : ℤ) (ha : IntVal a x) (hb : IntVal b y) :
    (|x + y| ≤ 9007199254740992 → IntVal (ieee.add a b) (x + y)) ∧
    (|x - y| ≤ 9007199254740992 → IntVal (ieee.sub a b) (x - y)) ∧
    (|x * y| ≤ 9007199254740992 → IntVal (ieee.mul a b) (x * y)) := by
  refine ⟨fun h => ?_, fun h => ?_, fun h => ?_⟩
  · have := add_exact_of_repr a b ha.1 hb.1 (by rw [ha.2, hb.2]; exact_mod_cast repr64_int _ h)
    exact ⟨this.1, by rw [this.2, ha.2, hb.2]; push_cast; rfl⟩
  · have := sub_exact_of_repr a b ha.1 hb.1 (by rw [ha.2, hb.2]; exact_mod_cast repr64_int _ h)
    exact ⟨this.1, by rw [this.2, ha.2, hb.2]; push_cast; rfl⟩
  · have := mul_exact_of_repr a b ha.1 hb.1 (by rw [ha.2, hb.2]; exact_mod_cast repr64_int _ h)
    exact ⟨this.1, by rw [this.2, ha.2, hb.2]; push_cast; rfl⟩

theorem num_quot_int (a b : Nat) (x y q : ℤ) (ha : IntVal a x) (hb : IntVal b y) (hy0 : y ≠ 0) (hq : x = y * q)
    (hqle : |q| ≤ 9007199254740992) : IntVal (ieee.div a b) q := by
  have hyq : (y : ℚ) ≠ 0 := by exact_mod_cast hy0
  have hquot : valQ a / valQ b = ((q : ℤ) : ℚ) := by
    rw [ha.2, hb.2, hq]; push_cast; field_simp
  have := div_exact_of_repr a b ha.1 hb.1 (isZeroBits_of_intVal b y hb hy0) (by rw [hquot]; exact repr64_int q hqle)
  exact ⟨this.1, this.2.trans hquot⟩

theorem floor_int_div (x y : ℤ) (hy : y ≠ 0) : ⌊(x : ℚ) / y⌋ = Int.fdiv x y := by
  rcases lt_or_gt_of_ne hy with hneg | hpos
  · obtain ⟨k, hk⟩ := Int.eq_ofNat_of_zero_le (show 0 ≤ -y by omega)
    have e : (x : ℚ) / y = ((-x : ℤ) : ℚ) / ((k : ℕ) : ℚ) := by
      have : (y : ℚ) = -((k : ℕ) : ℚ) := by
        have : y = -(k : ℤ) := by omega
        rw [this]; push_cast; rfl
      rw [this]; push_cast; rw [div_neg, neg_div]
    rw [e, Rat.floor_intCast_div_natCast, ← Int.neg_fdiv_neg, Int.fdiv_eq_ediv_of_nonneg _ (by omega), hk]
  · obtain ⟨k, hk⟩ := Int.eq_ofNat_of_zero_le (show 0 ≤ y by omega)
    rw [hk]
    have := Rat.floor_intCast_div_natCast x k
    rw [Int.fdiv_eq_ediv_of_nonneg _ (by omega)]
    exact_mod_cast this

theorem truncQ_int_div (x y : ℤ) (hy : y ≠ 0) : truncQ ((x : ℚ) / y) = Int.tdiv x y := by
  have hY : 0 < y.natAbs := Int.natAbs_pos.2 hy
  rw [intCast_eq_sgnQ_natAbs x, intCast_eq_sgnQ_natAbs y, truncQ_signed _ _ _ _ hY]
  -- Int.tdiv by signs
  have key : Int.tdiv x y = (if (decide (x < 0) != decide (y < 0)) then -((x.natAbs / y.natAbs : Nat) : ℤ) else ((x.natAbs / y.natAbs : Nat) : ℤ)) := by
    have hxn : x < 0 → x = -(x.natAbs : ℤ) := fun h => by omega
    have hxp : ¬ x < 0 → x = (x.natAbs : ℤ) := fun h => by omega
    have hyn : y < 0 → y = -(y.natAbs : ℤ) := fun h => by omega
    have hyp : ¬ y < 0 → y = (y.natAbs : ℤ) := fun h => by omega
    by_cases h1 : x < 0 <;> by_cases h2 : y < 0 <;> simp only [h1, h2, decide_true, decide_false]
    · rw [if_neg (by decide)]
      conv_lhs => rw [hxn h1, hyn h2]
      rw [Int.neg_tdiv_neg, Int.ofNat_tdiv]
    · rw [if_pos (by decide)]
      conv_lhs => rw [hxn h1, hyp h2]
      rw [Int.neg_tdiv, Int.ofNat_tdiv]
    · rw [if_pos (by decide)]
      conv_lhs => rw [hxp h1, hyn h2]
      rw [Int.tdiv_neg, Int.ofNat_tdiv]
    · rw [if_neg (by decide)]
      conv_lhs => rw [hxp h1, hyp h2]
      rw [Int.ofNat_tdiv]
  rw [key]

/-- `(div a b)` on integer-valued doubles a = x, b = y ≠ 0 with |x|, |y| ≤ 2^53: **exactly ⌊x / y⌋ = `Int.fdiv x y`** —
    although the quotient x / y is in general not a double and is rounded before `floor` is applied -/
theorem num_div_int (a b : Nat) (x y : ℤ) (ha : IntVal a x) (hb : IntVal b y)
    (hx : |x| ≤ 9007199254740992) (hy : |y| ≤ 9007199254740992) (hy0 : y ≠ 0) :
    IntVal (numDivFloor ieee a b) (Int.fdiv x y) := by
  have hz := isZeroBits_of_intVal b y hb hy0
  have hfl := floor_rneQ_ratio x y hx hy0 hy
  have hfin : |rneQ (valQ a / valQ b)| < 2 ^ (1024 : ℤ) := by
    rw [ha.2, hb.2]
    -- |x / y| ≤ 2^53, and ±2^53 are binary64 values
    have hq1 : (1 : ℚ) ≤ |(y : ℚ)| := by exact_mod_cast Int.one_le_abs hy0
    have hxq : |(x : ℚ)| ≤ 9007199254740992 := by exact_mod_cast hx
    have hle : |(x : ℚ) / y| ≤ 9007199254740992 := by
      rw [abs_div, div_le_iff₀ (lt_of_lt_of_le one_pos hq1)]
      exact le_trans hxq (le_mul_of_one_le_right (by norm_num) hq1)
    obtain ⟨h1, h2⟩ := abs_le.1 hle
    have b1 := rneQ_ge_int ((x : ℚ) / y) (-9007199254740992) (by norm_num) (by push_cast; exact h1)
    have b2 := rneQ_le_int ((x : ℚ) / y) 9007199254740992 (by norm_num) (by push_cast; exact h2)
    push_cast at b1 b2
    exact lt_two1024_of_le_two53 _ (abs_le.2 ⟨b1, b2⟩)
  obtain ⟨_, _, f1, f2⟩ := ieee_num_div a b ha.1 hb.1 hz hfin
  refine ⟨f1, ?_⟩
  rw [f2, ha.2, hb.2, hfl, floor_int_div x y hy0]

/-- `(mod a b)` on integer-valued doubles, |x|, |y| ≤ 2^53, y ≠ 0, when the product y·⌊x/y⌋ (= x − (x mod y)) does not
    exceed 2^53 in magnitude: **exactly `Int.fmod x y`** (sign of the divisor).  The side condition holds whenever x and y
    have the same sign, or |x| + |y| ≤ 2^53; without it the product may round (`num_mod_int_rounds_witness`). -/
theorem num_mod_int (a b : Nat) (x y : ℤ) (ha : IntVal a x) (hb : IntVal b y)
    (hx : |x| ≤ 9007199254740992) (hy : |y| ≤ 9007199254740992) (hy0 : y ≠ 0)
    (hprod : |y * Int.fdiv x y| ≤ 9007199254740992) :
    IntVal (numModulo ieee a b) (Int.fmod x y) := by
  have hq : IntVal (ieee.floor (ieee.div a b)) (Int.fdiv x y) := num_div_int a b x y ha hb hx hy hy0
  have hp := (num_arith_int b _ y _ hb hq).2.2 hprod
  -- the remainder is bounded by the divisor
  have hrb : |x - y * Int.fdiv x y| ≤ 9007199254740992 := by
    rw [← Int.fmod_def]
    obtain ⟨bp, bn⟩ := fmod_bounds x y
    have hyb := abs_le.1 hy
    rw [abs_le]
    rcases lt_or_gt_of_ne hy0 with h | h
    · have := bn h; omega
    · have := bp h; omega
  rw [numModulo_of_nonzero _ _ _ (isZeroBits_of_intVal b y hb hy0), Int.fmod_def]
  exact (num_arith_int a _ x _ ha hp).2.1 hrb

/-- `(% a b)` on integer-valued doubles of **any** magnitude, y ≠ 0: exactly `Int.tmod x y` (C remainder, sign of the dividend) -/
theorem num_rem_int (a b : Nat) (x y : ℤ) (ha : IntVal a x) (hb : IntVal b y) (hy0 : y ≠ 0) :
    IntVal (numRemainder ieee a b) (Int.tmod x y) := by
  obtain ⟨⟨nx, mx, ex, hda⟩, hva⟩ := ha
  obtain ⟨⟨ny, my, ey, hdb⟩, hvb⟩ := hb
  have hz := isZeroBits_of_intVal b y ⟨⟨ny, my, ey, hdb⟩, hvb⟩ hy0
  have hmy := nonzero_of_isZeroBits b ny my ey hdb hz
  obtain ⟨g1, g2⟩ := fmod_exact a b nx ny mx my ex ey hda hdb hmy
  refine ⟨g1, ?_⟩
  show valQ (fmod a b) = _
  rw [g2, hva, hvb, truncQ_int_div x y hy0, Int.tmod_def]
  push_cast; rfl

theorem mod_product_bound (x y : ℤ) (hx : |x| ≤ 9007199254740992) (hy0 : y ≠ 0)
    (h : (0 ≤ x ∧ 0 < y) ∨ (x ≤ 0 ∧ y < 0) ∨ |x| + |y| ≤ 9007199254740992) : |y * Int.fdiv x y| ≤ 9007199254740992 := by
  have hr : Int.fmod x y = x - y * Int.fdiv x y := Int.fmod_def x y
  obtain ⟨bp, bn⟩ := fmod_bounds x y
  have hxb := abs_le.1 hx
  rcases h with ⟨h1, h2⟩ | ⟨h1, h2⟩ | h
  · have hq0 : 0 ≤ Int.fdiv x y := Int.fdiv_nonneg h1 h2.le
    have hP : 0 ≤ y * Int.fdiv x y := Int.mul_nonneg h2.le hq0
    obtain ⟨b1, b2⟩ := bp h2
    generalize y * Int.fdiv x y = P at *
    rw [abs_le]; constructor <;> omega
  · have hq0 : 0 ≤ Int.fdiv x y := Int.fdiv_nonneg_of_nonpos_of_nonpos h1 h2.le
    have hP : y * Int.fdiv x y ≤ 0 := Int.mul_nonpos_of_nonpos_of_nonneg h2.le hq0
    obtain ⟨b1, b2⟩ := bn h2
    generalize y * Int.fdiv x y = P at *
    rw [abs_le]; constructor <;> omega
  · rcases lt_or_gt_of_ne hy0 with hneg | hpos
    · obtain ⟨b1, b2⟩ := bn hneg
      rw [abs_of_neg hneg] at h
      generalize y * Int.fdiv x y = P at *
      rw [abs_le]; rcases abs_cases x with ⟨e, _⟩ | ⟨e, _⟩ <;> rw [e] at h <;> constructor <;> omega
    · obtain ⟨b1, b2⟩ := bp hpos
      rw [abs_of_pos hpos] at h
      generalize y * Int.fdiv x y = P at *
      rw [abs_le]; rcases abs_cases x with ⟨e, _⟩ | ⟨e, _⟩ <;> rw [e] at h <;> constructor <;> omega

end JanetModel.Int64.Ieee
