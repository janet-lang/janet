/- C14 — proofs about the math.c functions of `Int64/MathFns.lean`: `math/gcd` is the greatest common divisor (Euclid's loop over the
   exact `fmod` terminates and computes `Nat.gcd` of the operands counted in units of 2^-1074; on integer-valued doubles of any
   magnitude: the integer gcd), `math/lcm` on integers whose lcm fits 2^53, `math/ceil` / `math/trunc` / `math/abs` / `math/round` are
   the mathematical functions.  Proof file (Mathlib), not linked into the driver. -/
import JanetModel.Int64.MathFns
import JanetModel.Int64.IeeeInt
namespace JanetModel.Int64.Ieee
open JanetModel.Int64

/-- the signed multiple -/
def scaledInt (b : Nat) : ℤ :=
  match decode b with
  | .fin neg m e => smant neg (m * 2 ^ (e + 1074).toNat)
  | _ => 0

theorem scaledInt_natAbs (b : Nat) : (scaledInt b).natAbs = scaledMag b := by
  unfold scaledInt scaledMag
  cases decode b with
  | nan => rfl
  | inf s => rfl
  | fin neg m e =>
    have h : ((m * 2 ^ (e + 1074).toNat : Nat) : ℤ).natAbs = m * 2 ^ (e + 1074).toNat := Int.natAbs_natCast _
    cases neg
    · simpa [smant] using h
    · simpa [smant] using h

theorem valQ_scaled (b : Nat) (hb : FinBits b) : valQ b = (scaledInt b : ℚ) * 2 ^ (-1074 : ℤ) := by
  obtain ⟨n, m, e, hd⟩ := hb
  obtain ⟨_, he, _⟩ := decode_fin_bounds b n m e hd
  rw [valQ_of_decode b n m e hd]
  unfold scaledInt; rw [hd]
  simp only []
  obtain ⟨k, hk⟩ := Int.eq_ofNat_of_zero_le (show 0 ≤ e + 1074 by omega)
  rw [hk, Int.toNat_natCast, smant_eq]
  push_cast
  have : (2 : ℚ) ^ e = 2 ^ k * 2 ^ (-1074 : ℤ) := by
    rw [← zpow_natCast, zpow2_add]; congr 1; omega
  rw [this]; ring

theorem scaledMag_zero_of_isZeroBits (b : Nat) (hz : isZeroBits b = true) : scaledMag b = 0 := by
  unfold scaledMag
  cases hd : decode b with
  | fin neg m e => simp only [(isZeroBits_iff b neg m e hd).1 hz, Nat.zero_mul]
  | _ => rfl

theorem scaledInt_ne_zero (b : Nat) (hb : FinBits b) (hz : isZeroBits b = false) : scaledInt b ≠ 0 := by
  intro h0
  have := valQ_scaled b hb
  rw [h0] at this
  simp at this
  exact isZeroBits_false b hb hz this

/-- C `fmod` on two finite doubles, counted in units of 2^-1074, is the truncating integer remainder -/
theorem fmod_scaled (a b : Nat) (ha : FinBits a) (hb : FinBits b) (hz : isZeroBits b = false) :
    FinBits (fmod a b) ∧ scaledInt (fmod a b) = Int.tmod (scaledInt a) (scaledInt b) := by
  have hB := scaledInt_ne_zero b hb hz
  obtain ⟨nx, mx, ex, hda⟩ := ha
  obtain ⟨ny, my, ey, hdb⟩ := hb
  have hmy := nonzero_of_isZeroBits b ny my ey hdb hz
  obtain ⟨g1, g2⟩ := fmod_exact a b nx ny mx my ex ey hda hdb hmy
  refine ⟨g1, ?_⟩
  have va := valQ_scaled a ⟨nx, mx, ex, hda⟩
  have vb := valQ_scaled b ⟨ny, my, ey, hdb⟩
  have vf := valQ_scaled (fmod a b) g1
  have hu : (2 : ℚ) ^ (-1074 : ℤ) ≠ 0 := (two_zpow_pos _).ne'
  have hBq : (scaledInt b : ℚ) ≠ 0 := by exact_mod_cast hB
  have hquot : valQ a / valQ b = (scaledInt a : ℚ) / (scaledInt b : ℚ) := by
    rw [va, vb]; field_simp
  rw [vf, hquot, truncQ_int_div _ _ hB, va, vb] at g2
  have : ((scaledInt (fmod a b) : ℤ) : ℚ) = ((Int.tmod (scaledInt a) (scaledInt b) : ℤ) : ℚ) := by
    rw [Int.tmod_def]
    push_cast
    have e : (scaledInt a : ℚ) * 2 ^ (-1074 : ℤ) - (scaledInt b : ℚ) * 2 ^ (-1074 : ℤ) * ((scaledInt a).tdiv (scaledInt b) : ℚ) =
        ((scaledInt a : ℚ) - (scaledInt b : ℚ) * ((scaledInt a).tdiv (scaledInt b) : ℚ)) * 2 ^ (-1074 : ℤ) := by ring
    rw [e] at g2
    exact mul_right_cancel₀ hu g2
  exact_mod_cast this

/-- Euclid's loop of `janet_gcd` on two finite doubles: with fuel above the magnitude of `y` (in units of 2^-1074) it
    **terminates** (never answers `none`) and returns a finite double whose magnitude, in those units, is `Nat.gcd` of the
    magnitudes of the operands -/
theorem gcdLoop_spec : ∀ (fuel a b : Nat), FinBits a → FinBits b → scaledMag b < fuel →
    ∃ r, gcdLoop fuel a b = some r ∧ FinBits r ∧ scaledMag r = Nat.gcd (scaledMag a) (scaledMag b) := by
  intro fuel
  induction fuel with
  | zero => intro a b _ _ h; omega
  | succ n ih =>
    intro a b ha hb hfuel
    unfold gcdLoop
    cases hz : isZeroBits b with
    | true =>
      simp only [if_true]
      exact ⟨a, rfl, ha, by rw [scaledMag_zero_of_isZeroBits b hz, Nat.gcd_zero_right]⟩
    | false =>
      simp only [Bool.false_eq_true, if_false]
      obtain ⟨f1, f2⟩ := fmod_scaled a b ha hb hz
      have hmag : scaledMag (fmod a b) = scaledMag a % scaledMag b := by
        rw [← scaledInt_natAbs, f2, Int.natAbs_tmod, scaledInt_natAbs, scaledInt_natAbs]
      have hbpos : 0 < scaledMag b := by
        rw [← scaledInt_natAbs]; exact Int.natAbs_pos.2 (scaledInt_ne_zero b hb hz)
      have hlt : scaledMag (fmod a b) < n := by
        rw [hmag]; have := Nat.mod_lt (scaledMag a) hbpos; omega
      obtain ⟨r, hr, hfr, hg⟩ := ih b (fmod a b) hb f1 hlt
      refine ⟨r, hr, hfr, ?_⟩
      rw [hg, hmag, Nat.gcd_comm (scaledMag a) (scaledMag b), Nat.gcd_comm (scaledMag b) (scaledMag a % scaledMag b)]
      exact (Nat.gcd_rec (scaledMag b) (scaledMag a)).symm

theorem janetGcd_finite (a b : Nat) (ha : FinBits a) (hb : FinBits b) :
    FinBits (janetGcd a b) ∧ scaledMag (janetGcd a b) = Nat.gcd (scaledMag a) (scaledMag b) := by
  obtain ⟨r, hr, hfr, hg⟩ := gcdLoop_spec (scaledMag b + 1) a b ha hb (by omega)
  obtain ⟨n1, m1, e1, h1⟩ := ha
  obtain ⟨n2, m2, e2, h2⟩ := hb
  have : janetGcd a b = r := by
    unfold janetGcd; rw [h1, h2]; simp only []; rw [hr]; rfl
  rw [this]; exact ⟨hfr, hg⟩

theorem scaledInt_of_intVal (a : Nat) (x : ℤ) (ha : IntVal a x) : scaledInt a = x * 2 ^ 1074 := by
  have h := valQ_scaled a ha.1
  rw [ha.2] at h
  have hu : (2 : ℚ) ^ (-1074 : ℤ) * 2 ^ (1074 : ℕ) = 1 := by
    rw [← zpow_natCast, zpow2_add]; norm_num
  have : ((scaledInt a : ℤ) : ℚ) = ((x * 2 ^ 1074 : ℤ) : ℚ) := by
    push_cast
    rw [h, mul_assoc, hu, mul_one]
  exact_mod_cast this

/-- `(math/gcd x y)` on integer-valued doubles of **any** magnitude (not only below 2^53: `fmod` is exact): an integer-valued
    double whose magnitude is the greatest common divisor of x and y (its sign is that of the last nonzero remainder) -/
theorem janetGcd_int (a b : Nat) (x y : ℤ) (ha : IntVal a x) (hb : IntVal b y) :
    ∃ g : ℤ, IntVal (janetGcd a b) g ∧ g.natAbs = Int.gcd x y := by
  obtain ⟨hf, hg⟩ := janetGcd_finite a b ha.1 hb.1
  have sa : scaledMag a = x.natAbs * 2 ^ 1074 := by
    rw [← scaledInt_natAbs, scaledInt_of_intVal a x ha, Int.natAbs_mul, Int.natAbs_pow]; rfl
  have sb : scaledMag b = y.natAbs * 2 ^ 1074 := by
    rw [← scaledInt_natAbs, scaledInt_of_intVal b y hb, Int.natAbs_mul, Int.natAbs_pow]; rfl
  rw [sa, sb, Nat.gcd_mul_right] at hg
  have hG : (Nat.gcd x.natAbs y.natAbs) = Int.gcd x y := rfl
  rw [hG, ← scaledInt_natAbs] at hg
  have hv := valQ_scaled _ hf
  have hu : (2 : ℚ) ^ (1074 : ℕ) * 2 ^ (-1074 : ℤ) = 1 := by
    rw [← zpow_natCast, zpow2_add]; norm_num
  rcases Int.natAbs_eq (scaledInt (janetGcd a b)) with h | h
  · refine ⟨(Int.gcd x y : ℤ), ⟨hf, ?_⟩, by simp⟩
    rw [hv, h, hg]; push_cast; rw [mul_assoc, hu, mul_one]
  · refine ⟨-(Int.gcd x y : ℤ), ⟨hf, ?_⟩, by simp⟩
    rw [hv, h, hg]; push_cast; rw [neg_mul, mul_assoc, hu, mul_one]

/-- NaN and infinity cases of `janet_gcd` -/
theorem janetGcd_special (a b : Nat) :
    ((decode a = .nan ∨ decode b = .nan) → janetGcd a b = nanBits) ∧
    (decode a ≠ .nan → decode b ≠ .nan → ((∃ s, decode a = .inf s) ∨ (∃ s, decode b = .inf s)) → janetGcd a b = infBits) := by
  refine ⟨fun h => ?_, fun h1 h2 h => ?_⟩
  · unfold janetGcd
    rcases h with h | h
    · rw [h]
    · rw [h]; cases decode a <;> rfl
  · unfold janetGcd
    rcases h with ⟨s, h⟩ | ⟨s, h⟩
    · rw [h]; cases hb : decode b <;> first | rfl | exact absurd hb h2
    · rw [h]; cases ha : decode a <;> first | rfl | exact absurd ha h1

/-- `(math/lcm x y)` = `(x / gcd) * y` on integer-valued doubles, |x| ≤ 2^53, not both zero, least common multiple ≤ 2^53:
    an integer-valued double whose magnitude is **the least common multiple** — both IEEE operations are exact
    (x / gcd is an integer no larger than x).  `(math/lcm 0 0)` is NaN (0 / 0). -/
theorem janetLcm_int (a b : Nat) (x y : ℤ) (ha : IntVal a x) (hb : IntVal b y) (hx : |x| ≤ 9007199254740992)
    (hne : x ≠ 0 ∨ y ≠ 0) (hl : Int.lcm x y ≤ 9007199254740992) :
    ∃ l : ℤ, IntVal (janetLcm a b) l ∧ l.natAbs = Int.lcm x y := by
  obtain ⟨g, hg, hgabs⟩ := janetGcd_int a b x y ha hb
  have hG0 : Int.gcd x y ≠ 0 := by
    intro h0
    rcases hne with h | h
    · exact h ((Int.gcd_eq_zero_iff.1 h0).1)
    · exact h ((Int.gcd_eq_zero_iff.1 h0).2)
  have hg0 : g ≠ 0 := by
    intro h0; rw [h0] at hgabs; exact hG0 (by simpa using hgabs.symm)
  have hdvd : g ∣ x := by
    rw [← Int.natAbs_dvd_natAbs, hgabs]
    exact Int.natCast_dvd_natCast.1 (by rw [Int.natCast_natAbs]; exact (dvd_abs _ _).2 (Int.gcd_dvd_left x y))
  obtain ⟨q, hq⟩ := hdvd
  have hqle : |q| ≤ 9007199254740992 := by
    have h1 : |x| = |g| * |q| := by rw [hq, abs_mul]
    have h2 : 1 ≤ |g| := Int.one_le_abs hg0
    have h3 : 0 ≤ |q| := abs_nonneg q
    nlinarith
  have hd : IntVal (ieee.div a (janetGcd a b)) q := num_quot_int a _ x g q ha hg hg0 hq hqle
  have hlabs : (q * y).natAbs = Int.lcm x y := by
    have hxn : x.natAbs = Int.gcd x y * q.natAbs := by
      have := congrArg Int.natAbs hq
      rw [Int.natAbs_mul, hgabs] at this; exact this
    show _ = Nat.lcm x.natAbs y.natAbs
    unfold Nat.lcm
    have hG' : Int.gcd x y = Nat.gcd x.natAbs y.natAbs := rfl
    rw [hG'] at hxn hG0
    generalize Nat.gcd x.natAbs y.natAbs = G at hxn hG0 ⊢
    rw [Int.natAbs_mul, hxn, Nat.mul_assoc, Nat.mul_div_cancel_left _ (Nat.pos_of_ne_zero hG0)]
  have hlle : |q * y| ≤ 9007199254740992 := by
    have : ((q * y).natAbs : ℤ) = |q * y| := Int.natCast_natAbs _
    rw [← this, hlabs]; exact_mod_cast hl
  exact ⟨q * y, (num_arith_int _ b q y hd hb).2.2 hlle, hlabs⟩

theorem ceil_exact (a : Nat) (ha : FinBits a) : FinBits (ceil a) ∧ valQ (ceil a) = ((⌈valQ a⌉ : ℤ) : ℚ) := by
  obtain ⟨n1, v1⟩ := valQ_negate a ha
  obtain ⟨f1, f2⟩ := floor_exact (negate a) n1
  obtain ⟨n2, v2⟩ := valQ_negate _ f1
  refine ⟨n2, ?_⟩
  show valQ (negate (floor (negate a))) = _
  have hfl : ieee.floor (negate a) = floor (negate a) := rfl
  rw [hfl] at f2 v2
  rw [v2, f2, v1, Int.floor_neg]; push_cast; ring

theorem trunc_exact (a : Nat) (ha : FinBits a) : FinBits (trunc a) ∧ valQ (trunc a) = ((truncQ (valQ a) : ℤ) : ℚ) := by
  obtain ⟨n, m, e, hd⟩ := ha
  have hv := valQ_of_decode a n m e hd
  have hmq : (0 : ℚ) ≤ (m : ℚ) * 2 ^ e := mul_nonneg (by positivity) (two_zpow_pos e).le
  cases n with
  | true =>
    have ht : trunc a = ceil a := by unfold trunc; rw [hd]; rfl
    rw [ht]
    obtain ⟨c1, c2⟩ := ceil_exact a ⟨_, _, _, hd⟩
    refine ⟨c1, ?_⟩
    rw [c2]
    have hle : valQ a ≤ 0 := by rw [hv]; simp only [sgnQ, if_true, neg_one_mul]; linarith
    unfold truncQ
    rcases eq_or_lt_of_le hle with h0 | hlt
    · rw [h0]; simp
    · rw [if_neg (by linarith)]
  | false =>
    have ht : trunc a = floor a := by unfold trunc; rw [hd]; rfl
    rw [ht]
    obtain ⟨c1, c2⟩ := floor_exact a ⟨_, _, _, hd⟩
    refine ⟨c1, ?_⟩
    have hfl : ieee.floor a = floor a := rfl
    rw [hfl] at c2
    rw [c2]
    have hge : 0 ≤ valQ a := by rw [hv]; simp only [sgnQ, Bool.false_eq_true, if_false, one_mul]; exact hmq
    unfold truncQ
    rw [if_pos hge]

/-- `fabs` of a finite double: the absolute value (sign bit cleared, nothing else changes) -/
theorem fabs_exact (a : Nat) (ha : FinBits a) : FinBits (fabs a) ∧ valQ (fabs a) = |valQ a| := by
  obtain ⟨n, m, e, hd⟩ := ha
  have hf : fabs a = a % 9223372036854775808 := by unfold fabs; rw [hd]
  obtain ⟨h2, h3, hs⟩ := mod_signBit_fields a
  have hdec : decode (a % 9223372036854775808) = .fin false m e := by
    rw [decode_setSign a _ h2 h3, hd, hs]
    rfl
  rw [hf]
  refine ⟨⟨_, _, _, hdec⟩, ?_⟩
  rw [valQ_of_decode _ _ _ _ hdec, valQ_of_decode _ _ _ _ hd]
  rw [abs_sgnQ_mul, abs_of_nonneg (mul_nonneg (by positivity) (two_zpow_pos e).le)]
  exact one_mul _

/-- C `round` on a rational -/
def roundHalfAway (q : ℚ) : ℤ := if 0 ≤ q then ⌊q + 1 / 2⌋ else -⌊-q + 1 / 2⌋

theorem roundHalfAway_int (z : ℤ) : roundHalfAway (z : ℚ) = z := by
  have h : ∀ w : ℤ, ⌊(w : ℚ) + 1 / 2⌋ = w := fun w => by
    rw [Int.floor_eq_iff]; constructor <;> linarith
  unfold roundHalfAway
  split
  · exact h z
  · have := h (-z); push_cast at this; rw [this]; ring

theorem roundHalfAway_signed (neg : Bool) (q : ℚ) (hq : 0 < q) :
    roundHalfAway (sgnQ neg * q) = (if neg then -⌊q + 1 / 2⌋ else ⌊q + 1 / 2⌋) := by
  unfold roundHalfAway
  cases neg with
  | false => simp only [sgnQ, Bool.false_eq_true, if_false, one_mul]; rw [if_pos hq.le]
  | true => simp only [sgnQ, if_true, neg_one_mul]; rw [if_neg (by linarith), neg_neg]

theorem roundHalfAway_sgn_add (n : Bool) (f : Nat) (t : ℚ) (h0 : 0 < t) (h1 : t < 1) :
    roundHalfAway (sgnQ n * ((f : ℚ) + t)) = smant n (if 1 / 2 ≤ t then f + 1 else f) := by
  have hfl : ⌊(f : ℚ) + t + 1 / 2⌋ = ((if 1 / 2 ≤ t then f + 1 else f : Nat) : ℤ) := by
    rw [Int.floor_eq_iff]
    split <;> push_cast <;> constructor <;> linarith
  rw [roundHalfAway_signed n _ (by positivity), hfl]
  cases n <;> rfl

theorem round_exact (a : Nat) (ha : FinBits a) : FinBits (round a) ∧ valQ (round a) = ((roundHalfAway (valQ a) : ℤ) : ℚ) := by
  obtain ⟨n, m, e, hd⟩ := ha
  unfold round
  rw [hd]
  refine integral_exact roundHalfAway roundHalfAway_int a n m e hd _ (by split <;> omega) (fun t h0 h1 ht => ?_)
  rw [roundHalfAway_sgn_add n _ t h0 h1]
  congr 2
  -- the model compares the remainder with half the divisor
  apply propext
  have hp : (0 : ℚ) < 2 ^ (-e).toNat := by positivity
  rw [ht, div_le_div_iff₀ two_pos hp, one_mul, mul_comm]
  exact_mod_cast Iff.rfl

end JanetModel.Int64.Ieee
