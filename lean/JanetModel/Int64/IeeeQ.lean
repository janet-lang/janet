/- C14 — the executable IEEE-754 binary64 instance (`Int64/Ieee.lean`) meets the mathematical definition of
   round-to-nearest-even: `rneQ`, the Flocq-style definition `round radix2 (FLT_exp (-1074) 53) ZnearestE` over ℚ.
   Proof file (single Mathlib modules), not linked into the driver. -/
import JanetModel.Int64.Ieee
import JanetModel.Int64.LemmasQ
import Mathlib.Data.Int.Log
import Mathlib.Tactic.Ring
import Mathlib.Tactic.FieldSimp
import Mathlib.Tactic.NormNum
namespace JanetModel.Int64.Ieee
open JanetModel.Int64

/-- round a rational to the nearest integer, ties to the even one -/
def rneInt (r : ℚ) : ℤ :=
  if r - ⌊r⌋ < 1 / 2 then ⌊r⌋ else if 1 / 2 < r - ⌊r⌋ then ⌊r⌋ + 1 else if ⌊r⌋ % 2 = 0 then ⌊r⌋ else ⌊r⌋ + 1

/-- exponent of the last place of the binary64 format at `x`: 53 significant bits, but not below 2^-1074 -/
def cexp (x : ℚ) : ℤ := max (Int.log 2 |x| - 52) (-1074)

/-- `x` rounded to binary64 precision, to nearest, ties to even; the exponent is unbounded above (overflow is decided on
    the rounded value, as IEEE-754 prescribes) -/
def rneQ (x : ℚ) : ℚ :=
  if x < 0 then -((rneInt (-x / 2 ^ cexp x) : ℚ) * 2 ^ cexp x) else (rneInt (x / 2 ^ cexp x) : ℚ) * 2 ^ cexp x

theorem rneInt_spec (r : ℚ) :
    (rneInt r = ⌊r⌋ ∧ r - ⌊r⌋ ≤ 1 / 2) ∨ (rneInt r = ⌊r⌋ + 1 ∧ 1 / 2 ≤ r - ⌊r⌋) := by
  unfold rneInt
  split
  · exact Or.inl ⟨rfl, le_of_lt ‹_›⟩
  · split
    · exact Or.inr ⟨rfl, le_of_lt ‹_›⟩
    · have he : r - ⌊r⌋ = 1 / 2 := le_antisymm (not_lt.1 ‹_›) (not_lt.1 ‹_›)
      split
      · exact Or.inl ⟨rfl, he.le⟩
      · exact Or.inr ⟨rfl, he.ge⟩

theorem rneInt_cases (r : ℚ) : rneInt r = ⌊r⌋ ∨ rneInt r = ⌊r⌋ + 1 :=
  (rneInt_spec r).imp And.left And.left

/-- nearest: an integer `z` is at most `⌊r⌋` or at least `⌊r⌋ + 1`, so at least the fractional part resp. its complement away -/
theorem rneInt_nearest (r : ℚ) (z : ℤ) : |(rneInt r : ℚ) - r| ≤ |(z : ℚ) - r| := by
  have h1 := Int.floor_le r
  have h2 := Int.lt_floor_add_one r
  have hd : r - z ≤ |(z : ℚ) - r| ∧ z - r ≤ |(z : ℚ) - r| := ⟨by rw [abs_sub_comm]; exact le_abs_self _, le_abs_self _⟩
  have hz : (z : ℚ) ≤ ⌊r⌋ ∨ (⌊r⌋ : ℚ) + 1 ≤ z := by
    rcases le_or_gt z ⌊r⌋ with h | h
    · exact Or.inl (by exact_mod_cast h)
    · exact Or.inr (by exact_mod_cast (show ⌊r⌋ + 1 ≤ z from h))
  rcases rneInt_spec r with ⟨e, h⟩ | ⟨e, h⟩
  · rw [e, abs_le]
    rcases hz with hz | hz <;> constructor <;> linarith
  · rw [e, abs_le]
    push_cast
    rcases hz with hz | hz <;> constructor <;> linarith

theorem rneInt_half (r : ℚ) : |(rneInt r : ℚ) - r| ≤ 1 / 2 := by
  have a := rneInt_nearest r ⌊r⌋
  have b := rneInt_nearest r (⌊r⌋ + 1)
  rw [abs_sub_comm (⌊r⌋ : ℚ), abs_of_nonneg (sub_nonneg.2 (Int.floor_le r))] at a
  push_cast at b
  rw [abs_of_nonneg (a := (⌊r⌋ : ℚ) + 1 - r) (by linarith [Int.lt_floor_add_one r])] at b
  linarith

theorem rneInt_tie_even (r : ℚ) (h : r - ⌊r⌋ = 1 / 2) : rneInt r % 2 = 0 := by
  unfold rneInt
  rw [if_neg (by rw [h]; exact lt_irrefl _), if_neg (by rw [h]; exact lt_irrefl _)]
  split
  · assumption
  · omega

theorem rneInt_intCast (n : ℤ) : rneInt (n : ℚ) = n := by
  unfold rneInt
  simp

theorem rneInt_le_of_le (r : ℚ) (n : ℤ) (h : r ≤ n) : rneInt r ≤ n := by
  have hf : ⌊r⌋ ≤ n := by
    have := Int.floor_le r
    exact_mod_cast (Int.floor_le_iff.2 (by linarith [Int.lt_floor_add_one r] : r < n + 1) : ⌊r⌋ ≤ n)
  rcases lt_or_eq_of_le hf with hlt | heq
  · rcases rneInt_cases r with e | e <;> omega
  · -- ⌊r⌋ = n and r ≤ n: r = n
    have : r = n := le_antisymm h (by rw [← heq]; exact Int.floor_le r)
    rw [this, rneInt_intCast]

theorem rneInt_ge_of_ge (r : ℚ) (n : ℤ) (h : (n : ℚ) ≤ r) : n ≤ rneInt r := by
  have hf : n ≤ ⌊r⌋ := Int.le_floor.2 h
  rcases rneInt_cases r with e | e <;> omega

theorem rneQ_half_ulp (x : ℚ) : |rneQ x - x| ≤ 2 ^ cexp x / 2 := by
  have hp : (0 : ℚ) < 2 ^ cexp x := zpow_pos (by norm_num) _
  have key : ∀ y : ℚ, |(rneInt (y / 2 ^ cexp x) : ℚ) * 2 ^ cexp x - y| ≤ 2 ^ cexp x / 2 := by
    intro y
    have h := rneInt_half (y / 2 ^ cexp x)
    have e : (rneInt (y / 2 ^ cexp x) : ℚ) * 2 ^ cexp x - y = ((rneInt (y / 2 ^ cexp x) : ℚ) - y / 2 ^ cexp x) * 2 ^ cexp x := by
      field_simp
    rw [e, abs_mul, abs_of_pos hp]
    calc |(rneInt (y / 2 ^ cexp x) : ℚ) - y / 2 ^ cexp x| * 2 ^ cexp x ≤ 1 / 2 * 2 ^ cexp x :=
          mul_le_mul_of_nonneg_right h hp.le
      _ = 2 ^ cexp x / 2 := by ring
  unfold rneQ
  split
  · have := key (-x)
    rw [show -((rneInt (-x / 2 ^ cexp x) : ℚ) * 2 ^ cexp x) - x = -((rneInt (-x / 2 ^ cexp x) : ℚ) * 2 ^ cexp x - -x) by ring, abs_neg]
    exact this
  · exact key x

theorem rneDiv_spec (N D : Nat) (hD : 0 < D) : ((rneDiv N D : Nat) : ℤ) = rneInt ((N : ℚ) / D) := by
  have hfl : ⌊((N : ℚ) / D)⌋ = ((N / D : Nat) : ℤ) := by
    rw [Rat.floor_natCast_div_natCast]; rfl
  have hDq : (0 : ℚ) < D := by exact_mod_cast hD
  have hfrac : (N : ℚ) / D - ((N / D : Nat) : ℤ) = ((N % D : Nat) : ℚ) / D := by
    have h := Nat.div_add_mod N D
    have hq : (N : ℚ) = (D : ℚ) * ((N / D : Nat) : ℚ) + ((N % D : Nat) : ℚ) := by exact_mod_cast h.symm
    rw [Int.cast_natCast, eq_div_iff hDq.ne', sub_mul, div_mul_cancel₀ _ hDq.ne', hq]
    ring
  unfold rneDiv rneInt
  rw [hfl, hfrac]
  simp only []
  have c1 : ((N % D : Nat) : ℚ) / D < 1 / 2 ↔ 2 * (N % D) < D := by
    rw [div_lt_div_iff₀ hDq two_pos, one_mul, mul_comm]
    exact_mod_cast Iff.rfl
  have c2 : 1 / 2 < ((N % D : Nat) : ℚ) / D ↔ D < 2 * (N % D) := by
    rw [div_lt_div_iff₀ two_pos hDq, one_mul, mul_comm]
    exact_mod_cast Iff.rfl
  by_cases h1 : 2 * (N % D) < D
  · rw [if_pos h1, if_pos (c1.2 h1)]
  · rw [if_neg h1, if_neg (fun h => h1 (c1.1 h))]
    by_cases h2 : D < 2 * (N % D)
    · rw [if_pos h2, if_pos (c2.2 h2)]; push_cast; rfl
    · rw [if_neg h2, if_neg (fun h => h2 (c2.1 h))]
      have hpar : ((N / D : Nat) : ℤ) % 2 = 0 ↔ (N / D) % 2 = 0 := by omega
      by_cases h3 : (N / D) % 2 = 0
      · rw [if_pos h3, if_pos (hpar.2 h3)]
      · rw [if_neg h3, if_neg (fun h => h3 (hpar.1 h))]; push_cast; rfl

theorem bitLen_bounds (n : Nat) (h : 0 < n) : 2 ^ (bitLen n - 1) ≤ n ∧ n < 2 ^ bitLen n ∧ 1 ≤ bitLen n := by
  unfold bitLen
  rw [if_neg (by omega)]
  exact ⟨by simpa using Nat.log2_self_le (by omega : n ≠ 0), Nat.lt_log2_self, by omega⟩

theorem two_zpow_pos (k : ℤ) : (0 : ℚ) < 2 ^ k := zpow_pos (by norm_num) k

/-- the model's `⌊log2 (N / D)⌋` is the binade of `N / D` -/
theorem ilog2Ratio_spec (N D : Nat) (hN : 0 < N) (hD : 0 < D) :
    (2 : ℚ) ^ ilog2Ratio N D ≤ (N : ℚ) / D ∧ (N : ℚ) / D < 2 ^ (ilog2Ratio N D + 1) := by
  obtain ⟨n1, n2, n3⟩ := bitLen_bounds N hN
  obtain ⟨d1, d2, d3⟩ := bitLen_bounds D hD
  have hDq : (0 : ℚ) < D := by exact_mod_cast hD
  have two_ne : (2 : ℚ) ≠ 0 := by norm_num
  -- the bit-length bounds in ℚ with integer exponents
  have N1 : (2 : ℚ) ^ ((bitLen N : ℤ) - 1) ≤ N := by
    have : ((bitLen N : ℤ) - 1) = ((bitLen N - 1 : Nat) : ℤ) := by omega
    rw [this, zpow_natCast]; exact_mod_cast n1
  have N2 : (N : ℚ) < 2 ^ (bitLen N : ℤ) := by rw [zpow_natCast]; exact_mod_cast n2
  have D1 : (2 : ℚ) ^ ((bitLen D : ℤ) - 1) ≤ D := by
    have : ((bitLen D : ℤ) - 1) = ((bitLen D - 1 : Nat) : ℤ) := by omega
    rw [this, zpow_natCast]; exact_mod_cast d1
  have D2 : (D : ℚ) < 2 ^ (bitLen D : ℤ) := by rw [zpow_natCast]; exact_mod_cast d2
  set k0 : ℤ := (bitLen N : ℤ) - (bitLen D : ℤ) with hk0
  -- 2^(k0-1) ≤ N/D < 2^(k0+1)
  have lo : (2 : ℚ) ^ (k0 - 1) ≤ (N : ℚ) / D := by
    rw [le_div_iff₀ hDq]
    have e : (2 : ℚ) ^ (k0 - 1) * 2 ^ (bitLen D : ℤ) = 2 ^ ((bitLen N : ℤ) - 1) := by
      rw [← zpow_add₀ two_ne]; congr 1; omega
    calc (2 : ℚ) ^ (k0 - 1) * D ≤ 2 ^ (k0 - 1) * 2 ^ (bitLen D : ℤ) :=
          mul_le_mul_of_nonneg_left D2.le (two_zpow_pos _).le
      _ = 2 ^ ((bitLen N : ℤ) - 1) := e
      _ ≤ N := N1
  have hi : (N : ℚ) / D < 2 ^ (k0 + 1) := by
    rw [div_lt_iff₀ hDq]
    have e : (2 : ℚ) ^ (k0 + 1) * 2 ^ ((bitLen D : ℤ) - 1) = 2 ^ (bitLen N : ℤ) := by
      rw [← zpow_add₀ two_ne]; congr 1; omega
    calc (N : ℚ) < 2 ^ (bitLen N : ℤ) := N2
      _ = 2 ^ (k0 + 1) * 2 ^ ((bitLen D : ℤ) - 1) := e.symm
      _ ≤ 2 ^ (k0 + 1) * D := mul_le_mul_of_nonneg_left D1 (two_zpow_pos _).le
  -- the comparison of the model decides 2^k0 ≤ N/D
  have hcond : (if 0 ≤ k0 then D * 2 ^ k0.toNat ≤ N else D ≤ N * 2 ^ (-k0).toNat) ↔ (2 : ℚ) ^ k0 ≤ (N : ℚ) / D := by
    rw [le_div_iff₀ hDq]
    by_cases hk : 0 ≤ k0
    · rw [if_pos hk]
      obtain ⟨j, hj⟩ := Int.eq_ofNat_of_zero_le hk
      rw [hj, Int.toNat_natCast, zpow_natCast, mul_comm]
      exact_mod_cast Iff.rfl
    · rw [if_neg hk]
      obtain ⟨j, hj⟩ := Int.eq_ofNat_of_zero_le (show 0 ≤ -k0 by omega)
      have hk' : k0 = -(j : ℤ) := by omega
      rw [hj, Int.toNat_natCast, hk', zpow_neg, zpow_natCast]
      have hp : (0 : ℚ) < 2 ^ j := by positivity
      rw [inv_mul_le_iff₀ hp, mul_comm]
      exact_mod_cast Iff.rfl
  unfold ilog2Ratio
  simp only []
  rw [← hk0]
  by_cases hc : (if 0 ≤ k0 then D * 2 ^ k0.toNat ≤ N else D ≤ N * 2 ^ (-k0).toNat)
  · rw [if_pos hc]; exact ⟨hcond.1 hc, hi⟩
  · rw [if_neg hc]
    refine ⟨lo, ?_⟩
    have : ¬ (2 : ℚ) ^ k0 ≤ (N : ℚ) / D := fun h => hc (hcond.2 h)
    rw [show k0 - 1 + 1 = k0 by ring]
    exact lt_of_not_ge this

theorem log_eq_of_bounds (x : ℚ) (k : ℤ) (h1 : (2 : ℚ) ^ k ≤ x) (h2 : x < 2 ^ (k + 1)) : Int.log 2 x = k := by
  have hx : 0 < x := lt_of_lt_of_le (two_zpow_pos k) h1
  have a : k ≤ Int.log 2 x := (Int.zpow_le_iff_le_log (by norm_num) hx).1 (by exact_mod_cast h1)
  have b : Int.log 2 x < k + 1 := (Int.lt_zpow_iff_log_lt (by norm_num) hx).1 (by exact_mod_cast h2)
  omega

theorem quantum_eq_cexp (N D : Nat) (hN : 0 < N) (hD : 0 < D) : quantum N D = cexp ((N : ℚ) / D) := by
  obtain ⟨h1, h2⟩ := ilog2Ratio_spec N D hN hD
  have hpos : (0 : ℚ) < (N : ℚ) / D := lt_of_lt_of_le (two_zpow_pos _) h1
  unfold quantum cexp
  rw [abs_of_pos hpos, log_eq_of_bounds _ _ h1 h2]

theorem zpow_of_nonneg {e : ℤ} (he : 0 ≤ e) : (2 : ℚ) ^ e = 2 ^ e.toNat := by
  rw [← zpow_natCast, Int.toNat_of_nonneg he]

theorem zpow_of_neg {e : ℤ} (he : ¬ 0 ≤ e) : (2 : ℚ) ^ e = (2 ^ (-e).toNat)⁻¹ := by
  rw [← zpow_natCast, Int.toNat_of_nonneg (by omega), zpow_neg, inv_inv]

theorem scaledRne_spec (N D : Nat) (hD : 0 < D) (q : ℤ) :
    ((scaledRne N D q : Nat) : ℤ) = rneInt ((N : ℚ) / D / 2 ^ q) := by
  unfold scaledRne
  by_cases hq : 0 ≤ q
  · rw [if_pos hq, rneDiv_spec N _ (Nat.mul_pos hD (Nat.two_pow_pos _)), zpow_of_nonneg hq]
    congr 1
    push_cast
    rw [div_div]
  · rw [if_neg hq, rneDiv_spec _ D hD, zpow_of_neg hq]
    congr 1
    push_cast
    rw [div_inv_eq_mul]
    ring

theorem zpow2_add (a b : ℤ) : (2 : ℚ) ^ a * 2 ^ b = 2 ^ (a + b) := (zpow_add₀ (by norm_num) a b).symm

theorem zpow2_mono {a b : ℤ} (h : a ≤ b) : (2 : ℚ) ^ a ≤ 2 ^ b := zpow_le_zpow_right₀ (by norm_num) h

theorem two53_cast : ((9007199254740992 : Nat) : ℚ) = 2 ^ (53 : ℤ) := by norm_num

theorem natCast_lt_two53 {m : Nat} (hm : m < 9007199254740992) : (m : ℚ) < 2 ^ (53 : ℤ) :=
  two53_cast ▸ Nat.cast_lt.2 hm

theorem dyadic_lt {m : Nat} (hm : m < 9007199254740992) (e : ℤ) : (m : ℚ) * 2 ^ e < 2 ^ ((53 : ℤ) + e) := by
  rw [← zpow2_add]
  exact mul_lt_mul_of_pos_right (natCast_lt_two53 hm) (two_zpow_pos e)

theorem cexp_neg (x : ℚ) : cexp (-x) = cexp x := by unfold cexp; rw [abs_neg]

theorem cexp_ge (x : ℚ) : -1074 ≤ cexp x := le_max_right _ _

/-- a number below `2^(e+53)` has its last place at `e` or lower (`e` in the format's range) -/
theorem cexp_le {x : ℚ} {e : ℤ} (hx : x ≠ 0) (h : |x| < 2 ^ (e + 53)) (he : -1074 ≤ e) : cexp x ≤ e := by
  have hk : Int.log 2 |x| < e + 53 := (Int.lt_zpow_iff_log_lt (by norm_num) (abs_pos.2 hx)).1 (by exact_mod_cast h)
  exact max_le (by omega) he

theorem max_eq_of_gt {a c : ℤ} (h : c < max a c) : max a c = a := by
  rcases max_cases a c with ⟨e, _⟩ | ⟨e, _⟩
  · exact e
  · rw [e] at h; exact absurd h (lt_irrefl _)

/-- above the subnormal range the last place is 52 below the leading bit -/
theorem le_abs_of_cexp {x : ℚ} (hx : x ≠ 0) (h : -1074 < cexp x) : 2 ^ (cexp x + 52) ≤ |x| := by
  have hc : cexp x = Int.log 2 |x| - 52 := max_eq_of_gt h
  rw [hc, sub_add_cancel]
  exact_mod_cast Int.zpow_log_le_self (b := 2) (by norm_num) (abs_pos.2 hx)

/-- the conditions the rounded significand `t` and the biased quantum `E = q + 1074` satisfy -/
structure EncOk (E t : Nat) : Prop where
  le53 : t ≤ 9007199254740992
  norm : 1 ≤ E → 4503599627370496 ≤ t

theorem enc_decode (E t : Nat) (h : EncOk E t) (hlt : E * 4503599627370496 + t < 9218868437227405312) :
    ∃ m e, decode (E * 4503599627370496 + t) = .fin false m e ∧ (m : ℚ) * 2 ^ e = (t : ℚ) * 2 ^ ((E : ℤ) - 1074) := by
  obtain ⟨h1, h2⟩ := h
  by_cases ha : t < 4503599627370496
  · -- subnormal
    have hE : E = 0 := by
      by_contra hne
      have := h2 (by omega)
      omega
    subst hE
    refine ⟨t, -1074, ?_, by simp⟩
    unfold decode
    have ht63 : t < 9223372036854775808 := Nat.lt_trans ha (by decide)
    simp only [Nat.zero_mul, Nat.zero_add, Nat.div_eq_of_lt ht63, Nat.div_eq_of_lt ha, Nat.mod_eq_of_lt ha, Nat.zero_mod]
    rfl
  · by_cases hb : t < 9007199254740992
    · -- normal
      refine ⟨t, (E : ℤ) - 1074, ?_, rfl⟩
      have := decode_fin_of (E * 4503599627370496 + t) 0 (E + 1) (t - 4503599627370496) (by omega) ⟨by omega, by omega⟩ (by omega) (by omega)
      rw [this]
      have e1 : t - 4503599627370496 + 4503599627370496 = t := by omega
      have e2 : ((E + 1 : Nat) : ℤ) - 1075 = (E : ℤ) - 1074 := by push_cast; ring
      rw [e1, e2]; rfl
    · -- carry into the next binade
      have ht : t = 9007199254740992 := by omega
      subst ht
      refine ⟨4503599627370496, (E : ℤ) - 1073, ?_, ?_⟩
      · have := decode_fin_of (E * 4503599627370496 + 9007199254740992) 0 (E + 2) 0 (by omega) ⟨by omega, by omega⟩ (by omega) (by omega)
        rw [this]
        have e2 : ((E + 2 : Nat) : ℤ) - 1075 = (E : ℤ) - 1073 := by push_cast; ring
        rw [e2]; rfl
      · have : (E : ℤ) - 1073 = 1 + ((E : ℤ) - 1074) := by ring
        rw [this, ← zpow2_add]
        norm_num
        ring

theorem enc_overflow (E t : Nat) (h : EncOk E t) (hge : 9218868437227405312 ≤ E * 4503599627370496 + t) :
    (2 : ℚ) ^ (1024 : ℤ) ≤ (t : ℚ) * 2 ^ ((E : ℤ) - 1074) := by
  obtain ⟨h1, h2⟩ := h
  have hE : 2045 ≤ E := by omega
  have ht := h2 (by omega)
  by_cases hE6 : 2046 ≤ E
  · have a : (2 : ℚ) ^ (52 : ℤ) ≤ (t : ℚ) := by
      have : ((4503599627370496 : Nat) : ℚ) ≤ (t : ℚ) := by exact_mod_cast ht
      norm_num at this ⊢; exact this
    calc (2 : ℚ) ^ (1024 : ℤ) ≤ 2 ^ ((52 : ℤ) + ((E : ℤ) - 1074)) := zpow2_mono (by omega)
      _ = 2 ^ (52 : ℤ) * 2 ^ ((E : ℤ) - 1074) := (zpow2_add _ _).symm
      _ ≤ (t : ℚ) * 2 ^ ((E : ℤ) - 1074) := mul_le_mul_of_nonneg_right a (two_zpow_pos _).le
  · have hE5 : E = 2045 := by omega
    have ht2 : t = 9007199254740992 := by omega
    subst hE5; subst ht2
    have : (((2045 : Nat) : ℤ) - 1074) = 971 := by norm_num
    rw [this]
    rw [two53_cast, zpow2_add]
    norm_num

theorem enc_finite (E t : Nat) (h : EncOk E t) (hlt : E * 4503599627370496 + t < 9218868437227405312) :
    (t : ℚ) * 2 ^ ((E : ℤ) - 1074) < 2 ^ (1024 : ℤ) := by
  obtain ⟨h1, h2⟩ := h
  have hE : E ≤ 2045 := by
    by_contra hne
    have := h2 (by omega)
    omega
  by_cases hE5 : E = 2045
  · subst hE5
    have ht : t < 9007199254740992 := by omega
    have : (((2045 : Nat) : ℤ) - 1074) = 971 := by norm_num
    rw [this]
    exact dyadic_lt ht 971
  · have a : (t : ℚ) ≤ 2 ^ (53 : ℤ) := two53_cast ▸ Nat.cast_le.2 h1
    calc (t : ℚ) * 2 ^ ((E : ℤ) - 1074) ≤ 2 ^ (53 : ℤ) * 2 ^ ((E : ℤ) - 1074) := mul_le_mul_of_nonneg_right a (two_zpow_pos _).le
      _ = 2 ^ ((53 : ℤ) + ((E : ℤ) - 1074)) := zpow2_add _ _
      _ ≤ 2 ^ (1023 : ℤ) := zpow2_mono (by omega)
      _ < 2 ^ (1024 : ℤ) := zpow_lt_zpow_right₀ (by norm_num) (by norm_num)

theorem rneQ_pos (x : ℚ) (hx : 0 < x) : rneQ x = (rneInt (x / 2 ^ cexp x) : ℚ) * 2 ^ cexp x := by
  unfold rneQ; rw [if_neg (not_lt.2 hx.le)]

theorem round_parts (N D : Nat) (hN : 0 < N) (hD : 0 < D) :
    (-1074 : ℤ) ≤ quantum N D ∧ EncOk (quantum N D + 1074).toNat (scaledRne N D (quantum N D)) ∧
    rneQ ((N : ℚ) / D) = (scaledRne N D (quantum N D) : ℚ) * 2 ^ quantum N D := by
  set q := quantum N D with hqdef
  set t := scaledRne N D q with htdef
  obtain ⟨k1, k2⟩ := ilog2Ratio_spec N D hN hD
  have hx : (0 : ℚ) < (N : ℚ) / D := lt_of_lt_of_le (two_zpow_pos _) k1
  have hq : q = max (ilog2Ratio N D - 52) (-1074) := rfl
  have hq1 : -1074 ≤ q := by rw [hq]; exact le_max_right _ _
  have hq2 : ilog2Ratio N D - 52 ≤ q := by rw [hq]; exact le_max_left _ _
  have hpq := two_zpow_pos q
  have ht : ((t : Nat) : ℤ) = rneInt ((N : ℚ) / D / 2 ^ q) := scaledRne_spec N D hD q
  have hE : (((q + 1074).toNat : Nat) : ℤ) = q + 1074 := Int.toNat_of_nonneg (by omega)
  refine ⟨hq1, ⟨?_, ?_⟩, ?_⟩
  · -- t ≤ 2^53
    have hr : (N : ℚ) / D / 2 ^ q ≤ ((9007199254740992 : ℤ) : ℚ) := by
      rw [div_le_iff₀ hpq]
      have e : (((9007199254740992 : ℤ) : ℚ)) = 2 ^ (53 : ℤ) := by norm_num
      rw [e, zpow2_add]
      exact le_trans k2.le (zpow2_mono (by omega))
    have := rneInt_le_of_le _ _ hr
    rw [← ht] at this
    exact_mod_cast this
  · -- normal range: 2^52 ≤ t
    intro h1
    have hqk : q = ilog2Ratio N D - 52 := hq.trans (max_eq_of_gt (hq ▸ (by omega : -1074 < q)))
    have hr : ((4503599627370496 : ℤ) : ℚ) ≤ (N : ℚ) / D / 2 ^ q := by
      rw [le_div_iff₀ hpq]
      have e : (((4503599627370496 : ℤ) : ℚ)) = 2 ^ (52 : ℤ) := by norm_num
      rw [e, zpow2_add]
      exact le_trans (zpow2_mono (by omega)) k1
    have := rneInt_ge_of_ge _ _ hr
    rw [← ht] at this
    exact_mod_cast this
  · rw [rneQ_pos _ hx, ← quantum_eq_cexp N D hN hD]
    show ((rneInt ((N : ℚ) / D / 2 ^ q) : ℤ) : ℚ) * 2 ^ q = (t : ℚ) * 2 ^ q
    rw [← ht]; norm_cast

/-- `roundMag N D` is the binary64 with value `rneQ (N / D)`, or infinity when that value is beyond the largest finite one -/
theorem roundMag_spec (N D : Nat) (hN : 0 < N) (hD : 0 < D) :
    (rneQ ((N : ℚ) / D) < 2 ^ (1024 : ℤ) →
      ∃ m e, decode (roundMag N D) = .fin false m e ∧ (m : ℚ) * 2 ^ e = rneQ ((N : ℚ) / D)) ∧
    ((2 : ℚ) ^ (1024 : ℤ) ≤ rneQ ((N : ℚ) / D) → roundMag N D = infBits) := by
  obtain ⟨hq1, hok, hval⟩ := round_parts N D hN hD
  have hE : (((quantum N D + 1074).toNat : Nat) : ℤ) - 1074 = quantum N D := by
    rw [Int.toNat_of_nonneg (by omega)]; ring
  have hrm : roundMag N D =
      if infBits ≤ (quantum N D + 1074).toNat * two52 + scaledRne N D (quantum N D) then infBits
      else (quantum N D + 1074).toNat * two52 + scaledRne N D (quantum N D) := rfl
  by_cases hb : infBits ≤ (quantum N D + 1074).toNat * two52 + scaledRne N D (quantum N D)
  · have hov := enc_overflow _ _ hok hb
    rw [hE, ← hval] at hov
    refine ⟨fun h => absurd hov (not_le.2 h), fun _ => by rw [hrm, if_pos hb]⟩
  · have hlt : (quantum N D + 1074).toNat * 4503599627370496 + scaledRne N D (quantum N D) < 9218868437227405312 :=
      Nat.lt_of_not_ge hb
    have hfin := enc_finite _ _ hok hlt
    rw [hE, ← hval] at hfin
    refine ⟨fun _ => ?_, fun h => absurd hfin (not_lt.2 h)⟩
    obtain ⟨m, e, hd, hv⟩ := enc_decode _ _ hok hlt
    rw [hE, ← hval] at hv
    exact ⟨m, e, by rw [hrm, if_neg hb]; exact hd, hv⟩

theorem rneQ_zero : rneQ 0 = 0 := by
  unfold rneQ; simp [rneInt]

theorem rneQ_neg (x : ℚ) : rneQ (-x) = -rneQ x := by
  rcases lt_trichotomy x 0 with h | h | h
  · unfold rneQ
    rw [if_neg (by linarith), if_pos h, cexp_neg, neg_neg]
  · subst h; rw [neg_zero, rneQ_zero, neg_zero]
  · unfold rneQ
    rw [if_pos (by linarith), if_neg (by linarith), cexp_neg, neg_neg]

theorem rneQ_nonneg (y : ℚ) (hy : 0 ≤ y) : 0 ≤ rneQ y := by
  unfold rneQ
  rw [if_neg (not_lt.2 hy)]
  apply mul_nonneg _ (two_zpow_pos _).le
  have : (0 : ℤ) ≤ rneInt (y / 2 ^ cexp y) := rneInt_ge_of_ge _ 0 (by simpa using div_nonneg hy (two_zpow_pos _).le)
  exact_mod_cast this

def Dbl.setSign (s : Bool) : Dbl → Dbl
  | .nan => .nan
  | .inf _ => .inf s
  | .fin _ m e => .fin s m e

theorem decode_setSign (b b' : Nat) (h2 : b' / 4503599627370496 % 2048 = b / 4503599627370496 % 2048)
    (h3 : b' % 4503599627370496 = b % 4503599627370496) :
    decode b' = Dbl.setSign (b' / 9223372036854775808 % 2 == 1) (decode b) := by
  unfold decode
  simp only [h2, h3]
  split
  · split <;> rfl
  · split <;> rfl

theorem add_signBit_fields (b : Nat) :
    (b + 9223372036854775808) / 4503599627370496 % 2048 = b / 4503599627370496 % 2048 ∧
    (b + 9223372036854775808) % 4503599627370496 = b % 4503599627370496 ∧
    (b + 9223372036854775808) / 9223372036854775808 = b / 9223372036854775808 + 1 := by
  have e : 9223372036854775808 = 2048 * 4503599627370496 := by decide
  refine ⟨?_, ?_, Nat.add_div_right b (by decide)⟩
  · rw [e, Nat.add_mul_div_right b 2048 (by decide), Nat.add_mod_right]
  · rw [e, Nat.add_mul_mod_self_right]

theorem mod_signBit_fields (b : Nat) :
    b % 9223372036854775808 / 4503599627370496 % 2048 = b / 4503599627370496 % 2048 ∧
    b % 9223372036854775808 % 4503599627370496 = b % 4503599627370496 ∧
    b % 9223372036854775808 / 9223372036854775808 = 0 := by
  have e : 9223372036854775808 = 4503599627370496 * 2048 := by decide
  refine ⟨?_, ?_, Nat.div_eq_of_lt (Nat.mod_lt b (by decide))⟩
  · rw [e, Nat.mod_mul_right_div_self, Nat.mod_mod]
  · rw [e, Nat.mod_mul_right_mod]
theorem decode_withSign_fin (neg : Bool) (mag m : Nat) (e : ℤ) (hm : mag < 9223372036854775808)
    (h : decode mag = .fin false m e) : decode (withSign neg mag) = .fin neg m e := by
  cases neg with
  | false => exact h
  | true =>
    show decode (9223372036854775808 + mag) = _
    obtain ⟨h2, h3, hs⟩ := add_signBit_fields mag
    rw [Nat.add_comm, decode_setSign mag _ h2 h3, h, hs, Nat.div_eq_of_lt hm]
    rfl

theorem decode_withSign_inf (neg : Bool) : decode (withSign neg infBits) = .inf neg := by
  cases neg <;> decide

theorem decode_withSign_zero (s : Bool) : decode (withSign s 0) = .fin s 0 (-1074) :=
  decode_withSign_fin s 0 0 (-1074) (by decide) (by decide)

theorem roundMag_lt (N D : Nat) : roundMag N D < 9223372036854775808 := by
  unfold roundMag
  simp only []
  split
  · decide
  · rename_i h; unfold infBits at h; omega

/-- the sign factor -/
def sgnQ (neg : Bool) : ℚ := if neg then -1 else 1

theorem sgnQ_cases (n : Bool) : sgnQ n = 1 ∨ sgnQ n = -1 := by cases n <;> simp [sgnQ]

theorem sgnQ_not (n : Bool) : sgnQ (!n) = -sgnQ n := by cases n <;> simp [sgnQ]

theorem abs_sgnQ_mul (n : Bool) (y : ℚ) : |sgnQ n * y| = |y| := by
  rcases sgnQ_cases n with h | h <;> rw [h] <;> simp

theorem rneQ_sgnQ_mul (n : Bool) (y : ℚ) : rneQ (sgnQ n * y) = sgnQ n * rneQ y := by
  rcases sgnQ_cases n with h | h <;> rw [h]
  · rw [one_mul, one_mul]
  · rw [neg_one_mul, neg_one_mul, rneQ_neg]

theorem smant_eq (neg : Bool) (m : Nat) : ((smant neg m : ℤ) : ℚ) = sgnQ neg * (m : ℚ) := by
  unfold smant sgnQ; cases neg <;> simp

/-- `roundSigned neg N D` is the binary64 with value `rneQ (± N / D)`; beyond the largest finite value: infinity of
    that sign; a zero keeps the sign it was given -/
theorem roundSigned_correct (neg : Bool) (N D : Nat) (hD : 0 < D) :
    (|rneQ (sgnQ neg * ((N : ℚ) / D))| < 2 ^ (1024 : ℤ) →
      ∃ m e, decode (roundSigned neg N D) = .fin neg m e ∧ sgnQ neg * ((m : ℚ) * 2 ^ e) = rneQ (sgnQ neg * ((N : ℚ) / D))) ∧
    ((2 : ℚ) ^ (1024 : ℤ) ≤ |rneQ (sgnQ neg * ((N : ℚ) / D))| → decode (roundSigned neg N D) = .inf neg) := by
  rw [rneQ_sgnQ_mul, abs_sgnQ_mul]
  by_cases hN : N = 0
  · subst hN
    have hd : decode (roundSigned neg 0 D) = .fin neg 0 (-1074) := by
      unfold roundSigned; rw [if_pos rfl]
      exact decode_withSign_zero neg
    simp only [Nat.cast_zero, zero_div, rneQ_zero, abs_zero]
    exact ⟨fun _ => ⟨0, -1074, hd, by simp⟩, fun h => absurd h (not_le.2 (two_zpow_pos _))⟩
  · have hNp : 0 < N := Nat.pos_of_ne_zero hN
    have hx : (0 : ℚ) < (N : ℚ) / D := div_pos (by exact_mod_cast hNp) (by exact_mod_cast hD)
    obtain ⟨s1, s2⟩ := roundMag_spec N D hNp hD
    have hrs : roundSigned neg N D = withSign neg (roundMag N D) := by unfold roundSigned; rw [if_neg hN]
    rw [abs_of_nonneg (rneQ_nonneg _ hx.le), hrs]
    refine ⟨fun h => ?_, fun h => by rw [s2 h]; exact decode_withSign_inf neg⟩
    obtain ⟨m, e, hd, hv⟩ := s1 h
    exact ⟨m, e, decode_withSign_fin neg _ m e (roundMag_lt N D) hd, by rw [hv]⟩

theorem roundSigned_valQ (neg : Bool) (N D : Nat) (hD : 0 < D) (x : ℚ) (hx : x = sgnQ neg * ((N : ℚ) / D)) :
    (|rneQ x| < 2 ^ (1024 : ℤ) → FinBits (roundSigned neg N D) ∧ valQ (roundSigned neg N D) = rneQ x) ∧
    ((2 : ℚ) ^ (1024 : ℤ) ≤ |rneQ x| → decode (roundSigned neg N D) = .inf neg) := by
  subst hx
  obtain ⟨h1, h2⟩ := roundSigned_correct neg N D hD
  refine ⟨fun h => ?_, h2⟩
  obtain ⟨m, e, hd, hv⟩ := h1 h
  refine ⟨⟨neg, m, e, hd⟩, ?_⟩
  unfold valQ
  rw [hd, ← hv]
  simp only [Dbl.toRat, smant_eq]
  ring

theorem dy_value (m : Nat) (e : ℤ) : ((dyNum m e : Nat) : ℚ) / (dyDen e : Nat) = (m : ℚ) * 2 ^ e ∧ 0 < dyDen e := by
  unfold dyNum dyDen
  by_cases he : 0 ≤ e
  · rw [if_pos he, if_pos he, zpow_of_nonneg he]
    exact ⟨by push_cast; simp, by decide⟩
  · rw [if_neg he, if_neg he, zpow_of_neg he]
    exact ⟨by push_cast; rw [div_eq_mul_inv], Nat.two_pow_pos _⟩

theorem valQ_of_decode (a : Nat) (n : Bool) (m : Nat) (e : ℤ) (h : decode a = .fin n m e) :
    valQ a = sgnQ n * ((m : ℚ) * 2 ^ e) := by
  unfold valQ; rw [h]; simp only [Dbl.toRat, smant_eq]; ring

theorem intCast_eq_sgnQ_natAbs (z : ℤ) : (z : ℚ) = sgnQ (decide (z < 0)) * (z.natAbs : ℚ) := by
  rw [Nat.cast_natAbs]
  by_cases h : z < 0
  · simp only [h, decide_true, sgnQ, if_true]
    rw [abs_of_neg h]; push_cast; ring
  · simp only [h, decide_false, sgnQ, Bool.false_eq_true, if_false, one_mul]
    rw [abs_of_nonneg (not_lt.1 h)]

theorem sgnQ_mul (a b : Bool) : sgnQ a * sgnQ b = sgnQ (a != b) := by
  cases a <;> cases b <;> simp [sgnQ]

theorem rneQ_fixes_pos (m : Nat) (e : ℤ) (hm0 : 0 < m) (hm : m < 9007199254740992) (he : -1074 ≤ e) :
    rneQ ((m : ℚ) * 2 ^ e) = (m : ℚ) * 2 ^ e := by
  have hpos : (0 : ℚ) < (m : ℚ) * 2 ^ e := mul_pos (by exact_mod_cast hm0) (two_zpow_pos e)
  have hc : cexp ((m : ℚ) * 2 ^ e) ≤ e :=
    cexp_le hpos.ne' (by rw [abs_of_pos hpos]; exact add_comm (53 : ℤ) e ▸ dyadic_lt hm e) he
  -- on the grid of its own last place the value is an integer
  rw [rneQ_pos _ hpos]
  generalize cexp ((m : ℚ) * 2 ^ e) = c at hc ⊢
  rw [← Int.cast_natCast (R := ℚ) m, zpow_split _ e c hc, mul_div_assoc, div_self (two_zpow_pos c).ne', mul_one,
    rneInt_intCast]

theorem decode_fin_bounds (b : Nat) (n : Bool) (m : Nat) (e : ℤ) (h : decode b = .fin n m e) :
    m < 9007199254740992 ∧ -1074 ≤ e ∧ e ≤ 971 := by
  have hwf := decode_wf b
  rw [h] at hwf
  obtain ⟨_, hc⟩ := decode_value b n m e h
  refine ⟨hwf, ?_⟩
  rcases hc with ⟨_, _, he⟩ | ⟨h1, h2, _, he⟩
  · omega
  · omega

/-- x is a binary64 value: the rounding leaves it alone and it is in range -/
def Repr64 (x : ℚ) : Prop := rneQ x = x ∧ |x| < 2 ^ (1024 : ℤ)

theorem exact_of_repr {c : Nat} {x : ℚ} (h : |rneQ x| < 2 ^ (1024 : ℤ) → FinBits c ∧ valQ c = rneQ x) (r : Repr64 x) :
    FinBits c ∧ valQ c = x := by
  have := h (by rw [r.1]; exact r.2)
  rwa [r.1] at this

theorem Repr64.sgn {y : ℚ} (r : Repr64 y) (n : Bool) : Repr64 (sgnQ n * y) :=
  ⟨by rw [rneQ_sgnQ_mul, r.1], by rw [abs_sgnQ_mul]; exact r.2⟩

theorem repr64_dyadic (n : Bool) (m : Nat) (e : ℤ) (hm : m < 9007199254740992) (he1 : -1074 ≤ e) (he2 : e ≤ 971) :
    Repr64 (sgnQ n * ((m : ℚ) * 2 ^ e)) := by
  refine Repr64.sgn ?_ n
  by_cases h0 : m = 0
  · subst h0
    simp only [Nat.cast_zero, zero_mul]
    exact ⟨rneQ_zero, by rw [abs_zero]; exact two_zpow_pos _⟩
  have hpos : (0 : ℚ) < (m : ℚ) * 2 ^ e := mul_pos (by exact_mod_cast Nat.pos_of_ne_zero h0) (two_zpow_pos e)
  exact ⟨rneQ_fixes_pos m e (Nat.pos_of_ne_zero h0) hm he1,
    by rw [abs_of_pos hpos]; exact lt_of_lt_of_le (dyadic_lt hm e) (zpow2_mono (by omega))⟩

theorem repr64_of_finBits (a : Nat) (ha : FinBits a) : Repr64 (valQ a) := by
  obtain ⟨n, m, e, hd⟩ := ha
  obtain ⟨hm, he1, he2⟩ := decode_fin_bounds a n m e hd
  rw [valQ_of_decode a n m e hd]
  exact repr64_dyadic n m e hm he1 he2

theorem roundSigned_exact (neg : Bool) (N D : Nat) (hD : 0 < D) (x : ℚ) (hx : x = sgnQ neg * ((N : ℚ) / D)) (r : Repr64 x) :
    FinBits (roundSigned neg N D) ∧ valQ (roundSigned neg N D) = x :=
  exact_of_repr (roundSigned_valQ neg N D hD x hx).1 r

theorem roundSigned_nat (neg : Bool) (f : Nat) (hf : f < 9007199254740992) :
    FinBits (roundSigned neg f 1) ∧ valQ (roundSigned neg f 1) = sgnQ neg * (f : ℚ) := by
  apply roundSigned_exact neg f 1 (by decide) _ (by simp)
  have := repr64_dyadic neg f 0 hf (by decide) (by decide)
  rwa [zpow_zero, mul_one] at this

/-- `x * y` on finite operands: the product of the two rationals, rounded once (`rneQ`); infinity of the product's sign
    when the rounded value is beyond the largest finite binary64 -/
theorem mul_correct (a b : Nat) (n1 n2 : Bool) (m1 m2 : Nat) (e1 e2 : ℤ)
    (ha : decode a = .fin n1 m1 e1) (hb : decode b = .fin n2 m2 e2) :
    (|rneQ (valQ a * valQ b)| < 2 ^ (1024 : ℤ) → FinBits (mul a b) ∧ valQ (mul a b) = rneQ (valQ a * valQ b)) ∧
    ((2 : ℚ) ^ (1024 : ℤ) ≤ |rneQ (valQ a * valQ b)| → decode (mul a b) = .inf (n1 != n2)) := by
  have hm : mul a b = roundSigned (n1 != n2) (dyNum (m1 * m2) (e1 + e2)) (dyDen (e1 + e2)) := by
    unfold mul; rw [ha, hb]
  obtain ⟨dv, dp⟩ := dy_value (m1 * m2) (e1 + e2)
  rw [hm]
  apply roundSigned_valQ _ _ _ dp
  rw [dv, valQ_of_decode a n1 m1 e1 ha, valQ_of_decode b n2 m2 e2 hb, ← sgnQ_mul, ← zpow2_add]
  push_cast
  ring

theorem div_correct (a b : Nat) (n1 n2 : Bool) (m1 m2 : Nat) (e1 e2 : ℤ)
    (ha : decode a = .fin n1 m1 e1) (hb : decode b = .fin n2 m2 e2) (hm2 : m2 ≠ 0) :
    (|rneQ (valQ a / valQ b)| < 2 ^ (1024 : ℤ) → FinBits (div a b) ∧ valQ (div a b) = rneQ (valQ a / valQ b)) ∧
    ((2 : ℚ) ^ (1024 : ℤ) ≤ |rneQ (valQ a / valQ b)| → decode (div a b) = .inf (n1 != n2)) := by
  have hm : div a b = roundSigned (n1 != n2) (dyNum m1 (e1 - e2)) (m2 * dyDen (e1 - e2)) := by
    unfold div; rw [ha, hb]; simp only []; rw [if_neg hm2]
  obtain ⟨dv, dp⟩ := dy_value m1 (e1 - e2)
  have hm2q : (m2 : ℚ) ≠ 0 := by exact_mod_cast hm2
  have hdq : ((dyDen (e1 - e2) : Nat) : ℚ) ≠ 0 := by exact_mod_cast dp.ne'
  rw [hm]
  apply roundSigned_valQ _ _ _ (Nat.mul_pos (Nat.pos_of_ne_zero hm2) dp)
  have e : ((dyNum m1 (e1 - e2) : Nat) : ℚ) / ((m2 * dyDen (e1 - e2) : Nat) : ℚ) = (m1 : ℚ) * 2 ^ (e1 - e2) / m2 := by
    rw [← dv]; push_cast; field_simp
  rw [e, valQ_of_decode a n1 m1 e1 ha, valQ_of_decode b n2 m2 e2 hb, ← sgnQ_mul, zpow_sub₀ (by norm_num : (2 : ℚ) ≠ 0)]
  have h2 : (2 : ℚ) ^ e2 ≠ 0 := (two_zpow_pos e2).ne'
  have hs : sgnQ n2 ≠ 0 := by cases n2 <;> simp [sgnQ]
  have hs2 : sgnQ n2 * sgnQ n2 = 1 := by cases n2 <;> simp [sgnQ]
  field_simp
  have hs3 : sgnQ n2 ^ 2 = 1 := by rw [pow_two]; exact hs2
  rw [hs3, mul_one]

theorem valQ_smant (a : Nat) (n : Bool) (m : Nat) (e : ℤ) (h : decode a = .fin n m e) :
    valQ a = ((smant n m : ℤ) : ℚ) * 2 ^ e := by
  unfold valQ; rw [h]; rfl

/-- the sum in the shape `add` computes it: mantissas aligned at the smaller exponent -/
theorem valQ_add (a b : Nat) (n1 n2 : Bool) (m1 m2 : Nat) (e1 e2 : ℤ)
    (ha : decode a = .fin n1 m1 e1) (hb : decode b = .fin n2 m2 e2) :
    valQ a + valQ b =
      ((smant n1 m1 * 2 ^ (e1 - min e1 e2).toNat + smant n2 m2 * 2 ^ (e2 - min e1 e2).toNat : ℤ) : ℚ) * 2 ^ min e1 e2 := by
  rw [valQ_smant a n1 m1 e1 ha, valQ_smant b n2 m2 e2 hb, zpow_split _ e1 _ (min_le_left e1 e2),
    zpow_split _ e2 _ (min_le_right e1 e2), ← add_mul]
  push_cast
  rfl

/-- `x + y` on finite operands; an exact zero sum is +0 unless both operands are -0 -/
theorem add_correct (a b : Nat) (n1 n2 : Bool) (m1 m2 : Nat) (e1 e2 : ℤ)
    (ha : decode a = .fin n1 m1 e1) (hb : decode b = .fin n2 m2 e2) :
    (|rneQ (valQ a + valQ b)| < 2 ^ (1024 : ℤ) → FinBits (add a b) ∧ valQ (add a b) = rneQ (valQ a + valQ b)) ∧
    ((2 : ℚ) ^ (1024 : ℤ) ≤ |rneQ (valQ a + valQ b)| → decode (add a b) = .inf (decide (valQ a + valQ b < 0))) := by
  have hx := valQ_add a b n1 n2 m1 m2 e1 e2 ha hb
  set e := min e1 e2 with he
  set s : ℤ := smant n1 m1 * 2 ^ (e1 - e).toNat + smant n2 m2 * 2 ^ (e2 - e).toNat with hs
  have hadd : add a b = if s = 0 then withSign (n1 && n2) 0
      else roundSigned (decide (s < 0)) (dyNum s.natAbs e) (dyDen e) := by
    unfold add; rw [ha, hb]
  rw [hadd, hx]
  by_cases h0 : s = 0
  · rw [if_pos h0, h0]
    simp only [Int.cast_zero, zero_mul, rneQ_zero, abs_zero]
    have hd := decode_withSign_zero (n1 && n2)
    refine ⟨fun _ => ⟨⟨_, _, _, hd⟩, by unfold valQ; rw [hd]; simp [Dbl.toRat, smant]⟩, fun h => ?_⟩
    exact absurd h (not_le.2 (two_zpow_pos _))
  · rw [if_neg h0]
    obtain ⟨dv, dp⟩ := dy_value s.natAbs e
    have hsign : (decide ((s : ℚ) * 2 ^ e < 0)) = decide (s < 0) := by
      have : ((s : ℚ) * 2 ^ e < 0) ↔ s < 0 := by
        rw [mul_neg_iff]
        constructor
        · rintro (⟨_, h⟩ | ⟨h, _⟩)
          · exact absurd h (not_lt.2 (two_zpow_pos e).le)
          · exact_mod_cast h
        · intro h; exact Or.inr ⟨by exact_mod_cast h, two_zpow_pos e⟩
      simp only [this]
    rw [hsign]
    apply roundSigned_valQ _ _ _ dp
    rw [dv]
    conv_lhs => rw [intCast_eq_sgnQ_natAbs s]
    ring

theorem negate_fin (b : Nat) (n : Bool) (m : Nat) (e : ℤ) (h : decode b = .fin n m e) :
    decode (negate b) = .fin (!n) m e := by
  have hn : n = (b / 9223372036854775808 % 2 == 1) := (decode_value b n m e h).1
  unfold negate
  rw [h]
  simp only [signBitVal]
  by_cases hbit : b / 9223372036854775808 % 2 = 1
  · -- the sign bit is set: b = (b - 2^63) + 2^63
    have hge : 9223372036854775808 ≤ b := by
      by_contra hlt
      rw [Nat.div_eq_of_lt (Nat.lt_of_not_le hlt)] at hbit
      exact absurd hbit (by decide)
    obtain ⟨h2, h3, hs⟩ := add_signBit_fields (b - 9223372036854775808)
    rw [Nat.sub_add_cancel hge] at h2 h3 hs
    have h0 : (b - 9223372036854775808) / 9223372036854775808 % 2 = 0 := by
      rw [hs] at hbit
      generalize (b - 9223372036854775808) / 9223372036854775808 = q at hbit ⊢
      omega
    rw [if_pos hbit, decode_setSign b _ h2.symm h3.symm, h, h0, hn, hbit]
    rfl
  · obtain ⟨h2, h3, hs⟩ := add_signBit_fields b
    have h1 : (b / 9223372036854775808 + 1) % 2 = 1 := by
      generalize b / 9223372036854775808 = q at hbit ⊢
      omega
    have hb0 : b / 9223372036854775808 % 2 = 0 := (Nat.mod_two_eq_zero_or_one _).resolve_right hbit
    rw [if_neg hbit, decode_setSign b _ h2 h3, h, hs, h1, hn, hb0]
    rfl

theorem valQ_negate (b : Nat) (hb : FinBits b) : FinBits (negate b) ∧ valQ (negate b) = -valQ b := by
  obtain ⟨n, m, e, hd⟩ := hb
  have hn := negate_fin b n m e hd
  refine ⟨⟨_, _, _, hn⟩, ?_⟩
  rw [valQ_of_decode _ _ _ _ hn, valQ_of_decode _ _ _ _ hd, sgnQ_not, neg_mul]

theorem sub_correct (a b : Nat) (n1 n2 : Bool) (m1 m2 : Nat) (e1 e2 : ℤ)
    (ha : decode a = .fin n1 m1 e1) (hb : decode b = .fin n2 m2 e2) :
    (|rneQ (valQ a - valQ b)| < 2 ^ (1024 : ℤ) → FinBits (sub a b) ∧ valQ (sub a b) = rneQ (valQ a - valQ b)) ∧
    ((2 : ℚ) ^ (1024 : ℤ) ≤ |rneQ (valQ a - valQ b)| → decode (sub a b) = .inf (decide (valQ a - valQ b < 0))) := by
  have := add_correct a (negate b) n1 (!n2) m1 m2 e1 e2 ha (negate_fin b n2 m2 e2 hb)
  rw [(valQ_negate b ⟨_, _, _, hb⟩).2, ← sub_eq_add_neg] at this
  exact this

/-- the bit pattern is a finite double whose value is the integer `x` -/
def IntVal (a : Nat) (x : ℤ) : Prop := FinBits a ∧ valQ a = (x : ℚ)

/-- `Dbl.toInt?` (what the range checks of the C use) gives exactly the value -/
theorem intVal_of_toInt (a : Nat) (z : ℤ) (h : (decode a).toInt? = some z) : IntVal a z := by
  cases hd : decode a with
  | nan => rw [hd] at h; simp [Dbl.toInt?] at h
  | inf s => rw [hd] at h; simp [Dbl.toInt?] at h
  | fin neg m e =>
    rw [hd] at h
    refine ⟨⟨neg, m, e, hd⟩, ?_⟩
    unfold valQ; rw [hd]
    simp only [Dbl.toInt?] at h
    simp only [Dbl.toRat]
    by_cases he : 0 ≤ e
    · rw [if_pos he] at h
      injection h with h
      rw [← h, zpow_of_nonneg he]; push_cast; rfl
    · rw [if_neg he] at h
      by_cases hm : m % 2 ^ (-e).toNat = 0
      · rw [if_pos hm] at h
        injection h with h
        have hmul : m = m / 2 ^ (-e).toNat * 2 ^ (-e).toNat := by
          have := Nat.div_add_mod m (2 ^ (-e).toNat); rw [hm] at this; rw [Nat.mul_comm]; omega
        have hp : (0 : ℚ) < 2 ^ (-e).toNat := by positivity
        rw [← h, zpow_of_neg he, smant_eq, smant_eq]
        rw [show (m : ℚ) = ((m / 2 ^ (-e).toNat : Nat) : ℚ) * 2 ^ (-e).toNat by exact_mod_cast congrArg (Nat.cast (R := ℚ)) hmul]
        field_simp
      · rw [if_neg hm] at h; exact absurd h (by simp)

theorem valQ_split (b : Nat) (n : Bool) (m : Nat) (e : ℤ) (hd : decode b = .fin n m e) (he : ¬ 0 ≤ e)
    (hr : m % 2 ^ (-e).toNat ≠ 0) :
    valQ b = sgnQ n * (((m / 2 ^ (-e).toNat : Nat) : ℚ) + ((m % 2 ^ (-e).toNat : Nat) : ℚ) / 2 ^ (-e).toNat) ∧
    (0 : ℚ) < ((m % 2 ^ (-e).toNat : Nat) : ℚ) / 2 ^ (-e).toNat ∧ ((m % 2 ^ (-e).toNat : Nat) : ℚ) / 2 ^ (-e).toNat < 1 ∧
    m / 2 ^ (-e).toNat + 1 < 9007199254740992 := by
  have hp : (0 : ℚ) < 2 ^ (-e).toNat := by positivity
  have hpn : 0 < 2 ^ (-e).toNat := Nat.two_pow_pos _
  have hmq : (m : ℚ) = (2 : ℚ) ^ (-e).toNat * ((m / 2 ^ (-e).toNat : Nat) : ℚ) + ((m % 2 ^ (-e).toNat : Nat) : ℚ) := by
    exact_mod_cast (Nat.div_add_mod m (2 ^ (-e).toNat)).symm
  refine ⟨?_, div_pos (by exact_mod_cast Nat.pos_of_ne_zero hr) hp, ?_, ?_⟩
  · rw [valQ_of_decode b n m e hd, zpow_of_neg he]
    conv_lhs => rw [hmq]
    field_simp
  · rw [div_lt_one hp]
    exact_mod_cast Nat.mod_lt m hpn
  · have h1 := Nat.div_add_mod m (2 ^ (-e).toNat)
    have h2 : m / 2 ^ (-e).toNat ≤ 2 ^ (-e).toNat * (m / 2 ^ (-e).toNat) := Nat.le_mul_of_pos_left _ hpn
    have h3 := (decode_fin_bounds b n m e hd).1
    omega

theorem floor_sgn_add (n : Bool) (f : Nat) (t : ℚ) (h0 : 0 < t) (h1 : t < 1) :
    ⌊sgnQ n * ((f : ℚ) + t)⌋ = if n then -((f : ℤ) + 1) else (f : ℤ) := by
  cases n
  · simp only [sgnQ, Bool.false_eq_true, if_false, one_mul]
    rw [Int.floor_eq_iff]; push_cast; constructor <;> linarith
  · simp only [sgnQ, if_true, neg_one_mul]
    rw [Int.floor_eq_iff]; push_cast; constructor <;> linarith

/-- the shape `floor` and `round` share.  An integer-valued double is returned as it is; any other has the value
    `± (f + t)` with `0 < t < 1`, and the result encodes `± g` with `g` one of `f`, `f + 1`.  `F` is the function computed:
    the identity on integers, and `± g` where the model chooses `g`. -/
theorem integral_exact (F : ℚ → ℤ) (hF : ∀ z : ℤ, F z = z) (b : Nat) (neg : Bool) (m : Nat) (e : ℤ)
    (hd : decode b = .fin neg m e) (g : Nat) (hg : g ≤ m / 2 ^ (-e).toNat + 1)
    (hFg : ∀ t : ℚ, 0 < t → t < 1 → t = ((m % 2 ^ (-e).toNat : Nat) : ℚ) / 2 ^ (-e).toNat →
      F (sgnQ neg * (((m / 2 ^ (-e).toNat : Nat) : ℚ) + t)) = smant neg g) :
    FinBits (if 0 ≤ e then b else if m % 2 ^ (-e).toNat = 0 then b else roundSigned neg g 1) ∧
    valQ (if 0 ≤ e then b else if m % 2 ^ (-e).toNat = 0 then b else roundSigned neg g 1) = ((F (valQ b) : ℤ) : ℚ) := by
  have hself : ∀ z : ℤ, Dbl.toInt? (.fin neg m e) = some z → FinBits b ∧ valQ b = ((F (valQ b) : ℤ) : ℚ) := by
    intro z hz
    have := intVal_of_toInt b z (by rw [hd]; exact hz)
    exact ⟨this.1, by rw [this.2, hF]⟩
  simp only [Dbl.toInt?] at hself
  by_cases he : 0 ≤ e
  · rw [if_pos he]; exact hself _ (if_pos he)
  · rw [if_neg he]
    by_cases hr : m % 2 ^ (-e).toNat = 0
    · rw [if_pos hr]; exact hself _ (by rw [if_neg he, if_pos hr])
    · rw [if_neg hr]
      obtain ⟨hv, ht0, ht1, hf⟩ := valQ_split b neg m e hd he hr
      obtain ⟨f1, f2⟩ := roundSigned_nat neg g (Nat.lt_of_le_of_lt hg hf)
      exact ⟨f1, by rw [f2, hv, hFg _ ht0 ht1 rfl, smant_eq]⟩

/-- libm `floor` on the instance: the floor of a finite binary64 is a finite binary64 whose value is the mathematical
    floor (`FloorExact` is a hypothesis of the `NumOps`-generic `num_*` theorems of `LemmasQ`) -/
theorem floor_exact : FloorExact ieee := by
  intro b hb
  obtain ⟨neg, m, e, hd⟩ := hb
  have := integral_exact (fun q => ⌊q⌋) Int.floor_intCast b neg m e hd (if neg then m / 2 ^ (-e).toNat + 1 else m / 2 ^ (-e).toNat)
    (by split <;> omega) (fun t h0 h1 _ => by rw [floor_sgn_add neg _ t h0 h1]; cases neg <;> simp [smant])
  show FinBits (floor b) ∧ valQ (floor b) = ((⌊valQ b⌋ : ℤ) : ℚ)
  unfold floor
  rw [hd]
  cases neg
  · simp only [Bool.false_eq_true, if_false] at this ⊢
    exact this
  · simp only [if_true] at this ⊢
    exact this

theorem nonzero_of_isZeroBits (b : Nat) (n : Bool) (m : Nat) (e : ℤ) (hd : decode b = .fin n m e) (hz : isZeroBits b = false) :
    m ≠ 0 := fun h => by
  rw [(isZeroBits_iff b n m e hd).2 h] at hz
  cases hz

theorem add_exact_of_repr (a b : Nat) (ha : FinBits a) (hb : FinBits b) (r : Repr64 (valQ a + valQ b)) :
    FinBits (ieee.add a b) ∧ valQ (ieee.add a b) = valQ a + valQ b := by
  obtain ⟨n1, m1, e1, h1⟩ := ha
  obtain ⟨n2, m2, e2, h2⟩ := hb
  exact exact_of_repr (add_correct a b n1 n2 m1 m2 e1 e2 h1 h2).1 r

theorem sub_exact_of_repr (a b : Nat) (ha : FinBits a) (hb : FinBits b) (r : Repr64 (valQ a - valQ b)) :
    FinBits (ieee.sub a b) ∧ valQ (ieee.sub a b) = valQ a - valQ b := by
  obtain ⟨n1, m1, e1, h1⟩ := ha
  obtain ⟨n2, m2, e2, h2⟩ := hb
  exact exact_of_repr (sub_correct a b n1 n2 m1 m2 e1 e2 h1 h2).1 r

theorem mul_exact_of_repr (a b : Nat) (ha : FinBits a) (hb : FinBits b) (r : Repr64 (valQ a * valQ b)) :
    FinBits (ieee.mul a b) ∧ valQ (ieee.mul a b) = valQ a * valQ b := by
  obtain ⟨n1, m1, e1, h1⟩ := ha
  obtain ⟨n2, m2, e2, h2⟩ := hb
  exact exact_of_repr (mul_correct a b n1 n2 m1 m2 e1 e2 h1 h2).1 r

theorem div_exact_of_repr (a b : Nat) (ha : FinBits a) (hb : FinBits b) (hz : isZeroBits b = false) (r : Repr64 (valQ a / valQ b)) :
    FinBits (ieee.div a b) ∧ valQ (ieee.div a b) = valQ a / valQ b := by
  obtain ⟨n1, m1, e1, h1⟩ := ha
  obtain ⟨n2, m2, e2, h2⟩ := hb
  exact exact_of_repr (div_correct a b n1 n2 m1 m2 e1 e2 h1 h2 (nonzero_of_isZeroBits b n2 m2 e2 h2 hz)).1 r

/-- `(div a b)` on two finite numbers, b ≠ 0: **⌊RN(a / b)⌋** — the quotient of the two rationals rounded once to binary64
    (`rneQ`), then the exact floor.  (Not always ⌊a / b⌋: when a / b lies within half an ulp below an integer the rounded
    quotient is that integer.)  `hfin` = the quotient does not overflow. -/
theorem ieee_num_div (a b : Nat) (ha : FinBits a) (hb : FinBits b) (hz : isZeroBits b = false)
    (hfin : |rneQ (valQ a / valQ b)| < 2 ^ (1024 : ℤ)) :
    FinBits (ieee.div a b) ∧ valQ (ieee.div a b) = rneQ (valQ a / valQ b) ∧
    FinBits (numDivFloor ieee a b) ∧ valQ (numDivFloor ieee a b) = ((⌊rneQ (valQ a / valQ b)⌋ : ℤ) : ℚ) := by
  obtain ⟨n1, m1, e1, h1⟩ := ha
  obtain ⟨n2, m2, e2, h2⟩ := hb
  obtain ⟨d1, d2⟩ := (div_correct a b n1 n2 m1 m2 e1 e2 h1 h2 (nonzero_of_isZeroBits b n2 m2 e2 h2 hz)).1 hfin
  obtain ⟨f1, f2⟩ := floor_exact (div a b) d1
  exact ⟨d1, d2, f1, by rw [← d2]; exact f2⟩

/-- `(mod a b)` on two finite numbers, b ≠ 0 (`(mod a ±0)` is `a`: `num_mod_zero_is_dividend`): with q = ⌊RN(a / b)⌋,
    the result is **RN(a − RN(b · q))** — three roundings, each the nearest-even rounding of an exact rational -/
theorem ieee_num_mod (a b : Nat) (ha : FinBits a) (hb : FinBits b) (hz : isZeroBits b = false)
    (hfin1 : |rneQ (valQ a / valQ b)| < 2 ^ (1024 : ℤ))
    (hfin2 : |rneQ (valQ b * ((⌊rneQ (valQ a / valQ b)⌋ : ℤ) : ℚ))| < 2 ^ (1024 : ℤ))
    (hfin3 : |rneQ (valQ a - rneQ (valQ b * ((⌊rneQ (valQ a / valQ b)⌋ : ℤ) : ℚ)))| < 2 ^ (1024 : ℤ)) :
    FinBits (numModulo ieee a b) ∧
    valQ (numModulo ieee a b) = rneQ (valQ a - rneQ (valQ b * ((⌊rneQ (valQ a / valQ b)⌋ : ℤ) : ℚ))) := by
  obtain ⟨_, _, f1, f2⟩ := ieee_num_div a b ha hb hz hfin1
  have hnm : numModulo ieee a b = sub a (mul b (floor (div a b))) := numModulo_of_nonzero ieee a b hz
  have hfl : numDivFloor ieee a b = floor (div a b) := rfl
  rw [hfl] at f1 f2
  obtain ⟨n1, m1, e1, h1⟩ := ha
  obtain ⟨n2, m2, e2, h2⟩ := hb
  obtain ⟨n3, m3, e3, h3⟩ := f1
  obtain ⟨p1, p2⟩ := (mul_correct b (floor (div a b)) n2 n3 m2 m3 e2 e3 h2 h3).1 (by rw [f2]; exact hfin2)
  rw [f2] at p2
  obtain ⟨n4, m4, e4, h4⟩ := p1
  obtain ⟨s1, s2⟩ := (sub_correct a (mul b (floor (div a b))) n1 n4 m1 m4 e1 e4 h1 h4).1 (by rw [p2]; exact hfin3)
  rw [p2] at s2
  rw [hnm]
  exact ⟨s1, s2⟩

/-- when the three exact intermediate results are binary64 values (e.g. small integers), `(mod a b)` is a − b⌊a/b⌋
    exactly, in [0, b) for b > 0 and in (b, 0] for b < 0: `num_mod_value` with its `ExactAt` / `FloorExact` hypotheses
    proved for the instance -/
theorem ieee_num_mod_exact (a b : Nat) (ha : FinBits a) (hb : FinBits b) (hz : isZeroBits b = false)
    (r1 : Repr64 (valQ a / valQ b))
    (r2 : Repr64 (valQ b * ((⌊valQ a / valQ b⌋ : ℤ) : ℚ)))
    (r3 : Repr64 (valQ a - valQ b * ((⌊valQ a / valQ b⌋ : ℤ) : ℚ))) :
    valQ (numModulo ieee a b) = valQ a - valQ b * ((⌊valQ a / valQ b⌋ : ℤ) : ℚ) ∧
    (0 < valQ b → 0 ≤ valQ (numModulo ieee a b) ∧ valQ (numModulo ieee a b) < valQ b) ∧
    (valQ b < 0 → valQ b < valQ (numModulo ieee a b) ∧ valQ (numModulo ieee a b) ≤ 0) := by
  obtain ⟨d1, d2⟩ := div_exact_of_repr a b ha hb hz r1
  obtain ⟨f1, f2⟩ := floor_exact _ d1
  rw [d2] at f2
  obtain ⟨p1, p2⟩ := mul_exact_of_repr b _ hb f1 (by rw [f2]; exact r2)
  obtain ⟨s1, s2⟩ := sub_exact_of_repr a _ ha p1 (by rw [p2, f2]; exact r3)
  exact num_mod_value ieee floor_exact a b hb hz ⟨d1, d2⟩ ⟨p1, p2⟩ ⟨s1, s2⟩

theorem ops_exact_when_representable (a b c : Nat) (ha : FinBits a) (hb : FinBits b) (hc : FinBits c) :
    (valQ a + valQ b = valQ c → valQ (ieee.add a b) = valQ c) ∧
    (valQ a - valQ b = valQ c → valQ (ieee.sub a b) = valQ c) ∧
    (valQ a * valQ b = valQ c → valQ (ieee.mul a b) = valQ c) ∧
    (isZeroBits b = false → valQ a / valQ b = valQ c → valQ (ieee.div a b) = valQ c) := by
  have rc := repr64_of_finBits c hc
  exact ⟨fun h => (add_exact_of_repr a b ha hb (h ▸ rc)).2.trans h, fun h => (sub_exact_of_repr a b ha hb (h ▸ rc)).2.trans h,
    fun h => (mul_exact_of_repr a b ha hb (h ▸ rc)).2.trans h, fun hz h => (div_exact_of_repr a b ha hb hz (h ▸ rc)).2.trans h⟩

theorem rneQ_nearest_grid (x : ℚ) (hx : 0 < x) (z : ℤ) : |rneQ x - x| ≤ |(z : ℚ) * 2 ^ cexp x - x| := by
  have hp := two_zpow_pos (cexp x)
  rw [rneQ_pos x hx]
  have e1 : (rneInt (x / 2 ^ cexp x) : ℚ) * 2 ^ cexp x - x = ((rneInt (x / 2 ^ cexp x) : ℚ) - x / 2 ^ cexp x) * 2 ^ cexp x := by
    field_simp
  have e2 : (z : ℚ) * 2 ^ cexp x - x = ((z : ℚ) - x / 2 ^ cexp x) * 2 ^ cexp x := by field_simp
  rw [e1, e2, abs_mul, abs_mul, abs_of_pos hp]
  exact mul_le_mul_of_nonneg_right (rneInt_nearest _ z) hp.le

theorem rneQ_nearest_pos (x : ℚ) (hx : 0 < x) (n : Bool) (m : Nat) (e : ℤ) (hm : m < 9007199254740992) (he : -1074 ≤ e) :
    |rneQ x - x| ≤ |sgnQ n * ((m : ℚ) * 2 ^ e) - x| := by
  by_cases hec : cexp x ≤ e
  · -- the value lies on the grid
    rw [← mul_assoc, ← smant_eq, zpow_split _ e _ hec]
    exact rneQ_nearest_grid x hx _
  · -- below the grid's binade: its lower end 2^(cexp x + 52) is on the grid and at least as close
    have hk1 : (2 : ℚ) ^ (cexp x + 52) ≤ x := by
      have := le_abs_of_cexp hx.ne' (lt_of_le_of_lt he (not_le.1 hec))
      rwa [abs_of_pos hx] at this
    have hg := rneQ_nearest_grid x hx (4503599627370496 : ℤ)
    have e52 : (((4503599627370496 : ℤ)) : ℚ) * 2 ^ cexp x = 2 ^ (cexp x + 52) := by
      have : (((4503599627370496 : ℤ)) : ℚ) = 2 ^ (52 : ℤ) := by norm_num
      rw [this, zpow2_add, add_comm]
    rw [e52] at hg
    have hd : (m : ℚ) * 2 ^ e < 2 ^ (cexp x + 52) := by
      calc (m : ℚ) * 2 ^ e ≤ (m : ℚ) * 2 ^ (cexp x - 1) :=
            mul_le_mul_of_nonneg_left (zpow2_mono (by omega)) (by positivity)
        _ < 2 ^ ((53 : ℤ) + (cexp x - 1)) := dyadic_lt hm _
        _ = 2 ^ (cexp x + 52) := by congr 1; ring
    have hdle : sgnQ n * ((m : ℚ) * 2 ^ e) ≤ (m : ℚ) * 2 ^ e := by
      have h0 : (0 : ℚ) ≤ (m : ℚ) * 2 ^ e := mul_nonneg (by positivity) (two_zpow_pos e).le
      exact le_trans (le_abs_self _) (by rw [abs_sgnQ_mul, abs_of_nonneg h0])
    have : |(2 : ℚ) ^ (cexp x + 52) - x| ≤ |sgnQ n * ((m : ℚ) * 2 ^ e) - x| := by
      rw [abs_sub_comm, abs_of_nonneg (by linarith), abs_sub_comm (sgnQ n * _), abs_of_nonneg (by linarith)]
      linarith
    exact le_trans hg this

/-- the rounding is to *nearest*: no value `± m · 2^e` of the format (m < 2^53, e ≥ -1074; in particular no finite
    binary64) is closer to `x` than `rneQ x` -/
theorem rneQ_nearest (x : ℚ) (n : Bool) (m : Nat) (e : ℤ) (hm : m < 9007199254740992) (he : -1074 ≤ e) :
    |rneQ x - x| ≤ |sgnQ n * ((m : ℚ) * 2 ^ e) - x| := by
  rcases lt_trichotomy x 0 with hx | hx | hx
  · have h := rneQ_nearest_pos (-x) (by linarith) (!n) m e hm he
    rw [rneQ_neg, ← neg_sub', abs_neg, sgnQ_not, neg_mul, ← neg_sub', abs_neg] at h
    exact h
  · subst hx; rw [rneQ_zero]; simp only [sub_self, abs_zero]; exact abs_nonneg _
  · exact rneQ_nearest_pos x hx n m e hm he

theorem rneQ_nearest_binary64 (x : ℚ) (c : Nat) (hc : FinBits c) : |rneQ x - x| ≤ |valQ c - x| := by
  obtain ⟨n, m, e, hd⟩ := hc
  obtain ⟨hm, he, _⟩ := decode_fin_bounds c n m e hd
  rw [valQ_of_decode c n m e hd]
  exact rneQ_nearest x n m e hm he

theorem decode_nanBits : decode nanBits = .nan := by decide

theorem nan_propagates (a b : Nat) (h : decode a = .nan ∨ decode b = .nan) :
    decode (add a b) = .nan ∧ decode (mul a b) = .nan ∧ decode (div a b) = .nan ∧ decode (fmod a b) = .nan := by
  -- NaN is the first arm of each match on the left operand, the second on the right one
  rcases h with h | h
  · refine ⟨?_, ?_, ?_, ?_⟩
    · unfold add; rw [h]; exact decode_nanBits
    · unfold mul; rw [h]; exact decode_nanBits
    · unfold div; rw [h]; exact decode_nanBits
    · unfold fmod; rw [h]; exact decode_nanBits
  · refine ⟨?_, ?_, ?_, ?_⟩
    · unfold add; rw [h]; cases decode a <;> exact decode_nanBits
    · unfold mul; rw [h]; cases decode a <;> exact decode_nanBits
    · unfold div; rw [h]; cases decode a <;> exact decode_nanBits
    · unfold fmod; rw [h]; cases decode a <;> exact decode_nanBits

/-- ∞ + ∞ = ∞, ∞ − ∞ = NaN, ∞ · ∞ = ±∞, ∞ / ∞ = NaN; ∞ with a finite operand; 0 · ∞ = NaN; x / ∞ = ±0 -/
theorem infinity_rules (a b : Nat) :
    (∀ n1 n2, decode a = .inf n1 → decode b = .inf n2 →
      decode (add a b) = (if n1 = n2 then .inf n1 else .nan) ∧ decode (mul a b) = .inf (n1 != n2) ∧ decode (div a b) = .nan) ∧
    (∀ n1 n2 m e, decode a = .inf n1 → decode b = .fin n2 m e →
      decode (add a b) = .inf n1 ∧ decode (mul a b) = (if m = 0 then .nan else .inf (n1 != n2)) ∧ decode (div a b) = .inf (n1 != n2)) ∧
    (∀ n1 m e n2, decode a = .fin n1 m e → decode b = .inf n2 →
      decode (add a b) = .inf n2 ∧ decode (mul a b) = (if m = 0 then .nan else .inf (n1 != n2)) ∧
      decode (div a b) = .fin (n1 != n2) 0 (-1074) ∧ fmod a b = a) := by
  refine ⟨fun n1 n2 ha hb => ⟨?_, ?_, ?_⟩, fun n1 n2 m e ha hb => ⟨?_, ?_, ?_⟩, fun n1 m e n2 ha hb => ⟨?_, ?_, ?_, ?_⟩⟩
  · unfold add; rw [ha, hb]; simp only []
    by_cases h : n1 = n2
    · subst h; simp [decode_withSign_inf]
    · have : (n1 == n2) = false := by simpa using h
      rw [this, if_neg h]; exact decode_nanBits
  · unfold mul; rw [ha, hb]; exact decode_withSign_inf _
  · unfold div; rw [ha, hb]; exact decode_nanBits
  · unfold add; rw [ha, hb]; exact decode_withSign_inf _
  · unfold mul; rw [ha, hb]; simp only []
    by_cases h : m = 0
    · rw [if_pos h, if_pos h]; exact decode_nanBits
    · rw [if_neg h, if_neg h]; exact decode_withSign_inf _
  · unfold div; rw [ha, hb]; exact decode_withSign_inf _
  · unfold add; rw [ha, hb]; exact decode_withSign_inf _
  · unfold mul; rw [ha, hb]; simp only []
    by_cases h : m = 0
    · rw [if_pos h, if_pos h]; exact decode_nanBits
    · rw [if_neg h, if_neg h]; exact decode_withSign_inf _
  · unfold div; rw [ha, hb]; exact decode_withSign_zero _
  · unfold fmod; rw [ha, hb]

/-- x / ±0 = ±∞ (0 / 0 = NaN); an exact zero sum is +0 unless both operands are −0; a zero product / quotient has the
    xor of the signs -/
theorem zero_rules (a b : Nat) (n1 n2 : Bool) (m1 m2 : Nat) (e1 e2 : ℤ)
    (ha : decode a = .fin n1 m1 e1) (hb : decode b = .fin n2 m2 e2) :
    (m2 = 0 → decode (div a b) = (if m1 = 0 then .nan else .inf (n1 != n2)) ∧ decode (fmod a b) = .nan) ∧
    (valQ a + valQ b = 0 → decode (add a b) = .fin (n1 && n2) 0 (-1074)) ∧
    (m1 = 0 ∨ m2 = 0 → decode (mul a b) = .fin (n1 != n2) 0 (-1074)) ∧
    (m1 = 0 → m2 ≠ 0 → decode (div a b) = .fin (n1 != n2) 0 (-1074)) := by
  refine ⟨fun h => ⟨?_, ?_⟩, fun h => ?_, fun h => ?_, fun h1 h2 => ?_⟩
  · unfold div; rw [ha, hb]; simp only []; rw [if_pos h]
    by_cases h1 : m1 = 0
    · rw [if_pos h1, if_pos h1]; exact decode_nanBits
    · rw [if_neg h1, if_neg h1]; exact decode_withSign_inf _
  · unfold fmod; rw [ha, hb]; simp only []; rw [if_pos h]; exact decode_nanBits
  · -- the integer sum is zero
    have hs : smant n1 m1 * 2 ^ (e1 - min e1 e2).toNat + smant n2 m2 * 2 ^ (e2 - min e1 e2).toNat = 0 := by
      rw [valQ_add a b n1 n2 m1 m2 e1 e2 ha hb] at h
      exact_mod_cast (mul_eq_zero.1 h).resolve_right (two_zpow_pos _).ne'
    unfold add; rw [ha, hb]; simp only []; rw [if_pos hs]; exact decode_withSign_zero _
  · have hN : dyNum (m1 * m2) (e1 + e2) = 0 := by
      have : m1 * m2 = 0 := by rcases h with h | h <;> simp [h]
      unfold dyNum; rw [this]; split <;> simp
    unfold mul; rw [ha, hb]; simp only []
    unfold roundSigned; rw [if_pos hN]; exact decode_withSign_zero _
  · have hN : dyNum m1 (e1 - e2) = 0 := by unfold dyNum; rw [h1]; split <;> simp
    unfold div; rw [ha, hb]; simp only []; rw [if_neg h2]
    unfold roundSigned; rw [if_pos hN]; exact decode_withSign_zero _

/-- C's `trunc` on a rational -/
def truncQ (q : ℚ) : ℤ := if 0 ≤ q then ⌊q⌋ else ⌈q⌉

theorem truncQ_signed (s t : Bool) (X Y : Nat) (hY : 0 < Y) :
    truncQ (sgnQ s * (X : ℚ) / (sgnQ t * (Y : ℚ))) = (if s != t then -((X / Y : Nat) : ℤ) else ((X / Y : Nat) : ℤ)) := by
  have hYq : (0 : ℚ) < Y := by exact_mod_cast hY
  have hq0 : (0 : ℚ) ≤ (X : ℚ) / Y := div_nonneg (by positivity) hYq.le
  have hfl : ⌊(X : ℚ) / Y⌋ = ((X / Y : Nat) : ℤ) := by rw [Rat.floor_natCast_div_natCast]; rfl
  have hpos : truncQ ((X : ℚ) / Y) = ((X / Y : Nat) : ℤ) := by unfold truncQ; rw [if_pos hq0, hfl]
  have hneg : truncQ (-((X : ℚ) / Y)) = -((X / Y : Nat) : ℤ) := by
    unfold truncQ
    by_cases hz : (X : ℚ) / Y = 0
    · rw [hz, neg_zero, if_pos (le_refl _)]
      have : ((X / Y : Nat) : ℤ) = 0 := by rw [← hfl, hz]; simp
      rw [this]; simp
    · have : ¬ (0 : ℚ) ≤ -((X : ℚ) / Y) := by
        have : (0 : ℚ) < (X : ℚ) / Y := lt_of_le_of_ne hq0 (Ne.symm hz)
        linarith
      rw [if_neg this, Int.ceil_neg, hfl]
  cases s <;> cases t <;> simp only [sgnQ, if_true, Bool.false_eq_true, if_false, one_mul, neg_one_mul, bne_self_eq_false,
    Bool.true_bne, Bool.false_bne, Bool.not_false, neg_div, div_neg, neg_neg]
  · exact hpos
  · exact hneg
  · exact hneg
  · exact hpos

/-- `(% a b)` on two finite numbers, b ≠ 0: C `fmod`, **exactly** a − b·trunc(a / b) (no rounding: the result is a double) -/
theorem fmod_exact (a b : Nat) (nx ny : Bool) (mx my : Nat) (ex ey : ℤ)
    (ha : decode a = .fin nx mx ex) (hb : decode b = .fin ny my ey) (hmy : my ≠ 0) :
    FinBits (fmod a b) ∧ valQ (fmod a b) = valQ a - valQ b * ((truncQ (valQ a / valQ b) : ℤ) : ℚ) := by
  obtain ⟨hmx53, hex1, _⟩ := decode_fin_bounds a nx mx ex ha
  obtain ⟨hmy53, hey1, _⟩ := decode_fin_bounds b ny my ey hb
  have hva := valQ_of_decode a nx mx ex ha
  have hvb := valQ_of_decode b ny my ey hb
  by_cases hmx : mx = 0
  · have hf : fmod a b = a := by unfold fmod; rw [ha, hb]; simp only []; rw [if_neg hmy, if_pos hmx]
    rw [hf]
    refine ⟨⟨nx, mx, ex, ha⟩, ?_⟩
    have h0 : valQ a = 0 := by rw [hva, hmx]; simp
    rw [h0]; simp [truncQ]
  · set e := min ex ey with he
    obtain ⟨jx, hjx⟩ := Int.eq_ofNat_of_zero_le (show 0 ≤ ex - e by omega)
    obtain ⟨jy, hjy⟩ := Int.eq_ofNat_of_zero_le (show 0 ≤ ey - e by omega)
    have hf : fmod a b = roundSigned nx (dyNum (mx * 2 ^ jx % (my * 2 ^ jy)) e) (dyDen e) := by
      unfold fmod; rw [ha, hb]; simp only []; rw [if_neg hmy, if_neg hmx, ← he, hjx, hjy]; rfl
    set X := mx * 2 ^ jx with hX
    set Y := my * 2 ^ jy with hY
    have hYpos : 0 < Y := Nat.mul_pos (Nat.pos_of_ne_zero hmy) (Nat.two_pow_pos jy)
    have he1 : -1074 ≤ e := by omega
    -- |a| = X 2^e, |b| = Y 2^e
    have hax : (mx : ℚ) * 2 ^ ex = (X : ℚ) * 2 ^ e := by
      have : ex = (jx : ℤ) + e := by omega
      rw [hX, this, ← zpow2_add, zpow_natCast]; push_cast; ring
    have hby : (my : ℚ) * 2 ^ ey = (Y : ℚ) * 2 ^ e := by
      have : ey = (jy : ℤ) + e := by omega
      rw [hY, this, ← zpow2_add, zpow_natCast]; push_cast; ring
    -- the remainder is below 2^53
    have hr53 : X % Y < 9007199254740992 := by
      rcases le_total ex ey with h | h
      · have : jx = 0 := by have : e = ex := by omega
                            omega
        have hXm : X = mx := by rw [hX, this]; simp
        exact lt_of_le_of_lt (Nat.mod_le _ _) (by rw [hXm]; exact hmx53)
      · have : jy = 0 := by have : e = ey := by omega
                            omega
        have hYm : Y = my := by rw [hY, this]; simp
        exact lt_trans (Nat.mod_lt _ hYpos) (by rw [hYm]; exact hmy53)
    obtain ⟨dv, dp⟩ := dy_value (X % Y) e
    have hele : e ≤ 971 := by
      have := (decode_fin_bounds a nx mx ex ha).2.2; omega
    obtain ⟨f1, f2⟩ := roundSigned_exact nx (dyNum (X % Y) e) (dyDen e) dp _ (by rw [dv])
      (repr64_dyadic nx (X % Y) e hr53 he1 hele)
    rw [hf]
    refine ⟨f1, ?_⟩
    rw [f2, hva, hvb, hax, hby]
    have hdiv : sgnQ nx * ((X : ℚ) * 2 ^ e) / (sgnQ ny * ((Y : ℚ) * 2 ^ e)) = sgnQ nx * (X : ℚ) / (sgnQ ny * (Y : ℚ)) := by
      rw [← mul_assoc, ← mul_assoc, mul_div_mul_right _ _ (two_zpow_pos e).ne']
    rw [hdiv, truncQ_signed nx ny X Y hYpos]
    have hmod : ((X % Y : Nat) : ℚ) = (X : ℚ) - (Y : ℚ) * ((X / Y : Nat) : ℚ) :=
      eq_sub_of_add_eq' (by exact_mod_cast Nat.div_add_mod X Y)
    rw [hmod]
    generalize (X / Y) = q
    cases nx <;> cases ny <;> simp [sgnQ] <;> ring

end JanetModel.Int64.Ieee
