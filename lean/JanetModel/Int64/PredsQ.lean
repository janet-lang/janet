/- C14 — boot.janet's numeric predicates (`Int64/Preds.lean`) decide what their names say, by mathematical value, on every
   numeric type: `zero? pos? neg? one?` for any non-NaN number (±inf included), int/s64, int/u64; `even? odd?` for every int/s64,
   int/u64 and every integer-valued number of magnitude ≤ 2^53.  Proof file (Mathlib), not linked into the driver. -/
import JanetModel.Int64.Preds
import JanetModel.Int64.LemmasC
import JanetModel.Int64.MixQ
namespace JanetModel.Int64
open JanetModel.Gen.Int64 JanetModel.Int64.Ieee

theorem ext_of_finBits (b : Nat) (hb : FinBits b) : (Val.num b).ext? = some (.fin (valQ b)) := by
  obtain ⟨n, m, e, hd⟩ := hb
  show (decode b).ext? = some (.fin (decode b).toRat)
  rw [hd]; rfl

theorem ext_of_intVal (b : Nat) (z : ℤ) (hb : IntVal b z) : (Val.num b).ext? = some (.fin (z : ℚ)) := by
  rw [ext_of_finBits b hb.1, hb.2]

theorem ext_ofInt (k : ℤ) (hk : |k| ≤ 9007199254740992) : (Val.ofInt k).ext? = some (.fin (k : ℚ)) :=
  ext_of_intVal _ k (intVal_encodeInt k hk)

theorem cmpQ_eq_zero (a b : ℚ) : cmpQ a b = 0 ↔ a = b := by
  unfold cmpQ
  rcases lt_trichotomy a b with h | h | h
  · simp [h, h.ne]
  · simp [h]
  · simp [h, not_lt.2 h.le, h.ne']

/-- `(= r R)` / `(= R r)` where `r` is what `compare` answered for the sign `i` (the number i, or -0.0 for "equal" when the
    right operand's method answered) and R is one of -1, 0, 1: true iff i = R -/
theorem eq_cmp_result (r : Val) (i R : ℤ) (hi : i = -1 ∨ i = 0 ∨ i = 1) (hR : R = -1 ∨ R = 0 ∨ R = 1)
    (hr : r = Val.ofInt i ∨ (i = 0 ∧ r = .num 0x8000000000000000)) :
    janetEquals r (Val.ofInt R) = decide (i = R) ∧ janetEquals (Val.ofInt R) r = decide (i = R) := by
  have mem : ∀ {z : ℤ}, z = -1 ∨ z = 0 ∨ z = 1 → z ∈ [(-1 : ℤ), 0, 1] := fun h => by simpa using h
  -- a finite table: each of the four possible answers -1, 0, 1, -0.0 against each of the three constants
  have t1 : ∀ i ∈ [(-1 : ℤ), 0, 1], ∀ R ∈ [(-1 : ℤ), 0, 1],
      janetEquals (Val.ofInt i) (Val.ofInt R) = decide (i = R) ∧ janetEquals (Val.ofInt R) (Val.ofInt i) = decide (i = R) := by
    decide +kernel
  have t2 : ∀ R ∈ [(-1 : ℤ), 0, 1],
      janetEquals (.num 0x8000000000000000) (Val.ofInt R) = decide ((0 : ℤ) = R) ∧
      janetEquals (Val.ofInt R) (.num 0x8000000000000000) = decide ((0 : ℤ) = R) := by
    decide +kernel
  rcases hr with rfl | ⟨rfl, rfl⟩
  · exact t1 i (mem hi) R (mem hR)
  · exact t2 R (mem hR)

/-- `(= (compare x k) R)`: true iff the mathematical values of x and k are in the relation R stands for -/
theorem polyPred_cmp (c : Cfg) (hcfg : c.ComparesExact)
    (N : NumOps) (name : String) (k R : ℤ) (hrow : polyPreds.lookup name = some ("cmp", k, R))
    (hk : |k| ≤ 9007199254740992) (hR : R = -1 ∨ R = 0 ∨ R = 1)
    (x : Val) (vx : ExtQ) (hx : x.ext? = some vx) (wx : x.wf) :
    polyPred c N name x = .ok (.bool (decide (cmpExt vx (.fin (k : ℚ)) = R))) := by
  obtain ⟨r, h1, _, h3⟩ := polyCompare_correct c hcfg x (Val.ofInt k) vx (.fin (k : ℚ)) hx (ext_ofInt k hk) wx trivial
  unfold polyPred
  rw [hrow]
  simp only []
  rw [h1]
  show Res.ok (Val.bool (janetEquals r (Val.ofInt R))) = _
  rw [(eq_cmp_result r _ R (cmpExt_range _ _) hR h3).1]

/-- the second half of `even?` / `odd?`: `(= 0 (compare p md))` for a numeric remainder `md` of value `m` -/
theorem parity_tail (c : Cfg) (hcfg : c.ComparesExact)
    (p : ℤ) (hp : |p| ≤ 9007199254740992) (md : Val) (m : ℤ) (hm : md.ext? = some (.fin (m : ℚ))) (wm : md.wf) :
    (polyCompare c (Val.ofInt p) md).bind (fun v => Res.ok (Val.bool (janetEquals (Val.ofInt 0) v))) = .ok (.bool (decide (m = p))) := by
  obtain ⟨r, h1, _, h3⟩ := polyCompare_correct c hcfg (Val.ofInt p) md (.fin (p : ℚ)) (.fin (m : ℚ)) (ext_ofInt p hp) hm trivial wm
  rw [h1]
  show Res.ok (Val.bool (janetEquals (Val.ofInt 0) r)) = _
  rw [(eq_cmp_result r _ 0 (cmpExt_range _ _) (Or.inr (Or.inl rfl)) h3).2]
  have : (cmpExt (.fin (p : ℚ)) (.fin (m : ℚ)) = 0) ↔ m = p := by
    show cmpQ (p : ℚ) (m : ℚ) = 0 ↔ _
    rw [cmpQ_eq_zero, Int.cast_inj, eq_comm]
  simp only [this]

theorem vmOp_mod2_s64 (N : NumOps) (v : ℤ) (hv : Kind.s64.inRange v) :
    vmOp cfgGen N "modulo" "mod" (.s64 v) (Val.ofInt 2) = .ok (.s64 (v % 2)) := by
  obtain ⟨_, _, _, hmod⟩ := vmOp_s64_left N v
  have hmin : ¬ (v = int64Min ∧ (2 : ℤ) = -1) := fun h => absurd h.2 (by decide)
  rw [hmod, viaBox_ok (unwrapS_ofInt 2 (by decide)) (mod_eq_floor_mod _ v 2 hv (by decide) (by decide) (Or.inr hmin)),
    Int.fmod_eq_emod_of_nonneg _ (by decide)]
  rfl

theorem vmOp_mod2_u64 (N : NumOps) (v : ℤ) :
    vmOp cfgGen N "modulo" "mod" (.u64 v) (Val.ofInt 2) = .ok (.u64 (v % 2)) := by
  obtain ⟨_, _, _, hmod⟩ := vmOp_u64_left N v
  rw [hmod, viaBox_ok (unwrapU_ofInt 2 (by decide) (by decide)) (trunc_div_rem_correct v 2 (by decide)).2.2.2.2]
  rfl

theorem vmOp_mod2_num (a : Nat) (z : ℤ) (ha : IntVal a z) (hz : |z| ≤ 9007199254740992) :
    ∃ m, vmOp cfgGen ieee "modulo" "mod" (.num a) (Val.ofInt 2) = .ok (.num m) ∧ IntVal m (z % 2) := by
  refine ⟨numModulo ieee a (encodeInt 2), rfl, ?_⟩
  have hprod : |(2 : ℤ) * Int.fdiv z 2| ≤ 9007199254740992 := by
    rw [Int.fdiv_eq_ediv_of_nonneg _ (by decide)]
    have := abs_le.1 hz
    rw [abs_le]; constructor <;> omega
  have := num_mod_int a (encodeInt 2) z 2 ha (intVal_encodeInt 2 (by decide)) hz (by decide) (by decide) hprod
  rw [Int.fmod_eq_emod_of_nonneg _ (by decide)] at this
  exact this

/-- `even?` / `odd?` (any row `(= 0 (compare p (mod x 2)))` of the regenerated table, p = 0 or 1) on the current tree:
    every int/s64, every int/u64, every integer-valued number of magnitude ≤ 2^53 — true iff x mod 2 = p -/
theorem polyPred_parity (name : String) (p : ℤ) (hrow : polyPreds.lookup name = some ("parity", p, 2)) (hp : p = 0 ∨ p = 1) :
    (∀ N v, Kind.s64.inRange v → polyPred cfgGen N name (.s64 v) = .ok (.bool (decide (v % 2 = p)))) ∧
    (∀ N v, Kind.u64.inRange v → polyPred cfgGen N name (.u64 v) = .ok (.bool (decide (v % 2 = p)))) ∧
    (∀ a z, IntVal a z → |z| ≤ 9007199254740992 → polyPred cfgGen ieee name (.num a) = .ok (.bool (decide (z % 2 = p)))) := by
  have hpb : |p| ≤ 9007199254740992 := by rcases hp with h | h <;> subst h <;> decide
  refine ⟨fun N v hv => ?_, fun N v hv => ?_, fun a z ha hz => ?_⟩
  · unfold polyPred; rw [hrow]; simp only []
    rw [vmOp_mod2_s64 N v hv, bind_ok]
    have wf : (Val.s64 (v % 2)).wf := by
      show Kind.s64.inRange (v % 2)
      simp only [Kind.inRange, int64Min, int64Max]; omega
    exact parity_tail cfgGen cfgGen_comparesExact p hpb (.s64 (v % 2)) (v % 2) rfl wf
  · unfold polyPred; rw [hrow]; simp only []
    rw [vmOp_mod2_u64 N v, bind_ok]
    have wf : (Val.u64 (v % 2)).wf := by
      show Kind.u64.inRange (v % 2)
      simp only [Kind.inRange, two64]; omega
    exact parity_tail cfgGen cfgGen_comparesExact p hpb (.u64 (v % 2)) (v % 2) rfl wf
  · obtain ⟨m, hm1, hm2⟩ := vmOp_mod2_num a z ha hz
    unfold polyPred; rw [hrow]; simp only []
    rw [hm1, bind_ok]
    exact parity_tail cfgGen cfgGen_comparesExact p hpb (.num m) (z % 2) (ext_of_intVal m _ hm2) trivial

end JanetModel.Int64
