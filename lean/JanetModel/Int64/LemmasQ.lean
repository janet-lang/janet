/- C14 — the comparison spec over ℚ: `cmpIntDbl` (integer cross-multiplication) is the three-way comparison of the
   rational numbers x and ± m * 2^e; the VM's `div` / `mod` / `%` handlers on two numbers over abstract IEEE primitives
   (`NumOps`), under the hypotheses `FloorExact` / `ExactAt`.  Proof file: imports single Mathlib modules (not linked into the driver). -/
import JanetModel.Int64.Lemmas
import Mathlib.Algebra.Order.Field.Rat
import Mathlib.Tactic.Positivity
import Mathlib.Tactic.Linarith
import Mathlib.Data.Rat.Floor
namespace JanetModel.Int64

/-- the rational value of a finite decoded double (0 for NaN / infinities, which the theorems treat separately) -/
def Dbl.toRat : Dbl → ℚ
  | .fin neg m e => (smant neg m : ℚ) * (2 : ℚ) ^ e
  | _ => 0

/-- three-way comparison in ℚ -/
def cmpQ (a b : ℚ) : Int := if a < b then -1 else if a > b then 1 else 0

theorem cmp3_eq_cmpQ_of_iff {a b : Int} {p q : ℚ} (h1 : a < b ↔ p < q) (h2 : b < a ↔ q < p) : cmp3 a b = cmpQ p q := by
  unfold cmp3 cmpQ
  by_cases c1 : a < b
  · rw [if_pos c1, if_pos (h1.1 c1)]
  · rw [if_neg c1, if_neg (fun h => c1 (h1.2 h))]
    by_cases c2 : a > b
    · rw [if_pos c2, if_pos (h2.1 c2)]
    · rw [if_neg c2, if_neg (fun h => c2 (h2.2 h))]

theorem zpow_split (a e m : Int) (h : m ≤ e) : (a : ℚ) * 2 ^ e = ((a * 2 ^ (e - m).toNat : Int) : ℚ) * 2 ^ m := by
  obtain ⟨k, hk⟩ := Int.eq_ofNat_of_zero_le (show 0 ≤ e - m by omega)
  have he : e = (k : ℤ) + m := by omega
  rw [hk, Int.toNat_natCast]
  conv_lhs => rw [he, zpow_add₀ (by norm_num : (2 : ℚ) ≠ 0), zpow_natCast]
  push_cast
  ring

theorem cmpDyadic_eq_cmpQ (a : Int) (ea : Int) (b : Int) (eb : Int) :
    cmpDyadic a ea b eb = cmpQ ((a : ℚ) * 2 ^ ea) ((b : ℚ) * 2 ^ eb) := by
  have hp : (0 : ℚ) < 2 ^ (min ea eb) := zpow_pos (by norm_num) _
  rw [zpow_split a ea _ (min_le_left ea eb), zpow_split b eb _ (min_le_right ea eb)]
  apply cmp3_eq_cmpQ_of_iff
  · rw [mul_lt_mul_iff_of_pos_right hp]; exact_mod_cast Iff.rfl
  · rw [mul_lt_mul_iff_of_pos_right hp]; exact_mod_cast Iff.rfl

theorem cmpIntDbl_eq_cmpQ (n : Int) (neg : Bool) (m : Nat) (e : Int) :
    cmpIntDbl n (.fin neg m e) = cmpQ (n : ℚ) (Dbl.toRat (.fin neg m e)) := by
  show cmpDyadic n 0 (smant neg m) e = _
  rw [cmpDyadic_eq_cmpQ, zpow_zero, mul_one]
  rfl

/-- the value of a decoded bit pattern is the IEEE-754 binary64 reading: (-1)^s * (1.f or 0.f) * 2^(E - 1075 resp. -1074) -/
theorem decode_value (b : Nat) (neg : Bool) (m : Nat) (e : Int) (h : decode b = .fin neg m e) :
    neg = (b / 2 ^ 63 % 2 == 1) ∧
    ((b / 2 ^ 52 % 2048 = 0 ∧ m = b % 2 ^ 52 ∧ e = -1074) ∨
     (0 < b / 2 ^ 52 % 2048 ∧ b / 2 ^ 52 % 2048 < 2047 ∧ m = b % 2 ^ 52 + 2 ^ 52 ∧ e = (b / 2 ^ 52 % 2048 : Nat) - 1075)) := by
  unfold decode at h
  simp only [] at h
  split at h
  · split at h <;> exact absurd h (by simp)
  · split at h
    · injection h with h1 h2 h3
      refine ⟨h1.symm, Or.inl ⟨by assumption, by omega, h3.symm⟩⟩
    · injection h with h1 h2 h3
      refine ⟨h1.symm, Or.inr ⟨by omega, by omega, by omega, ?_⟩⟩
      rw [← h3]; rfl

/-- the bit pattern is a finite double -/
def FinBits (b : Nat) : Prop := ∃ neg m e, decode b = .fin neg m e
/-- its rational value -/
def valQ (b : Nat) : ℚ := (decode b).toRat

/-- hypothesis of the `NumOps`-generic theorems below (libm `floor`; proved for the instance: `Ieee.floor_exact`): the floor of a finite double is a finite double with the mathematical floor as value
    (true of IEEE-754: the floor of a binary64 is representable) -/
def FloorExact (N : NumOps) : Prop := ∀ b, FinBits b → FinBits (N.floor b) ∧ valQ (N.floor b) = (⌊valQ b⌋ : ℚ)

/-- hypothesis of the `NumOps`-generic theorems below, per input: the IEEE operation `f` does not round (and does not overflow) at (a, b), i.e. the exact
    result `op a b` is representable.  Holds e.g. for integer-valued operands below 2^53 whose result is such an integer. -/
def ExactAt (f : Nat → Nat → Nat) (op : ℚ → ℚ → ℚ) (a b : Nat) : Prop := FinBits (f a b) ∧ valQ (f a b) = op (valQ a) (valQ b)

theorem num_div_is_floor_of_quotient (N : NumOps) (a b : Nat) : numDivFloor N a b = N.floor (N.div a b) := rfl

theorem num_div_value (N : NumOps) (hf : FloorExact N) (a b : Nat) :
    (FinBits (N.div a b) → valQ (numDivFloor N a b) = (⌊valQ (N.div a b)⌋ : ℚ)) ∧
    (ExactAt N.div (· / ·) a b → valQ (numDivFloor N a b) = (⌊valQ a / valQ b⌋ : ℚ)) := by
  refine ⟨fun h => (hf _ h).2, fun h => ?_⟩
  rw [num_div_is_floor_of_quotient, (hf _ h.1).2, h.2]

/-- `(mod a 0)` and `(mod a -0)` are `a` itself (bit for bit) -/
theorem num_mod_zero_is_dividend (N : NumOps) (a b : Nat) (hz : isZeroBits b = true) : numModulo N a b = a := by
  unfold numModulo; rw [if_pos hz]

theorem numModulo_of_nonzero (N : NumOps) (a b : Nat) (hz : isZeroBits b = false) :
    numModulo N a b = N.sub a (N.mul b (N.floor (N.div a b))) := by
  unfold numModulo; rw [if_neg (by simp [hz])]

theorem isZeroBits_iff (b : Nat) (n : Bool) (m : Nat) (e : Int) (hd : decode b = .fin n m e) : isZeroBits b = true ↔ m = 0 := by
  unfold isZeroBits
  rw [hd]
  cases m <;> simp

theorem isZeroBits_iff_valQ (b : Nat) (hb : FinBits b) : isZeroBits b = true ↔ valQ b = 0 := by
  obtain ⟨n, m, e, hd⟩ := hb
  have h2 : ((2 : ℚ) ^ e) ≠ 0 := zpow_ne_zero _ (by norm_num)
  rw [isZeroBits_iff b n m e hd, valQ, hd]
  simp only [Dbl.toRat, mul_eq_zero, h2, or_false]
  unfold smant
  cases n <;> simp

theorem isZeroBits_false (b : Nat) (hb : FinBits b) (hz : isZeroBits b = false) : valQ b ≠ 0 := fun h => by
  rw [(isZeroBits_iff_valQ b hb).2 h] at hz
  cases hz

/-- `(mod a b)`, b ≠ 0: the handler computes a - b * floor(a / b); when none of the three IEEE operations rounds at this
    input, the value is a - b⌊a/b⌋, which lies in [0, b) for b > 0 and in (b, 0] for b < 0 (sign of the divisor) -/
theorem num_mod_value (N : NumOps) (hf : FloorExact N) (a b : Nat) (hb : FinBits b) (hz : isZeroBits b = false)
    (hd : ExactAt N.div (· / ·) a b) (hm : ExactAt N.mul (· * ·) b (N.floor (N.div a b)))
    (hs : ExactAt N.sub (· - ·) a (N.mul b (N.floor (N.div a b)))) :
    valQ (numModulo N a b) = valQ a - valQ b * (⌊valQ a / valQ b⌋ : ℚ) ∧
    (0 < valQ b → 0 ≤ valQ (numModulo N a b) ∧ valQ (numModulo N a b) < valQ b) ∧
    (valQ b < 0 → valQ b < valQ (numModulo N a b) ∧ valQ (numModulo N a b) ≤ 0) := by
  have hb0 := isZeroBits_false b hb hz
  have hv : valQ (numModulo N a b) = valQ a - valQ b * (⌊valQ a / valQ b⌋ : ℚ) := by
    rw [numModulo_of_nonzero N a b hz, hs.2, hm.2, (hf _ hd.1).2, hd.2]
  -- a - b⌊a/b⌋ = b · fract (a/b), and 0 ≤ fract < 1
  have hfr : valQ a - valQ b * (⌊valQ a / valQ b⌋ : ℚ) = valQ b * Int.fract (valQ a / valQ b) := by
    rw [Int.fract, mul_sub, mul_div_cancel₀ _ hb0]
  have f0 := Int.fract_nonneg (valQ a / valQ b)
  have f1 := Int.fract_lt_one (valQ a / valQ b)
  rw [hv, hfr]
  refine ⟨rfl, fun hp => ⟨mul_nonneg hp.le f0, ?_⟩, fun hn => ⟨?_, mul_nonpos_of_nonpos_of_nonneg hn.le f0⟩⟩
  · have := mul_lt_mul_of_pos_left f1 hp
    rwa [mul_one] at this
  · have := mul_lt_mul_of_neg_left f1 hn
    rwa [mul_one] at this

theorem num_rem_is_fmod (N : NumOps) (a b : Nat) : numRemainder N a b = N.fmod a b := rfl


end JanetModel.Int64
