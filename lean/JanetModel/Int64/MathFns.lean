/- C14 — the integer-valued functions of src/core/math.c on plain numbers, on the IEEE instance of `Int64/Ieee.lean`:
   `math/floor` `math/ceil` `math/trunc` `math/round` `math/abs` (JANET_DEFINE_MATHOP / JANET_DEFINE_NAMED_MATHOP: `janet_fixarity(argc, 1)`,
   `janet_getnumber`, the libm function) and `math/gcd` / `math/lcm` (`janet_gcd`: NaN / infinity tests, then Euclid's loop
   over C `fmod`; `janet_lcm`: `(x / gcd(x, y)) * y`).  The translator (tools/gen/inttypes.py) asserts the shape of `janet_gcd`,
   `janet_lcm`, the two cfuns and the MATHOP macro bodies.  Core Lean only (linked into the driver); proofs: `Int64/MathQ.lean`. -/
import JanetModel.Int64.Ieee
namespace JanetModel.Int64.Ieee
open JanetModel.Int64

/-- libm `ceil`: `-floor(-x)` (bit for bit, signed zeros included: `ceil(-0.5)` = -0.0) -/
def ceil (a : Nat) : Nat := negate (floor (negate a))

/-- libm `trunc`: toward zero, the sign is kept (`trunc(-0.5)` = -0.0) -/
def trunc (a : Nat) : Nat :=
  match decode a with
  | .nan => nanBits
  | .inf _ => a
  | .fin neg _ _ => if neg then ceil a else floor a

/-- libm `round`: to nearest, halfway cases away from zero, the sign is kept -/
def round (a : Nat) : Nat :=
  match decode a with
  | .nan => nanBits
  | .inf _ => a
  | .fin neg m e =>
    if 0 ≤ e then a
    else
      let p := 2 ^ (-e).toNat
      let f := m / p
      let r := m % p
      if r = 0 then a else roundSigned neg (if p ≤ 2 * r then f + 1 else f) 1

/-- libm `fabs`: sign bit cleared -/
def fabs (a : Nat) : Nat :=
  match decode a with
  | .nan => nanBits
  | _ => a % signBitVal

/-- magnitude of a finite double in units of 2^-1074 (every finite binary64 is an integer multiple of 2^-1074) -/
def scaledMag (b : Nat) : Nat :=
  match decode b with
  | .fin _ m e => m * 2 ^ (e + 1074).toNat
  | _ => 0

/-- the `while (y != 0) { temp = y; y = fmod(x, y); x = temp; }` of `janet_gcd`; `none` = out of fuel
    (never happens with `scaledMag y + 1`: `gcdLoop_spec`) -/
def gcdLoop : Nat → Nat → Nat → Option Nat
  | 0, _, _ => none
  | fuel + 1, x, y => if isZeroBits y then some x else gcdLoop fuel y (fmod x y)

/-- `janet_gcd` -/
def janetGcd (x y : Nat) : Nat :=
  match decode x, decode y with
  | .nan, _ => nanBits
  | _, .nan => nanBits
  | .inf _, _ => infBits
  | _, .inf _ => infBits
  | .fin .., .fin .. => (gcdLoop (scaledMag y + 1) x y).getD nanBits

/-- `janet_lcm`: `(x / janet_gcd(x, y)) * y` -/
def janetLcm (x y : Nat) : Nat := mul (div x (janetGcd x y)) y

/-- the cfuns: `janet_fixarity`, `janet_getnumber` on every argument ("bad slot"), then the function -/
def mathFn (name : String) (args : List Val) : Option (Res Val) :=
  let un (f : Nat → Nat) : Option (Res Val) :=
    match args with
    | [.num a] => some (.ok (.num (f a)))
    | [_] => some (.err .badslot)
    | _ => some (.err .arity)
  let bin (f : Nat → Nat → Nat) : Option (Res Val) :=
    match args with
    | [.num a, .num b] => some (.ok (.num (f a b)))
    | [_, _] => some (.err .badslot)
    | _ => some (.err .arity)
  match name with
  | "math/floor" => un floor
  | "math/ceil" => un ceil
  | "math/trunc" => un trunc
  | "math/round" => un round
  | "math/abs" => un fabs
  | "math/gcd" => bin janetGcd
  | "math/lcm" => bin janetLcm
  | _ => none

end JanetModel.Int64.Ieee
