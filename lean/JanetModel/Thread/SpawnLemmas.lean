/- C08 - ev/thread hand-over: read ∘ write = identity for every plan and flag word; every started thread consumes its own
   buffer exactly once.  Completion: the invariant of `tstep` when the completion record is written after the body. -/
import JanetModel.Thread.Spawn
import JanetModel.Thread.Step

namespace JanetModel.Thread.Spawn

theorem read_write (plan : List PStep) (flags : Nat) (a : Args) (tail : Buf) :
    readBuf plan flags (writeBuf plan flags a ++ tail) = some (writeBuf plan flags a, tail) := by
  induction plan with
  | nil => simp [readBuf, writeBuf]
  | cons p ps ih =>
    by_cases he : p.enabled flags = true
    · have hw : writeBuf (p :: ps) flags a = (p.kind, a p.kind) :: writeBuf ps flags a := by simp [writeBuf, he]
      rw [hw]
      simp only [readBuf, he, if_true, List.cons_append]
      rw [ih]
    · have hw : writeBuf (p :: ps) flags a = writeBuf ps flags a := by simp [writeBuf, he]
      rw [hw]
      simp only [readBuf, he]
      exact ih

theorem removeNth_eq_extract {α : Type} (l : List α) : ∀ i, removeNth i l = extract i l := by
  induction l with
  | nil => intro i; cases i <;> rfl
  | cons a l ih =>
    intro i
    cases i with
    | zero => rfl
    | succ n =>
      simp only [removeNth, extract, ih n]
      cases extract n l <;> rfl

theorem removeNth_spec {α : Type} (l : List α) (i : Nat) (m : α) (r : List α) (h : removeNth i l = some (m, r)) :
    l.length = r.length + 1 ∧ m ∈ l ∧ ∀ x ∈ r, x ∈ l := by
  obtain ⟨b, h1, h2⟩ := extract_split_take l i m r (removeNth_eq_extract l i ▸ h)
  rw [h2]
  refine ⟨?_, ?_, fun x hx => ?_⟩
  · conv => lhs; rw [h1]
    simp only [List.length_append, List.length_cons]; omega
  · rw [h1]; exact List.mem_append_right _ List.mem_cons_self
  · rw [h1]
    rcases List.mem_append.mp hx with hx | hx
    · exact List.mem_append_left _ hx
    · exact List.mem_append_right _ (List.mem_cons_of_mem _ hx)

/-- invariant of the hand-over: every spawn is either still waiting for its thread or was consumed by exactly one thread;
    one buffer freed per thread that ran; every pending buffer is what `writeBuf` produced for its flags; with equal plans
    every thread that ran read back a well-formed buffer with nothing left over -/
structure HInv (plan : List PStep) (s : HSt) : Prop where
  count : s.spawned.length = s.started.length + s.ran.length
  freed : s.freed = s.ran.length
  wf : ∀ fb ∈ s.started, ∃ a, fb.2 = writeBuf plan fb.1 a
  ok : ∀ r ∈ s.ran, ∃ got, r = some (got, [])

theorem hinv_init (plan : List PStep) : HInv plan {} :=
  ⟨rfl, rfl, fun fb hfb => by simp at hfb, fun r hr => by simp at hr⟩

theorem hstep_inv (plan : List PStep) (s : HSt) (a : HAct) (h : HInv plan s) : HInv plan (hstep plan plan s a) := by
  cases a with
  | spawn flags a =>
    refine ⟨by simp [hstep, h.count]; omega, h.freed, ?_, h.ok⟩
    intro fb hfb
    simp only [hstep, List.mem_append, List.mem_singleton] at hfb
    rcases hfb with hfb | rfl
    · exact h.wf fb hfb
    · exact ⟨mkArgs a, rfl⟩
  | run i =>
    simp only [hstep]
    cases hx : removeNth i s.started with
    | none => exact h
    | some mr =>
      obtain ⟨⟨flags, b⟩, rest⟩ := mr
      obtain ⟨hl, hm, hr⟩ := removeNth_spec s.started i (flags, b) rest hx
      obtain ⟨a, ha⟩ := h.wf (flags, b) hm
      simp only at ha
      refine ⟨by simp [h.count, hl]; omega, by simp [h.freed], fun fb hfb => h.wf fb (hr fb hfb), ?_⟩
      intro r hr'
      simp only [List.mem_append, List.mem_singleton] at hr'
      rcases hr' with hr' | rfl
      · exact h.ok r hr'
      · have := read_write plan flags a []
        simp only [List.append_nil] at this
        exact ⟨writeBuf plan flags a, by rw [ha, this]⟩

theorem hrun_inv (plan : List PStep) : ∀ (acts : List HAct) (s : HSt), HInv plan s → HInv plan (hrun plan plan acts s) :=
  Util.foldl_inv (hstep_inv plan)

end JanetModel.Thread.Spawn

namespace JanetModel.Thread

def TInv (s : TSt) : Prop :=
  (s.posted = true → s.bodyDone = true) ∧ (s.callerResumed = true → s.posted = true) ∧ s.resumedAfterBody = true

theorem tstep_inv (cfg : TCfg) (hc : cfg.completionAfterBody = true) (s : TSt) (a : TAct) (h : TInv s) : TInv (tstep cfg s a) := by
  obtain ⟨h1, h2, h3⟩ := h
  cases a <;> simp only [tstep, hc] <;> (repeat' split) <;> simp_all [TInv]

end JanetModel.Thread
