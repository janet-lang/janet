/- C08 - the REQUEUE branch of janet_thread_chan_cb (stale read message, no other reader pending: the still packed item goes
   back into `channel->items`).  The hand-out order is the give order again after the step exactly when the item is put back at
   the FRONT (`janet_q_push_head`, `Cfg.requeueHead`): when the item was handed to the (stale) reader the queue was empty
   (a pending reader excludes queued items), so everything that is in the queue at the time of the requeue was given LATER.
   `handed` is the ghost log of dispatches; the dispatch that was returned is discounted (`handed := h1`). -/
import JanetModel.Thread.Lemmas

namespace JanetModel.Thread

theorem cb_requeue (cfg : Cfg) (s : St) (m : Msg) (x : Item) (hk : m.kind = .read x) (hc : cfg.checkSched = true)
    (hd : cfg.redispatch = true) (hq : cfg.requeue = true) (hst : s.sched m.fiber ≠ m.sched) (hr : s.readers = []) :
    cb cfg s m = { s with items := if cfg.requeueHead then x :: s.items else s.items ++ [x], staleReads := s.staleReads + 1 } := by
  have h := (cb_spec cfg s m).stale (fun ha => ha.elim (by simp [hc]) hst)
  generalize cb cfg s m = s' at h
  cases h with
  | ignore hi => simp [Msg.item, hk] at hi
  | forwardRead _ _ _ _ _ hr' => rw [hr] at hr'; cases hr'
  | requeue x' hk' => rw [hk] at hk'; cases hk'; rfl
  | lose _ _ hn => exact absurd ((hn hd).2 ▸ hq) (by decide)
  | forwardWrite _ _ hk' => rw [hk] at hk'; cases hk'

/-- the state just before the stale hand-off of `x` comes back: `x` is the LAST item that left the channel (nothing given
    after it has been taken or dispatched yet) and everything given after it is still queued, in give order; `h1` is the
    hand-out log without the returned dispatch -/
structure ReturnPoint (s : St) (f : Nat) (x : Item) (h1 : List (Nat × Item)) : Prop where
  noReader : s.readers = []
  last : s.handed = h1 ++ [(f, x)]
  order : h1.map Prod.snd ++ x :: s.items = s.sent

theorem requeue_restores_fifo (cfg : Cfg) (hc : cfg.checkSched = true) (hd : cfg.redispatch = true) (hq : cfg.requeue = true)
    (hh : cfg.requeueHead = true) (s : St) (m : Msg) (x : Item) (h1 : List (Nat × Item)) (hk : m.kind = .read x)
    (hst : s.sched m.fiber ≠ m.sched) (hp : ReturnPoint s m.fiber x h1) :
    Fifo { cb cfg s m with handed := h1 } := by
  rw [cb_requeue cfg s m x hk hc hd hq hst hp.noReader]
  unfold Fifo
  simp only [hh, if_true]
  exact ⟨Or.inl hp.noReader, hp.order⟩

end JanetModel.Thread
