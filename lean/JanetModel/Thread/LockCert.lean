/- C08 - path-level certificate of the lock discipline of the threaded-channel functions of ev.c.

   `tools/gen/threadlock.py` parses the body of every function that takes / releases the channel mutex into the statement
   tree `LS` below (Gen/ThreadLock.lean, regenerated on every run): lock = `janet_chan_lock`, unlock = `janet_chan_unlock`,
   access = a statement that reads or writes the channel's queues / `closed` / `limit`, callRel = a call of
   `janet_channel_push_with_lock` / `janet_channel_pop_with_lock` (contract: entered with the lock held, the lock is released
   on every way out, including a panic), ret = `return`, panic = `janet_panic*` / `janet_await` (leaves the function);
   `acc` of `ite` / `loop`: the condition reads those fields.

   `Run` is the path semantics (every branch may be taken, a loop runs any number of times); `chk` is a one-pass checker
   over the lock state; `chk_sound` / `accepts_sound`: if `chk` accepts a function then EVERY path through
   it ends with the lock released, never locks a held lock, never unlocks / accesses the queues without holding it, and the
   number of releases on the path equals the number of acquisitions (+1 if the function is entered with the lock held). -/
namespace JanetModel.Thread.LockCert

inductive LS
  | skip | lock | unlock | access | callRel | ret | panic | brk | cont
  | seq (a b : LS)
  | ite (acc : Bool) (t e : LS)
  | loop (acc : Bool) (body : LS)
  deriving Repr, DecidableEq

structure LSt where
  held : Bool
  acq : Nat := 0
  rel : Nat := 0
  deriving Repr, DecidableEq

inductive Out
  | fall (s : LSt) | brk (s : LSt) | cont (s : LSt) | exit (s : LSt) | fault
  deriving Repr, DecidableEq

def Out.isFall : Out → Bool
  | .fall _ => true
  | _ => false

def acquire (s : LSt) : LSt := { s with held := true, acq := s.acq + 1 }
def release (s : LSt) : LSt := { s with held := false, rel := s.rel + 1 }

/-- path semantics: `Run p s o` - some path through `p` started in lock state `s` ends in outcome `o` -/
inductive Run : LS → LSt → Out → Prop
  | skip (s) : Run .skip s (.fall s)
  | lock_ok (s) : s.held = false → Run .lock s (.fall (acquire s))
  | lock_bad (s) : s.held = true → Run .lock s .fault
  | unlock_ok (s) : s.held = true → Run .unlock s (.fall (release s))
  | unlock_bad (s) : s.held = false → Run .unlock s .fault
  | access_ok (s) : s.held = true → Run .access s (.fall s)
  | access_bad (s) : s.held = false → Run .access s .fault
  | call_ok (s) : s.held = true → Run .callRel s (.fall (release s))
  | call_panic (s) : s.held = true → Run .callRel s (.exit (release s))
  | call_bad (s) : s.held = false → Run .callRel s .fault
  | ret (s) : Run .ret s (.exit s)
  | panic (s) : Run .panic s (.exit s)
  | brk (s) : Run .brk s (.brk s)
  | cont (s) : Run .cont s (.cont s)
  | seq_fall (a b s s1 o) : Run a s (.fall s1) → Run b s1 o → Run (.seq a b) s o
  | seq_stop (a b s o) : Run a s o → o.isFall = false → Run (.seq a b) s o
  | ite_bad (acc t e s) : acc = true → s.held = false → Run (.ite acc t e) s .fault
  | ite_t (acc t e s o) : (acc = true → s.held = true) → Run t s o → Run (.ite acc t e) s o
  | ite_e (acc t e s o) : (acc = true → s.held = true) → Run e s o → Run (.ite acc t e) s o
  | loop_bad (acc body s) : acc = true → s.held = false → Run (.loop acc body) s .fault
  | loop_done (acc body s) : (acc = true → s.held = true) → Run (.loop acc body) s (.fall s)
  | loop_next (acc body s s1 o) : (acc = true → s.held = true) → Run body s (.fall s1) → Run (.loop acc body) s1 o →
      Run (.loop acc body) s o
  | loop_cont (acc body s s1 o) : (acc = true → s.held = true) → Run body s (.cont s1) → Run (.loop acc body) s1 o →
      Run (.loop acc body) s o
  | loop_brk (acc body s s1) : (acc = true → s.held = true) → Run body s (.brk s1) → Run (.loop acc body) s (.fall s1)
  | loop_exit (acc body s s1) : (acc = true → s.held = true) → Run body s (.exit s1) → Run (.loop acc body) s (.exit s1)
  | loop_fault (acc body s) : (acc = true → s.held = true) → Run body s .fault → Run (.loop acc body) s .fault

/-- join of the fall-through states of two branches: they must agree -/
def join : Option Bool → Option Bool → Option (Option Bool)
  | none, r => some r
  | r, none => some r
  | some a, some b => if a = b then some (some a) else none

/-- `chk p h lh`: `none` = discipline violated on some path; `some none` = accepted, no path falls through;
    `some (some h')` = accepted, every path that falls through does so in lock state `h'`.
    `h` = lock state at entry, `lh` = lock state required at `break` / `continue` (that of the enclosing loop's entry). -/
def chk : LS → Bool → Option Bool → Option (Option Bool)
  | .skip, h, _ => some (some h)
  | .lock, h, _ => if h then none else some (some true)
  | .unlock, h, _ => if h then some (some false) else none
  | .access, h, _ => if h then some (some true) else none
  | .callRel, h, _ => if h then some (some false) else none
  | .ret, h, _ => if h then none else some none
  | .panic, h, _ => if h then none else some none
  | .brk, h, lh => if lh = some h then some none else none
  | .cont, h, lh => if lh = some h then some none else none
  | .seq a b, h, lh =>
    match chk a h lh with
    | none => none
    | some none => some none
    | some (some h1) => chk b h1 lh
  | .ite acc t e, h, lh =>
    if acc && !h then none
    else match chk t h lh, chk e h lh with
      | some r1, some r2 => join r1 r2
      | _, _ => none
  | .loop acc body, h, _ =>
    if acc && !h then none
    else match chk body h (some h) with
      | none => none
      | some none => some (some h)
      | some (some h1) => if h1 = h then some (some h) else none

theorem join_left {r1 r2 : Option Bool} {r : Option Bool} {a : Bool} (h : join r1 r2 = some r) (h1 : r1 = some a) : r = some a := by
  subst h1
  cases r2 with
  | none => simp [join] at h; exact h.symm
  | some b =>
    simp only [join] at h
    split at h
    · simp at h; exact h.symm
    · cases h

theorem join_right {r1 r2 : Option Bool} {r : Option Bool} {a : Bool} (h : join r1 r2 = some r) (h2 : r2 = some a) : r = some a := by
  subst h2
  cases r1 with
  | none => simp [join] at h; exact h.symm
  | some b =>
    simp only [join] at h
    split at h
    · rename_i hab; simp at h; rw [← h, hab]
    · cases h

theorem chk_seq {a b : LS} {h : Bool} {lh r : Option Bool} (hc : chk (.seq a b) h lh = some r) :
    ∃ ra, chk a h lh = some ra ∧ ∀ h1, ra = some h1 → chk b h1 lh = some r := by
  simp only [chk] at hc
  cases ha : chk a h lh with
  | none => simp [ha] at hc
  | some ra =>
    refine ⟨ra, rfl, ?_⟩
    rintro h1 rfl
    simpa only [ha] using hc

theorem chk_ite {acc : Bool} {t e : LS} {h : Bool} {lh r : Option Bool} (hc : chk (.ite acc t e) h lh = some r) :
    (acc = true → h = true) ∧ ∃ r1 r2, chk t h lh = some r1 ∧ chk e h lh = some r2 ∧ join r1 r2 = some r := by
  simp only [chk] at hc
  split at hc
  · cases hc
  · rename_i hg
    refine ⟨fun ha => by simpa [ha] using hg, ?_⟩
    cases ht : chk t h lh with
    | none => simp [ht] at hc
    | some r1 =>
      cases he : chk e h lh with
      | none => simp [ht, he] at hc
      | some r2 => exact ⟨r1, r2, rfl, rfl, by simpa only [ht, he] using hc⟩

/-- an accepted loop: the body is accepted with the entry state required at `break` / `continue`, falls through (if at all)
    in the entry state, and so does the loop -/
theorem chk_loop {acc : Bool} {body : LS} {h : Bool} {lh r : Option Bool} (hc : chk (.loop acc body) h lh = some r) :
    (acc = true → h = true) ∧ r = some h ∧ ∃ rb, chk body h (some h) = some rb ∧ ∀ h1, rb = some h1 → h1 = h := by
  simp only [chk] at hc
  split at hc
  · cases hc
  · rename_i hg
    refine ⟨fun ha => by simpa [ha] using hg, ?_⟩
    cases hb : chk body h (some h) with
    | none => simp [hb] at hc
    | some rb =>
      cases rb with
      | none =>
        simp only [hb, Option.some.injEq] at hc
        exact ⟨hc.symm, none, rfl, fun _ e => nomatch e⟩
      | some h1 =>
        simp only [hb] at hc
        split at hc
        · rename_i e
          simp only [Option.some.injEq] at hc
          exact ⟨hc.symm, _, rfl, fun _ e' => (Option.some.inj e') ▸ e⟩
        · cases hc

/-- what an accepted program guarantees about one outcome -/
def Good (lh : Option Bool) (r : Option Bool) : Out → Prop
  | .fall s' => r = some s'.held
  | .brk s' => lh = some s'.held
  | .cont s' => lh = some s'.held
  | .exit s' => s'.held = false
  | .fault => False

theorem Good.of_not_fall {lh r r' : Option Bool} {o : Out} (g : Good lh r o) (hnf : o.isFall = false) : Good lh r' o := by
  cases o with
  | fall s' => cases hnf
  | brk s' | cont s' | exit s' | fault => exact g

theorem Good.join {lh r1 r2 r : Option Bool} {o : Out} (hj : join r1 r2 = some r) (g : Good lh r1 o ∨ Good lh r2 o) : Good lh r o := by
  cases o with
  | fall s' => exact g.elim (join_left hj) (join_right hj)
  | brk s' | cont s' | exit s' | fault => exact g.elim id id

theorem chk_sound {p : LS} {s : LSt} {o : Out} (hr : Run p s o) :
    ∀ (lh r : Option Bool), chk p s.held lh = some r → Good lh r o := by
  induction hr with
  | skip s => intro lh r h; simp [chk] at h; simp [Good, h]
  | lock_ok s hs => intro lh r h; simp [chk, hs] at h; simp [Good, acquire, h]
  | unlock_ok s hs | call_ok s hs => intro lh r h; simp [chk, hs] at h; simp [Good, release, h]
  | access_ok s hs => intro lh r h; simp [chk, hs] at h; simp [Good, hs, h]
  | lock_bad s hs | unlock_bad s hs | access_bad s hs | call_bad s hs => intro lh r h; simp [chk, hs] at h
  | call_panic s hs => intro lh r h; simp [Good, release]
  | ret s | panic s =>
    intro lh r h
    cases hh : s.held with
    | true => simp [chk, hh] at h
    | false => simp [Good, hh]
  | brk s | cont s =>
    intro lh r h
    simp only [chk] at h
    split at h
    · rename_i hl; simp [Good, hl]
    · cases h
  | seq_fall a b s s1 o _ _ iha ihb =>
    intro lh r h
    obtain ⟨ra, ha, hb⟩ := chk_seq h
    exact ihb lh r (hb s1.held (iha lh ra ha))
  | seq_stop a b s o _ hnf iha =>
    intro lh r h
    obtain ⟨ra, ha, -⟩ := chk_seq h
    exact (iha lh ra ha).of_not_fall hnf
  | ite_bad acc t e s ha hs => intro lh r h; exact absurd ((chk_ite h).1 ha) (by simp [hs])
  | ite_t acc t e s o hacc _ ih =>
    intro lh r h
    obtain ⟨-, r1, r2, ht, -, hj⟩ := chk_ite h
    exact Good.join hj (Or.inl (ih lh r1 ht))
  | ite_e acc t e s o hacc _ ih =>
    intro lh r h
    obtain ⟨-, r1, r2, -, he, hj⟩ := chk_ite h
    exact Good.join hj (Or.inr (ih lh r2 he))
  | loop_bad acc body s ha hs => intro lh r h; exact absurd ((chk_loop h).1 ha) (by simp [hs])
  | loop_done acc body s hacc => intro lh r h; exact (chk_loop h).2.1
  | loop_next acc body s s1 o hacc _ _ ihb ihl =>
    intro lh r h
    obtain ⟨-, -, rb, hb, hfall⟩ := chk_loop h
    rw [← hfall s1.held (ihb (some s.held) rb hb)] at h
    exact ihl lh r h
  | loop_cont acc body s s1 o hacc _ _ ihb ihl =>
    intro lh r h
    obtain ⟨-, -, rb, hb, -⟩ := chk_loop h
    rw [Option.some.inj (ihb (some s.held) rb hb)] at h
    exact ihl lh r h
  | loop_brk acc body s s1 hacc _ ihb =>
    intro lh r h
    obtain ⟨-, hr, rb, hb, -⟩ := chk_loop h
    exact hr.trans (ihb (some s.held) rb hb)
  | loop_exit acc body s s1 hacc _ ihb =>
    intro lh r h
    obtain ⟨-, -, rb, hb, -⟩ := chk_loop h
    exact ihb (some s.held) rb hb
  | loop_fault acc body s hacc _ ihb =>
    intro lh r h
    obtain ⟨-, -, rb, hb, -⟩ := chk_loop h
    exact ihb (some s.held) rb hb

def b2n (b : Bool) : Nat := if b then 1 else 0

def Out.st : Out → Option LSt
  | .fall s => some s | .brk s => some s | .cont s => some s | .exit s => some s | .fault => none

/-- along every fault-free path: acquisitions + (held at start) = releases + (held at the end) -/
theorem run_counts {p : LS} {s : LSt} {o : Out} (hr : Run p s o) :
    ∀ s', o.st = some s' → s'.acq + b2n s.held + s.rel = s'.rel + b2n s'.held + s.acq := by
  induction hr with
  | skip s => intro s' h; simp [Out.st] at h; subst h; omega
  | lock_ok s hs => intro s' h; simp [Out.st] at h; subst h; simp [acquire, hs, b2n]; omega
  | lock_bad s hs => intro s' h; simp [Out.st] at h
  | unlock_ok s hs => intro s' h; simp [Out.st] at h; subst h; simp [release, hs, b2n]; omega
  | unlock_bad s hs => intro s' h; simp [Out.st] at h
  | access_ok s hs => intro s' h; simp [Out.st] at h; subst h; omega
  | access_bad s hs => intro s' h; simp [Out.st] at h
  | call_ok s hs => intro s' h; simp [Out.st] at h; subst h; simp [release, hs, b2n]; omega
  | call_panic s hs => intro s' h; simp [Out.st] at h; subst h; simp [release, hs, b2n]; omega
  | call_bad s hs => intro s' h; simp [Out.st] at h
  | ret s => intro s' h; simp [Out.st] at h; subst h; omega
  | panic s => intro s' h; simp [Out.st] at h; subst h; omega
  | brk s => intro s' h; simp [Out.st] at h; subst h; omega
  | cont s => intro s' h; simp [Out.st] at h; subst h; omega
  | seq_fall a b s s1 o _ _ iha ihb =>
    intro s' h
    have e1 := iha s1 rfl
    have e2 := ihb s' h
    omega
  | seq_stop a b s o _ _ iha => intro s' h; exact iha s' h
  | ite_bad acc t e s _ _ => intro s' h; simp [Out.st] at h
  | ite_t acc t e s o _ _ ih => intro s' h; exact ih s' h
  | ite_e acc t e s o _ _ ih => intro s' h; exact ih s' h
  | loop_bad acc body s _ _ => intro s' h; simp [Out.st] at h
  | loop_done acc body s _ => intro s' h; simp [Out.st] at h; subst h; omega
  | loop_next acc body s s1 o _ _ _ ihb ihl =>
    intro s' h
    have e1 := ihb s1 rfl
    have e2 := ihl s' h
    omega
  | loop_cont acc body s s1 o _ _ _ ihb ihl =>
    intro s' h
    have e1 := ihb s1 rfl
    have e2 := ihl s' h
    omega
  | loop_brk acc body s s1 _ _ ihb =>
    intro s' h
    simp [Out.st] at h; subst h
    exact ihb s1 rfl
  | loop_exit acc body s s1 _ _ ihb =>
    intro s' h
    simp [Out.st] at h; subst h
    exact ihb s1 rfl
  | loop_fault acc body s _ _ _ => intro s' h; simp [Out.st] at h

/-- a whole function: body followed by the implicit `return` at its end; accepted iff no path falls off the checker -/
def accepts (pre : Bool) (body : LS) : Bool := chk (.seq body .ret) pre none == some none

theorem accepts_sound (pre : Bool) (body : LS) (hacc : accepts pre body = true) (o : Out)
    (hr : Run (.seq body .ret) { held := pre } o) :
    ∃ s', o = .exit s' ∧ s'.held = false ∧ s'.rel = s'.acq + b2n pre := by
  have hc : chk (.seq body .ret) pre none = some none := by simpa [accepts] using hacc
  have g := chk_sound hr none none hc
  cases o with
  | fall s' | brk s' | cont s' | fault => simp [Good] at g
  | exit s' =>
    have hh : s'.held = false := g
    have hcnt := run_counts hr s' rfl
    refine ⟨s', rfl, hh, ?_⟩
    simp only [hh, b2n] at hcnt ⊢
    simp at hcnt
    omega

end JanetModel.Thread.LockCert
