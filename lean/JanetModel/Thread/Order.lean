/- C08 - from hand-out order to resume order: executions without abandoned waits.
   `InvA` (`TOK` of the state's tickets): every pending entry, pipe message and queued task is a claim ("ticket") on the next
   resumption of its fiber; a fiber holds at most one, only while it waits, and it carries the fiber's current `sched_id`.
   `InvO`: per receiving fiber, what it got ++ what is queued / in flight for it = what was handed to it, in order. -/
import JanetModel.Thread.Lemmas

namespace JanetModel.Thread

abbrev Ticket := Nat × Nat

def Pending.tk (p : Pending) : Ticket := (p.fiber, p.sched)
def Msg.tk (m : Msg) : Ticket := (m.fiber, m.sched)
def Task.tk (t : Task) : Ticket := (t.fiber, t.sched)

def ticketsOf (R W : List Pending) (F : List Msg) (Q : List Task) : List Ticket :=
  R.map Pending.tk ++ W.map Pending.tk ++ F.map Msg.tk ++ Q.map Task.tk

def tickets (s : St) : List Ticket := ticketsOf s.readers s.writers s.flight s.runq

structure TOK (tks : List Ticket) (w : Nat → Bool) (g : Nat → Nat) : Prop where
  cnt : ∀ f, tks.countP (fun tk => tk.1 == f) ≤ if w f = true then 1 else 0
  cur : ∀ tk ∈ tks, tk.2 = g tk.1

def InvA (s : St) : Prop := TOK (tickets s) s.waiting s.sched

theorem bump_self (g : Nat → Nat) (f : Nat) : bump g f f = g f + 1 := by simp [bump]
theorem bump_ne (g : Nat → Nat) (f h : Nat) (hne : h ≠ f) : bump g f h = g h := by simp [bump, hne]
theorem setb_self (w : Nat → Bool) (f : Nat) (b : Bool) : setb w f b f = b := by simp [setb]
theorem setb_ne (w : Nat → Bool) (f h : Nat) (b : Bool) (hne : h ≠ f) : setb w f b h = w h := by simp [setb, hne]

theorem TOK.perm {tks tks' : List Ticket} {w : Nat → Bool} {g : Nat → Nat} (h : TOK tks w g) (p : tks'.Perm tks) :
    TOK tks' w g :=
  ⟨fun f => by rw [p.countP_eq]; exact h.cnt f, fun tk htk => h.cur tk (p.mem_iff.mp htk)⟩

theorem TOK.waiting_of_mem {tks : List Ticket} {w : Nat → Bool} {g : Nat → Nat} (h : TOK tks w g) (tk : Ticket) (htk : tk ∈ tks) :
    w tk.1 = true := by
  have h1 := h.cnt tk.1
  have h2 : 0 < tks.countP (fun t => t.1 == tk.1) := List.countP_pos_iff.mpr ⟨tk, htk, by simp⟩
  by_cases hw : w tk.1 = true
  · exact hw
  · rw [if_neg hw] at h1; omega

theorem TOK.none_of_running {tks : List Ticket} {w : Nat → Bool} {g : Nat → Nat} (h : TOK tks w g) (f : Nat) (hw : w f = false) :
    ∀ tk ∈ tks, tk.1 ≠ f := by
  intro tk htk hf
  have := h.waiting_of_mem tk htk
  rw [hf, hw] at this; cases this

theorem TOK.head_unique {f c : Nat} {tks : List Ticket} {w : Nat → Bool} {g : Nat → Nat} (h : TOK ((f, c) :: tks) w g) :
    ∀ tk ∈ tks, tk.1 ≠ f := by
  intro tk htk hf
  have h1 := h.cnt f
  have h2 : 0 < tks.countP (fun t => t.1 == f) := List.countP_pos_iff.mpr ⟨tk, htk, by simp [hf]⟩
  simp at h1
  split at h1 <;> omega

/-- a running fiber starts to wait with a ticket carrying its current sched_id (pending read / parked give) -/
theorem TOK.add {tks : List Ticket} {w : Nat → Bool} {g : Nat → Nat} (h : TOK tks w g) (f : Nat) (hw : w f = false) :
    TOK ((f, g f) :: tks) (setb w f true) g := by
  have hn := h.none_of_running f hw
  refine ⟨fun r => ?_, fun tk htk => ?_⟩
  · by_cases hr : r = f
    · subst hr
      have : tks.countP (fun tk => tk.1 == r) = 0 := List.countP_eq_zero.mpr (fun tk htk => by simpa using hn tk htk)
      simp [this, setb]
    · have h1 := h.cnt r
      have hfr : ¬ f = r := fun e => hr e.symm
      simpa [List.countP_cons, setb, hr, hfr] using h1
  · rcases List.mem_cons.mp htk with rfl | htk
    · rfl
    · exact h.cur tk htk

/-- the head ticket's fiber is scheduled (janet_schedule bumps its sched_id): the ticket moves on with the new id -/
theorem TOK.rebump {f c : Nat} {tks : List Ticket} {w : Nat → Bool} {g : Nat → Nat} (h : TOK ((f, c) :: tks) w g) :
    TOK ((f, g f + 1) :: tks) w (bump g f) := by
  have hu := h.head_unique
  refine ⟨fun r => by simpa [List.countP_cons] using h.cnt r, fun tk htk => ?_⟩
  rcases List.mem_cons.mp htk with rfl | htk
  · simp [bump]
  · rw [bump_ne _ _ _ (hu tk htk)]; exact h.cur tk (List.mem_cons_of_mem _ htk)

/-- a running fiber schedules itself (direct take / take on a closed channel) and waits: ticket with the bumped sched_id -/
theorem TOK.add_bumped {tks : List Ticket} {w : Nat → Bool} {g : Nat → Nat} (h : TOK tks w g) (f : Nat) (hw : w f = false) :
    TOK ((f, g f + 1) :: tks) (setb w f true) (bump g f) :=
  (h.add f hw).rebump

/-- the head ticket is redeemed: its fiber runs again -/
theorem TOK.remove {f c : Nat} {tks : List Ticket} {w : Nat → Bool} {g : Nat → Nat} (h : TOK ((f, c) :: tks) w g) :
    TOK tks (setb w f false) g := by
  have hu := h.head_unique
  refine ⟨fun r => ?_, fun tk htk => h.cur tk (List.mem_cons_of_mem _ htk)⟩
  by_cases hr : r = f
  · subst hr
    have : tks.countP (fun tk => tk.1 == r) = 0 := List.countP_eq_zero.mpr (fun tk htk => by simpa using hu tk htk)
    simp [this]
  · have h1 := h.cnt r
    have hfr : ¬ f = r := fun e => hr e.symm
    simpa [List.countP_cons, setb, hr, hfr] using h1

theorem TOK.bump_free {tks : List Ticket} {w : Nat → Bool} {g : Nat → Nat} (h : TOK tks w g) (f : Nat) (hw : w f = false) :
    TOK tks w (bump g f) := by
  have hn := h.none_of_running f hw
  exact ⟨h.cnt, fun tk htk => by rw [bump_ne _ _ _ (hn tk htk)]; exact h.cur tk htk⟩

theorem TOK.head_cur {f c : Nat} {tks : List Ticket} {w : Nat → Bool} {g : Nat → Nat} (h : TOK ((f, c) :: tks) w g) : c = g f :=
  h.cur (f, c) (List.mem_cons_self)

section
variable (R W : List Pending) (F : List Msg) (Q : List Task)

theorem ticketsOf_congr {R R' W W' : List Pending} {F F' : List Msg} {Q Q' : List Task} (hR : R.Perm R') (hW : W.Perm W')
    (hF : F.Perm F') (hQ : Q.Perm Q') : (ticketsOf R W F Q).Perm (ticketsOf R' W' F' Q') :=
  (((hR.map _).append (hW.map _)).append (hF.map _)).append (hQ.map _)

theorem ticketsOf_writer_cons (p : Pending) : (ticketsOf R (p :: W) F Q).Perm (p.tk :: ticketsOf R W F Q) := by
  simpa only [ticketsOf, List.map_cons, List.append_assoc, List.cons_append] using
    List.perm_middle (a := p.tk) (l₁ := R.map Pending.tk) (l₂ := W.map Pending.tk ++ (F.map Msg.tk ++ Q.map Task.tk))

theorem ticketsOf_flight_cons (m : Msg) : (ticketsOf R W (m :: F) Q).Perm (m.tk :: ticketsOf R W F Q) := by
  simpa only [ticketsOf, List.map_cons, List.append_assoc, List.cons_append] using
    List.perm_middle (a := m.tk) (l₁ := R.map Pending.tk ++ W.map Pending.tk) (l₂ := F.map Msg.tk ++ Q.map Task.tk)

theorem ticketsOf_runq_cons (k : Task) : (ticketsOf R W F (k :: Q)).Perm (k.tk :: ticketsOf R W F Q) := by
  simpa only [ticketsOf, List.map_cons, List.append_assoc, List.cons_append] using
    List.perm_middle (a := k.tk) (l₁ := R.map Pending.tk ++ W.map Pending.tk ++ F.map Msg.tk) (l₂ := Q.map Task.tk)

theorem ticketsOf_reader_snoc (p : Pending) : (ticketsOf (R ++ [p]) W F Q).Perm (p.tk :: ticketsOf R W F Q) :=
  ticketsOf_congr (List.perm_append_singleton p R) (.refl W) (.refl F) (.refl Q)

theorem ticketsOf_writer_snoc (p : Pending) : (ticketsOf R (W ++ [p]) F Q).Perm (p.tk :: ticketsOf R W F Q) :=
  (ticketsOf_congr (.refl R) (List.perm_append_singleton p W) (.refl F) (.refl Q)).trans (ticketsOf_writer_cons R W F Q p)

theorem ticketsOf_flight_snoc (m : Msg) : (ticketsOf R W (F ++ [m]) Q).Perm (m.tk :: ticketsOf R W F Q) :=
  (ticketsOf_congr (.refl R) (.refl W) (List.perm_append_singleton m F) (.refl Q)).trans (ticketsOf_flight_cons R W F Q m)

theorem ticketsOf_runq_snoc (k : Task) : (ticketsOf R W F (Q ++ [k])).Perm (k.tk :: ticketsOf R W F Q) :=
  (ticketsOf_congr (.refl R) (.refl W) (.refl F) (List.perm_append_singleton k Q)).trans (ticketsOf_runq_cons R W F Q k)

theorem ticketsOf_flight_mid (a b : List Msg) (m : Msg) : (ticketsOf R W (a ++ m :: b) Q).Perm (m.tk :: ticketsOf R W (a ++ b) Q) :=
  (ticketsOf_congr (.refl R) (.refl W) List.perm_middle (.refl Q)).trans (ticketsOf_flight_cons R W (a ++ b) Q m)

theorem ticketsOf_runq_mid (a b : List Task) (k : Task) : (ticketsOf R W F (a ++ k :: b)).Perm (k.tk :: ticketsOf R W F (a ++ b)) :=
  (ticketsOf_congr (.refl R) (.refl W) (.refl F) List.perm_middle).trans (ticketsOf_runq_cons R W F (a ++ b) k)

end

theorem InvA.reader_head {s : St} (h : InvA s) {r : Pending} {rs : List Pending} (hr : s.readers = r :: rs) :
    TOK (r.tk :: tickets { s with readers := rs }) s.waiting s.sched := by
  rw [InvA, tickets, hr] at h
  exact h

theorem InvA.writer_head {s : St} (h : InvA s) {w : Pending} {ws : List Pending} (hw : s.writers = w :: ws) :
    TOK (w.tk :: tickets { s with writers := ws }) s.waiting s.sched := by
  rw [InvA, tickets, hw] at h
  exact h.perm (ticketsOf_writer_cons ..).symm

theorem InvA.flight_mid {s : St} (h : InvA s) {a b : List Msg} {m : Msg} (hfl : s.flight = a ++ m :: b) :
    TOK (m.tk :: tickets { s with flight := a ++ b }) s.waiting s.sched := by
  rw [InvA, tickets, hfl] at h
  exact h.perm (ticketsOf_flight_mid ..).symm

theorem InvA.runq_mid {s : St} (h : InvA s) {a b : List Task} {k : Task} (hrq : s.runq = a ++ k :: b) :
    TOK (k.tk :: tickets { s with runq := a ++ b }) s.waiting s.sched := by
  rw [InvA, tickets, hrq] at h
  exact h.perm (ticketsOf_runq_mid ..).symm

theorem closeMsgs_append (t : Nat) (a b : List Pending) : closeMsgs t (a ++ b) = closeMsgs t a ++ closeMsgs t b := by
  induction a with
  | nil => rfl
  | cons p ps ih =>
    simp only [List.cons_append, closeMsgs]
    split <;> simp [ih]

/-- cfun_channel_close on a list of pending entries whose tickets are in order: every entry turns into exactly one close
    message (other thread) or one queued wake-up carrying the bumped sched_id (closing thread) -/
theorem closeLocal_tok (t : Nat) (w : Nat → Bool) : ∀ (ps : List Pending) (g : Nat → Nat) (rest : List Ticket),
    TOK (ps.map Pending.tk ++ rest) w g →
    TOK ((closeMsgs t ps).map Msg.tk ++ ((closeLocal t g ps).2.2.map Task.tk ++ rest)) w (closeLocal t g ps).1 := by
  intro ps
  induction ps with
  | nil => intro g rest h; exact h
  | cons p ps ih =>
    intro g rest h
    have h' : TOK ((p.fiber, p.sched) :: (ps.map Pending.tk ++ rest)) w g := h
    have hcur : p.sched = g p.fiber := h'.head_cur
    by_cases ht : p.thread = t
    · simp only [closeMsgs, closeLocal, ht, hcur, and_self, if_true]
      have h4 := ih (bump g p.fiber) ((p.fiber, g p.fiber + 1) :: rest) (h'.rebump.perm List.perm_middle)
      exact h4.perm (List.Perm.append_left _ List.perm_middle.symm)
    · simp only [closeMsgs, closeLocal, ht, false_and, if_false]
      have h4 := ih g ((p.fiber, p.sched) :: rest) (h'.perm List.perm_middle)
      exact h4.perm ((List.Perm.append_left _ List.perm_middle).trans List.perm_middle).symm

theorem CbOut.invA {cfg : Cfg} {s s' : St} {m : Msg} (hs : CbOut cfg s m s') (h : TOK (m.tk :: tickets s) s.waiting s.sched) :
    InvA s' ∧ s'.staleReads = s.staleReads := by
  have hacc : Accepts cfg s m := Or.inr h.head_cur.symm
  cases hs.acc hacc <;> exact ⟨h.rebump.perm (ticketsOf_runq_snoc ..), rfl⟩

/-- a step that is not an abandoned wait keeps the tickets in order; with them in order it finds no message stale and
    janet_loop1 skips no task -/
theorem StepOut.invA {cfg : Cfg} {s s' : St} (h : StepOut cfg s s') (hz : s'.abandons = s.abandons) (ha : InvA s) :
    InvA s' ∧ s'.staleReads = s.staleReads ∧ s'.dropped = s.dropped := by
  cases h with
  | idle | giveQueue => exact ⟨ha, rfl, rfl⟩
  | giveDispatch f x r rs _ hr => exact ⟨(ha.reader_head hr).perm (ticketsOf_flight_snoc ..), rfl, rfl⟩
  | givePark t f x hw => exact ⟨(TOK.add ha f hw).perm (ticketsOf_writer_snoc ..), rfl, rfl⟩
  | takePend t f hw => exact ⟨(TOK.add ha f hw).perm (ticketsOf_reader_snoc ..), rfl, rfl⟩
  | takeClosed t f hw | takeDirect t f _ _ hw => exact ⟨(TOK.add_bumped ha f hw).perm (ticketsOf_runq_snoc ..), rfl, rfl⟩
  | takeDirectWake t f x xs w ws hw _ _ hwr =>
    -- the popped writer's ticket moves to the pipe; the taker gets a fresh ticket
    have h0 : TOK (ticketsOf s.readers ws (s.flight ++ [⟨w.thread, w.fiber, w.sched, .write⟩]) s.runq) s.waiting s.sched :=
      (ha.writer_head hwr).perm (ticketsOf_flight_snoc ..)
    exact ⟨(TOK.add_bumped h0 f hw).perm (ticketsOf_runq_snoc ..), rfl, rfl⟩
  | close t =>
    have h0 : TOK ((s.writers ++ s.readers).map Pending.tk ++ (s.flight.map Msg.tk ++ s.runq.map Task.tk)) s.waiting s.sched :=
      ha.perm (List.perm_iff_count.mpr fun a => by simp only [tickets, ticketsOf, List.map_append, List.count_append]; omega)
    refine ⟨(closeLocal_tok t s.waiting _ s.sched _ h0).perm (List.perm_iff_count.mpr fun a => ?_), rfl, rfl⟩
    simp only [tickets, ticketsOf, closeMsgs_append, List.map_append, List.map_nil, List.count_append, List.count_nil]
    omega
  | abandonRun f hw => exact ⟨TOK.bump_free ha f hw, rfl, rfl⟩
  | abandonWait => exact absurd hz (Nat.succ_ne_self _)
  | handle a b m _ hfl _ hcb =>
    obtain ⟨h1, h2⟩ := hcb.invA (ha.flight_mid hfl)
    exact ⟨h1, h2, hcb.keeps.dropped⟩
  | resume a b k _ hrq _ hr =>
    have h0 := ha.runq_mid hrq
    cases hr with
    | run =>
      refine ⟨?_, rfl, rfl⟩
      show TOK _ _ (if cfg.resumeBumps = true then _ else _)
      split
      · exact TOK.bump_free h0.remove k.fiber (setb_self _ _ _)
      · exact h0.remove
    | skip hne => exact absurd h0.head_cur hne

def handedTo (r : Nat) (h : List (Nat × Item)) : List Item := (h.filter (fun p => p.1 == r)).map Prod.snd

/-- the (fiber, item) pairs that a list of pipe messages / queued tasks carries, in order -/
def carried {α : Type} (fib : α → Nat) (itm : α → Option Item) (l : List α) : List (Nat × Item) :=
  l.flatMap (fun a => (itm a).toList.map (Prod.mk (fib a)))

abbrev outQ : List Task → List (Nat × Item) := carried Task.fiber Task.item
abbrev outF : List Msg → List (Nat × Item) := carried Msg.fiber Msg.item

def InvO (s : St) : Prop := ∀ r, handedTo r (gotAll s.log ++ outQ s.runq ++ outF s.flight) = handedTo r s.handed

theorem handedTo_append (r : Nat) (a b : List (Nat × Item)) : handedTo r (a ++ b) = handedTo r a ++ handedTo r b := by
  simp [handedTo]

theorem handedTo_nil (r : Nat) (l : List (Nat × Item)) (h : ∀ p ∈ l, p.1 ≠ r) : handedTo r l = [] := by
  simp only [handedTo, List.map_eq_nil_iff, List.filter_eq_nil_iff]
  intro p hp; simpa using h p hp

/-- a block of pairs of fiber `f` may change places with a block without `f`: one of the two is invisible to every fiber -/
theorem handedTo_comm (r f : Nat) (P B : List (Nat × Item)) (hP : ∀ p ∈ P, p.1 = f) (hB : ∀ q ∈ B, q.1 ≠ f) :
    handedTo r P ++ handedTo r B = handedTo r B ++ handedTo r P := by
  by_cases hr : f = r
  · rw [handedTo_nil r B (fun q hq => hr ▸ hB q hq)]; exact List.append_nil _
  · rw [handedTo_nil r P (fun p hp e => hr ((hP p hp).symm.trans e))]; exact (List.append_nil _).symm

theorem handedTo_left_comm (r f : Nat) (P B : List (Nat × Item)) (Y : List Item) (hP : ∀ p ∈ P, p.1 = f)
    (hB : ∀ q ∈ B, q.1 ≠ f) : handedTo r P ++ (handedTo r B ++ Y) = handedTo r B ++ (handedTo r P ++ Y) := by
  rw [← List.append_assoc, handedTo_comm r f P B hP hB, List.append_assoc]

section
variable {α : Type} (fib : α → Nat) (itm : α → Option Item)

theorem carried_append (a b : List α) : carried fib itm (a ++ b) = carried fib itm a ++ carried fib itm b :=
  List.flatMap_append

theorem carried_nil : carried fib itm [] = [] := rfl

theorem carried_cons (a : α) (l : List α) :
    carried fib itm (a :: l) = (itm a).toList.map (Prod.mk (fib a)) ++ carried fib itm l := List.flatMap_cons

theorem carried_none (l : List α) (h : ∀ a ∈ l, itm a = none) : carried fib itm l = [] := by
  simp only [carried, List.flatMap_eq_nil_iff]
  intro a ha; rw [h a ha]; rfl

theorem carried_fiber (l : List α) (f : Nat) (h : ∀ a ∈ l, fib a ≠ f) : ∀ p ∈ carried fib itm l, p.1 ≠ f := by
  intro p hp
  obtain ⟨a, ha, hpa⟩ := List.mem_flatMap.mp hp
  obtain ⟨x, _, rfl⟩ := List.mem_map.mp hpa
  exact h a ha

end

theorem gotSeq_gave (r f : Nat) (x : Item) : gotSeq r [.gave f x] = [] := rfl

theorem gotSeq_eq (r : Nat) (L : List Ev) : gotSeq r L = handedTo r (gotAll L) := by
  induction L with
  | nil => rfl
  | cons e L ih =>
    cases e with
    | gave f x => exact ih
    | got f x =>
      have e1 : gotAll (.got f x :: L) = [(f, x)] ++ gotAll L := rfl
      have e2 : gotSeq r (.got f x :: L) = handedTo r [(f, x)] ++ gotSeq r L := by
        by_cases hf : f = r <;> simp [gotSeq, handedTo, hf]
      rw [e1, e2, handedTo_append, ih]

theorem tickets_flight_ne {s : St} {f : Nat} (h : ∀ tk ∈ tickets s, tk.1 ≠ f) :
    (∀ m ∈ s.flight, m.fiber ≠ f) ∧ (∀ k ∈ s.runq, k.fiber ≠ f) := by
  refine ⟨fun m hm => h (m.fiber, m.sched) ?_, fun k hk => h (k.fiber, k.sched) ?_⟩
  · simp only [tickets, ticketsOf, List.mem_append, List.mem_map]; exact Or.inl (Or.inr ⟨m, hm, rfl⟩)
  · simp only [tickets, ticketsOf, List.mem_append, List.mem_map]; exact Or.inr ⟨k, hk, rfl⟩

theorem StepOut.invO {cfg : Cfg} {s s' : St} (h : StepOut cfg s s') (hz : s'.abandons = s.abandons) (ha : InvA s) (ho : InvO s) :
    InvO s' := by
  intro r
  cases h with
  | idle | takePend | abandonRun => exact ho r
  | giveQueue | givePark => simpa only [gotAll_append, gotAll_gave, List.append_nil] using ho r
  | giveDispatch f x p rs =>
    simp only [handedTo_append]
    rw [← ho r]
    simp only [gotAll_append, gotAll_gave, carried_append, carried_cons, carried_nil, item_read, Option.toList_some,
      List.map_cons, List.map_nil, handedTo_append, List.append_assoc, List.append_nil]
  | takeClosed =>
    simpa only [carried_append, carried_cons, carried_nil, task_item_wake, Option.toList_none, List.map_nil, List.append_nil]
      using ho r
  | abandonWait => exact absurd hz (Nat.succ_ne_self _)
  | close t =>
    simp only [carried_append]
    rw [carried_none _ _ _ (closeLocal_item t _ _), carried_none _ _ _ (closeMsgs_item t _),
      carried_none _ _ _ (closeMsgs_item t _)]
    simpa only [List.append_nil] using ho r
  | takeDirect t f x xs hw | takeDirectWake t f x xs _ _ hw =>
    -- the taker has no ticket, so nothing is in flight for it: its item may go to the end of the pipeline
    simp only [handedTo_append]
    rw [← ho r]
    simp only [carried_append, carried_cons, carried_nil, task_item_item, item_write, Option.toList_some, Option.toList_none,
      List.map_cons, List.map_nil, handedTo_append, List.append_assoc, List.append_nil]
    rw [handedTo_comm r f [(f, x)] (outF s.flight) (by simp)
      (carried_fiber _ _ _ _ (tickets_flight_ne (ha.none_of_running f hw)).1)]
  | handle a b m _ hfl _ hcb =>
    have h0 := ha.flight_mid hfl
    have hacc : Accepts cfg { s with flight := a ++ b } m := Or.inr h0.head_cur.symm
    have hu : ∀ q ∈ outF a, q.1 ≠ m.fiber :=
      carried_fiber _ _ _ _ fun m' hm' => (tickets_flight_ne h0.head_unique).1 m' (List.mem_append_left _ hm')
    have key := ho r
    rw [hfl] at key
    cases hcb.acc hacc with
    | deliver x hk =>
      -- the message held the only ticket of its fiber: its item passes the messages before it and joins the queue
      refine Eq.trans ?_ key
      simp only [carried_append, carried_cons, carried_nil, task_item_item, Msg.item_of_read hk, Option.toList_some,
        List.map_cons, List.map_nil, handedTo_append, List.append_assoc, List.append_nil]
      rw [handedTo_left_comm r m.fiber [(m.fiber, x)] (outF a) _ (by simp) hu]
    | wake hi =>
      refine Eq.trans ?_ key
      simp only [carried_append, carried_cons, carried_nil, task_item_wake, hi, Option.toList_none, List.map_nil,
        List.append_nil, List.nil_append]
  | resume a b k _ hrq _ hr =>
    have h0 := ha.runq_mid hrq
    have hu : ∀ q ∈ outQ a, q.1 ≠ k.fiber :=
      carried_fiber _ _ _ _ fun k' hk' => (tickets_flight_ne h0.head_unique).2 k' (List.mem_append_left _ hk')
    have key := ho r
    rw [hrq] at key
    cases hr with
    | run =>
      -- likewise the item of the popped task passes the tasks before it and joins what the fiber got
      refine Eq.trans ?_ key
      simp only [gotAll_append, gotAll_map_got, carried_append, carried_cons, handedTo_append, List.append_assoc]
      rw [handedTo_left_comm r k.fiber _ (outQ a) _ (fun p hp => by obtain ⟨x, _, rfl⟩ := List.mem_map.mp hp; rfl) hu]
    | skip hne => exact absurd h0.head_cur hne

/-- the invariants of an execution in which no waiting fiber was abandoned -/
structure Clean (s : St) : Prop where
  tickets : InvA s
  order : InvO s
  fifo : Fifo s
  stale : s.staleReads = 0

theorem StepOut.clean {cfg : Cfg} {s s' : St} (h : StepOut cfg s s') (hz : s'.abandons = s.abandons) (hc : Clean s) :
    Clean s' ∧ s'.dropped = s.dropped :=
  have ⟨ha, hs, hd⟩ := h.invA hz hc.tickets
  ⟨⟨ha, h.invO hz hc.tickets hc.order, h.fifo hs hc.fifo, hs.trans hc.stale⟩, hd⟩

theorem run_clean (cfg : Cfg) (acts : List Act) (s : St) (hz : (run cfg acts s).abandons = s.abandons) (h : Clean s) :
    Clean (run cfg acts s) ∧ (run cfg acts s).dropped = s.dropped :=
  run_of_const cfg St.abandons (fun s' => Clean s' ∧ s'.dropped = s.dropped) (fun s a => (step_spec cfg s a).ghost.abandons)
    (fun s' a hz' h' => have r := (step_spec cfg s' a).clean hz' h'.1; ⟨r.1, r.2.trans h'.2⟩) acts s hz ⟨h, rfl⟩

theorem clean_init (limit : Nat) : Clean (init limit) :=
  ⟨⟨fun f => by simp [tickets, ticketsOf, init], fun tk htk => by simp [tickets, ticketsOf, init] at htk⟩,
   fun r => rfl, ⟨Or.inl rfl, rfl⟩, rfl⟩

theorem Clean.got_sublist_sent {s : St} (h : Clean s) (r : Nat) : (gotSeq r s.log).Sublist s.sent := by
  have h1 : (gotSeq r s.log).Sublist (handedTo r s.handed) := by
    rw [gotSeq_eq, ← h.order r, List.append_assoc, handedTo_append]
    exact List.sublist_append_left _ _
  have h2 : (handedTo r s.handed).Sublist (s.handed.map Prod.snd) := List.Sublist.map _ List.filter_sublist
  have h3 : (s.handed.map Prod.snd).Sublist s.sent := by
    rw [← h.fifo.2]; exact List.sublist_append_left _ _
  exact h1.trans (h2.trans h3)

/-- if every item carries its sender (`tag x` = the giving fiber), the items of one sender are its gives, in order -/
theorem gaveBy_eq_filter (tag : Item → Nat) (sd : Nat) : ∀ (L : List Ev), (∀ f x, Ev.gave f x ∈ L → tag x = f) →
    (gaveSeq L).filter (fun x => tag x == sd) = gaveBy sd L := by
  intro L
  induction L with
  | nil => intro _; rfl
  | cons e L ih =>
    intro h
    have ih' := ih (fun f x hm => h f x (List.mem_cons_of_mem _ hm))
    cases e with
    | gave f x =>
      have e1 : gaveSeq (.gave f x :: L) = x :: gaveSeq L := rfl
      rw [e1, List.filter_cons, h f x List.mem_cons_self, ih']
      by_cases hf : f = sd <;> simp [gaveBy, hf]
    | got f x => exact ih'

end JanetModel.Thread
