/- C08 - the full theorems instantiated at the configuration of the CURRENT source (Gen/Thread.lean, regenerated on every
   run by tools/gen/thread.py).  Not imported by Props/C08: this file builds only if the current source satisfies the
   hypotheses (`by decide` on the generated flags), which is exactly the obligation "the property holds for today's code". -/
import JanetModel.Gen.Thread
import JanetModel.Gen.ThreadLock
import JanetModel.Props.C08

namespace JanetModel.Thread.Current
open JanetModel.Thread JanetModel.Props.C08

abbrev cfg : Cfg :=
  { requeue := Gen.Thread.requeueOnNoReader, requeueHead := Gen.Thread.requeueAtHead,
    redispatch := Gen.Thread.redispatchToNext, checkSched := Gen.Thread.cbChecksSchedId,
    forwardOwnSched := Gen.Thread.forwardOwnSchedId, resumeBumps := Gen.Thread.loopBumpsSchedAtResume }
abbrev tcfg : TCfg := { completionAfterBody := Gen.Thread.completionAfterBody }
abbrev rcfg : RCfg :=
  { increfBeforeSend := Gen.Thread.increfBeforeSend, recvKnownDecref := Gen.Thread.unmarshalKnownTestIsAbsent,
    deinitDecref := Gen.Thread.chanDeinitDecrefsUndelivered, decrefFreesAtZero := Gen.Thread.decrefCleanupFreesAtZero,
    packFailDecref := Gen.Thread.packFailureReturnsTransitRefs }

/-- the callback must not deliver to a fiber that moved on -/
theorem checks_sched_id : cfg.checkSched = true := by decide

/-- a forwarded wake-up must carry the next waiter's own sched_id (else a parked writer is never resumed) -/
theorem forward_own_sched_id : cfg.forwardOwnSched = true := by decide

theorem exactly_once_current (limit : Nat) (acts : List Act) : Conserved (run cfg acts (init limit)) :=
  exactly_once cfg (by decide) (by decide) limit acts

/-- the part of the model that is not parametrised - run queue, wait discipline, one-event-at-a-time pipe - has the shape of the
    current source: ev/take schedules the calling fiber with a directly obtained item and awaits; a parked ev/give awaits;
    janet_schedule bumps `sched_id` and pushes at the TAIL of `janet_vm.spawn`; janet_loop1 pops at the head and skips a task
    whose `expected_sched_id` is not the fiber's; the self pipe is read one event per read(), in order, until it is empty;
    a pending entry carries the waiting fiber's current `sched_id`; the accepting callback schedules the fiber -/
theorem runqueue_shape :
    Gen.Thread.takeSchedulesSelf = true ∧ Gen.Thread.giveAwaitsWhenParked = true ∧ Gen.Thread.scheduleBumpsPushesTail = true ∧
    Gen.Thread.loopPopsHeadChecksExpected = true ∧ Gen.Thread.selfpipeOneEventPerReadUntilEmpty = true ∧
    Gen.Thread.pendingCarriesCurrentSchedId = true ∧ Gen.Thread.cbSchedulesFiber = true := by decide

/-- per-sender order for the configuration of the current source (holds for every `Cfg`; the obligation here is
    `runqueue_shape` + the correspondence of `jm_c08` with the implementation on burst histories) -/
theorem per_sender_order_current (limit : Nat) (acts : List Act) (hclean : (run cfg acts (init limit)).abandons = 0)
    (tag : Item → Nat) (htag : ∀ f x, Ev.gave f x ∈ (run cfg acts (init limit)).log → tag x = f) (sender receiver : Nat) :
    ((gotSeq receiver (run cfg acts (init limit)).log).filter (fun x => tag x == sender)).Sublist
      (gaveBy sender (run cfg acts (init limit)).log) :=
  have _ := runqueue_shape
  per_sender_order cfg limit acts hclean tag htag sender receiver

/-- today's janet_thread_chan_cb puts a stale hand-off that finds no other reader back into the queue, at the FRONT
    (`janet_q_push_head`); with `janet_q_push` this does not build -/
theorem requeue_at_head : cfg.requeue = true ∧ cfg.requeueHead = true := by decide

/-- per-sender order across a requeued stale hand-off, for the configuration of the current source -/
theorem per_sender_order_requeue_current (s : St) (m : Msg) (x : Item) (h1 : List (Nat × Item)) (hk : m.kind = .read x)
    (hst : s.sched m.fiber ≠ m.sched) (hp : ReturnPoint s m.fiber x h1) (acts : List Act)
    (hz : (run cfg acts { cb cfg s m with handed := h1 }).staleReads = (cb cfg s m).staleReads) :
    let s1 : St := { cb cfg s m with handed := h1 }
    s1.items = x :: s.items ∧
      (run cfg acts s1).handed.map Prod.snd ++ (run cfg acts s1).items = (run cfg acts s1).sent :=
  per_sender_order_requeue cfg (by decide) (by decide) requeue_at_head.1 requeue_at_head.2 s m x h1 hk hst hp acts hz

theorem exactly_once_resumed_current (limit : Nat) (acts : List Act) (x : Item) :
    let s := run cfg acts (init limit)
    (gaveSeq s.log).countP (· == x) =
      s.items.countP (· == x) + s.flight.countP (fun m => m.item == some x) + s.runq.countP (fun k => k.item == some x) +
        (gotAll s.log).countP (fun d => d.2 == x) + s.dropped.countP (fun d => d.2 == x) :=
  exactly_once_resumed cfg (by decide) (by decide) limit acts x

/-- thread channels pack with `janet_marshal(.., JANET_MARSHAL_UNSAFE)` and unpack with `janet_unmarshal(.., JANET_MARSHAL_UNSAFE ..)` -
    the functions modelled by C09's `Marsh/Graph.lean` - with the same pass-through set on both sides, and the UNSAFE flag is
    consulted in pointer-like cases only: `payload_roundtrip` (an instance of C09's `roundtrip_graph_top`) speaks about today's code -/
theorem payload_codec_shape :
    Gen.Thread.packUsesMarshalUnsafe = true ∧ Gen.Thread.unpackUsesUnmarshalUnsafe = true ∧
    Gen.Thread.packUnpackSamePassthrough = true ∧ Gen.Thread.unsafeFlagOnlyPointerLike = true := by decide

/-- supervisor events are mode-2 pushes (`giveNB`), ev/give-supervisor is a give, mode 2 never parks -/
theorem supervisor_shape :
    Gen.Thread.supervisorEventIsMode2Push = true ∧ Gen.Thread.giveSupervisorIsGive = true ∧ Gen.Thread.mode2NeverParks = true := by
  decide

open JanetModel.Thread.Spawn in
/-- cfun_ev_thread and janet_go_thread_subr follow the same plan; `main` and `value` are unconditional; both sides use
    JANET_MARSHAL_UNSAFE and the same flag word; the buffer goes to exactly one thread and is freed once -/
theorem thread_plans_agree :
    Gen.Thread.threadWritePlan = Gen.Thread.threadReadPlan ∧
    (⟨true, 0, true, .main⟩ : PStep) ∈ Gen.Thread.threadWritePlan ∧ (⟨true, 0, true, .value⟩ : PStep) ∈ Gen.Thread.threadWritePlan ∧
    Gen.Thread.threadArgsUnsafeBothSides = true ∧ Gen.Thread.threadFlagsInTag = true ∧
    Gen.Thread.threadBufferOneThreadFreedOnce = true ∧ Gen.Thread.threadSchedulesMainWithValue = true := by
  decide

open JanetModel.Thread.Spawn in
/-- for the plans of the current source: whatever the flags, the new thread reads back exactly the buffer written for it -/
theorem thread_args_roundtrip_current (flags : Nat) (a : Args) :
    readBuf Gen.Thread.threadReadPlan flags (writeBuf Gen.Thread.threadWritePlan flags a) =
      some (writeBuf Gen.Thread.threadWritePlan flags a, []) := by
  rw [← thread_plans_agree.1]
  exact thread_args_roundtrip _ flags a

theorem thread_returns_after_body_current (n : Nat) (acts : List TAct) :
    let s := trun tcfg acts { bodyLeft := n }
    (s.callerResumed = true → s.bodyDone = true) ∧ s.resumedAfterBody = true :=
  thread_returns_after_body tcfg (by decide) n acts

/-- the unmarshaller and the sweep must do their part of the protocol as well -/
theorem refcount_protocol_shape :
    Gen.Thread.unmarshalAccounts = true ∧ Gen.Thread.sweepDecrefFrees = true ∧ Gen.Thread.markSetsVisited = true := by decide

theorem refcount_ge_reachers_current (acts : List RAct) :
    let s := rrun rcfg acts {}
    (s.freed = false → s.refcount = s.holds.length + s.transit) ∧ (s.freed = true → s.holds = [] ∧ s.transit = 0) ∧
      s.useAfterFree = false :=
  refcount_ge_reachers rcfg (by decide) (by decide) (by decide) (by decide) acts

/-- for today's source no shared object is ever stranded: unreferenced (no table entry, no message) ⇒ freed, at every point
    of every interleaving, including finalizer runs of thread channels that still carry undelivered messages -/
theorem shared_never_stranded_current (acts : List RAct) :
    let s := rrun rcfg acts {}
    s.holds = [] → s.transit = 0 → s.freed = true :=
  shared_never_stranded rcfg (by decide) (by decide) (by decide) (by decide) (by decide) acts

/-- ev/lock and ev/rwlock are threaded abstracts with no marshal hooks (they cross threads only as pointer + incref, the
    threaded path being taken before any type hook), their finalizers only destroy the OS primitive, and every lock operation
    works on the primitive inside the abstract's memory -/
theorem lock_types_shape :
    Gen.Thread.lockTypesThreaded = true ∧ Gen.Thread.lockTypesNoMarshalHook = true ∧ Gen.Thread.lockFinalizerDeinitsOnly = true ∧
    Gen.Thread.lockOpsUseAbstractMemory = true ∧ Gen.Thread.threadedPathBeforeTypeHook = true := by decide

theorem locks_valid_while_reachable_current (acts : List RAct) :
    let s := rrun rcfg acts {}
    (∀ t, s.reach t = true → s.freed = false) ∧ (0 < s.transit → s.freed = false) ∧ s.useAfterFree = false :=
  have _ := lock_types_shape
  shared_valid_while_reachable rcfg (by decide) (by decide) (by decide) (by decide) acts

/-- lock discipline of today's ev.c: the kernel evaluates the path checker on the regenerated statement tree of every function
    that takes / releases the thread-channel mutex; all eleven are accepted (incl. the supervisor push of janet_loop1:
    lock; closed ? unlock : push_with_lock); the only other user of the mutex is ev/select's multi-lock scan
    (cfun_channel_choice + chan_unlock_args), which is not covered here -/
theorem lock_discipline_current :
    Gen.ThreadLock.lockProgs.map (·.1) =
      ["janet_thread_chan_cb", "janet_channel_push_with_lock", "janet_channel_pop_with_lock", "janet_channel_push", "janet_channel_pop",
       "cfun_channel_close", "cfun_channel_full", "cfun_channel_capacity", "cfun_channel_count", "janet_chan_deinit", "janet_loop1"] ∧
    Gen.ThreadLock.lockProgs.all (fun p => LockCert.accepts p.2.1 p.2.2) = true ∧
    Gen.ThreadLock.outsideCertificate.all (fun f => f ∈ ["cfun_channel_choice", "chan_unlock_args"]) = true := by
  decide

/-- ... hence: every path through each of them releases the mutex exactly once per acquisition and leaves with it released -/
theorem lock_paths_current (p : String × Bool × LockCert.LS) (hp : p ∈ Gen.ThreadLock.lockProgs) (o : LockCert.Out)
    (hr : LockCert.Run (.seq p.2.2 .ret) { held := p.2.1 } o) :
    ∃ s', o = .exit s' ∧ s'.held = false ∧ s'.rel = s'.acq + LockCert.b2n p.2.1 := by
  have hall := lock_discipline_current.2.1
  rw [List.all_eq_true] at hall
  exact lock_paths_release_exactly_once p.2.1 p.2.2 (hall p hp) o hr

end JanetModel.Thread.Current
