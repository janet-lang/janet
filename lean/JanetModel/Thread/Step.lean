/- C08 - what one step of the threaded-channel model can do: `StepOut cfg s s'` has one constructor per outcome of an action,
   with the guards the invariants need and the state it leads to (`CbOut` for janet_thread_chan_cb, `RunOut` for the body of
   janet_loop1).  The invariants of the model are case analyses on `step_spec`; `idle` stands for every disabled action. -/
import JanetModel.Thread.Model
import JanetModel.Util.List

namespace JanetModel.Thread

theorem extract_split_take {α : Type} : ∀ (l : List α) (i : Nat) (m : α) (r : List α), extract i l = some (m, r) →
    ∃ b, l = l.take i ++ m :: b ∧ r = l.take i ++ b
  | [], i, _, _, h => by cases i <;> cases h
  | x :: l, 0, _, _, h => by cases h; exact ⟨l, rfl, rfl⟩
  | x :: l, n + 1, m, r, h => by
    simp only [extract] at h
    split at h
    · rename_i b l' hx
      cases h
      obtain ⟨b', h1, h2⟩ := extract_split_take l n m l' hx
      exact ⟨b', congrArg (x :: ·) h1, congrArg (x :: ·) h2⟩
    · cases h

theorem extract_first_of_key {α : Type} (key : α → Nat) (l : List α) (i : Nat) (m : α) (r : List α) (h : extract i l = some (m, r))
    (hfirst : (l.take i).all (fun y => key y != key m) = true) :
    l.filter (fun y => key y == key m) = m :: r.filter (fun y => key y == key m) := by
  obtain ⟨b, h1, h2⟩ := extract_split_take l i m r h
  have h0 : (l.take i).filter (fun y => key y == key m) = [] := by
    apply List.filter_eq_nil_iff.mpr
    intro y hy
    have := List.all_eq_true.mp hfirst y hy
    simpa using this
  rw [h2, List.filter_append, h0]
  conv => lhs; rw [h1]
  rw [List.filter_append, h0]
  simp

/-- the callback accepts the message: no generation check, or the generation is the fiber's current one -/
def Accepts (cfg : Cfg) (s : St) (m : Msg) : Prop := cfg.checkSched = false ∨ s.sched m.fiber = m.sched

/-- janet_thread_chan_cb on a message it accepts: janet_schedule of the fiber, with the item or as a wake-up -/
inductive CbAcc (s : St) (m : Msg) : St → Prop
  | deliver (x : Item) : m.kind = .read x →
      CbAcc s m { s with delivered := s.delivered ++ [(m.fiber, x)], sched := bump s.sched m.fiber,
                         runq := s.runq ++ [⟨m.loop, m.fiber, s.sched m.fiber + 1, .item x⟩] }
  | wake : m.item = none →
      CbAcc s m { s with sched := bump s.sched m.fiber, woken := s.woken ++ [(m.fiber, m.kind)],
                         runq := s.runq ++ [⟨m.loop, m.fiber, s.sched m.fiber + 1, .wake m.kind⟩] }

/-- janet_thread_chan_cb on a stale message; the guards are exclusive -/
inductive CbStale (cfg : Cfg) (s : St) (m : Msg) : St → Prop
  | ignore : m.item = none → (m.kind = .write → cfg.redispatch = true → s.writers = []) → CbStale cfg s m s
  | forwardRead (x : Item) (r : Pending) (rs : List Pending) : m.kind = .read x → cfg.redispatch = true → s.readers = r :: rs →
      CbStale cfg s m { s with readers := rs, staleReads := s.staleReads + 1,
                               flight := s.flight ++ [⟨r.thread, r.fiber, if cfg.forwardOwnSched then r.sched else m.sched, .read x⟩] }
  | requeue (x : Item) : m.kind = .read x → cfg.requeue = true → cfg.redispatch = true → s.readers = [] →
      CbStale cfg s m { s with items := if cfg.requeueHead then x :: s.items else s.items ++ [x],
                               staleReads := s.staleReads + 1 }
  | lose (x : Item) : m.kind = .read x → (cfg.redispatch = true → s.readers = [] ∧ cfg.requeue = false) →
      CbStale cfg s m { s with staleReads := s.staleReads + 1 }
  | forwardWrite (w : Pending) (ws : List Pending) : m.kind = .write → cfg.redispatch = true → s.writers = w :: ws →
      CbStale cfg s m { s with writers := ws,
                               flight := s.flight ++ [⟨w.thread, w.fiber, if cfg.forwardOwnSched then w.sched else m.sched, .write⟩] }

structure CbOut (cfg : Cfg) (s : St) (m : Msg) (s' : St) : Prop where
  acc : Accepts cfg s m → CbAcc s m s'
  stale : ¬ Accepts cfg s m → CbStale cfg s m s'

theorem cb_spec (cfg : Cfg) (s : St) (m : Msg) : CbOut cfg s m (cb cfg s m) := by
  obtain ⟨ml, mf, ms, mk⟩ := m
  unfold cb
  refine ⟨fun hacc => ?_, fun hacc => ?_⟩
  · have hc : ((!cfg.checkSched) || s.sched mf == ms) = true := by
      rcases hacc with h | h
      · simp [h]
      · simp [show s.sched mf = ms from h]
    rw [if_pos hc]
    cases mk with
    | read x => exact .deliver x rfl
    | write => exact .wake rfl
    | close => exact .wake rfl
  · have hc : ¬ ((!cfg.checkSched) || s.sched mf == ms) = true := by
      intro h
      rcases Bool.or_eq_true _ _ |>.mp h with h | h
      · exact hacc (Or.inl (by simpa using h))
      · exact hacc (Or.inr (by simpa using h))
    rw [if_neg hc]
    cases mk with
    | close => exact .ignore rfl (fun h => nomatch h)
    | read x =>
      simp only []
      by_cases hd : cfg.redispatch = true
      · rw [if_pos hd]
        split
        · rename_i r rs hr
          exact .forwardRead x r rs rfl hd hr
        · rename_i hr
          by_cases hq : cfg.requeue = true
          · rw [if_pos hq]; exact .requeue x rfl hq hd hr
          · rw [if_neg hq]; exact .lose x rfl (fun _ => ⟨hr, by simpa using hq⟩)
      · rw [if_neg hd]; exact .lose x rfl (fun h => absurd h hd)
    | write =>
      simp only []
      by_cases hd : cfg.redispatch = true
      · rw [if_pos hd]
        split
        · rename_i w ws hw
          exact .forwardWrite w ws rfl hd hw
        · rename_i hw
          exact .ignore rfl (fun _ _ => hw)
      · rw [if_neg hd]; exact .ignore rfl (fun _ h => absurd h hd)

/-- janet_loop1 on the popped task: the fiber is resumed (an item is logged as `got`) or the task is skipped (an item is
    recorded as `dropped`) -/
inductive RunOut (cfg : Cfg) (s : St) (k : Task) : St → Prop
  | run : k.sched = s.sched k.fiber →
      RunOut cfg s k { s with waiting := setb s.waiting k.fiber false, log := s.log ++ k.item.toList.map (Ev.got k.fiber),
                              sched := if cfg.resumeBumps then bump s.sched k.fiber else s.sched }
  | skip : k.sched ≠ s.sched k.fiber → RunOut cfg s k { s with dropped := s.dropped ++ k.item.toList.map (Prod.mk k.fiber) }

theorem runTask_spec (cfg : Cfg) (s : St) (k : Task) : RunOut cfg s k (runTask cfg s k) := by
  obtain ⟨kt, kf, ks, kv⟩ := k
  unfold runTask
  by_cases hc : ks = s.sched kf
  · have h := RunOut.run (cfg := cfg) (s := s) (k := ⟨kt, kf, ks, kv⟩) hc
    rw [if_pos hc]
    cases kv with
    | item x => exact h
    | wake _ | other => simpa [Task.item] using h
  · have h := RunOut.skip (cfg := cfg) (s := s) (k := ⟨kt, kf, ks, kv⟩) hc
    rw [if_neg hc]
    cases kv with
    | item x => exact h
    | wake _ | other => simpa [Task.item] using h

/-- `giveDispatch` and `giveQueue` are shared by ev/give and the mode-2 push -/
inductive StepOut (cfg : Cfg) (s : St) : St → Prop
  | idle : StepOut cfg s s
  | giveDispatch (f : Nat) (x : Item) (r : Pending) (rs : List Pending) : s.closed = false → s.readers = r :: rs →
      StepOut cfg s { s with readers := rs, flight := s.flight ++ [⟨r.thread, r.fiber, r.sched, .read x⟩],
                             sent := s.sent ++ [x], handed := s.handed ++ [(r.fiber, x)], log := s.log ++ [.gave f x] }
  | giveQueue (f : Nat) (x : Item) : s.closed = false → s.readers = [] →
      StepOut cfg s { s with items := s.items ++ [x], sent := s.sent ++ [x], log := s.log ++ [.gave f x] }
  | givePark (t f : Nat) (x : Item) : s.waiting f = false → s.closed = false → s.readers = [] → s.limit < s.items.length + 1 →
      StepOut cfg s { s with items := s.items ++ [x], writers := s.writers ++ [⟨t, f, s.sched f⟩], sent := s.sent ++ [x],
                             log := s.log ++ [.gave f x], waiting := setb s.waiting f true, home := setn s.home f t }
  | takeClosed (t f : Nat) : s.waiting f = false → s.closed = true →
      StepOut cfg s { s with woken := s.woken ++ [(f, .close)], sched := bump s.sched f,
                             runq := s.runq ++ [⟨t, f, s.sched f + 1, .wake .close⟩],
                             waiting := setb s.waiting f true, home := setn s.home f t }
  | takePend (t f : Nat) : s.waiting f = false → s.closed = false → s.items = [] →
      StepOut cfg s { s with readers := s.readers ++ [⟨t, f, s.sched f⟩], waiting := setb s.waiting f true,
                             home := setn s.home f t }
  | takeDirect (t f : Nat) (x : Item) (xs : List Item) : s.waiting f = false → s.closed = false → s.items = x :: xs →
      s.writers = [] →
      StepOut cfg s { s with items := xs, delivered := s.delivered ++ [(f, x)], handed := s.handed ++ [(f, x)],
                             sched := bump s.sched f, runq := s.runq ++ [⟨t, f, s.sched f + 1, .item x⟩],
                             waiting := setb s.waiting f true, home := setn s.home f t }
  | takeDirectWake (t f : Nat) (x : Item) (xs : List Item) (w : Pending) (ws : List Pending) : s.waiting f = false →
      s.closed = false → s.items = x :: xs → s.writers = w :: ws →
      StepOut cfg s { s with items := xs, delivered := s.delivered ++ [(f, x)], handed := s.handed ++ [(f, x)],
                             sched := bump s.sched f, writers := ws,
                             flight := s.flight ++ [⟨w.thread, w.fiber, w.sched, .write⟩],
                             runq := s.runq ++ [⟨t, f, s.sched f + 1, .item x⟩],
                             waiting := setb s.waiting f true, home := setn s.home f t }
  | close (t : Nat) : s.closed = false →
      StepOut cfg s { s with closed := true, writers := [], readers := [],
                             flight := s.flight ++ closeMsgs t s.writers ++ closeMsgs t s.readers,
                             sched := (closeLocal t s.sched (s.writers ++ s.readers)).1,
                             woken := s.woken ++ (closeLocal t s.sched (s.writers ++ s.readers)).2.1,
                             runq := s.runq ++ (closeLocal t s.sched (s.writers ++ s.readers)).2.2 }
  | abandonRun (f : Nat) : s.waiting f = false → StepOut cfg s { s with sched := bump s.sched f }
  | abandonWait (f : Nat) : s.waiting f = true →
      StepOut cfg s { s with sched := bump s.sched f, runq := s.runq ++ [⟨s.home f, f, s.sched f + 1, .other⟩],
                             abandons := s.abandons + 1 }
  | handle (a b : List Msg) (m : Msg) (s' : St) : s.flight = a ++ m :: b → a.all (fun m' => m'.loop != m.loop) = true →
      CbOut cfg { s with flight := a ++ b } m s' → StepOut cfg s s'
  | resume (a b : List Task) (k : Task) (s' : St) : s.runq = a ++ k :: b → a.all (fun k' => k'.thread != k.thread) = true →
      RunOut cfg { s with runq := a ++ b } k s' → StepOut cfg s s'

theorem step_spec (cfg : Cfg) (s : St) (a : Act) : StepOut cfg s (step cfg s a) := by
  cases a with
  | give t f x =>
    show StepOut cfg s (if s.waiting f then s else give s t f x)
    split
    · exact .idle
    · rename_i hw
      have hw : s.waiting f = false := by simpa using hw
      unfold give
      split
      · exact .idle
      · rename_i hc
        have hc : s.closed = false := by simpa using hc
        split
        · rename_i r rs hr
          exact .giveDispatch f x r rs hc hr
        · rename_i hr
          split
          · rename_i hl
            exact .givePark t f x hw hc hr hl
          · exact .giveQueue f x hc hr
  | giveNB f x =>
    show StepOut cfg s (giveNB s f x)
    unfold giveNB
    split
    · exact .idle
    · rename_i hc
      have hc : s.closed = false := by simpa using hc
      split
      · rename_i r rs hr
        exact .giveDispatch f x r rs hc hr
      · rename_i hr
        exact .giveQueue f x hc hr
  | take t f =>
    show StepOut cfg s (if s.waiting f then s else take s t f)
    split
    · exact .idle
    · rename_i hw
      have hw : s.waiting f = false := by simpa using hw
      unfold take
      split
      · rename_i hc
        exact .takeClosed t f hw hc
      · rename_i hc
        have hc : s.closed = false := by simpa using hc
        split
        · rename_i hi
          exact .takePend t f hw hc hi
        · rename_i x xs hi
          split
          · rename_i w ws hwr
            exact .takeDirectWake t f x xs w ws hw hc hi hwr
          · rename_i hwr
            exact .takeDirect t f x xs hw hc hi hwr
  | abandon f =>
    show StepOut cfg s (abandon s f)
    unfold abandon
    split
    · rename_i hw
      exact .abandonWait f hw
    · rename_i hw
      exact .abandonRun f (by simpa using hw)
  | close t =>
    show StepOut cfg s (close s t)
    unfold close
    split
    · exact .idle
    · rename_i hc
      exact .close t (by simpa using hc)
  | handle i =>
    show StepOut cfg s (handle cfg s i)
    unfold handle
    split
    · exact .idle
    · rename_i m rest hx
      obtain ⟨b, h1, rfl⟩ := extract_split_take s.flight i m rest hx
      split
      · rename_i hen
        exact .handle _ b m _ h1 hen (cb_spec cfg _ m)
      · exact .idle
  | resume i =>
    show StepOut cfg s (resume cfg s i)
    unfold resume
    split
    · exact .idle
    · rename_i k rest hx
      obtain ⟨b, h1, rfl⟩ := extract_split_take s.runq i k rest hx
      split
      · rename_i hen
        exact .resume _ b k _ h1 hen (runTask_spec cfg _ k)
      · exact .idle

end JanetModel.Thread
