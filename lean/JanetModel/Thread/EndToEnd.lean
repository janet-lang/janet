/- C08 - exactly-once up to the resumption of the receiving fiber: every item that janet_schedule handed to a fiber is in
   exactly one of: a queued task of a run queue, the `got` events of the log, the tasks skipped by janet_loop1 (`dropped`).
   Holds for every configuration and every interleaving (`dropped` stays empty when no waiting fiber is abandoned:
   `run_clean`, Thread/Order.lean). -/
import JanetModel.Thread.Lemmas

namespace JanetModel.Thread

def Conserved2 (s : St) : Prop :=
  ∀ x : Item, s.delivered.countP (fun d => d.2 == x) =
    s.runq.countP (fun k => k.item == some x) + (gotAll s.log).countP (fun d => d.2 == x) + s.dropped.countP (fun d => d.2 == x)

theorem closeLocal_countP (t : Nat) (y : Item) (ps : List Pending) (g : Nat → Nat) :
    (closeLocal t g ps).2.2.countP (fun k => k.item == some y) = 0 :=
  List.countP_eq_zero.mpr (fun k hk => by simp [closeLocal_item t ps g k hk])

theorem countP_item_toList (f : Nat) (o : Option Item) (y : Item) :
    (o.toList.map (Prod.mk f)).countP (fun d => d.2 == y) = if o == some y then 1 else 0 := by
  cases o <;> simp [List.countP_cons]

theorem CbOut.conserved2 {cfg : Cfg} {s s' : St} {m : Msg} (hs : CbOut cfg s m s') (h : Conserved2 s) : Conserved2 s' := by
  intro y
  have hy := h y
  by_cases ha : Accepts cfg s m
  · cases hs.acc ha with
    | deliver x => simp [List.countP_append] at hy ⊢; omega
    | wake => simpa [List.countP_append] using hy
  · cases hs.stale ha <;> exact hy

theorem StepOut.conserved2 {cfg : Cfg} {s s' : St} (h : StepOut cfg s s') (hc : Conserved2 s) : Conserved2 s' := by
  intro y
  have hy := hc y
  cases h with
  | idle | takePend | abandonRun => exact hy
  | giveDispatch | giveQueue | givePark => simpa [gotAll_append] using hy
  | takeClosed | abandonWait => simpa [List.countP_append] using hy
  | takeDirect | takeDirectWake => simp [List.countP_append, List.countP_cons] at hy ⊢; omega
  | close => simpa [List.countP_append, closeLocal_countP] using hy
  | handle _ _ _ _ _ _ hcb => exact hcb.conserved2 hc y
  | resume a b k _ hrq _ hr =>
    rw [hrq] at hy
    cases hr with
    | run =>
      simp only [gotAll_append, gotAll_map_got, List.countP_append, List.countP_cons, countP_item_toList] at hy ⊢
      omega
    | skip =>
      simp only [List.countP_append, List.countP_cons, countP_item_toList] at hy ⊢
      omega

theorem run_conserved2 (cfg : Cfg) : ∀ (acts : List Act) (s : St), Conserved2 s → Conserved2 (run cfg acts s) :=
  Util.foldl_inv (P := Conserved2) (fun s a => (step_spec cfg s a).conserved2)

theorem conserved2_init (l : Nat) : Conserved2 (init l) := by
  intro x; simp [init, gotAll]

end JanetModel.Thread
