/- C08 - reference count of one shared (threaded) abstract: what a step of the protocol can do (`RStepOut`), the invariants
   `RInv` (count = table entries + copies in transit; freed only when there is neither), `RReach` and `RLive` over all
   interleavings, and what sweeps by all holders / finalizer runs of all carriers leave behind.
   The declarations carry the namespace of Props/C08.lean, whose statements use the three predicates. -/
import JanetModel.Thread.Model
import JanetModel.Util.List

namespace JanetModel.Props.C08
open JanetModel.Thread

def RInv (s : RSt) : Prop :=
  (s.freed = false → s.refcount = s.holds.length + s.transit) ∧ (s.freed = true → s.holds = [] ∧ s.transit = 0) ∧
    s.useAfterFree = false

/-- a thread that reaches the object has a table entry for it -/
def RReach (s : RSt) : Prop := ∀ t, s.reach t = true → t ∈ s.holds

/-- an object that has not been freed is referenced by somebody: the count is positive -/
def RLive (s : RSt) : Prop := s.freed = false → 0 < s.refcount

/-- what one step of the reference-count protocol can do when the source takes the reference before sending, drops the
    in-transit reference of an object the receiver already knows, and gives the reference back in the channel finalizer and
    after a failed pack (`rstep_spec`); `z` is `decrefFreesAtZero`.  A failed pack only touches the object: `use`. -/
inductive RStepOut (z : Bool) (s : RSt) : RSt → Prop
  | idle : RStepOut z s s
  | send (t : Nat) : t ∈ s.holds → s.reach t = true →
      RStepOut z s { s with refcount := s.refcount + 1, transit := s.transit + 1, useAfterFree := s.useAfterFree || s.freed }
  | recvKnown (t : Nat) : s.transit ≠ 0 → t ∈ s.holds →
      RStepOut z s { s with transit := s.transit - 1, refcount := s.refcount - 1, reach := fun u => u == t || s.reach u,
                            useAfterFree := s.useAfterFree || s.freed }
  | recvNew (t : Nat) : s.transit ≠ 0 →
      RStepOut z s { s with transit := s.transit - 1, holds := t :: s.holds, reach := fun u => u == t || s.reach u,
                            useAfterFree := s.useAfterFree || s.freed }
  | drop (t : Nat) : RStepOut z s { s with reach := fun u => if u = t then false else s.reach u }
  | use (t : Nat) : s.reach t = true → RStepOut z s { s with useAfterFree := s.useAfterFree || s.freed }
  | discard : s.transit ≠ 0 →
      RStepOut z s { s with transit := s.transit - 1, refcount := s.refcount - 1,
                            freed := s.freed || (z && (s.refcount - 1 == 0)) }
  | sweep (t : Nat) : t ∈ s.holds → s.reach t = false →
      RStepOut z s { s with holds := s.holds.erase t, refcount := s.refcount - 1, freed := s.freed || (s.refcount - 1 == 0) }

/-- a sweep reads no configuration flag -/
theorem sweep_spec (cfg : RCfg) (z : Bool) (s : RSt) (t : Nat) : RStepOut z s (rstep cfg s (.sweep t)) := by
  simp only [rstep]
  split
  · rename_i h
    exact .sweep t h.1 h.2
  · exact .idle

theorem rstep_spec (cfg : RCfg) (hc : cfg.increfBeforeSend = true) (hk : cfg.recvKnownDecref = true) (hd : cfg.deinitDecref = true)
    (hp : cfg.packFailDecref = true) (s : RSt) (a : RAct) : RStepOut cfg.decrefFreesAtZero s (rstep cfg s a) := by
  cases a with
  | send t =>
    simp only [rstep, hc, if_true]
    split
    · rename_i h
      exact .send t h.1 h.2
    · exact .idle
  | recv t =>
    simp only [rstep, hk, if_true]
    split
    · exact .idle
    · rename_i ht
      split
      · rename_i hm
        exact .recvKnown t ht hm
      · exact .recvNew t ht
  | drop t => exact .drop t
  | use t =>
    simp only [rstep]
    split
    · rename_i h
      exact .use t h
    · exact .idle
  | failSend t =>
    simp only [rstep, hp, Bool.not_true, Bool.and_false, Bool.false_eq_true, if_false]
    split
    · rename_i h
      exact .use t h.2
    · exact .idle
  | discard =>
    simp only [rstep, hd, if_true]
    split
    · exact .idle
    · rename_i ht
      exact .discard ht
  | sweep t => exact sweep_spec cfg _ s t

theorem RStepOut.reach {z : Bool} {s s' : RSt} (h : RStepOut z s s') (hr : RReach s) : RReach s' := by
  intro u hu
  cases h with
  | idle | send | use | discard => exact hr u hu
  | recvKnown t _ hm =>
    rcases Bool.or_eq_true _ _ |>.mp hu with e | hu
    · exact (beq_iff_eq.mp e) ▸ hm
    · exact hr u hu
  | recvNew t =>
    rcases Bool.or_eq_true _ _ |>.mp hu with e | hu
    · exact (beq_iff_eq.mp e) ▸ List.mem_cons_self
    · exact List.mem_cons_of_mem _ (hr u hu)
  | drop t =>
    by_cases hut : u = t
    · simp [hut] at hu
    · simp only [hut, if_false] at hu; exact hr u hu
  | sweep t _ hrt =>
    have hne : u ≠ t := by intro e; rw [e, hrt] at hu; cases hu
    exact (List.mem_erase_of_ne hne).mpr (hr u hu)

theorem RInv.held {s : RSt} (h : RInv s) {t : Nat} (hm : t ∈ s.holds) : s.freed = false := by
  cases hf : s.freed with
  | false => rfl
  | true => rw [(h.2.1 hf).1] at hm; cases hm

theorem RInv.sent {s : RSt} (h : RInv s) (ht : s.transit ≠ 0) : s.freed = false := by
  cases hf : s.freed with
  | false => rfl
  | true => exact absurd (h.2.1 hf).2 ht

theorem rinv_of_count {s : RSt} (hc : s.refcount = s.holds.length + s.transit) (hz : s.freed = true → s.refcount = 0)
    (hu : s.useAfterFree = false) : RInv s :=
  ⟨fun _ => hc, fun h => by have := hz h; exact ⟨List.eq_nil_of_length_eq_zero (by omega), by omega⟩, hu⟩

theorem rinv_of_unfreed {s : RSt} (hf : s.freed = false) (hc : s.refcount = s.holds.length + s.transit)
    (hu : s.useAfterFree = false) : RInv s :=
  ⟨fun _ => hc, fun h => absurd (hf ▸ h) (by decide), hu⟩

theorem RStepOut.inv {z : Bool} {s s' : RSt} (h : RStepOut z s s') (hi : RInv s) (hre : RReach s) : RInv s' := by
  -- while the object is not freed the count is the number of holders and using it is no use after free
  have key : s.freed = false → s.refcount = s.holds.length + s.transit ∧ (s.useAfterFree || s.freed) = false :=
    fun hf => ⟨hi.1 hf, by rw [hi.2.2, hf]; rfl⟩
  cases h with
  | idle | drop => exact hi
  | send t hm =>
    have hf := hi.held hm
    obtain ⟨hr, hu⟩ := key hf
    exact rinv_of_unfreed hf (show s.refcount + 1 = s.holds.length + (s.transit + 1) by omega) hu
  | recvKnown t ht =>
    have hf := hi.sent ht
    obtain ⟨hr, hu⟩ := key hf
    exact rinv_of_unfreed hf (show s.refcount - 1 = s.holds.length + (s.transit - 1) by omega) hu
  | recvNew t ht =>
    have hf := hi.sent ht
    obtain ⟨hr, hu⟩ := key hf
    exact rinv_of_unfreed hf (show s.refcount = (s.holds.length + 1) + (s.transit - 1) by omega) hu
  | use t hrt =>
    have hf := hi.held (hre t hrt)
    exact rinv_of_unfreed hf (key hf).1 (key hf).2
  | discard ht =>
    have hf := hi.sent ht
    have hr := (key hf).1
    refine rinv_of_count (show s.refcount - 1 = s.holds.length + (s.transit - 1) by omega) (fun hfr => ?_) hi.2.2
    rw [hf] at hfr
    simp only [Bool.false_or, Bool.and_eq_true, beq_iff_eq] at hfr
    exact hfr.2
  | sweep t hm =>
    have hf := hi.held hm
    have hr := (key hf).1
    have hl := List.length_erase_of_mem hm
    have hpos : 0 < s.holds.length := List.length_pos_of_mem hm
    refine rinv_of_count (show s.refcount - 1 = (s.holds.erase t).length + s.transit by omega) (fun hfr => ?_) hi.2.2
    rw [hf] at hfr
    simpa using hfr

theorem rrun_inv (cfg : RCfg) (hc : cfg.increfBeforeSend = true) (hk : cfg.recvKnownDecref = true) (hd : cfg.deinitDecref = true)
    (hp : cfg.packFailDecref = true) :
    ∀ (acts : List RAct) (s : RSt), RInv s ∧ RReach s → RInv (rrun cfg acts s) ∧ RReach (rrun cfg acts s) :=
  Util.foldl_inv (P := fun s => RInv s ∧ RReach s)
    (fun s a h => have o := rstep_spec cfg hc hk hd hp s a; ⟨o.inv h.1 h.2, o.reach h.2⟩)

theorem rinv_init : RInv {} := by simp [RInv]
theorem rreach_init : RReach {} := by intro t ht; simp at ht; simp [ht]
theorem rlive_init : RLive {} := by simp [RLive]

theorem RStepOut.live {s s' : RSt} (h : RStepOut true s s') (hi : RInv s) (hl : RLive s) : RLive s' := by
  intro hnf
  cases h with
  | idle | drop | recvNew | use => exact hl hnf
  | send => exact Nat.succ_pos _
  | recvKnown t ht hm =>
    have hr := hi.1 hnf
    have : 0 < s.holds.length := List.length_pos_of_mem hm
    show 0 < s.refcount - 1
    omega
  | discard | sweep =>
    -- the step did not free the object: the decrement did not reach 0
    have hne : ¬ (s.refcount - 1 = 0) := fun e => by simp [e] at hnf
    show 0 < s.refcount - 1
    omega

theorem RStepOut.all {s s' : RSt} (h : RStepOut true s s') (i : RInv s ∧ RReach s ∧ RLive s) : RInv s' ∧ RReach s' ∧ RLive s' :=
  ⟨h.inv i.1 i.2.1, h.reach i.2.1, h.live i.1 i.2.2⟩

theorem rrun_inv_live (cfg : RCfg) (hc : cfg.increfBeforeSend = true) (hk : cfg.recvKnownDecref = true) (hd : cfg.deinitDecref = true)
    (hz : cfg.decrefFreesAtZero = true) (hp : cfg.packFailDecref = true) : ∀ (acts : List RAct) (s : RSt),
    RInv s ∧ RReach s ∧ RLive s → RInv (rrun cfg acts s) ∧ RReach (rrun cfg acts s) ∧ RLive (rrun cfg acts s) :=
  Util.foldl_inv (P := fun s => RInv s ∧ RReach s ∧ RLive s) (fun s a => (hz ▸ rstep_spec cfg hc hk hd hp s a).all)

theorem freed_of_unreferenced {s : RSt} (hi : RInv s) (hl : RLive s) (hh : s.holds = []) (ht : s.transit = 0) : s.freed = true := by
  cases hf : s.freed with
  | true => rfl
  | false =>
    have h1 := hi.1 hf
    have h2 := hl hf
    rw [hh, ht] at h1
    simp at h1
    omega

theorem never_stranded_from (cfg : RCfg) (hc : cfg.increfBeforeSend = true) (hk : cfg.recvKnownDecref = true)
    (hd : cfg.deinitDecref = true) (hz : cfg.decrefFreesAtZero = true) (hp : cfg.packFailDecref = true) (acts : List RAct) (s0 : RSt)
    (hi : RInv s0) (hr : RReach s0) (hl : RLive s0) :
    let s := rrun cfg acts s0
    s.holds = [] → s.transit = 0 → s.freed = true := by
  intro s hh ht
  have h := rrun_inv_live cfg hc hk hd hz hp acts s0 ⟨hi, hr, hl⟩
  exact freed_of_unreferenced h.1 h.2.2 hh ht

theorem rstep_sweep (cfg : RCfg) (s : RSt) (t : Nat) (hm : t ∈ s.holds) (hr : s.reach t = false) :
    rstep cfg s (.sweep t) =
      { s with holds := s.holds.erase t, refcount := s.refcount - 1, freed := s.freed || (s.refcount - 1 == 0) } := by
  simp [rstep, hm, hr]

theorem sweeps_inv (cfg : RCfg) (l : List Nat) (s : RSt) (h : RInv s ∧ RReach s ∧ RLive s) :
    RInv (rrun cfg (l.map RAct.sweep) s) ∧ RReach (rrun cfg (l.map RAct.sweep) s) ∧ RLive (rrun cfg (l.map RAct.sweep) s) := by
  rw [rrun, List.foldl_map]
  exact Util.foldl_inv (P := fun s => RInv s ∧ RReach s ∧ RLive s) (fun s t => (sweep_spec cfg true s t).all) l s h

theorem rrun_append (cfg : RCfg) (a b : List RAct) (s : RSt) : rrun cfg (a ++ b) s = rrun cfg b (rrun cfg a s) := by
  simp [rrun, List.foldl_append]

theorem sweeps_empty_holds (cfg : RCfg) : ∀ (l : List Nat) (s : RSt), s.holds = l → (∀ t, s.reach t = false) →
    (rrun cfg (l.map RAct.sweep) s).holds = [] ∧ (rrun cfg (l.map RAct.sweep) s).transit = s.transit ∧
      (∀ t, (rrun cfg (l.map RAct.sweep) s).reach t = false) := by
  intro l
  induction l with
  | nil => intro s hh hre; simp [rrun, hh, hre]
  | cons t ts ih =>
    intro s hh hre
    have hstep := rstep_sweep cfg s t (by rw [hh]; exact List.mem_cons_self) (hre t)
    have e : rrun cfg ((t :: ts).map RAct.sweep) s = rrun cfg (ts.map RAct.sweep) (rstep cfg s (.sweep t)) := rfl
    rw [e, hstep]
    have herase : s.holds.erase t = ts := by rw [hh]; simp
    exact ih { s with holds := s.holds.erase t, refcount := s.refcount - 1, freed := s.freed || (s.refcount - 1 == 0) }
      herase hre

theorem rstep_discard (cfg : RCfg) (s : RSt) (ht : s.transit ≠ 0) :
    (rstep cfg s .discard).transit = s.transit - 1 ∧ (rstep cfg s .discard).holds = s.holds := by
  cases hd : cfg.deinitDecref <;> simp [rstep, ht, hd]

theorem discards_empty_transit (cfg : RCfg) : ∀ (n : Nat) (s : RSt), s.transit = n →
    (rrun cfg (List.replicate n RAct.discard) s).transit = 0 ∧ (rrun cfg (List.replicate n RAct.discard) s).holds = s.holds := by
  intro n
  induction n with
  | zero => intro s h; simp [rrun, h]
  | succ n ih =>
    intro s h
    obtain ⟨h1, h2⟩ := rstep_discard cfg s (by omega)
    have := ih (rstep cfg s .discard) (by omega)
    exact ⟨this.1, this.2.trans h2⟩

end JanetModel.Props.C08
