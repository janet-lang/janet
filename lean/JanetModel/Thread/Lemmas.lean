/- C08 - invariants of the threaded-channel model over all interleavings: conservation of items up to delivery, the ghost
   counters, hand-out order = give order. -/
import JanetModel.Thread.Step

namespace JanetModel.Thread

/-- every sent item is in exactly one of: the `items` queue, a pipe message in flight, delivered -/
def Conserved (s : St) : Prop :=
  ∀ x : Item, s.sent.countP (· == x) =
    s.items.countP (· == x) + s.flight.countP (fun m => m.item == some x) + s.delivered.countP (fun d => d.2 == x)

@[simp] theorem item_read (l f c : Nat) (x : Item) : (Msg.mk l f c (.read x)).item = some x := rfl
@[simp] theorem item_write (l f c : Nat) : (Msg.mk l f c .write).item = none := rfl
@[simp] theorem item_close (l f c : Nat) : (Msg.mk l f c .close).item = none := rfl
@[simp] theorem task_item_item (t f c : Nat) (x : Item) : (Task.mk t f c (.item x)).item = some x := rfl
@[simp] theorem task_item_wake (t f c : Nat) (k : Kind) : (Task.mk t f c (.wake k)).item = none := rfl
@[simp] theorem task_item_other (t f c : Nat) : (Task.mk t f c .other).item = none := rfl

theorem Msg.item_of_read {m : Msg} {x : Item} (h : m.kind = .read x) : m.item = some x := by simp [Msg.item, h]

structure CbKeeps (s s' : St) : Prop where
  log : s'.log = s.log
  sent : s'.sent = s.sent
  abandons : s'.abandons = s.abandons
  dropped : s'.dropped = s.dropped
  stale : s.staleReads ≤ s'.staleReads

theorem CbOut.keeps {cfg : Cfg} {s s' : St} {m : Msg} (h : CbOut cfg s m s') : CbKeeps s s' := by
  by_cases ha : Accepts cfg s m
  · cases h.acc ha <;> exact ⟨rfl, rfl, rfl, rfl, by simp⟩
  · cases h.stale ha <;> exact ⟨rfl, rfl, rfl, rfl, by simp⟩

theorem conserved_init (l : Nat) : Conserved (init l) := by
  intro x; simp [init]

theorem closeMsgs_item (t : Nat) (ps : List Pending) : ∀ m ∈ closeMsgs t ps, m.item = none := by
  induction ps with
  | nil => simp [closeMsgs]
  | cons p ps ih =>
    unfold closeMsgs
    split
    · exact ih
    · intro m hm
      rcases List.mem_cons.mp hm with rfl | hm
      · rfl
      · exact ih m hm

theorem closeLocal_item (t : Nat) : ∀ (ps : List Pending) (g : Nat → Nat), ∀ k ∈ (closeLocal t g ps).2.2, k.item = none := by
  intro ps
  induction ps with
  | nil => intro g; simp [closeLocal]
  | cons p ps ih =>
    intro g
    unfold closeLocal
    split
    · intro k hk
      rcases List.mem_cons.mp hk with rfl | hk
      · rfl
      · exact ih _ k hk
    · exact ih g

theorem closeMsgs_countP (t : Nat) (y : Item) (ps : List Pending) :
    (closeMsgs t ps).countP (fun m => m.item == some y) = 0 :=
  List.countP_eq_zero.mpr (fun m hm => by simp [closeMsgs_item t ps m hm])

/-- number of copies of item `y` held by the channel machinery -/
def total (y : Item) (s : St) : Nat :=
  s.items.countP (· == y) + s.flight.countP (fun m => m.item == some y) + s.delivered.countP (fun d => d.2 == y)

theorem conserved_iff (s : St) : Conserved s ↔ ∀ y, s.sent.countP (· == y) = total y s := Iff.rfl

/-- janet_thread_chan_cb neither loses nor duplicates the item it was handed, provided it re-dispatches stale read messages
    and puts the item back when no reader waits - or provided the message was not stale -/
theorem CbOut.total_eq {cfg : Cfg} {s s' : St} {m : Msg} (h : CbOut cfg s m s') (y : Item)
    (hok : (cfg.requeue = true ∧ cfg.redispatch = true) ∨ s'.staleReads = s.staleReads) :
    total y s' = total y s + (if m.item == some y then 1 else 0) := by
  by_cases ha : Accepts cfg s m
  · cases h.acc ha with
    | deliver x hk => simp [total, Msg.item_of_read hk, List.countP_append, List.countP_cons]; omega
    | wake hi => simp [total, hi]
  · cases h.stale ha with
    | ignore hi => simp [hi]
    | forwardRead x r rs hk => simp [total, Msg.item_of_read hk, List.countP_append, List.countP_cons]; omega
    | requeue x hk =>
      by_cases hh : cfg.requeueHead = true <;>
        simp [total, Msg.item_of_read hk, hh, List.countP_append, List.countP_cons] <;> omega
    | lose x _ hn =>
      rcases hok with ⟨hq, hd⟩ | hz
      · exact absurd ((hn hd).2 ▸ hq) (by decide)
      · exact absurd hz (Nat.succ_ne_self _)
    | forwardWrite w ws hk => simp [total, Msg.item, hk, List.countP_append]

theorem StepOut.conserved {cfg : Cfg} {s s' : St} (h : StepOut cfg s s')
    (hok : (cfg.requeue = true ∧ cfg.redispatch = true) ∨ s'.staleReads = s.staleReads) (hc : Conserved s) : Conserved s' := by
  intro y
  have hy := hc y
  cases h with
  | idle | takeClosed | takePend | abandonRun | abandonWait => exact hy
  | giveDispatch | giveQueue | givePark => simp [List.countP_append, List.countP_cons] at hy ⊢; omega
  | takeDirect _ _ _ _ _ _ hi | takeDirectWake _ _ _ _ _ _ _ _ hi =>
    simp [hi, List.countP_append, List.countP_cons] at hy ⊢; omega
  | close => simp [List.countP_append, closeMsgs_countP] at hy ⊢; omega
  | handle a b m _ hfl _ hcb =>
    show List.countP (· == y) s'.sent = total y s'
    rw [hcb.keeps.sent, hcb.total_eq y hok]
    show List.countP (· == y) s.sent = _
    rw [hy, hfl]
    simp only [total, List.countP_append, List.countP_cons]
    omega
  | resume _ _ _ _ _ _ hr => cases hr <;> exact hy

theorem run_conserved (cfg : Cfg) (hq : cfg.requeue = true) (hd : cfg.redispatch = true) :
    ∀ (acts : List Act) (s : St), Conserved s → Conserved (run cfg acts s) :=
  Util.foldl_inv (P := Conserved) (fun s a => (step_spec cfg s a).conserved (Or.inl ⟨hq, hd⟩))

theorem gaveSeq_append (a b : List Ev) : gaveSeq (a ++ b) = gaveSeq a ++ gaveSeq b := by simp [gaveSeq]
theorem gotAll_append (a b : List Ev) : gotAll (a ++ b) = gotAll a ++ gotAll b := by simp [gotAll]
@[simp] theorem gotAll_gave (f : Nat) (x : Item) : gotAll [.gave f x] = [] := rfl
@[simp] theorem gotAll_got (f : Nat) (x : Item) : gotAll [.got f x] = [(f, x)] := rfl

theorem gaveSeq_map_got (f : Nat) (l : List Item) : gaveSeq (l.map (Ev.got f)) = [] := by
  induction l with
  | nil => rfl
  | cons x l ih => exact ih

theorem gotAll_map_got (f : Nat) (l : List Item) : gotAll (l.map (Ev.got f)) = l.map (Prod.mk f) := by
  induction l with
  | nil => rfl
  | cons x l ih => exact congrArg ((f, x) :: ·) ih

structure Ghost (s s' : St) : Prop where
  stale : s.staleReads ≤ s'.staleReads
  abandons : s.abandons ≤ s'.abandons
  logOK : gaveSeq s.log = s.sent → gaveSeq s'.log = s'.sent

theorem StepOut.ghost {cfg : Cfg} {s s' : St} (h : StepOut cfg s s') : Ghost s s' := by
  cases h with
  | idle | takeClosed | takePend | takeDirect | takeDirectWake | close | abandonRun => exact ⟨Nat.le_refl _, Nat.le_refl _, id⟩
  | giveDispatch | giveQueue | givePark =>
    exact ⟨Nat.le_refl _, Nat.le_refl _, fun h => by simp only [gaveSeq_append, h]; rfl⟩
  | abandonWait => exact ⟨Nat.le_refl _, Nat.le_succ _, id⟩
  | handle _ _ _ _ _ _ hcb =>
    have k := hcb.keeps
    exact ⟨k.stale, Nat.le_of_eq k.abandons.symm, fun h => by rw [k.log, k.sent]; exact h⟩
  | resume _ _ _ _ _ _ hr =>
    cases hr with
    | run => exact ⟨Nat.le_refl _, Nat.le_refl _, fun h => by rw [← h, gaveSeq_append, gaveSeq_map_got]; exact List.append_nil _⟩
    | skip => exact ⟨Nat.le_refl _, Nat.le_refl _, id⟩

theorem run_logOK (cfg : Cfg) : ∀ (acts : List Act) (s : St), gaveSeq s.log = s.sent →
    gaveSeq (run cfg acts s).log = (run cfg acts s).sent :=
  Util.foldl_inv (P := fun s => gaveSeq s.log = s.sent) (fun s a => (step_spec cfg s a).ghost.logOK)

/-- an invariant whose step lemma needs a ghost counter to stand still holds along every run that leaves the counter where it was -/
theorem run_of_const (cfg : Cfg) (c : St → Nat) (P : St → Prop) (hmono : ∀ s a, c s ≤ c (step cfg s a))
    (hstep : ∀ s a, c (step cfg s a) = c s → P s → P (step cfg s a)) (acts : List Act) (s : St)
    (hz : c (run cfg acts s) = c s) (h : P s) : P (run cfg acts s) :=
  (Util.foldl_inv (P := fun s' => c s ≤ c s' ∧ (c s' = c s → P s'))
    (fun s' a h' => ⟨Nat.le_trans h'.1 (hmono s' a), fun e =>
      have := hmono s' a
      hstep s' a (by omega) (h'.2 (by omega))⟩) acts s ⟨Nat.le_refl _, fun _ => h⟩).2 hz

theorem run_conserved_partial (cfg : Cfg) :
    ∀ (acts : List Act) (s : St), (run cfg acts s).staleReads = s.staleReads → Conserved s → Conserved (run cfg acts s) :=
  run_of_const cfg St.staleReads Conserved (fun s a => (step_spec cfg s a).ghost.stale)
    (fun s a hz => (step_spec cfg s a).conserved (Or.inr hz))

/-- items leave the channel (are taken directly or dispatched to a pending reader) in the order in which they were given -/
def Fifo (s : St) : Prop :=
  (s.readers = [] ∨ s.items = []) ∧ s.handed.map Prod.snd ++ s.items = s.sent

theorem CbOut.fifo {cfg : Cfg} {s s' : St} {m : Msg} (h : CbOut cfg s m s') (hz : s'.staleReads = s.staleReads) (hf : Fifo s) :
    Fifo s' := by
  by_cases ha : Accepts cfg s m
  · cases h.acc ha <;> exact hf
  · cases h.stale ha with
    | ignore | forwardWrite => exact hf
    | forwardRead | requeue | lose => exact absurd hz (Nat.succ_ne_self _)

theorem StepOut.fifo {cfg : Cfg} {s s' : St} (h : StepOut cfg s s') (hz : s'.staleReads = s.staleReads) (hf : Fifo s) :
    Fifo s' := by
  obtain ⟨h1, h2⟩ := hf
  cases h with
  | idle | takeClosed | abandonRun | abandonWait => exact ⟨h1, h2⟩
  | giveDispatch f x r rs _ hr =>
    have hi : s.items = [] := h1.resolve_left (by simp [hr])
    exact ⟨Or.inr hi, by simp [← h2, hi]⟩
  | giveQueue _ _ _ hr | givePark _ _ _ _ _ hr => exact ⟨Or.inl hr, by simp [← h2]⟩
  | takePend _ _ _ _ hi => exact ⟨Or.inr hi, h2⟩
  | takeDirect _ _ _ _ _ _ hi | takeDirectWake _ _ _ _ _ _ _ _ hi =>
    have hr : s.readers = [] := h1.resolve_right (by simp [hi])
    exact ⟨Or.inl hr, by simp [← h2, hi]⟩
  | close => exact ⟨Or.inl rfl, h2⟩
  | handle _ _ _ _ _ _ hcb => exact hcb.fifo hz ⟨h1, h2⟩
  | resume _ _ _ _ _ _ hr => cases hr <;> exact ⟨h1, h2⟩

theorem run_fifo (cfg : Cfg) :
    ∀ (acts : List Act) (s : St), (run cfg acts s).staleReads = s.staleReads → Fifo s → Fifo (run cfg acts s) :=
  run_of_const cfg St.staleReads Fifo (fun s a => (step_spec cfg s a).ghost.stale) (fun s a => (step_spec cfg s a).fifo)

end JanetModel.Thread
