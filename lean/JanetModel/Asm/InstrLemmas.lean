/-
asm ∘ disasm on instruction words: for every opcode of the generated table, reassembling the disassembly of a canonical word
gives the word back; lifted to bytecode arrays.
-/
import JanetModel.Asm.Instr
import JanetModel.Asm.OperandLemmas

namespace JanetModel.Asm
open JanetModel.Gen.Asm JanetModel.Gen.Bytecode

theorem or_mul_pow (a b k : Nat) (ha : a < 2 ^ k) : a ||| (b * 2 ^ k) = a + b * 2 ^ k := by
  have h := Nat.shiftLeft_add_eq_or_of_lt ha b
  rw [Nat.shiftLeft_eq] at h
  rw [Nat.or_comm, ← h, Nat.add_comm]

/-- the bits of `w` that belong to field `f`, in place -/
def rawShift (f : Field) (w : Nat) : Nat := (w / 2 ^ (8 * f.nth) % 2 ^ (8 * f.nbytes)) * 2 ^ (8 * f.nth)

/-- **one operand, disasm then asm**: whatever the disassembler reads out of a field, the assembler accepts and puts back in
place -/
theorem doarg_fieldRead (f : Field) (hf : FieldTop f) (w : Nat) :
    doarg f (fieldRead f w) = some (rawShift f w) := by
  obtain ⟨hf, top⟩ := hf
  obtain ⟨lo, hi⟩ := range_of_encodable f _ (encodable_fieldRead f hf w)
  rw [doarg_of_range f (by have := hf.2.2; omega) _ lo hi, rawShift]
  congr 2
  unfold fieldRead
  have lt := Nat.mod_lt (w / 2 ^ (8 * f.nth)) (Nat.two_pow_pos (8 * f.nbytes))
  cases hs : f.signed
  · simp only [Bool.false_eq_true, false_and, if_false]
    have : 2 ^ (8 * f.nbytes) ≤ 2 ^ (32 - 8 * f.nth) := Nat.pow_le_pow_right (by omega) (by have := hf.2.2; omega)
    rw [Int.emod_eq_of_lt (by omega) (by omega)]; omega
  · -- a signed field reaches the top of the word, so `doarg` keeps exactly its `8 * nbytes` bits
    have : 32 - 8 * f.nth = 8 * f.nbytes := by have := top hs; omega
    simp only [true_and, this, two_pow_bits_int f hf]
    rw [two_pow_bits f hf] at lt ⊢
    simpa only [ge_iff_le, ← Nat.not_lt, ite_not] using Util.wrap_sext _ _ lt

def orAll : List Nat → Nat
  | [] => 0
  | x :: xs => x ||| orAll xs

theorem encodeArgs_read (w : Nat) :
    ∀ (fs : List Field), (∀ f ∈ fs, FieldTop f) → encodeArgs fs (fs.map fun f => fieldRead f w) = some (orAll (fs.map fun f => rawShift f w)) := by
  intro fs
  induction fs with
  | nil => intro _; rfl
  | cons f fs ih =>
    intro h
    simp only [List.map, encodeArgs, doarg_fieldRead f (h f (by simp)) w, ih (fun g hg => h g (by simp [hg])), orAll]

def ofNatOK (n : Nat) : Bool :=
  match Op.ofNat? n with
  | some op => op.toNat == n
  | none => true

theorem toNat_of_ofNat : ∀ n, n < 128 → ∀ op, Op.ofNat? n = some op → op.toNat = n := by
  have h : ∀ n, n < 128 → ofNatOK n = true := by decide +kernel
  intro n hn op ho
  have := h n hn
  simp only [ofNatOK, ho, beq_iff_eq] at this
  exact this

/-- for JINT_S the disassembler reads 24 bits where the assembler writes 16: the same value when the top byte is 0 -/
theorem s_field_eq (w : Nat) (h : w / 16777216 = 0) :
    (decodeFieldsOf .s).map (fun f => fieldRead f w) = (fieldsOf .s).map (fun f => fieldRead f w) := by
  simp [decodeFieldsOf, fieldsOf, fieldRead]
  omega

/-! the operand fields of an instruction type lie side by side from byte 1 on, so their contents ored together are the word
without its opcode byte -/

def Adjacent : Nat → List Field → Nat → Prop
  | k, [], e => k = e
  | k, f :: fs, e => f.nth = k ∧ Adjacent (k + f.nbytes) fs e

theorem orAll_adjacent (w : Nat) : ∀ (fs : List Field) (k e : Nat), Adjacent k fs e → w / 2 ^ (8 * e) = 0 →
    orAll (fs.map fun f => rawShift f w) = w / 2 ^ (8 * k) * 2 ^ (8 * k)
  | [], k, e, h, hw => by rw [show k = e from h, hw]; exact (Nat.zero_mul _).symm
  | f :: fs, k, e, ⟨hk, h⟩, hw => by
    have hd : w / 2 ^ (8 * (k + f.nbytes)) = w / 2 ^ (8 * k) / 2 ^ (8 * f.nbytes) := by
      rw [Nat.div_div_eq_div_mul, ← Nat.pow_add, Nat.mul_add]
    have hp : 2 ^ (8 * (k + f.nbytes)) = 2 ^ (8 * f.nbytes) * 2 ^ (8 * k) := by rw [← Nat.pow_add, Nat.mul_add, Nat.add_comm]
    have lt : w / 2 ^ (8 * k) % 2 ^ (8 * f.nbytes) * 2 ^ (8 * k) < 2 ^ (8 * (k + f.nbytes)) := by
      rw [hp]; exact Nat.mul_lt_mul_of_pos_right (Nat.mod_lt _ (Nat.two_pow_pos _)) (Nat.two_pow_pos _)
    rw [List.map, orAll, orAll_adjacent w fs _ e h hw, rawShift, hk, or_mul_pow _ _ _ lt, hd, hp, ← Nat.mul_assoc,
      ← Nat.add_mul, Nat.mul_comm (_ / _) (2 ^ (8 * f.nbytes)), Nat.mod_add_div]

def fieldsEnd : IType → Nat
  | .none_ => 1
  | .s => 3
  | _ => 4

theorem fields_adjacent (t : IType) : Adjacent 1 (fieldsOf t) (fieldsEnd t) := by
  cases t <;> simp [Adjacent, fieldsOf, fieldsEnd]

theorem canon_top (t : IType) (w : Nat) (hw : w < 4294967296) (hc : canonArgs t w) : w / 2 ^ (8 * fieldsEnd t) = 0 := by
  cases t <;> first | exact hc | exact Nat.div_eq_of_lt hw

/-- **one instruction word, disasm then asm** (arithmetic core): opcode number and canonicity given -/
theorem encode_decodeArgs (w : Nat) (hw : w < 4294967296) (hbp : w % 256 < 128) (op : Op) (hn : op.toNat = w % 128)
    (hcan : canonArgs op.itype w) : encode op (decodeArgs op.itype w) = some w := by
  rw [encode, decodeArgs, hn]
  generalize op.itype = t at hcan ⊢
  have e : (decodeFieldsOf t).map (fun f => fieldRead f w) = (fieldsOf t).map (fun f => fieldRead f w) := by
    cases t <;> first | rfl | exact s_field_eq w hcan
  rw [e, encodeArgs_read w _ (fields_top t), orAll_adjacent w _ 1 _ (fields_adjacent t) (canon_top t w hw hcan), Option.map,
    or_mul_pow _ _ _ (by omega)]
  congr 1
  omega

/-- **one instruction word, disasm then asm**: for every opcode of the generated table and every canonical word, assembling
what `janet_asm_decode_instruction` produced gives the word back -/
theorem encode_decode (w : Nat) (hc : Canonical w) (op : Op) (args : List Int) (hd : decode w = some (op, args)) :
    encode op args = some w := by
  obtain ⟨hw, hbp, hcan⟩ := hc
  unfold decode at hd
  cases ho : Op.ofNat? (w % 128) with
  | none => rw [ho] at hd; cases hd
  | some op' =>
    rw [ho] at hd hcan
    simp only [Option.some.injEq, Prod.mk.injEq] at hd
    obtain ⟨rfl, rfl⟩ := hd
    exact encode_decodeArgs w hw hbp op' (toNat_of_ofNat (w % 128) (by omega) op' ho) hcan

/-- **whole bytecode array**: `asm (disasm bytecode) = bytecode` when every word is canonical -/
theorem asm_disasm_bytecode (ws : List Nat) (h : ∀ w ∈ ws, Canonical w) : asmBytecode (disasmBytecode ws) = some ws := by
  induction ws with
  | nil => rfl
  | cons w ws ih =>
    have hc := h w (by simp)
    have hrest := ih (fun x hx => h x (by simp [hx]))
    simp only [disasmBytecode, List.map] at hrest ⊢
    cases hd : decode w with
    | none =>
      obtain ⟨_, _, hcan⟩ := hc
      unfold decode at hd
      cases ho : Op.ofNat? (w % 128) with
      | none => rw [ho] at hcan; exact hcan.elim
      | some op => rw [ho] at hd; cases hd
    | some p =>
      obtain ⟨op, args⟩ := p
      simp only [asmBytecode, encode_decode w hc op args hd, hrest]

end JanetModel.Asm
