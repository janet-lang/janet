/-
asm ∘ disasm at funcdef level: the funcdef `janet_asm1` builds from `janet_disasm d` passes `janet_verify` whenever `d` does,
and its slot count is the least one janet_verify accepts for these operands.
-/
import JanetModel.Asm.Def
import JanetModel.Asm.InstrLemmas

namespace JanetModel.Asm
open JanetModel.Gen.Asm JanetModel.Gen.AsmDef JanetModel.Gen.Bytecode

/-! ### folds that raise a bound

`janet_asm1` computes the slot count by raising it, element by element, just enough to cover the element: a slot operand, the
slot operands of an instruction, the slot of a named local.  Such a fold ends at the least bound above the start that covers
every element. -/

structure Raises {α : Type} (step : Int → α → Int) (Covers : α → Int → Prop) : Prop where
  ge : ∀ s a, s ≤ step s a
  covers : ∀ s a, Covers a (step s a)
  mono : ∀ a B B', Covers a B → B ≤ B' → Covers a B'
  le : ∀ s a B, s ≤ B → Covers a B → step s a ≤ B

namespace Raises
variable {α β : Type} {step : Int → α → Int} {Covers : α → Int → Prop} (h : Raises step Covers)
include h

theorem foldl_ge : ∀ (l : List α) (s : Int), s ≤ l.foldl step s
  | [], s => Int.le_refl s
  | a :: l, s => Int.le_trans (h.ge s a) (foldl_ge l _)

theorem foldl_covers : ∀ (l : List α) (s : Int), ∀ a ∈ l, Covers a (l.foldl step s)
  | b :: l, s, a, ha => by
    rcases List.mem_cons.1 ha with rfl | hm
    · exact h.mono a _ _ (h.covers s a) (h.foldl_ge l _)
    · exact foldl_covers l _ a hm

theorem foldl_le : ∀ (l : List α) (s B : Int), s ≤ B → (∀ a ∈ l, Covers a B) → l.foldl step s ≤ B
  | [], _, _, h1, _ => h1
  | b :: l, s, B, h1, h2 =>
    foldl_le l _ B (h.le s b B h1 (h2 b List.mem_cons_self)) fun a ha => h2 a (List.mem_cons_of_mem _ ha)

/-- folding such a step over a list read off each element is such a step again -/
theorem foldl (f : β → List α) : Raises (fun s b => (f b).foldl step s) (fun b B => ∀ a ∈ f b, Covers a B) :=
  ⟨fun s b => h.foldl_ge _ s, fun s b => h.foldl_covers _ s, fun _ B B' hc hB a ha => h.mono a B B' (hc a ha) hB,
   fun s b B h1 h2 => h.foldl_le _ s B h1 h2⟩

end Raises

theorem raises_scStep : Raises scStep (fun a B => a < B) :=
  ⟨fun s a => by unfold scStep; split <;> omega, fun s a => by unfold scStep; split <;> omega,
   fun _ _ _ h1 h2 => Int.lt_of_lt_of_le h1 h2, fun s a B h1 h2 => by unfold scStep; split <;> omega⟩

/-- `scBytecode` is the fold of the per-instruction folds -/
theorem raises_scWord : Raises (fun s w => (slotArgsW w).foldl scStep s) (fun w B => ∀ a ∈ slotArgsW w, a < B) :=
  raises_scStep.foldl slotArgsW

theorem scBytecode_cons (sc : Int) (w : Nat) (ws : List Nat) :
    scBytecode sc (w :: ws) = scBytecode ((slotArgsW w).foldl scStep sc) ws := rfl

/-- the assembler counts symbol-map slots (generated flag; false on a tree whose janet_asm1 lacks the statement) -/
theorem sym_counts : symbolmapCountsSlots = true := rfl

/-- the symbol-map loop: an entry that is born and whose slot is a slot number raises the count above its slot -/
theorem raises_symStep :
    Raises symStep (fun e B => e.birth ≠ 4294967295 → e.slot < 2147483647 → (e.slot : Int) < B) := by
  refine ⟨fun s e => ?_, fun s e hb hs => ?_, fun _ _ _ h1 h2 hb hs => Int.lt_of_lt_of_le (h1 hb hs) h2, fun s e B h1 h2 => ?_⟩
  · unfold symStep; split
    · rename_i h; simp only [Bool.and_eq_true, decide_eq_true_eq] at h; omega
    · omega
  · unfold symStep
    by_cases h : (e.slot : Int) ≥ s
    · rw [if_pos (by simp [sym_counts, hb, hs, h])]; omega
    · rw [if_neg (by simp [h])]; omega
  · unfold symStep; split
    · rename_i h; simp only [Bool.and_eq_true, decide_eq_true_eq] at h; have := h2 h.1.1.2 h.1.2; omega
    · exact h1

theorem canonical_op (w : Nat) (hc : Canonical w) : ∃ op, Op.ofNat? (w % 128) = some op := by
  obtain ⟨_, _, hcan⟩ := hc
  cases ho : Op.ofNat? (w % 128) with
  | none => rw [ho] at hcan; exact hcan.elim
  | some op => exact ⟨op, rfl⟩

theorem asmBytecodeSC_disasm (ws : List Nat) (h : ∀ w ∈ ws, Canonical w) (sc : Int) :
    asmBytecodeSC sc (disasmBytecode ws) = some (ws, scBytecode sc ws) := by
  induction ws generalizing sc with
  | nil => rfl
  | cons w ws ih =>
    have hc := h w (by simp)
    obtain ⟨op, ho⟩ := canonical_op w hc
    have hd : decode w = some (op, decodeArgs op.itype w) := by unfold decode; rw [ho]
    have he := encode_decode w hc op _ hd
    have hs : scArgs op.itype (decodeArgs op.itype w) sc = (slotArgsW w).foldl scStep sc := by
      unfold scArgs slotArgsW; rw [ho]
    have hrest := ih (fun x hx => h x (by simp [hx])) ((slotArgsW w).foldl scStep sc)
    simp only [disasmBytecode, List.map] at hrest ⊢
    simp only [asmBytecodeSC, hd, asmInstr, he, Option.map, hs, hrest, scBytecode_cons]

theorem vCode_ne (k : VKind) : vCode k ≠ 0 := by cases k <;> simp [vCode]

theorem checkList_zero (d : FDef) (i w : Nat) (cs : List VCheck) :
    checkList d i w cs = 0 ↔ ∀ c ∈ cs, vFails d i w c = false := by
  induction cs with
  | nil => simp [checkList]
  | cons c cs ih =>
    simp only [checkList, List.mem_cons, forall_eq_or_imp]
    cases hf : vFails d i w c with
    | true => simp [vCode_ne]
    | false => simpa using ih

theorem verifyLoop_zero (d : FDef) (ws : List Nat) (i : Nat) :
    verifyLoop d i ws = 0 ↔ ∀ k (hk : k < ws.length), checkInstr d (i + k) ws[k] = 0 := by
  induction ws generalizing i with
  | nil => simp [verifyLoop]
  | cons w ws ih =>
    simp only [verifyLoop]
    by_cases h0 : checkInstr d i w = 0
    · simp only [h0, ne_eq, not_true_eq_false, if_false]
      rw [ih]
      constructor
      · intro h k hk
        cases k with
        | zero => simpa using h0
        | succ k =>
          have := h k (by simpa using hk)
          simpa [Nat.add_assoc, Nat.add_comm 1 k] using this
      · intro h k hk
        have := h (k + 1) (by simpa using hk)
        simpa [Nat.add_assoc, Nat.add_comm 1 k] using this
    · rw [if_pos h0]
      constructor
      · intro h; exact absurd h h0
      · intro h
        have := h 0 (by simp)
        simp only [List.getElem_cons_zero, Nat.add_zero] at this
        exact absurd this h0

/-- everything `janet_verify` demands -/
structure VerifyOK (d : FDef) : Prop where
  nonempty : d.bytecode.length ≠ 0
  sc_range : 0 ≤ d.slotcount ∧ d.slotcount ≤ maxSlotcount
  arity : 0 ≤ d.arity ∧ d.arity ≤ d.slotcount
  minmax : 0 ≤ d.minArity ∧ d.minArity ≤ d.maxArity
  maxslot : d.arity + (if d.vararg then 1 else 0) ≤ d.slotcount
  instrs : verifyLoop d 0 d.bytecode = 0
  syms : d.symbolmap.any (symFails d) = false
  last : ∃ w, d.bytecode.getLast? = some w ∧ w % 256 ∈ terminalOps

theorem verify_zero_iff (d : FDef) : verify d = 0 ↔ VerifyOK d := by
  unfold verify
  constructor
  · intro h
    by_cases h1 : d.bytecode.length = 0
    · simp [h1] at h
    by_cases h2 : d.slotcount < 0 ∨ d.slotcount > maxSlotcount
    · simp [h1, h2] at h
    by_cases h3 : d.arity < 0 ∨ d.arity > d.slotcount
    · simp [h1, h2, h3] at h
    by_cases h4 : d.minArity < 0 ∨ d.minArity > d.maxArity
    · simp [h1, h2, h3, h4] at h
    by_cases h5 : d.arity + (if d.vararg then 1 else 0) > d.slotcount
    · simp [h1, h2, h3, h4, h5] at h
    rw [if_neg h1, if_neg h2, if_neg h3, if_neg h4, if_neg h5] at h
    by_cases h6 : verifyLoop d 0 d.bytecode = 0
    · simp only [h6, ne_eq, not_true_eq_false, if_false] at h
      cases h7 : d.symbolmap.any (symFails d) with
      | true => simp [h7] at h
      | false =>
        simp only [h7, Bool.false_eq_true, if_false] at h
        cases h8 : d.bytecode.getLast? with
        | none => simp [h8] at h
        | some w =>
          simp only [h8] at h
          by_cases h9 : w % 256 ∈ terminalOps
          · exact ⟨h1, by omega, by omega, by omega, by omega, h6, h7, w, h8, h9⟩
          · simp [h9] at h
    · simp only [ne_eq, h6, not_false_eq_true, if_true] at h
  · intro ⟨h1, h2, h3, h4, h5, h6, h7, w, h8, h9⟩
    rw [if_neg h1, if_neg (by omega), if_neg (by omega), if_neg (by omega), if_neg (by omega)]
    simp [h6, h7, h8, h9]

theorem sel_mem (a : Int) : ∀ (ks : List Bool) (as : List Int), a ∈ sel ks as → a ∈ as
  | true :: ks, b :: as, h => by
    rw [sel] at h
    rcases List.mem_cons.1 h with rfl | h
    · exact List.mem_cons_self
    · exact List.mem_cons_of_mem _ (sel_mem a ks as h)
  | false :: ks, b :: as, h => List.mem_cons_of_mem _ (sel_mem a ks as (by rwa [sel] at h))
  | [], _, h => by simp [sel] at h
  | _ :: _, [], h => by simp [sel] at h

theorem fieldRead_unsigned (n b : Nat) (w : Nat) : fieldRead ⟨n, b, false⟩ w = ((w / 2 ^ (8 * n) % 2 ^ (8 * b) : Nat) : Int) := by
  simp only [fieldRead, Bool.false_eq_true, false_and, if_false]

/-- the slot operands the assembler counts are those janet_verify compares with the slot count (the third operand of a JINT_SES
instruction — `ldu` / `setu`: a slot of a *captured* frame — is in neither list: it is counted in an enclosing assembler) -/
theorem slotArgs_eq_checks (t : IType) (w : Nat) (hw : w < 4294967296) :
    sel (slotOperandOf t) (decodeArgs t w)
      = ((verifyChecksOf t).filter fun c => c.kind = .slot).map fun c => (vOperand c w : Int) := by
  -- the verifier does not mask the last operand of a word; below 2^32 the mask changes nothing
  have e3 : w / 256 % 16777216 = w / 256 := Nat.mod_eq_of_lt (by omega)
  have e2 : w / 65536 % 65536 = w / 65536 := Nat.mod_eq_of_lt (by omega)
  cases t <;>
    simp only [verifyChecksOf, slotOperandOf, decodeArgs, decodeFieldsOf, sel, List.map, List.filter, fieldRead_unsigned, vOperand,
      decide_true, decide_false, reduceCtorEq, Nat.reduceMul, Nat.reducePow, e3, e2, if_true, if_false, Bool.false_eq_true]

/-- what the assembler counted covers what janet_verify compares with the slot count -/
theorem slot_checks_of_args (t : IType) (w : Nat) (hw : w < 4294967296) (S : Int)
    (h : ∀ a ∈ sel (slotOperandOf t) (decodeArgs t w), a < S) :
    ∀ c ∈ verifyChecksOf t, c.kind = .slot → (vOperand c w : Int) < S := by
  intro c hc hk
  apply h
  rw [slotArgs_eq_checks t w hw]
  exact List.mem_map.2 ⟨c, List.mem_filter.2 ⟨hc, decide_eq_true hk⟩, rfl⟩

theorem args_of_slot_checks (t : IType) (w : Nat) (hw : w < 4294967296) (d : FDef) (i : Nat)
    (h : ∀ c ∈ verifyChecksOf t, vFails d i w c = false) :
    ∀ a ∈ sel (slotOperandOf t) (decodeArgs t w), a < d.slotcount := by
  intro a ha
  rw [slotArgs_eq_checks t w hw] at ha
  obtain ⟨c, hc, rfl⟩ := List.mem_map.1 ha
  obtain ⟨hc, hk⟩ := List.mem_filter.1 hc
  have := h c hc
  rw [vFails, of_decide_eq_true hk] at this
  simpa using this

theorem fieldRead_lt (f : Field) (w : Nat) : fieldRead f w < (2 ^ (8 * f.nbytes) : Nat) := by
  have := Nat.mod_lt (w / 2 ^ (8 * f.nth)) (Nat.two_pow_pos (8 * f.nbytes))
  unfold fieldRead
  rw [show (2 : Int) ^ (8 * f.nbytes) = ((2 ^ (8 * f.nbytes) : Nat) : Int) by simp]
  simp only
  split <;> omega

theorem decode_fields_narrow : ∀ (t : IType) (f : Field), f ∈ decodeFieldsOf t → f.nbytes ≤ 3 := by
  intro t
  cases t <;> decide

theorem slotArgs_small (t : IType) (w : Nat) : ∀ a ∈ sel (slotOperandOf t) (decodeArgs t w), a < 16777216 := by
  intro a ha
  obtain ⟨f, hf, rfl⟩ := List.mem_map.1 (sel_mem a _ _ ha)
  have := fieldRead_lt f w
  have := Nat.pow_le_pow_right (n := 2) (by decide) (show 8 * f.nbytes ≤ 24 by have := decode_fields_narrow t f hf; omega)
  omega

/-- `d` with another slot count: comparisons that are not about slots are unaffected -/
theorem vFails_slotcount (d : FDef) (S : Int) (i w : Nat) (c : VCheck) (hk : c.kind ≠ .slot) :
    vFails { d with slotcount := S } i w c = vFails d i w c := by
  unfold vFails
  cases hc : c.kind <;> simp_all

theorem any_false {α} (l : List α) (p : α → Bool) : l.any p = false ↔ ∀ e ∈ l, p e = false := by
  induction l with
  | nil => simp
  | cons a l ih => simp [List.any_cons, ih]

/-- the `1` of `maxslot = arity + vargs` is in the assembler's initial slot count: needs the vararg flag to be set
before `def->slotcount` is initialised (generated `slotInitCountsVararg`) -/
theorem slotInit_eq (v : Bool) (a : Int) : slotInit v a = a + (if v then 1 else 0) := by
  unfold slotInit
  cases v <;> simp [slotInitCountsVararg] <;> omega

/-- janet_verify still accepts `d` after its slot count is replaced by any `S` that covers the parameters, the slot
operands the assembler counts and the symbol-map slots -/
theorem verify_resized (d : FDef) (hv : VerifyOK d) (hc : ∀ w ∈ d.bytecode, Canonical w) (S : Int)
    (hinit : d.arity + (if d.vararg then 1 else 0) ≤ S) (hmax : S ≤ maxSlotcount)
    (hslots : ∀ w ∈ d.bytecode, ∀ a ∈ slotArgsW w, a < S)
    (hsym : ∀ e ∈ d.symbolmap, e.birth ≠ 4294967295 → (e.slot : Int) < S) :
    VerifyOK { d with slotcount := S } := by
  obtain ⟨h1, h2, h3, h4, h5, h6, h7, h8⟩ := hv
  have hv0 : (0 : Int) ≤ (if d.vararg then 1 else 0) := by split <;> omega
  refine ⟨h1, ⟨by show 0 ≤ S; omega, hmax⟩, ⟨h3.1, by show d.arity ≤ S; omega⟩, h4, hinit, ?_, ?_, h8⟩
  · show verifyLoop { d with slotcount := S } 0 d.bytecode = 0
    rw [verifyLoop_zero] at h6 ⊢
    intro k hk
    have h0 := h6 k hk
    have hmem : d.bytecode[k] ∈ d.bytecode := List.getElem_mem hk
    obtain ⟨op, ho⟩ := canonical_op _ (hc _ hmem)
    unfold checkInstr at h0 ⊢
    rw [ho] at h0 ⊢
    simp only at h0 ⊢
    rw [checkList_zero] at h0 ⊢
    intro c hcm
    by_cases hk' : c.kind = .slot
    · have hb := slot_checks_of_args op.itype d.bytecode[k] (hc _ hmem).1 S
        (by have := hslots _ hmem; unfold slotArgsW at this; rw [ho] at this; exact this) c hcm hk'
      unfold vFails
      rw [hk']
      simp only [decide_eq_false_iff_not]
      show ¬ ((vOperand c d.bytecode[k] : Int) ≥ S)
      omega
    · rw [vFails_slotcount d S _ _ c hk']; exact h0 c hcm
  · show d.symbolmap.any (symFails { d with slotcount := S }) = false
    rw [any_false] at h7 ⊢
    intro e he
    have h0 := h7 e he
    unfold symFails at h0 ⊢
    by_cases hb : e.birth = 4294967295
    · rw [if_pos hb] at h0 ⊢; exact h0
    · rw [if_neg hb] at h0 ⊢
      have := hsym e he hb
      simp only [Bool.or_eq_false_iff, decide_eq_false_iff_not] at h0 ⊢
      refine ⟨⟨?_, h0.1.2⟩, h0.2⟩
      show ¬ ((e.slot : Int) ≥ S)
      omega

/-- the original slot count is the least one: the parameters fill it, or its last slot is an operand of some instruction or
the slot of a named local (what the compiler produces: `slotcount = ra.max + 1`) -/
def Tight (d : FDef) : Prop :=
  d.slotcount = d.arity + (if d.vararg then 1 else 0) ∨ (∃ w ∈ d.bytecode, (d.slotcount - 1) ∈ slotArgsW w) ∨
  ∃ e ∈ d.symbolmap, e.birth ≠ 4294967295 ∧ (e.slot : Int) = d.slotcount - 1

theorem sym_slots_lt (d : FDef) (hv : VerifyOK d) : ∀ e ∈ d.symbolmap, e.birth ≠ 4294967295 → (e.slot : Int) < d.slotcount := by
  intro e hm hb
  have h7 := (any_false _ _).1 hv.syms e hm
  unfold symFails at h7
  rw [if_neg hb] at h7
  simp only [Bool.or_eq_false_iff, decide_eq_false_iff_not] at h7
  omega

theorem bytecode_part_le (d : FDef) (hv : VerifyOK d) (hc : ∀ w ∈ d.bytecode, Canonical w) (extra : List Int) (B : Int)
    (hB : d.slotcount ≤ B) (hx : ∀ x ∈ extra, x < B) :
    scBytecode (extra.foldl scStep (slotInit d.vararg d.arity)) d.bytecode ≤ B := by
  refine raises_scWord.foldl_le _ _ B (raises_scStep.foldl_le _ _ B ?_ hx) fun w hw a ha => ?_
  · rw [slotInit_eq]; have := hv.maxslot; omega
  · 
    obtain ⟨k, hk, rfl⟩ := List.getElem_of_mem hw
    have h0 := (verifyLoop_zero d d.bytecode 0).1 hv.instrs k hk
    obtain ⟨op, ho⟩ := canonical_op _ (hc _ hw)
    unfold checkInstr at h0
    unfold slotArgsW at ha
    rw [ho] at h0 ha
    simp only at h0
    rw [checkList_zero] at h0
    have := args_of_slot_checks op.itype _ (hc _ hw).1 d _ h0 a ha
    omega

theorem asmSlotcountX_le (d : FDef) (hv : VerifyOK d) (hc : ∀ w ∈ d.bytecode, Canonical w) (extra : List Int) (B : Int)
    (hB : d.slotcount ≤ B) (hx : ∀ x ∈ extra, x < B) : asmSlotcountX extra d ≤ B := by
  unfold asmSlotcountX
  refine raises_symStep.foldl_le _ _ B (bytecode_part_le d hv hc extra B hB hx) fun e he hb _ => ?_
  have := sym_slots_lt d hv e he hb
  omega

theorem asmSlotcount_covers (extra : List Int) (d : FDef) (hv : VerifyOK d) :
    d.arity + (if d.vararg then 1 else 0) ≤ asmSlotcountX extra d ∧
    (∀ w ∈ d.bytecode, ∀ a ∈ slotArgsW w, a < asmSlotcountX extra d) ∧
    (∀ e ∈ d.symbolmap, e.birth ≠ 4294967295 → (e.slot : Int) < asmSlotcountX extra d) ∧
    (∀ x ∈ extra, x < asmSlotcountX extra d) := by
  unfold asmSlotcountX
  have hb1 := raises_scWord.foldl_ge d.bytecode (extra.foldl scStep (slotInit d.vararg d.arity))
  have hb2 := raises_symStep.foldl_ge d.symbolmap (scBytecode (extra.foldl scStep (slotInit d.vararg d.arity)) d.bytecode)
  refine ⟨?_, ?_, ?_, ?_⟩
  · rw [← slotInit_eq]; exact Int.le_trans (Int.le_trans (raises_scStep.foldl_ge _ _) hb1) hb2
  · intro w hw a ha; exact Int.lt_of_lt_of_le (raises_scWord.foldl_covers _ _ w hw a ha) hb2
  · intro e he hb
    -- `symStep` counts a slot only below 2^31 - 1: here `slot < slotcount ≤ maxSlotcount`
    refine raises_symStep.foldl_covers _ _ e he hb ?_
    have := sym_slots_lt d hv e he hb
    have h2 := hv.sc_range.2
    simp only [maxSlotcount] at h2
    omega
  · intro x hx
    exact Int.lt_of_lt_of_le (raises_scStep.foldl_covers _ _ x hx) (Int.le_trans hb1 hb2)

theorem asm_disasm_def_of_lt (extra : List Int) (d : FDef) (hv : verify d = 0) (hc : ∀ w ∈ d.bytecode, Canonical w)
    (hmin : d.minArity ≤ d.arity) (hmax : d.arity ≤ d.maxArity) (hx : ∀ x ∈ extra, x < maxSlotcount) :
    asmOfX extra d = some { d with slotcount := asmSlotcountX extra d } := by
  rw [verify_zero_iff] at hv
  obtain ⟨c1, c2, c3, _⟩ := asmSlotcount_covers extra d hv
  have hsmall : asmSlotcountX extra d ≤ maxSlotcount := asmSlotcountX_le d hv hc extra _ hv.sc_range.2 hx
  have hok : VerifyOK { d with slotcount := asmSlotcountX extra d } := verify_resized d hv hc _ c1 hsmall c2 c3
  unfold asmOfX
  rw [if_neg (by have := hv.arity.1; omega), if_neg (by omega), if_neg (by omega), asmBytecodeSC_disasm _ hc]
  have hz := (verify_zero_iff _).2 hok
  unfold asmSlotcountX at hz ⊢
  simp only
  rw [if_pos hz]

/-- **asm (disasm d) is accepted**: for every funcdef `d` that janet_verify accepts, whose instruction words are canonical
and whose arities are ordered the way the assembler asserts (`min-arity ≤ arity ≤ max-arity`), `janet_asm1 (janet_disasm d)`
succeeds — its own janet_verify call accepts — and returns `d` with the slot count the assembler computed: same words, same
arities, same tables.  `extra`: captured-slot operands of `ldu` / `setu` in sub-funcdefs that are counted here (any list of
one-byte operands). -/
theorem asm_disasm_def (extra : List Int) (d : FDef) (hv : verify d = 0) (hc : ∀ w ∈ d.bytecode, Canonical w)
    (hmin : d.minArity ≤ d.arity) (hmax : d.arity ≤ d.maxArity) (hx : ∀ x ∈ extra, x < 256) :
    asmOfX extra d = some { d with slotcount := asmSlotcountX extra d } :=
  asm_disasm_def_of_lt extra d hv hc hmin hmax fun x h => Int.lt_trans (hx x h) (by decide)

theorem asm_slotcount_le (extra : List Int) (d : FDef) (hv : verify d = 0) (hc : ∀ w ∈ d.bytecode, Canonical w)
    (hx : ∀ x ∈ extra, x < d.slotcount) : asmSlotcountX extra d ≤ d.slotcount :=
  asmSlotcountX_le d ((verify_zero_iff d).1 hv) hc extra _ (Int.le_refl _) hx

theorem asm_slotcount_eq (extra : List Int) (d : FDef) (hv : verify d = 0) (hc : ∀ w ∈ d.bytecode, Canonical w)
    (hx : ∀ x ∈ extra, x < d.slotcount) (ht : Tight d) : asmSlotcountX extra d = d.slotcount := by
  have hle := asm_slotcount_le extra d hv hc hx
  obtain ⟨c1, c2, c3, _⟩ := asmSlotcount_covers extra d ((verify_zero_iff d).1 hv)
  rcases ht with h | ⟨w, hw, ha⟩ | ⟨e, he, hb, hs⟩
  · omega
  · have := c2 w hw _ ha; omega
  · have := c3 e he hb; omega

/-- **asm (disasm d) = d** on everything janet_verify reads, for funcdefs with a tight slot count (compiler output) -/
theorem asm_disasm_def_tight (extra : List Int) (d : FDef) (hv : verify d = 0) (hc : ∀ w ∈ d.bytecode, Canonical w)
    (hmin : d.minArity ≤ d.arity) (hmax : d.arity ≤ d.maxArity) (hx : ∀ x ∈ extra, x < d.slotcount) (ht : Tight d) :
    asmOfX extra d = some d := by
  have hs := ((verify_zero_iff d).1 hv).sc_range.2
  rw [asm_disasm_def_of_lt extra d hv hc hmin hmax fun x h => Int.lt_of_lt_of_le (hx x h) hs, asm_slotcount_eq extra d hv hc hx ht]

end JanetModel.Asm
