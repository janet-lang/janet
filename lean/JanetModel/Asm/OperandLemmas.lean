/- One operand through `doarg` and back: arithmetic modulo powers of two, for an arbitrary field shape. -/
import JanetModel.Asm.Operand
import JanetModel.Util.Bits

namespace JanetModel.Asm
open JanetModel.Gen.Asm JanetModel.Gen.Bytecode

/-- the shape every generated field has: 1..3 bytes, starting at byte 1..3, inside the 32-bit word -/
def FieldOK (f : Field) : Prop := 1 ≤ f.nth ∧ 1 ≤ f.nbytes ∧ f.nth + f.nbytes ≤ 4

instance (f : Field) : Decidable (FieldOK f) := by unfold FieldOK; exact inferInstance

/-- signed operands always reach the top of the word (`(int32_t)instr >> k`) -/
def FieldTop (f : Field) : Prop := FieldOK f ∧ (f.signed = true → f.nth + f.nbytes = 4)

instance (f : Field) : Decidable (FieldTop f) := by unfold FieldTop; exact inferInstance

theorem fields_top : ∀ (t : IType) (f : Field), f ∈ fieldsOf t → FieldTop f := by
  intro t
  cases t <;> decide

theorem fields_ok (t : IType) (f : Field) (h : f ∈ fieldsOf t) : FieldOK f := (fields_top t f h).1

theorem toNat_emod_mod (x : Int) (m k : Nat) (hk : k ∣ m) (hm : 0 < m) : (x % m).toNat % k = (x % k).toNat := by
  rw [← Int.emod_emod_of_dvd x (Int.natCast_dvd_natCast.2 hk),
    Int.toNat_emod (Int.emod_nonneg x (by omega)) (Int.natCast_nonneg k), Int.toNat_natCast]

theorem two_pow_bits (f : Field) (hf : FieldOK f) : 2 ^ (8 * f.nbytes) = 2 * 2 ^ (8 * f.nbytes - 1) :=
  Util.two_pow_pred (by have := hf.2.1; omega)

theorem two_pow_bits_int (f : Field) (hf : FieldOK f) : (2 : Int) ^ (8 * f.nbytes) = (2 * 2 ^ (8 * f.nbytes - 1) : Nat) := by
  rw [← two_pow_bits f hf]; simp

/-- `doarg`'s bounds are the two's-complement (resp. unsigned) range: `min = -max - 1` -/
theorem range_of_encodable (f : Field) (arg : Int) (h : Encodable f arg) : fieldMin f ≤ arg ∧ arg ≤ fieldMax f := by
  unfold Encodable at h
  unfold fieldMin fieldMax doargMinSlack
  split at h <;> rename_i hs <;> simp only [hs, if_true, if_false, Bool.false_eq_true, Nat.sub_zero] <;> omega

/-- of the operand's 32-bit pattern exactly the bits shifted out are lost -/
theorem doarg_of_range (f : Field) (hf : f.nth ≤ 4) (arg : Int) (h1 : fieldMin f ≤ arg) (h2 : arg ≤ fieldMax f) :
    doarg f arg = some ((arg % (2 ^ (32 - 8 * f.nth) : Nat)).toNat * 2 ^ (8 * f.nth)) := by
  have e : 4294967296 = 2 ^ (32 - 8 * f.nth) * 2 ^ (8 * f.nth) := by rw [← Nat.pow_add, Nat.sub_add_cancel (by omega)]
  have t := toNat_emod_mod arg 4294967296 (2 ^ (32 - 8 * f.nth)) ⟨_, e⟩ (by omega)
  rw [doarg, if_neg (by omega), if_neg (by omega), e, Nat.mul_mod_mul_right, ← t]
  rfl

theorem raw_placed (f : Field) (hf : FieldOK f) (x : Int) :
    (x % (2 ^ (32 - 8 * f.nth) : Nat)).toNat * 2 ^ (8 * f.nth) / 2 ^ (8 * f.nth) % 2 ^ (8 * f.nbytes)
      = (x % (2 ^ (8 * f.nbytes) : Nat)).toNat := by
  have d : 2 ^ (8 * f.nbytes) ∣ 2 ^ (32 - 8 * f.nth) := Nat.pow_dvd_pow 2 (by have := hf.2.2; omega)
  rw [Nat.mul_div_cancel _ (Nat.two_pow_pos _), toNat_emod_mod x _ _ d (Nat.two_pow_pos _)]

theorem doarg_roundtrip (f : Field) (hf : FieldOK f) (arg : Int) (h : Encodable f arg) :
    ∃ w, doarg f arg = some w ∧ fieldRead f w = arg := by
  obtain ⟨lo, hi⟩ := range_of_encodable f arg h
  refine ⟨_, doarg_of_range f (by have := hf.2.2; omega) arg lo hi, ?_⟩
  unfold fieldRead
  simp only [raw_placed f hf]
  unfold Encodable at h
  have e'' : (2 : Int) ^ (8 * f.nbytes - 1) = (2 ^ (8 * f.nbytes - 1) : Nat) := by simp
  rw [two_pow_bits_int f hf, e''] at h
  rw [two_pow_bits f hf, two_pow_bits_int f hf]
  generalize 2 ^ (8 * f.nbytes - 1) = H at *
  cases hs : f.signed
  · simp only [hs, Bool.false_eq_true, false_and, if_false] at h ⊢
    rw [Int.emod_eq_of_lt h.1 h.2]; omega
  · simp only [hs, true_and, if_true] at h ⊢
    simpa only [ge_iff_le, ← Nat.not_lt, ite_not] using Util.sext_wrap H arg (by omega) h.2

theorem encodable_fieldRead (f : Field) (hf : FieldOK f) (w : Nat) : Encodable f (fieldRead f w) := by
  unfold Encodable fieldRead
  have e'' : (2 : Int) ^ (8 * f.nbytes - 1) = (2 ^ (8 * f.nbytes - 1) : Nat) := by simp
  have lt := Nat.mod_lt (w / 2 ^ (8 * f.nth)) (Nat.two_pow_pos (8 * f.nbytes))
  rw [two_pow_bits f hf] at lt
  simp only [two_pow_bits f hf, two_pow_bits_int f hf, e'']
  generalize 2 ^ (8 * f.nbytes - 1) = H at *
  generalize w / 2 ^ (8 * f.nth) % (2 * H) = r at *
  cases f.signed
  · simp only [Bool.false_eq_true, false_and, if_false]; omega
  · simp only [true_and, if_true]; split <;> omega

end JanetModel.Asm
