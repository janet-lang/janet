/- C05 — what the functions of the fiber model do to a state (no Mathlib): frame lemmas for the record accessors and
   `deliverValue`, and `unwind` taken one caller at a time (`unwind_step`), from which its frame properties follow. -/
import JanetModel.Fiber.Boot
namespace JanetModel.Fiber
open JanetModel.Gen.Fiber

theorem fiber?_setFiber_ne {s : State} {p g : FId} {x : Fiber} (h : g ≠ p) :
    (s.setFiber p x).fiber? g = s.fiber? g := by
  unfold State.setFiber State.fiber?
  simp only
  rw [List.getElem?_set_ne (Ne.symm h)]

theorem fiber?_lt {s : State} {p : FId} {fp : Fiber} (h : s.fiber? p = some fp) : p < s.fibers.length :=
  (List.getElem?_eq_some_iff.mp h).1

theorem fiber?_setFiber_self (s : State) (p : FId) (x : Fiber) :
    (s.setFiber p x).fiber? p = if p < s.fibers.length then some x else none := by
  unfold State.setFiber State.fiber?
  split
  · rename_i h; exact List.getElem?_set_self h
  · rename_i h; exact List.getElem?_eq_none (by rw [List.length_set]; exact Nat.le_of_not_lt h)

theorem fiber?_setFiber_eq {s : State} {p : FId} {fp : Fiber} (x : Fiber) (h : s.fiber? p = some fp) :
    (s.setFiber p x).fiber? p = some x := by
  rw [fiber?_setFiber_self, if_pos (fiber?_lt h)]

theorem log_fibers (s : State) (l f : Nat) (v : Val) : (s.log l f v).fibers = s.fibers := by unfold State.log; split <;> rfl
theorem log_stack (s : State) (l f : Nat) (v : Val) : (s.log l f v).stack = s.stack := by unfold State.log; split <;> rfl
theorem log_halt (s : State) (l f : Nat) (v : Val) : (s.log l f v).halt = s.halt := by unfold State.log; split <;> rfl
theorem log_denvs (s : State) (l f : Nat) (v : Val) : (s.log l f v).denvs = s.denvs := by unfold State.log; split <;> rfl

theorem fiber?_log (s : State) (l f : Nat) (v : Val) (g : FId) : (s.log l f v).fiber? g = s.fiber? g := by
  unfold State.fiber?; rw [log_fibers]

theorem fiber?_stop (s : State) (h : Halt) (g : FId) : (s.stop h).fiber? g = s.fiber? g := rfl

theorem fiber?_withStack (s : State) (stk : List FId) (g : FId) : ({ s with stack := stk } : State).fiber? g = s.fiber? g := rfl

theorem deliverValue_eq (s : State) (p : FId) (fp : Fiber) (c : Cont) (v : Val) :
    ∃ x l w, deliverValue s p fp c v = (s.setFiber p x).log l p w ∧
      x.status = fp.status ∧ x.mask = fp.mask ∧ x.root = fp.root ∧ x.pending = fp.pending ∧ x.denv = fp.denv ∧ x.child = fp.child := by
  unfold deliverValue
  split
  · exact ⟨_, _, _, rfl, rfl, rfl, rfl, rfl, rfl, rfl⟩
  · split
    · exact ⟨_, _, _, rfl, rfl, rfl, rfl, rfl, rfl, rfl⟩
    · exact ⟨_, 0, v, rfl, rfl, rfl, rfl, rfl, rfl, rfl⟩

theorem deliverValue_other (s : State) (p : FId) (fp : Fiber) (c : Cont) (v : Val) (g : FId) (h : g ≠ p) :
    (deliverValue s p fp c v).fiber? g = s.fiber? g := by
  obtain ⟨x, l, w, he, _⟩ := deliverValue_eq s p fp c v
  rw [he, fiber?_log, fiber?_setFiber_ne h]

theorem deliverValue_self {s : State} {q : FId} {cur : Fiber} (fq : Fiber) (l : Nat) (k : Tm) (b : Bool) (v : Val)
    (h : s.fiber? q = some cur) :
    (deliverValue s q fq (.bindK l k b) v).fiber? q = some { fq with env := fq.env ++ [v], ctl := .run k } := by
  unfold deliverValue
  rw [fiber?_log]
  exact fiber?_setFiber_eq _ h

theorem deliverValue_stack (s : State) (p : FId) (fp : Fiber) (c : Cont) (v : Val) : (deliverValue s p fp c v).stack = s.stack := by
  obtain ⟨x, l, w, he, _⟩ := deliverValue_eq s p fp c v
  rw [he, log_stack]; rfl

theorem deliverValue_halt (s : State) (p : FId) (fp : Fiber) (c : Cont) (v : Val) : (deliverValue s p fp c v).halt = s.halt := by
  obtain ⟨x, l, w, he, _⟩ := deliverValue_eq s p fp c v
  rw [he, log_halt]; rfl

theorem deliverValue_denvs (s : State) (p : FId) (fp : Fiber) (c : Cont) (v : Val) : (deliverValue s p fp c v).denvs = s.denvs := by
  obtain ⟨x, l, w, he, _⟩ := deliverValue_eq s p fp c v
  rw [he, log_denvs]; rfl

def Halt.isDone : Halt → Bool
  | .done .. => true
  | _ => false

/-- One level of `unwind`: the signal `(sig, v)` of `c` arrives at its caller `p`.  Payloads are left open; statuses and
    links are what the frame and invariant arguments need. -/
inductive UnwindStep (s : State) (p : FId) (rest : List FId) (c : FId) (sig : Nat) : State → Prop
  | bad (why : String) : UnwindStep s p rest c sig (s.stop (.bad why))
  | deliver {fp fc : Fiber} {cont : Cont} (w : Val) (hp : s.fiber? p = some fp) (hc : s.fiber? c = some fc)
      (hw : fp.ctl = .wait cont) (hacc : sig = sigOk ∨ testBit fc.mask sig = true) :
      UnwindStep s p rest c sig (deliverValue { s with stack := p :: rest } p { fp with child := none } cont w)
  | deliverChain {fp fc : Fiber} {cont : Cont} (w : Val) (hp : s.fiber? p = some fp) (hc : s.fiber? c = some fc)
      (hw : fp.ctl = .wait cont) (hacc : sig = sigOk ∨ testBit fc.mask sig = true) (hpe : fp.pending = none) :
      UnwindStep s p rest c sig
        (deliverValue { s with stack := p :: rest } p { fp with child := none, status := stAlive, passThrough := false } cont w)
  | pending {fp fc : Fiber} {sg : Nat} (w : Val) (hp : s.fiber? p = some fp) (hc : s.fiber? c = some fc)
      (hacc : sig = sigOk ∨ testBit fc.mask sig = true) (hpe : fp.pending = some sg) :
      UnwindStep s p rest c sig
        (unwind (s.setFiber p { fp with child := none, pending := none, status := sg, last := w, passThrough := false }) rest p sg w)
  | pass {fp fc : Fiber} (sg : Nat) (w lastv : Val) (ch : Option FId) (hp : s.fiber? p = some fp) (hc : s.fiber? c = some fc)
      (hrej : ¬ (sig = sigOk ∨ testBit fc.mask sig = true)) (hsg : sig < stNew → sg < stNew) (hcc : inCcall fp = false → sg = sig)
      (hch : fc.status ≠ stAlive → ch = fp.child) :
      UnwindStep s p rest c sig
        (unwind (s.setFiber p { fp with status := sg, last := lastv, child := ch, passThrough := false }) rest p sg w)

theorem coerce_lt (sig : Nat) (v : Val) : (coerce sig v).1 < stNew := by
  unfold coerce; split <;> exact (by decide : sigError < stNew)

theorem unwind_step (s : State) (p : FId) (rest : List FId) (c : FId) (sig : Nat) (v : Val) :
    UnwindStep s p rest c sig (unwind s (p :: rest) c sig v) := by
  rw [unwind]
  split
  · rename_i fp fc hp hc
    split
    · exact .bad _
    · rename_i cont hw
      split
      · rename_i hacc
        dsimp only
        split
        · exact .deliver _ hp hc hw hacc
        · split
          · rename_i sg hpe
            exact .pending _ hp hc hacc hpe
          · rename_i hpe
            exact .deliverChain _ hp hc hw hacc hpe
      · rename_i hrej
        dsimp only
        refine .pass _ _ _ _ hp hc hrej ?_ ?_ ?_
        · intro hsig; split
          · exact coerce_lt sig v
          · exact hsig
        · intro hcc; rw [hcc]; rfl
        · intro hna
          have : (fc.status == stAlive) = false := by simpa using hna
          rw [this, Bool.and_false]; rfl
  · exact .bad _

/-- what `unwind` over the caller chain `stk` leaves alone; the stack it leaves is a suffix of the chain unless it stops on
    an ill-formed state -/
def Framed (s : State) (stk : List FId) (s' : State) : Prop :=
  (∀ g, g ∉ stk → s'.fiber? g = s.fiber? g) ∧ s'.denvs = s.denvs ∧
  ((∃ h, s'.halt = some h ∧ h.isDone = false) ∨ ∃ pre, stk = pre ++ s'.stack)

theorem unwind_frame : ∀ (stk : List FId) (s : State) (c : FId) (sig : Nat) (v : Val), Framed s stk (unwind s stk c sig v) := by
  intro stk
  induction stk with
  | nil => intro s c sig v; exact ⟨fun _ _ => rfl, rfl, Or.inr ⟨[], rfl⟩⟩
  | cons p rest ih =>
    intro s c sig v
    have here : ∀ x cont w, Framed s (p :: rest) (deliverValue { s with stack := p :: rest } p x cont w) := fun x cont w =>
      ⟨fun g hg => deliverValue_other _ _ _ _ _ _ (fun h => hg (h ▸ List.mem_cons_self)), deliverValue_denvs ..,
        Or.inr ⟨[], by rw [deliverValue_stack]; rfl⟩⟩
    have below : ∀ x sg w, Framed s (p :: rest) (unwind (s.setFiber p x) rest p sg w) := fun x sg w => by
      obtain ⟨h1, h2, h3⟩ := ih (s.setFiber p x) p sg w
      refine ⟨fun g hg => ?_, h2, h3.imp id fun ⟨pre, h⟩ => ⟨p :: pre, by rw [List.cons_append, ← h]⟩⟩
      have hgp : g ≠ p := fun h => hg (h ▸ List.mem_cons_self)
      rw [h1 g (fun h => hg (List.mem_cons_of_mem _ h)), fiber?_setFiber_ne hgp]
    have st := unwind_step s p rest c sig v
    generalize unwind s (p :: rest) c sig v = r at st ⊢
    cases st with
    | bad why => exact ⟨fun _ _ => rfl, rfl, Or.inl ⟨_, rfl, rfl⟩⟩
    | deliver => exact here ..
    | deliverChain => exact here ..
    | pending => exact below ..
    | pass => exact below ..

theorem unwind_other (stack : List FId) (s : State) (c : FId) (sig : Nat) (v : Val) (g : FId) (hg : g ∉ stack) :
    (unwind s stack c sig v).fiber? g = s.fiber? g :=
  (unwind_frame stack s c sig v).1 g hg

theorem unwind_denvs (stk : List FId) (s : State) (c : FId) (sig : Nat) (v : Val) : (unwind s stk c sig v).denvs = s.denvs :=
  (unwind_frame stk s c sig v).2.1

theorem iterate_succ {stp : State → State} {rn : Nat → State → State} (h0 : ∀ s, rn 0 s = s)
    (hs : ∀ n s, rn (n + 1) s = match s.halt with | some _ => s | none => rn n (stp s))
    (hfix : ∀ s, s.halt ≠ none → stp s = s) : ∀ n s, rn (n + 1) s = stp (rn n s) := by
  intro n
  induction n with
  | zero =>
    intro s
    simp only [hs, h0]
    split
    · exact (hfix s (by simp [*])).symm
    · rfl
  | succ n ih =>
    intro s
    rw [hs (n + 1) s, hs n s]
    split
    · exact (hfix s (by simp [*])).symm
    · exact ih (stp s)

theorem baseParams_length (sg : Sig) : (baseParams sg).length = sg.arity + (if sg.rest = 0 then 0 else 1) := by
  unfold baseParams
  rw [List.length_append, List.length_replicate]
  split
  · rfl
  · split <;> rfl

theorem baseParams_positional (sg : Sig) {i : Nat} (hi : i < sg.arity) : (baseParams sg)[i]? = some Val.nil := by
  unfold baseParams
  rw [List.getElem?_append_left (by rw [List.length_replicate]; exact hi), List.getElem?_replicate, if_pos hi]

/-- a non-nil first resume value goes to slot 0: as it is when the function has a positional parameter, as the 1-tuple `(v)`
    when it has none (with neither parameters nor collector there is no slot 0, and `set` leaves the empty list alone) -/
theorem firstParams_eq (sg : Sig) (v : Val) :
    firstParams sg v = if v = .nil then baseParams sg else (baseParams sg).set 0 (if 0 < sg.arity then v else .single v) := by
  unfold firstParams
  simp only [firstValueUsesArity, if_true]
  split
  · rfl
  · split
    · rfl
    · rename_i ha
      split
      · rfl
      · rename_i hr
        have : baseParams sg = [] := List.eq_nil_of_length_eq_zero (by
          rw [baseParams_length, if_pos (Decidable.not_not.mp hr)]; omega)
        rw [this]; rfl

/-- run_vm entered on a new fiber: it is alive and the first value is bound to the function's parameters -/
theorem startRun_new (s : State) (stk : List FId) (f : FId) (ff : Fiber) (v : Val) (t : Tm)
    (hlen : f < s.fibers.length) (hpend : ff.pending = none) (hctl : ff.ctl = .run t) :
    (startRun s stk f ff v).fiber? f = some { ff with status := stAlive, env := ff.env ++ firstParams ff.sig v } := by
  unfold startRun
  simp only [hpend, hctl]
  rw [fiber?_withStack, fiber?_setFiber_self, if_pos hlen]

theorem run_succ_of_running {s : State} (n : Nat) (h : s.halt = none) : run (n + 1) s = run n (step s) := by
  rw [run]; simp [h]

theorem step_of_halted (s : State) (h : s.halt ≠ none) : step s = s := by
  unfold step
  split
  · rfl
  · exact absurd ‹_› h

theorem run_succ : ∀ (n : Nat) (s : State), run (n + 1) s = step (run n s) :=
  iterate_succ (fun _ => rfl) (fun _ _ => rfl) step_of_halted

end JanetModel.Fiber
