/- C05 — the C recursion guard (`janet_vm.stackn` / JANET_RECURSION_GUARD) on top of Fiber/Model.lean (core Lean only;
   linked into the driver jm_c05).

   Mirrors  vm.c  janet_check_can_resume (the guard test and `janet_fiber_set_status(fiber, JANET_STATUS_ERROR)`, in the
            statement order of the tree: flag `guardAfterRefusals`), the guard test at the head of janet_call,
            and the places that write janet_vm.stackn: janet_try_init / janet_restore, the `++ … --` around
            `janet_continue(child, …)` in janet_continue_no_check, `oldn = stackn++ … stackn = oldn` in janet_call.

   Two layers:
   * `stepG after lim` — the machine of Model.lean with the guard: before an instruction that calls
     janet_check_can_resume (resume, cancel, next, each) or janet_call (ccall) executes, the counter `depthOf s` is
     compared with `lim` (= JANET_RECURSION_GUARD minus the C depth at which the tree's root fiber was entered).
     A guard trip on the instruction's own target is modelled exactly (status of the target := error, refusal message
     "C stack recursed too deeply" handed to the caller the same way a status refusal is); a trip further down a suspended
     child chain (janet_continue(child) inside janet_continue_no_check) stops with `unmodelled`.
   * `runEvs / contN` — the counter discipline itself, with everything but the writes to `stackn` abstracted: explicit
     save / increment / decrement / restore, longjmp as an in-flight flag. -/
import JanetModel.Fiber.Model
namespace JanetModel.Fiber
open JanetModel.Gen.Fiber

def guardText : String := "C stack recursed too deeply"
def guardMsg : Val := .str guardText

/-- number of child links below `g` (the janet_continue(child) recursion janet_continue_no_check would perform) -/
def chainLen (s : State) : Nat → FId → Nat
  | 0, _ => 0
  | fuel + 1, g =>
    match s.fiber? g with
    | none => 0
    | some fg =>
      match fg.child with
      | none => 0
      | some c => 1 + chainLen s fuel c

/-- janet_check_can_resume including the guard test, in the statement order of the tree (`after` = the guard is tested
    after the root and status refusals).  `some (msg, true)` = refused by the guard: the C also overwrites the status of
    the refused fiber with JANET_STATUS_ERROR. -/
def checkGuarded (after : Bool) (lim n : Nat) (fp : Fiber) (isCancel : Bool) : Option (Val × Bool) :=
  if after then
    match checkCanResume fp isCancel with
    | some msg => some (msg, false)
    | none => if n ≥ lim then some (guardMsg, true) else none
  else
    if n ≥ lim then some (guardMsg, true)
    else
      match checkCanResume fp isCancel with
      | some msg => some (msg, false)
      | none => none

/-- JOP_RESUME / JOP_CANCEL at depth `d`: a refusal is a panic in the caller (`janet_panicv(retreg)`) -/
def resumeG (after : Bool) (lim : Nat) (s : State) (p : FId) (rest : List FId) (d : Nat) (tv : Val) (isCancel : Bool) : State :=
  match tv with
  | .fib g =>
    match s.fiber? g with
    | none => step s
    | some fg =>
      match checkGuarded after lim d fg isCancel with
      | some (msg, true) =>
        let s2 := s.setFiber g { fg with status := stError }
        match s2.fiber? p with
        | some fp2 => raise s2 p fp2 rest sigError msg
        | none => s2.stop (.bad "guard: no such fiber")
      | some (_, false) => step s
      | none =>
        if d + chainLen s (chainFuel s) g ≥ lim then s.stop (.unmodelled "recursion guard inside a child chain") else step s
  | _ => step s

/-- JOP_NEXT / janet_next_impl at depth `d`: `janet_continue(child, nil, &retreg)` returns the refusal as an error signal of
    the child, which then goes through the mask test like any other signal.  `s0` is the state before the instruction
    (what `step` starts from); `s`, `fp` are state and record of the running fiber as `execLoopNext` sees them. -/
def nextG (after : Bool) (lim : Nat) (s0 s : State) (p : FId) (fp : Fiber) (rest : List FId) (d : Nat) (tv : Val) (c : Cont) : State :=
  match tv with
  | .fib g =>
    match s.fiber? g with
    | none => step s0
    | some fg =>
      if nextSkip.contains fg.status then step s0
      else
        match checkGuarded after lim d fg false with
        | some (msg, true) =>
          -- `janet_vm.fiber->child = child` (the caller blocks), the refused fiber's status := error; the two writes
          -- touch different fibers unless the target is the caller itself (only possible in the old statement order)
          let s2 := s.setFiber g { fg with status := stError }
          match s2.fiber? p with
          | some fp2 => unwind (s2.setFiber p { fp2 with ctl := .wait c, child := some g, env := fp.env, kont := fp.kont }) (p :: rest) g sigError msg
          | none => s2.stop (.bad "guard: no such fiber")
        | some (_, false) => step s0
        | none =>
          if d + chainLen s (chainFuel s) g ≥ lim then s0.stop (.unmodelled "recursion guard inside a child chain") else step s0
  | _ => step s0

/-- one instruction of the guarded machine -/
def stepG (after : Bool) (lim : Nat) (s : State) : State :=
  match s.halt with
  | some _ => s
  | none =>
    match s.stack with
    | [] => step s
    | p :: rest =>
      match s.fiber? p with
      | none => step s
      | some fp =>
        match fp.ctl with
        | .wait _ => step s
        | .run t =>
          match t with
          | .prim _ (.resume f _) _ => resumeG after lim s p rest (depthOf s) (evalAtom s fp.env f) false
          | .prim _ (.cancel f _) _ => resumeG after lim s p rest (depthOf s) (evalAtom s fp.env f) true
          | .prim l (.next f) k => nextG after lim s s p fp rest (depthOf s) (evalAtom s fp.env f) (.bindK l k true)
          | .each l f body k => nextG after lim s s p fp rest (depthOf s) (evalAtom s fp.env f) (.loopK l f body k)
          | .ret _ =>
            match fp.kont with
            | .loop env l f body k :: ks =>
              let fp' := { fp with env := env, kont := ks }
              nextG after lim s (s.setFiber p fp') p fp' rest (depthOf s) (evalAtom (s.setFiber p fp') env f) (.loopK l f body k)
            | _ => step s
          | .ccall _ _ _ =>
            -- janet_call: `if (janet_vm.stackn >= JANET_RECURSION_GUARD) janet_panic("C stack recursed too deeply")`
            if depthOf s ≥ lim then panic s p fp rest guardText else step s
          | _ => step s

def runG (after : Bool) (lim : Nat) : Nat → State → State
  | 0, s => s
  | n + 1, s => match s.halt with
    | some _ => s
    | none => runG after lim n (stepG after lim s)

/-! ### the counter discipline (everything but the writes to `janet_vm.stackn` abstracted) -/

/-- what one run_vm activation does, as far as the counter is concerned -/
inductive Ev where
  | call (inner : List Ev)                  -- janet_call(fun, …): the callee's run_vm performs `inner`
  | resume (chain : Nat) (inner : List Ev)  -- janet_continue on a fiber with `chain` suspended descendants; the innermost runs `inner`
  | panic                                   -- janet_panic / janet_signalv: longjmp to the nearest janet_try

/-- janet_continue_no_check on a fiber with `chain` suspended descendants, `innerRun` = what the innermost run_vm does to
    the counter (possibly leaving it anywhere: a longjmp skips every decrement on its way).  Never left by a longjmp. -/
def contN (innerRun : Nat → Nat × Bool) : Nat → Nat → Nat
  | 0, n =>
    -- janet_try_init: `state->stackn = janet_vm.stackn++`; run_vm; janet_restore: `janet_vm.stackn = state->stackn`
    let saved := n
    let _r := innerRun (n + 1)
    saved
  | chain + 1, n =>
    -- child branch: `janet_vm.stackn++; janet_continue(child, …); janet_vm.stackn--;` then the fiber's own try / run_vm / restore
    let n1 := contN innerRun chain (n + 1)
    let n2 := n1 - 1
    let saved := n2
    saved

mutual
/-- run the events of one run_vm activation from counter value `n`: (counter afterwards, longjmp in flight) -/
def runEvs (n : Nat) : List Ev → Nat × Bool
  | [] => (n, false)
  | e :: es =>
    let r := runEv n e
    if r.2 then r else runEvs r.1 es
def runEv (n : Nat) : Ev → Nat × Bool
  | .panic => (n, true)
  | .call inner =>
    -- `int32_t oldn = janet_vm.stackn++; … run_vm … ; janet_vm.stackn = oldn;` — the last statement is skipped by a longjmp
    let oldn := n
    let r := runEvs (n + 1) inner
    if r.2 then r else (oldn, false)
  | .resume chain inner => (contN (fun m => runEvs m inner) chain n, false)
end

end JanetModel.Fiber
