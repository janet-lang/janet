/- C05 — dynamic bindings: who sees what, through `:i` (shared table) and `:p` (prototype) links of any depth, after any
   write (lemma file, no Mathlib).  `chainOf` is the list of tables `janet_dyn` → `janet_table_get` walks; `firstBound` the
   value it returns. -/
import JanetModel.Fiber.Lemmas
namespace JanetModel.Fiber
open JanetModel.Gen.Fiber

/-- the tables a lookup starting at `eo` visits, in order (the table itself, its prototype, …) -/
def chainOf (denvs : List DEnv) : Nat → Option Nat → List Nat
  | 0, _ => []
  | _ + 1, none => []
  | fuel + 1, some e =>
    match denvs[e]? with
    | none => []
    | some d => e :: chainOf denvs fuel d.proto

def bound (denvs : List DEnv) (e k : Nat) : Option Val :=
  match denvs[e]? with
  | none => none
  | some d => d.tbl.lookup k

/-- the value of `k` in the first table of `es` that binds it -/
def firstBound (denvs : List DEnv) (k : Nat) : List Nat → Val
  | [] => .nil
  | e :: es =>
    match bound denvs e k with
    | some v => v
    | none => firstBound denvs k es

theorem dynLookup_eq_firstBound (denvs : List DEnv) (k : Nat) : ∀ (fuel : Nat) (eo : Option Nat),
    dynLookup denvs fuel eo k = firstBound denvs k (chainOf denvs fuel eo) := by
  intro fuel
  induction fuel with
  | zero => intro eo; simp [dynLookup, chainOf, firstBound]
  | succ n ih =>
    intro eo
    cases eo with
    | none => simp [dynLookup, chainOf, firstBound]
    | some e =>
      unfold dynLookup chainOf
      cases hd : denvs[e]? with
      | none => simp [firstBound]
      | some d =>
        simp only [firstBound, bound, hd]
        cases d.tbl.lookup k with
        | some v => rfl
        | none => exact ih d.proto

def writeTbl (denvs : List DEnv) (e k : Nat) (v : Val) : List DEnv :=
  match denvs[e]? with
  | none => denvs
  | some d => denvs.set e { d with tbl := tblPut d.tbl k v }

theorem writeTbl_get_ne (denvs : List DEnv) (e k : Nat) (v : Val) (e' : Nat) (h : e' ≠ e) : (writeTbl denvs e k v)[e']? = denvs[e']? := by
  unfold writeTbl
  split
  · rfl
  · exact List.getElem?_set_ne (Ne.symm h)

theorem writeTbl_get_self (denvs : List DEnv) (e k : Nat) (v : Val) (d : DEnv) (h : denvs[e]? = some d) :
    (writeTbl denvs e k v)[e]? = some { d with tbl := tblPut d.tbl k v } := by
  unfold writeTbl
  rw [h]
  exact List.getElem?_set_self (List.getElem?_eq_some_iff.mp h).1

/-- a write does not change any prototype link: every chain stays what it was -/
theorem chainOf_writeTbl (denvs : List DEnv) (e k : Nat) (v : Val) : ∀ (fuel : Nat) (eo : Option Nat),
    chainOf (writeTbl denvs e k v) fuel eo = chainOf denvs fuel eo := by
  intro fuel
  induction fuel with
  | zero => intro eo; simp [chainOf]
  | succ n ih =>
    intro eo
    cases eo with
    | none => simp [chainOf]
    | some e0 =>
      unfold chainOf
      by_cases he : e0 = e
      · subst he
        cases hd : denvs[e0]? with
        | none => simp [writeTbl, hd]
        | some d => rw [writeTbl_get_self _ _ _ _ _ hd]; simp only []; rw [ih]
      · rw [writeTbl_get_ne _ _ _ _ _ he]
        cases denvs[e0]? with
        | none => rfl
        | some d => simp only []; rw [ih]

theorem lookup_filter (t : List (Nat × Val)) (k k' : Nat) :
    (t.filter (fun p => p.1 != k)).lookup k' = if k' = k then none else t.lookup k' := by
  induction t with
  | nil => simp
  | cons a t ih =>
    obtain ⟨a1, a2⟩ := a
    by_cases ha : a1 = k
    · subst ha
      rw [List.filter_cons_of_neg (by simp), ih, List.lookup_cons]
      by_cases hk : k' = a1
      · rw [if_pos hk, if_pos hk]
      · rw [if_neg hk, if_neg hk, beq_false_of_ne hk]
    · rw [List.filter_cons_of_pos (by simpa using ha), List.lookup_cons, List.lookup_cons, ih]
      by_cases hk : k' = a1
      · subst hk; simp [ha]
      · rw [beq_false_of_ne hk]

theorem lookup_tblPut_ne (t : List (Nat × Val)) (k k' : Nat) (v : Val) (h : k' ≠ k) : (tblPut t k v).lookup k' = t.lookup k' := by
  unfold tblPut
  simp only []
  split
  · rw [lookup_filter, if_neg h]
  · rw [List.lookup_cons, beq_false_of_ne h, lookup_filter, if_neg h]

theorem lookup_tblPut_self (t : List (Nat × Val)) (k : Nat) (v : Val) :
    (tblPut t k v).lookup k = if v = .nil then none else some v := by
  unfold tblPut
  simp only []
  split
  · rw [lookup_filter, if_pos rfl]
  · simp [List.lookup]

theorem bound_writeTbl_other (denvs : List DEnv) (e k : Nat) (v : Val) (e' k' : Nat) (h : e' ≠ e ∨ k' ≠ k) :
    bound (writeTbl denvs e k v) e' k' = bound denvs e' k' := by
  unfold bound
  by_cases he : e' = e
  · subst he
    have hk : k' ≠ k := by rcases h with h | h; exact absurd rfl h; exact h
    cases hd : denvs[e']? with
    | none => simp [writeTbl, hd]
    | some d => rw [writeTbl_get_self _ _ _ _ _ hd]; exact lookup_tblPut_ne _ _ _ _ hk
  · rw [writeTbl_get_ne _ _ _ _ _ he]

theorem firstBound_writeTbl_frame (denvs : List DEnv) (e k : Nat) (v : Val) (k' : Nat) : ∀ (es : List Nat), (e ∉ es ∨ k' ≠ k) →
    firstBound (writeTbl denvs e k v) k' es = firstBound denvs k' es := by
  intro es
  induction es with
  | nil => intro _; rfl
  | cons a es ih =>
    intro h
    have ha : a ≠ e ∨ k' ≠ k := by
      rcases h with h | h
      · exact Or.inl (fun hh => h (hh ▸ List.mem_cons_self ..))
      · exact Or.inr h
    have ht : e ∉ es ∨ k' ≠ k := by
      rcases h with h | h
      · exact Or.inl (fun hh => h (List.mem_cons_of_mem _ hh))
      · exact Or.inr h
    simp only [firstBound, bound_writeTbl_other _ _ _ _ _ _ ha, ih ht]

theorem setdyn_invisible_elsewhere (denvs : List DEnv) (e k : Nat) (v : Val) (fuel : Nat) (eo : Option Nat) (k' : Nat)
    (h : e ∉ chainOf denvs fuel eo ∨ k' ≠ k) :
    dynLookup (writeTbl denvs e k v) fuel eo k' = dynLookup denvs fuel eo k' := by
  rw [dynLookup_eq_firstBound, dynLookup_eq_firstBound, chainOf_writeTbl]
  exact firstBound_writeTbl_frame denvs e k v k' _ h

theorem setdyn_visible_through_chain (denvs : List DEnv) (e k : Nat) (v : Val) (fuel : Nat) (eo : Option Nat) (pre post : List Nat)
    (d : DEnv) (hd : denvs[e]? = some d) (hc : chainOf denvs fuel eo = pre ++ e :: post) (hpre : ∀ a ∈ pre, a ≠ e ∧ bound denvs a k = none)
    (hpost : e ∉ post) :
    dynLookup (writeTbl denvs e k v) fuel eo k = if v = .nil then firstBound denvs k post else v := by
  rw [dynLookup_eq_firstBound, chainOf_writeTbl, hc]
  clear hc
  induction pre with
  | nil =>
    simp only [List.nil_append, firstBound, bound]
    rw [writeTbl_get_self _ _ _ _ _ hd]
    simp only [lookup_tblPut_self]
    by_cases hv : v = .nil
    · simp only [hv, if_true]
      exact firstBound_writeTbl_frame denvs e k .nil k post (Or.inl hpost)
    · simp only [hv, if_false]
  | cons a pre ih =>
    have ha := hpre a (List.mem_cons_self ..)
    simp only [List.cons_append, firstBound]
    rw [bound_writeTbl_other _ _ _ _ _ _ (Or.inl ha.1), ha.2]
    exact ih (fun b hb => hpre b (List.mem_cons_of_mem _ hb))

/-- `:i` — the child gets the PARENT'S table itself (created first if the parent has none) -/
theorem new_inherit_shares (p : FId) (acc : State × Fiber × Option Nat) :
    (newEnvStep p acc letterInherit).2.2 = (newEnvStep p acc letterInherit).2.1.denv ∧
    (newEnvStep p acc letterInherit).2.2.isSome = true := by
  unfold newEnvStep ensureEnv
  simp only [if_true]
  split <;> simp_all

/-- `:p` — the child gets a FRESH, EMPTY table whose prototype is the parent's table, an OLDER table (`pe < e`: prototype
    links cannot form cycles) -/
theorem new_proto_links (p : FId) (acc : State × Fiber × Option Nat)
    (hvalid : ∀ e, acc.2.1.denv = some e → e < acc.1.denvs.length) :
    ∃ e pe, (newEnvStep p acc letterProto).2.2 = some e ∧ (newEnvStep p acc letterProto).2.1.denv = some pe ∧
      (newEnvStep p acc letterProto).1.denvs[e]? = some { proto := some pe, tbl := [] } ∧ pe < e := by
  have hne : letterProto ≠ letterInherit := by decide
  unfold newEnvStep
  simp only [hne, if_false, if_true]
  unfold ensureEnv
  split
  · rename_i e he
    exact ⟨_, e, rfl, he, by simp, hvalid e he⟩
  · exact ⟨_, _, rfl, rfl, by simp [State.setFiber], by simp [State.setFiber]⟩

/-- any other letter leaves the environment as it is: the child has no table -/
theorem new_plain_isolated (p : FId) (acc : State × Fiber × Option Nat) (c : Nat) (h1 : c ≠ letterInherit) (h2 : c ≠ letterProto) :
    newEnvStep p acc c = acc := by
  unfold newEnvStep
  simp [h1, h2]

theorem ensureEnv_fresh_has_no_proto (s : State) (p : FId) (fp : Fiber) (h : fp.denv = none) :
    (ensureEnv s p fp).1.denvs[(ensureEnv s p fp).2.2]? = some { proto := none, tbl := [] } ∧ (ensureEnv s p fp).2.2 = s.denvs.length := by
  unfold ensureEnv
  simp [h, State.setFiber]

/-- `(setdyn k a)` executed by fiber `p` is exactly one `writeTbl` into `p`'s OWN table (created, without prototype, if `p`
    had none) — no other table changes -/
theorem setdyn_writes_own_table (s : State) (p : FId) (fp : Fiber) (rest : List FId) (l k : Nat) (a : Atom) (kk : Tm) :
    (execPrim s p fp rest l (.setdyn k a) kk).denvs
      = writeTbl (ensureEnv s p fp).1.denvs (ensureEnv s p fp).2.2 k (evalAtom s fp.env a) ∨
    (∃ h, (execPrim s p fp rest l (.setdyn k a) kk).halt = some (.bad h)) := by
  unfold execPrim
  simp only []
  cases hd : (ensureEnv s p fp).1.denvs[(ensureEnv s p fp).2.2]? with
  | none => right; exact ⟨_, rfl⟩
  | some d =>
    left
    simp only [deliverValue_denvs, writeTbl, hd]

/-- `(dyn k)` executed by fiber `p` returns the lookup along `p`'s chain (`dynLookup_eq_firstBound`) and changes no table -/
theorem dyn_reads_own_chain (s : State) (p : FId) (fp : Fiber) (rest : List FId) (l k : Nat) (kk : Tm) :
    execPrim s p fp rest l (.dyn k) kk
      = deliverValue s p fp (.bindK l kk false) (firstBound s.denvs k (chainOf s.denvs (s.denvs.length + 1) fp.denv)) := by
  unfold execPrim
  simp only [dynLookup_eq_firstBound]

/-- `b` extends `a`: every table of `a` is still there with the same prototype link -/
def DGrow (a b : List DEnv) : Prop :=
  a.length ≤ b.length ∧ ∀ (e : Nat) (d : DEnv), a[e]? = some d → ∃ d' : DEnv, b[e]? = some d' ∧ d'.proto = d.proto

theorem DGrow.refl (a : List DEnv) : DGrow a a := ⟨Nat.le_refl _, fun _ d h => ⟨d, h, rfl⟩⟩

theorem DGrow.trans {a b c : List DEnv} (h1 : DGrow a b) (h2 : DGrow b c) : DGrow a c := by
  refine ⟨Nat.le_trans h1.1 h2.1, fun e d h => ?_⟩
  obtain ⟨d', hd', hp'⟩ := h1.2 e d h
  obtain ⟨d'', hd'', hp''⟩ := h2.2 e d' hd'
  exact ⟨d'', hd'', hp''.trans hp'⟩

theorem DGrow.of_eq {a b : List DEnv} (h : b = a) : DGrow a b := h ▸ DGrow.refl a

theorem DGrow.append (a : List DEnv) (x : List DEnv) : DGrow a (a ++ x) := by
  refine ⟨by simp, fun e d h => ⟨d, ?_, rfl⟩⟩
  rw [List.getElem?_append_left (List.getElem?_eq_some_iff.mp h).1]; exact h

theorem DGrow.setTbl {a : List DEnv} {e : Nat} {d : DEnv} (h : a[e]? = some d) (t : List (Nat × Val)) :
    DGrow a (a.set e { d with tbl := t }) := by
  refine ⟨by simp, fun e' d' h' => ?_⟩
  by_cases he : e' = e
  · subst he; rw [h] at h'; cases h'
    exact ⟨_, List.getElem?_set_self (List.getElem?_eq_some_iff.mp h).1, rfl⟩
  · exact ⟨d', by rw [List.getElem?_set_ne (Ne.symm he)]; exact h', rfl⟩

theorem DGrow.writeTbl (a : List DEnv) (e k : Nat) (v : Val) : DGrow a (writeTbl a e k v) := by
  unfold JanetModel.Fiber.writeTbl
  split
  · exact DGrow.refl a
  · rename_i d h; exact DGrow.setTbl h _

theorem raise_denvs (s : State) (p : FId) (fp : Fiber) (rest : List FId) (sig : Nat) (v : Val) : (raise s p fp rest sig v).denvs = s.denvs := by
  unfold raise
  split
  · rfl
  · rw [unwind_denvs]; rfl

theorem startRun_denvs (s : State) (stk : List FId) (f : FId) (ff : Fiber) (v : Val) : (startRun s stk f ff v).denvs = s.denvs := by
  unfold startRun
  split
  · rw [unwind_denvs]; rfl
  · split
    · rfl
    · rw [deliverValue_denvs]

theorem contNoCheck_denvs : ∀ (fuel : Nat) (s : State) (stk : List FId) (f : FId) (v : Val), (contNoCheck fuel s stk f v).denvs = s.denvs := by
  intro fuel
  induction fuel with
  | zero => intro s stk f v; rfl
  | succ n ih =>
    intro s stk f v
    unfold contNoCheck
    split
    · rfl
    · simp only []
      split
      · split
        · rfl
        · split
          · rw [unwind_denvs]; rfl
          · rw [ih]; rfl
      · rw [startRun_denvs]; rfl

theorem ensureEnv_dgrow (s : State) (p : FId) (fp : Fiber) : DGrow s.denvs (ensureEnv s p fp).1.denvs := by
  unfold ensureEnv
  split
  · exact DGrow.refl _
  · exact DGrow.append _ _

theorem newEnvStep_dgrow (p : FId) (acc : State × Fiber × Option Nat) (c : Nat) : DGrow acc.1.denvs (newEnvStep p acc c).1.denvs := by
  unfold newEnvStep
  split
  · exact ensureEnv_dgrow ..
  · split
    · exact (ensureEnv_dgrow ..).trans (DGrow.append _ _)
    · exact DGrow.refl _

theorem foldl_newEnvStep_dgrow (p : FId) : ∀ (flags : List Nat) (acc : State × Fiber × Option Nat),
    DGrow acc.1.denvs (flags.foldl (newEnvStep p) acc).1.denvs := by
  intro flags
  induction flags with
  | nil => intro acc; exact DGrow.refl _
  | cons c cs ih => intro acc; rw [List.foldl_cons]; exact (newEnvStep_dgrow p acc c).trans (ih _)

end JanetModel.Fiber
