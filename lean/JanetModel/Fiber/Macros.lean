/- C05 — the code the boot.janet macros run AFTER their `(resume f)` returned (lemma file, no Mathlib):
   the blocked continuations (`…Cont`) of try / protect / prompt / with-dyns, exact small-step lemmas for the
   `(fiber/status f)` test, the `(if (= …))` and the "finally-style" `(propagate r f)`, and their compositions
   (`defer_tail`, `try_decides`). -/
import JanetModel.Fiber.Cleanup
namespace JanetModel.Fiber
open JanetModel.Gen.Fiber

theorem getD_of_getElem? {env : List Val} {n : Nat} {x : Val} (h : env[n]? = some x) : env.getD n .nil = x := by
  simp [List.getD, h]

theorem getD_append_last (env : List Val) (x : Val) (n : Nat) (h : env.length = n) : (env ++ [x]).getD n .nil = x := by
  subst h; simp [List.getD]

theorem getElem?_append_left' {env : List Val} {n : Nat} {y : Val} (x : Val) (h : env[n]? = some y) : (env ++ [x])[n]? = some y := by
  rw [List.getElem?_append_left (List.getElem?_eq_some_iff.mp h).1]; exact h

theorem getD_append_left {env : List Val} {n : Nat} {y : Val} (x : Val) (h : env[n]? = some y) : (env ++ [x]).getD n .nil = y :=
  getD_of_getElem? (getElem?_append_left' x h)

/-- `(fiber/status x)` with `x` a local holding the fiber `f` -/
theorem step_status {s : State} {p f : FId} {rest : List FId} {fp ff : Fiber} {n : Nat} {k : Tm}
    (hh : s.halt = none) (hstk : s.stack = p :: rest) (hp : s.fiber? p = some fp)
    (hctl : fp.ctl = .run (.prim 0 (.status (.var n)) k)) (hn : fp.env[n]? = some (.fib f)) (hf : s.fiber? f = some ff) :
    step s = s.setFiber p { fp with env := fp.env ++ [.kw (statusName ff.status)], ctl := .run k } := by
  unfold step
  simp only [hh, hstk, hp, hctl, execPrim, evalAtom, getD_of_getElem? hn, hf, deliverValue, State.log]
  rfl

/-- `(if (= a b) t e)` -/
theorem step_ite {s : State} {p : FId} {rest : List FId} {fp : Fiber} {a b : Atom} {t e : Tm}
    (hh : s.halt = none) (hstk : s.stack = p :: rest) (hp : s.fiber? p = some fp) (hctl : fp.ctl = .run (.ite a b t e)) :
    step s = s.setFiber p { fp with ctl := .run (if evalAtom s fp.env a = evalAtom s fp.env b then t else e) } := by
  unfold step
  simp only [hh, hstk, hp, hctl]

theorem statusName_dead : ∀ sg, sg < stNew → ((Val.kw (statusName sg) = Val.kw "dead") ↔ sg = stDead) := by decide
theorem statusName_error : ∀ sg, sg < stNew → ((Val.kw (statusName sg) = Val.kw "error") ↔ sg = stError) := by decide

theorem step_propagate {s : State} {p f : FId} {rest : List FId} {fp ff : Fiber} {n l : Nat} {k : Tm} {a : Atom}
    (hh : s.halt = none) (hstk : s.stack = p :: rest) (hp : s.fiber? p = some fp)
    (hctl : fp.ctl = .run (.prim l (.propagate a (.var n)) k)) (hn : fp.env[n]? = some (.fib f)) (hf : s.fiber? f = some ff)
    (hst : ff.status ≤ propagateMaxStatus) (hnd : ff.status ≠ stDead) :
    step s = raise s p { fp with ctl := .wait (.bindK l k false), child := some f } rest ff.status (evalAtom s fp.env a) := by
  unfold step
  simp only [hh, hstk, hp, hctl, execPrim, evalAtom, getD_of_getElem? hn, hf]
  rw [if_neg]
  intro h
  rcases h with h | ⟨_, h⟩
  · exact absurd hst (Nat.not_le.mpr h)
  · exact hnd h

/-- `(if (= (fiber/status x) :kw) t e)` with `x` the local `n` holding `f`, the status going to the next free slot `m`:
    two steps, touching only `p` -/
theorem status_test {s : State} {p f : FId} {rest : List FId} {fp ff : Fiber} {n m st : Nat} {kw : String} {t e : Tm}
    (hh : s.halt = none) (hstk : s.stack = p :: rest) (hp : s.fiber? p = some fp)
    (hctl : fp.ctl = .run (.prim 0 (.status (.var n)) (.ite (.var m) (kwA kw) t e))) (hlen : fp.env.length = m)
    (hn : fp.env[n]? = some (.fib f)) (hf : s.fiber? f = some ff)
    (hkw : (Val.kw (statusName ff.status) = Val.kw kw) ↔ ff.status = st) :
    ∃ fp2, (run 2 s).halt = none ∧ (run 2 s).stack = p :: rest ∧ (run 2 s).fiber? p = some fp2 ∧
      (∀ g, g ≠ p → (run 2 s).fiber? g = s.fiber? g) ∧ fp2.env = fp.env ++ [Val.kw (statusName ff.status)] ∧
      fp2.ctl = .run (if ff.status = st then t else e) ∧ fp2.kont = fp.kont ∧ fp2.mask = fp.mask := by
  obtain ⟨fp1, h1, e1, c1, k1, m1⟩ : ∃ fp1, step s = s.setFiber p fp1 ∧ fp1.env = fp.env ++ [Val.kw (statusName ff.status)] ∧
      fp1.ctl = .run (.ite (.var m) (kwA kw) t e) ∧ fp1.kont = fp.kont ∧ fp1.mask = fp.mask :=
    ⟨_, step_status hh hstk hp hctl hn hf, rfl, rfl, rfl, rfl⟩
  have hh1 : (s.setFiber p fp1).halt = none := hh
  have hp1 : (s.setFiber p fp1).fiber? p = some fp1 := fiber?_setFiber_eq _ hp
  have hcond : (evalAtom (s.setFiber p fp1) fp1.env (.var m) = evalAtom (s.setFiber p fp1) fp1.env (kwA kw)) ↔ ff.status = st := by
    simp only [evalAtom, kwA, e1, getD_append_last _ _ _ hlen]
    exact hkw
  have h2 : run 2 s = (s.setFiber p fp1).setFiber p { fp1 with ctl := .run (if ff.status = st then t else e) } := by
    rw [run_succ_of_running 1 hh, h1, run_succ_of_running 0 hh1, step_ite hh1 hstk hp1 c1, ite_congr (propext hcond) (fun _ => rfl) (fun _ => rfl)]; rfl
  rw [h2]
  exact ⟨_, hh, hstk, fiber?_setFiber_eq _ hp1, fun g hg => by rw [fiber?_setFiber_ne hg, fiber?_setFiber_ne hg], e1, rfl, k1, m1⟩

/-- the code of `defer` after the cleanup form: `(if (= (fiber/status f) :dead) r (propagate r f))` -/
def deferTail (n : Nat) : Tm :=
  .prim 0 (.status (.var n)) (.ite (.var (n + 3)) (kwA "dead") (.ret (.var (n + 1)))
    (.prim 0 (.propagate (.var (n + 1)) (.var n)) (.ret (.var (n + 4)))))

theorem defer_tail {s : State} {p f : FId} {rest : List FId} {fp ff : Fiber} {n : Nat} {r : Val}
    (hh : s.halt = none) (hstk : s.stack = p :: rest) (hp : s.fiber? p = some fp) (hctl : fp.ctl = .run (deferTail n))
    (hlen : fp.env.length = n + 3) (hn : fp.env[n]? = some (.fib f)) (hr : fp.env[n + 1]? = some r)
    (hf : s.fiber? f = some ff) (hne : p ≠ f) (hlt : ff.status < stNew) :
    (ff.status = stDead → ∃ fp', (run 2 s).fiber? p = some fp' ∧ fp'.ctl = .run (.ret (.var (n + 1))) ∧ fp'.env[n + 1]? = some r) ∧
    (ff.status ≠ stDead → ∃ s2 fp2, run 3 s = raise s2 p fp2 rest ff.status r ∧ fp2.child = some f ∧ s2.fiber? f = some ff ∧
        fp2.kont = fp.kont ∧ fp2.mask = fp.mask) := by
  obtain ⟨fp2, hh2, hs2, hp2, ho, e2, c2, k2, m2⟩ := status_test hh hstk hp hctl hlen hn hf (statusName_dead ff.status hlt)
  constructor
  · intro hd
    exact ⟨fp2, hp2, by rw [c2, if_pos hd], by rw [e2]; exact getElem?_append_left' _ hr⟩
  · intro hd
    rw [if_neg hd] at c2
    have hf2 : (run 2 s).fiber? f = some ff := by rw [ho f (Ne.symm hne)]; exact hf
    refine ⟨run 2 s, { fp2 with ctl := .wait (.bindK 0 (.ret (.var (n + 4))) false), child := some f }, ?_, rfl, hf2, k2, m2⟩
    rw [run_succ, step_propagate hh2 hs2 hp2 c2 (by rw [e2]; exact getElem?_append_left' _ hn) hf2
      (by have := propagateMax_succ; omega) hd]
    simp only [evalAtom, e2, getD_append_left _ hr]

/-- `try`: `(def r (resume f))` then `(if (= (fiber/status f) :error) (do (def err r) ;catch) r)` -/
def tryCont (n : Nat) (catch_ : Tm) : Cont :=
  .bindK 0 (.prim 0 (.status (.var n))
    (.ite (.var (n + 2)) (kwA "error") (.prim 0 (.pure (.var (n + 1))) catch_) (.ret (.var (n + 1))))) false

theorem try_shape (n l : Nat) (body catch_ k : Tm) :
    tryTm n l body catch_ k = .block l (.new 0 body flagsIE (.prim 0 (.resume (.var n) nilA) (contK (tryCont n catch_)))) k := rfl

/-- `protect`: `[(not= :error (fiber/status f)) r]` -/
def protectCont (n : Nat) : Cont :=
  .bindK 0 (.prim 0 (.status (.var n))
    (.ite (.var (n + 2)) (kwA "error")
      (.prim 0 (.pair (.lit (.bool false)) (.var (n + 1))) (.ret (.var (n + 3))))
      (.prim 0 (.pair (.lit (.bool true)) (.var (n + 1))) (.ret (.var (n + 3)))))) false

theorem protect_shape (n l : Nat) (body k : Tm) :
    protectTm n l body k = .block l (.new 0 body flagsIE (.prim 0 (.resume (.var n) nilA) (contK (protectCont n)))) k := rfl

/-- `prompt`: `(def [target payload] res) (if (= tag target) payload (propagate res fib))` -/
def promptCont (n : Nat) (tag : String) : Cont :=
  .bindK 0 (.prim 0 (.fst (.var (n + 1))) (.prim 0 (.snd (.var (n + 1)))
    (.ite (kwA tag) (.var (n + 2)) (.ret (.var (n + 3)))
      (.prim 0 (.propagate (.var (n + 1)) (.var n)) (.ret (.var (n + 4))))))) false

theorem prompt_shape (n l : Nat) (tag : String) (body k : Tm) :
    promptTm n l tag body k = .block l (.new 0 (.block 0 body (.prim 0 (.pair (kwA tag) (.var n)) (.ret (.var (n + 1))))) flagsI0
      (.prim 0 (.resume (.var n) nilA) (contK (promptCont n tag)))) k := rfl

/-- `with-dyns`: `(resume (fiber/new (fn [] (setdyn k v) ;body) :p))` — nothing but the result follows -/
def withDynsCont (n : Nat) : Cont := .bindK 0 (.ret (.var (n + 1))) false

theorem withDyns_shape (n l key : Nat) (a : Atom) (body k : Tm) :
    withDynsTm n l key a body k = .block l (.new 0 (.seq (.prim 0 (.setdyn key a) (.ret nilA)) body) flagsP
      (.prim 0 (.resume (.var n) nilA) (contK (withDynsCont n)))) k := rfl

theorem try_decides {s : State} {p f : FId} {rest : List FId} {fp ff : Fiber} {n : Nat} {catch_ : Tm}
    (hh : s.halt = none) (hstk : s.stack = p :: rest) (hp : s.fiber? p = some fp) (hctl : fp.ctl = .run (contK (tryCont n catch_)))
    (hlen : fp.env.length = n + 2) (hn : fp.env[n]? = some (.fib f)) (hf : s.fiber? f = some ff) (hlt : ff.status < stNew) :
    ∃ fp', (run 2 s).fiber? p = some fp' ∧ fp'.env = fp.env ++ [Val.kw (statusName ff.status)] ∧
      fp'.ctl = .run (if ff.status = stError then (.prim 0 (.pure (.var (n + 1))) catch_) else (.ret (.var (n + 1)))) := by
  obtain ⟨fp2, _, _, hp2, _, e2, c2, _⟩ := status_test hh hstk hp hctl hlen hn hf (statusName_error ff.status hlt)
  exact ⟨fp2, hp2, e2, c2⟩

end JanetModel.Fiber
