/- C05 — the cleanup composition (`Blk` → stuck / exited / passed / still blocked) for the GUARDED machine `stepG`
   (lemma file, no Mathlib): a recursion-guard trip is one more way in which a resume is refused. -/
import JanetModel.Fiber.GuardLemmas
import JanetModel.Fiber.Cleanup
namespace JanetModel.Fiber
open JanetModel.Gen.Fiber

section
variable {m : Nat} {p f : FId} {cont : Cont}

/-- the guard overwrites the status of a resumable fiber `g ≠ f` that is not on the activation stack with :error -/
theorem BCtx.guardSet {s : State} {h : FId} {fh : Fiber} {rest : List FId} (b : BCtx m p f cont s h fh rest)
    {g : FId} {fg : Fiber} (hg : s.fiber? g = some fg) (hgn : g ∉ h :: rest) (hgf : g ≠ f) :
    BCtx m p f cont (s.setFiber g { fg with status := stError }) h fh rest := by
  have hfg : f ≠ g := Ne.symm hgf
  refine ⟨b.c.guardSet hg hgn, ?_, b.only.setFiber _ hg rfl, b.hne, b.hhp, b.acc⟩
  by_cases hpg : p = g
  · -- `p` itself is the refused fiber: it stays blocked as it was, and :error is not :alive
    subst hpg
    obtain ⟨⟨fp, hfp, hpr⟩, hf, hsh⟩ := b.blk
    rw [hg] at hfp; cases hfp
    refine ⟨⟨_, fiber?_setFiber_eq _ hg, hpr⟩, by rw [fiber?_setFiber_ne hfg]; exact hf, ?_⟩
    rcases hsh with ⟨h1, h2, _, h4⟩ | hon
    · refine Or.inl ⟨h1, h2, ?_, by rw [fiber?_setFiber_ne hfg]; exact h4⟩
      intro x hx; rw [fiber?_setFiber_eq _ hg] at hx; cases hx; exact (by decide : stError ≠ stAlive)
    · exact Or.inr hon
  · exact b.blk.congr (fiber?_setFiber_ne hpg) (fiber?_setFiber_ne hfg)

theorem GuardOut.toG {h : FId} {rest : List FId} {s : State} {fh : Fiber} {tv : Option Val} {r : State}
    (o : GuardOut h rest s fh tv r) (b : BCtx m p f cont s h fh rest) (hstep : G m p f cont (Fiber.step s)) (hT : tv ≠ some (.fib f)) :
    G m p f cont r := by
  cases o with
  | step => exact hstep
  | instr o => exact o.toG b hT id
  | trip t hch htv hg hnr o =>
    have b1 := b.ofTweak t (Or.inl hch)
    exact o.toG (b1.guardSet hg (not_mem_of_not_alive b1.c.hs hg (not_refused hnr).2) (fun hh => hT (hh ▸ htv))) hT id

/-- one step of the GUARDED machine from "blocked, body not exited": stuck / exited (cleanup next) / passed / still blocked -/
theorem stepG_G (hm : AccFin m) (lim : Nat) (s : State) (hinv : Inv s) (hne : p ≠ f) (hb : Blk m p f cont s s.stack)
    (hpriv : Priv p f s) : G m p f cont (stepG true lim s) := by
  have hstep := step_G hm s hinv hne hb hpriv
  rcases stepG_out lim s hinv with he | ⟨h, rest, fh, t, hh, c, hctl, o⟩
  · rw [he]; exact hstep
  · exact o.toG (BCtx.ofStep hm hinv hne hb hpriv.1 hh c.hstk c.hfp hctl) hstep (hpriv.2 h rest fh t c.hstk c.hfp hctl).1

end
end JanetModel.Fiber
