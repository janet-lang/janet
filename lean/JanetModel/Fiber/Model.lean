/- C05 — executable model of janet's fiber / signal protocol (core Lean only; linked into the driver jm_c05).

   Mirrors, function by function:
     vm.c      janet_check_can_resume, janet_continue, janet_continue_no_check, janet_continue_signal,
               run_vm prologue (RESUME_SIGNAL), JOP_RESUME, JOP_CANCEL, JOP_PROPAGATE, JOP_SIGNAL, JOP_NEXT,
               janet_call (coercion of non-error signals across a C re-entry)
     capi.c    janet_signalv (coercion when `coerce_error` is set)
     value.c   janet_next_impl / janet_in on fibers
     fiber.c   cfun_fiber_new (mask letters, :i / :p environments), janet_dyn / janet_setdyn
   The C recursion  run_vm -> janet_continue -> run_vm ...  is defunctionalised into `State.stack`, the list of
   fibers whose `janet_continue_no_check` activation is live (innermost first).  A fiber on that list that is not
   the head is blocked inside a resume / cancel / next instruction (status alive) or inside the child-chain branch of
   janet_continue_no_check (status still suspended); both wait for the signal of the fiber above them, and
   `unwind` is the common "return from janet_continue + mask test" that both C sites perform.
   All numeric constants come from Gen/Fiber.lean, regenerated from the C source on every run. -/
import JanetModel.Gen.Fiber
namespace JanetModel.Fiber
open JanetModel.Gen.Fiber

abbrev FId := Nat

inductive Val where
  | nil
  | bool (b : Bool)
  | int (n : Int)
  | str (s : String)
  | kw (s : String)
  | fib (f : FId)
  | pair (a b : Val)
  | unit                -- the empty tuple ()
  | single (a : Val)    -- the 1-tuple (a)
  | estruct             -- the empty struct {}
  deriving Repr, DecidableEq, Inhabited

/-- signature shape of a fiber function: number of positional parameters (required + &opt), number of required ones,
    and the trailing collector: 0 none, 1 `& rest` (tuple), 2 `&keys` (struct) -/
structure Sig where
  arity : Nat := 0
  minArity : Nat := 0
  rest : Nat := 0
  deriving Repr, DecidableEq, Inhabited

inductive Atom where
  | lit (v : Val)
  | var (i : Nat)     -- local slot (absolute index into the frame's environment)
  | glob (i : Nat)    -- i-th fiber ever created (harness registry `G`), nil when it does not exist yet
  deriving Repr, DecidableEq, Inhabited

/-- Instructions without sub-terms. -/
inductive Prim where
  | pure (a : Atom)
  | pair (a b : Atom)
  | fst (a : Atom)
  | snd (a : Atom)
  | status (f : Atom)
  | yield (a : Atom)
  | signal (n : Nat) (a : Atom)        -- (signal n a), user signal n
  | error (a : Atom)
  | debug (a : Atom)                   -- (debug a): JOP_SIGNAL with JANET_SIGNAL_DEBUG
  | resume (f a : Atom)
  | cancel (f a : Atom)
  | propagate (a f : Atom)
  | next (f : Atom)
  | last (f : Atom)                    -- (in f 0) = fiber/last-value
  | setdyn (k : Nat) (a : Atom)
  | dyn (k : Nat)
  deriving Repr, DecidableEq, Inhabited

/-- Scripts: A-normal form; every instruction carries a label `l` (0 = silent) under which the value it produced is
    logged, and binds that value to the next free slot. -/
inductive Tm where
  | ret (a : Atom)
  | ite (a b : Atom) (t e : Tm)                          -- (if (= a b) t e)
  | prim (l : Nat) (p : Prim) (k : Tm)
  | new (l : Nat) (body : Tm) (flags : List Nat) (k : Tm)  -- (fiber/new (fn [] body) flags)
  | newp (l : Nat) (sig : Sig) (body : Tm) (flags : List Nat) (k : Tm)  -- (fiber/new (fn [params…] body) flags)
  | block (l : Nat) (t : Tm) (k : Tm)                    -- (def x (do t))
  | ccall (l : Nat) (t : Tm) (k : Tm)                    -- body run through janet_call (C re-entry)
  | each (l : Nat) (f : Atom) (body : Tm) (k : Tm)       -- (each x f body): next / in loop
  | seq (t : Tm) (k : Tm)                                -- (do t) for effect, value dropped, no slot bound
  deriving Repr, Inhabited

/-- What a blocked instruction does with the value delivered to it. -/
inductive Cont where
  | bindK (l : Nat) (k : Tm) (isNext : Bool)
  | loopK (l : Nat) (f : Atom) (body : Tm) (k : Tm)
  deriving Repr, Inhabited

def Cont.isNext : Cont → Bool
  | .bindK _ _ b => b
  | .loopK .. => true

inductive Frame where
  | blk (env : List Val) (l : Nat) (k : Tm)
  | cc (env : List Val) (l : Nat) (k : Tm)                -- entrance frame of a janet_call
  | loop (env : List Val) (l : Nat) (f : Atom) (body : Tm) (k : Tm)
  | drop (env : List Val) (k : Tm)
  deriving Repr, Inhabited

def Frame.isCC : Frame → Bool
  | .cc .. => true
  | _ => false

inductive Ctl where
  | run (t : Tm)
  | wait (c : Cont)
  deriving Repr, Inhabited

structure Fiber where
  status : Nat
  mask : Nat                    -- low bits of `flags`: bit (1 <<< sig)
  child : Option FId := none
  pending : Option Nat := none  -- JANET_FIBER_RESUME_SIGNAL + signal stored by janet_continue_signal
  ctl : Ctl
  env : List Val := []
  kont : List Frame := []
  denv : Option Nat := none     -- fiber->env (index into State.denvs)
  last : Val := .nil
  root : Bool := false          -- JANET_FIBER_FLAG_ROOT
  passThrough : Bool := false   -- this fiber's live activation sits in the child branch of janet_continue_no_check
  sig : Sig := {}               -- parameters of the fiber function (bound at the first resume)
  deriving Repr, Inhabited

structure DEnv where
  proto : Option Nat
  tbl : List (Nat × Val)
  deriving Repr, Inhabited

structure Event where
  l : Nat
  fid : FId
  v : Val
  snap : List Nat
  depth : Nat := 0     -- janet_vm.stackn at the time of the event, relative to the entry of the outermost janet_continue
  deriving Repr, Inhabited

inductive Halt where
  | done (sig : Nat) (v : Val)   -- control returned to the C caller of the outermost janet_continue
  | hang                         -- janet_continue_signal's `while (child->child)` walk does not terminate
  | unmodelled (why : String)
  | bad (why : String)           -- ill-formed machine state (never reached from `init`)
  deriving Repr, Inhabited

structure State where
  fibers : List Fiber
  denvs : List DEnv := []
  stack : List FId := []
  trace : List Event := []       -- newest first
  halt : Option Halt := none
  deriving Repr, Inhabited

/-! ### small helpers -/

def testBit (m sig : Nat) : Bool := (m / 2 ^ sig) % 2 == 1

def nameOf (xs : List String) (i : Nat) : String := xs.getD i "?"

def statusName (s : Nat) : String := nameOf statusNames s
def signalName (s : Nat) : String := nameOf signalNames s

def isFinished (s : Nat) : Bool := refuseResume.contains s && s != stAlive
def isSuspended (s : Nat) : Bool := s != stNew && s != stAlive && !isFinished s

def escStr (s : String) : String :=
  String.join (s.toList.map fun c => if c == '"' then "\\\"" else if c == '\\' then "\\\\" else String.singleton c)

/-- `%v` of janet_formatc, for the values the model uses (fibers print as `<fiber>`; the harness strips addresses). -/
def Val.descr : Val → String
  | .nil => "nil"
  | .bool b => if b then "true" else "false"
  | .int n => toString n
  | .str s => "\"" ++ escStr s ++ "\""
  | .kw s => ":" ++ s
  | .fib _ => "<fiber>"
  | .pair _ _ => "<tuple>"
  | .unit => "<tuple>"
  | .single _ => "<tuple>"
  | .estruct => "<struct>"

def State.fiber? (s : State) (f : FId) : Option Fiber := s.fibers[f]?
def State.setFiber (s : State) (f : FId) (x : Fiber) : State := { s with fibers := s.fibers.set f x }
def State.snapshot (s : State) : List Nat := s.fibers.map (·.status)
def State.stop (s : State) (h : Halt) : State := { s with halt := some h }
/-- live janet_call frames of a fiber (each one did `oldn = janet_vm.stackn++`) -/
def ccFrames (fp : Fiber) : Nat := (fp.kont.filter Frame.isCC).length

/-- janet_vm.stackn relative to its value when the outermost janet_continue was entered: every live
    janet_continue_no_check activation counts once (`state->stackn = janet_vm.stackn++` in janet_try_init when it is in
    run_vm, resp. the `janet_vm.stackn++` around `janet_continue(child)` when it is in the child branch), plus once per
    live janet_call frame.  That the C's increments / decrements / restores amount to exactly this function of the
    nesting is `contN_restores`, `runEvs_restores` (Fiber/GuardLemmas.lean); that the number is right is compared with the real
    `janet_vm.stackn` at every logged instruction (guard pass of checks/C05.py). -/
def depthOf (s : State) : Nat :=
  s.stack.foldl (fun n q => n + 1 + (match s.fiber? q with | some fq => ccFrames fq | none => 0)) 0

def State.log (s : State) (l : Nat) (f : FId) (v : Val) : State :=
  if l == 0 then s else { s with trace := { l := l, fid := f, v := v, snap := s.snapshot, depth := depthOf s } :: s.trace }

def evalAtom (s : State) (env : List Val) : Atom → Val
  | .lit v => v
  | .var i => env.getD i .nil
  | .glob i => if i < s.fibers.length then .fib i else .nil

def inCcall (fp : Fiber) : Bool := fp.kont.any Frame.isCC

/-- janet_call's / janet_signalv's coercion of a non-ok signal that tries to cross a C frame. -/
def coerce (sig : Nat) (v : Val) : Nat × Val :=
  if sig == sigError then (sigError, v)
  else (sigError, .str (v.descr ++ " coerced from " ++ signalName sig ++ " to error"))

/-- janet_check_can_resume: `some msg` = refused.  Root test first, then the status set. -/
def checkCanResume (fp : Fiber) (isCancel : Bool) : Option Val :=
  if fp.root then some (.str (if isCancel then "cannot cancel root fiber, use ev/cancel" else "cannot resume root fiber, use ev/go"))
  else if refuseResume.contains fp.status then some (.str ("cannot resume fiber with status :" ++ statusName fp.status))
  else none

/-- cfun_fiber_new's loop over the flag letters, mask part: the bits of the letters and digits (the environment actions of the
    i / p letters are `newEnvStep`). -/
def maskOfFlags (flags : List Nat) : Nat :=
  flags.foldl (fun m c =>
    if 48 ≤ c ∧ c ≤ 57 then m ||| maskUserN.getD (c - 48) 0
    else match maskLetters.lookup c with
      | some b => m ||| b
      | none => m) 0

/-! ### dynamic bindings (janet_dyn / janet_setdyn over fiber->env tables with prototypes) -/

def tblPut (t : List (Nat × Val)) (k : Nat) (v : Val) : List (Nat × Val) :=
  let t' := t.filter (fun p => p.1 != k)
  if v = .nil then t' else (k, v) :: t'       -- janet_table_put with a nil value removes the key

def dynLookup (denvs : List DEnv) : Nat → Option Nat → Nat → Val
  | 0, _, _ => .nil
  | _, none, _ => .nil
  | fuel + 1, some e, k =>
    match denvs[e]? with
    | none => .nil
    | some d =>
      match d.tbl.lookup k with
      | some v => v
      | none => dynLookup denvs fuel d.proto k

/-- make sure fiber `p` has an environment table (`if (!janet_vm.fiber->env) janet_vm.fiber->env = janet_table(0)`) -/
def ensureEnv (s : State) (p : FId) (fp : Fiber) : State × Fiber × Nat :=
  match fp.denv with
  | some e => (s, fp, e)
  | none =>
    let e := s.denvs.length
    let fp' : Fiber := { fp with denv := some e }
    let s' : State := { s with denvs := s.denvs ++ [{ proto := none, tbl := [] }] }
    (s'.setFiber p fp', fp', e)

/-! ### delivery of a value to a blocked instruction, signals, unwinding -/

/-- Fiber `p` (head of the stack, status alive) gets the result `v` of the instruction it was blocked in. -/
def deliverValue (s : State) (p : FId) (fp : Fiber) (c : Cont) (v : Val) : State :=
  match c with
  | .bindK l k _ =>
    ((s.setFiber p { fp with env := fp.env ++ [v], ctl := .run k })).log l p v
  | .loopK l f body k =>
    if v = .nil then
      ((s.setFiber p { fp with env := fp.env ++ [.nil], ctl := .run k })).log l p .nil
    else
      let x := match evalAtom s fp.env f with
        | .fib g => (match s.fiber? g with | some fg => fg.last | none => .nil)
        | _ => .nil
      s.setFiber p { fp with env := fp.env ++ [x], kont := .loop fp.env l f body k :: fp.kont, ctl := .run body }

/-- The fiber `c` has just produced `(sig, v)` towards the `janet_continue` caller chain `stack` (innermost first):
    the common tail of JOP_RESUME / JOP_CANCEL / janet_next_impl / the child branch of janet_continue_no_check.
    `if (sig != JANET_SIGNAL_OK && !(child->flags & (1 << sig)))` propagate further up `else` deliver here. -/
def unwind : State → List FId → FId → Nat → Val → State
  | s, [], _, sig, v => { s with stack := [], halt := some (.done sig v) }
  | s, p :: rest, c, sig, v =>
    match s.fiber? p, s.fiber? c with
    | some fp, some fc =>
      match fp.ctl with
      | .run _ => s.stop (.bad "unwind: caller is not blocked")
      | .wait cont =>
        if sig = sigOk ∨ testBit fc.mask sig = true then
          -- caught by p (the resumer of c)
          let v' := if cont.isNext then (if nextNil.contains sig then Val.nil else Val.int 0) else v
          if fp.passThrough = false then
            -- p was inside run_vm (JOP_RESUME / JOP_CANCEL / JOP_NEXT): `fiber->child = NULL; stack[A] = retreg`
            deliverValue { s with stack := p :: rest } p { fp with child := none } cont v'
          else
            -- p was in the child branch of janet_continue_no_check: `fiber->child = NULL`, then run_vm(p, in)
            match fp.pending with
            | some sg =>
              let fp' := { fp with child := none, pending := none, status := sg, last := v', passThrough := false }
              unwind (s.setFiber p fp') rest p sg v'
            | none =>
              deliverValue { s with stack := p :: rest } p { fp with child := none, status := stAlive, passThrough := false } cont v'
        else
          -- not caught: p takes the same status; `fiber->last_value = child->last_value` resp. the payload
          let cv := if inCcall fp then coerce sig v else (sig, v)
          let lastv := if fp.passThrough = false then cv.2 else fc.last
          -- (patched tree) child branch of janet_continue_no_check: a child refused because it is alive is unlinked
          let ch := if staleChildCleared && fp.passThrough && fc.status == stAlive then none else fp.child
          unwind (s.setFiber p { fp with status := cv.1, last := lastv, child := ch, passThrough := false }) rest p cv.1 cv.2
    | _, _ => s.stop (.bad "unwind: no such fiber")

/-- The running fiber `p` (head of the stack, `rest` below it) leaves run_vm with `(sig, v)`:
    vm_return / janet_signalv / normal return; coerced to an error if a janet_call frame is live. -/
def raise (s : State) (p : FId) (fp : Fiber) (rest : List FId) (sig : Nat) (v : Val) : State :=
  if sig = sigOk ∧ inCcall fp = true then s.stop (.unmodelled "signal ok (propagate of a dead fiber) inside janet_call")
  else
    let cv := if inCcall fp then coerce sig v else (sig, v)
    unwind (s.setFiber p { fp with status := cv.1, last := cv.2 }) rest p cv.1 cv.2

def panic (s : State) (p : FId) (fp : Fiber) (rest : List FId) (msg : String) : State :=
  raise s p fp rest sigError (.str msg)

/-- Parameter slots of a fiber function at its first resume with value `v` (janet_fiber(func, …, min_arity, NULL) fills the
    positional slots with nil and the collector with () / {}; then janet_continue_no_check, for a NEW fiber and a non-nil
    `v`: `if (def->arity > 0) stack[0] = v; else if (VARARG) stack[0] = (v)`). -/
def baseParams (sg : Sig) : List Val :=
  List.replicate sg.arity Val.nil ++ (if sg.rest = 0 then [] else if sg.rest = 1 then [Val.unit] else [Val.estruct])

def firstParams (sg : Sig) (v : Val) : List Val :=
  let base := baseParams sg
  if v = .nil then base
  else if (if firstValueUsesArity then sg.arity else sg.minArity) > 0 then base.set 0 v
  else if sg.rest ≠ 0 then base.set 0 (.single v)
  else base

/-- Enter run_vm on the (childless, resumable) fiber `f` with input `v`; `stk` = callers.
    run_vm prologue: a pending RESUME_SIGNAL makes it return that signal at once with `v` as payload. -/
def startRun (s : State) (stk : List FId) (f : FId) (ff : Fiber) (v : Val) : State :=
  match ff.pending with
  | some sg => unwind (s.setFiber f { ff with pending := none, status := sg, last := v }) stk f sg v
  | none =>
    match ff.ctl with
    | .run _ =>   -- new fiber: the first value is bound to the function's parameters
      { (s.setFiber f { ff with status := stAlive, env := ff.env ++ firstParams ff.sig v }) with stack := f :: stk }
    | .wait c => deliverValue { s with stack := f :: stk } f { ff with status := stAlive } c v

/-- janet_continue_no_check(f, v), callers `stk` (the resumer is the head). -/
def contNoCheck : Nat → State → List FId → FId → Val → State
  | 0, s, _, _, _ => s.stop (.unmodelled "child chain deeper than fuel (cyclic chain -> C recursion guard)")
  | fuel + 1, s, stk, f, v =>
    match s.fiber? f with
    | none => s.stop (.bad "continue: no such fiber")
    | some ff0 =>
      match ff0.child with
      | some c =>
        -- child branch; (patched tree) the fiber is marked alive while its child runs
        let ff := { ff0 with last := .nil, passThrough := true, status := if chainAliveMarked then stAlive else ff0.status }
        let s := s.setFiber f ff
        match s.fiber? c with
        | none => s.stop (.bad "continue: no such child")
        | some fc =>
          match checkCanResume fc false with
          | some msg => unwind s (f :: stk) c sigError msg      -- janet_continue(child) refused; child untouched
          | none => contNoCheck fuel s (f :: stk) c v
      | none =>
        let ff := { ff0 with last := .nil }
        startRun (s.setFiber f ff) stk f ff v

/-- `while (child->child) child = child->child;` — none = does not terminate. -/
def deepest (s : State) : Nat → FId → Option FId
  | 0, _ => none
  | fuel + 1, f =>
    match s.fiber? f with
    | none => some f
    | some ff =>
      match ff.child with
      | none => some f
      | some c => deepest s fuel c

/-- the patched walk: stop at a child that is alive; tortoise / hare cycle break -/
def deepestGuarded (s : State) : Nat → FId → FId → Nat → FId
  | 0, child, _, _ => child
  | fuel + 1, child, slow, step =>
    match s.fiber? child with
    | none => child
    | some fc =>
      match fc.child with
      | none => child
      | some c =>
        match s.fiber? c with
        | none => child
        | some cc =>
          if cc.status = stAlive then child
          else
            let slow' := if step % 2 = 1 then (match s.fiber? slow with | some fs => fs.child.getD slow | none => slow) else slow
            if c = slow' then c else deepestGuarded s fuel c slow' (step + 1)

def chainFuel (s : State) : Nat := s.fibers.length + 2

/-- the same walk, asking whether it meets a descendant with JANET_FIBER_FLAG_ROOT (a task of the event loop that was
    linked as a child: `propagate` from it, or `ev/go` on a fiber that already was somebody's child) -/
def walkMeetsRoot (s : State) : Nat → FId → FId → Nat → Bool
  | 0, _, _, _ => false
  | fuel + 1, child, slow, step =>
    match s.fiber? child with
    | none => false
    | some fc =>
      match fc.child with
      | none => false
      | some c =>
        match s.fiber? c with
        | none => false
        | some cc =>
          if cc.status = stAlive then false
          else if cc.root then true
          else
            let slow' := if step % 2 = 1 then (match s.fiber? slow with | some fs => fs.child.getD slow | none => slow) else slow
            if c = slow' then false else walkMeetsRoot s fuel c slow' (step + 1)

/-- (patched tree) janet_continue_signal refuses with an error, before it marks anything, when its walk meets a root fiber -/
def cancelRefusedRoot (s : State) (g : FId) : Bool :=
  cancelWalkRefusesRoot && walkMeetsRoot s (3 * chainFuel s) g g 0

def cancelRootMsg : Val := .str "cannot cancel root fiber, use ev/cancel"

/-- the walk of janet_continue_signal as it is in the current tree -/
def cancelTarget (s : State) (g : FId) : Option FId :=
  if cancelWalkGuarded then some (deepestGuarded s (3 * chainFuel s) g g 0) else deepest s (chainFuel s) g

/-! ### one instruction of the running fiber -/

def execPrim (s : State) (p : FId) (fp : Fiber) (rest : List FId) (l : Nat) (pr : Prim) (k : Tm) : State :=
  let ev := evalAtom s fp.env
  let bind (s : State) (fp : Fiber) (v : Val) : State := deliverValue s p fp (.bindK l k false) v
  let block (fp : Fiber) (isNext : Bool) : Fiber := { fp with ctl := .wait (.bindK l k isNext) }
  match pr with
  | .pure a => bind s fp (ev a)
  | .pair a b => bind s fp (.pair (ev a) (ev b))
  | .fst a =>
    match ev a with
    | .pair x _ => bind s fp x
    | .str st => bind s fp (match st.toList[0]? with | some c => .int c.toNat | none => .nil)
    | .kw st => bind s fp (match st.toList[0]? with | some c => .int c.toNat | none => .nil)
    | .fib g => bind s fp (match s.fiber? g with | some fg => fg.last | none => .nil)   -- janet_getindex: fiber[0] = last_value
    | .single x => bind s fp x
    | .unit => bind s fp .nil
    | .estruct => bind s fp .nil
    | v => panic s p fp rest ("expected string, symbol, keyword, array, tuple, table, struct or buffer, got " ++ v.descr)
  | .snd a =>
    match ev a with
    | .pair _ y => bind s fp y
    | .str st => bind s fp (match st.toList[1]? with | some c => .int c.toNat | none => .nil)
    | .kw st => bind s fp (match st.toList[1]? with | some c => .int c.toNat | none => .nil)
    | .fib _ => bind s fp .nil                                                           -- fiber[i > 0] = nil
    | .single _ => bind s fp .nil
    | .unit => bind s fp .nil
    | .estruct => bind s fp .nil
    | v => panic s p fp rest ("expected string, symbol, keyword, array, tuple, table, struct or buffer, got " ++ v.descr)
  | .status f =>
    match ev f with
    | .fib g => bind s fp (match s.fiber? g with | some fg => .kw (statusName fg.status) | none => .nil)
    | _ => bind s fp (.kw "nofib")
  | .yield a => raise s p (block fp false) rest sigYield (ev a)
  | .signal n a => raise s p (block fp false) rest (userBase + (if n > userMax then userMax else n)) (ev a)
  | .error a => raise s p (block fp false) rest sigError (ev a)
  | .debug a => raise s p (block fp false) rest sigDebug (ev a)
  | .resume f a =>
    match ev f with
    | .fib g =>
      match s.fiber? g with
      | none => s.stop (.bad "resume: no such fiber")
      | some fg =>
        match checkCanResume fg false with
        | some msg => raise s p fp rest sigError msg
        | none =>
          let s := s.setFiber p { block fp false with child := some g }      -- fiber->child = child
          contNoCheck (chainFuel s) s (p :: rest) g (ev a)
    | v => panic s p fp rest ("expected fiber, got " ++ v.descr)
  | .cancel f a =>
    match ev f with
    | .fib g =>
      match s.fiber? g with
      | none => s.stop (.bad "cancel: no such fiber")
      | some fg =>
        match checkCanResume fg true with
        | some msg => raise s p fp rest sigError msg
        | none =>
          let s := s.setFiber p { block fp false with child := some g }
          -- janet_continue_signal: (patched tree) a task of the event loop in the chain is refused like a direct cancel; the
          -- refusal comes back to JOP_CANCEL as a signal of `g` (mask test of g, `g` itself untouched)
          if cancelRefusedRoot s g = true then unwind s (p :: rest) g sigError cancelRootMsg
          else
          -- mark the deepest descendant, then janet_continue_no_check
          match cancelTarget s g with
          | none => s.stop .hang
          | some d =>
            match s.fiber? d with
            | none => s.stop (.bad "cancel: no such fiber")
            | some fd =>
              let s := s.setFiber d { fd with pending := some cancelSignal }
              contNoCheck (chainFuel s) s (p :: rest) g (ev a)
    | v => panic s p fp rest ("expected fiber, got " ++ v.descr)
  | .propagate a f =>
    match ev f with
    | .fib g =>
      match s.fiber? g with
      | none => s.stop (.bad "propagate: no such fiber")
      | some fg =>
        if fg.status > propagateMaxStatus ∨ (propagateRefusesDead = true ∧ fg.status = stDead) then
          panic s p fp rest ("cannot propagate from fiber with status :" ++ statusName fg.status)
        else
          raise s p { block fp false with child := some g } rest fg.status (ev a)
    | v => panic s p fp rest ("expected fiber, got " ++ v.descr)
  | .next f =>
    match ev f with
    | .fib g =>
      match s.fiber? g with
      | none => s.stop (.bad "next: no such fiber")
      | some fg =>
        if nextSkip.contains fg.status then bind s fp .nil
        else
          let s := s.setFiber p { block fp true with child := some g }
          match checkCanResume fg false with
          | some msg => unwind s (p :: rest) g sigError msg
          | none => contNoCheck (chainFuel s) s (p :: rest) g .nil
    | v => panic s p fp rest ("expected iterable type, got " ++ v.descr)
  | .last f =>
    match ev f with
    | .fib g => bind s fp (match s.fiber? g with | some fg => fg.last | none => .nil)
    | _ => bind s fp (.kw "nofib")
  | .setdyn kk a =>
    let r := ensureEnv s p fp
    match r.1.denvs[r.2.2]? with
    | none => r.1.stop (.bad "setdyn: no such env")
    | some d =>
      let s' : State := { r.1 with denvs := r.1.denvs.set r.2.2 { d with tbl := tblPut d.tbl kk (ev a) } }
      bind s' r.2.1 (ev a)
  | .dyn kk => bind s fp (dynLookup s.denvs (s.denvs.length + 1) fp.denv kk)

/-- one flag letter of `fiber/new` on the environment: `:i` gives the child the parent's table (created if missing), `:p` a fresh
    table with the parent's as prototype; applied in letter order by `execNew`. -/
def newEnvStep (p : FId) (acc : State × Fiber × Option Nat) (c : Nat) : State × Fiber × Option Nat :=
  if c = letterInherit then
    let r := ensureEnv acc.1 p acc.2.1
    (r.1, r.2.1, some r.2.2)
  else if c = letterProto then
    let r := ensureEnv acc.1 p acc.2.1
    let e' := r.1.denvs.length
    ({ r.1 with denvs := r.1.denvs ++ [{ proto := some r.2.2, tbl := [] }] }, r.2.1, some e')
  else acc

def execNew (s : State) (p : FId) (fp : Fiber) (l : Nat) (body : Tm) (flags : List Nat) (k : Tm) (sg : Sig := {}) : State :=
  let g := s.fibers.length
  let r := flags.foldl (newEnvStep p) (s, fp, none)
  let nf : Fiber := { status := stNew, mask := maskOfFlags flags, ctl := .run body, env := r.2.1.env, denv := r.2.2, sig := sg }
  let s' : State := { r.1 with fibers := r.1.fibers ++ [nf] }
  deliverValue s' p r.2.1 (.bindK l k false) (.fib g)

/-- `(next f nil)` issued by the `each` loop of fiber `p`. -/
def execLoopNext (s : State) (p : FId) (fp : Fiber) (rest : List FId) (l : Nat) (f : Atom) (body : Tm) (k : Tm) : State :=
  let c := Cont.loopK l f body k
  match evalAtom s fp.env f with
  | .fib g =>
    match s.fiber? g with
    | none => s.stop (.bad "each: no such fiber")
    | some fg =>
      if nextSkip.contains fg.status then deliverValue s p fp c .nil
      else
        let s := s.setFiber p { fp with ctl := .wait c, child := some g }
        match checkCanResume fg false with
        | some msg => unwind s (p :: rest) g sigError msg
        | none => contNoCheck (chainFuel s) s (p :: rest) g .nil
  | v => panic s p { fp with ctl := .wait c } rest ("expected iterable type, got " ++ v.descr)

def step (s : State) : State :=
  match s.halt with
  | some _ => s
  | none =>
    match s.stack with
    | [] => s.stop (.bad "empty stack")
    | p :: rest =>
      match s.fiber? p with
      | none => s.stop (.bad "no such fiber")
      | some fp =>
        match fp.ctl with
        | .wait _ => s.stop (.bad "head of stack is blocked")
        | .run t =>
          match t with
          | .ret a =>
            let v := evalAtom s fp.env a
            match fp.kont with
            | [] => raise s p fp rest sigOk v
            | .blk env l k :: ks => (s.setFiber p { fp with env := env ++ [v], kont := ks, ctl := .run k }).log l p v
            | .cc env l k :: ks => (s.setFiber p { fp with env := env ++ [v], kont := ks, ctl := .run k }).log l p v
            | .loop env l f body k :: ks =>
              let fp' := { fp with env := env, kont := ks }
              execLoopNext (s.setFiber p fp') p fp' rest l f body k
            | .drop env k :: ks => s.setFiber p { fp with env := env, kont := ks, ctl := .run k }
          | .ite a b t e =>
            s.setFiber p { fp with ctl := .run (if evalAtom s fp.env a = evalAtom s fp.env b then t else e) }
          | .prim l pr k => execPrim s p fp rest l pr k
          | .new l body flags k => execNew s p fp l body flags k
          | .newp l sg body flags k =>
            -- cfun_fiber_new: `if (func->def->min_arity > 1) janet_panicf(...)`
            if sg.minArity > newMaxMinArity then panic s p fp rest "fiber function must accept 0 or 1 arguments"
            else execNew s p fp l body flags k sg
          | .block l t k => s.setFiber p { fp with kont := .blk fp.env l k :: fp.kont, ctl := .run t }
          | .ccall l t k => s.setFiber p { fp with kont := .cc fp.env l k :: fp.kont, ctl := .run t }
          | .each l f body k => execLoopNext s p fp rest l f body k
          | .seq t k => s.setFiber p { fp with kont := .drop fp.env k :: fp.kont, ctl := .run t }

def run : Nat → State → State
  | 0, s => s
  | n + 1, s => match s.halt with
    | some _ => s
    | none => run n (step s)

/-- Fiber 0 = the harness' real main fiber (root task, alive, inert); fiber 1 = the tree's main fiber, created
    `(fiber/new (fn [] t) flags)` and resumed once by fiber 0's C-level caller. -/
def initp (t : Tm) (flags : List Nat) (sg : Sig) (v : Val) : State :=
  let main : Fiber := { status := stAlive, mask := defaultMask, ctl := .wait (.bindK 0 (.ret (.lit .nil)) false), root := true, denv := some 0 }
  let top : Fiber := { status := stNew, mask := maskOfFlags flags, ctl := .run t, sig := sg }
  let s : State := { fibers := [main, top], denvs := [{ proto := none, tbl := [] }] }
  startRun s [] 1 top v

def init (t : Tm) (flags : List Nat) : State := initp t flags {} .nil

end JanetModel.Fiber
