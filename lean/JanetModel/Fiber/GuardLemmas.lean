/- C05 — lemmas about the recursion-guard layer (Fiber/Guard.lean); no Mathlib. -/
import JanetModel.Fiber.Guard
import JanetModel.Fiber.Invariant
namespace JanetModel.Fiber
open JanetModel.Gen.Fiber

/-- janet_continue_no_check leaves janet_vm.stackn as it found it — whatever the innermost run_vm did to it (normal return,
    signal, or a longjmp out of arbitrarily nested janet_calls that skipped their `stackn = oldn`), through child chains
    of any length -/
theorem contN_restores (innerRun : Nat → Nat × Bool) : ∀ (chain n : Nat), contN innerRun chain n = n := by
  intro chain
  induction chain with
  | zero => intro n; rfl
  | succ c ih => intro n; simp only [contN, ih]; omega

mutual
/-- a run_vm activation that is not left by a longjmp leaves the counter as it found it … -/
theorem runEvs_restores : ∀ (es : List Ev) (n : Nat), (runEvs n es).2 = false → (runEvs n es).1 = n
  | [], n, _ => by simp [runEvs]
  | e :: es, n, h => by
    simp only [runEvs] at h ⊢
    by_cases hp : (runEv n e).2 = true
    · rw [if_pos hp] at h; rw [hp] at h; cases h
    · have hp' : (runEv n e).2 = false := by simpa using hp
      have h1 := runEv_restores e n hp'
      rw [if_neg hp] at h ⊢
      rw [h1] at h ⊢
      exact runEvs_restores es n h
/-- … and so does every single nested call / resume -/
theorem runEv_restores : ∀ (e : Ev) (n : Nat), (runEv n e).2 = false → (runEv n e).1 = n
  | .panic, n, h => by simp [runEv] at h
  | .call inner, n, h => by
    simp only [runEv] at h ⊢
    by_cases hp : (runEvs (n + 1) inner).2 = true
    · rw [if_pos hp] at h; rw [hp] at h; cases h
    · rw [if_neg hp]
  | .resume c inner, n, _ => by simp [runEv, contN_restores]
end

/-- a resume is never left by a longjmp, and restores the counter even if a longjmp happened inside it -/
theorem resume_restores (chain : Nat) (inner : List Ev) (n : Nat) : runEv n (.resume chain inner) = (n, false) := by
  simp [runEv, contN_restores]

theorem call_enters_deeper (inner : List Ev) (n : Nat) :
    runEv n (.call inner) = (if (runEvs (n + 1) inner).2 then runEvs (n + 1) inner else (n, false)) := by
  simp only [runEv]

/-- guard tested after the refusals: the guard only ever fails a fiber that could otherwise be resumed -/
theorem checkGuarded_trip_resumable {lim n : Nat} {fp : Fiber} {b : Bool} {msg : Val}
    (h : checkGuarded true lim n fp b = some (msg, true)) : checkCanResume fp b = none ∧ n ≥ lim ∧ msg = guardMsg := by
  unfold checkGuarded at h
  simp only [if_true] at h
  split at h
  · cases h
  · rename_i hc
    split at h
    · rename_i hn; simp only [Option.some.injEq, Prod.mk.injEq, and_true] at h; exact ⟨hc, hn, h.symm⟩
    · cases h

/-- below the limit the guarded check is janet_check_can_resume as modelled before, in either statement order -/
theorem checkGuarded_below (after : Bool) {lim n : Nat} (fp : Fiber) (b : Bool) (h : n < lim) :
    checkGuarded after lim n fp b = (checkCanResume fp b).map (fun m => (m, false)) := by
  have hn : ¬ n ≥ lim := by omega
  unfold checkGuarded
  cases after <;> simp only [hn, if_false, if_true, Bool.false_eq_true] <;> cases checkCanResume fp b <;> rfl

theorem chainLen_le (s : State) : ∀ (fuel : Nat) (g : FId), chainLen s fuel g ≤ fuel := by
  intro fuel
  induction fuel with
  | zero => intro g; simp [chainLen]
  | succ n ih =>
    intro g
    unfold chainLen
    split
    · omega
    · split
      · omega
      · have := ih ‹_›; omega

theorem Ctx.guardSet {s : State} {p : FId} {fp : Fiber} {rest : List FId} (c : Ctx s p fp rest) {g : FId} {fg : Fiber}
    (hg : s.fiber? g = some fg) (hgn : g ∉ p :: rest) : Ctx (s.setFiber g { fg with status := stError }) p fp rest := by
  have hpg : p ≠ g := fun h => hgn (h ▸ List.mem_cons_self)
  exact ⟨c.hstk, by rw [fiber?_setFiber_ne hpg]; exact c.hfp,
    c.hpo.setFiber g _ (fun sg h => c.hpo g fg sg hg h), c.hs.setFiber_notin g _ hgn⟩

/-- What the guard makes of an instruction of `p` with fiber operand `tv`: nothing (`step`), a stop or panic (`instr`), or
    (`trip`) it overwrites the status of the resumable — hence not alive, hence not on the stack — operand `g` with :error
    and the refusal is raised in `p` resp. handed back as a signal of `g`. -/
inductive GuardOut (p : FId) (rest : List FId) (s : State) (fp : Fiber) (tv : Option Val) : State → Prop
  | step : GuardOut p rest s fp tv (step s)
  | instr {r} (o : InstrOut p rest tv (fun _ => False) s fp r) : GuardOut p rest s fp tv r
  | trip {r s1 fp1 g fg} (t : Tweak s s1 p fp fp1) (hch : fp1.child = fp.child) (htv : tv = some (.fib g))
      (hg : s1.fiber? g = some fg) (hnr : refuseResume.contains fg.status = false)
      (o : InstrOut p rest tv (fun _ => False) (s1.setFiber g { fg with status := stError }) fp1 r) : GuardOut p rest s fp tv r

theorem nextG_out {lim : Nat} {s0 s : State} {p : FId} {fp0 fp : Fiber} {rest : List FId} (c0 : Ctx s0 p fp0 rest)
    (t : Tweak s0 s p fp0 fp) (hch : fp.child = fp0.child) (d : Nat) (tv : Val) (cont : Cont) :
    GuardOut p rest s0 fp0 (some tv) (nextG true lim s0 s p fp rest d tv cont) := by
  unfold nextG
  split
  · rename_i g
    split
    · exact .step
    · rename_i fg hg
      split
      · exact .step
      · split
        · rename_i msg hchk
          have hnr := checkCanResume_none (checkGuarded_trip_resumable hchk).1
          have c2 := (c0.tweak t).guardSet hg (not_mem_of_not_alive (c0.tweak t).hs hg (not_refused hnr).2)
          simp only [c2.hfp]
          exact .trip t hch rfl hg hnr (.refused cont msg rfl)
        · exact .step
        · split
          · exact .instr (.stop (Tweak.refl c0.hfp) (DGrow.refl _) _ rfl)
          · exact .step
  · exact .step

theorem resumeG_out {lim : Nat} {s : State} {p : FId} {fp : Fiber} {rest : List FId} (c : Ctx s p fp rest)
    (d : Nat) (tv : Val) (b : Bool) : GuardOut p rest s fp (some tv) (resumeG true lim s p rest d tv b) := by
  unfold resumeG
  split
  · rename_i g
    split
    · exact .step
    · rename_i fg hg
      split
      · rename_i msg hchk
        have hnr := checkCanResume_none (checkGuarded_trip_resumable hchk).1
        have c2 := c.guardSet hg (not_mem_of_not_alive c.hs hg (not_refused hnr).2)
        simp only [c2.hfp]
        exact .trip (Tweak.refl c.hfp) rfl rfl hg hnr (.raise _ _ _ sigError_lt)
      · exact .step
      · split
        · exact .instr (.stop (Tweak.refl c.hfp) (DGrow.refl _) _ rfl)
        · exact .step
  · exact .step

theorem stepG_out (lim : Nat) (s : State) (hinv : Inv s) :
    stepG true lim s = step s ∨
    ∃ p rest fp t, s.halt = none ∧ Ctx s p fp rest ∧ fp.ctl = .run t ∧ GuardOut p rest s fp (instrTarget s fp t) (stepG true lim s) := by
  unfold stepG
  split
  · rename_i hh; exact Or.inl (by unfold step; rw [hh])
  · rename_i hh
    split
    · exact Or.inl rfl
    · rename_i p rest hstk
      split
      · exact Or.inl rfl
      · rename_i fp hfp
        have c : Ctx s p fp rest := ⟨hstk, hfp, hinv.1, hstk ▸ hinv.2 hh⟩
        split
        · exact Or.inl rfl
        · rename_i t hctl
          refine Or.inr ⟨p, rest, fp, t, hh, c, hctl, ?_⟩
          split
          · exact resumeG_out c _ _ _
          · exact resumeG_out c _ _ _
          · exact nextG_out c (Tweak.refl hfp) rfl _ _ _
          · exact nextG_out c (Tweak.refl hfp) rfl _ _ _
          · split
            · rename_i env l f body k ks hk
              simp only [instrTarget, hk]
              rw [← evalAtom_setFiber s p { fp with env := env, kont := ks }]
              exact nextG_out c (Tweak.setFiber { fp with env := env, kont := ks } hfp rfl rfl rfl rfl) rfl _ _ _
            · exact .step
          · split
            · exact .instr (.raise _ _ _ sigError_lt)
            · exact .step
          · exact .step

theorem GuardOut.res {p : FId} {rest : List FId} {s : State} {fp : Fiber} {tv : Option Val} {r : State} (o : GuardOut p rest s fp tv r)
    (hinv : Inv s) (c : Ctx s p fp rest) : Res s r := by
  cases o with
  | step => exact step_res s hinv
  | instr o => exact o.res c
  | @trip _ s1 fp1 g fg t _ _ hg hnr o =>
    have c1 := c.tweak t
    exact Res.trans (t.mono.trans (Mono.setFiber { fg with status := stError } hg (Or.inr ⟨(not_refused hnr).1, (by decide : stError ≠ stNew)⟩) rfl))
      (o.res (c1.guardSet hg (not_mem_of_not_alive c1.hs hg (not_refused hnr).2)))

/-- one step of the GUARDED machine (guard tested after the refusals) keeps the invariant and moves every status forward
    or not at all — in particular a guard trip never touches a finished or running fiber -/
theorem stepG_res (lim : Nat) (s : State) (hinv : Inv s) : Res s (stepG true lim s) := by
  rcases stepG_out lim s hinv with he | ⟨p, rest, fp, t, _, c, _, o⟩
  · rw [he]; exact step_res s hinv
  · exact o.res hinv c

theorem runG_succ (a : Bool) (lim : Nat) : ∀ (n : Nat) (s : State), runG a lim (n + 1) s = stepG a lim (runG a lim n s) :=
  iterate_succ (fun _ => rfl) (fun _ _ => rfl) (fun s h => by
    unfold stepG
    split
    · rfl
    · exact absurd ‹_› h)

/-- far enough below the limit the guarded machine IS the machine of Model.lean (so every theorem about `step` / `run`
    applies to executions that stay below the guard) -/
theorem stepG_below (after : Bool) (lim : Nat) (s : State) (h : depthOf s + chainFuel s < lim) : stepG after lim s = step s := by
  have hd : depthOf s < lim := by omega
  have hch : ∀ s' g, chainFuel s' = chainFuel s → ¬ (depthOf s + chainLen s' (chainFuel s') g ≥ lim) := by
    intro s' g he
    have := chainLen_le s' (chainFuel s') g
    omega
  have hR : ∀ p rest tv b, resumeG after lim s p rest (depthOf s) tv b = step s := by
    intro p rest tv b
    unfold resumeG
    split
    · split
      · rfl
      · rw [checkGuarded_below after _ _ hd]
        cases checkCanResume _ b with
        | some m => rfl
        | none => simp only [Option.map, hch s _ rfl, if_false]
    · rfl
  have hN : ∀ s1 p fp rest tv c, chainFuel s1 = chainFuel s → nextG after lim s s1 p fp rest (depthOf s) tv c = step s := by
    intro s1 p fp rest tv c he
    unfold nextG
    split
    · split
      · rfl
      · split
        · rfl
        · rw [checkGuarded_below after _ _ hd]
          cases checkCanResume _ false with
          | some m => rfl
          | none => simp only [Option.map, hch s1 _ he, if_false]
    · rfl
  unfold stepG
  split
  · rename_i hh; unfold step; simp [hh]
  · split
    · rfl
    · split
      · rfl
      · split
        · rfl
        · split
          · exact hR ..
          · exact hR ..
          · exact hN _ _ _ _ _ _ rfl
          · exact hN _ _ _ _ _ _ rfl
          · split
            · exact hN _ _ _ _ _ _ (by simp [chainFuel, State.setFiber])
            · rfl
          · rw [if_neg (by omega)]
          · rfl

end JanetModel.Fiber
