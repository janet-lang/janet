/- C05 — the global invariant of the fiber machine and status monotonicity for every `step` (no Mathlib).
   Holds under the flag `chainAliveMarked` (janet_continue_no_check marks a fiber alive while its child runs): every live
   activation is alive. -/
import JanetModel.Fiber.Dyn
namespace JanetModel.Fiber
open JanetModel.Gen.Fiber

/-- allowed status movement: stay, or leave a non-finished status for anything but `new` -/
def Fwd (a b : Nat) : Prop := a = b ∨ (isFinished a = false ∧ b ≠ stNew)

theorem Fwd.refl (a : Nat) : Fwd a a := Or.inl rfl

theorem Fwd.trans {a b c : Nat} (h1 : Fwd a b) (h2 : Fwd b c) : Fwd a c := by
  rcases h1 with rfl | ⟨ha, hb⟩
  · exact h2
  · rcases h2 with rfl | ⟨_, hc⟩
    · exact Or.inr ⟨ha, hb⟩
    · exact Or.inr ⟨ha, hc⟩

/-- `fiber->env` is only ever assigned when it is NULL: an environment index, once set, stays -/
def DKeep (a b : Fiber) : Prop := ∀ e, a.denv = some e → b.denv = some e

theorem DKeep.refl (a : Fiber) : DKeep a a := fun _ h => h
theorem DKeep.trans {a b c : Fiber} (h1 : DKeep a b) (h2 : DKeep b c) : DKeep a c := fun e h => h2 e (h1 e h)
theorem DKeep.of_eq {a b : Fiber} (h : b.denv = a.denv) : DKeep a b := fun e he => by rw [h]; exact he

/-- discharges the `DKeep` side condition of a record update that does not touch `denv` (directly, or relative to a
    `DKeep` hypothesis in the context) -/
macro "dkeep_tac" : tactic =>
  `(tactic| first | exact DKeep.refl _ | (intro e he; exact he) | (intro e he; exact (by assumption : DKeep _ _) e he))

/-- every fiber of `s` is still there in `s'`, its status moved forward (or not at all), its mask is the same, and its
    environment index, if it had one, is the same -/
def Mono (s s' : State) : Prop :=
  ∀ g fg, s.fiber? g = some fg → ∃ fg', s'.fiber? g = some fg' ∧ Fwd fg.status fg'.status ∧ fg'.mask = fg.mask ∧ DKeep fg fg'

theorem Mono.refl (s : State) : Mono s s := fun _ fg h => ⟨fg, h, Fwd.refl _, rfl, DKeep.refl _⟩

theorem Mono.trans {a b c : State} (h1 : Mono a b) (h2 : Mono b c) : Mono a c := by
  intro g fg h
  obtain ⟨fg', h', hf, hm, hd⟩ := h1 g fg h
  obtain ⟨fg'', h'', hf', hm', hd'⟩ := h2 g fg' h'
  exact ⟨fg'', h'', hf.trans hf', hm'.trans hm, hd.trans hd'⟩

theorem Mono.fwd {s s' : State} (h : Mono s s') {g : FId} {fg : Fiber} (hg : s.fiber? g = some fg) :
    ∃ fg', s'.fiber? g = some fg' ∧ Fwd fg.status fg'.status ∧ fg'.mask = fg.mask :=
  let ⟨fg', h1, h2, h3, _⟩ := h g fg hg
  ⟨fg', h1, h2, h3⟩

theorem Mono.denv {s s' : State} (h : Mono s s') {g : FId} {fg : Fiber} {e : Nat} (hg : s.fiber? g = some fg)
    (he : fg.denv = some e) : ∃ fg', s'.fiber? g = some fg' ∧ fg'.denv = some e :=
  let ⟨fg', h1, _, _, h4⟩ := h g fg hg
  ⟨fg', h1, h4 e he⟩

theorem Mono.finished {s s' : State} (h : Mono s s') {g : FId} {fg : Fiber} (hg : s.fiber? g = some fg)
    (hfin : isFinished fg.status = true) : ∃ fg', s'.fiber? g = some fg' ∧ fg'.status = fg.status := by
  obtain ⟨fg', h1, h2, _⟩ := h g fg hg
  refine ⟨fg', h1, ?_⟩
  rcases h2 with h | ⟨h, _⟩
  · exact h.symm
  · rw [hfin] at h; cases h

theorem Mono.of_fibers_eq {s s' : State} (h : s'.fibers = s.fibers) : Mono s s' := by
  intro g fg hg
  refine ⟨fg, ?_, Fwd.refl _, rfl, DKeep.refl _⟩
  unfold State.fiber? at *
  rw [h]; exact hg

def PendOK (s : State) : Prop := ∀ g fg sg, s.fiber? g = some fg → fg.pending = some sg → sg < stNew

/-- the activation stack: no fiber twice, every one of them alive -/
def StackOK (s : State) (stk : List FId) : Prop :=
  stk.Nodup ∧ ∀ p ∈ stk, ∃ fp, s.fiber? p = some fp ∧ fp.status = stAlive

def Inv (s : State) : Prop := PendOK s ∧ (s.halt = none → StackOK s s.stack)

/-- result of a machine function: statuses moved forward, invariant holds again -/
def Res (s s' : State) : Prop := Mono s s' ∧ Inv s'

theorem PendOK.of_fibers_eq {s s' : State} (h : s'.fibers = s.fibers) (hp : PendOK s) : PendOK s' := by
  intro g fg sg hg; apply hp g fg sg; unfold State.fiber? at *; rw [← h]; exact hg

theorem StackOK.of_fibers_eq {s s' : State} {stk : List FId} (h : s'.fibers = s.fibers) (hs : StackOK s stk) : StackOK s' stk := by
  refine ⟨hs.1, fun p hp => ?_⟩
  obtain ⟨fp, h1, h2⟩ := hs.2 p hp
  exact ⟨fp, by unfold State.fiber? at *; rw [h]; exact h1, h2⟩

theorem Mono.setFiber {s : State} {p : FId} {cur : Fiber} (x : Fiber) (h : s.fiber? p = some cur)
    (hf : Fwd cur.status x.status) (hm : x.mask = cur.mask) (hd : DKeep cur x := by dkeep_tac) : Mono s (s.setFiber p x) := by
  intro g fg hg
  by_cases hgp : g = p
  · subst hgp
    rw [h] at hg; cases hg
    exact ⟨x, fiber?_setFiber_eq x h, hf, hm, hd⟩
  · exact ⟨fg, by rw [fiber?_setFiber_ne hgp]; exact hg, Fwd.refl _, rfl, DKeep.refl _⟩

theorem PendOK.setFiber {s : State} (p : FId) (x : Fiber) (hp : PendOK s) (hx : ∀ sg, x.pending = some sg → sg < stNew) :
    PendOK (s.setFiber p x) := by
  intro g fg sg hg hpe
  by_cases hgp : g = p
  · subst hgp
    rw [fiber?_setFiber_self] at hg
    split at hg
    · cases hg; exact hx sg hpe
    · cases hg
  · rw [fiber?_setFiber_ne hgp] at hg; exact hp g fg sg hg hpe

theorem StackOK.setFiber_notin {s : State} {stk : List FId} (p : FId) (x : Fiber) (hs : StackOK s stk) (hn : p ∉ stk) :
    StackOK (s.setFiber p x) stk := by
  refine ⟨hs.1, fun q hq => ?_⟩
  obtain ⟨fq, h1, h2⟩ := hs.2 q hq
  have : q ≠ p := fun h => hn (h ▸ hq)
  exact ⟨fq, by rw [fiber?_setFiber_ne this]; exact h1, h2⟩

theorem StackOK.setFiber_same {s : State} {stk : List FId} {d : FId} {fd : Fiber} (x : Fiber) (hk : StackOK s stk)
    (hd : s.fiber? d = some fd) (hst : x.status = fd.status) : StackOK (s.setFiber d x) stk := by
  refine ⟨hk.1, fun q hq => ?_⟩
  obtain ⟨fq, h1, h2⟩ := hk.2 q hq
  by_cases hqd : q = d
  · subst hqd
    rw [hd] at h1; cases h1
    exact ⟨x, fiber?_setFiber_eq x hd, hst.trans h2⟩
  · exact ⟨fq, by rw [fiber?_setFiber_ne hqd]; exact h1, h2⟩

theorem StackOK.setFiber_alive {s : State} {stk : List FId} {p : FId} {cur : Fiber} (x : Fiber) (hs : StackOK s stk)
    (h : s.fiber? p = some cur) (ha : x.status = stAlive) : StackOK (s.setFiber p x) stk := by
  refine ⟨hs.1, fun q hq => ?_⟩
  by_cases hqp : q = p
  · subst hqp; exact ⟨x, fiber?_setFiber_eq x h, ha⟩
  · obtain ⟨fq, h1, h2⟩ := hs.2 q hq
    exact ⟨fq, by rw [fiber?_setFiber_ne hqp]; exact h1, h2⟩

theorem StackOK.cons {s : State} {stk : List FId} {p : FId} {fp : Fiber} (hs : StackOK s stk) (hn : p ∉ stk)
    (h : s.fiber? p = some fp) (ha : fp.status = stAlive) : StackOK s (p :: stk) := by
  refine ⟨List.nodup_cons.mpr ⟨hn, hs.1⟩, fun q hq => ?_⟩
  rcases List.mem_cons.mp hq with rfl | hq
  · exact ⟨fp, h, ha⟩
  · exact hs.2 q hq

theorem StackOK.tail {s : State} {stk : List FId} {p : FId} (hs : StackOK s (p :: stk)) : StackOK s stk ∧ p ∉ stk :=
  ⟨⟨(List.nodup_cons.mp hs.1).2, fun q hq => hs.2 q (List.mem_cons_of_mem _ hq)⟩, (List.nodup_cons.mp hs.1).1⟩

theorem alive_not_finished : isFinished stAlive = false := by decide

theorem fwd_alive {b : Nat} (h : b < stNew) : Fwd stAlive b := Or.inr ⟨alive_not_finished, Nat.ne_of_lt h⟩

theorem not_mem_of_not_alive {s : State} {stk : List FId} {f : FId} {cur : Fiber} (hs : StackOK s stk)
    (h : s.fiber? f = some cur) (hna : cur.status ≠ stAlive) : f ∉ stk := by
  intro hm
  obtain ⟨fp, h1, h2⟩ := hs.2 f hm
  rw [h] at h1; cases h1; exact hna h2

theorem Inv.of_eq {s s' : State} (hf : s'.fibers = s.fibers) (hs : s'.stack = s.stack) (hh : s'.halt = s.halt) (h : Inv s) : Inv s' :=
  ⟨h.1.of_fibers_eq hf, fun hn => by rw [hs]; exact (h.2 (hh ▸ hn)).of_fibers_eq hf⟩

theorem Res.log {s s' : State} (l f : Nat) (v : Val) (h : Res s s') : Res s (s'.log l f v) :=
  ⟨h.1.trans (Mono.of_fibers_eq (log_fibers ..)), h.2.of_eq (log_fibers ..) (log_stack ..) (log_halt ..)⟩

theorem Res.stop (s : State) (hp : PendOK s) (h : Halt) : Res s (s.stop h) :=
  ⟨Mono.refl s, hp, fun hn => by simp [State.stop] at hn⟩

theorem Res.trans {a b c : State} (h1 : Mono a b) (h2 : Res b c) : Res a c := ⟨h1.trans h2.1, h2.2⟩

theorem deliverValue_res {s : State} {p : FId} {cur fp : Fiber} (c : Cont) (v : Val) {rest : List FId}
    (hstk : s.stack = p :: rest) (hcur : s.fiber? p = some cur) (hf : Fwd cur.status fp.status) (hm : fp.mask = cur.mask)
    (hal : fp.status = stAlive) (hpo : PendOK s) (hpp : ∀ sg, fp.pending = some sg → sg < stNew)
    (hs : StackOK s rest) (hn : p ∉ rest) (hd : DKeep cur fp := by dkeep_tac) : Res s (deliverValue s p fp c v) := by
  obtain ⟨x, l, w, he, h1, h2, _, h4, h5, _⟩ := deliverValue_eq s p fp c v
  rw [he]
  refine Res.log _ _ _ ⟨Mono.setFiber x hcur (h1 ▸ hf) (h2.trans hm) (fun e he => h5.trans (hd e he)),
    hpo.setFiber p x (fun sg h => hpp sg (h4 ▸ h)), fun _ => ?_⟩
  show StackOK (s.setFiber p x) s.stack
  rw [hstk]
  exact (hs.setFiber_notin p x hn).cons hn (fiber?_setFiber_eq x hcur) (h1.trans hal)

theorem sigError_lt : sigError < stNew := by decide
theorem sigOk_lt : sigOk < stNew := by decide
theorem cancelSignal_lt : cancelSignal < stNew := by decide
theorem userSignal_lt (n : Nat) : userBase + (if n > userMax then userMax else n) < stNew := by
  split <;> simp only [userBase, userMax, stNew] at * <;> omega
theorem propagateMax_succ : propagateMaxStatus + 1 = stNew := by decide

theorem unwind_res : ∀ (stack : List FId) (s : State) (c : FId) (sig : Nat) (v : Val),
    PendOK s → StackOK s stack → sig < stNew → Res s (unwind s stack c sig v) := by
  intro stack
  induction stack with
  | nil =>
    intro s c sig v hp _ _
    exact ⟨Mono.refl s, hp, fun hn => by simp [unwind] at hn⟩
  | cons p rest ih =>
    intro s c sig v hpo hs hsig
    obtain ⟨hsr, hnr⟩ := hs.tail
    obtain ⟨cur, hcur, hal⟩ := hs.2 p List.mem_cons_self
    have hpp : ∀ sg, cur.pending = some sg → sg < stNew := fun sg h => hpo p cur sg hcur h
    -- the caller's record becomes `x`, with the status of a signal, and the signal goes on to the callers below
    have below : ∀ (x : Fiber) (w : Val), x.status < stNew → x.mask = cur.mask → x.denv = cur.denv →
        (∀ sg, x.pending = some sg → sg < stNew) → Res s (unwind (s.setFiber p x) rest p x.status w) := fun x w hlt hm hd hx =>
      Res.trans (Mono.setFiber x hcur (hal ▸ fwd_alive hlt) hm (DKeep.of_eq hd))
        (ih _ _ _ _ (hpo.setFiber p x hx) (hsr.setFiber_notin p x hnr) hlt)
    have st := unwind_step s p rest c sig v
    generalize unwind s (p :: rest) c sig v = r at st ⊢
    cases st with
    | bad why => exact Res.stop s hpo _
    | deliver w hp =>
      rw [hcur] at hp; cases hp
      exact deliverValue_res (s := { s with stack := p :: rest }) _ _ rfl hcur (Fwd.refl _) rfl hal hpo hpp hsr hnr
    | deliverChain w hp =>
      rw [hcur] at hp; cases hp
      exact deliverValue_res (s := { s with stack := p :: rest }) _ _ rfl hcur (hal ▸ Fwd.refl _) rfl rfl hpo hpp hsr hnr
    | pending w hp _ _ hpe =>
      rw [hcur] at hp; cases hp
      exact below _ w (hpp _ hpe) rfl rfl (fun _ h => by cases h)
    | pass sg w lastv ch hp _ _ hsg =>
      rw [hcur] at hp; cases hp
      exact below _ w (hsg hsig) rfl rfl hpp

theorem raise_res {s : State} {p : FId} {cur fp : Fiber} {rest : List FId} {sig : Nat} (v : Val)
    (hcur : s.fiber? p = some cur) (hal : cur.status = stAlive) (hm : fp.mask = cur.mask)
    (hpo : PendOK s) (hpp : ∀ sg, fp.pending = some sg → sg < stNew) (hs : StackOK s rest) (hn : p ∉ rest)
    (hsig : sig < stNew) (hd : DKeep cur fp := by dkeep_tac) : Res s (raise s p fp rest sig v) := by
  unfold raise
  split
  · exact Res.stop s hpo _
  · have hlt : (if inCcall fp = true then coerce sig v else (sig, v)).1 < stNew := by
      split
      · exact coerce_lt sig v
      · exact hsig
    have hfw : Fwd cur.status (if inCcall fp = true then coerce sig v else (sig, v)).1 := hal ▸ fwd_alive hlt
    -- `by exact`, here and below: elaborated last, when the record written to `p` is known from the goal
    exact Res.trans (Mono.setFiber _ hcur (by exact hfw) (by exact hm))
      (unwind_res _ _ _ _ _ (hpo.setFiber p _ (by exact hpp)) (hs.setFiber_notin p _ hn) hlt)

theorem not_refused_iff {st : Nat} : refuseResume.contains st = false ↔ isFinished st = false ∧ st ≠ stAlive := by
  unfold isFinished
  constructor
  · intro h; rw [h]; exact ⟨rfl, fun he => by subst he; revert h; decide⟩
  · intro ⟨h, hna⟩; rwa [bne_iff_ne.mpr hna, Bool.and_true] at h

theorem not_refused {st : Nat} (h : refuseResume.contains st = false) : isFinished st = false ∧ st ≠ stAlive := not_refused_iff.mp h

/-- janet_check_can_resume lets through exactly the non-root fibers whose status is not in the refused set -/
theorem checkCanResume_eq_none_iff {fp : Fiber} {b : Bool} :
    checkCanResume fp b = none ↔ fp.root = false ∧ refuseResume.contains fp.status = false := by
  unfold checkCanResume
  cases fp.root <;> cases refuseResume.contains fp.status <;> simp

theorem checkCanResume_none {fp : Fiber} {b : Bool} (h : checkCanResume fp b = none) : refuseResume.contains fp.status = false :=
  (checkCanResume_eq_none_iff.mp h).2

theorem resumable_of_status {s : State} {g : FId} {fg : Fiber} (hg : s.fiber? g = some fg)
    (hnr : refuseResume.contains fg.status = false) : ∀ cur, s.fiber? g = some cur → refuseResume.contains cur.status = false :=
  fun cur h => by rw [hg] at h; cases h; exact hnr

theorem resumable_of_check {s : State} {g : FId} {fg : Fiber} {b : Bool} (hg : s.fiber? g = some fg)
    (hchk : checkCanResume fg b = none) : ∀ cur, s.fiber? g = some cur → refuseResume.contains cur.status = false :=
  resumable_of_status hg (checkCanResume_none hchk)

theorem startRun_res {s : State} {f : FId} {cur ff : Fiber} (stk : List FId) (v : Val)
    (hcur : s.fiber? f = some cur) (hnr : refuseResume.contains cur.status = false) (hm : ff.mask = cur.mask)
    (hpo : PendOK s) (hpp : ∀ sg, ff.pending = some sg → sg < stNew) (hs : StackOK s stk) (hd : DKeep cur ff := by dkeep_tac) :
    Res s (startRun s stk f ff v) := by
  obtain ⟨hnf, hna⟩ := not_refused hnr
  have hn : f ∉ stk := not_mem_of_not_alive hs hcur hna
  have hfa : Fwd cur.status stAlive := Or.inr ⟨hnf, by decide⟩
  unfold startRun
  split
  · rename_i sg hsg
    have hlt : sg < stNew := hpp sg hsg
    exact Res.trans (Mono.setFiber _ hcur (by exact Or.inr ⟨hnf, Nat.ne_of_lt hlt⟩) (by exact hm))
      (unwind_res _ _ _ _ _ (hpo.setFiber f _ (by intro _ h; simp at h)) (hs.setFiber_notin f _ hn) hlt)
  · split
    · refine ⟨Mono.trans (Mono.setFiber _ hcur (by exact hfa) (by exact hm)) (Mono.of_fibers_eq rfl),
        (hpo.setFiber f _ (by exact hpp)).of_fibers_eq rfl, fun _ => ?_⟩
      exact ((hs.setFiber_notin f _ hn).cons hn (fiber?_setFiber_eq _ hcur) rfl).of_fibers_eq rfl
    · exact deliverValue_res (s := { s with stack := f :: stk }) _ _ rfl hcur (by exact hfa) (by exact hm) rfl hpo (by exact hpp) hs hn

/-- janet_continue_no_check keeps the invariant, for every depth of the child chain (needs `chainAliveMarked`). -/
theorem contNoCheck_res : ∀ (fuel : Nat) (s : State) (stk : List FId) (f : FId) (v : Val),
    PendOK s → StackOK s stk → (∀ cur, s.fiber? f = some cur → refuseResume.contains cur.status = false) →
    Res s (contNoCheck fuel s stk f v) := by
  intro fuel
  induction fuel with
  | zero => intro s stk f v hp _ _; exact Res.stop s hp _
  | succ n ih =>
    intro s stk f v hp hs hnr
    unfold contNoCheck
    split
    · exact Res.stop s hp _
    · rename_i ff0 hff0
      have hnr0 := hnr ff0 hff0
      obtain ⟨hnf, hna⟩ := not_refused hnr0
      have hn : f ∉ stk := not_mem_of_not_alive hs hff0 hna
      split
      · -- child branch
        simp only [chainAliveMarked, if_true]
        have hm1 : Mono s (s.setFiber f { ff0 with last := .nil, passThrough := true, status := stAlive }) :=
          Mono.setFiber _ hff0 (Or.inr ⟨hnf, (by decide : stAlive ≠ stNew)⟩) rfl
        have hp1 : PendOK (s.setFiber f { ff0 with last := .nil, passThrough := true, status := stAlive }) :=
          hp.setFiber f _ (fun sg h => hp f ff0 sg hff0 h)
        have hs1 : StackOK (s.setFiber f { ff0 with last := .nil, passThrough := true, status := stAlive }) (f :: stk) :=
          (hs.setFiber_notin f _ hn).cons hn (fiber?_setFiber_eq _ hff0) rfl
        split
        · exact Res.trans hm1 (Res.stop _ hp1 _)
        · rename_i fc hfc
          split
          · exact Res.trans hm1 (unwind_res _ _ _ _ _ hp1 hs1 sigError_lt)
          · rename_i hchk
            exact Res.trans hm1 (ih _ _ _ _ hp1 hs1 (resumable_of_check hfc hchk))
      · simp only []
        exact Res.trans (Mono.setFiber { ff0 with last := .nil } hff0 (Fwd.refl _) rfl)
          (startRun_res (ff := { ff0 with last := .nil }) stk v (fiber?_setFiber_eq _ hff0) hnr0 rfl
            (hp.setFiber f _ (fun sg h => hp f ff0 sg hff0 h)) (fun sg h => hp f ff0 sg hff0 h) (hs.setFiber_notin f _ hn))

/-- `s'` differs from `s` only in things the invariant does not look at, plus a rewrite of fiber `p`'s record
    (`fp` ↦ `fp'`) that keeps status, mask, pending signal and root flag.  `other` / `back` (a fiber `s` does not have, the
    one `fiber/new` appends, has no child) are there for the cleanup composition. -/
structure Tweak (s s' : State) (p : FId) (fp fp' : Fiber) : Prop where
  mono : Mono s s'
  pend : PendOK s → PendOK s'
  stk : ∀ stk, StackOK s stk → StackOK s' stk
  stack : s'.stack = s.stack
  cur : s'.fiber? p = some fp'
  st : fp'.status = fp.status
  msk : fp'.mask = fp.mask
  pe : fp'.pending = fp.pending
  rt : fp'.root = fp.root
  other : ∀ q fq, q ≠ p → s.fiber? q = some fq → s'.fiber? q = some fq
  back : ∀ q fq, q ≠ p → s'.fiber? q = some fq → s.fiber? q = some fq ∨ fq.child = none

theorem Tweak.refl {s : State} {p : FId} {fp : Fiber} (h : s.fiber? p = some fp) : Tweak s s p fp fp :=
  ⟨Mono.refl s, id, fun _ h => h, rfl, h, rfl, rfl, rfl, rfl, fun _ _ _ h => h, fun _ _ _ h => Or.inl h⟩

theorem Tweak.trans {a b c : State} {p : FId} {f0 f1 f2 : Fiber} (h1 : Tweak a b p f0 f1) (h2 : Tweak b c p f1 f2) : Tweak a c p f0 f2 :=
  ⟨h1.mono.trans h2.mono, fun h => h2.pend (h1.pend h), fun k h => h2.stk k (h1.stk k h), h2.stack.trans h1.stack, h2.cur,
   h2.st.trans h1.st, h2.msk.trans h1.msk, h2.pe.trans h1.pe, h2.rt.trans h1.rt,
   fun q fq hq h => h2.other q fq hq (h1.other q fq hq h),
   fun q fq hq h => (h2.back q fq hq h).elim (fun h' => h1.back q fq hq h') Or.inr⟩

theorem Tweak.of_fibers_eq {s s' : State} {p : FId} {fp : Fiber} (h : s.fiber? p = some fp) (hf : s'.fibers = s.fibers)
    (hs : s'.stack = s.stack) : Tweak s s' p fp fp :=
  ⟨Mono.of_fibers_eq hf, fun hp => hp.of_fibers_eq hf, fun _ hk => hk.of_fibers_eq hf, hs,
   by unfold State.fiber? at *; rw [hf]; exact h, rfl, rfl, rfl, rfl,
   fun q fq _ hq => by unfold State.fiber? at *; rw [hf]; exact hq,
   fun q fq _ hq => Or.inl (by unfold State.fiber? at *; rw [← hf]; exact hq)⟩

theorem Tweak.setFiber {s : State} {p : FId} {fp : Fiber} (x : Fiber) (h : s.fiber? p = some fp)
    (hst : x.status = fp.status) (hm : x.mask = fp.mask) (hpe : x.pending = fp.pending) (hrt : x.root = fp.root)
    (hdk : DKeep fp x := by dkeep_tac) :
    Tweak s (s.setFiber p x) p fp x :=
  ⟨Mono.setFiber x h (hst ▸ Fwd.refl _) hm hdk, fun hp => hp.setFiber p x (fun sg hx => hp p fp sg h (hpe ▸ hx)),
    fun _ hk => hk.setFiber_same x h hst, rfl,
    fiber?_setFiber_eq x h, hst, hm, hpe, hrt, fun q fq hq hh => by rw [fiber?_setFiber_ne hq]; exact hh,
    fun q fq hq hh => Or.inl (by rw [fiber?_setFiber_ne hq] at hh; exact hh)⟩

theorem ensureEnv_tweak {s : State} {p : FId} {fp : Fiber} (h : s.fiber? p = some fp) :
    Tweak s (ensureEnv s p fp).1 p fp (ensureEnv s p fp).2.1 := by
  unfold ensureEnv
  split
  · exact Tweak.refl h
  · rename_i hnone
    -- the ONLY write to `denv`: from `none` (`if (!janet_vm.fiber->env) janet_vm.fiber->env = janet_table(0)`)
    exact (Tweak.of_fibers_eq (s' := { s with denvs := s.denvs ++ [{ proto := none, tbl := [] }] }) h rfl rfl).trans
      (Tweak.setFiber _ h rfl rfl rfl rfl (fun e he => by rw [hnone] at he; cases he))

theorem newEnvStep_tweak {p : FId} {acc : State × Fiber × Option Nat} (c : Nat) (h : acc.1.fiber? p = some acc.2.1) :
    Tweak acc.1 (newEnvStep p acc c).1 p acc.2.1 (newEnvStep p acc c).2.1 := by
  unfold newEnvStep
  split
  · exact ensureEnv_tweak h
  · split
    · exact (ensureEnv_tweak h).trans (Tweak.of_fibers_eq (ensureEnv_tweak h).cur rfl rfl)
    · exact Tweak.refl h

theorem foldl_newEnvStep_tweak {p : FId} : ∀ (flags : List Nat) (acc : State × Fiber × Option Nat),
    acc.1.fiber? p = some acc.2.1 →
    Tweak acc.1 (flags.foldl (newEnvStep p) acc).1 p acc.2.1 (flags.foldl (newEnvStep p) acc).2.1 := by
  intro flags
  induction flags with
  | nil => intro acc h; exact Tweak.refl h
  | cons c cs ih =>
    intro acc h
    rw [List.foldl_cons]
    exact (newEnvStep_tweak c h).trans (ih _ (newEnvStep_tweak c h).cur)

/-- context of one instruction: fiber `p` is the head of the stack -/
structure Ctx (s : State) (p : FId) (fp : Fiber) (rest : List FId) : Prop where
  hstk : s.stack = p :: rest
  hfp : s.fiber? p = some fp
  hpo : PendOK s
  hs : StackOK s (p :: rest)

theorem Ctx.alive {s p fp rest} (c : Ctx s p fp rest) : fp.status = stAlive := by
  obtain ⟨x, h1, h2⟩ := c.hs.2 p (List.mem_cons_self ..)
  rw [c.hfp] at h1; cases h1; exact h2

theorem Ctx.pp {s p fp rest} (c : Ctx s p fp rest) : ∀ sg, fp.pending = some sg → sg < stNew := fun sg h => c.hpo p fp sg c.hfp h

theorem Ctx.tweak {s s' p fp fp' rest} (c : Ctx s p fp rest) (t : Tweak s s' p fp fp') : Ctx s' p fp' rest :=
  ⟨t.stack.trans c.hstk, t.cur, t.pend c.hpo, t.stk _ c.hs⟩

theorem Ctx.bind {s p fp rest} (c : Ctx s p fp rest) (fp' : Fiber) (cont : Cont) (v : Val)
    (hst : fp'.status = fp.status) (hm : fp'.mask = fp.mask) (hpe : fp'.pending = fp.pending) (hdk : DKeep fp fp' := by dkeep_tac) :
    Res s (deliverValue s p fp' cont v) :=
  deliverValue_res cont v c.hstk c.hfp (hst ▸ Fwd.refl _) hm (hst.trans c.alive) c.hpo (fun sg h => c.pp sg (hpe ▸ h)) c.hs.tail.1 c.hs.tail.2 hdk

theorem Ctx.raise {s p fp rest} (c : Ctx s p fp rest) (fp' : Fiber) {sig : Nat} (v : Val)
    (hm : fp'.mask = fp.mask) (hpe : fp'.pending = fp.pending) (hsig : sig < stNew) (hdk : DKeep fp fp' := by dkeep_tac) :
    Res s (raise s p fp' rest sig v) :=
  raise_res v c.hfp c.alive hm c.hpo (fun sg h => c.pp sg (hpe ▸ h)) c.hs.tail.1 c.hs.tail.2 hsig hdk

theorem resumable_setFiber {s : State} {d : FId} {fd : Fiber} (x : Fiber) (hd : s.fiber? d = some fd) (hst : x.status = fd.status)
    {g : FId} (h : ∀ cur, s.fiber? g = some cur → refuseResume.contains cur.status = false) :
    ∀ cur, (s.setFiber d x).fiber? g = some cur → refuseResume.contains cur.status = false := by
  intro cur hc
  by_cases hg : g = d
  · subst hg; rw [fiber?_setFiber_eq _ hd] at hc; cases hc; rw [hst]; exact h fd hd
  · rw [fiber?_setFiber_ne hg] at hc; exact h cur hc

theorem Ctx.res {s s' p fp fp' rest} (c : Ctx s p fp rest) (t : Tweak s s' p fp fp') : Res s s' :=
  ⟨t.mono, t.pend c.hpo, fun _ => by rw [t.stack, c.hstk]; exact t.stk _ c.hs⟩

theorem Tweak.setFiber' {s : State} {p : FId} {fp : Fiber} (x : Fiber) (h : s.fiber? p = some fp)
    (hst : x.status = fp.status) (hm : x.mask = fp.mask) (hpe : x.pending = fp.pending) (hdk : DKeep fp x := by dkeep_tac) :
    Tweak s (s.setFiber p { x with root := fp.root }) p fp { x with root := fp.root } :=
  Tweak.setFiber _ h hst hm hpe rfl (fun e he => hdk e he)

theorem Tweak.append {s : State} {p : FId} {fp : Fiber} (nf : Fiber) (h : s.fiber? p = some fp) (hnp : nf.pending = none)
    (hnc : nf.child = none) :
    Tweak s { s with fibers := s.fibers ++ [nf] } p fp fp := by
  have key : ∀ g fg, s.fiber? g = some fg → ({ s with fibers := s.fibers ++ [nf] } : State).fiber? g = some fg := by
    intro g fg hg
    unfold State.fiber? at *
    simp only
    rw [List.getElem?_append_left (List.getElem?_eq_some_iff.mp hg).1]; exact hg
  -- a record of the extended registry is an old one or the new fiber
  have back : ∀ g fg, ({ s with fibers := s.fibers ++ [nf] } : State).fiber? g = some fg → s.fiber? g = some fg ∨ fg = nf := by
    intro g fg hg
    unfold State.fiber? at *
    simp only [List.getElem?_append] at hg
    split at hg
    · exact Or.inl hg
    · exact Or.inr (List.mem_singleton.mp (List.mem_of_getElem? hg))
  refine ⟨fun g fg hg => ⟨fg, key g fg hg, Fwd.refl _, rfl, DKeep.refl _⟩, ?_, ?_, rfl, key p fp h, rfl, rfl, rfl, rfl,
    fun q fq _ hq => key q fq hq, fun q fq _ hq => (back q fq hq).imp id (fun (e : fq = nf) => e ▸ hnc)⟩
  · intro hp g fg sg hg hpe
    rcases back g fg hg with hg | rfl
    · exact hp g fg sg hg hpe
    · rw [hnp] at hpe; cases hpe
  · intro stk hk
    exact ⟨hk.1, fun q hq => by obtain ⟨fq, h1, h2⟩ := hk.2 q hq; exact ⟨fq, key q fq h1, h2⟩⟩

theorem ensureEnv_child (s : State) (q : FId) (fq : Fiber) : (ensureEnv s q fq).2.1.child = fq.child := by
  unfold ensureEnv; split <;> rfl

theorem newEnvStep_child (q : FId) (acc : State × Fiber × Option Nat) (c : Nat) : (newEnvStep q acc c).2.1.child = acc.2.1.child := by
  unfold newEnvStep
  split
  · exact ensureEnv_child ..
  · split
    · exact ensureEnv_child ..
    · rfl

theorem foldl_newEnvStep_child (q : FId) : ∀ (flags : List Nat) (acc : State × Fiber × Option Nat),
    (flags.foldl (newEnvStep q) acc).2.1.child = acc.2.1.child := by
  intro flags
  induction flags with
  | nil => intro acc; rfl
  | cons c cs ih => intro acc; rw [List.foldl_cons, ih, newEnvStep_child]

/-- the fiber operand of the instruction `t` about to be executed by the running fiber -/
def instrTarget (s : State) (fh : Fiber) : Tm → Option Val
  | .prim _ (.resume a _) _ => some (evalAtom s fh.env a)
  | .prim _ (.cancel a _) _ => some (evalAtom s fh.env a)
  | .prim _ (.propagate _ a) _ => some (evalAtom s fh.env a)
  | .prim _ (.next a) _ => some (evalAtom s fh.env a)
  | .each _ a _ _ => some (evalAtom s fh.env a)
  | .ret _ => match fh.kont with
    | .loop env _ a _ _ :: _ => some (evalAtom s env a)
    | _ => none
  | _ => none

/-- a `cancel` whose walk to the innermost child ends on `p` (only possible on a cyclic child chain) -/
def cancelHits (p : FId) (s : State) (h : FId) (fh : Fiber) : Tm → Prop
  | .prim l (.cancel a _) k =>
    ∃ g, evalAtom s fh.env a = .fib g ∧
      cancelTarget (s.setFiber h { fh with ctl := .wait (.bindK l k false), child := some g }) g = some p
  | _ => False

/-- What one instruction of the running fiber `p` (record `fp`, callers `rest`) makes of `s`; `tv` is the instruction's
    fiber operand, `hit` holds of the fiber a `cancel` marks.  `tv`, `hit`, `hd` serve `InstrOut.toG` (Cleanup.lean) only. -/
inductive InstrOut (p : FId) (rest : List FId) (tv : Option Val) (hit : FId → Prop) : State → Fiber → State → Prop
  | done {s fp} : InstrOut p rest tv hit s fp s
  | after {s s1 s' fp fp1} (t : Tweak s s1 p fp fp1) (hch : fp1.child = fp.child) (hdg : DGrow s.denvs s1.denvs)
      (o : InstrOut p rest tv hit s1 fp1 s') : InstrOut p rest tv hit s fp s'
  | bind {s fp} (c : Cont) (v : Val) : InstrOut p rest tv hit s fp (deliverValue s p fp c v)
  | raise {s fp} (ctl : Ctl) (ch : Option FId) {sig : Nat} (v : Val) (hsig : sig < stNew) :
      InstrOut p rest tv hit s fp (Fiber.raise s p { fp with ctl := ctl, child := ch } rest sig v)
  | stop {s s1 fp fp1} (t : Tweak s s1 p fp fp1) (hdg : DGrow s.denvs s1.denvs) (h : Halt) (hd : h.isDone = false) :
      InstrOut p rest tv hit s fp (s1.stop h)
  | enter {s fp} (c : Cont) {g : FId} {fg : Fiber} (b : Bool) (fuel : Nat) (v : Val) (htv : tv = some (.fib g))
      (hg : s.fiber? g = some fg) (hchk : checkCanResume fg b = none) :
      InstrOut p rest tv hit s fp (contNoCheck fuel (s.setFiber p { fp with ctl := .wait c, child := some g }) (p :: rest) g v)
  | enterMarked {s fp} (c : Cont) {g d : FId} {fg fd : Fiber} (b : Bool) (fuel : Nat) (v : Val) (htv : tv = some (.fib g))
      (hg : s.fiber? g = some fg) (hchk : checkCanResume fg b = none)
      (hd : (s.setFiber p { fp with ctl := .wait c, child := some g }).fiber? d = some fd) (hhit : hit d) :
      InstrOut p rest tv hit s fp
        (contNoCheck fuel
          ((s.setFiber p { fp with ctl := .wait c, child := some g }).setFiber d { fd with pending := some cancelSignal }) (p :: rest) g v)
  | refused {s fp} (c : Cont) {g : FId} (v : Val) (htv : tv = some (.fib g)) :
      InstrOut p rest tv hit s fp (unwind (s.setFiber p { fp with ctl := .wait c, child := some g }) (p :: rest) g sigError v)

theorem InstrOut.edit {p rest tv hit} {s : State} {fp : Fiber} (x : Fiber) (l : Nat) (v : Val) (hfp : s.fiber? p = some fp)
    (hst : x.status = fp.status) (hm : x.mask = fp.mask) (hpe : x.pending = fp.pending) (hrt : x.root = fp.root)
    (hch : x.child = fp.child) (hd : x.denv = fp.denv) : InstrOut p rest tv hit s fp ((s.setFiber p x).log l p v) :=
  .after ((Tweak.setFiber x hfp hst hm hpe hrt (DKeep.of_eq hd)).trans
      (Tweak.of_fibers_eq (fiber?_setFiber_eq x hfp) (log_fibers ..) (log_stack ..)))
    hch (DGrow.of_eq (log_denvs ..)) .done

theorem execPrim_out {s : State} {p : FId} {fp : Fiber} (hfp : s.fiber? p = some fp) (rest : List FId) (l : Nat) (pr : Prim) (k : Tm) :
    InstrOut p rest (instrTarget s fp (.prim l pr k)) (fun d => cancelHits d s p fp (.prim l pr k)) s fp (execPrim s p fp rest l pr k) := by
  have stop : ∀ h, h.isDone = false → InstrOut p rest (instrTarget s fp (.prim l pr k)) (fun d => cancelHits d s p fp (.prim l pr k)) s fp (s.stop h) :=
    fun h hd => .stop (Tweak.refl hfp) (DGrow.refl _) h hd
  unfold execPrim
  cases pr with
  | pure a =>
    simp only []
    exact .bind _ _
  | pair a b =>
    simp only []
    exact .bind _ _
  | fst a =>
    simp only []
    split <;> first | exact .bind _ _ | exact .raise _ _ _ sigError_lt
  | snd a =>
    simp only []
    split <;> first | exact .bind _ _ | exact .raise _ _ _ sigError_lt
  | status f =>
    simp only []
    split <;> exact .bind _ _
  | yield a =>
    simp only []
    exact .raise _ _ _ (by decide)
  | signal n a =>
    simp only []
    exact .raise _ _ _ (userSignal_lt n)
  | error a =>
    simp only []
    exact .raise _ _ _ sigError_lt
  | debug a =>
    simp only []
    exact .raise _ _ _ (by decide)
  | resume f a =>
    simp only []
    split
    · rename_i g hev
      split
      · exact stop _ rfl
      · rename_i fg hg
        split
        · exact .raise _ _ _ sigError_lt
        · rename_i hchk
          exact .enter _ false _ _ (congrArg some hev) hg hchk
    · exact .raise _ _ _ sigError_lt
  | cancel f a =>
    simp only []
    split
    · rename_i g hev
      split
      · exact stop _ rfl
      · rename_i fg hg
        split
        · exact .raise _ _ _ sigError_lt
        · rename_i hchk
          have t := Tweak.setFiber (s := s) (p := p) { fp with ctl := .wait (.bindK l k false), child := some g } hfp rfl rfl rfl rfl
          split
          · exact .refused _ _ (congrArg some hev)
          · split
            · exact .stop t (DGrow.refl _) _ rfl
            · rename_i d hd
              split
              · exact .stop t (DGrow.refl _) _ rfl
              · rename_i fd hfd
                exact .enterMarked _ true _ _ (congrArg some hev) hg hchk hfd ⟨g, hev, hd⟩
    · exact .raise _ _ _ sigError_lt
  | propagate a f =>
    simp only []
    split
    · rename_i g hev
      split
      · exact stop _ rfl
      · rename_i fg hg
        split
        · exact .raise _ _ _ sigError_lt
        · rename_i hst
          exact .raise _ _ _ (by have := propagateMax_succ; omega)
    · exact .raise _ _ _ sigError_lt
  | next f =>
    simp only []
    split
    · rename_i g hev
      split
      · exact stop _ rfl
      · rename_i fg hg
        split
        · exact .bind _ _
        · split
          · exact .refused _ _ (congrArg some hev)
          · rename_i hchk
            exact .enter _ false _ _ (congrArg some hev) hg hchk
    · exact .raise _ _ _ sigError_lt
  | last f =>
    simp only []
    split <;> exact .bind _ _
  | setdyn kk a =>
    have t := ensureEnv_tweak hfp
    simp only []
    split
    · exact .stop t (ensureEnv_dgrow s p fp) _ rfl
    · rename_i d hd
      refine .after ?_ ?_ ?_ (.bind _ _)
      · exact t.trans (Tweak.of_fibers_eq t.cur rfl rfl)
      · exact ensureEnv_child ..
      · exact (ensureEnv_dgrow s p fp).trans (DGrow.setTbl hd _)
  | dyn kk =>
    simp only []
    exact .bind _ _

theorem execNew_out {p rest tv hit} {s : State} {fp : Fiber} (hfp : s.fiber? p = some fp) (l : Nat) (body : Tm) (flags : List Nat) (k : Tm) (sg : Sig) :
    InstrOut p rest tv hit s fp (execNew s p fp l body flags k sg) := by
  have t := foldl_newEnvStep_tweak (p := p) flags (s, fp, none) hfp
  unfold execNew
  refine .after ?_ ?_ ?_ (.bind _ _)
  · exact t.trans (Tweak.append _ t.cur rfl rfl)
  · exact foldl_newEnvStep_child p flags (s, fp, none)
  · exact foldl_newEnvStep_dgrow p flags (s, fp, none)

theorem execLoopNext_out {p hit} {s : State} {fp : Fiber} (hfp : s.fiber? p = some fp) (rest : List FId) (l : Nat) (f : Atom) (body k : Tm) :
    InstrOut p rest (some (evalAtom s fp.env f)) hit s fp (execLoopNext s p fp rest l f body k) := by
  unfold execLoopNext
  simp only []
  split
  · rename_i g hev
    split
    · exact .stop (Tweak.refl hfp) (DGrow.refl _) _ rfl
    · rename_i fg hg
      split
      · exact .bind _ _
      · split
        · exact .refused _ _ (congrArg some hev)
        · rename_i hchk
          exact .enter _ false _ _ (congrArg some hev) hg hchk
  · exact .raise _ _ _ sigError_lt

theorem evalAtom_setFiber (s : State) (q : FId) (x : Fiber) (env : List Val) (a : Atom) :
    evalAtom (s.setFiber q x) env a = evalAtom s env a := by
  cases a <;> simp [evalAtom, State.setFiber]

theorem step_cases (s : State) :
    step s = s ∨ (∃ why, step s = s.stop (.bad why)) ∨
    ∃ p rest fp t, s.halt = none ∧ s.stack = p :: rest ∧ s.fiber? p = some fp ∧ fp.ctl = .run t := by
  unfold step
  split
  · exact Or.inl rfl
  · split
    · exact Or.inr (Or.inl ⟨_, rfl⟩)
    · split
      · exact Or.inr (Or.inl ⟨_, rfl⟩)
      · split
        · exact Or.inr (Or.inl ⟨_, rfl⟩)
        · exact Or.inr (Or.inr ⟨_, _, _, _, ‹_›, ‹_›, ‹_›, ‹_›⟩)

theorem step_out {s : State} {p : FId} {rest : List FId} {fp : Fiber} {t : Tm} (hh : s.halt = none) (hstk : s.stack = p :: rest)
    (hfp : s.fiber? p = some fp) (hctl : fp.ctl = .run t) :
    InstrOut p rest (instrTarget s fp t) (fun d => cancelHits d s p fp t) s fp (step s) := by
  unfold step
  simp only [hh, hstk, hfp]
  split
  · rename_i h; rw [hctl] at h; cases h
  rename_i t' h
  rw [hctl] at h; cases h
  cases t with
  | ret a =>
    simp only []
    split
    · exact .raise _ _ _ sigOk_lt
    · exact .edit _ _ _ hfp rfl rfl rfl rfl rfl rfl
    · exact .edit _ _ _ hfp rfl rfl rfl rfl rfl rfl
    · rename_i env l f body k ks hk
      have t := Tweak.setFiber (s := s) (p := p) { fp with env := env, kont := ks } hfp rfl rfl rfl rfl
      have o := execLoopNext_out (hit := fun d => cancelHits d s p fp (.ret a)) t.cur rest l f body k
      rw [evalAtom_setFiber] at o
      simp only [instrTarget, hk]
      exact .after t rfl (DGrow.refl _) o
    · exact .edit _ 0 .nil hfp rfl rfl rfl rfl rfl rfl
  | ite a b t e => exact .edit _ 0 .nil hfp rfl rfl rfl rfl rfl rfl
  | prim l pr k => exact execPrim_out hfp rest l pr k
  | new l body flags k => exact execNew_out hfp ..
  | newp l sg body flags k =>
    simp only []
    split
    · exact .raise _ _ _ sigError_lt
    · exact execNew_out hfp ..
  | block l t k => exact .edit _ 0 .nil hfp rfl rfl rfl rfl rfl rfl
  | ccall l t k => exact .edit _ 0 .nil hfp rfl rfl rfl rfl rfl rfl
  | each l f body k => exact execLoopNext_out hfp ..
  | seq t k => exact .edit _ 0 .nil hfp rfl rfl rfl rfl rfl rfl

theorem InstrOut.res {p rest tv hit} {s : State} {fp : Fiber} {s' : State} (o : InstrOut p rest tv hit s fp s')
    (c : Ctx s p fp rest) : Res s s' := by
  induction o with
  | done => exact c.res (Tweak.refl c.hfp)
  | after t _ _ _ ih => exact Res.trans t.mono (ih (c.tweak t))
  | bind cont v => exact c.bind _ cont v rfl rfl rfl
  | raise ctl ch v hsig => exact c.raise _ v rfl rfl hsig
  | stop t _ h => exact Res.trans t.mono (Res.stop _ (t.pend c.hpo) h)
  | @enter s fp cont g fg b fuel v _ hg hchk =>
    have t := Tweak.setFiber { fp with ctl := .wait cont, child := some g } c.hfp rfl rfl rfl rfl
    exact Res.trans t.mono (contNoCheck_res _ _ _ _ _ (t.pend c.hpo) (t.stk _ c.hs)
      (resumable_setFiber { fp with ctl := .wait cont, child := some g } c.hfp rfl (resumable_of_check hg hchk)))
  | @enterMarked s fp cont g d fg fd b fuel v _ hg hchk hd _ =>
    have t := Tweak.setFiber { fp with ctl := .wait cont, child := some g } c.hfp rfl rfl rfl rfl
    exact Res.trans (t.mono.trans (Mono.setFiber { fd with pending := some cancelSignal } hd (Fwd.refl _) rfl))
      (contNoCheck_res _ _ _ _ _ ((t.pend c.hpo).setFiber d _ (fun sg hh => by cases hh; exact cancelSignal_lt))
        ((t.stk _ c.hs).setFiber_same _ hd rfl)
        (resumable_setFiber { fd with pending := some cancelSignal } hd rfl (resumable_setFiber { fp with ctl := .wait cont, child := some g } c.hfp rfl (resumable_of_check hg hchk))))
  | @refused s fp cont g v _ =>
    have t := Tweak.setFiber { fp with ctl := .wait cont, child := some g } c.hfp rfl rfl rfl rfl
    exact Res.trans t.mono (unwind_res _ _ _ _ _ (t.pend c.hpo) (t.stk _ c.hs) sigError_lt)

theorem step_res (s : State) (hinv : Inv s) : Res s (step s) := by
  rcases step_cases s with he | ⟨why, he⟩ | ⟨p, rest, fp, t, hh, hstk, hfp, hctl⟩
  · rw [he]; exact ⟨Mono.refl s, hinv⟩
  · rw [he]; exact Res.stop s hinv.1 _
  · exact (step_out hh hstk hfp hctl).res ⟨hstk, hfp, hinv.1, hstk ▸ hinv.2 hh⟩

theorem init_inv (t : Tm) (flags : List Nat) : Inv (init t flags) := by
  unfold init initp
  simp only []
  refine (startRun_res (cur := { status := stNew, mask := maskOfFlags flags, ctl := .run t, sig := {} }) [] .nil (by rfl) (by exact (by decide : refuseResume.contains stNew = false)) rfl ?_ (by intro _ h; cases h)
    ⟨List.nodup_nil, fun _ h => by cases h⟩).2
  intro g fg sg hg hpe
  match g, hg with
  | 0, hg => cases hg; cases hpe
  | 1, hg => cases hg; cases hpe
  | n + 2, hg => cases hg

theorem InstrOut.dgrow {p rest tv hit} {s : State} {fp : Fiber} {s' : State} (o : InstrOut p rest tv hit s fp s') :
    DGrow s.denvs s'.denvs := by
  induction o with
  | done => exact DGrow.refl _
  | after _ _ hdg _ ih => exact hdg.trans ih
  | bind => exact DGrow.of_eq (deliverValue_denvs ..)
  | raise => exact DGrow.of_eq (raise_denvs ..)
  | stop _ hdg => exact hdg
  | enter => exact DGrow.of_eq (contNoCheck_denvs ..)
  | enterMarked => exact DGrow.of_eq (contNoCheck_denvs ..)
  | refused => exact DGrow.of_eq (unwind_denvs ..)

theorem step_dgrow (s : State) : DGrow s.denvs (step s).denvs := by
  rcases step_cases s with he | ⟨why, he⟩ | ⟨p, rest, fp, t, hh, hstk, hfp, hctl⟩
  · rw [he]; exact DGrow.refl _
  · rw [he]; exact DGrow.refl _
  · exact (step_out hh hstk hfp hctl).dgrow

/-- along EVERY execution no table is removed and no prototype link (`:p` inheritance) changes -/
theorem run_dgrow : ∀ (n : Nat) (s : State), DGrow s.denvs (run n s).denvs := by
  intro n
  induction n with
  | zero => intro s; exact DGrow.refl _
  | succ n ih =>
    intro s
    unfold run
    split
    · exact DGrow.refl _
    · exact (step_dgrow s).trans (ih _)

end JanetModel.Fiber
