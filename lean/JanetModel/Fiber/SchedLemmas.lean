/- C05 — a task dispatch of the event loop (`loopEnter`: ev/go, wake-ups; ev/cancel, timeouts: janet_cancel →
   janet_continue_signal): what it can be (`LoopOut`), that it keeps the invariant and maps "blocked, body not exited" into the
   outcomes of the cleanup composition; the side conditions `PrivT`, `SigsOK` of whole schedules.  Lemma file, no Mathlib. -/
import JanetModel.Fiber.Sched
import JanetModel.Fiber.Cleanup
namespace JanetModel.Fiber
open JanetModel.Gen.Fiber

/-- the machine with nothing running: control is in the event loop -/
def idle (s : State) : State := { s with halt := none, stack := [] }

theorem fiber?_idle (s : State) (g : FId) : ({ s with halt := none, stack := [] } : State).fiber? g = s.fiber? g := rfl

/-- a task dispatch; `cancel`: after the innermost descendant `d` of `g` got the signal as pending -/
inductive LoopOut (s : State) (g : FId) (v : Val) (sig : Nat) : State → Prop
  | none : LoopOut s g v sig s
  | refused (hstk : s.stack = []) (h : Halt) : LoopOut s g v sig { s with halt := some h }
  | stop (hstk : s.stack = []) (h : Halt) (hd : h.isDone = false) : LoopOut s g v sig ((idle s).stop h)
  | enter {fg : Fiber} (hstk : s.stack = []) (hg : s.fiber? g = some fg) (hnr : refuseResume.contains fg.status = false) :
      LoopOut s g v sig (contNoCheck (chainFuel (idle s)) (idle s) [] g v)
  | cancel {fg fd : Fiber} {d : FId} (hstk : s.stack = []) (hg : s.fiber? g = some fg)
      (hnr : refuseResume.contains fg.status = false) (hso : sig ≠ sigOk) (hd : cancelTarget (idle s) g = some d)
      (hfd : s.fiber? d = some fd) :
      LoopOut s g v sig (contNoCheck (chainFuel (idle s)) ((idle s).setFiber d { fd with pending := some sig }) [] g v)

theorem loopEnter_cases (s : State) (g : FId) (v : Val) (sig : Nat) : LoopOut s g v sig (loopEnter s g v sig) := by
  unfold loopEnter
  split
  · rename_i hstk
    dsimp only
    split
    · exact .none
    · rename_i fg hg
      split
      · exact .refused hstk _
      · rename_i hnr
        have hnr := Bool.eq_false_iff.mpr hnr
        split
        · exact .enter hstk hg hnr
        · rename_i hso
          split
          · exact .refused hstk _
          · split
            · exact .stop hstk _ rfl
            · rename_i d hd
              split
              · exact .stop hstk _ rfl
              · rename_i fd hfd
                exact .cancel hstk hg hnr hso hd hfd
  · exact .none

theorem loopEnter_res (s : State) (hinv : Inv s) (g : FId) (v : Val) (sig : Nat) (hsig : sig < stNew) : Res s (loopEnter s g v sig) := by
  have hm0 : Mono s (idle s) := Mono.of_fibers_eq rfl
  have hp0 : PendOK (idle s) := hinv.1.of_fibers_eq rfl
  have hs0 : StackOK (idle s) [] := ⟨List.nodup_nil, nofun⟩
  have o := loopEnter_cases s g v sig
  generalize loopEnter s g v sig = r at o ⊢
  cases o with
  | none => exact ⟨Mono.refl s, hinv⟩
  | refused => exact ⟨Mono.of_fibers_eq rfl, hinv.1.of_fibers_eq rfl, nofun⟩
  | stop => exact Res.trans hm0 (Res.stop _ hp0 _)
  | enter _ hg hnr => exact Res.trans hm0 (contNoCheck_res _ _ _ _ _ hp0 hs0 (resumable_of_status hg hnr))
  | @cancel fg fd d _ hg hnr _ _ hfd =>
    exact Res.trans (hm0.trans (Mono.setFiber { fd with pending := some sig } hfd (Fwd.refl _) rfl))
      (contNoCheck_res _ _ _ _ _ (hp0.setFiber d _ (fun sg h => by cases h; exact hsig)) (hs0.setFiber_notin d _ nofun)
        (resumable_setFiber { fd with pending := some sig } hfd rfl (resumable_of_status hg hnr)))

section
variable {m : Nat} {p f : FId} {cont : Cont}

/-- a task dispatch by the event loop — a plain continue (ev/go, a wake-up) or a cancellation (ev/cancel, a timeout:
    janet_continue_signal with JANET_SIGNAL_ERROR) — of any fiber but the macro's private body fiber, while `p` is blocked
    on `f`: stuck, or `f` exited and the cleanup is what `p` runs / the signal passed `p` by, or still blocked with
    `f` not exited. -/
theorem loopEnter_G (hm : AccFin m) (s : State) (hinv : Inv s) (hne : p ≠ f) (hb : Blk m p f cont s s.stack) (ho : Only p f s)
    (g : FId) (v : Val) (sig : Nat) (hgf : g ≠ f) (hsig : sig < stNew)
    (hC : sig ≠ sigOk → cancelTarget { s with halt := none, stack := [] } g ≠ some p) :
    G m p f cont (loopEnter s g v sig) := by
  have o := loopEnter_cases s g v sig
  generalize loopEnter s g v sig = r at o ⊢
  have hp0 : PendOK (idle s) := hinv.1.of_fibers_eq rfl
  have hs0 : StackOK (idle s) [] := ⟨List.nodup_nil, nofun⟩
  -- when the loop dispatches, the stack is empty: neither `p` nor `f` is on it
  have idl : s.stack = [] → Blk m p f cont (idle s) [] ∧ Off p f (idle s) [] := fun hstk =>
    have hb0 : Blk m p f cont (idle s) [] := hstk ▸ hb.congr rfl rfl
    ⟨hb0, hb0.shape.resolve_right (fun ⟨pre, _, h⟩ => by cases pre <;> cases h)⟩
  cases o with
  | none => exact Or.inr (Or.inr hb)
  | refused => exact Or.inr (Or.inr (hb.congr rfl rfl))
  | stop _ h hd => exact G_stop _ h hd
  | enter hstk hg hnr =>
    obtain ⟨hb0, hoff⟩ := idl hstk
    exact contNoCheck_G hm _ _ _ _ _ hp0 hs0 ho hne hb0.par hb0.body (resumable_of_status hg hnr) (Or.inl ⟨hgf, Or.inl hoff⟩)
  | @cancel fg fd d hstk hg hnr hso hd hfd =>
    obtain ⟨hb0, hoff⟩ := idl hstk
    obtain ⟨k1, k2, k3, k4⟩ := Blk.parts_setFiber (s := idle s) (cont := cont) (m := m) { fd with pending := some sig } hfd
      (fun (h : p = d) => hC hso (h ▸ hd)) rfl rfl rfl rfl hb0.par hb0.body ho
    exact contNoCheck_G hm _ _ _ _ _ (hp0.setFiber d _ (fun sg h => by cases h; exact hsig)) (hs0.setFiber_notin d _ nofun) k3 hne k1 k2
      (resumable_setFiber { fd with pending := some sig } hfd rfl (resumable_of_status hg hnr)) (Or.inl ⟨hgf, Or.inl (k4 _ hoff)⟩)

/-- privacy of the body fiber with respect to one transition: `Priv` for an instruction; for a task dispatch: nobody but `p`
    links to `f`, the task is not `f` itself, and a cancellation's walk does not end on `p` -/
def PrivT (p f : FId) (s : State) : Trans → Prop
  | .step => Priv p f s
  | .enter g _ sig => Only p f s ∧ g ≠ f ∧ sig < stNew ∧ (sig ≠ sigOk → cancelTarget { s with halt := none, stack := [] } g ≠ some p)

def SigsOK : List Trans → Prop
  | [] => True
  | .step :: ts => SigsOK ts
  | .enter _ _ sig :: ts => sig < stNew ∧ SigsOK ts

end
end JanetModel.Fiber
