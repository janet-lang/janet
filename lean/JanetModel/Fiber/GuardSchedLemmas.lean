/- C05 — lemmas about Fiber/GuardSched.lean (lemma file, no Mathlib): what a task dispatch under the recursion guard is, and
   hence that it keeps the invariant and the cleanup composition like an unguarded dispatch. -/
import JanetModel.Fiber.GuardSched
import JanetModel.Fiber.GuardCleanup
import JanetModel.Fiber.SchedLemmas
namespace JanetModel.Fiber
open JanetModel.Gen.Fiber

/-- a guarded dispatch does nothing, stops on a guard trip inside the task's child chain, or is the unguarded dispatch -/
theorem loopEnterG_cases (lim : Nat) (s : State) (g : FId) (v : Val) (sig : Nat) :
    loopEnterG lim s g v sig = s ∨ (∃ why, why.isDone = false ∧ loopEnterG lim s g v sig = s.stop why) ∨ loopEnterG lim s g v sig = loopEnter s g v sig := by
  unfold loopEnterG
  split
  · split
    · exact Or.inl rfl
    · split
      · exact Or.inr (Or.inr rfl)
      · split
        · exact Or.inr (Or.inl ⟨_, rfl, rfl⟩)
        · exact Or.inr (Or.inr rfl)
  · exact Or.inl rfl

theorem loopEnterG_res (lim : Nat) (s : State) (hinv : Inv s) (g : FId) (v : Val) (sig : Nat) (hsig : sig < stNew) :
    Res s (loopEnterG lim s g v sig) := by
  rcases loopEnterG_cases lim s g v sig with h | ⟨why, _, h⟩ | h
  · rw [h]; exact ⟨Mono.refl s, hinv⟩
  · rw [h]; exact Res.stop s hinv.1 _
  · rw [h]; exact loopEnter_res s hinv g v sig hsig

/-- a task dispatch under the guard, from "p blocked in the macro's resume, body not exited": stuck / exited / passed /
    still blocked -/
theorem loopEnterG_G {m : Nat} {p f : FId} {cont : Cont} (hm : AccFin m) (lim : Nat) (s : State) (hinv : Inv s) (hne : p ≠ f)
    (hb : Blk m p f cont s s.stack) (ho : Only p f s)
    (g : FId) (v : Val) (sig : Nat) (hgf : g ≠ f) (hsig : sig < stNew)
    (hC : sig ≠ sigOk → cancelTarget { s with halt := none, stack := [] } g ≠ some p) :
    G m p f cont (loopEnterG lim s g v sig) := by
  rcases loopEnterG_cases lim s g v sig with h | ⟨why, hw, h⟩ | h
  · rw [h]; exact Or.inr (Or.inr hb)
  · rw [h]; exact G_stop _ _ hw
  · rw [h]; exact loopEnter_G hm s hinv hne hb ho g v sig hgf hsig hC

end JanetModel.Fiber
