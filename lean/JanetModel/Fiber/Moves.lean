/- C05 — the four machines (`run`, `runG`, `runT`, `runTG`) as sub-languages of one labelled machine on the same `State`:
   a move is an instruction, a guarded instruction, a task dispatch or a guarded task dispatch.  The invariant (`Reach.res`)
   and the cleanup composition (`exactly_once_seq`) are proved once, for every sequence of moves — guard limits and kinds
   of move may change from one step to the next — and read off for each machine. -/
import JanetModel.Fiber.GuardSchedLemmas
namespace JanetModel.Fiber
open JanetModel.Gen.Fiber

inductive Mv where
  | step
  | stepG (lim : Nat)
  | enter (g : FId) (v : Val) (sig : Nat)
  | enterG (lim : Nat) (g : FId) (v : Val) (sig : Nat)

def move (s : State) : Mv → State
  | .step => step s
  | .stepG lim => stepG true lim s
  | .enter g v sig => loopEnter s g v sig
  | .enterG lim g v sig => loopEnterG lim s g v sig

def Mv.ok : Mv → Prop
  | .enter _ _ sig | .enterG _ _ _ sig => sig < stNew
  | _ => True

/-- privacy of the body fiber with respect to one move: `Priv` for an instruction, the dispatch clause of `PrivT` for a dispatch -/
def PrivM (p f : FId) (s : State) : Mv → Prop
  | .step | .stepG _ => Priv p f s
  | .enter g v sig | .enterG _ g v sig => PrivT p f s (.enter g v sig)

theorem PrivM.ok {p f : FId} {s : State} : ∀ {mv : Mv}, PrivM p f s mv → mv.ok
  | .step, _ | .stepG _, _ => trivial
  | .enter .., h | .enterG .., h => h.2.2.1

def Mv.ofTrans : Trans → Mv
  | .step => .step
  | .enter g v sig => .enter g v sig

def Mv.ofTransG (lim : Nat) : Trans → Mv
  | .step => .stepG lim
  | .enter g v sig => .enterG lim g v sig

theorem move_ofTrans (s : State) : ∀ t, move s (.ofTrans t) = trans s t
  | .step | .enter .. => rfl

theorem move_ofTransG (lim : Nat) (s : State) : ∀ t, move s (.ofTransG lim t) = transG true lim s t
  | .step | .enter .. => rfl

theorem privM_ofTrans {p f : FId} {s : State} : ∀ {t}, PrivT p f s t → PrivM p f s (.ofTrans t)
  | .step, h | .enter .., h => h

theorem privM_ofTransG {p f : FId} {s : State} (lim : Nat) : ∀ {t}, PrivT p f s t → PrivM p f s (.ofTransG lim t)
  | .step, h | .enter .., h => h

theorem move_res (s : State) (hinv : Inv s) : ∀ mv : Mv, mv.ok → Res s (move s mv)
  | .step, _ => step_res s hinv
  | .stepG lim, _ => stepG_res lim s hinv
  | .enter g v sig, h => loopEnter_res s hinv g v sig h
  | .enterG lim g v sig, h => loopEnterG_res lim s hinv g v sig h

/-- reachable by moves of any kind, in any order -/
inductive Reach (s : State) : State → Prop
  | refl : Reach s s
  | tail {s' : State} (mv : Mv) (hok : mv.ok) (h : Reach s s') : Reach s (move s' mv)

/-- every fiber stays registered, statuses only move forward and the invariant holds, whatever the moves -/
theorem Reach.res {s s' : State} (h : Reach s s') (hinv : Inv s) : Res s s' := by
  induction h with
  | refl => exact ⟨Mono.refl s, hinv⟩
  | tail mv hok _ ih => exact ⟨ih.1.trans (move_res _ ih.2 mv hok).1, (move_res _ ih.2 mv hok).2⟩

theorem Reach.trans {a b c : State} (h1 : Reach a b) (h2 : Reach b c) : Reach a c := by
  induction h2 with
  | refl => exact h1
  | tail mv hok _ ih => exact .tail mv hok ih

section
variable {m : Nat} {p f : FId} {cont : Cont}

theorem move_G (hm : AccFin m) (s : State) (hinv : Inv s) (hne : p ≠ f) (hb : Blk m p f cont s s.stack) :
    ∀ mv : Mv, PrivM p f s mv → G m p f cont (move s mv)
  | .step, h => step_G hm s hinv hne hb h
  | .stepG lim, h => stepG_G hm lim s hinv hne hb h
  | .enter g v sig, h => loopEnter_G hm s hinv hne hb h.1 g v sig h.2.1 h.2.2.1 h.2.2.2
  | .enterG lim g v sig, h => loopEnterG_G hm lim s hinv hne hb h.1 g v sig h.2.1 h.2.2.1 h.2.2.2

/-- the cleanup theorem, once for all machines.  `σ` is any sequence of states each of which arises from its predecessor by
    a move that keeps the body fiber private — demanded only WHILE `p` is still blocked with the body not exited: after the exit
    the macro's own tail names `f` (its `(propagate r f)`), so privacy cannot be asked of later states.  Then `p` is still
    blocked after `N` moves, or there is a first move after which the machine is stuck, or the body is finished and the code after
    the macro's resume is what `p` runs, or the body's exit passed `p` by — and whatever is finished then stays finished in
    every state reachable afterwards by moves of any kind. -/
theorem exactly_once_seq (hm : AccFin m) (σ : Nat → State) (N : Nat) (h0 : Inv (σ 0)) (hne : p ≠ f) (hb : Blk m p f cont (σ 0) (σ 0).stack)
    (hstep : ∀ k, k < N → Blk m p f cont (σ k) (σ k).stack → ∃ mv, σ (k + 1) = move (σ k) mv ∧ PrivM p f (σ k) mv) :
    Blk m p f cont (σ N) (σ N).stack ∨
    ∃ k, 0 < k ∧ k ≤ N ∧ (∀ j, j < k → Blk m p f cont (σ j) (σ j).stack) ∧ Inv (σ k) ∧
      (Stuck (σ k) ∨
       (Exited p f cont (σ k) ∧ ∀ s', Reach (σ k) s' → ∃ ff, s'.fiber? f = some ff ∧ isFinished ff.status = true) ∨
       (Passed m p f cont (σ k) ∧ ∀ s', Reach (σ k) s' →
          (∃ ff, s'.fiber? f = some ff ∧ isFinished ff.status = true) ∧ ∃ fp, s'.fiber? p = some fp ∧ isFinished fp.status = true)) := by
  rcases blocked_until_exit_seq σ N h0 hb (fun k hk hi hbk => by
    obtain ⟨mv, he, hp⟩ := hstep k hk hbk
    rw [he]
    exact ⟨(move_res _ hi mv hp.ok).2, move_G hm _ hi hne hbk mv hp⟩) with h | ⟨k, hk0, hk, hbefore, hinv, hat⟩
  · exact Or.inl h
  · refine Or.inr ⟨k, hk0, hk, hbefore, hinv, ?_⟩
    rcases exit_for_ever (fun r : { s' // Reach (σ k) s' } => r.1) (fun r => (r.2.res hinv).1) hat with h | h | h
    · exact Or.inl h
    · exact Or.inr (Or.inl ⟨h.1, fun s' hs' => h.2 ⟨s', hs'⟩⟩)
    · exact Or.inr (Or.inr ⟨h.1, fun s' hs' => h.2 ⟨s', hs'⟩⟩)

end

theorem run_reach : ∀ (n : Nat) (s : State), Reach s (run n s)
  | 0, _ => .refl
  | n + 1, s => run_succ n s ▸ .tail .step trivial (run_reach n s)

theorem runG_reach (lim : Nat) : ∀ (n : Nat) (s : State), Reach s (runG true lim n s)
  | 0, _ => .refl
  | n + 1, s => runG_succ true lim n s ▸ .tail (.stepG lim) trivial (runG_reach lim n s)

theorem runT_reach : ∀ (ts : List Trans) (s : State), SigsOK ts → Reach s (runT s ts)
  | [], _, _ => .refl
  | .step :: ts, s, h => (Reach.tail .step trivial .refl).trans (runT_reach ts (step s) h)
  | .enter g v sig :: ts, s, h => (Reach.tail (.enter g v sig) h.1 .refl).trans (runT_reach ts (loopEnter s g v sig) h.2)

theorem runTG_reach (lim : Nat) : ∀ (ts : List Trans) (s : State), SigsOK ts → Reach s (runTG true lim s ts)
  | [], _, _ => .refl
  | .step :: ts, s, h => (Reach.tail (.stepG lim) trivial .refl).trans (runTG_reach lim ts (stepG true lim s) h)
  | .enter g v sig :: ts, s, h =>
    (Reach.tail (.enterG lim g v sig) h.1 .refl).trans (runTG_reach lim ts (loopEnterG lim s g v sig) h.2)

theorem runT_take_succ (s : State) (ts : List Trans) (k : Nat) (hk : k < ts.length) :
    runT s (ts.take (k + 1)) = move (runT s (ts.take k)) (.ofTrans ts[k]) := by
  rw [List.take_succ_eq_append_getElem hk, move_ofTrans]
  generalize ts.take k = us
  induction us generalizing s with
  | nil => rfl
  | cons u us ih => exact ih (trans s u)

theorem runTG_take_succ (lim : Nat) (s : State) (ts : List Trans) (k : Nat) (hk : k < ts.length) :
    runTG true lim s (ts.take (k + 1)) = move (runTG true lim s (ts.take k)) (.ofTransG lim ts[k]) := by
  rw [List.take_succ_eq_append_getElem hk, move_ofTransG]
  generalize ts.take k = us
  induction us generalizing s with
  | nil => rfl
  | cons u us ih => exact ih (transG true lim s u)

section
variable {m : Nat} {p f : FId} {cont : Cont}

/-- composition over whole executions: starting from a state in which `p` is blocked in the macro's `(resume f)`
    and `f` has not exited, for EVERY number of steps `n` of ANY script: either `p` is still blocked and `f` still has not
    exited after `n` steps, or there is a first step `i ≤ n` — and before it `p` was blocked all the time — after which
    the machine is stuck, or the body fiber is finished AND the code after the resume (the cleanup) is what `p` runs, or the
    body fiber is finished with a signal that passed `p` by. -/
theorem blocked_until_exit (hm : AccFin m) : ∀ (n : Nat) (s : State), Inv s → p ≠ f → Blk m p f cont s s.stack → (∀ i, Priv p f (run i s)) →
    Blk m p f cont (run n s) (run n s).stack ∨
    ∃ i, i ≤ n ∧ (∀ j, j < i → Blk m p f cont (run j s) (run j s).stack) ∧
      (Stuck (run i s) ∨ Exited p f cont (run i s) ∨ Passed m p f cont (run i s)) := by
  intro n s hinv hne hb hpriv
  rcases exactly_once_seq hm (fun k => run k s) n hinv hne hb (fun k _ _ => ⟨.step, run_succ k s, hpriv k⟩)
    with h | ⟨k, _, hk, hbefore, _, hat⟩
  · exact Or.inl h
  · exact Or.inr ⟨k, hk, hbefore, hat.imp id (Or.imp And.left And.left)⟩

theorem blocked_until_exit_sched (hm : AccFin m) : ∀ (ts : List Trans) (s : State), Inv s → p ≠ f → Blk m p f cont s s.stack →
    (∀ k (hk : k < ts.length), PrivT p f (runT s (ts.take k)) ts[k]) →
    Blk m p f cont (runT s ts) (runT s ts).stack ∨
    ∃ k, 0 < k ∧ k ≤ ts.length ∧ (∀ j, j < k → Blk m p f cont (runT s (ts.take j)) (runT s (ts.take j)).stack) ∧
      (Stuck (runT s (ts.take k)) ∨ Exited p f cont (runT s (ts.take k)) ∨ Passed m p f cont (runT s (ts.take k))) := by
  intro ts s hinv hne hb hpriv
  have h := exactly_once_seq hm (fun k => runT s (ts.take k)) ts.length hinv hne hb fun k hk _ =>
    ⟨_, runT_take_succ s ts k hk, privM_ofTrans (hpriv k hk)⟩
  simp only [List.take_length] at h
  exact h.imp id fun ⟨k, hk0, hk, hbefore, _, hat⟩ => ⟨k, hk0, hk, hbefore, hat.imp id (Or.imp And.left And.left)⟩

theorem blocked_until_exit_guarded_sched (hm : AccFin m) (lim : Nat) : ∀ (ts : List Trans) (s : State), Inv s → p ≠ f →
    Blk m p f cont s s.stack →
    (∀ k (hk : k < ts.length), PrivT p f (runTG true lim s (ts.take k)) ts[k]) →
    Blk m p f cont (runTG true lim s ts) (runTG true lim s ts).stack ∨
    ∃ k, 0 < k ∧ k ≤ ts.length ∧ (∀ j, j < k → Blk m p f cont (runTG true lim s (ts.take j)) (runTG true lim s (ts.take j)).stack) ∧
      (Stuck (runTG true lim s (ts.take k)) ∨ Exited p f cont (runTG true lim s (ts.take k)) ∨ Passed m p f cont (runTG true lim s (ts.take k))) := by
  intro ts s hinv hne hb hpriv
  have h := exactly_once_seq hm (fun k => runTG true lim s (ts.take k)) ts.length hinv hne hb fun k hk _ =>
    ⟨_, runTG_take_succ lim s ts k hk, privM_ofTransG lim (hpriv k hk)⟩
  simp only [List.take_length] at h
  exact h.imp id fun ⟨k, hk0, hk, hbefore, _, hat⟩ => ⟨k, hk0, hk, hbefore, hat.imp id (Or.imp And.left And.left)⟩

end

end JanetModel.Fiber
