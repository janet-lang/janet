/- C05 — composition of the cleanup-arrival lemma over whole executions (no Mathlib).
   `p` is blocked in the `(resume f)` of a fiber-based macro (defer / edefer / with / try / protect / prompt / with-dyns),
   `f` is the macro's private body fiber with mask `m`.  `G` = stuck ∨ exited (f finished and the code after the resume
   is what p runs) ∨ passed (f finished with a signal `m` does not hand to p) ∨ still blocked with f not finished;
   `step_G` shows that one machine step leads from `Blk` into `G`, whatever instruction whichever fiber executes,
   provided the body fiber stays private to the macro (`Priv`). -/
import JanetModel.Fiber.Invariant
namespace JanetModel.Fiber
open JanetModel.Gen.Fiber

def contK : Cont → Tm
  | .bindK _ k _ => k
  | .loopK _ _ _ k => k

/-- the machine stopped for a reason other than control returning to the C caller of the outermost janet_continue
    (`done`): hang / unmodelled / ill-formed.  A `done` halt is NOT an escape of the cleanup theorems: the fibers keep
    their records and the event loop may re-enter them (`loopEnter`). -/
def Stuck (s : State) : Prop := ∃ h, s.halt = some h ∧ h.isDone = false

theorem stuck_stop (s : State) (h : Halt) (hd : h.isDone = false) : Stuck (s.stop h) := ⟨h, rfl, hd⟩

theorem unwind_stack (stk : List FId) (s : State) (c : FId) (sig : Nat) (v : Val) :
    Stuck (unwind s stk c sig v) ∨ ∃ pre, stk = pre ++ (unwind s stk c sig v).stack :=
  (unwind_frame stk s c sig v).2.2

section
variable (m : Nat) (p f : FId) (cont : Cont)

/-- the record of the parent while it waits in the macro's `(resume f)`: suspended on `cont` with child `f`, outside any C call -/
def PRec (fp : Fiber) : Prop := fp.ctl = .wait cont ∧ fp.child = some f ∧ fp.pending = none ∧ inCcall fp = false ∧ cont.isNext = false
/-- the record of the body fiber: the macro's mask, not a root (task) fiber -/
def FRec (ff : Fiber) : Prop := ff.mask = m ∧ ff.root = false

/-- neither `p` nor `f` is running: both off the activation stack and not alive (the body has yielded up past `p`) -/
def Off (s : State) (stk : List FId) : Prop :=
  p ∉ stk ∧ f ∉ stk ∧ (∀ fp, s.fiber? p = some fp → fp.status ≠ stAlive) ∧ (∀ ff, s.fiber? f = some ff → ff.status ≠ stAlive)

/-- the body runs, or something it resumed does: `f` sits directly above `p` on the activation stack -/
def On (stk : List FId) : Prop := ∃ pre post, stk = pre ++ f :: p :: post

/-- `p` is blocked in the macro's `(resume f)`; the private body fiber `f` has not exited -/
def Blk (s : State) (stk : List FId) : Prop :=
  (∃ fp, s.fiber? p = some fp ∧ PRec f cont fp) ∧ (∃ ff, s.fiber? f = some ff ∧ FRec m ff ∧ isFinished ff.status = false) ∧
  (Off p f s stk ∨ On p f stk)

/-- the body fiber has exited and the code after the resume — the cleanup form — is what `p` runs now -/
def Exited (s : State) : Prop :=
  (∃ ff, s.fiber? f = some ff ∧ isFinished ff.status = true) ∧
  ∃ fp rest, s.fiber? p = some fp ∧ fp.ctl = .run (contK cont) ∧ s.stack = p :: rest

/-- the body fiber has exited with a signal its mask does NOT hand to `p` (for `try`: user0-4): the signal passed `p` by;
    `p` took the same finished status, is still parked in the macro's `(resume f)` and is not on the activation stack —
    the code after the resume (catch clause / cleanup) has not run and, `p` being finished, never will -/
def Passed (s : State) : Prop :=
  ∃ ff fp, s.fiber? f = some ff ∧ s.fiber? p = some fp ∧ isFinished ff.status = true ∧ ff.status < stNew ∧
    ¬ (ff.status = sigOk ∨ testBit m ff.status = true) ∧ fp.status = ff.status ∧ fp.ctl = .wait cont ∧ p ∉ s.stack

/-- every signal the mask hands to the resumer is an exit of the body (true of :ti :ie :i0 :p, false of :yi) -/
def AccFin (m : Nat) : Prop := ∀ sig, sig < stNew → (sig = sigOk ∨ testBit m sig = true) → isFinished sig = true

/-- where one transition leads from `Blk` -/
def G (s : State) : Prop := Stuck s ∨ (Exited p f cont s ∨ Passed m p f cont s) ∨ Blk m p f cont s s.stack

variable {m p f cont}

theorem Blk.par {s : State} {stk : List FId} (h : Blk m p f cont s stk) : ∃ fp, s.fiber? p = some fp ∧ PRec f cont fp := h.1
theorem Blk.body {s : State} {stk : List FId} (h : Blk m p f cont s stk) :
    ∃ ff, s.fiber? f = some ff ∧ FRec m ff ∧ isFinished ff.status = false := h.2.1
theorem Blk.shape {s : State} {stk : List FId} (h : Blk m p f cont s stk) : Off p f s stk ∨ On p f stk := h.2.2

/-- Case A: neither `p` nor `f` is among the callers: nothing about them changes -/
theorem unwind_A {s : State} {stk : List FId} (c : FId) (sig : Nat) (v : Val)
    (hp : ∃ fp, s.fiber? p = some fp ∧ PRec f cont fp) (hf : ∃ ff, s.fiber? f = some ff ∧ FRec m ff ∧ isFinished ff.status = false)
    (hoff : Off p f s stk) : G m p f cont (unwind s stk c sig v) := by
  obtain ⟨hpn, hfn, hpa, hfa⟩ := hoff
  rcases unwind_stack stk s c sig v with h | ⟨pre, h⟩
  · exact Or.inl h
  · refine Or.inr (Or.inr ⟨?_, ?_, Or.inl ⟨?_, ?_, ?_, ?_⟩⟩)
    · rw [unwind_other stk s c sig v p hpn]; exact hp
    · rw [unwind_other stk s c sig v f hfn]; exact hf
    · intro hm; exact hpn (h ▸ List.mem_append_right _ hm)
    · intro hm; exact hfn (h ▸ List.mem_append_right _ hm)
    · rw [unwind_other stk s c sig v p hpn]; exact hpa
    · rw [unwind_other stk s c sig v f hfn]; exact hfa

theorem accFin_TI : AccFin (maskOfFlags flagsTI) := by unfold AccFin; decide
theorem accFin_IE : AccFin (maskOfFlags flagsIE) := by unfold AccFin; decide
theorem accFin_I0 : AccFin (maskOfFlags flagsI0) := by unfold AccFin; decide
theorem accFin_P : AccFin (maskOfFlags flagsP) := by unfold AccFin; decide

/-- mask :ti — every signal that finishes the body is handed to the parent (so `Passed` cannot occur) -/
theorem rejected_unfinished : ∀ sig, sig < stNew → ¬ (sig = sigOk ∨ testBit (maskOfFlags flagsTI) sig = true) →
    isFinished sig = false := by decide

theorem not_passed_TI {s : State} : ¬ Passed (maskOfFlags flagsTI) p f cont s :=
  fun ⟨ff, _, _, _, hfin, hlt, hrej, _⟩ => by rw [rejected_unfinished ff.status hlt hrej] at hfin; cases hfin

/-- with mask :ti the third outcome of a cleanup theorem does not occur -/
theorem not_passed_TI.drop {s : State} {A B C : Prop} (h : A ∨ B ∨ (Passed (maskOfFlags flagsTI) p f cont s ∧ C)) : A ∨ B :=
  h.elim Or.inl fun h => h.elim Or.inr fun h => absurd h.1 not_passed_TI

theorem exit_for_ever {ι : Sort _} {σ : State} (R : ι → State) (hR : ∀ i, Mono σ (R i))
    (hat : Stuck σ ∨ Exited p f cont σ ∨ Passed m p f cont σ) :
    Stuck σ ∨ (Exited p f cont σ ∧ ∀ i, ∃ ff, (R i).fiber? f = some ff ∧ isFinished ff.status = true) ∨
    (Passed m p f cont σ ∧ ∀ i, (∃ ff, (R i).fiber? f = some ff ∧ isFinished ff.status = true) ∧
      ∃ fp, (R i).fiber? p = some fp ∧ isFinished fp.status = true) := by
  have fin : ∀ {g fg}, σ.fiber? g = some fg → isFinished fg.status = true → ∀ i, ∃ fg', (R i).fiber? g = some fg' ∧
      isFinished fg'.status = true := fun hg hfin i =>
    let ⟨fg', h1, h2⟩ := (hR i).finished hg hfin
    ⟨fg', h1, h2 ▸ hfin⟩
  rcases hat with h | h | h
  · exact Or.inl h
  · obtain ⟨⟨ff, hff, hfin⟩, _⟩ := id h
    exact Or.inr (Or.inl ⟨h, fin hff hfin⟩)
  · obtain ⟨ff, fp, hff, hfp, hfin, _, _, hst, _⟩ := id h
    exact Or.inr (Or.inr ⟨h, fun i => ⟨fin hff hfin i, fin hfp (hst ▸ hfin) i⟩⟩)

theorem lt_new_ne_alive : ∀ sig, sig < stNew → sig ≠ stAlive := by decide

/-- the signal that finished `f` was not handed to `p` and goes on to the callers below `p` -/
theorem unwind_passed {s2 : State} {post : List FId} {ff fp2 : Fiber} (sig : Nat) (v : Val)
    (hf2 : s2.fiber? f = some ff) (hp2 : s2.fiber? p = some fp2) (hfin : isFinished ff.status = true) (hlt : ff.status < stNew)
    (hrej : ¬ (ff.status = sigOk ∨ testBit m ff.status = true)) (hst : fp2.status = ff.status) (hw : fp2.ctl = .wait cont)
    (hpn : p ∉ post) (hfn : f ∉ post) : G m p f cont (unwind s2 post p sig v) := by
  rcases unwind_stack post s2 p sig v with hst' | ⟨pre, hpre⟩
  · exact Or.inl hst'
  · refine Or.inr (Or.inl (Or.inr ⟨ff, fp2, ?_, ?_, hfin, hlt, hrej, hst, hw, ?_⟩))
    · rw [unwind_other post _ p sig v f hfn]; exact hf2
    · rw [unwind_other post _ p sig v p hpn]; exact hp2
    · intro hmem; exact hpn (hpre ▸ List.mem_append_right _ hmem)

/-- Case C: the body fiber `f` itself hands `(sig, v)` to `p` (its status already is `sig`):
    exit signal → delivered, cleanup next; anything else → `p` stays blocked, takes the status, signal goes on -/
theorem unwind_C (hm : AccFin m) {s : State} {post : List FId} {fp ff : Fiber} (sig : Nat) (v : Val)
    (hp : s.fiber? p = some fp) (hpr : PRec f cont fp) (hf : s.fiber? f = some ff) (hfr : FRec m ff) (hst : ff.status = sig)
    (hsig : sig < stNew) (hne : p ≠ f) (hpn : p ∉ post) (hfn : f ∉ post) :
    G m p f cont (unwind s (p :: post) f sig v) := by
  obtain ⟨hw, hch, hpe, hcc, hnn⟩ := hpr
  have hfne : f ≠ p := fun h => hne h.symm
  have hna := lt_new_ne_alive sig hsig
  -- handed to `p`: the mask only accepts exits, so `f` is finished, and the code after the resume runs next
  have exit : (sig = sigOk ∨ testBit ff.mask sig = true) → ∀ x w,
      G m p f cont (deliverValue { s with stack := p :: post } p x cont w) := by
    intro hacc x w
    have hfin : isFinished ff.status = true := by rw [hst]; exact hm sig hsig (hfr.1 ▸ hacc)
    cases cont with
    | loopK l a b k => cases hnn
    | bindK l k b =>
      exact Or.inr (Or.inl (Or.inl ⟨⟨ff, by rw [deliverValue_other _ _ _ _ _ _ hfne]; exact hf, hfin⟩, _, post,
        deliverValue_self _ _ _ _ _ hp, rfl, by rw [deliverValue_stack]⟩))
  have st := unwind_step s p post f sig v
  generalize unwind s (p :: post) f sig v = r at st ⊢
  cases st with
  | bad why => exact Or.inl (stuck_stop _ _ rfl)
  | deliver w hp' hc' hw' hacc =>
    rw [hp] at hp'; cases hp'; rw [hf] at hc'; cases hc'; rw [hw] at hw'; cases hw'
    exact exit hacc _ _
  | deliverChain w hp' hc' hw' hacc =>
    rw [hp] at hp'; cases hp'; rw [hf] at hc'; cases hc'; rw [hw] at hw'; cases hw'
    exact exit hacc _ _
  | pending w hp' _ _ hpe' => rw [hp] at hp'; cases hp'; rw [hpe] at hpe'; cases hpe'
  | pass sg w lastv ch hp' hc' hrej _ hsg hch' =>
    rw [hp] at hp'; cases hp'; rw [hf] at hc'; cases hc'
    have hsg := hsg hcc
    have hch' := hch' (hst ▸ hna)
    subst hsg hch'
    have hf2 : ∀ x, (s.setFiber p x).fiber? f = some ff := fun x => by rw [fiber?_setFiber_ne hfne]; exact hf
    by_cases hfin : isFinished sg = true
    · -- … and it finished the body (try: user0-4): `Passed`
      exact unwind_passed sg w (hf2 _) (fiber?_setFiber_eq _ hp) (hst ▸ hfin) (hst ▸ hsig) (hst ▸ fun h => hrej (hfr.1 ▸ h))
        hst.symm hw hpn hfn
    · -- not an exit: p keeps waiting
      have hnf : isFinished sg = false := by simpa using hfin
      refine unwind_A _ _ _ ⟨_, fiber?_setFiber_eq _ hp, hw, hch, hpe, hcc, hnn⟩ ⟨ff, hf2 _, hfr, hst ▸ hnf⟩ ⟨hpn, hfn, ?_, ?_⟩
      · intro fp' h'; rw [fiber?_setFiber_eq _ hp] at h'; cases h'; exact hna
      · intro ff' h'; rw [hf2] at h'; cases h'; exact hst ▸ hna

theorem Blk.congr {s s' : State} {stk : List FId} (hp : s'.fiber? p = s.fiber? p) (hf : s'.fiber? f = s.fiber? f)
    (hb : Blk m p f cont s stk) : Blk m p f cont s' stk := by
  unfold Blk Off at *
  rw [hp, hf]; exact hb

theorem G_deliver_any {s : State} {q : FId} (fq : Fiber) (c : Cont) (v : Val)
    (hb : Blk m p f cont s s.stack) (hqp : p ≠ q) (hqf : f ≠ q) : G m p f cont (deliverValue s q fq c v) :=
  Or.inr (Or.inr (by
    rw [deliverValue_stack]
    exact hb.congr (deliverValue_other _ _ _ _ _ _ hqp) (deliverValue_other _ _ _ _ _ _ hqf)))

theorem G_deliver_f {s : State} {cur : Fiber} (fq : Fiber) (c : Cont) (v : Val)
    (hp : ∃ fp, s.fiber? p = some fp ∧ PRec f cont fp) (hcur : s.fiber? f = some cur)
    (hfr : FRec m fq) (hnf : isFinished fq.status = false)
    (hon : On p f s.stack) (hne : p ≠ f) : G m p f cont (deliverValue s f fq c v) := by
  obtain ⟨x, l, w, he, h1, h2, h3, _⟩ := deliverValue_eq s f fq c v
  have hx : (deliverValue s f fq c v).fiber? f = some x := by rw [he, fiber?_log]; exact fiber?_setFiber_eq _ hcur
  refine Or.inr (Or.inr ⟨?_, ⟨x, hx, ⟨h2.trans hfr.1, h3.trans hfr.2⟩, h1 ▸ hnf⟩, Or.inr ?_⟩)
  · rw [deliverValue_other _ _ _ _ _ _ hne]; exact hp
  · rw [deliverValue_stack]; exact hon

/-- Case B: the signal comes from somewhere above `f` in the stack `pre ++ f :: p :: post` (induction on `pre`) -/
theorem unwind_B (hm : AccFin m) : ∀ (pre : List FId) (s : State) (post : List FId) (c : FId) (sig : Nat) (v : Val),
    PendOK s → (∃ fp, s.fiber? p = some fp ∧ PRec f cont fp) →
    (∃ ff, s.fiber? f = some ff ∧ FRec m ff ∧ isFinished ff.status = false) →
    (pre ++ f :: p :: post).Nodup → sig < stNew →
    G m p f cont (unwind s (pre ++ f :: p :: post) c sig v) := by
  intro pre
  induction pre with
  | nil =>
    intro s post c sig v hpo ⟨fp, hfp, hpr⟩ ⟨ff, hff, hfr, hnf⟩ hnd hsig
    rw [List.nil_append] at hnd ⊢
    have hne : p ≠ f := fun h => by subst h; simp at hnd
    have hpn : p ∉ post := (List.nodup_cons.mp (List.nodup_cons.mp hnd).2).1
    have hfn : f ∉ post := fun h => (List.nodup_cons.mp hnd).1 (List.mem_cons_of_mem _ h)
    -- `f`, not catching, takes the signal's status and hands it to `p`
    have on : ∀ (x : Fiber) (w : Val), FRec m x → x.status < stNew → G m p f cont (unwind (s.setFiber f x) (p :: post) f x.status w) :=
      fun x w hx hlt => unwind_C hm _ w (by rw [fiber?_setFiber_ne hne]; exact hfp) hpr (fiber?_setFiber_eq _ hff) hx rfl hlt hne hpn hfn
    have st := unwind_step s f (p :: post) c sig v
    generalize unwind s (f :: p :: post) c sig v = r at st ⊢
    cases st with
    | bad why => exact Or.inl (stuck_stop _ _ rfl)
    | deliver w hp' =>
      rw [hff] at hp'; cases hp'
      exact G_deliver_f (s := { s with stack := f :: p :: post }) _ _ _ ⟨fp, hfp, hpr⟩ hff hfr hnf ⟨[], post, rfl⟩ hne
    | deliverChain w hp' =>
      rw [hff] at hp'; cases hp'
      exact G_deliver_f (s := { s with stack := f :: p :: post }) _ _ _ ⟨fp, hfp, hpr⟩ hff hfr alive_not_finished ⟨[], post, rfl⟩ hne
    | pending w hp' _ _ hpe => rw [hff] at hp'; cases hp'; exact on _ w hfr (hpo f _ _ hff hpe)
    | pass sg w lastv ch hp' _ _ hsg => rw [hff] at hp'; cases hp'; exact on _ w hfr (hsg hsig)
  | cons q pre ih =>
    intro s post c sig v hpo hp hf hnd hsig
    rw [List.cons_append] at hnd ⊢
    have hq := (List.nodup_cons.mp hnd).1
    have hqf : f ≠ q := fun h => hq (by subst h; simp)
    have hqp : p ≠ q := fun h => hq (by subst h; simp)
    -- `q`, not catching, takes the signal's status and hands it on towards `f`
    have on : ∀ (x : Fiber) (w : Val), (∀ a, x.pending = some a → a < stNew) → x.status < stNew →
        G m p f cont (unwind (s.setFiber q x) (pre ++ f :: p :: post) q x.status w) := by
      intro x w hx hlt
      obtain ⟨fp, h1, h2⟩ := hp
      obtain ⟨ff, h3, h4⟩ := hf
      exact ih _ _ _ _ _ (hpo.setFiber q x hx) ⟨fp, by rw [fiber?_setFiber_ne hqp]; exact h1, h2⟩
        ⟨ff, by rw [fiber?_setFiber_ne hqf]; exact h3, h4⟩ (List.nodup_cons.mp hnd).2 hlt
    have here : ∀ x cont' w, G m p f cont (deliverValue { s with stack := q :: (pre ++ f :: p :: post) } q x cont' w) :=
      fun x cont' w => G_deliver_any (s := { s with stack := q :: (pre ++ f :: p :: post) }) _ _ _ ⟨hp, hf, Or.inr ⟨q :: pre, post, rfl⟩⟩ hqp hqf
    have st := unwind_step s q (pre ++ f :: p :: post) c sig v
    generalize unwind s (q :: (pre ++ f :: p :: post)) c sig v = r at st ⊢
    cases st with
    | bad why => exact Or.inl (stuck_stop _ _ rfl)
    | deliver => exact here ..
    | deliverChain => exact here ..
    | pending w hp' _ _ hpe => exact on _ w (fun _ h => by cases h) (hpo q _ _ hp' hpe)
    | pass sg w lastv ch hp' _ _ hsg => exact on _ w (fun a h => hpo q _ a hp' h) (hsg hsig)

theorem off_cons {s : State} {stk : List FId} {g : FId} (h : Off p f s stk) (hgp : p ≠ g) (hgf : f ≠ g) : Off p f s (g :: stk) :=
  ⟨by simp [hgp, h.1], by simp [hgf, h.2.1], h.2.2.1, h.2.2.2⟩

theorem on_cons {stk : List FId} (g : FId) (h : On p f stk) : On p f (g :: stk) := by
  obtain ⟨pre, post, h⟩ := h; exact ⟨g :: pre, post, by rw [h]; rfl⟩

theorem Blk.cons {s : State} {stk : List FId} {g : FId} (hb : Blk m p f cont s stk) (hgp : p ≠ g) (hgf : f ≠ g) :
    Blk m p f cont s (g :: stk) :=
  ⟨hb.par, hb.body, hb.shape.imp (fun h => off_cons h hgp hgf) (on_cons g)⟩

theorem Blk.tail {s : State} {stk : List FId} {g : FId} (hb : Blk m p f cont s (g :: stk)) (hgf : g ≠ f) : Blk m p f cont s stk := by
  refine ⟨hb.par, hb.body, hb.shape.imp
    (fun h => ⟨fun hm => h.1 (List.mem_cons_of_mem _ hm), fun hm => h.2.1 (List.mem_cons_of_mem _ hm), h.2.2⟩) ?_⟩
  rintro ⟨pre, post, h⟩
  cases pre with
  | nil => exact absurd (List.cons.inj h).1 hgf
  | cons q pre => exact ⟨pre, post, (List.cons.inj h).2⟩

theorem unwind_blk (hm : AccFin m) {s : State} {stk : List FId} (c : FId) {sig : Nat} (v : Val) (hpo : PendOK s)
    (hb : Blk m p f cont s stk) (hnd : stk.Nodup) (hsig : sig < stNew) : G m p f cont (unwind s stk c sig v) := by
  obtain ⟨hp, hf, hoff | ⟨pre, post, rfl⟩⟩ := hb
  · exact unwind_A _ _ _ hp hf hoff
  · exact unwind_B hm pre _ post _ _ _ hpo hp hf hnd hsig

/-- `Only s`: no fiber but `p` has `f` as its child (the body fiber is private to the macro) -/
def Only (p f : FId) (s : State) : Prop := ∀ w fw, s.fiber? w = some fw → fw.child = some f → w = p

theorem Only.setFiber {s : State} {q : FId} {cur : Fiber} (x : Fiber) (ho : Only p f s) (h : s.fiber? q = some cur)
    (hc : x.child = cur.child) : Only p f (s.setFiber q x) := by
  intro w fw hw hcw
  by_cases hwq : w = q
  · subst hwq
    rw [fiber?_setFiber_eq _ h] at hw; cases hw
    exact ho w cur h (hc ▸ hcw)
  · rw [fiber?_setFiber_ne hwq] at hw; exact ho w fw hw hcw

/-- entering a fiber that is neither `p` nor `f` and has no child (startRun) -/
theorem startRun_G_other (hm : AccFin m) {s : State} {stk : List FId} {g : FId} (fg : Fiber) (v : Val)
    (hpo : PendOK s) (hpp : ∀ sg, fg.pending = some sg → sg < stNew)
    (hb : Blk m p f cont s stk) (hnd : stk.Nodup) (hgp : p ≠ g) (hgf : f ≠ g) :
    G m p f cont (startRun s stk g fg v) := by
  have hb' : ∀ x, Blk m p f cont (s.setFiber g x) stk :=
    fun x => hb.congr (fiber?_setFiber_ne hgp) (fiber?_setFiber_ne hgf)
  unfold startRun
  split
  · rename_i sg hsg
    exact unwind_blk hm _ _ (hpo.setFiber g _ (by intro _ h; simp at h)) (hb' _) hnd (hpp sg hsg)
  · split
    · exact Or.inr (Or.inr ((hb' _).cons hgp hgf))
    · exact G_deliver_any (s := { s with stack := g :: stk }) _ _ _ (hb.cons hgp hgf) hgp hgf

/-- entering the body fiber `f` itself, from `p` directly below it -/
theorem startRun_G_f (hm : AccFin m) {s : State} {post : List FId} {cur fp : Fiber} (fg : Fiber) (v : Val)
    (hcur : s.fiber? f = some cur) (hp : s.fiber? p = some fp) (hpr : PRec f cont fp) (hfr : FRec m fg)
    (hpp : ∀ sg, fg.pending = some sg → sg < stNew) (hne : p ≠ f) (hpn : p ∉ post) (hfn : f ∉ post) :
    G m p f cont (startRun s (p :: post) f fg v) := by
  have hp' : ∀ x, (s.setFiber f x).fiber? p = some fp := fun x => by rw [fiber?_setFiber_ne hne]; exact hp
  unfold startRun
  split
  · rename_i sg hsg
    exact unwind_C hm sg v (hp' _) hpr (fiber?_setFiber_eq _ hcur) hfr (by rfl) (hpp sg hsg) hne hpn hfn
  · split
    · exact Or.inr (Or.inr ⟨⟨fp, hp' _, hpr⟩, ⟨_, fiber?_setFiber_eq _ hcur, hfr, alive_not_finished⟩, Or.inr ⟨[], post, rfl⟩⟩)
    · exact G_deliver_f (s := { s with stack := f :: p :: post }) _ _ _ ⟨fp, hp, hpr⟩ hcur hfr alive_not_finished ⟨[], post, rfl⟩ hne

/-- how janet_continue_no_check may be entered on `g` while `p` is blocked on `f`: on some other fiber, or on `f` itself from `p` -/
def Ent (p f : FId) (s : State) (stk : List FId) (g : FId) : Prop :=
  (g ≠ f ∧ (Off p f s stk ∨ On p f stk)) ∨ ∃ post, stk = p :: post ∧ g = f

/-- janet_continue_no_check while `p` is blocked on `f`: whatever is entered, through child chains of any depth -/
theorem contNoCheck_G (hm : AccFin m) : ∀ (fuel : Nat) (s : State) (stk : List FId) (g : FId) (v : Val),
    PendOK s → StackOK s stk → Only p f s → p ≠ f →
    (∃ fp, s.fiber? p = some fp ∧ PRec f cont fp) → (∃ ff, s.fiber? f = some ff ∧ FRec m ff ∧ isFinished ff.status = false) →
    (∀ cur, s.fiber? g = some cur → refuseResume.contains cur.status = false) →
    Ent p f s stk g → G m p f cont (contNoCheck fuel s stk g v) := by
  intro fuel
  induction fuel with
  | zero => intro s stk g v _ _ _ _ _ _ _ _; exact Or.inl (stuck_stop _ _ rfl)
  | succ n ih =>
    intro s stk g v hpo hs ho hne ⟨fp, hfp, hpr⟩ ⟨ff, hff, hfr, hfnf⟩ hnr hent
    unfold contNoCheck
    split
    · exact Or.inl (stuck_stop _ _ rfl)
    · rename_i ff0 hff0
      have hgn : g ∉ stk := not_mem_of_not_alive hs hff0 (not_refused (hnr ff0 hff0)).2
      have hpp0 : ∀ sg, ff0.pending = some sg → sg < stNew := fun sg h => hpo g ff0 sg hff0 h
      have hb : p ≠ g → f ≠ g → Off p f s stk ∨ On p f stk → ∀ x, Blk m p f cont (s.setFiber g x) stk := fun hpg hfg hsh x =>
        Blk.congr (fiber?_setFiber_ne hpg) (fiber?_setFiber_ne hfg) ⟨⟨fp, hfp, hpr⟩, ⟨ff, hff, hfr, hfnf⟩, hsh⟩
      split
      · -- child branch: `g` is marked alive and pushed, then its child `c` is continued
        rename_i c hc
        simp only [chainAliveMarked, if_true]
        generalize hx : ({ ff0 with last := .nil, passThrough := true, status := stAlive } : Fiber) = x
        have hxs : x.status = stAlive := hx ▸ rfl
        have hp1 : PendOK (s.setFiber g x) := hpo.setFiber g x (fun sg h => hpp0 sg (by rw [← hx] at h; exact h))
        have hs1 : StackOK (s.setFiber g x) (g :: stk) := (hs.setFiber_notin g x hgn).cons hgn (fiber?_setFiber_eq x hff0) hxs
        have ho1 : Only p f (s.setFiber g x) := ho.setFiber x hff0 (hx ▸ rfl)
        by_cases hgp : g = p ∧ g ≠ f
        · -- `p` itself is re-entered (it is not on the stack): its child is `f`, entered next from `p`
          obtain ⟨rfl, hgf⟩ := hgp
          have hsh : Off g f s stk ∨ On g f stk := hent.elim (·.2) fun ⟨_, _, h⟩ => absurd h hgf
          rw [hfp] at hff0; cases hff0
          obtain rfl : c = f := by have := hpr.2.1; rw [hc] at this; cases this; rfl
          have hoff : Off g c s stk := hsh.resolve_right (fun ⟨pre, post, h⟩ => hgn (h ▸ by simp))
          have hfl : (s.setFiber g x).fiber? c = some ff := by rw [fiber?_setFiber_ne hgf.symm]; exact hff
          have hchk : checkCanResume ff false = none :=
            checkCanResume_eq_none_iff.mpr ⟨hfr.2, not_refused_iff.mpr ⟨hfnf, hoff.2.2.2 ff hff⟩⟩
          simp only [hfl, hchk]
          exact ih _ _ _ _ hp1 hs1 ho1 hne ⟨x, fiber?_setFiber_eq _ hfp, hx ▸ hpr⟩ ⟨ff, hfl, hfr, hfnf⟩
            (resumable_of_check hfl hchk) (Or.inr ⟨stk, rfl, rfl⟩)
        · -- any other fiber, or the body itself from `p`: `p` stays blocked with `g` on top, and the child entered is not `f`
          suffices h : Blk m p f cont (s.setFiber g x) (g :: stk) ∧
              ∀ fc, (s.setFiber g x).fiber? c = some fc → checkCanResume fc false = none → c ≠ f by
            obtain ⟨hb1, hcf⟩ := h
            split
            · exact Or.inl (stuck_stop _ _ rfl)
            · rename_i fc hfc
              split
              · exact unwind_blk hm _ _ hp1 hb1 hs1.1 sigError_lt
              · rename_i hchk
                exact ih _ _ _ _ hp1 hs1 ho1 hne hb1.par hb1.body (resumable_of_check hfc hchk) (Or.inl ⟨hcf fc hfc hchk, hb1.shape⟩)
          rcases hent with ⟨hgf, hsh⟩ | ⟨post, rfl, rfl⟩
          · have hpg : p ≠ g := fun h => hgp ⟨h.symm, hgf⟩
            exact ⟨(hb hpg hgf.symm hsh x).cons hpg hgf.symm, fun _ _ _ h => hpg (ho g ff0 hff0 (h ▸ hc)).symm⟩
          · rw [hff] at hff0; cases hff0
            exact ⟨⟨⟨fp, by rw [fiber?_setFiber_ne hne]; exact hfp, hpr⟩,
                ⟨x, fiber?_setFiber_eq _ hff, hx ▸ hfr, hxs ▸ alive_not_finished⟩, Or.inr ⟨[], post, rfl⟩⟩,
              fun fc hfc hchk h => (not_refused (checkCanResume_none hchk)).2 (by
                subst h; rw [fiber?_setFiber_eq _ hff] at hfc; cases hfc; exact hxs)⟩
      · -- no child: run_vm is entered
        rename_i hc
        simp only []
        have hp2 := hpo.setFiber g { ff0 with last := .nil } hpp0
        rcases hent with ⟨hgf, hsh⟩ | ⟨post, rfl, rfl⟩
        · have hpg : p ≠ g := fun h => by subst h; rw [hfp] at hff0; cases hff0; rw [hpr.2.1] at hc; cases hc
          exact startRun_G_other hm _ v hp2 hpp0 (hb hpg hgf.symm hsh _) hs.1 hpg hgf.symm
        · rw [hff] at hff0; cases hff0
          exact startRun_G_f hm _ v (fiber?_setFiber_eq _ hff) (by rw [fiber?_setFiber_ne hne]; exact hfp) hpr hfr hpp0 hne
            hs.tail.2 (fun h => hgn (List.mem_cons_of_mem _ h))

/-- a write to a fiber other than `p` that keeps status, mask, root flag and child keeps everything the composition
    argument looks at -/
theorem Blk.parts_setFiber {s : State} {d : FId} {fd : Fiber} (x : Fiber) (hd : s.fiber? d = some fd) (hdp : p ≠ d)
    (hst : x.status = fd.status) (hm : x.mask = fd.mask) (hrt : x.root = fd.root) (hch : x.child = fd.child)
    (hp : ∃ fp, s.fiber? p = some fp ∧ PRec f cont fp) (hf : ∃ ff, s.fiber? f = some ff ∧ FRec m ff ∧ isFinished ff.status = false)
    (ho : Only p f s) :
    (∃ fp, (s.setFiber d x).fiber? p = some fp ∧ PRec f cont fp) ∧
    (∃ ff, (s.setFiber d x).fiber? f = some ff ∧ FRec m ff ∧ isFinished ff.status = false) ∧
    Only p f (s.setFiber d x) ∧ (∀ stk, Off p f s stk → Off p f (s.setFiber d x) stk) := by
  refine ⟨?_, ?_, ?_, ?_⟩
  · obtain ⟨fp, h1, h2⟩ := hp; exact ⟨fp, by rw [fiber?_setFiber_ne hdp]; exact h1, h2⟩
  · obtain ⟨ff, h1, h2, h3⟩ := hf
    by_cases hfd : f = d
    · subst hfd; rw [hd] at h1; cases h1
      exact ⟨x, fiber?_setFiber_eq _ hd, ⟨hm.trans h2.1, hrt.trans h2.2⟩, hst ▸ h3⟩
    · exact ⟨ff, by rw [fiber?_setFiber_ne hfd]; exact h1, h2, h3⟩
  · exact ho.setFiber x hd hch
  · intro stk ⟨h1, h2, h3, h4⟩
    refine ⟨h1, h2, ?_, ?_⟩
    · rw [fiber?_setFiber_ne hdp]; exact h3
    · by_cases hfd : f = d
      · subst hfd; intro ff hff; rw [fiber?_setFiber_eq _ hd] at hff; cases hff; rw [hst]; exact h4 fd hd
      · rw [fiber?_setFiber_ne hfd]; exact h4

/-- context of one instruction while `p` is blocked on `f`: `h` is the running head of the stack -/
structure BCtx (m : Nat) (p f : FId) (cont : Cont) (s : State) (h : FId) (fh : Fiber) (rest : List FId) : Prop where
  c : Ctx s h fh rest
  blk : Blk m p f cont s (h :: rest)
  only : Only p f s
  hne : p ≠ f
  hhp : p ≠ h
  acc : AccFin m

namespace BCtx
variable {s : State} {h : FId} {fh : Fiber} {rest : List FId}

theorem hp (b : BCtx m p f cont s h fh rest) : ∃ fp, s.fiber? p = some fp ∧ PRec f cont fp := b.blk.par
theorem hf (b : BCtx m p f cont s h fh rest) : ∃ ff, s.fiber? f = some ff ∧ FRec m ff ∧ isFinished ff.status = false := b.blk.body

/-- when the running fiber is the body fiber itself, the stack is `f :: p :: post` -/
theorem shape_f (b : BCtx m p f cont s h fh rest) (hhf : h = f) : ∃ post, rest = p :: post ∧ p ∉ post ∧ f ∉ post := by
  rcases b.blk.shape with hoff | ⟨pre, post, hstk⟩
  · exact absurd (hhf ▸ List.mem_cons_self ..) hoff.2.1
  · have hnd := b.c.hs.1
    cases pre with
    | nil =>
      simp only [List.nil_append, List.cons.injEq] at hstk
      refine ⟨post, hstk.2, ?_, ?_⟩
      · rw [hstk.2] at hnd; exact (List.nodup_cons.mp (List.nodup_cons.mp hnd).2).1
      · rw [hstk.2, hhf] at hnd; exact fun hm => (List.nodup_cons.mp hnd).1 (List.mem_cons_of_mem _ hm)
    | cons q pre' =>
      simp only [List.cons_append, List.cons.injEq] at hstk
      rw [hstk.2, hstk.1] at hnd
      exact absurd (by rw [← hstk.1, hhf]; simp) (List.nodup_cons.mp hnd).1

/-- the head's own record, when the head is `f` -/
theorem frec (b : BCtx m p f cont s h fh rest) (hhf : h = f) : FRec m fh ∧ isFinished fh.status = false := by
  obtain ⟨ff, h1, h2, h3⟩ := b.hf
  rw [← hhf, b.c.hfp] at h1; cases h1; exact ⟨h2, h3⟩

theorem bind (b : BCtx m p f cont s h fh rest) (fh' : Fiber) (cont' : Cont) (v : Val)
    (hst : fh'.status = fh.status) (hm : fh'.mask = fh.mask) (hrt : fh'.root = fh.root) :
    G m p f cont (deliverValue s h fh' cont' v) := by
  by_cases hhf : h = f
  · obtain ⟨post, hr, _, _⟩ := b.shape_f hhf
    obtain ⟨h2, h3⟩ := b.frec hhf
    subst hhf
    exact G_deliver_f _ _ _ b.hp b.c.hfp ⟨hm.trans h2.1, hrt.trans h2.2⟩ (hst ▸ h3) ⟨[], post, by rw [b.c.hstk, hr]; rfl⟩ b.hne
  · exact G_deliver_any _ _ _ (by rw [b.c.hstk]; exact b.blk) b.hhp (fun hh => hhf hh.symm)

theorem raise (b : BCtx m p f cont s h fh rest) (fh' : Fiber) {sig : Nat} (v : Val)
    (hm : fh'.mask = fh.mask) (hrt : fh'.root = fh.root) (hpe : fh'.pending = fh.pending) (hsig : sig < stNew) :
    G m p f cont (raise s h fh' rest sig v) := by
  unfold Fiber.raise
  split
  · exact Or.inl (stuck_stop _ _ rfl)
  · have hlt : (if inCcall fh' = true then coerce sig v else (sig, v)).1 < stNew := by
      split
      · exact coerce_lt sig v
      · exact hsig
    have hpo1 : ∀ x : Fiber, x.pending = fh'.pending → PendOK (s.setFiber h x) :=
      fun x hx => b.c.hpo.setFiber h x (fun sg hh => b.c.pp sg (hpe ▸ hx ▸ hh))
    obtain ⟨fp, hfp, hpr⟩ := b.hp
    have hp1 : ∀ x, (s.setFiber h x).fiber? p = some fp := fun x => by rw [fiber?_setFiber_ne b.hhp]; exact hfp
    by_cases hhf : h = f
    · obtain ⟨post, hr, hpn, hfn⟩ := b.shape_f hhf
      obtain ⟨h2, _⟩ := b.frec hhf
      subst hhf; subst hr
      exact unwind_C b.acc _ _ (hp1 _) hpr (fiber?_setFiber_eq _ b.c.hfp) ⟨hm.trans h2.1, hrt.trans h2.2⟩ rfl hlt b.hne hpn hfn
    · exact unwind_blk b.acc _ _ (hpo1 _ rfl)
        ((b.blk.tail hhf).congr (fiber?_setFiber_ne b.hhp) (fiber?_setFiber_ne (Ne.symm hhf))) b.c.hs.tail.1.1 hlt

theorem toG (b : BCtx m p f cont s h fh rest) : G m p f cont s := Or.inr (Or.inr (by rw [b.c.hstk]; exact b.blk))

/-- transfer along a head-only rewrite that may also change things the argument does not look at -/
theorem ofTweak (b : BCtx m p f cont s h fh rest) {s' : State} {fh' : Fiber} (t : Tweak s s' h fh fh')
    (hch : fh'.child = fh.child ∨ fh'.child ≠ some f) : BCtx m p f cont s' h fh' rest := by
  obtain ⟨fp, hfp, hpr⟩ := b.hp
  obtain ⟨ff, hff, hfr, hfn⟩ := b.hf
  have hp' : s'.fiber? p = some fp := t.other p fp b.hhp hfp
  have hf' : ∃ ff', s'.fiber? f = some ff' ∧ FRec m ff' ∧ isFinished ff'.status = false ∧ ff'.status = ff.status := by
    by_cases hfh : f = h
    · subst hfh; rw [b.c.hfp] at hff; cases hff
      exact ⟨fh', t.cur, ⟨t.msk.trans hfr.1, t.rt.trans hfr.2⟩, t.st ▸ hfn, t.st⟩
    · exact ⟨ff, t.other f ff hfh hff, hfr, hfn, rfl⟩
  obtain ⟨ff', hff', hfr', hfn', hst'⟩ := hf'
  refine ⟨b.c.tweak t, ⟨⟨fp, hp', hpr⟩, ⟨ff', hff', hfr', hfn'⟩, ?_⟩, ?_, b.hne, b.hhp, b.acc⟩
  · rcases b.blk.shape with ⟨h1, h2, h3, h4⟩ | hon
    · left; refine ⟨h1, h2, ?_, ?_⟩
      · intro x hx; rw [hp'] at hx; cases hx; exact h3 fp hfp
      · intro x hx; rw [hff'] at hx; cases hx; rw [hst']; exact h4 ff hff
    · exact Or.inr hon
  · intro w fw hw hcw
    by_cases hwh : w = h
    · subst hwh; rw [t.cur] at hw; cases hw
      exact hch.elim (fun e => b.only w fh b.c.hfp (e ▸ hcw)) (fun e => absurd hcw e)
    · rcases t.back w fw hwh hw with hb | hb
      · exact b.only w fw hb hcw
      · rw [hb] at hcw; cases hcw

/-- the head blocks in an instruction on `g ≠ f`: `fiber->child = g` -/
theorem block (b : BCtx m p f cont s h fh rest) (c : Cont) {g : FId} (hgf : g ≠ f) :
    BCtx m p f cont (s.setFiber h { fh with ctl := .wait c, child := some g }) h { fh with ctl := .wait c, child := some g } rest :=
  b.ofTweak (Tweak.setFiber _ b.c.hfp rfl rfl rfl rfl) (Or.inr fun hh => hgf (Option.some.inj hh))

theorem refused (b : BCtx m p f cont s h fh rest) (g : FId) (v : Val) :
    G m p f cont (unwind s (h :: rest) g sigError v) :=
  unwind_blk b.acc _ _ b.c.hpo b.blk b.c.hs.1 sigError_lt

theorem enter (b : BCtx m p f cont s h fh rest) {g : FId} (fuel : Nat) (v : Val) (hgf : g ≠ f)
    (hnr : ∀ cur, s.fiber? g = some cur → refuseResume.contains cur.status = false) :
    G m p f cont (contNoCheck fuel s (h :: rest) g v) :=
  contNoCheck_G b.acc fuel s (h :: rest) g v b.c.hpo b.c.hs b.only b.hne b.hp b.hf hnr (Or.inl ⟨hgf, b.blk.shape⟩)

theorem mark (b : BCtx m p f cont s h fh rest) {d : FId} {fd : Fiber} (hd : s.fiber? d = some fd) (hdp : p ≠ d) :
    ∃ fh', BCtx m p f cont (s.setFiber d { fd with pending := some cancelSignal }) h fh' rest := by
  obtain ⟨k1, k2, k3, k4⟩ := Blk.parts_setFiber (cont := cont) { fd with pending := some cancelSignal } hd hdp rfl rfl rfl rfl b.hp b.hf b.only
  have hpo : PendOK (s.setFiber d { fd with pending := some cancelSignal }) :=
    b.c.hpo.setFiber d _ (fun sg hh => by cases hh; exact cancelSignal_lt)
  have hs := b.c.hs.setFiber_same { fd with pending := some cancelSignal } hd rfl
  obtain ⟨fh', hfh', _⟩ := hs.2 h List.mem_cons_self
  exact ⟨fh', ⟨b.c.hstk, hfh', hpo, hs⟩, ⟨k1, k2, b.blk.shape.imp (k4 _) id⟩, k3, b.hne, b.hhp, b.acc⟩

end BCtx

theorem G_stop (s : State) (h : Halt) (hd : h.isDone = false) : G m p f cont (s.stop h) := Or.inl (stuck_stop _ _ hd)

theorem InstrOut.toG {h : FId} {rest : List FId} {tv : Option Val} {hit : FId → Prop} {s : State} {fh : Fiber} {s' : State}
    (o : InstrOut h rest tv hit s fh s') (b : BCtx m p f cont s h fh rest) (hT : tv ≠ some (.fib f)) (hC : ¬ hit p) :
    G m p f cont s' := by
  have ne : ∀ {g}, tv = some (.fib g) → g ≠ f := fun htv hh => hT (hh ▸ htv)
  induction o with
  | done => exact b.toG
  | after t hch _ _ ih => exact ih (b.ofTweak t (Or.inl hch))
  | bind c v => exact b.bind _ c v rfl rfl rfl
  | raise ctl ch v hsig => exact b.raise _ v rfl rfl rfl hsig
  | stop _ _ h hd => exact G_stop _ h hd
  | @enter s fh c g fg bb fuel v htv hg hchk =>
    exact (b.block c (ne htv)).enter fuel v (ne htv) (resumable_setFiber { fh with ctl := .wait c, child := some g } b.c.hfp rfl (resumable_of_check hg hchk))
  | @enterMarked s fh c g d fg fd bb fuel v htv hg hchk hd hhit =>
    obtain ⟨fh', b'⟩ := (b.block c (ne htv)).mark hd (fun hh => hC (hh ▸ hhit))
    exact b'.enter fuel v (ne htv)
      (resumable_setFiber { fd with pending := some cancelSignal } hd rfl (resumable_setFiber { fh with ctl := .wait c, child := some g } b.c.hfp rfl (resumable_of_check hg hchk)))
  | refused c v htv => exact (b.block c (ne htv)).refused _ v

/-- the body fiber stays private to the macro during this step: nobody but `p` links to it, the instruction about to be
    executed does not name it as its fiber operand, and no `cancel` walk ends on `p` -/
def Priv (p f : FId) (s : State) : Prop :=
  Only p f s ∧
  ∀ h rest fh t, s.stack = h :: rest → s.fiber? h = some fh → fh.ctl = .run t →
    instrTarget s fh t ≠ some (.fib f) ∧ ¬ cancelHits p s h fh t

theorem BCtx.ofStep {s : State} {h : FId} {fh : Fiber} {rest : List FId} {t : Tm} (hm : AccFin m) (hinv : Inv s) (hne : p ≠ f)
    (hb : Blk m p f cont s s.stack) (ho : Only p f s) (hh : s.halt = none) (hstk : s.stack = h :: rest) (hfh : s.fiber? h = some fh)
    (hctl : fh.ctl = .run t) : BCtx m p f cont s h fh rest := by
  refine ⟨⟨hstk, hfh, hinv.1, hstk ▸ hinv.2 hh⟩, hstk ▸ hb, ho, hne, ?_, hm⟩
  intro hph; subst hph
  obtain ⟨fp, h1, h2⟩ := hb.par
  rw [hfh] at h1; cases h1; rw [h2.1] at hctl; cases hctl

/-- one step of the machine, whatever it is: from "blocked, body not exited" to stuck / exited (cleanup is next) /
    passed / still blocked with the body not exited -/
theorem step_G (hm : AccFin m) (s : State) (hinv : Inv s) (hne : p ≠ f) (hb : Blk m p f cont s s.stack) (hpriv : Priv p f s) :
    G m p f cont (step s) := by
  rcases step_cases s with he | ⟨why, he⟩ | ⟨h, rest, fh, t, hh, hstk, hfh, hctl⟩
  · rw [he]; exact Or.inr (Or.inr hb)
  · rw [he]; exact G_stop _ _ rfl
  · obtain ⟨hT, hC⟩ := hpriv.2 h rest fh t hstk hfh hctl
    exact (step_out hh hstk hfh hctl).toG (BCtx.ofStep hm hinv hne hb hpriv.1 hh hstk hfh hctl) hT hC

theorem blocked_until_exit_seq (σ : Nat → State) (N : Nat) (h0 : Inv (σ 0)) (hb : Blk m p f cont (σ 0) (σ 0).stack)
    (hstep : ∀ k, k < N → Inv (σ k) → Blk m p f cont (σ k) (σ k).stack → Inv (σ (k + 1)) ∧ G m p f cont (σ (k + 1))) :
    Blk m p f cont (σ N) (σ N).stack ∨
    ∃ k, 0 < k ∧ k ≤ N ∧ (∀ j, j < k → Blk m p f cont (σ j) (σ j).stack) ∧ Inv (σ k) ∧
      (Stuck (σ k) ∨ Exited p f cont (σ k) ∨ Passed m p f cont (σ k)) := by
  have key : ∀ n, n ≤ N → (Inv (σ n) ∧ ∀ j, j ≤ n → Blk m p f cont (σ j) (σ j).stack) ∨
      ∃ k, 0 < k ∧ k ≤ n ∧ (∀ j, j < k → Blk m p f cont (σ j) (σ j).stack) ∧ Inv (σ k) ∧
        (Stuck (σ k) ∨ Exited p f cont (σ k) ∨ Passed m p f cont (σ k)) := by
    intro n
    induction n with
    | zero => intro _; exact Or.inl ⟨h0, fun j hj => Nat.le_zero.mp hj ▸ hb⟩
    | succ n ih =>
      intro hn
      rcases ih (by omega) with ⟨hi, hall⟩ | ⟨k, hk0, hk, hbefore, hat⟩
      · obtain ⟨hi', hg⟩ := hstep n (by omega) hi (hall n (Nat.le_refl n))
        have before : ∀ j, j < n + 1 → Blk m p f cont (σ j) (σ j).stack := fun j hj => hall j (by omega)
        rcases hg with hs | he | hblk
        · exact Or.inr ⟨n + 1, by omega, Nat.le_refl _, before, hi', Or.inl hs⟩
        · exact Or.inr ⟨n + 1, by omega, Nat.le_refl _, before, hi', Or.inr he⟩
        · refine Or.inl ⟨hi', fun j hj => ?_⟩
          rcases Nat.lt_or_eq_of_le hj with h | h
          · exact before j h
          · exact h ▸ hblk
      · exact Or.inr ⟨k, hk0, by omega, hbefore, hat⟩
  rcases key N (Nat.le_refl N) with ⟨_, hall⟩ | h
  · exact Or.inl (hall N (Nat.le_refl N))
  · exact Or.inr h

end
end JanetModel.Fiber
