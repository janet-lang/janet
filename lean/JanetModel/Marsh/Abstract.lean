/-
Model of the abstract-type hook protocol of marsh.c: what a `JanetAbstractType.marshal` hook can do through its
`JanetMarshalContext` (`janet_marshal_int`, `_int64` / `_size`, `_byte`, `_bytes`, `_janet`, and exactly one
`janet_marshal_abstract` = MARK_SEEN), and what the matching `unmarshal` hook can do (`janet_unmarshal_int`, `_int64` /
`_size`, `_byte`, `_bytes`, `_janet`, exactly one `janet_unmarshal_abstract` = push on `st->lookup`).  Core Lean only.

  * the marshal hook is described by the items it emits before and after `janet_marshal_abstract` (`pre`, `post`);
  * the unmarshal hook is a *program* `Prog`: a tree whose nodes are the context calls and whose branches are the values
    read (so a hook may decide what to read next from what it has read: a count followed by that many values, …);
  * `readPre` / `readPost` interpret a program on the wire with the same readers as Code.lean; `janet_unmarshal_abstract`
    not called, or called twice, is a panic, as in `unmarshal_one_abstract` / `janet_unmarshal_abstract_reuse`.
The three hooks shipped with the core that the property names are given as instances: boxed 64-bit integers
(`janet_int64_marshal` / `janet_int64_unmarshal`, inttypes.c), channels (`janet_chanat_marshal` / `_unmarshal`, ev.c) and
compiled PEGs (`peg_marshal` / `peg_unmarshal`, peg.c).
Not modelled: the dispatch on the type name (`janet_get_abstract_type`), threaded abstracts in unsafe mode.
-/
import JanetModel.Marsh.Code

namespace JanetModel.Marsh

/-- the bytes one call appends; `g` = `marshal_one(st, x, ctx->flags + 1)` -/
def W.item (g : Val → W) : AItem → W
  | .int i => W.int i
  | .i64 u => W.ret (push64 u)
  | .byte b => W.ret [b]
  | .bytes bs => W.ret bs
  | .janet v => g v

/-- a marshal hook: calls before `janet_marshal_abstract`, MARK_SEEN, calls after -/
def marshalHook (g : Val → W) (id : Nat) (pre post : List AItem) : W :=
  W.seq (W.list (W.item g) pre) (W.seq (W.markObj id) (W.list (W.item g) post))

/-- an unmarshal hook as a program over the context calls -/
inductive Prog where
  | done                                        -- return the abstract
  | fail                                        -- janet_panic inside the hook
  | alloc (k : Prog)                            -- janet_unmarshal_abstract
  | int (k : Int → Prog)                        -- janet_unmarshal_int
  | i64 (k : Nat → Prog)                        -- janet_unmarshal_int64 / _size
  | byte (k : Nat → Prog)                       -- janet_unmarshal_byte
  | bytes (n : Nat) (k : List Nat → Prog)       -- janet_unmarshal_bytes(ctx, dest, n)
  | janet (k : Val → Prog)                      -- janet_unmarshal_janet

/-- `read64` -/
def R.i64 : R Nat := fun _ data =>
  match read64 data with
  | none => none
  | some (u, rest) => some (u, rest, Out.empty)

/-- `janet_unmarshal_byte` -/
def R.byte : R Nat := fun _ data =>
  match data with
  | [] => none
  | b :: rest => some (b, rest, Out.empty)

/-- the hook after `janet_unmarshal_abstract`: the items it reads until it returns -/
def readPost (g : R Val) : Prog → R (List AItem)
  | .done => R.pure []
  | .fail => R.fail
  | .alloc _ => R.fail                          -- "janet_unmarshal_abstract called more than once"
  | .int k => R.bind R.int fun i => R.map (readPost g (k i)) fun r => AItem.int i :: r
  | .i64 k => R.bind R.i64 fun u => R.map (readPost g (k u)) fun r => AItem.i64 u :: r
  | .byte k => R.bind R.byte fun b => R.map (readPost g (k b)) fun r => AItem.byte b :: r
  | .bytes n k => R.bind (R.take n) fun bs => R.map (readPost g (k bs)) fun r => AItem.bytes bs :: r
  | .janet k => R.bind g fun v => R.map (readPost g (k v)) fun r => AItem.janet v :: r

/-- the hook up to `janet_unmarshal_abstract`: the items read so far and the rest of the program -/
def readPre (g : R Val) : Prog → R (List AItem × Prog)
  | .done => R.fail                             -- "janet_unmarshal_abstract not called"
  | .fail => R.fail
  | .alloc k => R.pure ([], k)
  | .int k => R.bind R.int fun i => R.map (readPre g (k i)) fun p => (AItem.int i :: p.1, p.2)
  | .i64 k => R.bind R.i64 fun u => R.map (readPre g (k u)) fun p => (AItem.i64 u :: p.1, p.2)
  | .byte k => R.bind R.byte fun b => R.map (readPre g (k b)) fun p => (AItem.byte b :: p.1, p.2)
  | .bytes n k => R.bind (R.take n) fun bs => R.map (readPre g (k bs)) fun p => (AItem.bytes bs :: p.1, p.2)
  | .janet k => R.bind g fun v => R.map (readPre g (k v)) fun p => (AItem.janet v :: p.1, p.2)

/-- the new abstract is pushed on `st->lookup` between the two phases: objects created by `pre` get smaller reference
numbers, objects created by `post` larger ones -/
def R.midObj {α β : Type} (r1 : R α) (r2 : α → R β) (mk : α → β → CObj) : R Val := fun c data =>
  match r1 c data with
  | none => none
  | some (a, rest, o1) =>
    let c1 := c.add o1
    match r2 a { c1 with n := c1.n + 1 } rest with
    | none => none
    | some (b, rest', o2) =>
      some (.ref c1.n, rest', ⟨o1.objs ++ mk a b :: o2.objs, o1.defs ++ o2.defs, o1.envs ++ o2.envs⟩)

/-- running an unmarshal hook; `mk` is how the description records an abstract (`pre` and `post` items) -/
def unmarshalHook (g : R Val) (prog : Prog) (mk : List AItem → List AItem → CObj) : R Val :=
  R.midObj (readPre g prog) (fun p => readPost g p.2) (fun p post => mk p.1 post)

/-! ### does the program read exactly these items?  (pure: no wire involved) -/

/-- the program, fed the items one by one, asks for exactly their kinds (byte strings of the right length) and then returns -/
def acceptsPost : Prog → List AItem → Bool
  | .done, [] => true
  | .int k, .int i :: rest => acceptsPost (k i) rest
  | .i64 k, .i64 u :: rest => acceptsPost (k u) rest
  | .byte k, .byte b :: rest => acceptsPost (k b) rest
  | .bytes n k, .bytes bs :: rest => n == bs.length && acceptsPost (k bs) rest
  | .janet k, .janet v :: rest => acceptsPost (k v) rest
  | _, _ => false

/-- … up to `janet_unmarshal_abstract`, leaving the rest of the program -/
def acceptsPre : Prog → List AItem → Option Prog
  | .alloc k, [] => some k
  | .int k, .int i :: rest => acceptsPre (k i) rest
  | .i64 k, .i64 u :: rest => acceptsPre (k u) rest
  | .byte k, .byte b :: rest => acceptsPre (k b) rest
  | .bytes n k, .bytes bs :: rest => if n = bs.length then acceptsPre (k bs) rest else none
  | .janet k, .janet v :: rest => acceptsPre (k v) rest
  | _, _ => none

/-- a marshal hook (its items) and an unmarshal hook (its program) fit together -/
def WellPaired (prog : Prog) (pre post : List AItem) : Prop :=
  ∃ k, acceptsPre prog pre = some k ∧ acceptsPost k post = true

/-! ### the hooks of the core named by the property -/

/-- `janet_int64_marshal`: `janet_marshal_abstract(ctx, p); janet_marshal_int64(ctx, *(int64_t *)p)` -/
def int64Items (u : Nat) : List AItem × List AItem := ([], [.i64 u])

/-- `janet_int64_unmarshal` / `janet_uint64_unmarshal`: `p = janet_unmarshal_abstract(ctx, 8); *p = janet_unmarshal_int64(ctx)` -/
def int64Prog : Prog := .alloc (.i64 fun _ => .done)

/-- `count` calls of `janet_unmarshal_janet` -/
def janetN : Nat → Prog → Prog
  | 0, k => k
  | n + 1, k => .janet fun _ => janetN n k

/-- `janet_chanat_marshal`: byte is_threaded; janet_marshal_abstract; byte closed; int limit; int count; the queued items from
head to tail -/
def chanItems (threaded closed : Nat) (limit : Int) (items : List Val) : List AItem × List AItem :=
  ([.byte threaded], [.byte closed, .int limit, .int items.length] ++ items.map .janet)

/-- `janet_chanat_unmarshal`: byte is_threaded; janet_unmarshal_abstract(_threaded); byte closed; int limit; int count
(negative panics); `count` items pushed on the queue -/
def chanProg : Prog :=
  .byte fun _ => .alloc (.byte fun _ => .int fun _ => .int fun count =>
    if count < 0 then .fail else janetN count.toNat .done)

/-- `n` calls of `janet_unmarshal_int` -/
def intN : Nat → Prog → Prog
  | 0, k => k
  | n + 1, k => .int fun _ => intN n k

/-- `peg_marshal` (peg.c): size bytecode_len; int num_constants; janet_marshal_abstract; every bytecode word as an int (its
int32 view); every constant -/
def pegItems (bytecode : List Int) (constants : List Val) : List AItem × List AItem :=
  ([.i64 bytecode.length, .int constants.length], bytecode.map .int ++ constants.map .janet)

/-- the reading part of `peg_unmarshal`: size, int (as uint32: a negative count is "invalid peg size", as is a length above
INT32_MAX), janet_unmarshal_abstract, `bytecode_len` ints, `num_constants` values.  The `janet_unmarshal_ensure` pre-check and
the verification of the bytecode that follows the reads are not part of the protocol model (C10 / C12). -/
def pegProg : Prog :=
  .i64 fun len => .int fun k =>
    if len > 2147483647 ∨ k < 0 then .fail else .alloc (intN len (janetN k.toNat .done))

/-! ### shape of a hook, for comparison with the call sequence extracted from the C source -/

def itemKind : AItem → String
  | .int _ => "int"
  | .i64 _ => "int64"
  | .byte _ => "byte"
  | .bytes _ => "bytes"
  | .janet _ => "janet"

/-- the context calls of a marshal hook, in order -/
def hookCalls (p : List AItem × List AItem) : List String := p.1.map itemKind ++ ["abstract"] ++ p.2.map itemKind

/-- the context calls of an unmarshal hook when every integer read returns 1, every byte 0, every value nil -/
def progCalls : Prog → List String
  | .done => []
  | .fail => ["panic"]
  | .alloc k => "abstract" :: progCalls k
  | .int k => "int" :: progCalls (k 1)
  | .i64 k => "int64" :: progCalls (k 1)
  | .byte k => "byte" :: progCalls (k 0)
  | .bytes _ k => "bytes" :: progCalls (k [])
  | .janet k => "janet" :: progCalls (k .nil)

/-- the `janet_marshal_janet` call sites of one loop nest count once -/
def squeeze : List String → List String
  | a :: b :: rest => if a = "janet" ∧ b = "janet" then squeeze (b :: rest) else a :: squeeze (b :: rest)
  | l => l

end JanetModel.Marsh
