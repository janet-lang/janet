/-
Pairing lemmas for the writer / reader combinators of Marsh/Code.lean (and `R.midObj` of Abstract.lean): a writer `w` and a reader `r` are `Paired` for
a value `a` when, from any counters `c` inside the tables, everything `w` emits is read back by `r` (whatever follows in the
buffer) as `a`, and `r` appends to the lookup tables exactly the table entries that `w` numbered.
-/
import JanetModel.Marsh.Abstract
import JanetModel.Marsh.GraphLemmas

namespace JanetModel.Marsh
open JanetModel.Gen.Marsh JanetModel.Gen.MarshCode

def Heap.size (T : Heap) : Ct := ⟨T.objs.length, T.defs.length, T.envs.length⟩

def Ct.le (a b : Ct) : Prop := a.n ≤ b.n ∧ a.d ≤ b.d ∧ a.e ≤ b.e
instance : LE Ct := ⟨Ct.le⟩

theorem Ct.le_def (a b : Ct) : a ≤ b ↔ a.n ≤ b.n ∧ a.d ≤ b.d ∧ a.e ≤ b.e := Iff.rfl
theorem Ct.le_refl (a : Ct) : a ≤ a := ⟨Nat.le_refl _, Nat.le_refl _, Nat.le_refl _⟩
theorem Ct.le_trans {a b c : Ct} (h1 : a ≤ b) (h2 : b ≤ c) : a ≤ c :=
  ⟨Nat.le_trans h1.1 h2.1, Nat.le_trans h1.2.1 h2.2.1, Nat.le_trans h1.2.2 h2.2.2⟩

/-- the table entries numbered between two counter states -/
def Heap.slice (T : Heap) (a b : Ct) : Out := ⟨slc T.objs a.n b.n, slc T.defs a.d b.d, slc T.envs a.e b.e⟩

theorem Heap.slice_self (T : Heap) (c : Ct) : T.slice c c = Out.empty := by
  simp [Heap.slice, slc_self, Out.empty]

theorem Heap.slice_append (T : Heap) (a b c : Ct) (h1 : a ≤ b) (h2 : b ≤ c) :
    (T.slice a b).append (T.slice b c) = T.slice a c := by
  simp only [Heap.slice, Out.append]
  rw [slc_append _ _ _ _ h1.1 h2.1, slc_append _ _ _ _ h1.2.1 h2.2.1, slc_append _ _ _ _ h1.2.2 h2.2.2]

theorem Ct.add_slice (T : Heap) (a b : Ct) (h1 : a ≤ b) (h2 : b ≤ T.size) : a.add (T.slice a b) = b := by
  obtain ⟨h11, h12, h13⟩ := h1
  obtain ⟨h21, h22, h23⟩ := h2
  simp only [Heap.size] at h21 h22 h23
  cases b with
  | mk bn bd be =>
    simp only [Ct.add, Heap.slice] at *
    rw [slc_length _ _ _ h21, slc_length _ _ _ h22, slc_length _ _ _ h23]
    congr 1 <;> omega

theorem Ct.add_empty (c : Ct) : c.add Out.empty = c := by
  cases c; simp [Ct.add, Out.empty]

theorem Out.empty_append (o : Out) : Out.empty.append o = o := by cases o; simp [Out.empty, Out.append]
theorem Out.append_empty (o : Out) : o.append Out.empty = o := by cases o; simp [Out.empty, Out.append]

def Paired {α : Type} (T : Heap) (w : W) (r : R α) (a : α) : Prop :=
  ∀ (c : Ct) (bs : List Nat) (c' : Ct) (tl : List Nat), c ≤ T.size → w c = some (bs, c') →
    c ≤ c' ∧ c' ≤ T.size ∧ r c (bs ++ tl) = some (a, tl, T.slice c c')

/-- a reader that consumes exactly `bs`, touches no table, and returns `a` -/
def Reads {α : Type} (r : R α) (bs : List Nat) (a : α) : Prop :=
  ∀ (c : Ct) (tl : List Nat), r c (bs ++ tl) = some (a, tl, Out.empty)

theorem W.seq_some {a b : W} {c : Ct} {bs : List Nat} {c' : Ct} (h : W.seq a b c = some (bs, c')) :
    ∃ b1 c1 b2, a c = some (b1, c1) ∧ b c1 = some (b2, c') ∧ bs = b1 ++ b2 := by
  unfold W.seq at h
  cases ha : a c with
  | none => simp [ha] at h
  | some r1 =>
    obtain ⟨b1, c1⟩ := r1
    simp only [ha] at h
    cases hb : b c1 with
    | none => simp [hb] at h
    | some r2 =>
      obtain ⟨b2, c2⟩ := r2
      simp only [hb, Option.some.injEq, Prod.mk.injEq] at h
      exact ⟨b1, c1, b2, rfl, by rw [← h.2]; exact hb, h.1.symm⟩

theorem Paired.seq_bind {α β : Type} {T : Heap} {w1 w2 : W} {r1 : R α} {f : α → R β} {a : α} {b : β}
    (h1 : Paired T w1 r1 a) (h2 : Paired T w2 (f a) b) : Paired T (W.seq w1 w2) (R.bind r1 f) b := by
  intro c bs c' tl hc hw
  obtain ⟨b1, c1, b2, ha, hb, rfl⟩ := W.seq_some hw
  obtain ⟨k1, k2, k3⟩ := h1 c b1 c1 (b2 ++ tl) hc ha
  obtain ⟨m1, m2, m3⟩ := h2 c1 b2 c' tl k2 hb
  refine ⟨Ct.le_trans k1 m1, m2, ?_⟩
  simp only [R.bind, List.append_assoc, k3, Ct.add_slice T c c1 k1 k2, m3, Heap.slice_append T c c1 c' k1 m1]

theorem Paired.of_reads {α : Type} {T : Heap} {r : R α} {bs : List Nat} {a : α} (h : Reads r bs a) :
    Paired T (W.ret bs) r a := by
  intro c bs' c' tl hc hw
  simp only [W.ret, Option.some.injEq, Prod.mk.injEq] at hw
  obtain ⟨rfl, rfl⟩ := hw
  exact ⟨Ct.le_refl _, hc, by rw [h c tl, Heap.slice_self]⟩

theorem W.ret_append_seq (b1 b2 : List Nat) (w : W) :
    W.seq (W.ret (b1 ++ b2)) w = W.seq (W.ret b1) (W.seq (W.ret b2) w) := by
  funext c
  simp only [W.seq, W.ret]
  cases w c with
  | none => rfl
  | some r => obtain ⟨b, c2⟩ := r; simp

theorem W.ret_nil_seq (w : W) : W.seq (W.ret []) w = w := by
  funext c
  simp only [W.seq, W.ret]
  cases w c with
  | none => rfl
  | some r => obtain ⟨b, c2⟩ := r; simp

theorem W.seq_ret_nil (w : W) : W.seq w (W.ret []) = w := by
  funext c
  simp only [W.seq, W.ret]
  cases w c with
  | none => rfl
  | some r => obtain ⟨b, c2⟩ := r; simp

theorem Paired.prefix {α β : Type} {T : Heap} {w : W} {r1 : R α} {f : α → R β} {b1 : List Nat} {a : α} {b : β}
    (h1 : Reads r1 b1 a) (h2 : Paired T w (f a) b) : Paired T (W.seq (W.ret b1) w) (R.bind r1 f) b :=
  Paired.seq_bind (Paired.of_reads h1) h2

theorem Paired.skip {α β : Type} {T : Heap} {w : W} {r1 : R α} {f : α → R β} {a : α} {b : β}
    (h1 : Reads r1 [] a) (h2 : Paired T w (f a) b) : Paired T w (R.bind r1 f) b := by
  have := Paired.prefix (T := T) h1 h2
  rwa [W.ret_nil_seq] at this

theorem Paired.bind_tail {α β : Type} {T : Heap} {w : W} {r : R α} {f : α → R β} {a : α} {b : β}
    (h1 : Paired T w r a) (h2 : Reads (f a) [] b) : Paired T w (R.bind r f) b := by
  have := Paired.seq_bind h1 (Paired.of_reads (T := T) h2)
  rwa [W.seq_ret_nil] at this

theorem Paired.map {α β : Type} {T : Heap} {w : W} {r : R α} {a : α} (f : α → β) (h : Paired T w r a) :
    Paired T w (R.map r f) (f a) := by
  intro c bs c' tl hc hw
  obtain ⟨k1, k2, k3⟩ := h c bs c' tl hc hw
  exact ⟨k1, k2, by simp [R.map, k3]⟩

theorem Paired.congr {α : Type} {T : Heap} {w : W} {r r' : R α} {a : α} (h : Paired T w r a) (e : ∀ c d, r' c d = r c d) :
    Paired T w r' a := by
  intro c bs c' tl hc hw
  obtain ⟨k1, k2, k3⟩ := h c bs c' tl hc hw
  exact ⟨k1, k2, by rw [e, k3]⟩

theorem Reads.pure {α : Type} (a : α) : Reads (R.pure a) [] a := by
  intro c tl; simp [R.pure]

theorem Reads.guard (b : Bool) (h : b = true) : Reads (R.guard b) [] () := by
  intro c tl; simp [R.guard, h, R.pure]

theorem Reads.int (i : Int) (h : Int32 i) : Reads R.int (pushint i) i := by
  intro c tl
  simp [R.int, readint_pushint i tl h.1 h.2]

theorem Reads.nat (k : Nat) (h : k < 2147483648) : Reads R.nat (pushint (k : Int)) k := by
  intro c tl
  simp [R.nat, readnat_pushint k tl h]

theorem Reads.take (bs : List Nat) : Reads (R.take bs.length) bs bs := by
  intro c tl
  simp [R.take]

theorem Reads.bind {α β : Type} {r1 : R α} {f : α → R β} {b1 b2 : List Nat} {a : α} {b : β}
    (h1 : Reads r1 b1 a) (h2 : Reads (f a) b2 b) : Reads (R.bind r1 f) (b1 ++ b2) b := by
  intro c tl
  simp only [R.bind, List.append_assoc, h1 c (b2 ++ tl), Ct.add_empty, h2 c tl, Out.empty_append]

theorem Reads.map {α β : Type} {r : R α} {bs : List Nat} {a : α} (f : α → β) (h : Reads r bs a) : Reads (R.map r f) bs (f a) := by
  intro c tl
  simp [R.map, h c tl]

theorem Reads.bind_eq {α β : Type} {r : R α} {bs : List Nat} {a : α} (h : Reads r bs a) (f : α → R β) (c : Ct) (tl : List Nat) :
    R.bind r f c (bs ++ tl) = f a c tl := by
  simp only [R.bind, h c tl, Ct.add_empty]
  cases f a c tl with
  | none => rfl
  | some p => obtain ⟨b, rest, o⟩ := p; simp only [Out.empty_append]

theorem R.dos_bind {β : Type} {len : Nat} {data : List Nat} (h : len ≤ data.length) (f : Unit → R β) (c : Ct) :
    R.bind (R.dos len) f c data = f () c data := by
  simp only [R.bind, R.dos, if_neg (Nat.not_lt.2 h), Ct.add_empty]
  cases f () c data with
  | none => rfl
  | some p => obtain ⟨b, rest, o⟩ := p; simp only [Out.empty_append]

theorem Paired.list {α : Type} {T : Heap} {g : α → W} {r : R α} :
    ∀ (xs : List α), (∀ x ∈ xs, Paired T (g x) r x) → Paired T (W.list g xs) (R.listN r xs.length) xs := by
  intro xs
  induction xs with
  | nil => intro _; exact Paired.of_reads (Reads.pure [])
  | cons x xs ih =>
    intro h
    simp only [W.list, List.length_cons, R.listN]
    refine Paired.seq_bind (h x (by simp)) ?_
    exact Paired.map (fun as => x :: as) (ih fun y hy => h y (by simp [hy]))

/-- a reader that accepts no empty input forces its writer to emit at least one byte, so the loop emits at least as many bytes
    as it has items (what the length test in front of a children loop asks for) -/
theorem Paired.list_length {α : Type} {T : Heap} {g : α → W} {r : R α} (hr : ∀ c, r c [] = none) :
    ∀ (xs : List α), (∀ x ∈ xs, Paired T (g x) r x) → ∀ c bs c', c ≤ T.size → W.list g xs c = some (bs, c') →
      xs.length ≤ bs.length := by
  intro xs
  induction xs with
  | nil => intro _ c bs c' _ _; simp
  | cons x xs ih =>
    intro h c bs c' hc hw
    obtain ⟨b1, c1, b2, ha, hb, rfl⟩ := W.seq_some hw
    obtain ⟨_, k2, k3⟩ := h x (by simp) c b1 c1 [] hc ha
    have := ih (fun y hy => h y (by simp [hy])) c1 b2 c' k2 hb
    cases b1 with
    | nil => rw [List.append_nil, hr] at k3; cases k3
    | cons _ _ => simp only [List.length_cons, List.length_append]; omega

theorem Paired.lead {α : Type} {T : Heap} {w : W} {r rb : R α} {a : α} (lead : Nat)
    (e : ∀ c rest, r c (lead :: rest) = rb c rest) (h : Paired T w rb a) : Paired T (W.lead lead w) r a := by
  intro c bs c' tl hc hw
  unfold W.lead at hw
  cases hw' : w c with
  | none => simp [hw'] at hw
  | some p =>
    obtain ⟨b, c2⟩ := p
    simp only [hw', Option.some.injEq, Prod.mk.injEq] at hw
    obtain ⟨rfl, rfl⟩ := hw
    obtain ⟨k1, k2, k3⟩ := h c b c2 tl hc hw'
    exact ⟨k1, k2, by rw [List.cons_append, e, k3]⟩

/-- the three numbering steps `W.markObj`, `W.markDef`, `W.markEnv` have this form -/
theorem mark_some {id k : Nat} {c0 : Ct} {bs : List Nat} {c' : Ct}
    (h : (if id = k then some (([] : List Nat), c0) else none) = some (bs, c')) : id = k ∧ bs = [] ∧ c' = c0 := by
  by_cases e : id = k
  · simp only [e, if_true, Option.some.injEq, Prod.mk.injEq] at h
    exact ⟨e, h.1.symm, h.2.symm⟩
  · simp [e] at h

theorem W.markObj_some {id : Nat} {c : Ct} {bs : List Nat} {c' : Ct} (h : W.markObj id c = some (bs, c')) :
    id = c.n ∧ bs = [] ∧ c' = { c with n := c.n + 1 } :=
  mark_some h

/-- the new object is numbered between two parts of it (an abstract: between the two phases of its hook) -/
theorem Paired.midObj {α β : Type} {T : Heap} {w1 w2 : W} {r1 : R α} {r2 : α → R β} {a : α} {b : β}
    {mk : α → β → CObj} {id : Nat} (ho : T.objs[id]? = some (mk a b)) (h1 : Paired T w1 r1 a) (h2 : Paired T w2 (r2 a) b) :
    Paired T (W.seq w1 (W.seq (W.markObj id) w2)) (R.midObj r1 r2 mk) (.ref id) := by
  intro c bs c' tl hc hw
  obtain ⟨b1, c1, b23, ha, hb, rfl⟩ := W.seq_some hw
  obtain ⟨b2, c2, b3, hm, hw2, rfl⟩ := W.seq_some hb
  obtain ⟨rfl, rfl, rfl⟩ := W.markObj_some hm
  obtain ⟨k1, k2, k3⟩ := h1 c b1 c1 (b3 ++ tl) hc ha
  have hlt := getElem?_lt _ _ _ ho
  have hc2 : ({ c1 with n := c1.n + 1 } : Ct) ≤ T.size := ⟨hlt, k2.2.1, k2.2.2⟩
  obtain ⟨m1, m2, m3⟩ := h2 _ b3 c' tl hc2 hw2
  refine ⟨⟨by have := k1.1; have := m1.1; simp at this; omega, Nat.le_trans k1.2.1 m1.2.1, Nat.le_trans k1.2.2 m1.2.2⟩, m2, ?_⟩
  have e1 : b1 ++ ([] ++ b3) ++ tl = b1 ++ (b3 ++ tl) := by simp
  simp only [R.midObj, e1, k3]
  rw [Ct.add_slice T c c1 k1 k2]
  simp only [m3, Heap.slice]
  have hn : c1.n + 1 ≤ c'.n := by have := m1.1; simpa using this
  have s1 := slc_cons T.objs c1.n c'.n (mk a b) ho hn
  have s2 := slc_append T.objs c.n c1.n c'.n k1.1 (by omega)
  have s3 := slc_append T.defs c.d c1.d c'.d k1.2.1 m1.2.1
  have s4 := slc_append T.envs c.e c1.e c'.e k1.2.2 m1.2.2
  simp [s1, s2, s3, s4]

/-- numbering before everything, or after everything, is numbering between two parts one of which is empty -/
theorem R.preObj_eq {α : Type} (r : R α) (mk : α → CObj) :
    R.preObj r mk = R.midObj (R.pure ()) (fun _ => r) (fun _ => mk) := by
  funext c data
  simp only [R.preObj, R.midObj, R.pure, Ct.add_empty]
  cases r _ data <;> simp [Out.empty]

theorem R.postObj_eq {α : Type} (r : R α) (mk : α → CObj) :
    R.postObj r mk = R.midObj r (fun _ => R.pure ()) (fun a _ => mk a) := by
  funext c data
  simp only [R.postObj, R.midObj, R.pure]
  cases r c data <;> simp [Out.empty, Ct.add]

theorem Paired.preObj {α : Type} {T : Heap} {w : W} {r : R α} {a : α} {mk : α → CObj} {id : Nat}
    (ho : T.objs[id]? = some (mk a)) (h : Paired T w r a) :
    Paired T (W.seq (W.markObj id) w) (R.preObj r mk) (.ref id) := by
  have := Paired.midObj (r2 := fun _ => r) (mk := fun _ => mk) (b := a) ho (Paired.of_reads (Reads.pure ())) h
  rwa [W.ret_nil_seq, ← R.preObj_eq] at this

theorem Paired.postObj {α : Type} {T : Heap} {w : W} {r : R α} {a : α} {mk : α → CObj} {id : Nat}
    (ho : T.objs[id]? = some (mk a)) (h : Paired T w r a) :
    Paired T (W.seq w (W.markObj id)) (R.postObj r mk) (.ref id) := by
  have := Paired.midObj (r2 := fun _ => R.pure ()) (mk := fun a _ => mk a) (b := ()) ho h (Paired.of_reads (Reads.pure ()))
  rwa [W.seq_ret_nil, ← R.postObj_eq] at this

theorem Paired.wrapObj {α : Type} {T : Heap} {w : W} {r : R α} {a : α} {mk : α → CObj} {id : Nat} (pre : Bool)
    (ho : T.objs[id]? = some (mk a)) (h : Paired T w r a) :
    Paired T (W.wrapMark pre id w) (R.wrapObj pre r mk) (.ref id) := by
  cases pre
  · simpa [W.wrapMark, R.wrapObj] using Paired.postObj ho h
  · simpa [W.wrapMark, R.wrapObj] using Paired.preObj ho h

theorem W.markDef_some {id : Nat} {c : Ct} {bs : List Nat} {c' : Ct} (h : W.markDef id c = some (bs, c')) :
    id = c.d ∧ bs = [] ∧ c' = { c with d := c.d + 1 } :=
  mark_some h

theorem Paired.preDef {T : Heap} {w : W} {r : R Def} {df : Def} {di : Nat}
    (ho : T.defs[di]? = some df) (h : Paired T w r df) :
    Paired T (W.seq (W.markDef di) w) (R.preDef r) di := by
  intro c bs c' tl hc hw
  obtain ⟨b1, c1, b2, ha, hb, rfl⟩ := W.seq_some hw
  obtain ⟨rfl, rfl, rfl⟩ := W.markDef_some ha
  have hlt := getElem?_lt _ _ _ ho
  have hc1 : ({ c with d := c.d + 1 } : Ct) ≤ T.size := ⟨hc.1, hlt, hc.2.2⟩
  obtain ⟨k1, k2, k3⟩ := h _ b2 c' tl hc1 hb
  refine ⟨⟨k1.1, by have := k1.2.1; simp at this; omega, k1.2.2⟩, k2, ?_⟩
  simp only [R.preDef, List.nil_append, k3, Heap.slice]
  have := slc_cons T.defs c.d c'.d df ho (by have := k1.2.1; simpa using this)
  simp [this]

theorem W.markEnv_some {id : Nat} {c : Ct} {bs : List Nat} {c' : Ct} (h : W.markEnv id c = some (bs, c')) :
    id = c.e ∧ bs = [] ∧ c' = { c with e := c.e + 1 } :=
  mark_some h

theorem Paired.preEnv {T : Heap} {w : W} {r : R Env} {ev : Env} {ei : Nat}
    (ho : T.envs[ei]? = some ev) (h : Paired T w r ev) :
    Paired T (W.seq (W.markEnv ei) w) (R.preEnv r) ei := by
  intro c bs c' tl hc hw
  obtain ⟨b1, c1, b2, ha, hb, rfl⟩ := W.seq_some hw
  obtain ⟨rfl, rfl, rfl⟩ := W.markEnv_some ha
  have hlt := getElem?_lt _ _ _ ho
  have hc1 : ({ c with e := c.e + 1 } : Ct) ≤ T.size := ⟨hc.1, hc.2.1, hlt⟩
  obtain ⟨k1, k2, k3⟩ := h _ b2 c' tl hc1 hb
  refine ⟨⟨k1.1, k1.2.1, by have := k1.2.2; simp at this; omega⟩, k2, ?_⟩
  simp only [R.preEnv, List.nil_append, k3, Heap.slice]
  have := slc_cons T.envs c.e c'.e ev ho (by have := k1.2.2; simpa using this)
  simp [this]

theorem W.seq_assoc (a b c : W) : W.seq (W.seq a b) c = W.seq a (W.seq b c) := by
  funext x
  simp only [W.seq]
  cases a x with
  | none => rfl
  | some r1 =>
    obtain ⟨b1, c1⟩ := r1
    simp only []
    cases b c1 with
    | none => rfl
    | some r2 =>
      obtain ⟨b2, c2⟩ := r2
      simp only []
      cases c c2 with
      | none => rfl
      | some r3 => obtain ⟨b3, c3⟩ := r3; simp

theorem W.markObj_lead_comm (id lead : Nat) (w : W) :
    W.seq (W.markObj id) (W.lead lead w) = W.lead lead (W.seq (W.markObj id) w) := by
  funext c
  simp only [W.seq, W.lead, W.markObj]
  by_cases e : id = c.n
  · simp only [e, if_true]
    cases w { c with n := c.n + 1 } with
    | none => rfl
    | some r => obtain ⟨b, c2⟩ := r; simp
  · simp [e]

theorem Paired.value_eq {α : Type} {T : Heap} {w : W} {r : R α} {a b : α} (h : Paired T w r a) (e : a = b) : Paired T w r b := by
  subst e; exact h

theorem W.wrapMark_ret (pre : Bool) (id : Nat) (bs : List Nat) :
    W.wrapMark pre id (W.ret bs) = W.seq (W.markObj id) (W.ret bs) := by
  cases pre
  · funext c
    by_cases h : id = c.n <;> simp [W.wrapMark, W.seq, W.ret, W.markObj, h]
  · rfl

/-- `marshalC` on a data object that has no number yet, over the view of GraphLemmas.lean -/
theorem marshalC_obj (f : Nat) (T : Heap) (id : Nat) (o : Obj) (c : Ct) (ho : T.objs[id]? = some (.data o)) (hn : ¬ id < c.n) :
    marshalC (f + 1) T (.ref id) c =
      (W.wrapMark o.shape.pre id (W.list (fun v c => marshalC f T v c) o.shape.kids) c).map
        fun p => (o.shape.head ++ p.1, p.2) := by
  simp only [marshalC, if_neg hn, ho]
  cases o <;> simp only [Obj.shape, W.list, W.wrapMark_ret]
  case reg | real | str | buffer =>
    simp only [W.lead, W.seq, W.ret, W.markObj]
    by_cases e : id = c.n <;> simp [e]
  all_goals
    simp only [W.lead, W.seq, W.int, W.ret]
    cases W.wrapMark _ id _ c <;> simp

end JanetModel.Marsh
