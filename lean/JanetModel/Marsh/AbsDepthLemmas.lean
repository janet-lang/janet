/-
Depth symmetry along the abstract-hook path (Marsh/AbsDepth.lean).  Whether `marshalD` accepts a value at a depth budget, and
whether `unmarshalD` accepts the value's bytes, is one predicate of the increments, the budget and the value: `fits`.  It is
monotone in the budget and antitone in the increments, which is all the round trip, its converse and the symmetry need.
-/
import JanetModel.Marsh.AbsDepth

namespace JanetModel.Marsh.AbsDepth

mutual
/-- no stack check between a value visited at budget `f` and its leaves fails -/
def fits (p : Incs) : Nat → DV → Bool
  | 0, _ => false
  | _ + 1, .leaf => true
  | f + 1, .arr xs => fitsAll p f xs
  | f + 1, .abs xs => !decide (f + 1 ≤ p.nameTotal) && fitsAll p (f - p.itemExtra) xs
def fitsAll (p : Incs) : Nat → DVs → Bool
  | _, .nil => true
  | f, .cons x xs => fits p f x && fitsAll p f xs
end

mutual
theorem marshalD_eq (p : Incs) : ∀ (v : DV) (f : Nat), marshalD p f v = if fits p f v then some (enc v) else none
  | .leaf, 0 | .arr _, 0 | .abs _, 0 => rfl
  | .leaf, _ + 1 => rfl
  | .arr xs, f + 1 => by
    rw [marshalD, marshalDs_eq p xs f, fits, enc]
    cases fitsAll p f xs <;> rfl
  | .abs xs, f + 1 => by
    rw [marshalD, marshalDs_eq p xs, fits, enc]
    by_cases hc : f + 1 ≤ p.nameTotal
    · simp [hc]
    · cases fitsAll p (f - p.itemExtra) xs <;> simp [hc]
theorem marshalDs_eq (p : Incs) : ∀ (xs : DVs) (f : Nat), marshalDs p f xs = if fitsAll p f xs then some (encs xs) else none
  | .nil, _ => rfl
  | .cons x xs, f => by
    rw [marshalDs, marshalD_eq p x f, marshalDs_eq p xs f, fitsAll, encs]
    cases fits p f x <;> cases fitsAll p f xs <;> rfl
end

mutual
theorem unmarshalD_enc (p : Incs) : ∀ (v : DV) (f : Nat) (tl : List Tok),
    unmarshalD p f (enc v ++ tl) = if fits p f v then some (v, tl) else none
  | .leaf, 0, _ | .arr _, 0, _ | .abs _, 0, _ => by simp [unmarshalD, fits]
  | .leaf, _ + 1, _ => by simp [unmarshalD, fits, enc]
  | .arr xs, f + 1, tl => by
    simp only [enc, List.cons_append, unmarshalD, readN_encs p xs f tl, fits]
    by_cases h : fitsAll p f xs = true <;> simp [h]
  | .abs xs, f + 1, tl => by
    simp only [enc, List.cons_append, unmarshalD, readN_encs p xs _ tl, fits]
    by_cases hc : f + 1 ≤ p.nameTotal
    · simp [hc]
    · by_cases h : fitsAll p (f - p.itemExtra) xs = true <;> simp [hc, h]
theorem readN_encs (p : Incs) : ∀ (xs : DVs) (f : Nat) (tl : List Tok),
    readN (fun ts => unmarshalD p f ts) xs.length (encs xs ++ tl) = if fitsAll p f xs then some (xs, tl) else none
  | .nil, _, _ => rfl
  | .cons x xs, f, tl => by
    simp only [DVs.length, encs, List.append_assoc, readN, unmarshalD_enc p x f, fitsAll]
    by_cases h : fits p f x = true
    · simp only [h, if_true, readN_encs p xs f tl, Bool.true_and]
      by_cases h2 : fitsAll p f xs = true <;> simp [h2]
    · simp [h]
end

/- a larger budget and smaller increments leave more room -/
mutual
theorem fits_mono (p q : Incs) (hn : q.nameTotal ≤ p.nameTotal) (hi : q.itemExtra ≤ p.itemExtra) :
    ∀ (v : DV) (f g : Nat), f ≤ g → fits p f v = true → fits q g v = true
  | _, 0, _, _, h => by simp [fits] at h
  | _, _ + 1, 0, hle, _ => by omega
  | .leaf, _ + 1, _ + 1, _, _ => rfl
  | .arr xs, f + 1, g + 1, hle, h => by
    rw [fits] at h ⊢
    exact fitsAll_mono p q hn hi xs f g (by omega) h
  | .abs xs, f + 1, g + 1, hle, h => by
    simp only [fits, Bool.and_eq_true, Bool.not_eq_true', decide_eq_false_iff_not] at h ⊢
    exact ⟨by omega, fitsAll_mono p q hn hi xs _ _ (by omega) h.2⟩
theorem fitsAll_mono (p q : Incs) (hn : q.nameTotal ≤ p.nameTotal) (hi : q.itemExtra ≤ p.itemExtra) :
    ∀ (xs : DVs) (f g : Nat), f ≤ g → fitsAll p f xs = true → fitsAll q g xs = true
  | .nil, _, _, _, _ => rfl
  | .cons x xs, f, g, hle, h => by
    simp only [fitsAll, Bool.and_eq_true] at h ⊢
    exact ⟨fits_mono p q hn hi x f g hle h.1, fitsAll_mono p q hn hi xs f g hle h.2⟩
end

theorem marshalD_enc (p : Incs) (v : DV) (f : Nat) (bs : List Tok) (h : marshalD p f v = some bs) : bs = enc v := by
  rw [marshalD_eq, Option.ite_none_right_eq_some] at h
  exact (Option.some.inj h.2).symm

theorem marshalDs_enc (p : Incs) : ∀ (xs : DVs) (f : Nat) (bs : List Tok), marshalDs p f xs = some bs → bs = encs xs := by
  intro xs f bs h
  rw [marshalDs_eq, Option.ite_none_right_eq_some] at h
  exact (Option.some.inj h.2).symm

theorem roundtripD (pm pu : Incs) (hn : pu.nameTotal ≤ pm.nameTotal) (hi : pu.itemExtra ≤ pm.itemExtra)
    (v : DV) (fm fu : Nat) (hle : fm ≤ fu) (bs tl : List Tok) (h : marshalD pm fm v = some bs) :
    unmarshalD pu fu (bs ++ tl) = some (v, tl) := by
  rw [marshalD_eq, Option.ite_none_right_eq_some] at h
  rw [← Option.some.inj h.2, unmarshalD_enc, if_pos (fits_mono pm pu hn hi v fm fu hle h.1)]

theorem roundtripDs (pm pu : Incs) (hn : pu.nameTotal ≤ pm.nameTotal) (hi : pu.itemExtra ≤ pm.itemExtra) :
    ∀ (xs : DVs) (fm fu : Nat), fm ≤ fu → ∀ (bs tl : List Tok), marshalDs pm fm xs = some bs →
      readN (fun ts => unmarshalD pu fu ts) xs.length (bs ++ tl) = some (xs, tl) := by
  intro xs fm fu hle bs tl h
  rw [marshalDs_eq, Option.ite_none_right_eq_some] at h
  rw [← Option.some.inj h.2, readN_encs, if_pos (fitsAll_mono pm pu hn hi xs fm fu hle h.1)]

theorem acceptD (pm pu : Incs) (hn : pm.nameTotal ≤ pu.nameTotal) (hi : pm.itemExtra ≤ pu.itemExtra)
    (v : DV) (fm fu : Nat) (hle : fu ≤ fm) (tl : List Tok) (r : DV × List Tok) (h : unmarshalD pu fu (enc v ++ tl) = some r) :
    marshalD pm fm v = some (enc v) ∧ r = (v, tl) := by
  rw [unmarshalD_enc, Option.ite_none_right_eq_some] at h
  exact ⟨by rw [marshalD_eq, if_pos (fits_mono pu pm hn hi v fu fm hle h.1)], (Option.some.inj h.2).symm⟩

theorem acceptDs (pm pu : Incs) (hn : pm.nameTotal ≤ pu.nameTotal) (hi : pm.itemExtra ≤ pu.itemExtra) :
    ∀ (xs : DVs) (fm fu : Nat), fu ≤ fm → ∀ (tl : List Tok) (r : DVs × List Tok),
      readN (fun ts => unmarshalD pu fu ts) xs.length (encs xs ++ tl) = some r →
      marshalDs pm fm xs = some (encs xs) ∧ r = (xs, tl) := by
  intro xs fm fu hle tl r h
  rw [readN_encs, Option.ite_none_right_eq_some] at h
  exact ⟨by rw [marshalDs_eq, if_pos (fitsAll_mono pu pm hn hi xs fu fm hle h.1)], (Option.some.inj h.2).symm⟩

/-- **Depth symmetry**: with the same increments on both sides, the writer accepts a value at a depth budget iff the reader
accepts the value's bytes at that budget (whatever follows them in the buffer) -/
theorem symmetricD (p : Incs) (v : DV) (f : Nat) (tl : List Tok) :
    (marshalD p f v).isSome = (unmarshalD p f (enc v ++ tl)).isSome := by
  rw [marshalD_eq, unmarshalD_enc]
  cases fits p f v <;> rfl

end JanetModel.Marsh.AbsDepth
