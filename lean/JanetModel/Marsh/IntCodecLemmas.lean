/-
Lemmas about the marshal integer codec (`pushint` / `readint`), used by Props/C09.lean and by the graph round trip.
-/
import JanetModel.Marsh.IntCodec
namespace JanetModel.Marsh
open JanetModel.Gen.Marsh

theorem signExtMid_eq (u : Nat) (h : u < 16384) :
    signExtMid u = if u < 8192 then (u : Int) else (u : Int) - 16384 := by
  unfold signExtMid toI32
  simp only [readSignThresh, readSignSub]
  by_cases c1 : u / 8192 ≠ 0
  · rw [if_pos c1]
    have c2 : ¬ (u + (4294967296 - 16384) < 2147483648) := by omega
    have c3 : ¬ (u < 8192) := by omega
    rw [if_neg c2, if_neg c3]; omega
  · have c3 : u < 8192 := by omega
    rw [if_neg c1, if_pos c3]

theorem pushint_small (x : Int) (h : 0 ≤ x ∧ x < 128) : pushint x = [x.toNat] := by
  rw [pushint, if_pos h]

theorem pushint_mid (x : Int) (h1 : ¬ (0 ≤ x ∧ x < 128)) (h2 : x ≤ 8191 ∧ x ≥ -8192) :
    pushint x = [(x / 256 % 64).toNat + 128, (x % 256).toNat] := by
  rw [pushint, if_neg h1, if_pos h2]

theorem pushint_long (x : Int) (h1 : ¬ (0 ≤ x ∧ x < 128)) (h2 : ¬ (x ≤ 8191 ∧ x ≥ -8192)) :
    pushint x = [205, (x / 16777216 % 256).toNat, (x / 65536 % 256).toNat, (x / 256 % 256).toNat, (x % 256).toNat] := by
  rw [pushint, if_neg h1, if_neg h2]

theorem readint_small (b : Nat) (tl : List Nat) (h : b < 128) : readint (b :: tl) = some ((b : Int), tl) := by
  simp only [readint, readSmallLim, h, if_true]

theorem readint_mid (b c : Nat) (tl : List Nat) (h1 : 128 ≤ b) (h2 : b < 192) :
    readint (b :: c :: tl) = some (signExtMid (b % 64 * 256 + c), tl) := by
  simp only [readint, readSmallLim, readMidLim, Nat.not_lt.2 h1, h2, if_true, if_false]

theorem readint_long (b1 b2 b3 b4 : Nat) (tl : List Nat) :
    readint (205 :: b1 :: b2 :: b3 :: b4 :: tl) = some (toI32 (b1 * 16777216 + b2 * 65536 + b3 * 256 + b4), tl) := rfl

/-- the digit `x / m % k` of an integer can be read off its residue modulo any multiple of `m * k` -/
theorem toNat_ediv_emod (x : Int) (m k n : Nat) (h : m * k ∣ n) (hm : 0 < m) (hn : 0 < n) :
    (x / m % k).toNat = (x % n).toNat / m % k := by
  obtain ⟨c, rfl⟩ := h
  have hx : x = ((x % (m * k * c : Nat)).toNat : Int) + m * (k * (c * (x / (m * k * c : Nat)))) := by
    rw [Int.toNat_of_nonneg (Int.emod_nonneg x (by omega)), ← Int.mul_assoc, ← Int.mul_assoc, ← Int.natCast_mul,
      ← Int.natCast_mul, Int.emod_add_mul_ediv]
  generalize (x % (m * k * c : Nat)).toNat = u at hx
  rw [hx, Int.add_mul_ediv_left _ _ (by omega), Int.add_mul_emod_self_left, ← Int.natCast_ediv, ← Int.natCast_emod, Int.toNat_natCast]

theorem toI32_wrap (x : Int) (hlo : -2147483648 ≤ x) (hhi : x < 2147483648) : toI32 (x % 4294967296).toNat = x := by
  unfold toI32; split <;> omega

theorem signExtMid_wrap (x : Int) (hlo : -8192 ≤ x) (hhi : x < 8192) : signExtMid (x % 16384).toNat = x := by
  rw [signExtMid_eq _ (by omega)]; split <;> omega

theorem be32 (u : Nat) (h : u < 4294967296) :
    u / 16777216 % 256 * 16777216 + u / 65536 % 256 * 65536 + u / 256 % 256 * 256 + u % 256 = u := by
  have h3 : u % 4294967296 = u % 16777216 + 16777216 * (u / 16777216 % 256) := Nat.mod_mul (a := 16777216) (b := 256)
  have h2 : u % 16777216 = u % 65536 + 65536 * (u / 65536 % 256) := Nat.mod_mul (a := 65536) (b := 256)
  have h1 : u % 65536 = u % 256 + 256 * (u / 256 % 256) := Nat.mod_mul (a := 256) (b := 256)
  rw [Nat.mod_eq_of_lt h] at h3
  generalize u / 16777216 % 256 = d3 at *
  generalize u / 65536 % 256 = d2 at *
  generalize u / 256 % 256 = d1 at *
  omega

theorem bytes32 (x : Int) :
    (x / 16777216 % 256).toNat * 16777216 + (x / 65536 % 256).toNat * 65536 + (x / 256 % 256).toNat * 256 + (x % 256).toNat
      = (x % 4294967296).toNat := by
  have lt : (x % 4294967296).toNat < 4294967296 := by omega
  have b3 : (x / 16777216 % 256).toNat = (x % 4294967296).toNat / 16777216 % 256 :=
    toNat_ediv_emod x 16777216 256 4294967296 (by decide) (by decide) (by decide)
  have b2 : (x / 65536 % 256).toNat = (x % 4294967296).toNat / 65536 % 256 :=
    toNat_ediv_emod x 65536 256 4294967296 (by decide) (by decide) (by decide)
  have b1 : (x / 256 % 256).toNat = (x % 4294967296).toNat / 256 % 256 :=
    toNat_ediv_emod x 256 256 4294967296 (by decide) (by decide) (by decide)
  have b0 : (x / 1 % 256).toNat = (x % 4294967296).toNat / 1 % 256 :=
    toNat_ediv_emod x 1 256 4294967296 (by decide) (by decide) (by decide)
  rw [Int.ediv_one, Nat.div_one] at b0
  rw [b3, b2, b1, b0]
  exact be32 _ lt

theorem bytes14 (x : Int) : ((x / 256 % 64).toNat + 128) % 64 * 256 + (x % 256).toNat = (x % 16384).toNat := by
  have lt : (x % 16384).toNat < 16384 := by omega
  have b1 : (x / 256 % 64).toNat = (x % 16384).toNat / 256 % 64 :=
    toNat_ediv_emod x 256 64 16384 (by decide) (by decide) (by decide)
  have b0 : (x / 1 % 256).toNat = (x % 16384).toNat / 1 % 256 :=
    toNat_ediv_emod x 1 256 16384 (by decide) (by decide) (by decide)
  rw [Int.ediv_one, Nat.div_one] at b0
  rw [b1, b0]
  clear b1 b0
  generalize (x % 16384).toNat = u at lt ⊢
  omega

theorem readint_pushint (x : Int) (tl : List Nat) (hlo : -2147483648 ≤ x) (hhi : x < 2147483648) :
    readint (pushint x ++ tl) = some (x, tl) := by
  by_cases h1 : 0 ≤ x ∧ x < 128
  · rw [pushint_small x h1, List.singleton_append, readint_small _ _ (by omega), Int.toNat_of_nonneg h1.1]
  · by_cases h2 : x ≤ 8191 ∧ x ≥ -8192
    · rw [pushint_mid x h1 h2]
      show readint (_ :: _ :: tl) = _
      rw [readint_mid _ _ _ (by omega) (by omega), bytes14, signExtMid_wrap x h2.2 (by omega)]
    · rw [pushint_long x h1 h2]
      show readint (205 :: _ :: _ :: _ :: _ :: tl) = _
      rw [readint_long, bytes32, toI32_wrap x hlo hhi]

theorem pushint_length (x : Int) :
    (pushint x).length = if 0 ≤ x ∧ x < 128 then 1 else if -8192 ≤ x ∧ x ≤ 8191 then 2 else 5 := by
  by_cases h1 : 0 ≤ x ∧ x < 128
  · rw [pushint_small x h1, if_pos h1]; rfl
  · by_cases h2 : x ≤ 8191 ∧ x ≥ -8192
    · rw [pushint_mid x h1 h2, if_neg h1, if_pos ⟨h2.2, h2.1⟩]; rfl
    · rw [pushint_long x h1 h2, if_neg h1, if_neg fun h => h2 ⟨h.2, h.1⟩]; rfl

theorem readint_consumes (bs : List Nat) (x : Int) (tl : List Nat) (h : readint bs = some (x, tl)) :
    ∃ pre, bs = pre ++ tl ∧ 1 ≤ pre.length ∧ pre.length ≤ 5 := by
  unfold readint at h
  split at h
  · cases h
  next b rest =>
    split at h
    · cases h; exact ⟨[b], rfl, by simp⟩
    split at h
    · split at h
      · cases h
      next c rest' => cases h; exact ⟨[b, c], rfl, by simp⟩
    split at h
    · split at h
      next b1 b2 b3 b4 rest' => cases h; exact ⟨[b, b1, b2, b3, b4], rfl, by simp⟩
      · cases h
    · cases h

end JanetModel.Marsh
