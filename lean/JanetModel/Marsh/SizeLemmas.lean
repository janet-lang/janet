/-
Lemmas about the size codec `push64` / `read64`.
-/
import JanetModel.Marsh.Size

namespace JanetModel.Marsh
open JanetModel.Gen.Marsh

theorem leDigits_length_le (fuel x : Nat) : (leDigits fuel x).length ≤ fuel := by
  induction fuel generalizing x with
  | zero => simp [leDigits]
  | succ f ih =>
    unfold leDigits
    by_cases h : x = 0
    · simp [h]
    · simp [h]; exact ih (x / 256)

theorem leDigits_pos (fuel x : Nat) (hx : x ≠ 0) : 1 ≤ (leDigits (fuel + 1) x).length := by
  unfold leDigits; simp [hx]

theorem leValue_leDigits (fuel x : Nat) (h : x < 256 ^ fuel) : leValue (leDigits fuel x) = x := by
  induction fuel generalizing x with
  | zero => simp at h; subst h; simp [leDigits, leValue]
  | succ f ih =>
    unfold leDigits
    by_cases h0 : x = 0
    · simp [h0, leValue]
    · simp only [h0, if_false, leValue]
      have : x / 256 < 256 ^ f := by
        rw [Nat.pow_succ] at h
        exact Nat.div_lt_of_lt_mul (by rw [Nat.mul_comm]; exact h)
      rw [ih (x / 256) this]
      omega

theorem read64_push64 (x : Nat) (tl : List Nat) (h : x < 18446744073709551616) :
    read64 (push64 x ++ tl) = some (x, tl) := by
  unfold push64
  simp only [push64Small]
  by_cases c : x ≤ 240
  · simp [c, read64, push64Small]
  · simp only [c, if_false, List.cons_append, read64, push64Small]
    have hl := leDigits_length_le 8 x
    have hp : 1 ≤ (leDigits 8 x).length := leDigits_pos 7 x (by omega)
    have c1 : ¬ (240 + (leDigits 8 x).length ≤ 240) := by omega
    have e : 240 + (leDigits 8 x).length - 240 = (leDigits 8 x).length := by omega
    simp only [c1, if_false, e, List.length_append]
    have c3 : ¬ ((leDigits 8 x).length + tl.length < (leDigits 8 x).length) := by omega
    simp only [c3, if_false, List.take_left', List.drop_left']
    rw [leValue_leDigits 8 x (by simpa using h)]
    have c4 : ¬ ((leDigits 8 x).length > 8) := by omega
    simp [c4]

end JanetModel.Marsh
