/-
Existence of the reference-order presentation: whatever `marshal_one` with an explicit seen table (`presentOne`, heap in
arbitrary address order) writes, the description it computes on the way is accepted by `marshalOne` (Graph.lean, heap in
reference-number order) and gives the same bytes and the same counter.
-/
import JanetModel.Marsh.Present
import JanetModel.Marsh.GraphLemmas

namespace JanetModel.Marsh
open JanetModel.Gen.Marsh

/-- every number in `st->seen` is below `st->nextid` -/
def SeenBelow (s : Seen) (n : Nat) : Prop := ∀ p ∈ s, p.2 < n

theorem SeenBelow.mono {s : Seen} {n m : Nat} (h : SeenBelow s n) (hm : n ≤ m) : SeenBelow s m :=
  fun p hp => Nat.lt_of_lt_of_le (h p hp) hm

theorem SeenBelow.cons {s : Seen} {n : Nat} (a id : Nat) (h : SeenBelow s n) (hid : id < n) : SeenBelow ((a, id) :: s) n := by
  intro p hp
  rcases List.mem_cons.1 hp with rfl | hp
  · exact hid
  · exact h p hp

theorem Seen.find_lt {s : Seen} {n a id : Nat} (h : SeenBelow s n) (hf : s.find a = some id) : id < n := by
  unfold Seen.find at hf
  cases hq : s.find? (fun p => p.1 == a) with
  | none => simp [hq] at hf
  | some p =>
    simp only [hq, Option.map_some, Option.some.injEq] at hf
    subst hf
    exact h p (List.mem_of_find?_eq_some hq)

/-- what a call of `presentOne` / of the children loop guarantees about its result -/
def SoundOne (fuel : Nat) (r : List Nat × Val × List Obj × Seen) (n : Nat) : Prop :=
  SeenBelow r.2.2.2 (n + r.2.2.1.length) ∧
  ∀ P Q : List Obj, P.length = n → marshalOne fuel (P ++ r.2.2.1 ++ Q) n r.2.1 = some (r.1, n + r.2.2.1.length)

def SoundList (fuel : Nat) (r : List Nat × List Val × List Obj × Seen) (n len : Nat) : Prop :=
  SeenBelow r.2.2.2 (n + r.2.2.1.length) ∧ r.2.1.length = len ∧
  ∀ P Q : List Obj, P.length = n →
    marshalList (fun a b => marshalOne fuel (P ++ r.2.2.1 ++ Q) a b) n r.2.1 = some (r.1, n + r.2.2.1.length)

theorem presentList_sound (fuel : Nat) (g : Seen → Nat → Val → PResult Val)
    (hg : ∀ s n x r, g s n x = some r → SeenBelow s n → SoundOne fuel r n) :
    ∀ (vs : List Val) (s : Seen) (n : Nat) r, presentList g s n vs = some r → SeenBelow s n → SoundList fuel r n vs.length := by
  intro vs
  induction vs with
  | nil =>
    intro s n r h hs
    simp only [presentList, Option.some.injEq] at h
    subst h
    exact ⟨by simpa using hs, rfl, fun P Q _ => by simp [marshalList]⟩
  | cons v vs ih =>
    intro s n r h hs
    simp only [presentList] at h
    cases h1 : g s n v with
    | none => simp [h1] at h
    | some r1 =>
      obtain ⟨b1, v', o1, s1⟩ := r1
      simp only [h1] at h
      cases h2 : presentList g s1 (n + o1.length) vs with
      | none => simp [h2] at h
      | some r2 =>
        obtain ⟨b2, vs', o2, s2⟩ := r2
        simp only [h2, Option.some.injEq] at h
        subst h
        obtain ⟨k1, k2⟩ := hg s n v _ h1 hs
        obtain ⟨j1, j2, j3⟩ := ih s1 (n + o1.length) _ h2 k1
        simp only at k1 k2 j1 j2 j3 ⊢
        refine ⟨by simpa [List.length_append, Nat.add_assoc] using j1, by simp [j2], ?_⟩
        intro P Q hP
        have e1 : P ++ (o1 ++ o2) ++ Q = P ++ o1 ++ (o2 ++ Q) := by simp [List.append_assoc]
        have e2 : P ++ (o1 ++ o2) ++ Q = (P ++ o1) ++ o2 ++ Q := by simp [List.append_assoc]
        have m1 := k2 P (o2 ++ Q) hP
        have m2 := j3 (P ++ o1) Q (by simp [hP])
        rw [← e1] at m1
        rw [← e2] at m2
        simp only [marshalList, m1, m2, List.length_append, Nat.add_assoc]

theorem getElem_mid (P Q : List Obj) (o : Obj) : (P ++ o :: Q)[P.length]? = some o := by simp

theorem presentBox_sound (fuel : Nat) (pre : Bool) (a : Nat) (s : Seen) (n len : Nat)
    (children : Seen → Nat → PResult (List Val)) (mk : List Val → Obj)
    (hch : ∀ s0 m r, children s0 m = some r → SeenBelow s0 m → SoundList fuel r m len)
    (r : List Nat × Val × List Obj × Seen) (h : presentBox pre a s n children mk = some r) (hs : SeenBelow s n) :
    SeenBelow r.2.2.2 (n + r.2.2.1.length) ∧
    ∃ id vs, r.2.1 = .ref id ∧ ¬ id < n ∧ vs.length = len ∧
      ∀ P Q : List Obj, P.length = n → (P ++ r.2.2.1 ++ Q)[id]? = some (mk vs) ∧
        wrapMark pre n id (fun m => marshalList (fun a b => marshalOne fuel (P ++ r.2.2.1 ++ Q) a b) m vs) = some (r.1, n + r.2.2.1.length) := by
  unfold presentBox at h
  cases pre with
  | true =>
    simp only [if_true] at h
    cases hc : children ((a, n) :: s) (n + 1) with
    | none => simp [hc] at h
    | some rc =>
      obtain ⟨bs, vs, objs, s'⟩ := rc
      simp only [hc, Option.some.injEq] at h
      subst h
      obtain ⟨k1, k2, k3⟩ := hch _ _ _ hc (SeenBelow.cons a n (hs.mono (Nat.le_succ n)) (Nat.lt_succ_self n))
      simp only at k1 k2 k3 ⊢
      refine ⟨by simpa [Nat.add_assoc, Nat.add_comm 1] using k1, n, vs, rfl, Nat.lt_irrefl n, k2, ?_⟩
      intro P Q hP
      have e : P ++ mk vs :: objs ++ Q = (P ++ [mk vs]) ++ objs ++ Q := by simp [List.append_assoc]
      refine ⟨by rw [← hP]; simp, ?_⟩
      have m := k3 (P ++ [mk vs]) Q (by simp [hP])
      rw [← e] at m
      simp only [wrapMark, markSeen, if_true, m, List.length_cons, Nat.add_assoc, Nat.add_comm 1]
  | false =>
    simp only [Bool.false_eq_true, if_false] at h
    cases hc : children s n with
    | none => simp [hc] at h
    | some rc =>
      obtain ⟨bs, vs, objs, s'⟩ := rc
      simp only [hc, Option.some.injEq] at h
      subst h
      obtain ⟨k1, k2, k3⟩ := hch _ _ _ hc hs
      simp only at k1 k2 k3 ⊢
      refine ⟨?_, n + objs.length, vs, rfl, by omega, k2, ?_⟩
      · simp only [List.length_append, List.length_cons, List.length_nil]
        exact SeenBelow.cons a _ (k1.mono (by omega)) (by omega)
      · intro P Q hP
        have e : P ++ (objs ++ [mk vs]) ++ Q = P ++ objs ++ (mk vs :: Q) := by simp [List.append_assoc]
        refine ⟨?_, ?_⟩
        · rw [e]
          have : (P ++ objs).length = n + objs.length := by simp [hP]
          rw [← this]
          exact getElem_mid (P ++ objs) Q (mk vs)
        · have m := k3 P (mk vs :: Q) hP
          rw [← e] at m
          simp only [wrapMark, Bool.false_eq_true, if_false, m, markSeen, if_true, List.length_append, List.length_cons,
            List.length_nil, Nat.add_assoc]

theorem flatKV_pairUp : ∀ (n : Nat) (l : List Val), l.length = 2 * n → flatKV (pairUp l) = l
  | 0, l, h => by
    have : l = [] := List.eq_nil_of_length_eq_zero (by omega)
    subst this; rfl
  | n + 1, l, h => by
    match l, h with
    | k :: v :: rest, h =>
      simp only [pairUp, flatKV]
      rw [flatKV_pairUp n rest (by simp at h; omega)]

theorem pairUp_length : ∀ (n : Nat) (l : List Val), l.length = 2 * n → (pairUp l).length = n
  | 0, l, h => by
    have : l = [] := List.eq_nil_of_length_eq_zero (by omega)
    subst this; rfl
  | n + 1, l, h => by
    match l, h with
    | k :: v :: rest, h =>
      simp only [pairUp, List.length_cons]
      rw [pairUp_length n rest (by simp at h; omega)]

theorem rebuild_kv (hasProto : Bool) (k : Nat) (vs : List Val) (h : vs.length = (if hasProto then 1 else 0) + 2 * k) :
    (splitProto hasProto vs).1.isSome = hasProto ∧ (pairUp (splitProto hasProto vs).2).length = k ∧
    kvChildren (splitProto hasProto vs).1 (pairUp (splitProto hasProto vs).2) = vs := by
  cases hasProto with
  | false =>
    simp only [Bool.false_eq_true, if_false, Nat.zero_add] at h
    simp [splitProto, kvChildren, pairUp_length k vs h, flatKV_pairUp k vs h]
  | true =>
    simp only [if_true] at h
    match vs, h with
    | [], h => simp at h; omega
    | p :: rest, h =>
      have h' : rest.length = 2 * k := by simp at h; omega
      simp [splitProto, kvChildren, pairUp_length k rest h', flatKV_pairUp k rest h']

theorem withHeader_some {hd : List Nat} {r : PResult Val} {q : List Nat × Val × List Obj × Seen} (h : withHeader hd r = some q) :
    ∃ p, r = some p ∧ q = (hd ++ p.1, p.2) := by
  unfold withHeader at h
  cases r with
  | none => simp at h
  | some p => exact ⟨p, rfl, by simpa using h.symm⟩

/-- the object with its children replaced -/
def Obj.rebuild : Obj → List Val → Obj
  | .array weak _, vs => .array weak vs
  | .tuple flag _, vs => .tuple flag vs
  | .table weak proto _, vs => mkTable weak proto.isSome vs
  | .struct proto _, vs => mkStruct proto.isSome vs
  | o, _ => o

theorem Obj.rebuild_kids (o : Obj) : o.rebuild o.shape.kids = o := by
  cases o <;> simp [Obj.rebuild, Obj.shape, mkTable, mkStruct, splitProto_kvChildren, pairUp_flatKV]

theorem Obj.shape_rebuild (o : Obj) (vs : List Val) (h : vs.length = o.shape.kids.length) :
    (o.rebuild vs).shape = ⟨o.shape.pre, o.shape.head, vs⟩ := by
  cases o with
  | array weak items => simp [Obj.rebuild, Obj.shape, show vs.length = items.length from h]
  | tuple flag items => simp [Obj.rebuild, Obj.shape, show vs.length = items.length from h]
  | table weak proto kvs =>
    obtain ⟨q1, q2, q3⟩ := rebuild_kv proto.isSome kvs.length vs (h.trans (kvChildren_length proto kvs))
    simp [Obj.rebuild, Obj.shape, mkTable, q1, q2, q3]
  | struct proto kvs =>
    obtain ⟨q1, q2, q3⟩ := rebuild_kv proto.isSome kvs.length vs (h.trans (kvChildren_length proto kvs))
    simp [Obj.rebuild, Obj.shape, mkStruct, q1, q2, q3]
  | _ =>
    obtain rfl : vs = [] := List.eq_nil_of_length_eq_zero h
    rfl

/-- `presentOne` on an object that is not in the seen table: a childless object is a box without children -/
theorem presentOne_obj (f : Nat) (G : List Obj) (s : Seen) (n a : Nat) (o : Obj) (ho : G[a]? = some o) (hs : s.find a = none) :
    presentOne (f + 1) G s n (.ref a) =
      withHeader o.shape.head (presentBox o.shape.pre a s n
        (fun s m => presentList (fun s m v => presentOne f G s m v) s m o.shape.kids) o.rebuild) := by
  simp only [presentOne, hs, ho]
  cases o <;> simp only [Obj.shape]
  case reg | real | str | buffer =>
    simp only [withHeader, presentBox, presentList, Obj.rebuild]
    split <;> simp
  all_goals rfl

/-- **Existence of the reference-order presentation.**  For a heap in any order, any seen table whose numbers are below
`nextid`, any depth budget: when `marshal_one` (with the seen table) writes `bs` for `x`, the description `(x', objs)` it
computes is accepted by `marshalOne` wherever `objs` sits at offset `n` of a heap, with the same bytes and the same counter. -/
theorem presentOne_sound (G : List Obj) : ∀ (fuel : Nat) (s : Seen) (n : Nat) (x : Val) r,
    presentOne fuel G s n x = some r → SeenBelow s n → SoundOne fuel r n := by
  intro fuel
  induction fuel with
  | zero => intro s n x r h; simp [presentOne] at h
  | succ f ih =>
    intro s n x r h hs
    cases x with
    | nil =>
      simp only [presentOne, Option.some.injEq] at h; subst h
      exact ⟨by simpa using hs, fun P Q _ => by simp [marshalOne]⟩
    | bool b =>
      simp only [presentOne, Option.some.injEq] at h; subst h
      exact ⟨by simpa using hs, fun P Q _ => by simp [marshalOne]⟩
    | int i =>
      simp only [presentOne, Option.some.injEq] at h; subst h
      exact ⟨by simpa using hs, fun P Q _ => by simp [marshalOne]⟩
    | ref a =>
      cases hf : s.find a with
      | some id =>
        simp only [presentOne, hf, Option.some.injEq] at h; subst h
        have hlt := Seen.find_lt hs hf
        exact ⟨by simpa using hs, fun P Q _ => by simp [marshalOne, hlt]⟩
      | none =>
        cases hg : G[a]? with
        | none => simp [presentOne, hf, hg] at h
        | some o =>
          rw [presentOne_obj f G s n a o hg hf] at h
          obtain ⟨p, hp, rfl⟩ := withHeader_some h
          obtain ⟨k1, id, vs, hx, hid, hlen, k2⟩ := presentBox_sound f o.shape.pre a s n o.shape.kids.length _ _
            (fun s0 m rr hh hb => presentList_sound f _ ih o.shape.kids s0 m rr hh hb) p hp hs
          refine ⟨k1, fun P Q hP => ?_⟩
          obtain ⟨m1, m2⟩ := k2 P Q hP
          simp only at hx m1 m2 ⊢
          rw [hx, marshalOne_obj f _ n id _ m1 hid, Obj.shape_rebuild o vs hlen]
          simp only [m2, Option.map_some]

theorem present_sound (G : List Obj) (x : Val) (bs : List Nat) (x' : Val) (H : List Obj)
    (h : present G x = some (bs, x', H)) : marshalOne topFuel H 0 x' = some (bs, H.length) := by
  unfold present at h
  cases hp : presentOne topFuel G [] 0 x with
  | none => simp [hp] at h
  | some r =>
    simp only [hp, Option.map_some, Option.some.injEq, Prod.mk.injEq] at h
    obtain ⟨rfl, rfl, rfl⟩ := h
    have := (presentOne_sound G topFuel [] 0 x r hp (by intro p hp; cases hp)).2 [] [] rfl
    simpa using this

end JanetModel.Marsh
