/-
The data-graph round trip: `unmarshalOne` inverts `marshalOne` (sharing and cycles included).
-/
import JanetModel.Marsh.GraphLemmas

namespace JanetModel.Marsh
open JanetModel.Gen.Marsh

theorem box_roundtrip (H : List Obj) (g : Nat → Val → Option (List Nat × Nat))
    (d : Nat → List Nat → Option (Val × List Nat × List Obj)) (hgd : OneOK H g d) (pre : Bool) (n id : Nat) (o : Obj)
    (ho : H[id]? = some o) (hn : n ≤ H.length) (items : List Val) (hwf : ∀ v ∈ items, ValWF v) (bs : List Nat) (n' : Nat)
    (tl : List Nat) (hm : wrapMark pre n id (fun m => marshalList g m items) = some (bs, n')) :
    n ≤ n' ∧ n' ≤ H.length ∧ items.length ≤ bs.length ∧ ∃ objs,
      unmarshalN d items.length (childStart pre n) (bs ++ tl) = some (items, tl, objs) ∧
      finishObj pre n objs o = (.ref id, slice H n n') := by
  have hid := getElem?_lt H id o ho
  cases pre with
  | true =>
    simp only [wrapMark, if_true] at hm
    split at hm
    · cases hm
    next n1 hms =>
      obtain ⟨rfl, rfl⟩ := markSeen_some n id n1 hms
      obtain ⟨k1, k2, k3, k4⟩ := list_roundtrip H g d hgd items (id + 1) bs n' tl hid hwf hm
      exact ⟨by omega, k2, k3, _, k4, by rw [finishObj, if_pos rfl, slice_cons H id n' o ho k1]⟩
  | false =>
    simp only [wrapMark, Bool.false_eq_true, if_false] at hm
    split at hm
    · cases hm
    next cbs n1 hl =>
      split at hm
      · cases hm
      next n2 hms =>
        obtain ⟨rfl, rfl⟩ := markSeen_some n1 id n2 hms
        cases hm
        obtain ⟨k1, k2, k3, k4⟩ := list_roundtrip H g d hgd items n bs id tl hn hwf hl
        refine ⟨by omega, hid, k3, _, k4, ?_⟩
        rw [finishObj, if_neg Bool.false_ne_true, slice_length H n id k2, slice_snoc H n id o ho k1]
        congr 2; omega

attribute [local simp] lb_real lb_nil lb_false lb_true lb_integer lb_string lb_symbol lb_keyword lb_array lb_tuple lb_table
  lb_table_proto lb_struct lb_buffer lb_registry lb_reference lb_struct_proto lb_table_weakk lb_table_weakv lb_table_weakkv
  lb_table_weakk_proto lb_table_weakv_proto lb_table_weakkv_proto lb_array_weak

/-- the bytes `marshal_one` writes before the children of an object select the arm of `unmarshal_one` that reads that many
    children and rebuilds the object; `hdos` is what the length test before the children loop asks for -/
theorem unmarshalOne_obj (f n : Nat) (o : Obj) (hwf : ObjWF o) (rest : List Nat) (hdos : o.shape.kids.length ≤ rest.length) :
    unmarshalOne (f + 1) n (o.shape.head ++ rest) =
      (unmarshalN (fun a b => unmarshalOne f a b) o.shape.kids.length (childStart o.shape.pre n) rest).map fun r =>
        ((finishObj o.shape.pre n r.2.2 (o.decode r.1)).1, r.2.1, (finishObj o.shape.pre n r.2.2 (o.decode r.1)).2) := by
  cases o with
  | reg name =>
    simp [Obj.shape, Obj.decode, unmarshalOne, readnat_pushint name.length (name ++ rest) hwf, unmarshalN, finishObj]
  | real rb =>
    have h8 : rb.length = 8 := hwf
    simp [Obj.shape, Obj.decode, unmarshalOne, h8, unmarshalN, finishObj]
  | str k sb =>
    cases k <;>
      simp [Obj.shape, Obj.decode, strLead, unmarshalOne, readnat_pushint sb.length (sb ++ rest) hwf, unmarshalN, finishObj]
  | buffer bb =>
    simp [Obj.shape, Obj.decode, unmarshalOne, readnat_pushint bb.length (bb ++ rest) hwf, unmarshalN, finishObj]
  | array weak items =>
    have hr := readnat_pushint items.length rest hwf.1
    have hd : ¬ (rest.length < items.length) := Nat.not_lt.2 hdos
    cases weak <;> simp [Obj.shape, Obj.decode, unmarshalOne, hr, hd, pushPreArray, markPreArray] <;>
      cases unmarshalN (fun a b => unmarshalOne f a b) items.length _ rest <;> rfl
  | tuple flag items =>
    have hr := readnat_pushint items.length (pushint flag ++ rest) hwf.2.1
    have hf := readint_pushint flag rest hwf.1.1 hwf.1.2
    have hd : ¬ ((pushint flag).length + rest.length < items.length) := by
      have : items.length ≤ rest.length := hdos
      omega
    simp [Obj.shape, Obj.decode, unmarshalOne, hr, hf, hd, pushPreTuple, markPreTuple] <;>
      cases unmarshalN (fun a b => unmarshalOne f a b) items.length _ rest <;> rfl
  | table weak proto kvs =>
    obtain ⟨hwk, _, hlen, _⟩ := hwf
    have hr := readnat_pushint kvs.length rest hlen
    have hk : (kvChildren proto kvs).length ≤ rest.length := hdos
    rw [kvChildren_length] at hk
    have hd : ¬ (rest.length < kvs.length) := by omega
    have hwk : weak = 0 ∨ weak = 1 ∨ weak = 2 ∨ weak = 3 := by omega
    rcases hwk with rfl | rfl | rfl | rfl <;> cases hps : proto.isSome <;>
      simp [Obj.shape, Obj.decode, unmarshalOne, tableLead, tableOfLead, hr, hd, hps, kvChildren_length, pushPreTable,
        markPreTable] <;>
      cases unmarshalN (fun a b => unmarshalOne f a b) _ _ rest <;> rfl
  | struct proto kvs =>
    obtain ⟨_, hlen, _⟩ := hwf
    have hr := readnat_pushint kvs.length rest hlen
    have hk : (kvChildren proto kvs).length ≤ rest.length := hdos
    rw [kvChildren_length] at hk
    have hd : ¬ (rest.length < kvs.length) := by omega
    cases hps : proto.isSome <;>
      simp [Obj.shape, Obj.decode, unmarshalOne, hr, hd, hps, kvChildren_length, pushPreStruct, markPreStruct] <;>
      cases unmarshalN (fun a b => unmarshalOne f a b) _ _ rest <;> rfl

theorem one_roundtrip (H : List Obj) (hH : HeapWF H) :
    ∀ fuel, OneOK H (marshalOne fuel H) (unmarshalOne fuel) := by
  intro fuel
  induction fuel with
  | zero =>
    intro n x bs n' tl _ _ hm
    simp [marshalOne] at hm
  | succ f ih =>
    intro n x bs n' tl hn hx hm
    cases x with
    | nil =>
      cases hm
      exact ⟨Nat.le_refl _, hn, by simp, by simp [unmarshalOne, slice_self]⟩
    | bool b =>
      cases hm
      refine ⟨Nat.le_refl _, hn, by simp, ?_⟩
      cases b <;> simp [unmarshalOne, slice_self]
    | int i =>
      cases hm
      refine ⟨Nat.le_refl _, hn, pushint_length_pos i, ?_⟩
      obtain ⟨lead, rest, he, hl⟩ := pushint_head i
      have hr := readint_pushint i tl hx.1 hx.2
      rw [he] at hr ⊢
      simp only [List.cons_append] at hr ⊢
      simp [unmarshalOne, hl, hr, slice_self]
    | ref id =>
      by_cases hlt : id < n
      · simp only [marshalOne, if_pos hlt] at hm
        cases hm
        refine ⟨Nat.le_refl _, hn, by simp, ?_⟩
        have hr := readnat_pushint id tl (by have := hH.1; omega)
        simp [unmarshalOne, hr, hlt, slice_self]
      · cases ho : H[id]? with
        | none => simp [marshalOne, hlt, ho] at hm
        | some o =>
          have hwf := objWF_of_getElem? H hH id o ho
          rw [marshalOne_obj f H n id o ho hlt] at hm
          obtain ⟨⟨cbs, n2⟩, hw, he⟩ := Option.map_eq_some_iff.mp hm
          obtain ⟨rfl, rfl⟩ := Prod.mk.inj he
          obtain ⟨k1, k2, k3, objs, k4, k5⟩ := box_roundtrip H _ (fun a b => unmarshalOne f a b) ih o.shape.pre n id o ho hn
            o.shape.kids (Obj.kids_wf hwf) cbs _ tl hw
          have hpos := o.head_pos
          refine ⟨k1, k2, by rw [List.length_append]; omega, ?_⟩
          rw [List.append_assoc, unmarshalOne_obj f n o hwf (cbs ++ tl) (by rw [List.length_append]; omega), k4]
          simp [Obj.decode_kids hwf, k5]

/-- the entry points on a description without garbage: `janet_unmarshal (janet_marshal x)` gives back the value and the whole
    heap and reads exactly the bytes written -/
theorem top_roundtrip (H : List Obj) (hH : HeapWF H) (x : Val) (hx : ValWF x) (bs : List Nat)
    (hm : marshalOne topFuel H 0 x = some (bs, H.length)) :
    marshal H x = some bs ∧ unmarshal bs = some (x, H, bs.length) := by
  refine ⟨by simp [marshal, hm], ?_⟩
  have h := (one_roundtrip H hH topFuel 0 x bs H.length [] (Nat.zero_le _) hx hm).2.2.2
  simp only [List.append_nil] at h
  simp [unmarshal, h, slice]

end JanetModel.Marsh
