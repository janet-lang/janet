/-
The round trip on value graphs with code objects: `unmarshalC` / `unmarshalDef` / `unmarshalEnvWith` invert
`marshalC` / `marshalDef` / `marshalEnv`, with sharing of objects, funcdefs and environments preserved, for every
unmarshal depth budget that is at least the marshal budget.
-/
import JanetModel.Marsh.CodeLemmas

namespace JanetModel.Marsh
open JanetModel.Gen.Marsh JanetModel.Gen.MarshCode

/-! ### well-formedness (what the C types and `janet_def_addflags` guarantee) -/

def SymWF (s : SymEntry) : Prop := Int32 s.birth ∧ Int32 s.death ∧ Int32 s.slot ∧ ValWF s.sym

/-- every line delta and column of the source map fits `pushint` -/
def SmWF : Int → List (Int × Int) → Prop
  | _, [] => True
  | cur, (line, col) :: rest => Int32 (line - cur) ∧ Int32 col ∧ SmWF line rest

def OptWF (flags : Int) (bit : Int) (v : Option Val) : Prop :=
  if hasFlag flags bit then ∃ x, v = some x ∧ ValWF x else v = none

structure DefWF (vf : Def → Bool) (df : Def) : Prop where
  flags : Int32 df.flags
  slotcount : df.slotcount ≤ maxSlotcount
  arity : df.arity < 2147483648
  minArity : df.minArity < 2147483648
  maxArity : df.maxArity < 2147483648
  nconst : df.constants.length < 2147483648
  nbytecode : df.bytecode.length < 2147483648
  nenvs : df.environments.length < 2147483648
  ndefs : df.defs.length < 2147483648
  nsyms : df.symbolmap.length < 2147483648
  name : OptWF df.flags fdHasName df.name
  source : OptWF df.flags fdHasSource df.source
  constants : ∀ v ∈ df.constants, ValWF v
  symbolmap : ∀ s ∈ df.symbolmap, SymWF s
  symflag : hasFlag df.flags fdHasSymbolMap = false → df.symbolmap = []
  bytecode : ∀ w ∈ df.bytecode, w < 4294967296
  environments : ∀ i ∈ df.environments, Int32 i ∧ -1 ≤ i
  envflag : hasFlag df.flags fdHasEnvs = false → df.environments = []
  defflag : hasFlag df.flags fdHasDefs = false → df.defs = []
  sourcemap : if hasFlag df.flags fdHasSourceMap then df.sourcemap.length = df.bytecode.length ∧ SmWF 0 df.sourcemap
              else df.sourcemap = []
  bitset : if hasFlag df.flags fdHasCloBitset then df.bitset.length = (df.slotcount + 31) / 32 ∧ ∀ w ∈ df.bitset, w < 4294967296
           else df.bitset = []
  verify : vf df = true

/-- the frame chain of a fiber: frame at `stack` with its slots up to `stacktop`, then the previous frame -/
def FramesWF : Nat → Nat → List Frame → Prop
  | stack, _, [] => stack = 0
  | stack, stacktop, fr :: rest =>
    0 < stack ∧ stack < 2147483648 ∧ 0 ≤ fr.flags ∧ fr.flags < 2147483648 ∧ fr.prevframe + frameSize ≤ stack ∧
    fr.pcdiff < 2147483648 ∧ ValWF fr.func ∧ fr.slots.length = stacktop - stack ∧ (∀ v ∈ fr.slots, ValWF v) ∧
    FramesWF fr.prevframe (stack - frameSize) rest

structure FiberWF (flags : Int) (frame stackstart stacktop maxstack : Nat) (frames : List Frame)
    (env child : Option Val) (last : Val) : Prop where
  hflags : 0 ≤ flags ∧ flags < 2147483648
  noEnvBit : hasFlag flags fiberHasEnv = false
  noChildBit : hasFlag flags fiberHasChild = false
  setup : frame + frameSize ≤ stackstart ∧ stackstart ≤ stacktop ∧ stacktop ≤ maxstack ∧ maxstack < 2147483648
  hframes : FramesWF frame (stackstart - frameSize) frames
  henv : ∀ v, env = some v → ValWF v
  hchild : ∀ v, child = some v → ValWF v
  hlast : ValWF last

def CObjWF : CObj → Prop
  | .data o => ObjWF o
  | .func _ envs => envs.length ≤ maxFuncEnvs
  | .abs _ _ _ => True
  | .fiber flags frame stackstart stacktop maxstack frames env child last =>
    FiberWF flags frame stackstart stacktop maxstack frames env child last

def EnvWF : Env → Prop
  | .detached values => 0 < values.length ∧ values.length < 2147483648 ∧ ∀ v ∈ values, ValWF v
  | .onstack offset length fiber => 0 < offset ∧ offset < 2147483648 ∧ length < 2147483648 ∧ ValWF fiber

structure HeapCWF (vf : Def → Bool) (T : Heap) : Prop where
  nobjs : T.objs.length < 2147483648
  ndefs : T.defs.length < 2147483648
  nenvs : T.envs.length < 2147483648
  objs : ∀ o ∈ T.objs, CObjWF o
  defs : ∀ d ∈ T.defs, DefWF vf d
  envs : ∀ e ∈ T.envs, EnvWF e

theorem readU32s_u32s (ws : List Nat) (h : ∀ w ∈ ws, w < 4294967296) (tl : List Nat) :
    readU32s ws.length (u32s ws ++ tl) = some (ws, tl) := by
  induction ws with
  | nil => simp [readU32s, u32s]
  | cons w ws ih =>
    have hw : w < 4294967296 := h w (by simp)
    have := ih (fun x hx => h x (by simp [hx]))
    simp only [u32s, u32le, List.length_cons, List.cons_append, List.nil_append, readU32s, this]
    have e : w % 256 + w / 256 % 256 * 256 + w / 65536 % 256 * 65536 + w / 16777216 % 256 * 16777216 = w :=
      Eq.trans (by ac_rfl) (be32 w hw)
    rw [e]

theorem Reads.u32s (ws : List Nat) (h : ∀ w ∈ ws, w < 4294967296) : Reads (R.u32s ws.length) (u32s ws) ws := by
  intro c tl
  simp [R.u32s, readU32s_u32s ws h tl]

theorem Reads.optNat (flags bit : Int) (len : Nat) (h1 : len < 2147483648) (h2 : hasFlag flags bit = false → len = 0) :
    Reads (R.optNat flags bit) (optLen flags bit len) len := by
  unfold R.optNat optLen
  cases hf : hasFlag flags bit
  · simp only [Bool.false_eq_true, if_false]
    rw [h2 hf]; exact Reads.pure 0
  · simp only [if_true]; exact Reads.nat len h1

theorem Reads.envInt (i : Int) (h : Int32 i ∧ -1 ≤ i) :
    Reads (R.bind R.int fun inh => R.bind (R.guard (decide (-1 ≤ inh))) fun _ => R.pure inh) (pushint i) i := by
  intro c tl
  have hd : decide (-1 ≤ i) = true := by simp [h.2]
  simp [R.bind, R.int, readint_pushint i tl h.1.1 h.1.2, R.guard, hd, R.pure, Out.append, Out.empty]

theorem Reads.envInts (is : List Int) (h : ∀ i ∈ is, Int32 i ∧ -1 ≤ i) :
    Reads (R.listN (R.bind R.int fun inh => R.bind (R.guard (decide (-1 ≤ inh))) fun _ => R.pure inh) is.length) (intsBytes is) is := by
  induction is with
  | nil => exact Reads.pure []
  | cons i is ih =>
    simp only [List.length_cons, R.listN, intsBytes]
    exact Reads.bind (Reads.envInt i (h i (by simp))) (Reads.map _ (ih fun j hj => h j (by simp [hj])))

theorem Reads.sourcemap : ∀ (sm : List (Int × Int)) (cur : Int), SmWF cur sm → Reads (R.sourcemap sm.length cur) (smBytes cur sm) sm := by
  intro sm
  induction sm with
  | nil => intro cur _; exact Reads.pure []
  | cons p rest ih =>
    intro cur h
    obtain ⟨line, col⟩ := p
    obtain ⟨h1, h2, h3⟩ := h
    simp only [List.length_cons, R.sourcemap, smBytes]
    refine Reads.bind (Reads.int _ h1) (Reads.bind (Reads.int _ h2) ?_)
    have e : cur + (line - cur) = line := by omega
    rw [e]
    exact Reads.map _ (ih line h3)

def OneOKC (T : Heap) (vf : Def → Bool) (fm : Nat) : Prop :=
  ∀ fu, fm ≤ fu → ∀ x, ValWF x → Paired T (fun c => marshalC fm T x c) (fun c d => unmarshalC fu vf c d) x

def DefOKC (T : Heap) (vf : Def → Bool) (fm : Nat) : Prop :=
  ∀ fu, fm ≤ fu → ∀ di, Paired T (fun c => marshalDef fm T di c) (fun c d => unmarshalDef fu vf c d) di

def EnvOKC (T : Heap) (vf : Def → Bool) (fm : Nat) : Prop :=
  ∀ fu, fm ≤ fu → ∀ ei, Paired T (fun c => marshalEnv fm T ei c) (unmarshalEnvWith (fun c d => unmarshalC fu vf c d)) ei

attribute [local simp] lb_real lb_nil lb_false lb_true lb_integer lb_string lb_symbol lb_keyword lb_array lb_tuple lb_table
  lb_table_proto lb_struct lb_buffer lb_registry lb_reference lb_struct_proto lb_table_weakk lb_table_weakv lb_table_weakkv
  lb_table_weakk_proto lb_table_weakv_proto lb_table_weakkv_proto lb_array_weak lb_function lb_funcdef_ref lb_funcenv_ref lb_fiber

section
variable (T : Heap) (vf : Def → Bool)

theorem unmarshalC_nil (fu : Nat) (c : Ct) : unmarshalC fu vf c [] = none := by
  cases fu <;> simp [unmarshalC, R.fail]

theorem wrapMark_len {pre : Bool} {id : Nat} {w : W} {len : Nat} (hid : id < T.objs.length)
    (hl : ∀ c bs c', c ≤ T.size → w c = some (bs, c') → len ≤ bs.length) :
    ∀ c bs c', c ≤ T.size → W.wrapMark pre id w c = some (bs, c') → len ≤ bs.length := by
  intro c bs c' hc h
  cases pre
  · simp only [W.wrapMark, Bool.false_eq_true, if_false] at h
    obtain ⟨b1, c1, b2, ha, hb, rfl⟩ := W.seq_some h
    obtain ⟨_, rfl, _⟩ := W.markObj_some hb
    simpa using hl c b1 c1 hc ha
  · simp only [W.wrapMark, if_true] at h
    obtain ⟨b1, c1, b2, ha, hb, rfl⟩ := W.seq_some h
    obtain ⟨rfl, rfl, rfl⟩ := W.markObj_some ha
    simpa using hl { c with n := c.n + 1 } b2 c' ⟨hid, hc.2.1, hc.2.2⟩ hb

theorem children_paired (fm fu : Nat) (ih : OneOKC T vf fm) (hfu : fm ≤ fu) (xs : List Val) (hx : ∀ v ∈ xs, ValWF v) :
    Paired T (W.list (fun v c => marshalC fm T v c) xs) (R.listN (fun c d => unmarshalC fu vf c d) xs.length) xs :=
  Paired.list xs fun v hv => ih fu hfu v (hx v hv)

theorem opt_paired (g : Val → W) (rg : R Val) (hg : ∀ v, ValWF v → Paired T (g v) rg v) (flags bit : Int) (v : Option Val)
    (h : OptWF flags bit v) :
    Paired T (if hasFlag flags bit then W.optVal g v else W.ret [])
      (if hasFlag flags bit then R.map rg some else R.pure none) v := by
  unfold OptWF at h
  cases hf : hasFlag flags bit
  · simp only [hf, Bool.false_eq_true, if_false] at h ⊢
    rw [h]; exact Paired.of_reads (Reads.pure none)
  · simp only [hf, if_true] at h ⊢
    obtain ⟨x, rfl, hx⟩ := h
    simp only [W.optVal]
    exact Paired.map some (hg x hx)

theorem sym_paired (g : Val → W) (rg : R Val) (hg : ∀ v, ValWF v → Paired T (g v) rg v) (s : SymEntry) (h : SymWF s) :
    Paired T (W.seq (W.ret (pushint s.birth)) (W.seq (W.ret (pushint s.death)) (W.seq (W.ret (pushint s.slot)) (g s.sym))))
      (R.bind R.int fun b => R.bind R.int fun dth => R.bind R.int fun sl => R.map rg fun sym => SymEntry.mk b dth sl sym) s := by
  refine Paired.prefix (Reads.int _ h.1) ?_
  refine Paired.prefix (Reads.int _ h.2.1) ?_
  refine Paired.prefix (Reads.int _ h.2.2.1) ?_
  exact Paired.map (fun sym => SymEntry.mk s.birth s.death s.slot sym) (hg s.sym h.2.2.2)

theorem defBody_paired (g : Val → W) (gd : Nat → W) (rg : R Val) (rgd : R Nat) (df : Def)
    (hg : ∀ v, ValWF v → Paired T (g v) rg v) (hgd : ∀ di, Paired T (gd di) rgd di) (h : DefWF vf df) :
    Paired T (marshalDefBody g gd df) (unmarshalDefBody rg rgd vf) df := by
  unfold marshalDefBody unmarshalDefBody
  simp only [defHeader, W.ret_append_seq]
  have hsc : df.slotcount < 2147483648 := by have := h.slotcount; simp only [maxSlotcount] at this; omega
  refine Paired.prefix (Reads.int _ h.flags) ?_
  refine Paired.prefix (Reads.nat _ hsc) ?_
  refine Paired.skip (Reads.guard _ (by simpa using h.slotcount)) ?_
  refine Paired.prefix (Reads.nat _ h.arity) ?_
  refine Paired.prefix (Reads.nat _ h.minArity) ?_
  refine Paired.prefix (Reads.nat _ h.maxArity) ?_
  refine Paired.prefix (Reads.nat _ h.nconst) ?_
  refine Paired.prefix (Reads.nat _ h.nbytecode) ?_
  refine Paired.prefix (Reads.optNat _ _ _ h.nenvs (fun hf => by rw [h.envflag hf]; rfl)) ?_
  refine Paired.prefix (Reads.optNat _ _ _ h.ndefs (fun hf => by rw [h.defflag hf]; rfl)) ?_
  refine Paired.prefix (Reads.optNat _ _ _ h.nsyms (fun hf => by rw [h.symflag hf]; rfl)) ?_
  refine Paired.seq_bind (opt_paired T g rg hg _ _ _ h.name) ?_
  refine Paired.seq_bind (opt_paired T g rg hg _ _ _ h.source) ?_
  refine Paired.seq_bind (Paired.list df.constants fun v hv => hg v (h.constants v hv)) ?_
  refine Paired.seq_bind (a := df.symbolmap) ?_ ?_
  · cases hf : hasFlag df.flags fdHasSymbolMap
    · simp only [Bool.false_eq_true, if_false]
      rw [h.symflag hf]; exact Paired.of_reads (Reads.pure [])
    · simp only [if_true]
      exact Paired.list df.symbolmap fun s hs => sym_paired T g rg hg s (h.symbolmap s hs)
  refine Paired.prefix (Reads.u32s _ h.bytecode) ?_
  refine Paired.prefix (a := df.environments) ?_ ?_
  · cases hf : hasFlag df.flags fdHasEnvs
    · simp only [Bool.false_eq_true, if_false]
      rw [h.envflag hf]; exact Reads.pure []
    · simp only [if_true]
      exact Reads.envInts _ h.environments
  refine Paired.seq_bind (a := df.defs) ?_ ?_
  · cases hf : hasFlag df.flags fdHasDefs
    · simp only [Bool.false_eq_true, if_false]
      rw [h.defflag hf]; exact Paired.of_reads (Reads.pure [])
    · simp only [if_true]
      exact Paired.list df.defs fun di _ => hgd di
  refine Paired.prefix (a := df.sourcemap) ?_ ?_
  · have hs := h.sourcemap
    cases hf : hasFlag df.flags fdHasSourceMap
    · simp only [hf, Bool.false_eq_true, if_false] at hs ⊢
      rw [hs]; exact Reads.pure []
    · simp only [hf, if_true] at hs ⊢
      rw [← hs.1]; exact Reads.sourcemap _ 0 hs.2
  refine Paired.bind_tail (a := df.bitset) (Paired.of_reads ?_) ?_
  · have hs := h.bitset
    cases hf : hasFlag df.flags fdHasCloBitset
    · simp only [hf, Bool.false_eq_true, if_false] at hs ⊢
      rw [hs]; exact Reads.pure []
    · simp only [hf, if_true] at hs ⊢
      rw [← hs.1]; exact Reads.u32s _ hs.2
  · intro c tl
    have hv := h.verify
    simp [R.bind, R.guard, hv, R.pure, Out.append, Out.empty]


/-- the bytes `marshalC` writes before the children of a data object select the arm of `unmarshalC` that reads that many
    children and rebuilds the object (the numbering points of the two sides are separate generated constants: this is where
    they are compared); `hdos` is what the length test before the children loop asks for -/
theorem unmarshalC_obj (fu : Nat) (o : Obj) (hwf : ObjWF o) (c : Ct) (rest : List Nat) (hdos : o.shape.kids.length ≤ rest.length) :
    unmarshalC (fu + 1) vf c (o.shape.head ++ rest) =
      R.wrapObj o.shape.pre (R.listN (fun c d => unmarshalC fu vf c d) o.shape.kids.length) (fun vs => .data (o.decode vs))
        c rest := by
  cases o with
  | reg name =>
    have hb := (Reads.nat name.length hwf).bind_eq R.take { c with n := c.n + 1 } (name ++ rest)
    simp [Obj.shape, Obj.decode, unmarshalC, R.preObj, hb, Reads.take name _ rest, R.wrapObj, R.listN, R.pure, Out.empty]
  | real rb =>
    have h8 : rb.length = 8 := hwf
    have ht := Reads.take rb { c with n := c.n + 1 } rest
    rw [h8] at ht
    simp [Obj.shape, Obj.decode, unmarshalC, R.preObj, ht, R.wrapObj, R.listN, R.pure, Out.empty, markPreNumber]
  | str k sb =>
    have hb := (Reads.nat sb.length hwf).bind_eq R.take { c with n := c.n + 1 } (sb ++ rest)
    cases k <;>
      simp [Obj.shape, Obj.decode, strLead, unmarshalC, R.preObj, hb, Reads.take sb _ rest, R.wrapObj, R.listN,
        R.pure, Out.empty, markPreString]
  | buffer bb =>
    have hb := (Reads.nat bb.length hwf).bind_eq R.take { c with n := c.n + 1 } (bb ++ rest)
    simp [Obj.shape, Obj.decode, unmarshalC, R.preObj, hb, Reads.take bb _ rest, R.wrapObj, R.listN, R.pure,
      Out.empty, markPreBuffer]
  | array weak items =>
    have hd : items.length ≤ rest.length := hdos
    cases weak <;>
      simp [Obj.shape, Obj.decode, unmarshalC, (Reads.nat items.length hwf.1).bind_eq, R.dos_bind hd, pushPreArray, markPreArray]
  | tuple flag items =>
    have hd : items.length ≤ (pushint flag ++ rest).length := by
      have : items.length ≤ rest.length := hdos
      rw [List.length_append]; omega
    simp [Obj.shape, Obj.decode, unmarshalC, (Reads.nat items.length hwf.2.1).bind_eq, R.dos_bind hd,
      (Reads.int flag hwf.1).bind_eq, pushPreTuple, markPreTuple]
  | table weak proto kvs =>
    obtain ⟨hwk, _, hlen, _⟩ := hwf
    have hk : (kvChildren proto kvs).length ≤ rest.length := hdos
    rw [kvChildren_length] at hk
    have hd : kvs.length ≤ rest.length := by omega
    have hwk : weak = 0 ∨ weak = 1 ∨ weak = 2 ∨ weak = 3 := by omega
    rcases hwk with rfl | rfl | rfl | rfl <;> cases hps : proto.isSome <;>
      simp [Obj.shape, Obj.decode, unmarshalC, tableLead, tableOfLead, hps, kvChildren_length,
        (Reads.nat kvs.length hlen).bind_eq, R.dos_bind hd, pushPreTable, markPreTable]
  | struct proto kvs =>
    obtain ⟨_, hlen, _⟩ := hwf
    have hk : (kvChildren proto kvs).length ≤ rest.length := hdos
    rw [kvChildren_length] at hk
    have hd : kvs.length ≤ rest.length := by omega
    cases hps : proto.isSome <;>
      simp [Obj.shape, Obj.decode, unmarshalC, hps, kvChildren_length, (Reads.nat kvs.length hlen).bind_eq, R.dos_bind hd,
        pushPreStruct, markPreStruct]

theorem data_paired (fm fu id : Nat) (ih : OneOKC T vf fm) (hfu : fm ≤ fu) (o : Obj) (hwf : ObjWF o)
    (ho : T.objs[id]? = some (.data o)) (c : Ct) (bs : List Nat) (c' : Ct) (tl : List Nat) (hc : c ≤ T.size) (hn : ¬ id < c.n)
    (hw : marshalC (fm + 1) T (.ref id) c = some (bs, c')) :
    c ≤ c' ∧ c' ≤ T.size ∧ unmarshalC (fu + 1) vf c (bs ++ tl) = some (.ref id, tl, T.slice c c') := by
  rw [marshalC_obj fm T id o c ho hn] at hw
  obtain ⟨⟨cbs, c2⟩, hm, he⟩ := Option.map_eq_some_iff.mp hw
  obtain ⟨rfl, rfl⟩ := Prod.mk.inj he
  have ho' : T.objs[id]? = some (CObj.data (o.decode o.shape.kids)) := by rw [ho, Obj.decode_kids hwf]
  obtain ⟨k1, k2, k3⟩ := Paired.wrapObj (mk := fun vs => CObj.data (o.decode vs)) (a := o.shape.kids) o.shape.pre ho'
    (children_paired T vf fm fu ih hfu o.shape.kids (Obj.kids_wf hwf)) c cbs c2 tl hc hm
  have hlen := wrapMark_len T (getElem?_lt _ _ _ ho)
    (Paired.list_length (unmarshalC_nil vf fu) o.shape.kids fun v hv => ih fu hfu v (Obj.kids_wf hwf v hv)) c cbs c2 hc hm
  refine ⟨k1, k2, ?_⟩
  rw [List.append_assoc, unmarshalC_obj vf fu o hwf c (cbs ++ tl) (by rw [List.length_append]; omega)]
  exact k3

theorem func_paired (fm fu id di : Nat) (envs : List Nat) (ihd : DefOKC T vf fm) (ihe : EnvOKC T vf fm) (hfu : fm ≤ fu)
    (hl : envs.length ≤ maxFuncEnvs) (ho : T.objs[id]? = some (.func di envs)) :
    Paired T (W.lead lb_function (W.seq (W.int envs.length) (W.seq (W.markObj id)
        (W.seq (fun c => marshalDef fm T di c) (W.list (fun ei c => marshalEnv fm T ei c) envs)))))
      (fun c d => unmarshalC (fu + 1) vf c d) (.ref id) := by
  have e : ∀ c rest, unmarshalC (fu + 1) vf c (lb_function :: rest) =
      (R.bind R.nat fun len => R.bind (R.guard (len ≤ maxFuncEnvs)) fun _ =>
        R.preObj (R.bind (fun c d => unmarshalDef fu vf c d) fun di =>
                  R.map (R.listN (unmarshalEnvWith (fun c d => unmarshalC fu vf c d)) len) fun envs => (di, envs))
          (fun p => .func p.1 p.2)) c rest := by
    intro c rest; simp [unmarshalC]
  refine Paired.lead _ e ?_
  have hl' : envs.length < 2147483648 := by simp only [maxFuncEnvs] at hl; omega
  refine Paired.prefix (Reads.nat _ hl') ?_
  refine Paired.skip (Reads.guard _ (by simpa using hl)) ?_
  exact Paired.preObj (mk := fun p => CObj.func p.1 p.2) (a := (di, envs)) ho
    (Paired.seq_bind (ihd fu hfu di) (Paired.map _ (Paired.list envs fun ei _ => ihe fu hfu ei)))

/-- what `unmarshal_one_env` does when the lead byte is not `LB_FUNCENV_REF` -/
def envBody (g : R Val) : R Env :=
  R.bind R.nat fun offset => R.bind R.nat fun length =>
    if offset > 0 then R.map g fun fiber => Env.onstack offset length fiber
    else R.bind (R.guard (length ≠ 0)) fun _ => R.map (R.listN g length) fun vs => Env.detached vs

theorem env_nonref (g : R Val) (c : Ct) (lead : Nat) (rest : List Nat) (h : lead ≠ lb_funcenv_ref) :
    unmarshalEnvWith g c (lead :: rest) = R.preEnv (envBody g) c (lead :: rest) := by
  simp [unmarshalEnvWith, envBody, h]

theorem pushint_head_cons (i : Int) (more : List Nat) :
    ∃ lead rest, pushint i ++ more = lead :: rest ∧ lead ≠ lb_funcenv_ref ∧ lead ≠ lb_funcdef_ref := by
  obtain ⟨lead, rest, he, hl⟩ := pushint_head i
  refine ⟨lead, rest ++ more, by rw [he]; rfl, ?_, ?_⟩ <;> rcases hl with hl | hl <;> simp at hl ⊢ <;> omega

/-- `unmarshal_one_env` and `unmarshal_one_def` look at the lead byte only to tell a back reference from a new entry; a new entry
    starts with an integer (offset, flags), whose first byte is neither -/
theorem Paired.int_head {α : Type} {mark w : W} {r r' : R α} {a : α} (i : Int) (m : List Nat)
    (hmark : ∀ c bs c', mark c = some (bs, c') → bs = [])
    (e : ∀ c lead rest, lead ≠ lb_funcenv_ref → lead ≠ lb_funcdef_ref → r' c (lead :: rest) = r c (lead :: rest))
    (P : Paired T (W.seq mark (W.seq (W.ret (pushint i ++ m)) w)) r a) :
    Paired T (W.seq mark (W.seq (W.ret (pushint i ++ m)) w)) r' a := by
  intro c bs c' tl hc hw
  obtain ⟨k1, k2, k3⟩ := P c bs c' tl hc hw
  refine ⟨k1, k2, ?_⟩
  obtain ⟨b1, c1, b2, ha, hb, rfl⟩ := W.seq_some hw
  obtain rfl := hmark _ _ _ ha
  obtain ⟨b3, c3, b4, ha', _, rfl⟩ := W.seq_some hb
  obtain ⟨rfl, _⟩ := Prod.mk.inj (Option.some.inj ha')
  obtain ⟨lead, rest, he, h1, h2⟩ := pushint_head_cons i (m ++ b4 ++ tl)
  have e2 : [] ++ (pushint i ++ m ++ b4) ++ tl = lead :: rest := by
    rw [← he]; simp
  rw [e2, e c lead rest h1 h2, ← e2]; exact k3

theorem env_paired (fm fu : Nat) (hT : HeapCWF vf T) (ih : OneOKC T vf fm) (hfu : fm + 1 ≤ fu) (ei : Nat) :
    Paired T (fun c => marshalEnv (fm + 1) T ei c) (unmarshalEnvWith (fun c d => unmarshalC fu vf c d)) ei := by
  intro c bs c' tl hc hw
  simp only [marshalEnv] at hw
  by_cases hlt : ei < c.e
  · simp only [hlt, if_true, Option.some.injEq, Prod.mk.injEq] at hw
    obtain ⟨rfl, rfl⟩ := hw
    refine ⟨Ct.le_refl _, hc, ?_⟩
    have hi : Int32 (ei : Int) := by have := hT.nenvs; have := hc.2.2; simp only [Heap.size] at this; constructor <;> omega
    simp [unmarshalEnvWith, readint_pushint (ei : Int) tl hi.1 hi.2, hlt, Heap.slice_self]
  · simp only [hlt, if_false] at hw
    cases ho : T.envs[ei]? with
    | none => simp [ho] at hw
    | some ev =>
      have hwf := hT.envs ev (List.mem_of_getElem? ho)
      simp only [ho] at hw
      cases ev with
      | detached values =>
        obtain ⟨h0, h1, h2⟩ := hwf
        refine Paired.int_head T 0 _ (fun _ _ _ h => (W.markEnv_some h).2.1) (fun c lead rest h _ => env_nonref _ c lead rest h) ?_ c bs c' tl hc hw
        refine Paired.preEnv ho ?_
        rw [W.ret_append_seq]
        refine Paired.prefix (Reads.nat 0 (by omega)) ?_
        refine Paired.prefix (Reads.nat _ h1) ?_
        simp only [Nat.lt_irrefl, gt_iff_lt, if_false]
        refine Paired.skip (Reads.guard _ (by have hne : values.length ≠ 0 := by omega
                                              simpa using hne)) ?_
        exact Paired.map _ (children_paired T vf fm fu ih (by omega) values h2)
      | onstack offset length fiber =>
        obtain ⟨h0, h1, h2, h3⟩ := hwf
        refine Paired.int_head T offset _ (fun _ _ _ h => (W.markEnv_some h).2.1) (fun c lead rest h _ => env_nonref _ c lead rest h) ?_ c bs c' tl hc hw
        refine Paired.preEnv ho ?_
        rw [W.ret_append_seq]
        refine Paired.prefix (Reads.nat _ h1) ?_
        refine Paired.prefix (Reads.nat _ h2) ?_
        simp only [gt_iff_lt, h0, if_true]
        exact Paired.map _ (ih fu (by omega) fiber h3)

theorem def_nonref (fu : Nat) (c : Ct) (lead : Nat) (rest : List Nat) (h : lead ≠ lb_funcdef_ref) :
    unmarshalDef (fu + 1) vf c (lead :: rest) =
      R.preDef (unmarshalDefBody (fun c d => unmarshalC fu vf c d) (fun c d => unmarshalDef fu vf c d) vf) c (lead :: rest) := by
  simp [unmarshalDef, h]

theorem def_paired (fm fu : Nat) (hT : HeapCWF vf T) (ih : OneOKC T vf fm) (ihd : DefOKC T vf fm) (hfu : fm ≤ fu) (di : Nat) :
    Paired T (fun c => marshalDef (fm + 1) T di c) (fun c d => unmarshalDef (fu + 1) vf c d) di := by
  intro c bs c' tl hc hw
  simp only [marshalDef] at hw
  by_cases hlt : di < c.d
  · simp only [hlt, if_true, Option.some.injEq, Prod.mk.injEq] at hw
    obtain ⟨rfl, rfl⟩ := hw
    refine ⟨Ct.le_refl _, hc, ?_⟩
    have hi : Int32 (di : Int) := by have := hT.ndefs; have := hc.2.1; simp only [Heap.size] at this; constructor <;> omega
    simp [unmarshalDef, readint_pushint (di : Int) tl hi.1 hi.2, hlt, Heap.slice_self]
  · simp only [hlt, if_false] at hw
    cases ho : T.defs[di]? with
    | none => simp [ho] at hw
    | some df =>
      have hwf := hT.defs df (List.mem_of_getElem? ho)
      simp only [ho] at hw
      exact Paired.int_head T df.flags _ (fun _ _ _ h => (W.markDef_some h).2.1) (fun c lead rest _ h => def_nonref vf fu c lead rest h)
        (Paired.preDef ho (defBody_paired T vf (fun v c => marshalC fm T v c) (fun sd c => marshalDef fm T sd c)
          (fun c d => unmarshalC fu vf c d) (fun c d => unmarshalDef fu vf c d) df (fun v hv => ih fu hfu v hv) (fun sd => ihd fu hfu sd) hwf))
        c bs c' tl hc hw


theorem frames_paired (g : Val → W) (ge : Nat → W) (rg : R Val) (rge : R Nat)
    (hg : ∀ v, ValWF v → Paired T (g v) rg v) (hge : ∀ ei, Paired T (ge ei) rge ei) :
    ∀ (frames : List Frame) (lf stack stacktop : Nat), stack < lf → FramesWF stack stacktop frames →
      Paired T (W.list (marshalFrame g ge) frames) (readFrames rg rge lf stack stacktop) frames := by
  intro frames
  induction frames with
  | nil =>
    intro lf stack stacktop hlf h
    have h0 : stack = 0 := h
    subst h0
    obtain ⟨lf', rfl⟩ : ∃ k, lf = k + 1 := ⟨lf - 1, by omega⟩
    simp only [readFrames, if_true, W.list]
    exact Paired.of_reads (Reads.pure [])
  | cons fr rest ih =>
    intro lf stack stacktop hlf h
    obtain ⟨h1, h2, h3, h4, h5, h6, h7, h8, h9, h10⟩ := h
    obtain ⟨lf', rfl⟩ : ∃ k, lf = k + 1 := ⟨lf - 1, by omega⟩
    have hs : ¬ stack = 0 := by omega
    simp only [readFrames, hs, if_false, W.list, marshalFrame]
    rw [W.seq_assoc, W.seq_assoc, W.seq_assoc, W.ret_append_seq, W.ret_append_seq]
    have hfl : Int32 (frameWireFlags fr) := by
      unfold frameWireFlags; cases fr.env <;> simp [Int32] <;> omega
    simp only [frameSize] at h5
    refine Paired.prefix (Reads.int _ hfl) ?_
    refine Paired.prefix (Reads.nat _ (by omega)) ?_
    refine Paired.prefix (Reads.nat _ h6) ?_
    refine Paired.seq_bind (hg fr.func h7) ?_
    refine Paired.seq_bind (a := fr.env) ?_ ?_
    · unfold frameWireFlags
      cases he : fr.env with
      | none =>
        have : ¬ fr.flags < 0 := by omega
        simp only [Option.isSome_none, Bool.false_eq_true, if_false, this]
        exact Paired.of_reads (Reads.pure none)
      | some ei =>
        have : fr.flags - 2147483648 < 0 := by omega
        simp only [Option.isSome_some, if_true, this]
        exact Paired.map some (hge ei)
    refine Paired.skip (Reads.guard _ (by simp [frameSize]; omega)) ?_
    refine Paired.seq_bind (a := fr.slots) ?_ ?_
    · rw [← h8]; exact Paired.list fr.slots fun v hv => hg v (h9 v hv)
    refine Paired.value_eq (Paired.map _ (ih lf' fr.prevframe (stack - frameSize) (by omega) h10)) ?_
    congr 1
    cases fr with
    | mk fl pf pc fn ev sl =>
      simp only [frameWireFlags, Frame.mk.injEq, and_true]
      simp only at h3 h4
      cases ev <;> simp <;> omega

theorem hasFlag_wire (flags : Int) (env child : Option Val) (h0 : 0 ≤ flags ∧ flags < 2147483648)
    (h1 : hasFlag flags fiberHasEnv = false) (h2 : hasFlag flags fiberHasChild = false) :
    hasFlag (fiberWireFlags flags env child) fiberHasEnv = env.isSome ∧
    hasFlag (fiberWireFlags flags env child) fiberHasChild = child.isSome ∧
    Int32 (fiberWireFlags flags env child) ∧
    fiberWireFlags flags env child - (if env.isSome then fiberHasEnv else 0) - (if child.isSome then fiberHasChild else 0) = flags := by
  -- both bits clear below 2^31: the flags proper lie below the lower of the two
  have lt : flags < 536870912 := by
    simp only [hasFlag, fiberHasEnv, fiberHasChild, decide_eq_false_iff_not] at h1 h2
    omega
  clear h1 h2
  cases env <;> cases child <;>
    simp only [fiberWireFlags, hasFlag, fiberHasEnv, fiberHasChild, Option.isSome_none, Option.isSome_some, Bool.false_eq_true,
      if_false, if_true, decide_eq_true_eq, decide_eq_false_iff_not, Int32] <;>
    refine ⟨?_, ?_, ?_, ?_⟩ <;> omega

theorem fiberBody_paired (g : Val → W) (ge : Nat → W) (rg : R Val) (rge : R Nat)
    (hg : ∀ v, ValWF v → Paired T (g v) rg v) (hge : ∀ ei, Paired T (ge ei) rge ei)
    (flags : Int) (frame stackstart stacktop maxstack : Nat) (frames : List Frame) (env child : Option Val) (last : Val)
    (h : FiberWF flags frame stackstart stacktop maxstack frames env child last) :
    Paired T (marshalFiberBody g ge flags frame stackstart stacktop maxstack frames env child last)
      (unmarshalFiberBody rg rge) (.fiber flags frame stackstart stacktop maxstack frames env child last) := by
  obtain ⟨w1, w2, w3, w4⟩ := hasFlag_wire flags env child h.hflags h.noEnvBit h.noChildBit
  obtain ⟨s1, s2, s3, s4⟩ := h.setup
  simp only [frameSize] at s1
  unfold marshalFiberBody unmarshalFiberBody
  rw [W.ret_append_seq, W.ret_append_seq, W.ret_append_seq, W.ret_append_seq]
  refine Paired.prefix (Reads.int _ w3) ?_
  refine Paired.prefix (Reads.nat _ (by omega)) ?_
  refine Paired.prefix (Reads.nat _ (by omega)) ?_
  refine Paired.prefix (Reads.nat _ (by omega)) ?_
  refine Paired.prefix (Reads.nat _ s4) ?_
  refine Paired.skip (Reads.guard _ (by simp [frameSize]; omega)) ?_
  refine Paired.seq_bind (frames_paired T g ge rg rge hg hge frames (frame + 1) frame (stackstart - frameSize) (by omega) h.hframes) ?_
  refine Paired.seq_bind (a := env) ?_ ?_
  · rw [w1]
    cases env with
    | none => simp only [Option.isSome_none, Bool.false_eq_true, if_false]; exact Paired.of_reads (Reads.pure none)
    | some v => simp only [Option.isSome_some, if_true]; exact Paired.map some (hg v (h.henv v rfl))
  refine Paired.seq_bind (a := child) ?_ ?_
  · rw [w2]
    cases child with
    | none => simp only [Option.isSome_none, Bool.false_eq_true, if_false]; exact Paired.of_reads (Reads.pure none)
    | some v => simp only [Option.isSome_some, if_true]; exact Paired.map some (hg v (h.hchild v rfl))
  refine Paired.value_eq (Paired.map _ (hg last h.hlast)) ?_
  unfold fiberMemFlags
  rw [w1, w2, w4]

theorem one_paired (fm fu : Nat) (hT : HeapCWF vf T) (ih : OneOKC T vf fm) (ihd : DefOKC T vf fm) (ihe : EnvOKC T vf fm)
    -- the fiber case steps down two levels at once (`marshal_one_fiber` has a stack check of its own)
    (ihp : ∀ k, k < fm → OneOKC T vf k ∧ EnvOKC T vf k)
    (hfu : fm ≤ fu) (x : Val) (hx : ValWF x) :
    Paired T (fun c => marshalC (fm + 1) T x c) (fun c d => unmarshalC (fu + 1) vf c d) x := by
  intro c bs c' tl hc hw
  cases x with
  | nil =>
    simp [marshalC, W.ret] at hw
    obtain ⟨rfl, rfl⟩ := hw
    exact ⟨Ct.le_refl _, hc, by simp [unmarshalC, Heap.slice_self]⟩
  | bool b =>
    simp [marshalC, W.ret] at hw
    obtain ⟨rfl, rfl⟩ := hw
    refine ⟨Ct.le_refl _, hc, ?_⟩
    cases b <;> simp [unmarshalC, Heap.slice_self]
  | int i =>
    simp [marshalC, W.int, W.ret] at hw
    obtain ⟨rfl, rfl⟩ := hw
    obtain ⟨lead, rest, he, hl⟩ := pushint_head i
    have hr := readint_pushint i tl hx.1 hx.2
    refine ⟨Ct.le_refl _, hc, ?_⟩
    rw [he] at hr ⊢
    simp only [List.cons_append] at hr ⊢
    simp [unmarshalC, hl, R.map, R.int, hr, Heap.slice_self]
  | ref id =>
    have hw0 := hw
    simp only [marshalC] at hw
    by_cases hlt : id < c.n
    · simp only [hlt, if_true, Option.some.injEq, Prod.mk.injEq] at hw
      obtain ⟨rfl, rfl⟩ := hw
      refine ⟨Ct.le_refl _, hc, ?_⟩
      have hid : id < 2147483648 := by have := hT.nobjs; have := hc.1; simp only [Heap.size] at this; omega
      simp [unmarshalC, readnat_pushint id tl hid, hlt, Heap.slice_self]
    · simp only [hlt, if_false] at hw
      cases ho : T.objs[id]? with
      | none => simp [ho] at hw
      | some o =>
        have hwf := hT.objs o (List.mem_of_getElem? ho)
        simp only [ho] at hw
        cases o with
        | func di envs =>
          exact func_paired T vf fm fu id di envs ihd ihe hfu hwf ho c bs c' tl hc hw
        | abs _ _ _ => simp [W.fail] at hw
        | fiber flags frame stackstart stacktop maxstack frames env child last =>
          have hwf' : FiberWF flags frame stackstart stacktop maxstack frames env child last := hwf
          cases fm with
          | zero =>
            obtain ⟨b1, c1, b2, _, hb, _⟩ := W.seq_some hw
            simp [W.lead, W.fail] at hb
          | succ f =>
            obtain ⟨fu', rfl⟩ : ∃ k, fu = k + 1 := ⟨fu - 1, by omega⟩
            obtain ⟨ih1, ih3⟩ := ihp f (by omega)
            have e : ∀ c rest, unmarshalC (fu' + 1 + 1) vf c (lb_fiber :: rest) =
                R.preObj (unmarshalFiberBody (fun c d => unmarshalC fu' vf c d) (unmarshalEnvWith (fun c d => unmarshalC fu' vf c d))) _root_.id c rest := by
              intro c rest; simp [unmarshalC]
            have P : Paired T (W.seq (W.markObj id) (W.lead lb_fiber (marshalFiberBody (fun v c => marshalC f T v c) (fun ei c => marshalEnv f T ei c)
                  flags frame stackstart stacktop maxstack frames env child last)))
                (fun c d => unmarshalC (fu' + 1 + 1) vf c d) (.ref id) := by
              rw [W.markObj_lead_comm]
              refine Paired.lead _ e ?_
              exact Paired.preObj (mk := _root_.id) ho
                (fiberBody_paired T _ _ _ _ (fun v hv => ih1 fu' (by omega) v hv) (fun ei => ih3 fu' (by omega) ei)
                  flags frame stackstart stacktop maxstack frames env child last hwf')
            exact P c bs c' tl hc hw
        | data d => exact data_paired T vf fm fu id ih hfu d hwf ho c bs c' tl hc hlt hw0

theorem all_roundtrip_le (hT : HeapCWF vf T) : ∀ fm k, k ≤ fm → OneOKC T vf k ∧ DefOKC T vf k ∧ EnvOKC T vf k := by
  intro fm
  induction fm with
  | zero =>
    intro k hk
    obtain rfl : k = 0 := by omega
    refine ⟨?_, ?_, ?_⟩
    · intro fu _ x _ c bs c' tl _ hw; simp [marshalC, W.fail] at hw
    · intro fu _ di c bs c' tl _ hw; simp [marshalDef, W.fail] at hw
    · intro fu _ ei c bs c' tl _ hw; simp [marshalEnv, W.fail] at hw
  | succ f ih =>
    intro k hk
    by_cases hle : k ≤ f
    · exact ih k hle
    · obtain rfl : k = f + 1 := by omega
      obtain ⟨ih1, ih2, ih3⟩ := ih f (Nat.le_refl _)
      refine ⟨?_, ?_, ?_⟩
      · intro fu hfu x hx
        obtain ⟨fu', rfl⟩ : ∃ k, fu = k + 1 := ⟨fu - 1, by omega⟩
        exact one_paired T vf f fu' hT ih1 ih2 ih3 (fun j hj => ⟨(ih j (by omega)).1, (ih j (by omega)).2.2⟩) (by omega) x hx
      · intro fu hfu di
        obtain ⟨fu', rfl⟩ : ∃ k, fu = k + 1 := ⟨fu - 1, by omega⟩
        exact def_paired T vf f fu' hT ih1 ih2 (by omega) di
      · intro fu hfu ei
        exact env_paired T vf f fu hT ih1 hfu ei

theorem all_roundtrip (hT : HeapCWF vf T) (fm : Nat) : OneOKC T vf fm ∧ DefOKC T vf fm ∧ EnvOKC T vf fm :=
  all_roundtrip_le T vf hT fm fm (Nat.le_refl _)

end

end JanetModel.Marsh
