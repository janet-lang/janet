import JanetModel.Marsh.EnvBitset

namespace JanetModel.Marsh
open JanetModel.Gen.Marsh

theorem slotCaptured_spec (bitset : List Nat) (hw : ∀ w ∈ bitset, w < 4294967296) :
    ∀ i, slotCaptured bitset i = (bitsetValue bitset).testBit i := by
  induction bitset with
  | nil =>
    intro i
    simp [slotCaptured, bitsetValue]
  | cons w ws ih =>
    intro i
    have hw0 : w < 2 ^ 32 := by have := hw w (by simp); omega
    have ih' := ih (fun x hx => hw x (by simp [hx]))
    unfold bitsetValue
    have e : (4294967296 : Nat) = 2 ^ 32 := by decide
    rw [e, Nat.testBit_two_pow_mul_add _ hw0]
    by_cases c : i < 32
    · rw [if_pos c]
      have h0 : i / 2 ^ envWordShift = 0 := by simp [envWordShift]; omega
      have h1 : i % (envBitMask + 1) = i := by simp [envBitMask]; omega
      simp [slotCaptured, h0, h1, Nat.testBit_eq_decide_div_mod_eq]
    · rw [if_neg c, ← ih' (i - 32)]
      have h0 : i / 2 ^ envWordShift = (i - 32) / 2 ^ envWordShift + 1 := by simp [envWordShift]; omega
      have h1 : i % (envBitMask + 1) = (i - 32) % (envBitMask + 1) := by simp [envBitMask]; omega
      simp [slotCaptured, h0, h1]

theorem envWalkFrom_spec {α : Type} (bitset : List Nat) (nil : α) :
    ∀ (values : List α) (start k : Nat), k < values.length →
      (envWalkFrom bitset nil start values)[k]? =
        some (if slotCaptured bitset (start + k) then values.getD k nil else nil) := by
  intro values
  induction values with
  | nil => intro start k hk; simp at hk
  | cons v vs ih =>
    intro start k hk
    cases k with
    | zero => simp [envWalkFrom]
    | succ k =>
      simp only [envWalkFrom, List.getElem?_cons_succ]
      rw [ih (start + 1) k (by simpa using hk)]
      have : start + 1 + k = start + (k + 1) := by omega
      simp [this]

theorem envWalkFrom_length {α : Type} (bitset : List Nat) (nil : α) :
    ∀ (values : List α) (start : Nat), (envWalkFrom bitset nil start values).length = values.length := by
  intro values
  induction values with
  | nil => intro _; simp [envWalkFrom]
  | cons v vs ih => intro s; simp [envWalkFrom, ih]

end JanetModel.Marsh
