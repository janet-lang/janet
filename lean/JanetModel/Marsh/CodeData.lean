/-
Conservativity: on a heap without code objects, `marshalC` (Code.lean) is `marshalOne` (Graph.lean).  So the round trips of the two
models are about the same marshaller on data (the unmarshallers are not related here).
-/
import JanetModel.Marsh.CodeLemmas

namespace JanetModel.Marsh
open JanetModel.Gen.Marsh

/-- a data heap seen as tables without funcdefs / environments -/
def dataHeap (H : List Obj) : Heap := ⟨H.map CObj.data, [], []⟩

def liftRes (r : Option (List Nat × Nat)) : Option (List Nat × Ct) := r.map fun p => (p.1, ⟨p.2, 0, 0⟩)

theorem wrapMark_data (pre : Bool) (id n : Nat) (w : W) (children : Nat → Option (List Nat × Nat))
    (h : ∀ m, w ⟨m, 0, 0⟩ = liftRes (children m)) :
    W.wrapMark pre id w ⟨n, 0, 0⟩ = liftRes (wrapMark pre n id children) := by
  cases pre
  · simp only [W.wrapMark, wrapMark, Bool.false_eq_true, if_false, W.seq, h n]
    cases hc : children n with
    | none => simp [liftRes]
    | some p =>
      obtain ⟨bs, n1⟩ := p
      simp only [liftRes, Option.map_some, W.markObj, markSeen]
      by_cases e : id = n1 <;> simp [e]
  · simp only [W.wrapMark, wrapMark, if_true, W.seq, W.markObj, markSeen]
    by_cases e : id = n
    · simp only [e, if_true, h (n + 1)]
      cases hc : children (n + 1) with
      | none => simp [liftRes]
      | some p => obtain ⟨bs, n1⟩ := p; simp [liftRes]
    · simp [e, liftRes]

theorem list_data (T : Heap) (f : Nat) (H : List Obj)
    (ih : ∀ x n, marshalC f T x ⟨n, 0, 0⟩ = liftRes (marshalOne f H n x)) :
    ∀ items n, W.list (fun v c => marshalC f T v c) items ⟨n, 0, 0⟩ =
      liftRes (marshalList (fun a b => marshalOne f H a b) n items) := by
  intro items
  induction items with
  | nil => intro n; simp [W.list, W.ret, marshalList, liftRes]
  | cons x xs ihl =>
    intro n
    simp only [W.list, W.seq, marshalList, ih x n]
    cases hx : marshalOne f H n x with
    | none => simp [liftRes]
    | some p =>
      obtain ⟨b1, n1⟩ := p
      simp only [liftRes, Option.map_some, ihl n1]
      cases hl : marshalList (fun a b => marshalOne f H a b) n1 xs with
      | none => simp
      | some q => obtain ⟨b2, n2⟩ := q; simp

/-- **the two models agree on data**: for every data heap, value, counter and depth budget -/
theorem marshalC_data (H : List Obj) : ∀ (fuel : Nat) (x : Val) (n : Nat),
    marshalC fuel (dataHeap H) x ⟨n, 0, 0⟩ = liftRes (marshalOne fuel H n x) := by
  intro fuel
  induction fuel with
  | zero => intro x n; simp [marshalC, marshalOne, W.fail, liftRes]
  | succ f ih =>
    intro x n
    cases x with
    | nil => simp [marshalC, marshalOne, W.ret, liftRes]
    | bool b => simp [marshalC, marshalOne, W.ret, liftRes]
    | int i => simp [marshalC, marshalOne, W.int, W.ret, liftRes]
    | ref id =>
      by_cases hlt : id < n
      · simp [marshalC, marshalOne, hlt, liftRes]
      · cases ho : H[id]? with
        | none => simp [marshalC, marshalOne, hlt, dataHeap, ho, liftRes]
        | some o =>
          have hd : (dataHeap H).objs[id]? = some (.data o) := by simp [dataHeap, ho]
          rw [marshalC_obj f _ id o ⟨n, 0, 0⟩ hd hlt, marshalOne_obj f H n id o ho hlt,
            wrapMark_data o.shape.pre id n _ _ fun m => list_data (dataHeap H) f H ih o.shape.kids m]
          cases wrapMark o.shape.pre n id _ <;> rfl

end JanetModel.Marsh
