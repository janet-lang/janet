/-
Round trip of the abstract-type hook protocol (Marsh/Abstract.lean): whatever a marshal hook writes through its context is
read back, call by call, by any unmarshal hook that is `WellPaired` with it; the boxed-integer, channel and PEG hooks are.
-/
import JanetModel.Marsh.Abstract
import JanetModel.Marsh.CodeRoundtrip
import JanetModel.Marsh.SizeLemmas

namespace JanetModel.Marsh
open JanetModel.Gen.Marsh

/-- what the C types of the context calls guarantee -/
def ItemWF : AItem → Prop
  | .int i => Int32 i
  | .i64 u => u < 18446744073709551616
  | .byte _ => True
  | .bytes _ => True
  | .janet v => ValWF v

theorem Reads.i64 (u : Nat) (h : u < 18446744073709551616) : Reads R.i64 (push64 u) u := by
  intro c tl
  simp [R.i64, read64_push64 u tl h]

theorem Reads.byte (b : Nat) : Reads R.byte [b] b := by
  intro c tl
  simp [R.byte]

section
variable (T : Heap) (g : Val → W) (rg : R Val) (hg : ∀ v, ValWF v → Paired T (g v) rg v)
include hg

theorem post_paired : ∀ (post : List AItem) (prog : Prog), acceptsPost prog post = true → (∀ it ∈ post, ItemWF it) →
    Paired T (W.list (W.item g) post) (readPost rg prog) post := by
  intro post
  induction post with
  | nil =>
    intro prog h _
    cases prog <;> simp [acceptsPost] at h
    exact Paired.of_reads (Reads.pure [])
  | cons it rest ih =>
    intro prog h hwf
    have hit := hwf it (by simp)
    have hrest : ∀ x ∈ rest, ItemWF x := fun x hx => hwf x (by simp [hx])
    cases it with
    | int i =>
      cases prog <;> simp [acceptsPost] at h
      rename_i k
      simp only [W.list, W.item, readPost]
      exact Paired.prefix (Reads.int i hit) (Paired.map _ (ih (k i) h hrest))
    | i64 u =>
      cases prog <;> simp [acceptsPost] at h
      rename_i k
      simp only [W.list, W.item, readPost]
      exact Paired.prefix (Reads.i64 u hit) (Paired.map _ (ih (k u) h hrest))
    | byte b =>
      cases prog <;> simp [acceptsPost] at h
      rename_i k
      simp only [W.list, W.item, readPost]
      exact Paired.prefix (Reads.byte b) (Paired.map _ (ih (k b) h hrest))
    | bytes bs =>
      cases prog <;> simp [acceptsPost] at h
      rename_i n k
      obtain ⟨rfl, h2⟩ := h
      simp only [W.list, W.item, readPost]
      exact Paired.prefix (Reads.take bs) (Paired.map _ (ih (k bs) h2 hrest))
    | janet v =>
      cases prog <;> simp [acceptsPost] at h
      rename_i k
      simp only [W.list, W.item, readPost]
      exact Paired.seq_bind (hg v hit) (Paired.map _ (ih (k v) h hrest))

theorem pre_paired : ∀ (pre : List AItem) (prog k : Prog), acceptsPre prog pre = some k → (∀ it ∈ pre, ItemWF it) →
    Paired T (W.list (W.item g) pre) (readPre rg prog) (pre, k) := by
  intro pre
  induction pre with
  | nil =>
    intro prog k h _
    cases prog <;> simp [acceptsPre] at h
    subst h
    exact Paired.of_reads (Reads.pure _)
  | cons it rest ih =>
    intro prog k0 h hwf
    have hit := hwf it (by simp)
    have hrest : ∀ x ∈ rest, ItemWF x := fun x hx => hwf x (by simp [hx])
    cases it with
    | int i =>
      cases prog <;> simp [acceptsPre] at h
      rename_i k
      simp only [W.list, W.item, readPre]
      exact Paired.prefix (Reads.int i hit) (Paired.map (fun p => (AItem.int i :: p.1, p.2)) (ih (k i) k0 h hrest))
    | i64 u =>
      cases prog <;> simp [acceptsPre] at h
      rename_i k
      simp only [W.list, W.item, readPre]
      exact Paired.prefix (Reads.i64 u hit) (Paired.map (fun p => (AItem.i64 u :: p.1, p.2)) (ih (k u) k0 h hrest))
    | byte b =>
      cases prog <;> simp [acceptsPre] at h
      rename_i k
      simp only [W.list, W.item, readPre]
      exact Paired.prefix (Reads.byte b) (Paired.map (fun p => (AItem.byte b :: p.1, p.2)) (ih (k b) k0 h hrest))
    | bytes bs =>
      cases prog <;> simp [acceptsPre] at h
      rename_i n k
      obtain ⟨rfl, h2⟩ := h
      simp only [W.list, W.item, readPre]
      exact Paired.prefix (Reads.take bs) (Paired.map (fun p => (AItem.bytes bs :: p.1, p.2)) (ih (k bs) k0 h2 hrest))
    | janet v =>
      cases prog <;> simp [acceptsPre] at h
      rename_i k
      simp only [W.list, W.item, readPre]
      exact Paired.seq_bind (hg v hit) (Paired.map (fun p => (AItem.janet v :: p.1, p.2)) (ih (k v) k0 h hrest))

end

/-- **Hook protocol round trip.**  Whatever `pre`, MARK_SEEN, `post` a marshal hook emits, an unmarshal hook that is
`WellPaired` with it reads back exactly `pre` and `post`, pushes the abstract on the lookup table at the same reference
number, and leaves the buffer where the marshaller stopped; values passed through `janet_marshal_janet` come back with their
sharing (they go through `g` / `rg`, for which `roundtrip_code` provides the hypothesis `hg`). -/
theorem hook_paired (T : Heap) (g : Val → W) (rg : R Val) (hg : ∀ v, ValWF v → Paired T (g v) rg v)
    (prog : Prog) (pre post : List AItem) (hwp : WellPaired prog pre post)
    (hpre : ∀ it ∈ pre, ItemWF it) (hpost : ∀ it ∈ post, ItemWF it)
    (mk : List AItem → List AItem → CObj) (id : Nat) (ho : T.objs[id]? = some (mk pre post)) :
    Paired T (marshalHook g id pre post) (unmarshalHook rg prog mk) (.ref id) := by
  obtain ⟨k, hk1, hk2⟩ := hwp
  unfold marshalHook unmarshalHook
  exact Paired.midObj (mk := fun p post => mk p.1 post) (a := (pre, k)) (b := post) ho
    (pre_paired T g rg hg pre prog k hk1 hpre) (post_paired T g rg hg post k hk2 hpost)

theorem int64_wellPaired (u : Nat) : WellPaired int64Prog (int64Items u).1 (int64Items u).2 :=
  ⟨_, rfl, by simp [int64Items, acceptsPost]⟩

theorem acceptsPost_janetN (items : List Val) : acceptsPost (janetN items.length .done) (items.map .janet) = true := by
  induction items with
  | nil => simp [janetN, acceptsPost]
  | cons v vs ih => simp [janetN, acceptsPost, ih]

theorem chan_wellPaired (threaded closed : Nat) (limit : Int) (items : List Val) :
    WellPaired chanProg (chanItems threaded closed limit items).1 (chanItems threaded closed limit items).2 := by
  have hc : ¬ ((items.length : Int) < 0) := by omega
  exact ⟨.byte fun _ => .int fun _ => .int fun count => if count < 0 then .fail else janetN count.toNat .done,
    by simp [chanProg, chanItems, acceptsPre], by simp [chanItems, acceptsPost, hc, acceptsPost_janetN]⟩

theorem acceptsPost_intN (is : List Int) (rest : List AItem) (k : Prog) (h : acceptsPost k rest = true) :
    acceptsPost (intN is.length k) (is.map .int ++ rest) = true := by
  induction is with
  | nil => simpa [intN] using h
  | cons i is ih => simpa [intN, acceptsPost] using ih

theorem peg_wellPaired (bytecode : List Int) (constants : List Val) (hb : bytecode.length ≤ 2147483647) :
    WellPaired pegProg (pegItems bytecode constants).1 (pegItems bytecode constants).2 := by
  have h1 : ¬ (bytecode.length > 2147483647 ∨ (constants.length : Int) < 0) := by omega
  refine ⟨intN bytecode.length (janetN constants.length .done), ?_, ?_⟩
  · simp [pegProg, pegItems, acceptsPre, h1]
  · have := acceptsPost_intN bytecode (constants.map .janet) (janetN constants.length .done) (acceptsPost_janetN constants)
    simpa [pegItems] using this

end JanetModel.Marsh
