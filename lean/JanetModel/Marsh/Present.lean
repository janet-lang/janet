/-
`marshal_one` on a heap in **arbitrary** (address) order, with the `st->seen` table explicit — and, as a by-product of the same
traversal, the presentation of the graph in reference-number order (what `harness/C09/graph.janet: describe` computes).
Core Lean only.

  * `G : List Obj` is the heap indexed by *address*: `.ref a` points to `G[a]`; no order is assumed.
  * `Seen` = `st->seen`: pairs (address, number), newest binding first (`janet_table_put` replaces an older binding, so a tuple
    that is numbered a second time — reached again while it is still being written — is found under its newer number).
  * `presentOne` walks exactly like `marshalOne` (Graph.lean) / marsh.c: seen-lookup first, numbering point of the containers from the
    generated `markPre*` (a childless object is numbered at the same point either way), children with `fuel - 1`; it returns the bytes, the value renamed to reference numbers, the objects
    numbered during this call in numbering order (children renamed), and the new table.
-/
import JanetModel.Marsh.Graph

namespace JanetModel.Marsh
open JanetModel.Gen.Marsh

abbrev Seen := List (Nat × Nat)

/-- `janet_table_get(&st->seen, x)` -/
def Seen.find (s : Seen) (a : Nat) : Option Nat := (s.find? (fun p => p.1 == a)).map (·.2)

abbrev PResult (α : Type) := Option (List Nat × α × List Obj × Seen)

/-- the children loop: state = (seen, nextid) -/
def presentList (g : Seen → Nat → Val → PResult Val) : Seen → Nat → List Val → PResult (List Val)
  | s, _, [] => some ([], [], [], s)
  | s, n, v :: vs =>
    match g s n v with
    | none => none
    | some (b1, v', o1, s1) =>
      match presentList g s1 (n + o1.length) vs with
      | none => none
      | some (b2, vs', o2, s2) => some (b1 ++ b2, v' :: vs', o1 ++ o2, s2)

/-- a container at address `a`: MARK_SEEN before (`pre`) or after the children; `mk` rebuilds the object from the renamed children -/
def presentBox (pre : Bool) (a : Nat) (s : Seen) (n : Nat) (children : Seen → Nat → PResult (List Val)) (mk : List Val → Obj) :
    PResult Val :=
  if pre then
    match children ((a, n) :: s) (n + 1) with
    | none => none
    | some (bs, vs, objs, s') => some (bs, .ref n, mk vs :: objs, s')
  else
    match children s n with
    | none => none
    | some (bs, vs, objs, s') => some (bs, .ref (n + objs.length), objs ++ [mk vs], (a, n + objs.length) :: s')

/-- table / struct rebuilt from its renamed children (prototype first, then key, value, …) -/
def mkTable (weak : Nat) (hasProto : Bool) (vs : List Val) : Obj :=
  .table weak (splitProto hasProto vs).1 (pairUp (splitProto hasProto vs).2)

def mkStruct (hasProto : Bool) (vs : List Val) : Obj :=
  .struct (splitProto hasProto vs).1 (pairUp (splitProto hasProto vs).2)

def withHeader (hd : List Nat) (r : PResult Val) : PResult Val := r.map fun p => (hd ++ p.1, p.2)

/-- `marshal_one` with the seen table; `n` = `st->nextid` -/
def presentOne : Nat → List Obj → Seen → Nat → Val → PResult Val
  | 0, _, _, _, _ => none
  | fuel + 1, G, s, n, x =>
    match x with
    | .nil => some ([lb_nil], .nil, [], s)
    | .bool b => some ([if b then lb_true else lb_false], .bool b, [], s)
    | .int i => some (pushint i, .int i, [], s)
    | .ref a =>
      match s.find a with
      | some id => some (lb_reference :: pushint id, .ref id, [], s)
      | none =>
        match G[a]? with
        | none => none
        | some o =>
          match o with
          | .reg name => some (lb_registry :: (pushint name.length ++ name), .ref n, [.reg name], (a, n) :: s)
          | .real bs => some (lb_real :: bs, .ref n, [.real bs], (a, n) :: s)
          | .str k bs => some (strLead k :: (pushint bs.length ++ bs), .ref n, [.str k bs], (a, n) :: s)
          | .buffer bs => some (lb_buffer :: (pushint bs.length ++ bs), .ref n, [.buffer bs], (a, n) :: s)
          | .array weak items =>
            withHeader ((if weak then lb_array_weak else lb_array) :: pushint items.length)
              (presentBox markPreArray a s n (fun s m => presentList (fun s m v => presentOne fuel G s m v) s m items) (fun vs => .array weak vs))
          | .tuple flag items =>
            withHeader (lb_tuple :: (pushint items.length ++ pushint flag))
              (presentBox markPreTuple a s n (fun s m => presentList (fun s m v => presentOne fuel G s m v) s m items) (fun vs => .tuple flag vs))
          | .table weak proto kvs =>
            withHeader (tableLead weak proto.isSome :: pushint kvs.length)
              (presentBox markPreTable a s n (fun s m => presentList (fun s m v => presentOne fuel G s m v) s m (kvChildren proto kvs))
                (mkTable weak proto.isSome))
          | .struct proto kvs =>
            withHeader ((if proto.isSome then lb_struct_proto else lb_struct) :: pushint kvs.length)
              (presentBox markPreStruct a s n (fun s m => presentList (fun s m v => presentOne fuel G s m v) s m (kvChildren proto kvs))
                (mkStruct proto.isSome))

/-- `janet_marshal` of value `x` in heap `G` (fresh state): bytes, and the graph in reference-number order -/
def present (G : List Obj) (x : Val) : Option (List Nat × Val × List Obj) :=
  (presentOne topFuel G [] 0 x).map fun r => (r.1, r.2.1, r.2.2.1)

end JanetModel.Marsh
