/-
Per-run obligations that tie Marsh/Code.lean, Abstract.lean and AbsDepth.lean to the current marsh.c (regenerated Gen/MarshCode.lean).  Kept in a side
module so that the generic theorems of Props/C09 still check on a tree where one of these fails.
-/
import JanetModel.Gen.MarshCode
import JanetModel.Gen.Marsh
import JanetModel.Marsh.Abstract
import JanetModel.Marsh.AbsDepthLemmas

namespace JanetModel.Marsh.CodeObligations
open JanetModel.Gen.MarshCode JanetModel.Gen.Marsh JanetModel.Marsh

/-- The recursion-depth discipline written into `marshalC` / `marshalDef` / `marshalEnv` and `unmarshalC` / `unmarshalDef` /
`unmarshalEnvWith` (who gets `fuel` and who gets `fuel - 1`) is the one of the current marsh.c. -/
theorem code_depths_match_model :
    mIncFuncDef = 1 ∧ mIncFuncEnv = 1 ∧ mIncDefName = 1 ∧ mIncDefSource = 1 ∧ mIncDefConst = 1 ∧ mIncDefSym = 1 ∧
    mIncDefSub = 1 ∧ mIncEnvVal = 1 ∧
    uIncFuncDef = 1 ∧ uIncFuncEnv = 1 ∧ uIncDefName = 1 ∧ uIncDefSource = 1 ∧ uIncDefConst = 1 ∧ uIncDefSym = 1 ∧
    uIncDefSub = 1 ∧ uIncEnvVal = 0 := by decide

/-- **No reader is given less depth budget than its writer**: along every call edge the unmarshaller's depth increment is at
most the marshaller's.  This is the hypothesis under which "whatever can be marshalled can be unmarshalled" holds at the
recursion limit (`roundtrip_code` is stated for every unmarshal budget ≥ the marshal budget); with
`uIncFuncDef = 1 > mIncFuncDef = 0` (the source before a382df0) a function nested 1022 arrays deep marshals into bytes that
unmarshal rejects. -/
theorem unmarshal_never_deeper :
    uIncFuncDef ≤ mIncFuncDef ∧ uIncFuncEnv ≤ mIncFuncEnv ∧ uIncDefName ≤ mIncDefName ∧ uIncDefSource ≤ mIncDefSource ∧
    uIncDefConst ≤ mIncDefConst ∧ uIncDefSym ≤ mIncDefSym ∧ uIncDefSub ≤ mIncDefSub ∧
    uIncFuncEnv + uIncEnvVal ≤ mIncFuncEnv + mIncEnvVal := by decide

/-- `marshal_one_def` writes and `unmarshal_one_def` reads the fields of a funcdef in the same order, and it is the order
of `marshalDef` / `unmarshalDef` in Code.lean.  (Compared without each side's way of finding an already seen funcdef, the
first entry, and without the unmarshaller's closing `janet_verify`.) -/
theorem def_field_order :
    defOrderMarshal.drop 1 = defOrderUnmarshal.dropLast.drop 1 ∧
    defOrderMarshal = ["seen-loop", "push-seen", "flags", "slotcount", "arity", "min_arity", "max_arity", "constants_length",
      "bytecode_length", "?HASENVS:environments_length", "?HASDEFS:defs_length", "?HASSYMBOLMAP:symbolmap_length",
      "?HASNAME:name", "?HASSOURCE:source", "constants", "symbolmap", "bytecode", "environments", "defs",
      "?HASSOURCEMAP:sourcemap", "?HASCLOBITSET:closure_bitset"] ∧
    defOrderUnmarshal.getLast? = some "verify" := by decide

/-- the optional-part flags are distinct single bits (so `hasFlag` reads exactly `flags & bit`) and do not collide with the
lead bytes that `unmarshal_one_def` / `unmarshal_one_env` test for before reading an integer -/
theorem flag_bits :
    ([fdHasSymbolMap, fdHasName, fdHasSource, fdHasDefs, fdHasEnvs, fdHasSourceMap, fdHasCloBitset].all
      fun b => (List.range 31).any fun k => b = 2 ^ k) = true ∧
    [fdHasSymbolMap, fdHasName, fdHasSource, fdHasDefs, fdHasEnvs, fdHasSourceMap, fdHasCloBitset].Nodup ∧
    lb_real ≤ lb_funcdef_ref ∧ lb_real ≤ lb_funcenv_ref ∧ lb_funcdef_ref ≠ lb_integer ∧ lb_funcenv_ref ≠ lb_integer := by decide

/-- The hook programs of Abstract.lean make the context calls that the current `int64_marshal` / `int64_unmarshal`
(inttypes.c), `janet_chanat_marshal` / `janet_chanat_unmarshal` (ev.c) and `peg_marshal` / `peg_unmarshal` (peg.c) make, in the same order (a loop counts once; the
channel's `janet_unmarshal_abstract` / `_threaded` are the two arms of one branch; peg.c's `janet_marshal_size` writes the
64-bit item the model calls `int64`). -/
theorem hook_calls_match_model :
    hookCalls (int64Items 0) = int64MarshalCalls ∧ progCalls int64Prog = int64UnmarshalCalls ∧
    hookCalls (chanItems 0 0 0 [.nil]) = squeeze chanMarshalCalls ∧
    progCalls chanProg = chanUnmarshalCalls.filter (· ≠ "abstract_threaded") ∧
    hookCalls (pegItems [0] [.nil]) = pegMarshalCalls.map (fun s => if s = "size" then "int64" else s) ∧
    progCalls pegProg = pegUnmarshalCalls.map (fun s => if s = "size" then "int64" else s) := by decide

/-- **No image-only pseudo flag survives in the in-memory fiber** (tie): the bits that the current `unmarshal_one_fiber` clears
between the flags it reads and `fiber->flags = …` are exactly `JANET_FIBER_FLAG_HASENV` and `JANET_FIBER_FLAG_HASCHILD`, the
two bits `fiberMemFlags` of Code.lean clears (`Props.C09.fiber_flags_no_wire_bits`).  A fiber that keeps one of them is
marshalled with a promise ("a child follows") that `marshal_one_fiber` does not keep once `fiber->child` is NULL again. -/
theorem fiber_wire_bits_stripped : (fiberMemStripMask : Int) = fiberHasEnv + fiberHasChild := by decide

/-- **Marshalling does not change the fiber**: `JANET_STACKFRAME_HASENV` is computed for the image, not stored in the live
stack frame (a tail call clears `frame->env` and keeps `frame->flags`; a stored bit would make the next image of the same fiber
announce an environment that is not written). -/
theorem marshal_leaves_frames_unchanged : marshalStoresFrameHasEnv = 0 := by decide

/-- **The abstract-hook path keeps counting depth** (tie for Marsh/AbsDepth.lean and for the `g` of `marshalHook` /
`unmarshalHook`): both `JanetMarshalContext` initialisers of the current marsh.c take their `flags` field from the local depth
counter (`flags + k`; `…CtxLocal = 1`), and the four increments of each side are the ones the boundary tests and the
documentation of the model assume (abstract → type name: 1, abstract → hook item: 2).  With seed C19-8
(`{st, NULL, st->flags, NULL, at}`) `mAbsCtxLocal = 0`: every value marshalled through an abstract restarts at depth 1. -/
theorem abstract_depths_match_model :
    mAbsCtxLocal = 1 ∧ uAbsCtxLocal = 1 ∧
    mAbsCall = 0 ∧ mAbsName = 1 ∧ mAbsCtx = 1 ∧ mAbsItem = 1 ∧
    uAbsCall = 0 ∧ uAbsName = 1 ∧ uAbsCtx = 1 ∧ uAbsItem = 1 := by decide

/-- **marshal / unmarshal depth symmetry for the abstract path**: the two sides have the same increments, so
(`Props.C09.abstract_depth_symmetric`) `marshal` accepts a value nested through abstract payloads at depth `d` iff `unmarshal`
accepts its bytes at depth `d`. -/
theorem abstract_depth_increments_equal : AbsDepth.mIncs = AbsDepth.uIncs ∧ mAbsCtxLocal = uAbsCtxLocal := by decide

/-- … and in particular neither sum of reader increments (`nameTotal`, `itemExtra`) exceeds the writer's: **every value nested through abstract payloads that the
current `marshal` writes at any depth, the current `unmarshal` reads back** (instance of `Props.C09.abstract_depth_roundtrip`
at the regenerated increments). -/
theorem abstract_nesting_roundtrips (v : AbsDepth.DV) (fm fu : Nat) (h : fm ≤ fu) (bs tl : List AbsDepth.Tok)
    (hm : AbsDepth.marshalD AbsDepth.mIncs fm v = some bs) :
    AbsDepth.unmarshalD AbsDepth.uIncs fu (bs ++ tl) = some (v, tl) :=
  AbsDepth.roundtripD AbsDepth.mIncs AbsDepth.uIncs (by decide) (by decide) v fm fu h bs tl hm

end JanetModel.Marsh.CodeObligations
