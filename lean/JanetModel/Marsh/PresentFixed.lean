/-
Canonicity of the reference-order presentation: a description that `marshalOne` accepts is its own presentation — the
seen-table marshaller run on it (addresses = reference numbers) writes the same bytes and returns it unchanged.  With
`presentOne_sound` (PresentLemmas.lean): `present` is a projection onto the accepted descriptions.
-/
import JanetModel.Marsh.PresentLemmas

namespace JanetModel.Marsh
open JanetModel.Gen.Marsh

/-- the seen table of a heap in reference-number order: address `a` has number `a`, for exactly the addresses below `nextid` -/
def SeenId (s : Seen) (n : Nat) : Prop := ∀ a, s.find a = if a < n then some a else none

theorem Seen.find_cons (k v : Nat) (s : Seen) (a : Nat) :
    Seen.find ((k, v) :: s) a = if k = a then some v else s.find a := by
  unfold Seen.find
  by_cases h : k = a
  · simp [List.find?, h]
  · have hb : (k == a) = false := by simp [h]
    simp [List.find?, h, hb]

theorem SeenId.nil : SeenId [] 0 := by intro a; simp [Seen.find]

theorem SeenId.cons {s : Seen} {n : Nat} (h : SeenId s n) : SeenId ((n, n) :: s) (n + 1) := by
  intro a
  rw [Seen.find_cons, h a]
  by_cases h1 : n = a
  · subst h1; simp
  · by_cases h2 : a < n
    · simp [h1, h2, Nat.lt_succ_of_lt h2]
    · have : ¬ a < n + 1 := by omega
      simp [h1, h2, this]

def FixedOne (fuel : Nat) (H : List Obj) : Prop :=
  ∀ s n x bs n', marshalOne fuel H n x = some (bs, n') → n ≤ H.length → SeenId s n →
    ∃ s', presentOne fuel H s n x = some (bs, x, slice H n n', s') ∧ SeenId s' n' ∧ n ≤ n' ∧ n' ≤ H.length

theorem presentList_fixed (fuel : Nat) (H : List Obj) (ih : FixedOne fuel H) :
    ∀ (vs : List Val) s n bs n', marshalList (fun a b => marshalOne fuel H a b) n vs = some (bs, n') → n ≤ H.length → SeenId s n →
      ∃ s', presentList (fun s m v => presentOne fuel H s m v) s n vs = some (bs, vs, slice H n n', s') ∧ SeenId s' n' ∧
        n ≤ n' ∧ n' ≤ H.length := by
  intro vs
  induction vs with
  | nil =>
    intro s n bs n' h hn hs
    simp only [marshalList, Option.some.injEq, Prod.mk.injEq] at h
    obtain ⟨rfl, rfl⟩ := h
    exact ⟨s, by simp [presentList, slice_self], hs, Nat.le_refl _, hn⟩
  | cons v vs ihl =>
    intro s n bs n' h hn hs
    simp only [marshalList] at h
    cases h1 : marshalOne fuel H n v with
    | none => simp [h1] at h
    | some r1 =>
      obtain ⟨b1, n1⟩ := r1
      simp only [h1] at h
      cases h2 : marshalList (fun a b => marshalOne fuel H a b) n1 vs with
      | none => simp [h2] at h
      | some r2 =>
        obtain ⟨b2, n2⟩ := r2
        simp only [h2, Option.some.injEq, Prod.mk.injEq] at h
        obtain ⟨rfl, rfl⟩ := h
        obtain ⟨s1, p1, q1, l1, u1⟩ := ih s n v b1 n1 h1 hn hs
        obtain ⟨s2, p2, q2, l2, u2⟩ := ihl s1 n1 b2 n2 h2 u1 q1
        have hl : n + (slice H n n1).length = n1 := by rw [slice_length H n n1 u1]; omega
        refine ⟨s2, ?_, q2, by omega, u2⟩
        simp only [presentList, p1, hl, p2, slice_append H n n1 n2 l1 l2]

theorem presentBox_fixed (fuel : Nat) (H : List Obj) (pre : Bool) (id : Nat) (s : Seen) (n : Nat) (cs : List Val) (o : Obj)
    (mk : List Val → Obj) (hmk : mk cs = o) (ho : H[id]? = some o) (ih : FixedOne fuel H) (bs : List Nat) (n' : Nat)
    (h : wrapMark pre n id (fun m => marshalList (fun a b => marshalOne fuel H a b) m cs) = some (bs, n'))
    (hn : n ≤ H.length) (hs : SeenId s n) :
    ∃ s', presentBox pre id s n (fun s m => presentList (fun s m v => presentOne fuel H s m v) s m cs) mk
        = some (bs, .ref id, slice H n n', s') ∧ SeenId s' n' ∧ n ≤ n' ∧ n' ≤ H.length := by
  have hidlt := getElem?_lt H id o ho
  unfold wrapMark at h
  unfold presentBox
  cases pre with
  | true =>
    simp only [if_true] at h ⊢
    cases hm : markSeen n id with
    | none => simp [hm] at h
    | some n1 =>
      obtain ⟨rfl, rfl⟩ := markSeen_some n id n1 hm
      simp only [hm] at h
      obtain ⟨s', p, q, l, u⟩ := presentList_fixed fuel H ih cs ((id, id) :: s) (id + 1) bs n' h (by omega) hs.cons
      refine ⟨s', ?_, q, by omega, u⟩
      simp only [p, hmk, slice_cons H id n' o ho l]
  | false =>
    simp only [Bool.false_eq_true, if_false] at h ⊢
    cases hc : marshalList (fun a b => marshalOne fuel H a b) n cs with
    | none => simp [hc] at h
    | some rc =>
      obtain ⟨cb, n1⟩ := rc
      simp only [hc] at h
      cases hm : markSeen n1 id with
      | none => simp [hm] at h
      | some n2 =>
        obtain ⟨rfl, rfl⟩ := markSeen_some n1 id n2 hm
        simp only [hm, Option.some.injEq, Prod.mk.injEq] at h
        obtain ⟨rfl, rfl⟩ := h
        obtain ⟨s', p, q, l, u⟩ := presentList_fixed fuel H ih cs s n cb id hc hn hs
        have hl : n + (slice H n id).length = id := by rw [slice_length H n id u]; omega
        refine ⟨(id, id) :: s', ?_, q.cons, by omega, by omega⟩
        simp only [p, hl, hmk, slice_snoc H n id o ho l]

/-- **Canonicity**: on a heap that is in reference-number order the seen-table marshaller agrees with `marshalOne` and the
description it computes is the heap itself -/
theorem presentOne_fixed (H : List Obj) : ∀ fuel, FixedOne fuel H := by
  intro fuel
  induction fuel with
  | zero => intro s n x bs n' h; simp [marshalOne] at h
  | succ f ih =>
    intro s n x bs n' h hn hs
    cases x with
    | nil =>
      simp only [marshalOne, Option.some.injEq, Prod.mk.injEq] at h
      obtain ⟨rfl, rfl⟩ := h
      exact ⟨s, by simp [presentOne, slice_self], hs, Nat.le_refl _, hn⟩
    | bool b =>
      simp only [marshalOne, Option.some.injEq, Prod.mk.injEq] at h
      obtain ⟨rfl, rfl⟩ := h
      exact ⟨s, by simp [presentOne, slice_self], hs, Nat.le_refl _, hn⟩
    | int i =>
      simp only [marshalOne, Option.some.injEq, Prod.mk.injEq] at h
      obtain ⟨rfl, rfl⟩ := h
      exact ⟨s, by simp [presentOne, slice_self], hs, Nat.le_refl _, hn⟩
    | ref id =>
      by_cases hlt : id < n
      · simp only [marshalOne, hlt, if_true, Option.some.injEq, Prod.mk.injEq] at h
        obtain ⟨rfl, rfl⟩ := h
        have hf : s.find id = some id := by rw [hs id]; simp [hlt]
        exact ⟨s, by simp [presentOne, hf, slice_self], hs, Nat.le_refl _, hn⟩
      · have hf : s.find id = none := by rw [hs id]; simp [hlt]
        cases ho : H[id]? with
        | none => simp [marshalOne, hlt, ho] at h
        | some o =>
          rw [marshalOne_obj f H n id o ho hlt] at h
          obtain ⟨⟨cb, n1⟩, hw, he⟩ := Option.map_eq_some_iff.mp h
          obtain ⟨rfl, rfl⟩ := Prod.mk.inj he
          obtain ⟨s', p, q, l, u⟩ :=
            presentBox_fixed f H _ id s n o.shape.kids o o.rebuild o.rebuild_kids ho ih cb _ hw hn hs
          exact ⟨s', by rw [presentOne_obj f H s n id o ho hf, p]; rfl, q, l, u⟩

theorem present_fixed (H : List Obj) (x : Val) (bs : List Nat) (h : marshalOne topFuel H 0 x = some (bs, H.length)) :
    present H x = some (bs, x, H) := by
  obtain ⟨s', p, _, _, _⟩ := presentOne_fixed H topFuel [] 0 x bs H.length h (Nat.zero_le _) SeenId.nil
  unfold present
  rw [p]
  simp [slice]

end JanetModel.Marsh
