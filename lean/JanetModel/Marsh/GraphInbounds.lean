/-
`unmarshalOne` only ever consumes a non-empty prefix of its input: the remaining bytes are a strict suffix.
(The model cannot read past the end by construction - every byte it looks at is an element of the list; this file
states the positive half: it is total, and what it returns as "rest" really is the unread tail.)
-/
import JanetModel.Marsh.GraphLemmas
namespace JanetModel.Marsh
open JanetModel.Gen.Marsh

/-- `r` is what is left of `d` after reading at least one byte -/
def StrictTail (r d : List Nat) : Prop := r <:+ d ∧ r.length < d.length

theorem StrictTail.trans {a b c : List Nat} (h1 : StrictTail a b) (h2 : StrictTail b c) : StrictTail a c :=
  ⟨h1.1.trans h2.1, Nat.lt_trans h1.2 h2.2⟩

theorem StrictTail.of_suffix_cons {r rest : List Nat} (b : Nat) (h : r <:+ rest) : StrictTail r (b :: rest) :=
  ⟨h.trans (List.suffix_cons b rest), Nat.lt_succ_of_le h.length_le⟩

theorem readint_tail (d : List Nat) (i : Int) (r : List Nat) (h : readint d = some (i, r)) : StrictTail r d := by
  obtain ⟨pre, he, h1, _⟩ := readint_consumes d i r h
  refine ⟨⟨pre, he.symm⟩, ?_⟩
  rw [he, List.length_append]; omega

theorem readnat_tail (d : List Nat) (k : Nat) (r : List Nat) (h : readnat d = some (k, r)) : StrictTail r d := by
  unfold readnat at h
  split at h
  · cases h
  next i r' hr =>
    split at h
    · cases h
    · cases h; exact readint_tail d i r hr

theorem unmarshalN_suffix (g : Nat → List Nat → Option (Val × List Nat × List Obj))
    (hg : ∀ n d v r o, g n d = some (v, r, o) → r <:+ d) :
    ∀ (len n : Nat) (d : List Nat) (vs : List Val) (r : List Nat) (o : List Obj),
      unmarshalN g len n d = some (vs, r, o) → r <:+ d
  | 0, _, d, _, _, _, h => by cases h; exact List.suffix_refl d
  | len + 1, n, d, _, _, _, h => by
    rw [unmarshalN] at h
    split at h
    · cases h
    next v r1 o1 h1 =>
      split at h
      · cases h
      next vs' r2 o2 h2 => cases h; exact (unmarshalN_suffix g hg len _ _ _ _ _ h2).trans (hg _ _ _ _ _ h1)

/-- the array, struct and table cases of `unmarshalOne` have one shape: count, overflow test, children, numbering of the
new object -/
def unBox (d : Nat → List Nat → Option (Val × List Nat × List Obj)) (pre : Bool) (n : Nat) (k : Nat → Nat)
    (mk : List Val → Obj) (rest : List Nat) : Option (Val × List Nat × List Obj) :=
  match readnat rest with
  | none => none
  | some (len, r) =>
    if r.length < len then none
    else
      match unmarshalN d (k len) (childStart pre n) r with
      | none => none
      | some (vs, r', objs) => some ((finishObj pre n objs (mk vs)).1, r', (finishObj pre n objs (mk vs)).2)

theorem unBox_suffix {d : Nat → List Nat → Option (Val × List Nat × List Obj)}
    (hd : ∀ n d' v r o, d n d' = some (v, r, o) → r <:+ d') (pre : Bool) (n : Nat) (k : Nat → Nat) (mk : List Val → Obj)
    {rest : List Nat} {v : Val} {r : List Nat} {o : List Obj} (h : unBox d pre n k mk rest = some (v, r, o)) : r <:+ rest := by
  unfold unBox at h
  split at h
  · cases h
  next len r0 hn =>
    split at h
    · cases h
    split at h
    · cases h
    next vs r' objs hu =>
      cases h
      exact (unmarshalN_suffix d hd _ _ _ _ _ _ hu).trans (readnat_tail _ _ _ hn).1

theorem unmarshalOne_tail : ∀ (fuel n : Nat) (d : List Nat) (v : Val) (r : List Nat) (o : List Obj),
    unmarshalOne fuel n d = some (v, r, o) → StrictTail r d
  | 0, _, _, _, _, _, h => by simp [unmarshalOne] at h
  | _ + 1, _, [], _, _, _, h => by simp [unmarshalOne] at h
  | f + 1, n, lead :: rest, v, r, o, h => by
    have ih := fun n d v r o h => (unmarshalOne_tail f n d v r o h).1
    rw [unmarshalOne] at h
    by_cases c : lead < lb_real ∨ lead = lb_integer
    · rw [if_pos c] at h
      split at h
      · cases h
      next i r1 hr => cases h; exact readint_tail _ _ _ hr
    refine StrictTail.of_suffix_cons lead ?_
    rw [if_neg c] at h
    by_cases c : lead = lb_nil
    · rw [if_pos c] at h; cases h; exact List.suffix_refl _
    rw [if_neg c] at h
    by_cases c : lead = lb_false
    · rw [if_pos c] at h; cases h; exact List.suffix_refl _
    rw [if_neg c] at h
    by_cases c : lead = lb_true
    · rw [if_pos c] at h; cases h; exact List.suffix_refl _
    rw [if_neg c] at h
    by_cases c : lead = lb_real
    · rw [if_pos c] at h
      split at h
      · cases h
      · cases h; exact List.drop_suffix 8 rest
    rw [if_neg c] at h
    by_cases c : lead = lb_string ∨ lead = lb_symbol ∨ lead = lb_keyword ∨ lead = lb_buffer ∨ lead = lb_registry
    · rw [if_pos c] at h
      split at h
      · cases h
      next len r1 hn =>
        split at h
        · cases h
        · cases h; exact (List.drop_suffix len r1).trans (readnat_tail _ _ _ hn).1
    rw [if_neg c] at h
    by_cases c : lead = lb_reference
    · rw [if_pos c] at h
      split at h
      · cases h
      next k r1 hn =>
        split at h
        · cases h; exact (readnat_tail _ _ _ hn).1
        · cases h
    rw [if_neg c] at h
    by_cases c : lead = lb_array ∨ lead = lb_array_weak
    · rw [if_pos c] at h
      exact unBox_suffix ih pushPreArray n id (Obj.array (decide (lead = lb_array_weak))) h
    rw [if_neg c] at h
    by_cases c : lead = lb_tuple
    · rw [if_pos c] at h
      split at h
      · cases h
      next len r1 hn =>
        split at h
        · cases h
        split at h
        · cases h
        next flag r2 hf =>
          split at h
          · cases h
          next items r' objs hu =>
            cases h
            exact ((unmarshalN_suffix _ ih _ _ _ _ _ _ hu).trans (readint_tail _ _ _ hf).1).trans (readnat_tail _ _ _ hn).1
    rw [if_neg c] at h
    by_cases c : lead = lb_struct ∨ lead = lb_struct_proto
    · rw [if_pos c] at h
      exact unBox_suffix ih pushPreStruct n (fun len => (if decide (lead = lb_struct_proto) then 1 else 0) + 2 * len)
        (fun vs => Obj.struct (splitProto (decide (lead = lb_struct_proto)) vs).1
          (putAll structPut (pairUp (splitProto (decide (lead = lb_struct_proto)) vs).2))) h
    rw [if_neg c] at h
    split at h
    · cases h
    next weak hasProto _ =>
      exact unBox_suffix ih pushPreTable n (fun len => (if hasProto then 1 else 0) + 2 * len)
        (fun vs => Obj.table weak (splitProto hasProto vs).1 (putAll tablePut (pairUp (splitProto hasProto vs).2))) h

end JanetModel.Marsh
