/-
Helper lemmas for the data-graph round trip (GraphRoundtrip.lean): well-formedness predicates, heap slices,
`readnat ∘ pushint`, the children loop, `janet_table_put` / `janet_struct_put` on well-formed pair lists, and the view of a
heap object (`Obj.shape`) through which each model of `marshal_one` / `unmarshal_one` is stated as one equation (`*_obj`, next
to the lemmas of that model).
-/
import JanetModel.Marsh.Graph
import JanetModel.Marsh.IntCodecLemmas

namespace JanetModel.Marsh
open JanetModel.Gen.Marsh

/-! ### well-formedness of descriptions (what the C types guarantee) -/

def Int32 (i : Int) : Prop := -2147483648 ≤ i ∧ i < 2147483648

def ValWF : Val → Prop
  | .int i => Int32 i
  | _ => True

/-- a pair list that is a finite map without nil keys / nil values (what a janet table or struct holds) -/
def KVsWF (kvs : List (Val × Val)) : Prop :=
  (∀ kv ∈ kvs, kv.1 ≠ .nil ∧ kv.2 ≠ .nil ∧ ValWF kv.1 ∧ ValWF kv.2) ∧ (kvs.map (·.1)).Nodup

def ProtoWF (p : Option Val) : Prop := ∀ v, p = some v → ValWF v

def ObjWF : Obj → Prop
  | .real bs => bs.length = 8
  | .str _ bs => bs.length < 2147483648
  | .reg name => name.length < 2147483648
  | .buffer bs => bs.length < 2147483648
  | .array _ items => items.length < 2147483648 ∧ ∀ v ∈ items, ValWF v
  | .tuple flag items => Int32 flag ∧ items.length < 2147483648 ∧ ∀ v ∈ items, ValWF v
  | .table weak proto kvs => weak ≤ 3 ∧ ProtoWF proto ∧ kvs.length < 2147483648 ∧ KVsWF kvs
  | .struct proto kvs => ProtoWF proto ∧ kvs.length < 2147483648 ∧ KVsWF kvs

def HeapWF (H : List Obj) : Prop := H.length < 2147483648 ∧ ∀ o ∈ H, ObjWF o

def slc {α : Type} (l : List α) (a b : Nat) : List α := (l.drop a).take (b - a)

theorem slc_self {α : Type} (l : List α) (a : Nat) : slc l a a = [] := by simp [slc]

theorem slc_length {α : Type} (l : List α) (a b : Nat) (h : b ≤ l.length) : (slc l a b).length = b - a := by
  simp [slc, List.length_take, List.length_drop]; omega

theorem slc_append {α : Type} (l : List α) (a b c : Nat) (h1 : a ≤ b) (h2 : b ≤ c) :
    slc l a b ++ slc l b c = slc l a c := by
  unfold slc
  have e1 : c - a = (b - a) + (c - b) := by omega
  have e2 : l.drop b = (l.drop a).drop (b - a) := by
    rw [List.drop_drop]; congr 1; omega
  rw [e1, e2, List.take_add]

theorem getElem?_lt {α : Type} (l : List α) (a : Nat) (o : α) (h : l[a]? = some o) : a < l.length :=
  (List.getElem?_eq_some_iff.1 h).1

theorem slc_one {α : Type} (l : List α) (a : Nat) (o : α) (h : l[a]? = some o) : slc l a (a + 1) = [o] := by
  obtain ⟨hlt, rfl⟩ := List.getElem?_eq_some_iff.1 h
  rw [slc, List.drop_eq_getElem_cons hlt, Nat.add_sub_cancel_left, List.take_succ_cons, List.take_zero]

theorem slc_cons {α : Type} (l : List α) (a c : Nat) (o : α) (h : l[a]? = some o) (h2 : a + 1 ≤ c) :
    o :: slc l (a + 1) c = slc l a c := by
  rw [← slc_append l a (a + 1) c (by omega) h2, slc_one l a o h]; rfl

theorem slc_snoc {α : Type} (l : List α) (a b : Nat) (o : α) (h : l[b]? = some o) (h1 : a ≤ b) :
    slc l a b ++ [o] = slc l a (b + 1) := by
  rw [← slc_append l a b (b + 1) h1 (by omega), slc_one l b o h]

def slice (H : List Obj) (a b : Nat) : List Obj := (H.drop a).take (b - a)

theorem slice_self (H : List Obj) (a : Nat) : slice H a a = [] := slc_self H a

theorem slice_length (H : List Obj) (a b : Nat) (h : b ≤ H.length) : (slice H a b).length = b - a := slc_length H a b h

theorem slice_append (H : List Obj) (a b c : Nat) (h1 : a ≤ b) (h2 : b ≤ c) : slice H a b ++ slice H b c = slice H a c :=
  slc_append H a b c h1 h2

theorem slice_one (H : List Obj) (a : Nat) (o : Obj) (h : H[a]? = some o) : slice H a (a + 1) = [o] := slc_one H a o h

theorem slice_cons (H : List Obj) (a c : Nat) (o : Obj) (h : H[a]? = some o) (h2 : a + 1 ≤ c) :
    o :: slice H (a + 1) c = slice H a c := slc_cons H a c o h h2

theorem slice_snoc (H : List Obj) (a b : Nat) (o : Obj) (h : H[b]? = some o) (h1 : a ≤ b) :
    slice H a b ++ [o] = slice H a (b + 1) := slc_snoc H a b o h h1

theorem objWF_of_getElem? (H : List Obj) (hH : HeapWF H) (a : Nat) (o : Obj) (h : H[a]? = some o) : ObjWF o :=
  hH.2 o (List.mem_of_getElem? h)

theorem readnat_pushint (k : Nat) (tl : List Nat) (h : k < 2147483648) :
    readnat (pushint (k : Int) ++ tl) = some (k, tl) := by
  unfold readnat
  rw [readint_pushint (k : Int) tl (by omega) (by omega)]
  have : ¬ ((k : Int) < 0) := by omega
  simp [this]

theorem pushint_head (i : Int) :
    ∃ lead rest, pushint i = lead :: rest ∧ (lead < lb_real ∨ lead = lb_integer) := by
  by_cases h1 : 0 ≤ i ∧ i < 128
  · exact ⟨_, _, pushint_small i h1, Or.inl (by simp only [lb_real]; omega)⟩
  · by_cases h2 : i ≤ 8191 ∧ i ≥ -8192
    · exact ⟨_, _, pushint_mid i h1 h2, Or.inl (by simp only [lb_real]; omega)⟩
    · exact ⟨_, _, pushint_long i h1 h2, Or.inr rfl⟩

theorem pushint_length_pos (i : Int) : 1 ≤ (pushint i).length := by
  rw [pushint_length]; split
  · omega
  · split <;> omega

theorem markSeen_some (n id n1 : Nat) (h : markSeen n id = some n1) : id = n ∧ n1 = n + 1 := by
  unfold markSeen at h
  by_cases c : id = n
  · simp [c] at h; exact ⟨c, h.symm⟩
  · simp [c] at h

/-- an object without children is numbered at the same point whichever way `wrapMark` goes -/
theorem wrapMark_leaf (pre : Bool) (n id : Nat) (bytes : List Nat) :
    wrapMark pre n id (fun m => some (bytes, m)) = (markSeen n id).map fun n1 => (bytes, n1) := by
  cases pre <;> simp only [wrapMark, if_true, Bool.false_eq_true, if_false] <;> cases markSeen n id <;> rfl

/-- what the induction hypothesis on the recursion depth provides for one value -/
def OneOK (H : List Obj) (g : Nat → Val → Option (List Nat × Nat))
    (d : Nat → List Nat → Option (Val × List Nat × List Obj)) : Prop :=
  ∀ (n : Nat) (x : Val) (bs : List Nat) (n' : Nat) (tl : List Nat), n ≤ H.length → ValWF x →
    g n x = some (bs, n') →
    n ≤ n' ∧ n' ≤ H.length ∧ 1 ≤ bs.length ∧ d n (bs ++ tl) = some (x, tl, slice H n n')

theorem list_roundtrip (H : List Obj) (g : Nat → Val → Option (List Nat × Nat))
    (d : Nat → List Nat → Option (Val × List Nat × List Obj)) (hgd : OneOK H g d) :
    ∀ (items : List Val) (n : Nat) (bs : List Nat) (n' : Nat) (tl : List Nat), n ≤ H.length →
      (∀ v ∈ items, ValWF v) → marshalList g n items = some (bs, n') →
      n ≤ n' ∧ n' ≤ H.length ∧ items.length ≤ bs.length ∧
        unmarshalN d items.length n (bs ++ tl) = some (items, tl, slice H n n') := by
  intro items
  induction items with
  | nil =>
    intro n bs n' tl hn _ hm
    simp [marshalList] at hm
    obtain ⟨rfl, rfl⟩ := hm
    simp [unmarshalN, slice_self, hn]
  | cons v vs ih =>
    intro n bs n' tl hn hwf hm
    simp only [marshalList] at hm
    cases hg : g n v with
    | none => simp [hg] at hm
    | some r1 =>
      obtain ⟨b1, n1⟩ := r1
      simp only [hg] at hm
      cases hl : marshalList g n1 vs with
      | none => simp [hl] at hm
      | some r2 =>
        obtain ⟨b2, n2⟩ := r2
        simp only [hl, Option.some.injEq, Prod.mk.injEq] at hm
        obtain ⟨rfl, rfl⟩ := hm
        have hv : ValWF v := hwf v (by simp)
        obtain ⟨h1, h2, h3, h4⟩ := hgd n v b1 n1 (b2 ++ tl) hn hv hg
        obtain ⟨k1, k2, k3, k4⟩ := ih n1 b2 n2 tl h2 (fun w hw => hwf w (by simp [hw])) hl
        refine ⟨by omega, k2, by simp; omega, ?_⟩
        simp only [List.length_cons, unmarshalN, List.append_assoc, h4]
        rw [slice_length H n n1 h2]
        have : n + (n1 - n) = n1 := by omega
        rw [this, k4]
        simp only []
        rw [slice_append H n n1 n2 h1 k1]

theorem flatKV_length (kvs : List (Val × Val)) : (flatKV kvs).length = 2 * kvs.length := by
  induction kvs with
  | nil => rfl
  | cons kv rest ih => obtain ⟨k, v⟩ := kv; simp [flatKV, ih]; omega

theorem pairUp_flatKV (kvs : List (Val × Val)) : pairUp (flatKV kvs) = kvs := by
  induction kvs with
  | nil => rfl
  | cons kv rest ih => obtain ⟨k, v⟩ := kv; simp [flatKV, pairUp, ih]

theorem kvChildren_length (p : Option Val) (kvs : List (Val × Val)) :
    (kvChildren p kvs).length = (if p.isSome then 1 else 0) + 2 * kvs.length := by
  cases p <;> simp [kvChildren, flatKV_length]; omega

theorem splitProto_kvChildren (p : Option Val) (kvs : List (Val × Val)) :
    splitProto p.isSome (kvChildren p kvs) = (p, flatKV kvs) := by
  cases p <;> simp [splitProto, kvChildren]

theorem kvChildren_wf (p : Option Val) (kvs : List (Val × Val)) (hp : ProtoWF p) (hk : KVsWF kvs) :
    ∀ v ∈ kvChildren p kvs, ValWF v := by
  intro v hv
  simp only [kvChildren, List.mem_append] at hv
  rcases hv with hv | hv
  · cases p with
    | none => simp at hv
    | some q => simp at hv; rw [hv]; exact hp q rfl
  · have : ∀ (l : List (Val × Val)), (∀ kv ∈ l, ValWF kv.1 ∧ ValWF kv.2) → v ∈ flatKV l → ValWF v := by
      intro l
      induction l with
      | nil => intro _ h; simp [flatKV] at h
      | cons kv rest ih =>
        obtain ⟨a, b⟩ := kv
        intro hl h
        simp only [flatKV, List.mem_cons] at h
        rcases h with h | h | h
        · rw [h]; exact (hl (a, b) (by simp)).1
        · rw [h]; exact (hl (a, b) (by simp)).2
        · exact ih (fun kv hkv => hl kv (by simp [hkv])) h
    exact this kvs (fun kv hkv => ⟨(hk.1 kv hkv).2.2.1, (hk.1 kv hkv).2.2.2⟩) hv

theorem foldl_put (put : List (Val × Val) → Val → Val → List (Val × Val))
    (hput : ∀ acc k v, k ≠ .nil → v ≠ .nil → ¬ (acc.any fun kv => decide (kv.1 = k)) = true → put acc k v = acc ++ [(k, v)])
    (pairs acc : List (Val × Val)) (h : KVsWF (acc ++ pairs)) :
    pairs.foldl (fun a kv => put a kv.1 kv.2) acc = acc ++ pairs := by
  induction pairs generalizing acc with
  | nil => simp
  | cons kv rest ih =>
    obtain ⟨k, v⟩ := kv
    have hmem := h.1 (k, v) (by simp)
    have hnd := h.2
    simp only [List.map_append, List.map_cons] at hnd
    have hk : ¬ (acc.any fun kv => decide (kv.1 = k)) = true := by
      intro hc
      rw [List.any_eq_true] at hc
      obtain ⟨kv', hin, heq⟩ := hc
      have heq' : kv'.1 = k := by simpa using heq
      rw [List.nodup_append] at hnd
      exact hnd.2.2 kv'.1 (List.mem_map_of_mem hin) k (by simp) heq'
    rw [List.foldl_cons, hput acc k v hmem.1 hmem.2.1 hk, ih (acc ++ [(k, v)]) (by simpa using h)]
    simp

theorem putAll_tablePut (kvs : List (Val × Val)) (h : KVsWF kvs) : putAll tablePut kvs = kvs := by
  rw [putAll, foldl_put tablePut (fun acc k v hk hv ha => by simp [tablePut, hk, hv, ha]) kvs [] (by simpa using h)]; rfl

theorem putAll_structPut (kvs : List (Val × Val)) (h : KVsWF kvs) : putAll structPut kvs = kvs := by
  rw [putAll, foldl_put structPut (fun acc k v hk hv ha => by simp [structPut, hk, hv, ha]) kvs [] (by simpa using h)]; rfl

/-! ### one view of a heap object

Whatever its kind, `marshal_one` treats an object alike: it is numbered before or after its children, some bytes are written
before the children (lead byte, counts, for a childless object all of its bytes), the children follow.  The models of
`marshal_one` and `unmarshal_one` are each one equation over this view. -/

structure Shape where
  pre : Bool
  head : List Nat
  kids : List Val

def Obj.shape : Obj → Shape
  | .reg name => ⟨true, lb_registry :: (pushint name.length ++ name), []⟩
  | .real bs => ⟨markPreNumber, lb_real :: bs, []⟩
  | .str k bs => ⟨markPreString, strLead k :: (pushint bs.length ++ bs), []⟩
  | .buffer bs => ⟨markPreBuffer, lb_buffer :: (pushint bs.length ++ bs), []⟩
  | .array weak items => ⟨markPreArray, (if weak then lb_array_weak else lb_array) :: pushint items.length, items⟩
  | .tuple flag items => ⟨markPreTuple, lb_tuple :: (pushint items.length ++ pushint flag), items⟩
  | .table weak proto kvs => ⟨markPreTable, tableLead weak proto.isSome :: pushint kvs.length, kvChildren proto kvs⟩
  | .struct proto kvs =>
    ⟨markPreStruct, (if proto.isSome then lb_struct_proto else lb_struct) :: pushint kvs.length, kvChildren proto kvs⟩

/-- what `unmarshal_one` builds from the decoded children: tables and structs go through their put loops -/
def Obj.decode : Obj → List Val → Obj
  | .array weak _, vs => .array weak vs
  | .tuple flag _, vs => .tuple flag vs
  | .table weak proto _, vs =>
    .table weak (splitProto proto.isSome vs).1 (putAll tablePut (pairUp (splitProto proto.isSome vs).2))
  | .struct proto _, vs => .struct (splitProto proto.isSome vs).1 (putAll structPut (pairUp (splitProto proto.isSome vs).2))
  | o, _ => o

theorem Obj.head_pos (o : Obj) : 1 ≤ o.shape.head.length := by
  cases o <;> simp [Obj.shape]

theorem Obj.kids_wf {o : Obj} (h : ObjWF o) : ∀ v ∈ o.shape.kids, ValWF v := by
  cases o with
  | array _ items => exact h.2
  | tuple _ items => exact h.2.2
  | table _ proto kvs => exact kvChildren_wf proto kvs h.2.1 h.2.2.2
  | struct proto kvs => exact kvChildren_wf proto kvs h.1 h.2.2
  | _ => intro v hv; cases hv

theorem Obj.decode_kids {o : Obj} (h : ObjWF o) : o.decode o.shape.kids = o := by
  cases o with
  | table _ proto kvs => simp [Obj.decode, Obj.shape, splitProto_kvChildren, pairUp_flatKV, putAll_tablePut kvs h.2.2.2]
  | struct proto kvs => simp [Obj.decode, Obj.shape, splitProto_kvChildren, pairUp_flatKV, putAll_structPut kvs h.2.2]
  | _ => rfl

/-- `marshalOne` on an object that has no number yet: a childless object is numbered at the same point whichever way
    `wrapMark` goes, so the leaves fit the shape of the containers -/
theorem marshalOne_obj (f : Nat) (H : List Obj) (n id : Nat) (o : Obj) (ho : H[id]? = some o) (hn : ¬ id < n) :
    marshalOne (f + 1) H n (.ref id) =
      (wrapMark o.shape.pre n id fun m => marshalList (fun a b => marshalOne f H a b) m o.shape.kids).map
        fun p => (o.shape.head ++ p.1, p.2) := by
  simp only [marshalOne, if_neg hn, ho]
  cases o <;> simp only [Obj.shape, marshalList, wrapMark_leaf]
  case reg | real | str | buffer => cases markSeen n id <;> simp
  all_goals split <;> simp_all

end JanetModel.Marsh
