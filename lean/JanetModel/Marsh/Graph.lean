/-
Model of `marshal_one` (marsh.c:464) and `unmarshal_one` (marsh.c:1312) on *data value graphs*.  Core Lean only.

Representation (the abstraction function is `harness/C09/graph.janet: describe`):
  * a value is `nil`, a boolean, a number that takes the integer path (`janet_checkintrange`, so -0.0 is `int 0`),
    or a pointer `ref id` to a heap object;
  * the heap is a list of objects **in reference-number order**: object `id` is the value that receives number `id`
    in `st->seen` (MARK_SEEN, `st->nextid++`) when marshalling and that is pushed as `st->lookup[id]` when unmarshalling.
    `st->seen` is keyed by janet equality, so the abstraction identifies immutable values (strings, tuples, structs,
    boxed reals) that are janet-`=`.  With this presentation `st->seen` contains exactly the ids `< nextid`, and the
    set of isomorphism classes of value graphs is in bijection with the heaps on which `marshalOne` succeeds:
    "same shape, same sharing and cycles" is *equality* of (value, heap).
  * every numbering point is explicit (`markSeen`): before the children for reals / strings / buffers / arrays / tables /
    registry values, after the children for tuples and structs.  Which of the two it is comes from the *generated*
    constants `markPre*` (marshal side) and `pushPre*` (unmarshal side), read off the current marsh.c on every run.
  * `fuel` is the C recursion depth: `MARSH_STACKCHECK` panics when `(flags & 0xFFFF) > JANET_RECURSION_GUARD`; every
    child is visited with `flags + 1`.  Top-level fuel is `recursionGuard + 1`.
Not modelled: `janet_asserttype` on decoded prototypes (the model accepts any value as prototype), weak-table GC
behaviour, unsafe pointers; functions / fibers are modelled in Code.lean, abstracts in Abstract.lean.
-/
import JanetModel.Marsh.IntCodec

namespace JanetModel.Marsh
open JanetModel.Gen.Marsh

inductive Val where
  | nil
  | bool (b : Bool)
  | int (i : Int)
  | ref (id : Nat)
  deriving DecidableEq, Repr, Inhabited

inductive SKind where
  | string | symbol | keyword
  deriving DecidableEq, Repr

inductive Obj where
  | real (bytes : List Nat)                       -- LB_REAL + 8 bytes (little endian IEEE double)
  | str (k : SKind) (bytes : List Nat)            -- LB_STRING / LB_SYMBOL / LB_KEYWORD
  | reg (name : List Nat)                         -- a value found in the reverse registry under `name` (LB_REGISTRY)
  | buffer (bytes : List Nat)
  | array (weak : Bool) (items : List Val)
  | tuple (flag : Int) (items : List Val)
  | table (weak : Nat) (proto : Option Val) (kvs : List (Val × Val))   -- weak: 0 none, 1 keys, 2 values, 3 both
  | struct (proto : Option Val) (kvs : List (Val × Val))
  deriving DecidableEq, Repr

/-- `MARK_SEEN()`: `janet_table_put(&st->seen, x, st->nextid++)`.  In reference-number order the object being
numbered must be object `n`. -/
def markSeen (n id : Nat) : Option Nat := if id = n then some (n + 1) else none

def strLead : SKind → Nat
  | .string => lb_string
  | .symbol => lb_symbol
  | .keyword => lb_keyword

def tableLead (weak : Nat) (hasProto : Bool) : Nat :=
  if weak = 1 then (if hasProto then lb_table_weakk_proto else lb_table_weakk)
  else if weak = 2 then (if hasProto then lb_table_weakv_proto else lb_table_weakv)
  else if weak = 3 then (if hasProto then lb_table_weakkv_proto else lb_table_weakkv)
  else (if hasProto then lb_table_proto else lb_table)

def tableOfLead (lead : Nat) : Option (Nat × Bool) :=
  if lead = lb_table then some (0, false)
  else if lead = lb_table_proto then some (0, true)
  else if lead = lb_table_weakk then some (1, false)
  else if lead = lb_table_weakk_proto then some (1, true)
  else if lead = lb_table_weakv then some (2, false)
  else if lead = lb_table_weakv_proto then some (2, true)
  else if lead = lb_table_weakkv then some (3, false)
  else if lead = lb_table_weakkv_proto then some (3, true)
  else none

def flatKV : List (Val × Val) → List Val
  | [] => []
  | (k, v) :: rest => k :: v :: flatKV rest

def pairUp : List Val → List (Val × Val)
  | k :: v :: rest => (k, v) :: pairUp rest
  | _ => []

/-- children of a table / struct in visiting order: prototype (if any), then key, value, key, value ... -/
def kvChildren (proto : Option Val) (kvs : List (Val × Val)) : List Val := proto.toList ++ flatKV kvs

/-- `for (i...) marshal_one(st, child[i], flags + 1)` with `g = marshalOne fuel H`. -/
def marshalList (g : Nat → Val → Option (List Nat × Nat)) : Nat → List Val → Option (List Nat × Nat)
  | n, [] => some ([], n)
  | n, v :: vs =>
    match g n v with
    | none => none
    | some (b1, n1) =>
      match marshalList g n1 vs with
      | none => none
      | some (b2, n2) => some (b1 ++ b2, n2)

/-- number the object before (`pre`) or after its children are visited -/
def wrapMark (pre : Bool) (n id : Nat) (children : Nat → Option (List Nat × Nat)) : Option (List Nat × Nat) :=
  if pre then
    match markSeen n id with
    | none => none
    | some n1 => children n1
  else
    match children n with
    | none => none
    | some (bs, n1) =>
      match markSeen n1 id with
      | none => none
      | some n2 => some (bs, n2)

/-- `marshal_one`.  Returns the bytes appended to `st->buf` and the new `st->nextid`; `none` = panic
(stack overflow, dangling pointer in the description, heap not in reference-number order). -/
def marshalOne : Nat → List Obj → Nat → Val → Option (List Nat × Nat)
  | 0, _, _, _ => none
  | fuel + 1, H, n, x =>
    match x with
    | .nil => some ([lb_nil], n)
    | .bool b => some ([if b then lb_true else lb_false], n)
    | .int i => some (pushint i, n)
    | .ref id =>
      if id < n then some (lb_reference :: pushint id, n)       -- found in st->seen
      else
        match H[id]? with
        | none => none
        | some o =>
          match o with
          | .reg name =>
            (markSeen n id).map fun n1 => (lb_registry :: (pushint name.length ++ name), n1)
          | .real bs =>
            wrapMark markPreNumber n id fun m => some (lb_real :: bs, m)
          | .str k bs =>
            wrapMark markPreString n id fun m => some (strLead k :: (pushint bs.length ++ bs), m)
          | .buffer bs =>
            wrapMark markPreBuffer n id fun m => some (lb_buffer :: (pushint bs.length ++ bs), m)
          | .array weak items =>
            match wrapMark markPreArray n id (fun m => marshalList (fun a b => marshalOne fuel H a b) m items) with
            | none => none
            | some (bs, n') => some ((if weak then lb_array_weak else lb_array) :: (pushint items.length ++ bs), n')
          | .tuple flag items =>
            match wrapMark markPreTuple n id (fun m => marshalList (fun a b => marshalOne fuel H a b) m items) with
            | none => none
            | some (bs, n') => some (lb_tuple :: (pushint items.length ++ (pushint flag ++ bs)), n')
          | .table weak proto kvs =>
            match wrapMark markPreTable n id (fun m => marshalList (fun a b => marshalOne fuel H a b) m (kvChildren proto kvs)) with
            | none => none
            | some (bs, n') => some (tableLead weak proto.isSome :: (pushint kvs.length ++ bs), n')
          | .struct proto kvs =>
            match wrapMark markPreStruct n id (fun m => marshalList (fun a b => marshalOne fuel H a b) m (kvChildren proto kvs)) with
            | none => none
            | some (bs, n') => some ((if proto.isSome then lb_struct_proto else lb_struct) :: (pushint kvs.length ++ bs), n')

/-- depth budget of the entry points (`janet_marshal` / `janet_unmarshal` start with depth 0) -/
def topFuel : Nat := recursionGuard + 1

/-- `janet_marshal` with a fresh state -/
def marshal (H : List Obj) (x : Val) : Option (List Nat) := (marshalOne topFuel H 0 x).map (·.1)

/-! ### unmarshal -/

/-- `readnat` -/
def readnat (data : List Nat) : Option (Nat × List Nat) :=
  match readint data with
  | none => none
  | some (i, rest) => if i < 0 then none else some (i.toNat, rest)

/-- `for (i < len) data = unmarshal_one(st, data, out + i, flags + 1)`; `n` = `janet_v_count(st->lookup)` -/
def unmarshalN (g : Nat → List Nat → Option (Val × List Nat × List Obj)) : Nat → Nat → List Nat → Option (List Val × List Nat × List Obj)
  | 0, _, data => some ([], data, [])
  | len + 1, n, data =>
    match g n data with
    | none => none
    | some (v, rest, objs) =>
      match unmarshalN g len (n + objs.length) rest with
      | none => none
      | some (vs, rest', objs') => some (v :: vs, rest', objs ++ objs')

/-- `janet_table_put` semantics on the association list -/
def tablePut (kvs : List (Val × Val)) (k v : Val) : List (Val × Val) :=
  if k = .nil then kvs
  else if v = .nil then kvs.filter (fun kv => kv.1 ≠ k)
  else if kvs.any (fun kv => kv.1 = k) then kvs.map (fun kv => if kv.1 = k then (k, v) else kv)
  else kvs ++ [(k, v)]

/-- `janet_struct_put` semantics -/
def structPut (kvs : List (Val × Val)) (k v : Val) : List (Val × Val) :=
  if k = .nil ∨ v = .nil then kvs
  else if kvs.any (fun kv => kv.1 = k) then kvs.map (fun kv => if kv.1 = k then (k, v) else kv)
  else kvs ++ [(k, v)]

def putAll (put : List (Val × Val) → Val → Val → List (Val × Val)) (pairs : List (Val × Val)) : List (Val × Val) :=
  pairs.foldl (fun acc kv => put acc kv.1 kv.2) []

/-- where does the new object go relative to the objects created by its children -/
def finishObj (pre : Bool) (n : Nat) (childObjs : List Obj) (o : Obj) : Val × List Obj :=
  if pre then (.ref n, o :: childObjs) else (.ref (n + childObjs.length), childObjs ++ [o])

def childStart (pre : Bool) (n : Nat) : Nat := if pre then n + 1 else n

/-- split the decoded children of a table / struct into prototype and pairs -/
def splitProto (hasProto : Bool) (vs : List Val) : Option Val × List Val :=
  if hasProto then
    match vs with
    | p :: rest => (some p, rest)
    | [] => (none, [])
  else (none, vs)

/-- `unmarshal_one`.  `n` = `janet_v_count(st->lookup)`.  Returns the value, the remaining bytes and the objects
appended to `st->lookup` (in order).  `none` = panic.  Every byte looked at is an element of `data`. -/
def unmarshalOne : Nat → Nat → List Nat → Option (Val × List Nat × List Obj)
  | 0, _, _ => none
  | fuel + 1, n, data =>
    match data with
    | [] => none
    | lead :: rest =>
      if lead < lb_real ∨ lead = lb_integer then
        match readint data with
        | none => none
        | some (i, r) => some (.int i, r, [])
      else if lead = lb_nil then some (.nil, rest, [])
      else if lead = lb_false then some (.bool false, rest, [])
      else if lead = lb_true then some (.bool true, rest, [])
      else if lead = lb_real then
        if rest.length < 8 then none else some (.ref n, rest.drop 8, [.real (rest.take 8)])
      else if lead = lb_string ∨ lead = lb_symbol ∨ lead = lb_keyword ∨ lead = lb_buffer ∨ lead = lb_registry then
        match readnat rest with
        | none => none
        | some (len, r) =>
          if r.length < len then none
          else
            let bs := r.take len
            let o := if lead = lb_string then Obj.str .string bs
                     else if lead = lb_symbol then Obj.str .symbol bs
                     else if lead = lb_keyword then Obj.str .keyword bs
                     else if lead = lb_buffer then Obj.buffer bs
                     else Obj.reg bs
            some (.ref n, r.drop len, [o])
      else if lead = lb_reference then
        match readnat rest with
        | none => none
        | some (k, r) => if k < n then some (.ref k, r, []) else none
      else if lead = lb_array ∨ lead = lb_array_weak then
        match readnat rest with
        | none => none
        | some (len, r) =>
          if r.length < len then none
          else
            match unmarshalN (fun a b => unmarshalOne fuel a b) len (childStart pushPreArray n) r with
            | none => none
            | some (items, r', objs) =>
              let (v, os) := finishObj pushPreArray n objs (.array (lead = lb_array_weak) items)
              some (v, r', os)
      else if lead = lb_tuple then
        match readnat rest with
        | none => none
        | some (len, r) =>
          if r.length < len then none
          else
            match readint r with
            | none => none
            | some (flag, r1) =>
              match unmarshalN (fun a b => unmarshalOne fuel a b) len (childStart pushPreTuple n) r1 with
              | none => none
              | some (items, r', objs) =>
                let (v, os) := finishObj pushPreTuple n objs (.tuple flag items)
                some (v, r', os)
      else if lead = lb_struct ∨ lead = lb_struct_proto then
        match readnat rest with
        | none => none
        | some (len, r) =>
          if r.length < len then none
          else
            let hasProto : Bool := lead = lb_struct_proto
            match unmarshalN (fun a b => unmarshalOne fuel a b) ((if hasProto then 1 else 0) + 2 * len) (childStart pushPreStruct n) r with
            | none => none
            | some (vs, r', objs) =>
              let (proto, kv) := splitProto hasProto vs
              let (v, os) := finishObj pushPreStruct n objs (.struct proto (putAll structPut (pairUp kv)))
              some (v, r', os)
      else
        match tableOfLead lead with
        | none => none
        | some (weak, hasProto) =>
          match readnat rest with
          | none => none
          | some (len, r) =>
            if r.length < len then none
            else
              match unmarshalN (fun a b => unmarshalOne fuel a b) ((if hasProto then 1 else 0) + 2 * len) (childStart pushPreTable n) r with
              | none => none
              | some (vs, r', objs) =>
                let (proto, kv) := splitProto hasProto vs
                let (v, os) := finishObj pushPreTable n objs (.table weak proto (putAll tablePut (pairUp kv)))
                some (v, r', os)

/-- `janet_unmarshal` with a fresh state: value, heap (the final `st->lookup`), number of bytes consumed -/
def unmarshal (data : List Nat) : Option (Val × List Obj × Nat) :=
  (unmarshalOne topFuel 0 data).map fun r => (r.1, r.2.2, data.length - r.2.1.length)

end JanetModel.Marsh
