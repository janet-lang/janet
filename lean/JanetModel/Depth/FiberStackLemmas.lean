/- C19: every sequence of VM operations keeps the fiber stack within its `maxstack` bound or raises a
   catchable error; the number of live frames is bounded; no int32 quantity of the frame functions overflows. -/
import JanetModel.Depth.FiberStack
import JanetModel.Depth.TailLemmas
namespace JanetModel.Depth

/-- the saved frame indices, innermost first, end in 0 and are at least one frame header apart -/
def chainOK : List Nat → Prop
  | [] => False
  | [x] => x = 0
  | x :: y :: r => y + FRAME ≤ x ∧ chainOK (y :: r)

theorem chain_len : ∀ (l : List Nat) (x : Nat), chainOK (x :: l) → FRAME * l.length ≤ x
  | [], x, _ => by simp
  | y :: r, x, h => by
    have h1 : y + FRAME ≤ x := h.1
    have h2 := chain_len r y h.2
    simp only [List.length_cons, FRAME] at *
    omega

/-- the bound everything is measured against: `maxstack`, but a fresh fiber already holds one frame header -/
def B (M : Nat) : Nat := max M FRAME

theorem le_B (M : Nat) : M ≤ B M := Nat.le_max_left _ _
theorem frame_le_B (M : Nat) : FRAME ≤ B M := Nat.le_max_right _ _

structure VInv (M S cap0 : Nat) (v : VFiber) : Prop where
  ms : v.maxstack = M
  chain : chainOK (v.f.frame :: v.prev)
  ss : v.f.frame + 4 ≤ v.f.stackstart
  top : v.f.stackstart ≤ v.f.stacktop
  fr : v.f.frame ≤ B M
  ssb : v.f.stackstart ≤ B M + S + 4
  t32 : v.f.stacktop ≤ 2147483647
  capb : v.f.capacity ≤ max cap0 2147483647

theorem growCap_le (n : Nat) : growCap n ≤ 2147483647 := by
  unfold growCap INT32_MAX
  split <;> omega

/-- the size hypothesis under which nothing overflows an int32: all of `maxstack`, two frames and a header fit twice -/
def Fits (M S : Nat) : Prop := 2 * (B M + 2 * S + 4 + 1) ≤ 2147483647

def opFits (S : Nat) : VOp → Prop
  | .call fn => fn.slotcount ≤ S ∧ fn.arity ≤ S
  | .tail fn => fn.slotcount ≤ S ∧ fn.arity ≤ S
  | _ => True

theorem vstep_ok {v v' : VFiber} {op : VOp} (h : vstep v op = .ok v') :
    match op with
    | .push n => v.f.stacktop + n ≤ INT32_MAX ∧
        v' = { v with f := { v.f with stacktop := v.f.stacktop + n,
                                      capacity := if v.f.stacktop + n > v.f.capacity then growCap (v.f.stacktop + n)
                                                  else v.f.capacity } }
    | .call fn => v.f.stacktop ≤ v.maxstack ∧
        ∃ f', funcframe v.f fn = some f' ∧ v' = { v with f := f', prev := v.f.frame :: v.prev }
    | .tail fn => v.f.stacktop ≤ v.maxstack ∧ ∃ f', funcframeTail v.f fn = some f' ∧ v' = { v with f := f' }
    | .ret => v' = vret v := by
  cases op with
  | push n =>
    simp only [vstep, vpushn] at h
    split at h
    · cases h
    · exact ⟨by omega, (Except.ok.inj h).symm⟩
  | call fn =>
    simp only [vstep, vcall] at h
    split at h
    · cases h
    · split at h
      · cases h
      · next f' hf => exact ⟨by omega, f', hf, (Except.ok.inj h).symm⟩
  | tail fn =>
    simp only [vstep, vtail] at h
    split at h
    · cases h
    · split at h
      · cases h
      · next f' hf => exact ⟨by omega, f', hf, (Except.ok.inj h).symm⟩
  | ret => exact (Except.ok.inj h).symm

theorem vstep_error {v : VFiber} {op : VOp} {e : String} (h : vstep v op = .error e) :
    e = "stack overflow" ∨ e = "arity" := by
  cases op with
  | push n =>
    simp only [vstep, vpushn] at h
    split at h
    · exact .inl (Except.error.inj h).symm
    · cases h
  | call fn =>
    simp only [vstep, vcall] at h
    split at h
    · exact .inl (Except.error.inj h).symm
    · split at h
      · exact .inr (Except.error.inj h).symm
      · cases h
  | tail fn =>
    simp only [vstep, vtail] at h
    split at h
    · exact .inl (Except.error.inj h).symm
    · split at h
      · exact .inr (Except.error.inj h).symm
      · cases h
  | ret => cases h

theorem frame_arith {M S b sc : Nat} (hfit : Fits M S) (hb : b ≤ B M) (hsc : sc ≤ S) {f' : Fiber} (h1 : f'.frame = b)
    (h2 : f'.stackstart = b + sc + 4) (h3 : f'.stacktop = b + sc + 4) :
    f'.frame + 4 ≤ f'.stackstart ∧ f'.stackstart ≤ f'.stacktop ∧ f'.frame ≤ B M ∧
      f'.stackstart ≤ B M + S + 4 ∧ f'.stacktop ≤ 2147483647 := by
  unfold Fits at hfit
  rw [h1, h2, h3]
  omega

theorem vstep_inv {M S cap0 : Nat} (hfit : Fits M S) {v v' : VFiber} {op : VOp} (hinv : VInv M S cap0 v)
    (hop : opFits S op) (h : vstep v op = .ok v') : VInv M S cap0 v' := by
  have hB1 := le_B M
  have hB2 : 4 ≤ B M := frame_le_B M
  have ⟨ms, chain, ss, top, fr, ssb, t32, _⟩ := hinv
  have hfit' := hfit
  unfold Fits at hfit
  have hok := vstep_ok h
  cases op with
  | push n =>
    obtain ⟨hov, rfl⟩ := hok
    simp only [INT32_MAX] at hov
    refine ⟨ms, chain, ss, ?_, fr, ssb, ?_, ?_⟩
    · simp only; omega
    · simp only; omega
    · simp only
      split
      · exact Nat.le_trans (growCap_le _) (Nat.le_max_right _ _)
      · exact hinv.capb
  | call fn =>
    obtain ⟨hchk, f', hf, rfl⟩ := hok
    obtain ⟨h1, h2, h3, h4⟩ := funcframe_some hf
    simp only [opFits] at hop
    rw [ms] at hchk
    have harith := frame_arith hfit' (by omega) hop.1 h1 h2 h3
    refine ⟨ms, ?_, harith.1, harith.2.1, harith.2.2.1, harith.2.2.2.1, harith.2.2.2.2, ?_⟩
    · show chainOK (f'.frame :: v.f.frame :: v.prev)
      rw [h1]
      exact ⟨by simp only [FRAME]; exact ss, chain⟩
    · rcases h4 with h4 | h4
      · rw [h4]; exact hinv.capb
      · rw [h4]; refine Nat.le_trans ?_ (Nat.le_max_right _ _); omega
  | tail fn =>
    obtain ⟨hchk, f', hf, rfl⟩ := hok
    obtain ⟨h1, h2, h3, h4⟩ := funcframeTail_some hf
    simp only [opFits] at hop
    rw [ms] at hchk
    have harith := frame_arith hfit' fr hop.1 h1 h2 h3
    refine ⟨ms, ?_, harith.1, harith.2.1, harith.2.2.1, harith.2.2.2.1, harith.2.2.2.2, ?_⟩
    · show chainOK (f'.frame :: v.prev); rw [h1]; exact chain
    · rcases h4 with h4 | h4 | h4
      · rw [h4]; exact hinv.capb
      · rw [h4]; refine Nat.le_trans ?_ (Nat.le_max_right _ _); omega
      · rw [h4]; refine Nat.le_trans ?_ (Nat.le_max_right _ _); omega
  | ret =>
    rw [hok]
    unfold vret
    by_cases hne : v.f.frame = 0
    · simp only [hne, if_true]; exact hinv
    · simp only [hne, if_false]
      cases hp : v.prev with
      | nil =>
        rw [hp] at chain
        exact absurd chain hne
      | cons y r =>
        rw [hp] at chain
        have c1 : y + 4 ≤ v.f.frame := chain.1
        refine ⟨ms, ?_, ?_, ?_, ?_, ?_, ?_, hinv.capb⟩
        · simp only [List.headD_cons, List.tail_cons]; exact chain.2
        · simp only [List.headD_cons]; exact c1
        · simp only; exact Nat.le_refl _
        · simp only [List.headD_cons]; omega
        · simp only; omega
        · simp only; omega

theorem vrun_inv {M S cap0 : Nat} (hfit : Fits M S) :
    ∀ (ops : List VOp) (v v' : VFiber), VInv M S cap0 v → (∀ op ∈ ops, opFits S op) → vrun v ops = .ok v' →
      VInv M S cap0 v'
  | [], v, v', hinv, _, h => by
    simp only [vrun] at h; injection h with h; exact h ▸ hinv
  | op :: rest, v, v', hinv, hall, h => by
    simp only [vrun] at h
    cases h1 : vstep v op with
    | error e => rw [h1] at h; cases h
    | ok v1 =>
      rw [h1] at h
      exact vrun_inv hfit rest v1 v' (vstep_inv hfit hinv (hall op List.mem_cons_self) h1)
        (fun o ho => hall o (List.mem_cons_of_mem _ ho)) h

theorem fiberNew_some {cap M : Nat} {fn0 : Fn} {v : VFiber} (h : fiberNew cap fn0 M = some v) :
    ∃ f', funcframe ⟨0, FRAME, FRAME, if cap < 32 then 32 else cap⟩ fn0 = some f' ∧
      v = { f := f', prev := [0], maxstack := M } := by
  unfold fiberNew at h
  simp only at h
  split at h
  · cases h
  · next f' hf => exact ⟨f', hf, (Option.some.inj h).symm⟩

theorem fiberNew_inv {cap M S : Nat} {fn0 : Fn} {v : VFiber} (hfit : Fits M S) (hs : fn0.slotcount ≤ S)
    (h : fiberNew cap fn0 M = some v) : VInv M S (if cap < 32 then 32 else cap) v := by
  have hB2 : 4 ≤ B M := frame_le_B M
  have hfit' := hfit
  unfold Fits at hfit
  obtain ⟨f', hf, rfl⟩ := fiberNew_some h
  obtain ⟨h1, h2, h3, h4⟩ := funcframe_some hf
  simp only [FRAME] at h1 h2 h3 h4
  have harith := frame_arith hfit' hB2 hs h1 h2 h3
  refine ⟨rfl, ?_, harith.1, harith.2.1, harith.2.2.1, harith.2.2.2.1, harith.2.2.2.2, ?_⟩
  · show chainOK (f'.frame :: [0]); rw [h1]; exact ⟨by simp [FRAME], rfl⟩
  · rcases h4 with h4 | h4
    · rw [h4]; exact Nat.le_max_left _ _
    · rw [h4]; refine Nat.le_trans ?_ (Nat.le_max_right _ _); omega

def nCalls : List VOp → Nat
  | [] => 0
  | .call _ :: r => nCalls r + 1
  | _ :: r => nCalls r

def noRet : List VOp → Prop
  | [] => True
  | .ret :: _ => False
  | _ :: r => noRet r

theorem vrun_frames_noRet : ∀ (ops : List VOp) (v v' : VFiber), noRet ops → vrun v ops = .ok v' →
    v'.prev.length = v.prev.length + nCalls ops
  | [], v, v', _, h => by
    simp only [vrun] at h; have := Except.ok.inj h; subst this; simp [nCalls]
  | op :: rest, v, v', hn, h => by
    simp only [vrun] at h
    cases h1 : vstep v op with
    | error e => rw [h1] at h; cases h
    | ok v1 =>
      rw [h1] at h
      have hok := vstep_ok h1
      cases op with
      | push n => rw [vrun_frames_noRet rest v1 v' hn h, hok.2]; rfl
      | call fn =>
        obtain ⟨_, f', _, rfl⟩ := hok
        rw [vrun_frames_noRet rest _ v' hn h]
        simp only [List.length_cons, nCalls]
        omega
      | tail fn =>
        obtain ⟨_, f', _, rfl⟩ := hok
        exact vrun_frames_noRet rest { v with f := f' } v' hn h
      | ret => exact hn.elim

theorem vrun_error_kinds : ∀ (ops : List VOp) (v : VFiber) (e : String), vrun v ops = .error e →
    e = "stack overflow" ∨ e = "arity"
  | [], v, e, h => by simp [vrun] at h
  | op :: rest, v, e, h => by
    simp only [vrun] at h
    cases h1 : vstep v op with
    | ok v1 => rw [h1] at h; exact vrun_error_kinds rest v1 e h
    | error e1 => rw [h1] at h; exact Except.error.inj h ▸ vstep_error h1

end JanetModel.Depth
