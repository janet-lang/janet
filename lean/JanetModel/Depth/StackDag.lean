/- C19: the per-SCC stack budgets composed along the SCC DAG.

   `stack_bytes_bounded` sums the budgets of ALL recursive SCCs.  A real native stack passes through the SCCs it visits in
   the order of the call graph's condensation, so only SCCs on one path of that DAG can be live together.
   `ReachCert`: for every recursive SCC an UNTRUSTED set (bit mask over all functions of the module) claimed to contain
   everything reachable from it; `reachOK` re-checks membership and closure under EVERY call edge and that a pair of SCCs
   not listed in `claimed` is really unreachable.  `reach_sound`: then any call chain from a function of SCC i to a
   function of SCC j ≠ i makes (i, j) a claimed pair.  `sccPotOK` + `path_budget_le`: the budgets along any path of claimed
   pairs sum to at most the potential of its first SCC.  Core Lean only. -/
import JanetModel.Depth.StackLemmas
import JanetModel.Depth.GuardCert
import JanetModel.Depth.TableEval
import JanetModel.Util.Bits
namespace JanetModel.Depth

structure ReachCert where
  n : Nat
  edges : List (Nat × Nat)
  members : List (List Nat)
  masks : List Nat
  claimed : List (Nat × Nat)

def maskOf (c : ReachCert) (i : Nat) : Nat := c.masks.getD i 0
def membersOf (c : ReachCert) (i : Nat) : List Nat := c.members.getD i []

def reachOK (c : ReachCert) : Bool :=
  (List.range c.members.length).all (fun i =>
    (membersOf c i).all (fun v => inMask (maskOf c i) v) &&
    c.edges.all (fun e => !(inMask (maskOf c i) e.1) || inMask (maskOf c i) e.2) &&
    (List.range c.members.length).all (fun j =>
      Nat.beq i j || edgeIn c.claimed (i, j) || (membersOf c j).all (fun v => !(inMask (maskOf c i) v))))

/-- a call chain over an edge list -/
def ChainE (es : List (Nat × Nat)) : List Nat → Prop
  | [] => True
  | [_] => True
  | a :: b :: rest => (a, b) ∈ es ∧ ChainE es (b :: rest)

theorem chain_in_mask (es : List (Nat × Nat)) (m : Nat)
    (hcl : ∀ e ∈ es, (!(inMask m e.1) || inMask m e.2) = true) :
    ∀ (l : List Nat) (a : Nat), inMask m a = true → ChainE es (a :: l) → ∀ v ∈ a :: l, inMask m v = true
  | [], a, ha, _, v, hv => by simp at hv; exact hv ▸ ha
  | b :: rest, a, ha, hc, v, hv => by
    have hab : (a, b) ∈ es := hc.1
    have h1 := hcl (a, b) hab
    have hb : inMask m b = true := by
      simp only [Bool.or_eq_true, Bool.not_eq_true'] at h1
      rcases h1 with h1 | h1
      · rw [ha] at h1; exact Bool.noConfusion h1
      · exact h1
    rcases List.mem_cons.mp hv with hv | hv
    · exact hv ▸ ha
    · exact chain_in_mask es m hcl rest b hb hc.2 v hv

theorem reach_sound (c : ReachCert) (hok : reachOK c = true) (i j : Nat) (hi : i < c.members.length)
    (hj : j < c.members.length) (hne : i ≠ j) (a : Nat) (l : List Nat) (ha : a ∈ membersOf c i)
    (hc : ChainE c.edges (a :: l)) (b : Nat) (hb : b ∈ a :: l) (hbj : b ∈ membersOf c j) : (i, j) ∈ c.claimed := by
  simp only [reachOK, List.all_eq_true, List.mem_range, Bool.and_eq_true] at hok
  obtain ⟨⟨hmem, hcl⟩, hpairs⟩ := hok i hi
  have ham : inMask (maskOf c i) a = true := hmem a ha
  have hbm := chain_in_mask c.edges (maskOf c i) hcl l a ham hc b hb
  have hp := hpairs j hj
  simp only [Bool.or_eq_true, List.all_eq_true] at hp
  rcases hp with (hp | hp) | hp
  · exact absurd (Nat.eq_of_beq_eq_true hp) hne
  · exact (edgeIn_iff _ _).mp hp
  · have := hp b hbj
    rw [hbm] at this
    exact Bool.noConfusion this

/- The same check with the closure of all masks under an edge tested at once.  With the masks packed `c.n` bits apart (`TableEval.pack`), `pack >>> a` has bit `a` of mask `i` at position `i * c.n`, so one
comparison per edge serves all masks and the edge list is walked once.  `reachOKPacked` needs what `tools/gen/cgstack.py`
provides beyond `reachOK`: every edge end below `c.n`, every mask below `2 ^ c.n`. -/

theorem inMask_eq_testBit (m i : Nat) : inMask m i = m.testBit i := by
  rw [← Util.div_two_pow_mod_two, ← Nat.shiftRight_eq_div_pow, ← Nat.and_one_is_mod, Bool.eq_iff_iff, beq_iff_eq]
  exact Iff.of_eq Nat.beq_eq

open TableEval in
def closedPacked (N : Nat) (masks : List Nat) (edges : List (Nat × Nat)) : Bool :=
  masks.all (fun m => Nat.blt m (2 ^ N)) &&
  edges.all (fun e => Nat.blt e.1 N && Nat.blt e.2 N &&
    Nat.beq ((pack N masks >>> e.1) &&& pack N (masks.map fun _ => 1) &&& (pack N masks >>> e.2))
      ((pack N masks >>> e.1) &&& pack N (masks.map fun _ => 1)))

open TableEval in
theorem closed_of_closedPacked {N : Nat} {masks : List Nat} {edges : List (Nat × Nat)}
    (h : closedPacked N masks edges = true) (i : Nat) {e : Nat × Nat} (he : e ∈ edges) :
    (!(inMask (masks.getD i 0) e.1) || inMask (masks.getD i 0) e.2) = true := by
  simp only [closedPacked, Bool.and_eq_true, List.all_eq_true, Nat.blt_eq] at h
  obtain ⟨hm, hed⟩ := h
  obtain ⟨⟨h1, h2⟩, heq⟩ := hed e he
  replace heq := Nat.eq_of_beq_eq_true heq
  rw [inMask_eq_testBit, inMask_eq_testBit]
  by_cases hi : i < masks.length
  · cases hb : (masks.getD i 0).testBit e.1 with
    | false => rfl
    | true =>
      have hones : ∀ m ∈ masks.map (fun _ => 1), m < 2 ^ N := by
        intro m hmem
        obtain ⟨_, _, rfl⟩ := List.mem_map.mp hmem
        exact Nat.one_lt_two_pow (by omega)
      -- position `i * N` of the masked shift by `e.1` is set, so by `heq` it is set in the shift by `e.2`
      have hA : ((pack N masks >>> e.1) &&& pack N (masks.map fun _ => 1)).testBit (i * N) = true := by
        have := testBit_pack hones i (Nat.lt_of_le_of_lt (Nat.zero_le _) h1)
        rw [Nat.add_zero] at this
        rw [Nat.testBit_and, Nat.testBit_shiftRight, Nat.add_comm, testBit_pack hm i h1, hb, this]
        simp [List.getD_eq_getElem?_getD, hi]
      rw [← heq, Nat.testBit_and] at hA
      have hB := (Bool.and_eq_true_iff.mp hA).2
      rw [Nat.testBit_shiftRight, Nat.add_comm, testBit_pack hm i h2] at hB
      rw [hB]
      rfl
  · rw [List.getD_eq_getElem?_getD, List.getElem?_eq_none (by omega)]
    simp

def reachOKPacked (c : ReachCert) : Bool :=
  closedPacked c.n c.masks c.edges &&
  (List.range c.members.length).all (fun i =>
    (membersOf c i).all (fun v => inMask (maskOf c i) v) &&
    (List.range c.members.length).all (fun j =>
      Nat.beq i j || edgeIn c.claimed (i, j) || (membersOf c j).all (fun v => !(inMask (maskOf c i) v))))

theorem reachOK_of_packed {c : ReachCert} (h : reachOKPacked c = true) : reachOK c = true := by
  simp only [reachOKPacked, Bool.and_eq_true, List.all_eq_true] at h
  simp only [reachOK, Bool.and_eq_true, List.all_eq_true]
  exact fun i hi => ⟨⟨(h.2 i hi).1, fun e he => closed_of_closedPacked h.1 i he⟩, (h.2 i hi).2⟩

def bud (budget : List Nat) (i : Nat) : Nat := budget.getD i 0

def sccPotOK (budget spot : List Nat) (claimed : List (Nat × Nat)) : Bool :=
  claimed.all (fun e => Nat.ble (bud budget e.1 + bud spot e.2) (bud spot e.1)) &&
  (List.range budget.length).all (fun i => Nat.ble (bud budget i) (bud spot i))

def PathIn (claimed : List (Nat × Nat)) : List Nat → Prop
  | [] => True
  | [_] => True
  | a :: b :: rest => (a, b) ∈ claimed ∧ PathIn claimed (b :: rest)

def pathBudget (budget : List Nat) : List Nat → Nat
  | [] => 0
  | a :: rest => bud budget a + pathBudget budget rest

/-- the budgets along any path of the SCC DAG sum to at most the potential of its first SCC -/
theorem path_budget_le (budget spot : List Nat) (claimed : List (Nat × Nat)) (hok : sccPotOK budget spot claimed = true) :
    ∀ (rest : List Nat) (a : Nat), (∀ i ∈ a :: rest, i < budget.length) → PathIn claimed (a :: rest) →
      pathBudget budget (a :: rest) ≤ bud spot a
  | [], a, ha, _ => by
    simp only [sccPotOK, Bool.and_eq_true, List.all_eq_true, List.mem_range] at hok
    have := Nat.le_of_ble_eq_true (hok.2 a (ha a List.mem_cons_self))
    simpa [pathBudget] using this
  | b :: rest, a, hr, hp => by
    have hab : (a, b) ∈ claimed := hp.1
    have ih := path_budget_le budget spot claimed hok rest b (fun i hi => hr i (List.mem_cons_of_mem _ hi)) hp.2
    simp only [sccPotOK, Bool.and_eq_true, List.all_eq_true, List.mem_range] at hok
    have h1 := Nat.le_of_ble_eq_true (hok.1 (a, b) hab)
    simp only [pathBudget] at ih ⊢
    simp only at h1
    omega

def listMax : List Nat → Nat
  | [] => 0
  | a :: rest => max a (listMax rest)

theorem getD_le_listMax : ∀ (l : List Nat) (i : Nat), l.getD i 0 ≤ listMax l
  | [], i => by simp [listMax]
  | a :: rest, 0 => by simp [listMax]; exact Nat.le_max_left _ _
  | a :: rest, i + 1 => by
    simp only [List.getD_cons_succ, listMax]
    exact Nat.le_trans (getD_le_listMax rest i) (Nat.le_max_right _ _)

section segments
variable {G : CG} {frame pot cls unit budget : List Nat} {limits : List (List Nat)} {k mh : Nat}
  (hok : potOK G frame pot = true) (hu : unitsOK G pot cls unit k mh = true)
  (hbud : ∀ i, i < budget.length → bud budget i = mh + limitSum (limits.getD i []) unit k)
include hok hu hbud

/-- segments `(SCC id, chain)`, each within the class limits of its SCC, cost together at most the budgets of their SCCs -/
theorem segs_le_pathBudget : ∀ (segs : List (Nat × List Nat)),
    (∀ s ∈ segs, IsChain G s.2 ∧ ∀ v ∈ s.2, v < G.n) → (∀ s ∈ segs, s.1 < budget.length) →
    (∀ s ∈ segs, ∀ c, c < k → classCount G cls c s.2 ≤ (limits.getD s.1 []).getD c 0) →
    (segs.map fun s => chainBytes frame s.2).sum ≤ pathBudget budget (segs.map (·.1))
  | [], _, _, _ => Nat.le_refl _
  | s :: rest, hseg, hid, hcount => by
    have hs := hseg s List.mem_cons_self
    have h1 := segment_bytes_le_limits hok hu s.2 hs.1 hs.2 (hcount s List.mem_cons_self)
    have h2 := segs_le_pathBudget rest (fun x hx => hseg x (List.mem_cons_of_mem _ hx))
      (fun x hx => hid x (List.mem_cons_of_mem _ hx)) (fun x hx => hcount x (List.mem_cons_of_mem _ hx))
    simp only [List.map_cons, List.sum_cons, pathBudget, hbud s.1 (hid s List.mem_cons_self)]
    omega

/-- … and, when their SCCs lie along one path of the DAG, at most the largest SCC potential -/
theorem segs_le_listMax {spot : List Nat} {claimed : List (Nat × Nat)} (hpot : sccPotOK budget spot claimed = true)
    (segs : List (Nat × List Nat)) (hseg : ∀ s ∈ segs, IsChain G s.2 ∧ ∀ v ∈ s.2, v < G.n)
    (hid : ∀ s ∈ segs, s.1 < budget.length) (hpath : PathIn claimed (segs.map (·.1)))
    (hcount : ∀ s ∈ segs, ∀ c, c < k → classCount G cls c s.2 ≤ (limits.getD s.1 []).getD c 0) :
    (segs.map fun s => chainBytes frame s.2).sum ≤ listMax spot := by
  have h1 := segs_le_pathBudget hok hu hbud segs hseg hid hcount
  cases segs with
  | nil => exact Nat.zero_le _
  | cons s rest =>
    have hr : ∀ i ∈ s.1 :: rest.map (·.1), i < budget.length := fun i hi => by
      obtain ⟨x, hx, rfl⟩ := List.mem_map.mp (show i ∈ (s :: rest).map (·.1) from hi)
      exact hid x hx
    rw [List.map_cons] at h1 hpath
    exact Nat.le_trans h1 (Nat.le_trans (path_budget_le _ _ _ hpot _ s.1 hr hpath) (getD_le_listMax _ _))

end segments

end JanetModel.Depth
