/- C19: soundness of the rank certificate, for EVERY graph. -/
import JanetModel.Depth.Model
namespace JanetModel.Depth

theorem rankOK_edge {G : CG} {rank : List Nat} (h : rankOK G rank = true) {a b : Nat} (he : (a, b) ∈ G.edges) :
    a < G.n ∧ b < G.n ∧ (isGuard G a = true ∨ isGuard G b = true ∨ rk rank b < rk rank a) := by
  unfold rankOK at h
  rw [Bool.and_eq_true] at h
  have h1 := List.all_eq_true.mp h.1 (a, b) he
  unfold edgeOK at h1
  simp only [Bool.and_eq_true, Bool.or_eq_true, decide_eq_true_eq] at h1
  obtain ⟨⟨ha, hb⟩, h3⟩ := h1
  refine ⟨ha, hb, ?_⟩
  rcases h3 with (h3 | h3) | h3
  · exact Or.inl h3
  · exact Or.inr (Or.inl h3)
  · exact Or.inr (Or.inr h3)

theorem rankOK_node {G : CG} {rank : List Nat} (h : rankOK G rank = true) {v : Nat} (hv : v < G.n) :
    isGuard G v = true ∨ rk rank v < G.n := by
  unfold rankOK at h
  rw [Bool.and_eq_true] at h
  have h1 := List.all_eq_true.mp h.2 v (List.mem_range.mpr hv)
  unfold nodeOK at h1
  simp only [Bool.or_eq_true, decide_eq_true_eq] at h1
  exact h1

theorem IsChain.tail {G : CG} {a : Nat} {l : List Nat} (h : IsChain G (a :: l)) : IsChain G l := by
  cases l with
  | nil => trivial
  | cons b rest => exact h.2

theorem IsChain.of_append_right {G : CG} : ∀ (l1 l2 : List Nat), IsChain G (l1 ++ l2) → IsChain G l2
  | [], _, h => h
  | _ :: l1, l2, h => IsChain.of_append_right l1 l2 (IsChain.tail h)

theorem IsChain.of_append_left {G : CG} : ∀ (l1 l2 : List Nat), IsChain G (l1 ++ l2) → IsChain G l1
  | [], _, _ => trivial
  | [_], _, _ => trivial
  | a :: b :: l1, l2, h => by
    have h' : (a, b) ∈ G.edges ∧ IsChain G (b :: (l1 ++ l2)) := h
    exact ⟨h'.1, IsChain.of_append_left (b :: l1) l2 h'.2⟩

theorem rank_lt_of_edge {G : CG} {rank : List Nat} (hok : rankOK G rank = true) {a b : Nat} (he : (a, b) ∈ G.edges)
    (ga : isGuard G a = false) (gb : isGuard G b = false) : rk rank b < rk rank a := by
  obtain ⟨_, _, h3⟩ := rankOK_edge hok he
  simpa [ga, gb] using h3

/-- potential used for the whole-chain bound -/
private def headSlack (G : CG) (rank : List Nat) (a : Nat) : Nat := if isGuard G a then 0 else rk rank a + 1

theorem chain_length_aux {G : CG} {rank : List Nat} (hok : rankOK G rank = true) :
    ∀ (a : Nat) (l : List Nat), IsChain G (a :: l) →
      (a :: l).length ≤ guardCount G (a :: l) * (G.n + 1) + (if isGuard G a then 0 else rk rank a + 1)
  | a, [], _ => by cases ga : isGuard G a <;> simp [guardCount, ga]
  | a, b :: rest, hc => by
    have ih := chain_length_aux hok b rest hc.2
    obtain ⟨_, hb, h3⟩ := rankOK_edge hok hc.1
    have hbn := rankOK_node hok hb
    rw [guardCount]
    simp only [List.length_cons] at ih ⊢
    -- four cases by the guard marks of `a` and `b`; a non-guard `b` has `rank b < |V|`, and `rank b < rank a` if `a` is none either
    cases ga : isGuard G a <;> cases gb : isGuard G b <;>
      simp only [ga, gb, Bool.false_eq_true, if_false, if_true, false_or, Nat.zero_add, Nat.add_mul] at ih h3 hbn ⊢ <;>
      omega

theorem guardCount_eq_zero {G : CG} : ∀ {l : List Nat}, (∀ v ∈ l, isGuard G v = false) → guardCount G l = 0
  | [], _ => rfl
  | a :: l, h => by
    rw [guardCount, h a List.mem_cons_self, guardCount_eq_zero fun v hv => h v (List.mem_cons_of_mem a hv)]
    rfl

/-- a chain is at most `|V|` frames longer than `|V| + 1` times its number of guard frames -/
theorem chain_length_le {G : CG} {rank : List Nat} (hok : rankOK G rank = true) (chain : List Nat)
    (hc : IsChain G chain) (hin : ∀ v ∈ chain, v < G.n) : chain.length ≤ guardCount G chain * (G.n + 1) + G.n := by
  cases chain with
  | nil => exact Nat.zero_le _
  | cons a l =>
    have h := chain_length_aux hok a l hc
    -- the head, when it is no guard, has a rank below `|V|`
    have ha := rankOK_node hok (hin a List.mem_cons_self)
    cases ga : isGuard G a <;> simp only [ga, Bool.false_eq_true, false_or, if_false, if_true] at h ha <;> omega

theorem nonguard_run_le {G : CG} {rank : List Nat} (hok : rankOK G rank = true) (run : List Nat)
    (hc : IsChain G run) (hng : ∀ v ∈ run, isGuard G v = false) (hin : ∀ v ∈ run, v < G.n) :
    run.length ≤ G.n := by
  have h := chain_length_le hok run hc hin
  rwa [guardCount_eq_zero hng, Nat.zero_mul, Nat.zero_add] at h

theorem chain_rank_lt {G : CG} {rank : List Nat} (hok : rankOK G rank = true) :
    ∀ (a : Nat) (l : List Nat), IsChain G (a :: l) → (∀ v ∈ a :: l, isGuard G v = false) →
      ∀ v ∈ l, rk rank v < rk rank a
  | _, [], _, _ => by intro v hv; cases hv
  | a, b :: rest, hc, hng => by
    have ih := chain_rank_lt hok b rest hc.2 (fun v hv => hng v (List.mem_cons_of_mem a hv))
    have hlt := rank_lt_of_edge hok hc.1 (hng a List.mem_cons_self) (hng b (List.mem_cons_of_mem a List.mem_cons_self))
    intro v hv
    rcases List.mem_cons.mp hv with h | h
    · rw [h]; exact hlt
    · exact Nat.lt_trans (ih v h) hlt

/-- A closed chain of non-guard frames refutes every rank certificate (completeness of the check:
    a failing `rankOK` is not an artefact of the rank search when the translator exhibits such a cycle). -/
theorem unguarded_cycle_no_rank {G : CG} (a : Nat) (mid : List Nat)
    (hc : IsChain G (a :: (mid ++ [a]))) (hng : ∀ v ∈ a :: (mid ++ [a]), isGuard G v = false) :
    ∀ rank : List Nat, rankOK G rank = false := by
  intro rank
  by_cases hok : rankOK G rank = true
  · have h := chain_rank_lt hok a (mid ++ [a]) hc hng a (List.mem_append_right mid List.mem_cons_self)
    exact absurd h (Nat.lt_irrefl _)
  · simpa using hok

theorem balanced_no_excess_release : ∀ (ps : List PathCount), balanced ps = true →
    (ps.map (·.releases)).sum ≤ (ps.map (·.charges)).sum
  | [], _ => by simp
  | p :: ps, h => by
    unfold balanced at h
    rw [List.all_cons, Bool.and_eq_true] at h
    have ih := balanced_no_excess_release ps h.2
    have hp : p.releases ≤ p.charges := by
      have := h.1
      unfold pathOK at this
      rw [Bool.and_eq_true] at this
      exact of_decide_eq_true this.1
    simp only [List.map_cons, List.sum_cons]
    omega

end JanetModel.Depth
