/- C19: soundness of the potential certificate for native stack bytes, for EVERY graph / frame table. -/
import JanetModel.Depth.Stack
namespace JanetModel.Depth

theorem potOK_edge {G : CG} {frame pot : List Nat} (h : potOK G frame pot = true) {a b : Nat}
    (he : (a, b) ∈ G.edges) : isGuard G b = true ∨ wt frame a + pt pot b ≤ pt pot a := by
  unfold potOK at h
  rw [Bool.and_eq_true] at h
  have h1 := List.all_eq_true.mp h.1 (a, b) he
  unfold potEdgeOK at h1
  simp only [Bool.or_eq_true, decide_eq_true_eq] at h1
  exact h1

theorem potOK_node {G : CG} {frame pot : List Nat} (h : potOK G frame pot = true) {v : Nat} (hv : v < G.n) :
    wt frame v ≤ pt pot v := by
  unfold potOK at h
  rw [Bool.and_eq_true] at h
  have h1 := List.all_eq_true.mp h.2 v (List.mem_range.mpr hv)
  unfold potNodeOK at h1
  exact of_decide_eq_true h1

theorem chain_bytes_le {G : CG} {frame pot : List Nat} (hok : potOK G frame pot = true) :
    ∀ (a : Nat) (l : List Nat), IsChain G (a :: l) → (∀ v ∈ a :: l, v < G.n) →
      chainBytes frame (a :: l) ≤ pt pot a + guardPot G pot l
  | a, [], _, hin => by
    have hn := potOK_node hok (hin a List.mem_cons_self)
    simp only [chainBytes, guardPot]
    omega
  | a, b :: rest, hc, hin => by
    have ih := chain_bytes_le hok b rest hc.2 (fun v hv => hin v (List.mem_cons_of_mem a hv))
    have he := potOK_edge hok hc.1
    rw [chainBytes, guardPot]
    cases gb : isGuard G b
    · simp only [gb, Bool.false_eq_true, false_or] at he
      simp only [Bool.false_eq_true, if_false]
      omega
    · have hn := potOK_node hok (hin a List.mem_cons_self)
      simp only [if_true]
      omega

theorem unitsOK_node {G : CG} {pot cls unit : List Nat} {k mh : Nat} (h : unitsOK G pot cls unit k mh = true)
    {v : Nat} (hv : v < G.n) :
    if isGuard G v then pt pot v ≤ unitOf unit (clsOf cls v) ∧ clsOf cls v < k else pt pot v ≤ mh := by
  have h1 := List.all_eq_true.mp h v (List.mem_range.mpr hv)
  cases g : isGuard G v <;>
    simp only [g, Bool.false_eq_true, if_false, if_true, Bool.and_eq_true, decide_eq_true_eq] at h1 ⊢ <;> exact h1

theorem guardPot_le_guardUnits {G : CG} {pot cls unit : List Nat} {k mh : Nat} (hu : unitsOK G pot cls unit k mh = true) :
    ∀ (l : List Nat), (∀ v ∈ l, v < G.n) → guardPot G pot l ≤ guardUnits G cls unit l
  | [], _ => Nat.le_refl _
  | b :: rest, hb => by
    have ih := guardPot_le_guardUnits hu rest (fun v hv => hb v (List.mem_cons_of_mem b hv))
    have hn := unitsOK_node hu (hb b List.mem_cons_self)
    rw [guardPot, guardUnits]
    cases gb : isGuard G b <;> simp only [gb, Bool.false_eq_true, if_false, if_true] at hn ⊢ <;> omega

theorem segment_bytes_le {G : CG} {frame pot cls unit : List Nat} {k mh : Nat} (hok : potOK G frame pot = true)
    (hu : unitsOK G pot cls unit k mh = true) (s : List Nat) (hc : IsChain G s) (hin : ∀ v ∈ s, v < G.n) :
    chainBytes frame s ≤ mh + guardUnits G cls unit s := by
  cases s with
  | nil => simp [chainBytes]
  | cons a l =>
    have h1 := chain_bytes_le hok a l hc hin
    have h3 := guardPot_le_guardUnits hu l (fun v hv => hin v (List.mem_cons_of_mem a hv))
    have hn := unitsOK_node hu (hin a List.mem_cons_self)
    rw [guardUnits]
    cases ga : isGuard G a <;> simp only [ga, Bool.false_eq_true, if_false, if_true] at hn ⊢ <;> omega

theorem guardUnits_append (G : CG) (cls unit : List Nat) : ∀ (l1 l2 : List Nat),
    guardUnits G cls unit (l1 ++ l2) = guardUnits G cls unit l1 + guardUnits G cls unit l2
  | [], l2 => by simp [guardUnits]
  | a :: l1, l2 => by
    rw [List.cons_append, guardUnits, guardUnits, guardUnits_append G cls unit l1 l2, Nat.add_assoc]

theorem segments_bytes_le {G : CG} {frame pot cls unit : List Nat} {k mh : Nat} (hok : potOK G frame pot = true)
    (hu : unitsOK G pot cls unit k mh = true) : ∀ (segs : List (List Nat)),
    (∀ s ∈ segs, IsChain G s ∧ ∀ v ∈ s, v < G.n) →
    (segs.map (chainBytes frame)).sum ≤ segs.length * mh + guardUnits G cls unit segs.flatten
  | [], _ => by simp [guardUnits]
  | s :: segs, h => by
    have ih := segments_bytes_le hok hu segs (fun t ht => h t (List.mem_cons_of_mem s ht))
    have hs := h s List.mem_cons_self
    have h1 := segment_bytes_le hok hu s hs.1 hs.2
    rw [List.flatten_cons, guardUnits_append, List.map_cons, List.sum_cons, List.length_cons, Nat.add_mul]
    omega

theorem classSum_nil (G : CG) (cls unit : List Nat) : ∀ (k : Nat), classSum G cls unit [] k = 0
  | 0 => rfl
  | k + 1 => by rw [classSum, classSum_nil G cls unit k, classCount, Nat.zero_mul]

/-- a frame adds its unit to the sum over the classes below `k` exactly when it is a guard of one of them -/
theorem classSum_cons (G : CG) (cls unit : List Nat) (a : Nat) (l : List Nat) : ∀ (k : Nat),
    classSum G cls unit (a :: l) k =
      (if isGuard G a && decide (clsOf cls a < k) then unitOf unit (clsOf cls a) else 0) + classSum G cls unit l k
  | 0 => by simp [classSum]
  | k + 1 => by
    rw [classSum, classSum, classSum_cons G cls unit a l k, classCount, Nat.add_mul]
    cases ga : isGuard G a
    · simp
    · rcases Nat.lt_trichotomy (clsOf cls a) k with hlt | heq | hgt
      · have hne : ¬ clsOf cls a = k := by omega
        have hlt' : clsOf cls a < k + 1 := by omega
        simp [hlt, hlt', hne]; omega
      · simp [heq]; omega
      · have hne : ¬ clsOf cls a = k := by omega
        have hnl : ¬ clsOf cls a < k := by omega
        have hnl' : ¬ clsOf cls a < k + 1 := by omega
        simp [hnl, hnl', hne]

theorem guardUnits_eq_classSum (G : CG) (cls unit : List Nat) (k : Nat) : ∀ (l : List Nat),
    (∀ v ∈ l, isGuard G v = true → clsOf cls v < k) → guardUnits G cls unit l = classSum G cls unit l k
  | [], _ => (classSum_nil G cls unit k).symm
  | a :: rest, h => by
    rw [guardUnits, classSum_cons, guardUnits_eq_classSum G cls unit k rest (fun v hv => h v (List.mem_cons_of_mem a hv))]
    cases ga : isGuard G a
    · simp
    · simp [h a List.mem_cons_self ga]

theorem classSum_le_limitSum (G : CG) (cls unit N : List Nat) (l : List Nat) : ∀ (k : Nat),
    (∀ c, c < k → classCount G cls c l ≤ N.getD c 0) → classSum G cls unit l k ≤ limitSum N unit k
  | 0, _ => by simp [classSum, limitSum]
  | k + 1, h => by
    have ih := classSum_le_limitSum G cls unit N l k (fun c hc => h c (Nat.lt_succ_of_lt hc))
    have hk := h k (Nat.lt_succ_self k)
    have hm : classCount G cls k l * unitOf unit k ≤ N.getD k 0 * unitOf unit k := Nat.mul_le_mul_right _ hk
    show classSum G cls unit l k + classCount G cls k l * unitOf unit k ≤ limitSum N unit k + N.getD k 0 * unitOf unit k
    omega

theorem segments_bytes_le_limits {G : CG} {frame pot cls unit N : List Nat} {k mh : Nat}
    (hok : potOK G frame pot = true) (hu : unitsOK G pot cls unit k mh = true) (segs : List (List Nat))
    (hseg : ∀ s ∈ segs, IsChain G s ∧ ∀ v ∈ s, v < G.n)
    (hcount : ∀ c, c < k → classCount G cls c segs.flatten ≤ N.getD c 0) :
    (segs.map (chainBytes frame)).sum ≤ segs.length * mh + limitSum N unit k := by
  have h1 := segments_bytes_le hok hu segs hseg
  have hin : ∀ v ∈ segs.flatten, isGuard G v = true → clsOf cls v < k := by
    intro v hv g
    obtain ⟨s, hs, hvs⟩ := List.mem_flatten.mp hv
    have := unitsOK_node hu ((hseg s hs).2 v hvs)
    rw [g] at this
    exact this.2
  rw [guardUnits_eq_classSum G cls unit k _ hin] at h1
  have h2 := classSum_le_limitSum G cls unit N segs.flatten k hcount
  omega

theorem segment_bytes_le_limits {G : CG} {frame pot cls unit N : List Nat} {k mh : Nat}
    (hok : potOK G frame pot = true) (hu : unitsOK G pot cls unit k mh = true) (s : List Nat)
    (hc : IsChain G s) (hin : ∀ v ∈ s, v < G.n) (hcount : ∀ c, c < k → classCount G cls c s ≤ N.getD c 0) :
    chainBytes frame s ≤ mh + limitSum N unit k := by
  have h := segments_bytes_le_limits hok hu [s] (fun x hx => List.mem_singleton.mp hx ▸ ⟨hc, hin⟩)
    (by simpa using hcount)
  simpa using h

end JanetModel.Depth
