/- C19: tail calls run in constant fiber stack; non-tail calls do not. -/
import JanetModel.Depth.Tail
namespace JanetModel.Depth

/-- invariant of a tail-call loop started in frame `fr0` with functions of at most `S` slots and at most `A` pushed
    arguments per call: the frame index never moves, the stack top stays within one frame, the capacity is bounded. -/
structure TailInv (fr0 S A cap0 : Nat) (f : Fiber) : Prop where
  frame_eq : f.frame = fr0
  start_eq : f.stackstart = f.stacktop
  top_le : f.stacktop ≤ fr0 + S + FRAME
  cap_le : f.capacity ≤ cap0 ∨ f.capacity ≤ 2 * (fr0 + 2 * S + A + FRAME + 1)

theorem funcframeTail_some {f f' : Fiber} {fn : Fn} (h : funcframeTail f fn = some f') :
    f'.frame = f.frame ∧ f'.stackstart = f.frame + fn.slotcount + 4 ∧ f'.stacktop = f.frame + fn.slotcount + 4 ∧
    (f'.capacity = f.capacity ∨ f'.capacity = 2 * (f.frame + fn.slotcount + 4) ∨
      f'.capacity = 2 * (f.stackstart + fn.arity + 1)) := by
  unfold funcframeTail at h
  simp only [FRAME] at h
  split at h
  · cases h
  · injection h with h
    subst h
    refine ⟨rfl, rfl, rfl, ?_⟩
    by_cases hc : f.capacity < f.frame + fn.slotcount + 4
    · simp only [hc, if_true]
      split
      · exact .inr (.inr rfl)
      · exact .inr (.inl rfl)
    · simp only [hc, if_false]
      split
      · exact .inr (.inr rfl)
      · exact .inl rfl

theorem tail_step {fr0 S A cap0 : Nat} {f f' : Fiber} {k : Nat} {fn : Fn}
    (hinv : TailInv fr0 S A cap0 f) (hk : k ≤ A) (hs : fn.slotcount ≤ S) (ha : fn.arity ≤ S)
    (h : funcframeTail (pushn f k) fn = some f') : TailInv fr0 S A cap0 f' := by
  obtain ⟨h1, h2, h3, h4⟩ := funcframeTail_some h
  have hp1 : (pushn f k).frame = f.frame := rfl
  have hp2 : (pushn f k).stackstart = f.stackstart := rfl
  have hp3 : (pushn f k).capacity = f.capacity ∨ (pushn f k).capacity = 2 * (f.stacktop + k) := by
    unfold pushn grow
    simp only
    split
    · right; rfl
    · left; rfl
  rw [hp1] at h1 h2 h3 h4
  rw [hp2] at h4
  have e1 := hinv.frame_eq
  have e2 := hinv.start_eq
  have e3 := hinv.top_le
  have e4 := hinv.cap_le
  simp only [FRAME] at e3 e4
  have : f'.frame = fr0 ∧ f'.stackstart = f'.stacktop ∧ f'.stacktop ≤ fr0 + S + 4 ∧
      (f'.capacity ≤ cap0 ∨ f'.capacity ≤ 2 * (fr0 + 2 * S + A + 4 + 1)) := by omega
  exact ⟨this.1, this.2.1, this.2.2.1, this.2.2.2⟩

theorem tailLoop_inv {fr0 S A cap0 : Nat} :
    ∀ (calls : List (Nat × Fn)) (f f' : Fiber), TailInv fr0 S A cap0 f →
      (∀ c ∈ calls, c.1 ≤ A ∧ c.2.slotcount ≤ S ∧ c.2.arity ≤ S) →
      tailLoop f calls = some f' → TailInv fr0 S A cap0 f'
  | [], f, f', hinv, _, h => by
    unfold tailLoop at h
    injection h with h
    subst h
    exact hinv
  | (k, fn) :: rest, f, f', hinv, hall, h => by
    unfold tailLoop at h
    have hc := hall (k, fn) List.mem_cons_self
    cases hft : funcframeTail (pushn f k) fn with
    | none => rw [hft] at h; cases h
    | some f1 =>
      rw [hft] at h
      have hinv1 := tail_step hinv hc.1 hc.2.1 hc.2.2 hft
      exact tailLoop_inv rest f1 f' hinv1 (fun c hc' => hall c (List.mem_cons_of_mem _ hc')) h

theorem funcframe_some {f f' : Fiber} {fn : Fn} (h : funcframe f fn = some f') :
    f'.frame = f.stackstart ∧ f'.stackstart = f.stackstart + fn.slotcount + 4 ∧
    f'.stacktop = f.stackstart + fn.slotcount + 4 ∧
    (f'.capacity = f.capacity ∨ f'.capacity = 2 * (f.stackstart + fn.slotcount + 4)) := by
  unfold funcframe at h
  simp only [FRAME] at h
  split at h
  · cases h
  · injection h with h
    subst h
    refine ⟨rfl, rfl, rfl, ?_⟩
    by_cases hc : f.capacity < f.stackstart + fn.slotcount + 4
    · right; simp [hc]
    · left; simp [hc]

theorem callLoop_grows :
    ∀ (calls : List (Nat × Fn)) (f f' : Fiber),
      callLoop f calls = some f' → f.stackstart + FRAME * calls.length ≤ f'.stackstart
  | [], f, f', h => by
    unfold callLoop at h
    injection h with h
    subst h
    simp
  | (k, fn) :: rest, f, f', h => by
    unfold callLoop at h
    cases hft : funcframe (pushn f k) fn with
    | none => rw [hft] at h; cases h
    | some f1 =>
      rw [hft] at h
      obtain ⟨_, g2, _, _⟩ := funcframe_some hft
      have hp2 : (pushn f k).stackstart = f.stackstart := rfl
      have ih := callLoop_grows rest f1 f' h
      simp only [List.length_cons]
      simp only [FRAME] at g2 ih ⊢
      rw [Nat.mul_add]
      omega

end JanetModel.Depth
