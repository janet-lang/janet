/- Lookups rewritten so that the kernel, which remembers the value of every closed term it has evaluated, shares work across
   a certificate check over a generated table.  Core Lean only. -/
namespace JanetModel.TableEval

/-- `l.drop i` as the tail of `l.drop (i - 1)`: lookups at all indices together walk the table once -/
def sharedDrop (l : List α) : Nat → List α
  | 0 => l
  | i + 1 => (sharedDrop l i).tail

theorem sharedDrop_eq (l : List α) : ∀ i, sharedDrop l i = l.drop i
  | 0 => rfl
  | i + 1 => by rw [sharedDrop, sharedDrop_eq l i, List.tail_drop]

theorem getD_eq_sharedDrop (l : List α) (i : Nat) (d : α) : l.getD i d = (sharedDrop l i).headD d := by
  rw [sharedDrop_eq, List.headD_eq_head?_getD, List.head?_drop, List.getD_eq_getElem?_getD]

/-- `f n` with `n` evaluated first: remembered per index value, not per unevaluated index term (`e.1`) -/
def strict (f : Nat → α) (n : Nat) : α := Nat.rec (f 0) (fun k _ => f (k + 1)) n

theorem strict_eq (f : Nat → α) : strict f = f := by
  funext n
  cases n <;> rfl

/-- a list of numbers as a bit set: membership is one shift -/
def bitsOf : List Nat → Nat
  | [] => 0
  | t :: l => 2 ^ t ||| bitsOf l

theorem contains_eq_testBit (l : List Nat) (x : Nat) : l.contains x = (bitsOf l).testBit x := by
  induction l with
  | nil => simp [bitsOf]
  | cons t l ih =>
    rw [List.contains_cons, ih, bitsOf, Nat.testBit_or, Nat.testBit_two_pow]
    simp only [eq_comm (a := t)]
    rfl

/-- numbers below `2 ^ N` side by side: one shift reads the same bit of all -/
def pack (N : Nat) : List Nat → Nat
  | [] => 0
  | m :: ms => 2 ^ N * pack N ms + m

theorem testBit_pack {N : Nat} : ∀ {ms : List Nat}, (∀ m ∈ ms, m < 2 ^ N) → ∀ (i : Nat) {a : Nat}, a < N →
    (pack N ms).testBit (i * N + a) = (ms.getD i 0).testBit a
  | [], _, i, a, _ => by simp [pack]
  | m :: ms, h, 0, a, ha => by
    rw [pack, Nat.testBit_two_pow_mul_add _ (h m List.mem_cons_self)]
    simp [ha]
  | m :: ms, h, i + 1, a, ha => by
    rw [pack, Nat.testBit_two_pow_mul_add _ (h m List.mem_cons_self), if_neg (by rw [Nat.succ_mul]; omega),
      show (i + 1) * N + a - N = i * N + a by rw [Nat.succ_mul]; omega, List.getD_cons_succ]
    exact testBit_pack (fun m hm => h m (List.mem_cons_of_mem _ hm)) i ha

end JanetModel.TableEval
