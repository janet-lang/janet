/- C19: hand models of the three NON-recursive designs.

  1. value.c  janet_equals / janet_compare: explicit traversal stack (push_traversal_node / traversal_next); the C
     functions contain a loop and no self call.  Model: a work list of pairs, one non-recursive `step` per loop turn.
  2. parse.c  parser: explicit state stack (pushstate / popstate), one non-recursive transition per input byte.
  3. gc.c     marker: recursion on a depth counter; when the counter is used up the value is put on the root list
     (spill) and picked up again by the outer loop of janet_collect.
-/
import JanetModel.Util.List
namespace JanetModel.Depth

/-- immutable janet data, tuples as cons cells (a struct is the same shape with key/value alternation) -/
inductive V where
  | atom : Nat → V
  | nil : V
  | cons : V → V → V
  deriving DecidableEq, Repr

def V.size : V → Nat
  | .atom _ => 1
  | .nil => 1
  | .cons a b => a.size + b.size + 1

/-- one turn of the loop in janet_equals: pop a pair, compare the heads, push the children.
    NOT recursive: the only unbounded storage is the work list (janet_vm.traversal, heap). -/
def eqStep : List (V × V) → Option (List (V × V))
  | [] => some []
  | (.atom m, .atom n) :: rest => if m = n then some rest else none
  | (.nil, .nil) :: rest => some rest
  | (.cons a1 a2, .cons b1 b2) :: rest => some ((a1, b1) :: (a2, b2) :: rest)
  | _ :: _ => none

/-- the loop: iterate `eqStep` until the work list is empty (`fuel` = loop turns) -/
def eqLoop : Nat → List (V × V) → Option Bool
  | _, [] => some true
  | 0, _ :: _ => none
  | fuel + 1, p :: rest =>
    match eqStep (p :: rest) with
    | none => some false
    | some w => eqLoop fuel w

def workSize : List (V × V) → Nat
  | [] => 0
  | p :: rest => p.1.size + workSize rest

theorem V.size_pos (v : V) : 0 < v.size := by cases v <;> simp [V.size]

theorem eqLoop_correct : ∀ (fuel : Nat) (w : List (V × V)), workSize w ≤ fuel →
    eqLoop fuel w = some (decide (∀ p ∈ w, p.1 = p.2))
  | _, [], _ => by simp [eqLoop]
  | 0, p :: rest, h => by
    have := V.size_pos p.1
    simp [workSize] at h
    omega
  | fuel + 1, (a, b) :: rest, h => by
    simp only [workSize] at h
    cases a <;> cases b
    case atom.atom m n =>
      by_cases hmn : m = n
      · have ih := eqLoop_correct fuel rest (by simp [V.size] at h; omega)
        simp [eqLoop, eqStep, hmn, ih]
      · simp [eqLoop, eqStep, hmn]
    case nil.nil =>
      have ih := eqLoop_correct fuel rest (by simp [V.size] at h; omega)
      simp [eqLoop, eqStep, ih]
    case cons.cons a1 a2 b1 b2 =>
      have ih := eqLoop_correct fuel ((a1, b1) :: (a2, b2) :: rest) (by simp [V.size, workSize] at h ⊢; omega)
      simp only [eqLoop, eqStep, ih]
      simp only [List.mem_cons, forall_eq_or_imp, V.cons.injEq]
      congr 1
      apply decide_eq_decide.mpr
      constructor
      · rintro ⟨h1, h2, h3⟩; exact ⟨⟨h1, h2⟩, h3⟩
      · rintro ⟨⟨h1, h2⟩, h3⟩; exact ⟨h1, h2, h3⟩
    -- heads of different shape: the step refuses, and the pair is unequal
    all_goals simp [eqLoop, eqStep]

/-- a value nested `n` deep (the sweep's "tuple" kind) -/
def nest : Nat → V → V
  | 0, leaf => leaf
  | n + 1, leaf => .cons (nest n leaf) .nil

inductive Tok where
  | open_ : Tok
  | close : Tok
  | atom : Nat → Tok
  deriving Repr

/-- parser state: stack of partially built tuples (innermost first); `none` = error state (unmatched close) -/
abbrev PState := Option (List (List V))

def listToV : List V → V
  | [] => .nil
  | x :: xs => .cons x (listToV xs)

/-- one input token: pushstate on open, popstate on close (wrap the finished tuple and append it to its parent),
    append on atom.  NOT recursive; the stack is the heap array `parser->states`. -/
def pstep : PState → Tok → PState
  | none, _ => none
  | some st, .open_ => some ([] :: st)
  | some (top :: st), .atom n => some ((top ++ [.atom n]) :: st)
  | some (top :: parent :: st), .close => some ((parent ++ [listToV top]) :: st)
  | some _, _ => none

def pconsume (s : PState) (ts : List Tok) : PState := ts.foldl pstep s

theorem pconsume_opens (n : Nat) (st : List (List V)) :
    pconsume (some st) (List.replicate n Tok.open_) = some (List.replicate n [] ++ st) := by
  induction n generalizing st with
  | zero => rfl
  | succ n ih =>
    simp only [List.replicate_succ, pconsume, List.foldl_cons, pstep]
    have := ih ([] :: st)
    simp only [pconsume] at this
    rw [this]
    congr 1
    rw [← List.replicate_succ, List.replicate_succ', List.append_assoc]
    rfl

/-- `top` wrapped into `n + 1` nested tuples -/
def wrapL : Nat → List V → V
  | 0, top => listToV top
  | n + 1, top => wrapL n [listToV top]

theorem pconsume_closes : ∀ (n : Nat) (top root : List V),
    pconsume (some (top :: (List.replicate n [] ++ [root]))) (List.replicate (n + 1) Tok.close)
      = some [root ++ [wrapL n top]]
  | 0, top, root => by
    simp [pconsume, pstep, wrapL]
  | n + 1, top, root => by
    have ih := pconsume_closes n [listToV top] root
    simp only [pconsume] at ih ⊢
    rw [List.replicate_succ (n := n + 1), List.foldl_cons]
    simp only [List.replicate_succ, List.cons_append, pstep, List.nil_append]
    simp only [List.replicate_succ] at ih
    rw [ih]
    rfl

theorem pconsume_append (s : PState) (a b : List Tok) : pconsume s (a ++ b) = pconsume (pconsume s a) b := by
  simp [pconsume, List.foldl_append]

structure MarkState where
  marked : List Nat
  spill : List Nat
  deriving Repr

/-- janet_mark with the thread-local `depth` counter: structural recursion on the counter, so the C recursion depth
    is at most the initial counter value by construction; at 0 the value is spilled to the root list. -/
def markD (succ : Nat → List Nat) : Nat → Nat → MarkState → MarkState
  | 0, x, s => { s with spill := x :: s.spill }
  | d + 1, x, s =>
    if x ∈ s.marked then s
    else (succ x).foldl (fun acc y => markD succ d y acc) { s with marked := x :: s.marked }

theorem markD_mono (succ : Nat → List Nat) : ∀ (d x : Nat) (s : MarkState) (v : Nat),
    (v ∈ s.marked ∨ v ∈ s.spill) → (v ∈ (markD succ d x s).marked ∨ v ∈ (markD succ d x s).spill)
  | 0, x, s, v, h => by
    simp only [markD]
    rcases h with h | h
    · exact Or.inl h
    · exact Or.inr (List.mem_cons_of_mem x h)
  | d + 1, x, s, v, h => by
    simp only [markD]
    split
    · exact h
    · exact Util.foldl_inv (P := fun s => v ∈ s.marked ∨ v ∈ s.spill) (fun s y hs => markD_mono succ d y s v hs) (succ x)
        { s with marked := x :: s.marked } (h.imp_left (List.mem_cons_of_mem x))

theorem markD_marks_or_spills (succ : Nat → List Nat) (d x : Nat) (s : MarkState) :
    x ∈ (markD succ d x s).marked ∨ x ∈ (markD succ d x s).spill := by
  cases d with
  | zero => right; simp [markD]
  | succ d =>
    simp only [markD]
    split
    · left; assumption
    · exact Util.foldl_inv (P := fun s => x ∈ s.marked ∨ x ∈ s.spill) (fun s y hs => markD_mono succ d y s x hs) (succ x)
        { s with marked := x :: s.marked } (Or.inl List.mem_cons_self)

end JanetModel.Depth
