/- C19: depth guards recognised on the control-flow graph of the -O0 LLVM IR, as certificates.

   `tools/gen/cgguard.py` emits, per guard function, its CFG (block 0 = entry), the blocks that end in a conditional
   branch on `icmp PRED counter, K` (`checks`), the blocks that contain a recursive call (`targets`), the blocks that
   contain a call of a function that never returns (`stops`), and an UNTRUSTED set `safe` of blocks claimed to be all
   that can be reached from the entry without taking the pass edge of a check.  `certOK` re-checks the claim;
   `guard_dominates` (proved once, for every certificate) turns it into: every CFG path from the entry to a recursive
   call takes a pass edge - the call is dominated by a compare of the counter that has the shape of a limit test
   (that the constant is within the limit is `limitOK`, a separate check).
   Which branch side is the pass side is decided here (`refuseOnTrue`) from the predicate and the constant.
   Core Lean only. -/
namespace JanetModel.Depth

structure GCheck where
  block : Nat
  pred : String
  k : Int
  t : Nat
  f : Nat
  deriving Repr, DecidableEq

/-- bit `i` of a block set given as a bit mask (kernel-accelerated Nat operations: the certificate of run_vm has
    1049 blocks and 1491 edges) -/
def inMask (m i : Nat) : Bool := Nat.beq (Nat.land (Nat.shiftRight m i) 1) 1

/-- membership of an edge in a (short) edge list, by `Nat.beq` -/
def edgeIn (l : List (Nat × Nat)) (e : Nat × Nat) : Bool := l.any (fun x => Nat.beq x.1 e.1 && Nat.beq x.2 e.2)

theorem edgeIn_iff (l : List (Nat × Nat)) (e : Nat × Nat) : edgeIn l e = true ↔ e ∈ l := by
  simp only [edgeIn, List.any_eq_true, Bool.and_eq_true]
  constructor
  · rintro ⟨x, hx, h1, h2⟩
    have : x = e := Prod.ext (Nat.eq_of_beq_eq_true h1) (Nat.eq_of_beq_eq_true h2)
    exact this ▸ hx
  · intro h; exact ⟨e, h, Nat.beq_refl _, Nat.beq_refl _⟩

structure GuardCert where
  fn : String
  /-- "counter" (compares and charges a depth counter), "helper" (checker: target = may return 0), "via" (branches on
      a checker's result), "argconst" (self call passes a constant), "noreturn" (target = ret blocks, no checks) -/
  kind : String
  counter : String
  charge : String
  countdown : Bool
  inits : List Nat
  n : Nat
  cfg : List (Nat × Nat)
  checks : List GCheck
  targets : List Nat
  /-- bit mask of the blocks that contain a call of a function that never returns -/
  stops : Nat
  stopCallees : List String
  /-- UNTRUSTED: bit mask of the blocks reachable from the entry without taking a pass edge -/
  safe : Nat
  deriving Repr

/-- does the TRUE side of `br (icmp pred counter, k)` refuse to recurse?  `none`: not a limit test.
    count-up counters are refused at `>= / > K` (K ≥ 2); count-down counters at `== / <= / < K` (K ≤ 1);
    `!= / > K` (K ≤ 1) and `< / <= K` (K ≥ 2) are the same tests with the sides swapped.
    kind "via": the value is the result of a checker helper, 0 = may go on. -/
def refuseOnTrue (kind : String) (pred : String) (k : Int) : Option Bool :=
  if kind == "via" then
    (if pred == "ne" && k == 0 then some true else if pred == "eq" && k == 0 then some false else none)
  else if kind == "argconst" then
    -- `param == T` guards a self call that passes a constant S ≠ T: the pass side is the `== T` side
    (if pred == "eq" then some false else if pred == "ne" then some true else none)
  else if ["sge", "sgt", "uge", "ugt"].contains pred && decide (2 ≤ k) then some true
  else if ["eq", "sle", "slt", "ule", "ult"].contains pred && decide (k ≤ 1) then some true
  else if ["ne", "sgt", "ugt"].contains pred && decide (k ≤ 1) then some false
  else if ["slt", "sle", "ult", "ule"].contains pred && decide (2 ≤ k) then some false
  else none

def passEdge (kind : String) (c : GCheck) : Option (Nat × Nat) :=
  match refuseOnTrue kind c.pred c.k with
  | some true => some (c.block, c.f)
  | some false => some (c.block, c.t)
  | none => none

def isVia (c : GuardCert) : Bool := c.kind == "via"

def passEdges (c : GuardCert) : List (Nat × Nat) := c.checks.filterMap (passEdge c.kind)

/-- one CFG edge of the closure check: from a safe block that is not a stop, every edge that is not a pass edge stays
    inside `safe` -/
def edgeClosed (c : GuardCert) (pe : List (Nat × Nat)) (e : Nat × Nat) : Bool :=
  !(inMask c.safe e.1) || inMask c.stops e.1 || edgeIn pe e || inMask c.safe e.2

/-- The certificate check (run by the kernel on the generated certificates). -/
def certOK (c : GuardCert) : Bool :=
  inMask c.safe 0 &&
  c.cfg.all (fun e => Nat.ble (e.1 + 1) c.n && Nat.ble (e.2 + 1) c.n) &&
  c.checks.all (fun ch => (passEdge c.kind ch).isSome && edgeIn c.cfg (ch.block, ch.t) && edgeIn c.cfg (ch.block, ch.f)) &&
  c.cfg.all (edgeClosed c (passEdges c)) &&
  c.targets.all (fun t => !(inMask c.safe t))

/-- the limit side: a count-up compare refuses at K ≤ L + 1; a count-down counter is never initialised above L -/
def limitOK (L : Nat) (c : GuardCert) : Bool :=
  c.inits.all (fun i => Nat.ble i L) &&
  c.checks.all (fun ch => isVia c || decide (ch.k ≤ (L : Int) + 1))

def pairs : List Nat → List (Nat × Nat)
  | [] => []
  | [_] => []
  | a :: b :: rest => (a, b) :: pairs (b :: rest)

/-- a CFG path on which execution really continues: consecutive blocks are joined by CFG edges, and no block but the
    last contains a call of a function that never returns -/
def LivePath (c : GuardCert) (p : List Nat) : Prop :=
  ∀ e ∈ pairs p, e ∈ c.cfg ∧ inMask c.stops e.1 = false

theorem pairs_cons_mem {a b : Nat} {rest : List Nat} {e : Nat × Nat} (h : e ∈ pairs (b :: rest)) :
    e ∈ pairs (a :: b :: rest) := by
  simp [pairs, h]

theorem safe_closed (c : GuardCert) (hcl : ∀ e ∈ c.cfg, edgeClosed c (passEdges c) e = true) :
    ∀ (p : List Nat) (a : Nat), inMask c.safe a = true → LivePath c (a :: p) →
      (∀ e ∈ pairs (a :: p), e ∉ passEdges c) → ∀ v ∈ a :: p, inMask c.safe v = true
  | [], a, ha, _, _, v, hv => by simp at hv; exact hv ▸ ha
  | b :: rest, a, ha, hlive, hnp, v, hv => by
    have he : (a, b) ∈ pairs (a :: b :: rest) := by simp [pairs]
    have h1 := hlive (a, b) he
    have hc := hcl (a, b) h1.1
    have hnin : edgeIn (passEdges c) (a, b) = false := Bool.eq_false_iff.mpr fun h => hnp _ he ((edgeIn_iff _ _).mp h)
    simp only [edgeClosed, ha, h1.2, hnin, Bool.not_true, Bool.false_or] at hc
    rcases List.mem_cons.mp hv with hv | hv
    · exact hv ▸ ha
    · exact safe_closed c hcl rest b hc (fun e he => hlive e (pairs_cons_mem he)) (fun e he => hnp e (pairs_cons_mem he)) v hv

theorem guard_dominates (c : GuardCert) (hok : certOK c = true) (p : List Nat) (t : Nat)
    (hlive : LivePath c (0 :: p)) (hlast : t ∈ 0 :: p) (ht : t ∈ c.targets) :
    ∃ e ∈ pairs (0 :: p), e ∈ passEdges c := by
  simp only [certOK, Bool.and_eq_true, List.all_eq_true] at hok
  obtain ⟨⟨⟨⟨h0, _⟩, _⟩, hcl⟩, htg⟩ := hok
  apply Classical.byContradiction
  intro hno
  have hs := safe_closed c hcl p 0 h0 hlive (fun e he hpe => hno ⟨e, he, hpe⟩) t hlast
  have := htg t ht
  rw [hs] at this
  exact Bool.noConfusion this

theorem passEdge_from_check (c : GuardCert) (e : Nat × Nat) (h : e ∈ passEdges c) :
    ∃ ch ∈ c.checks, e.1 = ch.block ∧ (refuseOnTrue c.kind ch.pred ch.k).isSome := by
  simp only [passEdges, List.mem_filterMap] at h
  obtain ⟨ch, hch, hpe⟩ := h
  refine ⟨ch, hch, ?_⟩
  unfold passEdge at hpe
  split at hpe <;> simp_all
  · exact hpe ▸ rfl
  · exact hpe ▸ rfl

def findCert (cs : List GuardCert) (kind fn : String) : Option GuardCert :=
  cs.find? (fun c => c.fn == fn && c.kind == kind)

/-- a callee the certificates treat as never returning: declared/attributed `noreturn` in the IR, or it has a valid
    "noreturn" certificate (no `ret` reachable from its entry once execution stops at calls of such functions) -/
def stopsJustified (attr : List String) (nr : List GuardCert) (c : GuardCert) : Bool :=
  c.stopCallees.all (fun s => attr.contains s || (nr.any (fun d => d.fn == s && d.kind == "noreturn" && certOK d)))

/-- everything one guard certificate needs: the CFG claim, the limit, its stops justified (the noreturn certificates'
    own stops too), at least one check, and for a `via` guard a valid certificate of the helper it names -/
def guardOK (L : Nat) (attr : List String) (nr all : List GuardCert) (c : GuardCert) : Bool :=
  certOK c && limitOK L c && !c.checks.isEmpty && stopsJustified attr nr c &&
  nr.all (fun d => stopsJustified attr nr d) &&
  (c.kind == "counter" ||
   (c.kind == "via" && all.any (fun h => h.kind == "helper" && c.charge == "via:" ++ h.fn && certOK h && limitOK L h &&
      !h.checks.isEmpty && !h.targets.isEmpty && stopsJustified attr nr h)))

theorem guardOK_certOK {L : Nat} {attr : List String} {nr all : List GuardCert} {c : GuardCert}
    (h : guardOK L attr nr all c = true) : certOK c = true ∧ limitOK L c = true := by
  simp only [guardOK, Bool.and_eq_true] at h
  exact ⟨h.1.1.1.1.1, h.1.1.1.1.2⟩

def certified (L : Nat) (attr : List String) (nr all : List GuardCert) : List String :=
  (all.filter (guardOK L attr nr all)).map (·.fn)

/-- the tie to the call graph: every guard mark is certified or a written exemption -/
def guardsCertified (names : List String) (guard : List Bool) (cert bounded : List String) : Bool :=
  (List.zip names guard).all (fun p => !p.2 || cert.contains p.1 || bounded.contains p.1)

/-- per guard with a ±1 memory counter: net charges per block (`delta`), UNTRUSTED label `level` = charges outstanding
    when the block is entered, live blocks, blocks that never continue, return blocks, recursive calls with the level there -/
structure BalCert where
  fn : String
  counter : String
  n : Nat
  cfg : List (Nat × Nat)
  level : List Int
  delta : List Int
  live : Nat
  stops : Nat
  rets : List Nat
  calls : List (Nat × Int)

def lvl (c : BalCert) (b : Nat) : Int := c.level.getD b 0
def dlt (c : BalCert) (b : Nat) : Int := c.delta.getD b 0
def isRet (c : BalCert) (b : Nat) : Bool := c.rets.any (fun r => Nat.beq r b)

/-- an edge on which a charge is kept: into a return block, arriving with more charges outstanding than the block's label
    (an early error return; the counter is re-initialised by the next top-level entry) -/
def isLeak (c : BalCert) (e : Nat × Nat) : Bool :=
  inMask c.live e.1 && !(inMask c.stops e.1) && isRet c e.2 && decide (lvl c e.2 < lvl c e.1 + dlt c e.1)

def leakCount (c : BalCert) : Nat := (c.cfg.filter (isLeak c)).length

def balEdgeOK (c : BalCert) (e : Nat × Nat) : Bool :=
  !(inMask c.live e.1) || inMask c.stops e.1 ||
  (inMask c.live e.2 &&
    (if isRet c e.2 then decide (lvl c e.2 ≤ lvl c e.1 + dlt c e.1) else decide (lvl c e.2 = lvl c e.1 + dlt c e.1)))

/-- the balance check (kernel-evaluated): labels consistent along every live edge, 0 at the entry, never negative,
    every return block ends at 0 and changes nothing -/
def balOK (c : BalCert) : Bool :=
  inMask c.live 0 && decide (lvl c 0 = 0) &&
  c.cfg.all (fun e => Nat.ble (e.1 + 1) c.n && Nat.ble (e.2 + 1) c.n && balEdgeOK c e) &&
  (List.range c.n).all (fun b => !(inMask c.live b) || decide (0 ≤ lvl c b)) &&
  c.rets.all (fun r => decide (lvl c r = 0) && decide (dlt c r = 0))

theorem balOK_entry {c : BalCert} (hok : balOK c = true) : inMask c.live 0 = true ∧ lvl c 0 = 0 := by
  simp only [balOK, Bool.and_eq_true, decide_eq_true_eq] at hok
  exact ⟨hok.1.1.1.1, hok.1.1.1.2⟩

/-- recursive calls made with no charge of THIS counter taken (must be justified one by one: see `unchargedAllowed`) -/
def unchargedCount (c : BalCert) : Nat := (c.calls.filter (fun p => decide (p.2 < 1))).length

/-- net charges on a path, the last block excluded -/
def pathDelta (c : BalCert) : List Nat → Int
  | [] => 0
  | [_] => 0
  | a :: b :: rest => dlt c a + pathDelta c (b :: rest)

def lastOf : Nat → List Nat → Nat
  | a, [] => a
  | _, b :: rest => lastOf b rest

/-- a path on which execution continues: CFG edges, no block but the last is a stop -/
def LiveB (c : BalCert) (p : List Nat) : Prop := ∀ e ∈ pairs p, e ∈ c.cfg ∧ inMask c.stops e.1 = false

theorem bal_path_le (c : BalCert) (hok : balOK c = true) :
    ∀ (p : List Nat) (a : Nat), a < c.n → inMask c.live a = true → LiveB c (a :: p) →
      lvl c (lastOf a p) ≤ lvl c a + pathDelta c (a :: p) ∧ 0 ≤ lvl c (lastOf a p) ∧ inMask c.live (lastOf a p) = true := by
  simp only [balOK, Bool.and_eq_true, List.all_eq_true, List.mem_range] at hok
  obtain ⟨⟨⟨_, hedge⟩, hnn⟩, _⟩ := hok
  intro p
  induction p with
  | nil =>
    intro a han ha _
    have := hnn a han
    simp only [ha, Bool.not_true, Bool.false_or, decide_eq_true_eq] at this
    exact ⟨by simp [lastOf, pathDelta], this, ha⟩
  | cons b rest ih =>
    intro a _ ha hlive
    have he : (a, b) ∈ pairs (a :: b :: rest) := by simp [pairs]
    have h1 := hlive (a, b) he
    obtain ⟨⟨_, hb2⟩, hc⟩ := hedge (a, b) h1.1
    have hbn : b < c.n := by
      have := Nat.le_of_ble_eq_true hb2
      omega
    simp only [balEdgeOK, ha, h1.2, Bool.not_true, Bool.false_or, Bool.and_eq_true] at hc
    have hb : lvl c b ≤ lvl c a + dlt c a := by
      have h2 := hc.2
      cases hr : isRet c b <;> simp [hr] at h2 <;> omega
    have ih' := ih b hbn hc.1 (fun e he => hlive e (pairs_cons_mem he))
    refine ⟨?_, ih'.2.1, ih'.2.2⟩
    simp only [lastOf, pathDelta]
    have := ih'.1
    omega

end JanetModel.Depth
