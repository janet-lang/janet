/- C19: call graphs with guard marks, rank certificates, call chains.  Core Lean only (linked into jm_c19).

A `CG` is the call graph restricted to functions that lie on call cycles (generated: `Gen/Depth.lean`).  A function
is a *guard* when its body contains one of the depth-guard idioms (it refuses to recurse once its counter is used
up).  The certificate is a rank per function; `rankOK` checks that every edge between two non-guard functions
strictly decreases the rank, i.e. that every call cycle passes through a guard. -/
namespace JanetModel.Depth

structure CG where
  n : Nat
  edges : List (Nat × Nat)
  guard : List Bool
  deriving Repr

def isGuard (G : CG) (v : Nat) : Bool := G.guard.getD v false

def rk (rank : List Nat) (v : Nat) : Nat := rank.getD v 0

/-- one edge of the certificate check -/
def edgeOK (G : CG) (rank : List Nat) (e : Nat × Nat) : Bool :=
  (decide (e.1 < G.n) && decide (e.2 < G.n)) &&
  (isGuard G e.1 || isGuard G e.2 || decide (rk rank e.2 < rk rank e.1))

/-- one node of the certificate check: ranks of non-guard functions stay below |V| -/
def nodeOK (G : CG) (rank : List Nat) (v : Nat) : Bool :=
  isGuard G v || decide (rk rank v < G.n)

/-- The certificate check (run by the kernel on the generated graph). -/
def rankOK (G : CG) (rank : List Nat) : Bool :=
  G.edges.all (edgeOK G rank) && (List.range G.n).all (nodeOK G rank)

/-- a call chain: consecutive frames are connected by call edges (outermost frame first) -/
def IsChain (G : CG) : List Nat → Prop
  | [] => True
  | [_] => True
  | a :: b :: rest => (a, b) ∈ G.edges ∧ IsChain G (b :: rest)

/-- number of guard frames in a chain -/
def guardCount (G : CG) : List Nat → Nat
  | [] => 0
  | a :: rest => (if isGuard G a then 1 else 0) + guardCount G rest

/-- first failing edge of the certificate, for the driver and for diagnostics -/
def firstBadEdge (G : CG) (rank : List Nat) : Option (Nat × Nat) :=
  G.edges.find? (fun e => !edgeOK G rank e)

/-- one class of paths through a function that charges / releases a depth counter (generated from the source text) -/
structure PathCount where
  counter : String
  fn : String
  label : String
  errorExit : Bool
  charges : Nat
  releases : Nat
  deriving Repr

/-- a path never gives back more than it took; a path that ends normally (return / goto / loop iteration) gives back
    exactly what it took.  (An exit on an error path may keep its charge: the counter is re-initialised by the next
    top-level entry, and a charge that is kept can only make the guard fire earlier.) -/
def pathOK (p : PathCount) : Bool :=
  decide (p.releases ≤ p.charges) && (p.errorExit || p.releases == p.charges)

def balanced (ps : List PathCount) : Bool := ps.all pathOK

end JanetModel.Depth
