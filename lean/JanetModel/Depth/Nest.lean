/- C19: how many guard frames can be live at once when LOCAL depth counters are re-created under nested interpreter
   entry.  Core Lean only (linked into jm_c19).

   C side (vm.c, compile.c, specials.c, peg.c):
   * `janet_vm.stackn` is global: `janet_call` / `janet_check_can_resume` refuse at `stackn >= JANET_RECURSION_GUARD`,
     `janet_call` / `janet_continue_no_check` (janet_try_init) do `stackn++`.
   * the compiler's `c->recursion_guard`, quasiquote's `depth`, the PEG matcher's `s->depth` are local: every
     `janet_compile_lint` / peg match starts at the full limit (`share = false` also lets a quasiquote form start afresh,
     as the C did up to /repo 5f6c2dc).
   * the sites that can start another instance hand on what they have used: `janetc_continue` does
     `stackn += JANET_RECURSION_GUARD - c->recursion_guard` around `janet_continue`; `peg_rule` does
     `stackn += JANET_RECURSION_GUARD - s->depth + 1` (after checking the sum) around a capture function / cfunction;
     a quasiquote form continues the compiler's counter.

   A chain is abstracted to its guard events, outermost first.  `share = true` is the protocol in which every
   re-entry site hands its depth on (`Gen.DepthStack.allTransfer`), `share = false` the one in which none does. -/
namespace JanetModel.Depth

inductive NEv
  | vm      -- frame that enters the interpreter (janet_call, janet_continue_no_check), or a call charged like one
  | loc     -- frame that charges the innermost local counter (janetc_value, destructure_nested, quasiquote, peg_rule)
  | fresh   -- a new instance of a local counter starts (janet_compile_lint, a peg match; unshared: a quasiquote form)
  deriving DecidableEq, Repr

structure NState where
  stackn : Nat      -- janet_vm.stackn
  used : Nat        -- depth used by the innermost local counter instance
  frames : Nat      -- live guard frames (what the byte budget multiplies with the unit)
  deriving DecidableEq, Repr

def nstep (share : Bool) (L : Nat) (s : NState) : NEv → Option NState
  | .vm =>
    if share then (if s.stackn + s.used < L then some ⟨s.stackn + s.used + 1, 0, s.frames + 1⟩ else none)
    else (if s.stackn < L then some ⟨s.stackn + 1, 0, s.frames + 1⟩ else none)
  | .loc => if s.used + 1 < L then some ⟨s.stackn, s.used + 1, s.frames + 1⟩ else none
  | .fresh =>
    if share then (if s.used = 0 then some s else none)      -- only directly under an interpreter entry
    else some ⟨s.stackn, 0, s.frames⟩                        -- anywhere; the depth used so far is forgotten

/-- run the events of a chain; `none` = some guard refused (catchable error), the chain does not exist -/
def nrun (share : Bool) (L : Nat) : NState → List NEv → Option NState
  | s, [] => some s
  | s, e :: es => match nstep share L s e with
    | some s' => nrun share L s' es
    | none => none

def NInv (L : Nat) (s : NState) : Prop := s.frames = s.stackn + s.used ∧ s.stackn ≤ L ∧ s.used ≤ L

theorem nstep_inv (L : Nat) (s s' : NState) (e : NEv) (h : NInv L s) (hs : nstep true L s e = some s') : NInv L s' := by
  obtain ⟨h1, h2, h3⟩ := h
  cases e with
  | vm =>
    simp only [nstep, if_true] at hs
    split at hs
    · cases hs
      exact ⟨by simp only []; omega, by simp only []; omega, by simp only []; omega⟩
    · cases hs
  | loc =>
    simp only [nstep] at hs
    split at hs
    · cases hs
      exact ⟨by simp only []; omega, h2, by simp only []; omega⟩
    · cases hs
  | fresh =>
    simp only [nstep, if_true] at hs
    split at hs
    · cases hs
      exact ⟨h1, h2, h3⟩
    · cases hs

theorem nrun_inv (L : Nat) : ∀ (evs : List NEv) (s s' : NState), NInv L s → nrun true L s evs = some s' → NInv L s'
  | [], s, s', h, hr => by
    simp only [nrun] at hr
    cases hr
    exact h
  | e :: es, s, s', h, hr => by
    simp only [nrun] at hr
    cases hn : nstep true L s e with
    | none => rw [hn] at hr; cases hr
    | some s1 =>
      rw [hn] at hr
      exact nrun_inv L es s1 s' (nstep_inv L s s1 e h hn) hr

theorem nest_frames_le (L : Nat) (evs : List NEv) (s' : NState) (h : nrun true L ⟨0, 0, 0⟩ evs = some s') :
    s'.frames ≤ 2 * L := by
  have hi : NInv L ⟨0, 0, 0⟩ := ⟨rfl, Nat.zero_le _, Nat.zero_le _⟩
  obtain ⟨h1, h2, h3⟩ := nrun_inv L evs _ s' hi h
  omega

theorem nrun_append (share : Bool) (L : Nat) : ∀ (a b : List NEv) (s : NState),
    nrun share L s (a ++ b) = (nrun share L s a).bind (fun s' => nrun share L s' b)
  | [], b, s => by simp [nrun]
  | e :: a, b, s => by
    simp only [List.cons_append, nrun]
    cases hn : nstep share L s e with
    | none => simp
    | some s1 => exact nrun_append share L a b s1

theorem nrun_locs (share : Bool) (L : Nat) : ∀ (m : Nat) (s : NState), s.used + m < L →
    nrun share L s (List.replicate m NEv.loc) = some ⟨s.stackn, s.used + m, s.frames + m⟩
  | 0, s, _ => by simp [nrun]
  | m + 1, s, h => by
    have hc : s.used + 1 < L := by omega
    simp only [List.replicate_succ, nrun, nstep, if_pos hc]
    rw [nrun_locs share L m ⟨s.stackn, s.used + 1, s.frames + 1⟩ (by simp only []; omega)]
    simp only [Option.some.injEq, NState.mk.injEq]
    and_intros <;> first | trivial | omega

/-- one level of the multiplying pattern: a fresh instance, `L-1` charged levels, an interpreter entry -/
def nestBlock (L : Nat) : List NEv := NEv.fresh :: (List.replicate (L - 1) NEv.loc ++ [NEv.vm])

theorem nrun_block (L : Nat) (hL : 0 < L) (s : NState) (hs : s.stackn < L) :
    nrun false L s (nestBlock L) = some ⟨s.stackn + 1, 0, s.frames + L⟩ := by
  unfold nestBlock
  simp only [nrun, nstep, Bool.false_eq_true, if_false]
  rw [nrun_append, nrun_locs false L (L - 1) ⟨s.stackn, 0, s.frames⟩ (by simp only []; omega)]
  simp only [Option.bind_some, nrun, nstep, Bool.false_eq_true, if_false, if_pos hs, Nat.zero_add]
  simp only [Option.some.injEq, NState.mk.injEq]
  and_intros <;> first | trivial | omega

theorem nest_unshared_reaches (L : Nat) (hL : 0 < L) : ∀ (k : Nat), k ≤ L →
    nrun false L ⟨0, 0, 0⟩ (List.flatten (List.replicate k (nestBlock L))) = some ⟨k, 0, k * L⟩
  | 0, _ => by simp [nrun]
  | k + 1, hk => by
    have ih := nest_unshared_reaches L hL k (by omega)
    have e : List.flatten (List.replicate (k + 1) (nestBlock L)) =
        List.flatten (List.replicate k (nestBlock L)) ++ nestBlock L := by
      rw [List.replicate_succ']; simp
    rw [e, nrun_append, ih]
    simp only [Option.bind_some]
    rw [nrun_block L hL ⟨k, 0, k * L⟩ (by simp only []; omega)]
    simp only [Option.some.injEq, NState.mk.injEq]
    refine ⟨trivial, trivial, ?_⟩
    rw [Nat.add_mul]; omega

/-- one block under the shared protocol, started directly under an interpreter entry: its `L - 1` charged levels are handed
    on to the interpreter entry that ends it -/
theorem nrun_block_shared (L : Nat) (hL : 0 < L) (s : NState) (hu : s.used = 0) :
    nrun true L s (nestBlock L) =
      if s.stackn + (L - 1) < L then some ⟨s.stackn + (L - 1) + 1, 0, s.frames + (L - 1) + 1⟩ else none := by
  obtain ⟨n, u, f⟩ := s
  subst hu
  unfold nestBlock
  simp only [nrun, nstep, if_true]
  rw [nrun_append, nrun_locs true L (L - 1) ⟨n, 0, f⟩ (by show 0 + (L - 1) < L; omega)]
  simp only [Option.bind_some, nrun, nstep, if_true, Nat.zero_add]
  by_cases c : n + (L - 1) < L <;> simp only [c, ↓reduceIte, nrun]

/-- the shared protocol refuses the multiplying pattern at its second level: the first block leaves `stackn = L` -/
theorem nest_shared_refuses (L : Nat) (hL : 2 ≤ L) :
    nrun true L ⟨0, 0, 0⟩ (nestBlock L ++ nestBlock L) = none := by
  rw [nrun_append, nrun_block_shared L (by omega) _ rfl, if_pos (by show 0 + (L - 1) < L; omega), Option.bind_some,
    nrun_block_shared L (by omega) _ rfl, if_neg (by show ¬ 0 + (L - 1) + 1 + (L - 1) < L; omega)]

end JanetModel.Depth
