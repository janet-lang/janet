/- Linear probing in a slot array of `cap` slots: the cyclic distance `dst` from a home slot, the successor `nx`, and the
   counting fact that finds a free slot.  Shared by the struct layout (C03, C04) and the symbol cache.  CORE LEAN ONLY. -/
namespace JanetModel.Value


theorem mod_two_cap {x cap : Nat} (h : x < 2 * cap) : x % cap = if x < cap then x else x - cap := by
  split
  · exact Nat.mod_eq_of_lt (by assumption)
  · rw [Nat.mod_eq_sub_mod (by omega)]; exact Nat.mod_eq_of_lt (by omega)

/-- distance of slot `i` from home slot `h` (struct.c: `(i + cap - otherindex) & (cap - 1)`) -/
def dst (cap i h : Nat) : Nat := (i + cap - h) % cap
/-- next slot (wrapping) -/
def nx (cap i : Nat) : Nat := (i + 1) % cap

theorem dst_cases {cap i h : Nat} (hi : i < cap) (hh : h < cap) :
    (h ≤ i ∧ dst cap i h = i - h) ∨ (i < h ∧ dst cap i h = i + cap - h) := by
  unfold dst; rw [mod_two_cap (by omega)]; split <;> omega

theorem nx_cases {cap i : Nat} (hi : i < cap) :
    (i + 1 < cap ∧ nx cap i = i + 1) ∨ (i + 1 = cap ∧ nx cap i = 0) := by
  unfold nx; rw [mod_two_cap (by omega)]; split <;> omega

theorem nx_lt {cap i : Nat} (hi : i < cap) : nx cap i < cap := by have := nx_cases hi; omega
theorem dst_lt {cap i h : Nat} (hi : i < cap) (hh : h < cap) : dst cap i h < cap := by have := dst_cases hi hh; omega

theorem dst_self {cap i : Nat} (hi : i < cap) : dst cap i i = 0 := by have := dst_cases hi hi; omega

theorem dst_zero_iff {cap i h : Nat} (hi : i < cap) (hh : h < cap) : dst cap i h = 0 ↔ i = h := by
  have := dst_cases hi hh; omega

theorem dst_inj_left {cap a b h : Nat} (ha : a < cap) (hb : b < cap) (hh : h < cap)
    (e : dst cap a h = dst cap b h) : a = b := by
  have := dst_cases ha hh; have := dst_cases hb hh; omega

theorem nx_inj {cap a b : Nat} (ha : a < cap) (hb : b < cap) (e : nx cap a = nx cap b) : a = b := by
  have := nx_cases ha; have := nx_cases hb; omega

theorem dst_triangle {cap f h x : Nat} (hf : f < cap) (hh : h < cap) (hx : x < cap) :
    dst cap f h + dst cap x f = dst cap x h ∨ dst cap f h + dst cap x f = dst cap x h + cap := by
  have := dst_cases hf hh; have := dst_cases hx hh; have := dst_cases hx hf; omega

theorem dst_nx_self {cap i : Nat} (hi : i < cap) (hcap : 1 < cap) : dst cap (nx cap i) i = 1 := by
  have := nx_cases hi; have := dst_cases (nx_lt hi) hi; omega

theorem dst_add {cap f h x : Nat} (hf : f < cap) (hh : h < cap) (hx : x < cap) (hle : dst cap f h ≤ dst cap x h) :
    dst cap x h = dst cap f h + dst cap x f := by
  have := dst_triangle hf hh hx; have := dst_lt hx hf; omega

theorem dst_add' {cap f h x : Nat} (hf : f < cap) (hh : h < cap) (hx : x < cap) (hlt : dst cap f h + dst cap x f < cap) :
    dst cap x h = dst cap f h + dst cap x f := by
  have := dst_triangle hf hh hx; omega

theorem dst_nx {cap i h : Nat} (hi : i < cap) (hh : h < cap) (hlt : dst cap i h + 1 < cap) :
    dst cap (nx cap i) h = dst cap i h + 1 := by
  have := dst_nx_self hi (by omega)
  rw [dst_add' hi hh (nx_lt hi) (by omega), this]

theorem dst_nx_of_ne {cap i h : Nat} (hi : i < cap) (hh : h < cap) (hne : h ≠ nx cap i) :
    dst cap (nx cap i) h = dst cap i h + 1 := by
  have hn := nx_lt hi
  have h0 := dst_zero_iff hn hh
  have := dst_triangle hi hh hn
  have := dst_lt hi hh
  by_cases hcap : 1 < cap
  · have := dst_nx_self hi hcap; omega
  · omega

theorem dst_rev {cap i h : Nat} (hi : i < cap) (hh : h < cap) (hne : i ≠ h) : dst cap i h + dst cap h i = cap := by
  have := dst_triangle hi hh hh; have := dst_self hh; have := dst_zero_iff hi hh; omega

end JanetModel.Value

namespace JanetModel.Probe

/-- fewer slots satisfy `p` than there are slots: some slot does not -/
theorem exists_not_of_countP_lt {α : Type} (p : α → Bool) (d : α) (l : List α) (h : l.countP p < l.length) :
    ∃ i, i < l.length ∧ p (l.getD i d) = false := by
  have hne : ¬ ∀ a ∈ l, p a = true := fun hall => by rw [List.countP_eq_length.mpr hall] at h; omega
  have ⟨a, ha, hpa⟩ : ∃ a ∈ l, p a = false := by
    apply Classical.byContradiction
    intro hn
    exact hne fun a ha => by cases hp : p a with
      | true => rfl
      | false => exact absurd ⟨a, ha, hp⟩ hn
  obtain ⟨i, hi, e⟩ := List.getElem_of_mem ha
  exact ⟨i, hi, by rw [List.getD_eq_getElem?_getD, List.getElem?_eq_getElem hi]; exact e ▸ hpa⟩

end JanetModel.Probe
