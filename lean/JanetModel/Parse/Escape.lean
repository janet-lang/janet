/- The string-literal state machine of the parser undoes the printer's escaping (tables from Gen).  What a frame does with a byte
   is a fact about frame, scratch buffer and byte (`Act.of`); bytes that only the top frame sees form a `TopRun`, which is lifted
   to each way of feeding bytes (here `steps`; `eatsP` in `Parse/ReadBack.lean`). -/
import JanetModel.Parse.Act
import JanetModel.PP.Jdn

namespace JanetModel.Parse
open JanetModel.Gen.Parse JanetModel.PP

/-- run `step` over bytes, requiring every step to consume its byte and to leave no error -/
def steps (scan : List B → Option String) : Parser → List B → Option Parser
  | p, [] => some p
  | p, c :: cs => if (step scan p c).2 && (step scan p c).1.error.isNone then steps scan (step scan p c).1 cs else none

theorem steps_append (scan : List B → Option String) (p : Parser) (a b : List B) :
    steps scan p (a ++ b) = (steps scan p a).bind (fun q => steps scan q b) := by
  induction a generalizing p with
  | nil => simp [steps]
  | cons c cs ih =>
    simp only [List.cons_append, steps]
    split
    · exact ih _
    · simp

theorem steps_cons_ok (scan : List B → Option String) (p p' : Parser) (c : B) (cs : List B)
    (h : step scan p c = (p', true)) (he : p'.error = none) : steps scan p (c :: cs) = steps scan p' cs := by
  simp [steps, h, he]

/-- a string frame: `s` with the escape scratch fields and the consumer overridden -/
def strFrame (s : Frame) (cnt an : Nat) (k : Consumer) : Frame := { s with counter := cnt, argn := an, consumer := k }

theorem escapeString_eq (bs : List B) : escapeString bs = 34 :: (escapeBody bs ++ [34]) := by simp [escapeString]

-- facts about the tables of Gen/Parse.lean (regenerated from the source): re-checked by the kernel whenever they change

theorem ppEscape_sound : ∀ kv ∈ ppEscape, kv.1 < 256 ∧ kv.2 < 256 ∧ checkEscape kv.2.toUInt8 = some kv.1.toUInt8 ∧
    kv.2.toUInt8 ≠ 120 ∧ kv.2.toUInt8 ≠ 117 ∧ kv.2.toUInt8 ≠ 85 := by decide

/-- the four bytes `stringchar` treats specially are never printed plain: each is escaped or outside the printable range -/
theorem plain_bytes_safe (n : Nat) (hnone : (ppEscape.find? (fun kv => kv.1 == n)).isNone = true) (hr : ¬ (n < ppPrintLo ∨ n > ppPrintHi)) :
    n ≠ 92 ∧ n ≠ 34 ∧ n ≠ 10 ∧ n ≠ 13 := by
  have key : ∀ m ∈ ([92, 34, 10, 13] : List Nat),
      ¬ ((ppEscape.find? (fun kv => kv.1 == m)).isNone = true ∧ ¬ (m < ppPrintLo ∨ m > ppPrintHi)) := by decide
  exact ⟨fun e => key 92 (by simp) (e ▸ ⟨hnone, hr⟩), fun e => key 34 (by simp) (e ▸ ⟨hnone, hr⟩),
    fun e => key 10 (by simp) (e ▸ ⟨hnone, hr⟩), fun e => key 13 (by simp) (e ▸ ⟨hnone, hr⟩)⟩

theorem hex_digit : ∀ d < 16, toHex (hexAlphabet.getD d 0).toUInt8 = some d := by decide

/-- the two hex digits printed for a byte are its high and low nibble, and `escapeh` puts them together again -/
theorem hex_digits_sound (n : Nat) (h : n < 256) :
    toHex (hexAlphabet.getD ((n >>> 4) &&& 0xF) 0).toUInt8 = some (n >>> 4) ∧
    toHex (hexAlphabet.getD (n &&& 0xF) 0).toUInt8 = some (n &&& 0xF) ∧
    (((0 <<< 4 + (n >>> 4)) <<< 4) + (n &&& 0xF)) &&& 0xFF = n := by
  have hlo : n &&& 0xF = n % 16 := Nat.and_two_pow_sub_one_eq_mod n 4
  have hhi : n >>> 4 = n / 16 := Nat.shiftRight_eq_div_pow n 4
  have hhi' : (n / 16) &&& 0xF = n / 16 := by
    rw [show (0xF : Nat) = 2 ^ 4 - 1 from rfl, Nat.and_two_pow_sub_one_eq_mod]
    omega
  rw [hlo, hhi, hhi']
  refine ⟨hex_digit _ (by omega), hex_digit _ (by omega), ?_⟩
  rw [Nat.zero_shiftLeft, Nat.zero_add, Nat.shiftLeft_eq, show (0xFF : Nat) = 2 ^ 8 - 1 from rfl, Nat.and_two_pow_sub_one_eq_mod]
  omega

theorem hexDigitsX_is_two : hexDigitsX = 2 := by decide

/-- the top frame alone consumes `cs`: each byte is an `upd` action, whatever lies below; the frame goes from `s` to `s'` and the
    scratch buffer from `buf` to `buf'` -/
inductive TopRun (scan : List B → Option String) : Frame → List B → List B → Frame → List B → Prop
  | nil (s : Frame) (buf : List B) : TopRun scan s buf [] s buf
  | cons {s s1 s' : Frame} {buf buf1 buf' : List B} {c : B} {cs : List B} (f : Frame → Frame) (bs : List B)
      (h : ∀ single, Act.of scan s buf single c = (.upd f bs, true)) (e1 : f s = s1) (e2 : buf ++ bs = buf1)
      (t : TopRun scan s1 buf1 cs s' buf') : TopRun scan s buf (c :: cs) s' buf'

section
variable {scan : List B → Option String}

theorem TopRun.append {s s1 s2 : Frame} {b b1 b2 : List B} {xs ys : List B} (h1 : TopRun scan s b xs s1 b1)
    (h2 : TopRun scan s1 b1 ys s2 b2) : TopRun scan s b (xs ++ ys) s2 b2 := by
  induction h1 with
  | nil => exact h2
  | cons f bs h e1 e2 _ ih => exact .cons f bs h e1 e2 (ih h2)

theorem step_upd {p : Parser} {s : Frame} {rest : List Frame} {c : B} {f : Frame → Frame} {bs : List B} (hs : p.states = s :: rest)
    (h : Act.of scan s p.buf rest.isEmpty c = (.upd f bs, true)) :
    step scan p c = ({ p with states := f s :: rest, buf := p.buf ++ bs }, true) := by
  rw [step_act scan p s rest c hs, h]
  simp [Act.apply, Act.run, setTop, hs]

theorem TopRun.steps {s s' : Frame} {buf buf' : List B} {cs : List B} (h : TopRun scan s buf cs s' buf') :
    ∀ {p : Parser} {rest : List Frame}, p.states = s :: rest → p.buf = buf → p.error = none →
      steps scan p cs = some { p with states := s' :: rest, buf := buf' } := by
  induction h with
  | nil s buf =>
    intro p rest hs hb _
    obtain ⟨a, e, st, b, l, c, pe, lb, fl⟩ := p
    simp only at hs hb
    subst hs hb
    rfl
  | cons f bs h e1 e2 _ ih =>
    intro p rest hs hb he
    subst hb e1 e2
    rw [steps_cons_ok scan _ _ _ _ (step_upd hs (h rest.isEmpty)) he]
    exact ih rfl rfl he

end

section
variable {scan : List B → Option String} (s : Frame) (cnt an : Nat) (buf : List B)

theorem act_plain (c : B) (h1 : c ≠ 92) (h2 : c ≠ 34) (h3 : c ≠ 10) (h4 : c ≠ 13) (single : Bool) :
    Act.of scan (strFrame s cnt an .stringchar) buf single c = (.upd id [c], true) := by
  simp [Act.of, strFrame, stringcharAct, h1, h2, h3, h4]

theorem act_backslash (single : Bool) :
    Act.of scan (strFrame s cnt an .stringchar) buf single 92 = (.upd (fun s => { s with consumer := .escape1 }) [], true) := by
  simp [Act.of, strFrame, stringcharAct]

theorem act_letter (l e : B) (h1 : l ≠ 120) (h2 : l ≠ 117) (h3 : l ≠ 85) (he : checkEscape l = some e) (single : Bool) :
    Act.of scan (strFrame s cnt an .escape1) buf single l = (.upd (fun s => { s with consumer := .stringchar }) [e], true) := by
  simp [Act.of, strFrame, escape1Act, h1, h2, h3, he]

theorem act_x (single : Bool) :
    Act.of scan (strFrame s cnt an .escape1) buf single 120 =
      (.upd (fun s => { s with counter := hexDigitsX, argn := 0, consumer := .escapeh }) [], true) := by
  simp [Act.of, strFrame, escape1Act]

theorem act_hex1 (c : B) (d : Nat) (hd : toHex c = some d) (single : Bool) :
    Act.of scan (strFrame s 2 an .escapeh) buf single c =
      (.upd (fun s => { s with argn := (s.argn <<< 4) + d, counter := s.counter - 1 }) [], true) := by
  simp [Act.of, strFrame, escapehAct, hd]

theorem act_hex2 (c : B) (d : Nat) (hd : toHex c = some d) (single : Bool) :
    Act.of scan (strFrame s 1 an .escapeh) buf single c =
      (.upd (fun s => { s with argn := 0, counter := s.counter - 1, consumer := .stringchar })
        [(((an <<< 4) + d) &&& 0xFF).toUInt8], true) := by
  simp [Act.of, strFrame, escapehAct, hd]

theorem topRun_escapeByte (b : B) :
    ∃ cnt' an', TopRun scan (strFrame s cnt an .stringchar) buf (escapeByte b) (strFrame s cnt' an' .stringchar) (buf ++ [b]) := by
  have hb : b.toNat < 256 := b.toNat_lt
  have hbb : b.toNat.toUInt8 = b := by simp
  unfold escapeByte
  cases hf : ppEscape.find? (fun kv => kv.1 == b.toNat) with
  | some kv =>
    have hk : kv.1 = b.toNat := by simpa using List.find?_some hf
    obtain ⟨_, _, hce, n1, n2, n3⟩ := ppEscape_sound kv (List.mem_of_find?_eq_some hf)
    exact ⟨cnt, an, .cons _ _ (act_backslash s cnt an buf) rfl (List.append_nil _) <|
      .cons _ _ (act_letter s cnt an buf _ _ n1 n2 n3 hce) rfl (by rw [hk, hbb]) (.nil _ _)⟩
  | none =>
    have hnone : (ppEscape.find? (fun kv => kv.1 == b.toNat)).isNone = true := by simp [hf]
    simp only
    by_cases hr : (b.toNat < ppPrintLo || b.toNat > ppPrintHi) = true
    · simp only [hr, if_true]
      obtain ⟨x1, x2, x3⟩ := hex_digits_sound b.toNat hb
      exact ⟨0, 0, .cons _ _ (act_backslash s cnt an buf) rfl (List.append_nil _) <|
        .cons _ _ (act_x s cnt an buf) (show _ = strFrame s 2 0 .escapeh by simp [strFrame, hexDigitsX_is_two]) (List.append_nil _) <|
        .cons _ _ (act_hex1 s 0 buf _ _ x1) (show _ = strFrame s 1 (0 <<< 4 + (b.toNat >>> 4)) .escapeh from rfl) (List.append_nil _) <|
        .cons _ _ (act_hex2 s _ buf _ _ x2) rfl (by rw [x3, hbb]) (.nil _ _)⟩
    · simp only [hr, Bool.false_eq_true, if_false]
      obtain ⟨p1, p2, p3, p4⟩ := plain_bytes_safe b.toNat hnone (by simpa using hr)
      exact ⟨cnt, an, .cons _ _ (act_plain s cnt an buf b (fun h => p1 (by rw [h]; rfl)) (fun h => p2 (by rw [h]; rfl))
        (fun h => p3 (by rw [h]; rfl)) (fun h => p4 (by rw [h]; rfl))) rfl rfl (.nil _ _)⟩

theorem topRun_escapeBody (bs : List B) : ∀ (buf : List B) (cnt an : Nat),
    ∃ cnt' an', TopRun scan (strFrame s cnt an .stringchar) buf (escapeBody bs) (strFrame s cnt' an' .stringchar) (buf ++ bs) := by
  induction bs with
  | nil => intro buf cnt an; exact ⟨cnt, an, by simpa [escapeBody] using TopRun.nil _ _⟩
  | cons b bs ih =>
    intro buf cnt an
    obtain ⟨c1, a1, h1⟩ := topRun_escapeByte (scan := scan) s cnt an buf b
    obtain ⟨c2, a2, h2⟩ := ih (buf ++ [b]) c1 a1
    exact ⟨c2, a2, by simpa [escapeBody] using h1.append h2⟩

end
/-- a freshly opened string frame (`"` or `@"`: flags `F` without LONGSTRING), at the `steps` level: the printed body and the
    closing quote hand exactly the bytes to `popstate` -/
theorem string_frame_steps (scan : List B → Option String) {p : Parser} {S : List Frame} (F l k : Nat) (bs : List B)
    (hs : p.states = strFrame ⟨0, 0, F, l, k, .stringchar⟩ 0 0 .stringchar :: S) (hb : p.buf = []) (he : p.error = none)
    (hF : hasFlag F PFLAG_LONGSTRING = false) :
    ∃ cnt an, steps scan p (escapeBody bs ++ [34]) =
      some (popstate { p with states := strFrame ⟨0, 0, F, l, k, .stringchar⟩ cnt an .stringchar :: S, buf := [] }
        (if hasFlag F PFLAG_BUFFER then Value.buf bs else Value.str bs)) ∧
      (popstate { p with states := strFrame ⟨0, 0, F, l, k, .stringchar⟩ cnt an .stringchar :: S, buf := [] }
        (if hasFlag F PFLAG_BUFFER then Value.buf bs else Value.str bs)).error = none := by
  obtain ⟨c1, a1, t⟩ := topRun_escapeBody (scan := scan) ⟨0, 0, F, l, k, .stringchar⟩ bs [] 0 0
  have h1 := t.steps hs hb he
  have h2 : step scan { p with states := strFrame ⟨0, 0, F, l, k, .stringchar⟩ c1 a1 .stringchar :: S, buf := [] ++ bs } 34 =
      (popstate { p with states := strFrame ⟨0, 0, F, l, k, .stringchar⟩ c1 a1 .stringchar :: S, buf := [] }
        (if hasFlag F PFLAG_BUFFER then Value.buf bs else Value.str bs), true) := by
    simp [step, strFrame, stringchar, stringend, hF]
  have herr : (popstate { p with states := strFrame ⟨0, 0, F, l, k, .stringchar⟩ c1 a1 .stringchar :: S, buf := [] }
      (if hasFlag F PFLAG_BUFFER then Value.buf bs else Value.str bs)).error = none := by
    simp [popstate, he]
  refine ⟨c1, a1, ?_, herr⟩
  rw [steps_append, h1]
  simp only [Option.bind_some]
  rw [steps_cons_ok scan _ _ _ _ h2 herr]
  simp [steps]

end JanetModel.Parse
