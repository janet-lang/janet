/- The error latch and `janet_parser_eof`: once `error` is set (or the parser is dead) `janet_parser_consume` refuses every byte
   and the state -- in particular the value queue -- is frozen until `parser/error` (which flushes) takes the error;
   `eof` marks the parser dead and reports the innermost unterminated form. -/
import JanetModel.Parse.Pure

namespace JanetModel.Parse
open JanetModel.Gen.Parse

theorem checkDead_of_error {p : Parser} (h : p.error.isSome = true) : (checkDead p).isSome = true := by
  unfold checkDead
  split
  · rfl
  · simp

theorem checkDead_of_flag {p : Parser} (h : p.flag ≠ 0) : (checkDead p).isSome = true := by
  unfold checkDead
  simp [h]

theorem consume_refused (scan : List B → Option String) {p : Parser} (c : B) (h : (checkDead p).isSome = true) : consume scan p c = p := by
  unfold consume
  cases hc : checkDead p with
  | none => rw [hc] at h; cases h
  | some _ => rfl

/-- error latch and dead latch: when the dead check fires `janet_parser_consume` panics and changes nothing, for every byte string -/
theorem consume_refused_all (scan : List B → Option String) {p : Parser} (h : (checkDead p).isSome = true) (bs : List B) :
    bs.foldl (consume scan) p = p := by
  induction bs with
  | nil => rfl
  | cons c cs ih => simp only [List.foldl_cons, consume_refused scan c h]; exact ih

theorem eof_refused (scan : List B → Option String) {p : Parser} (h : (checkDead p).isSome = true) : eof scan p = p := by
  unfold eof
  cases hc : checkDead p with
  | none => rw [hc] at h; cases h
  | some _ => rfl

theorem status_error_iff (p : Parser) : status p = .error ↔ p.error.isSome = true := by
  unfold status
  constructor
  · intro h
    by_cases he : p.error.isSome = true
    · exact he
    · simp only [he, Bool.false_eq_true, if_false] at h
      split at h
      · cases h
      · split at h <;> cases h
  · intro h; simp [h]

theorem flush_keeps_error (p : Parser) : (flush p).error = p.error ∧ (flush p).flag = p.flag := ⟨rfl, rfl⟩

/-- `parser/flush` alone does not release the latch; `parser/error` does: the error is handed out once, the generated-error flag bit is cleared, queue / arguments / scratch
    buffer are emptied and only the root frame is left -/
theorem takeError_clears {p : Parser} {e : String} (h : p.error = some e) :
    (takeError p).1 = some e ∧ (takeError p).2.error = none ∧ (takeError p).2.pending = 0 ∧ (takeError p).2.args = [] ∧
    (takeError p).2.buf = [] ∧ (takeError p).2.states.length = min p.states.length 1 ∧
    (takeError p).2.flag = p.flag &&& (0xFFFFFFFF ^^^ JANET_PARSER_GENERATED_ERROR) := by
  unfold takeError
  rw [h]
  refine ⟨rfl, rfl, rfl, rfl, rfl, ?_, rfl⟩
  simp only [flush]
  split <;> simp <;> omega

theorem takeError_none {p : Parser} (h : p.error = none) : takeError p = (none, p) := by
  unfold takeError; simp [h]

/-- the text `delim_error` prints for the frame it names -/
def delimText (s : Frame) : String :=
  if hasFlag s.flags PFLAG_PARENS then "("
  else if hasFlag s.flags PFLAG_SQRBRACKETS then "["
  else if hasFlag s.flags PFLAG_CURLYBRACKETS then "{"
  else if hasFlag s.flags PFLAG_STRING then "\""
  else if hasFlag s.flags PFLAG_LONGSTRING then String.ofList (List.replicate s.argn '`')
  else ""

/-- the message of `janet_parser_eof` for the innermost open frame `f` -/
def eofMessage (f : Frame) : String :=
  "unexpected end of source" ++ "" ++ ", " ++ delimText f ++ " opened at line " ++ natToDec f.line ++ ", column " ++ natToDec f.column

theorem delimError_top (p : Parser) (f : Frame) (R : List Frame) (h : p.states = f :: R) (hR : R ≠ []) :
    (delimError p (p.states.length - 1) none "unexpected end of source").error = some (eofMessage f) := by
  cases R with
  | nil => exact absurd rfl hR
  | cons g l =>
    unfold delimError
    simp only [h, List.length_cons]
    have hidx : l.length + 1 + 1 - 1 - (l.length + 1 + 1 - 1) = 0 := by omega
    have hlen : l.length + 1 + 1 - 1 > 0 := by omega
    simp only [hidx, hlen, if_true, List.getD_cons_zero]
    rfl

/-- what `janet_parser_eof` leaves behind, for EVERY parser state that accepts it (no latched error, not dead): the parser
    is dead; the byte it feeds is a newline; if more than the root frame is left after that newline, the error names the TOP
    (innermost) frame -- its delimiter, line and column; otherwise error and frames are those of `janet_parser_consume(p, '\n')`;
    line / column are restored -/
structure EofOutcome (scan : List B → Option String) (p : Parser) : Prop where
  flag : (eof scan p).flag ≠ 0
  line : (eof scan p).line = p.line
  column : (eof scan p).column = p.column
  states : (eof scan p).states = (consumeRaw scan p 10).states
  args : (eof scan p).args = (consumeRaw scan p 10).args
  pending : (eof scan p).pending = (consumeRaw scan p 10).pending
  error : ((consumeRaw scan p 10).states.length ≤ 1 ∧ (eof scan p).error = (consumeRaw scan p 10).error) ∨
    (∃ f R, (consumeRaw scan p 10).states = f :: R ∧ R ≠ [] ∧ (eof scan p).error = some (eofMessage f))

theorem eof_outcome (scan : List B → Option String) (p : Parser) (h : checkDead p = none) : EofOutcome scan p := by
  have hdead : ∀ x : Nat, (x ||| JANET_PARSER_DEAD) ≠ 0 := by
    intro x h0
    have := congrArg (fun y => y.testBit 0) h0
    simp only [Nat.testBit_or, Nat.zero_testBit] at this
    have hb : Nat.testBit JANET_PARSER_DEAD 0 = true := by decide
    simp [hb] at this
  have key : eof scan p = eofTail (consumeRaw scan p 10) p.line p.column := by rw [eof_eq, h]
  unfold eofTail at key
  simp only [] at key
  by_cases hl : (consumeRaw scan p 10).states.length > 1
  · rw [if_pos hl] at key
    have hex : ∃ f R, (consumeRaw scan p 10).states = f :: R ∧ R ≠ [] := by
      cases hs : (consumeRaw scan p 10).states with
      | nil => rw [hs] at hl; simp at hl
      | cons f R => exact ⟨f, R, rfl, by intro e; rw [hs, e] at hl; simp at hl⟩
    obtain ⟨f, R, hs, hR⟩ := hex
    refine ⟨?_, ?_, ?_, ?_, ?_, ?_, Or.inr ⟨f, R, hs, hR, ?_⟩⟩
    all_goals rw [key]
    · exact hdead _
    all_goals first | rfl | exact delimError_top _ f R hs hR
  · rw [if_neg hl] at key
    refine ⟨?_, ?_, ?_, ?_, ?_, ?_, Or.inl ⟨by omega, ?_⟩⟩
    all_goals rw [key]
    · exact hdead _

/-- after `eof` the parser reports `:dead` or `:error`, never `:root` / `:pending`, and accepts nothing more -/
theorem eof_status (scan : List B → Option String) (p : Parser) (h : checkDead p = none) :
    (status (eof scan p) = .dead ∨ status (eof scan p) = .error) ∧ ∀ bs : List B, bs.foldl (consume scan) (eof scan p) = eof scan p := by
  have hf := (eof_outcome scan p h).flag
  constructor
  · unfold status
    by_cases he : (eof scan p).error.isSome = true
    · right; simp [he]
    · left; simp [he, hf]
  · exact consume_refused_all scan (checkDead_of_flag hf)

theorem drainAux_pending : ∀ (n : Nat) (p : Parser) (acc : List Event), WF p → p.pending = n → (drainAux n p acc).1.pending = 0 := by
  intro n
  induction n with
  | zero => intro p acc _ h; simpa [drainAux] using h
  | succ k ih =>
    intro p acc hwf hp
    have hp1 : 1 ≤ p.pending := by omega
    obtain ⟨A, z, hargs⟩ := args_concat hwf hp1
    unfold drainAux
    rw [produce_eq hp1 hargs]
    exact ih (dropQ p) _ (WF_dropQ hwf hp1) (by simp [dropQ, hp])

theorem drain_pending {r : Run} (h : WF r.p) : (drain r).p.pending = 0 := by
  unfold drain
  exact drainAux_pending _ _ _ h rfl

theorem drainAux_out_length : ∀ (n : Nat) (p : Parser) (acc : List Event), WF p → p.pending = n →
    (drainAux n p acc).2.length = acc.length + n := by
  intro n
  induction n with
  | zero => intro p acc _ _; simp [drainAux]
  | succ k ih =>
    intro p acc hwf hp
    have hp1 : 1 ≤ p.pending := by omega
    obtain ⟨A, z, hargs⟩ := args_concat hwf hp1
    unfold drainAux
    rw [produce_eq hp1 hargs]
    have := ih (dropQ p) (acc ++ [.value (unwrap1 z)]) (WF_dropQ hwf hp1) (by simp [dropQ, hp])
    simp only [this, List.length_append, List.length_cons, List.length_nil]
    omega

/-- after `finish` (eof, error protocol, dequeue everything) nothing is left in the queue, from any well-formed run -/
theorem finish_pending (scan : List B → Option String) {r : Run} (h : WF r.p) : (finish scan r).p.pending = 0 := by
  unfold finish
  exact drain_pending ((WF.api scan).handleError _ ((WF.api scan).eof r.p h))

end JanetModel.Parse
