/- `parser/produce` can be interleaved with bytes at will: loop / consume / feed level of the
   lock-step lemma, well-formedness as an invariant of the parser API (`WF.api`), and the schedule theorem. -/
import JanetModel.Parse.Queue

namespace JanetModel.Parse
open JanetModel.Gen.Parse

theorem WF_step (scan : List B → Option String) {p : Parser} (c : B) (h : WF p) : WF (step scan p c).1 :=
  (step_addQ scan .nil c h).2

theorem addQ_error (z : Value) (p : Parser) : (addQ z p).error = p.error := rfl

theorem loop_addQ (scan : List B → Option String) (z : Value) (c : B) : ∀ (fuel : Nat) (p : Parser), WF p →
    consumeLoop scan fuel (addQ z p) c = (consumeLoop scan fuel p c).map (addQ z) := by
  intro fuel
  induction fuel with
  | zero => intro p _; rfl
  | succ n ih =>
    intro p hwf
    unfold consumeLoop
    rw [addQ_error]
    by_cases he : p.error.isSome = true
    · simp only [he, if_true, Option.map_some]
    · simp only [he]
      obtain ⟨hcomm, hwf'⟩ := step_addQ scan z c hwf
      rw [hcomm]
      cases hk : (step scan p c).2 with
      | true => rfl
      | false =>
        simp only [Bool.false_eq_true, if_false]
        exact ih _ hwf'

theorem WF_advancePos {p : Parser} (c : B) (h : WF p) : WF (advancePos p c) := by
  rw [advancePos_eq]
  exact ⟨h.ok, h.sum, h.rootn⟩

theorem advancePos_addQ (z : Value) (p : Parser) (c : B) : advancePos (addQ z p) c = addQ z (advancePos p c) := by
  rw [advancePos_eq, advancePos_eq]
  rfl

theorem loopFuel_addQ (z : Value) (p : Parser) : loopFuel (addQ z p) = loopFuel p := by
  simp [loopFuel, addQ, incRoot_length]

theorem consumeRaw_addQ (scan : List B → Option String) (z : Value) (p : Parser) (c : B) (hwf : WF p) :
    consumeRaw scan (addQ z p) c = addQ z (consumeRaw scan p c) := by
  obtain ⟨q, hq, hraw⟩ := consumeRaw_eq scan p c
  rw [hraw]
  unfold consumeRaw
  simp only [advancePos_addQ, loopFuel_addQ, loop_addQ scan z c _ _ (WF_advancePos c hwf), hq, Option.map_some, Option.getD_some]
  rfl

theorem consume_addQ (scan : List B → Option String) (z : Value) (p : Parser) (c : B) (hwf : WF p) :
    consume scan (addQ z p) c = addQ z (consume scan p c) := by
  unfold consume
  rw [show checkDead (addQ z p) = checkDead p from rfl]
  cases checkDead p with
  | some _ => rfl
  | none => exact consumeRaw_addQ scan z p c hwf

theorem args_concat {p : Parser} (hwf : WF p) (hp : 1 ≤ p.pending) : ∃ A z, p.args = A ++ [z] := by
  have := hwf.sum
  rcases List.eq_nil_or_concat p.args with h | ⟨A, z, h⟩
  · rw [h] at this; simp at this; omega
  · exact ⟨A, z, by simpa using h⟩

theorem produceWrapped_eq {p : Parser} {A : List Value} {z : Value} (hp : 1 ≤ p.pending) (hargs : p.args = A ++ [z]) :
    produceWrapped p = (some z, dropQ p) := by
  have h0 : (p.pending == 0) = false := by simp; omega
  unfold produceWrapped
  simp only [h0, Bool.false_eq_true, if_false, hargs, List.reverse_append, List.reverse_cons, List.reverse_nil, List.nil_append,
    List.singleton_append, List.reverse_reverse]
  simp [dropQ, hargs, decRootArgn_eq]

theorem produce_eq {p : Parser} {A : List Value} {z : Value} (hp : 1 ≤ p.pending) (hargs : p.args = A ++ [z]) :
    produce p = (some (unwrap1 z), dropQ p) := by
  simp [produce, produceWrapped_eq hp hargs]

theorem produceRun_empty {r : Run} (h : r.p.pending = 0) : produceRun r = r := by
  simp [produceRun, produce, produceWrapped, h]

theorem produceRun_eq {r : Run} {A : List Value} {z : Value} (hp : 1 ≤ r.p.pending) (hargs : r.p.args = A ++ [z]) :
    produceRun r = { p := dropQ r.p, out := r.out ++ [.value (unwrap1 z)] } := by
  simp [produceRun, produce_eq hp hargs]

theorem produceWrapped_addQ (z : Value) (p : Parser) : produceWrapped (addQ z p) = (some z, p) := by
  obtain ⟨args, err, states, buf, line, column, pending, lb, flag⟩ := p
  simp [produceWrapped, addQ, decRootArgn_eq, decRoot_incRoot]

theorem produce_addQ (z : Value) (p : Parser) : produce (addQ z p) = (some (unwrap1 z), p) := by
  simp [produce, produceWrapped_addQ]

/-- what `handleError` does after the queue was dequeued -/
def afterDrain (d : Run) : Run :=
  match takeError d.p with
  | (some e, p) => { p := p, out := d.out ++ [.error e d.p.line d.p.column] }
  | (none, p) => { d with p := p }

theorem handleError_of_error {r : Run} (h : r.p.error.isSome = true) : handleError r = afterDrain (drain r) := by
  unfold handleError afterDrain
  simp only [h, if_true]
  rfl

theorem handleError_of_ok {r : Run} (h : r.p.error.isSome = false) : handleError r = r := by
  unfold handleError
  simp [h]

theorem WF_dropQ {p : Parser} (h : WF p) (hp : 1 ≤ p.pending) : WF (dropQ p) := by
  refine ⟨?_, ?_, ?_⟩
  · simp only [dropQ, okFrames_decRoot]; exact h.ok
  · simp only [dropQ, inner_decRoot, List.length_dropLast]; have := h.sum; omega
  · simp only [dropQ, rootArgn_decRoot, h.rootn]

theorem WF_produceWrapped {p : Parser} (h : WF p) : WF (produceWrapped p).2 := by
  by_cases h0 : p.pending = 0
  · simp [produceWrapped, h0]; exact h
  · have hp : 1 ≤ p.pending := by omega
    obtain ⟨A, z, hargs⟩ := args_concat h hp
    rw [produceWrapped_eq hp hargs]
    exact WF_dropQ h hp

theorem okFrames_last : ∀ {l : List Frame}, okFrames l = true →
    ∃ r, l.drop (l.length - 1) = [r] ∧ r.consumer = .root ∧ isCont r = true
  | [], h => by simp [okFrames] at h
  | [r], h => ⟨r, by simp, by simpa [okFrames] using h⟩
  | f :: g :: l, h => by
    rw [okFrames_cons (by simp)] at h
    simp only [Bool.and_eq_true] at h
    obtain ⟨r, h1, h2⟩ := okFrames_last h.2
    refine ⟨r, ?_, h2⟩
    have : (f :: g :: l).length - 1 = ((g :: l).length - 1) + 1 := by simp
    rw [this, List.drop_succ_cons]; exact h1

/-- regenerated obligation (`janet_parser_flush` resets `states[0].argn`): flushing keeps the parser well formed -/
theorem WF_flush {p : Parser} (h : WF p) : WF (flush p) := by
  have hf : flushResetsRootArgn = true := by decide
  obtain ⟨r, h1, h2, h3⟩ := okFrames_last h.ok
  unfold flush
  simp only [hf, if_true, h1, List.map_cons, List.map_nil]
  refine ⟨?_, ?_, ?_⟩
  · simp [okFrames, isCont, h2] ; simpa [isCont] using h3
  · simp [inner]
  · simp [rootArgn]

theorem okF_incArgn {f : Frame} (h : isCont f = true) : okF (incArgn f) = okF f := by
  have : isCont (incArgn f) = true := h
  simp [okF, this, h]

/-- counting one more argument in the container frame `i` below the top: the frame shape stays, and exactly one of the two counts
    grows -- the root frame's if `i` is the bottom frame, the inner sum otherwise.  (The default frame is no container, so the
    hypothesis already says that `i` is inside the stack.) -/
theorem bump_frames : ∀ (S : List Frame) (i : Nat), isCont (S.getD i default) = true → okFrames S = true →
    okFrames (modifyFrame S i incArgn) = true ∧
    inner (modifyFrame S i incArgn) + (if i + 1 = S.length then 1 else 0) = inner S + 1 ∧
    rootArgn (modifyFrame S i incArgn) = rootArgn S + (if i + 1 = S.length then 1 else 0)
  | [], _, _, h => by simp [okFrames] at h
  | [_], 0, _, h => ⟨h, rfl, rfl⟩
  | [r], i + 1, hc, _ => by
    have : isCont (([r] : List Frame).getD (i + 1) default) = false := hasFlag_zero _
    rw [this] at hc
    cases hc
  | f :: g :: l, 0, hc, h => by
    have hc' : isCont f = true := hc
    refine ⟨?_, ?_, rfl⟩
    · rw [okFrames_cons (by simp)] at h
      show (okF (incArgn f) && okFrames (g :: l)) = true
      rw [okF_incArgn hc']; exact h
    · have : isCont (incArgn f) = true := hc'
      simp [modifyFrame, inner, this, hc']
      omega
  | f :: g :: l, i + 1, hc, h => by
    rw [okFrames_cons (by simp)] at h
    simp only [Bool.and_eq_true] at h
    have ih := bump_frames (g :: l) i hc h.2
    have hne : modifyFrame (g :: l) i incArgn ≠ [] := by cases i <;> exact List.cons_ne_nil _ _
    show okFrames (f :: modifyFrame (g :: l) i incArgn) = true ∧ inner (f :: modifyFrame (g :: l) i incArgn) + _ = _ ∧
      rootArgn (f :: modifyFrame (g :: l) i incArgn) = _
    rw [okFrames_cons hne, inner_cons hne, rootArgn_cons hne, inner_cons (l := g :: l) (by simp), rootArgn_cons (l := g :: l) (by simp)]
    simp only [List.length_cons, Nat.add_right_cancel_iff] at ih ⊢
    exact ⟨by simp [h.1, ih.1], by omega, ih.2.2⟩

/-- the second half of `parser/insert`, for the frame `i` below the top -- whichever it is --, keeps `WF` (regenerated:
    `insertRootTestByFrame`) -/
theorem WF_insTail {p : Parser} (i : Nat) (v : Value) (vstr : List B) (h : WF p) : WF (insTail p i (p.states.getD i default) v vstr).1 := by
  have hfix : insertRootTestByFrame = true := by decide
  unfold insTail
  by_cases hc : hasFlag (p.states.getD i default).flags PFLAG_CONTAINER = true
  · obtain ⟨h1, h2, h3⟩ := bump_frames p.states i hc h.ok
    have hs := h.sum
    have hr := h.rootn
    simp only [hc, if_true, hfix, beq_iff_eq]
    by_cases hi : i + 1 = p.states.length
    · simp only [hi, if_true] at h2 h3 ⊢
      exact ⟨h1, by simp only [List.length_cons]; omega, by dsimp only; omega⟩
    · simp only [hi, if_false] at h2 h3 ⊢
      exact ⟨h1, by simp only [List.length_cons]; omega, by dsimp only; omega⟩
  · simp only [hc, Bool.false_eq_true, if_false]
    split <;> exact ⟨h.ok, h.sum, h.rootn⟩

theorem WF_insertAt {p : Parser} (v : Value) (vstr : List B) (h : WF p) : WF (insertAt p v vstr).1 := by
  rw [insertAt_eq]
  exact WF_insTail _ v vstr h

theorem WF_init : WF Parser.init := by
  refine ⟨?_, ?_, ?_⟩ <;> simp [Parser.init, okFrames, inner, rootArgn, isCont] <;> decide

theorem WF.api (scan : List B → Option String) : ApiInv scan WF where
  init := WF_init
  raw p c := consumeRaw_inv scan c (fun _ _ h => WF_step scan c h) (fun _ _ _ _ h => ⟨h.ok, h.sum, h.rootn⟩) p
  pos _ _ _ _ h := ⟨h.ok, h.sum, h.rootn⟩
  eofErr _ h := ⟨h.ok, h.sum, h.rootn⟩
  dead _ h := ⟨h.ok, h.sum, h.rootn⟩
  dequeue _ h := WF_produceWrapped h
  flush _ h := WF_flush h
  clearErr _ h := ⟨h.ok, h.sum, h.rootn⟩
  insertAt _ v vstr h := WF_insertAt v vstr h

theorem drain_addQ (z : Value) (q : Parser) (out : List Event) :
    drain { p := addQ z q, out := out } = drain { p := q, out := out ++ [.value (unwrap1 z)] } := by
  unfold drain
  show (match drainAux (q.pending + 1) (addQ z q) out with | (p, out) => ({ p := p, out := out } : Run)) = _
  rw [drainAux, produce_addQ]

/-- `b` is `a`, or `a` after the client has taken the oldest queued value `z` -/
def Rel (a b : Run) : Prop :=
  b = a ∨ ∃ z q out, WF q ∧ a = { p := addQ z q, out := out } ∧ b = { p := q, out := out ++ [.value (unwrap1 z)] }

theorem addQ_dropQ {p : Parser} {A : List Value} {z : Value} (hwf : WF p) (hp : 1 ≤ p.pending) (hargs : p.args = A ++ [z]) :
    addQ z (dropQ p) = p := by
  obtain ⟨args, err, states, buf, line, column, pending, lb, flag⟩ := p
  have := hwf.rootn
  simp only at hargs hp this
  subst hargs
  simp [dropQ, addQ, incRoot_decRoot _ (by omega : 1 ≤ rootArgn states)]
  omega

theorem Rel.produceRun {r : Run} (hwf : WF r.p) : Rel r (produceRun r) := by
  by_cases h0 : r.p.pending = 0
  · exact Or.inl (produceRun_empty h0)
  · have hp : 1 ≤ r.p.pending := by omega
    obtain ⟨A, z, hargs⟩ := args_concat hwf hp
    exact Or.inr ⟨z, dropQ r.p, r.out, WF_dropQ hwf hp, by rw [addQ_dropQ hwf hp hargs], produceRun_eq hp hargs⟩

/-- a parser transformation that does not see what is queued (and keeps `WF`) preserves `Rel` through the error protocol -/
theorem rel_of_lockstep (F : Parser → Parser) (a b : Run) (h : Rel a b)
    (hF : ∀ z q, WF q → F (addQ z q) = addQ z (F q) ∧ WF (F q)) :
    Rel (handleError { a with p := F a.p }) (handleError { b with p := F b.p }) := by
  rcases h with h | ⟨z, q, out, hwf, ha, hb⟩
  · subst h; exact Or.inl rfl
  · subst ha hb
    obtain ⟨hcomm, hwf'⟩ := hF z q hwf
    show Rel (handleError { p := F (addQ z q), out := out }) (handleError { p := F q, out := out ++ [.value (unwrap1 z)] })
    rw [hcomm]
    cases he : (F q).error.isSome with
    | true =>
      left
      rw [handleError_of_error (r := { p := F q, out := _ }) he, handleError_of_error (r := { p := addQ z (F q), out := out }) he,
        drain_addQ]
    | false =>
      right
      rw [handleError_of_ok (r := { p := F q, out := _ }) he, handleError_of_ok (r := { p := addQ z (F q), out := out }) he]
      exact ⟨z, F q, out, hwf', rfl, rfl⟩

theorem feedByte_rel (scan : List B → Option String) (a b : Run) (c : B) (h : Rel a b) :
    Rel (feedByte scan a c) (feedByte scan b c) :=
  rel_of_lockstep (consume scan · c) a b h fun z q hwf => ⟨consume_addQ scan z q c hwf, (WF.api scan).consume q c hwf⟩

theorem feed_rel (scan : List B → Option String) (bs : List B) : ∀ a b : Run, Rel a b → Rel (feed scan a bs) (feed scan b bs) := by
  induction bs with
  | nil => intro a b h; exact h
  | cons c cs ih => intro a b h; exact ih _ _ (feedByte_rel scan a b c h)

theorem events_rel {a b : Run} (h : Rel a b) : b.events = a.events := by
  rcases h with h | ⟨z, q, out, -, ha, hb⟩
  · rw [h]
  · rw [ha, hb]; unfold Run.events; rw [drain_addQ]

theorem produce_then_feed (scan : List B → Option String) (r : Run) (bs : List B) (hwf : WF r.p) :
    (feed scan (produceRun r) bs).events = (feed scan r bs).events := by
  exact events_rel (feed_rel scan bs _ _ (Rel.produceRun hwf))

/-- what a client may do between bytes -/
inductive Op where
  | byte (c : B)          -- one byte through consume + the error protocol
  | produce               -- `parser/produce`
  | query                 -- `parser/status`, `parser/has-more`, `parser/where`, `parser/state`: functions of the parser
  deriving Inhabited

def runOp (scan : List B → Option String) (r : Run) : Op → Run
  | .byte c => feedByte scan r c
  | .produce => produceRun r
  | .query => r

theorem ApiInv.runOp {scan : List B → Option String} {I : Parser → Prop} (h : ApiInv scan I) (r : Run) (op : Op) (hr : I r.p) :
    I (runOp scan r op).p := by
  cases op with
  | byte c => exact h.feedByte r c hr
  | produce => exact h.produceRun r hr
  | query => exact hr

def bytesOf : List Op → List B
  | [] => []
  | .byte c :: ops => c :: bytesOf ops
  | _ :: ops => bytesOf ops

theorem schedule_pure (scan : List B → Option String) (ops : List Op) : ∀ r : Run, WF r.p →
    (ops.foldl (runOp scan) r).events = (feed scan r (bytesOf ops)).events := by
  induction ops with
  | nil => intro r _; rfl
  | cons op ops ih =>
    intro r h
    cases op with
    | byte c =>
      simp only [List.foldl_cons, runOp, bytesOf]
      rw [ih _ ((WF.api scan).feedByte r c h)]
      rfl
    | produce =>
      simp only [List.foldl_cons, runOp, bytesOf]
      rw [ih _ ((WF.api scan).produceRun r h)]
      exact produce_then_feed scan r (bytesOf ops) h
    | query =>
      simp only [List.foldl_cons, runOp, bytesOf]
      exact ih r h

end JanetModel.Parse
