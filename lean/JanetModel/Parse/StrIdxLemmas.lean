/- The index-level loops of `stringend` (`Parse/StrIdx.lean`) never fail a checked access and compute the list-level functions of
   `Model.lean`; what `stringend` hands on is no longer than the scratch contents. -/
import JanetModel.Parse.StrIdx
import JanetModel.Util.List

namespace JanetModel.Parse

theorem inb_of_lt {b : List B} {i : Nat} (h : i < b.length) : inb b i = true := by simp [inb, h]

theorem drop_cons_getD {b : List B} {r : Nat} (h : r < b.length) : b.drop r = b.getD r 0 :: b.drop (r + 1) :=
  Util.drop_eq_getD_cons h 0

theorem drop_len_nil {b : List B} {r : Nat} (h : ¬ r < b.length) : b.drop r = [] := List.drop_eq_nil_of_le (by omega)

theorem take_set_succ (l : List B) (w : Nat) (a : B) (h : w < l.length) : (l.set w a).take (w + 1) = l.take w ++ [a] :=
  Util.take_succ_set a l w h

theorem drop_set_lt (l : List B) (w r : Nat) (a : B) (h : w < r) : (l.set w a).drop r = l.drop r := List.drop_set_of_lt h

theorem forCheckI_spec (b : List B) : ∀ (k r : Nat) (ok : Bool), r ≤ b.length →
    ∃ r', forCheckI b b.length k r ok = ((indentCheckLine k (b.drop r)).1, r', ok) ∧ r ≤ r' ∧ r' ≤ b.length ∧
      b.drop r' = (indentCheckLine k (b.drop r)).2 := by
  intro k
  induction k with
  | zero =>
    intro r ok hr
    refine ⟨r, ?_, Nat.le_refl _, hr, by simp [indentCheckLine]⟩
    unfold forCheckI
    by_cases h : r < b.length
    · simp [h, inb_of_lt h, indentCheckLine]
    · simp [h, indentCheckLine]
  | succ k ih =>
    intro r ok hr
    unfold forCheckI
    by_cases h : r < b.length
    · rw [if_pos h]
      have hd := drop_cons_getD h
      simp only [inb_of_lt h, Bool.and_true]
      generalize b.getD r 0 = c at hd ⊢
      rw [hd]
      by_cases h10 : c = 10
      · subst h10
        exact ⟨r, by simp [indentCheckLine], Nat.le_refl _, hr, by simp [indentCheckLine, hd]⟩
      · by_cases h32 : c = 32
        · subst h32
          obtain ⟨r', e1, e2, e3, e4⟩ := ih (r + 1) ok (by omega)
          exact ⟨r', by simpa [indentCheckLine] using e1, by omega, e3, by simpa [indentCheckLine] using e4⟩
        · exact ⟨r, by simp [indentCheckLine, h10, h32], Nat.le_refl _, hr, by simp [indentCheckLine, h10, h32, hd]⟩
    · refine ⟨r, ?_, Nat.le_refl _, hr, ?_⟩
      · simp [h, drop_len_nil h, indentCheckLine]
      · simp [drop_len_nil h, indentCheckLine]

theorem crlfAtI_spec (b : List B) (r : Nat) (ok : Bool) : crlfAtI b b.length r ok = (startsCRLF (b.drop r), ok) := by
  unfold crlfAtI
  by_cases h : r + 1 < b.length
  · have h0 : r < b.length := by omega
    rw [if_pos h, drop_cons_getD h0, drop_cons_getD h]
    simp [startsCRLF, inb_of_lt h, inb_of_lt h0]
  · rw [if_neg h]
    by_cases h0 : r < b.length
    · rw [drop_cons_getD h0, drop_len_nil (by omega : ¬ r + 1 < b.length)]; simp [startsCRLF]
    · rw [drop_len_nil h0]; simp [startsCRLF]

theorem ite_pair {α β : Type} (g : Prop) [Decidable g] (x y : α) (ok : β) : (if g then (x, ok) else (y, ok)) = (if g then x else y, ok) := by
  split <;> rfl

theorem checkI_spec (b : List B) (ind : Nat) : ∀ (fuel r : Nat) (ok : Bool), r ≤ b.length →
    checkI b b.length ind fuel r ok = (reindentCheck fuel ind (b.drop r), ok) := by
  intro fuel
  induction fuel with
  | zero => intro r ok _; simp [checkI, reindentCheck]
  | succ fuel ih =>
    intro r ok hr
    unfold checkI
    by_cases h : r < b.length
    · rw [if_pos h]
      have hd := drop_cons_getD h
      simp only [inb_of_lt h, Bool.and_true]
      generalize b.getD r 0 = c at hd ⊢
      rw [hd]
      by_cases h10 : c = 10
      · subst h10
        obtain ⟨r', e1, e2, e3, e4⟩ := forCheckI_spec b ind (r + 1) ok (by omega)
        simp only [beq_self_eq_true, if_true, e1, crlfAtI_spec, e4, reindentCheck]
        rw [ih r' ok e3, e4]
        exact ite_pair _ _ _ _
      · have : (c == 10) = false := by simpa using h10
        simp only [this, Bool.false_eq_true, if_false, reindentCheck]
        exact ih (r + 1) ok (by omega)
    · rw [if_neg h, drop_len_nil h]
      cases fuel <;> simp [reindentCheck]

theorem skipI_spec (b : List B) : ∀ (k r : Nat) (ok : Bool), r ≤ b.length →
    ∃ r', skipI b b.length k r ok = (r', ok) ∧ r ≤ r' ∧ r' ≤ b.length ∧ b.drop r' = skipIndent k (b.drop r) := by
  intro k
  induction k with
  | zero =>
    intro r ok hr
    refine ⟨r, ?_, Nat.le_refl _, hr, by simp [skipIndent]⟩
    unfold skipI
    by_cases h : r < b.length
    · simp [h, inb_of_lt h]
    · simp [h]
  | succ k ih =>
    intro r ok hr
    unfold skipI
    by_cases h : r < b.length
    · rw [if_pos h]
      have hd := drop_cons_getD h
      simp only [inb_of_lt h, Bool.and_true]
      generalize b.getD r 0 = c at hd ⊢
      rw [hd]
      by_cases h10 : c = 10
      · subst h10
        exact ⟨r, by simp, Nat.le_refl _, hr, by simp [skipIndent, hd]⟩
      · obtain ⟨r', e1, e2, e3, e4⟩ := ih (r + 1) ok (by omega)
        exact ⟨r', by simpa [h10] using e1, by omega, e3, by simpa [skipIndent, h10] using e4⟩
    · exact ⟨r, by simp [h], Nat.le_refl _, hr, by simp [drop_len_nil h, skipIndent]⟩

theorem reindent_lf_crlf (fuel ind : Nat) (t : List B) (d : B) (rest : List B)
    (hs : skipIndent ind t = 13 :: 10 :: rest) (hd : d = 10) :
    reindent (fuel + 1) ind (10 :: t) = 10 :: 13 :: reindent fuel ind (d :: rest) := by
  subst hd
  simp [reindent, hs]

theorem reindent_lf_plain (fuel ind : Nat) (t : List B) (hs : startsCRLF (skipIndent ind t) = false) :
    reindent (fuel + 1) ind (10 :: t) = 10 :: reindent fuel ind (skipIndent ind t) := by
  simp only [reindent, beq_self_eq_true, if_true]
  cases hsk : skipIndent ind t with
  | nil => rfl
  | cons a l =>
    cases l with
    | nil => rfl
    | cons d rest =>
      rw [hsk] at hs
      simp only [startsCRLF] at hs
      simp [hs]

theorem rewriteI_spec (e ind : Nat) : ∀ (fuel : Nat) (b : List B) (r w : Nat) (ok : Bool), b.length = e → w ≤ r → r ≤ e → e - r < fuel →
    ∃ b' w', rewriteI e ind fuel b r w ok = (b', w', ok) ∧ b'.length = e ∧ w' ≤ e ∧
      b'.take w' = b.take w ++ reindent fuel ind (b.drop r) := by
  intro fuel
  induction fuel with
  | zero =>
    intro b r w ok hl hw hr hf
    omega
  | succ fuel ih =>
    intro b r w ok hl hw hr hf
    unfold rewriteI
    by_cases h : r < e
    · have hrl : r < b.length := by omega
      have hwl : w < b.length := by omega
      rw [if_pos h]
      have hd := drop_cons_getD hrl
      simp only [inb_of_lt hrl, inb_of_lt hwl, Bool.and_true]
      generalize b.getD r 0 = c at hd ⊢
      rw [hd]
      have hl1 : (b.set w c).length = e := by simp [hl]
      by_cases h10 : c = 10
      · subst h10
        simp only [beq_self_eq_true, if_true]
        -- the unread part is untouched by the write at w ≤ r
        have hd1 : (b.set w 10).drop (r + 1) = b.drop (r + 1) := drop_set_lt b w (r + 1) _ (by omega)
        obtain ⟨r', s1, s2, s3, s4⟩ := skipI_spec (b.set w 10) ind (r + 1) ok (by omega)
        rw [hl1] at s1 s3
        rw [hd1] at s4
        have hc := crlfAtI_spec (b.set w 10) r' ok
        rw [hl1, s4] at hc
        simp only [s1, hc]
        by_cases hcr : startsCRLF (skipIndent ind (b.drop (r + 1))) = true
        · simp only [hcr, if_true]
          -- shape of the rest: CR LF ...
          cases hsk : skipIndent ind (b.drop (r + 1)) with
          | nil => rw [hsk] at hcr; simp [startsCRLF] at hcr
          | cons a l =>
            cases l with
            | nil => rw [hsk] at hcr; simp [startsCRLF] at hcr
            | cons d rest =>
              rw [hsk] at hcr s4
              simp only [startsCRLF, Bool.and_eq_true, beq_iff_eq] at hcr
              obtain ⟨ha, hdd⟩ := hcr
              subst ha
              have hr'l : r' + 1 < e := by
                have : ((b.set w 10).drop r').length = (13 :: d :: rest).length := by rw [s4]
                simp only [List.length_drop, hl1, List.length_cons] at this
                omega
              have hcons := drop_cons_getD (b := b.set w 10) (r := r') (by omega)
              rw [s4] at hcons
              have hga : (b.set w 10).getD r' 0 = 13 := (List.cons.inj hcons).1.symm
              have hdn : (b.set w 10).drop (r' + 1) = d :: rest := (List.cons.inj hcons).2.symm
              have hw1 : w + 1 < (b.set w 10).length := by omega
              simp only [inb_of_lt hw1, Bool.and_true, hga]
              obtain ⟨b', w', i1, i2, i3, i4⟩ := ih ((b.set w 10).set (w + 1) 13) (r' + 1) (w + 2) ok (by simp [hl]) (by omega) (by omega) (by omega)
              refine ⟨b', w', i1, i2, i3, ?_⟩
              rw [i4, take_set_succ _ (w + 1) 13 hw1, take_set_succ b w _ hwl, drop_set_lt _ (w + 1) (r' + 1) 13 (by omega), hdn,
                reindent_lf_crlf fuel ind _ d rest (by rw [hsk, hdd]) hdd]
              simp
        · have hcr' : startsCRLF (skipIndent ind (b.drop (r + 1))) = false := by simpa using hcr
          simp only [hcr', Bool.false_eq_true, if_false]
          obtain ⟨b', w', i1, i2, i3, i4⟩ := ih (b.set w 10) r' (w + 1) ok hl1 (by omega) s3 (by omega)
          refine ⟨b', w', i1, i2, i3, ?_⟩
          rw [i4, take_set_succ b w _ hwl, s4, reindent_lf_plain fuel ind _ hcr']
          simp
      · have hne : (c == 10) = false := by simpa using h10
        simp only [hne, Bool.false_eq_true, if_false]
        obtain ⟨b', w', i1, i2, i3, i4⟩ := ih (b.set w c) (r + 1) (w + 1) ok hl1 (by omega) (by omega) (by omega)
        refine ⟨b', w', i1, i2, i3, ?_⟩
        rw [i4, take_set_succ b w _ hwl, drop_set_lt b w (r + 1) _ (by omega)]
        simp [reindent, hne]
    · rw [if_neg h]
      refine ⟨b, w, rfl, hl, by omega, ?_⟩
      rw [drop_len_nil (by omega)]
      cases fuel <;> simp [reindent]

/-- both loops of `stringend` at index level: no checked access fails (every `*r`, `*(r + 1)` is inside the scratch contents, every
    `*w++ = ..` lands on a cell already read: `w ≤ r`), and the text is the list-level `reindentCheck` / `reindent` result -/
theorem reindentI_spec (ind : Nat) (b : List B) :
    reindentI ind b = (if reindentCheck (b.length + 1) ind b then reindent (b.length + 1) ind b else b, true) := by
  unfold reindentI
  simp only [checkI_spec b ind (b.length + 1) 0 true (Nat.zero_le _), List.drop_zero]
  by_cases hc : reindentCheck (b.length + 1) ind b = true
  · obtain ⟨b', w', i1, _, _, i4⟩ := rewriteI_spec b.length ind (b.length + 1) b 0 0 true rfl (Nat.le_refl _) (Nat.zero_le _) (by omega)
    simp only [hc, if_true, i1, i4, List.take_zero, List.nil_append, List.drop_zero]
  · simp [hc]

theorem dedentI_spec (col : Nat) (buf : List B) : dedentI col buf = (dedent col buf, true) := by
  unfold dedentI dedent
  rw [reindentI_spec]

theorem skipIndent_length_le : ∀ (k : Nat) (l : List B), (skipIndent k l).length ≤ l.length
  | 0, l => Nat.le_refl _
  | _ + 1, [] => Nat.le_refl _
  | k + 1, c :: t => by
    unfold skipIndent
    split
    · exact Nat.le_refl _
    · exact Nat.le_trans (skipIndent_length_le k t) (Nat.le_succ _)

/-- the second pass of `stringend` (`*w++ = *r++` with indentation skipped on the read side only) never produces more bytes than it
    has read (the cursor fact `w ≤ r` throughout is `rewriteI_spec`) -/
theorem reindent_length_le : ∀ (fuel ind : Nat) (l : List B), (reindent fuel ind l).length ≤ l.length
  | 0, _, l => Nat.le_refl _
  | _ + 1, _, [] => Nat.le_refl _
  | fuel + 1, ind, c :: t => by
    have hs := skipIndent_length_le ind t
    unfold reindent
    by_cases hc : (c == 10) = true
    · rw [if_pos hc]
      simp only []
      split
      · rename_i a b r' heq
        have h2 := reindent_length_le fuel ind (b :: r')
        have h3 := reindent_length_le fuel ind (skipIndent ind t)
        have hl : (skipIndent ind t).length = r'.length + 2 := by rw [heq]; rfl
        simp only [List.length_cons] at h2 ⊢
        split
        · simp only [List.length_cons]; omega
        · simp only [List.length_cons]; omega
      · have h3 := reindent_length_le fuel ind (skipIndent ind t)
        simp only [List.length_cons]; omega
    · rw [if_neg hc]
      have := reindent_length_le fuel ind t
      simp only [List.length_cons]; omega

theorem stripLeadingEol_length_le (l : List B) : (stripLeadingEol l).length ≤ l.length := by
  unfold stripLeadingEol
  split
  · simp only [List.length_cons]; omega
  · simp only [List.length_cons]; omega
  · exact Nat.le_refl _

theorem stripTrailingEol_length_le (l : List B) : (stripTrailingEol l).length ≤ l.length := by
  have key : ∀ (t : List B) (k : Nat), l.reverse.length = t.length + k → t.reverse.length ≤ l.length := by
    intro t k h
    rw [List.length_reverse] at h ⊢
    omega
  unfold stripTrailingEol
  split
  · rename_i t heq
    exact key t 2 (by rw [heq]; rfl)
  · rename_i t _ heq
    exact key t 1 (by rw [heq]; rfl)
  · exact Nat.le_refl _

/-- the string handed to `janet_string` / `janet_buffer_push_bytes` by `stringend` lies inside the scratch contents -/
theorem dedent_length_le (col : Nat) (buf : List B) : (dedent col buf).length ≤ buf.length := by
  unfold dedent
  simp only []
  refine Nat.le_trans (stripTrailingEol_length_le _) (Nat.le_trans (stripLeadingEol_length_le _) ?_)
  split
  · exact reindent_length_le _ _ _
  · exact Nat.le_refl _

end JanetModel.Parse
