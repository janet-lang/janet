/- A frame handled by `root` (the bottom frame, containers, reader macros) never carries PFLAG_COMMENT: invariant of every
   operation of the parser model.  With the frame shape (`okFrames`: the bottom frame is a `root` frame) it gives what
   `if (s->flags & PFLAG_COMMENT) s--;` in `cfun_parse_insert` needs: a comment frame is never the bottom frame. -/
import JanetModel.Parse.Insert

namespace JanetModel.Parse
open JanetModel.Gen.Parse

def NoCFl (l : List Frame) : Prop := ∀ f ∈ l, f.consumer = .root → hasFlag f.flags PFLAG_COMMENT = false

def NoCF (p : Parser) : Prop := NoCFl p.states

theorem NoCFl.tail {f : Frame} {l : List Frame} (h : NoCFl (f :: l)) : NoCFl l := fun g hg => h g (List.mem_cons_of_mem _ hg)

theorem NoCFl.cons {f : Frame} {l : List Frame} (hf : f.consumer = .root → hasFlag f.flags PFLAG_COMMENT = false) (hl : NoCFl l) :
    NoCFl (f :: l) := by
  intro g hg
  simp only [List.mem_cons] at hg
  rcases hg with hg | hg
  · subst hg; exact hf
  · exact hl g hg

theorem popstateAux_nocf (rest : List Frame) (top : Frame) (v : Value) (h : NoCFl rest) : NoCFl (popstateAux (top :: rest) v).1 := by
  intro f hf hc
  obtain ⟨g, hg, h1, h2⟩ := popstateAux_frames rest top v f hf
  rw [h2]
  exact h g hg (h1 ▸ hc)

theorem popstate_nocf {p : Parser} {top : Frame} {rest : List Frame} (hs : p.states = top :: rest) (h : NoCFl rest) (v : Value) :
    NoCF (popstate p v) := by
  have := popstateAux_nocf rest top v h
  unfold NoCF popstate
  rw [hs]
  exact this

theorem nocf_top {q : Parser} {s : Frame} {rest : List Frame} (hs : q.states = s :: rest) (hr : NoCFl rest)
    (hc : s.consumer = .root → hasFlag s.flags PFLAG_COMMENT = false) : NoCF q := by
  unfold NoCF
  rw [hs]
  exact NoCFl.cons hc hr

theorem Act.run_nocf {s : Frame} {rest : List Frame} {single : Bool} {c : B} {ab : Act × Bool} (hab : Act.OK s single c ab)
    {p : Parser} (hs : p.states = s :: rest) (h : NoCF p) : NoCF (ab.1.run p) := by
  have hl : NoCFl (s :: rest) := hs ▸ h
  obtain ⟨a, b⟩ := ab
  cases a
  case keep => exact h
  case fail e => exact h
  case delim c' msg => exact h
  case upd f bs =>
    obtain ⟨-, hkept, -⟩ := hab
    exact nocf_top (s := f s) (by simp [Act.run, setTop, hs]) hl.tail fun hr => absurd hr hkept.new
  case updFail f e =>
    obtain ⟨-, hkept, -⟩ := hab
    exact nocf_top (s := f s) (by simp [Act.run, setTop, hs]) hl.tail fun hr => absurd hr hkept.new
  case push k F =>
    obtain ⟨-, hfresh, -⟩ := hab
    exact nocf_top (rest := p.states) rfl h hfresh.noComment
  case swap k F bs =>
    obtain ⟨-, hfresh, -⟩ := hab
    exact nocf_top (s := ⟨0, 0, F, p.line, p.column, k⟩) (by simp [Act.run, pushstate, hs]) hl.tail hfresh.noComment
  case pop v => exact popstate_nocf (p := { p with buf := [] }) hs hl.tail v
  case close mk => exact popstate_nocf (p := (takeArgs p (p.states.headD default).argn).2) hs hl.tail _
  case dropTop =>
    unfold NoCF
    simp only [Act.run, hs, List.drop_one, List.tail_cons]
    exact hl.tail

theorem NoCF_step (scan : List B → Option String) (p : Parser) (c : B) (h : NoCF p) : NoCF (step scan p c).1 := by
  cases hs : p.states with
  | nil => rw [step_nil scan c hs]; exact h
  | cons s rest => rw [step_act scan p s rest c hs]; exact Act.run_nocf (Act.of_ok scan s p.buf rest.isEmpty c) hs h

theorem decRoot_nocf : ∀ l : List Frame, NoCFl l → NoCFl (decRoot l)
  | [], h => h
  | [r], h => NoCFl.cons (fun hc => h r (by simp) hc) (by intro f hf; simp at hf)
  | f :: g :: l, h => by
    have := decRoot_nocf (g :: l) h.tail
    exact NoCFl.cons (fun hc => h f (by simp) hc) this

theorem NoCF_produceWrapped (p : Parser) (h : NoCF p) : NoCF (produceWrapped p).2 := by
  unfold produceWrapped
  split
  · exact h
  · split
    · exact h
    · unfold NoCF
      simp only []
      rw [decRootArgn_eq]
      exact decRoot_nocf _ h

theorem NoCF_flush (p : Parser) (h : NoCF p) : NoCF (flush p) := by
  have hd : NoCFl (p.states.drop (p.states.length - 1)) := fun f hf => h f (List.mem_of_mem_drop hf)
  have hb : ∀ (b : Bool) (X : List Frame), NoCFl X → NoCFl (if b = true then X.map (fun s => { s with argn := 0 }) else X) := by
    intro b X hX
    cases b
    · exact hX
    · intro f hf hc
      simp only [if_true, List.mem_map] at hf
      obtain ⟨g, hg, rfl⟩ := hf
      exact hX g hg hc
  exact hb flushResetsRootArgn _ hd

theorem modifyFrame_nocf (g : Frame → Frame) (hg : ∀ x, (g x).consumer = x.consumer ∧ (g x).flags = x.flags) :
    ∀ (S : List Frame) (i : Nat), NoCFl S → NoCFl (modifyFrame S i g)
  | [], _, h => h
  | s :: rest, 0, h => NoCFl.cons (fun hc => by rw [(hg s).2]; exact h s (by simp) (by rw [← (hg s).1]; exact hc)) h.tail
  | s :: rest, i + 1, h => NoCFl.cons (fun hc => h s (by simp) hc) (modifyFrame_nocf g hg rest i h.tail)

theorem NoCF_insTail (p : Parser) (i : Nat) (s : Frame) (v : Value) (vstr : List B) (h : NoCF p) : NoCF (insTail p i s v vstr).1 := by
  rcases insTail_cases p i s v vstr with e | e | e | e
  all_goals rw [e]
  · exact modifyFrame_nocf incArgn (fun _ => ⟨rfl, rfl⟩) _ _ h
  · exact modifyFrame_nocf incArgn (fun _ => ⟨rfl, rfl⟩) _ _ h
  · exact h
  · exact h

theorem NoCF_insertAt (p : Parser) (v : Value) (vstr : List B) (h : NoCF p) : NoCF (insertAt p v vstr).1 := by
  rw [insertAt_eq]; exact NoCF_insTail _ _ _ _ _ h

theorem NoCF_init : NoCF Parser.init := by
  intro f hf _
  simp [Parser.init] at hf
  subst hf
  decide

theorem NoCF.api (scan : List B → Option String) : ApiInv scan NoCF where
  init := NoCF_init
  raw p c := consumeRaw_inv scan c (fun p _ => NoCF_step scan p c) (fun _ _ _ _ h => h) p
  pos _ _ _ _ h := h
  eofErr _ h := h
  dead _ h := h
  dequeue := NoCF_produceWrapped
  flush := NoCF_flush
  clearErr _ h := h
  insertAt := NoCF_insertAt

/-- what `cfun_parse_insert`'s `s--` needs follows from the invariant and the frame shape -/
theorem commentAbove_of_nocf {p : Parser} (hok : okFrames p.states = true) (h : NoCF p) :
    ∀ s rest, p.states = s :: rest → hasFlag s.flags PFLAG_COMMENT = true → rest ≠ [] := by
  intro s rest hs hcf hr
  subst hr
  rw [hs] at hok
  have hroot : s.consumer = .root := by
    simp only [okFrames, Bool.and_eq_true, beq_iff_eq] at hok
    exact hok.1
  have := h s (by rw [hs]; simp) hroot
  rw [this] at hcf
  cases hcf

end JanetModel.Parse
