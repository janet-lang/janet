/- The physical machine for `parser/insert`, `janet_parser_clone` and `parser/state :delimiters`, and every history of the complete API. -/
import JanetModel.Parse.PhysRun
import JanetModel.Parse.Insert
import JanetModel.Parse.NoCF

namespace JanetModel.Parse
open JanetModel.Gen.Parse

theorem truncBufM_fault (m : MP) (n : Nat) : (truncBufM m n).fault = (m.fault || !decide (n ≤ m.p.buf.length)) := rfl

/-- `parser_state_delimiters` writes behind the scratch contents (inside the grown block), reads exactly what it wrote and puts the
    count back: the parser is unchanged, no check fails -/
theorem stateDelimsM_spec (m : MP) :
    (stateDelimsM m).1 = delimiters m.p ∧ (stateDelimsM m).2.p = m.p ∧ (stateDelimsM m).2.fault = m.fault := by
  unfold stateDelimsM
  simp only []
  have hp := pushBytesM_p (delimiters m.p) m
  have hf := pushBytesM_fault (delimiters m.p) m
  refine ⟨?_, ?_, ?_⟩
  · rw [hp]; simp
  · show { (pushBytesM m (delimiters m.p)).p with buf := (pushBytesM m (delimiters m.p)).p.buf.take m.p.buf.length } = m.p
    rw [hp]
    obtain ⟨⟨a, e, s, b, l, c, pe, lb, fl⟩, k, g, f, hk⟩ := m
    simp
  · rw [truncBufM_fault, hf, hp]
    simp

theorem cloneM_spec (m : MP) : (cloneM m).p = clone m.p ∧ (cloneM m).fault = m.fault ∧ (cloneM m).k = cloneK m.p := by
  refine ⟨rfl, ?_, rfl⟩
  obtain ⟨h1, h2, h3⟩ := m.capok
  simp [cloneM, h1, h2, h3]

theorem insertPreM_spec (scan : List B → Option String) (m : MP) (h : PInv m.p) :
    (insertPreM scan m).1.p = (insertPre scan m.p).1 ∧ (insertPreM scan m).2 = (insertPre scan m.p).2 ∧
    (insertPreM scan m).1.fault = m.fault := by
  have hne : m.p.states ≠ [] := okFrames_ne_nil h.wf.ok
  have hd := derefOk_topPtr hne
  have hr := readState_topPtr m
  unfold insertPreM insertPre
  cases hs : m.p.states with
  | nil => exact absurd hs hne
  | cons top rest =>
    simp only [hd, chk_true, hr, hs, List.headD_cons]
    by_cases hc : (top.consumer == Consumer.tokenchar) = true
    · simp only [hc, if_true]
      cases hcd : checkDead m.p with
      | some msg => exact ⟨by trivial, by trivial, by trivial⟩
      | none =>
        obtain ⟨h1, h2⟩ := consumeRawM_spec scan m 32 h
        simp only [scal_p, scal_fault]
        rw [h1]
        exact ⟨by trivial, by trivial, h2⟩
    · simp only [hc, Bool.false_eq_true, if_false]
      exact ⟨by trivial, by trivial, by trivial⟩

theorem bufAppendM_fault (m : MP) (bs : List B) : (bufAppendM m bs).fault = m.fault := by
  have := jumpCap_fits m.k.buf (m.p.buf.length + bs.length)
  simp [bufAppendM, this]

/-- what `if (s->flags & PFLAG_COMMENT) s--;` needs: a frame carrying the comment flag is not the bottom frame -/
def CommentAbove (p : Parser) : Prop :=
  ∀ s rest, p.states = s :: rest → hasFlag s.flags PFLAG_COMMENT = true → rest ≠ []

/-- the part of `insertAtM` after `s` has been settled, for the frame `i` below the top -/
def insTailM (m : MP) (sp : SPtr) (s : Frame) (v : Value) (vstr : List B) : MP × Option String :=
  if hasFlag s.flags PFLAG_CONTAINER then
    let m' := writeState m sp (fun f => { f with argn := f.argn + 1 })
    let isRoot := if insertRootTestByFrame then sp.idx == 0 else m'.p.states.length == 1
    if isRoot then
      (pushArgM (m'.scal (fun p => { p with pending := p.pending + 1 }) ⟨rfl, rfl, rfl⟩) (Value.tuple false smNone smNone [v]), none)
    else (pushArgM m' v, none)
  else if hasFlag s.flags (PFLAG_STRING ||| PFLAG_LONGSTRING) then (bufAppendM m vstr, none)
  else (m, some "cannot insert value into parser")

theorem insertAtM_tail {m : MP} {sp : SPtr} {i : Nat} (h : AtDepth m sp i) (s : Frame) (v : Value) (vstr : List B) :
    (insTailM m sp s v vstr).1.p = (insTail m.p i s v vstr).1 ∧ (insTailM m sp s v vstr).2 = (insTail m.p i s v vstr).2 ∧
    (insTailM m sp s v vstr).1.fault = m.fault := by
  unfold insTailM insTail
  have hroot : (sp.idx == 0) = (i + 1 == m.p.states.length) := by
    have := h.2
    by_cases h0 : sp.idx = 0
    · have : i + 1 = m.p.states.length := by omega
      simp [h0, this]
    · have : i + 1 ≠ m.p.states.length := by omega
      rw [beq_false_of_ne h0, beq_false_of_ne this]
  by_cases hc : hasFlag s.flags PFLAG_CONTAINER = true
  · simp only [hc, if_true, hroot, writeState_len]
    by_cases hr : (i + 1 == m.p.states.length) = true
    · simp only [hr, if_true]
      refine ⟨?_, by trivial, ?_⟩
      · simp [h.write_p]
      · simp [h.write_fault]
    · simp only [hr, Bool.false_eq_true, if_false]
      refine ⟨?_, by trivial, ?_⟩
      · simp [h.write_p]
      · simp [h.write_fault]
  · simp only [hc, Bool.false_eq_true, if_false]
    by_cases hs : hasFlag s.flags (PFLAG_STRING ||| PFLAG_LONGSTRING) = true
    · simp only [hs, if_true]
      exact ⟨by trivial, by trivial, bufAppendM_fault m vstr⟩
    · simp only [hs, Bool.false_eq_true, if_false]
      exact ⟨by trivial, by trivial, by trivial⟩

theorem insertAtM_spec (m : MP) (v : Value) (vstr : List B) (hne : m.p.states ≠ []) (hca : CommentAbove m.p) :
    (insertAtM m v vstr).1.p = (insertAt m.p v vstr).1 ∧ (insertAtM m v vstr).2 = (insertAt m.p v vstr).2 ∧
    (insertAtM m v vstr).1.fault = m.fault := by
  have hd := derefOk_topPtr hne
  have hr := readState_topPtr m
  rw [insertAt_eq]
  have hM : insertAtM m v vstr =
      (let sp := topPtr m
       let m0 := m.chk (derefOk m sp)
       let cm := hasFlag (readState m0 sp).flags PFLAG_COMMENT
       let m1 := if cm then m0.chk (decide (0 < sp.idx)) else m0
       let sp1 : SPtr := if cm then { sp with idx := sp.idx - 1 } else sp
       let m2 := m1.chk (derefOk m1 sp1)
       insTailM m2 sp1 (readState m2 sp1) v vstr) := rfl
  rw [hM]
  cases hs : m.p.states with
  | nil => exact absurd hs hne
  | cons top rest =>
    simp only [hd, chk_true, hr, hs, List.headD_cons, insertIdx]
    by_cases hcm : hasFlag top.flags PFLAG_COMMENT = true
    · have hrest := hca top rest hs hcm
      have hlen : 2 ≤ m.p.states.length := by
        rw [hs]; cases rest with
        | nil => exact absurd rfl hrest
        | cons g l => simp
      have hidx : 0 < (topPtr m).idx := by simp only [topPtr]; omega
      have hsp : AtDepth m ({ topPtr m with idx := (topPtr m).idx - 1 }) 1 := by
        refine ⟨rfl, ?_⟩
        simp only [topPtr]; omega
      simp only [hcm, if_true, hidx, decide_true, chk_true, hsp.deref, hsp.read]
      rw [← hs]
      exact insertAtM_tail hsp (m.p.states.getD 1 default) v vstr
    · have hsp : AtDepth m (topPtr m) 0 := by
        refine ⟨rfl, ?_⟩
        have : 0 < m.p.states.length := List.length_pos_iff.mpr hne
        simp only [topPtr]; omega
      simp only [hcm, Bool.false_eq_true, if_false, hd, chk_true, hsp.read]
      rw [← hs]
      exact insertAtM_tail hsp (m.p.states.getD 0 default) v vstr

/-- `parser/insert` on the physical machine, on every reachable state: `PInv` and the comment-flag invariant suffice -/
theorem insertM_safe (scan : List B → Option String) (m : MP) (v : Value) (vstr : List B) (h : PInv m.p) (hn : NoCF m.p) :
    (insertM scan m v vstr).1.p = (insert scan m.p v vstr).1 ∧ (insertM scan m v vstr).2 = (insert scan m.p v vstr).2 ∧
    (insertM scan m v vstr).1.fault = m.fault := by
  obtain ⟨h1, h2, h3⟩ := insertPreM_spec scan m h
  have hok := ((WF.api scan).insertPre m.p h.wf).ok
  have hca := commentAbove_of_nocf hok ((NoCF.api scan).insertPre m.p hn)
  rw [insert_eq]
  unfold insertM
  generalize insertPreM scan m = r at h1 h2 h3 ⊢
  generalize insertPre scan m.p = r' at h1 h2 hok hca ⊢
  obtain ⟨m', oe⟩ := r
  obtain ⟨p', oe'⟩ := r'
  subst h1 h2
  cases oe with
  | some e => exact ⟨rfl, rfl, h3⟩
  | none => exact h3 ▸ insertAtM_spec m' v vstr (okFrames_ne_nil hok) hca

/-- every operation of the parser API on the physical machine -/
inductive OpF where
  | byte (c : B)
  | eof
  | produce
  | produceWrapped
  | flush
  | error
  | insert (v : Value) (vstr : List B)
  | clone
  | state

def runOpF (scan : List B → Option String) (m : MP) : OpF → MP
  | .byte c => consumeM scan m c
  | .eof => eofM scan m
  | .produce => (produceM m).2
  | .produceWrapped => (produceWrappedM m).2
  | .flush => flushM m
  | .error => (takeErrorM m).2
  | .insert v vstr => (insertM scan m v vstr).1
  | .clone => cloneM m
  | .state => (stateDelimsM m).2

def runOpFL (scan : List B → Option String) (p : Parser) : OpF → Parser
  | .byte c => consume scan p c
  | .eof => eof scan p
  | .produce => (produce p).2
  | .produceWrapped => (produceWrapped p).2
  | .flush => flush p
  | .error => (takeError p).2
  | .insert v vstr => (insert scan p v vstr).1
  | .clone => clone p
  | .state => p

theorem ApiInv.runOpFL {scan : List B → Option String} {I : Parser → Prop} (h : ApiInv scan I) (p : Parser) (op : OpF) (hp : I p) :
    I (runOpFL scan p op) := by
  cases op with
  | byte c => exact h.consume p c hp
  | eof => exact h.eof p hp
  | produce => exact h.produce p hp
  | produceWrapped => exact h.dequeue p hp
  | flush => exact h.flush p hp
  | error => exact h.takeError p hp
  | insert v vstr => exact h.insert p v vstr hp
  | clone => exact hp
  | state => exact hp

theorem runOpF_spec (scan : List B → Option String) (m : MP) (op : OpF) (h : PInv m.p) (hn : NoCF m.p) :
    (runOpF scan m op).p = runOpFL scan m.p op ∧ (runOpF scan m op).fault = m.fault := by
  cases op with
  | byte c => exact consumeM_spec scan m c h
  | eof => exact eofM_spec scan m h
  | produce => exact (produceM_spec m h.wf).2
  | produceWrapped => exact (produceWrappedM_spec m h.wf).2
  | flush => exact flushM_spec m h.wf
  | error => exact (takeErrorM_spec m h.wf).2
  | insert v vstr => exact ⟨(insertM_safe scan m v vstr h hn).1, (insertM_safe scan m v vstr h hn).2.2⟩
  | clone => exact ⟨(cloneM_spec m).1, (cloneM_spec m).2.1⟩
  | state => exact (stateDelimsM_spec m).2

/-- the token-buffer invariant and the comment-flag invariant together are what every operation of the machine needs -/
theorem runOpsF_spec (scan : List B → Option String) (ops : List OpF) (m : MP) (h : PInv m.p) (hn : NoCF m.p) :
    (ops.foldl (runOpF scan) m).p = ops.foldl (runOpFL scan) m.p ∧ (ops.foldl (runOpF scan) m).fault = m.fault :=
  history_sim MP.p MP.fault (I := fun p => PInv p ∧ NoCF p)
    (fun p op hp => ⟨(PInv.api scan).runOpFL p op hp.1, (NoCF.api scan).runOpFL p op hp.2⟩)
    (fun m op hp => runOpF_spec scan m op hp.1 hp.2) ops m ⟨h, hn⟩

/-- the calls of `OpM` among those of `OpF` -/
def OpM.toF : OpM → OpF
  | .byte c => .byte c
  | .eof => .eof
  | .produce => .produce
  | .produceWrapped => .produceWrapped
  | .flush => .flush
  | .error => .error

theorem runOpM_eq (scan : List B → Option String) : runOpM scan = fun m op => runOpF scan m op.toF := by
  funext m op; cases op <;> rfl

theorem runOpL_eq (scan : List B → Option String) : runOpL scan = fun p op => runOpFL scan p op.toF := by
  funext p op; cases op <;> rfl

end JanetModel.Parse
