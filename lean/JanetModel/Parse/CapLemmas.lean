/- `count ≤ capacity` for the parser's three stacks is an invariant of every operation, and every push writes inside the
   (re)allocated block. -/
import JanetModel.Parse.Cap
import JanetModel.Parse.Lemmas
import JanetModel.Parse.Queue
import JanetModel.Parse.Insert
import JanetModel.Parse.Phys

namespace JanetModel.Parse
open JanetModel.Gen.Parse

theorem stackGrowFactor_pos : 0 < stackGrowFactor := by decide
theorem insertGrowFactor_pos : 0 < insertGrowFactor := by decide

/-- one `DEF_PARSER_STACK` push: the slot written (`STACK[oldcount]`) lies inside the new capacity, the new count fits, and the
    capacity never shrinks -/
theorem growCap_ok (cap count : Nat) :
    count < growCap cap count ∧ count + 1 ≤ growCap cap count ∧ cap ≤ growCap cap count := by
  unfold growCap
  have hm : count + 1 ≤ stackGrowFactor * (count + 1) := Nat.le_mul_of_pos_left _ stackGrowFactor_pos
  by_cases hc : count + 1 > cap
  · rw [if_pos hc]; omega
  · rw [if_neg hc]; omega

theorem growTo_ok : ∀ (n cap a : Nat), a ≤ cap → a + n ≤ growTo cap a n ∧ cap ≤ growTo cap a n := by
  intro n
  induction n with
  | zero => intro cap a h; exact ⟨h, Nat.le_refl _⟩
  | succ n ih =>
    intro cap a h
    obtain ⟨_, h2, h3⟩ := growCap_ok cap a
    obtain ⟨i1, i2⟩ := ih (growCap cap a) (a + 1) h2
    simp only [growTo]
    exact ⟨by omega, by omega⟩

theorem pushes_ok (cap a b : Nat) (h : a ≤ cap) : b ≤ pushes cap a b ∧ cap ≤ pushes cap a b := by
  unfold pushes
  obtain ⟨h1, h2⟩ := growTo_ok (b - a) cap a h
  exact ⟨by omega, h2⟩

theorem jumpCap_ok (cap n : Nat) : n ≤ jumpCap cap n ∧ cap ≤ jumpCap cap n := by
  unfold jumpCap
  have hm : n ≤ insertGrowFactor * n := Nat.le_mul_of_pos_left _ insertGrowFactor_pos
  by_cases hc : cap < n
  · rw [if_pos hc]; omega
  · rw [if_neg hc]; omega

def Caps.le (k k' : Caps) : Prop := k.buf ≤ k'.buf ∧ k.states ≤ k'.states ∧ k.args ≤ k'.args

theorem Caps.le_refl (k : Caps) : k.le k := ⟨Nat.le_refl _, Nat.le_refl _, Nat.le_refl _⟩
theorem Caps.le_trans {a b c : Caps} (h1 : a.le b) (h2 : b.le c) : a.le c :=
  ⟨Nat.le_trans h1.1 h2.1, Nat.le_trans h1.2.1 h2.2.1, Nat.le_trans h1.2.2 h2.2.2⟩

theorem stepCaps_ok {k : Caps} {p : Parser} (p' : Parser) (h : CapOK k p) : CapOK (stepCaps k p p') p' ∧ k.le (stepCaps k p p') := by
  obtain ⟨h1, h2, h3⟩ := h
  have a := pushes_ok k.buf p.buf.length p'.buf.length h1
  have b := pushes_ok k.states p.states.length p'.states.length h2
  have c := pushes_ok k.args p.args.length p'.args.length h3
  exact ⟨⟨a.1, b.1, c.1⟩, ⟨a.2, b.2, c.2⟩⟩

theorem consumeLoopK_ok (scan : List B → Option String) (c : B) : ∀ (fuel : Nat) (k : Caps) (p q : Parser),
    CapOK k p → consumeLoop scan fuel p c = some q → CapOK (consumeLoopK scan fuel k p c) q ∧ k.le (consumeLoopK scan fuel k p c) := by
  intro fuel
  induction fuel with
  | zero => intro k p q _ h; simp [consumeLoop] at h
  | succ n ih =>
    intro k p q hk h
    unfold consumeLoop at h
    unfold consumeLoopK
    by_cases he : p.error.isSome = true
    · simp only [he, if_true, Option.some.injEq] at h ⊢
      subst h; exact ⟨hk, Caps.le_refl k⟩
    · simp only [he, Bool.false_eq_true, if_false] at h ⊢
      obtain ⟨hs1, hs2⟩ := stepCaps_ok (step scan p c).1 hk
      cases hc : (step scan p c).2 with
      | true =>
        simp only [hc, if_true, Option.some.injEq] at h ⊢
        subst h; exact ⟨hs1, hs2⟩
      | false =>
        simp only [hc, Bool.false_eq_true, if_false] at h ⊢
        obtain ⟨i1, i2⟩ := ih _ _ q hs1 h
        exact ⟨i1, Caps.le_trans hs2 i2⟩

theorem CapOK_advancePos {k : Caps} {p : Parser} (c : B) (h : CapOK k p) : CapOK k (advancePos p c) := by
  rw [advancePos_eq]
  exact h

theorem consumeRawK_ok (scan : List B → Option String) {k : Caps} {p : Parser} (c : B) (h : CapOK k p) :
    CapOK (consumeRawK scan k p c) (consumeRaw scan p c) ∧ k.le (consumeRawK scan k p c) := by
  obtain ⟨q, hq, hraw⟩ := consumeRaw_eq scan p c
  rw [hraw]
  exact consumeLoopK_ok scan c _ k _ q (CapOK_advancePos c h) hq

theorem consumeK_ok (scan : List B → Option String) {k : Caps} {p : Parser} (c : B) (h : CapOK k p) :
    CapOK (consumeK scan k p c) (consume scan p c) ∧ k.le (consumeK scan k p c) := by
  unfold consumeK consume
  cases checkDead p with
  | some _ => exact ⟨h, Caps.le_refl k⟩
  | none => exact consumeRawK_ok scan c h

theorem eofK_ok (scan : List B → Option String) {k : Caps} {p : Parser} (h : CapOK k p) :
    CapOK (eofK scan k p) (eof scan p) ∧ k.le (eofK scan k p) := by
  unfold eofK consumeK eof
  cases checkDead p with
  | some _ => exact ⟨h, Caps.le_refl k⟩
  | none =>
    obtain ⟨h1, h2⟩ := consumeRawK_ok scan 10 h
    refine ⟨?_, h2⟩
    simp only
    split
    · exact h1
    · exact h1

theorem CapOK_init : CapOK Caps.init Parser.init := by
  refine ⟨Nat.le_refl _, ?_, Nat.le_refl _⟩
  show 1 ≤ growCap 0 0
  exact (growCap_ok 0 0).2.1

theorem CapOK_clone (p : Parser) : CapOK (cloneK p) (clone p) := ⟨Nat.le_refl _, Nat.le_refl _, Nat.le_refl _⟩

theorem produce_counts (p : Parser) : (produce p).2.buf = p.buf ∧ (produce p).2.states.length = p.states.length ∧
    (produce p).2.args.length ≤ p.args.length := by
  unfold produce produceWrapped
  by_cases h : (p.pending == 0) = true
  · simp [h]
  · simp only [h]
    cases hr : p.args.reverse with
    | nil => simp
    | cons v rest =>
      have hl : p.args.length = rest.length + 1 := by
        have := congrArg List.length hr; simpa using this
      simp [decRootArgn_eq, decRoot_length, hl]

theorem CapOK_produce {k : Caps} {p : Parser} (h : CapOK k p) : CapOK k (produce p).2 := by
  obtain ⟨a, b, c⟩ := produce_counts p
  exact ⟨by rw [a]; exact h.1, by rw [b]; exact h.2.1, Nat.le_trans c h.2.2⟩

theorem CapOK_flush {k : Caps} {p : Parser} (h : CapOK k p) : CapOK k (flush p) :=
  ⟨Nat.le_trans (flush_lens p).1 h.1, Nat.le_trans (flush_lens p).2.1 h.2.1, Nat.le_trans (flush_lens p).2.2 h.2.2⟩

theorem CapOK_takeError {k : Caps} {p : Parser} (h : CapOK k p) : CapOK k (takeError p).2 := by
  unfold takeError
  cases p.error with
  | none => exact h
  | some e => exact CapOK_flush (p := { p with error := none, flag := p.flag &&& (0xFFFFFFFF ^^^ JANET_PARSER_GENERATED_ERROR) }) h

theorem stateK_ok {k : Caps} {p : Parser} (h : CapOK k p) :
    CapOK (stateK k p) p ∧ p.buf.length + (delimiters p).length ≤ (stateK k p).buf ∧ k.le (stateK k p) := by
  have a := pushes_ok k.buf p.buf.length (p.buf.length + (delimiters p).length) h.1
  exact ⟨⟨Nat.le_trans h.1 a.2, h.2.1, h.2.2⟩, a.1, ⟨a.2, Nat.le_refl _, Nat.le_refl _⟩⟩

theorem insertAt_states_length (p : Parser) (v : Value) (vstr : List B) : (insertAt p v vstr).1.states.length = p.states.length := by
  rw [insertAt_eq]
  rcases insTail_cases p (insertIdx p.states) (p.states.getD (insertIdx p.states) default) v vstr with h | h | h | h
  · rw [h]; exact modifyFrame_len _ _ _
  · rw [h]; exact modifyFrame_len _ _ _
  · rw [h]
  · rw [h]

theorem insertPre_mid (scan : List B → Option String) (p : Parser) :
    (insertPre scan p).1.states = (insertMid scan p).states ∧ (insertPre scan p).1.args = (insertMid scan p).args ∧
    (insertPre scan p).1.buf = (insertMid scan p).buf := by
  unfold insertPre insertMid
  cases p.states with
  | nil => exact ⟨rfl, rfl, rfl⟩
  | cons top rest =>
    simp only
    by_cases ht : (top.consumer == Consumer.tokenchar) = true
    · simp only [ht, if_true, Bool.true_and]
      cases checkDead p with
      | some _ => exact ⟨rfl, rfl, rfl⟩
      | none => exact ⟨rfl, rfl, rfl⟩
    · simp only [ht, Bool.false_eq_true, if_false, Bool.false_and]
      exact ⟨trivial, trivial, trivial⟩

theorem insert_states_length (scan : List B → Option String) (p : Parser) (v : Value) (vstr : List B) :
    (insert scan p v vstr).1.states.length = (insertMid scan p).states.length := by
  rw [insert_eq, ← (insertPre_mid scan p).1]
  cases insertPre scan p with
  | mk q oe =>
    cases oe with
    | some e => rfl
    | none => exact insertAt_states_length q v vstr

theorem insertMid_ok (scan : List B → Option String) {k : Caps} {p : Parser} (h : CapOK k p) :
    CapOK (insertK1 scan k p) (insertMid scan p) ∧ k.le (insertK1 scan k p) := by
  unfold insertMid insertK1
  cases p.states with
  | nil => exact ⟨h, Caps.le_refl k⟩
  | cons top rest =>
    simp only
    split
    · exact consumeRawK_ok scan 32 h
    · exact ⟨h, Caps.le_refl k⟩

theorem insertK_ok (scan : List B → Option String) {k : Caps} {p : Parser} (v : Value) (vstr : List B) (h : CapOK k p) :
    CapOK (insertK scan k p v vstr) (insert scan p v vstr).1 ∧ k.le (insertK scan k p v vstr) := by
  obtain ⟨hm, hle⟩ := insertMid_ok scan h
  have ha := pushes_ok (insertK1 scan k p).args (insertMid scan p).args.length (insert scan p v vstr).1.args.length hm.2.2
  have hj := jumpCap_ok (insertK1 scan k p).buf (insert scan p v vstr).1.buf.length
  unfold insertK
  simp only
  refine ⟨⟨?_, ?_, ha.1⟩, ⟨?_, hle.2.1, Nat.le_trans hle.2.2 ha.2⟩⟩
  · by_cases hlt : (insertMid scan p).buf.length < (insert scan p v vstr).1.buf.length
    · simp only [hlt, if_true]; exact hj.1
    · simp only [hlt, if_false]; have := hm.1; omega
  · rw [insert_states_length]; exact hm.2.1
  · by_cases hlt : (insertMid scan p).buf.length < (insert scan p v vstr).1.buf.length
    · simp only [hlt, if_true]; exact Nat.le_trans hle.1 hj.2
    · simp only [hlt, if_false]; exact hle.1

/-- every operation that touches the parser struct -/
inductive OpK where
  | byte (c : B)                          -- `janet_parser_consume` (panics, leaving everything alone, on a latched / dead parser)
  | eof                                   -- `janet_parser_eof`
  | produce                               -- `janet_parser_produce`
  | insert (v : Value) (vstr : List B)    -- `parser/insert`
  | flush                                 -- `janet_parser_flush`
  | takeError                             -- `janet_parser_error`
  | clone                                 -- `janet_parser_clone`, continuing on the clone
  | state                                 -- `parser/state` (`:delimiters` uses the scratch buffer)
  deriving Inhabited

structure KRun where
  k : Caps
  p : Parser

def runOpK (scan : List B → Option String) (r : KRun) : OpK → KRun
  | .byte c => ⟨consumeK scan r.k r.p c, consume scan r.p c⟩
  | .eof => ⟨eofK scan r.k r.p, eof scan r.p⟩
  | .produce => ⟨r.k, (produce r.p).2⟩
  | .insert v s => ⟨insertK scan r.k r.p v s, (insert scan r.p v s).1⟩
  | .flush => ⟨r.k, flush r.p⟩
  | .takeError => ⟨r.k, (takeError r.p).2⟩
  | .clone => ⟨cloneK r.p, clone r.p⟩
  | .state => ⟨stateK r.k r.p, r.p⟩

theorem runOpK_ok (scan : List B → Option String) {r : KRun} (op : OpK) (h : CapOK r.k r.p) : CapOK (runOpK scan r op).k (runOpK scan r op).p := by
  cases op with
  | byte c => exact (consumeK_ok scan c h).1
  | eof => exact (eofK_ok scan h).1
  | produce => exact CapOK_produce h
  | insert v s => exact (insertK_ok scan v s h).1
  | flush => exact CapOK_flush h
  | takeError => exact CapOK_takeError h
  | clone => exact CapOK_clone r.p
  | state => exact (stateK_ok h).1

end JanetModel.Parse
