/- The operations of the parser API as compositions of a few state changes: `parser/insert` in its two halves, one
   `parser/produce` on a run, and `ApiInv` -- a predicate closed under those state changes is closed under every operation, with
   or without the client's error protocol, hence holds along every history. -/
import JanetModel.Parse.Lemmas
import JanetModel.Util.List

namespace JanetModel.Parse
open JanetModel.Gen.Parse

abbrev incArgn (f : Frame) : Frame := { f with argn := f.argn + 1 }

/-- first half of `cfun_parse_insert`: a pending token is finished by feeding a space (and the column is put back) -/
def insertPre (scan : List B → Option String) (p : Parser) : Parser × Option String :=
  match p.states with
  | top :: _ =>
    if top.consumer == .tokenchar then
      match checkDead p with
      | some msg => (p, some msg)
      | none => let q := consumeRaw scan p 32; ({ q with column := q.column - 1 }, none)
    else (p, none)
  | [] => (p, none)

/-- the frame `parser/insert` looks at: the top frame, or the one below a comment frame (`if (s->flags & PFLAG_COMMENT) s--;`) -/
def insertIdx : List Frame → Nat
  | top :: _ => if hasFlag top.flags PFLAG_COMMENT then 1 else 0
  | [] => 0

/-- second half of `cfun_parse_insert` once the frame `s`, `i` below the top, is settled: count and push the value in a container
    frame, or append to a string buffer -/
def insTail (p : Parser) (i : Nat) (s : Frame) (v : Value) (vstr : List B) : Parser × Option String :=
  if hasFlag s.flags PFLAG_CONTAINER then
    let states := modifyFrame p.states i incArgn
    let isRoot := if insertRootTestByFrame then i + 1 == p.states.length else p.states.length == 1
    if isRoot then
      ({ p with states := states, pending := p.pending + 1, args := Value.tuple false smNone smNone [v] :: p.args }, none)
    else ({ p with states := states, args := v :: p.args }, none)
  else if hasFlag s.flags (PFLAG_STRING ||| PFLAG_LONGSTRING) then ({ p with buf := p.buf ++ vstr }, none)
  else (p, some "cannot insert value into parser")

def insertAt (p : Parser) (v : Value) (vstr : List B) : Parser × Option String :=
  insTail p (insertIdx p.states) (p.states.getD (insertIdx p.states) default) v vstr

theorem insertAt_eq (p : Parser) (v : Value) (vstr : List B) :
    insertAt p v vstr = insTail p (insertIdx p.states) (p.states.getD (insertIdx p.states) default) v vstr := rfl

theorem insert_eq (scan : List B → Option String) (p : Parser) (v : Value) (vstr : List B) :
    insert scan p v vstr = match insertPre scan p with
      | (p, some e) => (p, some e)
      | (p, none) => insertAt p v vstr := rfl

/-- what `janet_parser_eof` does after feeding the newline: the error for an unterminated form, the old line / column, the dead flag -/
def eofTail (Q : Parser) (l c : Nat) : Parser :=
  let p2 := if Q.states.length > 1 then delimError Q (Q.states.length - 1) none "unexpected end of source" else Q
  { p2 with line := l, column := c, flag := p2.flag ||| JANET_PARSER_DEAD }

theorem eof_eq (scan : List B → Option String) (p : Parser) : eof scan p =
    match checkDead p with
    | some _ => p
    | none => eofTail (consumeRaw scan p 10) p.line p.column := rfl

theorem insTail_cases (p : Parser) (i : Nat) (s : Frame) (v : Value) (vstr : List B) :
    insTail p i s v vstr = ({ p with states := modifyFrame p.states i incArgn, pending := p.pending + 1,
                                     args := Value.tuple false smNone smNone [v] :: p.args }, none) ∨
    insTail p i s v vstr = ({ p with states := modifyFrame p.states i incArgn, args := v :: p.args }, none) ∨
    insTail p i s v vstr = ({ p with buf := p.buf ++ vstr }, none) ∨
    insTail p i s v vstr = (p, some "cannot insert value into parser") := by
  have four : ∀ (c1 c2 c3 : Prop) [Decidable c1] [Decidable c2] [Decidable c3] (a b c d : Parser × Option String),
      (if c1 then if c2 then a else b else if c3 then c else d) = a ∨ (if c1 then if c2 then a else b else if c3 then c else d) = b ∨
      (if c1 then if c2 then a else b else if c3 then c else d) = c ∨ (if c1 then if c2 then a else b else if c3 then c else d) = d := by
    intro c1 c2 c3 _ _ _ a b c d
    by_cases h1 : c1 <;> by_cases h2 : c2 <;> by_cases h3 : c3 <;> simp [h1, h2, h3]
  exact four ..

def produceRun (r : Run) : Run :=
  match produce r.p with
  | (some v, p') => { p := p', out := r.out ++ [.value v] }
  | (none, p') => { r with p := p' }

/-- An invariant of the parser API, given on the state changes its operations are composed of: one byte through the consume loop
    (`consumeRaw_inv` reduces it to a consumer call from an error-free state, for an invariant that holds inside the loop as well);
    a write to line / column / lookback; the `delim_error` of `janet_parser_eof`; `flag |= JANET_PARSER_DEAD`; the dequeue;
    `janet_parser_flush`; `janet_parser_error` clearing the message and its flag bit; the second half of `parser/insert`. -/
structure ApiInv (scan : List B → Option String) (I : Parser → Prop) : Prop where
  init : I Parser.init
  raw : ∀ p c, I p → I (consumeRaw scan p c)
  pos : ∀ (p : Parser) (l c : Nat) (lb : Int), I p → I { p with line := l, column := c, lookback := lb }
  eofErr : ∀ p : Parser, I p → I (delimError p (p.states.length - 1) none "unexpected end of source")
  dead : ∀ p : Parser, I p → I { p with flag := p.flag ||| JANET_PARSER_DEAD }
  dequeue : ∀ p, I p → I (produceWrapped p).2
  flush : ∀ p, I p → I (flush p)
  clearErr : ∀ p : Parser, I p → I { p with error := none, flag := p.flag &&& (0xFFFFFFFF ^^^ JANET_PARSER_GENERATED_ERROR) }
  insertAt : ∀ p v vstr, I p → I (insertAt p v vstr).1

namespace ApiInv
variable {scan : List B → Option String} {I : Parser → Prop} (h : ApiInv scan I)
include h

theorem consume (p : Parser) (c : B) (hp : I p) : I (consume scan p c) := by
  unfold Parse.consume
  split
  · exact hp
  · exact h.raw p c hp

theorem eof (p : Parser) (hp : I p) : I (eof scan p) := by
  have key : ∀ q : Parser, I q → I { q with line := p.line, column := p.column, flag := q.flag ||| JANET_PARSER_DEAD } :=
    fun q hq => h.pos _ p.line p.column q.lookback (h.dead q hq)
  unfold Parse.eof
  split
  · exact hp
  · refine key _ ?_
    split
    · exact h.eofErr _ (h.raw p 10 hp)
    · exact h.raw p 10 hp

theorem produce (p : Parser) (hp : I p) : I (produce p).2 := by
  have := h.dequeue p hp
  unfold Parse.produce
  split <;> simp_all

theorem takeError (p : Parser) (hp : I p) : I (takeError p).2 := by
  unfold Parse.takeError
  split
  · exact h.flush _ (h.clearErr p hp)
  · exact hp

theorem insertPre (p : Parser) (hp : I p) : I (insertPre scan p).1 := by
  unfold Parse.insertPre
  split
  · split
    · split
      · exact hp
      · exact h.pos _ _ _ _ (h.raw p 32 hp)
    · exact hp
  · exact hp

theorem insert (p : Parser) (v : Value) (vstr : List B) (hp : I p) : I (insert scan p v vstr).1 := by
  have hpre := h.insertPre p hp
  rw [insert_eq]
  cases hq : Parse.insertPre scan p with
  | mk q oe =>
    rw [hq] at hpre
    cases oe with
    | some e => exact hpre
    | none => exact h.insertAt q v vstr hpre

theorem drainAux : ∀ (n : Nat) (p : Parser) (acc : List Event), I p → I (drainAux n p acc).1 := by
  intro n
  induction n with
  | zero => intro p acc hp; exact hp
  | succ k ih =>
    intro p acc hp
    have hq := h.produce p hp
    unfold Parse.drainAux
    cases hpr : Parse.produce p with
    | mk ov p' =>
      rw [hpr] at hq
      cases ov with
      | none => exact hq
      | some v => exact ih p' _ hq

theorem handleError (r : Run) (hr : I r.p) : I (handleError r).p := by
  unfold Parse.handleError
  split
  · have hd : I (drain r).p := by unfold drain; exact h.drainAux _ _ _ hr
    have ht := h.takeError _ hd
    dsimp only
    cases hte : Parse.takeError (drain r).p with
    | mk oe p' =>
      rw [hte] at ht
      cases oe <;> exact ht
  · exact hr

theorem feedByte (r : Run) (c : B) (hr : I r.p) : I (feedByte scan r c).p :=
  h.handleError { r with p := Parse.consume scan r.p c } (h.consume r.p c hr)

theorem feed (bs : List B) : ∀ r : Run, I r.p → I (feed scan r bs).p := by
  induction bs with
  | nil => intro r hr; exact hr
  | cons c cs ih => intro r hr; exact ih _ (h.feedByte r c hr)

theorem produceRun (r : Run) (hr : I r.p) : I (produceRun r).p := by
  have := h.produce r.p hr
  unfold Parse.produceRun
  cases hpr : Parse.produce r.p with
  | mk ov p' =>
    rw [hpr] at this
    cases ov <;> exact this

theorem history {Op : Type} (run : Parser → Op → Parser) (hrun : ∀ p op, I p → I (run p op)) (ops : List Op) :
    I (ops.foldl run Parser.init) :=
  Util.foldl_inv hrun ops Parser.init h.init

theorem historyRun {Op : Type} (run : Run → Op → Run) (hrun : ∀ r op, I r.p → I (run r op).p) (ops : List Op) :
    I (ops.foldl run Run.init).p :=
  Util.foldl_inv (P := fun r => I r.p) hrun ops Run.init h.init

end ApiInv

end JanetModel.Parse
