/- The physical machine against the logical model: from a parser satisfying `PInv` every operation -- consume / eof / produce /
   flush / error, the client protocol (`feed`, `finish`) -- computes the model's operation and NO checked access fails; that `PInv`
   holds again afterwards is `PInv.api`, so the same holds along whole histories (`history_sim`). -/
import JanetModel.Parse.PhysInv

namespace JanetModel.Parse
open JanetModel.Gen.Parse

/-- the physical loop computes the logical loop and no check fails -/
theorem consumeLoopM_spec (scan : List B → Option String) (c : B) : ∀ (fuel : Nat) (m : MP) (q : Parser),
    LoopHead c m.p → consumeLoop scan fuel m.p c = some q →
    (consumeLoopM scan fuel m c).p = q ∧ (consumeLoopM scan fuel m c).fault = m.fault := by
  intro fuel
  induction fuel with
  | zero => intro m q _ h; simp [consumeLoop] at h
  | succ n ih =>
    intro m q hh h
    unfold consumeLoop at h
    unfold consumeLoopM
    by_cases he : m.p.error.isSome = true
    · rw [if_pos he] at h ⊢
      cases h
      exact ⟨rfl, rfl⟩
    · rw [if_neg he] at h ⊢
      obtain ⟨hp, hc2⟩ := stepM_p scan m c (okFrames_ne_nil hh.1.ok)
      have hsafe := stepM_safe scan m c hh.1 (hh.2.2.mono And.left)
      have hnext := hh.step scan (by simpa using he)
      simp only [hc2] at h ⊢
      split at h
      · next hcons => cases h; rw [if_pos hcons]; exact ⟨hp, hsafe⟩
      · next hcons =>
        rw [if_neg hcons] at hnext ⊢
        rw [← hsafe]
        exact ih _ q (by rw [hp]; exact hnext) (by rw [hp]; exact h)

theorem consumeRawM_spec (scan : List B → Option String) (m : MP) (c : B) (h : PInv m.p) :
    (consumeRawM scan m c).p = consumeRaw scan m.p c ∧ (consumeRawM scan m c).fault = m.fault := by
  obtain ⟨q, hq, hraw⟩ := consumeRaw_eq scan m.p c
  have h0 : PInv (advancePos m.p c) := by rw [advancePos_eq]; exact h.congr rfl rfl rfl rfl
  obtain ⟨h1, h2⟩ := consumeLoopM_spec scan c (loopFuel (advancePos m.p c))
    (m.scal (fun p => advancePos p c) (advancePos_lens m.p c)) q (h0.loopHead c) hq
  unfold consumeRawM
  simp only [scal_p, scal_fault]
  rw [hraw]
  exact ⟨by rw [h1], by rw [h2]; rfl⟩

theorem checkDead_sb {p : Parser} (h : checkDead p = none) : p.error = none ∧ p.flag = 0 := by
  unfold checkDead at h
  by_cases hf : (p.flag != 0) = true
  · rw [if_pos hf] at h; cases h
  · rw [if_neg hf] at h
    by_cases he : p.error.isSome = true
    · rw [if_pos he] at h; cases h
    · refine ⟨?_, by simpa using hf⟩
      cases hh : p.error with
      | none => rfl
      | some e => rw [hh] at he; simp at he

theorem consumeM_spec (scan : List B → Option String) (m : MP) (c : B) (h : PInv m.p) :
    (consumeM scan m c).p = consume scan m.p c ∧ (consumeM scan m c).fault = m.fault := by
  unfold consumeM consume
  cases checkDead m.p with
  | some _ => exact ⟨rfl, rfl⟩
  | none => exact consumeRawM_spec scan m c h

/-- what `janet_parser_eof` does after feeding the newline -/
def eofTailM (M : MP) (l c : Nat) : MP :=
  (if M.p.states.length > 1 then delimErrorM M (M.p.states.length - 1) none "unexpected end of source" else M).scal
    (fun q => { q with line := l, column := c, flag := q.flag ||| JANET_PARSER_DEAD }) ⟨rfl, rfl, rfl⟩

theorem eofM_eq (scan : List B → Option String) (m : MP) : eofM scan m =
    match checkDead m.p with
    | some _ => m
    | none => eofTailM (consumeRawM scan m 10) m.p.line m.p.column := rfl

theorem eofTailM_spec (M : MP) (l c : Nat) (hne : M.p.states ≠ []) :
    (eofTailM M l c).p = eofTail M.p l c ∧ (eofTailM M l c).fault = M.fault := by
  have hpos : 0 < M.p.states.length := List.length_pos_iff.mpr hne
  unfold eofTailM eofTail
  simp only [scal_p, scal_fault]
  by_cases hl : M.p.states.length > 1
  · have hlt : M.p.states.length - 1 < M.p.states.length := by omega
    rw [if_pos hl, if_pos hl]
    refine ⟨rfl, ?_⟩
    rw [delimErrorM_fault]; simp [hlt]
  · rw [if_neg hl, if_neg hl]
    exact ⟨rfl, rfl⟩

theorem eofM_spec (scan : List B → Option String) (m : MP) (h : PInv m.p) :
    (eofM scan m).p = eof scan m.p ∧ (eofM scan m).fault = m.fault := by
  rw [eof_eq, eofM_eq]
  cases checkDead m.p with
  | some _ => exact ⟨rfl, rfl⟩
  | none =>
    obtain ⟨h1, h2⟩ := consumeRawM_spec scan m 10 h
    have hne : (consumeRawM scan m 10).p.states ≠ [] := by rw [h1]; exact okFrames_ne_nil (h.consumeRaw scan 10).wf.ok
    obtain ⟨t1, t2⟩ := eofTailM_spec (consumeRawM scan m 10) m.p.line m.p.column hne
    rw [h1] at t1
    exact ⟨t1, t2.trans h2⟩

theorem produceWrappedM_spec (m : MP) (h : WF m.p) :
    (produceWrappedM m).1 = (produceWrapped m.p).1 ∧ (produceWrappedM m).2.p = (produceWrapped m.p).2 ∧
    (produceWrappedM m).2.fault = m.fault := by
  unfold produceWrappedM produceWrapped
  by_cases h0 : (m.p.pending == 0) = true
  · rw [if_pos h0, if_pos h0]; exact ⟨rfl, rfl, rfl⟩
  · rw [if_neg h0, if_neg h0]
    have hp : 1 ≤ m.p.pending := by
      have : m.p.pending ≠ 0 := by simpa using h0
      omega
    obtain ⟨A, z, hA⟩ := args_concat h hp
    have hargs : 0 < m.p.args.length := by rw [hA]; simp
    have hst : 0 < m.p.states.length := List.length_pos_iff.mpr (okFrames_ne_nil h.ok)
    simp only [hargs, hst, decide_true, chk_true]
    simp only [hA, List.reverse_append, List.reverse_cons, List.reverse_nil, List.nil_append,
      List.singleton_append, List.reverse_reverse, List.dropLast_concat]
    exact ⟨trivial, trivial, trivial⟩

theorem produce_snd (p : Parser) : (produce p).2 = (produceWrapped p).2 := by
  unfold produce
  split <;> simp_all

theorem produceM_spec (m : MP) (h : WF m.p) :
    (produceM m).1 = (produce m.p).1 ∧ (produceM m).2.p = (produce m.p).2 ∧ (produceM m).2.fault = m.fault := by
  obtain ⟨h1, h2, h3⟩ := produceWrappedM_spec m h
  unfold produceM produce
  generalize produceWrappedM m = r at h1 h2 h3 ⊢
  generalize produceWrapped m.p = r' at h1 h2 ⊢
  obtain ⟨ov, m'⟩ := r
  obtain ⟨ov', p'⟩ := r'
  subst h1
  cases ov <;> exact ⟨rfl, h2, h3⟩

theorem flushM_spec (m : MP) (h : WF m.p) : (flushM m).p = flush m.p ∧ (flushM m).fault = m.fault := by
  have hst : 0 < m.p.states.length := List.length_pos_iff.mpr (okFrames_ne_nil h.ok)
  refine ⟨rfl, ?_⟩
  simp [flushM, hst]

theorem takeErrorM_spec (m : MP) (h : WF m.p) :
    (takeErrorM m).1 = (takeError m.p).1 ∧ (takeErrorM m).2.p = (takeError m.p).2 ∧ (takeErrorM m).2.fault = m.fault := by
  unfold takeErrorM takeError
  cases he : m.p.error with
  | none => exact ⟨rfl, rfl, rfl⟩
  | some e =>
    exact ⟨rfl, flushM_spec
      (m.scal (fun p => { p with error := none, flag := p.flag &&& (0xFFFFFFFF ^^^ JANET_PARSER_GENERATED_ERROR) }) ⟨rfl, rfl, rfl⟩)
      ⟨h.ok, h.sum, h.rootn⟩⟩

/-- the logical run a physical run stands for -/
def MRun.abs (r : MRun) : Run := { p := r.m.p, out := r.out }

theorem drainAuxM_spec : ∀ (n : Nat) (m : MP) (acc : List Event), WF m.p →
    (drainAuxM n m acc).1.p = (drainAux n m.p acc).1 ∧ (drainAuxM n m acc).2 = (drainAux n m.p acc).2 ∧
    (drainAuxM n m acc).1.fault = m.fault := by
  intro n
  induction n with
  | zero => intro m acc h; exact ⟨rfl, rfl, rfl⟩
  | succ k ih =>
    intro m acc h
    obtain ⟨h1, h2, h3⟩ := produceM_spec m h
    have hwf : WF (produce m.p).2 := produce_snd m.p ▸ WF_produceWrapped h
    unfold drainAuxM drainAux
    generalize produceM m = r at h1 h2 h3 ⊢
    generalize produce m.p = r' at h1 h2 hwf ⊢
    obtain ⟨ov, m'⟩ := r
    obtain ⟨ov', p'⟩ := r'
    subst h1 h2
    cases ov with
    | none => exact ⟨rfl, rfl, h3⟩
    | some v => exact h3 ▸ ih m' (acc ++ [.value v]) hwf

theorem drainM_spec (r : MRun) (h : WF r.m.p) : (drainM r).abs = drain r.abs ∧ (drainM r).m.fault = r.m.fault := by
  obtain ⟨h1, h2, h3⟩ := drainAuxM_spec r.m.p.pending r.m r.out h
  unfold drainM drain MRun.abs
  simp only []
  exact ⟨by rw [h1, h2], h3⟩

theorem handleErrorM_spec (scan : List B → Option String) (r : MRun) (h : WF r.m.p) :
    (handleErrorM r).abs = handleError r.abs ∧ (handleErrorM r).m.fault = r.m.fault := by
  unfold handleErrorM handleError
  have habs : r.abs.p = r.m.p := rfl
  rw [habs]
  by_cases he : r.m.p.error.isSome = true
  · simp only [he, if_true]
    obtain ⟨hd1, hd2⟩ := drainM_spec r h
    have hwd : WF (drainM r).m.p := by
      have : (drainM r).m.p = (drain r.abs).p := congrArg Run.p hd1
      rw [this]
      exact (WF.api scan).drainAux _ _ _ h
    obtain ⟨t1, t2, t3⟩ := takeErrorM_spec (drainM r).m hwd
    rw [← hd1]
    have hdp : (drainM r).abs.p = (drainM r).m.p := rfl
    rw [hdp]
    generalize takeErrorM (drainM r).m = x at t1 t2 t3 ⊢
    generalize takeError (drainM r).m.p = x' at t1 t2 ⊢
    obtain ⟨oe, m'⟩ := x
    obtain ⟨oe', p'⟩ := x'
    subst t1 t2
    cases oe <;> exact ⟨rfl, t3.trans hd2⟩
  · rw [if_neg he, if_neg he]
    exact ⟨rfl, rfl⟩

/-- Histories: states `S` stand for states `A` of the model (`abs`) and carry a fault flag.  When every operation, from a state whose
    abstraction satisfies an invariant `I` of the model's operations, computes the model's operation and leaves the flag alone, so
    does every sequence of operations. -/
theorem history_sim {S A Op : Type} (abs : S → A) (fault : S → Bool) {I : A → Prop} {runS : S → Op → S} {runA : A → Op → A}
    (hI : ∀ a op, I a → I (runA a op))
    (hsim : ∀ s op, I (abs s) → abs (runS s op) = runA (abs s) op ∧ fault (runS s op) = fault s) (ops : List Op) :
    ∀ s : S, I (abs s) → abs (ops.foldl runS s) = ops.foldl runA (abs s) ∧ fault (ops.foldl runS s) = fault s := by
  induction ops with
  | nil => intro s _; exact ⟨rfl, rfl⟩
  | cons op rest ih =>
    intro s h
    obtain ⟨h1, h2⟩ := hsim s op h
    obtain ⟨i1, i2⟩ := ih (runS s op) (by rw [h1]; exact hI _ op h)
    simp only [List.foldl_cons]
    rw [h1] at i1
    exact ⟨i1, i2.trans h2⟩

theorem feedByteM_spec (scan : List B → Option String) (r : MRun) (c : B) (h : PInv r.m.p) :
    (feedByteM scan r c).abs = feedByte scan r.abs c ∧ (feedByteM scan r c).m.fault = r.m.fault := by
  obtain ⟨h1, h2⟩ := consumeM_spec scan r.m c h
  obtain ⟨e1, e2⟩ := handleErrorM_spec scan { r with m := consumeM scan r.m c } (by rw [h1]; exact ((PInv.api scan).consume _ c h).wf)
  unfold feedByteM feedByte
  refine ⟨?_, e2.trans h2⟩
  rw [e1]
  simp [MRun.abs, h1]

theorem feedM_spec (scan : List B → Option String) (bs : List B) (r : MRun) (h : PInv r.m.p) :
    (feedM scan r bs).abs = feed scan r.abs bs ∧ (feedM scan r bs).m.fault = r.m.fault ∧ PInv (feedM scan r bs).m.p := by
  have hsim : (feedM scan r bs).abs = feed scan r.abs bs ∧ (feedM scan r bs).m.fault = r.m.fault :=
    history_sim MRun.abs (fun r => r.m.fault) (I := fun r => PInv r.p) (PInv.api scan).feedByte (feedByteM_spec scan) bs r h
  refine ⟨hsim.1, hsim.2, ?_⟩
  show PInv (feedM scan r bs).abs.p
  rw [hsim.1]
  exact (PInv.api scan).feed bs r.abs h

theorem finishM_spec (scan : List B → Option String) (r : MRun) (h : PInv r.m.p) :
    (finishM scan r).abs = finish scan r.abs ∧ (finishM scan r).m.fault = r.m.fault := by
  obtain ⟨h1, h2⟩ := eofM_spec scan r.m h
  have hwf : WF (eof scan r.m.p) := (WF.api scan).eof _ h.wf
  obtain ⟨e1, e2⟩ := handleErrorM_spec scan { r with m := eofM scan r.m } (by rw [h1]; exact hwf)
  have hwe : WF (handleErrorM { r with m := eofM scan r.m }).m.p := by
    have : (handleErrorM { r with m := eofM scan r.m }).m.p = (handleError (MRun.abs { r with m := eofM scan r.m })).p := congrArg Run.p e1
    rw [this]
    exact (WF.api scan).handleError _ (by show WF (eofM scan r.m).p; rw [h1]; exact hwf)
  obtain ⟨d1, d2⟩ := drainM_spec _ hwe
  unfold finishM finish
  refine ⟨?_, d2.trans (e2.trans h2)⟩
  rw [d1, e1]
  simp [MRun.abs, h1]

/-- raw API calls on the physical machine, in any order (no client discipline) -/
inductive OpM where
  | byte (c : B)
  | eof
  | produce
  | produceWrapped
  | flush
  | error

def runOpM (scan : List B → Option String) (m : MP) : OpM → MP
  | .byte c => consumeM scan m c
  | .eof => eofM scan m
  | .produce => (produceM m).2
  | .produceWrapped => (produceWrappedM m).2
  | .flush => flushM m
  | .error => (takeErrorM m).2

/-- the same calls on the logical model -/
def runOpL (scan : List B → Option String) (p : Parser) : OpM → Parser
  | .byte c => consume scan p c
  | .eof => eof scan p
  | .produce => (produce p).2
  | .produceWrapped => (produceWrapped p).2
  | .flush => flush p
  | .error => (takeError p).2

end JanetModel.Parse
