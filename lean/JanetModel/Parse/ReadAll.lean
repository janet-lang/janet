/- Lift of `reads_pop` from the consume loop to the client protocol: `feed` every byte of the `%j` text to a FRESH parser, then
   `finish` (`janet_parser_eof` + dequeue): exactly one value comes out, equal to the printed one up to source maps, no error. -/
import JanetModel.Parse.ReadJdn

namespace JanetModel.Parse
open JanetModel.Gen.Parse JanetModel.PP

/-- on a live parser `janet_parser_consume` + the error protocol is `eatP` as long as no error occurs -/
theorem feedByte_of_eatP (scan : List B → Option String) (r : Run) (c : B) (q : Parser) (hf : r.p.flag = 0) (he : r.p.error = none)
    (h : eatP scan r.p c = some q) : feedByte scan r c = { p := q, out := r.out } ∧ q.flag = 0 ∧ q.error = none := by
  obtain ⟨hraw, hqe⟩ := consumeRaw_of_eatP scan r.p q c h
  have hcd := checkDead_none_of he hf
  have hflag := (consumeRaw_pos scan r.p c).2
  rw [hraw] at hflag
  have hq0 : q.flag = 0 := by
    rcases hflag with h1 | ⟨_, h2⟩
    · rw [h1, hf]
    · rw [hqe] at h2; simp at h2
  refine ⟨?_, hq0, hqe⟩
  unfold feedByte consume
  simp only [hcd, hraw]
  unfold handleError
  simp [hqe]

theorem feed_of_eatsP (scan : List B → Option String) : ∀ (bs : List B) (r : Run) (q : Parser), r.p.flag = 0 → r.p.error = none →
    eatsP scan r.p bs = some q → feed scan r bs = { p := q, out := r.out } ∧ q.flag = 0 ∧ q.error = none := by
  intro bs
  induction bs with
  | nil =>
    intro r q hf he h
    simp only [eatsP, Option.some.injEq] at h
    subst h
    exact ⟨rfl, hf, he⟩
  | cons c cs ih =>
    intro r q hf he h
    simp only [eatsP] at h
    cases h1 : eatP scan r.p c with
    | none => simp [h1] at h
    | some q1 =>
      simp only [h1, Option.bind_some] at h
      obtain ⟨e1, f1, n1⟩ := feedByte_of_eatP scan r c q1 hf he h1
      have := ih { p := q1, out := r.out } q f1 n1 h
      simp only [feed, List.foldl_cons, e1]
      exact this

theorem init_shape : Shape Parser.init [] [⟨0, 0, PFLAG_CONTAINER, 1, 0, .root⟩] [] 0 0 := ⟨rfl, rfl, rfl, rfl, rfl, rfl⟩

/-- `jdn_roundtrip` at the client level: the text `%j` prints for `v`, fed to a fresh parser and finished with
    `janet_parser_eof`, yields exactly ONE event, a value equal to `v` up to tuple source-map positions -- no error -/
theorem jdn_parseAll (scan : List B → Option String) (fmt : String → Option (List B)) (hnum : NumOK scan fmt)
    (depth : Nat) (v : Value) (T : List B) (hj : jdn scan fmt depth v = some T) (hok : v.dictOK = true) :
    ∃ w, parseAll scan T = [Event.value w] ∧ w.erase = v.erase := by
  have hr := reads_pop scan fmt hnum depth v T hj hok
  obtain ⟨v', q0, f, hev, s0, he⟩ := hr Parser.init [] _ [] 0 0 10 init_shape rfl (by decide)
  have s1 := popstate_shape_root v' s0 (by decide)
  obtain ⟨q, hq, sq⟩ := spaceP scan 10 s1 rfl (Or.inr rfl)
  rw [hq] at he
  -- split off the final newline (it is fed by `janet_parser_eof`)
  rw [eatsP_append] at he
  cases hT : eatsP scan Parser.init T with
  | none => simp [hT] at he
  | some q' =>
    simp only [hT, Option.bind_some, eatsP_single] at he
    obtain ⟨hfeed, hf', he'⟩ := feed_of_eatsP scan T Run.init q' rfl rfl hT
    obtain ⟨hraw, _⟩ := consumeRaw_of_eatP scan q' q 10 he
    have hcd := checkDead_none_of he' hf'
    refine ⟨v'.withSm f.line f.column, ?_, by rw [erase_withSm, hev]⟩
    unfold parseAll
    rw [hfeed]
    unfold finish eof
    simp only [hcd, hraw]
    have hlen : ¬ (q.states.length > 1) := by rw [sq.hstates]; simp
    simp only [hlen, if_false]
    unfold handleError
    simp only [sq.herr, Option.isSome_none, Bool.false_eq_true, if_false]
    unfold drain
    simp only [sq.hpending, Run.init]
    unfold drainAux produce produceWrapped
    simp [sq.hpending, sq.hargs, unwrap1, drainAux]

end JanetModel.Parse
