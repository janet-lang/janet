/- The newline that `janet_parser_eof` feeds cannot leave a latched error behind a single frame: from a well-formed, live parser,
   if `janet_parser_consume(p, '\n')` latches an error then at least two frames are left -- so `eof` always either ends clean
   (no error, only the root frame) or reports the innermost unterminated form. -/
import JanetModel.Parse.Latch

namespace JanetModel.Parse
open JanetModel.Gen.Parse

theorem root_newline (p : Parser) (s : Frame) : root p s 10 = (p, true) := by
  have hw : isWhitespace 10 = true := by decide
  simp [root, hw]

/-- a call that latches an error leaves the frame count alone (errors come from `fail`, `updFail` and `delim` only) -/
theorem step_error_length (scan : List B → Option String) (p : Parser) (c : B) (he : p.error = none)
    (h : (step scan p c).1.error.isSome = true) : (step scan p c).1.states.length = p.states.length := by
  cases hs : p.states with
  | nil => rw [step_nil scan c hs, he] at h; cases h
  | cons s rest =>
    rw [step_act scan p s rest c hs] at h ⊢
    generalize Act.of scan s p.buf rest.isEmpty c = ab at h
    obtain ⟨a, b⟩ := ab
    cases a
    case fail e => exact hs ▸ rfl
    case delim c' msg => exact hs ▸ rfl
    case updFail f e => simp [Act.apply, Act.run, setTop, hs]
    all_goals simp [Act.apply, Act.run, takeArgs, he] at h

/-- on a newline the error cannot come from `root`, which skips whitespace -/
theorem step_newline_error (scan : List B → Option String) (p : Parser) (he : p.error = none)
    (h : (step scan p 10).1.error.isSome = true) : (step scan p 10).1.states.length = p.states.length ∧
      ∃ top rest, p.states = top :: rest ∧ top.consumer ≠ .root := by
  refine ⟨step_error_length scan p 10 he h, ?_⟩
  cases hs : p.states with
  | nil => rw [step_nil scan 10 hs, he] at h; cases h
  | cons top rest =>
    refine ⟨top, rest, rfl, fun hr => ?_⟩
    simp [step, hs, hr, root_newline, he] at h

theorem loop_newline_error (scan : List B → Option String) (fuel : Nat) (p q : Parser) (hwf : WF p) (he : p.error = none)
    (h : consumeLoop scan fuel p 10 = some q) (hq : q.error.isSome = true) : 2 ≤ q.states.length := by
  refine (consumeLoop_inv (P := fun q => WF q ∧ (q.error.isSome = true → 2 ≤ q.states.length)) scan 10
    (fun r her hr => ⟨WF_step scan 10 hr.1, fun hse => ?_⟩) fuel p q ⟨hwf, fun h => by rw [he] at h; cases h⟩ h).2 hq
  -- the call that latches the error belongs to a frame above the root frame and keeps the stack height
  obtain ⟨hlen, top, rest, hs, hnr⟩ := step_newline_error scan r her hse
  have hok := hr.1.ok
  rw [hs] at hok
  have hrest := (nonroot_top hok hnr).1
  rw [hlen, hs]
  cases rest with
  | nil => exact absurd rfl hrest
  | cons g l => simp

theorem eof_clean (scan : List B → Option String) (p : Parser) (hwf : WF p) (he : p.error = none) (hf : p.flag = 0) :
    ((eof scan p).error = none ∧ (eof scan p).states.length = 1) ∨
    (∃ f R, (consumeRaw scan p 10).states = f :: R ∧ R ≠ [] ∧ (eof scan p).error = some (eofMessage f)) := by
  have hcd := checkDead_none_of he hf
  have ho := eof_outcome scan p hcd
  rcases ho.error with ⟨hlen, herr⟩ | h2
  · left
    have hwq : WF (consumeRaw scan p 10) := (WF.api scan).raw p 10 hwf
    have hne : (consumeRaw scan p 10).states ≠ [] := okFrames_ne_nil hwq.ok
    have hl1 : (consumeRaw scan p 10).states.length = 1 := by
      cases hs : (consumeRaw scan p 10).states with
      | nil => exact absurd hs hne
      | cons a b => rw [hs] at hlen; simp at hlen ⊢; exact hlen
    refine ⟨?_, by rw [ho.states]; exact hl1⟩
    rw [herr]
    -- an error here would need two frames
    cases hx : (consumeRaw scan p 10).error with
    | none => rfl
    | some e =>
      exfalso
      obtain ⟨q, hq, hraw⟩ := consumeRaw_eq scan p 10
      have h2 := loop_newline_error scan _ (advancePos p 10) q (WF_advancePos 10 hwf)
        (by unfold advancePos; simp [he]) hq (by
          have : q.error = some e := by rw [hraw] at hx; exact hx
          simp [this])
      rw [hraw] at hl1
      simp at hl1
      omega
  · exact Or.inr h2

end JanetModel.Parse
