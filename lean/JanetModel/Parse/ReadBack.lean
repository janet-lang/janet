/- Reading `%j` text back, byte by byte through `janet_parser_consume` WITH its line / column / lookback update
   (`eatP` = `consumeRaw` when no error results): per-byte facts for tokens, strings, delimiters, and `popstate` accounting. -/
import JanetModel.Parse.Roundtrip
import JanetModel.Parse.Sm
import JanetModel.Parse.Pos
import JanetModel.Parse.Api

namespace JanetModel.Parse
open JanetModel.Gen.Parse JanetModel.PP

def setLb (q : Parser) (c : B) : Parser := { q with lookback := Int.ofNat c.toNat }

/-- `janet_parser_consume` on a live parser: position update, consume loop, lookback; `none` if an error is / gets latched -/
def eatP (scan : List B → Option String) (p : Parser) (c : B) : Option Parser :=
  (eat scan (advancePos p c) c).map (fun q => setLb q c)

def eatsP (scan : List B → Option String) : Parser → List B → Option Parser
  | p, [] => some p
  | p, c :: cs => (eatP scan p c).bind (fun q => eatsP scan q cs)

theorem eatsP_append (scan : List B → Option String) (p : Parser) (a b : List B) :
    eatsP scan p (a ++ b) = (eatsP scan p a).bind (fun q => eatsP scan q b) := by
  induction a generalizing p with
  | nil => simp [eatsP]
  | cons c cs ih =>
    simp only [List.cons_append, eatsP]
    cases eatP scan p c with
    | none => simp
    | some q => simp [ih]

theorem eatsP_snoc (scan : List B → Option String) (p q : Parser) (a : List B) (d : B) (h : eatsP scan p a = some q) :
    eatsP scan p (a ++ [d]) = eatP scan q d := by
  rw [eatsP_append, h]
  simp only [Option.bind_some, eatsP]
  cases eatP scan q d <;> simp

theorem eatsP_single (scan : List B → Option String) (p : Parser) (d : B) : eatsP scan p [d] = eatP scan p d := by
  simp only [eatsP]
  cases eatP scan p d <;> simp

theorem consumeRaw_of_eatP (scan : List B → Option String) (p q : Parser) (c : B) (h : eatP scan p c = some q) :
    consumeRaw scan p c = q ∧ q.error = none := by
  unfold eatP eat at h
  by_cases he : (advancePos p c).error.isSome = true
  · simp [he] at h
  · simp only [he] at h
    cases hl : consumeLoop scan (loopFuel (advancePos p c)) (advancePos p c) c with
    | none => simp [hl] at h
    | some q0 =>
      simp only [hl, Option.bind_some] at h
      by_cases he0 : q0.error.isSome = true
      · simp [he0] at h
      · simp only [he0, Bool.false_eq_true, if_false, Option.map_some, Option.some.injEq] at h
        subst h
        constructor
        · unfold consumeRaw; simp [hl, setLb]
        · simp only [setLb]
          cases hq : q0.error with
          | none => rfl
          | some e => rw [hq] at he0; simp at he0

/-- everything about a (live) parser except line / column / lookback -/
structure Shape (p : Parser) (A : List Value) (S : List Frame) (b : List B) (pd fl : Nat) : Prop where
  hargs : p.args = A
  herr : p.error = none
  hstates : p.states = S
  hbuf : p.buf = b
  hpending : p.pending = pd
  hflag : p.flag = fl

theorem Shape.eq {p : Parser} {A : List Value} {S : List Frame} {b : List B} {pd fl : Nat} (h : Shape p A S b pd fl) :
    p = ⟨A, none, S, b, p.line, p.column, pd, p.lookback, fl⟩ := by
  obtain ⟨args, e, st, bf, l, c, pn, lb, f⟩ := p
  obtain ⟨h1, h2, h3, h4, h5, h6⟩ := h
  simp only at h1 h2 h3 h4 h5 h6
  subst h1 h2 h3 h4 h5 h6
  rfl

theorem Shape.mk' (A : List Value) (S : List Frame) (b : List B) (l c pd : Nat) (lb : Int) (fl : Nat) :
    Shape ⟨A, none, S, b, l, c, pd, lb, fl⟩ A S b pd fl := ⟨rfl, rfl, rfl, rfl, rfl, rfl⟩

theorem Shape.setLb {p : Parser} {A : List Value} {S : List Frame} {b : List B} {pd fl : Nat} (h : Shape p A S b pd fl) (c : B) :
    Shape (setLb p c) A S b pd fl := ⟨h.hargs, h.herr, h.hstates, h.hbuf, h.hpending, h.hflag⟩

theorem advancePos_rec (A : List Value) (e : Option String) (S : List Frame) (b : List B) (l c pd : Nat) (lb : Int) (fl : Nat) (ch : B) :
    advancePos ⟨A, e, S, b, l, c, pd, lb, fl⟩ ch = ⟨A, e, S, b, advL l lb ch, advC c ch, pd, lb, fl⟩ := advancePos_eq _ ch

/-- the per-byte lemmas about `eat` on explicit records apply to `eatP` on any parser of that shape -/
theorem eatP_lift (scan : List B → Option String) {p : Parser} {A : List Value} {S : List Frame} {b : List B} {pd fl : Nat}
    (h : Shape p A S b pd fl) (ch : B) :
    eatP scan p ch = (eat scan ⟨A, none, S, b, advL p.line p.lookback ch, advC p.column ch, pd, p.lookback, fl⟩ ch).map (fun q => setLb q ch) := by
  unfold eatP
  conv => lhs; rw [h.eq]
  rw [advancePos_rec]

theorem advancePos_popstate (p : Parser) (v : Value) (c : B) : advancePos (popstate p v) c = popstate (advancePos p c) v := by
  rw [advancePos_eq, advancePos_eq]
  simp [popstate]

theorem popstate_frame_pos (p : Parser) (v : Value) : (popstate p v).line = p.line ∧ (popstate p v).column = p.column ∧
    (popstate p v).lookback = p.lookback := ⟨by simp, by simp, by simp⟩

theorem setLb_popstate (p : Parser) (v : Value) (c : B) : setLb (popstate p v) c = popstate (setLb p c) v := by
  unfold setLb popstate
  rfl

/-- a consuming, error-free `step` at the advanced position is what `janet_parser_consume` does -/
theorem eatP_step (scan : List B → Option String) {p : Parser} {A : List Value} {S : List Frame} {b : List B} {pd fl : Nat}
    (h : Shape p A S b pd fl) (ch : B) (G : Parser)
    (hs : step scan ⟨A, none, S, b, advL p.line p.lookback ch, advC p.column ch, pd, p.lookback, fl⟩ ch = (G, true))
    (he : G.error = none) : eatP scan p ch = some (setLb G ch) := by
  rw [eatP_lift scan h, eat_of_step scan _ ch rfl (by rw [hs]) (by rw [hs]; exact he), hs]
  rfl

/-- the same when the step only rearranges stacks / buffer (new frames may record the current position) -/
theorem eatP_stepS (scan : List B → Option String) {p : Parser} {A : List Value} {S : List Frame} {b : List B} {pd fl : Nat}
    (h : Shape p A S b pd fl) (ch : B) (A' : List Value) (S' : Nat → Nat → List Frame) (b' : List B) (pd' : Nat)
    (hs : ∀ l c lb, step scan ⟨A, none, S, b, l, c, pd, lb, fl⟩ ch = (⟨A', none, S' l c, b', l, c, pd', lb, fl⟩, true)) :
    ∃ q l k, eatP scan p ch = some q ∧ Shape q A' (S' l k) b' pd' fl :=
  ⟨_, _, _, eatP_step scan h ch _ (hs _ _ _) rfl, Shape.setLb (Shape.mk' ..) ch⟩

theorem TopRun.eatsP {scan : List B → Option String} {s s' : Frame} {buf buf' : List B} {cs : List B} (h : TopRun scan s buf cs s' buf') :
    ∀ {p : Parser} {A : List Value} {rest : List Frame} {pd fl : Nat}, Shape p A (s :: rest) buf pd fl →
      ∃ q, Parse.eatsP scan p cs = some q ∧ Shape q A (s' :: rest) buf' pd fl := by
  induction h with
  | nil s buf => intro p A rest pd fl hp; exact ⟨p, rfl, hp⟩
  | @cons s s1 s' buf buf1 buf' c cs f bs h e1 e2 _ ih =>
    intro p A rest pd fl hp
    subst e1 e2
    have h1 := eatP_step scan hp c _ (step_upd (p := ⟨A, none, s :: rest, buf, _, _, pd, p.lookback, fl⟩) rfl (h rest.isEmpty)) rfl
    obtain ⟨q, hq, sq⟩ := ih (p := setLb ⟨A, none, f s :: rest, buf ++ bs, advL p.line p.lookback c, advC p.column c, pd, p.lookback, fl⟩ c)
      (Shape.setLb (Shape.mk' ..) c)
    exact ⟨q, by simp [Parse.eatsP, h1, hq], sq⟩

theorem popstate_shape_inner {q0 : Parser} {A : List Value} {f F g : Frame} {R : List Frame} {b : List B} {pd fl : Nat} (v : Value)
    (h : Shape q0 A (f :: F :: g :: R) b pd fl) (hF : hasFlag F.flags PFLAG_CONTAINER = true) :
    Shape (popstate q0 v) (v.withSm f.line f.column :: A) (incArgn F :: g :: R) b pd fl := by
  rw [h.eq]
  refine ⟨?_, ?_, ?_, ?_, ?_, ?_⟩ <;> simp [popstate, popstateAux, hF, incArgn]

theorem popstate_shape_root {q0 : Parser} {A : List Value} {f F : Frame} {b : List B} {pd fl : Nat} (v : Value)
    (h : Shape q0 A [f, F] b pd fl) (hF : hasFlag F.flags PFLAG_CONTAINER = true) :
    Shape (popstate q0 v) (Value.tuple false f.line f.column [v.withSm f.line f.column] :: A) [incArgn F] b (pd + 1) fl := by
  rw [h.eq]
  refine ⟨?_, ?_, ?_, ?_, ?_, ?_⟩ <;> simp [popstate, popstateAux, hF, incArgn]

section
variable (scan : List B → Option String)

theorem tokP_first {p : Parser} {A : List Value} {top : Frame} {rest : List Frame} {pd fl : Nat} (c : B)
    (h : Shape p A (top :: rest) [] pd fl) (htop : top.consumer = .root) (hc : rootStartsToken c = true) :
    ∃ q l k, eatP scan p c = some q ∧ Shape q A (tokFrame l k (if c > 127 then 1 else 0) :: top :: rest) [c] pd fl := by
  rw [eatP_lift scan h, tok_first scan c rfl rfl rfl htop hc]
  exact ⟨_, _, _, rfl, Shape.setLb (Shape.mk' ..) c⟩

theorem tokP_end {p : Parser} {A : List Value} {R : List Frame} {T : List B} {pd fl l k na : Nat} (d : B) (v : Value)
    (h : Shape p A (tokFrame l k na :: R) T pd fl) (hd : isSymbolChar d = false)
    (hcl : classifyToken scan T (na != 0) = .ok v) :
    ∃ q0, Shape q0 A (tokFrame l k na :: R) [] pd fl ∧ eatP scan p d = eatP scan (popstate q0 v) d := by
  refine ⟨⟨A, none, tokFrame l k na :: R, [], p.line, p.column, pd, p.lookback, fl⟩, Shape.mk' .., ?_⟩
  rw [eatP_lift scan h, tok_end scan d v rfl rfl hd hcl]
  unfold eatP
  rw [advancePos_popstate, advancePos_rec]

end

section
variable (scan : List B → Option String)
variable {p : Parser} {A : List Value} {top : Frame} {rest : List Frame} {pd fl : Nat}

theorem spaceP (ch : B) (h : Shape p A (top :: rest) [] pd fl) (htop : top.consumer = .root) (hw : ch = 32 ∨ ch = 10) :
    ∃ q, eatP scan p ch = some q ∧ Shape q A (top :: rest) [] pd fl := by
  obtain ⟨q, _, _, hq, hs⟩ := eatP_stepS scan h ch A (fun _ _ => top :: rest) [] pd (by
    intro l c lb
    rcases hw with rfl | rfl <;> simp [step, root, htop, isWhitespace] <;> decide)
  exact ⟨q, hq, hs⟩

def openFlags (ch : B) : Nat :=
  if ch == 40 then PFLAG_CONTAINER ||| PFLAG_PARENS else if ch == 91 then PFLAG_CONTAINER ||| PFLAG_SQRBRACKETS
  else PFLAG_CONTAINER ||| PFLAG_CURLYBRACKETS

def atFrame (l k : Nat) : Frame := ⟨0, 0, PFLAG_ATSYM, l, k, .atsign⟩

theorem atP (h : Shape p A (top :: rest) [] pd fl) (htop : top.consumer = .root) :
    ∃ q l k, eatP scan p 64 = some q ∧ Shape q A (atFrame l k :: top :: rest) [] pd fl := by
  exact eatP_stepS scan h 64 A (fun l k => atFrame l k :: top :: rest) [] pd (by
    intro l c lb
    simp [step, root, htop, pushstate, atFrame])

def atOpenFlags (ch : B) : Nat :=
  if ch == 91 then PFLAG_CONTAINER ||| PFLAG_SQRBRACKETS ||| PFLAG_ATSYM else PFLAG_CONTAINER ||| PFLAG_CURLYBRACKETS ||| PFLAG_ATSYM

/-- the text `pre`, fed where a value may start, opens a fresh container frame with flags `F` -/
def Opens (pre : List B) (F : Nat) : Prop :=
  ∀ {p : Parser} {A : List Value} {top : Frame} {rest : List Frame} {pd fl : Nat}, Shape p A (top :: rest) [] pd fl →
    top.consumer = .root → ∃ q l k, eatsP scan p pre = some q ∧ Shape q A (⟨0, 0, F, l, k, .root⟩ :: top :: rest) [] pd fl

theorem opens (ch : B) (hch : ch = 40 ∨ ch = 91 ∨ ch = 123) : Opens scan [ch] (openFlags ch) := by
  intro p A top rest pd fl h htop
  rw [eatsP_single]
  exact eatP_stepS scan h ch A (fun l k => ⟨0, 0, openFlags ch, l, k, .root⟩ :: top :: rest) [] pd (by
    intro l c lb
    rcases hch with rfl | rfl | rfl <;> simp [step, root, htop, pushstate, openFlags])

theorem opens_at (ch : B) (hch : ch = 91 ∨ ch = 123) : Opens scan [64, ch] (atOpenFlags ch) := by
  intro p A top rest pd fl h htop
  obtain ⟨qa, la, ka, ha, sa⟩ := atP scan h htop
  obtain ⟨q, l, k, h1, s1⟩ := eatP_stepS scan sa ch A (fun l k => ⟨0, 0, atOpenFlags ch, l, k, .root⟩ :: top :: rest) [] pd (by
    intro l c lb
    rcases hch with rfl | rfl <;> simp [step, atsign, atFrame, pushstate, atOpenFlags])
  exact ⟨q, l, k, by simp [eatsP, ha, h1], s1⟩

end

/-- what `close_tuple` / `close_array` / `close_struct` / `close_table` build from the arguments of the frame -/
def closeValue (F : Frame) (ch : B) (items : List Value) : Value :=
  if ch == 125 then
    (if hasFlag F.flags PFLAG_ATSYM then
      Value.table (buildDict tablePut items ([], [])).1 (buildDict tablePut items ([], [])).2
     else Value.struct (buildDict structPut items ([], [])).1 (buildDict structPut items ([], [])).2)
  else (if hasFlag F.flags PFLAG_ATSYM then Value.array items else Value.tuple (ch == 93) 0 0 items)

def closesF (flags : Nat) (ch : B) : Bool :=
  (ch == 41 && hasFlag flags PFLAG_PARENS) || (ch == 93 && hasFlag flags PFLAG_SQRBRACKETS) ||
  (ch == 125 && hasFlag flags PFLAG_CURLYBRACKETS)

/-- does the closing delimiter `ch` match the container frame `F` (the tests of `root` in parse.c)? -/
def closes (F : Frame) (ch : B) : Bool := closesF F.flags ch

theorem step_close (scan : List B → Option String) {p : Parser} {items A : List Value} {F g : Frame} {R : List Frame} (ch : B)
    (hs : p.states = F :: g :: R) (ha : p.args = items.reverse ++ A) (hroot : F.consumer = .root) (hn : F.argn = items.length)
    (hev : ch = 125 → items.length % 2 = 0) (hch : closes F ch = true) :
    step scan p ch = (popstate { p with args := A } (closeValue F ch items), true) := by
  unfold closes closesF at hch
  simp only [Bool.or_eq_true, Bool.and_eq_true, beq_iff_eq] at hch
  have e1 : takeArgs p F.argn = (items, { p with args := A }) := by
    simp [takeArgs, ha, hn, List.take_left', List.drop_left']
  rcases hch with (⟨rfl, hf⟩ | ⟨rfl, hf⟩) | ⟨rfl, hf⟩
  · simp [step, hs, hroot, root, closeDelim, hf, e1, closeValue]
  · simp [step, hs, hroot, root, closeDelim, hf, e1, closeValue]
  · have hodd : (F.argn % 2 == 1) = false := by rw [hn, hev rfl]; rfl
    simp only [step, hs, hroot, root, closeDelim]
    simp [hs, hf, e1, closeValue, hodd]

theorem closeP (scan : List B → Option String) {p : Parser} {A items : List Value} {F g : Frame} {R : List Frame} {pd fl : Nat} (ch : B)
    (h : Shape p (items.reverse ++ A) (F :: g :: R) [] pd fl) (hroot : F.consumer = .root) (hn : F.argn = items.length)
    (hev : ch = 125 → items.length % 2 = 0) (hch : closes F ch = true) :
    ∃ q0, Shape q0 A (F :: g :: R) [] pd fl ∧ eatP scan p ch = some (popstate q0 (closeValue F ch items)) := by
  refine ⟨setLb ⟨A, none, F :: g :: R, [], advL p.line p.lookback ch, advC p.column ch, pd, p.lookback, fl⟩ ch, Shape.setLb (Shape.mk' ..) ch, ?_⟩
  rw [← setLb_popstate]
  exact eatP_step scan h ch _ (step_close scan ch rfl rfl hroot hn hev hch) (by simp)

end JanetModel.Parse
