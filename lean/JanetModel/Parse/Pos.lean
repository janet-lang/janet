/- `step` never writes line / column / lookback; flag and error discipline through `consume`; positions after `feed` (`feed_pos`). -/
import JanetModel.Parse.Model
import JanetModel.Parse.Lemmas

namespace JanetModel.Parse
open JanetModel.Gen.Parse

def SamePos (p q : Parser) : Prop := q.line = p.line ∧ q.column = p.column ∧ q.lookback = p.lookback

theorem SamePos.rfl' (p : Parser) : SamePos p p := ⟨rfl, rfl, rfl⟩
theorem SamePos.trans {p q r : Parser} (h1 : SamePos p q) (h2 : SamePos q r) : SamePos p r :=
  ⟨h2.1.trans h1.1, h2.2.1.trans h1.2.1, h2.2.2.trans h1.2.2⟩

@[simp] theorem popstate_line (p : Parser) (v : Value) : (popstate p v).line = p.line := by simp [popstate]
@[simp] theorem popstate_column (p : Parser) (v : Value) : (popstate p v).column = p.column := by simp [popstate]
@[simp] theorem popstate_lookback (p : Parser) (v : Value) : (popstate p v).lookback = p.lookback := by simp [popstate]
@[simp] theorem popstate_flag (p : Parser) (v : Value) : (popstate p v).flag = p.flag := by simp [popstate]
@[simp] theorem popstate_error (p : Parser) (v : Value) : (popstate p v).error = p.error := by simp [popstate]
@[simp] theorem pushstate_line (p : Parser) (k : Consumer) (f : Nat) : (pushstate p k f).line = p.line := rfl
@[simp] theorem pushstate_column (p : Parser) (k : Consumer) (f : Nat) : (pushstate p k f).column = p.column := rfl
@[simp] theorem pushstate_lookback (p : Parser) (k : Consumer) (f : Nat) : (pushstate p k f).lookback = p.lookback := rfl
@[simp] theorem pushstate_flag (p : Parser) (k : Consumer) (f : Nat) : (pushstate p k f).flag = p.flag := rfl
@[simp] theorem pushstate_error (p : Parser) (k : Consumer) (f : Nat) : (pushstate p k f).error = p.error := rfl
@[simp] theorem pushBuf_line (p : Parser) (c : B) : (pushBuf p c).line = p.line := rfl
@[simp] theorem pushBuf_column (p : Parser) (c : B) : (pushBuf p c).column = p.column := rfl
@[simp] theorem pushBuf_lookback (p : Parser) (c : B) : (pushBuf p c).lookback = p.lookback := rfl
@[simp] theorem pushBuf_flag (p : Parser) (c : B) : (pushBuf p c).flag = p.flag := rfl
@[simp] theorem pushBuf_error (p : Parser) (c : B) : (pushBuf p c).error = p.error := rfl
@[simp] theorem setTop_line (p : Parser) (f : Frame → Frame) : (setTop p f).line = p.line := by unfold setTop; split <;> rfl
@[simp] theorem setTop_column (p : Parser) (f : Frame → Frame) : (setTop p f).column = p.column := by unfold setTop; split <;> rfl
@[simp] theorem setTop_lookback (p : Parser) (f : Frame → Frame) : (setTop p f).lookback = p.lookback := by unfold setTop; split <;> rfl
@[simp] theorem setTop_flag (p : Parser) (f : Frame → Frame) : (setTop p f).flag = p.flag := by unfold setTop; split <;> rfl
@[simp] theorem setTop_error (p : Parser) (f : Frame → Frame) : (setTop p f).error = p.error := by unfold setTop; split <;> rfl
@[simp] theorem delimError_line (p : Parser) (i : Nat) (c : Option B) (m : String) : (delimError p i c m).line = p.line := rfl
@[simp] theorem delimError_column (p : Parser) (i : Nat) (c : Option B) (m : String) : (delimError p i c m).column = p.column := rfl
@[simp] theorem delimError_lookback (p : Parser) (i : Nat) (c : Option B) (m : String) : (delimError p i c m).lookback = p.lookback := rfl
@[simp] theorem delimError_flag (p : Parser) (i : Nat) (c : Option B) (m : String) :
    (delimError p i c m).flag = p.flag ||| JANET_PARSER_GENERATED_ERROR := rfl
@[simp] theorem delimError_error (p : Parser) (i : Nat) (c : Option B) (m : String) : (delimError p i c m).error.isSome = true := rfl
@[simp] theorem stringend_line (p : Parser) (s : Frame) : (stringend p s).line = p.line := by simp [stringend]
@[simp] theorem stringend_column (p : Parser) (s : Frame) : (stringend p s).column = p.column := by simp [stringend]
@[simp] theorem stringend_lookback (p : Parser) (s : Frame) : (stringend p s).lookback = p.lookback := by simp [stringend]
@[simp] theorem stringend_flag (p : Parser) (s : Frame) : (stringend p s).flag = p.flag := by simp [stringend]
@[simp] theorem stringend_error (p : Parser) (s : Frame) : (stringend p s).error = p.error := by simp [stringend]

/-- what a step may do to the fields outside the stacks: positions untouched; the flag changes only together with a
    latched (generated) error -/
def Quiet (p q : Parser) : Prop :=
  SamePos p q ∧ (q.flag = p.flag ∨ (q.flag = p.flag ||| JANET_PARSER_GENERATED_ERROR ∧ q.error.isSome = true))

theorem quiet_of_fields {p q : Parser} (h1 : q.line = p.line) (h2 : q.column = p.column) (h3 : q.lookback = p.lookback)
    (h4 : q.flag = p.flag) : Quiet p q := ⟨⟨h1, h2, h3⟩, Or.inl h4⟩

theorem Act.run_quiet (a : Act) (p : Parser) : Quiet p (a.run p) := by
  cases a
  case delim c msg => exact ⟨⟨rfl, rfl, rfl⟩, Or.inr ⟨rfl, rfl⟩⟩
  all_goals (apply quiet_of_fields <;> simp [Act.run, takeArgs])

theorem quiet_step (scan : List B → Option String) (p : Parser) (c : B) : Quiet p (step scan p c).1 := by
  cases hs : p.states with
  | nil => rw [step_nil scan c hs]; exact ⟨⟨rfl, rfl, rfl⟩, Or.inl rfl⟩
  | cons s rest => rw [step_act scan p s rest c hs]; exact Act.run_quiet _ p

theorem quiet_consumeLoop (scan : List B → Option String) (c : B) (fuel : Nat) (p q : Parser)
    (h : consumeLoop scan fuel p c = some q) : Quiet p q := by
  refine consumeLoop_inv (P := Quiet p) scan c (fun r he hr => ?_) fuel p q ⟨⟨rfl, rfl, rfl⟩, Or.inl rfl⟩ h
  -- `r` has no latched error, so its flag is still that of `p`
  obtain ⟨hpos, hf | ⟨-, hes⟩⟩ := hr
  · obtain ⟨hpos', hf'⟩ := quiet_step scan r c
    exact ⟨hpos.trans hpos', by rw [hf] at hf'; exact hf'⟩
  · rw [he] at hes; cases hes

/-- line / column / lookback as a fold of the CR/LF rule over the bytes alone -/
def posStep (s : Nat × Nat × Int) (c : B) : Nat × Nat × Int :=
  if c == 13 then (s.1 + 1, 0, Int.ofNat c.toNat)
  else if c == 10 then ((if s.2.2 != 13 then s.1 + 1 else s.1), 0, Int.ofNat c.toNat)
  else (s.1, s.2.1 + 1, Int.ofNat c.toNat)

def posOf (p : Parser) : Nat × Nat × Int := (p.line, p.column, p.lookback)

theorem consumeRaw_pos (scan : List B → Option String) (p : Parser) (c : B) :
    posOf (consumeRaw scan p c) = posStep (posOf p) c ∧
    ((consumeRaw scan p c).flag = p.flag ∨ ((consumeRaw scan p c).flag = p.flag ||| JANET_PARSER_GENERATED_ERROR ∧ (consumeRaw scan p c).error.isSome = true)) := by
  obtain ⟨q, hl, key⟩ := consumeRaw_eq scan p c
  rw [key]
  obtain ⟨⟨h1, h2, _⟩, hf⟩ := quiet_consumeLoop scan c _ _ _ hl
  have hflag : (advancePos p c).flag = p.flag := advancePos_flag p c
  constructor
  · unfold posOf posStep
    simp only [h1, h2, advancePos_eq, advL, advC]
    split
    · rfl
    · split <;> rfl
  · simpa [hflag] using hf

theorem produce_fields (p : Parser) :
    (produce p).2.line = p.line ∧ (produce p).2.column = p.column ∧ (produce p).2.lookback = p.lookback ∧
    (produce p).2.error = p.error ∧ (produce p).2.flag = p.flag ∧ (produce p).2.buf = p.buf := by
  unfold produce produceWrapped
  by_cases h : (p.pending == 0) = true
  · simp [h]
  · simp only [h]
    cases hr : p.args.reverse with
    | nil => simp
    | cons v rest => simp

theorem drainAux_fields : ∀ (n : Nat) (p : Parser) (acc : List Event),
    (drainAux n p acc).1.line = p.line ∧ (drainAux n p acc).1.column = p.column ∧ (drainAux n p acc).1.lookback = p.lookback ∧
    (drainAux n p acc).1.error = p.error ∧ (drainAux n p acc).1.flag = p.flag := by
  intro n
  induction n with
  | zero => intro p acc; simp [drainAux]
  | succ k ih =>
    intro p acc
    unfold drainAux
    have hp := produce_fields p
    cases hpr : produce p with
    | mk ov p' =>
      rw [hpr] at hp
      cases ov with
      | none => simpa using ⟨hp.1, hp.2.1, hp.2.2.1, hp.2.2.2.1, hp.2.2.2.2.1⟩
      | some v =>
        have := ih p' (acc ++ [.value v])
        simp only at hp ⊢
        exact ⟨this.1.trans hp.1, this.2.1.trans hp.2.1, this.2.2.1.trans hp.2.2.1, this.2.2.2.1.trans hp.2.2.2.1, this.2.2.2.2.trans hp.2.2.2.2.1⟩

theorem flag_clear_ok : (0 ||| JANET_PARSER_GENERATED_ERROR) &&& (0xFFFFFFFF ^^^ JANET_PARSER_GENERATED_ERROR) = 0 ∧
    (0 : Nat) &&& (0xFFFFFFFF ^^^ JANET_PARSER_GENERATED_ERROR) = 0 := by decide

/-- the state in which a client that follows the protocol always finds the parser between bytes -/
def Live (r : Run) : Prop := r.p.error = none ∧ r.p.flag = 0

theorem feedByte_pos (scan : List B → Option String) (r : Run) (c : B) (hl : Live r) :
    Live (feedByte scan r c) ∧ posOf (feedByte scan r c).p = posStep (posOf r.p) c := by
  obtain ⟨he, hf⟩ := hl
  have hcd := checkDead_none_of he hf
  obtain ⟨hpos, hflag⟩ := consumeRaw_pos scan r.p c
  unfold feedByte consume
  simp only [hcd]
  unfold handleError
  by_cases hes : (consumeRaw scan r.p c).error.isSome = true
  · simp only [hes, if_true]
    have hd := drainAux_fields (consumeRaw scan r.p c).pending (consumeRaw scan r.p c) r.out
    unfold drain
    simp only
    cases hde : (drainAux (consumeRaw scan r.p c).pending (consumeRaw scan r.p c) r.out) with
    | mk dp dout =>
      rw [hde] at hd
      simp only at hd
      obtain ⟨d1, d2, d3, d4, d5⟩ := hd
      cases hce : (consumeRaw scan r.p c).error with
      | none => rw [hce] at hes; simp at hes
      | some e =>
        have dpe : dp.error = some e := by rw [d4, hce]
        simp only [takeError, dpe]
        have dflag : dp.flag = 0 ∨ dp.flag = 0 ||| JANET_PARSER_GENERATED_ERROR := by
          rcases hflag with h | ⟨h, _⟩
          · left; rw [d5, h, hf]
          · right; rw [d5, h, hf]
        constructor
        · constructor
          · simp [flush]
          · simp only [flush]
            rcases dflag with h | h <;> rw [h]
            · exact flag_clear_ok.2
            · exact flag_clear_ok.1
        · rw [← hpos]
          simp [posOf, flush, d1, d2, d3]
  · simp only [hes]
    have hnone : (consumeRaw scan r.p c).error = none := by
      cases h : (consumeRaw scan r.p c).error with
      | none => rfl
      | some e => rw [h] at hes; simp at hes
    refine ⟨⟨hnone, ?_⟩, hpos⟩
    rcases hflag with h | ⟨_, h⟩
    · simp [h, hf]
    · exact absurd h hes

theorem feed_pos (scan : List B → Option String) (bs : List B) : ∀ r : Run, Live r →
    Live (feed scan r bs) ∧ posOf (feed scan r bs).p = bs.foldl posStep (posOf r.p) := by
  induction bs with
  | nil => intro r h; exact ⟨h, rfl⟩
  | cons c cs ih =>
    intro r h
    have h1 := feedByte_pos scan r c h
    have h2 := ih (feedByte scan r c) h1.1
    simp only [feed, List.foldl_cons] at h2 ⊢
    rw [← h1.2]
    exact h2

theorem checkDead_feed_init (scan : List B → Option String) (bs : List B) : checkDead (feed scan Run.init bs).p = none :=
  checkDead_none_of (feed_pos scan bs Run.init ⟨rfl, rfl⟩).1.1 (feed_pos scan bs Run.init ⟨rfl, rfl⟩).1.2

end JanetModel.Parse
