/- `%j` tokens read back by the consume loop (`eat`, no position update): the loop one iteration at a time, the delimiter
   look-ahead, and what `%j` prints for the atoms that are tokens. -/
import JanetModel.Parse.Model
import JanetModel.Parse.Lemmas
import JanetModel.Parse.Escape
import JanetModel.PP.Jdn

namespace JanetModel.Parse
open JanetModel.Gen.Parse JanetModel.PP

/-- one byte through the consume loop of `janet_parser_consume` (no position update): `none` if an error is or gets latched -/
def eat (scan : List B → Option String) (p : Parser) (c : B) : Option Parser :=
  if p.error.isSome then none
  else (consumeLoop scan (loopFuel p) p c).bind (fun q => if q.error.isSome then none else some q)

def eats (scan : List B → Option String) : Parser → List B → Option Parser
  | p, [] => some p
  | p, c :: cs => (eat scan p c).bind (fun q => eats scan q cs)

theorem eats_append (scan : List B → Option String) (p : Parser) (a b : List B) :
    eats scan p (a ++ b) = (eats scan p a).bind (fun q => eats scan q b) := by
  induction a generalizing p with
  | nil => simp [eats]
  | cons c cs ih =>
    simp only [List.cons_append, eats]
    cases eat scan p c with
    | none => simp
    | some q => simp [ih]

/-- the consume loop one iteration at a time, without fuel: a non-consuming call lowers `mu`, so what is left of this loop's fuel
    and the fuel of a fresh loop both suffice -/
theorem eat_eq (scan : List B → Option String) (p : Parser) (c : B) (he : p.error = none) :
    eat scan p c = if (step scan p c).2 then (if (step scan p c).1.error.isSome then none else some (step scan p c).1)
      else eat scan (step scan p c).1 c := by
  have hl : loopFuel p = (2 * p.states.length + 2) + 1 := rfl
  unfold eat
  rw [hl, consumeLoop]
  simp only [he, Option.isSome_none, Bool.false_eq_true, if_false]
  cases hk : (step scan p c).2 with
  | true => simp
  | false =>
    simp only [Bool.false_eq_true, if_false]
    cases hq : (step scan p c).1.error with
    | some e =>
      have : consumeLoop scan (2 * p.states.length + 1 + 1) (step scan p c).1 c = some (step scan p c).1 := by
        rw [consumeLoop]; simp [hq]
      simp [this, hq]
    | none =>
      simp only [Option.isSome_none, Bool.false_eq_true, if_false]
      rcases step_measure scan p c hk with h | h
      · rw [hq] at h; cases h
      · rw [consumeLoop_fuel scan _ c (f' := loopFuel (step scan p c).1) (by have := mu_le p c; omega)
          (by have := mu_le (step scan p c).1 c; unfold loopFuel; omega)]

theorem eat_of_step (scan : List B → Option String) (p : Parser) (c : B) (he : p.error = none)
    (hk : (step scan p c).2 = true) (he' : (step scan p c).1.error = none) : eat scan p c = some (step scan p c).1 := by
  rw [eat_eq scan p c he, hk, he']
  rfl

theorem eats_of_steps (scan : List B → Option String) : ∀ (bs : List B) (p q : Parser), p.error = none →
    steps scan p bs = some q → eats scan p bs = some q := by
  intro bs
  induction bs with
  | nil => intro p q _ h; simpa [steps, eats] using h
  | cons c cs ih =>
    intro p q he h
    simp only [steps] at h
    split at h
    · rename_i hc
      simp only [Bool.and_eq_true, Option.isNone_iff_eq_none] at hc
      simp only [eats, eat_of_step scan p c he hc.1 hc.2, Option.bind_some]
      exact ih _ _ hc.2 h
    · simp at h

theorem TopRun.eats {scan : List B → Option String} {s s' : Frame} {buf buf' : List B} {cs : List B} (h : TopRun scan s buf cs s' buf')
    {p : Parser} {rest : List Frame} (hs : p.states = s :: rest) (hb : p.buf = buf) (he : p.error = none) :
    eats scan p cs = some { p with states := s' :: rest, buf := buf' } :=
  eats_of_steps scan cs p _ he (h.steps hs hb he)

/-- a byte at which `root` starts a token directly (every symbol character except `@`, which goes through `atsign`) -/
def rootStartsToken (c : B) : Bool := isSymbolChar c && c != 64

/-- the bytes `root` acts on before it looks at the symbol-character table (`@` apart), the whitespace last -/
def rootSpecial : List B := [39, 44, 59, 126, 124, 34, 35, 96, 41, 93, 125, 40, 91, 123] ++ [0, 9, 10, 11, 12, 13, 32]

theorem rootSpecial_not_symchar : ∀ b ∈ rootSpecial, isSymbolChar b = false := by decide

theorem isWhitespace_iff (c : B) : isWhitespace c = true ↔ c ∈ ([0, 9, 10, 11, 12, 13, 32] : List B) := by
  simp [isWhitespace, whitespace, ← UInt8.toNat_inj]

theorem root_token_start (p : Parser) (s : Frame) (c : B) (h : rootStartsToken c = true) :
    root p s c = (pushstate p .tokenchar PFLAG_TOKEN, false) := by
  simp only [rootStartsToken, Bool.and_eq_true, bne_iff_ne] at h
  have hn : c ∉ rootSpecial := fun hm => by rw [rootSpecial_not_symchar c hm] at h; cases h.1
  have hw : isWhitespace c = false := by
    rw [Bool.eq_false_iff, Ne, isWhitespace_iff]
    exact fun hm => hn (List.mem_append_right _ hm)
  simp only [rootSpecial, List.mem_append, List.mem_cons, List.not_mem_nil, or_false, not_or] at hn
  unfold root
  simp [hn, hw, h.1, h.2]

def tokFrame (line column na : Nat) : Frame := ⟨0, na, PFLAG_TOKEN, line, column, .tokenchar⟩

/-- the non-ASCII marker `state->argn` after the token bytes `cs` -/
def naAcc (na : Nat) (cs : List B) : Nat := cs.foldl (fun a c => if c > 127 then 1 else a) na

/-- a token frame takes every symbol character; `argn` remembers whether one was not ASCII -/
theorem act_token {scan : List B → Option String} (l k na : Nat) (buf : List B) (c : B) (hc : isSymbolChar c = true) (single : Bool) :
    Act.of scan (tokFrame l k na) buf single c = (.upd (if c > 127 then fun s => { s with argn := 1 } else id) [c], true) := by
  simp only [Act.of, tokFrame, tokencharAct, hc, if_true]
  split <;> rfl

theorem tokFrame_more (l k na : Nat) (c : B) :
    (if c > 127 then fun s => { s with argn := 1 } else id) (tokFrame l k na) = tokFrame l k (if c > 127 then 1 else na) := by
  split <;> rfl

theorem topRun_token {scan : List B → Option String} (l k : Nat) : ∀ (cs buf : List B) (na : Nat), cs.all isSymbolChar = true →
    TopRun scan (tokFrame l k na) buf cs (tokFrame l k (naAcc na cs)) (buf ++ cs) := by
  intro cs
  induction cs with
  | nil => intro buf na _; simpa [naAcc] using TopRun.nil _ _
  | cons c cs ih =>
    intro buf na h
    simp only [List.all_cons, Bool.and_eq_true] at h
    have := ih (buf ++ [c]) (if c > 127 then 1 else na) h.2
    exact .cons _ [c] (act_token l k na buf c h.1) (tokFrame_more l k na c) rfl (by simpa [naAcc] using this)

section
variable (scan : List B → Option String) {p : Parser}

/-- first byte of a token at a place where a value may start: `root` pushes a token frame without consuming, `tokenchar` takes the byte -/
theorem tok_first {top : Frame} {rest : List Frame} (c : B) (hs : p.states = top :: rest) (hb : p.buf = []) (he : p.error = none)
    (htop : top.consumer = .root) (hc : rootStartsToken c = true) :
    eat scan p c = some { p with states := tokFrame p.line p.column (if c > 127 then 1 else 0) :: top :: rest, buf := [c] } := by
  have hsym : isSymbolChar c = true := by
    unfold rootStartsToken at hc; simp only [Bool.and_eq_true] at hc; exact hc.1
  have h1 : step scan p c = (pushstate p .tokenchar PFLAG_TOKEN, false) := by
    simp only [step, hs, htop, root_token_start _ top c hc]
  have h2 := step_upd (scan := scan) (p := pushstate p .tokenchar PFLAG_TOKEN) (s := tokFrame p.line p.column 0) (rest := top :: rest)
    (by simp [pushstate, hs, tokFrame]) (by rw [show (pushstate p .tokenchar PFLAG_TOKEN).buf = [] from hb]; exact act_token _ _ 0 [] c hsym _)
  rw [eat_eq scan p c he, h1]
  simp only [Bool.false_eq_true, if_false]
  rw [eat_of_step scan (pushstate p .tokenchar PFLAG_TOKEN) c he (by rw [h2]) (by rw [h2]; exact he), h2, tokFrame_more]
  simp [pushstate, hb]

/-- delimiter look-ahead: a byte that is not a symbol character finishes the token -- the classified value goes to `popstate` --
    and is then processed by whatever frame `popstate` uncovered, exactly as if it had arrived there directly -/
theorem tok_end {R : List Frame} {fl fc na : Nat} (d : B) (v : Value) (hs : p.states = tokFrame fl fc na :: R) (he : p.error = none)
    (hd : isSymbolChar d = false) (hcl : classifyToken scan p.buf (na != 0) = .ok v) :
    eat scan p d = eat scan (popstate { p with buf := [] } v) d := by
  have hst : step scan p d = (popstate { p with buf := [] } v, false) := by
    rw [step_act scan _ _ R d hs]
    simp [Act.of, tokFrame, tokencharAct, hd, hcl, Act.apply, Act.run]
  rw [eat_eq scan p d he, hst]
  rfl

/-- a token text `c :: cs` (first byte starts a token at `root`, all bytes symbol characters) followed by ANY delimiter `d`:
    the parser hands the classification of the text to `popstate` and continues with `d` in the uncovered frame -/
theorem token_roundtrip {top : Frame} {rest : List Frame} (c : B) (cs : List B) (d : B) (v : Value) (hs : p.states = top :: rest)
    (hb : p.buf = []) (he : p.error = none) (htop : top.consumer = .root) (hc : rootStartsToken c = true)
    (hcs : cs.all isSymbolChar = true) (hd : isSymbolChar d = false)
    (hcl : classifyToken scan (c :: cs) (naAcc (if c > 127 then 1 else 0) cs != 0) = .ok v) :
    eats scan p (c :: cs ++ [d]) =
      eat scan (popstate { p with states := tokFrame p.line p.column (naAcc (if c > 127 then 1 else 0) cs) :: top :: rest, buf := [] } v) d := by
  have hm := (topRun_token (scan := scan) p.line p.column cs [c] (if c > 127 then 1 else 0) hcs).eats
    (p := { p with states := tokFrame p.line p.column (if c > 127 then 1 else 0) :: top :: rest, buf := [c] }) rfl rfl he
  have hend := tok_end scan (na := naAcc (if c > 127 then 1 else 0) cs) (R := top :: rest)
    (p := { p with states := tokFrame p.line p.column (naAcc (if c > 127 then 1 else 0) cs) :: top :: rest, buf := [c] ++ cs }) d v rfl he hd hcl
  simp only [List.cons_append, eats, tok_first scan c hs hb he htop hc, Option.bind_some]
  rw [eats_append, hm]
  simp only [Option.bind_some, eats, List.singleton_append]
  exact Eq.trans (by simp) hend

end

theorem classify_keyword (scan : List B → Option String) (ks : List B) (na : Bool) (h : containsBadChars scan ks false = false) :
    classifyToken scan (58 :: ks) na = .ok (.kw ks) := by
  have hv : validUtf8 ks = true := by
    unfold containsBadChars at h
    simp only [Bool.or_eq_false_iff] at h
    simpa using h.1.2
  simp [classifyToken, hv]

theorem classify_nil (scan : List B → Option String) (na : Bool) : classifyToken scan nilBytes na = .ok .nil := by
  simp [classifyToken, nilBytes, isConst]
theorem classify_true (scan : List B → Option String) (na : Bool) : classifyToken scan trueBytes na = .ok (.bool true) := by
  simp [classifyToken, nilBytes, trueBytes, falseBytes, isConst]
theorem classify_false (scan : List B → Option String) (na : Bool) : classifyToken scan falseBytes na = .ok (.bool false) := by
  simp [classifyToken, nilBytes, falseBytes, isConst]

/-- number text: whatever the printer emits for a number tag reads back as that number, PROVIDED the scanner inverts the
    formatter on it (C13: `scan (print17 x) = x`) and the text looks like a number token -/
theorem classify_number (scan : List B → Option String) (t : List B) (tag : String) (na : Bool)
    (hscan : scan t = some tag)
    (hstart : (48 ≤ (t.headD 0).toNat && (t.headD 0).toNat ≤ 57 || t.headD 0 == 45 || t.headD 0 == 43 || t.headD 0 == 46) = true)
    (hcolon : (t.headD 0 == 58) = false) :
    classifyToken scan t na = .ok (.num tag) := by
  unfold classifyToken
  simp only [hcolon, Bool.false_eq_true, if_false, hstart, if_true, hscan]

/-- symbols that the printer accepts (`Gen.ppRefusesMisreadSymbols`) read back as themselves -/
theorem classify_symbol (scan : List B → Option String) (bs : List B) (na : Bool) (h : containsBadChars scan bs true = false) :
    classifyToken scan bs na = .ok (.sym bs) := by
  have hfix : ppRefusesMisreadSymbols = true := by decide
  unfold containsBadChars at h
  simp only [hfix, Bool.true_and, if_true, Bool.or_eq_false_iff, Bool.and_eq_false_imp] at h
  obtain ⟨⟨⟨hextra, hdig⟩, hutf⟩, _⟩ := h
  obtain ⟨⟨⟨⟨⟨hne, hcolon⟩, hnil⟩, htrue⟩, hfalse⟩, hnum⟩ := hextra
  have hv : validUtf8 bs = true := by simpa using hutf
  have hne' : bs.isEmpty = false := hne
  have hdig' : (48 ≤ (bs.headD 0).toNat && (bs.headD 0).toNat ≤ 57) = false := by
    cases hb : bs with
    | nil => simp [hb] at hne'
    | cons b t =>
      rw [hb] at hdig
      simpa using hdig
  unfold classifyToken
  simp only [hcolon, Bool.false_eq_true, if_false, hdig', Bool.false_or]
  by_cases hs : ((bs.headD 0 == 45 || bs.headD 0 == 43 || bs.headD 0 == 46) = true)
  · have hsc : scan bs = none := by
      have := hnum hs
      simpa using this
    simp [hs, hsc, hnil, htrue, hfalse, hv]
  · have hs' : ¬((bs.head?.getD 0 = 45 ∨ bs.head?.getD 0 = 43) ∨ bs.head?.getD 0 = 46) := by simpa using hs
    simp [hs', hnil, htrue, hfalse, hv]

theorem containsBadChars_all {scan : List B → Option String} {bs : List B} {issym : Bool} (h : containsBadChars scan bs issym = false) :
    bs.all isSymbolChar = true := by
  unfold containsBadChars at h
  simp only [Bool.or_eq_false_iff] at h
  simpa using h.2

section
variable {scan : List B → Option String} {fmt : String → Option (List B)} {depth : Nat} {T : List B}

/-- a printed keyword is `:` and its bytes, a token text that `tokenchar` classifies as that keyword -/
theorem jdn_kw_inv {ks : List B} (hj : jdn scan fmt (depth + 1) (.kw ks) = some T) :
    T = 58 :: ks ∧ ks.all isSymbolChar = true ∧ ∀ na, classifyToken scan (58 :: ks) na = .ok (.kw ks) := by
  have hbad : containsBadChars scan ks false = false := by
    cases h : containsBadChars scan ks false with
    | false => rfl
    | true => simp [jdn, h] at hj
  exact ⟨by simp [jdn, hbad] at hj; exact hj.symm, containsBadChars_all hbad, fun na => classify_keyword scan ks na hbad⟩

/-- a printed symbol is its (non-empty) bytes, a token text that `tokenchar` classifies as that symbol -/
theorem jdn_sym_inv {bs : List B} (hj : jdn scan fmt (depth + 1) (.sym bs) = some T) :
    T = bs ∧ bs ≠ [] ∧ bs.all isSymbolChar = true ∧ ∀ na, classifyToken scan bs na = .ok (.sym bs) := by
  have hbad : containsBadChars scan bs true = false := by
    cases h : containsBadChars scan bs true with
    | false => rfl
    | true => simp [jdn, h] at hj
  have hfix : ppRefusesMisreadSymbols = true := by decide
  refine ⟨by simp [jdn, hbad] at hj; exact hj.symm, ?_, containsBadChars_all hbad, fun na => classify_symbol scan bs na hbad⟩
  intro e
  subst e
  simp [containsBadChars, hfix] at hbad

end

end JanetModel.Parse
