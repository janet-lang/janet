/- `%j` atoms read back through `janet_parser_consume` (positions updated on every byte).  `ReadsPop scan v T`: the text `T`, fed
   wherever a value may start, hands `v` to `popstate`.  One lemma per kind of atom: strings, buffers, tokens (constants, keywords,
   symbols, numbers), tokens that start with `@` (they go through the `atsign` frame). -/
import JanetModel.Parse.ReadBack

namespace JanetModel.Parse
open JanetModel.Gen.Parse JanetModel.PP

/-- bytes after which `atsign` opens a table / buffer / array / tuple instead of starting a symbol -/
def atOpens (x : B) : Bool := x == 123 || x == 34 || x == 96 || x == 91 || x == 40

/-- bytes that follow a value in `%j` text: space, a closing delimiter, or the newline `janet_parser_eof` feeds -/
def isDelim (d : B) : Bool := d == 32 || d == 41 || d == 93 || d == 125 || d == 10

theorem delim_facts (d : B) (h : isDelim d = true) : isSymbolChar d = false ∧ atOpens d = false := by
  unfold isDelim at h
  simp only [Bool.or_eq_true, beq_iff_eq] at h
  rcases h with (((rfl | rfl) | rfl) | rfl) | rfl <;> decide

/-- `T` followed by any delimiter `d`, fed where a value may start (top frame handled by `root`): some value equal to `v` up to
    source maps is handed to `popstate`, with the frames below untouched, and `d` is then processed -/
def ReadsPop (scan : List B → Option String) (v : Value) (T : List B) : Prop :=
  ∀ (p : Parser) (A : List Value) (top : Frame) (rest : List Frame) (pd fl : Nat) (d : B),
    Shape p A (top :: rest) [] pd fl → top.consumer = .root → isDelim d = true →
    ∃ v' q0 f, v'.erase = v.erase ∧ Shape q0 A (f :: top :: rest) [] pd fl ∧
      eatsP scan p (T ++ [d]) = eatP scan (popstate q0 v') d

section
variable (scan : List B → Option String)
variable {p : Parser} {A : List Value} {rest : List Frame} {pd fl : Nat} (s : Frame)

theorem strP_finish {buf : List B} {cnt an : Nat} (h : Shape p A (strFrame s cnt an .stringchar :: rest) buf pd fl)
    (hl : hasFlag s.flags PFLAG_LONGSTRING = false) :
    ∃ q0, Shape q0 A (strFrame s cnt an .stringchar :: rest) [] pd fl ∧
      eatP scan p 34 = some (popstate q0 (if hasFlag s.flags PFLAG_BUFFER then Value.buf buf else Value.str buf)) := by
  refine ⟨setLb ⟨A, none, strFrame s cnt an .stringchar :: rest, [], advL p.line p.lookback 34, advC p.column 34, pd, p.lookback, fl⟩ 34,
    Shape.setLb (Shape.mk' ..) 34, ?_⟩
  rw [← setLb_popstate]
  refine eatP_step scan h 34 _ ?_ (by simp)
  simp [step, strFrame, stringchar, stringend, hl]

/-- a freshly opened string frame (`"` or `@"`: flags `F` without LONGSTRING): the printed body and the closing quote hand exactly
    the bytes to `popstate` -/
theorem strP_read (F l k : Nat) (bs : List B) (h : Shape p A (strFrame ⟨0, 0, F, l, k, .stringchar⟩ 0 0 .stringchar :: rest) [] pd fl)
    (hl : hasFlag F PFLAG_LONGSTRING = false) :
    ∃ q0 f, Shape q0 A (f :: rest) [] pd fl ∧
      eatsP scan p (escapeBody bs ++ [34]) = some (popstate q0 (if hasFlag F PFLAG_BUFFER then Value.buf bs else Value.str bs)) := by
  obtain ⟨c, a, t⟩ := topRun_escapeBody (scan := scan) ⟨0, 0, F, l, k, .stringchar⟩ bs [] 0 0
  obtain ⟨q2, h2, s2⟩ := t.eatsP h
  obtain ⟨q0, s0, h3⟩ := strP_finish scan _ s2 hl
  exact ⟨q0, _, s0, by rw [eatsP_snoc scan p q2 _ 34 h2, h3]; rfl⟩

end

section
variable (scan : List B → Option String)

theorem reads_string (bs : List B) : ReadsPop scan (.str bs) (escapeString bs) := by
  intro p A top rest pd fl d h htop _
  obtain ⟨q1, l, k, h1, s1⟩ := eatP_stepS scan h 34 A (fun l k => strFrame ⟨0, 0, PFLAG_STRING, l, k, .stringchar⟩ 0 0 .stringchar :: top :: rest) [] pd
    (by intro l c lb; simp [step, htop, root, pushstate, strFrame])
  obtain ⟨q0, f, s0, h2⟩ := strP_read scan PFLAG_STRING l k bs s1 (by decide)
  refine ⟨.str bs, q0, f, rfl, s0, eatsP_snoc scan p _ _ d ?_⟩
  rw [escapeString_eq]
  simp only [eatsP, h1, Option.bind_some]
  exact h2

theorem reads_buffer (bs : List B) : ReadsPop scan (.buf bs) (64 :: escapeString bs) := by
  intro p A top rest pd fl d h htop _
  obtain ⟨qa, la, ka, ha, sa⟩ := atP scan h htop
  obtain ⟨q1, l, k, h1, s1⟩ := eatP_stepS scan sa 34 A
    (fun l k => strFrame ⟨0, 0, PFLAG_BUFFER ||| PFLAG_STRING, l, k, .stringchar⟩ 0 0 .stringchar :: top :: rest) [] pd
    (by intro l c lb; simp [step, atsign, atFrame, pushstate, strFrame])
  obtain ⟨q0, f, s0, h2⟩ := strP_read scan (PFLAG_BUFFER ||| PFLAG_STRING) l k bs s1 (by decide)
  refine ⟨.buf bs, q0, f, rfl, s0, eatsP_snoc scan p _ _ d ?_⟩
  rw [escapeString_eq]
  simp only [eatsP, ha, h1, Option.bind_some]
  exact h2

/-- a token text `c :: cs`: its classification is handed to `popstate` (with the token frame still on the stack) -/
theorem reads_token (c : B) (cs : List B) (v : Value) (hc : rootStartsToken c = true) (hcs : cs.all isSymbolChar = true)
    (hcl : ∀ na, classifyToken scan (c :: cs) na = .ok v) : ReadsPop scan v (c :: cs) := by
  intro p A top rest pd fl d h htop hd
  obtain ⟨q1, l, k, h1, s1⟩ := tokP_first scan c h htop hc
  obtain ⟨q2, h2, s2⟩ := (topRun_token (scan := scan) _ _ cs [c] _ hcs).eatsP s1
  obtain ⟨q0, s0, h3⟩ := tokP_end scan d v s2 (delim_facts d hd).1 (hcl _)
  refine ⟨v, q0, _, rfl, s0, ?_⟩
  have : eatsP scan p (c :: cs) = some q2 := by simp [eatsP, h1, h2]
  rw [show c :: cs ++ [d] = (c :: cs) ++ [d] from rfl, eatsP_snoc scan p q2 _ d this, h3]

end

/-- after `@`, a byte that opens nothing: the `atsign` frame is replaced by a token frame holding `@`, and the byte is
    processed by `tokenchar` -/
theorem at_fall (scan : List B → Option String) {p : Parser} {R : List Frame} {l k : Nat} (x : B) (hs : p.states = atFrame l k :: R)
    (hb : p.buf = []) (he : p.error = none) (hx : atOpens x = false) :
    eat scan p x = eat scan { p with states := tokFrame p.line p.column 0 :: R, buf := [64] } x := by
  unfold atOpens at hx
  simp only [Bool.or_eq_false_iff] at hx
  obtain ⟨⟨⟨⟨x1, x2⟩, x3⟩, x4⟩, x5⟩ := hx
  have hst : step scan p x = ({ p with states := tokFrame p.line p.column 0 :: R, buf := [64] }, false) := by
    rw [step_act scan p _ R x hs]
    simp [Act.of, atFrame, atsignAct, x1, x2, x3, x4, x5, Act.apply, Act.run, pushstate, hs, hb, tokFrame]
  rw [eat_eq scan p x he, hst]
  rfl

theorem atP_fall (scan : List B → Option String) {p : Parser} {A : List Value} {top : Frame} {rest : List Frame} {pd fl l k : Nat} (x : B)
    (h : Shape p A (atFrame l k :: top :: rest) [] pd fl) (hx : atOpens x = false) :
    ∃ p' l' k', Shape p' A (tokFrame l' k' 0 :: top :: rest) [64] pd fl ∧ eatP scan p x = eatP scan p' x := by
  refine ⟨⟨A, none, tokFrame (advL p.line p.lookback x) (advC p.column x) 0 :: top :: rest, [64], p.line, p.column, pd, p.lookback, fl⟩, _, _,
    Shape.mk' .., ?_⟩
  rw [eatP_lift scan h, at_fall scan x rfl rfl rfl hx]
  unfold eatP
  rw [advancePos_rec]

/-- the bytes that open something after `@` are among those `root` acts on: none is a symbol character -/
theorem atOpens_of_symchar (x : B) (h : isSymbolChar x = true) : atOpens x = false := by
  rw [Bool.eq_false_iff]
  intro ho
  have hm : x ∈ rootSpecial := by
    simp only [atOpens, Bool.or_eq_true, beq_iff_eq] at ho
    rcases ho with (((rfl | rfl) | rfl) | rfl) | rfl <;> decide
  rw [rootSpecial_not_symchar x hm] at h
  cases h

/-- a token text that starts with `@` -/
theorem reads_at_token (scan : List B → Option String) (cs : List B) (v : Value) (hcs : cs.all isSymbolChar = true)
    (hcl : ∀ na, classifyToken scan (64 :: cs) na = .ok v) : ReadsPop scan v (64 :: cs) := by
  intro p A top rest pd fl d h htop hdel
  obtain ⟨hd, hdo⟩ := delim_facts d hdel
  obtain ⟨qa, la, ka, ha, sa⟩ := atP scan h htop
  -- the first byte after `@`
  have hy : ∃ y ys, cs ++ [d] = y :: ys ∧ atOpens y = false := by
    cases cs with
    | nil => exact ⟨d, [], rfl, hdo⟩
    | cons c cs' =>
      simp only [List.all_cons, Bool.and_eq_true] at hcs
      exact ⟨c, cs' ++ [d], rfl, atOpens_of_symchar c hcs.1⟩
  obtain ⟨y, ys, hyy, hyo⟩ := hy
  obtain ⟨p', l', k', s', hfall⟩ := atP_fall scan y sa hyo
  obtain ⟨q2, h2, s2⟩ := (topRun_token (scan := scan) _ _ cs [64] 0 hcs).eatsP s'
  obtain ⟨q0, s0, h3⟩ := tokP_end scan d v s2 hd (hcl _)
  refine ⟨v, q0, _, rfl, s0, ?_⟩
  have e1 : eatsP scan qa (cs ++ [d]) = eatsP scan p' (cs ++ [d]) := by
    rw [hyy]; simp only [eatsP, hfall]
  show eatsP scan p (64 :: (cs ++ [d])) = _
  simp only [eatsP, ha, Option.bind_some]
  rw [e1, eatsP_snoc scan p' q2 _ d h2, h3]

end JanetModel.Parse
