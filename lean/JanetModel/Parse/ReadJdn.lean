/- `reads_pop`: by induction on the printer's depth, every text `%j` prints reads back (up to source maps) wherever a value may
   start.  The lift to the client protocol (`jdn_parseAll`) is in `Parse/ReadAll.lean`. -/
import JanetModel.Parse.ReadValue

namespace JanetModel.Parse
open JanetModel.Gen.Parse JanetModel.PP

def jdnItems (scan : List B → Option String) (fmt : String → Option (List B)) (depth : Nat) (l : List Value) : Option (List B) :=
  (allSome (l.map (jdn scan fmt depth))).map (sepBy [32])

def pairOf (f : Value → Option (List B)) (kv : Value × Value) : Option (List B) :=
  match f kv.1, f kv.2 with
  | some a, some b => some (a ++ [32] ++ b)
  | _, _ => none

def jdnPairs (scan : List B → Option String) (fmt : String → Option (List B)) (depth : Nat) (ks vs : List Value) : Option (List B) :=
  (allSome ((ks.zip vs).map (pairOf (jdn scan fmt depth)))).map (sepBy [32])

section
variable (scan : List B → Option String) (fmt : String → Option (List B)) (depth : Nat)

theorem jdn_tuple (br : Bool) (l c : Nat) (items : List Value) :
    jdn scan fmt (depth + 1) (.tuple br l c items) =
      (jdnItems scan fmt depth items).map (fun s => [if br then 91 else 40] ++ s ++ [if br then 93 else 41]) := rfl
theorem jdn_array (items : List Value) :
    jdn scan fmt (depth + 1) (.array items) = (jdnItems scan fmt depth items).map (fun s => [64, 91] ++ s ++ [93]) := rfl
theorem jdn_struct (ks vs : List Value) :
    jdn scan fmt (depth + 1) (.struct ks vs) = (jdnPairs scan fmt depth ks vs).map (fun s => [123] ++ s ++ [125]) := rfl
theorem jdn_table (ks vs : List Value) :
    jdn scan fmt (depth + 1) (.table ks vs) = (jdnPairs scan fmt depth ks vs).map (fun s => [64, 123] ++ s ++ [125]) := rfl
end

theorem allSome_all2 (f : Value → Option (List B)) (P : Value → List B → Prop) : ∀ (l : List Value) (Ts : List (List B)),
    allSome (l.map f) = some Ts → (∀ v ∈ l, ∀ T, f v = some T → P v T) → All2 P l Ts := by
  intro l
  induction l with
  | nil => intro Ts h _; simp [allSome] at h; subst h; exact .nil
  | cons a l ih =>
    intro Ts h hp
    simp only [List.map_cons] at h
    cases hfa : f a with
    | none => simp [hfa, allSome] at h
    | some x =>
      simp only [hfa, allSome] at h
      cases hr : allSome (l.map f) with
      | none => simp [hr] at h
      | some Ts' =>
        simp only [hr, Option.map_some, Option.some.injEq] at h
        subst h
        exact .cons (hp a (List.mem_cons_self ..) x hfa) (ih Ts' hr (fun v hv => hp v (List.mem_cons_of_mem _ hv)))

theorem sepBy_eq_tl : ∀ Ts : List (List B), sepBy [32] Ts = (tl Ts).tail
  | [] => rfl
  | T :: Ts => by rw [sepBy_cons]; simp [tl]

theorem tl_pairs (f : Value → Option (List B)) : ∀ kvs : List (Value × Value),
    (allSome (kvs.map (pairOf f))).map tl = (allSome ((il kvs).map f)).map tl
  | [] => rfl
  | kv :: r => by
    have ih := tl_pairs f r
    simp only [List.map_cons, il, pairOf]
    cases f kv.1 with
    | none => simp [allSome]
    | some a =>
      cases f kv.2 with
      | none => simp [allSome]
      | some b =>
        simp only [allSome]
        cases h1 : allSome (r.map (pairOf f)) <;> cases h2 : allSome ((il r).map f) <;> simp [h1, h2] at ih ⊢
        simp only [tl, List.map_cons, List.flatten_cons] at ih ⊢
        simp [ih]

/-- a dictionary prints its pairs as a sequence prints the keys and values interleaved -/
theorem jdnPairs_eq (scan : List B → Option String) (fmt : String → Option (List B)) (depth : Nat) (ks vs : List Value) :
    jdnPairs scan fmt depth ks vs = jdnItems scan fmt depth (il (ks.zip vs)) := by
  have := congrArg (Option.map List.tail) (tl_pairs (jdn scan fmt depth) (ks.zip vs))
  simpa only [jdnPairs, jdnItems, Option.map_map, Function.comp_def, ← sepBy_eq_tl] using this

theorem mem_il_zip : ∀ {ks vs : List Value} {v : Value}, v ∈ il (ks.zip vs) → v ∈ ks ∨ v ∈ vs
  | [], _, _, h => by simp [il] at h
  | _ :: _, [], _, h => by simp [il] at h
  | k :: ks, w :: vs, v, h => by
    simp only [List.zip_cons_cons, il, List.mem_cons] at h ⊢
    rcases h with h | h | h
    · exact Or.inl (Or.inl h)
    · exact Or.inr (Or.inl h)
    · exact (mem_il_zip h).imp Or.inr Or.inr

theorem jdnItems_all2 {scan : List B → Option String} {fmt : String → Option (List B)} {depth : Nat} {items : List Value}
    {f : List B → List B} {T : List B} {P : Value → List B → Prop} (h : (jdnItems scan fmt depth items).map f = some T)
    (hp : ∀ v ∈ items, ∀ T', jdn scan fmt depth v = some T' → P v T') : ∃ Ts, T = f (sepBy [32] Ts) ∧ All2 P items Ts := by
  unfold jdnItems at h
  cases ha : allSome (items.map (jdn scan fmt depth)) with
  | none => simp [ha] at h
  | some Ts =>
    simp only [ha, Option.map_some, Option.some.injEq] at h
    exact ⟨Ts, h.symm, allSome_all2 _ _ items Ts ha hp⟩

section
variable (scan : List B → Option String)

theorem reads_tuple (br : Bool) (ln col : Nat) (items : List Value) (Ts : List (List B)) (hF : All2 (ReadsPop scan) items Ts) :
    ReadsPop scan (.tuple br ln col items) ([if br then 91 else 40] ++ sepBy [32] Ts ++ [if br then 93 else 41]) := by
  have h4 : ∀ ch ∈ ([40, 91] : List B), hasFlag (openFlags ch) PFLAG_ATSYM = false := by decide
  cases br with
  | false =>
    exact reads_container scan [40] (openFlags 40) 41 _ items Ts (opens scan 40 (Or.inl rfl)) (by decide) (by decide) (by decide) hF
      (by intro h; cases h) fun vs' _ _ hev => by simp [closeValue, h4 40, Value.erase, hev]
  | true =>
    exact reads_container scan [91] (openFlags 91) 93 _ items Ts (opens scan 91 (Or.inr (Or.inl rfl))) (by decide) (by decide) (by decide) hF
      (by intro h; cases h) fun vs' _ _ hev => by simp [closeValue, h4 91, Value.erase, hev]

theorem reads_array (items : List Value) (Ts : List (List B)) (hF : All2 (ReadsPop scan) items Ts) :
    ReadsPop scan (.array items) ([64, 91] ++ sepBy [32] Ts ++ [93]) := by
  have h4 : hasFlag (atOpenFlags 91) PFLAG_ATSYM = true := by decide
  exact reads_container scan [64, 91] (atOpenFlags 91) 93 _ items Ts (opens_at scan 91 (Or.inl rfl)) (by decide) (by decide) (by decide) hF
    (by intro h; cases h) fun vs' _ _ hev => by simp [closeValue, h4, Value.erase, hev]

theorem reads_struct (ks vs : List Value) (hok : keysOK ks vs = true) (Ts : List (List B)) (hF : All2 (ReadsPop scan) (il (ks.zip vs)) Ts) :
    ReadsPop scan (.struct ks vs) ([123] ++ sepBy [32] Ts ++ [125]) := by
  obtain ⟨e1, e2, hfresh, hnil⟩ := keysOK_facts hok
  have h4 : hasFlag (openFlags 123) PFLAG_ATSYM = false := by decide
  refine reads_container scan [123] (openFlags 123) 125 _ _ Ts (opens scan 123 (Or.inr (Or.inr rfl))) (by decide) (by decide) (by decide) hF
    (by intro _; rw [il_length]; omega) fun vs' _ _ hev => ?_
  have hb := buildDict_fresh structPut structPut_fresh (ks.zip vs) vs' [] [] [] [] hev rfl rfl hfresh hnil
  simp only [List.nil_append, e1, e2] at hb
  simp [closeValue, h4, Value.erase, hb.1, hb.2]

theorem reads_table (ks vs : List Value) (hok : keysOK ks vs = true) (Ts : List (List B)) (hF : All2 (ReadsPop scan) (il (ks.zip vs)) Ts) :
    ReadsPop scan (.table ks vs) ([64, 123] ++ sepBy [32] Ts ++ [125]) := by
  obtain ⟨e1, e2, hfresh, hnil⟩ := keysOK_facts hok
  have h4 : hasFlag (atOpenFlags 123) PFLAG_ATSYM = true := by decide
  refine reads_container scan [64, 123] (atOpenFlags 123) 125 _ _ Ts (opens_at scan 123 (Or.inr rfl)) (by decide) (by decide) (by decide) hF
    (by intro _; rw [il_length]; omega) fun vs' _ _ hev => ?_
  have hb := buildDict_fresh tablePut tablePut_fresh (ks.zip vs) vs' [] [] [] [] hev rfl rfl hfresh hnil
  simp only [List.nil_append, e1, e2] at hb
  simp [closeValue, h4, Value.erase, hb.1, hb.2]

end

theorem numTok_facts {T : List B} (h : numTok T = true) : ∃ c cs, T = c :: cs ∧
    (48 ≤ c.toNat && c.toNat ≤ 57 || c == 45 || c == 43 || c == 46) = true ∧ rootStartsToken c = true ∧ cs.all isSymbolChar = true := by
  cases T with
  | nil => simp [numTok] at h
  | cons c cs =>
    simp only [numTok, Bool.and_eq_true] at h
    exact ⟨c, cs, rfl, h.1.1, h.1.2, h.2⟩

theorem start_not_colon (c : B) (hstart : (48 ≤ c.toNat && c.toNat ≤ 57 || c == 45 || c == 43 || c == 46) = true) : (c == 58) = false := by
  cases hc : (c == 58) with
  | false => rfl
  | true =>
    have : c = 58 := by simpa using hc
    subst this
    exact absurd hstart (by decide)

/-- every value `%j` prints (at any depth budget) reads back, wherever a value may start, as a value equal up to source maps -/
theorem reads_pop (scan : List B → Option String) (fmt : String → Option (List B)) (hnum : NumOK scan fmt) :
    ∀ (depth : Nat) (v : Value) (T : List B), jdn scan fmt depth v = some T → v.dictOK = true → ReadsPop scan v T := by
  intro depth
  induction depth with
  | zero => intro v T h; simp [jdn] at h
  | succ depth ih =>
    intro v T hj hok
    cases v with
    | nil =>
      have hT : T = nilBytes := by simp [jdn] at hj; exact hj.symm
      subst hT
      exact reads_token scan 110 [105, 108] .nil (by decide) (by decide) (fun na => classify_nil scan na)
    | bool b =>
      cases b with
      | true =>
        have hT : T = trueBytes := by simp [jdn] at hj; exact hj.symm
        subst hT
        exact reads_token scan 116 [114, 117, 101] (.bool true) (by decide) (by decide) (fun na => classify_true scan na)
      | false =>
        have hT : T = falseBytes := by simp [jdn] at hj; exact hj.symm
        subst hT
        exact reads_token scan 102 [97, 108, 115, 101] (.bool false) (by decide) (by decide) (fun na => classify_false scan na)
    | num tag =>
      have hf : fmt tag = some T := by simpa [jdn] using hj
      obtain ⟨hscan, hnt⟩ := hnum tag T hf
      obtain ⟨c, cs, rfl, hstart, hc, hcs⟩ := numTok_facts hnt
      exact reads_token scan c cs (.num tag) hc hcs
        (fun na => classify_number scan (c :: cs) tag na hscan (by simpa using hstart) (by simpa using start_not_colon c hstart))
    | str bs =>
      have hT : T = escapeString bs := by simp [jdn] at hj; exact hj.symm
      subst hT
      exact reads_string scan bs
    | buf bs =>
      have hT : T = 64 :: escapeString bs := by simp [jdn] at hj; exact hj.symm
      subst hT
      exact reads_buffer scan bs
    | sym bs =>
      obtain ⟨rfl, hne, hall, hcl⟩ := jdn_sym_inv hj
      cases T with
      | nil => exact absurd rfl hne
      | cons b bs' =>
        simp only [List.all_cons, Bool.and_eq_true] at hall
        by_cases hat : b = 64
        · subst hat
          exact reads_at_token scan bs' (.sym (64 :: bs')) hall.2 hcl
        · exact reads_token scan b bs' (.sym (b :: bs')) (by simp [rootStartsToken, hall.1, hat]) hall.2 hcl
    | kw ks =>
      obtain ⟨rfl, hall, hcl⟩ := jdn_kw_inv hj
      exact reads_token scan 58 ks (.kw ks) (by decide) hall hcl
    | tuple br ln col items =>
      rw [jdn_tuple] at hj
      simp only [Value.dictOK] at hok
      obtain ⟨Ts, rfl, hA⟩ := jdnItems_all2 hj (fun v hv T' hT' => ih v T' hT' (dictOKL_mem hok v hv))
      exact reads_tuple scan br ln col items Ts hA
    | array items =>
      rw [jdn_array] at hj
      simp only [Value.dictOK] at hok
      obtain ⟨Ts, rfl, hA⟩ := jdnItems_all2 hj (fun v hv T' hT' => ih v T' hT' (dictOKL_mem hok v hv))
      exact reads_array scan items Ts hA
    | struct ks vs =>
      rw [jdn_struct, jdnPairs_eq] at hj
      simp only [Value.dictOK, Bool.and_eq_true] at hok
      obtain ⟨Ts, rfl, hA⟩ := jdnItems_all2 hj fun v hv T' hT' =>
        ih v T' hT' ((mem_il_zip hv).elim (dictOKL_mem hok.1.2 v) (dictOKL_mem hok.2 v))
      exact reads_struct scan ks vs hok.1.1 Ts hA
    | table ks vs =>
      rw [jdn_table, jdnPairs_eq] at hj
      simp only [Value.dictOK, Bool.and_eq_true] at hok
      obtain ⟨Ts, rfl, hA⟩ := jdnItems_all2 hj fun v hv T' hT' =>
        ih v T' hT' ((mem_il_zip hv).elim (dictOKL_mem hok.1.2 v) (dictOKL_mem hok.2 v))
      exact reads_table scan ks vs hok.1.1 Ts hA

end JanetModel.Parse
