/- Physical-level model of the parser's memory discipline (src/core/parse.c).  CORE LEAN ONLY (linked into jm_c11).

   `Parse/Model.lean` works on lists: a pop of an empty stack, a read of `buf[0]` in an empty scratch buffer or taking more
   arguments than the argument stack holds is silently total there.  This file re-writes every function on the path of
   `janet_parser_consume` / `janet_parser_eof` / `janet_parser_produce(_wrapped)` / `janet_parser_flush` / `janet_parser_error` /
   `cfun_parse_insert` / `janet_parser_clone` / `parser_state_delimiters` statement by statement over MEMORY PRIMITIVES, each of which CHECKS the access the C statement performs:

     push_buf / push_arg / _pushstate   DEF_PARSER_STACK: `newcount = oldcount + 1; if (newcount > cap) { cap = F * newcount; realloc }
                                        STACK[oldcount] = x` -- the write index must be inside the (re)allocated block
     p->statecount--, states[--statecount], args[--argcount], argcount -= n      -- no `size_t` underflow
     *state (the `JanetParseState *` handed to a consumer, `newtop` in popstate)   -- pointer into the CURRENT states block
                                        (a `_pushstate` that reallocates invalidates older pointers: `sgen`) and to a live frame
     p->buf[0] in tokenchar, args[0] in produce, states[0] in flush / produce, states + stack_index in delim_error -- live index

   A failed check sets the sticky `fault` flag.  `MP.p` is the logical content (the live prefixes of the three blocks and the
   scalar fields), `MP.k` the three block capacities; `count ≤ capacity` is carried as a field, so every primitive has to
   discharge it where the C grows the block.  `Parse/PhysLemmas.lean` proves: the machine computes exactly `Model.lean`'s
   functions (`*_p` lemmas) and NO CHECK EVER FAILS on a well-formed parser (`*_safe`), hence for every byte sequence.
   The driver `jm_c11` runs THIS machine for every operation and prints its capacities, which the harness compares with the real
   `bufcap` / `statecap` / `argcap` after every dump.

   Not modelled here: the two EOL strips of `stringend` at index level, the heap objects built from the popped data, OOM. -/
import JanetModel.Parse.Cap
import JanetModel.Parse.StrIdx

namespace JanetModel.Parse
open JanetModel.Gen.Parse

/-- `DEF_PARSER_STACK`: after the growth test the new count fits (needs a growth factor ≥ 1: regenerated) -/
theorem growCap_fits (cap n : Nat) : n + 1 ≤ growCap cap n := by
  unfold growCap
  by_cases h : n + 1 > cap
  · rw [if_pos h]; exact Nat.le_mul_of_pos_left _ (by decide)
  · rw [if_neg h]; omega

theorem modifyFrame_len (f : Frame → Frame) : ∀ (S : List Frame) (i : Nat), (modifyFrame S i f).length = S.length
  | [], _ => rfl
  | _ :: _, 0 => rfl
  | _ :: rest, i + 1 => by simp [modifyFrame, modifyFrame_len f rest i]

/-- the parser as laid out in memory: logical content, block capacities, generation of the `states` block, sticky fault flag -/
structure MP where
  p : Parser
  k : Caps
  sgen : Nat
  fault : Bool
  capok : CapOK k p

/-- a `JanetParseState *`: which `states` block it points into and the C index (0 = root frame) -/
structure SPtr where
  gen : Nat
  idx : Nat
  deriving DecidableEq, Repr

namespace MP

/-- record the outcome of a checked access -/
def chk (m : MP) (ok : Bool) : MP := { m with fault := m.fault || !ok }

/-- assignment to fields other than the three stacks' counts -/
def scal (m : MP) (f : Parser → Parser)
    (h : (f m.p).buf.length = m.p.buf.length ∧ (f m.p).states.length = m.p.states.length ∧ (f m.p).args.length = m.p.args.length) : MP :=
  { p := f m.p, k := m.k, sgen := m.sgen, fault := m.fault,
    capok := by
      obtain ⟨a, b, c⟩ := h
      unfold CapOK
      rw [a, b, c]
      exact m.capok }

end MP

/-! ### memory primitives -/

/-- `push_buf` -/
def pushBufM (m : MP) (c : B) : MP :=
  { p := { m.p with buf := m.p.buf ++ [c] },
    k := { m.k with buf := growCap m.k.buf m.p.buf.length },
    sgen := m.sgen,
    fault := m.fault || !decide (m.p.buf.length < growCap m.k.buf m.p.buf.length),
    capok := ⟨by simpa using growCap_fits m.k.buf m.p.buf.length, m.capok.2.1, m.capok.2.2⟩ }

/-- `push_arg` -/
def pushArgM (m : MP) (v : Value) : MP :=
  { p := { m.p with args := v :: m.p.args },
    k := { m.k with args := growCap m.k.args m.p.args.length },
    sgen := m.sgen,
    fault := m.fault || !decide (m.p.args.length < growCap m.k.args m.p.args.length),
    capok := ⟨m.capok.1, m.capok.2.1, by simpa using growCap_fits m.k.args m.p.args.length⟩ }

/-- `_pushstate`; a reallocation invalidates every older `JanetParseState *` -/
def pushStateRawM (m : MP) (s : Frame) : MP :=
  { p := { m.p with states := s :: m.p.states },
    k := { m.k with states := growCap m.k.states m.p.states.length },
    sgen := if m.p.states.length + 1 > m.k.states then m.sgen + 1 else m.sgen,
    fault := m.fault || !decide (m.p.states.length < growCap m.k.states m.p.states.length),
    capok := ⟨m.capok.1, by simpa using growCap_fits m.k.states m.p.states.length, m.capok.2.2⟩ }

/-- `pushstate` -/
def pushstateM (m : MP) (consumer : Consumer) (flags : Nat) : MP :=
  pushStateRawM m { counter := 0, argn := 0, flags := flags, line := m.p.line, column := m.p.column, consumer := consumer }

/-- `p->bufcount = 0` -/
def clearBufM (m : MP) : MP :=
  { p := { m.p with buf := [] }, k := m.k, sgen := m.sgen, fault := m.fault,
    capok := ⟨Nat.zero_le _, m.capok.2.1, m.capok.2.2⟩ }

/-- `p->statecount--` (`size_t`: must not be 0) -/
def decStateM (m : MP) : MP :=
  { p := { m.p with states := m.p.states.drop 1 }, k := m.k, sgen := m.sgen,
    fault := m.fault || !decide (0 < m.p.states.length),
    capok := ⟨m.capok.1, Nat.le_trans (by rw [List.length_drop]; exact Nat.sub_le _ _) m.capok.2.1, m.capok.2.2⟩ }

/-- `n` times `p->args[--p->argcount]` (close_tuple / close_array), or reading `args[argcount - n .. argcount)` followed by
    `p->argcount -= n` (close_struct / close_table); the values in source order -/
def popArgsM (m : MP) (n : Nat) : List Value × MP :=
  ((m.p.args.take n).reverse,
   { p := { m.p with args := m.p.args.drop n }, k := m.k, sgen := m.sgen,
     fault := m.fault || !decide (n ≤ m.p.args.length),
     capok := ⟨m.capok.1, m.capok.2.1, Nat.le_trans (by rw [List.length_drop]; exact Nat.sub_le _ _) m.capok.2.2⟩ })

/-- `p->states + p->statecount - 1` -/
def topPtr (m : MP) : SPtr := { gen := m.sgen, idx := m.p.states.length - 1 }

/-- may `*sp` be accessed: it points into the current block and at a live frame -/
def derefOk (m : MP) (sp : SPtr) : Bool := sp.gen == m.sgen && decide (sp.idx < m.p.states.length)

/-- `*sp` -/
def readState (m : MP) (sp : SPtr) : Frame := m.p.states.getD (m.p.states.length - 1 - sp.idx) default

/-- `sp->field = …` -/
def writeState (m : MP) (sp : SPtr) (f : Frame → Frame) : MP :=
  (m.chk (derefOk m sp)).scal (fun p => { p with states := modifyFrame p.states (p.states.length - 1 - sp.idx) f })
    ⟨rfl, modifyFrame_len _ _ _, rfl⟩

/-- `p->error = "…"` -/
def setErrorM (m : MP) (e : String) : MP := m.scal (fun p => { p with error := some e }) ⟨rfl, rfl, rfl⟩

/-- `delim_error`: `s = parser->states + stack_index` is dereferenced when `stack_index > 0` -/
def delimErrorM (m : MP) (idx : Nat) (c : Option B) (msg : String) : MP :=
  (m.chk (idx == 0 || decide (idx < m.p.states.length))).scal (fun p => delimError p idx c msg) ⟨rfl, rfl, rfl⟩

/-! ### popstate, stringend -/

/-- `popstate`; fuel = statecount -/
def popstateM : Nat → MP → Value → MP
  | 0, m, _ => m.chk false
  | fuel + 1, m, val =>
    let top := m.p.states.headD default
    let m := decStateM m                                   -- JanetParseState top = p->states[--p->statecount];
    let np := topPtr m                                     -- JanetParseState *newtop = p->states + p->statecount - 1;
    let m := m.chk (derefOk m np)
    let newtop := readState m np
    let val := val.withSm top.line top.column
    if hasFlag newtop.flags PFLAG_CONTAINER then
      let m := writeState m np (fun s => { s with argn := s.argn + 1 })
      if m.p.states.length == 1 then
        let m := m.scal (fun p => { p with pending := p.pending + 1 }) ⟨rfl, rfl, rfl⟩
        pushArgM m (.tuple false top.line top.column [val])
      else pushArgM m val
    else if hasFlag newtop.flags PFLAG_READERMAC then
      popstateM fuel m (Value.tuple false newtop.line newtop.column [.sym (strBytes (readerMacName (newtop.flags &&& 0xFF))), val])
    else m

/-- `stringend` -/
def stringendM (m : MP) (sp : SPtr) : MP :=
  let m := m.chk (derefOk m sp)
  let state := readState m sp
  let long := hasFlag state.flags PFLAG_LONGSTRING
  -- the two re-indent loops run at index level, in place, on the scratch block (`Parse/StrIdx.lean`): every `*r`, `*(r + 1)`, `*w++ =` is checked
  let di := dedentI ((m.p.states.headD default).column - 1) m.p.buf   -- JanetParseState top = p->states[p->statecount - 1];
  let m := m.chk (!long || di.2)
  let bytes := if long then di.1 else m.p.buf
  let ret := if hasFlag state.flags PFLAG_BUFFER then Value.buf bytes else Value.str bytes
  popstateM m.p.states.length (clearBufM m) ret

/-! ### consumers -/

/-- `stringchar` -/
def stringcharM (m : MP) (sp : SPtr) (c : B) : MP × Bool :=
  if c == 92 then (writeState m sp (fun s => { s with consumer := .escape1 }), true)
  else if c == 34 then (stringendM m sp, true)
  else if c != 10 && c != 13 then (pushBufM m c, true)
  else (m, true)

/-- `escapeh` -/
def escapehM (m : MP) (sp : SPtr) (c : B) : MP × Bool :=
  match toHex c with
  | none => (setErrorM m "invalid hex digit in hex escape", true)
  | some d =>
    let m := writeState m sp (fun s => { s with argn := (s.argn <<< 4) + d })
    let m := writeState m sp (fun s => { s with counter := s.counter - 1 })
    if (readState m sp).counter == 0 then
      let m := pushBufM m ((readState m sp).argn &&& 0xFF).toUInt8
      let m := writeState m sp (fun s => { s with argn := 0 })
      (writeState m sp (fun s => { s with consumer := .stringchar }), true)
    else (m, true)

/-- `write_codepoint`: one `push_buf` per byte -/
def pushBytesM (m : MP) (bs : List B) : MP := bs.foldl pushBufM m

/-- `escapeu` -/
def escapeuM (m : MP) (sp : SPtr) (c : B) : MP × Bool :=
  match toHex c with
  | none => (setErrorM m "invalid hex digit in unicode escape", true)
  | some d =>
    let m := writeState m sp (fun s => { s with argn := (s.argn <<< 4) + d })
    let m := writeState m sp (fun s => { s with counter := s.counter - 1 })
    if (readState m sp).counter == 0 then
      if (readState m sp).argn > maxCodepoint then (setErrorM m "invalid unicode codepoint", true)
      else
        let m := pushBytesM m (writeCodepoint (readState m sp).argn)
        let m := writeState m sp (fun s => { s with argn := 0 })
        (writeState m sp (fun s => { s with consumer := .stringchar }), true)
    else (m, true)

/-- `escape1` -/
def escape1M (m : MP) (sp : SPtr) (c : B) : MP × Bool :=
  if c == 120 then
    let m := writeState m sp (fun s => { s with counter := hexDigitsX })
    let m := writeState m sp (fun s => { s with argn := 0 })
    (writeState m sp (fun s => { s with consumer := .escapeh }), true)
  else if c == 117 || c == 85 then
    let m := writeState m sp (fun s => { s with counter := if c == 117 then hexDigitsU else hexDigitsBigU })
    let m := writeState m sp (fun s => { s with argn := 0 })
    (writeState m sp (fun s => { s with consumer := .escapeu }), true)
  else match checkEscape c with
    | none => (setErrorM m "invalid string escape sequence", true)
    | some e =>
      let m := pushBufM m e
      (writeState m sp (fun s => { s with consumer := .stringchar }), true)

/-- `tokenchar` -/
def tokencharM (scan : List B → Option String) (m : MP) (sp : SPtr) (c : B) : MP × Bool :=
  if isSymbolChar c then
    let m := pushBufM m c
    (if c > 127 then writeState m sp (fun s => { s with argn := 1 }) else m, true)
  else
    let m := m.chk (decide (0 < m.p.buf.length))           -- p->buf[0]
    let m := m.chk (derefOk m sp)                          -- state->argn
    match classifyToken scan m.p.buf ((readState m sp).argn != 0) with
    | .error e => (setErrorM m e, false)
    | .ok v => (popstateM m.p.states.length (clearBufM m) v, false)

/-- `comment` -/
def commentM (m : MP) (_sp : SPtr) (c : B) : MP × Bool :=
  if c == 10 then (clearBufM (decStateM m), true)
  else (pushBufM m c, true)

/-- `longstring` -/
def longstringM (m : MP) (sp : SPtr) (c : B) : MP × Bool :=
  let m := m.chk (derefOk m sp)
  let state := readState m sp
  if hasFlag state.flags PFLAG_INSTRING then
    if c == 96 then
      let m := writeState m sp (fun s => { s with flags := s.flags ||| PFLAG_END_CANDIDATE })
      let m := writeState m sp (fun s => { s with flags := s.flags &&& (0xFFFFFFFF ^^^ PFLAG_INSTRING) })
      (writeState m sp (fun s => { s with counter := 1 }), true)
    else (pushBufM m c, true)
  else if hasFlag state.flags PFLAG_END_CANDIDATE then
    if state.counter == state.argn then (stringendM m sp, false)
    else if c == 96 && state.counter < state.argn then (writeState m sp (fun s => { s with counter := s.counter + 1 }), true)
    else
      let m := pushBytesM m (List.replicate state.counter 96)
      let m := pushBufM m c
      let m := writeState m sp (fun s => { s with counter := 0 })
      let m := writeState m sp (fun s => { s with flags := s.flags &&& (0xFFFFFFFF ^^^ PFLAG_END_CANDIDATE) })
      (writeState m sp (fun s => { s with flags := s.flags ||| PFLAG_INSTRING }), true)
  else
    let m := writeState m sp (fun s => { s with argn := s.argn + 1 })
    if c != 96 then
      let m := writeState m sp (fun s => { s with flags := s.flags ||| PFLAG_INSTRING })
      (pushBufM m c, true)
    else (m, true)

/-- `atsign` -/
def atsignM (m : MP) (_sp : SPtr) (c : B) : MP × Bool :=
  let m := decStateM m
  if c == 123 then (pushstateM m .root (PFLAG_CONTAINER ||| PFLAG_CURLYBRACKETS ||| PFLAG_ATSYM), true)
  else if c == 34 then (pushstateM m .stringchar (PFLAG_BUFFER ||| PFLAG_STRING), true)
  else if c == 96 then (pushstateM m .longstring (PFLAG_BUFFER ||| PFLAG_LONGSTRING), true)
  else if c == 91 then (pushstateM m .root (PFLAG_CONTAINER ||| PFLAG_SQRBRACKETS ||| PFLAG_ATSYM), true)
  else if c == 40 then (pushstateM m .root (PFLAG_CONTAINER ||| PFLAG_PARENS ||| PFLAG_ATSYM), true)
  else (pushBufM (pushstateM m .tokenchar PFLAG_TOKEN) 64, false)

/-- closing delimiters in `root` (close_tuple / close_array / close_struct / close_table + popstate) -/
def closeDelimM (m : MP) (sp : SPtr) (c : B) : MP × Bool :=
  if m.p.states.length == 1 then (delimErrorM m 0 (some c) "unexpected closing delimiter ", true)
  else
    let m := m.chk (derefOk m sp)
    let state := readState m sp
    if (c == 41 && hasFlag state.flags PFLAG_PARENS) || (c == 93 && hasFlag state.flags PFLAG_SQRBRACKETS) then
      let (items, m) := popArgsM m state.argn
      let ds := if hasFlag state.flags PFLAG_ATSYM then Value.array items else Value.tuple (c == 93) 0 0 items
      (popstateM m.p.states.length m ds, true)
    else if c == 125 && hasFlag state.flags PFLAG_CURLYBRACKETS then
      if state.argn % 2 == 1 then (setErrorM m "struct and table literals expect even number of arguments", true)
      else
        let (items, m) := popArgsM m state.argn
        let ds := if hasFlag state.flags PFLAG_ATSYM then
            let (ks, vs) := buildDict tablePut items ([], [])
            Value.table ks vs
          else
            let (ks, vs) := buildDict structPut items ([], [])
            Value.struct ks vs
        (popstateM m.p.states.length m ds, true)
    else (delimErrorM m (m.p.states.length - 1) (some c) "mismatched delimiter ", true)

/-- `root` -/
def rootM (m : MP) (sp : SPtr) (c : B) : MP × Bool :=
  if c == 39 || c == 44 || c == 59 || c == 126 || c == 124 then (pushstateM m .root (PFLAG_READERMAC ||| c.toNat), true)
  else if c == 34 then (pushstateM m .stringchar PFLAG_STRING, true)
  else if c == 35 then (pushstateM m .comment PFLAG_COMMENT, true)
  else if c == 64 then (pushstateM m .atsign PFLAG_ATSYM, true)
  else if c == 96 then (pushstateM m .longstring PFLAG_LONGSTRING, true)
  else if c == 41 || c == 93 || c == 125 then closeDelimM m sp c
  else if c == 40 then (pushstateM m .root (PFLAG_CONTAINER ||| PFLAG_PARENS), true)
  else if c == 91 then (pushstateM m .root (PFLAG_CONTAINER ||| PFLAG_SQRBRACKETS), true)
  else if c == 123 then (pushstateM m .root (PFLAG_CONTAINER ||| PFLAG_CURLYBRACKETS), true)
  else if isWhitespace c then (m, true)
  else if !isSymbolChar c then (setErrorM m "unexpected character", true)
  else (pushstateM m .tokenchar PFLAG_TOKEN, false)

theorem advancePos_lens (p : Parser) (c : B) : (advancePos p c).buf.length = p.buf.length ∧
    (advancePos p c).states.length = p.states.length ∧ (advancePos p c).args.length = p.args.length := by
  unfold advancePos
  by_cases h1 : (c == 13) = true
  · rw [if_pos h1]; exact ⟨rfl, rfl, rfl⟩
  · rw [if_neg h1]
    by_cases h2 : (c == 10) = true
    · rw [if_pos h2]; exact ⟨rfl, rfl, rfl⟩
    · rw [if_neg h2]; exact ⟨rfl, rfl, rfl⟩

/-- loop body: `state = parser->states + parser->statecount - 1; consumed = state->consumer(parser, state, c)` -/
def stepM (scan : List B → Option String) (m : MP) (c : B) : MP × Bool :=
  let sp := topPtr m
  let m := m.chk (derefOk m sp)                            -- state->consumer
  match (readState m sp).consumer with
  | .root => rootM m sp c
  | .tokenchar => tokencharM scan m sp c
  | .stringchar => stringcharM m sp c
  | .escape1 => escape1M m sp c
  | .escapeh => escapehM m sp c
  | .escapeu => escapeuM m sp c
  | .longstring => longstringM m sp c
  | .comment => commentM m sp c
  | .atsign => atsignM m sp c

/-- `while (!consumed && !parser->error)`; out of fuel (never: `consume_total`) counts as a fault -/
def consumeLoopM (scan : List B → Option String) : Nat → MP → B → MP
  | 0, m, _ => m.chk false
  | fuel + 1, m, c =>
    if m.p.error.isSome then m
    else
      let (m', consumed) := stepM scan m c
      if consumed then m' else consumeLoopM scan fuel m' c

/-- body of `janet_parser_consume` after the dead check -/
def consumeRawM (scan : List B → Option String) (m : MP) (c : B) : MP :=
  let m1 := m.scal (fun p => advancePos p c) (advancePos_lens m.p c)
  let m2 := consumeLoopM scan (loopFuel m1.p) m1 c
  m2.scal (fun p => { p with lookback := Int.ofNat c.toNat }) ⟨rfl, rfl, rfl⟩

/-- `janet_parser_consume` -/
def consumeM (scan : List B → Option String) (m : MP) (c : B) : MP :=
  match checkDead m.p with
  | some _ => m
  | none => consumeRawM scan m c

/-- `janet_parser_eof` -/
def eofM (scan : List B → Option String) (m : MP) : MP :=
  match checkDead m.p with
  | some _ => m
  | none =>
    let m1 := consumeRawM scan m 10
    let m2 := if m1.p.states.length > 1 then delimErrorM m1 (m1.p.states.length - 1) none "unexpected end of source" else m1
    m2.scal (fun q => { q with line := m.p.line, column := m.p.column, flag := q.flag ||| JANET_PARSER_DEAD }) ⟨rfl, rfl, rfl⟩

/-! ### the queue side: produce, flush, error -/

theorem decRootArgn_len (S : List Frame) : (decRootArgn S).length = S.length := by
  unfold decRootArgn
  cases h : S.reverse with
  | nil => simp [List.reverse_eq_nil_iff.mp h]
  | cons r rest =>
    have : S.length = rest.length + 1 := by rw [← List.length_reverse, h]; rfl
    simp [this]

/-- `janet_parser_produce_wrapped`: reads `args[0]`, shifts `args[1 .. argcount)` down by one, `argcount--`, `states[0].argn--` -/
def produceWrappedM (m : MP) : Option Value × MP :=
  if m.p.pending == 0 then (none, m)
  else
    let m := m.chk (decide (0 < m.p.args.length))          -- parser->args[0]; parser->argcount-- (size_t)
    let m := m.chk (decide (0 < m.p.states.length))        -- parser->states[0].argn--
    match m.p.args.reverse with
    | [] => (none, m)
    | v :: _ =>
      (some v,
       { p := { m.p with args := m.p.args.dropLast, pending := m.p.pending - 1, states := decRootArgn m.p.states },
         k := m.k, sgen := m.sgen, fault := m.fault,
         capok := ⟨m.capok.1, by rw [decRootArgn_len]; exact m.capok.2.1,
           Nat.le_trans (by rw [List.length_dropLast]; exact Nat.sub_le _ _) m.capok.2.2⟩ })

/-- `janet_parser_produce` -/
def produceM (m : MP) : Option Value × MP :=
  match produceWrappedM m with
  | (some v, m') => (some (unwrap1 v), m')
  | (none, m') => (none, m')

theorem flush_lens (p : Parser) : (flush p).buf.length ≤ p.buf.length ∧ (flush p).states.length ≤ p.states.length ∧
    (flush p).args.length ≤ p.args.length := by
  refine ⟨Nat.zero_le _, ?_, Nat.zero_le _⟩
  have hd : (p.states.drop (p.states.length - 1)).length ≤ p.states.length := by
    rw [List.length_drop]; exact Nat.sub_le _ _
  have hb : ∀ (b : Bool) (f : Frame → Frame) (X : List Frame), (if b = true then X.map f else X).length = X.length := by
    intro b f X; cases b <;> simp
  exact Nat.le_trans (Nat.le_of_eq (hb flushResetsRootArgn (fun s => { s with argn := 0 }) _)) hd

/-- `janet_parser_flush`: `statecount = 1` keeps the block; `states[0].argn = 0` needs the root frame to exist -/
def flushM (m : MP) : MP :=
  { p := flush m.p, k := m.k, sgen := m.sgen,
    fault := m.fault || !decide (0 < m.p.states.length),
    capok := ⟨Nat.le_trans (flush_lens m.p).1 m.capok.1, Nat.le_trans (flush_lens m.p).2.1 m.capok.2.1,
      Nat.le_trans (flush_lens m.p).2.2 m.capok.2.2⟩ }

/-- `janet_parser_error` -/
def takeErrorM (m : MP) : Option String × MP :=
  match m.p.error with
  | some e =>
    (some e, flushM (m.scal (fun p => { p with error := none, flag := p.flag &&& (0xFFFFFFFF ^^^ JANET_PARSER_GENERATED_ERROR) }) ⟨rfl, rfl, rfl⟩))
  | none => (none, m)

/-- `janet_parser_init` -/
def MP.init : MP :=
  { p := Parser.init, k := Caps.init, sgen := 1, fault := false,
    capok := ⟨Nat.le_refl _, by show 1 ≤ growCap 0 0; exact growCap_fits 0 0, Nat.le_refl _⟩ }

/-! ### parser/insert, clone, parser/state -/

theorem jumpCap_fits (cap n : Nat) : n ≤ jumpCap cap n := by
  unfold jumpCap
  by_cases h : cap < n
  · rw [if_pos h]; exact Nat.le_mul_of_pos_left _ (by decide)
  · rw [if_neg h]; omega

/-- string branch of `cfun_parse_insert`: grow the scratch buffer in one jump, `safe_memcpy(p->buf + p->bufcount, str, slen)` -/
def bufAppendM (m : MP) (bs : List B) : MP :=
  { p := { m.p with buf := m.p.buf ++ bs },
    k := { m.k with buf := jumpCap m.k.buf (m.p.buf.length + bs.length) },
    sgen := m.sgen,
    fault := m.fault || !decide (m.p.buf.length + bs.length ≤ jumpCap m.k.buf (m.p.buf.length + bs.length)),
    capok := ⟨by simpa using jumpCap_fits m.k.buf (m.p.buf.length + bs.length), m.capok.2.1, m.capok.2.2⟩ }

/-- first half of `cfun_parse_insert`: `s = p->states + p->statecount - 1; if (s->consumer == tokenchar) { consume(p, ' '); column-- }` -/
def insertPreM (scan : List B → Option String) (m : MP) : MP × Option String :=
  let sp := topPtr m
  let m := m.chk (derefOk m sp)
  if (readState m sp).consumer == .tokenchar then
    match checkDead m.p with
    | some msg => (m, some msg)
    | none => ((consumeRawM scan m 32).scal (fun p => { p with column := p.column - 1 }) ⟨rfl, rfl, rfl⟩, none)
  else (m, none)

/-- second half: `s` is recomputed after the consume; `if (s->flags & PFLAG_COMMENT) s--;` must stay inside the block -/
def insertAtM (m : MP) (v : Value) (vstr : List B) : MP × Option String :=
  let sp := topPtr m
  let m := m.chk (derefOk m sp)
  let cm := hasFlag (readState m sp).flags PFLAG_COMMENT
  let m := if cm then m.chk (decide (0 < sp.idx)) else m
  let sp : SPtr := if cm then { sp with idx := sp.idx - 1 } else sp
  let m := m.chk (derefOk m sp)
  let s := readState m sp
  if hasFlag s.flags PFLAG_CONTAINER then
    let m := writeState m sp (fun f => { f with argn := f.argn + 1 })
    let isRoot := if insertRootTestByFrame then sp.idx == 0 else m.p.states.length == 1
    if isRoot then
      (pushArgM (m.scal (fun p => { p with pending := p.pending + 1 }) ⟨rfl, rfl, rfl⟩) (Value.tuple false smNone smNone [v]), none)
    else (pushArgM m v, none)
  else if hasFlag s.flags (PFLAG_STRING ||| PFLAG_LONGSTRING) then (bufAppendM m vstr, none)
  else (m, some "cannot insert value into parser")

/-- `cfun_parse_insert` -/
def insertM (scan : List B → Option String) (m : MP) (v : Value) (vstr : List B) : MP × Option String :=
  match insertPreM scan m with
  | (m, some e) => (m, some e)
  | (m, none) => insertAtM m v vstr

/-- `janet_parser_clone`: three fresh blocks of exactly `count` elements, `memcpy` of `count` elements out of the source blocks -/
def cloneM (m : MP) : MP :=
  { p := clone m.p, k := cloneK m.p, sgen := m.sgen + 1,
    fault := m.fault || !(decide (m.p.buf.length ≤ m.k.buf) && decide (m.p.states.length ≤ m.k.states) && decide (m.p.args.length ≤ m.k.args)),
    capok := ⟨Nat.le_refl _, Nat.le_refl _, Nat.le_refl _⟩ }

/-- `p->bufcount = oldcount` (parser_state_delimiters): back to an earlier, smaller count -/
def truncBufM (m : MP) (n : Nat) : MP :=
  { p := { m.p with buf := m.p.buf.take n }, k := m.k, sgen := m.sgen,
    fault := m.fault || !decide (n ≤ m.p.buf.length),
    capok := ⟨Nat.le_trans (by rw [List.length_take]; exact Nat.min_le_right _ _) m.capok.1, m.capok.2.1, m.capok.2.2⟩ }

/-- `parser_state_delimiters`: push the delimiters behind the scratch contents, read them back, restore the count -/
def stateDelimsM (m : MP) : List B × MP :=
  let old := m.p.buf.length
  let m1 := pushBytesM m (delimiters m.p)
  (m1.p.buf.drop old, truncBufM m1 old)

/-- a machine state from its parts (the driver rebuilds its state with it); a capacity below its count -- excluded by
    `Props.C11.capacity_invariant` -- is raised to it -/
def MP.ofParts (p : Parser) (k : Caps) (sgen : Nat) (fault : Bool) : MP :=
  { p := p, k := ⟨max k.buf p.buf.length, max k.states p.states.length, max k.args p.args.length⟩, sgen := sgen, fault := fault,
    capok := ⟨Nat.le_max_right _ _, Nat.le_max_right _ _, Nat.le_max_right _ _⟩ }

/-! ### the client protocol (as `Run` / `feedByte` / `finish` in Model.lean) -/

structure MRun where
  m : MP
  out : List Event

def MRun.init : MRun := { m := MP.init, out := [] }

def drainAuxM : Nat → MP → List Event → MP × List Event
  | 0, m, acc => (m, acc)
  | n + 1, m, acc =>
    match produceM m with
    | (some v, m') => drainAuxM n m' (acc ++ [.value v])
    | (none, m') => (m', acc)

def drainM (r : MRun) : MRun :=
  let (m, out) := drainAuxM r.m.p.pending r.m r.out
  { m := m, out := out }

def handleErrorM (r : MRun) : MRun :=
  if r.m.p.error.isSome then
    let r := drainM r
    match takeErrorM r.m with
    | (some e, m) => { m := m, out := r.out ++ [.error e r.m.p.line r.m.p.column] }
    | (none, m) => { r with m := m }
  else r

def feedByteM (scan : List B → Option String) (r : MRun) (c : B) : MRun :=
  handleErrorM { r with m := consumeM scan r.m c }

def feedM (scan : List B → Option String) (r : MRun) (bs : List B) : MRun := bs.foldl (feedByteM scan) r

def finishM (scan : List B → Option String) (r : MRun) : MRun :=
  drainM (handleErrorM { r with m := eofM scan r.m })

end JanetModel.Parse
