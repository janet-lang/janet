/- `parser/produce` can be interleaved at will also with `parser/insert`: `insert` does not see a value queued
   below everything the parser holds (`insert_addQ`), and the schedule theorem for histories of bytes, inserts, dequeues and queries. -/
import JanetModel.Parse.Insert

namespace JanetModel.Parse
open JanetModel.Gen.Parse

/-- incrementing the root count commutes with counting one more argument in any frame -/
theorem incRoot_modify : ∀ (S : List Frame) (i : Nat), incRoot (modifyFrame S i incArgn) = modifyFrame (incRoot S) i incArgn
  | [], _ => rfl
  | [_], 0 => rfl
  | [_], _ + 1 => rfl
  | _ :: _ :: _, 0 => rfl
  | f :: g :: l, i + 1 => by
    have hne : modifyFrame (g :: l) i incArgn ≠ [] := by cases i <;> exact List.cons_ne_nil _ _
    show incRoot (f :: modifyFrame (g :: l) i incArgn) = f :: modifyFrame (incRoot (g :: l)) i incArgn
    rw [incRoot_cons hne, incRoot_modify (g :: l) i]

theorem incRoot_getD_flags : ∀ (S : List Frame) (i : Nat), ((incRoot S).getD i default).flags = (S.getD i default).flags
  | [], _ => rfl
  | [_], 0 => rfl
  | [_], _ + 1 => rfl
  | _ :: _ :: _, 0 => rfl
  | _ :: g :: l, i + 1 => incRoot_getD_flags (g :: l) i

theorem insertIdx_incRoot : ∀ S : List Frame, insertIdx (incRoot S) = insertIdx S
  | [] => rfl
  | [_] => rfl
  | _ :: _ :: _ => rfl

theorem insTail_addQ (z : Value) (p : Parser) (i : Nat) {s s' : Frame} (v : Value) (vstr : List B) (hf : s'.flags = s.flags) :
    insTail (addQ z p) i s' v vstr = (addQ z (insTail p i s v vstr).1, (insTail p i s v vstr).2) := by
  unfold insTail
  simp only [hf]
  by_cases hc : hasFlag s.flags PFLAG_CONTAINER = true
  · simp only [hc, if_true]
    by_cases hi : (i + 1 == p.states.length) = true
    · simp [addQ, incRoot_length, hi, incRoot_modify]
    · simp [addQ, incRoot_length, hi, incRoot_modify]
  · simp only [hc, Bool.false_eq_true, if_false]
    split <;> rfl

theorem insertAt_addQ (z : Value) (p : Parser) (v : Value) (vstr : List B) :
    insertAt (addQ z p) v vstr = (addQ z (insertAt p v vstr).1, (insertAt p v vstr).2) := by
  rw [insertAt_eq, insertAt_eq]
  show insTail (addQ z p) (insertIdx (incRoot p.states)) ((incRoot p.states).getD (insertIdx (incRoot p.states)) default) v vstr = _
  rw [insertIdx_incRoot]
  exact insTail_addQ z p _ v vstr (incRoot_getD_flags _ _)

theorem insertPre_addQ (scan : List B → Option String) (z : Value) {p : Parser} (hwf : WF p) :
    insertPre scan (addQ z p) = (addQ z (insertPre scan p).1, (insertPre scan p).2) := by
  cases hs : p.states with
  | nil => have := hwf.ok; rw [hs] at this; simp [okFrames] at this
  | cons top rest =>
    have hds : ∃ top' rest', (addQ z p).states = top' :: rest' ∧ top'.consumer = top.consumer := by
      simp only [addQ, hs]
      cases rest with
      | nil => exact ⟨_, _, rfl, rfl⟩
      | cons g l => exact ⟨_, _, rfl, rfl⟩
    obtain ⟨top', rest', hds', hcons⟩ := hds
    unfold insertPre
    rw [hds', hs]
    simp only [hcons]
    by_cases ht : (top.consumer == .tokenchar) = true
    · simp only [ht, if_true, show checkDead (addQ z p) = checkDead p from rfl]
      cases hcd : checkDead p with
      | some msg => rfl
      | none => simp only [consumeRaw_addQ scan z p 32 hwf]; rfl
    · simp only [ht, Bool.false_eq_true, if_false]

theorem insert_addQ (scan : List B → Option String) (z : Value) {p : Parser} (v : Value) (vstr : List B) (hwf : WF p) :
    (insert scan (addQ z p) v vstr).1 = addQ z (insert scan p v vstr).1 := by
  rw [insert_eq, insert_eq, insertPre_addQ scan z hwf]
  cases hq : insertPre scan p with
  | mk q oe =>
    cases oe with
    | some e => rfl
    | none => simp only [insertAt_addQ]

/-- `parser/insert` followed by the status check of the error protocol (the token it finishes may be malformed) -/
def insertRun (scan : List B → Option String) (r : Run) (v : Value) (vstr : List B) : Run :=
  handleError { r with p := (insert scan r.p v vstr).1 }

theorem insertRun_rel (scan : List B → Option String) (a b : Run) (v : Value) (vstr : List B) (h : Rel a b) :
    Rel (insertRun scan a v vstr) (insertRun scan b v vstr) :=
  rel_of_lockstep (fun p => (insert scan p v vstr).1) a b h fun z q hwf =>
    ⟨insert_addQ scan z v vstr hwf, (WF.api scan).insert q v vstr hwf⟩

theorem WF_insertRun (scan : List B → Option String) {r : Run} (v : Value) (vstr : List B) (h : WF r.p) : WF (insertRun scan r v vstr).p :=
  (WF.api scan).handleError _ ((WF.api scan).insert r.p v vstr h)

/-- client operations: bytes and inserts (both with the error protocol), dequeues, pure queries -/
inductive OpP where
  | byte (c : B)
  | insert (v : Value) (vstr : List B)
  | produce
  | query
  deriving Inhabited

def runOpP (scan : List B → Option String) (r : Run) : OpP → Run
  | .byte c => feedByte scan r c
  | .insert v vstr => insertRun scan r v vstr
  | .produce => produceRun r
  | .query => r

/-- the history without its dequeues and queries -/
def inputsOf : List OpP → List OpP
  | [] => []
  | .byte c :: ops => .byte c :: inputsOf ops
  | .insert v s :: ops => .insert v s :: inputsOf ops
  | _ :: ops => inputsOf ops

theorem WF_runOpP (scan : List B → Option String) {r : Run} (op : OpP) (h : WF r.p) : WF (runOpP scan r op).p := by
  cases op with
  | byte c => exact (WF.api scan).feedByte r c h
  | insert v s => exact WF_insertRun scan v s h
  | produce => exact (WF.api scan).produceRun r h
  | query => exact h

theorem inputs_rel (scan : List B → Option String) (ops : List OpP) : ∀ a b : Run, Rel a b →
    Rel ((inputsOf ops).foldl (runOpP scan) a) ((inputsOf ops).foldl (runOpP scan) b) := by
  induction ops with
  | nil => intro a b h; exact h
  | cons op ops ih =>
    intro a b h
    cases op with
    | byte c => exact ih _ _ (feedByte_rel scan a b c h)
    | insert v s => exact ih _ _ (insertRun_rel scan a b v s h)
    | produce => exact ih a b h
    | query => exact ih a b h

/-- for EVERY history of bytes, `parser/insert`s, `parser/produce`s and queries from a well-formed run, the values and errors the
    client ends up with are those of the history with the dequeues and queries left out -/
theorem schedule_pure_insert (scan : List B → Option String) (ops : List OpP) : ∀ r : Run, WF r.p →
    (ops.foldl (runOpP scan) r).events = ((inputsOf ops).foldl (runOpP scan) r).events := by
  induction ops with
  | nil => intro r _; rfl
  | cons op ops ih =>
    intro r h
    cases op with
    | byte c => exact ih _ ((WF.api scan).feedByte r c h)
    | insert v s => exact ih _ (WF_insertRun scan v s h)
    | query => exact ih r h
    | produce =>
      simp only [List.foldl_cons, runOpP, inputsOf]
      rw [ih _ ((WF.api scan).produceRun r h)]
      exact events_rel (inputs_rel scan ops _ _ (Rel.produceRun h))

end JanetModel.Parse
