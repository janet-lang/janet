/- In a well-formed parser `parser/state`'s frame walk stays inside the argument array; `parser/insert` (cfun_parse_insert) keeps
   the parser well formed (`WF_insertAt` in `Parse/Pure.lean`; regenerated obligation: needs the root-frame test `s == p->states`,
   `Gen.insertRootTestByFrame`), so this holds for all histories of bytes, dequeues, queries and inserts (`OpI`). -/
import JanetModel.Parse.Pure

namespace JanetModel.Parse
open JanetModel.Gen.Parse

theorem containerSum (S : List Frame) (hok : okFrames S = true) :
    ((S.filter (fun s => hasFlag s.flags PFLAG_CONTAINER)).map (·.argn)).sum = inner S + rootArgn S := by
  induction S with
  | nil => simp [okFrames] at hok
  | cons f S ih =>
    cases S with
    | nil =>
      have : hasFlag f.flags PFLAG_CONTAINER = true := by
        have : f.consumer = .root ∧ hasFlag f.flags PFLAG_CONTAINER = true := by simpa [okFrames, isCont] using hok
        exact this.2
      simp [List.filter, this, inner, rootArgn]
    | cons g l =>
      have hne : (g :: l) ≠ [] := by simp
      rw [okFrames_cons hne] at hok
      simp only [Bool.and_eq_true] at hok
      rw [inner_cons hne, rootArgn_cons hne]
      have := ih hok.2
      rw [List.filter_cons]
      by_cases hc : hasFlag f.flags PFLAG_CONTAINER = true
      · have hc' : isCont f = true := hc
        rw [if_pos hc, if_pos hc', List.map_cons, List.sum_cons, this]; omega
      · have hc' : ¬ isCont f = true := hc
        rw [if_neg hc, if_neg hc', this]; omega

/-- in a well-formed parser the frame walk of `parser/state` (`parser_state_frames`) uses exactly the argument array -/
theorem framesInBounds_of_WF {p : Parser} (h : WF p) : framesInBounds p = true := by
  unfold framesInBounds
  rw [containerSum p.states h.ok, h.rootn, h.sum]
  simp

theorem insert_frames_in_bounds (scan : List B → Option String) {p : Parser} (v : Value) (vstr : List B) (h : WF p) :
    framesInBounds (insert scan p v vstr).1 = true := framesInBounds_of_WF ((WF.api scan).insert p v vstr h)

/-- what a client may do between bytes, `parser/insert` included -/
inductive OpI where
  | byte (c : B)
  | produce
  | query
  | insert (v : Value) (vstr : List B)
  | flush                 -- `parser/flush`
  | takeError             -- `parser/error`
  deriving Inhabited

def runOpI (scan : List B → Option String) (r : Run) : OpI → Run
  | .byte c => feedByte scan r c
  | .produce => produceRun r
  | .query => r
  | .insert v vstr => { r with p := (insert scan r.p v vstr).1 }
  | .flush => { r with p := flush r.p }
  | .takeError => { r with p := (takeError r.p).2 }

theorem ApiInv.runOpI {scan : List B → Option String} {I : Parser → Prop} (h : ApiInv scan I) (r : Run) (op : OpI) (hr : I r.p) :
    I (runOpI scan r op).p := by
  cases op with
  | byte c => exact h.feedByte r c hr
  | produce => exact h.produceRun r hr
  | query => exact hr
  | insert v vstr => exact h.insert r.p v vstr hr
  | flush => exact h.flush r.p hr
  | takeError => exact h.takeError r.p hr

end JanetModel.Parse
