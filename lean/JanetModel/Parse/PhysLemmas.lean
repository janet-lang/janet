/- The physical machine of `Parse/Phys.lean` computes `Parse/Model.lean`'s functions (`*_p`) and none of its checked
   memory accesses fails on a well-formed parser (`*_safe`). -/
import JanetModel.Parse.Phys
import JanetModel.Parse.StrIdxLemmas
import JanetModel.Parse.Queue
import JanetModel.Parse.Pure
import JanetModel.Parse.EofClean

namespace JanetModel.Parse
open JanetModel.Gen.Parse

@[simp] theorem chk_p (m : MP) (b : Bool) : (m.chk b).p = m.p := rfl
@[simp] theorem chk_sgen (m : MP) (b : Bool) : (m.chk b).sgen = m.sgen := rfl
@[simp] theorem chk_k (m : MP) (b : Bool) : (m.chk b).k = m.k := rfl
theorem chk_fault (m : MP) (b : Bool) : (m.chk b).fault = (m.fault || !b) := rfl
@[simp] theorem chk_true (m : MP) : m.chk true = m := by
  obtain ⟨p, k, g, f, h⟩ := m
  simp [MP.chk]

@[simp] theorem scal_p (m : MP) (f : Parser → Parser) (h) : (m.scal f h).p = f m.p := rfl
@[simp] theorem scal_sgen (m : MP) (f : Parser → Parser) (h) : (m.scal f h).sgen = m.sgen := rfl
@[simp] theorem scal_fault (m : MP) (f : Parser → Parser) (h) : (m.scal f h).fault = m.fault := rfl
@[simp] theorem scal_k (m : MP) (f : Parser → Parser) (h) : (m.scal f h).k = m.k := rfl

@[simp] theorem pushBufM_p (m : MP) (c : B) : (pushBufM m c).p = pushBuf m.p c := rfl
@[simp] theorem pushBufM_sgen (m : MP) (c : B) : (pushBufM m c).sgen = m.sgen := rfl
/-- the write of `push_buf` (likewise `push_arg`, `_pushstate`) is always inside the block: `DEF_PARSER_STACK` grows it first -/
@[simp] theorem pushBufM_fault (m : MP) (c : B) : (pushBufM m c).fault = m.fault := by
  have := growCap_fits m.k.buf m.p.buf.length
  simp [pushBufM]; intro _; omega

@[simp] theorem pushArgM_p (m : MP) (v : Value) : (pushArgM m v).p = { m.p with args := v :: m.p.args } := rfl
@[simp] theorem pushArgM_sgen (m : MP) (v : Value) : (pushArgM m v).sgen = m.sgen := rfl
@[simp] theorem pushArgM_fault (m : MP) (v : Value) : (pushArgM m v).fault = m.fault := by
  have := growCap_fits m.k.args m.p.args.length
  simp [pushArgM]; intro _; omega

@[simp] theorem pushstateM_p (m : MP) (cn : Consumer) (fl : Nat) : (pushstateM m cn fl).p = pushstate m.p cn fl := rfl
@[simp] theorem pushstateM_fault (m : MP) (cn : Consumer) (fl : Nat) : (pushstateM m cn fl).fault = m.fault := by
  have := growCap_fits m.k.states m.p.states.length
  simp [pushstateM, pushStateRawM]; intro _; omega

@[simp] theorem clearBufM_p (m : MP) : (clearBufM m).p = { m.p with buf := [] } := rfl
@[simp] theorem clearBufM_sgen (m : MP) : (clearBufM m).sgen = m.sgen := rfl
@[simp] theorem clearBufM_fault (m : MP) : (clearBufM m).fault = m.fault := rfl

@[simp] theorem decStateM_p (m : MP) : (decStateM m).p = { m.p with states := m.p.states.drop 1 } := rfl
@[simp] theorem decStateM_sgen (m : MP) : (decStateM m).sgen = m.sgen := rfl
theorem decStateM_fault (m : MP) : (decStateM m).fault = (m.fault || !decide (0 < m.p.states.length)) := rfl

@[simp] theorem popArgsM_1 (m : MP) (n : Nat) : (popArgsM m n).1 = (m.p.args.take n).reverse := rfl
@[simp] theorem popArgsM_p (m : MP) (n : Nat) : (popArgsM m n).2.p = { m.p with args := m.p.args.drop n } := rfl
@[simp] theorem popArgsM_sgen (m : MP) (n : Nat) : (popArgsM m n).2.sgen = m.sgen := rfl
theorem popArgsM_fault (m : MP) (n : Nat) : (popArgsM m n).2.fault = (m.fault || !decide (n ≤ m.p.args.length)) := rfl

@[simp] theorem setErrorM_p (m : MP) (e : String) : (setErrorM m e).p = { m.p with error := some e } := rfl
@[simp] theorem setErrorM_fault (m : MP) (e : String) : (setErrorM m e).fault = m.fault := rfl
@[simp] theorem setErrorM_sgen (m : MP) (e : String) : (setErrorM m e).sgen = m.sgen := rfl

@[simp] theorem delimErrorM_p (m : MP) (i : Nat) (c : Option B) (msg : String) : (delimErrorM m i c msg).p = delimError m.p i c msg := rfl
theorem delimErrorM_fault (m : MP) (i : Nat) (c : Option B) (msg : String) :
    (delimErrorM m i c msg).fault = (m.fault || !(i == 0 || decide (i < m.p.states.length))) := rfl

/-- `sp` points into the current block, at the frame `i` below the top -/
def AtDepth (m : MP) (sp : SPtr) (i : Nat) : Prop := sp.gen = m.sgen ∧ sp.idx + 1 + i = m.p.states.length

theorem AtDepth.deref {m : MP} {sp : SPtr} {i : Nat} (h : AtDepth m sp i) : derefOk m sp = true := by
  obtain ⟨h1, h2⟩ := h
  simp [derefOk, h1]; omega

theorem AtDepth.read {m : MP} {sp : SPtr} {i : Nat} (h : AtDepth m sp i) : readState m sp = m.p.states.getD i default := by
  obtain ⟨_, h2⟩ := h
  have : m.p.states.length - 1 - sp.idx = i := by omega
  unfold readState
  rw [this]

theorem AtDepth.write_p {m : MP} {sp : SPtr} {i : Nat} (h : AtDepth m sp i) (f : Frame → Frame) :
    (writeState m sp f).p = { m.p with states := modifyFrame m.p.states i f } := by
  obtain ⟨_, h2⟩ := h
  have : m.p.states.length - 1 - sp.idx = i := by omega
  simp [writeState, this]

theorem AtDepth.write_fault {m : MP} {sp : SPtr} {i : Nat} (h : AtDepth m sp i) (f : Frame → Frame) :
    (writeState m sp f).fault = m.fault := by
  simp [writeState, h.deref]

/-- `sp` is the pointer the consume loop computed: current block, top frame (`AtDepth m sp 0`) -/
def IsTop (m : MP) (sp : SPtr) : Prop := sp.gen = m.sgen ∧ sp.idx + 1 = m.p.states.length

theorem isTop_topPtr {m : MP} (h : m.p.states ≠ []) : IsTop m (topPtr m) := by
  refine ⟨rfl, ?_⟩
  have : 0 < m.p.states.length := List.length_pos_iff.mpr h
  simp [topPtr]; omega

theorem IsTop.congr {m m' : MP} {sp : SPtr} (h : IsTop m sp) (h1 : m'.sgen = m.sgen) (h2 : m'.p.states.length = m.p.states.length) :
    IsTop m' sp := ⟨by rw [h1]; exact h.1, by rw [h2]; exact h.2⟩

theorem IsTop.deref {m : MP} {sp : SPtr} (h : IsTop m sp) : derefOk m sp = true := AtDepth.deref (i := 0) h

theorem IsTop.read {m : MP} {sp : SPtr} (h : IsTop m sp) : readState m sp = m.p.states.headD default := by
  rw [AtDepth.read (i := 0) h]
  cases m.p.states <;> rfl

theorem setTop_eq (p : Parser) (f : Frame → Frame) : setTop p f = { p with states := modifyFrame p.states 0 f } := by
  unfold setTop
  cases h : p.states with
  | nil => obtain ⟨a, e, s, b, l, c, pe, lb, fl⟩ := p; simp at h; subst h; rfl
  | cons s r => simp [modifyFrame]

theorem IsTop.write_p {m : MP} {sp : SPtr} (h : IsTop m sp) (f : Frame → Frame) : (writeState m sp f).p = setTop m.p f := by
  rw [setTop_eq, AtDepth.write_p (i := 0) h]

theorem IsTop.write_fault {m : MP} {sp : SPtr} (h : IsTop m sp) (f : Frame → Frame) : (writeState m sp f).fault = m.fault :=
  AtDepth.write_fault (i := 0) h f

@[simp] theorem writeState_sgen (m : MP) (sp : SPtr) (f : Frame → Frame) : (writeState m sp f).sgen = m.sgen := rfl

theorem writeState_len (m : MP) (sp : SPtr) (f : Frame → Frame) : (writeState m sp f).p.states.length = m.p.states.length := by
  simp [writeState, modifyFrame_len]

theorem IsTop.write {m : MP} {sp : SPtr} (h : IsTop m sp) (f : Frame → Frame) : IsTop (writeState m sp f) sp :=
  h.congr rfl (writeState_len m sp f)

theorem IsTop.pushBuf {m : MP} {sp : SPtr} (h : IsTop m sp) (c : B) : IsTop (pushBufM m c) sp := h.congr rfl rfl

theorem setTop_len (p : Parser) (f : Frame → Frame) : (setTop p f).states.length = p.states.length := by
  rw [setTop_eq]
  exact modifyFrame_len _ _ _

theorem pushBytesM_p : ∀ (bs : List B) (m : MP), (pushBytesM m bs).p = { m.p with buf := m.p.buf ++ bs }
  | [], m => by simp [pushBytesM]
  | b :: bs, m => by
    have ih := pushBytesM_p bs (pushBufM m b)
    simp only [pushBytesM, List.foldl_cons] at ih ⊢
    rw [ih]; simp [pushBuf]

theorem pushBytesM_fault : ∀ (bs : List B) (m : MP), (pushBytesM m bs).fault = m.fault
  | [], m => rfl
  | b :: bs, m => by
    have ih := pushBytesM_fault bs (pushBufM m b)
    simp only [pushBytesM, List.foldl_cons] at ih ⊢
    rw [ih]; simp

theorem pushBytesM_sgen : ∀ (bs : List B) (m : MP), (pushBytesM m bs).sgen = m.sgen
  | [], m => rfl
  | b :: bs, m => by
    have ih := pushBytesM_sgen bs (pushBufM m b)
    simp only [pushBytesM, List.foldl_cons] at ih ⊢
    rw [ih]; simp

theorem IsTop.pushBytes {m : MP} {sp : SPtr} (h : IsTop m sp) (bs : List B) : IsTop (pushBytesM m bs) sp :=
  h.congr (pushBytesM_sgen bs m) (by rw [pushBytesM_p])

theorem default_flags : (default : Frame).flags = 0 := rfl

@[simp] theorem topPtr_chk (m : MP) (b : Bool) : topPtr (m.chk b) = topPtr m := rfl

@[simp] theorem readState_chk (m : MP) (b : Bool) (sp : SPtr) : readState (m.chk b) sp = readState m sp := rfl
@[simp] theorem derefOk_chk (m : MP) (b : Bool) (sp : SPtr) : derefOk (m.chk b) sp = derefOk m sp := rfl

theorem derefOk_topPtr {m : MP} (h : m.p.states ≠ []) : derefOk m (topPtr m) = true := (isTop_topPtr h).deref

theorem readState_topPtr (m : MP) : readState m (topPtr m) = m.p.states.headD default := by
  have : m.p.states.length - 1 - (topPtr m).idx = 0 := by simp [topPtr]
  unfold readState
  rw [this]
  cases m.p.states <;> rfl

theorem writeState_topPtr_p (m : MP) (f : Frame → Frame) : (writeState m (topPtr m) f).p = setTop m.p f := by
  have : m.p.states.length - 1 - (topPtr m).idx = 0 := by simp [topPtr]
  rw [setTop_eq]
  simp [writeState, this]

theorem popstate_nil (p : Parser) (v : Value) (h : p.states = []) : popstate p v = p := by
  obtain ⟨a, e, s, b, l, c, pe, lb, fl⟩ := p
  simp at h; subst h
  simp [popstate, popstateAux]

theorem popstate_one (p : Parser) (v : Value) (t : Frame) (h : p.states = [t]) : popstate p v = { p with states := [] } := by
  obtain ⟨a, e, s, b, l, c, pe, lb, fl⟩ := p
  simp at h; subst h
  simp [popstate, popstateAux]

theorem writeState_topPtr_fault {m : MP} (h : m.p.states ≠ []) (f : Frame → Frame) : (writeState m (topPtr m) f).fault = m.fault :=
  (isTop_topPtr h).write_fault f

/-- `popstateM` computes `popstate`; it never pops the root frame and never reads below the stack, for which the frame-stack
    shape suffices -/
theorem popstateM_spec : ∀ (fuel : Nat) (m : MP) (v : Value), m.p.states.length ≤ fuel →
    (popstateM fuel m v).p = popstate m.p v ∧
    (okFrames m.p.states = true → 2 ≤ m.p.states.length → (popstateM fuel m v).fault = m.fault) := by
  intro fuel
  induction fuel with
  | zero =>
    intro m v h
    have : m.p.states = [] := List.length_eq_zero_iff.mp (Nat.le_zero.mp h)
    refine ⟨?_, fun _ h2 => by omega⟩
    rw [popstate_nil _ _ this]; rfl
  | succ n ih =>
    intro m v h
    cases hs : m.p.states with
    | nil =>
      refine ⟨?_, fun _ h2 => by simp at h2⟩
      rw [popstate_nil _ _ hs]
      have h1 : (decStateM m).p.states = [] := by simp [hs]
      simp only [popstateM, readState_chk, readState_topPtr, chk_p, h1, List.headD_nil, default_flags, hasFlag_zero]
      obtain ⟨⟨a, e, s, b, l, c, pe, lb, fl⟩, k, g, f, hk⟩ := m
      simp at hs; subst hs; simp
    | cons top rest =>
      cases rest with
      | nil =>
        refine ⟨?_, fun _ h2 => by simp at h2⟩
        rw [popstate_one _ _ _ hs]
        have h1 : (decStateM m).p.states = [] := by simp [hs]
        simp only [popstateM, readState_chk, readState_topPtr, chk_p, h1, List.headD_nil, default_flags, hasFlag_zero]
        simp [hs]
      | cons newtop rest' =>
        have hlen : (newtop :: rest').length ≤ n := by rw [hs] at h; simp at h ⊢; omega
        have h1 : (decStateM m).p.states = newtop :: rest' := by simp [hs]
        have hne : (decStateM m).p.states ≠ [] := by rw [h1]; simp
        have hf1 : (decStateM m).fault = m.fault := by simp [decStateM_fault, hs]
        simp only [popstateM, derefOk_topPtr hne, chk_true, readState_topPtr, h1, List.headD_cons, hs]
        rw [popstate]
        simp only [hs, popstateAux]
        have hw := writeState_topPtr_p (decStateM m) (fun s => { s with argn := s.argn + 1 })
        have hst : setTop (decStateM m).p (fun s => { s with argn := s.argn + 1 })
            = { m.p with states := { newtop with argn := newtop.argn + 1 } :: rest' } := by simp [setTop, hs]
        rw [hst] at hw
        by_cases hc : hasFlag newtop.flags PFLAG_CONTAINER = true
        · simp only [hc, if_true]
          refine ⟨?_, fun _ _ => by split <;> simp [writeState_topPtr_fault hne, hf1]⟩
          cases rest' with
          | nil => simp [hw]
          | cons r2 r3 => simp [hw]
        · simp only [hc, Bool.false_eq_true, if_false]
          by_cases hm : hasFlag newtop.flags PFLAG_READERMAC = true
          · simp only [hm, if_true]
            have ih' := fun v' => ih (decStateM m) v' (by rw [h1]; exact hlen)
            refine ⟨by rw [(ih' _).1]; simp [popstate, hs], fun hok _ => ?_⟩
            -- a reader-macro frame is not the bottom frame
            rw [okFrames_cons (by simp)] at hok
            simp only [Bool.and_eq_true] at hok
            rw [h1] at ih'
            rw [(ih' _).2 hok.2 (by
              cases rest' with
              | nil => simp [okFrames, isCont, hc] at hok
              | cons a b => simp), hf1]
          · exact ⟨by simp [hm, hs], fun _ _ => by simp [hm, hf1]⟩

theorem popstateM_p (fuel : Nat) (m : MP) (v : Value) (h : m.p.states.length ≤ fuel) : (popstateM fuel m v).p = popstate m.p v :=
  (popstateM_spec fuel m v h).1

theorem popstateM_safe (m : MP) (v : Value) (hok : okFrames m.p.states = true) (h2 : 2 ≤ m.p.states.length) :
    (popstateM m.p.states.length m v).fault = m.fault :=
  (popstateM_spec _ m v (Nat.le_refl _)).2 hok h2

@[simp] theorem isTop_write_iff (m : MP) (sp sp' : SPtr) (f : Frame → Frame) : IsTop (writeState m sp' f) sp ↔ IsTop m sp := by
  simp [IsTop, writeState_len]
@[simp] theorem isTop_pushBuf_iff (m : MP) (sp : SPtr) (c : B) : IsTop (pushBufM m c) sp ↔ IsTop m sp := Iff.rfl
@[simp] theorem isTop_chk_iff (m : MP) (sp : SPtr) (b : Bool) : IsTop (m.chk b) sp ↔ IsTop m sp := Iff.rfl
@[simp] theorem isTop_setError_iff (m : MP) (sp : SPtr) (e : String) : IsTop (setErrorM m e) sp ↔ IsTop m sp := Iff.rfl
@[simp] theorem isTop_clearBuf_iff (m : MP) (sp : SPtr) : IsTop (clearBufM m) sp ↔ IsTop m sp := Iff.rfl
@[simp] theorem isTop_pushBytes_iff (m : MP) (sp : SPtr) (bs : List B) : IsTop (pushBytesM m bs) sp ↔ IsTop m sp := by
  simp [IsTop, pushBytesM_sgen, pushBytesM_p]

theorem escapehM_p {m : MP} {sp : SPtr} (h : IsTop m sp) {s : Frame} {rest : List Frame} (hs : m.p.states = s :: rest) (c : B) :
    (escapehM m sp c).1.p = (escapeh m.p s c).1 ∧ (escapehM m sp c).2 = (escapeh m.p s c).2 := by
  unfold escapehM escapeh
  cases toHex c with
  | none => simp
  | some d =>
    simp only [IsTop.read, IsTop.write_p, h, isTop_write_iff, isTop_pushBuf_iff, setTop, hs, List.headD_cons]
    by_cases hcnt : (s.counter - 1 == 0) = true
    · simp [hcnt, IsTop.write_p, h, setTop, hs, pushBuf]
    · simp [hcnt, IsTop.write_p, h, setTop, hs]

theorem escapehM_safe {m : MP} {sp : SPtr} (h : IsTop m sp) (c : B) : (escapehM m sp c).1.fault = m.fault := by
  unfold escapehM
  cases toHex c with
  | none => simp
  | some d =>
    simp only []
    split <;> simp [IsTop.write_fault, h]

theorem escapeuM_p {m : MP} {sp : SPtr} (h : IsTop m sp) {s : Frame} {rest : List Frame} (hs : m.p.states = s :: rest) (c : B) :
    (escapeuM m sp c).1.p = (escapeu m.p s c).1 ∧ (escapeuM m sp c).2 = (escapeu m.p s c).2 := by
  unfold escapeuM escapeu
  cases toHex c with
  | none => simp
  | some d =>
    simp only [IsTop.read, IsTop.write_p, h, isTop_write_iff, isTop_pushBuf_iff, setTop, hs, List.headD_cons]
    by_cases hcnt : (s.counter - 1 == 0) = true
    · by_cases hcp : s.argn <<< 4 + d > maxCodepoint
      · simp [hcnt, hcp, IsTop.write_p, h, setTop, hs]
      · simp [hcnt, hcp, IsTop.write_p, h, setTop, hs, pushBytesM_p]
    · simp [hcnt, IsTop.write_p, h, setTop, hs]

theorem escapeuM_safe {m : MP} {sp : SPtr} (h : IsTop m sp) (c : B) : (escapeuM m sp c).1.fault = m.fault := by
  unfold escapeuM
  cases toHex c with
  | none => simp
  | some d =>
    simp only []
    split
    · split <;> simp [IsTop.write_fault, h, pushBytesM_fault]
    · simp [IsTop.write_fault, h]

theorem escape1M_p {m : MP} {sp : SPtr} (h : IsTop m sp) {s : Frame} {rest : List Frame} (hs : m.p.states = s :: rest) (c : B) :
    (escape1M m sp c).1.p = (escape1 m.p s c).1 ∧ (escape1M m sp c).2 = (escape1 m.p s c).2 := by
  unfold escape1M escape1
  by_cases h1 : (c == 120) = true
  · simp [h1, IsTop.write_p, h, setTop, hs]
  · by_cases h2 : (c == 117 || c == 85) = true
    · simp only [h1, h2, if_true, Bool.false_eq_true, if_false]
      simp [IsTop.write_p, h, setTop, hs]
    · simp only [h1, h2, Bool.false_eq_true, if_false]
      cases checkEscape c with
      | none => simp
      | some e => simp [IsTop.write_p, h, setTop, hs, pushBuf]

theorem escape1M_safe {m : MP} {sp : SPtr} (h : IsTop m sp) (c : B) : (escape1M m sp c).1.fault = m.fault := by
  unfold escape1M
  split
  · simp [IsTop.write_fault, h]
  · split
    · simp [IsTop.write_fault, h]
    · cases checkEscape c with
      | none => simp
      | some e => simp [IsTop.write_fault, h]

theorem stringendM_p {m : MP} {sp : SPtr} (h : IsTop m sp) {s : Frame} {rest : List Frame} (hs : m.p.states = s :: rest) :
    (stringendM m sp).p = stringend m.p s := by
  have hr : readState m sp = s := by rw [h.read, hs]; rfl
  unfold stringendM stringend
  simp only [h.deref, chk_true, hr, hs, List.headD_cons, dedentI_spec, Bool.or_true, chk_p]
  rw [popstateM_p _ _ _ (by simp [hs])]
  simp [hs]

theorem stringendM_safe {m : MP} {sp : SPtr} (h : IsTop m sp) (hok : okFrames m.p.states = true) (h2 : 2 ≤ m.p.states.length) :
    (stringendM m sp).fault = m.fault := by
  unfold stringendM
  simp only [h.deref, chk_true, dedentI_spec, Bool.or_true]
  exact popstateM_safe (clearBufM m) _ hok h2

theorem two_frames {s : Frame} {rest : List Frame} (hok : okFrames (s :: rest) = true) (hc : s.consumer ≠ .root) :
    2 ≤ (s :: rest).length := by
  have := (nonroot_top hok hc).1
  cases rest with
  | nil => exact absurd rfl this
  | cons a b => simp

theorem stringcharM_p {m : MP} {sp : SPtr} (h : IsTop m sp) {s : Frame} {rest : List Frame} (hs : m.p.states = s :: rest) (c : B) :
    (stringcharM m sp c).1.p = (stringchar m.p s c).1 ∧ (stringcharM m sp c).2 = (stringchar m.p s c).2 := by
  unfold stringcharM stringchar
  by_cases h1 : (c == 92) = true
  · simp [h1, IsTop.write_p, h]
  · by_cases h2 : (c == 34) = true
    · simp [h1, h2, stringendM_p h hs]
    · by_cases h3 : (c != 10 && c != 13) = true
      · simp [h1, h2, h3]
      · simp [h1, h2, h3]

theorem stringcharM_safe {m : MP} {sp : SPtr} (h : IsTop m sp) {s : Frame} {rest : List Frame} (hs : m.p.states = s :: rest)
    (hok : okFrames m.p.states = true) (hc : s.consumer ≠ .root) (c : B) : (stringcharM m sp c).1.fault = m.fault := by
  unfold stringcharM
  split
  · simp [IsTop.write_fault, h]
  · split
    · exact stringendM_safe h hok (by rw [hs]; rw [hs] at hok; exact two_frames hok hc)
    · split <;> simp

theorem commentM_p (m : MP) (sp : SPtr) (s : Frame) (c : B) :
    (commentM m sp c).1.p = (comment m.p s c).1 ∧ (commentM m sp c).2 = (comment m.p s c).2 := by
  unfold commentM comment
  split <;> simp

theorem commentM_safe {m : MP} (sp : SPtr) (hne : m.p.states ≠ []) (c : B) : (commentM m sp c).1.fault = m.fault := by
  have : 0 < m.p.states.length := List.length_pos_iff.mpr hne
  unfold commentM
  split <;> simp [decStateM_fault, this]

theorem atsignM_p (m : MP) (sp : SPtr) (s : Frame) (c : B) :
    (atsignM m sp c).1.p = (atsign m.p s c).1 ∧ (atsignM m sp c).2 = (atsign m.p s c).2 := by
  have : Prod.map MP.p id (atsignM m sp c) = atsign m.p s c := by
    unfold atsignM atsign
    simp only [apply_ite (Prod.map MP.p id)]
    rfl
  exact ⟨congrArg Prod.fst this, congrArg Prod.snd this⟩

theorem atsignM_safe {m : MP} (sp : SPtr) (hne : m.p.states ≠ []) (c : B) : (atsignM m sp c).1.fault = m.fault := by
  have : 0 < m.p.states.length := List.length_pos_iff.mpr hne
  unfold atsignM
  simp only [apply_ite (fun r : MP × Bool => r.1.fault), pushstateM_fault, pushBufM_fault, decStateM_fault, this, decide_true,
    Bool.not_true, Bool.or_false, ite_self]

theorem tokencharM_p (scan : List B → Option String) {m : MP} {sp : SPtr} (h : IsTop m sp) {s : Frame} {rest : List Frame}
    (hs : m.p.states = s :: rest) (c : B) :
    (tokencharM scan m sp c).1.p = (tokenchar scan m.p s c).1 ∧ (tokencharM scan m sp c).2 = (tokenchar scan m.p s c).2 := by
  have hr : readState m sp = s := by rw [h.read, hs]; rfl
  unfold tokencharM tokenchar
  by_cases h1 : isSymbolChar c = true
  · simp only [h1, if_true]
    by_cases h2 : c > 127
    · simp [h2, IsTop.write_p, h]
    · simp [h2]
  · simp only [h1, Bool.false_eq_true, if_false, chk_p, readState_chk, hr]
    cases classifyToken scan m.p.buf (s.argn != 0) with
    | error e => simp
    | ok v =>
      simp only []
      rw [popstateM_p _ _ _ (by simp)]
      simp

theorem tokencharM_safe (scan : List B → Option String) {m : MP} {sp : SPtr} (h : IsTop m sp) {s : Frame} {rest : List Frame}
    (hs : m.p.states = s :: rest) (hok : okFrames m.p.states = true) (hc : s.consumer ≠ .root) (c : B)
    (hb : m.p.buf ≠ [] ∨ isSymbolChar c = true) : (tokencharM scan m sp c).1.fault = m.fault := by
  unfold tokencharM
  by_cases h1 : isSymbolChar c = true
  · simp only [h1, if_true]
    split <;> simp [IsTop.write_fault, h]
  · have hbuf : 0 < m.p.buf.length := by
      rcases hb with hb | hb
      · exact List.length_pos_iff.mpr hb
      · exact absurd hb h1
    simp only [h1, Bool.false_eq_true, if_false, hbuf, decide_true, chk_true, h.deref]
    cases classifyToken scan m.p.buf ((readState m sp).argn != 0) with
    | error e => simp
    | ok v =>
      simp only []
      have h2 : 2 ≤ m.p.states.length := by rw [hs]; rw [hs] at hok; exact two_frames hok hc
      exact popstateM_safe (clearBufM m) _ hok h2

theorem longstringM_p {m : MP} {sp : SPtr} (h : IsTop m sp) {s : Frame} {rest : List Frame} (hs : m.p.states = s :: rest) (c : B) :
    (longstringM m sp c).1.p = (longstring m.p s c).1 ∧ (longstringM m sp c).2 = (longstring m.p s c).2 := by
  have hr : readState m sp = s := by rw [h.read, hs]; rfl
  unfold longstringM longstring
  simp only [h.deref, chk_true, hr]
  by_cases h1 : hasFlag s.flags PFLAG_INSTRING = true
  · simp only [h1, if_true]
    by_cases h2 : (c == 96) = true
    · simp [h2, IsTop.write_p, h, setTop, hs]
    · simp [h2]
  · simp only [h1, Bool.false_eq_true, if_false]
    by_cases h2 : hasFlag s.flags PFLAG_END_CANDIDATE = true
    · simp only [h2, if_true]
      by_cases h3 : (s.counter == s.argn) = true
      · simp [h3, stringendM_p h hs]
      · simp only [h3, Bool.false_eq_true, if_false]
        by_cases h4 : (c == 96 && decide (s.counter < s.argn)) = true
        · simp [h4, IsTop.write_p, h]
        · simp [h4, IsTop.write_p, h, setTop, hs, pushBytesM_p, pushBuf]
    · simp only [h2, Bool.false_eq_true, if_false]
      by_cases h3 : (c != 96) = true
      · simp [h3, IsTop.write_p, h, setTop, hs, pushBuf]
      · simp [h3, IsTop.write_p, h]

theorem longstringM_safe {m : MP} {sp : SPtr} (h : IsTop m sp) {s : Frame} {rest : List Frame} (hs : m.p.states = s :: rest)
    (hok : okFrames m.p.states = true) (hc : s.consumer ≠ .root) (c : B) : (longstringM m sp c).1.fault = m.fault := by
  have h2 : 2 ≤ m.p.states.length := by rw [hs]; rw [hs] at hok; exact two_frames hok hc
  unfold longstringM
  simp only [h.deref, chk_true]
  simp [apply_ite (fun r : MP × Bool => r.1.fault), IsTop.write_fault, h, pushBytesM_fault, stringendM_safe h hok h2]

theorem closeDelimM_p {m : MP} {sp : SPtr} (h : IsTop m sp) {s : Frame} {rest : List Frame} (hs : m.p.states = s :: rest) (c : B) :
    (closeDelimM m sp c).1.p = (closeDelim m.p s c).1 ∧ (closeDelimM m sp c).2 = (closeDelim m.p s c).2 := by
  have hr : readState m sp = s := by rw [h.read, hs]; rfl
  unfold closeDelimM closeDelim
  by_cases h1 : (m.p.states.length == 1) = true
  · simp [h1]
  · simp only [h1, Bool.false_eq_true, if_false, h.deref, chk_true, hr]
    by_cases h2 : ((c == 41 && hasFlag s.flags PFLAG_PARENS) || (c == 93 && hasFlag s.flags PFLAG_SQRBRACKETS)) = true
    · simp only [h2, if_true, takeArgs]
      rw [popstateM_p _ _ _ (by simp)]
      simp
    · simp only [h2, Bool.false_eq_true, if_false]
      by_cases h3 : (c == 125 && hasFlag s.flags PFLAG_CURLYBRACKETS) = true
      · simp only [h3, if_true]
        by_cases h4 : (s.argn % 2 == 1) = true
        · simp [h4]
        · simp only [h4, Bool.false_eq_true, if_false, takeArgs]
          rw [popstateM_p _ _ _ (by simp)]
          simp
      · simp [h3]

theorem closeDelimM_safe {m : MP} {sp : SPtr} (h : IsTop m sp) {s : Frame} {rest : List Frame} (hs : m.p.states = s :: rest)
    (hok : okFrames m.p.states = true) (hargs : 2 ≤ m.p.states.length → s.argn ≤ m.p.args.length) (c : B) :
    (closeDelimM m sp c).1.fault = m.fault := by
  have hr : readState m sp = s := by rw [h.read, hs]; rfl
  have hpos : 0 < m.p.states.length := by rw [hs]; simp
  unfold closeDelimM
  by_cases h1 : (m.p.states.length == 1) = true
  · simp [h1, delimErrorM_fault]
  · have h2l : 2 ≤ m.p.states.length := by
      have : m.p.states.length ≠ 1 := by simpa using h1
      omega
    have ha := hargs h2l
    have hpf : (popArgsM m s.argn).2.fault = m.fault := by simp [popArgsM_fault, ha]
    have hpop : ∀ v, (popstateM m.p.states.length (popArgsM m s.argn).2 v).fault = m.fault := fun v =>
      (popstateM_safe (popArgsM m s.argn).2 v hok h2l).trans hpf
    have : m.p.states.length - 1 < m.p.states.length := by omega
    simp only [h1, Bool.false_eq_true, if_false, h.deref, chk_true, hr]
    simp [apply_ite (fun r : MP × Bool => r.1.fault), hpop, delimErrorM_fault, this]

theorem rootM_p {m : MP} {sp : SPtr} (h : IsTop m sp) {s : Frame} {rest : List Frame} (hs : m.p.states = s :: rest) (c : B) :
    (rootM m sp c).1.p = (root m.p s c).1 ∧ (rootM m sp c).2 = (root m.p s c).2 := by
  have hcl : Prod.map MP.p id (closeDelimM m sp c) = closeDelim m.p s c := Prod.ext (closeDelimM_p h hs c).1 (closeDelimM_p h hs c).2
  have : Prod.map MP.p id (rootM m sp c) = root m.p s c := by
    unfold rootM root
    simp only [apply_ite (Prod.map MP.p id), hcl]
    rfl
  exact ⟨congrArg Prod.fst this, congrArg Prod.snd this⟩

theorem rootM_safe {m : MP} {sp : SPtr} (h : IsTop m sp) {s : Frame} {rest : List Frame} (hs : m.p.states = s :: rest)
    (hok : okFrames m.p.states = true) (hargs : 2 ≤ m.p.states.length → s.argn ≤ m.p.args.length) (c : B) :
    (rootM m sp c).1.fault = m.fault := by
  unfold rootM
  simp only [apply_ite (fun r : MP × Bool => r.1.fault), pushstateM_fault, setErrorM_fault, closeDelimM_safe h hs hok hargs c, ite_self]

theorem stepM_p (scan : List B → Option String) (m : MP) (c : B) (hne : m.p.states ≠ []) :
    (stepM scan m c).1.p = (step scan m.p c).1 ∧ (stepM scan m c).2 = (step scan m.p c).2 := by
  have h := isTop_topPtr hne
  cases hs : m.p.states with
  | nil => exact absurd hs hne
  | cons s rest =>
    have hr : readState m (topPtr m) = s := by rw [h.read, hs]; rfl
    unfold stepM step
    simp only [h.deref, chk_true, hr, hs]
    cases hc : s.consumer <;> simp only []
    · exact rootM_p h hs c
    · exact tokencharM_p scan h hs c
    · exact stringcharM_p h hs c
    · exact escape1M_p h hs c
    · exact escapehM_p h hs c
    · exact escapeuM_p h hs c
    · exact longstringM_p h hs c
    · exact commentM_p m _ s c
    · exact atsignM_p m _ s c

/-- a token frame on top has something in the scratch buffer (what `p->buf[0]` in `tokenchar` needs), or `X` -/
def TokOK (X : Prop) (p : Parser) : Prop :=
  ∀ s rest, p.states = s :: rest → s.consumer = .tokenchar → p.buf ≠ [] ∨ X

theorem TokOK.mono {X Y : Prop} {p : Parser} (f : X → Y) (h : TokOK X p) : TokOK Y p :=
  fun s rest hs hc => (h s rest hs hc).imp_right f

/-- `TokOK` with the way out that the byte is a symbol character, so that the token does not end -/
def TokB (p : Parser) (c : B) : Prop :=
  ∀ s rest, p.states = s :: rest → s.consumer = .tokenchar → p.buf ≠ [] ∨ isSymbolChar c = true

theorem wf_top_argn {p : Parser} (hwf : WF p) {s : Frame} {rest : List Frame} (hs : p.states = s :: rest)
    (hc : s.consumer = .root) (h2 : 2 ≤ p.states.length) : s.argn ≤ p.args.length := by
  have hsum := hwf.sum
  have hok := hwf.ok
  rw [hs] at hsum hok h2
  cases rest with
  | nil => simp at h2
  | cons g l =>
    rw [inner_cons (by simp)] at hsum
    rw [okFrames_cons (by simp)] at hok
    simp only [Bool.and_eq_true] at hok
    cases hcont : isCont s with
    | true => simp [hcont] at hsum; omega
    | false =>
      have := hok.1
      simp [okF, hcont, hc] at this
      omega

/-- no checked access of one consumer call fails on a well-formed parser -/
theorem stepM_safe (scan : List B → Option String) (m : MP) (c : B) (hwf : WF m.p) (ht : TokB m.p c) :
    (stepM scan m c).1.fault = m.fault := by
  have hne : m.p.states ≠ [] := okFrames_ne_nil hwf.ok
  have h := isTop_topPtr hne
  cases hs : m.p.states with
  | nil => exact absurd hs hne
  | cons s rest =>
    have hr : readState m (topPtr m) = s := by rw [h.read, hs]; rfl
    have hok := hwf.ok
    unfold stepM
    simp only [h.deref, chk_true, hr]
    cases hc : s.consumer <;> simp only []
    · exact rootM_safe h hs hok (fun h2 => wf_top_argn hwf hs hc h2) c
    · exact tokencharM_safe scan h hs hok (by rw [hc]; decide) c (ht s rest hs hc)
    · exact stringcharM_safe h hs hok (by rw [hc]; decide) c
    · exact escape1M_safe h c
    · exact escapehM_safe h c
    · exact escapeuM_safe h c
    · exact longstringM_safe h hs hok (by rw [hc]; decide) c
    · exact commentM_safe _ hne c
    · exact atsignM_safe _ hne c

end JanetModel.Parse
