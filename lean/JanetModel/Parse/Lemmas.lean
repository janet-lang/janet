/- The consume loop: termination measure, what `advancePos` and `consumeRaw` are, invariants of the loop from invariants of a step. -/
import JanetModel.Parse.Act

namespace JanetModel.Parse
open JanetModel.Gen.Parse

theorem popstateAux_length (states : List Frame) (val : Value) :
    (popstateAux states val).1.length ≤ states.length - 1 := by
  induction states generalizing val with
  | nil => simp [popstateAux]
  | cons top rest ih =>
    cases rest with
    | nil => simp [popstateAux]
    | cons newtop rest' =>
      simp only [popstateAux]
      by_cases h1 : hasFlag newtop.flags PFLAG_CONTAINER = true
      · simp only [h1, if_true]
        by_cases h2 : rest'.isEmpty = true <;> simp [h2]
      · simp only [h1]
        by_cases h3 : hasFlag newtop.flags PFLAG_READERMAC = true
        · simp only [h3, if_true]
          have := ih (Value.tuple false newtop.line newtop.column
            [Value.sym (strBytes (readerMacName (newtop.flags &&& 0xFF))), val.withSm top.line top.column])
          simp at this ⊢
          omega
        · simp [h3]

theorem popstateAux_frames : ∀ (rest : List Frame) (top : Frame) (v : Value), ∀ f ∈ (popstateAux (top :: rest) v).1,
    ∃ g ∈ rest, f.consumer = g.consumer ∧ f.flags = g.flags
  | [], top, v => by simp [popstateAux]
  | newtop :: rest', top, v => by
    unfold popstateAux
    simp only []
    split
    · split
      all_goals
        intro f hf
        simp only [List.mem_cons] at hf
        rcases hf with rfl | hf
        · exact ⟨newtop, by simp, rfl, rfl⟩
        · exact ⟨f, by simp [hf], rfl, rfl⟩
    · split
      · intro f hf
        obtain ⟨g, hg, h⟩ := popstateAux_frames rest' newtop _ f hf
        exact ⟨g, by simp [hg], h⟩
      · intro f hf
        exact ⟨f, hf, rfl, rfl⟩

theorem popstate_length (p : Parser) (val : Value) :
    (popstate p val).states.length ≤ p.states.length - 1 := by
  simp only [popstate]
  exact popstateAux_length p.states val

/-- termination measure of `while (!consumed && !parser->error)` over a stack of `n` frames: a call that does not consume pops a
    frame (end of a token: `2n`, of a long string: `2n+1`, both above any value for `n-1` frames), replaces the top frame
    (`atsign` → `tokenchar`: `2n+1` → `2n`) or pushes a token frame that consumes next (`root`: 2 → 1) -/
def mu (p : Parser) (c : B) : Nat :=
  match p.states with
  | [] => 1
  | top :: _ =>
    match top.consumer with
    | .tokenchar => if isSymbolChar c then 1 else 2 * p.states.length
    | .atsign => 2 * p.states.length + 1
    | .longstring => 2 * p.states.length + 1
    | .root => 2
    | _ => 1

theorem mu_pos (p : Parser) (c : B) : 1 ≤ mu p c := by
  unfold mu
  split
  · omega
  · rename_i top rest heq
    split <;> try omega
    · split <;> simp [heq] <;> omega

theorem mu_le (p : Parser) (c : B) : mu p c ≤ 2 * p.states.length + 1 := by
  unfold mu
  split
  · omega
  · rename_i top rest heq
    split <;> simp [heq] <;> try omega
    · split <;> omega

theorem mu_cons {p : Parser} {s : Frame} {rest : List Frame} (c : B) (hs : p.states = s :: rest) :
    mu p c = match s.consumer with
      | .tokenchar => if isSymbolChar c then 1 else 2 * (rest.length + 1)
      | .atsign => 2 * (rest.length + 1) + 1
      | .longstring => 2 * (rest.length + 1) + 1
      | .root => 2
      | _ => 1 := by
  unfold mu
  rw [hs]
  rfl

theorem step_measure (scan : List B → Option String) (p : Parser) (c : B)
    (h : (step scan p c).2 = false) : (step scan p c).1.error.isSome = true ∨ mu (step scan p c).1 c < mu p c := by
  cases hs : p.states with
  | nil => rw [step_nil scan c hs] at h; cases h
  | cons s rest =>
    rw [step_act scan p s rest c hs] at h ⊢
    have hok := Act.of_ok scan s p.buf rest.isEmpty c
    generalize Act.of scan s p.buf rest.isEmpty c = ab at h hok
    obtain ⟨a, b⟩ := ab
    simp only [Act.apply] at h ⊢
    subst h
    have hlen : p.states.length = rest.length + 1 := by rw [hs]; rfl
    -- only these leave the byte unconsumed: a latched literal, a fresh token frame, the end of a token or long string
    cases a
    case fail e => exact Or.inl rfl
    case push k F =>
      obtain ⟨hr, -, hk⟩ := hok
      by_cases hkt : k = .tokenchar
      · subst hkt
        right
        rw [mu_cons c hs, hr, mu_cons c (s := ⟨0, 0, F, p.line, p.column, .tokenchar⟩) (rest := p.states) rfl]
        simp [(if_pos rfl ▸ hk).2]
      · rw [if_neg hkt] at hk; cases hk
    case swap k F bs =>
      obtain ⟨hr, -, hk⟩ := hok
      by_cases hkt : k = .tokenchar
      · subst hkt
        right
        rw [mu_cons c hs, hr, mu_cons c (s := ⟨0, 0, F, p.line, p.column, .tokenchar⟩) (rest := p.states.drop 1) rfl, hs]
        simp only [List.drop_one, List.tail_cons]
        split <;> omega
      · rw [if_neg hkt] at hk; cases hk
    case pop v =>
      right
      have hl := popstate_length { p with buf := [] } v
      have hm := mu_le (popstate { p with buf := [] } v) c
      rw [mu_cons c hs]
      simp only [Act.run, hlen] at hl hm ⊢
      rcases hok with ⟨-, hb⟩ | ⟨hc, -⟩ | ⟨hc, -, hsym⟩
      · cases hb
      · rw [hc]; simp only; omega
      · rw [hc]; simp only [hsym, Bool.false_eq_true, if_false]; omega
    all_goals exact absurd hok.1 (by simp)

theorem loop_total (scan : List B → Option String) (c : B) :
    ∀ fuel p, mu p c < fuel → (consumeLoop scan fuel p c).isSome = true := by
  intro fuel
  induction fuel with
  | zero => intro p h; omega
  | succ n ih =>
    intro p h
    unfold consumeLoop
    by_cases he : p.error.isSome = true
    · simp [he]
    · simp only [he]
      cases hstep : step scan p c with
      | mk p' consumed =>
        cases consumed with
        | true => simp
        | false =>
          have hm := step_measure scan p c (by rw [hstep])
          rw [hstep] at hm
          simp only [Bool.false_eq_true, if_false]
          rcases hm with he' | hlt
          · have h1 : 1 ≤ mu p c := mu_pos p c
            cases n with
            | zero => omega
            | succ k => unfold consumeLoop; simp [he']
          · exact ih p' (by simp only at hlt; omega)

theorem consumeLoop_total (scan : List B → Option String) (p : Parser) (c : B) :
    (consumeLoop scan (loopFuel p) p c).isSome = true := by
  apply loop_total
  have := mu_le p c
  unfold loopFuel
  omega

theorem consumeLoop_mono (scan : List B → Option String) (c : B) : ∀ (f : Nat) (p q : Parser),
    consumeLoop scan f p c = some q → ∀ f', f ≤ f' → consumeLoop scan f' p c = some q := by
  intro f
  induction f with
  | zero => intro p q h; simp [consumeLoop] at h
  | succ n ih =>
    intro p q h f' hf
    cases f' with
    | zero => omega
    | succ m =>
      unfold consumeLoop at h ⊢
      by_cases he : p.error.isSome = true
      · simpa [he] using h
      · simp only [he] at h ⊢
        cases hk : (step scan p c).2 with
        | true => simpa [hk] using h
        | false =>
          simp only [hk, Bool.false_eq_true, if_false] at h ⊢
          exact ih _ _ h m (by omega)

theorem consumeLoop_fuel (scan : List B → Option String) (p : Parser) (c : B) {f f' : Nat} (h : mu p c < f) (h' : mu p c < f') :
    consumeLoop scan f p c = consumeLoop scan f' p c := by
  obtain ⟨q, hq⟩ := Option.isSome_iff_exists.mp (loop_total scan c f p h)
  obtain ⟨q', hq'⟩ := Option.isSome_iff_exists.mp (loop_total scan c f' p h')
  have a := consumeLoop_mono scan c f p q hq (max f f') (Nat.le_max_left _ _)
  have b := consumeLoop_mono scan c f' p q' hq' (max f f') (Nat.le_max_right _ _)
  rw [hq, hq', ← Option.some.inj (a.symm.trans b)]

def advL (l : Nat) (lb : Int) (ch : B) : Nat := if ch == 13 then l + 1 else if ch == 10 then (if lb != 13 then l + 1 else l) else l
def advC (c : Nat) (ch : B) : Nat := if ch == 13 then 0 else if ch == 10 then 0 else c + 1

theorem advancePos_eq (p : Parser) (c : B) :
    advancePos p c = { p with line := advL p.line p.lookback c, column := advC p.column c } := by
  unfold advancePos advL advC
  split
  · rfl
  · split <;> rfl

theorem advancePos_args (p : Parser) (c : B) : (advancePos p c).args = p.args := by rw [advancePos_eq]
theorem advancePos_error (p : Parser) (c : B) : (advancePos p c).error = p.error := by rw [advancePos_eq]
theorem advancePos_states (p : Parser) (c : B) : (advancePos p c).states = p.states := by rw [advancePos_eq]
theorem advancePos_buf (p : Parser) (c : B) : (advancePos p c).buf = p.buf := by rw [advancePos_eq]
theorem advancePos_pending (p : Parser) (c : B) : (advancePos p c).pending = p.pending := by rw [advancePos_eq]
theorem advancePos_flag (p : Parser) (c : B) : (advancePos p c).flag = p.flag := by rw [advancePos_eq]

theorem consumeRaw_eq (scan : List B → Option String) (p : Parser) (c : B) :
    ∃ q, consumeLoop scan (loopFuel (advancePos p c)) (advancePos p c) c = some q ∧
      consumeRaw scan p c = { q with lookback := Int.ofNat c.toNat } := by
  obtain ⟨q, hq⟩ := Option.isSome_iff_exists.mp (consumeLoop_total scan (advancePos p c) c)
  exact ⟨q, hq, by unfold consumeRaw; simp only [hq, Option.getD_some]⟩

theorem checkDead_none_of {p : Parser} (he : p.error = none) (hf : p.flag = 0) : checkDead p = none := by
  simp [checkDead, he, hf]

/-- The rule of the consume loop on byte `c`: `P` at the head of every iteration, `Q` where the loop is left -- on a latched error
    or after a call that consumed the byte. -/
theorem consumeLoop_rule {P Q : Parser → Prop} (scan : List B → Option String) (c : B)
    (herr : ∀ p, P p → p.error.isSome = true → Q p)
    (hstep : ∀ p, P p → p.error = none → if (step scan p c).2 = true then Q (step scan p c).1 else P (step scan p c).1) :
    ∀ (fuel : Nat) (p q : Parser), P p → consumeLoop scan fuel p c = some q → Q q := by
  intro fuel
  induction fuel with
  | zero => intro p q _ h; cases h
  | succ n ih =>
    intro p q hp h
    unfold consumeLoop at h
    cases he : p.error with
    | some e => rw [he] at h; cases h; exact herr p hp (by rw [he]; rfl)
    | none =>
      have hq := hstep p hp he
      simp only [he, Option.isSome_none, Bool.false_eq_true, if_false] at h
      split at h
      · next hc => cases h; rwa [if_pos hc] at hq
      · next hc => exact ih _ q (by rwa [if_neg hc] at hq) h

section
variable {P : Parser → Prop} (scan : List B → Option String) (c : B)
  (hstep : ∀ p, p.error = none → P p → P (step scan p c).1)

include hstep in
/-- the loop only steps from parsers without a latched error -/
theorem consumeLoop_inv : ∀ (fuel : Nat) (p q : Parser), P p → consumeLoop scan fuel p c = some q → P q :=
  consumeLoop_rule scan c (fun _ hp _ => hp) (fun p hp he => by split <;> exact hstep p he hp)

include hstep in
theorem consumeRaw_inv (hpos : ∀ (p : Parser) (l c : Nat) (lb : Int), P p → P { p with line := l, column := c, lookback := lb })
    (p : Parser) (h : P p) : P (consumeRaw scan p c) := by
  obtain ⟨q, hq, hraw⟩ := consumeRaw_eq scan p c
  rw [hraw]
  refine hpos q q.line q.column _ (consumeLoop_inv scan c hstep _ _ q ?_ hq)
  rw [advancePos_eq]
  exact hpos p _ _ p.lookback h

end

end JanetModel.Parse
