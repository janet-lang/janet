/- Values up to tuple source-map positions: `Value.erase` zeroes every tuple's line/column (what `deep=` / `janet_equals`
   cannot see), and `keq` (the model of `janet_equals` on parser-produced values) does not look at them. -/
import JanetModel.Parse.Model

namespace JanetModel.Parse

mutual
def Value.erase : Value → Value
  | .tuple b _ _ l => .tuple b 0 0 (eraseL l)
  | .array l => .array (eraseL l)
  | .struct k v => .struct (eraseL k) (eraseL v)
  | .table k v => .table (eraseL k) (eraseL v)
  | v => v
def eraseL : List Value → List Value
  | [] => []
  | a :: l => a.erase :: eraseL l
end

/-- equal up to source-map positions (`deep=` on data: source maps are not part of a tuple's identity) -/
def SmEq (a b : Value) : Prop := a.erase = b.erase

theorem eraseL_eq_map (l : List Value) : eraseL l = l.map Value.erase := by
  induction l with
  | nil => simp [eraseL]
  | cons a l ih => simp [eraseL, ih]

@[simp] theorem eraseL_length (l : List Value) : (eraseL l).length = l.length := by
  rw [eraseL_eq_map]; simp

theorem eraseL_append (a b : List Value) : eraseL (a ++ b) = eraseL a ++ eraseL b := by
  simp [eraseL_eq_map]

theorem erase_withSm (v : Value) (l c : Nat) : (v.withSm l c).erase = v.erase := by
  cases v <;> simp [Value.withSm, Value.erase]

theorem erase_isNil (v : Value) : v.erase.isNil = v.isNil := by
  cases v <;> simp [Value.erase, Value.isNil]

theorem isNil_of_smEq {a b : Value} (h : a.erase = b.erase) : a.isNil = b.isNil := by
  rw [← erase_isNil a, ← erase_isNil b, h]

section
variable (n : Nat) (ih : ∀ x y : Value, keqF n x y = keqF n x.erase y.erase)
include ih

theorem zipAll_erase : ∀ (xs ys : List Value),
    (xs.zip ys).all (fun ab => keqF n ab.1 ab.2) = ((eraseL xs).zip (eraseL ys)).all (fun ab => keqF n ab.1 ab.2)
  | [], _ => by simp [eraseL]
  | _ :: _, [] => by simp [eraseL]
  | x :: xs, y :: ys => by
    simp only [List.zip_cons_cons, List.all_cons, eraseL]
    rw [← ih x y, zipAll_erase xs ys]

theorem lookup_erase (k : Value) : ∀ (ks vs : List Value),
    (((eraseL ks).zip (eraseL vs)).find? (fun kv => keqF n kv.1 k.erase)).map (·.2) =
      (((ks.zip vs).find? (fun kv => keqF n kv.1 k)).map (·.2)).map Value.erase
  | [], _ => by simp [eraseL]
  | _ :: _, [] => by simp [eraseL]
  | a :: ks, b :: vs => by
    simp only [List.zip_cons_cons, eraseL, List.find?_cons]
    rw [← ih a k]
    cases keqF n a k with
    | true => simp
    | false => simpa using lookup_erase k ks vs

theorem structAll_erase (k2 v2 : List Value) : ∀ (k1 v1 : List Value),
    (k1.zip v1).all (fun kv => match ((k2.zip v2).find? (fun kv' => keqF n kv'.1 kv.1)).map (·.2) with
        | some v => keqF n kv.2 v
        | none => false) =
    ((eraseL k1).zip (eraseL v1)).all (fun kv => match (((eraseL k2).zip (eraseL v2)).find? (fun kv' => keqF n kv'.1 kv.1)).map (·.2) with
        | some v => keqF n kv.2 v
        | none => false)
  | [], _ => by simp [eraseL]
  | _ :: _, [] => by simp [eraseL]
  | a :: k1, b :: v1 => by
    simp only [List.zip_cons_cons, List.all_cons, eraseL]
    rw [structAll_erase k2 v2 k1 v1, lookup_erase n ih a k2 v2]
    cases ((k2.zip v2).find? (fun kv' => keqF n kv'.1 a)).map (·.2) with
    | none => simp
    | some v => simp [← ih b v]

end

theorem keqF_erase : ∀ (n : Nat) (a b : Value), keqF n a b = keqF n a.erase b.erase := by
  intro n
  induction n with
  | zero => intro a b; simp [keqF]
  | succ n ih =>
    intro a b
    cases a <;> cases b <;> simp only [Value.erase, keqF]
    case tuple.tuple b1 l1 c1 i1 b2 l2 c2 i2 =>
      rw [zipAll_erase n ih i1 i2]; simp
    case struct.struct k1 v1 k2 v2 =>
      have h := structAll_erase n ih k2 v2 k1 v1
      simp only [eraseL_length]
      exact congrArg (fun t => (k1.length == k2.length && t)) h

theorem keq_erase (a b : Value) : keq a b = keq a.erase b.erase := keqF_erase 4096 a b

theorem keq_smEq {a a' b b' : Value} (ha : a.erase = a'.erase) (hb : b.erase = b'.erase) : keq a b = keq a' b' := by
  rw [keq_erase a b, keq_erase a' b', ha, hb]

-- well-formed dictionaries inside a value: hypothesis of `jdn_roundtrip`; executable, used by the driver

/-- keys of a dictionary literal, in order: each one differs (`janet_equals`) from all earlier ones -/
def freshAll : List Value → List Value → Bool
  | _, [] => true
  | acc, k :: ks => acc.all (fun o => !keq k o) && freshAll (acc ++ [k]) ks

/-- a well-formed struct / table content: as many values as keys, no nil key or value (neither can be stored), distinct keys -/
def keysOK (ks vs : List Value) : Bool :=
  ks.length == vs.length && ks.all (fun k => !k.isNil) && vs.all (fun v => !v.isNil) && freshAll [] ks

mutual
def Value.dictOK : Value → Bool
  | .tuple _ _ _ l => dictOKL l
  | .array l => dictOKL l
  | .struct k v => keysOK k v && dictOKL k && dictOKL v
  | .table k v => keysOK k v && dictOKL k && dictOKL v
  | _ => true
def dictOKL : List Value → Bool
  | [] => true
  | a :: l => a.dictOK && dictOKL l
end

theorem dictOKL_mem : ∀ {l : List Value}, dictOKL l = true → ∀ v ∈ l, v.dictOK = true
  | [], _, _, h => by cases h
  | a :: l, h, v, hv => by
    simp only [dictOKL, Bool.and_eq_true] at h
    rcases List.mem_cons.mp hv with rfl | hv
    · exact h.1
    · exact dictOKL_mem h.2 v hv

end JanetModel.Parse
