/- Shape facts the physical machine's read of `p->buf[0]` (tokenchar) rests on: every frame below the top one is handled by `root`
   (only `root` and `atsign` push frames), and a token frame on top has a non-empty scratch buffer whenever a consumer can see the
   end of the token.  With the accounting `WF` this is `PInv`, an invariant of the parser API (`PInv.api`) although not of a single
   consumer call: inside the consume loop the weaker `LoopHead` holds, and the loop is left with `PInv` (`consumeLoop_rule`). -/
import JanetModel.Parse.PhysLemmas

namespace JanetModel.Parse
open JanetModel.Gen.Parse

def AllRoot (l : List Frame) : Prop := ∀ f ∈ l, f.consumer = .root

/-- every frame below the top one is a `root` frame (container or reader macro) -/
def Below (p : Parser) : Prop := AllRoot p.states.tail

theorem AllRoot.tail {l : List Frame} (h : AllRoot l) : AllRoot l.tail := fun f hf => h f (List.mem_of_mem_tail hf)

theorem popstateAux_allroot (rest : List Frame) (top : Frame) (v : Value) (h : AllRoot rest) : AllRoot (popstateAux (top :: rest) v).1 := by
  intro f hf
  obtain ⟨g, hg, h1, _⟩ := popstateAux_frames rest top v f hf
  rw [h1]
  exact h g hg

theorem popstate_allroot {p : Parser} {top : Frame} {rest : List Frame} (hs : p.states = top :: rest) (h : AllRoot rest) (v : Value) :
    AllRoot (popstate p v).states := by
  have := popstateAux_allroot rest top v h
  unfold popstate
  rw [hs]
  exact this

/-- outcome of one consumer call: shape kept; a token frame left on top has something in the scratch buffer, or the byte is a
    symbol character still to be consumed -/
def Good (c : B) (r : Parser × Bool) : Prop :=
  Below r.1 ∧ TokOK (r.2 = false ∧ isSymbolChar c = true ∧ r.1.error = none) r.1

theorem good_allroot {c : B} {r : Parser × Bool} (h : AllRoot r.1.states) : Good c r := by
  refine ⟨h.tail, ?_⟩
  intro s rest hs hc
  have := h s (by rw [hs]; simp)
  rw [this] at hc; cases hc

theorem good_top {c : B} {r : Parser × Bool} {s : Frame} {rest : List Frame} (hs : r.1.states = s :: rest) (hr : AllRoot rest)
    (hc : s.consumer ≠ .tokenchar) : Good c r := by
  refine ⟨by unfold Below; rw [hs]; exact hr, ?_⟩
  intro s' rest' hs' hc'
  rw [hs] at hs'
  cases hs'
  exact absurd hc' hc

theorem good_buf {c : B} {r : Parser × Bool} {s : Frame} {rest : List Frame} (hs : r.1.states = s :: rest) (hr : AllRoot rest)
    (hb : r.1.buf ≠ [] ∨ (r.2 = false ∧ isSymbolChar c = true ∧ r.1.error = none)) : Good c r :=
  ⟨by unfold Below; rw [hs]; exact hr, fun _ _ _ _ => hb⟩

theorem allroot_cons {f : Frame} {l : List Frame} (hf : f.consumer = .root) (hl : AllRoot l) : AllRoot (f :: l) := by
  intro g hg
  simp only [List.mem_cons] at hg
  rcases hg with hg | hg
  · subst hg; exact hf
  · exact hl g hg

theorem Act.run_good {s : Frame} {rest : List Frame} {c : B} {ab : Act × Bool} (hab : Act.OK s rest.isEmpty c ab) {p : Parser}
    (hs : p.states = s :: rest) (hr : AllRoot rest) (ht : s.consumer = .tokenchar → p.buf ≠ [] ∨ isSymbolChar c = true)
    (he : p.error = none) : Good c (Act.apply p ab) := by
  obtain ⟨a, b⟩ := ab
  cases a
  case keep =>
    obtain ⟨-, hnotTok⟩ := hab
    exact good_top (r := (p, b)) hs hr hnotTok
  case fail e =>
    obtain ⟨-, hdelim⟩ := hab
    by_cases hc : s.consumer = .tokenchar
    · refine good_buf (r := ({ p with error := some e }, b)) hs hr (Or.inl ?_)
      rcases ht hc with h | h
      · exact h
      · rw [hdelim hc] at h; cases h
    · exact good_top (r := ({ p with error := some e }, b)) hs hr hc
  case upd f bs =>
    obtain ⟨-, -, hbuf⟩ := hab
    have hs' : (Act.apply p (.upd f bs, b)).1.states = f s :: rest := by simp [Act.apply, Act.run, setTop, hs]
    by_cases hc : (f s).consumer = .tokenchar
    · exact good_buf hs' hr (Or.inl (by simpa [Act.apply, Act.run, setTop, hs] using fun _ => hbuf hc))
    · exact good_top hs' hr hc
  case updFail f e =>
    obtain ⟨-, -, hnotTok, -⟩ := hab
    exact good_top (s := f s) (rest := rest) (by simp [Act.apply, Act.run, setTop, hs]) hr hnotTok
  case push k F =>
    obtain ⟨hroot, -, hk⟩ := hab
    have hall : AllRoot p.states := hs ▸ allroot_cons hroot hr
    by_cases hc : k = .tokenchar
    · rw [if_pos hc] at hk
      exact good_buf (r := (pushstate p k F, b)) rfl hall (Or.inr ⟨hk.1, hk.2, he⟩)
    · exact good_top (r := (pushstate p k F, b)) rfl hall hc
  case swap k F bs =>
    obtain ⟨-, -, hk⟩ := hab
    have hs' : (Act.apply p (.swap k F bs, b)).1.states = ⟨0, 0, F, p.line, p.column, k⟩ :: rest := by
      simp [Act.apply, Act.run, pushstate, hs]
    by_cases hc : k = .tokenchar
    · rw [if_pos hc] at hk
      exact good_buf hs' hr (Or.inl (by simpa [Act.apply, Act.run, pushstate] using fun _ => hk.2))
    · exact good_top hs' hr hc
  case pop v => exact good_allroot (popstate_allroot (p := { p with buf := [] }) hs hr v)
  case close mk => exact good_allroot (popstate_allroot (p := (takeArgs p (p.states.headD default).argn).2) hs hr _)
  case delim c' msg =>
    obtain ⟨-, hroot, -⟩ := hab
    have hall : AllRoot p.states := hs ▸ allroot_cons hroot hr
    exact good_allroot hall
  case dropTop => exact good_allroot (by simpa [Act.apply, Act.run, hs] using hr)

theorem step_good (scan : List B → Option String) (p : Parser) (c : B) (hb : Below p) (ht : TokB p c) (he : p.error = none) : Good c (step scan p c) := by
  cases hs : p.states with
  | nil => rw [step_nil scan c hs]; exact good_allroot (by simp [hs, AllRoot])
  | cons s rest =>
    rw [step_act scan p s rest c hs]
    exact Act.run_good (Act.of_ok scan s p.buf rest.isEmpty c) hs (by simpa [Below, hs] using hb) (ht s rest hs) he

/-- between calls: frames below the top are `root` frames and a token frame on top has a non-empty scratch buffer -/
def TokInv (p : Parser) : Prop := Below p ∧ ∀ s rest, p.states = s :: rest → s.consumer = .tokenchar → p.buf ≠ []

theorem tokInv_iff {p : Parser} : TokInv p ↔ Below p ∧ TokOK False p :=
  and_congr_right fun _ => forall_congr' fun _ => forall_congr' fun _ => forall_congr' fun _ => forall_congr' fun _ => (or_iff_left not_false).symm

theorem tokInv_init : TokInv Parser.init := by
  refine ⟨by simp [Below, AllRoot, Parser.init], ?_⟩
  intro s rest hs hc
  simp [Parser.init] at hs
  obtain ⟨h1, _⟩ := hs
  subst h1
  simp at hc

theorem tokInv_congr {p p' : Parser} (hs : p'.states.map (·.consumer) = p.states.map (·.consumer)) (hb : p'.buf = p.buf)
    (h : TokInv p) : TokInv p' := by
  obtain ⟨h1, h2⟩ := h
  have htail : p'.states.tail.map (·.consumer) = p.states.tail.map (·.consumer) := by
    rw [List.map_tail, List.map_tail, hs]
  refine ⟨?_, ?_⟩
  · intro f hf
    have : f.consumer ∈ p'.states.tail.map (·.consumer) := List.mem_map_of_mem hf
    rw [htail] at this
    obtain ⟨g, hg, hgc⟩ := List.mem_map.mp this
    rw [← hgc]; exact h1 g hg
  · intro s rest hs' hc
    rw [hb]
    cases hp : p.states with
    | nil => rw [hp, hs'] at hs; simp at hs
    | cons s0 rest0 =>
      rw [hp, hs'] at hs
      simp only [List.map_cons, List.cons.injEq] at hs
      exact h2 s0 rest0 hp (by rw [← hs.1]; exact hc)

theorem tokInv_grow {p p' : Parser} (hs : p'.states.map (·.consumer) = p.states.map (·.consumer)) (hb : p.buf ≠ [] → p'.buf ≠ [])
    (h : TokInv p) : TokInv p' := by
  have h0 : TokInv { p' with buf := p.buf } := tokInv_congr (p := p) hs rfl h
  refine ⟨h0.1, ?_⟩
  intro s rest hs' hc
  exact hb (h0.2 s rest hs' hc)

/-- what holds of the parser between API calls -/
structure PInv (p : Parser) : Prop where
  wf : WF p
  tok : TokInv p

theorem pinv_init : PInv Parser.init := ⟨WF_init, tokInv_init⟩

theorem PInv.congr {p p' : Parser} (h : PInv p) (hs : p'.states = p.states) (hb : p'.buf = p.buf) (ha : p'.args = p.args)
    (hp : p'.pending = p.pending) : PInv p' :=
  ⟨⟨by rw [hs]; exact h.wf.ok, by rw [hs, hp, ha]; exact h.wf.sum, by rw [hs, hp]; exact h.wf.rootn⟩,
    tokInv_congr (by rw [hs]) hb h.tok⟩

/-- head of an iteration of the consume loop on byte `c`: a token frame just pushed by `root` still has an empty scratch buffer,
    but then `c` is a symbol character and the next call appends it -/
def LoopHead (c : B) (p : Parser) : Prop := WF p ∧ Below p ∧ TokOK (isSymbolChar c = true ∧ p.error = none) p

theorem PInv.loopHead {p : Parser} (h : PInv p) (c : B) : LoopHead c p :=
  ⟨h.wf, h.tok.1, (tokInv_iff.mp h.tok).2.mono False.elim⟩

theorem LoopHead.exit {c : B} {p : Parser} (h : LoopHead c p) (he : p.error.isSome = true) : PInv p :=
  ⟨h.1, tokInv_iff.mpr ⟨h.2.1, h.2.2.mono fun h1 => by rw [h1.2] at he; cases he⟩⟩

theorem LoopHead.step (scan : List B → Option String) {c : B} {p : Parser} (h : LoopHead c p) (he : p.error = none) :
    if (step scan p c).2 = true then PInv (step scan p c).1 else LoopHead c (step scan p c).1 := by
  obtain ⟨hwf, hb, ht⟩ := h
  have hwf' := WF_step scan c hwf
  obtain ⟨hb', ht'⟩ := step_good scan p c hb (ht.mono And.left) he
  split
  · next hc => exact ⟨hwf', tokInv_iff.mpr ⟨hb', ht'.mono fun h1 => by rw [hc] at h1; cases h1.1⟩⟩
  · exact ⟨hwf', hb', ht'.mono And.right⟩

theorem PInv.consumeRaw (scan : List B → Option String) {p : Parser} (c : B) (h : PInv p) : PInv (consumeRaw scan p c) := by
  obtain ⟨q, hq, hraw⟩ := consumeRaw_eq scan p c
  rw [hraw]
  have h0 : PInv (advancePos p c) := by rw [advancePos_eq]; exact h.congr rfl rfl rfl rfl
  exact (consumeLoop_rule scan c (fun _ => LoopHead.exit) (fun _ => LoopHead.step scan) _ _ q (h0.loopHead c) hq).congr rfl rfl rfl rfl

theorem decRoot_consumers : ∀ l : List Frame, (decRoot l).map (·.consumer) = l.map (·.consumer)
  | [] => rfl
  | [_] => rfl
  | f :: g :: l => by
    have := decRoot_consumers (g :: l)
    simp only [decRoot, List.map_cons] at this ⊢
    rw [this]

theorem tokInv_produceWrapped {p : Parser} (h : TokInv p) : TokInv (produceWrapped p).2 := by
  unfold produceWrapped
  split
  · exact h
  · split
    · exact h
    · exact tokInv_congr (p := p) (by simp only []; rw [decRootArgn_eq, decRoot_consumers]) rfl h

theorem tokInv_flush {p : Parser} (h : WF p) : TokInv (flush p) := by
  obtain ⟨r, h1, h2, _⟩ := okFrames_last h.ok
  have hb : ∀ (b : Bool) (f : Frame → Frame), (∀ x, (f x).consumer = x.consumer) →
      ∃ r', (if b = true then [r].map f else [r]) = [r'] ∧ r'.consumer = .root := by
    intro b f hf
    cases b
    · exact ⟨r, rfl, h2⟩
    · exact ⟨f r, rfl, by rw [hf]; exact h2⟩
  obtain ⟨r', hr', hc'⟩ := hb flushResetsRootArgn (fun s => { s with argn := 0 }) (fun _ => rfl)
  have hst : (flush p).states = [r'] := by
    unfold flush
    simp only [h1]
    exact hr'
  refine ⟨by unfold Below; rw [hst]; simp [AllRoot], ?_⟩
  intro s rest hs hc
  rw [hst] at hs
  cases hs
  rw [hc'] at hc; cases hc

theorem modifyFrame_consumers (f : Frame → Frame) (hf : ∀ x, (f x).consumer = x.consumer) :
    ∀ (S : List Frame) (i : Nat), (modifyFrame S i f).map (·.consumer) = S.map (·.consumer)
  | [], _ => rfl
  | s :: rest, 0 => by simp [modifyFrame, hf]
  | s :: rest, i + 1 => by simp [modifyFrame, modifyFrame_consumers f hf rest i]

theorem insTail_shape (p : Parser) (i : Nat) (s : Frame) (v : Value) (vstr : List B) :
    (insTail p i s v vstr).1.states.map (·.consumer) = p.states.map (·.consumer) ∧ (p.buf ≠ [] → (insTail p i s v vstr).1.buf ≠ []) := by
  rcases insTail_cases p i s v vstr with e | e | e | e
  all_goals rw [e]
  · exact ⟨modifyFrame_consumers incArgn (fun _ => rfl) _ _, fun hb => hb⟩
  · exact ⟨modifyFrame_consumers incArgn (fun _ => rfl) _ _, fun hb => hb⟩
  · exact ⟨rfl, fun hb => by simp [hb]⟩
  · exact ⟨rfl, fun hb => hb⟩

/-- the invariant on the state changes the API is made of; the consume loop is left with the buffer of a token frame non-empty
    although it does not hold inside the loop (`LoopHead`) -/
theorem PInv.api (scan : List B → Option String) : ApiInv scan PInv where
  init := pinv_init
  raw _ c h := h.consumeRaw scan c
  pos _ _ _ _ h := h.congr rfl rfl rfl rfl
  eofErr _ h := h.congr rfl rfl rfl rfl
  dead _ h := h.congr rfl rfl rfl rfl
  dequeue _ h := ⟨WF_produceWrapped h.wf, tokInv_produceWrapped h.tok⟩
  flush _ h := ⟨WF_flush h.wf, tokInv_flush h.wf⟩
  clearErr _ h := h.congr rfl rfl rfl rfl
  insertAt p v vstr h := ⟨WF_insertAt v vstr h.wf,
    tokInv_grow (p := p) (insTail_shape p _ _ v vstr).1 (insTail_shape p _ _ v vstr).2 h.tok⟩

end JanetModel.Parse
