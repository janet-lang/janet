/- Ownership of the pending error message.

   `parser->error` points either to a string literal (static storage) or to a GC heap string made by `delim_error`
   (`janet_string`), which nothing but the parser references.  `parsermark` keeps that string alive iff
   `parser->flag & JANET_PARSER_GENERATED_ERROR`.  So the message a client reads with `parser/error` is a function of the bytes
   (and not of the collector's schedule) only if, at every point of every API history,

       the bit is set   ⇒  the pending error was produced by `delim_error`          (marking a literal / NULL would be a wild mark)
       the bit is clear ⇒  there is no pending error, or it is one of the literals   (an unmarked heap message is freed under the client)

   `GenInv` below; `genInv_api_history`: it holds after any history of the complete API from `janet_parser_init`. -/
import JanetModel.Parse.Pos
import JanetModel.Parse.Insert
import JanetModel.Parse.PhysInsert

namespace JanetModel.Parse
open JanetModel.Gen.Parse

/-- `parser->flag & JANET_PARSER_GENERATED_ERROR` (the test in `parsermark` and in `cfun_parse_error`) -/
def genBit (p : Parser) : Bool := hasFlag p.flag JANET_PARSER_GENERATED_ERROR

/-- the message is the result of a `delim_error` call with one of the message arguments found in the source -/
def IsGenerated (m : String) : Prop :=
  ∃ (q : Parser) (idx : Nat) (c : Option B) (msg : String), msg ∈ delimMessages ∧ (delimError q idx c msg).error = some m

/-- the message is one of the string literals assigned to `->error` in the source -/
def IsStatic (m : String) : Prop := m ∈ staticErrors

def GenInv (p : Parser) : Prop :=
  match p.error with
  | none => genBit p = false
  | some m => (genBit p = true ∧ IsGenerated m) ∨ (genBit p = false ∧ IsStatic m)

theorem genBit_or_gen (f : Nat) : hasFlag (f ||| JANET_PARSER_GENERATED_ERROR) JANET_PARSER_GENERATED_ERROR = true := by
  unfold hasFlag
  rw [Nat.and_or_distrib_right, Nat.and_self]
  have : f &&& JANET_PARSER_GENERATED_ERROR ||| JANET_PARSER_GENERATED_ERROR ≠ 0 := by
    intro h
    have := (Nat.or_eq_zero_iff.mp h).2
    exact absurd this (by decide)
  simp [this]

theorem genBit_clear (f : Nat) :
    hasFlag (f &&& (0xFFFFFFFF ^^^ JANET_PARSER_GENERATED_ERROR)) JANET_PARSER_GENERATED_ERROR = false := by
  unfold hasFlag
  rw [Nat.and_assoc]
  have : (0xFFFFFFFF ^^^ JANET_PARSER_GENERATED_ERROR) &&& JANET_PARSER_GENERATED_ERROR = 0 := by decide
  rw [this]
  simp

theorem genBit_or_dead (f : Nat) :
    hasFlag (f ||| JANET_PARSER_DEAD) JANET_PARSER_GENERATED_ERROR = hasFlag f JANET_PARSER_GENERATED_ERROR := by
  unfold hasFlag
  rw [Nat.and_or_distrib_right]
  have : JANET_PARSER_DEAD &&& JANET_PARSER_GENERATED_ERROR = 0 := by decide
  rw [this]
  simp

/-- what one consumer call may do to `error` and `flag`: nothing; latch a literal (flag untouched); or latch a generated message
    together with the bit -/
def ErrQuiet (p q : Parser) : Prop :=
  (q.flag = p.flag ∧ (q.error = p.error ∨ ∃ m, IsStatic m ∧ q.error = some m)) ∨
  (q.flag = p.flag ||| JANET_PARSER_GENERATED_ERROR ∧ ∃ m, IsGenerated m ∧ q.error = some m)

theorem errq_same {p q : Parser} (hf : q.flag = p.flag) (he : q.error = p.error) : ErrQuiet p q := Or.inl ⟨hf, Or.inl he⟩

theorem errq_static {p q : Parser} (hf : q.flag = p.flag) (m : String) (hm : m ∈ staticErrors) (he : q.error = some m) : ErrQuiet p q :=
  Or.inl ⟨hf, Or.inr ⟨m, hm, he⟩⟩

theorem errq_delim (p : Parser) (idx : Nat) (c : Option B) (msg : String) (hm : msg ∈ delimMessages) :
    ErrQuiet p (delimError p idx c msg) := by
  exact Or.inr ⟨rfl, _, ⟨p, idx, c, msg, hm, rfl⟩, rfl⟩

theorem GenInv.step {p q : Parser} (h : GenInv p) (he : p.error = none) (hq : ErrQuiet p q) : GenInv q := by
  have hb : genBit p = false := by unfold GenInv at h; rw [he] at h; exact h
  unfold GenInv
  rcases hq with ⟨hf, h1 | ⟨m, hm, h1⟩⟩ | ⟨hf, m, hm, h1⟩
  · rw [h1, he]; simp only; unfold genBit at hb ⊢; rw [hf]; exact hb
  · rw [h1]; simp only; right; unfold genBit at hb ⊢; rw [hf]; exact ⟨hb, hm⟩
  · rw [h1]; simp only; left; unfold genBit; rw [hf]; exact ⟨genBit_or_gen _, hm⟩

theorem Act.run_errq {s : Frame} {single : Bool} {c : B} {ab : Act × Bool} (hab : Act.OK s single c ab) (p : Parser) :
    ErrQuiet p (ab.1.run p) := by
  obtain ⟨a, b⟩ := ab
  cases a
  case fail e =>
    obtain ⟨hstatic, -⟩ := hab
    exact errq_static rfl e hstatic rfl
  case updFail f e =>
    obtain ⟨-, -, -, he⟩ := hab
    exact errq_static (setTop_flag p f) e he rfl
  case delim c' msg =>
    obtain ⟨-, -, hm⟩ := hab
    exact errq_delim p (p.states.length - 1) (some c') msg hm
  all_goals (apply errq_same <;> simp [Act.run, takeArgs])

theorem errq_step (scan : List B → Option String) (p : Parser) (c : B) : ErrQuiet p (step scan p c).1 := by
  cases hs : p.states with
  | nil => rw [step_nil scan c hs]; exact errq_same rfl rfl
  | cons s rest => rw [step_act scan p s rest c hs]; exact Act.run_errq (Act.of_ok scan s p.buf rest.isEmpty c) p

theorem GenInv_of_fields {p q : Parser} (h : GenInv p) (he : q.error = p.error) (hf : q.flag = p.flag) : GenInv q := by
  unfold GenInv genBit at *
  rw [he, hf]; exact h

theorem GenInv_produceWrapped (p : Parser) (h : GenInv p) : GenInv (produceWrapped p).2 := by
  unfold produceWrapped
  split
  · exact h
  · split
    · exact h
    · exact GenInv_of_fields h rfl rfl

theorem GenInv_insertAt (p : Parser) (v : Value) (vstr : List B) (h : GenInv p) : GenInv (insertAt p v vstr).1 := by
  rw [insertAt_eq]
  rcases insTail_cases p (insertIdx p.states) (p.states.getD (insertIdx p.states) default) v vstr with e | e | e | e
  all_goals rw [e]; exact GenInv_of_fields h rfl rfl

theorem GenInv_init : GenInv Parser.init := by
  show genBit Parser.init = false
  decide

/-- the invariant on the state changes the API is made of.  `janet_parser_eof`: the message generated for an unterminated form comes
    with the bit, and `|= JANET_PARSER_DEAD` keeps it; `janet_parser_error`: the message leaves the parser together with the bit. -/
theorem GenInv.api (scan : List B → Option String) : ApiInv scan GenInv where
  init := GenInv_init
  raw p c := consumeRaw_inv scan c (fun p he hp => hp.step he (errq_step scan p c)) (fun _ _ _ _ h => GenInv_of_fields h rfl rfl) p
  pos _ _ _ _ h := GenInv_of_fields h rfl rfl
  eofErr p _ := Or.inl ⟨genBit_or_gen _, p, _, none, _, by decide, rfl⟩
  dead p hp := by
    unfold GenInv genBit at hp ⊢
    simp only [genBit_or_dead]
    exact hp
  dequeue := GenInv_produceWrapped
  flush _ h := GenInv_of_fields h rfl rfl
  clearErr _ _ := genBit_clear _
  insertAt := GenInv_insertAt

/-- after ANY history of the complete parser API from `janet_parser_init` (bytes -- also into a latched or dead parser --, eof, produce,
    produce-wrapped, flush, error, `parser/insert`, clone-and-continue, `parser/state`): `JANET_PARSER_GENERATED_ERROR` is set exactly when
    the pending error is a message made by `delim_error` (the heap string `parsermark` must keep alive), and clear exactly when there is
    no pending error or it is one of the source's string literals -/
theorem genInv_api_history (scan : List B → Option String) (ops : List OpF) : GenInv (ops.foldl (runOpFL scan) Parser.init) :=
  (GenInv.api scan).history (runOpFL scan) (GenInv.api scan).runOpFL ops

theorem delimError_prefix (q : Parser) (idx : Nat) (c : Option B) (msg m : String) (h : (delimError q idx c msg).error = some m) :
    ∃ rest : String, m = msg ++ rest := by
  unfold delimError at h
  by_cases hi : idx > 0
  · simp only [hi, if_true, Option.some.injEq] at h
    rw [← h]; simp only [String.append_assoc]; exact ⟨_, rfl⟩
  · simp only [hi, if_false, Option.some.injEq] at h
    exact ⟨_, h.symm⟩

theorem static_not_generated (m : String) (hs : IsStatic m) : ¬ IsGenerated m := by
  rintro ⟨q, idx, c, msg, hmsg, he⟩
  obtain ⟨rest, hr⟩ := delimError_prefix q idx c msg m he
  have hp : msg.toList <+: m.toList := by rw [hr, String.toList_append]; exact List.prefix_append _ _
  have hall : ∀ s ∈ staticErrors, ∀ d ∈ delimMessages, d.toList.isPrefixOf s.toList = false := by decide +kernel
  have := hall m hs msg hmsg
  rw [List.isPrefixOf_iff_prefix.mpr hp] at this
  exact absurd this (by simp)

theorem genBit_iff_generated {p : Parser} (h : GenInv p) :
    (genBit p = true ↔ ∃ m, p.error = some m ∧ IsGenerated m) ∧ (genBit p = false ↔ p.error = none ∨ ∃ m, p.error = some m ∧ IsStatic m) := by
  unfold GenInv at h
  cases he : p.error with
  | none =>
    rw [he] at h; simp only at h
    simp [h]
  | some m =>
    rw [he] at h; simp only at h
    rcases h with ⟨hb, hg⟩ | ⟨hb, hs⟩
    · refine ⟨⟨fun _ => ⟨m, rfl, hg⟩, fun _ => hb⟩, ⟨fun h2 => by rw [hb] at h2; simp at h2, ?_⟩⟩
      rintro (h2 | ⟨m', h2, h3⟩)
      · simp at h2
      · simp only [Option.some.injEq] at h2; subst h2; exact absurd hg (static_not_generated _ h3)
    · refine ⟨⟨fun h2 => by rw [hb] at h2; simp at h2, ?_⟩, ⟨fun _ => Or.inr ⟨m, rfl, hs⟩, fun _ => hb⟩⟩
      rintro ⟨m', h2, h3⟩
      simp only [Option.some.injEq] at h2; subst h2; exact absurd h3 (static_not_generated _ hs)

end JanetModel.Parse
