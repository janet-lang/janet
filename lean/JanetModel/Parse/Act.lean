/- One consumer call as data: a consumer reads the top frame, the scratch buffer, the byte and whether the root frame is on top
   (`Act.of`); what it then does to the parser is one of ten uniform actions (`Act.run`).  Invariants of `step` go by cases on the action. -/
import JanetModel.Parse.Model
import JanetModel.Util.Bits

namespace JanetModel.Parse
open JanetModel.Gen.Parse

inductive Act where
  | keep
  | fail (e : String)
  | upd (f : Frame → Frame) (bs : List B)
  | updFail (f : Frame → Frame) (e : String)
  | push (k : Consumer) (F : Nat)
  | swap (k : Consumer) (F : Nat) (bs : List B)
  | pop (v : Value)
  | close (mk : List Value → Value)
  | delim (c : B) (msg : String)
  | dropTop

def Act.run : Act → Parser → Parser
  | .keep, p => p
  | .fail e, p => { p with error := some e }
  | .upd f bs, p => setTop { p with buf := p.buf ++ bs } f
  | .updFail f e, p => { setTop p f with error := some e }
  | .push k F, p => pushstate p k F
  | .swap k F bs, p => pushstate { p with states := p.states.drop 1, buf := p.buf ++ bs } k F
  | .pop v, p => popstate { p with buf := [] } v
  | .close mk, p =>
    popstate (takeArgs p (p.states.headD default).argn).2 (mk (takeArgs p (p.states.headD default).argn).1)
  | .delim c msg, p => delimError p (p.states.length - 1) (some c) msg
  | .dropTop, p => { p with states := p.states.drop 1, buf := [] }

def Act.apply (p : Parser) (a : Act × Bool) : Parser × Bool := (a.1.run p, a.2)

def stringendAct (s : Frame) (buf : List B) : Act :=
  let bytes := if hasFlag s.flags PFLAG_LONGSTRING then dedent (s.column - 1) buf else buf
  .pop (if hasFlag s.flags PFLAG_BUFFER then Value.buf bytes else Value.str bytes)

def stringcharAct (s : Frame) (buf : List B) (c : B) : Act × Bool :=
  if c == 92 then (.upd (fun s => { s with consumer := .escape1 }) [], true)
  else if c == 34 then (stringendAct s buf, true)
  else if c != 10 && c != 13 then (.upd id [c], true)
  else (.keep, true)

def escapehAct (s : Frame) (c : B) : Act × Bool :=
  match toHex c with
  | none => (.fail "invalid hex digit in hex escape", true)
  | some d =>
    if s.counter - 1 == 0 then
      (.upd (fun s => { s with argn := 0, counter := s.counter - 1, consumer := .stringchar })
        [(((s.argn <<< 4) + d) &&& 0xFF).toUInt8], true)
    else (.upd (fun s => { s with argn := (s.argn <<< 4) + d, counter := s.counter - 1 }) [], true)

def escapeuAct (s : Frame) (c : B) : Act × Bool :=
  match toHex c with
  | none => (.fail "invalid hex digit in unicode escape", true)
  | some d =>
    if s.counter - 1 == 0 then
      if (s.argn <<< 4) + d > maxCodepoint then
        (.updFail (fun s => { s with argn := (s.argn <<< 4) + d, counter := s.counter - 1 }) "invalid unicode codepoint", true)
      else
        (.upd (fun s => { s with argn := 0, counter := s.counter - 1, consumer := .stringchar })
          (writeCodepoint ((s.argn <<< 4) + d)), true)
    else (.upd (fun s => { s with argn := (s.argn <<< 4) + d, counter := s.counter - 1 }) [], true)

def escape1Act (c : B) : Act × Bool :=
  if c == 120 then (.upd (fun s => { s with counter := hexDigitsX, argn := 0, consumer := .escapeh }) [], true)
  else if c == 117 || c == 85 then
    (.upd (fun s => { s with counter := if c == 117 then hexDigitsU else hexDigitsBigU, argn := 0, consumer := .escapeu }) [], true)
  else match checkEscape c with
    | none => (.fail "invalid string escape sequence", true)
    | some e => (.upd (fun s => { s with consumer := .stringchar }) [e], true)

def tokencharAct (scan : List B → Option String) (s : Frame) (buf : List B) (c : B) : Act × Bool :=
  if isSymbolChar c then
    (if c > 127 then .upd (fun s => { s with argn := 1 }) [c] else .upd id [c], true)
  else
    match classifyToken scan buf (s.argn != 0) with
    | .error e => (.fail e, false)
    | .ok v => (.pop v, false)

def commentAct (c : B) : Act × Bool :=
  if c == 10 then (.dropTop, true) else (.upd id [c], true)

def longstringAct (s : Frame) (buf : List B) (c : B) : Act × Bool :=
  if hasFlag s.flags PFLAG_INSTRING then
    if c == 96 then
      (.upd (fun s => { s with flags := (s.flags ||| PFLAG_END_CANDIDATE) &&& (0xFFFFFFFF ^^^ PFLAG_INSTRING), counter := 1 }) [], true)
    else (.upd id [c], true)
  else if hasFlag s.flags PFLAG_END_CANDIDATE then
    if s.counter == s.argn then (stringendAct s buf, false)
    else if c == 96 && s.counter < s.argn then (.upd (fun s => { s with counter := s.counter + 1 }) [], true)
    else
      (.upd (fun s => { s with counter := 0, flags := (s.flags &&& (0xFFFFFFFF ^^^ PFLAG_END_CANDIDATE)) ||| PFLAG_INSTRING })
        (List.replicate s.counter 96 ++ [c]), true)
  else if c != 96 then (.upd (fun s => { s with argn := s.argn + 1, flags := s.flags ||| PFLAG_INSTRING }) [c], true)
  else (.upd (fun s => { s with argn := s.argn + 1 }) [], true)

def atsignAct (c : B) : Act × Bool :=
  if c == 123 then (.swap .root (PFLAG_CONTAINER ||| PFLAG_CURLYBRACKETS ||| PFLAG_ATSYM) [], true)
  else if c == 34 then (.swap .stringchar (PFLAG_BUFFER ||| PFLAG_STRING) [], true)
  else if c == 96 then (.swap .longstring (PFLAG_BUFFER ||| PFLAG_LONGSTRING) [], true)
  else if c == 91 then (.swap .root (PFLAG_CONTAINER ||| PFLAG_SQRBRACKETS ||| PFLAG_ATSYM) [], true)
  else if c == 40 then (.swap .root (PFLAG_CONTAINER ||| PFLAG_PARENS ||| PFLAG_ATSYM) [], true)
  else (.swap .tokenchar PFLAG_TOKEN [64], false)

def closeDelimAct (s : Frame) (single : Bool) (c : B) : Act × Bool :=
  if single then (.delim c "unexpected closing delimiter ", true)
  else if (c == 41 && hasFlag s.flags PFLAG_PARENS) || (c == 93 && hasFlag s.flags PFLAG_SQRBRACKETS) then
    (.close fun items => if hasFlag s.flags PFLAG_ATSYM then Value.array items else Value.tuple (c == 93) 0 0 items, true)
  else if c == 125 && hasFlag s.flags PFLAG_CURLYBRACKETS then
    if s.argn % 2 == 1 then (.fail "struct and table literals expect even number of arguments", true)
    else
      (.close fun items =>
        if hasFlag s.flags PFLAG_ATSYM then
          let (ks, vs) := buildDict tablePut items ([], [])
          Value.table ks vs
        else
          let (ks, vs) := buildDict structPut items ([], [])
          Value.struct ks vs, true)
  else (.delim c "mismatched delimiter ", true)

def rootAct (s : Frame) (single : Bool) (c : B) : Act × Bool :=
  if c == 39 || c == 44 || c == 59 || c == 126 || c == 124 then (.push .root (PFLAG_READERMAC ||| c.toNat), true)
  else if c == 34 then (.push .stringchar PFLAG_STRING, true)
  else if c == 35 then (.push .comment PFLAG_COMMENT, true)
  else if c == 64 then (.push .atsign PFLAG_ATSYM, true)
  else if c == 96 then (.push .longstring PFLAG_LONGSTRING, true)
  else if c == 41 || c == 93 || c == 125 then closeDelimAct s single c
  else if c == 40 then (.push .root (PFLAG_CONTAINER ||| PFLAG_PARENS), true)
  else if c == 91 then (.push .root (PFLAG_CONTAINER ||| PFLAG_SQRBRACKETS), true)
  else if c == 123 then (.push .root (PFLAG_CONTAINER ||| PFLAG_CURLYBRACKETS), true)
  else if isWhitespace c then (.keep, true)
  else if isSymbolChar c then (.push .tokenchar PFLAG_TOKEN, false)
  else (.fail "unexpected character", true)

def Act.of (scan : List B → Option String) (s : Frame) (buf : List B) (single : Bool) (c : B) : Act × Bool :=
  match s.consumer with
  | .root => rootAct s single c
  | .tokenchar => tokencharAct scan s buf c
  | .stringchar => stringcharAct s buf c
  | .escape1 => escape1Act c
  | .escapeh => escapehAct s c
  | .escapeu => escapeuAct s c
  | .longstring => longstringAct s buf c
  | .comment => commentAct c
  | .atsign => atsignAct c

section
variable (scan : List B → Option String) {p : Parser} {s : Frame} {rest : List Frame} (c : B)

theorem stringend_act (p : Parser) (s : Frame) : stringend p s = (stringendAct s p.buf).run p := rfl

theorem stringchar_act (hs : p.states = s :: rest) : stringchar p s c = Act.apply p (stringcharAct s p.buf c) := by
  unfold stringchar stringcharAct
  simp only [apply_ite (Act.apply p)]
  simp only [Act.apply, Act.run, setTop, hs, pushBuf, List.append_nil, id, stringend_act]

theorem escapeh_act (hs : p.states = s :: rest) : escapeh p s c = Act.apply p (escapehAct s c) := by
  unfold escapeh escapehAct
  cases toHex c with
  | none => rfl
  | some d =>
    simp only [apply_ite (Act.apply p)]
    simp only [Act.apply, Act.run, setTop, hs, pushBuf, List.append_nil]

theorem escapeu_act (hs : p.states = s :: rest) : escapeu p s c = Act.apply p (escapeuAct s c) := by
  unfold escapeu escapeuAct
  cases toHex c with
  | none => rfl
  | some d =>
    simp only [apply_ite (Act.apply p)]
    simp only [Act.apply, Act.run, setTop, hs, List.append_nil]

theorem escape1_act (hs : p.states = s :: rest) : escape1 p s c = Act.apply p (escape1Act c) := by
  unfold escape1 escape1Act
  cases checkEscape c
  all_goals
    simp only [apply_ite (Act.apply p)]
    simp only [Act.apply, Act.run, setTop, hs, pushBuf, List.append_nil]

theorem tokenchar_act (hs : p.states = s :: rest) : tokenchar scan p s c = Act.apply p (tokencharAct scan s p.buf c) := by
  unfold tokenchar tokencharAct
  cases classifyToken scan p.buf (s.argn != 0)
  all_goals
    simp only [apply_ite (Act.apply p)]
    simp only [Act.apply, apply_ite (Act.run · p)]
    simp only [Act.run, setTop, hs, pushBuf, id]

theorem comment_act (hs : p.states = s :: rest) : comment p s c = Act.apply p (commentAct c) := by
  unfold comment commentAct
  simp only [apply_ite (Act.apply p)]
  simp only [Act.apply, Act.run, setTop, hs, pushBuf, id]

theorem longstring_act (hs : p.states = s :: rest) : longstring p s c = Act.apply p (longstringAct s p.buf c) := by
  unfold longstring longstringAct
  simp only [apply_ite (Act.apply p)]
  simp only [Act.apply, Act.run, setTop, hs, pushBuf, id, List.append_nil, List.append_assoc, stringend_act]

theorem atsign_act (p : Parser) (s : Frame) : atsign p s c = Act.apply p (atsignAct c) := by
  unfold atsign atsignAct
  simp only [apply_ite (Act.apply p)]
  simp only [Act.apply, Act.run, pushstate, pushBuf, List.append_nil]

theorem closeDelim_act (hs : p.states = s :: rest) : closeDelim p s c = Act.apply p (closeDelimAct s rest.isEmpty c) := by
  unfold closeDelim closeDelimAct
  cases rest with
  | nil => simp only [hs, List.length_cons, List.length_nil, Nat.zero_add, beq_self_eq_true, if_true, List.isEmpty_nil, Act.apply, Act.run]
  | cons g l =>
    simp only [apply_ite (Act.apply p)]
    simp only [Act.apply, Act.run, hs, List.length_cons, List.isEmpty_cons, Nat.add_eq_right,
      Nat.add_eq_zero_iff, List.length_eq_zero_iff, beq_iff_eq, reduceCtorEq, and_false, if_false, Bool.false_eq_true,
      Nat.add_one_sub_one, List.headD_cons]

theorem ite_bnot {α : Sort _} (b : Bool) (x y : α) : (if (!b) = true then x else y) = if b = true then y else x := by
  cases b <;> rfl

theorem root_act (hs : p.states = s :: rest) : root p s c = Act.apply p (rootAct s rest.isEmpty c) := by
  unfold root rootAct
  simp only [apply_ite (Act.apply p), closeDelim_act c hs, ite_bnot]
  rfl

end

theorem step_nil (scan : List B → Option String) {p : Parser} (c : B) (hs : p.states = []) : step scan p c = (p, true) := by
  unfold step
  rw [hs]

theorem step_act (scan : List B → Option String) (p : Parser) (s : Frame) (rest : List Frame) (c : B) (hs : p.states = s :: rest) :
    step scan p c = Act.apply p (Act.of scan s p.buf rest.isEmpty c) := by
  unfold step Act.of
  rw [hs]
  dsimp only
  cases s.consumer
  · exact root_act c hs
  · exact tokenchar_act scan c hs
  · exact stringchar_act c hs
  · exact escape1_act c hs
  · exact escapeh_act c hs
  · exact escapeu_act c hs
  · exact longstring_act c hs
  · exact comment_act c hs
  · exact atsign_act c p s

theorem hasFlag_zero (f : Nat) : hasFlag 0 f = false := by simp [hasFlag]

theorem hasFlag_two_pow (x i : Nat) : hasFlag x (2 ^ i) = x.testBit i := Util.and_two_pow_ne_zero x i

theorem hasFlag_cont (x : Nat) : hasFlag x PFLAG_CONTAINER = x.testBit 8 := hasFlag_two_pow x 8

theorem byte_testBit (c : B) {i : Nat} (hi : 8 ≤ i) : c.toNat.testBit i = false :=
  Nat.testBit_lt_two_pow (Nat.lt_of_lt_of_le c.toNat_lt (Nat.pow_le_pow_right (by decide) hi))

theorem cont_readermac (c : B) : hasFlag (PFLAG_READERMAC ||| c.toNat) PFLAG_CONTAINER = false := by
  rw [hasFlag_cont, Nat.testBit_or, byte_testBit c (Nat.le_refl 8)]
  rfl
theorem cont_f1 (x : Nat) : hasFlag ((x ||| PFLAG_END_CANDIDATE) &&& (0xFFFFFFFF ^^^ PFLAG_INSTRING)) PFLAG_CONTAINER = hasFlag x PFLAG_CONTAINER := by
  simp only [hasFlag_cont, Nat.testBit_and, Nat.testBit_or]
  have a : Nat.testBit PFLAG_END_CANDIDATE 8 = false := by decide
  have b : Nat.testBit (0xFFFFFFFF ^^^ PFLAG_INSTRING) 8 = true := by decide
  simp [a, b]
theorem cont_f2 (x : Nat) : hasFlag ((x &&& (0xFFFFFFFF ^^^ PFLAG_END_CANDIDATE)) ||| PFLAG_INSTRING) PFLAG_CONTAINER = hasFlag x PFLAG_CONTAINER := by
  simp only [hasFlag_cont, Nat.testBit_and, Nat.testBit_or]
  have a : Nat.testBit PFLAG_INSTRING 8 = false := by decide
  have b : Nat.testBit (0xFFFFFFFF ^^^ PFLAG_END_CANDIDATE) 8 = true := by decide
  simp [a, b]
theorem cont_f3 (x : Nat) : hasFlag (x ||| PFLAG_INSTRING) PFLAG_CONTAINER = hasFlag x PFLAG_CONTAINER := by
  simp only [hasFlag_cont, Nat.testBit_or]
  have a : Nat.testBit PFLAG_INSTRING 8 = false := by decide
  simp [a]
theorem cont_t1 : hasFlag (PFLAG_CONTAINER ||| PFLAG_CURLYBRACKETS ||| PFLAG_ATSYM) PFLAG_CONTAINER = true := by decide
theorem cont_t2 : hasFlag (PFLAG_CONTAINER ||| PFLAG_SQRBRACKETS ||| PFLAG_ATSYM) PFLAG_CONTAINER = true := by decide
theorem cont_t3 : hasFlag (PFLAG_CONTAINER ||| PFLAG_PARENS ||| PFLAG_ATSYM) PFLAG_CONTAINER = true := by decide
theorem cont_t4 : hasFlag (PFLAG_CONTAINER ||| PFLAG_PARENS) PFLAG_CONTAINER = true := by decide
theorem cont_t5 : hasFlag (PFLAG_CONTAINER ||| PFLAG_SQRBRACKETS) PFLAG_CONTAINER = true := by decide
theorem cont_t6 : hasFlag (PFLAG_CONTAINER ||| PFLAG_CURLYBRACKETS) PFLAG_CONTAINER = true := by decide
theorem cont_n1 : hasFlag (PFLAG_BUFFER ||| PFLAG_STRING) PFLAG_CONTAINER = false := by decide
theorem cont_n2 : hasFlag (PFLAG_BUFFER ||| PFLAG_LONGSTRING) PFLAG_CONTAINER = false := by decide

theorem comment_readermac (c : B) : hasFlag (PFLAG_READERMAC ||| c.toNat) PFLAG_COMMENT = false := by
  rw [show PFLAG_COMMENT = 2 ^ 17 from rfl, hasFlag_two_pow, Nat.testBit_or, byte_testBit c (by decide)]
  rfl

/-- an action rewrites the top frame `s` into `s'`: neither is handled by `root`, and the container bit stays -/
structure Act.Kept (s s' : Frame) : Prop where
  old : s.consumer ≠ .root
  new : s'.consumer ≠ .root
  cont : hasFlag s'.flags PFLAG_CONTAINER = hasFlag s.flags PFLAG_CONTAINER

theorem Act.kept_iff {s s' : Frame} : Act.Kept s s' ↔
    s.consumer ≠ .root ∧ s'.consumer ≠ .root ∧ hasFlag s'.flags PFLAG_CONTAINER = hasFlag s.flags PFLAG_CONTAINER :=
  ⟨fun h => ⟨h.old, h.new, h.cont⟩, fun h => ⟨h.1, h.2.1, h.2.2⟩⟩

/-- a frame pushed with consumer `k` and flags `F`: only `root` handles containers, and a `root` frame is no comment frame -/
structure Act.Fresh (k : Consumer) (F : Nat) : Prop where
  contRoot : hasFlag F PFLAG_CONTAINER = true → k = .root
  noComment : k = .root → hasFlag F PFLAG_COMMENT = false

theorem Act.fresh_iff {k : Consumer} {F : Nat} : Act.Fresh k F ↔
    (hasFlag F PFLAG_CONTAINER = true → k = .root) ∧ (k = .root → hasFlag F PFLAG_COMMENT = false) :=
  ⟨fun h => ⟨h.contRoot, h.noComment⟩, fun h => ⟨h.1, h.2⟩⟩

instance (k : Consumer) (F : Nat) : Decidable (Act.Fresh k F) := decidable_of_iff _ Act.fresh_iff.symm

/-- what the invariants of `step` need to know about the action chosen for top frame `s` and byte `c` -/
def Act.OK (s : Frame) (single : Bool) (c : B) : Act × Bool → Prop
  | (.keep, b) => b = true ∧ s.consumer ≠ .tokenchar
  | (.fail e, _) => e ∈ staticErrors ∧ (s.consumer = .tokenchar → isSymbolChar c = false)
  | (.upd f bs, b) => b = true ∧ Act.Kept s (f s) ∧ ((f s).consumer = .tokenchar → bs ≠ [])
  | (.updFail f e, b) => b = true ∧ Act.Kept s (f s) ∧ (f s).consumer ≠ .tokenchar ∧ e ∈ staticErrors
  | (.push k F, b) => s.consumer = .root ∧ Act.Fresh k F ∧ (if k = .tokenchar then b = false ∧ isSymbolChar c = true else b = true)
  | (.swap k F bs, b) => s.consumer = .atsign ∧ Act.Fresh k F ∧ (if k = .tokenchar then b = false ∧ bs ≠ [] else b = true)
  | (.pop _, b) =>
    (s.consumer = .stringchar ∧ b = true) ∨ (s.consumer = .longstring ∧ b = false) ∨
      (s.consumer = .tokenchar ∧ b = false ∧ isSymbolChar c = false)
  | (.close _, b) => b = true ∧ s.consumer = .root ∧ single = false
  | (.delim _ msg, b) => b = true ∧ s.consumer = .root ∧ msg ∈ delimMessages
  | (.dropTop, b) => b = true ∧ s.consumer ≠ .root

/-- the actions that rewrite, replace or remove the top frame are chosen by a consumer other than `root` -/
theorem Act.OK.nonroot {s : Frame} {single : Bool} {c : B} {b : Bool} : ∀ {a : Act}, Act.OK s single c (a, b) →
    match a with
    | .upd .. | .updFail .. | .swap .. | .pop _ | .dropTop => s.consumer ≠ .root
    | _ => True := by
  intro a h
  cases a
  case upd =>
    obtain ⟨-, hkept, -⟩ := h
    exact hkept.old
  case updFail =>
    obtain ⟨-, hkept, -⟩ := h
    exact hkept.old
  case swap =>
    show s.consumer ≠ .root
    rw [h.1]; decide
  case pop =>
    show s.consumer ≠ .root
    rcases h with h | h | h <;> rw [h.1] <;> decide
  case dropTop => exact h.2
  all_goals trivial

theorem ite_pred {α : Sort _} (Q : α → Prop) (c : Prop) [Decidable c] {a b : α} (ha : c → Q a) (hb : ¬c → Q b) :
    Q (if c then a else b) := by
  by_cases h : c
  · rw [if_pos h]; exact ha h
  · rw [if_neg h]; exact hb h

theorem classifyToken_static {scan : List B → Option String} {buf : List B} {na : Bool} {e : String}
    (h : classifyToken scan buf na = .error e) : e ∈ staticErrors := by
  let P : Except String Value → Prop := fun r => r = .error e → e ∈ staticErrors
  have ok : ∀ v, P (.ok v) := fun v h => nomatch h
  have er : ∀ m, m ∈ staticErrors → P (.error m) := fun m hm h => by cases h; exact hm
  suffices P (classifyToken scan buf na) from this h
  unfold classifyToken
  dsimp only
  refine ite_pred P _ (fun _ => ite_pred P _ (fun _ => ok _) fun _ => er _ (by simp)) fun _ => ?_
  split
  · exact ok _
  · refine ite_pred P _ (fun _ => ok _) fun _ => ?_
    refine ite_pred P _ (fun _ => ok _) fun _ => ?_
    refine ite_pred P _ (fun _ => ok _) fun _ => ?_
    refine ite_pred P _ (fun _ => er _ (by simp)) fun _ => ?_
    exact ite_pred P _ (fun _ => ok _) fun _ => er _ (by simp)

section
variable (scan : List B → Option String) {s : Frame} (buf : List B) (single : Bool) (c : B)

theorem closeDelimAct_ok (hc : s.consumer = .root) : Act.OK s single c (closeDelimAct s single c) := by
  unfold closeDelimAct
  refine ite_pred (Act.OK s single c) _ (fun _ => by simp [Act.OK, hc]) fun h => ?_
  refine ite_pred (Act.OK s single c) _ (fun _ => by simpa [Act.OK, hc] using h) fun _ => ?_
  refine ite_pred (Act.OK s single c) _ (fun _ => ite_pred (Act.OK s single c) _ (fun _ => by simp [Act.OK, hc]) fun _ => by simpa [Act.OK, hc] using h) fun _ => ?_
  simp [Act.OK, hc]

theorem rootAct_ok (hc : s.consumer = .root) : Act.OK s single c (rootAct s single c) := by
  unfold rootAct
  refine ite_pred (Act.OK s single c) _ (fun _ => ⟨hc, ⟨fun h => by simp [cont_readermac] at h, fun _ => comment_readermac c⟩, rfl⟩) fun _ => ?_
  refine ite_pred (Act.OK s single c) _ (fun _ => ⟨hc, by decide, rfl⟩) fun _ => ?_
  refine ite_pred (Act.OK s single c) _ (fun _ => ⟨hc, by decide, rfl⟩) fun _ => ?_
  refine ite_pred (Act.OK s single c) _ (fun _ => ⟨hc, by decide, rfl⟩) fun _ => ?_
  refine ite_pred (Act.OK s single c) _ (fun _ => ⟨hc, by decide, rfl⟩) fun _ => ?_
  refine ite_pred (Act.OK s single c) _ (fun _ => closeDelimAct_ok single c hc) fun _ => ?_
  refine ite_pred (Act.OK s single c) _ (fun _ => ⟨hc, by decide, rfl⟩) fun _ => ?_
  refine ite_pred (Act.OK s single c) _ (fun _ => ⟨hc, by decide, rfl⟩) fun _ => ?_
  refine ite_pred (Act.OK s single c) _ (fun _ => ⟨hc, by decide, rfl⟩) fun _ => ?_
  refine ite_pred (Act.OK s single c) _ (fun _ => ⟨rfl, by simp [hc]⟩) fun _ => ?_
  exact ite_pred (Act.OK s single c) _ (fun h => ⟨hc, by decide, rfl, h⟩) fun _ => ⟨by simp, by simp [hc]⟩

theorem tokencharAct_ok (hc : s.consumer = .tokenchar) : Act.OK s single c (tokencharAct scan s buf c) := by
  unfold tokencharAct
  refine ite_pred (Act.OK s single c) _ (fun _ => ?_) fun h => ?_
  · rw [apply_ite (fun a : Act => (a, true))]
    exact ite_pred (Act.OK s single c) _ (fun _ => by simp [Act.OK, Act.kept_iff, hc]) fun _ => by simp [Act.OK, Act.kept_iff, hc]
  · cases h' : classifyToken scan buf (s.argn != 0)
    · exact ⟨classifyToken_static h', fun _ => by simpa using h⟩
    · exact Or.inr (Or.inr ⟨hc, rfl, by simpa using h⟩)

theorem stringcharAct_ok (hc : s.consumer = .stringchar) : Act.OK s single c (stringcharAct s buf c) := by
  unfold stringcharAct stringendAct
  refine ite_pred (Act.OK s single c) _ (fun _ => by simp [Act.OK, Act.kept_iff, hc]) fun _ => ?_
  refine ite_pred (Act.OK s single c) _ (fun _ => Or.inl ⟨hc, rfl⟩) fun _ => ?_
  exact ite_pred (Act.OK s single c) _ (fun _ => by simp [Act.OK, Act.kept_iff, hc]) fun _ => by simp [Act.OK, hc]

theorem escape1Act_ok (hc : s.consumer = .escape1) : Act.OK s single c (escape1Act c) := by
  unfold escape1Act
  refine ite_pred (Act.OK s single c) _ (fun _ => by simp [Act.OK, Act.kept_iff, hc]) fun _ => ?_
  refine ite_pred (Act.OK s single c) _ (fun _ => by simp [Act.OK, Act.kept_iff, hc]) fun _ => ?_
  cases checkEscape c <;> simp [Act.OK, Act.kept_iff, hc]

theorem escapehAct_ok (hc : s.consumer = .escapeh) : Act.OK s single c (escapehAct s c) := by
  unfold escapehAct
  cases toHex c
  · simp [Act.OK, hc]
  · exact ite_pred (Act.OK s single c) _ (fun _ => by simp [Act.OK, Act.kept_iff, hc]) fun _ => by simp [Act.OK, Act.kept_iff, hc]

theorem escapeuAct_ok (hc : s.consumer = .escapeu) : Act.OK s single c (escapeuAct s c) := by
  unfold escapeuAct
  cases toHex c
  · simp [Act.OK, hc]
  · refine ite_pred (Act.OK s single c) _ (fun _ => ?_) fun _ => by simp [Act.OK, Act.kept_iff, hc]
    exact ite_pred (Act.OK s single c) _ (fun _ => by simp [Act.OK, Act.kept_iff, hc]) fun _ => by simp [Act.OK, Act.kept_iff, hc]

theorem longstringAct_ok (hc : s.consumer = .longstring) : Act.OK s single c (longstringAct s buf c) := by
  have keep : ∀ bs, Act.OK s single c (.upd id bs, true) := fun bs => by simp [Act.OK, Act.kept_iff, hc]
  unfold longstringAct stringendAct
  refine ite_pred (Act.OK s single c) _ (fun _ => ite_pred (Act.OK s single c) _ (fun _ => by simp [Act.OK, Act.kept_iff, hc, cont_f1]) fun _ => keep _) fun _ => ?_
  refine ite_pred (Act.OK s single c) _ (fun _ => ?_) fun _ => ?_
  · refine ite_pred (Act.OK s single c) _ (fun _ => Or.inr (Or.inl ⟨hc, rfl⟩)) fun _ => ?_
    exact ite_pred (Act.OK s single c) _ (fun _ => by simp [Act.OK, Act.kept_iff, hc]) fun _ => by simp [Act.OK, Act.kept_iff, hc, cont_f2]
  · exact ite_pred (Act.OK s single c) _ (fun _ => by simp [Act.OK, Act.kept_iff, hc, cont_f3]) fun _ => by simp [Act.OK, Act.kept_iff, hc]

theorem commentAct_ok (hc : s.consumer = .comment) : Act.OK s single c (commentAct c) := by
  unfold commentAct
  exact ite_pred (Act.OK s single c) _ (fun _ => by simp [Act.OK, hc]) fun _ => by simp [Act.OK, Act.kept_iff, hc]

theorem atsignAct_ok (hc : s.consumer = .atsign) : Act.OK s single c (atsignAct c) := by
  unfold atsignAct
  refine ite_pred (Act.OK s single c) _ (fun _ => ⟨hc, by decide, rfl⟩) fun _ => ?_
  refine ite_pred (Act.OK s single c) _ (fun _ => ⟨hc, by decide, rfl⟩) fun _ => ?_
  refine ite_pred (Act.OK s single c) _ (fun _ => ⟨hc, by decide, rfl⟩) fun _ => ?_
  refine ite_pred (Act.OK s single c) _ (fun _ => ⟨hc, by decide, rfl⟩) fun _ => ?_
  exact ite_pred (Act.OK s single c) _ (fun _ => ⟨hc, by decide, rfl⟩) fun _ => ⟨hc, by decide, rfl, by simp⟩

end

theorem Act.of_ok (scan : List B → Option String) (s : Frame) (buf : List B) (single : Bool) (c : B) :
    Act.OK s single c (Act.of scan s buf single c) := by
  unfold Act.of
  cases hc : s.consumer
  · exact rootAct_ok single c hc
  · exact tokencharAct_ok scan buf single c hc
  · exact stringcharAct_ok buf single c hc
  · exact escape1Act_ok single c hc
  · exact escapehAct_ok single c hc
  · exact escapeuAct_ok single c hc
  · exact longstringAct_ok buf single c hc
  · exact commentAct_ok single c hc
  · exact atsignAct_ok single c hc

end JanetModel.Parse
