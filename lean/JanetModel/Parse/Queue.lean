/- The value queue (bottom `pending` entries of the argument stack) does not interact with parsing:
   well-formedness invariant `WF`, and the lock-step lemma  step (addQ z p) = addQ z (step p)  for a value `z` queued below
   everything a well-formed parser holds. -/
import JanetModel.Parse.Model
import JanetModel.Parse.Lemmas
import JanetModel.Parse.Pos
import JanetModel.Parse.Api

namespace JanetModel.Parse
open JanetModel.Gen.Parse

def isCont (f : Frame) : Bool := hasFlag f.flags PFLAG_CONTAINER

/-- number of argument-stack entries owned by the frames above the root frame -/
def inner : List Frame → Nat
  | [] => 0
  | [_] => 0
  | f :: g :: l => (if isCont f then f.argn else 0) + inner (g :: l)

/-- a non-bottom frame: containers are handled by `root`; a non-container `root` frame (reader macro) owns no arguments -/
def okF (f : Frame) : Bool := if isCont f then f.consumer == .root else (f.consumer != .root || f.argn == 0)

/-- shape of the frame stack: bottom frame is a `root` container, every frame above satisfies `okF` -/
def okFrames : List Frame → Bool
  | [] => false
  | [r] => r.consumer == .root && isCont r
  | f :: g :: l => okF f && okFrames (g :: l)

def rootArgn : List Frame → Nat
  | [] => 0
  | [r] => r.argn
  | _ :: g :: l => rootArgn (g :: l)

/-- decrement the root frame's count (`parser->states[0].argn--`) -/
def decRoot : List Frame → List Frame
  | [] => []
  | [r] => [{ r with argn := r.argn - 1 }]
  | f :: g :: l => f :: decRoot (g :: l)

theorem decRootArgn_cons2 (f g : Frame) (l : List Frame) : decRootArgn (f :: g :: l) = f :: decRootArgn (g :: l) := by
  unfold decRootArgn
  cases h : (g :: l).reverse with
  | nil => simp at h
  | cons r rest =>
    have : (f :: g :: l).reverse = r :: (rest ++ [f]) := by
      simp only [List.reverse_cons] at h ⊢
      rw [h]; simp
    rw [this]
    simp

theorem decRootArgn_eq : ∀ l : List Frame, decRootArgn l = decRoot l
  | [] => by simp [decRootArgn, decRoot]
  | [r] => by simp [decRootArgn, decRoot]
  | f :: g :: l => by rw [decRootArgn_cons2, decRoot, decRootArgn_eq (g :: l)]

theorem decRoot_length : ∀ l : List Frame, (decRoot l).length = l.length
  | [] => rfl
  | [_] => rfl
  | f :: g :: l => by simp [decRoot, decRoot_length (g :: l)]

theorem decRoot_ne_nil {l : List Frame} (h : l ≠ []) : decRoot l ≠ [] := by
  intro h2
  have := decRoot_length l
  rw [h2] at this
  cases l with
  | nil => exact h rfl
  | cons a b => simp at this

theorem decRoot_cons {f : Frame} {l : List Frame} (h : l ≠ []) : decRoot (f :: l) = f :: decRoot l := by
  cases l with
  | nil => exact absurd rfl h
  | cons g l => rfl

theorem okFrames_single {r : Frame} (h : okFrames [r] = true) : r.consumer = .root := by
  simp only [okFrames, Bool.and_eq_true, beq_iff_eq] at h
  exact h.1

theorem okFrames_ne_nil {l : List Frame} (h : okFrames l = true) : l ≠ [] := by
  intro h2; subst h2; simp [okFrames] at h

theorem okFrames_cons {f : Frame} {l : List Frame} (hl : l ≠ []) : okFrames (f :: l) = (okF f && okFrames l) := by
  cases l with
  | nil => exact absurd rfl hl
  | cons g l => rfl

theorem inner_cons {f : Frame} {l : List Frame} (hl : l ≠ []) : inner (f :: l) = (if isCont f then f.argn else 0) + inner l := by
  cases l with
  | nil => exact absurd rfl hl
  | cons g l => rfl

theorem rootArgn_cons {f : Frame} {l : List Frame} (hl : l ≠ []) : rootArgn (f :: l) = rootArgn l := by
  cases l with
  | nil => exact absurd rfl hl
  | cons g l => rfl

theorem okFrames_decRoot : ∀ l : List Frame, okFrames (decRoot l) = okFrames l
  | [] => rfl
  | [r] => by simp [decRoot, okFrames, isCont]
  | f :: g :: l => by
    have := okFrames_decRoot (g :: l)
    rw [decRoot, okFrames_cons (decRoot_ne_nil (by simp)), this]; rfl

theorem inner_decRoot : ∀ l : List Frame, inner (decRoot l) = inner l
  | [] => rfl
  | [r] => rfl
  | f :: g :: l => by
    have := inner_decRoot (g :: l)
    rw [decRoot, inner_cons (decRoot_ne_nil (by simp)), this]; rfl

theorem rootArgn_decRoot : ∀ l : List Frame, rootArgn (decRoot l) = rootArgn l - 1
  | [] => rfl
  | [r] => rfl
  | f :: g :: l => by
    have := rootArgn_decRoot (g :: l)
    rw [decRoot, rootArgn_cons (decRoot_ne_nil (by simp)), this]; rfl

/-- accounting of `popstate`: the frames below the popped one stay well-shaped, and exactly one count is incremented
    (an inner container's `argn`, or `pending` together with the root frame's `argn`) iff a value is pushed -/
theorem popstateAux_spec : ∀ (rest : List Frame) (top : Frame) (v : Value), okFrames rest = true →
    okFrames (popstateAux (top :: rest) v).1 = true ∧
    inner (popstateAux (top :: rest) v).1 + (if (popstateAux (top :: rest) v).2.2 then 1 else 0)
      = inner rest + (if (popstateAux (top :: rest) v).2.1.isSome then 1 else 0) ∧
    rootArgn (popstateAux (top :: rest) v).1 = rootArgn rest + (if (popstateAux (top :: rest) v).2.2 then 1 else 0) := by
  intro rest
  induction rest with
  | nil => intro top v h; simp [okFrames] at h
  | cons newtop rest' ih =>
    intro top v h
    simp only [popstateAux]
    by_cases hc : hasFlag newtop.flags PFLAG_CONTAINER = true
    · simp only [hc, if_true]
      cases rest' with
      | nil =>
        simp only [List.isEmpty_nil, if_true]
        simp [okFrames, isCont, inner, rootArgn] at h ⊢
        exact h
      | cons g l =>
        simp only [List.isEmpty_cons, Bool.false_eq_true, if_false]
        have hne : (g :: l) ≠ [] := by simp
        rw [okFrames_cons hne] at h ⊢
        rw [inner_cons hne, inner_cons hne, rootArgn_cons hne, rootArgn_cons hne]
        simp only [Bool.and_eq_true] at h ⊢
        refine ⟨⟨?_, h.2⟩, ?_, rfl⟩
        · have := h.1; simp only [okF, isCont, hc, if_true] at this ⊢; exact this
        · simp [isCont, hc]; omega
    · simp only [hc]
      have hrest' : rest' ≠ [] := by
        intro e; subst e
        simp [okFrames, isCont, hc] at h
      have hok' : okFrames rest' = true := by
        rw [okFrames_cons hrest'] at h; simp only [Bool.and_eq_true] at h; exact h.2
      by_cases hr : hasFlag newtop.flags PFLAG_READERMAC = true
      · simp only [hr, if_true]
        have := ih newtop (Value.tuple false newtop.line newtop.column
          [Value.sym (strBytes (readerMacName (newtop.flags &&& 0xFF))), v.withSm top.line top.column]) hok'
        rw [inner_cons hrest', rootArgn_cons hrest']
        simp only [isCont, hc, Bool.false_eq_true, if_false, Nat.zero_add]
        exact this
      · simp only [hr, Bool.false_eq_true, if_false]
        exact ⟨h, by simp, by simp⟩

theorem popstateAux_cons2 (top newtop : Frame) (rest' : List Frame) (v : Value) :
    popstateAux (top :: newtop :: rest') v =
      if hasFlag newtop.flags PFLAG_CONTAINER then
        if rest'.isEmpty then
          ({ newtop with argn := newtop.argn + 1 } :: rest', some (.tuple false top.line top.column [v.withSm top.line top.column]), true)
        else ({ newtop with argn := newtop.argn + 1 } :: rest', some (v.withSm top.line top.column), false)
      else if hasFlag newtop.flags PFLAG_READERMAC then
        popstateAux (newtop :: rest') (Value.tuple false newtop.line newtop.column
          [.sym (strBytes (readerMacName (newtop.flags &&& 0xFF))), v.withSm top.line top.column])
      else (newtop :: rest', none, false) := by
  simp only [popstateAux]

def incRoot : List Frame → List Frame
  | [] => []
  | [r] => [{ r with argn := r.argn + 1 }]
  | f :: g :: l => f :: incRoot (g :: l)

theorem incRoot_length : ∀ l : List Frame, (incRoot l).length = l.length
  | [] => rfl
  | [_] => rfl
  | f :: g :: l => by simp [incRoot, incRoot_length (g :: l)]

theorem incRoot_isEmpty : ∀ l : List Frame, (incRoot l).isEmpty = l.isEmpty
  | [] => rfl
  | [_] => rfl
  | _ :: _ :: _ => rfl

theorem incRoot_cons {f : Frame} {l : List Frame} (h : l ≠ []) : incRoot (f :: l) = f :: incRoot l := by
  cases l with
  | nil => exact absurd rfl h
  | cons g l => rfl

theorem decRoot_incRoot : ∀ l : List Frame, decRoot (incRoot l) = l
  | [] => rfl
  | [r] => by simp [incRoot, decRoot]
  | f :: g :: l => by
    rw [incRoot, decRoot_cons (by cases l <;> simp [incRoot]), decRoot_incRoot (g :: l)]

theorem incRoot_decRoot : ∀ l : List Frame, 1 ≤ rootArgn l → incRoot (decRoot l) = l
  | [], _ => rfl
  | [r], h => by
    have : r.argn - 1 + 1 = r.argn := by simp only [rootArgn] at h; omega
    simp [incRoot, decRoot, this]
  | f :: g :: l, h => by
    rw [decRoot, incRoot_cons (decRoot_ne_nil (by simp)), incRoot_decRoot (g :: l) h]

theorem popstateAux_incRoot : ∀ (rest : List Frame) (top : Frame) (v : Value), okFrames rest = true →
    popstateAux (top :: incRoot rest) v =
      (incRoot (popstateAux (top :: rest) v).1, (popstateAux (top :: rest) v).2.1, (popstateAux (top :: rest) v).2.2) := by
  intro rest
  induction rest with
  | nil => intro top v h; simp [okFrames] at h
  | cons newtop rest' ih =>
    intro top v h
    cases rest' with
    | nil =>
      simp only [okFrames, Bool.and_eq_true] at h
      have hc : hasFlag newtop.flags PFLAG_CONTAINER = true := h.2
      simp [incRoot, popstateAux, hc]
    | cons g l =>
      have hne : (g :: l) ≠ [] := by simp
      rw [okFrames_cons hne] at h
      simp only [Bool.and_eq_true] at h
      rw [incRoot_cons hne, popstateAux_cons2, popstateAux_cons2, incRoot_isEmpty]
      by_cases hc : hasFlag newtop.flags PFLAG_CONTAINER = true
      · simp only [hc, if_true, List.isEmpty_cons, Bool.false_eq_true, if_false]
        rw [incRoot_cons hne]
      · simp only [hc, Bool.false_eq_true, if_false]
        by_cases hr : hasFlag newtop.flags PFLAG_READERMAC = true
        · simp only [hr, if_true]
          exact ih newtop _ h.2
        · simp only [hr, Bool.false_eq_true, if_false]
          rw [incRoot_cons hne]

/-- the accounting of frames and arguments: the frame stack has the shape `okFrames`, the `argn` of the container frames above the
    root frame and the queue length `pending` add up to `argcount`, and the root frame's `argn` is `pending` -/
structure WF (p : Parser) : Prop where
  ok : okFrames p.states = true
  sum : inner p.states + p.pending = p.args.length
  rootn : rootArgn p.states = p.pending

/-- the parser after `janet_parser_produce` dequeued one value: bottom argument removed, both counts decremented -/
def dropQ (p : Parser) : Parser :=
  { p with args := p.args.dropLast, pending := p.pending - 1, states := decRoot p.states }

/-- what one step of parsing does to a parser whose queue holds `z` at the bottom: stays well formed, the queue only
    grows, `z` stays at the bottom -/
structure Sim (z : Value) (p p' : Parser) : Prop where
  wf : WF p'
  mono : p.pending ≤ p'.pending
  bottom : ∃ A', p'.args = A' ++ [z]

/-- the parser with `z` queued below everything it holds: one more argument at the bottom, both counts incremented -/
def addQ (z : Value) (p : Parser) : Parser :=
  { p with args := p.args ++ [z], pending := p.pending + 1, states := incRoot p.states }

theorem WF.of_same {p p' : Parser} (hwf : WF p) (h1 : p'.args = p.args) (h2 : p'.pending = p.pending) (h3 : okFrames p'.states = true)
    (h4 : inner p'.states = inner p.states) (h5 : rootArgn p'.states = rootArgn p.states) : WF p' :=
  ⟨h3, by rw [h4, h2, h1]; exact hwf.sum, by rw [h5, h2]; exact hwf.rootn⟩

theorem okF_of_noncont_nonroot {f : Frame} (h1 : isCont f = false) (h2 : f.consumer ≠ .root) : okF f = true := by
  simp [okF, h1, h2]

theorem nonroot_top {top : Frame} {rest : List Frame} (h : okFrames (top :: rest) = true) (hc : top.consumer ≠ .root) :
    rest ≠ [] ∧ okFrames rest = true ∧ isCont top = false := by
  cases rest with
  | nil => simp [okFrames, hc] at h
  | cons g l =>
    rw [okFrames_cons (by simp)] at h
    simp only [Bool.and_eq_true] at h
    refine ⟨by simp, h.2, ?_⟩
    have := h.1
    unfold okF at this
    cases hcont : isCont top with
    | false => rfl
    | true => simp [hcont, hc] at this

section
variable {p : Parser} {z : Value} {top g : Frame} {l : List Frame}

theorem addQ_eq (hs : p.states = top :: g :: l) :
    addQ z p = { p with args := p.args ++ [z], pending := p.pending + 1, states := top :: incRoot (g :: l) } := by
  simp [addQ, hs, incRoot]

theorem popstate_addQ (v : Value) (hs : p.states = top :: g :: l) (hok : okFrames (g :: l) = true) :
    popstate (addQ z p) v = addQ z (popstate p v) := by
  rw [addQ_eq hs]
  unfold popstate
  simp only [hs]
  rw [popstateAux_incRoot (g :: l) top v hok]
  cases h1 : (popstateAux (top :: g :: l) v).2.1 <;> cases h2 : (popstateAux (top :: g :: l) v).2.2 <;> simp [addQ]

theorem popstate_wf (v : Value) (hs : p.states = top :: g :: l) (hok : okFrames (g :: l) = true)
    (hsum : inner (g :: l) + p.pending = p.args.length) (hroot : rootArgn (g :: l) = p.pending) : WF (popstate p v) := by
  have hs' := popstateAux_spec (g :: l) top v hok
  unfold popstate
  rw [hs]
  dsimp only
  generalize popstateAux (top :: g :: l) v = r at hs'
  obtain ⟨st, push, pend⟩ := r
  dsimp only at hs' ⊢
  obtain ⟨h1, h2, h3⟩ := hs'
  have hpd : (if pend = true then p.pending + 1 else p.pending) = p.pending + (if pend = true then 1 else 0) := by cases pend <;> rfl
  refine ⟨h1, ?_, ?_⟩
  · show inner st + (if pend = true then p.pending + 1 else p.pending) = _
    rw [hpd]
    cases push
    all_goals simp only [Option.isSome_none, Option.isSome_some, Bool.false_eq_true, if_false, if_true, List.length_cons] at h2 ⊢
    all_goals omega
  · show rootArgn st = if pend = true then p.pending + 1 else p.pending
    rw [hpd]; omega

/-- a top frame that is not handled by `root` owns no arguments -/
theorem top_facts (hwf : WF p) (hs : p.states = top :: g :: l) (hc : top.consumer ≠ .root) :
    hasFlag top.flags PFLAG_CONTAINER = false ∧ okFrames (g :: l) = true ∧ inner (g :: l) + p.pending = p.args.length ∧
    rootArgn (g :: l) = p.pending := by
  have hok := hwf.ok
  have hsum := hwf.sum
  have hr := hwf.rootn
  rw [hs] at hok hsum hr
  obtain ⟨_, hok', hct⟩ := nonroot_top hok hc
  rw [inner_cons (by simp)] at hsum
  rw [rootArgn_cons (by simp)] at hr
  simp only [hct, Bool.false_eq_true, if_false, Nat.zero_add] at hsum
  exact ⟨hct, hok', hsum, hr⟩

theorem okF_fresh {k : Consumer} {F : Nat} (h : Act.Fresh k F) (cnt ln col : Nat) : okF ⟨cnt, 0, F, ln, col, k⟩ = true := by
  unfold okF isCont
  by_cases hF : hasFlag F PFLAG_CONTAINER = true
  · simp [hF, h.contRoot hF]
  · simp [hF]

theorem frames_top {s s' g : Frame} {l : List Frame} (hs : isCont s = false) (hs' : okF s' = true)
    (hz : (if isCont s' then s'.argn else 0) = 0) (hok : okFrames (g :: l) = true) :
    okFrames (s' :: g :: l) = true ∧ inner (s' :: g :: l) = inner (s :: g :: l) ∧ rootArgn (s' :: g :: l) = rootArgn (s :: g :: l) :=
  ⟨by simp [okFrames, hs', hok], by simp [inner, hs, hz], rfl⟩

/-- a top frame handled by `root` owns its `argn` topmost arguments -/
theorem root_top_facts (hwf : WF p) (hs : p.states = top :: g :: l) (hc : top.consumer = .root) :
    okF top = true ∧ okFrames (g :: l) = true ∧ top.argn ≤ p.args.length ∧
    inner (g :: l) + p.pending = (p.args.drop top.argn).length ∧ rootArgn (g :: l) = p.pending := by
  have hok := hwf.ok
  have hsum := hwf.sum
  have hr := hwf.rootn
  rw [hs] at hok hsum hr
  rw [okFrames_cons (by simp)] at hok
  simp only [Bool.and_eq_true] at hok
  rw [inner_cons (by simp)] at hsum
  rw [rootArgn_cons (by simp)] at hr
  have hcontrib : (if isCont top = true then top.argn else 0) = top.argn := by
    have := hok.1
    unfold okF at this
    cases h : isCont top with
    | true => simp
    | false => simp [h, hc] at this; simp [this]
  rw [hcontrib] at hsum
  exact ⟨hok.1, hok.2, by omega, by rw [List.length_drop]; omega, hr⟩

theorem takeArgs_addQ {n : Nat} (hn : n ≤ p.args.length) :
    takeArgs (addQ z p) n = ((takeArgs p n).1, addQ z (takeArgs p n).2) := by
  simp [takeArgs, addQ, List.take_append_of_le_length hn, List.drop_append_of_le_length hn]

/-- a value queued below everything commutes with an action on a stack of at least two frames, and the action keeps `WF` -/
theorem Act.run_addQ (c : B) (ab : Act × Bool) (hab : Act.OK top false c ab) (hwf : WF p) (hs : p.states = top :: g :: l) :
    ab.1.run (addQ z p) = addQ z (ab.1.run p) ∧ WF (ab.1.run p) := by
  obtain ⟨a, b⟩ := ab
  have hds := addQ_eq (z := z) hs
  cases a
  case keep => exact ⟨rfl, hwf⟩
  case fail e => exact ⟨rfl, ⟨hwf.ok, hwf.sum, hwf.rootn⟩⟩
  case delim c' msg =>
    exact ⟨by simp [Act.run, delimError, addQ, hs, incRoot, incRoot_length], hwf.of_same rfl rfl hwf.ok rfl rfl⟩
  case push k F =>
    obtain ⟨-, hfresh, -⟩ := hab
    refine ⟨by simp [Act.run, pushstate, addQ, hs, incRoot], hwf.of_same rfl rfl ?_ ?_ (by simp [Act.run, pushstate, hs, rootArgn])⟩
    · have hok := hwf.ok
      rw [hs] at hok
      simpa [Act.run, pushstate, hs, okFrames, okF_fresh hfresh] using hok
    · simp [Act.run, pushstate, hs, inner]
  case close mk =>
    obtain ⟨-, hroot, -⟩ := hab
    obtain ⟨-, hok, hn, hsum, hr⟩ := root_top_facts hwf hs hroot
    have hd : ((addQ z p).states.headD default).argn = top.argn := by rw [hds]; rfl
    simp only [Act.run, hd, hs, List.headD_cons, takeArgs_addQ hn]
    exact ⟨popstate_addQ _ (by simpa [takeArgs] using hs) hok, popstate_wf _ (by simpa [takeArgs] using hs) hok (by simpa [takeArgs] using hsum) hr⟩
  -- the remaining actions belong to consumers other than `root`: the top frame owns no arguments
  all_goals
    have hne : top.consumer ≠ .root := hab.nonroot
    obtain ⟨hct, hok, hsum, hr⟩ := top_facts hwf hs hne
  case pop v =>
    exact ⟨popstate_addQ (p := { p with buf := [] }) v hs hok, popstate_wf (p := { p with buf := [] }) v hs hok hsum hr⟩
  case dropTop =>
    exact ⟨by simp [Act.run, addQ, hs, incRoot], hwf.of_same rfl rfl (by simpa [Act.run, hs] using hok)
      (by simp [Act.run, hs, inner, isCont, hct]) (by simp [Act.run, hs, rootArgn])⟩
  case swap k F bs =>
    obtain ⟨-, hfresh, -⟩ := hab
    obtain ⟨h1, h2, h3⟩ := frames_top (s := top) (s' := ⟨0, 0, F, p.line, p.column, k⟩) (by simp [isCont, hct])
      (okF_fresh hfresh 0 p.line p.column) (by simp) hok
    exact ⟨by simp [Act.run, pushstate, addQ, hs, incRoot], hwf.of_same rfl rfl (by simpa [Act.run, pushstate, hs] using h1)
      (by simpa [Act.run, pushstate, hs] using h2) (by simpa [Act.run, pushstate, hs] using h3)⟩
  -- `upd f bs` and `updFail f e` rewrite the top frame
  all_goals
    rename_i f _
    obtain ⟨-, hkept, -⟩ := hab
    have hcf : isCont (f top) = false := by unfold isCont; rw [hkept.cont]; exact hct
    obtain ⟨h1, h2, h3⟩ := frames_top (s := top) (s' := f top) (by simp [isCont, hct])
      (okF_of_noncont_nonroot hcf hkept.new) (by simp [hcf]) hok
    exact ⟨by simp [Act.run, setTop, addQ, hs, incRoot], hwf.of_same (by simp [Act.run, setTop, hs]) (by simp [Act.run, setTop, hs])
      (by simpa [Act.run, setTop, hs] using h1) (by simpa [Act.run, setTop, hs] using h2) (by simpa [Act.run, setTop, hs] using h3)⟩

end

/-- the root frame alone can only push a frame, latch an error or stay as it is -/
theorem Act.run_addQ_root {p : Parser} {z : Value} {r : Frame} (c : B) (ab : Act × Bool) (hab : Act.OK r true c ab)
    (hwf : WF p) (hs : p.states = [r]) : ab.1.run (addQ z p) = addQ z (ab.1.run p) ∧ WF (ab.1.run p) := by
  obtain ⟨a, b⟩ := ab
  have hrc : r.consumer = .root := okFrames_single (hs ▸ hwf.ok)
  cases a
  case keep => exact ⟨rfl, hwf⟩
  case fail e => exact ⟨rfl, ⟨hwf.ok, hwf.sum, hwf.rootn⟩⟩
  case delim c' msg => exact ⟨by simp [Act.run, delimError, addQ, hs, incRoot], hwf.of_same rfl rfl hwf.ok rfl rfl⟩
  case push k F =>
    obtain ⟨-, hfresh, -⟩ := hab
    refine ⟨by simp [Act.run, pushstate, addQ, hs, incRoot], hwf.of_same rfl rfl ?_ ?_ (by simp [Act.run, pushstate, hs, rootArgn])⟩
    · have hok := hwf.ok
      rw [hs] at hok
      simpa [Act.run, pushstate, hs, okFrames, okF_fresh hfresh] using hok
    · simp [Act.run, pushstate, hs, inner]
  all_goals simp [Act.OK, Act.kept_iff, hrc] at hab

theorem rootAct_single (s s' : Frame) (c : B) : rootAct s true c = rootAct s' true c := by
  unfold rootAct closeDelimAct
  simp only [if_true]

/-- what is queued is out of the parser's sight: a consumer step on a well-formed parser is the same with a value `z` queued
    below everything, and the parser stays well formed -/
theorem step_addQ (scan : List B → Option String) (z : Value) {p : Parser} (c : B) (hwf : WF p) :
    step scan (addQ z p) c = (addQ z (step scan p c).1, (step scan p c).2) ∧ WF (step scan p c).1 := by
  cases hs : p.states with
  | nil => have := hwf.ok; simp [hs, okFrames] at this
  | cons top rest =>
    cases rest with
    | nil =>
      have hrc : top.consumer = .root := okFrames_single (hs ▸ hwf.ok)
      have hds : (addQ z p).states = [{ top with argn := top.argn + 1 }] := by simp [addQ, hs, incRoot]
      rw [step_act scan _ _ [] c hds, step_act scan _ top [] c hs]
      have hof : Act.of scan { top with argn := top.argn + 1 } (addQ z p).buf true c = Act.of scan top p.buf true c := by
        simp only [Act.of, hrc, rootAct_single _ top]
      have := Act.run_addQ_root (z := z) c _ (Act.of_ok scan top p.buf true c) hwf hs
      exact ⟨by simp only [Act.apply, List.isEmpty_nil, hof, this.1], this.2⟩
    | cons g l =>
      have hds : (addQ z p).states = top :: incRoot (g :: l) := by rw [addQ_eq hs]
      rw [step_act scan _ top (incRoot (g :: l)) c hds, step_act scan _ top (g :: l) c hs, incRoot_isEmpty]
      have := Act.run_addQ (z := z) c _ (Act.of_ok scan top p.buf false c) hwf hs
      exact ⟨by simp only [Act.apply, List.isEmpty_cons, show (addQ z p).buf = p.buf from rfl, this.1], this.2⟩

end JanetModel.Parse
