/-
Executable model of the PEG compiler: `peg_compile1` (peg.c:1377-1532), the `spec_*` emitters of `peg_specials[]`, the
rule cache, keyword references, nested grammar tables and the constants table.

C side                                       model
-------------------------------------------  -------------------------------------------------------------------------
Builder.bytecode / .constants / .has_backref  `B.code` / `B.consts` / `B.hasBackref`
Builder.depth                                 the recursion parameter `d` of `compile1` (JANET_RECURSION_GUARD at the top)
Builder.grammar (JanetTable *, ->proto)       `g : Option Nat` = index into `B.heap` (`none` = the root table of compile_peg);
                                              a grammar table holds the keyword bindings (`rules`) AND the rule cache
                                              (`cache`: form -> rule address) exactly like the C table does
root table                                    `B.prims` (primitive forms: cached globally, `which_grammar = root`) and
                                              `B.root` (tuples compiled outside every grammar)
keyword loop `for (; i > 0 && keyword; --i)`  `resolveKw`  (janet_table_get_ex = `lookupKw`: found -> grammar moves to the
                                              table that binds the name; not found -> default grammar, grammar unchanged)
cache check / cache put                       `getCache` / `putCache` (tuples: rawget in the current table only)
case JANET_STRUCT                             new table (proto = current grammar), main rule compiled in it, NOT cached
reserve / emit_rule / emit_bytes              `reserve` / `patch` with the words of `encode`
spec_* (one per entry of peg_specials[])      `shape` (argument checks `peg_getnat`, `peg_getrange`, ... = the conditions) gives
                                              the instruction with the sub-FORMS as operands; `compileKids` compiles them in
                                              order (spec_variadic / spec_branch / spec_onerule / spec_cap1 / ...); `encode`
                                              lays out the header words (emit_1/2/3, emit_rule, emit_bytes)
emit_constant                                 `emitConst` (after the sub-rule, as in spec_replace / spec_matchtime)
b->has_backref = 1                            `readsTags` (spec_reference, spec_backmatch)

`B.log` and `Tbl.sc` are ghost fields (never read by the compiler): the list of (rule address, source closure) pairs of all
`peg_compile1` calls, and the lexical scope chain of a table.  They carry the simulation relation of `compile_correct`
(Peg/CompileCorrect.lean, Props/C12.lean).

Explicitly rejected by the model (`none`) although peg.c accepts: grammar nesting deeper than JANET_MAX_PROTO_DEPTH tables
(table lookups stop there), reference chains that cross nested grammars with more than 1023 links in total (each
peg_compile1 call allows 1023).  Tags are numbers here (the harness numbers keywords in `emit_tag` order).
Core Lean only.
-/
import JanetModel.Peg.Spec
import JanetModel.Peg.Decode
import JanetModel.Gen.Peg

namespace JanetModel.Peg

/-! ### structural equality of forms (janet_equals on the source data = key of the rule cache) -/

mutual
def Val.beq : Val → Val → Bool
  | .nil, .nil => true
  | .bool a, .bool b => a == b
  | .int a, .int b => a == b
  | .str a, .str b => a == b
  | .kw a, .kw b => a == b
  | .arr a, .arr b => Val.beqL a b
  | .s64 a, .s64 b => a == b
  | .u64 a, .u64 b => a == b
  | .struct a, .struct b => Val.beqS a b
  | .fn a, .fn b => a == b
  | _, _ => false
def Val.beqL : List Val → List Val → Bool
  | [], [] => true
  | a :: as, b :: bs => Val.beq a b && Val.beqL as bs
  | _, _ => false
def Val.beqS : List (Key × Val) → List (Key × Val) → Bool
  | [], [] => true
  | (k, a) :: as, (k', b) :: bs => k == k' && Val.beq a b && Val.beqS as bs
  | _, _ => false
end

/-! destructors: `as_look q = some (off, p)` iff `q = .look off p` (the comparison below is by the constructor of the left form) -/
section
open Spec
def Spec.Patt.as_str : Patt → Option ((List Nat))
  | .str b => Option.some b
  | _ => none
def Spec.Patt.as_int : Patt → Option (Int)
  | .int n => Option.some n
  | _ => none
def Spec.Patt.as_bool : Patt → Option (Bool)
  | .bool b => Option.some b
  | _ => none
def Spec.Patt.as_ref : Patt → Option (String)
  | .ref name => Option.some name
  | _ => none
def Spec.Patt.as_range : Patt → Option ((List (Nat × Nat)))
  | .range rs => Option.some rs
  | _ => none
def Spec.Patt.as_set : Patt → Option ((List Nat))
  | .set chars => Option.some chars
  | _ => none
def Spec.Patt.as_look : Patt → Option (Int × Patt)
  | .look off p => Option.some (off, p)
  | _ => none
def Spec.Patt.as_choice : Patt → Option ((List Patt))
  | .choice ps => Option.some ps
  | _ => none
def Spec.Patt.as_seq : Patt → Option ((List Patt))
  | .seq ps => Option.some ps
  | _ => none
def Spec.Patt.as_if : Patt → Option (Patt × Patt)
  | .if_ c p => Option.some (c, p)
  | _ => none
def Spec.Patt.as_ifnot : Patt → Option (Patt × Patt)
  | .ifnot c p => Option.some (c, p)
  | _ => none
def Spec.Patt.as_not : Patt → Option (Patt)
  | .not p => Option.some p
  | _ => none
def Spec.Patt.as_any : Patt → Option (Patt)
  | .any p => Option.some p
  | _ => none
def Spec.Patt.as_some : Patt → Option (Patt)
  | .some p => Option.some p
  | _ => none
def Spec.Patt.as_opt : Patt → Option (Patt)
  | .opt p => Option.some p
  | _ => none
def Spec.Patt.as_between : Patt → Option (Nat × Nat × Patt)
  | .between lo hi p => Option.some (lo, hi, p)
  | _ => none
def Spec.Patt.as_atleast : Patt → Option (Nat × Patt)
  | .atleast n p => Option.some (n, p)
  | _ => none
def Spec.Patt.as_atmost : Patt → Option (Nat × Patt)
  | .atmost n p => Option.some (n, p)
  | _ => none
def Spec.Patt.as_repeat : Patt → Option (Nat × Patt)
  | .repeat_ n p => Option.some (n, p)
  | _ => none
def Spec.Patt.as_to : Patt → Option (Patt)
  | .to p => Option.some p
  | _ => none
def Spec.Patt.as_thru : Patt → Option (Patt)
  | .thru p => Option.some p
  | _ => none
def Spec.Patt.as_capture : Patt → Option (Patt × Nat)
  | .capture p tag => Option.some (p, tag)
  | _ => none
def Spec.Patt.as_accumulate : Patt → Option (Patt × Nat)
  | .accumulate p tag => Option.some (p, tag)
  | _ => none
def Spec.Patt.as_group : Patt → Option (Patt × Nat)
  | .group p tag => Option.some (p, tag)
  | _ => none
def Spec.Patt.as_drop : Patt → Option (Patt)
  | .drop p => Option.some p
  | _ => none
def Spec.Patt.as_onlytags : Patt → Option (Patt)
  | .onlytags p => Option.some p
  | _ => none
def Spec.Patt.as_replace : Patt → Option (Patt × Val × Nat)
  | .replace p v tag => Option.some (p, v, tag)
  | _ => none
def Spec.Patt.as_cmt : Patt → Option (Patt × Val × Nat)
  | .cmt p v tag => Option.some (p, v, tag)
  | _ => none
def Spec.Patt.as_constant : Patt → Option (Val × Nat)
  | .constant v tag => Option.some (v, tag)
  | _ => none
def Spec.Patt.as_argument : Patt → Option (Nat × Nat)
  | .argument n tag => Option.some (n, tag)
  | _ => none
def Spec.Patt.as_position : Patt → Option (Nat)
  | .position tag => Option.some tag
  | _ => none
def Spec.Patt.as_line : Patt → Option (Nat)
  | .line tag => Option.some tag
  | _ => none
def Spec.Patt.as_column : Patt → Option (Nat)
  | .column tag => Option.some tag
  | _ => none
def Spec.Patt.as_backref : Patt → Option (Nat × Nat)
  | .backref s tag => Option.some (s, tag)
  | _ => none
def Spec.Patt.as_backmatch : Patt → Option (Nat)
  | .backmatch tag => Option.some tag
  | _ => none
def Spec.Patt.as_unref : Patt → Option (Patt × Nat)
  | .unref p tag => Option.some (p, tag)
  | _ => none
def Spec.Patt.as_nth : Patt → Option (Nat × Patt × Nat)
  | .nth n p tag => Option.some (n, p, tag)
  | _ => none
def Spec.Patt.as_error : Patt → Option ((Option Patt))
  | .error o => Option.some o
  | _ => none
def Spec.Patt.as_lenprefix : Patt → Option (Patt × Patt)
  | .lenprefix a p => Option.some (a, p)
  | _ => none
def Spec.Patt.as_sub : Patt → Option (Patt × Patt)
  | .sub a p => Option.some (a, p)
  | _ => none
def Spec.Patt.as_split : Patt → Option (Patt × Patt)
  | .split a p => Option.some (a, p)
  | _ => none
def Spec.Patt.as_til : Patt → Option (Patt × Patt)
  | .til a p => Option.some (a, p)
  | _ => none
def Spec.Patt.as_readint : Patt → Option (Nat × Bool × Bool × Nat)
  | .readint w sg be tag => Option.some (w, sg, be, tag)
  | _ => none
def Spec.Patt.as_number : Patt → Option (Patt × Nat × Nat)
  | .number p base tag => Option.some (p, base, tag)
  | _ => none
def Spec.Patt.as_grammar : Patt → Option ((List (String × Patt)))
  | .grammar rs => Option.some rs
  | _ => none

mutual
def Spec.Patt.beq : Patt → Patt → Bool
  | .str b, q => match q.as_str with
    | Option.some b' => b == b'
    | none => false
  | .int n, q => match q.as_int with
    | Option.some n' => n == n'
    | none => false
  | .bool b, q => match q.as_bool with
    | Option.some b' => b == b'
    | none => false
  | .ref name, q => match q.as_ref with
    | Option.some name' => name == name'
    | none => false
  | .range rs, q => match q.as_range with
    | Option.some rs' => rs == rs'
    | none => false
  | .set chars, q => match q.as_set with
    | Option.some chars' => chars == chars'
    | none => false
  | .look off p, q => match q.as_look with
    | Option.some (off', p') => off == off' && p.beq p'
    | none => false
  | .choice ps, q => match q.as_choice with
    | Option.some ps' => Spec.Patt.beqL ps ps'
    | none => false
  | .seq ps, q => match q.as_seq with
    | Option.some ps' => Spec.Patt.beqL ps ps'
    | none => false
  | .if_ c p, q => match q.as_if with
    | Option.some (c', p') => c.beq c' && p.beq p'
    | none => false
  | .ifnot c p, q => match q.as_ifnot with
    | Option.some (c', p') => c.beq c' && p.beq p'
    | none => false
  | .not p, q => match q.as_not with
    | Option.some p' => p.beq p'
    | none => false
  | .any p, q => match q.as_any with
    | Option.some p' => p.beq p'
    | none => false
  | .some p, q => match q.as_some with
    | Option.some p' => p.beq p'
    | none => false
  | .opt p, q => match q.as_opt with
    | Option.some p' => p.beq p'
    | none => false
  | .between lo hi p, q => match q.as_between with
    | Option.some (lo', hi', p') => lo == lo' && hi == hi' && p.beq p'
    | none => false
  | .atleast n p, q => match q.as_atleast with
    | Option.some (n', p') => n == n' && p.beq p'
    | none => false
  | .atmost n p, q => match q.as_atmost with
    | Option.some (n', p') => n == n' && p.beq p'
    | none => false
  | .repeat_ n p, q => match q.as_repeat with
    | Option.some (n', p') => n == n' && p.beq p'
    | none => false
  | .to p, q => match q.as_to with
    | Option.some p' => p.beq p'
    | none => false
  | .thru p, q => match q.as_thru with
    | Option.some p' => p.beq p'
    | none => false
  | .capture p tag, q => match q.as_capture with
    | Option.some (p', tag') => p.beq p' && tag == tag'
    | none => false
  | .accumulate p tag, q => match q.as_accumulate with
    | Option.some (p', tag') => p.beq p' && tag == tag'
    | none => false
  | .group p tag, q => match q.as_group with
    | Option.some (p', tag') => p.beq p' && tag == tag'
    | none => false
  | .drop p, q => match q.as_drop with
    | Option.some p' => p.beq p'
    | none => false
  | .onlytags p, q => match q.as_onlytags with
    | Option.some p' => p.beq p'
    | none => false
  | .replace p v tag, q => match q.as_replace with
    | Option.some (p', v', tag') => p.beq p' && Val.beq v v' && tag == tag'
    | none => false
  | .cmt p v tag, q => match q.as_cmt with
    | Option.some (p', v', tag') => p.beq p' && Val.beq v v' && tag == tag'
    | none => false
  | .constant v tag, q => match q.as_constant with
    | Option.some (v', tag') => Val.beq v v' && tag == tag'
    | none => false
  | .argument n tag, q => match q.as_argument with
    | Option.some (n', tag') => n == n' && tag == tag'
    | none => false
  | .position tag, q => match q.as_position with
    | Option.some tag' => tag == tag'
    | none => false
  | .line tag, q => match q.as_line with
    | Option.some tag' => tag == tag'
    | none => false
  | .column tag, q => match q.as_column with
    | Option.some tag' => tag == tag'
    | none => false
  | .backref s tag, q => match q.as_backref with
    | Option.some (s', tag') => s == s' && tag == tag'
    | none => false
  | .backmatch tag, q => match q.as_backmatch with
    | Option.some tag' => tag == tag'
    | none => false
  | .unref p tag, q => match q.as_unref with
    | Option.some (p', tag') => p.beq p' && tag == tag'
    | none => false
  | .nth n p tag, q => match q.as_nth with
    | Option.some (n', p', tag') => n == n' && p.beq p' && tag == tag'
    | none => false
  | .error o, q => match q.as_error with
    | Option.some o' => Spec.Patt.beqO o o'
    | none => false
  | .lenprefix a p, q => match q.as_lenprefix with
    | Option.some (a', p') => a.beq a' && p.beq p'
    | none => false
  | .sub a p, q => match q.as_sub with
    | Option.some (a', p') => a.beq a' && p.beq p'
    | none => false
  | .split a p, q => match q.as_split with
    | Option.some (a', p') => a.beq a' && p.beq p'
    | none => false
  | .til a p, q => match q.as_til with
    | Option.some (a', p') => a.beq a' && p.beq p'
    | none => false
  | .readint w sg be tag, q => match q.as_readint with
    | Option.some (w', sg', be', tag') => w == w' && sg == sg' && be == be' && tag == tag'
    | none => false
  | .number p base tag, q => match q.as_number with
    | Option.some (p', base', tag') => p.beq p' && base == base' && tag == tag'
    | none => false
  | .grammar rs, q => match q.as_grammar with
    | Option.some rs' => Spec.Patt.beqR rs rs'
    | none => false
def Spec.Patt.beqL : List Patt → List Patt → Bool
  | [], [] => true
  | a :: as, b :: bs => a.beq b && Spec.Patt.beqL as bs
  | _, _ => false
def Spec.Patt.beqO : Option Patt → Option Patt → Bool
  | none, none => true
  | Option.some a, Option.some b => a.beq b
  | _, _ => false
def Spec.Patt.beqR : List (String × Patt) → List (String × Patt) → Bool
  | [], [] => true
  | (n, a) :: as, (m, b) :: bs => n == m && a.beq b && Spec.Patt.beqR as bs
  | _, _ => false
end
end

/-! ### instructions: operands that are sub-rules -/

def Instr.kids {ρ : Type} : Instr ρ → List ρ
  | .look _ r => [r]
  | .choice rs => rs
  | .sequence rs => rs
  | .if_ a b => [a, b]
  | .ifnot a b => [a, b]
  | .not a => [a]
  | .between _ _ r => [r]
  | .capture r _ => [r]
  | .accumulate r _ => [r]
  | .group r _ => [r]
  | .replace r _ _ => [r]
  | .matchtime r _ _ => [r]
  | .error r => [r]
  | .drop r => [r]
  | .to r => [r]
  | .thru r => [r]
  | .lenprefix a b => [a, b]
  | .unref r _ => [r]
  | .capturenum r _ _ => [r]
  | .sub a b => [a, b]
  | .til a b => [a, b]
  | .split a b => [a, b]
  | .nth _ r _ => [r]
  | .onlytags r => [r]
  | _ => []

/-- the same instruction with the sub-rule operands replaced, in order, by `ks` -/
def Instr.rebuild {ρ σ : Type} [Inhabited σ] : Instr ρ → List σ → Instr σ
  | .literal b, _ => .literal b
  | .nchar n, _ => .nchar n
  | .notnchar n, _ => .notnchar n
  | .range lo hi, _ => .range lo hi
  | .set bm, _ => .set bm
  | .look o _, ks => .look o (ks.getD 0 default)
  | .choice _, ks => .choice ks
  | .sequence _, ks => .sequence ks
  | .if_ _ _, ks => .if_ (ks.getD 0 default) (ks.getD 1 default)
  | .ifnot _ _, ks => .ifnot (ks.getD 0 default) (ks.getD 1 default)
  | .not _, ks => .not (ks.getD 0 default)
  | .between lo hi _, ks => .between lo hi (ks.getD 0 default)
  | .gettag s t, _ => .gettag s t
  | .capture _ t, ks => .capture (ks.getD 0 default) t
  | .position t, _ => .position t
  | .argument i t, _ => .argument i t
  | .constant v t, _ => .constant v t
  | .accumulate _ t, ks => .accumulate (ks.getD 0 default) t
  | .group _ t, ks => .group (ks.getD 0 default) t
  | .replace _ v t, ks => .replace (ks.getD 0 default) v t
  | .matchtime _ v t, ks => .matchtime (ks.getD 0 default) v t
  | .error _, ks => .error (ks.getD 0 default)
  | .drop _, ks => .drop (ks.getD 0 default)
  | .backmatch t, _ => .backmatch t
  | .to _, ks => .to (ks.getD 0 default)
  | .thru _, ks => .thru (ks.getD 0 default)
  | .lenprefix _ _, ks => .lenprefix (ks.getD 0 default) (ks.getD 1 default)
  | .readint f t, _ => .readint f t
  | .line t, _ => .line t
  | .column t, _ => .column t
  | .unref _ t, ks => .unref (ks.getD 0 default) t
  | .capturenum _ b t, ks => .capturenum (ks.getD 0 default) b t
  | .sub _ _, ks => .sub (ks.getD 0 default) (ks.getD 1 default)
  | .til _ _, ks => .til (ks.getD 0 default) (ks.getD 1 default)
  | .split _ _, ks => .split (ks.getD 0 default) (ks.getD 1 default)
  | .nth n _ t, ks => .nth n (ks.getD 0 default) t
  | .onlytags _, ks => .onlytags (ks.getD 0 default)

/-- the constant operand (RULE_CONSTANT, RULE_REPLACE, RULE_MATCHTIME index the constants table) -/
def Instr.constOf {ρ : Type} : Instr ρ → Option Val
  | .constant v _ => some v
  | .replace _ v _ => some v
  | .matchtime _ v _ => some v
  | _ => none

/-- spec_reference / spec_backmatch set `b->has_backref` -/
def Instr.readsTags {ρ : Type} : Instr ρ → Bool
  | .gettag _ _ => true
  | .backmatch _ => true
  | _ => false

namespace Compile
open JanetModel.Peg.Spec JanetModel.Gen.Peg

instance : Inhabited Closure := ⟨⟨[], .bool true⟩⟩

/-- emit_bytes: bytes packed little-endian into 32-bit words -/
def packBytes : List Nat → List Nat
  | [] => []
  | [a] => [a]
  | [a, b] => [a + 256 * b]
  | [a, b, c] => [a + 256 * b + 65536 * c]
  | a :: b :: c :: d :: rest => (a + 256 * b + 65536 * c + 16777216 * d) :: packBytes rest

/-- `(uint32_t) offset` -/
def u32 (n : Int) : Nat := if n < 0 then (n + 4294967296).toNat else n.toNat

/-- header words of a rule (emit_1 / emit_2 / emit_3 / emit_rule / emit_bytes / spec_variadic); `c` = constants index -/
def encode : Instr Nat → Nat → List Nat
  | .literal b, _ => [RULE_LITERAL, b.length] ++ packBytes b
  | .nchar n, _ => [RULE_NCHAR, n]
  | .notnchar n, _ => [RULE_NOTNCHAR, n]
  | .range lo hi, _ => [RULE_RANGE, lo + 65536 * hi]
  | .set bm, _ => RULE_SET :: bm
  | .look o r, _ => [RULE_LOOK, u32 o, r]
  | .choice rs, _ => [RULE_CHOICE, rs.length] ++ rs
  | .sequence rs, _ => [RULE_SEQUENCE, rs.length] ++ rs
  | .if_ a b, _ => [RULE_IF, a, b]
  | .ifnot a b, _ => [RULE_IFNOT, a, b]
  | .not a, _ => [RULE_NOT, a]
  | .between lo hi r, _ => [RULE_BETWEEN, lo, hi, r]
  | .gettag s t, _ => [RULE_GETTAG, s, t]
  | .capture r t, _ => [RULE_CAPTURE, r, t]
  | .position t, _ => [RULE_POSITION, t]
  | .argument i t, _ => [RULE_ARGUMENT, i, t]
  | .constant _ t, c => [RULE_CONSTANT, c, t]
  | .accumulate r t, _ => [RULE_ACCUMULATE, r, t]
  | .group r t, _ => [RULE_GROUP, r, t]
  | .replace r _ t, c => [RULE_REPLACE, r, c, t]
  | .matchtime r _ t, c => [RULE_MATCHTIME, r, c, t]
  | .error r, _ => [RULE_ERROR, r]
  | .drop r, _ => [RULE_DROP, r]
  | .backmatch t, _ => [RULE_BACKMATCH, t]
  | .to r, _ => [RULE_TO, r]
  | .thru r, _ => [RULE_THRU, r]
  | .lenprefix a b, _ => [RULE_LENPREFIX, a, b]
  | .readint f t, _ => [RULE_READINT, f, t]
  | .line t, _ => [RULE_LINE, t]
  | .column t, _ => [RULE_COLUMN, t]
  | .unref r t, _ => [RULE_UNREF, r, t]
  | .capturenum r b t, _ => [RULE_CAPTURE_NUM, r, b, t]
  | .sub a b, _ => [RULE_SUB, a, b]
  | .til a b, _ => [RULE_TIL, a, b]
  | .split a b, _ => [RULE_SPLIT, a, b]
  | .nth n r t, _ => [RULE_NTH, n, r, t]
  | .onlytags r, _ => [RULE_ONLY_TAGS, r]

/-- words reserved for the rule header (`reserve(b, n)`; for literals and variadic rules the pushes of emit_bytes /
    spec_variadic) -/
def encSize {ρ : Type} (i : Instr ρ) : Nat := (encode (i.rebuild (i.kids.map (fun _ => 0))) 0).length

def isInt32 (n : Int) : Bool := -2147483648 ≤ n && n ≤ 2147483647
def isNat31 (n : Nat) : Bool := n ≤ int32Max
def okTag (t : Nat) : Bool := t ≤ 255

/-- One source tuple / primitive as the instruction it compiles to, sub-forms as operands; `none` = peg_panic (argument
    checks of the spec_* function) or not a tuple / primitive (keyword, struct). -/
def shape : Patt → Option (Instr Patt)
  | .str b => if b.all (· < 256) then some (.literal b) else none
  | .int n => if isInt32 n then some (if n < 0 then .notnchar (-n).toNat else .nchar n.toNat) else none
  | .bool true => some (.nchar 0)
  | .bool false => some (.notnchar 0)
  | .ref _ => none
  | .grammar _ => none
  | .range [] => none                                                    -- spec_range: peg_arity(b, argc, 1, -1)
  | .range [(lo, hi)] => if lo ≤ hi ∧ hi < 256 then some (.range lo hi) else none
  | .range rs =>
    if rs.all (fun r => r.1 ≤ r.2 ∧ r.2 < 256) then some (.set (bitmapOf (fun c => rs.any (fun r => r.1 ≤ c ∧ c ≤ r.2))))
    else none
  | .set chars => some (.set (bitmapOf (fun c => chars.contains c)))
  | .look off q => if isInt32 off then some (.look off q) else none      -- spec_look
  | .choice ps => some (.choice ps)                                       -- spec_choice -> spec_variadic
  | .seq ps => some (.sequence ps)                                        -- spec_sequence -> spec_variadic
  | .if_ c q => some (.if_ c q)                                           -- spec_if -> spec_branch
  | .ifnot c q => some (.ifnot c q)                                       -- spec_ifnot -> spec_branch
  | .not q => some (.not q)                                               -- spec_not -> spec_onerule
  | .any q => some (.between 0 uintMax q)                                 -- spec_any -> spec_repeater 0
  | .some q => some (.between 1 uintMax q)                                -- spec_some -> spec_repeater 1
  | .opt q => some (.between 0 1 q)                                       -- spec_opt
  | .between lo hi q => if isNat31 lo && isNat31 hi then some (.between lo hi q) else none   -- spec_between
  | .atleast n q => if isNat31 n then some (.between n uintMax q) else none                  -- spec_atleast
  | .atmost n q => if isNat31 n then some (.between 0 n q) else none                         -- spec_atmost
  | .repeat_ n q => if isNat31 n then some (.between n n q) else none                        -- spec_repeat / (n patt)
  | .to q => some (.to q)                                                 -- spec_to -> spec_onerule
  | .thru q => some (.thru q)
  | .capture q tag => if okTag tag then some (.capture q tag) else none   -- spec_capture -> spec_cap1
  | .accumulate q tag => if okTag tag then some (.accumulate q tag) else none
  | .group q tag => if okTag tag then some (.group q tag) else none
  | .drop q => some (.drop q)
  | .onlytags q => some (.onlytags q)
  | .replace q v tag => if okTag tag then some (.replace q v tag) else none                  -- spec_replace
  | .cmt q (.fn f) tag => if okTag tag then some (.matchtime q (.fn f) tag) else none        -- spec_matchtime
  | .cmt _ _ _ => none                                                    -- "expected function or cfunction"
  | .constant v tag => if okTag tag then some (.constant v tag) else none -- spec_constant
  | .argument n tag => if isNat31 n && okTag tag then some (.argument n tag) else none       -- spec_argument
  | .position tag => if okTag tag then some (.position tag) else none     -- spec_position -> spec_tag1
  | .line tag => if okTag tag then some (.line tag) else none
  | .column tag => if okTag tag then some (.column tag) else none
  | .backref s tag => if okTag s && okTag tag then some (.gettag s tag) else none            -- spec_reference
  | .backmatch tag => if okTag tag then some (.backmatch tag) else none   -- spec_backmatch -> spec_tag1
  | .unref q tag => if okTag tag then some (.unref q tag) else none
  | .nth n q tag => if isNat31 n && okTag tag then some (.nth n q tag) else none             -- spec_nth
  | .error none => some (.error (.int 0))                                 -- spec_error, argc == 0: compiles the number 0
  | .error (some q) => some (.error q)
  | .lenprefix n q => some (.lenprefix n q)                               -- spec_lenprefix -> spec_branch
  | .sub w q => some (.sub w q)
  | .split s q => some (.split s q)
  | .til t q => some (.til t q)
  | .readint w sg be tag =>                                               -- spec_readint (mask 0x10 signed, 0x20 big endian)
    if w ≤ maxReadintWidth && okTag tag then some (.readint (w + (if sg then 16 else 0) + (if be then 32 else 0)) tag) else none
  | .number q base tag =>                                                 -- spec_capture_number
    if (base == 0 || (2 ≤ base && base ≤ 36)) && okTag tag then some (.capturenum q base tag) else none

def asRef : Patt → Option String
  | .ref n => some n
  | _ => none

def asGrammar : Patt → Option Scope
  | .grammar rs => some rs
  | _ => none

/-- primitive patterns go to the global cache (root grammar table) -/
def isPrim : Patt → Bool
  | .str _ => true
  | .int _ => true
  | .bool _ => true
  | _ => false

/-- a grammar table: keyword bindings + rule cache, `proto` = enclosing table (`none` = root) -/
structure Tbl where
  rules : Scope
  cache : List (Patt × Nat)
  proto : Option Nat
  level : Nat
  sc : List Scope          -- ghost: `rules` of this table and of its protos, innermost first

structure B where
  code : List Nat
  consts : List Val
  hasBackref : Bool
  prims : List (Patt × Nat)
  root : List (Patt × Nat)
  heap : List Tbl
  log : List (Nat × Closure)   -- ghost

def B.empty : B := ⟨[], [], false, [], [], [], []⟩

def scOf (heap : List Tbl) : Option Nat → List Scope
  | none => []
  | some id => match heap[id]? with
    | some t => t.sc
    | none => []

def levelOf (heap : List Tbl) : Option Nat → Nat
  | none => 0
  | some id => match heap[id]? with
    | some t => t.level
    | none => 0

/-- janet_table_get_ex on a keyword: walk the proto chain (at most JANET_MAX_PROTO_DEPTH tables; nesting is bounded by
    `maxProtoDepth` below, so the bound is never the reason for a miss); the root table binds no keywords -/
def lookupKw (heap : List Tbl) : Nat → Option Nat → String → Option (Nat × Patt)
  | 0, _, _ => none
  | _ + 1, none, _ => none
  | f + 1, some id, name =>
    match heap[id]? with
    | none => none
    | some t =>
      match lookupScope t.rules name with
      | some p => some (id, p)
      | none => lookupKw heap f t.proto name

abbrev maxProtoDepth : Nat := 200

/-- the keyword loop at the head of peg_compile1; returns the grammar, the form and what is left of `i` -/
def resolveKw (dflt : Scope) (heap : List Tbl) : Nat → Option Nat → Patt → Option (Option Nat × Patt × Nat)
  | 0, _, _ => none                                        -- `if (i == 0) peg_panic("reference chain too deep")`
  | i + 1, g, p =>
    match asRef p with
    | none => some (g, p, i + 1)
    | some name =>
      match lookupKw heap (maxProtoDepth + 1) g name with
      | some (g', q) => resolveKw dflt heap i (some g') q
      | none =>
        match lookupScope dflt name with
        | some q => resolveKw dflt heap i g q
        | none => none                                     -- "unknown rule"

def lookupCache (c : List (Patt × Nat)) (q : Patt) : Option Nat := (c.find? (fun e => e.1.beq q)).map (·.2)

def getCache (b : B) (g : Option Nat) (q : Patt) : Option Nat :=
  if isPrim q then lookupCache b.prims q
  else match g with
    | none => lookupCache b.root q
    | some id => match b.heap[id]? with
      | some t => lookupCache t.cache q
      | none => none

def putCache (b : B) (g : Option Nat) (q : Patt) (rule : Nat) : B :=
  if isPrim q then { b with prims := (q, rule) :: b.prims }
  else match g with
    | none => { b with root := (q, rule) :: b.root }
    | some id => { b with heap := b.heap.modify id (fun t => { t with cache := (q, rule) :: t.cache }) }

def reserve (b : B) (n : Nat) : B := { b with code := b.code ++ List.replicate n 0 }

/-- memcpy of the header words into the reserved slot -/
def patch (code : List Nat) (r : Nat) (ws : List Nat) : List Nat :=
  (List.range code.length).map (fun k => if r ≤ k ∧ k < r + ws.length then ws.getD (k - r) 0 else code.getD k 0)

def emitConst {ρ : Type} (i : Instr ρ) (b : B) : Nat × B :=
  match i.constOf with
  | some v => (b.consts.length, { b with consts := b.consts ++ [v] })
  | none => (0, b)

def B.addLog (b : B) (a : Nat) (c : Closure) : B := { b with log := (a, c) :: b.log }

/-- the sub-forms one after the other (each `peg_compile1(b, argv[i])` of a spec_* function) -/
def compileKids (k : B → Option Nat → Patt → Option (Nat × Nat × B)) : B → Option Nat → List Patt → Option (List Nat × B)
  | b, _, [] => some ([], b)
  | b, g, p :: ps =>
    match k b g p with
    | none => none
    | some (a, _, b1) =>
      match compileKids k b1 g ps with
      | none => none
      | some (as, b2) => some (a :: as, b2)

abbrev guard : Nat := recursionGuard
/-- longest reference chain `Spec.fetch` follows -/
abbrev maxHops : Nat := 1023

/-- peg_compile1.  Result: rule address, number of keyword / grammar links followed, builder. -/
def compile1 (dflt : Scope) : Nat → B → Option Nat → Patt → Option (Nat × Nat × B)
  | d, b, g, p =>
    match resolveKw dflt b.heap guard g p with
    | none => none
    | some (g1, q, il) =>
      let kh := guard - il
      let c : Closure := ⟨scOf b.heap g, p⟩
      match getCache b g1 q with
      | some a => some (a, kh, b.addLog a c)
      | none =>
        match d with
        | 0 => none                                          -- "peg grammar recursed too deeply"
        | d' + 1 =>
          let rule := b.code.length
          match asGrammar q with
          | some rules =>
            match lookupScope rules "main" with
            | none => none                                   -- "grammar requires :main rule"
            | some m =>
              if levelOf b.heap g1 + 1 ≥ maxProtoDepth then none else
              let t : Tbl := ⟨rules, [], g1, levelOf b.heap g1 + 1, rules :: scOf b.heap g1⟩
              match compile1 dflt d' { b with heap := b.heap ++ [t] } (some b.heap.length) m with
              | none => none
              | some (a, h2, b2) =>
                if kh + 1 + h2 > maxHops then none else some (a, kh + 1 + h2, b2.addLog a c)
          | none =>
            match shape q with
            | none => none
            | some i =>
              let b1 := reserve (putCache b g1 q rule) (encSize i)
              match compileKids (compile1 dflt d') b1 g1 i.kids with
              | none => none
              | some (addrs, b2) =>
                let cb := emitConst i b2
                let b4 : B := { cb.2 with code := patch cb.2.code rule (encode (i.rebuild addrs) cb.1),
                                          hasBackref := cb.2.hasBackref || i.readsTags }
                some (rule, kh, b4.addLog rule c)

structure Output where
  entry : Nat
  code : List Nat
  consts : List Val
  hasBackref : Bool
  log : List (Nat × Closure)

/-- compile_peg: empty root table, depth JANET_RECURSION_GUARD -/
def compile (dflt : Scope) (p : Patt) : Option Output :=
  match compile1 dflt guard B.empty none p with
  | none => none
  | some (a, _, b) => some ⟨a, b.code, b.consts, b.hasBackref, b.log⟩

def Output.program (o : Output) : Program := { bytecode := o.code.toArray, constants := o.consts.toArray }

end Compile
end JanetModel.Peg
