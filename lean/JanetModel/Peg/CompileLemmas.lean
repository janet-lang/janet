/- Correctness of the compile model (Peg/Compile.lean): lemmas for `compile_correct` (Props/C12.lean). -/
import JanetModel.Peg.Compile
import JanetModel.Peg.ValidateLemmas
import JanetModel.Util.List

set_option linter.unusedSimpArgs false
namespace JanetModel.Peg
open Spec Compile JanetModel.Gen.Peg

theorem word_mk (code : List Nat) (cs : Array Val) (i : Nat) : (Program.mk code.toArray cs).word i = code.getD i 0 := by
  simp [Program.word, Array.getD_eq_getD_getElem?, List.getD_eq_getElem?_getD]

def hdrAt (code : List Nat) (a : Nat) (ws : List Nat) : Prop :=
  a + ws.length ≤ code.length ∧ ∀ k, k < ws.length → code.getD (a + k) 0 = ws.getD k 0

/-- Word `a + k` is header word `k` where there is one and is left as it is otherwise, so that the operand words can be
    rewritten before the opcode is known. -/
theorem hdrAt_word {code : List Nat} {a : Nat} {ws : List Nat} (hh : hdrAt code a ws) (cs : Array Val) (k : Nat) :
    (Program.mk code.toArray cs).word (a + k) = ws.getD k ((Program.mk code.toArray cs).word (a + k)) := by
  by_cases hk : k < ws.length
  · rw [word_mk, hh.2 k hk, List.getD_eq_getElem?_getD, List.getD_eq_getElem?_getD, List.getElem?_eq_getElem hk]; rfl
  · rw [List.getD_eq_getElem?_getD, List.getElem?_eq_none (Nat.le_of_not_lt hk)]; rfl

theorem packBytes_length : ∀ b : List Nat, (packBytes b).length = (b.length + 3) / 4
  | [] => by simp [packBytes]
  | [_] => by simp [packBytes]
  | [_, _] => by simp [packBytes]
  | [_, _, _] => by simp [packBytes]
  | _ :: _ :: _ :: _ :: rest => by
    simp only [packBytes, List.length_cons, packBytes_length rest]; omega

theorem digit256 (a r : Nat) (ha : a < 256) : (a + 256 * r) % 256 = a ∧ (a + 256 * r) / 256 = r := by omega

theorem word_bytes (w a b c d : Nat) (hw : w = a + 256 * b + 65536 * c + 16777216 * d) (ha : a < 256) (hb : b < 256)
    (hc : c < 256) (hd : d < 256) :
    w / 256 ^ 0 % 256 = a ∧ w / 256 ^ 1 % 256 = b ∧ w / 256 ^ 2 % 256 = c ∧ w / 256 ^ 3 % 256 = d := by
  have e : w = a + 256 * (b + 256 * (c + 256 * d)) := by omega
  have ⟨a0, a1⟩ := digit256 a (b + 256 * (c + 256 * d)) ha
  have ⟨b0, b1⟩ := digit256 b (c + 256 * d) hb
  have ⟨c0, c1⟩ := digit256 c d hc
  rw [e, Nat.pow_zero, Nat.div_one, Nat.pow_one, show 256 ^ 2 = 256 * 256 from rfl, show 256 ^ 3 = 256 * 256 * 256 from rfl,
    ← Nat.div_div_eq_div_mul, ← Nat.div_div_eq_div_mul, ← Nat.div_div_eq_div_mul, a0, a1, b0, b1, c0, c1]
  exact ⟨rfl, rfl, rfl, Nat.mod_eq_of_lt hd⟩

theorem packBytes_byte : ∀ (b : List Nat), (∀ x ∈ b, x < 256) → ∀ j, j < b.length →
    ((packBytes b).getD (j / 4) 0 / 256 ^ (j % 4)) % 256 = b.getD j 0
  | [], _, j, hj => by simp at hj
  | [a], h, j, hj => by
    have wb := word_bytes _ a 0 0 0 rfl (h a (by simp)) (by decide) (by decide) (by decide)
    have : j = 0 := by simpa using hj
    subst this; exact wb.1
  | [a, b], h, j, hj => by
    have wb := word_bytes _ a b 0 0 rfl (h a (by simp)) (h b (by simp)) (by decide) (by decide)
    rcases j with _ | _ | j
    · exact wb.1
    · exact wb.2.1
    · simp at hj; omega
  | [a, b, c], h, j, hj => by
    have wb := word_bytes _ a b c 0 rfl (h a (by simp)) (h b (by simp)) (h c (by simp)) (by decide)
    rcases j with _ | _ | _ | j
    · exact wb.1
    · exact wb.2.1
    · exact wb.2.2.1
    · simp at hj; omega
  | a :: b :: c :: d :: rest, h, j, hj => by
    have wb := word_bytes _ a b c d rfl (h a (by simp)) (h b (by simp)) (h c (by simp)) (h d (by simp))
    rcases j with _ | _ | _ | _ | j
    · exact wb.1
    · exact wb.2.1
    · exact wb.2.2.1
    · exact wb.2.2.2
    · show (packBytes (a :: b :: c :: d :: rest)).getD ((j + 4) / 4) 0 / 256 ^ ((j + 4) % 4) % 256 = _
      rw [Nat.add_div_right j (by decide), Nat.add_mod_right]
      exact packBytes_byte rest (fun x hx => h x (by simp [hx])) j (by simpa using hj)

def EncOk {ρ : Type} : Instr ρ → Prop
  | .literal b => ∀ x ∈ b, x < 256
  | .range lo hi => lo < 256 ∧ hi < 256
  | .set bm => bm.length = 8
  | .look o _ => isInt32 o = true
  | _ => True

def constOk {ρ : Type} (consts : List Val) (i : Instr ρ) (c : Nat) : Prop :=
  match i.constOf with
  | some v => consts[c]? = some v
  | none => True

theorem range_map_getD (l : List Nat) (f : Nat → Nat) (h : ∀ j, j < l.length → f j = l.getD j 0) :
    (List.range l.length).map f = l :=
  (List.map_congr_left fun j hj => h j (List.mem_range.1 hj)).trans (Util.range_map_getD l 0)

theorem asInt32_u32 (o : Int) (h : isInt32 o = true) : asInt32 (u32 o) = o := by
  simp [isInt32] at h
  unfold asInt32 u32
  split <;> split <;> omega

theorem decode_encode (code : List Nat) (consts : List Val) (a : Nat) (j : Instr Nat) (c : Nat)
    (hok : EncOk j) (hh : hdrAt code a (encode j c)) (hc : constOk consts j c) :
    decode ⟨code.toArray, consts.toArray⟩ a = some j := by
  have hsz : ¬ a ≥ code.toArray.size := by
    have : 0 < (encode j c).length := by cases j <;> exact Nat.succ_pos _
    have := hh.1
    simp only [List.size_toArray]; omega
  have w := hdrAt_word hh consts.toArray
  have w0 : Program.word _ a = _ := w 0
  have g : ∀ k, k < (encode j c).length → Program.word ⟨code.toArray, consts.toArray⟩ (a + k) = (encode j c).getD k 0 :=
    fun k hk => (word_mk ..).trans (hh.2 k hk)
  rw [decode, if_neg hsz, w0, w 1, w 2, w 3]
  cases j with
  | literal b =>
    show some (Instr.literal ((List.range b.length).map (Program.litByte ⟨code.toArray, consts.toArray⟩ (a + 2)))) = _
    congr 2
    apply range_map_getD
    intro j hj
    have := g (j / 4 + 2) (by show j / 4 + 2 < (packBytes b).length + 2; rw [packBytes_length]; omega)
    rw [Program.litByte, Nat.add_assoc, Nat.add_comm 2, this]
    exact packBytes_byte b hok j hj
  | set bm =>
    show some (Instr.set ((List.range 8).map fun j => Program.word ⟨code.toArray, consts.toArray⟩ (a + 1 + j))) = _
    congr 2
    have hl : bm.length = 8 := hok
    rw [← hl]
    apply range_map_getD
    intro j hj
    rw [Nat.add_assoc, Nat.add_comm 1, g (j + 1) (Nat.succ_lt_succ hj)]
    rfl
  | choice rs | sequence rs =>
    refine congrArg some (congrArg _ ?_)
    show (List.range rs.length).map (fun j => Program.word ⟨code.toArray, consts.toArray⟩ (a + 2 + j)) = _
    apply range_map_getD
    intro j hj
    rw [Nat.add_assoc, Nat.add_comm 2, g (j + 2) (Nat.succ_lt_succ (Nat.succ_lt_succ hj))]
    rfl
  | range lo hi =>
    obtain ⟨hlo, hhi⟩ : lo < 256 ∧ hi < 256 := hok
    show some (Instr.range ((lo + 65536 * hi) % 256) ((lo + 65536 * hi) / 65536 % 256)) = _
    congr <;> omega
  | look o r => exact congrArg (fun o => some (Instr.look o r)) (asInt32_u32 o hok)
  | constant v t | replace r v t | matchtime r v t =>
    show (consts.toArray[c]?).map _ = _
    rw [List.getElem?_toArray, show consts[c]? = some v from hc]; rfl
  | _ => rfl
theorem shape_fetch (dflt : Scope) (sc : List Scope) (q : Patt) (i : Instr Patt) (n : Nat) (h : shape q = some i) :
    fetchN dflt (n + 1) ⟨sc, q⟩ = some (i.rebuild (i.kids.map (fun k => (⟨sc, k⟩ : Closure)))) := by
  unfold shape at h
  split at h
  all_goals try split at h
  all_goals cases h
  all_goals try rfl
  -- what is left: an integer (n-char / not-n-char by sign), and `range` with more than one pair (a set)
  next k _ =>
    show some (if k < 0 then Instr.notnchar (-k).toNat else Instr.nchar k.toNat) = _
    split <;> rfl
  next rs h1 h2 _ =>
    rcases rs with _ | ⟨⟨lo, hi⟩, _ | _⟩
    · exact (h1 rfl).elim
    · exact (h2 lo hi rfl).elim
    · rfl

theorem encOk_rebuild {ρ σ : Type} [Inhabited σ] (i : Instr ρ) (ks : List σ) : EncOk (i.rebuild ks) ↔ EncOk i := by
  cases i <;> exact Iff.rfl

theorem shape_encOk (q : Patt) (i : Instr Patt) (ks : List Nat) (h : shape q = some i) : EncOk (i.rebuild ks) := by
  rw [encOk_rebuild]
  unfold shape at h
  split at h
  all_goals try split at h
  all_goals cases h
  all_goals try trivial
  -- what is left: a string literal (bytes), an integer, a single `range` pair
  next b hb => exact fun x hx => by simpa using List.all_eq_true.1 hb x hx
  next => split <;> trivial
  next lo hi hr => exact ⟨by omega, hr.2⟩

theorem shape_prim_kids (q : Patt) (i : Instr Patt) (hp : isPrim q = true) (h : shape q = some i) : i.kids = [] := by
  cases q <;> simp [isPrim] at hp
  · simp only [shape] at h; split at h
    · cases h; rfl
    · cases h
  · simp only [shape] at h; split at h
    · cases h; split <;> rfl
    · cases h
  · rename_i b; cases b <;> (simp only [shape] at h; cases h; rfl)

theorem asRef_eq {p : Patt} {n : String} (h : asRef p = some n) : p = .ref n := by
  cases p <;> simp [asRef] at h; rw [h]

theorem asGrammar_eq {p : Patt} {rs : Scope} (h : asGrammar p = some rs) : p = .grammar rs := by
  cases p <;> simp [asGrammar] at h; rw [h]

theorem encode_length {ρ : Type} (i : Instr ρ) (as : List Nat) (c : Nat) (h : as.length = i.kids.length) :
    (encode (i.rebuild as) c).length = encSize i := by
  cases i <;> simp [Instr.kids] at h <;> simp [encSize, encode, Instr.rebuild, Instr.kids, h]
end JanetModel.Peg
