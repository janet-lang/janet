/-
Fuel monotonicity of the operational PEG model: an answer of `Op.run` other than `Err.fuel` (the model artefact
"Lean recursion fuel exhausted") does not change when more fuel is given.  The C `peg_rule` has no fuel; this turns
"the model's fuel sufficed" into a property of the answer alone.

`FLe a b` := `a` is the fuel error, or `a = b` (the flat "definedness" order with `Err.fuel` as bottom).  `Except.bind`
is monotone for it, every loop of `Op` is monotone in the child runner (and in its own Lean fuel where it has one), hence
`Op.step` is, hence `Op.run` by induction on the fuel.
Core Lean only.
-/
import JanetModel.Peg.Op

namespace JanetModel.Peg
namespace Op
variable {ρ : Type}

/-- flat order with `Err.fuel` as bottom -/
def FLe {α : Type} (a b : Except Err α) : Prop := a = .error .fuel ∨ a = b

theorem FLe.refl {α : Type} (a : Except Err α) : FLe a a := Or.inr rfl

theorem FLe.eq_of_ne {α : Type} {a b : Except Err α} (h : FLe a b) (hne : a ≠ .error .fuel) : b = a := by
  rcases h with h | h
  · exact absurd h hne
  · exact h.symm

theorem FLe.of_succ {α : Type} {F : Nat → Except Err α} (h : ∀ n, FLe (F n) (F (n + 1))) {f g : Nat} (hfg : f ≤ g) :
    FLe (F f) (F g) := by
  induction hfg with
  | refl => exact FLe.refl _
  | step _ ih =>
    rcases ih with h' | h'
    · exact Or.inl h'
    · rw [h']; exact h _

theorem FLe.bot {α : Type} (b : Except Err α) : FLe (.error .fuel) b := Or.inl rfl

theorem FLe.bind {α β : Type} {a b : Except Err α} {f g : α → Except Err β}
    (h : FLe a b) (hf : ∀ x, FLe (f x) (g x)) : FLe (a >>= f) (b >>= g) := by
  rcases h with h | h
  · subst h; exact Or.inl rfl
  · subst h
    cases a with
    | error e => exact Or.inr rfl
    | ok x => exact hf x

theorem FLe.ite {α : Type} {c : Prop} [Decidable c] {a a' b b' : Except Err α}
    (h1 : c → FLe a a') (h2 : ¬c → FLe b b') : FLe (if c then a else b) (if c then a' else b') := by
  by_cases hc : c
  · simp only [hc, if_true]; exact h1 hc
  · simp only [hc, if_false]; exact h2 hc

/-- child runner `k'` answers whatever `k` answers, unless `k` ran out of fuel -/
def KLe (k k' : OK ρ) : Prop := ∀ r s p, FLe (k r s p) (k' r s p)

theorem choiceLoop_mono {k k' : OK ρ} (h : KLe k k') (cs : CapState) :
    ∀ rs s pos, FLe (choiceLoop k cs rs s pos) (choiceLoop k' cs rs s pos)
  | [], s, pos => FLe.refl _
  | [r], s, pos => by simp only [choiceLoop]; exact h _ _ _
  | r :: r2 :: rs, s, pos => by
    simp only [choiceLoop]
    refine FLe.bind (h _ _ _) ?_
    rintro ⟨res, s1⟩
    cases res with
    | some p => exact FLe.refl _
    | none => exact choiceLoop_mono h cs (r2 :: rs) _ _

theorem seqLoop_mono {k k' : OK ρ} (h : KLe k k') :
    ∀ rs s pos, FLe (seqLoop k rs s pos) (seqLoop k' rs s pos)
  | [], s, pos => FLe.refl _
  | [r], s, pos => by simp only [seqLoop]; exact h _ _ _
  | r :: r2 :: rs, s, pos => by
    simp only [seqLoop]
    refine FLe.bind (h _ _ _) ?_
    rintro ⟨res, s1⟩
    cases res with
    | some p => exact seqLoop_mono h (r2 :: rs) _ _
    | none => exact FLe.refl _

theorem toLoop_mono {k k' : OK ρ} (h : KLe k k') (r : ρ) (isTo : Bool) (cs : CapState) :
    ∀ n s pos, FLe (toLoop k r isTo cs n s pos) (toLoop k' r isTo cs n s pos)
  | 0, s, pos => FLe.refl _
  | n + 1, s, pos => by
    simp only [toLoop]
    refine FLe.bind (h _ _ _) ?_
    rintro ⟨res, s1⟩
    cases res with
    | some p => exact FLe.refl _
    | none => exact toLoop_mono h r isTo cs n _ _

theorem betweenLoop_kmono {k k' : OK ρ} (h : KLe k k') (r : ρ) (hi : Nat) :
    ∀ n c s pos, FLe (betweenLoop k r hi n c s pos) (betweenLoop k' r hi (n + 1) c s pos)
  | 0, c, s, pos => FLe.bot _
  | n + 1, c, s, pos => by
    rw [betweenLoop, betweenLoop]
    refine FLe.ite (fun _ => ?_) (fun _ => FLe.refl _)
    refine FLe.bind (h _ _ _) ?_
    rintro ⟨res, s1⟩
    cases res with
    | none => exact FLe.refl _
    | some p =>
      dsimp only
      refine FLe.ite (fun _ => FLe.refl _) (fun _ => ?_)
      exact betweenLoop_kmono h r hi n _ _ _

theorem lenLoop_mono {k k' : OK ρ} (h : KLe k k') (r : ρ) (cs : CapState) :
    ∀ n s pos, FLe (lenLoop k r cs n s pos) (lenLoop k' r cs n s pos)
  | 0, s, pos => FLe.refl _
  | n + 1, s, pos => by
    simp only [lenLoop]
    refine FLe.bind (FLe.refl _) (fun s0 => ?_)
    refine FLe.bind (h _ _ _) ?_
    rintro ⟨res, s1⟩
    cases res with
    | none => exact FLe.refl _
    | some p => exact lenLoop_mono h r cs n _ _

theorem tilLoop_mono {k k' : OK ρ} (h : KLe k k') (r : ρ) :
    ∀ n s pos, FLe (tilLoop k r n s pos) (tilLoop k' r n s pos)
  | 0, s, pos => FLe.refl _
  | n + 1, s, pos => by
    simp only [tilLoop]
    refine FLe.bind (h _ _ _) ?_
    rintro ⟨res, s1⟩
    cases res with
    | some e => exact FLe.refl _
    | none => exact tilLoop_mono h r n _ _

theorem splitFind_mono {k k' : OK ρ} (h : KLe k k') (sep : ρ) (cs : CapState) :
    ∀ n s ce pos, FLe (splitFind k sep cs n s ce pos) (splitFind k' sep cs n s ce pos)
  | 0, s, ce, pos => FLe.refl _
  | n + 1, s, ce, pos => by
    simp only [splitFind]
    refine FLe.bind (h _ _ _) ?_
    rintro ⟨res, s1⟩
    cases res with
    | some c => exact FLe.refl _
    | none => exact splitFind_mono h sep cs n _ _ _

theorem splitLoop_kmono {k k' : OK ρ} (h : KLe k k') (sep sub : ρ) (savedEnd : Nat) :
    ∀ n s cstart pos, FLe (splitLoop k sep sub savedEnd n s cstart pos) (splitLoop k' sep sub savedEnd (n + 1) s cstart pos)
  | 0, s, cstart, pos => FLe.bot _
  | n + 1, s, cstart, pos => by
    rw [splitLoop, splitLoop]
    refine FLe.ite (fun _ => ?_) (fun _ => FLe.refl _)
    refine FLe.bind (FLe.refl _) (fun s0 => ?_)
    refine FLe.bind (splitFind_mono h sep _ _ _ _ _) ?_
    rintro ⟨chunkEnd, pos', s1⟩
    refine FLe.bind (FLe.refl _) (fun s4 => ?_)
    refine FLe.bind (h _ _ _) ?_
    rintro ⟨res, s5⟩
    cases res with
    | none => exact FLe.refl _
    | some p =>
      dsimp only
      refine FLe.ite (fun _ => FLe.refl _) (fun _ => ?_)
      exact splitLoop_kmono h sep sub savedEnd n _ _ _

/-- one structural step of the monotonicity argument -/
macro "fmono_step" h:ident : tactic => `(tactic| first
  | exact FLe.refl _
  | exact $h _ _ _
  | exact choiceLoop_mono $h _ _ _ _
  | exact seqLoop_mono $h _ _ _
  | exact toLoop_mono $h _ _ _ _ _ _
  | exact lenLoop_mono $h _ _ _ _ _
  | exact splitLoop_kmono $h _ _ _ _ _ _ _
  | refine FLe.bind (betweenLoop_kmono $h _ _ _ _ _ _) ?_
  | refine FLe.bind (tilLoop_mono $h _ _ _ _) ?_
  | refine FLe.bind ($h _ _ _) ?_
  | refine FLe.bind (FLe.refl _) ?_
  | refine FLe.ite (fun _ => ?_) (fun _ => ?_)
  | intro _
  | split)

theorem FLe.under_down {α β : Type} {k k' : ρ → St → Nat → Except Err β} (h : ∀ r s p, FLe (k r s p) (k' r s p)) (r : ρ) (S : St)
    (pos : Nat) (f : St → β → Except Err α) :
    FLe (down1 S >>= fun s0 => k r s0 pos >>= f s0) (down1 S >>= fun s0 => k' r s0 pos >>= f s0) :=
  FLe.bind (FLe.refl _) fun _ => FLe.bind (h _ _ _) fun _ => FLe.refl _

theorem step_mono (E : Env) {k k' : OK ρ} (h : KLe k k') (n : Nat) (i : Instr ρ) (s : St) (pos : Nat) :
    FLe (step E k n i s pos) (step E k' (n + 1) i s pos) :=
  match i with
  | .literal _ | .nchar _ | .notnchar _ | .range _ _ | .set _ | .gettag _ _ | .position _ | .line _ | .column _
  | .argument _ _ | .constant _ _ | .backmatch _ | .readint _ _ => FLe.refl _
  | .not r | .capture r _ | .capturenum r _ _ | .drop r | .onlytags r | .group r _ | .nth _ r _ | .replace r _ _
  | .matchtime r _ _ | .error r | .unref r _ => FLe.under_down h r _ pos _
  | .look _ r => FLe.ite (fun _ => FLe.refl _) fun _ => FLe.under_down h r s _ _
  | .accumulate r _ => FLe.ite (fun _ => h _ _ _) fun _ => FLe.under_down h r _ pos _
  | .choice _ => FLe.ite (fun _ => FLe.refl _) fun _ => FLe.bind (FLe.refl _) fun _ => choiceLoop_mono h _ _ _ _
  | .sequence _ => FLe.ite (fun _ => FLe.refl _) fun _ => FLe.bind (FLe.refl _) fun _ => seqLoop_mono h _ _ _
  | .to _ | .thru _ => FLe.bind (FLe.refl _) fun _ => toLoop_mono h _ _ _ _ _ _
  | .between _ _ _ => FLe.bind (FLe.refl _) fun _ => FLe.bind (betweenLoop_kmono h _ _ _ _ _ _) fun _ => FLe.refl _
  | .split _ _ => splitLoop_kmono h _ _ _ _ _ _ _
  | .if_ _ _ => FLe.bind (FLe.refl _) fun _ => FLe.bind (h _ _ _) fun
    | (none, _) => FLe.refl _
    | (some _, _) => h _ _ _
  | .ifnot _ _ => FLe.bind (FLe.refl _) fun _ => FLe.bind (h _ _ _) fun
    | (some _, _) => FLe.refl _
    | (none, _) => h _ _ _
  | .sub _ r => FLe.bind (FLe.refl _) fun _ => FLe.bind (h _ _ _) fun
    | (none, _) => FLe.refl _
    | (some _, _) => FLe.under_down h r _ pos _
  | .til _ r => FLe.bind (FLe.refl _) fun _ => FLe.bind (tilLoop_mono h _ _ _ _) fun
    | (none, _) => FLe.refl _
    | (some _, _) => FLe.under_down h r _ pos _
  | .lenprefix _ _ => FLe.bind (FLe.refl _) fun _ => FLe.bind (h _ _ _) fun
    | (none, _) => FLe.refl _
    | (some _, _) => by
      dsimp only
      split
      · exact FLe.ite (fun _ => lenLoop_mono h _ _ _ _ _) fun _ => FLe.refl _
      · exact FLe.refl _

theorem run_mono_succ (E : Env) (fetch : ρ → Option (Instr ρ)) :
    ∀ fuel, KLe (run E fetch fuel) (run E fetch (fuel + 1))
  | 0 => fun _ _ _ => FLe.bot _
  | fuel + 1 => fun r s p => by
    rw [run, run]
    cases fetch r with
    | none => exact FLe.refl _
    | some i => exact step_mono E (run_mono_succ E fetch fuel) (fuel + 1) i s p

theorem run_mono_le (E : Env) (fetch : ρ → Option (Instr ρ)) (f g : Nat) (hfg : f ≤ g) :
    KLe (run E fetch f) (run E fetch g) :=
  fun r s p => FLe.of_succ (fun n => run_mono_succ E fetch n r s p) hfg

/-- **Fuel monotonicity of `Op.run`**: for every program (`fetch`), environment, rule, state and position, an answer other
    than `Err.fuel` is the answer at every larger fuel. -/
theorem run_fuel_mono (E : Env) (fetch : ρ → Option (Instr ρ)) (f g : Nat) (hfg : f ≤ g) (r : ρ) (s : St) (pos : Nat)
    (hne : run E fetch f r s pos ≠ .error .fuel) : run E fetch g r s pos = run E fetch f r s pos :=
  (run_mono_le E fetch f g hfg r s pos).eq_of_ne hne

/-- two fuels that both suffice give the same answer: the fuel-free meaning of a PEG program is unique -/
theorem run_fuel_unique (E : Env) (fetch : ρ → Option (Instr ρ)) (f g : Nat) (r : ρ) (s : St) (pos : Nat)
    (hf : run E fetch f r s pos ≠ .error .fuel) (hg : run E fetch g r s pos ≠ .error .fuel) :
    run E fetch f r s pos = run E fetch g r s pos := by
  rcases Nat.le_total f g with h | h
  · exact (run_fuel_mono E fetch f g h r s pos hf).symm
  · exact run_fuel_mono E fetch g f h r s pos hg

end Op
end JanetModel.Peg
