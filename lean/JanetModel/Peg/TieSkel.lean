/-
Structural tie of ALL 37 opcode cases of `peg_rule`: the statements of the CURRENT peg.c, translated by
tools/gen/pegskel.py into programs of the IR `Peg/Skel.lean` (`Gen/PegSkel.lean`, regenerated on every run), executed by
`Skel.run`, ARE the corresponding cases of the hand-written operational model `Op.step` - for every environment, sub-rule
runner, state and position.  Built separately by checks/C12.py (like Peg/Tie.lean): on a tree where a case no longer does
what the model does, the theorem of that opcode fails and names it.

Every case is run one statement at a time (`Peg/SkelSteps.lean`: `execL_pure rfl` skips what is determined, a sub-rule call is a
case split on its answer).  A case with a C `while` loop hands the loop rule `loop_tie` an invariant (which locals hold the
variables of the model's loop function) and proves ONE pass through the body against ONE unfolding of that function; the
descending `for` loops (`down_search`, `readint_le_loop`) and `unref_loop`, whose result is existential, are inductions of their own.
-/
import JanetModel.Gen.PegSkel
import JanetModel.Gen.Peg
import JanetModel.Peg.Skel
import JanetModel.Peg.SkelCongr
import JanetModel.Peg.SkelSteps
import JanetModel.Peg.FuelMono

namespace JanetModel.Peg.TieSkel
open JanetModel.Peg JanetModel.Peg.Skel

variable {ρ : Type}

macro "skel_unfold" p:ident : tactic =>
  `(tactic| simp only [run, $p:ident, exec, execStmt, evalCond, evalVE, Loc.init, Op.step])

/-- operands of an instruction with no constant operand -/
def ops (rules : List (Nat × ρ)) (words : List (Nat × Nat)) : Operands ρ := ⟨opsRule rules, opsWord words, fun _ => .nil, fun _ => []⟩

theorem rule_if (E : Env) (k : OK ρ) (n : Nat) (a b : ρ) (s : St) (pos : Nat) :
    run E k (ops [(1, a), (2, b)] []) Gen.PegSkel.RULE_IF s pos = Op.step E k n (.if_ a b) s pos := by
  refine run_of_execL rfl ?_
  refine execL_bind rfl fun s0 _ => execL_call rfl rfl fun res s1 _ => ?_
  cases res with
  | none => rfl
  | some p => exact execL_pure rfl <| execL_else rfl <| execL_tail rfl rfl

theorem rule_ifnot (E : Env) (k : OK ρ) (n : Nat) (a b : ρ) (s : St) (pos : Nat) :
    run E k (ops [(1, a), (2, b)] []) Gen.PegSkel.RULE_IFNOT s pos = Op.step E k n (.ifnot a b) s pos := by
  refine run_of_execL rfl ?_
  refine execL_bind rfl fun s0 _ => execL_pure rfl <| execL_call rfl rfl fun res s1 _ => ?_
  cases res with
  | none => exact execL_then rfl <| execL_pure rfl <| execL_pure rfl <| execL_tail rfl rfl
  | some p => rfl

theorem rule_not (E : Env) (k : OK ρ) (n : Nat) (a : ρ) (s : St) (pos : Nat) :
    run E k (ops [(1, a)] []) Gen.PegSkel.RULE_NOT s pos = Op.step E k n (.not a) s pos := by
  refine run_of_execL rfl ?_
  refine execL_bind rfl fun s0 _ => execL_pure rfl <| execL_call rfl rfl fun res s1 _ => ?_
  cases res <;> rfl

theorem rule_drop (E : Env) (k : OK ρ) (n : Nat) (r : ρ) (s : St) (pos : Nat) :
    run E k (ops [(1, r)] []) Gen.PegSkel.RULE_DROP s pos = Op.step E k n (.drop r) s pos := by
  refine run_of_execL rfl ?_
  refine execL_pure rfl <| execL_bind rfl fun s0 _ => execL_call rfl rfl fun res s1 _ => ?_
  cases res <;> rfl

theorem rule_only_tags (E : Env) (k : OK ρ) (n : Nat) (r : ρ) (s : St) (pos : Nat) :
    run E k (ops [(1, r)] []) Gen.PegSkel.RULE_ONLY_TAGS s pos = Op.step E k n (.onlytags r) s pos := by
  refine run_of_execL rfl ?_
  refine execL_pure rfl <| execL_bind rfl fun s0 _ => execL_call rfl rfl fun res s1 _ => ?_
  cases res <;> rfl

/-- RULE_SUB: the window is narrowed to where the window pattern ended, the sub-pattern runs from the START, and
    `s->text_end` gets back the value it had when the case was entered (an enclosing window stays in force) -/
theorem rule_sub (E : Env) (k : OK ρ) (n : Nat) (w r : ρ) (s : St) (pos : Nat) :
    run E k (ops [(1, w), (2, r)] []) Gen.PegSkel.RULE_SUB s pos = Op.step E k n (.sub w r) s pos := by
  refine run_of_execL rfl ?_
  refine execL_pure rfl <| execL_bind rfl fun s0 _ => execL_call rfl rfl fun res s1 _ => ?_
  cases res with
  | none => rfl
  | some we =>
    refine execL_pure rfl <| execL_else rfl <| execL_pure rfl <| execL_pure rfl <| execL_bind rfl fun s3 _ =>
      execL_call rfl rfl fun res2 s4 _ => ?_
    cases res2 <;> rfl

/-- RULE_ACCUMULATE: only an UNTAGGED accumulate inside an accumulation runs its body in place; otherwise the mode is
    switched and restored, the accumulated text is cut off the scratch buffer and pushed (and tagged) as one capture -/
theorem rule_accumulate (E : Env) (k : OK ρ) (n : Nat) (r : ρ) (tag : Nat) (s : St) (pos : Nat) :
    run E k (ops [(1, r)] [(2, tag)]) Gen.PegSkel.RULE_ACCUMULATE s pos = Op.step E k n (.accumulate r tag) s pos := by
  refine run_of_execL rfl ?_
  obtain ⟨caps, tagged, scratch, acc, textEnd, depth⟩ := s
  cases tag <;> cases acc
  case zero.true => exact execL_pure rfl <| execL_then rfl <| execL_tail rfl rfl
  all_goals
    refine execL_pure rfl <| execL_else rfl <| execL_pure rfl <| execL_pure rfl <| execL_bind rfl fun s0 _ =>
      execL_call rfl rfl fun res s1 _ => ?_
    cases res <;> rfl

theorem rule_capture (E : Env) (k : OK ρ) (n : Nat) (r : ρ) (tag : Nat) (s : St) (pos : Nat) :
    run E k (ops [(1, r)] [(2, tag)]) Gen.PegSkel.RULE_CAPTURE s pos = Op.step E k n (.capture r tag) s pos := by
  refine run_of_execL rfl ?_
  refine execL_bind rfl fun s0 _ => execL_call rfl rfl fun res s1 _ => ?_
  cases res with
  | none => rfl
  | some p =>
    obtain ⟨text, args, hasBackref, leak, numRaw, stackn⟩ := E
    obtain ⟨caps, tagged, scratch, acc, textEnd, depth⟩ := s1
    refine execL_pure rfl <| execL_else rfl ?_
    cases hasBackref <;> cases acc
    case false.true => exact execL_then rfl <| execL_bind rfl fun t _ => rfl
    all_goals exact execL_else rfl <| execL_valDef_slice rfl rfl fun t _ => rfl

theorem rule_position (E : Env) (k : OK ρ) (n : Nat) (tag : Nat) (s : St) (pos : Nat) :
    run E k (ops [] [(1, tag)]) Gen.PegSkel.RULE_POSITION s pos = Op.step E k n (.position tag) s pos := rfl

theorem rule_constant (E : Env) (k : OK ρ) (n : Nat) (v : Val) (tag : Nat) (s : St) (pos : Nat) :
    run E k ⟨opsRule [], opsWord [(2, tag)], fun _ => v, fun _ => []⟩ Gen.PegSkel.RULE_CONSTANT s pos = Op.step E k n (.constant v tag) s pos :=
  rfl

theorem take_length_sub_drop {α : Type} (l : List α) (c : Nat) : (l.drop c).take (l.length - c) = l.drop c :=
  List.take_of_length_le (by rw [List.length_drop]; exact Nat.le_refl _)

/-- RULE_GROUP: mode switched to NORMAL and restored before every return; the captures above the saved height become one
    array capture -/
theorem rule_group (E : Env) (k : OK ρ) (n : Nat) (r : ρ) (tag : Nat) (s : St) (pos : Nat) :
    run E k (ops [(1, r)] [(2, tag)]) Gen.PegSkel.RULE_GROUP s pos = Op.step E k n (.group r tag) s pos := by
  refine run_of_execL rfl ?_
  refine execL_pure rfl <| execL_pure rfl <| execL_pure rfl <| execL_bind rfl fun s0 _ => execL_call rfl rfl fun res s1 _ => ?_
  cases res with
  | none => rfl
  | some p =>
    exact congrArg (fun l => liftRet (.ok (some p, pushcap E (capLoadKeept { up1 s1 with acc := s.acc } (capSave s)) (.arr l) tag)))
      (take_length_sub_drop (up1 s1).caps (capSave s).cap)

theorem rule_nth (E : Env) (k : OK ρ) (n : Nat) (nth : Nat) (r : ρ) (tag : Nat) (s : St) (pos : Nat) :
    run E k (ops [(2, r)] [(1, nth), (3, tag)]) Gen.PegSkel.RULE_NTH s pos = Op.step E k n (.nth nth r tag) s pos := by
  refine run_of_execL rfl ?_
  refine execL_pure rfl <| execL_pure rfl <| execL_pure rfl <| execL_bind rfl fun s0 _ => execL_call rfl rfl fun res s1 _ => ?_
  cases res with
  | none => rfl
  | some p =>
    refine execL_pure rfl <| execL_pure rfl <| execL_else rfl <| execL_pure rfl ?_
    show execL E k _ _ _ _ _ = liftRet (match (List.drop (capSave s).cap (up1 s1).caps)[if nth > int32Max then int32Max else nth]? with
      | none => _ | some cap => _)
    rw [List.getElem?_drop]
    by_cases h : (if nth > int32Max then int32Max else nth) < (up1 s1).caps.length - (capSave s).cap
    · have hlt : (capSave s).cap + (if nth > int32Max then int32Max else nth) < (up1 s1).caps.length := by omega
      rw [List.getElem?_eq_getElem hlt]
      exact execL_then (decide_eq_true h) <| execL_valDef_capAt (List.getElem?_eq_getElem hlt) rfl
    · rw [List.getElem?_eq_none (by omega)]
      exact execL_else (decide_eq_false h) rfl

theorem rule_error (E : Env) (k : OK ρ) (n : Nat) (r : ρ) (s : St) (pos : Nat) :
    run E k (ops [(1, r)] []) Gen.PegSkel.RULE_ERROR s pos = Op.step E k n (.error r) s pos := by
  refine run_of_execL rfl ?_
  refine execL_pure rfl <| execL_pure rfl <| execL_pure rfl <| execL_bind rfl fun s0 _ => execL_call rfl rfl fun res s1 _ => ?_
  cases res with
  | none => rfl
  | some p =>
    exact execL_pure rfl <| execL_pure rfl <| execL_else rfl <| execL_ite liftRet rfl (fun _ => execL_panicLast) fun _ => rfl

/-- operands: rule[1] = sub-rule, rule[2] = constant, rule[3] = tag, rule[0] = opcode -/
def opsRepl (r : ρ) (v : Val) (tag op : Nat) : Operands ρ := ⟨opsRule [(1, r)], opsWord [(0, op), (3, tag)], fun _ => v, fun _ => []⟩

theorem down1_depth {s s0 : St} (h : down1 s = .ok s0) : s0.depth + 1 = s.depth := by
  unfold down1 at h
  split at h
  · cases h
  · cases h; simp only; omega

/-- where peg.c reads `s->depth` after a sub-rule returned below `down1`, it reads one less than on entry -/
theorem depth_after_call {k : OK ρ} (hk : KeepsDepth k) {S s0 s1 : St} {r : ρ} {pos : Nat} {res : Option Nat}
    (hd : down1 S = .ok s0) (hkr : k r s0 pos = .ok (res, s1)) : s1.depth + 1 = S.depth :=
  (congrArg (· + 1) (hk r s0 pos res s1 hkr)).trans (down1_depth hd)

theorem down1_textEnd {s s0 : St} (h : down1 s = .ok s0) : s0.textEnd = s.textEnd := by
  unfold down1 at h
  split at h <;> cases h
  rfl

/-- RULE_REPLACE: mode NORMAL around the sub-pattern and restored before every return; the value is computed from the constant
    (`VE.replaceOf`: the switch on `janet_type(constant)`, recognised as one idiom by the translator) in the state after the
    sub-pattern; the captures above the saved height are dropped, the value is pushed.  `KeepsDepth`: peg.c reads `s->depth`
    for the C-stack charge after the sub-rule returned, the model uses the depth on entry. -/
theorem rule_replace (E : Env) (k : OK ρ) (hk : KeepsDepth k) (n : Nat) (r : ρ) (v : Val) (tag : Nat) (s : St) (pos : Nat) :
    run E k (opsRepl r v tag Gen.Peg.RULE_REPLACE) Gen.PegSkel.RULE_REPLACE s pos = Op.step E k n (.replace r v tag) s pos := by
  refine run_of_execL rfl ?_
  refine execL_pure rfl <| execL_pure rfl <| execL_pure rfl <| execL_bind rfl fun s0 hd => execL_call rfl rfl fun res s1 hkr => ?_
  have hdep : s1.depth + 1 = s.depth := depth_after_call hk (S := { s with acc := false }) hd hkr
  cases res with
  | none => rfl
  | some p =>
    exact execL_pure rfl <| execL_pure rfl <| execL_else rfl <| execL_pure rfl <| execL_pure rfl <|
      execL_valDef_replaceOf hdep fun cap => rfl

theorem rule_matchtime (E : Env) (k : OK ρ) (hk : KeepsDepth k) (n : Nat) (r : ρ) (v : Val) (tag : Nat) (s : St) (pos : Nat) :
    run E k (opsRepl r v tag Gen.Peg.RULE_MATCHTIME) Gen.PegSkel.RULE_MATCHTIME s pos = Op.step E k n (.matchtime r v tag) s pos := by
  refine run_of_execL rfl ?_
  refine execL_pure rfl <| execL_pure rfl <| execL_pure rfl <| execL_bind rfl fun s0 hd => execL_call rfl rfl fun res s1 hkr => ?_
  have hdep : s1.depth + 1 = s.depth := depth_after_call hk (S := { s with acc := false }) hd hkr
  cases res with
  | none => rfl
  | some p =>
    refine execL_pure rfl <| execL_pure rfl <| execL_else rfl <| execL_pure rfl <| execL_pure rfl <|
      execL_valDef_replaceOf hdep fun cap => execL_pure rfl ?_
    show _ = liftRet (if truthy cap = true then _ else _)
    cases ht : truthy cap
    · exact execL_then (congrArg not ht) rfl
    · exact execL_else (congrArg not ht) rfl

/-- RULE_NCHAR: `n` characters must be left inside the CURRENT window -/
theorem rule_nchar (E : Env) (k : OK ρ) (n : Nat) (c : Nat) (s : St) (pos : Nat) :
    run E k (ops [] [(1, c)]) Gen.PegSkel.RULE_NCHAR s pos = Op.step E k n (.nchar c) s pos :=
  run_of_execL rfl <| execL_ite (fun r => liftRet (.ok (r, s))) rfl (fun _ => rfl) fun _ => rfl

theorem rule_notnchar (E : Env) (k : OK ρ) (n : Nat) (c : Nat) (s : St) (pos : Nat) :
    run E k (ops [] [(1, c)]) Gen.PegSkel.RULE_NOTNCHAR s pos = Op.step E k n (.notnchar c) s pos :=
  run_of_execL rfl <| execL_ite (fun r => liftRet (.ok (r, s))) rfl (fun _ => rfl) fun _ => rfl

theorem rule_line (E : Env) (k : OK ρ) (n : Nat) (tag : Nat) (s : St) (pos : Nat) :
    run E k (ops [] [(1, tag)]) Gen.PegSkel.RULE_LINE s pos = Op.step E k n (.line tag) s pos := rfl

theorem rule_column (E : Env) (k : OK ρ) (n : Nat) (tag : Nat) (s : St) (pos : Nat) :
    run E k (ops [] [(1, tag)]) Gen.PegSkel.RULE_COLUMN s pos = Op.step E k n (.column tag) s pos := rfl

theorem rule_argument (E : Env) (k : OK ρ) (n : Nat) (idx tag : Nat) (s : St) (pos : Nat) :
    run E k (ops [] [(1, idx), (2, tag)]) Gen.PegSkel.RULE_ARGUMENT s pos = Op.step E k n (.argument idx tag) s pos := rfl

/-- RULE_LOOK: the SIGNED operand `((int32_t *)rule)[1]` displaces `text`; outside `[text_start, text_end]` fails before the call;
    the rule returns the ORIGINAL position (the translator tracks `text += off; ...; text -= off` as a pending displacement) -/
theorem rule_look (E : Env) (k : OK ρ) (n : Nat) (w : Nat) (r : ρ) (s : St) (pos : Nat) :
    run E k (ops [(2, r)] [(1, w)]) Gen.PegSkel.RULE_LOOK s pos = Op.step E k n (.look (asInt32 w) r) s pos := by
  refine run_of_execL rfl <| execL_ite liftRet (Bool.decide_or _ _).symm (fun _ => rfl) fun _ =>
    execL_bind rfl fun s0 _ => execL_callOff rfl rfl fun res s1 => ?_
  cases res <;> rfl

/-- RULE_LITERAL: `rule[1]` bytes stored from `rule + 2` on; the window test comes before the memcmp -/
theorem rule_literal (E : Env) (k : OK ρ) (n : Nat) (bytes : List Nat) (s : St) (pos : Nat) :
    run E k ⟨opsRule [], opsWord [(1, bytes.length)], fun _ => .nil, fun b => if b = 2 then bytes else []⟩ Gen.PegSkel.RULE_LITERAL s pos =
      Op.step E k n (.literal bytes) s pos := by
  refine run_of_execL rfl <| execL_ite liftRet rfl (fun _ => rfl) fun _ => execL_bind rfl fun t _ => ?_
  show _ = liftRet (Except.ok (if t == bytes then _ else _, s))
  cases ht : t == bytes
  · exact execL_then (show ((if t == List.take bytes.length bytes then (0 : Nat) else 1) != 0) = true by
      rw [List.take_length, ht]; rfl) rfl
  · exact execL_else (show ((if t == List.take bytes.length bytes then (0 : Nat) else 1) != 0) = false by
      rw [List.take_length, ht]; rfl) rfl

/-- RULE_SET: 8 words of 32 bits from `rule[1]` on, indexed by the byte read inside the window -/
theorem rule_set (E : Env) (k : OK ρ) (n : Nat) (bm : List Nat) (s : St) (pos : Nat) :
    run E k ⟨opsRule [], fun j => bm.getD (j - 1) 0, fun _ => .nil, fun _ => []⟩ Gen.PegSkel.RULE_SET s pos =
      Op.step E k n (.set bm) s pos := by
  refine run_of_execL rfl ?_
  show _ = liftRet (if pos ≥ s.textEnd then _ else _)
  by_cases h : pos < s.textEnd
  · rw [if_neg (Nat.not_le.mpr h)]
    refine execL_then (decide_eq_true h) <| execL_bind rfl fun b _ => ?_
    have hw : 1 + b / 32 - 1 = b / 32 := Nat.add_sub_cancel_left 1 (b / 32)
    show _ = liftRet (Except.ok (if (bm.getD (b / 32) 0 / 2 ^ (b % 32)) % 2 == 1 then _ else _, s))
    cases hbit : (bm.getD (b / 32) 0 / 2 ^ (b % 32)) % 2 == 1
    · exact execL_else (show ((bm.getD (1 + b / 32 - 1) 0 / 2 ^ (b % 32)) % 2 == 1) = false by rw [hw]; exact hbit) rfl
    · exact execL_then (show ((bm.getD (1 + b / 32 - 1) 0 / 2 ^ (b % 32)) % 2 == 1) = true by rw [hw]; exact hbit) rfl
  · rw [if_pos (Nat.le_of_not_lt h)]; exact execL_else (decide_eq_false h) rfl

/-- RULE_CAPTURE_NUM: the matched text must scan as a number in base `rule[2]`; the NUMBER is pushed through pushcap (in
    accumulate mode its to-string is appended - `Tie.number_capture_not_raw`, hypothesis `numRaw = false`) -/
theorem rule_capture_num (E : Env) (hE : E.numRaw = false) (k : OK ρ) (n : Nat) (r : ρ) (base tag : Nat) (s : St) (pos : Nat) :
    run E k (ops [(1, r)] [(2, base), (3, tag)]) Gen.PegSkel.RULE_CAPTURE_NUM s pos = Op.step E k n (.capturenum r base tag) s pos := by
  refine run_of_execL rfl ?_
  obtain ⟨text, args, hasBackref, leak, numRaw, stackn⟩ := E
  cases hE
  refine execL_bind rfl fun s0 _ => execL_call rfl rfl fun res s1 _ => ?_
  cases res with
  | none => rfl
  | some p =>
    refine execL_pure rfl <| execL_else rfl <| execL_scanNum (base := base) rfl rfl rfl fun t => ?_
    show _ = liftRet (match scanNumber t base with | none => _ | some x => _)
    cases scanNumber t base <;> rfl

/-- RULE_RANGE: `lo` / `hi` are bytes 0 and 2 of `rule[1]`; the byte is read only inside the window -/
theorem rule_range (E : Env) (k : OK ρ) (n : Nat) (w : Nat) (s : St) (pos : Nat) :
    run E k (ops [] [(1, w)]) Gen.PegSkel.RULE_RANGE s pos = Op.step E k n (.range (w % 256) ((w / 65536) % 256)) s pos := by
  refine run_of_execL rfl ?_
  have hlo : evalWE (ops [] [(1, w)] : Operands ρ) (.byteOf 1 0) = w % 256 := by
    show w / 2 ^ 0 % 256 = _
    rw [Nat.pow_zero, Nat.div_one]
  refine execL_ite liftRet rfl (fun _ => execL_bind rfl fun b hb => ?_) fun _ => rfl
  show _ = liftRet (Except.ok (if w % 256 ≤ b ∧ b ≤ w / 65536 % 256 then _ else _, s))
  by_cases h1 : b < w % 256
  · rw [if_neg (fun h2 => Nat.not_le.mpr h1 h2.1)]
    exact execL_then (show decide (b < evalWE (ops [] [(1, w)] : Operands ρ) (.byteOf 1 0)) = true by
      rw [hlo]; exact decide_eq_true h1) rfl
  · refine execL_else (show decide (b < evalWE (ops [] [(1, w)] : Operands ρ) (.byteOf 1 0)) = false by
      rw [hlo]; exact decide_eq_false h1) ?_
    -- evaluated as a whole: the C may or may not read `text[0]` again for the second comparison
    by_cases h2 : b > w / 65536 % 256
    · rw [if_neg (fun h3 => Nat.not_le.mpr h2 h3.2)]
      simp [execL, execStmt, evalCond, evalWE, ops, opsWord, Loc.init, upd, hb, h2, bind, Except.bind, liftRet]
    · rw [if_pos ⟨Nat.le_of_not_lt h1, Nat.le_of_not_lt h2⟩]
      simp [execL, execStmt, evalCond, evalWE, ops, opsWord, Loc.init, upd, hb, h2, bind, Except.bind, liftRet]

/-! A scanning loop of the model counts `m = text_end + 1 - text` positions; the C tests `text <= s->text_end`. -/

theorem scan_done {te p : Nat} (h : 0 = te + 1 - p) : ¬ p ≤ te :=
  fun hle => Nat.not_succ_le_self _ (Nat.le_trans (Nat.le_of_sub_eq_zero h.symm) hle)

theorem scan_more {m te p : Nat} (h : m + 1 = te + 1 - p) : p ≤ te :=
  Nat.le_of_lt_succ (Nat.lt_of_sub_pos (h ▸ Nat.succ_pos m))

theorem scan_next {m te p : Nat} (h : m + 1 = te + 1 - p) : m = te + 1 - (p + 1) := by
  rw [Nat.sub_succ, ← h]; rfl

/-- RULE_BETWEEN: at most `hi` iterations, each with its own cap_save; a failing iteration (or an empty one of an unbounded
    repetition) is rolled back and ends the loop; fewer than `lo` iterations roll everything back -/
theorem rule_between (E : Env) (k : OK ρ) (n : Nat) (lo hi : Nat) (r : ρ) (s : St) (pos : Nat) :
    runL E k (ops [(3, r)] [(1, lo), (2, hi)]) n Gen.PegSkel.RULE_BETWEEN s pos = Op.step E k n (.between lo hi r) s pos := by
  refine runL_of_execL <| execL_pure rfl <| execL_pure rfl <| execL_bind rfl fun s0 _ => execL_loop.trans ?_
  generalize hfin : (fun x : Nat × Nat × St =>
      (if x.1 < lo then .ok (none, capLoad (up1 x.2.2) (capSave s)) else .ok (some x.2.1, up1 x.2.2) : ORes)) = fin
  -- locals: number 0 = captured, pointer 0 = text, capture state 0 = cs on entry
  have hrest : ∀ c p s1 (L : Loc), L.num 0 = c → L.ptr 0 = some p → L.cs 0 = capSave s →
      execL E k (ops [(3, r)] [(1, lo), (2, hi)]) n Gen.PegSkel.RULE_BETWEEN_rest0 L s1 = liftRet (fin (c, p, s1)) := by
    intro c p s1 L hc hp hcs
    subst hfin
    exact execL_pure rfl <| execL_ite liftRet (show decide (L.num 0 < lo) = _ by rw [hc])
      (fun _ => execL_pure rfl (by rw [hcs]; rfl)) fun _ => execL_ret hp
  refine loop_tie Eq (fun n (a : Nat × St × Nat) => liftRet (Op.betweenLoop k r hi n a.1 a.2.1 a.2.2 >>= fin))
    (fun _ a L s' => L.num 0 = a.1 ∧ s' = a.2.1 ∧ L.ptr 0 = some a.2.2 ∧ L.cs 0 = capSave s) Eq
    (fun m f h => ⟨m, h.symm, rfl⟩) (fun f a L s' _ h => by subst h; rfl) ?iter n n (0, s0, pos) _ s0 ⟨rfl, rfl, rfl, rfl⟩ rfl
  rintro m ⟨c, _, pos⟩ L s' ⟨(hc : L.num 0 = c), rfl, (hp : L.ptr 0 = some pos), hcs⟩
  have hcond : ∀ b, decide (c < hi) = b → evalCond E (ops [(3, r)] [(1, lo), (2, hi)]) L s' (.numLtWord 0 (.op 2)) = b :=
    fun b h => by rw [← h, ← hc]; rfl
  show Iter _ _ _ _ _ _ L s' (liftRet (Op.betweenLoop k r hi (m + 1) c s' pos >>= fin))
  rw [Op.betweenLoop]
  by_cases hlt : c < hi
  · rw [if_pos hlt]
    cases hk : k r s' pos with
    | error e => exact .err e (hcond _ (decide_eq_true hlt)) (execL_pure rfl <| execL_call_err rfl hp hk) rfl
    | ok x =>
      obtain ⟨res, s1⟩ := x
      cases res with
      | none =>
        exact .brk _ _ (hcond _ (decide_eq_true hlt))
          (execL_pure rfl <| execL_call_ok rfl hp hk <| execL_then rfl <| execL_pure rfl rfl) (hrest c pos _ _ hc hp hcs)
      | some p =>
        -- evaluated as a whole: the shape of the break condition (one `if` or two, order of the conjuncts) does not matter
        have hbody : if p = pos ∧ hi = uintMax then
              ∃ L1, execL E k (ops [(3, r)] [(1, lo), (2, hi)]) n Gen.PegSkel.RULE_BETWEEN_body0 L s' =
                .ok (.brk L1 (capLoad s1 (capSave s'))) ∧ L1.num 0 = c ∧ L1.ptr 0 = some pos ∧ L1.cs 0 = L.cs 0
            else ∃ L2, execL E k (ops [(3, r)] [(1, lo), (2, hi)]) n Gen.PegSkel.RULE_BETWEEN_body0 L s' =
                .ok (.cont L2 s1) ∧ L2.num 0 = c + 1 ∧ L2.ptr 0 = some p ∧ L2.cs 0 = L.cs 0 := by
          simp only [Gen.PegSkel.RULE_BETWEEN_body0, execL, execStmt, evalCond, evalWE, evalNE, ops]
          by_cases h1 : p = pos <;> by_cases h2 : hi = uintMax <;>
            simp [hk, hp, hc, h1, h2, opsRule, opsWord, bind, Except.bind, upd]
        show Iter _ _ _ _ _ _ L s' (liftRet ((if p == pos ∧ hi == uintMax then _ else _) >>= fin))
        by_cases hq : p = pos ∧ hi = uintMax
        · rw [if_pos hq] at hbody
          obtain ⟨L1, hb, g0, gp, gcs⟩ := hbody
          rw [if_pos (by simpa using hq)]
          exact .brk _ _ (hcond _ (decide_eq_true hlt)) hb (hrest c pos _ _ g0 gp (gcs.trans hcs))
        · rw [if_neg hq] at hbody
          obtain ⟨L2, hb, g0, gp, gcs⟩ := hbody
          rw [if_neg (by simpa using hq)]
          exact .next (c + 1, s1, p) _ _ (hcond _ (decide_eq_true hlt)) hb ⟨g0, rfl, gp, gcs.trans hcs⟩ rfl
  · rw [if_neg hlt]
    exact .stop (hcond _ (decide_eq_false hlt)) (hrest c pos _ _ hc hp hcs)

/-- RULE_TO / RULE_THRU: every position of the window is tried with its own cap_save; `to` drops the captures of the match and
    ends where it started, `thru` keeps them and ends after it; nothing found rolls back to the state on entry.
    `fuel` is the Lean fuel of the IR loop (one unit per iteration and one for the exit test). -/
theorem rule_to_thru (E : Env) (k : OK ρ) (hk : KeepsWindow k) (n fuel : Nat) (isTo : Bool) (r : ρ) (s : St) (pos : Nat)
    (hf : s.textEnd + 1 - pos + 1 ≤ fuel) :
    runL E k ⟨opsRule [(1, r)], opsWord [(0, if isTo then Gen.Peg.RULE_TO else Gen.Peg.RULE_THRU)], fun _ => .nil, fun _ => []⟩ fuel
        Gen.PegSkel.RULE_TO s pos =
      Op.step E k n (if isTo then .to r else .thru r) s pos := by
  have hstep : Op.step E k n (if isTo then Instr.to r else Instr.thru r) s pos =
      (down1 s >>= fun s0 => Op.toLoop k r isTo (capSave s) (s.textEnd + 1 - pos) s0 pos) := by
    cases isTo <;> rfl
  rw [hstep]
  refine runL_of_execL <| execL_pure rfl <| execL_pure rfl <| execL_bind rfl fun s0 hd => execL_loop.trans ?_
  generalize hO : Operands.mk _ _ _ _ = O
  have hopIs : ∀ L s', evalCond E O L s' (.opIs Gen.Peg.RULE_TO) = isTo := fun _ _ => by subst hO; cases isTo <;> rfl
  refine loop_tie_count Eq (fun m (a : St × Nat) => liftRet (Op.toLoop k r isTo (capSave s) m a.1 a.2))
    (fun m a L s' => s' = a.1 ∧ L.ptr 0 = some a.2 ∧ m = s'.textEnd + 1 - a.2 ∧ L.cs 0 = capSave s) ?zero ?iter
    (a := (s0, pos)) ⟨rfl, rfl, by rw [down1_textEnd hd], rfl⟩ hf
  case zero =>
    rintro ⟨_, p⟩ L s' ⟨rfl, (hp : L.ptr 0 = some p), (hm : 0 = s'.textEnd + 1 - p), hcs⟩
    have hgt : p > s'.textEnd := Nat.lt_of_not_le (scan_done hm)
    refine ⟨by simp only [evalCond, hp]; exact decide_eq_false (scan_done hm), execL_pure rfl <| execL_then ?_ <| execL_pure rfl ?_⟩
    · simp only [evalCond, hp]; exact decide_eq_true hgt
    · rw [hcs]; rfl
  case iter =>
    rintro m ⟨_, p⟩ L s' ⟨rfl, (hp : L.ptr 0 = some p), (hm : m + 1 = s'.textEnd + 1 - p), hcs⟩
    have hc : evalCond E O L s' (.ptrLeEnd 0) = true := by simp only [evalCond, hp]; exact decide_eq_true (scan_more hm)
    have hr : O.rule 1 = some r := by subst hO; rfl
    show Iter _ _ _ _ _ _ L s' (liftRet (Op.toLoop k r isTo (capSave s) (m + 1) s' p))
    rw [Op.toLoop]
    cases hkr : k r s' p with
    | error e => exact .err e hc (execL_pure rfl <| execL_call_err hr hp hkr) rfl
    | ok x =>
      obtain ⟨res, s1⟩ := x
      have hw : s1.textEnd = s'.textEnd := hk r s' p res s1 hkr
      cases res with
      | none =>
        refine .next (capLoad s1 (capSave s'), p + 1) _ _ hc
          (execL_pure rfl <| execL_call_ok hr hp hkr <| execL_then rfl <| execL_pure rfl <| execL_pure rfl rfl)
          ⟨rfl, ?_, ?_, hcs⟩ rfl
        · show (L.ptr 0).map (· + 1) = some (p + 1)
          rw [hp]; rfl
        · show m = s1.textEnd + 1 - (p + 1)
          rw [hw]; exact scan_next hm
      | some q =>
        have hle : ¬ p > s1.textEnd := hw ▸ Nat.not_lt.mpr (scan_more hm)
        cases isTo with
        | true =>
          refine .brk _ _ hc (execL_pure rfl <| execL_call_ok hr hp hkr <| execL_else rfl <| execL_then (hopIs _ _) <|
            execL_pure rfl rfl) (execL_pure rfl <| execL_else ?_ <| execL_then (hopIs _ _) ?_)
          · show evalCond E O { L with ptr := upd L.ptr 1 (some q), cs := upd L.cs 1 (capSave s') } _ (.ptrGtEnd 0) = false
            simp only [evalCond]
            rw [show upd L.ptr 1 (some q) 0 = L.ptr 0 from rfl, hp]; exact decide_eq_false hle
          · exact execL_ret hp
        | false =>
          refine .brk _ _ hc (execL_pure rfl <| execL_call_ok hr hp hkr <| execL_else rfl <| execL_else (hopIs _ _) rfl)
            (execL_pure rfl <| execL_else ?_ <| execL_else (hopIs _ _) rfl)
          show evalCond E O { L with ptr := upd L.ptr 1 (some q), cs := upd L.cs 1 (capSave s') } _ (.ptrGtEnd 0) = false
          simp only [evalCond]
          rw [show upd L.ptr 1 (some q) 0 = L.ptr 0 from rfl, hp]; exact decide_eq_false hle

/-- RULE_TIL: the terminus is searched from the current position on (captures of every attempt dropped); the sub-pattern then
    runs from the START inside the window that ends where the terminus begins, the window is put back, and the match ends after
    the terminus -/
theorem rule_til (E : Env) (k : OK ρ) (hk : KeepsWindow k) (n fuel : Nat) (t r : ρ) (s : St) (pos : Nat)
    (hf : s.textEnd + 1 - pos + 1 ≤ fuel) :
    runL E k (ops [(1, t), (2, r)] []) fuel Gen.PegSkel.RULE_TIL s pos = Op.step E k n (.til t r) s pos := by
  refine runL_of_execL <| execL_pure rfl <| execL_pure rfl <| execL_bind rfl fun s0 hd => execL_loop.trans ?_
  generalize hO : ops [(1, t), (2, r)] [] = O
  -- locals: pointer 0 = text, 1 = terminus_start, 2 = terminus_end; `fin` = what the model does with the outcome of the search
  have key : ∀ (fin : Option (Nat × Nat) × St → ORes),
      (∀ (L : Loc) s1, L.ptr 2 = none → execL E k O fuel Gen.PegSkel.RULE_TIL_rest0 L s1 = liftRet (fin (none, s1))) →
      (∀ (L : Loc) s1 ps pe, L.ptr 0 = some pos → L.ptr 1 = some ps → L.ptr 2 = some pe →
        execL E k O fuel Gen.PegSkel.RULE_TIL_rest0 L s1 = liftRet (fin (some (ps, pe), s1))) →
      ∀ (L : Loc), L.ptr 0 = some pos → L.ptr 1 = some pos → L.ptr 2 = none →
        thenRest (fun L s => execL E k O fuel Gen.PegSkel.RULE_TIL_rest0 L s)
          (loopN (fun L s => evalCond E O L s (.ptrLeEnd 1)) (fun L s => execL E k O fuel Gen.PegSkel.RULE_TIL_body0 L s) fuel L s0) =
        liftRet (Op.tilLoop k t (s.textEnd + 1 - pos) s0 pos >>= fin) := by
    intro fin hnone hsome L0 h0 h1 h2
    have hr : O.rule 1 = some t := by subst hO; rfl
    refine loop_tie_count Eq (fun m (a : St × Nat) => liftRet (Op.tilLoop k t m a.1 a.2 >>= fin))
      (fun m a L s' => s' = a.1 ∧ L.ptr 1 = some a.2 ∧ m = s'.textEnd + 1 - a.2 ∧ L.ptr 0 = some pos ∧ L.ptr 2 = none) ?zero ?iter
      (a := (s0, pos)) ⟨rfl, h1, by rw [down1_textEnd hd], h0, h2⟩ hf
    case zero =>
      rintro ⟨_, p⟩ L s' ⟨rfl, (hp : L.ptr 1 = some p), (hm : 0 = s'.textEnd + 1 - p), _, hp2⟩
      exact ⟨by simp only [evalCond, hp]; exact decide_eq_false (scan_done hm), hnone L s' hp2⟩
    case iter =>
      rintro m ⟨_, p⟩ L s' ⟨rfl, (hp : L.ptr 1 = some p), (hm : m + 1 = s'.textEnd + 1 - p), hp0, hp2⟩
      have hc : evalCond E O L s' (.ptrLeEnd 1) = true := by simp only [evalCond, hp]; exact decide_eq_true (scan_more hm)
      show Iter _ _ _ _ _ _ L s' (liftRet (Op.tilLoop k t (m + 1) s' p >>= fin))
      rw [Op.tilLoop]
      cases hkr : k t s' p with
      | error e => exact .err e hc (execL_pure rfl <| execL_call_err hr hp hkr) rfl
      | ok x =>
        obtain ⟨res, s1⟩ := x
        have hw : s1.textEnd = s'.textEnd := hk t s' p res s1 hkr
        cases res with
        | none =>
          refine .next (capLoad s1 (capSave s'), p + 1) _ _ hc
            (execL_pure rfl <| execL_call_ok hr hp hkr <| execL_pure rfl <| execL_then rfl <| execL_pure rfl rfl)
            ⟨rfl, ?_, ?_, hp0, rfl⟩ rfl
          · show (L.ptr 1).map (· + 1) = some (p + 1)
            rw [hp]; rfl
          · show m = s1.textEnd + 1 - (p + 1)
            rw [hw]; exact scan_next hm
        | some e =>
          exact .brk _ _ hc (execL_pure rfl <| execL_call_ok hr hp hkr <| execL_pure rfl <| execL_else rfl rfl)
            (hsome _ _ p e hp0 hp rfl)
  refine key _ (fun L s1 h2 => ?_) (fun L s1 ps pe h0 h1 h2 => ?_) _ rfl rfl rfl
  · exact execL_pure rfl <| execL_then (show (L.ptr 2).isNone = true by rw [h2]; rfl) rfl
  · -- the sub-pattern runs from the start inside the window that ends where the terminus begins
    subst hO
    refine execL_pure rfl <| execL_else (show (L.ptr 2).isNone = false by rw [h2]; rfl) <| execL_pure rfl <|
      execL_endSet (show L.ptr 1 = some ps from h1) <|
      execL_bind rfl fun s3 _ => execL_call rfl (show L.ptr 0 = some pos from h0) fun res2 s4 _ => ?_
    cases res2 with
    | none => rfl
    | some q =>
      exact execL_pure rfl <| execL_pure rfl <| execL_else rfl <| execL_ret h2

/-- operands of a variadic instruction: `rule[1]` = number of alternatives, `rule[2 + j]` = alternative j -/
def opsList (rs : List ρ) : Operands ρ :=
  ⟨fun j => if 2 ≤ j then rs[j - 2]? else none, opsWord [(1, rs.length)], fun _ => .nil, fun _ => []⟩

/-! The loops of RULE_CHOICE / RULE_SEQUENCE run over all operands but the last: index `j`, `m` more to go, `j + m + 1 = n`. -/

theorem idx_last {j n : Nat} (h : j + 0 + 1 = n) : ¬ j < n - 1 ∧ j + 1 = n ∧ n - 1 = j := by omega

theorem idx_more {j m n : Nat} (h : j + (m + 1) + 1 = n) : j < n ∧ j < n - 1 ∧ j + 1 < n ∧ j + 1 + m + 1 = n := by omega

theorem opsList_tagZero (E : Env) (rs : List ρ) (L : Loc) (s : St) : evalCond E (opsList rs) L s (.tagZero 1) = rs.isEmpty := by
  cases rs <;> rfl

theorem opsList_argsAt {rs : List ρ} (L : Loc) {j : Nat} (hj : j < rs.length) (h : L.num 0 = j) :
    evalRE (opsList rs) L (.argsAt 2 0) = some rs[j] := by
  show (if 2 ≤ 2 + L.num 0 then rs[2 + L.num 0 - 2]? else none) = _
  rw [if_pos (Nat.le_add_right _ _), Nat.add_sub_cancel_left, h, List.getElem?_eq_getElem hj]

/-- `args[len - 1]`, the operand of the tail call -/
theorem opsList_argsLast (rs : List ρ) (L : Loc) : evalRE (opsList rs) L (.argsLast 2 1) = rs[rs.length - 1]? := by
  show (if 2 ≤ 2 + (rs.length - 1) then rs[2 + (rs.length - 1) - 2]? else none) = _
  rw [if_pos (Nat.le_add_right _ _), Nat.add_sub_cancel_left]

theorem drop_cons_cons {α : Type} {l : List α} {j : Nat} (h : j + 1 < l.length) :
    l.drop j = l[j] :: l[j + 1] :: l.drop (j + 2) := by
  rw [List.drop_eq_getElem_cons (by omega : j < l.length), List.drop_eq_getElem_cons h]

theorem drop_last {α : Type} {l : List α} {j : Nat} (h : j + 1 = l.length) : l.drop j = [l[j]] := by
  rw [List.drop_eq_getElem_cons (by omega : j < l.length), List.drop_eq_nil_of_le (by omega)]

/-- RULE_CHOICE: one `cap_save` for the whole choice; every alternative but the last is tried under `down1`, a failing one is
    rolled back with `cap_load`; the last alternative is a tail call after `up1` -/
theorem rule_choice (E : Env) (k : OK ρ) (n fuel : Nat) (rs : List ρ) (s : St) (pos : Nat) (hf : rs.length + 1 ≤ fuel) :
    runL E k (opsList rs) fuel Gen.PegSkel.RULE_CHOICE s pos = Op.step E k n (.choice rs) s pos := by
  show _ = if rs.isEmpty then _ else _
  have hc0 := opsList_tagZero E rs
  cases he : rs.isEmpty
  case true => exact runL_of_execL <| execL_then (by rw [hc0, he]) rfl
  have hlen : 0 < rs.length := by cases rs with | nil => cases he | cons _ _ => exact Nat.succ_pos _
  refine runL_of_execL <| execL_else (by rw [hc0, he]) <| execL_bind rfl fun s0 _ => execL_pure rfl <| execL_pure rfl <| execL_loop.trans ?_
  have hcond : ∀ (L : Loc) s' j, L.num 0 = j → evalCond E (opsList rs) L s' (.numLtWordPred 0 (.op 1)) = decide (j < rs.length - 1) :=
    fun L s' j h => by rw [← h]; rfl
  refine loop_tie_count Eq (fun m (a : St × Nat) => liftRet (Op.choiceLoop k (capSave s0) (rs.drop a.2) a.1 pos))
    (fun m a L s' => s' = a.1 ∧ L.num 0 = a.2 ∧ a.2 + m + 1 = rs.length ∧ L.ptr 0 = some pos ∧ L.cs 0 = capSave s0) ?zero ?iter
    (m := rs.length - 1) (a := (s0, 0)) ⟨rfl, rfl, by omega, rfl, rfl⟩ (by omega)
  case zero =>
    rintro ⟨_, j⟩ L s' ⟨rfl, (hj : L.num 0 = j), (hm : j + 0 + 1 = rs.length), hp, hcs⟩
    obtain ⟨h1, h2, h3⟩ := idx_last hm
    refine ⟨(hcond L s' j hj).trans (decide_eq_false h1), execL_pure rfl ?_⟩
    show _ = liftRet (Op.choiceLoop k (capSave s0) (rs.drop j) s' pos)
    rw [drop_last h2, Op.choiceLoop]
    refine execL_tailE ?_ hp
    rw [opsList_argsLast, h3]
    exact List.getElem?_eq_getElem _
  case iter =>
    rintro m ⟨_, j⟩ L s' ⟨rfl, (hj : L.num 0 = j), (hm : j + (m + 1) + 1 = rs.length), hp, hcs⟩
    obtain ⟨hjl, hj1, hj2, hm'⟩ := idx_more hm
    have hc := (hcond L s' j hj).trans (decide_eq_true hj1)
    have hr := opsList_argsAt L hjl hj
    show Iter _ _ _ _ _ _ L s' (liftRet (Op.choiceLoop k (capSave s0) (rs.drop j) s' pos))
    rw [drop_cons_cons hj2, Op.choiceLoop]
    case x_3 => exact nofun      -- side condition of the loop's third equation: the rest is not empty
    cases hk : k (rs[j]'hjl) s' pos with
    | error e => exact .err e hc (execL_callE_err hr hp hk) rfl
    | ok x =>
      obtain ⟨res, s1⟩ := x
      cases res with
      | some p => exact .ret _ hc (execL_callE_ok hr hp hk <| execL_else rfl <| execL_pure rfl rfl) rfl
      | none =>
        refine .next (capLoad s1 (capSave s0), j + 1) _ _ hc
          (execL_callE_ok hr hp hk <| execL_then rfl <| execL_pure rfl <| execL_pure rfl rfl)
          ⟨by rw [← hcs], congrArg (· + 1) hj, hm', hp, hcs⟩ ?_
        show _ = liftRet (Op.choiceLoop k (capSave s0) (rs.drop (j + 1)) _ pos)
        rw [List.drop_eq_getElem_cons hj2]; rfl

/-- RULE_SEQUENCE: all elements but the last under one `down1`, stopping at the first failure; the last element is a tail
    call after `up1` -/
theorem rule_sequence (E : Env) (k : OK ρ) (n fuel : Nat) (rs : List ρ) (s : St) (pos : Nat) (hf : rs.length + 1 ≤ fuel) :
    runL E k (opsList rs) fuel Gen.PegSkel.RULE_SEQUENCE s pos = Op.step E k n (.sequence rs) s pos := by
  show _ = if rs.isEmpty then _ else _
  have hc0 := opsList_tagZero E rs
  cases he : rs.isEmpty
  case true => exact runL_of_execL <| execL_then (by rw [hc0, he]) rfl
  have hlen : 0 < rs.length := by cases rs with | nil => cases he | cons _ _ => exact Nat.succ_pos _
  refine runL_of_execL <| execL_else (by rw [hc0, he]) <| execL_bind rfl fun s0 _ => execL_pure rfl <| execL_loop.trans ?_
  have hcond : ∀ (L : Loc) s' j p, L.num 0 = j → L.ptr 0 = some p →
      evalCond E (opsList rs) L s' (.and (.not (.isNull 0)) (.numLtWordPred 0 (.op 1))) = decide (j < rs.length - 1) := by
    intro L s' j p hj hp
    show (!(L.ptr 0).isNone && decide (L.num 0 < rs.length - 1)) = _
    rw [hp, hj]; rfl
  -- a failed element leaves `text == NULL`: the next test ends the loop and the rest returns NULL
  have hcondN : ∀ (L : Loc) s', L.ptr 0 = none →
      evalCond E (opsList rs) L s' (.and (.not (.isNull 0)) (.numLtWordPred 0 (.op 1))) = false := by
    intro L s' h
    show (!(L.ptr 0).isNone && _) = false
    rw [h]; rfl
  have hrestN : ∀ (L : Loc) s', L.ptr 0 = none →
      execL E k (opsList rs) fuel Gen.PegSkel.RULE_SEQUENCE_rest0 L s' = liftRet (.ok (none, up1 s')) :=
    fun L s' h => execL_pure rfl <| execL_then (show (L.ptr 0).isNone = true by rw [h]; rfl) rfl
  -- model variables: state, index of the next element, position (`none` after a failed element)
  refine loop_tie_count Eq (fun m (a : St × Nat × Option Nat) => match a.2.2 with
      | none => liftRet (.ok (none, up1 a.1))
      | some p => liftRet (Op.seqLoop k (rs.drop a.2.1) a.1 p))
    (fun m a L s' => s' = a.1 ∧ L.ptr 0 = a.2.2 ∧ ∀ p, a.2.2 = some p → L.num 0 = a.2.1 ∧ a.2.1 + m + 1 = rs.length) ?zero ?iter
    (m := rs.length - 1) (a := (s0, 0, some pos)) ⟨rfl, rfl, fun p _ => ⟨rfl, show 0 + (rs.length - 1) + 1 = rs.length by omega⟩⟩ (by omega)
  case zero =>
    rintro ⟨_, j, op⟩ L s' ⟨rfl, (hp : L.ptr 0 = op), hI⟩
    cases op with
    | none => exact ⟨hcondN L s' hp, hrestN L s' hp⟩
    | some p =>
      obtain ⟨(hj : L.num 0 = j), (hm : j + 0 + 1 = rs.length)⟩ := hI p rfl
      obtain ⟨h1, h2, h3⟩ := idx_last hm
      refine ⟨(hcond L s' j p hj hp).trans (decide_eq_false h1),
        execL_pure rfl <| execL_else (show (L.ptr 0).isNone = false by rw [hp]; rfl) ?_⟩
      show _ = liftRet (Op.seqLoop k (rs.drop j) s' p)
      rw [drop_last h2, Op.seqLoop]
      refine execL_tailE ?_ hp
      rw [opsList_argsLast, h3]
      exact List.getElem?_eq_getElem _
  case iter =>
    rintro m ⟨_, j, op⟩ L s' ⟨rfl, (hp : L.ptr 0 = op), hI⟩
    cases op with
    | none => exact .stop (hcondN L s' hp) (hrestN L s' hp)
    | some p =>
      obtain ⟨(hj : L.num 0 = j), (hm : j + (m + 1) + 1 = rs.length)⟩ := hI p rfl
      obtain ⟨hjl, hj1, hj2, hm'⟩ := idx_more hm
      have hc := (hcond L s' j p hj hp).trans (decide_eq_true hj1)
      have hr := opsList_argsAt L hjl hj
      show Iter _ _ _ _ _ _ L s' (liftRet (Op.seqLoop k (rs.drop j) s' p))
      rw [drop_cons_cons hj2, Op.seqLoop]
      case x_3 => exact nofun      -- as in `rule_choice`
      cases hk : k (rs[j]'hjl) s' p with
      | error e => exact .err e hc (execL_callE_err hr hp hk) rfl
      | ok x =>
        obtain ⟨res, s1⟩ := x
        cases res with
        | none =>
          exact .next (s1, j + 1, none) _ _ hc (execL_callE_ok hr hp hk <| execL_pure rfl rfl) ⟨rfl, rfl, nofun⟩ rfl
        | some q =>
          refine .next (s1, j + 1, some q) _ _ hc (execL_callE_ok hr hp hk <| execL_pure rfl rfl)
            ⟨rfl, rfl, fun _ _ => ⟨congrArg (· + 1) hj, hm'⟩⟩ ?_
          show _ = liftRet (Op.seqLoop k (rs.drop (j + 1)) s1 q)
          rw [List.drop_eq_getElem_cons hj2]; rfl

/-- RULE_LENPREFIX: the length pattern runs in NORMAL mode, the mode is restored before every return (hence `lenprefixLeak =
    false`), its first capture must be an int32-valued number, its captures are dropped, then that many repetitions, a failing one
    rolling back to the state on entry.  IR fuel: one unit per repetition (a count passes `janet_checkint`) plus one. -/
theorem rule_lenprefix (E : Env) (hE : E.lenprefixLeak = false) (k : OK ρ) (n fuel : Nat) (a b : ρ) (s : St) (pos : Nat)
    (hf : 2147483648 ≤ fuel) :
    runL E k (ops [(1, a), (2, b)] []) fuel Gen.PegSkel.RULE_LENPREFIX s pos = Op.step E k n (.lenprefix a b) s pos := by
  obtain ⟨text, args, hasBackref, leak, numRaw, stackn⟩ := E
  cases hE
  generalize hEq : Env.mk text args hasBackref false numRaw stackn = E
  refine runL_of_execL <| execL_pure rfl <| execL_pure rfl <| execL_pure rfl <| execL_bind rfl fun s0 _ =>
    execL_call rfl rfl fun res s1 _ => ?_
  cases res with
  | none => subst hEq; rfl
  | some p =>
    refine execL_pure rfl <| execL_pure rfl <| execL_else rfl <| execL_pure rfl ?_
    show _ = liftRet (match (({ up1 s1 with acc := s.acc } : St).caps.drop (capSave s).cap).head? with
      | some (.int nrep) =>
        if checkint nrep then Op.lenLoop k b (capSave s) nrep.toNat (capLoad { up1 s1 with acc := s.acc } (capSave s)) p
        else .ok (none, capLoad { up1 s1 with acc := s.acc } (capSave s))
      | _ => .ok (none, capLoad { up1 s1 with acc := s.acc } (capSave s)))
    generalize ({ up1 s1 with acc := s.acc } : St) = s3
    generalize hL : Loc.mk _ _ _ _ _ = L1
    have hcs : L1.cs 0 = capSave s := by subst hL; rfl
    have hp1 : L1.ptr 1 = some p := by subst hL; rfl
    have hbad : evalCond E (ops [(1, a), (2, b)] []) L1 s3 (.lenCapBad 0) =
        (match (s3.caps.drop (capSave s).cap).head? with | some (.int nrep) => !checkint nrep | _ => true) := by
      show (match (s3.caps.drop (L1.cs 0).cap).head? with | some (.int nrep) => !checkint nrep | _ => true) = _
      rw [hcs]
    have hfail : ∀ {e : Prog} {y : ORes}, evalCond E (ops [(1, a), (2, b)] []) L1 s3 (.lenCapBad 0) = true →
        y = .ok (none, capLoad s3 (capSave s)) →
        execL E k (ops [(1, a), (2, b)] []) fuel (.ite (.lenCapBad 0) (.seq (.capLoad 0) .retNull) e) L1 s3 = liftRet y := by
      intro e y h hy
      subst hy
      exact execL_then h <| execL_pure (L' := L1) (s' := capLoad s3 (L1.cs 0)) rfl (by rw [hcs]; rfl)
    cases hh : (s3.caps.drop (capSave s).cap).head? with
    | none => exact hfail (by rw [hbad, hh]) rfl
    | some v =>
      cases v with
      | int nrep =>
        cases hci : checkint nrep with
        | false => exact hfail (by rw [hbad, hh]; show (!checkint nrep) = true; rw [hci]; rfl) (by simp only [hci]; rfl)
        | true =>
          have hfuel : nrep.toNat + 1 ≤ fuel := by
            simp only [checkint, decide_eq_true_eq] at hci
            omega
          have hidx : s3.caps[(L1.cs 0).cap]? = some (.int nrep) := by rw [hcs, ← List.head?_drop, hh]
          refine execL_else (by rw [hbad, hh]; show (!checkint nrep) = false; rw [hci]; rfl) <| execL_pure rfl <| execL_pure rfl <|
            execL_pure rfl <| execL_loop.trans ?_
          show thenRest _ (loopN _ _ fuel _ (capLoad s3 (L1.cs 0))) = liftRet (if checkint nrep then _ else _)
          rw [hcs, if_pos hci]
          -- locals: number 1 = nrep, number 2 = i, pointer 1 = next_text, capture state 0 = cs
          refine loop_tie_count Eq (fun m (x : St × Nat × Nat) => liftRet (Op.lenLoop k b (capSave s) m x.1 x.2.2))
            (fun m x L s' => s' = x.1 ∧ L.num 2 = x.2.1 ∧ L.num 1 = nrep.toNat ∧ x.2.1 + m = nrep.toNat ∧ L.ptr 1 = some x.2.2 ∧
              L.cs 0 = capSave s) ?zero ?iter
            (a := (capLoad s3 (capSave s), 0, p)) ⟨rfl, rfl, ?_, Nat.zero_add _, hp1, hcs⟩ hfuel
          case zero =>
            rintro ⟨_, i, q⟩ L s' ⟨rfl, (h2 : L.num 2 = i), h1, (hm : i + 0 = nrep.toNat), (hq : L.ptr 1 = some q), _⟩
            exact ⟨show decide (L.num 2 < L.num 1) = false from decide_eq_false (by omega), execL_ret hq⟩
          case iter =>
            rintro m ⟨_, i, q⟩ L s' ⟨rfl, (h2 : L.num 2 = i), h1, (hm : i + (m + 1) = nrep.toNat), (hq : L.ptr 1 = some q), hc0⟩
            have hc : evalCond E (ops [(1, a), (2, b)] []) L s' (.numLtNum 2 1) = true :=
              show decide (L.num 2 < L.num 1) = true from decide_eq_true (by omega)
            show Iter _ _ _ _ _ _ L s' (liftRet (Op.lenLoop k b (capSave s) (m + 1) s' q))
            rw [Op.lenLoop]
            cases hd : down1 s' with
            | error e => exact .err e hc (execL_down_err hd) rfl
            | ok s0' =>
              show Iter _ _ _ _ _ _ L s' (liftRet (k b s0' q >>= _))
              cases hk : k b s0' q with
              | error e => exact .err e hc (execL_down_ok hd <| execL_call_err rfl hq hk) rfl
              | ok x =>
                obtain ⟨res, s1'⟩ := x
                cases res with
                | none =>
                  refine .ret _ hc (execL_down_ok hd <| execL_call_ok rfl hq hk <| execL_pure rfl <| execL_then rfl <|
                    execL_pure rfl rfl) ?_
                  show Except.ok (.ret (none, capLoad (up1 s1') (L.cs 0))) = liftRet (.ok (none, capLoad (up1 s1') (capSave s)))
                  rw [hc0]; rfl
                | some q' =>
                  exact .next (up1 s1', i + 1, q') _ _ hc (execL_down_ok hd <| execL_call_ok rfl hq hk <| execL_pure rfl <|
                    execL_else rfl <| execL_pure rfl rfl)
                    ⟨rfl, congrArg (· + 1) h2, h1, show i + 1 + m = nrep.toNat by omega, rfl, hc0⟩ rfl
          · show (match s3.caps[(L1.cs 0).cap]? with | some (.int n) => n.toNat | _ => 0) = nrep.toNat
            rw [hidx]
      | _ => exact hfail (by rw [hbad, hh]) rfl

/-! RULE_SPLIT, locals: pointer 0 = text, 1 = saved_end, 2 = chunk_start, 3 = chunk_end; capture state 0 = cs of the current chunk -/

/-- what the model does once the separator search has answered `x` = (chunk end, position after the separator, state): the
    sub-pattern on the chunk inside the narrowed window; the result of the instruction (`inl`), or the state and position of the
    next chunk (`inr`) -/
def splitChunk (k : OK ρ) (sub : ρ) (se cstart : Nat) (x : Nat × Nat × St) : Except Err ((Option Nat × St) ⊕ (St × Nat)) := do
  let s4 ← down1 { up1 x.2.2 with textEnd := x.1 }
  let (res, s5) ← k sub s4 cstart
  let s6 : St := { up1 s5 with textEnd := se }
  match res with
  | none => .ok (.inl (none, s6))
  | some _ => if x.2.1 == cstart then .ok (.inl (none, s6)) else .ok (.inr (s6, x.2.1))

/-- one chunk of the model's `splitLoop` -/
def splitIter (k : OK ρ) (sep sub : ρ) (se : Nat) (s : St) (cstart pos : Nat) : Except Err ((Option Nat × St) ⊕ (St × Nat)) := do
  let s0 ← down1 s
  Op.splitFind k sep (capSave s) (se + 1 - pos) s0 pos pos >>= splitChunk k sub se cstart

theorem splitLoop_succ (k : OK ρ) (sep sub : ρ) (se n : Nat) (s : St) (cstart pos : Nat) :
    Op.splitLoop k sep sub se (n + 1) s cstart pos =
      if pos ≤ se then
        (match splitIter k sep sub se s cstart pos with
          | .error e => .error e
          | .ok (.inl r) => .ok r
          | .ok (.inr (s6, p')) => Op.splitLoop k sep sub se n s6 p' p')
      else .ok (some se, { s with textEnd := se }) := by
  simp only [Op.splitLoop, splitIter]
  by_cases h : pos ≤ se
  · simp only [h, if_true]
    cases down1 s with
    | error e => simp [bind, Except.bind]
    | ok s0 =>
      simp only [bind, Except.bind]
      cases Op.splitFind k sep (capSave s) (se + 1 - pos) s0 pos pos with
      | error e => simp
      | ok x =>
        obtain ⟨ce, p', s1⟩ := x
        simp only [splitChunk, bind, Except.bind]
        cases down1 { up1 s1 with textEnd := ce } with
        | error e => simp
        | ok s4 =>
          simp only
          cases k sub s4 cstart with
          | error e => simp
          | ok y =>
            obtain ⟨res, s5⟩ := y
            cases res with
            | none => simp
            | some q => by_cases hq : (p' == cstart) = true <;> simp [hq]
  · simp [h]

/-- the outcome `o` of the outer loop's body is the model's chunk `y`: the same error, the same result of the instruction, or on
    to the next chunk with `text` and `chunk_start` after the separator -/
def ChunkOut (se : Nat) (o : Except Err Out) (y : Except Err ((Option Nat × St) ⊕ (St × Nat))) : Prop :=
  match y with
  | .error e => o = .error e
  | .ok (.inl r) => o = .ok (.ret r)
  | .ok (.inr (s6, p')) => ∃ L1, o = .ok (.cont L1 s6) ∧ L1.ptr 0 = some p' ∧ L1.ptr 1 = some se ∧ L1.ptr 2 = some p'

/-- what follows the separator search in the outer body -/
theorem split_rest (E : Env) (k : OK ρ) (sep r : ρ) (se fuel : Nat) (L : Loc) (s1 : St) (ce p' cstart : Nat)
    (h0 : L.ptr 0 = some p') (h1 : L.ptr 1 = some se) (h2 : L.ptr 2 = some cstart) (h3 : L.ptr 3 = some ce) :
    ChunkOut se (execL E k (ops [(1, sep), (2, r)] []) fuel Gen.PegSkel.RULE_SPLIT_rest0 L s1)
      (splitChunk k r se cstart (ce, p', s1)) := by
  rw [splitChunk]
  cases hd : down1 { up1 s1 with textEnd := ce } with
  | error e => exact execL_pure rfl <| execL_endSet h3 <| execL_down_err hd
  | ok s4 =>
    show ChunkOut se _ (k r s4 cstart >>= _)
    cases hk : k r s4 cstart with
    | error e => exact execL_pure rfl <| execL_endSet h3 <| execL_down_ok hd <| execL_call_err rfl h2 hk
    | ok y =>
      obtain ⟨res, s5⟩ := y
      cases res with
      | none =>
        exact execL_pure rfl <| execL_endSet h3 <| execL_down_ok hd <| execL_call_ok rfl h2 hk <| execL_pure rfl <|
          execL_endSet h1 <| execL_then rfl rfl
      | some q =>
        have hpre : ∀ {x}, execL E k (ops [(1, sep), (2, r)] []) fuel
              (.ite (.ptrEq 0 2) .retNull (.seq (.ptrCopy 2 0) .cont)) { L with ptr := upd L.ptr 5 (some q) }
              { up1 s5 with textEnd := se } = x →
            execL E k (ops [(1, sep), (2, r)] []) fuel Gen.PegSkel.RULE_SPLIT_rest0 L s1 = x :=
          fun h => execL_pure rfl <| execL_endSet h3 <| execL_down_ok hd <| execL_call_ok rfl h2 hk <| execL_pure rfl <|
            execL_endSet h1 <| execL_else rfl h
        have hc : ∀ b, (p' == cstart) = b → evalCond E (ops [(1, sep), (2, r)] []) { L with ptr := upd L.ptr 5 (some q) }
            { up1 s5 with textEnd := se } (.ptrEq 0 2) = b := by
          intro b hb
          show (L.ptr 0 == L.ptr 2) = b
          rw [h0, h2, ← hb]
          cases hq : p' == cstart <;> simp_all
        show ChunkOut se _ (if p' == cstart then _ else _)
        cases hq : p' == cstart with
        | true => exact hpre <| execL_then (hc _ hq) rfl
        | false =>
          exact ⟨_, hpre <| execL_else (hc _ hq) <| execL_pure rfl rfl, h0, h1, h0⟩

/-- the outer loop body (one chunk): the separator search is the inner loop -/
theorem split_body (E : Env) (k : OK ρ) (sep r : ρ) (se fuel : Nat) (hf : se + 2 ≤ fuel) (L : Loc) (s : St) (pos cstart : Nat)
    (h0 : L.ptr 0 = some pos) (h1 : L.ptr 1 = some se) (h2 : L.ptr 2 = some cstart) (hle : pos ≤ se) :
    ChunkOut se (execL E k (ops [(1, sep), (2, r)] []) fuel Gen.PegSkel.RULE_SPLIT_body1 L s)
      (splitIter k sep r se s cstart pos) := by
  rw [splitIter]
  cases hd : down1 s with
  | error e => exact execL_pure rfl <| execL_down_err hd
  | ok s0 =>
    rw [show execL E k (ops [(1, sep), (2, r)] []) fuel Gen.PegSkel.RULE_SPLIT_body1 L s = _ from
      execL_pure rfl <| execL_down_ok hd <| execL_loop]
    refine loop_tie_count (ChunkOut se)
      (fun m (a : St × Nat × Nat) => Op.splitFind k sep (capSave s) m a.1 a.2.1 a.2.2 >>= splitChunk k r se cstart)
      (fun m a L' s' => s' = a.1 ∧ L'.ptr 0 = some a.2.2 ∧ L'.ptr 1 = some se ∧ L'.ptr 2 = some cstart ∧ L'.cs 0 = capSave s ∧
        m = se + 1 - a.2.2 ∧ (m = 0 → L'.ptr 3 = some a.2.1)) ?zero ?iter
      (m := se + 1 - pos) (a := (s0, pos, pos))
      ⟨rfl, h0, h1, h2, rfl, rfl, fun h => absurd h (Nat.ne_of_gt (Nat.sub_pos_of_lt (Nat.lt_succ_of_le hle)))⟩
      (Nat.le_trans (Nat.succ_le_succ (Nat.sub_le _ _)) hf)
    case zero =>
      rintro ⟨_, ce, p⟩ L' s' ⟨rfl, (g0 : L'.ptr 0 = some p), g1, g2, _, (hm : 0 = se + 1 - p), g3⟩
      refine ⟨?_, split_rest E k sep r se fuel L' s' ce p cstart g0 g1 g2 (g3 rfl)⟩
      show (match L'.ptr 0, L'.ptr 1 with | some p, some q => decide (p ≤ q) | _, _ => false) = false
      rw [g0, g1]
      exact decide_eq_false (scan_done hm)
    case iter =>
      rintro m ⟨_, ce, p⟩ L' s' ⟨rfl, (g0 : L'.ptr 0 = some p), g1, g2, gcs, (hm : m + 1 = se + 1 - p), _⟩
      have hc : evalCond E (ops [(1, sep), (2, r)] []) L' s' (.ptrLe 0 1) = true := by
        show (match L'.ptr 0, L'.ptr 1 with | some p, some q => decide (p ≤ q) | _, _ => false) = true
        rw [g0, g1]
        exact decide_eq_true (scan_more hm)
      show Iter _ _ _ _ _ _ L' s' (Op.splitFind k sep (capSave s) (m + 1) s' ce p >>= _)
      rw [Op.splitFind]
      cases hk : k sep s' p with
      | error e => exact .err e hc (execL_pure rfl <| execL_call_err rfl g0 hk) rfl
      | ok x =>
        obtain ⟨res, s1⟩ := x
        cases res with
        | none =>
          refine .next (capLoad s1 (capSave s), p, p + 1) _ _ hc
            (execL_pure rfl <| execL_call_ok rfl g0 hk <| execL_pure rfl <| execL_then rfl <| execL_pure rfl rfl)
            ⟨congrArg (capLoad s1) gcs, ?_, g1, g2, gcs, scan_next hm, fun _ => g0⟩ rfl
          show (L'.ptr 0).map (· + 1) = some (p + 1)
          rw [g0]; rfl
        | some c =>
          refine .brk _ _ hc
            (execL_pure rfl <| execL_call_ok rfl g0 hk <| execL_pure rfl <| execL_else rfl <| execL_pure rfl rfl) ?_
          show ChunkOut se (execL _ _ _ _ _ _ (capLoad s1 (L'.cs 0))) _
          rw [gcs]
          exact split_rest E k sep r se fuel _ _ p c cstart rfl g1 g2 g0

/-- RULE_SPLIT: chunks between separators; the separator is searched position by position (its captures dropped), the
    sub-pattern runs from the chunk start inside the window that ends where the separator begins, the window is put back after
    every chunk and before the final return; an empty step (no forward progress) or a failing chunk fails the whole rule.
    `n` (the model's loop fuel) also bounds the IR's separator search, hence `s.textEnd + 2 ≤ n`. -/
theorem rule_split (E : Env) (k : OK ρ) (n : Nat) (sep r : ρ) (s : St) (pos : Nat) (hn : s.textEnd + 2 ≤ n) :
    runL E k (ops [(1, sep), (2, r)] []) n Gen.PegSkel.RULE_SPLIT s pos = Op.step E k n (.split sep r) s pos := by
  refine runL_of_execL <| execL_pure rfl <| execL_pure rfl <| execL_pure rfl <| execL_loop.trans ?_
  refine loop_tie Eq (fun n (a : St × Nat × Nat) => liftRet (Op.splitLoop k sep r s.textEnd n a.1 a.2.1 a.2.2))
    (fun _ a L s' => s' = a.1 ∧ L.ptr 2 = some a.2.1 ∧ L.ptr 0 = some a.2.2 ∧ L.ptr 1 = some s.textEnd) Eq
    (fun m f h => ⟨m, h.symm, rfl⟩) (fun f a L s' _ h => by subst h; rfl) ?iter n n (s, pos, pos) _ s ⟨rfl, rfl, rfl, rfl⟩ rfl
  rintro m ⟨_, cstart, p⟩ L s' ⟨rfl, (h2 : L.ptr 2 = some cstart), (h0 : L.ptr 0 = some p), h1⟩
  have hcond : ∀ b, decide (p ≤ s.textEnd) = b → evalCond E (ops [(1, sep), (2, r)] []) L s' (.ptrLe 0 1) = b := by
    intro b hb
    show (match L.ptr 0, L.ptr 1 with | some p, some q => decide (p ≤ q) | _, _ => false) = b
    rw [h0, h1]; exact hb
  show Iter _ _ _ _ _ _ L s' (liftRet (Op.splitLoop k sep r s.textEnd (m + 1) s' cstart p))
  rw [splitLoop_succ]
  by_cases hle : p ≤ s.textEnd
  · rw [if_pos hle]
    have hb := split_body E k sep r s.textEnd n hn L s' p cstart h0 h1 h2 hle
    cases hit : splitIter k sep r s.textEnd s' cstart p with
    | error e => rw [hit] at hb; exact .err e (hcond _ (decide_eq_true hle)) hb rfl
    | ok x =>
      rw [hit] at hb
      cases x with
      | inl res => exact .ret res (hcond _ (decide_eq_true hle)) hb rfl
      | inr y =>
        obtain ⟨L1, hb, g0, g1, g2⟩ := hb
        exact .next (y.1, y.2, y.2) L1 y.1 (hcond _ (decide_eq_true hle)) hb ⟨rfl, g2, g0, g1⟩ rfl
  · rw [if_neg hle]
    exact .stop (hcond _ (decide_eq_false hle)) (execL_endSet h1 <| execL_pure rfl rfl)

/-- `for (i = count - 1; i >= 0; i--) if (tags[i] matches) <leave the case>`: the IR's descending loop finds what
    `reverse.find?` finds (the newest entry with the tag) and leaves the state alone otherwise -/
theorem down_search (i : Nat) (body : Loc → St → Except Err Out) (s : St) (pos : Nat) (p : Nat × Val → Bool) (hit : Nat × Val → ORes)
    (hbody : ∀ (L : Loc), L.ptr 0 = some pos → ∀ (j : Nat) (hj : j < s.tagged.length),
      body { L with num := upd L.num i j } s =
        if p s.tagged[j] then liftRet (hit s.tagged[j]) else .ok (.cont { L with num := upd L.num i j } s)) :
    ∀ (j : Nat), j ≤ s.tagged.length → ∀ (L : Loc), L.ptr 0 = some pos →
      match (s.tagged.take j).reverse.find? p with
      | some tv => downN i body j L s = liftRet (hit tv)
      | none => ∃ L', downN i body j L s = .ok (.cont L' s) := by
  intro j
  induction j with
  | zero => intro _ L _; exact ⟨L, by simp [downN]⟩
  | succ j ih =>
    intro hj L hL
    have hj' : j < s.tagged.length := by omega
    have htake : (s.tagged.take (j + 1)).reverse = s.tagged[j] :: (s.tagged.take j).reverse := by
      rw [List.take_succ]; simp [List.getElem?_eq_getElem hj']
    rw [htake, List.find?_cons]
    have hb := hbody L hL j hj'
    by_cases hp : p s.tagged[j] = true
    · simp only [hp, if_true] at hb ⊢
      simp only [downN, hb, bind, Except.bind, liftRet]
      cases hit s.tagged[j] <;> rfl
    · have hp' : p s.tagged[j] = false := by simpa using hp
      simp only [hp', Bool.false_eq_true, if_false] at hb ⊢
      have := ih (by omega) { L with num := upd L.num i j } hL
      simp only [downN, hb, bind, Except.bind]
      exact this

theorem gettag_body (E : Env) (k : OK ρ) (search tag fuel : Nat) (s : St) (pos : Nat) :
    ∀ (L : Loc), L.ptr 0 = some pos → ∀ (j : Nat) (hj : j < s.tagged.length),
      execL E k (ops [] [(1, search), (2, tag)]) fuel Gen.PegSkel.RULE_GETTAG_body0 { L with num := upd L.num 0 j } s =
        if (fun tv : Nat × Val => tv.1 == search) s.tagged[j] then liftRet ((fun tv => .ok (some pos, pushcap E s tv.2 tag)) s.tagged[j])
        else .ok (.cont { L with num := upd L.num 0 j } s) := by
  intro L hL j hj
  have hidx : s.tagged[upd L.num 0 j 0]? = some s.tagged[j] := List.getElem?_eq_getElem hj
  generalize s.tagged[j] = tv at hidx ⊢
  have hc : evalCond E (ops [] [(1, search), (2, tag)] : Operands ρ) { L with num := upd L.num 0 j } s (.tagAtEq 0 (.op 1)) =
      (tv.1 == search) := by
    show (match s.tagged[upd L.num 0 j 0]? with | some tv => tv.1 == search | none => false) = _
    rw [hidx]
  show _ = if (tv.1 == search) = true then _ else _
  cases hm : tv.1 == search with
  | false => exact execL_else (hc.trans hm) rfl
  | true =>
    exact execL_then (hc.trans hm) <| execL_valDef_taggedAt hidx <| execL_pure rfl <| execL_ret hL

/-- RULE_GETTAG: the NEWEST tagged capture with the tag is pushed again (under `rule[2]`), no entry = no match -/
theorem rule_gettag (E : Env) (k : OK ρ) (n fuel : Nat) (search tag : Nat) (s : St) (pos : Nat) :
    runL E k (ops [] [(1, search), (2, tag)]) fuel Gen.PegSkel.RULE_GETTAG s pos = Op.step E k n (.gettag search tag) s pos := by
  refine runL_of_execL <| execL_downLoop.trans ?_
  have key := down_search 0 _ s pos (fun tv => tv.1 == search) (fun tv => .ok (some pos, pushcap E s tv.2 tag))
    (gettag_body E k search tag fuel s pos) s.tagged.length (Nat.le_refl _) (Loc.init pos) rfl
  rw [List.take_length] at key
  show thenRest _ (downN 0 _ s.tagged.length (Loc.init pos) s) =
    liftRet (match (s.tagged.reverse.find? (fun tv => tv.1 == search)).map (·.2) with
      | some v => .ok (some pos, pushcap E s v tag) | none => .ok (none, s))
  cases hf : s.tagged.reverse.find? (fun tv => tv.1 == search) with
  | some tv =>
    rw [hf] at key
    rw [key]
    rfl
  | none =>
    rw [hf] at key
    obtain ⟨L', hL'⟩ := key
    rw [hL']
    rfl

/-- what RULE_BACKMATCH does with the newest capture carrying the tag -/
def backmatchHit (E : Env) (s : St) (pos : Nat) (tv : Nat × Val) : ORes :=
  match tv.2 with
  | .str bytes =>
    if pos + bytes.length > s.textEnd then .ok (none, s)
    else do
      let t ← E.slice s pos (pos + bytes.length)
      .ok (if t == bytes then some (pos + bytes.length) else none, s)
  | _ => .ok (none, s)

theorem backmatch_body (E : Env) (k : OK ρ) (search fuel : Nat) (s : St) (pos : Nat) :
    ∀ (L : Loc), L.ptr 0 = some pos → ∀ (j : Nat) (hj : j < s.tagged.length),
      execL E k (ops [] [(1, search)]) fuel Gen.PegSkel.RULE_BACKMATCH_body0 { L with num := upd L.num 0 j } s =
        if (fun tv : Nat × Val => tv.1 == search) s.tagged[j] then liftRet (backmatchHit E s pos s.tagged[j])
        else .ok (.cont { L with num := upd L.num 0 j } s) := by
  intro L hL j hj
  have hidx : s.tagged[upd L.num 0 j 0]? = some s.tagged[j] := List.getElem?_eq_getElem hj
  generalize s.tagged[j] = tv at hidx ⊢
  obtain ⟨t, v⟩ := tv
  have hc : evalCond E (ops [] [(1, search)] : Operands ρ) { L with num := upd L.num 0 j } s (.tagAtEq 0 (.op 1)) = (t == search) := by
    show (match s.tagged[upd L.num 0 j 0]? with | some tv => tv.1 == search | none => false) = _
    rw [hidx]
  show _ = if (t == search) = true then _ else _
  cases hm : t == search with
  | false => exact execL_else (hc.trans hm) rfl
  | true =>
    refine execL_then (hc.trans hm) <| execL_valDef_taggedAt hidx ?_
    show _ = liftRet (backmatchHit E s pos (t, v))
    cases v with
    | str bytes =>
      refine execL_then rfl <| execL_pure rfl ?_
      refine execL_ite liftRet ?_ (fun _ => rfl) fun _ => execL_cmpVal hL rfl fun t' => ?_
      · show (match L.ptr 0 with | some p => decide (p + bytes.length > s.textEnd) | none => false) = _
        rw [hL]
      show _ = liftRet (.ok (if t' == bytes then _ else _, s))
      cases ht : t' == bytes
      · exact execL_then (show ((if t' == List.take bytes.length bytes then (0 : Nat) else 1) != 0) = true by
          rw [List.take_length, ht]; rfl) rfl
      · refine execL_else (show ((if t' == List.take bytes.length bytes then (0 : Nat) else 1) != 0) = false by
          rw [List.take_length, ht]; rfl) ?_
        rw [execL]
        show Except.ok (Out.ret ((L.ptr 0).map (· + bytes.length), s)) = _
        rw [hL]; rfl
    | _ => exact execL_else rfl rfl

/-- RULE_BACKMATCH: the newest capture with the tag must be a STRING, fit into the current window and be what the text has there -/
theorem rule_backmatch (E : Env) (k : OK ρ) (n fuel : Nat) (search : Nat) (s : St) (pos : Nat) :
    runL E k (ops [] [(1, search)]) fuel Gen.PegSkel.RULE_BACKMATCH s pos = Op.step E k n (.backmatch search) s pos := by
  have hstep : Op.step E k n (.backmatch search) s pos =
      (match s.tagged.reverse.find? (fun tv => tv.1 == search) with | some tv => backmatchHit E s pos tv | none => .ok (none, s)) := by
    simp only [Op.step, findTag, backmatchHit]
    cases s.tagged.reverse.find? (fun tv => tv.1 == search) with
    | none => rfl
    | some tv => obtain ⟨t, v⟩ := tv; cases v <;> rfl
  rw [hstep]
  refine runL_of_execL <| execL_downLoop.trans ?_
  have key := down_search 0 _ s pos (fun tv => tv.1 == search) (backmatchHit E s pos)
    (backmatch_body E k search fuel s pos) s.tagged.length (Nat.le_refl _) (Loc.init pos) rfl
  rw [List.take_length] at key
  show thenRest _ (downN 0 _ s.tagged.length (Loc.init pos) s) = _
  cases hf : s.tagged.reverse.find? (fun tv => tv.1 == search) with
  | some tv =>
    rw [hf] at key
    rw [key]
    show thenRest _ (liftRet (backmatchHit E s pos tv)) = liftRet (backmatchHit E s pos tv)
    cases backmatchHit E s pos tv <;> rfl
  | none =>
    rw [hf] at key
    obtain ⟨L', hL'⟩ := key
    rw [hL']
    rfl

theorem set_take_succ {α : Type} (l : List α) (w : Nat) (e : α) (h : w < l.length) : (l.set w e).take (w + 1) = l.take w ++ [e] := by
  rw [List.take_add_one, List.take_set_of_le (Nat.le_refl w)]
  simp [h]

theorem drop_take_snoc {α : Type} (l : List α) (c i : Nat) (hc : c ≤ i) (hi : i < l.length) :
    (l.drop c).take (i + 1 - c) = (l.drop c).take (i - c) ++ [l[i]] := by
  have : i + 1 - c = (i - c) + 1 := by omega
  rw [this, List.take_add_one]
  have h2 : c + (i - c) = i := by omega
  simp [h2, hi]

/-- the compaction loop: locals 0 = tcap, 1 = final_tcap, 2 = w, 3 = i.  Invariant: the first `w` entries are the kept ones of
    `T0[0, i)`, the entries from `i` on are untouched.  `f` = IR loop fuel. -/
theorem unref_loop (E : Env) (k : OK ρ) (r : ρ) (tag fuel : Nat) (T0 : List (Nat × Val)) (c : Nat) :
    ∀ (m f : Nat) (L : Loc) (s : St), m = L.num 1 - L.num 3 → m + 1 ≤ f →
      L.num 1 = T0.length → s.tagged.length = T0.length → c ≤ L.num 2 → L.num 2 ≤ L.num 3 →
      s.tagged.take (L.num 2) = T0.take c ++ ((T0.drop c).take (L.num 3 - c)).filter (fun tv => tv.1 != tag % 256) →
      s.tagged.drop (L.num 3) = T0.drop (L.num 3) →
      ∃ L' T', loopN (fun L s => evalCond E (ops [(1, r)] [(2, tag)]) L s (.numLtNum 3 1))
          (fun L s => execL E k (ops [(1, r)] [(2, tag)]) fuel Gen.PegSkel.RULE_UNREF_body0 L s) f L s = .ok (.cont L' { s with tagged := T' }) ∧
        L'.ptr = L.ptr ∧ T'.take (L'.num 2) = T0.take c ++ (T0.drop c).filter (fun tv => tv.1 != tag % 256) := by
  intro m
  induction m with
  | zero =>
    intro f L s hm hf h1 hlen hc hw htake hdrop
    obtain ⟨f', rfl⟩ := Nat.exists_eq_add_one_of_ne_zero (Nat.ne_of_gt hf)
    have hle : L.num 1 ≤ L.num 3 := Nat.le_of_sub_eq_zero hm.symm
    refine ⟨L, s.tagged, ?_, rfl, ?_⟩
    · rw [loopN, if_neg]
      exact fun h => Nat.not_lt.mpr hle (of_decide_eq_true h)
    · have hall : (T0.drop c).take (L.num 3 - c) = T0.drop c :=
        List.take_of_length_le (by rw [List.length_drop, ← h1]; exact Nat.sub_le_sub_right hle c)
      rw [htake, hall]
  | succ m ih =>
    intro f L s hm hf h1 hlen hc hw htake hdrop
    obtain ⟨f', rfl⟩ := Nat.exists_eq_add_one_of_ne_zero (Nat.ne_of_gt (Nat.lt_of_lt_of_le (Nat.succ_pos _) hf))
    have hf' : m + 1 ≤ f' := Nat.le_of_succ_le_succ hf
    have hlt : L.num 3 < L.num 1 := Nat.lt_of_sub_pos (hm ▸ Nat.succ_pos m)
    have hm' : m = L.num 1 - (L.num 3 + 1) := by rw [Nat.sub_succ, ← hm]; rfl
    have hi : L.num 3 < T0.length := h1 ▸ hlt
    have hi' : L.num 3 < s.tagged.length := hlen.symm ▸ hi
    have hcons : s.tagged[L.num 3] :: s.tagged.drop (L.num 3 + 1) = T0[L.num 3] :: T0.drop (L.num 3 + 1) := by
      rw [← List.drop_eq_getElem_cons hi', ← List.drop_eq_getElem_cons hi]; exact hdrop
    have he : s.tagged[L.num 3] = T0[L.num 3] := (List.cons.inj hcons).1
    have hdrop1 : s.tagged.drop (L.num 3 + 1) = T0.drop (L.num 3 + 1) := (List.cons.inj hcons).2
    have hsnoc := drop_take_snoc T0 c (L.num 3) (Nat.le_trans hc hw) hi
    have hidx : s.tagged[L.num 3]? = some T0[L.num 3] := (List.getElem?_eq_getElem hi').trans (congrArg some he)
    have hcond : evalCond E (ops [(1, r)] [(2, tag)]) L s (.tagAtEq 3 (.byteOf 2 0)) = (T0[L.num 3].1 == tag % 256) := by
      show (match s.tagged[L.num 3]? with | some tv => tv.1 == tag / 2 ^ 0 % 256 | none => false) = _
      rw [hidx, Nat.pow_zero, Nat.div_one]
    rw [loopN, if_pos (show evalCond E (ops [(1, r)] [(2, tag)]) L s (.numLtNum 3 1) = true from decide_eq_true hlt)]
    cases ht : T0[L.num 3].1 == tag % 256 with
    | true =>
      -- dropped: only i moves
      have hb : execL E k (ops [(1, r)] [(2, tag)]) fuel Gen.PegSkel.RULE_UNREF_body0 L s =
          .ok (.cont { L with num := upd L.num 3 (L.num 3 + 1) } s) :=
        execL_then (hcond.trans ht) <| execL_pure rfl rfl
      rw [hb]
      refine ih f' { L with num := upd L.num 3 (L.num 3 + 1) } s hm' hf' h1 hlen hc (Nat.le_succ_of_le hw) ?_ hdrop1
      show s.tagged.take (L.num 2) = T0.take c ++ ((T0.drop c).take (L.num 3 + 1 - c)).filter (fun tv => tv.1 != tag % 256)
      rw [htake, hsnoc, List.filter_append]
      simp [show T0[L.num 3].1 = tag % 256 by simpa using ht]
    | false =>
      -- kept: moved down to w
      have hwl : L.num 2 < s.tagged.length := Nat.lt_of_le_of_lt hw hi'
      have hb : execL E k (ops [(1, r)] [(2, tag)]) fuel Gen.PegSkel.RULE_UNREF_body0 L s =
          .ok (.cont { L with num := upd (upd L.num 2 (L.num 2 + 1)) 3 (L.num 3 + 1) }
            { s with tagged := s.tagged.set (L.num 2) T0[L.num 3] }) :=
        execL_else (hcond.trans ht) <| execL_tagMove hidx hwl <| execL_pure rfl <| execL_pure rfl rfl
      rw [hb]
      refine ih f' { L with num := upd (upd L.num 2 (L.num 2 + 1)) 3 (L.num 3 + 1) }
        { s with tagged := s.tagged.set (L.num 2) T0[L.num 3] } hm' hf' h1
        (by rw [← hlen]; exact List.length_set ..) (Nat.le_succ_of_le hc) (Nat.succ_le_succ hw) ?_ ?_
      · show (s.tagged.set (L.num 2) T0[L.num 3]).take (L.num 2 + 1) =
          T0.take c ++ ((T0.drop c).take (L.num 3 + 1 - c)).filter (fun tv => tv.1 != tag % 256)
        rw [set_take_succ _ _ _ hwl, htake, hsnoc, List.filter_append]
        simp [show ¬ T0[L.num 3].1 = tag % 256 by simpa using ht]
      · show (s.tagged.set (L.num 2) T0[L.num 3]).drop (L.num 3 + 1) = T0.drop (L.num 3 + 1)
        rw [List.drop_set_of_lt (Nat.lt_succ_of_le hw)]; exact hdrop1

/-- RULE_UNREF: after a successful sub-rule, the tagged captures it added are dropped - all of them for `rule[2] = 0`, the ones
    tagged `rule[2] & 0xFF` otherwise (compacted in place, order kept); both tag arrays are cut to the same length.
    `fuel` = IR loop fuel: one unit per tagged capture added by the sub-rule and one for the exit test. -/
theorem rule_unref (E : Env) (k : OK ρ) (n fuel : Nat) (r : ρ) (tag : Nat) (s : St) (pos : Nat)
    (hf : ∀ s0 res s1, down1 s = .ok s0 → k r s0 pos = .ok (res, s1) → s1.tagged.length - s.tagged.length + 1 ≤ fuel) :
    runL E k (ops [(1, r)] [(2, tag)]) fuel Gen.PegSkel.RULE_UNREF s pos = Op.step E k n (.unref r tag) s pos := by
  refine runL_of_execL <| execL_pure rfl <| execL_bind rfl fun s0 hd => execL_call rfl rfl fun res s1 hk => ?_
  cases res with
  | none => rfl
  | some p =>
    refine execL_pure rfl <| execL_else rfl <| execL_pure rfl <| execL_pure rfl ?_
    show _ = liftRet (.ok (some p, { up1 s1 with tagged := (up1 s1).tagged.take s.tagged.length ++
      if tag != 0 then ((up1 s1).tagged.drop s.tagged.length).filter (fun tv => tv.1 != tag % 256) else [] }))
    cases ht : tag == 0 with
    | true =>
      -- all tagged captures of the sub-rule go: both arrays are cut to their height on entry
      refine execL_then ht <| execL_pure rfl ?_
      rw [show (tag != 0) = false by rw [bne, ht]; rfl]
      show _ = liftRet (.ok (some p, { up1 s1 with tagged := (up1 s1).tagged.take s.tagged.length ++ [] }))
      rw [List.append_nil]
      rfl
    | false =>
      refine execL_else ht <| execL_pure rfl <| execL_loop.trans ?_
      rw [show (tag != 0) = true by rw [bne, ht]; rfl]
      generalize hL0 : Loc.mk _ _ _ _ _ = L0
      have n1 : L0.num 1 = s1.tagged.length := by subst hL0; rfl
      have n2 : L0.num 2 = s.tagged.length := by subst hL0; rfl
      have n3 : L0.num 3 = s.tagged.length := by subst hL0; rfl
      have p1 : L0.ptr 1 = some p := by subst hL0; rfl
      obtain ⟨L', T', g1, g2, g3⟩ := unref_loop E k r tag fuel s1.tagged s.tagged.length (L0.num 1 - L0.num 3) fuel L0 (up1 s1)
        rfl (by rw [n1, n3]; exact hf s0 (some p) s1 hd hk) n1 rfl (by rw [n2]; exact Nat.le_refl _) (by rw [n2, n3]; exact Nat.le_refl _)
        (by rw [n2, n3, Nat.sub_self]; exact (List.append_nil _).symm) rfl
      rw [g1]
      refine execL_pure rfl ?_
      rw [execL, g2, p1]
      show Except.ok (Out.ret (some p, { up1 s1 with tagged := T'.take (L'.num 2) })) = _
      rw [g3]
      rfl

/-! `rule_to_thru`, `rule_til`, `rule_choice`, `rule_sequence`, `rule_lenprefix`, `rule_unref` ask for "enough IR loop fuel"; the bound is
a function of the state only, so the fuel-free meaning `Returns` of the extracted program IS the `Op.step` case, with no hypothesis
on fuel.  `rule_between` / `rule_split` run the IR with the MODEL's loop fuel `n`; their model loops are monotone in `n`
(`betweenLoop_mono`, `splitLoop_mono`), so whenever the model's own fuel sufficed (its answer is not `Err.fuel`), that answer is the
fuel-free meaning of the extracted program; `rule_split_returns` needs no bound relating `n` to the window. -/

theorem rule_to_thru_returns (E : Env) (k : OK ρ) (hk : KeepsWindow k) (n : Nat) (isTo : Bool) (r : ρ) (s : St) (pos : Nat) :
    Returns (fun fuel => runL E k ⟨opsRule [(1, r)], opsWord [(0, if isTo then Gen.Peg.RULE_TO else Gen.Peg.RULE_THRU)], fun _ => .nil,
        fun _ => []⟩ fuel Gen.PegSkel.RULE_TO s pos)
      (Op.step E k n (if isTo then .to r else .thru r) s pos) :=
  ⟨s.textEnd + 1 - pos + 1, fun fuel hf => rule_to_thru E k hk n fuel isTo r s pos hf⟩

/-- inside a match the window never exceeds the text (`never_reads_outside`), so `|text| + 2` units are enough at every state -/
theorem rule_to_thru_text_bound (E : Env) (k : OK ρ) (hk : KeepsWindow k) (n fuel : Nat) (isTo : Bool) (r : ρ) (s : St) (pos : Nat)
    (hwin : s.textEnd ≤ E.text.length) (hf : E.text.length + 2 ≤ fuel) :
    runL E k ⟨opsRule [(1, r)], opsWord [(0, if isTo then Gen.Peg.RULE_TO else Gen.Peg.RULE_THRU)], fun _ => .nil, fun _ => []⟩ fuel
        Gen.PegSkel.RULE_TO s pos =
      Op.step E k n (if isTo then .to r else .thru r) s pos :=
  rule_to_thru E k hk n fuel isTo r s pos (by omega)

theorem rule_til_returns (E : Env) (k : OK ρ) (hk : KeepsWindow k) (n : Nat) (t r : ρ) (s : St) (pos : Nat) :
    Returns (fun fuel => runL E k (ops [(1, t), (2, r)] []) fuel Gen.PegSkel.RULE_TIL s pos) (Op.step E k n (.til t r) s pos) :=
  ⟨s.textEnd + 1 - pos + 1, fun fuel hf => rule_til E k hk n fuel t r s pos hf⟩

theorem rule_til_text_bound (E : Env) (k : OK ρ) (hk : KeepsWindow k) (n fuel : Nat) (t r : ρ) (s : St) (pos : Nat)
    (hwin : s.textEnd ≤ E.text.length) (hf : E.text.length + 2 ≤ fuel) :
    runL E k (ops [(1, t), (2, r)] []) fuel Gen.PegSkel.RULE_TIL s pos = Op.step E k n (.til t r) s pos :=
  rule_til E k hk n fuel t r s pos (by omega)

theorem rule_choice_returns (E : Env) (k : OK ρ) (n : Nat) (rs : List ρ) (s : St) (pos : Nat) :
    Returns (fun fuel => runL E k (opsList rs) fuel Gen.PegSkel.RULE_CHOICE s pos) (Op.step E k n (.choice rs) s pos) :=
  ⟨rs.length + 1, fun fuel hf => rule_choice E k n fuel rs s pos hf⟩

theorem rule_sequence_returns (E : Env) (k : OK ρ) (n : Nat) (rs : List ρ) (s : St) (pos : Nat) :
    Returns (fun fuel => runL E k (opsList rs) fuel Gen.PegSkel.RULE_SEQUENCE s pos) (Op.step E k n (.sequence rs) s pos) :=
  ⟨rs.length + 1, fun fuel hf => rule_sequence E k n fuel rs s pos hf⟩

theorem rule_lenprefix_returns (E : Env) (hE : E.lenprefixLeak = false) (k : OK ρ) (n : Nat) (a b : ρ) (s : St) (pos : Nat) :
    Returns (fun fuel => runL E k (ops [(1, a), (2, b)] []) fuel Gen.PegSkel.RULE_LENPREFIX s pos)
      (Op.step E k n (.lenprefix a b) s pos) :=
  ⟨2147483648, fun fuel hf => rule_lenprefix E hE k n fuel a b s pos hf⟩

theorem rule_unref_returns (E : Env) (k : OK ρ) (n : Nat) (r : ρ) (tag : Nat) (s : St) (pos : Nat) :
    Returns (fun fuel => runL E k (ops [(1, r)] [(2, tag)]) fuel Gen.PegSkel.RULE_UNREF s pos) (Op.step E k n (.unref r tag) s pos) := by
  refine ⟨(match down1 s with
    | .ok s0 => (match k r s0 pos with | .ok (_, s1) => s1.tagged.length - s.tagged.length + 1 | .error _ => 0)
    | .error _ => 0), fun fuel hf => rule_unref E k n fuel r tag s pos ?_⟩
  intro s0 res s1 hd hk
  simpa [hd, hk] using hf

/-- the model's RULE_BETWEEN loop does not change its answer when given more fuel -/
theorem betweenLoop_mono (k : OK ρ) (r : ρ) (hi : Nat) :
    ∀ (n : Nat) (c : Nat) (s : St) (pos : Nat) (res : Except Err (Nat × Nat × St)),
      Op.betweenLoop k r hi n c s pos = res → res ≠ .error .fuel → ∀ n', n ≤ n' → Op.betweenLoop k r hi n' c s pos = res :=
  fun n c s pos _ h hne _ hn' =>
    h ▸ (Op.FLe.of_succ (fun n => Op.betweenLoop_kmono (fun _ _ _ => Op.FLe.refl _) r hi n c s pos) hn').eq_of_ne (h ▸ hne)

theorem rule_between_returns (E : Env) (k : OK ρ) (n : Nat) (lo hi : Nat) (r : ρ) (s : St) (pos : Nat)
    (hn : ∀ s0, down1 s = .ok s0 → Op.betweenLoop k r hi n 0 s0 pos ≠ .error .fuel) :
    Returns (fun fuel => runL E k (ops [(3, r)] [(1, lo), (2, hi)]) fuel Gen.PegSkel.RULE_BETWEEN s pos)
      (Op.step E k n (.between lo hi r) s pos) := by
  refine ⟨n, fun fuel hf => ?_⟩
  show runL E k (ops [(3, r)] [(1, lo), (2, hi)]) fuel Gen.PegSkel.RULE_BETWEEN s pos = _
  rw [rule_between E k fuel lo hi r s pos]
  simp only [Op.step]
  cases hd : down1 s with
  | error e => rfl
  | ok s0 =>
    simp only [bind, Except.bind]
    rw [betweenLoop_mono k r hi n 0 s0 pos _ rfl (hn s0 hd) fuel hf]

/-- ... nor does the RULE_SPLIT loop -/
theorem splitLoop_mono (k : OK ρ) (sep sub : ρ) (se : Nat) :
    ∀ (n : Nat) (s : St) (cstart pos : Nat) (res : ORes),
      Op.splitLoop k sep sub se n s cstart pos = res → res ≠ .error .fuel → ∀ n', n ≤ n' → Op.splitLoop k sep sub se n' s cstart pos = res :=
  fun n s cstart pos _ h hne _ hn' =>
    h ▸ (Op.FLe.of_succ (fun n => Op.splitLoop_kmono (fun _ _ _ => Op.FLe.refl _) sep sub se n s cstart pos) hn').eq_of_ne
      (h ▸ hne)

/-- RULE_SPLIT with the single hypothesis that the model's outer loop had enough fuel of its own (its answer is not `Err.fuel`) -/
theorem rule_split_returns (E : Env) (k : OK ρ) (n : Nat) (sep r : ρ) (s : St) (pos : Nat)
    (hn : Op.step E k n (.split sep r) s pos ≠ .error .fuel) :
    Returns (fun fuel => runL E k (ops [(1, sep), (2, r)] []) fuel Gen.PegSkel.RULE_SPLIT s pos) (Op.step E k n (.split sep r) s pos) := by
  refine ⟨max n (s.textEnd + 2), fun fuel hf => ?_⟩
  show runL E k (ops [(1, sep), (2, r)] []) fuel Gen.PegSkel.RULE_SPLIT s pos = _
  rw [rule_split E k fuel sep r s pos (by omega)]
  simp only [Op.step] at hn ⊢
  exact splitLoop_mono k sep r s.textEnd n s pos pos _ rfl hn fuel (by omega)

/-- the value RULE_READINT wraps, from the accumulated integer -/
def rdVal (acc flags : Nat) : Val :=
  if flags % 16 > 6 then
    if (flags / 16) % 2 == 1 then .s64 (toSigned acc (flags % 16)) else .u64 acc
  else
    if (flags / 16) % 2 == 1 then .int (toSigned acc (flags % 16)) else .int acc

theorem readintVal_eq (t : List Nat) (flags : Nat) :
    readintVal t flags = rdVal (if (flags / 32) % 2 == 1 then readBE t else readLE t) flags := by
  simp only [readintVal, rdVal]

theorem readBE_snoc (l : List Nat) (b : Nat) : readBE (l ++ [b]) = readBE l * 256 + b := by
  simp [readBE, List.foldl_append]

/-- the bytes of the window slice, one by one through the guarded accessor -/
theorem window_bytes (E : Env) (s : St) (pos w : Nat) (hin : pos + w ≤ s.textEnd) (hwin : s.textEnd ≤ E.text.length) :
    ((E.text.drop pos).take w).length = w ∧
    ∀ (i : Nat) (hi : i < w), ∃ b, ((E.text.drop pos).take w)[i]? = some b ∧ E.byte s (pos + i) = .ok b := by
  have hlen : ((E.text.drop pos).take w).length = w := by simp; omega
  refine ⟨hlen, fun i hi => ?_⟩
  have h1 : pos + i < E.text.length := by omega
  refine ⟨E.text[pos + i], ?_, ?_⟩
  · simp [List.getElem?_take, hi, h1]
  · have h2 : pos + i < s.textEnd := by omega
    simp [Env.byte, h2, h1]

section ReadInt
variable (E : Env) (k : OK ρ) (flags tag fuel : Nat)

/-- what follows both loops: wrap, push, return -/
theorem readint_rest (s : St) (pos : Nat) (L : Loc) (hp : L.ptr 0 = some pos) :
    execL E k (ops [] [(1, flags), (2, tag)]) fuel Gen.PegSkel.RULE_READINT_rest0 L s =
      .ok (.ret (some (pos + flags % 16), pushcap E s (rdVal (L.num 0) flags) tag)) := by
  simp only [Gen.PegSkel.RULE_READINT_rest0, execL, execStmt, evalCond, evalVE, evalWE, ops, opsWord, rdVal]
  by_cases h6 : flags % 16 > 6 <;> by_cases hs : (flags / 16) % 2 = 1 <;> simp [h6, hs, hp, upd, bind, Except.bind]

/-- one more byte fits into the C's `uint64_t` accumulator while fewer than 8 have been read -/
theorem accByte_small {a b w : Nat} (ha : a < 256 ^ w) (hb : b < 256) (hw : w < 8) :
    (a * 256 + b) % 18446744073709551616 = a * 256 + b ∧ a * 256 + b < 256 ^ (w + 1) := by
  have h1 : (a + 1) * 256 ≤ 256 ^ w * 256 := Nat.mul_le_mul_right _ ha
  have h2 : 256 ^ w * 256 ≤ 256 ^ 7 * 256 := Nat.mul_le_mul_right _ (Nat.pow_le_pow_right (by decide) (by omega))
  have h3 : (256 : Nat) ^ 7 * 256 = 18446744073709551616 := by decide
  rw [Nat.pow_succ]
  exact ⟨Nat.mod_eq_of_lt (by omega), by omega⟩

/-- big endian: ascending loop, locals number 0 = accum, 1 = i.  Invariant: `accum` is `readBE` of the first `i` bytes. -/
theorem readint_be_loop (s : St) (pos : Nat) (t : List Nat) (ht : t.length = flags % 16) (hw : flags % 16 ≤ 8)
    (hb : ∀ b ∈ t, b < 256) (hbyte : ∀ i, i < flags % 16 → ∃ b, t[i]? = some b ∧ E.byte s (pos + i) = .ok b)
    (L : Loc) (hp : L.ptr 0 = some pos) (h0 : L.num 0 = 0) (h1 : L.num 1 = 0) (hf : flags % 16 + 1 ≤ fuel) :
    thenRest (fun L s => execL E k (ops [] [(1, flags), (2, tag)]) fuel Gen.PegSkel.RULE_READINT_rest0 L s)
      (loopN (fun L s => evalCond E (ops [] [(1, flags), (2, tag)] : Operands ρ) L s (.numLtWord 1 (.lowBits 1 4)))
        (fun L s => execL E k (ops [] [(1, flags), (2, tag)]) fuel Gen.PegSkel.RULE_READINT_body0 L s) fuel L s) =
      .ok (.ret (some (pos + flags % 16), pushcap E s (rdVal (readBE t) flags) tag)) := by
  have hcond : ∀ (L : Loc) (s : St), evalCond E (ops [] [(1, flags), (2, tag)] : Operands ρ) L s (.numLtWord 1 (.lowBits 1 4)) =
      decide (L.num 1 < flags % 16) := fun _ _ => rfl
  refine loop_tie_count Eq (fun _ (_ : Unit) => _)
    (fun m _ L' s' => s' = s ∧ L'.ptr 0 = some pos ∧ L'.num 1 + m = flags % 16 ∧ L'.num 0 = readBE (t.take (L'.num 1)) ∧
      L'.num 0 < 256 ^ L'.num 1) ?zero ?iter
    (m := flags % 16) (a := ()) ⟨rfl, hp, by rw [h1, Nat.zero_add], by rw [h0, h1]; rfl, by rw [h0, h1]; decide⟩ hf
  case zero =>
    rintro _ L' s' ⟨rfl, hp', (hi : L'.num 1 + 0 = flags % 16), hacc, _⟩
    refine ⟨(hcond L' s').trans (decide_eq_false (by omega)), ?_⟩
    rw [readint_rest E k flags tag fuel s' pos L' hp', hacc, List.take_of_length_le (by omega)]
  case iter =>
    rintro m _ L' s' ⟨rfl, hp', (hi : L'.num 1 + (m + 1) = flags % 16), hacc, hlt⟩
    obtain ⟨b, hb1, hb2⟩ := hbyte (L'.num 1) (by omega)
    obtain ⟨hmod, hlt'⟩ := accByte_small hlt (hb b (List.mem_of_getElem? hb1)) (by omega : L'.num 1 < 8)
    refine .next () _ _ ((hcond L' s').trans (decide_eq_true (by omega))) (execL_accByte hp' hb2 <| execL_pure rfl rfl)
      ⟨rfl, hp', ?_, ?_, ?_⟩ rfl
    · show L'.num 1 + 1 + m = flags % 16
      omega
    · show (L'.num 0 * 256 + b) % 18446744073709551616 = readBE (t.take (L'.num 1 + 1))
      rw [hmod, List.take_add_one, hb1, Option.toList, readBE_snoc, ← hacc]
    · show (L'.num 0 * 256 + b) % 18446744073709551616 < 256 ^ (L'.num 1 + 1)
      rw [hmod]; exact hlt'

/-- little endian: descending loop from the last byte of the slice; `accum` is `readLE` of the bytes from `j` on -/
theorem readint_le_loop (s : St) (pos : Nat) (t : List Nat) (ht : t.length = flags % 16) (hw : flags % 16 ≤ 8)
    (hb : ∀ b ∈ t, b < 256) (hbyte : ∀ i, i < flags % 16 → ∃ b, t[i]? = some b ∧ E.byte s (pos + i) = .ok b) :
    ∀ (j : Nat) (L : Loc), j ≤ flags % 16 → L.ptr 0 = some pos → L.num 0 = readLE (t.drop j) → L.num 0 < 256 ^ (flags % 16 - j) →
      thenRest (fun L s => execL E k (ops [] [(1, flags), (2, tag)]) fuel Gen.PegSkel.RULE_READINT_rest1 L s)
        (downN 1 (fun L s => execL E k (ops [] [(1, flags), (2, tag)]) fuel Gen.PegSkel.RULE_READINT_body1 L s) j L s) =
      .ok (.ret (some (pos + flags % 16), pushcap E s (rdVal (readLE t) flags) tag)) := by
  intro j
  induction j with
  | zero =>
    intro L _ hp hacc _
    show execL E k _ fuel Gen.PegSkel.RULE_READINT_rest0 L s = _
    rw [readint_rest E k flags tag fuel s pos L hp, hacc, List.drop_zero]
  | succ j ih =>
    intro L hj hp hacc hlt
    obtain ⟨b, hb1, hb2⟩ := hbyte j (by omega)
    have hjl : j < t.length := by omega
    have hbj : t[j] = b := Option.some.inj ((List.getElem?_eq_getElem hjl).symm.trans hb1)
    obtain ⟨hmod, hlt'⟩ := accByte_small hlt (hb b (List.mem_of_getElem? hb1)) (by omega : flags % 16 - (j + 1) < 8)
    have hbody : execL E k (ops [] [(1, flags), (2, tag)]) fuel Gen.PegSkel.RULE_READINT_body1 { L with num := upd L.num 1 j } s = _ :=
      execL_accByte (L := { L with num := upd L.num 1 j }) hp hb2 rfl
    rw [downN, hbody]
    refine ih _ (by omega) hp ?_ ?_
    · show (L.num 0 * 256 + b) % 18446744073709551616 = readLE (t.drop j)
      rw [hmod, List.drop_eq_getElem_cons hjl, hbj, readLE, ← hacc]
      omega
    · show (L.num 0 * 256 + b) % 18446744073709551616 < 256 ^ (flags % 16 - j)
      rw [hmod, show flags % 16 - j = flags % 16 - (j + 1) + 1 by omega]
      exact hlt'

/-- RULE_READINT: `rule[1] & 0xF` bytes inside the window, accumulated big endian (bit 5) or little endian, wrapped signed
    (bit 4) or unsigned, as an int-type above 6 bytes.  Hypotheses: the window lies inside the text (the model's invariant
    `never_reads_outside`), the width is at most 8 (spec_readint; the C's uint64_t accumulator wraps beyond), text elements are
    bytes.  `fuel` = IR loop fuel of the ascending loop. -/
theorem rule_readint (n : Nat) (s : St) (pos : Nat) (hwin : s.textEnd ≤ E.text.length) (hw : flags % 16 ≤ 8)
    (hb : ∀ b ∈ E.text, b < 256) (hf : 10 ≤ fuel) :
    runL E k (ops [] [(1, flags), (2, tag)]) fuel Gen.PegSkel.RULE_READINT s pos = Op.step E k n (.readint flags tag) s pos := by
  refine runL_of_execL <| execL_ite liftRet (P := pos + flags % 16 > s.textEnd) rfl (fun _ => rfl) fun hout => ?_
  have hin : pos + flags % 16 ≤ s.textEnd := by omega
  obtain ⟨hlen, hbyte⟩ := window_bytes E s pos (flags % 16) hin hwin
  have hbt : ∀ b ∈ (E.text.drop pos).take (flags % 16), b < 256 :=
    fun b hb' => hb b (List.mem_of_mem_drop (List.mem_of_mem_take hb'))
  have hslice : E.slice s pos (pos + flags % 16) = .ok ((E.text.drop pos).take (flags % 16)) := by
    simp [Env.slice, hin]; omega
  rw [hslice]
  show _ = liftRet (Except.ok (some (pos + flags % 16), pushcap E s (readintVal _ flags) tag))
  rw [readintVal_eq]
  refine execL_pure rfl ?_
  cases hbe : (flags / 32) % 2 == 1 with
  | true =>
    refine execL_then (show ((flags / 2 ^ 5) % 2 == 1) = true from hbe) <| execL_pure rfl <| execL_loop.trans ?_
    exact readint_be_loop E k flags tag fuel s pos _ hlen hw hbt hbyte _ rfl rfl rfl (by omega)
  | false =>
    refine execL_else (show ((flags / 2 ^ 5) % 2 == 1) = false from hbe) <| execL_downLoopW.trans ?_
    refine readint_le_loop E k flags tag fuel s pos _ hlen hw hbt hbyte (flags % 16) _ (Nat.le_refl _) rfl ?_ ?_
    · show 0 = readLE (List.drop (flags % 16) _)
      rw [List.drop_of_length_le (Nat.le_of_eq hlen)]; rfl
    · show 0 < 256 ^ (flags % 16 - flags % 16)
      rw [Nat.sub_self]; decide

end ReadInt

theorem rule_readint_returns {ρ : Type} (E : Env) (k : OK ρ) (flags tag n : Nat) (s : St) (pos : Nat) (hwin : s.textEnd ≤ E.text.length)
    (hw : flags % 16 ≤ 8) (hb : ∀ b ∈ E.text, b < 256) :
    Returns (fun fuel => runL E k (ops [] [(1, flags), (2, tag)]) fuel Gen.PegSkel.RULE_READINT s pos)
      (Op.step E k n (.readint flags tag) s pos) :=
  ⟨10, fun fuel hf => rule_readint E k flags tag fuel n s pos hwin hw hb hf⟩

section Decoded
open JanetModel.Gen.Peg

/-! `rule_x` above names the operands of the instruction (`ops [(1, a), (2, b)] ..`).  Here the extracted program runs on `rawOps P pc len`
- `rule[j]` IS word `pc + j` of the bytecode; as a number or a rule operand only for `j < len`, the instruction's own words - and the instruction
is what `Decode.decode P pc` returns.  Which positions the C reads comes from the extracted program (`Skel.okProg`, decided by the
kernel), which positions the decoder reads comes from `decode`; an operand the C takes from another position than the decoder
(or from beyond the instruction) breaks `decoded_x`. -/

/-- the operand words of the instruction at `pc` that occupies `len` words, as the C sees them through `rule[k]` -/
def rawOps (P : Program) (pc len : Nat) : Operands Nat :=
  { rule := fun j => if j < len then some (P.word (pc + j)) else none,
    word := fun j => if j < len then P.word (pc + j) else 0,
    const := fun j => (P.constants[P.word (pc + j)]?).getD .nil,
    bytes := fun j => (List.range (P.word (pc + 1))).map (P.litByte (pc + j)) }

theorem find_tabulated {α : Type} (g : Nat → α) (js : List Nat) (j : Nat) (hj : j ∈ js) :
    (js.map fun i => (i, g i)).find? (fun kv => kv.1 == j) = some (j, g j) := by
  induction js with
  | nil => cases hj
  | cons a t ih =>
    rw [List.map_cons, List.find?_cons]
    by_cases ha : a = j
    · subst ha; simp only [beq_self_eq_true]
    · have hne : (a == j) = false := beq_false_of_ne ha
      simp only [hne]
      exact ih ((List.mem_cons.mp hj).resolve_left (fun h => ha h.symm))

/-- the raw words of an instruction against a record that names its operands: rule operands `rs` and numbers `ws` at positions
    inside the instruction (the opcode word is number 0), the constant `v` at the positions `cs`, the byte strings `bs` at `bl` -/
theorem agree_rawOps (P : Program) (pc len : Nat) (rs ws cs bl : List Nat) (v : Val) (bs : Nat → List Nat)
    (h : ∀ j ∈ rs ++ ws, j < len) (hc : ∀ j ∈ cs, (P.constants[P.word (pc + j)]?).getD .nil = v)
    (hb : ∀ j ∈ bl, (List.range (P.word (pc + 1))).map (P.litByte (pc + j)) = bs j) :
    Agree { r := rs, w := ws, c := cs, b := bl } (rawOps P pc len)
      ⟨opsRule (rs.map fun j => (j, P.word (pc + j))), opsWord (ws.map fun j => (j, P.word (pc + j))), fun _ => v, bs⟩ := by
  constructor
  · intro j hj
    have hm : j ∈ ws := by simpa [FP.W] using hj
    simp only [rawOps, opsWord, if_pos (h j (List.mem_append_right _ hm)), find_tabulated _ ws j hm, Option.map_some,
      Option.getD_some]
  · intro j hj
    have hm : j ∈ rs := by simpa [FP.R] using hj
    simp only [rawOps, opsRule, if_pos (h j (List.mem_append_left _ hm)), find_tabulated _ rs j hm, Option.map_some]
  · intro j hj; exact hc j (List.contains_iff_mem.mp hj)
  · intro j hj; exact hb j (List.contains_iff_mem.mp hj)

theorem agree_rawOps_list (P : Program) (pc : Nat) :
    Agree { rFrom := some 2, w := [1] } (rawOps P pc (2 + P.word (pc + 1)))
      (opsList ((List.range (P.word (pc + 1))).map (fun j => P.word (pc + 2 + j)))) := by
  constructor <;> intro j hj <;> simp [FP.W, FP.R, FP.C, FP.B] at hj
  · subst hj; simp [rawOps, opsList, opsWord]; omega
  · simp only [rawOps, opsList, hj, if_true]
    by_cases hlt : j < 2 + P.word (pc + 1)
    · have h1 : j - 2 < P.word (pc + 1) := by omega
      have h2 : pc + 2 + (j - 2) = pc + j := by omega
      simp [hlt, h1, h2]
    · have h1 : ¬ (j - 2 < P.word (pc + 1)) := by omega
      simp [hlt, h1]

/-- RULE_SET: the eight bitmap words are numbers 1 .. 8 -/
theorem agree_rawOps_set (P : Program) (pc : Nat) :
    Agree { wFrom := some 1 } (rawOps P pc 9)
      ⟨opsRule [], fun j => ((List.range 8).map fun j => P.word (pc + 1 + j)).getD (j - 1) 0, fun _ => .nil, fun _ => []⟩ := by
  constructor <;> intro j hj <;> simp [FP.W, FP.R, FP.C, FP.B] at hj
  simp only [rawOps]
  by_cases h9 : j < 9
  · have : j - 1 < 8 := by omega
    have h2 : pc + 1 + (j - 1) = pc + j := by omega
    simp [h9, List.getD, this, h2]
  · have : ¬ (j - 1 < 8) := by omega
    simp [h9, List.getD, this]

section
variable {E : Env} {k : OK Nat} {n : Nat} {P : Program} {pc len : Nat} {s : St} {pos : Nat} {prog : Prog} {i : Instr Nat}

variable {f : FP} {O : Operands Nat}

/-- From a record `O` that names the operands to the raw words: `rule_x` on `O`, the agreement of `rawOps` with `O` on a footprint,
    and the kernel's check that the extracted program stays inside that footprint.  The default of `hd` takes
    `pc < P.bytecode.size` and `P.word pc = _` from the caller's context. -/
theorem decoded_of_agree (ha : Agree f (rawOps P pc len) O) (hr : run E k O prog s pos = Op.step E k n i s pos)
    (hd : decode P pc = some i := by
      unfold decode; rw [if_neg (Nat.not_le.mpr ‹_ < Array.size _›), ‹Program.word _ _ = _›]; rfl)
    (hok : okProg f prog = true := by decide) :
    ∃ i, decode P pc = some i ∧ run E k (rawOps P pc len) prog s pos = Op.step E k n i s pos :=
  ⟨i, hd, (run_congr ha E k prog hok s pos).trans hr⟩

theorem decoded_of_agreeL (ha : Agree f (rawOps P pc len) O)
    (hr : Returns (fun fuel => runL E k O fuel prog s pos) (Op.step E k n i s pos))
    (hd : decode P pc = some i := by
      unfold decode; rw [if_neg (Nat.not_le.mpr ‹_ < Array.size _›), ‹Program.word _ _ = _›]; rfl)
    (hok : okProg f prog = true := by decide) :
    ∃ i, decode P pc = some i ∧ Returns (fun fuel => runL E k (rawOps P pc len) fuel prog s pos) (Op.step E k n i s pos) := by
  obtain ⟨f0, h⟩ := hr
  exact ⟨i, hd, f0, fun fuel hf => (runL_congr ha E k fuel prog hok s pos).trans (h fuel hf)⟩

/-- ... for an instruction whose operands sit at listed positions `rs` (rules), `ws` (numbers), `cs` (the constant `v`) -/
theorem decoded_of_rule (rs ws : List Nat) {v : Val}
    (hr : run E k ⟨opsRule (rs.map fun j => (j, P.word (pc + j))), opsWord (ws.map fun j => (j, P.word (pc + j))), fun _ => v,
      fun _ => []⟩ prog s pos = Op.step E k n i s pos)
    (cs : List Nat := [])
    (hd : decode P pc = some i := by
      unfold decode; rw [if_neg (Nat.not_le.mpr ‹_ < Array.size _›), ‹Program.word _ _ = _›]; rfl)
    (hok : okProg { r := rs, w := ws, c := cs } prog = true := by decide) (hb : ∀ j ∈ rs ++ ws, j < len := by decide)
    (hc : ∀ j ∈ cs, (P.constants[P.word (pc + j)]?).getD .nil = v := by nofun) :
    ∃ i, decode P pc = some i ∧ run E k (rawOps P pc len) prog s pos = Op.step E k n i s pos :=
  decoded_of_agree (agree_rawOps P pc len rs ws cs [] v _ hb hc nofun) hr hd hok

theorem decoded_of_returns (rs ws : List Nat)
    (hr : Returns (fun fuel => runL E k (ops (rs.map fun j => (j, P.word (pc + j))) (ws.map fun j => (j, P.word (pc + j)))) fuel
      prog s pos) (Op.step E k n i s pos))
    (hd : decode P pc = some i := by
      unfold decode; rw [if_neg (Nat.not_le.mpr ‹_ < Array.size _›), ‹Program.word _ _ = _›]; rfl)
    (hok : okProg { r := rs, w := ws } prog = true := by decide) (hb : ∀ j ∈ rs ++ ws, j < len := by decide) :
    ∃ i, decode P pc = some i ∧ Returns (fun fuel => runL E k (rawOps P pc len) fuel prog s pos) (Op.step E k n i s pos) :=
  decoded_of_agreeL (agree_rawOps P pc len rs ws [] [] .nil _ hb nofun nofun) hr hd hok
end

macro "decode_tac" hpc:ident hop:ident : tactic =>
  `(tactic| simp +decide [decode, Nat.not_le.mpr $hpc, $hop:ident, *])

theorem decoded_if (E : Env) (k : OK Nat) (n : Nat) (P : Program) (pc : Nat) (s : St) (pos : Nat)
    (hpc : pc < P.bytecode.size) (hop : P.word pc = RULE_IF) :
    ∃ i, decode P pc = some i ∧ run E k (rawOps P pc 3) Gen.PegSkel.RULE_IF s pos = Op.step E k n i s pos :=
  decoded_of_rule [1, 2] [] (rule_if E k n _ _ s pos)

theorem decoded_ifnot (E : Env) (k : OK Nat) (n : Nat) (P : Program) (pc : Nat) (s : St) (pos : Nat)
    (hpc : pc < P.bytecode.size) (hop : P.word pc = RULE_IFNOT) :
    ∃ i, decode P pc = some i ∧ run E k (rawOps P pc 3) Gen.PegSkel.RULE_IFNOT s pos = Op.step E k n i s pos :=
  decoded_of_rule [1, 2] [] (rule_ifnot E k n _ _ s pos)

theorem decoded_not (E : Env) (k : OK Nat) (n : Nat) (P : Program) (pc : Nat) (s : St) (pos : Nat)
    (hpc : pc < P.bytecode.size) (hop : P.word pc = RULE_NOT) :
    ∃ i, decode P pc = some i ∧ run E k (rawOps P pc 2) Gen.PegSkel.RULE_NOT s pos = Op.step E k n i s pos :=
  decoded_of_rule [1] [] (rule_not E k n _ s pos)

theorem decoded_drop (E : Env) (k : OK Nat) (n : Nat) (P : Program) (pc : Nat) (s : St) (pos : Nat)
    (hpc : pc < P.bytecode.size) (hop : P.word pc = RULE_DROP) :
    ∃ i, decode P pc = some i ∧ run E k (rawOps P pc 2) Gen.PegSkel.RULE_DROP s pos = Op.step E k n i s pos :=
  decoded_of_rule [1] [] (rule_drop E k n _ s pos)

theorem decoded_only_tags (E : Env) (k : OK Nat) (n : Nat) (P : Program) (pc : Nat) (s : St) (pos : Nat)
    (hpc : pc < P.bytecode.size) (hop : P.word pc = RULE_ONLY_TAGS) :
    ∃ i, decode P pc = some i ∧ run E k (rawOps P pc 2) Gen.PegSkel.RULE_ONLY_TAGS s pos = Op.step E k n i s pos :=
  decoded_of_rule [1] [] (rule_only_tags E k n _ s pos)

theorem decoded_sub (E : Env) (k : OK Nat) (n : Nat) (P : Program) (pc : Nat) (s : St) (pos : Nat)
    (hpc : pc < P.bytecode.size) (hop : P.word pc = RULE_SUB) :
    ∃ i, decode P pc = some i ∧ run E k (rawOps P pc 3) Gen.PegSkel.RULE_SUB s pos = Op.step E k n i s pos :=
  decoded_of_rule [1, 2] [] (rule_sub E k n _ _ s pos)

theorem decoded_accumulate (E : Env) (k : OK Nat) (n : Nat) (P : Program) (pc : Nat) (s : St) (pos : Nat)
    (hpc : pc < P.bytecode.size) (hop : P.word pc = RULE_ACCUMULATE) :
    ∃ i, decode P pc = some i ∧ run E k (rawOps P pc 3) Gen.PegSkel.RULE_ACCUMULATE s pos = Op.step E k n i s pos :=
  decoded_of_rule [1] [2] (rule_accumulate E k n _ _ s pos)

theorem decoded_capture (E : Env) (k : OK Nat) (n : Nat) (P : Program) (pc : Nat) (s : St) (pos : Nat)
    (hpc : pc < P.bytecode.size) (hop : P.word pc = RULE_CAPTURE) :
    ∃ i, decode P pc = some i ∧ run E k (rawOps P pc 3) Gen.PegSkel.RULE_CAPTURE s pos = Op.step E k n i s pos :=
  decoded_of_rule [1] [2] (rule_capture E k n _ _ s pos)

theorem decoded_position (E : Env) (k : OK Nat) (n : Nat) (P : Program) (pc : Nat) (s : St) (pos : Nat)
    (hpc : pc < P.bytecode.size) (hop : P.word pc = RULE_POSITION) :
    ∃ i, decode P pc = some i ∧ run E k (rawOps P pc 2) Gen.PegSkel.RULE_POSITION s pos = Op.step E k n i s pos :=
  decoded_of_rule [] [1] (rule_position E k n _ s pos)

theorem decoded_constant (E : Env) (k : OK Nat) (n : Nat) (P : Program) (pc : Nat) (s : St) (pos : Nat)
    (hpc : pc < P.bytecode.size) (hop : P.word pc = RULE_CONSTANT) (v : Val)
    (hv : P.constants[P.word (pc + 1)]? = some v) :
    ∃ i, decode P pc = some i ∧ run E k (rawOps P pc 3) Gen.PegSkel.RULE_CONSTANT s pos = Op.step E k n i s pos :=
  decoded_of_rule [] [2] (rule_constant E k n v _ s pos) [1] (by decode_tac hpc hop) (hc := by simp [hv])

theorem decoded_group (E : Env) (k : OK Nat) (n : Nat) (P : Program) (pc : Nat) (s : St) (pos : Nat)
    (hpc : pc < P.bytecode.size) (hop : P.word pc = RULE_GROUP) :
    ∃ i, decode P pc = some i ∧ run E k (rawOps P pc 3) Gen.PegSkel.RULE_GROUP s pos = Op.step E k n i s pos :=
  decoded_of_rule [1] [2] (rule_group E k n _ _ s pos)

theorem decoded_nth (E : Env) (k : OK Nat) (n : Nat) (P : Program) (pc : Nat) (s : St) (pos : Nat)
    (hpc : pc < P.bytecode.size) (hop : P.word pc = RULE_NTH) :
    ∃ i, decode P pc = some i ∧ run E k (rawOps P pc 4) Gen.PegSkel.RULE_NTH s pos = Op.step E k n i s pos :=
  decoded_of_rule [2] [1, 3] (rule_nth E k n _ _ _ s pos)

theorem decoded_error (E : Env) (k : OK Nat) (n : Nat) (P : Program) (pc : Nat) (s : St) (pos : Nat)
    (hpc : pc < P.bytecode.size) (hop : P.word pc = RULE_ERROR) :
    ∃ i, decode P pc = some i ∧ run E k (rawOps P pc 2) Gen.PegSkel.RULE_ERROR s pos = Op.step E k n i s pos :=
  decoded_of_rule [1] [] (rule_error E k n _ s pos)

theorem decoded_nchar (E : Env) (k : OK Nat) (n : Nat) (P : Program) (pc : Nat) (s : St) (pos : Nat)
    (hpc : pc < P.bytecode.size) (hop : P.word pc = RULE_NCHAR) :
    ∃ i, decode P pc = some i ∧ run E k (rawOps P pc 2) Gen.PegSkel.RULE_NCHAR s pos = Op.step E k n i s pos :=
  decoded_of_rule [] [1] (rule_nchar E k n _ s pos)

theorem decoded_notnchar (E : Env) (k : OK Nat) (n : Nat) (P : Program) (pc : Nat) (s : St) (pos : Nat)
    (hpc : pc < P.bytecode.size) (hop : P.word pc = RULE_NOTNCHAR) :
    ∃ i, decode P pc = some i ∧ run E k (rawOps P pc 2) Gen.PegSkel.RULE_NOTNCHAR s pos = Op.step E k n i s pos :=
  decoded_of_rule [] [1] (rule_notnchar E k n _ s pos)

theorem decoded_line (E : Env) (k : OK Nat) (n : Nat) (P : Program) (pc : Nat) (s : St) (pos : Nat)
    (hpc : pc < P.bytecode.size) (hop : P.word pc = RULE_LINE) :
    ∃ i, decode P pc = some i ∧ run E k (rawOps P pc 2) Gen.PegSkel.RULE_LINE s pos = Op.step E k n i s pos :=
  decoded_of_rule [] [1] (rule_line E k n _ s pos)

theorem decoded_column (E : Env) (k : OK Nat) (n : Nat) (P : Program) (pc : Nat) (s : St) (pos : Nat)
    (hpc : pc < P.bytecode.size) (hop : P.word pc = RULE_COLUMN) :
    ∃ i, decode P pc = some i ∧ run E k (rawOps P pc 2) Gen.PegSkel.RULE_COLUMN s pos = Op.step E k n i s pos :=
  decoded_of_rule [] [1] (rule_column E k n _ s pos)

theorem decoded_argument (E : Env) (k : OK Nat) (n : Nat) (P : Program) (pc : Nat) (s : St) (pos : Nat)
    (hpc : pc < P.bytecode.size) (hop : P.word pc = RULE_ARGUMENT) :
    ∃ i, decode P pc = some i ∧ run E k (rawOps P pc 3) Gen.PegSkel.RULE_ARGUMENT s pos = Op.step E k n i s pos :=
  decoded_of_rule [] [1, 2] (rule_argument E k n _ _ s pos)

theorem decoded_replace (E : Env) (k : OK Nat) (n : Nat) (P : Program) (pc : Nat) (s : St) (pos : Nat)
    (hpc : pc < P.bytecode.size) (hop : P.word pc = RULE_REPLACE) (hk : KeepsDepth k) (v : Val)
    (hv : P.constants[P.word (pc + 2)]? = some v) :
    ∃ i, decode P pc = some i ∧ run E k (rawOps P pc 4) Gen.PegSkel.RULE_REPLACE s pos = Op.step E k n i s pos :=
  decoded_of_rule [1] [0, 3] (hop ▸ rule_replace E k hk n _ v _ s pos) [2] (by decode_tac hpc hop) (hc := by simp [hv])

theorem decoded_matchtime (E : Env) (k : OK Nat) (n : Nat) (P : Program) (pc : Nat) (s : St) (pos : Nat)
    (hpc : pc < P.bytecode.size) (hop : P.word pc = RULE_MATCHTIME) (hk : KeepsDepth k) (v : Val)
    (hv : P.constants[P.word (pc + 2)]? = some v) :
    ∃ i, decode P pc = some i ∧ run E k (rawOps P pc 4) Gen.PegSkel.RULE_MATCHTIME s pos = Op.step E k n i s pos :=
  decoded_of_rule [1] [0, 3] (hop ▸ rule_matchtime E k hk n _ v _ s pos) [2] (by decode_tac hpc hop) (hc := by simp [hv])

theorem decoded_range (E : Env) (k : OK Nat) (n : Nat) (P : Program) (pc : Nat) (s : St) (pos : Nat)
    (hpc : pc < P.bytecode.size) (hop : P.word pc = RULE_RANGE) :
    ∃ i, decode P pc = some i ∧ run E k (rawOps P pc 2) Gen.PegSkel.RULE_RANGE s pos = Op.step E k n i s pos :=
  decoded_of_rule [] [1] (rule_range E k n _ s pos)

theorem decoded_look (E : Env) (k : OK Nat) (n : Nat) (P : Program) (pc : Nat) (s : St) (pos : Nat)
    (hpc : pc < P.bytecode.size) (hop : P.word pc = RULE_LOOK) :
    ∃ i, decode P pc = some i ∧ run E k (rawOps P pc 3) Gen.PegSkel.RULE_LOOK s pos = Op.step E k n i s pos :=
  decoded_of_rule [2] [1] (rule_look E k n _ _ s pos)

theorem decoded_capture_num (E : Env) (k : OK Nat) (n : Nat) (P : Program) (pc : Nat) (s : St) (pos : Nat)
    (hpc : pc < P.bytecode.size) (hop : P.word pc = RULE_CAPTURE_NUM) (hE : E.numRaw = false) :
    ∃ i, decode P pc = some i ∧ run E k (rawOps P pc 4) Gen.PegSkel.RULE_CAPTURE_NUM s pos = Op.step E k n i s pos :=
  decoded_of_rule [1] [2, 3] (rule_capture_num E hE k n _ _ _ s pos)

theorem decoded_literal (E : Env) (k : OK Nat) (n : Nat) (P : Program) (pc : Nat) (s : St) (pos : Nat)
    (hpc : pc < P.bytecode.size) (hop : P.word pc = RULE_LITERAL) :
    ∃ i, decode P pc = some i ∧ run E k (rawOps P pc 2) Gen.PegSkel.RULE_LITERAL s pos = Op.step E k n i s pos := by
  have hr := rule_literal E k n ((List.range (P.word (pc + 1))).map (P.litByte (pc + 2))) s pos
  rw [List.length_map, List.length_range] at hr
  exact decoded_of_agree (agree_rawOps P pc 2 [] [1] [] [2] .nil _ (by decide) nofun (by simp)) hr

theorem decoded_set (E : Env) (k : OK Nat) (n : Nat) (P : Program) (pc : Nat) (s : St) (pos : Nat)
    (hpc : pc < P.bytecode.size) (hop : P.word pc = RULE_SET) :
    ∃ i, decode P pc = some i ∧ run E k (rawOps P pc 9) Gen.PegSkel.RULE_SET s pos = Op.step E k n i s pos :=
  decoded_of_agree (agree_rawOps_set P pc) (rule_set E k n _ s pos)

theorem decoded_to (E : Env) (k : OK Nat) (n : Nat) (P : Program) (pc : Nat) (s : St) (pos : Nat)
    (hpc : pc < P.bytecode.size) (hop : P.word pc = RULE_TO) (hk : KeepsWindow k) :
    ∃ i, decode P pc = some i ∧
      Returns (fun fuel => runL E k (rawOps P pc 2) fuel Gen.PegSkel.RULE_TO s pos) (Op.step E k n i s pos) :=
  decoded_of_returns (i := .to (P.word (pc + 1))) [1] [0] (by
    have h := rule_to_thru_returns E k hk n true (P.word (pc + 1)) s pos
    rwa [← hop] at h)

/-- RULE_THRU and RULE_TO share one case body in peg.c, so the two extracted programs are the same -/
theorem RULE_THRU_eq : Gen.PegSkel.RULE_THRU = Gen.PegSkel.RULE_TO := rfl

theorem decoded_thru (E : Env) (k : OK Nat) (n : Nat) (P : Program) (pc : Nat) (s : St) (pos : Nat)
    (hpc : pc < P.bytecode.size) (hop : P.word pc = RULE_THRU) (hk : KeepsWindow k) :
    ∃ i, decode P pc = some i ∧
      Returns (fun fuel => runL E k (rawOps P pc 2) fuel Gen.PegSkel.RULE_THRU s pos) (Op.step E k n i s pos) :=
  RULE_THRU_eq ▸ decoded_of_returns (i := .thru (P.word (pc + 1))) [1] [0] (by
    have h := rule_to_thru_returns E k hk n false (P.word (pc + 1)) s pos
    rwa [← hop] at h)

theorem decoded_til (E : Env) (k : OK Nat) (n : Nat) (P : Program) (pc : Nat) (s : St) (pos : Nat)
    (hpc : pc < P.bytecode.size) (hop : P.word pc = RULE_TIL) (hk : KeepsWindow k) :
    ∃ i, decode P pc = some i ∧
      Returns (fun fuel => runL E k (rawOps P pc 3) fuel Gen.PegSkel.RULE_TIL s pos) (Op.step E k n i s pos) :=
  decoded_of_returns [1, 2] [] (rule_til_returns E k hk n _ _ s pos)

theorem decoded_lenprefix (E : Env) (k : OK Nat) (n : Nat) (P : Program) (pc : Nat) (s : St) (pos : Nat)
    (hpc : pc < P.bytecode.size) (hop : P.word pc = RULE_LENPREFIX) (hE : E.lenprefixLeak = false) :
    ∃ i, decode P pc = some i ∧
      Returns (fun fuel => runL E k (rawOps P pc 3) fuel Gen.PegSkel.RULE_LENPREFIX s pos) (Op.step E k n i s pos) :=
  decoded_of_returns [1, 2] [] (rule_lenprefix_returns E hE k n _ _ s pos)

theorem decoded_between (E : Env) (k : OK Nat) (n : Nat) (P : Program) (pc : Nat) (s : St) (pos : Nat)
    (hpc : pc < P.bytecode.size) (hop : P.word pc = RULE_BETWEEN)
    (hn : ∀ s0, down1 s = .ok s0 → Op.betweenLoop k (P.word (pc + 3)) (P.word (pc + 2)) n 0 s0 pos ≠ .error .fuel) :
    ∃ i, decode P pc = some i ∧
      Returns (fun fuel => runL E k (rawOps P pc 4) fuel Gen.PegSkel.RULE_BETWEEN s pos) (Op.step E k n i s pos) :=
  decoded_of_returns [3] [1, 2] (rule_between_returns E k n _ _ _ s pos hn)

theorem decoded_split (E : Env) (k : OK Nat) (n : Nat) (P : Program) (pc : Nat) (s : St) (pos : Nat)
    (hpc : pc < P.bytecode.size) (hop : P.word pc = RULE_SPLIT)
    (hn : Op.step E k n (.split (P.word (pc + 1)) (P.word (pc + 2))) s pos ≠ .error .fuel) :
    ∃ i, decode P pc = some i ∧
      Returns (fun fuel => runL E k (rawOps P pc 3) fuel Gen.PegSkel.RULE_SPLIT s pos) (Op.step E k n i s pos) :=
  decoded_of_returns [1, 2] [] (rule_split_returns E k n _ _ s pos hn)

theorem decoded_unref (E : Env) (k : OK Nat) (n : Nat) (P : Program) (pc : Nat) (s : St) (pos : Nat)
    (hpc : pc < P.bytecode.size) (hop : P.word pc = RULE_UNREF) :
    ∃ i, decode P pc = some i ∧
      Returns (fun fuel => runL E k (rawOps P pc 3) fuel Gen.PegSkel.RULE_UNREF s pos) (Op.step E k n i s pos) :=
  decoded_of_returns [1] [2] (rule_unref_returns E k n _ _ s pos)

theorem decoded_gettag (E : Env) (k : OK Nat) (n : Nat) (P : Program) (pc : Nat) (s : St) (pos : Nat)
    (hpc : pc < P.bytecode.size) (hop : P.word pc = RULE_GETTAG) :
    ∃ i, decode P pc = some i ∧
      Returns (fun fuel => runL E k (rawOps P pc 3) fuel Gen.PegSkel.RULE_GETTAG s pos) (Op.step E k n i s pos) :=
  decoded_of_returns [] [1, 2] (⟨0, fun fuel _ => rule_gettag E k n fuel _ _ s pos⟩)

theorem decoded_backmatch (E : Env) (k : OK Nat) (n : Nat) (P : Program) (pc : Nat) (s : St) (pos : Nat)
    (hpc : pc < P.bytecode.size) (hop : P.word pc = RULE_BACKMATCH) :
    ∃ i, decode P pc = some i ∧
      Returns (fun fuel => runL E k (rawOps P pc 2) fuel Gen.PegSkel.RULE_BACKMATCH s pos) (Op.step E k n i s pos) :=
  decoded_of_returns [] [1] (⟨0, fun fuel _ => rule_backmatch E k n fuel _ s pos⟩)

theorem decoded_choice (E : Env) (k : OK Nat) (n : Nat) (P : Program) (pc : Nat) (s : St) (pos : Nat)
    (hpc : pc < P.bytecode.size) (hop : P.word pc = RULE_CHOICE) :
    ∃ i, decode P pc = some i ∧
      Returns (fun fuel => runL E k (rawOps P pc (2 + P.word (pc + 1))) fuel Gen.PegSkel.RULE_CHOICE s pos) (Op.step E k n i s pos) :=
  decoded_of_agreeL (agree_rawOps_list P pc) (rule_choice_returns E k n _ s pos)

theorem decoded_sequence (E : Env) (k : OK Nat) (n : Nat) (P : Program) (pc : Nat) (s : St) (pos : Nat)
    (hpc : pc < P.bytecode.size) (hop : P.word pc = RULE_SEQUENCE) :
    ∃ i, decode P pc = some i ∧
      Returns (fun fuel => runL E k (rawOps P pc (2 + P.word (pc + 1))) fuel Gen.PegSkel.RULE_SEQUENCE s pos) (Op.step E k n i s pos) :=
  decoded_of_agreeL (agree_rawOps_list P pc) (rule_sequence_returns E k n _ s pos)

theorem decoded_readint (E : Env) (k : OK Nat) (n : Nat) (P : Program) (pc : Nat) (s : St) (pos : Nat)
    (hpc : pc < P.bytecode.size) (hop : P.word pc = RULE_READINT) (hwin : s.textEnd ≤ E.text.length)
    (hw : P.word (pc + 1) % 16 ≤ 8) (hb : ∀ b ∈ E.text, b < 256) :
    ∃ i, decode P pc = some i ∧
      Returns (fun fuel => runL E k (rawOps P pc 3) fuel Gen.PegSkel.RULE_READINT s pos) (Op.step E k n i s pos) :=
  decoded_of_returns [] [1, 2] (rule_readint_returns E k _ _ n s pos hwin hw hb)

end Decoded

section Examples
def exE : Env := { text := [97, 98, 99], args := [], hasBackref := true }
def exS : St := { caps := [], tagged := [(1, .str [97]), (2, .str [98]), (1, .str [98, 99])], scratch := [], acc := false, textEnd := 3, depth := 10 }
def exK : OK Nat := fun r s p => if r == 7 then .ok (some (p + 1), { s with tagged := s.tagged ++ [(1, .nil), (2, .int 5), (1, .nil)] }) else .ok (none, s)

example : (run exE exK (ops [] [(1, 97 + 65536 * 122)]) Gen.PegSkel.RULE_RANGE exS 1).toOption.map (·.1) = some (some 2) := rfl
example : (run exE exK (ops [] [(1, 97 + 65536 * 97)]) Gen.PegSkel.RULE_RANGE exS 1).toOption.map (·.1) = some none := rfl
example : (run exE exK ⟨opsRule [], opsWord [(1, 2)], fun _ => .nil, fun b => if b = 2 then [98, 99] else []⟩ Gen.PegSkel.RULE_LITERAL exS 1).toOption.map (·.1)
    = some (some 3) := rfl
example : (run exE exK ⟨opsRule [], fun j => [0, 0, 0, 4, 0, 0, 0, 0].getD (j - 1) 0, fun _ => .nil, fun _ => []⟩ Gen.PegSkel.RULE_SET exS 1).toOption.map (·.1)
    = some (some 2) := rfl
-- (look -1 r) at 1: the sub-rule runs at 0, the rule returns 1
example : (run exE exK (ops [(2, 7)] [(1, 4294967295)]) Gen.PegSkel.RULE_LOOK exS 1).toOption.map (·.1) = some (some 1) := rfl
example : (run exE exK (ops [(2, 7)] [(1, 4294967295)]) Gen.PegSkel.RULE_LOOK exS 0).toOption.map (·.1) = some none := rfl
-- the NEWEST capture tagged 1 is "bc": backmatch at 1 matches to 3, at 0 it does not; gettag pushes it
example : (runL exE exK (ops [] [(1, 1)]) 0 Gen.PegSkel.RULE_BACKMATCH exS 1).toOption.map (·.1) = some (some 3) := rfl
example : (runL exE exK (ops [] [(1, 1)]) 0 Gen.PegSkel.RULE_BACKMATCH exS 0).toOption.map (·.1) = some none := rfl
example : (runL exE exK (ops [] [(1, 2), (2, 9)]) 0 Gen.PegSkel.RULE_GETTAG exS 0).toOption.map (fun x => x.2.tagged.length) = some 4 := rfl
example : (runL exE exK (ops [] [(1, 3), (2, 9)]) 0 Gen.PegSkel.RULE_GETTAG exS 0).toOption.map (·.1) = some none := rfl
-- unref of tag 1: of the three tagged captures the sub-rule adds, the one tagged 2 stays (compacted down)
example : (runL exE exK (ops [(1, 7)] [(2, 1)]) 5 Gen.PegSkel.RULE_UNREF exS 0).toOption.map (fun x => x.2.tagged.map (·.1)) = some [1, 2, 1, 2] := rfl
example : (runL exE exK (ops [(1, 7)] [(2, 0)]) 5 Gen.PegSkel.RULE_UNREF exS 0).toOption.map (fun x => x.2.tagged.map (·.1)) = some [1, 2, 1] := rfl
-- the fuel-free meaning exists and is the model's answer (hypothesis of rule_split_returns satisfiable)
example : Op.step exE exK 10 (.split 3 7) exS 0 ≠ .error .fuel := by
  intro h; have := congrArg (fun r : ORes => match r with | .error .fuel => true | _ => false) h; simp at this; revert this; decide
-- two bytes "bc" at 1, little endian unsigned = 98 + 256 * 99; big endian = 98 * 256 + 99
example : (runL exE exK (ops [] [(1, 2), (2, 0)]) 10 Gen.PegSkel.RULE_READINT exS 1).toOption.map (fun x => x.2.caps.length) = some 1 := rfl
example : (runL exE exK (ops [] [(1, 4), (2, 0)]) 10 Gen.PegSkel.RULE_READINT exS 1).toOption.map (·.1) = some none := rfl
end Examples

end JanetModel.Peg.TieSkel
