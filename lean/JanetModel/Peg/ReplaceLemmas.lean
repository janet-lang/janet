/- the loops of peg/find, peg/find-all, peg/replace(-all) = closed forms over positions -/
import JanetModel.Peg.Entry

namespace JanetModel.Peg

/-- for a matcher that raises no error on `[start, start + n)`, described there by the pure function `f` -/
theorem findAllLoop_spec (m : Matcher) (f : Nat → Option (Nat × List Val)) :
    ∀ (n start : Nat), (∀ i, start ≤ i → i < start + n → m i = .ok (f i)) →
      findAllLoop m n start = .ok ((List.range' start n).filter (fun i => (f i).isSome))
  | 0, _, _ => rfl
  | n + 1, start, hm => by
    have ih := findAllLoop_spec m f n (start + 1) fun i h1 h2 => hm i (by omega) (by omega)
    simp only [findAllLoop, hm start (Nat.le_refl _) (by omega), bind, Except.bind, List.range'_succ, List.filter_cons, ih]
    cases f start <;> rfl

theorem findLoop_spec (m : Matcher) (f : Nat → Option (Nat × List Val)) :
    ∀ (n start : Nat), (∀ i, start ≤ i → i < start + n → m i = .ok (f i)) →
      findLoop m n start = .ok ((List.range' start n).find? (fun i => (f i).isSome))
  | 0, _, _ => rfl
  | n + 1, start, hm => by
    have ih := findLoop_spec m f n (start + 1) fun i h1 h2 => hm i (by omega) (by omega)
    simp only [findLoop, hm start (Nat.le_refl _) (by omega), bind, Except.bind, List.range'_succ, List.find?_cons, ih]
    cases f start <;> rfl

theorem sl_self (t : List Nat) (a : Nat) : sl t a a = [] := by simp [sl]

theorem sl_append (t : List Nat) {a b c : Nat} (h1 : a ≤ b) (h2 : b ≤ c) : sl t a b ++ sl t b c = sl t a c := by
  unfold sl
  have hb : t.drop b = (t.drop a).drop (b - a) := by rw [List.drop_drop]; congr 1; omega
  have hc : c - a = (b - a) + (c - b) := by omega
  rw [hb, hc, List.take_add]

theorem sl_to_end (t : List Nat) {a b : Nat} (h : t.length ≤ b) : sl t a b = t.drop a := by
  unfold sl
  apply List.take_of_length_le
  simp; omega

theorem replaceLoop_spec (m : Matcher) (f : Nat → Option (Nat × List Val)) (g : List Nat → List Val → List Nat)
    (text : List Nat) (subst : Val) (one : Bool)
    (hmono : ∀ i e caps, f i = some (e, caps) → i ≤ e)
    (hsub : ∀ mt caps, substitute subst mt caps = .ok (g mt caps)) :
    ∀ (n i trail : Nat) (out : List Nat), trail ≤ i → text.length + 1 - i ≤ n →
      (∀ j, i ≤ j → j < text.length → m j = .ok (f j)) →
      ∃ out' trail', replaceLoop m text subst one n i trail out = .ok (out', trail') ∧
        out' ++ text.drop trail' = out ++ sl text trail i ++ replSpecGo f g text one n i := by
  intro n
  induction n with
  | zero =>
    intro i trail out ht hn _
    refine ⟨out, trail, rfl, ?_⟩
    simp only [replSpecGo, List.append_nil]
    rw [sl_to_end text (by omega)]
  | succ n ih =>
    intro i trail out ht hn hm
    simp only [replaceLoop, replSpecGo]
    by_cases hi : i < text.length
    · rw [if_pos hi, if_pos hi]
      rw [hm i (Nat.le_refl _) hi]
      simp only [bind, Except.bind]
      cases hf : f i with
      | none =>
        simp only
        obtain ⟨o, t', h1, h2⟩ := ih (i + 1) trail out (by omega) (by omega) (fun j h1 h2 => hm j (by omega) h2)
        refine ⟨o, t', h1, ?_⟩
        rw [h2, ← sl_append text ht (Nat.le_succ i)]
        simp [List.append_assoc]
      | some ec =>
        obtain ⟨e, caps⟩ := ec
        have hie := hmono i e caps hf
        simp only [hsub]
        have hout1 : (if trail < i then out ++ sl text trail i else out) = out ++ sl text trail i := by
          by_cases h : trail < i
          · rw [if_pos h]
          · have : trail = i := by omega
            subst this; rw [if_neg h, sl_self]; simp
        rw [hout1]
        cases one with
        | true =>
          simp only [if_true]
          exact ⟨_, _, rfl, by simp [List.append_assoc]⟩
        | false =>
          simp only [Bool.false_eq_true, if_false]
          by_cases hz : (e == i) = true
          · have hei : e = i := by simpa using hz
            subst hei
            rw [if_pos hz, if_pos hz]
            obtain ⟨o, t', h1, h2⟩ := ih (e + 1) e (out ++ sl text trail e ++ g (sl text e e) caps) (by omega) (by omega)
              (fun j h1 h2 => hm j (by omega) h2)
            refine ⟨o, t', h1, ?_⟩
            rw [h2]; simp [List.append_assoc]
          · have hne : e ≠ i := by simpa using hz
            rw [if_neg hz, if_neg hz]
            obtain ⟨o, t', h1, h2⟩ := ih e e (out ++ sl text trail i ++ g (sl text i e) caps) (Nat.le_refl _) (by omega)
              (fun j h1 h2 => hm j (by omega) h2)
            refine ⟨o, t', h1, ?_⟩
            rw [h2, sl_self]; simp [List.append_assoc]
    · rw [if_neg hi, if_neg hi]
      refine ⟨out, trail, rfl, ?_⟩
      rw [sl_to_end text (by omega)]; simp

end JanetModel.Peg
