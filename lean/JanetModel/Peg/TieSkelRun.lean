/-
The two loop cases of peg.c whose fuel-free tie (`rule_between_returns`, `rule_split_returns`) assumes "the MODEL's loop fuel
sufficed", stated about the match as a whole: the hypothesis is that the whole run `Op.run` did not answer `Err.fuel` at SOME
fuel; by fuel monotonicity (`Peg/FuelMono.lean`) the conclusion then holds with the child runner at EVERY larger fuel.
Core Lean only.
-/
import JanetModel.Peg.TieSkel
import JanetModel.Peg.FuelMono

namespace JanetModel.Peg.TieSkel
open JanetModel.Peg JanetModel.Peg.Skel
variable {ρ : Type}

/-- RULE_BETWEEN inside a whole run: if `peg_rule` at rule `r` (a `between`) answered anything but `Err.fuel` at fuel `f + 1`,
    the extracted C case, run with the sub-rule runner of that fuel, returns exactly that answer (fuel-free meaning). -/
theorem between_returns_of_run (E : Env) (fetch : ρ → Option (Instr ρ)) (f lo hi : Nat) (r' r : ρ) (s : St) (pos : Nat)
    (hf : fetch r = some (.between lo hi r')) (hne : Op.run E fetch (f + 1) r s pos ≠ .error .fuel) :
    Returns (fun fuel => runL E (Op.run E fetch f) (ops [(3, r')] [(1, lo), (2, hi)]) fuel Gen.PegSkel.RULE_BETWEEN s pos)
      (Op.run E fetch (f + 1) r s pos) := by
  have hrun : Op.run E fetch (f + 1) r s pos = Op.step E (Op.run E fetch f) (f + 1) (.between lo hi r') s pos := by
    rw [Op.run, hf]
  rw [hrun] at hne ⊢
  refine rule_between_returns E (Op.run E fetch f) (f + 1) lo hi r' s pos (fun s0 hd hbad => hne ?_)
  simp only [Op.step, hd, hbad, bind, Except.bind]

/-- RULE_SPLIT inside a whole run -/
theorem split_returns_of_run (E : Env) (fetch : ρ → Option (Instr ρ)) (f : Nat) (sep sub r : ρ) (s : St) (pos : Nat)
    (hf : fetch r = some (.split sep sub)) (hne : Op.run E fetch (f + 1) r s pos ≠ .error .fuel) :
    Returns (fun fuel => runL E (Op.run E fetch f) (ops [(1, sep), (2, sub)] []) fuel Gen.PegSkel.RULE_SPLIT s pos)
      (Op.run E fetch (f + 1) r s pos) := by
  have hrun : Op.run E fetch (f + 1) r s pos = Op.step E (Op.run E fetch f) (f + 1) (.split sep sub) s pos := by
    rw [Op.run, hf]
  rw [hrun] at hne ⊢
  exact rule_split_returns E (Op.run E fetch f) (f + 1) sep sub s pos hne

/-- ... and the answer does not depend on which sufficient fuel the sub-rule runner has: for every `g ≥ f` -/
theorem between_returns_any_fuel (E : Env) (fetch : ρ → Option (Instr ρ)) (f g : Nat) (hfg : f ≤ g) (lo hi : Nat) (r' r : ρ)
    (s : St) (pos : Nat) (hf : fetch r = some (.between lo hi r')) (hne : Op.run E fetch (f + 1) r s pos ≠ .error .fuel) :
    Returns (fun fuel => runL E (Op.run E fetch g) (ops [(3, r')] [(1, lo), (2, hi)]) fuel Gen.PegSkel.RULE_BETWEEN s pos)
      (Op.run E fetch (f + 1) r s pos) := by
  have hm := Op.run_fuel_mono E fetch (f + 1) (g + 1) (by omega) r s pos hne
  rw [← hm]
  exact between_returns_of_run E fetch g lo hi r' r s pos hf (by rw [hm]; exact hne)

theorem split_returns_any_fuel (E : Env) (fetch : ρ → Option (Instr ρ)) (f g : Nat) (hfg : f ≤ g) (sep sub r : ρ)
    (s : St) (pos : Nat) (hf : fetch r = some (.split sep sub)) (hne : Op.run E fetch (f + 1) r s pos ≠ .error .fuel) :
    Returns (fun fuel => runL E (Op.run E fetch g) (ops [(1, sep), (2, sub)] []) fuel Gen.PegSkel.RULE_SPLIT s pos)
      (Op.run E fetch (f + 1) r s pos) := by
  have hm := Op.run_fuel_mono E fetch (f + 1) (g + 1) (by omega) r s pos hne
  rw [← hm]
  exact split_returns_of_run E fetch g sep sub r s pos hf (by rw [hm]; exact hne)

/-! non-vacuity: `(between 0 3 "a")` as rule 0 over `exE` ("abc"): the whole run at fuel 2 answers a match (not `Err.fuel`), at
    fuel 1 it answers `Err.fuel`; so the hypotheses of `between_returns_of_run` hold at f = 1 and the theorem applies -/
def exFetchB : Nat → Option (Instr Nat)
  | 0 => some (.between 0 3 1)
  | 1 => some (.literal [97])
  | _ => none

def notFuel (r : ORes) : Bool :=
  match r with
  | .error .fuel => false
  | _ => true

theorem ne_fuel_of_notFuel {r : ORes} (h : notFuel r = true) : r ≠ .error .fuel := by
  intro e; rw [e] at h; exact absurd h (by decide)

example : notFuel (Op.run exE exFetchB 2 0 exS 0) = true ∧ notFuel (Op.run exE exFetchB 1 0 exS 0) = false := by decide

example : Returns (fun fuel => runL exE (Op.run exE exFetchB 1) (ops [(3, 1)] [(1, 0), (2, 3)]) fuel Gen.PegSkel.RULE_BETWEEN exS 0)
    (Op.run exE exFetchB 2 0 exS 0) :=
  between_returns_of_run exE exFetchB 1 0 3 1 0 exS 0 rfl (ne_fuel_of_notFuel (by decide))

section DecodedRun
open JanetModel.Gen.Peg

/-- RULE_BETWEEN on the RAW bytecode inside a whole run of the decoded program: the only hypotheses are the opcode word at `pc`
    and that the whole run at `pc` did not answer `Err.fuel`; then the extracted C case on the raw words of the instruction
    returns (fuel-free) exactly what the run answered. -/
theorem decoded_between_of_run (E : Env) (P : Program) (pc f : Nat) (s : St) (pos : Nat)
    (hpc : pc < P.bytecode.size) (hop : P.word pc = RULE_BETWEEN)
    (hne : Op.run E (decode P) (f + 1) pc s pos ≠ .error .fuel) :
    Returns (fun fuel => runL E (Op.run E (decode P) f) (rawOps P pc 4) fuel Gen.PegSkel.RULE_BETWEEN s pos)
      (Op.run E (decode P) (f + 1) pc s pos) := by
  have hdec : decode P pc = some (.between (P.word (pc + 1)) (P.word (pc + 2)) (P.word (pc + 3))) := by decode_tac hpc hop
  have hrun : Op.run E (decode P) (f + 1) pc s pos =
      Op.step E (Op.run E (decode P) f) (f + 1) (.between (P.word (pc + 1)) (P.word (pc + 2)) (P.word (pc + 3))) s pos := by
    rw [Op.run, hdec]
  rw [hrun] at hne ⊢
  obtain ⟨i, hi, hr⟩ := decoded_between E (Op.run E (decode P) f) (f + 1) P pc s pos hpc hop (fun s0 hd hbad => hne (by
    simp only [Op.step, hd, hbad, bind, Except.bind]))
  rw [hdec] at hi
  cases hi
  exact hr

/-- RULE_SPLIT on the RAW bytecode inside a whole run -/
theorem decoded_split_of_run (E : Env) (P : Program) (pc f : Nat) (s : St) (pos : Nat)
    (hpc : pc < P.bytecode.size) (hop : P.word pc = RULE_SPLIT)
    (hne : Op.run E (decode P) (f + 1) pc s pos ≠ .error .fuel) :
    Returns (fun fuel => runL E (Op.run E (decode P) f) (rawOps P pc 3) fuel Gen.PegSkel.RULE_SPLIT s pos)
      (Op.run E (decode P) (f + 1) pc s pos) := by
  have hdec : decode P pc = some (.split (P.word (pc + 1)) (P.word (pc + 2))) := by decode_tac hpc hop
  have hrun : Op.run E (decode P) (f + 1) pc s pos =
      Op.step E (Op.run E (decode P) f) (f + 1) (.split (P.word (pc + 1)) (P.word (pc + 2))) s pos := by
    rw [Op.run, hdec]
  rw [hrun] at hne ⊢
  obtain ⟨i, hi, hr⟩ := decoded_split E (Op.run E (decode P) f) (f + 1) P pc s pos hpc hop hne
  rw [hdec] at hi
  cases hi
  exact hr

end DecodedRun

end JanetModel.Peg.TieSkel
