/-
`has_backref` is unobservable when no reachable instruction reads the tag stack.

peg.c records tagged captures (`s->tags`, `s->tagged_captures`) only when the compiled grammar contains a back-reference
(`has_backref`, set by spec_reference / spec_backmatch); the documented meaning (Spec) always records them.  Here: for two
environments that differ at most in `hasBackref`, and a set `R` of rules closed under sub-rule operands in which no instruction
is RULE_GETTAG / RULE_BACKMATCH, the denotations agree on everything but the tagged captures: same error, same failure, same end
position, same captures, same accumulated text - from states that agree on everything but the tag stack.  Needs
`numRaw = false` (RULE_CAPTURE_NUM of janet e691f18 made the flag observable: Tie.number_capture_not_raw).
-/
import JanetModel.Peg.Den
import JanetModel.Peg.Entry
import JanetModel.Peg.Compile

namespace JanetModel.Peg.Backref
open JanetModel.Peg

variable {ρ : Type}

/-- same state up to the tag stack -/
structure StEq (a b : St) : Prop where
  caps : b.caps = a.caps
  scratch : b.scratch = a.scratch
  acc : b.acc = a.acc
  textEnd : b.textEnd = a.textEnd
  depth : b.depth = a.depth

/-- same delta up to tagged captures -/
structure DEq (a b : Delta) : Prop where
  caps : b.caps = a.caps
  scratch : b.scratch = a.scratch

/-- same environment up to `hasBackref` (and the lenprefix flag, which the denotation does not read) -/
structure EnvEq (E E' : Env) : Prop where
  text : E'.text = E.text
  args : E'.args = E.args
  stackn : E'.stackn = E.stackn
  raw : E.numRaw = false
  raw' : E'.numRaw = false

/-- same result up to tagged captures -/
def REq (a b : DRes) : Prop :=
  (∃ e, a = .error e ∧ b = .error e) ∨ (a = .ok none ∧ b = .ok none) ∨
    (∃ p d d', a = .ok (some (p, d)) ∧ b = .ok (some (p, d')) ∧ DEq d d')

def KEq (R : ρ → Prop) (k k' : DK ρ) : Prop :=
  ∀ r, R r → ∀ s s' pos, StEq s s' → REq (k r s pos) (k' r s' pos)

theorem StEq.refl (s : St) : StEq s s := ⟨rfl, rfl, rfl, rfl, rfl⟩
theorem DEq.refl (d : Delta) : DEq d d := ⟨rfl, rfl⟩
theorem DEq.nil_left (d : Delta) (h1 : d.caps = []) (h2 : d.scratch = []) : DEq {} d := ⟨h1, h2⟩

theorem StEq.up1 {s s' : St} (h : StEq s s') : StEq (up1 s) (up1 s') :=
  ⟨h.caps, h.scratch, h.acc, h.textEnd, by simp [JanetModel.Peg.up1, h.depth]⟩

theorem StEq.extend {s s' : St} {d d' : Delta} (h : StEq s s') (hd : DEq d d') : StEq (s.extend d) (s'.extend d') :=
  ⟨by simp [St.extend, h.caps, hd.caps], by simp [St.extend, h.scratch, hd.scratch], h.acc, h.textEnd, h.depth⟩

theorem StEq.withAcc {s s' : St} (h : StEq s s') (m : Bool) : StEq { s with acc := m } { s' with acc := m } :=
  ⟨h.caps, h.scratch, rfl, h.textEnd, h.depth⟩

theorem StEq.withEnd {s s' : St} (h : StEq s s') (e : Nat) : StEq { s with textEnd := e } { s' with textEnd := e } :=
  ⟨h.caps, h.scratch, h.acc, rfl, h.depth⟩

theorem DEq.append {a a' b b' : Delta} (h1 : DEq a a') (h2 : DEq b b') : DEq (a.append b) (a'.append b') :=
  ⟨by simp [Delta.append, h1.caps, h2.caps], by simp [Delta.append, h1.scratch, h2.scratch]⟩

theorem down1_eq {s s' : St} (h : StEq s s') :
    (∃ e, down1 s = .error e ∧ down1 s' = .error e) ∨ (∃ s0 s0', down1 s = .ok s0 ∧ down1 s' = .ok s0' ∧ StEq s0 s0') := by
  unfold down1
  rw [h.depth]
  by_cases hd : s.depth ≤ 1
  · left; exact ⟨.depth, by simp [hd], by simp [hd]⟩
  · right
    exact ⟨{ s with depth := s.depth - 1 }, { s' with depth := s.depth - 1 }, by simp [hd], by simp [hd],
      ⟨h.caps, h.scratch, h.acc, h.textEnd, rfl⟩⟩

theorem slice_eq {E E' : Env} (hE : EnvEq E E') {s s' : St} (h : StEq s s') (a b : Nat) : E'.slice s' a b = E.slice s a b := by
  simp [Env.slice, hE.text, h.textEnd]

theorem byte_eq {E E' : Env} (hE : EnvEq E E') {s s' : St} (h : StEq s s') (a : Nat) : E'.byte s' a = E.byte s a := by
  simp [Env.byte, hE.text, h.textEnd]

theorem push_deq (E E' : Env) (m : Bool) (v : Val) (tag : Nat) : DEq (pushDelta E m v tag) (pushDelta E' m v tag) :=
  ⟨rfl, rfl⟩

theorem REq.same (a : DRes) : REq a a := by
  cases a with
  | error e => exact .inl ⟨e, rfl, rfl⟩
  | ok v =>
    cases v with
    | none => exact .inr (.inl ⟨rfl, rfl⟩)
    | some pd => exact .inr (.inr ⟨pd.1, pd.2, pd.2, rfl, rfl, DEq.refl _⟩)

theorem capture_deq (F G : Env) (acc : Bool) (t : List Nat) (tag : Nat) {d d' : Delta} (hd : DEq d d') :
    DEq (if !F.hasBackref ∧ acc then d.append { scratch := t } else d.append (pushDelta F acc (.str t) tag))
      (if !G.hasBackref ∧ acc then d'.append { scratch := t } else d'.append (pushDelta G acc (.str t) tag)) := by
  constructor <;> cases acc <;> cases hF : F.hasBackref <;> cases hG : G.hasBackref <;>
    simp [Delta.append, pushDelta, toStr, hd.caps, hd.scratch]

theorem ite_ok {c : Prop} [Decidable c] (p : Nat) (A B : Delta) :
    (if c then (Except.ok (some (p, A)) : DRes) else .ok (some (p, B))) = .ok (some (p, if c then A else B)) := by
  split <;> rfl

theorem REq.err (e : Err) : REq (.error e) (.error e) := .inl ⟨e, rfl, rfl⟩
theorem REq.none : REq (.ok none) (.ok none) := .inr (.inl ⟨rfl, rfl⟩)
theorem REq.some (p : Nat) {d d' : Delta} (h : DEq d d') : REq (.ok (some (p, d))) (.ok (some (p, d'))) :=
  .inr (.inr ⟨p, d, d', rfl, rfl, h⟩)

theorem child {R : ρ → Prop} {k k' : DK ρ} (hk : KEq R k k') {r : ρ} (hr : R r) {s s' : St} (hs : StEq s s') (pos : Nat) :
    (∃ e, k r s pos = .error e ∧ k' r s' pos = .error e) ∨ (k r s pos = .ok none ∧ k' r s' pos = .ok none) ∨
      (∃ p d d', k r s pos = .ok (some (p, d)) ∧ k' r s' pos = .ok (some (p, d')) ∧ DEq d d') := hk r hr s s' pos hs

theorem req_under_down {R : ρ → Prop} {k k' : DK ρ} (hk : KEq R k k') {r : ρ} (hr : R r) {S S' : St} (hs : StEq S S') (pos : Nat)
    (f f' : Option (Nat × Delta) → DRes) (hnone : REq (f none) (f' none))
    (hsome : ∀ p d d', DEq d d' → REq (f (some (p, d))) (f' (some (p, d')))) :
    REq (down1 S >>= fun s0 => k r s0 pos >>= f) (down1 S' >>= fun s0 => k' r s0 pos >>= f') := by
  rcases down1_eq hs with ⟨e, h1, h2⟩ | ⟨s0, s0', h1, h2, hs0⟩
  · rw [h1, h2]; exact REq.err e
  · rw [h1, h2]
    rcases child hk hr hs0 pos with ⟨e, h1, h2⟩ | ⟨h1, h2⟩ | ⟨p, d, d', h1, h2, hd⟩
    · simp only [bind, Except.bind, h1, h2]; exact REq.err e
    · simp only [bind, Except.bind, h1, h2]; exact hnone
    · simp only [bind, Except.bind, h1, h2]; exact hsome p d d' hd

theorem req_down {S S' : St} (hs : StEq S S') (f f' : St → DRes) (h : ∀ s0 s0', StEq s0 s0' → REq (f s0) (f' s0')) :
    REq (down1 S >>= f) (down1 S' >>= f') := by
  rcases down1_eq hs with ⟨e, h1, h2⟩ | ⟨s0, s0', h1, h2, hs0⟩
  · rw [h1, h2]; exact REq.err e
  · rw [h1, h2]; exact h s0 s0' hs0

theorem choiceLoop_eq {R : ρ → Prop} {k k' : DK ρ} (hk : KEq R k k') :
    ∀ (rs : List ρ), (∀ r ∈ rs, R r) → ∀ s s' pos, StEq s s' → REq (Den.choiceLoop k rs s pos) (Den.choiceLoop k' rs s' pos)
  | [], _, _, _, _, _ => by simp [Den.choiceLoop]; exact REq.none
  | [r], hR, s, s', pos, hs => by
    simp only [Den.choiceLoop]
    exact hk r (hR r (by simp)) _ _ pos hs.up1
  | r :: r2 :: rs, hR, s, s', pos, hs => by
    simp only [Den.choiceLoop]
    rcases child hk (hR r (by simp)) hs pos with ⟨e, h1, h2⟩ | ⟨h1, h2⟩ | ⟨p, d, d', h1, h2, hd⟩
    · simp [h1, h2, bind, Except.bind]; exact REq.err e
    · simp only [h1, h2, bind, Except.bind]
      exact choiceLoop_eq hk (r2 :: rs) (fun x hx => hR x (by simp [hx])) s s' pos hs
    · simp [h1, h2, bind, Except.bind]; exact REq.some p hd

theorem seqLoop_eq {R : ρ → Prop} {k k' : DK ρ} (hk : KEq R k k') :
    ∀ (rs : List ρ), (∀ r ∈ rs, R r) → ∀ s s' pos d d', StEq s s' → DEq d d' →
      REq (Den.seqLoop k rs s pos d) (Den.seqLoop k' rs s' pos d')
  | [], _, _, _, pos, _, _, _, hd => by simp [Den.seqLoop]; exact REq.some pos hd
  | [r], hR, s, s', pos, d, d', hs, hd => by
    simp only [Den.seqLoop]
    rcases child hk (hR r (by simp)) (hs.extend hd).up1 pos with ⟨e, h1, h2⟩ | ⟨h1, h2⟩ | ⟨p, d2, d2', h1, h2, hd2⟩
    · simp [h1, h2, bind, Except.bind]; exact REq.err e
    · simp [h1, h2, bind, Except.bind]; exact REq.none
    · simp [h1, h2, bind, Except.bind]; exact REq.some p (hd.append hd2)
  | r :: r2 :: rs, hR, s, s', pos, d, d', hs, hd => by
    simp only [Den.seqLoop]
    rcases child hk (hR r (by simp)) (hs.extend hd) pos with ⟨e, h1, h2⟩ | ⟨h1, h2⟩ | ⟨p, d2, d2', h1, h2, hd2⟩
    · simp [h1, h2, bind, Except.bind]; exact REq.err e
    · simp [h1, h2, bind, Except.bind]; exact REq.none
    · simp only [h1, h2, bind, Except.bind]
      exact seqLoop_eq hk (r2 :: rs) (fun x hx => hR x (by simp [hx])) s s' p _ _ hs (hd.append hd2)

theorem toLoop_eq {R : ρ → Prop} {k k' : DK ρ} (hk : KEq R k k') {r : ρ} (hr : R r) (isTo : Bool) :
    ∀ (n : Nat) s s' pos, StEq s s' → REq (Den.toLoop k r isTo n s pos) (Den.toLoop k' r isTo n s' pos)
  | 0, _, _, _, _ => by simp [Den.toLoop]; exact REq.none
  | n + 1, s, s', pos, hs => by
    simp only [Den.toLoop]
    rcases child hk hr hs pos with ⟨e, h1, h2⟩ | ⟨h1, h2⟩ | ⟨p, d, d', h1, h2, hd⟩
    · simp [h1, h2, bind, Except.bind]; exact REq.err e
    · simp only [h1, h2, bind, Except.bind]
      exact toLoop_eq hk hr isTo n s s' (pos + 1) hs
    · cases isTo
      · simp [h1, h2, bind, Except.bind]; exact REq.some p hd
      · simp [h1, h2, bind, Except.bind]; exact REq.some pos (DEq.refl _)

def BEq (a b : Except Err (Nat × Nat × Delta)) : Prop :=
  (∃ e, a = .error e ∧ b = .error e) ∨ (∃ c p d d', a = .ok (c, p, d) ∧ b = .ok (c, p, d') ∧ DEq d d')

theorem betweenLoop_eq {R : ρ → Prop} {k k' : DK ρ} (hk : KEq R k k') {r : ρ} (hr : R r) (hi : Nat) :
    ∀ (n c : Nat) s s' pos d d', StEq s s' → DEq d d' →
      BEq (Den.betweenLoop k r hi n c s pos d) (Den.betweenLoop k' r hi n c s' pos d')
  | 0, _, _, _, _, _, _, _, _ => by simp [Den.betweenLoop]; exact .inl ⟨.fuel, rfl, rfl⟩
  | n + 1, c, s, s', pos, d, d', hs, hd => by
    simp only [Den.betweenLoop]
    by_cases hc : c < hi
    · simp only [hc, if_true]
      rcases child hk hr (hs.extend hd) pos with ⟨e, h1, h2⟩ | ⟨h1, h2⟩ | ⟨p, d2, d2', h1, h2, hd2⟩
      · simp [h1, h2, bind, Except.bind]; exact .inl ⟨e, rfl, rfl⟩
      · simp [h1, h2, bind, Except.bind]; exact .inr ⟨c, pos, d, d', rfl, rfl, hd⟩
      · simp only [h1, h2, bind, Except.bind]
        by_cases hp : (p == pos ∧ hi == uintMax)
        · simp only [hp, if_true]; exact .inr ⟨c, pos, d, d', rfl, rfl, hd⟩
        · simp only [hp, if_false]
          exact betweenLoop_eq hk hr hi n (c + 1) s s' p _ _ hs (hd.append hd2)
    · simp only [hc, if_false]; exact .inr ⟨c, pos, d, d', rfl, rfl, hd⟩

theorem lenLoop_eq {R : ρ → Prop} {k k' : DK ρ} (hk : KEq R k k') {r : ρ} (hr : R r) :
    ∀ (n : Nat) s s' pos d d', StEq s s' → DEq d d' → REq (Den.lenLoop k r n s pos d) (Den.lenLoop k' r n s' pos d')
  | 0, _, _, pos, _, _, _, hd => by simp [Den.lenLoop]; exact REq.some pos hd
  | n + 1, s, s', pos, d, d', hs, hd => by
    simp only [Den.lenLoop]
    rcases down1_eq (hs.extend hd) with ⟨e, h1, h2⟩ | ⟨s0, s0', h1, h2, hs0⟩
    · simp [h1, h2, bind, Except.bind]; exact REq.err e
    · simp only [h1, h2, bind, Except.bind]
      rcases child hk hr hs0 pos with ⟨e, h1, h2⟩ | ⟨h1, h2⟩ | ⟨p, d2, d2', h1, h2, hd2⟩
      · simp [h1, h2]; exact REq.err e
      · simp [h1, h2]; exact REq.none
      · simp only [h1, h2]
        exact lenLoop_eq hk hr n s s' p _ _ hs (hd.append hd2)

theorem tilLoop_eq {R : ρ → Prop} {k k' : DK ρ} (hk : KEq R k k') {r : ρ} (hr : R r) :
    ∀ (n : Nat) s s' pos, StEq s s' → Den.tilLoop k' r n s' pos = Den.tilLoop k r n s pos
  | 0, _, _, _, _ => by simp [Den.tilLoop]
  | n + 1, s, s', pos, hs => by
    simp only [Den.tilLoop]
    rcases child hk hr hs pos with ⟨e, h1, h2⟩ | ⟨h1, h2⟩ | ⟨p, d, d', h1, h2, hd⟩
    · simp [h1, h2, bind, Except.bind]
    · simp only [h1, h2, bind, Except.bind]
      exact tilLoop_eq hk hr n s s' (pos + 1) hs
    · simp [h1, h2, bind, Except.bind]

theorem splitFind_eq {R : ρ → Prop} {k k' : DK ρ} (hk : KEq R k k') {r : ρ} (hr : R r) :
    ∀ (n : Nat) s s' ce pos, StEq s s' → Den.splitFind k' r n s' ce pos = Den.splitFind k r n s ce pos
  | 0, _, _, _, _, _ => by simp [Den.splitFind]
  | n + 1, s, s', ce, pos, hs => by
    simp only [Den.splitFind]
    rcases child hk hr hs pos with ⟨e, h1, h2⟩ | ⟨h1, h2⟩ | ⟨p, d, d', h1, h2, hd⟩
    · simp [h1, h2, bind, Except.bind]
    · simp only [h1, h2, bind, Except.bind]
      exact splitFind_eq hk hr n s s' pos (pos + 1) hs
    · simp [h1, h2, bind, Except.bind]

theorem splitLoop_eq {R : ρ → Prop} {k k' : DK ρ} (hk : KEq R k k') {sep sub : ρ} (hsep : R sep) (hsub : R sub) (se : Nat) :
    ∀ (n : Nat) s s' cs pos d d', StEq s s' → DEq d d' →
      REq (Den.splitLoop k sep sub se n s cs pos d) (Den.splitLoop k' sep sub se n s' cs pos d')
  | 0, _, _, _, _, _, _, _, _ => by simp [Den.splitLoop]; exact REq.err .fuel
  | n + 1, s, s', cs, pos, d, d', hs, hd => by
    simp only [Den.splitLoop]
    by_cases hp : pos ≤ se
    · simp only [hp, if_true]
      rcases down1_eq (hs.extend hd) with ⟨e, h1, h2⟩ | ⟨s0, s0', h1, h2, hs0⟩
      · simp [h1, h2, bind, Except.bind]; exact REq.err e
      · simp only [h1, h2, bind, Except.bind]
        rw [splitFind_eq hk hsep (se + 1 - pos) s0 s0' pos pos hs0]
        cases hf : Den.splitFind k sep (se + 1 - pos) s0 pos pos with
        | error e => simp; exact REq.err e
        | ok cp =>
          obtain ⟨ce, pos'⟩ := cp
          simp only
          rcases down1_eq ((hs.extend hd).withEnd ce) with ⟨e, h1, h2⟩ | ⟨s4, s4', h1, h2, hs4⟩
          · simp [h1, h2]; exact REq.err e
          · simp only [h1, h2]
            rcases child hk hsub hs4 cs with ⟨e, h1, h2⟩ | ⟨h1, h2⟩ | ⟨p, d2, d2', h1, h2, hd2⟩
            · simp [h1, h2]; exact REq.err e
            · simp [h1, h2]; exact REq.none
            · simp only [h1, h2]
              by_cases hq : (pos' == cs) = true
              · simp [hq]; exact REq.none
              · simp only [hq, if_false]
                exact splitLoop_eq hk hsep hsub se n s s' pos' pos' _ _ hs (hd.append hd2)
    · simp only [hp, if_false]; exact REq.some se hd

theorem step_eq {E E' : Env} (hE : EnvEq E E') {R : ρ → Prop} {k k' : DK ρ} (hk : KEq R k k') (n : Nat) (i : Instr ρ)
    (hnt : i.readsTags = false) (hkids : ∀ c ∈ i.kids, R c) {s s' : St} (hs : StEq s s') (pos : Nat) :
    REq (Den.step E k n i s pos) (Den.step E' k' n i s' pos) := by
  cases i with
  | literal bytes => simp only [Den.step, hs.textEnd, slice_eq hE hs]; exact REq.same _
  | nchar c => simp only [Den.step, hs.textEnd]; exact REq.same _
  | notnchar c => simp only [Den.step, hs.textEnd]; exact REq.same _
  | range lo hi => simp only [Den.step, hs.textEnd, byte_eq hE hs]; exact REq.same _
  | set bm => simp only [Den.step, hs.textEnd, byte_eq hE hs]; exact REq.same _
  | look off r =>
    have hr : R r := hkids r List.mem_cons_self
    simp only [Den.step, hs.textEnd]
    by_cases h : (pos : Int) + off < 0 ∨ (pos : Int) + off > (s.textEnd : Int)
    · simp [h]; exact REq.none
    · simp only [h, if_false]
      exact req_under_down hk hr hs _ _ _ REq.none fun p d d' hd => REq.some _ hd
  | choice rs =>
    simp only [Den.step]
    by_cases h : rs.isEmpty = true
    · simp [h]; exact REq.none
    · simp only [h, if_false]
      exact req_down hs _ _ fun s0 s0' hs0 =>
        choiceLoop_eq hk rs (fun r hr => hkids r (by simpa [Instr.kids] using hr)) s0 s0' pos hs0
  | sequence rs =>
    simp only [Den.step]
    by_cases h : rs.isEmpty = true
    · simp [h]; exact REq.some _ (DEq.refl _)
    · simp only [h, if_false]
      exact req_down hs _ _ fun s0 s0' hs0 =>
        seqLoop_eq hk rs (fun r hr => hkids r (by simpa [Instr.kids] using hr)) s0 s0' pos _ _ hs0 (DEq.refl _)
  | if_ a b =>
    have ha : R a := hkids a List.mem_cons_self
    have hb : R b := hkids b (List.mem_cons_of_mem _ List.mem_cons_self)
    simp only [Den.step]
    refine req_under_down hk ha hs pos _ _ REq.none fun p d d' hd => ?_
    simp only [bind, Except.bind]
    rcases child hk hb (hs.extend hd) pos with ⟨e, h1, h2⟩ | ⟨h1, h2⟩ | ⟨p2, d2, d2', h1, h2, hd2⟩
    · simp [h1, h2]; exact REq.err e
    · simp [h1, h2]; exact REq.none
    · simp [h1, h2]; exact REq.some _ (hd.append hd2)
  | ifnot a b =>
    have ha : R a := hkids a List.mem_cons_self
    have hb : R b := hkids b (List.mem_cons_of_mem _ List.mem_cons_self)
    exact req_under_down hk ha hs pos _ _ (hk b hb s s' pos hs) fun _ _ _ _ => REq.none
  | not a =>
    have ha : R a := hkids a List.mem_cons_self
    exact req_under_down hk ha hs pos _ _ (REq.some _ (DEq.refl _)) fun _ _ _ _ => REq.none
  | between lo hi r =>
    have hr : R r := hkids r List.mem_cons_self
    refine req_down hs _ _ fun s0 s0' hs0 => ?_
    simp only [bind, Except.bind]
    rcases betweenLoop_eq hk hr hi n 0 s0 s0' pos {} {} hs0 (DEq.refl _) with ⟨e, h1, h2⟩ | ⟨c, p, d, d', h1, h2, hd⟩
    · simp [h1, h2]; exact REq.err e
    · simp only [h1, h2]
      by_cases hc : c < lo
      · simp [hc]; exact REq.none
      · simp [hc]; exact REq.some _ hd
  | gettag search tag => simp [Instr.readsTags] at hnt
  | backmatch search => simp [Instr.readsTags] at hnt
  | position tag => simp only [Den.step, hs.acc]; exact REq.some _ (push_deq _ _ _ _ _)
  | line tag => simp only [Den.step, hs.acc, hE.text]; exact REq.some _ (push_deq _ _ _ _ _)
  | column tag => simp only [Den.step, hs.acc, hE.text]; exact REq.some _ (push_deq _ _ _ _ _)
  | argument idx tag => simp only [Den.step, hs.acc, hE.args]; exact REq.some _ (push_deq _ _ _ _ _)
  | constant v tag => simp only [Den.step, hs.acc]; exact REq.some _ (push_deq _ _ _ _ _)
  | capture r tag =>
    have hr : R r := hkids r List.mem_cons_self
    simp only [Den.step]
    refine req_under_down hk hr hs pos _ _ REq.none fun p d d' hd => ?_
    simp only [bind, Except.bind, slice_eq hE hs, hs.acc]
    cases E.slice s pos p with
    | error e => simp; exact REq.err e
    | ok t =>
      simp only
      rw [ite_ok, ite_ok]
      exact REq.some p (capture_deq E E' s.acc t tag hd)
  | capturenum r base tag =>
    have hr : R r := hkids r List.mem_cons_self
    simp only [Den.step, hE.raw, hE.raw']
    refine req_under_down hk hr hs pos _ _ REq.none fun p d d' hd => ?_
    simp only [bind, Except.bind, slice_eq hE hs, hs.acc]
    cases E.slice s pos p with
    | error e => simp; exact REq.err e
    | ok t =>
      simp only
      cases scanNumber t base with
      | none => simp; exact REq.none
      | some x => simp; exact REq.some p (hd.append (push_deq _ _ _ _ _))
  | accumulate r tag =>
    have hr : R r := hkids r List.mem_cons_self
    simp only [Den.step, hs.acc]
    by_cases h : (tag == 0 ∧ s.acc)
    · simp only [h, if_true]; exact hk r hr s s' pos hs
    · simp only [h, if_false]
      refine req_under_down hk hr (hs.withAcc true) pos _ _ REq.none fun p d d' hd => ?_
      simp only [hd.scratch]
      exact REq.some p (DEq.append ⟨rfl, rfl⟩ (push_deq _ _ _ _ _))
  | drop r =>
    have hr : R r := hkids r List.mem_cons_self
    simp only [Den.step]
    refine req_under_down hk hr hs pos _ _ REq.none fun p d d' hd => ?_
    exact REq.some p (DEq.refl _)
  | onlytags r =>
    have hr : R r := hkids r List.mem_cons_self
    simp only [Den.step]
    refine req_under_down hk hr hs pos _ _ REq.none fun p d d' hd => ?_
    exact REq.some p ⟨rfl, rfl⟩
  | group r tag =>
    have hr : R r := hkids r List.mem_cons_self
    simp only [Den.step, hs.acc]
    refine req_under_down hk hr (hs.withAcc false) pos _ _ REq.none fun p d d' hd => ?_
    simp only [bind, Except.bind, hd.caps]
    exact REq.some p (DEq.append ⟨rfl, rfl⟩ (push_deq _ _ _ _ _))
  | nth nth r tag =>
    have hr : R r := hkids r List.mem_cons_self
    simp only [Den.step, hs.acc]
    refine req_under_down hk hr (hs.withAcc false) pos _ _ REq.none fun p d d' hd => ?_
    simp only [bind, Except.bind, hd.caps]
    cases d.caps[if nth > int32Max then int32Max else nth]? with
    | none => simp; exact REq.none
    | some cap => simp; exact REq.some p (DEq.append ⟨rfl, rfl⟩ (push_deq _ _ _ _ _))
  | sub w r =>
    have hw : R w := hkids w List.mem_cons_self
    have hr : R r := hkids r (List.mem_cons_of_mem _ List.mem_cons_self)
    simp only [Den.step]
    refine req_under_down hk hw hs pos _ _ REq.none fun we d d' hd => ?_
    exact req_under_down hk hr ((hs.extend hd).withEnd we) pos _ _ REq.none fun p2 d2 d2' hd2 => REq.some we (hd.append hd2)
  | til t r =>
    have ht : R t := hkids t List.mem_cons_self
    have hr : R r := hkids r (List.mem_cons_of_mem _ List.mem_cons_self)
    simp only [Den.step, hs.textEnd]
    refine req_down hs _ _ fun s0 s0' hs0 => ?_
    simp only [bind, Except.bind]
    rw [tilLoop_eq hk ht (s.textEnd + 1 - pos) s0 s0' pos hs0]
    cases Den.tilLoop k t (s.textEnd + 1 - pos) s0 pos with
    | error e => simp; exact REq.err e
    | ok f =>
      cases f with
      | none => simp; exact REq.none
      | some se =>
        obtain ⟨ts, te⟩ := se
        exact req_under_down hk hr (hs.withEnd ts) pos _ _ REq.none fun p2 d2 d2' hd2 => REq.some te hd2
  | split sep r =>
    have hsep : R sep := hkids sep List.mem_cons_self
    have hr : R r := hkids r (List.mem_cons_of_mem _ List.mem_cons_self)
    simp only [Den.step, hs.textEnd]
    exact splitLoop_eq hk hsep hr s.textEnd n s s' pos pos {} {} hs (DEq.refl _)
  | replace r v tag =>
    have hr : R r := hkids r List.mem_cons_self
    simp only [Den.step, hs.acc]
    refine req_under_down hk hr (hs.withAcc false) pos _ _ REq.none fun p d d' hd => ?_
    simp only [bind, Except.bind, hd.caps, hs.depth, hs.caps]
    have hg : callGuard E' s.depth v = callGuard E s.depth v := by cases v <;> simp [callGuard, hE.stackn]
    rw [hg]
    cases callGuard E s.depth v with
    | error e => simp; exact REq.err e
    | ok u =>
      simp only
      cases Den.replaceValue v s.caps d.caps with
      | error e => simp; exact REq.err e
      | ok cap => simp; exact REq.some p (DEq.append ⟨rfl, rfl⟩ (push_deq _ _ _ _ _))
  | matchtime r v tag =>
    have hr : R r := hkids r List.mem_cons_self
    simp only [Den.step, hs.acc]
    refine req_under_down hk hr (hs.withAcc false) pos _ _ REq.none fun p d d' hd => ?_
    simp only [bind, Except.bind, hd.caps, hs.depth, hs.caps]
    have hg : callGuard E' s.depth v = callGuard E s.depth v := by cases v <;> simp [callGuard, hE.stackn]
    rw [hg]
    cases callGuard E s.depth v with
    | error e => simp; exact REq.err e
    | ok u =>
      simp only
      cases Den.replaceValue v s.caps d.caps with
      | error e => simp; exact REq.err e
      | ok cap =>
        simp only
        by_cases ht : truthy cap = true
        · simp [ht]; exact REq.some p (DEq.append ⟨rfl, rfl⟩ (push_deq _ _ _ _ _))
        · simp [ht]; exact REq.none
  | error r =>
    have hr : R r := hkids r List.mem_cons_self
    simp only [Den.step, hE.text]
    refine req_under_down hk hr (hs.withAcc false) pos _ _ REq.none fun p d d' hd => ?_
    simp only [bind, Except.bind, hd.caps]
    cases d.caps.getLast? with
    | none => simp; exact REq.err _
    | some v => simp; exact REq.err _
  | to r =>
    have hr : R r := hkids r List.mem_cons_self
    simp only [Den.step, hs.textEnd]
    exact req_down hs _ _ fun s0 s0' hs0 => toLoop_eq hk hr true _ s0 s0' pos hs0
  | thru r =>
    have hr : R r := hkids r List.mem_cons_self
    simp only [Den.step, hs.textEnd]
    exact req_down hs _ _ fun s0 s0' hs0 => toLoop_eq hk hr false _ s0 s0' pos hs0
  | lenprefix a b =>
    have ha : R a := hkids a List.mem_cons_self
    have hb : R b := hkids b (List.mem_cons_of_mem _ List.mem_cons_self)
    simp only [Den.step]
    refine req_under_down hk ha (hs.withAcc false) pos _ _ REq.none fun p d d' hd => ?_
    simp only [bind, Except.bind, hd.caps]
    cases hh : d.caps.head? with
    | none => simp; exact REq.none
    | some v =>
      cases v with
      | int nrep =>
        simp only
        by_cases hc : checkint nrep = true
        · simp only [hc, if_true]; exact lenLoop_eq hk hb nrep.toNat s s' p {} {} hs (DEq.refl _)
        · simp [hc]; exact REq.none
      | _ => simp; exact REq.none
  | readint flags tag =>
    simp only [Den.step, hs.textEnd, hs.acc, slice_eq hE hs]
    by_cases h : pos + flags % 16 > s.textEnd
    · simp [h]; exact REq.none
    · simp only [h, if_false]
      cases E.slice s pos (pos + flags % 16) with
      | error e => simp [bind, Except.bind]; exact REq.err e
      | ok t => simp [bind, Except.bind]; exact REq.some _ (push_deq _ _ _ _ _)
  | unref r tag =>
    have hr : R r := hkids r List.mem_cons_self
    simp only [Den.step]
    refine req_under_down hk hr hs pos _ _ REq.none fun p d d' hd => ?_
    exact REq.some p ⟨hd.caps, hd.scratch⟩

/-- a set of rules in which no instruction reads the tag stack, closed under sub-rule operands -/
def Closed (fetch : ρ → Option (Instr ρ)) (R : ρ → Prop) : Prop :=
  ∀ r, R r → ∀ i, fetch r = some i → i.readsTags = false ∧ ∀ c ∈ i.kids, R c

theorem run_eq {E E' : Env} (hE : EnvEq E E') (fetch : ρ → Option (Instr ρ)) {R : ρ → Prop} (hR : Closed fetch R) :
    ∀ fuel, KEq R (Den.run E fetch fuel) (Den.run E' fetch fuel)
  | 0 => fun _ _ _ _ _ _ => by simp [Den.run]; exact REq.err .fuel
  | fuel + 1 => fun r hr s s' pos hs => by
    simp only [Den.run]
    cases hf : fetch r with
    | none => simp; exact REq.err .badop
    | some i =>
      simp only
      obtain ⟨h1, h2⟩ := hR r hr i hf
      exact step_eq hE (run_eq hE fetch hR fuel) (fuel + 1) i h1 h2 hs pos

/-- same single-attempt result for both values of the flag (denotation) -/
theorem denMatcher_eq {E E' : Env} (hE : EnvEq E E') (fetch : ρ → Option (Instr ρ)) {R : ρ → Prop} (hR : Closed fetch R)
    {main : ρ} (hmain : R main) (fuel guard : Nat) :
    denMatcher E' fetch main fuel guard = denMatcher E fetch main fuel guard := by
  funext start
  simp only [denMatcher]
  have hi : initSt E' guard = initSt E guard := by simp [initSt, hE.text]
  rw [hi]
  rcases run_eq hE fetch hR fuel main hmain (initSt E guard) (initSt E guard) start (StEq.refl _) with
    ⟨e, h1, h2⟩ | ⟨h1, h2⟩ | ⟨p, d, d', h1, h2, hd⟩
  · simp [h1, h2]
  · simp [h1, h2]
  · simp [h1, h2, hd.caps]

/-- every address in `S` holds an instruction that does not read the tag stack and whose sub-rule operands are in `S` -/
def closedNoTag (fetch : Nat → Option (Instr Nat)) (S : List Nat) : Bool :=
  S.all fun a =>
    match fetch a with
    | none => true
    | some i => !i.readsTags && i.kids.all (fun c => S.contains c)

theorem closedNoTag_sound (fetch : Nat → Option (Instr Nat)) (S : List Nat) (h : closedNoTag fetch S = true) :
    Closed fetch (· ∈ S) := by
  intro r hr i hf
  have := (List.all_eq_true.mp h) r hr
  simp only [hf, Bool.and_eq_true, Bool.not_eq_true', List.all_eq_true] at this
  refine ⟨this.1, fun c hc => ?_⟩
  have := this.2 c hc
  simpa using this

/-- the addresses reachable from `todo` through sub-rule operands (worklist with fuel; only used to PRODUCE a certificate) -/
def reach (fetch : Nat → Option (Instr Nat)) : Nat → List Nat → List Nat → List Nat
  | 0, _, seen => seen
  | _ + 1, [], seen => seen
  | n + 1, a :: todo, seen =>
    if seen.contains a then reach fetch n todo seen
    else
      match fetch a with
      | none => reach fetch n todo (a :: seen)
      | some i => reach fetch n (i.kids ++ todo) (a :: seen)

end JanetModel.Peg.Backref
