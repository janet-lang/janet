/- `Patt.beq` (the key comparison of the rule cache in Peg/Compile.lean) is sound: equal keys are equal forms. -/
import JanetModel.Peg.Compile
set_option linter.unusedSimpArgs false
namespace JanetModel.Peg
open Spec

mutual
theorem Val.beq_sound (a b : Val) (h : Val.beq a b = true) : a = b := by
  cases a <;> cases b <;> simp only [Val.beq] at h <;> (try rfl) <;> (try (simp at h)) <;> (try (subst h; rfl))
  case arr.arr xs ys => rw [Val.beqL_sound xs ys h]
  case struct.struct xs ys => rw [Val.beqS_sound xs ys h]
termination_by structural a
theorem Val.beqL_sound (a b : List Val) (h : Val.beqL a b = true) : a = b := by
  match a, b, h with
  | [], [], _ => rfl
  | x :: xs, y :: ys, h =>
    simp only [Val.beqL, Bool.and_eq_true] at h
    rw [Val.beq_sound x y h.1, Val.beqL_sound xs ys h.2]
termination_by structural a
theorem Val.beqS_sound (a b : List (Key × Val)) (h : Val.beqS a b = true) : a = b := by
  match a, b, h with
  | [], [], _ => rfl
  | (k, x) :: xs, (k', y) :: ys, h =>
    simp only [Val.beqS, Bool.and_eq_true, beq_iff_eq] at h
    rw [h.1.1, Val.beq_sound x y h.1.2, Val.beqS_sound xs ys h.2]
termination_by structural a
end

theorem Patt.as_str_eq {q : Patt} {b : List Nat} (h : q.as_str = some b) : q = .str b := by
  unfold Patt.as_str at h
  split at h
  · cases h; rfl
  · cases h
theorem Patt.as_int_eq {q : Patt} {n : Int} (h : q.as_int = some n) : q = .int n := by
  unfold Patt.as_int at h
  split at h
  · cases h; rfl
  · cases h
theorem Patt.as_bool_eq {q : Patt} {b : Bool} (h : q.as_bool = some b) : q = .bool b := by
  unfold Patt.as_bool at h
  split at h
  · cases h; rfl
  · cases h
theorem Patt.as_ref_eq {q : Patt} {name : String} (h : q.as_ref = some name) : q = .ref name := by
  unfold Patt.as_ref at h
  split at h
  · cases h; rfl
  · cases h
theorem Patt.as_range_eq {q : Patt} {rs : List (Nat × Nat)} (h : q.as_range = some rs) : q = .range rs := by
  unfold Patt.as_range at h
  split at h
  · cases h; rfl
  · cases h
theorem Patt.as_set_eq {q : Patt} {chars : List Nat} (h : q.as_set = some chars) : q = .set chars := by
  unfold Patt.as_set at h
  split at h
  · cases h; rfl
  · cases h
theorem Patt.as_look_eq {q : Patt} {off : Int} {p : Patt} (h : q.as_look = some (off, p)) : q = .look off p := by
  unfold Patt.as_look at h
  split at h
  · cases h; rfl
  · cases h
theorem Patt.as_choice_eq {q : Patt} {ps : List Patt} (h : q.as_choice = some ps) : q = .choice ps := by
  unfold Patt.as_choice at h
  split at h
  · cases h; rfl
  · cases h
theorem Patt.as_seq_eq {q : Patt} {ps : List Patt} (h : q.as_seq = some ps) : q = .seq ps := by
  unfold Patt.as_seq at h
  split at h
  · cases h; rfl
  · cases h
theorem Patt.as_if_eq {q : Patt} {c : Patt} {p : Patt} (h : q.as_if = some (c, p)) : q = .if_ c p := by
  unfold Patt.as_if at h
  split at h
  · cases h; rfl
  · cases h
theorem Patt.as_ifnot_eq {q : Patt} {c : Patt} {p : Patt} (h : q.as_ifnot = some (c, p)) : q = .ifnot c p := by
  unfold Patt.as_ifnot at h
  split at h
  · cases h; rfl
  · cases h
theorem Patt.as_not_eq {q : Patt} {p : Patt} (h : q.as_not = some p) : q = .not p := by
  unfold Patt.as_not at h
  split at h
  · cases h; rfl
  · cases h
theorem Patt.as_any_eq {q : Patt} {p : Patt} (h : q.as_any = some p) : q = .any p := by
  unfold Patt.as_any at h
  split at h
  · cases h; rfl
  · cases h
theorem Patt.as_some_eq {q : Patt} {p : Patt} (h : q.as_some = some p) : q = .some p := by
  unfold Patt.as_some at h
  split at h
  · cases h; rfl
  · cases h
theorem Patt.as_opt_eq {q : Patt} {p : Patt} (h : q.as_opt = some p) : q = .opt p := by
  unfold Patt.as_opt at h
  split at h
  · cases h; rfl
  · cases h
theorem Patt.as_between_eq {q : Patt} {lo : Nat} {hi : Nat} {p : Patt} (h : q.as_between = some (lo, hi, p)) : q = .between lo hi p := by
  unfold Patt.as_between at h
  split at h
  · cases h; rfl
  · cases h
theorem Patt.as_atleast_eq {q : Patt} {n : Nat} {p : Patt} (h : q.as_atleast = some (n, p)) : q = .atleast n p := by
  unfold Patt.as_atleast at h
  split at h
  · cases h; rfl
  · cases h
theorem Patt.as_atmost_eq {q : Patt} {n : Nat} {p : Patt} (h : q.as_atmost = some (n, p)) : q = .atmost n p := by
  unfold Patt.as_atmost at h
  split at h
  · cases h; rfl
  · cases h
theorem Patt.as_repeat_eq {q : Patt} {n : Nat} {p : Patt} (h : q.as_repeat = some (n, p)) : q = .repeat_ n p := by
  unfold Patt.as_repeat at h
  split at h
  · cases h; rfl
  · cases h
theorem Patt.as_to_eq {q : Patt} {p : Patt} (h : q.as_to = some p) : q = .to p := by
  unfold Patt.as_to at h
  split at h
  · cases h; rfl
  · cases h
theorem Patt.as_thru_eq {q : Patt} {p : Patt} (h : q.as_thru = some p) : q = .thru p := by
  unfold Patt.as_thru at h
  split at h
  · cases h; rfl
  · cases h
theorem Patt.as_capture_eq {q : Patt} {p : Patt} {tag : Nat} (h : q.as_capture = some (p, tag)) : q = .capture p tag := by
  unfold Patt.as_capture at h
  split at h
  · cases h; rfl
  · cases h
theorem Patt.as_accumulate_eq {q : Patt} {p : Patt} {tag : Nat} (h : q.as_accumulate = some (p, tag)) : q = .accumulate p tag := by
  unfold Patt.as_accumulate at h
  split at h
  · cases h; rfl
  · cases h
theorem Patt.as_group_eq {q : Patt} {p : Patt} {tag : Nat} (h : q.as_group = some (p, tag)) : q = .group p tag := by
  unfold Patt.as_group at h
  split at h
  · cases h; rfl
  · cases h
theorem Patt.as_drop_eq {q : Patt} {p : Patt} (h : q.as_drop = some p) : q = .drop p := by
  unfold Patt.as_drop at h
  split at h
  · cases h; rfl
  · cases h
theorem Patt.as_onlytags_eq {q : Patt} {p : Patt} (h : q.as_onlytags = some p) : q = .onlytags p := by
  unfold Patt.as_onlytags at h
  split at h
  · cases h; rfl
  · cases h
theorem Patt.as_replace_eq {q : Patt} {p : Patt} {v : Val} {tag : Nat} (h : q.as_replace = some (p, v, tag)) : q = .replace p v tag := by
  unfold Patt.as_replace at h
  split at h
  · cases h; rfl
  · cases h
theorem Patt.as_cmt_eq {q : Patt} {p : Patt} {v : Val} {tag : Nat} (h : q.as_cmt = some (p, v, tag)) : q = .cmt p v tag := by
  unfold Patt.as_cmt at h
  split at h
  · cases h; rfl
  · cases h
theorem Patt.as_constant_eq {q : Patt} {v : Val} {tag : Nat} (h : q.as_constant = some (v, tag)) : q = .constant v tag := by
  unfold Patt.as_constant at h
  split at h
  · cases h; rfl
  · cases h
theorem Patt.as_argument_eq {q : Patt} {n : Nat} {tag : Nat} (h : q.as_argument = some (n, tag)) : q = .argument n tag := by
  unfold Patt.as_argument at h
  split at h
  · cases h; rfl
  · cases h
theorem Patt.as_position_eq {q : Patt} {tag : Nat} (h : q.as_position = some tag) : q = .position tag := by
  unfold Patt.as_position at h
  split at h
  · cases h; rfl
  · cases h
theorem Patt.as_line_eq {q : Patt} {tag : Nat} (h : q.as_line = some tag) : q = .line tag := by
  unfold Patt.as_line at h
  split at h
  · cases h; rfl
  · cases h
theorem Patt.as_column_eq {q : Patt} {tag : Nat} (h : q.as_column = some tag) : q = .column tag := by
  unfold Patt.as_column at h
  split at h
  · cases h; rfl
  · cases h
theorem Patt.as_backref_eq {q : Patt} {s : Nat} {tag : Nat} (h : q.as_backref = some (s, tag)) : q = .backref s tag := by
  unfold Patt.as_backref at h
  split at h
  · cases h; rfl
  · cases h
theorem Patt.as_backmatch_eq {q : Patt} {tag : Nat} (h : q.as_backmatch = some tag) : q = .backmatch tag := by
  unfold Patt.as_backmatch at h
  split at h
  · cases h; rfl
  · cases h
theorem Patt.as_unref_eq {q : Patt} {p : Patt} {tag : Nat} (h : q.as_unref = some (p, tag)) : q = .unref p tag := by
  unfold Patt.as_unref at h
  split at h
  · cases h; rfl
  · cases h
theorem Patt.as_nth_eq {q : Patt} {n : Nat} {p : Patt} {tag : Nat} (h : q.as_nth = some (n, p, tag)) : q = .nth n p tag := by
  unfold Patt.as_nth at h
  split at h
  · cases h; rfl
  · cases h
theorem Patt.as_error_eq {q : Patt} {o : Option Patt} (h : q.as_error = some o) : q = .error o := by
  unfold Patt.as_error at h
  split at h
  · cases h; rfl
  · cases h
theorem Patt.as_lenprefix_eq {q : Patt} {a : Patt} {p : Patt} (h : q.as_lenprefix = some (a, p)) : q = .lenprefix a p := by
  unfold Patt.as_lenprefix at h
  split at h
  · cases h; rfl
  · cases h
theorem Patt.as_sub_eq {q : Patt} {a : Patt} {p : Patt} (h : q.as_sub = some (a, p)) : q = .sub a p := by
  unfold Patt.as_sub at h
  split at h
  · cases h; rfl
  · cases h
theorem Patt.as_split_eq {q : Patt} {a : Patt} {p : Patt} (h : q.as_split = some (a, p)) : q = .split a p := by
  unfold Patt.as_split at h
  split at h
  · cases h; rfl
  · cases h
theorem Patt.as_til_eq {q : Patt} {a : Patt} {p : Patt} (h : q.as_til = some (a, p)) : q = .til a p := by
  unfold Patt.as_til at h
  split at h
  · cases h; rfl
  · cases h
theorem Patt.as_readint_eq {q : Patt} {w : Nat} {sg : Bool} {be : Bool} {tag : Nat} (h : q.as_readint = some (w, sg, be, tag)) : q = .readint w sg be tag := by
  unfold Patt.as_readint at h
  split at h
  · cases h; rfl
  · cases h
theorem Patt.as_number_eq {q : Patt} {p : Patt} {base : Nat} {tag : Nat} (h : q.as_number = some (p, base, tag)) : q = .number p base tag := by
  unfold Patt.as_number at h
  split at h
  · cases h; rfl
  · cases h
theorem Patt.as_grammar_eq {q : Patt} {rs : List (String × Patt)} (h : q.as_grammar = some rs) : q = .grammar rs := by
  unfold Patt.as_grammar at h
  split at h
  · cases h; rfl
  · cases h

mutual
theorem Patt.beq_sound : ∀ (p q : Patt), Patt.beq p q = true → p = q
  | .str b, q, h => by
    simp only [Patt.beq] at h
    split at h
    next r hq =>
      simp only [Bool.and_eq_true, beq_iff_eq] at h
      rw [Patt.as_str_eq hq, h]
    next => cases h
  | .int n, q, h => by
    simp only [Patt.beq] at h
    split at h
    next r hq =>
      simp only [Bool.and_eq_true, beq_iff_eq] at h
      rw [Patt.as_int_eq hq, h]
    next => cases h
  | .bool b, q, h => by
    simp only [Patt.beq] at h
    split at h
    next r hq =>
      simp only [Bool.and_eq_true, beq_iff_eq] at h
      rw [Patt.as_bool_eq hq, h]
    next => cases h
  | .ref name, q, h => by
    simp only [Patt.beq] at h
    split at h
    next r hq =>
      simp only [Bool.and_eq_true, beq_iff_eq] at h
      rw [Patt.as_ref_eq hq, h]
    next => cases h
  | .range rs, q, h => by
    simp only [Patt.beq] at h
    split at h
    next r hq =>
      simp only [Bool.and_eq_true, beq_iff_eq] at h
      rw [Patt.as_range_eq hq, h]
    next => cases h
  | .set chars, q, h => by
    simp only [Patt.beq] at h
    split at h
    next r hq =>
      simp only [Bool.and_eq_true, beq_iff_eq] at h
      rw [Patt.as_set_eq hq, h]
    next => cases h
  | .look off p, q, h => by
    simp only [Patt.beq] at h
    split at h
    next off' p' hq =>
      simp only [Bool.and_eq_true, beq_iff_eq] at h
      rw [Patt.as_look_eq hq, h.1, Patt.beq_sound _ _ h.2]
    next => cases h
  | .choice ps, q, h => by
    simp only [Patt.beq] at h
    split at h
    next r hq =>
      rw [Patt.as_choice_eq hq, Patt.beqL_sound _ _ h]
    next => cases h
  | .seq ps, q, h => by
    simp only [Patt.beq] at h
    split at h
    next r hq =>
      rw [Patt.as_seq_eq hq, Patt.beqL_sound _ _ h]
    next => cases h
  | .if_ c p, q, h => by
    simp only [Patt.beq] at h
    split at h
    next c' p' hq =>
      simp only [Bool.and_eq_true, beq_iff_eq] at h
      rw [Patt.as_if_eq hq, Patt.beq_sound _ _ h.1, Patt.beq_sound _ _ h.2]
    next => cases h
  | .ifnot c p, q, h => by
    simp only [Patt.beq] at h
    split at h
    next c' p' hq =>
      simp only [Bool.and_eq_true, beq_iff_eq] at h
      rw [Patt.as_ifnot_eq hq, Patt.beq_sound _ _ h.1, Patt.beq_sound _ _ h.2]
    next => cases h
  | .not p, q, h => by
    simp only [Patt.beq] at h
    split at h
    next r hq =>
      rw [Patt.as_not_eq hq, Patt.beq_sound _ _ h]
    next => cases h
  | .any p, q, h => by
    simp only [Patt.beq] at h
    split at h
    next r hq =>
      rw [Patt.as_any_eq hq, Patt.beq_sound _ _ h]
    next => cases h
  | .some p, q, h => by
    simp only [Patt.beq] at h
    split at h
    next r hq =>
      rw [Patt.as_some_eq hq, Patt.beq_sound _ _ h]
    next => cases h
  | .opt p, q, h => by
    simp only [Patt.beq] at h
    split at h
    next r hq =>
      rw [Patt.as_opt_eq hq, Patt.beq_sound _ _ h]
    next => cases h
  | .between lo hi p, q, h => by
    simp only [Patt.beq] at h
    split at h
    next lo' hi' p' hq =>
      simp only [Bool.and_eq_true, beq_iff_eq] at h
      rw [Patt.as_between_eq hq, h.1.1, h.1.2, Patt.beq_sound _ _ h.2]
    next => cases h
  | .atleast n p, q, h => by
    simp only [Patt.beq] at h
    split at h
    next n' p' hq =>
      simp only [Bool.and_eq_true, beq_iff_eq] at h
      rw [Patt.as_atleast_eq hq, h.1, Patt.beq_sound _ _ h.2]
    next => cases h
  | .atmost n p, q, h => by
    simp only [Patt.beq] at h
    split at h
    next n' p' hq =>
      simp only [Bool.and_eq_true, beq_iff_eq] at h
      rw [Patt.as_atmost_eq hq, h.1, Patt.beq_sound _ _ h.2]
    next => cases h
  | .repeat_ n p, q, h => by
    simp only [Patt.beq] at h
    split at h
    next n' p' hq =>
      simp only [Bool.and_eq_true, beq_iff_eq] at h
      rw [Patt.as_repeat_eq hq, h.1, Patt.beq_sound _ _ h.2]
    next => cases h
  | .to p, q, h => by
    simp only [Patt.beq] at h
    split at h
    next r hq =>
      rw [Patt.as_to_eq hq, Patt.beq_sound _ _ h]
    next => cases h
  | .thru p, q, h => by
    simp only [Patt.beq] at h
    split at h
    next r hq =>
      rw [Patt.as_thru_eq hq, Patt.beq_sound _ _ h]
    next => cases h
  | .capture p tag, q, h => by
    simp only [Patt.beq] at h
    split at h
    next p' tag' hq =>
      simp only [Bool.and_eq_true, beq_iff_eq] at h
      rw [Patt.as_capture_eq hq, Patt.beq_sound _ _ h.1, h.2]
    next => cases h
  | .accumulate p tag, q, h => by
    simp only [Patt.beq] at h
    split at h
    next p' tag' hq =>
      simp only [Bool.and_eq_true, beq_iff_eq] at h
      rw [Patt.as_accumulate_eq hq, Patt.beq_sound _ _ h.1, h.2]
    next => cases h
  | .group p tag, q, h => by
    simp only [Patt.beq] at h
    split at h
    next p' tag' hq =>
      simp only [Bool.and_eq_true, beq_iff_eq] at h
      rw [Patt.as_group_eq hq, Patt.beq_sound _ _ h.1, h.2]
    next => cases h
  | .drop p, q, h => by
    simp only [Patt.beq] at h
    split at h
    next r hq =>
      rw [Patt.as_drop_eq hq, Patt.beq_sound _ _ h]
    next => cases h
  | .onlytags p, q, h => by
    simp only [Patt.beq] at h
    split at h
    next r hq =>
      rw [Patt.as_onlytags_eq hq, Patt.beq_sound _ _ h]
    next => cases h
  | .replace p v tag, q, h => by
    simp only [Patt.beq] at h
    split at h
    next p' v' tag' hq =>
      simp only [Bool.and_eq_true, beq_iff_eq] at h
      rw [Patt.as_replace_eq hq, Patt.beq_sound _ _ h.1.1, Val.beq_sound _ _ h.1.2, h.2]
    next => cases h
  | .cmt p v tag, q, h => by
    simp only [Patt.beq] at h
    split at h
    next p' v' tag' hq =>
      simp only [Bool.and_eq_true, beq_iff_eq] at h
      rw [Patt.as_cmt_eq hq, Patt.beq_sound _ _ h.1.1, Val.beq_sound _ _ h.1.2, h.2]
    next => cases h
  | .constant v tag, q, h => by
    simp only [Patt.beq] at h
    split at h
    next v' tag' hq =>
      simp only [Bool.and_eq_true, beq_iff_eq] at h
      rw [Patt.as_constant_eq hq, Val.beq_sound _ _ h.1, h.2]
    next => cases h
  | .argument n tag, q, h => by
    simp only [Patt.beq] at h
    split at h
    next n' tag' hq =>
      simp only [Bool.and_eq_true, beq_iff_eq] at h
      rw [Patt.as_argument_eq hq, h.1, h.2]
    next => cases h
  | .position tag, q, h => by
    simp only [Patt.beq] at h
    split at h
    next r hq =>
      simp only [Bool.and_eq_true, beq_iff_eq] at h
      rw [Patt.as_position_eq hq, h]
    next => cases h
  | .line tag, q, h => by
    simp only [Patt.beq] at h
    split at h
    next r hq =>
      simp only [Bool.and_eq_true, beq_iff_eq] at h
      rw [Patt.as_line_eq hq, h]
    next => cases h
  | .column tag, q, h => by
    simp only [Patt.beq] at h
    split at h
    next r hq =>
      simp only [Bool.and_eq_true, beq_iff_eq] at h
      rw [Patt.as_column_eq hq, h]
    next => cases h
  | .backref s tag, q, h => by
    simp only [Patt.beq] at h
    split at h
    next s' tag' hq =>
      simp only [Bool.and_eq_true, beq_iff_eq] at h
      rw [Patt.as_backref_eq hq, h.1, h.2]
    next => cases h
  | .backmatch tag, q, h => by
    simp only [Patt.beq] at h
    split at h
    next r hq =>
      simp only [Bool.and_eq_true, beq_iff_eq] at h
      rw [Patt.as_backmatch_eq hq, h]
    next => cases h
  | .unref p tag, q, h => by
    simp only [Patt.beq] at h
    split at h
    next p' tag' hq =>
      simp only [Bool.and_eq_true, beq_iff_eq] at h
      rw [Patt.as_unref_eq hq, Patt.beq_sound _ _ h.1, h.2]
    next => cases h
  | .nth n p tag, q, h => by
    simp only [Patt.beq] at h
    split at h
    next n' p' tag' hq =>
      simp only [Bool.and_eq_true, beq_iff_eq] at h
      rw [Patt.as_nth_eq hq, h.1.1, Patt.beq_sound _ _ h.1.2, h.2]
    next => cases h
  | .error o, q, h => by
    simp only [Patt.beq] at h
    split at h
    next r hq =>
      rw [Patt.as_error_eq hq, Patt.beqO_sound _ _ h]
    next => cases h
  | .lenprefix a p, q, h => by
    simp only [Patt.beq] at h
    split at h
    next a' p' hq =>
      simp only [Bool.and_eq_true, beq_iff_eq] at h
      rw [Patt.as_lenprefix_eq hq, Patt.beq_sound _ _ h.1, Patt.beq_sound _ _ h.2]
    next => cases h
  | .sub a p, q, h => by
    simp only [Patt.beq] at h
    split at h
    next a' p' hq =>
      simp only [Bool.and_eq_true, beq_iff_eq] at h
      rw [Patt.as_sub_eq hq, Patt.beq_sound _ _ h.1, Patt.beq_sound _ _ h.2]
    next => cases h
  | .split a p, q, h => by
    simp only [Patt.beq] at h
    split at h
    next a' p' hq =>
      simp only [Bool.and_eq_true, beq_iff_eq] at h
      rw [Patt.as_split_eq hq, Patt.beq_sound _ _ h.1, Patt.beq_sound _ _ h.2]
    next => cases h
  | .til a p, q, h => by
    simp only [Patt.beq] at h
    split at h
    next a' p' hq =>
      simp only [Bool.and_eq_true, beq_iff_eq] at h
      rw [Patt.as_til_eq hq, Patt.beq_sound _ _ h.1, Patt.beq_sound _ _ h.2]
    next => cases h
  | .readint w sg be tag, q, h => by
    simp only [Patt.beq] at h
    split at h
    next w' sg' be' tag' hq =>
      simp only [Bool.and_eq_true, beq_iff_eq] at h
      rw [Patt.as_readint_eq hq, h.1.1.1, h.1.1.2, h.1.2, h.2]
    next => cases h
  | .number p base tag, q, h => by
    simp only [Patt.beq] at h
    split at h
    next p' base' tag' hq =>
      simp only [Bool.and_eq_true, beq_iff_eq] at h
      rw [Patt.as_number_eq hq, Patt.beq_sound _ _ h.1.1, h.1.2, h.2]
    next => cases h
  | .grammar rs, q, h => by
    simp only [Patt.beq] at h
    split at h
    next r hq =>
      rw [Patt.as_grammar_eq hq, Patt.beqR_sound _ _ h]
    next => cases h
termination_by structural p => p
theorem Patt.beqL_sound : ∀ (a b : List Patt), Patt.beqL a b = true → a = b
  | [], [], _ => rfl
  | x :: xs, y :: ys, h => by
    simp only [Patt.beqL, Bool.and_eq_true] at h
    rw [Patt.beq_sound x y h.1, Patt.beqL_sound xs ys h.2]
  | [], _ :: _, h => by simp [Patt.beqL] at h
  | _ :: _, [], h => by simp [Patt.beqL] at h
termination_by structural a => a
theorem Patt.beqO_sound : ∀ (a b : Option Patt), Patt.beqO a b = true → a = b
  | none, none, _ => rfl
  | some x, some y, h => by
    simp only [Patt.beqO] at h
    rw [Patt.beq_sound x y h]
  | none, some _, h => by simp [Patt.beqO] at h
  | some _, none, h => by simp [Patt.beqO] at h
termination_by structural a => a
theorem Patt.beqR_sound : ∀ (a b : List (String × Patt)), Patt.beqR a b = true → a = b
  | [], [], _ => rfl
  | (k, x) :: xs, (k', y) :: ys, h => by
    simp only [Patt.beqR, Bool.and_eq_true, beq_iff_eq] at h
    rw [h.1.1, Patt.beq_sound x y h.1.2, Patt.beqR_sound xs ys h.2]
  | [], _ :: _, h => by simp [Patt.beqR] at h
  | _ :: _, [], h => by simp [Patt.beqR] at h
termination_by structural a => a
end
end JanetModel.Peg
