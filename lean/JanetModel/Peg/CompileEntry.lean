/-
The rule `compile_peg` starts matching at: peg.c ignores the address returned by the outermost `peg_compile1` and starts at
bytecode address 0.  For the compile model: a call of `compile1` returns a cached address or the first word it reserves
(`Compile1Spec`: the address is not beyond the code there was), and the outermost call starts from the empty bytecode buffer.
-/
import JanetModel.Peg.CompileCorrect

namespace JanetModel.Peg.Compile
open JanetModel.Peg.Spec

/-- the compile model's entry rule is address 0, where peg.c starts matching -/
theorem compile_entry_zero (dflt : Scope) (p : Patt) (o : Output) (h : compile dflt p = some o) : o.entry = 0 := by
  unfold compile at h
  cases hc : compile1 dflt guard B.empty none p with
  | none => simp [hc] at h
  | some r =>
    obtain ⟨a, hh, b⟩ := r
    simp only [hc] at h
    cases h
    exact Nat.le_zero.mp (compile1_ok dflt guard B.empty none p a hh b hc [] (Inv.empty dflt) (fun id hid => by cases hid)).1

end JanetModel.Peg.Compile
