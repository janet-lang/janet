/-
A small imperative IR for ONE `case RULE_*:` body of `peg_rule` (peg.c) and its semantics over the model state `St`.

tools/gen/pegskel.py parses the statements of ALL 37 opcode cases of the CURRENT peg.c into this IR (`Gen/PegSkel.lean`,
regenerated on every run): locals are numbered in order of first definition (a renamed local gives the same program), pure
operand aliases (`uint32_t tag = rule[2];`, `const uint32_t *rule_a = s->bytecode + rule[1];`) are substituted, an `if` takes
the rest of the case body into both branches (a program is a tree whose leaves are `return` / `goto tail`).

`Peg/TieSkel.lean` proves, for each opcode, that the extracted program run by `exec` IS the corresponding case of the
hand-written operational model `Op.step` - a semantic comparison: an edit of peg.c that keeps the behaviour of the case keeps
the theorem, an edit that changes the order of cap_save / cap_load, the mode or window save / restore, the depth counter, the
sub-rule calls or the returned pointer does not.
Core Lean only.
-/
import JanetModel.Peg.Op
import JanetModel.Peg.Decode

namespace JanetModel.Peg.Skel

/-- operand words -/
inductive WE
  | op (k : Nat)                -- rule[k]
  | clamp (k : Nat)             -- `uint32_t x = rule[k]; if (x > INT32_MAX) x = INT32_MAX;`
  | lit (v : Nat)               -- a literal
  | byteOf (k shift : Nat)      -- `(rule[k] >> shift) & 0xFF`
  | lowBits (k bits : Nat)      -- `rule[k] & (2^bits - 1)`   (`rule[1] & 0xF`)
  deriving Repr, DecidableEq

/-- rule operands -/
inductive RE
  | op (k : Nat)                -- s->bytecode + rule[k]
  | argsAt (base n : Nat)       -- s->bytecode + args[n] with `args = rule + base`, n a numeric local
  | argsLast (base k : Nat)     -- s->bytecode + args[rule[k] - 1]
  deriving Repr, DecidableEq

/-- numeric expressions (`int32_t` locals) -/
inductive NE
  | capCount                    -- s->captures->count
  | capsAbove (cs : Nat)        -- s->captures->count - cs.cap
  | lit (v : Nat)               -- a literal
  | succ (n : Nat)              -- n + 1   (`n++`)
  | capIntAt (cs : Nat)         -- janet_unwrap_integer(s->captures->data[cs.cap]) as a loop bound (negative = 0 iterations)
  | tagCount                    -- s->tags->count
  | strLen (v : Nat)            -- janet_string_length(janet_unwrap_string(v))
  | copy (n : Nat)              -- another numeric local
  deriving Repr, DecidableEq

/-- conditions of `if` -/
inductive Cond
  | isNull (x : Nat)            -- `!x`, `x == NULL`, `NULL == x`
  | tagZero (k : Nat)           -- `!rule[k]`
  | oldAcc                      -- `oldmode == PEG_MODE_ACCUMULATE`
  | curAcc                      -- `s->mode == PEG_MODE_ACCUMULATE`
  | hasBackref                  -- `s->has_backref`
  | numGtWord (n : Nat) (w : WE) -- `n > (int32_t) w` for a numeric local n
  | countGtNum (n : Nat)        -- `s->captures->count > n`
  | numLtWord (n : Nat) (w : WE) -- `n < w`
  | ptrEq (x y : Nat)           -- `x == y` (pointers)
  | wordIsMax (w : WE)          -- `w == UINT32_MAX`
  | ptrLeEnd (x : Nat)          -- `x <= s->text_end`
  | ptrGtEnd (x : Nat)          -- `x > s->text_end`
  | ptrLe (x y : Nat)           -- `x <= y` (pointers)
  | ptrPlusGtEnd (x : Nat) (w : WE) -- `x + w > s->text_end`
  | opIs (n : Nat)              -- `rule[0] == RULE_x` (n = the opcode number)
  | numLtWordPred (n : Nat) (w : WE) -- `n < w - 1`
  | numLtNum (a b : Nat)        -- `a < b` (numeric locals)
  | lenCapBad (cs : Nat)        -- `count - cs.cap <= 0 || !janet_checkint(s->captures->data[cs.cap])`
  | valTruthy (v : Nat)         -- `janet_truthy(v)`
  | ptrLtEnd (x : Nat)          -- `x < s->text_end`
  | numNZ (n : Nat)             -- `n` (a numeric local used as a truth value: the result of memcmp / janet_scan_number_base)
  | bitSet (base n : Nat)       -- `rule[base + (n >> 5)] & ((uint32_t)1 << (n & 0x1F))`, n a numeric local holding a byte
  | offLtStart (x k : Nat)      -- `x + ((int32_t *)rule)[k] < s->text_start`
  | offGtEnd (x k : Nat)        -- `x + ((int32_t *)rule)[k] > s->text_end`
  | tagAtEq (n : Nat) (w : WE)  -- `s->tags->data[n] == w`
  | valIsString (v : Nat)       -- `janet_checktype(v, JANET_STRING)`
  | ptrPlusNumGtEnd (x n : Nat) -- `x + n > s->text_end`, n a numeric local
  | wordBit (k bit : Nat)       -- `rule[k] & (1 << bit)` as a truth value (`signedness = rule[1] & 0x10`)
  | weGt (a b : WE)             -- `a > b` between operand words / literals (`width > 6`)
  | not (c : Cond)
  | and (a b : Cond)
  | or (a b : Cond)
  deriving Repr, DecidableEq

/-- value expressions (arguments of `pushcap`) -/
inductive VE
  | scratchFrom (cs : Nat)      -- janet_stringv(s->scratch->data + cs.scratch, s->scratch->count - cs.scratch)
  | slice (a b : Nat)           -- janet_stringv(a, b - a)
  | posOf (x : Nat)             -- janet_wrap_number(x - s->text_start)
  | const (k : Nat)             -- s->constants[rule[k]]
  | arrOf (cs n : Nat)          -- janet_array(n) filled by safe_memcpy from s->captures->data + cs.cap, count = n
  | capAt (cs : Nat) (w : WE)   -- s->captures->data[cs.cap + w]
  | nil                         -- janet_wrap_nil()
  | lineOf (x : Nat)            -- janet_wrap_number(get_linecol_from_position(s, x - s->text_start).line)
  | colOf (x : Nat)             -- ... .col
  | argAt (k : Nat)             -- (rule[k] >= s->extrac) ? janet_wrap_nil() : s->extrav[rule[k]]
  | taggedAt (n : Nat)          -- s->tagged_captures->data[n]
  | s64Of (acc : Nat) (w : WE)  -- janet_wrap_s64(peg_convert_u64_s64(acc, w))
  | u64Of (acc : Nat)           -- janet_wrap_u64(acc)
  | numSigned (acc : Nat) (w : WE)  -- janet_wrap_number((double) peg_convert_u64_s64(acc, w))
  | numOf (acc : Nat)           -- janet_wrap_number((double) acc)
  | copy (v : Nat)              -- another value local
  | replaceOf (k cs : Nat)      -- the `switch (janet_type(constant))` of RULE_REPLACE / RULE_MATCHTIME on s->constants[rule[k]]:
                                -- the constant itself, a struct / table lookup of the last capture, or a function applied to the
                                -- captures above cs.cap (with the C-stack charge around the call)
  deriving Repr, DecidableEq

/-- non-branching statements -/
inductive Stmt
  | down | up                   -- down1(s) / up1(s)
  | capSave (cs : Nat)          -- CapState cs = cap_save(s)
  | capLoad (cs : Nat)          -- cap_load(s, cs)
  | capLoadKeept (cs : Nat)     -- cap_load_keept(s, cs)
  | modeSave                    -- int oldmode = s->mode
  | modeSet (acc : Bool)        -- s->mode = PEG_MODE_ACCUMULATE / PEG_MODE_NORMAL
  | modeRestore                 -- s->mode = oldmode
  | endSave (x : Nat)           -- const uint8_t *x = s->text_end
  | endSet (x : Nat)            -- s->text_end = x
  | ptrCopy (dst src : Nat)     -- const uint8_t *dst = src
  | ptrNull (dst : Nat)         -- const uint8_t *dst = NULL
  | ptrInc (x : Nat)            -- x++
  | call (dst k src : Nat)      -- dst = peg_rule(s, s->bytecode + rule[k], src)
  | callE (dst : Nat) (re : RE) (src : Nat)  -- dst = peg_rule(s, re, src)
  | numDef (n : Nat) (e : NE)   -- int32_t n = e   (also `n++`, `n = ..`)
  | valDef (v : Nat) (e : VE)   -- Janet v = e
  | push (v : Nat) (tagk : Nat) -- pushcap(s, v, rule[tagk])
  | scratchPush (a b : Nat)     -- janet_buffer_push_bytes(s->scratch, a, b - a)
  | readByte (n x off : Nat)    -- n = x[off]   (a byte of the text, read where the C expression reads it)
  | cmpLit (n x base : Nat) (w : WE)  -- n = memcmp(x, rule + base, w)
  | cmpVal (n x v len : Nat)    -- n = memcmp(x, janet_unwrap_string(v), len), len a numeric local
  | scanNum (n v a b k : Nat)   -- n = janet_scan_number_base(a, b - a, rule[k], &v)
  | callOff (dst : Nat) (re : RE) (src k : Nat)  -- dst = peg_rule(s, re, src + ((int32_t *)rule)[k])
  | tagMove (w i : Nat)         -- s->tags->data[w] = s->tags->data[i]; s->tagged_captures->data[w] = s->tagged_captures->data[i]
  | tagSetCount (w : Nat)       -- s->tags->count = w; s->tagged_captures->count = w
  | accByte (acc x i : Nat)     -- acc = (acc << 8) | x[i]   (uint64_t acc; a byte is < 256), i a numeric local
  deriving Repr, DecidableEq

/-- one case body: a tree, every leaf leaves the case -/
inductive Prog
  | seq (st : Stmt) (rest : Prog)
  | ite (c : Cond) (t e : Prog)
  | retNull                     -- return NULL
  | ret (x : Nat)               -- return x
  | tail (k : Nat)              -- rule = s->bytecode + rule[k]; goto tail
  | tailE (re : RE)             -- rule = re; goto tail
  | retPlus (x : Nat) (w : WE)  -- return x + w
  | panicLast                   -- janet_panicv(s->captures->data[s->captures->count - 1])
  | panicMatchErr (x : Nat)     -- lc = get_linecol_from_position(s, x - s->text_start); janet_panicf("match error at line %d, column %d", ..)
  | fall                        -- control reaches the end of the case (does not happen in peg_rule)
  | loop (c : Cond) (body rest : Prog)  -- while (c) body; rest     (the leaves of body are cont / brk / return)
  | downLoop (n : Nat) (bound : NE) (body rest : Prog)  -- for (int32_t n = bound - 1; n >= 0; n--) body; rest
  | retPlusNum (x n : Nat)      -- return x + n, n a numeric local
  | downLoopW (n : Nat) (bound : WE) (body rest : Prog)  -- the same with an operand word as the bound (`width - 1`)
  | cont                        -- end of the loop body / `continue`
  | brk                         -- `break`
  deriving Repr, DecidableEq

/-- the locals of a case -/
structure Loc where
  ptr : Nat → Option Nat        -- pointer locals as text indices, NULL = none; local 0 is the parameter `text`
  cs : Nat → CapState
  val : Nat → Val
  num : Nat → Nat
  oldmode : Bool

def upd {α : Type} (f : Nat → α) (x : Nat) (v : α) : Nat → α := fun y => if y = x then v else f y

/-- the operands `rule[k]` of the instruction being executed -/
structure Operands (ρ : Type) where
  rule : Nat → Option ρ         -- s->bytecode + rule[k]
  word : Nat → Nat              -- rule[k] as a number (tags)
  const : Nat → Val             -- s->constants[rule[k]]
  bytes : Nat → List Nat        -- the bytes stored from `rule + k` on (the memcmp operand of RULE_LITERAL)

variable {ρ : Type}

def evalWE (O : Operands ρ) : WE → Nat
  | .op k => O.word k
  | .clamp k => if O.word k > int32Max then int32Max else O.word k
  | .lit v => v
  | .byteOf k sh => (O.word k / 2 ^ sh) % 256
  | .lowBits k b => O.word k % 2 ^ b

def evalRE (O : Operands ρ) (L : Loc) : RE → Option ρ
  | .op k => O.rule k
  | .argsAt b n => O.rule (b + L.num n)
  | .argsLast b k => O.rule (b + (O.word k - 1))     -- `len - 1` is computed first

def evalNE (L : Loc) (s : St) : NE → Nat
  | .capCount => s.caps.length
  | .capsAbove c => s.caps.length - (L.cs c).cap
  | .lit v => v
  | .succ n => L.num n + 1
  | .capIntAt c => match s.caps[(L.cs c).cap]? with | some (.int n) => n.toNat | _ => 0
  | .tagCount => s.tagged.length
  | .strLen v => match L.val v with | .str b => b.length | _ => 0
  | .copy n => L.num n

def evalCond (E : Env) (O : Operands ρ) (L : Loc) (s : St) : Cond → Bool
  | .isNull x => (L.ptr x).isNone
  | .tagZero k => O.word k == 0
  | .oldAcc => L.oldmode
  | .curAcc => s.acc
  | .hasBackref => E.hasBackref
  | .numGtWord n w => decide (L.num n > evalWE O w)
  | .countGtNum n => decide (s.caps.length > L.num n)
  | .numLtWord n w => decide (L.num n < evalWE O w)
  | .ptrEq x y => L.ptr x == L.ptr y
  | .wordIsMax w => evalWE O w == uintMax
  | .ptrLeEnd x => match L.ptr x with | some p => decide (p ≤ s.textEnd) | none => false
  | .ptrGtEnd x => match L.ptr x with | some p => decide (p > s.textEnd) | none => false
  | .ptrLe x y => match L.ptr x, L.ptr y with | some p, some q => decide (p ≤ q) | _, _ => false
  | .ptrPlusGtEnd x w => match L.ptr x with | some p => decide (p + evalWE O w > s.textEnd) | none => false
  | .opIs n => O.word 0 == n
  | .numLtWordPred n w => decide (L.num n < evalWE O w - 1)
  | .numLtNum a b => decide (L.num a < L.num b)
  | .valTruthy v => truthy (L.val v)
  | .ptrLtEnd x => match L.ptr x with | some p => decide (p < s.textEnd) | none => false
  | .numNZ n => L.num n != 0
  | .bitSet base n => (O.word (base + L.num n / 32) / 2 ^ (L.num n % 32)) % 2 == 1
  | .offLtStart x kk => match L.ptr x with | some p => decide ((p : Int) + asInt32 (O.word kk) < 0) | none => false
  | .offGtEnd x kk => match L.ptr x with | some p => decide ((p : Int) + asInt32 (O.word kk) > (s.textEnd : Int)) | none => false
  | .tagAtEq n w => match s.tagged[L.num n]? with | some tv => tv.1 == evalWE O w | none => false
  | .valIsString v => match L.val v with | .str _ => true | _ => false
  | .ptrPlusNumGtEnd x n => match L.ptr x with | some p => decide (p + L.num n > s.textEnd) | none => false
  | .wordBit kk bit => (O.word kk / 2 ^ bit) % 2 == 1
  | .weGt a b => decide (evalWE O a > evalWE O b)
  | .lenCapBad c =>
    match (s.caps.drop (L.cs c).cap).head? with
    | some (.int n) => !checkint n
    | _ => true
  | .not c => !evalCond E O L s c
  | .and a b => evalCond E O L s a && evalCond E O L s b
  | .or a b => evalCond E O L s a || evalCond E O L s b

def evalVE (E : Env) (O : Operands ρ) (L : Loc) (s : St) : VE → Except Err Val
  | .scratchFrom c => .ok (.str (s.scratch.drop (L.cs c).scratch))
  | .slice a b =>
    match L.ptr a, L.ptr b with
    | some a, some b => do let t ← E.slice s a b; .ok (.str t)
    | _, _ => .error .badop
  | .posOf x =>
    match L.ptr x with
    | some p => .ok (.int p)
    | none => .error .badop
  | .const k => .ok (O.const k)
  | .arrOf c n => .ok (.arr ((s.caps.drop (L.cs c).cap).take (L.num n)))
  | .capAt c w =>
    match s.caps[(L.cs c).cap + evalWE O w]? with
    | some v => .ok v
    | none => .error .oob
  | .nil => .ok .nil
  | .lineOf x => match L.ptr x with | some p => .ok (.int (lineCol E.text p).1) | none => .error .badop
  | .colOf x => match L.ptr x with | some p => .ok (.int (lineCol E.text p).2) | none => .error .badop
  | .argAt kk => .ok (E.args.getD (O.word kk) .nil)
  | .taggedAt n => match s.tagged[L.num n]? with | some tv => .ok tv.2 | none => .error .oob
  | .s64Of acc w => .ok (.s64 (toSigned (L.num acc) (evalWE O w)))
  | .u64Of acc => .ok (.u64 (L.num acc))
  | .numSigned acc w => .ok (.int (toSigned (L.num acc) (evalWE O w)))
  | .numOf acc => .ok (.int (L.num acc))
  | .copy v => .ok (L.val v)
  | .replaceOf kk c => do
    callGuard E s.depth (O.const kk)
    Op.replaceValue (O.const kk) s (L.cs c)

/-- a non-branching statement: new locals and state, or a raised error -/
def execStmt (E : Env) (k : OK ρ) (O : Operands ρ) (L : Loc) (s : St) : Stmt → Except Err (Loc × St)
  | .down => do let s' ← down1 s; .ok (L, s')
  | .up => .ok (L, up1 s)
  | .capSave c => .ok ({ L with cs := upd L.cs c (capSave s) }, s)
  | .capLoad c => .ok (L, capLoad s (L.cs c))
  | .capLoadKeept c => .ok (L, capLoadKeept s (L.cs c))
  | .modeSave => .ok ({ L with oldmode := s.acc }, s)
  | .modeSet a => .ok (L, { s with acc := a })
  | .modeRestore => .ok (L, { s with acc := L.oldmode })
  | .endSave x => .ok ({ L with ptr := upd L.ptr x (some s.textEnd) }, s)
  | .endSet x =>
    match L.ptr x with
    | some e => .ok (L, { s with textEnd := e })
    | none => .error .badop
  | .ptrCopy d x => .ok ({ L with ptr := upd L.ptr d (L.ptr x) }, s)
  | .ptrNull d => .ok ({ L with ptr := upd L.ptr d none }, s)
  | .ptrInc x => .ok ({ L with ptr := upd L.ptr x ((L.ptr x).map (· + 1)) }, s)
  | .call d kk a =>
    match O.rule kk, L.ptr a with
    | some r, some p => do
      let (res, s1) ← k r s p
      .ok ({ L with ptr := upd L.ptr d res }, s1)
    | _, _ => .error .badop
  | .numDef n e => .ok ({ L with num := upd L.num n (evalNE L s e) }, s)
  | .callE d re a =>
    match evalRE O L re, L.ptr a with
    | some r, some p => do
      let (res, s1) ← k r s p
      .ok ({ L with ptr := upd L.ptr d res }, s1)
    | _, _ => .error .badop
  | .valDef v e => do
    let x ← evalVE E O L s e
    .ok ({ L with val := upd L.val v x }, s)
  | .push v t => .ok (L, pushcap E s (L.val v) (O.word t))
  | .scratchPush a b =>
    match L.ptr a, L.ptr b with
    | some a, some b => do
      let t ← E.slice s a b
      .ok (L, { s with scratch := s.scratch ++ t })
    | _, _ => .error .badop
  | .readByte n x off =>
    match L.ptr x with
    | some p => do let b ← E.byte s (p + off); .ok ({ L with num := upd L.num n b }, s)
    | none => .error .badop
  | .cmpLit n x base w =>
    match L.ptr x with
    | some p => do
      let t ← E.slice s p (p + evalWE O w)
      .ok ({ L with num := upd L.num n (if t == (O.bytes base).take (evalWE O w) then 0 else 1) }, s)
    | none => .error .badop
  | .cmpVal n x v len =>
    match L.ptr x, L.val v with
    | some p, .str b => do
      let t ← E.slice s p (p + L.num len)
      .ok ({ L with num := upd L.num n (if t == b.take (L.num len) then 0 else 1) }, s)
    | _, _ => .error .badop
  | .scanNum n v a b kk =>
    match L.ptr a, L.ptr b with
    | some a, some b => do
      let t ← E.slice s a b
      match scanNumber t (O.word kk) with
      | none => .ok ({ L with num := upd L.num n 1 }, s)
      | some x => .ok ({ L with num := upd L.num n 0, val := upd L.val v x }, s)
    | _, _ => .error .badop
  | .callOff d re a kk =>
    match evalRE O L re, L.ptr a with
    | some r, some p => do
      let (res, s1) ← k r s ((p : Int) + asInt32 (O.word kk)).toNat
      .ok ({ L with ptr := upd L.ptr d res }, s1)
    | _, _ => .error .badop
  | .tagMove w i =>
    match s.tagged[L.num i]? with
    | some tv => if L.num w < s.tagged.length then .ok (L, { s with tagged := s.tagged.set (L.num w) tv }) else .error .oob
    | none => .error .oob
  | .tagSetCount w => .ok (L, { s with tagged := s.tagged.take (L.num w) })
  | .accByte acc x i =>
    match L.ptr x with
    | some p => do
      let b ← E.byte s (p + L.num i)
      .ok ({ L with num := upd L.num acc ((L.num acc * 256 + b) % 18446744073709551616) }, s)
    | none => .error .badop

/-- run one case body -/
def exec (E : Env) (k : OK ρ) (O : Operands ρ) : Prog → Loc → St → ORes
  | .seq st rest, L, s => do
    let (L', s') ← execStmt E k O L s st
    exec E k O rest L' s'
  | .ite c t e, L, s => if evalCond E O L s c then exec E k O t L s else exec E k O e L s
  | .retNull, _, s => .ok (none, s)
  | .ret x, L, s => .ok (L.ptr x, s)
  | .tail kk, L, s =>
    match O.rule kk, L.ptr 0 with
    | some r, some p => k r s p
    | _, _ => .error .badop
  | .panicLast, _, s =>
    match s.caps.getLast? with
    | some v => .error (.user v)
    | none => .error .badop
  | .panicMatchErr x, L, _ =>
    match L.ptr x with
    | some p => .error (.matchErr (lineCol E.text p).1 (lineCol E.text p).2)
    | none => .error .badop
  | .tailE re, L, s =>
    match evalRE O L re, L.ptr 0 with
    | some r, some p => k r s p
    | _, _ => .error .badop
  | .retPlus x w, L, s => .ok ((L.ptr x).map (· + evalWE O w), s)
  | .retPlusNum x n, L, s => .ok ((L.ptr x).map (· + L.num n), s)
  | .fall, _, _ => .error .badop
  | .loop _ _ _, _, _ => .error .badop      -- programs with loops are run by `execL`
  | .downLoop _ _ _ _, _, _ => .error .badop
  | .downLoopW _ _ _ _, _, _ => .error .badop
  | .cont, _, _ => .error .badop
  | .brk, _, _ => .error .badop

/-- locals on entry of a case: `text` = local 0 -/
def Loc.init (pos : Nat) : Loc :=
  { ptr := fun x => if x = 0 then some pos else none, cs := fun _ => ⟨0, 0, 0⟩, val := fun _ => .nil, num := fun _ => 0, oldmode := false }

def run (E : Env) (k : OK ρ) (O : Operands ρ) (p : Prog) (s : St) (pos : Nat) : ORes := exec E k O p (Loc.init pos) s

/-! ### programs with loops -/

/-- how a piece of a case body ends -/
inductive Out
  | ret (r : Option Nat × St)   -- the case returned (or jumped to `tail`)
  | cont (L : Loc) (s : St)     -- fell through to what follows / next iteration
  | brk (L : Loc) (s : St)      -- `break`

/-- `while (cond) body` with Lean fuel `n` (exhausted = `Err.fuel`, as in the model's `betweenLoop` / `splitLoop`) -/
def loopN (cond : Loc → St → Bool) (body : Loc → St → Except Err Out) : Nat → Loc → St → Except Err Out
  | 0, _, _ => .error .fuel
  | n + 1, L, s =>
    if cond L s then do
      match ← body L s with
      | .cont L' s' => loopN cond body n L' s'
      | .brk L' s' => .ok (.cont L' s')
      | .ret r => .ok (.ret r)
    else .ok (.cont L s)

/-- `for (int32_t i = bound - 1; i >= 0; i--) body` (the body does not assign `i`): no fuel, the counter decreases -/
def downN (i : Nat) (body : Loc → St → Except Err Out) : Nat → Loc → St → Except Err Out
  | 0, L, s => .ok (.cont L s)
  | j + 1, L, s => do
    match ← body { L with num := upd L.num i j } s with
    | .cont L' s' => downN i body j L' s'
    | .brk L' s' => .ok (.cont L' s')
    | .ret r => .ok (.ret r)

def execL (E : Env) (k : OK ρ) (O : Operands ρ) (fuel : Nat) : Prog → Loc → St → Except Err Out
  | .seq st rest, L, s => do
    let (L', s') ← execStmt E k O L s st
    execL E k O fuel rest L' s'
  | .ite c t e, L, s => if evalCond E O L s c then execL E k O fuel t L s else execL E k O fuel e L s
  | .retNull, _, s => .ok (.ret (none, s))
  | .ret x, L, s => .ok (.ret (L.ptr x, s))
  | .tail kk, L, s =>
    match O.rule kk, L.ptr 0 with
    | some r, some p => do let r ← k r s p; .ok (.ret r)
    | _, _ => .error .badop
  | .panicLast, _, s =>
    match s.caps.getLast? with
    | some v => .error (.user v)
    | none => .error .badop
  | .panicMatchErr x, L, _ =>
    match L.ptr x with
    | some p => .error (.matchErr (lineCol E.text p).1 (lineCol E.text p).2)
    | none => .error .badop
  | .tailE re, L, s =>
    match evalRE O L re, L.ptr 0 with
    | some r, some p => do let r ← k r s p; .ok (.ret r)
    | _, _ => .error .badop
  | .retPlus x w, L, s => .ok (.ret ((L.ptr x).map (· + evalWE O w), s))
  | .fall, _, _ => .error .badop
  | .loop c body rest, L, s => do
    match ← loopN (fun L s => evalCond E O L s c) (fun L s => execL E k O fuel body L s) fuel L s with
    | .cont L' s' => execL E k O fuel rest L' s'
    | .brk _ _ => .error .badop
    | .ret r => .ok (.ret r)
  | .downLoop i bound body rest, L, s => do
    match ← downN i (fun L s => execL E k O fuel body L s) (evalNE L s bound) L s with
    | .cont L' s' => execL E k O fuel rest L' s'
    | .brk _ _ => .error .badop
    | .ret r => .ok (.ret r)
  | .downLoopW i bound body rest, L, s => do
    match ← downN i (fun L s => execL E k O fuel body L s) (evalWE O bound) L s with
    | .cont L' s' => execL E k O fuel rest L' s'
    | .brk _ _ => .error .badop
    | .ret r => .ok (.ret r)
  | .retPlusNum x n, L, s => .ok (.ret ((L.ptr x).map (· + L.num n), s))
  | .cont, L, s => .ok (.cont L s)
  | .brk, L, s => .ok (.brk L s)

def runL (E : Env) (k : OK ρ) (O : Operands ρ) (fuel : Nat) (p : Prog) (s : St) (pos : Nat) : ORes :=
  match execL E k O fuel p (Loc.init pos) s with
  | .error e => .error e
  | .ok (.ret r) => .ok r
  | .ok _ => .error .badop

/-- sub-rule runners that leave the text window as they found it: hypothesis of the loop theorems whose model counterpart counts
    positions (`Op.toLoop`); true of `Op.run` (`Props.C12.op_run_keeps_window`, from `op_eq_den`) -/
def KeepsWindow (k : OK ρ) : Prop := ∀ r s p res s', k r s p = .ok (res, s') → s'.textEnd = s.textEnd

/-- sub-rule runners that return with the depth budget they were given (true of `Op.run`: `Props.C12.op_run_keeps_depth`); used
    where the C reads `s->depth` after a sub-rule call (the C-stack charge of RULE_REPLACE / RULE_MATCHTIME) -/
def KeepsDepth (k : OK ρ) : Prop := ∀ r s p res s', k r s p = .ok (res, s') → s'.depth = s.depth

/-- operand layout of the instructions covered (which `rule[k]` is which field of the decoded instruction; the decoder
    `Decode.decode`, tied by `decode_sizes_agree` and by correspondence, reads the same positions) -/
def opsRule (l : List (Nat × ρ)) : Nat → Option ρ := fun k => (l.find? (fun kr => kr.1 == k)).map (·.2)
def opsWord (l : List (Nat × Nat)) : Nat → Nat := fun k => ((l.find? (fun kw => kw.1 == k)).map (·.2)).getD 0

/-- The C loops have no fuel.  `Returns f r`: run with ANY sufficiently large Lean fuel, the IR program gives `r` - the meaning of a
    case body with loops that does not mention fuel (unique: `Returns.unique`; in particular `r` is not a fuel artefact of the IR). -/
def Returns {α : Type} (f : Nat → α) (r : α) : Prop := ∃ f0, ∀ fuel, f0 ≤ fuel → f fuel = r

theorem Returns.unique {α : Type} {f : Nat → α} {r r' : α} (h : Returns f r) (h' : Returns f r') : r = r' := by
  obtain ⟨a, ha⟩ := h
  obtain ⟨b, hb⟩ := h'
  rw [← ha (max a b) (Nat.le_max_left a b), ← hb (max a b) (Nat.le_max_right a b)]

end JanetModel.Peg.Skel
