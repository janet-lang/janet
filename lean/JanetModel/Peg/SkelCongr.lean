/-
Which operands `rule[k]` a case body of `peg_rule` consults - computed IN LEAN from the extracted IR program (`okProg`, a
decidable check of the program against a footprint), and the congruence that goes with it: two operand records that agree on
the footprint give the same run (`exec_congr`, `execL_congr`).  A loop statement is its loop followed by the rest of the case
(`execL_loop`, `execL_downLoop`, `execL_downLoopW` through `thenRest`): the form in which the congruence and every loop case of
Peg/TieSkel.lean use it.

Used by Peg/TieSkel.lean (`decoded_*`): the `rule_x` theorems are stated for operand records that name the operands of the
decoded instruction; with the congruence they hold for the RAW words of the bytecode at `pc` (`rawOps`), whatever else the
bytecode contains - so the positions `k` at which the C reads `rule[k]` (extracted) and the positions at which `Decode.decode`
reads the instruction fields (the model) are compared by Lean, on every run, against the current peg.c.
-/
import JanetModel.Peg.Skel

namespace JanetModel.Peg.Skel

/-- a set of operand positions: listed ones, and (for the variadic / indexed operands) everything from a position on -/
structure FP where
  w : List Nat := []            -- rule[k] read as a number
  wFrom : Option Nat := none
  r : List Nat := []            -- s->bytecode + rule[k]
  rFrom : Option Nat := none
  c : List Nat := []            -- s->constants[rule[k]]
  b : List Nat := []            -- bytes at rule + k

def FP.W (f : FP) (j : Nat) : Bool := f.w.contains j || (match f.wFrom with | some a => decide (a ≤ j) | none => false)
def FP.R (f : FP) (j : Nat) : Bool := f.r.contains j || (match f.rFrom with | some a => decide (a ≤ j) | none => false)
def FP.C (f : FP) (j : Nat) : Bool := f.c.contains j
def FP.B (f : FP) (j : Nat) : Bool := f.b.contains j
def FP.WFrom (f : FP) (a : Nat) : Bool := match f.wFrom with | some x => decide (x ≤ a) | none => false
def FP.RFrom (f : FP) (a : Nat) : Bool := match f.rFrom with | some x => decide (x ≤ a) | none => false

variable {ρ : Type}

structure Agree (f : FP) (O O' : Operands ρ) : Prop where
  word : ∀ j, f.W j = true → O.word j = O'.word j
  rule : ∀ j, f.R j = true → O.rule j = O'.rule j
  const : ∀ j, f.C j = true → O.const j = O'.const j
  bytes : ∀ j, f.B j = true → O.bytes j = O'.bytes j

theorem FP.W_of_from {f : FP} {a j : Nat} (h : f.WFrom a = true) (hj : a ≤ j) : f.W j = true := by
  unfold FP.WFrom at h; unfold FP.W
  cases hw : f.wFrom with
  | none => simp [hw] at h
  | some x => simp [hw] at h; simp; right; omega

theorem FP.R_of_from {f : FP} {a j : Nat} (h : f.RFrom a = true) (hj : a ≤ j) : f.R j = true := by
  unfold FP.RFrom at h; unfold FP.R
  cases hw : f.rFrom with
  | none => simp [hw] at h
  | some x => simp [hw] at h; simp; right; omega

def okWE (f : FP) : WE → Bool
  | .op k => f.W k
  | .clamp k => f.W k
  | .lit _ => true
  | .byteOf k _ => f.W k
  | .lowBits k _ => f.W k

def okRE (f : FP) : RE → Bool
  | .op k => f.R k
  | .argsAt b _ => f.RFrom b
  | .argsLast b k => f.RFrom b && f.W k

def okCond (f : FP) : Cond → Bool
  | .tagZero k => f.W k
  | .numGtWord _ w => okWE f w
  | .numLtWord _ w => okWE f w
  | .wordIsMax w => okWE f w
  | .ptrPlusGtEnd _ w => okWE f w
  | .opIs _ => f.W 0
  | .numLtWordPred _ w => okWE f w
  | .bitSet base _ => f.WFrom base
  | .offLtStart _ k => f.W k
  | .offGtEnd _ k => f.W k
  | .tagAtEq _ w => okWE f w
  | .wordBit k _ => f.W k
  | .weGt a b => okWE f a && okWE f b
  | .not c => okCond f c
  | .and a b => okCond f a && okCond f b
  | .or a b => okCond f a && okCond f b
  | _ => true

def okVE (f : FP) : VE → Bool
  | .const k => f.C k
  | .capAt _ w => okWE f w
  | .argAt k => f.W k
  | .replaceOf k _ => f.C k
  | .s64Of _ w => okWE f w
  | .numSigned _ w => okWE f w
  | _ => true

def okStmt (f : FP) : Stmt → Bool
  | .call _ k _ => f.R k
  | .callE _ re _ => okRE f re
  | .valDef _ e => okVE f e
  | .push _ t => f.W t
  | .cmpLit _ _ base w => f.B base && okWE f w
  | .scanNum _ _ _ _ k => f.W k
  | .callOff _ re _ k => okRE f re && f.W k
  | _ => true

def okProg (f : FP) : Prog → Bool
  | .seq st rest => okStmt f st && okProg f rest
  | .ite c t e => okCond f c && okProg f t && okProg f e
  | .tail k => f.R k
  | .tailE re => okRE f re
  | .retPlus _ w => okWE f w
  | .loop c body rest => okCond f c && okProg f body && okProg f rest
  | .downLoop _ _ body rest => okProg f body && okProg f rest
  | .downLoopW _ w body rest => okWE f w && okProg f body && okProg f rest
  | _ => true

section
variable {f : FP} {O O' : Operands ρ} (h : Agree f O O')
include h

theorem evalWE_congr {w : WE} (hw : okWE f w = true) : evalWE O w = evalWE O' w := by
  cases w <;> simp only [okWE] at hw <;> simp only [evalWE] <;> first | rfl | rw [h.word _ hw]

theorem evalRE_congr {L : Loc} {re : RE} (hw : okRE f re = true) : evalRE O L re = evalRE O' L re := by
  cases re with
  | op k => exact h.rule _ hw
  | argsAt b n => exact h.rule _ (FP.R_of_from hw (Nat.le_add_right _ _))
  | argsLast b k =>
    simp only [okRE, Bool.and_eq_true] at hw
    simp only [evalRE, h.word _ hw.2]
    exact h.rule _ (FP.R_of_from hw.1 (Nat.le_add_right _ _))

theorem evalCond_congr (E : Env) (L : Loc) (s : St) : ∀ {c : Cond}, okCond f c = true → evalCond E O L s c = evalCond E O' L s c := by
  intro c
  induction c with
  | not c ih => intro hc; simp only [okCond] at hc; simp only [evalCond, ih hc]
  | and a b iha ihb => intro hc; simp only [okCond, Bool.and_eq_true] at hc; simp only [evalCond, iha hc.1, ihb hc.2]
  | or a b iha ihb => intro hc; simp only [okCond, Bool.and_eq_true] at hc; simp only [evalCond, iha hc.1, ihb hc.2]
  | tagZero k => intro hc; simp only [evalCond, h.word _ hc]
  | numGtWord n w => intro hc; simp only [evalCond, evalWE_congr h hc]
  | numLtWord n w => intro hc; simp only [evalCond, evalWE_congr h hc]
  | wordIsMax w => intro hc; simp only [evalCond, evalWE_congr h hc]
  | ptrPlusGtEnd x w => intro hc; simp only [evalCond, evalWE_congr h hc]
  | opIs n => intro hc; simp only [evalCond, h.word _ hc]
  | numLtWordPred n w => intro hc; simp only [evalCond, evalWE_congr h hc]
  | bitSet base n => intro hc; simp only [evalCond, h.word _ (FP.W_of_from hc (Nat.le_add_right _ _))]
  | offLtStart x k => intro hc; simp only [evalCond, h.word _ hc]
  | offGtEnd x k => intro hc; simp only [evalCond, h.word _ hc]
  | tagAtEq n w => intro hc; simp only [evalCond, evalWE_congr h hc]
  | wordBit kk bit => intro hc; simp only [evalCond, h.word _ hc]
  | weGt a b => intro hc; simp only [okCond, Bool.and_eq_true] at hc; simp only [evalCond, evalWE_congr h hc.1, evalWE_congr h hc.2]
  | _ => intro _; rfl

theorem evalVE_congr (E : Env) (L : Loc) (s : St) {e : VE} (he : okVE f e = true) : evalVE E O L s e = evalVE E O' L s e := by
  cases e <;> simp only [okVE] at he <;> simp only [evalVE] <;>
    first | rfl | rw [h.const _ he] | rw [evalWE_congr h he] | rw [h.word _ he]

theorem execStmt_congr (E : Env) (k : OK ρ) (L : Loc) (s : St) {st : Stmt} (hs : okStmt f st = true) :
    execStmt E k O L s st = execStmt E k O' L s st := by
  cases st with
  | call d kk a => simp only [execStmt, h.rule _ hs]
  | callE d re a => simp only [execStmt, evalRE_congr h hs]
  | valDef v e => simp only [execStmt, evalVE_congr h E L s hs]
  | push v t => simp only [execStmt, h.word _ hs]
  | cmpLit n x base w =>
    simp only [okStmt, Bool.and_eq_true] at hs
    simp only [execStmt, h.bytes _ hs.1, evalWE_congr h hs.2]
  | scanNum n v a b kk => simp only [execStmt, h.word _ hs]
  | callOff d re a kk =>
    simp only [okStmt, Bool.and_eq_true] at hs
    simp only [execStmt, evalRE_congr h hs.1, h.word _ hs.2]
  | _ => rfl

theorem exec_congr (E : Env) (k : OK ρ) : ∀ (p : Prog), okProg f p = true → ∀ (L : Loc) (s : St), exec E k O p L s = exec E k O' p L s := by
  intro p
  induction p with
  | seq st rest ih =>
    intro hp L s
    simp only [okProg, Bool.and_eq_true] at hp
    simp only [exec, execStmt_congr h E k L s hp.1]
    cases execStmt E k O' L s st with
    | error e => rfl
    | ok x => simp only [bind, Except.bind]; exact ih hp.2 _ _
  | ite c t e iht ihe =>
    intro hp L s
    simp only [okProg, Bool.and_eq_true] at hp
    simp only [exec, evalCond_congr h E L s hp.1.1, iht hp.1.2, ihe hp.2]
  | tail kk => intro hp L s; simp only [exec, h.rule _ hp]
  | tailE re => intro hp L s; simp only [exec, evalRE_congr h hp]
  | retPlus x w => intro hp L s; simp only [exec, evalWE_congr h hp]
  | _ => intros; rfl

end

/-- a loop followed by the rest of the case -/
def thenRest (rest : Loc → St → Except Err Out) : Except Err Out → Except Err Out
  | .error e => .error e
  | .ok (.cont L' s') => rest L' s'
  | .ok (.brk _ _) => .error .badop
  | .ok (.ret x) => .ok (.ret x)

theorem thenRest_congr {rest rest' : Loc → St → Except Err Out} (h : ∀ L s, rest L s = rest' L s) (x : Except Err Out) :
    thenRest rest x = thenRest rest' x := by
  rcases x with e | (x | ⟨L', s'⟩ | ⟨L', s'⟩)
  · rfl
  · rfl
  · exact h L' s'
  · rfl

section
variable {E : Env} {k : OK ρ} {O : Operands ρ} {fuel : Nat} {c : Cond} {body rest : Prog} {L : Loc} {s : St}

theorem execL_loop : execL E k O fuel (.loop c body rest) L s =
    thenRest (fun L s => execL E k O fuel rest L s)
      (loopN (fun L s => evalCond E O L s c) (fun L s => execL E k O fuel body L s) fuel L s) := by
  rw [execL]
  rcases loopN _ _ fuel L s with e | (⟨L', s'⟩ | ⟨L', s'⟩ | x) <;> rfl

theorem execL_downLoop {i : Nat} {bound : NE} : execL E k O fuel (.downLoop i bound body rest) L s =
    thenRest (fun L s => execL E k O fuel rest L s) (downN i (fun L s => execL E k O fuel body L s) (evalNE L s bound) L s) := by
  rw [execL]
  rcases downN _ _ _ L s with e | (⟨L', s'⟩ | ⟨L', s'⟩ | x) <;> rfl

theorem execL_downLoopW {i : Nat} {bound : WE} : execL E k O fuel (.downLoopW i bound body rest) L s =
    thenRest (fun L s => execL E k O fuel rest L s) (downN i (fun L s => execL E k O fuel body L s) (evalWE O bound) L s) := by
  rw [execL]
  rcases downN _ _ _ L s with e | (⟨L', s'⟩ | ⟨L', s'⟩ | x) <;> rfl
end

section
variable {f : FP} {O O' : Operands ρ} (h : Agree f O O')
include h

theorem execL_congr (E : Env) (k : OK ρ) (fuel : Nat) :
    ∀ (p : Prog), okProg f p = true → ∀ (L : Loc) (s : St), execL E k O fuel p L s = execL E k O' fuel p L s := by
  intro p
  induction p with
  | seq st rest ih =>
    intro hp L s
    simp only [okProg, Bool.and_eq_true] at hp
    simp only [execL, execStmt_congr h E k L s hp.1]
    cases execStmt E k O' L s st with
    | error e => rfl
    | ok x => simp only [bind, Except.bind]; exact ih hp.2 _ _
  | ite c t e iht ihe =>
    intro hp L s
    simp only [okProg, Bool.and_eq_true] at hp
    simp only [execL, evalCond_congr h E L s hp.1.1, iht hp.1.2, ihe hp.2]
  | tail kk => intro hp L s; simp only [execL, h.rule _ hp]
  | tailE re => intro hp L s; simp only [execL, evalRE_congr h hp]
  | retPlus x w => intro hp L s; simp only [execL, evalWE_congr h hp]
  | loop c body rest ihb ihr =>
    intro hp L s
    simp only [okProg, Bool.and_eq_true] at hp
    have hc : (fun L s => evalCond E O L s c) = (fun L s => evalCond E O' L s c) :=
      funext fun L => funext fun s => evalCond_congr h E L s hp.1.1
    have hb : (fun L s => execL E k O fuel body L s) = (fun L s => execL E k O' fuel body L s) :=
      funext fun L => funext fun s => ihb hp.1.2 L s
    rw [execL_loop, execL_loop, hc, hb]
    exact thenRest_congr (ihr hp.2) _
  | downLoop i bound body rest ihb ihr =>
    intro hp L s
    simp only [okProg, Bool.and_eq_true] at hp
    have hb : (fun L s => execL E k O fuel body L s) = (fun L s => execL E k O' fuel body L s) :=
      funext fun L => funext fun s => ihb hp.1 L s
    rw [execL_downLoop, execL_downLoop, hb]
    exact thenRest_congr (ihr hp.2) _
  | downLoopW i bound body rest ihb ihr =>
    intro hp L s
    simp only [okProg, Bool.and_eq_true] at hp
    have hb : (fun L s => execL E k O fuel body L s) = (fun L s => execL E k O' fuel body L s) :=
      funext fun L => funext fun s => ihb hp.1.2 L s
    rw [execL_downLoopW, execL_downLoopW, hb, evalWE_congr h hp.1.1]
    exact thenRest_congr (ihr hp.2) _
  | _ => intros; rfl

theorem run_congr (E : Env) (k : OK ρ) (p : Prog) (hp : okProg f p = true) (s : St) (pos : Nat) :
    run E k O p s pos = run E k O' p s pos := exec_congr h E k p hp _ _

theorem runL_congr (E : Env) (k : OK ρ) (fuel : Nat) (p : Prog) (hp : okProg f p = true) (s : St) (pos : Nat) :
    runL E k O fuel p s pos = runL E k O' fuel p s pos := by
  simp only [runL, execL_congr h E k fuel p hp]

end

end JanetModel.Peg.Skel
