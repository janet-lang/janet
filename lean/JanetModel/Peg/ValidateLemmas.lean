/- Congruence of `Den.step` in the sub-rule operands; with it a bisimulation between two programs gives equal denotations
(`bisim_run_eq`: used for the compile model's log, Peg/CompileCorrect.lean), and soundness of the translation validator
(Peg/Validate.lean) is the case "validated to some depth". -/
import JanetModel.Peg.Validate
import JanetModel.Peg.Compile

namespace JanetModel.Peg
variable {α β : Type}

theorem toLoop_congr {k1 : DK α} {k2 : DK β} {r : α} {c : β} (h : k1 r = k2 c) : Den.toLoop k1 r = Den.toLoop k2 c := by
  funext isTo n
  induction n with
  | zero => rfl
  | succ n ih => funext s pos; simp only [Den.toLoop, h, ih]

theorem betweenLoop_congr {k1 : DK α} {k2 : DK β} {r : α} {c : β} (h : k1 r = k2 c) :
    Den.betweenLoop k1 r = Den.betweenLoop k2 c := by
  funext hi n
  induction n with
  | zero => rfl
  | succ n ih => funext cap s pos d; simp only [Den.betweenLoop, h, ih]

theorem lenLoop_congr {k1 : DK α} {k2 : DK β} {r : α} {c : β} (h : k1 r = k2 c) : Den.lenLoop k1 r = Den.lenLoop k2 c := by
  funext n
  induction n with
  | zero => rfl
  | succ n ih => funext s pos d; simp only [Den.lenLoop, h, ih]

theorem tilLoop_congr {k1 : DK α} {k2 : DK β} {r : α} {c : β} (h : k1 r = k2 c) : Den.tilLoop k1 r = Den.tilLoop k2 c := by
  funext n
  induction n with
  | zero => rfl
  | succ n ih => funext s pos; simp only [Den.tilLoop, h, ih]

theorem splitFind_congr {k1 : DK α} {k2 : DK β} {r : α} {c : β} (h : k1 r = k2 c) : Den.splitFind k1 r = Den.splitFind k2 c := by
  funext n
  induction n with
  | zero => rfl
  | succ n ih => funext s ce pos; simp only [Den.splitFind, h, ih]

theorem splitLoop_congr {k1 : DK α} {k2 : DK β} {a b : α} {a' b' : β} (h1 : k1 a = k2 a') (h2 : k1 b = k2 b') :
    Den.splitLoop k1 a b = Den.splitLoop k2 a' b' := by
  funext se n
  induction n with
  | zero => rfl
  | succ n ih => funext s cs pos d; simp only [Den.splitLoop, splitFind_congr h1, h2, ih]

theorem choiceLoop_congr {k1 : DK α} {k2 : DK β} :
    ∀ (rs : List α) (cs : List β), rs.length = cs.length → (∀ p ∈ rs.zip cs, k1 p.1 = k2 p.2) →
      Den.choiceLoop k1 rs = Den.choiceLoop k2 cs := by
  intro rs
  induction rs with
  | nil => intro cs hl _; cases cs with | nil => rfl | cons _ _ => simp at hl
  | cons r rest ih =>
    intro cs hl hk
    cases cs with
    | nil => simp at hl
    | cons c crest =>
      have e := hk (r, c) (by simp)
      have hrest := ih crest (by simpa using hl) (fun p hp => hk p (by simp [List.zip_cons_cons]; right; exact hp))
      cases rest with
      | nil =>
        cases crest with
        | nil => funext s pos; simp only [Den.choiceLoop, e]
        | cons _ _ => simp at hl
      | cons r' rest' =>
        cases crest with
        | nil => simp at hl
        | cons c' crest' => funext s pos; simp only [Den.choiceLoop, e, hrest]

theorem seqLoop_congr {k1 : DK α} {k2 : DK β} :
    ∀ (rs : List α) (cs : List β), rs.length = cs.length → (∀ p ∈ rs.zip cs, k1 p.1 = k2 p.2) →
      Den.seqLoop k1 rs = Den.seqLoop k2 cs := by
  intro rs
  induction rs with
  | nil => intro cs hl _; cases cs with | nil => rfl | cons _ _ => simp at hl
  | cons r rest ih =>
    intro cs hl hk
    cases cs with
    | nil => simp at hl
    | cons c crest =>
      have e := hk (r, c) (by simp)
      have hrest := ih crest (by simpa using hl) (fun p hp => hk p (by simp [List.zip_cons_cons]; right; exact hp))
      cases rest with
      | nil =>
        cases crest with
        | nil => funext s pos d; simp only [Den.seqLoop, e]
        | cons _ _ => simp at hl
      | cons r' rest' =>
        cases crest with
        | nil => simp at hl
        | cons c' crest' => funext s pos d; simp only [Den.seqLoop, e, hrest]

theorem list_len1 {α : Type} {l : List α} (h : l.length = 1) : ∃ a, l = [a] := by
  match l, h with
  | [a], _ => exact ⟨a, rfl⟩

theorem list_len2 {α : Type} {l : List α} (h : l.length = 2) : ∃ a b, l = [a, b] := by
  match l, h with
  | [a, b], _ => exact ⟨a, b, rfl⟩

theorem step_rebuild_congr {ρ : Type} [Inhabited α] [Inhabited β] (E : Env) {k1 : DK α} {k2 : DK β} (n : Nat) (i : Instr ρ)
    (as : List α) (bs : List β)
    (ha : as.length = i.kids.length) (hb : bs.length = i.kids.length)
    (hk : ∀ p ∈ as.zip bs, k1 p.1 = k2 p.2) :
    Den.step E k1 n (i.rebuild as) = Den.step E k2 n (i.rebuild bs) := by
  have one : i.kids.length = 1 → ∃ a b, as = [a] ∧ bs = [b] ∧ k1 a = k2 b := by
    intro h
    obtain ⟨a, rfl⟩ := list_len1 (ha.trans h)
    obtain ⟨b, rfl⟩ := list_len1 (hb.trans h)
    exact ⟨a, b, rfl, rfl, hk (a, b) (by simp)⟩
  have two : i.kids.length = 2 → ∃ a a' b b', as = [a, a'] ∧ bs = [b, b'] ∧ k1 a = k2 b ∧ k1 a' = k2 b' := by
    intro h
    obtain ⟨a, a', rfl⟩ := list_len2 (ha.trans h)
    obtain ⟨b, b', rfl⟩ := list_len2 (hb.trans h)
    exact ⟨a, a', b, b', rfl, rfl, hk (a, b) (by simp), hk (a', b') (by simp)⟩
  cases i with
  | literal b | nchar b | notnchar b | range lo hi | set b | gettag a b | position b | line b | column b | backmatch b
  | argument a b | readint a b | constant v t => rfl
  | look off r | not r | error r | drop r | onlytags r | capture r t | accumulate r t | group r t | unref r t
  | capturenum r b t | nth m r t | replace r v t | matchtime r v t =>
    obtain ⟨a, b, rfl, rfl, e⟩ := one rfl
    funext s pos; simp only [Instr.rebuild, List.getD_cons_zero, Den.step, e]
  | to r | thru r =>
    obtain ⟨a, b, rfl, rfl, e⟩ := one rfl
    funext s pos; simp only [Instr.rebuild, List.getD_cons_zero, Den.step, toLoop_congr e]
  | between lo hi r =>
    obtain ⟨a, b, rfl, rfl, e⟩ := one rfl
    funext s pos; simp only [Instr.rebuild, List.getD_cons_zero, Den.step, betweenLoop_congr e]
  | if_ x y | ifnot x y | sub x y =>
    obtain ⟨a, a', b, b', rfl, rfl, e1, e2⟩ := two rfl
    funext s pos; simp only [Instr.rebuild, List.getD_cons_zero, List.getD_cons_succ, Den.step, e1, e2]
  | lenprefix x y =>
    obtain ⟨a, a', b, b', rfl, rfl, e1, e2⟩ := two rfl
    funext s pos; simp only [Instr.rebuild, List.getD_cons_zero, List.getD_cons_succ, Den.step, e1, lenLoop_congr e2]
  | til x y =>
    obtain ⟨a, a', b, b', rfl, rfl, e1, e2⟩ := two rfl
    funext s pos; simp only [Instr.rebuild, List.getD_cons_zero, List.getD_cons_succ, Den.step, tilLoop_congr e1, e2]
  | split x y =>
    obtain ⟨a, a', b, b', rfl, rfl, e1, e2⟩ := two rfl
    funext s pos; simp only [Instr.rebuild, List.getD_cons_zero, List.getD_cons_succ, Den.step, splitLoop_congr e1 e2]
  | choice rs =>
    have hl : as.length = bs.length := ha.trans hb.symm
    have he : as.isEmpty = bs.isEmpty := by cases as <;> cases bs <;> simp at hl ⊢
    funext s pos
    simp only [Instr.rebuild, Den.step, he, choiceLoop_congr as bs hl hk]
  | sequence rs =>
    have hl : as.length = bs.length := ha.trans hb.symm
    have he : as.isEmpty = bs.isEmpty := by cases as <;> cases bs <;> simp at hl ⊢
    funext s pos
    simp only [Instr.rebuild, Den.step, he, seqLoop_congr as bs hl hk]

theorem rebuild_kids [Inhabited α] (i : Instr α) : i.rebuild i.kids = i := by
  cases i <;> rfl

theorem match2_rebuild [Inhabited β] {i : Instr α} {j : Instr β} {pairs : List (α × β)} (h : match2 i j = some pairs) :
    pairs.map (·.1) = i.kids ∧ j = i.rebuild (pairs.map (·.2)) := by
  -- the equations of `match2`; off the diagonal, and where immediate operands differ, `h` is `none = some pairs`
  fun_cases match2 i j <;> simp only [match2, if_pos, reduceCtorEq, *] at h <;> cases h
  -- `case13` / `case15`: the equations of `match2` for `choice` and `sequence` (the two with lists of sub-rules)
  case case13 rs cs hl =>
    exact ⟨List.map_fst_zip (Nat.le_of_eq hl), by rw [Instr.rebuild, List.map_snd_zip (Nat.le_of_eq hl.symm)]⟩
  case case15 rs cs hl =>
    exact ⟨List.map_fst_zip (Nat.le_of_eq hl), by rw [Instr.rebuild, List.map_snd_zip (Nat.le_of_eq hl.symm)]⟩
  all_goals try cases ‹_ ∧ _›
  all_goals subst_vars
  all_goals try cases Val.same_eq ‹_›
  all_goals exact ⟨rfl, rfl⟩

/-- **bisimulation ⇒ same denotation**: if `R` relates rule references of two programs such that related references fetch the
    same instruction up to sub-rule operands which are again related, related references mean the same (every fuel, state,
    position).  `R` may be cyclic: recursive grammars. -/
theorem bisim_run_eq {ρ : Type} [Inhabited α] [Inhabited β] (E : Env) (f1 : α → Option (Instr α)) (f2 : β → Option (Instr β))
    (R : α → β → Prop)
    (hR : ∀ a c, R a c → ∃ (i : Instr ρ) (as : List α) (bs : List β), f1 a = some (i.rebuild as) ∧ f2 c = some (i.rebuild bs) ∧
      as.length = i.kids.length ∧ bs.length = i.kids.length ∧ ∀ p ∈ as.zip bs, R p.1 p.2) :
    ∀ fuel a c, R a c → Den.run E f1 fuel a = Den.run E f2 fuel c := by
  intro fuel
  induction fuel with
  | zero => intro a c _; funext s pos; simp [Den.run]
  | succ f ih =>
    intro a c h
    obtain ⟨i, as, bs, h1, h2, ha, hb, hp⟩ := hR a c h
    funext s pos
    simp only [Den.run, h1, h2]
    rw [step_rebuild_congr E (f + 1) i as bs ha hb (fun p hp' => ih p.1 p.2 (hp p hp'))]

/-- **validate_sound**: validated ⇒ same denotation, for every fuel, state and position: "validated to some depth" is a
    bisimulation -/
theorem validate_sound (E : Env) (f1 : α → Option (Instr α)) (f2 : β → Option (Instr β)) :
    ∀ (k : Nat) (a : α) (c : β), validate f1 f2 k a c = true → ∀ fuel, Den.run E f1 fuel a = Den.run E f2 fuel c := by
  intro k a c h fuel
  haveI : Inhabited α := ⟨a⟩
  haveI : Inhabited β := ⟨c⟩
  refine bisim_run_eq (ρ := α) E f1 f2 (fun a c => ∃ k, validate f1 f2 k a c = true) ?_ fuel a c ⟨k, h⟩
  rintro a c ⟨k, h⟩
  cases k with
  | zero => simp [validate] at h
  | succ k =>
    simp only [validate] at h
    cases h1 : f1 a with
    | none => simp [h1] at h
    | some i =>
      cases h2 : f2 c with
      | none => simp [h1, h2] at h
      | some j =>
        simp only [h1, h2] at h
        cases hm : match2 i j with
        | none => simp [hm] at h
        | some pairs =>
          simp only [hm, List.all_eq_true] at h
          obtain ⟨hi, rfl⟩ := match2_rebuild hm
          refine ⟨i, pairs.map (·.1), pairs.map (·.2), by rw [hi, rebuild_kids], rfl, by rw [hi],
            by rw [← hi, List.length_map, List.length_map], ?_⟩
          rw [List.zip_map', List.map_id'' fun _ => rfl]
          exact fun p hp => ⟨k, h p hp⟩

end JanetModel.Peg
