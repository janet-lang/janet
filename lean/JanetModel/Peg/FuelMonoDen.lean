/-
Fuel monotonicity of the DENOTATIONAL PEG model `Den.run`, from that of `Op.run` (`Peg/FuelMono.lean`): by `run_agree` the
operational run at a fuel determines the denotation at that fuel, so an answer of `Den.run` other than `Err.fuel` is the answer
at every larger fuel.  Core Lean only.
-/
import JanetModel.Peg.FuelMono
import JanetModel.Peg.Lemmas

namespace JanetModel.Peg
namespace Den
open Op (FLe)
variable {ρ : Type}

/-- close a goal `FLe lhs rhs` whose two sides have the same shape, given the recursive fact `ih` -/
macro "dmono" h:ident ih:term : tactic => `(tactic| repeat (first
  | exact FLe.refl _
  | exact FLe.bot _
  | exact $h _ _ _
  | exact $ih _ _
  | exact $ih _ _ _
  | exact $ih _ _ _ _
  | exact $ih _ _ _ _ _
  | refine FLe.bind ($h _ _ _) ?_
  | refine FLe.bind (FLe.refl _) ?_
  | refine FLe.ite (fun _ => ?_) (fun _ => ?_)
  | intro _
  | split))

macro "dmono_step" h:ident : tactic => `(tactic| first
  | exact FLe.refl _
  | exact $h _ _ _
  | exact choiceLoop_mono $h _ _ _
  | exact seqLoop_mono $h _ _ _ _
  | exact toLoop_mono $h _ _ _ _ _
  | exact lenLoop_mono $h _ _ _ _ _
  | exact splitLoop_kmono $h _ _ _ _ _ _ _ _
  | refine FLe.bind (betweenLoop_kmono $h _ _ _ _ _ _ _) ?_
  | refine FLe.bind (tilLoop_mono $h _ _ _ _) ?_
  | refine FLe.bind ($h _ _ _) ?_
  | refine FLe.bind (FLe.refl _) ?_
  | refine FLe.ite (fun _ => ?_) (fun _ => ?_)
  | intro _
  | split)

/-- the denotation does not read the flag that `run_agree` asks to be clear -/
theorem run_leak (E : Env) (b : Bool) (fetch : ρ → Option (Instr ρ)) : run { E with lenprefixLeak := b } fetch = run E fetch := by
  funext fuel
  induction fuel with
  | zero => rfl
  | succ f ih =>
    funext r s pos
    rw [run, run, ih]
    cases fetch r with
    | none => rfl
    | some i => cases i <;> rfl

/-- **Fuel monotonicity of `Den.run`**: the operational run at the same fuel determines the denotation (`Agree.inj`), and it is
    monotone (`Op.run_fuel_mono`). -/
theorem run_fuel_mono (E : Env) (fetch : ρ → Option (Instr ρ)) (f g : Nat) (hfg : f ≤ g) (r : ρ) (s : St) (pos : Nat)
    (hne : run E fetch f r s pos ≠ .error .fuel) : run E fetch g r s pos = run E fetch f r s pos := by
  rw [← run_leak E false] at hne ⊢
  have hf := run_agree { E with lenprefixLeak := false } rfl fetch f r s pos
  have hg := run_agree { E with lenprefixLeak := false } rfl fetch g r s pos
  rw [Op.run_fuel_mono _ fetch f g hfg r s pos (hf.ne_fuel hne)] at hg
  exact hg.inj hf

theorem run_mono_le (E : Env) (fetch : ρ → Option (Instr ρ)) (f g : Nat) (hfg : f ≤ g) (r : ρ) (s : St) (pos : Nat) :
    FLe (run E fetch f r s pos) (run E fetch g r s pos) :=
  (Classical.em (run E fetch f r s pos = .error .fuel)).imp id fun h => (run_fuel_mono E fetch f g hfg r s pos h).symm

end Den
end JanetModel.Peg
