/-
Lemmas relating the operational model (Peg/Op.lean) and the denotational semantics (Peg/Den.lean).
-/
import JanetModel.Peg.Op
import JanetModel.Peg.Den

namespace JanetModel.Peg

/-- `s'` is `s` with possibly more entries on the three stacks: what a FAILED rule may leave behind. -/
structure St.le (s s' : St) : Prop where
  caps : s'.caps.take s.caps.length = s.caps
  tagged : s'.tagged.take s.tagged.length = s.tagged
  scratch : s'.scratch.take s.scratch.length = s.scratch
  acc : s'.acc = s.acc
  textEnd : s'.textEnd = s.textEnd
  depth : s'.depth = s.depth

/-- operational result `o` from state `s` agrees with denotation `d` -/
def Agree (o : ORes) (d : DRes) (s : St) : Prop :=
  match d with
  | .error e => o = .error e
  | .ok none => ∃ s', o = .ok (none, s') ∧ s.le s'
  | .ok (some (p, dl)) => o = .ok (some p, s.extend dl)

def KAgree {ρ : Type} (ko : OK ρ) (kd : DK ρ) : Prop := ∀ r s pos, Agree (ko r s pos) (kd r s pos) s

theorem St.le_refl (s : St) : s.le s := ⟨by simp, by simp, by simp, rfl, rfl, rfl⟩

theorem St.le_extend (s : St) (d : Delta) : s.le (s.extend d) :=
  ⟨by simp [St.extend], by simp [St.extend], by simp [St.extend], rfl, rfl, rfl⟩

theorem capLoad_of_le {s s' : St} (h : s.le s') : capLoad s' (capSave s) = s := by
  cases s; cases s'
  obtain ⟨h1, h2, h3, h4, h5, h6⟩ := h
  simp_all [capLoad, capSave]

theorem extend_inj {s : St} {d d' : Delta} (h : s.extend d = s.extend d') : d = d' := by
  cases d; cases d'
  simp only [St.extend, St.mk.injEq, List.append_cancel_left_eq] at h
  simp only [Delta.mk.injEq]
  exact ⟨h.1, h.2.1, h.2.2.1⟩

/-- the operational answer determines the denotation it agrees with -/
theorem Agree.inj {o : ORes} {d d' : DRes} {s : St} (h : Agree o d s) (h' : Agree o d' s) : d = d' := by
  rcases d with e | _ | ⟨p, dl⟩ <;> rcases d' with e' | _ | ⟨p', dl'⟩ <;> simp only [Agree] at h h'
  · cases h.symm.trans h'; rfl
  · obtain ⟨_, h', _⟩ := h'; cases h.symm.trans h'
  · cases h.symm.trans h'
  · obtain ⟨_, h, _⟩ := h; cases h.symm.trans h'
  · rfl
  · obtain ⟨_, h, _⟩ := h; cases h.symm.trans h'
  · cases h.symm.trans h'
  · obtain ⟨_, h', _⟩ := h'; cases h.symm.trans h'
  · have := h.symm.trans h'
    simp only [Except.ok.injEq, Prod.mk.injEq, Option.some.injEq] at this
    obtain ⟨rfl, he⟩ := this
    rw [extend_inj he]

theorem Agree.ne_fuel {o : ORes} {d : DRes} {s : St} (h : Agree o d s) (hd : d ≠ .error .fuel) : o ≠ .error .fuel := by
  rintro rfl
  rcases d with e | _ | ⟨p, dl⟩ <;> simp only [Agree] at h
  · cases h; exact hd rfl
  · obtain ⟨_, h, _⟩ := h; cases h
  · cases h


theorem down1_cases (s : St) :
    (down1 s = .error .depth) ∨ (2 ≤ s.depth ∧ down1 s = .ok { s with depth := s.depth - 1 }) := by
  unfold down1
  by_cases h : s.depth ≤ 1
  · left; simp [h]
  · right; simp [h]; omega

theorem up1_extend_down {s : St} (d : Delta) (h : 2 ≤ s.depth) :
    up1 (St.extend { s with depth := s.depth - 1 } d) = s.extend d := by
  cases s; simp [up1, St.extend] at *; omega

theorem up1_down {s : St} (h : 2 ≤ s.depth) : up1 { s with depth := s.depth - 1 } = s := by
  cases s; simp [up1] at *; omega

@[simp] theorem extend_empty (s : St) : s.extend {} = s := by
  cases s; simp [St.extend]

variable {ρ : Type}

theorem child_cases {ko : OK ρ} {kd : DK ρ} (hk : KAgree ko kd) (r : ρ) (s0 : St) (pos : Nat) :
    (∃ e, kd r s0 pos = .error e ∧ ko r s0 pos = .error e) ∨
    (kd r s0 pos = .ok none ∧ ∃ s1, ko r s0 pos = .ok (none, s1) ∧ s0.le s1) ∨
    (∃ p d, kd r s0 pos = .ok (some (p, d)) ∧ ko r s0 pos = .ok (some p, s0.extend d)) := by
  have h := hk r s0 pos
  cases hkd : kd r s0 pos with
  | error e => left; rw [hkd] at h; exact ⟨e, rfl, h⟩
  | ok v =>
    cases v with
    | none => right; left; rw [hkd] at h; exact ⟨rfl, h⟩
    | some pd => right; right; obtain ⟨p, d⟩ := pd; rw [hkd] at h; exact ⟨p, d, rfl, h⟩

theorem pushcap_eq (E : Env) (s : St) (v : Val) (tag : Nat) :
    pushcap E s v tag = s.extend (pushDelta E s.acc v tag) := by
  cases s
  simp only [pushcap, pushDelta, St.extend]
  split <;> split <;> simp

theorem agree_fail (s : St) : Agree (.ok (none, s)) (.ok none) s := ⟨s, rfl, St.le_refl s⟩

theorem agree_ok (s : St) (p : Nat) : Agree (.ok (some p, s)) (.ok (some (p, {}))) s := by simp [Agree]

theorem agree_leaf (E : Env) {ko : OK ρ} {kd : DK ρ} (n : Nat) (i : Instr ρ) (s : St) (pos : Nat)
    (hi : match i with
      | .literal _ | .nchar _ | .notnchar _ | .range _ _ | .set _ | .gettag _ _ | .position _ | .line _ | .column _
      | .argument _ _ | .constant _ _ | .backmatch _ | .readint _ _ => True
      | _ => False) :
    Agree (Op.step E ko n i s pos) (Den.step E kd n i s pos) s := by
  cases i <;> simp only at hi <;> simp only [Op.step, Den.step]
  case literal bytes =>
    split
    · exact agree_fail s
    · cases E.slice s pos (pos + bytes.length) with
      | error e => simp [bind, Except.bind, Agree]
      | ok t => simp only [bind, Except.bind]; split <;> simp [Agree, St.le_refl]
  case nchar c => split <;> simp [Agree, St.le_refl]
  case notnchar c => split <;> simp [Agree, St.le_refl]
  case range lo hi =>
    split
    · cases E.byte s pos with
      | error e => simp [bind, Except.bind, Agree]
      | ok t => simp only [bind, Except.bind]; split <;> simp [Agree, St.le_refl]
    · exact agree_fail s
  case set bm =>
    split
    · exact agree_fail s
    · cases E.byte s pos with
      | error e => simp [bind, Except.bind, Agree]
      | ok t => simp only [bind, Except.bind]; split <;> simp [Agree, St.le_refl]
  case gettag search tag =>
    cases findTag s.tagged search with
    | none => exact agree_fail s
    | some v => simp [Agree, pushcap_eq]
  case position tag => simp [Agree, pushcap_eq]
  case line tag => simp [Agree, pushcap_eq]
  case column tag => simp [Agree, pushcap_eq]
  case argument idx tag => simp [Agree, pushcap_eq]
  case constant v tag => simp [Agree, pushcap_eq]
  case backmatch search =>
    cases findTag s.tagged search with
    | none => exact agree_fail s
    | some v =>
      cases v <;> try exact agree_fail s
      rename_i bytes
      simp only
      split
      · exact agree_fail s
      · cases E.slice s pos (pos + bytes.length) with
        | error e => simp [bind, Except.bind, Agree]
        | ok t => simp only [bind, Except.bind]; split <;> simp [Agree, St.le_refl]
  case readint flags tag =>
    split
    · exact agree_fail s
    · cases E.slice s pos (pos + flags % 16) with
      | error e => simp [bind, Except.bind, Agree]
      | ok t => simp [bind, Except.bind, Agree, pushcap_eq]


/-- finishing tactic for equalities / `le` facts between concrete states -/
macro "st_fin" : tactic =>
  `(tactic| (simp [St.extend, up1, capLoad, capLoadKeept, capSave, pushcap_eq, pushDelta, Delta.append] at * <;> omega))

theorem le_of_fields {s s' : St} (h1 : s'.caps.take s.caps.length = s.caps) (h2 : s'.tagged.take s.tagged.length = s.tagged)
    (h3 : s'.scratch.take s.scratch.length = s.scratch) (h4 : s'.acc = s.acc) (h5 : s'.textEnd = s.textEnd)
    (h6 : s'.depth = s.depth) : s.le s' := ⟨h1, h2, h3, h4, h5, h6⟩

/-- a failed child below `down1` (possibly with another mode / window) -/
theorem le_restore {s s0 s1 : St} (hle : s0.le s1) (hc : s0.caps = s.caps) (ht : s0.tagged = s.tagged)
    (hs : s0.scratch = s.scratch) (s2 : St) (e1 : s2.caps = s1.caps) (e2 : s2.tagged = s1.tagged) (e3 : s2.scratch = s1.scratch)
    (e4 : s2.acc = s.acc) (e5 : s2.textEnd = s.textEnd) (e6 : s2.depth = s.depth) : s.le s2 := by
  obtain ⟨h1, h2, h3, _, _, _⟩ := hle
  refine ⟨?_, ?_, ?_, e4, e5, e6⟩
  · rw [e1, ← hc]; exact h1
  · rw [e2, ← ht]; exact h2
  · rw [e3, ← hs]; exact h3

theorem depth_down_up {s s1 : St} (h : 2 ≤ s.depth) (hd : s1.depth = s.depth - 1) : (up1 s1).depth = s.depth := by
  show s1.depth + 1 = s.depth
  rw [hd]; exact Nat.sub_add_cancel (Nat.le_of_succ_le h)

theorem le_up1_of_down {s s1 : St} (h : 2 ≤ s.depth) (hle : St.le { s with depth := s.depth - 1 } s1) : s.le (up1 s1) :=
  le_restore (s := s) hle rfl rfl rfl (up1 s1) rfl rfl rfl hle.acc hle.textEnd (depth_down_up h hle.depth)

theorem le_up1_mode {s s1 : St} {m : Bool} (h : 2 ≤ s.depth) (hle : St.le { s with acc := m, depth := s.depth - 1 } s1) :
    s.le { up1 s1 with acc := s.acc } :=
  le_restore (s := s) hle rfl rfl rfl { up1 s1 with acc := s.acc } rfl rfl rfl rfl hle.textEnd (depth_down_up h hle.depth)

theorem le_up1_win {s s1 : St} {we : Nat} (h : 2 ≤ s.depth) (hle : St.le { s with textEnd := we, depth := s.depth - 1 } s1) :
    s.le { up1 s1 with textEnd := s.textEnd } :=
  le_restore (s := s) hle rfl rfl rfl { up1 s1 with textEnd := s.textEnd } rfl rfl rfl hle.acc rfl (depth_down_up h hle.depth)

/-! What the bookkeeping of `Op.step` does to the state after a successful sub-rule.  That state is `s.extend d` once depth,
mode and window are put back (`up1_extend_down`, `up1_extend_mode`, `up1_extend_win`), and every further step maps it to
`s.extend d'` for the `d'` of `Den.step`.  `{ x with f := v }` is the constructor applied to the projections of `x`: a rewrite
inside `x` destroys such a left side, and `hdep` speaks of the state handed to `down1`, so `(s := s)` is given. -/

theorem extend_extend (s : St) (d d2 : Delta) : (s.extend d).extend d2 = s.extend (d.append d2) := by
  cases s; simp [St.extend, Delta.append]

theorem up1_extend_mode {s : St} (m : Bool) (d : Delta) (h : 2 ≤ s.depth) :
    ({ up1 (St.extend { s with acc := m, depth := s.depth - 1 } d) with acc := s.acc } : St) = s.extend d := by
  cases s; st_fin

theorem up1_extend_win {s : St} (we : Nat) (d : Delta) (h : 2 ≤ s.depth) :
    ({ up1 (St.extend { s with textEnd := we, depth := s.depth - 1 } d) with textEnd := s.textEnd } : St) = s.extend d := by
  cases s; st_fin

theorem capLoad_extend (s : St) (d : Delta) : capLoad (s.extend d) (capSave s) = s :=
  capLoad_of_le (St.le_extend s d)

theorem capLoadKeept_extend (s : St) (d : Delta) : capLoadKeept (s.extend d) (capSave s) = s.extend { tagged := d.tagged } := by
  cases s; simp [capLoadKeept, capSave, St.extend]

theorem pushcap_extend (E : Env) (s : St) (d : Delta) (v : Val) (tag : Nat) :
    pushcap E (s.extend d) v tag = s.extend (d.append (pushDelta E s.acc v tag)) :=
  (pushcap_eq E _ v tag).trans (extend_extend s d _)

theorem slice_extend (E : Env) (s : St) (d : Delta) (a b : Nat) : E.slice (s.extend d) a b = E.slice s a b := rfl

theorem scratch_append_extend (s : St) (d : Delta) (t : List Nat) :
    ({ s.extend d with scratch := (s.extend d).scratch ++ t } : St) = s.extend (d.append { scratch := t }) := by
  cases s; simp [St.extend, Delta.append]

theorem caps_drop_extend (s : St) (m : Bool) (d : Delta) :
    (up1 (St.extend { s with acc := m, depth := s.depth - 1 } d)).caps.drop (capSave s).cap = d.caps := List.drop_left

theorem scratch_drop_extend (s : St) (m : Bool) (d : Delta) :
    (up1 (St.extend { s with acc := m, depth := s.depth - 1 } d)).scratch.drop (capSave s).scratch = d.scratch := List.drop_left

/-- `S` is the state handed to `down1`, `s` the one `Agree` refers to -/
theorem agree_under_down {ko : OK ρ} {kd : DK ρ} (hk : KAgree ko kd) (r : ρ) (S s : St) (pos : Nat)
    (fo : St → Option Nat × St → ORes) (fd : Option (Nat × Delta) → DRes)
    (hnone : 2 ≤ S.depth → ∀ s1, St.le { S with depth := S.depth - 1 } s1 →
      Agree (fo { S with depth := S.depth - 1 } (none, s1)) (fd none) s)
    (hsome : 2 ≤ S.depth → ∀ p d, Agree (fo { S with depth := S.depth - 1 }
      (some p, St.extend { S with depth := S.depth - 1 } d)) (fd (some (p, d))) s) :
    Agree (down1 S >>= fun s0 => ko r s0 pos >>= fo s0) (down1 S >>= fun s0 => kd r s0 pos >>= fd) s := by
  rcases down1_cases S with hd | ⟨hdep, hd⟩
  · rw [hd]; rfl
  · rw [hd]
    rcases child_cases hk r { S with depth := S.depth - 1 } pos with ⟨e, h1, h2⟩ | ⟨h1, s1, h2, hle⟩ | ⟨p, d, h1, h2⟩
    · simp only [bind, Except.bind, h1, h2]; rfl
    · simp only [bind, Except.bind, h1, h2]; exact hnone hdep s1 hle
    · simp only [bind, Except.bind, h1, h2]; exact hsome hdep p d

theorem agree_drop (E : Env) {ko : OK ρ} {kd : DK ρ} (hk : KAgree ko kd) (n : Nat) (r : ρ) (s : St) (pos : Nat) :
    Agree (Op.step E ko n (.drop r) s pos) (Den.step E kd n (.drop r) s pos) s := by
  refine agree_under_down hk r s s pos _ _ (fun hdep s1 hle => ⟨_, rfl, le_up1_of_down hdep hle⟩) fun hdep p d => ?_
  simp only [Agree, up1_extend_down d hdep, capLoad_extend, extend_empty]

theorem agree_not (E : Env) {ko : OK ρ} {kd : DK ρ} (hk : KAgree ko kd) (n : Nat) (a : ρ) (s : St) (pos : Nat) :
    Agree (Op.step E ko n (.not a) s pos) (Den.step E kd n (.not a) s pos) s := by
  refine agree_under_down hk a s s pos _ _ (fun hdep s1 hle => ?_) fun hdep p d => ⟨_, rfl, le_up1_of_down hdep (St.le_extend _ d)⟩
  have hcl := capLoad_of_le hle
  simp only [Agree, hcl, up1_down hdep, extend_empty]


theorem agree_onlytags (E : Env) {ko : OK ρ} {kd : DK ρ} (hk : KAgree ko kd) (n : Nat) (r : ρ) (s : St) (pos : Nat) :
    Agree (Op.step E ko n (.onlytags r) s pos) (Den.step E kd n (.onlytags r) s pos) s := by
  refine agree_under_down hk r s s pos _ _ (fun hdep s1 hle => ⟨_, rfl, le_up1_of_down hdep hle⟩) fun hdep p d => ?_
  simp only [Agree, up1_extend_down d hdep, capLoadKeept_extend]

theorem agree_unref (E : Env) {ko : OK ρ} {kd : DK ρ} (hk : KAgree ko kd) (n : Nat) (r : ρ) (tag : Nat) (s : St) (pos : Nat) :
    Agree (Op.step E ko n (.unref r tag) s pos) (Den.step E kd n (.unref r tag) s pos) s := by
  refine agree_under_down hk r s s pos _ _ (fun hdep s1 hle => ⟨_, rfl, le_up1_of_down hdep hle⟩) fun hdep p d => ?_
  simp only [Agree]
  cases s
  by_cases ht : tag = 0 <;> st_fin

theorem agree_capture (E : Env) {ko : OK ρ} {kd : DK ρ} (hk : KAgree ko kd) (n : Nat) (r : ρ) (tag : Nat) (s : St) (pos : Nat) :
    Agree (Op.step E ko n (.capture r tag) s pos) (Den.step E kd n (.capture r tag) s pos) s := by
  refine agree_under_down hk r s s pos _ _ (fun hdep s1 hle => ⟨_, rfl, le_up1_of_down hdep hle⟩) fun hdep p d => ?_
  simp only [bind, Except.bind, up1_extend_down d hdep, slice_extend]
  cases E.slice s pos p with
  | error e => simp [Agree]
  | ok t =>
    simp only
    by_cases hc : (!E.hasBackref ∧ s.acc)
    · have hc' : (!E.hasBackref ∧ (s.extend d).acc) := hc
      simp only [if_pos hc, if_pos hc', Agree, scratch_append_extend]
    · have hc' : ¬ (!E.hasBackref ∧ (s.extend d).acc) := hc
      simp only [if_neg hc, if_neg hc', Agree, pushcap_extend]


theorem agree_capturenum (E : Env) {ko : OK ρ} {kd : DK ρ} (hk : KAgree ko kd) (n : Nat) (r : ρ) (base tag : Nat) (s : St) (pos : Nat) :
    Agree (Op.step E ko n (.capturenum r base tag) s pos) (Den.step E kd n (.capturenum r base tag) s pos) s := by
  refine agree_under_down hk r s s pos _ _ (fun hdep s1 hle => ⟨_, rfl, le_up1_of_down hdep hle⟩) fun hdep p d => ?_
  simp only [bind, Except.bind, up1_extend_down d hdep, slice_extend]
  cases E.slice s pos p with
  | error e => simp [Agree]
  | ok t =>
    simp only
    cases scanNumber t base with
    | none => exact ⟨_, rfl, St.le_extend s d⟩
    | some x =>
      simp only
      by_cases hc : (E.numRaw ∧ !E.hasBackref ∧ s.acc)
      · have hc' : (E.numRaw ∧ !E.hasBackref ∧ (s.extend d).acc) := hc
        simp only [if_pos hc, if_pos hc', Agree, scratch_append_extend]
      · have hc' : ¬ (E.numRaw ∧ !E.hasBackref ∧ (s.extend d).acc) := hc
        simp only [if_neg hc, if_neg hc', Agree, pushcap_extend]

theorem agree_group (E : Env) {ko : OK ρ} {kd : DK ρ} (hk : KAgree ko kd) (n : Nat) (r : ρ) (tag : Nat) (s : St) (pos : Nat) :
    Agree (Op.step E ko n (.group r tag) s pos) (Den.step E kd n (.group r tag) s pos) s := by
  refine agree_under_down hk r { s with acc := false } s pos _ _ (fun hdep s1 hle => ⟨_, rfl, le_up1_mode hdep hle⟩)
    fun hdep p d => ?_
  simp only [Agree, up1_extend_mode (s := s) false d hdep, caps_drop_extend, capLoadKeept_extend, pushcap_extend]

theorem agree_accumulate (E : Env) {ko : OK ρ} {kd : DK ρ} (hk : KAgree ko kd) (n : Nat) (r : ρ) (tag : Nat) (s : St) (pos : Nat) :
    Agree (Op.step E ko n (.accumulate r tag) s pos) (Den.step E kd n (.accumulate r tag) s pos) s := by
  simp only [Op.step, Den.step]
  by_cases hc : (tag == 0 ∧ s.acc)
  · rw [if_pos hc, if_pos hc]; exact hk r s pos
  · rw [if_neg hc, if_neg hc]
    refine agree_under_down hk r { s with acc := true } s pos _ _ (fun hdep s1 hle => ⟨_, rfl, le_up1_mode hdep hle⟩)
      fun hdep p d => ?_
    simp only [Agree, up1_extend_mode (s := s) true d hdep, scratch_drop_extend, capLoadKeept_extend, pushcap_extend]

theorem agree_nth (E : Env) {ko : OK ρ} {kd : DK ρ} (hk : KAgree ko kd) (n : Nat) (k : Nat) (r : ρ) (tag : Nat) (s : St) (pos : Nat) :
    Agree (Op.step E ko n (.nth k r tag) s pos) (Den.step E kd n (.nth k r tag) s pos) s := by
  refine agree_under_down hk r { s with acc := false } s pos _ _ (fun hdep s1 hle => ⟨_, rfl, le_up1_mode hdep hle⟩)
    fun hdep p d => ?_
  simp only [up1_extend_mode (s := s) false d hdep, caps_drop_extend]
  cases d.caps[if k > int32Max then int32Max else k]? with
  | none => exact ⟨_, rfl, St.le_extend s d⟩
  | some cap => simp only [Agree, capLoadKeept_extend, pushcap_extend]


theorem replaceValue_eq (v : Val) (s : St) (d : Delta) (m : Bool) :
    Op.replaceValue v ({ up1 (St.extend { s with acc := m, depth := s.depth - 1 } d) with acc := s.acc } : St) (capSave s)
      = Den.replaceValue v s.caps d.caps := by
  cases s
  cases v <;> simp [Op.replaceValue, Den.replaceValue, St.extend, up1, capSave] <;> rfl

theorem agree_replace (E : Env) {ko : OK ρ} {kd : DK ρ} (hk : KAgree ko kd) (n : Nat) (r : ρ) (v : Val) (tag : Nat) (s : St) (pos : Nat) :
    Agree (Op.step E ko n (.replace r v tag) s pos) (Den.step E kd n (.replace r v tag) s pos) s := by
  refine agree_under_down hk r { s with acc := false } s pos _ _ (fun hdep s1 hle => ⟨_, rfl, le_up1_mode hdep hle⟩)
    fun hdep p d => ?_
  simp only [bind, Except.bind]
  cases callGuard E s.depth v with
  | error e => simp [Agree]
  | ok _ =>
  simp only []
  rw [replaceValue_eq]
  cases Den.replaceValue v s.caps d.caps with
  | error e => simp [Agree]
  | ok cap => simp only [Agree, up1_extend_mode (s := s) false d hdep, capLoadKeept_extend, pushcap_extend]

theorem agree_matchtime (E : Env) {ko : OK ρ} {kd : DK ρ} (hk : KAgree ko kd) (n : Nat) (r : ρ) (v : Val) (tag : Nat) (s : St) (pos : Nat) :
    Agree (Op.step E ko n (.matchtime r v tag) s pos) (Den.step E kd n (.matchtime r v tag) s pos) s := by
  refine agree_under_down hk r { s with acc := false } s pos _ _ (fun hdep s1 hle => ⟨_, rfl, le_up1_mode hdep hle⟩)
    fun hdep p d => ?_
  simp only [bind, Except.bind]
  cases callGuard E s.depth v with
  | error e => simp [Agree]
  | ok _ =>
  simp only []
  rw [replaceValue_eq]
  cases Den.replaceValue v s.caps d.caps with
  | error e => simp [Agree]
  | ok cap =>
    simp only [up1_extend_mode (s := s) false d hdep, capLoadKeept_extend, pushcap_extend]
    split
    · rfl
    · exact ⟨_, rfl, St.le_extend s _⟩

theorem agree_error (E : Env) {ko : OK ρ} {kd : DK ρ} (hk : KAgree ko kd) (n : Nat) (r : ρ) (s : St) (pos : Nat) :
    Agree (Op.step E ko n (.error r) s pos) (Den.step E kd n (.error r) s pos) s := by
  refine agree_under_down hk r { s with acc := false } s pos _ _ (fun hdep s1 hle => ⟨_, rfl, le_up1_mode hdep hle⟩)
    fun hdep p d => ?_
  simp only [bind, Except.bind]
  have hcaps : ({ up1 (St.extend { s with acc := false, depth := s.depth - 1 } d) with acc := s.acc } : St).caps = s.caps ++ d.caps := rfl
  rw [hcaps]
  cases hdc : d.caps with
  | nil => simp [Agree]
  | cons c cs =>
    have hlen : (s.caps ++ c :: cs).length > s.caps.length := by simp
    rw [if_pos hlen]
    have hl : (s.caps ++ c :: cs).getLast? = (c :: cs).getLast? := by
      rw [List.getLast?_append]
      cases hg : (c :: cs).getLast? with
      | none => simp at hg
      | some v => simp
    rw [hl]
    cases hg : (c :: cs).getLast? with
    | none => simp at hg
    | some v => simp [Agree]


theorem agree_look (E : Env) {ko : OK ρ} {kd : DK ρ} (hk : KAgree ko kd) (n : Nat) (off : Int) (r : ρ) (s : St) (pos : Nat) :
    Agree (Op.step E ko n (.look off r) s pos) (Den.step E kd n (.look off r) s pos) s := by
  simp only [Op.step, Den.step]
  split
  · exact agree_fail s
  · refine agree_under_down hk r s s _ _ _ (fun hdep s1 hle => ⟨_, rfl, le_up1_of_down hdep hle⟩) fun hdep p d => ?_
    simp only [Agree, Option.map]
    rw [up1_extend_down d hdep]

theorem take_of_take_append {α : Type} {l l' d : List α} (h : l'.take (l.length + d.length) = l ++ d) :
    l'.take l.length = l := by
  have h2 := congrArg (List.take l.length) h
  rw [List.take_take, Nat.min_eq_left (Nat.le_add_right _ _)] at h2
  simpa using h2

theorem le_trans_extend {s s' : St} (d : Delta) (h : (s.extend d).le s') : s.le s' := by
  obtain ⟨h1, h2, h3, h4, h5, h6⟩ := h
  cases s; cases s'
  simp [St.extend] at *
  exact ⟨take_of_take_append h1, take_of_take_append h2, take_of_take_append h3, h4, h5, h6⟩

theorem agree_if (E : Env) {ko : OK ρ} {kd : DK ρ} (hk : KAgree ko kd) (n : Nat) (a b : ρ) (s : St) (pos : Nat) :
    Agree (Op.step E ko n (.if_ a b) s pos) (Den.step E kd n (.if_ a b) s pos) s := by
  refine agree_under_down hk a s s pos _ _ (fun hdep s1 hle => ⟨_, rfl, le_up1_of_down hdep hle⟩) fun hdep p d => ?_
  simp only [bind, Except.bind]
  rw [up1_extend_down d hdep]
  rcases child_cases hk b (s.extend d) pos with ⟨e, g1, g2⟩ | ⟨g1, s1, g2, gle⟩ | ⟨p2, d2, g1, g2⟩
  · simp [g1, g2, Agree]
  · simp only [g1, g2, Agree]
    exact ⟨_, rfl, le_trans_extend d gle⟩
  · simp only [g1, g2, Agree, extend_extend]

theorem agree_ifnot (E : Env) {ko : OK ρ} {kd : DK ρ} (hk : KAgree ko kd) (n : Nat) (a b : ρ) (s : St) (pos : Nat) :
    Agree (Op.step E ko n (.ifnot a b) s pos) (Den.step E kd n (.ifnot a b) s pos) s := by
  refine agree_under_down hk a s s pos _ _ (fun hdep s1 hle => ?_) fun hdep p d => ⟨_, rfl, le_up1_of_down hdep (St.le_extend _ d)⟩
  have hcl := capLoad_of_le hle
  simp only [hcl, up1_down hdep]
  exact hk b s pos


theorem agree_sub (E : Env) {ko : OK ρ} {kd : DK ρ} (hk : KAgree ko kd) (n : Nat) (w r : ρ) (s : St) (pos : Nat) :
    Agree (Op.step E ko n (.sub w r) s pos) (Den.step E kd n (.sub w r) s pos) s := by
  refine agree_under_down hk w s s pos _ _ (fun hdep s1 hle => ⟨_, rfl, le_up1_of_down hdep hle⟩) fun hdep we d => ?_
  simp only [bind, Except.bind]
  rw [up1_extend_down d hdep]
  refine agree_under_down hk r { s.extend d with textEnd := we } s pos _ _
    (fun gdep s1 gle => ⟨_, rfl, le_trans_extend d (le_up1_win gdep gle)⟩) fun gdep p2 d2 => ?_
  exact congrArg (fun x => Except.ok (some we, x)) ((up1_extend_win (s := s.extend d) we d2 gdep).trans (extend_extend s d d2))


theorem choiceLoop_agree {ko : OK ρ} {kd : DK ρ} (hk : KAgree ko kd) (s : St) (hdep : 2 ≤ s.depth) (pos : Nat) :
    ∀ rs : List ρ, rs ≠ [] →
      Agree (Op.choiceLoop ko (capSave { s with depth := s.depth - 1 }) rs { s with depth := s.depth - 1 } pos)
        (Den.choiceLoop kd rs { s with depth := s.depth - 1 } pos) s := by
  intro rs
  induction rs with
  | nil => intro h; exact absurd rfl h
  | cons r rest ih =>
    intro _
    cases rest with
    | nil =>
      simp only [Op.choiceLoop, Den.choiceLoop, up1_down hdep]
      exact hk r s pos
    | cons r' rest' =>
      simp only [Op.choiceLoop, Den.choiceLoop, bind, Except.bind]
      rcases child_cases hk r { s with depth := s.depth - 1 } pos with ⟨e, h1, h2⟩ | ⟨h1, s1, h2, hle⟩ | ⟨p, d, h1, h2⟩
      · simp [h1, h2, Agree]
      · simp only [h1, h2]
        rw [capLoad_of_le hle]
        exact ih (by simp)
      · simp only [h1, h2, Agree]
        rw [up1_extend_down d hdep]

theorem agree_choice (E : Env) {ko : OK ρ} {kd : DK ρ} (hk : KAgree ko kd) (n : Nat) (rs : List ρ) (s : St) (pos : Nat) :
    Agree (Op.step E ko n (.choice rs) s pos) (Den.step E kd n (.choice rs) s pos) s := by
  simp only [Op.step, Den.step]
  by_cases he : rs.isEmpty = true
  · rw [if_pos he, if_pos he]; exact agree_fail s
  · rw [if_neg he, if_neg he]
    rcases down1_cases s with hd | ⟨hdep, hd⟩
    · simp [hd, Agree, bind, Except.bind]
    · simp only [hd, bind, Except.bind]
      exact choiceLoop_agree hk s hdep pos rs (by intro h; simp [h] at he)

theorem seqLoop_agree {ko : OK ρ} {kd : DK ρ} (hk : KAgree ko kd) (s : St) (hdep : 2 ≤ s.depth) :
    ∀ rs : List ρ, rs ≠ [] → ∀ (pos : Nat) (d : Delta),
      Agree (Op.seqLoop ko rs (St.extend { s with depth := s.depth - 1 } d) pos)
        (Den.seqLoop kd rs { s with depth := s.depth - 1 } pos d) s := by
  intro rs
  induction rs with
  | nil => intro h; exact absurd rfl h
  | cons r rest ih =>
    intro _ pos d
    cases rest with
    | nil =>
      simp only [Op.seqLoop, Den.seqLoop, up1_extend_down d hdep, bind, Except.bind]
      rcases child_cases hk r (s.extend d) pos with ⟨e, h1, h2⟩ | ⟨h1, s1, h2, hle⟩ | ⟨p, d2, h1, h2⟩
      · simp [h1, h2, Agree]
      · simp only [h1, h2, Agree]
        exact ⟨_, rfl, le_trans_extend d hle⟩
      · simp only [h1, h2, Agree, extend_extend]
    | cons r' rest' =>
      simp only [Op.seqLoop, Den.seqLoop, bind, Except.bind]
      rcases child_cases hk r (St.extend { s with depth := s.depth - 1 } d) pos with ⟨e, h1, h2⟩ | ⟨h1, s1, h2, hle⟩ | ⟨p, d2, h1, h2⟩
      · simp [h1, h2, Agree]
      · simp only [h1, h2, Agree]
        exact ⟨_, rfl, le_up1_of_down hdep (le_trans_extend d hle)⟩
      · simp only [h1, h2, extend_extend]
        exact ih (by simp) p (d.append d2)

theorem agree_sequence (E : Env) {ko : OK ρ} {kd : DK ρ} (hk : KAgree ko kd) (n : Nat) (rs : List ρ) (s : St) (pos : Nat) :
    Agree (Op.step E ko n (.sequence rs) s pos) (Den.step E kd n (.sequence rs) s pos) s := by
  simp only [Op.step, Den.step]
  by_cases he : rs.isEmpty = true
  · rw [if_pos he, if_pos he]; exact agree_ok s pos
  · rw [if_neg he, if_neg he]
    rcases down1_cases s with hd | ⟨hdep, hd⟩
    · simp [hd, Agree, bind, Except.bind]
    · simp only [hd, bind, Except.bind]
      have := seqLoop_agree hk s hdep rs (by intro h; simp [h] at he) pos {}
      simpa using this


theorem capSave_down (s : St) : capSave { s with depth := s.depth - 1 } = capSave s := rfl

theorem capLoad_self (s : St) : capLoad s (capSave s) = s := capLoad_of_le (St.le_refl s)

theorem toLoop_agree {ko : OK ρ} {kd : DK ρ} (hk : KAgree ko kd) (r : ρ) (isTo : Bool) (s : St) (hdep : 2 ≤ s.depth) :
    ∀ (n pos : Nat),
      Agree (Op.toLoop ko r isTo (capSave s) n { s with depth := s.depth - 1 } pos)
        (Den.toLoop kd r isTo n { s with depth := s.depth - 1 } pos) s := by
  intro n
  induction n with
  | zero =>
    intro pos
    simp only [Op.toLoop, Den.toLoop, up1_down hdep, capLoad_self]
    exact agree_fail s
  | succ n ih =>
    intro pos
    simp only [Op.toLoop, Den.toLoop, bind, Except.bind]
    rcases child_cases hk r { s with depth := s.depth - 1 } pos with ⟨e, h1, h2⟩ | ⟨h1, s1, h2, hle⟩ | ⟨p, d, h1, h2⟩
    · simp [h1, h2, Agree]
    · simp only [h1, h2]
      rw [capLoad_of_le hle]
      exact ih (pos + 1)
    · simp only [h1, h2]
      cases isTo with
      | true =>
        simp only [if_true, capLoad_extend, up1_down hdep]
        exact agree_ok s pos
      | false =>
        simp only [Bool.false_eq_true, if_false, Agree]
        rw [up1_extend_down d hdep]

/-- RULE_TO and RULE_THRU are one case in peg.c and one loop in both models -/
theorem agree_to_thru {ko : OK ρ} {kd : DK ρ} (hk : KAgree ko kd) (isTo : Bool) (r : ρ) (s : St) (pos : Nat) :
    Agree (down1 s >>= fun s0 => Op.toLoop ko r isTo (capSave s) (s.textEnd + 1 - pos) s0 pos)
      (down1 s >>= fun s0 => Den.toLoop kd r isTo (s.textEnd + 1 - pos) s0 pos) s := by
  rcases down1_cases s with hd | ⟨hdep, hd⟩
  · rw [hd]; rfl
  · rw [hd]; exact toLoop_agree hk r isTo s hdep _ pos

theorem betweenLoop_agree {ko : OK ρ} {kd : DK ρ} (hk : KAgree ko kd) (r : ρ) (hi : Nat) (s0 : St) :
    ∀ (n captured pos : Nat) (d : Delta),
      match Den.betweenLoop kd r hi n captured s0 pos d with
      | .error e => Op.betweenLoop ko r hi n captured (s0.extend d) pos = .error e
      | .ok (c, p, d') => Op.betweenLoop ko r hi n captured (s0.extend d) pos = .ok (c, p, s0.extend d') := by
  intro n
  induction n with
  | zero => intro captured pos d; simp [Op.betweenLoop, Den.betweenLoop]
  | succ n ih =>
    intro captured pos d
    simp only [Op.betweenLoop, Den.betweenLoop]
    by_cases hc : captured < hi
    · rw [if_pos hc, if_pos hc]
      simp only [bind, Except.bind]
      rcases child_cases hk r (s0.extend d) pos with ⟨e, h1, h2⟩ | ⟨h1, s1, h2, hle⟩ | ⟨p, d2, h1, h2⟩
      · simp [h1, h2]
      · simp only [h1, h2]
        rw [capLoad_of_le hle]
      · simp only [h1, h2]
        by_cases hz : ((p == pos) = true ∧ (hi == uintMax) = true)
        · rw [if_pos hz, if_pos hz]
          simp only [capLoad_extend]
        · rw [if_neg hz, if_neg hz, extend_extend]
          exact ih (captured + 1) p (d.append d2)
    · rw [if_neg hc, if_neg hc]

theorem agree_between (E : Env) {ko : OK ρ} {kd : DK ρ} (hk : KAgree ko kd) (n : Nat) (lo hi : Nat) (r : ρ) (s : St) (pos : Nat) :
    Agree (Op.step E ko n (.between lo hi r) s pos) (Den.step E kd n (.between lo hi r) s pos) s := by
  simp only [Op.step, Den.step]
  rcases down1_cases s with hd | ⟨hdep, hd⟩
  · simp [hd, Agree, bind, Except.bind]
  · simp only [hd, bind, Except.bind]
    have h := betweenLoop_agree hk r hi { s with depth := s.depth - 1 } n 0 pos {}
    rw [extend_empty] at h
    revert h
    cases Den.betweenLoop kd r hi n 0 { s with depth := s.depth - 1 } pos {} with
    | error e => intro h; simp [h, Agree]
    | ok v =>
      obtain ⟨c, p, d'⟩ := v
      intro h
      simp only [h]
      rw [up1_extend_down d' hdep]
      by_cases hl : c < lo
      · rw [if_pos hl, if_pos hl, capLoad_extend]
        exact agree_fail s
      · rw [if_neg hl, if_neg hl]
        simp [Agree]


theorem lenLoop_agree {ko : OK ρ} {kd : DK ρ} (hk : KAgree ko kd) (r : ρ) (s : St) :
    ∀ (n pos : Nat) (d : Delta),
      Agree (Op.lenLoop ko r (capSave s) n (s.extend d) pos) (Den.lenLoop kd r n s pos d) s := by
  intro n
  induction n with
  | zero => intro pos d; simp [Op.lenLoop, Den.lenLoop, Agree]
  | succ n ih =>
    intro pos d
    simp only [Op.lenLoop, Den.lenLoop]
    rcases down1_cases (s.extend d) with hd | ⟨hdep, hd⟩
    · simp [hd, Agree, bind, Except.bind]
    · simp only [hd, bind, Except.bind]
      rcases child_cases hk r { s.extend d with depth := (s.extend d).depth - 1 } pos with ⟨e, h1, h2⟩ | ⟨h1, s1, h2, hle⟩ | ⟨p, d2, h1, h2⟩
      · simp [h1, h2, Agree]
      · simp only [h1, h2, Agree]
        have hl : s.le (up1 s1) := le_trans_extend d (le_up1_of_down hdep hle)
        exact ⟨_, rfl, by rw [capLoad_of_le hl]; exact St.le_refl s⟩
      · simp only [h1, h2]
        rw [up1_extend_down d2 hdep, extend_extend]
        exact ih p (d.append d2)

theorem agree_lenprefix (E : Env) (hE : E.lenprefixLeak = false) {ko : OK ρ} {kd : DK ρ} (hk : KAgree ko kd) (n : Nat) (a b : ρ)
    (s : St) (pos : Nat) :
    Agree (Op.step E ko n (.lenprefix a b) s pos) (Den.step E kd n (.lenprefix a b) s pos) s := by
  refine agree_under_down hk a { s with acc := false } s pos _ _ (fun hdep s1 hle => ?_) fun hdep p d => ?_
  · simp only [hE]
    exact ⟨_, rfl, le_up1_mode hdep hle⟩
  simp only [up1_extend_mode (s := s) false d hdep, caps_drop_extend, capLoad_extend]
  cases d.caps.head? with
  | none => exact agree_fail s
  | some v =>
    cases v <;> try exact agree_fail s
    rename_i nrep
    simp only
    by_cases hc : checkint nrep = true
    · rw [if_pos hc, if_pos hc]
      have := lenLoop_agree hk b s nrep.toNat p {}
      simpa using this
    · rw [if_neg hc, if_neg hc]
      exact agree_fail s

theorem tilLoop_agree {ko : OK ρ} {kd : DK ρ} (hk : KAgree ko kd) (t : ρ) (s0 : St) :
    ∀ (n pos : Nat),
      match Den.tilLoop kd t n s0 pos with
      | .error e => Op.tilLoop ko t n s0 pos = .error e
      | .ok res => Op.tilLoop ko t n s0 pos = .ok (res, s0) := by
  intro n
  induction n with
  | zero => intro pos; simp [Op.tilLoop, Den.tilLoop]
  | succ n ih =>
    intro pos
    simp only [Op.tilLoop, Den.tilLoop, bind, Except.bind]
    rcases child_cases hk t s0 pos with ⟨e, h1, h2⟩ | ⟨h1, s1, h2, hle⟩ | ⟨p, d, h1, h2⟩
    · simp [h1, h2]
    · simp only [h1, h2]
      rw [capLoad_of_le hle]
      exact ih (pos + 1)
    · simp only [h1, h2, capLoad_extend]

theorem agree_til (E : Env) {ko : OK ρ} {kd : DK ρ} (hk : KAgree ko kd) (n : Nat) (t r : ρ) (s : St) (pos : Nat) :
    Agree (Op.step E ko n (.til t r) s pos) (Den.step E kd n (.til t r) s pos) s := by
  simp only [Op.step, Den.step]
  rcases down1_cases s with hd | ⟨hdep, hd⟩
  · simp [hd, Agree, bind, Except.bind]
  · simp only [hd, bind, Except.bind]
    have h := tilLoop_agree hk t { s with depth := s.depth - 1 } (s.textEnd + 1 - pos) pos
    revert h
    cases Den.tilLoop kd t (s.textEnd + 1 - pos) { s with depth := s.depth - 1 } pos with
    | error e => intro h; simp [h, Agree]
    | ok res =>
      intro h
      simp only [h, up1_down hdep]
      cases res with
      | none => exact agree_fail s
      | some se =>
        obtain ⟨termStart, termEnd⟩ := se
        simp only
        refine agree_under_down hk r { s with textEnd := termStart } s pos _ _
          (fun gdep s1 gle => ⟨_, rfl, le_up1_win gdep gle⟩) fun gdep p2 d2 => ?_
        exact congrArg (fun x => Except.ok (some termEnd, x)) (up1_extend_win (s := s) termStart d2 gdep)

theorem splitFind_agree {ko : OK ρ} {kd : DK ρ} (hk : KAgree ko kd) (sep : ρ) (s0 : St) :
    ∀ (n chunkEnd pos : Nat),
      match Den.splitFind kd sep n s0 chunkEnd pos with
      | .error e => Op.splitFind ko sep (capSave s0) n s0 chunkEnd pos = .error e
      | .ok (ce, p) => Op.splitFind ko sep (capSave s0) n s0 chunkEnd pos = .ok (ce, p, s0) := by
  intro n
  induction n with
  | zero => intro chunkEnd pos; simp [Op.splitFind, Den.splitFind]
  | succ n ih =>
    intro chunkEnd pos
    simp only [Op.splitFind, Den.splitFind, bind, Except.bind]
    rcases child_cases hk sep s0 pos with ⟨e, h1, h2⟩ | ⟨h1, s1, h2, hle⟩ | ⟨p, d, h1, h2⟩
    · simp [h1, h2]
    · simp only [h1, h2]
      rw [capLoad_of_le hle]
      exact ih pos (pos + 1)
    · simp only [h1, h2, capLoad_extend]

theorem splitLoop_agree {ko : OK ρ} {kd : DK ρ} (hk : KAgree ko kd) (sep sub : ρ) (s : St) :
    ∀ (n chunkStart pos : Nat) (d : Delta),
      Agree (Op.splitLoop ko sep sub s.textEnd n (s.extend d) chunkStart pos)
        (Den.splitLoop kd sep sub s.textEnd n s chunkStart pos d) s := by
  intro n
  induction n with
  | zero => intro chunkStart pos d; simp [Op.splitLoop, Den.splitLoop, Agree]
  | succ n ih =>
    intro chunkStart pos d
    simp only [Op.splitLoop, Den.splitLoop]
    by_cases hp : pos ≤ s.textEnd
    · rw [if_pos hp, if_pos hp]
      rcases down1_cases (s.extend d) with hd | ⟨hdep, hd⟩
      · simp [hd, Agree, bind, Except.bind]
      · simp only [hd, bind, Except.bind]
        have hf := splitFind_agree hk sep { s.extend d with depth := (s.extend d).depth - 1 } (s.textEnd + 1 - pos) pos pos
        rw [capSave_down] at hf
        revert hf
        cases Den.splitFind kd sep (s.textEnd + 1 - pos) { s.extend d with depth := (s.extend d).depth - 1 } pos pos with
        | error e => intro hf; simp [hf, Agree]
        | ok v =>
          obtain ⟨chunkEnd, pos'⟩ := v
          intro hf
          simp only [hf, up1_down hdep]
          refine agree_under_down hk sub { s.extend d with textEnd := chunkEnd } s chunkStart _ _
            (fun gdep s1 gle => ⟨_, rfl, le_trans_extend d (le_up1_win gdep gle)⟩) fun gdep p2 d2 => ?_
          · have geq' : ({ up1 (St.extend { s.extend d with textEnd := chunkEnd, depth := (s.extend d).depth - 1 } d2) with textEnd := s.textEnd } : St)
                = s.extend (d.append d2) := (up1_extend_win (s := s.extend d) chunkEnd d2 gdep).trans (extend_extend s d d2)
            simp only []
            rw [geq']
            by_cases hz : (pos' == chunkStart) = true
            · rw [if_pos hz, if_pos hz]
              exact ⟨_, rfl, St.le_extend s _⟩
            · rw [if_neg hz, if_neg hz]
              exact ih pos' pos' (d.append d2)
    · rw [if_neg hp, if_neg hp]
      simp only [Agree]
      cases s; simp [St.extend]

theorem agree_split (E : Env) {ko : OK ρ} {kd : DK ρ} (hk : KAgree ko kd) (n : Nat) (sep r : ρ) (s : St) (pos : Nat) :
    Agree (Op.step E ko n (.split sep r) s pos) (Den.step E kd n (.split sep r) s pos) s := by
  simp only [Op.step, Den.step]
  have := splitLoop_agree hk sep r s n pos pos {}
  simpa using this


theorem step_agree (E : Env) (hE : E.lenprefixLeak = false) {ko : OK ρ} {kd : DK ρ} (hk : KAgree ko kd) (n : Nat)
    (i : Instr ρ) (s : St) (pos : Nat) :
    Agree (Op.step E ko n i s pos) (Den.step E kd n i s pos) s :=
  match i with
  | .literal _ | .nchar _ | .notnchar _ | .range _ _ | .set _ | .gettag _ _ | .position _ | .line _ | .column _
  | .argument _ _ | .constant _ _ | .backmatch _ | .readint _ _ => agree_leaf E n _ s pos trivial
  | .look off r => agree_look E hk n off r s pos
  | .choice rs => agree_choice E hk n rs s pos
  | .sequence rs => agree_sequence E hk n rs s pos
  | .if_ a b => agree_if E hk n a b s pos
  | .ifnot a b => agree_ifnot E hk n a b s pos
  | .not a => agree_not E hk n a s pos
  | .between lo hi r => agree_between E hk n lo hi r s pos
  | .capture r tag => agree_capture E hk n r tag s pos
  | .accumulate r tag => agree_accumulate E hk n r tag s pos
  | .group r tag => agree_group E hk n r tag s pos
  | .replace r v tag => agree_replace E hk n r v tag s pos
  | .matchtime r v tag => agree_matchtime E hk n r v tag s pos
  | .error r => agree_error E hk n r s pos
  | .drop r => agree_drop E hk n r s pos
  | .to r => agree_to_thru hk true r s pos
  | .thru r => agree_to_thru hk false r s pos
  | .lenprefix a b => agree_lenprefix E hE hk n a b s pos
  | .unref r tag => agree_unref E hk n r tag s pos
  | .capturenum r base tag => agree_capturenum E hk n r base tag s pos
  | .sub a b => agree_sub E hk n a b s pos
  | .til a b => agree_til E hk n a b s pos
  | .split a b => agree_split E hk n a b s pos
  | .nth k r tag => agree_nth E hk n k r tag s pos
  | .onlytags r => agree_onlytags E hk n r s pos

theorem run_agree (E : Env) (hE : E.lenprefixLeak = false) (fetch : ρ → Option (Instr ρ)) :
    ∀ fuel, KAgree (Op.run E fetch fuel) (Den.run E fetch fuel) := by
  intro fuel
  induction fuel with
  | zero => intro r s pos; simp [Op.run, Den.run, Agree]
  | succ f ih =>
    intro r s pos
    simp only [Op.run, Den.run]
    cases fetch r with
    | none => simp [Agree]
    | some i => exact step_agree E hE ih (f + 1) i s pos

theorem run_ok_le (E : Env) (hE : E.lenprefixLeak = false) (fetch : ρ → Option (Instr ρ)) {fuel : Nat} {r : ρ} {s s' : St}
    {pos : Nat} {res : Option Nat} (h : Op.run E fetch fuel r s pos = .ok (res, s')) : s.le s' := by
  rcases child_cases (run_agree E hE fetch fuel) r s pos with ⟨e, _, h2⟩ | ⟨_, s1, h2, hle⟩ | ⟨p, d, _, h2⟩
  · rw [h2] at h; cases h
  · rw [h2] at h; cases h; exact hle
  · rw [h2] at h; cases h; exact St.le_extend s d

end JanetModel.Peg
