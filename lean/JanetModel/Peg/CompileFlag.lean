/-
`has_backref` of the compile model is sound: when `compile` leaves the flag clear, no instruction at a rule address it logged
reads the tag stack, and the logged addresses are closed under sub-rule operands.  (The flag clause lives in `Fin` / `Frame` of
Peg/CompileCorrect.lean: a finished cache / log entry whose form compiles to RULE_GETTAG / RULE_BACKMATCH implies the flag.)
With Peg/BackrefLemmas.lean: what peg.c runs - the emitted bytecode from address 0 with tag recording switched by the flag - is
the documented meaning of the source, which always records tags.
-/
import JanetModel.Peg.CompileCorrect
import JanetModel.Peg.BackrefLemmas

namespace JanetModel.Peg
open JanetModel.Peg.Spec JanetModel.Peg.Compile

theorem readsTags_rebuild {ρ σ : Type} [Inhabited σ] (i : Instr ρ) (ks : List σ) : (i.rebuild ks).readsTags = i.readsTags := by
  cases i <;> rfl

theorem kids_rebuild {ρ σ : Type} [Inhabited σ] (i : Instr ρ) (ks : List σ) (h : ks.length = i.kids.length) :
    (i.rebuild ks).kids = ks := by
  cases i <;> simp [Instr.kids, Instr.rebuild] at h ⊢ <;>
    (rcases ks with _ | ⟨x, _ | ⟨y, _ | ⟨z, t⟩⟩⟩ <;> simp_all)

theorem compile_closed (dflt : Scope) (p : Patt) (o : Output) (h : compile dflt p = some o) (hf : o.hasBackref = false) :
    Backref.Closed (decode o.program) (fun a => ∃ c, (a, c) ∈ o.log) := by
  obtain ⟨_, hs⟩ := compile_bisim dflt p o h
  rintro a ⟨c, hac⟩ i hfetch
  obtain ⟨i0, as, bs, h1, h2, h3, h4, h5, h6⟩ := hs a c hac
  rw [h1] at hfetch; cases hfetch
  refine ⟨by rw [readsTags_rebuild]; exact h6 hf, fun c' hc' => ?_⟩
  rw [kids_rebuild i0 as h3] at hc'
  obtain ⟨n, hn, rfl⟩ := List.getElem_of_mem hc'
  have hnb : n < bs.length := by omega
  exact ⟨bs[n], h5 (as[n], bs[n]) (List.mem_iff_getElem.mpr ⟨n, by simp; omega, by simp⟩)⟩

end JanetModel.Peg
