/-
never_reads_outside: in the denotational semantics (hence, by op_eq_den, in the operational model) a guarded text
access never fails: every rule is entered with `pos ≤ text_end ≤ |text|` and returns a position in `[pos, text_end]`,
including inside the narrowed windows of sub / til / split.
-/
import JanetModel.Peg.Lemmas

namespace JanetModel.Peg
variable {ρ : Type}

/-- result is not an out-of-window read and, on success, ends inside `[pos, te]` -/
def Good (te pos : Nat) (res : DRes) : Prop :=
  match res with
  | .error e => e ≠ .oob
  | .ok none => True
  | .ok (some (p, _)) => pos ≤ p ∧ p ≤ te

def DSafe (E : Env) (kd : DK ρ) : Prop :=
  ∀ r s pos, s.textEnd ≤ E.text.length → pos ≤ s.textEnd → Good s.textEnd pos (kd r s pos)

theorem dchild {E : Env} {kd : DK ρ} (hk : DSafe E kd) (r : ρ) (s : St) (pos : Nat)
    (h1 : s.textEnd ≤ E.text.length) (h2 : pos ≤ s.textEnd) :
    (∃ e, kd r s pos = .error e ∧ e ≠ .oob) ∨ (kd r s pos = .ok none) ∨
    (∃ p d, kd r s pos = .ok (some (p, d)) ∧ pos ≤ p ∧ p ≤ s.textEnd) := by
  have h := hk r s pos h1 h2
  cases hkd : kd r s pos with
  | error e => left; rw [hkd] at h; exact ⟨e, rfl, h⟩
  | ok v =>
    cases v with
    | none => right; left; rfl
    | some pd => right; right; obtain ⟨p, d⟩ := pd; rw [hkd] at h; exact ⟨p, d, rfl, h⟩

theorem slice_ok (E : Env) (s : St) (a b : Nat) (h1 : a ≤ b) (h2 : b ≤ s.textEnd) (h3 : s.textEnd ≤ E.text.length) :
    ∃ t, E.slice s a b = .ok t := by
  refine ⟨(E.text.drop a).take (b - a), ?_⟩
  simp only [Env.slice]
  rw [if_pos ⟨h1, h2, Nat.le_trans h2 h3⟩]

theorem byte_ok (E : Env) (s : St) (i : Nat) (h1 : i < s.textEnd) (h3 : s.textEnd ≤ E.text.length) :
    ∃ b, E.byte s i = .ok b := by
  have hi : i < E.text.length := Nat.lt_of_lt_of_le h1 h3
  refine ⟨E.text[i], ?_⟩
  simp [Env.byte, h1, List.getElem?_eq_getElem hi]

theorem good_none (te pos : Nat) : Good te pos (.ok none) := trivial
theorem good_err (te pos : Nat) (e : Err) (h : e ≠ .oob) : Good te pos (.error e) := h

theorem leaf_good (E : Env) {kd : DK ρ} (n : Nat) (i : Instr ρ) (s : St) (pos : Nat)
    (hte : s.textEnd ≤ E.text.length) (hpos : pos ≤ s.textEnd)
    (hi : match i with
      | .literal _ | .nchar _ | .notnchar _ | .range _ _ | .set _ | .gettag _ _ | .position _ | .line _ | .column _
      | .argument _ _ | .constant _ _ | .backmatch _ | .readint _ _ => True
      | _ => False) :
    Good s.textEnd pos (Den.step E kd n i s pos) := by
  cases i <;> simp only at hi <;> simp only [Den.step]
  case literal bytes =>
    split
    · trivial
    · obtain ⟨t, ht⟩ := slice_ok E s pos (pos + bytes.length) (by omega) (by omega) hte
      simp only [ht, bind, Except.bind]
      split <;> simp [Good] <;> omega
  case nchar c => split <;> simp [Good] <;> omega
  case notnchar c => split <;> simp [Good] <;> omega
  case range lo hi =>
    split
    · rename_i h
      obtain ⟨b, hb⟩ := byte_ok E s pos h hte
      simp only [hb, bind, Except.bind]
      split <;> simp [Good] <;> omega
    · trivial
  case set bm =>
    split
    · trivial
    · obtain ⟨b, hb⟩ := byte_ok E s pos (by omega) hte
      simp only [hb, bind, Except.bind]
      split <;> simp [Good] <;> omega
  case gettag search tag => cases findTag s.tagged search <;> simp [Good] <;> omega
  case position tag => simp [Good]; omega
  case line tag => simp [Good]; omega
  case column tag => simp [Good]; omega
  case argument idx tag => simp [Good]; omega
  case constant v tag => simp [Good]; omega
  case backmatch search =>
    cases findTag s.tagged search with
    | none => trivial
    | some v =>
      cases v <;> try trivial
      rename_i bytes
      simp only
      split
      · trivial
      · obtain ⟨t, ht⟩ := slice_ok E s pos (pos + bytes.length) (by omega) (by omega) hte
        simp only [ht, bind, Except.bind]
        split <;> simp [Good] <;> omega
  case readint flags tag =>
    split
    · trivial
    · obtain ⟨t, ht⟩ := slice_ok E s pos (pos + flags % 16) (by omega) (by omega) hte
      simp only [ht, bind, Except.bind]
      simp [Good]; omega


/-- `S` is the state handed to `down1` (its window may be narrower than the one, `te`, the instruction answers for) -/
theorem under_down_good {E : Env} {kd : DK ρ} (hk : DSafe E kd) (r : ρ) (S : St) (pos : Nat)
    (hte : S.textEnd ≤ E.text.length) (hpos : pos ≤ S.textEnd) {te pos0 : Nat} (g : Option (Nat × Delta) → DRes)
    (hnone : Good te pos0 (g none))
    (hsome : ∀ p d, pos ≤ p → p ≤ S.textEnd → Good te pos0 (g (some (p, d)))) :
    Good te pos0 (down1 S >>= fun s0 => kd r s0 pos >>= g) := by
  rcases down1_cases S with hd | ⟨_, hd⟩
  · rw [hd]; exact fun h => nomatch h
  · rw [hd]
    rcases dchild hk r { S with depth := S.depth - 1 } pos hte hpos with ⟨e, h1, he⟩ | h1 | ⟨p, d, h1, hp1, hp2⟩
    · simp only [bind, Except.bind, h1]; exact he
    · simp only [bind, Except.bind, h1]; exact hnone
    · simp only [bind, Except.bind, h1]; exact hsome p d hp1 hp2

theorem error_of_ok_else {α : Type} {c : Prop} [Decidable c] {a : α} {x : Except Err α} {e : Err}
    (h : (if c then .ok a else x) = .error e) : x = .error e := by
  by_cases hc : c
  · rw [if_pos hc] at h; cases h
  · rwa [if_neg hc] at h

/-- one `error_of_ok_else` per harness function of `applyFn` (`split` on the seven `if`s is far slower to check) -/
theorem applyFn_error {name : String} {xs : List Val} {e : Err} (h : applyFn name xs = .error e) : e = .call := by
  unfold applyFn at h
  cases error_of_ok_else (error_of_ok_else (error_of_ok_else (error_of_ok_else (error_of_ok_else
    (error_of_ok_else (error_of_ok_else h))))))
  rfl

theorem replaceValue_ne_oob (v : Val) (before sub : List Val) (e : Err) (h : Den.replaceValue v before sub = .error e) :
    e ≠ .oob := by
  cases v <;> try (cases h; done)
  cases applyFn_error h
  exact fun h => nomatch h

theorem callGuard_ne_oob (E : Env) (depth : Nat) (v : Val) (e : Err) (h : callGuard E depth v = .error e) : e ≠ .oob := by
  cases v <;> simp [callGuard] at h
  split at h
  · simp at h; rw [← h]; simp
  · simp at h

/-- the opcodes that call one sub-rule under `down1` and read at most a slice of what it matched -/
theorem wrap_good (E : Env) {kd : DK ρ} (hk : DSafe E kd) (n : Nat) (i : Instr ρ) (s : St) (pos : Nat)
    (hte : s.textEnd ≤ E.text.length) (hpos : pos ≤ s.textEnd)
    (hi : match i with
      | .capture _ _ | .capturenum _ _ _ | .drop _ | .onlytags _ | .group _ _ | .nth _ _ _ | .replace _ _ _
      | .matchtime _ _ _ | .error _ | .unref _ _ | .not _ => True
      | _ => False) :
    Good s.textEnd pos (Den.step E kd n i s pos) := by
  cases i <;> try exact hi.elim
  case capture r tag =>
    refine under_down_good hk r s pos hte hpos _ trivial fun p d hp1 hp2 => ?_
    obtain ⟨t, ht⟩ := slice_ok E s pos p hp1 hp2 hte
    simp only [ht, bind, Except.bind]
    split <;> exact ⟨hp1, hp2⟩
  case capturenum r base tag =>
    refine under_down_good hk r s pos hte hpos _ trivial fun p d hp1 hp2 => ?_
    obtain ⟨t, ht⟩ := slice_ok E s pos p hp1 hp2 hte
    simp only [ht, bind, Except.bind]
    cases scanNumber t base with
    | none => trivial
    | some x => simp only; split <;> exact ⟨hp1, hp2⟩
  case drop r => exact under_down_good hk r s pos hte hpos _ trivial fun p d hp1 hp2 => ⟨hp1, hp2⟩
  case onlytags r => exact under_down_good hk r s pos hte hpos _ trivial fun p d hp1 hp2 => ⟨hp1, hp2⟩
  case unref r tag => exact under_down_good hk r s pos hte hpos _ trivial fun p d hp1 hp2 => ⟨hp1, hp2⟩
  case not r => exact under_down_good hk r s pos hte hpos _ ⟨Nat.le_refl _, hpos⟩ fun p d _ _ => trivial
  case group r tag =>
    exact under_down_good hk r { s with acc := false } pos hte hpos _ trivial fun p d hp1 hp2 => ⟨hp1, hp2⟩
  case nth k r tag =>
    refine under_down_good hk r { s with acc := false } pos hte hpos _ trivial fun p d hp1 hp2 => ?_
    simp only
    split
    · trivial
    · exact ⟨hp1, hp2⟩
  case replace r v tag =>
    refine under_down_good hk r { s with acc := false } pos hte hpos _ trivial fun p d hp1 hp2 => ?_
    simp only [bind, Except.bind]
    cases hg : callGuard E s.depth v with
    | error e => exact callGuard_ne_oob E _ v e hg
    | ok _ =>
      simp only
      cases hv : Den.replaceValue v s.caps d.caps with
      | error e => exact replaceValue_ne_oob v _ _ e hv
      | ok cap => exact ⟨hp1, hp2⟩
  case matchtime r v tag =>
    refine under_down_good hk r { s with acc := false } pos hte hpos _ trivial fun p d hp1 hp2 => ?_
    simp only [bind, Except.bind]
    cases hg : callGuard E s.depth v with
    | error e => exact callGuard_ne_oob E _ v e hg
    | ok _ =>
      simp only
      cases hv : Den.replaceValue v s.caps d.caps with
      | error e => exact replaceValue_ne_oob v _ _ e hv
      | ok cap =>
        simp only
        split
        · exact ⟨hp1, hp2⟩
        · trivial
  case error r =>
    refine under_down_good hk r { s with acc := false } pos hte hpos _ trivial fun p d _ _ => ?_
    simp only
    split <;> simp [Good]


theorem good_mono {te pos pos' : Nat} {res : DRes} (h : pos ≤ pos') (g : Good te pos' res) : Good te pos res := by
  unfold Good at *
  cases res with
  | error e => exact g
  | ok v =>
    cases v with
    | none => trivial
    | some pd => obtain ⟨p, d⟩ := pd; exact ⟨Nat.le_trans h g.1, g.2⟩

theorem look_good (E : Env) {kd : DK ρ} (hk : DSafe E kd) (n : Nat) (off : Int) (r : ρ) (s : St) (pos : Nat)
    (hte : s.textEnd ≤ E.text.length) (hpos : pos ≤ s.textEnd) :
    Good s.textEnd pos (Den.step E kd n (.look off r) s pos) := by
  simp only [Den.step]
  split
  · trivial
  · rename_i hb
    have ht : ((pos : Int) + off).toNat ≤ s.textEnd := by omega
    exact under_down_good hk r s _ hte ht _ trivial fun p d _ _ => ⟨Nat.le_refl _, hpos⟩

theorem accumulate_good (E : Env) {kd : DK ρ} (hk : DSafe E kd) (n : Nat) (r : ρ) (tag : Nat) (s : St) (pos : Nat)
    (hte : s.textEnd ≤ E.text.length) (hpos : pos ≤ s.textEnd) :
    Good s.textEnd pos (Den.step E kd n (.accumulate r tag) s pos) := by
  simp only [Den.step]
  split
  · exact hk r s pos hte hpos
  · exact under_down_good hk r { s with acc := true } pos hte hpos _ trivial fun p d hp1 hp2 => ⟨hp1, hp2⟩

theorem if_good (E : Env) {kd : DK ρ} (hk : DSafe E kd) (n : Nat) (a b : ρ) (s : St) (pos : Nat)
    (hte : s.textEnd ≤ E.text.length) (hpos : pos ≤ s.textEnd) :
    Good s.textEnd pos (Den.step E kd n (.if_ a b) s pos) := by
  refine under_down_good hk a s pos hte hpos _ trivial fun p d hp1 hp2 => ?_
  simp only [bind, Except.bind]
  rcases dchild hk b (s.extend d) pos hte hpos with ⟨e, g1, ge⟩ | g1 | ⟨p2, d2, g1, gp1, gp2⟩
  · simp [g1, Good, ge]
  · simp [g1, Good]
  · simp only [g1]; exact ⟨gp1, gp2⟩

theorem ifnot_good (E : Env) {kd : DK ρ} (hk : DSafe E kd) (n : Nat) (a b : ρ) (s : St) (pos : Nat)
    (hte : s.textEnd ≤ E.text.length) (hpos : pos ≤ s.textEnd) :
    Good s.textEnd pos (Den.step E kd n (.ifnot a b) s pos) := by
  exact under_down_good hk a s pos hte hpos _ (hk b s pos hte hpos) fun p d _ _ => trivial

theorem choiceLoop_good {E : Env} {kd : DK ρ} (hk : DSafe E kd) (s0 : St) (pos : Nat)
    (hte : s0.textEnd ≤ E.text.length) (hpos : pos ≤ s0.textEnd) :
    ∀ rs : List ρ, Good s0.textEnd pos (Den.choiceLoop kd rs s0 pos) := by
  intro rs
  induction rs with
  | nil => simp [Den.choiceLoop, Good]
  | cons r rest ih =>
    cases rest with
    | nil => simp only [Den.choiceLoop]; exact hk r (up1 s0) pos hte hpos
    | cons r' rest' =>
      simp only [Den.choiceLoop, bind, Except.bind]
      rcases dchild hk r s0 pos hte hpos with ⟨e, g1, ge⟩ | g1 | ⟨p2, d2, g1, gp1, gp2⟩
      · simp [g1, Good, ge]
      · simp only [g1]; exact ih
      · simp only [g1]; exact ⟨gp1, gp2⟩

theorem choice_good (E : Env) {kd : DK ρ} (hk : DSafe E kd) (n : Nat) (rs : List ρ) (s : St) (pos : Nat)
    (hte : s.textEnd ≤ E.text.length) (hpos : pos ≤ s.textEnd) :
    Good s.textEnd pos (Den.step E kd n (.choice rs) s pos) := by
  simp only [Den.step]
  split
  · trivial
  · rcases down1_cases s with hd | ⟨_, hd⟩
    · simp [hd, Good, bind, Except.bind]
    · simp only [hd, bind, Except.bind]
      exact choiceLoop_good hk { s with depth := s.depth - 1 } pos hte hpos rs

theorem seqLoop_good {E : Env} {kd : DK ρ} (hk : DSafe E kd) (s0 : St) (hte : s0.textEnd ≤ E.text.length) :
    ∀ (rs : List ρ) (pos : Nat) (d : Delta), pos ≤ s0.textEnd → Good s0.textEnd pos (Den.seqLoop kd rs s0 pos d) := by
  intro rs
  induction rs with
  | nil => intro pos d hpos; simp only [Den.seqLoop]; exact ⟨Nat.le_refl _, hpos⟩
  | cons r rest ih =>
    intro pos d hpos
    cases rest with
    | nil =>
      simp only [Den.seqLoop, bind, Except.bind]
      rcases dchild hk r (up1 (s0.extend d)) pos hte hpos with ⟨e, g1, ge⟩ | g1 | ⟨p2, d2, g1, gp1, gp2⟩
      · simp [g1, Good, ge]
      · simp [g1, Good]
      · simp only [g1]; exact ⟨gp1, gp2⟩
    | cons r' rest' =>
      simp only [Den.seqLoop, bind, Except.bind]
      rcases dchild hk r (s0.extend d) pos hte hpos with ⟨e, g1, ge⟩ | g1 | ⟨p2, d2, g1, gp1, gp2⟩
      · simp [g1, Good, ge]
      · simp [g1, Good]
      · simp only [g1]
        exact good_mono gp1 (ih p2 (d.append d2) gp2)

theorem sequence_good (E : Env) {kd : DK ρ} (hk : DSafe E kd) (n : Nat) (rs : List ρ) (s : St) (pos : Nat)
    (hte : s.textEnd ≤ E.text.length) (hpos : pos ≤ s.textEnd) :
    Good s.textEnd pos (Den.step E kd n (.sequence rs) s pos) := by
  simp only [Den.step]
  split
  · exact ⟨Nat.le_refl _, hpos⟩
  · rcases down1_cases s with hd | ⟨_, hd⟩
    · simp [hd, Good, bind, Except.bind]
    · simp only [hd, bind, Except.bind]
      exact seqLoop_good hk { s with depth := s.depth - 1 } hte rs pos {} hpos

theorem toLoop_good {E : Env} {kd : DK ρ} (hk : DSafe E kd) (r : ρ) (isTo : Bool) (s0 : St) (pos0 : Nat)
    (hte : s0.textEnd ≤ E.text.length) :
    ∀ (n cur : Nat), pos0 ≤ cur → cur + n ≤ s0.textEnd + 1 → Good s0.textEnd pos0 (Den.toLoop kd r isTo n s0 cur) := by
  intro n
  induction n with
  | zero => intro cur _ _; simp [Den.toLoop, Good]
  | succ n ih =>
    intro cur h1 h2
    simp only [Den.toLoop, bind, Except.bind]
    rcases dchild hk r s0 cur hte (by omega) with ⟨e, g1, ge⟩ | g1 | ⟨p2, d2, g1, gp1, gp2⟩
    · simp [g1, Good, ge]
    · simp only [g1]; exact ih (cur + 1) (by omega) (by omega)
    · simp only [g1]
      cases isTo with
      | true => simp only [if_true]; exact ⟨h1, by omega⟩
      | false => simp only [Bool.false_eq_true, if_false]; exact ⟨by omega, gp2⟩

theorem to_good {E : Env} {kd : DK ρ} (hk : DSafe E kd) (isTo : Bool) (r : ρ) (s : St) (pos : Nat)
    (hte : s.textEnd ≤ E.text.length) (hpos : pos ≤ s.textEnd) :
    Good s.textEnd pos (down1 s >>= fun s0 => Den.toLoop kd r isTo (s.textEnd + 1 - pos) s0 pos) := by
  rcases down1_cases s with hd | ⟨_, hd⟩
  · rw [hd]; exact fun h => nomatch h
  · rw [hd]
    exact toLoop_good hk r isTo { s with depth := s.depth - 1 } pos hte _ pos (Nat.le_refl _)
      (show pos + (s.textEnd + 1 - pos) ≤ s.textEnd + 1 by omega)

theorem betweenLoop_good {E : Env} {kd : DK ρ} (hk : DSafe E kd) (r : ρ) (hi : Nat) (s0 : St) (hte : s0.textEnd ≤ E.text.length) :
    ∀ (n captured pos : Nat) (d : Delta), pos ≤ s0.textEnd →
      match Den.betweenLoop kd r hi n captured s0 pos d with
      | .error e => e ≠ .oob
      | .ok (_, p, _) => pos ≤ p ∧ p ≤ s0.textEnd := by
  intro n
  induction n with
  | zero => intro captured pos d _; simp [Den.betweenLoop]
  | succ n ih =>
    intro captured pos d hpos
    simp only [Den.betweenLoop]
    by_cases hc : captured < hi
    · rw [if_pos hc]
      simp only [bind, Except.bind]
      rcases dchild hk r (s0.extend d) pos hte hpos with ⟨e, g1, ge⟩ | g1 | ⟨p2, d2, g1, gp1, gp2⟩
      · simp [g1, ge]
      · simp only [g1]; exact ⟨Nat.le_refl _, hpos⟩
      · simp only [g1]
        by_cases hz : ((p2 == pos) = true ∧ (hi == uintMax) = true)
        · rw [if_pos hz]; exact ⟨Nat.le_refl _, hpos⟩
        · rw [if_neg hz]
          have := ih (captured + 1) p2 (d.append d2) gp2
          revert this
          cases Den.betweenLoop kd r hi n (captured + 1) s0 p2 (d.append d2) with
          | error e => exact id
          | ok v => obtain ⟨c, p, d'⟩ := v; intro h; exact ⟨by omega, h.2⟩
    · rw [if_neg hc]; exact ⟨Nat.le_refl _, hpos⟩

theorem between_good (E : Env) {kd : DK ρ} (hk : DSafe E kd) (n : Nat) (lo hi : Nat) (r : ρ) (s : St) (pos : Nat)
    (hte : s.textEnd ≤ E.text.length) (hpos : pos ≤ s.textEnd) :
    Good s.textEnd pos (Den.step E kd n (.between lo hi r) s pos) := by
  simp only [Den.step]
  rcases down1_cases s with hd | ⟨_, hd⟩
  · simp [hd, Good, bind, Except.bind]
  · simp only [hd, bind, Except.bind]
    have := betweenLoop_good hk r hi { s with depth := s.depth - 1 } hte n 0 pos {} hpos
    revert this
    cases Den.betweenLoop kd r hi n 0 { s with depth := s.depth - 1 } pos {} with
    | error e => exact id
    | ok v =>
      obtain ⟨c, p, d'⟩ := v
      intro h
      simp only
      split
      · trivial
      · exact h

theorem lenLoop_good {E : Env} {kd : DK ρ} (hk : DSafe E kd) (r : ρ) (s : St) (hte : s.textEnd ≤ E.text.length) :
    ∀ (n pos : Nat) (d : Delta), pos ≤ s.textEnd → Good s.textEnd pos (Den.lenLoop kd r n s pos d) := by
  intro n
  induction n with
  | zero => intro pos d hpos; simp only [Den.lenLoop]; exact ⟨Nat.le_refl _, hpos⟩
  | succ n ih =>
    intro pos d hpos
    simp only [Den.lenLoop]
    exact under_down_good hk r (s.extend d) pos hte hpos _ trivial fun p d2 hp1 hp2 => good_mono hp1 (ih p (d.append d2) hp2)

theorem lenprefix_good (E : Env) {kd : DK ρ} (hk : DSafe E kd) (n : Nat) (a b : ρ) (s : St) (pos : Nat)
    (hte : s.textEnd ≤ E.text.length) (hpos : pos ≤ s.textEnd) :
    Good s.textEnd pos (Den.step E kd n (.lenprefix a b) s pos) := by
  refine under_down_good hk a { s with acc := false } pos hte hpos _ trivial fun p d hp1 hp2 => ?_
  simp only [bind, Except.bind]
  cases d.caps.head? with
  | none => trivial
  | some v =>
    cases v <;> try trivial
    rename_i nrep
    simp only
    split
    · exact good_mono hp1 (lenLoop_good hk b s hte nrep.toNat p {} hp2)
    · trivial

theorem sub_good (E : Env) {kd : DK ρ} (hk : DSafe E kd) (n : Nat) (w r : ρ) (s : St) (pos : Nat)
    (hte : s.textEnd ≤ E.text.length) (hpos : pos ≤ s.textEnd) :
    Good s.textEnd pos (Den.step E kd n (.sub w r) s pos) := by
  refine under_down_good hk w s pos hte hpos _ trivial fun we d hp1 hp2 => ?_
  simp only [bind, Except.bind]
  exact under_down_good hk r { s.extend d with textEnd := we } pos (Nat.le_trans hp2 hte) hp1 _ trivial fun p2 d2 _ _ => ⟨hp1, hp2⟩

theorem tilLoop_good {E : Env} {kd : DK ρ} (hk : DSafe E kd) (t : ρ) (s0 : St) (pos0 : Nat) (hte : s0.textEnd ≤ E.text.length) :
    ∀ (n cur : Nat), pos0 ≤ cur → cur + n ≤ s0.textEnd + 1 →
      match Den.tilLoop kd t n s0 cur with
      | .error e => e ≠ .oob
      | .ok none => True
      | .ok (some (ts, te)) => pos0 ≤ ts ∧ ts ≤ te ∧ te ≤ s0.textEnd := by
  intro n
  induction n with
  | zero => intro cur _ _; simp [Den.tilLoop]
  | succ n ih =>
    intro cur h1 h2
    simp only [Den.tilLoop, bind, Except.bind]
    rcases dchild hk t s0 cur hte (by omega) with ⟨e, g1, ge⟩ | g1 | ⟨p2, d2, g1, gp1, gp2⟩
    · simp [g1, ge]
    · simp only [g1]; exact ih (cur + 1) (by omega) (by omega)
    · simp only [g1]; exact ⟨h1, gp1, gp2⟩

theorem til_good (E : Env) {kd : DK ρ} (hk : DSafe E kd) (n : Nat) (t r : ρ) (s : St) (pos : Nat)
    (hte : s.textEnd ≤ E.text.length) (hpos : pos ≤ s.textEnd) :
    Good s.textEnd pos (Den.step E kd n (.til t r) s pos) := by
  simp only [Den.step]
  rcases down1_cases s with hd | ⟨_, hd⟩
  · simp [hd, Good, bind, Except.bind]
  · simp only [hd, bind, Except.bind]
    have := tilLoop_good hk t { s with depth := s.depth - 1 } pos hte (s.textEnd + 1 - pos) pos (Nat.le_refl _) (by simp; omega)
    revert this
    cases Den.tilLoop kd t (s.textEnd + 1 - pos) { s with depth := s.depth - 1 } pos with
    | error e => exact id
    | ok v =>
      cases v with
      | none => intro _; trivial
      | some se =>
        obtain ⟨ts, te⟩ := se
        intro h
        simp only at h
        simp only
        exact under_down_good hk r { s with textEnd := ts } pos (by show ts ≤ _; omega) h.1 _ trivial
          fun p2 d2 _ _ => ⟨by omega, h.2.2⟩

theorem splitFind_good {E : Env} {kd : DK ρ} (hk : DSafe E kd) (sep : ρ) (s0 : St) (lo : Nat) (hte : s0.textEnd ≤ E.text.length) :
    ∀ (n ce cur : Nat), lo ≤ ce → ce ≤ s0.textEnd → ce ≤ cur → cur + n = s0.textEnd + 1 →
      match Den.splitFind kd sep n s0 ce cur with
      | .error e => e ≠ .oob
      | .ok (ce', p') => lo ≤ ce' ∧ ce' ≤ s0.textEnd ∧ ce' ≤ p' := by
  intro n
  induction n with
  | zero => intro ce cur h1 h2 h3 _; simp only [Den.splitFind]; exact ⟨h1, h2, h3⟩
  | succ n ih =>
    intro ce cur h1 h2 h3 h4
    simp only [Den.splitFind, bind, Except.bind]
    rcases dchild hk sep s0 cur hte (by omega) with ⟨e, g1, ge⟩ | g1 | ⟨p2, d2, g1, gp1, gp2⟩
    · simp [g1, ge]
    · simp only [g1]; exact ih cur (cur + 1) (by omega) (by omega) (by omega) (by omega)
    · simp only [g1]; exact ⟨by omega, by omega, gp1⟩

theorem splitLoop_good {E : Env} {kd : DK ρ} (hk : DSafe E kd) (sep sub : ρ) (s : St) (pos0 : Nat)
    (hte : s.textEnd ≤ E.text.length) (hpos0 : pos0 ≤ s.textEnd) :
    ∀ (n pos : Nat) (d : Delta), Good s.textEnd pos0 (Den.splitLoop kd sep sub s.textEnd n s pos pos d) := by
  intro n
  induction n with
  | zero => intro pos d; simp [Den.splitLoop, Good]
  | succ n ih =>
    intro pos d
    simp only [Den.splitLoop]
    split
    · rename_i hp
      rcases down1_cases (s.extend d) with hd | ⟨_, hd⟩
      · simp [hd, Good, bind, Except.bind]
      · simp only [hd, bind, Except.bind]
        have := splitFind_good hk sep { s.extend d with depth := (s.extend d).depth - 1 } pos hte (s.textEnd + 1 - pos) pos pos
          (Nat.le_refl _) hp (Nat.le_refl _) (by simp [St.extend]; omega)
        revert this
        cases Den.splitFind kd sep (s.textEnd + 1 - pos) { s.extend d with depth := (s.extend d).depth - 1 } pos pos with
        | error e => exact id
        | ok v =>
          obtain ⟨ce, p'⟩ := v
          intro h
          simp only at h
          simp only
          refine under_down_good hk sub { s.extend d with textEnd := ce } pos (by simp [St.extend] at h; show ce ≤ _; omega) h.1 _
            trivial fun p2 d2 _ _ => ?_
          show Good _ _ (if (p' == pos) = true then _ else _)
          split
          · trivial
          · exact ih p' (d.append d2)
    · exact ⟨hpos0, Nat.le_refl _⟩

theorem split_good (E : Env) {kd : DK ρ} (hk : DSafe E kd) (n : Nat) (sep r : ρ) (s : St) (pos : Nat)
    (hte : s.textEnd ≤ E.text.length) (hpos : pos ≤ s.textEnd) :
    Good s.textEnd pos (Den.step E kd n (.split sep r) s pos) := by
  simp only [Den.step]
  exact splitLoop_good hk sep r s pos hte hpos n pos {}

theorem step_good (E : Env) {kd : DK ρ} (hk : DSafe E kd) (n : Nat) (i : Instr ρ) (s : St) (pos : Nat)
    (hte : s.textEnd ≤ E.text.length) (hpos : pos ≤ s.textEnd) :
    Good s.textEnd pos (Den.step E kd n i s pos) :=
  match i with
  | .literal _ | .nchar _ | .notnchar _ | .range _ _ | .set _ | .gettag _ _ | .position _ | .line _ | .column _
  | .argument _ _ | .constant _ _ | .backmatch _ | .readint _ _ => leaf_good E n _ s pos hte hpos trivial
  | .capture _ _ | .capturenum _ _ _ | .drop _ | .onlytags _ | .group _ _ | .nth _ _ _ | .replace _ _ _ | .matchtime _ _ _
  | .error _ | .unref _ _ | .not _ => wrap_good E hk n _ s pos hte hpos trivial
  | .look off r => look_good E hk n off r s pos hte hpos
  | .accumulate r tag => accumulate_good E hk n r tag s pos hte hpos
  | .if_ a b => if_good E hk n a b s pos hte hpos
  | .ifnot a b => ifnot_good E hk n a b s pos hte hpos
  | .choice rs => choice_good E hk n rs s pos hte hpos
  | .sequence rs => sequence_good E hk n rs s pos hte hpos
  | .to r => to_good hk true r s pos hte hpos
  | .thru r => to_good hk false r s pos hte hpos
  | .between lo hi r => between_good E hk n lo hi r s pos hte hpos
  | .lenprefix a b => lenprefix_good E hk n a b s pos hte hpos
  | .sub a b => sub_good E hk n a b s pos hte hpos
  | .til a b => til_good E hk n a b s pos hte hpos
  | .split a b => split_good E hk n a b s pos hte hpos

theorem run_good (E : Env) (fetch : ρ → Option (Instr ρ)) : ∀ fuel, DSafe E (Den.run E fetch fuel) := by
  intro fuel
  induction fuel with
  | zero => intro r s pos _ _; simp [Den.run, Good]
  | succ f ih =>
    intro r s pos hte hpos
    simp only [Den.run]
    cases fetch r with
    | none => simp [Good]
    | some i => exact step_good E ih (f + 1) i s pos hte hpos

end JanetModel.Peg
