/- Correctness of the compile model: the simulation invariant of `compile1` and what follows from it. -/
import JanetModel.Peg.CompileLemmas
import JanetModel.Peg.CompileBeq
set_option linter.unusedSimpArgs false
namespace JanetModel.Peg
open Spec Compile JanetModel.Gen.Peg

/-- every grammar table knows its scope chain and nesting level, and its parent was allocated before it -/
def HeapWF (h : List Tbl) : Prop :=
  ∀ (id : Nat) (t : Tbl), h[id]? = some t → t.sc = t.rules :: scOf h t.proto ∧ t.level = levelOf h t.proto + 1 ∧ t.level < maxProtoDepth ∧
    (∀ p, t.proto = some p → p < id)

/-- the current grammar table, if any, is allocated -/
def GOk (h : List Tbl) (g : Option Nat) : Prop := ∀ id, g = some id → id < h.length

/-- `h'` has the tables of `h` with the same rules, parent, scope and level (only their caches may differ), and maybe more -/
def HeapExt (h h' : List Tbl) : Prop :=
  h.length ≤ h'.length ∧ ∀ (id : Nat) (t : Tbl), h[id]? = some t →
    ∃ t' : Tbl, h'[id]? = some t' ∧ t'.rules = t.rules ∧ t'.proto = t.proto ∧ t'.sc = t.sc ∧ t'.level = t.level

theorem HeapExt.refl (h : List Tbl) : HeapExt h h := ⟨Nat.le_refl _, fun _ t ht => ⟨t, ht, rfl, rfl, rfl, rfl⟩⟩

theorem HeapExt.trans {a b c : List Tbl} (h1 : HeapExt a b) (h2 : HeapExt b c) : HeapExt a c := by
  refine ⟨Nat.le_trans h1.1 h2.1, fun id t ht => ?_⟩
  obtain ⟨t1, e1, r1, p1, s1, l1⟩ := h1.2 id t ht
  obtain ⟨t2, e2, r2, p2, s2, l2⟩ := h2.2 id t1 e1
  exact ⟨t2, e2, r2.trans r1, p2.trans p1, s2.trans s1, l2.trans l1⟩

theorem HeapExt.scOf {h h' : List Tbl} (e : HeapExt h h') (g : Option Nat) (hg : GOk h g) : scOf h' g = scOf h g := by
  cases g with
  | none => rfl
  | some id =>
    have hid := hg id rfl
    have : h[id]? = some h[id] := List.getElem?_eq_getElem hid
    obtain ⟨t', e1, _, _, s1, _⟩ := e.2 id _ this
    simp [Compile.scOf, this, e1, s1]

theorem HeapExt.levelOf {h h' : List Tbl} (e : HeapExt h h') (g : Option Nat) (hg : GOk h g) : levelOf h' g = levelOf h g := by
  cases g with
  | none => rfl
  | some id =>
    have hid := hg id rfl
    have : h[id]? = some h[id] := List.getElem?_eq_getElem hid
    obtain ⟨t', e1, _, _, _, l1⟩ := e.2 id _ this
    simp [Compile.levelOf, this, e1, l1]

theorem GOk.ext {h h' : List Tbl} {g : Option Nat} (hg : GOk h g) (e : HeapExt h h') : GOk h' g :=
  fun id hid => Nat.lt_of_lt_of_le (hg id hid) e.1

theorem HeapWF.ext_put {h : List Tbl} (hwf : HeapWF h) (id : Nat) (f : Tbl → Tbl)
    (hf : ∀ t, (f t).rules = t.rules ∧ (f t).proto = t.proto ∧ (f t).sc = t.sc ∧ (f t).level = t.level) :
    HeapExt h (h.modify id f) ∧ HeapWF (h.modify id f) := by
  have hext : HeapExt h (h.modify id f) := by
    refine ⟨by simp, fun j t ht => ?_⟩
    by_cases hj : id = j
    · subst hj
      refine ⟨f t, by simp [List.getElem?_modify, ht], (hf t).1, (hf t).2.1, (hf t).2.2.1, (hf t).2.2.2⟩
    · exact ⟨t, by simp [List.getElem?_modify, hj, ht], rfl, rfl, rfl, rfl⟩
  refine ⟨hext, fun j t' ht' => ?_⟩
  have hjl : j < h.length := by
    have := (List.getElem?_eq_some_iff.mp ht').1; simpa using this
  have htj : h[j]? = some h[j] := List.getElem?_eq_getElem hjl
  obtain ⟨t'', e1, r1, p1, s1, l1⟩ := hext.2 j _ htj
  rw [e1] at ht'; cases ht'
  obtain ⟨w1, w2, w3, w4⟩ := hwf j _ htj
  have gp : GOk h h[j].proto := fun p hp => Nat.lt_trans (w4 p hp) hjl
  refine ⟨?_, ?_, ?_, ?_⟩
  · rw [s1, r1, p1, hext.scOf _ gp]; exact w1
  · rw [l1, p1, hext.levelOf _ gp]; exact w2
  · rw [l1]; exact w3
  · rw [p1]; exact w4

theorem lookupKw_resolve (heap : List Tbl) (hwf : HeapWF heap) : ∀ f g name, levelOf heap g < f → GOk heap g →
    match lookupKw heap f g name with
    | some (g', q) => g' < heap.length ∧ Spec.resolve (scOf heap g) name = some ⟨scOf heap (some g'), q⟩
    | none => Spec.resolve (scOf heap g) name = none := by
  intro f
  induction f with
  | zero => intro g name h; omega
  | succ f ih =>
    intro g name hl hg
    cases g with
    | none => simp [lookupKw, scOf, Spec.resolve]
    | some id =>
      have hid := hg id rfl
      have ht : heap[id]? = some heap[id] := List.getElem?_eq_getElem hid
      obtain ⟨w1, w2, w3, w4⟩ := hwf id _ ht
      have hsc : scOf heap (some id) = heap[id].rules :: scOf heap heap[id].proto := by
        simp only [scOf, ht]; exact w1
      simp only [lookupKw, ht]
      cases hs : lookupScope heap[id].rules name with
      | some p =>
        simp only []
        refine ⟨hid, ?_⟩
        rw [hsc, Spec.resolve, hs]
      | none =>
        simp only []
        have hl' : levelOf heap heap[id].proto < f := by
          simp only [levelOf, ht] at hl; omega
        have gp : GOk heap heap[id].proto := fun p hp => Nat.lt_trans (w4 p hp) hid
        have := ih heap[id].proto name hl' gp
        rw [hsc, Spec.resolve, hs]
        exact this

theorem levelOf_lt (heap : List Tbl) (hwf : HeapWF heap) (g : Option Nat) : levelOf heap g < maxProtoDepth + 1 := by
  cases g with
  | none => simp [levelOf]
  | some id =>
    simp only [levelOf]
    cases ht : heap[id]? with
    | none => simp
    | some t => have := (hwf id t ht).2.2.1; simp only []; omega

theorem resolveKw_ok (dflt : Scope) (heap : List Tbl) (hwf : HeapWF heap) : ∀ i g p g1 q il,
    resolveKw dflt heap i g p = some (g1, q, il) → GOk heap g →
    GOk heap g1 ∧ 1 ≤ il ∧ il ≤ i ∧ asRef q = none ∧
      ∀ n, fetchN dflt (n + (i - il)) ⟨scOf heap g, p⟩ = fetchN dflt n ⟨scOf heap g1, q⟩ := by
  intro i
  induction i with
  | zero => intro g p g1 q il h; simp [resolveKw] at h
  | succ i ih =>
    intro g p g1 q il h hg
    simp only [resolveKw] at h
    cases hr : asRef p with
    | none =>
      simp only [hr] at h
      cases h
      refine ⟨hg, by omega, Nat.le_refl _, hr, fun n => by simp⟩
    | some name =>
      simp only [hr] at h
      have hp := asRef_eq hr
      subst hp
      have hlk := lookupKw_resolve heap hwf (maxProtoDepth + 1) g name (levelOf_lt heap hwf g) hg
      cases hl : lookupKw heap (maxProtoDepth + 1) g name with
      | some gq =>
        obtain ⟨g', q'⟩ := gq
        simp only [hl] at h hlk
        obtain ⟨hg', hres⟩ := hlk
        obtain ⟨a1, a2, a3, a4, a5⟩ := ih (some g') q' g1 q il h (fun id hid => by cases hid; exact hg')
        refine ⟨a1, a2, by omega, a4, fun n => ?_⟩
        rw [show n + (i + 1 - il) = (n + (i - il)) + 1 by omega]
        rw [fetchN]
        simp only [hres]
        exact a5 n
      | none =>
        simp only [hl] at h hlk
        cases hd : lookupScope dflt name with
        | none => simp [hd] at h
        | some q' =>
          simp only [hd] at h
          obtain ⟨a1, a2, a3, a4, a5⟩ := ih g q' g1 q il h hg
          refine ⟨a1, a2, by omega, a4, fun n => ?_⟩
          rw [show n + (i + 1 - il) = (n + (i - il)) + 1 by omega]
          rw [fetchN]
          simp only [hlk, hd]
          exact a5 n
/-- a reserved rule whose header is not written yet: address, scope, form -/
abbrev Pend := Nat × List Scope × Patt

/-- words the header of `q` occupies -/
def szOf (q : Patt) : Nat := match shape q with | some i => encSize i | none => 0
/-- the scope a cache entry for `q` is valid in: primitives are cached globally, everything else per grammar table -/
def keySc (q : Patt) (sc : List Scope) : List Scope := if isPrim q then [] else sc

/-- at `a` stands the finished header of `q`: the encoding of its instruction, sub-rules at logged addresses -/
def DoneAt (b : B) (a : Nat) (sc : List Scope) (q : Patt) : Prop :=
  ∃ (i : Instr Patt) (addrs : List Nat) (cidx : Nat),
    shape q = some i ∧ addrs.length = i.kids.length ∧ hdrAt b.code a (encode (i.rebuild addrs) cidx) ∧
    constOk b.consts i cidx ∧ ∀ pr ∈ addrs.zip i.kids, (pr.1, (⟨sc, pr.2⟩ : Closure)) ∈ b.log

/-- the form compiles to a tag-reading instruction (spec_reference / spec_backmatch) -/
def TaggedPatt (q : Patt) : Prop := ∃ i, shape q = some i ∧ i.readsTags = true

/-- `a` is settled for `q`: still pending in `A`, or a finished header that no pending reservation overlaps (patching one
    later cannot disturb it) and that has raised `has_backref` if it reads tags -/
def Fin (A : List Pend) (b : B) (a : Nat) (sc : List Scope) (q : Patt) : Prop :=
  (a, sc, q) ∈ A ∨ (DoneAt b a sc q ∧ (∀ pe ∈ A, a + szOf q ≤ pe.1 ∨ pe.1 + szOf pe.2.2 ≤ a) ∧
    (TaggedPatt q → b.hasBackref = true))

/-- what a compile step keeps of the builder: code, constants, log and heap only grow, the flag is only raised -/
structure Frame (b b' : B) : Prop where
  len : b.code.length ≤ b'.code.length
  code : ∀ k, k < b.code.length → b'.code.getD k 0 = b.code.getD k 0
  consts : ∀ (k : Nat) (v : Val), b.consts[k]? = some v → b'.consts[k]? = some v
  log : ∀ x, x ∈ b.log → x ∈ b'.log
  heap : HeapExt b.heap b'.heap
  flag : b.hasBackref = true → b'.hasBackref = true

theorem Frame.refl (b : B) : Frame b b := ⟨Nat.le_refl _, fun _ _ => rfl, fun _ _ h => h, fun _ h => h, HeapExt.refl _, fun h => h⟩

theorem Frame.trans {a b c : B} (h1 : Frame a b) (h2 : Frame b c) : Frame a c :=
  ⟨Nat.le_trans h1.len h2.len, fun k hk => (h2.code k (Nat.lt_of_lt_of_le hk h1.len)).trans (h1.code k hk),
   fun k v h => h2.consts k v (h1.consts k v h), fun x h => h2.log x (h1.log x h), h1.heap.trans h2.heap,
   fun h => h2.flag (h1.flag h)⟩

/-- the simulation invariant: every cache entry and every logged (address, closure) pair is settled (`Fin`); a logged closure
    reaches its form within `maxHops` reference hops, the budget `Spec.fetch` has -/
structure Inv (dflt : Scope) (A : List Pend) (b : B) : Prop where
  prims : ∀ e ∈ b.prims, Fin A b e.2 [] e.1
  root : ∀ e ∈ b.root, Fin A b e.2 [] e.1
  heap : ∀ t ∈ b.heap, ∀ e ∈ t.cache, Fin A b e.2 t.sc e.1
  log : ∀ x ∈ b.log, ∃ sc q h, h ≤ maxHops ∧ (∀ n, fetchN dflt (n + h) x.2 = fetchN dflt n ⟨sc, q⟩) ∧ Fin A b x.1 (keySc q sc) q
  pend : ∀ pe ∈ A, pe.1 + szOf pe.2.2 ≤ b.code.length
  wf : HeapWF b.heap

theorem szOf_eq {q : Patt} {i : Instr Patt} (h : shape q = some i) : szOf q = encSize i := by simp [szOf, h]

theorem DoneAt.size {b : B} {a : Nat} {sc : List Scope} {q : Patt} (h : DoneAt b a sc q) : a + szOf q ≤ b.code.length := by
  obtain ⟨i, addrs, c, hs, hl, hh, _⟩ := h
  have := hh.1
  rw [encode_length i addrs c hl] at this
  rw [szOf_eq hs]; exact this

/-- a finished header survives anything that keeps its words -/
theorem DoneAt.mono {b b' : B} {a : Nat} {sc : List Scope} {q : Patt} (h : DoneAt b a sc q)
    (hlen : b.code.length ≤ b'.code.length)
    (hcode : ∀ k, a ≤ k → k < a + szOf q → b'.code.getD k 0 = b.code.getD k 0)
    (hconsts : ∀ (k : Nat) (v : Val), b.consts[k]? = some v → b'.consts[k]? = some v)
    (hlog : ∀ x, x ∈ b.log → x ∈ b'.log) : DoneAt b' a sc q := by
  have hsz := h.size
  obtain ⟨i, addrs, c, hs, hl, hh, hc, hk⟩ := h
  refine ⟨i, addrs, c, hs, hl, ⟨Nat.le_trans hh.1 hlen, fun k hk' => ?_⟩, ?_, fun pr hpr => hlog _ (hk pr hpr)⟩
  · rw [hcode (a + k) (by omega) (by rw [szOf_eq hs, ← encode_length i addrs c hl]; omega)]
    exact hh.2 k hk'
  · unfold constOk at hc ⊢
    cases hco : i.constOf with
    | none => simp
    | some v => simp only [hco] at hc ⊢; exact hconsts _ _ hc

theorem Fin.mono {A : List Pend} {b b' : B} {a : Nat} {sc : List Scope} {q : Patt} (h : Fin A b a sc q) (f : Frame b b') :
    Fin A b' a sc q := by
  rcases h with h | ⟨h, hd, hfl⟩
  · exact Or.inl h
  · have := h.size
    exact Or.inr ⟨h.mono f.len (fun k _ hk => f.code k (by omega)) f.consts f.log, hd, fun ht => f.flag (hfl ht)⟩

/-- a settled address lies inside the code: pending reservations and finished headers both do -/
theorem Fin.size {dflt : Scope} {A : List Pend} {b : B} {a : Nat} {sc : List Scope} {q : Patt} (hi : Inv dflt A b)
    (h : Fin A b a sc q) : a + szOf q ≤ b.code.length :=
  h.elim (hi.pend _) fun hd => hd.1.size

theorem Inv.mono_tables {dflt : Scope} {A : List Pend} {b b' : B} (hi : Inv dflt A b) (f : Frame b b')
    (hp : b'.prims = b.prims) (hr : b'.root = b.root) (hh : b'.heap = b.heap) (hl : b'.log = b.log) : Inv dflt A b' := by
  refine ⟨?_, ?_, ?_, ?_, ?_, ?_⟩
  · rw [hp]; exact fun e he => (hi.prims e he).mono f
  · rw [hr]; exact fun e he => (hi.root e he).mono f
  · rw [hh]; exact fun t ht e he => (hi.heap t ht e he).mono f
  · rw [hl]; intro x hx
    obtain ⟨sc, q, h, h1, h2, h3⟩ := hi.log x hx
    exact ⟨sc, q, h, h1, h2, h3.mono f⟩
  · exact fun pe hpe => Nat.le_trans (hi.pend pe hpe) f.len
  · rw [hh]; exact hi.wf
theorem patch_length (code : List Nat) (r : Nat) (ws : List Nat) : (patch code r ws).length = code.length := by simp [patch]

theorem patch_getD_in (code : List Nat) (r : Nat) (ws : List Nat) (k : Nat) (h1 : r ≤ k) (h2 : k < r + ws.length)
    (h3 : r + ws.length ≤ code.length) : (patch code r ws).getD k 0 = ws.getD (k - r) 0 := by
  have hk : k < code.length := by omega
  simp [patch, List.getD_eq_getElem?_getD, List.getElem?_map, List.getElem?_range, hk, h1, h2]

theorem patch_getD_out (code : List Nat) (r : Nat) (ws : List Nat) (k : Nat) (h : ¬ (r ≤ k ∧ k < r + ws.length)) :
    (patch code r ws).getD k 0 = code.getD k 0 := by
  by_cases hk : k < code.length
  · simp [patch, List.getD_eq_getElem?_getD, List.getElem?_map, List.getElem?_range, hk, h]
  · simp [patch, List.getD_eq_getElem?_getD, List.getElem?_map, List.getElem?_range, hk]

theorem lookupCache_some {c : List (Patt × Nat)} {q : Patt} {a : Nat} (h : lookupCache c q = some a) :
    ∃ e ∈ c, e.1.beq q = true ∧ e.2 = a := by
  unfold lookupCache at h
  cases hf : c.find? (fun e => e.1.beq q) with
  | none => simp [hf] at h
  | some e =>
    simp [hf] at h
    exact ⟨e, List.mem_of_find?_eq_some hf, by simpa using List.find?_some hf, h⟩

/-- every exit of `compile1` logs the address it returns: if that address is settled for the form the closure `c` reaches in
    `h` hops, the logged builder has what `Compile1Spec` promises about it -/
theorem Inv.addLog {dflt : Scope} {A : List Pend} {b b1 : B} (hi : Inv dflt A b1) (f : Frame b b1) {a h : Nat} {c : Closure}
    {sc : List Scope} {q : Patt} (hh : h ≤ maxHops) (hf : ∀ n, fetchN dflt (n + h) c = fetchN dflt n ⟨sc, q⟩)
    (hfin : Fin A b1 a (keySc q sc) q) :
    Inv dflt A (b1.addLog a c) ∧ Frame b (b1.addLog a c) ∧ (a, c) ∈ (b1.addLog a c).log ∧
      ∃ sc q, h ≤ maxHops ∧ (∀ n, fetchN dflt (n + h) c = fetchN dflt n ⟨sc, q⟩) ∧ Fin A (b1.addLog a c) a (keySc q sc) q := by
  have f1 : Frame b1 (b1.addLog a c) :=
    ⟨Nat.le_refl _, fun _ _ => rfl, fun _ _ h => h, fun x hx => List.mem_cons_of_mem _ hx, HeapExt.refl _, fun h => h⟩
  refine ⟨⟨fun e he => (hi.prims e he).mono f1, fun e he => (hi.root e he).mono f1,
    fun t ht e he => (hi.heap t ht e he).mono f1, ?_, hi.pend, hi.wf⟩, f.trans f1, List.mem_cons_self, sc, q, hh, hf, hfin.mono f1⟩
  intro x hx
  rcases List.mem_cons.mp hx with rfl | hx
  · exact ⟨sc, q, h, hh, hf, hfin.mono f1⟩
  · obtain ⟨sc, q, h, h1, h2, h3⟩ := hi.log x hx
    exact ⟨sc, q, h, h1, h2, h3.mono f1⟩

theorem getCache_fin {dflt : Scope} {A : List Pend} {b : B} (hi : Inv dflt A b) (g : Option Nat) (q : Patt) (a : Nat)
    (hg : GOk b.heap g) (h : getCache b g q = some a) : Fin A b a (keySc q (scOf b.heap g)) q := by
  unfold getCache at h
  by_cases hp : isPrim q = true
  · simp only [hp, if_true] at h
    obtain ⟨e, he, hb, rfl⟩ := lookupCache_some h
    have := Patt.beq_sound _ _ hb; subst this
    simpa [keySc, hp] using hi.prims e he
  · simp only [hp] at h
    cases g with
    | none =>
      simp only [] at h
      obtain ⟨e, he, hb, rfl⟩ := lookupCache_some h
      have := Patt.beq_sound _ _ hb; subst this
      simpa [keySc, hp, scOf] using hi.root e he
    | some id =>
      simp only [] at h
      cases ht : b.heap[id]? with
      | none => simp [ht] at h
      | some t =>
        simp only [ht] at h
        obtain ⟨e, he, hb, rfl⟩ := lookupCache_some h
        have := Patt.beq_sound _ _ hb; subst this
        have hm : t ∈ b.heap := List.mem_of_getElem? ht
        simpa [keySc, hp, scOf, ht] using hi.heap t hm e he

theorem Fin.push {A : List Pend} {b b1 : B} {a : Nat} {sc : List Scope} {q : Patt} (self : Pend)
    (h : Fin A b a sc q) (f : Frame b b1) (hs : b.code.length ≤ self.1) : Fin (self :: A) b1 a sc q := by
  rcases h with h | ⟨h, hd, hfl⟩
  · exact Or.inl (List.mem_cons_of_mem _ h)
  · have hsz := h.size
    refine Or.inr ⟨h.mono f.len (fun k _ hk => f.code k (by omega)) f.consts f.log, fun pe hpe => ?_, fun ht => f.flag (hfl ht)⟩
    rcases List.mem_cons.mp hpe with rfl | hpe
    · exact Or.inl (by omega)
    · exact hd pe hpe

/-- reserve + cache put: the new rule is pending -/
theorem Inv.push {dflt : Scope} {A : List Pend} {b : B} (hi : Inv dflt A b) (g1 : Option Nat) (q : Patt) (i : Instr Patt)
    (hg1 : GOk b.heap g1) (hsh : shape q = some i) :
    let b1 := reserve (putCache b g1 q b.code.length) (encSize i)
    let self : Pend := (b.code.length, keySc q (scOf b.heap g1), q)
    Inv dflt (self :: A) b1 ∧ Frame b b1 ∧ b1.code.length = b.code.length + encSize i ∧ scOf b1.heap g1 = scOf b.heap g1 ∧
      GOk b1.heap g1 := by
  intro b1 self
  have hcode : b1.code = b.code ++ List.replicate (encSize i) 0 := by
    simp only [b1, reserve, putCache]; split <;> (try split) <;> rfl
  have hconsts : b1.consts = b.consts := by
    simp only [b1, reserve, putCache]; split <;> (try split) <;> rfl
  have hlog : b1.log = b.log := by
    simp only [b1, reserve, putCache]; split <;> (try split) <;> rfl
  have hheap : HeapExt b.heap b1.heap ∧ HeapWF b1.heap := by
    simp only [b1, reserve, putCache]
    split
    · exact ⟨HeapExt.refl _, hi.wf⟩
    · split
      · exact ⟨HeapExt.refl _, hi.wf⟩
      · exact hi.wf.ext_put _ _ (fun t => ⟨rfl, rfl, rfl, rfl⟩)
  have hflag : b1.hasBackref = b.hasBackref := by
    simp only [b1, reserve, putCache]; split <;> (try split) <;> rfl
  have f : Frame b b1 := by
    refine ⟨by simp [hcode], fun k hk => ?_, by simp [hconsts], by simp [hlog], hheap.1, by simp [hflag]⟩
    rw [hcode, List.getD_eq_getElem?_getD, List.getD_eq_getElem?_getD, List.getElem?_append_left hk]
  have hself : self.1 = b.code.length := rfl
  have push : ∀ {a sc q'}, Fin A b a sc q' → Fin (self :: A) b1 a sc q' := fun h => h.push self f (Nat.le_of_eq hself.symm)
  have hnew : Fin (self :: A) b1 b.code.length (keySc q (scOf b.heap g1)) q := Or.inl (List.mem_cons_self)
  refine ⟨⟨?_, ?_, ?_, ?_, ?_, hheap.2⟩, f, by simp [hcode], hheap.1.scOf g1 hg1, hg1.ext hheap.1⟩
  · -- prims
    intro e he
    by_cases hp : isPrim q = true
    · have : b1.prims = (q, b.code.length) :: b.prims := by simp [b1, reserve, putCache, hp]
      rw [this] at he
      rcases List.mem_cons.mp he with rfl | he
      · simpa [keySc, hp] using hnew
      · exact push (hi.prims e he)
    · have : b1.prims = b.prims := by
        cases g1 <;> simp [b1, reserve, putCache, hp]
      rw [this] at he
      exact push (hi.prims e he)
  · -- root
    intro e he
    by_cases hp : isPrim q = true
    · have : b1.root = b.root := by simp [b1, reserve, putCache, hp]
      rw [this] at he
      exact push (hi.root e he)
    · cases g1 with
      | none =>
        have : b1.root = (q, b.code.length) :: b.root := by simp [b1, reserve, putCache, hp]
        rw [this] at he
        rcases List.mem_cons.mp he with rfl | he
        · simpa [keySc, hp, scOf] using hnew
        · exact push (hi.root e he)
      | some id =>
        have : b1.root = b.root := by simp [b1, reserve, putCache, hp]
        rw [this] at he
        exact push (hi.root e he)
  · -- heap
    intro t ht e he
    by_cases hp : isPrim q = true
    · have : b1.heap = b.heap := by simp [b1, reserve, putCache, hp]
      rw [this] at ht
      exact push (hi.heap t ht e he)
    · cases g1 with
      | none =>
        have : b1.heap = b.heap := by simp [b1, reserve, putCache, hp]
        rw [this] at ht
        exact push (hi.heap t ht e he)
      | some id =>
        have hh : b1.heap = b.heap.modify id (fun t => { t with cache := (q, b.code.length) :: t.cache }) := by
          simp [b1, reserve, putCache, hp]
        rw [hh] at ht
        obtain ⟨j, hj⟩ := List.getElem?_of_mem ht
        rw [List.getElem?_modify] at hj
        by_cases hij : id = j
        · subst hij
          simp only [if_true] at hj
          cases hb : b.heap[id]? with
          | none => simp [hb] at hj
          | some t0 =>
            simp [hb] at hj
            subst hj
            simp only [List.mem_cons] at he
            rcases he with rfl | he
            · simpa [keySc, hp, scOf, hb] using hnew
            · exact push (hi.heap t0 (List.mem_of_getElem? hb) e he)
        · simp only [hij, if_false] at hj
          cases hb : b.heap[j]? with
          | none => simp [hb] at hj
          | some t0 =>
            simp [hb] at hj
            subst hj
            exact push (hi.heap t0 (List.mem_of_getElem? hb) e he)
  · -- log
    intro x hx
    rw [hlog] at hx
    obtain ⟨sc, q', h, h1, h2, h3⟩ := hi.log x hx
    exact ⟨sc, q', h, h1, h2, push h3⟩
  · -- pend
    intro pe hpe
    rcases List.mem_cons.mp hpe with rfl | hpe
    · simp only [self, hcode, List.length_append, List.length_replicate, szOf_eq hsh]; omega
    · exact Nat.le_trans (hi.pend pe hpe) f.len


theorem emitConst_props {ρ : Type} (i : Instr ρ) (b2 : B) :
    (emitConst i b2).2.code = b2.code ∧ (emitConst i b2).2.log = b2.log ∧ (emitConst i b2).2.heap = b2.heap ∧
    (emitConst i b2).2.prims = b2.prims ∧ (emitConst i b2).2.root = b2.root ∧
    (∀ (k : Nat) (v : Val), b2.consts[k]? = some v → (emitConst i b2).2.consts[k]? = some v) ∧
    constOk (emitConst i b2).2.consts i (emitConst i b2).1 ∧ (emitConst i b2).2.hasBackref = b2.hasBackref := by
  unfold emitConst constOk
  cases hco : i.constOf with
  | none => simp
  | some v =>
    refine ⟨rfl, rfl, rfl, rfl, rfl, fun k v' h => ?_, by simp, rfl⟩
    have hk : k < b2.consts.length := (List.getElem?_eq_some_iff.mp h).1
    simp only []
    rw [List.getElem?_append_left hk]; exact h

/-- header patched: the pending rule is finished -/
theorem Inv.pop {dflt : Scope} {A : List Pend} {b2 b4 : B} (self : Pend) (hi : Inv dflt (self :: A) b2)
    (hlen : b4.code.length = b2.code.length)
    (hcode : ∀ k, ¬ (self.1 ≤ k ∧ k < self.1 + szOf self.2.2) → b4.code.getD k 0 = b2.code.getD k 0)
    (hconsts : ∀ (k : Nat) (v : Val), b2.consts[k]? = some v → b4.consts[k]? = some v)
    (hlog : b4.log = b2.log) (hheap : b4.heap = b2.heap) (hprims : b4.prims = b2.prims) (hroot : b4.root = b2.root)
    (hdone : DoneAt b4 self.1 self.2.1 self.2.2)
    (hA : ∀ pe ∈ A, pe.1 + szOf pe.2.2 ≤ self.1)
    (hflag : b2.hasBackref = true → b4.hasBackref = true) (hself : TaggedPatt self.2.2 → b4.hasBackref = true) :
    Inv dflt A b4 := by
  have pop : ∀ {a sc q}, Fin (self :: A) b2 a sc q → Fin A b4 a sc q := by
    intro a sc q h
    rcases h with h | ⟨hd, hdisj, hfl⟩
    · rcases List.mem_cons.mp h with h | h
      · have e1 : a = self.1 := by rw [← h]
        have e2 : sc = self.2.1 := by rw [← h]
        have e3 : q = self.2.2 := by rw [← h]
        subst e1 e2 e3
        exact Or.inr ⟨hdone, fun pe hpe => Or.inr (hA pe hpe), hself⟩
      · exact Or.inl h
    · have hs := hdisj self List.mem_cons_self
      refine Or.inr ⟨hd.mono (by omega) (fun k h1 h2 => hcode k (by omega)) hconsts (by rw [hlog]; exact fun _ h => h),
        fun pe hpe => hdisj pe (List.mem_cons_of_mem _ hpe), fun ht => hflag (hfl ht)⟩
  refine ⟨?_, ?_, ?_, ?_, ?_, by rw [hheap]; exact hi.wf⟩
  · rw [hprims]; exact fun e he => pop (hi.prims e he)
  · rw [hroot]; exact fun e he => pop (hi.root e he)
  · rw [hheap]; exact fun t ht e he => pop (hi.heap t ht e he)
  · rw [hlog]; intro x hx
    obtain ⟨sc, q, h, h1, h2, h3⟩ := hi.log x hx
    exact ⟨sc, q, h, h1, h2, pop h3⟩
  · intro pe hpe
    have := hi.pend self List.mem_cons_self
    have := hA pe hpe
    omega

/-- The hop budget: `Spec.fetch` follows references with fuel `maxHops + 1` (= the compiler's recursion guard), so a closure
    that reaches `c'` in `h ≤ maxHops` hops is fetched like `c'` with the fuel that is left, which is at least 1. -/
theorem fetch_of_hops {dflt : Scope} {c c' : Closure} {h : Nat} (hh : h ≤ maxHops)
    (hf : ∀ n, fetchN dflt (n + h) c = fetchN dflt n c') : Spec.fetch dflt c = fetchN dflt (maxHops - h + 1) c' := by
  rw [← hf, Spec.fetch, show maxHops - h + 1 + h = 1024 from by simp only [maxHops] at hh ⊢; omega]

/-- what one call `k b g p` of `peg_compile1` guarantees: the invariant is kept, the builder only grows, the returned address
    is a cached one or the first word reserved (so not beyond the code there was), it is logged for the closure of `p` and
    settled for the form it resolves to in `h` hops -/
def Compile1Spec (dflt : Scope) (k : B → Option Nat → Patt → Option (Nat × Nat × B)) : Prop :=
  ∀ b g p a h b', k b g p = some (a, h, b') → ∀ A, Inv dflt A b → GOk b.heap g →
    a ≤ b.code.length ∧ Inv dflt A b' ∧ Frame b b' ∧ (a, (⟨scOf b.heap g, p⟩ : Closure)) ∈ b'.log ∧
    ∃ sc q, h ≤ maxHops ∧ (∀ n, fetchN dflt (n + h) ⟨scOf b.heap g, p⟩ = fetchN dflt n ⟨sc, q⟩) ∧ Fin A b' a (keySc q sc) q

theorem kids_ok {dflt : Scope} {k : B → Option Nat → Patt → Option (Nat × Nat × B)} (hk : Compile1Spec dflt k) :
    ∀ ps b g addrs b', compileKids k b g ps = some (addrs, b') → ∀ A, Inv dflt A b → GOk b.heap g →
      Inv dflt A b' ∧ Frame b b' ∧ addrs.length = ps.length ∧
      ∀ pr ∈ addrs.zip ps, (pr.1, (⟨scOf b.heap g, pr.2⟩ : Closure)) ∈ b'.log := by
  intro ps
  induction ps with
  | nil =>
    intro b g addrs b' h A hi hg
    simp [compileKids] at h
    obtain ⟨rfl, rfl⟩ := h
    exact ⟨hi, Frame.refl _, rfl, by simp⟩
  | cons p ps ih =>
    intro b g addrs b' h A hi hg
    simp only [compileKids] at h
    cases h1 : k b g p with
    | none => simp [h1] at h
    | some r =>
      obtain ⟨a, hh, b1⟩ := r
      simp only [h1] at h
      cases h2 : compileKids k b1 g ps with
      | none => simp [h2] at h
      | some r2 =>
        obtain ⟨as, b2⟩ := r2
        simp only [h2] at h
        cases h
        obtain ⟨_, i1, f1, m1, _⟩ := hk b g p a hh b1 h1 A hi hg
        obtain ⟨i2, f2, l2, m2⟩ := ih b1 g as b' h2 A i1 (hg.ext f1.heap)
        refine ⟨i2, f1.trans f2, by simp [l2], fun pr hpr => ?_⟩
        simp only [List.zip_cons_cons, List.mem_cons] at hpr
        rcases hpr with rfl | hpr
        · exact f2.log _ m1
        · have := m2 pr hpr
          rwa [f1.heap.scOf g hg] at this

theorem compile1_step (dflt : Scope) (d : Nat) (ih : ∀ d', d = d' + 1 → Compile1Spec dflt (compile1 dflt d')) :
    Compile1Spec dflt (compile1 dflt d) := by
  intro b g p a h b' hc A hinv hg
  unfold compile1 at hc
  cases hres : resolveKw dflt b.heap Compile.guard g p with
  | none => simp [hres] at hc
  | some r =>
    obtain ⟨g1, q, il⟩ := r
    simp only [hres] at hc
    obtain ⟨hg1, hil1, hil2, hnr, hfetch⟩ := resolveKw_ok dflt b.heap hinv.wf Compile.guard g p g1 q il hres hg
    -- `guard = maxHops + 1`, and the lookup has used at least one unit of it
    have hgd : Compile.guard = 1024 := rfl
    have hkh : Compile.guard - il ≤ maxHops := by simp only [maxHops]; omega
    cases hcache : getCache b g1 q with
    | some a0 =>
      simp only [hcache] at hc
      cases hc
      have hfin := getCache_fin hinv g1 q a hg1 hcache
      exact ⟨Nat.le_trans (Nat.le_add_right _ _) (hfin.size hinv), hinv.addLog (Frame.refl b) hkh hfetch hfin⟩
    | none =>
      simp only [hcache] at hc
      cases d with
      | zero => simp at hc
      | succ d' =>
        simp only [] at hc
        have ihd := ih d' rfl
        cases hgr : asGrammar q with
        | some rules =>
          simp only [hgr] at hc
          have hq := asGrammar_eq hgr
          subst hq
          cases hm : lookupScope rules "main" with
          | none => simp [hm] at hc
          | some m =>
            simp only [hm] at hc
            by_cases hlv : levelOf b.heap g1 + 1 ≥ maxProtoDepth
            · simp [hlv] at hc
            · simp only [hlv, if_false] at hc
              let t : Tbl := ⟨rules, [], g1, levelOf b.heap g1 + 1, rules :: scOf b.heap g1⟩
              let b1 : B := { b with heap := b.heap ++ [t] }
              cases hrec : compile1 dflt d' b1 (some b.heap.length) m with
              | none => simp [b1, t, hrec] at hc
              | some r2 =>
                obtain ⟨a2, h2, b2⟩ := r2
                simp only [b1, t, hrec] at hc
                by_cases hh : Compile.guard - il + 1 + h2 > maxHops
                · simp [hh] at hc
                · simp only [hh, if_false] at hc
                  cases hc
                  -- the new table
                  have hext : HeapExt b.heap (b.heap ++ [t]) := by
                    refine ⟨by simp, fun id t0 ht0 => ⟨t0, ?_, rfl, rfl, rfl, rfl⟩⟩
                    have hid : id < b.heap.length := (List.getElem?_eq_some_iff.mp ht0).1
                    rw [List.getElem?_append_left hid]; exact ht0
                  have ht : (b.heap ++ [t])[b.heap.length]? = some t := by simp
                  have hwf1 : HeapWF (b.heap ++ [t]) := by
                    intro id t0 ht0
                    by_cases hid : id < b.heap.length
                    · rw [List.getElem?_append_left hid] at ht0
                      obtain ⟨w1, w2, w3, w4⟩ := hinv.wf id t0 ht0
                      have gp : GOk b.heap t0.proto := fun p hp => Nat.lt_trans (w4 p hp) hid
                      exact ⟨by rw [hext.scOf _ gp]; exact w1, by rw [hext.levelOf _ gp]; exact w2, w3, w4⟩
                    · have hid2 : id = b.heap.length := by
                        have := (List.getElem?_eq_some_iff.mp ht0).1
                        simp at this; omega
                      subst hid2
                      rw [ht] at ht0; cases ht0
                      refine ⟨by rw [hext.scOf _ hg1], by rw [hext.levelOf _ hg1], by simp only [t]; omega, fun p hp => hg1 p hp⟩
                  have f01 : Frame b b1 := ⟨Nat.le_refl _, fun _ _ => rfl, fun _ _ h => h, fun _ h => h, hext, fun h => h⟩
                  have hinv1 : Inv dflt A b1 := by
                    refine ⟨fun e he => (hinv.prims e he).mono f01, fun e he => (hinv.root e he).mono f01, ?_, ?_, hinv.pend, hwf1⟩
                    · intro t0 ht0 e he
                      simp only [b1, List.mem_append, List.mem_singleton] at ht0
                      rcases ht0 with ht0 | rfl
                      · exact (hinv.heap t0 ht0 e he).mono f01
                      · simp [t] at he
                    · intro x hx
                      obtain ⟨sc, q', h, h1, h2, h3⟩ := hinv.log x hx
                      exact ⟨sc, q', h, h1, h2, h3.mono f01⟩
                  have hg2 : GOk b1.heap (some b.heap.length) := by
                    intro id hid; cases hid; simp [b1]
                  obtain ⟨ha2, i2, f2, m2, sc', q', hh2, hf2, fin2⟩ := ihd b1 (some b.heap.length) m a h2 b2 hrec A hinv1 hg2
                  have hsc1 : scOf b1.heap (some b.heap.length) = rules :: scOf b.heap g1 := by
                    show (match (b.heap ++ [t])[b.heap.length]? with | some t => t.sc | none => []) = _
                    rw [ht]
                  rw [hsc1] at hf2
                  have hfe : ∀ n, fetchN dflt (n + (Compile.guard - il + 1 + h2)) (⟨scOf b.heap g, p⟩ : Closure) = fetchN dflt n ⟨sc', q'⟩ := by
                    intro n
                    rw [show n + (Compile.guard - il + 1 + h2) = (n + h2 + 1) + (Compile.guard - il) by omega, hfetch (n + h2 + 1)]
                    rw [fetchN]
                    simp only [hm]
                    exact hf2 n
                  have hle : Compile.guard - il + 1 + h2 ≤ maxHops := by omega
                  exact ⟨ha2, i2.addLog (f01.trans f2) hle hfe fin2⟩
        | none =>
          simp only [hgr] at hc
          cases hsh : shape q with
          | none => simp [hsh] at hc
          | some i =>
            simp only [hsh] at hc
            cases hkids : compileKids (compile1 dflt d') (reserve (putCache b g1 q b.code.length) (encSize i)) g1 i.kids with
            | none => simp [hkids] at hc
            | some r2 =>
              obtain ⟨addrs, b2⟩ := r2
              simp only [hkids] at hc
              cases hc
              have hp := hinv.push g1 q i hg1 hsh
              dsimp only at hp
              obtain ⟨ip, f01, hlen1, hsc1, hg1'⟩ := hp
              obtain ⟨i2, f12, hlen2, hmem⟩ := kids_ok ihd i.kids _ g1 addrs b2 hkids _ ip hg1'
              obtain ⟨c1, c2, c3, c4, c5, c6, c7, c8⟩ := emitConst_props i b2
              have hwl : (encode (i.rebuild addrs) (emitConst i b2).1).length = encSize i := encode_length i addrs _ hlen2
              have hsz : szOf q = encSize i := szOf_eq hsh
              have hb2len : b.code.length + encSize i ≤ b2.code.length := by have := f12.len; omega
              -- the finished rule
              let b4 : B := { (emitConst i b2).2 with
                    code := patch (emitConst i b2).2.code b.code.length (encode (i.rebuild addrs) (emitConst i b2).1),
                    hasBackref := (emitConst i b2).2.hasBackref || i.readsTags }
              have hdone : DoneAt b4
                  b.code.length (keySc q (scOf b.heap g1)) q := by
                refine ⟨i, addrs, (emitConst i b2).1, hsh, hlen2, ⟨?_, fun k hk => ?_⟩, c7, fun pr hpr => ?_⟩
                · simp only [b4, patch_length, c1, hwl]; exact hb2len
                · simp only [b4, c1]
                  rw [patch_getD_in _ _ _ _ (by omega) (by omega) (by rw [hwl]; exact hb2len), Nat.add_sub_cancel_left]
                · simp only [b4, c2]
                  by_cases hpq : isPrim q = true
                  · have := shape_prim_kids q i hpq hsh
                    rw [this] at hpr; simp at hpr
                  · have := hmem pr hpr
                    rw [hsc1] at this
                    simpa [keySc, hpq] using this
              have hselfflag : TaggedPatt q → b4.hasBackref = true := by
                rintro ⟨i', hs', ht'⟩
                rw [hsh] at hs'; cases hs'
                simp only [b4, ht', Bool.or_true]
              have i4 : Inv dflt A b4 := Inv.pop (b4 := b4) (b.code.length, keySc q (scOf b.heap g1), q) i2 (by simp [b4, patch_length, c1])
                (fun k hk => by
                  simp only [b4, c1]
                  exact patch_getD_out _ _ _ _ (by rw [hwl, ← hsz]; exact hk))
                c6 c2 c3 c4 c5 hdone (fun pe hpe => hinv.pend pe hpe)
                (fun h => by simp only [b4, c8, h, Bool.true_or]) hselfflag
              have hfin : Fin A b4
                  b.code.length (keySc q (scOf b.heap g1)) q :=
                Or.inr ⟨hdone, fun pe hpe => Or.inr (hinv.pend pe hpe), hselfflag⟩
              have f04 : Frame b b4 := by
                refine ⟨by simp only [b4, patch_length, c1]; omega, fun k hk => ?_, fun k v h => c6 k v (f12.consts k v (f01.consts k v h)),
                  fun x hx => by simp only [b4, c2]; exact f12.log x (f01.log x hx), by simp only [b4, c3]; exact f01.heap.trans f12.heap,
                  fun h => by simp only [b4, c8, f12.flag (f01.flag h), Bool.true_or]⟩
                simp only [b4, c1]
                rw [patch_getD_out _ _ _ _ (by omega), f12.code k (by omega), f01.code k hk]
              exact ⟨Nat.le_refl _, i4.addLog f04 hkh hfetch hfin⟩

theorem compile1_ok (dflt : Scope) : ∀ d, Compile1Spec dflt (compile1 dflt d) := by
  intro d
  induction d with
  | zero => exact compile1_step dflt 0 (fun d' h => by omega)
  | succ n ih => exact compile1_step dflt (n + 1) (fun d' h => by cases h; exact ih)

theorem constOf_rebuild {ρ σ : Type} [Inhabited σ] (i : Instr ρ) (ks : List σ) : (i.rebuild ks).constOf = i.constOf := by
  cases i <;> rfl

theorem Inv.empty (dflt : Scope) : Inv dflt [] B.empty :=
  ⟨by simp [B.empty], by simp [B.empty], by simp [B.empty], by simp [B.empty], by simp,
   fun id t h => by simp [B.empty] at h⟩

/-- the log of a successful compilation is a simulation between rule addresses of the emitted program and source closures -/
theorem compile_bisim (dflt : Scope) (p : Patt) (o : Output) (h : compile dflt p = some o) :
    (o.entry, (⟨[], p⟩ : Closure)) ∈ o.log ∧
    ∀ a c, (a, c) ∈ o.log → ∃ (i : Instr Patt) (as : List Nat) (bs : List Closure),
      decode o.program a = some (i.rebuild as) ∧ Spec.fetch dflt c = some (i.rebuild bs) ∧
      as.length = i.kids.length ∧ bs.length = i.kids.length ∧ (∀ pr ∈ as.zip bs, (pr.1, pr.2) ∈ o.log) ∧
      (o.hasBackref = false → i.readsTags = false) := by
  unfold compile at h
  cases hc : compile1 dflt Compile.guard B.empty none p with
  | none => simp [hc] at h
  | some r =>
    obtain ⟨a0, h0, b'⟩ := r
    simp only [hc] at h
    cases h
    obtain ⟨_, hinv, _, hmem, _⟩ := compile1_ok dflt Compile.guard B.empty none p a0 h0 b' hc [] (Inv.empty dflt)
      (fun id hid => by cases hid)
    refine ⟨by simpa [scOf, B.empty] using hmem, fun a c hac => ?_⟩
    obtain ⟨sc, q, hh, hh1, hh2, hfin⟩ := hinv.log (a, c) hac
    rcases hfin with hfin | ⟨hdone, _, hflag⟩
    · simp at hfin
    · obtain ⟨i, addrs, cidx, hsh, hlen, hhdr, hco, hk⟩ := hdone
      refine ⟨i, addrs, i.kids.map (fun k => (⟨sc, k⟩ : Closure)), ?_, ?_, hlen, by simp, ?_, ?_⟩
      rotate_right
      · intro hf
        cases hrt : i.readsTags with
        | false => rfl
        | true =>
          have := hflag ⟨i, hsh, hrt⟩
          have hf' : b'.hasBackref = false := hf
          rw [hf'] at this; cases this
      · apply decode_encode _ _ _ _ cidx (shape_encOk q i addrs hsh) hhdr
        unfold constOk at hco ⊢
        rw [constOf_rebuild]; exact hco
      · rw [fetch_of_hops hh1 hh2]
        exact shape_fetch dflt sc q i _ hsh
      · intro pr hpr
        by_cases hpq : isPrim q = true
        · have := shape_prim_kids q i hpq hsh
          rw [this] at hpr; simp at hpr
        · rw [List.zip_map_right] at hpr
          obtain ⟨pr0, hpr0, rfl⟩ := List.mem_map.mp hpr
          have := hk pr0 hpr0
          simpa [keySc, hpq] using this

theorem compile_sim (dflt : Scope) (p : Patt) (o : Output) (h : compile dflt p = some o) :
    (o.entry, (⟨[], p⟩ : Closure)) ∈ o.log ∧
    ∀ a c, (a, c) ∈ o.log → ∃ (i : Instr Patt) (as : List Nat) (bs : List Closure),
      decode o.program a = some (i.rebuild as) ∧ Spec.fetch dflt c = some (i.rebuild bs) ∧
      as.length = i.kids.length ∧ bs.length = i.kids.length ∧ ∀ pr ∈ as.zip bs, (pr.1, pr.2) ∈ o.log := by
  obtain ⟨h0, hs⟩ := compile_bisim dflt p o h
  refine ⟨h0, fun a c hac => ?_⟩
  obtain ⟨i, as, bs, h1, h2, h3, h4, h5, _⟩ := hs a c hac
  exact ⟨i, as, bs, h1, h2, h3, h4, h5⟩

/-- **denotation of the emitted program = denotation of the source**, every rule the compiler returned, every fuel -/
theorem compile_den_eq (E : Env) (dflt : Scope) (p : Patt) (o : Output) (h : compile dflt p = some o) (fuel : Nat) :
    Den.run E (decode o.program) fuel o.entry = Den.run E (Spec.fetch dflt) fuel ⟨[], p⟩ := by
  obtain ⟨h0, hsim⟩ := compile_sim dflt p o h
  exact bisim_run_eq (ρ := Patt) E (decode o.program) (Spec.fetch dflt) (fun a c => (a, c) ∈ o.log)
    (fun a c hac => hsim a c hac) fuel o.entry ⟨[], p⟩ h0
end JanetModel.Peg
