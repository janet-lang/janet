/-
Fuel monotonicity carried to the entry points peg/match, peg/find, peg/find-all, peg/replace, peg/replace-all (`Peg/Entry.lean`):
each is a loop over one match attempt `m : Matcher`, monotone in `m` for the flat order `Op.FLe`; a match attempt of the
operational model (`opMatcher`) resp. of the denotation (`denMatcher`) is monotone in its fuel.  Hence whatever an entry point
answers at some fuel - other than `Err.fuel` - it answers at every larger fuel.  Core Lean only.
-/
import JanetModel.Peg.FuelMono
import JanetModel.Peg.FuelMonoDen
import JanetModel.Peg.Entry

namespace JanetModel.Peg
namespace Entry
open Op (FLe)
variable {ρ : Type}

/-- matcher `m'` answers whatever `m` answers, unless `m` ran out of fuel -/
def MLe (m m' : Matcher) : Prop := ∀ start, FLe (m start) (m' start)

macro "emono" h:ident ih:term : tactic => `(tactic| repeat (first
  | exact FLe.refl _
  | exact $h _
  | exact $ih _
  | exact $ih _ _ _
  | refine FLe.bind ($h _) ?_
  | refine FLe.bind ($ih _) ?_
  | refine FLe.bind ($ih _ _ _) ?_
  | refine FLe.bind (FLe.refl _) ?_
  | refine FLe.ite (fun _ => ?_) (fun _ => ?_)
  | intro _
  | split))

theorem opMatcher_mono (E : Env) (fetch : ρ → Option (Instr ρ)) (main : ρ) (f g : Nat) (hfg : f ≤ g) (guard : Nat) :
    MLe (opMatcher E fetch main f guard) (opMatcher E fetch main g guard) := by
  intro start
  simp only [opMatcher]
  rcases Op.run_mono_le E fetch f g hfg main (initSt E guard) start with h | h
  · rw [h]; exact FLe.bot _
  · rw [h]; exact FLe.refl _

theorem denMatcher_mono (E : Env) (fetch : ρ → Option (Instr ρ)) (main : ρ) (f g : Nat) (hfg : f ≤ g) (guard : Nat) :
    MLe (denMatcher E fetch main f guard) (denMatcher E fetch main g guard) := by
  intro start
  simp only [denMatcher]
  rcases Den.run_mono_le E fetch f g hfg main (initSt E guard) start with h | h
  · rw [h]; exact FLe.bot _
  · rw [h]; exact FLe.refl _

theorem pegMatch_mono {m m' : Matcher} (h : MLe m m') (start : Nat) : FLe (pegMatch m start) (pegMatch m' start) := by
  simp only [pegMatch]
  emono h (fun (_ : Unit) => FLe.refl (Except.ok ()))

theorem findLoop_mono {m m' : Matcher} (h : MLe m m') : ∀ n i, FLe (findLoop m n i) (findLoop m' n i)
  | 0, i => FLe.refl _
  | n + 1, i => by
    have ih := findLoop_mono h n
    simp only [findLoop]
    emono h ih

theorem findAllLoop_mono {m m' : Matcher} (h : MLe m m') : ∀ n i, FLe (findAllLoop m n i) (findAllLoop m' n i)
  | 0, i => FLe.refl _
  | n + 1, i => by
    have ih := findAllLoop_mono h n
    simp only [findAllLoop]
    emono h ih

theorem replaceLoop_mono {m m' : Matcher} (h : MLe m m') (text : List Nat) (subst : Val) (onlyOne : Bool) :
    ∀ n i trail out, FLe (replaceLoop m text subst onlyOne n i trail out) (replaceLoop m' text subst onlyOne n i trail out)
  | 0, i, trail, out => FLe.refl _
  | n + 1, i, trail, out => by
    have ih := replaceLoop_mono h text subst onlyOne n
    simp only [replaceLoop]
    emono h ih

theorem pegFind_mono {m m' : Matcher} (h : MLe m m') (len start : Nat) : FLe (pegFind m len start) (pegFind m' len start) :=
  findLoop_mono h _ _

theorem pegFindAll_mono {m m' : Matcher} (h : MLe m m') (len start : Nat) :
    FLe (pegFindAll m len start) (pegFindAll m' len start) :=
  findAllLoop_mono h _ _

theorem pegReplace_mono {m m' : Matcher} (h : MLe m m') (text : List Nat) (subst : Val) (onlyOne : Bool) (start : Nat) :
    FLe (pegReplace m text subst onlyOne start) (pegReplace m' text subst onlyOne start) := by
  simp only [pegReplace]
  exact FLe.bind (replaceLoop_mono h text subst onlyOne _ _ _ _) (fun _ => FLe.refl _)

theorem entry_points_mono {m m' : Matcher} (h : MLe m m') (len start : Nat) (text : List Nat) (subst : Val) (one : Bool) :
    (pegMatch m start ≠ .error .fuel → pegMatch m' start = pegMatch m start)
    ∧ (pegFind m len start ≠ .error .fuel → pegFind m' len start = pegFind m len start)
    ∧ (pegFindAll m len start ≠ .error .fuel → pegFindAll m' len start = pegFindAll m len start)
    ∧ (pegReplace m text subst one start ≠ .error .fuel → pegReplace m' text subst one start = pegReplace m text subst one start) :=
  ⟨FLe.eq_of_ne (pegMatch_mono h start), FLe.eq_of_ne (pegFind_mono h _ start), FLe.eq_of_ne (pegFindAll_mono h _ start),
    FLe.eq_of_ne (pegReplace_mono h _ subst one start)⟩

end Entry
end JanetModel.Peg
