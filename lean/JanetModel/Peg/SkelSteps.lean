/-
Running a case body of the IR `Peg/Skel.lean` one statement at a time: each `execL_*` takes one statement or test off the front
of a concrete program (a loop-free body run by `exec` is run by `execL` too, `run_of_execL`).  For `while (c) body; rest` the
rule `loop_tie` does the induction once; its premise `Iter` is ONE pass through the loop next to ONE unfolding of the model's
loop function.  The equations of the three loop statements (`execL_loop`, `execL_downLoop`, `execL_downLoopW`: the loop, then
`thenRest`) are in `SkelCongr`, whose congruence needs them first.
-/
import JanetModel.Peg.SkelCongr

namespace JanetModel.Peg.TieSkel
open JanetModel.Peg JanetModel.Peg.Skel

variable {ρ : Type}

def liftRet (r : ORes) : Except Err Out := match r with | .error e => .error e | .ok x => .ok (.ret x)

section Steps
variable {E : Env} {k : OK ρ} {O : Operands ρ} {fuel : Nat} {st : Stmt} {c : Cond} {body rest t e : Prog} {L L' : Loc} {s s' : St}
  {x : Except Err Out}

theorem runL_of_execL {R : ORes} {p : Prog} {pos : Nat} (h : execL E k O fuel p (Loc.init pos) s = liftRet R) :
    runL E k O fuel p s pos = R := by
  rw [runL, h]; cases R <;> rfl

theorem execL_pure (h : execStmt E k O L s st = .ok (L', s')) (hr : execL E k O fuel rest L' s' = x) :
    execL E k O fuel (.seq st rest) L s = x := by
  simp only [execL, h]; exact hr

theorem execL_then (h : evalCond E O L s c = true) (hr : execL E k O fuel t L s = x) : execL E k O fuel (.ite c t e) L s = x := by
  simp only [execL, h]; exact hr

theorem execL_else (h : evalCond E O L s c = false) (hr : execL E k O fuel e L s = x) : execL E k O fuel (.ite c t e) L s = x := by
  simp only [execL, h]; exact hr

/-- a test of the C next to the proposition the model branches on; `F` is what surrounds the model's `if` -/
theorem execL_ite {α : Type} {P : Prop} [Decidable P] (F : α → Except Err Out) {a b : α} (hc : evalCond E O L s c = decide P)
    (ht : P → execL E k O fuel t L s = F a) (he : ¬ P → execL E k O fuel e L s = F b) :
    execL E k O fuel (.ite c t e) L s = F (if P then a else b) := by
  by_cases h : P
  · rw [if_pos h]; exact execL_then (hc.trans (decide_eq_true h)) (ht h)
  · rw [if_neg h]; exact execL_else (hc.trans (decide_eq_false h)) (he h)

theorem execL_bind {α : Type} {m : Except Err α} {g : α → Loc × St} {f : α → ORes}
    (h : execStmt E k O L s st = m >>= fun a => .ok (g a))
    (hr : ∀ a, m = .ok a → execL E k O fuel rest (g a).1 (g a).2 = liftRet (f a)) :
    execL E k O fuel (.seq st rest) L s = liftRet (m >>= f) := by
  simp only [execL, h]
  cases hm : m with
  | error e => rfl
  | ok a => exact hr a hm

theorem execL_valDef_slice {v a b pa pb : Nat} {f : List Nat → ORes} (ha : L.ptr a = some pa) (hb : L.ptr b = some pb)
    (h : ∀ t, E.slice s pa pb = .ok t → execL E k O fuel rest { L with val := upd L.val v (.str t) } s = liftRet (f t)) :
    execL E k O fuel (.seq (.valDef v (.slice a b)) rest) L s = liftRet (E.slice s pa pb >>= f) := by
  simp only [execL, execStmt, evalVE, ha, hb]
  cases hs : E.slice s pa pb with
  | error e => rfl
  | ok t => exact h t hs

theorem execL_valDef_capAt {v cs : Nat} {w : WE} {cap : Val} (h : s.caps[(L.cs cs).cap + evalWE O w]? = some cap)
    (hr : execL E k O fuel rest { L with val := upd L.val v cap } s = x) :
    execL E k O fuel (.seq (.valDef v (.capAt cs w)) rest) L s = x := by
  simp only [execL, execStmt, evalVE, h]; exact hr

theorem execL_valDef_replaceOf {v kk cs dep : Nat} {f : Val → ORes} (hd : s.depth = dep)
    (h : ∀ cap, execL E k O fuel rest { L with val := upd L.val v cap } s = liftRet (f cap)) :
    execL E k O fuel (.seq (.valDef v (.replaceOf kk cs)) rest) L s =
      liftRet (callGuard E dep (O.const kk) >>= fun _ => Op.replaceValue (O.const kk) s (L.cs cs) >>= f) := by
  subst hd
  simp only [execL, execStmt, evalVE]
  cases callGuard E s.depth (O.const kk) with
  | error e => rfl
  | ok u =>
    cases Op.replaceValue (O.const kk) s (L.cs cs) with
    | error e => rfl
    | ok cap => exact h cap

theorem execL_callOff {d a kk p : Nat} {re : RE} {r : ρ} {f : Option Nat × St → ORes} (hr : evalRE O L re = some r)
    (hp : L.ptr a = some p)
    (h : ∀ res s1, execL E k O fuel rest { L with ptr := upd L.ptr d res } s1 = liftRet (f (res, s1))) :
    execL E k O fuel (.seq (.callOff d re a kk) rest) L s = liftRet (k r s ((p : Int) + asInt32 (O.word kk)).toNat >>= f) := by
  simp only [execL, execStmt, hr, hp]
  cases k r s ((p : Int) + asInt32 (O.word kk)).toNat with
  | error e => rfl
  | ok x => exact h x.1 x.2

theorem execL_scanNum {n v a b kk pa pb base : Nat} {f : List Nat → ORes} (ha : L.ptr a = some pa) (hb : L.ptr b = some pb)
    (hw : O.word kk = base)
    (h : ∀ t, execL E k O fuel rest (match scanNumber t base with
        | none => { L with num := upd L.num n 1 }
        | some x => { L with num := upd L.num n 0, val := upd L.val v x }) s = liftRet (f t)) :
    execL E k O fuel (.seq (.scanNum n v a b kk) rest) L s = liftRet (E.slice s pa pb >>= f) := by
  subst hw
  simp only [execL, execStmt, ha, hb]
  cases E.slice s pa pb with
  | error e => rfl
  | ok t =>
    refine Eq.trans ?_ (h t)
    dsimp only [bind, Except.bind]
    cases scanNumber t (O.word kk) <;> rfl

theorem execL_down_ok {s0 : St} (hd : down1 s = .ok s0) (hr : execL E k O fuel rest L s0 = x) :
    execL E k O fuel (.seq .down rest) L s = x := by
  simp only [execL, execStmt, hd]; exact hr

theorem execL_down_err {err : Err} (hd : down1 s = .error err) : execL E k O fuel (.seq .down rest) L s = .error err := by
  simp only [execL, execStmt, hd]; rfl

theorem execL_endSet {y e : Nat} (hp : L.ptr y = some e) (hr : execL E k O fuel rest L { s with textEnd := e } = x) :
    execL E k O fuel (.seq (.endSet y) rest) L s = x := by
  simp only [execL, execStmt, hp]; exact hr

theorem execL_call {d kk a p : Nat} {r : ρ} {f : Option Nat × St → ORes} (hr : O.rule kk = some r) (hp : L.ptr a = some p)
    (h : ∀ res s1, k r s p = .ok (res, s1) → execL E k O fuel rest { L with ptr := upd L.ptr d res } s1 = liftRet (f (res, s1))) :
    execL E k O fuel (.seq (.call d kk a) rest) L s = liftRet (k r s p >>= f) := by
  simp only [execL, execStmt, hr, hp]
  cases hk : k r s p with
  | error e => rfl
  | ok x => exact h x.1 x.2 hk

theorem execL_call_ok {d kk a p : Nat} {r : ρ} {res : Option Nat} {s1 : St} (hr : O.rule kk = some r) (hp : L.ptr a = some p)
    (hk : k r s p = .ok (res, s1)) (h : execL E k O fuel rest { L with ptr := upd L.ptr d res } s1 = x) :
    execL E k O fuel (.seq (.call d kk a) rest) L s = x := by
  simp only [execL, execStmt, hr, hp, hk]; exact h

theorem execL_call_err {d kk a p : Nat} {r : ρ} {err : Err} (hr : O.rule kk = some r) (hp : L.ptr a = some p)
    (hk : k r s p = .error err) : execL E k O fuel (.seq (.call d kk a) rest) L s = .error err := by
  simp only [execL, execStmt, hr, hp, hk]; rfl

theorem execL_callE_ok {d a p : Nat} {re : RE} {r : ρ} {res : Option Nat} {s1 : St} (hr : evalRE O L re = some r)
    (hp : L.ptr a = some p) (hk : k r s p = .ok (res, s1)) (h : execL E k O fuel rest { L with ptr := upd L.ptr d res } s1 = x) :
    execL E k O fuel (.seq (.callE d re a) rest) L s = x := by
  simp only [execL, execStmt, hr, hp, hk]; exact h

theorem execL_callE_err {d a p : Nat} {re : RE} {r : ρ} {err : Err} (hr : evalRE O L re = some r) (hp : L.ptr a = some p)
    (hk : k r s p = .error err) : execL E k O fuel (.seq (.callE d re a) rest) L s = .error err := by
  simp only [execL, execStmt, hr, hp, hk]; rfl

theorem execL_ret {y p : Nat} (hp : L.ptr y = some p) : execL E k O fuel (.ret y) L s = .ok (.ret (some p, s)) := by
  rw [execL, hp]

theorem execL_tail {kk p : Nat} {r : ρ} (hr : O.rule kk = some r) (hp : L.ptr 0 = some p) :
    execL E k O fuel (.tail kk) L s = liftRet (k r s p) := by
  simp only [execL, hr, hp]; cases k r s p <;> rfl

theorem execL_tailE {p : Nat} {re : RE} {r : ρ} (hr : evalRE O L re = some r) (hp : L.ptr 0 = some p) :
    execL E k O fuel (.tailE re) L s = liftRet (k r s p) := by
  simp only [execL, hr, hp]; cases k r s p <;> rfl

theorem execL_accByte {acc y i p b : Nat} (hp : L.ptr y = some p) (hb : E.byte s (p + L.num i) = .ok b)
    (hr : execL E k O fuel rest { L with num := upd L.num acc ((L.num acc * 256 + b) % 18446744073709551616) } s = x) :
    execL E k O fuel (.seq (.accByte acc y i) rest) L s = x := by
  simp only [execL, execStmt, hp, hb]; exact hr

theorem execL_tagMove {w i : Nat} {tv : Nat × Val} (hi : s.tagged[L.num i]? = some tv) (hw : L.num w < s.tagged.length)
    (hr : execL E k O fuel rest L { s with tagged := s.tagged.set (L.num w) tv } = x) :
    execL E k O fuel (.seq (.tagMove w i) rest) L s = x := by
  simp only [execL, execStmt, hi, hw, if_true]; exact hr

theorem execL_valDef_taggedAt {v n : Nat} {tv : Nat × Val} (h : s.tagged[L.num n]? = some tv)
    (hr : execL E k O fuel rest { L with val := upd L.val v tv.2 } s = x) :
    execL E k O fuel (.seq (.valDef v (.taggedAt n)) rest) L s = x := by
  simp only [execL, execStmt, evalVE, h]; exact hr

theorem execL_cmpVal {n y v len p : Nat} {b : List Nat} {f : List Nat → ORes} (hp : L.ptr y = some p) (hv : L.val v = .str b)
    (h : ∀ t, execL E k O fuel rest { L with num := upd L.num n (if t == b.take (L.num len) then 0 else 1) } s = liftRet (f t)) :
    execL E k O fuel (.seq (.cmpVal n y v len) rest) L s = liftRet (E.slice s p (p + L.num len) >>= f) := by
  simp only [execL, execStmt, hp, hv]
  cases E.slice s p (p + L.num len) with
  | error e => rfl
  | ok t => exact h t

theorem execL_panicLast :
    execL E k O fuel .panicLast L s = liftRet (match s.caps.getLast? with | some v => .error (.user v) | none => .error .badop) := by
  rw [execL]
  cases s.caps.getLast? <;> rfl

end Steps

def loopFree : Prog → Bool
  | .seq _ rest => loopFree rest
  | .ite _ t e => loopFree t && loopFree e
  | .loop _ _ _ | .downLoop _ _ _ _ | .downLoopW _ _ _ _ | .cont | .brk => false
  | _ => true

theorem execL_of_loopFree (E : Env) (k : OK ρ) (O : Operands ρ) (fuel : Nat) :
    ∀ (p : Prog), loopFree p = true → ∀ L s, execL E k O fuel p L s = liftRet (exec E k O p L s) := by
  intro p
  induction p with
  | seq st rest ih =>
    intro h L s
    rw [execL, exec]
    cases execStmt E k O L s st with
    | error e => rfl
    | ok x => exact ih h x.1 x.2
  | ite c t e iht ihe =>
    intro h L s
    rw [loopFree, Bool.and_eq_true] at h
    rw [execL, exec]
    split
    · exact iht h.1 L s
    · exact ihe h.2 L s
  | tail kk | tailE re =>
    intro _ L s
    rw [execL, exec]
    split
    · rename_i r p _ _
      cases k r s p <;> rfl
    · rfl
  | panicLast =>
    intro _ L s
    rw [execL, exec]
    split <;> rfl
  | panicMatchErr x =>
    intro _ L s
    rw [execL, exec]
    split <;> rfl
  | loop | downLoop | downLoopW | cont | brk => intro h; cases h
  | _ => intro _ L s; rfl

theorem run_of_execL {E : Env} {k : OK ρ} {O : Operands ρ} {p : Prog} {s : St} {pos : Nat} {R : ORes} (h : loopFree p = true)
    (hx : execL E k O 0 p (Loc.init pos) s = liftRet R) : run E k O p s pos = R := by
  rw [execL_of_loopFree E k O 0 p h] at hx
  rw [run]
  revert hx
  cases exec E k O p (Loc.init pos) s <;> cases R <;> intro hx <;> cases hx <;> rfl

section Loop
variable {α β : Type} (Q : Except Err Out → β → Prop) (cond : Loc → St → Bool) (body rest : Loc → St → Except Err Out)
  (T : α → β) (Inv : α → Loc → St → Prop)

/-- One pass through `while (cond) body; rest` from locals `L` and state `s`, next to `y`: what the model's loop answers there
    after one unfolding with its recursive call `T`.  `Q o y`: the case body's outcome `o` is the model's `y` (`Eq` when `y` is
    written as an outcome). -/
inductive Iter (L : Loc) (s : St) (y : β) : Prop
  | stop (hc : cond L s = false) (hr : Q (rest L s) y)
  | err (e : Err) (hc : cond L s = true) (hb : body L s = .error e) (hy : Q (.error e) y)
  | brk (L' : Loc) (s' : St) (hc : cond L s = true) (hb : body L s = .ok (.brk L' s')) (hr : Q (rest L' s') y)
  | ret (r : Option Nat × St) (hc : cond L s = true) (hb : body L s = .ok (.ret r)) (hy : Q (.ok (.ret r)) y)
  | next (a' : α) (L' : Loc) (s' : St) (hc : cond L s = true) (hb : body L s = .ok (.cont L' s')) (hi : Inv a' L' s') (hy : y = T a')
end Loop

/-- The loop rule.  `T m a` is what the model's loop (and what the model does after it) answers at recursion argument `m` from its
    variables `a`; `Inv m a L s` says how `a` sits in the locals and the state; `FR m f` relates `m` to the fuel of the IR loop
    (`f = m` where the model's loop runs on fuel too, `m + 1 ≤ f` where `m` counts what is left to do). -/
theorem loop_tie {α β : Type} (Q : Except Err Out → β → Prop) {cond : Loc → St → Bool} {body rest : Loc → St → Except Err Out}
    (T : Nat → α → β) (Inv : Nat → α → Loc → St → Prop) (FR : Nat → Nat → Prop)
    (hFR : ∀ m f, FR (m + 1) f → ∃ f', f = f' + 1 ∧ FR m f')
    (hzero : ∀ f a L s, Inv 0 a L s → FR 0 f → Q (thenRest rest (loopN cond body f L s)) (T 0 a))
    (hiter : ∀ m a L s, Inv (m + 1) a L s → Iter Q cond body rest (T m) (Inv m) L s (T (m + 1) a)) :
    ∀ m f a L s, Inv m a L s → FR m f → Q (thenRest rest (loopN cond body f L s)) (T m a) := by
  intro m
  induction m with
  | zero => exact hzero
  | succ m ih =>
    intro f a L s hI hf
    obtain ⟨f', rfl, hf'⟩ := hFR m f hf
    cases hiter m a L s hI with
    | stop hc hr => rw [loopN, hc]; exact hr
    | err e hc hb hy => rw [loopN, hc, if_pos rfl, hb]; exact hy
    | brk L' s' hc hb hr => rw [loopN, hc, if_pos rfl, hb]; exact hr
    | ret r hc hb hy => rw [loopN, hc, if_pos rfl, hb]; exact hy
    | next a' L' s' hc hb hi hy => rw [hy, loopN, hc, if_pos rfl, hb]; exact ih f' a' L' s' hi hf'

/-- `FR` for a model loop that counts what is left to do: the IR loop needs one unit of fuel more, for the test that ends it -/
theorem loop_tie_count {α β : Type} (Q : Except Err Out → β → Prop) {cond : Loc → St → Bool} {body rest : Loc → St → Except Err Out}
    (T : Nat → α → β) (Inv : Nat → α → Loc → St → Prop)
    (hzero : ∀ a L s, Inv 0 a L s → cond L s = false ∧ Q (rest L s) (T 0 a))
    (hiter : ∀ m a L s, Inv (m + 1) a L s → Iter Q cond body rest (T m) (Inv m) L s (T (m + 1) a))
    {m f : Nat} {a : α} {L : Loc} {s : St} (hI : Inv m a L s) (hf : m + 1 ≤ f) :
    Q (thenRest rest (loopN cond body f L s)) (T m a) :=
  loop_tie Q T Inv (fun m f => m + 1 ≤ f) (fun m f h => ⟨f - 1, by omega, by omega⟩)
    (fun f a L s hI hf => by
      obtain ⟨f', rfl⟩ : ∃ f', f = f' + 1 := ⟨f - 1, by omega⟩
      obtain ⟨hc, hr⟩ := hzero a L s hI
      rw [loopN, hc]; exact hr) hiter m f a L s hI hf

end JanetModel.Peg.TieSkel
