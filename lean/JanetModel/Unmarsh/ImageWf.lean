/- C10: well-formedness theorems for accepted images, for ANY `Checks` with every check present. -/
import JanetModel.Unmarsh.Image
namespace JanetModel.Unmarsh

theorem Checks.eq_of_allOn {C : Checks} (h : C.allOn = true) :
    C = ⟨true, true, true, true, true, true, true, true, true, true, true, true, true⟩ := by
  cases C
  simp_all [Checks.allOn]

theorem acceptFrames_wf (C : Checks) (hC : C.allOn = true) :
    ∀ (fs : List FrameRec) (stack : Nat) (stacktop : Int) (top : Bool),
      acceptFrames C fs stack stacktop top = true → FramesWf fs stack stacktop top := by
  obtain rfl := Checks.eq_of_allOn hC
  intro fs
  induction fs with
  | nil =>
    intro stack stacktop top h
    simp only [acceptFrames, beq_iff_eq] at h
    subst h; exact FramesWf.done _ _ _
  | cons fr rest ih =>
    intro stack stacktop top h
    unfold acceptFrames at h
    by_cases hs : stack = 0
    · subst hs; exact FramesWf.done _ _ _
    · rw [if_neg hs] at h
      simp only [Bool.not_true, Bool.false_or, Bool.and_eq_true, decide_eq_true_eq, beq_iff_eq,
        Bool.or_eq_true, bne_iff_ne, ne_eq] at h
      obtain ⟨⟨⟨⟨⟨hsz, hpc⟩, hcall⟩, hprev⟩, hent⟩, hrest⟩ := h
      refine FramesWf.frame fr rest stack stacktop top ?_ ?_ hpc hprev ?_ ?_ (ih _ _ _ hrest)
      · simp only [frameSizeWords] at hprev ⊢; omega
      · omega
      · intro h0; rcases hent with h | h
        · exact absurd h0 h
        · exact h
      · intro ht; rcases hcall with h | h
        · rw [ht] at h; exact Bool.noConfusion h
        · exact h

/-- **fiber_image_wf** (generic): with every check present an accepted fiber image satisfies the full invariant -/
theorem fiber_image_wf_generic (C : Checks) (hC : C.allOn = true) (h : FiberHdr) (frames : List FrameRec)
    (hacc : acceptFiber C h frames = true) : FiberWf h frames := by
  obtain rfl := Checks.eq_of_allOn hC
  unfold acceptFiber at hacc
  simp only [Bool.not_true, Bool.false_or, Bool.and_eq_true, decide_eq_true_eq] at hacc
  obtain ⟨⟨⟨⟨⟨⟨hs1, hs2⟩, hs3⟩, hfr⟩, hst⟩, hf0⟩, hres⟩ := hacc
  have hf0' : resumable h.status = true → 0 < h.frame := by
    intro hr
    by_cases hz : h.frame = 0
    · exfalso
      have hd : h.status ≠ statusDead := by
        intro hd; rw [hd] at hr; exact absurd hr (by decide)
      simp [hz, hd] at hf0
    · omega
  refine ⟨⟨hs1, hs2, hs3⟩, Nat.le_add_right _ _, acceptFrames_wf _ rfl _ _ _ _ hfr, hst, hf0', ?_⟩
  intro hr
  have hpos := hf0' hr
  simp only [resumable_mustCheck _ hr, hpos, decide_true, Bool.and_self, Bool.not_true, Bool.false_or] at hres
  cases frames with
  | nil => simp at hres
  | cons fr rest =>
    simp only [Bool.and_eq_true, Bool.or_eq_true, decide_eq_true_eq] at hres
    exact ⟨fr, rest, rfl, hres.1, hres.2⟩

/-- **fiber_image_wf_partial**: what the baseline checks (stack setup, status range) give on their own -/
theorem fiber_image_wf_partial (C : Checks) (h1 : C.stackSetup = true) (h5 : C.statusRange = true) (h : FiberHdr)
    (frames : List FrameRec) (hacc : acceptFiber C h frames = true) : FiberWfPartial h frames := by
  unfold acceptFiber at hacc
  simp only [h1, h5, Bool.not_true, Bool.false_or, Bool.and_eq_true, decide_eq_true_eq] at hacc
  exact ⟨⟨hacc.1.1.1.1.1.1, hacc.1.1.1.1.1.2, hacc.1.1.1.1.2⟩, hacc.1.1.2⟩

theorem function_image_wf_generic (C : Checks) (hC : C.allOn = true) (len defEnvLen : Nat) (envs : List Int)
    (hacc : acceptFunction C len defEnvLen envs = true) : len = defEnvLen ∧ ∀ e ∈ envs, -1 ≤ e := by
  obtain rfl := Checks.eq_of_allOn hC
  simp only [acceptFunction, Bool.not_true, Bool.false_or, Bool.and_eq_true, beq_iff_eq, List.all_eq_true,
    decide_eq_true_eq] at hacc
  exact hacc

/-- **env_untrusted_checked** (generic): an on-stack environment built from an image carries a negative offset; with the
    flag `envValidBeforeDeref` of `C` set, such an offset counts as validated first and never as dereferenced unvalidated -/
theorem env_untrusted_checked_generic (C : Checks) (hC : C.allOn = true) (offset : Nat) (hpos : 0 < offset) :
    envOffsetStored C offset < 0 ∧ validatedFirst C (envOffsetStored C offset) = true ∧
    derefsUnvalidated C (envOffsetStored C offset) = false := by
  obtain rfl := Checks.eq_of_allOn hC
  simp only [envOffsetStored, if_true, validatedFirst, derefsUnvalidated, Bool.not_true, Bool.false_and,
    Bool.true_and, decide_eq_true_eq, and_true]
  omega

/-- witnesses: the baseline checks accept images that violate the invariant -/
def witnessFrame0 : FiberHdr := { status := 3, noUseval := false, noSkip := false, frame := 0, stackstart := 4, stacktop := 4, maxstack := 100 }

theorem fiber_frame0_witness :
    acceptFiber Checks.baseline witnessFrame0 [] = true ∧ ¬ FiberWf witnessFrame0 [] := by
  refine ⟨by decide, ?_⟩
  intro h
  have := h.resumableHasFrame (by decide)
  exact absurd this (by decide)

theorem function_env_count_witness : acceptFunction Checks.baseline 0 1 [-1] = true ∧ ¬ (0 = 1) := by decide

theorem def_env_index_witness : acceptFunction Checks.baseline 0 0 [-256] = true ∧ ¬ (∀ e ∈ [(-256 : Int)], -1 ≤ e) := by
  refine ⟨by decide, ?_⟩
  intro h; exact absurd (h (-256) (by simp)) (by decide)

end JanetModel.Unmarsh
