/- C10: accepted bytes ⇒ well-formed function objects.  Links the byte-level model (Unmarsh/Bytes.lean) to the image
   well-formedness predicate of Unmarsh/Image.lean / ImageWf.lean (`acceptFunction`, `function_image_wf_generic`):

   `Inv` is an invariant of the unmarshal state: every funcdef that is marked done carries an `environments` array of
   exactly `environments_length` entries, each ≥ -1; every function object whose `def` pointer is set points to a done
   funcdef and was allocated with exactly `def->environments_length` environment slots (`fnEnvs`, the `len` of LB_FUNCTION).
   Every action of the model preserves `Inv` and only EXTENDS the tables (`Ext`: entries present before a call are not
   changed by it) — given the two checks `def->environments_length != len` and `environments[i] < -1` (`Cfg.fnEnvCountChecked`,
   `Cfg.defEnvIndexChecked`, regenerated through Gen/ImageChecks).  Hence `unmarshal_functions_wf_generic`.
   Stated as Hoare triples over the state (`Hoare`): `Pres m` says that `m` keeps `Inv ∧ Ext s1` for every `s1`; the two
   bodies that write to the tables (`unmarshal_one_def`, `case LB_FUNCTION`) change the `s1` on the way. -/
import JanetModel.Unmarsh.BytesFrame
import JanetModel.Unmarsh.ImageWf
namespace JanetModel.Unmarsh.Bytes

variable {α β : Type}

structure DefOk (i : DefInfo) : Prop where
  undone : i.done = false → i.bytecode = []
  envs : i.done = true → i.envs.length = i.envLen ∧ ∀ e ∈ i.envs, -1 ≤ e

structure Inv (s : St) : Prop where
  defs : ∀ (i : Nat) (info : DefInfo), s.defs[i]? = some info → DefOk info
  funcs : ∀ (id di : Nat), s.funcs[id]? = some (some di) →
    ∃ info, s.defs[di]? = some info ∧ info.done = true ∧ s.fnEnvs[id]? = some info.envLen
  sizes : s.funcs.size = s.fnEnvs.size

/-- the tables only grow: what was there before is still there, unchanged -/
structure Ext (s s' : St) : Prop where
  defsLe : s.defs.size ≤ s'.defs.size
  defsEq : ∀ i : Nat, i < s.defs.size → s'.defs[i]? = s.defs[i]?
  funcsLe : s.funcs.size ≤ s'.funcs.size
  funcsEq : ∀ i : Nat, i < s.funcs.size → s'.funcs[i]? = s.funcs[i]?
  fnEnvsLe : s.fnEnvs.size ≤ s'.fnEnvs.size
  fnEnvsEq : ∀ i : Nat, i < s.fnEnvs.size → s'.fnEnvs[i]? = s.fnEnvs[i]?

def ArrExt {α : Type} (a a' : Array α) : Prop := a.size ≤ a'.size ∧ ∀ i : Nat, i < a.size → a'[i]? = a[i]?

namespace ArrExt
variable {α : Type} {a a' a'' : Array α} {x : α}

theorem refl (a : Array α) : ArrExt a a := ⟨Nat.le_refl _, fun _ _ => rfl⟩

theorem trans (h1 : ArrExt a a') (h2 : ArrExt a' a'') : ArrExt a a'' :=
  ⟨Nat.le_trans h1.1 h2.1, fun i hi => (h2.2 i (Nat.lt_of_lt_of_le hi h1.1)).trans (h1.2 i hi)⟩

theorem get (h : ArrExt a a') {i : Nat} {v : α} (hi : a[i]? = some v) : a'[i]? = some v := by
  rcases Nat.lt_or_ge i a.size with hl | hl
  · rw [h.2 i hl]; exact hi
  · rw [Array.getElem?_eq_none hl] at hi; cases hi

theorem push (a : Array α) (x : α) : ArrExt a (a.push x) :=
  ⟨by rw [Array.size_push]; omega, fun i hi => by rw [Array.getElem?_push, if_neg (by omega)]⟩

theorem size_lt (h : ArrExt (a.push x) a') : a.size < a'.size := by
  have := h.1; rw [Array.size_push] at this; omega

theorem get_pushed (h : ArrExt (a.push x) a') : a'[a.size]? = some x :=
  h.get (by rw [Array.getElem?_push, if_pos rfl])

theorem set (h : ArrExt (a.push x) a') (y : α) : ArrExt a (a'.setIfInBounds a.size y) :=
  ⟨by rw [Array.size_setIfInBounds]; exact Nat.le_of_lt h.size_lt,
   fun i hi => by rw [Array.getElem?_setIfInBounds, if_neg (by omega)]; exact ((push a x).trans h).2 i hi⟩

end ArrExt

theorem Ext.defs {s s' : St} (h : Ext s s') : ArrExt s.defs s'.defs := ⟨h.defsLe, h.defsEq⟩
theorem Ext.funcs {s s' : St} (h : Ext s s') : ArrExt s.funcs s'.funcs := ⟨h.funcsLe, h.funcsEq⟩
theorem Ext.fnEnvs {s s' : St} (h : Ext s s') : ArrExt s.fnEnvs s'.fnEnvs := ⟨h.fnEnvsLe, h.fnEnvsEq⟩

theorem Ext.of {s s' : St} (hd : ArrExt s.defs s'.defs) (hf : ArrExt s.funcs s'.funcs) (he : ArrExt s.fnEnvs s'.fnEnvs) :
    Ext s s' :=
  ⟨hd.1, hd.2, hf.1, hf.2, he.1, he.2⟩

theorem Ext.refl (s : St) : Ext s s := .of (.refl _) (.refl _) (.refl _)

theorem Ext.trans {s s' s'' : St} (h1 : Ext s s') (h2 : Ext s' s'') : Ext s s'' :=
  .of (h1.defs.trans h2.defs) (h1.funcs.trans h2.funcs) (h1.fnEnvs.trans h2.fnEnvs)

def SameTables (s s' : St) : Prop := s'.defs = s.defs ∧ s'.funcs = s.funcs ∧ s'.fnEnvs = s.fnEnvs

theorem SameTables.inv {s s' : St} (h : SameTables s s') (hI : Inv s) : Inv s' := by
  obtain ⟨h1, h2, h3⟩ := h
  exact ⟨by rw [h1]; exact hI.defs, by rw [h1, h2, h3]; exact hI.funcs, by rw [h2, h3]; exact hI.sizes⟩

theorem SameTables.ext {s s' : St} (h : SameTables s s') : Ext s s' :=
  .of (h.1 ▸ .refl _) (h.2.1 ▸ .refl _) (h.2.2 ▸ .refl _)

/-- partial correctness over the unmarshal state: started in a state in `A`, a successful run returns some `a` in a state
    in `B a` -/
def Hoare (A : St → Prop) (m : M α) (B : α → St → Prop) : Prop := ∀ c, A c.st → (m c).OnOk fun a c' => B a c'.st

theorem Hoare.bind {A : St → Prop} {m : M α} {B : α → St → Prop} {f : α → M β} {D : β → St → Prop}
    (hm : Hoare A m B) (hf : ∀ a, Hoare (B a) (f a) D) : Hoare A (m >>= f) D :=
  fun c h => (hm c h).bind fun a c1 h1 => hf a c1 h1

theorem Hoare.mono {A : St → Prop} {m : M α} {B B' : α → St → Prop} (h : Hoare A m B) (hb : ∀ a s, B a s → B' a s) :
    Hoare A m B' :=
  fun c hA => (h c hA).mono fun a c' => hb a c'.st

/-- a fact about the value just returned, moved from the precondition into the context -/
theorem Hoare.of_and {R : Prop} {A : St → Prop} {m : M α} {B : α → St → Prop} (h : R → Hoare A m B) :
    Hoare (fun s => R ∧ A s) m B :=
  fun c hA => h hA.1 c hA.2

theorem hoare_pure {A : St → Prop} {a : α} {B : α → St → Prop} (h : ∀ s, A s → B a s) : Hoare A (pure a : M α) B :=
  fun c hA => h c.st hA

/-- the continuation starts in exactly the state that was read -/
theorem hoare_getSt {A : St → Prop} {f : St → M β} {B : β → St → Prop} (h : ∀ s, A s → Hoare (· = s) (f s) B) :
    Hoare A (getSt >>= f) B :=
  fun c hA => h c.st hA c rfl

theorem hoare_modSt {A A' : St → Prop} {g : St → St} {f : Unit → M β} {B : β → St → Prop} (hg : ∀ s, A s → A' (g s))
    (hf : Hoare A' (f ()) B) : Hoare A (modSt g >>= f) B :=
  fun c hA => hf { c with st := g c.st } (hg c.st hA)

theorem hoare_modSt_at {s : St} {A' : St → Prop} {g : St → St} {f : Unit → M β} {B : β → St → Prop} (hg : A' (g s))
    (hf : Hoare A' (f ()) B) : Hoare (· = s) (modSt g >>= f) B :=
  hoare_modSt (fun _ e => e ▸ hg) hf

theorem hoare_expect {A : St → Prop} {ok : Bool} {e : Err} {f : Unit → M β} {B : β → St → Prop}
    (hf : ok = true → Hoare A (f ()) B) : Hoare A (expect ok e >>= f) B := by
  intro c hA
  rw [bind_run]
  unfold expect
  by_cases h : ok = true
  · rw [if_pos h]; exact hf h c hA
  · rw [if_neg h]; trivial

/-- the list collected from an action that keeps `A` and returns values satisfying `Q` -/
theorem hoare_collectN {A : St → Prop} {f : M α} {Q : α → Prop} (hf : Hoare A f fun a s => Q a ∧ A s) :
    ∀ k, Hoare A (collectN k f) fun l s => (l.length = k ∧ ∀ a ∈ l, Q a) ∧ A s
  | 0 => hoare_pure fun _ h => ⟨⟨rfl, fun _ ha => absurd ha List.not_mem_nil⟩, h⟩
  | k + 1 => by
    unfold collectN
    exact hf.bind fun a => Hoare.of_and fun ha => (hoare_collectN hf k).bind fun as => Hoare.of_and fun has =>
      hoare_pure fun _ h =>
        ⟨⟨by rw [List.length_cons, has.1], fun x hx => (List.mem_cons.mp hx).elim (fun e => e ▸ ha) (has.2 x)⟩, h⟩

def Neutral (m : M α) : Prop := ∀ c, (m c).OnOk fun _ c' => c'.st = c.st

theorem Neutral.hoare {m : M α} (h : Neutral m) {A : St → Prop} : Hoare A m fun _ => A :=
  fun c hA => (h c).mono fun _ _ e => e ▸ hA

/-- `Inv` holds and the tables extend those of `s1` -/
def Grows (s1 s : St) : Prop := Inv s ∧ Ext s1 s

/-- from a state satisfying `Inv`: on success the invariant holds again and the tables were only extended, so that they
    still extend whatever they extended before -/
def Pres (m : M α) : Prop := ∀ s1, Hoare (Grows s1) m fun _ => Grows s1

theorem Neutral.pres {m : M α} (h : Neutral m) : Pres m := fun _ => h.hoare

/-- started in any state that satisfies `Inv` and extends `s1`, a successful run ends in `Q`: `Hoare (Grows s1) m Q`, curried -/
def Tail (s1 : St) (Q : α → St → Prop) (m : M α) : Prop :=
  ∀ c, Inv c.st → Ext s1 c.st → match m c with
    | .ok a c' => Q a c'.st
    | _ => True

theorem tail_expect {s1 : St} {Q : β → St → Prop} {ok : Bool} {e : Err} {f : Unit → M β} (hf : ok = true → Tail s1 Q (f ())) :
    Tail s1 Q (expect ok e >>= f) :=
  fun c hI hE => hoare_expect (A := Grows s1) (fun h c' hA => hf h c' hA.1 hA.2) c ⟨hI, hE⟩

theorem neutral_pure {a : α} : Neutral (pure a : M α) := fun _ => rfl
theorem neutral_fail {e : Err} : Neutral (fail e : M α) := fun _ => trivial
theorem neutral_adv {k : Nat} : Neutral (adv k) := fun _ => rfl
theorem neutral_getSt : Neutral getSt := fun _ => rfl
theorem neutral_outOfFuel : Neutral (outOfFuel : M α) := fun _ => trivial

theorem neutral_bind {m : M α} {f : α → M β} (hm : Neutral m) (hf : ∀ a, Neutral (f a)) : Neutral (m >>= f) :=
  fun c => (hm c).bind fun a c1 e1 => (hf a c1).mono fun _ _ e2 => e2.trans e1

theorem neutral_ite {c : Prop} [Decidable c] {t e : M α} (ht : Neutral t) (he : Neutral e) : Neutral (if c then t else e) := by
  by_cases h : c
  · rw [if_pos h]; exact ht
  · rw [if_neg h]; exact he

theorem neutral_expect {ok : Bool} {e : Err} : Neutral (expect ok e) := by
  unfold expect; exact neutral_ite neutral_pure neutral_fail

theorem neutral_refGuard {a b' : Bool} {e : Err} {site : Nat} : Neutral (refGuard a b' e site) := by
  unfold refGuard
  exact neutral_ite neutral_pure (neutral_ite neutral_fail (fun _ => trivial))

variable {b : Array Nat}

theorem neutral_chk {s : Site} {v : Nat} : Neutral (chk b s v) := by
  intro c
  rcases chk_run (b := b) s v c with h | ⟨h, _⟩
  · rw [h]; exact trivial
  · rw [h]; exact rfl

theorem neutral_get {site off : Nat} : Neutral (get b site off) := by
  intro c
  unfold get
  cases b[c.pos + off]? with
  | none => trivial
  | some x => rfl

theorem neutral_getRange {site : Nat} : ∀ (k start : Nat), Neutral (getRange b site start k)
  | 0, _ => neutral_pure
  | k + 1, start => by
    unfold getRange
    exact neutral_bind neutral_get (fun _ => neutral_bind (neutral_getRange k (start + 1)) (fun _ => neutral_pure))

theorem neutral_peek {s : Site} {site : Nat} : Neutral (peek b s site) := by
  unfold peek; exact neutral_bind neutral_chk (fun _ => neutral_get)

theorem neutral_guarded {s : Site} {v site start k a : Nat} {g : List Nat → α} : Neutral (guarded b s v site start k a g) := by
  unfold guarded
  exact neutral_bind neutral_chk (fun _ => neutral_bind (neutral_getRange _ _) (fun _ => neutral_bind neutral_adv (fun _ => neutral_pure)))

variable {C : Cfg}

theorem neutral_readint : Neutral (readint C b) := by
  unfold readint
  refine neutral_bind neutral_peek (fun l => ?_)
  refine neutral_ite (neutral_bind neutral_adv (fun _ => neutral_pure)) ?_
  refine neutral_ite neutral_guarded ?_
  refine neutral_ite neutral_guarded neutral_fail

theorem neutral_readnat : Neutral (readnat C b) := by
  unfold readnat
  exact neutral_bind neutral_readint (fun _ => neutral_ite neutral_fail neutral_pure)

theorem neutral_read64 : Neutral (read64 C b) := by
  unfold read64
  refine neutral_bind neutral_peek (fun l => ?_)
  split
  · exact neutral_bind neutral_adv (fun _ => neutral_pure)
  · split
    · exact neutral_fail
    · exact neutral_guarded

theorem neutral_u32 : Neutral (u32 C b) := neutral_guarded
theorem neutral_ubyte : Neutral (ubyte C b) := neutral_guarded
theorem neutral_payload {s : Site} {site len : Nat} : Neutral (payload b s site len) := neutral_guarded
theorem neutral_ensure {size : Nat} : Neutral (ensure C b size) := neutral_chk

theorem pres_bind {m : M α} {f : α → M β} (hm : Pres m) (hf : ∀ a, Pres (f a)) : Pres (m >>= f) :=
  fun s1 => (hm s1).bind fun a => hf a s1

/-- sequencing inside a body whose postcondition is not `Grows s1` -/
theorem Pres.bind {m : M α} {f : α → M β} {s1 : St} {D : β → St → Prop} (hm : Pres m)
    (hf : ∀ a, Hoare (Grows s1) (f a) D) : Hoare (Grows s1) (m >>= f) D :=
  (hm s1).bind hf

theorem pres_ite {c : Prop} [Decidable c] {t e : M α} (ht : c → Pres t) (he : ¬ c → Pres e) : Pres (if c then t else e) := by
  by_cases h : c
  · rw [if_pos h]; exact ht h
  · rw [if_neg h]; exact he h

theorem pres_loopN {f : M Unit} (hf : Pres f) : ∀ k, Pres (loopN k f)
  | 0 => neutral_pure.pres
  | k + 1 => by
    unfold loopN
    exact pres_bind hf (fun _ => pres_loopN hf k)

theorem pres_collectN {f : M α} (hf : Pres f) (k : Nat) : Pres (collectN k f) :=
  fun s1 => (hoare_collectN (Q := fun _ => True) ((hf s1).mono fun _ _ h => ⟨trivial, h⟩) k).mono fun _ _ h => h.2

theorem pres_modSt_same {f : St → St} (h : ∀ s, SameTables s (f s)) : Pres (modSt f) :=
  fun _ c hG => ⟨(h c.st).inv hG.1, hG.2.trans (h c.st).ext⟩

theorem pres_pushLookup {v : V} : Pres (pushLookup v) := pres_modSt_same (fun _ => ⟨rfl, rfl, rfl⟩)

variable {C : Cfg} in
/-- one entry of `def->environments` as read and tested by `unmarshal_one_def` -/
theorem hoare_envIdx (hE : C.defEnvIndexChecked = true) {A : St → Prop} :
    Hoare A (readint C b >>= fun inh => expect (!C.defEnvIndexChecked || decide (-1 ≤ inh)) .envIdx >>= fun _ => (pure inh : M Int))
      fun inh s => -1 ≤ inh ∧ A s :=
  neutral_readint.hoare.bind fun _ => hoare_expect fun h => hoare_pure fun _ hA => ⟨by rw [hE] at h; simpa using h, hA⟩

/-- `janet_v_push(st->lookup_defs, def)` at the start of `unmarshal_one_def` -/
theorem inv_pushDef {s0 : St} (hI : Inv s0) :
    Inv { s0 with defs := s0.defs.push { done := false, slotcount := 0, envLen := 0, bytecode := [] } } := by
  refine ⟨fun i info h => ?_, fun id di h => ?_, hI.sizes⟩
  · simp only [Array.getElem?_push] at h
    split at h
    · cases h; exact ⟨fun _ => rfl, fun hd => absurd hd (by simp)⟩
    · exact hI.defs i info h
  · obtain ⟨info, h1, h2, h3⟩ := hI.funcs id di h
    exact ⟨info, (ArrExt.push _ _).get h1, h2, h3⟩

/-- the final write of `unmarshal_one_def`: `lookup_defs_done[index] = 1` with the fields read -/
theorem inv_setDef {s1 s0 s : St} {info' : DefInfo} (hok : DefOk info') (hX : Ext s1 s0)
    (hG : Grows { s0 with defs := s0.defs.push { done := false, slotcount := 0, envLen := 0, bytecode := [] } } s) :
    Grows s1 { s with defs := s.defs.setIfInBounds s0.defs.size info' } := by
  obtain ⟨hI, hE⟩ := hG
  have hD : ArrExt (s0.defs.push _) s.defs := hE.defs
  refine ⟨⟨fun i info h => ?_, fun id di h => ?_, hI.sizes⟩, hX.trans (.of (hD.set _) hE.funcs hE.fnEnvs)⟩
  · have h' : (s.defs.setIfInBounds s0.defs.size info')[i]? = some info := h
    rw [Array.getElem?_setIfInBounds] at h'
    split at h'
    · rw [if_pos hD.size_lt] at h'; cases h'; exact hok
    · exact hI.defs i info h'
  · obtain ⟨info, h1, h2, h3⟩ := hI.funcs id di h
    refine ⟨info, ?_, h2, h3⟩
    show (s.defs.setIfInBounds s0.defs.size info')[di]? = some info
    rw [Array.getElem?_setIfInBounds, if_neg]
    · exact h1
    · -- the slot written is the one pushed at the start, still not done; `info` is done
      intro hi
      rw [← hi, hD.get_pushed] at h1
      cases h1
      exact absurd h2 (by simp)

/-- `func = janet_gcalloc(.., sizeof(JanetFunction) + len * sizeof(JanetFuncEnv))`, `func->def = NULL` -/
theorem inv_pushFunc {s0 : St} (hI : Inv s0) (len : Nat) (lk : Array V) :
    Inv { s0 with funcs := s0.funcs.push none, fnEnvs := s0.fnEnvs.push len, lookup := lk } := by
  refine ⟨hI.defs, fun id di h => ?_, ?_⟩
  · have h' : (s0.funcs.push none)[id]? = some (some di) := h
    rw [Array.getElem?_push] at h'
    split at h'
    · cases h'
    · obtain ⟨info, h1, h2, h3⟩ := hI.funcs id di h'
      exact ⟨info, h1, h2, (ArrExt.push _ _).get h3⟩
  · show (s0.funcs.push none).size = (s0.fnEnvs.push len).size
    rw [Array.size_push, Array.size_push, hI.sizes]

/-- `func->def = def` after the two tests of `case LB_FUNCTION` -/
theorem inv_setFunc {s1 s0 s : St} {len di : Nat} {lk : Array V} (hC : C.fnEnvCountChecked = true) (hX : Ext s1 s0)
    (hG : Grows { s0 with funcs := s0.funcs.push none, fnEnvs := s0.fnEnvs.push len, lookup := lk } s)
    (h1 : decide (0 < (s.defs[di]?.getD default).bytecode.length) = true)
    (h2 : (!C.fnEnvCountChecked || decide ((s.defs[di]?.getD default).envLen = len)) = true) (hsz0 : s0.funcs.size = s0.fnEnvs.size) :
    Grows s1 { s with funcs := s.funcs.setIfInBounds s0.funcs.size (some di) } := by
  obtain ⟨hI, hE⟩ := hG
  rw [hC] at h2
  simp only [Bool.not_true, Bool.false_or, decide_eq_true_eq] at h1 h2
  have hF : ArrExt (s0.funcs.push none) s.funcs := hE.funcs
  have hfe : s.fnEnvs[s0.funcs.size]? = some len := hsz0 ▸ hE.fnEnvs.get_pushed
  -- the def is there, and done since it has bytecode
  cases hd : s.defs[di]? with
  | none =>
    rw [hd] at h1
    exact absurd h1 (by decide)
  | some info =>
    rw [hd] at h1 h2
    simp only [Option.getD_some] at h1 h2
    have hdone : info.done = true := by
      cases hdn : info.done with
      | true => rfl
      | false => rw [(hI.defs di info hd).undone hdn] at h1; simp at h1
    refine ⟨⟨hI.defs, fun id dj h => ?_, ?_⟩, hX.trans (.of hE.defs (hF.set _) ((ArrExt.push _ _).trans hE.fnEnvs))⟩
    · have h' : (s.funcs.setIfInBounds s0.funcs.size (some di))[id]? = some (some dj) := h
      rw [Array.getElem?_setIfInBounds] at h'
      split at h'
      · rename_i hi
        rw [if_pos hF.size_lt] at h'
        cases h'
        exact ⟨info, hd, hdone, by rw [← hi, hfe, h2]⟩
      · exact hI.funcs id dj h'
    · show (s.funcs.setIfInBounds _ _).size = s.fnEnvs.size
      rw [Array.size_setIfInBounds]; exact hI.sizes

/-- what the bodies assume of the previous fuel level -/
structure PGood (P : Fns) : Prop where
  one : ∀ d, Pres (P.one d)
  def_ : ∀ d, Pres (P.def_ d)
  env : ∀ d, Pres (P.env d)

theorem neutral_optNat {c : Bool} {m : M Nat} (h : Neutral m) : Neutral (optNat c m) := neutral_ite h neutral_pure

section bodies
variable {P : Fns} (hP : PGood P)
include hP

theorem pres_envBody (d : Nat) : Pres (envBody C b P d) :=
  pres_bind neutral_peek.pres fun _ => pres_ite
    (fun _ => (neutral_bind neutral_adv fun _ => neutral_bind neutral_readint fun _ => neutral_bind neutral_getSt fun _ =>
      neutral_refGuard).pres)
    fun _ => pres_bind (pres_modSt_same fun _ => ⟨rfl, rfl, rfl⟩) fun _ => pres_bind neutral_readnat.pres fun _ =>
      pres_bind neutral_readnat.pres fun _ =>
      pres_ite (fun _ => pres_bind (hP.one _) fun _ => neutral_expect.pres) fun _ =>
      pres_ite (fun _ => neutral_fail.pres) fun _ => pres_loopN (pres_bind (hP.one _) fun _ => neutral_pure.pres) _

theorem pres_symEntry (d : Nat) : Pres (symEntry C b P d) :=
  pres_bind neutral_readint.pres fun _ => pres_bind neutral_readint.pres fun _ => pres_bind neutral_readint.pres fun _ =>
  pres_bind (hP.one _) fun _ => pres_bind neutral_expect.pres fun _ => neutral_pure.pres

theorem pres_defBody (hE : C.defEnvIndexChecked = true) (d : Nat) : Pres (defBody C b P d) :=
  pres_ite (fun _ => neutral_fail.pres) fun _ => pres_bind neutral_peek.pres fun _ => pres_ite
    (fun _ => (neutral_bind neutral_adv fun _ => neutral_bind neutral_readint fun _ => neutral_bind neutral_getSt fun _ =>
      neutral_bind neutral_refGuard fun _ => neutral_bind neutral_expect fun _ => neutral_pure).pres)
    fun _ s1 => hoare_getSt fun s0 h0 =>
      -- between the push and the final write everything runs from an extension of the pushed state
      hoare_modSt_at (A' := Grows _) ⟨inv_pushDef h0.1, Ext.refl _⟩ <|
      neutral_readint.pres.bind fun _ => neutral_readnat.pres.bind fun _ => hoare_expect fun _ =>
      neutral_readnat.pres.bind fun _ => neutral_readnat.pres.bind fun _ => neutral_readnat.pres.bind fun _ =>
      neutral_readnat.pres.bind fun _ => neutral_readnat.pres.bind fun _ =>
      (neutral_optNat neutral_readnat).pres.bind fun _ => (neutral_optNat neutral_readnat).pres.bind fun _ =>
      (neutral_optNat neutral_readnat).pres.bind fun _ =>
      (pres_ite (fun _ => pres_bind (hP.one _) fun _ => neutral_expect.pres) fun _ => neutral_pure.pres).bind fun _ =>
      (pres_ite (fun _ => pres_bind (hP.one _) fun _ => neutral_expect.pres) fun _ => neutral_pure.pres).bind fun _ =>
      (pres_loopN (pres_bind (hP.one _) fun _ => neutral_pure.pres) _).bind fun _ =>
      (pres_collectN (pres_symEntry hP d) _).bind fun _ =>
      (pres_collectN neutral_u32.pres _).bind fun _ =>
      (hoare_collectN (hoare_envIdx hE) _).bind fun _ => Hoare.of_and fun henvs =>
      (pres_loopN (pres_bind (hP.def_ _) fun _ => neutral_pure.pres) _).bind fun _ =>
      (pres_ite (fun _ => pres_loopN
        (neutral_bind neutral_readint fun _ => neutral_bind neutral_readint fun _ => neutral_pure).pres _)
        fun _ => neutral_pure.pres).bind fun _ =>
      (pres_ite (fun _ => pres_loopN (neutral_bind neutral_u32 fun _ => neutral_pure).pres _)
        fun _ => neutral_pure.pres).bind fun _ =>
      hoare_expect fun _ =>
      hoare_modSt (fun _ => inv_setDef ⟨fun hd => absurd hd (by simp), fun _ => henvs⟩ h0.2) (hoare_pure fun _ h => h)

theorem pres_frameLoop (d frame : Nat) : ∀ (k stack : Nat) (stacktop : Int) (top : Option TopFrame),
    Pres (frameLoop C b P d frame k stack stacktop top)
  | 0, _, _, _ => neutral_outOfFuel.pres
  | k + 1, stack, stacktop, top => by
    unfold frameLoop
    refine pres_ite (fun _ => neutral_pure.pres) fun _ => pres_bind neutral_readint.pres fun _ =>
      pres_bind neutral_readnat.pres fun _ => pres_bind neutral_readnat.pres fun _ => pres_bind (hP.one _) fun fv =>
      pres_bind neutral_getSt.pres fun s => ?_
    split
    · split
      · exact neutral_fail.pres
      · exact pres_bind (pres_ite (fun _ => hP.env _) fun _ => neutral_pure.pres) fun _ =>
          pres_bind neutral_expect.pres fun _ => pres_bind neutral_expect.pres fun _ => pres_bind neutral_expect.pres fun _ =>
          pres_bind neutral_expect.pres fun _ => pres_bind neutral_expect.pres fun _ =>
          pres_bind (pres_loopN (pres_bind (hP.one _) fun _ => neutral_pure.pres) _) fun _ => pres_frameLoop d frame k _ _ _
    · exact neutral_fail.pres

theorem pres_fiberBody (d : Nat) : Pres (fiberBody C b P d) := by
  unfold fiberBody
  refine pres_bind neutral_getSt.pres fun s0 => pres_bind (pres_modSt_same fun _ => ⟨rfl, rfl, rfl⟩) fun _ =>
    pres_bind neutral_readint.pres fun _ => pres_bind neutral_readnat.pres fun _ => pres_bind neutral_readnat.pres fun _ =>
    pres_bind neutral_readnat.pres fun _ => pres_bind neutral_readnat.pres fun _ => pres_bind neutral_expect.pres fun _ =>
    pres_bind (pres_frameLoop hP d _ _ _ _ _) fun top =>
    pres_bind (pres_ite (fun _ => pres_bind (hP.one _) fun _ => neutral_expect.pres) fun _ => neutral_pure.pres) fun _ =>
    pres_bind (pres_ite (fun _ => pres_bind (hP.one _) fun v => ?child) fun _ => neutral_pure.pres) fun _ =>
    pres_bind (hP.one _) fun _ => pres_bind neutral_expect.pres fun _ => pres_bind neutral_expect.pres fun _ =>
    pres_bind (pres_ite (fun _ => ?top) fun _ => neutral_pure.pres) fun _ => neutral_pure.pres
  case child =>
    split
    · exact pres_bind neutral_getSt.pres fun _ => pres_ite (fun _ => neutral_fail.pres) fun _ =>
        pres_modSt_same fun _ => ⟨rfl, rfl, rfl⟩
    · exact neutral_fail.pres
  case top =>
    split
    · exact (neutral_bind neutral_expect fun _ => neutral_expect).pres
    · exact neutral_pure.pres

/-- **the FUNCTION case**: from any state satisfying `Inv`, an accepted `case LB_FUNCTION` returns the function object it
    pushed, that object's `def` is set, and the state satisfies `Inv` again -/
theorem functionBody_spec (hF : C.fnEnvCountChecked = true) (d : Nat) (s1 : St) :
    Hoare (Grows s1) (functionBody C b P d)
      fun v s' => Grows s1 s' ∧ ∃ id di, v = .func id ∧ s'.funcs[id]? = some (some di) :=
  neutral_readnat.pres.bind fun len => hoare_expect fun _ => hoare_getSt fun s0 h0 =>
  hoare_modSt_at (A' := Grows _) ⟨inv_pushFunc h0.1 len _, Ext.refl _⟩ <|
  (hP.def_ _).bind fun di => hoare_getSt fun s h => hoare_expect fun h1 => hoare_expect fun h2 =>
  have hset := inv_setFunc hF h0.2 h h1 h2 h0.1.sizes
  hoare_modSt_at (A' := Grows _) ⟨hset.1, Ext.refl _⟩ <|
  (pres_loopN (hP.env _) _).bind fun _ => hoare_pure fun _ h' =>
    ⟨⟨h'.1, hset.2.trans h'.2⟩, _, di, rfl, h'.2.funcs.get (by
      show (s.funcs.setIfInBounds s0.funcs.size (some di))[s0.funcs.size]? = _
      rw [Array.getElem?_setIfInBounds, if_pos rfl, if_pos (ArrExt.size_lt h.2.funcs)])⟩

theorem pres_functionBody (hF : C.fnEnvCountChecked = true) (d : Nat) : Pres (functionBody C b P d) :=
  fun s1 => (functionBody_spec hP hF d s1).mono fun _ _ h => h.1

theorem pres_pegBody (d : Nat) : Pres (pegBody C b P d) :=
  pres_bind neutral_read64.pres fun _ => pres_bind neutral_readint.pres fun _ =>
  pres_bind (neutral_ite (neutral_bind neutral_expect fun _ => neutral_ite neutral_ensure neutral_pure) neutral_pure).pres
    fun _ =>
  pres_bind pres_pushLookup fun _ =>
  pres_bind (pres_collectN (neutral_bind neutral_readint fun _ => neutral_pure).pres _) fun _ =>
  pres_bind (pres_loopN (pres_bind (hP.one _) fun _ => neutral_pure.pres) _) fun _ => neutral_expect.pres

theorem pres_chanBody (d : Nat) : Pres (chanBody C b P d) :=
  pres_bind neutral_ubyte.pres fun _ => pres_bind (pres_ite (fun _ => neutral_fail.pres) fun _ => pres_pushLookup) fun _ =>
  pres_bind neutral_ubyte.pres fun _ => pres_bind neutral_readint.pres fun _ => pres_bind neutral_readint.pres fun _ =>
  pres_bind neutral_expect.pres fun _ => pres_loopN (pres_bind (hP.one _) fun _ => neutral_pure.pres) _

theorem pres_abstractBody (d : Nat) : Pres (abstractBody C b P d) := by
  unfold abstractBody
  refine pres_bind (hP.one _) fun key => ?_
  split
  · split
    · exact neutral_fail.pres
    · exact pres_bind (
        pres_ite (fun _ => pres_bind pres_pushLookup fun _ => pres_bind neutral_read64.pres fun _ => neutral_pure.pres) fun _ =>
        pres_ite (fun _ => pres_bind pres_pushLookup fun _ =>
          pres_loopN (neutral_bind neutral_readint fun _ => neutral_pure).pres _) fun _ =>
        pres_ite (fun _ => neutral_fail.pres) fun _ => pres_ite (fun _ => neutral_fail.pres) fun _ =>
        pres_ite (fun _ => pres_chanBody hP d) fun _ => pres_ite (fun _ => pres_pegBody hP d) fun _ => neutral_fail.pres)
        fun _ => neutral_pure.pres
  · exact neutral_fail.pres

theorem pres_containerBody (d lead : Nat) : Pres (containerBody C b P d lead) :=
  pres_bind neutral_readnat.pres fun _ => pres_bind (neutral_ite neutral_pure neutral_chk).pres fun _ =>
  pres_ite (fun _ => pres_bind pres_pushLookup fun _ =>
    pres_bind (pres_loopN (pres_bind (hP.one _) fun _ => neutral_pure.pres) _) fun _ => neutral_pure.pres) fun _ =>
  pres_ite (fun _ => pres_bind neutral_readint.pres fun _ =>
    pres_bind (pres_loopN (pres_bind (hP.one _) fun _ => neutral_pure.pres) _) fun _ =>
    pres_bind pres_pushLookup fun _ => neutral_pure.pres) fun _ =>
  pres_ite (fun _ =>
    pres_bind (pres_ite (fun _ => pres_bind (hP.one _) fun _ => neutral_expect.pres) fun _ => neutral_pure.pres) fun _ =>
    pres_bind (pres_loopN (pres_bind (hP.one _) fun _ => pres_bind (hP.one _) fun _ => neutral_pure.pres) _) fun _ =>
    pres_bind pres_pushLookup fun _ => neutral_pure.pres) fun _ =>
  pres_ite (fun _ => (neutral_bind neutral_getSt fun _ => neutral_bind neutral_refGuard fun _ => neutral_pure).pres) fun _ =>
  pres_bind pres_pushLookup fun _ =>
  pres_bind (pres_ite (fun _ => pres_bind (hP.one _) fun _ => neutral_expect.pres) fun _ => neutral_pure.pres) fun _ =>
  pres_bind (pres_loopN (pres_bind (hP.one _) fun _ => pres_bind (hP.one _) fun _ => neutral_pure.pres) _) fun _ =>
  neutral_pure.pres

omit hP in
theorem pres_bytesBody (lead : Nat) : Pres (bytesBody C b lead) :=
  pres_bind neutral_readnat.pres fun _ => pres_bind neutral_payload.pres fun _ => pres_bind neutral_pure.pres fun _ =>
  pres_bind pres_pushLookup fun _ => neutral_pure.pres

theorem pres_oneBody (hF : C.fnEnvCountChecked = true) (d : Nat) : Pres (oneBody C b P d) :=
  pres_ite (fun _ => neutral_fail.pres) fun _ => pres_bind neutral_peek.pres fun _ =>
  pres_ite (fun _ => (neutral_bind neutral_readint fun _ => neutral_pure).pres) fun _ =>
  pres_ite (fun _ => (neutral_bind neutral_adv fun _ => neutral_pure).pres) fun _ =>
  pres_ite (fun _ => (neutral_bind neutral_adv fun _ => neutral_pure).pres) fun _ =>
  pres_ite (fun _ => neutral_guarded.pres) fun _ =>
  pres_ite (fun _ => pres_bind neutral_guarded.pres fun _ => pres_bind pres_pushLookup fun _ => neutral_pure.pres) fun _ =>
  pres_ite (fun _ => pres_bind neutral_adv.pres fun _ => pres_bytesBody _) fun _ =>
  pres_ite (fun _ => pres_bind neutral_adv.pres fun _ => pres_fiberBody hP _) fun _ =>
  pres_ite (fun _ => pres_bind neutral_adv.pres fun _ => pres_functionBody hP hF _) fun _ =>
  pres_ite (fun _ => pres_bind neutral_adv.pres fun _ => pres_abstractBody hP _) fun _ =>
  pres_ite (fun _ => pres_bind neutral_adv.pres fun _ => pres_containerBody hP _ _) fun _ =>
  pres_ite (fun _ => (neutral_bind neutral_chk fun _ => neutral_fail).pres) fun _ =>
  pres_ite (fun _ => (neutral_bind neutral_adv fun _ => neutral_bind neutral_readnat fun _ => neutral_bind neutral_readnat fun _ =>
    neutral_bind neutral_chk fun _ => neutral_fail).pres) fun _ =>
  pres_ite (fun _ => (neutral_bind neutral_chk fun _ => neutral_fail).pres) fun _ =>
  pres_ite (fun _ => (neutral_bind neutral_chk fun _ => neutral_fail).pres) fun _ => neutral_fail.pres

end bodies

theorem fns_pres (hF : C.fnEnvCountChecked = true) (hE : C.defEnvIndexChecked = true) : ∀ f, PGood (fns C b f)
  | 0 => ⟨fun _ => neutral_outOfFuel.pres, fun _ => neutral_outOfFuel.pres,
          fun _ => neutral_outOfFuel.pres⟩
  | f + 1 => ⟨fun d => pres_oneBody (fns_pres hF hE f) hF d, fun d => pres_defBody (fns_pres hF hE f) hE d,
              fun d => pres_envBody (fns_pres hF hE f) d⟩

theorem Inv.func_wf {s : St} (h : Inv s) {id di : Nat} (hf : s.funcs[id]? = some (some di)) :
    ∃ info len, s.defs[di]? = some info ∧ info.done = true ∧ s.fnEnvs[id]? = some len ∧ info.envs.length = info.envLen ∧
      (∀ K : JanetModel.Unmarsh.Checks, JanetModel.Unmarsh.acceptFunction K len info.envLen info.envs = true) ∧
      len = info.envLen ∧ ∀ e ∈ info.envs, -1 ≤ e := by
  obtain ⟨info, h1, h2, h3⟩ := h.funcs id di hf
  have hok := (h.defs di info h1).envs h2
  refine ⟨info, info.envLen, h1, h2, h3, hok.1, fun K => ?_, rfl, hok.2⟩
  simp only [JanetModel.Unmarsh.acceptFunction, beq_self_eq_true, Bool.or_true, Bool.true_and, Bool.or_eq_true, Bool.not_eq_true',
    List.all_eq_true, decide_eq_true_eq]
  right; exact hok.2

/-- **accepted function image ⇒ `function_image_wf`**: at ANY fuel level and depth, from ANY state satisfying `Inv` (every
    state the unmarshaller reaches, `fns_pres`), when `case LB_FUNCTION` accepts, the value is a function object whose `def` is a
    completed funcdef, it was allocated with exactly `def->environments_length` slots, `def->environments` has that many
    entries, all ≥ -1 — i.e. (`len`, `environments_length`, `environments`) pass `acceptFunction` for every `Checks` -/
theorem function_case_wf_generic (C : Cfg) (hF : C.fnEnvCountChecked = true) (hE : C.defEnvIndexChecked = true) (b : Array Nat)
    (f d : Nat) (c : Cur) (hI : Inv c.st) :
    match functionBody C b (fns C b f) d c with
    | .ok v c' => ∃ id di info len, v = .func id ∧ c'.st.funcs[id]? = some (some di) ∧ c'.st.defs[di]? = some info ∧
        info.done = true ∧ c'.st.fnEnvs[id]? = some len ∧ info.envs.length = info.envLen ∧
        (∀ K : JanetModel.Unmarsh.Checks, JanetModel.Unmarsh.acceptFunction K len info.envLen info.envs = true) ∧
        len = info.envLen ∧ ∀ e ∈ info.envs, -1 ≤ e
    | _ => True := by
  have h := functionBody_spec (b := b) (P := fns C b f) (fns_pres hF hE f) hF d c.st c ⟨hI, Ext.refl _⟩
  cases hr : functionBody C b (fns C b f) d c with
  | ok v c' =>
    rw [hr] at h
    obtain ⟨hG, id, di, hv, hf⟩ := h
    obtain ⟨info, len, hw⟩ := hG.1.func_wf hf
    exact ⟨id, di, info, len, hv, hf, hw⟩
  | _ => trivial

theorem inv_empty : Inv {} :=
  ⟨fun i info h => by simp at h, fun id di h => by simp at h, rfl⟩

/-- **accepted bytes ⇒ well-formed function objects** (state invariant): with the two tests present, after a successful
    `unmarshal` of ANY byte array at ANY fuel the final state satisfies `Inv` -/
theorem unmarshal_inv (C : Cfg) (hF : C.fnEnvCountChecked = true) (hE : C.defEnvIndexChecked = true) (b : Array Nat) (fuel : Nat) :
    match unmarshal C b fuel with
    | .ok _ c => Inv c.st
    | _ => True := by
  have h := (fns_pres (b := b) hF hE fuel).one 0 {} { pos := 0, st := {} } ⟨inv_empty, Ext.refl _⟩
  unfold unmarshal
  cases hr : (fns C b fuel).one 0 { pos := 0, st := {} } with
  | ok a c => rw [hr] at h; exact h.1
  | _ => trivial

/-- the same in the vocabulary of Unmarsh/Image.lean: every function object of the final state whose `def` is set was
    allocated with `len` environment slots, and (`len`, `def->environments_length`, `def->environments`) pass
    `acceptFunction` for EVERY `Checks` — in particular the regenerated one — hence `function_image_wf_generic` applies -/
theorem unmarshal_functions_wf_generic (C : Cfg) (hF : C.fnEnvCountChecked = true) (hE : C.defEnvIndexChecked = true)
    (b : Array Nat) (fuel : Nat) :
    match unmarshal C b fuel with
    | .ok _ c => ∀ (id di : Nat), c.st.funcs[id]? = some (some di) →
        ∃ info len, c.st.defs[di]? = some info ∧ info.done = true ∧ c.st.fnEnvs[id]? = some len ∧
          info.envs.length = info.envLen ∧
          (∀ K : JanetModel.Unmarsh.Checks, JanetModel.Unmarsh.acceptFunction K len info.envLen info.envs = true) ∧
          len = info.envLen ∧ ∀ e ∈ info.envs, -1 ≤ e
    | _ => True := by
  have h := unmarshal_inv C hF hE b fuel
  cases hr : unmarshal C b fuel with
  | ok a c =>
    rw [hr] at h
    exact fun id di hf => h.func_wf hf
  | _ => trivial

end JanetModel.Unmarsh.Bytes
