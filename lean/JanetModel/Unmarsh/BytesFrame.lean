/- C10: proof framework for the byte-level unmarshal model (Unmarsh/Bytes.lean): a Hoare-style judgement `SatAt` on the
   reader monad — "started at a position ≥ p with r bytes of room, the action never answers `oob`, (if `af = false`) never
   runs out of fuel, and on success leaves the position in [start + d, length]" — closed under bind, loops, branching. -/
import JanetModel.Unmarsh.Bytes
namespace JanetModel.Unmarsh.Bytes

def Post {α : Type} (n : Nat) (af : Bool) (lo : Nat) : Res α → Prop
  | .ok _ c => lo ≤ c.pos ∧ c.pos ≤ n
  | .err _ => True
  | .oob _ => False
  | .fuel => af = true

theorem Post.mono {α : Type} {n : Nat} {af : Bool} {lo lo' : Nat} {r : Res α} (h : Post n af lo r) (hl : lo' ≤ lo) :
    Post n af lo' r := by
  cases r with
  | ok a c => exact ⟨Nat.le_trans hl h.1, h.2⟩
  | err e => trivial
  | oob s => exact h
  | fuel => exact h

/-- `n` = length of the input, `af` = "running out of fuel is acceptable", `p` = known lower bound of the position,
    `r` = bytes known to remain, `d` = bytes the action consumes at least -/
structure SatAt {α : Type} (n : Nat) (af : Bool) (p r d : Nat) (m : M α) : Prop where
  run : ∀ c : Cur, p ≤ c.pos → c.pos + r ≤ n → Post n af (c.pos + d) (m c)

variable {α β : Type} {n : Nat} {af : Bool} {p r d : Nat}

theorem sat_weaken {m : M α} {p' r' d' : Nat} (h : SatAt n af p r d m) (hp : p ≤ p') (hr : r ≤ r') (hd : d' ≤ d) :
    SatAt n af p' r' d' m :=
  ⟨fun c hc hn => (h.run c (Nat.le_trans hp hc) (by omega)).mono (by omega)⟩

theorem sat_pure {a : α} : SatAt n af p r 0 (pure a : M α) :=
  ⟨fun c _ hn => show Post n af (c.pos + 0) (Res.ok a c) from ⟨by omega, by omega⟩⟩

theorem sat_fail {e : Err} : SatAt n af p r d (fail e : M α) := ⟨fun _ _ _ => trivial⟩

theorem sat_getSt : SatAt n af p r 0 getSt :=
  ⟨fun c _ hn => show Post n af (c.pos + 0) (Res.ok c.st c) from ⟨by omega, by omega⟩⟩

theorem sat_modSt {f : St → St} : SatAt n af p r 0 (modSt f) :=
  ⟨fun c _ hn => show Post n af (c.pos + 0) (Res.ok () { c with st := f c.st }) from ⟨by simp, by simp; omega⟩⟩

theorem sat_pushLookup {v : V} : SatAt n af p r 0 (pushLookup v) := sat_modSt

theorem sat_expect {ok : Bool} {e : Err} : SatAt n af p r 0 (expect ok e) := by
  unfold expect; split
  · exact sat_pure
  · exact sat_fail

theorem sat_ite {c : Prop} [Decidable c] {t e : M α} (ht : c → SatAt n af p r d t) (he : ¬ c → SatAt n af p r d e) :
    SatAt n af p r d (if c then t else e) := by
  by_cases h : c
  · rw [if_pos h]; exact ht h
  · rw [if_neg h]; exact he h

theorem sat_refGuard {checked inRange : Bool} {e : Err} {site : Nat} (h : checked = true) :
    SatAt n af p r 0 (refGuard checked inRange e site) := by
  unfold refGuard
  by_cases hi : inRange = true
  · rw [if_pos hi]; exact sat_pure
  · rw [if_neg hi, if_pos h]; exact sat_fail

theorem sat_outOfFuel (h : af = true) : SatAt n af p r d (outOfFuel : M α) := ⟨fun _ _ _ => h⟩

/-- `adv 1` needs one byte of room -/
theorem sat_adv1 : SatAt n af p (r + 1) 1 (adv 1) :=
  ⟨fun c _ hn => show Post n af (c.pos + 1) (Res.ok () { c with pos := c.pos + 1 }) from ⟨by simp, by simp; omega⟩⟩

theorem bind_run {m : M α} {f : α → M β} (c : Cur) :
    (m >>= f) c = match m c with
      | .ok a c' => f a c' | .err e => .err e | .oob s => .oob s | .fuel => .fuel := rfl

/-- `Q` holds of the value and the cursor of a successful result -/
def Res.OnOk (r : Res α) (Q : α → Cur → Prop) : Prop :=
  match r with
  | .ok a c => Q a c
  | _ => True

theorem Res.OnOk.mono {r : Res α} {Q Q' : α → Cur → Prop} (h : r.OnOk Q) (hq : ∀ a c, Q a c → Q' a c) : r.OnOk Q' := by
  cases r with
  | ok a c => exact hq a c h
  | _ => trivial

theorem Res.OnOk.bind {m : M α} {f : α → M β} {c : Cur} {Q1 : α → Cur → Prop} {Q : β → Cur → Prop}
    (h : (m c).OnOk Q1) (hf : ∀ a c1, Q1 a c1 → (f a c1).OnOk Q) : ((m >>= f) c).OnOk Q := by
  rw [bind_run]
  cases hm : m c with
  | ok a c1 => rw [hm] at h; exact hf a c1 h
  | _ => trivial

/-- general sequencing rule: the continuation starts `d1` further, with no room known -/
theorem sat_bind_gen {m : M α} {f : α → M β} {d1 d2 : Nat} (hm : SatAt n af p r d1 m)
    (hf : ∀ a, SatAt n af (p + d1) 0 d2 (f a)) : SatAt n af p r (d1 + d2) (m >>= f) := by
  refine ⟨fun c hp hn => ?_⟩
  have h1 := hm.run c hp hn
  rw [bind_run]
  cases hmc : m c with
  | ok a c' =>
    rw [hmc] at h1
    have h2 := (hf a).run c' (by have := h1.1; omega) (by have := h1.2; omega)
    exact h2.mono (by have := h1.1; omega)
  | err e => trivial
  | oob s => rw [hmc] at h1; exact h1
  | fuel => rw [hmc] at h1; exact h1

theorem SatAt.safe {m : M α} (h : SatAt n af p 0 d m) : SatAt n af p r 0 m :=
  sat_weaken h (Nat.le_refl _) (Nat.zero_le _) (Nat.zero_le _)

theorem SatAt.drop {m : M α} (h : SatAt n af p r d m) : SatAt n af p r 0 m :=
  sat_weaken h (Nat.le_refl _) (Nat.le_refl _) (Nat.zero_le _)

/-- sequencing when no progress is claimed: neither the progress of the first action nor room is needed -/
theorem sat_bind {m : M α} {f : α → M β} {d1 : Nat} (hm : SatAt n af p r d1 m) (hf : ∀ a, SatAt n af p 0 0 (f a)) :
    SatAt n af p r 0 (m >>= f) :=
  sat_weaken (sat_bind_gen hm fun a => sat_weaken (hf a) (Nat.le_add_right _ _) (Nat.le_refl _) (Nat.le_refl _))
    (Nat.le_refl _) (Nat.le_refl _) (Nat.zero_le _)

/-- first action consumes nothing for sure, the continuation provides the progress -/
theorem sat_bind0 {m : M α} {f : α → M β} (hm : SatAt n af p r 0 m) (hf : ∀ a, SatAt n af p 0 d (f a)) :
    SatAt n af p r d (m >>= f) :=
  sat_weaken (sat_bind_gen hm hf) (Nat.le_refl _) (Nat.le_refl _) (Nat.le_of_eq (Nat.zero_add d).symm)

theorem sat_bind1 {m : M α} {f : α → M β} (hm : SatAt n af p r 1 m) (hf : ∀ a, SatAt n af (p + 1) 0 0 (f a)) :
    SatAt n af p r 1 (m >>= f) :=
  sat_bind_gen hm hf

theorem sat_loopN {f : M Unit} (hf : SatAt n af p 0 0 f) : ∀ (k : Nat) {r : Nat}, SatAt n af p r 0 (loopN k f)
  | 0, _ => sat_pure
  | k + 1, r => show SatAt n af p r 0 (f >>= fun _ => loopN k f) from sat_bind hf.safe fun _ => sat_loopN hf k

theorem sat_collectN {f : M α} (hf : SatAt n af p 0 0 f) : ∀ (k : Nat) {r : Nat}, SatAt n af p r 0 (collectN k f)
  | 0, _ => sat_pure
  | k + 1, r => show SatAt n af p r 0 (f >>= fun a => collectN k f >>= fun as => pure (a :: as)) from
    sat_bind hf.safe fun _ => sat_bind (sat_collectN hf k) fun _ => sat_pure

variable {b : Array Nat}

theorem okFor_guard {s : Site} {mx : Int} (h : s.okFor mx = true) : ∃ g, s.guard = some g ∧ mx ≤ g := by
  unfold Site.okFor at h
  cases hg : s.guard with
  | none => rw [hg] at h; simp at h
  | some g => rw [hg] at h; simp at h; exact ⟨g, rfl, h.1⟩

/-- a check fails with `eos` or passes without moving, and then the guarded offset is inside the input -/
theorem chk_run (s : Site) (v : Nat) (c : Cur) :
    chk b s v c = .err .eos ∨
      (chk b s v c = .ok () c ∧ ∀ g, s.guard = some g → (c.pos : Int) + (v : Int) + g < (b.size : Int)) := by
  unfold chk
  cases s.guard with
  | none => exact Or.inr ⟨rfl, fun _ h => nomatch h⟩
  | some g =>
    dsimp only
    split
    · exact Or.inl rfl
    · exact Or.inr ⟨rfl, fun g' h => by cases h; omega⟩

/-- after a passed check with offset `v + g`, the continuation may assume `pos + v + g < length` -/
theorem sat_chk_then {s : Site} {g : Int} (hg : s.guard = some g) (v : Nat) {f : Unit → M α}
    (hf : ∀ c : Cur, p ≤ c.pos → c.pos + r ≤ b.size → (c.pos : Int) + (v : Int) + g < (b.size : Int) →
      Post b.size af (c.pos + d) (f () c)) :
    SatAt b.size af p r d (chk b s v >>= f) := by
  refine ⟨fun c hp hn => ?_⟩
  rw [bind_run]
  rcases chk_run (b := b) s v c with h | ⟨h, hlt⟩
  · rw [h]; trivial
  · rw [h]; exact hf c hp hn (hlt g hg)

theorem sat_chk {s : Site} (v : Nat) : SatAt b.size af p r 0 (chk b s v) := by
  refine ⟨fun c _ hn => ?_⟩
  rcases chk_run (b := b) s v c with h | ⟨h, _⟩
  · rw [h]; trivial
  · rw [h]; exact ⟨by omega, by omega⟩

theorem get_ok {site off : Nat} {c : Cur} (h : c.pos + off < b.size) : get b site off c = .ok b[c.pos + off] c := by
  unfold get
  simp [h]

theorem getRange_ok {site : Nat} : ∀ (k start : Nat) (c : Cur), c.pos + start + k ≤ b.size →
    ∃ bs, getRange b site start k c = .ok bs c
  | 0, _, c, _ => ⟨[], rfl⟩
  | k + 1, start, c, h => by
    obtain ⟨bs, hbs⟩ := getRange_ok (site := site) k (start + 1) c (by omega)
    refine ⟨b[c.pos + start] :: bs, ?_⟩
    unfold getRange
    rw [bind_run, get_ok (by omega)]
    simp only []
    rw [bind_run, hbs]
    rfl

end JanetModel.Unmarsh.Bytes
