/- C10: the recursion depth of the byte-level unmarshal model is bounded — stated without reference to the fuel parameter:
   `unmarshal_depth_bounded`: for every byte array, every amount of fuel ≥ `fuelBound C` gives the SAME result as
   `fuelBound C` itself.  The fuel is the number of nested activations of the three mutually recursive functions
   (`unmarshal_one`, `unmarshal_one_def`, `unmarshal_one_env`) the model may use, so: no input makes the unmarshaller nest
   deeper than `2·(JANET_RECURSION_GUARD + 2) + 2` activations, provided every call path between two `MARSH_STACKCHECK`s
   adds ≥ 1 to the depth counter (`Incs.ok`, regenerated).
   Proof: the bodies are monotone in the callbacks (`Le`: wherever the smaller one does not run out of fuel the larger one
   answers the same), hence `fns f ⊑ fns (f + k)`; with `unmarshal_terminates` the run at `fuelBound` is not `fuel`. -/
import JanetModel.Unmarsh.BytesSound
namespace JanetModel.Unmarsh.Bytes

variable {α β : Type}

/-- `m'` answers as `m` wherever `m` does not run out of fuel -/
def Le (m m' : M α) : Prop := ∀ c, m c = .fuel ∨ m c = m' c

theorem Le.refl (m : M α) : Le m m := fun _ => Or.inr rfl

theorem le_bind {m m' : M α} {f f' : α → M β} (hm : Le m m') (hf : ∀ a, Le (f a) (f' a)) : Le (m >>= f) (m' >>= f') := by
  intro c
  rw [bind_run (m := m), bind_run (m := m')]
  rcases hm c with h | h
  · left; rw [h]
  · rw [← h]
    cases m c with
    | ok a c' => exact hf a c'
    | err e => right; rfl
    | oob s => right; rfl
    | fuel => left; rfl

theorem le_bind_right {m : M α} {f f' : α → M β} (hf : ∀ a, Le (f a) (f' a)) : Le (m >>= f) (m >>= f') :=
  le_bind (Le.refl m) hf

theorem le_loopN {f f' : M Unit} (h : Le f f') : ∀ k, Le (loopN k f) (loopN k f')
  | 0 => Le.refl _
  | k + 1 => by
    show Le (f >>= fun _ => loopN k f) (f' >>= fun _ => loopN k f')
    exact le_bind h (fun _ => le_loopN h k)

theorem le_collectN {f f' : M α} (h : Le f f') : ∀ k, Le (collectN k f) (collectN k f')
  | 0 => Le.refl _
  | k + 1 => by
    show Le (f >>= fun a => collectN k f >>= fun as => pure (a :: as)) (f' >>= fun a => collectN k f' >>= fun as => pure (a :: as))
    exact le_bind h (fun _ => le_bind (le_collectN h k) (fun _ => Le.refl _))

theorem le_ite {c : Prop} [Decidable c] {t t' e e' : M α} (ht : c → Le t t') (he : ¬ c → Le e e') :
    Le (if c then t else e) (if c then t' else e') := by
  by_cases h : c
  · rw [if_pos h, if_pos h]; exact ht h
  · rw [if_neg h, if_neg h]; exact he h

structure FLe (P P' : Fns) : Prop where
  one : ∀ d, Le (P.one d) (P'.one d)
  def_ : ∀ d, Le (P.def_ d) (P'.def_ d)
  env : ∀ d, Le (P.env d) (P'.env d)

section bodies
variable {C : Cfg} {b : Array Nat} {P P' : Fns} (h : FLe P P')
include h

theorem le_envBody (d : Nat) : Le (envBody C b P d) (envBody C b P' d) :=
  le_bind_right fun _ => le_ite (fun _ => Le.refl _) fun _ =>
  le_bind_right fun _ => le_bind_right fun _ => le_bind_right fun _ =>
  le_ite (fun _ => le_bind (h.one _) fun _ => Le.refl _) fun _ =>
  le_ite (fun _ => Le.refl _) fun _ => le_loopN (le_bind (h.one _) fun _ => Le.refl _) _

theorem le_symEntry (d : Nat) : Le (symEntry C b P d) (symEntry C b P' d) :=
  le_bind_right fun _ => le_bind_right fun _ => le_bind_right fun _ => le_bind (h.one _) fun _ => Le.refl _

theorem le_defBody (d : Nat) : Le (defBody C b P d) (defBody C b P' d) :=
  le_ite (fun _ => Le.refl _) fun _ => le_bind_right fun _ => le_ite (fun _ => Le.refl _) fun _ =>
  le_bind_right fun _ => le_bind_right fun _ => le_bind_right fun _ => le_bind_right fun _ => le_bind_right fun _ =>
  le_bind_right fun _ => le_bind_right fun _ => le_bind_right fun _ => le_bind_right fun _ => le_bind_right fun _ =>
  le_bind_right fun _ => le_bind_right fun _ => le_bind_right fun _ =>
  le_bind (le_ite (fun _ => le_bind (h.one _) fun _ => Le.refl _) fun _ => Le.refl _) fun _ =>
  le_bind (le_ite (fun _ => le_bind (h.one _) fun _ => Le.refl _) fun _ => Le.refl _) fun _ =>
  le_bind (le_loopN (le_bind (h.one _) fun _ => Le.refl _) _) fun _ =>
  le_bind (le_collectN (le_symEntry h d) _) fun _ =>
  le_bind_right fun _ => le_bind_right fun _ =>
  le_bind (le_loopN (le_bind (h.def_ _) fun _ => Le.refl _) _) fun _ => Le.refl _

theorem le_frameLoop (d frame : Nat) : ∀ (k stack : Nat) (stacktop : Int) (top : Option TopFrame),
    Le (frameLoop C b P d frame k stack stacktop top) (frameLoop C b P' d frame k stack stacktop top)
  | 0, _, _, _ => Le.refl _
  | k + 1, stack, stacktop, top => by
    unfold frameLoop
    refine le_ite (fun _ => Le.refl _) fun _ => le_bind_right fun _ => le_bind_right fun _ => le_bind_right fun _ =>
      le_bind (h.one _) fun fv => le_bind_right fun s => ?_
    split
    · split
      · exact Le.refl _
      · exact le_bind (le_ite (fun _ => h.env _) fun _ => Le.refl _) fun _ =>
          le_bind_right fun _ => le_bind_right fun _ => le_bind_right fun _ => le_bind_right fun _ => le_bind_right fun _ =>
          le_bind (le_loopN (le_bind (h.one _) fun _ => Le.refl _) _) fun _ => le_frameLoop d frame k _ _ _
    · exact Le.refl _

theorem le_fiberBody (d : Nat) : Le (fiberBody C b P d) (fiberBody C b P' d) :=
  le_bind_right fun _ => le_bind_right fun _ => le_bind_right fun _ => le_bind_right fun _ => le_bind_right fun _ =>
  le_bind_right fun _ => le_bind_right fun _ => le_bind_right fun _ =>
  le_bind (le_frameLoop h d _ _ _ _ _) fun _ =>
  le_bind (le_ite (fun _ => le_bind (h.one _) fun _ => Le.refl _) fun _ => Le.refl _) fun _ =>
  le_bind (le_ite (fun _ => le_bind (h.one _) fun _ => Le.refl _) fun _ => Le.refl _) fun _ =>
  le_bind (h.one _) fun _ => Le.refl _

theorem le_functionBody (d : Nat) : Le (functionBody C b P d) (functionBody C b P' d) :=
  le_bind_right fun _ => le_bind_right fun _ => le_bind_right fun _ => le_bind_right fun _ =>
  le_bind (h.def_ _) fun _ =>
  le_bind_right fun _ => le_bind_right fun _ => le_bind_right fun _ => le_bind_right fun _ =>
  le_bind (le_loopN (h.env _) _) fun _ => Le.refl _

theorem le_pegBody (d : Nat) : Le (pegBody C b P d) (pegBody C b P' d) :=
  le_bind_right fun _ => le_bind_right fun _ => le_bind_right fun _ => le_bind_right fun _ => le_bind_right fun _ =>
  le_bind (le_loopN (le_bind (h.one _) fun _ => Le.refl _) _) fun _ => Le.refl _

theorem le_chanBody (d : Nat) : Le (chanBody C b P d) (chanBody C b P' d) :=
  le_bind_right fun _ => le_bind_right fun _ => le_bind_right fun _ => le_bind_right fun _ => le_bind_right fun _ =>
  le_bind_right fun _ => le_loopN (le_bind (h.one _) fun _ => Le.refl _) _

theorem le_abstractBody (d : Nat) : Le (abstractBody C b P d) (abstractBody C b P' d) := by
  unfold abstractBody
  refine le_bind (h.one _) fun key => ?_
  split
  · split
    · exact Le.refl _
    · exact le_bind (
        le_ite (fun _ => Le.refl _) fun _ => le_ite (fun _ => Le.refl _) fun _ => le_ite (fun _ => Le.refl _) fun _ =>
        le_ite (fun _ => Le.refl _) fun _ => le_ite (fun _ => le_chanBody h d) fun _ =>
        le_ite (fun _ => le_pegBody h d) fun _ => Le.refl _) fun _ => Le.refl _
  · exact Le.refl _

theorem le_containerBody (d lead : Nat) : Le (containerBody C b P d lead) (containerBody C b P' d lead) :=
  le_bind_right fun _ => le_bind_right fun _ =>
  le_ite (fun _ => le_bind_right fun _ =>
    le_bind (le_loopN (le_bind (h.one _) fun _ => Le.refl _) _) fun _ => Le.refl _) fun _ =>
  le_ite (fun _ => le_bind_right fun _ =>
    le_bind (le_loopN (le_bind (h.one _) fun _ => Le.refl _) _) fun _ => Le.refl _) fun _ =>
  le_ite (fun _ =>
    le_bind (le_ite (fun _ => le_bind (h.one _) fun _ => Le.refl _) fun _ => Le.refl _) fun _ =>
    le_bind (le_loopN (le_bind (h.one _) fun _ => le_bind (h.one _) fun _ => Le.refl _) _) fun _ => Le.refl _) fun _ =>
  le_ite (fun _ => Le.refl _) fun _ => le_bind_right fun _ =>
  le_bind (le_ite (fun _ => le_bind (h.one _) fun _ => Le.refl _) fun _ => Le.refl _) fun _ =>
  le_bind (le_loopN (le_bind (h.one _) fun _ => le_bind (h.one _) fun _ => Le.refl _) _) fun _ => Le.refl _

theorem le_oneBody (d : Nat) : Le (oneBody C b P d) (oneBody C b P' d) :=
  le_ite (fun _ => Le.refl _) fun _ => le_bind_right fun _ =>
  le_ite (fun _ => Le.refl _) fun _ => le_ite (fun _ => Le.refl _) fun _ => le_ite (fun _ => Le.refl _) fun _ =>
  le_ite (fun _ => Le.refl _) fun _ => le_ite (fun _ => Le.refl _) fun _ => le_ite (fun _ => Le.refl _) fun _ =>
  le_ite (fun _ => le_bind_right fun _ => le_fiberBody h _) fun _ =>
  le_ite (fun _ => le_bind_right fun _ => le_functionBody h _) fun _ =>
  le_ite (fun _ => le_bind_right fun _ => le_abstractBody h _) fun _ =>
  le_ite (fun _ => le_bind_right fun _ => le_containerBody h _ _) fun _ => Le.refl _

end bodies

theorem fns_le_add (C : Cfg) (b : Array Nat) (k : Nat) : ∀ f, FLe (fns C b f) (fns C b (f + k))
  | 0 => ⟨fun _ _ => Or.inl rfl, fun _ _ => Or.inl rfl, fun _ _ => Or.inl rfl⟩
  | f + 1 => by
    rw [Nat.add_right_comm]
    exact ⟨le_oneBody (fns_le_add C b k f), le_defBody (fns_le_add C b k f), le_envBody (fns_le_add C b k f)⟩

/-- **unmarshal_depth_bounded**: more fuel than `fuelBound C` never changes the result — on no input does the unmarshaller
    nest more than `fuelBound C = 2·(guard + 2) + 2` activations of `unmarshal_one` / `unmarshal_one_def` /
    `unmarshal_one_env` (at most `guard + 2` of the checked ones, by `Incs.ok`). -/
theorem unmarshal_depth_bounded_generic (C : Cfg) (hS : C.sites.ok = true) (hR : C.refsChecked = true) (hI : C.inc.ok = true)
    (b : Array Nat) (fuel : Nat) (hf : fuelBound C ≤ fuel) : unmarshal C b fuel = unmarshal C b (fuelBound C) := by
  have hle := (fns_le_add C b (fuel - fuelBound C) (fuelBound C)).one 0 { pos := 0, st := {} }
  have hfu : fuelBound C + (fuel - fuelBound C) = fuel := by omega
  rw [hfu] at hle
  unfold unmarshal
  rcases hle with h | h
  · exact absurd h ((unmarshal_terminates_generic C hS hR hI b (fuelBound C) (Nat.le_refl _) 0).1)
  · exact h.symm

end JanetModel.Unmarsh.Bytes
