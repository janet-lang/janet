/- C10: the allocation layout of `peg_unmarshal` (peg.c) in `size_t` arithmetic.  The bytecode length comes from `read64`
   (any 64-bit value); `bytecode_len * sizeof(uint32_t)` wraps around for lengths ≥ 2^62, the PEG is then allocated smaller
   than what the fill loops write.  With the count check (`bytecode_len, num_constants ≤ INT32_MAX`) every word
   and every constant written lies inside the allocation.  Core Lean only. -/
namespace JanetModel.Unmarsh.PegSize

/-- 2^64 -/
abbrev W : Nat := 18446744073709551616

/-- `size_padded(offset, size)`: `x = size + offset - 1; return x - (x % size);` -/
def sizePadded (offset size : Nat) : Nat := (size + offset - 1) % W - (size + offset - 1) % W % size

structure Layout where
  bstart : Nat
  cstart : Nat
  total : Nat
  deriving Repr, DecidableEq

/-- `bytecode_start`, `constants_start`, `total_size` for `sizeof(JanetPeg) = hdr`, `sizeof(uint32_t) = 4`, `sizeof(Janet) = 8` -/
def layout (hdr blen nc : Nat) : Layout :=
  { bstart := sizePadded hdr 4
    cstart := sizePadded ((sizePadded hdr 4 + blen * 4 % W) % W) 8
    total := (sizePadded ((sizePadded hdr 4 + blen * 4 % W) % W) 8 + 8 * nc) % W }

/-- with the count check: the header, every bytecode word `bytecode[i]`, `i < bytecode_len`, and every `constants[j]`,
    `j < num_constants`, lie inside the `total_size` bytes that are allocated, and the three areas do not overlap -/
theorem peg_alloc_covers_writes (hdr blen nc : Nat) (hh : hdr ≤ 65536) (hb : blen ≤ 2147483647) (hn : nc ≤ 2147483647) :
    hdr ≤ (layout hdr blen nc).bstart ∧
    (∀ i, i < blen → (layout hdr blen nc).bstart + 4 * i + 4 ≤ (layout hdr blen nc).cstart) ∧
    (∀ j, j < nc → (layout hdr blen nc).cstart + 8 * j + 8 ≤ (layout hdr blen nc).total) := by
  simp only [layout, sizePadded, W]
  refine ⟨by omega, fun i hi => by omega, fun j hj => by omega⟩

/-- without it: `bytecode_len = 2^62 + 1` gives an allocation of `hdr`-rounded + 8 bytes; the third word is written past
    its end (replayed on the implementation: corpus/C10/peg-size-overflow.hex, heap-buffer-overflow WRITE in peg_unmarshal) -/
theorem witness_peg_size_wraps :
    (layout 64 4611686018427387905 0).total < (layout 64 4611686018427387905 0).bstart + 4 * 2 + 4 := by decide

end JanetModel.Unmarsh.PegSize
