/- C10 REGENERATED OBLIGATIONS for the byte-level unmarshal model: every `MARSH_EOS` offset extracted from the current
   marsh.c dominates the reads made under it (`sites_ok`), every call path adds to the depth counter (`depths_ok`), the
   reference indices and the two function checks are tested (`refs_checked`, `fn_checks_on`), all by `decide` over
   Gen/UnmarshSites.lean; hence `unmarshal_total_inbounds`, `unmarshal_terminates`, `unmarshal_depth_bounded`,
   `unmarshal_functions_wf` and `function_case_wf` for the model instantiated with the current source.  Also the PEG count
   check (`peg_size_checked`) and the returns of `janet_asm1` (`asm_ok_only_after_verify`).
   checks/C10.py builds this module on every run; with a test removed from marsh.c `sites_ok` is false, the driver names
   the site and the model itself (run on truncations of the base images) produces the input that is over-read. -/
import JanetModel.Unmarsh.BytesSound
import JanetModel.Unmarsh.BytesMono
import JanetModel.Unmarsh.BytesWf
import JanetModel.Unmarsh.BytesCfg
import JanetModel.Unmarsh.PegSize
namespace JanetModel.Unmarsh.BytesObligations
open JanetModel.Unmarsh.Bytes

theorem sites_ok : cfg.sites.ok = true := by decide

/-- the three reference-table indices (`st->lookup[len]`, `st->lookup_envs[index]`, `st->lookup_defs[index]`) are tested first -/
theorem refs_checked : cfg.refsChecked = true := by decide

/-- every call path from one `MARSH_STACKCHECK` to the next (through `unmarshal_one_env`, `unmarshal_one_fiber`,
    `unmarshal_one_abstract`, the `janet_unmarshal_janet` hook) adds at least 1 to the depth counter: `decide` over the `flags + k`
    arguments of the 28 recursive call sites extracted from the current marsh.c -/
theorem depths_ok : cfg.inc.ok = true := by decide

/-- for EVERY byte array and fuel: no read outside the input; success consumes ≥ 1 byte and ends inside the input -/
theorem unmarshal_total_inbounds (b : Array Nat) (fuel : Nat) :
    match unmarshal cfg b fuel with
    | .oob _ => False
    | .ok _ c => 0 < c.pos ∧ c.pos ≤ b.size
    | _ => True := unmarshal_total_inbounds_generic cfg sites_ok refs_checked b fuel

/-- `fuelBound cfg` (= 2054) levels of recursion suffice for every input: the model never answers `fuel` -/
theorem unmarshal_terminates (b : Array Nat) (fuel : Nat) (hf : fuelBound cfg ≤ fuel) :
    ∀ a, unmarshal cfg b fuel ≠ .fuel ∧ unmarshal cfg b fuel ≠ .oob a := unmarshal_terminates_generic cfg sites_ok refs_checked depths_ok b fuel hf

/-- no byte string makes the unmarshaller of the current source nest deeper than `fuelBound cfg` activations: more fuel
    never changes the model's answer -/
theorem unmarshal_depth_bounded (b : Array Nat) (fuel : Nat) (hf : fuelBound cfg ≤ fuel) :
    unmarshal cfg b fuel = unmarshal cfg b (fuelBound cfg) :=
  unmarshal_depth_bounded_generic cfg sites_ok refs_checked depths_ok b fuel hf

/-- the two function-image tests of the current marsh.c (`def->environments_length != len`, `environments[i] < -1`; presence
    extracted by tools/gen/vmaccess.py `image_checks` into Gen/ImageChecks, which `cfg` reads) -/
theorem fn_checks_on : cfg.fnEnvCountChecked = true ∧ cfg.defEnvIndexChecked = true := by decide

/-- accepted bytes ⇒ well-formed function objects, for the model instantiated with the current source -/
theorem unmarshal_functions_wf (b : Array Nat) (fuel : Nat) :
    match unmarshal cfg b fuel with
    | .ok _ c => ∀ (id di : Nat), c.st.funcs[id]? = some (some di) →
        ∃ info len, c.st.defs[di]? = some info ∧ info.done = true ∧ c.st.fnEnvs[id]? = some len ∧
          info.envs.length = info.envLen ∧
          (∀ K : JanetModel.Unmarsh.Checks, JanetModel.Unmarsh.acceptFunction K len info.envLen info.envs = true) ∧
          len = info.envLen ∧ ∀ e ∈ info.envs, -1 ≤ e
    | _ => True := unmarshal_functions_wf_generic cfg fn_checks_on.1 fn_checks_on.2 b fuel

/-- the FUNCTION case of the current source returns a complete, well-formed function object whenever it accepts -/
theorem function_case_wf (b : Array Nat) (f d : Nat) (c : Cur) (hI : Inv c.st) :
    match functionBody cfg b (fns cfg b f) d c with
    | .ok v c' => ∃ id di info len, v = .func id ∧ c'.st.funcs[id]? = some (some di) ∧ c'.st.defs[di]? = some info ∧
        info.done = true ∧ c'.st.fnEnvs[id]? = some len ∧ info.envs.length = info.envLen ∧
        (∀ K : JanetModel.Unmarsh.Checks, JanetModel.Unmarsh.acceptFunction K len info.envLen info.envs = true) ∧
        len = info.envLen ∧ ∀ e ∈ info.envs, -1 ≤ e
    | _ => True := function_case_wf_generic cfg fn_checks_on.1 fn_checks_on.2 b f d c hI

/-- the count check of `peg_unmarshal` is present in the current peg.c (hypothesis of `PegSize.peg_alloc_covers_writes`:
    both counts ≤ INT32_MAX before the size computation) -/
theorem peg_size_checked : cfg.pegSizeChecked = true := by decide

/-- `asm`: in the list of `return`s of `janet_asm1` that the translator extracts (`Gen.UnmarshSites.asmReturns`: status is
    JANET_ASSEMBLE_OK; behind `janet_verify(def) == 0` with a no-return failing branch and only flag bookkeeping after it),
    every OK return is behind the test, and there is one. -/
theorem asm_ok_only_after_verify :
    (JanetModel.Gen.UnmarshSites.asmReturns.all fun r => !r.1 || r.2) = true ∧
    (JanetModel.Gen.UnmarshSites.asmReturns.any fun r => r.1) = true := by decide

end JanetModel.Unmarsh.BytesObligations
