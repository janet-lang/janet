/- C10: model of the image validation in marsh.c (`unmarshal_one_fiber`, function case of `unmarshal_one`,
   `unmarshal_one_def` environments, `unmarshal_one_env`) over the decoded header / frame records, parametrised by WHICH
   checks the current source performs (`Checks`, regenerated into Gen/ImageChecks.lean).  Core Lean only. -/
namespace JanetModel.Unmarsh

/-- presence of each validation in the current source (translator: tools/gen/vmaccess.py `image_checks`) -/
structure Checks where
  stackSetup : Bool      -- frame + FRAME_SIZE > stackstart || stackstart > stacktop || stacktop > maxstack  -> panic
  frameSize : Bool       -- def->slotcount != stacktop - stack -> panic
  pcRange : Bool         -- pcdiff >= def->bytecode_length -> panic
  prevAlign : Bool       -- prevframe + FRAME_SIZE > stack -> panic
  statusRange : Bool     -- status > JANET_STATUS_ALIVE -> panic
  frame0 : Bool          -- frame == 0 && status != DEAD -> panic
  entrance : Bool        -- prevframe == 0 && !(flags & ENTRANCE) -> panic
  callPc : Bool          -- inner frame not suspended at JOP_CALL -> panic
  resumeOperand : Bool   -- resumable top frame: operand A not a slot / last instruction -> panic
  fnEnvCount : Bool      -- def->environments_length != len -> panic
  defEnvIndex : Bool     -- environments[i] < -1 -> panic
  envNegOffset : Bool    -- on-stack env of an image gets offset = -offset (untrusted marker)
  envValidBeforeDeref : Bool -- LOAD_UPVALUE / SET_UPVALUE call janet_env_valid before touching env->as
  deriving Repr, DecidableEq

def Checks.allOn (c : Checks) : Bool :=
  c.stackSetup && c.frameSize && c.pcRange && c.prevAlign && c.statusRange && c.frame0 && c.entrance && c.callPc &&
  c.resumeOperand && c.fnEnvCount && c.defEnvIndex && c.envNegOffset && c.envValidBeforeDeref

/-- the checks of the pinned tree before any fix -/
def Checks.baseline : Checks :=
  { stackSetup := true, frameSize := true, pcRange := true, prevAlign := true, statusRange := true, frame0 := false,
    entrance := false, callPc := false, resumeOperand := false, fnEnvCount := false, defEnvIndex := false,
    envNegOffset := true, envValidBeforeDeref := true }

abbrev frameSizeWords : Nat := 4   -- JANET_FRAME_SIZE
abbrev statusDead : Nat := 0
abbrev statusError : Nat := 1
abbrev statusUser0 : Nat := 4
abbrev statusUser4 : Nat := 8
abbrev statusAlive : Nat := 15

/-- one frame record as read by the `while (stack > 0)` loop, with the facts of its (already verified) function -/
structure FrameRec where
  entrance : Bool      -- frameflags & JANET_STACKFRAME_ENTRANCE
  prevframe : Nat      -- readnat
  pcdiff : Nat         -- readnat
  slotcount : Nat      -- func->def->slotcount
  bclen : Nat          -- func->def->bytecode_length
  atCall : Bool        -- (bytecode[pcdiff] & 0x7F) == JOP_CALL
  aIsSlot : Bool       -- ((bytecode[pcdiff] >> 8) & 0xFF) < slotcount
  deriving Repr

structure FiberHdr where
  status : Nat         -- (flags & STATUS_MASK) >> 16
  noUseval : Bool      -- flags & JANET_FIBER_RESUME_NO_USEVAL
  noSkip : Bool        -- flags & JANET_FIBER_RESUME_NO_SKIP
  frame : Nat
  stackstart : Nat
  stacktop : Nat
  maxstack : Nat
  deriving Repr

def resumable (status : Nat) : Bool :=
  !(status == statusDead || status == statusError || (statusUser0 ≤ status && status ≤ statusUser4) || status ≥ statusAlive)

/-- statuses for which `unmarshal_one_fiber` insists on a safe resume point (everything but dead / error / user0-4;
    this includes `alive`, which `janet_check_can_resume` refuses anyway) -/
def mustCheckResume (status : Nat) : Bool :=
  !(status == statusDead || status == statusError || (statusUser0 ≤ status && status ≤ statusUser4))

theorem resumable_mustCheck (s : Nat) (h : resumable s = true) : mustCheckResume s = true := by
  simp only [resumable, mustCheckResume, Bool.not_eq_true', Bool.or_eq_false_iff] at h ⊢
  exact ⟨⟨h.1.1.1, h.1.1.2⟩, h.1.2⟩

/-- the frame loop: `stack`, `stacktop` are the C variables; records are consumed while `stack > 0` -/
def acceptFrames (C : Checks) : List FrameRec → Nat → Int → Bool → Bool
  | [], stack, _, _ => stack == 0                    -- input exhausted: MARSH_EOS panics unless the loop is over
  | fr :: rest, stack, stacktop, top =>
    if stack = 0 then true
    else
      (!C.frameSize || ((fr.slotcount : Int) == stacktop - stack)) &&
      (!C.pcRange || decide (fr.pcdiff < fr.bclen)) &&
      (!C.callPc || top || fr.atCall) &&
      (!C.prevAlign || decide (fr.prevframe + frameSizeWords ≤ stack)) &&
      (!C.entrance || fr.prevframe != 0 || fr.entrance) &&
      acceptFrames C rest fr.prevframe ((stack : Int) - frameSizeWords) false

/-- `unmarshal_one_fiber` accept / reject (records of frames not executed by the loop are ignored) -/
def acceptFiber (C : Checks) (h : FiberHdr) (frames : List FrameRec) : Bool :=
  (!C.stackSetup || (decide (h.frame + frameSizeWords ≤ h.stackstart) && decide (h.stackstart ≤ h.stacktop) && decide (h.stacktop ≤ h.maxstack))) &&
  acceptFrames C frames h.frame ((h.stackstart : Int) - frameSizeWords) true &&
  (!C.statusRange || decide (h.status ≤ statusAlive)) &&
  (!C.frame0 || !(h.frame == 0 && h.status != statusDead)) &&
  (!C.resumeOperand || !(decide (0 < h.frame) && mustCheckResume h.status) ||
    match frames with
    | [] => false
    | fr :: _ => (h.noUseval || fr.aIsSlot) && (h.noSkip || decide (fr.pcdiff + 1 < fr.bclen)))

/-- the invariant the VM, `janet_step` and the marker rely on for the frame chain -/
inductive FramesWf : List FrameRec → Nat → Int → Bool → Prop
  | done (fs : List FrameRec) (t : Int) (top : Bool) : FramesWf fs 0 t top
  | frame (fr : FrameRec) (rest : List FrameRec) (stack : Nat) (stacktop : Int) (top : Bool) :
      frameSizeWords ≤ stack →
      (stack : Int) + fr.slotcount = stacktop →
      fr.pcdiff < fr.bclen →
      fr.prevframe + frameSizeWords ≤ stack →
      (fr.prevframe = 0 → fr.entrance = true) →
      (top = false → fr.atCall = true) →
      FramesWf rest fr.prevframe ((stack : Int) - frameSizeWords) false →
      FramesWf (fr :: rest) stack stacktop top

structure FiberWf (h : FiberHdr) (frames : List FrameRec) : Prop where
  setup : h.frame + frameSizeWords ≤ h.stackstart ∧ h.stackstart ≤ h.stacktop ∧ h.stacktop ≤ h.maxstack
  capacity : h.stacktop ≤ h.stacktop + 10          -- fiber->capacity = stacktop + 10
  chain : FramesWf frames h.frame ((h.stackstart : Int) - frameSizeWords) true
  status : h.status ≤ statusAlive
  /-- a status that can be resumed implies at least one frame -/
  resumableHasFrame : resumable h.status = true → 0 < h.frame
  /-- the resume preamble `stack[A] = in; pc++` is safe on the top frame -/
  resumePoint : resumable h.status = true → ∃ fr rest, frames = fr :: rest ∧
      (h.noUseval = true ∨ fr.aIsSlot = true) ∧ (h.noSkip = true ∨ fr.pcdiff + 1 < fr.bclen)

/-- the part of the invariant that the baseline checks establish -/
structure FiberWfPartial (h : FiberHdr) (frames : List FrameRec) : Prop where
  setup : h.frame + frameSizeWords ≤ h.stackstart ∧ h.stackstart ≤ h.stacktop ∧ h.stacktop ≤ h.maxstack
  status : h.status ≤ statusAlive

/-- function case of `unmarshal_one` + environments of `unmarshal_one_def` -/
def acceptFunction (C : Checks) (len : Nat) (defEnvLen : Nat) (environments : List Int) : Bool :=
  (!C.fnEnvCount || len == defEnvLen) && (!C.defEnvIndex || environments.all (fun e => decide (-1 ≤ e)))

/-- `unmarshal_one_env`, on-stack variant: the offset stored in the new environment -/
def envOffsetStored (C : Checks) (offset : Nat) : Int := if C.envNegOffset then -(offset : Int) else offset

/-- JOP_LOAD_UPVALUE / JOP_SET_UPVALUE: does the handler reach `env->as.fiber->data[...]` for an environment whose stored
    offset is `off` without having gone through `janet_env_valid`?  (`janet_env_valid` is the identity for off ≥ 0.) -/
def derefsUnvalidated (C : Checks) (off : Int) : Bool := !C.envValidBeforeDeref && decide (off ≠ 0)
def validatedFirst (C : Checks) (off : Int) : Bool := C.envValidBeforeDeref && decide (off < 0)

end JanetModel.Unmarsh
