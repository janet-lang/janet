/-
C16 — the listener-slot registry (`stream->read_fiber`, `stream->write_fiber`): invariant "every fiber that waits on the
stream is the one registered in its slot", preserved by every step when `janet_async_start_fiber` guards the slots;
an orphaned fiber (waiting but not registered) is never resumed by any later event.
-/
import JanetModel.Stream.Model

namespace JanetModel.Stream

/-- every waiting fiber is registered in the slot of its direction -/
def World.Inv (w : World) : Prop := ∀ f d, w.pend f = some d → w.slot d = some f

/-- fiber `f` waits but no slot refers to it: no event can reach it -/
def World.Orphan (w : World) (f : Nat) : Prop := (w.pend f).isSome ∧ w.slotR ≠ some f ∧ w.slotW ≠ some f

theorem World.slot_setSlot (w : World) (d d' : Dir) (v : Option Nat) :
    (w.setSlot d v).slot d' = if d' = d then v else w.slot d' := by
  cases d <;> cases d' <;> simp [World.setSlot, World.slot]

theorem World.pend_setSlot (w : World) (d : Dir) (v : Option Nat) : (w.setSlot d v).pend = w.pend := by
  cases d <;> rfl

theorem World.outcome_setSlot (w : World) (d : Dir) (v : Option Nat) : (w.setSlot d v).outcome = w.outcome := by
  cases d <;> rfl

theorem World.closed_setSlot (w : World) (d : Dir) (v : Option Nat) : (w.setSlot d v).closed = w.closed := by
  cases d <;> rfl

theorem World.finish_pend (w : World) (f : Nat) (d : Dir) (r : Res) (g : Nat) :
    (w.finish f d r).pend g = if g = f then none else w.pend g := by
  unfold World.finish
  by_cases h : w.slot d = some f <;> simp [h]

theorem World.finish_outcome (w : World) (f : Nat) (d : Dir) (r : Res) (g : Nat) :
    (w.finish f d r).outcome g = if g = f then some r else w.outcome g := by
  unfold World.finish
  by_cases h : w.slot d = some f <;> simp [h]

theorem World.finish_slot (w : World) (f : Nat) (d d' : Dir) (r : Res) :
    (w.finish f d r).slot d' = if d' = d ∧ w.slot d = some f then none else w.slot d' := by
  unfold World.finish
  by_cases h : w.slot d = some f
  · simp only [h, if_true]
    cases d <;> cases d' <;> simp [World.setSlot, World.slot] at h ⊢ <;> simp [h]
  · simp only [h, if_false]
    cases d <;> cases d' <;> simp [World.slot] at h ⊢

theorem World.finish_closed (w : World) (f : Nat) (d : Dir) (r : Res) : (w.finish f d r).closed = w.closed := by
  unfold World.finish
  by_cases h : w.slot d = some f <;> simp [h, World.closed_setSlot]

theorem World.finish_inv (w : World) (f : Nat) (d : Dir) (r : Res) (h : w.Inv) : (w.finish f d r).Inv := by
  intro g dg hg
  rw [World.finish_pend] at hg
  by_cases hgf : g = f
  · simp [hgf] at hg
  · simp only [hgf, if_false] at hg
    have hs := h g dg hg
    rw [World.finish_slot]
    by_cases hc : dg = d ∧ w.slot d = some f
    · obtain ⟨h1, h2⟩ := hc
      subst h1
      rw [hs] at h2
      exact absurd (Option.some.inj h2) hgf
    · simp only [hc, if_false]; exact hs

/-- the registered state `janet_async_start_fiber` produces before the INIT event is delivered -/
def World.register (w : World) (f : Nat) (d : Dir) : World :=
  { (w.setSlot d (some f)) with pend := fun g => if g = f then some d else w.pend g,
                                outcome := fun g => if g = f then none else w.outcome g }

/-- what `janet_async_start_fiber` can do: nothing (the fiber already waits), raise (stream closed, or the guard finds the slot
    occupied), or register the fiber and deliver the INIT event like any other event -/
theorem World.start_ind {P : World → Prop} (guard : Bool) (w : World) (f : Nat) (d : Dir) (fin : Bool)
    (hwaits : (w.pend f).isSome = true → P w)
    (hraise : (w.pend f).isSome = false → (w.closed = true ∨ guard = true ∧ w.occupied f d = true) → P (w.raise f))
    (hadmit : (w.pend f).isSome = false → w.closed = false → (guard = true → w.occupied f d = false) →
      P ((w.register f d).ready d fin)) : P (w.start guard f d fin) := by
  unfold World.start
  cases hp : (w.pend f).isSome with
  | true => exact hwaits hp
  | false =>
    cases hc : w.closed with
    | true => exact hraise hp (.inl hc)
    | false =>
      by_cases hg : guard = true ∧ w.occupied f d = true
      · simp only [hg, and_self, Bool.false_eq_true, if_false, if_true]; exact hraise hp (.inr hg)
      · have hs : (w.register f d).slot d = some f := by show (w.setSlot d (some f)).slot d = _; rw [World.slot_setSlot, if_pos rfl]
        have := hadmit hp hc fun h => by
          cases hx : w.occupied f d with
          | false => rfl
          | true => exact absurd ⟨h, hx⟩ hg
        unfold World.ready at this
        rw [hs] at this
        simpa only [hg, Bool.false_eq_true, if_false, World.register, if_true, true_and] using this

theorem World.register_inv (w : World) (f : Nat) (d : Dir) (h : w.Inv) (hocc : w.occupied f d = false) : (w.register f d).Inv := by
  intro g dg hg
  show (w.setSlot d (some f)).slot dg = some g
  rw [World.slot_setSlot]
  replace hg : (if g = f then some d else w.pend g) = some dg := hg
  by_cases hgf : g = f
  · rw [if_pos hgf] at hg
    rw [if_pos (Option.some.inj hg).symm, hgf]
  · rw [if_neg hgf] at hg
    have hs := h g dg hg
    by_cases hd : dg = d
    · subst hd
      simp [World.occupied, hs, hgf, hg] at hocc
    · rw [if_neg hd]; exact hs

theorem World.ready_inv (w : World) (d : Dir) (fin : Bool) (h : w.Inv) : (w.ready d fin).Inv := by
  unfold World.ready
  cases hs : w.slot d with
  | none => exact h
  | some f =>
    by_cases hc : w.pend f = some d ∧ fin = true
    · simp only [hc, and_self, if_true]; exact World.finish_inv w f d .completed h
    · simp only [hc, if_false]; exact h

theorem World.start_inv_gen (guard : Bool) (w : World) (f : Nat) (d : Dir) (fin : Bool) (h : w.Inv)
    (hgd : guard = true ∨ w.occupied f d = false) : (w.start guard f d fin).Inv :=
  World.start_ind (P := World.Inv) guard w f d fin (fun _ => h) (fun _ _ g dg hg => h g dg hg)
    fun _ _ ho => World.ready_inv _ d fin (World.register_inv w f d h (hgd.elim ho id))

theorem World.setSlot_none_inv (w : World) (d : Dir) (h : w.Inv) (hn : ∀ g, w.pend g ≠ some d) : (w.setSlot d none).Inv := by
  intro g dg hg
  rw [World.pend_setSlot] at hg
  rw [World.slot_setSlot]
  by_cases hd : dg = d
  · subst hd; exact absurd hg (hn g)
  · simp only [hd, if_false]; exact h g dg hg

/-- after one half of close nobody waits in that direction; the invariant survives; `pend` only shrinks -/
theorem World.closeDir_spec (w : World) (d : Dir) (r : Res) (h : w.Inv) :
    (w.closeDir d r).Inv ∧ (∀ g, (w.closeDir d r).pend g ≠ some d) ∧
      (∀ g d', (w.closeDir d r).pend g = some d' → w.pend g = some d') := by
  unfold World.closeDir
  cases hs : w.slot d with
  | none =>
    have hn : ∀ g, w.pend g ≠ some d := by
      intro g hg; have := h g d hg; rw [hs] at this; cases this
    exact ⟨World.setSlot_none_inv w d h hn, by intro g; rw [World.pend_setSlot]; exact hn g,
           by intro g d' hg; rw [World.pend_setSlot] at hg; exact hg⟩
  | some f =>
    by_cases hpf : (w.pend f).isSome = true
    · simp only [hpf, if_true]
      have hn : ∀ g, (w.finish f d r).pend g ≠ some d := by
        intro g hg
        rw [World.finish_pend] at hg
        by_cases hgf : g = f
        · simp [hgf] at hg
        · simp only [hgf, if_false] at hg
          have := h g d hg
          rw [hs] at this
          exact hgf (Option.some.inj this).symm
      refine ⟨World.setSlot_none_inv _ d (World.finish_inv w f d r h) hn, ?_, ?_⟩
      · intro g; rw [World.pend_setSlot]; exact hn g
      · intro g d' hg
        rw [World.pend_setSlot, World.finish_pend] at hg
        by_cases hgf : g = f
        · simp [hgf] at hg
        · simpa [hgf] using hg
    · simp only [hpf]
      have hn : ∀ g, w.pend g ≠ some d := by
        intro g hg
        have := h g d hg
        rw [hs] at this
        have : g = f := (Option.some.inj this).symm
        subst this
        simp [hg] at hpf
      exact ⟨World.setSlot_none_inv w d h hn, by intro g; rw [World.pend_setSlot]; exact hn g,
             by intro g d' hg; rw [World.pend_setSlot] at hg; exact hg⟩

/-- after `janet_stream_close` no fiber waits on the stream any more (given the invariant); close does not depend on the guards -/
theorem World.close_pend_none_gen (gR gW : Bool) (w : World) (h : w.Inv) (g : Nat) :
    (World.step gR gW w .close).pend g = none := by
  obtain ⟨i1, n1, _⟩ := World.closeDir_spec w .rd .completed h
  obtain ⟨_, n2, s2⟩ := World.closeDir_spec (w.closeDir .rd .completed) .wr .raised i1
  show ((w.closeDir .rd .completed).closeDir .wr .raised).pend g = none
  cases hx : ((w.closeDir .rd .completed).closeDir .wr .raised).pend g with
  | none => rfl
  | some d =>
    cases d with
    | rd => exact absurd (s2 g .rd hx) (n1 g)
    | wr => exact absurd hx (n2 g)

theorem World.close_pend_none (w : World) (h : w.Inv) (g : Nat) : (World.step true true w .close).pend g = none :=
  World.close_pend_none_gen true true w h g

theorem World.close_inv_gen (gR gW : Bool) (w : World) (h : w.Inv) : (World.step gR gW w .close).Inv := by
  intro g dg hg
  rw [World.close_pend_none_gen gR gW w h g] at hg
  cases hg

theorem guardOf_true (d : Dir) : guardOf true true d = true := by cases d <;> rfl

theorem World.step_inv (w : World) (a : Act) (h : w.Inv) : (World.step true true w a).Inv := by
  cases a with
  | start f d fin =>
    show (w.start (guardOf true true d) f d fin).Inv
    rw [guardOf_true]; exact World.start_inv_gen true w f d fin h (.inl rfl)
  | ready d fin => exact World.ready_inv w d fin h
  | close => exact World.close_inv_gen true true w h

/-- a schedule step respects the one-reader / one-writer discipline -/
def World.Disciplined (w : World) : Act → Prop
  | .start f d _ => w.occupied f d = false
  | _ => True

/-- Without any guard in the source the invariant still holds as long as the program keeps the discipline. -/
theorem World.step_inv_disciplined (gR gW : Bool) (w : World) (a : Act) (h : w.Inv) (hd : w.Disciplined a) :
    (World.step gR gW w a).Inv := by
  cases a with
  | start f d fin => exact World.start_inv_gen _ w f d fin h (Or.inr hd)
  | ready d fin => exact World.ready_inv w d fin h
  | close => exact World.close_inv_gen gR gW w h

theorem World.finish_slot_some (w : World) (g : Nat) (d d' : Dir) (r : Res) (f : Nat) :
    (w.finish g d r).slot d' = some f → w.slot d' = some f := by
  rw [World.finish_slot]
  split
  · intro h; cases h
  · exact id

theorem World.finish_orphan (w : World) (f g : Nat) (d : Dir) (r : Res) (hne : g ≠ f) (h : w.Orphan f) :
    (w.finish g d r).Orphan f := by
  obtain ⟨hp, hr, hw⟩ := h
  refine ⟨?_, ?_, ?_⟩
  · rw [World.finish_pend]; simp [Ne.symm hne, hp]
  · exact fun e => hr (World.finish_slot_some w g d .rd r f e)
  · exact fun e => hw (World.finish_slot_some w g d .wr r f e)

theorem World.setSlot_orphan (w : World) (f : Nat) (d : Dir) (v : Option Nat) (hv : v ≠ some f) (h : w.Orphan f) :
    (w.setSlot d v).Orphan f := by
  obtain ⟨hp, hr, hw⟩ := h
  cases d with
  | rd => exact ⟨hp, hv, hw⟩
  | wr => exact ⟨hp, hr, hv⟩

theorem World.slot_ne_of_orphan (w : World) (f g : Nat) (d : Dir) (h : w.Orphan f) (hs : w.slot d = some g) : g ≠ f := by
  intro e; subst e
  cases d with
  | rd => exact h.2.1 hs
  | wr => exact h.2.2 hs

theorem World.closeDir_orphan (w : World) (f : Nat) (d : Dir) (r : Res) (h : w.Orphan f) : (w.closeDir d r).Orphan f := by
  unfold World.closeDir
  apply World.setSlot_orphan _ f d none (by simp)
  cases hs : w.slot d with
  | none => exact h
  | some g =>
    by_cases hpf : (w.pend g).isSome = true
    · simp only [hpf, if_true]; exact World.finish_orphan w f g d r (World.slot_ne_of_orphan w f g d h hs) h
    · simp only [hpf]; exact h

theorem World.register_orphan (w : World) (f g : Nat) (d : Dir) (hgf : g ≠ f) (h : w.Orphan f) : (w.register g d).Orphan f := by
  have o := World.setSlot_orphan w f d (some g) (fun e => hgf (Option.some.inj e)) h
  refine ⟨?_, o.2.1, o.2.2⟩
  show (if f = g then some d else w.pend f).isSome = true
  rw [if_neg (Ne.symm hgf)]; exact h.1

theorem World.ready_orphan (w : World) (f : Nat) (d : Dir) (fin : Bool) (h : w.Orphan f) : (w.ready d fin).Orphan f := by
  unfold World.ready
  cases hs : w.slot d with
  | none => exact h
  | some g =>
    by_cases hc : w.pend g = some d ∧ fin = true
    · simp only [hc, and_self, if_true]
      exact World.finish_orphan w f g d .completed (World.slot_ne_of_orphan w f g d h hs) h
    · simp only [hc, if_false]; exact h

/-- Whatever the guards and whatever happens next (readiness, errors, close, other fibers' operations): a fiber that
    waits without being registered keeps waiting. -/
theorem World.step_orphan (gR gW : Bool) (w : World) (a : Act) (f : Nat) (h : w.Orphan f) :
    (World.step gR gW w a).Orphan f := by
  cases a with
  | start g d fin =>
    refine World.start_ind (P := (World.Orphan · f)) _ w g d fin (fun _ => h) (fun _ _ => ⟨h.1, h.2.1, h.2.2⟩) fun hp _ _ => ?_
    have hgf : g ≠ f := fun e => by rw [e, h.1] at hp; cases hp
    exact World.ready_orphan _ f d fin (World.register_orphan w f g d hgf h)
  | ready d fin => exact World.ready_orphan w f d fin h
  | close =>
    have o := World.closeDir_orphan _ f .wr .raised (World.closeDir_orphan w f .rd .completed h)
    exact ⟨o.1, o.2.1, o.2.2⟩

theorem World.run_orphan (gR gW : Bool) (as : List Act) (f : Nat) : ∀ w : World, w.Orphan f → (World.run gR gW w as).Orphan f := by
  induction as with
  | nil => intro w h; exact h
  | cons a as ih => intro w h; exact ih _ (World.step_orphan gR gW w a f h)

theorem World.run_append (gR gW : Bool) (as bs : List Act) : ∀ w : World,
    World.run gR gW w (as ++ bs) = World.run gR gW (World.run gR gW w as) bs := by
  induction as with
  | nil => intro w; rfl
  | cons a as ih => intro w; exact ih _

theorem World.init_inv : World.init.Inv := by
  intro f d h; simp [World.init] at h

theorem World.run_inv (as : List Act) : ∀ w : World, w.Inv → (World.run true true w as).Inv := by
  induction as with
  | nil => intro w h; exact h
  | cons a as ih => intro w h; exact ih _ (World.step_inv w a h)

end JanetModel.Stream
