/-
C16 — lemmas about the socket state machines of Stream/Net.lean (net_callback_connect, net_callback_accept, the listening
socket against the kernel's accept queue).
-/
import JanetModel.Stream.Net
import JanetModel.Stream.Liveness

namespace JanetModel.Stream.Net

theorem connectStep_quiet (quiet closeEv : List Nat) (ev : AEv) (a : SoAns) (h : ev.code ∈ quiet) :
    connectStep quiet closeEv ev a = ⟨.pending, false, false⟩ := by
  simp [connectStep, h]

theorem connectStep_close (quiet closeEv : List Nat) (ev : AEv) (a : SoAns) (h : ev.code ∉ quiet) (hc : ev.code ∈ closeEv) :
    connectStep quiet closeEv ev a = ⟨.failed .closed, false, false⟩ := by
  simp [connectStep, h, hc]

/-- a non-quiet, non-close event: the outcome is decided by SO_ERROR alone, the operation ends -/
theorem connectStep_check (quiet closeEv : List Nat) (ev : AEv) (a : SoAns) (h : ev.code ∉ quiet) (hc : ev.code ∉ closeEv) :
    let o := connectStep quiet closeEv ev a
    o.asked = true ∧ o.res ≠ .pending ∧ (o.res = .connected ↔ a = .ok 0) ∧ (o.toclose = true ↔ a ≠ .ok 0) ∧
      (∀ r, a = .ok (r + 1) → o.res = .failed (.soError (r + 1))) ∧ (∀ e, a = .fail e → o.res = .failed (.sys e)) := by
  cases a with
  | ok r => cases r <;> simp [connectStep, h, hc]
  | fail e => simp [connectStep, h, hc]

theorem runConnect_quiet_prefix (quiet closeEv : List Nat) (pre rest : List (AEv × SoAns)) (h : ∀ p ∈ pre, p.1.code ∈ quiet) :
    runConnect quiet closeEv (pre ++ rest) =
      { runConnect quiet closeEv rest with consumed := (runConnect quiet closeEv rest).consumed + pre.length } := by
  induction pre with
  | nil => simp
  | cons p pre ih =>
    obtain ⟨ev, a⟩ := p
    have h1 : ev.code ∈ quiet := h (ev, a) (by simp)
    have h2 := ih (fun p hp => h p (by simp [hp]))
    simp only [List.cons_append, runConnect, connectStep_quiet quiet closeEv ev a h1, h2]
    simp [Nat.add_assoc]

/-- while only quiet events are delivered nothing happens: no system call, still pending -/
theorem runConnect_quiet (quiet closeEv : List Nat) (evs : List (AEv × SoAns)) (h : ∀ p ∈ evs, p.1.code ∈ quiet) :
    runConnect quiet closeEv evs = ⟨.pending, false, 0, evs.length⟩ := by
  have := runConnect_quiet_prefix quiet closeEv evs [] h
  simpa [runConnect] using this

/-- the first non-quiet event ends the operation, whatever follows -/
theorem runConnect_first (quiet closeEv : List Nat) (pre post : List (AEv × SoAns)) (ev : AEv) (a : SoAns)
    (hpre : ∀ p ∈ pre, p.1.code ∈ quiet) (hev : ev.code ∉ quiet) :
    let o := connectStep quiet closeEv ev a
    runConnect quiet closeEv (pre ++ (ev, a) :: post) = ⟨o.res, o.toclose, if o.asked then 1 else 0, pre.length + 1⟩ := by
  intro o
  rw [runConnect_quiet_prefix quiet closeEv pre _ hpre]
  have hne : o.res ≠ .pending := by
    by_cases hc : ev.code ∈ closeEv
    · show (connectStep quiet closeEv ev a).res ≠ .pending
      rw [connectStep_close quiet closeEv ev a hev hc]; simp
    · exact (connectStep_check quiet closeEv ev a hev hc).2.1
  have : runConnect quiet closeEv ((ev, a) :: post) = ⟨o.res, o.toclose, if o.asked then 1 else 0, 1⟩ := by
    simp only [runConnect]
    show (match o.res with
      | .pending => _
      | r => (⟨r, o.toclose, if o.asked then 1 else 0, 1⟩ : CTrace)) = _
    cases hr : o.res with
    | pending => exact absurd hr hne
    | connected => rfl
    | failed e => rfl
  rw [this]
  simp [Nat.add_comm]

/-- every event list splits into a quiet prefix and (possibly) a first non-quiet event -/
theorem split_quiet (quiet : List Nat) (evs : List (AEv × SoAns)) :
    (∀ p ∈ evs, p.1.code ∈ quiet) ∨
    ∃ pre ev a post, evs = pre ++ (ev, a) :: post ∧ (∀ p ∈ pre, p.1.code ∈ quiet) ∧ ev.code ∉ quiet := by
  induction evs with
  | nil => left; intro p hp; cases hp
  | cons p rest ih =>
    obtain ⟨ev, a⟩ := p
    by_cases h : ev.code ∈ quiet
    · rcases ih with ih | ⟨pre, ev', a', post, e, hp, hn⟩
      · left
        intro p hp
        rcases List.mem_cons.mp hp with rfl | hp
        · exact h
        · exact ih p hp
      · right
        refine ⟨(ev, a) :: pre, ev', a', post, by rw [e]; rfl, ?_, hn⟩
        intro p hp1
        rcases List.mem_cons.mp hp1 with rfl | hp2
        · exact h
        · exact hp p hp2
    · right
      exact ⟨[], ev, a, rest, rfl, (fun p hp => by cases hp), h⟩

/-- the EINTR loop retries, the first other answer decides: success / EINPROGRESS register the fiber and close nothing; an
    error closes the stream (hence the descriptor) exactly once and raises -/
theorem connectCall_first (pre post : List ConnAns) (a : ConnAns) (hpre : ∀ x ∈ pre, x = .eintr) (ha : a ≠ .eintr) :
    connectCall (pre ++ a :: post) =
      ⟨(match a with | .err e => .raised e | _ => .registered), pre.length + 1, (match a with | .err _ => 1 | _ => 0)⟩ := by
  induction pre with
  | nil =>
    cases a with
    | eintr => exact absurd rfl ha
    | ok => rfl
    | inprogress => rfl
    | err e => rfl
  | cons x pre ih =>
    have hx : x = .eintr := hpre x (by simp)
    subst hx
    have := ih (fun y hy => hpre y (by simp [hy]))
    simp only [List.cons_append, connectCall, this, List.length_cons]

theorem acceptStep_other (tryEv closeEv : List Nat) (loop : Bool) (ev : AEv) (a : AccAns)
    (h1 : ev.code ∉ closeEv) (h2 : ev.code ∉ tryEv) : acceptStep tryEv closeEv loop ev a = ⟨.pending, none, false⟩ := by
  simp [acceptStep, h1, h2]

/-- conservation: every descriptor `accept4` handed to this operation is either passed to a handler fiber (accept-loop)
    or is the one returned (accept) — in order, none dropped, none twice; an accept-loop never returns a connection, a
    single accept never spawns a handler and takes exactly one connection. -/
theorem runAccept_conserves (tryEv closeEv : List Nat) (loop : Bool) (evs : List (AEv × AccAns)) :
    let t := runAccept tryEv closeEv loop evs
    t.taken = t.handlers ++ (match t.res with | .accepted fd => [fd] | _ => []) ∧
    (loop = true → ∀ fd, t.res ≠ .accepted fd) ∧
    (loop = false → t.handlers = []) := by
  induction evs with
  | nil => simp [runAccept]
  | cons p rest ih =>
    obtain ⟨ev, a⟩ := p
    obtain ⟨ih1, ih2, ih3⟩ := ih
    simp only [runAccept]
    by_cases hc : ev.code ∈ closeEv
    · cases a <;> simp [acceptStep, hc]
    · by_cases ht : ev.code ∈ tryEv
      · cases a with
        | conn fd =>
          cases loop with
          | true =>
            simp only [acceptStep, hc, ht, if_true, if_false]
            refine ⟨?_, ?_, ?_⟩
            · simp [ih1]
            · intro _ fd'; exact ih2 rfl fd'
            · intro h; cases h
          | false => simp [acceptStep, hc, ht]
        | fail e =>
          simp only [acceptStep, hc, ht, if_true, if_false]
          refine ⟨?_, ?_, ?_⟩
          · simpa using ih1
          · intro h fd'; exact ih2 h fd'
          · intro h; simpa using ih3 h
      · cases a with
        | conn fd =>
          simp only [acceptStep, hc, ht, if_false]
          refine ⟨?_, ?_, ?_⟩
          · simpa using ih1
          · intro h fd'; exact ih2 h fd'
          · intro h; simpa using ih3 h
        | fail e =>
          simp only [acceptStep, hc, ht, if_false]
          refine ⟨?_, ?_, ?_⟩
          · simpa using ih1
          · intro h fd'; exact ih2 h fd'
          · intro h; simpa using ih3 h

/-- a single accept ends with the first valid answer at an INIT / READ event (liveness in one productive event) -/
theorem runAccept_first_conn (tryEv closeEv : List Nat) (pre post : List (AEv × AccAns)) (ev : AEv) (fd : Nat)
    (hpre : ∀ p ∈ pre, (acceptStep tryEv closeEv false p.1 p.2).res = .pending ∧ (acceptStep tryEv closeEv false p.1 p.2).spawned = none)
    (h1 : ev.code ∉ closeEv) (h2 : ev.code ∈ tryEv) :
    (runAccept tryEv closeEv false (pre ++ (ev, .conn fd) :: post)).res = .accepted fd := by
  induction pre with
  | nil => simp [runAccept, acceptStep, h1, h2]
  | cons p pre ih =>
    obtain ⟨e, a⟩ := p
    have hp := hpre (e, a) (by simp)
    have := ih (fun p hp' => hpre p (by simp [hp']))
    simp only [List.cons_append, runAccept]
    rw [hp.1]
    exact this

/-- everything that ever arrived, in order: handled ++ returned are interleaved, so conservation is stated per multiset
    for the mixed case and per list for a pure accept loop -/
def LSt.out (s : LSt) : Nat := s.handled.length + s.returned.length

theorem tryAccept_conserve (s : LSt) :
    s.tryAccept.handled.length + s.tryAccept.returned.length + s.tryAccept.q.length =
      s.handled.length + s.returned.length + s.q.length := by
  unfold LSt.tryAccept
  cases hq : s.q with
  | nil => simp [hq]
  | cons c q' =>
    by_cases hl : s.loopOn = true
    · simp [hl]; omega
    · by_cases hw : s.waiting = true
      · simp [hl, hw]; omega
      · simp [hl, hw, hq]

theorem lstep_poll_cases (lv it : Bool) (s : LSt) :
    lstep lv it s .poll = { s with edge := false }.tryAccept ∨ lstep lv it s .poll = { s with edge := false } := by
  by_cases h : s.served lv = true
  · left; simp [lstep, h]
  · right; simp [lstep, h]

/-- pure accept loop: `handled ++ q` is exactly the arrival sequence -/
structure LoopInv (arr : List Nat) (s : LSt) : Prop where
  cons : s.handled ++ s.q = arr
  ret : s.returned = []
  nw : s.waiting = false

theorem tryAccept_loopInv (arr : List Nat) (s : LSt) (h : LoopInv arr s) : LoopInv arr s.tryAccept := by
  unfold LSt.tryAccept
  cases hq : s.q with
  | nil => simpa [hq] using h
  | cons c q' =>
    by_cases hl : s.loopOn = true
    · simp only [hl, if_true]
      exact ⟨by have := h.cons; rw [hq] at this; simpa using this, h.ret, h.nw⟩
    · simp only [hl, h.nw]
      simpa [hq] using h

def arrivals : List LEv → List Nat
  | [] => []
  | .arrive c :: es => c :: arrivals es
  | _ :: es => arrivals es

def noSingle : List LEv → Bool
  | [] => true
  | .startAccept :: _ => false
  | _ :: es => noSingle es

theorem lstep_loopInv (lv it : Bool) (arr : List Nat) (s : LSt) (e : LEv) (h : LoopInv arr s) (hn : e ≠ .startAccept) :
    LoopInv (arr ++ arrivals [e]) (lstep lv it s e) := by
  cases e with
  | arrive c =>
    exact ⟨by simp [lstep, arrivals, ← h.cons], h.ret, h.nw⟩
  | poll =>
    simp only [arrivals, List.append_nil]
    have h1 : LoopInv arr { s with edge := false } := ⟨h.cons, h.ret, h.nw⟩
    rcases lstep_poll_cases lv it s with e | e <;> rw [e]
    · exact tryAccept_loopInv arr _ h1
    · exact h1
  | startLoop =>
    simp only [lstep, arrivals, List.append_nil]
    split
    · exact h
    · have h1 : LoopInv arr { s with loopOn := true } := ⟨h.cons, h.ret, h.nw⟩
      split
      · exact tryAccept_loopInv arr _ h1
      · exact h1
  | startAccept => exact absurd rfl hn

/-- conservation for an accept loop, for every event order: connections handed to handlers ++ connections still
    queued = connections that arrived, in arrival order (each exactly once). -/
theorem lrun_loop_conserves (lv it : Bool) (es : List LEv) : ∀ (arr : List Nat) (s : LSt), LoopInv arr s → noSingle es = true →
    LoopInv (arr ++ arrivals es) (lrun lv it s es) := by
  induction es with
  | nil => intro arr s h _; simpa [arrivals, lrun] using h
  | cons e es ih =>
    intro arr s h hn
    have hne : e ≠ .startAccept := by
      intro he; subst he; simp [noSingle] at hn
    have hn' : noSingle es = true := by
      cases e <;> simp_all [noSingle]
    have h1 := lstep_loopInv lv it arr s e h hne
    have h2 := ih _ _ h1 hn'
    have : arr ++ arrivals (e :: es) = arr ++ arrivals [e] ++ arrivals es := by
      cases e <;> simp [arrivals]
    rw [this]
    exact h2

theorem handled_mono_step (lv it : Bool) (s : LSt) (e : LEv) (c : Nat) (h : c ∈ s.handled) : c ∈ (lstep lv it s e).handled := by
  have ht : ∀ t : LSt, c ∈ t.handled → c ∈ t.tryAccept.handled := by
    intro t ht
    unfold LSt.tryAccept
    cases t.q with
    | nil => exact ht
    | cons d q' =>
      by_cases hl : t.loopOn = true
      · simp [hl, ht]
      · by_cases hw : t.waiting = true
        · simp [hl, hw, ht]
        · simp [hl, hw, ht]
  cases e with
  | arrive d => exact h
  | poll =>
    rcases lstep_poll_cases lv it s with e | e <;> rw [e]
    · exact ht _ h
    · exact h
  | startLoop =>
    simp only [lstep]
    split
    · exact h
    · split
      · exact ht _ h
      · exact h
  | startAccept =>
    simp only [lstep]
    split
    · exact h
    · split
      · exact ht _ h
      · exact h

theorem handled_mono (lv it : Bool) (es : List LEv) : ∀ (s : LSt) (c : Nat), c ∈ s.handled → c ∈ (lrun lv it s es).handled := by
  induction es with
  | nil => intro s c h; exact h
  | cons e es ih => intro s c h; exact ih _ c (handled_mono_step lv it s e c h)

def isPoll : LEv → Bool
  | .poll => true
  | _ => false

/-- LEVEL-TRIGGERED accept loop: a connection at position `p` of the accept queue is with a handler after `p + 1` loop
    iterations, whatever arrives in between. -/
theorem level_drains (it : Bool) (es : List LEv) : ∀ (s : LSt) (pre post : List Nat) (c : Nat),
    s.loopOn = true → s.q = pre ++ c :: post → (es.filter isPoll).length ≥ pre.length + 1 →
    c ∈ (lrun true it s es).handled := by
  induction es with
  | nil => intro s pre post c _ _ hc; simp at hc
  | cons e es ih =>
    intro s pre post c hl hq hc
    cases e with
    | arrive d =>
      have hc' : (es.filter isPoll).length ≥ pre.length + 1 := by simpa [List.filter, isPoll] using hc
      exact ih (lstep true it s (.arrive d)) pre (post ++ [d]) c hl (by simp [lstep, hq]) hc'
    | startLoop =>
      have hc' : (es.filter isPoll).length ≥ pre.length + 1 := by simpa [List.filter, isPoll] using hc
      have : lstep true it s .startLoop = s := by simp [lstep, hl]
      simp only [lrun]; rw [this]
      exact ih s pre post c hl hq hc'
    | startAccept =>
      have hc' : (es.filter isPoll).length ≥ pre.length + 1 := by simpa [List.filter, isPoll] using hc
      have : lstep true it s .startAccept = s := by simp [lstep, hl]
      simp only [lrun]; rw [this]
      exact ih s pre post c hl hq hc'
    | poll =>
      have hc' : (es.filter isPoll).length + 1 ≥ pre.length + 1 := by simpa [List.filter, isPoll] using hc
      have hsv : s.served true = true := by
        simp [LSt.served, LSt.reports, hl, hq]
      simp only [lrun]
      cases pre with
      | nil =>
        -- c is the head: this iteration hands it to a handler
        have hs : c ∈ (lstep true it s .poll).handled := by
          simp [lstep, hsv, hl, hq, LSt.tryAccept]
        exact handled_mono true it es _ c hs
      | cons d pre' =>
        have hstep : (lstep true it s .poll).loopOn = true ∧ (lstep true it s .poll).q = pre' ++ c :: post := by
          simp [lstep, hsv, hl, hq, LSt.tryAccept]
        exact ih _ pre' post c hstep.1 hstep.2 (by simp at hc'; omega)

theorem lrun_append (lv it : Bool) (a b : List LEv) : ∀ s : LSt, lrun lv it s (a ++ b) = lrun lv it (lrun lv it s a) b := by
  induction a with
  | nil => intro s; rfl
  | cons e a ih => intro s; exact ih _

/-- EDGE-TRIGGERED accept loop (what the listener would be without `janet_stream_level_triggered`): two connections that
    arrive before one loop iteration produce ONE readiness report; the callback accepts one connection per report; the
    second connection is never handed to a handler however many iterations follow. -/
theorem edge_strands (it : Bool) (n : Nat) :
    let s := lrun false it LSt.init ([.startLoop, .arrive 1, .arrive 2, .poll] ++ List.replicate n .poll)
    s.handled = [1] ∧ s.q = [2] := by
  have h0 : ∀ it, lrun false it LSt.init [.startLoop, .arrive 1, .arrive 2, .poll] = ⟨[2], false, true, false, [1], []⟩ := by
    intro it; cases it <;> decide
  have hrep : ∀ n, lrun false it ⟨[2], false, true, false, [1], []⟩ (List.replicate n .poll) = ⟨[2], false, true, false, [1], []⟩ := by
    intro n
    induction n with
    | zero => rfl
    | succ k ih =>
      simp only [List.replicate_succ, lrun]
      have : lstep false it ⟨[2], false, true, false, [1], []⟩ .poll = ⟨[2], false, true, false, [1], []⟩ := by
        cases it <;> decide
      rw [this]; exact ih
  intro s
  have : s = ⟨[2], false, true, false, [1], []⟩ := by
    show lrun false it LSt.init ([.startLoop, .arrive 1, .arrive 2, .poll] ++ List.replicate n .poll) = _
    rw [lrun_append, h0, hrep]
  rw [this]
  exact ⟨rfl, rfl⟩

/-! single net/accept on the (edge-triggered) listener: never stranded, because INIT tries at once and an arrival while
    it waits raises a fresh edge -/

/-- a waiting net/accept with a non-empty queue has an unreported edge (so the next loop iteration serves it) -/
def AcceptInv (s : LSt) : Prop := s.loopOn = false → s.waiting = true → s.q ≠ [] → s.edge = true

theorem lstep_acceptInv (lv : Bool) (s : LSt) (e : LEv) (h : AcceptInv s) (hl : s.loopOn = false) (he : e ≠ .startLoop) :
    AcceptInv (lstep lv true s e) ∧ (lstep lv true s e).loopOn = false := by
  cases e with
  | arrive c => exact ⟨fun _ _ _ => rfl, hl⟩
  | startLoop => exact absurd rfl he
  | poll =>
    have hsv : s.served lv = (s.edge && s.waiting) := by simp [LSt.served, LSt.reports, hl]
    cases hw : s.waiting with
    | false =>
      have : lstep lv true s .poll = { s with edge := false } := by simp [lstep, hsv, hw]
      rw [this]
      exact ⟨fun _ hw' _ => by simp [hw] at hw', hl⟩
    | true =>
      cases hq : s.q with
      | nil =>
        have : (lstep lv true s .poll).q = [] ∧ (lstep lv true s .poll).loopOn = false := by
          cases hed : s.edge <;> simp [lstep, hsv, hw, hed, LSt.tryAccept, hq, hl]
        exact ⟨fun _ _ hq' => absurd this.1 hq', this.2⟩
      | cons c q' =>
        have hed := h hl hw (by rw [hq]; simp)
        have : (lstep lv true s .poll).waiting = false ∧ (lstep lv true s .poll).loopOn = false := by
          simp [lstep, hsv, hw, hed, LSt.tryAccept, hq, hl]
        exact ⟨fun _ hw' _ => by rw [this.1] at hw'; exact absurd hw' (by simp), this.2⟩
  | startAccept =>
    simp only [lstep, hl, Bool.false_or]
    by_cases hw : s.waiting = true
    · simp only [hw, if_true]; exact ⟨h, hl⟩
    · have hw0 : s.waiting = false := by cases hx : s.waiting <;> simp_all
      simp only [hw0, Bool.false_eq_true, if_false, if_true]
      cases hq : s.q with
      | nil =>
        constructor
        · intro _ _ hq'; exfalso; apply hq'; simp [LSt.tryAccept, hq]
        · simp [LSt.tryAccept, hq, hl]
      | cons c q' =>
        constructor
        · intro _ hw' _; exfalso; simp [LSt.tryAccept, hq, hl] at hw'
        · simp [LSt.tryAccept, hq, hl]

theorem lrun_acceptInv (lv : Bool) : ∀ (es : List LEv) (s : LSt), AcceptInv s → s.loopOn = false → (∀ e ∈ es, e ≠ .startLoop) →
    AcceptInv (lrun lv true s es) ∧ (lrun lv true s es).loopOn = false
  | [], _, h, hl, _ => ⟨h, hl⟩
  | e :: es, s, h, hl, hn =>
    have ⟨h1, h2⟩ := lstep_acceptInv lv s e h hl (hn e (List.mem_cons_self ..))
    lrun_acceptInv lv es _ h1 h2 fun e' he' => hn e' (List.mem_cons_of_mem _ he')

theorem prefixOf_add {ε : Type} (evs : Nat → ε) (a n : Nat) :
    prefixOf evs (a + n) = prefixOf evs a ++ prefixOf (fun j => evs (a + j)) n := by
  induction n with
  | zero => simp [prefixOf]
  | succ n ih => rw [← Nat.add_assoc, prefix_succ, ih, prefix_succ, List.append_assoc]

theorem loopOn_mono_step (lv it : Bool) (s : LSt) (e : LEv) (h : s.loopOn = true) : (lstep lv it s e).loopOn = true := by
  have ht : ∀ t : LSt, t.loopOn = true → t.tryAccept.loopOn = true := by
    intro t ht
    unfold LSt.tryAccept
    cases t.q with
    | nil => exact ht
    | cons d q' => simp [ht]
  cases e with
  | arrive d => exact h
  | poll =>
    rcases lstep_poll_cases lv it s with e | e <;> rw [e]
    · exact ht _ h
    · exact h
  | startLoop => simp [lstep, h]
  | startAccept => simp [lstep, h]

/-- LEVEL-TRIGGERED accept loop, fairness form: on every infinite schedule in which the event loop keeps iterating, every
    connection that arrives while the loop is registered is eventually handed to a handler fiber. -/
theorem level_serves_every_connection (it : Bool) (sched : Nat → LEv) (fair : ∀ k, ∃ j, k ≤ j ∧ sched j = .poll)
    (i c : Nat) (hi : sched i = .arrive c) (hloop : (lrun true it LSt.init (prefixOf sched i)).loopOn = true) :
    ∃ m, c ∈ (lrun true it LSt.init (prefixOf sched m)).handled := by
  let s1 := lrun true it LSt.init (prefixOf sched (i + 1))
  have hs1 : s1 = lstep true it (lrun true it LSt.init (prefixOf sched i)) (.arrive c) := by
    show lrun true it LSt.init (prefixOf sched (i + 1)) = _
    rw [prefix_succ, lrun_append, hi]; rfl
  have hq : s1.q = (lrun true it LSt.init (prefixOf sched i)).q ++ c :: [] := by rw [hs1]; rfl
  have hl : s1.loopOn = true := by rw [hs1]; exact loopOn_mono_step true it _ _ hloop
  let sched' : Nat → LEv := fun j => sched (i + 1 + j)
  have fair' : ∀ k, ∃ j, k ≤ j ∧ isPoll (sched' j) = true := by
    intro k
    obtain ⟨j, hj, hp⟩ := fair (i + 1 + k)
    refine ⟨j - (i + 1), by omega, ?_⟩
    show isPoll (sched (i + 1 + (j - (i + 1)))) = true
    have : i + 1 + (j - (i + 1)) = j := by omega
    rw [this, hp]; rfl
  obtain ⟨n, hn⟩ := fair_count sched' isPoll fair' ((lrun true it LSt.init (prefixOf sched i)).q.length + 1)
  refine ⟨i + 1 + n, ?_⟩
  rw [prefixOf_add, lrun_append]
  exact level_drains it (prefixOf sched' n) s1 _ [] c hl hq hn

end JanetModel.Stream.Net
