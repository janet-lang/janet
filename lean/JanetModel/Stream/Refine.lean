/-
C16 — the composed machine `W2` (Stream/Compose.lean) refines the listener-slot registry `World` (Stream/Model.lean): forgetting
the per-operation machine states, every step of `W2` is the step of `World` whose `fin` flag is what the machine decided.  So
the registry model — which is what the `S` correspondence compares with the implementation — and the composed model cannot drift
apart.
-/
import JanetModel.Stream.Compose
import JanetModel.Stream.Slots

namespace JanetModel.Stream.Compose
open JanetModel.Stream

variable {σ ε : Type}

/-- the registry part of a `World` -/
structure Core where
  slotR : Option Nat
  slotW : Option Nat
  pend : Nat → Option Dir
  closed : Bool

def coreOfWorld (w : World) : Core := ⟨w.slotR, w.slotW, w.pend, w.closed⟩
def coreOfW2 (w : W2 σ) : Core := ⟨w.slot .rd, w.slot .wr, fun f => (w.op f).map (·.1), w.closed⟩

/-- some `World` with this registry part (outcomes are not part of the comparison) -/
def worldOf (c : Core) : World := ⟨c.slotR, c.slotW, c.pend, fun _ => none, c.closed⟩

theorem core_ext (a b : Core) (h1 : a.slotR = b.slotR) (h2 : a.slotW = b.slotW) (h3 : ∀ f, a.pend f = b.pend f) (h4 : a.closed = b.closed) :
    a = b := by
  cases a; cases b
  simp only at h1 h2 h3 h4
  subst h1; subst h2; subst h4
  congr
  funext f; exact h3 f

/-- the `fin` flag of an event dispatched in direction `d`: the decision of the machine registered there, if any -/
def finOf (step : σ → ε → σ × Bool) (w : W2 σ) (d : Dir) (e : ε) : Bool :=
  match w.slot d with
  | some f => (match w.op f with
    | some (_, s) => (step s e).2
    | none => false)
  | none => false

/-- the abstract action a `W2` action corresponds to -/
def absAct (step : σ → ε → σ × Bool) (w : W2 σ) : Act2 σ ε → Act
  | .start f d s0 e0 => .start f d (step s0 e0).2
  | .ev d e => .ready d (finOf step w d e)
  | .close => .close

theorem slot_worldOf (w : W2 σ) (d : Dir) : (worldOf (coreOfW2 w)).slot d = w.slot d := by cases d <;> rfl

theorem occupied_worldOf (w : W2 σ) (f : Nat) (d : Dir) : (worldOf (coreOfW2 w)).occupied f d = w.occupied f d := by
  unfold World.occupied W2.occupied
  rw [slot_worldOf]
  cases w.slot d with
  | none => rfl
  | some g => simp [worldOf, coreOfW2]

/-- registry part of a `World` through the accessor `slot` -/
theorem coreOfWorld_eq (W : World) (c : Core) (h1 : ∀ d, W.slot d = (match d with | .rd => c.slotR | .wr => c.slotW))
    (h3 : ∀ f, W.pend f = c.pend f) (h4 : W.closed = c.closed) : coreOfWorld W = c :=
  core_ext _ _ (h1 .rd) (h1 .wr) h3 h4

theorem core_facts (w : W2 σ) (W : World) (hW : coreOfWorld W = coreOfW2 w) :
    (∀ d', W.slot d' = w.slot d') ∧ (∀ g, W.pend g = (w.op g).map (·.1)) ∧ W.closed = w.closed := by
  refine ⟨?_, ?_, ?_⟩
  · intro d'
    have h1 := congrArg Core.slotR hW; have h2 := congrArg Core.slotW hW
    cases d' <;> simp_all [coreOfWorld, coreOfW2, World.slot]
  · intro g; have := congrArg Core.pend hW; simp only [coreOfWorld, coreOfW2] at this; exact congrFun this g
  · have := congrArg Core.closed hW; simpa [coreOfWorld, coreOfW2] using this

theorem core_of_facts (w : W2 σ) (W : World) (h1 : ∀ d, W.slot d = w.slot d) (h2 : ∀ g, W.pend g = (w.op g).map (·.1))
    (h3 : W.closed = w.closed) : coreOfWorld W = coreOfW2 w :=
  core_ext _ _ (h1 .rd) (h1 .wr) h2 h3

theorem finish_core (w : W2 σ) (f : Nat) (d : Dir) (s : σ) (W : World) (hW : coreOfWorld W = coreOfW2 w) (hs : w.slot d = some f)
    (r : Res) : coreOfWorld (W.finish f d r) = coreOfW2 (w.finish f d s) := by
  obtain ⟨hslot, hpend, hcl⟩ := core_facts w W hW
  refine core_of_facts _ _ (fun d' => ?_) (fun g => ?_) ?_
  · rw [World.finish_slot, hslot, hslot, hs]
    simp only [W2.finish]
    cases d <;> cases d' <;> simp [updS]
  · rw [World.finish_pend, hpend]
    simp only [W2.finish, upd]
    by_cases hg : g = f <;> simp [hg]
  · rw [World.finish_closed, hcl]; rfl

/-- clearing slot `d` on both sides, the concrete side given by what its slots then are -/
theorem setSlot_none_refines (w w' : W2 σ) (W : World) (hW : coreOfWorld W = coreOfW2 w) (d : Dir)
    (hs : ∀ d', w'.slot d' = if d' = d then none else w.slot d') (ho : w'.op = w.op) (hc : w'.closed = w.closed) :
    coreOfWorld (W.setSlot d none) = coreOfW2 w' := by
  obtain ⟨hslot, hpend, hcl⟩ := core_facts w W hW
  exact core_of_facts _ _ (fun d' => by rw [World.slot_setSlot, hs, hslot])
    (fun g => by rw [World.pend_setSlot, ho]; exact hpend g) (by rw [World.closed_setSlot, hc]; exact hcl)

/-- a new machine state for a fiber that already waits in `d` is invisible in the registry -/
theorem setOp_core (w : W2 σ) (f : Nat) (d : Dir) (s s' : σ) (ho : w.op f = some (d, s)) :
    coreOfW2 { w with op := upd w.op f (some (d, s')) } = coreOfW2 w := by
  apply core_ext <;> try rfl
  intro g
  simp only [coreOfW2, upd]
  by_cases hg : g = f
  · subst hg; simp [ho]
  · simp [hg]

/-- registration on both sides -/
theorem register_core (w : W2 σ) (f : Nat) (d : Dir) (s0 : σ) (W : World) (hW : coreOfWorld W = coreOfW2 w) :
    coreOfWorld (W.register f d) = coreOfW2 { w with slot := updS w.slot d (some f), op := upd w.op f (some (d, s0)) } := by
  obtain ⟨hslot, hpend, hcl⟩ := core_facts w W hW
  refine core_of_facts _ _ (fun d' => ?_) (fun g => ?_) ?_
  · show (W.setSlot d (some f)).slot d' = _
    rw [World.slot_setSlot, hslot]; rfl
  · show (if g = f then some d else W.pend g) = _
    simp only [upd]
    by_cases hg : g = f
    · simp [hg]
    · simp [hg, hpend]
  · show (W.setSlot d (some f)).closed = _
    rw [World.closed_setSlot, hcl]

/-- no stale slot: a slot names a fiber only while that fiber waits in that direction -/
def NoStale (w : W2 σ) : Prop := ∀ d f, w.slot d = some f → ∃ s, w.op f = some (d, s)

section
variable (step : σ → ε → σ × Bool)

/-- readiness dispatch refines `World.ready` -/
theorem deliver_refines (w : W2 σ) (W : World) (hW : coreOfWorld W = coreOfW2 w) (d : Dir) (e : ε) :
    coreOfWorld (W.ready d (finOf step w d e)) = coreOfW2 (w.deliver step d e) := by
  obtain ⟨hslot, hpend, _⟩ := core_facts w W hW
  unfold World.ready
  rw [hslot]
  rcases deliver_cases step w d e with ⟨hn, hr⟩ | ⟨f, s, hs, ho, he, hr⟩ | ⟨f, s, hs, ho, he, hr⟩ <;> rw [hr]
  · -- nobody waits in `d` behind the slot: the registry does not move either
    cases hs : w.slot d with
    | none => exact hW
    | some f =>
      have : W.pend f ≠ some d := by
        rw [hpend]
        cases ho : w.op f with
        | none => nofun
        | some p => exact fun hp => hn f p.2 hs (by rw [ho, ← Option.some.inj hp])
      simp only [this, false_and, if_false]
      exact hW
  · have hp : W.pend f = some d := by rw [hpend, ho]; rfl
    simp only [hs, hp, finOf, ho, he, and_self, if_true]
    exact finish_core w f d _ W hW hs _
  · simp only [hs, finOf, ho, he, Bool.false_eq_true, and_false, if_false]
    rw [setOp_core w f d s _ ho]
    exact hW

/-- one half of close refines `World.closeDir` (given the invariant: the registered fiber waits in this direction) -/
theorem closeDir_refines (c : ε) (w : W2 σ) (W : World) (hW : coreOfWorld W = coreOfW2 w) (h : NoStale w) (d : Dir) (r : Res) :
    coreOfWorld (W.closeDir d r) = coreOfW2 (W2.closeDir step c w d) := by
  obtain ⟨hslot, hpend, hcl⟩ := core_facts w W hW
  unfold World.closeDir
  rw [hslot]
  rcases closeDir_cases step c w d with ⟨hr, hs⟩ | ⟨f, s, hs, ho, hr⟩ | ⟨f, hs, hn, _⟩
  · -- clearing an empty slot changes nothing
    rw [hr, hs]
    exact setSlot_none_refines w w W hW d (fun d' => by split <;> simp_all) rfl rfl
  · -- finish already cleared the slot; clearing it again changes nothing
    have hp : (W.pend f).isSome = true := by rw [hpend, ho]; rfl
    simp only [hr, hs, hp, if_true]
    exact setSlot_none_refines _ _ _ (finish_core w f d _ W hW hs r) d (fun d'' => by split <;> simp_all [W2.finish, updS]) rfl rfl
  · obtain ⟨s, hs'⟩ := h d f hs
    exact absurd hs' (hn s)

end

section
variable (step : σ → ε → σ × Bool)

theorem finish_noStale (w : W2 σ) (f : Nat) (d : Dir) (s : σ) (h : NoStale w) (hs : w.slot d = some f) : NoStale (w.finish f d s) := by
  intro d'' g hg
  simp only [W2.finish] at hg ⊢
  by_cases hd : d'' = d
  · subst hd; simp at hg
  · rw [updS_other _ _ _ _ hd] at hg
    obtain ⟨s', hs'⟩ := h d'' g hg
    have hgf : g ≠ f := by
      intro e; subst e
      obtain ⟨s2, hs2⟩ := h d g hs
      rw [hs'] at hs2
      injection hs2 with hs2; injection hs2 with h1 _
      exact hd h1
    exact ⟨s', by rw [upd_other _ _ _ _ hgf]; exact hs'⟩

theorem deliver_noStale (w : W2 σ) (d : Dir) (e : ε) (h : NoStale w) : NoStale (w.deliver step d e) := by
  rcases deliver_cases step w d e with ⟨_, hr⟩ | ⟨f, s, hs, _, _, hr⟩ | ⟨f, s, hs, ho, _, hr⟩ <;> rw [hr]
  · exact h
  · exact finish_noStale w f d _ h hs
  · intro d'' g hg
    simp only at hg ⊢
    obtain ⟨s', hs'⟩ := h d'' g hg
    by_cases hgf : g = f
    · subst hgf
      rw [ho] at hs'
      injection hs' with hs'; injection hs' with h1 _
      refine ⟨(step s e).1, ?_⟩
      simp [h1]
    · exact ⟨s', by rw [upd_other _ _ _ _ hgf]; exact hs'⟩

theorem closeDir_noStale (c : ε) (w : W2 σ) (d : Dir) (h : NoStale w) : NoStale (W2.closeDir step c w d) := by
  rcases closeDir_cases step c w d with ⟨hr, _⟩ | ⟨f, s, hs, _, hr⟩ | ⟨f, _, _, hr⟩ <;> rw [hr]
  · exact h
  · exact finish_noStale w f d _ h hs
  · intro d'' g hg
    simp only at hg ⊢
    by_cases hd : d'' = d
    · subst hd; simp at hg
    · rw [updS_other _ _ _ _ hd] at hg; exact h d'' g hg

theorem step2_noStale (c : ε) (w : W2 σ) (a : Act2 σ ε) (h : NoStale w) : NoStale (step2 step c w a) := by
  cases a with
  | ev d e => exact deliver_noStale step w d e h
  | close =>
    intro d'' g hg
    exact closeDir_noStale step c _ .wr (closeDir_noStale step c w .rd h) d'' g hg
  | start f d s0 e0 =>
    rcases start_cases step c w f d s0 e0 with ⟨_, he⟩ | ⟨_, _, he⟩ | ⟨hp, _, _, he⟩
    · rw [he]; exact h
    · rw [he]; exact fun d'' g hg => h d'' g hg
    · rw [he]
      apply deliver_noStale
      intro d'' g hg
      simp only at hg ⊢
      by_cases hd : d'' = d
      · subst hd; simp at hg; subst hg; exact ⟨s0, by simp⟩
      · rw [updS_other _ _ _ _ hd] at hg
        obtain ⟨s', hs'⟩ := h d'' g hg
        have hgf : g ≠ f := by
          intro e; subst e; simp [hs'] at hp
        exact ⟨s', by rw [upd_other _ _ _ _ hgf]; exact hs'⟩

/-- `janet_async_start_fiber` refines `World.start` with the guard present: the same three outcomes under the same conditions, and
    an admitted start is on both sides the registration followed by the INIT event -/
theorem start_refines (w : W2 σ) (W : World) (hW : coreOfWorld W = coreOfW2 w) (c : ε) (f : Nat) (d : Dir) (s0 : σ) (e0 : ε) :
    coreOfWorld (W.start true f d (step s0 e0).2) = coreOfW2 (step2 step c w (.start f d s0 e0)) := by
  obtain ⟨hslot, hpend, hcl⟩ := core_facts w W hW
  have hocc : W.occupied f d = w.occupied f d := by
    unfold World.occupied W2.occupied
    rw [hslot]
    cases w.slot d with
    | none => rfl
    | some g => simp [hpend]
  have hps : (W.pend f).isSome = (w.op f).isSome := by rw [hpend]; cases w.op f <;> rfl
  refine World.start_ind (P := fun W' => coreOfWorld W' = coreOfW2 (step2 step c w (.start f d s0 e0))) true W f d _
    (fun hp => ?_) (fun hp hr => ?_) fun hp hc ho => ?_
  · rw [hps] at hp
    simp only [step2, hp, if_true]; exact hW
  · rw [hps] at hp
    rw [hcl, hocc] at hr
    have : step2 step c w (.start f d s0 e0) = { w with refused := w.refused ++ [f] } := by
      rcases hr with hr | hr <;> simp [step2, hp, hr]
    rw [this]; exact hW
  · rw [step2_start_admitted step c w f d s0 e0 (hps ▸ hp) (hcl ▸ hc) (hocc ▸ ho rfl)]
    have hf : finOf step { w with slot := updS w.slot d (some f), op := upd w.op f (some (d, s0)) } d e0 = (step s0 e0).2 := by
      simp [finOf]
    rw [← hf]
    exact deliver_refines step _ _ (register_core w f d s0 W hW) d e0

/-- REFINEMENT: forgetting the per-operation machine states, every step of the composed machine is the step of the
    listener-slot registry `World` (both guards present) for the abstract action `absAct` — whose `fin` flag is exactly what
    the operation's machine decided on the delivered event. -/
theorem step2_refines (c : ε) (w : W2 σ) (W : World) (hW : coreOfWorld W = coreOfW2 w) (hn : NoStale w) (a : Act2 σ ε) :
    coreOfWorld (World.step true true W (absAct step w a)) = coreOfW2 (step2 step c w a) := by
  cases a with
  | start f d s0 e0 =>
    show coreOfWorld (W.start (guardOf true true d) f d (step s0 e0).2) = _
    rw [guardOf_true]
    exact start_refines step w W hW c f d s0 e0
  | ev d e => exact deliver_refines step w W hW d e
  | close =>
    have h1 := closeDir_refines step c w W hW hn .rd .completed
    have hn1 := closeDir_noStale step c w .rd hn
    have h2 := closeDir_refines step c _ _ h1 hn1 .wr .raised
    apply core_ext
    · have := congrArg Core.slotR h2; exact this
    · have := congrArg Core.slotW h2; exact this
    · intro g; have := congrFun (congrArg Core.pend h2) g; exact this
    · rfl

/-- … and so do whole schedules from any pair of related states: there is a schedule of abstract actions of the same length along
    which the registry `World` and the composed machine agree on slots, waiting fibers and closedness. -/
theorem run2_refines (c : ε) (as : List (Act2 σ ε)) : ∀ (w : W2 σ) (W : World), coreOfWorld W = coreOfW2 w → NoStale w →
    ∃ as' : List Act, as'.length = as.length ∧ coreOfWorld (World.run true true W as') = coreOfW2 (run2 step c w as) := by
  induction as with
  | nil => intro w W hW _; exact ⟨[], rfl, hW⟩
  | cons a as ih =>
    intro w W hW hn
    obtain ⟨as', hl, hr⟩ := ih (step2 step c w a) (World.step true true W (absAct step w a))
      (step2_refines step c w W hW hn a) (step2_noStale step c w a hn)
    exact ⟨absAct step w a :: as', by simp [hl], hr⟩

end

end JanetModel.Stream.Compose
