/-
C16 — lemmas about the stream model (offset arithmetic of the write machine, invariant of the read machine).
-/
import JanetModel.Stream.Model

namespace JanetModel.Stream

def sumGot : List Call → Nat
  | [] => 0
  | c :: cs => c.got + sumGot cs

theorem sumGot_append (a b : List Call) : sumGot (a ++ b) = sumGot a + sumGot b := by
  induction a with
  | nil => simp [sumGot]
  | cons c cs ih => simp [sumGot, ih, Nat.add_assoc]

theorem delivered_nil {α : Type} (src : List α) : delivered src [] = [] := rfl

theorem delivered_cons {α : Type} (src : List α) (c : Call) (cs : List Call) :
    delivered src (c :: cs) = (src.drop c.off).take c.got ++ delivered src cs := by
  simp [delivered, List.flatMap_cons]

theorem delivered_append {α : Type} (src : List α) (a b : List Call) :
    delivered src (a ++ b) = delivered src a ++ delivered src b := by
  simp [delivered, List.flatMap_append]

theorem take_drop_glue {α : Type} (src : List α) (s a b : Nat) :
    (src.drop s).take a ++ (src.drop (s + a)).take b = (src.drop s).take (a + b) := by
  rw [List.take_add, List.drop_drop]

/-- What one write event guarantees. -/
structure WGood {α : Type} (src : List α) (len : Nat) (dgram : Bool) (start : Nat) (calls : List Call) (start' : Nat) (res : WRes) : Prop where
  deliv : delivered src calls = (src.drop start).take (sumGot calls)
  bound : start + sumGot calls ≤ len
  adv : (dgram = false ∨ res = .pending) → start' = start + sumGot calls
  fin : res = .done → start' ≥ len
  offs : ∀ c ∈ calls, c.got > 0 → c.len = len - c.off

/-- a call that transferred nothing, in front of a trace that is good -/
theorem WGood.cons_zero {α : Type} {src : List α} {len : Nat} {dgram : Bool} {start : Nat} {calls : List Call} {start' : Nat}
    {res : WRes} (g : WGood src len dgram start calls start' res) (o l : Nat) :
    WGood src len dgram start (⟨o, l, 0⟩ :: calls) start' res :=
  ⟨by simpa only [delivered_cons, sumGot, List.take_zero, List.nil_append, Nat.zero_add] using g.deliv,
   by simpa only [sumGot, Nat.zero_add] using g.bound, by simpa only [sumGot, Nat.zero_add] using g.adv, g.fin,
   fun c hc hg => by
     rcases List.mem_cons.1 hc with rfl | hc
     · exact absurd hg (Nat.lt_irrefl 0)
     · exact g.offs c hc hg⟩

theorem WGood.nil {α : Type} {src : List α} {len : Nat} {dgram : Bool} {start : Nat} {res : WRes} (hs : start ≤ len)
    (hd : res = .done → start ≥ len) : WGood src len dgram start [] start res :=
  ⟨by simp [delivered, sumGot], by simpa [sumGot] using hs, fun _ => rfl, hd, nofun⟩

theorem writeCall_good {α : Type} (src : List α) (len : Nat) (dgram : Bool) (start : Nat) (h : start < len) (as : List Ans) :
    WGood src len dgram start (writeCall len dgram start as).calls (writeCall len dgram start as).start (writeCall len dgram start as).res := by
  have hs : start ≤ len := Nat.le_of_lt h
  induction as with
  | nil => exact .nil hs nofun
  | cons a as ih =>
    cases a with
    | eintr => exact ih.cons_zero _ _
    | eagain => exact (WGood.nil (res := .pending) hs nofun).cons_zero _ _
    | err c => exact (WGood.nil (res := .failed (.sys c)) hs nofun).cons_zero _ _
    | bytes n =>
      by_cases hk : min n (len - start) = 0 ∧ dgram = false
      · simp only [writeCall, hk, and_self, if_true]
        exact (WGood.nil (res := .failed .disconnect) hs nofun).cons_zero _ _
      · simp only [writeCall, hk, if_false]
        by_cases hp : min n (len - start) > 0
        · simp only [hp, if_true]
          refine ⟨by simp [delivered, sumGot], by simp [sumGot]; omega, by simp [sumGot], ?_, by simp⟩
          intro hd
          by_cases hge : start + min n (len - start) ≥ len
          · exact hge
          · simp [hge] at hd
        · have hz : min n (len - start) = 0 := by omega
          have hdg : dgram = true := by
            cases dgram with
            | true => rfl
            | false => exact absurd ⟨hz, rfl⟩ hk
          simp only [hp, if_false, hz]
          refine ⟨by simp [delivered, sumGot], by simp [sumGot]; omega, ?_, by simp, by simp⟩
          intro hh
          rcases hh with hh | hh
          · rw [hdg] at hh; exact absurd hh (by decide)
          · simp at hh

theorem writeStep_good {α : Type} (src : List α) (len : Nat) (dgram : Bool) (start : Nat) (hs : start ≤ len) (ev : WEv) :
    WGood src len dgram start (writeStep len dgram start ev).calls (writeStep len dgram start ev).start (writeStep len dgram start ev).res := by
  cases ev with
  | ready as =>
    simp only [writeStep, writeEvent]
    by_cases h : start < len
    · simp only [h, if_true]; exact writeCall_good src len dgram start h as
    · simp only [h, if_false]
      exact .nil hs fun _ => Nat.le_of_not_lt h
  | errEv => exact .nil hs nofun
  | hup => exact .nil hs nofun
  | close => exact .nil hs nofun

theorem runWrite_good {α : Type} (src : List α) (len : Nat) (dgram : Bool) (evs : List WEv) :
    ∀ start, start ≤ len →
      WGood src len dgram start (runWrite len dgram start evs).calls (runWrite len dgram start evs).start (runWrite len dgram start evs).res := by
  induction evs with
  | nil => intro start hs; exact .nil hs nofun
  | cons ev evs ih =>
    intro start hs
    have g := writeStep_good src len dgram start hs ev
    cases hr : (writeStep len dgram start ev).res with
    | pending =>
      have e1 : (writeStep len dgram start ev).start = start + sumGot (writeStep len dgram start ev).calls := g.adv (Or.inr hr)
      have hb := g.bound
      have g2 := ih (writeStep len dgram start ev).start (by omega)
      simp only [runWrite, hr]
      refine ⟨?_, ?_, ?_, ?_, ?_⟩
      · rw [delivered_append, g.deliv, g2.deliv, sumGot_append, e1, take_drop_glue]
      · rw [sumGot_append]; have := g2.bound; omega
      · intro hh; rw [sumGot_append]; have := g2.adv hh; omega
      · exact g2.fin
      · intro c hc hg
        rcases List.mem_append.mp hc with hc | hc
        · exact g.offs c hc hg
        · exact g2.offs c hc hg
    | done =>
      simp only [runWrite, hr]
      exact ⟨g.deliv, g.bound, by intro hh; exact g.adv (by rcases hh with hh | hh; exact Or.inl hh; simp at hh), by intro _; exact g.fin hr, g.offs⟩
    | failed e =>
      simp only [runWrite, hr]
      exact ⟨g.deliv, g.bound, by intro hh; exact g.adv (by rcases hh with hh | hh; exact Or.inl hh; simp at hh), by simp, g.offs⟩
    | starved =>
      simp only [runWrite, hr]
      exact ⟨g.deliv, g.bound, by intro hh; exact g.adv (by rcases hh with hh | hh; exact Or.inl hh; simp at hh), by simp, g.offs⟩

/-- a whole write from offset 0, as the properties are stated: what reached the kernel is the prefix of the source the calls
    transferred; a stream write resumes where the kernel stopped and, when it reports success, has handed over everything -/
theorem runWrite_zero_spec {α : Type} (src : List α) (dgram : Bool) (evs : List WEv) :
    delivered src (runWrite src.length dgram 0 evs).calls = src.take (sumGot (runWrite src.length dgram 0 evs).calls) ∧
    sumGot (runWrite src.length dgram 0 evs).calls ≤ src.length ∧
    (dgram = false → (runWrite src.length dgram 0 evs).start = sumGot (runWrite src.length dgram 0 evs).calls) ∧
    (dgram = false → (runWrite src.length dgram 0 evs).res = .done → delivered src (runWrite src.length dgram 0 evs).calls = src) := by
  have g := runWrite_good src src.length dgram evs 0 (Nat.zero_le _)
  generalize runWrite src.length dgram 0 evs = t at g ⊢
  have hd := g.deliv
  have hb := g.bound
  rw [List.drop_zero] at hd
  rw [Nat.zero_add] at hb
  have hst : dgram = false → t.start = sumGot t.calls := fun h => (g.adv (Or.inl h)).trans (Nat.zero_add _)
  refine ⟨hd, hb, hst, fun h hdone => ?_⟩
  have hge := g.fin hdone
  have hsum : sumGot t.calls = src.length := by have := hst h; omega
  rw [hd, hsum, List.take_length]

/-- Invariant of `StateRead` + buffer + kernel queue for an operation that asked for `n` bytes of the arrival
    sequence `inc0`. -/
structure RInv {α : Type} (n : Nat) (inc0 : List α) (st : RSt α) : Prop where
  len : st.got.length = st.read
  sum : st.read + st.left = n
  order : st.got ++ st.inc = inc0

theorem rInit_inv {α : Type} (n : Nat) (inc : List α) : RInv n inc (rInit n inc) := ⟨rfl, Nat.zero_add n, rfl⟩

theorem RInv.got_le {α : Type} {n : Nat} {inc0 : List α} {st : RSt α} (h : RInv n inc0 st) : st.got.length ≤ n := by
  have := h.len
  have := h.sum
  omega

theorem readLimit_le (chunk : Bool) (limC left : Nat) : readLimit chunk limC left ≤ left := by
  unfold readLimit
  split
  · split <;> omega
  · omega

theorem afterReadSt_inv {α : Type} (recvfrom : Bool) (n : Nat) (inc0 : List α) (st : RSt α) (k : Nat)
    (hk : k ≤ st.left) (hi : k ≤ st.inc.length) (h : RInv n inc0 st) :
    RInv n inc0 (afterReadSt recvfrom st k) := by
  obtain ⟨hl, hs, ho⟩ := h
  unfold afterReadSt
  split
  · rename_i h0
    have hk0 : k = 0 := by omega
    subst hk0
    exact ⟨by simpa using hl, by simpa using hs, ho⟩
  · refine ⟨?_, ?_, ?_⟩
    · simp only [List.length_append, List.length_take]; omega
    · show st.read + k + (st.left - k) = n; omega
    · show st.got ++ List.take k st.inc ++ List.drop k st.inc = inc0
      rw [List.append_assoc, List.take_append_drop]; exact ho

/-- in stream protocols EPIPE on a read is end of stream: the loop treats it as a read of 0 bytes -/
theorem readLoop_epipe {α : Type} (chunk : Bool) (limC base : Nat) (st : RSt α) (as : List Ans) :
    readLoop chunk false limC base st (.err EPIPE :: as) = readLoop chunk false limC base st (.bytes 0 :: as) := by
  simp only [readLoop, and_self, if_true, Nat.zero_min]

/-- what the read loop can do, once: `Q` is carried across every call that returned `k` bytes (`k` within `bytes_left` and the
    kernel's queue; EPIPE counts as 0 bytes), `R` holds wherever the loop stops — at a decision of `afterReadRes`, at EAGAIN,
    on an error, or when the answers run out -/
theorem readLoop_ind {α : Type} (chunk recvfrom : Bool) (limC base : Nat) {Q : RSt α → Prop} {R : RSt α → RRes → Prop}
    (hstep : ∀ st k, k ≤ st.left → k ≤ st.inc.length → Q st → Q (afterReadSt recvfrom st k))
    (hstop : ∀ st k r, afterReadRes chunk recvfrom st k = some r → R (afterReadSt recvfrom st k) r)
    (hidle : ∀ st, R st .pending ∧ R st .starved ∧ ∀ c, R st (.failed c)) (as : List Ans) :
    ∀ st : RSt α, Q st → Q (readLoop chunk recvfrom limC base st as).st ∧
      R (readLoop chunk recvfrom limC base st as).st (readLoop chunk recvfrom limC base st as).res := by
  induction as with
  | nil => exact fun st h => ⟨h, (hidle st).2.1⟩
  | cons a as ih =>
    intro st h
    have hb : ∀ m, Q (readLoop chunk recvfrom limC base st (.bytes m :: as)).st ∧
        R (readLoop chunk recvfrom limC base st (.bytes m :: as)).st (readLoop chunk recvfrom limC base st (.bytes m :: as)).res := by
      intro m
      simp only [readLoop]
      have hk : min (min m (readLimit chunk limC st.left)) st.inc.length ≤ st.left := by
        have := readLimit_le chunk limC st.left; omega
      have hi := hstep st _ hk (Nat.min_le_right _ _) h
      cases hr : afterReadRes chunk recvfrom st (min (min m (readLimit chunk limC st.left)) st.inc.length) with
      | some r => exact ⟨hi, hstop st _ r hr⟩
      | none => exact ih _ hi
    cases a with
    | eintr => simp only [readLoop]; exact ih st h
    | eagain => exact ⟨h, (hidle st).1⟩
    | bytes m => exact hb m
    | err c =>
      by_cases hp : c = EPIPE ∧ recvfrom = false
      · obtain ⟨rfl, rfl⟩ := hp
        rw [readLoop_epipe]; exact hb 0
      · simp only [readLoop, if_neg hp]; exact ⟨h, (hidle st).2.2 c⟩

theorem readLoop_inv {α : Type} (chunk recvfrom : Bool) (limC base n : Nat) (inc0 : List α) (as : List Ans) (st : RSt α)
    (h : RInv n inc0 st) : RInv n inc0 (readLoop chunk recvfrom limC base st as).st :=
  (readLoop_ind chunk recvfrom limC base (R := fun _ _ => True) (afterReadSt_inv recvfrom n inc0) (fun _ _ _ _ => trivial)
    (fun _ => ⟨trivial, trivial, fun _ => trivial⟩) as st h).1

theorem readStep_inv {α : Type} (chunk recvfrom : Bool) (limC base n : Nat) (inc0 : List α) (st : RSt α) (ev : REv)
    (h : RInv n inc0 st) : RInv n inc0 (readStep chunk recvfrom limC base st ev).st := by
  cases ev with
  | ready as => exact readLoop_inv chunk recvfrom limC base n inc0 as st h
  | errEv => exact h
  | close => exact h

theorem runRead_inv {α : Type} (chunk recvfrom : Bool) (limC base n : Nat) (inc0 : List α) (evs : List REv) :
    ∀ st : RSt α, RInv n inc0 st → RInv n inc0 (runRead chunk recvfrom limC base st evs).st := by
  induction evs with
  | nil => intro st h; simpa [runRead] using h
  | cons ev evs ih =>
    intro st h
    have hs := readStep_inv chunk recvfrom limC base n inc0 st ev h
    cases hr : (readStep chunk recvfrom limC base st ev).res
    case pending => simp only [runRead, hr]; exact ih _ hs
    all_goals simp only [runRead, hr]; exact hs

theorem runRead_rInit_inv {α : Type} (chunk recvfrom : Bool) (limC base n : Nat) (inc : List α) (evs : List REv) :
    RInv n inc (runRead chunk recvfrom limC base (rInit n inc) evs).st :=
  runRead_inv chunk recvfrom limC base n inc evs _ (rInit_inv n inc)

/-- Why an operation ended with a buffer: the post-condition attached to each reason. -/
def RPost {α : Type} (chunk : Bool) (st : RSt α) : RRes → Prop
  | .buf .full => st.left = 0
  | .buf .nonchunk => chunk = false
  | .buf .eof => True
  | .buf .errEvent => True
  | .nil false => st.read = 0
  | _ => True

/-- the decision after a call that returned `k` bytes, unfolded once: it ends the operation with nil (nothing read so far) or
    with a buffer, for the reason `RPost` records; or the loop goes on, and then `k` bytes were taken and room is left -/
theorem afterReadRes_spec {α : Type} (chunk recvfrom : Bool) (st : RSt α) (k : Nat) :
    match afterReadRes chunk recvfrom st k with
    | some r => (r = .nil false ∨ ∃ x, r = .buf x) ∧ RPost chunk (afterReadSt recvfrom st k) r
    | none => 0 < k ∧ k < st.left ∧ (afterReadSt recvfrom st k).left = st.left - k := by
  unfold afterReadRes afterReadSt
  by_cases h0 : st.read + k = 0 ∧ recvfrom = false
  · rw [if_pos h0, if_pos h0]; exact ⟨.inl rfl, h0.1⟩
  · rw [if_neg h0, if_neg h0]
    by_cases hc : chunk = false
    · rw [if_pos hc]; exact ⟨.inr ⟨_, rfl⟩, hc⟩
    · rw [if_neg hc]
      by_cases hz : st.left - k = 0
      · rw [if_pos hz]; exact ⟨.inr ⟨_, rfl⟩, hz⟩
      · rw [if_neg hz]
        by_cases hk : k = 0
        · rw [if_pos hk]; exact ⟨.inr ⟨_, rfl⟩, trivial⟩
        · rw [if_neg hk]; exact ⟨by omega, by omega, rfl⟩

theorem readLoop_post {α : Type} (chunk recvfrom : Bool) (limC base : Nat) (as : List Ans) (st : RSt α) :
    RPost chunk (readLoop chunk recvfrom limC base st as).st (readLoop chunk recvfrom limC base st as).res :=
  (readLoop_ind chunk recvfrom limC base (Q := fun _ => True) (fun _ _ _ _ _ => trivial)
    (fun st k r hr => by have := afterReadRes_spec chunk recvfrom st k; rw [hr] at this; exact this.2)
    (fun _ => ⟨trivial, trivial, fun _ => trivial⟩) as st trivial).2

theorem runRead_post {α : Type} (chunk recvfrom : Bool) (limC base : Nat) (evs : List REv) :
    ∀ st : RSt α, RPost chunk (runRead chunk recvfrom limC base st evs).st (runRead chunk recvfrom limC base st evs).res := by
  induction evs with
  | nil => intro st; simp [runRead, RPost]
  | cons ev evs ih =>
    intro st
    have hp : RPost chunk (readStep chunk recvfrom limC base st ev).st (readStep chunk recvfrom limC base st ev).res := by
      cases ev with
      | ready as => exact readLoop_post chunk recvfrom limC base as st
      | errEv =>
        simp only [readStep]
        by_cases hr : st.read > 0
        · simp [hr, RPost]
        · simp only [hr, if_false, RPost]; omega
      | close => simp [readStep, RPost]
    cases hr : (readStep chunk recvfrom limC base st ev).res with
    | pending => simp only [runRead, hr]; exact ih _
    | nil b => simp only [runRead, hr]; rw [hr] at hp; exact hp
    | buf r => simp only [runRead, hr]; rw [hr] at hp; exact hp
    | failed c => simp only [runRead, hr]; simp [RPost]
    | starved => simp only [runRead, hr]; simp [RPost]

end JanetModel.Stream
