/-
C16 — an operation as a machine run alone: `foldOp step` feeds events to `step : σ → ε → σ × Bool` until it reports the end.
The write and the read callback of ev.c are instances (`wstep` on `WS`, `rstep` on `RS`: the model's state plus the call log
and the last result), and agree with `runWrite` / `runRead` (`foldOp_wstep`, `foldOp_rstep`).  Bounded liveness is proved once,
for any machine with a measure that productive events decrease (`Progresses`, `foldOp_ends_within`).
-/
import JanetModel.Stream.Model

namespace JanetModel.Stream.Compose
open JanetModel.Stream

variable {σ ε : Type}

def foldOp (step : σ → ε → σ × Bool) : σ → List ε → σ × Bool
  | s, [] => (s, false)
  | s, e :: es => if (step s e).2 then ((step s e).1, true) else foldOp step (step s e).1 es

/-- what the liveness argument needs of a machine: an answered event ends the operation well, or leaves it pending with a
    measure that did not grow, stayed positive if it was, and shrank if the event was productive -/
def Progresses (step : σ → ε → σ × Bool) (μ : σ → Nat) (ok prod : ε → Bool) (good : σ → Prop) : Prop :=
  ∀ s e, ok e = true → ((step s e).2 = true ∧ good (step s e).1) ∨
    ((step s e).2 = false ∧ μ (step s e).1 ≤ μ s ∧ (0 < μ s → 0 < μ (step s e).1) ∧ (prod e = true → μ (step s e).1 < μ s))

/-- bounded liveness of any such machine: after `max 1 (μ s)` productive events it has ended; unproductive events in
    between are harmless, in any number -/
theorem foldOp_ends_within {step : σ → ε → σ × Bool} {μ : σ → Nat} {ok prod : ε → Bool} {good : σ → Prop}
    (h : Progresses step μ ok prod good) : ∀ (evs : List ε) (s : σ), (∀ e ∈ evs, ok e = true) →
      (evs.filter prod).length ≥ max 1 (μ s) → (foldOp step s evs).2 = true ∧ good (foldOp step s evs).1
  | [], s, _, hp => by simp at hp
  | e :: evs, s, hok, hp => by
    rw [List.forall_mem_cons] at hok
    simp only [foldOp]
    rcases h s e hok.1 with ⟨hb, hg⟩ | ⟨hb, hle, hpos, hlt⟩
    · rw [if_pos hb]; exact ⟨rfl, hg⟩
    · rw [hb, if_neg Bool.false_ne_true]
      refine foldOp_ends_within h evs _ hok.2 ?_
      rw [List.filter_cons] at hp
      split at hp
      · have h1 := hlt ‹_›
        have h2 := hpos (by omega)
        simp only [List.length_cons] at hp
        omega
      · omega

/-- `StateWrite` + the call log + the last result -/
structure WS where
  len : Nat
  dgram : Bool
  start : Nat
  calls : List Call
  res : WRes
  deriving Repr

/-- `ev_callback_write` on one event; ended = the callback called janet_async_end -/
def wstep (s : WS) (ev : WEv) : WS × Bool :=
  let o := writeStep s.len s.dgram s.start ev
  ({ s with start := o.start, calls := s.calls ++ o.calls, res := o.res }, o.res != .pending)

theorem wstep_close (s : WS) : (wstep s .close).2 = true := rfl

theorem foldOp_wstep (evs : List WEv) : ∀ (s : WS),
    let t := runWrite s.len s.dgram s.start evs
    (foldOp wstep s evs).1.len = s.len ∧ (foldOp wstep s evs).1.dgram = s.dgram ∧
    (foldOp wstep s evs).1.start = t.start ∧ (foldOp wstep s evs).1.calls = s.calls ++ t.calls ∧
    (evs ≠ [] → (foldOp wstep s evs).1.res = t.res) ∧ ((foldOp wstep s evs).2 = true ↔ t.res ≠ .pending) := by
  induction evs with
  | nil => intro s; simp [foldOp, runWrite]
  | cons ev evs ih =>
    intro s
    obtain ⟨i1, i2, i3, i4, i5, i6⟩ := ih (wstep s ev).1
    cases hr : (writeStep s.len s.dgram s.start ev).res
    case pending =>
      simp only [wstep, hr] at i1 i2 i3 i4 i5 i6
      simp only [foldOp, runWrite, wstep, hr, bne_self_eq_false, Bool.false_eq_true, if_false]
      refine ⟨i1, i2, i3, by rw [i4, List.append_assoc], fun _ => ?_, i6⟩
      cases evs with
      | nil => simp [foldOp, runWrite, hr]
      | cons e2 es => exact i5 (List.cons_ne_nil _ _)
    all_goals simp [foldOp, runWrite, wstep, hr]

/-- `StateRead` (+ the byte sequences of the model) + call log + last result -/
structure RS (α : Type) where
  chunk : Bool
  recvfrom : Bool
  limC : Nat
  base : Nat
  st : RSt α
  calls : List Call
  res : RRes

/-- `ev_callback_read` on one event -/
def rstep {α : Type} (s : RS α) (ev : REv) : RS α × Bool :=
  let o := readStep s.chunk s.recvfrom s.limC s.base s.st ev
  ({ s with st := o.st, calls := s.calls ++ o.calls, res := o.res }, o.res != .pending)

theorem rstep_close {α : Type} (s : RS α) : (rstep s .close).2 = true := rfl

theorem foldOp_rstep {α : Type} (evs : List REv) : ∀ (s : RS α),
    (foldOp rstep s evs).1.st = (runRead s.chunk s.recvfrom s.limC s.base s.st evs).st ∧
    (foldOp rstep s evs).1.calls = s.calls ++ (runRead s.chunk s.recvfrom s.limC s.base s.st evs).calls ∧
    (evs ≠ [] → (foldOp rstep s evs).1.res = (runRead s.chunk s.recvfrom s.limC s.base s.st evs).res) ∧
    ((foldOp rstep s evs).2 = true ↔ (runRead s.chunk s.recvfrom s.limC s.base s.st evs).res ≠ .pending) := by
  induction evs with
  | nil => intro s; simp [foldOp, runRead]
  | cons ev evs ih =>
    intro s
    obtain ⟨i1, i2, i3, i4⟩ := ih (rstep s ev).1
    cases hr : (readStep s.chunk s.recvfrom s.limC s.base s.st ev).res
    case pending =>
      simp only [rstep, hr] at i1 i2 i3 i4
      simp only [foldOp, runRead, rstep, hr, bne_self_eq_false, Bool.false_eq_true, if_false]
      refine ⟨i1, by rw [i2, List.append_assoc], fun _ => ?_, i4⟩
      cases evs with
      | nil => simp [foldOp, runRead, hr]
      | cons e2 es => exact i3 (List.cons_ne_nil _ _)
    all_goals simp [foldOp, runRead, rstep, hr]

end JanetModel.Stream.Compose
