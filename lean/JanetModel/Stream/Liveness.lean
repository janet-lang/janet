/-
C16 — liveness of the stream state machines (Stream/Model.lean): a read / write that keeps receiving productive
readiness events ENDS after a bounded number of them.  Fairness of the kernel ("readiness is eventually reported and the
call then transfers something or fails") is an explicit hypothesis on the event sequence.
-/
import JanetModel.Stream.Op
import JanetModel.Stream.Lemmas
namespace JanetModel.Stream

/-- the call made at a readiness event does something: after any number of EINTR retries the kernel transfers bytes
    or reports an error — it does not answer EAGAIN (a spurious wake-up), and the answer arrives (list not exhausted) -/
def productiveAns : List Ans → Bool
  | [] => false
  | .eintr :: as => productiveAns as
  | .eagain :: _ => false
  | .err _ :: _ => true
  | .bytes _ :: _ => true

/-- every call gets its answer: the answer list does not end inside the EINTR loop -/
def completeAns : List Ans → Bool
  | [] => false
  | .eintr :: as => completeAns as
  | _ :: _ => true

def WEv.productive : WEv → Bool
  | .ready as => productiveAns as
  | _ => true

def WEv.complete : WEv → Bool
  | .ready as => completeAns as
  | _ => true

def WRes.ended : WRes → Bool
  | .done => true
  | .failed _ => true
  | _ => false

theorem writeCall_progress (len : Nat) (dgram : Bool) (start : Nat) (h : start < len) (as : List Ans) (hc : completeAns as = true) :
    let o := writeCall len dgram start as
    (o.res.ended = true ∨ (o.res = .pending ∧ start ≤ o.start ∧ o.start < len ∧ (productiveAns as = true → start < o.start))) := by
  induction as with
  | nil => simp [completeAns] at hc
  | cons a as ih =>
    cases a with
    | eintr =>
      simp only [completeAns] at hc
      have := ih hc
      simpa [writeCall, productiveAns] using this
    | eagain => right; simp [writeCall, productiveAns, h]
    | err c => left; simp [writeCall, WRes.ended]
    | bytes n =>
      simp only [writeCall]
      by_cases hk : min n (len - start) = 0 ∧ dgram = false
      · left; simp [hk, WRes.ended]
      · rw [if_neg hk]
        by_cases hk0 : min n (len - start) > 0
        · simp only [hk0, if_true]
          by_cases hd : start + min n (len - start) ≥ len
          · left; simp [hd, WRes.ended]
          · right; simp [hd, productiveAns] <;> omega
        · left
          have : min n (len - start) = 0 := by omega
          simp [this, WRes.ended]

theorem wstep_progresses :
    Compose.Progresses Compose.wstep (fun s => s.len - s.start) WEv.complete WEv.productive (fun s => s.res.ended = true) := by
  intro s e hc
  cases e with
  | ready as =>
    by_cases hlt : s.start < s.len
    · simp only [Compose.wstep, writeStep, writeEvent, if_pos hlt]
      rcases writeCall_progress s.len s.dgram s.start hlt as hc with he | ⟨hpend, hle, hlt', hadv⟩
      · left
        generalize writeCall s.len s.dgram s.start as = o at he ⊢
        cases hr : o.res <;> simp [hr, WRes.ended] at he ⊢
      · right
        rw [hpend]
        exact ⟨rfl, by omega, fun _ => by omega, fun hp => by have := hadv hp; omega⟩
    · left; simp [Compose.wstep, writeStep, writeEvent, hlt, WRes.ended]
  | errEv => exact .inl ⟨rfl, rfl⟩
  | hup => exact .inl ⟨rfl, rfl⟩
  | close => exact .inl ⟨rfl, rfl⟩

/-- LIVENESS of a write.  If every call is answered and the schedule contains at least `max 1 (len − start)`
    productive events (readiness reports after which the kernel takes at least one byte or fails, error / hang-up /
    close events) then the operation has ENDED — completed or raised — after that many of them; it is not left pending.
    Each productive event either ends the operation or strictly advances the resume offset. -/
theorem write_ends_within (len : Nat) (dgram : Bool) (evs : List WEv) (start : Nat) (hc : ∀ ev ∈ evs, ev.complete = true)
    (hp : (evs.filter WEv.productive).length ≥ max 1 (len - start)) : (runWrite len dgram start evs).res.ended = true := by
  have h := (Compose.foldOp_ends_within wstep_progresses evs ⟨len, dgram, start, [], .pending⟩ hc hp).2
  rwa [(Compose.foldOp_wstep evs ⟨len, dgram, start, [], .pending⟩).2.2.2.2.1 (by rintro rfl; simp at hp)] at h

/-- the kernel ends the burst of answers of one readiness event with "would block" -/
def endsEagain : List Ans → Bool
  | [] => false
  | [a] => a == .eagain
  | _ :: b :: r => endsEagain (b :: r)

def REv.productive : REv → Bool
  | .ready as => productiveAns as
  | _ => true

def REv.closed : REv → Bool
  | .ready as => endsEagain as
  | _ => true

def RRes.ended : RRes → Bool
  | .nil _ => true
  | .buf _ => true
  | .failed _ => true
  | _ => false

theorem afterReadRes_ended {α : Type} (chunk recvfrom : Bool) (st : RSt α) (k : Nat) (r : RRes)
    (h : afterReadRes chunk recvfrom st k = some r) : r.ended = true := by
  have := afterReadRes_spec chunk recvfrom st k
  rw [h] at this
  rcases this.1 with rfl | ⟨x, rfl⟩ <;> rfl

theorem afterReadRes_none {α : Type} (chunk recvfrom : Bool) (st : RSt α) (k : Nat)
    (h : afterReadRes chunk recvfrom st k = none) : 0 < k ∧ k < st.left ∧ (afterReadSt recvfrom st k).left = st.left - k := by
  have := afterReadRes_spec chunk recvfrom st k
  rwa [h] at this

theorem afterReadRes_zero {α : Type} (chunk recvfrom : Bool) (st : RSt α) :
    ∃ r, afterReadRes chunk recvfrom st 0 = some r := by
  cases h : afterReadRes chunk recvfrom st 0 with
  | some r => exact ⟨r, rfl⟩
  | none => have := (afterReadRes_none chunk recvfrom st 0 h).1; omega

theorem endsEagain_tail (a : Ans) (as : List Ans) (h : endsEagain (a :: as) = true) (ha : a ≠ .eagain) : endsEagain as = true := by
  cases as with
  | nil => simp [endsEagain] at h; exact absurd h ha
  | cons b r => simpa [endsEagain] using h

theorem readLoop_progress {α : Type} (chunk recvfrom : Bool) (limC base : Nat) (as : List Ans) :
    ∀ st : RSt α, endsEagain as = true →
      ((readLoop chunk recvfrom limC base st as).res.ended = true ∨
       ((readLoop chunk recvfrom limC base st as).res = .pending ∧ (readLoop chunk recvfrom limC base st as).st.left ≤ st.left ∧
        (productiveAns as = true → (readLoop chunk recvfrom limC base st as).st.left < st.left) ∧
        (0 < st.left → 0 < (readLoop chunk recvfrom limC base st as).st.left))) := by
  induction as with
  | nil => intro st h; simp [endsEagain] at h
  | cons a as ih =>
    intro st h
    cases a with
    | eintr =>
      have ht := endsEagain_tail _ _ h (by simp)
      have := ih st ht
      simpa [readLoop, productiveAns] using this
    | eagain => right; simp [readLoop, productiveAns]
    | err c =>
      simp only [readLoop]
      by_cases hc : c = EPIPE ∧ recvfrom = false
      · rw [if_pos hc]
        obtain ⟨r, hr⟩ := afterReadRes_zero chunk recvfrom st
        rw [hr]
        left; exact afterReadRes_ended _ _ _ _ _ hr
      · rw [if_neg hc]; left; rfl
    | bytes n =>
      simp only [readLoop]
      cases hr : afterReadRes chunk recvfrom st (min (min n (readLimit chunk limC st.left)) st.inc.length) with
      | some r => left; exact afterReadRes_ended _ _ _ _ _ hr
      | none =>
        have ht := endsEagain_tail _ _ h (by simp)
        obtain ⟨hk0, hkl, hleft⟩ := afterReadRes_none _ _ _ _ hr
        rcases ih (afterReadSt recvfrom st (min (min n (readLimit chunk limC st.left)) st.inc.length)) ht with he | ⟨hp, hle, _, hpos⟩
        · left; simpa using he
        · right
          have hpos' := hpos (by omega)
          refine ⟨by simpa using hp, ?_, ?_, ?_⟩
          · simp only; omega
          · intro _; simp only; omega
          · intro _; simpa using hpos'

theorem rstep_progresses {α : Type} :
    Compose.Progresses (Compose.rstep (α := α)) (fun s => s.st.left) REv.closed REv.productive (fun s => s.res.ended = true) := by
  intro s e hc
  cases e with
  | ready as =>
    simp only [Compose.rstep, readStep]
    rcases readLoop_progress s.chunk s.recvfrom s.limC s.base as s.st hc with he | ⟨hpend, hle, hadv, hpos⟩
    · left
      generalize readLoop s.chunk s.recvfrom s.limC s.base s.st as = o at he ⊢
      cases hr : o.res <;> simp [hr, RRes.ended] at he ⊢
    · right
      rw [hpend]
      exact ⟨rfl, hle, hpos, hadv⟩
  | errEv =>
    left
    simp only [Compose.rstep, readStep]
    by_cases h : s.st.read > 0 <;> simp [h, RRes.ended]
  | close => exact .inl ⟨rfl, rfl⟩

/-- LIVENESS of a read.  If every burst of answers ends with "would block" and the schedule contains at least
    `max 1 bytes_left` productive events, the read has ENDED (buffer, nil, or error): every productive event either ends
    it or strictly decreases `bytes_left`. -/
theorem read_ends_within {α : Type} (chunk recvfrom : Bool) (limC base : Nat) (evs : List REv) (st : RSt α)
    (hc : ∀ ev ∈ evs, ev.closed = true) (hp : (evs.filter REv.productive).length ≥ max 1 st.left) :
    (runRead chunk recvfrom limC base st evs).res.ended = true := by
  have h := (Compose.foldOp_ends_within rstep_progresses evs ⟨chunk, recvfrom, limC, base, st, [], .pending⟩ hc hp).2
  rwa [(Compose.foldOp_rstep evs ⟨chunk, recvfrom, limC, base, st, [], .pending⟩).2.2.1 (by rintro rfl; simp at hp)] at h

def prefixOf {ε : Type} (evs : Nat → ε) (n : Nat) : List ε := (List.range n).map evs

theorem prefix_succ {ε : Type} (evs : Nat → ε) (n : Nat) : prefixOf evs (n + 1) = prefixOf evs n ++ [evs n] := by
  simp [prefixOf, List.range_succ]

theorem count_mono {ε : Type} (evs : Nat → ε) (p : ε → Bool) (n d : Nat) :
    ((prefixOf evs n).filter p).length ≤ ((prefixOf evs (n + d)).filter p).length := by
  induction d with
  | zero => exact Nat.le_refl _
  | succ d ih =>
    rw [← Nat.add_assoc, prefix_succ, List.filter_append, List.length_append]
    omega

/-- fairness (productive events keep coming) gives prefixes with as many productive events as wanted -/
theorem fair_count {ε : Type} (evs : Nat → ε) (p : ε → Bool) (fair : ∀ k, ∃ j, k ≤ j ∧ p (evs j) = true) (m : Nat) :
    ∃ n, ((prefixOf evs n).filter p).length ≥ m := by
  induction m with
  | zero => exact ⟨0, Nat.zero_le _⟩
  | succ m ih =>
    obtain ⟨n, hn⟩ := ih
    obtain ⟨j, hj, hp⟩ := fair n
    refine ⟨j + 1, ?_⟩
    rw [prefix_succ, List.filter_append, List.length_append]
    have h1 := count_mono evs p n (j - n)
    have : n + (j - n) = j := by omega
    rw [this] at h1
    simp [hp]
    omega

theorem mem_prefix {ε : Type} (evs : Nat → ε) (n : Nat) (e : ε) (h : e ∈ prefixOf evs n) : ∃ i, e = evs i := by
  simp [prefixOf] at h
  obtain ⟨i, _, hi⟩ := h
  exact ⟨i, hi.symm⟩

theorem forall_mem_prefixOf {ε : Type} {Q : ε → Prop} (evs : Nat → ε) (h : ∀ i, Q (evs i)) (n : Nat) : ∀ e ∈ prefixOf evs n, Q e :=
  fun e he => let ⟨i, hi⟩ := mem_prefix evs n e he; hi ▸ h i

end JanetModel.Stream
