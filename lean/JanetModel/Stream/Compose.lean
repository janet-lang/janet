/-
C16 — composition: ONE stream, any number of fibers, every pending operation carrying its own state machine
(`ev_callback_read` / `ev_callback_write` / net callbacks — any machine `step : σ → ε → σ × Bool`), the listener slots with
the guard of `janet_async_start_fiber`, readiness dispatch by slot, `janet_stream_close`.

Main result (`isolation`): with the slot guards, the operation of a fiber that was admitted to a slot sees exactly the
events dispatched in its direction, in order, and nothing else — whatever other fibers try on the same stream meanwhile
(their `start`s in the same direction are refused, operations in the other direction do not touch it).  So every theorem
about a single operation (`write_delivers_all_in_order`, `read_at_most_n`, the liveness theorems) holds for each operation
of a shared stream, and "fair schedule ⇒ the operation ends" lifts to the whole system, for any machine that `Progresses`
(`shared_ends_under_fairness`; the write and the read callback are instances).
-/
import JanetModel.Stream.Liveness
import JanetModel.Stream.Lemmas

namespace JanetModel.Stream.Compose
open JanetModel.Stream

def upd {β : Type} (g : Nat → β) (k : Nat) (v : β) : Nat → β := fun x => if x = k then v else g x

@[simp] theorem upd_same {β : Type} (g : Nat → β) (k : Nat) (v : β) : upd g k v k = v := by simp [upd]
theorem upd_other {β : Type} (g : Nat → β) (k : Nat) (v : β) (x : Nat) (h : x ≠ k) : upd g k v x = g x := by simp [upd, h]

def updS (g : Dir → Option Nat) (k : Dir) (v : Option Nat) : Dir → Option Nat := fun x => if x = k then v else g x

@[simp] theorem updS_same (g : Dir → Option Nat) (k : Dir) (v : Option Nat) : updS g k v k = v := by simp [updS]
theorem updS_other (g : Dir → Option Nat) (k : Dir) (v : Option Nat) (x : Dir) (h : x ≠ k) : updS g k v x = g x := by simp [updS, h]

/-- `slot d` = stream->read_fiber / write_fiber; `op f` = the pending operation of fiber `f` (ev_callback set): direction
    and machine state; `done` = operations that ended (janet_async_end + schedule/cancel), in order, with their final
    state; `refused` = fibers whose call raised ("cannot listen for duplicate event on stream" / "stream is closed"). -/
structure W2 (σ : Type) where
  slot : Dir → Option Nat
  op : Nat → Option (Dir × σ)
  done : List (Nat × Dir × σ)
  refused : List Nat
  closed : Bool

def W2.init {σ : Type} : W2 σ := ⟨fun _ => none, fun _ => none, [], [], false⟩

inductive Act2 (σ ε : Type) where
  | start (f : Nat) (d : Dir) (s0 : σ) (e0 : ε)   -- fiber f calls ev/read, ev/write, …: janet_async_start_fiber + the INIT event e0
  | ev (d : Dir) (e : ε)                            -- janet_loop1_impl dispatches an event to the fiber in slot d
  | close                                           -- janet_stream_close

variable {σ ε : Type}

/-- janet_async_end + janet_schedule / janet_cancel -/
def W2.finish (w : W2 σ) (f : Nat) (d : Dir) (s : σ) : W2 σ :=
  { w with slot := updS w.slot d none, op := upd w.op f none, done := w.done ++ [(f, d, s)] }

/-- one event for the fiber registered in slot `d` -/
def W2.deliver (step : σ → ε → σ × Bool) (w : W2 σ) (d : Dir) (e : ε) : W2 σ :=
  match w.slot d with
  | none => w
  | some f =>
    match w.op f with
    | none => w
    | some (d', s) =>
      if d' = d then
        if (step s e).2 then w.finish f d (step s e).1 else { w with op := upd w.op f (some (d, (step s e).1)) }
      else w

/-- one half of janet_stream_close: CLOSE event to the fiber in slot `d` (every callback ends on CLOSE), slot cleared -/
def W2.closeDir (step : σ → ε → σ × Bool) (closeEv : ε) (w : W2 σ) (d : Dir) : W2 σ :=
  match w.slot d with
  | none => w
  | some f =>
    match w.op f with
    | none => { w with slot := updS w.slot d none }
    | some (d', s) => if d' = d then w.finish f d (step s closeEv).1 else { w with slot := updS w.slot d none }

def W2.occupied (w : W2 σ) (f : Nat) (d : Dir) : Bool :=
  match w.slot d with
  | some g => (g != f) && (w.op g).isSome
  | none => false

/-- the machine of the CURRENT source: both slot guards present (Gen.Stream.guardsReadSlot / guardsWriteSlot) -/
def step2 (step : σ → ε → σ × Bool) (closeEv : ε) (w : W2 σ) : Act2 σ ε → W2 σ
  | .start f d s0 e0 =>
    if (w.op f).isSome then w
    else if w.closed then { w with refused := w.refused ++ [f] }
    else if w.occupied f d then { w with refused := w.refused ++ [f] }
    else W2.deliver step { w with slot := updS w.slot d (some f), op := upd w.op f (some (d, s0)) } d e0
  | .ev d e => w.deliver step d e
  | .close => { (W2.closeDir step closeEv (W2.closeDir step closeEv w .rd) .wr) with closed := true }

def run2 (step : σ → ε → σ × Bool) (closeEv : ε) : W2 σ → List (Act2 σ ε) → W2 σ
  | w, [] => w
  | w, a :: as => run2 step closeEv (step2 step closeEv w a) as

/-- every pending operation is the one registered in the slot of its direction -/
def Inv2 (w : W2 σ) : Prop := ∀ f d s, w.op f = some (d, s) → w.slot d = some f

/-- the operation of ONE fiber run in isolation against the events of its direction -/
def track (step : σ → ε → σ × Bool) (closeEv : ε) (d : Dir) : σ → List (Act2 σ ε) → σ × Bool
  | s, [] => (s, false)
  | s, .ev d' e :: as =>
    if d' = d then (if (step s e).2 then ((step s e).1, true) else track step closeEv d (step s e).1 as)
    else track step closeEv d s as
  | s, .close :: _ => ((step s closeEv).1, true)
  | s, .start _ _ _ _ :: as => track step closeEv d s as

theorem deliver_cases (step : σ → ε → σ × Bool) (w : W2 σ) (d : Dir) (e : ε) :
    ((∀ f s, w.slot d = some f → w.op f ≠ some (d, s)) ∧ w.deliver step d e = w) ∨
    (∃ f s, w.slot d = some f ∧ w.op f = some (d, s) ∧ (step s e).2 = true ∧ w.deliver step d e = w.finish f d (step s e).1) ∨
    (∃ f s, w.slot d = some f ∧ w.op f = some (d, s) ∧ (step s e).2 = false ∧
        w.deliver step d e = { w with op := upd w.op f (some (d, (step s e).1)) }) := by
  cases hs : w.slot d with
  | none => exact .inl ⟨nofun, by simp [W2.deliver, hs]⟩
  | some f =>
    cases ho : w.op f with
    | none => exact .inl ⟨fun g s hg => by rw [← Option.some.inj hg, ho]; nofun, by simp [W2.deliver, hs, ho]⟩
    | some p =>
      obtain ⟨d', s⟩ := p
      by_cases hd : d' = d
      · subst hd
        cases he : (step s e).2 with
        | true => right; left; exact ⟨f, s, rfl, ho, he, by simp [W2.deliver, hs, ho, he]⟩
        | false => right; right; exact ⟨f, s, rfl, ho, he, by simp [W2.deliver, hs, ho, he]⟩
      · refine .inl ⟨fun g s' hg => ?_, by simp [W2.deliver, hs, ho, hd]⟩
        rw [← Option.some.inj hg, ho]
        exact fun h => hd (Prod.mk.inj (Option.some.inj h)).1

theorem closeDir_cases (step : σ → ε → σ × Bool) (c : ε) (w : W2 σ) (d : Dir) :
    W2.closeDir step c w d = w ∧ w.slot d = none ∨
    (∃ f s, w.slot d = some f ∧ w.op f = some (d, s) ∧ W2.closeDir step c w d = w.finish f d (step s c).1) ∨
    (∃ f, w.slot d = some f ∧ (∀ s, w.op f ≠ some (d, s)) ∧ W2.closeDir step c w d = { w with slot := updS w.slot d none }) := by
  cases hs : w.slot d with
  | none => left; simp [W2.closeDir, hs]
  | some f =>
    cases ho : w.op f with
    | none => right; right; exact ⟨f, rfl, (fun s h => by rw [ho] at h; cases h), (by simp [W2.closeDir, hs, ho])⟩
    | some p =>
      obtain ⟨d', s⟩ := p
      by_cases hd : d' = d
      · subst hd; right; left; exact ⟨f, s, rfl, ho, by simp [W2.closeDir, hs, ho]⟩
      · right; right
        refine ⟨f, rfl, ?_, by simp [W2.closeDir, hs, ho, hd]⟩
        intro s' h
        rw [ho] at h
        injection h with h; injection h with h1 _
        exact hd h1

theorem closeDir_slot (step : σ → ε → σ × Bool) (c : ε) (w : W2 σ) (d : Dir) :
    (W2.closeDir step c w d).slot = updS w.slot d none := by
  rcases closeDir_cases step c w d with ⟨hr, hn⟩ | ⟨f, s, _, _, hr⟩ | ⟨f, _, _, hr⟩ <;> rw [hr]
  · funext x
    by_cases hx : x = d
    · subst hx; rw [hn, updS_same]
    · rw [updS_other _ _ _ _ hx]
  · rfl

theorem step2_start_admitted (step : σ → ε → σ × Bool) (c : ε) (w : W2 σ) (f : Nat) (d : Dir) (s0 : σ) (e0 : ε)
    (h1 : (w.op f).isSome = false) (h2 : w.closed = false) (h3 : w.occupied f d = false) :
    step2 step c w (.start f d s0 e0) =
      W2.deliver step { w with slot := updS w.slot d (some f), op := upd w.op f (some (d, s0)) } d e0 := by
  simp [step2, h1, h2, h3]

/-- what `janet_async_start_fiber` + the INIT event can be: nothing (the fiber already has an operation), a refusal (stream
    closed, or the slot occupied), or admission to the slot followed by the delivery of the INIT event -/
theorem start_cases (step : σ → ε → σ × Bool) (c : ε) (w : W2 σ) (f : Nat) (d : Dir) (s0 : σ) (e0 : ε) :
    ((w.op f).isSome = true ∧ step2 step c w (.start f d s0 e0) = w) ∨
    ((w.op f).isSome = false ∧ (w.closed = true ∨ w.occupied f d = true) ∧
      step2 step c w (.start f d s0 e0) = { w with refused := w.refused ++ [f] }) ∨
    ((w.op f).isSome = false ∧ w.closed = false ∧ w.occupied f d = false ∧ step2 step c w (.start f d s0 e0) =
      W2.deliver step { w with slot := updS w.slot d (some f), op := upd w.op f (some (d, s0)) } d e0) := by
  by_cases hp : (w.op f).isSome = true
  · exact .inl ⟨hp, by simp [step2, hp]⟩
  · have hp := Bool.eq_false_iff.2 hp
    by_cases hc : w.closed = true
    · exact .inr (.inl ⟨hp, .inl hc, by simp [step2, hp, hc]⟩)
    · have hc := Bool.eq_false_iff.2 hc
      by_cases hocc : w.occupied f d = true
      · exact .inr (.inl ⟨hp, .inr hocc, by simp [step2, hp, hc, hocc]⟩)
      · have hocc := Bool.eq_false_iff.2 hocc
        exact .inr (.inr ⟨hp, hc, hocc, step2_start_admitted step c w f d s0 e0 hp hc hocc⟩)

theorem finish_inv (w : W2 σ) (f : Nat) (d : Dir) (s : σ) (h : Inv2 w) (hs : w.slot d = some f) : Inv2 (w.finish f d s) := by
  intro g dg sg hg
  simp only [W2.finish] at hg ⊢
  by_cases hgf : g = f
  · subst hgf; simp at hg
  · rw [upd_other _ _ _ _ hgf] at hg
    have h1 := h g dg sg hg
    by_cases hd : dg = d
    · subst hd; rw [hs] at h1; exact absurd (Option.some.inj h1).symm hgf
    · rw [updS_other _ _ _ _ hd]; exact h1

theorem deliver_inv (step : σ → ε → σ × Bool) (w : W2 σ) (d : Dir) (e : ε) (h : Inv2 w) : Inv2 (w.deliver step d e) := by
  rcases deliver_cases step w d e with ⟨_, hr⟩ | ⟨f, s, hs, _, _, hr⟩ | ⟨f, s, hs, _, _, hr⟩ <;> rw [hr]
  · exact h
  · exact finish_inv w f d _ h hs
  · intro g dg sg hg
    simp only at hg ⊢
    by_cases hgf : g = f
    · subst hgf; simp at hg; rw [← hg.1]; exact hs
    · rw [upd_other _ _ _ _ hgf] at hg; exact h g dg sg hg

theorem closeDir_inv (step : σ → ε → σ × Bool) (c : ε) (w : W2 σ) (d : Dir) (h : Inv2 w) : Inv2 (W2.closeDir step c w d) := by
  rcases closeDir_cases step c w d with ⟨hr, _⟩ | ⟨f, s, hs, _, hr⟩ | ⟨f, hs, hn, hr⟩ <;> rw [hr]
  · exact h
  · exact finish_inv w f d _ h hs
  · intro g dg sg hg
    simp only at hg ⊢
    by_cases hd : dg = d
    · subst hd
      have := h g dg sg hg
      rw [hs] at this
      have : g = f := (Option.some.inj this).symm
      subst this
      exact absurd hg (hn sg)
    · rw [updS_other _ _ _ _ hd]; exact h g dg sg hg

theorem register_inv (w : W2 σ) (f : Nat) (d : Dir) (s0 : σ) (h : Inv2 w) (hocc : w.occupied f d = false) :
    Inv2 { w with slot := updS w.slot d (some f), op := upd w.op f (some (d, s0)) } := by
  intro g dg sg hg
  simp only at hg ⊢
  by_cases hgf : g = f
  · subst hgf; simp at hg; rw [← hg.1]; simp
  · rw [upd_other _ _ _ _ hgf] at hg
    have h1 := h g dg sg hg
    by_cases hd : dg = d
    · subst hd
      simp [W2.occupied, h1, hgf, hg] at hocc
    · rw [updS_other _ _ _ _ hd]; exact h1

theorem step2_inv (step : σ → ε → σ × Bool) (c : ε) (w : W2 σ) (a : Act2 σ ε) (h : Inv2 w) : Inv2 (step2 step c w a) := by
  cases a with
  | ev d e => exact deliver_inv step w d e h
  | close =>
    intro g dg sg hg
    exact closeDir_inv step c _ .wr (closeDir_inv step c w .rd h) g dg sg hg
  | start f d s0 e0 =>
    rcases start_cases step c w f d s0 e0 with ⟨_, he⟩ | ⟨_, _, he⟩ | ⟨_, _, hocc, he⟩
    · rw [he]; exact h
    · rw [he]; exact fun g dg sg hg => h g dg sg hg
    · rw [he]; exact deliver_inv step _ d e0 (register_inv w f d s0 h hocc)

theorem run2_inv (step : σ → ε → σ × Bool) (c : ε) : ∀ (as : List (Act2 σ ε)) (w : W2 σ), Inv2 w → Inv2 (run2 step c w as)
  | [], _, h => h
  | a :: as, w, h => run2_inv step c as _ (step2_inv step c w a h)

theorem run2_append (step : σ → ε → σ × Bool) (c : ε) : ∀ (a b : List (Act2 σ ε)) (w : W2 σ),
    run2 step c w (a ++ b) = run2 step c (run2 step c w a) b
  | [], _, _ => rfl
  | _ :: a, b, w => run2_append step c a b _

theorem deliver_done_mono (step : σ → ε → σ × Bool) (w : W2 σ) (d : Dir) (e : ε) (x : Nat × Dir × σ) (h : x ∈ w.done) :
    x ∈ (w.deliver step d e).done := by
  rcases deliver_cases step w d e with ⟨_, hr⟩ | ⟨f, s, _, _, _, hr⟩ | ⟨f, s, _, _, _, hr⟩ <;> rw [hr]
  · exact h
  · simp [W2.finish, h]
  · exact h

theorem closeDir_done_mono (step : σ → ε → σ × Bool) (c : ε) (w : W2 σ) (d : Dir) (x : Nat × Dir × σ) (h : x ∈ w.done) :
    x ∈ (W2.closeDir step c w d).done := by
  rcases closeDir_cases step c w d with ⟨hr, _⟩ | ⟨f, s, _, _, hr⟩ | ⟨f, _, _, hr⟩ <;> rw [hr]
  · exact h
  · simp [W2.finish, h]
  · exact h

theorem step2_done_mono (step : σ → ε → σ × Bool) (c : ε) (w : W2 σ) (a : Act2 σ ε) (x : Nat × Dir × σ) (h : x ∈ w.done) :
    x ∈ (step2 step c w a).done := by
  cases a with
  | ev d e => exact deliver_done_mono step w d e x h
  | close => exact closeDir_done_mono step c _ .wr x (closeDir_done_mono step c w .rd x h)
  | start f d s0 e0 =>
    rcases start_cases step c w f d s0 e0 with ⟨_, he⟩ | ⟨_, _, he⟩ | ⟨_, _, _, he⟩
    · rw [he]; exact h
    · rw [he]; exact h
    · rw [he]; exact deliver_done_mono step _ d e0 x h

theorem run2_done_mono (step : σ → ε → σ × Bool) (c : ε) (as : List (Act2 σ ε)) : ∀ (w : W2 σ) (x : Nat × Dir × σ),
    x ∈ w.done → x ∈ (run2 step c w as).done := by
  induction as with
  | nil => intro w x h; exact h
  | cons a as ih => intro w x h; exact ih _ x (step2_done_mono step c w a x h)

theorem deliver_same (step : σ → ε → σ × Bool) (w : W2 σ) (f : Nat) (d : Dir) (s : σ) (e : ε) (h : Inv2 w) (ho : w.op f = some (d, s)) :
    ((step s e).2 = true → (f, d, (step s e).1) ∈ (w.deliver step d e).done) ∧
    ((step s e).2 = false → (w.deliver step d e).op f = some (d, (step s e).1)) := by
  have hs := h f d s ho
  constructor
  · intro he; simp [W2.deliver, hs, ho, he, W2.finish]
  · intro he; simp [W2.deliver, hs, ho, he]

theorem deliver_other (step : σ → ε → σ × Bool) (w : W2 σ) (f : Nat) (d d' : Dir) (s : σ) (e : ε) (h : Inv2 w)
    (ho : w.op f = some (d, s)) (hd : d' ≠ d) : (w.deliver step d' e).op f = some (d, s) := by
  -- the fiber the event reaches is pending in direction `d'`, so it is not `f`
  have hgf : ∀ g sg, w.op g = some (d', sg) → f ≠ g := by
    intro g sg hog e'; subst e'; rw [ho] at hog
    injection hog with h1; injection h1 with h2 _
    exact hd h2.symm
  rcases deliver_cases step w d' e with ⟨_, hr⟩ | ⟨g, sg, _, hog, _, hr⟩ | ⟨g, sg, _, hog, _, hr⟩ <;> rw [hr]
  · exact ho
  · simp only [W2.finish]; rw [upd_other _ _ _ _ (hgf g sg hog)]; exact ho
  · show upd w.op g _ f = _
    rw [upd_other _ _ _ _ (hgf g sg hog)]; exact ho

theorem closeDir_other (step : σ → ε → σ × Bool) (c : ε) (w : W2 σ) (f : Nat) (d d' : Dir) (s : σ)
    (ho : w.op f = some (d, s)) (hd : d' ≠ d) : (W2.closeDir step c w d').op f = some (d, s) := by
  rcases closeDir_cases step c w d' with ⟨hr, _⟩ | ⟨g, sg, _, hog, hr⟩ | ⟨g, _, _, hr⟩ <;> rw [hr]
  · exact ho
  · have hgf : f ≠ g := by
      intro e'; subst e'; rw [ho] at hog
      injection hog with h1; injection h1 with h2 _
      exact hd h2.symm
    simp only [W2.finish]; rw [upd_other _ _ _ _ hgf]; exact ho
  · exact ho

theorem closeDir_same (step : σ → ε → σ × Bool) (c : ε) (w : W2 σ) (f : Nat) (d : Dir) (s : σ) (h : Inv2 w)
    (ho : w.op f = some (d, s)) : (f, d, (step s c).1) ∈ (W2.closeDir step c w d).done := by
  have hs := h f d s ho
  simp [W2.closeDir, hs, ho, W2.finish]

/-- ISOLATION.  With both slot guards: let fiber `f` be admitted with an operation in direction `d` in state `s`.  For
    EVERY continuation of the schedule — other fibers starting operations in either direction, events, close — the
    operation behaves exactly as if it ran alone against the events dispatched in direction `d` (`track`): while `track`
    has not ended the fiber is still registered with `track`'s state; once `track` has ended the operation is recorded as
    ended with `track`'s final state. -/
theorem isolation (step : σ → ε → σ × Bool) (c : ε) (f : Nat) (d : Dir) (as : List (Act2 σ ε)) : ∀ (w : W2 σ) (s : σ),
    Inv2 w → w.op f = some (d, s) →
    ((track step c d s as).2 = false → (run2 step c w as).op f = some (d, (track step c d s as).1)) ∧
    ((track step c d s as).2 = true → (f, d, (track step c d s as).1) ∈ (run2 step c w as).done) := by
  induction as with
  | nil => intro w s _ ho; exact ⟨fun _ => ho, fun h => by simp [track] at h⟩
  | cons a as ih =>
    intro w s h ho
    have hinv := step2_inv step c w a h
    cases a with
    | ev d' e =>
      by_cases hd : d' = d
      · subst hd
        obtain ⟨h1, h2⟩ := deliver_same step w f d' s e h ho
        by_cases he : (step s e).2 = true
        · simp only [track, he, if_true]
          exact ⟨fun hx => by simp at hx, fun _ => run2_done_mono step c as _ _ (h1 he)⟩
        · have he' : (step s e).2 = false := by cases hx : (step s e).2 <;> simp_all
          simp only [track, he', if_true]
          exact ih _ _ hinv (h2 he')
      · simp only [track, hd, if_false]
        exact ih _ _ hinv (deliver_other step w f d d' s e h ho hd)
    | close =>
      simp only [track]
      refine ⟨fun hx => by simp at hx, fun _ => run2_done_mono step c as _ _ ?_⟩
      -- the CLOSE event reaches f in the half of close that handles its direction
      cases d with
      | rd =>
        apply closeDir_done_mono
        exact closeDir_same step c w f .rd s h ho
      | wr =>
        have h1 : Inv2 (W2.closeDir step c w .rd) := closeDir_inv step c w .rd h
        have ho1 := closeDir_other step c w f .wr .rd s ho (by decide)
        exact closeDir_same step c _ f .wr s h1 ho1
    | start g dg s0 e0 =>
      simp only [track]
      apply ih _ _ hinv
      rcases start_cases step c w g dg s0 e0 with ⟨_, he⟩ | ⟨_, _, he⟩ | ⟨hp, _, hocc, he⟩
      · rw [he]; exact ho
      · rw [he]; exact ho
      · rw [he]
        have hgf : f ≠ g := by intro e'; subst e'; simp [ho] at hp
        -- admitted: then it is the other direction (ours is occupied by f), and its INIT event does not touch f
        have hdd : dg ≠ d := by
          intro e'; subst e'
          have hs := h f dg s ho
          simp [W2.occupied, hs, hgf, ho] at hocc
        apply deliver_other step _ f d dg s e0 (register_inv w g dg s0 h hocc) _ hdd
        show upd w.op g _ f = _
        rw [upd_other _ _ _ _ hgf]; exact ho

/-- a second operation in a direction that is occupied is refused and changes nothing: the fiber is recorded as having
    raised, the registered operation keeps its slot and its state ("per-writer order" on one stream is enforced by refusing
    the second concurrent writer, not by queueing it). -/
theorem concurrent_start_refused (step : σ → ε → σ × Bool) (c : ε) (w : W2 σ) (f g : Nat) (d : Dir) (s s0 : σ) (e0 : ε)
    (h : Inv2 w) (ho : w.op f = some (d, s)) (hg : g ≠ f) (hgp : w.op g = none) (hc : w.closed = false) :
    step2 step c w (.start g d s0 e0) = { w with refused := w.refused ++ [g] } := by
  have hs := h f d s ho
  have hocc : w.occupied g d = true := by simp [W2.occupied, hs, Ne.symm hg, ho]
  simp [step2, hgp, hc, hocc]

/-- the events a fiber registered in direction `d` is sent by a schedule: readiness / error / hang-up events dispatched
    in that direction, and the CLOSE event of `janet_stream_close` -/
def evsOf (c : ε) (d : Dir) : List (Act2 σ ε) → List ε
  | [] => []
  | .ev d' e :: as => if d' = d then e :: evsOf c d as else evsOf c d as
  | .close :: as => c :: evsOf c d as
  | .start _ _ _ _ :: as => evsOf c d as

/-- when the machine ends on CLOSE (every callback does), `track` is the machine run alone on `evsOf` -/
theorem track_eq_foldOp (step : σ → ε → σ × Bool) (c : ε) (d : Dir) (hclose : ∀ s, (step s c).2 = true) (as : List (Act2 σ ε)) :
    ∀ s, track step c d s as = foldOp step s (evsOf c d as) := by
  induction as with
  | nil => intro s; rfl
  | cons a as ih =>
    intro s
    cases a with
    | ev d' e =>
      by_cases hd : d' = d
      · simp only [track, evsOf, hd, if_true, foldOp]
        by_cases he : (step s e).2 = true
        · simp [he]
        · simp only [he]; exact ih _
      · simp only [track, evsOf, hd, if_false]; exact ih _
    | close => simp [track, evsOf, foldOp, hclose]
    | start g dg s0 e0 => simp only [track, evsOf]; exact ih _

theorem evsOf_append (c : ε) (d : Dir) (a b : List (Act2 σ ε)) : evsOf c d (a ++ b) = evsOf c d a ++ evsOf c d b := by
  induction a with
  | nil => rfl
  | cons x a ih =>
    cases x with
    | ev d' e => by_cases hd : d' = d <;> simp [evsOf, hd, ih]
    | close => simp [evsOf, ih]
    | start g dg s0 e0 => simp [evsOf, ih]

/-- the schedule steps `q` counts (closes, and events of direction `d` that satisfy `p`) all show up among the events sent -/
theorem evsOf_filter_le (c : ε) (d : Dir) (p : ε → Bool) (q : Act2 σ ε → Bool) (hc : p c = true)
    (hq : ∀ d' e, q (.ev d' e) = true → d' = d ∧ p e = true) (hs : ∀ g dg s0 e0, q (.start g dg s0 e0) = false)
    (as : List (Act2 σ ε)) : (as.filter q).length ≤ ((evsOf c d as).filter p).length := by
  induction as with
  | nil => exact Nat.le_refl _
  | cons a as ih =>
    cases a with
    | ev d' e =>
      cases hqa : q (.ev d' e) with
      | true =>
        obtain ⟨rfl, hp⟩ := hq d' e hqa
        simp only [List.filter_cons, hqa, evsOf, if_true, hp, List.length_cons]
        omega
      | false =>
        simp only [List.filter_cons, hqa, evsOf, Bool.false_eq_true, if_false]
        split
        · exact Nat.le_trans ih (by rw [List.filter_cons]; split <;> simp)
        · exact ih
    | close =>
      rw [evsOf, List.filter_cons, List.filter_cons, if_pos hc]
      split <;> simp only [List.length_cons] <;> omega
    | start g dg s0 e0 => simpa only [List.filter_cons, hs, evsOf, Bool.false_eq_true, if_false] using ih

theorem evsOf_forall (c : ε) (d : Dir) (P : ε → Prop) (hc : P c) (as : List (Act2 σ ε)) (h : ∀ e, Act2.ev d e ∈ as → P e) :
    ∀ ev ∈ evsOf c d as, P ev := by
  induction as with
  | nil => intro ev h; cases h
  | cons a as ih =>
    have ih' := ih fun e he => h e (List.mem_cons_of_mem _ he)
    cases a with
    | ev d' e =>
      by_cases hd : d' = d
      · subst hd
        intro ev hev
        simp only [evsOf, if_true, List.mem_cons] at hev
        rcases hev with rfl | hev
        · exact h _ (List.mem_cons_self ..)
        · exact ih' ev hev
      · simpa only [evsOf, hd, if_false] using ih'
    | close =>
      intro ev hev
      simp only [evsOf, List.mem_cons] at hev
      rcases hev with rfl | hev
      · exact hc
      · exact ih' ev hev
    | start g dg s0 e0 => simpa only [evsOf] using ih'

/-- LIVENESS OF THE WHOLE SYSTEM, for any machine that `Progresses`.  One stream shared by any number of fibers, the slot
    guards, an INFINITE schedule of fibers starting operations, events in both directions and closes.  If the schedule is fair
    to direction `d` — steps that `q` counts (productive events of that direction, closes) keep coming, and every event of
    that direction is answered — then the pending operation of fiber `f` has ended well after some finite prefix, whatever
    the other fibers do on the stream: it runs as if alone (`isolation`) on events that contain every step `q` counts. -/
theorem shared_ends_under_fairness {step : σ → ε → σ × Bool} {μ : σ → Nat} {ok prod : ε → Bool} {good : σ → Prop}
    (hP : Progresses step μ ok prod good) (c : ε) (hclose : ∀ s, (step s c).2 = true) (hokc : ok c = true) (hprodc : prod c = true)
    (d : Dir) (q : Act2 σ ε → Bool) (hq : ∀ d' e, q (.ev d' e) = true → d' = d ∧ prod e = true)
    (hs : ∀ g dg s0 e0, q (.start g dg s0 e0) = false) (f : Nat) (sched : Nat → Act2 σ ε) (w : W2 σ) (s : σ) (hinv : Inv2 w)
    (ho : w.op f = some (d, s)) (hc : ∀ i e, sched i = .ev d e → ok e = true) (fair : ∀ k, ∃ j, k ≤ j ∧ q (sched j) = true) :
    ∃ m s', (f, d, s') ∈ (run2 step c w (prefixOf sched m)).done ∧ good s' := by
  obtain ⟨m, hm⟩ := fair_count sched q fair (max 1 (μ s))
  have hcount := evsOf_filter_le c d prod q hprodc hq hs (prefixOf sched m)
  have hok := evsOf_forall c d (ok · = true) hokc (prefixOf sched m) (by
    intro e he
    obtain ⟨i, hi⟩ := mem_prefix sched m _ he
    exact hc i e hi.symm)
  obtain ⟨hend, hgood⟩ := foldOp_ends_within hP (evsOf c d (prefixOf sched m)) s hok (Nat.le_trans hm hcount)
  have hiso := isolation step c f d (prefixOf sched m) w s hinv ho
  rw [track_eq_foldOp step c d hclose] at hiso
  exact ⟨m, _, hiso.2 hend, hgood⟩

/-- SHARED STREAM, writes.  With the slot guards, for EVERY schedule (any number of other fibers starting reads and
    writes on the same stream, events in both directions, close): the pending write of fiber `f` issues exactly the system
    calls `runWrite` issues against the write-direction events of the schedule, it is still registered iff `runWrite` is
    pending, and otherwise it has ended with `runWrite`'s result; the bytes handed to the kernel are a prefix of the
    source (as many bytes as the calls transferred), all of it when a stream write ends `done`.  In particular a second writer cannot interleave its
    bytes or steal the slot: its call is refused (`concurrent_start_refused`). -/
theorem shared_stream_write_exact {α : Type} (src : List α) (dgram : Bool) (f : Nat) (as : List (Act2 WS WEv)) (w : W2 WS)
    (hinv : Inv2 w) (ho : w.op f = some (.wr, ⟨src.length, dgram, 0, [], .pending⟩)) :
    let t := runWrite src.length dgram 0 (evsOf .close .wr as)
    (t.res = .pending → ∃ s, (run2 wstep .close w as).op f = some (.wr, s) ∧ s.start = t.start ∧ s.calls = t.calls) ∧
    (t.res ≠ .pending → ∃ s, (f, .wr, s) ∈ (run2 wstep .close w as).done ∧ s.start = t.start ∧ s.calls = t.calls ∧ s.res = t.res) ∧
    delivered src t.calls = src.take (sumGot t.calls) ∧ (dgram = false → t.res = .done → delivered src t.calls = src) := by
  intro t
  have hiso := isolation wstep .close f .wr as w _ hinv ho
  rw [track_eq_foldOp wstep .close .wr wstep_close as] at hiso
  obtain ⟨_, _, f3, f4, f5, f6⟩ := foldOp_wstep (evsOf .close .wr as) ⟨src.length, dgram, 0, [], .pending⟩
  have g := runWrite_zero_spec src dgram (evsOf .close .wr as)
  refine ⟨?_, ?_, g.1, g.2.2.2⟩
  · intro hp
    exact ⟨_, hiso.1 (Bool.eq_false_iff.2 fun hx => f6.mp hx hp), f3, by simpa using f4⟩
  · intro hp
    have hend := f6.mpr hp
    refine ⟨_, hiso.2 hend, f3, by simpa using f4, ?_⟩
    apply f5
    intro hnil
    have : t.res = .pending := by show (runWrite src.length dgram 0 (evsOf .close .wr as)).res = _; rw [hnil]; rfl
    exact hp this

/-- a step of the schedule that is productive for the pending writer: a write-direction event after which the kernel
    transfers or fails (not a spurious EAGAIN wake-up), or a close -/
def fairAct : Act2 WS WEv → Bool
  | .ev .wr e => e.productive
  | .close => true
  | _ => false

/-- `shared_ends_under_fairness` for the write callback: if write-readiness events after which the kernel transfers at least a
    byte or fails (or error / hang-up / close events) keep coming and every call is answered, the pending write of fiber `f` has
    ended after some finite prefix, whatever the other fibers do on the stream. -/
theorem shared_stream_write_ends_under_fairness (len : Nat) (dgram : Bool) (f : Nat) (sched : Nat → Act2 WS WEv) (w : W2 WS)
    (hinv : Inv2 w) (ho : w.op f = some (.wr, ⟨len, dgram, 0, [], .pending⟩))
    (hc : ∀ i e, sched i = .ev .wr e → e.complete = true)
    (fair : ∀ k, ∃ j, k ≤ j ∧ fairAct (sched j) = true) :
    ∃ m s, (f, Dir.wr, s) ∈ (run2 wstep .close w (prefixOf sched m)).done ∧ s.res.ended = true :=
  shared_ends_under_fairness wstep_progresses .close wstep_close rfl rfl .wr fairAct
    (fun d e h => by cases d <;> first | cases h | exact ⟨rfl, h⟩) (fun _ _ _ _ => rfl) f sched w _ hinv ho hc fair

/-- SHARED STREAM, reads, all schedules: the pending read of fiber `f` makes exactly the system calls of `runRead` against
    the read-direction events of the schedule and ends with its result; what it appended is at most `n` bytes and is the
    next bytes of the arrival sequence, in order, none lost, none twice — whatever other fibers do on the stream. -/
theorem shared_stream_read_exact {α : Type} (chunk recvfrom : Bool) (limC base n : Nat) (inc : List α) (f : Nat)
    (as : List (Act2 (RS α) REv)) (w : W2 (RS α)) (hinv : Inv2 w)
    (ho : w.op f = some (.rd, ⟨chunk, recvfrom, limC, base, rInit n inc, [], .pending⟩)) :
    let t := runRead chunk recvfrom limC base (rInit n inc) (evsOf .close .rd as)
    (t.res = .pending → ∃ s, (run2 rstep .close w as).op f = some (.rd, s) ∧ s.st = t.st ∧ s.calls = t.calls) ∧
    (t.res ≠ .pending → ∃ s, (f, .rd, s) ∈ (run2 rstep .close w as).done ∧ s.st = t.st ∧ s.calls = t.calls ∧ s.res = t.res) ∧
    t.st.got.length ≤ n ∧ t.st.got ++ t.st.inc = inc := by
  intro t
  have hiso := isolation rstep .close f .rd as w _ hinv ho
  rw [track_eq_foldOp rstep .close .rd rstep_close as] at hiso
  obtain ⟨f1, f2, f3, f4⟩ := foldOp_rstep (evsOf REv.close .rd as) (⟨chunk, recvfrom, limC, base, rInit n inc, [], .pending⟩ : RS α)
  have hi := runRead_rInit_inv chunk recvfrom limC base n inc (evsOf REv.close .rd as)
  refine ⟨?_, ?_, hi.got_le, hi.order⟩
  · intro hp
    exact ⟨_, hiso.1 (Bool.eq_false_iff.2 fun hx => f4.mp hx hp), f1, by simpa using f2⟩
  · intro hp
    refine ⟨_, hiso.2 (f4.mpr hp), f1, by simpa using f2, ?_⟩
    apply f3
    intro hnil
    have : t.res = .pending := by show (runRead chunk recvfrom limC base (rInit n inc) (evsOf REv.close .rd as)).res = _; rw [hnil]; rfl
    exact hp this

def fairActR {α : Type} : Act2 (RS α) REv → Bool
  | .ev .rd e => e.productive
  | .close => true
  | _ => false

/-- system-level liveness for reads: on every infinite schedule of the shared stream in which productive read-direction
    events keep coming (each burst of answers ending with "would block"), the pending read of fiber `f` ends after a finite
    prefix, whatever the other fibers do. -/
theorem shared_stream_read_ends_under_fairness {α : Type} (chunk recvfrom : Bool) (limC base n : Nat) (inc : List α) (f : Nat)
    (sched : Nat → Act2 (RS α) REv) (w : W2 (RS α)) (hinv : Inv2 w)
    (ho : w.op f = some (.rd, ⟨chunk, recvfrom, limC, base, rInit n inc, [], .pending⟩))
    (hc : ∀ i e, sched i = .ev .rd e → e.closed = true)
    (fair : ∀ k, ∃ j, k ≤ j ∧ fairActR (sched j) = true) :
    ∃ m s, (f, Dir.rd, s) ∈ (run2 rstep .close w (prefixOf sched m)).done ∧ s.res.ended = true :=
  shared_ends_under_fairness rstep_progresses .close rstep_close rfl rfl .rd fairActR
    (fun d e h => by cases d <;> first | cases h | exact ⟨rfl, h⟩) (fun _ _ _ _ => rfl) f sched w _ hinv ho hc fair

/-- after `janet_stream_close` no operation is pending on the stream: the reader and the writer each received their
    CLOSE event (recorded in `done` with the callback's CLOSE result), for every reachable state. -/
theorem close_leaves_nothing_pending {σ ε : Type} (step : σ → ε → σ × Bool) (c : ε) (w : W2 σ) (h : Inv2 w) (g : Nat) :
    (step2 step c w .close).op g = none := by
  cases hx : (step2 step c w .close).op g with
  | none => rfl
  | some p =>
    exfalso
    obtain ⟨d, s⟩ := p
    -- if g were still pending in direction d it would still be in slot d; but close clears both slots
    have hs := step2_inv step c w .close h g d s hx
    have : (step2 step c w .close).slot d = none := by
      show (W2.closeDir step c (W2.closeDir step c w .rd) .wr).slot d = none
      rw [closeDir_slot, closeDir_slot]
      cases d <;> rfl
    rw [this] at hs
    cases hs

end JanetModel.Stream.Compose
