/-
C16 — lemmas about the readiness dispatch composed with the read / write machines (Stream/Dispatch.lean):
refinement of the word-level run into the callback-event run of Stream/Model.lean, invariants, progress.
-/
import JanetModel.Stream.Dispatch
import JanetModel.Stream.Lemmas

namespace JanetModel.Stream

theorem readKind_err_res {α : Type} (chunk recvfrom : Bool) (limC base : Nat) (st : RSt α) :
    (readStep chunk recvfrom limC base st .errEv).res ≠ .pending := by
  simp only [readStep]
  by_cases h : st.read > 0 <;> simp [h]

theorem readDeliver_runRead {α : Type} (chunk recvfrom : Bool) (limC base : Nat) (ks : List Nat) :
    ∀ (st : RSt α) (as : List Ans) (more : List REv),
      runRead chunk recvfrom limC base st (readKindsEvs chunk recvfrom limC base st ks as ++ more) =
        (match (readDeliver chunk recvfrom limC base st ks as).res with
         | .pending =>
           { st := (runRead chunk recvfrom limC base (readDeliver chunk recvfrom limC base st ks as).st more).st,
             calls := (readDeliver chunk recvfrom limC base st ks as).calls ++
                        (runRead chunk recvfrom limC base (readDeliver chunk recvfrom limC base st ks as).st more).calls,
             res := (runRead chunk recvfrom limC base (readDeliver chunk recvfrom limC base st ks as).st more).res }
         | r => { st := (readDeliver chunk recvfrom limC base st ks as).st,
                  calls := (readDeliver chunk recvfrom limC base st ks as).calls, res := r }) := by
  induction ks with
  | nil => intro st as more; simp [readKindsEvs, readDeliver]
  | cons k ks ih =>
    intro st as more
    by_cases hk : k = kREAD ∨ k = kHUP
    · simp only [readKindsEvs, if_pos hk, List.cons_append, runRead, readStep, readDeliver, readKind]
      cases hr : (readLoop chunk recvfrom limC base st as).res with
      | pending =>
        simp only [hr]
        rw [ih]
        cases hr2 : (readDeliver chunk recvfrom limC base (readLoop chunk recvfrom limC base st as).st ks
                      (readLoop chunk recvfrom limC base st as).rest).res <;> simp [List.append_assoc]
      | nil b => simp [hr]
      | buf r => simp [hr]
      | failed c => simp [hr]
      | starved => simp [hr]
    · by_cases he : k = kERR
      · simp only [readKindsEvs, if_neg hk, if_pos he, List.cons_append, runRead, readDeliver, readKind, readStep]
        by_cases h0 : st.read > 0 <;> simp [h0]
      · simp only [readKindsEvs, if_neg hk, if_neg he, readDeliver, readKind]
        rw [ih]
        cases hr2 : (readDeliver chunk recvfrom limC base st ks as).res <;> simp

theorem runReadWords_eq_runRead {α : Type} (tbl : DTable) (chunk recvfrom : Bool) (limC base : Nat) (es : List WordEv) :
    ∀ st : RSt α, runReadWords tbl chunk recvfrom limC base st es =
      runRead chunk recvfrom limC base st (readWordsEvs tbl chunk recvfrom limC base st es) := by
  induction es with
  | nil => intro st; simp [runReadWords, readWordsEvs, runRead]
  | cons e es ih =>
    intro st
    simp only [runReadWords, readWordsEvs]
    rw [readDeliver_runRead]
    simp only [readWord]
    cases hr : (readDeliver chunk recvfrom limC base st (kindsFor tbl 0 e.word) e.as).res with
    | pending => simp only [hr]; rw [ih]
    | nil b => simp [hr]
    | buf r => simp [hr]
    | failed c => simp [hr]
    | starved => simp [hr]

/-- the deliveries of one word ARE the callback-event run on `readKindsEvs` -/
theorem readDeliver_eq_runRead {α : Type} (chunk recvfrom : Bool) (limC base : Nat) (ks : List Nat) (st : RSt α) (as : List Ans) :
    runRead chunk recvfrom limC base st (readKindsEvs chunk recvfrom limC base st ks as) =
      ⟨(readDeliver chunk recvfrom limC base st ks as).st, (readDeliver chunk recvfrom limC base st ks as).calls,
       (readDeliver chunk recvfrom limC base st ks as).res⟩ := by
  have h := readDeliver_runRead chunk recvfrom limC base ks st as []
  rw [List.append_nil] at h
  rw [h]
  cases hr : (readDeliver chunk recvfrom limC base st ks as).res <;> simp [runRead]

theorem readDeliver_inv {α : Type} (chunk recvfrom : Bool) (limC base n : Nat) (inc0 : List α) (ks : List Nat)
    (st : RSt α) (as : List Ans) (h : RInv n inc0 st) : RInv n inc0 (readDeliver chunk recvfrom limC base st ks as).st := by
  have := runRead_inv chunk recvfrom limC base n inc0 (readKindsEvs chunk recvfrom limC base st ks as) st h
  rwa [readDeliver_eq_runRead] at this

theorem readDeliver_post {α : Type} (chunk recvfrom : Bool) (limC base : Nat) (ks : List Nat) (st : RSt α) (as : List Ans) :
    RPost chunk (readDeliver chunk recvfrom limC base st ks as).st (readDeliver chunk recvfrom limC base st ks as).res := by
  have := runRead_post chunk recvfrom limC base (readKindsEvs chunk recvfrom limC base st ks as) st
  rwa [readDeliver_eq_runRead] at this

theorem afterReadSt_read {α : Type} (recvfrom : Bool) (st : RSt α) (k : Nat) : (afterReadSt recvfrom st k).read = st.read + k := by
  unfold afterReadSt; split <;> rfl

/-- `bytes_read` never decreases inside the read loop -/
theorem readLoop_read_mono {α : Type} (chunk recvfrom : Bool) (limC base : Nat) (as : List Ans) (st : RSt α) :
    st.read ≤ (readLoop chunk recvfrom limC base st as).st.read :=
  (readLoop_ind chunk recvfrom limC base (Q := fun st' => st.read ≤ st'.read) (R := fun _ _ => True)
    (fun st' k _ _ h => by rw [afterReadSt_read]; omega) (fun _ _ _ _ => trivial)
    (fun _ => ⟨trivial, trivial, fun _ => trivial⟩) as st (Nat.le_refl _)).1

theorem readKind_read_mono {α : Type} (chunk recvfrom : Bool) (limC base : Nat) (st : RSt α) (k : Nat) (as : List Ans) :
    st.read ≤ (readKind chunk recvfrom limC base st k as).st.read := by
  unfold readKind
  split
  · exact readLoop_read_mono chunk recvfrom limC base as st
  · split
    · simp [readStep]
    · simp

theorem readDeliver_read_mono {α : Type} (chunk recvfrom : Bool) (limC base : Nat) (ks : List Nat) :
    ∀ (st : RSt α) (as : List Ans), st.read ≤ (readDeliver chunk recvfrom limC base st ks as).st.read := by
  induction ks with
  | nil => intro st as; simp [readDeliver]
  | cons k ks ih =>
    intro st as
    have h1 := readKind_read_mono chunk recvfrom limC base st k as
    simp only [readDeliver]
    cases hr : (readKind chunk recvfrom limC base st k as).res with
    | pending => exact Nat.le_trans h1 (ih _ _)
    | nil b => exact h1
    | buf r => exact h1
    | failed c => exact h1
    | starved => exact h1

/-- a word whose first event is READ: the read loop's calls come first, and `bytes_read` only grows after it -/
theorem readDeliver_read_first {α : Type} (chunk recvfrom : Bool) (limC base : Nat) (st : RSt α) (ks : List Nat) (as : List Ans) :
    (readLoop chunk recvfrom limC base st as).st.read ≤ (readDeliver chunk recvfrom limC base st (kREAD :: ks) as).st.read ∧
    ∃ cs, (readDeliver chunk recvfrom limC base st (kREAD :: ks) as).calls = (readLoop chunk recvfrom limC base st as).calls ++ cs := by
  simp only [readDeliver, readKind, kREAD, true_or, if_true]
  cases hr : (readLoop chunk recvfrom limC base st as).res
  case pending => exact ⟨readDeliver_read_mono chunk recvfrom limC base ks _ _, _, rfl⟩
  all_goals exact ⟨Nat.le_refl _, [], (List.append_nil _).symm⟩

theorem readLimit_pos (chunk : Bool) (limC left : Nat) (hl : 0 < left) (hc : 0 < limC) : 0 < readLimit chunk limC left := by
  unfold readLimit
  split
  · split <;> omega
  · omega

/-- a read loop whose first call is answered with data (the kernel has bytes queued) takes at least one byte -/
theorem readLoop_bytes_progress {α : Type} (chunk recvfrom : Bool) (limC base : Nat) (st : RSt α) (m : Nat) (as : List Ans)
    (hm : 0 < m) (hl : 0 < st.left) (hc : 0 < limC) (hi : st.inc ≠ []) :
    st.read < (readLoop chunk recvfrom limC base st (.bytes m :: as)).st.read := by
  have hlim := readLimit_pos chunk limC st.left hl hc
  have hlen : 0 < st.inc.length := List.length_pos_iff.mpr hi
  have hk : 0 < min (min m (readLimit chunk limC st.left)) st.inc.length := by omega
  simp only [readLoop]
  cases hr : afterReadRes chunk recvfrom st (min (min m (readLimit chunk limC st.left)) st.inc.length) with
  | some r => simp only [afterReadSt_read]; omega
  | none =>
    have := readLoop_read_mono chunk recvfrom limC base as
      (afterReadSt recvfrom st (min (min m (readLimit chunk limC st.left)) st.inc.length))
    rw [afterReadSt_read] at this
    simp only []
    omega

theorem readLoop_calls_ne {α : Type} (chunk recvfrom : Bool) (limC base : Nat) (st : RSt α) (a : Ans) (as : List Ans) :
    (readLoop chunk recvfrom limC base st (a :: as)).calls ≠ [] := by
  cases a with
  | eintr => simp [readLoop]
  | eagain => simp [readLoop]
  | err c =>
    simp only [readLoop]
    split
    · split <;> simp
    · simp
  | bytes m =>
    simp only [readLoop]
    split <;> simp

theorem mod16_mem (w : Nat) : w % 16 ∈ List.range 16 := List.mem_range.mpr (Nat.mod_lt _ (by decide))

theorem kindsFor_mod (tbl : DTable) (slot w : Nat) : kindsFor tbl slot (w % 16) = kindsFor tbl slot w := by
  simp [kindsFor, dispatchOf, Nat.mod_mod]

/-- a table check "every word with bit `b` starts slot `slot` with kind `k`", read at one word -/
theorem kinds_head (tbl : DTable) (slot b k : Nat)
    (h : (List.range 16).all (fun w => !hasBit w b || (kindsFor tbl slot w).head? == some k) = true) (w : Nat)
    (hw : hasBit (w % 16) b = true) : ∃ ks, kindsFor tbl slot w = k :: ks := by
  rw [List.all_eq_true] at h
  have h1 := h (w % 16) (mod16_mem w)
  rw [hw] at h1
  simp only [Bool.not_true, Bool.false_or, beq_iff_eq] at h1
  rw [kindsFor_mod] at h1
  cases hk : kindsFor tbl slot w with
  | nil => rw [hk] at h1; simp at h1
  | cons k' ks =>
    rw [hk] at h1
    simp only [List.head?_cons, Option.some.injEq] at h1
    exact ⟨ks, by rw [h1]⟩

theorem dataFirst_head (tbl : DTable) (h : dataFirst tbl = true) (w : Nat) (hw : hasBit (w % 16) wIN = true) :
    ∃ ks, kindsFor tbl 0 w = kREAD :: ks := kinds_head tbl 0 wIN kREAD h w hw

theorem outFirst_head (tbl : DTable) (h : outFirst tbl = true) (w : Nat) (hw : hasBit (w % 16) wOUT = true) :
    ∃ ks, kindsFor tbl 1 w = kWRITE :: ks := kinds_head tbl 1 wOUT kWRITE h w hw

theorem writeDeliver_runWrite (len : Nat) (dgram : Bool) (ks : List Nat) :
    ∀ (start : Nat) (as : List Ans) (more : List WEv),
      runWrite len dgram start (writeKindsEvs len dgram start ks as ++ more) =
        (match (writeDeliver len dgram start ks as).res with
         | .pending =>
           { start := (runWrite len dgram (writeDeliver len dgram start ks as).start more).start,
             calls := (writeDeliver len dgram start ks as).calls ++ (runWrite len dgram (writeDeliver len dgram start ks as).start more).calls,
             res := (runWrite len dgram (writeDeliver len dgram start ks as).start more).res }
         | r => { start := (writeDeliver len dgram start ks as).start, calls := (writeDeliver len dgram start ks as).calls, res := r }) := by
  induction ks with
  | nil => intro start as more; simp [writeKindsEvs, writeDeliver]
  | cons k ks ih =>
    intro start as more
    by_cases hk : k = kWRITE
    · simp only [writeKindsEvs, if_pos hk, List.cons_append, runWrite, writeStep, writeDeliver, writeKind]
      cases hr : (writeEvent len dgram start as).res with
      | pending =>
        simp only [hr]
        rw [ih]
        cases hr2 : (writeDeliver len dgram (writeEvent len dgram start as).start ks (writeEvent len dgram start as).rest).res <;>
          simp [List.append_assoc]
      | done => simp [hr]
      | failed e => simp [hr]
      | starved => simp [hr]
    · by_cases he : k = kERR
      · simp only [writeKindsEvs, if_neg hk, if_pos he, List.cons_append, runWrite, writeStep, writeDeliver, writeKind]
      · by_cases hh : k = kHUP
        · simp only [writeKindsEvs, if_neg hk, if_neg he, if_pos hh, List.cons_append, runWrite, writeStep, writeDeliver, writeKind]
        · simp only [writeKindsEvs, if_neg hk, if_neg he, if_neg hh, writeDeliver, writeKind]
          rw [ih]
          cases hr2 : (writeDeliver len dgram start ks as).res <;> simp

theorem runWriteWords_eq_runWrite (tbl : DTable) (len : Nat) (dgram : Bool) (es : List WordEv) :
    ∀ start : Nat, runWriteWords tbl len dgram start es = runWrite len dgram start (writeWordsEvs tbl len dgram start es) := by
  induction es with
  | nil => intro start; simp [runWriteWords, writeWordsEvs, runWrite]
  | cons e es ih =>
    intro start
    simp only [runWriteWords, writeWordsEvs]
    rw [writeDeliver_runWrite]
    simp only [writeWord]
    cases hr : (writeDeliver len dgram start (kindsFor tbl 1 e.word) e.as).res with
    | pending => simp only [hr]; rw [ih]
    | done => simp [hr]
    | failed c => simp [hr]
    | starved => simp [hr]

end JanetModel.Stream
