/- C06, garbage collection of queued values: obligations on the CURRENT source's channel mark functions.
   `currentMarkItems` / `currentMarkPending` are the walks tools/gen/ev.py extracted from janet_chanat_mark /
   janet_chanat_mark_fq (loop bounds as structure, Gen/Ev.lean).  The module fails to check on a tree whose walk is not
   the reference one (e.g. a walk that stops at `capacity` when the ring has wrapped), and is kept apart from
   Props/C06.lean and Ev/SourceObligations.lean so that only these theorems break on such a tree. -/
import JanetModel.Ev.MarkLemmas
import JanetModel.Ev.Current
namespace JanetModel.Props.C06
open JanetModel.Ev

/-- the walks extracted from the current ev.c are the two-branch walk `head..tail` / `head..capacity, 0..tail` -/
theorem current_mark_walks : currentMarkItems = MarkWalk.janet ∧ currentMarkPending = MarkWalk.janet := by decide

/-- on every well-formed JanetQueue - wrapped or not, whatever its capacity - the
    channel's mark callback passes to janet_mark exactly the queued elements, each once, in queue order: the items ring
    (janet_chanat_mark) and the pending-reader / pending-writer queues (janet_chanat_mark_fq: the waiting fibers). -/
theorem mark_visits_exactly_queued {α : Type} (q : RingQ α) (h : q.WF) :
    currentMarkItems.visit q = q.toList ∧ currentMarkPending.visit q = q.toList := by
  rw [current_mark_walks.1, current_mark_walks.2]
  exact ⟨janet_visit q h, janet_visit q h⟩

theorem run_of_janet_walk (m : MarkWalk) (hm : m = MarkWalk.janet) (ops : List GcOp) :
    let s := GcChan.run m maxQCapacity ops
    (∀ p ∈ s.taken, p.2 = true) ∧ (∀ x ∈ s.q.toList, s.live x = true) ∧
    s.taken.map Prod.fst ++ s.q.toList = s.given := by
  subst hm
  have h := GcChan.run_inv maxQCapacity ops
  exact ⟨h.taken_live, h.queued_live, h.fifo⟩

/-- ("nothing is received that was not given", on heap values): for EVERY sequence of gives
    (allocate + janet_q_push), takes (janet_q_pop) and collections - a collection at any moment, with ANY set of roots
    outside the channel, frees everything neither rooted nor visited by the channel's mark walk - starting from
    janet_q_init: every value the channel hands out is still allocated when it is handed out, every value still queued
    is allocated, and the values handed out followed by the values queued are exactly the values given, in order. -/
theorem take_never_dangling (ops : List GcOp) :
    let s := GcChan.run currentMarkItems maxQCapacity ops
    (∀ p ∈ s.taken, p.2 = true) ∧ (∀ x ∈ s.q.toList, s.live x = true) ∧
    s.taken.map Prod.fst ++ s.q.toList = s.given :=
  run_of_janet_walk _ current_mark_walks.1 ops

/-- (no lost wake-up through the collector) the same machine read as a pending-reader /
    pending-writer queue - `give f` = fiber `f` registers (janet_q_push of its JanetChannelPending entry; it is running, hence
    allocated), `take` = the entry is popped to wake or skip its fiber, `collect roots` = a collection in which the channel
    marks what janet_chanat_mark_fq visits.  For every history: every fiber whose entry is popped is still allocated, every
    fiber still registered is allocated, and the entries come out in registration order. -/
theorem waiting_fiber_never_freed (ops : List GcOp) :
    let s := GcChan.run currentMarkPending maxQCapacity ops
    (∀ p ∈ s.taken, p.2 = true) ∧ (∀ f ∈ s.q.toList, s.live f = true) ∧
    s.taken.map Prod.fst ++ s.q.toList = s.given :=
  run_of_janet_walk _ current_mark_walks.2 ops

/-- a queued value survives a collection that has no other root at all -/
theorem queued_value_survives_collection (ops : List GcOp) (x : Nat) :
    let s := GcChan.run currentMarkItems maxQCapacity ops
    x ∈ s.q.toList → (GcChan.step currentMarkItems maxQCapacity s (.collect [])).live x = true := by
  intro s hx
  have h := take_never_dangling (ops ++ [.collect []])
  simp only [GcChan.run, List.foldl_append, List.foldl_cons, List.foldl_nil] at h
  exact h.2.1 x hx

/-- the pump `give x2, take x2, give x2, take, give` leaves the ring (capacity 4) wrapped (head = 3,
    tail = 1: the newest value sits in slot 0); non-vacuity of the theorems above: after a collection with no root both
    queued values are still allocated and are handed out -/
def wrapPump : List GcOp := [.give 1, .give 2, .take, .take, .give 3, .give 4, .take, .give 5, .collect [], .take, .take]

example : let s := GcChan.run currentMarkItems maxQCapacity (wrapPump.take 9)
          s.q.head = 3 ∧ s.q.tail = 1 ∧ s.q.cap = 4 ∧ s.q.toList = [4, 5] ∧ s.live 4 = true ∧ s.live 5 = true := by decide
example : (GcChan.run currentMarkItems maxQCapacity wrapPump).taken = [(1, true), (2, true), (3, true), (4, true), (5, true)] := by
  decide

/-- the theorem depends on the walk: with a walk that stops at `capacity` when the ring has wrapped (the low segment
    `[0, tail)` unvisited) the same pump hands out a freed object - the taker receives something that was never given -/
theorem short_walk_hands_out_freed_value :
    (GcChan.run ⟨[⟨.head, .tail⟩], [⟨.head, .cap⟩]⟩ maxQCapacity wrapPump).taken
      = [(1, true), (2, true), (3, true), (4, true), (5, false)] := by decide

end JanetModel.Props.C06
