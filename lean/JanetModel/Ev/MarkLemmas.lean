/- The mark walk of the reference source visits exactly the content of a well-formed JanetQueue, in queue order; hence a
   collection at any moment frees no queued value, and every value a channel hands out is still allocated and is the
   value that was given (`GcChan.run_inv`). -/
import JanetModel.Ev.Mark
import JanetModel.Ev.QueueLemmas
namespace JanetModel.Ev
open RingQ

theorem janet_slots {α : Type} (q : RingQ α) (h : q.WF) :
    MarkWalk.janet.slots q = (List.range q.count).map q.slot := by
  rw [slots_eq q h]
  unfold MarkWalk.slots MarkWalk.janet
  split <;> simp only [slotsOf, MarkLoop.slots, Bound.eval, List.append_nil, Nat.sub_zero]

theorem janet_visit {α : Type} (q : RingQ α) (h : q.WF) : MarkWalk.janet.visit q = q.toList := by
  unfold MarkWalk.visit
  rw [janet_slots q h, toList_eq q h, List.map_map]
  rfl

structure GcChan.Inv (s : GcChan) : Prop where
  wf : s.q.WF
  queued_live : ∀ x ∈ s.q.toList, s.live x = true
  taken_live : ∀ p ∈ s.taken, p.2 = true
  fifo : s.taken.map Prod.fst ++ s.q.toList = s.given

theorem GcChan.init_inv : GcChan.Inv {} :=
  ⟨Or.inl ⟨rfl, rfl, rfl⟩, by intro x hx; simp [RingQ.toList, RingQ.count, RingQ.init] at hx, by intro p hp; simp at hp,
   by simp [RingQ.toList, RingQ.count, RingQ.init]⟩

theorem GcChan.step_inv (maxCap : Nat) (s : GcChan) (h : s.Inv) (op : GcOp) :
    (GcChan.step MarkWalk.janet maxCap s op).Inv := by
  cases op with
  | give x =>
    cases hp : s.q.push maxCap x with
    | none =>
      have e : GcChan.step MarkWalk.janet maxCap s (.give x) = s := by simp [GcChan.step, hp]
      rw [e]; exact h
    | some q' =>
      have e : GcChan.step MarkWalk.janet maxCap s (.give x)
          = { s with q := q', live := fun y => y == x || s.live y, given := s.given ++ [x] } := by simp [GcChan.step, hp]
      rw [e]
      obtain ⟨hl, hw⟩ := RingQ.push_spec maxCap s.q h.wf x q' hp
      refine ⟨hw, ?_, h.taken_live, ?_⟩
      · intro y hy
        have hy' : y ∈ s.q.toList ++ [x] := by rw [← hl]; exact hy
        rcases List.mem_append.mp hy' with hy' | hy'
        · simp [h.queued_live y hy']
        · simp [List.mem_singleton.mp hy']
      · show s.taken.map Prod.fst ++ q'.toList = s.given ++ [x]
        rw [hl, ← List.append_assoc, h.fifo]
  | take =>
    cases hp : s.q.pop with
    | none =>
      have e : GcChan.step MarkWalk.janet maxCap s .take = s := by simp [GcChan.step, hp]
      rw [e]; exact h
    | some r =>
      obtain ⟨x, q'⟩ := r
      have e : GcChan.step MarkWalk.janet maxCap s .take = { s with q := q', taken := s.taken ++ [(x, s.live x)] } := by
        simp [GcChan.step, hp]
      rw [e]
      obtain ⟨hl, hw⟩ := RingQ.pop_some s.q h.wf x q' hp
      have hx : s.live x = true := h.queued_live x (by rw [hl]; exact List.mem_cons_self ..)
      refine ⟨hw, ?_, ?_, ?_⟩
      · intro y hy; exact h.queued_live y (by rw [hl]; exact List.mem_cons_of_mem _ hy)
      · intro p hp'
        rcases List.mem_append.mp hp' with hp' | hp'
        · exact h.taken_live p hp'
        · rw [List.mem_singleton.mp hp']; exact hx
      · show (s.taken ++ [(x, s.live x)]).map Prod.fst ++ q'.toList = s.given
        have := h.fifo
        rw [hl] at this
        rw [← this]; simp
  | collect roots =>
    have e : GcChan.step MarkWalk.janet maxCap s (.collect roots)
        = { s with live := fun y => s.live y && (roots.contains y || (MarkWalk.janet.visit s.q).contains y) } := rfl
    rw [e]
    refine ⟨h.wf, ?_, h.taken_live, h.fifo⟩
    intro y hy
    have hy' : y ∈ s.q.toList := hy
    have hv : (MarkWalk.janet.visit s.q).contains y = true := by
      rw [janet_visit s.q h.wf]; exact List.contains_iff_mem.mpr hy'
    show (s.live y && (roots.contains y || (MarkWalk.janet.visit s.q).contains y)) = true
    rw [h.queued_live y hy', hv]; simp

theorem GcChan.run_inv (maxCap : Nat) (ops : List GcOp) : (GcChan.run MarkWalk.janet maxCap ops).Inv := by
  unfold GcChan.run
  suffices H : ∀ s : GcChan, s.Inv → (ops.foldl (GcChan.step MarkWalk.janet maxCap) s).Inv from H _ GcChan.init_inv
  induction ops with
  | nil => intro s h; exact h
  | cons op rest ih => intro s h; exact ih _ (GcChan.step_inv maxCap s h op)

end JanetModel.Ev
