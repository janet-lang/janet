/- Order of receipt: for every fiber `t`, the items `t` has received (in the order its operations returned them) followed
   by the item of its live wake-up task, form a SUBLIST of the global hand-out log.  A fiber has at most one item in
   flight and receives it before it can be handed another one, so the order in which one taker receives is the order in
   which the channels handed out.  Together with `fifo_per_channel` this gives the order between one giver and one taker. -/
import JanetModel.Ev.Kept
namespace JanetModel.Ev
open List

theorem receivedOf_eq (f : Nat) (v : Val) : receivedOf f v = (itemsOf v).map (fun x => (f, x)) := by
  cases v <;> rfl

/-- items received by fiber `t`, in order -/
def Rv (w : World) (t : Nat) : List Nat := (w.ghost.received.filter (fun p => p.1 == t)).map (·.2)

def liveT (fb : Fibers) (t : Nat) (u : Task) : Bool := u.fiber == t && u.expected == (fb t).sched

/-- items carried by the tasks in the run queue that will really resume `t` -/
def Fv (fb : Fibers) (rq : List Task) (t : Nat) : List Nat := (rq.filter (liveT fb t)).flatMap (fun u => itemsOf u.value)

/-- hand-out log, items only -/
def Hv (w : World) : List Nat := w.ghost.handed.map (·.2)

def SH (w : World) (H0 : List Nat) : Prop := ∀ t, (Rv w t ++ Fv w.fibers w.runq t) <+ H0

def A2 (w : World) : Prop := ∀ u ∈ w.runq, u.expected ≤ (w.fibers u.fiber).sched

theorem SH_same {w w' : World} {H0 : List Nat} (hs : ∀ i, (w'.fibers i).sched = (w.fibers i).sched) (hr : w'.runq = w.runq)
    (hg : w'.ghost.received = w.ghost.received) (h : SH w H0) : SH w' H0 := by
  intro t
  have hl : liveT w'.fibers t = liveT w.fibers t := by funext u; unfold liveT; rw [hs]
  unfold Rv Fv; rw [hl, hr, hg]; exact h t

theorem A2_congr {w w' : World} (hf : w'.fibers = w.fibers) (hr : w'.runq = w.runq) (h : A2 w) : A2 w' := by
  unfold A2; rw [hf, hr]; exact h

theorem filter_liveT_of_LT {fb : Fibers} {rq : List Task} {t : Nat} (h : LT fb rq t = 0) : rq.filter (liveT fb t) = [] := by
  rw [List.filter_eq_nil_iff]
  intro u hu
  simpa [liveT] using (List.countP_eq_zero.mp h) u hu

theorem Fv_nil_of_LT {fb : Fibers} {rq : List Task} {t : Nat} (h : LT fb rq t = 0) : Fv fb rq t = [] := by
  unfold Fv
  rw [filter_liveT_of_LT h]
  rfl

/-- `SH` while the running fiber `f` holds the items `hand`: handed out to it, not yet in a task or in its receive log -/
def SHh (f : Nat) (w : World) (H0 hand : List Nat) : Prop :=
  ∀ t, (Rv w t ++ Fv w.fibers w.runq t ++ if t = f then hand else []) <+ H0

theorem SHh_nil {f : Nat} {w : World} {H0 : List Nat} : SHh f w H0 [] ↔ SH w H0 := by
  unfold SHh SH
  simp only [ite_self, List.append_nil]

theorem SHh_same {f : Nat} {w w' : World} {H0 hand : List Nat} (hs : ∀ i, (w'.fibers i).sched = (w.fibers i).sched)
    (hr : w'.runq = w.runq) (hg : w'.ghost.received = w.ghost.received) (h : SHh f w H0 hand) : SHh f w' H0 hand := by
  intro t
  have hl : liveT w'.fibers t = liveT w.fibers t := by funext u; unfold liveT; rw [hs]
  unfold Rv Fv; rw [hl, hr, hg]; exact h t

theorem SHh_out {f : Nat} {w : World} {H0 hand : List Nat} (x : Nat) (h : SHh f w H0 hand) :
    SHh f w (H0 ++ [x]) (hand ++ [x]) := by
  intro t
  by_cases e : t = f
  · rw [if_pos e, ← List.append_assoc]
    exact List.Sublist.append (by have := h t; rwa [if_pos e] at this) (List.Sublist.refl _)
  · rw [if_neg e]
    exact (by have := h t; rwa [if_neg e] at this : _ <+ H0).trans (List.sublist_append_left _ _)

/-- after janet_schedule_general all the fiber has in flight is the value of the new task: the bump made its older tasks stale -/
theorem schedule_flight (w : World) (g : Nat) (v : Val) (sig : Sig) (ha : A2 w) (t : Nat) :
    Rv (scheduleGeneral w g v sig false) t = Rv w t ∧
    (Fv (scheduleGeneral w g v sig false).fibers (scheduleGeneral w g v sig false).runq t = Fv w.fibers w.runq t ∨
     t = g ∧ Fv (scheduleGeneral w g v sig false).fibers (scheduleGeneral w g v sig false).runq t = itemsOf v) ∧
    A2 (scheduleGeneral w g v sig false) := by
  obtain ⟨_, _, _, hcase⟩ := scheduleGeneral_props w g v sig
  have hR : Rv (scheduleGeneral w g v sig false) t = Rv w t := by unfold Rv; rw [scheduleGeneral_ghost]
  refine ⟨hR, ?_⟩
  rcases hcase with ⟨_, hf, hr⟩ | ⟨_, hs, _, hoth, hr⟩
  · rw [hf, hr]; exact ⟨Or.inl rfl, A2_congr hf hr ha⟩
  · constructor
    · rw [hr]
      by_cases e : t = g
      · subst e
        have hold := filter_liveT_of_LT (LT_bumped (fb' := (scheduleGeneral w t v sig false).fibers) t ha hs)
        right
        refine ⟨rfl, ?_⟩
        unfold Fv
        rw [List.filter_append, hold]
        simp [liveT, hs]
      · left
        unfold Fv
        have hl : liveT (scheduleGeneral w g v sig false).fibers t = liveT w.fibers t := by
          funext u; unfold liveT; rw [hoth t e]
        rw [hl, List.filter_append]
        have : (g == t) = false := by simp; exact fun e' => e e'.symm
        simp [liveT, this]
    · intro u hu
      rw [hr] at hu
      rcases List.mem_append.mp hu with hu | hu
      · have := ha u hu
        by_cases e : u.fiber = g
        · rw [e] at this ⊢; rw [hs]; omega
        · rw [hoth _ e]; exact this
      · simp at hu; subst hu; simp [hs]

theorem SHh_schedule {f : Nat} {w : World} {H0 hand : List Nat} (g : Nat) (v : Val) (sig : Sig) (hgf : g = f → hand = [])
    (ha : A2 w) (h : SHh f w H0 hand) :
    SHh f (scheduleGeneral w g v sig false) (H0 ++ itemsOf v) hand ∧ A2 (scheduleGeneral w g v sig false) := by
  refine ⟨fun t => ?_, (schedule_flight w g v sig ha g).2.2⟩
  obtain ⟨hR, hF, _⟩ := schedule_flight w g v sig ha t
  rw [hR]
  rcases hF with hF | ⟨rfl, hF⟩
  · rw [hF]; exact (h t).trans (List.sublist_append_left _ _)
  · have hn : (if t = f then hand else []) = [] := by
      split
      · rename_i e; exact hgf e
      · rfl
    rw [hF, hn, List.append_nil]
    exact List.Sublist.append ((List.sublist_append_left _ _).trans ((List.sublist_append_left _ _).trans (h t)))
      (List.Sublist.refl _)

theorem SH_schedule {w : World} {H0 : List Nat} (g : Nat) (v : Val) (sig : Sig) (ha : A2 w) (h : SH w H0) :
    SH (scheduleGeneral w g v sig false) (H0 ++ itemsOf v) ∧ A2 (scheduleGeneral w g v sig false) :=
  (SHh_schedule (f := g) (hand := []) g v sig (fun _ => rfl) ha (SHh_nil.mpr h)).imp_left SHh_nil.mp

theorem SHh_place {f : Nat} {w : World} {H0 : List Nat} (v : Val) (ha : A2 w) (h : SHh f w H0 (itemsOf v)) :
    SH (schedule w f v) H0 := by
  intro t
  obtain ⟨hR, hF, _⟩ := schedule_flight w f v .ok ha t
  unfold schedule
  rw [hR]
  rcases hF with hF | ⟨rfl, hF⟩
  · rw [hF]; exact (List.sublist_append_left _ _).trans (h t)
  · rw [hF]
    have := h t
    rw [if_pos rfl, List.append_assoc] at this
    exact (List.Sublist.append (List.Sublist.refl _) (List.sublist_append_right _ _)).trans this

theorem fold_SH {α : Type} (act : World → α → World) (hact : IsSched act) {H0 : List Nat} :
    ∀ (l : List α) (u : World), A2 u → SH u H0 →
      SH (l.foldl act u) H0 ∧ A2 (l.foldl act u) ∧ (l.foldl act u).ghost = u.ghost := by
  intro l
  induction l with
  | nil => intro u ha h; exact ⟨h, ha, rfl⟩
  | cons a rest ih =>
    intro u ha h
    simp only [List.foldl_cons]
    rcases hact u a with e | ⟨g, val, sig, hv, e⟩
    · rw [e]; exact ih u ha h
    · rw [e]
      obtain ⟨h1, h2⟩ := SH_schedule g val sig ha h
      rw [hv, List.append_nil] at h1
      obtain ⟨i1, i2, i3⟩ := ih _ h2 h1
      exact ⟨i1, i2, i3.trans (scheduleGeneral_ghost u g val sig false)⟩

theorem Rv_append (w w' : World) (d : List (Nat × Nat)) (h : w'.ghost.received = w.ghost.received ++ d) (t : Nat) :
    Rv w' t = Rv w t ++ (d.filter (fun p => p.1 == t)).map (·.2) := by
  unfold Rv; rw [h, List.filter_append, List.map_append]

theorem filter_receivedOf (g t : Nat) (v : Val) :
    ((receivedOf g v).filter (fun p => p.1 == t)).map (·.2) = if g = t then itemsOf v else [] := by
  rw [receivedOf_eq]
  by_cases e : g = t
  · subst e; simp [List.filter_map, Function.comp_def]
  · simp [e, List.filter_map, Function.comp_def]

theorem SH_runTask {cfg : Cfg} {w : World} {H0 : List Nat} (ha : A2 w) (h : SH w H0) :
    SH (loopRunTask cfg w).1 H0 ∧ A2 (loopRunTask cfg w).1 := by
  rcases loopRunTask_cases cfg w with ⟨_, he⟩ | ⟨t, rest, hq, hr, _, _, _, _, hoth, hs, _, d, hd, hdc⟩
  · rw [he]; exact ⟨h, ha⟩
  · have hmono := (loopRunTask_frame cfg w).sched
    constructor
    · intro tt
      rw [Rv_append w _ d hd tt, hr]
      have hw := h tt
      rw [hq] at hw
      by_cases e : tt = t.fiber
      · subst e
        -- live tasks of t.fiber among `rest`: the same as before, or none after the bump
        have hF : Fv (loopRunTask cfg w).1.fibers rest t.fiber <+ Fv w.fibers rest t.fiber := by
          by_cases hb : t.expected = (w.fibers t.fiber).sched ∧ cfg.resumeBumps = true
          · rw [if_pos hb] at hs
            have := filter_liveT_of_LT (LT_bumped (fb' := (loopRunTask cfg w).1.fibers) (rq := rest) t.fiber
              (fun u hu => ha u (by rw [hq]; exact List.mem_cons_of_mem _ hu)) hs)
            unfold Fv; rw [this]; exact List.nil_sublist _
          · rw [if_neg hb] at hs
            have hl : liveT (loopRunTask cfg w).1.fibers t.fiber = liveT w.fibers t.fiber := by
              funext u; unfold liveT; rw [hs]
            unfold Fv; rw [hl]; exact List.Sublist.refl _
        have hcons : Fv w.fibers (t :: rest) t.fiber =
            (if liveT w.fibers t.fiber t = true then itemsOf t.value else []) ++ Fv w.fibers rest t.fiber := by
          unfold Fv
          rw [List.filter_cons]
          split <;> simp
        rw [hcons] at hw
        refine List.Sublist.trans ?_ hw
        rw [List.append_assoc]
        refine List.Sublist.append (List.Sublist.refl _) (List.Sublist.append ?_ hF)
        rcases hdc with hd0 | ⟨hl, hd1⟩
        · rw [hd0]; exact List.nil_sublist _
        · rw [hd1, filter_receivedOf]
          simp only [↓reduceIte]
          have : liveT w.fibers t.fiber t = true := by simp [liveT, hl]
          rw [if_pos this]; exact List.Sublist.refl _
      · have hl : liveT (loopRunTask cfg w).1.fibers tt = liveT w.fibers tt := by
          funext u; unfold liveT; rw [hoth tt e]
        have hF : Fv w.fibers (t :: rest) tt = Fv w.fibers rest tt := by
          unfold Fv
          rw [List.filter_cons]
          have : liveT w.fibers tt t = false := by
            simp only [liveT, Bool.and_eq_false_iff, beq_eq_false_iff_ne]; left; exact fun e' => e e'.symm
          rw [this]; rfl
        have hdn : (d.filter (fun p => p.1 == tt)).map (·.2) = [] := by
          rcases hdc with hd0 | ⟨_, hd1⟩
          · rw [hd0]; rfl
          · rw [hd1, filter_receivedOf, if_neg (fun e' => e e'.symm)]
        rw [hdn, List.append_nil]
        unfold Fv at hF ⊢
        rw [hl, ← hF]; exact hw
    · intro u hu
      rw [hr] at hu
      exact Nat.le_trans (ha u (by rw [hq]; exact List.mem_cons_of_mem _ hu)) (hmono u.fiber)

theorem Leaves.sh {f : Nat} {st : FStatus} {w w' : World} {H0 : List Nat} (h : Leaves f st w w') (hS : SH w H0) : SH w' H0 :=
  SH_same h.sched h.runq (congrArg _ h.ghost) hS

theorem Hv_addHanded (w : World) (c x : Nat) (ch : Chan) : Hv (setChan (addHanded w c x) c ch) = Hv w ++ [x] := by
  simp [Hv, setChan, addHanded]

theorem Atom.sh {self other : Nat → Prop} {f : Nat} {r : List (Nat × Side)} {o hand : List Nat} {a b : World}
    (h : Atom self other r o a b) (hoth : ∀ g, other g → g = f → hand ++ o = []) (ha : A2 a) (hS : SHh f a (Hv a) hand) :
    A2 b ∧ SHh f b (Hv b) (hand ++ o) := by
  cases h with
  | drop | enq | regR | close =>
    rw [List.append_nil]
    exact ⟨A2_congr (w := a) rfl rfl ha, SHh_same (w := a) (fun _ => rfl) rfl rfl hS⟩
  | wakeC _ c s p rest v hl live oth hv =>
    have hv' : itemsOf v = [] := by rcases hv with rfl | rfl <;> rfl
    have := SHh_schedule (w := setChan a c ((a.chans c).setPend s rest)) p.fiber v .ok
      (fun e => (List.append_eq_nil_iff.mp (hoth _ oth e)).1) (A2_congr (w := a) rfl rfl ha)
      (SHh_same (w := a) (fun _ => rfl) rfl rfl hS)
    rw [hv', List.append_nil] at this
    have hH : Hv (schedule (setChan a c ((a.chans c).setPend s rest)) p.fiber v) = Hv a := by
      unfold schedule Hv; rw [scheduleGeneral_ghost]; rfl
    rw [hH, List.append_nil]
    exact ⟨this.2, this.1⟩
  | hand _ c x r rest v hrp live opn oth hv =>
    have hv' : itemsOf v = [x] := by rcases hv with rfl | rfl <;> rfl
    have := SHh_schedule (w := addHanded (setChan (addPushed a c x) c { (a.chans c) with readPending := rest }) c x)
      r.fiber v .ok (fun e => (List.append_eq_nil_iff.mp (hoth _ oth e)).1) (A2_congr (w := a) rfl rfl ha)
      (SHh_same (w := a) (fun _ => rfl) rfl rfl hS)
    rw [hv'] at this
    have hH : Hv (schedule (addHanded (setChan (addPushed a c x) c { (a.chans c) with readPending := rest }) c x)
        r.fiber v) = Hv a ++ [x] := by
      unfold schedule Hv; rw [scheduleGeneral_ghost]; simp [addHanded, setChan, addPushed]
    rw [hH, List.append_nil]
    exact ⟨this.2, this.1⟩
  | deq _ c x rest o wp' v hit opn hwp hnone live hv =>
    have h1 : SHh f (setChan (addHanded a c x) c { (a.chans c) with items := rest, writePending := wp' })
        (Hv a ++ [x]) (hand ++ [x]) := SHh_same (w := a) (fun _ => rfl) rfl rfl (SHh_out x hS)
    have ha1 : A2 (setChan (addHanded a c x) c { (a.chans c) with items := rest, writePending := wp' }) :=
      A2_congr (w := a) rfl rfl ha
    cases o with
    | none =>
      show A2 (setChan (addHanded a c x) c _) ∧ SHh f (setChan (addHanded a c x) c _) (Hv (setChan (addHanded a c x) c _)) _
      rw [Hv_addHanded]
      exact ⟨ha1, h1⟩
    | some p =>
      have hv' : itemsOf (v p) = [] := by rcases hv p with e | e <;> rw [e] <;> rfl
      have := SHh_schedule p.fiber (v p) .ok (fun e => hoth _ (live p rfl).2 e) ha1 h1
      rw [hv', List.append_nil] at this
      have hH : Hv (schedule (setChan (addHanded a c x) c { (a.chans c) with items := rest, writePending := wp' })
          p.fiber (v p)) = Hv a ++ [x] := by
        unfold schedule Hv; rw [scheduleGeneral_ghost]; exact Hv_addHanded a c x _
      show A2 (schedule _ p.fiber (v p)) ∧ SHh f (schedule _ p.fiber (v p)) (Hv (schedule _ p.fiber (v p))) _
      rw [hH]
      exact ⟨this.2, this.1⟩

theorem Steps.sh {self other : Nat → Prop} {f : Nat} {r : List (Nat × Side)} {o : List Nat} {w w' : World}
    (h : Steps self other r o w w') :
    ∀ hand, (∀ g, other g → g = f → hand ++ o = []) → A2 w → SHh f w (Hv w) hand → A2 w' ∧ SHh f w' (Hv w') (hand ++ o) := by
  induction h with
  | nil => intro hand _ ha hS; rw [List.append_nil]; exact ⟨ha, hS⟩
  | cons h1 _ ih =>
    intro hand hoth ha hS
    rw [← List.append_assoc] at hoth ⊢
    obtain ⟨ha1, hS1⟩ := h1.sh (fun g hg e => (List.append_eq_nil_iff.mp (hoth g hg e)).1) ha hS
    exact ih _ hoth ha1 hS1

theorem Steps.sh_nil {self other : Nat → Prop} {r : List (Nat × Side)} {w w' : World} (h : Steps self other r [] w w')
    (ha : A2 w) (hS : SH w (Hv w)) : A2 w' ∧ SH w' (Hv w') :=
  (h.sh (f := 0) [] (fun _ _ _ => rfl) ha (SHh_nil.mpr hS)).imp_right SHh_nil.mp

theorem SHh_receive {w1 : World} {H0 : List Nat} {f x : Nat} (h : SHh f w1 H0 [x]) (hF : Fv w1.fibers w1.runq f = []) :
    SH (received w1 f x) H0 := by
  intro t
  have hR := Rv_append w1 (received w1 f x) [(f, x)] rfl t
  rw [hR]
  show (Rv w1 t ++ _ ++ Fv w1.fibers w1.runq t) <+ _
  have := h t
  by_cases e : f = t
  · subst e
    rw [hF, List.append_nil] at this ⊢
    simpa using this
  · have hn : (List.filter (fun p : Nat × Nat => p.1 == t) [(f, x)]).map (·.2) = [] := by simp [e]
    rw [hn, List.append_nil]
    rw [if_neg fun e' => e e'.symm, List.append_nil] at this
    exact this

theorem timers_SH (w : World) (clk : Nat) (tm due : List Timer) (ha : A2 w) (hS : SH w (Hv w)) :
    SH (due.foldl fireTimer { w with clock := clk, timers := tm })
      (Hv (due.foldl fireTimer { w with clock := clk, timers := tm })) := by
  let w0 : World := { w with clock := clk, timers := tm }
  have h0 : SH w0 (Hv w) := SH_same (w := w) (fun _ => rfl) rfl rfl hS
  obtain ⟨f1, _, f3⟩ := fold_SH fireTimer fireTimer_isSched due w0 (A2_congr (w := w) (w' := w0) rfl rfl ha) h0
  have : Hv (due.foldl fireTimer w0) = Hv w := by unfold Hv; rw [f3]
  show SH (due.foldl fireTimer w0) (Hv (due.foldl fireTimer w0))
  rw [this]; exact f1

theorem step_SH {cfg : Cfg} (hg : CfgGood cfg) (w : World) (a : Action) (hns : a.noSelfMatch) (hi : WInv w)
    (hS : SH w (Hv w)) : SH (step cfg w a).1 (Hv (step cfg w a).1) := by
  obtain ⟨hm, hqq⟩ := hi
  have ha : A2 w := hm.a2
  have same : ∀ {w' : World}, (∀ i, (w'.fibers i).sched = (w.fibers i).sched) → w'.runq = w.runq → w'.ghost = w.ghost →
      SH w' (Hv w') := fun hs hr hgh => by
    unfold Hv; rw [hgh]; exact SH_same hs hr (by rw [hgh]) hS
  have sched : ∀ g v sig, itemsOf v = [] → SH (scheduleGeneral w g v sig false) (Hv (scheduleGeneral w g v sig false)) :=
    fun g v sig hv => by
      have := (SH_schedule g v sig ha hS).1
      rw [hv, List.append_nil] at this
      unfold Hv; rw [scheduleGeneral_ghost]; exact this
  have h := step_out cfg w a
  generalize step cfg w a = r at h
  cases h with
  | idle => exact hS
  | runTask hc =>
    have hH : Hv (loopRunTask cfg w).1 = Hv w := by unfold Hv; rw [(loopRunTask_frame cfg w).handed]
    rw [hH]; exact (SH_runTask ha hS).1
  | timers hc => unfold loopTimers; exact timers_SH w _ _ _ ha hS
  | poll | scopeEnd | deadline => exact same (fun _ => rfl) rfl rfl
  | supEvent hc c x =>
    unfold supPush
    cases hp : chanPush cfg w 0 c x 2 with
    | closedErr => exact hS
    | ok w1 b =>
      exact ((supPush_steps hg.strict hp).sh_nil ha hS).2
  | go f g => exact sched g .nil .ok rfl
  | cancel f g => exact sched g .errCancel .error rfl
  | sleep f ms => exact (awaitFiber_leaves _ f).sh (same (fun _ => rfl) rfl rfl)
  | giveClosed f c x | finish f e => exact (finishFiber_leaves w f _).sh hS
  | op f hc o =>
    obtain ⟨regs, out, w1, hst, ht⟩ := o.steps hg hns hm hc (hqq f hc)
    cases ht with
    | ret _ v => exact (hst.sh_nil ha hS).2
    | recv _ x v =>
      exact SHh_receive (hst.sh [] (fun _ h e => absurd e h) ha (SHh_nil.mpr hS)).2
        (Fv_nil_of_LT (hst.inOp [] (InOp.start hm hc (hqq f hc))).lt)
    | yield c v =>
      obtain ⟨h2, h1⟩ := hst.sh [] (fun _ h e => absurd e h) ha (SHh_nil.mpr hS)
      have hH : Hv (schedule w1 f v) = Hv w1 := by unfold schedule Hv; rw [scheduleGeneral_ghost]
      show SH (awaitFiber (schedule w1 f v) f) (Hv (schedule w1 f v))
      rw [hH]
      exact (awaitFiber_leaves _ f).sh (SHh_place v h2 h1)
    | wait _ hne => exact (awaitFiber_leaves _ f).sh (hst.sh_nil ha hS).2

theorem run_SH {cfg : Cfg} (hg : CfgGood cfg) (as : List Action) :
    ∀ w : World, (∀ a ∈ as, a.noSelfMatch) → WInv w → SH w (Hv w) → SH (run cfg w as) (Hv (run cfg w as)) :=
  fun w hns hi h => (run_of_step cfg as (P := fun w => WInv w ∧ SH w (Hv w))
    (fun w a ha h => ⟨step_W hg w a (hns a ha) h.1, step_SH hg w a (hns a ha) h.1 h.2⟩) w ⟨hi, h⟩).2

theorem start_SH (limits : Nat → Nat) : SH (World.start limits) (Hv (World.start limits)) := by
  have hv : Hv (World.start limits) = [] := by
    unfold Hv World.start schedule
    rw [scheduleGeneral_ghost]
    rfl
  rw [hv]
  exact (SH_schedule (w := World.init limits) (H0 := []) 0 .nil .ok (fun _ h => nomatch h) fun _ => List.Sublist.refl _).1

end JanetModel.Ev
