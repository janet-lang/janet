/- Lemmas about the event-loop model for every configuration `cfg`: closed forms of the model functions, frames, and
   the branches of `step` and of the run phase as relations (`StepOut`, `RunOut`), which every proof about `step` cases on. -/
import JanetModel.Ev.Model
namespace JanetModel.Ev

theorem scheduleGeneral_chans (w : World) (f : Nat) (v : Val) (s : Sig) (b : Bool) :
    (scheduleGeneral w f v s b).chans = w.chans := by
  unfold scheduleGeneral
  by_cases h : (w.fibers f).canceled = true <;> simp [h, setFiber]

theorem scheduleGeneral_ghost (w : World) (f : Nat) (v : Val) (s : Sig) (b : Bool) :
    (scheduleGeneral w f v s b).ghost = w.ghost := by
  unfold scheduleGeneral
  by_cases h : (w.fibers f).canceled = true <;> simp [h, setFiber]

theorem schedule_chans (w : World) (f : Nat) (v : Val) : (schedule w f v).chans = w.chans :=
  scheduleGeneral_chans w f v .ok false

theorem schedule_ghost (w : World) (f : Nat) (v : Val) : (schedule w f v).ghost = w.ghost :=
  scheduleGeneral_ghost w f v .ok false

theorem schedule_status (w : World) (f : Nat) (v : Val) (g : Nat) :
    ((schedule w f v).fibers g).status = (w.fibers g).status ∧
    ((schedule w f v).fibers g).canceled = (w.fibers g).canceled := by
  unfold schedule scheduleGeneral
  by_cases h : (w.fibers f).canceled = true
  · simp [h]
  · by_cases hg : g = f
    · subst hg; simp [h, setFiber]
    · simp [h, setFiber, hg]

theorem schedule_bumps (w : World) (f : Nat) (v : Val) (h : (w.fibers f).canceled = false) :
    ((schedule w f v).fibers f).sched = (w.fibers f).sched + 1 ∧
    (schedule w f v).runq = w.runq ++ [⟨f, v, .ok, (w.fibers f).sched + 1⟩] := by
  unfold schedule scheduleGeneral
  simp [h, setFiber]

theorem schedule_runq_mono (w : World) (f : Nat) (v : Val) (t : Task) (ht : t ∈ w.runq) :
    t ∈ (schedule w f v).runq := by
  unfold schedule scheduleGeneral
  by_cases h : (w.fibers f).canceled = true <;> simp [h, setFiber, ht]

theorem live_iff (fibers : Nat → Fiber) (p : Pending) : p.live fibers = true ↔ p.sched = (fibers p.fiber).sched := by
  simp [Pending.live]

theorem popLiveReader_split (fibers : Nat → Fiber) (rp : List Pending) :
    (popLiveReader fibers rp = (none, []) ∧ ∀ p ∈ rp, p.live fibers = false) ∨
    (∃ pre r rest, rp = pre ++ r :: rest ∧ (∀ p ∈ pre, p.live fibers = false) ∧ r.live fibers = true ∧
      popLiveReader fibers rp = (some r, rest)) := by
  induction rp with
  | nil => exact Or.inl ⟨rfl, fun _ h => nomatch h⟩
  | cons q tl ih =>
    unfold popLiveReader
    cases hl : q.live fibers with
    | true => exact Or.inr ⟨[], q, tl, rfl, fun _ h => (nomatch h), hl, if_pos rfl⟩
    | false =>
      rw [if_neg Bool.false_ne_true]
      rcases ih with ⟨e, hs⟩ | ⟨pre, r, rest, e, hs, hr, hp⟩
      · exact Or.inl ⟨e, List.forall_mem_cons.mpr ⟨hl, hs⟩⟩
      · exact Or.inr ⟨q :: pre, r, rest, by rw [e]; rfl, List.forall_mem_cons.mpr ⟨hl, hs⟩, hr, hp⟩

theorem popWriter_true (fibers : Nat → Fiber) (l : List Pending) : popWriter true fibers l = popLiveReader fibers l := by
  induction l with
  | nil => rfl
  | cons p rest ih =>
    unfold popWriter popLiveReader
    cases p.live fibers
    · exact ih
    · rfl

theorem popLiveReader_none_iff (fibers : Nat → Fiber) (rp : List Pending) :
    (popLiveReader fibers rp).1 = none ↔ hasLiveReader fibers rp = false := by
  unfold hasLiveReader
  rw [List.any_eq_false]
  rcases popLiveReader_split fibers rp with ⟨e, hs⟩ | ⟨pre, r, rest, e, _, hr, hp⟩
  · rw [e]; exact ⟨fun _ p hp => by rw [hs p hp]; exact Bool.false_ne_true, fun _ => rfl⟩
  · rw [hp]
    exact ⟨fun h => (nomatch h), fun h => absurd hr (h r (by rw [e]; exact List.mem_append_right _ (List.mem_cons_self ..)))⟩

theorem addHanded_chans (w : World) (c x : Nat) : (addHanded w c x).chans = w.chans := rfl

theorem setChan_chans_self (w : World) (c : Nat) (x : Chan) : (setChan w c x).chans c = x := if_pos rfl

theorem setChan_chans_ne (w : World) {c c' : Nat} (x : Chan) (h : c' ≠ c) : (setChan w c x).chans c' = w.chans c' :=
  if_neg h

/-- the test `janet_q_count(&channel->items) > channel->limit` of push_with_lock, made after the item was queued -/
theorem pushBlocks_iff {cfg : Cfg} (hs : cfg.pushBlocksStrict = true) (count limit : Nat) :
    pushBlocks cfg count limit = true ↔ limit < count := by
  simp [pushBlocks, hs]

theorem chanPush_eq (cfg : Cfg) (w : World) (f c x mode : Nat) :
    ((w.chans c).closed = true ∧ chanPush cfg w f c x mode = .closedErr) ∨
    ((w.chans c).closed = false ∧ ∃ o rp, popLiveReader w.fibers (w.chans c).readPending = (o, rp) ∧
      chanPush cfg w f c x mode =
        match o with
        | none =>
          .ok (setChan (addPushed w c x) c { (w.chans c) with
                readPending := rp, items := (w.chans c).items ++ [x],
                writePending := (w.chans c).writePending ++
                  if pushBlocks cfg ((w.chans c).items.length + 1) (w.chans c).limit = true ∧ mode ≠ 2 then
                    [Pending.mk f (w.fibers f).sched (if mode = 0 then .write else .choiceWrite)] else [] })
            (pushBlocks cfg ((w.chans c).items.length + 1) (w.chans c).limit)
        | some r =>
          .ok (schedule (addHanded (setChan (addPushed w c x) c { (w.chans c) with readPending := rp }) c x) r.fiber
                (if r.mode = .choiceRead then .take c x else .num x)) false) := by
  cases hcl : (w.chans c).closed with
  | true => left; refine ⟨rfl, ?_⟩; unfold chanPush; simp only [hcl, if_true]
  | false =>
    right
    rcases hq : popLiveReader w.fibers (w.chans c).readPending with ⟨o, rp⟩
    refine ⟨rfl, o, rp, rfl, ?_⟩
    have hq' : popLiveReader (addPushed w c x).fibers (w.chans c).readPending = (o, rp) := hq
    unfold chanPush
    simp only [hcl, Bool.false_eq_true, if_false, hq']
    cases o with
    | some r => rfl
    | none =>
      simp only [List.length_append, List.length_cons, List.length_nil, Nat.zero_add]
      cases hb : pushBlocks cfg ((w.chans c).items.length + 1) (w.chans c).limit with
      | false => simp
      | true => by_cases hm : mode = 2 <;> simp [hm]; rfl

theorem chanPush_closedErr (cfg : Cfg) (w : World) (f c x mode : Nat) (h : chanPush cfg w f c x mode = .closedErr) :
    (w.chans c).closed = true := by
  rcases chanPush_eq cfg w f c x mode with ⟨hcl, _⟩ | ⟨_, o, rp, _, e⟩
  · exact hcl
  · rw [e] at h; cases o <;> cases h

theorem chanPop_eq (cfg : Cfg) (w : World) (f c mode : Nat) :
    ((w.chans c).closed = true ∧ chanPop cfg w f c mode = .got w none) ∨
    ((w.chans c).closed = false ∧ (w.chans c).items = [] ∧
      chanPop cfg w f c mode = .blocked (if mode = 2 then w else
        setChan w c { (w.chans c) with readPending := (w.chans c).readPending ++
          [Pending.mk f (w.fibers f).sched (if mode = 0 then .read else .choiceRead)] })) ∨
    (∃ x rest o wp', (w.chans c).closed = false ∧ (w.chans c).items = x :: rest ∧
      popWriter cfg.popSkipsStaleWriter w.fibers (w.chans c).writePending = (o, wp') ∧
      chanPop cfg w f c mode = .got
        (match o with
         | none => setChan (addHanded w c x) c { (w.chans c) with items := rest, writePending := wp' }
         | some p => schedule (setChan (addHanded w c x) c { (w.chans c) with items := rest, writePending := wp' }) p.fiber
                       (if p.mode = .choiceWrite then .give c else .chan c)) (some x)) := by
  cases hcl : (w.chans c).closed with
  | true => left; refine ⟨rfl, ?_⟩; unfold chanPop; simp only [hcl, if_true]
  | false =>
    right
    cases hit : (w.chans c).items with
    | nil =>
      left; refine ⟨rfl, rfl, ?_⟩
      unfold chanPop
      simp only [hcl, Bool.false_eq_true, if_false, hit]
      split <;> rfl
    | cons x rest =>
      right
      rcases hq : popWriter cfg.popSkipsStaleWriter w.fibers (w.chans c).writePending with ⟨o, wp'⟩
      refine ⟨x, rest, o, wp', rfl, rfl, rfl, ?_⟩
      have hq' : popWriter cfg.popSkipsStaleWriter (addHanded w c x).fibers (w.chans c).writePending = (o, wp') := hq
      unfold chanPop
      simp only [hcl, Bool.false_eq_true, if_false, hit, hq']
      cases o <;> rfl

theorem give_blocks_iff (cfg : Cfg) (hs : cfg.pushBlocksStrict = true) (w : World) (f c x mode : Nat)
    (w' : World) (b : Bool) (h : chanPush cfg w f c x mode = .ok w' b) :
    b = false ↔ (hasLiveReader w.fibers (w.chans c).readPending = true ∨
                 (w.chans c).items.length < (w.chans c).limit) := by
  have hn := popLiveReader_none_iff w.fibers (w.chans c).readPending
  rcases chanPush_eq cfg w f c x mode with ⟨_, e⟩ | ⟨_, o, rp, hq, e⟩
  · rw [e] at h; cases h
  · rw [e] at h
    rw [hq] at hn
    cases o with
    | none =>
      cases h
      rw [hn.mp rfl, Bool.false_eq_true, false_or, ← Bool.not_eq_true, pushBlocks_iff hs]
      omega
    | some r =>
      cases h
      cases hh : hasLiveReader w.fibers (w.chans c).readPending
      · exact absurd (hn.mpr hh) (by simp)
      · simp

theorem take_blocks_iff (cfg : Cfg) (w : World) (f c mode : Nat) (ho : (w.chans c).closed = false) :
    (∃ w', chanPop cfg w f c mode = .blocked w') ↔ (w.chans c).items = [] := by
  rcases chanPop_eq cfg w f c mode with ⟨hcl, _⟩ | ⟨_, hit, e⟩ | ⟨x, rest, o, wp', _, hit, _, e⟩
  · rw [ho] at hcl; cases hcl
  · rw [e, hit]; exact ⟨fun _ => rfl, fun _ => ⟨_, rfl⟩⟩
  · rw [e, hit]; exact ⟨fun h => (by obtain ⟨_, h⟩ := h; cases h), fun h => by cases h⟩

theorem chanPop_head (cfg : Cfg) (w : World) (f c mode : Nat) (w' : World) (r : Option Nat)
    (ho : (w.chans c).closed = false) (h : chanPop cfg w f c mode = .got w' r) :
    ∃ x rest, (w.chans c).items = x :: rest ∧ r = some x ∧ (w'.chans c).items = rest := by
  rcases chanPop_eq cfg w f c mode with ⟨hcl, _⟩ | ⟨_, _, e⟩ | ⟨x, rest, o, wp', _, hit, _, e⟩
  · rw [ho] at hcl; cases hcl
  · rw [e] at h; cases h
  · rw [e] at h
    cases h
    refine ⟨x, rest, hit, rfl, ?_⟩
    cases o with
    | none => rw [setChan_chans_self]
    | some p => rw [schedule_chans, setChan_chans_self]

theorem chanPush_of_no_reader (cfg : Cfg) (w : World) (f c x mode : Nat) (w' : World) (b : Bool)
    (hr : hasLiveReader w.fibers (w.chans c).readPending = false) (h : chanPush cfg w f c x mode = .ok w' b) :
    ∃ ch, w' = setChan (addPushed w c x) c ch ∧ ch.items = (w.chans c).items ++ [x] := by
  have hn := (popLiveReader_none_iff w.fibers (w.chans c).readPending).mpr hr
  rcases chanPush_eq cfg w f c x mode with ⟨_, e⟩ | ⟨_, o, rp, hq, e⟩
  · rw [e] at h; cases h
  · rw [hq] at hn
    subst hn
    rw [e] at h
    cases h
    exact ⟨_, rfl, rfl⟩

theorem chanPush_tail (cfg : Cfg) (w : World) (f c x mode : Nat) (w' : World) (b : Bool)
    (hr : hasLiveReader w.fibers (w.chans c).readPending = false)
    (h : chanPush cfg w f c x mode = .ok w' b) : (w'.chans c).items = (w.chans c).items ++ [x] := by
  obtain ⟨ch, rfl, hi⟩ := chanPush_of_no_reader cfg w f c x mode w' b hr h
  rw [setChan_chans_self, hi]

theorem chanPop_of_blocked (cfg : Cfg) (w : World) (f c mode : Nat) (w' : World) (h : chanPop cfg w f c mode = .blocked w') :
    ∃ ch, w' = setChan w c ch ∨ w' = w := by
  rcases chanPop_eq cfg w f c mode with ⟨_, e⟩ | ⟨_, _, e⟩ | ⟨x, rest, o, wp', _, _, _, e⟩ <;> rw [e] at h <;> cases h
  split
  · exact ⟨w.chans c, Or.inr rfl⟩
  · exact ⟨_, Or.inl rfl⟩

theorem chanPush_other (cfg : Cfg) (w : World) (f c x mode : Nat) (w' : World) (b : Bool)
    (h : chanPush cfg w f c x mode = .ok w' b) (c' : Nat) (hc : c' ≠ c) : w'.chans c' = w.chans c' := by
  rcases chanPush_eq cfg w f c x mode with ⟨_, e⟩ | ⟨_, o, rp, _, e⟩
  · rw [e] at h; cases h
  · rw [e] at h
    cases o with
    | none => cases h; exact setChan_chans_ne _ _ hc
    | some r => cases h; rw [schedule_chans]; exact setChan_chans_ne _ _ hc

theorem chanPop_other (cfg : Cfg) (w : World) (f c mode : Nat) (c' : Nat) (hc : c' ≠ c) :
    (∀ w' r, chanPop cfg w f c mode = .got w' r → w'.chans c' = w.chans c') ∧
    (∀ w', chanPop cfg w f c mode = .blocked w' → w'.chans c' = w.chans c') := by
  rcases chanPop_eq cfg w f c mode with ⟨_, e⟩ | ⟨_, _, e⟩ | ⟨x, rest, o, wp', _, _, _, e⟩
  · rw [e]; exact ⟨fun _ _ h => (by cases h; rfl), fun _ h => by cases h⟩
  · rw [e]
    refine ⟨fun _ _ h => (by cases h), fun _ h => ?_⟩
    cases h
    split
    · rfl
    · exact setChan_chans_ne _ _ hc
  · rw [e]
    refine ⟨fun _ _ h => ?_, fun _ h => by cases h⟩
    cases h
    cases o with
    | none => exact setChan_chans_ne _ _ hc
    | some p => rw [schedule_chans]; exact setChan_chans_ne _ _ hc

def Val.ofClause (v : Val) (cl : Clause) : Prop :=
  v = .close cl.chan ∨ (∃ c x, cl = .give c x ∧ v = .give c) ∨ (∃ c x, cl = .take c ∧ v = .take c x)

/-- induction over the first loop of select; the branches that cannot occur (push raising on an open channel, pop
    blocking or returning nil on an open non-empty one) are discharged here -/
theorem choiceImmediate_induct (cfg : Cfg) (f : Nat) {P : List Clause → World → World → Val → Prop}
    (closed : ∀ cl rest w, (w.chans cl.chan).closed = true → P (cl :: rest) w w (.close cl.chan))
    (give : ∀ c x rest w w' b, (w.chans c).closed = false →
      (choiceReady cfg (w.chans c).items.length (w.chans c).limit
        || (cfg.choiceGiveSeesReader && hasLiveReader w.fibers (w.chans c).readPending)) = true →
      chanPush cfg w f c x 1 = .ok w' b → P (.give c x :: rest) w w' (.give c))
    (take : ∀ c rest w w1 x, (w.chans c).closed = false → chanPop cfg w f c 1 = .got w1 (some x) →
      P (.take c :: rest) w { w1 with ghost := { w1.ghost with received := w1.ghost.received ++ [(f, x)] } } (.take c x))
    (skipGive : ∀ c x rest w w' v, (w.chans c).closed = false →
      (choiceReady cfg (w.chans c).items.length (w.chans c).limit
        || (cfg.choiceGiveSeesReader && hasLiveReader w.fibers (w.chans c).readPending)) = false →
      P rest w w' v → P (.give c x :: rest) w w' v)
    (skipTake : ∀ c rest w w' v, (w.chans c).closed = false → (w.chans c).items = [] →
      P rest w w' v → P (.take c :: rest) w w' v) :
    ∀ cls w w' v, choiceImmediate cfg w f cls = some (w', v) → P cls w w' v := by
  intro cls
  induction cls with
  | nil => intro w w' v h; cases h
  | cons cl rest ih =>
    intro w w' v h
    unfold choiceImmediate at h
    cases cl with
    | give c x =>
      dsimp only at h
      cases hcl : (w.chans c).closed with
      | true => rw [hcl, if_pos rfl] at h; cases h; exact closed (.give c x) rest w hcl
      | false =>
        rw [hcl, if_neg Bool.false_ne_true] at h
        split at h
        · rename_i hr
          cases hp : chanPush cfg w f c x 1 with
          | ok w1 b => rw [hp] at h; cases h; exact give c x rest w _ b hcl hr hp
          | closedErr => rw [chanPush_closedErr cfg w f c x 1 hp] at hcl; cases hcl
        · rename_i hr
          exact skipGive c x rest w w' v hcl (Bool.eq_false_iff.mpr hr) (ih w w' v h)
    | take c =>
      dsimp only at h
      cases hcl : (w.chans c).closed with
      | true => rw [hcl, if_pos rfl] at h; cases h; exact closed (.take c) rest w hcl
      | false =>
        rw [hcl, if_neg Bool.false_ne_true] at h
        split at h
        · rename_i hi
          rcases chanPop_eq cfg w f c 1 with ⟨hc, _⟩ | ⟨_, hit, _⟩ | ⟨x, rest', o, wp', _, _, _, e⟩
          · rw [hcl] at hc; cases hc
          · exact absurd hit hi
          · rw [e] at h; cases h; exact take c rest w _ x hcl e
        · rename_i hi
          exact skipTake c rest w w' v hcl (Decidable.not_not.mp hi) (ih w w' v h)


theorem choiceImmediate_cases (cfg : Cfg) (f : Nat) :
    ∀ (cls : List Clause) (w w' : World) (v : Val), choiceImmediate cfg w f cls = some (w', v) → ∃ cl ∈ cls,
      ((w.chans cl.chan).closed = true ∧ w' = w ∧ v = .close cl.chan) ∨
      (∃ c x b, cl = .give c x ∧ (w.chans c).closed = false ∧
        (choiceReady cfg (w.chans c).items.length (w.chans c).limit
          || (cfg.choiceGiveSeesReader && hasLiveReader w.fibers (w.chans c).readPending)) = true ∧
        chanPush cfg w f c x 1 = .ok w' b ∧ v = .give c) ∨
      (∃ c x w1, cl = .take c ∧ (w.chans c).closed = false ∧ chanPop cfg w f c 1 = .got w1 (some x) ∧
        w' = { w1 with ghost := { w1.ghost with received := w1.ghost.received ++ [(f, x)] } } ∧ v = .take c x) := by
  refine choiceImmediate_induct cfg f ?_ ?_ ?_ ?_ ?_
  · intro cl rest w hcl
    exact ⟨cl, List.mem_cons_self .., Or.inl ⟨hcl, rfl, rfl⟩⟩
  · intro c x rest w w' b hcl hr hp
    exact ⟨_, List.mem_cons_self .., Or.inr (Or.inl ⟨c, x, b, rfl, hcl, hr, hp, rfl⟩)⟩
  · intro c rest w w1 x hcl hp
    exact ⟨_, List.mem_cons_self .., Or.inr (Or.inr ⟨c, x, w1, rfl, hcl, hp, rfl, rfl⟩)⟩
  · intro c x rest w w' v _ _ ⟨cl, hm, h⟩
    exact ⟨cl, List.mem_cons_of_mem _ hm, h⟩
  · intro c rest w w' v _ _ ⟨cl, hm, h⟩
    exact ⟨cl, List.mem_cons_of_mem _ hm, h⟩

theorem choiceImmediate_one (cfg : Cfg) (f : Nat) (cls : List Clause) :
    ∀ (w w' : World) (v : Val), choiceImmediate cfg w f cls = some (w', v) →
      ∃ cl ∈ cls, v.ofClause cl ∧ ∀ c', c' ≠ cl.chan → w'.chans c' = w.chans c' := by
  intro w w' v h
  obtain ⟨cl, hm, ⟨_, rfl, rfl⟩ | ⟨c, x, b, rfl, _, _, hp, rfl⟩ | ⟨c, x, w1, rfl, _, hp, rfl, rfl⟩⟩ :=
    choiceImmediate_cases cfg f cls w w' v h
  · exact ⟨cl, hm, Or.inl rfl, fun _ _ => rfl⟩
  · exact ⟨_, hm, Or.inr (Or.inl ⟨c, x, rfl, rfl⟩), chanPush_other cfg w f c x 1 w' b hp⟩
  · exact ⟨_, hm, Or.inr (Or.inr ⟨c, x, rfl, rfl⟩), fun c' hc' => (chanPop_other cfg w f c 1 c' hc').1 w1 (some x) hp⟩

/-- the values logged for channel `c` -/
def onChan (l : List (Nat × Nat)) (c : Nat) : List Nat := (l.filter (fun p => p.1 == c)).map (·.2)

theorem onChan_snoc (l : List (Nat × Nat)) (c x c' : Nat) :
    onChan (l ++ [(c, x)]) c' = if c = c' then onChan l c' ++ [x] else onChan l c' := by
  unfold onChan
  by_cases h : c = c'
  · subst h; simp [List.filter_append]
  · simp [List.filter_append, h]

def SchedLe (w w' : World) : Prop := ∀ f, (w.fibers f).sched ≤ (w'.fibers f).sched

structure Frame (w w' : World) : Prop where
  chans : w'.chans = w.chans
  pushed : w'.ghost.pushed = w.ghost.pushed
  handed : w'.ghost.handed = w.ghost.handed
  sched : SchedLe w w'

theorem Frame.refl (w : World) : Frame w w := ⟨rfl, rfl, rfl, fun _ => Nat.le_refl _⟩

theorem Frame.trans {a b c : World} (h1 : Frame a b) (h2 : Frame b c) : Frame a c :=
  ⟨h2.chans.trans h1.chans, h2.pushed.trans h1.pushed, h2.handed.trans h1.handed,
   fun f => Nat.le_trans (h1.sched f) (h2.sched f)⟩

theorem scheduleGeneral_frame (w : World) (f : Nat) (v : Val) (s : Sig) (b : Bool) :
    Frame w (scheduleGeneral w f v s b) := by
  refine ⟨scheduleGeneral_chans w f v s b, by rw [scheduleGeneral_ghost], by rw [scheduleGeneral_ghost], ?_⟩
  intro g
  unfold scheduleGeneral
  by_cases h : (w.fibers f).canceled = true
  · simp [h]
  · by_cases hg : g = f <;> simp [h, setFiber, hg]

theorem schedule_frame (w : World) (f : Nat) (v : Val) : Frame w (schedule w f v) := scheduleGeneral_frame w f v .ok false
theorem cancelFiber_frame (w : World) (f : Nat) (v : Val) : Frame w (cancelFiber w f v) := scheduleGeneral_frame w f v .error false

theorem foldl_frame {α : Type} (g : World → α → World) (hg : ∀ w a, Frame w (g w a)) (l : List α) :
    ∀ w, Frame w (l.foldl g w) := by
  induction l with
  | nil => intro w; exact Frame.refl w
  | cons a rest ih => intro w; exact Frame.trans (hg w a) (ih (g w a))

theorem closeWake_frame (cfg : Cfg) (c : Nat) (b : Bool) (w : World) (p : Pending) : Frame w (closeWake cfg c b w p) := by
  unfold closeWake
  split
  · exact schedule_frame _ _ _
  · exact Frame.refl w

theorem chanClose_eq (cfg : Cfg) (w : World) (c : Nat) :
    ((w.chans c).closed = true ∧ chanClose cfg w c = w) ∨
    ((w.chans c).closed = false ∧ chanClose cfg w c =
      (w.chans c).readPending.foldl (closeWake cfg c false) ((w.chans c).writePending.foldl (closeWake cfg c true)
        (setChan w c { (w.chans c) with closed := true, readPending := [], writePending := [] }))) := by
  unfold chanClose
  dsimp only
  cases hcl : (w.chans c).closed with
  | true => exact Or.inl ⟨rfl, if_pos rfl⟩
  | false => exact Or.inr ⟨rfl, if_neg Bool.false_ne_true⟩

theorem chanClose_view (cfg : Cfg) (w : World) (c : Nat) :
    (∀ c', (chanClose cfg w c).chans c' =
      if c' = c ∧ (w.chans c).closed = false then
        { (w.chans c) with closed := true, readPending := [], writePending := [] } else w.chans c') ∧
    (chanClose cfg w c).ghost.pushed = w.ghost.pushed ∧ (chanClose cfg w c).ghost.handed = w.ghost.handed := by
  rcases chanClose_eq cfg w c with ⟨hcl, e⟩ | ⟨hcl, e⟩
  · rw [e]; exact ⟨fun c' => (if_neg (fun h => by rw [hcl] at h; cases h.2)).symm, rfl, rfl⟩
  · have hf := (foldl_frame _ (closeWake_frame cfg c true) (w.chans c).writePending
        (setChan w c { (w.chans c) with closed := true, readPending := [], writePending := [] })).trans
      (foldl_frame _ (closeWake_frame cfg c false) (w.chans c).readPending _)
    rw [e]
    refine ⟨fun c' => ?_, hf.pushed, hf.handed⟩
    rw [hf.chans]
    by_cases hcc : c' = c
    · rw [hcc, setChan_chans_self, if_pos ⟨rfl, hcl⟩]
    · rw [setChan_chans_ne _ _ hcc, if_neg (fun h => hcc h.1)]

theorem chanClose_items (cfg : Cfg) (w : World) (c c' : Nat) :
    ((chanClose cfg w c).chans c').items = (w.chans c').items := by
  rw [(chanClose_view cfg w c).1]
  split
  · rename_i h; rw [h.1]
  · rfl

theorem fireTimer_frame (w : World) (t : Timer) : Frame w (fireTimer w t) := by
  unfold fireTimer
  split
  · split
    · exact cancelFiber_frame _ _ _
    · exact Frame.refl w
  · split
    · split
      · exact cancelFiber_frame _ _ _
      · exact schedule_frame _ _ _
    · exact Frame.refl w

theorem loopTimers_frame (w : World) : Frame w (loopTimers w) := by
  unfold loopTimers
  exact Frame.trans (b := { w with clock := w.clock + w.clockStep,
                                    timers := w.timers.dropWhile (fun t => decide (t.when ≤ w.clock + w.clockStep)) })
    ⟨rfl, rfl, rfl, fun _ => Nat.le_refl _⟩ (foldl_frame fireTimer fireTimer_frame _ _)

theorem setFiber_same_sched_frame (w : World) (f : Nat) (x : Fiber) (h : x.sched = (w.fibers f).sched) :
    Frame w (setFiber w f x) := by
  refine ⟨rfl, rfl, rfl, ?_⟩
  intro g
  by_cases hg : g = f
  · subst hg; simp [setFiber, h]
  · simp [setFiber, hg]

/-- The running fiber `f` stops running with status `st` (janet_await, return, raise): of what the invariants read,
    only its status changes. -/
structure Leaves (f : Nat) (st : FStatus) (w w' : World) : Prop where
  sched : ∀ g, (w'.fibers g).sched = (w.fibers g).sched
  canceled : ∀ g, (w'.fibers g).canceled = (w.fibers g).canceled
  other : ∀ g, g ≠ f → (w'.fibers g).status = (w.fibers g).status
  status : (w'.fibers f).status = st
  runq : w'.runq = w.runq
  timers : w'.timers = w.timers
  chans : w'.chans = w.chans
  ghost : w'.ghost = w.ghost
  current : w'.current = none

theorem setFiber_leaves (w : World) (f : Nat) (x : Fiber) (l : Nat) (hs : x.sched = (w.fibers f).sched)
    (hc : x.canceled = (w.fibers f).canceled) :
    Leaves f x.status w { setFiber w f x with listeners := l, current := none } := by
  have h : ∀ g, (setFiber w f x).fibers g = if g = f then x else w.fibers g := fun _ => rfl
  refine ⟨fun g => ?_, fun g => ?_, fun g e => congrArg Fiber.status ((h g).trans (if_neg e)),
    congrArg Fiber.status ((h f).trans (if_pos rfl)), rfl, rfl, rfl, rfl, rfl⟩
  · by_cases e : g = f
    · exact (congrArg Fiber.sched ((h g).trans (if_pos e))).trans (e ▸ hs)
    · exact congrArg Fiber.sched ((h g).trans (if_neg e))
  · by_cases e : g = f
    · exact (congrArg Fiber.canceled ((h g).trans (if_pos e))).trans (e ▸ hc)
    · exact congrArg Fiber.canceled ((h g).trans (if_neg e))

theorem awaitFiber_leaves (w : World) (f : Nat) : Leaves f .pending w (awaitFiber w f) :=
  setFiber_leaves w f { w.fibers f with status := .pending, suspended := true } (w.listeners + 1) rfl rfl

theorem finishFiber_leaves (w : World) (f : Nat) (e : Bool) :
    Leaves f (if e then .error else .dead) w (finishFiber w f e) :=
  setFiber_leaves w f { w.fibers f with status := if e then .error else .dead } w.listeners rfl rfl

theorem Leaves.frame {f : Nat} {st : FStatus} {w w' : World} (h : Leaves f st w w') : Frame w w' :=
  ⟨h.chans, congrArg _ h.ghost, congrArg _ h.ghost, fun g => Nat.le_of_eq (h.sched g).symm⟩

theorem setFiber_setFiber (w : World) (f : Nat) (a b : Fiber) : setFiber (setFiber w f a) f b = setFiber w f b := by
  unfold setFiber
  congr 1
  funext i
  by_cases h : i = f <;> simp [h]

/-- the world after the run phase took the task `t` off the queue and left its fiber as `fb` -/
def ranTask (w : World) (t : Task) (rest : List Task) (fb : Fiber) : World :=
  setFiber { w with runq := rest, listeners := if (w.fibers t.fiber).suspended then w.listeners - 1 else w.listeners }
    t.fiber fb

/-- the fiber of a task the run phase has taken: flags cleared; `bump`: its sched_id advanced; `alive`: it runs -/
def Fiber.ran (fb : Fiber) (bump alive : Bool) : Fiber :=
  { fb with canceled := false, suspended := false, sched := if bump then fb.sched + 1 else fb.sched,
            status := if alive then .alive else fb.status }

inductive RunOut (cfg : Cfg) (w : World) : World × Outcome → Prop
  | empty (hq : w.runq = []) : RunOut cfg w (w, .noop)
  | skipped (t : Task) (rest : List Task) (hq : w.runq = t :: rest) (hst : t.expected ≠ (w.fibers t.fiber).sched) :
      RunOut cfg w ({ ranTask w t rest ((w.fibers t.fiber).ran false false) with
        ghost := { w.ghost with dropped := w.ghost.dropped ++ [t] } }, .skipped)
  | dead (t : Task) (rest : List Task) (hq : w.runq = t :: rest) (hl : t.expected = (w.fibers t.fiber).sched)
      (hres : fiberCanResume (w.fibers t.fiber) = false) :
      RunOut cfg w (ranTask w t rest ((w.fibers t.fiber).ran cfg.resumeBumps false), .resumedDead t.fiber)
  | resumed (t : Task) (rest : List Task) (hq : w.runq = t :: rest) (hl : t.expected = (w.fibers t.fiber).sched)
      (hres : fiberCanResume (w.fibers t.fiber) = true) (hs : t.sig = .ok) :
      RunOut cfg w ({ ranTask w t rest ((w.fibers t.fiber).ran cfg.resumeBumps true) with
        current := some t.fiber,
        ghost := { w.ghost with received := w.ghost.received ++ receivedOf t.fiber t.value } }, .resumed t.fiber t.value)
  | resumedErr (t : Task) (rest : List Task) (hq : w.runq = t :: rest) (hl : t.expected = (w.fibers t.fiber).sched)
      (hres : fiberCanResume (w.fibers t.fiber) = true) (hs : t.sig = .error) :
      RunOut cfg w ({ ranTask w t rest ((w.fibers t.fiber).ran cfg.resumeBumps true) with current := some t.fiber },
        .resumedErr t.fiber t.value)

theorem run_out (cfg : Cfg) (w : World) : RunOut cfg w (loopRunTask cfg w) := by
  unfold loopRunTask
  cases hq : w.runq with
  | nil => exact .empty hq
  | cons t rest =>
    dsimp only
    by_cases hst : t.expected ≠ (w.fibers t.fiber).sched
    · rw [if_pos hst]
      exact .skipped t rest hq hst
    · rw [if_neg hst]
      have hl : t.expected = (w.fibers t.fiber).sched := Decidable.not_not.mp hst
      cases hres : fiberCanResume (w.fibers t.fiber) with
      | false =>
        rw [setFiber_setFiber]
        exact .dead t rest hq hl hres
      | true =>
        rw [setFiber_setFiber, setFiber_setFiber]
        cases hs : t.sig with
        | ok => exact .resumed t rest hq hl hres hs
        | error => exact .resumedErr t rest hq hl hres hs
theorem loopRunTask_cases (cfg : Cfg) (w : World) :
    (w.runq = [] ∧ (loopRunTask cfg w).1 = w) ∨
    (∃ t rest, w.runq = t :: rest ∧ (loopRunTask cfg w).1.runq = rest ∧ (loopRunTask cfg w).1.timers = w.timers ∧
      (loopRunTask cfg w).1.chans = w.chans ∧
      (loopRunTask cfg w).1.ghost.pushed = w.ghost.pushed ∧ (loopRunTask cfg w).1.ghost.handed = w.ghost.handed ∧
      (∀ i, i ≠ t.fiber → (loopRunTask cfg w).1.fibers i = w.fibers i) ∧
      ((loopRunTask cfg w).1.fibers t.fiber).sched =
        (if t.expected = (w.fibers t.fiber).sched ∧ cfg.resumeBumps = true then (w.fibers t.fiber).sched + 1
         else (w.fibers t.fiber).sched) ∧
      (((loopRunTask cfg w).1.fibers t.fiber).status = (w.fibers t.fiber).status ∨
        ((loopRunTask cfg w).1.fibers t.fiber).status = .alive) ∧
      ∃ d, (loopRunTask cfg w).1.ghost.received = w.ghost.received ++ d ∧
        (d = [] ∨ (t.expected = (w.fibers t.fiber).sched ∧ d = receivedOf t.fiber t.value))) := by
  have h := run_out cfg w
  generalize loopRunTask cfg w = r at h
  have self : ∀ (t : Task) rest fb, (ranTask w t rest fb).fibers t.fiber = fb := fun _ _ _ => if_pos rfl
  have bump : ∀ (t : Task), t.expected = (w.fibers t.fiber).sched → ∀ alive,
      ((w.fibers t.fiber).ran cfg.resumeBumps alive).sched =
        (if t.expected = (w.fibers t.fiber).sched ∧ cfg.resumeBumps = true then (w.fibers t.fiber).sched + 1
         else (w.fibers t.fiber).sched) := fun t hl alive => by
    show (if cfg.resumeBumps = true then _ else _) = _
    cases cfg.resumeBumps <;> simp [hl]
  cases h with
  | empty hq => exact Or.inl ⟨hq, rfl⟩
  | skipped t rest hq hst =>
    exact Or.inr ⟨t, rest, hq, rfl, rfl, rfl, rfl, rfl, fun i hi => if_neg hi,
      (congrArg Fiber.sched (self t rest _)).trans (if_neg fun h => hst h.1).symm,
      Or.inl ((congrArg Fiber.status (self t rest _)).trans rfl), [], (List.append_nil _).symm, Or.inl rfl⟩
  | dead t rest hq hl hres =>
    exact Or.inr ⟨t, rest, hq, rfl, rfl, rfl, rfl, rfl, fun i hi => if_neg hi,
      (congrArg Fiber.sched (self t rest _)).trans (bump t hl false),
      Or.inl ((congrArg Fiber.status (self t rest _)).trans rfl), [], (List.append_nil _).symm, Or.inl rfl⟩
  | resumed t rest hq hl hres hs =>
    exact Or.inr ⟨t, rest, hq, rfl, rfl, rfl, rfl, rfl, fun i hi => if_neg hi,
      (congrArg Fiber.sched (self t rest _)).trans (bump t hl true),
      Or.inr ((congrArg Fiber.status (self t rest _)).trans rfl), _, rfl, Or.inr ⟨hl, rfl⟩⟩
  | resumedErr t rest hq hl hres hs =>
    exact Or.inr ⟨t, rest, hq, rfl, rfl, rfl, rfl, rfl, fun i hi => if_neg hi,
      (congrArg Fiber.sched (self t rest _)).trans (bump t hl true),
      Or.inr ((congrArg Fiber.status (self t rest _)).trans rfl), [], (List.append_nil _).symm, Or.inl rfl⟩

theorem loopRunTask_frame (cfg : Cfg) (w : World) : Frame w (loopRunTask cfg w).1 := by
  rcases loopRunTask_cases cfg w with ⟨_, he⟩ | ⟨t, rest, _, _, _, hc, hp, hh, hoth, hs, _⟩
  · rw [he]; exact Frame.refl w
  · refine ⟨hc, hp, hh, fun g => ?_⟩
    by_cases hg : g = t.fiber
    · rw [hg, hs]; split <;> omega
    · rw [hoth g hg]; exact Nat.le_refl _

/-- Why `step` does nothing: no fiber runs and the action is a fiber's; one runs and the action is the loop's; `go` on a
    fiber that is not new; `cancel` of the running fiber; `select` without clauses. -/
def Disabled (w : World) : Action → Prop
  | .runTask | .timers | .poll | .supEvent _ _ => w.current ≠ none
  | .scopeEnd _ => False
  | .go g => w.current = none ∨ ¬((w.fibers g).status = .new ∧ (w.fibers g).sched = 0)
  | .cancel g => w.current = none ∨ w.current = some g
  | .select cls => w.current = none ∨ cls = []
  | _ => w.current = none

/-- The transitions of the running fiber `f` that are a channel operation, with the result of the model function. -/
inductive OpOut (cfg : Cfg) (w : World) (f : Nat) : Action → World × Outcome → Prop
  | giveBlock (c x : Nat) (w' : World) (hp : chanPush cfg w f c x 0 = .ok w' true) :
      OpOut cfg w f (.give c x) (awaitFiber w' f, .await)
  | giveRet (c x : Nat) (w' : World) (hp : chanPush cfg w f c x 0 = .ok w' false) : OpOut cfg w f (.give c x) (w', .ret (.chan c))
  | takeGot (c : Nat) (w' : World) (r : Option Nat) (hp : chanPop cfg w f c 0 = .got w' r) :
      OpOut cfg w f (.take c) (awaitFiber (schedule w' f (match r with | some x => .num x | none => .nil)) f, .await)
  | takeBlock (c : Nat) (w' : World) (hp : chanPop cfg w f c 0 = .blocked w') : OpOut cfg w f (.take c) (awaitFiber w' f, .await)
  | selectNow (cls : List Clause) (w' : World) (v : Val) (hne : cls ≠ []) (hp : choiceImmediate cfg w f cls = some (w', v)) :
      OpOut cfg w f (.select cls) (w', .ret v)
  | selectWait (cls : List Clause) (hne : cls ≠ []) (hp : choiceImmediate cfg w f cls = none) :
      OpOut cfg w f (.select cls) (awaitFiber (choiceRegister cfg w f cls) f, .await)
  | close (c : Nat) : OpOut cfg w f (.close c) (chanClose cfg w c, .ret (.chan c))

/-- What one transition can be: one constructor per branch of `step`, with the result of the model function it calls; the
    channel operations of the running fiber are `op`. -/
inductive StepOut (cfg : Cfg) (w : World) : Action → World × Outcome → Prop
  | idle (a : Action) (hd : Disabled w a) : StepOut cfg w a (w, .noop)
  | runTask (hc : w.current = none) : StepOut cfg w .runTask (loopRunTask cfg w)
  | timers (hc : w.current = none) : StepOut cfg w .timers (loopTimers w, .done)
  | poll (hc : w.current = none) : StepOut cfg w .poll (loopPollDrop w, .done)
  | supEvent (hc : w.current = none) (c x : Nat) : StepOut cfg w (.supEvent c x) (supPush cfg w c x)
  | scopeEnd (s : Nat) : StepOut cfg w (.scopeEnd s) ({ w with scopes := fun i => if i = s then false else w.scopes i }, .done)
  | go (f g : Nat) (hc : w.current = some f) (hnew : (w.fibers g).status = .new ∧ (w.fibers g).sched = 0) :
      StepOut cfg w (.go g) (schedule w g .nil, .ret .nil)
  | cancel (f g : Nat) (hc : w.current = some f) (hne : g ≠ f) :
      StepOut cfg w (.cancel g) (cancelFiber w g .errCancel, .ret .nil)
  | deadline (f s ms : Nat) (hc : w.current = some f) :
      StepOut cfg w (.deadline s ms)
        ({ w with clock := w.clock + w.clockStep, scopes := fun i => if i = s then true else w.scopes i,
                  timers := insertTimer ⟨f, (w.fibers f).sched, w.clock + w.clockStep + ms, false, some s⟩ w.timers }, .ret .nil)
  | giveClosed (f c x : Nat) (hc : w.current = some f) (hp : chanPush cfg w f c x 0 = .closedErr) :
      StepOut cfg w (.give c x) (finishFiber w f true, .err .errClosed)
  | op (f : Nat) (hc : w.current = some f) {a : Action} {r : World × Outcome} (o : OpOut cfg w f a r) : StepOut cfg w a r
  | sleep (f ms : Nat) (hc : w.current = some f) :
      StepOut cfg w (.sleep ms)
        (awaitFiber { w with clock := w.clock + w.clockStep,
                             timers := insertTimer ⟨f, (w.fibers f).sched, w.clock + w.clockStep + ms, false, none⟩ w.timers } f,
         .await)
  | finish (f : Nat) (e : Bool) (hc : w.current = some f) : StepOut cfg w (.finish e) (finishFiber w f e, .done)

theorem step_out (cfg : Cfg) (w : World) (a : Action) : StepOut cfg w a (step cfg w a) := by
  unfold step
  cases hcur : w.current with
  | none =>
    cases a <;> dsimp only
    case runTask => exact .runTask hcur
    case timers => exact .timers hcur
    case poll => exact .poll hcur
    case scopeEnd s => rw [← hcur]; exact .scopeEnd s
    case supEvent c x => exact .supEvent hcur c x
    case go | cancel | select => exact .idle _ (.inl hcur)
    all_goals exact .idle _ hcur
  | some f =>
    cases a <;> dsimp only
    case go g =>
      split
      · rename_i h; exact .go f g hcur h
      · rename_i h; exact .idle _ (.inr h)
    case cancel g =>
      split
      · rename_i h; exact .idle _ (.inr (h ▸ hcur))
      · rename_i h; exact .cancel f g hcur h
    case deadline s ms => rw [← hcur]; exact .deadline f s ms hcur
    case scopeEnd s => rw [← hcur]; exact .scopeEnd s
    case give c x =>
      cases hp : chanPush cfg w f c x 0 with
      | closedErr => exact .giveClosed f c x hcur hp
      | ok w1 b =>
        cases b
        · exact .op f hcur (.giveRet c x w1 hp)
        · exact .op f hcur (.giveBlock c x w1 hp)
    case take c =>
      cases hp : chanPop cfg w f c 0 with
      | blocked w1 => exact .op f hcur (.takeBlock c w1 hp)
      | got w1 r => cases r <;> exact .op f hcur (.takeGot c w1 _ hp)
    case select cls =>
      cases cls with
      | nil => exact .idle _ (.inr rfl)
      | cons cl0 cls0 =>
        dsimp only
        cases hi : choiceImmediate cfg w f (cl0 :: cls0) with
        | none => exact .op f hcur (.selectWait _ (fun h => nomatch h) hi)
        | some r => exact .op f hcur (.selectNow _ r.1 r.2 (fun h => nomatch h) hi)
    case close c => exact .op f hcur (.close c)
    case sleep ms => rw [← hcur]; exact .sleep f ms hcur
    case finish e => exact .finish f e hcur
    all_goals exact .idle _ fun h => nomatch hcur.symm.trans h

theorem step_of_frame (cfg : Cfg) {P : World → Prop} (frame : ∀ {w w'}, Frame w w' → P w → P w')
    (push : ∀ {w f c x mode w' b}, chanPush cfg w f c x mode = .ok w' b → P w → P w')
    (pop : ∀ {w f c mode}, P w → (∀ w' r, chanPop cfg w f c mode = .got w' r → P w') ∧
      (∀ w', chanPop cfg w f c mode = .blocked w' → P w'))
    (close : ∀ w c, P w → P (chanClose cfg w c)) (w : World) (a : Action) (hP : P w) : P (step cfg w a).1 := by
  have same : ∀ (w : World) {w' : World}, w'.chans = w.chans → w'.ghost.pushed = w.ghost.pushed →
      w'.ghost.handed = w.ghost.handed → w'.fibers = w.fibers → P w → P w' :=
    fun _ _ hc hp hh hf => frame ⟨hc, hp, hh, fun _ => by rw [hf]; exact Nat.le_refl _⟩
  have register : ∀ (f : Nat) (cls : List Clause) (w : World), P w → P (choiceRegister cfg w f cls) := by
    intro f cls
    induction cls with
    | nil => exact fun _ h => h
    | cons cl rest ih =>
      intro w h
      unfold choiceRegister
      cases cl with
      | give c x =>
        dsimp only
        cases hp : chanPush cfg w f c x 1 with
        | closedErr => exact ih w h
        | ok w1 b => exact ih w1 (push hp h)
      | take c =>
        dsimp only
        cases hp : chanPop cfg w f c 1 with
        | blocked w1 => exact ih w1 ((pop h).2 w1 hp)
        | got w1 r => exact ih w1 ((pop h).1 w1 r hp)
  have h := step_out cfg w a
  generalize step cfg w a = r at h
  cases h with
  | idle => exact hP
  | runTask => exact frame (loopRunTask_frame cfg w) hP
  | timers => exact frame (loopTimers_frame w) hP
  | poll | scopeEnd | deadline => exact same w rfl rfl rfl rfl hP
  | supEvent _ c x =>
    unfold supPush
    cases hp : chanPush cfg w 0 c x 2 with
    | closedErr => exact hP
    | ok w1 b => exact push hp hP
  | go => exact frame (schedule_frame _ _ _) hP
  | cancel => exact frame (cancelFiber_frame _ _ _) hP
  | giveClosed | finish => exact frame (finishFiber_leaves _ _ _).frame hP
  | op f _ o =>
    cases o with
    | giveBlock c x w' hp => exact frame (awaitFiber_leaves _ _).frame (push hp hP)
    | giveRet c x w' hp => exact push hp hP
    | takeGot c w' r hp => exact frame (awaitFiber_leaves _ _).frame (frame (schedule_frame _ _ _) ((pop hP).1 w' r hp))
    | takeBlock c w' hp => exact frame (awaitFiber_leaves _ _).frame ((pop hP).2 w' hp)
    | selectNow cls w' v _ hi =>
      obtain ⟨_, _, ⟨_, e, _⟩ | ⟨c, x, b, _, _, _, hp, _⟩ | ⟨c, x, w1, _, _, hp, e, _⟩⟩ :=
        choiceImmediate_cases cfg f cls w w' v hi
      · rw [e]; exact hP
      · exact push hp hP
      · rw [e]; exact same w1 rfl rfl rfl rfl ((pop hP).1 w1 (some x) hp)
    | selectWait cls => exact frame (awaitFiber_leaves _ _).frame (register f cls w hP)
    | close c => exact close w c hP
  | sleep => exact frame (awaitFiber_leaves _ _).frame (same w rfl rfl rfl rfl hP)

theorem run_of_step (cfg : Cfg) {P : World → Prop} (as : List Action)
    (hstep : ∀ w a, a ∈ as → P w → P (step cfg w a).1) : ∀ w, P w → P (run cfg w as) := by
  induction as with
  | nil => exact fun _ h => h
  | cons a rest ih =>
    intro w h
    exact ih (fun w b hb => hstep w b (List.mem_cons_of_mem _ hb)) _ (hstep w a (List.mem_cons_self ..) h)

theorem closeWake_mono (cfg : Cfg) (c : Nat) (b : Bool) (w : World) (p : Pending) (g : Nat) :
    (w.fibers g).sched ≤ ((closeWake cfg c b w p).fibers g).sched ∧
    ((closeWake cfg c b w p).fibers g).status = (w.fibers g).status ∧
    ((closeWake cfg c b w p).fibers g).canceled = (w.fibers g).canceled := by
  unfold closeWake
  split
  · exact ⟨(schedule_frame _ _ _).sched g, (schedule_status _ _ _ g).1, (schedule_status _ _ _ g).2⟩
  · exact ⟨Nat.le_refl _, rfl, rfl⟩

/-- a waiter of a closing channel whose registration is current, that can be resumed and is not cancelled, is woken -/
theorem closeWake_wakes (cfg : Cfg) (c : Nat) (b : Bool) (w : World) (p : Pending)
    (hl : p.sched = (w.fibers p.fiber).sched) (hr : fiberCanResume (w.fibers p.fiber) = true)
    (hcn : (w.fibers p.fiber).canceled = false) :
    (w.fibers p.fiber).sched < ((closeWake cfg c b w p).fibers p.fiber).sched := by
  unfold closeWake
  have hlive : p.live w.fibers = true := by simp [Pending.live, hl]
  simp only [hlive, hr, Bool.or_true, Bool.and_self, ↓reduceIte]
  rw [(schedule_bumps w p.fiber _ hcn).1]
  exact Nat.lt_succ_self _

/-- Waking the waiters `ps` of a closing channel in turn changes no status or cancel flag, lowers no sched_id, and wakes
    each of them that qualifies at the start. -/
theorem closeWake_fold (cfg : Cfg) (c : Nat) (b : Bool) : ∀ (ps : List Pending) (w : World),
    (∀ g, (w.fibers g).sched ≤ ((ps.foldl (closeWake cfg c b) w).fibers g).sched ∧
      ((ps.foldl (closeWake cfg c b) w).fibers g).status = (w.fibers g).status ∧
      ((ps.foldl (closeWake cfg c b) w).fibers g).canceled = (w.fibers g).canceled) ∧
    ∀ p ∈ ps, p.sched = (w.fibers p.fiber).sched → fiberCanResume (w.fibers p.fiber) = true →
      (w.fibers p.fiber).canceled = false →
      (w.fibers p.fiber).sched < ((ps.foldl (closeWake cfg c b) w).fibers p.fiber).sched
  | [], _ => ⟨fun _ => ⟨Nat.le_refl _, rfl, rfl⟩, fun _ h => nomatch h⟩
  | q :: rest, w => by
    have hm := closeWake_mono cfg c b w q
    obtain ⟨h1, h2⟩ := closeWake_fold cfg c b rest (closeWake cfg c b w q)
    refine ⟨fun g => ⟨Nat.le_trans (hm g).1 (h1 g).1, (h1 g).2.1.trans (hm g).2.1, (h1 g).2.2.trans (hm g).2.2⟩,
      fun p hp hl hr hcn => ?_⟩
    show _ < ((rest.foldl _ (closeWake cfg c b w q)).fibers p.fiber).sched
    rcases Nat.lt_or_ge (w.fibers p.fiber).sched ((closeWake cfg c b w q).fibers p.fiber).sched with hlt | hge
    · exact Nat.lt_of_lt_of_le hlt (h1 p.fiber).1
    · have heq := Nat.le_antisymm hge (hm p.fiber).1
      rcases List.mem_cons.mp hp with rfl | hpr
      · exact absurd (closeWake_wakes cfg c b w p hl hr hcn) (Nat.not_lt.mpr hge)
      · exact heq ▸ h2 p hpr (hl.trans heq.symm) (by unfold fiberCanResume at hr ⊢; rw [(hm p.fiber).2.1]; exact hr)
          ((hm p.fiber).2.2.trans hcn)

theorem chanClose_wakes_all (cfg : Cfg) (w : World) (c : Nat) (ho : (w.chans c).closed = false) (p : Pending)
    (hp : p ∈ (w.chans c).writePending ∨ p ∈ (w.chans c).readPending)
    (hl : p.sched = (w.fibers p.fiber).sched) (hr : fiberCanResume (w.fibers p.fiber) = true)
    (hcn : (w.fibers p.fiber).canceled = false) :
    ((chanClose cfg w c).chans c).closed = true ∧ ((chanClose cfg w c).chans c).readPending = [] ∧
    ((chanClose cfg w c).chans c).writePending = [] ∧
    (w.fibers p.fiber).sched < ((chanClose cfg w c).fibers p.fiber).sched := by
  have hch : (chanClose cfg w c).chans c = _ := ((chanClose_view cfg w c).1 c).trans (if_pos ⟨rfl, ho⟩)
  refine ⟨by rw [hch], by rw [hch], by rw [hch], ?_⟩
  rcases chanClose_eq cfg w c with ⟨hcl, _⟩ | ⟨_, e⟩
  · rw [ho] at hcl; cases hcl
  rw [e]
  let w0 := setChan w c { (w.chans c) with closed := true, readPending := [], writePending := [] }
  obtain ⟨hm1, hw1⟩ := closeWake_fold cfg c true (w.chans c).writePending w0
  obtain ⟨hm2, hw2⟩ := closeWake_fold cfg c false (w.chans c).readPending
    ((w.chans c).writePending.foldl (closeWake cfg c true) w0)
  rcases hp with hpw | hpr
  · exact Nat.lt_of_lt_of_le (hw1 p hpw hl hr hcn) (hm2 p.fiber).1
  · rcases Nat.lt_or_ge (w.fibers p.fiber).sched
      (((w.chans c).writePending.foldl (closeWake cfg c true) w0).fibers p.fiber).sched with hlt | hge
    · exact Nat.lt_of_lt_of_le hlt (hm2 p.fiber).1
    · have heq := Nat.le_antisymm hge (hm1 p.fiber).1
      exact heq ▸ hw2 p hpr (hl.trans heq.symm) (by unfold fiberCanResume at hr ⊢; rw [(hm1 p.fiber).2.1]; exact hr)
        ((hm1 p.fiber).2.2.trans hcn)

end JanetModel.Ev
