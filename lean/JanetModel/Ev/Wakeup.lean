/- Wake-up invariant of the event-loop model (configuration with every check, selects without a repeated channel):
   every suspended fiber has exactly one kind of live wake-up source - one task carrying its current sched_id, or a
   timer, or registrations in channel queues - and nothing else carries its current sched_id.
   The invariant `M` is stated on the components (fibers, run queue, timers, pending entries per channel, current) and
   proved for the few ways a component can change; channel operations reach it through the moves of a pending queue. -/
import JanetModel.Ev.ChanInv
namespace JanetModel.Ev

abbrev Fibers := Nat → Fiber
abbrev Ent := Nat → List Pending

/-- all pending entries of channel `c` -/
def World.ent (w : World) : Ent := fun c => (w.chans c).readPending ++ (w.chans c).writePending

/-- number of tasks in the run queue that would really resume `f` -/
def LT (fb : Fibers) (rq : List Task) (f : Nat) : Nat := rq.countP (fun t => t.fiber == f && t.expected == (fb f).sched)

/-- a sleep / timeout timer that would still wake `f` -/
def liveTimer (fb : Fibers) (tm : List Timer) (f : Nat) : Prop :=
  ∃ t ∈ tm, t.curr = none ∧ t.fiber = f ∧ t.sched = (fb f).sched

/-- `f` has a current registration in a queue of channel `c` -/
def liveIn (fb : Fibers) (en : Ent) (f c : Nat) : Prop := ∃ p ∈ en c, p.fiber = f ∧ p.sched = (fb f).sched

def liveEntry (fb : Fibers) (en : Ent) (f : Nat) : Prop := ∃ c, liveIn fb en f c

/-- the invariant; the running fiber (`cur`) is exempt from `d2` while its operation is in progress -/
structure M (fb : Fibers) (rq : List Task) (tm : List Timer) (en : Ent) (cur : Option Nat) : Prop where
  /-- no entry, task or timer carries a sched_id from the future -/
  a1 : ∀ c, ∀ p ∈ en c, p.sched ≤ (fb p.fiber).sched
  a2 : ∀ t ∈ rq, t.expected ≤ (fb t.fiber).sched
  a3 : ∀ t ∈ tm, t.sched ≤ (fb t.fiber).sched
  /-- at most one live task -/
  d0 : ∀ f, LT fb rq f ≤ 1
  /-- a suspended fiber has a live wake-up source -/
  d1 : ∀ f, (fb f).status = .pending → LT fb rq f = 1 ∨ liveTimer fb tm f ∨ liveEntry fb en f
  /-- a fiber that is neither suspended nor running has no live timer or entry -/
  d2 : ∀ f, (fb f).status ≠ .pending → cur ≠ some f → ¬ liveTimer fb tm f ∧ ¬ liveEntry fb en f
  /-- a live task excludes live timers and entries -/
  d3 : ∀ f, LT fb rq f = 1 → ¬ liveTimer fb tm f ∧ ¬ liveEntry fb en f
  /-- exactly the running fiber is alive -/
  d4 : ∀ f, (fb f).status = .alive → cur = some f
  d5 : ∀ f, cur = some f → (fb f).status = .alive
  /-- a cancelled fiber still has its task -/
  e : ∀ f, (fb f).canceled = true → LT fb rq f = 1

/-- nothing carries `f`'s current sched_id -/
def Quiet (fb : Fibers) (rq : List Task) (tm : List Timer) (en : Ent) (f : Nat) : Prop :=
  LT fb rq f = 0 ∧ ¬ liveTimer fb tm f ∧ ¬ liveEntry fb en f

theorem LT_congr {fb fb' : Fibers} (rq : List Task) (f : Nat) (hs : (fb' f).sched = (fb f).sched) :
    LT fb' rq f = LT fb rq f := by unfold LT; rw [hs]

theorem liveTimer_congr {fb fb' : Fibers} (tm : List Timer) (f : Nat) (hs : (fb' f).sched = (fb f).sched) :
    liveTimer fb' tm f ↔ liveTimer fb tm f := by unfold liveTimer; rw [hs]

theorem liveIn_congr {fb fb' : Fibers} (en : Ent) (f c : Nat) (hs : (fb' f).sched = (fb f).sched) :
    liveIn fb' en f c ↔ liveIn fb en f c := by unfold liveIn; rw [hs]

theorem liveEntry_congr {fb fb' : Fibers} (en : Ent) (f : Nat) (hs : (fb' f).sched = (fb f).sched) :
    liveEntry fb' en f ↔ liveEntry fb en f := by
  unfold liveEntry
  constructor
  · rintro ⟨c, h⟩; exact ⟨c, (liveIn_congr en f c hs).mp h⟩
  · rintro ⟨c, h⟩; exact ⟨c, (liveIn_congr en f c hs).mpr h⟩

theorem LT_bumped {fb fb' : Fibers} {rq : List Task} (g : Nat) (ha2 : ∀ t ∈ rq, t.expected ≤ (fb t.fiber).sched)
    (hsg : (fb' g).sched = (fb g).sched + 1) : LT fb' rq g = 0 := by
  simp only [LT, hsg]
  rw [List.countP_eq_zero]
  intro u hu
  have := ha2 u hu
  simp only [Bool.and_eq_true, beq_iff_eq, not_and]
  intro hf; rw [hf] at this; omega

theorem a2_bumped {fb fb' : Fibers} {rq : List Task} (g : Nat) (ha2 : ∀ t ∈ rq, t.expected ≤ (fb t.fiber).sched)
    (hsg : (fb' g).sched = (fb g).sched + 1) (hoth : ∀ h, h ≠ g → fb' h = fb h) :
    ∀ t ∈ rq, t.expected ≤ (fb' t.fiber).sched := by
  intro u hu
  have := ha2 u hu
  by_cases h : u.fiber = g
  · rw [h] at this ⊢; omega
  · rw [hoth _ h]; exact this

/-- Bumping the sched_id of ANY fiber `g` makes every timer and entry that carried it stale; the invariant survives if
    the new run queue holds a live task for `g` whenever `g` is suspended or cancelled. -/
theorem M_bumped {fb fb' : Fibers} {rq rq' : List Task} {tm : List Timer} {en : Ent} {cur : Option Nat} (g : Nat)
    (hm : M fb rq tm en cur)
    (hsg : (fb' g).sched = (fb g).sched + 1) (hstg : (fb' g).status = (fb g).status)
    (hoth : ∀ h, h ≠ g → fb' h = fb h)
    (ha2 : ∀ t ∈ rq', t.expected ≤ (fb' t.fiber).sched)
    (hLToth : ∀ h, h ≠ g → LT fb' rq' h = LT fb rq h) (hLTg : LT fb' rq' g ≤ 1)
    (hneed : (fb g).status = .pending ∨ (fb' g).canceled = true → LT fb' rq' g = 1) :
    M fb' rq' tm en cur ∧ ¬ liveTimer fb' tm g ∧ ¬ liveEntry fb' en g := by
  have hnoT : ¬ liveTimer fb' tm g := by
    rintro ⟨u, hu, _, h3, h4⟩
    have := hm.a3 u hu; rw [h3] at this; omega
  have hnoE : ¬ liveEntry fb' en g := by
    rintro ⟨c, p, hp, h3, h4⟩
    have := hm.a1 c p hp; rw [h3] at this; omega
  have hTo : ∀ h, h ≠ g → (liveTimer fb' tm h ↔ liveTimer fb tm h) :=
    fun h hh => liveTimer_congr tm h (by rw [hoth h hh])
  have hEo : ∀ h, h ≠ g → (liveEntry fb' en h ↔ liveEntry fb en h) :=
    fun h hh => liveEntry_congr en h (by rw [hoth h hh])
  refine ⟨⟨?_, ha2, ?_, ?_, ?_, ?_, ?_, ?_, ?_, ?_⟩, hnoT, hnoE⟩
  · intro c p hp
    have := hm.a1 c p hp
    by_cases h : p.fiber = g
    · rw [h] at this ⊢; omega
    · rw [hoth _ h]; exact this
  · intro u hu
    have := hm.a3 u hu
    by_cases h : u.fiber = g
    · rw [h] at this ⊢; omega
    · rw [hoth _ h]; exact this
  · intro f
    by_cases h : f = g
    · subst h; exact hLTg
    · rw [hLToth f h]; exact hm.d0 f
  · intro f hst
    by_cases h : f = g
    · subst h; rw [hstg] at hst; exact Or.inl (hneed (Or.inl hst))
    · rw [hLToth f h, hTo f h, hEo f h]; rw [hoth f h] at hst; exact hm.d1 f hst
  · intro f hst hcur
    by_cases h : f = g
    · subst h; exact ⟨hnoT, hnoE⟩
    · rw [hTo f h, hEo f h]; rw [hoth f h] at hst; exact hm.d2 f hst hcur
  · intro f hlt
    by_cases h : f = g
    · subst h; exact ⟨hnoT, hnoE⟩
    · rw [hTo f h, hEo f h]; rw [hLToth f h] at hlt; exact hm.d3 f hlt
  · intro f hst
    by_cases h : f = g
    · subst h; rw [hstg] at hst; exact hm.d4 f hst
    · rw [hoth f h] at hst; exact hm.d4 f hst
  · intro f hcur
    have := hm.d5 f hcur
    by_cases h : f = g
    · subst h; rw [hstg]; exact this
    · rw [hoth f h]; exact this
  · intro f hcan
    by_cases h : f = g
    · subst h; exact hneed (Or.inr hcan)
    · rw [hLToth f h]; rw [hoth f h] at hcan; exact hm.e f hcan

/-- Scheduling ANY fiber `g` (bump of its sched_id, one new task carrying the new id, everything else as before)
    preserves the invariant: the bump makes every other wake-up source of `g` stale, the new task is the only live one. -/
theorem M_bump {fb fb' : Fibers} {rq : List Task} {tm : List Timer} {en : Ent} {cur : Option Nat} (g : Nat) (t : Task)
    (hm : M fb rq tm en cur)
    (hsg : (fb' g).sched = (fb g).sched + 1) (hstg : (fb' g).status = (fb g).status)
    (hoth : ∀ h, h ≠ g → fb' h = fb h) (htf : t.fiber = g) (hte : t.expected = (fb g).sched + 1) :
    M fb' (rq ++ [t]) tm en cur := by
  have hLTg : LT fb' (rq ++ [t]) g = 1 := by
    have h0 := LT_bumped g hm.a2 hsg
    unfold LT at h0 ⊢
    rw [List.countP_append, h0]; simp [htf, hte, hsg]
  refine (M_bumped g hm hsg hstg hoth ?_ ?_ (Nat.le_of_eq hLTg) (fun _ => hLTg)).1
  · intro u hu
    rcases List.mem_append.mp hu with hu | hu
    · exact a2_bumped g hm.a2 hsg hoth u hu
    · rw [List.mem_singleton.mp hu, htf, hte, hsg]; exact Nat.le_refl _
  · intro h hh
    have hgh : (g == h) = false := by simp; exact fun e => hh e.symm
    simp [LT, List.countP_append, hoth h hh, htf, hgh]

theorem scheduleGeneral_props (w : World) (g : Nat) (val : Val) (sig : Sig) :
    (scheduleGeneral w g val sig false).timers = w.timers ∧ (scheduleGeneral w g val sig false).chans = w.chans ∧
    (scheduleGeneral w g val sig false).current = w.current ∧
    (((w.fibers g).canceled = true ∧ (scheduleGeneral w g val sig false).fibers = w.fibers ∧
        (scheduleGeneral w g val sig false).runq = w.runq) ∨
     ((w.fibers g).canceled = false ∧
        ((scheduleGeneral w g val sig false).fibers g).sched = (w.fibers g).sched + 1 ∧
        ((scheduleGeneral w g val sig false).fibers g).status = (w.fibers g).status ∧
        (∀ h, h ≠ g → (scheduleGeneral w g val sig false).fibers h = w.fibers h) ∧
        (scheduleGeneral w g val sig false).runq = w.runq ++ [⟨g, val, sig, (w.fibers g).sched + 1⟩])) := by
  unfold scheduleGeneral
  by_cases h : (w.fibers g).canceled = true
  · simp [h]
  · have h' : (w.fibers g).canceled = false := by simpa using h
    simp only [h', Bool.false_eq_true, ↓reduceIte]
    refine ⟨rfl, rfl, rfl, Or.inr ⟨by simp, by simp [setFiber], by simp [setFiber], ?_, by simp [setFiber]⟩⟩
    intro k hk; simp [setFiber, hk]

theorem M_schedule {w : World} {tm : List Timer} {en : Ent} (g : Nat) (val : Val) (sig : Sig)
    (hm : M w.fibers w.runq tm en w.current) :
    M (scheduleGeneral w g val sig false).fibers (scheduleGeneral w g val sig false).runq tm en
      (scheduleGeneral w g val sig false).current := by
  obtain ⟨_, _, hcur, hcase⟩ := scheduleGeneral_props w g val sig
  rw [hcur]
  rcases hcase with ⟨_, hf, hr⟩ | ⟨_, hs, hst, hoth, hr⟩
  · rw [hf, hr]; exact hm
  · rw [hr]; exact M_bump g _ hm hs hst hoth rfl rfl

theorem M_shrink {fb : Fibers} {rq : List Task} {tm : List Timer} {en en' : Ent} {cur : Option Nat}
    (hm : M fb rq tm en cur) (hsub : ∀ c p, p ∈ en' c → p ∈ en c)
    (hstale : ∀ c p, p ∈ en c → p ∉ en' c → p.sched ≠ (fb p.fiber).sched) : M fb rq tm en' cur := by
  have hiff : ∀ f, liveEntry fb en' f ↔ liveEntry fb en f := by
    intro f
    constructor
    · rintro ⟨c, p, hp, h1, h2⟩; exact ⟨c, p, hsub c p hp, h1, h2⟩
    · rintro ⟨c, p, hp, h1, h2⟩
      by_cases hin : p ∈ en' c
      · exact ⟨c, p, hin, h1, h2⟩
      · exact absurd (by rw [h1]; exact h2) (hstale c p hp hin)
  refine ⟨fun c p hp => hm.a1 c p (hsub c p hp), hm.a2, hm.a3, hm.d0, ?_, ?_, ?_, hm.d4, hm.d5, hm.e⟩
  · intro f hst; rw [hiff]; exact hm.d1 f hst
  · intro f hst hc; rw [hiff]; exact hm.d2 f hst hc
  · intro f hlt; rw [hiff]; exact hm.d3 f hlt

theorem M_shrink_schedule {w : World} {tm : List Timer} {en en' : Ent} (g : Nat) (val : Val) (sig : Sig)
    (hm : M w.fibers w.runq tm en w.current) (hsub : ∀ c p, p ∈ en' c → p ∈ en c)
    (hrem : ∀ c p, p ∈ en c → p ∉ en' c → p.sched ≠ (w.fibers p.fiber).sched ∨ p.fiber = g)
    (hcan : (w.fibers g).canceled = false) :
    M (scheduleGeneral w g val sig false).fibers (scheduleGeneral w g val sig false).runq tm en'
      (scheduleGeneral w g val sig false).current := by
  apply M_shrink (M_schedule g val sig hm) hsub
  intro c p hp hnp
  have hb := hm.a1 c p hp
  have hle := (scheduleGeneral_frame w g val sig false).sched p.fiber
  obtain ⟨_, _, _, hcase⟩ := scheduleGeneral_props w g val sig
  rcases hrem c p hp hnp with h | h
  · omega
  · rcases hcase with ⟨hc, _⟩ | ⟨_, hs, _⟩
    · rw [hcan] at hc; simp at hc
    · rw [h] at hb ⊢; omega

theorem M_register {fb : Fibers} {rq : List Task} {tm : List Timer} {en en' : Ent} {cur : Option Nat} (f c : Nat)
    (p : Pending) (hm : M fb rq tm en cur) (hcur : cur = some f) (hpf : p.fiber = f) (hps : p.sched = (fb f).sched)
    (hlt : LT fb rq f = 0) (hmem : ∀ c' q, q ∈ en' c' ↔ q ∈ en c' ∨ (c' = c ∧ q = p)) : M fb rq tm en' cur := by
  have hmono : ∀ h, liveEntry fb en h → liveEntry fb en' h := by
    rintro h ⟨c', q, hq, h1, h2⟩; exact ⟨c', q, (hmem c' q).mpr (Or.inl hq), h1, h2⟩
  have hback : ∀ h, h ≠ f → liveEntry fb en' h → liveEntry fb en h := by
    rintro h hh ⟨c', q, hq, h1, h2⟩
    rcases (hmem c' q).mp hq with hq | ⟨_, hq⟩
    · exact ⟨c', q, hq, h1, h2⟩
    · subst hq; exact absurd (hpf.symm.trans h1).symm hh
  refine ⟨?_, hm.a2, hm.a3, hm.d0, ?_, ?_, ?_, hm.d4, hm.d5, hm.e⟩
  · intro c' q hq
    rcases (hmem c' q).mp hq with hq | ⟨_, hq⟩
    · exact hm.a1 c' q hq
    · subst hq; rw [hpf, hps]; exact Nat.le_refl _
  · intro h hst
    rcases hm.d1 h hst with h1 | h1 | h1
    · exact Or.inl h1
    · exact Or.inr (Or.inl h1)
    · exact Or.inr (Or.inr (hmono h h1))
  · intro h hst hc
    have hne : h ≠ f := fun e => hc (by rw [hcur, e])
    exact ⟨(hm.d2 h hst hc).1, fun hl => (hm.d2 h hst hc).2 (hback h hne hl)⟩
  · intro h hl
    have hne : h ≠ f := fun e => by rw [e, hlt] at hl; simp at hl
    exact ⟨(hm.d3 h hl).1, fun hle => (hm.d3 h hl).2 (hback h hne hle)⟩

theorem M_timer_add {fb : Fibers} {rq : List Task} {tm tm' : List Timer} {en : Ent} {cur : Option Nat} (f : Nat)
    (t : Timer) (hm : M fb rq tm en cur) (hcur : cur = some f) (htf : t.fiber = f) (hts : t.sched = (fb f).sched)
    (hlt : LT fb rq f = 0) (hmem : ∀ u, u ∈ tm' ↔ u = t ∨ u ∈ tm) : M fb rq tm' en cur := by
  have hmono : ∀ h, liveTimer fb tm h → liveTimer fb tm' h := by
    rintro h ⟨u, hu, h1, h2, h3⟩; exact ⟨u, (hmem u).mpr (Or.inr hu), h1, h2, h3⟩
  have hback : ∀ h, h ≠ f → liveTimer fb tm' h → liveTimer fb tm h := by
    rintro h hh ⟨u, hu, h1, h2, h3⟩
    rcases (hmem u).mp hu with hu | hu
    · subst hu; exact absurd (htf.symm.trans h2).symm hh
    · exact ⟨u, hu, h1, h2, h3⟩
  refine ⟨hm.a1, hm.a2, ?_, hm.d0, ?_, ?_, ?_, hm.d4, hm.d5, hm.e⟩
  · intro u hu
    rcases (hmem u).mp hu with hu | hu
    · subst hu; rw [htf, hts]; exact Nat.le_refl _
    · exact hm.a3 u hu
  · intro h hst
    rcases hm.d1 h hst with h1 | h1 | h1
    · exact Or.inl h1
    · exact Or.inr (Or.inl (hmono h h1))
    · exact Or.inr (Or.inr h1)
  · intro h hst hc
    have hne : h ≠ f := fun e => hc (by rw [hcur, e])
    exact ⟨fun hl => (hm.d2 h hst hc).1 (hback h hne hl), (hm.d2 h hst hc).2⟩
  · intro h hl
    have hne : h ≠ f := fun e => by rw [e, hlt] at hl; simp at hl
    exact ⟨fun hle => (hm.d3 h hl).1 (hback h hne hle), (hm.d3 h hl).2⟩

theorem M_timer_shrink {fb : Fibers} {rq : List Task} {tm tm' : List Timer} {en : Ent} {cur : Option Nat}
    (hm : M fb rq tm en cur) (hsub : ∀ u, u ∈ tm' → u ∈ tm)
    (hdead : ∀ u, u ∈ tm → u ∉ tm' → u.curr ≠ none ∨ u.sched ≠ (fb u.fiber).sched) : M fb rq tm' en cur := by
  have hiff : ∀ f, liveTimer fb tm' f ↔ liveTimer fb tm f := by
    intro f
    constructor
    · rintro ⟨u, hu, h1, h2, h3⟩; exact ⟨u, hsub u hu, h1, h2, h3⟩
    · rintro ⟨u, hu, h1, h2, h3⟩
      by_cases hin : u ∈ tm'
      · exact ⟨u, hin, h1, h2, h3⟩
      · rcases hdead u hu hin with h | h
        · exact absurd h1 h
        · exact absurd (by rw [h2]; exact h3) h
  refine ⟨hm.a1, hm.a2, fun u hu => hm.a3 u (hsub u hu), hm.d0, ?_, ?_, ?_, hm.d4, hm.d5, hm.e⟩
  · intro f hst; rw [hiff]; exact hm.d1 f hst
  · intro f hst hc; rw [hiff]; exact hm.d2 f hst hc
  · intro f hlt; rw [hiff]; exact hm.d3 f hlt

theorem sources_of_sched {fb fb' : Fibers} (hs : ∀ h, (fb' h).sched = (fb h).sched) (rq : List Task) (tm : List Timer) (en : Ent) :
    (∀ h, LT fb' rq h = LT fb rq h) ∧ (∀ h, liveTimer fb' tm h ↔ liveTimer fb tm h) ∧
    (∀ h, liveEntry fb' en h ↔ liveEntry fb en h) :=
  ⟨fun h => LT_congr rq h (hs h), fun h => liveTimer_congr tm h (hs h), fun h => liveEntry_congr en h (hs h)⟩

/-- the fields of `M` that only look at sched_ids and the run queue, under a change of fibers that keeps every sched_id
    and a run queue that lost tasks: `a1 a2 a3 d0 d3` -/
theorem M_sched_part {fb fb' : Fibers} {rq rq' : List Task} {tm : List Timer} {en : Ent} {cur : Option Nat}
    (hm : M fb rq tm en cur) (hs : ∀ h, (fb' h).sched = (fb h).sched) (hsub : ∀ t ∈ rq', t ∈ rq)
    (hle : ∀ h, LT fb rq' h ≤ LT fb rq h) :
    (∀ c, ∀ p ∈ en c, p.sched ≤ (fb' p.fiber).sched) ∧ (∀ t ∈ rq', t.expected ≤ (fb' t.fiber).sched) ∧
    (∀ t ∈ tm, t.sched ≤ (fb' t.fiber).sched) ∧ (∀ f, LT fb' rq' f ≤ 1) ∧
    (∀ f, LT fb' rq' f = 1 → ¬ liveTimer fb' tm f ∧ ¬ liveEntry fb' en f) := by
  obtain ⟨hL, hT, hE⟩ := sources_of_sched hs rq' tm en
  refine ⟨fun c p hp => by rw [hs]; exact hm.a1 c p hp, fun t ht => by rw [hs]; exact hm.a2 t (hsub t ht),
    fun t ht => by rw [hs]; exact hm.a3 t ht, fun h => by rw [hL]; exact Nat.le_trans (hle h) (hm.d0 h), fun h hh => ?_⟩
  rw [hL] at hh
  rw [hT, hE]
  exact hm.d3 h (Nat.le_antisymm (hm.d0 h) (hh ▸ hle h))

/-- janet_await (the fiber is suspended and must have a wake-up source) or return / raise (it must be quiet) -/
theorem M_leave {fb fb' : Fibers} {rq : List Task} {tm : List Timer} {en : Ent} (f : Nat)
    (hm : M fb rq tm en (some f)) (hs : ∀ h, (fb' h).sched = (fb h).sched) (hna : (fb' f).status ≠ .alive)
    (hcan : ∀ h, (fb' h).canceled = (fb h).canceled) (hoth : ∀ h, h ≠ f → (fb' h).status = (fb h).status)
    (hsrc : (fb' f).status = .pending → LT fb rq f = 1 ∨ liveTimer fb tm f ∨ liveEntry fb en f)
    (hq : (fb' f).status ≠ .pending → ¬ liveTimer fb tm f ∧ ¬ liveEntry fb en f) : M fb' rq tm en none := by
  obtain ⟨hL, hT, hE⟩ := sources_of_sched hs rq tm en
  obtain ⟨a1, a2, a3, d0, d3⟩ := M_sched_part hm hs (fun _ h => h) (fun _ => Nat.le_refl _)
  refine ⟨a1, a2, a3, d0, ?_, ?_, d3, ?_, ?_, ?_⟩
  · intro h hh
    rw [hL, hT, hE]
    by_cases e : h = f
    · subst e; exact hsrc hh
    · rw [hoth h e] at hh; exact hm.d1 h hh
  · intro h hh _
    rw [hT, hE]
    by_cases e : h = f
    · subst e; exact hq hh
    · rw [hoth h e] at hh
      exact hm.d2 h hh (fun c => e (Option.some.inj c).symm)
  · intro h hh
    have e : h ≠ f := fun e => hna (by rw [← e]; exact hh)
    rw [hoth h e] at hh
    exact absurd (Option.some.inj (hm.d4 h hh)).symm e
  · intro h hh; cases hh
  · intro h hh; rw [hL]; rw [hcan] at hh; exact hm.e h hh

theorem LT_cons (fb : Fibers) (t : Task) (rest : List Task) (h : Nat) :
    LT fb (t :: rest) h = (if t.fiber = h ∧ t.expected = (fb h).sched then 1 else 0) + LT fb rest h := by
  unfold LT
  rw [List.countP_cons]
  by_cases c : t.fiber = h ∧ t.expected = (fb h).sched
  · simp [c.1, c.2]; omega
  · have : (t.fiber == h && t.expected == (fb h).sched) = false := by
      simp only [Bool.and_eq_false_iff, beq_eq_false_iff_ne]
      by_cases c1 : t.fiber = h
      · right; exact fun c2 => c ⟨c1, c2⟩
      · left; exact c1
    simp [this, c]

/-- run phase, a task that resumes nobody: stale, or its fiber is already finished -/
theorem M_pop {fb fb' : Fibers} {t : Task} {rest : List Task} {tm : List Timer} {en : Ent}
    (hm : M fb (t :: rest) tm en none) (hs : ∀ h, (fb' h).sched = (fb h).sched)
    (hst : ∀ h, (fb' h).status = (fb h).status) (hcan : ∀ h, h ≠ t.fiber → (fb' h).canceled = (fb h).canceled)
    (hcg : (fb' t.fiber).canceled = false)
    (hwhy : t.expected ≠ (fb t.fiber).sched ∨ (fb t.fiber).status ≠ .pending) : M fb' rest tm en none := by
  obtain ⟨hL, hT, hE⟩ := sources_of_sched hs rest tm en
  have hle : ∀ h, LT fb rest h ≤ LT fb (t :: rest) h := by intro h; rw [LT_cons]; omega
  have heq : ∀ h, (h ≠ t.fiber ∨ t.expected ≠ (fb t.fiber).sched) → LT fb rest h = LT fb (t :: rest) h := by
    intro h hh
    rw [LT_cons]
    have : ¬ (t.fiber = h ∧ t.expected = (fb h).sched) := by
      rintro ⟨c1, c2⟩
      rcases hh with hh | hh
      · exact hh c1.symm
      · rw [← c1] at c2; exact hh c2
    simp [this]
  obtain ⟨a1, a2, a3, d0, d3⟩ := M_sched_part hm hs (fun _ h => List.mem_cons_of_mem _ h) hle
  refine ⟨a1, a2, a3, d0, ?_, ?_, d3, ?_, ?_, ?_⟩
  · intro h hh
    rw [hL, hT, hE]
    rw [hst] at hh
    have : h ≠ t.fiber ∨ t.expected ≠ (fb t.fiber).sched := by
      by_cases e : h = t.fiber
      · right
        rcases hwhy with hw | hw
        · exact hw
        · rw [e] at hh; exact absurd hh hw
      · left; exact e
    rw [heq h this]; exact hm.d1 h hh
  · intro h hh hc; rw [hT, hE]; rw [hst] at hh; exact hm.d2 h hh hc
  · intro h hh; rw [hst] at hh; exact hm.d4 h hh
  · intro h hh; cases hh
  · intro h hh
    rw [hL]
    by_cases e : h = t.fiber
    · rw [e, hcg] at hh; cases hh
    · rw [hcan h e] at hh; rw [heq h (Or.inl e)]; exact hm.e h hh

/-- run phase, a live task for a fiber that can run: the fiber becomes the running one and is quiet -/
theorem M_resume {fb fb' : Fibers} {t : Task} {rest : List Task} {tm : List Timer} {en : Ent}
    (hm : M fb (t :: rest) tm en none) (hs : ∀ h, (fb' h).sched = (fb h).sched)
    (hlive : t.expected = (fb t.fiber).sched) (hstg : (fb' t.fiber).status = .alive)
    (hst : ∀ h, h ≠ t.fiber → (fb' h).status = (fb h).status)
    (hcan : ∀ h, h ≠ t.fiber → (fb' h).canceled = (fb h).canceled) (hcg : (fb' t.fiber).canceled = false) :
    M fb' rest tm en (some t.fiber) ∧ LT fb' rest t.fiber = 0 ∧ ¬ liveTimer fb' tm t.fiber ∧ ¬ liveEntry fb' en t.fiber := by
  obtain ⟨hL, hT, hE⟩ := sources_of_sched hs rest tm en
  have hg1 : LT fb (t :: rest) t.fiber = 1 := by
    have h0 := hm.d0 t.fiber
    rw [LT_cons] at h0 ⊢
    simp only [hlive, and_self, ↓reduceIte] at h0 ⊢
    omega
  have hg0 : LT fb rest t.fiber = 0 := by
    rw [LT_cons] at hg1; simp only [hlive, and_self, ↓reduceIte] at hg1; omega
  have heq : ∀ h, h ≠ t.fiber → LT fb rest h = LT fb (t :: rest) h := by
    intro h hh
    rw [LT_cons]
    have : ¬ (t.fiber = h ∧ t.expected = (fb h).sched) := fun c => hh c.1.symm
    simp [this]
  have hq := hm.d3 t.fiber hg1
  obtain ⟨a1, a2, a3, d0, d3⟩ := M_sched_part hm hs (fun _ h => List.mem_cons_of_mem _ h)
    (fun h => by rw [LT_cons]; exact Nat.le_add_left _ _)
  refine ⟨⟨a1, a2, a3, d0, ?_, ?_, d3, ?_, ?_, ?_⟩, by rw [hL]; exact hg0, by rw [hT]; exact hq.1, by rw [hE]; exact hq.2⟩
  · intro h hh
    have e : h ≠ t.fiber := fun e => by rw [e, hstg] at hh; cases hh
    rw [hL, hT, hE, heq h e]; rw [hst h e] at hh; exact hm.d1 h hh
  · intro h hh hc
    have e : h ≠ t.fiber := fun e => hc (by rw [e])
    rw [hT, hE]; rw [hst h e] at hh; exact hm.d2 h hh (fun c => by cases c)
  · intro h hh
    by_cases e : h = t.fiber
    · rw [e]
    · rw [hst h e] at hh; have := hm.d4 h hh; cases this
  · intro h hh; rw [← Option.some.inj hh]; exact hstg
  · intro h hh
    rw [hL]
    by_cases e : h = t.fiber
    · rw [e, hcg] at hh; cases hh
    · rw [hcan h e] at hh; rw [heq h e]; exact hm.e h hh

/-- `task.fiber->sched_id++` at resume: the fiber is not suspended and not cancelled, so it needs no new task -/
theorem M_bump_quiet {fb fb' : Fibers} {rq : List Task} {tm : List Timer} {en : Ent} {cur : Option Nat} (g : Nat)
    (hm : M fb rq tm en cur)
    (hsg : (fb' g).sched = (fb g).sched + 1) (hstg : (fb' g).status = (fb g).status)
    (hcg : (fb' g).canceled = (fb g).canceled) (hoth : ∀ h, h ≠ g → fb' h = fb h)
    (hnp : (fb g).status ≠ .pending) (hnc : (fb g).canceled = false) :
    M fb' rq tm en cur ∧ LT fb' rq g = 0 ∧ ¬ liveTimer fb' tm g ∧ ¬ liveEntry fb' en g := by
  have hLTg := LT_bumped g hm.a2 hsg
  obtain ⟨h1, h2, h3⟩ := M_bumped (rq' := rq) g hm hsg hstg hoth (a2_bumped g hm.a2 hsg hoth)
    (fun h hh => by unfold LT; rw [hoth h hh]) (by rw [hLTg]; exact Nat.zero_le 1)
    (fun h => h.elim (fun hp => absurd hp hnp) (fun hc => by rw [hcg, hnc] at hc; cases hc))
  exact ⟨h1, hLTg, h2, h3⟩

def WM (w : World) : Prop := M w.fibers w.runq w.timers w.ent w.current

def WQuiet (w : World) (f : Nat) : Prop :=
  LT w.fibers w.runq f = 0 ∧ ¬ liveTimer w.fibers w.timers f ∧ ¬ liveEntry w.fibers w.ent f

/-- between two actions: `M`, and the running fiber (if any) has no wake-up source at all -/
def WInv (w : World) : Prop := WM w ∧ ∀ f, w.current = some f → WQuiet w f

/-- what the wake-up invariant needs of the source (either value of `resumeBumps`, `supervisorSkipsClosed` will do) -/
structure CfgGood (cfg : Cfg) : Prop where
  strict : cfg.pushBlocksStrict = true
  ready : cfg.choiceReadyStrict = true
  sees : cfg.choiceGiveSeesReader = true
  skips : cfg.popSkipsStaleWriter = true
  closeChecks : cfg.closeChecksSched = true

theorem CfgGood.chan {cfg : Cfg} (h : CfgGood cfg) : CfgChan cfg := ⟨h.strict, h.skips⟩

theorem mem_ent (w : World) (c : Nat) (p : Pending) :
    p ∈ w.ent c ↔ p ∈ (w.chans c).readPending ∨ p ∈ (w.chans c).writePending := by
  unfold World.ent; exact List.mem_append

theorem ent_of_chans {w w' : World} (h : w'.chans = w.chans) : w'.ent = w.ent := by unfold World.ent; rw [h]

theorem not_canceled_of_source {fb : Fibers} {rq : List Task} {tm : List Timer} {en : Ent} {cur : Option Nat}
    (hm : M fb rq tm en cur) (g : Nat) (h : liveEntry fb en g ∨ liveTimer fb tm g) : (fb g).canceled = false := by
  cases hc : (fb g).canceled
  · rfl
  · have := hm.d3 g (hm.e g hc)
    rcases h with h | h
    · exact absurd h this.2
    · exact absurd h this.1

theorem not_canceled_of_no_task {fb : Fibers} {rq : List Task} {tm : List Timer} {en : Ent} {cur : Option Nat}
    (hm : M fb rq tm en cur) {g : Nat} (h : LT fb rq g = 0) : (fb g).canceled = false := by
  cases hc : (fb g).canceled
  · rfl
  · have := hm.e g hc; rw [h] at this; cases this

theorem schedule_other (w : World) (g : Nat) (val : Val) (sig : Sig) (f : Nat) (hne : g ≠ f) :
    LT (scheduleGeneral w g val sig false).fibers (scheduleGeneral w g val sig false).runq f = LT w.fibers w.runq f ∧
    (scheduleGeneral w g val sig false).fibers f = w.fibers f := by
  obtain ⟨_, _, _, hcase⟩ := scheduleGeneral_props w g val sig
  rcases hcase with ⟨_, hf, hr⟩ | ⟨_, _, _, hoth, hr⟩
  · rw [hf, hr]; exact ⟨rfl, rfl⟩
  · have hff := hoth f (fun e => hne e.symm)
    refine ⟨?_, hff⟩
    rw [hr]
    have hgh : (g == f) = false := by simp; exact hne
    simp [LT, List.countP_append, hff, hgh]

theorem M_ent_congr {fb : Fibers} {rq : List Task} {tm : List Timer} {en en' : Ent} {cur : Option Nat}
    (hm : M fb rq tm en cur) (h : ∀ c p, p ∈ en' c ↔ p ∈ en c) : M fb rq tm en' cur :=
  M_shrink hm (fun c p hp => (h c p).mp hp) (fun c p hp hnp => absurd ((h c p).mpr hp) hnp)

theorem not_live_of_hasLiveReader_false {fibers : Nat → Fiber} {rp : List Pending}
    (h : hasLiveReader fibers rp = false) (p : Pending) (hp : p ∈ rp) : p.sched ≠ (fibers p.fiber).sched := by
  unfold hasLiveReader at h
  rw [List.any_eq_false] at h
  have := h p hp
  intro e; exact this ((live_iff fibers p).mpr e)

theorem mem_ent_pend (w : World) (c : Nat) (p : Pending) : p ∈ w.ent c ↔ ∃ s, p ∈ (w.chans c).pend s :=
  (mem_ent w c p).trans ⟨fun h => h.elim (fun h => ⟨.rd, h⟩) (fun h => ⟨.wr, h⟩),
    fun ⟨s, h⟩ => by cases s; exact Or.inl h; exact Or.inr h⟩

theorem mem_ent_of_pend {a b : World} {c : Nat} {s : Side} {l' : List Pending}
    (hq : ∀ c' s', (b.chans c').pend s' = if c' = c ∧ s' = s then l' else (a.chans c').pend s') (c' : Nat) (p : Pending) :
    p ∈ b.ent c' ↔ (c' = c ∧ p ∈ l') ∨ ∃ s', ¬ (c' = c ∧ s' = s) ∧ p ∈ (a.chans c').pend s' := by
  rw [mem_ent_pend]
  constructor
  · rintro ⟨s', h⟩
    rw [hq] at h
    split at h
    · rename_i e; exact Or.inl ⟨e.1, h⟩
    · rename_i e; exact Or.inr ⟨s', e, h⟩
  · rintro (⟨e, h⟩ | ⟨s', e, h⟩)
    · exact ⟨s, by rw [hq, if_pos ⟨e, rfl⟩]; exact h⟩
    · exact ⟨s', by rw [hq, if_neg e]; exact h⟩

theorem QMove.wm {self other : Nat → Prop} {r : List (Nat × Side)} {a b : World} (h : QMove self other r a b) (hm : WM a)
    (hself : ∀ g, self g → a.current = some g ∧ LT a.fibers a.runq g = 0) : WM b := by
  cases h with
  | shrink c s l' hs hq sub gone _ =>
    obtain ⟨h1, h2, h3, h4⟩ := hs
    unfold WM
    rw [h1, h2, h3, h4]
    refine M_shrink hm (fun c' p hp => ?_) (fun c' p hp hnp => ?_)
    · rcases (mem_ent_of_pend hq c' p).mp hp with ⟨e, h⟩ | ⟨s', _, h⟩
      · exact (mem_ent_pend a c' p).mpr ⟨s, e ▸ sub.subset h⟩
      · exact (mem_ent_pend a c' p).mpr ⟨s', h⟩
    · obtain ⟨s', h⟩ := (mem_ent_pend a c' p).mp hp
      by_cases e : c' = c ∧ s' = s
      · obtain ⟨rfl, rfl⟩ := e
        exact gone p h fun hl => hnp ((mem_ent_of_pend hq c' p).mpr (Or.inl ⟨rfl, hl⟩))
      · exact absurd ((mem_ent_of_pend hq c' p).mpr (Or.inr ⟨s', e, h⟩)) hnp
  | add c s reg hs hq hreg _ =>
    obtain ⟨h1, h2, h3, h4⟩ := hs
    unfold WM
    rw [h1, h2, h3, h4]
    have hmem : ∀ c' q, q ∈ b.ent c' ↔ q ∈ a.ent c' ∨ (c' = c ∧ q ∈ reg) := by
      intro c' q
      rw [mem_ent_of_pend hq, mem_ent_pend]
      constructor
      · rintro (⟨e, h⟩ | ⟨s', _, h⟩)
        · exact (List.mem_append.mp h).elim (fun h => Or.inl ⟨s, e ▸ h⟩) (fun h => Or.inr ⟨e, h⟩)
        · exact Or.inl ⟨s', h⟩
      · rintro (⟨s', h⟩ | ⟨e, h⟩)
        · by_cases e : c' = c ∧ s' = s
          · obtain ⟨rfl, rfl⟩ := e
            exact Or.inl ⟨rfl, List.mem_append_left _ h⟩
          · exact Or.inr ⟨s', e, h⟩
        · exact Or.inl ⟨e, List.mem_append_right _ h⟩
    cases reg with
    | nil => exact M_ent_congr hm fun c' q => (hmem c' q).trans ⟨fun h => h.elim id (fun h => nomatch h.2), Or.inl⟩
    | cons p tl =>
      obtain ⟨e, hps, hp⟩ := hreg p (List.mem_cons_self ..)
      cases e
      obtain ⟨hcur, hlt⟩ := hself p.fiber hps
      exact M_register p.fiber c p hm hcur rfl hp hlt fun c' q => by rw [hmem, List.mem_singleton]
  | wake c s p l' v w1 hs hb hq hl live oth _ =>
    obtain ⟨h1, h2, h3, h4⟩ := hs
    have hpin : p ∈ a.ent c := (mem_ent_pend a c p).mpr ⟨s, hl ▸ List.mem_cons_self ..⟩
    have hcan : (w1.fibers p.fiber).canceled = false :=
      h1 ▸ not_canceled_of_source hm p.fiber (Or.inl ⟨c, p, hpin, rfl, live⟩)
    obtain ⟨ht, hc, _, _⟩ := scheduleGeneral_props w1 p.fiber v .ok
    have hm1 : M w1.fibers w1.runq a.timers a.ent w1.current := by rw [h1, h2, h4]; exact hm
    unfold WM
    rw [hb, ht, ent_of_chans hc, h3]
    refine M_shrink_schedule (en := a.ent) p.fiber v .ok hm1 (fun c' q hq' => ?_) (fun c' q hq' hnq => ?_) hcan
    · rcases (mem_ent_of_pend hq c' q).mp hq' with ⟨e, h⟩ | ⟨s', _, h⟩
      · exact (mem_ent_pend a c' q).mpr ⟨s, e ▸ hl ▸ List.mem_cons_of_mem _ h⟩
      · exact (mem_ent_pend a c' q).mpr ⟨s', h⟩
    · obtain ⟨s', h⟩ := (mem_ent_pend a c' q).mp hq'
      by_cases e : c' = c ∧ s' = s
      · obtain ⟨rfl, rfl⟩ := e
        rw [hl] at h
        rcases List.mem_cons.mp h with h | h
        · exact Or.inr (by rw [h])
        · exact absurd ((mem_ent_of_pend hq c' q).mpr (Or.inl ⟨rfl, h⟩)) hnq
      · exact absurd ((mem_ent_of_pend hq c' q).mpr (Or.inr ⟨s', e, h⟩)) hnq

theorem QMove.current {self other : Nat → Prop} {r : List (Nat × Side)} {a b : World} (h : QMove self other r a b) :
    b.current = a.current := by
  cases h with
  | shrink c s l' hs => exact hs.2.2.2
  | add c s reg hs => exact hs.2.2.2
  | wake c s p l' v w1 hs hb => rw [hb, (scheduleGeneral_props w1 p.fiber v .ok).2.2.1]; exact hs.2.2.2

theorem QMove.frame {self other : Nat → Prop} {r : List (Nat × Side)} {a b : World} (h : QMove self other r a b) (f : Nat)
    (hoth : ∀ g, other g → g ≠ f) :
    b.fibers f = a.fibers f ∧ LT b.fibers b.runq f = LT a.fibers a.runq f ∧ b.timers = a.timers ∧ b.current = a.current := by
  cases h with
  | shrink c s l' hs => obtain ⟨h1, h2, h3, h4⟩ := hs; rw [h1, h2]; exact ⟨rfl, rfl, h3, h4⟩
  | add c s reg hs => obtain ⟨h1, h2, h3, h4⟩ := hs; rw [h1, h2]; exact ⟨rfl, rfl, h3, h4⟩
  | wake c s p l' v w1 hs hb hq hl live oth _ =>
    obtain ⟨h1, h2, h3, h4⟩ := hs
    obtain ⟨ht, _, hk, _⟩ := scheduleGeneral_props w1 p.fiber v .ok
    obtain ⟨hL, hff⟩ := schedule_other w1 p.fiber v .ok f (hoth _ oth)
    rw [hb, hL, hff, ht, hk, h1, h2]
    exact ⟨rfl, rfl, h3, h4⟩

/-- `f` has a current registration in the queue `(c, s)` -/
def liveOn (w : World) (f c : Nat) (s : Side) : Prop := ∃ p ∈ (w.chans c).pend s, p.fiber = f ∧ p.sched = (w.fibers f).sched

theorem liveIn_iff_liveOn (w : World) (f c : Nat) : liveIn w.fibers w.ent f c ↔ ∃ s, liveOn w f c s := by
  unfold liveIn liveOn
  constructor
  · rintro ⟨p, hp, h⟩
    obtain ⟨s, hs⟩ := (mem_ent_pend w c p).mp hp
    exact ⟨s, p, hs, h⟩
  · rintro ⟨s, p, hp, h⟩
    exact ⟨p, (mem_ent_pend w c p).mpr ⟨s, hp⟩, h⟩

theorem QMove.liveOn {self other : Nat → Prop} {r : List (Nat × Side)} {a b : World} (h : QMove self other r a b) (f : Nat)
    (hself : ∀ g, self g → g = f) (hoth : ∀ g, other g → g ≠ f) (c' : Nat) (s' : Side) :
    liveOn b f c' s' ↔ liveOn a f c' s' ∨ (c', s') ∈ r := by
  have hff := (h.frame f hoth).1
  unfold Ev.liveOn
  rw [hff]
  cases h with
  | shrink c s l' hs hq sub gone hr =>
    rw [hq, hr]
    simp only [List.not_mem_nil, or_false]
    split
    · rename_i e
      obtain ⟨rfl, rfl⟩ := e
      refine ⟨fun ⟨p, hp, h⟩ => ⟨p, sub.subset hp, h⟩, fun ⟨p, hp, h1, h2⟩ => ⟨p, ?_, h1, h2⟩⟩
      exact Decidable.by_contra fun hn => gone p hp hn (by rw [h1]; exact h2)
    · exact Iff.rfl
  | add c s reg hs hq hreg hr =>
    rw [hq, hr]
    split
    · rename_i e
      obtain ⟨rfl, rfl⟩ := e
      constructor
      · rintro ⟨p, hp, h⟩
        rcases List.mem_append.mp hp with hp | hp
        · exact Or.inl ⟨p, hp, h⟩
        · exact Or.inr (List.mem_map.mpr ⟨p, hp, rfl⟩)
      · rintro (⟨p, hp, h⟩ | h)
        · exact ⟨p, List.mem_append_left _ hp, h⟩
        · obtain ⟨p, hp, _⟩ := List.mem_map.mp h
          have hpf := hself _ (hreg p hp).2.1
          exact ⟨p, List.mem_append_right _ hp, hpf, hpf ▸ (hreg p hp).2.2⟩
    · rename_i e
      refine ⟨Or.inl, fun h => h.elim id fun h => ?_⟩
      obtain ⟨_, _, h⟩ := List.mem_map.mp h
      exact absurd (by cases h; exact ⟨rfl, rfl⟩) e
  | wake c s p l' v w1 hs hb hq hl live oth hr =>
    have hc : b.chans = w1.chans := by rw [hb]; exact scheduleGeneral_chans ..
    rw [hc, hq, hr]
    simp only [List.not_mem_nil, or_false]
    split
    · rename_i e
      obtain ⟨rfl, rfl⟩ := e
      rw [hl]
      refine ⟨fun ⟨q, hq', h⟩ => ⟨q, List.mem_cons_of_mem _ hq', h⟩, fun ⟨q, hq', h1, h2⟩ => ⟨q, ?_, h1, h2⟩⟩
      exact (List.mem_cons.mp hq').resolve_left fun e => hoth _ oth (e ▸ h1)
    · exact Iff.rfl

/-- the running fiber `f` inside an operation that began in `w0` and has made the registrations `regs` so far -/
structure InOp (f : Nat) (w0 : World) (regs : List (Nat × Side)) (w : World) : Prop where
  wm : WM w
  cur : w.current = some f
  lt : LT w.fibers w.runq f = 0
  nt : ¬ liveTimer w.fibers w.timers f
  fib : w.fibers f = w0.fibers f
  on : ∀ c s, liveOn w f c s ↔ liveOn w0 f c s ∨ (c, s) ∈ regs

theorem InOp.start {f : Nat} {w : World} (hm : WM w) (hcur : w.current = some f) (hq : WQuiet w f) : InOp f w [] w :=
  ⟨hm, hcur, hq.1, hq.2.1, rfl, fun _ _ => ⟨Or.inl, fun h => h.elim id (fun h => nomatch h)⟩⟩

theorem InOp.liveIn {f : Nat} {w0 w : World} {regs : List (Nat × Side)} (h : InOp f w0 regs w) (c : Nat) :
    liveIn w.fibers w.ent f c ↔ liveIn w0.fibers w0.ent f c ∨ ∃ s, (c, s) ∈ regs := by
  rw [liveIn_iff_liveOn, liveIn_iff_liveOn]
  constructor
  · rintro ⟨s, hs⟩
    exact ((h.on c s).mp hs).imp (fun h => ⟨s, h⟩) (fun h => ⟨s, h⟩)
  · rintro (⟨s, hs⟩ | ⟨s, hs⟩)
    · exact ⟨s, (h.on c s).mpr (Or.inl hs)⟩
    · exact ⟨s, (h.on c s).mpr (Or.inr hs)⟩

theorem Atom.inOp {f : Nat} {r R : List (Nat × Side)} {o : List Nat} {w0 a b : World} (h : Atom (· = f) (· ≠ f) r o a b)
    (hi : InOp f w0 R a) : InOp f w0 (R ++ r) b := by
  have hq := h.qmove
  obtain ⟨hff, hL, ht, hk⟩ := hq.frame f (fun _ h => h)
  refine ⟨hq.wm hi.wm (fun g hg => hg ▸ ⟨hi.cur, hi.lt⟩), hk.trans hi.cur, hL.trans hi.lt, ?_, hff.trans hi.fib, fun c s => ?_⟩
  · rw [ht, liveTimer_congr _ f (congrArg Fiber.sched hff)]; exact hi.nt
  · rw [hq.liveOn f (fun _ h => h) (fun _ h => h), hi.on, List.mem_append, or_assoc]

theorem Steps.inOp {f : Nat} {r : List (Nat × Side)} {o : List Nat} {w0 w w' : World}
    (h : Steps (· = f) (· ≠ f) r o w w') :
    ∀ R, InOp f w0 R w → InOp f w0 (R ++ r) w' := by
  induction h with
  | nil => intro R hi; rw [List.append_nil]; exact hi
  | cons ha _ ih => intro R hi; rw [← List.append_assoc]; exact ih _ (ha.inOp hi)

theorem WQuiet.other {w : World} {f : Nat} (hq : WQuiet w f) (c : Nat) (s : Side) :
    ∀ p ∈ (w.chans c).pend s, p.sched = (w.fibers p.fiber).sched → p.fiber ≠ f :=
  fun p hp hl e => hq.2.2 ⟨c, p, (mem_ent_pend w c p).mpr ⟨s, hp⟩, e, e ▸ hl⟩

theorem InOp.quiet {f : Nat} {w w' : World} (h : InOp f w [] w') (hq : WQuiet w f) : WQuiet w' f :=
  ⟨h.lt, h.nt, fun ⟨c, hl⟩ => hq.2.2 ⟨c, ((h.liveIn c).mp hl).elim id fun ⟨_, h⟩ => nomatch h⟩⟩

theorem InOp.winv {f : Nat} {w w' : World} (h : InOp f w [] w') (hq : WQuiet w f) : WInv w' :=
  ⟨h.wm, fun g hg => by rw [h.cur] at hg; cases hg; exact h.quiet hq⟩

theorem InOp.source {f c : Nat} {s : Side} {w0 w : World} {regs : List (Nat × Side)} (h : InOp f w0 regs w)
    (hr : (c, s) ∈ regs) : liveEntry w.fibers w.ent f :=
  ⟨c, (h.liveIn c).mpr (Or.inr ⟨s, hr⟩)⟩

theorem supPush_W {cfg : Cfg} (hs : cfg.pushBlocksStrict = true) {w : World} {c x : Nat} (hi : WInv w)
    (hcur : w.current = none) : WInv (supPush cfg w c x).1 := by
  unfold supPush
  cases hp : chanPush cfg w 0 c x 2 with
  | closedErr => exact hi
  | ok w' b =>
    have hst := supPush_steps hs hp
    have hk : w'.current = w.current :=
      hst.keeps (P := fun u => u.current = w.current) (fun ha e => ha.qmove.current.trans e) rfl
    exact ⟨hst.keeps (fun ha hm => ha.qmove.wm hm fun _ h => h.elim) hi.1, fun g hg => by rw [hk, hcur] at hg; cases hg⟩

theorem liveEntry_of_liveIn {fb : Fibers} {en : Ent} {f c : Nat} (h : liveIn fb en f c) : liveEntry fb en f := ⟨c, h⟩

/-- the receive log gains the item the running fiber takes at once -/
def received (w : World) (f x : Nat) : World :=
  { w with ghost := { w.ghost with received := w.ghost.received ++ [(f, x)] } }

/-- The first loop of select, when it returns: nothing (a closed channel), or one push that does not block (the clause was
    ready), or one pop whose item the fiber receives at once.  Nothing is registered. -/
theorem choiceImmediate_steps {cfg : Cfg} (hg : CfgGood cfg) {f : Nat} {cls : List Clause} {w w' : World} {v : Val}
    (h : choiceImmediate cfg w f cls = some (w', v)) (hq : WQuiet w f) :
    ∃ w1, Steps (· = f) (· ≠ f) [] [] w w1 ∧ w' = w1 ∨ ∃ x, Steps (· = f) (· ≠ f) [] [x] w w1 ∧ w' = received w1 f x := by
  obtain ⟨_, _, ⟨_, rfl, _⟩ | ⟨c, x, b, _, _, hr, hp, _⟩ | ⟨c, x, w1, _, _, hp, rfl, _⟩⟩ :=
    choiceImmediate_cases cfg f cls w w' v h
  · exact ⟨_, Or.inl ⟨.nil _, rfl⟩⟩
  · have hb : b = false := by
      rw [give_blocks_iff cfg hg.strict w f c x 1 w' b hp]
      simp only [choiceReady, hg.ready, hg.sees, ↓reduceIte, Bool.true_and, Bool.or_eq_true,
        decide_eq_true_eq] at hr
      exact hr.symm
    exact ⟨w', Or.inl ⟨.cast (by rw [hb]; exact if_neg fun h => Bool.false_ne_true h.1)
      (chanPush_steps hg.strict hp (· = f) (· ≠ f) (fun _ => rfl) (hq.other c .rd)), rfl⟩⟩
  · exact ⟨w1, Or.inr ⟨x, (chanPop_steps hg.skips w f c 1 (· = f) (· ≠ f) (fun _ => rfl)).1 w1 (some x) hp (hq.other c .wr), rfl⟩⟩

theorem InOp.received {f : Nat} {w0 w : World} {regs : List (Nat × Side)} (h : InOp f w0 regs w) (x : Nat) :
    InOp f w0 regs (Ev.received w f x) :=
  ⟨h.wm, h.cur, h.lt, h.nt, h.fib, h.on⟩

/-- what the first loop of select has established when it falls through -/
def Cond (w : World) : Clause → Prop
  | .give c _ => (w.chans c).closed = false ∧ ¬ (w.chans c).items.length < (w.chans c).limit ∧
                 hasLiveReader w.fibers (w.chans c).readPending = false
  | .take c => (w.chans c).closed = false ∧ (w.chans c).items = []

theorem Cond_congr {w w' : World} (cl : Clause) (hf : w'.fibers = w.fibers)
    (hc : w'.chans cl.chan = w.chans cl.chan) (h : Cond w cl) : Cond w' cl := by
  cases cl with
  | give c x => simp only [Cond, Clause.chan] at h hc ⊢; rw [hf, hc]; exact h
  | take c => simp only [Cond, Clause.chan] at h hc ⊢; rw [hc]; exact h

theorem choiceImmediate_none {cfg : Cfg} (hg : CfgGood cfg) (w : World) (f : Nat) (cls : List Clause)
    (h : choiceImmediate cfg w f cls = none) : ∀ cl ∈ cls, Cond w cl := by
  induction cls with
  | nil => intro cl hcl; cases hcl
  | cons cl rest ih =>
    unfold choiceImmediate at h
    cases cl with
    | give c x =>
      dsimp only at h
      cases hcl : (w.chans c).closed with
      | true => rw [hcl, if_pos rfl] at h; cases h
      | false =>
        rw [hcl, if_neg Bool.false_ne_true] at h
        split at h
        · cases hp : chanPush cfg w f c x 1 <;> (rw [hp] at h; cases h)
        · rename_i hr
          simp only [choiceReady, hg.ready, hg.sees, ↓reduceIte, Bool.true_and, Bool.or_eq_true, decide_eq_true_eq,
            not_or] at hr
          exact List.forall_mem_cons.mpr ⟨⟨hcl, hr.1, by simpa using hr.2⟩, ih h⟩
    | take c =>
      dsimp only at h
      cases hcl : (w.chans c).closed with
      | true => rw [hcl, if_pos rfl] at h; cases h
      | false =>
        rw [hcl, if_neg Bool.false_ne_true] at h
        split at h
        · cases hp : chanPop cfg w f c 1 with
          | blocked w1 => rw [hp] at h; cases h
          | got w1 r => rw [hp] at h; cases r <;> cases h
        · rename_i hi
          exact List.forall_mem_cons.mpr ⟨⟨hcl, Decidable.not_not.mp hi⟩, ih h⟩

theorem chanPush_open {cfg : Cfg} (w : World) (f c x mode : Nat) (h : (w.chans c).closed = false) :
    ∃ w' b, chanPush cfg w f c x mode = .ok w' b := by
  rcases chanPush_eq cfg w f c x mode with ⟨hcl, _⟩ | ⟨_, o, rp, _, e⟩
  · rw [h] at hcl; cases hcl
  · rw [e]; cases o <;> exact ⟨_, _, rfl⟩

/-- the queue a clause registers the fiber in -/
def Clause.reg : Clause → Nat × Side
  | .take c => (c, .rd)
  | .give c _ => (c, .wr)

theorem Clause.reg_fst (cl : Clause) : cl.reg.1 = cl.chan := by cases cl <;> rfl

/-- The registration loop of select, when the first loop fell through and no channel is named twice, only registers: a give
    clause finds no live reader and the queue full, a take clause finds nothing queued; as no channel occurs again, that is
    still so when the later clauses are reached. -/
theorem choiceRegister_steps {cfg : Cfg} (hg : CfgGood cfg) (f : Nat) (cls : List Clause) :
    ∀ (w : World), (∀ cl ∈ cls, Cond w cl) → (cls.map Clause.chan).Nodup →
      Steps (· = f) (· ≠ f) (cls.map Clause.reg) [] w (choiceRegister cfg w f cls) ∧
      SameSched w (choiceRegister cfg w f cls) ∧ (choiceRegister cfg w f cls).ghost.handed = w.ghost.handed := by
  induction cls with
  | nil => intro w _ _; exact ⟨.nil w, ⟨rfl, rfl, rfl, rfl⟩, rfl⟩
  | cons cl rest ih =>
    intro w hcond hnd
    have hnd2 := List.nodup_cons.mp (show (cl.chan :: rest.map Clause.chan).Nodup from hnd)
    have hc0 := hcond cl (List.mem_cons_self ..)
    -- one clause: a world `w1` in which it is registered, the other channels and the fibers as before
    have step : ∃ w1, choiceRegister cfg w f (cl :: rest) = choiceRegister cfg w1 f rest ∧
        Steps (· = f) (· ≠ f) [cl.reg] [] w w1 ∧ SameSched w w1 ∧ w1.ghost.handed = w.ghost.handed ∧
        ∀ c', c' ≠ cl.chan → w1.chans c' = w.chans c' := by
      cases cl with
      | give c x =>
        obtain ⟨hopen, hfull, hnor⟩ := hc0
        obtain ⟨w1, b, hp⟩ := chanPush_open (cfg := cfg) w f c x 1 hopen
        have hb : b = true := by
          cases b
          · exact absurd ((give_blocks_iff cfg hg.strict w f c x 1 w1 false hp).mp rfl)
              (fun h => h.elim (fun h => by rw [hnor] at h; cases h) hfull)
          · rfl
        have hst := chanPush_steps hg.strict hp (· = f) (· ≠ f) (fun _ => rfl)
          (fun p hp hl => absurd hl (not_live_of_hasLiveReader_false hnor p hp))
        rw [if_pos ⟨hb, by decide⟩] at hst
        obtain ⟨ch, rfl, _⟩ := chanPush_of_no_reader cfg w f c x 1 w1 b hnor hp
        exact ⟨_, by simp [choiceRegister, hp], hst, ⟨rfl, rfl, rfl, rfl⟩, rfl, fun c' hc' => setChan_chans_ne _ _ hc'⟩
      | take c =>
        obtain ⟨hopen, hemp⟩ := hc0
        obtain ⟨w1, he⟩ := (take_blocks_iff cfg w f c 1 hopen).mpr hemp
        have hst := (chanPop_steps hg.skips w f c 1 (· = f) (· ≠ f) (fun _ => rfl)).2 w1 he
        rw [if_neg (by decide)] at hst
        obtain ⟨ch, rfl | rfl⟩ := chanPop_of_blocked cfg w f c 1 w1 he
        · exact ⟨_, by simp [choiceRegister, he], hst, ⟨rfl, rfl, rfl, rfl⟩, rfl, fun c' hc' => setChan_chans_ne _ _ hc'⟩
        · exact ⟨_, by simp [choiceRegister, he], hst, ⟨rfl, rfl, rfl, rfl⟩, rfl, fun _ _ => rfl⟩
    obtain ⟨w1, heq, hst, hss, hh, hoth⟩ := step
    rw [heq]
    obtain ⟨i1, i2, i3⟩ := ih w1 (fun cl' hcl' => Cond_congr cl' hss.1
      (hoth _ fun e => hnd2.1 (e ▸ List.mem_map_of_mem (f := Clause.chan) hcl')) (hcond cl' (List.mem_cons_of_mem _ hcl'))) hnd2.2
    exact ⟨hst.append i1, ⟨i2.1.trans hss.1, i2.2.1.trans hss.2.1, i2.2.2.1.trans hss.2.2.1, i2.2.2.2.trans hss.2.2.2⟩,
      i3.trans hh⟩

theorem mem_map_reg (cls : List Clause) (c : Nat) : (∃ s, (c, s) ∈ cls.map Clause.reg) ↔ c ∈ cls.map Clause.chan := by
  constructor
  · rintro ⟨s, h⟩
    obtain ⟨cl, hcl, e⟩ := List.mem_map.mp h
    exact List.mem_map.mpr ⟨cl, hcl, by rw [← cl.reg_fst, e]⟩
  · intro h
    obtain ⟨cl, hcl, e⟩ := List.mem_map.mp h
    exact ⟨cl.reg.2, List.mem_map.mpr ⟨cl, hcl, by rw [← e, ← cl.reg_fst]⟩⟩

/-- The running fiber leaves: suspended it needs a wake-up source, finished nothing may carry its sched_id. -/
theorem Leaves.winv {f : Nat} {st : FStatus} {w w' : World} (h : Leaves f st w w') (hna : st ≠ .alive) (hm : WM w)
    (hcur : w.current = some f)
    (hsrc : st = .pending → LT w.fibers w.runq f = 1 ∨ liveTimer w.fibers w.timers f ∨ liveEntry w.fibers w.ent f)
    (hq : st ≠ .pending → WQuiet w f) : WInv w' := by
  unfold WM at hm; rw [hcur] at hm
  refine ⟨?_, fun g hg => nomatch h.current.symm.trans hg⟩
  unfold WM
  rw [h.runq, h.timers, ent_of_chans h.chans, h.current]
  exact M_leave f hm h.sched (h.status ▸ hna) h.canceled h.other (fun e => hsrc (h.status ▸ e))
    fun e => ⟨(hq (h.status ▸ e)).2.1, (hq (h.status ▸ e)).2.2⟩

theorem awaitFiber_W {w : World} {f : Nat} (hm : WM w) (hcur : w.current = some f)
    (hsrc : LT w.fibers w.runq f = 1 ∨ liveTimer w.fibers w.timers f ∨ liveEntry w.fibers w.ent f) :
    WInv (awaitFiber w f) :=
  (awaitFiber_leaves w f).winv nofun hm hcur (fun _ => hsrc) (fun h => absurd rfl h)

theorem finishFiber_W {w : World} {f : Nat} {err : Bool} (hm : WM w) (hcur : w.current = some f) (hq : WQuiet w f) :
    WInv (finishFiber w f err) :=
  (finishFiber_leaves w f err).winv (by cases err <;> exact nofun) hm hcur (by cases err <;> exact nofun) fun _ => hq

def ranFibers (w : World) (t : Task) (fb : Fiber) : Fibers := fun i => if i = t.fiber then fb else w.fibers i

/-- `task.fiber->sched_id++` comes after everything else the iteration does to the fiber: the invariant with the fiber
    not bumped gives the invariant with the fiber as the source leaves it -/
theorem M_ran_bump {cfg : Cfg} {w : World} {t : Task} {rq : List Task} {cur : Option Nat} (alive : Bool)
    (hM : M (ranFibers w t ((w.fibers t.fiber).ran false alive)) rq w.timers w.ent cur)
    (hnp : ((w.fibers t.fiber).ran false alive).status ≠ .pending) :
    M (ranFibers w t ((w.fibers t.fiber).ran cfg.resumeBumps alive)) rq w.timers w.ent cur ∧
    (Quiet (ranFibers w t ((w.fibers t.fiber).ran false alive)) rq w.timers w.ent t.fiber →
      Quiet (ranFibers w t ((w.fibers t.fiber).ran cfg.resumeBumps alive)) rq w.timers w.ent t.fiber) := by
  cases cfg.resumeBumps with
  | false => exact ⟨hM, id⟩
  | true =>
    have hself : ∀ fb, ranFibers w t fb t.fiber = fb := fun fb => if_pos rfl
    obtain ⟨a, b⟩ := M_bump_quiet (fb' := ranFibers w t ((w.fibers t.fiber).ran true alive)) t.fiber hM
      (by rw [hself, hself]; rfl) (by rw [hself, hself]; rfl) (by rw [hself, hself]; rfl)
      (fun h e => by unfold ranFibers; rw [if_neg e, if_neg e]) (by rw [hself]; exact hnp) (by rw [hself]; rfl)
    exact ⟨a, fun _ => b⟩

theorem loopRunTask_W {cfg : Cfg} {w : World} (hi : WInv w) (hcur : w.current = none) : WInv (loopRunTask cfg w).1 := by
  obtain ⟨hW, hqq⟩ := hi
  have hm : M w.fibers w.runq w.timers w.ent none := by
    have := hW
    unfold WM at this
    rwa [hcur] at this
  have h := run_out cfg w
  generalize loopRunTask cfg w = r at h
  -- what the fiber of the task looks like before the bump
  have hs : ∀ (t : Task) alive h, (ranFibers w t ((w.fibers t.fiber).ran false alive) h).sched = (w.fibers h).sched :=
    fun t alive h => by
      unfold ranFibers
      split
      · rename_i e; rw [e]; rfl
      · rfl
  have hoth : ∀ (t : Task) fb h, h ≠ t.fiber → ranFibers w t fb h = w.fibers h := fun t fb h e => if_neg e
  have hself : ∀ (t : Task) fb, ranFibers w t fb t.fiber = fb := fun t fb => if_pos rfl
  have nobody : ∀ {w' : World}, WM w' → w'.current = none → WInv w' := fun hM hc => ⟨hM, fun g hg => by rw [hc] at hg; cases hg⟩
  have popped : ∀ t rest, w.runq = t :: rest →
      t.expected ≠ (w.fibers t.fiber).sched ∨ (w.fibers t.fiber).status ≠ .pending →
      M (ranFibers w t ((w.fibers t.fiber).ran false false)) rest w.timers w.ent none := fun t rest hq hwhy => by
    rw [hq] at hm
    refine M_pop hm (hs t false) (fun h => ?_) (fun h e => by rw [hoth t _ h e]) (by rw [hself]; rfl) hwhy
    by_cases e : h = t.fiber
    · rw [e, hself]; rfl
    · rw [hoth t _ h e]
  cases h with
  | empty => exact ⟨hW, hqq⟩
  | skipped t rest hq hst => exact nobody (show M _ rest w.timers w.ent w.current from hcur ▸ popped t rest hq (Or.inl hst)) hcur
  | dead t rest hq hl hres =>
    have hnp : (w.fibers t.fiber).status ≠ .pending := fun e => by unfold fiberCanResume at hres; rw [e] at hres; cases hres
    exact nobody (show M _ rest w.timers w.ent w.current from
      hcur ▸ (M_ran_bump false (popped t rest hq (Or.inr hnp)) hnp).1) hcur
  | resumed t rest hq hl hres hsig | resumedErr t rest hq hl hres hsig =>
    rw [hq] at hm
    obtain ⟨hM, hQ⟩ := M_resume (fb' := ranFibers w t ((w.fibers t.fiber).ran false true)) hm (hs t true) hl
      (by rw [hself]; rfl) (fun h e => by rw [hoth t _ h e]) (fun h e => by rw [hoth t _ h e]) (by rw [hself]; rfl)
    obtain ⟨hM', hQ'⟩ := M_ran_bump (cfg := cfg) true hM (fun e => nomatch e)
    exact ⟨hM', fun g hg => by cases hg; exact hQ' hQ⟩

/-- the item a resumption value carries (`receivedOf` without the fiber) -/
def itemsOf : Val → List Nat
  | .num x => [x]
  | .take _ x => [x]
  | _ => []

/-- an action that is the identity or one call of janet_schedule_general, waking with a value that carries no item -/
def IsSched {α : Type} (act : World → α → World) : Prop :=
  ∀ u a, act u a = u ∨ ∃ g val sig, itemsOf val = [] ∧ act u a = scheduleGeneral u g val sig false

/-- One expired timer: nothing happens (a sleep / timeout timer is then stale), or its fiber is woken with a value that
    carries no item (by a sleep / timeout timer only if it is live). -/
theorem fireTimer_cases (u : World) (t : Timer) :
    (fireTimer u t = u ∧ (t.curr = none → t.sched ≠ (u.fibers t.fiber).sched)) ∨
    ∃ val sig, itemsOf val = [] ∧ fireTimer u t = scheduleGeneral u t.fiber val sig false ∧
      (t.curr = none → t.sched = (u.fibers t.fiber).sched) := by
  unfold fireTimer
  cases t.curr with
  | some s =>
    dsimp only
    cases u.scopes s
    · exact .inl ⟨rfl, nofun⟩
    · exact .inr ⟨.errDeadline, .error, rfl, rfl, nofun⟩
  | none =>
    dsimp only
    by_cases hl : (u.fibers t.fiber).sched = t.sched
    · rw [if_pos hl]
      cases t.isError
      · exact .inr ⟨.nil, .ok, rfl, rfl, fun _ => hl.symm⟩
      · exact .inr ⟨.errTimeout, .error, rfl, rfl, fun _ => hl.symm⟩
    · rw [if_neg hl]; exact .inl ⟨rfl, fun _ e => hl e.symm⟩

theorem fireTimer_isSched : IsSched fireTimer := fun u t =>
  (fireTimer_cases u t).imp (·.1) fun ⟨val, sig, h, e, _⟩ => ⟨_, val, sig, h, e⟩

/-- One expired timer of `tm`, the timers the invariant is stated for: the invariant stays, and a sleep / timeout timer
    does not carry its fiber's sched_id afterwards (its fiber is not cancelled, so the wake-up happens and bumps it). -/
theorem fireTimer_M {u : World} {tm : List Timer} {en : Ent} {t : Timer} (hm : M u.fibers u.runq tm en u.current)
    (ht : t ∈ tm) :
    M (fireTimer u t).fibers (fireTimer u t).runq tm en (fireTimer u t).current ∧
      (fireTimer u t).timers = u.timers ∧ (fireTimer u t).chans = u.chans ∧ (fireTimer u t).current = u.current ∧
      (t.curr = none → t.sched ≠ ((fireTimer u t).fibers t.fiber).sched) := by
  rcases fireTimer_cases u t with ⟨e, hl⟩ | ⟨val, sig, _, e, hl⟩ <;> rw [e]
  · exact ⟨hm, rfl, rfl, rfl, hl⟩
  · obtain ⟨h1, h2, h3, hcase⟩ := scheduleGeneral_props u t.fiber val sig
    refine ⟨M_schedule _ val sig hm, h1, h2, h3, fun hcn => ?_⟩
    rcases hcase with ⟨hcan, _⟩ | ⟨_, hs, _⟩
    · exact nomatch (not_canceled_of_source hm t.fiber (Or.inr ⟨t, ht, hcn, rfl, hl hcn⟩)).symm.trans hcan
    · rw [hs, hl hcn]; exact Nat.ne_of_lt (Nat.lt_succ_self _)

/-- The expired timers `l` of `tm`, fired in order: the invariant stays, and none of the sleep / timeout timers among
    them carries its fiber's sched_id afterwards. -/
theorem fireTimers_M {tm : List Timer} {en : Ent} : ∀ (l : List Timer) (u : World),
    M u.fibers u.runq tm en u.current → (∀ t ∈ l, t ∈ tm) →
    M (l.foldl fireTimer u).fibers (l.foldl fireTimer u).runq tm en (l.foldl fireTimer u).current ∧
      (l.foldl fireTimer u).timers = u.timers ∧ (l.foldl fireTimer u).chans = u.chans ∧
      (l.foldl fireTimer u).current = u.current ∧
      ∀ t ∈ l, t.curr = none → t.sched ≠ ((l.foldl fireTimer u).fibers t.fiber).sched
  | [], _, hm, _ => ⟨hm, rfl, rfl, rfl, fun _ h => nomatch h⟩
  | q :: rest, u, hm, hsub => by
    obtain ⟨hm1, t1, c1, k1, hq⟩ := fireTimer_M hm (hsub q (List.mem_cons_self ..))
    obtain ⟨hm2, t2, c2, k2, hrest⟩ := fireTimers_M rest (fireTimer u q) hm1 fun t h => hsub t (List.mem_cons_of_mem _ h)
    refine ⟨hm2, t2.trans t1, c2.trans c1, k2.trans k1, fun t ht hcn => ?_⟩
    rcases List.mem_cons.mp ht with rfl | ht
    · exact Nat.ne_of_lt (Nat.lt_of_lt_of_le
        (Nat.lt_of_le_of_ne (hm1.a3 t (hsub t (List.mem_cons_self ..))) (hq hcn))
        ((foldl_frame fireTimer fireTimer_frame rest (fireTimer u t)).sched t.fiber))
    · exact hrest t ht hcn

theorem mem_takeWhile_of_not_dropWhile {α : Type} (p : α → Bool) {l : List α} {a : α} (h : a ∈ l)
    (hn : a ∉ l.dropWhile p) : a ∈ l.takeWhile p := by
  rw [← List.takeWhile_append_dropWhile (p := p) (l := l)] at h
  exact (List.mem_append.mp h).resolve_right hn

theorem loopTimers_W {w : World} (hi : WInv w) (hcur : w.current = none) : WInv (loopTimers w) := by
  unfold loopTimers
  obtain ⟨hM, htm, hch, hc, hstale⟩ := fireTimers_M (tm := w.timers) (en := w.ent)
    (w.timers.takeWhile fun t => t.when ≤ w.clock + w.clockStep)
    { w with clock := w.clock + w.clockStep, timers := w.timers.dropWhile fun t => t.when ≤ w.clock + w.clockStep }
    hi.1 fun t h => (List.takeWhile_sublist _).subset h
  refine ⟨?_, fun g hg => nomatch (hc.trans hcur).symm.trans hg⟩
  unfold WM
  rw [ent_of_chans hch, htm]
  exact M_timer_shrink hM (fun t h => (List.dropWhile_sublist _).subset h) fun t ht hnt =>
    (Classical.em (t.curr = none)).symm.imp_right (hstale t (mem_takeWhile_of_not_dropWhile _ ht hnt))

theorem loopPollDrop_W {w : World} (hi : WInv w) (hcur : w.current = none) : WInv (loopPollDrop w) := by
  obtain ⟨hm, _⟩ := hi
  unfold WM at hm
  refine ⟨?_, fun g hg => by simp [loopPollDrop, hcur] at hg⟩
  show M w.fibers w.runq (w.timers.dropWhile (timerStale w)) w.ent w.current
  apply M_timer_shrink hm (fun t h => (List.dropWhile_sublist _).subset h)
  intro t ht hnt
  have := List.all_eq_true.mp List.all_takeWhile t (mem_takeWhile_of_not_dropWhile (timerStale w) ht hnt)
  unfold timerStale at this
  cases hcn : t.curr with
  | some s => left; intro c; cases c
  | none => right; rw [hcn] at this; intro e; simp at this; exact this e.symm

/-- what channel-close needs of the entries of `c`: none is from the future, a live one belongs to another fiber than the
    running one, and that fiber is suspended, so it can be resumed -/
theorem close_ok {w : World} {f : Nat} (hm : WM w) (hcur : w.current = some f) (hq : WQuiet w f) (c : Nat) (s : Side) :
    ∀ q ∈ (w.chans c).pend s, q.sched ≤ (w.fibers q.fiber).sched ∧
      (q.sched = (w.fibers q.fiber).sched → q.fiber ≠ f ∧ fiberCanResume (w.fibers q.fiber) = true) := by
  intro q hqin
  have hent : q ∈ w.ent c := (mem_ent_pend w c q).mpr ⟨s, hqin⟩
  refine ⟨hm.a1 c q hent, fun hl => ⟨hq.other c s q hqin hl, ?_⟩⟩
  have hle : liveEntry w.fibers w.ent q.fiber := ⟨c, q, hent, rfl, hl⟩
  unfold fiberCanResume
  cases hst : (w.fibers q.fiber).status with
  | dead | error =>
    refine absurd hle (hm.d2 q.fiber (by rw [hst]; intro e; cases e) ?_).2
    rw [hcur]
    exact fun e => hq.other c s q hqin hl (Option.some.inj e).symm
  | _ => rfl

/-- the queues a suspending operation registers the fiber in -/
def Action.regs : Action → List (Nat × Side)
  | .give c _ => [(c, .wr)]
  | .take c => [(c, .rd)]
  | .select cls => cls.map Clause.reg
  | _ => []

/-- What a transition of the running fiber `f` does after its channel operation `a` has left `w1`, by the registrations
    made and the items taken: it returns; returns the item it received; suspends itself with its own wake-up scheduled;
    suspends itself registered. -/
inductive Tail (f : Nat) (w1 : World) : Action → List (Nat × Side) → List Nat → World × Outcome → Prop
  | ret (a : Action) (v : Val) : Tail f w1 a [] [] (w1, .ret v)
  | recv (a : Action) (x : Nat) (v : Val) : Tail f w1 a [] [x] (received w1 f x, .ret v)
  | yield (c : Nat) (v : Val) : Tail f w1 (.take c) [] (itemsOf v) (awaitFiber (schedule w1 f v) f, .await)
  | wait (a : Action) (hne : a.regs ≠ []) : Tail f w1 a a.regs [] (awaitFiber w1 f, .await)

/-- The channel operation of a transition of the running fiber as steps, and what the transition does after them. -/
theorem OpOut.steps {cfg : Cfg} (hg : CfgGood cfg) {w : World} {f : Nat} {a : Action} {r : World × Outcome}
    (o : OpOut cfg w f a r) (hns : a.noSelfMatch) (hm : WM w) (hc : w.current = some f) (hq : WQuiet w f) :
    ∃ regs out w1, Steps (· = f) (· ≠ f) regs out w w1 ∧ Tail f w1 a regs out r := by
  cases o with
  | giveBlock c x w' hp =>
    exact ⟨_, _, w', chanPush_steps hg.strict hp _ _ (fun _ => rfl) (hq.other c .rd), .wait _ nofun⟩
  | giveRet c x w' hp => exact ⟨_, _, w', chanPush_steps hg.strict hp _ _ (fun _ => rfl) (hq.other c .rd), .ret _ _⟩
  | takeGot c w' r hp =>
    have hst := (chanPop_steps hg.skips w f c 0 (· = f) (· ≠ f) (fun _ => rfl)).1 w' r hp (hq.other c .wr)
    cases r with
    | none => exact ⟨_, _, w', hst, .yield c .nil⟩
    | some x => exact ⟨_, _, w', hst, .yield c (.num x)⟩
  | takeBlock c w' hp =>
    exact ⟨_, _, w', (chanPop_steps hg.skips w f c 0 (· = f) (· ≠ f) (fun _ => rfl)).2 w' hp, .wait _ nofun⟩
  | selectNow cls w' v hne hp =>
    obtain ⟨w1, ⟨hst, rfl⟩ | ⟨x, hst, rfl⟩⟩ := choiceImmediate_steps hg hp hq
    · exact ⟨_, _, _, hst, .ret _ v⟩
    · exact ⟨_, _, w1, hst, .recv _ x v⟩
  | selectWait cls hne hp =>
    exact ⟨_, _, _, (choiceRegister_steps hg f cls w (choiceImmediate_none hg w f cls hp) hns).1,
      .wait _ fun h => hne (List.map_eq_nil_iff.mp h)⟩
  | close c => exact ⟨_, _, _, chanClose_steps hg.closeChecks _ _ w c (close_ok hm hc hq c), .ret _ _⟩

theorem schedule_W_other {w : World} {f g : Nat} (val : Val) (sig : Sig) (hm : WM w) (hcur : w.current = some f)
    (hq : WQuiet w f) (hne : g ≠ f) :
    WInv (scheduleGeneral w g val sig false) := by
  obtain ⟨ht, hc, hk, _⟩ := scheduleGeneral_props w g val sig
  obtain ⟨hL, hff⟩ := schedule_other w g val sig f hne
  have hent := ent_of_chans hc
  refine ⟨?_, ?_⟩
  · unfold WM; rw [ht, hent]; exact M_schedule g val sig hm
  · intro f' hf'
    rw [hk, hcur] at hf'; injection hf' with hf'; subst hf'
    refine ⟨by rw [hL]; exact hq.1, ?_, ?_⟩
    · rw [ht, liveTimer_congr _ _ (by rw [hff])]; exact hq.2.1
    · rw [hent, liveEntry_congr _ _ (by rw [hff])]; exact hq.2.2

theorem mem_insertTimer (t : Timer) : ∀ (l : List Timer) (u : Timer), u ∈ insertTimer t l ↔ u = t ∨ u ∈ l := by
  intro l
  induction l with
  | nil => intro u; simp [insertTimer]
  | cons x rest ih =>
    intro u
    unfold insertTimer
    split
    · simp
    · simp only [List.mem_cons, ih]
      constructor
      · rintro (h | h | h)
        · exact Or.inr (Or.inl h)
        · exact Or.inl h
        · exact Or.inr (Or.inr h)
      · rintro (h | h | h)
        · exact Or.inr (Or.inl h)
        · exact Or.inl h
        · exact Or.inr (Or.inr h)

theorem LT_schedule_self {w : World} {tm : List Timer} {en : Ent} (g : Nat) (val : Val) (sig : Sig)
    (hm : M w.fibers w.runq tm en w.current) (hcan : (w.fibers g).canceled = false) :
    LT (scheduleGeneral w g val sig false).fibers (scheduleGeneral w g val sig false).runq g = 1 := by
  obtain ⟨_, _, _, pc⟩ := scheduleGeneral_props w g val sig
  rcases pc with ⟨hc, _⟩ | ⟨_, hs, _, _, hr⟩
  · rw [hcan] at hc; cases hc
  · have h0 := LT_bumped g hm.a2 hs
    unfold LT at h0 ⊢
    rw [hr, List.countP_append, h0]; simp [hs]

theorem WInv_congr (w w' : World) (hf : w'.fibers = w.fibers) (hr : w'.runq = w.runq) (ht : w'.timers = w.timers)
    (hc : w'.chans = w.chans) (hk : w'.current = w.current) (hi : WInv w) : WInv w' := by
  unfold WInv WM WQuiet at hi ⊢
  rw [hf, hr, ht, ent_of_chans hc, hk]
  exact hi

theorem yield_W {f : Nat} {w w1 : World} (hio : InOp f w [] w1) (hm : WM w) (hq : WQuiet w f) (v : Val) :
    WInv (awaitFiber (schedule w1 f v) f) := by
  have hcan1 : (w1.fibers f).canceled = false := by rw [hio.fib]; exact not_canceled_of_no_task hm hq.1
  obtain ⟨ht, hc, hk, _⟩ := scheduleGeneral_props w1 f v .ok
  apply awaitFiber_W
  · unfold WM schedule; rw [ht, ent_of_chans hc]; exact M_schedule f v .ok hio.wm
  · unfold schedule; rw [hk]; exact hio.cur
  · left; exact LT_schedule_self f v .ok hio.wm hcan1

theorem timerAdd_WM {w : World} {f : Nat} (hm : WM w) (hcur : w.current = some f) (hq : WQuiet w f) (t : Timer)
    (htf : t.fiber = f) (hts : t.sched = (w.fibers f).sched) (clk : Nat) (sc : Nat → Bool) :
    WM { w with clock := clk, scopes := sc, timers := insertTimer t w.timers } := by
  unfold WM at hm ⊢
  rw [hcur] at hm
  exact hcur ▸ M_timer_add f t hm rfl htf hts hq.1 (mem_insertTimer _ _)

theorem step_W {cfg : Cfg} (hg : CfgGood cfg) (w : World) (a : Action) (hns : a.noSelfMatch) (hi : WInv w) :
    WInv (step cfg w a).1 := by
  obtain ⟨hm, hqq⟩ := hi
  have h := step_out cfg w a
  generalize step cfg w a = r at h
  cases h with
  | idle => exact ⟨hm, hqq⟩
  | runTask hc => exact loopRunTask_W ⟨hm, hqq⟩ hc
  | timers hc => exact loopTimers_W ⟨hm, hqq⟩ hc
  | poll hc => exact loopPollDrop_W ⟨hm, hqq⟩ hc
  | supEvent hc c x => exact supPush_W hg.strict ⟨hm, hqq⟩ hc
  | scopeEnd s => exact WInv_congr w _ rfl rfl rfl rfl rfl ⟨hm, hqq⟩
  | go f g hc hnew =>
    refine schedule_W_other .nil .ok hm hc (hqq f hc) fun e => ?_
    rw [e, hm.d5 f hc] at hnew
    cases hnew.1
  | cancel f g hc hne => exact schedule_W_other .errCancel .error hm hc (hqq f hc) hne
  | deadline f s ms hc =>
    have hq := hqq f hc
    refine ⟨timerAdd_WM hm hc hq _ rfl rfl _ _, fun f' hf' => ?_⟩
    cases hc.symm.trans hf'
    refine ⟨hq.1, ?_, hq.2.2⟩
    rintro ⟨u, hu, h1, h2, h3⟩
    rcases (mem_insertTimer _ _ u).mp hu with e | e
    · subst e; cases h1
    · exact hq.2.1 ⟨u, e, h1, h2, h3⟩
  | sleep f ms hc =>
    exact awaitFiber_W (timerAdd_WM hm hc (hqq f hc) _ rfl rfl _ w.scopes) hc
      (Or.inr (Or.inl ⟨_, (mem_insertTimer _ _ _).mpr (Or.inl rfl), rfl, rfl, rfl⟩))
  | giveClosed f c x hc | finish f e hc => exact finishFiber_W hm hc (hqq f hc)
  | op f hc o =>
    have hq := hqq f hc
    obtain ⟨regs, out, w1, hst, ht⟩ := o.steps hg hns hm hc hq
    have hio := hst.inOp [] (InOp.start hm hc hq)
    cases ht with
    | ret _ v => exact hio.winv hq
    | recv _ x v => exact (hio.received x).winv hq
    | yield c v => exact yield_W hio hm hq v
    | wait _ hne =>
      obtain ⟨cs, hcs⟩ := List.exists_mem_of_ne_nil _ hne
      exact awaitFiber_W hio.wm hio.cur (Or.inr (Or.inr (hio.source hcs)))

theorem run_W {cfg : Cfg} (hg : CfgGood cfg) (as : List Action) :
    ∀ w : World, (∀ a ∈ as, a.noSelfMatch) → WInv w → WInv (run cfg w as) :=
  fun w hns => run_of_step cfg as (fun w a ha => step_W hg w a (hns a ha)) w

theorem start_W (limits : Nat → Nat) : WInv (World.start limits) := by
  unfold World.start schedule
  have no : ∀ {α : Type} {a : α} {p : Prop}, a ∈ ([] : List α) → p := fun h => nomatch h
  have h0 : WM (World.init limits) :=
    show M (fun _ => {}) [] [] (fun _ => []) none from
    ⟨fun _ _ => no, fun _ => no, fun _ => no, fun _ => Nat.zero_le _, nofun,
      fun _ _ _ => ⟨fun ⟨_, h, _⟩ => no h, fun ⟨_, _, h, _⟩ => no h⟩, nofun, nofun, nofun, nofun⟩
  obtain ⟨ht, hc, hk, _⟩ := scheduleGeneral_props (World.init limits) 0 .nil .ok
  refine ⟨?_, fun f hf => by rw [hk] at hf; simp [World.init] at hf⟩
  unfold WM; rw [ht, ent_of_chans hc]; exact M_schedule 0 .nil .ok h0

theorem await_liveIn (w : World) (f c : Nat) :
    liveIn (awaitFiber w f).fibers (awaitFiber w f).ent f c ↔ liveIn w.fibers w.ent f c :=
  liveIn_congr w.ent f c ((awaitFiber_leaves w f).sched f)

theorem await_LT (w : World) (f : Nat) : LT (awaitFiber w f).fibers (awaitFiber w f).runq f = LT w.fibers w.runq f :=
  LT_congr w.runq f ((awaitFiber_leaves w f).sched f)

/-- A transition that suspends the running fiber: a take that found an item has its wake-up scheduled and is registered
    nowhere; otherwise the fiber has no task and is registered exactly where its operation says. -/
theorem OpOut.suspends {cfg : Cfg} (hg : CfgGood cfg) {w w' : World} {f : Nat} {a : Action} (o : OpOut cfg w f a (w', .await))
    (hns : a.noSelfMatch) (hi : WInv w) (hc : w.current = some f) :
    ((∃ c, a = .take c) ∧ LT w'.fibers w'.runq f = 1 ∧ ∀ c', ¬ liveIn w'.fibers w'.ent f c') ∨
    (LT w'.fibers w'.runq f = 0 ∧ ∀ c', liveIn w'.fibers w'.ent f c' ↔ ∃ s, (c', s) ∈ a.regs) := by
  have hq := hi.2 f hc
  obtain ⟨regs, out, w1, hst, ht⟩ := o.steps hg hns hi.1 hc hq
  have hio := hst.inOp [] (InOp.start hi.1 hc hq)
  cases ht with
  | yield c v =>
    have hl1 : LT (awaitFiber (schedule w1 f v) f).fibers (awaitFiber (schedule w1 f v) f).runq f = 1 := by
      rw [await_LT _ f]
      exact LT_schedule_self f v .ok hio.wm (by rw [hio.fib]; exact not_canceled_of_no_task hi.1 hq.1)
    exact .inl ⟨⟨c, rfl⟩, hl1, fun c' hl => ((yield_W hio hi.1 hq v).1.d3 f hl1).2 ⟨c', hl⟩⟩
  | wait _ hne =>
    refine .inr ⟨by rw [await_LT _ f]; exact hio.lt, fun c' => ?_⟩
    rw [await_liveIn _ f c', hio.liveIn]
    exact ⟨fun h => h.elim (fun h => absurd ⟨c', h⟩ hq.2.2) id, Or.inr⟩

theorem mem_reg_singleton (c' c : Nat) (s : Side) : (∃ s', (c', s') ∈ [(c, s)]) ↔ c' = c :=
  ⟨fun ⟨_, h⟩ => congrArg Prod.fst (List.mem_singleton.mp h), fun e => ⟨s, List.mem_singleton.mpr (congrArg (·, s) e)⟩⟩

theorem give_suspends_exactly {cfg : Cfg} (hg : CfgGood cfg) {w : World} {f c x : Nat} (hi : WInv w)
    (hcur : w.current = some f) (w' : World) (h : step cfg w (.give c x) = (w', .await)) :
    LT w'.fibers w'.runq f = 0 ∧ ∀ c', liveIn w'.fibers w'.ent f c' ↔ c' = c := by
  have ho := step_out cfg w (.give c x)
  rw [h] at ho
  cases ho with
  | op f' hc o =>
    cases hcur.symm.trans hc
    rcases o.suspends hg trivial hi hcur with ⟨⟨_, e⟩, _⟩ | ⟨h0, hl⟩
    · cases e
    · exact ⟨h0, fun c' => (hl c').trans (mem_reg_singleton c' c .wr)⟩

theorem take_suspends_exactly {cfg : Cfg} (hg : CfgGood cfg) {w : World} {f c : Nat} (hi : WInv w)
    (hcur : w.current = some f) (w' : World) (h : step cfg w (.take c) = (w', .await)) :
    (LT w'.fibers w'.runq f = 1 ∧ ∀ c', ¬ liveIn w'.fibers w'.ent f c') ∨
    (LT w'.fibers w'.runq f = 0 ∧ ∀ c', liveIn w'.fibers w'.ent f c' ↔ c' = c) := by
  have ho := step_out cfg w (.take c)
  rw [h] at ho
  cases ho with
  | op f' hc o =>
    cases hcur.symm.trans hc
    exact (o.suspends hg trivial hi hcur).imp (·.2) fun ⟨h0, hl⟩ =>
      ⟨h0, fun c' => (hl c').trans (mem_reg_singleton c' c .rd)⟩

theorem select_suspends_exactly {cfg : Cfg} (hg : CfgGood cfg) {w : World} {f : Nat} {cls : List Clause} (hi : WInv w)
    (hcur : w.current = some f) (hnd : (cls.map Clause.chan).Nodup) (w' : World)
    (h : step cfg w (.select cls) = (w', .await)) :
    LT w'.fibers w'.runq f = 0 ∧ ∀ c', liveIn w'.fibers w'.ent f c' ↔ c' ∈ cls.map Clause.chan := by
  have ho := step_out cfg w (.select cls)
  rw [h] at ho
  cases ho with
  | op f' hc o =>
    cases hcur.symm.trans hc
    rcases o.suspends hg hnd hi hcur with ⟨⟨_, e⟩, _⟩ | ⟨h0, hl⟩
    · cases e
    · exact ⟨h0, fun c' => (hl c').trans (mem_map_reg cls c')⟩

end JanetModel.Ev
