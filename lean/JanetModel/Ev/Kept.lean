/- The registrations of a suspended fiber are KEPT until the step that schedules it.
   A relation `Evo cur w w'` that every transition of the model satisfies:
     * sched_ids only grow;
     * an entry that is new in a pending queue, a new timer, a newly suspended fiber belongs to the running fiber `cur`;
     * a new task carries a sched_id from the future of its fiber (it comes with a bump);
     * an entry that left a pending queue was stale, or its fiber's sched_id was bumped in the same transition.
   Then the ghost of the pending operation (`Ev/Ghost.lean`) and the invariant `KInv` over `(world, ghost)`.  -/
import JanetModel.Ev.Wakeup
import JanetModel.Ev.Ghost
namespace JanetModel.Ev

structure EvoQ (cur : Option Nat) (w w' : World) : Prop where
  mono : ∀ f, (w.fibers f).sched ≤ (w'.fibers f).sched
  new : ∀ c s p, p ∈ (w'.chans c).pend s → p ∈ (w.chans c).pend s ∨ cur = some p.fiber
  gone : ∀ c s p, p ∈ (w.chans c).pend s → p ∉ (w'.chans c).pend s →
    p.sched ≠ (w.fibers p.fiber).sched ∨ (w.fibers p.fiber).sched < (w'.fibers p.fiber).sched

structure EvoS (cur : Option Nat) (w w' : World) : Prop where
  mono : ∀ f, (w.fibers f).sched ≤ (w'.fibers f).sched
  newTm : ∀ t ∈ w'.timers, t ∈ w.timers ∨ cur = some t.fiber
  newTask : ∀ t ∈ w'.runq, t ∈ w.runq ∨ (w.fibers t.fiber).sched < t.expected
  pend : ∀ f, (w'.fibers f).status = .pending → (w.fibers f).status = .pending ∨ cur = some f

def Evo (cur : Option Nat) (w w' : World) : Prop := EvoQ cur w w' ∧ EvoS cur w w'

theorem EvoQ.refl (cur : Option Nat) (w : World) : EvoQ cur w w :=
  ⟨fun _ => Nat.le_refl _, fun _ _ _ h => Or.inl h, fun _ _ _ h hn => absurd h hn⟩

theorem EvoS.refl (cur : Option Nat) (w : World) : EvoS cur w w :=
  ⟨fun _ => Nat.le_refl _, fun _ h => Or.inl h, fun _ h => Or.inl h, fun _ h => Or.inl h⟩

theorem EvoQ.trans {cur : Option Nat} {a b c : World} (h1 : EvoQ cur a b) (h2 : EvoQ cur b c) : EvoQ cur a c := by
  refine ⟨fun f => Nat.le_trans (h1.mono f) (h2.mono f), ?_, ?_⟩
  · intro ch s p hp
    rcases h2.new ch s p hp with h | h
    · exact h1.new ch s p h
    · exact Or.inr h
  · intro ch s p hp hnp
    by_cases hb : p ∈ (b.chans ch).pend s
    · rcases h2.gone ch s p hb hnp with h | h
      · by_cases e : p.sched = (a.fibers p.fiber).sched
        · right
          have := h1.mono p.fiber; have := h2.mono p.fiber
          have : (a.fibers p.fiber).sched ≠ (b.fibers p.fiber).sched := fun e' => h (e.trans e')
          omega
        · exact Or.inl e
      · right; have := h1.mono p.fiber; omega
    · rcases h1.gone ch s p hp hb with h | h
      · exact Or.inl h
      · right; have := h2.mono p.fiber; omega

theorem EvoS.trans {cur : Option Nat} {a b c : World} (h1 : EvoS cur a b) (h2 : EvoS cur b c) : EvoS cur a c := by
  refine ⟨fun f => Nat.le_trans (h1.mono f) (h2.mono f), ?_, ?_, ?_⟩
  · intro t ht
    rcases h2.newTm t ht with h | h
    · exact h1.newTm t h
    · exact Or.inr h
  · intro t ht
    rcases h2.newTask t ht with h | h
    · exact h1.newTask t h
    · right; have := h1.mono t.fiber; omega
  · intro f hf
    rcases h2.pend f hf with h | h
    · exact h1.pend f h
    · exact Or.inr h

theorem Evo.refl (cur : Option Nat) (w : World) : Evo cur w w := ⟨EvoQ.refl cur w, EvoS.refl cur w⟩
theorem Evo.trans {cur : Option Nat} {a b c : World} (h1 : Evo cur a b) (h2 : Evo cur b c) : Evo cur a c :=
  ⟨h1.1.trans h2.1, h1.2.trans h2.2⟩

theorem EvoQ.of_chans {cur : Option Nat} {w w' : World} (hc : w'.chans = w.chans)
    (hm : ∀ f, (w.fibers f).sched ≤ (w'.fibers f).sched) : EvoQ cur w w' := by
  refine ⟨hm, ?_, ?_⟩
  · intro c s p hp; rw [hc] at hp; exact Or.inl hp
  · intro c s p hp hnp; rw [hc] at hnp; exact absurd hp hnp

theorem EvoS.of_same {cur : Option Nat} {w w' : World} (hf : w'.fibers = w.fibers) (hr : w'.runq = w.runq)
    (ht : w'.timers = w.timers) : EvoS cur w w' := by
  refine ⟨fun f => by rw [hf]; exact Nat.le_refl _, ?_, ?_, ?_⟩
  · intro t h; rw [ht] at h; exact Or.inl h
  · intro t h; rw [hr] at h; exact Or.inl h
  · intro f h; rw [hf] at h; exact Or.inl h

theorem scheduleGeneral_Evo (cur : Option Nat) (w : World) (g : Nat) (val : Val) (sig : Sig) :
    Evo cur w (scheduleGeneral w g val sig false) := by
  obtain ⟨ht, hc, _, hcase⟩ := scheduleGeneral_props w g val sig
  have hmono := (scheduleGeneral_frame w g val sig false).sched
  refine ⟨EvoQ.of_chans hc hmono, hmono, ?_, ?_, ?_⟩
  · intro t h; rw [ht] at h; exact Or.inl h
  · intro t h
    rcases hcase with ⟨_, _, hr⟩ | ⟨_, _, _, _, hr⟩
    · rw [hr] at h; exact Or.inl h
    · rw [hr] at h
      rcases List.mem_append.mp h with h | h
      · exact Or.inl h
      · right; simp at h; subst h; exact Nat.lt_succ_self _
  · intro f h
    left
    rcases hcase with ⟨_, hf, _⟩ | ⟨_, _, hst, hoth, _⟩
    · rw [hf] at h; exact h
    · by_cases e : f = g
      · subst e; rw [hst] at h; exact h
      · rw [hoth f e] at h; exact h

theorem fold_Evo {α : Type} (cur : Option Nat) (act : World → α → World) (hact : IsSched act) :
    ∀ (l : List α) (u : World), Evo cur u (l.foldl act u) := by
  intro l
  induction l with
  | nil => intro u; exact Evo.refl cur u
  | cons a rest ih =>
    intro u
    simp only [List.foldl_cons]
    refine Evo.trans ?_ (ih (act u a))
    rcases hact u a with e | ⟨g, val, sig, _, e⟩
    · rw [e]; exact Evo.refl cur u
    · rw [e]; exact scheduleGeneral_Evo cur u g val sig

/-- no live pending entry belongs to a cancelled fiber (consequence of the wake-up invariant) -/
def NC (w : World) : Prop :=
  ∀ c p, p ∈ w.ent c → p.sched = (w.fibers p.fiber).sched → (w.fibers p.fiber).canceled = false

theorem NC_of_WM {w : World} (hm : WM w) : NC w :=
  fun c p hp hs => not_canceled_of_source hm p.fiber (Or.inl ⟨c, p, hp, rfl, hs⟩)

theorem schedule_bump_of_not_canceled (w : World) (g : Nat) (val : Val) (sig : Sig)
    (h : (w.fibers g).canceled = false) :
    (w.fibers g).sched < ((scheduleGeneral w g val sig false).fibers g).sched := by
  obtain ⟨_, _, _, hcase⟩ := scheduleGeneral_props w g val sig
  rcases hcase with ⟨hc, _⟩ | ⟨_, hs, _⟩
  · rw [h] at hc; cases hc
  · rw [hs]; exact Nat.lt_succ_self _

theorem QMove.evo {self other : Nat → Prop} {r : List (Nat × Side)} {a b : World} (h : QMove self other r a b)
    (cur : Option Nat) (hself : ∀ g, self g → cur = some g) (hnc : NC a) : Evo cur a b := by
  cases h with
  | shrink c s l' hs hq sub gone _ =>
    refine ⟨⟨fun g => by rw [hs.1]; exact Nat.le_refl _, fun c' s' p hp => ?_, fun c' s' p hp hnp => ?_⟩,
      EvoS.of_same hs.1 hs.2.1 hs.2.2.1⟩
    · rw [hq] at hp
      split at hp
      · rename_i e; obtain ⟨rfl, rfl⟩ := e; exact Or.inl (sub.subset hp)
      · exact Or.inl hp
    · rw [hq] at hnp
      split at hnp
      · rename_i e; obtain ⟨rfl, rfl⟩ := e; exact Or.inl (gone p hp hnp)
      · exact absurd hp hnp
  | add c s reg hs hq hreg _ =>
    refine ⟨⟨fun g => by rw [hs.1]; exact Nat.le_refl _, fun c' s' p hp => ?_, fun c' s' p hp hnp => ?_⟩,
      EvoS.of_same hs.1 hs.2.1 hs.2.2.1⟩
    · rw [hq] at hp
      split at hp
      · rename_i e
        obtain ⟨rfl, rfl⟩ := e
        exact (List.mem_append.mp hp).imp id fun h => hself _ (hreg p h).2.1
      · exact Or.inl hp
    · rw [hq] at hnp
      split at hnp
      · rename_i e; obtain ⟨rfl, rfl⟩ := e; exact absurd (List.mem_append_left _ hp) hnp
      · exact absurd hp hnp
  | wake c s p l' v w1 hs hb hq hl live oth _ =>
    have hE : Evo cur w1 b := hb ▸ scheduleGeneral_Evo cur w1 p.fiber v .ok
    have hch : b.chans = w1.chans := by rw [hb]; exact scheduleGeneral_chans ..
    have hpin : p ∈ a.ent c := (mem_ent_pend a c p).mpr ⟨s, hl ▸ List.mem_cons_self ..⟩
    have hbump : (a.fibers p.fiber).sched < (b.fibers p.fiber).sched := by
      rw [hb, ← hs.1]
      exact schedule_bump_of_not_canceled w1 p.fiber v .ok (hs.1 ▸ hnc c p hpin live)
    refine ⟨⟨fun g => hs.1 ▸ hE.1.mono g, fun c' s' q hq' => ?_, fun c' s' q hq' hnq => ?_⟩,
      (EvoS.of_same hs.1 hs.2.1 hs.2.2.1).trans hE.2⟩
    · rw [hch, hq] at hq'
      split at hq'
      · rename_i e; obtain ⟨rfl, rfl⟩ := e; exact Or.inl (hl ▸ List.mem_cons_of_mem _ hq')
      · exact Or.inl hq'
    · rw [hch, hq] at hnq
      split at hnq
      · rename_i e
        obtain ⟨rfl, rfl⟩ := e
        rw [hl] at hq'
        rcases List.mem_cons.mp hq' with h | h
        · exact Or.inr (h ▸ hbump)
        · exact absurd h hnq
      · exact absurd hq' hnq

/-- `J`: what holds along the sequence and gives that no live entry belongs to a cancelled fiber -/
theorem Steps.evo_of {self other : Nat → Prop} {r : List (Nat × Side)} {o : List Nat} {w w' : World}
    (h : Steps self other r o w w')
    (cur : Option Nat) (hself : ∀ g, self g → cur = some g) (J : World → Prop)
    (hJ : ∀ {r o a b}, Atom self other r o a b → J a → J b) (hnc : ∀ u, J u → NC u) : J w → Evo cur w w' := by
  induction h with
  | nil => intro _; exact Evo.refl _ _
  | cons ha _ ih => intro hj; exact (ha.qmove.evo cur hself (hnc _ hj)).trans (ih (hJ ha hj))

theorem Steps.evo {f : Nat} {r R : List (Nat × Side)} {o : List Nat} {w0 w w' : World}
    (h : Steps (· = f) (· ≠ f) r o w w')
    (hi : InOp f w0 R w) : Evo (some f) w w' :=
  h.evo_of (some f) (fun _ h => congrArg some h.symm) (fun u => ∃ R, InOp f w0 R u) (fun ha ⟨_, hi⟩ => ⟨_, ha.inOp hi⟩)
    (fun _ ⟨_, hi⟩ => NC_of_WM hi.wm) ⟨R, hi⟩

theorem Evo.of_same {cur : Option Nat} {w w' : World} (hf : w'.fibers = w.fibers) (hr : w'.runq = w.runq)
    (ht : w'.timers = w.timers) (hc : w'.chans = w.chans) : Evo cur w w' :=
  ⟨EvoQ.of_chans hc (fun f => by rw [hf]; exact Nat.le_refl _), EvoS.of_same hf hr ht⟩

theorem mem_regs (a : Action) (c : Nat) (s : Side) :
    (c, s) ∈ a.regs ↔ c ∈ (match s with | .rd => a.readChans | .wr => a.writeChans) := by
  cases a with
  | select cls =>
    show _ ∈ cls.map _ ↔ _
    cases s
    all_goals
      show _ ↔ c ∈ cls.filterMap _
      rw [List.mem_map, List.mem_filterMap]
      exact exists_congr fun cl => and_congr_right fun _ => by cases cl <;> simp [Clause.reg, eq_comm]
  | _ => cases s <;> simp [Action.regs, Action.readChans, Action.writeChans]

theorem Leaves.evo {f : Nat} {st : FStatus} {w w' : World} (h : Leaves f st w w') : Evo (some f) w w' := by
  have hs : ∀ g, (w.fibers g).sched ≤ (w'.fibers g).sched := fun g => Nat.le_of_eq (h.sched g).symm
  refine ⟨EvoQ.of_chans h.chans hs, hs, fun t ht => Or.inl (h.timers ▸ ht), fun t ht => Or.inl (h.runq ▸ ht), fun g hg => ?_⟩
  by_cases e : g = f
  · exact Or.inr (e ▸ rfl)
  · exact Or.inl (h.other g e ▸ hg)

theorem loopRunTask_Evo (cfg : Cfg) (w : World) : Evo none w (loopRunTask cfg w).1 := by
  rcases loopRunTask_cases cfg w with ⟨_, he⟩ | ⟨t, rest, hq, hr, ht, hc, _, _, hoth, hs, hst, _⟩
  · rw [he]; exact Evo.refl _ _
  · have hsall := (loopRunTask_frame cfg w).sched
    refine ⟨EvoQ.of_chans hc hsall, hsall,
      fun u h => by rw [ht] at h; exact Or.inl h, fun u h => by rw [hr] at h; rw [hq]; exact Or.inl (List.mem_cons_of_mem _ h), ?_⟩
    intro g h
    left
    by_cases e : g = t.fiber
    · subst e
      rcases hst with hst | hst
      · rw [hst] at h; exact h
      · rw [hst] at h; cases h
    · rw [hoth g e] at h; exact h

theorem Evo_timers_sub (w : World) (clk : Nat) (tm : List Timer) (h : ∀ t ∈ tm, t ∈ w.timers) :
    Evo none w { w with clock := clk, timers := tm } :=
  ⟨EvoQ.of_chans rfl (fun _ => Nat.le_refl _), fun _ => Nat.le_refl _, fun t ht => Or.inl (h t ht), fun _ h => Or.inl h,
    fun _ h => Or.inl h⟩

theorem loopTimers_Evo (w : World) : Evo none w (loopTimers w) := by
  unfold loopTimers
  exact (Evo_timers_sub w _ _ (fun t h => (List.dropWhile_sublist _).subset h)).trans
    (fold_Evo none fireTimer fireTimer_isSched _ _)

theorem loopPollDrop_Evo (w : World) : Evo none w (loopPollDrop w) := by
  refine ⟨EvoQ.of_chans rfl (fun g => Nat.le_refl _), fun g => Nat.le_refl _, ?_, fun t h => Or.inl h, fun g h => Or.inl h⟩
  intro t h; exact Or.inl ((List.dropWhile_sublist _).subset h)

theorem Evo_timer_insert (w : World) (f : Nat) (t : Timer) (clk : Nat) (sc : Nat → Bool) (cr : Option Nat)
    (htf : t.fiber = f) :
    Evo (some f) w { w with clock := clk, scopes := sc, current := cr, timers := insertTimer t w.timers } := by
  refine ⟨EvoQ.of_chans rfl (fun g => Nat.le_refl _), fun g => Nat.le_refl _, ?_, fun t h => Or.inl h, fun g h => Or.inl h⟩
  intro u hu
  rcases (mem_insertTimer t w.timers u).mp hu with e | e
  · right; rw [e, htf]
  · exact Or.inl e

theorem step_Evo {cfg : Cfg} (hg : CfgGood cfg) (w : World) (a : Action) (hns : a.noSelfMatch) (hi : WInv w) :
    Evo w.current w (step cfg w a).1 := by
  obtain ⟨hm, hqq⟩ := hi
  have h := step_out cfg w a
  generalize step cfg w a = r at h
  cases h with
  | idle => exact Evo.refl _ _
  | runTask hc => rw [hc]; exact loopRunTask_Evo cfg w
  | timers hc => rw [hc]; exact loopTimers_Evo w
  | poll hc => rw [hc]; exact loopPollDrop_Evo w
  | scopeEnd s => exact Evo.of_same rfl rfl rfl rfl
  | supEvent hc c x =>
    rw [hc]
    unfold supPush
    cases hp : chanPush cfg w 0 c x 2 with
    | closedErr => exact Evo.refl _ _
    | ok w1 b =>
      exact (supPush_steps hg.strict hp).evo_of none (fun _ h => h.elim) WM (fun ha hm => ha.qmove.wm hm fun _ h => h.elim)
        (fun _ => NC_of_WM) hm
  | go f g hc => exact scheduleGeneral_Evo _ w g .nil .ok
  | cancel f g hc => exact scheduleGeneral_Evo _ w g .errCancel .error
  | deadline f s ms hc => rw [hc]; exact Evo_timer_insert w f _ _ _ _ rfl
  | sleep f ms hc =>
    rw [hc]
    exact (Evo_timer_insert w f ⟨f, (w.fibers f).sched, w.clock + w.clockStep + ms, false, none⟩ _ w.scopes _ rfl).trans
      (awaitFiber_leaves _ f).evo
  | giveClosed f c x hc | finish f e hc => rw [hc]; exact (finishFiber_leaves w f _).evo
  | op f hc o =>
    rw [hc]
    obtain ⟨regs, out, w1, hst, ht⟩ := o.steps hg hns hm hc (hqq f hc)
    have hE := hst.evo (InOp.start hm hc (hqq f hc))
    cases ht with
    | ret _ v => exact hE
    | recv _ x v => exact hE.trans (Evo.of_same rfl rfl rfl rfl)
    | yield c v => exact (hE.trans (scheduleGeneral_Evo _ w1 f v .ok)).trans (awaitFiber_leaves _ f).evo
    | wait _ hne => exact hE.trans (awaitFiber_leaves w1 f).evo

/-- what the ghost `op` says about the suspended fiber `f` -/
structure KOK (w : World) (f : Nat) (op : POp) : Prop where
  le : op.sched ≤ (w.fibers f).sched
  /-- not scheduled since it suspended: registered exactly as its operation says, nothing else -/
  kept : op.sched = (w.fibers f).sched →
    (∀ c, regR w f op.sched c ↔ c ∈ op.act.readChans) ∧ (∀ c, regW w f op.sched c ↔ c ∈ op.act.writeChans) ∧
    (liveTimer w.fibers w.timers f ↔ op.act.isSleep = true) ∧ LT w.fibers w.runq f = 0
  /-- scheduled since: its wake-up task is in the run queue -/
  woken : op.sched < (w.fibers f).sched → LT w.fibers w.runq f = 1

def KInv (w : World) (g : Ops) : Prop := ∀ f, (w.fibers f).status = .pending → ∃ op, g f = some op ∧ KOK w f op

theorem liveOn_rd (w : World) (f c : Nat) : liveOn w f c .rd ↔ regR w f (w.fibers f).sched c := Iff.rfl

theorem liveOn_wr (w : World) (f c : Nat) : liveOn w f c .wr ↔ regW w f (w.fibers f).sched c := Iff.rfl

theorem liveIn_iff_reg (w : World) (f c : Nat) :
    liveIn w.fibers w.ent f c ↔ regR w f (w.fibers f).sched c ∨ regW w f (w.fibers f).sched c := by
  unfold liveIn regR regW
  constructor
  · rintro ⟨p, hp, h1, h2⟩
    rcases (mem_ent w c p).mp hp with h | h
    · exact Or.inl ⟨p, h, h1, h2⟩
    · exact Or.inr ⟨p, h, h1, h2⟩
  · rintro (⟨p, hp, h1, h2⟩ | ⟨p, hp, h1, h2⟩)
    · exact ⟨p, (mem_ent w c p).mpr (Or.inl hp), h1, h2⟩
    · exact ⟨p, (mem_ent w c p).mpr (Or.inr hp), h1, h2⟩

theorem stepG_ghost_other (cfg : Cfg) (w : World) (g : Ops) (a : Action) (f : Nat) (h : w.current ≠ some f) :
    (stepG cfg w g a).2 f = g f := by
  unfold stepG
  simp only []
  cases hc : w.current with
  | none => cases (step cfg w a).2 <;> rfl
  | some f0 =>
    have hne : f ≠ f0 := fun e => h (by rw [hc, e])
    cases (step cfg w a).2 <;> simp [hne]

theorem stepG_ghost_self (cfg : Cfg) (w : World) (g : Ops) (a : Action) (f : Nat) (h : w.current = some f)
    (ho : (step cfg w a).2 = .await) : (stepG cfg w g a).2 f = some ⟨a, (w.fibers f).sched⟩ := by
  unfold stepG
  simp only [h, ho, ↓reduceIte]

theorem LT_eq_zero_iff (fb : Fibers) (rq : List Task) (f : Nat) :
    LT fb rq f = 0 ↔ ∀ t ∈ rq, ¬ (t.fiber = f ∧ t.expected = (fb f).sched) := by
  unfold LT
  rw [List.countP_eq_zero]
  constructor
  · intro h t ht hh; exact h t ht (by simp [hh.1, hh.2])
  · intro h t ht hh
    simp only [Bool.and_eq_true, beq_iff_eq] at hh
    exact h t ht hh

theorem sleep_no_chans (a : Action) (h : a.isSleep = true) : a.readChans = [] ∧ a.writeChans = [] := by
  cases a <;> simp [Action.isSleep] at h <;> exact ⟨rfl, rfl⟩

theorem KOK_step {cur : Option Nat} {w w' : World} {f : Nat} {op : POp} (hE : Evo cur w w') (hW : WInv w) (hW' : WInv w')
    (hcur : cur ≠ some f) (hp' : (w'.fibers f).status = .pending) (hk : KOK w f op) : KOK w' f op := by
  have hmono := hE.1.mono f
  have hnotcur : ∀ {g : Nat}, g = f → cur ≠ some g := fun e => e ▸ hcur
  have hEnt : ∀ c p, p ∈ w'.ent c → p.fiber = f → p ∈ w.ent c := by
    intro c p hp hf
    obtain ⟨s, h⟩ := (mem_ent_pend w' c p).mp hp
    rcases hE.1.new c s p h with h | h
    · exact (mem_ent_pend w c p).mpr ⟨s, h⟩
    · exact absurd h (hnotcur hf)
  have hTm : ∀ t ∈ w'.timers, t.fiber = f → t ∈ w.timers := by
    intro t ht hf
    rcases hE.2.newTm t ht with h | h
    · exact h
    · exact absurd h (hnotcur hf)
  -- with an unchanged sched_id, live entries / timers of f in w' were there in w
  have hback : (w'.fibers f).sched = (w.fibers f).sched →
      (liveTimer w'.fibers w'.timers f → liveTimer w.fibers w.timers f) ∧
      (liveEntry w'.fibers w'.ent f → liveEntry w.fibers w.ent f) := by
    intro hs
    constructor
    · rintro ⟨t, ht, h1, h2, h3⟩; exact ⟨t, hTm t ht h2, h1, h2, by rw [h3, hs]⟩
    · rintro ⟨c, p, hp, h1, h2⟩; exact ⟨c, p, hEnt c p hp h1, h1, by rw [h2, hs]⟩
  -- after a bump nothing of f is live except its task
  have hbumped : (w.fibers f).sched < (w'.fibers f).sched → LT w'.fibers w'.runq f = 1 := by
    intro hlt
    rcases hW'.1.d1 f hp' with h | ⟨t, ht, _, h2, h3⟩ | ⟨c, p, hp, h1, h2⟩
    · exact h
    · have := hW.1.a3 t (hTm t ht h2); rw [h2] at this; omega
    · have := hW.1.a1 c p (hEnt c p hp h1); rw [h1] at this; omega
  refine ⟨Nat.le_trans hk.le hmono, ?_, ?_⟩
  · intro hs
    have hs0 : op.sched = (w.fibers f).sched := by have := hk.le; omega
    have hss : (w'.fibers f).sched = (w.fibers f).sched := by omega
    obtain ⟨kR, kW, kT, kL⟩ := hk.kept hs0
    have hReg : ∀ s c, (∃ p ∈ (w'.chans c).pend s, p.fiber = f ∧ p.sched = op.sched) ↔
        ∃ p ∈ (w.chans c).pend s, p.fiber = f ∧ p.sched = op.sched := by
      intro s c
      constructor
      · rintro ⟨p, hp, h1, h2⟩
        rcases hE.1.new c s p hp with h | h
        · exact ⟨p, h, h1, h2⟩
        · exact absurd h (hnotcur h1)
      · rintro ⟨p, hp, h1, h2⟩
        by_cases hin : p ∈ (w'.chans c).pend s
        · exact ⟨p, hin, h1, h2⟩
        · rcases hE.1.gone c s p hp hin with h | h
          · rw [h1] at h; omega
          · rw [h1] at h; omega
    have hR : ∀ c, regR w' f op.sched c ↔ regR w f op.sched c := hReg .rd
    have hWr : ∀ c, regW w' f op.sched c ↔ regW w f op.sched c := hReg .wr
    have hL : LT w'.fibers w'.runq f = 0 := by
      rw [LT_eq_zero_iff]
      intro t ht hh
      rcases hE.2.newTask t ht with h | h
      · exact (LT_eq_zero_iff _ _ _).mp kL t h ⟨hh.1, by rw [hh.2, hss]⟩
      · rw [hh.1, hh.2] at h; omega
    refine ⟨fun c => (hR c).trans (kR c), fun c => (hWr c).trans (kW c), ?_, hL⟩
    constructor
    · intro h; exact kT.mp ((hback hss).1 h)
    · intro h
      obtain ⟨e1, e2⟩ := sleep_no_chans _ h
      rcases hW'.1.d1 f hp' with h1 | h1 | ⟨c, h1⟩
      · rw [hL] at h1; cases h1
      · exact h1
      · exfalso
        rw [liveIn_iff_reg, ← hs] at h1
        rcases h1 with h1 | h1
        · have := ((hR c).trans (kR c)).mp h1; rw [e1] at this; simp at this
        · have := ((hWr c).trans (kW c)).mp h1; rw [e2] at this; simp at this
  · intro hlt
    by_cases hss : (w'.fibers f).sched = (w.fibers f).sched
    · have h1 := hk.woken (by omega)
      obtain ⟨n1, n2⟩ := hW.1.d3 f h1
      rcases hW'.1.d1 f hp' with h | h | h
      · exact h
      · exact absurd ((hback hss).1 h) n1
      · exact absurd ((hback hss).2 h) n2
    · exact hbumped (by omega)

theorem KOK_await {w1 : World} {f : Nat} {a : Action}
    (hR : ∀ c, regR w1 f (w1.fibers f).sched c ↔ c ∈ a.readChans)
    (hWr : ∀ c, regW w1 f (w1.fibers f).sched c ↔ c ∈ a.writeChans)
    (hT : liveTimer w1.fibers w1.timers f ↔ a.isSleep = true) (hL : LT w1.fibers w1.runq f = 0) :
    KOK (awaitFiber w1 f) f ⟨a, (w1.fibers f).sched⟩ := by
  have hs := (awaitFiber_leaves w1 f).sched f
  refine ⟨by rw [hs]; exact Nat.le_refl _, ?_, ?_⟩
  · intro _
    refine ⟨hR, hWr, ?_, ?_⟩
    · rw [← hT]; exact liveTimer_congr w1.timers f hs
    · rw [← hL]; exact LT_congr w1.runq f hs
  · intro h; simp only [hs] at h; omega

theorem InOp.kok_await {f : Nat} {w w1 : World} {regs : List (Nat × Side)} {a : Action} (h : InOp f w regs w1)
    (hq : WQuiet w f) (hR : ∀ c, (c, Side.rd) ∈ regs ↔ c ∈ a.readChans) (hWr : ∀ c, (c, Side.wr) ∈ regs ↔ c ∈ a.writeChans)
    (hs : a.isSleep = false) : KOK (awaitFiber w1 f) f ⟨a, (w.fibers f).sched⟩ := by
  have hno : ∀ c s, ¬ liveOn w f c s := fun c s hl => hq.2.2 ⟨c, (liveIn_iff_liveOn w f c).mpr ⟨s, hl⟩⟩
  rw [← h.fib]
  refine KOK_await (fun c => ?_) (fun c => ?_) ⟨fun hl => absurd hl h.nt, fun e => by rw [hs] at e; cases e⟩ h.lt
  · exact (liveOn_rd w1 f c).symm.trans <| (h.on c .rd).trans ⟨fun hl => hl.elim (fun hl => absurd hl (hno c .rd)) (hR c).mp, fun hc => Or.inr ((hR c).mpr hc)⟩
  · exact (liveOn_wr w1 f c).symm.trans <| (h.on c .wr).trans ⟨fun hl => hl.elim (fun hl => absurd hl (hno c .wr)) (hWr c).mp, fun hc => Or.inr ((hWr c).mpr hc)⟩

theorem KOK_yield {w2 : World} {f : Nat} {a : Action} (v : Val) (hm : WM w2) (hcan : (w2.fibers f).canceled = false) :
    KOK (awaitFiber (schedule w2 f v) f) f ⟨a, (w2.fibers f).sched⟩ := by
  have hL := LT_schedule_self f v .ok hm hcan
  have hb := schedule_bump_of_not_canceled w2 f v .ok hcan
  have hs := (awaitFiber_leaves (schedule w2 f v) f).sched f
  refine ⟨?_, ?_, ?_⟩
  · show (w2.fibers f).sched ≤ _; rw [hs]; exact Nat.le_of_lt hb
  · intro h
    have h' : (w2.fibers f).sched = ((awaitFiber (schedule w2 f v) f).fibers f).sched := h
    rw [hs] at h'; unfold schedule at h'; omega
  · intro _; rw [await_LT _ f]; exact hL

theorem not_pending_of_current {w' : World} {f : Nat} (hW' : WInv w') (hc : w'.current = some f)
    (hp : (w'.fibers f).status = .pending) : False := by
  have := hW'.1.d5 f hc; rw [this] at hp; cases hp

/-- the running fiber is suspended after the transition: the transition was an operation that suspends, and the fiber is
    registered exactly as that operation says -/
theorem suspend_K {cfg : Cfg} (hg : CfgGood cfg) (w : World) (a : Action) (hns : a.noSelfMatch) (hi : WInv w) (f : Nat)
    (hcur : w.current = some f) (hp' : ((step cfg w a).1.fibers f).status = .pending) :
    (step cfg w a).2 = .await ∧ KOK (step cfg w a).1 f ⟨a, (w.fibers f).sched⟩ := by
  have hW' := step_W hg w a hns hi
  obtain ⟨hm, hqq⟩ := hi
  have hq : WQuiet w f := hqq f hcur
  have hno : ∀ c s, ¬ liveOn w f c s := fun c s hl => hq.2.2 ⟨c, (liveIn_iff_liveOn w f c).mpr ⟨s, hl⟩⟩
  have h := step_out cfg w a
  generalize step cfg w a = r at h hW' hp'
  cases h with
  | idle => exact (not_pending_of_current hW' hcur hp').elim
  | runTask hc | timers hc | poll hc | supEvent hc => rw [hcur] at hc; cases hc
  | scopeEnd s | deadline _ s ms => exact (not_pending_of_current hW' hcur hp').elim
  | go f' g hc =>
    have hc' : (schedule w g .nil).current = some f := by
      unfold schedule; rw [(scheduleGeneral_props w g .nil .ok).2.2.1]; exact hcur
    exact (not_pending_of_current hW' hc' hp').elim
  | cancel f' g hc =>
    have hc' : (cancelFiber w g .errCancel).current = some f := by
      unfold cancelFiber; rw [(scheduleGeneral_props w g .errCancel .error).2.2.1]; exact hcur
    exact (not_pending_of_current hW' hc' hp').elim
  | giveClosed f' c x hc =>
    cases hcur.symm.trans hc
    exact nomatch (finishFiber_leaves w f true).status.symm.trans hp'
  | finish f' e hc =>
    cases hcur.symm.trans hc
    cases e <;> exact nomatch (finishFiber_leaves w f _).status.symm.trans hp'
  | sleep f' ms hc =>
    cases hcur.symm.trans hc
    refine ⟨rfl, KOK_await (a := .sleep ms) (fun c => ?_) (fun c => ?_) ?_ hq.1⟩
    · simp only [Action.readChans, List.not_mem_nil, iff_false]; exact hno c .rd
    · simp only [Action.writeChans, List.not_mem_nil, iff_false]; exact hno c .wr
    · simp only [Action.isSleep, iff_true]
      exact ⟨_, (mem_insertTimer _ _ _).mpr (Or.inl rfl), rfl, rfl, rfl⟩
  | op f' hc o =>
    cases hcur.symm.trans hc
    obtain ⟨regs, out, w1, hst, ht⟩ := o.steps hg hns hm hcur hq
    have hio := hst.inOp [] (InOp.start hm hcur hq)
    cases ht with
    | ret _ v => exact (not_pending_of_current hW' hio.cur hp').elim
    | recv _ x v => exact (not_pending_of_current hW' (hio.received x).cur hp').elim
    | yield c v =>
      have := KOK_yield (a := .take c) v hio.wm (by rw [hio.fib]; exact not_canceled_of_no_task hm hq.1)
      rw [hio.fib] at this
      exact ⟨rfl, this⟩
    | wait _ hne =>
      exact ⟨rfl, hio.kok_await hq (mem_regs a · .rd) (mem_regs a · .wr) (by cases a <;> first | rfl | exact absurd rfl hne)⟩

theorem stepG_K {cfg : Cfg} (hg : CfgGood cfg) (w : World) (g : Ops) (a : Action) (hns : a.noSelfMatch) (hi : WInv w)
    (hk : KInv w g) : KInv (stepG cfg w g a).1 (stepG cfg w g a).2 := by
  intro f hp'
  rw [stepG_fst] at hp' ⊢
  have hW' := step_W hg w a hns hi
  have hE := step_Evo hg w a hns hi
  by_cases hc : w.current = some f
  · obtain ⟨ho, hkok⟩ := suspend_K hg w a hns hi f hc hp'
    exact ⟨_, stepG_ghost_self cfg w g a f hc ho, hkok⟩
  · rcases hE.2.pend f hp' with h | h
    · obtain ⟨op, hop, hkop⟩ := hk f h
      exact ⟨op, by rw [stepG_ghost_other cfg w g a f hc]; exact hop, KOK_step hE hi hW' hc hp' hkop⟩
    · exact absurd h hc

theorem runG_K {cfg : Cfg} (hg : CfgGood cfg) (as : List Action) :
    ∀ (w : World) (g : Ops), (∀ a ∈ as, a.noSelfMatch) → WInv w → KInv w g →
      WInv (runG cfg w g as).1 ∧ KInv (runG cfg w g as).1 (runG cfg w g as).2 := by
  induction as with
  | nil => intro w g _ hi hk; exact ⟨hi, hk⟩
  | cons a rest ih =>
    intro w g hns hi hk
    simp only [runG]
    exact ih _ _ (fun b hb => hns b (List.mem_cons_of_mem _ hb))
      (by rw [stepG_fst]; exact step_W hg w a (hns a (by simp)) hi) (stepG_K hg w g a (hns a (by simp)) hi hk)

theorem start_K (limits : Nat → Nat) (g : Ops) : KInv (World.start limits) g := by
  intro f hp
  exfalso
  have hst := (scheduleGeneral_props (World.init limits) 0 .nil .ok).2.2.2
  unfold World.start schedule at hp
  rcases hst with ⟨_, hf, _⟩ | ⟨_, _, hst, hoth, _⟩
  · rw [hf] at hp; simp [World.init] at hp
  · by_cases e : f = 0
    · subst e; rw [hst] at hp; simp [World.init] at hp
    · rw [hoth f e] at hp; simp [World.init] at hp

end JanetModel.Ev
