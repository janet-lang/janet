/- Channel-level invariant of the event-loop model, for every action sequence:
     * a pending entry never carries a sched_id from the future;
     * a live pending reader implies `items = []`;
     * #live pending writers = 0  or  #live pending writers + limit ≤ #items   (so a live writer implies count > limit);
     * a closed channel has no pending entries;
   and, from it, the FIFO law  pushed(c) = handed-out(c) ++ items(c)  as LISTS.
   Needs two facts about the source: push blocks on `count > limit`, pop skips stale writers. -/
import JanetModel.Ev.Atom
namespace JanetModel.Ev

def liveCount (fibers : Nat → Fiber) (l : List Pending) : Nat := l.countP (fun p => p.live fibers)

structure ChanOK (fibers : Nat → Fiber) (ch : Chan) : Prop where
  bound : ∀ p ∈ ch.readPending ++ ch.writePending, p.sched ≤ (fibers p.fiber).sched
  reader : hasLiveReader fibers ch.readPending = true → ch.items = []
  writer : liveCount fibers ch.writePending = 0 ∨ liveCount fibers ch.writePending + ch.limit ≤ ch.items.length
  closed : ch.closed = true → ch.readPending = [] ∧ ch.writePending = []

def ChanInv (w : World) : Prop := ∀ c, ChanOK w.fibers (w.chans c)

theorem live_anti {fibers fibers' : Nat → Fiber} (hle : ∀ f, (fibers f).sched ≤ (fibers' f).sched) (p : Pending)
    (hb : p.sched ≤ (fibers p.fiber).sched) (h : p.live fibers' = true) : p.live fibers = true := by
  rw [live_iff] at h ⊢
  have := hle p.fiber
  omega

theorem ChanOK.mono {fibers fibers' : Nat → Fiber} {ch : Chan} (hle : ∀ f, (fibers f).sched ≤ (fibers' f).sched)
    (h : ChanOK fibers ch) : ChanOK fibers' ch := by
  refine ⟨fun p hp => Nat.le_trans (h.bound p hp) (hle _), ?_, ?_, h.closed⟩
  · intro hr
    apply h.reader
    unfold hasLiveReader at hr ⊢
    rw [List.any_eq_true] at hr ⊢
    obtain ⟨p, hp, hl⟩ := hr
    exact ⟨p, hp, live_anti hle p (h.bound p (List.mem_append_left _ hp)) hl⟩
  · have hcnt : liveCount fibers' ch.writePending ≤ liveCount fibers ch.writePending := by
      unfold liveCount
      apply List.countP_mono_left
      intro p hp hl
      exact live_anti hle p (h.bound p (List.mem_append_right _ hp)) hl
    rcases h.writer with h0 | hw
    · left; omega
    · by_cases hz : liveCount fibers' ch.writePending = 0
      · left; exact hz
      · right; omega

/-- a live pending reader is unmatched: nothing is queued, no live writer waits, the channel is open -/
theorem ChanOK.of_live_reader {fibers : Nat → Fiber} {ch : Chan} (h : ChanOK fibers ch) {p : Pending}
    (hp : p ∈ ch.readPending) (hl : p.sched = (fibers p.fiber).sched) :
    ch.items = [] ∧ liveCount fibers ch.writePending = 0 ∧ ch.closed = false := by
  have hit := h.reader (List.any_eq_true.mpr ⟨p, hp, (live_iff fibers p).mpr hl⟩)
  refine ⟨hit, ?_, ?_⟩
  · rcases h.writer with h0 | hw
    · exact h0
    · rw [hit] at hw; exact Nat.eq_zero_of_add_eq_zero_right (Nat.le_zero.mp hw)
  · cases hc : ch.closed
    · rfl
    · rw [(h.closed hc).1] at hp; cases hp

/-- a live pending writer is unmatched: the queue is over its limit, no live reader waits, the channel is open -/
theorem ChanOK.of_live_writer {fibers : Nat → Fiber} {ch : Chan} (h : ChanOK fibers ch) {p : Pending}
    (hp : p ∈ ch.writePending) (hl : p.sched = (fibers p.fiber).sched) :
    ch.limit < ch.items.length ∧ hasLiveReader fibers ch.readPending = false ∧ ch.closed = false := by
  have hpos : 0 < liveCount fibers ch.writePending := List.countP_pos_iff.mpr ⟨p, hp, (live_iff fibers p).mpr hl⟩
  have hlim : ch.limit < ch.items.length := by
    rcases h.writer with h0 | hw <;> omega
  refine ⟨hlim, ?_, ?_⟩
  · cases hr : hasLiveReader fibers ch.readPending
    · rfl
    · rw [h.reader hr] at hlim; cases hlim
  · cases hc : ch.closed
    · rfl
    · rw [(h.closed hc).2] at hp; cases hp

theorem ChanInv.frame {w w' : World} (h : Frame w w') (hi : ChanInv w) : ChanInv w' := by
  intro c
  rw [h.chans]
  exact (hi c).mono h.sched

theorem ChanInv.update {w w' : World} (c : Nat) (ch' : Chan) (hfib : w'.fibers = w.fibers)
    (hch : ∀ c', w'.chans c' = if c' = c then ch' else w.chans c') (hok : ChanOK w.fibers ch') (hi : ChanInv w) :
    ChanInv w' := by
  intro c'
  rw [hfib, hch]
  by_cases h : c' = c
  · simp [h]; exact hok
  · simp [h]; exact hi c'

theorem ChanInv.setChan {w : World} (w1 : World) (c : Nat) (ch' : Chan) (hf : w1.fibers = w.fibers)
    (hc : w1.chans = w.chans) (hok : ChanOK w.fibers ch') (hi : ChanInv w) : ChanInv (setChan w1 c ch') :=
  ChanInv.update c ch' hf (fun c' => by rw [← hc]; rfl) hok hi

def Fifo (w : World) : Prop := ∀ c, onChan w.ghost.pushed c = onChan w.ghost.handed c ++ (w.chans c).items

theorem Fifo.frame {w w' : World} (h : Frame w w') (hf : Fifo w) : Fifo w' := by
  intro c; rw [h.pushed, h.handed, h.chans]; exact hf c

/-- the two facts about the source the channel invariant needs -/
structure CfgChan (cfg : Cfg) : Prop where
  strict : cfg.pushBlocksStrict = true
  skips : cfg.popSkipsStaleWriter = true

def ChanFifo (w : World) : Prop := ChanInv w ∧ Fifo w

theorem ChanFifo.frame {w w' : World} (h : Frame w w') (hg : ChanFifo w) : ChanFifo w' := ⟨hg.1.frame h, hg.2.frame h⟩

theorem Fifo.update {w : World} (w1 : World) (c : Nat) (ch' : Chan) (hp : w1.ghost.pushed = w.ghost.pushed)
    (hh : w1.ghost.handed = w.ghost.handed) (hc : w1.chans = w.chans) (hi : ch'.items = (w.chans c).items) (hf : Fifo w) :
    Fifo (setChan w1 c ch') := by
  intro c'
  show onChan w1.ghost.pushed c' = onChan w1.ghost.handed c' ++ ((setChan w1 c ch').chans c').items
  rw [hp, hh]
  by_cases e : c' = c
  · rw [e, setChan_chans_self, hi]; exact hf c
  · rw [setChan_chans_ne _ _ e, hc]; exact hf c'

theorem Fifo.dequeue {w : World} {c x : Nat} {rest : List Nat} (ch' : Chan) (hit : (w.chans c).items = x :: rest)
    (hi : ch'.items = rest) (hf : Fifo w) : Fifo (setChan (addHanded w c x) c ch') := by
  intro c'
  show onChan w.ghost.pushed c' = onChan (w.ghost.handed ++ [(c, x)]) c' ++ _
  rw [onChan_snoc]
  by_cases e : c' = c
  · rw [e, if_pos rfl, setChan_chans_self, hf c, hit, List.append_assoc, hi]; rfl
  · rw [if_neg (fun e' => e e'.symm), setChan_chans_ne _ _ e]; exact hf c'

theorem hasLiveReader_of_mem {fibers : Nat → Fiber} {rp : List Pending} {p : Pending} (hp : p ∈ rp)
    (hl : p.sched = (fibers p.fiber).sched) : hasLiveReader fibers rp = true :=
  List.any_eq_true.mpr ⟨p, hp, (live_iff fibers p).mpr hl⟩

theorem ChanFifo.setPend_sublist {a : World} {c : Nat} {s : Side} {l' : List Pending} (sub : l'.Sublist ((a.chans c).pend s))
    (hg : ChanFifo a) : ChanFifo (setChan a c ((a.chans c).setPend s l')) := by
  obtain ⟨hi, hf⟩ := hg
  have hc := hi c
  have hcl : (a.chans c).closed = true → l' = [] := fun hcl => by
    have := sub.subset
    cases s
    · rw [show (a.chans c).pend .rd = _ from (hc.closed hcl).1] at this; exact List.subset_nil.mp this
    · rw [show (a.chans c).pend .wr = _ from (hc.closed hcl).2] at this; exact List.subset_nil.mp this
  cases s with
  | rd =>
    refine ⟨ChanInv.setChan a c _ rfl rfl ⟨?_, ?_, hc.writer, fun h => ⟨hcl h, (hc.closed h).2⟩⟩ hi,
      Fifo.update a c _ rfl rfl rfl rfl hf⟩
    · intro p hp
      exact hc.bound p ((List.mem_append.mp hp).elim (fun h => List.mem_append_left _ (sub.subset h)) (List.mem_append_right _))
    · intro hr
      obtain ⟨p, hp, hl⟩ := List.any_eq_true.mp hr
      exact hc.reader (List.any_eq_true.mpr ⟨p, sub.subset hp, hl⟩)
  | wr =>
    refine ⟨ChanInv.setChan a c _ rfl rfl ⟨?_, hc.reader, ?_, fun h => ⟨(hc.closed h).1, hcl h⟩⟩ hi,
      Fifo.update a c _ rfl rfl rfl rfl hf⟩
    · intro p hp
      exact hc.bound p ((List.mem_append.mp hp).elim (List.mem_append_left _) (fun h => List.mem_append_right _ (sub.subset h)))
    · have : liveCount a.fibers l' ≤ liveCount a.fibers (a.chans c).writePending := sub.countP_le
      show liveCount a.fibers l' = 0 ∨ liveCount a.fibers l' + (a.chans c).limit ≤ (a.chans c).items.length
      rcases hc.writer with h | h
      · exact Or.inl (by omega)
      · exact Or.inr (by omega)

/-- The close cases have no caller: `chanClose_chanFifo` holds for every configuration and goes by frames, while
    `chanClose_steps` needs a source that wakes only current registrations. -/
theorem Atom.chanFifo {self other : Nat → Prop} {r : List (Nat × Side)} {o : List Nat} {a b : World}
    (h : Atom self other r o a b)
    (hg : ChanFifo a) : ChanFifo b := by
  obtain ⟨hi, hf⟩ := hg
  cases h with
  | drop _ c s l' sub gone => exact ChanFifo.setPend_sublist sub ⟨hi, hf⟩
  | enq _ c x reg opn nor hreg =>
    have hc := hi c
    refine ⟨ChanInv.setChan (addPushed a c x) c _ rfl rfl ⟨?_, ?_, ?_, ?_⟩ hi, ?_⟩
    · intro p hp
      rcases List.mem_append.mp hp with hp | hp
      · exact hc.bound p (List.mem_append_left _ hp)
      · rcases List.mem_append.mp hp with hp | hp
        · exact hc.bound p (List.mem_append_right _ hp)
        · exact Nat.le_of_eq (hreg p hp).2.2.1
    · intro hr
      exact absurd (nor.symm.trans hr) Bool.false_ne_true
    · show liveCount a.fibers ((a.chans c).writePending ++ reg) = 0 ∨
        liveCount a.fibers ((a.chans c).writePending ++ reg) + (a.chans c).limit ≤ ((a.chans c).items ++ [x]).length
      rw [List.length_append, List.length_singleton]
      cases reg with
      | nil =>
        rw [List.append_nil]
        exact hc.writer.imp id Nat.le_succ_of_le
      | cons p tl =>
        obtain ⟨e, _, hl, hfull⟩ := hreg p (List.mem_cons_self ..)
        cases e
        have : liveCount a.fibers ((a.chans c).writePending ++ [p]) = liveCount a.fibers (a.chans c).writePending + 1 := by
          unfold liveCount
          rw [List.countP_append, List.countP_cons_of_pos ((live_iff a.fibers p).mpr hl)]
          rfl
        rw [this]
        right
        rcases hc.writer with h | h
        · omega
        · omega
    · intro hcl
      rw [opn] at hcl
      cases hcl
    · intro c'
      show onChan (a.ghost.pushed ++ [(c, x)]) c' = onChan a.ghost.handed c' ++ _
      rw [onChan_snoc]
      by_cases e : c' = c
      · rw [e, if_pos rfl, setChan_chans_self, hf c, List.append_assoc]
      · rw [if_neg (fun e' => e e'.symm), setChan_chans_ne _ _ e]; exact hf c'
  | hand _ c x r rest v hrp live opn oth hv =>
    have hc := hi c
    -- a live reader is pending, so nothing is queued: the item goes from the push log straight to the hand-out log
    have hemp : (a.chans c).items = [] := hc.reader (hasLiveReader_of_mem (hrp ▸ List.mem_cons_self ..) live)
    refine ChanFifo.frame (schedule_frame _ _ _) ⟨?_, ?_⟩
    · show ChanInv (setChan (addPushed a c x) c { (a.chans c) with readPending := rest })
      refine ChanInv.setChan (addPushed a c x) c _ rfl rfl ⟨?_, fun _ => hemp, hc.writer, ?_⟩ hi
      · intro p hp
        refine hc.bound p ((List.mem_append.mp hp).elim (fun h => List.mem_append_left _ ?_) (List.mem_append_right _))
        rw [hrp]
        exact List.mem_cons_of_mem _ h
      · intro hcl
        rw [opn] at hcl
        cases hcl
    · intro c'
      show onChan (a.ghost.pushed ++ [(c, x)]) c' = onChan (a.ghost.handed ++ [(c, x)]) c' ++ _
      rw [onChan_snoc, onChan_snoc, addHanded_chans]
      by_cases e : c' = c
      · have := hf c
        rw [hemp, List.append_nil] at this
        rw [e, if_pos rfl, if_pos rfl, setChan_chans_self, this]
        show _ = _ ++ (a.chans c).items
        rw [hemp, List.append_nil]
      · rw [if_neg (fun e' => e e'.symm), if_neg (fun e' => e e'.symm), setChan_chans_ne _ _ e]; exact hf c'
  | regR _ c p hs hp opn emp =>
    have hc := hi c
    refine ⟨ChanInv.setChan a c _ rfl rfl ⟨?_, fun _ => emp, hc.writer, ?_⟩ hi, Fifo.update a c _ rfl rfl rfl rfl hf⟩
    · intro q hq
      rcases List.mem_append.mp hq with hq | hq
      · rcases List.mem_append.mp hq with hq | hq
        · exact hc.bound q (List.mem_append_left _ hq)
        · cases List.mem_singleton.mp hq
          exact Nat.le_of_eq hp
      · exact hc.bound q (List.mem_append_right _ hq)
    · intro hcl
      rw [opn] at hcl
      cases hcl
  | deq _ c x rest o wp' v hit opn hwp hnone live _ =>
    have hc := hi c
    have hnor : hasLiveReader a.fibers (a.chans c).readPending = true → False := fun hr => by
      have := hc.reader hr
      rw [hit] at this
      cases this
    have hgood : ChanFifo (setChan (addHanded a c x) c { (a.chans c) with items := rest, writePending := wp' }) := by
      refine ⟨ChanInv.setChan (addHanded a c x) c _ rfl rfl ⟨?_, fun hr => (hnor hr).elim, ?_, ?_⟩ hi,
        Fifo.dequeue { (a.chans c) with items := rest, writePending := wp' } hit rfl hf⟩
      · intro q hq
        refine hc.bound q ((List.mem_append.mp hq).elim (List.mem_append_left _) fun h => List.mem_append_right _ ?_)
        rw [hwp]
        exact List.mem_append_right _ h
      · -- the writer that is woken is the one the departing item was queued above the limit for
        show liveCount a.fibers wp' = 0 ∨ liveCount a.fibers wp' + (a.chans c).limit ≤ rest.length
        cases o with
        | none => exact Or.inl (by rw [hnone rfl]; rfl)
        | some p =>
          have hlc : liveCount a.fibers (a.chans c).writePending = liveCount a.fibers wp' + 1 := by
            rw [hwp]
            exact List.countP_cons_of_pos ((live_iff a.fibers p).mpr (live p rfl).1)
          have hlen : (a.chans c).items.length = rest.length + 1 := by rw [hit]; rfl
          rcases hc.writer with h | h
          · omega
          · omega
      · intro hcl
        rw [opn] at hcl
        cases hcl
    cases o with
    | none => exact hgood
    | some p => exact ChanFifo.frame (schedule_frame _ _ _) hgood
  | wakeC _ c s p rest v hl live oth hv =>
    exact ChanFifo.frame (schedule_frame _ _ _) (ChanFifo.setPend_sublist (hl ▸ List.sublist_cons_self p rest) ⟨hi, hf⟩)
  | close _ c hr hw =>
    refine ⟨ChanInv.setChan a c _ rfl rfl ⟨fun _ hp => (nomatch hp), fun h => ?_, Or.inl rfl, fun _ => ⟨rfl, rfl⟩⟩ hi,
      Fifo.update a c _ rfl rfl rfl rfl hf⟩
    exact absurd h Bool.false_ne_true

theorem chanPush_chanFifo {cfg : Cfg} (hc : CfgChan cfg) {w : World} {f c x mode : Nat} {w' : World} {b : Bool}
    (h : chanPush cfg w f c x mode = .ok w' b) : ChanFifo w → ChanFifo w' :=
  (chanPush_steps hc.strict h (fun _ => True) (fun _ => True) (fun _ => trivial) (fun _ _ _ => trivial)).keeps Atom.chanFifo

theorem chanPop_chanFifo {cfg : Cfg} (hc : CfgChan cfg) {w : World} {f c mode : Nat} (hg : ChanFifo w) :
    (∀ w' r, chanPop cfg w f c mode = .got w' r → ChanFifo w') ∧
    (∀ w', chanPop cfg w f c mode = .blocked w' → ChanFifo w') :=
  have hs := chanPop_steps hc.skips w f c mode (fun _ => True) (fun _ => True)
    (fun _ => trivial)
  ⟨fun w' r h => (hs.1 w' r h fun _ _ _ => trivial).keeps Atom.chanFifo hg, fun w' h => (hs.2 w' h).keeps Atom.chanFifo hg⟩

theorem chanClose_chanFifo (cfg : Cfg) (w : World) (c : Nat) (hg : ChanFifo w) : ChanFifo (chanClose cfg w c) := by
  rcases chanClose_eq cfg w c with ⟨_, e⟩ | ⟨_, e⟩ <;> rw [e]
  · exact hg
  · apply ChanFifo.frame (foldl_frame _ (closeWake_frame cfg c false) _ _)
    apply ChanFifo.frame (foldl_frame _ (closeWake_frame cfg c true) _ _)
    constructor
    · apply ChanInv.setChan w c _ rfl rfl ?_ hg.1
      exact ⟨by simp, by simp [hasLiveReader], Or.inl (by simp [liveCount]), fun _ => ⟨rfl, rfl⟩⟩
    · intro c'
      by_cases h : c' = c
      · subst h; simp [setChan]; exact hg.2 c'
      · simp [setChan, h]; exact hg.2 c'

theorem run_chanFifo {cfg : Cfg} (hc : CfgChan cfg) (as : List Action) : ∀ w : World, ChanFifo w → ChanFifo (run cfg w as) :=
  run_of_step cfg as fun w a _ => step_of_frame cfg ChanFifo.frame (chanPush_chanFifo hc) (chanPop_chanFifo hc) (chanClose_chanFifo cfg) w a

theorem start_chanFifo (limits : Nat → Nat) : ChanFifo (World.start limits) := by
  unfold World.start
  apply ChanFifo.frame (schedule_frame _ _ _)
  constructor
  · intro c
    exact ⟨by simp [World.init], by simp [World.init, hasLiveReader], Or.inl (by simp [World.init, liveCount]),
      fun _ => by simp [World.init]⟩
  · intro c; simp [World.init, onChan]

end JanetModel.Ev
