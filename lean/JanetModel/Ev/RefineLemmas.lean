/- Simulation for whole histories between the list model (`World.items`) and the JanetQueue ring machine: the trace of
   item-queue calls replayed on lists gives `World.items`, replayed on rings gives rings whose `toList` is `World.items`,
   and the collector machine `GcChan` run on the same calls with collections anywhere has that ring. -/
import JanetModel.Ev.Refine
import JanetModel.Ev.Lemmas
import JanetModel.Ev.QueueLemmas
import JanetModel.Ev.MarkLemmas
namespace JanetModel.Ev

theorem replayL_append (a b : List QOp) (l : List Nat) : replayL (a ++ b) l = replayL b (replayL a l) := by
  simp [replayL, List.foldl_append]

theorem opsOn_append (c : Nat) (t1 t2 : List (Nat × QOp)) : opsOn c (t1 ++ t2) = opsOn c t1 ++ opsOn c t2 := by
  simp [opsOn, List.filter_append]

/-- the trace `t` leads from the item lists of `w` to those of `w'` -/
def Tr (w w' : World) (t : List (Nat × QOp)) : Prop :=
  ∀ c, (w'.chans c).items = replayL (opsOn c t) (w.chans c).items

theorem Tr.nil {w w' : World} (h : ∀ c, (w'.chans c).items = (w.chans c).items) : Tr w w' [] := fun c => by
  simp [opsOn, replayL, h c]

theorem Tr.trans {a b c : World} {t1 t2 : List (Nat × QOp)} (h1 : Tr a b t1) (h2 : Tr b c t2) : Tr a c (t1 ++ t2) :=
  fun ch => by rw [opsOn_append, replayL_append, ← h1 ch, ← h2 ch]

theorem Tr.single {w w' : World} (c : Nat) (op : QOp) (ho : ∀ c', c' ≠ c → w'.chans c' = w.chans c')
    (hc : (w'.chans c).items = op.onList (w.chans c).items) : Tr w w' [(c, op)] := fun c' => by
  by_cases h : c' = c
  · subst h; simp [opsOn, replayL, hc]
  · have hne : ¬ c = c' := fun e => h e.symm
    simp [opsOn, replayL, hne, ho c' h]

theorem Tr.frame {w w' : World} (h : Frame w w') : Tr w w' [] := Tr.nil (fun c => by rw [h.chans])

theorem Tr.right {w w1 w2 : World} {t : List (Nat × QOp)} (h : Tr w w1 t) (e : w2.chans = w1.chans) : Tr w w2 t :=
  fun c => by rw [e]; exact h c

theorem chanPushOps_closed (w : World) (c x : Nat) (h : (w.chans c).closed = true) : chanPushOps w c x = [] := by
  unfold chanPushOps; rw [if_pos h]

theorem chanPush_tr (cfg : Cfg) (w : World) (f c x mode : Nat) (w' : World) (b : Bool)
    (h : chanPush cfg w f c x mode = .ok w' b) : Tr w w' (chanPushOps w c x) := by
  have hoth := chanPush_other cfg w f c x mode w' b h
  unfold chanPushOps
  rcases chanPush_eq cfg w f c x mode with ⟨_, e⟩ | ⟨hcl, o, rp, hq, e⟩
  · rw [e] at h; cases h
  · rw [e] at h
    rw [hcl, hq]
    cases o with
    | none => cases h; exact Tr.single c (.push x) hoth (by rw [setChan_chans_self]; rfl)
    | some r =>
      cases h
      refine Tr.nil fun c' => ?_
      rw [schedule_chans, addHanded_chans]
      by_cases hcc : c' = c
      · rw [hcc, setChan_chans_self]
      · rw [setChan_chans_ne _ _ hcc]; rfl

theorem chanPop_tr (cfg : Cfg) (w : World) (f c mode : Nat) :
    (∀ w' r, chanPop cfg w f c mode = .got w' r → Tr w w' (chanPopOps w c)) ∧
    (∀ w', chanPop cfg w f c mode = .blocked w' → Tr w w' (chanPopOps w c)) := by
  have hoth := fun c' hc => chanPop_other cfg w f c mode c' hc
  unfold chanPopOps
  rcases chanPop_eq cfg w f c mode with ⟨hcl, e⟩ | ⟨hcl, hit, e⟩ | ⟨x, rest, o, wp', hcl, hit, _, e⟩
  · rw [hcl, e]
    exact ⟨fun _ _ h => (by cases h; exact Tr.nil fun _ => rfl), fun _ h => by cases h⟩
  · rw [hcl]
    refine ⟨fun _ _ h => (by rw [e] at h; cases h), fun w' h => Tr.single c .pop (fun c' hc => (hoth c' hc).2 w' h) ?_⟩
    rw [e] at h
    cases h
    rw [hit]
    split
    · exact hit
    · rw [setChan_chans_self]; exact hit
  · rw [hcl]
    refine ⟨fun w' r h => Tr.single c .pop (fun c' hc => (hoth c' hc).1 w' r h) ?_, fun _ h => (by rw [e] at h; cases h)⟩
    rw [e] at h
    cases h
    rw [hit]
    cases o with
    | none => rw [setChan_chans_self]; rfl
    | some p => rw [schedule_chans, setChan_chans_self]; rfl

theorem choiceImmediate_tr (cfg : Cfg) (f : Nat) (cls : List Clause) :
    ∀ (w w' : World) (v : Val), choiceImmediate cfg w f cls = some (w', v) → Tr w w' (choiceImmediateOps cfg w cls) := by
  refine choiceImmediate_induct cfg f (P := fun cls w w' _ => Tr w w' (choiceImmediateOps cfg w cls)) ?_ ?_ ?_ ?_ ?_ cls
  · intro cl rest w hcl
    have : choiceImmediateOps cfg w (cl :: rest) = [] := by
      cases cl <;> (unfold choiceImmediateOps; exact if_pos hcl)
    rw [this]; exact Tr.nil fun _ => rfl
  · intro c x rest w w' b hcl hr hp
    unfold choiceImmediateOps
    dsimp only
    rw [hcl, if_neg Bool.false_ne_true, if_pos hr]
    exact chanPush_tr cfg w f c x 1 w' b hp
  · intro c rest w w1 x hcl hp
    obtain ⟨_, _, hit, _⟩ := chanPop_head cfg w f c 1 w1 (some x) hcl hp
    unfold choiceImmediateOps
    dsimp only
    rw [hcl, if_neg Bool.false_ne_true, if_pos (by rw [hit]; exact List.cons_ne_nil _ _)]
    exact Tr.right ((chanPop_tr cfg w f c 1).1 w1 (some x) hp) rfl
  · intro c x rest w w' v hcl hr ih
    unfold choiceImmediateOps
    dsimp only
    rw [hcl, if_neg Bool.false_ne_true, if_neg (by rw [hr]; exact Bool.false_ne_true)]
    exact ih
  · intro c rest w w' v hcl hi ih
    unfold choiceImmediateOps
    dsimp only
    rw [hcl, if_neg Bool.false_ne_true, if_neg (fun h => h hi)]
    exact ih

theorem choiceRegister_tr (cfg : Cfg) (f : Nat) (cls : List Clause) :
    ∀ (w : World), Tr w (choiceRegister cfg w f cls) (choiceRegisterOps cfg w f cls) := by
  induction cls with
  | nil => intro w; exact Tr.nil (fun _ => rfl)
  | cons cl rest ih =>
    intro w
    cases cl with
    | give c x =>
      unfold choiceRegister choiceRegisterOps
      cases hp : chanPush cfg w f c x 1 with
      | closedErr => exact ih w
      | ok w1 b => exact Tr.trans (chanPush_tr cfg w f c x 1 w1 b hp) (ih w1)
    | take c =>
      unfold choiceRegister choiceRegisterOps
      have hpc := chanPop_tr cfg w f c 1
      cases hp : chanPop cfg w f c 1 with
      | blocked w1 => exact Tr.trans (hpc.2 w1 hp) (ih w1)
      | got w1 r => exact Tr.trans (hpc.1 w1 r hp) (ih w1)

theorem chanClose_tr (cfg : Cfg) (w : World) (c : Nat) : Tr w (chanClose cfg w c) [] :=
  Tr.nil (chanClose_items cfg w c)

theorem stepOps_disabled {cfg : Cfg} {w : World} {a : Action} (h : Disabled w a) : stepOps cfg w a = [] := by
  unfold stepOps
  split
  next c x hc => exact (h hc).elim
  next f c x hc => exact nomatch hc.symm.trans h
  next f c hc => exact nomatch hc.symm.trans h
  next => rfl
  next f cls hne hc => exact h.elim (fun h => nomatch hc.symm.trans h) (fun h => (hne h).elim)
  next => rfl

theorem step_tr (cfg : Cfg) (w : World) (a : Action) : Tr w (step cfg w a).1 (stepOps cfg w a) := by
  have h := step_out cfg w a
  generalize step cfg w a = r at h
  unfold stepOps
  cases h with
  | idle a hd => show Tr w w (stepOps cfg w a); rw [stepOps_disabled hd]; exact Tr.nil (fun _ => rfl)
  | runTask hc => rw [hc]; exact Tr.frame (loopRunTask_frame cfg w)
  | timers hc => rw [hc]; exact Tr.frame (loopTimers_frame w)
  | supEvent hc c x =>
    rw [hc]
    show Tr _ _ (chanPushOps w c x)
    unfold supPush
    cases hp : chanPush cfg w 0 c x 2 with
    | closedErr => rw [chanPushOps_closed w c x (chanPush_closedErr _ _ _ _ _ _ hp)]; exact Tr.nil (fun _ => rfl)
    | ok w1 b => exact chanPush_tr cfg w 0 c x 2 w1 b hp
  | scopeEnd s => cases w.current <;> exact Tr.nil (fun _ => rfl)
  | go f g hc _ => rw [hc]; exact Tr.frame (schedule_frame _ _ _)
  | cancel f g hc _ => rw [hc]; exact Tr.frame (cancelFiber_frame _ _ _)
  | giveClosed f c x hc hp =>
    rw [hc]
    show Tr _ _ (chanPushOps w c x)
    rw [chanPushOps_closed w c x (chanPush_closedErr _ _ _ _ _ _ hp)]; exact Tr.nil (fun _ => rfl)
  | op f hc o =>
    rw [hc]
    cases o with
    | giveBlock c x w1 hp => exact Tr.right (chanPush_tr cfg w f c x 0 w1 _ hp) rfl
    | giveRet c x w1 hp => exact chanPush_tr cfg w f c x 0 w1 _ hp
    | takeGot c w1 r hp =>
      exact Tr.right ((chanPop_tr cfg w f c 0).1 w1 r hp) ((awaitFiber_leaves _ f).chans.trans (schedule_chans w1 f _))
    | takeBlock c w1 hp => exact Tr.right ((chanPop_tr cfg w f c 0).2 w1 hp) rfl
    | selectNow cls w1 v hne hp =>
      cases cls with
      | nil => exact (hne rfl).elim
      | cons cl0 cls0 => dsimp only; rw [hp]; exact choiceImmediate_tr cfg f _ w w1 v hp
    | selectWait cls hne hp =>
      cases cls with
      | nil => exact (hne rfl).elim
      | cons cl0 cls0 => dsimp only; rw [hp]; exact Tr.right (choiceRegister_tr cfg f _ w) rfl
    | close c => exact chanClose_tr cfg w c
  | poll hc | deadline _ _ _ hc | sleep _ _ hc | finish _ _ hc => rw [hc]; exact Tr.nil (fun _ => rfl)

theorem run_tr (cfg : Cfg) (as : List Action) : ∀ w : World, Tr w (run cfg w as) (runOps cfg w as) := by
  induction as with
  | nil => intro w; exact Tr.nil (fun _ => rfl)
  | cons a rest ih =>
    intro w
    have h := Tr.trans (step_tr cfg w a) (ih (step cfg w a).1)
    simpa [run, runOps] using h

theorem count_eq_length (q : RingQ Nat) : q.toList.length = q.count := by simp [RingQ.toList]

/-- one call: the ring follows the list (compose `queue_refines_list`) -/
theorem onRing_refines (maxCap : Nat) (q : RingQ Nat) (h : q.WF) (op : QOp) (q' : RingQ Nat)
    (hr : op.onRing maxCap q = some q') : q'.WF ∧ q'.toList = op.onList q.toList := by
  cases op with
  | push x =>
    have := RingQ.push_spec maxCap q h x q' hr
    exact ⟨this.2, this.1⟩
  | pop =>
    simp only [QOp.onRing] at hr
    cases hp : q.pop with
    | none =>
      rw [hp] at hr; simp at hr; subst hr
      have := (RingQ.pop_none q h).mp hp
      exact ⟨h, by simp [QOp.onList, this]⟩
    | some r =>
      obtain ⟨x, q1⟩ := r
      rw [hp] at hr; simp at hr; subst hr
      have := RingQ.pop_some q h x q1 hp
      exact ⟨this.2, by simp [QOp.onList, this.1]⟩

theorem replay_refines (maxCap : Nat) (ops : List QOp) :
    ∀ (q : RingQ Nat), q.WF → ∀ q', replayR maxCap ops q = some q' → q'.WF ∧ q'.toList = replayL ops q.toList := by
  induction ops with
  | nil => intro q h q' hr; simp [replayR] at hr; subst hr; exact ⟨h, rfl⟩
  | cons op rest ih =>
    intro q h q' hr
    simp only [replayR] at hr
    cases ho : op.onRing maxCap q with
    | none => rw [ho] at hr; simp at hr
    | some q1 =>
      rw [ho] at hr
      have h1 := onRing_refines maxCap q h op q1 ho
      have h2 := ih q1 h1.1 q' hr
      exact ⟨h2.1, by rw [h2.2, h1.2]; simp [replayL]⟩

/-- the collector machine makes exactly the ring calls of its history: collections do not touch the ring -/
theorem gc_ring_is_replay (m : MarkWalk) (maxCap : Nat) (gops : List GcOp) :
    ∀ (s : GcChan) (q' : RingQ Nat), replayR maxCap (gcProj gops) s.q = some q' →
      (gops.foldl (GcChan.step m maxCap) s).q = q' := by
  induction gops with
  | nil => intro s q' h; simp [gcProj, replayR] at h; simpa using h
  | cons g rest ih =>
    intro s q' h
    simp only [List.foldl_cons]
    cases g with
    | give x =>
      simp only [gcProj, replayR, QOp.onRing] at h
      cases hp : s.q.push maxCap x with
      | none => rw [hp] at h; simp at h
      | some q1 =>
        rw [hp] at h
        apply ih
        simp only [GcChan.step, hp]; exact h
    | take =>
      simp only [gcProj, replayR, QOp.onRing] at h
      cases hp : s.q.pop with
      | none =>
        rw [hp] at h
        apply ih
        simp only [GcChan.step, hp]; exact h
      | some r =>
        obtain ⟨x, q1⟩ := r
        rw [hp] at h
        apply ih
        simp only [GcChan.step, hp]; exact h
    | collect roots =>
      simp only [gcProj] at h
      apply ih
      simp only [GcChan.step]; exact h

theorem replay_overflow (maxCap : Nat) (ops : List QOp) :
    ∀ (q : RingQ Nat), q.WF → replayR maxCap ops q = none → maxCap ≤ q.count + ops.length := by
  induction ops with
  | nil => intro q _ h; simp [replayR] at h
  | cons op rest ih =>
    intro q h hr
    simp only [replayR] at hr
    cases ho : op.onRing maxCap q with
    | none =>
      cases op with
      | push x =>
        simp only [QOp.onRing, RingQ.push] at ho
        cases hm : q.maybeResize maxCap with
        | some q1 => rw [hm] at ho; simp at ho
        | none =>
          unfold RingQ.maybeResize at hm
          simp only at hm
          by_cases h1 : q.count + 1 ≥ q.cap
          · by_cases h2 : q.count + 1 ≥ maxCap
            · simp only [List.length_cons]; omega
            · rw [if_pos h1, if_neg h2] at hm
              split at hm <;> simp at hm
          · rw [if_neg h1] at hm; simp at hm
      | pop =>
        simp only [QOp.onRing] at ho
        cases hp : q.pop with
        | none => rw [hp] at ho; simp at ho
        | some r => rw [hp] at ho; simp at ho
    | some q1 =>
      rw [ho] at hr
      have h1 := onRing_refines maxCap q h op q1 ho
      have h2 := ih q1 h1.1 hr
      have hl : q1.count ≤ q.count + 1 := by
        rw [← count_eq_length q1, ← count_eq_length q, h1.2]
        cases op <;> simp [QOp.onList]
        omega
      simp only [List.length_cons]; omega

theorem init_wf : (RingQ.init (0 : Nat)).WF := Or.inl ⟨rfl, rfl, rfl⟩

theorem start_items (limits : Nat → Nat) (c : Nat) : ((World.start limits).chans c).items = [] := by
  unfold World.start; rw [schedule_chans]; rfl

theorem gcProj_length (gops : List GcOp) : (gcProj gops).length ≤ gops.length := by
  induction gops with
  | nil => simp [gcProj]
  | cons g rest ih => cases g <;> simp [gcProj] <;> omega

theorem replayR_append (maxCap : Nat) (a b : List QOp) :
    ∀ q, replayR maxCap (a ++ b) q = (replayR maxCap a q).bind (replayR maxCap b) := by
  induction a with
  | nil => intro q; simp [replayR]
  | cons op rest ih =>
    intro q
    simp only [List.cons_append, replayR]
    cases op.onRing maxCap q with
    | none => simp
    | some q1 => simpa using ih q1

theorem opsOn_cons (c c0 : Nat) (op : QOp) (t : List (Nat × QOp)) :
    opsOn c ((c0, op) :: t) = if c0 = c then op :: opsOn c t else opsOn c t := by
  by_cases h : c0 = c <;> simp [opsOn, h]

theorem applyRings_chan (maxCap : Nat) (t : List (Nat × QOp)) :
    ∀ rings : Nat → RingQ Nat, (∀ c, ∃ q, replayR maxCap (opsOn c t) (rings c) = some q) →
      ∀ c, replayR maxCap (opsOn c t) (rings c) = some (applyRings maxCap rings t c) := by
  induction t with
  | nil => intro rings _ c; simp [opsOn, replayR, applyRings]
  | cons p rest ih =>
    obtain ⟨c0, op⟩ := p
    intro rings hall c
    obtain ⟨q0, hq0⟩ := hall c0
    rw [opsOn_cons, if_pos rfl] at hq0
    simp only [replayR] at hq0
    cases ho : op.onRing maxCap (rings c0) with
    | none => rw [ho] at hq0; simp at hq0
    | some q1 =>
      have hall' : ∀ c, ∃ q, replayR maxCap (opsOn c rest) ((fun i => if i = c0 then q1 else rings i) c) = some q := by
        intro c'
        by_cases hc : c' = c0
        · subst hc; rw [ho] at hq0; exact ⟨q0, by simpa using hq0⟩
        · obtain ⟨q, hq⟩ := hall c'
          rw [opsOn_cons, if_neg (fun e => hc e.symm)] at hq
          exact ⟨q, by simpa [hc] using hq⟩
      have := ih _ hall' c
      simp only [applyRings, ho]
      rw [← this, opsOn_cons]
      by_cases hc : c0 = c
      · subst hc; simp [replayR, ho]
      · have hc' : ¬ c = c0 := fun e => hc e.symm
        simp [hc, hc']

theorem runRings_replay (cfg : Cfg) (maxCap : Nat) (as : List Action) :
    ∀ (w : World) (rings : Nat → RingQ Nat),
      (∀ c, ∃ q, replayR maxCap (opsOn c (runOps cfg w as)) (rings c) = some q) →
      ∀ c, replayR maxCap (opsOn c (runOps cfg w as)) (rings c) = some (runRings cfg maxCap w rings as c) := by
  induction as with
  | nil => intro w rings _ c; simp [runOps, opsOn, replayR, runRings]
  | cons a rest ih =>
    intro w rings hall c
    have split : ∀ c, ∃ q1, replayR maxCap (opsOn c (stepOps cfg w a)) (rings c) = some q1 ∧
        ∃ q, replayR maxCap (opsOn c (runOps cfg (step cfg w a).1 rest)) q1 = some q := by
      intro c'
      obtain ⟨q, hq⟩ := hall c'
      simp only [runOps, opsOn_append, replayR_append] at hq
      cases h1 : replayR maxCap (opsOn c' (stepOps cfg w a)) (rings c') with
      | none => rw [h1] at hq; simp at hq
      | some q1 => rw [h1] at hq; exact ⟨q1, rfl, q, by simpa using hq⟩
    have hstep := applyRings_chan maxCap (stepOps cfg w a) rings (fun c' => ⟨(split c').choose, (split c').choose_spec.1⟩)
    have hall' : ∀ c', ∃ q, replayR maxCap (opsOn c' (runOps cfg (step cfg w a).1 rest))
        (applyRings maxCap rings (stepOps cfg w a) c') = some q := by
      intro c'
      obtain ⟨q1, h1, q, h2⟩ := split c'
      rw [hstep c'] at h1
      simp at h1; subst h1
      exact ⟨q, h2⟩
    have := ih (step cfg w a).1 (applyRings maxCap rings (stepOps cfg w a)) hall' c
    simp only [runOps, opsOn_append, replayR_append, runRings, hstep c]
    simpa using this

theorem opsOn_length (c : Nat) (t : List (Nat × QOp)) : (opsOn c t).length ≤ t.length := by
  simp [opsOn]; exact List.length_filter_le _ _

end JanetModel.Ev
