/- Executable model of the single-threaded part of janet's event loop (src/core/ev.c): fibers, channels, run queue,
   timers (sleeps, timeouts, deadlines) on a virtual clock.  CORE LEAN ONLY (linked into the driver).

   Layout (kept so that C07 / C20 can extend it: stream listeners, threaded calls):
     * `Cfg`      what the translator (tools/gen/ev.py) reads off the CURRENT source: seven facts - the comparison
                  operators of the two capacity tests and whether five checks / steps are present;
     * `World`    one structure, one field per piece of `janet_vm` / heap state, ghost history in `World.ghost`;
     * one Lean function per C function: `scheduleGeneral`, `chanPush` (janet_channel_push_with_lock), `chanPop`
       (janet_channel_pop_with_lock), `choiceImmediate` / `choiceRegister` (the two loops of cfun_channel_choice),
       `chanClose` (cfun_channel_close), `loopRunTask` (one iteration of the run phase of janet_loop1, with the
       stale-task filter), `loopTimers` (timer phase), `awaitFiber` (janet_await + the bookkeeping loop1 does for a
       suspended fiber);
     * `Action` / `step`: every atomic transition, labelled; theorems quantify over arbitrary `List Action`;
       the driver's scheduler (`Ev/Exec.lean`) only ever calls `step`.
   The ring buffers `janet_q_*` are modelled separately in `Ev/Queue.lean` and shown to refine the lists used here. -/
namespace JanetModel.Ev

/-- Facts extracted from the current ev.c (`Gen/Ev.lean`; assembled as `currentCfg` in `Ev/Current.lean`). -/
structure Cfg where
  /-- `janet_q_count(&channel->items) > channel->limit` in push_with_lock (false: `>=`) -/
  pushBlocksStrict : Bool
  /-- `janet_q_count(&chan->items) < chan->limit` in the first loop of cfun_channel_choice (false: `<=`) -/
  choiceReadyStrict : Bool
  /-- first loop of cfun_channel_choice treats a live pending reader as "give is immediately ready" -/
  choiceGiveSeesReader : Bool
  /-- pop_with_lock skips pending writers whose sched_id is stale (as push_with_lock does for readers) -/
  popSkipsStaleWriter : Bool
  /-- cfun_channel_close wakes a local waiter only if its sched_id is current -/
  closeChecksSched : Bool
  /-- the run phase of janet_loop1 does `task.fiber->sched_id++` after the stale-task filter: a fiber's generation
      advances when it is scheduled AND when its task is resumed -/
  resumeBumps : Bool
  /-- the run phase of janet_loop1 does not push the supervisor event of a finished fiber into a CLOSED supervisor
      channel (false: it calls janet_channel_push, which panics outside any fiber - the thread ends) -/
  supervisorSkipsClosed : Bool := true
  deriving Repr, DecidableEq

/-- every check present, operators as in the reference source -/
def Cfg.good : Cfg := ⟨true, true, true, true, true, true, true⟩
/-- the pinned tree before any fix -/
def Cfg.pinned : Cfg := ⟨true, true, false, false, false, false, false⟩

/-- Janet values that occur as results of channel operations (items are natural numbers = their ghost ids). -/
inductive Val where
  | nil
  | num (n : Nat)
  | chan (c : Nat)
  | give (c : Nat)            -- [:give ch]
  | take (c : Nat) (x : Nat)  -- [:take ch x]
  | close (c : Nat)           -- [:close ch]
  | errClosed                 -- error "cannot write to closed channel"
  | errCancel                 -- the value given to ev/cancel
  | errDeadline               -- "deadline expired"
  | errTimeout                -- "timeout"
  deriving Repr, DecidableEq

/-- JANET_CP_MODE_* (MODE_CLOSE only travels in thread messages, not modelled here) -/
inductive Mode where
  | read | write | choiceRead | choiceWrite
  deriving Repr, DecidableEq

/-- JanetChannelPending (thread omitted: single-threaded) -/
structure Pending where
  fiber : Nat
  sched : Nat
  mode : Mode
  deriving Repr, DecidableEq

/-- struct JanetChannel; the three JanetQueues as lists (head first) -/
structure Chan where
  items : List Nat := []
  readPending : List Pending := []
  writePending : List Pending := []
  limit : Nat := 0
  closed : Bool := false
  deriving Repr, DecidableEq

inductive Sig where
  | ok | error
  deriving Repr, DecidableEq

/-- JanetTask -/
structure Task where
  fiber : Nat
  value : Val
  sig : Sig
  expected : Nat
  deriving Repr, DecidableEq

/-- janet_fiber_status, as far as the event loop distinguishes -/
inductive FStatus where
  | new | pending | alive | dead | error
  deriving Repr, DecidableEq

/-- the event-loop part of JanetFiber -/
structure Fiber where
  sched : Nat := 0
  status : FStatus := .new
  root : Bool := false        -- JANET_FIBER_FLAG_ROOT
  canceled : Bool := false    -- JANET_FIBER_EV_FLAG_CANCELED
  suspended : Bool := false   -- JANET_FIBER_EV_FLAG_SUSPENDED
  deriving Repr, DecidableEq

/-- JanetTimeout.  `curr = none`: a timeout of the fiber's current wait (ev/sleep: resumes with nil when `sched` is
    still current; `isError`: raises "timeout").  `curr = some s`: a deadline (ev/deadline with `tocheck` = coroutine
    `s`): when it expires and `s` is still resumable the task `fiber` is cancelled. -/
structure Timer where
  fiber : Nat
  sched : Nat
  when : Nat := 0
  isError : Bool := false
  curr : Option Nat := none
  deriving Repr, DecidableEq

/-- History variables (not in the C): used only to state the theorems. -/
structure Ghost where
  /-- (channel, item) for every value accepted by push_with_lock, in call order -/
  pushed : List (Nat × Nat) := []
  /-- (channel, item) for every item a channel handed out (to a pending reader, to a take, to a select) -/
  handed : List (Nat × Nat) := []
  /-- (fiber, item) every item that reached a fiber's code as the result of an operation -/
  received : List (Nat × Nat) := []
  /-- tasks discarded by the stale-task filter -/
  dropped : List Task := []
  deriving Repr

structure World where
  fibers : Nat → Fiber
  chans : Nat → Chan
  /-- janet_vm.spawn, head first -/
  runq : List Task := []
  /-- janet_vm.tq -/
  timers : List Timer := []
  /-- janet_vm.listener_count -/
  listeners : Nat := 0
  /-- janet_vm.root_fiber while a task is running -/
  current : Option Nat := none
  /-- the clock: value returned by the last `ts_now()`; every read advances it by `clockStep` (harness: virtual clock) -/
  clock : Nat := 0
  clockStep : Nat := 1
  /-- `janet_fiber_can_resume` of the body coroutines of `ev/with-deadline` (by scope id) -/
  scopes : Nat → Bool := fun _ => false
  ghost : Ghost := {}

def World.init (limits : Nat → Nat) : World :=
  { fibers := fun _ => {}, chans := fun c => { limit := limits c } }

def setFiber (w : World) (f : Nat) (x : Fiber) : World :=
  { w with fibers := fun i => if i = f then x else w.fibers i }

def setChan (w : World) (c : Nat) (x : Chan) : World :=
  { w with chans := fun i => if i = c then x else w.chans i }

/-! ### janet_schedule_general -/

def scheduleGeneral (w : World) (f : Nat) (v : Val) (sig : Sig) (soon : Bool) : World :=
  let fb := w.fibers f
  if fb.canceled then w else
  let t : Task := ⟨f, v, sig, fb.sched + 1⟩
  let fb' : Fiber := { fb with sched := fb.sched + 1, root := true,
                               canceled := (match sig with | .error => true | .ok => fb.canceled) }
  let w := setFiber w f fb'
  { w with runq := if soon then t :: w.runq else w.runq ++ [t] }

/-- janet_schedule -/
def schedule (w : World) (f : Nat) (v : Val) : World := scheduleGeneral w f v .ok false

/-- janet_cancel -/
def cancelFiber (w : World) (f : Nat) (v : Val) : World := scheduleGeneral w f v .error false

/-- janet_schedule_soon -/
def scheduleSoon (w : World) (f : Nat) (v : Val) (sig : Sig) : World := scheduleGeneral w f v sig true

/-- is this registration still the fiber's current one? -/
def Pending.live (fibers : Nat → Fiber) (p : Pending) : Bool := p.sched == (fibers p.fiber).sched

/-! ### janet_channel_push_with_lock -/

/-- `do { is_empty = janet_q_pop(&read_pending, &reader) } while (!is_empty && reader.sched_id != reader.fiber->sched_id)` -/
def popLiveReader (fibers : Nat → Fiber) : List Pending → Option Pending × List Pending
  | [] => (none, [])
  | p :: rest => if p.live fibers then (some p, rest) else popLiveReader fibers rest

def pushBlocks (cfg : Cfg) (count limit : Nat) : Bool :=
  if cfg.pushBlocksStrict then decide (count > limit) else decide (count ≥ limit)

inductive PushRes where
  | closedErr                          -- janet_panic("cannot write to closed channel")
  | ok (w : World) (blocked : Bool)    -- return value 1 = should block

def addPushed (w : World) (c x : Nat) : World := { w with ghost := { w.ghost with pushed := w.ghost.pushed ++ [(c, x)] } }
def addHanded (w : World) (c x : Nat) : World := { w with ghost := { w.ghost with handed := w.ghost.handed ++ [(c, x)] } }

/-- `f` = janet_vm.root_fiber; `mode` 0 = ev/give, 1 = select clause, 2 = from C without a root fiber -/
def chanPush (cfg : Cfg) (w : World) (f c x : Nat) (mode : Nat) : PushRes :=
  let ch := w.chans c
  if ch.closed then .closedErr else
  let w := addPushed w c x
  match popLiveReader w.fibers ch.readPending with
  | (none, rp) =>
    let ch' : Chan := { ch with readPending := rp, items := ch.items ++ [x] }
    if pushBlocks cfg ch'.items.length ch.limit then
      if mode = 2 then .ok (setChan w c ch') true
      else
        let pending : Pending := ⟨f, (w.fibers f).sched, if mode = 0 then .write else .choiceWrite⟩
        .ok (setChan w c { ch' with writePending := ch'.writePending ++ [pending] }) true
    else .ok (setChan w c ch') false
  | (some r, rp) =>
    let w := setChan w c { ch with readPending := rp }
    let w := addHanded w c x
    .ok (schedule w r.fiber (if r.mode = .choiceRead then .take c x else .num x)) false

/-! ### janet_channel_pop_with_lock -/

/-- `janet_q_pop(&write_pending, &writer)`; with the sched_id check when the source has it -/
def popWriter (skipStale : Bool) (fibers : Nat → Fiber) : List Pending → Option Pending × List Pending
  | [] => (none, [])
  | p :: rest => if skipStale && !p.live fibers then popWriter skipStale fibers rest else (some p, rest)

inductive PopRes where
  | got (w : World) (x : Option Nat)   -- return 1; `none` = nil from a closed channel
  | blocked (w : World)                -- return 0

def chanPop (cfg : Cfg) (w : World) (f c : Nat) (isChoice : Nat) : PopRes :=
  let ch := w.chans c
  if ch.closed then .got w none else
  match ch.items with
  | [] =>
    if isChoice = 2 then .blocked w
    else
      let pending : Pending := ⟨f, (w.fibers f).sched, if isChoice = 0 then .read else .choiceRead⟩
      .blocked (setChan w c { ch with readPending := ch.readPending ++ [pending] })
  | x :: rest =>
    let w := addHanded w c x
    match popWriter cfg.popSkipsStaleWriter w.fibers ch.writePending with
    | (none, wp) => .got (setChan w c { ch with items := rest, writePending := wp }) (some x)
    | (some wr, wp) =>
      let w := setChan w c { ch with items := rest, writePending := wp }
      .got (schedule w wr.fiber (if wr.mode = .choiceWrite then .give c else .chan c)) (some x)

/-! ### cfun_channel_choice -/

inductive Clause where
  | take (c : Nat)
  | give (c x : Nat)
  deriving Repr, DecidableEq

def Clause.chan : Clause → Nat
  | .take c => c
  | .give c _ => c

def choiceReady (cfg : Cfg) (count limit : Nat) : Bool :=
  if cfg.choiceReadyStrict then decide (count < limit) else decide (count ≤ limit)

def hasLiveReader (fibers : Nat → Fiber) (rp : List Pending) : Bool := rp.any (fun p => p.live fibers)

/-- first loop: "Check channels for immediate reads and writes" -/
def choiceImmediate (cfg : Cfg) (w : World) (f : Nat) : List Clause → Option (World × Val)
  | [] => none
  | .give c x :: rest =>
    let ch := w.chans c
    if ch.closed then some (w, .close c)
    else if choiceReady cfg ch.items.length ch.limit
            || (cfg.choiceGiveSeesReader && hasLiveReader w.fibers ch.readPending) then
      match chanPush cfg w f c x 1 with
      | .ok w' _ => some (w', .give c)
      | .closedErr => some (w, .close c)
    else choiceImmediate cfg w f rest
  | .take c :: rest =>
    let ch := w.chans c
    if ch.closed then some (w, .close c)
    else if ch.items ≠ [] then
      match chanPop cfg w f c 1 with
      | .got w' (some x) => some ({ w' with ghost := { w'.ghost with received := w'.ghost.received ++ [(f, x)] } }, .take c x)
      | .got w' none => some (w', .close c)
      | .blocked w' => some (w', .nil)
    else choiceImmediate cfg w f rest

/-- second loop: "Wait for all readers or writers" (results of push / pop are ignored by the C) -/
def choiceRegister (cfg : Cfg) (w : World) (f : Nat) : List Clause → World
  | [] => w
  | .give c x :: rest =>
    match chanPush cfg w f c x 1 with
    | .ok w' _ => choiceRegister cfg w' f rest
    | .closedErr => choiceRegister cfg w f rest
  | .take c :: rest =>
    match chanPop cfg w f c 1 with
    | .got w' _ => choiceRegister cfg w' f rest
    | .blocked w' => choiceRegister cfg w' f rest

/-! ### ev/count, ev/full, ev/capacity -/

/-- cfun_channel_count: `janet_q_count(&channel->items)` -/
def chanCount (w : World) (c : Nat) : Nat := (w.chans c).items.length
/-- cfun_channel_full: `janet_q_count(&channel->items) >= channel->limit` -/
def chanFull (w : World) (c : Nat) : Bool := decide ((w.chans c).items.length ≥ (w.chans c).limit)
/-- cfun_channel_capacity: `channel->limit` -/
def chanCapacity (w : World) (c : Nat) : Nat := (w.chans c).limit

/-! ### cfun_channel_close -/

def fiberCanResume (fb : Fiber) : Bool :=
  match fb.status with
  | .dead | .error => false
  | _ => true

def closeWake (cfg : Cfg) (c : Nat) (isWriter : Bool) (w : World) (p : Pending) : World :=
  if (!cfg.closeChecksSched || p.live w.fibers) && fiberCanResume (w.fibers p.fiber) then
    let choice := if isWriter then p.mode = .choiceWrite else p.mode = .choiceRead
    schedule w p.fiber (if choice then .close c else .nil)
  else w

def chanClose (cfg : Cfg) (w : World) (c : Nat) : World :=
  let ch := w.chans c
  if ch.closed then w else
  let w := setChan w c { ch with closed := true, readPending := [], writePending := [] }
  let w := ch.writePending.foldl (closeWake cfg c true) w
  ch.readPending.foldl (closeWake cfg c false) w

/-! ### janet_await and the event loop -/

/-- janet_await() + what janet_loop1 does when the continued fiber comes back with JANET_SIGNAL_EVENT -/
def awaitFiber (w : World) (f : Nat) : World :=
  let w := setFiber w f { w.fibers f with status := .pending, suspended := true }
  { w with listeners := w.listeners + 1, current := none }

def finishFiber (w : World) (f : Nat) (err : Bool) : World :=
  let w := setFiber w f { w.fibers f with status := if err then .error else .dead }
  { w with current := none }

inductive Outcome where
  | ret (v : Val)               -- the C function returned `v`; the fiber keeps running
  | await                       -- the fiber is suspended
  | err (v : Val)               -- the C function raised; the fiber is finished with an error
  | resumed (f : Nat) (v : Val) -- the loop continued fiber `f` with value `v`
  | resumedErr (f : Nat) (v : Val) -- the loop continued fiber `f` raising `v` in it (cancellation)
  | resumedDead (f : Nat)       -- the loop tried to continue a finished fiber
  | skipped                     -- stale task dropped
  | done                        -- fiber finished / loop bookkeeping
  | noop                        -- action not enabled in this state
  deriving Repr, DecidableEq

def receivedOf (f : Nat) : Val → List (Nat × Nat)
  | .num x => [(f, x)]
  | .take _ x => [(f, x)]
  | _ => []

/-- one iteration of the run phase of janet_loop1 -/
def loopRunTask (cfg : Cfg) (w : World) : World × Outcome :=
  match w.runq with
  | [] => (w, .noop)
  | t :: rest =>
    let fb := w.fibers t.fiber
    let w := { w with runq := rest, listeners := if fb.suspended then w.listeners - 1 else w.listeners }
    let fb' : Fiber := { fb with canceled := false, suspended := false }
    let w := setFiber w t.fiber fb'
    if t.expected ≠ fb.sched then
      ({ w with ghost := { w.ghost with dropped := w.ghost.dropped ++ [t] } }, .skipped)
    else
      -- `task.fiber->sched_id++` (when the source has it): before janet_continue_signal, whatever the fiber's status
      let fb' : Fiber := { fb' with sched := if cfg.resumeBumps then fb.sched + 1 else fb.sched }
      let w := setFiber w t.fiber fb'
      if !fiberCanResume fb then (w, .resumedDead t.fiber)
      else
        let w := setFiber w t.fiber { fb' with status := .alive }
        match t.sig with
        | .ok =>
          ({ w with current := some t.fiber,
                    ghost := { w.ghost with received := w.ghost.received ++ receivedOf t.fiber t.value } },
           .resumed t.fiber t.value)
        | .error => ({ w with current := some t.fiber }, .resumedErr t.fiber t.value)

/-- add_timeout: the timer heap as a list ordered by deadline (the harness keeps deadlines distinct, so the heap's
    pop order is the order of this list) -/
def insertTimer (t : Timer) : List Timer → List Timer
  | [] => [t]
  | u :: rest => if t.when < u.when then t :: u :: rest else u :: insertTimer t rest

/-- what the timer phase does with one expired timer -/
def fireTimer (w : World) (t : Timer) : World :=
  match t.curr with
  | some s => if w.scopes s then cancelFiber w t.fiber .errDeadline else w
  | none =>
    if (w.fibers t.fiber).sched = t.sched then
      (if t.isError then cancelFiber w t.fiber .errTimeout else schedule w t.fiber .nil)
    else w

/-- timer phase of janet_loop1: `now = ts_now(); while (peek_timeout(&to) && to.when <= now) { pop_timeout(0); ... }` -/
def loopTimers (w : World) : World :=
  let now := w.clock + w.clockStep
  let due := w.timers.takeWhile (fun t => t.when ≤ now)
  let rest := w.timers.dropWhile (fun t => t.when ≤ now)
  due.foldl fireTimer { w with clock := now, timers := rest }

/-- poll phase of janet_loop1, "Drop timeouts that are no longer needed": leading timers whose fiber has been
    rescheduled since are popped before the loop decides whether / how long to poll -/
def timerStale (w : World) (t : Timer) : Bool :=
  match t.curr with
  | some s => !w.scopes s
  | none => (w.fibers t.fiber).sched != t.sched

def loopPollDrop (w : World) : World :=
  { w with timers := w.timers.dropWhile (timerStale w) }

def loopDone (w : World) : Bool := w.runq.isEmpty && w.timers.isEmpty && w.listeners == 0

/-- run phase of janet_loop1 after janet_continue_signal returned with a signal the supervisor wants:
    `janet_channel_push(chan, make_supervisor_event(...), 2)` - mode 2: no root fiber, never blocks, never registers.
    A closed supervisor channel is skipped (source with the guard; without it janet_panic ends the thread - the
    scheduler `Ev/Exec.lean` stops the run there). -/
def supPush (cfg : Cfg) (w : World) (c x : Nat) : World × Outcome :=
  match chanPush cfg w 0 c x 2 with
  | .ok w' _ => (w', .done)
  | .closedErr => (w, .done)

/-! ### labelled transitions -/

inductive Action where
  | go (f : Nat)                -- ev/go on a new fiber
  | give (c x : Nat)            -- ev/give
  | take (c : Nat)              -- ev/take
  | select (cls : List Clause)  -- ev/select (ev/rselect = ev/select after the shuffle)
  | close (c : Nat)             -- ev/chan-close
  | sleep (ms : Nat)            -- (ev/sleep ms/1000)
  | cancel (g : Nat)            -- (ev/cancel g "cancelled"), g another fiber
  | deadline (s ms : Nat)       -- (ev/deadline ms/1000 nil s): start of an ev/with-deadline body, s = its coroutine
  | scopeEnd (s : Nat)          -- the body coroutine s has finished (returned or raised)
  | finish (err : Bool)         -- the running fiber returns / raises
  | runTask                     -- loop: run phase, one task
  | timers                      -- loop: timer phase
  | poll                        -- loop: poll phase (drops stale timers)
  | supEvent (c x : Nat)        -- loop: run phase, after a supervised fiber finished: push its event `x` to channel `c`
  deriving Repr, DecidableEq

def step (cfg : Cfg) (w : World) (a : Action) : World × Outcome :=
  match w.current, a with
  | none, .runTask => loopRunTask cfg w
  | none, .timers => (loopTimers w, .done)
  | none, .poll => (loopPollDrop w, .done)
  | none, .supEvent c x => supPush cfg w c x
  | some _, .go g =>
    -- ev/go on a fiber that has never been scheduled
    if (w.fibers g).status = .new ∧ (w.fibers g).sched = 0 then (schedule w g .nil, .ret .nil) else (w, .noop)
  | some f, .cancel g => if g = f then (w, .noop) else (cancelFiber w g .errCancel, .ret .nil)
  | some f, .deadline s ms =>
    let now := w.clock + w.clockStep
    ({ w with clock := now, scopes := fun i => if i = s then true else w.scopes i,
              timers := insertTimer ⟨f, (w.fibers f).sched, now + ms, false, some s⟩ w.timers }, .ret .nil)
  | _, .scopeEnd s => ({ w with scopes := fun i => if i = s then false else w.scopes i }, .done)
  | some f, .give c x =>
    match chanPush cfg w f c x 0 with
    | .closedErr => (finishFiber w f true, .err .errClosed)
    | .ok w' true => (awaitFiber w' f, .await)
    | .ok w' false => (w', .ret (.chan c))
  | some f, .take c =>
    match chanPop cfg w f c 0 with
    | .got w' (some x) => (awaitFiber (schedule w' f (.num x)) f, .await)
    | .got w' none => (awaitFiber (schedule w' f .nil) f, .await)
    | .blocked w' => (awaitFiber w' f, .await)
  | some _, .select [] => (w, .noop)   -- janet_arity(argc, 1, -1): an error before anything happens; not modelled
  | some f, .select cls =>
    match choiceImmediate cfg w f cls with
    | some (w', v) => (w', .ret v)
    | none => (awaitFiber (choiceRegister cfg w f cls) f, .await)
  | some _, .close c => (chanClose cfg w c, .ret (.chan c))
  | some f, .sleep ms =>
    let now := w.clock + w.clockStep
    (awaitFiber { w with clock := now, timers := insertTimer ⟨f, (w.fibers f).sched, now + ms, false, none⟩ w.timers } f,
     .await)
  | some f, .finish e => (finishFiber w f e, .done)
  | _, _ => (w, .noop)

/-- hypothesis of the wake-up theorems: a select names every channel at most once (a select with a give and a take
    clause on one channel can be matched with itself in the registration loop; see `noSelfMatch_needed` in `Ev/SourceObligations.lean`) -/
def Action.noSelfMatch : Action → Prop
  | .select cls => (cls.map Clause.chan).Nodup
  | _ => True

/-- run a list of actions -/
def run (cfg : Cfg) (w : World) (as : List Action) : World := as.foldl (fun w a => (step cfg w a).1) w

/-- `f` is suspended and nothing can ever resume it: no task, timer or channel registration carries its current
    sched_id (channels `0..nch-1`). -/
def lostWakeup (w : World) (f nch : Nat) : Bool :=
  (w.fibers f).status == .pending
  && w.runq.all (fun t => !(t.fiber == f && t.expected == (w.fibers f).sched))
  && w.timers.all (fun t => !(t.curr.isNone && t.fiber == f && t.sched == (w.fibers f).sched))
  && (List.range nch).all (fun c =>
        ((w.chans c).readPending ++ (w.chans c).writePending).all (fun p => !(p.fiber == f && p.live w.fibers)))

/-- the harness's start state: channels with the given capacities, main fiber 0 scheduled from outside the loop -/
def World.start (limits : Nat → Nat) : World := schedule (World.init limits) 0 .nil

end JanetModel.Ev
