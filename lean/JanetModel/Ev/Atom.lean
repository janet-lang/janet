/- Elementary changes of the world.  push_with_lock, pop_with_lock and channel-close are short sequences of them; an
   invariant is proved once per elementary change and carried over every sequence.  `QMove` is what an elementary change
   does to the pending queues and the scheduler, which is all the wake-up invariants look at. -/
import JanetModel.Ev.Lemmas
namespace JanetModel.Ev

inductive Side where
  | rd | wr
  deriving DecidableEq

def Chan.pend (ch : Chan) : Side → List Pending
  | .rd => ch.readPending
  | .wr => ch.writePending

def Chan.setPend (ch : Chan) : Side → List Pending → Chan
  | .rd, l => { ch with readPending := l }
  | .wr, l => { ch with writePending := l }

theorem setChan_setChan (w : World) (c : Nat) (a b : Chan) : setChan (setChan w c a) c b = setChan w c b := by
  unfold setChan
  congr 1
  funext i
  by_cases h : i = c <;> simp [h]

def wakeOpt (w : World) (v : Pending → Val) : Option Pending → World
  | none => w
  | some p => schedule w p.fiber (v p)

/-- One elementary change, with the local facts invariants need.  `self g`: fiber `g` may register itself; `other g`: `g`
    may be woken (the channel invariants take both to be `True`, the wake-up invariants `self` for the running fiber only
    and `other` for all the others).  The indices are what the change gives out: the registrations it makes, and the item
    it hands to the caller without giving it a place in a task or in the receive log. -/
inductive Atom (self other : Nat → Prop) : List (Nat × Side) → List Nat → World → World → Prop
  | drop (w : World) (c : Nat) (s : Side) (l' : List Pending) (sub : l'.Sublist ((w.chans c).pend s))
      (gone : ∀ p ∈ (w.chans c).pend s, p ∉ l' → p.sched ≠ (w.fibers p.fiber).sched) :
      Atom self other [] [] w (setChan w c ((w.chans c).setPend s l'))
  /-- the giver's registration `reg` is not a change of its own: a live pending writer is justified by the item it queued
      itself -/
  | enq (w : World) (c x : Nat) (reg : List Pending) (opn : (w.chans c).closed = false)
      (nor : hasLiveReader w.fibers (w.chans c).readPending = false)
      (hreg : ∀ p ∈ reg, reg = [p] ∧ self p.fiber ∧ p.sched = (w.fibers p.fiber).sched ∧
        (w.chans c).limit < (w.chans c).items.length + 1) :
      Atom self other (reg.map fun _ => (c, .wr)) [] w (setChan (addPushed w c x) c { w.chans c with
        items := (w.chans c).items ++ [x], writePending := (w.chans c).writePending ++ reg })
  | hand (w : World) (c x : Nat) (r : Pending) (rest : List Pending) (v : Val)
      (hrp : (w.chans c).readPending = r :: rest) (live : r.sched = (w.fibers r.fiber).sched)
      (opn : (w.chans c).closed = false) (oth : other r.fiber) (hv : v = .take c x ∨ v = .num x) :
      Atom self other [] [] w
        (schedule (addHanded (setChan (addPushed w c x) c { w.chans c with readPending := rest }) c x) r.fiber v)
  | regR (w : World) (c : Nat) (p : Pending) (hs : self p.fiber) (hp : p.sched = (w.fibers p.fiber).sched)
      (opn : (w.chans c).closed = false) (emp : (w.chans c).items = []) :
      Atom self other [(c, .rd)] [] w (setChan w c { w.chans c with readPending := (w.chans c).readPending ++ [p] })
  /-- `hnone`: every stale writer has been dropped before, so a queue without a live head is empty -/
  | deq (w : World) (c x : Nat) (rest : List Nat) (o : Option Pending) (wp' : List Pending) (v : Pending → Val)
      (hit : (w.chans c).items = x :: rest) (opn : (w.chans c).closed = false)
      (hwp : (w.chans c).writePending = o.toList ++ wp') (hnone : o = none → wp' = [])
      (live : ∀ p ∈ o, p.sched = (w.fibers p.fiber).sched ∧ other p.fiber) (hv : ∀ p, v p = .give c ∨ v p = .chan c) :
      Atom self other [] [x] w
        (wakeOpt (setChan (addHanded w c x) c { w.chans c with items := rest, writePending := wp' }) v o)
  | wakeC (w : World) (c : Nat) (s : Side) (p : Pending) (rest : List Pending) (v : Val)
      (hl : (w.chans c).pend s = p :: rest) (live : p.sched = (w.fibers p.fiber).sched) (oth : other p.fiber)
      (hv : v = .close c ∨ v = .nil) :
      Atom self other [] [] w (schedule (setChan w c ((w.chans c).setPend s rest)) p.fiber v)
  | close (w : World) (c : Nat) (hr : (w.chans c).readPending = []) (hw : (w.chans c).writePending = []) :
      Atom self other [] [] w (setChan w c { w.chans c with closed := true, readPending := [], writePending := [] })

inductive Steps (self other : Nat → Prop) : List (Nat × Side) → List Nat → World → World → Prop
  | nil (w : World) : Steps self other [] [] w w
  | cons {r₁ r₂ : List (Nat × Side)} {o₁ o₂ : List Nat} {a b c : World} :
      Atom self other r₁ o₁ a b → Steps self other r₂ o₂ b c → Steps self other (r₁ ++ r₂) (o₁ ++ o₂) a c

theorem Steps.keeps {self other : Nat → Prop} {P : World → Prop} (hP : ∀ {r o a b}, Atom self other r o a b → P a → P b)
    {r : List (Nat × Side)} {o : List Nat} {w w' : World} (h : Steps self other r o w w') : P w → P w' := by
  induction h with
  | nil => exact id
  | cons ha _ ih => exact fun h => ih (hP ha h)

theorem Steps.cast {self other : Nat → Prop} {r r' : List (Nat × Side)} {o : List Nat} {a b : World} (e : r = r')
    (h : Steps self other r o a b) : Steps self other r' o a b :=
  e ▸ h

theorem Steps.append {self other : Nat → Prop} {r₁ r₂ : List (Nat × Side)} {o₁ o₂ : List Nat} {a b c : World}
    (h₁ : Steps self other r₁ o₁ a b) (h₂ : Steps self other r₂ o₂ b c) : Steps self other (r₁ ++ r₂) (o₁ ++ o₂) a c := by
  induction h₁ with
  | nil => exact h₂
  | cons ha _ ih => rw [List.append_assoc, List.append_assoc]; exact .cons ha (ih h₂)

theorem Steps.one {self other : Nat → Prop} {r : List (Nat × Side)} {o : List Nat} {a b : World}
    (h : Atom self other r o a b) : Steps self other r o a b :=
  List.append_nil r ▸ List.append_nil o ▸ .cons h (.nil b)

theorem Atom.received {self other : Nat → Prop} {r : List (Nat × Side)} {o : List Nat} {a b : World}
    (h : Atom self other r o a b) :
    b.ghost.received = a.ghost.received := by
  cases h with
  | drop | enq | regR | close => rfl
  | hand | wakeC => rw [schedule_ghost]; rfl
  | deq _ c x rest o =>
    cases o with
    | none => rfl
    | some p => exact (congrArg Ghost.received (schedule_ghost ..)).trans rfl

theorem Steps.received {self other : Nat → Prop} {r : List (Nat × Side)} {o : List Nat} {w w' : World}
    (h : Steps self other r o w w') :
    w'.ghost.received = w.ghost.received :=
  h.keeps (P := fun u => u.ghost.received = w.ghost.received) (fun ha e => ha.received.trans e) rfl

/-- what the two `do … while` loops that skip stale entries leave behind: the stale prefix is dropped -/
theorem popLiveReader_drop (self other : Nat → Prop) (w : World) (c : Nat) (s : Side) :
    (popLiveReader w.fibers ((w.chans c).pend s) = (none, []) ∧
      Atom self other [] [] w (setChan w c ((w.chans c).setPend s []))) ∨
    (∃ p rest, popLiveReader w.fibers ((w.chans c).pend s) = (some p, rest) ∧ p ∈ (w.chans c).pend s ∧
      p.sched = (w.fibers p.fiber).sched ∧ Atom self other [] [] w (setChan w c ((w.chans c).setPend s (p :: rest)))) := by
  rcases popLiveReader_split w.fibers ((w.chans c).pend s) with ⟨hn, hst⟩ | ⟨pre, p, rest, hl, hst, hp, hsome⟩
  · refine Or.inl ⟨hn, .drop w c s [] (List.nil_sublist _) fun q hq _ e => ?_⟩
    have := hst q hq
    rw [(live_iff w.fibers q).mpr e] at this
    cases this
  · refine Or.inr ⟨p, rest, hsome, hl ▸ List.mem_append_right _ (List.mem_cons_self ..), (live_iff w.fibers p).mp hp,
      .drop w c s (p :: rest) (hl ▸ List.sublist_append_right _ _) fun q hq hn e => ?_⟩
    rw [hl] at hq
    rcases List.mem_append.mp hq with hq | hq
    · have := hst q hq
      rw [(live_iff w.fibers q).mpr e] at this
      cases this
    · exact hn hq

theorem chanPush_steps {cfg : Cfg} (hs : cfg.pushBlocksStrict = true) {w : World} {f c x mode : Nat} {w' : World} {b : Bool}
    (h : chanPush cfg w f c x mode = .ok w' b) (self other : Nat → Prop) (hc : mode ≠ 2 → self f)
    (hoth : ∀ p ∈ (w.chans c).readPending, p.sched = (w.fibers p.fiber).sched → other p.fiber) :
    Steps self other (if b = true ∧ mode ≠ 2 then [(c, .wr)] else []) [] w w' := by
  rcases chanPush_eq cfg w f c x mode with ⟨_, e⟩ | ⟨hcl, o, rp, hq, e⟩
  · rw [e] at h; cases h
  rw [e] at h
  rcases popLiveReader_drop self other w c .rd with ⟨hn, hd⟩ | ⟨r, rest, hsome, hrin, hrl, hd⟩
  · injection hn.symm.trans hq with h1 h2
    subst h1 h2
    cases h
    have key := Atom.enq (self := self) (other := other) (setChan w c ((w.chans c).setPend .rd [])) c x
      (if pushBlocks cfg ((w.chans c).items.length + 1) (w.chans c).limit = true ∧ mode ≠ 2 then
        [Pending.mk f (w.fibers f).sched (if mode = 0 then .write else .choiceWrite)] else [])
      (by rw [setChan_chans_self]; exact hcl) (by rw [setChan_chans_self]; rfl) (by
        intro p hp
        split at hp
        · rename_i hb
          cases List.mem_singleton.mp hp
          rw [setChan_chans_self]
          refine ⟨if_pos hb, hc hb.2, rfl, ?_⟩
          exact (pushBlocks_iff hs _ _).mp hb.1
        · cases hp)
    rw [setChan_chans_self] at key
    refine .cast ?_ (.cons hd (.one (setChan_setChan (addPushed w c x) c _ _ ▸ key)))
    by_cases hb : pushBlocks cfg ((w.chans c).items.length + 1) (w.chans c).limit = true ∧ mode ≠ 2
    · rw [if_pos hb, if_pos hb]; rfl
    · rw [if_neg hb, if_neg hb]; rfl
  · injection hsome.symm.trans hq with h1 h2
    subst h1 h2
    cases h
    have key := Atom.hand (self := self) (other := other) (setChan w c ((w.chans c).setPend .rd (r :: rest))) c x r rest
      (if r.mode = .choiceRead then .take c x else .num x) (by rw [setChan_chans_self]; rfl) hrl
      (by rw [setChan_chans_self]; exact hcl) (hoth r hrin hrl) (by
        split
        · exact Or.inl rfl
        · exact Or.inr rfl)
    rw [setChan_chans_self] at key
    exact .cast (if_neg fun h => Bool.false_ne_true h.1).symm
      (.cons hd (.one (setChan_setChan (addPushed w c x) c _ _ ▸ key)))

/-- the supervisor push of the run phase (mode 2, no running fiber): nobody registers, anybody may be woken -/
theorem supPush_steps {cfg : Cfg} (hs : cfg.pushBlocksStrict = true) {w : World} {c x : Nat} {w' : World} {b : Bool}
    (h : chanPush cfg w 0 c x 2 = .ok w' b) : Steps (fun _ => False) (fun _ => True) [] [] w w' :=
  .cast (if_neg fun h => h.2 rfl) (chanPush_steps hs h _ _ (fun h => absurd rfl h) (fun _ _ _ => trivial))

theorem chanPop_steps {cfg : Cfg} (hk : cfg.popSkipsStaleWriter = true) (w : World) (f c mode : Nat)
    (self other : Nat → Prop) (hc : mode ≠ 2 → self f) :
    (∀ w' r, chanPop cfg w f c mode = .got w' r →
      (∀ p ∈ (w.chans c).writePending, p.sched = (w.fibers p.fiber).sched → other p.fiber) →
      Steps self other [] r.toList w w') ∧
    (∀ w', chanPop cfg w f c mode = .blocked w' → Steps self other (if mode = 2 then [] else [(c, .rd)]) [] w w') := by
  rcases chanPop_eq cfg w f c mode with ⟨_, e⟩ | ⟨hcl, hit, e⟩ | ⟨x, rest, o, wp', hcl, hit, hq, e⟩ <;> rw [e]
  · exact ⟨fun _ _ h _ => (by cases h; exact .nil _), fun _ h => nomatch h⟩
  · refine ⟨fun _ _ h _ => (nomatch h), fun _ h => ?_⟩
    cases h
    by_cases hm : mode = 2
    · rw [if_pos hm, if_pos hm]; exact .nil _
    · rw [if_neg hm, if_neg hm]; exact .one (.regR w c _ (hc hm) rfl hcl hit)
  · refine ⟨fun _ _ h hoth => ?_, fun _ h => nomatch h⟩
    cases h
    rw [hk, popWriter_true] at hq
    have hdeq : ∀ (o : Option Pending) (l : List Pending), (o = none → l = []) →
        (∀ p ∈ o, p.sched = (w.fibers p.fiber).sched ∧ other p.fiber) →
        Atom self other [] [x] (setChan w c ((w.chans c).setPend .wr (o.toList ++ l)))
          (wakeOpt (setChan (addHanded w c x) c { (w.chans c) with items := rest, writePending := l })
            (fun p => if p.mode = .choiceWrite then .give c else .chan c) o) := by
      intro o l hnone hlive
      have := Atom.deq (self := self) (other := other) (setChan w c ((w.chans c).setPend .wr (o.toList ++ l))) c x rest o l
        (fun p => if p.mode = .choiceWrite then .give c else .chan c) (by rw [setChan_chans_self]; exact hit)
        (by rw [setChan_chans_self]; exact hcl) (by rw [setChan_chans_self]; rfl) hnone hlive
        (fun p => by split; exact Or.inl rfl; exact Or.inr rfl)
      rw [setChan_chans_self] at this
      exact (setChan_setChan (addHanded w c x) c _ _) ▸ this
    rcases popLiveReader_drop self other w c .wr with ⟨hn, hd⟩ | ⟨p, tl, hsome, hpin, hpl, hd⟩
    · injection hn.symm.trans hq with h1 h2
      subst h1 h2
      exact .cons hd (.one (hdeq none [] (fun _ => rfl) (fun _ h => nomatch h)))
    · injection hsome.symm.trans hq with h1 h2
      subst h1 h2
      exact .cons hd (.one (hdeq (some p) tl (fun h => nomatch h)
        (fun q hq => by cases hq; exact ⟨hpl, hoth p hpin hpl⟩)))

/- channel-close: the model marks the channel closed and empties the queues first, then wakes the waiters it took out;
   the same world results from waking the head of each queue in turn and marking the channel closed last -/

theorem schedule_setChan (w : World) (c : Nat) (ch : Chan) (g : Nat) (v : Val) :
    schedule (setChan w c ch) g v = setChan (schedule w g v) c ch := by
  by_cases h : (w.fibers g).canceled = true <;> simp [schedule, scheduleGeneral, setChan, setFiber, h]

theorem closeWake_setChan (cfg : Cfg) (c' : Nat) (b : Bool) (w : World) (c : Nat) (ch : Chan) (p : Pending) :
    closeWake cfg c' b (setChan w c ch) p = setChan (closeWake cfg c' b w p) c ch := by
  unfold closeWake
  by_cases h : ((!cfg.closeChecksSched || p.live w.fibers) && fiberCanResume (w.fibers p.fiber)) = true
  · rw [if_pos h, if_pos (show ((!cfg.closeChecksSched || p.live (setChan w c ch).fibers) &&
      fiberCanResume ((setChan w c ch).fibers p.fiber)) = true from h)]
    exact schedule_setChan ..
  · rw [if_neg h, if_neg (show ¬ ((!cfg.closeChecksSched || p.live (setChan w c ch).fibers) &&
      fiberCanResume ((setChan w c ch).fibers p.fiber)) = true from h)]

theorem foldl_closeWake_setChan (cfg : Cfg) (c' : Nat) (b : Bool) (c : Nat) (ch : Chan) (l : List Pending) :
    ∀ w, l.foldl (closeWake cfg c' b) (setChan w c ch) = setChan (l.foldl (closeWake cfg c' b) w) c ch := by
  induction l with
  | nil => intro w; rfl
  | cons p rest ih => intro w; rw [List.foldl_cons, closeWake_setChan, ih]; rfl

theorem pend_setPend (ch : Chan) (s : Side) (l : List Pending) : (ch.setPend s l).pend s = l := by cases s <;> rfl

theorem setPend_setPend (ch : Chan) (s : Side) (l l' : List Pending) : (ch.setPend s l).setPend s l' = ch.setPend s l' := by
  cases s <;> rfl

/-- the side condition of close on an entry survives a change of fibers that only raises sched_ids and keeps every status -/
theorem closeOk_mono {other : Nat → Prop} {fb fb' : Nat → Fiber} {q : Pending} (hle : (fb q.fiber).sched ≤ (fb' q.fiber).sched)
    (hst : (fb' q.fiber).status = (fb q.fiber).status)
    (h : q.sched ≤ (fb q.fiber).sched ∧ (q.sched = (fb q.fiber).sched → other q.fiber ∧ fiberCanResume (fb q.fiber) = true)) :
    q.sched ≤ (fb' q.fiber).sched ∧ (q.sched = (fb' q.fiber).sched → other q.fiber ∧ fiberCanResume (fb' q.fiber) = true) := by
  refine ⟨Nat.le_trans h.1 hle, fun e => ?_⟩
  have e0 : q.sched = (fb q.fiber).sched := Nat.le_antisymm h.1 (e ▸ hle)
  refine ⟨(h.2 e0).1, ?_⟩
  unfold fiberCanResume
  rw [hst]
  exact (h.2 e0).2

theorem closeFold_steps {cfg : Cfg} (hcc : cfg.closeChecksSched = true) (self other : Nat → Prop) (c : Nat) (s : Side) (b : Bool) :
    ∀ (l : List Pending) (u : World), (u.chans c).pend s = l →
      (∀ q ∈ l, q.sched ≤ (u.fibers q.fiber).sched ∧
        (q.sched = (u.fibers q.fiber).sched → other q.fiber ∧ fiberCanResume (u.fibers q.fiber) = true)) →
      Steps self other [] [] u (setChan (l.foldl (closeWake cfg c b) u) c ((u.chans c).setPend s [])) := by
  intro l
  induction l with
  | nil =>
    intro u hl _
    exact .one (.drop u c s [] (List.nil_sublist _) fun q hq => by rw [hl] at hq; cases hq)
  | cons p rest ih =>
    intro u hl hok
    obtain ⟨hpb, hpl⟩ := hok p (List.mem_cons_self ..)
    by_cases hlive : p.sched = (u.fibers p.fiber).sched
    · obtain ⟨hoth, hres⟩ := hpl hlive
      obtain ⟨v, hv, hcw⟩ : ∃ v, (v = Val.close c ∨ v = Val.nil) ∧ closeWake cfg c b u p = schedule u p.fiber v := by
        unfold closeWake
        rw [if_pos (by rw [hcc, (live_iff u.fibers p).mpr hlive, hres]; rfl)]
        by_cases hch : (if b = true then p.mode = Mode.choiceWrite else p.mode = Mode.choiceRead)
        · exact ⟨.close c, Or.inl rfl, by simp only [hch, if_true]⟩
        · exact ⟨.nil, Or.inr rfl, by simp only [hch, if_false]⟩
      have hsf := (schedule_frame (setChan u c ((u.chans c).setPend s rest)) p.fiber v).sched
      have hst := fun g => schedule_status (setChan u c ((u.chans c).setPend s rest)) p.fiber v g
      have hi := ih (schedule (setChan u c ((u.chans c).setPend s rest)) p.fiber v)
        (by rw [schedule_chans, setChan_chans_self, pend_setPend])
        (fun q hq => closeOk_mono (hsf q.fiber) (hst q.fiber).1 (hok q (List.mem_cons_of_mem _ hq)))
      rw [schedule_chans, setChan_chans_self, setPend_setPend, schedule_setChan, foldl_closeWake_setChan, setChan_setChan,
        ← hcw] at hi
      have ha := Atom.wakeC (self := self) u c s p rest v hl hlive hoth hv
      rw [schedule_setChan, ← hcw] at ha
      exact .cons ha hi
    · have hcw : closeWake cfg c b u p = u := by
        unfold closeWake
        rw [if_neg (by rw [hcc, show p.live u.fibers = false from by
          cases h : p.live u.fibers
          · rfl
          · exact absurd ((live_iff u.fibers p).mp h) hlive]; simp)]
      have hi := ih (setChan u c ((u.chans c).setPend s rest)) (by rw [setChan_chans_self, pend_setPend])
        (fun q hq => hok q (List.mem_cons_of_mem _ hq))
      rw [setChan_chans_self, setPend_setPend, foldl_closeWake_setChan, setChan_setChan] at hi
      rw [List.foldl_cons, hcw]
      refine .cons (.drop u c s rest (hl ▸ List.sublist_cons_self p rest) fun q hq hn => ?_) hi
      rw [hl] at hq
      rcases List.mem_cons.mp hq with e | e
      · rw [e]; exact hlive
      · exact absurd e hn

/-- channel-close of a source that wakes only current registrations; a live entry must belong to a fiber that can be resumed -/
theorem chanClose_steps {cfg : Cfg} (hcc : cfg.closeChecksSched = true) (self other : Nat → Prop) (w : World) (c : Nat)
    (hok : ∀ s, ∀ q ∈ (w.chans c).pend s, q.sched ≤ (w.fibers q.fiber).sched ∧
      (q.sched = (w.fibers q.fiber).sched → other q.fiber ∧ fiberCanResume (w.fibers q.fiber) = true)) :
    Steps self other [] [] w (chanClose cfg w c) := by
  rcases chanClose_eq cfg w c with ⟨_, e⟩ | ⟨_, e⟩
  · rw [e]; exact .nil w
  have hA := closeFold_steps hcc self other c .wr true (w.chans c).writePending w rfl (hok .wr)
  have hm := (closeWake_fold cfg c true (w.chans c).writePending w).1
  generalize hW1 : (w.chans c).writePending.foldl (closeWake cfg c true) w = W1 at hA hm
  have hB := closeFold_steps hcc self other c .rd false (w.chans c).readPending
    (setChan W1 c ((w.chans c).setPend .wr [])) (by rw [setChan_chans_self]; rfl)
    (fun q hq => closeOk_mono (hm q.fiber).1 (hm q.fiber).2.1 (hok .rd q hq))
  rw [setChan_chans_self, foldl_closeWake_setChan, setChan_setChan] at hB
  generalize hW2 : (w.chans c).readPending.foldl (closeWake cfg c false) W1 = W2 at hB
  have hC := Atom.close (self := self) (other := other)
    (setChan W2 c (((w.chans c).setPend .wr []).setPend .rd [])) c
    (by rw [setChan_chans_self]; rfl) (by rw [setChan_chans_self]; rfl)
  rw [setChan_chans_self, setChan_setChan] at hC
  rw [e, foldl_closeWake_setChan, foldl_closeWake_setChan, hW1, hW2]
  exact hA.append (hB.append (.one hC))

/- The wake-up invariants do not look at items and logs.  For them an elementary change is one of three moves of one queue
   `(c, s)`: stale entries leave it; entries of `self` fibers with their current sched_id join it; its live head, an `other`
   fiber, leaves it and is scheduled. -/

theorem pend_setChan (w : World) (c : Nat) (ch : Chan) (s : Side) (ho : ∀ s', s' ≠ s → ch.pend s' = (w.chans c).pend s')
    (c' : Nat) (s' : Side) :
    ((setChan w c ch).chans c').pend s' = if c' = c ∧ s' = s then ch.pend s else (w.chans c').pend s' := by
  show (if c' = c then ch else w.chans c').pend s' = _
  by_cases e : c' = c
  · rw [if_pos e, e]
    by_cases es : s' = s
    · rw [if_pos ⟨rfl, es⟩, es]
    · rw [if_neg fun h => es h.2, ho s' es]
  · rw [if_neg e, if_neg fun h => e h.1]

theorem Side.ne_rd : ∀ {s : Side}, s ≠ .rd → s = .wr
  | .wr, _ => rfl
  | .rd, h => absurd rfl h

theorem Side.ne_wr : ∀ {s : Side}, s ≠ .wr → s = .rd
  | .rd, _ => rfl
  | .wr, h => absurd rfl h

theorem pend_setPend_ne (ch : Chan) : ∀ (s : Side) (l : List Pending) {s' : Side}, s' ≠ s → (ch.setPend s l).pend s' = ch.pend s'
  | .rd, _, .wr, _ => rfl
  | .wr, _, .rd, _ => rfl
  | .rd, _, .rd, h => absurd rfl h
  | .wr, _, .wr, h => absurd rfl h

def SameSched (a b : World) : Prop :=
  b.fibers = a.fibers ∧ b.runq = a.runq ∧ b.timers = a.timers ∧ b.current = a.current

inductive QMove (self other : Nat → Prop) (r : List (Nat × Side)) (a b : World) : Prop
  | shrink (c : Nat) (s : Side) (l' : List Pending) (hs : SameSched a b)
      (hq : ∀ c' s', (b.chans c').pend s' = if c' = c ∧ s' = s then l' else (a.chans c').pend s')
      (sub : l'.Sublist ((a.chans c).pend s))
      (gone : ∀ p ∈ (a.chans c).pend s, p ∉ l' → p.sched ≠ (a.fibers p.fiber).sched) (hr : r = [])
  | add (c : Nat) (s : Side) (reg : List Pending) (hs : SameSched a b)
      (hq : ∀ c' s', (b.chans c').pend s' = if c' = c ∧ s' = s then (a.chans c).pend s ++ reg else (a.chans c').pend s')
      (hreg : ∀ p ∈ reg, reg = [p] ∧ self p.fiber ∧ p.sched = (a.fibers p.fiber).sched)
      (hr : r = reg.map fun _ => (c, s))
  | wake (c : Nat) (s : Side) (p : Pending) (l' : List Pending) (v : Val) (w1 : World) (hs : SameSched a w1)
      (hb : b = scheduleGeneral w1 p.fiber v .ok false)
      (hq : ∀ c' s', (w1.chans c').pend s' = if c' = c ∧ s' = s then l' else (a.chans c').pend s')
      (hl : (a.chans c).pend s = p :: l') (live : p.sched = (a.fibers p.fiber).sched) (oth : other p.fiber) (hr : r = [])

theorem Atom.qmove {self other : Nat → Prop} {r : List (Nat × Side)} {o : List Nat} {a b : World}
    (h : Atom self other r o a b) :
    QMove self other r a b := by
  cases h with
  | drop _ c s l' sub gone =>
    exact .shrink c s l' ⟨rfl, rfl, rfl, rfl⟩
      (fun c' s' => (pend_setChan a c _ s (fun _ => pend_setPend_ne _ s l') c' s').trans (by rw [pend_setPend])) sub gone rfl
  | enq _ c x reg opn nor hreg =>
    exact .add c .wr reg ⟨rfl, rfl, rfl, rfl⟩ (pend_setChan (addPushed a c x) c _ .wr fun s' h => by rw [Side.ne_wr h]; rfl)
      (fun p hp => ⟨(hreg p hp).1, (hreg p hp).2.1, (hreg p hp).2.2.1⟩) rfl
  | hand _ c x r rest v hrp live opn oth hv =>
    exact .wake c .rd r rest v (addHanded (setChan (addPushed a c x) c { (a.chans c) with readPending := rest }) c x)
      ⟨rfl, rfl, rfl, rfl⟩ rfl (pend_setChan (addPushed a c x) c _ .rd fun s' h => by rw [Side.ne_rd h]; rfl) hrp live oth rfl
  | regR _ c p hs hp opn emp =>
    refine .add c .rd [p] ⟨rfl, rfl, rfl, rfl⟩ (pend_setChan a c _ .rd fun s' h => by rw [Side.ne_rd h]; rfl) (fun q hq => ?_) rfl
    cases List.mem_singleton.mp hq
    exact ⟨rfl, hs, hp⟩
  | deq _ c x rest o wp' v hit opn hwp hnone live _ =>
    have hq := pend_setChan (addHanded a c x) c { (a.chans c) with items := rest, writePending := wp' } .wr
      fun s' h => by rw [Side.ne_wr h]; rfl
    cases o with
    | none =>
      refine .shrink c .wr wp' ⟨rfl, rfl, rfl, rfl⟩ hq ?_ (fun p hp hn => ?_) rfl
      · rw [show (a.chans c).pend .wr = _ from hwp]; exact List.Sublist.refl _
      · rw [show (a.chans c).pend .wr = _ from hwp] at hp; exact absurd hp hn
    | some p =>
      exact .wake c .wr p wp' (v p) (setChan (addHanded a c x) c { (a.chans c) with items := rest, writePending := wp' })
        ⟨rfl, rfl, rfl, rfl⟩ rfl hq hwp (live p rfl).1 (live p rfl).2 rfl
  | wakeC _ c s p rest v hl live oth _ =>
    exact .wake c s p rest v (setChan a c ((a.chans c).setPend s rest)) ⟨rfl, rfl, rfl, rfl⟩ rfl
      (fun c' s' => (pend_setChan a c _ s (fun _ => pend_setPend_ne _ s rest) c' s').trans (by rw [pend_setPend])) hl live oth rfl
  | close _ c hr hw =>
    refine .shrink c .rd [] ⟨rfl, rfl, rfl, rfl⟩ (pend_setChan a c _ .rd fun s' h => by rw [Side.ne_rd h]; exact hw.symm)
      (List.nil_sublist _) (fun p hp => ?_) rfl
    rw [show (a.chans c).pend .rd = _ from hr] at hp
    cases hp

end JanetModel.Ev
