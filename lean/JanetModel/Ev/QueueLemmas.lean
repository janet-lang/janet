/- The janet_q_* ring buffer model (`Ev/Queue.lean`) refines a list: push appends, push_head prepends, pop removes the
   head, the resize (including the move of a wrapped first segment) changes nothing, and the index walk of
   `janet_channel_has_reader` (`for (i = head; i != tail; i = i + 1 < capacity ? i + 1 : 0)`) visits exactly the
   abstract content.  (The mark functions use the two-branch walk of `Ev/Mark.lean`.) -/
import JanetModel.Ev.Queue
namespace JanetModel.Ev
namespace RingQ
variable {α : Type}

/-- physical slot of the i-th element -/
def slot (q : RingQ α) (i : Nat) : Nat := if q.head + i < q.cap then q.head + i else q.head + i - q.cap

theorem slot_lo (q : RingQ α) (i : Nat) (h : q.head + i < q.cap) : q.slot i = q.head + i := by
  unfold slot; rw [if_pos h]

theorem slot_hi (q : RingQ α) (i : Nat) (h : ¬ q.head + i < q.cap) : q.slot i = q.head + i - q.cap := by
  unfold slot; rw [if_neg h]

theorem mod_slot (q : RingQ α) (h : q.head < q.cap) (i : Nat) (hi : i < q.cap) : (q.head + i) % q.cap = q.slot i := by
  by_cases h1 : q.head + i < q.cap
  · rw [slot_lo q i h1]; exact Nat.mod_eq_of_lt h1
  · rw [slot_hi q i h1, Nat.mod_eq_sub_mod (by omega), Nat.mod_eq_of_lt (by omega)]

theorem slot_zero (q : RingQ α) (h : q.head < q.cap) : q.slot 0 = q.head := slot_lo q 0 h

theorem slot_lt (q : RingQ α) (h : q.head < q.cap) {i : Nat} (hi : i < q.cap) : q.slot i < q.cap := by
  unfold slot; split <;> omega

theorem slot_inj (q : RingQ α) {i j : Nat} (hi : i < q.cap) (hj : j < q.cap)
    (e : q.slot i = q.slot j) : i = j := by
  unfold slot at e; split at e <;> split at e <;> omega

theorem slot_succ (q : RingQ α) (h : q.head < q.cap) {i : Nat} (hi : i < q.cap) :
    (if q.slot i + 1 < q.cap then q.slot i + 1 else 0) = q.slot (i + 1) := by
  by_cases h1 : q.head + i < q.cap
  · rw [slot_lo q i h1]; unfold slot; split <;> split <;> omega
  · rw [slot_hi q i h1, slot_hi q (i + 1) (by omega), if_pos (by omega)]; omega

theorem slot_shift (q q' : RingQ α) (h : q.head < q.cap) (hc : q'.cap = q.cap) {k : Nat} (hh : q'.head = q.slot k)
    {i : Nat} (hi : k + i ≤ q.cap) : q'.slot i = q.slot (k + i) := by
  unfold slot at hh ⊢
  rw [hc, hh]
  split
  · rw [Nat.add_assoc]
  · rw [if_pos (by omega), if_neg (by omega)]; omega

theorem count_spec (q : RingQ α) (h : q.WF) :
    (q.head ≤ q.tail ∧ q.head + q.count = q.tail) ∨ (q.tail < q.head ∧ q.head + q.count = q.tail + q.cap) := by
  unfold count; rcases h with h | h <;> split <;> omega

theorem count_eq_zero (q : RingQ α) (h : q.WF) : q.count = 0 ↔ q.head = q.tail := by
  have := count_spec q h; rcases h with h | h <;> omega

theorem count_lt (q : RingQ α) (h1 : q.head < q.cap) (h2 : q.tail < q.cap) : q.count < q.cap := by
  have := count_spec q (Or.inr ⟨h1, h2⟩); omega

theorem slot_count (q : RingQ α) (h1 : q.head < q.cap) (h2 : q.tail < q.cap) : q.slot q.count = q.tail := by
  have := count_spec q (Or.inr ⟨h1, h2⟩); unfold slot; split <;> omega

theorem count_eq_of_slot (q : RingQ α) (h1 : q.head < q.cap) {n : Nat} (hn : n < q.cap) (e : q.slot n = q.tail) :
    q.count = n := by
  have h2 : q.tail < q.cap := e ▸ slot_lt q h1 hn
  exact slot_inj q (count_lt q h1 h2) hn ((slot_count q h1 h2).trans e.symm)

theorem toList_eq (q : RingQ α) (h : q.WF) : q.toList = (List.range q.count).map (fun i => q.data (q.slot i)) := by
  unfold toList
  rcases h with h | ⟨h1, h2⟩
  · rw [(count_eq_zero q (Or.inl h)).mpr (h.2.1.trans h.2.2.symm)]; rfl
  · apply List.map_congr_left
    intro i hi
    rw [mod_slot q h1 i (by have := List.mem_range.mp hi; have := count_lt q h1 h2; omega)]

/-- the occupied slots, head first, are one stretch of indices, or two when the content wraps around the end of the block -/
theorem slots_eq (q : RingQ α) (h : q.WF) :
    (List.range q.count).map q.slot =
      if q.head ≤ q.tail then List.range' q.head (q.tail - q.head)
      else List.range' q.head (q.cap - q.head) ++ List.range' 0 q.tail := by
  have hb : q.tail < q.head → q.head < q.cap := by unfold WF at h; omega
  split
  · next hle =>
    rw [count, if_neg (Nat.not_lt.mpr hle), List.range'_eq_map_range]
    exact List.map_congr_left fun i hi => slot_lo q i (by have := List.mem_range.mp hi; unfold WF at h; omega)
  · next hgt =>
    have hc : q.count = (q.cap - q.head) + q.tail := by rw [count, if_pos (by omega)]; have := hb (by omega); omega
    rw [hc, List.range_add, List.map_append, List.map_map, List.range'_eq_map_range, List.range'_eq_map_range]
    congr 1
    · exact List.map_congr_left fun i hi => slot_lo q i (by have := List.mem_range.mp hi; omega)
    · exact List.map_congr_left fun i _ =>
        show q.slot (q.cap - q.head + i) = 0 + i from (slot_hi q _ (by have := hb (by omega); omega)).trans (by have := hb (by omega); omega)

theorem toList_eq_nil (q : RingQ α) : q.toList = [] ↔ q.count = 0 := by
  unfold toList; rw [List.map_eq_nil_iff, List.range_eq_nil]

/-- two ring buffers with the same number of elements and the same element in every logical position -/
theorem toList_ext (q q' : RingQ α) (h : q.WF) (h' : q'.WF) (hc : q'.count = q.count)
    (hd : ∀ i, i < q.count → q'.data (q'.slot i) = q.data (q.slot i)) : q'.toList = q.toList := by
  rw [toList_eq q h, toList_eq q' h', hc]
  apply List.map_congr_left
  intro i hi
  exact hd i (List.mem_range.mp hi)

/-- prepend: q' holds x in logical position 0 and q's elements after it -/
theorem toList_cons (q q' : RingQ α) (x : α) (h : q.WF) (h' : q'.WF) (hc : q'.count = q.count + 1)
    (h0 : q'.data (q'.slot 0) = x) (hd : ∀ i, i < q.count → q'.data (q'.slot (i + 1)) = q.data (q.slot i)) :
    q'.toList = x :: q.toList := by
  rw [toList_eq q h, toList_eq q' h', hc, List.range_succ_eq_map, List.map_cons, List.map_map, h0]
  congr 1
  apply List.map_congr_left
  intro i hi
  exact hd i (List.mem_range.mp hi)

theorem toList_snoc (q q' : RingQ α) (x : α) (h : q.WF) (h' : q'.WF) (hc : q'.count = q.count + 1)
    (hl : q'.data (q'.slot q.count) = x) (hd : ∀ i, i < q.count → q'.data (q'.slot i) = q.data (q.slot i)) :
    q'.toList = q.toList ++ [x] := by
  rw [toList_eq q h, toList_eq q' h', hc, List.range_succ, List.map_append, List.map_cons, List.map_nil, hl]
  congr 1
  apply List.map_congr_left
  intro i hi
  exact hd i (List.mem_range.mp hi)

/-- `q'` is `q` without its first element; `pop` makes such a `q'` from `q`, `pushHead` such a `q` from `q'` -/
theorem toList_of_head_step (q q' : RingQ α) (h1 : q.head < q.cap) (h2 : q.tail < q.cap) (hne : q.head ≠ q.tail)
    (hc : q'.cap = q.cap) (ht : q'.tail = q.tail) (hh : q'.head = if q.head + 1 < q.cap then q.head + 1 else 0)
    (hd : ∀ j, j ≠ q.head → q'.data j = q.data j) :
    q.toList = q.data q.head :: q'.toList ∧ q'.WF := by
  have hwf : q.WF := Or.inr ⟨h1, h2⟩
  have hpos : q.count ≠ 0 := fun e => hne ((count_eq_zero q hwf).mp e)
  have hlt := count_lt q h1 h2
  have hh1 : q'.head = q.slot 1 := by rw [hh, ← slot_succ q h1 (by omega), slot_zero q h1]
  have hsl : ∀ i, i + 1 ≤ q.cap → q'.slot i = q.slot (i + 1) := fun i hi =>
    Nat.add_comm 1 i ▸ slot_shift q q' h1 hc hh1 (by omega)
  have h1' : q'.head < q'.cap := by rw [hh1, hc]; exact slot_lt q h1 (by omega)
  have hcnt : q'.count = q.count - 1 :=
    count_eq_of_slot q' h1' (by omega) (by rw [hsl _ (by omega), ht, ← slot_count q h1 h2]; congr 1; omega)
  have hwf' : q'.WF := Or.inr ⟨h1', by omega⟩
  refine ⟨toList_cons q' q _ hwf' hwf (by omega) (by rw [slot_zero q h1]) ?_, hwf'⟩
  intro i hi
  rw [hsl i (by omega), hd]
  exact fun e => absurd (slot_inj q (by omega) (by omega) (e.trans (slot_zero q h1).symm)) (Nat.succ_ne_zero i)

theorem pop_none (q : RingQ α) (h : q.WF) : q.pop = none ↔ q.toList = [] := by
  rw [toList_eq_nil, count_eq_zero q h]
  unfold pop
  split <;> simp [*]

theorem pop_some (q : RingQ α) (h : q.WF) (x : α) (q' : RingQ α) (hp : q.pop = some (x, q')) :
    q.toList = x :: q'.toList ∧ q'.WF := by
  unfold pop at hp
  split at hp
  · cases hp
  · rename_i e
    cases hp
    rcases h with h | ⟨h1, h2⟩
    · exact absurd (h.2.1.trans h.2.2.symm) e
    · have := toList_of_head_step q { q with head := if q.head + 1 < q.cap then q.head + 1 else 0 } h1 h2 e rfl rfl rfl
        (fun _ _ => rfl)
      exact this

theorem toList_of_grow (q q' : RingQ α) (h : q.WF) (hw : ¬ q.head > q.tail) (hd : q'.data = q.data) (hh : q'.head = q.head)
    (ht : q'.tail = q.tail) (hc : q.cap ≤ q'.cap) (hroom : q.count + 1 < q'.cap) :
    q'.toList = q.toList ∧ q'.WF ∧ q'.count + 1 < q'.cap ∧ q'.count = q.count := by
  have hsum : q.head + q.count = q.tail := by have := count_spec q h; omega
  have h' : q'.head < q'.cap ∧ q'.tail < q'.cap := by rw [hh, ht]; rcases h with h | h <;> omega
  have hcnt : q'.count = q.count := by unfold count; rw [hh, ht, if_neg hw, if_neg hw]
  refine ⟨toList_ext q q' h (Or.inr h') hcnt ?_, Or.inr h', by omega, hcnt⟩
  intro i hi
  rw [hd, slot_lo q i (by rcases h with h | h <;> omega), slot_lo q' i (by omega), hh]

/-- the memmove of janet_q_maybe_resize: the first segment `[head, cap)` moves to the end of the larger block -/
theorem toList_of_grow_wrapped (q q' : RingQ α) (h : q.WF) (hw : q.head > q.tail) (d : Nat)
    (hd : ∀ j, q'.data j = if q.head + d ≤ j ∧ j < q.head + d + (q.cap - q.head) then q.data (j - d) else q.data j)
    (hh : q'.head = q.head + d) (ht : q'.tail = q.tail) (hc : q'.cap = q.cap + d) (hroom : q.count + 1 < q'.cap) :
    q'.toList = q.toList ∧ q'.WF ∧ q'.count + 1 < q'.cap ∧ q'.count = q.count := by
  have h1 : q.head < q.cap := by rcases h with h | h <;> omega
  have hcq : q.count = q.tail + q.cap - q.head := by unfold count; rw [if_pos hw]
  have hwf' : q'.WF := Or.inr (by omega)
  have hcnt : q'.count = q.count := by unfold count; rw [hh, ht, hc, if_pos hw, if_pos (by omega)]; omega
  refine ⟨toList_ext q q' h hwf' hcnt ?_, hwf', by omega, hcnt⟩
  intro i hi
  rw [hd]
  by_cases hA : q.head + i < q.cap
  · rw [slot_lo q i hA, slot_lo q' i (by omega), hh, if_pos ⟨by omega, by omega⟩]; congr 1; omega
  · rw [slot_hi q i hA, slot_hi q' i (by omega), hh, hc, if_neg (by omega)]; congr 1; omega

theorem maybeResize_spec (maxCap : Nat) (q : RingQ α) (h : q.WF) (q' : RingQ α) (hr : q.maybeResize maxCap = some q') :
    q'.toList = q.toList ∧ q'.WF ∧ q'.count + 1 < q'.cap ∧ q'.count = q.count := by
  unfold maybeResize at hr
  by_cases hfull : q.count + 1 ≥ q.cap
  · rw [if_pos hfull] at hr
    by_cases hmax : q.count + 1 ≥ maxCap
    · rw [if_pos hmax] at hr; cases hr
    · rw [if_neg hmax] at hr
      generalize hnc : (if (q.count + 2) * 2 > maxCap then maxCap else (q.count + 2) * 2) = newcap at hr
      have hnc1 : q.count + 1 < newcap := by rw [← hnc]; split <;> omega
      by_cases hwrap : q.head > q.tail
      · rw [if_pos hwrap] at hr
        cases hr
        exact toList_of_grow_wrapped q _ h hwrap _ (fun _ => rfl) rfl rfl (show newcap = _ by omega) hnc1
      · rw [if_neg hwrap] at hr
        cases hr
        exact toList_of_grow q _ h hwrap rfl rfl rfl (show q.cap ≤ newcap by omega) hnc1
  · rw [if_neg hfull] at hr
    cases hr
    exact ⟨rfl, h, by omega, rfl⟩

theorem toList_of_tail_step (q q' : RingQ α) (x : α) (h : q.WF) (hroom : q.count + 1 < q.cap)
    (hd : ∀ j, q'.data j = if j = q.tail then x else q.data j) (hh : q'.head = q.head)
    (ht : q'.tail = if q.tail + 1 < q.cap then q.tail + 1 else 0) (hc : q'.cap = q.cap) :
    q'.toList = q.toList ++ [x] ∧ q'.WF := by
  have ⟨h1, h2⟩ : q.head < q.cap ∧ q.tail < q.cap := by rcases h with h | h <;> omega
  have hlast := slot_count q h1 h2
  have hsl : ∀ i, q'.slot i = q.slot i := fun i => by unfold slot; rw [hh, hc]
  have ht' : q'.slot (q.count + 1) = q'.tail := by rw [hsl, ht, ← hlast]; exact (slot_succ q h1 (by omega)).symm
  have h1' : q'.head < q'.cap := by rw [hh, hc]; exact h1
  have hcnt := count_eq_of_slot q' h1' (by omega) ht'
  have hwf' : q'.WF := Or.inr ⟨h1', ht' ▸ slot_lt q' h1' (by omega)⟩
  refine ⟨toList_snoc q q' x h hwf' hcnt (by rw [hd, hsl, if_pos hlast]) ?_, hwf'⟩
  intro i hi
  rw [hd, hsl, if_neg]
  exact fun e => absurd (slot_inj q (by omega) (by omega) (e.trans hlast.symm)) (by omega)

theorem push_spec (maxCap : Nat) (q : RingQ α) (h : q.WF) (x : α) (q' : RingQ α) (hp : q.push maxCap x = some q') :
    q'.toList = q.toList ++ [x] ∧ q'.WF := by
  unfold push at hp
  split at hp
  · cases hp
  · rename_i q1 hr
    cases hp
    obtain ⟨hl, hwf1, hroom, _⟩ := maybeResize_spec maxCap q h q1 hr
    rw [← hl]
    exact toList_of_tail_step q1 _ x hwf1 hroom (fun _ => rfl) rfl rfl rfl

theorem pushHead_spec (maxCap : Nat) (q : RingQ α) (h : q.WF) (x : α) (q' : RingQ α)
    (hp : q.pushHead maxCap x = some q') : q'.toList = x :: q.toList ∧ q'.WF := by
  unfold pushHead at hp
  split at hp
  · cases hp
  · rename_i q1 hr
    cases hp
    obtain ⟨hl, hwf1, hroom, _⟩ := maybeResize_spec maxCap q h q1 hr
    rw [← hl]
    have ⟨h1, h2⟩ : q1.head < q1.cap ∧ q1.tail < q1.cap := by rcases hwf1 with h | h <;> omega
    have hsp := count_spec q1 hwf1
    generalize hnh : (if q1.head = 0 then q1.cap - 1 else q1.head - 1) = nh
    have hnh1 : nh < q1.cap := by rw [← hnh]; split <;> omega
    have hnh2 : nh ≠ q1.tail := by rw [← hnh]; split <;> omega
    have hback : q1.head = if nh + 1 < q1.cap then nh + 1 else 0 := by rw [← hnh]; split <;> split <;> omega
    have hstep := toList_of_head_step { q1 with data := fun i => if i = nh then x else q1.data i, head := nh } q1
      hnh1 h2 hnh2 rfl rfl hback (fun j hj => (if_neg hj).symm)
    exact ⟨hstep.1.trans (congrArg (· :: q1.toList) (if_pos rfl)), Or.inr ⟨hnh1, h2⟩⟩

/-- the loop of janet_channel_has_reader (fuel = capacity) -/
def walkFrom (q : RingQ α) (i : Nat) : Nat → List α
  | 0 => []
  | fuel + 1 => if i = q.tail then [] else q.data i :: walkFrom q (if i + 1 < q.cap then i + 1 else 0) fuel

def walk (q : RingQ α) : List α := walkFrom q q.head q.cap

theorem walkFrom_eq (q : RingQ α) (h1 : q.head < q.cap) (h2 : q.tail < q.cap) (fuel k : Nat) (hk : k ≤ q.count)
    (hf : q.count - k ≤ fuel) :
    walkFrom q (q.slot k) fuel = (List.range' k (q.count - k)).map (fun i => q.data (q.slot i)) := by
  have hc := count_lt q h1 h2
  induction fuel generalizing k with
  | zero => rw [Nat.le_zero.mp hf]; rfl
  | succ n ih =>
    unfold walkFrom
    by_cases hend : k = q.count
    · rw [if_pos (hend ▸ slot_count q h1 h2), hend, Nat.sub_self]; rfl
    · have e1 : q.slot k ≠ q.tail := fun e =>
        hend (slot_inj q (by omega) hc (e.trans (slot_count q h1 h2).symm))
      rw [if_neg e1, slot_succ q h1 (by omega), ih (k + 1) (by omega) (by omega),
        show q.count - k = (q.count - (k + 1)) + 1 by omega, List.range'_succ, List.map_cons]

theorem walk_eq_toList (q : RingQ α) (h : q.WF) : q.walk = q.toList := by
  rw [toList_eq q h, List.range_eq_range']
  unfold walk
  rcases h with h | ⟨h1, h2⟩
  · rw [h.1, (count_eq_zero q (Or.inl h)).mpr (h.2.1.trans h.2.2.symm)]; rfl
  · have := walkFrom_eq q h1 h2 q.cap 0 (Nat.zero_le _) (by have := count_lt q h1 h2; omega)
    rwa [slot_zero q h1] at this

end RingQ
end JanetModel.Ev
