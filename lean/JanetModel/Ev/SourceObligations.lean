/- C06: theorems that need the tests of the current ev.c (configuration regenerated into Gen/Ev.lean); same namespace as
   Props/C06.lean. -/
import JanetModel.Props.C06
import JanetModel.Ev.Wakeup
import JanetModel.Ev.Kept
import JanetModel.Ev.Order
namespace JanetModel.Props.C06
open JanetModel.Ev

/-- On the three witness schedules of `Props/C06.lean` the current source (configuration from Gen/Ev.lean) neither
    strands a fiber nor drops a task.  Evaluated, so it fails to check on a tree that lacks one of the sched_id tests
    these schedules exercise. -/
theorem no_lost_wakeup_partial :
    lostWakeup (run currentCfg (World.start fun _ => 0) hangActs) 0 1 = false
    ∧ (run currentCfg (World.start fun _ => 0) staleWriterActs).ghost.dropped = []
    ∧ (run currentCfg (World.start fun _ => 0) staleCloseActs).ghost.dropped = [] := by decide


theorem current_good : CfgGood currentCfg := ⟨by decide, by decide, by decide, by decide, by decide⟩

/-- every action sequence, every channel:
    * a pending reader whose sched_id is current ⇒ the channel holds no item;
    * (number of pending writers whose sched_id is current) = 0, or that number + limit ≤ number of items - in
      particular a live pending writer ⇒ count > limit, the code's own blocking condition;
    * a closed channel has no pending entries; no entry carries a sched_id from the future. -/
theorem chan_invariant (limits : Nat → Nat) (as : List Action) (c : Nat) :
    ChanOK (run currentCfg (World.start limits) as).fibers ((run currentCfg (World.start limits) as).chans c) :=
  (Ev.run_chanFifo current_good.chan as _ (Ev.start_chanFifo limits)).1 c

/-- after every action sequence, for every channel, the values pushed into it, in push
    order, are exactly the values it has handed out, in hand-out order, followed by the values still queued. -/
theorem fifo_per_channel (limits : Nat → Nat) (as : List Action) (c : Nat) :
    let w := run currentCfg (World.start limits) as
    onChan w.ghost.pushed c = onChan w.ghost.handed c ++ (w.chans c).items :=
  (Ev.run_chanFifo current_good.chan as _ (Ev.start_chanFifo limits)).2 c

/-- after every action sequence in which no select names a channel twice,
    * every suspended fiber has a live wake-up source: a task carrying its current sched_id, or a sleep timer, or a
      registration in a channel queue;
    * these are exclusive: a live task excludes live timers and registrations, there is at most one live task, and a
      fiber that is not suspended (new, running between operations, finished) has none;
    * a cancelled fiber still has its task. -/
theorem no_lost_wakeup (limits : Nat → Nat) (as : List Action) (hns : ∀ a ∈ as, a.noSelfMatch) :
    WInv (run currentCfg (World.start limits) as) :=
  Ev.run_W current_good as _ hns (Ev.start_W limits)

/-- the only way the loop can go idle: if after some action
    sequence nothing is runnable (no task, no timer, no running fiber), then every suspended fiber `f` is registered on
    some channel `c` on which its operation cannot be matched: as a reader, `c` holds no item and has no live writer; as a
    writer, `c` is above capacity and has no live reader.  (Contrapositive: if the remaining operations could be matched
    with each other, the loop is not idle - the program runs on.) -/
theorem terminates_when_matchable (limits : Nat → Nat) (as : List Action) (hns : ∀ a ∈ as, a.noSelfMatch) (f : Nat)
    (w : World) (hw : w = run currentCfg (World.start limits) as) :
    w.runq = [] → w.timers = [] → (w.fibers f).status = .pending →
    ∃ c p, p.fiber = f ∧ p.sched = (w.fibers f).sched ∧
      ((p ∈ (w.chans c).readPending ∧ (w.chans c).items = [] ∧ liveCount w.fibers (w.chans c).writePending = 0) ∨
       (p ∈ (w.chans c).writePending ∧ (w.chans c).limit < (w.chans c).items.length ∧
          hasLiveReader w.fibers (w.chans c).readPending = false)) := by
  subst hw
  intro hrq htm hst
  have hW := no_lost_wakeup limits as hns
  have hC := chan_invariant limits as
  generalize run currentCfg (World.start limits) as = w at *
  rcases hW.1.d1 f hst with h | h | h
  · simp [Ev.LT, hrq] at h
  · obtain ⟨t, ht, _⟩ := h; rw [htm] at ht; simp at ht
  · obtain ⟨c, p, hp, hpf, hps⟩ := h
    have hl : p.sched = (w.fibers p.fiber).sched := by rw [hpf]; exact hps
    refine ⟨c, p, hpf, hps, ?_⟩
    rcases (mem_ent w c p).mp hp with hp | hp
    · exact Or.inl ⟨hp, ((hC c).of_live_reader hp hl).1, ((hC c).of_live_reader hp hl).2.1⟩
    · exact Or.inr ⟨hp, ((hC c).of_live_writer hp hl).1, ((hC c).of_live_writer hp hl).2.1⟩

/-- at the moment a fiber suspends, from
    any state satisfying the invariant `WInv` (hence from every reachable state, by `no_lost_wakeup`):
    a give that suspends is registered on its channel and nowhere else; a take that suspends either only yields (the item
    was there: one live task, no registration) or is registered on its channel and nowhere else; a select that suspends
    is registered on the channel of every clause and nowhere else; in the registered cases there is no live task.
    (`liveIn fb ent f c` = some pending entry of channel `c` has fiber `f` and `f`'s current sched_id.)
    That this stays so until the fiber is scheduled is `registration_kept`. -/
theorem suspends_registered_exactly (w : World) (f : Nat) (hi : WInv w) (hcur : w.current = some f) :
    (∀ c x w', step currentCfg w (.give c x) = (w', .await) →
      Ev.LT w'.fibers w'.runq f = 0 ∧ ∀ c', liveIn w'.fibers w'.ent f c' ↔ c' = c) ∧
    (∀ c w', step currentCfg w (.take c) = (w', .await) →
      (Ev.LT w'.fibers w'.runq f = 1 ∧ ∀ c', ¬ liveIn w'.fibers w'.ent f c') ∨
      (Ev.LT w'.fibers w'.runq f = 0 ∧ ∀ c', liveIn w'.fibers w'.ent f c' ↔ c' = c)) ∧
    (∀ cls w', (cls.map Clause.chan).Nodup → step currentCfg w (.select cls) = (w', .await) →
      Ev.LT w'.fibers w'.runq f = 0 ∧ ∀ c', liveIn w'.fibers w'.ent f c' ↔ c' ∈ cls.map Clause.chan) :=
  ⟨fun _ _ w' h => Ev.give_suspends_exactly current_good hi hcur w' h,
   fun _ w' h => Ev.take_suspends_exactly current_good hi hcur w' h,
   fun _ w' hnd h => Ev.select_suspends_exactly current_good hi hcur hnd w' h⟩

/- `runG` runs the unchanged model (`runG_is_run`) and records beside it, for every fiber, the last action in which it
suspended and the sched_id it had when that action began (`Ev/Ghost.lean`; nothing else ever writes the ghost). -/

theorem runG_is_run (limits : Nat → Nat) (as : List Action) (g : Ops) :
    (runG currentCfg (World.start limits) g as).1 = run currentCfg (World.start limits) as :=
  Ev.runG_fst currentCfg as _ g

/-- after EVERY action sequence from the start state (no select naming a channel twice), every
    suspended fiber `f` has a recorded pending operation `op` (the action it suspended in, with the sched_id it had then), and
    * as long as `f` has not been scheduled since (`op.sched` is still `f`'s sched_id): `f` is registered as a pending
      READER with its current sched_id on exactly the channels of the take / take-clauses of `op`, as a pending WRITER on
      exactly the channels of its give / give-clauses, has a live sleep timer exactly when `op` is a sleep, and has no
      task in the run queue - nothing was lost, nothing was added, on any channel;
    * once it has been scheduled (`op.sched <` its sched_id) exactly one live wake-up task for it is in the run queue.
    This strengthens `suspends_registered_exactly` (exact registration at the moment of suspension; here per queue) to an
    invariant over all later transitions of all other fibers and loop phases, and `no_lost_wakeup` (SOME live source)
    to the exact set. -/
theorem registration_kept (limits : Nat → Nat) (as : List Action) (hns : ∀ a ∈ as, a.noSelfMatch) (f : Nat) :
    let r := runG currentCfg (World.start limits) (fun _ => none) as
    (r.1.fibers f).status = .pending →
    ∃ op, r.2 f = some op ∧ op.sched ≤ (r.1.fibers f).sched ∧
      (op.sched = (r.1.fibers f).sched →
        (∀ c, regR r.1 f op.sched c ↔ c ∈ op.act.readChans) ∧ (∀ c, regW r.1 f op.sched c ↔ c ∈ op.act.writeChans) ∧
        (liveTimer r.1.fibers r.1.timers f ↔ op.act.isSleep = true) ∧ Ev.LT r.1.fibers r.1.runq f = 0) ∧
      (op.sched < (r.1.fibers f).sched → Ev.LT r.1.fibers r.1.runq f = 1) := by
  intro r hp
  obtain ⟨op, hop, hk⟩ :=
    (Ev.runG_K current_good as _ _ hns (Ev.start_W limits) (Ev.start_K limits _)).2 f hp
  exact ⟨op, hop, hk.le, hk.kept, hk.woken⟩

/-- a pending operation of a suspended fiber "could be matched" in state `w`: one of its take channels holds an item, is
    closed or has a suspended, not yet scheduled giver; or one of its give channels is below capacity (`≤`: the suspended giver's own value is already
    in `items`), is closed or has a suspended, not yet scheduled taker -/
def Matchable (w : World) (g : Ops) (f : Nat) (op : POp) : Prop :=
  (∃ c ∈ op.act.readChans, (w.chans c).items ≠ [] ∨ (w.chans c).closed = true ∨
      ∃ f2 op2, (w.fibers f2).status = .pending ∧ g f2 = some op2 ∧ op2.sched = (w.fibers f2).sched ∧
        c ∈ op2.act.writeChans) ∨
  (∃ c ∈ op.act.writeChans, (w.chans c).items.length ≤ (w.chans c).limit ∨ (w.chans c).closed = true ∨
      ∃ f2 op2, (w.fibers f2).status = .pending ∧ g f2 = some op2 ∧ op2.sched = (w.fibers f2).sched ∧
        c ∈ op2.act.readChans)

/-- (last clause of the property, first half) in EVERY reachable state -
    not only when the loop is idle - a suspended fiber that has not been scheduled since it suspended has a pending
    operation NONE of whose clauses could be matched: every channel it takes from is open, empty and has no suspended
    unscheduled giver; every channel it gives to is open, above capacity and has no suspended unscheduled taker.
    Contrapositive: as soon as its operation is matched or could be matched by a waiting counterpart, the fiber has
    been scheduled (its sched_id is bumped and, by `registration_kept`, its wake-up task is in the run queue). -/
theorem no_suspended_matchable (limits : Nat → Nat) (as : List Action) (hns : ∀ a ∈ as, a.noSelfMatch) (f : Nat) (op : POp) :
    let r := runG currentCfg (World.start limits) (fun _ => none) as
    (r.1.fibers f).status = .pending → r.2 f = some op → op.sched = (r.1.fibers f).sched →
    ¬ Matchable r.1 r.2 f op := by
  intro r hp hop hs
  have hK := (Ev.runG_K current_good as _ _ hns (Ev.start_W limits) (Ev.start_K limits (fun _ => none))).2
  have hC : ∀ c, ChanOK r.1.fibers (r.1.chans c) := by
    intro c
    have := chan_invariant limits as c
    rw [← runG_is_run limits as (fun _ => none)] at this
    exact this
  -- a suspended, unscheduled fiber has a live entry in the queue of every channel of its operation
  have facts : ∀ f1 op1, (r.1.fibers f1).status = .pending → r.2 f1 = some op1 → op1.sched = (r.1.fibers f1).sched →
      (∀ c ∈ op1.act.readChans, ∃ p ∈ (r.1.chans c).readPending, p.sched = (r.1.fibers p.fiber).sched) ∧
      (∀ c ∈ op1.act.writeChans, ∃ p ∈ (r.1.chans c).writePending, p.sched = (r.1.fibers p.fiber).sched) := by
    intro f1 op1 hp1 hop1 hs1
    obtain ⟨op', hop', hk⟩ := hK f1 hp1
    rw [hop1] at hop'; injection hop' with hop'; subst hop'
    obtain ⟨kR, kW, _, _⟩ := hk.kept hs1
    constructor
    · intro c hc
      obtain ⟨p, hpin, h1, h2⟩ := (kR c).mpr hc
      exact ⟨p, hpin, by rw [h1, h2, hs1]⟩
    · intro c hc
      obtain ⟨p, hpin, h1, h2⟩ := (kW c).mpr hc
      exact ⟨p, hpin, by rw [h1, h2, hs1]⟩
  obtain ⟨fR, fW⟩ := facts f op hp hop hs
  rintro (⟨c, hc, hm⟩ | ⟨c, hc, hm⟩)
  · obtain ⟨p, hpin, hl⟩ := fR c hc
    obtain ⟨hit, hnw, hopen⟩ := (hC c).of_live_reader hpin hl
    rcases hm with h | h | ⟨f2, op2, hp2, hop2, hs2, hc2⟩
    · exact h hit
    · rw [hopen] at h; cases h
    · obtain ⟨q, hqin, hql⟩ := (facts f2 op2 hp2 hop2 hs2).2 c hc2
      have := ((hC c).of_live_writer hqin hql).1
      rw [hit] at this
      cases this
  · obtain ⟨p, hpin, hl⟩ := fW c hc
    obtain ⟨hlim, hnr, hopen⟩ := (hC c).of_live_writer hpin hl
    rcases hm with h | h | ⟨f2, op2, hp2, hop2, hs2, hc2⟩
    · omega
    · rw [hopen] at h; cases h
    · obtain ⟨q, hqin, hql⟩ := (facts f2 op2 hp2 hop2 hs2).1 c hc2
      rw [((hC c).of_live_reader hqin hql).1] at hlim
      cases hlim

/-- (last clause, second half) if after some action sequence the loop has nothing to
    run (no task, no timer), then every suspended fiber is still in its recorded pending operation (never scheduled
    since), that operation is a channel operation, and NO clause of it can be matched - not by a queued item, not by
    spare capacity, not by a closed channel, not by the pending operation of any other suspended fiber.  So the loop
    only goes idle in a genuine deadlock of the recorded operations: whenever the operations can all be matched (indeed
    whenever any single one can) the program runs on.
    Stronger than `terminates_when_matchable`, which gave only SOME registration of the fiber on SOME unmatchable
    channel: a fiber suspended in a select whose other clause could be matched was not excluded there. -/
theorem terminates_when_matchable_full (limits : Nat → Nat) (as : List Action) (hns : ∀ a ∈ as, a.noSelfMatch) (f : Nat) :
    let r := runG currentCfg (World.start limits) (fun _ => none) as
    r.1.runq = [] → r.1.timers = [] → (r.1.fibers f).status = .pending →
    ∃ op, r.2 f = some op ∧ op.sched = (r.1.fibers f).sched ∧ op.act.isSleep = false ∧
      (op.act.readChans ≠ [] ∨ op.act.writeChans ≠ []) ∧ ¬ Matchable r.1 r.2 f op := by
  have hk := registration_kept limits as hns f
  have hnm := fun op => no_suspended_matchable limits as hns f op
  have hW := no_lost_wakeup limits as hns
  rw [← runG_is_run limits as (fun _ => none)] at hW
  dsimp only at hk hnm ⊢
  generalize runG currentCfg (World.start limits) (fun _ => none) as = r at *
  intro hrq htm hp
  obtain ⟨op, hop, hle, hkept, hwoken⟩ := hk hp
  have hs : op.sched = (r.1.fibers f).sched := by
    rcases Nat.lt_or_ge op.sched (r.1.fibers f).sched with h | h
    · have := hwoken h; simp [Ev.LT, hrq] at this
    · exact Nat.le_antisymm hle h
  obtain ⟨kR, kW, kT, _⟩ := hkept hs
  have hns' : op.act.isSleep = false := by
    cases hsl : op.act.isSleep
    · rfl
    · obtain ⟨t, ht, _⟩ := kT.mpr hsl; rw [htm] at ht; simp at ht
  refine ⟨op, hop, hs, hns', ?_, hnm op hp hop hs⟩
  -- it is registered somewhere (no_lost_wakeup): so its operation has a channel
  rcases hW.1.d1 f hp with h | h | ⟨c, h⟩
  · simp [Ev.LT, hrq] at h
  · obtain ⟨t, ht, _⟩ := h; rw [htm] at ht; simp at ht
  · rw [liveIn_iff_reg, ← hs] at h
    rcases h with h | h
    · left; intro e; have := (kR c).mp h; rw [e] at this; simp at this
    · right; intro e; have := (kW c).mp h; rw [e] at this; simp at this

/-- non-vacuity / the ghost at work: A `(ev/select [c0 1001] c1)` suspends registered as writer on c0 and reader on c1 and
    nowhere else; after B `(ev/give c1 2001)` A has been scheduled (sched_id bumped, one live task); the recorded
    operation is the select with the sched_id A had when it began (2: scheduled once by ev/go, resumed once). -/
example :
    let r := runG Cfg.good (World.start fun _ => 0) (fun _ => none)
      [.timers, .runTask, .go 1, .go 2, .finish false, .runTask, .select [.give 0 1001, .take 1]]
    (r.1.fibers 1).status = .pending ∧ r.2 1 = some ⟨.select [.give 0 1001, .take 1], 2⟩ ∧ (r.1.fibers 1).sched = 2 ∧
    regWb r.1 1 2 0 = true ∧ regRb r.1 1 2 1 = true ∧ regRb r.1 1 2 0 = false ∧ regWb r.1 1 2 1 = false := by decide

example :
    let r := runG Cfg.good (World.start fun _ => 0) (fun _ => none)
      [.timers, .runTask, .go 1, .go 2, .finish false, .runTask, .select [.give 0 1001, .take 1], .runTask, .give 1 2001]
    (r.1.fibers 1).status = .pending ∧ r.2 1 = some ⟨.select [.give 0 1001, .take 1], 2⟩ ∧ (r.1.fibers 1).sched = 3 ∧
    r.1.runq.map (·.fiber) = [1] := by decide

theorem sublist_pair_mem {α : Type} {x y : α} {l : List α} (h : List.Sublist [x, y] l) : x ∈ l ∧ y ∈ l :=
  ⟨h.subset (by simp), h.subset (by simp)⟩

theorem nodup_pair_order {α : Type} {x y : α} :
    ∀ {l : List α}, l.Nodup → List.Sublist [x, y] l → List.Sublist [y, x] l → False := by
  intro l
  induction l with
  | nil => intro _ h _; cases h
  | cons a t ih =>
    intro hnd h1 h2
    have hnd' := (List.nodup_cons.mp hnd)
    cases h1 with
    | cons _ h1' =>
      cases h2 with
      | cons _ h2' => exact ih hnd'.2 h1' h2'
      | cons_cons _ h2' => exact hnd'.1 (sublist_pair_mem h1').2
    | cons_cons _ h1' =>
      cases h2 with
      | cons _ h2' => exact hnd'.1 (sublist_pair_mem h2').2
      | cons_cons _ h2' => exact hnd'.1 (h1'.subset (by simp))

/-- (corollary of `fifo_per_channel`) after every action sequence, if `x` was pushed into
    channel `c` before `y` (`[x, y]` is a sublist of c's push log - in particular when one giver `g` gave `x` and later
    `y` on `c`: the give events of `g` on `c` are a sublist of c's push log, pushes being appended in call order) and
    values are not repeated on `c`, then `c` never hands `y` out before `x` - to whichever taker. -/
theorem order_per_giver_handout (limits : Nat → Nat) (as : List Action) (c x y : Nat) :
    let w := run currentCfg (World.start limits) as
    (onChan w.ghost.pushed c).Nodup → List.Sublist [x, y] (onChan w.ghost.pushed c) →
    ¬ List.Sublist [y, x] (onChan w.ghost.handed c) := by
  intro w hnd hxy hyx
  have hf := fifo_per_channel limits as c
  have hpre : List.Sublist (onChan w.ghost.handed c) (onChan w.ghost.pushed c) := by
    show List.Sublist _ (onChan (run currentCfg (World.start limits) as).ghost.pushed c)
    rw [hf]; exact List.sublist_append_left _ _
  exact nodup_pair_order hnd hxy (hyx.trans hpre)

theorem pair_sublist_total {α : Type} {x y : α} (hne : x ≠ y) :
    ∀ {l : List α}, x ∈ l → y ∈ l → List.Sublist [x, y] l ∨ List.Sublist [y, x] l := by
  intro l
  induction l with
  | nil => intro h; cases h
  | cons a t ih =>
    intro hx hy
    rcases List.mem_cons.mp hx with ex | hx'
    · rcases List.mem_cons.mp hy with ey | hy'
      · exact absurd (ex.trans ey.symm) hne
      · left; subst ex; exact List.Sublist.cons_cons _ (List.singleton_sublist.mpr hy')
    · rcases List.mem_cons.mp hy with ey | hy'
      · right; subst ey; exact List.Sublist.cons_cons _ (List.singleton_sublist.mpr hx')
      · rcases ih hx' hy' with h | h
        · exact Or.inl (List.Sublist.cons _ h)
        · exact Or.inr (List.Sublist.cons _ h)

theorem mem_onChan (l : List (Nat × Nat)) (c x : Nat) : x ∈ onChan l c ↔ (c, x) ∈ l := by
  unfold onChan
  simp only [List.mem_map, List.mem_filter, beq_iff_eq]
  constructor
  · rintro ⟨⟨a, b⟩, ⟨hm, h1⟩, h2⟩; simp only at h1 h2; subst h1; subst h2; exact hm
  · intro h; exact ⟨(c, x), ⟨h, rfl⟩, rfl⟩

theorem chan_unique {l : List (Nat × Nat)} (hnd : (l.map (·.2)).Nodup) {a b v : Nat} (ha : (a, v) ∈ l) (hb : (b, v) ∈ l) :
    a = b := by
  induction l with
  | nil => cases ha
  | cons p t ih =>
    simp only [List.map_cons, List.nodup_cons, List.mem_map, not_exists, not_and] at hnd
    rcases List.mem_cons.mp ha with ea | ha'
    · rcases List.mem_cons.mp hb with eb | hb'
      · have := ea.trans eb.symm; injection this
      · exact absurd (show (b, v).2 = p.2 by rw [← ea]) (hnd.1 (b, v) hb')
    · rcases List.mem_cons.mp hb with eb | hb'
      · exact absurd (show (a, v).2 = p.2 by rw [← eb]) (hnd.1 (a, v) ha')
      · exact ih hnd.2 ha' hb'

/-- "values exchanged between one giver and one taker on a channel arrive in the order
    given", on the event log of the model: `pushed` is the log of give events per channel (a value is logged when
    janet_channel_push_with_lock accepts it, in call order; the give events of ONE giver on `c` are a sublist of c's
    log), `received` is the log of take results per fiber (a value is logged when an operation of the fiber returns it:
    `(ev/take c)`, a `[:take c x]` select result).  For EVERY action sequence from the start state (no select naming a
    channel twice) in which every given value is distinct: if `x` was given on `c` before `y`, and fiber `t` has
    received both, then `t` received `x` before `y`.
    Proof: `fifo_per_channel` (c hands out in push order) + `Ev.run_SH` (what one fiber receives, in order, is a sublist
    of the global hand-out log: a fiber has at most one item in flight and receives it before it can be handed another). -/
theorem order_per_giver_taker (limits : Nat → Nat) (as : List Action) (hns : ∀ a ∈ as, a.noSelfMatch) (c t x y : Nat) :
    let w := run currentCfg (World.start limits) as
    (w.ghost.pushed.map (·.2)).Nodup → List.Sublist [x, y] (onChan w.ghost.pushed c) →
    x ∈ Rv w t → y ∈ Rv w t → List.Sublist [x, y] (Rv w t) := by
  intro w hnd hxy hx hy
  have hS := Ev.run_SH current_good as _ hns (Ev.start_W limits) (Ev.start_SH limits) t
  have hRH : List.Sublist (Rv w t) (Hv w) := (List.sublist_append_left _ _).trans hS
  have hPc : (onChan w.ghost.pushed c).Nodup := by
    unfold onChan
    exact List.Nodup.sublist (List.Sublist.map _ List.filter_sublist) hnd
  have hne : x ≠ y := by
    intro e; subst e
    have := List.Sublist.nodup hxy hPc
    simp at this
  rcases pair_sublist_total hne hx hy with h | h
  · exact h
  · exfalso
    -- [y, x] in t's receipts, hence in the hand-out log, hence in c's hand-out log
    have hH : List.Sublist [y, x] (w.ghost.handed.map (·.2)) := h.trans hRH
    obtain ⟨l', hl', hmap⟩ := List.sublist_map_iff.mp hH
    have hfifo := fun c' => fifo_per_channel limits as c'
    have hpushedOf : ∀ c' v, (c', v) ∈ w.ghost.handed → (c', v) ∈ w.ghost.pushed := by
      intro c' v hm
      have h1 : v ∈ onChan w.ghost.handed c' := (mem_onChan _ _ _).mpr hm
      have h2 : v ∈ onChan w.ghost.pushed c' := by
        show v ∈ onChan (run currentCfg (World.start limits) as).ghost.pushed c'
        rw [hfifo c']; exact List.mem_append_left _ h1
      exact (mem_onChan _ _ _).mp h2
    have hxc : (c, x) ∈ w.ghost.pushed := (mem_onChan _ _ _).mp (sublist_pair_mem hxy).1
    have hyc : (c, y) ∈ w.ghost.pushed := (mem_onChan _ _ _).mp (sublist_pair_mem hxy).2
    match l', hl', hmap with
    | [(c1, y'), (c2, x')], hl', hmap =>
      simp only [List.map_cons, List.map_nil, List.cons.injEq, and_true] at hmap
      obtain ⟨e1, e2⟩ := hmap
      subst e1; subst e2
      have hm1 : (c1, y) ∈ w.ghost.handed := hl'.subset (by simp)
      have hm2 : (c2, x) ∈ w.ghost.handed := hl'.subset (by simp)
      have ec1 : c1 = c := chan_unique hnd (hpushedOf _ _ hm1) hyc
      have ec2 : c2 = c := chan_unique hnd (hpushedOf _ _ hm2) hxc
      rw [ec1, ec2] at hl'
      have : List.Sublist [y, x] (onChan w.ghost.handed c) := by
        unfold onChan
        have := List.Sublist.map (·.2) (List.Sublist.filter (fun p : Nat × Nat => p.1 == c) hl')
        simpa using this
      exact order_per_giver_handout limits as c x y hPc hxy this

/-- non-vacuity: two values from one giver to one taker (capacity 2, both buffered, then taken) -/
example :
    let w := run Cfg.good (World.start fun _ => 2)
      [.timers, .runTask, .go 1, .give 0 7, .give 0 8, .finish false, .runTask, .take 0, .runTask, .take 0, .runTask]
    onChan w.ghost.pushed 0 = [7, 8] ∧ Rv w 1 = [7, 8] := by decide

/-- `noSelfMatch` is needed: `(ev/select c0 [c0 5] c0)` alone in a fiber is matched with itself in the registration
    loop.  The fiber is then suspended WITH a live wake-up task AND a current registration in c0's read queue (made after
    it scheduled itself), which `no_lost_wakeup` (`d3`) excludes; a giver on c0 arriving before the fiber runs would
    schedule it a second time and the first task - carrying the 5 it gave itself - would be dropped.
    (Configuration with every check.)  On a source WITHOUT the bump at resume the registration even stays current after
    the select has returned `[:take c0 5]` (`WQuiet` fails; second part); with the bump it is stale from then on. -/
def selfMatchActs : List Action :=
  [.timers, .runTask, .go 1, .finish false, .runTask, .select [.take 0, .give 0 5, .take 0]]

theorem noSelfMatch_needed :
    (let w := run Cfg.good (World.start fun _ => 0) selfMatchActs
     (w.fibers 1).status = .pending ∧ Ev.LT w.fibers w.runq 1 = 1 ∧
     (w.chans 0).readPending.any (fun p => p.fiber == 1 && p.live w.fibers) = true) ∧
    (let w := run { Cfg.good with resumeBumps := false } (World.start fun _ => 0) (selfMatchActs ++ [.runTask])
     w.current = some 1 ∧ (w.chans 0).readPending.any (fun p => p.fiber == 1 && p.live w.fibers) = true ∧
     w.ghost.received = [(1, 5)]) ∧
    (let w := run Cfg.good (World.start fun _ => 0) (selfMatchActs ++ [.runTask])
     w.current = some 1 ∧ (w.chans 0).readPending.any (fun p => p.fiber == 1 && p.live w.fibers) = false) := by decide

/-- what the self-matched select costs on the CURRENT source (every check, bump at resume): A `(ev/select c0 [c0 5] c1)`
    gives 5 to itself (first task: `[:take c0 5]`), is still registered on c1, B `(ev/give c1 7)` matches that registration
    before A runs: A is scheduled a second time, its first task is dropped by the stale-task filter and the 5 - pushed and
    handed out - is received by nobody; A's select returns `[:take c1 7]`: two clauses took effect, one result.
    So `noSelfMatch` cannot be dropped from `no_lost_wakeup` / `registration_kept` / `order_per_giver_taker` even with
    the bump at resume; the bump only makes the leftover registration stale once the fiber has run. -/
def selfMatchTwiceActs : List Action :=
  [.timers, .runTask, .go 1, .go 2, .finish false, .runTask, .select [.take 0, .give 0 5, .take 1], .runTask, .give 1 7,
   .finish false, .runTask, .runTask]

theorem selfMatch_drops_value :
    let w := run Cfg.good (World.start fun _ => 0) selfMatchTwiceActs
    w.current = some 1 ∧ w.ghost.dropped.map (·.value) = [Val.take 0 5] ∧ w.ghost.received = [(1, 7)] ∧
    w.ghost.handed = [(0, 5), (1, 7)] ∧ w.ghost.pushed = [(0, 5), (1, 7)] := by decide

/-- the supervisor event of a finished fiber (`janet_channel_push(chan, event, 2)` from the run phase) on an OPEN channel
    is never dropped and never waits, whatever the capacity: it is logged as pushed and is either appended to the items
    or handed to a waiting taker; no pending-writer entry is added (mode 2: there is no root fiber to register). -/
theorem supervisor_event_delivered (w : World) (c x : Nat) (ho : (w.chans c).closed = false) :
    let w' := (supPush currentCfg w c x).1
    w'.ghost.pushed = w.ghost.pushed ++ [(c, x)] ∧
    ((w'.ghost.handed = w.ghost.handed ∧ (w'.chans c).items = (w.chans c).items ++ [x] ∧
        (w'.chans c).writePending = (w.chans c).writePending) ∨
     (w'.ghost.handed = w.ghost.handed ++ [(c, x)] ∧ (w'.chans c).items = (w.chans c).items)) := by
  intro w'
  obtain ⟨w1, b, hp⟩ := Ev.chanPush_open (cfg := currentCfg) w 0 c x 2 ho
  have hw' : w' = w1 := by show (supPush currentCfg w c x).1 = w1; unfold supPush; rw [hp]
  rw [hw']
  rcases Ev.chanPush_eq currentCfg w 0 c x 2 with ⟨hcl, _⟩ | ⟨_, o, rp, _, e⟩
  · rw [ho] at hcl; cases hcl
  · rw [e] at hp
    cases o with
    | none =>
      cases hp
      exact ⟨rfl, Or.inl ⟨rfl, by rw [Ev.setChan_chans_self], by rw [Ev.setChan_chans_self]; simp⟩⟩
    | some r =>
      cases hp
      refine ⟨by rw [Ev.schedule_ghost]; rfl, Or.inr ⟨by rw [Ev.schedule_ghost]; rfl, ?_⟩⟩
      rw [Ev.schedule_chans, Ev.addHanded_chans, Ev.setChan_chans_self]

/-- ... and into a CLOSED supervisor channel nothing is pushed and nothing else changes -/
theorem closed_supervisor_event_skipped (w : World) (c x : Nat) (hc : (w.chans c).closed = true) :
    supPush currentCfg w c x = (w, .done) := by
  unfold supPush chanPush; simp [hc]

/-- `ev/rselect` = `ev/select` after a shuffle of the clauses: whatever permutation the shuffle produces, the select
    names the same channels (so `noSelfMatch` is unaffected) and registers the fiber as reader / writer on the same
    channels - every theorem above, being stated for an arbitrary clause list, holds for every permutation. -/
theorem rselect_any_order (cls cls' : List Clause) (hp : cls'.Perm cls) :
    ((Action.select cls').noSelfMatch ↔ (Action.select cls).noSelfMatch) ∧
    (∀ c, c ∈ (Action.select cls').readChans ↔ c ∈ (Action.select cls).readChans) ∧
    (∀ c, c ∈ (Action.select cls').writeChans ↔ c ∈ (Action.select cls).writeChans) := by
  refine ⟨?_, ?_, ?_⟩
  · exact (hp.map Clause.chan).nodup_iff
  · intro c; exact (hp.filterMap _).mem_iff
  · intro c; exact (hp.filterMap _).mem_iff

/-- `ev/chan-close` on a channel with buffered items: the items stay in the queue, and every later take returns nil at
    once without touching them (janet_channel_pop_with_lock tests `closed` first) - buffered items of a closed channel are
    never delivered (conservation counts them as still queued). -/
theorem close_keeps_items_take_gets_nil (w : World) (f c : Nat) :
    ((chanClose currentCfg w c).chans c).items = (w.chans c).items ∧
    ((chanClose currentCfg w c).chans c).closed = true ∧
    chanPop currentCfg (chanClose currentCfg w c) f c 0 = .got (chanClose currentCfg w c) none := by
  have hcl : ((chanClose currentCfg w c).chans c).closed = true := by
    rw [(Ev.chanClose_view currentCfg w c).1]
    cases h : (w.chans c).closed
    · exact congrArg Chan.closed (if_pos ⟨rfl, rfl⟩)
    · rw [if_neg (fun h => Bool.noConfusion h.2)]; exact h
  refine ⟨Ev.chanClose_items currentCfg w c c, hcl, ?_⟩
  unfold chanPop; simp [hcl]

example : let w := (supPush Cfg.good (World.start fun _ => 0) 0 90010).1
          (w.chans 0).items = [90010] ∧ (w.chans 0).writePending = [] ∧ w.ghost.pushed = [(0, 90010)] := by decide

/-- `(ev/full c)` tells what a give would do: with no taker waiting, `(ev/give c x)` on an open channel waits exactly when
    `ev/full` is true (`count >= limit` there, `count + 1 > limit` in push_with_lock). -/
theorem full_iff_give_waits (w : World) (f c x : Nat) (w' : World) (b : Bool)
    (h : chanPush currentCfg w f c x 0 = .ok w' b) (hr : hasLiveReader w.fibers (w.chans c).readPending = false) :
    b = true ↔ chanFull w c = true := by
  have hb := give_blocks_iff w f c x w' b h
  rw [hr] at hb
  simp only [Bool.false_eq_true, false_or] at hb
  unfold chanFull
  simp only [ge_iff_le, decide_eq_true_eq]
  cases b
  · have := hb.mp rfl; simp; omega
  · simp only [true_iff]
    have : ¬ (w.chans c).items.length < (w.chans c).limit := fun hl => by have := hb.mpr hl; cases this
    omega

/-- `(ev/count c)` after any action sequence = number of values pushed into `c` minus number handed out by it. -/
theorem count_capacity_law (limits : Nat → Nat) (as : List Action) (c : Nat) :
    let w := run currentCfg (World.start limits) as
    (onChan w.ghost.pushed c).length = (onChan w.ghost.handed c).length + chanCount w c := by
  intro w
  have := fifo_per_channel limits as c
  show (onChan (run currentCfg (World.start limits) as).ghost.pushed c).length = _
  rw [this, List.length_append]; rfl

end JanetModel.Props.C06
