/- C06, the simulation between the list model and the JanetQueue ring machine for WHOLE HISTORIES, on the current
   source (`currentCfg`, `maxQCapacity`, `currentMarkItems` from Gen/Ev.lean).  `runOps` is the trace of
   janet_q_push / janet_q_pop calls on `channel->items` that the channel functions make during a run (`Ev/Refine.lean`);
   the scheduler of the driver replays it on rings after every step and prints head / tail / capacity, which the harness
   compares with the real channel's ring at every log point. -/
import JanetModel.Ev.RefineLemmas
import JanetModel.Ev.MarkSource
namespace JanetModel.Props.C06
open JanetModel.Ev

/-- (refinement for whole histories) for EVERY action sequence from the start state and
    every channel `c`, with `ops` the item-queue calls the run makes on `c`:
    the item list of the list model is `ops` replayed on lists (push = append, pop = drop the head); replayed on the
    ring machine from `janet_q_init` - janet_q_push with its resizes and the memmove of a wrapped segment, janet_q_pop -
    the replay keeps the representation invariant and the ring's content (`toList`, head first) IS the model's item
    list; and the ring replay can fail ("channel overflow") only after at least JANET_MAX_Q_CAPACITY calls. -/
theorem items_are_ring_contents (limits : Nat → Nat) (as : List Action) (c : Nat) :
    let w := run currentCfg (World.start limits) as
    let ops := opsOn c (runOps currentCfg (World.start limits) as)
    (w.chans c).items = replayL ops [] ∧
    (∀ q, replayR maxQCapacity ops (RingQ.init 0) = some q → q.WF ∧ q.toList = (w.chans c).items) ∧
    (replayR maxQCapacity ops (RingQ.init 0) = none → maxQCapacity ≤ ops.length) := by
  intro w ops
  have hl : (w.chans c).items = replayL ops [] := by
    have := run_tr currentCfg as (World.start limits) c
    rw [start_items] at this; exact this
  refine ⟨hl, ?_, ?_⟩
  · intro q hq
    have := replay_refines maxQCapacity ops (RingQ.init 0) init_wf q hq
    exact ⟨this.1, by rw [this.2, hl]; rfl⟩
  · intro hn
    have := replay_overflow maxQCapacity ops (RingQ.init 0) init_wf hn
    simpa [RingQ.init, RingQ.count] using this

/-- (`take_never_dangling` and the channel theorems speak about ONE object): take any
    action sequence, a channel `c`, and any history `gops` of the collector machine whose ring calls are exactly the
    calls the run makes on `c` - i.e. the run's gives / takes on `c` with collections inserted ANYWHERE, each with ANY
    set of outside roots (fewer than JANET_MAX_Q_CAPACITY calls).  Then the machine's ring holds exactly the item list
    of `World` (the list `conservation`, `fifo_per_channel`, `chan_invariant` are about), every item queued in `World`
    is still allocated, everything handed out was allocated when handed out, and handed-out ++ `World` items = given. -/
theorem world_items_never_dangling (limits : Nat → Nat) (as : List Action) (c : Nat) (gops : List GcOp)
    (hg : gcProj gops = opsOn c (runOps currentCfg (World.start limits) as))
    (hn : (gcProj gops).length < maxQCapacity) :
    let w := run currentCfg (World.start limits) as
    let s := GcChan.run currentMarkItems maxQCapacity gops
    s.q.toList = (w.chans c).items ∧ (∀ x ∈ (w.chans c).items, s.live x = true) ∧
    (∀ p ∈ s.taken, p.2 = true) ∧ s.taken.map Prod.fst ++ (w.chans c).items = s.given := by
  intro w s
  have hr := items_are_ring_contents limits as c
  simp only at hr
  rw [← hg] at hr
  cases hq : replayR maxQCapacity (gcProj gops) (RingQ.init 0) with
  | none => have := hr.2.2 hq; omega
  | some q =>
    have hsq : s.q = q := gc_ring_is_replay currentMarkItems maxQCapacity gops {} q hq
    have hlist : s.q.toList = (w.chans c).items := by rw [hsq]; exact (hr.2.1 q hq).2
    have ht := take_never_dangling gops
    simp only at ht
    refine ⟨hlist, ?_, ht.1, ?_⟩
    · intro x hx; exact ht.2.1 x (by rw [hlist]; exact hx)
    · rw [← hlist]; exact ht.2.2

/-- non-vacuity: one fiber pumps a channel of capacity 3 (give 1, give 2, take, take, give 3, give 4, take, give 5):
    the run's calls replayed on the ring leave it WRAPPED (head 3, tail 1, capacity 4) with content [4, 5] - the item
    list of `World` -, and the collector machine on these calls with a root-less collection before every take hands out
    1..5 all allocated -/
def pumpActs : List Action :=
  [.timers, .runTask, .give 0 1, .give 0 2, .take 0, .runTask, .take 0, .runTask, .give 0 3, .give 0 4,
   .take 0, .runTask, .give 0 5]

example : opsOn 0 (runOps currentCfg (World.start fun _ => 3) pumpActs)
          = [.push 1, .push 2, .pop, .pop, .push 3, .push 4, .pop, .push 5] := by decide
example : ((replayR maxQCapacity (opsOn 0 (runOps currentCfg (World.start fun _ => 3) pumpActs)) (RingQ.init 0)).map
            fun q => (q.head, q.tail, q.cap, q.toList)) = some (3, 1, 4, [4, 5])
          ∧ ((run currentCfg (World.start fun _ => 3) pumpActs).chans 0).items = [4, 5] := by decide
example : gcProj [.give 1, .give 2, .collect [], .take, .collect [], .take, .give 3, .give 4, .collect [], .take, .give 5]
          = opsOn 0 (runOps currentCfg (World.start fun _ => 3) pumpActs) := by decide

/-- (what the correspondence run compares) the scheduler of the driver keeps one ring
    per channel and after every `step` applies that step's item-queue calls to it (`runRings` = `Exec.doStep`'s
    `applyRings`); for every action sequence making fewer than JANET_MAX_Q_CAPACITY item-queue calls, that ring is
    well-formed, it is the replay of the whole trace, and its content is the item list of `World` - so the
    head / tail / capacity printed in every logged state (and found equal to the real channel's ring) belong to a ring
    whose content is the list all other C06 theorems speak about. -/
theorem driver_rings_are_world_items (limits : Nat → Nat) (as : List Action)
    (hn : (runOps currentCfg (World.start limits) as).length < maxQCapacity) (c : Nat) :
    let w := run currentCfg (World.start limits) as
    let r := runRings currentCfg maxQCapacity (World.start limits) (fun _ => RingQ.init 0) as c
    r.WF ∧ r.toList = (w.chans c).items ∧
    replayR maxQCapacity (opsOn c (runOps currentCfg (World.start limits) as)) (RingQ.init 0) = some r := by
  intro w r
  have hall : ∀ c, ∃ q, replayR maxQCapacity (opsOn c (runOps currentCfg (World.start limits) as)) (RingQ.init 0) = some q := by
    intro c'
    cases hq : replayR maxQCapacity (opsOn c' (runOps currentCfg (World.start limits) as)) (RingQ.init 0) with
    | some q => exact ⟨q, rfl⟩
    | none =>
      have h1 := (items_are_ring_contents limits as c').2.2 hq
      have h2 := opsOn_length c' (runOps currentCfg (World.start limits) as)
      omega
  have hr := runRings_replay currentCfg maxQCapacity as (World.start limits) (fun _ => RingQ.init 0) hall c
  have := (items_are_ring_contents limits as c).2.1 r hr
  exact ⟨this.1, this.2, hr⟩

example : ((runRings currentCfg maxQCapacity (World.start fun _ => 3) (fun _ => RingQ.init 0) pumpActs 0).head,
           (runRings currentCfg maxQCapacity (World.start fun _ => 3) (fun _ => RingQ.init 0) pumpActs 0).tail,
           (runRings currentCfg maxQCapacity (World.start fun _ => 3) (fun _ => RingQ.init 0) pumpActs 0).cap) = (3, 1, 4) := by
  decide

end JanetModel.Props.C06
